import OpusProofs.SilkApi
import OpusProofs.SilkApiStereo
import OpusProofs.SilkApiAccs
/-!
  C01 (decoding is total and memory-safe) — the control layer of the SILK decoder
  (silk/dec_API.c, silk/decoder_set_fs.c, silk/stereo_MS_to_LR.c) inside the model.  Model: OpusModel/SilkApi.lean,
  invariant / argument set / oracle contracts: OpusModel/SilkApiSpec.lean.
-/
namespace OpusProps.C01SilkApi
open Opus.SilkApi

/-- State invariant, base case: after silk_InitDecoder / silk_ResetDecoder (any prior contents) the invariant holds. -/
theorem initDecoder_inv (api : Int) (d : Dec) : Inv api (initDecoder d) := Or.inl ⟨rfl, rfl⟩

example : Inv 48000 (initDecoder { nChannelsInternal := 2, ch0 := { fs_kHz := 16, frame_length := 320 } }) := initDecoder_inv _ _

/-- silk_decoder_set_fs: for fs_kHz in {8,12,16}, a legal API rate, nb_subfr in {2,4} and a channel that is fresh or was
    configured before (for any sub-frame count), the call returns 0 and leaves the channel configured for (fs_kHz, nb_subfr):
    frame_length = nb_subfr*5*fs_kHz, ltp_mem_length = 20*fs_kHz, LPC_order / table tags matching the rate, resampler
    configured fs_kHz -> API rate; the packet counters are untouched. -/
theorem setFs_establishes_cfg {api k : Int} {c : Chan} (hk : k = 8 ∨ k = 12 ∨ k = 16) (ha : ApiOk api)
    (hnb : c.nb_subfr = 2 ∨ c.nb_subfr = 4) (hc : PreOk api c) :
    Cfg api (setFs c k api).1 c.nb_subfr ∧ (setFs c k api).2 = 0 ∧ (setFs c k api).1.fs_kHz = k ∧
    (setFs c k api).1.subfr_length = 5 * k ∧ (setFs c k api).1.nb_subfr = c.nb_subfr ∧
    (setFs c k api).1.nFramesPerPacket = c.nFramesPerPacket ∧ (setFs c k api).1.nFramesDecoded = c.nFramesDecoded :=
  setFs_ok hk ha hnb hc

example : PreOk 48000 { freshChan with nb_subfr := 4 } ∧ (setFs { freshChan with nb_subfr := 4 } 16 48000).1.frame_length = 320 :=
  ⟨Or.inl ⟨rfl, rfl, rfl⟩, by decide⟩

/-- silk_Decode :179-:209 (per-channel configuration), error exits unreachable: for payloadSize_ms in {0,10,20,40,60},
    internalSampleRate in {8000,12000,16000} and a legal API rate, on a channel that is fresh or configured, the loop body
    reaches neither SILK_DEC_INVALID_FRAME_SIZE (:200) nor SILK_DEC_INVALID_SAMPLING_FREQUENCY (:206), silk_decoder_set_fs
    returns 0 with all its celt_asserts (:43, :44, :104) satisfied, and the channel is left with
    fs_kHz = (internalSampleRate>>10)+1 in {8,12,16}, (nFramesPerPacket, nb_subfr) as selected by payloadSize_ms,
    frame_length = nb_subfr*5*fs_kHz in (0, 320], ltp_mem_length = 20*fs_kHz, LPC_order in {10,16}, matching table tags and
    resampler rates, nFramesDecoded untouched. -/
theorem cfgChan_configures {api : Int} {a : Args} {c : Chan} (ha : ApiOk api) (hapi : a.API_sampleRate = api)
    (hp : a.payloadSize_ms = 0 ∨ a.payloadSize_ms = 10 ∨ a.payloadSize_ms = 20 ∨ a.payloadSize_ms = 40 ∨ a.payloadSize_ms = 60)
    (hr : a.internalSampleRate = 8000 ∨ a.internalSampleRate = 12000 ∨ a.internalSampleRate = 16000)
    (hc : PreOk api c) : ∃ c', cfgChan c a = .inr (c', 0, true) ∧ Cfgd api a c c' :=
  cfgChan_ok ha hapi hp hr hc

example : ∃ c', cfgChan freshChan (⟨2, 2, 48000, 16000, 60, 0, 1⟩ : Args) = .inr (c', 0, true) ∧ c'.frame_length = 320 ∧ c'.nFramesPerPacket = 3 :=
  ⟨_, rfl, by decide, by decide⟩

/-- nSamplesOut (:373) of a configured channel at a legal API rate: the divisor silk_SMULBB(fs_kHz,1000) is not zero, the
    product nSamplesOutDec*API_sampleRate does not wrap, and the quotient frame_length*Fs_API/(fs_kHz*1000) equals
    nb_subfr * 5 ms at the API rate (C01's contract: silk_frame_size = nb_subfr*5 ms*Fs_API), in (0, 960]. -/
theorem nSamplesOut_is_duration {api : Int} {c : Chan} (ha : ApiOk api) (hc : ChanOk api c) :
    smulbb c.fs_kHz 1000 ≠ 0 ∧ wrap32 (c.frame_length * api) = c.frame_length * api ∧
    wrap32 (c.frame_length * api) / smulbb c.fs_kHz 1000 = c.nb_subfr * (api / 200) ∧
    0 < c.nb_subfr * (api / 200) ∧ c.nb_subfr * (api / 200) ≤ 960 :=
  nSamplesOut_ok ha hc

/-- Every index into samplesOut1_tmp of a configured channel is in bounds: with frame_length = nb_subfr*5*fs_kHz and the
    buffer of nChannelsInternal*(frame_length+2) elements (:313), the silk_decode_frame output / memset extent (+2), the
    resampler input extent (+1), the two 2-sample history copies (:368-:369) and, in stereo, both extents
    [0, max(frame_length, 8 fs_kHz)+2) of silk_stereo_MS_to_LR lie inside it; the resampler's 1 ms precondition
    (resampler.c:184, inLen >= Fs_in_kHz) holds. -/
theorem tmp_extents_in_bounds {api : Int} {c : Chan} (hc : ChanOk api c) (nCh : Int) (hn : nCh = 1 ∨ nCh = 2) :
    let fl := c.frame_length
    let cap := nCh * (fl + 2)
    (∀ n, 0 ≤ n → n < nCh →
       Acc.InBounds { buf := "tmp", lo := n * (fl + 2) + 2, n := fl, cap := cap } ∧
       Acc.InBounds { buf := "tmp", lo := n * (fl + 2) + 1, n := fl, cap := cap } ∧
       Acc.InBounds { buf := "resampler-1ms", lo := 0, n := c.rsIn, cap := fl }) ∧
    Acc.InBounds { buf := "tmp", lo := 0, n := 2, cap := cap } ∧ Acc.InBounds { buf := "tmp", lo := fl, n := 2, cap := cap } ∧
    (nCh = 2 → ∀ a ∈ msAccs fl c.fs_kHz fl cap, a.InBounds) :=
  tmp_extents_ok hc nCh hn

example : ChanOk 48000 { fs_kHz := 16, fs_API_hz := 48000, nb_subfr := 4, frame_length := 320, subfr_length := 80, ltp_mem_length := 320, LPC_order := 16, lagLowBits := 8, pitchContour := 3, nlsfCb := 2, nFramesDecoded := 1, nFramesPerPacket := 1, rsIn := 16, rsOut := 48 } := by
  simp [ChanOk, Cfg]

/-- silk_stereo_MS_to_LR: the buffers keep their length and every element 1..frame_length of both outputs is an int16
    (for any state, predictors, rate and input values — the final silk_SAT16 of :82-:83). -/
theorem msToLR_outputs_int16 (st : Stereo) (x1 x2 : List Int) (p0 p1 fs N : Int) :
    (msToLR st x1 x2 p0 p1 fs N).x1.length = x1.length ∧ (msToLR st x1 x2 p0 p1 fs N).x2.length = x2.length ∧
    ∀ k : Nat, 1 ≤ k → k ≤ N.toNat → ∀ v, ((msToLR st x1 x2 p0 p1 fs N).x1[k]? = some v ∨ (msToLR st x1 x2 p0 p1 fs N).x2[k]? = some v) → In16 v :=
  ⟨(msToLR_length ..).1, (msToLR_length ..).2, msToLR_in16 st x1 x2 p0 p1 fs N⟩

example : (msToLR {} [0, 0, 30000, 30000, 0, 0] [0, 0, 30000, -30000, 0, 0] 0 0 0 2).x1 = [0, 0, 32767, 30000, 0, 0] := by decide

/-- C01's silk_Decode oracle contract as a theorem (lean/OpusModel/DecSkel/Spec.lean `OracleOk.silk`: for `SilkArgsOk a`,
    silk_ret = 0 and *nSamplesOut = silkSamples a = 10 or 20 ms at the API rate; `EvOk (.silk a p ret n)`: exactly
    n*nChannelsAPI samples at p).  For every decoder state satisfying the invariant (with nChannelsInternal <= 2), every
    argument tuple in `ArgsOk` (= DecSkel's SilkArgsOk, plus payloadSize_ms = 0, the constant API rate and the packet
    protocol of opus_decode_frame) and oracles (silk_decode_frame, silk_resampler) within their contracts, silk_Decode
    reaches no celt_assert of the modelled code (ok), takes no error exit (err = none: SILK_DEC_INVALID_FRAME_SIZE and
    SILK_DEC_INVALID_SAMPLING_FREQUENCY are unreachable), returns 0 [discharges `(o.silk k a).1 = 0`], sets
    nSamplesOut = nb_subfr * 5 ms * Fs_API with nb_subfr in {2,4} of the configuration in force [discharges
    `(o.silk k a).2.1 = silkSamples a`: nb_subfr = 2 exactly for the 10 ms payload of the packet, cfgChan_configures],
    writes a samplesOut of exactly nSamplesOut*nChannelsAPI samples [the extent in EvOk], and preserves the invariant.
    Not discharged: the third field (ec_tell >= 1 after a non-lost call), which belongs to the range decoder. -/
theorem silkDecode_contract {api : Int} {d : Dec} {a : Args} {o : Orc} (hI : Inv api d) (hN : d.nChannelsInternal ≤ 2)
    (hA : ArgsOk api d a) (hO : CallOrcOk api d a o) :
    (silkDecode d a o).ok = true ∧ (silkDecode d a o).err = none ∧ (silkDecode d a o).ret = 0 ∧
    (silkDecode d a o).nSamplesOut = (silkDecode d a o).d.ch0.nb_subfr * (api / 200) ∧
    ((silkDecode d a o).d.ch0.nb_subfr = 2 ∨ (silkDecode d a o).d.ch0.nb_subfr = 4) ∧
    Inv api (silkDecode d a o).d ∧ (silkDecode d a o).d.nChannelsInternal ≤ 2 ∧
    (silkDecode d a o).out.length = ((silkDecode d a o).nSamplesOut * a.nChannelsAPI).toNat := by
  obtain ⟨e1, e2, e3, e4, _⟩ := prep_ok hI hN hA
  rw [silkDecode_eq e2 e1]
  obtain ⟨t1, t2, t3, t4, t5, t6, t7, t8⟩ := tail_ok hA.api hA.rate e2 e3 e4 hO
  refine ⟨t1, t2, t3, by rw [t4, t7], by rw [t7]; exact e4.1.nb, t5, ?_, t8⟩
  rw [t6]; rcases hA.chInt with h | h <;> omega

/-- Memory safety of the whole call: under the same hypotheses EVERY access silk_Decode records (Run.ac) is in bounds —
    VAD_flags / LBRR_flags indices (:231-:244, :282-:287, :322, :336) inside their 3 elements, silk_LBRR_flags_iCDF_ptr inside
    its 2, mult_tab (:416) inside its 3; the silk_decode_frame output, memset, history copies, silk_stereo_MS_to_LR extents and
    resampler inputs (+1 / +2 offsets) inside samplesOut1_tmp_storage1[nChannelsInternal*(frame_length+2)]; each resampler
    output inside samplesOut2_tmp[nSamplesOut] with the 1 ms precondition of resampler.c:184 (also for the stereo->mono call on
    channel 1's resampler); every strided samplesOut write (stride nChannelsAPI, offsets 0 / 1, incl. the mono->stereo and
    stereo->mono duplications) inside [0, nSamplesOut*nChannelsAPI). -/
theorem silkDecode_accesses_in_bounds {api : Int} {d : Dec} {a : Args} {o : Orc} (hI : Inv api d) (hN : d.nChannelsInternal ≤ 2)
    (hA : ArgsOk api d a) (hO : CallOrcOk api d a o) : ∀ x ∈ (silkDecode d a o).ac, x.InBounds := by
  obtain ⟨e1, e2, _, e4, e5⟩ := prep_ok hI hN hA
  rw [silkDecode_eq e2 e1]
  exact tail_accs hA.api hA.rate hA.chAPI hA.chInt e4 hO e5

example : (silkDecode {} ⟨1, 1, 8000, 8000, 10, 1, 1⟩ { frame0 := { samples := List.replicate 80 0 }, rs := [(0, List.replicate 80 0)] }).ac.length = 8 := by decide

/-- ... for every call history: starting from any state satisfying the invariant (e.g. after silk_InitDecoder on the
    zero-filled OpusDecoder), after any sequence of silk_Decode calls (each with arguments legal for the state it meets and
    oracles within contract) and silk_InitDecoder / silk_ResetDecoder calls, the invariant holds, and EVERY silk_Decode
    call of the history returned 0 without assertion, with nSamplesOut = nb_subfr*5 ms*Fs_API and exactly
    nSamplesOut*nChannelsAPI output samples. -/
theorem silkDecode_history {api : Int} (l : List Step) (d : Dec) (hI : Inv api d) (hN : d.nChannelsInternal ≤ 2)
    (h : HistOk api d l) : Inv api (runHistory d l) ∧ (runHistory d l).nChannelsInternal ≤ 2 ∧ HistRet api d l := by
  induction l generalizing d with
  | nil => exact ⟨hI, hN, trivial⟩
  | cons s rest ih =>
    cases s with
    | dec a o =>
      obtain ⟨hA, hO, hr⟩ := h
      obtain ⟨t1, _, t3, t4, _, t6, t7, t8⟩ := silkDecode_contract hI hN hA hO
      obtain ⟨u1, u2, u3⟩ := ih _ t6 t7 hr
      exact ⟨u1, u2, ⟨t1, t3, t4, t8⟩, u3⟩
    | reset => exact ih (initDecoder d) (Or.inl ⟨rfl, rfl⟩) hN h

/-- non-vacuity: a lost 10 ms mono call at 8 kHz on a fresh decoder (80 zero samples from both oracles), then a reset -/
example : HistOk 8000 {} [.dec ⟨1, 1, 8000, 8000, 10, 1, 1⟩ { frame0 := { samples := List.replicate 80 0 }, frame1 := { samples := List.replicate 80 0 }, rs := [(0, List.replicate 80 0), (0, List.replicate 80 0)] }, .reset] := by
  refine ⟨by simp [ArgsOk, ApiOk], ?_, trivial⟩
  unfold CallOrcOk OrcOk
  refine ⟨rfl, rfl, by decide, by decide, ?_, ?_, rfl, rfl, by decide, by decide⟩ <;>
    (intro v hv; rw [List.eq_of_mem_replicate hv]; simp [In16])

end OpusProps.C01SilkApi
