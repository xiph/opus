import OpusProofs.SilkSymsDecode
import OpusProofs.SilkSymsFrozenEq
import OpusProofs.SilkSymsHistory
import OpusProofs.SilkSymsLag
import OpusProofs.CeltSymsHeader
import OpusProofs.SilkSymsJ
import OpusProofs.CeltBandsJ
import OpusProofs.CeltBandsBudget
/-
  Property C03 — "decoder output conforms to the RFC 6716 reference decoder", bit-stream half: the SILK symbol
  layer, then the CELT frame header and band data.  `Opus.SilkSyms.decodePacket` (OpusModel/SilkSyms.lean) is the frozen normative
  reference for which symbols `opus_decode` reads from a SILK-only / hybrid packet, in which order and with
  which tables; the differential run (harness/c03_silksyms.c) ties it to the code.  The theorems below are
  about that reference: it is total, it never leaves a table, the tables it uses are well-formed.

  Not stated here (see tools/props/C03.py, UNPROVED / NOT_COVERED): lock-step with the encoder (`silk_syms_roundtrip`
  in OpusProps/C08.lean, normal decoding only) and the PCM-tolerance clause (no reference decoder offline).
-/
namespace OpusProps.C03
open Opus Opus.RangeCoder Opus.SilkSyms Opus.SilkSymsProofs

/-- "The model is total": every recursion of `OpusModel/SilkSyms.lean` is structural (no fuel, no
    well-founded recursion of its own — the only one it calls is `ec_dec_normalize`, C08), so `decodePacket`
    is defined on every byte string, sampling rate, FEC flag and decoder history; and on none of them does it
    reach a state the C code has no defined behaviour for: it never reads outside the packet (`.oob`) and
    never trips one of the `celt_assert`s on the frame duration / internal rate / bandwidth (`.abort`). -/
theorem silkSyms_total (fs : Nat) (decodeFec prevModeCelt : Bool) (st : SilkSt) (pkt : Bytes) :
    decodePacket fs decodeFec prevModeCelt st pkt ≠ .oob ∧ decodePacket fs decodeFec prevModeCelt st pkt ≠ .abort := by
  unfold decodePacket
  split
  · have hp := FramingProofs.parseImpl_nofault false pkt
    split
    · unfold decodeFrames
      split
      · split
        · simp
        · exact someRes_nofault _ (framesLoop_nofault _ _ _ _ _)
      · exact someRes_nofault _ (framesLoop_nofault _ _ _ _ _)
    · simp
    · rename_i h; rw [h] at hp; simp [FramingProofs.fault] at hp
    · rename_i h; rw [h] at hp; simp [FramingProofs.fault] at hp
  · simp

example : decodePacket 48000 false false {} [0x4c, 0x9a, 0x3b, 0x71, 0x05, 0xe0, 0x2f] ≠ .oob :=
  (silkSyms_total _ _ _ _ _).1
/-- The test packet of the two non-vacuity examples, run once from the zero state. -/
theorem stereoPacket_decodes :
    (match decodePacket 48000 false false {} [0x4c, 0x9a, 0x3b, 0x71, 0x05, 0xe0, 0x2f] with
     | .ok (some [.silk 1 o]) => decide (o.evs.length ≥ 7) | _ => false) = true := by decide +kernel

/-- non-vacuity: a stereo wide-band 20 ms packet of arbitrary bytes really runs through the whole symbol layer -/
example : (match decodePacket 48000 false false {} [0x4c, 0x9a, 0x3b, 0x71, 0x05, 0xe0, 0x2f] with
           | .ok (some [.silk 1 o]) => decide (o.evs.length ≥ 7) | _ => false) = true := stereoPacket_decodes

/-- "Every decoded index lies inside the table it later indexes": for every packet, every decoder history and
    both decoding modes, each event the symbol layer emits satisfies `EvOk` —
    * `IndicesOk`: `signalType ≤ 2`, `quantOffsetType ≤ 1`, one gain index per sub-frame (`< 64` absolute,
      `< 41` delta), NLSF first-stage index `< nVectors = 32` with every `ec_sel` read in bounds, `order`
      residuals in `[-10, 10]` after the extension rule, interpolation factor `≤ 4`, lag index absolute in
      `[0, 32·fs_kHz/2)` or a −8…+11 delta on the previous one, contour index inside the contour table of the
      rate / frame size, `PERIndex ≤ 2`, LTP indices `< 8 << PERIndex`, LTP scale `≤ 2`, seed `≤ 3`;
    * `PulsesOk`: rate level `≤ 8`, one `sum_pulses ≤ 16` and one `nLshifts ≤ 10` per shell block, every
      block 16 pulses of magnitude `≤ 17407`;
    * `StereoOk`: predictor table indices `≤ 14` (so `ix+1 < 16`), sub-step indices `< 5`;
    * header flags are bits, `LBRR_flags` has `MAX_FRAMES_PER_PACKET = 3` entries, mid-only flag is a bit. -/
theorem silkSyms_indices_in_range (fs : Nat) (decodeFec prevModeCelt : Bool) (st : SilkSt) (pkt : Bytes)
    (frames : List FrameRes) (h : decodePacket fs decodeFec prevModeCelt st pkt = .ok (some frames)) :
    ∀ f ∈ frames, FrameResOk f :=
  decodePacket_all FrameResOk trivial (fun _ _ => trivial)
    (fun _ _ _ _ _ _ _ _ o _ ho => decodeOpusFrame_ok _ _ _ _ _ _ _ o ho) fs decodeFec prevModeCelt st pkt frames h

/-- non-vacuity: the hypothesis holds for a concrete 3-frame (60 ms) medium-band packet that decodes 3 frames -/
example : (match decodePacket 16000 false false {} [0x38, 0x7f, 0x80, 0x01, 0xfe, 0x55, 0xaa, 0x13, 0x37, 0xc0, 0xde] with
           | .ok (some [.silk 1 o]) => decide (o.evs.length ≥ 9) | _ => false) = true := by decide +kernel

/-- The same at the level of one `silk_decode_indices` call, for every range-decoder state: the statement
    consumed by C18 (dequantisers are only ever called with indices inside their codebooks). -/
theorem silkSyms_decode_indices_in_range (rate : Rate) (nbSubfr : Nat) (hnb : 1 ≤ nbSubfr) (vadOrLbrr : Bool)
    (condCoding prevSignalType : Nat) (prevLagIndex : Int) (c : Dec) (ix : Indices) (c' : Dec)
    (h : decodeIndices rate nbSubfr vadOrLbrr condCoding prevSignalType prevLagIndex c = (ix, c')) :
    IndicesOk rate nbSubfr condCoding prevSignalType prevLagIndex ix :=
  decodeIndices_ok rate nbSubfr hnb vadOrLbrr condCoding prevSignalType prevLagIndex c ix c' h

example (c : Dec) : ∃ ix c', decodeIndices .wb 4 true 2 2 100 c = (ix, c') :=
  ⟨(decodeIndices .wb 4 true 2 2 100 c).1, (decodeIndices .wb 4 true 2 2 100 c).2, (Prod.eta _).symm⟩

/-- Every slice of `usedSlices` — the inverse-CDF slices the model hands to `ec_dec_icdf`, collected by hand — starts
    below 256, is strictly decreasing down to a terminating `0`, and that `0` sits exactly at (number of symbols − 1);
    every constant of silk/define.h written as a literal in the model equals the table-file value.  That the model
    reads no slice outside the list is not part of this statement: the range theorems above establish well-formedness
    again for the table of each read as they pass it (`ReadInv.sym`). -/
theorem silkSyms_tables_wellformed : slicesOk = true ∧ SilkSyms.constsOk = true :=
  ⟨slicesOk_true, constsOk_true⟩

/-- non-vacuity: the list is not empty — 26 single tables, 3 gain rows, 2 rate-level rows, 10 pulses-per-block rows and
    the shifted last one, 2·(2 + 8) NLSF codebook slices, 4·16 shell-table slices, 42 sign tables -/
example : usedSlices.length = 168 := by decide +kernel

/-- The reference is frozen and the tree still agrees with it: each of the frozen normative tables and constants
    the model reads (OpusModel/SilkSymsFrozen.lean) is equal to the value regenerated from `/repo` on this run.
    A changed probability-table entry in the tree breaks this theorem (and makes `opus_decode` disagree with the
    reference on concrete packets in the correspondence run). -/
theorem silkSyms_tables_frozen_eq_repo : frozenEqAll = true := frozenEqAll_true

/-- The only C loop of the symbol layer without a syntactic bound, `while( sum_pulses[i] == SILK_MAX_PULSES+1 )`
    (decode_pulses.c:72), is modelled by its ten possible iterations.  Whatever the decoder state and whatever
    symbol `sp ≤ 17` entered it, when the unrolling ends the loop condition is false (`sum_pulses ≤ 16 ≠ 17`) and
    at most ten LSB planes were counted: the C loop has exited too, so the bound is never what stops it. -/
theorem silkSyms_lsb_loop_exits (c : Dec) (sp : Nat) (hsp : sp ≤ 17) :
    (lsbCountLoop 10 c 0 sp).2.1 ≤ 16 ∧ (lsbCountLoop 10 c 0 sp).1 ≤ 10 :=
  have h := lsbCountLoop_rd readInv_true 10 c 0 sp (by omega) hsp (by omega) trivial
  ⟨h.2.1, h.1⟩

example : (17 : Nat) ≤ 17 := Nat.le_refl _

/-- Every entry of the `pulses[]` array written by `silk_decode_pulses` fits `opus_int16` (|q| ≤ 17407 < 2^15):
    the `abs_q = (abs_q << 1) + bit` accumulation and the sign multiplication cannot overflow. -/
theorem silkSyms_pulses_fit_int16 (sig qoff frameLen : Nat) (hs : sig ≤ 2) (c : Dec) (p : Pulses) (c' : Dec)
    (h : decodePulses sig qoff frameLen c = (p, c')) : ∀ v ∈ p.pulses, -32768 ≤ v ∧ v ≤ 32767 := by
  intro v hv
  have hp := (decodePulses_rd readInv_true sig qoff frameLen hs c trivial p c' h).1
  unfold Pulses.pulses at hv
  simp only [List.mem_flatten] at hv
  obtain ⟨b, hb, hvb⟩ := hv
  have := (hp.signed b hb).2 v hvb
  omega

example (c : Dec) : ∃ p c', decodePulses 2 1 320 c = (p, c') :=
  ⟨(decodePulses 2 1 320 c).1, (decodePulses 2 1 320 c).2, (Prod.eta _).symm⟩

/-- The symbols read from a packet do not depend on the SILK decoder state left by earlier frames / packets:
    from any two incoming states (`ec_prevSignalType`, `ec_prevLagIndex`, VAD/LBRR flags, frame counters,
    `prev_decode_only_middle` of both channels all arbitrary) `decodePacket` yields the same observable result —
    the same events (every index, pulse, flag, `condCoding`, `rng`, `ec_tell`), redundancy fields and final decoder
    context for every frame; only the carried state itself (`FrameOut.st`, erased by `obsPacket`) may differ.
    (Simulation argument: the conditional-coding memory of a channel is read only under `CODE_CONDITIONALLY`,
    and whenever a frame can be coded conditionally the previous frame of that channel was decoded from the same
    packet.)  This is what justifies evaluating the reference from the zero state for every packet. -/
theorem silkSyms_symbols_history_free (fs : Nat) (decodeFec prevModeCelt : Bool) (st st' : SilkSt) (pkt : Bytes) :
    obsPacket (decodePacket fs decodeFec prevModeCelt st pkt) =
    obsPacket (decodePacket fs decodeFec prevModeCelt st' pkt) := by
  unfold decodePacket
  split
  · split
    · unfold decodeFrames
      split
      · split
        · rfl
        · exact someRes_obs _ _ (framesLoop_hist _ _ _ _ _ _)
      · exact someRes_obs _ _ (framesLoop_hist _ _ _ _ _ _)
    all_goals rfl
  · rfl

/-- non-vacuity: `obsPacket` keeps the whole record of a decoded stereo packet (only the carried state is erased) -/
example : (match obsPacket (decodePacket 48000 false false
             { ch0 := { ecPrevSignalType := 2, ecPrevLagIndex := 1000 }, prevDecodeOnlyMiddle := 1 }
             [0x4c, 0x9a, 0x3b, 0x71, 0x05, 0xe0, 0x2f]) with
           | .ok (some [.silk 1 o]) => decide (o.evs.length ≥ 7) | _ => false) = true := by
  -- from another history the packet reads the same symbols as from the zero state; `obs` keeps the events
  rw [silkSyms_symbols_history_free 48000 false false _ {}]
  have h := stereoPacket_decodes
  generalize decodePacket 48000 false false {} [0x4c, 0x9a, 0x3b, 0x71, 0x05, 0xe0, 0x2f] = r at h ⊢
  split at h
  · exact h
  · cases h

/-- Packet-level bound on the pitch-lag index: in every frame of every packet, from every decoder history and in both
    decoding modes, a voiced frame's `lagIndex` lies in `[-48, 321]` — far inside `opus_int16`, so the
    `(opus_int16)( ec_prevLagIndex + delta_lagIndex )` store of decode_indices.c:112 never wraps.
    (A conditionally coded frame follows a frame of the same pass over the payload (`silkCalls_mem`), so frame `fi` of
    a pass is at most `fi ≤ 2` steps of −8…+11 behind an absolute lag in `[0, 255]`: `decodeOpusFrame_lag` gives
    `[-16, 277]`; the statement keeps the weaker `[-48, 321]`.) -/
theorem silkSyms_lag_index_packet_bound (fs : Nat) (decodeFec prevModeCelt : Bool) (st : SilkSt) (pkt : Bytes)
    (frames : List FrameRes) (h : decodePacket fs decodeFec prevModeCelt st pkt = .ok (some frames)) :
    ∀ f ∈ frames, FrameResLag f :=
  decodePacket_all FrameResLag trivial (fun _ _ => trivial)
    (fun _ _ _ _ _ _ _ _ o hN ho => (decodeOpusFrame_lag _ _ _ _ hN _ _ _ o ho).mono (by decide))
    fs decodeFec prevModeCelt st pkt frames h

example : LagEv 6 (.indices 0 1 0 2 .wb 4 2 100 { (default : Indices) with signalType := 2, lagIndex := 111 }) := by
  intro _; constructor <;> decide

/-! ## The CELT frame header (OpusModel/CeltSyms.lean) -/

theorem lmOf_lt (spf48 : Nat) : CeltSyms.lmOf spf48 < 4 := by
  unfold CeltSyms.lmOf; split <;> (try split) <;> (try split) <;> omega

theorem endBandOf_bounds (bandwidth : Nat) : 0 < CeltSyms.endBandOf bandwidth ∧ CeltSyms.endBandOf bandwidth ≤ 21 := by
  unfold CeltSyms.endBandOf; split <;> (try split) <;> (try split) <;> omega

open Opus.CeltSyms Opus.CeltSymsProofs in
/-- Totality and field ranges of the CELT header symbol layer.  `J c` is the stand-alone range-decoder invariant
    (`val < 2^32`, `2^23 < rng ≤ 2^31`).  From any such decoder state, for every band range, channel count, `LM ≤ 3`
    and frame length, `celtHeader` decodes — none of laplace.c's `celt_assert`s can fire — and (`HdrOk`):
    silence / transient / intra / tf_select are bits; post-filter octave ≤ 5, hence period in `[15, 1022]`, gain
    index ≤ 7, tapset ≤ 2; one coarse-energy symbol per band and channel, each either a budget fallback value
    (−1, 0, 1) or a value `ec_laplace_encode` represents without clamping for the parameters of its band model
    (C17's `laplace_decode_encode`); one `tf_res` per band in `[-3, 3]` (inside `tf_select_table`); spread ≤ 3;
    one dynalloc boost per band, `0` or below `cap + quanta`; trim ≤ 10; and the decoder state handed to
    `clt_compute_allocation` satisfies `J` again. -/
theorem celtHdr_total_in_range (cfg : CeltCfg) (hLM : cfg.LM < 4) (len : Nat) (c : Dec) (hj : J c) :
    ∃ h, celtHeader cfg len c = .ok h ∧ HdrOk cfg h :=
  celtHeader_ok cfg hLM len c hj

open Opus.CeltSyms Opus.CeltSymsProofs in
/-- … in particular for a CELT-only frame and for a redundancy frame of *arbitrary bytes*: `ec_dec_init` establishes
    `J` whatever the bytes are. -/
theorem celtHdr_total_arbitrary_bytes (bandwidth nCh spf48 : Nat) (frame : Bytes) :
    (∃ h, celtOnlyHeader bandwidth nCh spf48 frame = .ok h ∧
      HdrOk { start := 0, end_ := endBandOf bandwidth, C := nCh, LM := lmOf spf48 } h) ∧
    (∃ h, CeltSyms.redundancyHeader bandwidth nCh frame = .ok h ∧
      HdrOk { start := 0, end_ := endBandOf bandwidth, C := nCh, LM := 1 } h) := by
  constructor
  · unfold celtOnlyHeader
    exact celtHeader_ok _ (lmOf_lt spf48) _ _ (J_decInit frame frame.length)
  · unfold CeltSyms.redundancyHeader
    exact celtHeader_ok _ (by dsimp only; omega) _ _ (J_decInit frame frame.length)

/-- non-vacuity: a concrete 20 ms stereo full-band CELT frame of arbitrary bytes decodes to a header with
    42 coarse-energy symbols and a call trace of at least 60 entries -/
example : (match CeltSyms.celtOnlyHeader 1105 2 960
             [0x5a, 0xc3, 0x17, 0x88, 0x3e, 0xf1, 0x02, 0x9b, 0x64, 0xd5, 0x2c, 0x71, 0xae, 0x0f, 0x93, 0x48,
              0x5a, 0xc3, 0x17, 0x88, 0x3e, 0xf1, 0x02, 0x9b, 0x64, 0xd5, 0x2c, 0x71, 0xae, 0x0f, 0x93, 0x48] with
           | .ok h => decide (h.coarse.length = 42 ∧ h.trace.length ≥ 60) | _ => false) = true := by decide +kernel

open Opus.CeltSyms Opus.CeltSymsProofs in
/-- The hybrid hand-over is unconditional: whatever the bytes, the decoder history and the configuration are, the
    range-decoder state `opus_decode_frame` is left with after the SILK data and the redundancy header of a frame
    (`decodeOpusFrame … = .ok o`, any mode) satisfies `J` — every slice the decoder reads is a well-formed ICDF
    (shown read by read: `ReadInv.sym`), so no `ec_dec_icdf` can leave `rng` outside `(2^23, 2^31]` — and therefore the CELT header
    of a hybrid frame decodes from it (no laplace.c assertion) with every field legal, for every length that
    `opus_decode_frame` may pass on. -/
theorem celtHdr_hybrid_total_in_range (mode bandwidth nCh frameMs10 spf48 len : Nat) (decodeFec : Bool) (st : SilkSt)
    (frame : Bytes) (o : FrameOut) (h : decodeOpusFrame mode bandwidth nCh frameMs10 decodeFec st frame = .ok o) :
    J o.dec ∧ ∃ hd, hybridHeader bandwidth nCh spf48 len o.dec = .ok hd ∧
      HdrOk { start := 17, end_ := endBandOf bandwidth, C := nCh, LM := lmOf spf48 } hd := by
  have hj := decodeOpusFrame_J mode bandwidth nCh frameMs10 decodeFec st frame o h
  refine ⟨hj, ?_⟩
  unfold hybridHeader
  exact celtHeader_ok _ (lmOf_lt spf48) _ _ hj

/-- non-vacuity: a 20 ms mono super-wide-band hybrid frame of arbitrary bytes — the SILK layer, the redundancy header
    and then a CELT header with 2 coarse-energy symbols (bands 17, 18) read from the handed-over state -/
example : (match decodeOpusFrame 1001 1104 1 200 false {}
             [0x5a, 0xc3, 0x17, 0x88, 0x3e, 0xf1, 0x02, 0x9b, 0x64, 0xd5, 0x2c, 0x71, 0xae, 0x0f, 0x93, 0x48,
              0x5a, 0xc3, 0x17, 0x88, 0x3e, 0xf1, 0x02, 0x9b, 0x64, 0xd5, 0x2c, 0x71, 0xae, 0x0f, 0x93, 0x48] with
           | .ok o => (match CeltSyms.hybridHeader 1104 1 960 o.len.toNat o.dec with
                       | .ok hd => decide (hd.coarse.length = 2 ∧ o.evs.length ≥ 3) | _ => false)
           | _ => false) = true := by decide +kernel

open Opus.CeltSyms Opus.CeltBands Opus.CeltBandsProofs in
/-- The band data behind the allocation (`OpusModel/CeltBands.lean`: `unquant_fine_energy`, `quant_all_bands`
    with `quant_band` / `quant_band_stereo` / `quant_partition` / `compute_theta`, the anti-collapse bit,
    `unquant_energy_finalise`): for ANY allocation result — arbitrary `pulses[]`, `fine_quant[]`, `fine_priority[]`,
    intensity, dual-stereo, balance, codedBands — any decoder state and arbitrary bytes, the model never raises `fault`:
    every pulse-cache row it reads lies inside `cache.bits` (`cache.index ≥ 0`, `ci + cache[0]` inside the array; all
    look-ups of `bits2pulses` / `pulses2bits` / the split test stay within `cache[0 .. cache[0]]`), every `ec_dec_uint`
    it issues — `qn+1` of the uniform theta PDF, `V(N,K)` of `decode_pulses` — has `2 ≤ ft < 2^32` (no `celt_assert`),
    and every `V(N,K)` is found inside the `CELT_PVQ_U` table.  The split recursion is structural on `LM+1` (depth ≤ 4);
    the "never bust the budget" loop is structural on `q`; the time-divide loop on `-tf_change`. -/
theorem celtBands_no_fault (cfg : CeltCfg) (len : Nat) (h : CeltHdr) (o : Opus.CeltAlloc.Out) (s : BSt)
    (hl : cfg.LM < 4) (hse : cfg.start ≤ cfg.end_) (he : cfg.end_ ≤ 21) (hs : s.fault = false) :
    (afterAlloc cfg len h o s).fault = false :=
  afterAlloc_fault cfg len h o s hl hse he hs

open Opus.CeltSyms Opus.CeltBands Opus.CeltBandsProofs Opus.CeltSymsProofs in
/-- Totality of the whole CELT frame model `celtFrame` (header, C17's `computeAllocation` driven by the range decoder,
    band data, final range): from any decoder state satisfying `J` and every legal configuration it returns a frame —
    never an error (CELT has no error return on packet data: the `ec_tell(dec) > 8*len` test of
    celt_decoder.c:1362 only sets `st->error`), never `.oob` / `.abort` — no laplace.c assertion; the header puts the allocation input inside C17's domain (`allocInp_dom`), so the allocation returns
    (C17's `alloc_main`) after at most 23 coder calls whose `ec_dec_uint` has `2 ≤ ft ≤ 22` (`allocOps_of_dom`, proved
    from C17's model), so the oracle-driving loop `allocDrive` ends; and the band data never faults
    (`celtBands_no_fault`). -/
theorem celtFrame_total (cfg : CeltCfg) (len : Nat) (c : Dec) (hj : J c) (hl : cfg.LM < 4)
    (hC : cfg.C = 1 ∨ cfg.C = 2) (hse : cfg.start < cfg.end_) (he : cfg.end_ ≤ 21) (hlen : len ≤ 262144) :
    ∃ f, celtFrame cfg len c = .ok f :=
  Opus.CeltBandsProofs.celtFrame_total cfg len c hj hl hC hse he hlen
    (fun h hh => allocOps_of_dom _ (allocInp_dom cfg len c h hh hl hC hse he hlen))

open Opus.CeltSyms Opus.CeltBands Opus.CeltBandsProofs Opus.CeltSymsProofs in
/-- … in particular for every CELT-only frame of ARBITRARY BYTES (`ec_dec_init` establishes `J`) at every bandwidth,
    frame size and channel count, and for the CELT part of every hybrid frame (super-wide-band or full-band: `end > 17`) behind an arbitrary SILK
    part. -/
theorem celtFrame_total_arbitrary_bytes (bandwidth nCh spf48 : Nat) (hC : nCh = 1 ∨ nCh = 2) (frame : Bytes)
    (hlen : frame.length ≤ 1275) :
    (∃ f, celtFrame { start := 0, end_ := endBandOf bandwidth, C := nCh, LM := lmOf spf48 } frame.length
            (decInit frame frame.length) = .ok f) ∧
    (∀ mode ms10 fec st o len, len ≤ 1275 → 17 < endBandOf bandwidth → decodeOpusFrame mode bandwidth nCh ms10 fec st frame = .ok o →
      ∃ f, celtFrame { start := 17, end_ := endBandOf bandwidth, C := nCh, LM := lmOf spf48 } len o.dec = .ok f) := by
  have ⟨hs0, he⟩ := endBandOf_bounds bandwidth
  constructor
  · exact celtFrame_total _ _ _ (J_decInit frame frame.length) (lmOf_lt spf48) hC hs0 he (by omega)
  · intro mode ms10 fec st o len hl h17 ho
    exact celtFrame_total _ _ _ (decodeOpusFrame_J mode bandwidth nCh ms10 fec st frame o ho) (lmOf_lt spf48) hC h17 he
      (by omega)

open Opus.CeltSyms Opus.CeltBands Opus.CeltBandsProofs Opus.CeltSymsProofs in
/-- The decoder invariant `J` survives a whole CELT frame: every state the frame model passes through — at the entry of
    the allocation, behind it, and at the end of the frame (whose `rng` is the packet's final range) — satisfies
    `val < 2^32`, `2^23 < rng ≤ 2^31`; in particular every `ec_dec_update(fl, fh, ft)` of the three theta PDFs has
    `fl < fh ≤ ft ≤ 32768` and every `ec_dec_uint` (multi-byte path included) leaves the range normalised. -/
theorem celtFrame_preserves_J (cfg : CeltCfg) (len : Nat) (c : Dec) (hj : J c) (hl : cfg.LM < 4)
    (hC : cfg.C = 1 ∨ cfg.C = 2) (hse : cfg.start < cfg.end_) (he : cfg.end_ ≤ 21) (hlen : len ≤ 262144) (f : CeltFrame)
    (hf : celtFrame cfg len c = .ok f) : J f.fin.c ∧ J f.allocSt.c ∧ J f.hdr.dec :=
  celtFrame_J cfg len c hj hl hC hse he hlen f hf

open Opus.CeltSyms Opus.CeltBands Opus.CeltBandsProofs in
/-- The budget discipline of the band data, exactly as far as the code's accounting carries (bands.c:1046-1059, 930-941;
    `ctx->remaining_bits` = `total_bits - ec_tell_frac - 1` at the start of a band, in 1/8 bit):
    with `q = leafQ …` the pseudo-pulse index a no-split partition ends with (`bits2pulses(b)` lowered by the "never bust
    the budget" loop), the partition charges exactly the CACHED cost `pulses2bits(q)` of that `q`; for `q = 0` it reads
    nothing; for `q ≠ 0` the tracked budget is still non-negative after the charge and the one call it adds to the trace
    is `ec_dec_uint(V(N, get_pulses(q)))` for that same `q`; a sign bit of an
    `N = 1` band is read only while 8 (one whole bit) is left and costs exactly 8.
    This is a statement about cached costs, not about `ec_tell_frac` itself: see UNPROVED `celtFrame_overrun_bound`. -/
theorem celtBands_reads_within_tracked_budget (i lm1 N : Nat) (b : Int) (s : BSt) :
    (leaf i lm1 N b s).rem = s.rem - p2b (rowOf lm1 i) (leafQ i lm1 b s) ∧
    (leafQ i lm1 b s = 0 → (leaf i lm1 N b s).tr = s.tr) ∧
    (leafQ i lm1 b s ≠ 0 → 0 ≤ (leaf i lm1 N b s).rem ∧
      ∃ v, (leaf i lm1 N b s).tr = .uint (pvqFt N (Opus.Rate.getPulses (leafQ i lm1 b s))) v :: s.tr) ∧
    ((n1One s).tr ≠ s.tr → 8 ≤ s.rem ∧ (n1One s).rem = s.rem - 8) :=
  ⟨(leaf_budget i lm1 N b s).1, (leaf_budget i lm1 N b s).2.1, (leaf_budget i lm1 N b s).2.2, (n1One_budget s).1⟩

/-- non-vacuity: a 10 ms mono wide-band CELT frame of arbitrary bytes runs through allocation, fine energy, the band
    data and finalisation: at least one coded band, at least 8 coder calls in the band data, no fault -/
example : (match CeltBands.celtFrame { start := 0, end_ := 17, C := 1, LM := 2 } 24
             (decInit [0x5a, 0xc3, 0x17, 0x88, 0x3e, 0xf1, 0x02, 0x9b, 0x64, 0xd5, 0x2c, 0x71, 0xae, 0x0f, 0x93, 0x48,
                       0x5a, 0xc3, 0x17, 0x88, 0x3e, 0xf1, 0x02, 0x9b] 24) with
           | .ok f => decide (f.fin.tr.length ≥ 8 ∧ f.alloc.codedBands ≥ 1) && !f.fin.fault | _ => false) = true := by
  decide +kernel

/-- The frozen tables of the CELT header model (energy probability model, small-energy / trim / spread / tapset ICDFs,
    `tf_select_table`, band edges, allocation caps) equal the tables regenerated from `/repo` on this run. -/
theorem celtHdr_tables_frozen_eq_repo : Opus.CeltSymsProofs.celtFrozenEq = true := Opus.CeltSymsProofs.celtFrozenEq_true

end OpusProps.C03
