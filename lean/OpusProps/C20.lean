import OpusProofs.DtxRun
import OpusProofs.DtxDecodeSkel
import OpusProofs.SilkVadOnset
/-
  C20 — DTX sends bounded runs of tiny packets when inactive and resumes at once.

  Model: OpusModel/Dtx.lean — `decide_dtx_mode` (`decideDtx`, schedules: `dtxSteps`), the SILK
  `noSpeechCounter`/`inDTX` machine (`silkVad`, schedules: `silkSteps`), and the packet-level skeleton of
  `opus_encode_native`/`opus_encode_frame_native` (`encodeCall`, whole runs: `run`/`pkts`) with
  `OPUS_GET_IN_DTX` (`inDtx`).  Constants regenerated from /repo into OpusModel/Gen/DtxConsts.lean
  (NB_SPEECH_FRAMES_BEFORE_DTX = 10, MAX_CONSECUTIVE_DTX = 20; a change makes `onsetQ1_eq`, `limitQ1_eq`,
  `nb_eq`, `max_eq` of OpusProofs/Dtx.lean fail, and with them every bound below).
  Times are in the code's unit, Q1 milliseconds (half ms): 200 ms = 400, 400 ms = 800; a packet of
  `q` 2.5-ms units lasts `5*q`.  Everything the DSP decides (digital silence, `analysis_info.valid`,
  the detector's decision per coded frame, the per-frame `analysis_info.valid`, the mode, SILK's VAD
  outcome per frame) is an oracle: the theorems hold for ALL oracle values, subject only to the shape
  contract `oracleOk` (= `shapeOk`: how many `silk_Encode` calls / SILK frames a coded frame has; true by
  construction and monitored on every call of the correspondence run) where stated.  In particular the
  per-frame analysis results of a multi-frame packet need not agree with the call-level one.

  Vocabulary: `SilkCall c o` — SILK's own DTX is in charge of call `o` (`silk_mode.useDTX = 1`,
  src/opus_encoder.c:1393-1402; otherwise the generalised detector is, or DTX is disabled); `AllDtx l` — every packet
  of `l` is a DTX packet; `Regular c` — the call reaches the frame loop (`frame_size ≠ 0` and the budget is above
  the code's low-budget class, :1271).

  The frame tail of every coded frame follows the call-level choice of detector (src/opus_encoder.c:2434), so no
  theorem needs the per-frame analysis results to agree with the call-level one; and both run counters are cleared
  when the detector in charge changes (:1393-1402), which is what carries the run bound across detectors
  (`dtx_detector_switch_no_dtx`): the inactivity the detector in charge has counted (`Opus.Dtx.pot`) starts a call cleared
  or as the same detector left it, and every dropped coded frame advances it by at least the frame's duration.
-/
namespace OpusProps.C20
open Opus Opus.Dtx Opus.Gen.DtxConsts

/-! ## The counter machine of `decide_dtx_mode` — all activity schedules -/

/-- Clause "starting … the 200 ms mark", frame level.  With constant inactivity from a cleared counter
    (frame durations `fs`, any mix of 2.5–60 ms, total within 600 ms) coded frame `i` is dropped exactly
    when the inactivity including it exceeds 200 ms; the counter is the accumulated inactivity. -/
theorem dtx_first_decision (fs : List Nat) (h : fs.sum ≤ 1200) :
    (dtxSteps 0 (fs.map (fun f => (false, f)))).1 =
      (List.range fs.length).map (fun i => decide (400 < (fs.take (i + 1)).sum)) ∧
    (dtxSteps 0 (fs.map (fun f => (false, f)))).2 = fs.sum := by
  have := hangSteps_inactive onsetQ1 limitQ1 0 fs (by rw [limitQ1_eq]; omega)
  rw [← dtxSteps_eq_hang] at this
  simp only [Nat.zero_add, onsetQ1_eq] at this
  exact ⟨this.2, this.1⟩

example : (dtxSteps 0 ([40, 40, 40, 40, 40, 40, 40, 40, 40, 40, 40, 20].map (fun f => (false, f)))).1
    = [false, false, false, false, false, false, false, false, false, false, true, true] := by decide

/-- Clause "a run of consecutive DTX packets exceeds 400 ms by less than one frame duration", frame
    level, for EVERY activity schedule: in any schedule `pre ++ seg ++ post` of coded frames
    (activity flag, duration), from any counter value, if every frame of the window `seg` is dropped
    then `seg` lasts less than 400 ms plus the duration of its first frame. -/
theorem dtx_machine_run_bound (nb : Nat) (pre post : List (Bool × Nat)) (a : Bool) (f : Nat) (rest : List (Bool × Nat))
    (h : ∀ d ∈ ((dtxSteps nb (pre ++ (a, f) :: rest ++ post)).1.drop pre.length).take ((a, f) :: rest).length, d = true) :
    durSum ((a, f) :: rest) < 800 + f := by
  rw [dtxSteps_eq_hang, hangSteps_window] at h
  have := hang_run_bound _ _ onset_le_limit _ a f rest h
  rw [onsetQ1_eq, limitQ1_eq] at this
  omega

example : (dtxSteps 0 (List.replicate 31 (false, 40))).1 =
    List.replicate 10 false ++ List.replicate 20 true ++ [false] := by decide

/-- Clause "before a regular refresh packet is sent": the inactive frame that would pass the 600 ms
    limit is not dropped (the refresh), it puts the counter back to the 200 ms mark, and the next
    inactive frame (of any duration up to 400 ms) is dropped again. -/
theorem dtx_machine_refresh (nb f f' : Nat) (h : 1200 < nb + f) (hf1 : 0 < f') (hf2 : f' ≤ 800) :
    decideDtx false nb f = (false, 400) ∧ (decideDtx false 400 f').1 = true := by
  show hang onsetQ1 limitQ1 false nb f = (false, onsetQ1) ∧ (hang onsetQ1 limitQ1 false onsetQ1 f').1 = true
  exact ⟨hang_refresh _ _ onset_le_limit (by rw [limitQ1_eq]; exact h),
    (hang_true_iff _ _ onset_le_limit _ _ _).2 ⟨rfl, by omega, by rw [onsetQ1_eq, limitQ1_eq]; omega⟩⟩

example : decideDtx false 1200 40 = (false, 400) := by decide

/-- Clause "the first frame of renewed activity is coded normally", frame level: an active frame is
    never dropped and clears the counter, whatever the counter was. -/
theorem dtx_machine_resume (nb f : Nat) : decideDtx true nb f = (false, 0) := decideDtx_active nb f

/-! ## The SILK `noSpeechCounter` machine — all VAD schedules (frames of 20 ms, or 10 ms) -/

/-- SILK onset: with constant inactivity from a cleared counter, SILK frame `i` (0-based) may be
    dropped exactly when `i ≥ 10`, i.e. after NB_SPEECH_FRAMES_BEFORE_DTX = 10 coded frames
    (200 ms of 20 ms frames), up to the limit of 30 frames. -/
theorem silk_onset (n : Nat) (h : n ≤ 30) :
    silkSteps 0 (List.replicate n true) = ((List.range n).map (fun i => decide (10 < i + 1)), n) := by
  have := silkSteps_inactive 0 n (by rw [nb_eq, max_eq]; omega)
  simpa [nb_eq] using this

/-- SILK run bound for EVERY VAD schedule: a window of SILK frames that may all be dropped has at
    most MAX_CONSECUTIVE_DTX = 20 frames (400 ms), from any counter value. -/
theorem silk_run_bound (cnt : Nat) (pre post : List Bool) (low : Bool) (rest : List Bool)
    (h : ∀ d ∈ ((silkSteps cnt (pre ++ low :: rest ++ post)).1.drop pre.length).take (low :: rest).length, d = true) :
    (low :: rest).length ≤ 20 := by
  rw [silkSteps_window, silkSteps_eq_hang, List.map_cons] at h
  have := hang_run_bound _ _ (Nat.le_add_right ..) _ _ 1 _ h
  rw [← List.map_cons (f := fun low => (!low, 1)), durSum_ones, nb_eq, max_eq] at this
  omega

example : (silkSteps 0 (List.replicate 31 true)).1 = List.replicate 10 false ++ List.replicate 20 true ++ [false] := by
  decide

/-- SILK refresh and resume: the 21st consecutive droppable frame is coded and puts the counter back to
    10; a frame with voice activity is never dropped and clears the counter. -/
theorem silk_refresh_resume (cnt : Nat) (s : SilkCh) :
    (30 < cnt + 1 → silkVad ⟨cnt, true⟩ true = ⟨10, false⟩) ∧ silkVad s false = ⟨0, false⟩ := by
  refine ⟨fun h => ?_, silkVad_active s⟩
  have := hang_refresh nbSpeechFramesBeforeDtx (nbSpeechFramesBeforeDtx + maxConsecutiveDtx) (Nat.le_add_right ..)
    (n := cnt) (f := 1) (by rw [nb_eq, max_eq]; exact h)
  rw [silkVad_eq_hang]
  show SilkCh.mk (hang _ _ false cnt 1).2 ((hang _ _ false cnt 1).1 && true) = _
  rw [this]; rfl

example : silkVad ⟨30, true⟩ true = ⟨10, false⟩ ∧ silkVad ⟨17, true⟩ false = ⟨0, false⟩ := by decide

/-! ## Packets: `opus_encode*` calls -/

/-- Clause "DTX packets (at most 2 bytes)".  Whenever a call of the skeleton returns a DTX packet, from any
    state and for all oracle values, its length is `dtxPacketLen` of the number of coded frames — 1 byte
    (TOC alone, also for two frames: code 1) or 2 bytes (code 3 with the frame count) — and so is every
    DTX packet of every run.  (`AllDtx l`, the premise of `dtx_run_bound`, says "every packet of `l` is
    `Pkt.dtx n` for some `n`"; by this theorem such an `n` is 1 or 2.) -/
theorem dtx_packet_at_most_two_bytes (c : Cfg) :
    (∀ (st : St) (o : CallOr) (n : Nat), (encodeCall c st o).2.1 = Pkt.dtx n →
      n = dtxPacketLen (nSub c o.mode) ∧ 1 ≤ n ∧ n ≤ 2) ∧
    (∀ (ors : List CallOr) (st : St) (n : Nat), Pkt.dtx n ∈ pkts c st ors → 1 ≤ n ∧ n ≤ 2) :=
  ⟨fun st o n h => encodeCall_dtx_len c st o n h, pkts_dtx_len c⟩

example : dtxPacketLen 1 = 1 ∧ dtxPacketLen 2 = 1 ∧ dtxPacketLen 3 = 2 ∧ dtxPacketLen 6 = 2 := by decide

/-- Clause "whenever the activity analysis is running (complexity ≥ 7, Fs ≥ 16 kHz) digital silence
    makes it emit DTX packets starting within one frame duration of the 200 ms mark after activity
    stops".  Any API sampling rate and frame duration (`q` = 1…48 units of 2.5 ms), any mode /
    bandwidth / channel decisions per call, counter just cleared by activity: in a run of calls fed
    digital silence there is a first DTX packet — of 1 or 2 bytes, clause "DTX packets (at most 2 bytes)",
    see `dtx_packet_at_most_two_bytes` —, every earlier packet is a normal one, and it starts at
    `t = P·F` with `200 ms − F < t < 200 ms + F` (`F = 5q` the packet duration in Q1 ms).
    (`NoBust`: no coded frame overran its byte budget — else "normal" would read "normal or the 2-byte
    overrun packet"; the existence and position of the first DTX packet do not depend on it.) -/
theorem dtx_onset (c : Cfg) (hfs : c.fs ∈ [8000, 12000, 16000, 24000, 48000])
    (hq : c.q ∈ [1, 2, 4, 8, 16, 24, 32, 40, 48]) (hr : Regular c) (hdtx : c.useDtx = true)
    (hon : c.complexity ≥ 7 ∧ c.fs ≥ 16000) (ors : List CallOr) (st : St) (hnb : st.nb = 0)
    (hsil : ∀ o ∈ ors, o.digSil = true ∧ o.subs.length = nSub c o.mode ∧ NoBust o)
    (hlong : 400 + 2 * (5 * c.q) ≤ ors.length * (5 * c.q)) :
    ∃ P, P < ors.length ∧ (∀ j < P, (pkts c st ors)[j]? = some Pkt.normal) ∧
      (∃ n, 1 ≤ n ∧ n ≤ 2 ∧ (pkts c st ors)[P]? = some (Pkt.dtx n)) ∧
      400 < P * (5 * c.q) + 5 * c.q ∧ P * (5 * c.q) < 400 + 5 * c.q := by
  have hon' : analysisOn c = true := by simp [analysisOn, hon.1, hon.2]
  have := onset_window c hr (goodGeom_of_api c hfs hq) hdtx hon' (q_of_api hq) ors st hnb hsil (by rw [onsetQ1_eq]; exact hlong)
  rw [onsetQ1_eq] at this
  obtain ⟨P, hP, hbefore, ⟨n, hn⟩, h1, h2⟩ := this
  have hlen := pkts_dtx_len c ors st n (List.mem_of_getElem? hn)
  exact ⟨P, hP, hbefore, ⟨n, hlen.1, hlen.2, hn⟩, h1, h2⟩

/- 20 ms packets at 16 kHz: ten normal packets, the eleventh (starting at t = 200 ms) is a DTX packet. -/
example : pkts Ex.cfg (initSt 1) (List.replicate 12 Ex.silent) =
    List.replicate 10 Pkt.normal ++ List.replicate 2 (Pkt.dtx 1) := by decide

/- 60 ms packets coded as 3 x 20 ms (CELT-only): a packet is tiny only when all three coded frames are
   dropped, so the first DTX packet (2 bytes: code 3) starts at 240 ms = 200 ms + 40 ms < 200 ms + F. -/
example : nSub Ex.cfg60 .celt = 3 ∧ pkts Ex.cfg60 (initSt 1) (List.replicate 6 Ex.silent60) =
    List.replicate 4 Pkt.normal ++ List.replicate 2 (Pkt.dtx 2) := by decide

/-- Clause "in every configuration a run of consecutive DTX packets exceeds 400 ms by less than one
    frame duration before a regular refresh packet is sent".  Any API sampling rate and packet duration,
    any state `st` (so: after any history), any run `pre ++ seg ++ post` of calls with arbitrary oracle
    values satisfying the contract — whichever detector is in charge of which call, any modes, mono
    or stereo, single- or multi-frame packets: if every packet of the window `seg` is a DTX packet then
    `seg` lasts less than 400 ms plus one packet duration (so a regular packet must follow within that
    time).  (A DTX packet has 1 or 2 bytes: `dtx_packet_at_most_two_bytes`.) -/
theorem dtx_run_bound (c : Cfg) (hfs : c.fs ∈ [8000, 12000, 16000, 24000, 48000])
    (hq : c.q ∈ [1, 2, 4, 8, 16, 24, 32, 40, 48]) (st : St) (pre seg post : List CallOr)
    (hok : ∀ o ∈ seg, oracleOk c o = true)
    (hall : AllDtx (((pkts c st (pre ++ seg ++ post)).drop pre.length).take seg.length)) :
    seg.length * (5 * c.q) < 800 + 5 * c.q := by
  rw [pkts_window] at hall
  exact run_dtx_bound c (goodGeom_of_api c hfs hq) (q_of_api hq) seg _ hok hall

/- generalised detector: 10 normal, 20 DTX (400 ms), refresh, DTX again -/
example : pkts Ex.cfg (initSt 1) (List.replicate 33 Ex.silent) =
    List.replicate 10 Pkt.normal ++ List.replicate 20 (Pkt.dtx 1) ++ [Pkt.normal] ++ List.replicate 2 (Pkt.dtx 1) := by
  decide
/- SILK's own DTX (complexity 5): the same pattern from the SILK counter -/
example : pkts Ex.cfgLow (initSt 1) (List.replicate 33 Ex.faint) =
    List.replicate 10 Pkt.normal ++ List.replicate 20 (Pkt.dtx 1) ++ [Pkt.normal] ++ List.replicate 2 (Pkt.dtx 1) := by
  decide
/- the oracle contract holds for these records -/
example : oracleOk Ex.cfg Ex.silent = true ∧ oracleOk Ex.cfgLow Ex.faint = true ∧ oracleOk Ex.cfg Ex.faint = true := by decide

/-- The mechanism behind the run bound across detectors: a call at which the detector in charge
    changes (`silk_mode.useDTX` decided for the call differs from the stored one) never returns a DTX
    packet, because both run counters were cleared (src/opus_encoder.c:1393-1402). -/
theorem dtx_detector_switch_no_dtx (c : Cfg) (hfs : c.fs ∈ [8000, 12000, 16000, 24000, 48000])
    (hq : c.q ∈ [1, 2, 4, 8, 16, 24, 32, 40, 48]) (st : St) (o : CallOr) (hok : oracleOk c o = true)
    (hsw : sdtxOf c o ≠ st.silkUseDtx) (n : Nat) : (encodeCall c st o).2.1 ≠ Pkt.dtx n := by
  intro h
  exact hsw (encodeCall_dtx_no_switch c st o (goodGeom_of_api c hfs hq) (q_of_api hq).2 hok n h)

/- A run with two changes of detector: ten silent calls (generalised detector), twenty calls with faint input and
   no valid analysis (SILK's DTX takes over: counters cleared, 200 ms hang-over, then SILK drops), twenty-one
   silent calls (generalised detector takes over: counters cleared, hang-over, then DTX). -/
example : pkts Ex.cfg (initSt 1) (List.replicate 10 Ex.silent ++ List.replicate 20 Ex.faint ++ List.replicate 21 Ex.silent) =
      List.replicate 20 Pkt.normal ++ List.replicate 10 (Pkt.dtx 1) ++ List.replicate 10 Pkt.normal ++
        List.replicate 11 (Pkt.dtx 1) := by decide

/- Per-frame analysis results that disagree with the call-level one (hybrid 60 ms packets, call-level and
   second coded frame invalid, first and third valid and inactive: one NaN sample per packet): SILK's DTX
   is in charge of every frame of the call, runs of six DTX packets (360 ms) with a refresh in between. -/
example : oracleOk Ex.cfgHyb Ex.nanPkt = true ∧ pkts Ex.cfgHyb (initSt 1) (List.replicate 25 Ex.nanPkt) =
    List.replicate 4 Pkt.normal ++ List.replicate 6 (Pkt.dtx 2) ++ [Pkt.normal] ++ List.replicate 6 (Pkt.dtx 2) ++ [Pkt.normal] ++
      List.replicate 6 (Pkt.dtx 2) ++ [Pkt.normal] := by decide

/-- Clause "the first frame of renewed activity is coded normally" — generalised detector.  On a
    regular call with a valid analysis and non-silent input, if the detector judges some coded frame
    of the packet active, the packet is a normal one (whatever the counters were), provided no coded
    frame overran its byte budget (`NoBust`, the inner-encoder contract; see `dtx_off_no_tiny`). -/
theorem dtx_resume (c : Cfg) (st : St) (o : CallOr) (hr : Regular c) (hlen : o.subs.length = nSub c o.mode)
    (hon : c.complexity ≥ 7 ∧ c.fs ≥ 16000) (hv0 : o.valid0 = true) (hsil : o.digSil = false)
    (hact : ∃ s ∈ o.subs, s.valid = true ∧ s.det = true) (hnb : NoBust o) : (encodeCall c st o).2.1 = Pkt.normal :=
  encodeCall_active c st o hr hlen (by simp [analysisOn, hon.1, hon.2]) hv0 hsil hact hnb

/-- … and the coded frame judged active is itself never returned as a DTX frame and clears
    `nb_no_activity_ms_Q1` (any mode, any state in which SILK's own DTX is off). -/
theorem dtx_resume_counter (useDtx : Bool) (mode : Mode) (fQ1 : Nat) (tc : Bool) (st : St) (o : Sub)
    (hs : st.silkUseDtx = false) (hv : o.valid = true) (hd : o.det = true) :
    (frameStep useDtx false mode fQ1 tc st o).2.1 = false ∧ (frameStep useDtx false mode fQ1 tc st o).1.nb = 0 :=
  frameStep_active useDtx mode fQ1 tc st o hs hv hd

/-- Clause "the first frame of renewed activity is coded normally" — SILK's own DTX in charge, for ALL
    oracle values: if, in some coded frame of the call for which Opus did not force "no activity" (its
    analysis result is not valid, or the detector judged it active), SILK's VAD marks a frame of the mid
    channel active, the call does not return a DTX packet. -/
theorem dtx_resume_silk (c : Cfg) (st : St) (o : CallOr) (hsk : SilkCall c o)
    (hact : ∃ s ∈ o.subs, (s.valid = true → s.det = true) ∧
      ∃ m, s.silk.getLast? = some m ∧ ∃ f ∈ m.frames, f.low0 = false) (n : Nat) :
    (encodeCall c st o).2.1 ≠ Pkt.dtx n := by
  intro hpkt
  obtain ⟨_, _, hall⟩ := encodeCall_dtx_loop c st o n hpkt
  have hs0 : (prepCall c st o).silkUseDtx = true := by rw [prepCall_silkUseDtx]; exact hsk
  unfold SilkCall at hsk
  simp only [Bool.and_eq_true, Bool.not_eq_true', Bool.or_eq_false_iff] at hsk
  obtain ⟨_, hv0, hsil⟩ := hsk
  unfold encodeLoop at hall
  rw [hsil] at hall
  obtain ⟨s, hs, hdet, m, hm, f, hf, hlow⟩ := hact
  obtain ⟨st', hz⟩ := frameFlags_silk_each c.useDtx o.mode (subQ1 c o.mode) o.toCelt o.subs (prepCall c st o) hs0 hall s hs
  have ha : activityOf false s.valid s.det ≠ vadNoActivity := by
    cases hv : s.valid
    · simp [activityOf, vadNoDecision, vadNoActivity]
    · simp [activityOf, hdet hv, vadNoActivity]
  obtain ⟨m', hm', hall'⟩ := frameSilk_zero_low o.mode _ st' s ha hz
  rw [hm] at hm'
  cases hm'
  have := hall' f hf
  rw [hlow] at this
  cases this

/- after 600 ms of silence (in the middle of a DTX run) speech is coded normally at once, under either detector -/
example : pkts Ex.cfg (initSt 1) (List.replicate 15 Ex.silent ++ [Ex.speech]) =
      List.replicate 10 Pkt.normal ++ List.replicate 5 (Pkt.dtx 1) ++ [Pkt.normal] ∧
    pkts Ex.cfgLow (initSt 1) (List.replicate 15 Ex.faint ++ [Ex.speechLow]) =
      List.replicate 10 Pkt.normal ++ List.replicate 5 (Pkt.dtx 1) ++ [Pkt.normal] := by decide

/-- Clause "the in-DTX query is true on every DTX packet".  For a fresh encoder (any channel count),
    any configuration and any run of calls whose oracle records satisfy the shape contract — whichever
    detector is in charge of which call, single- or multi-frame packets, mono or stereo SILK — after
    every call that returned a DTX packet `OPUS_GET_IN_DTX` answers 1. -/
theorem in_dtx_on_dtx_packets (c : Cfg) (ch : Nat) (ors : List CallOr) (hok : ∀ o ∈ ors, oracleOk c o = true) :
    ∀ x ∈ run c (initSt ch) ors, (∃ n, x.1 = Pkt.dtx n) → x.2 = true :=
  run_inDtx c ors (initSt ch) (inv_init ch) hok

/- the query along a run with two changes of detector: true from the 200 ms mark of each stretch on -/
example : (run Ex.cfg (initSt 1) (List.replicate 10 Ex.silent ++ List.replicate 20 Ex.faint ++ List.replicate 20 Ex.silent)).map Prod.snd =
    List.replicate 9 false ++ [true] ++ List.replicate 9 false ++ List.replicate 11 true ++ List.replicate 9 false ++ List.replicate 11 true := by
  decide

/-- Range of the two run counters (behind the run bound and the in-DTX query; also: the C `int`s never
    overflow).  Along any run of calls, with arbitrary oracle values, from a fresh encoder:
    `nb_no_activity_ms_Q1 ≤ 1200` (600 ms in Q1) and both SILK `noSpeechCounter`s `≤ 30` after every call. -/
theorem counters_in_range (c : Cfg) (ch : Nat) (ors : List CallOr) :
    (runFinal c (initSt ch) ors).nb ≤ 1200 ∧ (runFinal c (initSt ch) ors).silk.c0 ≤ 30 ∧
      (runFinal c (initSt ch) ors).silk.c1 ≤ 30 := by
  have := run_counters_bounded c (initSt ch) ors ⟨Nat.zero_le _, Nat.zero_le _, Nat.zero_le _⟩
  rw [limitQ1_eq] at this
  unfold SilkBounded at this
  rw [nb_eq, max_eq] at this
  exact ⟨this.1, this.2.1, this.2.2⟩

example : (runFinal Ex.cfg (initSt 1) (List.replicate 30 Ex.silent)).nb = 1200 ∧
    (runFinal Ex.cfgLow (initSt 1) (List.replicate 30 Ex.faint)).silk.c0 = 30 := by decide +kernel

/-- `Regular` — the premise "bitrate and buffer allow at least three bytes per frame" as the code has it
    (src/opus_encoder.c:1253-1272) — in bitrate / buffer terms.  With `(max_data_bytes, bitrate) = budget c`
    (the buffer clamped to 1276 and, for CBR, to the byte count of one packet at the bitrate) and
    `frame_rate = Fs/frame_size`: the call reaches the frame loop iff `frame_size ≠ 0`, three bytes fit
    and are paid for (`ThreeBytes`), and — packets longer than 20 ms only — at least 300 bytes/s and
    2400 bit/s are available (`LongFrameFloor`). -/
theorem regular_iff_budget (c : Cfg) :
    Regular c ↔ frameSize c ≠ 0 ∧ (3 ≤ (budget c).1 ∧ 3 * frameRate c * 8 ≤ (budget c).2) ∧
      (50 ≤ frameRate c ∨ (300 ≤ (budget c).1 * frameRate c ∧ 2400 ≤ (budget c).2)) :=
  regular_iff c

/-- For packets of at most 20 ms (`frame_rate ≥ 50`) the code's rule is exactly the property's wording:
    three bytes fit the buffer and the bitrate pays for three bytes per packet. -/
theorem regular_iff_three_bytes (c : Cfg) (h : 50 ≤ frameRate c) :
    Regular c ↔ frameSize c ≠ 0 ∧ 3 ≤ (budget c).1 ∧ 3 * frameRate c * 8 ≤ (budget c).2 := by
  rw [regular_iff]
  constructor
  · rintro ⟨h1, h2, _⟩; exact ⟨h1, h2⟩
  · rintro ⟨h1, h2⟩; exact ⟨h1, h2, Or.inl h⟩

/- VBR 12 kb/s, 20 ms, full buffer: regular.  The gray zone of longer packets (known finding
   C20-low-budget-long-frames): 60 ms, VBR 64 kb/s, 18-byte buffer — 18 bytes fit and 64 kb/s pay for far more
   than three bytes per packet, yet the call returns the 2-byte low-budget packet, DTX off. -/
example : Regular Ex.cfg ∧ budget Ex.cfgGray = (18, 64000) ∧ frameRate Ex.cfgGray = 16 ∧ ThreeBytes Ex.cfgGray ∧
    ¬ Regular Ex.cfgGray ∧ (encodeCall Ex.cfgGray (initSt 1) Ex.speech).2.1 = Pkt.lowBudget 2 := by
  refine ⟨⟨by decide, by decide⟩, by decide, by decide, ⟨by decide, by decide⟩, ?_, by decide⟩
  intro h; exact absurd h.2 (by decide)

/-- Clause "with DTX disabled no packet of two bytes or fewer is ever emitted as long as bitrate and
    buffer allow at least three bytes per frame" — the DTX, low-budget and budget-overrun return paths.
    With `use_dtx = 0`, a frame size accepted by the API and a budget outside the code's low-budget class
    (`Regular c`, the code's own rule of src/opus_encoder.c:1271-1272; in bitrate / buffer terms by
    `regular_iff_budget`: `max_data_bytes ≥ 3`, `bitrate ≥ 3·8·frame_rate`, and for packets longer than
    20 ms at least 300 bytes/s and 2400 bit/s; for packets of at most 20 ms this is exactly the property's
    "three bytes per frame", `regular_iff_three_bytes`; for longer packets the code demands more and
    emits 1–2-byte PLC packets in between — known finding C20-low-budget-long-frames, example after
    `regular_iff_budget`), from any state and for all oracle
    values, UNDER THE INNER-ENCODER CONTRACT `NoBust` ("the SILK payload fits the frame budget": the
    branch `ec_tell(&enc) > (max_data_bytes-1)*8` of :2448-2457 is not taken in any coded frame),
    every call goes through the frame loop, none of its coded frames takes a DTX return and the packet is
    the inner encoders' coded audio.  The contract is an explicit hypothesis, not a theorem: the real
    SILK encoder does overrun tight budgets (known finding C20-silk-bust-2byte: 60 ms stereo, FEC on,
    79-byte buffer), and then the call returns the 2-byte packet `Pkt.bust` — see the example below. -/
theorem dtx_off_no_tiny (c : Cfg) (hr : Regular c) (hoff : c.useDtx = false) (st : St) (ors : List CallOr)
    (hlen : ∀ o ∈ ors, o.subs.length = nSub c o.mode ∧ NoBust o) : ∀ p ∈ pkts c st ors, p = Pkt.normal := by
  induction ors generalizing st with
  | nil => intro p hp; cases hp
  | cons o os ih =>
    intro p hp
    rw [pkts_cons] at hp
    rcases List.mem_cons.1 hp with rfl | hp
    · exact encodeCall_dtx_off c st o hr hoff (hlen o (by simp)).1 (hlen o (by simp)).2
    · exact ih _ (fun o' ho' => hlen o' (by simp [ho'])) p hp

example : Regular Ex.cfgOff ∧ pkts Ex.cfgOff (initSt 1) (List.replicate 40 Ex.silent) = List.replicate 40 Pkt.normal := by
  refine ⟨⟨by decide, by decide⟩, by decide⟩
/- the contract is necessary: a single-frame packet whose payload overran the budget is the 2-byte packet,
   DTX off or on, and it is never a DTX packet (the in-DTX query stays 0 during speech) -/
example : pkts Ex.cfgOff (initSt 1) [Ex.speech, Ex.speechBust] = [Pkt.normal, Pkt.bust] ∧
    run Ex.cfg (initSt 1) [Ex.speech, Ex.speechBust] = [(Pkt.normal, false), (Pkt.bust, false)] := by decide

/-! ## The SILK voice activity detector (the detector in charge when the analysis does not run) -/

section SilkVad
open Opus.SilkVad
open Opus.SilkParams hiding I16

/-- `silk_VAD_Init` establishes the VAD state invariant: `0 ≤ counter ≤ 1000`, `NoiseLevelBias ≥ 1`,
    `0 ≤ NL ≤ 2^24-1`, `1 ≤ inv_NL ≤ int32_MAX`, `0 ≤ XnrgSubfr`, `1 ≤ NrgRatioSmth_Q8`, `|HPstate| ≤ 2^14`. -/
theorem vad_init_invariant : VadInv vadInit := vadInv_init

/-- `silk_VAD_GetSA_Q8_c` is total and in range, for every reachable VAD state and every input frame:
    from any state satisfying the invariant (so: after `silk_VAD_Init` and any history of calls), for any
    legal `frame_length` (a multiple of 8, at most 512) and any frame, the call returns — no assertion, no
    read outside the frame, every divisor positive (`nrg`, `inv_NL`, `NL+1`, `(NL>>8)+1`:
    `noiseBand_inv`, `snrBand_range`) — the invariant holds again, `NoiseLevelBias` is unchanged, and
    `speech_activity_Q8 ∈ [0,255]`, `input_tilt_Q15 ∈ [-32768,32766]`, `input_quality_bands_Q15 ∈ [0,32767]`. -/
theorem vad_total_in_range (st : VadState) (hinv : VadInv st) (fsKHz frameLength : Nat)
    (hlen : frameLength ≤ 512 ∧ frameLength % 8 = 0) (pIn : List Int) (hp : frameLength ≤ pIn.length) :
    ∃ o, getSA st fsKHz frameLength pIn = .ok o ∧ VadInv o.st ∧ OutOk o ∧ o.st.bias = st.bias :=
  getSA_ok st hinv fsKHz frameLength hlen pIn hp

/- first frame of a fresh detector on digital silence (16 kHz, 20 ms): inactive (2 < 13) -/
example : (match getSA vadInit 16 320 (List.replicate 320 0) with | .ok o => o.speechActivityQ8 | _ => -1) = 2 := by
  rw [show getSA vadInit 16 320 (List.replicate 320 0) = .ok (stepZ vadInit 16 40) from getSA_zero vadInit 16 40 (by omega)]
  exact (quiet_step vadInit 16 40 (by omega) quiet_init).2

/-- 32-bit range of the energy accumulators: for an int16 band signal of decimated length at most 256
    (`frame_length ≤ 512`), every sub-frame sum of squares stays in `[0, 2^30]` (the plain C accumulation
    cannot overflow) and the accumulation with the documented `silk_ADD_POS_SAT32` stays in
    `[0, int32_MAX]`, whatever non-negative energy was carried over from the previous frame. -/
theorem vad_energy_fits_32bit (carry : Int) (x : List Int) (len : Nat) (hc : 0 ≤ carry ∧ carry ≤ 2147483647)
    (hx : ∀ y ∈ x, -32768 ≤ y ∧ y ≤ 32767) (hlen : len ≤ 256) :
    (0 ≤ (bandEnergy carry x len).1 ∧ (bandEnergy carry x len).1 ≤ 2147483647) ∧
    (0 ≤ (bandEnergy carry x len).2 ∧ (bandEnergy carry x len).2 ≤ 1073741824) :=
  bandEnergy_range carry x len hc hx hlen

example : bandEnergy 2147483000 (List.replicate 160 (-32768)) 160 = (2147483647, 40 * 4096 * 4096) := by decide +kernel

/-- 32-bit range of the filter bank (`silk_ana_filt_bank_1`, plain C `+`/`-`): from filter states bounded by
    `1.5·10^8` (`Lvl st stBn stBn stBn`; true after `silk_VAD_Init`, `lvl_init`) every call on an int16 frame
    returns with the invariant, the output ranges and the same bound on all six filter states again; and in
    one iteration of the filter loop on int16 samples from such states every intermediate (`Y`, `X`,
    `out_1`, `out_2`, their sum and difference, the new states) lies inside 32 bits, so that the model's
    unbounded arithmetic is the C arithmetic. -/
theorem vad_filter_state_32bit :
    Lvl vadInit stBn stBn stBn ∧
    (∀ (st : VadState) (fsKHz frameLength : Nat) (pIn : List Int), Lvl st stBn stBn stBn →
      frameLength ≤ 512 ∧ frameLength % 8 = 0 → frameLength ≤ pIn.length → (∀ x ∈ pIn, -32768 ≤ x ∧ x ≤ 32767) →
      ∃ o, getSA st fsKHz frameLength pIn = .ok o ∧ Lvl o.st stBn stBn stBn ∧ OutOk o) ∧
    (∀ (s : Int × Int) (x0 x1 : Int), AbsLe s stB → I16 x0 → I16 x1 →
      let y := x0 * 1024 - s.1
      let x := y + y * (-24290) / 65536
      let y2 := x1 * 1024 - s.2
      let x2 := y2 * 10788 / 65536
      (anaStep s x0 x1).1 = (x0 * 1024 + x, x1 * 1024 + x2) ∧ AbsLe (anaStep s x0 x1).1 stB ∧
      Fits32 y ∧ Fits32 x ∧ Fits32 (s.1 + x) ∧ Fits32 y2 ∧ Fits32 x2 ∧ Fits32 (s.2 + x2) ∧
      Fits32 ((s.2 + x2) + (s.1 + x)) ∧ Fits32 ((s.2 + x2) - (s.1 + x))) := by
  refine ⟨lvl_init, fun st fs len pIn h hl hp h16 => getSA_lvl st h fs len hl pIn hp h16, ?_⟩
  intro s x0 x1 hs h0 h1
  have h := anaStep_spec s x0 x1 hs h0 h1
  simp only at h ⊢
  rw [h.1]
  exact ⟨rfl, h.2.1, h.2.2⟩

example : stB = 150000000 ∧ stB < 2147483647 := by decide

/-- **Digital silence is inactive** (clause needed where SILK's detector is in charge).  For every SILK
    configuration (frame length `8·j` samples with `10 ≤ j ≤ 64`: 8/12/16 kHz, 10 or 20 ms) and EVERY
    reachable VAD state (invariant + bounded filter memories), on all-zero input frames the eighth frame
    and every later one (0-based index `n ≥ 7`) report `speech_activity_Q8 = 2 < 13 =
    SPEECH_ACTIVITY_DTX_THRES` — so `silk_encode_do_VAD` increments `noSpeechCounter` from then on.  (The
    first seven frames may still be active: ringing of the three cascaded all-pass stages — 10 iterations
    per frame for the last one at 8 kHz / 10 ms —, the differentiator state and the look-ahead sub-frame
    energy carried in `XnrgSubfr`; 7 is a proved bound, the search has never seen more than 3.) -/
theorem vad_silence_inactive (st : VadState) (fsKHz j : Nat) (hj : 10 ≤ j ∧ j ≤ 64) (h : Lvl st stBn stBn stBn)
    (n : Nat) (hn : 7 ≤ n) :
    getSA (stZ st fsKHz j n) fsKHz (8 * j) (List.replicate (8 * j) 0) = .ok (stepZ (stZ st fsKHz j n) fsKHz j) ∧
    saZ st fsKHz j n = 2 ∧ saZ st fsKHz j n < speechActivityDtxThresQ8 := by
  have : saZ st fsKHz j n = 2 := by
    obtain ⟨m, rfl⟩ : ∃ m, n = 7 + m := ⟨n - 7, by omega⟩
    have := (quiet_forever (stZ st fsKHz j 7) fsKHz j hj (seven_frames st fsKHz j hj h) m).2
    unfold saZ at *
    rw [stZ_add]; exact this
  exact ⟨getSA_zero _ _ _ hj.2, this, by rw [this]; decide⟩

/- a loud full-scale Nyquist frame, then silence, 8 kHz / 10 ms: the first silent frame is still fully active
   (carried look-ahead energy and filter ringing), the second and all later ones are inactive -/
example : (match getSA vadInit 8 80 ((List.range 80).map (fun i => if i % 2 = 0 then 32767 else -32768)) with
    | .ok o => (o.speechActivityQ8, saZ o.st 8 10 0, saZ o.st 8 10 1, saZ o.st 8 10 7) | _ => (0, 0, 0, 0)) = (255, 255, 2, 2) := by
  decide +kernel

/-- **Onset of SILK's own DTX on digital silence** — the onset clause for the configurations where the
    tonality analysis does not run (complexity < 7 or Fs < 16 kHz: `silk_mode.useDTX = use_dtx`, Opus passes
    `VAD_NO_DECISION`, and a frame is dropped exactly when the `noSpeechCounter` machine allows it).  For
    every SILK frame length, every reachable VAD state and every value `cnt ≤ 30` the counter can hold, if
    the VAD input is all-zero for `n ≥ 18` frames then every frame from the eighth on is judged inactive
    and a frame that SILK may drop occurs among the first 18 frames: DTX starts within
    `NB_SPEECH_FRAMES_BEFORE_DTX + 7` frames (200 ms + 7 frames of 20 ms; the generalised detector's
    window is 200 ms ± one packet).  The VAD input is SILK's internal-rate signal: digital silence at the API
    reaches it as exact zeros only after the resampler and high-pass memories have run out — that part is
    not modelled and is covered by the witness search on the real encoder. -/
theorem silk_dtx_onset_on_silence (st : VadState) (fsKHz j n cnt : Nat) (hj : 10 ≤ j ∧ j ≤ 64)
    (h : Lvl st stBn stBn stBn) (hc : cnt ≤ 30) (hn : 18 ≤ n) :
    (∀ i, 7 ≤ i → i < n → (lowsZ st fsKHz j n)[i]? = some true) ∧
    ∃ i, i ≤ 17 ∧ (silkSteps cnt (lowsZ st fsKHz j n)).1[i]? = some true := by
  have hsplit := lowsZ_split st fsKHz j n hj h (by omega)
  refine ⟨?_, ?_⟩
  · intro i h7 hin
    rw [hsplit, List.getElem?_append_right (by simp [lowsZ]; omega)]
    simp [lowsZ, List.getElem?_replicate, show i - 7 < n - 7 by omega]
  · rw [hsplit, silkSteps_append]
    have hc' : (silkSteps cnt (lowsZ st fsKHz j 7)).2 ≤ 30 := by
      rw [silkSteps_eq_hang]; exact hangSteps_count_le _ _ (Nat.le_add_right ..) _ _ hc
    obtain ⟨i, hi, hd⟩ := silk_first_drop (silkSteps cnt (lowsZ st fsKHz j 7)).2 (n - 7) hc' (by omega)
    refine ⟨7 + i, by omega, ?_⟩
    simp only
    have hl : (silkSteps cnt (lowsZ st fsKHz j 7)).1.length = 7 := by
      rw [Opus.Dtx.silkSteps_length]; simp [lowsZ]
    rw [List.getElem?_append_right (by omega), hl]
    simpa using hd

/- fresh detector and counter, 16 kHz / 20 ms: inactive at once, the 11th frame is the first droppable one -/
example : (silkSteps 0 (lowsZ vadInit 16 40 12)).1 = List.replicate 10 false ++ [true, true] := by
  rw [lowsZ_quiet vadInit 16 40 12 (by omega) quiet_init]
  decide

end SilkVad

/-! ## The decoder fed the DTX stream -/

/-- Clause "a decoder fed the DTX stream (treating DTX packets as given or as losses) produces the
    requested durations".  For the decoder skeleton of C01 (any oracle within its contracts, any decoder
    state satisfying the decoder invariant, any decoder rate / channel count) and EVERY DTX packet shape
    the encoder emits — `dtxBytes t n`: the TOC alone, code 1 for two coded frames, code 3 with the
    frame count for 3…6 coded frames, any TOC `t` with clear code bits, at most 120 ms:
    * as given: `opus_decode_native` returns exactly `n` times the TOC's frame duration (and reports it
      as the last packet duration) whenever the caller's `frame_size` has room for it;
    * as a loss (`data = NULL`): it returns exactly the requested `frame_size` (a positive multiple of
      2.5 ms);
    and the TOC that `gen_toc` writes for a coded frame of `u` 2.5-ms units tells every decoder rate
    `Fs` a frame duration of `Fs·u/400` samples, so "`n` times the TOC's frame duration" is the duration
    the encoder was asked to code. -/
theorem dtx_stream_decodes (o : DecSkel.Oracle) (ho : DecSkel.OracleOk o) (r : DecSkel.Run) (hinv : DecSkel.DecInv r.st)
    (hlog : r.log = []) (t n : Nat) (ht : t ∈ tocs) (hn : n ∈ [1, 2, 3, 4, 5, 6])
    (hdur : n * Framing.samplesPerFrame t 48000 ≤ 5760) (pcm : DecSkel.Ptr) (frame_size : Int) (sc : Bool)
    (hbuf : pcm.buf = .pcm) (hroom : 0 ≤ pcm.off ∧ pcm.off + frame_size * r.st.channels ≤ pcm.cap) :
    ((n : Int) * (Framing.samplesPerFrame t r.st.Fs.toNat : Int) ≤ frame_size →
      (DecSkel.decodeNative o (some (dtxBytes t n)) (dtxBytes t n).length pcm frame_size 0 false sc r).ret =
          .ret ((n : Int) * (Framing.samplesPerFrame t r.st.Fs.toNat : Int)) ∧
      (DecSkel.decodeNative o (some (dtxBytes t n)) (dtxBytes t n).length pcm frame_size 0 false sc r).run.st.last_packet_duration =
          (n : Int) * (Framing.samplesPerFrame t r.st.Fs.toNat : Int)) ∧
    (0 < frame_size → frame_size % (r.st.Fs / 400) = 0 →
      (DecSkel.decodeNative o none 0 pcm frame_size 0 false sc r).ret = .ret frame_size) ∧
    (∀ x ∈ encCombos, ∀ ch ∈ [(1 : Int), 2], EncDecide.genToc x.1 x.2.1 x.2.2 ch ∈ tocs ∧
      ∀ fsd ∈ [8000, 12000, 16000, 24000, 48000],
        Framing.samplesPerFrame (EncDecide.genToc x.1 x.2.1 x.2.2 ch) fsd * 400 = fsd * frameUnits x.2.1) :=
  ⟨fun hfit => decode_dtx_given o ho r hinv hlog t n ht hn hdur pcm frame_size sc hbuf hroom hfit,
   fun hpos hmul => (OpusProps.C01.decodeNative_plc_duration o ho r hinv hlog none (fun _ h => by cases h) 0 pcm frame_size 0
      false sc hbuf hroom (Or.inl rfl) hpos hmul (Or.inl (Or.inl rfl))).1,
   genToc_frame⟩

/- an instance through C01's example oracle: fresh 48 kHz mono decoder, SILK-only WB 20 ms TOC 0x48: the 1-byte
   DTX packet decodes to 960 samples, the 2-byte code-3 packet of three frames to 2880, a loss to the requested 960 -/
example : ∃ st, DecSkel.init 48000 1 = some st ∧
    (DecSkel.decodeNative DecSkel.exOracle (some [72]) 1 ⟨.pcm, 0, 5760⟩ 5760 0 false false ⟨st, 0, []⟩).ret = .ret 960 ∧
    (DecSkel.decodeNative DecSkel.exOracle (some [75, 3]) 2 ⟨.pcm, 0, 5760⟩ 5760 0 false false ⟨st, 0, []⟩).ret = .ret 2880 ∧
    (DecSkel.decodeNative DecSkel.exOracle none 0 ⟨.pcm, 0, 5760⟩ 960 0 false false ⟨st, 0, []⟩).ret = .ret 960 := by
  refine ⟨_, rfl, ?_, ?_, ?_⟩
  · exact ((dtx_stream_decodes DecSkel.exOracle DecSkel.exOracle_ok ⟨_, 0, []⟩ (DecSkel.init_inv (fs := 48000) (ch := 1) rfl) rfl
      72 1 (by decide) (by decide) (by decide) ⟨.pcm, 0, 5760⟩ 5760 false rfl (by decide)).1 (by decide)).1
  · exact ((dtx_stream_decodes DecSkel.exOracle DecSkel.exOracle_ok ⟨_, 0, []⟩ (DecSkel.init_inv (fs := 48000) (ch := 1) rfl) rfl
      72 3 (by decide) (by decide) (by decide) ⟨.pcm, 0, 5760⟩ 5760 false rfl (by decide)).1 (by decide)).1
  · exact (dtx_stream_decodes DecSkel.exOracle DecSkel.exOracle_ok ⟨_, 0, []⟩ (DecSkel.init_inv (fs := 48000) (ch := 1) rfl) rfl
      72 1 (by decide) (by decide) (by decide) ⟨.pcm, 0, 5760⟩ 960 false rfl (by decide)).2.1 (by decide) (by decide)

/- the three shapes, with their lengths as `dtxPacketLen` has them; SILK-only WB 20 ms mono (TOC 0x48):
   three coded frames decode to 60 ms = 2880 samples at 48 kHz -/
example : dtxBytes 72 1 = [72] ∧ dtxBytes 72 2 = [73] ∧ dtxBytes 72 3 = [75, 3] ∧
    (dtxBytes 72 3).length = dtxPacketLen 3 ∧ 72 ∈ tocs ∧ 3 * Framing.samplesPerFrame 72 48000 = 2880 ∧
    EncDecide.genToc 1000 50 1103 1 = 72 := by decide

end OpusProps.C20
