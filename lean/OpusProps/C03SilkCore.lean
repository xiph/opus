import OpusProofs.SilkCoreBasic
import OpusProofs.SilkCoreHist
import OpusProofs.SilkCoreExample
import OpusProofs.SilkCoreBridge
/-
  OpusProps.C03SilkCore — property C03, slice SilkCore: theorems about the frozen bit-exact reference of the SILK frame
  synthesis at the internal rate (`OpusModel/SilkCore.lean`, `SilkCoreSynth.lean`, `SilkCoreFrame.lean`), for all states and
  inputs.  The tie (harness/c03_silkcore.c) checks that the library computes exactly this function.

  Predicates (OpusProofs/SilkCoreBasic.lean, SilkCoreParams.lean, SilkCoreTotal.lean):
    `StateOk s`        configuration of silk_decoder_set_fs, buffer sizes of structs.h, outBuf holds int16 values, the first
                       LPC_order previous NLSFs in [0, 32767], LastGainIndex in [0, 63], lagPrev in [2 ms, 18 ms] when the previous
                       frame was a concealed voiced one;
    `FrameOk fs nb f`  the index ranges the symbol layer delivers (OpusProps.C03.silkSyms_indices_in_range): signal type, offset
                       type, NLSF first-stage index, interpolation factor, contour / PER / LTP / LTP-scale index of voiced frames,
                       frame_length pulses — NO condition on gain indices, lagIndex, NLSF residuals, seed or pulse values;
    `CoreHyp s f ctrl` what silk_decode_core needs from silk_decode_parameters: nb_subfr non-zero gains, nb_subfr lags, for
                       voiced frames in [2 ms, 18 ms] and at most 18 samples apart.
-/
namespace OpusProps.C03SilkCore
open Opus Opus.SilkParams Opus.SilkCore Opus.SilkCoreProofs

/-- Clause "every output sample is an int16 / the frame has `frame_length` samples".  For EVERY state, index set, pulse
    vector and decoder control block: if `silk_decode_core` completes, every sample it wrote to `xq[]` lies in
    `[-32768, 32767]`, exactly `frame_length = nb_subfr * 5 * fs_kHz` samples were written, `sLPC_Q14_buf` keeps its
    `MAX_LPC_ORDER` entries and `exc_Q14` its size. -/
theorem core_output_int16 (s : DecState) (f : FrameIn) (ctrl : Ctrl) (interp : Int) (o : CoreOut)
    (h : decodeCore s f ctrl interp = .ok o) :
    (∀ x ∈ o.xq, -32768 ≤ x ∧ x ≤ 32767) ∧ o.xq.length = frameLen s.fsKHz s.nbSubfr ∧
    (s.sLPC.length = 16 → o.sLPC.length = 16) ∧
    (frameLen s.fsKHz s.nbSubfr ≤ s.excQ14.length → o.excQ14.length = s.excQ14.length) :=
  decodeCore_spec s f ctrl interp o h

example : (frameGood exState exVoiced).isOk = true := exVoiced_ok

/-- The reference is frozen and the tree still agrees with it: the three LTP gain codebooks, `silk_LTPScales_table_Q14`,
    `silk_Quantization_Offsets_Q10` and every constant the model reads (QUANT_LEVEL_ADJUST_Q10, BWE_AFTER_LOSS_Q16, RAND_MULTIPLIER /
    RAND_INCREMENT, LTP_ORDER, MAX / MIN_LPC_ORDER, MAX_NB_SUBFR, LTP_MEM_LENGTH_MS, SUB_FRAME_LENGTH_MS, buffer sizes, signal-type
    codes, the state after a reset) regenerated from `/repo` on this run equal the frozen values of `OpusModel/SilkCoreFrozen.lean`, which are the ones the model reads. -/
theorem tables_frozen_eq_repo : Opus.SilkCoreFrozen.frozenEq = true := by decide +kernel

example : Opus.Frozen.SilkCoreTabs.ltpVq2.length = 160 ∧ Opus.Frozen.SilkCoreTabs.bweAfterLossQ16 = 63570 := by decide +kernel

/-- Clause "totality of silk_decode_parameters".  On EVERY invariant state and EVERY in-range index set the model of
    `silk_decode_parameters` completes (no table index out of range, no assertion), and the control block it leaves has
    `nb_subfr` gains in `[81920, 1686110208]` (so no division by zero in the core), `nb_subfr` lags — for a voiced frame inside
    `[2 ms, 18 ms]` and at most 18 samples apart —, `LPC_order` coefficients per half, `LastGainIndex` in `[0, 63]` and NLSFs in
    `[0, 32767]` for the next frame. -/
theorem parameters_total (s : DecState) (f : FrameIn) (hs : StateOk s) (hf : FrameOk s.fsKHz s.nbSubfr f) :
    ∃ p, decodeParameters s f = .ok p ∧ ParamsOk s.fsKHz s.nbSubfr f p :=
  decodeParameters_total s f hs hf

example : StateOk exState ∧ FrameOk exState.fsKHz exState.nbSubfr exVoiced := ⟨exState_ok, exVoiced_frameOk⟩

/-- Clause "in-range indices (as C03's symbol layer guarantees)".  The hypothesis `FrameOk` of the theorems in this file is what the
    symbol layer delivers: for EVERY range-decoder state (= every packet content), rate, 10 / 20 ms sub-frame count and coding mode,
    the indices `silk_decode_indices` returns (model `Opus.SilkSyms.decodeIndices`, tied to the library by C03 stage 1), put into the
    input record of the synthesis together with `frame_length` decoded pulses, satisfy `FrameOk`. -/
theorem symbol_layer_delivers_frame_ok (rate : Opus.SilkSyms.Rate) (nb : Nat) (hnb : nb = 2 ∨ nb = 4) (vadOrLbrr : Bool)
    (cc ps : Nat) (pl : Int) (c : Opus.RangeCoder.Dec) (ix : Opus.SilkSyms.Indices) (c' : Opus.RangeCoder.Dec)
    (h : Opus.SilkSyms.decodeIndices rate nb vadOrLbrr cc ps pl c = (ix, c')) (condCoding : Int) (pulses : List Int)
    (hp : frameLen rate.kHz nb ≤ pulses.length) :
    FrameOk rate.kHz nb (frameOfIndices condCoding ix pulses) :=
  frameOk_of_indicesOk
    (Opus.SilkSymsProofs.decodeIndices_ok rate nb (by omega) vadOrLbrr cc ps pl c ix c' h) hnb condCoding pulses hp

example (c : Opus.RangeCoder.Dec) : ∃ ix c', Opus.SilkSyms.decodeIndices .wb 4 true 2 2 100 c = (ix, c') :=
  ⟨(Opus.SilkSyms.decodeIndices .wb 4 true 2 2 100 c).1, (Opus.SilkSyms.decodeIndices .wb 4 true 2 2 100 c).2, (Prod.eta _).symm⟩

/-- Clause "totality of silk_decode_core".  Under `CoreHyp` — ANY state contents (signal history, filter state, previous gain,
    loss / reset status), ANY pulses, seed, LPC and LTP coefficients — the model of `silk_decode_core` never reaches `.oob` (a read
    of an element of `sLTP_Q15` not written in this call, an index outside `outBuf`, the pulse array or a table) nor `.abort`
    (`celt_assert( start_idx > 0 )`, `celt_assert( d <= len )`, a zero gain): it returns a frame. -/
theorem core_total (s : DecState) (f : FrameIn) (ctrl : Ctrl) (interp : Int) (H : CoreHyp s f ctrl) :
    ∃ o, decodeCore s f ctrl interp = .ok o ∧ o.pitchL.length = s.nbSubfr :=
  (decodeCore_total s f ctrl interp H).imp fun _ h => ⟨h.1, h.2.1⟩

example : ∃ p, decodeParameters exState exVoiced = .ok p ∧ ParamsOk 8 2 exVoiced p :=
  decodeParameters_total exState exVoiced exState_ok exVoiced_frameOk

/-- Clause "the good-frame path is total and preserves the state invariant".  From EVERY invariant state, for EVERY in-range
    index set and pulse vector: silk_decode_parameters → silk_decode_core → buffer update completes, the frame has `frame_length`
    int16 samples, the configuration is unchanged and the new state satisfies the invariant again. -/
theorem frame_total_preserves_invariant (s : DecState) (f : FrameIn) (hs : StateOk s) (hf : FrameOk s.fsKHz s.nbSubfr f) :
    ∃ o, frameGood s f = .ok o ∧ StateOk o.st ∧ o.st.fsKHz = s.fsKHz ∧ o.st.nbSubfr = s.nbSubfr ∧
      o.core.xq.length = frameLen s.fsKHz s.nbSubfr ∧ ∀ x ∈ o.core.xq, -32768 ≤ x ∧ x ≤ 32767 :=
  frameGood_total s f hs hf

example : (frameGood exState exVoiced).isOk = true ∧ StateOk exState := ⟨exVoiced_ok, exState_ok⟩

/-- Clause "… hence after every frame history" (list induction).  From an invariant state, EVERY sequence of good frames with
    in-range indices, of any length, is decoded completely: one frame of `frame_length` int16 samples per input, and the final state
    satisfies the invariant. -/
theorem history_total_invariant (fs : List FrameIn) (s : DecState) (hs : StateOk s)
    (hf : ∀ f ∈ fs, FrameOk s.fsKHz s.nbSubfr f) :
    ∃ xs s', runFrames s fs = some (xs, s') ∧ StateOk s' ∧ s'.fsKHz = s.fsKHz ∧ s'.nbSubfr = s.nbSubfr ∧
      xs.length = fs.length ∧
      ∀ xq ∈ xs, xq.length = frameLen s.fsKHz s.nbSubfr ∧ ∀ x ∈ xq, -32768 ≤ x ∧ x ≤ 32767 := by
  induction fs generalizing s with
  | nil => exact ⟨[], s, rfl, hs, rfl, rfl, rfl, by simp⟩
  | cons f rest ih =>
    obtain ⟨o, ho, hso, e1, e2, xl, xi⟩ := frameGood_total s f hs (hf f List.mem_cons_self)
    obtain ⟨xs, s', hr, hs', e1', e2', hl, hx⟩ := ih o.st hso (by
      intro g hg; rw [e1, e2]; exact hf g (List.mem_cons_of_mem _ hg))
    refine ⟨o.core.xq :: xs, s', ?_, hs', by rw [e1', e1], by rw [e2', e2], by simp [hl], ?_⟩
    · simp only [runFrames, ho, hr]
    · intro xq hxq
      rcases List.mem_cons.mp hxq with h | h
      · rw [h]; exact ⟨xl, xi⟩
      · have := hx xq h; rw [e1, e2] at this; exact this

example : (runFrames exState [exVoiced, exUnvoiced]).isSome = true ∧
    (∀ f ∈ [exVoiced, exUnvoiced], FrameOk exState.fsKHz exState.nbSubfr f) :=
  ⟨exRun_ok, fun f hf => by
    rcases List.mem_cons.mp hf with h | h
    · rw [h]; exact exVoiced_frameOk
    · rw [List.mem_singleton.mp h]; exact exUnvoiced_frameOk⟩

/-- Clause "the frame output is a function of (indices, pulses, previous state) only".  The model is a function of the listed
    state members by construction; of those, the content of `exc_Q14` (written before it is read) is dead: replacing it by ANY list
    changes nothing in the frame — parameters, `xq`, every other state member — except `exc_Q14` itself, which comes back as some
    list `x` (in the model: the new excitation followed by the stale part beyond `frame_length`; the statement leaves `x` free). -/
theorem frame_independent_of_stale_excitation (s : DecState) (f : FrameIn) (e : List Int) (o : FrameOut)
    (h : frameGood s f = .ok o) :
    ∃ x, frameGood { s with excQ14 := e } f =
      .ok { o with core := { o.core with excQ14 := x }, st := { o.st with excQ14 := x } } := by
  unfold frameGood at h ⊢
  rw [decodeParameters_exc]
  obtain ⟨p, hp, h⟩ := bind_eq_ok h
  obtain ⟨c, hc, h⟩ := bind_eq_ok h
  simp only [hp, Res.bind_ok]
  obtain ⟨x, hx⟩ := decodeCore_exc _ f p.ctrl p.interp e c hc
  simp only [hx, Res.bind_ok]
  split at h
  · cases h
  · rename_i hm
    rw [if_neg hm]
    obtain ⟨lp, hlp, h⟩ := bind_eq_ok h
    simp only [Res.pure_eq, Res.ok.injEq] at h
    have hlp' : getI ({ c with excQ14 := x } : CoreOut).pitchL ((s.nbSubfr : Int) - 1) = .ok lp := hlp
    simp only [hlp', Res.bind_ok, Res.pure_eq]
    subst h
    exact ⟨x, rfl⟩

example : (frameGood exState exVoiced).isOk = true := exVoiced_ok

/-- Range lemma (bonus clause "particular expressions cannot wrap"): the excitation arithmetic of decode_core.c:81-91.  For EVERY
    `opus_int16` pulse, seed and quantisation offset of magnitude up to 1024 (the table holds 32, 100, 100, 240): `pulses[i] << 14` does not
    wrap and `exc_Q14[i]` stays inside `[-2^30, 2^30]` after the level adjustment, the offset and the sign flip — the plain C
    `+=`, `-=` and unary minus there are exact. -/
theorem excitation_no_wrap (off seed p : Int) (hp : -32768 ≤ p ∧ p ≤ 32767) (ho : -1024 ≤ off ∧ off ≤ 1024) :
    lshift32 p 14 = p * 16384 ∧ -1073741824 ≤ (excStep off seed p).1 ∧ (excStep off seed p).1 ≤ 1073741824 := by
  have hs : lshift32 p 14 = p * 16384 := by
    unfold lshift32 wrap32; rw [show (2 : Int) ^ 14 = 16384 by decide]; omega
  refine ⟨hs, ?_⟩
  -- the level-adjusted value plus offset, before the pseudo-random sign flip, for any |e| ≤ 2^29
  have hb : ∀ e : Int, -536870912 ≤ e → e ≤ 536870912 →
      -1073741824 ≤ (if e > 0 then e - 80 * 16 else if e < 0 then e + 80 * 16 else e) + off * 16 ∧
      (if e > 0 then e - 80 * 16 else if e < 0 then e + 80 * 16 else e) + off * 16 ≤ 1073741824 := by
    intro e h1 h2
    split
    · omega
    · split <;> omega
  have := hb (p * 16384) (by omega) (by omega)
  unfold excStep
  simp only [hs, Opus.Frozen.SilkCoreTabs.quantLevelAdjustQ10]
  split <;> omega

example : (excStep 240 3 (-32768)).1 = 536865792 ∨ (excStep 240 3 (-32768)).1 = -536865792 := by decide +kernel

end OpusProps.C03SilkCore
