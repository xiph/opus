import OpusModel.Delay
import OpusModel.Gen.Window
import OpusProofs.Delay
import OpusProofs.MdctTdac
import OpusProofs.MdctWindow
import OpusProofs.DelayChannels
import OpusProofs.MdctAlgoInv
import OpusProps.C10
/-
  C04 — "Encode then decode reproduces the input at the reported delay".

  PARTIAL.  What is stated and proved here (kernel-checked):
    * the *reported delay* clause: OPUS_GET_LOOKAHEAD = Fs/400 (+ Fs/250 unless RESTRICTED_LOWDELAY), for every
      accepted (Fs, channels, application), over every history of set-application / encode / reset operations;
      it is exactly 2.5 ms / 6.5 ms at every API rate; it decomposes into the CELT overlap at the API rate plus the
      encoder's delay buffer; the model reproduces the struct fields and ctl answers regenerated from the code;
    * the *channel identity* clause at the multistream routing layer: the channel the encoder feeds into a stream
      side and the channel the decoder writes that stream side to are the same channel (no swap), for every layout,
      and for every channel of the surround layouts (regenerated Vorbis table);
    * the *algorithm* of celt/mdct.c: clt_mdct_forward_c (window + fold, pre-rotation, N/4-point complex DFT,
      post-rotation) written over ℝ equals `scale ·` the textbook MDCT of the windowed block, clt_mdct_backward_c equals
      the textbook IMDCT with windowed overlap-add, and forward → backward on consecutive frames returns the input,
      for every N divisible by 4 and every overlap divisible by 4 up to N/2 (the FFT taken as the DFT it computes);
    * the *exact mathematics* underneath "the output matches the input" for the CELT transform layer: the
      regenerated window is power-complementary to 2⁻²³, and MDCT → IMDCT → windowed overlap-add of consecutive
      blocks returns the input (time-domain alias cancellation), exactly for a Princen–Bradley window and to
      within M/2·2⁻²³·|x| for the table the code uses, in exact (real) arithmetic.

  What is NOT proved (searched on the implementation only, see tools/props/C04.py NOT_COVERED): every quantitative
  fidelity clause — SNR and per-band energy after quantisation, the measured delay of the real encoder+decoder
  (incl. the SILK resamplers' ±0.1 ms), channel identity/level through the real codecs, float rounding.

  Full statement (not a theorem of this file):
    ∀ configuration c (Fs, channels, application, frame duration, bitrate ≥ floor(c), complexity, VBR/CBR),
    ∀ signal x from the generator families, with y = decode(encode_c(x)) and d = lookahead(c):
      SNR(y[· + d], x) ≥ snr_min(c) ∧ ∀ band b, |E_b(y) − E_b(x)| ≤ tol_b(c) ∧ channels keep identity, sign, level.
-/
namespace OpusProps.C04
open Opus Opus.Delay Opus.MdctR Opus.MdctWindow Opus.MdctAlgo Opus.Gen.Window Opus.Layout Opus.DelayChannels

/-- Clause "delayed by exactly the lookahead the encoder reports" — the report itself: on any successfully
    created encoder OPUS_GET_LOOKAHEAD answers `Fs/400 + (0 if RESTRICTED_LOWDELAY else Fs/250)`,
    independent of the channel count. -/
theorem lookahead_eq (fs ch : Nat) (app : Int) (st : Enc) (h : init fs ch app = .ok st) :
    getLookahead st = lookahead fs app := by
  have := getLookahead_of_inv (init_inv h)
  obtain ⟨a, _, c, _⟩ := init_fields h
  rw [this, a, c]

example : ∃ st, init 48000 2 APP_AUDIO = .ok st ∧ getLookahead st = 312 := ⟨_, rfl, rfl⟩
example : ∃ st, init 16000 1 APP_RESTRICTED_LOWDELAY = .ok st ∧ getLookahead st = 40 := ⟨_, rfl, rfl⟩

/-- The encoder exists exactly for the documented arguments (else OPUS_BAD_ARG), so `lookahead_eq` covers every
    encoder that can be created: 5 rates × 2 channel counts × 3 applications. -/
theorem encoder_exists_iff (fs ch : Nat) (app : Int) :
    (∃ st, init fs ch app = .ok st) ↔ (validFs fs = true ∧ (ch = 1 ∨ ch = 2) ∧ validApp app = true) :=
  init_ok_iff fs ch app

example : init 44100 2 APP_AUDIO = .err .badArg := rfl

/-- The reported delay over a whole session: after any sequence of OPUS_SET_APPLICATION (accepted or rejected),
    encode calls and OPUS_RESET_STATE, the look-ahead is still the closed form of the rate the encoder was
    created with and its *current* application. -/
theorem lookahead_any_history (fs ch : Nat) (app : Int) (st : Enc) (h : init fs ch app = .ok st) (ops : List Op) :
    getLookahead (run st ops) = lookahead fs (run st ops).application := by
  rw [getLookahead_of_inv (run_inv (init_inv h) ops), run_fs, (init_fields h).1]

example : ∃ st, init 48000 2 APP_AUDIO = .ok st ∧
    getLookahead (run st [.setApp APP_RESTRICTED_LOWDELAY, .encode, .setApp APP_VOIP, .reset]) = 120 := ⟨_, rfl, rfl⟩

/-- Mid-stream stability: once the first frame has been encoded, no accepted OPUS_SET_APPLICATION changes the
    reported look-ahead (a change of application is refused), so the delay a client compensates stays valid. -/
theorem lookahead_fixed_after_first_frame (st st' : Enc) (v : Int) (hf : st.first = false)
    (h : setApplication st v = .ok st') : getLookahead st' = getLookahead st := by
  obtain ⟨e, _, h3⟩ := setApplication_ok h
  rcases h3 with h3 | h3
  · rw [hf] at h3; cases h3
  · subst e; subst h3; rfl

example : ∃ st, init 8000 1 APP_VOIP = .ok st ∧ (afterEncode st).first = false ∧
    setApplication (afterEncode st) APP_RESTRICTED_LOWDELAY = .err .badArg ∧
    (setApplication (afterEncode st) APP_VOIP).isOk = true := ⟨_, rfl, rfl, rfl, rfl⟩

/-- The look-ahead in time units is exact: 2.5 ms in RESTRICTED_LOWDELAY, 6.5 ms otherwise, with no integer
    rounding at any of the five API rates (so "delay off by 1 ms" is a 48-sample discrepancy at 48 kHz). -/
theorem lookahead_exact_ms (fs : Nat) (h : validFs fs = true) (app : Int) :
    lookahead fs app * 2000 = fs * (if app = APP_RESTRICTED_LOWDELAY then 5 else 13) := by
  unfold lookahead
  rcases validFs_cases h with rfl | rfl | rfl | rfl | rfl <;>
    by_cases ha : app = APP_RESTRICTED_LOWDELAY <;> simp [ha]

example : lookahead 12000 APP_AUDIO * 2000 = 12000 * 13 := rfl

/-- Where the delay comes from: the CELT MDCT overlap (regenerated `overlap`, scaled to the API rate) plus the
    `total_buffer` samples the encoder holds back in `delay_buffer` (src/opus_encoder.c:1820-1824). -/
theorem lookahead_is_overlap_plus_buffer (fs ch : Nat) (app : Int) (st : Enc) (h : init fs ch app = .ok st) :
    getLookahead st = celtOverlapAtFs fs + totalBuffer st := by
  rw [lookahead_decomp (init_inv h), (init_fields h).1]

example : celtOverlapAtFs 24000 = 60 := rfl

/-- Tie of the model to the code at build time: for every (Fs, application) the model's answer equals what
    OPUS_GET_LOOKAHEAD returned on a real encoder when `Gen/Window.lean` was regenerated from the current tree. -/
theorem lookahead_table_matches_code :
    lookaheadTable = allFs.flatMap fun fs => allApps.map fun app =>
      (fs, app, ((init fs 1 app).bind fun st => Res.ok (getLookahead st : Int)) |> fun r =>
        match r with | .ok v => v | _ => -1) := by
  decide

/-- Tie of `init` to the code at build time: `delay_compensation` and `encoder_buffer` of real encoders
    (read from the struct by the extractor) are the values the model's `init` produces. -/
theorem init_fields_match_code :
    ∀ e ∈ encInit, ∀ ch ∈ [1, 2], ∀ app ∈ allApps,
      (init e.1 ch app).isOk = true ∧
      ∀ st, init e.1 ch app = .ok st → st.delayCompensation = e.2.1 ∧ st.encoderBuffer = e.2.2 :=
  init_matches_code

/-- Princen–Bradley condition on the table the code uses: for the regenerated `window120` (exact values of the
    IEEE single literals), `|w[i]² + w[overlap−1−i]² − 1| ≤ 2⁻²³` for all `i` (2⁻²⁴ does not hold:
    `Opus.MdctWindow.window_pc_int_tight`). -/
theorem window_power_complementary (i : ℕ) (hi : i < overlap) :
    |windowR i ^ 2 + windowR (overlap - 1 - i) ^ 2 - 1| ≤ 1 / 2 ^ 23 :=
  window_pc_real i hi

example : overlap = 120 ∧ windowME.length = 120 := ⟨rfl, by decide⟩

/-- `windowR` really is the table: `windowR i = m·2^e` for the (m, e) pair the extractor printed for entry `i`. -/
theorem window_is_table (i : ℕ) (hi : i < overlap) :
    windowR i = ((windowME.getD i (0, 0)).1 : ℝ) * (2 : ℝ) ^ ((windowME.getD i (0, 0)).2) := by
  have hlen : i < windowME.length := by rw [windowME_length]; exact hi
  have hg : windowME.getD i (0, 0) = windowME[i] := (List.getElem_eq_getD (h := hlen) (0, 0)).symm
  have hlen' : i < windowNum.length := by unfold windowNum; simpa using hlen
  have hn : num i = windowME[i].1 * 2 ^ (windowME[i].2 + (windowDen : Int)).toNat := by
    unfold num; rw [← List.getElem_eq_getD (h := hlen') 0]; simp only [windowNum, List.getElem_map]; rfl
  have hexp := windowME_exp_ok _ (List.getElem_mem hlen)
  rw [hg]; unfold windowR; rw [hn]
  generalize windowME[i] = p at hexp ⊢
  have h2 : (2 : ℝ) ≠ 0 := two_ne_zero
  have hz : p.2 = ((p.2 + (windowDen : Int)).toNat : Int) - (windowDen : Int) := by
    rw [Int.toNat_of_nonneg hexp]; ring
  push_cast
  conv_rhs => rw [hz, zpow_sub₀ h2, zpow_natCast, zpow_natCast]
  ring

/-- The window is a cross-fade: strictly increasing from a positive first value to at most 1 — no sign flip and no
    gain above unity can come from the table. -/
theorem window_monotone :
    (∀ i, i < overlap - 1 → windowR i < windowR (i + 1)) ∧ 0 < windowR 0 ∧ windowR (overlap - 1) ≤ 1 :=
  ⟨window_increasing, window_range.1, window_range.2⟩

/-- Alias form of IMDCT∘MDCT (the orthogonality of the MDCT kernels): a 2M block comes back as itself minus its
    time-reversed first half / plus its time-reversed second half, scaled by M/2. -/
theorem mdct_alias_form (M : ℕ) (x : ℕ → ℝ) (n : ℕ) :
    (n < M → imdct M (mdct M x) n = (M : ℝ) / 2 * (x n - x (M - 1 - n))) ∧
    (M ≤ n → n < 2 * M → imdct M (mdct M x) n = (M : ℝ) / 2 * (x n + x (3 * M - 1 - n))) :=
  ⟨imdct_mdct_lo M x n, imdct_mdct_hi M x n⟩

/-- Time-domain alias cancellation (clause "the output matches the input", transform layer, exact arithmetic):
    with a symmetric window satisfying Princen–Bradley, overlap-adding the windowed IMDCT of the windowed MDCT
    of consecutive blocks (hop M) returns the input signal, up to the normalisation factor M/2, at every
    sample of every frame after the first. -/
theorem mdct_tdac (M : ℕ) (w x : ℕ → ℝ) (hsym : ∀ n, n < 2 * M → w (2 * M - 1 - n) = w n)
    (hpb : ∀ n, n < M → w n ^ 2 + w (n + M) ^ 2 = 1) (t n : ℕ) (hn : n < M) :
    wola M w x ((t + 1) * M) n + wola M w x (t * M) (n + M) = (M : ℝ) / 2 * x ((t + 1) * M + n) := by
  rw [tdac_symm M w x hsym t n hn, hpb n hn, mul_one]

/-- Non-vacuity of `mdct_tdac`: the rectangular-cross-fade window `w n = √½` satisfies both hypotheses for
    every M. -/
example (M : ℕ) : ∃ w : ℕ → ℝ, (∀ n, n < 2 * M → w (2 * M - 1 - n) = w n) ∧
    (∀ n, n < M → w n ^ 2 + w (n + M) ^ 2 = 1) :=
  ⟨fun _ => Real.sqrt (1 / 2), fun _ _ => rfl, fun _ _ => by
    have : Real.sqrt (1 / 2) ^ 2 = 1 / 2 := Real.sq_sqrt (by norm_num)
    simp only [this]; norm_num⟩

/-- TDAC for the window the code uses: for every CELT frame size M (≥ overlap, same parity: 120, 240, 480, 960)
    the low-overlap window built from the regenerated table reconstructs every sample with error at most
    M/2 · 2⁻²³ · |x| (relative 2⁻²³ ≈ 1.2e-7, i.e. −138 dB) in exact arithmetic. -/
theorem celt_window_tdac (M : ℕ) (hov : overlap ≤ M) (hpar : 2 ∣ (M - overlap)) (x : ℕ → ℝ) (t n : ℕ) (hn : n < M) :
    |wola M (extWindow M overlap windowR) x ((t + 1) * M) n + wola M (extWindow M overlap windowR) x (t * M) (n + M)
        - (M : ℝ) / 2 * x ((t + 1) * M + n)|
      ≤ (M : ℝ) / 2 * (1 / 2 ^ 23) * |x ((t + 1) * M + n)| :=
  ext_tdac_approx M overlap windowR x (1 / 2 ^ 23) (by positivity) hov hpar
    (fun i hi => window_pc_real i hi) t n hn

example : ∀ M ∈ [120, 240, 480, 960], overlap ≤ M ∧ 2 ∣ (M - overlap) := by decide

/-- Clause "channels keep their identity (left stays left, no swap)", multistream routing layer, decoder after
    encoder: output channel `c` is written (C10 `routing`: from `expectedSrc l c`) with the stream side that the
    encoder filled from input channel `c` itself (`get_left/right/mono_channel(layout, s, -1)`,
    src/opus_multistream_encoder.c:942-943, 961) — for every layout and every channel whose mapping byte is not
    255 (muted) and is not a repetition of an earlier channel's byte (a repeated byte is a *copy* of that earlier
    channel by RFC 7845 §5.1.1, so identity cannot hold for it). -/
theorem channel_identity (l : ChannelLayout) (c v : Nat) (hc : c < l.nbChannels)
    (hv : l.mapping[c]? = some v) (h255 : v ≠ 255) (hfirst : ∀ j, j < c → l.mapping[j]? ≠ some v) :
    encoderInput l (expectedSrc l c) = (c : Int) :=
  encoderInput_expectedSrc l c v hc hv h255 hfirst

/-- Non-vacuity: 5.1 (Vorbis order FL C FR RL RR LFE, mapping 0 4 1 2 3 5, 4 streams, 2 coupled): output FR (channel 2)
    is the right side of stream 0, which the encoder fills from input channel 2. -/
example : expectedSrc ⟨6, 4, 2, [0, 4, 1, 2, 3, 5]⟩ 2 = .right 0 ∧
    encoderInput ⟨6, 4, 2, [0, 4, 1, 2, 3, 5]⟩ (.right 0) = 2 := by decide

/-- The same clause, encoder after decoder: whichever channel `c` the encoder takes a stream side from, the decoder
    writes that very stream side to channel `c` — for every stream side of every layout that satisfies the size
    conditions both validators enforce (`coupled ≤ streams`, `streams + coupled ≤ 255`).  So no stream side can come
    back on a different channel than it was taken from. -/
theorem stream_side_identity (l : ChannelLayout) (src : Src) (hs : IsStreamSide l src)
    (hcs : l.nbCoupled ≤ l.nbStreams) (h255 : l.nbStreams + l.nbCoupled ≤ 255)
    (c : Int) (hc : encoderInput l src = c) (hne : c ≠ -1) :
    0 ≤ c ∧ c.toNat < l.nbChannels ∧ expectedSrc l c.toNat = src := by
  have hz : src ≠ .zero := by intro e; rw [e] at hs; exact hs
  rw [encoderInput_eq l src hz, findChannel_from_start] at hc
  obtain ⟨k, hk, hg⟩ := scanFrom_hit _ _ 0 c hc hne
  have hkc : c.toNat = k := by rw [hk]; simp
  have hlt : k < l.nbChannels := by
    have := (List.getElem?_eq_some_iff.mp hg).1
    simp only [List.length_take] at this; omega
  refine ⟨by rw [hk]; omega, by rw [hkc]; exact hlt, ?_⟩
  rw [hkc, Layout.expectedSrc_eq l k _ hg]
  exact srcOfValue_byteOf l src hs hcs h255

example : IsStreamSide ⟨6, 4, 2, [0, 4, 1, 2, 3, 5]⟩ (.mono 3) ∧
    encoderInput ⟨6, 4, 2, [0, 4, 1, 2, 3, 5]⟩ (.mono 3) = 5 := ⟨⟨by decide, by decide⟩, by decide⟩

/-- For the layouts `opus_multistream_surround_encoder_create` builds — family 0 (mono, stereo), family 1 (all eight
    Vorbis layouts, table regenerated from src/opus_multistream_encoder.c) and family 255 (every channel count up to
    255) — *every* channel is routed back to itself. -/
theorem surround_channel_identity :
    ((∀ ch ∈ [1, 2], surroundIdentity ch 0 = true) ∧
     (∀ ch ∈ [1, 2, 3, 4, 5, 6, 7, 8], surroundIdentity ch 1 = true) ∧
     (∀ ch ∈ [1, 2, 3, 5, 8, 16, 32], surroundIdentity ch 255 = true)) ∧
    (∀ ch c : Nat, ch ≤ 255 → c < ch →
      encoderInput ⟨ch, ch, 0, List.range ch⟩ (expectedSrc ⟨ch, ch, 0, List.range ch⟩ c) = (c : Int)) :=
  ⟨by decide +kernel, fun ch c hch hc => (identity_mapping_identity ch ch 0 c hch hc).2⟩

example : surroundLayout 6 1 = .ok ⟨4, 2, [0, 4, 1, 2, 3, 5], 3⟩ := by decide

/-- Clause "channels keep their identity" end to end through the multistream layer (composition of the routing
    theorem of property C10, `OpusProps.C10.routing_pcm`, with `channel_identity`): for **every** multistream encoder
    and decoder created with the same `(channels, streams, coupled, mapping)`, the two hold the same layout, and for
    every decode call that succeeds with the per-stream decoders returning the common duration `n` (whatever PCM
    `pcm` they produce), output channel `c` is written exactly once, with the first `n` decoded samples of the
    stream side that the encoder filled from **input channel `c`** — for every channel whose mapping byte is not 255
    and does not repeat an earlier byte.  What remains outside is only the per-stream codec itself. -/
theorem channel_identity_pcm {α} [OfNat α 0] (pcm : Src → List α)
    (okE okD : Bool) (ch st co : Int) (m : List Nat) (enc : MSEncoder) (l : ChannelLayout)
    (henc : encoderCreate okE ch st co m = .ok enc) (hdec : decoderCreate okD ch st co m = .ok l)
    (fsRate : Nat) (frameSize len : Int) (validate : Res Nat) (rets : List StreamRet)
    (hrets : rets.length = l.nbStreams) (n : Int) (hn : ∀ s ∈ rets, s.ret = n) (r : Routed)
    (hd : decodeNative l fsRate frameSize len validate rets = .ok r) (hpos : r.ret > 0) :
    enc.layout = l ∧ r.ret = n ∧
    ∀ c v, c < l.nbChannels → l.mapping[c]? = some v → v ≠ 255 → (∀ j, j < c → l.mapping[j]? ≠ some v) →
      channelWrites pcm r.calls c = [srcSamples pcm n (expectedSrc l c)] ∧
      encoderInput enc.layout (expectedSrc l c) = (c : Int) := by
  have hl : enc.layout = l := by
    rw [encoderCreate_eq] at henc
    rw [decoderCreate_eq] at hdec
    have h1 := ((encoderInitImpl_ok_iff okE ch st co m .none (-1) enc).1 henc).2.2.2.2.2.2
    have h2 := ((decoderInit_ok_iff okD ch st co m l).1 hdec).2.2.2.2
    rw [h1, h2]
  obtain ⟨hret, hw⟩ := OpusProps.C10.routing_pcm pcm okD ch st co m l hdec fsRate frameSize len validate rets hrets n hn r hd hpos
  refine ⟨hl, hret, fun c v hc hv h255 hfirst => ⟨(hw c hc).1, ?_⟩⟩
  rw [hl]
  exact encoderInput_expectedSrc l c v hc hv h255 hfirst

/-- Non-vacuity: a 5.1 encoder and decoder with the RFC 7845 layout are both created, with the same layout. -/
example : encoderCreate true 6 4 2 [0, 4, 1, 2, 3, 5] = .ok ⟨⟨6, 4, 2, [0, 4, 1, 2, 3, 5]⟩, -1, .none⟩ ∧
    decoderCreate true 6 4 2 [0, 4, 1, 2, 3, 5] = .ok ⟨6, 4, 2, [0, 4, 1, 2, 3, 5]⟩ := by decide

/-- Transform layer, the code's algorithm (clause "the output matches the input", structure of celt/mdct.c:122-264):
    **clt_mdct_forward_c computes the MDCT.**  `forwardR` transcribes the C function over ℝ — the three window/fold
    loops, the pre-rotation by `trig[i] = cos(2π(i+1/8)/N)`, the N/4-point complex FFT taken as the DFT it computes
    (`dftRe`/`dftIm`, see `fft_is_dft`), the post-rotation and output interleaving.  For every transform size
    `N = 4Q`, every overlap `4q ≤ N/2` (the C code needs 4 | overlap), every window table, input and scale:
    output coefficient `m` is `scale ·` the textbook MDCT (the `mdct` of `mdct_tdac`) of the input placed in a block of
    `N` samples under the zero / rise / one / fall / zero window. -/
theorem mdct_forward_code (Q q : ℕ) (hQ : 0 < Q) (hq : 2 * q ≤ Q) (w inp : ℕ → ℝ) (scale : ℝ) (m : ℕ) (hm : m < 2 * Q) :
    forwardR (4 * Q) (4 * q) w inp scale m = scale * mdct (2 * Q) (blockR (2 * Q) (4 * q) w inp) m :=
  forward_eq_mdct Q q hQ hq w inp scale m hm

/-- The shapes of the static mode (N = 1920·2^-shift, overlap 120) satisfy the hypotheses. -/
example : ∀ Q ∈ [480, 240, 120, 60], 0 < Q ∧ 2 * 30 ≤ Q ∧ 4 * Q ∈ [1920, 960, 480, 240] ∧ 4 * 30 = overlap := by decide

/-- What "FFT" means in `mdct_forward_code` / `mdct_backward_code`: `dftRe`/`dftIm` are the real and imaginary part of
    the complex DFT `F_k = Σ_j (re_j + i·im_j)·exp(−2πi·jk/n)`. -/
theorem fft_is_dft (n : ℕ) (re im : ℕ → ℝ) (k : ℕ) :
    ((dftRe n re im k : ℂ) + (dftIm n re im k : ℂ) * Complex.I)
      = ∑ j ∈ Finset.range n, ((re j : ℂ) + (im j : ℂ) * Complex.I)
          * Complex.exp (-(2 * Real.pi * ((j * k : ℕ) : ℝ) / n : ℝ) * Complex.I) := by
  unfold dftRe dftIm
  push_cast
  rw [Finset.sum_mul, ← Finset.sum_add_distrib]
  refine Finset.sum_congr rfl fun j _ => ?_
  rw [Complex.exp_mul_I]
  simp only [Complex.cos_neg, Complex.sin_neg]
  ring_nf
  rw [Complex.I_sq]
  ring

/-- **clt_mdct_backward_c computes the IMDCT with windowed overlap-add** (celt/mdct.c:268-371): `backwardR`
    transcribes the C function over ℝ (pre-rotation with swapped parts, DFT, post-rotation and de-shuffle, the
    "mirror on both sides for TDAC" loop).  For every `N = 4Q` and overlap `2h ≤ N/2`: (a) the post-rotation writes
    `IMDCT(X)[N/4 + n]` at `out[overlap/2 + n]`; (b) the samples `out[N/2 + i]`, `i < overlap/2`, are left as the
    un-mirrored tail `IMDCT(X)[3Q − h + i]`; (c) if `out[0 .. overlap/2)` holds the tail of the previous call, then
    after the call `out[t] = W(t+z)·IMDCT(X)[t+z] + W(t+z+M)·IMDCT(Xprev)[t+z+M]` for all `t < M = N/2`. -/
theorem mdct_backward_code (Q h : ℕ) (hQ : 0 < Q) (hh : h ≤ Q) (w X Xprev old : ℕ → ℝ) :
    (∀ n, n < 2 * Q → backwardRaw (4 * Q) X n = imdct (2 * Q) X (Q + n)) ∧
    (∀ i, i < h → backwardR (4 * Q) (2 * h) w X old (2 * Q + i) = imdct (2 * Q) X (3 * Q - h + i)) ∧
    ((∀ i, i < h → old i = imdct (2 * Q) Xprev (3 * Q - h + i)) →
      ∀ t, t < 2 * Q → backwardR (4 * Q) (2 * h) w X old t
        = extWindow (2 * Q) (2 * h) w (t + (Q - h)) * imdct (2 * Q) X (t + (Q - h))
          + extWindow (2 * Q) (2 * h) w (t + (Q - h) + 2 * Q) * imdct (2 * Q) Xprev (t + (Q - h) + 2 * Q)) :=
  ⟨fun n hn => backwardRaw_eq_imdct Q hQ X n hn, fun i hi => backward_tail Q h hQ hh w X old i hi,
   fun hold t ht => backward_overlap_add Q h hQ hh w X Xprev old hold t ht⟩

example : (0 : ℕ) < 60 ∧ 60 ≤ 60 ∧ 2 * 60 = overlap := by decide

/-- **The code reconstructs its input** (transform layer of "decode(encode(x)) = x", exact arithmetic): run
    clt_mdct_forward_c (scale `1/(N/4)` = the code's `st->scale`) on two consecutive frames of any signal `x`, then
    clt_mdct_backward_c on the first result into any buffer and on the second result into the buffer `N/2` samples
    further (as celt_decoder.c does).  With a power-complementary short window, every one of the `N/2` samples of the
    second call's frame is exactly the input sample, delayed by `z = (N/2 − overlap)/2` relative to the buffer start —
    for every `N = 4Q`, overlap `4q ≤ N/2`, signal and initial buffer content. -/
theorem mdct_code_roundtrip (Q q : ℕ) (hQ : 0 < Q) (hq : 2 * q ≤ Q) (w x old0 : ℕ → ℝ)
    (hpb : ∀ i, i < 4 * q → w i ^ 2 + w (4 * q - 1 - i) ^ 2 = 1) (s t : ℕ) (ht : t < 2 * Q) :
    let z := Q - 2 * q
    let scale : ℝ := 1 / (Q : ℝ)
    let Xa := forwardR (4 * Q) (4 * q) w (fun j => x (s + z + j)) scale
    let Xb := forwardR (4 * Q) (4 * q) w (fun j => x (s + 2 * Q + z + j)) scale
    let bufA := backwardR (4 * Q) (4 * q) w Xa old0
    let bufB := backwardR (4 * Q) (4 * q) w Xb (fun i => bufA (2 * Q + i))
    bufB t = x (s + 2 * Q + z + t) :=
  celt_code_tdac Q q hQ hq w x old0 hpb s t ht

/-- Non-vacuity: a power-complementary short window exists for every overlap. -/
example (q : ℕ) : ∃ w : ℕ → ℝ, ∀ i, i < 4 * q → w i ^ 2 + w (4 * q - 1 - i) ^ 2 = 1 :=
  ⟨fun _ => Real.sqrt (1 / 2), fun _ _ => by
    have : Real.sqrt (1 / 2) ^ 2 = 1 / 2 := Real.sq_sqrt (by norm_num)
    simp only [this]; norm_num⟩

/-- The same for the static CELT mode with the **regenerated window table**: for N = 1920, 960, 480, 240
    (`Q = N/4 ≥ 60`, overlap 120) the code's forward → backward returns every sample within 2⁻²³ relative. -/
theorem celt_code_roundtrip_window (Q : ℕ) (hQ : 60 ≤ Q) (x old0 : ℕ → ℝ) (s t : ℕ) (ht : t < 2 * Q) :
    let z := Q - 60
    let scale : ℝ := 1 / (Q : ℝ)
    let Xa := forwardR (4 * Q) 120 windowR (fun j => x (s + z + j)) scale
    let Xb := forwardR (4 * Q) 120 windowR (fun j => x (s + 2 * Q + z + j)) scale
    let bufA := backwardR (4 * Q) 120 windowR Xa old0
    let bufB := backwardR (4 * Q) 120 windowR Xb (fun i => bufA (2 * Q + i))
    |bufB t - x (s + 2 * Q + z + t)| ≤ 1 / 2 ^ 23 * |x (s + 2 * Q + z + t)| :=
  celt_code_tdac_window Q hQ x old0 s t ht

example : overlap = 120 ∧ mdctN = 1920 ∧ mdctMaxShift = 3 := by decide

end OpusProps.C04
