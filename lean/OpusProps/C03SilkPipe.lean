import OpusProofs.SilkPipe
import OpusProofs.SilkCoreBridge
/-
  OpusProps.C03SilkPipe — property C03, slice SilkPipe: `Opus.SilkPipe.silkOnlyDecode`, ONE function from packet bytes to int16 PCM
  for SILK-only mono loss-free streams, tied sample for sample to the public `opus_decode` (harness/c03_silkpipe.c).
-/
namespace OpusProps.C03SilkPipe
open Opus Opus.SilkCore Opus.SilkPipe Opus.SilkCoreProofs Opus.SilkPipeProofs

/-- `silk_only_pipeline_is_composition`: the pipeline is literally parse ∘ symbols ∘ frameGood ∘ buffer ∘ resample.  (1) `silkOnlyDecode`
    is the TOC test, then `SilkSyms.decodePacket` (C03 stage 1), then `opusFrames` on its result; (2) `decodePacket` is the pre-check,
    `Framing.parseImpl` (C06) and the frame loop of the symbol layer over the parsed frame spans; (3) one `silk_Decode` call is
    `SilkCore.frameGood` (slice SilkCore) on the decoded indices and pulses, `monoBuffer`, `SilkResamp.resampler` (slice SilkResamp) —
    so every theorem of the parts applies to the corresponding stage. -/
theorem silk_only_pipeline_is_composition (apiHz nb : Nat) (S : PipeSt) (pkt : Bytes) (fr : Nat × SilkSyms.Indices × List Int) :
    (silkOnlyDecode apiHz S pkt =
      if !silkOnlyMono pkt then .err .unimplemented
      else match SilkSyms.decodePacket apiHz false false S.syms pkt with
        | .ok (some frs) => opusFrames S frs
        | .ok none => .err .unimplemented
        | .err e => .err e
        | .oob => .oob
        | .abort => .abort) ∧
    (SilkSyms.decodePacket apiHz false false S.syms pkt =
      if SilkSyms.packetPre apiHz false pkt then
        match Framing.parseImpl false pkt with
        | .ok p => SilkSyms.someRes (SilkSyms.framesLoop p.toc pkt false (SilkSyms.frameSpans p.payloadOffset p.sizes) S.syms)
        | .err e => .err e
        | .oob => .oob
        | .abort => .abort
      else .err .invalidPacket) ∧
    (silkFrameStep nb S fr =
      (frameGood { S.dec with nbSubfr := nb } (frameIn fr.1 fr.2.1 fr.2.2)).bind fun o =>
        (SilkResamp.resampler S.rs (monoBuffer S.sMid o.core.xq).2).bind fun r =>
          .ok ({ S with dec := o.st, sMid := (monoBuffer S.sMid o.core.xq).1, rs := r.1 }, r.2)) :=
  ⟨silkOnlyDecode_eq apiHz S pkt, decodePacket_eq apiHz S.syms pkt, silkFrameStep_eq nb S fr⟩

example : monoBuffer [7, 8] [1, 2, 3, 4] = ([3, 4], [8, 1, 2, 3]) := by decide

/-- A fresh decoder satisfies the combined invariant `PipeInv` (synthesis `StateOk`, resampler `Inv`, matching rates, two int16 samples
    in `sMid`), for every internal rate 8 / 12 / 16 kHz and every API rate 8 / 12 / 16 / 24 / 48 kHz. -/
theorem fresh_decoder_satisfies_invariant (fs api : Nat) (h : (fs, api) ∈ pipeConfigs) :
    ∃ S, initPipe fs api = .ok S ∧ PipeInv S ∧ S.dec.fsKHz = fs ∧ S.rs.cfg.fsOut * 1000 = api :=
  initPipe_inv fs api h

example : pipeConfigs.length = 15 ∧ (16, 48000) ∈ pipeConfigs := by decide

/-- `silk_only_pipeline_total`, PARTIAL: proved for the stages behind the symbol layer.  For EVERY state satisfying `PipeInv` and EVERY
    list of decoded frames `(condCoding, indices, pulses)` satisfying `FrameOk` (which is what `silk_decode_indices` delivers for every
    range-decoder state, `OpusProps.C03SilkCore.symbol_layer_delivers_frame_ok`, with `frame_length` pulses): synthesis → buffering →
    resampling of all frames is total, returns exactly `frame_count * frame_duration * Fs_API` samples (`5 * nb_subfr` ms each at
    `Fs_out_kHz`), all int16, preserves the invariant, the internal rate and the resampler configuration.
    MISSING for the full statement from bytes: that for every byte string the parser accepts as a SILK-only mono packet the event list of
    `SilkSyms.decodePacket` contains, per Opus frame, exactly `nFramesPerPacket` normally decoded `(indices, pulses)` pairs with
    `frame_length` pulses each, every pair produced by `decodeIndices` / `decodePulses` (a structural lemma about `framesOfEvs ∘ silkCalls`),
    and the lifting of this theorem over `opusFrames` / `runPackets` (list inductions of the same shape as the one proved here). -/
theorem silk_only_pipeline_total_partial (nb : Nat) (hnb : nb = 2 ∨ nb = 4) (frs : List (Nat × SilkSyms.Indices × List Int))
    (S : PipeSt) (hI : PipeInv S) (hf : ∀ fr ∈ frs, FrameOk S.dec.fsKHz nb (frameIn fr.1 fr.2.1 fr.2.2)) :
    ∃ S' pcm, silkFrames nb S frs = .ok (S', pcm) ∧ PipeInv S' ∧ S'.dec.fsKHz = S.dec.fsKHz ∧ S'.rs.cfg = S.rs.cfg ∧
      pcm.length = frs.length * ((5 * nb) * S.rs.cfg.fsOut) ∧ ∀ x ∈ pcm, -32768 ≤ x ∧ x ≤ 32767 := by
  obtain ⟨S', pcm, h, I', f, c, l, x⟩ := silkFrames_total nb hnb frs S hI hf
  exact ⟨S', pcm, h, I', f, c, by rw [l, outLen_frame S hI hnb], x⟩

example : ∃ S, initPipe 16 48000 = .ok S ∧ PipeInv S :=
  (initPipe_inv 16 48000 (by decide)).imp fun _ h => ⟨h.1, h.2.1⟩

/-- One Opus frame of the class (`OpusFrameOk`: SILK, mono, normally decoded, no redundancy, the state's internal rate, 10 / 20 / 40 / 60 ms,
    every normally decoded `(indices, pulses)` pair of its event list satisfying `FrameOk`): `opusFrame` is total, returns
    `(number of SILK frames) * 5 * nb_subfr * Fs_out_kHz` int16 samples and preserves the invariant and the configuration. -/
theorem opus_frame_total (S : PipeSt) (off : Nat) (o : SilkSyms.FrameOut) (nb : Nat) (hI : PipeInv S) (h : OpusFrameOk S o nb) :
    ∃ S' pcm, opusFrame S (.silk off o) = .ok (S', pcm) ∧ PipeInv S' ∧ S'.dec.fsKHz = S.dec.fsKHz ∧ S'.rs.cfg = S.rs.cfg ∧
      pcm.length = (framesOfEvs o.evs).length * ((5 * nb) * S.rs.cfg.fsOut) ∧ ∀ x ∈ pcm, -32768 ≤ x ∧ x ≤ 32767 := by
  obtain ⟨nfpp, hsh⟩ := h.shape
  obtain ⟨S1, pcm, h1, I1, f1, c1, l1, x1⟩ := silkFrames_total nb h.nbOk (framesOfEvs o.evs) S hI h.frames
  rw [outLen_frame S hI h.nbOk] at l1
  simp only [opusFrame]
  rw [if_neg (by rw [h.red, h.mono, h.normal, h.rate]; simp)]
  simp only [hsh, h1]
  exact ⟨_, _, rfl, { dec := I1.dec, rs := I1.rs, rate := I1.rate, midLen := I1.midLen, mid16 := I1.mid16 }, f1, c1, l1, x1⟩

example : SilkSyms.packetShape 60 = .ok (3, 4) ∧ framesOfEvs [] = [] := by decide

/-- The record the pipeline feeds to the synthesis is the one of `OpusProps.C03SilkCore.symbol_layer_delivers_frame_ok`: for every
    range-decoder state the frame built from `decodeIndices`' output and `frame_length` pulses satisfies `FrameOk`. -/
theorem pipeline_frames_are_frame_ok (rate : SilkSyms.Rate) (nb : Nat) (hnb : nb = 2 ∨ nb = 4) (vadOrLbrr : Bool) (cc ps : Nat) (pl : Int)
    (c : RangeCoder.Dec) (ix : SilkSyms.Indices) (c' : RangeCoder.Dec)
    (h : SilkSyms.decodeIndices rate nb vadOrLbrr cc ps pl c = (ix, c')) (cond : Nat) (pulses : List Int)
    (hp : frameLen rate.kHz nb ≤ pulses.length) : FrameOk rate.kHz nb (frameIn cond ix pulses) :=
  frameOk_of_indicesOk (SilkSymsProofs.decodeIndices_ok rate nb (by omega) vadOrLbrr cc ps pl c ix c' h) hnb (cond : Int) pulses hp

example (c : RangeCoder.Dec) : ∃ ix c', SilkSyms.decodeIndices .nb 2 true 0 0 0 c = (ix, c') :=
  ⟨(SilkSyms.decodeIndices .nb 2 true 0 0 0 c).1, (SilkSyms.decodeIndices .nb 2 true 0 0 0 c).2, (Prod.eta _).symm⟩

end OpusProps.C03SilkPipe
