import OpusProofs.CeltCallees2
import OpusModel.CeltIdxCalls
/-
  C01 (decoding is total and memory-safe) — index-safety bridge into the CELT decoder interior:
  the extent contracts the bridge (`Opus.CeltIdx.Call.accs`) assumes for `clt_mdct_backward_c` (with
  `opus_fft_impl` and `kf_bfly2/3/4/5`), `denormalise_bands` and `pitch_search` (with `find_best_pitch`,
  `celt_pitch_xcorr_c`, `xcorr_kernel_c`, `celt_inner_prod_c`) are discharged from index models of the C reference code
  (`OpusModel/CeltCallees2.lean`: which element of which array every loop touches; hand transcription, file:line cited)
  on the regenerated tables of the static 48 kHz mode (`Gen.CeltFft`).  `InB B h`: hit `h` lies inside the inclusive bounds
  `B` gives for its array; an array with bounds `(1, 0)` must not be touched.  The hit lists are plain structurally
  recursive functions of the arguments (no fuel except the bound `MAXFACTORS + 1` of the factor walk, whose overrun is
  itself an out-of-range hit), so "every hit is inside" is also "the loops terminate".
-/
namespace OpusProps.C01CeltCallees2
open Opus.CeltCallees2 Opus.Gen.CeltFft

/-- **fft_bitrev_permutation.**  The bit-reversal table of each of the four FFT states of the static mode has exactly
    `nfft` entries, every entry lies in `[0, nfft)` and every value of `[0, nfft)` occurs (with `nfft` entries for `nfft` values none can
    then occur twice; that counting step is not part of the statement): the
    pre-rotation of `clt_mdct_backward_c` (mdct.c:299-308, `yp[2*rev+1]`, `yp[2*rev]`) writes every complex element of the
    FFT buffer exactly once and nothing else.  Checked by the kernel over the COMPLETE regenerated tables. -/
theorem fft_bitrev_permutation :
    ∀ s : Int, 0 ≤ s → s ≤ 3 →
      ((kfft s).bitrev.length : Int) = (kfft s).nfft ∧ (∀ x ∈ (kfft s).bitrev, 0 ≤ x ∧ x < (kfft s).nfft) ∧
      (∀ k : Nat, (k : Int) < (kfft s).nfft → (k : Int) ∈ (kfft s).bitrev) ∧ 4 * (kfft s).nfft = mdctNs s := by
  intro s h0 h3
  obtain ⟨k, rfl⟩ := shift_cases h0 h3
  obtain ⟨hN, hn, _⟩ := mdct_sizes k
  obtain ⟨a, b, c⟩ := isPerm_spec (by omega) (bitrev_perm k)
  exact ⟨a, b, c, hN.symm⟩

/-- Non-vacuity: the tables are not the identity — entry 1 of the 480-point table is 96, entry 479 is 479. -/
example : (kfft 0).bitrev.getD 1 0 = 96 ∧ (kfft 0).bitrev.getD 479 0 = 479 ∧ (kfft 3).bitrev.getD 1 0 = 12 := by decide

/-- **fft_butterflies_in_bounds.**  `opus_fft_impl` on each of the four states: the factor walk (kiss_fft.c:571-577) ends
    inside `factors[2*MAXFACTORS]` and the local `fstride[MAXFACTORS]`, and every element the butterfly stages touch —
    `Fout[i*mm + j + k*m]`, `twiddles[k*j*fstride]`, `twiddles[fstride*m]`, `twiddles[fstride*2*m]` — is inside
    `fout[0 .. nfft)` resp. the shared twiddle table `[0 .. 480)`: the strides never step outside.  Moreover every stage has
    radix 2, 3, 4 or 5 and `m ≥ 1` (`kf_bfly3`'s `do … while(--k)` terminates), the factor walk's `do … while (m != 1)` ends by
    its own condition (the first stage executed has `m = 1`; no fuel involved), every radix-2 stage has `m = 4`
    (`celt_assert(m==4)` of `kf_bfly2`), and every stage tiles `[0, nfft)` completely (`N*p*m = nfft`, `mm = p*m`).
    The factor walk and the table reads of the stages by kernel evaluation, the butterflies by
    `fft_butterfly_strides_general` below (every stage of the four factor lists is `StageSafe`). -/
theorem fft_butterflies_in_bounds :
    ∀ s : Int, 0 ≤ s → s ≤ 3 →
      All (InB (fftB (kfft s).nfft)) (fftImplHits (kfft s)) ∧ stagesOk (kfft s) = true ∧ stagesTile (kfft s) = true := by
  intro s h0 h3
  obtain ⟨k, rfl⟩ := shift_cases h0 h3
  exact ⟨fft_in k, stages_ok k, stages_tile k⟩

/-- Non-vacuity / tightness: the 480-point FFT has five stages (radices 4, 2, 4, 3, 5 in execution order), touches
    `fout[479]` and `twiddles[380]` (`tw[4*u*fstride]`, `u = 95`, of the radix-5 stage), and the 60-point one reaches
    `twiddles[352]` (`4·11·8`). -/
example : (stagesOf (kfft 0)).map (·.p) = [4, 2, 4, 3, 5] ∧ touches (fftImplHits (kfft 0)) .fout 479 = true ∧
    touches (fftImplHits (kfft 0)) .tw 380 = true ∧ touches (fftImplHits (kfft 3)) .tw 352 = true := by decide +kernel

/-- **fft_butterfly_strides_general.**  The same fact structurally, for ARBITRARY stage parameters: whenever a stage
    `(p, m, N = fstride[i], mm, fstride << shift)` satisfies the arithmetic condition `StageSafe` — `m ≥ 1`, `N ≥ 1`, the last
    group ends inside `nfft` (`(N−1)*mm + p*m ≤ nfft`; `8N ≤ nfft` for radix 2 and `4N ≤ nfft` for radix 4 with `m = 1`, whose
    loops advance `Fout` by a constant), the largest twiddle index `(p−1)*(m−1)*fstride` resp. `m*fstride`, `2*m*fstride` is
    below the table length — every element `kf_bfly2/3/4/5` touch is inside `fout[0 .. nfft)` and `twiddles[0 .. twLen)`; and
    every stage of the four regenerated factor lists satisfies the condition with `twLen = 480`. -/
theorem fft_butterfly_strides_general :
    (∀ (s : Stage) (nfft twLen : Int), StageSafe s nfft twLen → All (InB (bflyB nfft twLen)) (bflyHits s)) ∧
    (∀ s : Fin 4, ∀ g ∈ stagesOf (kfft s.val), StageSafe g (kfft s.val).nfft twiddleLen) :=
  ⟨bfly_in, stages_safe⟩

/-- Non-vacuity / sharpness: the radix-5 stage of the 480-point FFT is safe with `nfft = 480` but not with 479, and its
    twiddle reach is sharp (`4·95·1 = 380`: safe with a 381-entry table, not with 380). -/
example : StageSafe ⟨0, 5, 96, 1, 1, 1⟩ 480 381 ∧ ¬ StageSafe ⟨0, 5, 96, 1, 1, 1⟩ 479 480 ∧ ¬ StageSafe ⟨0, 5, 96, 1, 1, 1⟩ 480 380 ∧
    (stagesOf (kfft 0)).getLast? = some ⟨0, 5, 96, 1, 1, 1⟩ := by decide

/-- **mdct_backward_in_contract.**  `clt_mdct_backward_c(l, in, out, window, overlap, shift, stride)` on the static mode,
    for EVERY shift `0 .. 3`, EVERY `stride ≥ 0` and EVERY `overlap ≥ 0` with `overlap − overlap/2 ≤ N/2`
    (`N = 1920 >> shift`): every element touched — pre-rotation through the bit-reversal table, the FFT in place in
    `out + overlap/2`, post-rotation from both ends, TDAC mirror — is inside `in[0 .. stride*(N/2−1)]`,
    `out[0 .. overlap/2 + N/2)`, `window[0 .. overlap)`, `trig[0 .. 1800)`, `bitrev[0 .. N/4)`, `twiddles[0 .. 480)`,
    `factors[0 .. 16)`, `fstride[0 .. 8)`. -/
theorem mdct_backward_in_contract (shift stride ov : Int) (hsh : 0 ≤ shift ∧ shift ≤ 3) (hs : 0 ≤ stride) (ho0 : 0 ≤ ov)
    (ho1 : ov - ov / 2 ≤ mdctNs shift / 2) : All (InB (mdctB (mdctNs shift) stride ov)) (mdctHits shift stride ov) := by
  unfold mdctHits
  obtain ⟨k, rfl⟩ := shift_cases hsh.1 hsh.2
  obtain ⟨hN, hn, ht0, ht1⟩ := mdct_sizes k
  exact mdctAt_in _ _ _ _ _ hN hn (bitrev_perm k) (fft_in k) ht0 ht1 hs ho0 ho1

open Opus.CeltIdx in
/-- The bounds are the bridge's contract (`Call.accs`), read off at pointer offset 0: with `n2 = N/2` the four accesses of
    `Call.mdct` are `in[0 .. stride*(n2−1)]` and three intervals of `out` whose union is `mdctB … .out` when
    `overlap − overlap/2 ≤ n2`; and the decoder's arguments (`overlap = 120`, `n2 = 120 << LM` resp. `120`, celt_decoder.c
    :417-440) satisfy the side conditions. -/
example (shift stride : Int) (hsh : 0 ≤ shift ∧ shift ≤ 3) :
    (Call.mdct ⟨.freq, 0⟩ stride ⟨.mem 0, 0⟩ (mdctNs shift / 2) 120).accs.map (fun a => (a.ext.lo, a.ext.hi)) =
      [mdctB (mdctNs shift) stride 120 .inp, (60, (mdctB (mdctNs shift) stride 120 .out).2), (0, 119), (0, 119)] ∧
    (120 : Int) - 120 / 2 ≤ mdctNs shift / 2 ∧ (120 : Int) = mdctOverlap ∧ mdctOverlap ≤ windowLen := by
  have h : shift = 0 ∨ shift = 1 ∨ shift = 2 ∨ shift = 3 := by omega
  rcases h with rfl | rfl | rfl | rfl <;> simp [Call.accs, rd, wr, mdctB] <;> decide

/-- Non-vacuity / tightness at the decoder's arguments: the model reaches both ends of the contract — shift 3, stride 8
    (eight short blocks) touches `in[0]` and `in[8*119]`, `out[0]` and `out[179]`, `window[119]` and `trig[1799]`, the last
    element of the table; shift 1 touches `out[539]` and `trig[960]`. -/
example : touches (mdctHits 3 8 120) .inp 0 = true ∧ touches (mdctHits 3 8 120) .inp 952 = true ∧
    touches (mdctHits 3 8 120) .out 0 = true ∧ touches (mdctHits 3 8 120) .out 179 = true ∧
    touches (mdctHits 3 8 120) .win 119 = true ∧ touches (mdctHits 3 8 120) .trig 1799 = true ∧
    touches (mdctHits 1 1 120) .out 539 = true ∧ touches (mdctHits 1 1 120) .trig 960 = true := by decide +kernel

/-- **denormalise_in_contract.**  `denormalise_bands(m, X, freq, bandLogE, start, end, M, downsample, silence)` on the
    static mode's `eBands`, for EVERY `M ≥ 1` (the decoder: `1 << LM`), EVERY `0 ≤ start ≤ end ≤ nbEBands`, EVERY
    `downsample ≥ 1` and both values of `silence`: every element touched is inside `X[0 .. N)`, `freq[0 .. N)`
    (`N = M*shortMdctSize`; the bridge's contract), `bandLogE[0 .. nbEBands)`, `eBands[0 .. nbEBands]`, `eMeans[0 .. 25)`.
    The running pointers `f`, `x` are carried from band to band as in the C code; the `do … while` per band runs at
    least once whatever the table says, and the final `OPUS_CLEAR(&freq[bound], N-bound)` never has a negative size. -/
theorem denormalise_in_contract (start end_ M ds : Int) (silence : Bool) (hM : 1 ≤ M) (hs : 0 ≤ start)
    (hse : start ≤ end_) (he : end_ ≤ nbEBands) (hds : 1 ≤ ds) :
    All (InB (denormB M)) (denormHits start end_ M ds silence) :=
  denorm_in start end_ M ds silence hM hs hse he hds

open Opus.CeltIdx in
/-- The bounds are the bridge's contract (`Call.denorm x freq N`: `X[0 .. N)` read, `freq[0 .. N)` written). -/
example (M : Int) :
    (Call.denorm ⟨.X, 0⟩ ⟨.freq, 0⟩ (M * shortMdctSize)).accs.map (fun a => (a.ext.lo, a.ext.hi)) = [denormB M .X, denormB M .freq] := by
  simp [Call.accs, rd, wr, denormB]

/-- Non-vacuity / tightness: a 20 ms frame (`M = 8`), bands 0 .. 21: `freq[0]` and `freq[959]` written, `X[799]` read;
    hybrid start band 17 with downsampling by 2: `X[320]` is the first element read; with `silence` `X` is not touched at
    all and `freq[959]` is still written. -/
example : touches (denormHits 0 21 8 1 false) .freq 0 = true ∧ touches (denormHits 0 21 8 1 false) .freq 959 = true ∧
    touches (denormHits 0 21 8 1 false) .X 799 = true ∧ touches (denormHits 17 21 8 2 false) .X 320 = true ∧
    touches (denormHits 17 21 8 2 false) .X 319 = false ∧ touches (denormHits 17 21 8 2 false) .freq 959 = true ∧
    (denormHits 17 21 8 2 true).all (fun h => h.arr != .X) = true ∧ touches (denormHits 17 21 8 2 true) .freq 959 = true := by
  decide +kernel

/-- **pitch_search_in_contract.**  `pitch_search(x_lp, y, len, max_pitch, &pitch)`, for EVERY `len ≥ 12` (the coarse
    `xcorr_kernel` asserts `len>>2 ≥ 3`), EVERY `max_pitch ≥ 0` and ARBITRARY (data-dependent) results `bA`, `bB`, `b0` of
    the two `find_best_pitch` calls: every element touched is inside `x_lp[0 .. len/2)`, `y[0 .. len/2 + max_pitch/2)` (the
    bridge's contract), the `ALLOC`ed `x_lp4[len>>2]`, `y_lp4[(len+max_pitch)>>2]`, `xcorr[max_pitch>>1]` and the local
    `best_pitch[2]`. -/
theorem pitch_search_in_contract (len maxp bA bB b0 : Int) (hl : 12 ≤ len) (hm : 0 ≤ maxp) :
    All (InB (psearchB len maxp)) (psearchHits len maxp bA bB b0) := by
  unfold psearchHits pitchXcorr findBestPitch xcorrKernel innerProd
  repeat' first
    | hits_step
    | (with_reducible apply all_ite <;> intro _)
  all_goals (simp only [InB, psearchB]; omega)

open Opus.CeltIdx Opus.Gen.CeltIdxConsts in
/-- The bounds are the bridge's contract, and celt_plc_pitch_search (celt_decoder.c:491-505) passes
    `len = DECODE_BUFFER_SIZE − PLC_PITCH_LAG_MAX = 1328`, `max_pitch = PLC_PITCH_LAG_MAX − PLC_PITCH_LAG_MIN = 620`. -/
example (len maxp : Int) :
    (Call.psearch ⟨.lpbuf, 0⟩ ⟨.lpbuf, 0⟩ len maxp).accs.map (fun a => (a.ext.lo, a.ext.hi)) = [psearchB len maxp .xlp, psearchB len maxp .y] ∧
    (12 : Int) ≤ DECODE_BUFFER_SIZE - PLC_PITCH_LAG_MAX ∧ (0 : Int) ≤ PLC_PITCH_LAG_MAX - PLC_PITCH_LAG_MIN := by
  refine ⟨by simp [Call.accs, rd, psearchB], by decide, by decide⟩

/-- Non-vacuity / tightness (`len = 48`, `max_pitch = 24`, coarse results 5 and 4, fine result 10): the last elements
    `x_lp[23]`, `y[35]`, `x_lp4[11]`, `y_lp4[17]`, `xcorr[11]` of the contract resp. the local arrays are reached. -/
example : touches (psearchHits 48 24 5 4 10) .xlp 23 = true ∧ touches (psearchHits 48 24 5 4 10) .y 35 = true ∧
    touches (psearchHits 48 24 5 4 10) .xlp4 11 = true ∧ touches (psearchHits 48 24 5 4 10) .ylp4 17 = true ∧
    touches (psearchHits 48 24 5 4 10) .xcorr 11 = true := by decide +kernel

open Opus.CeltIdx in
/-- **contracts_at_decoder_args.**  The arguments celt_decoder.c passes satisfy the preconditions above, for EVERY legal
    frame (`LM = 0 .. 3`, `N = 120 << LM`), both values of `isTransient`, every `0 ≤ start ≤ effEnd ≤ nbEBands`, every
    `downsample ≥ 1`, both values of `silence` and arbitrary `find_best_pitch` results: celt_synthesis (:395-405) calls
    `clt_mdct_backward(…, overlap, shift, B)` with `(shift, B) = (maxLM, M)` resp. `(maxLM − LM, 1)` — and `(1920 >> shift)/2`
    is the `NB = N / B` the bridge's `mdctBlocks` puts into `Call.mdct` — and `denormalise_bands(…, start, effEnd, M,
    downsample, silence)` with `M = 1 << LM`, `N = M*shortMdctSize`; celt_plc_pitch_search (:491-505) calls
    `pitch_search(…, 2048 − 720, 720 − 100, …)`. -/
theorem contracts_at_decoder_args (N LM : Int) (hf : LegalFrame N LM) (isTransient : Bool) (start effEnd ds : Int)
    (silence : Bool) (hs : 0 ≤ start) (hse : start ≤ effEnd) (he : effEnd ≤ nbEBands) (hds : 1 ≤ ds) (bA bB b0 : Int) :
    let M : Int := 2 ^ LM.toNat
    let B : Int := if isTransient then M else 1
    let shift : Int := if isTransient then maxLM else maxLM - LM
    N = M * shortMdctSize ∧ mdctNs shift / 2 = N / B ∧
    All (InB (mdctB (mdctNs shift) B mdctOverlap)) (mdctHits shift B mdctOverlap) ∧
    All (InB (denormB M)) (denormHits start effEnd M ds silence) ∧
    All (InB (psearchB (2048 - 720) (720 - 100))) (psearchHits (2048 - 720) (720 - 100) bA bB b0) := by
  obtain ⟨h0, h1, h2⟩ := hf
  have hm : Opus.Gen.CeltIdxConsts.maxLM = 3 := rfl
  have hm' : maxLM = 3 := rfl
  have : LM = 0 ∨ LM = 1 ∨ LM = 2 ∨ LM = 3 := by omega
  rcases this with rfl | rfl | rfl | rfl <;> cases isTransient <;>
    refine ⟨by rw [h2]; decide, by rw [h2]; decide, mdct_backward_in_contract _ _ _ (by decide) (by decide) (by decide) (by decide),
      denorm_in _ _ _ _ _ (by decide) hs hse he hds, pitch_search_in_contract _ _ _ _ _ (by decide) (by decide)⟩

open Opus.CeltIdx Opus.Gen.CeltIdxConsts in
/-- Non-vacuity: 20 ms frames are legal, and the constants are the bridge's (`pitchSearchCalls`). -/
example : LegalFrame 960 3 ∧ LegalFrame 120 0 ∧ (2048 - 720 : Int) = DECODE_BUFFER_SIZE - PLC_PITCH_LAG_MAX ∧
    (720 - 100 : Int) = PLC_PITCH_LAG_MAX - PLC_PITCH_LAG_MIN ∧ mdctOverlap = overlap := by decide

end OpusProps.C01CeltCallees2
