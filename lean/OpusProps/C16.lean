import OpusProofs.ExtRepFinal
import OpusProofs.ExtRanges
/-
  Property C16 — "Packet extensions round-trip through generate, parse and repacketize".

  Model:  `Opus.Ext` (OpusModel/Ext.lean), a transcription of src/extensions.c:
          `next` (+ `repeatBody`/`repeatPhase`/`mainBody`/`mainLoop`) = opus_extension_iterator_next,
          `count`/`countExt`/`parse`/`parseExt`/`find`, and
          `generate dry len exts nb_frames pad` = opus_packet_extensions_generate (`dry`: data == NULL),
          written as `runOps dry len (genOps exts nb_frames).ops` (+ final padding): `genOps` emits the
          buffer checks and writes of the C function in program order, `runOps` executes them.
  Every theorem quantifies over ALL byte strings / ALL extension arrays (no bound on sizes).
-/
namespace OpusProps.C16
open Opus Opus.Ext Opus.ExtProofs

/-- **iter_safe.**  On ARBITRARY padding bytes `d` and for every iterator state a caller can reach
    (`init`, then any sequence of `next` / `reset` / `set_frame_max`), `opus_extension_iterator_next`
    returns normally — it reads no byte outside `d` (model outcome `.oob`), none of its
    `celt_assert`s (extensions.c:174, :192, :242) fires (`.abort`) — and an extension it reports has
    `3 ≤ id ≤ 127`, belongs to an existing frame and has its payload slice inside the buffer.
    NOTE: for `nbFrames > 48` (or a negative count) `Reach d nbFrames` is empty — `iterInit` is the model's
    `celt_assert(nb_frames >= 0 && nb_frames <= 48)` and aborts there — so the statement is vacuous for such
    `nbFrames`; harmless, the C function must not be called that way (its callers pass at most 48). -/
theorem iter_safe (d : Bytes) (hb : BytesOk d) (nbFrames : Nat) (it : Iter) (hr : Reach d nbFrames it) :
    ∃ it' s, next it = .ok (it', s) ∧
      ∀ e, s = .ext e →
        3 ≤ e.id ∧ e.id ≤ 127 ∧ e.frame < nbFrames ∧ 0 ≤ e.len ∧ (e.off : Int) + e.len ≤ d.length := by
  obtain ⟨hI, _, hlen, hnf, _⟩ := hr.reached hb
  obtain ⟨it', s, h1, hk, h4⟩ := next_keeps hI
  refine ⟨it', s, h1, fun e he => ?_⟩
  subst he
  exact ExtOk.bounds h4.1 (hk.same.2.1.trans hlen) (hk.same.2.2.1.trans hnf)

/-- **iter_safe (termination).**  `next` itself is a total function (its loops and its recursive call
    are defined by well-founded recursion, no fuel); and every caller loop
    `while (opus_extension_iterator_next(&it, …) > 0)` terminates on arbitrary bytes: the step relation
    "`next` reported an extension" is well-founded. -/
theorem iter_terminates : WellFounded (fun it' it : Iter => ∃ e, next it = .ok (it', .ext e)) :=
  next_wf

/-- **count_parse_agree.**  On ARBITRARY bytes and any frame count ≤ 48, with `l` = the extensions
    that plain iteration yields and `s` its final return (`done` = 0 / `invalid` = OPUS_INVALID_PACKET):
    every reported extension is in bounds; `count` = `count_ext` total = Σ per-frame counts = |l|, the
    per-frame counts are the true ones; `parse` with enough room returns exactly `l` — or fails with
    INVALID_PACKET **iff** iteration ended in INVALID_PACKET — and with too little room returns
    BUFFER_TOO_SMALL. -/
theorem count_parse_agree (d : Bytes) (hb : BytesOk d) (nbFrames : Nat) (hnf : nbFrames ≤ 48) :
    ∃ (it : Iter) (l : List ExtRef) (s : Step),
      iterInit d d.length nbFrames = .ok it ∧ iterAll it = .ok (l, s) ∧ (s = .done ∨ s = .invalid) ∧
      (∀ e ∈ l, 3 ≤ e.id ∧ e.id ≤ 127 ∧ e.frame < nbFrames ∧ 0 ≤ e.len ∧ (e.off : Int) + e.len ≤ d.length) ∧
      count d d.length nbFrames = .ok l.length ∧
      countExt d d.length nbFrames = .ok (l.length, (List.range nbFrames).map (frameCount l)) ∧
      sumN ((List.range nbFrames).map (frameCount l)) = l.length ∧
      (∀ cap : Int, (l.length : Int) ≤ cap →
        parse d d.length cap nbFrames = if s = .done then .ok l else .err .invalidPacket) ∧
      (∀ cap : Int, 0 ≤ cap → cap < l.length → parse d d.length cap nbFrames = .err .bufferTooSmall) :=
  scan_agree d hb nbFrames hnf

/-- **find_spec.**  `opus_extension_iterator_find(iter, ext, id)` from any reachable state: with `l` the extensions
    plain iteration (`next` until it returns `≤ 0`) would report from this state on and `s` its final return value
    (`0` or `OPUS_INVALID_PACKET`), `find` returns the FIRST entry of `l` whose ID is `id` and leaves the iterator
    exactly where iteration would continue (the remaining entries `post` are what `next` reports afterwards); if no
    entry has that ID it returns `s`.  It always returns normally (no out-of-bounds read, no assertion: the state
    stays reachable, so `iter_safe` applies to every `next` it performs) and terminates (`find` is total, its
    recursion is the well-founded step relation of `iter_terminates`). -/
theorem find_spec (d : Bytes) (hb : BytesOk d) (nbFrames : Nat) (it : Iter) (hr : Reach d nbFrames it) (id : Int) :
    ∃ l s, iterAll it = .ok (l, s) ∧ (s = .done ∨ s = .invalid) ∧
      (∀ pre e post, l = pre ++ e :: post → (∀ x ∈ pre, (x.id : Int) ≠ id) → (e.id : Int) = id →
        ∃ it', find it id = .ok (it', .ext e) ∧ Reach d nbFrames it' ∧ iterAll it' = .ok (post, s)) ∧
      ((∀ x ∈ l, (x.id : Int) ≠ id) → ∃ it', find it id = .ok (it', s) ∧ Reach d nbFrames it') := by
  obtain ⟨l, s, h1, h2, _⟩ := iterAll_inv it (hr.reached hb).inv
  obtain ⟨h3, h4⟩ := find_iterAll (Reach d nbFrames) (fun _ _ _ hp hn => .next hp hn) id it l s h1 hr
  exact ⟨l, s, h1, h2, h3, h4⟩

/-- **count_parse_agree (frame order).**  `parse_ext`, given the per-frame counts that `count_ext`
    reports and room for all extensions, returns the stable sort by frame of what `parse` returns
    (`sortByFrame l n` = the extensions of frame 0 in bitstream order, then those of frame 1, …), every
    slot filled — or INVALID_PACKET iff iteration ends in INVALID_PACKET; its assertion
    `idx < nb_frames_cum[ext.frame+1]` (extensions.c:401) never fires. -/
theorem parse_ext_stable_sort (d : Bytes) (hb : BytesOk d) (nbFrames : Nat) (hnf : nbFrames ≤ 48) :
    ∃ (it : Iter) (l : List ExtRef) (s : Step) (counts : List Nat),
      iterInit d d.length nbFrames = .ok it ∧ iterAll it = .ok (l, s) ∧
      countExt d d.length nbFrames = .ok (l.length, counts) ∧
      ∀ cap : Int, (l.length : Int) ≤ cap →
        parseExt d d.length cap (counts.map Int.ofNat) nbFrames =
          if s = .done then .ok ((sortByFrame l nbFrames).map some) else .err .invalidPacket := by
  obtain ⟨it, l, s, hit, hall, _, hext, _, hcx, _, _, _⟩ := scan_agree d hb nbFrames hnf
  refine ⟨it, l, s, _, hit, hall, hcx, ?_⟩
  intro cap hcap
  have := parseExt_sorted d nbFrames hnf it l s hit hall (fun e he => (hext e he).2.2.1) cap hcap
  rw [List.map_map]
  exact this

/-- **generate_size (dry run = written size).**  For every extension array whose payload pointers
    supply `len` bytes, every `len`, `nb_frames`, `pad`: the dry run (`data == NULL`) returns exactly
    what the writing run returns — the same size, or the same error. -/
theorem generate_dry_eq_written (len : Int) (exts : Array Ext) (nbFrames : Int) (pad : Bool) (hE : ExtsOk exts) :
    generateDry len exts nbFrames pad = resSize (generate false len exts nbFrames pad) :=
  ExtProofs.generate_dry_eq_written len exts nbFrames pad hE

/-- **generate_size (exact size suffices, smaller refused).**  If an unpadded run (dry or not, any
    `len`) returns `out`, then a buffer of exactly `out.size` bytes succeeds in both modes, with or
    without the padding request, and yields the same bytes; every smaller buffer is refused with
    `OPUS_BUFFER_TOO_SMALL`. -/
theorem generate_exact_and_smaller (dry : Bool) (len : Int) (exts : Array Ext) (nbFrames : Int) (out : Array Nat)
    (hE : ExtsOk exts) (h : generate dry len exts nbFrames false = .ok out) :
    (∀ dry' pad', ∃ out', generate dry' out.size exts nbFrames pad' = .ok out' ∧ out'.size = out.size ∧
        (dry' = dry → out' = out)) ∧
    (∀ (m : Int) dry' pad', 0 ≤ m → m < out.size → generate dry' m exts nbFrames pad' = .err .bufferTooSmall) :=
  ExtProofs.generate_exact_and_smaller hE h

/-- **generate_size (no write outside the buffer).**  Whatever the outcome (success,
    BUFFER_TOO_SMALL, BAD_ARG …), the write log of the run — the buffer at the moment the function
    stops — never exceeds `len` bytes, i.e. nothing is written at an index `≥ len`; and a returned
    buffer (padded or not) has at most `len` bytes. -/
theorem generate_within (dry : Bool) (len : Int) (exts : Array Ext) (nbFrames : Nat) (pad : Bool)
    (hE : ExtsOk exts) (hl : 0 ≤ len) :
    ((runOpsLog dry len (genOps exts nbFrames).ops #[]).size : Int) ≤ len ∧
    (∀ out, runOps dry len (genOps exts nbFrames).ops #[] = .ok out →
        runOpsLog dry len (genOps exts nbFrames).ops #[] = out) ∧
    (∀ out, generate dry len exts nbFrames pad = .ok out → (out.size : Int) ≤ len) :=
  ⟨generate_log_within dry len exts nbFrames hE hl, fun out h => runOpsLog_ok dry len _ _ out h,
   fun _ h => generate_size_le hE h⟩

/-- **generate_size (argument validation).**  More than 48 frames, or any extension with an ID outside
    3..127 or a frame index outside `0..nb_frames-1`, gives `OPUS_BAD_ARG` and no buffer action at all;
    conversely a successful call implies all IDs and frame indices are valid. -/
theorem generate_bad_arg (dry : Bool) (len : Int) (exts : Array Ext) (nbFrames : Int) (pad : Bool)
    (hl : 0 ≤ len) (hn0 : 0 ≤ nbFrames) :
    ((48 < nbFrames ∨ ∃ (j : Nat) (e : Ext), exts[j]? = some e ∧ BadIdFrame nbFrames e) →
      generate dry len exts nbFrames pad = .err .badArg ∧
      (nbFrames ≤ 48 → (genOps exts nbFrames.toNat).ops = [])) ∧
    (∀ out, generate dry len exts nbFrames pad = .ok out →
      nbFrames ≤ 48 ∧ ∀ (j : Nat) (e : Ext), exts[j]? = some e →
        0 ≤ e.frame ∧ e.frame < max nbFrames 0 ∧ 3 ≤ e.id ∧ e.id ≤ 127) :=
  ⟨fun h => generate_badArg dry len exts nbFrames pad hl (by rwa [Int.toNat_of_nonneg hn0]), fun _ h => ⟨(generate_ok_valid h).1, fun j e hj => by have := (generate_ok_valid h).2 j e hj; omega⟩⟩

/-- **generate_size (argument validation, payload length).**  IDs and frame indices valid, `nb_frames ≤ 48`,
    but SOME extension — anywhere in the array, also one that the generator would emit inside a repeat
    block — has an inadmissible payload length (`LenOk` fails: `len < 0`, or a short ID 3..31 with `len > 1`).
    Then `generate` never succeeds: it returns `OPUS_BAD_ARG`, unless one of the buffer checks executed on the
    way to that extension fails first, which gives `OPUS_BUFFER_TOO_SMALL` exactly as in C (the checks and
    writes of the C function are the list `(genOps exts nbF).ops`; `needsPass` = "every check passes").  When
    the buffer passes those checks (in particular for any `len` at least `req …`, the largest offset a check
    asks for) the result is exactly `OPUS_BAD_ARG`.  What was written before the error stays inside the
    buffer: the write log of the run has at most `len` bytes. -/
theorem generate_bad_len (dry : Bool) (len : Int) (exts : Array Ext) (nbF : Nat) (pad : Bool) (hl : 0 ≤ len)
    (hnf : nbF ≤ 48) (hv : AllIF exts nbF) (hD : ExtsOk exts)
    (hB : ∃ (j : Nat) (e : Ext), exts[j]? = some e ∧ ¬ LenOk e) :
    generate dry len exts nbF pad =
      (if needsPass len 0 (genOps exts nbF).ops then .err .badArg else .err .bufferTooSmall) ∧
    (req (genOps exts nbF).ops ≤ len → generate dry len exts nbF pad = .err .badArg) ∧
    (∀ out, generate dry len exts nbF pad ≠ .ok out) ∧
    ((runOpsLog dry len (genOps exts nbF).ops #[]).size : Int) ≤ len := by
  have h1 : generate dry len exts nbF pad =
      (if needsPass len 0 (genOps exts nbF).ops then .err .badArg else .err .bufferTooSmall) := by
    rw [generate_eq dry len exts nbF pad hD hl (by omega)]
    simp only [Int.toNat_natCast, (genOps_gen exts nbF hnf hv hD).2 hB]
  refine ⟨h1, fun hr => by rw [h1, if_pos (needsPass_of_req len _ 0 (by simpa using hr))], ?_,
    generate_log_within dry len exts nbF hD hl⟩
  intro out ho
  rw [h1] at ho
  split at ho <;> cases ho

/-- **generate_parse (full round trip, repeat mechanism included).**  For EVERY array of valid extensions
    (IDs 3..127, frames < nb_frames ≤ 48, short IDs with 0–1 payload bytes, long IDs with any payload, any
    array order, any repeat-eligible pattern) and every sufficiently large buffer: `generate` succeeds;
    `parse` on the bytes it wrote succeeds and returns exactly one entry per extension; and, frame by
    frame, the entries are the extensions of that frame in their original order with identical IDs,
    lengths and payload bytes (`normExt e` = `e` with its payload cut to `len` bytes).
    `serAll` (OpusProofs/ExtRepSpec.lean) is the list-level description of what the generator writes:
    per frame the longest repeatable prefix, the indicator `04`/`05`, the repeated payloads of all later
    frames (last long one without length bytes when `L = 0`), the rest of the frame. -/
theorem generate_parse (exts : Array Ext) (nbF : Nat) (hnf : nbF ≤ 48) (hv : AllValid exts nbF) (len : Int)
    (hlen : ((serAll exts.size (queues exts nbF) 0 0).length : Int) ≤ len) (cap : Int) (hcap : (exts.size : Int) ≤ cap) :
    let bs := serAll exts.size (queues exts nbF) 0 0
    generate false len exts nbF false = .ok bs.toArray ∧
    ∃ refs, parse bs bs.length cap nbF = .ok refs ∧ refs.length = exts.size ∧
      refs.map (ExtRef.toExt bs) = (expAll (queues exts nbF)).map normExt ∧
      ∀ g, (refs.filter (fun r => r.frame = g)).map (ExtRef.toExt bs) = (allOf exts g).map normExt :=
  generate_parse_full exts nbF hnf hv len hlen cap hcap

/-- **generate_parse (with the padding request).**  With `pad = 1` the generator fills the buffer: the
    extension block is preceded by `01` padding bytes up to `len`; for every number `k` of such bytes (also
    what the repacketizer's padding path produces) the reader skips them — including when it replays a
    repeat block whose source region starts at the first padding byte — and reports the same extensions. -/
theorem generate_parse_padded (exts : Array Ext) (nbF : Nat) (hnf : nbF ≤ 48) (hnf0 : 0 < nbF) (hv : AllValid exts nbF) :
    (∀ len : Int, ((serAll exts.size (queues exts nbF) 0 0).length : Int) ≤ len →
      generate false len exts nbF true =
        .ok (List.replicate (len.toNat - (serAll exts.size (queues exts nbF) 0 0).length) 1 ++
              serAll exts.size (queues exts nbF) 0 0).toArray) ∧
    (∀ (k : Nat) (cap : Int), (exts.size : Int) ≤ cap →
      let x := List.replicate k 1 ++ serAll exts.size (queues exts nbF) 0 0
      ∃ refs, parse x x.length cap nbF = .ok refs ∧ refs.length = exts.size ∧
        refs.map (ExtRef.toExt x) = (expAll (queues exts nbF)).map normExt ∧
        ∀ g, (refs.filter (fun r => r.frame = g)).map (ExtRef.toExt x) = (allOf exts g).map normExt) :=
  ⟨fun len hlen => generate_serAll exts nbF hnf hv len hlen true, fun k cap hcap => parse_padded_full exts nbF hnf hnf0 hv k cap hcap⟩

/-- **generate_parse (through `parse_ext`).**  On the generated bytes `count_ext` reports the number of
    extensions, and `parse_ext` with its per-frame counts returns all of them sorted by frame, in the
    original per-frame order (`sortedFrom exts nbF 0` = stable sort of the array by frame), with
    identical payloads. -/
theorem generate_parse_ext (exts : Array Ext) (nbF : Nat) (hnf : nbF ≤ 48) (hv : AllValid exts nbF) (len : Int)
    (hlen : ((serAll exts.size (queues exts nbF) 0 0).length : Int) ≤ len) (cap : Int) (hcap : (exts.size : Int) ≤ cap) :
    let bs := serAll exts.size (queues exts nbF) 0 0
    generate false len exts nbF false = .ok bs.toArray ∧
    ∃ (counts : List Nat) (out : List ExtRef), countExt bs bs.length nbF = .ok (exts.size, counts) ∧
      parseExt bs bs.length cap (counts.map Int.ofNat) nbF = .ok (out.map some) ∧
      out.map (ExtRef.toExt bs) = (sortedFrom exts nbF 0).map normExt := by
  intro bs
  have h1 := generate_serAll exts nbF hnf hv len hlen false
  have hp := iter_padded_full exts nbF hnf hv 0 (fun h => absurd h (Nat.lt_irrefl 0)) exts.size (Int.le_refl _)
  simp only [List.replicate_zero, List.nil_append] at hp
  obtain ⟨it, refs, hit, hall, h2, h3, h4, h5⟩ := hp
  refine ⟨h1, ?_⟩
  have hfr : ∀ e ∈ refs, e.frame < nbF := by
    intro e he
    apply Decidable.byContradiction; intro hc
    have := h5 e.frame
    rw [allOf_eq_nil_of_ge hv (by omega), List.map_nil, List.map_eq_nil_iff, List.filter_eq_nil_iff] at this
    simpa using this e he
  have hnb : it.nbFrames = nbF := by obtain ⟨_, _, _, rfl⟩ := iterInit_eq.mp hit; simp
  have hcx : countExt bs bs.length nbF = .ok (refs.length, (List.range nbF).map (frameCount refs)) := by
    rw [countExt_iterAll hit hall (by rw [hnb]; exact hfr), hnb]
  have hpx := parseExt_sorted bs nbF hnf it refs .done hit hall hfr cap (by omega)
  simp only [if_true] at hpx
  refine ⟨_, sortByFrame refs nbF, by rw [← h3]; exact hcx, by rw [List.map_map]; exact hpx, ?_⟩
  rw [sortedFrom_zero, sortByFrame, List.map_flatMap, List.map_flatMap]
  exact congrArg (List.flatMap · _) (funext h5)

/-- **fixed_point.**  parse ∘ generate ∘ parse = parse: whatever bytes `x` parse successfully, generating
    from the parsed extensions and parsing the result gives, frame by frame and in order, extensions with
    the same IDs, lengths and payload bytes as the first parse. -/
theorem fixed_point (x : Bytes) (hb : BytesOk x) (nbF : Nat) (hnf : nbF ≤ 48) (cap0 : Int) (hcap0 : 0 ≤ cap0)
    (l : List ExtRef) (hp : parse x x.length cap0 nbF = .ok l) (len : Int) (cap : Int) (hcap : (l.length : Int) ≤ cap) :
    let exts := (l.map (ExtRef.toExt x)).toArray
    let bs := serAll exts.size (queues exts nbF) 0 0
    (bs.length : Int) ≤ len →
    generate false len exts nbF false = .ok bs.toArray ∧
    ∃ refs, parse bs bs.length cap nbF = .ok refs ∧ refs.length = l.length ∧
      ∀ g, (refs.filter (fun r => r.frame = g)).map (ExtRef.toExt bs) = (l.filter (fun r => r.frame = g)).map (ExtRef.toExt x) := by
  intro exts bs hlen
  obtain ⟨it, l0, s, hit, hall, hs, hext, _⟩ := scan_agree x hb nbF hnf
  obtain ⟨hI, _, _, _⟩ := iterInit_inv hb (Int.le_refl _) hit
  have hshort := iterAll_short hI hall
  have hl : l = l0 := by
    rw [parse_iterAll hit hall cap0 hcap0] at hp
    split at hp
    · cases hp
    · split at hp
      · exact (Res.ok.inj hp).symm
      · cases hp
  subst hl
  have hv : AllValid exts nbF := by
    intro j e hj
    have : e ∈ l.map (ExtRef.toExt x) := by
      have := List.mem_of_getElem? (l := (l.map (ExtRef.toExt x))) (by simpa [exts] using hj)
      exact this
    rw [List.mem_map] at this
    obtain ⟨r, hr, rfl⟩ := this
    exact (toExt_valid (hext r hr) (hshort r hr)).1
  have hsz : exts.size = l.length := by simp [exts]
  obtain ⟨h1, refs, h2, h3, _, h5⟩ := generate_parse_full exts nbF hnf hv len hlen cap (by rw [hsz]; exact hcap)
  refine ⟨h1, refs, h2, by rw [h3, hsz], ?_⟩
  intro g
  rw [h5 g]
  unfold allOf
  simp only [exts]
  rw [List.filter_map, List.map_map]
  have : (List.filter ((fun e => decide (e.frame.toNat = g)) ∘ ExtRef.toExt x) l) = l.filter (fun r => r.frame = g) := by
    apply List.filter_congr
    intro r _
    simp [toExt_frame]
  rw [this]
  apply List.map_congr_left
  intro r hr
  have hr' : r ∈ l := (List.mem_filter.mp hr).1
  exact (toExt_valid (hext r hr') (hshort r hr')).2

/-- **Reader ∘ canonical writer.**  Independently of the generator model: for every frame-ordered list
    of valid extensions, iterating/parsing its canonical serialisation (`serBytes`: separators `02` /
    `03 k`, short and long forms, 255-lacing, final `L = 0`) returns the list itself. -/
theorem parse_canonical (l : List Ext) (nbF : Nat) (hnf : nbF ≤ 48) (hv : ∀ e ∈ l, ValidExt nbF e)
    (hs : FrameSorted 0 l) (cap : Int) (hcap : (l.length : Int) ≤ cap) :
    parse (serBytes 0 l) (serBytes 0 l).length cap nbF = .ok (serRefs 0 0 l) ∧
    (serRefs 0 0 l).map (ExtRef.toExt (serBytes 0 l)) = l.map normExt :=
  parse_ser l nbF hnf hv hs cap hcap

/-- **int_ranges (iterator).**  The model computes with unbounded integers; for `len < 2^31` bytes of padding the C
    code's `opus_int32`/`int` arithmetic agrees with it:
    (1) in every state a caller can reach (`init`, then any `next`/`reset`/`set_frame_max`) all integer fields of
        `OpusExtensionIterator` — `len`, `curr_len ≥ -1`, `repeat_len`, `src_len`, `trailing_short_len` — and the
        pointer differences `curr_data - data`, `curr_data0 - repeat_data ≥ 0` lie in `opus_int32`;
        `nb_frames, repeat_frame ≤ 48`, `curr_frame ≤ 302`;
    (2) in the lacing loop of `skip_extension_payload`, called with any `len0 ≤ INT32_MAX`, after every pass
        `len ∈ [-255, len0]`, `1 ≤ header_size ≤ 2^23`, `0 ≤ bytes ≤ 2139095040` (`lacingTrace` lists these
        triples; what the model's `lacing` returns is one of them). -/
theorem int_ranges_iter (d : Bytes) (hb : BytesOk d) (hl : (d.length : Int) ≤ 2147483647) (nbFrames : Nat) :
    (∀ it, Reach d nbFrames it →
      InI32 it.len ∧ InI32 it.currLen ∧ -1 ≤ it.currLen ∧ InI32 it.repeatLen ∧ InI32 it.srcLen ∧ InI32 it.tsl ∧
      InI32 it.currData ∧ InI32 ((it.currData : Int) - it.repeatData) ∧ 0 ≤ (it.currData : Int) - it.repeatData ∧
      it.nbFrames ≤ 48 ∧ it.repeatFrame ≤ 48 ∧ it.currFrame ≤ 302) ∧
    (∀ (p : Nat) (len0 : Int), len0 ≤ 2147483647 → ∀ t ∈ lacingTrace d.toArray p len0 0 0,
      -255 ≤ t.1 ∧ t.1 ≤ len0 ∧ 1 ≤ t.2.2 ∧ t.2.2 ≤ 8388608 ∧ t.2.1 ≤ 2139095040 ∧
      InI32 t.1 ∧ InI32 t.2.1 ∧ InI32 t.2.2) ∧
    (∀ (p : Nat) (len0 : Int) (p' : Nat) (len' : Int) (bytes' hs' : Nat),
      lacing d.toArray p len0 0 0 = .ok (some (p', len', bytes', hs')) →
      (len', bytes', hs') ∈ lacingTrace d.toArray p len0 0 0) := by
  have hbb : ∀ (i x : Nat), d.toArray[i]? = some x → x < 256 := by
    intro i x hx
    simp only [List.getElem?_toArray] at hx
    exact hb x (List.mem_of_getElem? hx)
  refine ⟨fun it hr => ?_, fun p len0 h0 => lacing_ranges d.toArray hbb p len0 h0,
    fun p len0 _ _ _ _ h => lacing_mem_trace _ _ _ _ _ h⟩
  obtain ⟨h1, h2, h3, h4, h5, h6, h7, h8, h9, h10⟩ := hr.ranges hb hl
  have := (hr.reached hb).box
  unfold Box at this
  exact ⟨h1, h2, by omega, h3, h4, h5, h6, h7, h8, h9, h10⟩

/-- **int_ranges (count).**  The `int count` of `count` / `count_ext` / `parse` / `parse_ext` (and every
    `nb_frame_exts[]`, `nb_frames_cum[]` entry, which are partial sums of it) is the length of the list `l` of
    `count_parse_agree`; it is at most `nb_frames · len`.  So it fits an `int` whenever `nb_frames · len < 2^31`
    (always for `len ≤ 44 739 242`, i.e. any packet below 42 MB).  The bound is reached up to one byte
    (`int_ranges_count_tight`): for `len ≥ 2^31/48` a crafted padding makes `count` exceed `INT_MAX` — signed
    overflow in `opus_packet_extensions_count` / `_count_ext` (in `parse` the capacity test `count == *nb_extensions`
    stops the loop first). -/
theorem int_ranges_count (d : Bytes) (hb : BytesOk d) (nbFrames : Nat) (it : Iter) (l : List ExtRef) (s : Step)
    (hinit : iterInit d d.length nbFrames = .ok it) (hall : iterAll it = .ok (l, s)) :
    (l.length : Int) ≤ nbFrames * d.length ∧
    ((nbFrames : Int) * d.length ≤ 2147483647 → InI32 l.length ∧ ∀ f, InI32 (frameCount l f)) := by
  have h := iterAll_count_le d hb nbFrames hinit hall
  refine ⟨h, fun hle => ?_⟩
  have hfc : ∀ f, frameCount l f ≤ l.length := by
    intro f; unfold frameCount; exact List.length_filter_le _ _
  unfold InI32
  refine ⟨by omega, fun f => ?_⟩
  have := hfc f
  omega

/-- `k` one-byte extensions (`06` = ID 3, no payload) followed by "repeat these extensions" (`04`): `48·k`
    extensions from `k + 1` bytes (here `k = 3`: 144 extensions from 4 bytes).  Obtained through `generate_parse` on the
    144-element array, not by evaluation: the loops over `next` are well-founded recursions and do not reduce. -/
theorem int_ranges_count_tight : ∃ refs, parse [6, 6, 6, 4] 4 144 48 = .ok refs ∧ refs.length = 144 := by
  let exMany : Array Ext :=
    ((List.range 48).flatMap (fun (f : Nat) => List.replicate 3 ({ id := 3, frame := (f : Int), data := [], len := 0 } : Ext))).toArray
  have e : serAll exMany.size (queues exMany 48) 0 0 = [6, 6, 6, 4] := by decide +kernel
  obtain ⟨_, refs, h1, h2, _⟩ := generate_parse exMany 48 (by decide) (allValid_of_all _ _ (by decide +kernel)) 4
    (by rw [e]; decide) 144 (by decide +kernel)
  rw [e] at h1
  exact ⟨refs, h1, h2⟩

/-- **int_ranges (generate).**  For `len ≤ INT32_MAX`:
    (1) the position never leaves `[0, len]` (the run's write log has at most `len` bytes and a successful call
        returns at most `len`), so every `len - pos`, every `pos + k` after a passed check `len - pos < k` and the
        final `padding = len - pos`, `pos += padding` are in `opus_int32`: the RETURN VALUE IS EXACT for every
        `len < 2^31` — a list whose total size exceeds the buffer is refused by one of the checks, the total is
        never formed as a sum;
    (2) the only request that can itself overflow is `length_bytes + ext->len` of a long extension: exact for
        `ext->len ≤ 2139095039`, `2^31 + 1` at `ext->len = 2139095040` (needs a 2 GB payload);
    (3) the ID byte is a byte value for admissible lengths; for a short ID with an inadmissible `ext->len`
        (rejected in `write_extension_payload`, extensions.c:413-414) the `int` sum `2·id + len` wraps only for `ext->len > 2147483585`;
    (4) `nb_repeated = repeat_count·(nb_frames − (f+1))` and `written + nb_repeated` are at most `nb_extensions`.
    Not in the model: the write-only variable `trailing_short_len` of `generate` (`+= extensions[i].len` on
    unvalidated lengths, see NOT_COVERED in tools/props/C16.py). -/
theorem int_ranges_generate :
    (∀ (dry : Bool) (len : Int) (exts : Array Ext) (nbFrames : Nat) (pad : Bool), ExtsOk exts → 0 ≤ len → len ≤ 2147483647 →
      InI32 ((runOpsLog dry len (genOps exts nbFrames).ops #[]).size) ∧
      ((runOpsLog dry len (genOps exts nbFrames).ops #[]).size : Int) ≤ len ∧
      ∀ out, generate dry len exts nbFrames pad = .ok out → InI32 out.size ∧ (out.size : Int) ≤ len) ∧
    (∀ len pos k : Int, len ≤ 2147483647 → 0 ≤ pos → pos ≤ len → 0 ≤ k → ¬ (len - pos < k) →
      InI32 (len - pos) ∧ 0 ≤ len - pos ∧ InI32 (pos + k) ∧ 0 ≤ pos + k ∧ pos + k ≤ len ∧ InI32 (pos + (len - pos))) ∧
    (∀ n : Int, 0 ≤ n → n ≤ 2139095039 →
      InI32 (n / 255) ∧ InI32 (1 + n / 255) ∧ InI32 (1 + n / 255 + n) ∧ 0 ≤ n % 255 ∧ n % 255 < 255) ∧
    ¬ InI32 (1 + (2139095040 : Int) / 255 + 2139095040) ∧
    (∀ id l : Int, 3 ≤ id → id ≤ 127 →
      (0 ≤ l → l ≤ 1 → 0 ≤ 2 * id + l ∧ 2 * id + l ≤ 255) ∧ (id ≤ 31 → InI32 l → l ≤ 2147483585 → InI32 (2 * id + l))) ∧
    (∀ (a : List Ext) (later : List (List Ext)) (w n : Nat), w + a.length + total later = n →
      blockR a later ≤ a.length ∧ blockR a later * later.length ≤ n ∧
      w + blockR a later + blockR a later * later.length ≤ n) := by
  refine ⟨fun dry len exts nbFrames pad hE h0 hl => ?_, fun len pos k hl hp hpl hk hpass => gen_pos_ranges len pos k hl hp hpl hk hpass,
    fun n h0 h1 => gen_long_ranges n h0 h1, gen_long_tight, fun id l h3 h127 => gen_idbyte_ranges id l h3 h127,
    fun a later w n h => by
      obtain ⟨h1, h2⟩ := blockR_le a later
      have := total_map_drop (blockR a later) later h2
      omega⟩
  have h1 := generate_log_within dry len exts nbFrames hE h0
  refine ⟨by unfold InI32; omega, h1, fun out ho => ?_⟩
  have := generate_size_le hE ho
  exact ⟨by unfold InI32; omega, this⟩

/-! ### Non-vacuity: concrete inputs satisfy the hypotheses -/

/-- Padding with a repeat indicator (frame 0: short ext id 5 with payload, long ext id 40; `04` =
    "repeat these extensions", L=0; then the payloads for frame 1). -/
def exPad : Bytes := [11, 7, 81, 2, 1, 2, 4, 9, 3, 4, 5]
example : BytesOk exPad := by decide
example : ∃ it, Reach exPad 2 it ∧ it.currLen = 11 := ⟨_, .init rfl, rfl⟩
/-- … and so are the states after a call of `next`. -/
example : ∃ it s, Reach exPad 2 it ∧ Reach exPad 2 (iterSetFrameMax (iterReset it) 1) ∧
    (∀ e, s = Step.ext e → e.frame < 2) := by
  obtain ⟨it', s, h, hs⟩ := iter_safe exPad (by decide) 2 _ (.init rfl)
  exact ⟨it', s, .next (.init rfl) h, .setFrameMax 1 (.reset (.next (.init rfl) h)) (by decide),
    fun e he => (hs e he).2.2.1⟩

/-- Unsorted frames, a short and a long extension per frame (repeat-eligible), 260-byte payload. -/
def exExts : Array Ext :=
  #[{ id := 5, frame := 0, data := [7], len := 1 }, { id := 5, frame := 1, data := [9], len := 1 },
    { id := 40, frame := 1, data := [1, 2, 3], len := 3 }, { id := 40, frame := 0, data := List.replicate 260 6, len := 260 }]
theorem exExts_ok : ExtsOk exExts := extsOk_of_all _ (by decide +kernel)
/-- The one evaluation of the generator on `exExts`; the sizes below follow from it by `generate_exact_and_smaller`. -/
theorem exExts_dry : ∃ out, generate true 1000 exExts 2 false = .ok out ∧ out.size = 270 := by
  have h : resSize (generate true 1000 exExts 2 false) = .ok 270 := by decide +kernel
  cases hg : generate true 1000 exExts 2 false with
  | ok out => rw [hg] at h; exact ⟨out, rfl, Res.ok.inj h⟩
  | err e => rw [hg] at h; cases h
  | oob => rw [hg] at h; cases h
  | abort => rw [hg] at h; cases h
example : ExtsOk exExts := exExts_ok
example : resSize (generate true 1000 exExts 2 false) = .ok 270 := by
  obtain ⟨out, h, hs⟩ := exExts_dry
  rw [h, ← hs]; rfl
example : resSize (generate false 270 exExts 2 true) = .ok 270 := by
  obtain ⟨out, h, hs⟩ := exExts_dry
  obtain ⟨out', h', hs', _⟩ := (generate_exact_and_smaller true 1000 exExts 2 out exExts_ok h).1 false true
  rw [hs] at h' hs'
  rw [show (270 : Int) = (270 : Nat) from rfl, h', ← hs']; rfl
example : generate false 269 exExts 2 false = .err .bufferTooSmall := by
  obtain ⟨out, h, hs⟩ := exExts_dry
  exact (generate_exact_and_smaller true 1000 exExts 2 out exExts_ok h).2 269 false false (by decide) (by rw [hs]; decide)
example : BadIdFrame 2 { id := 2, frame := 0, data := [], len := 0 } := by unfold BadIdFrame; decide

/-- An inadmissible length in a position the generator would emit inside a repeat block (frame 1 repeats the
    long extension of frame 0), and one on a short ID in the first frame. -/
def exBadRep : Array Ext :=
  #[{ id := 40, frame := 0, data := [1], len := 1 }, { id := 40, frame := 1, data := [], len := -1 }]
def exBadShort : Array Ext :=
  #[{ id := 5, frame := 1, data := [1], len := 1 }, { id := 5, frame := 0, data := [1, 2], len := 2 }]
example : AllIF exBadRep 2 ∧ ExtsOk exBadRep ∧ ∃ (j : Nat) (e : Ext), exBadRep[j]? = some e ∧ ¬ LenOk e :=
  ⟨allIF_of_all _ _ (by decide +kernel), extsOk_of_all _ (by decide +kernel), 1, _, rfl, by decide⟩
example : AllIF exBadShort 2 ∧ ExtsOk exBadShort ∧ ∃ (j : Nat) (e : Ext), exBadShort[j]? = some e ∧ ¬ LenOk e :=
  ⟨allIF_of_all _ _ (by decide +kernel), extsOk_of_all _ (by decide +kernel), 1, _, rfl, by decide⟩
example : generate true 100 exBadRep 2 false = .err .badArg := by decide +kernel
example : generate false 100 exBadShort 2 true = .err .badArg := by decide +kernel
example : req (genOps exBadRep 2).ops = 4 := by decide +kernel
example : generate false 3 exBadRep 2 false = .err .bufferTooSmall := by decide +kernel
example : generate false 4 exBadRep 2 false = .err .badArg := by decide +kernel

/-- Unsorted frames, three frames with the last one empty (so nothing is repeat-eligible), a 300-byte
    payload (two lacing bytes) and a long extension in last position (`L = 0` form). -/
def exExts2 : Array Ext :=
  #[{ id := 40, frame := 1, data := List.replicate 300 9, len := 300 }, { id := 5, frame := 0, data := [7], len := 1 },
    { id := 5, frame := 1, data := [], len := 0 }, { id := 100, frame := 1, data := [1, 2, 3], len := 3 }]
example : AllValid exExts2 3 := allValid_of_all _ _ (by decide +kernel)
example : (sortedFrom exExts2 3 0).map (·.id) = [5, 40, 5, 100] := by decide +kernel
/-- `exExts` (above) is repeat-eligible: the generator writes a repeat block for it, and it is valid. -/
example : AllValid exExts 2 := allValid_of_all _ _ (by decide +kernel)
example : blockR (allOf exExts 0) [allOf exExts 1] = 2 := by decide +kernel
example : (serAll exExts.size (queues exExts 2) 0 0).length = 270 := by decide +kernel
/-- hypotheses of `fixed_point`: bytes that parse (shown through the round trip itself). -/
example : ∃ l, parse (serAll exExts.size (queues exExts 2) 0 0) (serAll exExts.size (queues exExts 2) 0 0).length 10 2 = .ok l ∧
    l.length = exExts.size := by
  obtain ⟨_, refs, h1, h2, _⟩ := generate_parse exExts 2 (by decide) (allValid_of_all _ _ (by decide +kernel)) 1000 (by decide +kernel) 10 (by decide +kernel)
  exact ⟨refs, h1, h2⟩

/-- hypotheses of `find_spec`: a reachable state on `exPad` (any ID may be asked for). -/
example : ∃ it l s, Reach exPad 2 it ∧ iterAll it = .ok (l, s) ∧
    ((∀ x ∈ l, (x.id : Int) ≠ 99) → ∃ it', find it 99 = .ok (it', s)) := by
  obtain ⟨it, hit⟩ : ∃ it, iterInit exPad exPad.length 2 = .ok it := ⟨_, rfl⟩
  obtain ⟨l, s, h1, _, _, h4⟩ := find_spec exPad (by decide) 2 it (.init hit) 99
  exact ⟨it, l, s, .init hit, h1, fun h => by obtain ⟨it', h5, _⟩ := h4 h; exact ⟨it', h5⟩⟩

/-- hypotheses of the `int_ranges_*` theorems. -/
example : BytesOk exPad ∧ (exPad.length : Int) ≤ 2147483647 := by decide
example : lacingTrace #[255, 3, 0] 0 300 0 0 = [(44, 255, 1), (40, 258, 2)] := by decide +kernel
example : ∃ it l s, iterInit exPad exPad.length 2 = .ok it ∧ iterAll it = .ok (l, s) ∧
    (l.length : Int) ≤ (2 : Nat) * exPad.length := by
  obtain ⟨it, l, s, h1, h2, _⟩ := count_parse_agree exPad (by decide) 2 (by decide)
  exact ⟨it, l, s, h1, h2, (int_ranges_count exPad (by decide) 2 it l s h1 h2).1⟩
example : blockR (allOf exExts 0) [allOf exExts 1] * 1 ≤ 4 :=
  (int_ranges_generate.2.2.2.2.2 (allOf exExts 0) [allOf exExts 1] 0 4 (by decide +kernel)).2.1

end OpusProps.C16
