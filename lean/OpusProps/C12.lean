import OpusProofs.ResetState
import OpusProofs.ResetDecode
import OpusProofs.ResetMs
import OpusProofs.ResetSettings
/-
  OpusProps.C12 — codec state is deterministic, freely copyable and reset-equivalent
  (DESIGN.md §7.C12).  Model: OpusModel.ResetState (init / OPUS_RESET_STATE / settings transcribed
  member by member; an encode call as a footprint over the `view`, DSP as uninterpreted oracles);
  struct description: OpusModel.Gen.StructFields, regenerated from /repo on every run.

  Determinism of every modelled layer is definitional (the model consists of pure functions of the
  object and the call arguments: there is nothing else they could depend on); it is NOT counted as an
  obligation.  Determinism, copyability and reset-equivalence of the DSP interior are searched on the
  implementation (twin-object harness), not proved.
-/
namespace OpusProps.C12
open Opus Opus.ResetState Opus.Gen.StructFields

/-- Clause "after OPUS_RESET_STATE an object behaves exactly like a newly created one carrying the
    same settings", state form: for every encoder state reachable from `opus_encoder_init` by accepted
    setting requests, resets and encode calls (any DSP behaviour, any input), the reset object and a new
    object carrying the same settings agree on every member that any later call can read before
    writing it.  (The reset clears the inter-frame members kept outside the cleared area too,
    opus_encoder.c:3103-3108; for a reset without those statements see the counterexample `example` below.) -/
theorem reset_eq_init (s : Enc) (h : Reach s) :
    ObsEq (encReset s) (encFresh s.fs s.channels s.arch s.silkEncOffset s.celtEncOffset (settingsOf s)) :=
  view_reset_eq_fresh (reach_inv h)

example : Reach (encodeStep ⟨fun _ _ => .full, fun _ _ => ⟨.used 1, 5, 77, 1104, .used 2, 17000⟩,
    fun _ _ _ => ⟨1, 1000, 1103, 1103, 0, 0, 0, 1, true, .used 3,
                  silkCtlInit 16000 1, .used 4, celtCfgInit 16000 1 0, 16384, 1, 2, .used 5, .used 6, 0, 0, 99, 1000, 1, 320, 0⟩,
    fun _ _ => ⟨35, 1⟩⟩ (encInit 16000 1 2048 0 18152 38416) ⟨320, 1500, 16, 0, 7⟩).1 :=
  .encode _ _ (.init ..)

/-- Same clause, behavioural form: a reset object and a new object carrying the same settings return
    the same codes, getter values and packets for EVERY later sequence of setting requests, getters,
    resets and encode calls, whatever the DSP oracles compute (they see the same members). -/
theorem reset_indistinguishable (O : Oracles) (G : GetOracle) (s : Enc) (h : Reach s) (ops : List Op) :
    run O G (encReset s) ops =
      run O G (encFresh s.fs s.channels s.arch s.silkEncOffset s.celtEncOffset (settingsOf s)) ops :=
  run_congr O G ops (reset_eq_init s h)

example : run ⟨fun _ _ => .lowBudget, fun v _ => ⟨.used 1, 0, v.voiceRatio, 0, .used 1, 0⟩,
                fun _ _ _ => ⟨1, 1, 1, 1, 1, 1, 1, 1, false, .fresh, silkCtlInit 8000 1, .fresh, celtCfgInit 8000 1 0,
                              1, 1, 1, .fresh, .fresh, 1, 1, 1, 1, 1, 1, 1⟩, fun v _ => ⟨v.voiceRatio, 0⟩⟩
              ⟨fun v r => if r = 4011 then v.complexity else v.rangeFinal⟩
              (encInit 8000 1 2048 0 18152 38416) [.set 4010 3, .get 4011, .encode ⟨160, 2, 16, 0, 0⟩, .reset, .get 4011]
          = [(0, 0), (3, 0), (-1, 0), (0, 0), (3, 0)] := by decide

/-- "A newly created one carrying the same settings", read as calls: for every state reachable from a VALID
    `opus_encoder_init` (1 or 2 channels, a defined application), a new encoder initialised with ANY valid
    application and then given the requests `settingsRequests (settingsOf s)` — OPUS_SET_APPLICATION,
    OPUS_SET_BITRATE, … one OPUS_SET_* per setting — accepts every one of them, and the reset object is
    indistinguishable from the result (so `encFresh`'s "init, then store the setting members" and
    "init, then issue the requests" are the same object as far as any later call can tell; they differ only in
    `silk_mode.useCBR` / `maxInternalSampleRate`, which every encode assigns before use). -/
theorem reset_eq_init_by_requests (s : Enc) (h : ReachOk s) (app0 : Int) (ha : app0 = 2048 ∨ app0 = 2049 ∨ app0 = 2051) :
    ∃ f, replay (encInit s.fs s.channels app0 s.arch s.silkEncOffset s.celtEncOffset) (settingsRequests (settingsOf s)) = some f ∧
         ObsEq (encReset s) f := by
  obtain ⟨f, hf, hv⟩ := replay_requests s.fs s.channels app0 s.arch s.silkEncOffset s.celtEncOffset (settingsOf s) (reachOk_good h).2
  exact ⟨f, hf, (reset_eq_init s (reachOk_reach h)).trans hv.symm⟩

example : ReachOk (encodeStep ⟨fun _ _ => .lowBudget, fun v _ => ⟨.used 1, 0, v.voiceRatio, 0, .used 1, 0⟩,
      fun _ _ _ => ⟨1, 1, 1, 1, 1, 1, 1, 1, false, .fresh, silkCtlInit 8000 1, .fresh, celtCfgInit 8000 1 0,
                    1, 1, 1, .fresh, .fresh, 1, 1, 1, 1, 1, 1, 1⟩, fun _ _ => ⟨3, 0⟩⟩
    (encInit 8000 1 2048 0 18152 38416) ⟨160, 2, 16, 0, 0⟩).1 := .encode _ _ (.init _ _ _ _ _ _ ⟨Or.inl rfl, Or.inl rfl⟩)

/-- Documented counterexample about a reset WITHOUT the statements of opus_encoder.c:3103-3108 (so that
    `silk_mode.LBRR_coded`, `voice_ratio`, … survive OPUS_RESET_STATE; `encResetUnrepaired` is kept in the
    model only for this): a reachable state whose old-style reset differs observably from a new encoder
    with the same settings — the model-level image of corpus/C12/reset_witnesses.json.  Not a statement
    about the current code. -/
example :
    ∃ s, Reach s ∧
      ¬ ObsEq (encResetUnrepaired s) (encFresh s.fs s.channels s.arch s.silkEncOffset s.celtEncOffset (settingsOf s)) := by
  refine ⟨(encodeStep ⟨fun _ _ => .full, fun _ _ => ⟨.used 1, 5, 77, 1104, .used 2, 17000⟩,
      fun _ _ _ => ⟨1, 1000, 1103, 1103, 0, 0, 0, 1, true, .used 3,
                    silkCtlInit 16000 1, .used 4, celtCfgInit 16000 1 0, 16384, 1, 2, .used 5, .used 6, 0, 0, 99, 1000, 1, 320, 0⟩,
      fun _ _ => ⟨35, 1⟩⟩ (encInit 16000 1 2048 0 18152 38416) ⟨320, 1500, 16, 0, 7⟩).1, .encode _ _ (.init ..), ?_⟩
  decide

/-- Same clause for the decoder (state form): reset = new decoder with the same gain / complexity /
    phase-inversion setting on every member a later call can read before writing, for every decoder
    state whose constant members are those of `opus_decoder_init` (the reset clears
    `DecControl.prevPitchLag`, which OPUS_GET_PITCH reads: opus_decoder.c:1047-1048). -/
theorem dec_reset_eq_init (s : Dec) (h : DecInv s) :
    DecObsEq (decReset s)
      (decFresh s.fs s.channels s.arch s.silkDecOffset s.celtDecOffset s.decodeGain s.complexity
        s.celtComplexity s.celtDisableInv) :=
  decView_reset_eq_fresh h

example : DecInv { (decInit 48000 2 4 96 8712) with dcPrevPitchLag := 228, prevMode := 1000, bandwidth := 1103 } :=
  ⟨rfl, rfl⟩

/-- Same clause for the decoder, behavioural form: for every decoder state reachable from
    `opus_decoder_init` by setting requests, resets and decode calls (any DSP behaviour, any packets), the
    reset decoder and a new decoder carrying the same settings return the same codes, getter values and PCM
    for EVERY later sequence of setting requests, getters, resets and decode calls (normal, lost-packet and
    FEC calls are all `decode` footprints). -/
theorem dec_reset_indistinguishable (O : DOracles) (s : Dec) (h : DReach s) (ops : List DOp) :
    runDec O (decReset s) ops =
      runDec O (decFresh s.fs s.channels s.arch s.silkDecOffset s.celtDecOffset s.decodeGain s.complexity
                 s.celtComplexity s.celtDisableInv) ops :=
  runDec_congr O ops (decView_reset_eq_fresh (dreach_inv h))

example : DReach (decodeStep ⟨fun _ _ => .packet, fun _ _ => ⟨1, 1103, 1000, 1000, 320, 0, 320, .used 1, 77, true, .used 2,
    .used 3, 1, 16000, 20, 228, 0, 1, 1⟩, fun _ _ => ⟨320, 5⟩, fun v _ => v.dcPrevPitchLag⟩
    (decInit 16000 1 4 96 8712) ⟨3, 5760, 0, 1⟩).1 := .decode _ _ (.init ..)

example : runDec ⟨fun _ _ => .packet, fun _ _ => ⟨1, 1103, 1000, 1000, 320, 0, 320, .used 1, 77, true, .used 2,
    .used 3, 1, 16000, 20, 228, 0, 1, 1⟩, fun _ _ => ⟨320, 5⟩, fun v _ => v.dcPrevPitchLag⟩
    (decInit 16000 1 4 96 8712) [.decode ⟨3, 5760, 0, 1⟩, .get 4033, .reset, .get 4033]
  = [(320, 5), (228, 0), (0, 0), (0, 0)] := by decide

/-- The decode-call footprint is tied to the code through `decStepCheck` (suite `misc decstep`: members before
    and after each real decode call).  The checker is not stricter than the model: whatever the oracles answer,
    the state `decodeStep` produces is accepted — so a rejected real call is something the model cannot do
    (a constant member written; concealment that does not keep `prev_mode` / DecControl as claimed; a packet that
    changes DecControl.nChannelsInternal / internalSampleRate without leaving `prev_mode` SILK-only or hybrid). -/
theorem decode_footprint_check_sound (O : DOracles) (s : Dec) (x : DInp) (dataNull : Bool)
    (hn : dataNull = true → O.path (decView s) x ≠ .packet) :
    decStepCheck s (decodeStep O s x).1 dataNull = "ok" := by
  unfold decodeStep
  simp only []
  cases hp : O.path (decView s) x <;> simp only []
  · exact decStepCheck_ok (by simp [decConstSame]) (Or.inl rfl)
  · have hvr : (decView s).prevRedundancy = s.prevRedundancy := rfl
    have hvm : (decView s).prevMode = s.prevMode := rfl
    simp only [hvr, hvm]
    by_cases hm : (if s.prevRedundancy ≠ 0 then MODE_CELT_ONLY else s.prevMode) = 0
    · simp only [hm, if_true]
      exact decStepCheck_ok (by simp [decConstSame]) (Or.inr (Or.inl (by simp [concealClaim, hm])))
    · simp only [hm, if_false]
      refine decStepCheck_ok (by simp [decConstSame]) (Or.inr (Or.inl ?_))
      simp only [concealClaim]
      rw [if_neg hm]
      simp
  · have hd : dataNull = false := by
      cases dataNull with
      | false => rfl
      | true => exact absurd hp (hn rfl)
    refine decStepCheck_ok (by simp [decConstSame]) (Or.inr (Or.inr ⟨hd, ?_⟩))
    by_cases hw : isSilkMode (O.res (decView s) x).prevMode = true
    · simp [packetClaim, hw]
    · simp [packetClaim, hw]

example : decStepCheck (decInit 16000 1 4 96 8712) { (decInit 16000 1 4 96 8712) with prevMode := 1002, dcInternalSampleRate := 8000 } false
    = "packet-claim-violated" := by decide

/-- Same clause for the multistream encoder (and the projection encoder, whose ctl forwards the request),
    state form: OPUS_RESET_STATE — clear the surround memories, then the per-stream reset through the
    fan-out loop — returns OPUS_OK and leaves an object whose own members and memories equal, and whose
    stream encoders are pairwise indistinguishable from, those of a new multistream encoder whose streams
    carry the same settings; hence every stream answers every later per-stream call sequence identically.
    (What opus_multistream_encode_native computes from the multistream-level members is not modelled: the
    multistream encode call is searched by the twin harness.)
    NON-TRIVIAL CONTENT: `msEncFresh m` keeps `m`'s layout and multistream-level settings by definition, so ten
    of the conjuncts of `MsObsEq` read `m.x = m.x` (the reset does not write those members — that is tied to
    the code by the `misc msreset` correspondence, not proved here).  What the theorem adds is (i) the fan-out
    returns OPUS_OK and visits every stream, (ii) the surround memories are as after creation (cleared in the
    SURROUND mapping, never written in the others: `MsInv.mems`), (iii) every stream encoder is `ObsEq` to a
    new one with its settings and therefore answers every later per-stream call sequence identically. -/
theorem ms_reset_eq_init (m : MsEnc) (h : MsInv m) (O : Oracles) (G : GetOracle) (ops : List Op) :
    MsObsEq (msEncReset m).1 (msEncFresh m) ∧ (msEncReset m).2 = Ctl.Ret.ok ∧
    (msEncReset m).1.streams.map (fun e => run O G e ops) = (msEncFresh m).streams.map (fun e => run O G e ops) :=
  ⟨(msEncReset_eq_fresh m h).1, (msEncReset_eq_fresh m h).2, allPairs_map_eq (fun _ _ hr => run_congr O G ops hr) (msEncReset_eq_fresh m h).1.streams⟩

example : MsInv { nbChannels := 3, nbStreams := 2, nbCoupled := 1, mapping := [0, 2, 1], arch := 4, lfeStream := -1,
                  application := 2049, variableDuration := 5000, mappingType := 1, bitrateBps := -1000, mems := .used 9,
                  streams := [encInit 48000 2 2049 4 18152 38416, encInit 48000 1 2049 4 18152 38416] } :=
  ⟨fun e he => by
      simp only [List.mem_cons, List.mem_nil_iff, or_false] at he
      rcases he with rfl | rfl <;> exact .init .., fun hs => absurd rfl hs⟩

/-- Same for the multistream / projection decoder: the fan-out of the per-stream reset leaves stream decoders
    pairwise indistinguishable from new ones with the same settings, for every later per-stream call sequence.
    NON-TRIVIAL CONTENT: the four layout conjuncts are `m.x = m.x` by definition of `msDecFresh` (tied to the code by
    `misc msdecreset`); the content is the fan-out (OPUS_OK, every stream visited) and the per-stream `DecObsEq`. -/
theorem ms_dec_reset_eq_init (m : MsDec) (h : ∀ d ∈ m.streams, DReach d) (O : DOracles) (ops : List DOp) :
    MsDecObsEq (msDecReset m).1 (msDecFresh m) ∧ (msDecReset m).2 = Ctl.Ret.ok ∧
    (msDecReset m).1.streams.map (fun d => runDec O d ops) = (msDecFresh m).streams.map (fun d => runDec O d ops) :=
  have hr := msDecReset_eq_fresh m (fun d hd => dreach_inv (h d hd))
  ⟨hr.1, hr.2, allPairs_map_eq (fun _ _ hr => runDec_congr O ops hr) hr.1.streams⟩

example : ∀ d ∈ [decInit 48000 2 4 96 8712, decInit 48000 1 4 96 8712], DReach d := fun d hd => by
  simp only [List.mem_cons, List.mem_nil_iff, or_false] at hd
  rcases hd with rfl | rfl <;> exact .init ..

/-- Clause "a state copied with memcpy behaves like the original", pointer part: in the regenerated
    member lists the only pointer-typed member of OpusEncoder / OpusDecoder is `energy_masking`
    (caller-owned); every pointer-typed member of the complete state (SILK / CELT sub-states,
    repacketizer) is declared static-const or caller-owned and, on used objects, is observed to be
    null or to point into the static image / the caller's buffer — never into the object; and a
    conservative scan of every used object (encoder, decoder, multistream, projection, repacketizer;
    get_size bytes each) finds no word holding an address inside the object. -/
theorem no_self_pointers :
    (encFields.filter (·.kind = "P")).map (·.name) = ["energy_masking"] ∧
    (decFields.filter (·.kind = "P")).map (·.name) = [] ∧
    (silkEncFields ++ silkDecFields ++ celtEncCfgFields.drop 1).all (fun f => f.kind = "I") = true ∧
    pointerMembers.all (fun (_, owner, seen) =>
      (owner = "static" || owner = "caller") && (seen = "null" || seen = owner)) = true ∧
    selfPointerWords = 0 ∧ 0 < scannedObjects := by
  decide +kernel

example : ("enc2.celt.mode", "static", "static") ∈ pointerMembers := by decide +kernel

/-- Clause "the number of bytes reported by the size query is all that needs copying": the listed
    members tile their structs (nothing is missing), every member lies inside `sizeof`, and
    `opus_*_get_size` = aligned struct + SILK state + CELT state with the sub-states at the offsets
    init stores — so the modelled state is a function of those `get_size` bytes. -/
theorem get_size_covers_state :
    encTiles = true ∧ silkEncTiles = true ∧ decTiles = true ∧ silkDecTiles = true ∧ celtEncCfgTiles = true ∧
    celtEncCfgEnd = celtEncResetStart ∧
    encFields.all (fun f => f.off + f.size ≤ encSizeof) = true ∧
    decFields.all (fun f => f.off + f.size ≤ decSizeof) = true ∧
    encLayout.all (fun (_, size, hdr, silkOff, silkSz, celtOff, celtSz) =>
      encSizeof ≤ hdr && silkOff == hdr && celtOff == silkOff + silkSz && size == celtOff + celtSz) = true ∧
    decLayout.all (fun (_, size, hdr, silkOff, silkSz, celtOff, celtSz) =>
      decSizeof ≤ hdr && silkOff == hdr && celtOff == silkOff + silkSz && size == celtOff + celtSz) = true ∧
    encLayout.length = 2 ∧ decLayout.length = 2 := by
  decide +kernel

/-- The model speaks about the structs the compiler sees: its member lists are exactly the
    regenerated ones (a member added to or removed from OpusEncoder, OpusDecoder, the SILK control
    structs or the CELT configuration breaks this), and the members at or after
    OPUS_ENCODER_RESET_START / OPUS_DECODER_RESET_START are exactly those the model's reset clears
    or re-derives. -/
theorem model_fields_cover_struct :
    (encFields.filter (fun f => f.kind = "I" || f.kind = "F" || f.kind = "P")).map (·.name) = encTopNames ∧
    (encFields.filter (fun f => f.kind = "R" || f.kind = "A")).map (·.name) = encBlobNames ∧
    silkEncFields.map (·.name) = silkCtlNames ∧
    (celtEncCfgFields.drop 1).map (·.name) = celtCfgNames ∧
    (decFields.filter (fun f => f.kind = "I")).map (·.name) = decTopNames ∧
    silkDecFields.map (·.name) = decControlNames ∧
    (encFields.filter (·.afterMarker)).map (·.name) = encAfterMarkerNames ∧
    (decFields.filter (·.afterMarker)).map (·.name) = decAfterMarkerNames := by
  decide +kernel

/-- `encInit` / `decInit` give, member for member, the values the compiled `opus_encoder_init` /
    `opus_decoder_init` leave in a 0xA5-poisoned block, for all 5 rates × 2 channel counts
    (× 3 applications). -/
theorem init_matches_code :
    encInitValues.all initRowOk = true ∧ encInitValues.length = 30 ∧
    decInitValues.all decInitRowOk = true ∧ decInitValues.length = 10 := by
  decide +kernel

end OpusProps.C12
