/-
  C09 — the weight a received CELT frame gets in the background-noise estimate after a loss burst is capped.
  Clause of C09: "output ... falls well below the pre-loss level under sustained loss", for EVERY loss pattern: the floor the
  noise concealment decays to (`backgroundLogE`) may rise by at most 160 x 0.001 (log2 units, about 1 dB) per received frame,
  however long the preceding burst was.  The float DSP around it is searched (tools/props/C09.py, rebound sessions).
-/
import OpusModel.Gen.CeltBgConsts
import OpusModel.SilkPlcGains

/-! CELT decoder: how far ONE received frame may raise the background-noise floor `backgroundLogE` (C09).

celt/celt_decoder.c, celt_decode_with_ec_dred (normal-decode path, after the synthesis):
    max_background_increase = IMIN(160, st->loss_duration+M)*GCONST(0.001f);
    backgroundLogE[i] = MING(backgroundLogE[i] + max_background_increase, oldBandE[i]);
`backgroundLogE` is the floor of the noise concealment (celt_decode_lost: oldBandE = MAX(backgroundLogE, oldBandE - decay)),
so this factor bounds how much of the signal level a received frame can turn into "background" after a loss burst.
The cap and the step are literals; they are regenerated behaviourally (tools/extract/CeltBgConsts.c) together with a
probe table on which the model below is checked.  Core Lean only. -/

namespace Opus.CeltLossBackground
open Opus.Gen.CeltBgConsts

/-- `IMIN(160, st->loss_duration + M)`: the rise of `backgroundLogE` allowed to a decoded frame of `120·2^LM` samples, in units of
    GCONST(0.001f); `ld` = `loss_duration` on entry (it is reset only afterwards, :1354). -/
def bgIncrease (ld : Int) (LM : Nat) : Int := min celtBgCap (ld + celtBgStep.getD LM 0)

theorem celtBgCap_eq : celtBgCap = 160 := rfl

/-- The factor never exceeds the regenerated cap, whatever the counter. -/
theorem bgIncrease_le (ld : Int) (LM : Nat) : bgIncrease ld LM ≤ 160 := by
  unfold bgIncrease; rw [celtBgCap_eq]; omega

/-- Below the cap the factor is the weight of the missing frames plus the frame itself. -/
theorem bgIncrease_below (ld : Int) (LM : Nat) (h : ld + celtBgStep.getD LM 0 ≤ 160) :
    bgIncrease ld LM = ld + celtBgStep.getD LM 0 := by
  unfold bgIncrease; rw [celtBgCap_eq]; omega

/-- Monotone in the loss duration (a longer burst never gives the update packet less weight). -/
theorem bgIncrease_mono (a b : Int) (LM : Nat) (h : a ≤ b) : bgIncrease a LM ≤ bgIncrease b LM := by
  unfold bgIncrease; omega

/-- The model reproduces every probe of the compiled decoder (both sides of the cap, all four frame sizes). -/
theorem probes_ok : celtBgProbes.all (fun p => bgIncrease p.1 p.2.1 == p.2.2) = true := by decide

/-- The probes do reach the cap and values below it (the table is not degenerate). -/
theorem probes_nondegenerate :
    celtBgProbes.any (fun p => p.2.2 == 160 && decide (p.1 ≥ 10000)) = true ∧ celtBgProbes.any (fun p => p.2.2 == 1) = true := by decide

end Opus.CeltLossBackground

namespace OpusProps.C09CeltBg
open Opus

/-- For every loss history (any sequence of concealed frames of 2.5–20 ms and decoded frames, from any counter value) and every
    size of the frame that is received next, the per-received-frame background increase factor `min(160, loss_duration + M)`
    (celt_decoder.c, `max_background_increase`; cap, step and a probe table regenerated from the compiled decoder) is at most 160;
    it is monotone in the loss duration, equals `loss_duration + 2^LM` while that is ≤ 160, and the model agrees with the compiled
    decoder on every regenerated probe. -/
theorem background_increase_capped :
    (∀ (frames : List (Option Nat)) (ld0 : Int) (LM : Nat),
      CeltLossBackground.bgIncrease (SilkPlcGains.celtLossRun ld0 frames) LM ≤ 160) ∧
    (∀ (a b : Int) (LM : Nat), a ≤ b → CeltLossBackground.bgIncrease a LM ≤ CeltLossBackground.bgIncrease b LM) ∧
    (∀ (ld : Int) (LM : Nat), LM < 4 → ld + 2 ^ LM ≤ 160 → CeltLossBackground.bgIncrease ld LM = ld + 2 ^ LM) ∧
    Gen.CeltBgConsts.celtBgProbes.all (fun p => CeltLossBackground.bgIncrease p.1 p.2.1 == p.2.2) = true :=
  ⟨fun frames ld0 LM => CeltLossBackground.bgIncrease_le _ LM,
   CeltLossBackground.bgIncrease_mono,
   fun ld LM hlm h => by
     have : Gen.CeltBgConsts.celtBgStep.getD LM 0 = 2 ^ LM := by
       match LM, hlm with
       | 0, _ => rfl
       | 1, _ => rfl
       | 2, _ => rfl
       | 3, _ => rfl
     rw [← this] at h ⊢; exact CeltLossBackground.bgIncrease_below ld LM h,
   CeltLossBackground.probes_ok⟩

/-- Non-vacuity: a burst that saturates the counter at 10000 (here from 9990) followed by a received 20 ms frame gives the factor 160, a frame after
    60 ms of loss gives 24 + 8. -/
example : CeltLossBackground.bgIncrease (SilkPlcGains.celtLossRun 9990 [some 3, some 3, some 0]) 3 = 160 := by decide
example : CeltLossBackground.bgIncrease (SilkPlcGains.celtLossRun 0 [some 3, some 3, some 3]) 3 = 32 := by decide

end OpusProps.C09CeltBg
