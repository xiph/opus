import OpusProofs.SilkResampLen
import OpusProofs.SilkResampRange
import OpusProofs.SilkResampChunk
/-
  OpusProps.C03SilkResamp — property C03, slice SilkResamp: theorems about the bit-exact model of the SILK resampler
  (OpusModel/SilkResamp.lean; silk/resampler.c and its kernels).  The general lemmas are in OpusProofs/SilkResamp*.lean.
-/
namespace OpusProps.C03SilkResamp
open Opus Opus.SilkResamp Opus.Gen.SilkResampRom OpusProofs.SilkResamp

/-- silk_resampler_init accepts exactly the documented rate pairs (encoder: 8/12/16/24/48 kHz → 8/12/16 kHz; decoder:
    8/12/16 kHz → 8/12/16/24/48 kHz; the list `pairs`), for every pair of 32-bit — indeed of arbitrary — integers:
    on an accepted pair it succeeds with one of the 30 tabulated configurations and an otherwise all-zero state, on any
    other pair the hardened build aborts (celt_assert( 0 ), :94 / :101). -/
theorem init_accepts_iff (fsIn fsOut : Int) (forEnc : Bool) :
    ((fsIn, fsOut, forEnc) ∈ pairs → ∃ c ∈ cfgTable, init fsIn fsOut forEnc = .ok (fresh c)) ∧
    ((fsIn, fsOut, forEnc) ∉ pairs → init fsIn fsOut forEnc = .abort) := by
  constructor
  · intro h; exact init_accepted _ _ _ ((accepted_iff_mem _ _ _).2 h)
  · intro h; exact init_rejected _ _ _ (not_accepted h)

example : (8000, 48000, false) ∈ pairs ∧ (44100, 48000, false) ∉ pairs := by decide

/-- Without assertions (celt_assert a no-op) a rejected pair returns -1 and leaves the state the memset produced: every
    field zero — a defined state; an accepted pair returns 0 with the state of `init_accepts_iff`. -/
theorem init_rejected_returns_minus_one (fsIn fsOut : Int) (forEnc : Bool) :
    ((fsIn, fsOut, forEnc) ∉ pairs → initRet fsIn fsOut forEnc = .ok (-1, RS.zero)) ∧
    ((fsIn, fsOut, forEnc) ∈ pairs → ∃ c ∈ cfgTable, initRet fsIn fsOut forEnc = .ok (0, fresh c)) := by
  constructor
  · intro h; exact initRet_rejected _ _ _ (not_accepted h)
  · intro h
    have hacc := (accepted_iff_mem _ _ _).2 h
    obtain ⟨c, hc, hi⟩ := init_accepted _ _ _ hacc
    refine ⟨c, hc, ?_⟩
    unfold accepted at hacc
    unfold initRet
    simp [hacc, hi]

example : initRet 44100 48000 false = .ok (-1, RS.zero) := by decide +kernel

/-- The complete table: the i-th documented pair yields the i-th configuration (resampler_function, batchSize,
    invRatio_Q16, FIR_Order, FIR_Fracs, Fs_in_kHz, Fs_out_kHz, inputDelay, Coefs) — in particular the loop that rounds
    invRatio_Q16 up (:165-167) terminates inside opus_int32 and "None available" (:153-155) is unreachable. -/
theorem init_table :
    pairs.map (fun p => init p.1 p.2.1 p.2.2) = cfgTable.map (fun c => Res.ok (fresh c)) ∧
    ∀ p ∈ pairs, (selectFn p.1 p.2.1).isSome = true :=
  ⟨init_pairs_table, fun p hp => selectFn_isSome p.1 p.2.1 p.2.2 ((accepted_iff_mem _ _ _).2 hp)⟩

example : pairs.length = 30 ∧ cfgTable.length = 30 := by decide

/-- One call of silk_resampler, for every state satisfying the invariant `Inv` (configuration from the table, sFIR /
    delayBuf of their declared sizes, delayBuf holding int16 values) and every input of at least 1 ms
    (`inLen >= Fs_in_kHz`, the celt_assert of resampler.c:184) of int16 samples: the call is total — no `.oob` (every index into
    in[], delayBuf, sFIR, the ALLOC'd buf, the coefficient tables is in bounds), no `.abort` (neither celt_assert
    fires, FIR_Order is one of the three cases) —, it preserves the invariant and the configuration, writes exactly
    `outLen` samples (`kernelOutLen` for the first millisecond + `kernelOutLen` for the rest, the batch loop's count
    `loopLen` of per-batch `ceil( (n << 16 or 17) / invRatio_Q16 )`), and every sample written is an int16. -/
theorem resampler_total (S : RS) (xs : List Int) (hI : Inv S) (hlen : S.cfg.fsIn ≤ xs.length)
    (hx : ∀ v ∈ xs, I16 v) :
    ∃ S' out, resampler S xs = .ok (S', out) ∧ Inv S' ∧ S'.cfg = S.cfg ∧
      out.length = outLen S.cfg xs.length ∧ ∀ v ∈ out, I16 v :=
  resampler_ok S xs hI hlen hx

example : Inv (fresh ⟨3, 480, 196608, 36, 1, 48, 16, 12, 4⟩) ∧
    outLen ⟨3, 480, 196608, 36, 1, 48, 16, 12, 4⟩ 960 = 320 := ⟨fresh_inv (by decide), by decide +kernel⟩

/-- By induction, for every accepted rate pair and every call history of blocks of at least 1 ms of int16 samples:
    init succeeds and every call is total, with the sample counts of `resampler_total`, int16 outputs, and the
    invariant and configuration still in place at the end. -/
theorem history_total (fsIn fsOut : Int) (forEnc : Bool) (hp : (fsIn, fsOut, forEnc) ∈ pairs) :
    ∃ c ∈ cfgTable, init fsIn fsOut forEnc = .ok (fresh c) ∧
      ∀ bs : List (List Int), GoodBlocks c bs →
        ∃ S' outs, run (fresh c) bs = .ok (S', outs) ∧ Inv S' ∧ S'.cfg = c ∧
          outs.map List.length = bs.map (fun b => outLen c b.length) ∧ ∀ o ∈ outs, ∀ v ∈ o, I16 v := by
  obtain ⟨c, hc, hi⟩ := init_accepted _ _ _ ((accepted_iff_mem _ _ _).2 hp)
  refine ⟨c, hc, hi, fun bs hg => ?_⟩
  obtain ⟨S', outs, hr, hI', hc', hl, ho, _⟩ := run_ok bs (fresh c) (fresh_inv hc) hg
  exact ⟨S', outs, hr, hI', hc', hl, ho⟩

example : GoodBlocks ⟨2, 80, 87382, 0, 0, 8, 12, 0, 0⟩ [List.replicate 160 32767, List.replicate 8 (-32768)] := by
  intro b hb
  simp only [List.mem_cons, List.not_mem_nil, or_false] at hb
  rcases hb with rfl | rfl
  · exact ⟨by simp, List.forall_mem_replicate.2 (Or.inr (by unfold I16; omega))⟩
  · exact ⟨by simp, List.forall_mem_replicate.2 (Or.inr (by unfold I16; omega))⟩

/-- For each of the 30 configurations the first kernel call (1 ms from delayBuf) writes exactly Fs_out_kHz samples,
    so the second kernel call's destination `&out[ Fs_out_kHz ]` (:195-208) is right behind it: the model's
    concatenation of the two outputs is what the code leaves in out[]. -/
theorem resampler_first_call_fills_one_ms : ∀ c ∈ cfgTable, kernelOutLen c c.fsIn = c.fsOut := first_ms_len

example : cfgTable ≠ [] := by decide

/-- The exact sample count the code implements, in closed form, for every configuration and every inLen:
    Fs_out_kHz for the first millisecond, then for the remaining m = inLen - Fs_in_kHz samples
      copy: m;   up2_HQ: 2 m;
      IIR_FIR / down_FIR, with B = batchSize = 10 ms: floor( m / B ) * 10 * Fs_out_kHz for the full batches plus
      ceil( ( m mod B ) * Fs_out / Fs_in ) for the last partial batch — which down_FIR processes only if it has more
      than one sample or is the only batch (`if( inLen > 1 )`, resampler_private_down_FIR.c:183: a single sample left over after a full
      batch is dropped), IIR_FIR whenever it is non-empty (`if( inLen > 0 )`, resampler_private_IIR_FIR.c:96).
    The per-batch count of the code, `ceil( ( n << 16 or 17 ) / invRatio_Q16 )`, equals `ceil( n * Fs_out / Fs_in )`
    for every batch length n ≤ B of every configuration (complete enumeration, `cfgTable_lenFacts`). -/
theorem out_len_formula (c : Cfg) (hc : c ∈ cfgTable) (inLen : Nat) :
    outLen c inLen = c.fsOut + restLen c (inLen - c.fsIn) := outLen_closed c hc inLen

example : restLen ⟨3, 480, 196608, 36, 1, 48, 16, 12, 4⟩ 481 = 160 ∧ restLen ⟨3, 480, 196608, 36, 1, 48, 16, 12, 4⟩ 482 = 161 ∧
    restLen ⟨2, 80, 87382, 0, 0, 8, 12, 0, 0⟩ 81 = 122 := by decide +kernel

/-- The block lengths the callers use: a whole number ms ≥ 1 of milliseconds gives exactly ms * Fs_out_kHz samples
    (= inLen * Fs_out / Fs_in), for every configuration and every ms. -/
theorem out_len_whole_ms (c : Cfg) (hc : c ∈ cfgTable) (ms : Nat) (h : 1 ≤ ms) :
    outLen c (ms * c.fsIn) = ms * c.fsOut := outLen_ms c hc ms h

example : (⟨3, 160, 87382, 18, 3, 16, 12, 3, 1⟩ : Cfg) ∈ cfgTable := by decide

/-- No 32-bit wrap in the interpolation sum of IIR_FIR (resampler_private_IIR_FIR.c:52-59): on a buffer of opus_int16 values — the buffer
    is an opus_int16 array — and for every index inside it, the model's sample (eight `silk_SMLABB` reduced mod 2^32)
    is SAT16( RSHIFT_ROUND( Σ buf_ptr[ i ] * coef[ i ], 15 ) ) with the sum in unbounded integers, and that sum fits
    opus_int32: the C `+` never overflows there. -/
theorem iir_fir_interpolation_exact (buf : List Int) (idx : Int) (h0 : 0 ≤ idx)
    (h : (idx / 65536).toNat + 8 ≤ buf.length) (hb : ∀ v ∈ buf, I16 v) :
    iirFirSample buf idx = .ok (Opus.SilkParams.sat16 (Opus.SilkParams.rshiftRound (exactAcc 0
      (((buf.drop (idx / 65536).toNat).take 8).zip (phaseCoefs (Opus.SilkParams.smulwb (idx % 65536) 12).toNat))) 15)) ∧
    ∀ (t : Fin 12) (w : List Int), (∀ v ∈ w, I16 v) → (exactAcc 0 (w.zip (phaseCoefs t.val))).natAbs ≤ 2147483647 :=
  ⟨iirFirSample_exact h0 h hb, fun t w hw => (iirFir_acc_exact t w hw).2⟩

example : ∀ v ∈ List.replicate 16 (-32768 : Int), I16 v :=
  List.forall_mem_replicate.2 (Or.inr (by unfold I16; omega))

/-- Chunk invariance, partial: for the two kernels that are plain folds over the samples — copy (Fs_in = Fs_out) and
    up2_HQ (Fs_out = 2 Fs_in) — one call on a ++ b equals a call on a followed by a call on b: the outputs concatenate
    and the live state (configuration, sIIR, sFIR, delayBuf[0 .. inputDelay) — the rest of delayBuf is overwritten by
    the next call before it is read) is the same, for EVERY cut that leaves both parts at least 1 ms long (no alignment
    needed: one call processes `stream S xs` = the inputDelay buffered samples ++ the input without its last
    inputDelay samples, and the streams of the two calls concatenate to the stream of the one).
    Partial with respect to ANY cut: the batch kernels IIR_FIR and down_FIR need the cut at a whole millisecond (the
    interpolation index restarts at every call and batch); that case is `chunk_invariance` below. -/
theorem chunk_invariance_fold_kernels_partial (S : RS) (a b : List Int) (hI : Inv S)
    (hfn : S.cfg.fn = useCopy ∨ S.cfg.fn = useUp2HQ) (ha : S.cfg.fsIn ≤ a.length) (hb : S.cfg.fsIn ≤ b.length) :
    ∃ S1 o1 S2 o2 S12 o12, resampler S a = .ok (S1, o1) ∧ resampler S1 b = .ok (S2, o2) ∧
      resampler S (a ++ b) = .ok (S12, o12) ∧ o12 = o1 ++ o2 ∧ S12.cfg = S2.cfg ∧ S12.sIIR = S2.sIIR ∧
      S12.sFIR = S2.sFIR ∧ S12.delayBuf.take S.cfg.inputDelay = S2.delayBuf.take S.cfg.inputDelay := by
  exact chunk_of_cut S a b hI.sized ha hb (Or.inl hfn) (Or.inl hfn)

example : Inv (fresh ⟨1, 80, 32768, 0, 0, 8, 16, 2, 0⟩) ∧ (fresh ⟨1, 80, 32768, 0, 0, 8, 16, 2, 0⟩).cfg.fn = useUp2HQ :=
  ⟨fresh_inv (by decide), rfl⟩

/-- Every state word stays representable in its C type over every call history from init: the six sIIR words are
    opus_int32; the sFIR words are opus_int16 in the i16 view (IIR_FIR kernel) and opus_int32 otherwise (`WordsOk`) —
    the model never holds a value the struct could not (its wrap-arounds are explicit `wrap32` / `sat16`).  Together
    with `history_total` (sizes, delayBuf int16, configuration) this is the complete state invariant. -/
theorem state_words_representable (c : Cfg) (hc : c ∈ cfgTable) (bs : List (List Int)) (hg : GoodBlocks c bs) :
    WordsOk (fresh c) ∧ ∀ r, run (fresh c) bs = .ok r → WordsOk r.1 :=
  ⟨fresh_words c, fun r hr => by
    obtain ⟨S', outs, hr', _, _, _, _, hW⟩ := run_ok bs (fresh c) (fresh_inv hc) hg
    rw [hr'] at hr
    injection hr with hr
    rw [← hr]
    exact hW (fresh_words c)⟩

example : GoodBlocks ⟨3, 160, 131072, 24, 1, 16, 8, 0, 3⟩ [] := fun _ h => by cases h

/-- The single-call form: a call on a state with representable words (and `Inv`) leaves representable words. -/
theorem call_keeps_words_representable (S : RS) (xs : List Int) (hI : Inv S) (hW : WordsOk S)
    (hlen : S.cfg.fsIn ≤ xs.length) (hx : ∀ v ∈ xs, I16 v) : ∀ r, resampler S xs = .ok r → WordsOk r.1 :=
  resampler_words S xs hI.sized hW hlen

example : WordsOk (fresh ⟨2, 80, 87382, 0, 0, 8, 12, 0, 0⟩) := fresh_words _

/-- The delay line, for every kernel and every state satisfying `Inv`: (1) one call runs the kernel on the first
    millisecond of `stream S xs` — the inputDelay buffered samples followed by the input without its last inputDelay
    samples — and then on the rest of it; (2) afterwards delayBuf[0 .. inputDelay) holds the last inputDelay input
    samples; (3) hence the streams of two consecutive calls on a, b concatenate to the stream of one call on a ++ b:
    across calls the kernels see the input delayed by exactly inputDelay samples, none lost or duplicated at a call
    boundary.  (Chunk invariance of the whole resampler thereby reduces to that of the kernel on its stream,
    `kernel_append`: at any cut for copy / up2_HQ above, at whole milliseconds for the batch kernels below.) -/
theorem delay_line (S : RS) (a b : List Int) (hI : Inv S) (ha : S.cfg.fsIn ≤ a.length) (hb : S.cfg.fsIn ≤ b.length)
    (hxa : ∀ v ∈ a, I16 v) :
    (resampler S a =
      (kernel { S with delayBuf := dbufAfterCopy S a } ((stream S a).take S.cfg.fsIn)).bind fun r1 =>
      (kernel r1.1 ((stream S a).drop S.cfg.fsIn)).bind fun r2 =>
      (blit r2.1.delayBuf 0 (a.drop (a.length - S.cfg.inputDelay))).bind fun db2 =>
      .ok ({ r2.1 with delayBuf := db2 }, r1.2 ++ r2.2)) ∧
    ∃ S1 o1, resampler S a = .ok (S1, o1) ∧
      S1.delayBuf.take S.cfg.inputDelay = a.drop (a.length - S.cfg.inputDelay) ∧
      stream S (a ++ b) = stream S a ++ stream S1 b := by
  have h3 := (cfg_ok hI.cfg).delay_le
  refine ⟨resampler_via_stream S a h3 (cfg_ok hI.cfg).fsIn_le hI.dbuf ha, ?_⟩
  obtain ⟨S1, o1, hr, _, hc1, hd⟩ := resampler_sized S a hI.sized ha
  exact ⟨S1, o1, hr, hd, stream_concat S S1 a b hc1 hd (by omega)⟩

example : stream (fresh ⟨3, 480, 196608, 36, 1, 48, 16, 12, 4⟩) (List.replicate 48 7) =
    List.replicate 12 0 ++ List.replicate 36 7 := by decide +kernel

/-- Chunk invariance of silk_resampler, every configuration (all four kernels): whenever both parts are a whole number
    of milliseconds (≥ 1 ms each) of int16 samples and the state satisfies `Inv`, one call on a ++ b equals a call on a
    followed by a call on b — the outputs concatenate, and the live state (configuration, sIIR, sFIR,
    delayBuf[0 .. inputDelay); the rest of delayBuf is overwritten by the next call before it is read) is the same.
    For the batch kernels IIR_FIR / down_FIR this is partition independence of the batch loop: on a whole number of
    milliseconds the loop equals the iteration of one-millisecond rounds whatever the batch size cut it into
    (`loop_eq_msIter`), because a round on 1 ms ++ y equals the round on the millisecond followed by the round on y
    — the interpolation index `(Fs_out_kHz + i) * invRatio_Q16` addresses the same samples and the same fractional
    phase as `i * invRatio_Q16` one millisecond later: one millisecond of indices overshoots one millisecond of samples by a
    few units of 2^-16 (invRatio_Q16 is rounded up), and for every index of the first millisecond of every configuration the
    overshoots of a whole batch cross neither a sample nor a phase boundary (`idx_shift_ms`; enumeration over the table,
    `cfgTable_partFacts`) — combined with the delay line (`delay_line`).  The sample values play no part (`chunk_ms`). -/
theorem chunk_invariance (S : RS) (a b : List Int) (hI : Inv S) (ka kb : Nat) (hka : 1 ≤ ka) (hkb : 1 ≤ kb)
    (ha : a.length = ka * S.cfg.fsIn) (hb : b.length = kb * S.cfg.fsIn)
    (hxa : ∀ v ∈ a, I16 v) (hxb : ∀ v ∈ b, I16 v) :
    ∃ S1 o1 S2 o2 S12 o12, resampler S a = .ok (S1, o1) ∧ resampler S1 b = .ok (S2, o2) ∧
      resampler S (a ++ b) = .ok (S12, o12) ∧ o12 = o1 ++ o2 ∧ S12.cfg = S2.cfg ∧ S12.sIIR = S2.sIIR ∧
      S12.sFIR = S2.sFIR ∧ S12.delayBuf.take S.cfg.inputDelay = S2.delayBuf.take S.cfg.inputDelay :=
  chunk_ms S a b hI.sized ka kb hka hkb ha hb

example : Inv (fresh ⟨3, 480, 196608, 36, 1, 48, 16, 12, 4⟩) ∧
    (List.replicate 480 (5 : Int)).length = 10 * (fresh ⟨3, 480, 196608, 36, 1, 48, 16, 12, 4⟩).cfg.fsIn :=
  ⟨fresh_inv (by decide), by rw [List.length_replicate]; rfl⟩

/-- No signed overflow in the all-pass sections of silk_resampler_private_up2_HQ (resampler_private_up2_HQ.c:56-101), PARTIAL.  For every
    history of opus_int16 inputs from a state within the magnitude invariant `ApInv` (the zero state of init is), the
    invariant persists, and in every step the three sections of the even phase and the first two of the odd phase
    compute the unreduced values: their silk_SUB32 / silk_SMULWB / silk_SMLAWB / silk_ADD32 never leave opus_int32 (the
    model's `wrap32` is the identity, the C code has no signed overflow there).
    Missing: the third section of the odd phase (coefficient -9994, gain 0.8475: the per-section magnitude invariant
    gives 2154e6 > 2^31, the true l1 gain of the cascade is needed), the AR2 recursion of down_FIR, and the formal
    link from `run` to the filter's input sequence (the filter is only ever fed delayBuf / in[] samples). -/
theorem up2hq_sections_no_overflow_partial :
    ApInv IIR.zero ∧
    (∀ (S : IIR) (xs : List Int), ApInv S → (∀ v ∈ xs, I16 v) → ApInv (up2hq S xs).1) ∧
    ∀ (S : IIR) (x : Int), ApInv S → I16 x →
      apSec (Opus.SilkParams.lshift32 x 10) S.s0 1746 = apSecExact (x * 1024) S.s0 1746 ∧
      apSec (apSecExact (x * 1024) S.s0 1746).1 S.s1 14986 = apSecExact (apSecExact (x * 1024) S.s0 1746).1 S.s1 14986 ∧
      apSec (Opus.SilkParams.lshift32 x 10) S.s3 6854 = apSecExact (x * 1024) S.s3 6854 ∧
      apSec (apSecExact (x * 1024) S.s3 6854).1 S.s4 25769 = apSecExact (apSecExact (x * 1024) S.s3 6854).1 S.s4 25769 ∧
      apSec3 (apSecExact (apSecExact (x * 1024) S.s0 1746).1 S.s1 14986).1 S.s2 (-26453) =
        apSec3Exact (apSecExact (apSecExact (x * 1024) S.s0 1746).1 S.s1 14986).1 S.s2 (-26453) :=
  ⟨apInv_zero, up2hq_apInv, fun S x h hx => (up2hqStep_bounds S x h hx).2⟩

example : hq0 0 = 1746 ∧ hq0 1 = 14986 ∧ hq0 2 = -26453 ∧ hq1 0 = 6854 ∧ hq1 1 = 25769 := by decide

end OpusProps.C03SilkResamp
