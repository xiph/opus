import OpusProofs.RangeCoderRoundTrip
import OpusProofs.RangeCoderStageA
import OpusProofs.RangeCoderBudget
import OpusProofs.RangeCoderPatchRun
import OpusProofs.RangeCoderLockstep
import OpusProofs.RangeCoderFlags
import OpusProofs.RangeCoderCodes
import OpusProofs.SilkSymsEncRoundTrip
import OpusProofs.OpusFrameSilk
import OpusProofs.OpusFrameRed
import OpusProofs.OpusFrameLockstepExample
/-
  Property C08 — "Range coder: the decoder inverts the encoder symbol for symbol, within budget".

  Model:  `Opus.RangeCoder`  (OpusModel/RangeCoder.lean: transcription of celt/entenc.c, celt/entdec.c,
          celt/entcode.c/.h; one `Ctx` mirroring `struct ec_ctx`; `Op` = one call with its arguments;
          `encOp`/`decOp` the encoder / mirrored decoder call; `encodeAll` = `ec_enc_init`, the calls,
          `ec_enc_done`).
  Every theorem quantifies over ALL operation lists (no length bound), ALL buffer contents and sizes.

  Vocabulary (OpusProofs/RangeCoder*.lean):
    `RngOk c`          2^23 < c.rng ≤ 2^31
    `Op.Legal`         documented parameter domain of one call (ft ≤ 2^16, logp 1..15, 1..25 raw bits, …)
    `Op.LegalAt c op`  `Op.Legal`, plus for `ec_enc_shrink` its assert and "only shrinks"; false for
                       `ec_enc_patch_initial_bits` (patch-style streams: `LegalAtP n`, `LegalRunP n`)
    `LegalRun c ops`   every operation of the list is `LegalAt` the state it is applied to
    `LegalRunP n c ops` the same, additionally allowing `ec_enc_patch_initial_bits(v, n)` with `v < 2^n`
    `lastPatch fl ops` the value last patched by `ops` (`fl` if none)
    `MatchAll ops xs`  the decoder's return values `xs` are, one by one, the values `ops` encoded
                       (`ec_decode`/`ec_decode_bin`: a cumulative frequency inside the symbol's `[fl, fh)`)
    `DecAll B S e d B` invariant D: decoder `d` reading the `S`-byte stream `B` mirrors encoder `e`
                       (same rng, same nbits_total, val = top − code, same raw-bit position, error 0)
    `ShrinksOk c ops`  every `ec_enc_shrink` of the list satisfies its assert and does not grow the buffer

  On the hypothesis `nbitsTotal < 4294967296` of the round-trip theorems: the C field `nbits_total` is an
  `int`; an execution in which it reaches 2^31 has signed overflow, i.e. undefined behaviour, and is
  outside any statement about the C code.  The model keeps the counter as an unbounded natural number,
  and the theorems only need it below 2^32 (so that the `opus_uint32` counter `ext` of buffered 0xFF
  bytes cannot wrap).  The hypothesis therefore only says "the C type's range was respected".
-/
namespace OpusProps.C08
open Opus Opus.RangeCoder

/-! ## Range invariant and bit accounting (independent of buffer space and errors) -/

/-- "rng stays in (2^23, 2^31]": a fresh encoder is normalised and every legal encoder call keeps
    the range normalised, whatever the buffer state and the error flag. -/
theorem rng_normalised (buf : List Nat) (size : Nat) (c : Enc) (op : Op) (hr : RngOk c) (hl : op.Legal) :
    RngOk (encInit buf size) ∧ RngOk (encOp c op) :=
  ⟨encInit_rngOk buf size, (encOp_stageA c op hr hl).1⟩

example : RngOk (encOp (encInit [0, 0, 0, 0] 4) (.encode 65535 65536 65536)) ∧
    (Op.encode 65535 65536 65536).Legal := by decide +kernel

/-- "the fractional count upper-bounds the whole count consistently": for every normalised range and
    every `nbits_total` an `int` can hold after `<<3`, `8·ec_tell − 7 ≤ ec_tell_frac ≤ 8·ec_tell`,
    i.e. `ec_tell = ⌈ec_tell_frac / 8⌉`. -/
theorem tell_frac_bounds (c : Ctx) (hr : RngOk c) (hn : 33 ≤ c.nbitsTotal) (hn2 : c.nbitsTotal < 536870912) :
    8 * tell c - 7 ≤ (tellFrac c : Int) ∧ (tellFrac c : Int) ≤ 8 * tell c :=
  tellFrac_bounds c hr hn hn2

example : RngOk (encInit [] 0) ∧ tell (encInit [] 0) = 1 ∧ tellFrac (encInit [] 0) = 8 := by decide +kernel

/-- "the fractional-bit formula over every range value class": the table-driven `ec_tell_frac` that is
    compiled (`#if 1`) equals the reference definition by iterated squaring (`#else` branch) for every
    value of the 16 leading bits of `rng`, hence for every `rng ≥ 2^15`.  Both variants are monotone in
    those 16 bits and agree at the two ends of each of the 8 classes of the correction table
    (`fracTable_eq_fracSquare`, OpusProofs/RangeCoderTell.lean). -/
theorem tell_frac_formula (c : Ctx) (hr : 32768 ≤ c.rng) :
    (∀ r, 32768 ≤ r → r < 65536 → fracTable r = fracSquare r) ∧
    tellFrac c = sub32 (u32 (c.nbitsTotal * 8)) (ilog c.rng * 8 + fracSquare (c.rng / 2 ^ (ilog c.rng - 16))) :=
  ⟨fun _ h1 h2 => fracTable_eq_fracSquare h1 h2, tellFrac_formula c hr⟩

/-- "the fractional count never decreases" (and neither does the whole count): one legal encoder call
    never lowers `ec_tell` or `ec_tell_frac`. -/
theorem tell_monotone (c : Enc) (op : Op) (hr : RngOk c) (hl : op.Legal) (hn : 33 ≤ c.nbitsTotal)
    (hn2 : (encOp c op).nbitsTotal < 536870912) :
    tell c ≤ tell (encOp c op) ∧ tellFrac c ≤ tellFrac (encOp c op) :=
  encOp_tell_mono c op hr hl hn hn2

example : tellFrac (encInit [0, 0] 2) < tellFrac (encOp (encInit [0, 0] 2) (.bitLogp 1 3)) := by decide +kernel

/-- "After every operation encoder and decoder report the same whole and fractional bit usage and the
    same range", in the form "given equal symbols" (no assumption on the buffer or on the encoder's
    error flag): if the decoder state has the encoder's `rng` and `nbits_total` and the decoder call
    returns the value the operation encoded, both sides agree again after the call on `rng`,
    `nbits_total`, `ec_tell` and `ec_tell_frac`.  For `ec_dec_uint` (which reports an out-of-range value
    only through its error flag) the decoder's `val` must be an `opus_uint32` and its error flag clear
    before and after the call. -/
theorem lockstep_symbols (e : Enc) (d : Dec) (op : Op) (hr : RngOk e) (h1 : d.rng = e.rng)
    (h2 : d.nbitsTotal = e.nbitsTotal) (hl : op.Legal)
    (hu : (∀ v ft, op ≠ .uint v ft) ∨ (d.val < 4294967296 ∧ d.error = 0 ∧ (decOp d op).2.error = 0))
    (hm : op.Matches (decOp d op).1) :
    (decOp d op).2.rng = (encOp e op).rng ∧ (decOp d op).2.nbitsTotal = (encOp e op).nbitsTotal ∧
    tell (decOp d op).2 = tell (encOp e op) ∧ tellFrac (decOp d op).2 = tellFrac (encOp e op) := by
  have he := encOp_rn e op hr hl
  have hd := decOp_rn d op (by unfold RngOk; rw [h1]; exact hr) hl hu hm
  rw [h1, h2, ← he] at hd
  have e1 : (decOp d op).2.rng = (encOp e op).rng := congrArg Prod.fst hd
  have e2 : (decOp d op).2.nbitsTotal = (encOp e op).nbitsTotal := congrArg Prod.snd hd
  obtain ⟨t1, t2⟩ := tell_eq_of_rn e1 e2
  exact ⟨e1, e2, t1, t2⟩

example : (Op.icdf 1 [3, 1, 0] 2).Legal ∧
    (Op.icdf 1 [3, 1, 0] 2).Matches (decOp (decInit [160, 0, 0, 0] 4) (.icdf 1 [3, 1, 0] 2)).1 ∧
    (decInit [160, 0, 0, 0] 4).rng = (encInit [0, 0, 0, 0] 4).rng := by decide +kernel

/-! ## The decoder inverts the encoder -/

/-
  The round-trip clause of the property is stated as two theorems:
    `decode_encode`          every operation list without `ec_enc_patch_initial_bits`
    `decode_encode_patched`  patch-style lists (first operation `ec_encode_bin(fl, fl+1, n)`, then any
                             operations and any number of `ec_enc_patch_initial_bits(v, n)`)
  A patch in a stream whose first `n` bits were not coded with probability `2^-n` has no defined
  decoded meaning (entenc.h) and is not part of the round trip; such streams are still covered by
  `outside_untouched` and by the state-by-state correspondence run.
-/

/-- "if the encoder reports no error then decoding the buffer with the same sequence of calls returns
    exactly the encoded values": for every list of operations — frequency-table symbols, power-of-two
    tables, inverse-CDF symbols (8- and 16-bit tables), log-probability bits, uniform integers up to
    2^32−1, raw bits, buffer shrinking, in any interleaving — each legal where it is applied, written
    into a buffer of any size with any initial content: if `ec_enc_done` leaves `error = 0` (and
    `nbits_total`, a C `int`, stayed below 2^32), then decoding the first `storage` bytes with the
    same calls returns exactly the encoded values and the decoder's error flag stays clear. -/
theorem decode_encode (buf : List Nat) (size : Nat) (ops : List Op) (hs : size ≤ buf.length)
    (hb : BytesOk buf) (hl : LegalRun (encInit buf size) ops)
    (hn : (encodeAll buf size ops).nbitsTotal < 4294967296)
    (herr : (encodeAll buf size ops).error = 0) :
    MatchAll ops (decRun (decInit ((encodeAll buf size ops).buf.take (encodeAll buf size ops).storage)
      (encodeAll buf size ops).storage) ops).1 ∧
    (decRun (decInit ((encodeAll buf size ops).buf.take (encodeAll buf size ops).storage)
      (encodeAll buf size ops).storage) ops).2.error = 0 :=
  ⟨(decode_encode_all buf size ops hs hb hl hn herr).1, (decode_encode_all buf size ops hs hb hl hn herr).2.err⟩

/-- A 40-operation stream in an 11-byte buffer: symbols of every kind interleaved with raw bits,
    a 26-bit uniform integer and a shrink from 12 to 11 bytes. -/
def exampleOps : List Op :=
  [.bitLogp 1 1, .encode 3 5 10, .bits 5 3, .icdf 1 [3, 1, 0] 2, .encodeBin 7 8 4, .bitLogp 0 15,
   .uint 41234567 50000000, .icdf16 2 [40000, 20000, 5, 0] 16, .bits 1 1, .encode 0 65535 65536,
   .bitLogp 1 2, .bitLogp 0 2, .encode 9 10 10, .shrink 11, .bits 2 2, .uint 1 2, .uint 1 3,
   .encodeBin 0 1 1, .icdf 0 [1, 0] 1, .bitLogp 0 1, .encode 1 2 3, .encode 2 3 3, .bits 0 1,
   .encodeBin 3 4 2, .bitLogp 1 4, .uint 0 3, .icdf 2 [3, 1, 0] 2, .encode 5 6 7, .bits 1 1,
   .bitLogp 0 3, .encode 0 2 4, .uint 7 9, .encodeBin 1 2 1, .bits 3 2, .bitLogp 0 1, .icdf 1 [1, 0] 1,
   .encode 1 3 4, .bitLogp 1 1, .uint 2 4, .bits 1 1]

example : exampleOps.length = 40 ∧ LegalRun (encInit (List.replicate 12 170) 12) exampleOps ∧
    (encodeAll (List.replicate 12 170) 12 exampleOps).error = 0 ∧
    (encodeAll (List.replicate 12 170) 12 exampleOps).storage = 11 ∧
    (encodeAll (List.replicate 12 170) 12 exampleOps).nbitsTotal < 4294967296 := by decide +kernel

/-- "After every operation encoder and decoder report the same whole and fractional bit usage and the
    same range": under the hypotheses of `decode_encode`, after every prefix `pre` of the
    operations the decoder (run on the finished buffer) and the encoder (at the time it had coded
    `pre`) have the same `rng` and the same `nbits_total`, hence the same `ec_tell` and `ec_tell_frac`;
    the decoder has returned the values of `pre` and its `val` is `top − code` (invariant D). -/
theorem lockstep_rng (buf : List Nat) (size : Nat) (pre suf : List Op) (hs : size ≤ buf.length)
    (hb : BytesOk buf) (hl : LegalRun (encInit buf size) (pre ++ suf))
    (hn : (encodeAll buf size (pre ++ suf)).nbitsTotal < 4294967296)
    (herr : (encodeAll buf size (pre ++ suf)).error = 0) :
    let e := encRun (encInit buf size) pre
    let d := (decRun (decInit ((encodeAll buf size (pre ++ suf)).buf.take
      (encodeAll buf size (pre ++ suf)).storage) (encodeAll buf size (pre ++ suf)).storage) pre).2
    d.rng = e.rng ∧ d.nbitsTotal = e.nbitsTotal ∧ tell d = tell e ∧ tellFrac d = tellFrac e ∧ RngOk d ∧
    DecAll ((encodeAll buf size (pre ++ suf)).buf.take (encodeAll buf size (pre ++ suf)).storage)
      (encodeAll buf size (pre ++ suf)).storage e d
      ((encodeAll buf size (pre ++ suf)).buf.take (encodeAll buf size (pre ++ suf)).storage) := by
  intro e d
  have h := (decode_encode_prefix buf size pre suf hs hb hl hn herr).2
  have hr : RngOk e := by
    obtain ⟨-, -, ri⟩ := encodeAll_prefix_ok buf size pre suf hs hb hl hn herr
    exact ⟨ri.inv.rng_lo, ri.inv.rng_hi⟩
  obtain ⟨t1, t2⟩ := tell_eq_of_rn h.rc.rng_eq h.rc.nbits_eq
  exact ⟨h.rc.rng_eq, h.rc.nbits_eq, t1, t2, by unfold RngOk; rw [h.rc.rng_eq]; exact hr, h⟩

example : LegalRun (encInit (List.replicate 12 170) 12) (exampleOps.take 17 ++ exampleOps.drop 17) ∧
    (encodeAll (List.replicate 12 170) 12 (exampleOps.take 17 ++ exampleOps.drop 17)).error = 0 := by
  decide +kernel

/-- "initial-bit patching": a patch-style stream — first operation `ec_encode_bin(fl, fl+1, n)` with
    `1 ≤ n ≤ 8`, then any legal operations interleaved with any number of
    `ec_enc_patch_initial_bits(v, n)` — written into a buffer of any size: if `ec_enc_done` leaves
    `error = 0`, the decoder's first `ec_decode_bin(n)` returns the LAST patched value `w`
    (`lastPatch`; `fl` if nothing was patched), and after `ec_dec_update(w, w+1, 2^n)` every other
    operation decodes to exactly the encoded value; the error flag stays clear and the decoder ends
    in lock-step with the encoder (same `rng`, same `nbits_total`). -/
theorem decode_encode_patched (buf : List Nat) (size n fl : Nat) (rest : List Op) (hs : size ≤ buf.length)
    (hb : BytesOk buf) (hn1 : 1 ≤ n) (hn8 : n ≤ 8) (hfl : fl < 2 ^ n)
    (hl : LegalRunP n (encOp (encInit buf size) (.encodeBin fl (fl + 1) n)) rest)
    (hnb : (encodeAll buf size (.encodeBin fl (fl + 1) n :: rest)).nbitsTotal < 4294967296)
    (herr : (encodeAll buf size (.encodeBin fl (fl + 1) n :: rest)).error = 0) :
    let e := encodeAll buf size (.encodeBin fl (fl + 1) n :: rest)
    let w := lastPatch fl rest
    let r := decRun (decInit (e.buf.take e.storage) e.storage) (.encodeBin w (w + 1) n :: rest)
    MatchAll (.encodeBin w (w + 1) n :: rest) r.1 ∧ r.1.head? = some w ∧ r.2.error = 0 ∧
    r.2.rng = (encRun (encInit buf size) (.encodeBin fl (fl + 1) n :: rest)).rng ∧
    r.2.nbitsTotal = (encRun (encInit buf size) (.encodeBin fl (fl + 1) n :: rest)).nbitsTotal := by
  intro e w r
  have h := decode_encode_patched_all buf size n fl rest hs hb hn1 hn8 hfl hl hnb herr
  refine ⟨h.1, ?_, h.2.err, h.2.rc.rng_eq, h.2.rc.nbits_eq⟩
  have hm := h.1
  show (decRun _ (.encodeBin w (w + 1) n :: rest)).1.head? = some w
  simp only [decRun] at hm ⊢
  simp only [List.head?_cons]
  have := hm.1
  simp only [Op.Matches] at this
  congr 1
  exact Nat.le_antisymm (Nat.lt_succ_iff.mp this.2) this.1

/-- A patch-style stream: one flag bit coded as `0`, other symbols, then the flag is patched to `1`
    (and once more to `0` and back). -/
def examplePatched : List Op :=
  [.bitLogp 1 3, .uint 77 1000, .bits 9 4, .patchInitial 1 2, .icdf 1 [3, 1, 0] 2, .patchInitial 0 2,
   .encode 2 3 5, .patchInitial 3 2, .bits 1 1]

example : LegalRunP 2 (encOp (encInit (List.replicate 6 255) 6) (.encodeBin 2 3 2)) examplePatched ∧
    (encodeAll (List.replicate 6 255) 6 (.encodeBin 2 3 2 :: examplePatched)).error = 0 ∧
    0 < (encodeAll (List.replicate 6 255) 6 (.encodeBin 2 3 2 :: examplePatched)).storage ∧
    lastPatch 2 examplePatched = 3 := by decide +kernel

/-- The SILK header flags (silk/enc_API.c:346-351 and 527-539, silk/dec_API.c:226-234).  The encoder's
    first call is the placeholder `ec_enc_icdf(0, {256 - (256 >> k), 0}, 8)` with
    `k = (nFramesPerPacket + 1) * nChannelsInternal ∈ 1..8`; the VAD/LBRR flags are written later with
    `ec_enc_patch_initial_bits(flags, k)`.  The decoder does NOT mirror these calls: it reads `k`
    single bits with `ec_dec_bit_logp(·, 1)`.  Theorem: for any legal continuation `rest` (with any
    number of patches), if `ec_enc_done` leaves `error = 0`, the decoder's `k` bit reads return the bits
    of the last patched `flags` value most significant first (`bitsOps`; zeros if never patched), every
    operation of `rest` then decodes to the encoded value, the decoder's error flag stays clear and it
    ends with the encoder's `rng` and `nbits_total`.  (Subsumes C09's `lbrr_flag_position`, which is the
    statement about the decoder alone.) -/
theorem silk_flags_roundtrip (buf : List Nat) (size k : Nat) (rest : List Op) (hs : size ≤ buf.length)
    (hb : BytesOk buf) (hk1 : 1 ≤ k) (hk8 : k ≤ 8)
    (hl : LegalRunP k (encOp (encInit buf size) (.icdf 0 (flagTable k) 8)) rest)
    (hnb : (encodeAll buf size (.icdf 0 (flagTable k) 8 :: rest)).nbitsTotal < 4294967296)
    (herr : (encodeAll buf size (.icdf 0 (flagTable k) 8 :: rest)).error = 0) :
    let e := encodeAll buf size (.icdf 0 (flagTable k) 8 :: rest)
    let r := decRun (decInit (e.buf.take e.storage) e.storage) (bitsOps (lastPatch 0 rest) k ++ rest)
    MatchAll (bitsOps (lastPatch 0 rest) k ++ rest) r.1 ∧ r.2.error = 0 ∧
    r.2.rng = (encRun (encInit buf size) (.icdf 0 (flagTable k) 8 :: rest)).rng ∧
    r.2.nbitsTotal = (encRun (encInit buf size) (.icdf 0 (flagTable k) 8 :: rest)).nbitsTotal := by
  intro e r
  have h := decode_encode_flags_all buf size k rest hs hb hk1 hk8 hl hnb herr
  exact ⟨h.1, h.2.err, h.2.rc.rng_eq, h.2.rc.nbits_eq⟩

/-- Mono, two frames per packet: `k = 3`; the flags `VAD0 VAD1 LBRR = 1 0 1` are patched in at the end. -/
def exampleSilk : List Op :=
  [.icdf 2 [200, 100, 50, 0] 8, .uint 12 100, .bitLogp 1 2, .encode 3 4 9, .patchInitial 5 3]

example : LegalRunP 3 (encOp (encInit (List.replicate 8 0) 8) (.icdf 0 (flagTable 3) 8)) exampleSilk ∧
    (encodeAll (List.replicate 8 0) 8 (.icdf 0 (flagTable 3) 8 :: exampleSilk)).error = 0 ∧
    bitsOps (lastPatch 0 exampleSilk) 3 = [.bitLogp 1 1, .bitLogp 0 1, .bitLogp 1 1] ∧
    (decRun (decInit ((encodeAll (List.replicate 8 0) 8 (.icdf 0 (flagTable 3) 8 :: exampleSilk)).buf.take 8) 8)
      (bitsOps 5 3 ++ exampleSilk)).1 = [1, 0, 1, 2, 12, 1, 3, 0] := by decide +kernel

/-! ## Composition with C17 — the Laplace code and the PVQ code through the real range coder

  `Code` (OpusModel/RangeCoderCodes.lean) is one coding step of the CELT layer: a plain range-coder call,
  `ec_laplace_encode(&value, fs, decay)` (= `ec_encode_bin(fl, fl+fs, 15)` with C17's interval), or
  `encode_pulses(y, N, K)` (= `ec_enc_uint(icwrs(y), V(N,K))`).  `decCode` is the decoder side
  (`ec_laplace_decode`, `decode_pulses`), whose calls depend on what the range decoder returns.
  `Code.Ok`: the Laplace pair satisfies C17's `LaplaceOk` (every pair of `e_prob_model` does), the
  pulse vector has `N ≥ 2`, `K = Σ|y_j|` pulses and `(N, K)` is reachable from the pulse cache (C17
  `Reach`).  `LegalCodes`: every step is `Ok` and every plain call is `LegalAt` its state. -/

/-- "decoder inverts encoder" for the two codes the CELT layer is built from: for every list of coding
    steps (Laplace symbols with any usable parameter pair, PVQ codewords of any reachable `(N, K)`, any
    other range-coder calls, in any interleaving), written into a buffer of any size: no `celt_assert`
    of laplace.c / cwrs.c fires on the encoder side, the steps are a legal run of range-coder calls,
    and if `ec_enc_done` reports no error then the decoder side does not assert either and returns the
    encoder's written-back (clamped) Laplace values, exactly the encoded pulse vectors and the encoded
    symbols; its error flag stays clear and it ends with the encoder's `rng` and `nbits_total`. -/
theorem laplace_pvq_roundtrip (buf : List Nat) (size : Nat) (cs : List Code) (hs : size ≤ buf.length)
    (hb : BytesOk buf) (hl : LegalCodes (encInit buf size) cs) :
    ∃ ops, codesOps cs = .ok ops ∧ encodeCodes buf size cs = .ok (encodeAll buf size ops) ∧
      LegalRun (encInit buf size) ops ∧
      ((encodeAll buf size ops).nbitsTotal < 4294967296 → (encodeAll buf size ops).error = 0 →
        ∃ vals d, decCodes (decInit ((encodeAll buf size ops).buf.take (encodeAll buf size ops).storage)
            (encodeAll buf size ops).storage) cs = .ok (vals, d) ∧
          MatchAllC cs vals ∧ d.error = 0 ∧ d.rng = (encRun (encInit buf size) ops).rng ∧
          d.nbitsTotal = (encRun (encInit buf size) ops).nbitsTotal) := by
  obtain ⟨ops, h1, h2, h3, h4⟩ := codes_roundtrip_all buf size cs hs hb hl
  refine ⟨ops, h1, h2, h3, fun hn herr => ?_⟩
  obtain ⟨vals, d, g1, g2, g3⟩ := h4 hn herr
  exact ⟨vals, d, g1, g2, g3.err, g3.rc.rng_eq, g3.rc.nbits_eq⟩

/-- A coarse-energy value, three raw bits, a 4-dimensional 2-pulse vector, and a Laplace value far
    outside the range (the encoder clamps 20000 to 30). -/
def exampleCodes : List Code :=
  [.laplace (-3) 9216 8128, .op (.bits 5 3), .pulses [0, 1, -1, 0] 2, .laplace 20000 9216 8128]

example : LegalCodes (encInit (List.replicate 10 0) 10) exampleCodes := by
  have e1 : (Code.laplace (-3) 9216 8128).encOps = .ok [.encodeBin 26948 28407 15] := by decide +kernel
  have e3 : (Code.pulses [0, 1, -1, 0] 2).encOps = .ok [.uint 11 32] := by decide +kernel
  have hr : OpusProofs.CwrsCache.Reach 4 2 (Opus.Gen.CeltTables.cacheBits.getD 125 0) :=
    ⟨3, 0, 123, 2, by decide, by decide, by decide, by decide, by decide, by decide, by decide, rfl⟩
  refine ⟨by show OpusProofs.Laplace.LaplaceOk 9216 8128 = true; decide +kernel, trivial, fun ops h => ?_⟩
  rw [e1] at h; injection h with h; subst h
  refine ⟨trivial, by decide +kernel, fun ops h => ?_⟩
  simp only [Code.encOps] at h; injection h with h; subst h
  refine ⟨⟨by decide, by decide, _, hr⟩, trivial, fun ops h => ?_⟩
  rw [e3] at h; injection h with h; subst h
  exact ⟨by show OpusProofs.Laplace.LaplaceOk 9216 8128 = true; decide +kernel, trivial, fun _ _ => trivial⟩

example : (do
      let e ← encodeCodes (List.replicate 10 0) 10 exampleCodes
      let r ← decCodes (decInit (e.buf.take e.storage) e.storage) exampleCodes
      pure (e.error, r.1) : Res (Int × List CodeVal)) =
    .ok (0, [.lap (-3), .sym 5, .vec [0, 1, -1, 0], .lap 30]) := by decide +kernel

/-! ## Budget and memory -/

/-- "If the bit usage reported at the end does not exceed 8 x buffer size, finishing the stream cannot
    fail": for every legal operation list (as in `decode_encode`) and every buffer (up to
    5·10^8 bytes, so that `nbits_total` cannot overflow), if `ec_tell` before `ec_enc_done` is at most
    `8 * storage` (the storage left by the last `ec_enc_shrink`), then `ec_enc_done` leaves `error = 0`
    (the flag is sticky, so no write of the run raised it). -/
theorem done_within_budget (buf : List Nat) (size : Nat) (ops : List Op) (hs : size ≤ buf.length)
    (hb : BytesOk buf) (hl : LegalRun (encInit buf size) ops) (hsz : size ≤ 500000000)
    (hfit : tell (encRun (encInit buf size) ops) ≤ 8 * ((encRun (encInit buf size) ops).storage : Int)) :
    (encodeAll buf size ops).error = 0 := by
  -- the buffer size bounds `nbits_total`
  have hr := (tell_run_mono ops (encInit buf size) (encInit_rngOk buf size) hl).2
  have hil := ilog_le_32 hr
  have hsto := (frame_encRun ops (encInit buf size) (frame_encInit buf size hs)
    (shrinksOk_of_legalRun ops _ hl)).sto
  refine done_within_budget_all buf size ops hs hb hl ?_ hfit
  unfold tell at hfit
  omega

example : tell (encRun (encInit (List.replicate 12 170) 12) exampleOps) = 86 ∧
    (encRun (encInit (List.replicate 12 170) 12) exampleOps).storage = 11 := by decide +kernel

/-- "bytes outside the buffer are untouched": for EVERY operation list (any parameters, legal or not,
    `ec_enc_patch_initial_bits` included; only each `ec_enc_shrink` must satisfy its own assert
    `offs + end_offs ≤ size` and not grow the buffer), whatever errors occur, the physical buffer
    keeps its length and every byte at an index `≥ size` is unchanged after the calls and after
    `ec_enc_done`; `storage` never exceeds the initial size and the write cursors stay inside it. -/
theorem outside_untouched (buf : List Nat) (size : Nat) (ops : List Op) (hs : size ≤ buf.length)
    (hk : ShrinksOk (encInit buf size) ops) :
    (encRun (encInit buf size) ops).buf.length = buf.length ∧
    (encRun (encInit buf size) ops).buf.drop size = buf.drop size ∧
    (encodeAll buf size ops).buf.length = buf.length ∧
    (encodeAll buf size ops).buf.drop size = buf.drop size ∧
    (encodeAll buf size ops).storage ≤ size ∧
    (encodeAll buf size ops).offs + (encodeAll buf size ops).endOffs ≤ (encodeAll buf size ops).storage := by
  have f1 := frame_encRun ops (encInit buf size) (frame_encInit buf size hs) hk
  have f2 := frame_encDone _ f1
  exact ⟨f1.len, f1.out, f2.len, f2.out, f2.sto, f2.cur⟩

example : ShrinksOk (encInit (List.replicate 12 170) 12) (exampleOps ++ [.patchInitial 1 1, .encode 7 3 0]) := by
  decide +kernel

/-- The range-coder contracts the encoder skeletons of C02/C05 assume for their `ec_tell` readings
    (OpusModel/EncSkel/Frame.lean, "Contracts on the oracle values"): `ec_tell ≥ 1`, and `= 1` on a fresh
    encoder; `ec_enc_bit_logp(·, logp)` raises `ec_tell` by at most `logp` (12 and 1 in opus_encoder.c),
    `ec_enc_uint(·, 256)` by at most 8; `ec_enc_done` leaves `rng` and `nbits_total`, hence `ec_tell` and
    `ec_tell_frac`, unchanged. -/
theorem tell_contracts (buf : List Nat) (size : Nat) (c : Enc) (hr : RngOk c) (hn : 33 ≤ c.nbitsTotal)
    (v logp u : Nat) (h1 : 1 ≤ logp) (h2 : logp ≤ 15) (hu : u < 256) :
    tell (encInit buf size) = 1 ∧ 1 ≤ tell c ∧
    tell (encOp c (.bitLogp v logp)) ≤ tell c + logp ∧ tell (encOp c (.uint u 256)) ≤ tell c + 8 ∧
    (encDone c).rng = c.rng ∧ (encDone c).nbitsTotal = c.nbitsTotal ∧
    tell (encDone c) = tell c ∧ tellFrac (encDone c) = tellFrac c := by
  obtain ⟨b1, b2⟩ := tell_step_bounds c hr v logp h1 h2 u hu
  obtain ⟨t1, t2⟩ := tell_eq_of_rn (encDone_rng c) (encDone_nbitsTotal c)
  have hil := ilog_le_32 hr
  -- the first component is `tell (encInit buf size)` unfolded
  refine ⟨by show (33 : Int) - ((ilog 2147483648 : Nat) : Int) = 1; decide +kernel, ?_, b1, b2, encDone_rng c, encDone_nbitsTotal c, t1, t2⟩
  unfold tell; omega

/-- "`8·(offs+end_offs)+1 ≤ ec_tell` and `offs+end_offs ≤ storage` at any time" (the contract behind the
    `celt_assert(offs+end_offs<=size)` of `ec_enc_shrink(&enc, (ec_tell+7)>>3)`): after every legal run
    that has not raised the error flag, the bytes written from both ends number strictly less than
    `ec_tell/8`, so shrinking the buffer to `(ec_tell+7)>>3` bytes (or anything larger) always satisfies
    the assert. -/
theorem bytes_below_tell (buf : List Nat) (size : Nat) (ops : List Op) (hs : size ≤ buf.length)
    (hb : BytesOk buf) (hl : LegalRun (encInit buf size) ops)
    (hn : (encRun (encInit buf size) ops).nbitsTotal < 4294967296)
    (herr : (encRun (encInit buf size) ops).error = 0) :
    let e := encRun (encInit buf size) ops
    8 * ((e.offs : Int) + e.endOffs) + 1 ≤ tell e ∧ (e.offs : Int) + e.endOffs ≤ (tell e + 7) / 8 ∧
    e.offs + e.endOffs ≤ e.storage ∧ e.storage ≤ size := by
  intro e
  obtain ⟨ac, ri⟩ := acct_run ops _ (runInv_encInit buf size hs hb) (acct_encInit buf size) hl hn herr
  obtain ⟨_, h2⟩ := bytes_lt_tell e ri ac
  have fr := frame_encRun ops (encInit buf size) (frame_encInit buf size hs) (shrinksOk_of_legalRun ops _ hl)
  exact ⟨h2, by omega, fr.cur, fr.sto⟩

example : (encRun (encInit (List.replicate 12 170) 12) exampleOps).offs = 5 ∧
    (encRun (encInit (List.replicate 12 170) 12) exampleOps).endOffs = 0 ∧
    tell (encRun (encInit (List.replicate 12 170) 12) exampleOps) = 86 := by decide +kernel

/-! ## Composition with C03: the SILK symbol layer, encoder against decoder -/

open Opus.SilkSyms Opus.SilkSymsEnc Opus.SilkSymsEncProofs in
/-- "What `silk_encode_indices` + `silk_encode_pulses` write, `silk_decode_indices` + `silk_decode_pulses`
    read back" — one mono packet of one SILK frame without LBRR data, through the real range coder.
    Encoder model: `OpusModel/SilkSymsEnc.lean` (`encodeMonoFrame` = header placeholder,
    `silk_encode_indices`, `silk_encode_pulses` with rate-level search, down-scaling, shell coder, LSBs and
    signs, then `ec_enc_patch_initial_bits(VAD<<1, 2)`), as a list of range-coder operations.
    Decoder model: C03's `silkDecodeCall` (`OpusModel/SilkSyms.lean`).
    For EVERY internal rate, 10 or 20 ms, every index assignment in the encoder's domain (`IxOk`: the
    `silk_assert`s of encode_indices.c, the VAD flag equal to `signalType ≠ 0`, unused members at the value
    the decoder reports) and every `opus_int8` pulse vector with |p| ≤ 127 (`PulsesOk`), any buffer: if
    `ec_enc_done` leaves `error = 0`, the decoder run on the produced bytes reports exactly the VAD/LBRR flags,
    the indices and the pulses that were encoded (`monoEvents`: `pulsesView` is the rate level, block sums,
    shift counts, amplitudes and signed pulses the encoder computed), its error flag is clear and it ends
    with the encoder's `rng` and `ec_tell`.  Whatever the decoder state `st` before the packet. -/
theorem silk_syms_roundtrip_frame (buf : List Nat) (size : Nat) (rate : Rate) (nbSubfr vad : Nat) (ix : Indices)
    (pulses : List Int) (ops : List Op) (st : SilkSt) (hs : size ≤ buf.length) (hb : BytesOk buf)
    (hnb : nbSubfr = 2 ∨ nbSubfr = 4) (hv : vad ≤ 1) (hix : IxOk rate nbSubfr (decide (vad ≠ 0)) 0 ix)
    (hp : PulsesOk (frameLength rate nbSubfr) pulses) (hops : encodeMonoFrame rate nbSubfr vad ix pulses = .ok ops)
    (hn : (encodeAll buf size ops).nbitsTotal < 4294967296) (herr : (encodeAll buf size ops).error = 0) :
    let e := encodeAll buf size ops
    let r := silkDecodeCall (monoCfg rate nbSubfr) true st (decInit (e.buf.take e.storage) e.storage)
    r.1 = monoEvents rate nbSubfr vad ix pulses (encRun (encInit buf size) ops).rng (tell (encRun (encInit buf size) ops)) ∧
    r.2.2.error = 0 ∧ r.2.2.rng = (encRun (encInit buf size) ops).rng ∧
    r.2.2.nbitsTotal = (encRun (encInit buf size) ops).nbitsTotal :=
  silk_syms_roundtrip_frame_all buf size rate nbSubfr vad ix pulses ops st hs hb hnb hv hix hp hops hn herr

/-- NB, 10 ms, voiced: all index kinds, an extension residual at either end, a block that needs two
    right-shifts (escape chain + LSBs), blocks without pulses, both signs. -/
def exampleIx : Opus.SilkSyms.Indices :=
  { signalType := 2, quantOffsetType := 1, gains := [37, 5], nlsf0 := 17, nlsfRes := [0, 3, -10, 10, 4, -4, 1, 0, -1, 2], interp := 4, lagIndex := 100, contourIndex := 2, perIndex := 1, ltp := [15, 0], ltpScale := 2, seed := 3 }

def examplePulses : List Int :=
  [0, 1, 0, -1, 2, 0, 0, 0, 0, 0, 0, 0, 0, 0, 0, 1] ++ List.replicate 16 0 ++
  [40, -3, 0, 0, 1, 0, 0, 0, 0, 0, -7, 0, 0, 0, 0, 0] ++ List.replicate 16 0 ++
  [0, 0, 0, 0, 0, 0, 0, -1, 0, 0, 0, 0, 0, 0, 0, 0]

open Opus.SilkSyms Opus.SilkSymsEnc in
example : IxOk .nb 2 (decide (1 ≠ 0)) 0 exampleIx ∧ PulsesOk (frameLength .nb 2) examplePulses :=
  ⟨⟨by decide, by decide, by decide, by decide, by decide, by decide, by decide, by decide, by decide, by decide,
    by decide, by decide, by decide, by decide, by decide, by decide, by decide⟩, ⟨by decide, by decide⟩⟩

open Opus.SilkSyms Opus.SilkSymsEnc Opus.SilkSymsEncProofs in
example : ∃ ops, encodeMonoFrame .nb 2 1 exampleIx examplePulses = .ok ops ∧ ops.length = 113 ∧
    (encodeAll (List.replicate 40 0) 40 ops).error = 0 ∧
    (silkDecodeCall (monoCfg .nb 2) true {} (decInit ((encodeAll (List.replicate 40 0) 40 ops).buf.take
      (encodeAll (List.replicate 40 0) 40 ops).storage) (encodeAll (List.replicate 40 0) 40 ops).storage)).1.length = 4 := by
  refine ⟨(match encodeMonoFrame .nb 2 1 exampleIx examplePulses with | .ok o => o | _ => []), ?_⟩
  decide +kernel

open Opus.SilkSyms Opus.SilkSymsEnc Opus.SilkSymsEncProofs in
/-- "What the SILK payload writer writes, `silk_Decode` reads back" — a WHOLE payload: mono or stereo, 1-3 frames
    of 10 or 20 ms, with or without LBRR data, through the real range coder.
    Encoder model: `packetOps` (OpusModel/SilkSymsEnc.lean, transcribing enc_API.c:344-397, 437-539): header
    placeholder, LBRR-flags symbols, the LBRR frames of the previous packet (stereo: predictor and, if the side
    channel has no LBRR frame, mid-only flag; conditional coding after a present LBRR frame), then per frame the
    stereo predictor, the mid-only flag where the side VAD flag is clear, the mid frame and — unless mid-only — the
    side frame, with `condCoding` INDEPENDENT for the first frame, INDEPENDENT_NO_LTP_SCALING for a side frame
    after a mid-only frame, CONDITIONAL otherwise and the `ec_prevSignalType`/`ec_prevLagIndex` memory threaded
    through LBRR and regular frames; finally `ec_enc_patch_initial_bits` with the VAD/LBRR flag bits.
    Decoder model: C03's `silkCalls` (normal decoding: the LBRR data is read and dropped).
    For EVERY input in the encoder's domain (`PacketOk`: flags are flags, every coded frame satisfies `IxOk` with
    the VAD flag the header carries and `PulsesOk`, stereo indices in the domain of `silk_stereo_encode_pred`, a
    mid-only flag only where the side VAD flag is clear), any buffer and ANY decoder history `st`: if `ec_enc_done`
    leaves `error = 0`, the decoder run on the produced bytes reports exactly `packetEvs` — the header flags of both
    channels, every LBRR frame's and every regular frame's indices (with the `condCoding` and the memory the
    decoder handed over) and pulses, every predictor and mid-only flag, in order, and for every call the `rng` and
    `ec_tell` the ENCODER had when it had written that call (`prefixOps`) — its error flag is clear, and it ends
    with the encoder's final `rng` and `nbits_total`.  (`silk_syms_roundtrip_frame` states the case mono, one frame,
    no LBRR for the frame-level encoder model `encodeMonoFrame`.  FEC decoding — `lostFlag = 2`, which reads only the
    LBRR frames — is not covered.) -/
theorem silk_syms_roundtrip (buf : List Nat) (size : Nat) (cfg : Cfg) (pk : PacketIn) (st : SilkSt)
    (hs : size ≤ buf.length) (hb : BytesOk buf) (hok : PacketOk cfg pk)
    (hn : (encodeAll buf size (packetOps cfg pk)).nbitsTotal < 4294967296)
    (herr : (encodeAll buf size (packetOps cfg pk)).error = 0) :
    let e := encodeAll buf size (packetOps cfg pk)
    let r := silkCalls cfg cfg.nfpp true st (decInit (e.buf.take e.storage) e.storage)
    r.1 = packetEvs cfg pk (fun j => ((encRun (encInit buf size) (prefixOps cfg pk j)).rng,
      tell (encRun (encInit buf size) (prefixOps cfg pk j)))) ∧
    r.2.2.error = 0 ∧ r.2.2.rng = (encRun (encInit buf size) (packetOps cfg pk)).rng ∧
    r.2.2.nbitsTotal = (encRun (encInit buf size) (packetOps cfg pk)).nbitsTotal :=
  silk_syms_roundtrip_all buf size cfg pk st hs hb hok hn herr

/-- NB, 10 ms, stereo, two frames per packet.  LBRR data: mid frame 0 and 1 (the second coded conditionally),
    side frame 1 only (so frame 0 carries an LBRR mid-only flag).  Regular frames: frame 0 mid-only (side VAD 0),
    frame 1 with a side frame coded INDEPENDENT_NO_LTP_SCALING; the mid frame 1 conditionally with a delta lag. -/
def exampleCfg : Opus.SilkSyms.Cfg := { rate := .nb, nCh := 2, nfpp := 2, nbSubfr := 2, lostFlag := 0 }

def exampleIxOf (sig cc lag seed : Nat) : Opus.SilkSyms.Indices :=
  { signalType := sig, quantOffsetType := seed % 2, gains := [if cc = 2 then 30 else 50, 5], nlsf0 := 17 + seed, nlsfRes := [0, 3, -10, 10, 4, -4, 1, 0, -1, 2], interp := 4, lagIndex := if sig = 2 then lag else 0, contourIndex := if sig = 2 then 2 else 0, perIndex := if sig = 2 then 1 else 0, ltp := if sig = 2 then [15, 0] else [], ltpScale := if sig = 2 ∧ cc = 0 then 2 else 0, seed := seed % 4 }

def examplePulsesOf (k : Nat) : List Int :=
  (List.range 80).map (fun (i : Nat) => if (i + k) % 13 = 0 then ((i : Int) % 7 - 3) * (if i < 16 then 9 else 1) else 0)

def examplePacket : Opus.SilkSymsEnc.PacketIn :=
  { ch0 := { vad := [1, 1], lbrrFlags := [1, 1], lbrr := [⟨exampleIxOf 2 0 100 1, examplePulsesOf 1⟩, ⟨exampleIxOf 2 2 105 2, examplePulsesOf 2⟩], frames := [⟨exampleIxOf 2 0 90 3, examplePulsesOf 3⟩, ⟨exampleIxOf 2 2 93 0, examplePulsesOf 4⟩], prev := {} },
    ch1 := { vad := [0, 1], lbrrFlags := [0, 1], lbrr := [default, ⟨exampleIxOf 1 0 0 1, examplePulsesOf 5⟩], frames := [default, ⟨exampleIxOf 2 1 40 1, examplePulsesOf 7⟩], prev := {} },
    predIx := [[1, 2, 3, 2, 4, 1], [0, 0, 4, 2, 1, 0]], midOnly := [1, 0], lbrrPredIx := [[2, 1, 0, 0, 3, 4], [1, 1, 1, 1, 1, 1]], lbrrMidOnly := [1, 0] }

open Opus.SilkSyms Opus.SilkSymsEnc Opus.SilkSymsEncProofs in
example : PacketOk exampleCfg examplePacket :=
  ⟨by decide, by decide, by decide, by decide, by decide +kernel, by decide +kernel, by decide +kernel,
   by decide +kernel, by decide +kernel, by decide +kernel⟩

open Opus.SilkSyms Opus.SilkSymsEnc Opus.SilkSymsEncProofs in
example : (packetOps exampleCfg examplePacket).length = 496 ∧
    (encodeAll (List.replicate 200 0) 200 (packetOps exampleCfg examplePacket)).error = 0 ∧
    (silkCalls exampleCfg 2 true {} (decInit ((encodeAll (List.replicate 200 0) 200 (packetOps exampleCfg examplePacket)).buf.take
      (encodeAll (List.replicate 200 0) 200 (packetOps exampleCfg examplePacket)).storage)
      (encodeAll (List.replicate 200 0) 200 (packetOps exampleCfg examplePacket)).storage)).1.length = 22 := by
  decide +kernel

/-! ## Frame-level lock step: encoder `rangeFinal` = decoder final range -/

open Opus.SilkSyms Opus.SilkSymsEnc Opus.SilkSymsEncProofs Opus.OpusFrameEnc Opus.OpusFrameProofs in
/-- C02's clause "ends each packet with a range-coder final state identical to the one the encoder reports", at
    the symbol level, for a SILK-only Opus frame without redundancy.
    Encoder model: `silkOnlyFrame` (OpusModel/OpusFrameEnc.lean; opus_encoder.c:1871, 2271-2275, 2421, 2448-2469):
    `ec_enc_init(data+1, max_data_bytes-1)`, the SILK payload (`packetOps`), `ret = (ec_tell+7)>>3`, `ec_enc_done`,
    `rangeFinal = enc.rng`, and the trailing-zero strip `while(ret>2&&data[ret]==0)ret--`; the frame handed to the
    packet layer is the first `ret` bytes.  Decoder model: C03's `decodeOpusFrame` (SILK layer + redundancy parse),
    run on exactly those bytes with the mode / bandwidth / channel count / duration of the TOC.
    For every NB/MB/WB bandwidth, 10/20/40/60 ms, every `PacketOk` input, any caller buffer content and any decoder
    history: on the encoder's normal path (`ec_tell ≤ 8·(max_data_bytes−1)`, i.e. not the "SILK busted its target"
    fallback; `ec_enc_done` without error) the decoder infers NO redundancy from the frame length, reports exactly
    what was encoded (`packetEvs`), its error flag is clear, and its final range `dec.rng` — what
    `OPUS_GET_FINAL_RANGE` returns — equals the encoder's `rangeFinal`.
    What makes the cut and the strip harmless is proved, not assumed: without raw bits `ec_enc_done` writes only
    zeros from byte `(ec_tell+7)>>3` on (`encDone_zero_tail`: `ec_tell` is a conservative count), and the decoder
    reads zeros beyond the end of its buffer (`contains_trunc`). -/
theorem opus_frame_lockstep_silk (buf : List Nat) (maxData bandwidth nCh ms10 : Nat) (pk : PacketIn) (st : SilkSt)
    (hbw : bandwidth = 1101 ∨ bandwidth = 1102 ∨ bandwidth = 1103)
    (hms : ms10 = 100 ∨ ms10 = 200 ∨ ms10 = 400 ∨ ms10 = 600)
    (hs : maxData - 1 ≤ buf.length) (hb : BytesOk buf) (hok : PacketOk (silkCfg bandwidth nCh ms10) pk)
    (hn : (encodeAll buf (maxData - 1) (packetOps (silkCfg bandwidth nCh ms10) pk)).nbitsTotal < 4294967296)
    (herr : (encodeAll buf (maxData - 1) (packetOps (silkCfg bandwidth nCh ms10) pk)).error = 0)
    (hfit : tell (encRun (encInit buf (maxData - 1)) (packetOps (silkCfg bandwidth nCh ms10) pk)) ≤
      8 * ((maxData - 1 : Nat) : Int)) :
    ∃ o, decodeOpusFrame 1000 bandwidth nCh ms10 false st
        (silkOnlyFrame buf maxData (silkCfg bandwidth nCh ms10) pk).payload = .ok o ∧
      o.redundancy = 0 ∧ o.dec.error = 0 ∧
      o.dec.rng = (silkOnlyFrame buf maxData (silkCfg bandwidth nCh ms10) pk).rangeFinal ∧
      (silkOnlyFrame buf maxData (silkCfg bandwidth nCh ms10) pk).rangeFinal =
        (encRun (encInit buf (maxData - 1)) (packetOps (silkCfg bandwidth nCh ms10) pk)).rng ∧
      o.evs = packetEvs (silkCfg bandwidth nCh ms10) pk (fun j =>
        ((encRun (encInit buf (maxData - 1)) (prefixOps (silkCfg bandwidth nCh ms10) pk j)).rng,
         tell (encRun (encInit buf (maxData - 1)) (prefixOps (silkCfg bandwidth nCh ms10) pk j)))) :=
  opus_frame_lockstep_silk_all buf maxData bandwidth nCh ms10 pk st hbw hms hs hb hok hn herr hfit

/-- NB mono 10 ms frame from `exampleIx` / `examplePulses`, budget 101 bytes, caller buffer full of 0xAA. -/
def exampleMonoPacket : Opus.SilkSymsEnc.PacketIn :=
  { ch0 := { vad := [1], lbrrFlags := [0], lbrr := [], frames := [⟨exampleIx, examplePulses⟩], prev := {} },
    ch1 := default, predIx := [], midOnly := [], lbrrPredIx := [], lbrrMidOnly := [] }

open Opus.SilkSyms Opus.SilkSymsEnc Opus.SilkSymsEncProofs Opus.OpusFrameEnc in
example : PacketOk (silkCfg 1101 1 100) exampleMonoPacket :=
  Opus.OpusFrameProofs.Example.monoOk

open Opus.SilkSyms Opus.SilkSymsEnc Opus.OpusFrameEnc in
example : (encodeAll (List.replicate 100 170) 100 (packetOps (silkCfg 1101 1 100) exampleMonoPacket)).error = 0 ∧
    tell (encRun (encInit (List.replicate 100 170) 100) (packetOps (silkCfg 1101 1 100) exampleMonoPacket)) = 247 ∧
    (silkOnlyFrame (List.replicate 100 170) 101 (silkCfg 1101 1 100) exampleMonoPacket).payload.length = 31 ∧
    (match decodeOpusFrame 1000 1101 1 100 false {} (silkOnlyFrame (List.replicate 100 170) 101 (silkCfg 1101 1 100) exampleMonoPacket).payload with
     | .ok o => decide (o.dec.rng = (silkOnlyFrame (List.replicate 100 170) 101 (silkCfg 1101 1 100) exampleMonoPacket).rangeFinal ∧ o.redundancy = 0)
     | _ => false) = true := by
  decide +kernel

open Opus.SilkSyms Opus.SilkSymsEnc Opus.SilkSymsEncProofs Opus.OpusFrameEnc Opus.OpusFrameProofs in
/-- Frame-level lock step for a SILK-only frame WITH redundancy (mode transition: a separately coded 5 ms CELT
    frame of `R.length` bytes follows the main part; opus_encoder.c:2239-2263, 2271-2275, 2306-2320 / 2399-2413, 2421).
    Encoder model `silkRedFrame`: SILK payload, `ec_enc_bit_logp(celt_to_silk, 1)`, `ret = (ec_tell+7)>>3`, `ec_enc_done`,
    frame = first `ret` bytes (no strip) ++ `R`, `rangeFinal = enc.rng ^ rr`.  Decoder: C03's `decodeOpusFrame` on the whole
    frame — its range decoder is initialised on `ret + R.length` bytes, so it READS INTO the redundancy bytes while decoding the
    SILK part; that this is harmless is proved (`encDone_contains_ext`: every stream that starts with the bytes `ec_enc_done`
    wrote has its code value in the final interval) — then `decRangeFinal` (opus_decoder.c:558-616, 670-673).
    Conclusion: the decoder infers redundancy from the length, reads `celt_to_silk` back, computes `redundancy_bytes = R.length`,
    reports the encoded SILK events, is in lock step with the encoder (`dec.rng = enc.rng`, error 0), and its final range
    `dec.rng ^ redundant_rng` equals the encoder's `rangeFinal`.
    Hypotheses that remain: the DSP decisions (`PacketIn`, `celt_to_silk`); `hgate`, the decoder's length test
    `ec_tell_after_SILK + 17 ≤ 8·len` — C02 `redundancy_mirror_silk` derives it from the encoder's own test and its
    `redundancy_bytes` clamp; `hfit`/`herr`, the encoder's normal path; and `hred : CeltFrameRT`, the round trip of the
    redundancy CELT frame as far as the final range is concerned (discharged in `opus_frame_lockstep_silk_red_celt` by C17's `celt_frame_roundtrip`). -/
theorem opus_frame_lockstep_silk_red (buf : List Nat) (maxData bandwidth nCh ms10 spf48 : Nat) (pk : PacketIn) (st : SilkSt)
    (c2s : Nat) (R : Bytes) (rr : Nat)
    (hbw : bandwidth = 1101 ∨ bandwidth = 1102 ∨ bandwidth = 1103)
    (hms : ms10 = 100 ∨ ms10 = 200 ∨ ms10 = 400 ∨ ms10 = 600)
    (hs : maxData - 1 ≤ buf.length) (hb : BytesOk buf) (hok : PacketOk (silkCfg bandwidth nCh ms10) pk)
    (hc2s : c2s ≤ 1) (hR : BytesOk R)
    (hn : (encodeAll buf (maxData - 1) (packetOps (silkCfg bandwidth nCh ms10) pk ++ redSigOps false true 1 c2s R.length)).nbitsTotal < 4294967296)
    (herr : (encodeAll buf (maxData - 1) (packetOps (silkCfg bandwidth nCh ms10) pk ++ redSigOps false true 1 c2s R.length)).error = 0)
    (hfit : tell (encRun (encInit buf (maxData - 1)) (packetOps (silkCfg bandwidth nCh ms10) pk ++ redSigOps false true 1 c2s R.length)) ≤
      8 * ((maxData - 1 : Nat) : Int))
    (hgate : tell (encRun (encInit buf (maxData - 1)) (packetOps (silkCfg bandwidth nCh ms10) pk)) + 17 ≤
      8 * (((tell (encRun (encInit buf (maxData - 1)) (packetOps (silkCfg bandwidth nCh ms10) pk ++ redSigOps false true 1 c2s R.length)) + 7) / 8) +
        (R.length : Int)))
    (hred : CeltFrameRT { start := 0, end_ := Opus.CeltSyms.endBandOf bandwidth, C := nCh, LM := 1 } R.length (decInit R R.length) rr) :
    ∃ o, decodeOpusFrame 1000 bandwidth nCh ms10 false st
        (silkRedFrame buf maxData (silkCfg bandwidth nCh ms10) pk c2s R rr).payload = .ok o ∧
      o.redundancy = 1 ∧ o.celtToSilk = c2s ∧ o.redundancyBytes = R.length ∧ o.dec.error = 0 ∧
      o.dec.rng = (encRun (encInit buf (maxData - 1)) (packetOps (silkCfg bandwidth nCh ms10) pk ++ redSigOps false true 1 c2s R.length)).rng ∧
      o.evs = packetEvs (silkCfg bandwidth nCh ms10) pk (fun j =>
        ((encRun (encInit buf (maxData - 1)) (prefixOps (silkCfg bandwidth nCh ms10) pk j)).rng,
         tell (encRun (encInit buf (maxData - 1)) (prefixOps (silkCfg bandwidth nCh ms10) pk j)))) ∧
      decRangeFinal 1000 bandwidth nCh spf48 (silkRedFrame buf maxData (silkCfg bandwidth nCh ms10) pk c2s R rr).payload o =
        .ok (silkRedFrame buf maxData (silkCfg bandwidth nCh ms10) pk c2s R rr).rangeFinal :=
  opus_frame_lockstep_silk_red_all buf maxData bandwidth nCh ms10 spf48 pk st c2s R rr hbw hms hs hb hok hc2s hR hn herr hfit hgate hred

/-- A 3-byte redundancy frame that C03's CELT decoder model accepts, and its final range. -/
def exampleRed : List Nat := [10, 200, 33]

open Opus.OpusFrameEnc in
example : CeltFrameRT { start := 0, end_ := Opus.CeltSyms.endBandOf 1101, C := 1, LM := 1 } exampleRed.length
    (decInit exampleRed exampleRed.length) 56531000 := by
  have h1 : (match Opus.CeltBands.celtFrame { start := 0, end_ := Opus.CeltSyms.endBandOf 1101, C := 1, LM := 1 } exampleRed.length
      (decInit exampleRed exampleRed.length) with | .ok cf => cf.fin.c.rng | _ => 0) = 56531000 := by decide +kernel
  unfold CeltFrameRT
  generalize Opus.CeltBands.celtFrame { start := 0, end_ := Opus.CeltSyms.endBandOf 1101, C := 1, LM := 1 } exampleRed.length
      (decInit exampleRed exampleRed.length) = r at h1
  cases r with
  | ok cf => exact ⟨cf, rfl, h1⟩
  | err e => simp at h1
  | oob => simp at h1
  | abort => simp at h1

open Opus.SilkSyms Opus.SilkSymsEnc Opus.OpusFrameEnc in
example : (encodeAll (List.replicate 100 170) 100 (packetOps (silkCfg 1101 1 100) exampleMonoPacket ++ redSigOps false true 1 0 3)).error = 0 ∧
    tell (encRun (encInit (List.replicate 100 170) 100) (packetOps (silkCfg 1101 1 100) exampleMonoPacket ++ redSigOps false true 1 0 3)) = 248 ∧
    (247 : Int) + 17 ≤ 8 * ((248 + 7) / 8 + 3) ∧
    (silkRedFrame (List.replicate 100 170) 101 (silkCfg 1101 1 100) exampleMonoPacket 0 exampleRed 56531000).payload.length = 34 ∧
    (match decodeOpusFrame 1000 1101 1 100 false {} (silkRedFrame (List.replicate 100 170) 101 (silkCfg 1101 1 100) exampleMonoPacket 0 exampleRed 56531000).payload with
     | .ok o => (match decRangeFinal 1000 1101 1 480 (silkRedFrame (List.replicate 100 170) 101 (silkCfg 1101 1 100) exampleMonoPacket 0 exampleRed 56531000).payload o with
                 | .ok r => decide (r = (silkRedFrame (List.replicate 100 170) 101 (silkCfg 1101 1 100) exampleMonoPacket 0 exampleRed 56531000).rangeFinal ∧ o.redundancy = 1 ∧ o.redundancyBytes = 3)
                 | _ => false)
     | _ => false) = true := by
  decide +kernel

open Opus.SilkSyms Opus.SilkSymsEnc Opus.SilkSymsEncProofs Opus.OpusFrameEnc Opus.OpusFrameProofs in
/-- `opus_frame_lockstep_silk_red` without the hypothesis `CeltFrameRT`: the redundancy frame is the packet `w.bytes` that C17's
    CELT encoder model `encFrame` (header, allocation, fine energy, band data, finalisation) produces on a coder of its own
    from the CELT decisions `s0.ds`, `redundant_rng` is that model's final `rng`; `CeltFrameRT` is discharged by C17's
    `celt_frame_roundtrip` (`OwnCoderFrame` bundles its hypotheses for `P0 = []`: a non-silent frame, no coder error, the
    final length is the budgeted size or leaves the VBR margin, tapset and stereo decisions in range).  So for a SILK-only
    frame with redundancy, "the decoder ends the packet with the final range the encoder reports" holds at the symbol level
    end to end: SILK symbols (this property and C03's model), `celt_to_silk`, and every CELT symbol of the redundancy frame
    (C17), `rangeFinal = enc.rng ^ redundant_rng` on both sides.  The remaining hypotheses are the DSP decisions (inputs),
    the encoder's normal path (`herr`, `hfit`) and the length contract `hgate` (C02 `redundancy_mirror_silk`). -/
theorem opus_frame_lockstep_silk_red_celt (buf : List Nat) (maxData bandwidth nCh ms10 spf48 : Nat) (pk : PacketIn)
    (st : SilkSt) (c2s : Nat) (w : OpusProofs.CeltHdr.World) (ccfg : Opus.CeltSymsEnc.EncCfg) (s0 : Opus.CeltSymsEnc.St)
    (fr : Opus.CeltBandsEnc.EncFrame)
    (hbw : bandwidth = 1101 ∨ bandwidth = 1102 ∨ bandwidth = 1103)
    (hms : ms10 = 100 ∨ ms10 = 200 ∨ ms10 = 400 ∨ ms10 = 600)
    (hs : maxData - 1 ≤ buf.length) (hb : BytesOk buf) (hok : PacketOk (silkCfg bandwidth nCh ms10) pk)
    (hc2s : c2s ≤ 1) (hown : OwnCoderFrame w ccfg s0 fr)
    (hcc : ccfg.start = 0 ∧ ccfg.end_ = Opus.CeltSyms.endBandOf bandwidth ∧ ccfg.C = nCh ∧ ccfg.LM = 1)
    (hn : (encodeAll buf (maxData - 1) (packetOps (silkCfg bandwidth nCh ms10) pk ++ redSigOps false true 1 c2s w.bytes.length)).nbitsTotal < 4294967296)
    (herr : (encodeAll buf (maxData - 1) (packetOps (silkCfg bandwidth nCh ms10) pk ++ redSigOps false true 1 c2s w.bytes.length)).error = 0)
    (hfit : tell (encRun (encInit buf (maxData - 1)) (packetOps (silkCfg bandwidth nCh ms10) pk ++ redSigOps false true 1 c2s w.bytes.length)) ≤
      8 * ((maxData - 1 : Nat) : Int))
    (hgate : tell (encRun (encInit buf (maxData - 1)) (packetOps (silkCfg bandwidth nCh ms10) pk)) + 17 ≤
      8 * (((tell (encRun (encInit buf (maxData - 1)) (packetOps (silkCfg bandwidth nCh ms10) pk ++ redSigOps false true 1 c2s w.bytes.length)) + 7) / 8) +
        (w.bytes.length : Int))) :
    ∃ o, decodeOpusFrame 1000 bandwidth nCh ms10 false st
        (silkRedFrame buf maxData (silkCfg bandwidth nCh ms10) pk c2s w.bytes fr.fin.rng).payload = .ok o ∧
      o.redundancy = 1 ∧ o.celtToSilk = c2s ∧ o.redundancyBytes = w.bytes.length ∧ o.dec.error = 0 ∧
      o.dec.rng = (encRun (encInit buf (maxData - 1)) (packetOps (silkCfg bandwidth nCh ms10) pk ++ redSigOps false true 1 c2s w.bytes.length)).rng ∧
      o.evs = packetEvs (silkCfg bandwidth nCh ms10) pk (fun j =>
        ((encRun (encInit buf (maxData - 1)) (prefixOps (silkCfg bandwidth nCh ms10) pk j)).rng,
         tell (encRun (encInit buf (maxData - 1)) (prefixOps (silkCfg bandwidth nCh ms10) pk j)))) ∧
      decRangeFinal 1000 bandwidth nCh spf48 (silkRedFrame buf maxData (silkCfg bandwidth nCh ms10) pk c2s w.bytes fr.fin.rng).payload o =
        .ok (silkRedFrame buf maxData (silkCfg bandwidth nCh ms10) pk c2s w.bytes fr.fin.rng).rangeFinal := by
  have hrt := hown.rt
  obtain ⟨h1, h2, h3, h4⟩ := hcc
  rw [h1, h2, h3, h4] at hrt
  exact opus_frame_lockstep_silk_red buf maxData bandwidth nCh ms10 spf48 pk st c2s w.bytes fr.fin.rng hbw hms hs hb hok
    hc2s w.bytes_ok.2 hn herr hfit hgate hrt

open Opus.SilkSyms Opus.SilkSymsEnc Opus.OpusFrameEnc Opus.OpusFrameProofs Opus.OpusFrameProofs.Example in
/-- a 24-byte mono narrowband redundancy frame of 72 coder calls from C17's encoder model behind the example SILK packet:
    all hypotheses hold (`PacketOk` of the packet: above) -/
example : (∃ fr, OwnCoderFrame worldR cfgR s0R fr ∧ fr.fin.rng = 1642388224 ∧ fr.ops.length = 72 ∧ tell fr.fin = 192) ∧
    (cfgR.start = 0 ∧ cfgR.end_ = Opus.CeltSyms.endBandOf 1101 ∧ cfgR.C = 1 ∧ cfgR.LM = 1) ∧
    worldR.bytes.length = 24 ∧
    (encodeAll (List.replicate 100 170) 100 (packetOps (silkCfg 1101 1 100) exampleMonoPacket ++ redSigOps false true 1 1 24)).error = 0 ∧
    tell (encRun (encInit (List.replicate 100 170) 100) (packetOps (silkCfg 1101 1 100) exampleMonoPacket ++ redSigOps false true 1 1 24)) = 248 ∧
    (247 : Int) + 17 ≤ 8 * ((248 + 7) / 8 + 24) :=
  ⟨ownR, by decide +kernel, by rw [worldR_bytes]; rfl, by decide +kernel⟩

open Opus.SilkSyms Opus.SilkSymsEnc Opus.SilkSymsEncProofs Opus.OpusFrameEnc Opus.OpusFrameProofs in
/-- Frame-level lock step for a HYBRID frame: SILK part, redundancy signalling and CELT part share one range coder
    (opus_encoder.c:2239-2292, 2365-2378, 2421).  Encoder model `hybridFrame`: `packetOps`, then — if the encoder's budget
    test `gate` passed — `ec_enc_bit_logp(redundancy, 12)` and with redundancy `ec_enc_bit_logp(celt_to_silk, 1)`,
    `ec_enc_uint(redundancy_bytes-2, 256)`; `ec_enc_shrink(nb_compr_bytes)`; the CELT encoder's operations `celtOps` (an
    input: whatever `celt_encode_with_ec` does on the shared coder, its own shrink included) and its `ec_enc_done`; the frame
    is the main part followed by the redundancy bytes `R`; `rangeFinal = enc.rng ^ rr`.
    Decoder: C03's `decodeOpusFrame` (SILK part + redundancy parse) on the whole frame.  Proved: it reports the encoded
    SILK events, parses `(redundancy, celt_to_silk, redundancy_bytes)` as signalled, sets `len` / `dec.storage` to the length
    of the main part, and hands over to the CELT decoder IN LOCK STEP with the encoder behind the signalling (`dec.rng`,
    `ec_tell` equal, error flag clear) — prefix `P0 = packetOps ++ redSigOps` in the sense of C17's header theorem.
    From there the CELT layers enter as hypotheses `CeltFrameRT` (main part on the shared coder, from the handed-over
    state; redundancy frame on its own coder): with them `decRangeFinal = rangeFinal`.
    Remaining hypotheses besides those: DSP decisions as inputs; legality of the CELT operations (`hsuf`); `hgate`
    (decoder's length test ⇔ encoder's budget test) and `hsane` (`ec_tell ≤ 8·len` after the signalling) — the two
    hypotheses of C02's `hybrid_redundancy_parse`, which `redundancy_mirror_hybrid_cbr` derives from the encoder with VBR
    off; a non-empty main part; `ec_enc_done` without error. -/
theorem opus_frame_lockstep_hybrid (buf : List Nat) (maxData bandwidth nCh ms10 spf48 : Nat) (pk : PacketIn) (st : SilkSt)
    (gate : Bool) (red c2s : Nat) (celtOps : List Op) (R : Bytes) (rr : Nat)
    (hms : ms10 = 100 ∨ ms10 = 200)
    (hs : maxData - 1 ≤ buf.length) (hb : BytesOk buf) (hok : PacketOk (hybridCfg nCh ms10) pk)
    (hred : red ≤ 1) (hc2s : c2s ≤ 1) (hR : BytesOk R)
    (hrb : red ≠ 0 → 2 ≤ R.length ∧ R.length ≤ 257) (hR0 : ¬ (gate = true ∧ red ≠ 0) → R = [])
    (hsuf : LegalRun (encRun (encInit buf (maxData - 1)) (packetOps (hybridCfg nCh ms10) pk ++ redSigOps true gate red c2s R.length))
      (Op.shrink (maxData - 1 - R.length) :: celtOps))
    (hn : (encodeAll buf (maxData - 1) (hybridOps maxData (hybridCfg nCh ms10) pk gate red c2s R.length celtOps)).nbitsTotal < 4294967296)
    (herr : (encodeAll buf (maxData - 1) (hybridOps maxData (hybridCfg nCh ms10) pk gate red c2s R.length celtOps)).error = 0)
    (hgate : (tell (encRun (encInit buf (maxData - 1)) (packetOps (hybridCfg nCh ms10) pk)) + 17 + 20 ≤
        8 * (((encodeAll buf (maxData - 1) (hybridOps maxData (hybridCfg nCh ms10) pk gate red c2s R.length celtOps)).storage + R.length : Nat) : Int)) ↔
      gate = true)
    (hsane : tell (encRun (encInit buf (maxData - 1)) (packetOps (hybridCfg nCh ms10) pk ++ redSigOps true gate red c2s R.length)) ≤
      8 * (((encodeAll buf (maxData - 1) (hybridOps maxData (hybridCfg nCh ms10) pk gate red c2s R.length celtOps)).storage : Nat) : Int))
    (hmainpos : 0 < (encodeAll buf (maxData - 1) (hybridOps maxData (hybridCfg nCh ms10) pk gate red c2s R.length celtOps)).storage) :
    ∃ o, decodeOpusFrame 1001 bandwidth nCh ms10 false st
        (hybridFrame buf maxData (hybridCfg nCh ms10) pk gate red c2s celtOps R rr).payload = .ok o ∧
      o.redundancy = (if gate = true ∧ red ≠ 0 then 1 else 0) ∧
      o.celtToSilk = (if gate = true ∧ red ≠ 0 then c2s else 0) ∧ o.redundancyBytes = R.length ∧
      o.len = ((encodeAll buf (maxData - 1) (hybridOps maxData (hybridCfg nCh ms10) pk gate red c2s R.length celtOps)).storage : Int) ∧
      o.evs = packetEvs (hybridCfg nCh ms10) pk (fun j =>
        ((encRun (encInit buf (maxData - 1)) (prefixOps (hybridCfg nCh ms10) pk j)).rng,
         tell (encRun (encInit buf (maxData - 1)) (prefixOps (hybridCfg nCh ms10) pk j)))) ∧
      o.dec.error = 0 ∧
      o.dec.rng = (encRun (encInit buf (maxData - 1)) (packetOps (hybridCfg nCh ms10) pk ++ redSigOps true gate red c2s R.length)).rng ∧
      tell o.dec = tell (encRun (encInit buf (maxData - 1)) (packetOps (hybridCfg nCh ms10) pk ++ redSigOps true gate red c2s R.length)) ∧
      o.dec.storage = (encodeAll buf (maxData - 1) (hybridOps maxData (hybridCfg nCh ms10) pk gate red c2s R.length celtOps)).storage ∧
      (CeltFrameRT { start := 17, end_ := Opus.CeltSyms.endBandOf bandwidth, C := nCh, LM := Opus.CeltSyms.lmOf spf48 } o.len.toNat o.dec
          (encodeAll buf (maxData - 1) (hybridOps maxData (hybridCfg nCh ms10) pk gate red c2s R.length celtOps)).rng →
        (gate = true ∧ red ≠ 0 →
          CeltFrameRT { start := 0, end_ := Opus.CeltSyms.endBandOf bandwidth, C := nCh, LM := 1 } R.length (decInit R R.length) rr) →
        (¬ (gate = true ∧ red ≠ 0) → rr = 0) →
        decRangeFinal 1001 bandwidth nCh spf48 (hybridFrame buf maxData (hybridCfg nCh ms10) pk gate red c2s celtOps R rr).payload o =
          .ok (hybridFrame buf maxData (hybridCfg nCh ms10) pk gate red c2s celtOps R rr).rangeFinal) := by
  obtain ⟨o, h, -⟩ := hybrid_frame_lockstep buf maxData bandwidth nCh ms10 spf48 pk st gate red c2s celtOps R rr hms hs hb hok hred
    hc2s hR hrb hR0 hsuf hn herr hgate hsane hmainpos
  exact ⟨o, h⟩

/-- WB mono 10 ms SILK part of a hybrid frame (unvoiced, a few pulses). -/
def exampleHybPacket : Opus.SilkSymsEnc.PacketIn :=
  { ch0 := { vad := [1], lbrrFlags := [0], lbrr := [], frames := [⟨{ signalType := 1, quantOffsetType := 0, gains := [30, 5], nlsf0 := 3, nlsfRes := [0, 1, -1, 0, 2, 0, 0, -2, 0, 0, 1, 0, 0, 0, -1, 0], interp := 4, lagIndex := 0, contourIndex := 0, perIndex := 0, ltp := [], ltpScale := 0, seed := 2 }, (List.range 160).map (fun (i : Nat) => if i % 17 = 0 then 1 else if i % 29 = 0 then -2 else 0)⟩], prev := {} },
    ch1 := default, predIx := [], midOnly := [], lbrrPredIx := [], lbrrMidOnly := [] }

open Opus.SilkSyms Opus.SilkSymsEnc Opus.SilkSymsEncProofs Opus.OpusFrameEnc in
example : PacketOk (hybridCfg 1 100) exampleHybPacket :=
  Opus.OpusFrameProofs.Example.hybOk

/-- The hypotheses of `opus_frame_lockstep_hybrid` on a concrete frame: budget 61 bytes, redundancy flag 0, and a
    stand-in for the CELT part that uses both ends of the buffer (a symbol and three raw bits). -/
example :
    LegalRun (encRun (encInit (List.replicate 60 170) 60) (Opus.SilkSymsEnc.packetOps (Opus.OpusFrameEnc.hybridCfg 1 100) exampleHybPacket ++
        Opus.OpusFrameEnc.redSigOps true true 0 0 0)) (Op.shrink (60 - 0) :: [.bitLogp 0 15, .bits 5 3]) ∧
    (encodeAll (List.replicate 60 170) 60 (Opus.OpusFrameEnc.hybridOps 61 (Opus.OpusFrameEnc.hybridCfg 1 100) exampleHybPacket true 0 0 0 [.bitLogp 0 15, .bits 5 3])).error = 0 ∧
    (encodeAll (List.replicate 60 170) 60 (Opus.OpusFrameEnc.hybridOps 61 (Opus.OpusFrameEnc.hybridCfg 1 100) exampleHybPacket true 0 0 0 [.bitLogp 0 15, .bits 5 3])).storage = 60 ∧
    tell (encRun (encInit (List.replicate 60 170) 60) (Opus.SilkSymsEnc.packetOps (Opus.OpusFrameEnc.hybridCfg 1 100) exampleHybPacket)) + 17 + 20 ≤ 8 * 60 ∧
    (match Opus.SilkSyms.decodeOpusFrame 1001 1104 1 100 false {}
        (Opus.OpusFrameEnc.hybridFrame (List.replicate 60 170) 61 (Opus.OpusFrameEnc.hybridCfg 1 100) exampleHybPacket true 0 0 [.bitLogp 0 15, .bits 5 3] [] 0).payload with
     | .ok o => decide (o.redundancy = 0 ∧ o.len = 60 ∧ o.dec.rng =
         (encRun (encInit (List.replicate 60 170) 60) (Opus.SilkSymsEnc.packetOps (Opus.OpusFrameEnc.hybridCfg 1 100) exampleHybPacket ++
           Opus.OpusFrameEnc.redSigOps true true 0 0 0)).rng)
     | _ => false) = true := by
  decide +kernel

/-! ## Patching is coding the true bits; all frame kinds -/

open Opus.RangeCoder in
/-- **`ec_enc_patch_initial_bits` versus coding the bits in the first place.**  A stream whose first `k ≤ 7` bits are
    coded as a placeholder (symbol 0 of `2^k` equiprobable ones: what `silk_Encode` does for its VAD / LBRR flags),
    followed by range-coded operations `body`, the patch of those bits to `w`, and ANY legal continuation `suf`
    (raw bits, `ec_enc_uint`, `ec_enc_shrink` included), is — after `ec_enc_done`, field for field: bytes, `rng`, `nbits_total`,
    storage, error flag — the stream obtained by coding the `k` bits of `w` one by one first (`bitsOps w k`), then `body`,
    then `suf`.  Before `ec_enc_done` the two coders agree up to the representation of a pending first digit 0xFF (`canon`:
    `rem = 255` versus one more `ext`; the patch can create the former, `ec_enc_carry_out` only the latter), and the
    second run is a legal run in the sense of the round-trip theorems (no patch in it).  The proof is a simulation:
    `twin k w c` is the state of the second coder when the first is in `c` — the top `k` bits of the first output digit,
    wherever that digit currently lives (`val`, `rem`, `buf[0]`), hold `w` instead of 0 — and the cell invariant of
    `decode_encode_patched` is what keeps the low bits from carrying into them.  Consequence used below: the main coder of
    a hybrid Opus frame, which patches the SILK flags, can be replaced by a patch-free run with the same output. -/
theorem patched_equals_true_bits (buf : List Nat) (size k w : Nat) (body suf : List Op) (hs : size ≤ buf.length)
    (hb : BytesOk buf) (hk1 : 1 ≤ k) (hk7 : k ≤ 7) (hw : w < 2 ^ k) (hbody : ∀ op ∈ body, op.isPrim = true ∧ op.Legal)
    (hsuf : LegalRun (encRun (encInit buf size) (.icdf 0 (flagTable k) 8 :: (body ++ [.patchInitial w k]))) suf)
    (hn : (encRun (encInit buf size) (.icdf 0 (flagTable k) 8 :: (body ++ [.patchInitial w k] ++ suf))).nbitsTotal < 4294967296)
    (herr : (encRun (encInit buf size) (.icdf 0 (flagTable k) 8 :: (body ++ [.patchInitial w k] ++ suf))).error = 0) :
    canon (encRun (encInit buf size) (.icdf 0 (flagTable k) 8 :: (body ++ [.patchInitial w k] ++ suf))) =
      canon (encRun (encInit buf size) (bitsOps w k ++ body ++ suf)) ∧
    RunInv (encRun (encInit buf size) (bitsOps w k ++ body ++ suf)) ∧
    LegalRun (encInit buf size) (bitsOps w k ++ body ++ suf) ∧
    encodeAll buf size (.icdf 0 (flagTable k) 8 :: (body ++ [.patchInitial w k] ++ suf)) =
      encodeAll buf size (bitsOps w k ++ body ++ suf) :=
  patched_eq_bits buf size k w body suf hs hb hk1 hk7 hw hbody hsuf hn herr

open Opus.RangeCoder in
/-- a 4-bit flag word 0b1011 patched behind three symbols, then a symbol, 5 raw bits and a `ec_enc_uint`: the two op lists
    give the same 12 finished bytes (and the hypotheses hold) -/
example : (∀ op ∈ [Op.icdf 1 [200, 100, 0] 8, .encodeBin 3 4 3, .bitLogp 1 2], op.isPrim = true ∧ op.Legal) ∧
    LegalRun (encRun (encInit (List.replicate 12 7) 12)
      (.icdf 0 (flagTable 4) 8 :: ([Op.icdf 1 [200, 100, 0] 8, .encodeBin 3 4 3, .bitLogp 1 2] ++ [.patchInitial 11 4])))
      [.icdf 2 [200, 100, 0] 8, .bits 21 5, .uint 1000 70000] ∧
    (encodeAll (List.replicate 12 7) 12 (.icdf 0 (flagTable 4) 8 :: ([Op.icdf 1 [200, 100, 0] 8, .encodeBin 3 4 3, .bitLogp 1 2] ++
      [.patchInitial 11 4] ++ [.icdf 2 [200, 100, 0] 8, .bits 21 5, .uint 1000 70000]))).error = 0 ∧
    encodeAll (List.replicate 12 7) 12 (.icdf 0 (flagTable 4) 8 :: ([Op.icdf 1 [200, 100, 0] 8, .encodeBin 3 4 3, .bitLogp 1 2] ++
      [.patchInitial 11 4] ++ [.icdf 2 [200, 100, 0] 8, .bits 21 5, .uint 1000 70000])) =
    encodeAll (List.replicate 12 7) 12 (bitsOps 11 4 ++ [Op.icdf 1 [200, 100, 0] 8, .encodeBin 3 4 3, .bitLogp 1 2] ++
      [.icdf 2 [200, 100, 0] 8, .bits 21 5, .uint 1000 70000]) := by
  decide +kernel

open Opus.RangeCoder in
/-- the corner the `canon` in the statement is about: flags 0b1111 and eight more one-bits make the first byte 0xFF; after
    the patch the first coder holds it as `rem = 255, ext = 0`, the second as `rem = -1, ext = 1`; the finished streams are
    equal (`ff f2 00 … 03`) -/
example :
    ((encRun (encInit (List.replicate 8 7) 8) (.icdf 0 (flagTable 4) 8 :: ([Op.encodeBin 15 16 4, .encodeBin 15 16 4] ++ [.patchInitial 15 4]))).rem,
     (encRun (encInit (List.replicate 8 7) 8) (.icdf 0 (flagTable 4) 8 :: ([Op.encodeBin 15 16 4, .encodeBin 15 16 4] ++ [.patchInitial 15 4]))).ext,
     (encRun (encInit (List.replicate 8 7) 8) (bitsOps 15 4 ++ [Op.encodeBin 15 16 4, .encodeBin 15 16 4])).rem,
     (encRun (encInit (List.replicate 8 7) 8) (bitsOps 15 4 ++ [Op.encodeBin 15 16 4, .encodeBin 15 16 4])).ext) = (255, 0, -1, 1) ∧
    encodeAll (List.replicate 8 7) 8 (.icdf 0 (flagTable 4) 8 :: ([Op.encodeBin 15 16 4, .encodeBin 15 16 4] ++ [.patchInitial 15 4] ++
      [.bits 3 2, .encodeBin 1 2 3])) =
    encodeAll (List.replicate 8 7) 8 (bitsOps 15 4 ++ [Op.encodeBin 15 16 4, .encodeBin 15 16 4] ++ [.bits 3 2, .encodeBin 1 2 3]) ∧
    (encodeAll (List.replicate 8 7) 8 (bitsOps 15 4 ++ [Op.encodeBin 15 16 4, .encodeBin 15 16 4] ++ [.bits 3 2, .encodeBin 1 2 3])).buf =
      [255, 242, 0, 0, 0, 0, 0, 3] := by
  decide +kernel

open Opus.SilkSyms Opus.SilkSymsEnc Opus.SilkSymsEncProofs Opus.OpusFrameEnc Opus.OpusFrameProofs in
/-- `opus_frame_lockstep_hybrid` WITHOUT redundancy and without the hypotheses `CeltFrameRT`: the CELT part of the frame is what
    C17's encoder model `encFrame` (header, allocation, fine energy, band data, anti-collapse, finalisation) writes on the
    shared coder behind the SILK part, the redundancy flag 0 (if the encoder's budget test `gate` passed) and the
    `ec_enc_shrink`; `CeltFrameRT` is discharged by C17's `celt_frame_roundtrip` with the prefix `P0 = hybridP0` — the legal,
    patch-free form of the SILK prefix that `patched_equals_true_bits` provides (C17's `World` is a legal run).
    `HybridCelt` bundles C17's hypotheses (non-silent frame, final length = budgeted size or the VBR `min_allowed` margin,
    room for the first symbol, tapset and stereo decisions in range); the CELT encoder model starts in the state of the legal
    run behind `P0`, which equals the patched coder's state except possibly for the representation of a pending 0xFF first
    byte.  Residual hypotheses besides: DSP decisions (SILK `PacketIn`, CELT `s0.ds`) as inputs, legality of the run,
    `nbits_total < 2^29` (the bound of C17's `World`; a C `int` shifted left by 3), `ec_enc_done` without error, `hgate` (the
    decoder's length test ⇔ the encoder's budget test: C02 `redundancy_mirror_hybrid_cbr` derives it with VBR off), a non-empty frame. -/
theorem opus_frame_lockstep_hybrid_celt (buf : List Nat) (maxData bandwidth nCh ms10 spf48 : Nat) (pk : PacketIn)
    (st : SilkSt) (gate : Bool) (ccfg : Opus.CeltSymsEnc.EncCfg) (s0 : Opus.CeltSymsEnc.St) (fr : Opus.CeltBandsEnc.EncFrame)
    (hms : ms10 = 100 ∨ ms10 = 200)
    (hs : maxData - 1 ≤ buf.length) (hb : BytesOk buf) (hok : PacketOk (hybridCfg nCh ms10) pk)
    (hsuf : LegalRun (encRun (encInit buf (maxData - 1)) (packetOps (hybridCfg nCh ms10) pk ++ redSigOps true gate 0 0 0))
      (Op.shrink (maxData - 1 - 0) :: fr.ops))
    (hn29 : (encodeAll buf (maxData - 1) (hybridOps maxData (hybridCfg nCh ms10) pk gate 0 0 0 fr.ops)).nbitsTotal < 536870912)
    (herr : (encodeAll buf (maxData - 1) (hybridOps maxData (hybridCfg nCh ms10) pk gate 0 0 0 fr.ops)).error = 0)
    (hgate : (tell (encRun (encInit buf (maxData - 1)) (packetOps (hybridCfg nCh ms10) pk)) + 17 + 20 ≤
        8 * (((encodeAll buf (maxData - 1) (hybridOps maxData (hybridCfg nCh ms10) pk gate 0 0 0 fr.ops)).storage : Nat) : Int)) ↔
      gate = true)
    (hmainpos : 0 < (encodeAll buf (maxData - 1) (hybridOps maxData (hybridCfg nCh ms10) pk gate 0 0 0 fr.ops)).storage)
    (hcelt : HybridCelt buf maxData (hybridCfg nCh ms10) pk gate ccfg s0 fr)
    (hcc : ccfg.start = 17 ∧ ccfg.end_ = Opus.CeltSyms.endBandOf bandwidth ∧ ccfg.C = nCh ∧ ccfg.LM = Opus.CeltSyms.lmOf spf48) :
    ∃ o, decodeOpusFrame 1001 bandwidth nCh ms10 false st
        (hybridFrame buf maxData (hybridCfg nCh ms10) pk gate 0 0 fr.ops [] 0).payload = .ok o ∧
      o.redundancy = 0 ∧
      o.evs = packetEvs (hybridCfg nCh ms10) pk (fun j =>
        ((encRun (encInit buf (maxData - 1)) (prefixOps (hybridCfg nCh ms10) pk j)).rng,
         tell (encRun (encInit buf (maxData - 1)) (prefixOps (hybridCfg nCh ms10) pk j)))) ∧
      decRangeFinal 1001 bandwidth nCh spf48 (hybridFrame buf maxData (hybridCfg nCh ms10) pk gate 0 0 fr.ops [] 0).payload o =
        .ok (hybridFrame buf maxData (hybridCfg nCh ms10) pk gate 0 0 fr.ops [] 0).rangeFinal :=
  have ⟨o, h1, h2, h3, h4, _⟩ := opus_frame_lockstep_hybrid_celt_all buf maxData bandwidth nCh ms10 spf48 pk st gate ccfg s0 fr hms hs hb
    hok hsuf hn29 herr hgate hmainpos hcelt hcc
  ⟨o, h1, h2, h3, h4⟩

open Opus.OpusFrameEnc Opus.OpusFrameProofs Opus.OpusFrameProofs.Example in
/-- an SWB mono 10 ms hybrid frame of 60 bytes: WB SILK part, redundancy flag 0, CELT bands 17-18 from C17's encoder model
    (33 coder calls): it is a case of `OpusFrameCase` — every hypothesis above evaluated in the kernel -/
example : ∃ fr, Opus.CeltBandsEnc.encFrame cfgH s0H = .ok fr ∧ fr.ops.length = 33 ∧
    OpusFrameCase 1104 1 100 480 1001 (hybridFrame bufH 61 (hybridCfg 1 100) hybPacket true 0 0 fr.ops [] 0) := caseHybrid

open Opus.OpusFrameEnc Opus.OpusFrameProofs in
/-- **Frame-level lock step for CELT-only frames**: the frame is the packet C17's encoder model `encFrame` produces on its
    own coder (`OwnCoderFrame`: C17's hypotheses with empty prefix; `w.all = fr.ops`: nothing but `ec_enc_done` follows);
    C03's `celtFrame` from band 0 on the finished bytes ends with the encoder's final range. -/
theorem opus_frame_lockstep_celt (bandwidth nCh spf48 : Nat) (w : OpusProofs.CeltHdr.World) (ccfg : Opus.CeltSymsEnc.EncCfg)
    (s0 : Opus.CeltSymsEnc.St) (fr : Opus.CeltBandsEnc.EncFrame) (hown : OwnCoderFrame w ccfg s0 fr) (hall : w.all = fr.ops)
    (hcc : ccfg.start = 0 ∧ ccfg.end_ = Opus.CeltSyms.endBandOf bandwidth ∧ ccfg.C = nCh ∧ ccfg.LM = Opus.CeltSyms.lmOf spf48) :
    (celtOnlyFrame w.buf w.size w.all).payload = w.bytes ∧
    celtRangeFinal bandwidth nCh spf48 (celtOnlyFrame w.buf w.size w.all).payload =
      .ok (celtOnlyFrame w.buf w.size w.all).rangeFinal := by
  have hpay : (celtOnlyFrame w.buf w.size w.all).payload = w.bytes := rfl
  refine ⟨hpay, ?_⟩
  rw [hpay]
  obtain ⟨⟨cf, h1, h2⟩, hfin⟩ := hown.roundtrip
  obtain ⟨c1, c2, c3, c4⟩ := hcc
  rw [c1, c2, c3, c4] at h1
  unfold celtRangeFinal
  rw [h1]
  show Res.ok cf.fin.c.rng = Res.ok (encodeAll w.buf w.size w.all).rng
  -- the encoder model's final `rng` is the coder's
  rw [h2, hfin, ← hall]
  unfold encodeAll OpusProofs.CeltHdr.World.encAt
  rw [encDone_rng]

open Opus.OpusFrameEnc Opus.OpusFrameProofs Opus.OpusFrameProofs.Example in
/-- C17's 24-byte 2.5 ms NB frame (75 coder calls) is a CELT-only case -/
example : ∃ fr, OpusFrameCase 1101 1 25 120 1002
      (celtOnlyFrame OpusProofs.CeltHdr.Example.worldF.buf OpusProofs.CeltHdr.Example.worldF.size OpusProofs.CeltHdr.Example.worldF.all) ∧
    Opus.CeltBandsEnc.encFrame OpusProofs.CeltHdr.Example.cfg OpusProofs.CeltHdr.Example.s0F = .ok fr ∧ fr.ops.length = 75 := caseCelt

open Opus.SilkSyms Opus.OpusFrameEnc Opus.OpusFrameProofs in
/-- **The frame-level lock step, all frame kinds** — C02's clause "the decoder ends each packet with a range-coder final
    state identical to the one the encoder reports", at the symbol level.  `OpusFrameCase bandwidth nCh ms10 spf48 mode f`
    (OpusProofs/OpusFrameLockstep.lean) says that `f` is the output (payload without TOC byte, `st->rangeFinal`) of the
    encoder model for one of:
    * `silk`     SILK-only without redundancy (`silkOnlyFrame`: SILK payload, `ret=(ec_tell+7)>>3`, trailing-zero strip);
    * `silkRed`  SILK-only with a 5 ms redundancy frame produced by C17's CELT encoder model on a coder of its own;
    * `hybrid`   hybrid without redundancy, CELT part from C17's encoder model on the shared coder;
    * `celt`     CELT-only, the frame of C17's encoder model;
    each with exactly the hypotheses of the corresponding theorem above.  Then, for ANY decoder history `st`, C03's decoder
    model (`frameRangeFinal`: `decodeOpusFrame` — SILK symbols, redundancy parse — then `celtFrame` for the CELT part and for
    the redundancy frame, XOR) returns the encoder's `rangeFinal`.
    Residual hypotheses, all inside `OpusFrameCase`: the DSP decisions are inputs (SILK `PacketIn` in `PacketOk`; CELT
    decision streams `s0.ds` for which `encFrame` returns `.ok`); CELT frames are NOT silent (C17 proves the header of silent
    frames only) ; the coder ends without error and `nbits_total < 2^32` (`< 2^29` where a C17 `World` is built); SILK frames
    fit their budget (`hfit`: otherwise the encoder sends the PLC byte); the length contracts `hgate` (C02's
    `redundancy_mirror_*`); for CELT parts the final length is the budgeted size or leaves the VBR `min_allowed` margin
    (C17's `hmargin`).  Not a case: hybrid frames WITH redundancy — there C03's decoder is initialised on main part ++
    redundancy bytes and may have read into the latter before `storage -= redundancy_bytes`, so its state is not the one
    C17's `World` (initialised on the main part) starts from; `opus_frame_lockstep_hybrid` covers them with the CELT main
    part as hypothesis `CeltFrameRT` — and one-byte / DTX frames (no range coder). -/
theorem opus_frame_lockstep {bandwidth nCh ms10 spf48 mode : Nat} {f : FrameEnc}
    (h : OpusFrameCase bandwidth nCh ms10 spf48 mode f) (st : SilkSt) :
    frameRangeFinal mode bandwidth nCh ms10 spf48 st f.payload = .ok f.rangeFinal := by
  cases h with
  | silk buf maxData pk hbw hms hs hb hok hn herr hfit =>
    obtain ⟨o, o1, o2, _, o4, _, _⟩ := opus_frame_lockstep_silk buf maxData bandwidth nCh ms10 pk st hbw hms hs hb hok hn herr hfit
    unfold frameRangeFinal
    rw [if_neg (by decide), o1]
    show decRangeFinal 1000 bandwidth nCh spf48 _ o = _
    unfold decRangeFinal
    simp only [if_pos, o2, ne_eq, not_true_eq_false, if_false]
    rw [o4, Nat.xor_zero]
  | silkRed buf maxData pk c2s w ccfg s0 fr hbw hms hs hb hok hc2s hown hcc hn herr hfit hgate =>
    obtain ⟨o, o1, _, _, _, _, _, _, o8⟩ := opus_frame_lockstep_silk_red_celt buf maxData bandwidth nCh ms10 spf48 pk st c2s w
      ccfg s0 fr hbw hms hs hb hok hc2s hown hcc hn herr hfit hgate
    unfold frameRangeFinal
    rw [if_neg (by decide), o1]
    exact o8
  | hybrid buf maxData pk gate ccfg s0 fr hms hs hb hok hsuf hn29 herr hgate hmainpos hcelt hcc =>
    obtain ⟨o, o1, _, _, o4⟩ := opus_frame_lockstep_hybrid_celt buf maxData bandwidth nCh ms10 spf48 pk st gate ccfg s0 fr
      hms hs hb hok hsuf hn29 herr hgate hmainpos hcelt hcc
    unfold frameRangeFinal
    rw [if_neg (by decide), o1]
    exact o4
  | celt w ccfg s0 fr hown hall hcc =>
    unfold frameRangeFinal
    rw [if_pos rfl]
    exact (opus_frame_lockstep_celt bandwidth nCh spf48 w ccfg s0 fr hown hall hcc).2

open Opus.SilkSyms Opus.OpusFrameEnc Opus.OpusFrameProofs Opus.OpusFrameProofs.Example in
/-- the SILK-only and the SILK-with-redundancy example frames (the hybrid and the CELT-only ones stand behind their
    theorems above; all hypotheses kernel-evaluated in OpusProofs/OpusFrameLockstepExample.lean) -/
example : frameRangeFinal 1000 1101 1 100 480 {} (silkOnlyFrame bufS 101 (silkCfg 1101 1 100) monoPacket).payload =
    .ok (silkOnlyFrame bufS 101 (silkCfg 1101 1 100) monoPacket).rangeFinal := opus_frame_lockstep caseSilk {}

open Opus.SilkSyms Opus.OpusFrameEnc Opus.OpusFrameProofs Opus.OpusFrameProofs.Example in
example : ∃ fr, OwnCoderFrame worldR cfgR s0R fr ∧
    frameRangeFinal 1000 1101 1 100 480 {} (silkRedFrame bufS 101 (silkCfg 1101 1 100) monoPacket 1 worldR.bytes fr.fin.rng).payload =
      .ok (silkRedFrame bufS 101 (silkCfg 1101 1 100) monoPacket 1 worldR.bytes fr.fin.rng).rangeFinal := by
  obtain ⟨fr, h1, h2⟩ := caseSilkRed
  exact ⟨fr, h1, opus_frame_lockstep h2 {}⟩

end OpusProps.C08
