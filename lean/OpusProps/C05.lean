import OpusProofs.EncSkelMulti
import OpusProofs.EncSkelCtl
import OpusProofs.EncSkelCvbr
import OpusProofs.EncSkelMsLive
/-
  Property C05 — "Encoder honours the buffer limit, exact CBR size and the bitrate target".

  Model:  `Opus.EncSkel.encodeNative`  (transcription of the size / packet skeleton of
          `opus_encode_native` + `opus_encode_frame_native`, src/opus_encoder.c:1125-2527, with the
          repacketiser contract of OpusModel/EncSkel/Repack.lean).  SILK, CELT, the range coder and
          the analysis are ORACLES (`NatOr`, `FrameOr`); every theorem quantifies over ALL oracle
          values that satisfy the contracts `frameOk` (listed in OpusModel/EncSkel/Frame.lean and
          monitored on every real call by the tie), over ALL settings/states satisfying `stOk` (the
          ctl invariant, also monitored), ALL legal frame sizes and ALL `out_data_bytes`.
  `(encodeNative …).ok = true` is exactly: `stOk` ∧ `legalFrame` ∧ the contracts along the path taken.
  `entryCheck … = none` is: `frame_size > 0`, `out_data_bytes ≥ 1`, not (1 byte ∧ 100 ms).
-/
namespace OpusProps.C05
open Opus Opus.EncSkel Opus.EncDecide Opus.EncSkel.Proofs Opus.Ctl Opus.Repack Opus.FramingSpec

/-- Clause "exactly the size round(bitrate x duration / 8) clipped to …": `cbr_bytes` of
    opus_encoder.c:1259-1262 IS `min(⌊bitrate·T/8 + ½⌋, max_data_bytes)` over ℚ with
    `T = frame_size/Fs`, for every legal frame size and every bit-rate (the `12·` trick is exact). -/
theorem cbrBytes_spec (fs fsz b m : Int) (hfs : 0 < fs) (hl : legalFrame fs fsz = true) :
    cbrBytes fs fsz b m = min ⌊(b : ℚ) * (fsz / fs) / 8 + 1 / 2⌋ m := by
  obtain ⟨F, hF0, hFev, hF⟩ := legal_F fs fsz hl
  have hfz := (legal_bounds fs fsz hfs hl).1
  unfold cbrBytes
  dsimp only
  rw [fr12_eq fs fsz F hfz hF, ← round_core b F hF0 hFev]
  have hq : ((fsz : ℚ) / fs) = 12 / F := by
    have h1 : (F : ℚ) * fsz = 12 * fs := by exact_mod_cast hF
    have h2 : (fs : ℚ) ≠ 0 := by exact_mod_cast (by omega : fs ≠ 0)
    have h3 : (F : ℚ) ≠ 0 := by exact_mod_cast (by omega : F ≠ 0)
    field_simp
    linarith
  rw [hq]
  congr 2
  ring

/-- Clause "returns a length between 1 and max_data_bytes" (and, with the repacketiser / padding
    contract, "never writes past it": every emitted structure has `ret ≤ out_data_bytes` bytes):
    on EVERY path — low-budget, single frame, multi-frame — no assertion fires and
    `1 ≤ ret ≤ out_data_bytes`. -/
theorem ret_le_out (s : St) (fuzz : Bool) (fsz out : Int) (o : NatOr)
    (he : entryCheck s fsz out = none) (hok : (encodeNative s fuzz fsz out o).ok = true) :
    (encodeNative s fuzz fsz out o).abort = false ∧ 1 ≤ (encodeNative s fuzz fsz out o).ret ∧
    (encodeNative s fuzz fsz out o).ret ≤ out :=
  let h := encodeNative_post s fuzz fsz out o he hok
  ⟨h.noAbort, h.retLo, h.retHi⟩

/-- Clause "with VBR off, every packet that is not a DTX packet has exactly the size
    round(bitrate x duration / 8) clipped to [1, min(max_data_bytes, 1276)], whatever the signal and
    the preceding history": for any state (`s` is arbitrary within `stOk`: it is the result of an
    arbitrary history), any oracle behaviour, on every path, the size is `cbrTarget`
    (= `max 1 (cbr_bytes)`, see `cbrBytes_spec`); the only other possibility is the documented one:
    OPUS_BITRATE_MAX on a frame longer than 20 ms, where the repacketised packet fills `out_data_bytes`.
    The dependency on `user_bitrate_bps ≥ 500` (C11 ctl invariant, part of `stOk`) excludes the
    2-byte code-3 ToC-only packet for a 1-byte CBR target. -/
theorem cbr_size_exact (s : St) (fuzz : Bool) (fsz out : Int) (o : NatOr)
    (he : entryCheck s fsz out = none) (hok : (encodeNative s fuzz fsz out o).ok = true)
    (hcbr : s.useVbr = 0) (hnd : (encodeNative s fuzz fsz out o).dtx = false) :
    (encodeNative s fuzz fsz out o).ret = cbrTarget s fsz out ∨
    (s.userBitrate = OPUS_BITRATE_MAX ∧ s.fs / 50 < fsz ∧ (encodeNative s fuzz fsz out o).ret = out) :=
  (encodeNative_post s fuzz fsz out o he hok).cbr hcbr hnd

/-- Clause "with OPUS_BITRATE_MAX it fills the output buffer (up to 1276 bytes when the packet holds
    a single frame)": the packet has `min(out_data_bytes, 1276)` bytes, or — only for frames longer
    than 20 ms, which are repacketised — exactly `out_data_bytes`. -/
theorem bitrate_max_fills (s : St) (fuzz : Bool) (fsz out : Int) (o : NatOr)
    (he : entryCheck s fsz out = none) (hok : (encodeNative s fuzz fsz out o).ok = true)
    (hst : stOk s = true) (hlg : legalFrame s.fs fsz = true)
    (hcbr : s.useVbr = 0) (hmax : s.userBitrate = OPUS_BITRATE_MAX)
    (hnd : (encodeNative s fuzz fsz out o).dtx = false) :
    (encodeNative s fuzz fsz out o).ret = min 1276 out ∨
    (s.fs / 50 < fsz ∧ (encodeNative s fuzz fsz out o).ret = out) := by
  have hout := ((entryCheck_none_iff s fsz out).mp he).2.1
  rcases (encodeNative_post s fuzz fsz out o he hok).cbr hcbr hnd with h | ⟨_, h2, h3⟩
  · left; rw [h, cbrTarget_max s fsz out hst hlg hout hmax]
  · right; exact ⟨h2, h3⟩

/-- Clause "a too-small buffer yields OPUS_BUFFER_TOO_SMALL or a minimal valid packet, never a
    corrupt one": (a) the only error returns are OPUS_BAD_ARG (no frame / no buffer) and
    OPUS_BUFFER_TOO_SMALL (exactly: one byte for a 100 ms frame), both before anything is written;
    (b) whenever the budget is below what the coders need (`lowBudgetGate`), the call succeeds with a
    ToC-only packet — every frame of it has length 0 — of `1 ≤ ret ≤ out_data_bytes` bytes. -/
theorem too_small_clean (s : St) (fuzz : Bool) (fsz out : Int) (o : NatOr) :
    (∀ e, entryCheck s fsz out = some e →
        (encodeNative s fuzz fsz out o).ret = e ∧ (encodeNative s fuzz fsz out o).calls = [] ∧
        (e = OPUS_BAD_ARG ∨ (e = OPUS_BUFFER_TOO_SMALL ∧ min 1276 out = 1 ∧ s.fs = fsz * 10))) ∧
    (entryCheck s fsz out = none → (encodeNative s fuzz fsz out o).ok = true →
      lowBudgetGate (budgetSt s o fsz out) fsz (sizeBudget (analysisUpd s o) fsz out) = true →
        1 ≤ (encodeNative s fuzz fsz out o).ret ∧ (encodeNative s fuzz fsz out o).ret ≤ out ∧
        ∀ l ∈ (encodeNative s fuzz fsz out o).pkt.lens, l = 0) := by
  constructor
  · intro e he
    unfold encodeNative
    rw [he]
    exact ⟨rfl, rfl, entryCheck_some he⟩
  · intro he hok hg
    have hp := encodeNative_post s fuzz fsz out o he hok
    refine ⟨hp.retLo, hp.retHi, ?_⟩
    obtain ⟨hst, hlg, hc⟩ := encodeNative_cases s fuzz fsz out o he hok
    rcases hc with ⟨-, heq⟩ | ⟨htm, -⟩ | ⟨hg', -⟩
    · have hfs : 0 < (budgetSt s o fsz out).fs := by
        rw [(budgetSt_same s o fsz out).fs]; have := (stOk_domain s hst).1; omega
      rw [heq]
      dsimp only
      rw [(lowBudget_cases _ fsz out _ hfs (by rw [(budgetSt_same s o fsz out).fs]; exact hlg)).2.2.2.2.1]
      intro l hl
      unfold lowLens at hl
      exact (List.mem_replicate.mp hl).2
    · unfold takesMulti at htm
      rw [hg] at htm
      cases htm
    · rw [hg] at hg'
      cases hg'

/-- Clause "never a corrupt one" / C02 "no call ever fails with an internal error", size part:
    after the entry check no error code at all is returned — in particular none of the
    OPUS_INTERNAL_ERROR sites (:1333, :1739, :1748, :1756, :2114, :2317, :2371, :2410, :2521), not the
    OPUS_BUFFER_TOO_SMALL of :2455 — and neither `celt_assert` of the frame encoder (:2019, :2127)
    nor the one in `ec_enc_shrink` can fire. -/
theorem never_internal_error (s : St) (fuzz : Bool) (fsz out : Int) (o : NatOr)
    (he : entryCheck s fsz out = none) (hok : (encodeNative s fuzz fsz out o).ok = true) :
    (encodeNative s fuzz fsz out o).ret ≠ OPUS_INTERNAL_ERROR ∧
    (encodeNative s fuzz fsz out o).ret ≠ OPUS_BUFFER_TOO_SMALL ∧
    (encodeNative s fuzz fsz out o).ret ≠ OPUS_BAD_ARG ∧ (encodeNative s fuzz fsz out o).abort = false := by
  have h := encodeNative_post s fuzz fsz out o he hok
  have := h.retLo
  simp only [OPUS_INTERNAL_ERROR, OPUS_BUFFER_TOO_SMALL, OPUS_BAD_ARG]
  exact ⟨by omega, by omega, by omega, h.noAbort⟩

/-- "whatever the preceding history of settings", invariant part: `stOk` — the hypothesis of every
    theorem above — is preserved by `opus_encode_native` itself: for EVERY state within `stOk`, all
    arguments (legal or not) and ALL oracle values (no contract needed), whatever the outcome of the call,
    the state afterwards is within `stOk`, and no setting (sampling rate, channels, application, VBR flag,
    bit-rate, forced channels/mode/bandwidth, max bandwidth, signal type, LFE, DTX, FEC, frame duration,
    complexity, loss percentage, energy mask) has been written. -/
theorem stOk_preserved (s : St) (fuzz : Bool) (fsz out : Int) (o : NatOr) (h : stOk s = true) :
    stOk (encodeNative s fuzz fsz out o).st = true ∧ Conf s (encodeNative s fuzz fsz out o).st := by
  obtain ⟨h1, h2, _⟩ := encodeNative_stOk s fuzz fsz out o ((stOk_iff s).mp h)
  exact ⟨(stOk_iff _).mpr h1, h2⟩

/-- "for all histories": along EVERY history of one encoder object — `opus_encoder_create`, then any
    sequence of ctl requests (property C11's `encCtl`, accepted or refused) and encode calls (any
    arguments, any oracle values) — C11's invariant `EncInv` (= `CtlInv ∧ DInv`) holds, the skeleton state
    is a refinement of the ctl state (`Refines`, the explicit map between the two state spaces), and
    `stOk` holds.  So `stOk` is not an assumption about reachable states. -/
theorem stOk_along_histories {e : EncSt} {s : St} (h : Reach e s) : EncInv e ∧ Refines e s ∧ stOk s = true :=
  reach_inv h

/-- C11's `EncInv` is carried across an encode call by the skeleton: the fields it models satisfy C11's
    `obsRange` (so that part of C11's monitored `encodeContract` is a theorem), for any arguments and
    oracle values. -/
theorem encode_keeps_encInv (e : EncSt) (s : St) (fuzz : Bool) (fsz out : Int) (or : NatOr) (o : EncObs)
    (hi : EncInv e) (hr : Refines e s) (ho : ObsOf (encodeNative s fuzz fsz out or).st o) (hf : FreeOk e o) :
    obsRange e o = none ∧ EncInv (encAdopt e o) ∧ Refines (encAdopt e o) (encodeNative s fuzz fsz out or).st :=
  let h := encode_keeps_inv e s fuzz fsz out or o hi hr ho hf
  ⟨h.1, h.2.1, h.2.2.1⟩

/-- "same for multistream with its per-stream split" — stated over property C10's model of
    `opus_multistream_encode_native` (`Opus.MsEncode.encodeNative`, OpusModel/MsEncode.lean: entry test, CBR clamp, the
    stream loop with the real repacketiser model of C07; executed against the code by C10's `msenc` suite; its `currMax`
    is `msCurrMax` of this property's tie op `mscurr3`, `msCurrMax_eq_c10`).  For every stream count, rate, frame size,
    VBR/CBR, explicit bit-rate or OPUS_BITRATE_MAX, `max_data_bytes`, and EVERY per-stream encoder behaviour `enc` within
    the single-stream contracts
      * `EncContract`: a SUCCESSFUL call returns a valid packet of the common duration in at most `curr_max` bytes
        (C02 `encode_wellformed`, C05 `ret_le_out`) — nothing is assumed about calls that fail,
      * `EncLive`: a call with a legal budget (`curr_max ≥ 1`, not 1 byte for 100 ms) succeeds (C05 `ret_le_out`),
    the call returns OPUS_BUFFER_TOO_SMALL iff `max_data_bytes < smallest_packet`, and otherwise SUCCEEDS — the budget
    split never hands a stream an illegal budget, the self-delimiting length reserve always suffices — with
    `1 ≤ ret ≤ max_data_bytes`, `ret` exactly the clamped size with VBR off, and the bytes a concatenation of valid
    self-delimited packets of the common duration. -/
theorem ms_encode_ret_le_out (n : Nat) (hn : 1 ≤ n) (fs fsz : Nat) (vbr : Bool) (bitrate : Option Int) (maxData : Int)
    (enc : Nat → Int → Res Bytes) (hc : MsEncode.EncContract fs fsz enc) (ht : MsEncode.EncTotal enc)
    (hlive : EncLive (decide (fs / fsz = 10)) enc) :
    (maxData < MsEncode.smallestPacket n (decide (fs / fsz = 10)) →
      MsEncode.encodeNative n fs fsz vbr bitrate maxData enc = .err .bufferTooSmall) ∧
    (MsEncode.smallestPacket n (decide (fs / fsz = 10)) ≤ maxData →
      ∃ out, MsEncode.encodeNative n fs fsz vbr bitrate maxData enc = .ok out ∧ 1 ≤ out.length ∧
        (out.length : Int) ≤ maxData ∧
        (vbr = false → (out.length : Int) = MsEncode.cbrClamp n (decide (fs / fsz = 10)) vbr fs fsz bitrate maxData) ∧
        ∃ ps : List Packet, ps.length = n ∧ (∀ p ∈ ps, Valid p) ∧ (∀ p ∈ ps, LayoutSpec.duration fs p = fsz) ∧
          out = LayoutSpec.msSerialize ps) := by
  unfold MsEncode.encodeNative
  dsimp only
  constructor
  · intro h; rw [if_pos h]
  · intro h
    rw [if_neg (by omega)]
    have hle := MsEncode.cbrClamp_le n (decide (fs / fsz = 10)) vbr fs fsz bitrate maxData
    have hge : MsEncode.smallestPacket n (decide (fs / fsz = 10)) ≤
        MsEncode.cbrClamp n (decide (fs / fsz = 10)) vbr fs fsz bitrate maxData := by
      unfold MsEncode.cbrClamp
      split
      · exact h
      · split
        · exact h
        · omega
    rw [fs100_eq] at hlive hge hle ⊢
    rw [smallest_eq] at hge
    obtain ⟨out, ho, h1, h2, h3, hps⟩ := ms_loop_ret n hn fs fsz fs fsz vbr _ enc hc ht hlive hge
    exact ⟨out, ho, h1, by omega, h3, hps⟩

/-! ### Multistream rate allocation (src/opus_multistream_encoder.c:668-798; model `OpusModel/EncSkel/MsRate.lean`,
    tied per stream on a layouts × rates × frame-sizes grid by suite op `msrate`) -/

/-- **Per-stream floors.**  For every layout the create functions admit (`MsLayoutOk`), every legal frame size and
    every bit-rate setting the ctl admits for `nch ≥ nb_streams + nb_coupled` input channels (AUTO, MAX,
    500·nch … 300000·nch): every stream's rate is ≥ 500 b/s; in the surround / plain allocation a coupled stream gets
    ≥ 2·channel_offset ≥ 4000 b/s and every other non-LFE stream ≥ channel_offset ≥ 2000 b/s; in the ambisonics allocation all streams get the same rate; and
    the floor `rate[i] = IMAX(rate[i], 500)` of :794 never changes a rate (dead code: also the LFE stream is already ≥ 500).  Hence each stream's
    `OPUS_SET_BITRATE(bitrates[s])` is accepted and stores a value inside that encoder's range 500 … 300000·channels. -/
theorem ms_rate_floor (l : MsLayout) (hl : MsLayoutOk l) (fs fsz nch br : Int)
    (hfs : fs = 8000 ∨ fs = 12000 ∨ fs = 16000 ∨ fs = 24000 ∨ fs = 48000) (hleg : legalFrame fs fsz = true)
    (hn1 : l.nbStreams + l.nbCoupled ≤ nch) (hn2 : nch ≤ 255) (hbr : MsBrOk nch br) (i : Int) :
    500 ≤ msRate l fs fsz br i ∧
    (l.ambisonics = false → i < l.nbCoupled → 4000 ≤ msRate l fs fsz br i) ∧
    (l.ambisonics = false → l.nbCoupled ≤ i → i ≠ l.lfeStream → 2000 ≤ msRate l fs fsz br i) ∧
    (l.ambisonics = true → msRate l fs fsz br i = msRate l fs fsz br 0) ∧
    (0 ≤ i → msRate l fs fsz br i = msRateRaw l fs fsz br i) ∧
    (∃ v, msStreamUserBitrate l fs fsz br i = some v ∧ 500 ≤ v ∧ v ≤ 300000 * (if i < l.nbCoupled then 2 else 1)) := by
  have h500 : 500 ≤ msRate l fs fsz br i := by unfold msRate; omega
  have hin := msIn_of l hl fs fsz nch br hfs hleg hn1 hn2 hbr
  refine ⟨h500, ?_, ?_, ?_, ?_, ?_⟩
  · intro ha hi
    exact ((msSur_floor l fs fsz nch br hin ha i).2.1 hi).2
  · intro ha hi hlf
    exact ((msSur_floor l fs fsz nch br hin ha i).2.2 hi hlf).2
  · intro ha
    rw [msRate_ambi l fs fsz br i ha, msRate_ambi l fs fsz br 0 ha]
  · intro hi
    by_cases ha : l.ambisonics = true
    · exact msAmbi_floor_inactive l fs fsz nch br hin ha i
    · exact msSur_floor_inactive l fs fsz nch br hin ((Bool.not_eq_true _).mp ha) i hi
  · obtain ⟨v, h1, h2, h3, -⟩ := msStream_ctl l fs fsz br i h500
    exact ⟨v, h1, h2, h3⟩

/-- **What the sum of the rates is** (it is NOT "Σ ≤ total"):
    surround / plain: with `B` the total (`bitrate_bps`, or the AUTO / MAX formula), if `B` covers the offsets
    (`channel_offset·nb_normal + lfe_offset·nb_lfe ≤ B`) then `B − nb_normal − 1 ≤ Σ ≤ B`; if it does not, every stream
    keeps its offset and `Σ` EXCEEDS `B`: `channel_offset·nb_normal + 500·nb_lfe ≤ Σ ≤ channel_offset·nb_normal +
    lfe_offset·nb_lfe`.  Ambisonics: `total − nb_streams < Σ ≤ total` always. -/
theorem ms_rate_sum (l : MsLayout) (hl : MsLayoutOk l) (fs fsz nch br : Int)
    (hfs : fs = 8000 ∨ fs = 12000 ∨ fs = 16000 ∨ fs = 24000 ∨ fs = 48000) (hleg : legalFrame fs fsz = true)
    (hn1 : l.nbStreams + l.nbCoupled ≤ nch) (hn2 : nch ≤ 255) (hbr : MsBrOk nch br) :
    (l.ambisonics = false →
      let v := msSurVals l fs fsz br
      (v.channelOffset * v.nbNormal + v.lfeOffset * v.nbLfe ≤ v.bitrate →
         v.bitrate - v.nbNormal - 1 ≤ msRateSum l fs fsz br ∧ msRateSum l fs fsz br ≤ v.bitrate) ∧
      (v.bitrate < v.channelOffset * v.nbNormal + v.lfeOffset * v.nbLfe →
         v.channelOffset * v.nbNormal + 500 * v.nbLfe ≤ msRateSum l fs fsz br ∧
         msRateSum l fs fsz br ≤ v.channelOffset * v.nbNormal + v.lfeOffset * v.nbLfe)) ∧
    (l.ambisonics = true →
      msAmbiTotal l fs fsz br - l.nbStreams < msRateSum l fs fsz br ∧ msRateSum l fs fsz br ≤ msAmbiTotal l fs fsz br) := by
  have hin := msIn_of l hl fs fsz nch br hfs hleg hn1 hn2 hbr
  refine ⟨msSur_sum l fs fsz nch br hin, fun ha => ?_⟩
  obtain ⟨R, -, -, -, s1, s2, -⟩ := msAmbi_sum l fs fsz nch br hin ha
  exact ⟨s1, s2⟩

/-- **No 32-bit overflow** in `rate_allocation` and in the clamp arithmetic of :882-886 — for EVERY layout
    `opus_multistream_encoder_init_impl` accepts (`nb_streams + nb_coupled ≤ nb_channels ≤ 255`, so also explicit mappings
    with muted / shared input channels, where the ctl accepts up to 300000·nb_channels b/s), every legal frame size and
    every bit-rate setting.  `msFits` follows the source (fix 69d56905): the products `channel_rate*coupled_ratio`
    and `channel_rate*lfe_ratio` (:729/:733) are 64-bit, and what is cast back to `opus_int32` fits because
    `2·channel_rate ≤ bitrate ≤ 76500000` whenever there is a coupled stream and `channel_rate ≥ −4089000`. -/
theorem ms_rate_no_overflow (l : MsLayout) (hl : MsLayoutOk l) (fs fsz nch br : Int)
    (hfs : fs = 8000 ∨ fs = 12000 ∨ fs = 16000 ∨ fs = 24000 ∨ fs = 48000) (hleg : legalFrame fs fsz = true)
    (hn1 : l.nbStreams + l.nbCoupled ≤ nch) (hn2 : nch ≤ 255) (hbr : MsBrOk nch br) :
    msFits l fs fsz br = true ∧ fitsI32 (3 * msRateSum l fs fsz br) = true ∧ fitsI32 (3 * br) = true ∧
    0 < 3 * 8 * fs / fsz := by
  have hin := msIn_of l hl fs fsz nch br hfs hleg hn1 hn2 hbr
  obtain ⟨c1, c2, -, c4⟩ := msClamp_fits l fs fsz nch br hin
  exact ⟨msFits_all l fs fsz nch br hin, c1, c2, c4⟩

/-- Why the product `channel_rate*coupled_ratio` has to be 64-bit (fix 69d56905): for a layout
    `opus_multistream_encoder_create` accepts (30 input channels, 28 of them muted, one coupled stream) and a bit-rate
    its ctl accepts (9 Mb/s ≤ 300000·30), 20 ms at 48 kHz, `channel_rate = 4488000` and 4488000·512 = 2297856000 > INT_MAX;
    as a 64-bit product the case fits and the stream gets 8976000 + offsets (case 1 of corpus/C05/msrate_cases.txt). -/
example :
    msCtlBitrate 30 9000000 = some 9000000 ∧
    (msSurVals { nbStreams := 1, nbCoupled := 1, lfeStream := -1, ambisonics := false } 48000 960 9000000).channelRate = 4488000 ∧
    fitsI32 ((msSurVals { nbStreams := 1, nbCoupled := 1, lfeStream := -1, ambisonics := false } 48000 960 9000000).channelRate * 512) = false ∧
    msFits { nbStreams := 1, nbCoupled := 1, lfeStream := -1, ambisonics := false } 48000 960 9000000 = true ∧
    msRates { nbStreams := 1, nbCoupled := 1, lfeStream := -1, ambisonics := false } 48000 960 9000000 = [9000000] := by
  decide +kernel

/-- **… for every bit-rate setting incl. OPUS_AUTO, with the real rate allocation.**  `msEncodeAlloc` is the entry test
    of :860 followed by C10's stream loop run on the `max_data_bytes` the CBR clamp of :878-888 leaves, where for OPUS_AUTO
    the clamp uses the sum of `rate_allocation` (`msMaxBytesAlloc`, tied by suite op `mscurr3`); for every other setting it
    IS C10's `MsEncode.encodeNative` (last conjunct).  Same contracts on the per-stream encoder as above; additionally a
    layout the create functions admit and a legal frame size (they bound the AUTO rate sum from below: the clamp
    `3*rate_sum/(3*8*Fs/frame_size)` of :882, which has no explicit lower bound in the code, is never below
    `smallest_packet`).  Then: OPUS_BUFFER_TOO_SMALL iff `max_data_bytes < smallest_packet`; otherwise success with
    `1 ≤ ret ≤ max_data_bytes`, exactly `msMaxBytesAlloc` bytes with VBR off, valid multistream structure. -/
theorem ms_encode_ret_le_out_alloc (l : MsLayout) (hl : MsLayoutOk l) (fs fsz : Nat)
    (hfs : fs = 8000 ∨ fs = 12000 ∨ fs = 16000 ∨ fs = 24000 ∨ fs = 48000) (hleg : legalFrame fs fsz = true)
    (vbr : Bool) (br maxData : Int) (enc : Nat → Int → Res Bytes)
    (hc : MsEncode.EncContract fs fsz enc) (ht : MsEncode.EncTotal enc) (hlive : EncLive (decide (fs / fsz = 10)) enc) :
    (maxData < msSmallest l.nbStreams fs fsz → msEncodeAlloc l fs fsz vbr br maxData enc = .err .bufferTooSmall) ∧
    (msSmallest l.nbStreams fs fsz ≤ maxData →
      ∃ out, msEncodeAlloc l fs fsz vbr br maxData enc = .ok out ∧ 1 ≤ out.length ∧ (out.length : Int) ≤ maxData ∧
        (vbr = false → (out.length : Int) = msMaxBytesAlloc l 0 br fs fsz maxData) ∧
        ∃ ps : List Packet, (ps.length : Int) = l.nbStreams ∧ (∀ p ∈ ps, Valid p) ∧ (∀ p ∈ ps, LayoutSpec.duration fs p = fsz) ∧
          out = LayoutSpec.msSerialize ps) ∧
    msSmallest l.nbStreams fs fsz ≤ 3 * msRateSum l fs fsz OPUS_AUTO / (3 * 8 * (fs : Int) / fsz) ∧
    (br ≠ OPUS_AUTO → msEncodeAlloc l fs fsz vbr br maxData enc =
      MsEncode.encodeNative l.nbStreams.toNat fs fsz vbr (brOpt br) maxData enc) := by
  have hfsI : (fs : Int) = 8000 ∨ (fs : Int) = 12000 ∨ (fs : Int) = 16000 ∨ (fs : Int) = 24000 ∨ (fs : Int) = 48000 := by omega
  obtain ⟨h1, h2⟩ := ms_encode_alloc_ret l hl fs fsz hfs hleg vbr br maxData enc hc ht hlive
  exact ⟨h1, h2, ms_auto_enough l hl fs fsz hfsI hleg,
    fun hb => msEncodeAlloc_eq l (by have := hl.n1; omega) fs fsz vbr br maxData enc hb⟩

/-- **… and with the single-stream encoder skeleton in every stream** (C10's `skelEnc`: stream `s` is
    `Opus.EncSkel.encodeNative` on an arbitrary state `sts s` at rate `fs`, with ANY inner SILK/CELT/analysis oracle answers
    within the skeleton's own contracts, `SkelOk`): both contracts on the per-stream encoder are THEOREMS
    (`skelEnc_contract`: `encode_wellformed` + `ret_le_out`; `skelEnc_live`: `ret_le_out` on every legal budget), so nothing
    about the per-stream encoder is assumed beyond those inner contracts. -/
theorem ms_encode_ret_le_out_skel (l : MsLayout) (hl : MsLayoutOk l) (fs : Nat) (fsz : Int)
    (hfs : fs = 8000 ∨ fs = 12000 ∨ fs = 16000 ∨ fs = 24000 ∨ fs = 48000) (hleg : legalFrame fs fsz = true)
    (vbr : Bool) (br maxData : Int) (sts : Nat → St) (hfsAll : ∀ s, (sts s).fs = (fs : Int)) (fuzz : Bool)
    (ors : Nat → Int → NatOr) (frs : Nat → Int → List Bytes) (hok : MsEncode.SkelOk sts fuzz fsz ors frs) :
    (maxData < msSmallest l.nbStreams fs fsz →
      msEncodeAlloc l fs fsz.toNat vbr br maxData (MsEncode.skelEnc sts fuzz fsz ors frs) = .err .bufferTooSmall) ∧
    (msSmallest l.nbStreams fs fsz ≤ maxData →
      ∃ out, msEncodeAlloc l fs fsz.toNat vbr br maxData (MsEncode.skelEnc sts fuzz fsz ors frs) = .ok out ∧
        1 ≤ out.length ∧ (out.length : Int) ≤ maxData ∧
        (vbr = false → (out.length : Int) = msMaxBytesAlloc l 0 br fs fsz maxData)) := by
  have hfsI : (fs : Int) = 8000 ∨ (fs : Int) = 12000 ∨ (fs : Int) = 16000 ∨ (fs : Int) = 24000 ∨ (fs : Int) = 48000 := by omega
  have hfz : 0 < fsz := (legal_bounds fs fsz (by omega) hleg).1
  have hz : ((fsz.toNat : Nat) : Int) = fsz := Int.toNat_of_nonneg (by omega)
  have hlive : EncLive (decide (fs / fsz.toNat = 10)) (MsEncode.skelEnc sts fuzz fsz ors frs) := by
    rw [fs100_eq, hz]
    exact skelEnc_live sts fuzz fsz hfz ors frs fs hfsAll hok
  obtain ⟨h1, h2⟩ := ms_encode_alloc_ret l hl fs fsz.toNat hfs (by rw [hz]; exact hleg) vbr br maxData _
    (MsEncode.skelEnc_contract sts fuzz fsz ors frs fs hfsAll hok) (MsEncode.skelEnc_total sts fuzz fsz ors frs) hlive
  rw [hz] at h1 h2
  refine ⟨h1, fun h => ?_⟩
  obtain ⟨out, a, b, c, d, -⟩ := h2 h
  exact ⟨out, a, b, c, d⟩

/-- Clause "with constrained VBR the long-term average rate does not exceed the requested bitrate beyond
    a small tolerance", integer part (P2): the bit-reservoir recursion of celt_encoder.c:1785-1808 /
    :2317-2372 (`cvbrStep`, tied by suite op `cvbrrel`) keeps `0 ≤ vbr_reservoir ≤ vbr_rate` for EVERY
    float-driven target, and the bytes of a frame are accounted for exactly:
    `reservoir' = max 0 (reservoir + 64·bytes − vbr_rate)`. -/
theorem cvbr_reservoir_bounded (v res nb want : Int) (sil : Bool) (hv : 128 ≤ v) (hr0 : 0 ≤ res) (hr1 : res ≤ v)
    (hnb : 2 ≤ nb) :
    0 ≤ (cvbrStep v res nb want sil).1 ∧ (cvbrStep v res nb want sil).1 ≤ v ∧
    (cvbrStep v res nb want sil).2 ≤ nb ∧
    (cvbrStep v res nb want sil).1 = max 0 (res + 64 * (cvbrStep v res nb want sil).2 - v) :=
  cvbrStep_spec v res nb want sil hv hr0 hr1 hnb

/-- … hence, at a constant rate, over ANY run of `N` CELT-only constrained-VBR frames with arbitrary
    targets: `64 · Σ bytes ≤ (N + 1) · vbr_rate` (units of 1/8 bit): the long-run average exceeds the
    target by at most one frame's worth, ever (the ToC byte of the Opus layer comes on top). -/
theorem cvbr_average_bound (v : Int) (hv : 128 ≤ v) (fr : List (Int × Int × Bool)) (res : Int)
    (h0 : 0 ≤ res) (h1 : res ≤ v) (hnb : ∀ f ∈ fr, 2 ≤ f.1) :
    64 * sumI (cvbrRun v res fr).2 ≤ (fr.length + 1) * v := by
  obtain ⟨a, b, c⟩ := cvbr_run_bound v hv fr res h0 h1 hnb
  have : ((fr.length : Int) + 1) * v = fr.length * v + v := by rw [Int.add_mul]; omega
  rw [this]; omega

/-! ### Non-vacuity: concrete states and oracle values satisfy the hypotheses -/

def exSt : St :=
  { fs := 48000, channels := 2, application := 2049, useVbr := 0, userBitrate := 64000, forceChannels := -1000,
    signalType := -1000, userBandwidth := -1000, maxBandwidth := 1105, userForcedMode := -1000, lfe := 0, useDtx := 0,
    fecConfig := 0, variableDuration := 5000, complexity := 9, lossPerc := 0, useInBandFEC := 0, energyMasking := 0,
    streamChannels := 2, mode := 1002, prevMode := 1002, prevChannels := 2, prevFramesize := 960, bandwidth := 1105,
    autoBandwidth := 1105, silkBwSwitch := 0, first := 0, voiceRatio := -1, detectedBandwidth := 0, nbNoActivity := 0,
    nonfinalFrame := 0, bitrateBps := 64000, toMono := 0, lbrrCoded := 0, allowBwSwitch := 0, inWBmode := 0,
    opusCanSwitch := 0, silkUseDtx := 0 }
def exFr (cm : Int) : FrameOr :=
  { aValid := 1, activity := 1, silkBitRateIn := 0, silkRet := 0, nBytes := 0, isr := 0, switchReady := 0, allowBw := 0,
    inWB := 0, tellA := 0, tellB := 0, tellC := 0, tellD := 1, tellE := 1000, stripTo := 0, celtRed1 := 0,
    celtMain := cm, celtRed2 := 0, used1 := 0, used2 := 0 }
def exOr (cm : Int) : NatOr :=
  { isSilence := 0, aValid := 1, aBandwidth := 20, vr0 := 10, vr1 := 10, vr2 := 10, modeVoice := 64000, modeMusic := 10000,
    rands := [], frames := [exFr cm, exFr cm, exFr cm] }

example : legalFrame 48000 2880 = true ∧ cbrBytes 48000 2880 6000 1276 = 45 := by decide +kernel
/-- 64 kb/s CBR, 20 ms: a single CELT frame of exactly 160 bytes. -/
example : entryCheck exSt 960 4000 = none ∧ (encodeNative exSt false 960 4000 (exOr 159)).ok = true ∧
    (encodeNative exSt false 960 4000 (exOr 159)).ret = 160 ∧ cbrTarget exSt 960 4000 = 160 := by decide +kernel
/-- 64 kb/s CBR, 60 ms: three CELT frames repacketised into exactly 480 bytes. -/
example : (encodeNative exSt false 2880 4000 (exOr 158)).ok = true ∧
    (encodeNative exSt false 2880 4000 (exOr 158)).ret = 480 ∧ cbrTarget exSt 2880 4000 = 480 ∧
    (encodeNative exSt false 2880 4000 (exOr 158)).pkt.lens = [158, 158, 158] := by decide +kernel
/-- OPUS_BITRATE_MAX: 1276 bytes for one frame, the whole 4000-byte buffer for a 60 ms packet. -/
example : (encodeNative { exSt with userBitrate := -1 } false 960 4000 (exOr 1275)).ok = true ∧
    (encodeNative { exSt with userBitrate := -1 } false 960 4000 (exOr 1275)).ret = 1276 ∧
    (encodeNative { exSt with userBitrate := -1 } false 2880 4000 (exOr 424)).ok = true ∧
    (encodeNative { exSt with userBitrate := -1 } false 2880 4000 (exOr 424)).ret = 4000 := by decide +kernel
/-- Two bytes of space: low-budget path, ToC-only packet; no space / 1 byte for 100 ms: refused. -/
example : lowBudgetGate (budgetSt exSt (exOr 0) 960 2) 960 (sizeBudget (analysisUpd exSt (exOr 0)) 960 2) = true ∧
    (encodeNative exSt false 960 2 (exOr 0)).ok = true ∧ (encodeNative exSt false 960 2 (exOr 0)).ret = 2 ∧
    (encodeNative exSt false 960 2 (exOr 0)).pkt.lens = [0] ∧
    entryCheck exSt 960 0 = some OPUS_BAD_ARG ∧ entryCheck exSt 4800 1 = some OPUS_BUFFER_TOO_SMALL := by decide +kernel

/-- a reachable state: a fresh 48 kHz stereo AUDIO encoder after OPUS_SET_BITRATE(64000). -/
example : encArgsOk 48000 2 2049 = true ∧ (encCtl (encInit 48000 2 2049) (.set .bitrate 64000)).2 = Ret.ok := by decide +kernel
/-- two streams, 20 ms, 255 bytes: the first stream gets 252 bytes (2 reserved for its length), the second the rest. -/
example : msCurrMax 2 48000 960 255 0 0 = 252 ∧ msCurrMax 2 48000 960 255 254 1 = 1 ∧ msSmallest 2 48000 960 = 3 := by decide +kernel
/-! non-vacuity of `ms_encode_ret_le_out`: a per-stream encoder inside all three contracts (3 bytes `F8 07 07` when it has
    room, the ToC-only packet `F8` for budgets 1 and 2, both 20 ms CELT), and the model run on it: two streams, 255 bytes, VBR →
    `F8 02 07 07` (self-delimited) ++ `F8 07 07`; CBR → padded to exactly 255 bytes; 2 bytes → refused -/
def exEnc : Nat → Int → Res Bytes := fun _ cm =>
  if 3 ≤ cm then .ok (serialize false ⟨0xF8, [[7, 7]], false, none⟩)
  else if 1 ≤ cm then .ok (serialize false ⟨0xF8, [[]], false, none⟩) else .err .badArg
theorem exEnc_contracts : MsEncode.EncContract 48000 960 exEnc ∧ MsEncode.EncTotal exEnc ∧ EncLive (decide (48000 / 960 = 10)) exEnc := by
  have hv : ∀ f : Bytes, f.length ≤ 1275 → Valid ⟨0xF8, [f], false, none⟩ := fun f hf =>
    MsEncode.valid_single 0xF8 f (by decide) (by decide) hf
  refine ⟨?_, ?_, ?_⟩
  · intro s cm pk h
    unfold exEnc at h
    split at h
    · cases h
      exact ⟨_, hv _ (by decide), RepackProofs.count_nil 1 (by decide), rfl, by decide, by
        simpa [serialize, header, lenFields, Packet.code, Packet.lens, padBytes] using (by assumption : 3 ≤ cm)⟩
    · split at h
      · cases h
        exact ⟨_, hv _ (by decide), RepackProofs.count_nil 1 (by decide), rfl, by decide, by
          simpa [serialize, header, lenFields, Packet.code, Packet.lens, padBytes] using (by assumption : 1 ≤ cm)⟩
      · cases h
  · intro s cm; unfold exEnc
    constructor <;> intro h <;> split at h <;> (try split at h) <;> cases h
  · intro s cm h1 _
    unfold exEnc
    split
    · exact ⟨_, rfl⟩
    · exact ⟨_, rfl⟩
/-- … so the theorem applies: two streams, 255 bytes: VBR returns a packet of 1..255 bytes, CBR (OPUS_BITRATE_MAX) one of
    exactly 255 bytes, and 2 bytes are refused (`smallest_packet` = 3). -/
example : (∃ out, MsEncode.encodeNative 2 48000 960 true none 255 exEnc = .ok out ∧ 1 ≤ out.length ∧ (out.length : Int) ≤ 255) ∧
    (∃ out, MsEncode.encodeNative 2 48000 960 false none 255 exEnc = .ok out ∧ (out.length : Int) = 255) ∧
    MsEncode.encodeNative 2 48000 960 true none 2 exEnc = .err .bufferTooSmall := by
  obtain ⟨hc, ht, hl⟩ := exEnc_contracts
  obtain ⟨a1, a2⟩ := ms_encode_ret_le_out 2 (by decide) 48000 960 true none 255 exEnc hc ht hl
  obtain ⟨b1, b2⟩ := ms_encode_ret_le_out 2 (by decide) 48000 960 false none 255 exEnc hc ht hl
  obtain ⟨c1, -⟩ := ms_encode_ret_le_out 2 (by decide) 48000 960 true none 2 exEnc hc ht hl
  refine ⟨?_, ?_, c1 (by decide)⟩
  · obtain ⟨out, h1, h2, h3, -⟩ := a2 (by decide)
    exact ⟨out, h1, h2, h3⟩
  · obtain ⟨out, h1, -, -, h4, -⟩ := b2 (by decide)
    exact ⟨out, h1, by rw [h4 rfl]; decide⟩

/-! non-vacuity of `stOk_along_histories`: a `Reach` instance — create (48 kHz stereo AUDIO), OPUS_SET_BITRATE(64000),
    OPUS_SET_VBR(0), then one 20 ms encode call (any oracle values; here the CELT frame of `exOr 159`) -/
example : ∃ e s, Reach e s ∧ s = (encodeNative (stOfEnc (encCtl (encCtl (encInit 48000 2 2049) (.set .bitrate 64000)).1
      (.set .vbr 0)).1) false 960 4000 (exOr 159)).st ∧ s.prevFramesize = 960 := by
  have h0 : Reach (encInit 48000 2 2049) (stOfEnc (encInit 48000 2 2049)) :=
    Reach.init 48000 2 2049 _ (by decide +kernel) (refines_stOfEnc _)
  have h1 := Reach.ctl (.set .bitrate 64000) (stOfEnc (encCtl (encInit 48000 2 2049) (.set .bitrate 64000)).1) h0
    (refines_stOfEnc _)
  have h2 := Reach.ctl (.set .vbr 0) (stOfEnc (encCtl (encCtl (encInit 48000 2 2049) (.set .bitrate 64000)).1 (.set .vbr 0)).1) h1
    (refines_stOfEnc _)
  have h3 := Reach.encode false 960 4000 (exOr 159) (obsOfSt (encodeNative (stOfEnc (encCtl (encCtl (encInit 48000 2 2049)
      (.set .bitrate 64000)).1 (.set .vbr 0)).1) false 960 4000 (exOr 159)).st) h2 (obsOf_obsOfSt _)
    (freeOk_obsOfSt _ _ (by decide +kernel))
  exact ⟨_, _, h3, rfl, by decide +kernel⟩

/-- 5.1 surround (4 streams, 2 coupled, LFE last), 48 kHz, 20 ms, 256 kb/s: rates 95120+95120+57560+8195 = 255995,
    within nb_normal+1 = 6 of the total … -/
example : msRates { nbStreams := 4, nbCoupled := 2, lfeStream := 3, ambisonics := false } 48000 960 256000 = [95120, 95120, 57560, 8195] ∧
    msRateSum { nbStreams := 4, nbCoupled := 2, lfeStream := 3, ambisonics := false } 48000 960 256000 = 255995 ∧
    msFits { nbStreams := 4, nbCoupled := 2, lfeStream := 3, ambisonics := false } 48000 960 256000 = true ∧
    MsLayoutOk { nbStreams := 4, nbCoupled := 2, lfeStream := 3, ambisonics := false } ∧ MsBrOk 6 256000 := by
  refine ⟨by decide +kernel, by decide +kernel, by decide +kernel, ⟨by decide, by decide, by decide, by decide, Or.inr (by decide), fun h => by cases h⟩, Or.inr (Or.inr (by decide))⟩
/-- … and at 3000 b/s (the ctl minimum for 6 channels) the offsets win: Σ = 10707 > 3000. -/
example : msRates { nbStreams := 4, nbCoupled := 2, lfeStream := 3, ambisonics := false } 48000 960 3000 = [4000, 4000, 2000, 707] := by
  decide +kernel
/-- OPUS_AUTO, CBR, two mono streams, 2.5 ms at 8 kHz: rate_sum 68000 → clamp 21 bytes ≥ smallest_packet 3. -/
example : msRateSum { nbStreams := 2, nbCoupled := 0, lfeStream := -1, ambisonics := false } 8000 20 OPUS_AUTO = 68000 ∧
    msMaxBytesAlloc { nbStreams := 2, nbCoupled := 0, lfeStream := -1, ambisonics := false } 0 OPUS_AUTO 8000 20 4000 = 21 ∧
    msSmallest 2 8000 20 = 3 := by decide +kernel
/-- 64 kb/s, 20 ms: vbr_rate = 10240; a frame that wants 400 bytes with a full reservoir gets 160. -/
example : cvbrStep 10240 10240 1275 400 false = (10240, 160) ∧ cvbrStep 10240 0 1275 100 false = (0, 160) := by decide +kernel

end OpusProps.C05
