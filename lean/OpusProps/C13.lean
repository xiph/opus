import OpusProofs.PcmProj
/-
  Property C13 — "16-bit, 24-bit and float PCM are interchangeable views of the same codec".

  Model:  `Opus.Pcm` (OpusModel/Pcm.lean): the float-build conversion macros of celt/arch.h:367-381,
          celt/float_cast.h:68,150-156 and celt/mathops.c:223-230 on binary32 *bit patterns*, every
          operation = exact operation followed by IEEE round-to-nearest-even; the entry points of
          src/opus_encoder.c:2531-2637 / src/opus_decoder.c:838-976 reduced to what they hand to the shared
          core (`encode16/24/Float`, `decode16Out`, `decode24Out`).
  Values: `val b = some k` means the binary32 with bits `b` is exactly `k·2^-149`.
  The model is tied to the code bit for bit by the correspondence suite `pcm` (exhaustive over int16).
-/
namespace OpusProps.C13
open Opus Opus.Pcm

/-- **inputs_coincide** (encoder clause, per sample).  For every 16-bit sample `x` and every float bit
    pattern `b` whose value is exactly `x/32768` (`b ≠ -0`): `INT16TORES(x)`, `INT24TORES(256·x)` and
    `FLOAT2RES(b)` are the same bits, whose value is exactly `x/32768` (no rounding happened); and the
    analysis down-mix conversions `INT16TOSIG(x)`, `INT24TOSIG(256·x)`, `FLOAT2SIG(b)` are the same
    bits, whose value is exactly `x`. -/
theorem inputs_coincide (x : Int) (hx : IsInt16 x) (b : Nat) (hb : FloatOfInt16 x b) :
    int24ToRes (256 * x) = int16ToRes x ∧ float2Res b = int16ToRes x ∧
    val (int16ToRes x) = some (x * 2 ^ 134) ∧
    int24ToSig (256 * x) = int16ToSig x ∧ float2Sig b = int16ToSig x ∧
    val (int16ToSig x) = some (x * 2 ^ 149) :=
  ⟨int24ToRes_shift x, float2Res_of_int16 hb, (int16ToRes_val hx).1,
   int24ToSig_shift hx, float2Sig_of_int16 hx hb, (int16ToSig_val hx).1⟩

example : IsInt16 (-32768) ∧ FloatOfInt16 (-32768) 0xBF800000 := by unfold IsInt16 FloatOfInt16; decide
example : IsInt16 12345 ∧ FloatOfInt16 12345 0x3EC0E400 := by unfold IsInt16 FloatOfInt16; decide
example : int16ToRes 12345 = 0x3EC0E400 ∧ int24ToRes (256 * 12345) = 0x3EC0E400 := by decide

/-- **encode_formats_agree** (encoder clause, per call).  With the encoder's LSB depth ≤ 16, `opus_encode`
    on `pcm`, `opus_encode24` on `256·pcm` and `opus_encode_float` on `pcm/32768` hand the shared core
    (`opus_encode_native`, an arbitrary function `core` of the state and of the argument tuple `CoreArgs`:
    `opus_res` samples of the coded frame, frame size, effective depth, the whole analysis buffer as seen
    through the down-mix callback, analysis size, c1, c2, analysis channels, float_api) identical arguments,
    hence produce the identical packet and state — for every core, every state, every channel count, every
    coded frame size (also shorter than the buffer: expert frame duration), every block of int16 samples.
    The tuple is compared with what the real entry points pass by the correspondence ops `enc16/enc24/encf`. -/
theorem encode_formats_agree {St Pkt : Type} (core : St → CoreArgs → Pkt) (st : St)
    (lsbDepth channels frameSize : Nat) (hd : lsbDepth ≤ 16) (pcm : List Int) (hp : ∀ x ∈ pcm, IsInt16 x)
    (fl : List Nat) (hfl : List.Forall₂ FloatOfInt16 pcm fl) :
    encode24 core st lsbDepth channels frameSize (pcm.map (256 * ·)) = encode16 core st lsbDepth channels frameSize pcm ∧
    encodeFloat core st lsbDepth channels frameSize fl = encode16 core st lsbDepth channels frameSize pcm :=
  ⟨encode24_eq_encode16 core st lsbDepth channels frameSize hd pcm hp,
   encodeFloat_eq_encode16 core st lsbDepth channels frameSize hd pcm hp fl hfl⟩

example : (16 : Nat) ≤ 16 ∧ (∀ x ∈ [(-32768 : Int), 12345], IsInt16 x) ∧
    List.Forall₂ FloatOfInt16 [-32768, 12345] [0xBF800000, 0x3EC0E400] := by
  refine ⟨by decide, ?_, ?_⟩
  · intro x hx; simp only [List.mem_cons, List.not_mem_nil, or_false] at hx
    rcases hx with rfl | rfl <;> (unfold IsInt16; decide)
  · refine .cons ?_ (.cons ?_ .nil) <;> (unfold FloatOfInt16; decide)

/-- **ms_formats_agree** (multistream clause, encoder side, per stream).  For every stream of a multistream
    encode — any layout: `c1` the stream's left / mono input channel, `c2` its right one or none, any channel
    count — `opus_multistream_encode` on `pcm`, `_encode24` on `256·pcm` and `_encode_float` on `pcm/32768`
    hand that stream's `opus_encode_native` the same gathered samples, the same down-mixed analysis signal
    (`y = SIG(x[c1]) (+ SIG(x[c2]))`), the same sizes, c1, c2, analysis channel count and effective depth when
    the LSB depth is ≤ 16.  `float_api` is a parameter common to both sides here, whereas the code passes
    0 / 0 / 1: packet equality additionally needs that the `float_api` guard of `opus_encode_frame_native`
    (src/opus_encoder.c:1913-1924, clears the frame when the energy of the high-pass-filtered buffer is not
    < 1e9 or NaN) never fires on int16-range input — NOT proved here (the guard is inside the un-modelled core;
    listed in NOT_COVERED, its consequence is searched by the twin multistream encoders).  The per-stream tuples are compared with the real entry points by the
    correspondence ops `ms16/ms24/msf`. -/
theorem ms_formats_agree (fapi lsbDepth C c1 : Nat) (c2 : Option Nat) (hd : lsbDepth ≤ 16) (pcm : List Int)
    (fl : List Nat) (hlen : fl.length = pcm.length) (hp : ∀ i, IsInt16 (pcm.getD i 0))
    (hfl : ∀ i, FloatOfInt16 (pcm.getD i 0) (fl.getD i 0)) :
    msStreamArgs int24ToRes int24ToSig 0 24 fapi lsbDepth C c1 c2 (pcm.map (256 * ·)) =
      msStreamArgs int16ToRes int16ToSig 0 16 fapi lsbDepth C c1 c2 pcm ∧
    msStreamArgs float2Res float2Sig 0 24 fapi lsbDepth C c1 c2 fl =
      msStreamArgs int16ToRes int16ToSig 0 16 fapi lsbDepth C c1 c2 pcm := by
  have g24 : ∀ i, (pcm.map (256 * ·)).getD i 0 = 256 * pcm.getD i 0 := by
    intro i
    simp only [List.getD_eq_getElem?_getD, List.getElem?_map]
    cases pcm[i]? <;> simp
  have r24 : ∀ i, int24ToRes ((pcm.map (256 * ·)).getD i 0) = int16ToRes (pcm.getD i 0) := fun i => by
    rw [g24]; exact int24ToRes_shift _
  have s24 : ∀ i, int24ToSig ((pcm.map (256 * ·)).getD i 0) = int16ToSig (pcm.getD i 0) := fun i => by
    rw [g24]; exact int24ToSig_shift (hp i)
  have rf : ∀ i, float2Res (fl.getD i 0) = int16ToRes (pcm.getD i 0) := fun i => float2Res_of_int16 (hfl i)
  have sf : ∀ i, float2Sig (fl.getD i 0) = int16ToSig (pcm.getD i 0) := fun i => float2Sig_of_int16 (hp i) (hfl i)
  have m24 : min 24 lsbDepth = min 16 lsbDepth := by rw [Nat.min_eq_right (by omega), Nat.min_eq_right hd]
  constructor
  · unfold msStreamArgs
    simp only [List.length_map, r24, s24, m24]
  · unfold msStreamArgs
    simp only [hlen, rf, sf, m24]

example : (∀ i, IsInt16 (([-32768, 12345] : List Int).getD i 0)) ∧
    (∀ i, FloatOfInt16 (([-32768, 12345] : List Int).getD i 0) (([0xBF800000, 0x3EC0E400] : List Nat).getD i 0)) := by
  constructor
  · intro i; rcases i with _ | _ | i <;> (unfold IsInt16; simp)
  · intro i; rcases i with _ | _ | i
    · show FloatOfInt16 (-32768) 0xBF800000; unfold FloatOfInt16; decide
    · show FloatOfInt16 12345 0x3EC0E400; unfold FloatOfInt16; decide
    · show FloatOfInt16 0 0; unfold FloatOfInt16; decide

example : (msStreamArgs int16ToRes int16ToSig 0 16 0 12 2 1 (some 0) [-32768, 12345]).sig = [0xC69F8E00] ∧
    (msStreamArgs int16ToRes int16ToSig 0 16 0 12 2 1 (some 0) [-32768, 12345]).c2 = 0 := by decide

/-- **in24_exact**.  Every 24-bit sample (indeed every `|a| < 2^24`) is converted to `opus_res` without
    rounding: the value of `INT24TORES(a)` is exactly `a·2^-23`. -/
theorem in24_exact (a : Int) (ha : a.natAbs < 2 ^ 24) : val (int24ToRes a) = some (a * 2 ^ 126) :=
  (int24ToRes_val ha).1

example : int24ToRes 8388607 = 0x3F7FFFFE ∧ val 0x3F7FFFFE = some (8388607 * 2 ^ 126) := by decide

/-- **rne_nearest_even** (what "rounded to nearest" means below).  `rne k d` is an integer nearest to
    `k / 2^d`, even when two integers are equally near, and it is the only integer with that property. -/
theorem rne_nearest_even (k : Int) (d : Nat) :
    IsRne (rne k d) k d ∧ ∀ z, IsRne z k d → z = rne k d :=
  ⟨rne_isRne k d, fun _ hz => (rne_of_isRne hz).symm⟩

example : rne 5 1 = 2 ∧ rne 7 1 = 4 ∧ rne (-5) 1 = -2 ∧ rne (-7) 2 = -2 := by decide

/-- **out24_spec** (decoder clause, 24-bit).  For every float bit pattern `b`: `RES2INT24(b)` is
    value·2^23 rounded to nearest-even when that fits an int32, and the x86 integer-indefinite −2^31 for
    larger magnitudes, ±inf and NaN; `opus_decode24` applies it to every sample of the float decode. -/
theorem out24_spec (b : Nat) (hb : b < 2 ^ 32) (out : List Nat) (hout : ∀ y ∈ out, y < 2 ^ 32) :
    res2Int24 b = out24Spec b ∧
    (∀ k, val b = some k → -(2 ^ 31) ≤ rne k 126 → rne k 126 < 2 ^ 31 → res2Int24 b = rne k 126) ∧
    decode24Out out = out.map out24Spec := by
  refine ⟨res2Int24_spec b, fun k hk h1 h2 => ?_, ?_⟩
  · rw [res2Int24_spec, out24Spec_of_val hk, if_pos ⟨h1, h2⟩]
  · unfold decode24Out; exact List.map_congr_left (fun y _ => res2Int24_spec y)

example : res2Int24 0x3F800000 = 8388608 ∧ res2Int24 0x34400000 = 2 ∧ res2Int24 0x34A00000 = 2 ∧
    res2Int24 0x7FC00000 = -2147483648 ∧ res2Int24 0x43800000 = -2147483648 := by decide

/-- **out16_spec** (decoder clause, 16-bit).  For every float bit pattern `b`: `RES2INT16(b)` =
    `FLOAT2INT16(b)` is value·2^15 rounded to nearest-even and saturated to [−32768, 32767]
    (−32768 for NaN, ±inf saturate); `opus_decode` is the float decode passed through the soft clipper
    (any function `clip` of block and memory) and then through exactly this conversion, sample by sample. -/
theorem out16_spec {Mem : Type} (b : Nat) (hb : b < 2 ^ 32) (clip : List Nat → Mem → List Nat × Mem)
    (out : List Nat) (mem : Mem) (hclip : ∀ y ∈ (clip out mem).1, y < 2 ^ 32) :
    float2Int16 b = out16Spec b ∧
    (∀ k, val b = some k → float2Int16 b = sat16 (rne k 134)) ∧
    decode16Out clip out mem = ((clip out mem).1.map out16Spec, (clip out mem).2) := by
  refine ⟨float2Int16_spec b, fun k hk => by rw [float2Int16_spec, out16Spec_of_val hk], ?_⟩
  unfold decode16Out celtFloat2Int16
  simp only
  congr 1
  exact List.map_congr_left (fun y _ => float2Int16_spec y)

example : float2Int16 0x3F800000 = 32767 ∧ float2Int16 0xBF800000 = -32768 ∧ float2Int16 0x38400000 = 2 ∧
    float2Int16 0x38A00000 = 2 ∧ float2Int16 0x7FC00000 = -32768 ∧ float2Int16 0x7F800000 = 32767 := by decide

/-- **sat16_range**.  The 16-bit conversion never leaves the int16 range (so the C cast
    `(opus_int16)float2int(x)` never wraps), for every bit pattern including NaN, ±inf and huge values. -/
theorem sat16_range (b : Nat) (hb : b < 2 ^ 32) : -32768 ≤ float2Int16 b ∧ float2Int16 b ≤ 32767 :=
  float2Int16_range b

example : float2Int16 0x7F7FFFFF = 32767 ∧ float2Int16 0xFF7FFFFF = -32768 := by decide

/-- **views_roundtrip**.  The three views are mutually consistent: a 16-bit sample converted to `opus_res`
    reads back as itself through the 16-bit output, as `256·x` through the 24-bit output, and a 24-bit
    sample reads back as itself through the 24-bit output. -/
theorem views_roundtrip (x : Int) (hx : IsInt16 x) (a : Int) (ha : a.natAbs < 2 ^ 24) :
    float2Int16 (int16ToRes x) = x ∧ res2Int24 (int16ToRes x) = 256 * x ∧ res2Int24 (int24ToRes a) = a :=
  ⟨int16_roundtrip hx, int16_to_int24 hx, int24_roundtrip ha⟩

example : float2Int16 (int16ToRes (-32768)) = -32768 ∧ res2Int24 (int24ToRes (-8388608)) = -8388608 := by decide

/-- **proj16_saturates** (projection clause).  The 16-bit projection output of one output channel — the
    output cleared, then for every decoded stream channel `output = clamp16(output + ((m·RES2INT16(v) + 16384) >> 15))`
    (src/mapping_matrix.c:212-221) — never leaves [−32768, 32767], for any matrix cells and any float samples
    (it saturates, it cannot wrap). -/
theorem proj16_saturates (cells : List Int) (samples : List Nat) :
    -32768 ≤ projOut16 cells samples ∧ projOut16 cells samples ≤ 32767 :=
  foldl_projStep_range _ 0 (by omega)

example : projOut16 [32767, 32767, 32767] [0x3F800000, 0x3F800000, 0x3F800000] = 32767 ∧
    projOut16 [32767, -32768] [0xBF800000, 0x3F800000] = -32768 := by decide

/-- **proj16_tracks** (projection clause; P1).  When no accumulation step saturates, the 16-bit output is
    the sum of the rounded Q15 products, and differs from the exact matrix product `Σ m_k·s_k / 32768` of the
    16-bit stream samples `s_k = RES2INT16(v_k)` by at most half an LSB per matrix column. -/
theorem proj16_tracks (cells : List Int) (samples : List Nat) (h : NoSat 0 (List.zip cells samples)) :
    projOut16 cells samples = sumQ (List.zip cells samples) ∧
    -(16384 * ((List.zip cells samples).length : Int)) ≤
      32768 * projOut16 cells samples - sumExact (List.zip cells samples) ∧
    32768 * projOut16 cells samples - sumExact (List.zip cells samples) ≤
      16384 * ((List.zip cells samples).length : Int) := by
  have e : projOut16 cells samples = sumQ (List.zip cells samples) := by
    unfold projOut16; rw [foldl_projStep_nosat _ 0 h]; omega
  rw [e]
  exact ⟨rfl, sumQ_err _⟩

example : NoSat 0 (List.zip [16384, -8192] [0x3F000000, 0x3E800000]) ∧
    projOut16 [16384, -8192] [0x3F000000, 0x3E800000] = 6144 := by
  decide

/-- **proj16_tracks_float** (projection clause; P1, float half).  `sumExactF` is the exact, unrounded value of
    the float path `Σ (cell_k/32768)·v_k` as a function of the bit patterns (units 2^-164).  When nothing
    saturates (no `RES2INT16` conversion of a stream sample, no accumulation step), the 16-bit output differs
    from it by at most one 16-bit LSB per matrix column.  (`projOutF`, the float path WITH its binary32
    roundings `tmp = (1/32768.f)*cell*v; out += tmp`, is modelled bit-exactly and tied to
    `mapping_matrix_multiply_channel_out_float`; the distance of `projOutF` from `sumExactF` is the
    accumulated binary32 rounding, not bounded by a theorem.) -/
theorem proj16_tracks_float (cells : List Int) (samples : List Nat)
    (hns : NoSat 0 (List.zip cells samples)) (hc : ∀ p ∈ List.zip cells samples, ConvOk p ∧ p.2 < 2 ^ 32) :
    |projOut16 cells samples * 2 ^ 149 - sumExactF (List.zip cells samples)| ≤
      ((List.zip cells samples).length : Int) * 2 ^ 149 := by
  obtain ⟨_, t1, t2⟩ := proj16_tracks cells samples hns
  have h2 := sumExact_vs_F _ fun p hp => (hc p hp).1
  generalize projOut16 cells samples = O at *
  generalize sumExact (List.zip cells samples) = S at *
  generalize sumExactF (List.zip cells samples) = E at *
  generalize ((List.zip cells samples).length : Int) = K at *
  obtain ⟨a1, a2⟩ := abs_le.mp h2
  -- linear in O, S, E, K: the powers of two are literals
  exact abs_le.mpr ⟨by omega, by omega⟩

example : ConvOk ((16384 : Int), 0x3F000000) ∧ NoSat 0 (List.zip [16384, -8192] [0x3F000000, 0x3E800000]) :=
  ⟨⟨by unfold IsInt16; decide, 2 ^ 148, by decide, by decide, by decide⟩, by decide⟩

example : projOut16 [16384, -8192] [0x3F000000, 0x3E800000] = 6144 ∧
    sumExactF (List.zip [16384, -8192] [0x3F000000, 0x3E800000]) = 6144 * 2 ^ 149 ∧
    projOutF [16384, -8192] [0x3F000000, 0x3E800000] = 0x3E400000 := by decide

end OpusProps.C13
