import OpusProofs.RepackExtRound
import OpusProofs.RepackInPlace
import OpusProofs.RepackMsLoop
/-
  Property C07 — "Repacketizer, pad and unpad preserve frames and always emit valid packets".

  Model:  `Opus.Repack`  (transcription of src/repacketizer.c: `cat`, `out`, `outRange`,
          `outRangeImpl`, `packetPad`, `packetUnpad`, …), using the parser model of C06.
  Spec:   `Opus.FramingSpec` (`Packet`, `serialize`, `Valid`) — the RFC 6716 serialiser of C06.
  Histories: `Reachable s` = `s` is the state after ANY finite sequence of
          init / cat (any byte string, valid or not) / out / out_range starting from `init`.
  Scope:  the theorems with hypothesis `ExtFree s.pads` (every stored padding has
          `opus_packet_extensions_count = 0`, e.g. packets without padding; `exts = #[]`) cover the
          extension-free case; `out_roundtrip_ext*`, `out_nothing_gathered` and
          `out_malformed_padding_dropped` cover arbitrary stored paddings and caller extensions.
  "Parses back": with `Opus.Framing.parseImpl`, proved in C06 to accept exactly RFC 6716 framing.
-/
namespace OpusProps.C07
open Opus Opus.Framing Opus.FramingSpec Opus.Repack Opus.Ext Opus.RepackProofs Opus.ExtProofs Opus.DecSkel

/-- Clause "accepts a packet exactly when it is valid, configuration-compatible and keeps the total
    at or below 120 ms": in every reachable state, for every byte string. -/
theorem cat_accepts_iff (s : Rp) (hs : Reachable s) (bs : Bytes) (hb : BytesOk bs) :
    (cat s bs).2 = .ok () ↔
      ∃ r, parseImpl false bs = .ok r ∧ (s.nbFrames = 0 ∨ s.toc / 4 = bs.headD 0 / 4) ∧
        (s.nbFrames + r.count) * samplesPerFrame (if s.nbFrames = 0 then bs.headD 0 else s.toc) 8000 ≤ 960 :=
  catImpl_accepts_iff s (reachable_inv hs) bs hb false

/-- Clause "leaves its contents unchanged on rejection": the frames (hence `nb_frames`) and the stored
    paddings are untouched, a non-empty repacketizer is bit-for-bit unchanged (an empty one may have had
    `toc`/`framesize` overwritten, which the next `cat` overwrites again), and the error is
    `OPUS_INVALID_PACKET`. -/
theorem cat_reject_unchanged (s : Rp) (hs : Reachable s) (bs : Bytes) (hb : BytesOk bs)
    (h : (cat s bs).2 ≠ .ok ()) :
    (cat s bs).1.frames = s.frames ∧ (cat s bs).1.pads = s.pads ∧ (s.nbFrames ≠ 0 → (cat s bs).1 = s) ∧
    (cat s bs).2 = .err .invalidPacket :=
  ⟨(catImpl_reject s bs false h).1, (catImpl_reject s bs false h).2.1, (catImpl_reject s bs false h).2.2,
   catImpl_err s (reachable_inv hs) bs hb false h⟩

/-- An accepted `cat` appends exactly the frames of the packet (`bs` is the serialisation of a valid
    packet `p`), in order, and keeps the configuration bits. -/
theorem cat_ok_state (s : Rp) (bs : Bytes) (hb : BytesOk bs) (h : (cat s bs).2 = .ok ()) :
    ∃ p, Valid p ∧ bs = serialize false p ∧ (cat s bs).1.frames = s.frames ++ p.frames ∧
      (cat s bs).1.toc = (if s.nbFrames = 0 then p.toc else s.toc) := by
  obtain ⟨r, hr, hst⟩ := catImpl_ok_state s bs false h
  obtain ⟨p, hv, hbs, _, _, hfr⟩ := packet_of_parse bs hb r hr
  refine ⟨p, hv, hbs, ?_, ?_⟩
  · show (catImpl s bs false).1.frames = _
    rw [hst]; simp only [catNew, hfr, (withToc_frames s _).1]
  · show (catImpl s bs false).1.toc = _
    rw [hst]
    simp only [catNew, withToc, hbs, FramingProofs.serialize_headD]
    split <;> rfl

/-- `RepackInv` over all op sequences: at most 48 frames, every frame at most 1275 bytes, at most
    120 ms (`nb_frames · framesize ≤ 960` at 8 kHz), one padding entry per frame. -/
theorem repack_inv (s : Rp) (hs : Reachable s) :
    s.nbFrames ≤ 48 ∧ (∀ f ∈ s.frames, f.length ≤ 1275) ∧ s.nbFrames * s.framesize ≤ 960 ∧
    (s.nbFrames ≠ 0 → s.toc < 256 ∧ s.framesize = samplesPerFrame s.toc 8000) ∧ s.pads.length = s.nbFrames := by
  have hinv := reachable_inv hs
  refine ⟨hinv.nb_le, hinv.le, hinv.dur, ?_, hinv.pads_len⟩
  intro h
  have hne : s.frames ≠ [] := by intro h'; apply h; simp [Rp.nbFrames, h']
  exact ⟨hinv.toc_lt hne, hinv.fs hne⟩

/-- Clause "`b<0 ∨ b≥e ∨ e>nb → BAD_ARG`" (the call has no state output at all). -/
theorem out_bad_arg (s : Rp) (b e maxlen : Int) (sd pad : Bool) (exts : Array Ext)
    (h : b < 0 ∨ b ≥ e ∨ e > s.nbFrames) : outRangeImpl s b e maxlen sd pad exts = .err .badArg := by
  unfold outRangeImpl; rw [if_pos h]

/-- "Refused cleanly": in the extension-free case the only outcomes of `out_range_impl` are a packet,
    `BAD_ARG` or `BUFFER_TOO_SMALL` — never an internal error, an assertion or an out-of-bounds access. -/
theorem out_no_other_failure (s : Rp) (hs : Reachable s) (hfree : ExtFree s.pads) (b e maxlen : Int) (sd pad : Bool) :
    (∃ bs, outRangeImpl s b e maxlen sd pad #[] = .ok bs) ∨ outRangeImpl s b e maxlen sd pad #[] = .err .badArg ∨
    outRangeImpl s b e maxlen sd pad #[] = .err .bufferTooSmall := by
  by_cases h : b < 0 ∨ b ≥ e ∨ e > s.nbFrames
  · exact Or.inr (Or.inl (out_bad_arg s b e maxlen sd pad #[] h))
  · have hb : b = (b.toNat : Int) := by omega
    have he : e = (e.toNat : Int) := by omega
    rw [hb, he, outRangeImpl_noext s b.toNat e.toNat (by omega) (by omega) hfree]
    split
    · exact Or.inr (Or.inr rfl)
    · exact Or.inl ⟨_, rfl⟩

/-- Clause "emits packets that parse back to precisely the selected frames, byte for byte and in order,
    with the original configuration bits; output never exceeds maxlen" (and has exactly `maxlen` bytes
    when padding): for every reachable state, range, `maxlen`, both framings (in the self-delimited
    framing whatever bytes follow). -/
theorem out_roundtrip (s : Rp) (hs : Reachable s) (hfree : ExtFree s.pads) (b e : Nat) (hb : b < e) (he : e ≤ s.nbFrames)
    (maxlen : Int) (sd pad : Bool) (bs : Bytes) (h : outRangeImpl s b e maxlen sd pad #[] = .ok bs)
    (rest : Bytes) (hrest : sd = false → rest = []) :
    ∃ r, parseImpl sd (bs ++ rest) = .ok r ∧
      slices (bs ++ rest) r.payloadOffset r.sizes = selFrames s b e ∧ r.count = e - b ∧
      r.toc / 4 = s.toc / 4 ∧ r.packetOffset = bs.length ∧
      (bs.length : Int) ≤ maxlen ∧ (pad = true → (bs.length : Int) = maxlen) := by
  rw [outRangeImpl_noext s b e hb he hfree] at h
  split at h
  · simp at h
  rename_i hfit
  simp only [Res.ok.injEq] at h
  subst h
  obtain ⟨hok, hcnt⟩ := selFrames_ok s (reachable_inv hs) b e hb he
  have hlen := outPacket_len s.toc _ hok.ne maxlen sd pad (by omega)
  obtain ⟨hparse, hsl⟩ := parse_serialize_frames sd _ (outPacket_valid s.toc _ hok maxlen sd pad (by omega)) rest hrest
  refine ⟨_, hparse, by rw [hsl, outPacket_frames], ?_, outPacket_toc _ _ _ _ _, rfl, ?_, ?_⟩
  · simp only [view]; rw [outPacket_frames]; exact hcnt
  · rw [hlen]; split <;> omega
  · intro hp; rw [hlen, if_pos hp]

/-- Clause "refused cleanly when maxlen is too small": `BUFFER_TOO_SMALL` exactly when the minimal size
    (`minSize`: code 0 / 1 / 2 / 3-CBR / 3-VBR as appropriate) exceeds `maxlen`; otherwise a packet of
    exactly the minimal size (exactly `maxlen` when padding) is produced. -/
theorem out_size (s : Rp) (hs : Reachable s) (hfree : ExtFree s.pads) (b e : Nat) (hb : b < e) (he : e ≤ s.nbFrames)
    (maxlen : Int) (sd pad : Bool) :
    (outRangeImpl s b e maxlen sd pad #[] = .err .bufferTooSmall ↔
       minSize sd ((selFrames s b e).map List.length) > maxlen) ∧
    (minSize sd ((selFrames s b e).map List.length) ≤ maxlen →
       ∃ bs, outRangeImpl s b e maxlen sd pad #[] = .ok bs ∧
         (bs.length : Int) = (if pad then maxlen else minSize sd ((selFrames s b e).map List.length))) := by
  have hne := (selFrames_ok s (reachable_inv hs) b e hb he).1.ne
  rw [outRangeImpl_noext s b e hb he hfree]
  constructor
  · constructor
    · intro h; split at h
      · assumption
      · simp at h
    · intro h; rw [if_pos h]
  · intro h
    rw [if_neg (by omega)]
    exact ⟨_, rfl, outPacket_len _ _ hne _ _ _ h⟩

/-- The size used is minimal: no RFC-valid packet holding the same frames is shorter. -/
theorem out_min_size_minimal (sd : Bool) (p : Packet) (hv : Valid p) :
    minSize sd (p.frames.map List.length) ≤ ((serialize sd p).length : Int) :=
  minSize_minimal sd p hv

/-- Clause "1277 bytes per selected frame always suffice" (`opus_repacketizer_out_range`). -/
theorem out_1277_suffices (s : Rp) (hs : Reachable s) (hfree : ExtFree s.pads) (b e : Nat) (hb : b < e) (he : e ≤ s.nbFrames)
    (maxlen : Int) (hm : 1277 * ((e : Int) - b) ≤ maxlen) :
    ∃ bs, outRange s b e maxlen = .ok bs := by
  obtain ⟨hok, hlen⟩ := selFrames_ok s (reachable_inv hs) b e hb he
  have h1 := minSize_le_1277 ((selFrames s b e).map List.length) (by simpa using hok.ne)
    (List.forall_mem_map.mpr hok.le)
  simp only [List.length_map, hlen] at h1
  obtain ⟨bs, hbs, _⟩ := (out_size s hs hfree b e hb he maxlen false false).2 (by omega)
  exact ⟨bs, hbs⟩

/-- Clause "padding to any new length gives a packet of exactly that length with the same frames"
    and the same configuration bits: valid packet whose padding carries no extensions, `new_len ≥ len`. -/
theorem pad_spec (bs : Bytes) (hb : BytesOk bs) (r : Parsed) (h : parseImpl false bs = .ok r)
    (hfree : Ext.count ((bs.drop r.padOffset).take r.padLen) r.padLen r.count = .ok 0)
    (newLen : Int) (hge : (bs.length : Int) ≤ newLen) :
    ∃ o r', packetPad bs newLen = .ok o ∧ (o.length : Int) = newLen ∧ parseImpl false o = .ok r' ∧
      slices o r'.payloadOffset r'.sizes = slices bs r.payloadOffset r.sizes ∧ r'.toc / 4 = r.toc / 4 := by
  obtain ⟨p, q, _, _, hview, hfr, hrel, hpad, hl⟩ := pad_rel bs hb r h hfree newLen hge
  obtain ⟨hparse, hsl, htoc, _⟩ := hrel.parse
  exact ⟨_, _, hpad, hl, hparse, by rw [hsl, hfr], by rw [hview]; exact htoc⟩

/-- `opus_packet_pad` refuses cleanly: `BAD_ARG` for `len < 1` or `new_len < len`, `INVALID_PACKET`
    for a byte string that is not a valid packet. -/
theorem pad_rejects (bs : Bytes) (hb : BytesOk bs) (newLen : Int) :
    ((bs.length < 1 ∨ newLen < bs.length) → packetPad bs newLen = .err .badArg) ∧
    (bs ≠ [] → (bs.length : Int) < newLen → (∀ r, parseImpl false bs ≠ .ok r) →
       packetPad bs newLen = .err .invalidPacket) :=
  ⟨pad_bad_arg bs newLen, fun hne hlt h => pad_invalid bs hb newLen hlt hne h⟩

/-- Clause "unpadding … never longer than its input", same frames and configuration bits, no padding
    left; an invalid packet is refused with `INVALID_PACKET`. -/
theorem unpad_spec (bs : Bytes) (hb : BytesOk bs) (hne : bs ≠ []) :
    (∀ r, parseImpl false bs = .ok r →
       ∃ o r', packetUnpad bs = .ok o ∧ 0 < o.length ∧ o.length ≤ bs.length ∧ parseImpl false o = .ok r' ∧
         slices o r'.payloadOffset r'.sizes = slices bs r.payloadOffset r.sizes ∧ r'.toc / 4 = r.toc / 4 ∧
         r'.padLen = 0 ∧ (o.length : Int) = minSize false r.sizes) ∧
    ((∀ r, parseImpl false bs ≠ .ok r) → packetUnpad bs = .err .invalidPacket) := by
  constructor
  · intro r h
    obtain ⟨p, hv, hbs, hview, hfr, hun⟩ := unpad_ok bs hb r h
    obtain ⟨l1, l2, l3⟩ := canonPacket_len p hv
    obtain ⟨hparse, hsl, htoc, _⟩ := (pktRel_canon hv).parse
    refine ⟨_, _, hun, l1, by rw [hbs]; exact l2, hparse, by rw [hsl, hfr], by rw [hview]; exact htoc, ?_,
      by rw [l3, hview]; rfl⟩
    simp only [view, canonPacket_nopad, List.length_nil]
  · exact unpad_invalid bs hb hne

/-- Clause "unpadding is canonical": the result depends only on the frames and the configuration bits
    — any two valid packets with the same frames and configuration unpad to the same bytes. -/
theorem unpad_canonical (p q : Packet) (hp : Valid p) (hq : Valid q) (hf : p.frames = q.frames)
    (ht : p.toc / 4 = q.toc / 4) :
    packetUnpad (serialize false p) = packetUnpad (serialize false q) := by
  rw [unpad_serialize p hp, unpad_serialize q hq, hf, canonPacket_congr _ _ _ ht]

/-- Clause "idempotent": `unpad (unpad x) = unpad x`. -/
theorem unpad_idempotent (bs : Bytes) (hb : BytesOk bs) (o : Bytes) (h : packetUnpad bs = .ok o) :
    packetUnpad o = .ok o := by
  by_cases hne : bs = []
  · subst hne; simp [packetUnpad] at h
  · rcases (FramingProofs.parseImpl_tame false bs).cases with ⟨r, hp⟩ | hp
    · obtain ⟨p, hv, _, _, _, hun⟩ := unpad_ok bs hb r hp
      rw [hun] at h; cases h
      rw [unpad_serialize _ (canonPacket_valid p hv), canonPacket_canon]
    · rw [unpad_invalid bs hb hne (by intro r hr; rw [hp] at hr; cases hr)] at h; cases h

/-- Padding and then unpadding gives the same bytes as unpadding directly (pad adds nothing but
    removable padding). -/
theorem unpad_pad (bs : Bytes) (hb : BytesOk bs) (r : Parsed) (h : parseImpl false bs = .ok r)
    (hfree : Ext.count ((bs.drop r.padOffset).take r.padLen) r.padLen r.count = .ok 0)
    (newLen : Int) (hgt : (bs.length : Int) < newLen) (o : Bytes) (ho : packetPad bs newLen = .ok o) :
    packetUnpad o = packetUnpad bs := by
  obtain ⟨p, q, hv, hbs, _, _, hrel, hps, _⟩ := pad_rel bs hb r h hfree newLen (by omega)
  rw [ho] at hps; cases hps
  rw [hbs]
  exact (unpad_canonical p q hv hrel.vq hrel.frames.symm hrel.toc.symm).symm

/-- Clause "the multistream variants do the same per stream" (unpad): a multistream packet is the
    concatenation of self-delimited valid packets and one standard packet (`msSerialize`); every stream is
    replaced by its canonical packet — same frames, same configuration bits, valid, never longer. -/
theorem ms_unpad_spec (ps : List Packet) (hne : ps ≠ []) (hv : ∀ p ∈ ps, Valid p) :
    msUnpad (msSerialize ps) ps.length = .ok (msSerialize (ps.map fun p => canonPacket p.toc p.frames)) ∧
    ∀ p ∈ ps, Valid (canonPacket p.toc p.frames) ∧ (canonPacket p.toc p.frames).frames = p.frames ∧
      (canonPacket p.toc p.frames).toc / 4 = p.toc / 4 ∧
      ∀ sd, (serialize sd (canonPacket p.toc p.frames)).length ≤ (serialize sd p).length := by
  refine ⟨msUnpad_serialize ps hne hv, ?_⟩
  intro p hp
  have hvp := hv p hp
  refine ⟨(pktRel_canon hvp).vq, (pktRel_canon hvp).frames, (pktRel_canon hvp).toc, ?_⟩
  intro sd
  have hl := canonPacket_length sd p hvp
  have hmin := minSize_minimal sd p hvp
  omega

/-- Clause "the multistream variants do the same per stream" (pad): all streams but the last are left
    byte-for-byte untouched; the last stream becomes a valid packet with the same frames and configuration
    bits, and the whole packet has exactly `new_len` bytes. -/
theorem ms_pad_spec (pre : List Packet) (last : Packet) (hv : ∀ p ∈ pre, Valid p) (hl : Valid last)
    (hfree : PadFree last) (newLen : Int) (hgt : ((msJoin pre last).length : Int) < newLen) :
    ∃ q, msPad (msJoin pre last) newLen (pre.length + 1 : Nat) = .ok (msJoin pre q) ∧ Valid q ∧
      q.frames = last.frames ∧ q.toc / 4 = last.toc / 4 ∧ ((msJoin pre q).length : Int) = newLen := by
  obtain ⟨q, hq, hrel, hlen⟩ := msPad_rel pre last hv hl hfree newLen hgt
  exact ⟨q, hq, hrel.vq, hrel.frames, hrel.toc, hlen⟩

/-- **out_roundtrip_ext** — extension carriage at full strength (the gathering loop as commented at
    repacketizer.c:145-146, :172-178):
    ANY reachable state (stored paddings arbitrary: extension lists, malformed lists, plain padding), every
    valid range, `maxlen`, framing, with or without the `pad` flag, every array of valid caller extensions,
    no restriction on the resulting list (the generator's repeat mechanism included; built on C16's
    `generate_parse_full` / `parse_padded_full`).  With `all` = `exts` followed by the extensions gathered
    from the stored packets overlapping `[begin,end)` (`gathered`: parsed from each padding, nothing if it is
    not a well-formed list, renumbered `frame + i - begin`, kept iff in `[0,end-begin)`) non-empty: a
    successful output parses back to exactly the selected frames with the stored configuration bits, has
    at most `maxlen` bytes (exactly `maxlen` with `pad`), and its padding region, read by the extension
    parser of C16, yields one entry per element of `all`; for EVERY output frame `g` the entries of frame
    `g` are exactly the extensions of `all` with frame `g`, in gathering order, with identical IDs, lengths
    and payload bytes. -/
theorem out_roundtrip_ext (s : Rp) (hs : Reachable s) (b e : Nat) (hb : b < e) (he : e ≤ s.nbFrames)
    (exts : Array Ext) (hvx : AllValid exts (e - b))
    (hpos : 0 < (exts ++ (gathered (s.pads.take e) 0 b e).toArray).size)
    (maxlen : Int) (sd pad : Bool) (bs : Bytes) (h : outRangeImpl s b e maxlen sd pad exts = .ok bs)
    (rest : Bytes) (hrest : sd = false → rest = []) :
    ∃ r, parseImpl sd (bs ++ rest) = .ok r ∧
      slices (bs ++ rest) r.payloadOffset r.sizes = selFrames s b e ∧ r.count = e - b ∧
      r.toc / 4 = s.toc / 4 ∧ r.packetOffset = bs.length ∧ (bs.length : Int) ≤ maxlen ∧
      (pad = true → (bs.length : Int) = maxlen) ∧
      ∀ cap : Int, ((exts ++ (gathered (s.pads.take e) 0 b e).toArray).size : Int) ≤ cap →
        ∃ refs, Ext.parse (((bs ++ rest).drop r.padOffset).take r.padLen)
                  (((bs ++ rest).drop r.padOffset).take r.padLen).length cap ((e - b : Nat) : Int) = .ok refs ∧
          refs.length = (exts ++ (gathered (s.pads.take e) 0 b e).toArray).size ∧
          ∀ g, (refs.filter (fun x => x.frame = g)).map (ExtRef.toExt (((bs ++ rest).drop r.padOffset).take r.padLen)) =
            (allOf (exts ++ (gathered (s.pads.take e) 0 b e).toArray) g).map normExt := by
  obtain ⟨p, hv, hbs, hfr, htoc, hle, hpl, hpar⟩ :=
    outRangeImpl_ext_full_pad s (reachable_inv hs) (reachable_padsOk hs) b e hb he exts hvx hpos maxlen sd pad bs h
  obtain ⟨hparse, hsl⟩ := parse_serialize_frames sd p hv rest hrest
  subst hbs
  refine ⟨view sd p, hparse, by rw [hsl, hfr], ?_, htoc, rfl, hle, hpl, ?_⟩
  · simp only [view]; rw [hfr]; exact (selFrames_ok s (reachable_inv hs) b e hb he).2
  · intro cap hcap
    rw [padding_of_serialize]
    obtain ⟨refs, g1, g2, _, g4⟩ := hpar cap hcap
    exact ⟨refs, g1, g2, g4⟩

/-- Clause "packets carrying extensions are merged / split correctly": `out_roundtrip_ext` for the calls without the
    `pad` flag (`opus_repacketizer_out`, `opus_repacketizer_out_range` and the unpad paths), minus the clause about
    `pad`. -/
theorem out_roundtrip_ext_nopad (s : Rp) (hs : Reachable s) (b e : Nat) (hb : b < e) (he : e ≤ s.nbFrames)
    (exts : Array Ext) (hvx : AllValid exts (e - b))
    (hpos : 0 < (exts ++ (gathered (s.pads.take e) 0 b e).toArray).size)
    (maxlen : Int) (sd : Bool) (bs : Bytes) (h : outRangeImpl s b e maxlen sd false exts = .ok bs)
    (rest : Bytes) (hrest : sd = false → rest = []) :
    ∃ r, parseImpl sd (bs ++ rest) = .ok r ∧
      slices (bs ++ rest) r.payloadOffset r.sizes = selFrames s b e ∧ r.count = e - b ∧
      r.toc / 4 = s.toc / 4 ∧ r.packetOffset = bs.length ∧ (bs.length : Int) ≤ maxlen ∧
      ∀ cap : Int, ((exts ++ (gathered (s.pads.take e) 0 b e).toArray).size : Int) ≤ cap →
        ∃ refs, Ext.parse (((bs ++ rest).drop r.padOffset).take r.padLen)
                  (((bs ++ rest).drop r.padOffset).take r.padLen).length cap ((e - b : Nat) : Int) = .ok refs ∧
          refs.length = (exts ++ (gathered (s.pads.take e) 0 b e).toArray).size ∧
          ∀ g, (refs.filter (fun x => x.frame = g)).map (ExtRef.toExt (((bs ++ rest).drop r.padOffset).take r.padLen)) =
            (allOf (exts ++ (gathered (s.pads.take e) 0 b e).toArray) g).map normExt := by
  obtain ⟨r, h1, h2, h3, h4, h5, h6, _, h8⟩ :=
    out_roundtrip_ext s hs b e hb he exts hvx hpos maxlen sd false bs h rest hrest
  exact ⟨r, h1, h2, h3, h4, h5, h6, h8⟩

/-- Extension carriage, sharper conclusion for lists on which the generator repeats nothing: it pins down the
    WHOLE parsed list and the exact padding bytes `0x01… ++ serBytes`, not only the per-frame sublists (the
    unrestricted theorem is `out_roundtrip_ext` above).
    In ANY reachable state (stored paddings arbitrary: extension lists, malformed lists, plain padding),
    for every valid range, `maxlen`, framing, `pad` flag and caller-supplied valid extensions `exts`:
    let `all` = `exts` followed by the extensions gathered from the stored packets that overlap
    `[begin,end)` — what `opus_packet_extensions_parse` reads from each padding (`padRefs`; nothing if the
    padding is not a well-formed extension list), renumbered `frame + i - begin` and kept iff that lies
    in `[0, end-begin)` (`gathered`).  If `all` is non-empty and in C16's `NoRepeat` class, a successful
    output parses back to exactly the selected frames (as in `out_roundtrip`), AND the padding region
    the parser reports, read by the extension parser of C16, yields exactly `all` stably sorted by frame
    (`sortedFrom`: frame 0's extensions in gathering order, then frame 1's, …) — same count, IDs, frame
    numbers, lengths and payload bytes. -/
theorem out_roundtrip_ext_norepeat (s : Rp) (hs : Reachable s) (b e : Nat) (hb : b < e) (he : e ≤ s.nbFrames)
    (exts : Array Ext) (hvx : AllValid exts (e - b))
    (hpos : 0 < (exts ++ (gathered (s.pads.take e) 0 b e).toArray).size)
    (hnr : NoRepeat (exts ++ (gathered (s.pads.take e) 0 b e).toArray) (e - b))
    (maxlen : Int) (sd pad : Bool) (bs : Bytes) (h : outRangeImpl s b e maxlen sd pad exts = .ok bs)
    (rest : Bytes) (hrest : sd = false → rest = []) :
    ∃ r, parseImpl sd (bs ++ rest) = .ok r ∧
      slices (bs ++ rest) r.payloadOffset r.sizes = selFrames s b e ∧ r.count = e - b ∧
      r.toc / 4 = s.toc / 4 ∧ r.packetOffset = bs.length ∧
      (bs.length : Int) ≤ maxlen ∧ (pad = true → (bs.length : Int) = maxlen) ∧
      ∀ cap : Int, ((exts ++ (gathered (s.pads.take e) 0 b e).toArray).size : Int) ≤ cap →
        ∃ refs, Ext.parse (((bs ++ rest).drop r.padOffset).take r.padLen)
                  (((bs ++ rest).drop r.padOffset).take r.padLen).length cap ((e - b : Nat) : Int) = .ok refs ∧
          refs.length = (exts ++ (gathered (s.pads.take e) 0 b e).toArray).size ∧
          refs.map (ExtRef.toExt (((bs ++ rest).drop r.padOffset).take r.padLen)) =
            (sortedFrom (exts ++ (gathered (s.pads.take e) 0 b e).toArray) (e - b) 0).map normExt := by
  obtain ⟨p, hv, hbs, hfr, htoc, hle, hpl, hpar⟩ :=
    outRangeImpl_ext_full_pad s (reachable_inv hs) (reachable_padsOk hs) b e hb he exts hvx hpos maxlen sd pad bs h
  obtain ⟨hparse, hsl⟩ := parse_serialize_frames sd p hv rest hrest
  subst hbs
  refine ⟨view sd p, hparse, by rw [hsl, hfr], ?_, htoc, rfl, hle, hpl, ?_⟩
  · simp only [view]; rw [hfr]; exact (selFrames_ok s (reachable_inv hs) b e hb he).2
  · intro cap hcap
    rw [padding_of_serialize]
    obtain ⟨refs, g1, g2, g3, _⟩ := hpar cap hcap
    exact ⟨refs, g1, g2, by rw [g3, expAll_noRepeat _ _ hnr]⟩

/-- In-place safety, `opus_packet_unpad`: run on ONE byte array in the order of the C code — `cat`
    stores frame offsets into the buffer, `out_range_impl` writes the new header over the start of the same
    buffer and then moves the frames one by one with memmove (`OpusModel/RepackInPlace.lean`) — the first
    `ret` bytes are exactly the result of the pure model (which reads frames from private copies): no frame
    byte is overwritten before it is read; the buffer keeps its length (bytes past `ret` are stale). -/
theorem unpad_in_place (p : Packet) (hv : Valid p) :
    ∃ out X, packetUnpad (serialize false p) = .ok out ∧
      packetUnpadInPlace (serialize false p) = .ok (out ++ X, out.length) ∧
      (out ++ X).length = (serialize false p).length := by
  obtain ⟨X, hX, h⟩ := unpadStreamInPlace_spec false p hv [] [] [] (serialize false p).length (Int.le_refl _)
  simp only [List.nil_append, List.append_nil, List.length_nil, Nat.zero_add] at h hX
  have hpos := MsDecEq.serialize_length_pos false p
  have hcpos := MsDecEq.serialize_length_pos false (canonPacket p.toc p.frames)
  refine ⟨_, X, unpad_serialize p hv, ?_, by simp; omega⟩
  unfold packetUnpadInPlace
  rw [if_neg (by omega), h]
  simp only []
  rw [if_pos ⟨hcpos, by omega⟩]

/-- In-place safety, `opus_multistream_packet_unpad`: streams are unpadded front to back into the same
    buffer (write position ≤ read position); the result equals the pure model's, for every number of
    streams; later streams are read after earlier outputs were written and are never clobbered. -/
theorem ms_unpad_in_place (ps : List Packet) (hne : ps ≠ []) (hv : ∀ p ∈ ps, Valid p) :
    ∃ out X, msUnpad (msSerialize ps) ps.length = .ok out ∧
      msUnpadInPlace (msSerialize ps) ps.length = .ok (out ++ X, out.length) ∧
      (out ++ X).length = (msSerialize ps).length := by
  obtain ⟨X, hX, h⟩ := msUnpadLoopInPlace_spec ps hv [] []
  simp only [List.nil_append, List.length_nil, Nat.zero_add, Nat.add_zero] at h hX
  have hpos := msSerialize_pos hne
  refine ⟨_, X, msUnpad_serialize ps hne hv, ?_, hX⟩
  unfold msUnpadInPlace
  rw [if_neg (by omega)]
  simp only [Int.toNat_natCast]
  exact h

/-- In-place safety, the heart of it: the frame-moving loop `OPUS_MOVE(ptr, frames[i], len[i])` on one
    buffer `A ++ G ++ F ++ R` (write position `|A|`, frames `F` lying back to back from `|A|+|G|`): every
    frame arrives intact, `A` and everything after the frames (`R`) is untouched.  (`opus_packet_pad` and
    `opus_multistream_packet_pad` copy the packet to a separate buffer first — repacketizer.c:359-363 — so
    for them source and destination never overlap and the pure model is exact.) -/
theorem move_frames_safe (sizes : List Nat) (A G F R : Bytes) (hF : F.length = sumN sizes) :
    ∃ X, X.length = G.length ∧
      moveFrames (A ++ G ++ F ++ R) A.length (frameSlots (A.length + G.length) sizes) = A ++ F ++ X ++ R :=
  moveFrames_spec sizes A G F R hF

/-- Clause "same decoded audio", packet-level facts: everything the decoder skeleton of C01 derives from
    the packet, except the ADDRESS of the frame data, is identical for a valid packet `x` and `pad x`: the
    same frame sizes in the same order, byte-identical frames, the same frame duration / mode / bandwidth /
    channel count (the TOC differs only in the two frame-count-code bits), and hence the same return value
    (number of samples, or error) and `last_packet_duration` of `opus_decode_native` in every decoder
    state, for every `frame_size` and `decode_fec`. -/
theorem pad_same_packet_inputs (bs : Bytes) (hb : BytesOk bs) (r : Parsed) (h : parseImpl false bs = .ok r)
    (hfree : Ext.count ((bs.drop r.padOffset).take r.padLen) r.padLen r.count = .ok 0)
    (newLen : Int) (hge : (bs.length : Int) ≤ newLen) :
    ∃ o r', packetPad bs newLen = .ok o ∧ parseImpl false o = .ok r' ∧ r'.sizes = r.sizes ∧
      slices o r'.payloadOffset r'.sizes = slices bs r.payloadOffset r.sizes ∧
      (∀ fs, samplesPerFrame (o.headD 0) fs = samplesPerFrame (bs.headD 0) fs) ∧
      getMode (o.headD 0) = getMode (bs.headD 0) ∧ getBandwidth (o.headD 0) = getBandwidth (bs.headD 0) ∧
      getNbChannels (o.headD 0) = getNbChannels (bs.headD 0) ∧
      (∀ (st : DecState) (frame_size fec : Int),
        nativeRet st (some o) o.length frame_size fec false = nativeRet st (some bs) bs.length frame_size fec false) ∧
      r'.count = r.count ∧ o.headD 0 / 4 = bs.headD 0 / 4 := by
  -- the padded bytes are the serialisation of a valid packet `q` with the frames and configuration bits of `p`
  obtain ⟨p, q, _, hbs, hview, hfr, hrel, hpad, _⟩ := pad_rel bs hb r h hfree newLen hge
  obtain ⟨hparse, hsl, _, hsz, hcnt⟩ := hrel.parse
  rw [← hview] at hsz hcnt
  have ht4 : (serialize false q).headD 0 / 4 = bs.headD 0 / 4 := by
    rw [hbs, FramingProofs.serialize_headD, FramingProofs.serialize_headD]; exact hrel.toc
  have hc := fun fs => FramingProofs.toc_helpers_congr _ _ fs ht4
  refine ⟨_, _, hpad, hparse, hsz, by rw [hsl, hfr], fun fs => (hc fs).2.2.1, (hc 0).1, (hc 0).2.1, (hc 0).2.2.2,
    fun st _ _ => nativeRet_congr hparse h hcnt (hc st.Fs.toNat).2.2.1, hcnt, ht4⟩

/-- Clause "padding gives … the same decoded audio and final range" (`pad_same_decode`, with C01's decoder
    skeleton `Opus.DecSkel.decodeNative`, read-only): for a valid packet `x` (padding without extensions),
    `y = pad x`, and DSP oracles that behave the same when handed the same frame bytes at the shifted
    address (`OracleShift o1 o2 δ`, δ = difference of the two payload offsets — frames of `x` and `y` are
    byte-identical by `pad_spec`), `opus_decode_native` on `y` returns the same value and ends in the same
    run — same decoder state, same oracle-call counter, and the same log of inner calls (SILK, CELT,
    range-decoder init, PCM writes) once the frame offsets recorded in the log are shifted by δ — from every
    start run, for every `frame_size`, `decode_fec`, output pointer and soft-clip flag.  Hence the same audio
    and the same final range. -/
theorem pad_same_decode (bs : Bytes) (hb : BytesOk bs) (r : Parsed) (h : parseImpl false bs = .ok r)
    (hfree : Ext.count ((bs.drop r.padOffset).take r.padLen) r.padLen r.count = .ok 0)
    (newLen : Int) (hge : (bs.length : Int) ≤ newLen) :
    ∃ y r', packetPad bs newLen = .ok y ∧ parseImpl false y = .ok r' ∧
      ∀ (o1 o2 : Oracle), OracleShift o1 o2 ((r'.payloadOffset : Int) - (r.payloadOffset : Int)) →
      ∀ (pcm : Ptr) (frame_size fec : Int) (sc : Bool) (run : Run),
        (decodeNative o2 (some y) y.length pcm frame_size fec false sc
            (shiftRun ((r'.payloadOffset : Int) - (r.payloadOffset : Int)) run)).ret =
          (decodeNative o1 (some bs) bs.length pcm frame_size fec false sc run).ret ∧
        (decodeNative o2 (some y) y.length pcm frame_size fec false sc
            (shiftRun ((r'.payloadOffset : Int) - (r.payloadOffset : Int)) run)).run =
          shiftRun ((r'.payloadOffset : Int) - (r.payloadOffset : Int))
            (decodeNative o1 (some bs) bs.length pcm frame_size fec false sc run).run := by
  obtain ⟨y, r', hpad, hparse, hsz, _, _, _, _, _, _, hcount, htoc⟩ :=
    pad_same_packet_inputs bs hb r h hfree newLen hge
  refine ⟨y, r', hpad, hparse, ?_⟩
  intro o1 o2 hos pcm frame_size fec sc run
  exact decodeNative_shift bs y false false r r' h hparse hsz.symm hcount.symm htoc.symm hos pcm frame_size fec sc run

/-- `int_ranges` (extension-free paths): on every reachable state and valid range the sizes the code adds
    up lie in `[1, 61298]` (= 1277·48 + 2: 48 frames, two self-delimiting length bytes); with `maxlen` any `opus_int32`, the padding arithmetic (`pad_amount`, `nb_255s`,
    the re-check `tot_size + nb_255s + 1 > maxlen` — which never fires —, the final length byte, the final
    `tot_size`) stays inside `opus_int32`; the 120 ms product in `cat` is at most 53280 (= (63 + 48)·480:
    a 6-bit count, 48 stored frames, 60 ms at 8 kHz); every stored
    `len[i]` fits `opus_int16`.  So the unbounded-integer model and the 32-bit code agree there. -/
theorem int_ranges_noext (s : Rp) (hs : Reachable s) (b e : Nat) (hb : b < e) (he : e ≤ s.nbFrames) (sd : Bool)
    (maxlen : Int) (hm : I32 maxlen) :
    (1 ≤ minSize sd ((selFrames s b e).map List.length) ∧
     minSize sd ((selFrames s b e).map List.length) ≤
       tot3 ((selFrames s b e).map List.length) (sdSize sd (((selFrames s b e).map List.length).getLastD 0)) ∧
     tot3 ((selFrames s b e).map List.length) (sdSize sd (((selFrames s b e).map List.length).getLastD 0)) ≤ 61298) ∧
    (∀ tot : Int, 2 ≤ tot ∧ tot ≤ 61298 → tot ≤ maxlen →
       I32 (maxlen - tot) ∧ I32 ((maxlen - tot - 1) / 255) ∧ I32 (tot + (maxlen - tot - 1) / 255 + 1) ∧
       I32 (tot + (maxlen - tot)) ∧ (1 ≤ maxlen - tot → tot + (maxlen - tot - 1) / 255 + 1 ≤ maxlen) ∧
       I32 (maxlen - tot - 255 * ((maxlen - tot - 1) / 255) - 1)) ∧
    (∀ (curr b0 : Nat), curr ≤ 63 → b0 < 256 →
       (curr + (withToc s b0).nbFrames) * (withToc s b0).framesize ≤ 53280) ∧
    (∀ f ∈ s.frames, f.length ≤ 32767) := by
  have hinv := reachable_inv hs
  refine ⟨?_, fun tot ht hfit => by unfold I32 at *; omega, fun curr b0 hc hb0 => ?_,
    fun f hf => by have := hinv.le f hf; omega⟩
  · obtain ⟨hok, hlen⟩ := selFrames_ok s hinv b e hb he
    have hlne : (selFrames s b e).map List.length ≠ [] := by simpa using hok.ne
    have hle : ∀ x ∈ (selFrames s b e).map List.length, x ≤ 1275 := List.forall_mem_map.mpr hok.le
    have h48 := hinv.nb_le
    obtain ⟨t1, t2⟩ := tot3_bounds _ hlne hle (sdSize sd (((selFrames s b e).map List.length).getLastD 0))
    have h0 : 0 ≤ sdSize sd (((selFrames s b e).map List.length).getLastD 0) ∧
        sdSize sd (((selFrames s b e).map List.length).getLastD 0) ≤ 2 := by
      unfold sdSize; cases sd <;> simp <;> split <;> omega
    obtain ⟨m1, m2⟩ := minSize_le_tot3 sd _ hlne
    simp only [List.length_map, hlen] at t2 m2
    refine ⟨?_, m1, by omega⟩
    by_cases h2 : e - b ≤ 2
    · have := m2 h2; omega
    · rw [minSize_eq_tot3 sd _ (by simp [hlen]; omega)]; omega
  · obtain ⟨h1, h2, _, _⟩ := withToc_fs s hinv b0 hb0
    have h480 := (frameDur48_spf8 (withToc s b0).toc (List.mem_range.mpr h1)).2.1
    have hnb : (withToc s b0).nbFrames = s.nbFrames := by simp [Rp.nbFrames, (withToc_frames s b0).1]
    have h48 := hinv.nb_le
    rw [hnb, h2]
    calc (curr + s.nbFrames) * samplesPerFrame (withToc s b0).toc 8000 ≤ 111 * 480 :=
          Nat.mul_le_mul (by omega) h480
      _ = 53280 := rfl

/-- `int_ranges`, extension path (repacketizer.c:271-299): with `tot` the size before padding (`2 ≤ tot ≤ 61298`
    on reachable states by `int_ranges_noext`), `maxlen` any `opus_int32 ≥ tot` and `ext_len` what the dry
    run of the generator returned (`0 ≤ ext_len ≤ maxlen - tot`, larger lists are refused by the generator):
    every intermediate — `pad_amount` (both branches), `ext_len/254`, `nb_255s`, the re-check
    `tot_size + ext_len + nb_255s + 1`, `ext_begin`, `ones_begin`, the final `tot_size`, the last length
    byte — is an `opus_int32`, provided `maxlen ≤ 2139062142` (= 2^31 − 8421506) or `ext_len ≤ 2^30`.
    Beyond: see `int_ranges_ext_tight`. -/
theorem int_ranges_ext (tot maxlen extLen : Int) (pad : Bool) (ht : 2 ≤ tot ∧ tot ≤ 61298) (hm : I32 maxlen)
    (hfit : tot ≤ maxlen) (he : 0 ≤ extLen ∧ extLen ≤ maxlen - tot)
    (hbound : maxlen ≤ 2139062142 ∨ extLen ≤ 1073741824) :
    let amount := if pad then maxlen - tot else extLen + extLen / 254 + 1
    let nb := (amount - 1) / 255
    I32 (maxlen - tot) ∧ I32 (extLen / 254) ∧ I32 (extLen + extLen / 254) ∧ I32 amount ∧ I32 (amount - 1) ∧ I32 nb ∧
    I32 (tot + extLen) ∧ I32 (tot + extLen + nb) ∧ I32 (tot + extLen + nb + 1) ∧
    I32 (tot + amount) ∧ I32 (tot + amount - extLen) ∧ I32 (tot + nb + 1) ∧
    I32 (255 * nb) ∧ I32 (amount - 255 * nb - 1) := by
  unfold I32 at *
  cases pad
  · simp only [Bool.false_eq_true, if_false]; omega
  · simp only [if_true]; omega

/-- The bound of `int_ranges_ext` is tight: at `maxlen = 2139062143` (no `pad`, extension payload filling the
    buffer) the sum of the re-check is `2^31`, and at `maxlen = INT32_MAX` with `pad` it exceeds it.  Reaching
    this needs more than 2 GB of extension payload; the C code would then compute a signed overflow (undefined
    behaviour), which is outside the model — recorded, not a reachable defect. -/
theorem int_ranges_ext_tight :
    (let maxlen : Int := 2139062143
     let tot : Int := 2
     let extLen : Int := maxlen - tot
     ¬ I32 (tot + extLen + (extLen + extLen / 254 + 1 - 1) / 255 + 1)) ∧
    (let maxlen : Int := 2147483647
     let tot : Int := 2
     let extLen : Int := maxlen - tot
     ¬ I32 (tot + extLen + (maxlen - tot - 1) / 255 + 1)) := by
  unfold I32; decide

/-- `opus_multistream_packet_unpad` on ARBITRARY bytes, `n ≥ 1` streams: accepted exactly when the bytes are
    `n-1` self-delimited valid packets followed by one standard valid packet (`MsShape n bs`, the shape C10
    proves for `opus_multistream_packet_validate`, minus the equal-duration requirement, which unpad does not
    check); then the result is the concatenation of the canonical packets.  Anything else is refused with
    `OPUS_INVALID_PACKET` (`OPUS_BAD_ARG` for an empty buffer); never an out-of-bounds read or an assertion.
    NOTE (true of the code, not expressible in the pure model): on rejection the C function has already
    rewritten the streams before the offending one in the caller's buffer. -/
theorem ms_unpad_bytes (bs : Bytes) (hb : BytesOk bs) (n : Nat) (hn : 1 ≤ n) :
    (∀ ps : List Packet, ps.length = n → (∀ p ∈ ps, Valid p) → bs = msSerialize ps →
        msUnpad bs n = .ok (msSerialize (ps.map fun p => canonPacket p.toc p.frames))) ∧
    ((∃ out, msUnpad bs n = .ok out) ↔ MsShape n bs) ∧
    (bs ≠ [] → ¬ MsShape n bs → msUnpad bs n = .err .invalidPacket) ∧
    (bs = [] → msUnpad bs n = .err .badArg) := by
  have h1 : ∀ ps : List Packet, ps.length = n → (∀ p ∈ ps, Valid p) → bs = msSerialize ps →
      msUnpad bs n = .ok (msSerialize (ps.map fun p => canonPacket p.toc p.frames)) := by
    intro ps hlen hv hbs
    have hne : ps ≠ [] := by intro h; rw [h] at hlen; simp at hlen; omega
    rw [hbs, ← hlen]; exact msUnpad_serialize ps hne hv
  have h2 : bs ≠ [] → ¬ MsShape n bs → msUnpad bs n = .err .invalidPacket := by
    intro hne hns
    unfold msUnpad
    rw [if_neg (Nat.not_lt.mpr (List.length_pos_iff.mpr hne))]
    simp only [Int.toNat_natCast]
    obtain ⟨k, rfl⟩ : ∃ k, n = k + 1 := ⟨n - 1, by omega⟩
    exact msUnpadLoop_reject k bs [] hb hns
  have h3 : bs = [] → msUnpad bs n = .err .badArg := by intro h; subst h; rfl
  refine ⟨h1, ⟨?_, ?_⟩, h2, h3⟩
  · rintro ⟨out, ho⟩
    apply Classical.byContradiction
    intro hns
    by_cases hne : bs = []
    · rw [h3 hne] at ho; cases ho
    · rw [h2 hne hns] at ho; cases ho
  · rintro ⟨ps, hlen, hv, hbs⟩
    exact ⟨_, h1 ps hlen hv hbs⟩

/-- `opus_multistream_packet_pad` on ARBITRARY non-empty bytes, `n ≥ 1` streams: `BAD_ARG` for
    `new_len < len`, `OK` with the buffer as it is for `new_len = len` (the packet is not looked at); for
    `new_len > len`: multistream shape with an extension-free last stream ⇒ `OK`, all padding in the last
    stream; no multistream shape ⇒ `OPUS_INVALID_PACKET` — or `OPUS_BAD_ARG` in the single case where `n-1`
    self-delimited packets use up the whole buffer (the code then calls `opus_packet_pad` with `len = 0`).
    In every rejecting case the C function has not written to the buffer (it only parses, and
    `opus_packet_pad` works on a copy until `cat` has accepted). -/
theorem ms_pad_bytes (bs : Bytes) (hb : BytesOk bs) (hne : bs ≠ []) (n : Nat) (hn : 1 ≤ n) (newLen : Int) :
    (newLen < bs.length → msPad bs newLen n = .err .badArg) ∧
    (newLen = bs.length → msPad bs newLen n = .ok bs) ∧
    ((bs.length : Int) < newLen →
      (∀ (pre : List Packet) (last : Packet), pre.length + 1 = n → (∀ p ∈ pre, Valid p) → Valid last → PadFree last →
          bs = msJoin pre last →
          msPad bs newLen n = .ok (msJoin pre (outPacket last.toc last.frames
              ((serialize false last).length + (newLen - bs.length)) false true))) ∧
      (¬ MsShape n bs →
        msPad bs newLen n = .err .invalidPacket ∨
        (msPad bs newLen n = .err .badArg ∧ ∃ pre : List Packet, pre.length = n - 1 ∧ (∀ p ∈ pre, Valid p) ∧
            bs = pre.flatMap (serialize true)))) := by
  have hlen : ¬ bs.length < 1 := Nat.not_lt.mpr (List.length_pos_iff.mpr hne)
  refine ⟨?_, ?_, ?_⟩
  · intro h; unfold msPad; rw [if_neg hlen, if_neg (by omega), if_pos (by omega)]
  · intro h; unfold msPad; rw [if_neg hlen, if_pos h.symm]
  · intro hgt
    refine ⟨?_, msPad_reject bs hb hne n hn newLen hgt⟩
    intro pre last hpl hv hl hpf hbs
    have := msPad_serialize pre last hv hl hpf newLen (by rw [← hbs]; exact hgt)
    rw [hpl, ← hbs] at this
    exact this

/-- Composition with C10: a packet accepted by `opus_multistream_packet_validate` (C10's model
    `msPacketValidate`: `n` valid sub-packets of equal duration `k`) is accepted by
    `opus_multistream_packet_unpad`; the result is not longer and is accepted by the validator again, with
    the same duration — so the multistream decoder's entry checks pass on it exactly as on the original. -/
theorem ms_unpad_validated (bs : Bytes) (hb : BytesOk bs) (n fs k : Nat) (hn : 1 ≤ n) (hfs : Opus.LayoutSpec.Rate fs)
    (h : Opus.Layout.msPacketValidate bs n fs = .ok k) :
    ∃ out, msUnpad bs n = .ok out ∧ out.length ≤ bs.length ∧ Opus.Layout.msPacketValidate out n fs = .ok k := by
  obtain ⟨ps, hlen, hval, hser, hdur⟩ := Opus.Layout.msPacketValidate_packets hfs hb hn h
  have hne : ps ≠ [] := by intro h0; rw [h0] at hlen; simp at hlen; omega
  rw [← msSerialize_eq_layout] at hser
  have hun := (ms_unpad_bytes bs hb n hn).1 ps hlen hval hser
  refine ⟨_, hun, ?_, ?_⟩
  · -- not longer: the in-place run writes the result into the front of a buffer that keeps its length
    obtain ⟨out, X, h1, _, h3⟩ := ms_unpad_in_place ps hne hval
    rw [hlen, ← hser, hun] at h1; cases h1
    rw [hser, ← h3]; simp
  · have := Opus.Layout.msPacketValidate_msSerialize hfs hn ((List.length_map _).trans hlen)
      (List.forall_mem_map.mpr fun p hp => canonPacket_valid p (hval p hp))
      (List.forall_mem_map.mpr fun p hp => ((pktRel_canon (hval p hp)).duration fs).trans (hdur p hp))
    rw [← msSerialize_eq_layout] at this
    exact this

/-- Decoder-facing consequence of multistream unpad, stream by stream: stream `s` of
    `opus_multistream_decode_native` is handed the bytes that remain after the previous streams, i.e.
    `msSerialize (ps.drop s)` for the original and the same with canonical packets for the unpadded packet;
    both parse (framing: self-delimited unless last) with the same frame sizes, and C01's `opus_decode_native`
    skeleton returns the same value and ends in the same run up to the shift of the frame offsets, for DSP
    oracles that behave the same on the same frame bytes — from every start run.  (The whole-call statement is
    `ms_unpad_same_decode` below.) -/
theorem ms_unpad_stream_same_decode (ps : List Packet) (hv : ∀ p ∈ ps, Valid p) (s : Nat) (hs : s < ps.length) :
    ∃ (p1 p2 : Parsed),
      parseImpl (decide (s ≠ ps.length - 1)) (msSerialize (ps.drop s)) = .ok p1 ∧
      parseImpl (decide (s ≠ ps.length - 1)) (msSerialize ((ps.map fun p => canonPacket p.toc p.frames).drop s)) = .ok p2 ∧
      p1.sizes = p2.sizes ∧
      ∀ (o1 o2 : Oracle), OracleShift o1 o2 ((p2.payloadOffset : Int) - (p1.payloadOffset : Int)) →
      ∀ (pcm : Ptr) (frame_size fec : Int) (sc : Bool) (run : Run),
        (decodeNative o2 (some (msSerialize ((ps.map fun p => canonPacket p.toc p.frames).drop s)))
            (msSerialize ((ps.map fun p => canonPacket p.toc p.frames).drop s)).length pcm frame_size fec
            (decide (s ≠ ps.length - 1)) sc (shiftRun ((p2.payloadOffset : Int) - (p1.payloadOffset : Int)) run)).ret =
          (decodeNative o1 (some (msSerialize (ps.drop s))) (msSerialize (ps.drop s)).length pcm frame_size fec
            (decide (s ≠ ps.length - 1)) sc run).ret ∧
        (decodeNative o2 (some (msSerialize ((ps.map fun p => canonPacket p.toc p.frames).drop s)))
            (msSerialize ((ps.map fun p => canonPacket p.toc p.frames).drop s)).length pcm frame_size fec
            (decide (s ≠ ps.length - 1)) sc (shiftRun ((p2.payloadOffset : Int) - (p1.payloadOffset : Int)) run)).run =
          shiftRun ((p2.payloadOffset : Int) - (p1.payloadOffset : Int))
            (decodeNative o1 (some (msSerialize (ps.drop s))) (msSerialize (ps.drop s)).length pcm frame_size fec
              (decide (s ≠ ps.length - 1)) sc run).run := by
  -- the remaining packets: p :: rest
  obtain ⟨p, rest, hdrop⟩ : ∃ p rest, ps.drop s = p :: rest := by
    cases h : ps.drop s with
    | nil => have := congrArg List.length h; simp at this; omega
    | cons p rest => exact ⟨p, rest, rfl⟩
  have hrl : rest.length = ps.length - s - 1 := by
    have := congrArg List.length hdrop; simp at this; omega
  have hsd : decide (s ≠ ps.length - 1) = decide (rest ≠ []) := MsDecEq.sd_of_count (by omega)
  have hpv : Valid p := hv p (List.mem_of_mem_drop (by rw [hdrop]; simp))
  have hdrop' : (ps.map fun p => canonPacket p.toc p.frames).drop s =
      canonPacket p.toc p.frames :: rest.map (fun p => canonPacket p.toc p.frames) := by
    rw [← List.map_drop, hdrop]; rfl
  have hsd2 : decide (rest.map (fun p => canonPacket p.toc p.frames) ≠ []) = decide (rest ≠ []) := by simp
  rw [hdrop, hdrop', msSerialize_cons, msSerialize_cons, hsd, hsd2]
  obtain ⟨hp1, hp2, hsz, hcnt, htoc⟩ := (pktRel_canon hpv).head (decide (rest ≠ [])) msSerialize_tail_nil
    fun h => msSerialize_tail_nil (hsd2.trans h)
  exact ⟨_, _, hp1, hp2, hsz, fun o1 o2 hos pcm frame_size fec sc run =>
    decodeNative_shift _ _ _ _ _ _ hp1 hp2 hsz hcnt htoc hos pcm frame_size fec sc run⟩

/-- Decoder-facing consequence of multistream unpad, whole call (`ms_unpad_same_decode`): C01's model
    `msDecodeFull` of `opus_multistream_decode_native` — entry checks incl. `opus_multistream_packet_validate`, the
    stream loop with the real per-stream `opus_decode_native` skeleton, C10's copy-out routing — run on a
    multistream packet `msSerialize ps` (valid sub-packets, one per stream of the layout) and on its unpadded
    form, with per-stream DSP oracles that behave the same when handed the same frame bytes at the shifted
    address (`OracleShift (os1 i) (os2 i) dᵢ`, `dᵢ = firstShift (ps.drop i)` = payload offset of stream `i`'s
    canonical packet minus that of the original): the same return value, the same decoder states of all
    streams, the same `copy_channel_out` calls, the same per-stream return values, and per-stream event logs
    that are equal once the frame offsets recorded in stream `i`'s log are shifted by some `dᵢ`.  Hence
    the same audio.  From any stream states, for every `frame_size`, `decode_fec`, soft-clip flag. -/
theorem ms_unpad_same_decode (os1 os2 : Nat → Oracle) (l : Layout.ChannelLayout) (Fs : Int) (sts : List DecState)
    (ps : List Packet) (hne : ps ≠ []) (hv : ∀ p ∈ ps, Valid p) (hn : ps.length = l.nbStreams)
    (hos : ∀ i, i < ps.length → OracleShift (os1 i) (os2 i) (firstShift (ps.drop i)))
    (frame_size fec : Int) (sc : Bool) :
    ∃ out, msUnpad (msSerialize ps) ps.length = .ok out ∧
      (msDecodeFull os2 l Fs sts out out.length frame_size fec sc).ret =
        (msDecodeFull os1 l Fs sts (msSerialize ps) (msSerialize ps).length frame_size fec sc).ret ∧
      (msDecodeFull os2 l Fs sts out out.length frame_size fec sc).sts =
        (msDecodeFull os1 l Fs sts (msSerialize ps) (msSerialize ps).length frame_size fec sc).sts ∧
      (msDecodeFull os2 l Fs sts out out.length frame_size fec sc).copies =
        (msDecodeFull os1 l Fs sts (msSerialize ps) (msSerialize ps).length frame_size fec sc).copies ∧
      (msDecodeFull os2 l Fs sts out out.length frame_size fec sc).trace.map Prod.fst =
        (msDecodeFull os1 l Fs sts (msSerialize ps) (msSerialize ps).length frame_size fec sc).trace.map Prod.fst ∧
      ∃ ds : List Int,
        ds.length = (msDecodeFull os1 l Fs sts (msSerialize ps) (msSerialize ps).length frame_size fec sc).logs.length ∧
        (msDecodeFull os2 l Fs sts out out.length frame_size fec sc).logs =
          List.zipWith (fun lg d => lg.map (Ev.shiftOff d))
            (msDecodeFull os1 l Fs sts (msSerialize ps) (msSerialize ps).length frame_size fec sc).logs ds := by
  obtain ⟨h1, h2, h3, h4, h5⟩ := msDecodeFull_rel os1 os2 l Fs sts ps _ hne (pairRel_canon ps hv) hn
    (fun i hi => by have := hos i hi; unfold firstShift at this; rwa [List.map_drop] at this) frame_size fec sc
  exact ⟨_, msUnpad_serialize ps hne hv, h1, h2, h3, h4, h5⟩

/-- `ms_pad_same_decode`: the same for `opus_multistream_packet_pad` — only the last stream changes (it becomes
    `last'`, valid, same frames and configuration bits, by `ms_pad_spec`); with per-stream oracles related by the
    per-stream frame-offset shift (`firstShift2`: 0 for the untouched streams) `msDecodeFull` gives the same
    return value, stream states, copy-out calls, per-stream return values, and logs equal up to the shift. -/
theorem ms_pad_same_decode (os1 os2 : Nat → Oracle) (l : Layout.ChannelLayout) (Fs : Int) (sts : List DecState)
    (pre : List Packet) (last : Packet) (hv : ∀ p ∈ pre, Valid p) (hl : Valid last) (hfree : PadFree last)
    (hn : pre.length + 1 = l.nbStreams) (newLen : Int) (hgt : ((msJoin pre last).length : Int) < newLen)
    (frame_size fec : Int) (sc : Bool) :
    ∃ last', msPad (msJoin pre last) newLen (pre.length + 1 : Nat) = .ok (msJoin pre last') ∧ Valid last' ∧
      ((∀ i, i < pre.length + 1 →
          OracleShift (os1 i) (os2 i) (firstShift2 ((pre ++ [last]).drop i) ((pre ++ [last']).drop i))) →
       (msDecodeFull os2 l Fs sts (msJoin pre last') (msJoin pre last').length frame_size fec sc).ret =
         (msDecodeFull os1 l Fs sts (msJoin pre last) (msJoin pre last).length frame_size fec sc).ret ∧
       (msDecodeFull os2 l Fs sts (msJoin pre last') (msJoin pre last').length frame_size fec sc).sts =
         (msDecodeFull os1 l Fs sts (msJoin pre last) (msJoin pre last).length frame_size fec sc).sts ∧
       (msDecodeFull os2 l Fs sts (msJoin pre last') (msJoin pre last').length frame_size fec sc).copies =
         (msDecodeFull os1 l Fs sts (msJoin pre last) (msJoin pre last).length frame_size fec sc).copies ∧
       (msDecodeFull os2 l Fs sts (msJoin pre last') (msJoin pre last').length frame_size fec sc).trace.map Prod.fst =
         (msDecodeFull os1 l Fs sts (msJoin pre last) (msJoin pre last).length frame_size fec sc).trace.map Prod.fst ∧
       ∃ ds : List Int,
         ds.length = (msDecodeFull os1 l Fs sts (msJoin pre last) (msJoin pre last).length frame_size fec sc).logs.length ∧
         (msDecodeFull os2 l Fs sts (msJoin pre last') (msJoin pre last').length frame_size fec sc).logs =
           List.zipWith (fun lg d => lg.map (Ev.shiftOff d))
             (msDecodeFull os1 l Fs sts (msJoin pre last) (msJoin pre last).length frame_size fec sc).logs ds) := by
  obtain ⟨q, hq, hrel, _⟩ := msPad_rel pre last hv hl hfree newLen hgt
  refine ⟨q, hq, hrel.vq, fun hos => ?_⟩
  have := msDecodeFull_rel os1 os2 l Fs sts _ _ (by simp) (pairRel_last pre hv last q hrel) (by simpa using hn)
    (fun i hi => hos i (by simpa using hi)) frame_size fec sc
  rw [msSerialize_join, msSerialize_join] at this
  obtain ⟨h1, h2, h3, h4, h5⟩ := this
  exact ⟨h1, h2, h3, h4, h5⟩

/-- The complement of `out_roundtrip_ext`'s hypothesis `hpos`: no caller extensions and NOTHING gathered for
    this range — whether because the overlapping paddings carry nothing / are malformed, or because every
    extension stored in them belongs to a frame outside `[begin,end)`, and whatever paddings of packets
    outside the range contain.  Then `out_range_impl` behaves exactly as in the extension-free case
    (`out_roundtrip` / `out_size` verbatim).  Together with `out_roundtrip_ext` (gathered list non-empty)
    every reachable state, range and argument is covered. -/
theorem out_nothing_gathered (s : Rp) (hs : Reachable s) (b e : Nat) (hb : b < e) (he : e ≤ s.nbFrames)
    (hnil : gathered (s.pads.take e) 0 b e = []) (maxlen : Int) (sd pad : Bool) :
    outRangeImpl s b e maxlen sd pad #[] =
      (if minSize sd ((selFrames s b e).map List.length) > maxlen then .err .bufferTooSmall
       else .ok (serialize sd (outPacket s.toc (selFrames s b e) maxlen sd pad))) ∧
    (minSize sd ((selFrames s b e).map List.length) ≤ maxlen →
       Valid (outPacket s.toc (selFrames s b e) maxlen sd pad) ∧
       (outPacket s.toc (selFrames s b e) maxlen sd pad).frames = selFrames s b e ∧
       ((serialize sd (outPacket s.toc (selFrames s b e) maxlen sd pad)).length : Int) =
         (if pad then maxlen else minSize sd ((selFrames s b e).map List.length))) :=
  ⟨outRangeImpl_nogather s (reachable_padsOk hs).reads b e hb he hnil maxlen sd pad,
   fun hfit => ⟨outPacket_valid _ _ (selFrames_ok s (reachable_inv hs) b e hb he).1 _ _ _ hfit, outPacket_frames _ _ _ _ _,
     outPacket_len _ _ (selFrames_ok s (reachable_inv hs) b e hb he).1.ne _ _ _ hfit⟩⟩

/-- Stored padding that is not an extension list (C comment at repacketizer.c:172-174): if every stored padding carries
    nothing — its extension count is 0, or it is not a well-formed extension list so that
    `opus_packet_extensions_parse` fails — the paddings are dropped and `out_range_impl` behaves exactly as in
    the extension-free case: `BUFFER_TOO_SMALL` iff the minimal size exceeds `maxlen`, otherwise the
    serialisation of the valid packet `outPacket` (so `out_roundtrip` / `out_size` hold verbatim; in
    particular never `OPUS_INTERNAL_ERROR`). -/
theorem out_malformed_padding_dropped (s : Rp) (hs : Reachable s) (b e : Nat) (hb : b < e) (he : e ≤ s.nbFrames)
    (hnil : ∀ pn ∈ s.pads, padRefs pn.1 pn.2 = []) (maxlen : Int) (sd pad : Bool) :
    outRangeImpl s b e maxlen sd pad #[] =
      (if minSize sd ((selFrames s b e).map List.length) > maxlen then .err .bufferTooSmall
       else .ok (serialize sd (outPacket s.toc (selFrames s b e) maxlen sd pad))) ∧
    (minSize sd ((selFrames s b e).map List.length) ≤ maxlen →
       Valid (outPacket s.toc (selFrames s b e) maxlen sd pad) ∧
       (outPacket s.toc (selFrames s b e) maxlen sd pad).frames = selFrames s b e) := by
  have h := out_nothing_gathered s hs b e hb he (gathered_nil _ (fun pn h => hnil pn (List.mem_of_mem_take h)) 0 b e)
    maxlen sd pad
  exact ⟨h.1, fun hfit => ⟨(h.2 hfit).1, (h.2 hfit).2.1⟩⟩

/-- The extension-free hypothesis is met by everything the library itself pads: zero padding (and no
    padding) has extension count 0 (`count_zeros` is C16's lemma), so packets produced by `out` with
    `pad` or by `opus_packet_pad` can be `cat`-ed / padded / unpadded again under the theorems above. -/
theorem emitted_padding_ext_free (toc : Nat) (frames : List Bytes) (hn : frames.length ≤ 48) (maxlen : Int) (sd pad : Bool) :
    PadFree (outPacket toc frames maxlen sd pad) := by
  obtain ⟨k, hk⟩ := padBytes_outPacket toc frames maxlen sd pad
  unfold PadFree
  rw [outPacket_frames, hk, List.length_replicate]
  exact count_zeros k _ hn

/-! ### Non-vacuity: a concrete history satisfies every hypothesis used above -/

/-- Two CELT 2.5 ms packets (code 0, and code 3 VBR with 3 frames) and an incompatible one. -/
def pkA : Bytes := [0x80, 1, 2, 3]
def pkB : Bytes := [0x83, 0x83, 2, 0, 9, 9, 7]
def pkBad : Bytes := [0x88, 5]
def exOps : List RepackProofs.Op := [.cat pkA, .cat pkBad, .cat pkB, .out 100]
def exState : Rp := run Rp.empty exOps

private theorem exReach : Reachable exState :=
  ⟨exOps, by intro bs h; simp [exOps] at h; rcases h with rfl | rfl | rfl <;> decide, rfl⟩

private theorem exFrames : exState.frames = [[1, 2, 3], [9, 9], [], [7]] ∧ exState.pads = [([], 1), ([], 3), ([], 0), ([], 0)] ∧
    exState.toc = 0x80 := by decide +kernel

private theorem exFree : ExtFree exState.pads := by
  rw [exFrames.2.1]
  intro pn h
  simp at h
  rcases h with rfl | rfl | rfl <;> exact count_nil _ (by decide)

/-- the rejected `cat` of the incompatible packet in the middle of the history -/
example : (cat (run Rp.empty [.cat pkA]) pkBad).2 = .err .invalidPacket := by decide +kernel
/-- `out` of the whole content succeeds with 11 bytes (minimal size, code 3 VBR) and parses back -/
example : ∃ bs, outRangeImpl exState 0 4 100 false false #[] = .ok bs ∧ (bs.length : Int) = 11 := by
  have h := (out_size exState exReach exFree 0 4 (by decide) (by decide +kernel) 100 false false).2
  have hm : minSize false ((selFrames exState 0 4).map List.length) = 11 := by
    simp only [selFrames, exFrames.1]; decide +kernel
  rw [hm] at h
  exact h (by decide)
/-- and is refused with 10 -/
example : outRangeImpl exState 0 4 10 false false #[] = .err .bufferTooSmall := by
  apply (out_size exState exReach exFree 0 4 (by decide) (by decide +kernel) 10 false false).1.mpr
  simp only [selFrames, exFrames.1]; decide +kernel
/-- pad / unpad hypotheses hold for `pkA` (no padding, hence no extensions) -/
example : ∃ r, parseImpl false pkA = .ok r ∧
    Ext.count ((pkA.drop r.padOffset).take r.padLen) r.padLen r.count = .ok 0 :=
  ⟨{ toc := 0x80, count := 1, sizes := [3], payloadOffset := 1, padLen := 0, packetOffset := 4 }, by decide +kernel,
   count_nil 1 (by decide)⟩
/-- the serialiser spec on the padded packet: pad_amount 4 → code 3, one length byte `3`, three zeros -/
example : serialize false (outPacket 0x80 [[1, 2, 3]] 9 false true) = [0x83, 0x41, 3, 1, 2, 3, 0, 0, 0] := by
  decide +kernel

/-! #### extension carriage: hypotheses of `out_roundtrip_ext_norepeat` are satisfiable -/

/-- (a) a caller-supplied extension for frame 0 on the 4-frame history above -/
def exE : Array Ext := #[{ id := 5, frame := 0, data := [7], len := 1 }]

private theorem exGathered (b e : Nat) : gathered (exState.pads.take e) 0 b e = [] :=
  gathered_nil _ (fun pn h => padRefs_of_count_zero _ _ (exFree pn (List.mem_of_mem_take h))) 0 b e

example : AllValid exE (4 - 0) ∧ 0 < (exE ++ (gathered (exState.pads.take 4) 0 0 4).toArray).size ∧
    NoRepeat (exE ++ (gathered (exState.pads.take 4) 0 0 4).toArray) (4 - 0) := by
  rw [exGathered]
  exact ⟨allValid_of_all _ _ (by decide +kernel), by decide, noRepeat_last_empty _ _ (by decide +kernel)⟩

/-- … the call succeeds with 14 bytes (frames as before, padding `0b 07` = ID 5, L=1, payload 07) and is
    refused with 13. -/
example : outRangeImpl exState 0 4 100 false false exE =
      .ok [0x83, 0xc4, 0x02, 0x03, 0x02, 0x00, 0x01, 0x02, 0x03, 0x09, 0x09, 0x07, 0x0b, 0x07] ∧
    outRangeImpl exState 0 4 13 false false exE = .err .bufferTooSmall := by
  have hv : AllValid exE (4 - 0) := allValid_of_all _ _ (by decide +kernel)
  have hpos : 0 < (exE ++ (gathered (exState.pads.take 4) 0 0 4).toArray).size := by rw [exGathered]; decide
  have hnr : NoRepeat (exE ++ (gathered (exState.pads.take 4) 0 0 4).toArray) (4 - 0) := by
    rw [exGathered]; exact noRepeat_last_empty _ _ (by decide +kernel)
  have heq := fun ml => outRangeImpl_ext_eq exState (reachable_inv exReach) (reachable_padsOk exReach) 0 4 (by decide)
    (by decide +kernel) exE hv hpos hnr ml false false
  constructor
  · show outRangeImpl exState (0 : Nat) (4 : Nat) 100 false false exE = _
    rw [heq 100]
    simp only [exGathered, selFrames, exFrames.1, exFrames.2.2]
    decide +kernel
  · show outRangeImpl exState (0 : Nat) (4 : Nat) 13 false false exE = _
    rw [heq 13]
    simp only [exGathered, selFrames, exFrames.1]
    decide +kernel

/-- (b) a stored packet whose padding is an extension list: `03 42 03 AA BB | 02 0B 5A` (two 1-byte
    frames; padding = "next frame", ID 5 with payload 5A, i.e. an extension of frame 1), split with
    out_range(1,2): the extension is gathered and renumbered to frame 0. -/
def pkX : Bytes := [0x03, 0x42, 0x03, 0xAA, 0xBB, 0x02, 0x0B, 0x5A]
def exStateX : Rp := run Rp.empty [.cat pkX]

private theorem exReachX : Reachable exStateX :=
  ⟨[.cat pkX], by intro bs h; simp at h; subst h; decide, rfl⟩

private theorem exPadsX : exStateX.pads = [(serBytes 0 [{ id := 5, frame := 1, data := [0x5A], len := 1 }], 2), ([], 0)] ∧
    exStateX.frames = [[0xAA], [0xBB]] := by decide +kernel

example : gathered (exStateX.pads.take 2) 0 1 2 = [{ id := 5, frame := 0, data := [0x5A], len := 1 }] ∧
    gathered (exStateX.pads.take 1) 0 0 1 = [] := by
  have h := padRefs_ser [{ id := 5, frame := 1, data := [0x5A], len := 1 }] 2 (by decide)
    (by intro e he; simp at he; subst he; exact (validExt_iff _ _).mpr (by decide)) ⟨by decide, trivial⟩ (by decide)
  rw [exPadsX.1]
  simp only [List.take, gathered, h]
  decide +kernel

/-- … and for the range (0,1) of the same state the stored extension belongs to frame 1, outside the range:
    nothing is gathered although the stored padding is a non-empty extension list (`out_nothing_gathered`). -/
example : gathered (exStateX.pads.take 1) 0 0 1 = [] ∧ padRefs exStateX.pads.head!.1 exStateX.pads.head!.2 ≠ [] := by
  have h := padRefs_ser [{ id := 5, frame := 1, data := [0x5A], len := 1 }] 2 (by decide)
    (by intro e he; simp at he; subst he; exact (validExt_iff _ _).mpr (by decide)) ⟨by decide, trivial⟩ (by decide)
  rw [exPadsX.1]
  simp only [List.take, gathered, List.head!, h]
  decide +kernel

/-- (c) hypotheses of `out_roundtrip_ext_nopad` with a repeat-eligible list (ID 5 in both frames, on top of the
    stored extension of frame 1): nothing but validity and non-emptiness is required. -/
def exR : Array Ext := #[{ id := 5, frame := 0, data := [1], len := 1 }, { id := 5, frame := 1, data := [2], len := 1 }]
example : AllValid exR (2 - 0) ∧ 0 < (exR ++ (gathered (exStateX.pads.take 2) 0 0 2).toArray).size ∧
    (2 : Nat) ≤ exStateX.nbFrames :=
  ⟨allValid_of_all _ _ (by decide +kernel), by simp [exR], by rw [Rp.nbFrames, exPadsX.2]; decide⟩

/-! #### pad_same_decode: the oracle hypothesis is satisfiable, and the packet hypotheses hold for `pkA` -/
def exOr : Oracle :=
  { silk := fun _ _ => (0, 0, 1), celt := fun _ a => a.frame_size, bit := fun _ _ t => (0, t), uint := fun _ _ t => (0, t) }
example (d : Int) : OracleShift exOr exOr d :=
  { silk := fun _ _ => rfl, celt := fun _ _ => rfl, bit := fun _ _ _ => rfl, uint := fun _ _ _ => rfl }
example : ∃ y r', packetPad pkA 9 = .ok y ∧ parseImpl false y = .ok r' ∧ r'.payloadOffset = 3 := by
  obtain ⟨y, r', h1, h2, _⟩ := pad_same_decode pkA (by decide)
    { toc := 0x80, count := 1, sizes := [3], payloadOffset := 1, padLen := 0, packetOffset := 4 } (by decide +kernel)
    (count_nil 1 (by decide)) 9 (by decide)
  have hy : packetPad pkA 9 = .ok (serialize false (outPacket 0x80 [[1, 2, 3]] 9 false true)) := by
    have := pad_serialize { toc := 0x80, frames := [[1, 2, 3]], vbr := false, pad := none }
      (by refine ⟨by decide, by decide, ?_, ?_, ?_, ?_, by intro pd h; cases h⟩ <;> simp [Packet.code] ) (count_nil 1 (by decide)) 9 (by decide)
    exact this
  rw [hy] at h1; cases h1
  refine ⟨_, _, hy, h2, ?_⟩
  have : parseImpl false (serialize false (outPacket 0x80 [[1, 2, 3]] 9 false true)) =
      .ok { toc := 0x83, count := 1, sizes := [3], payloadOffset := 3, padLen := 3, packetOffset := 9 } := by decide +kernel
  rw [this] at h2; cases h2; rfl
