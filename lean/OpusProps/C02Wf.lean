import OpusProofs.EncSkelWfMulti
import OpusProps.C02
/-
  Property C02 — packet well-formedness of EVERY output shape of the encoder skeleton, with NO
  assumption about the repacketiser.

  `OpusProps.C02.encode_wellformed` proves that the bytes `header ++ frames ++ zero padding` of every success return
  parse, where header and size come from `Opus.EncSkel.outRange`, a *contract* function the skeleton assumes of
  `opus_repacketizer_out_range_impl` / `opus_packet_pad`.  Here that contract is discharged against the repacketiser
  MODEL of property C07 (`Opus.Repack`: `cat`, `outRangeImpl`, `emit`, `packetPad`, transcribed from
  src/repacketizer.c) and the parser of C06 (`Framing.parseImpl`):

    Repack.emit  =  the contract outRange                         (contract_is_repack_model)
    init; cat sub-packet_1 … cat sub-packet_n; out_range_impl  =  the contract on the concatenated frames
                                                                  (repack_run_is_contract, wellformed_multiframe)
    Repack.packetPad  =  the contract padSpec, for every new_len   (pad_contract_is_model, packet_pad_is_run)
    every frame call returns a contract-shaped sub-packet          (frame_packet_is_contract_output)
    low-budget ToC-only / code-3 PLC packet, unpadded and padded   (wellformed_low_budget)
    opus_encode_native, multi-frame path: the emitted bytes are the model's run on the ACTUAL sub-packets of the loop
                                                                  (encode_wellformed_multiframe)
    opus_encode_native, single-frame path: the emitted bytes are the frame call's / the model's opus_packet_pad
                                                                  (encode_wellformed_single)
    every success return of opus_encode_native is such a run's output and parses to the frames handed in,
    count · samples_per_frame = frame_size                        (encode_wellformed)
-/
namespace OpusProps.C02Wf
open Opus Opus.Framing Opus.Repack Opus.EncSkel Opus.EncSkel.Proofs Opus.EncSkel.WfProofs

/-- The contract IS the model: for ANY ToC byte, ANY non-empty list of frames (any contents, any lengths), ANY `maxlen`
    and `pad` flag, everything `opus_repacketizer_out_range_impl` does after the extension gathering
    (repacketizer.c:191-334, C07 model `Repack.emit`, not self-delimited, no extensions) returns the same error code
    as the skeleton's contract `outRange`, or exactly the bytes `header ++ frames ++ zero padding` of the size the
    contract announces — codes 0, 1, 2, 3 CBR/VBR, with and without padding. -/
theorem contract_is_repack_model (toc : Nat) (frames : List Bytes) (hne : frames ≠ []) (maxlen : Nat) (pad : Bool) :
    Repack.emit toc frames (maxlen : Int) false pad #[] =
      (match EncSkel.outRange (toc / 4 * 4) (frames.map List.length) maxlen pad with
       | .ok r => .ok (pktBytes r.hdr frames r.size)
       | .err e => .err e
       | .oob => .oob
       | .abort => .abort) := by
  rw [emit_bridge toc frames hne maxlen pad]; rfl

/-- two CELT frames of 2 and 3 bytes, 9 bytes of space, padding requested: code 3 VBR with one padding byte. -/
example : Repack.emit 252 [[1, 2], [3, 4, 5]] 9 false true #[] = .ok [255, 194, 0, 2, 1, 2, 3, 4, 5] ∧
    EncSkel.outRange 252 [2, 3] 9 true = .ok { size := 9, hdr := [255, 194, 0, 2] } ∧
    Repack.emit 252 [[1, 2], [3, 4, 5]] 6 false true #[] = .err .bufferTooSmall := by decide +kernel

/-- The repacketiser run of the encoder IS the contract (opus_encoder.c:1693-1753; `opus_packet_pad`,
    repacketizer.c:347-381, is the same run with one input).  For ANY configuration byte, ANY list of sub-packets —
    each the frame encoder's own output for a non-empty chunk of frames: the code-0 packet `[toc] ++ frame`
    (`(len+1, false)`), the 1-byte DTX packet (`([[]], 1, false)`), or the CBR packet padded by `opus_packet_pad`
    to `max_data_bytes` (`(max_data_bytes, true)`, code 3 with zero padding), or a multi-frame ToC-only packet —
    with frames ≤ 1275 bytes and ≤ 120 ms in total: on the C07 model, `opus_repacketizer_init`, one
    `opus_repacketizer_cat` per sub-packet (EVERY one is accepted: no INVALID_PACKET, no out-of-bounds, no
    assertion) and `opus_repacketizer_out_range_impl(rp, 0, n, data, maxlen, 0, pad, NULL, 0)` return exactly what
    the contract `outRange` says for the concatenated frames: the same error, or `header ++ frames ++ zero padding`. -/
theorem repack_run_is_contract (cfg : Nat) (subs : List Sub) (h4 : cfg % 4 = 0) (h256 : cfg < 256)
    (hsub : ∀ s ∈ subs, SubOk cfg s) (hne : subs ≠ [])
    (hle : ∀ f ∈ subs.flatMap (·.1), f.length ≤ 1275)
    (hdur : (subs.flatMap (·.1)).length * samplesPerFrame cfg 8000 ≤ 960) (maxlen : Nat) (pad : Bool) :
    repackRun (subs.map (subPkt cfg)) (subs.flatMap (·.1)).length maxlen pad =
      (match EncSkel.outRange cfg ((subs.flatMap (·.1)).map List.length) maxlen pad with
       | .ok r => .ok (pktBytes r.hdr (subs.flatMap (·.1)) r.size)
       | .err e => .err e
       | .oob => .oob
       | .abort => .abort) := by
  rw [repackRun_contract cfg subs h4 h256 hsub hne hle hdur maxlen pad]; rfl

/-- 60 ms CBR CELT stereo: a sub-frame padded to 8 bytes, a 1-byte DTX sub-frame, an unpadded sub-frame. -/
def exSubs : List Sub := [([[1, 2, 3]], 8, true), ([[]], 1, false), ([[7, 7, 7, 7, 7]], 6, false)]

example : exSubs.map (subPkt 252) = [[255, 65, 2, 1, 2, 3, 0, 0], [252], [252, 7, 7, 7, 7, 7]] ∧
    (∀ s ∈ exSubs, s.1 ≠ [] ∧ ∃ q, EncSkel.outRange 252 (s.1.map List.length) s.2.1 s.2.2 = .ok q) ∧
    EncSkel.outRange 252 [3, 0, 5] 20 true = .ok { size := 20, hdr := [255, 195, 7, 3, 0] } := by
  refine ⟨by decide +kernel, ?_, by decide +kernel⟩
  intro s hs
  simp only [exSubs, List.mem_cons, List.mem_nil_iff, or_false] at hs
  rcases hs with rfl | rfl | rfl
  · exact ⟨by simp, { size := 8, hdr := [255, 65, 2] }, by decide +kernel⟩
  · exact ⟨by simp, { size := 1, hdr := [252] }, by decide +kernel⟩
  · exact ⟨by simp, { size := 6, hdr := [252] }, by decide +kernel⟩

/-- Whenever the contract accepts
    (`outRange … = .ok r`: the sizes fit `maxlen`), the run above — multi-frame packets of 2 … 48 sub-frames
    (40/60/80/100/120 ms: code 1, code 2, code 3 CBR/VBR), CBR padding, 1-byte DTX sub-frames mixed in, or a single
    padded frame (`subs = [s]`, `opus_packet_pad`) — returns bytes that `opus_packet_parse_impl` (C06 model, not
    self-delimited) accepts, with the configuration bits `cfg`, frame count = the number of frames, the frame sizes
    and the frame CONTENTS byte for byte in order, consuming the whole packet. -/
theorem wellformed_multiframe (cfg : Nat) (subs : List Sub) (h4 : cfg % 4 = 0) (h256 : cfg < 256)
    (hsub : ∀ s ∈ subs, SubOk cfg s) (hne : subs ≠ [])
    (hle : ∀ f ∈ subs.flatMap (·.1), f.length ≤ 1275)
    (hdur : (subs.flatMap (·.1)).length * samplesPerFrame cfg 8000 ≤ 960) (maxlen : Nat) (pad : Bool) (r : OutRes)
    (hout : EncSkel.outRange cfg ((subs.flatMap (·.1)).map List.length) maxlen pad = .ok r) :
    repackRun (subs.map (subPkt cfg)) (subs.flatMap (·.1)).length maxlen pad =
      .ok (pktBytes r.hdr (subs.flatMap (·.1)) r.size) ∧
    ∃ v, parseImpl false (pktBytes r.hdr (subs.flatMap (·.1)) r.size) = .ok v ∧
      v.sizes = (subs.flatMap (·.1)).map List.length ∧ v.count = (subs.flatMap (·.1)).length ∧
      v.toc / 4 * 4 = cfg ∧ v.packetOffset = (pktBytes r.hdr (subs.flatMap (·.1)) r.size).length ∧
      slices (pktBytes r.hdr (subs.flatMap (·.1)) r.size) v.payloadOffset v.sizes = subs.flatMap (·.1) := by
  open Opus.FramingSpec Opus.RepackProofs in
  have hrun := repackRun_contract cfg subs h4 h256 hsub hne hle hdur maxlen pad
  rw [hout] at hrun
  have hd48 : frameDur48 cfg * ((subs.flatMap (·.1)).map List.length).length ≤ 5760 :=
    (dur8_iff_dur48 cfg _ h256).mpr (by rw [List.length_map]; exact hdur)
  have hall : ∀ l ∈ (subs.flatMap (·.1)).map List.length, l ≤ 1275 := List.forall_mem_map.mpr hle
  obtain ⟨v, hv, hs, hc, ht, hpo, hlen, hsl, -⟩ := outRange_view cfg _ maxlen pad r (subs.flatMap (·.1)) rfl h4 h256 hall hd48 hout
  exact ⟨hrun, v, hv, hs, by rw [hc, List.length_map], ht, hpo.trans hlen.symm, hsl⟩

example : (exSubs.flatMap (·.1)).length * samplesPerFrame 252 8000 ≤ 960 ∧ exSubs ≠ [] ∧
    EncSkel.outRange 252 ((exSubs.flatMap (·.1)).map List.length) 20 true = .ok { size := 20, hdr := [255, 195, 7, 3, 0] } := by
  decide +kernel

/-- `opus_packet_pad(data, len, new_len)` with `1 ≤ len < new_len` (C07 model `packetPad`, the call of
    opus_encoder.c:2518 and :1329) is the run on the single input packet. -/
theorem packet_pad_is_run (bs : Bytes) (newLen : Nat) (h1 : 1 ≤ bs.length) (hlt : bs.length < newLen) (n : Nat)
    (hn : (catAll (init Rp.empty) [bs]).1.nbFrames = n) :
    packetPad bs newLen = repackRun [bs] n newLen true :=
  packetPad_run bs newLen h1 hlt n hn

example : (catAll (init Rp.empty) [[252, 1, 2, 3]]).1.nbFrames = 1 ∧ 1 ≤ [252, 1, 2, 3].length ∧
    [252, 1, 2, 3].length < 8 := by decide +kernel

/-- **`padSpec` is `opus_packet_pad`.**  On the
    unpadded packet holding ANY non-empty `frames` (≤ 1275 bytes each, ≤ 120 ms; the frame encoder's code-0 packet
    `[toc] ++ payload`, or the low-budget ToC-only packet of `n` empty frames), for EVERY `new_len` (smaller, equal,
    larger): the C07 model `Repack.packetPad` (init / cat / out_range_impl with pad = 1, repacketizer.c:347-381) and the
    skeleton's contract `padSpec` return the same code — OPUS_BAD_ARG for `new_len < len`, OPUS_OK otherwise — and when
    the packet is re-written (`len < new_len`) the model's bytes are `header ++ frames ++ zero padding` with exactly
    the header and the size `new_len` the contract records. -/
theorem pad_contract_is_model (cfg : Nat) (frames : List Bytes) (h4 : cfg % 4 = 0) (h256 : cfg < 256) (hne : frames ≠ [])
    (hle : ∀ f ∈ frames, f.length ≤ 1275) (hdur : frames.length * samplesPerFrame cfg 8000 ≤ 960) (newLen : Int) :
    ((subPkt cfg (frames, baseSize (frames.map List.length), false)).length : Int) = baseSize (frames.map List.length) ∧
    (newLen = baseSize (frames.map List.length) →
      packetPad (subPkt cfg (frames, baseSize (frames.map List.length), false)) newLen =
        .ok (subPkt cfg (frames, baseSize (frames.map List.length), false)) ∧
      padSpec cfg (frames.map List.length) (baseSize (frames.map List.length)) newLen = (OPUS_OK, none)) ∧
    (newLen < baseSize (frames.map List.length) →
      packetPad (subPkt cfg (frames, baseSize (frames.map List.length), false)) newLen = .err .badArg ∧
      padSpec cfg (frames.map List.length) (baseSize (frames.map List.length)) newLen = (OPUS_BAD_ARG, none)) ∧
    ((baseSize (frames.map List.length) : Int) < newLen →
      ∃ r, EncSkel.outRange cfg (frames.map List.length) newLen.toNat true = .ok r ∧ (r.size : Int) = newLen ∧
        padSpec cfg (frames.map List.length) (baseSize (frames.map List.length)) newLen = (OPUS_OK, some r) ∧
        packetPad (subPkt cfg (frames, baseSize (frames.map List.length), false)) newLen =
          .ok (pktBytes r.hdr frames r.size)) := by
  open Opus.RepackProofs in
  have hlne : frames.map List.length ≠ [] := by simpa using hne
  have hlen := subPkt_base_length cfg frames h4 hne
  have hb1 := baseSize_pos (frames.map List.length) hlne
  refine ⟨by rw [hlen], fun he => ⟨?_, ?_⟩, fun hlt => ⟨pad_bad_arg _ _ (Or.inr (by rw [hlen]; exact hlt)), ?_⟩,
    padSpec_grow cfg frames h4 h256 hne hle hdur newLen⟩
  · have := pad_same _ (show 1 ≤ (subPkt cfg (frames, baseSize (frames.map List.length), false)).length by omega)
    rw [hlen] at this
    rw [he]; exact this
  · unfold padSpec; rw [if_neg (by omega), if_pos he.symm]
  · unfold padSpec; rw [if_neg (by omega), if_neg (by omega), if_pos (by omega)]

/-- a 3-byte CELT frame `FC 01 02 03` padded to 8 bytes: `FF 41 02 | 01 02 03 | 00 00`. -/
example : subPkt 252 ([[1, 2, 3]], baseSize [3], false) = [252, 1, 2, 3] ∧
    padSpec 252 [3] 4 8 = (OPUS_OK, some { size := 8, hdr := [255, 65, 2] }) ∧
    pktBytes [255, 65, 2] [[1, 2, 3]] 8 = [255, 65, 2, 1, 2, 3, 0, 0] ∧ 1 * samplesPerFrame 252 8000 ≤ 960 := by
  decide +kernel

/-- Every packet one frame call returns is a contract output (hence a legitimate sub-packet of the run above and
    of `pad_contract_is_model`): for every state / arguments within the frame precondition (`3 ≤ max_data_bytes ≤ 1276`,
    a coded mode) and every oracle behaviour within the contracts (`frameOk`), the header, payload length and
    return value of `opus_encode_frame_native` are those of `outRange toc [payload] m pad` for some `m`, `pad`:
    the code-0 packet `[toc] ++ payload` (VBR), the 1-byte DTX packet, or the CBR packet padded to `max_data_bytes`. -/
theorem frame_packet_is_contract_output (s : St) (fi : FrameIn) (fo : FrameOr) (hp : FramePre s fi)
    (hok : frameOk s fi fo = true) :
    ∃ m pd, EncSkel.outRange (frameNative s fi fo).toc [(frameNative s fi fo).payload.toNat] m pd =
      .ok { size := (frameNative s fi fo).ret.toNat, hdr := (frameNative s fi fo).hdr } :=
  frame_sub s fi _ (frameNative_post s fi fo hp hok)

example : FramePre OpusProps.C02.exSilkSt OpusProps.C02.exSilkFi ∧
    frameOk OpusProps.C02.exSilkSt OpusProps.C02.exSilkFi OpusProps.C02.exSilkOr = true :=
  ⟨⟨by decide, by decide, by decide, by decide⟩, by decide +kernel⟩

/-- The low-budget packet (opus_encoder.c:1271-1337), unpadded AND padded, with the real `opus_packet_pad`
    model: for every rate, legal frame size, stale `st->mode` (incl. 0), bandwidth, mono or stereo and `out_data_bytes`
    (not 1 byte for 100 ms): (1) the ToC-only packet `lowHdr0` (code 0, code 1, or code 3 with M empty frames) parses
    (C06 parser) to empty frames with `count · samples_per_frame = frame_size`, consuming its 1 or 2 bytes; (2) for
    EVERY larger size `m` (CBR: `max_data_bytes`), `Repack.packetPad` applied to those bytes returns exactly the
    packet the skeleton records through `padSpec` (code 3 with padding), which parses to the same empty frames with the
    same duration and consumes exactly `m` bytes. -/
theorem wellformed_low_budget (s : St) (fsz out : Int)
    (hfs : s.fs = 8000 ∨ s.fs = 12000 ∨ s.fs = 16000 ∨ s.fs = 24000 ∨ s.fs = 48000)
    (hlg : legalFrame s.fs fsz = true)
    (hmode : s.mode = 0 ∨ (EncDecide.MODE_SILK_ONLY ≤ s.mode ∧ s.mode ≤ EncDecide.MODE_CELT_ONLY))
    (hbw : EncDecide.BW_NB ≤ s.bandwidth ∧ s.bandwidth ≤ EncDecide.BW_FB)
    (hch : s.streamChannels = 1 ∨ s.streamChannels = 2)
    (hne : ¬ (out = 1 ∧ s.fs = fsz * 10)) (hfr : 1 ≤ s.fs / fsz) :
    (∃ v, parseImpl false (lowHdr0 s fsz out) = .ok v ∧ v.sizes = lowLens s fsz out ∧
      (v.count : Int) * samplesPerFrame v.toc s.fs.toNat = fsz ∧ v.toc / 4 * 4 = (lowBudgetToc s fsz out).1 ∧
      (v.packetOffset : Int) = lowRet0 s fsz out ∧ ((lowHdr0 s fsz out).length : Int) = lowRet0 s fsz out) ∧
    (∀ m : Int, lowRet0 s fsz out < m →
      ∃ r, padSpec (lowBudgetToc s fsz out).1 (lowLens s fsz out) (lowRet0 s fsz out) m = (OPUS_OK, some r) ∧
        packetPad (lowHdr0 s fsz out) m = .ok (pktBytes r.hdr (lowFrames s fsz out) r.size) ∧
        ∃ v, parseImpl false (pktBytes r.hdr (lowFrames s fsz out) r.size) = .ok v ∧ v.sizes = lowLens s fsz out ∧
          (v.count : Int) * samplesPerFrame v.toc s.fs.toNat = fsz ∧ v.toc / 4 * 4 = (lowBudgetToc s fsz out).1 ∧
          (v.packetOffset : Int) = m ∧ ((pktBytes r.hdr (lowFrames s fsz out) r.size).length : Int) = m) := by
  open Opus.FramingSpec Opus.RepackProofs Opus.EncDecide in
  obtain ⟨f1, f2, f3, f4, f5⟩ := lowToc_wf s fsz out hfs hlg hmode (Or.inr hbw) hne
  obtain ⟨hlne, hall, hbase⟩ := lowLens_spec s fsz out (by omega) hlg
  have hfl := lowFrames_lens s fsz out
  have hpb := low_bytes s fsz out
  have hl := lowHdr0_length s fsz out
  have hr0 : 1 ≤ lowRet0 s fsz out := by unfold lowRet0; split <;> omega
  -- the unpadded packet
  have hsubeq : subPkt (lowBudgetToc s fsz out).1 (lowFrames s fsz out, baseSize ((lowFrames s fsz out).map List.length), false) =
      lowHdr0 s fsz out := by
    unfold subPkt
    simp only []
    rw [hfl]
    have hb : baseSize (lowLens s fsz out) = (lowRet0 s fsz out).toNat := by omega
    rw [hb, f5]
    exact hpb
  have hhl : ((lowHdr0 s fsz out).length : Int) = lowRet0 s fsz out := by omega
  refine ⟨?_, ?_⟩
  · obtain ⟨v, hv, hs, hc, ht, hpo, -, -, hspf⟩ := outRange_view _ _ _ _ _ (lowFrames s fsz out) hfl f1 f2 hall f3 f5
    simp only at hv hpo
    rw [hpb] at hv
    exact ⟨v, hv, hs, by rw [hspf, hc]; exact f4, ht, by rw [hpo]; omega, hhl⟩
  · intro m hm
    have hdur : (lowFrames s fsz out).length * samplesPerFrame (lowBudgetToc s fsz out).1 8000 ≤ 960 := by
      rw [show (lowFrames s fsz out).length = (lowLens s fsz out).length by unfold lowFrames; simp]
      exact (dur8_iff_dur48 _ _ f2).mp f3
    have hfne : lowFrames s fsz out ≠ [] := by
      intro h; apply hlne; rw [← hfl, h]; rfl
    have hle : ∀ f ∈ lowFrames s fsz out, f.length ≤ 1275 := by
      intro f hf; unfold lowFrames at hf; rw [List.mem_replicate] at hf; rw [hf.2]; simp
    have hpad := padSpec_grow (lowBudgetToc s fsz out).1 (lowFrames s fsz out) f1 f2 hfne hle hdur m
    rw [hfl] at hpad
    obtain ⟨r, hr, hrs, hps, hpp⟩ := hpad (by omega)
    rw [hfl] at hsubeq
    rw [hsubeq] at hpp
    rw [hbase] at hps
    refine ⟨r, hps, hpp, ?_⟩
    obtain ⟨v, hv, hs, hc, ht, hpo, hlen, -, hspf⟩ := outRange_view _ _ _ _ _ (lowFrames s fsz out) hfl f1 f2 hall f3 hr
    exact ⟨v, hv, hs, by rw [hspf, hc]; exact f4, ht, by rw [hpo]; exact hrs, by rw [hlen]; exact hrs⟩

/-- 100 ms at 48 kHz, CELT FB stereo, 3 bytes of space: `FF 05` (code 3, five empty 20 ms frames); CBR-padded to
    40 bytes: `FF 45 25 00 …`. -/
example : legalFrame 48000 4800 = true ∧ lowHdr0 (lowSt 48000 1002 1105 2) 4800 3 = [0xFF, 5] ∧
    lowLens (lowSt 48000 1002 1105 2) 4800 3 = [0, 0, 0, 0, 0] ∧ lowRet0 (lowSt 48000 1002 1105 2) 4800 3 = 2 ∧
    padSpec 252 [0, 0, 0, 0, 0] 2 40 = (OPUS_OK, some { size := 40, hdr := [255, 69, 37] }) := by decide +kernel

/-- `wellformed_multiframe` for `opus_encode_native` itself, naming the ACTUAL sub-packets.  On the
    multi-frame path (opus_encoder.c:1631-1760: 40/60/80/100/120 ms in CELT/hybrid, 80/100/120 ms in SILK), for every
    state within the skeleton invariant, every oracle behaviour within the contracts and ANY payload contents of the
    recorded lengths: (1) the frame lengths of the emitted packet are the payload lengths of the loop's
    `opus_encode_frame_native` calls (`multiTrace`, in order; a DTX sub-frame contributes an empty frame); (2) running
    the repacketiser MODEL of C07 — `opus_repacketizer_init`, one `opus_repacketizer_cat` per sub-frame on exactly the
    bytes that call wrote (`subBytes r f = r.hdr ++ f ++ zero padding`: the code-0 packet, the 1-byte DTX packet, or in
    CBR the packet `opus_packet_pad` padded to `curr_max`), then
    `opus_repacketizer_out_range_impl(rp, 0, nb_frames, data, repacketize_len, 0, pad, NULL, 0)` — accepts every `cat`
    and returns exactly the emitted bytes `header ++ frames ++ zero padding` (which `encode_wellformed` shows to parse
    with `count · samples_per_frame = frame_size`).  No repacketiser contract is assumed. -/
theorem encode_wellformed_multiframe (s : St) (fuzz : Bool) (fsz out : Int) (o : NatOr)
    (he : entryCheck s fsz out = none) (htm : takesMulti s fuzz fsz out o = true)
    (hok : (encodeNative s fuzz fsz out o).ok = true)
    (frames : List Bytes) (hfl : frames.map List.length = (encodeNative s fuzz fsz out o).pkt.lens) :
    (multiTrace (ctxOf s fuzz fsz out o) (decOf s fuzz fsz out o) (effSilence (budgetSt s o fsz out) o)
        (ctxOf s fuzz fsz out o).nbFrames.toNat 0 o.frames (acc0 (multiSt0 (decOf s fuzz fsz out o).st))).map
      (·.payload.toNat) = (encodeNative s fuzz fsz out o).pkt.lens ∧
    ∃ pad, repackRun
        (List.zipWith subBytes
          (multiTrace (ctxOf s fuzz fsz out o) (decOf s fuzz fsz out o) (effSilence (budgetSt s o fsz out) o)
            (ctxOf s fuzz fsz out o).nbFrames.toNat 0 o.frames (acc0 (multiSt0 (decOf s fuzz fsz out o).st)))
          frames)
        frames.length (ctxOf s fuzz fsz out o).repacketizeLen.toNat pad =
      .ok (pktBytes (encodeNative s fuzz fsz out o).pkt.hdr frames (encodeNative s fuzz fsz out o).pkt.size) := by
  obtain ⟨e, hpre, t1, t2, t3, h4, h256, hlens, hd48⟩ := multi_wf s fuzz fsz out o he htm hok
  rw [e] at hfl ⊢
  exact ⟨t1.symm, _, trace_run _ _ frames _ _ _ _ t2 hfl t1 h4 h256 hlens hd48 t3⟩

/-- the 60 ms CBR call of the example below takes the multi-frame path: three sub-frame calls of 159 bytes each
    (payload 158), `repacketize_len` = 480. -/
example : takesMulti OpusProps.C02.exSt false 2880 4000 (OpusProps.C02.exOr 158) = true ∧
    (ctxOf OpusProps.C02.exSt false 2880 4000 (OpusProps.C02.exOr 158)).nbFrames = 3 ∧
    (ctxOf OpusProps.C02.exSt false 2880 4000 (OpusProps.C02.exOr 158)).repacketizeLen = 480 ∧
    (multiTrace (ctxOf OpusProps.C02.exSt false 2880 4000 (OpusProps.C02.exOr 158))
        (decOf OpusProps.C02.exSt false 2880 4000 (OpusProps.C02.exOr 158))
        (effSilence (budgetSt OpusProps.C02.exSt (OpusProps.C02.exOr 158) 2880 4000) (OpusProps.C02.exOr 158)) 3 0
        (OpusProps.C02.exOr 158).frames
        (acc0 (multiSt0 (decOf OpusProps.C02.exSt false 2880 4000 (OpusProps.C02.exOr 158)).st))).map
      (fun r => (r.ret, r.payload)) = [(159, 158), (159, 158), (159, 158)] := by
  decide +kernel

/-- `pad_contract_is_model` for `opus_encode_native` itself (single-frame path,
    opus_encoder.c:1762-1774: neither the low-budget gate nor the multi-frame split).  For every state within the
    skeleton invariant, every oracle behaviour within the contracts and ANY payload contents `f` of the recorded
    length: the packet has the one frame `f`; the emitted bytes are the bytes the frame call wrote
    (`subBytes = hdr ++ f ++ zero padding`); with VBR, or for a DTX frame, they are the code-0 packet `[toc] ++ f`;
    in CBR they are `[toc] ++ f` when that fills `max_data_bytes`, and otherwise EXACTLY what `opus_packet_pad`
    (C07 model `Repack.packetPad`: init / cat / out_range_impl with pad = 1) returns for `[toc] ++ f` and
    `max_data_bytes` — code 3, one frame, zero padding.  (`encode_wellformed` shows these bytes parse.) -/
theorem encode_wellformed_single (s : St) (fuzz : Bool) (fsz out : Int) (o : NatOr)
    (he : entryCheck s fsz out = none)
    (hlow : lowBudgetGate (budgetSt s o fsz out) fsz (sizeBudget (analysisUpd s o) fsz out) = false)
    (hnm : isMulti (decOf s fuzz fsz out o).st fsz = false)
    (hok : (encodeNative s fuzz fsz out o).ok = true)
    (f : Bytes) (hf : f.length = (singleCall s fuzz fsz out o).payload.toNat) :
    (encodeNative s fuzz fsz out o).pkt.lens = [f.length] ∧
    pktBytes (encodeNative s fuzz fsz out o).pkt.hdr [f] (encodeNative s fuzz fsz out o).pkt.size =
      subBytes (singleCall s fuzz fsz out o) f ∧
    ((decOf s fuzz fsz out o).st.useVbr ≠ 0 ∨ (singleCall s fuzz fsz out o).dtx = true →
      subBytes (singleCall s fuzz fsz out o) f = (encodeNative s fuzz fsz out o).pkt.tocCfg :: f) ∧
    ((decOf s fuzz fsz out o).st.useVbr = 0 → (singleCall s fuzz fsz out o).dtx = false →
      ((singleCall s fuzz fsz out o).payload + 1 = (sizeBudget (analysisUpd s o) fsz out).maxDataBytes →
        subBytes (singleCall s fuzz fsz out o) f = (encodeNative s fuzz fsz out o).pkt.tocCfg :: f) ∧
      ((singleCall s fuzz fsz out o).payload + 1 < (sizeBudget (analysisUpd s o) fsz out).maxDataBytes →
        packetPad ((encodeNative s fuzz fsz out o).pkt.tocCfg :: f) (sizeBudget (analysisUpd s o) fsz out).maxDataBytes =
          .ok (subBytes (singleCall s fuzz fsz out o) f))) := by
  have hp := encodeNative_pkt s fuzz fsz out o he hok
  obtain ⟨hst, hlg, h⟩ := encodeNative_cases s fuzz fsz out o he hok
  obtain ⟨hg, -, hfok, e⟩ : lowBudgetGate (budgetSt s o fsz out) fsz (sizeBudget (analysisUpd s o) fsz out) = false ∧ _ := by
    rcases h with ⟨hg, -⟩ | ⟨htm, -, -⟩ | h
    · rw [hlow] at hg; cases hg
    · unfold takesMulti at htm; rw [hnm, Bool.and_false] at htm; cases htm
    · exact h
  obtain ⟨-, hpre⟩ := (callCtx s fsz out o he hst hlg).framePre fuzz hg
  have hpost : FramePost _ _ (singleCall s fuzz fsz out o) := frameNative_post _ _ (o.frames.headD default) hpre hfok
  rw [e] at hp ⊢
  obtain ⟨-, -, h4, h256, -, hd48, -⟩ := hp
  unfold singleRes at h4 h256 hd48 ⊢
  dsimp only at h4 h256 hd48 ⊢
  have hdur : 1 * Framing.samplesPerFrame (singleCall s fuzz fsz out o).toc 8000 ≤ 960 :=
    (dur8_iff_dur48 _ _ h256).mp hd48
  generalize singleCall s fuzz fsz out o = r at *
  have p2 := hpost.retLo
  have p4 := hpost.payload
  have p5 := hpost.dtx1
  have p7 := hpost.vbr
  refine ⟨by rw [hf], rfl, ?_, ?_⟩
  · intro h
    have hcode0 : r.ret = r.payload + 1 ∧
        r.hdr = [r.toc] := by
      by_cases hd : r.dtx = true
      · obtain ⟨d1, d2, d3⟩ := p5 hd
        exact ⟨by omega, d3⟩
      · rcases h with h | h
        · exact p7 h (by rw [← Bool.not_eq_true]; exact hd)
        · exact absurd h hd
    unfold subBytes
    rw [hcode0.2, hcode0.1]
    have : (r.payload + 1).toNat = f.length + 1 := by omega
    rw [this]
    exact code0_bytes _ f
  · intro hv hd
    exact frame_cbr_pad _ _ _ hpost hv hd f hf h4 h256 hdur

/-- 64 kb/s CBR, 20 ms, 48 kHz stereo CELT: one frame call, `max_data_bytes` = 160, payload 159. -/
example : entryCheck OpusProps.C02.exSt 960 4000 = none ∧
    lowBudgetGate (budgetSt OpusProps.C02.exSt (OpusProps.C02.exOr 159) 960 4000) 960
      (sizeBudget (analysisUpd OpusProps.C02.exSt (OpusProps.C02.exOr 159)) 960 4000) = false ∧
    isMulti (decOf OpusProps.C02.exSt false 960 4000 (OpusProps.C02.exOr 159)).st 960 = false ∧
    (encodeNative OpusProps.C02.exSt false 960 4000 (OpusProps.C02.exOr 159)).ok = true ∧
    (singleCall OpusProps.C02.exSt false 960 4000 (OpusProps.C02.exOr 159)).payload = 159 ∧
    (encodeNative OpusProps.C02.exSt false 960 4000 (OpusProps.C02.exOr 159)).pkt.hdr = [252] := by
  decide +kernel

/-- **encode_wellformed, without a repacketiser contract.**  For every encoder state within the skeleton
    invariant, every call (frame size, `out_data_bytes`, all settings) and every oracle behaviour within the contracts
    (`ok`), on EVERY success return path — low-budget ToC-only / code-3 PLC packet (padded or not), single frame
    VBR / CBR-padded / DTX, repacketised multi-frame packet — and for ANY frame contents of the recorded lengths,
    the emitted bytes `B = header ++ frames ++ zero padding`:
    (ret) `1 ≤ ret ≤ out_data_bytes`;
    (run) `B` is what the repacketiser MODEL of C07 returns: there are `maxlen`, `pad` such that for EVERY way the
          frames reached the repacketiser as sub-packets (each a frame-encoder output: code 0, DTX, padded code 3,
          or a multi-frame ToC-only packet) the run init / cat … cat / out_range_impl(0, n, maxlen, 0, pad) on the model
          accepts every `cat` and returns exactly `B`;
    (parse) `opus_packet_parse_impl` (C06 model, not self-delimited) accepts `B` with the ToC configuration the skeleton
          chose, frame count = the number of (sub-)frames, every frame size ≤ 1275, the frame contents byte for byte,
          `count · samples_per_frame(ToC, Fs) = frame_size`, and consumes exactly `ret` = `|B|` bytes. -/
theorem encode_wellformed (s : St) (fuzz : Bool) (fsz out : Int) (o : NatOr)
    (he : entryCheck s fsz out = none) (hok : (encodeNative s fuzz fsz out o).ok = true)
    (frames : List Bytes) (hfl : frames.map List.length = (encodeNative s fuzz fsz out o).pkt.lens) :
    (1 ≤ (encodeNative s fuzz fsz out o).ret ∧ (encodeNative s fuzz fsz out o).ret ≤ out) ∧
    (∃ maxlen pad, ∀ subs : List Sub, subs.flatMap (·.1) = frames →
        (∀ x ∈ subs, SubOk (encodeNative s fuzz fsz out o).pkt.tocCfg x) →
        repackRun (subs.map (subPkt (encodeNative s fuzz fsz out o).pkt.tocCfg)) frames.length maxlen pad =
          .ok (pktBytes (encodeNative s fuzz fsz out o).pkt.hdr frames (encodeNative s fuzz fsz out o).pkt.size)) ∧
    ∃ v, parseImpl false
        (pktBytes (encodeNative s fuzz fsz out o).pkt.hdr frames (encodeNative s fuzz fsz out o).pkt.size) = .ok v ∧
      v.toc / 4 * 4 = (encodeNative s fuzz fsz out o).pkt.tocCfg ∧ v.count = frames.length ∧
      v.sizes = (encodeNative s fuzz fsz out o).pkt.lens ∧ (∀ l ∈ v.sizes, l ≤ 1275) ∧
      slices (pktBytes (encodeNative s fuzz fsz out o).pkt.hdr frames (encodeNative s fuzz fsz out o).pkt.size)
        v.payloadOffset v.sizes = frames ∧
      (v.count : Int) * samplesPerFrame v.toc s.fs.toNat = fsz ∧
      (v.packetOffset : Int) = (encodeNative s fuzz fsz out o).ret ∧
      ((pktBytes (encodeNative s fuzz fsz out o).pkt.hdr frames (encodeNative s fuzz fsz out o).pkt.size).length : Int) =
        (encodeNative s fuzz fsz out o).ret := by
  open Opus.FramingSpec Opus.RepackProofs in
  have hpost := encodeNative_post s fuzz fsz out o he hok
  have hp := encodeNative_pkt s fuzz fsz out o he hok
  generalize encodeNative s fuzz fsz out o = r at *
  obtain ⟨⟨maxlen, pad, hout⟩, hsize, h4, h256, hlens, hd48, hdur⟩ := hp
  obtain ⟨v, hv, hvs, hvc, hvt, hvo, hvl, hvsl, hspf⟩ := outRange_view r.pkt.tocCfg r.pkt.lens maxlen pad _ frames hfl h4 h256 hlens hd48 hout
  dsimp only at hv hvo hvsl hvl
  exact ⟨⟨hpost.retLo, hpost.retHi⟩,
    ⟨maxlen, pad, fun subs hflat hsub => repackRun_frames r.pkt.tocCfg subs frames _ maxlen pad _ hflat hsub hfl h4 h256 hlens hd48 hout⟩,
    v, hv, hvt, by rw [hvc, ← hfl]; simp, hvs, by rw [hvs]; exact hlens, hvsl, by rw [hspf, hvc]; exact hdur,
    by rw [hvo]; exact hsize, by rw [hvl]; exact hsize⟩

/-- 64 kb/s CBR, 60 ms, 48 kHz stereo, 4000 bytes of space: three CELT sub-frames of 158 payload bytes, packet of
    480 bytes with header FF 43 03 (code 3, CBR, padding) — a concrete multi-frame call inside the hypotheses. -/
example : entryCheck OpusProps.C02.exSt 2880 4000 = none ∧
    (encodeNative OpusProps.C02.exSt false 2880 4000 (OpusProps.C02.exOr 158)).ok = true ∧
    (encodeNative OpusProps.C02.exSt false 2880 4000 (OpusProps.C02.exOr 158)).ret = 480 ∧
    (encodeNative OpusProps.C02.exSt false 2880 4000 (OpusProps.C02.exOr 158)).pkt.lens = [158, 158, 158] ∧
    (encodeNative OpusProps.C02.exSt false 2880 4000 (OpusProps.C02.exOr 158)).pkt.hdr = [255, 67, 3] := by
  decide +kernel

/-- `encode_wellformed_multiframe` with the `pad` argument fixed to the code's `!st->use_vbr && (dtx_count != nb_frames)`
    (opus_encoder.c:1753), `dtx_count` (`dtxOf`) = the number of sub-frame calls of the loop that returned 1 byte
    (:1740-1741): on the multi-frame path, for every success return within the contracts and ANY payload contents of
    the recorded lengths, the repacketiser MODEL run — init, one `cat` per sub-frame on exactly the bytes that frame call
    wrote, `out_range_impl(rp, 0, nb_frames, data, repacketize_len, 0, !use_vbr && dtx_count != nb_frames, NULL, 0)` —
    accepts every `cat` and returns exactly the emitted bytes. -/
theorem encode_wellformed_multiframe_pad (s : St) (fuzz : Bool) (fsz out : Int) (o : NatOr)
    (he : entryCheck s fsz out = none) (htm : takesMulti s fuzz fsz out o = true)
    (hok : (encodeNative s fuzz fsz out o).ok = true)
    (frames : List Bytes) (hfl : frames.map List.length = (encodeNative s fuzz fsz out o).pkt.lens) :
    repackRun
        (List.zipWith subBytes
          (multiTrace (ctxOf s fuzz fsz out o) (decOf s fuzz fsz out o) (effSilence (budgetSt s o fsz out) o)
            (ctxOf s fuzz fsz out o).nbFrames.toNat 0 o.frames (acc0 (multiSt0 (decOf s fuzz fsz out o).st)))
          frames)
        frames.length (ctxOf s fuzz fsz out o).repacketizeLen.toNat
        (decide ((decOf s fuzz fsz out o).st.useVbr = 0 ∧
          dtxOf (multiTrace (ctxOf s fuzz fsz out o) (decOf s fuzz fsz out o) (effSilence (budgetSt s o fsz out) o)
            (ctxOf s fuzz fsz out o).nbFrames.toNat 0 o.frames (acc0 (multiSt0 (decOf s fuzz fsz out o).st))) ≠
          (ctxOf s fuzz fsz out o).nbFrames)) =
      .ok (pktBytes (encodeNative s fuzz fsz out o).pkt.hdr frames (encodeNative s fuzz fsz out o).pkt.size) := by
  obtain ⟨e, hpre, t1, t2, t3, h4, h256, hlens, hd48⟩ := multi_wf s fuzz fsz out o he htm hok
  rw [e] at hfl ⊢
  exact trace_run _ _ frames _ _ _ _ t2 hfl t1 h4 h256 hlens hd48 t3

/-- the 60 ms CBR example call: `use_vbr = 0`, no sub-frame returned 1 byte, so `pad = 1`. -/
example : takesMulti OpusProps.C02.exSt false 2880 4000 (OpusProps.C02.exOr 158) = true ∧
    (decOf OpusProps.C02.exSt false 2880 4000 (OpusProps.C02.exOr 158)).st.useVbr = 0 ∧
    dtxOf (multiTrace (ctxOf OpusProps.C02.exSt false 2880 4000 (OpusProps.C02.exOr 158))
        (decOf OpusProps.C02.exSt false 2880 4000 (OpusProps.C02.exOr 158))
        (effSilence (budgetSt OpusProps.C02.exSt (OpusProps.C02.exOr 158) 2880 4000) (OpusProps.C02.exOr 158)) 3 0
        (OpusProps.C02.exOr 158).frames
        (acc0 (multiSt0 (decOf OpusProps.C02.exSt false 2880 4000 (OpusProps.C02.exOr 158)).st))) = 0 := by
  decide +kernel

/-- `wellformed_low_budget` for `opus_encode_native` itself (opus_encoder.c:1271-1337).  Whenever the low-budget gate
    fires (`max_data_bytes < 3`, or too few bits for the frame rate), for every state within the skeleton invariant and
    every success return: the packet holds the empty frames `lowLens`; with VBR, or when there is no room beyond the
    1 or 2 ToC-only bytes, the return value is 1 or 2 and the emitted bytes are the ToC-only packet `lowHdr0` (code 0,
    code 1, or code 3 with M empty frames); in CBR with more room the return value is `max_data_bytes` and the emitted
    bytes are EXACTLY what `opus_packet_pad` (C07 model `Repack.packetPad`) returns for that ToC-only packet and
    `max_data_bytes`.  (`wellformed_low_budget` / `encode_wellformed` show both parse with count · spf = frame_size.) -/
theorem encode_wellformed_low_budget (s : St) (fuzz : Bool) (fsz out : Int) (o : NatOr)
    (he : entryCheck s fsz out = none)
    (hlow : lowBudgetGate (budgetSt s o fsz out) fsz (sizeBudget (analysisUpd s o) fsz out) = true)
    (hok : (encodeNative s fuzz fsz out o).ok = true) :
    (encodeNative s fuzz fsz out o).pkt.lens = lowLens (budgetSt s o fsz out) fsz out ∧
    ((budgetSt s o fsz out).useVbr ≠ 0 ∨
        (sizeBudget (analysisUpd s o) fsz out).maxDataBytes ≤ lowRet0 (budgetSt s o fsz out) fsz out →
      (encodeNative s fuzz fsz out o).ret = lowRet0 (budgetSt s o fsz out) fsz out ∧
      pktBytes (encodeNative s fuzz fsz out o).pkt.hdr (lowFrames (budgetSt s o fsz out) fsz out)
        (encodeNative s fuzz fsz out o).pkt.size = lowHdr0 (budgetSt s o fsz out) fsz out) ∧
    ((budgetSt s o fsz out).useVbr = 0 →
        lowRet0 (budgetSt s o fsz out) fsz out < (sizeBudget (analysisUpd s o) fsz out).maxDataBytes →
      (encodeNative s fuzz fsz out o).ret = (sizeBudget (analysisUpd s o) fsz out).maxDataBytes ∧
      packetPad (lowHdr0 (budgetSt s o fsz out) fsz out) (sizeBudget (analysisUpd s o) fsz out).maxDataBytes =
        .ok (pktBytes (encodeNative s fuzz fsz out o).pkt.hdr (lowFrames (budgetSt s o fsz out) fsz out)
          (encodeNative s fuzz fsz out o).pkt.size)) := by
  obtain ⟨hst, hlg, h⟩ := encodeNative_cases s fuzz fsz out o he hok
  have c := callCtx s fsz out o he hst hlg
  have hS := (stOk_iff s).mp hst
  have hbs := c.same
  have hne := c.ne100
  rw [← hbs.fs] at hlg hne
  have hfs5 : _ := hbs.fs ▸ hS.fs
  rcases h with ⟨-, e⟩ | ⟨htm, -, -⟩ | ⟨hg, -⟩
  · rw [e]
    generalize budgetSt s o fsz out = s1 at *
    generalize sizeBudget (analysisUpd s o) fsz out = b at *
    obtain ⟨-, -, -, -, hl, hsh⟩ := lowBudget_cases s1 fsz out b (by omega) hlg
    obtain ⟨-, hpadded⟩ := wellformed_low_budget s1 fsz out hfs5 hlg (Or.inr (hbs.mode ▸ hS.mode))
      (hbs.bandwidth ▸ hS.bw) (by have := hS.sc; have := hS.ch; have := hbs.streamChannels; omega) hne
      (by have := legal_rate_ge8 s1.fs fsz (by omega) hlg; omega)
    refine ⟨hl, fun hc => ?_, fun hv hlt => ?_⟩
    · rcases hsh with ⟨-, e1, e2, e3⟩ | ⟨hv, hlt, -⟩
      · exact ⟨e1, by dsimp only at e2 e3 ⊢; rw [e2, e3]; exact low_bytes s1 fsz out⟩
      · rcases hc with hc | hc
        · exact absurd hv hc
        · omega
    · rcases hsh with ⟨hc, -⟩ | ⟨-, -, e1, r, -, hps, -, e2, e3⟩
      · rcases hc with hc | hc
        · exact absurd hv hc
        · omega
      · obtain ⟨r', hps', hpp, -⟩ := hpadded b.maxDataBytes hlt
        rw [hps] at hps'; cases hps'
        exact ⟨e1, by dsimp only at e2 e3 ⊢; rw [e2, e3]; exact hpp⟩
  · unfold takesMulti at htm; rw [hlow] at htm; cases htm
  · rw [hlow] at hg; cases hg

/-- the CBR example encoder with 2 bytes of space (20 ms): the gate fires, the call succeeds with 2 bytes. -/
example : entryCheck OpusProps.C02.exSt 960 2 = none ∧
    lowBudgetGate (budgetSt OpusProps.C02.exSt (OpusProps.C02.exOr 0) 960 2) 960
      (sizeBudget (analysisUpd OpusProps.C02.exSt (OpusProps.C02.exOr 0)) 960 2) = true ∧
    (encodeNative OpusProps.C02.exSt false 960 2 (OpusProps.C02.exOr 0)).ok = true ∧
    (encodeNative OpusProps.C02.exSt false 960 2 (OpusProps.C02.exOr 0)).ret = 2 := by
  decide +kernel

end OpusProps.C02Wf
