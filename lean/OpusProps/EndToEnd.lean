import OpusProofs.EndToEnd
import OpusProps.C02
/-
  Cross-property composition (C02 clause "decoding the packets, with this decoder at any output rate and
  channel count, returns exactly that many samples per packet"), at the level the models reach:

      encoder skeleton (C02/C05)  →  bytes  →  [opus_packet_pad / opus_packet_unpad (C07)]  →
      packet parser (C06)  →  decoder skeleton (C01)

  Encoder side: `Opus.EncSkel.encodeNative s fuzz frame_size out_data_bytes oe` with a success return
  (`ok = true`: the state is within `stOk`, the frame size is legal, and the ENCODER-SIDE ORACLE CONTRACTS
  hold — the inner SILK/CELT encoders return byte counts within the budget they were given, see
  OpusProps/C05.lean) and `entryCheck = none`.  The packet is `pktBytes hdr frames size`:
  the header the skeleton wrote, ANY frame contents of the recorded lengths (bytes), zero padding.
  Decoder side: `Opus.DecSkel.decodeNative od (some bytes) len pcm frame_size 0 false sc r` from ANY run
  whose state satisfies `DecInv` (any output rate in {8,12,16,24,48} kHz, 1 or 2 channels, any history),
  for every DECODER-SIDE ORACLE within `OracleOk` (the inner SILK/CELT decoders return the frame sizes
  their contracts prescribe, C01), with room for `frame_size · Fs_dec / Fs_enc` samples per channel.
  No other hypothesis: in particular nothing is assumed about the bytes inside the frames.

  The multistream version is composed separately, in OpusProps/EndToEndMs.lean
  (`ms_encode_decode_duration`, `ms_encode_decode_duration_contract`): C10 `ms_encode_packet_structure` gives
  `msPacketValidate out n Fs = .ok frame_size`, and C01 `msDecodeFull_duration` / OpusProofs/DecSkelMsFull.lean
  `msDecodeFull_duration_spec` supply the decoder-side lemma ("if the validation pass reports `k ≤ frame_size` then
  `msDecodeFull` returns exactly `k`").
-/
namespace OpusProps.EndToEnd
open Opus Opus.EncSkel Opus.EncSkel.Proofs Opus.DecSkel Opus.EndToEnd

/-- **encode_decode_duration.**  Every packet the encoder skeleton returns for `frame_size` samples at
    `Fs_enc` is exactly `ret` bytes long (`1 ≤ ret ≤ out_data_bytes`), and the decoder skeleton — at any
    of the five output rates, either channel count, from any state within `DecInv`, for every DSP oracle
    within its contracts — returns exactly `frame_size · Fs_dec / Fs_enc` on those `ret` bytes (never an
    error), a positive number, and `OPUS_GET_LAST_PACKET_DURATION` then reports the same. -/
theorem encode_decode_duration (s : St) (fuzz : Bool) (fsz out : Int) (oe : NatOr) (hfs : FsOk s.fs)
    (he : entryCheck s fsz out = none) (hok : (encodeNative s fuzz fsz out oe).ok = true)
    (frames : List Bytes) (hfl : frames.map List.length = (encodeNative s fuzz fsz out oe).pkt.lens)
    (hfb : ∀ f ∈ frames, BytesOk f)
    (od : Oracle) (hod : OracleOk od) (r : Run) (hinv : DecInv r.st) (hlog : r.log = [])
    (pcm : Ptr) (frame_size : Int) (sc : Bool) (hfit : fsz * r.st.Fs / s.fs ≤ frame_size)
    (hbuf : pcm.buf = .pcm) (hroom : 0 ≤ pcm.off ∧ pcm.off + frame_size * r.st.channels ≤ pcm.cap) :
    let res := encodeNative s fuzz fsz out oe
    let bs := pktBytes res.pkt.hdr frames res.pkt.size
    ((bs.length : Int) = res.ret ∧ 1 ≤ res.ret ∧ res.ret ≤ out) ∧
    (decodeNative od (some bs) bs.length pcm frame_size 0 false sc r).ret = .ret (fsz * r.st.Fs / s.fs) ∧
    (decodeNative od (some bs) bs.length pcm frame_size 0 false sc r).run.st.last_packet_duration = fsz * r.st.Fs / s.fs ∧
    0 < fsz * r.st.Fs / s.fs := by
  intro res bs
  obtain ⟨P, hv, hf, hs, hz, hdur, hlen, hlo, hhi⟩ := encoder_packet s fuzz fsz out oe he hok frames hfl
  have hd := decode_same_frames s.fs fsz hfs (.refl hv) hdur (by rw [hf]; exact hfb) hz od hod r hinv hlog
    pcm frame_size sc hfit hbuf hroom
  have e : bs = FramingSpec.serialize false P := hs.symm
  rw [e]
  exact ⟨⟨hlen, hlo, hhi⟩, hd.1, hd.2.1, hd.2.2.2⟩

/-- **encode_decode_duration_padded.**  The same after `opus_packet_pad` to ANY `new_len ≥ ret`: padding
    succeeds (the encoder's own padding is all zero, hence free of extensions), the result is exactly
    `new_len` bytes, and the decoder returns the same `frame_size · Fs_dec / Fs_enc`. -/
theorem encode_decode_duration_padded (s : St) (fuzz : Bool) (fsz out : Int) (oe : NatOr) (hfs : FsOk s.fs)
    (he : entryCheck s fsz out = none) (hok : (encodeNative s fuzz fsz out oe).ok = true)
    (frames : List Bytes) (hfl : frames.map List.length = (encodeNative s fuzz fsz out oe).pkt.lens)
    (hfb : ∀ f ∈ frames, BytesOk f) (newLen : Int) (hnew : (encodeNative s fuzz fsz out oe).ret ≤ newLen)
    (od : Oracle) (hod : OracleOk od) (r : Run) (hinv : DecInv r.st) (hlog : r.log = [])
    (pcm : Ptr) (frame_size : Int) (sc : Bool) (hfit : fsz * r.st.Fs / s.fs ≤ frame_size)
    (hbuf : pcm.buf = .pcm) (hroom : 0 ≤ pcm.off ∧ pcm.off + frame_size * r.st.channels ≤ pcm.cap) :
    let res := encodeNative s fuzz fsz out oe
    ∃ y, Repack.packetPad (pktBytes res.pkt.hdr frames res.pkt.size) newLen = .ok y ∧ (y.length : Int) = newLen ∧
      (decodeNative od (some y) y.length pcm frame_size 0 false sc r).ret = .ret (fsz * r.st.Fs / s.fs) ∧
      (decodeNative od (some y) y.length pcm frame_size 0 false sc r).run.st.last_packet_duration = fsz * r.st.Fs / s.fs := by
  intro res
  obtain ⟨P, hv, hf, hs, hz, hdur, hlen, _, _⟩ := encoder_packet s fuzz fsz out oe he hok frames hfl
  obtain ⟨q, hrel, hpad, hql, hqz⟩ := pad_valid P hv hz newLen (by rw [hlen]; exact hnew)
  have hd := decode_same_frames s.fs fsz hfs hrel hdur (by rw [hf]; exact hfb) hqz od hod r hinv hlog
    pcm frame_size sc hfit hbuf hroom
  have e : pktBytes res.pkt.hdr frames res.pkt.size = FramingSpec.serialize false P := hs.symm
  rw [e]
  exact ⟨_, hpad, hql, hd.1, hd.2.1⟩

/-- **encode_decode_duration_unpadded.**  … and after `opus_packet_unpad`: it succeeds, the result is
    not longer than the packet, and decodes to the same `frame_size · Fs_dec / Fs_enc`. -/
theorem encode_decode_duration_unpadded (s : St) (fuzz : Bool) (fsz out : Int) (oe : NatOr) (hfs : FsOk s.fs)
    (he : entryCheck s fsz out = none) (hok : (encodeNative s fuzz fsz out oe).ok = true)
    (frames : List Bytes) (hfl : frames.map List.length = (encodeNative s fuzz fsz out oe).pkt.lens)
    (hfb : ∀ f ∈ frames, BytesOk f)
    (od : Oracle) (hod : OracleOk od) (r : Run) (hinv : DecInv r.st) (hlog : r.log = [])
    (pcm : Ptr) (frame_size : Int) (sc : Bool) (hfit : fsz * r.st.Fs / s.fs ≤ frame_size)
    (hbuf : pcm.buf = .pcm) (hroom : 0 ≤ pcm.off ∧ pcm.off + frame_size * r.st.channels ≤ pcm.cap) :
    let res := encodeNative s fuzz fsz out oe
    ∃ y, Repack.packetUnpad (pktBytes res.pkt.hdr frames res.pkt.size) = .ok y ∧ (y.length : Int) ≤ res.ret ∧
      (decodeNative od (some y) y.length pcm frame_size 0 false sc r).ret = .ret (fsz * r.st.Fs / s.fs) ∧
      (decodeNative od (some y) y.length pcm frame_size 0 false sc r).run.st.last_packet_duration = fsz * r.st.Fs / s.fs := by
  intro res
  obtain ⟨P, hv, hf, hs, hz, hdur, hlen, _, _⟩ := encoder_packet s fuzz fsz out oe he hok frames hfl
  obtain ⟨q, hrel, hun, hql, hqz⟩ := unpad_valid P hv
  have hd := decode_same_frames s.fs fsz hfs hrel hdur (by rw [hf]; exact hfb) hqz od hod r hinv hlog
    pcm frame_size sc hfit hbuf hroom
  have e : pktBytes res.pkt.hdr frames res.pkt.size = FramingSpec.serialize false P := hs.symm
  rw [e]
  refine ⟨_, hun, ?_, hd.1, hd.2.1⟩
  have : (res.ret : Int) = ((FramingSpec.serialize false P).length : Int) := hlen.symm
  rw [this]; exact Int.ofNat_le.mpr hql

/-! ### Non-vacuity -/

/-- 20 ms CELT: 48 kHz stereo, 64 kb/s CBR (C02's `exSt`), one 159-byte frame, TOC 0xFC, 160 bytes. -/
example : entryCheck OpusProps.C02.exSt 960 4000 = none ∧
    (encodeNative OpusProps.C02.exSt false 960 4000 (OpusProps.C02.exOr 159)).ok = true ∧
    (encodeNative OpusProps.C02.exSt false 960 4000 (OpusProps.C02.exOr 159)).pkt =
      { tocCfg := 252, lens := [159], size := 160, hdr := [252] } ∧
    (encodeNative OpusProps.C02.exSt false 960 4000 (OpusProps.C02.exOr 159)).ret = 160 := by decide +kernel

/-- 60 ms SILK wideband (forced SILK), 16 kHz mono, 64 kb/s CBR: one 141-byte frame padded to 480 bytes — a code-3
    packet (`5B 41 FF 51`: TOC config 11 + code 3, one frame + padding flag, 255+81 → 335 padding bytes). -/
def exSilkSt : St :=
  { OpusProps.C02.exSt with fs := 16000, channels := 1, streamChannels := 1, prevChannels := 1, userForcedMode := 1000 }
def exSilkFr (n : Int) : FrameOr :=
  { OpusProps.C02.exFr 0 with nBytes := n, isr := 16000, tellA := 8 * n, tellB := 8 * n, tellC := 8 * n, tellD := 8 * n,
                              tellE := 8 * n, silkBitRateIn := 24000 }
def exSilkOr (n : Int) : NatOr :=
  { OpusProps.C02.exOr 0 with aValid := 0, frames := [exSilkFr n, exSilkFr n, exSilkFr n] }

example : stOk exSilkSt = true ∧ entryCheck exSilkSt 960 4000 = none ∧
    (encodeNative exSilkSt false 960 4000 (exSilkOr 100)).ok = true ∧
    (encodeNative exSilkSt false 960 4000 (exSilkOr 100)).pkt =
      { tocCfg := 88, lens := [141], size := 480, hdr := [91, 65, 255, 81] } := by decide +kernel

/-- the decoder side: a 48 kHz stereo decoder right after init, C01's example oracle; the 60 ms packet
    of the 16 kHz encoder is 2880 samples there (960·48000/16000), the 20 ms CELT packet 960. -/
example : ∃ st, init 48000 2 = some st ∧ DecInv st ∧ OracleOk exOracle ∧
    (960 : Int) * st.Fs / 16000 = 2880 ∧ (960 : Int) * st.Fs / 48000 = 960 :=
  ⟨_, rfl, init_inv (fs := 48000) (ch := 2) rfl, exOracle_ok, by decide, by decide⟩
/-- all hypotheses together: the 20 ms CELT packet (any 159 frame bytes, here all 7) decoded by a fresh
    48 kHz stereo decoder into a 960-sample stereo buffer returns 960. -/
example : ∀ st, init 48000 2 = some st →
    (decodeNative exOracle (some (pktBytes [252] [List.replicate 159 7] 160)) (pktBytes [252] [List.replicate 159 7] 160).length
        ⟨.pcm, 0, 1920⟩ 960 0 false false { st := st, k := 0, log := [] }).ret = .ret 960 := by
  intro st hst
  have h := encode_decode_duration OpusProps.C02.exSt false 960 4000 (OpusProps.C02.exOr 159) (by unfold FsOk; decide)
    (by decide +kernel) (by decide +kernel) [List.replicate 159 7] (by decide +kernel) (by decide +kernel)
    exOracle exOracle_ok { st := st, k := 0, log := [] } (init_inv hst) rfl ⟨.pcm, 0, 1920⟩ 960 false
    (by cases hst; decide) rfl (by cases hst; decide)
  have hp : (encodeNative OpusProps.C02.exSt false 960 4000 (OpusProps.C02.exOr 159)).pkt =
      { tocCfg := 252, lens := [159], size := 160, hdr := [252] } := by decide +kernel
  simp only [hp] at h
  have hv : (960 : Int) * st.Fs / OpusProps.C02.exSt.fs = 960 := by cases hst; decide
  rw [hv] at h
  exact h.2.1
example : FsOk OpusProps.C02.exSt.fs ∧ FsOk exSilkSt.fs := ⟨by unfold FsOk; decide, by unfold FsOk; decide⟩
/-- the padded 60 ms packet parses to one 141-byte frame behind a 4-byte header, 335 bytes of padding, 480 in all -/
example : Framing.parseImpl false (pktBytes [91, 65, 255, 81] [List.replicate 141 7] 480) =
    .ok ⟨91, 1, [141], 4, 335, 480⟩ := by decide +kernel

end OpusProps.EndToEnd
