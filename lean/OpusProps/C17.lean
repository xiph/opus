import OpusProofs.CwrsCache
import OpusProofs.RangeCoderCodes
import OpusProofs.Icdf
import OpusProofs.LaplaceMain
import OpusProofs.LaplaceDomain
import OpusProofs.CwrsRanges
import OpusProofs.CeltAllocTree
import OpusProofs.CeltHdrExample
import OpusProofs.CeltFrameExample
import OpusProofs.CeltFrameDrive
/-
  Property C17 — "PVQ, Laplace and table-driven symbol codes are exact, prefix-free bijections".

  Models:  `Opus.Cwrs`    (celt/cwrs.c: U/V, `icwrs`, `cwrsi`, both branches and the n==2/n==1 tails, table access
                           abstracted as `Tab` with `.oob` outside a row; `Utab` = the regenerated CELT_PVQ_U_DATA)
           `Opus.Rate`    (celt/rate.c, rate.h: get_pulses, log2_frac, fits_in32, compute_pulse_cache)
           `Opus.Icdf`    (ec_enc_icdf/ec_dec_icdf at the interval level + the catalogue of every static ICDF table)
           `Opus.Laplace` (celt/laplace.c at the interval level)
  Tables:  `Opus.Gen.CeltTables`, `Opus.Gen.SilkIcdf` are regenerated from /repo on every run.
-/
namespace OpusProps.C17
open Opus Opus.Cwrs Opus.Rate Opus.Icdf
open Opus.Gen.CeltTables
open OpusProofs.CwrsTable (inTab)
open OpusProofs.CwrsModel (Agree)
open OpusProofs.CwrsCache (Reach)
open Opus.Laplace (encode decode)
open OpusProofs.Laplace (LaplaceOk eprobFs eprobDecay)

/-! ## V obeys its recurrence -/

/-- "V obeys its recurrence": `U(N,K) = U(N-1,K) + U(N,K-1) + U(N-1,K-1)` with the base cases of cwrs.c:114-116, 195. -/
theorem U_rec (n k : Nat) :
    U (n + 1) (k + 1) = U n (k + 1) + U (n + 1) k + U n k ∧ U (n + 1) 0 = 0 ∧ U 0 (k + 1) = 0 ∧ U 0 0 = 1 :=
  ⟨rfl, rfl, rfl, rfl⟩

example : U 3 2 = 5 ∧ U 4 3 = 25 := by decide

/-- `U(N,K) = U(K,N)` (cwrs.c:116), which is what lets the table be stored as rows `min` / columns `max`. -/
theorem U_symm (n k : Nat) : U n k = U k n := OpusProofs.CwrsU.U_symm n k

/-- `V(N,K) = V(N-1,K) + V(N,K-1) + V(N-1,K-1)`, `V(N,0) = 1` (cwrs.c:81-84). -/
theorem V_rec (n k : Nat) : V (n + 1) (k + 1) = V n (k + 1) + V (n + 1) k + V n k ∧ V (n + 1) 0 = 1 :=
  ⟨OpusProofs.CwrsU.V_rec n k, OpusProofs.CwrsU.V_zero n⟩

example : V 3 2 = 18 := by decide

/-! ## The table -/

/-- "Exhaustively over all table entries": every word `CELT_PVQ_U_ROW[r][c]` of the regenerated table that lies inside
    its row equals `U(r,c)` and fits 32 bits; a read outside a row is out of bounds in the model; and the rows
    account for every one of the `pvqUSize` (1272) words of `CELT_PVQ_U_DATA`. -/
theorem Utab_eq_U :
    (∀ r c, (inTab r c → Utab r c = .ok (U r c) ∧ U r c < 4294967296) ∧ (¬ inTab r c → Utab r c = .oob)) ∧
    ((List.range OpusProofs.CwrsTable.nRows).map (fun r => (OpusProofs.CwrsTable.rowSlice r).length)).sum = pvqUSize :=
  ⟨OpusProofs.CwrsTable.Utab_spec, OpusProofs.CwrsTable.words_checked⟩

example : inTab 6 96 ∧ inTab 14 14 ∧ ¬ inTab 14 15 ∧ ¬ inTab 8 100 := by decide

/-! ## The enumeration is a bijection -/

/-- "Decoding any index gives a vector with exactly K pulses that encodes back to that index": for EVERY `n ≥ 2`,
    `k ≥ 1`, `i < V(n,k)`, on any table that holds `U` at the words a walk for `(n,k)` can touch, `cwrsi` succeeds
    (no assertion, no out-of-row read), returns a vector of length `n` with `Σ|y_j| = k` and `yy = Σ y_j²`, and
    `icwrs` maps that vector back to `i`. -/
theorem cwrsi_icwrs (tab : Tab) (n k i : Nat) (h : Agree tab n k) (hn : 2 ≤ n) (hk : 1 ≤ k) (hi : i < V n k) :
    ∃ y, cwrsi tab n k i = .ok (y, sumSq y) ∧ y.length = n ∧ sumAbs y = k ∧ icwrs tab y = .ok i := by
  obtain ⟨hl, hs, he⟩ := OpusProofs.CwrsBij.decS_spec n k i hi
  refine ⟨_, OpusProofs.CwrsModel.cwrsi_agree h hn hk hi, hl, hs, ?_⟩
  have := OpusProofs.CwrsModel.icwrs_agree (tab := tab) (y := OpusProofs.CwrsBij.decS n k i)
    (by rw [hl, hs]; exact h) (by omega)
  rw [this, he]

/-- The hypothesis of `cwrsi_icwrs` is satisfiable for every `(n,k)` (the mathematical table), so the enumeration
    is a bijection for all sizes, not only those in the shipped table. -/
example (n k : Nat) : Agree Umath n k := OpusProofs.CwrsModel.agree_Umath n k
example : cwrsi Umath 3 2 7 = .ok ([0, 1, -1], 2) ∧ icwrs Umath [0, 1, -1] = .ok 7 := by decide

/-- The other direction: every vector `y` (length ≥ 2, at least one pulse) has an index below `V(n, Σ|y_j|)` and
    `cwrsi` decodes that index back to `y`: pulse vectors and indices correspond one-to-one. -/
theorem icwrs_cwrsi (tab : Tab) (y : List Int) (h : Agree tab y.length (sumAbs y)) (hn : 2 ≤ y.length)
    (hk : 1 ≤ sumAbs y) :
    ∃ i, icwrs tab y = .ok i ∧ i < V y.length (sumAbs y) ∧ cwrsi tab y.length (sumAbs y) i = .ok (y, sumSq y) :=
  RangeCoder.C17.icwrs_cwrsi tab y h hn hk

example : icwrs Umath [1, -1, 0] = .ok 4 ∧ cwrsi Umath 3 2 4 = .ok ([1, -1, 0], 2) := by decide

/-! ## Every (N,K) the codec can use -/

/-- "For every vector size N and pulse count K the codec can use … without overflow": for every band, every frame
    size (including the halves produced by band splitting) and every pseudo-pulse count of the band's cache row,
    `V(N,K) < 2^32` and every table word the walks of `icwrs`/`cwrsi` touch for `(N,K)` lies inside its row and
    equals `U` (memory safety of the table walk). -/
theorem cache_reachable_fits (N K b : Nat) (h : Reach N K b) : 1 ≤ K ∧ V N K < 4294967296 ∧ Agree Utab N K :=
  RangeCoder.C17.cache_reachable_fits N K b h

/-- band 20 (22 bins per short block) at LM = 3, i.e. N = 176, with one pulse. -/
example : ∃ K b, Reach 176 K b :=
  ⟨_, _, 4, 20, 387, 1, by decide, by decide, by decide, by decide, by decide, by decide, rfl, rfl⟩

/-- `decode_pulses` on the shipped table: for every reachable `(N,K)`, `N ≥ 2`, the `ft` it hands to `ec_dec_uint` is
    `V(N,K) < 2^32`, and for every index the range decoder can return `cwrsi` yields a `K`-pulse vector that `icwrs`
    maps back — all reads inside the table. -/
theorem cwrsi_table (N K b i : Nat) (h : Reach N K b) (hn : 2 ≤ N) (hi : i < V N K) :
    decodePulsesFt Utab N K = .ok (V N K) ∧ V N K < 4294967296 ∧
    ∃ y, cwrsi Utab N K i = .ok (y, sumSq y) ∧ y.length = N ∧ sumAbs y = K ∧ icwrs Utab y = .ok i := by
  obtain ⟨hk, hA, hV, _⟩ := OpusProofs.CwrsCache.reach_facts h
  exact ⟨RangeCoder.C17.decodePulsesFt_table N K b h, hV, cwrsi_icwrs Utab N K i hA hn hk hi⟩

/-- `encode_pulses` on the shipped table: every `K`-pulse vector of a reachable size gets `(fl, ft) = (i, V(N,K))` with
    `i < ft < 2^32`, and `cwrsi` recovers the vector from `i`. -/
theorem icwrs_table (N K b : Nat) (y : List Int) (h : Reach N K b) (hn : 2 ≤ N) (hl : y.length = N)
    (hs : sumAbs y = K) :
    ∃ i, encodePulses Utab y K = .ok (i, V N K) ∧ i < V N K ∧ V N K < 4294967296 ∧
      cwrsi Utab N K i = .ok (y, sumSq y) :=
  RangeCoder.C17.icwrs_table N K b y h hn hl hs

/-! ## The bits-to-pulses cache -/

/-- The shipped `cache.index` / `cache.bits` (static_modes_float.h) are exactly what `compute_pulse_cache`
    (rate.c:74-143, re-implemented in `Opus.Rate`) computes from the shipped `eBands` and the shipped PVQ table. -/
theorem cache_eq_recomputed : computePulseCache Utab eBands nbEBands maxLM = .ok (cacheIndex, cacheBits) := by
  have h := OpusProofs.CwrsCache.cacheCheck_true
  simp only [OpusProofs.CwrsCache.cacheCheck, Bool.and_eq_true, decide_eq_true_eq, List.all_eq_true] at h
  obtain ⟨⟨h1, h2⟩, h3⟩ := h
  have hm := OpusProofs.CwrsCache.mapM_ok _ (fun e => OpusProofs.CwrsCache.fastRow e.1 e.2) _
    (fun e he => OpusProofs.CwrsCache.cacheRow_eq (h2 e he))
  simp only [computePulseCache, cacheBitsOf, hm, Res.bind_ok, Res.pure_eq, h1, h3]

/-- "The bits-to-pulses cache is monotone": every row `cache[1..cache[0]]` lies inside `cache.bits` and is
    non-decreasing in the pseudo-pulse count (what the binary search of `bits2pulses` relies on). -/
theorem cache_rows_monotone (lm1 band ci q : Nat) (hl : lm1 ≤ maxLM + 1) (hb : band < nbEBands)
    (hci : cacheIndex[lm1 * nbEBands + band]? = some (Int.ofNat ci)) (hq1 : 1 ≤ q) (hq : q ≤ cacheBits.getD ci 0) :
    ci + q < cacheBits.length ∧
    (q < cacheBits.getD ci 0 → cacheBits.getD (ci + q) 0 ≤ cacheBits.getD (ci + q + 1) 0) :=
  OpusProofs.CwrsCache.rows_monotone hl hb hci hq1 hq

example : cacheIndex[4 * nbEBands + 20]? = some (Int.ofNat 387) ∧ cacheBits.getD 387 0 = 4 := by decide

/-- "… and consistent with V": the cache word `b` of a reachable `(N,K)` (stored as bits−1 in 1/8 bit units) brackets
    the information content: `V^8 ≤ 2^(b+1) < 4·V^8`, i.e. `log2 V(N,K) ≤ (b+1)/8 < log2 V(N,K) + 1/4`. -/
theorem cache_consistent_with_V (N K b : Nat) (h : Reach N K b) :
    V N K ^ 8 ≤ 2 ^ (b + 1) ∧ 2 ^ (b + 1) < 4 * V N K ^ 8 := by
  obtain ⟨_, _, _, h4, h5⟩ := OpusProofs.CwrsCache.reach_facts h
  exact ⟨h4, h5⟩

/-! ## Inverse-CDF tables -/

/-- "Every static inverse-CDF table is strictly decreasing and ends at zero" (and starts below `2^ftb`): all tables
    of celt/ and silk/, regenerated and sliced exactly as the call sites slice them; the slicing covers every word
    of the flat SILK arrays. -/
theorem icdf_ok : (∀ e ∈ allIcdfs, icdfOk e.ftb e.tab = true) ∧ slicingExact = true :=
  ⟨OpusProofs.Icdf.all_tables_ok, OpusProofs.Icdf.slicing_exact⟩

example : allIcdfs.length = 171 ∧ (allIcdfs.map (fun e => e.tab.length)).sum = 1506 := by decide +kernel

/-- "Exact, prefix-free": for ANY table satisfying `icdfOk` the symbol intervals `[2^ftb − icdf[s−1], 2^ftb − icdf[s])`
    are non-empty, adjacent, start at 0 and end at `2^ftb`; every point belongs to exactly one symbol, and that is
    the symbol the scan of `ec_dec_icdf` returns (`ec_dec_icdf` relies on the terminating zero, entdec.c:177-196). -/
theorem icdf_tiles (ftb : Nat) (t : List Nat) (h : icdfOk ftb t = true) :
    (∀ s, s < t.length → symLow ftb t s < symHigh ftb t s ∧ symHigh ftb t s ≤ 2 ^ ftb) ∧
    (∀ s, s + 1 < t.length → symLow ftb t (s + 1) = symHigh ftb t s) ∧
    symLow ftb t 0 = 0 ∧ symHigh ftb t (t.length - 1) = 2 ^ ftb ∧
    (∀ x, x < 2 ^ ftb → ∃ s, s < t.length ∧ symOf ftb x t 0 = some s ∧
        symLow ftb t s ≤ x ∧ x < symHigh ftb t s ∧
        ∀ s', s' < t.length → symLow ftb t s' ≤ x → x < symHigh ftb t s' → s' = s) :=
  OpusProofs.Icdf.icdf_tiles ftb t h

example : icdfOk 7 trimIcdf = true ∧ symOf 7 100 trimIcdf 0 = some 6 := by decide


/-! ## The Laplace coder (celt/laplace.c:44-134)

  `encode value fs decay = (fl, fh, value')` is the interval handed to `ec_encode_bin(enc, fl, fh, 15)` and the value
  written back through `*value`; `decode fm fs decay = (val, fl, fh)` is the return value and the interval handed to
  `ec_dec_update(dec, fl, fh, 32768)` when `ec_decode_bin(dec, 15)` answered `fm`; `.abort` = a `celt_assert` fires.
  `LaplaceOk fs decay` (decidable) says: `fs > 0` and the decaying part of the PDF ends at or before 32766, so that the
  probability-LAPLACE_MINP tail has room for at least one symbol of each sign. -/

/-- "For every energy-model parameter pair": each of the 4·2·21 `(fs, decay) = (e_prob_model[LM][intra][2b]<<7,
    e_prob_model[LM][intra][2b+1]<<6)` pairs satisfies `LaplaceOk`; with `decay < 2^16` no C `unsigned` product of
    laplace.c wraps, so the model's unbounded arithmetic is the C arithmetic on these pairs. -/
theorem eprob_pairs_ok (lm intra band : Nat) (h1 : lm < 4) (h2 : intra < 2) (h3 : band < 21) :
    LaplaceOk (eprobFs lm intra band) (eprobDecay lm intra band) = true ∧ eprobDecay lm intra band < 65536 :=
  OpusProofs.Laplace.eprob_ok h1 h2 h3

example : eprobFs 0 0 0 = 9216 ∧ eprobDecay 0 0 0 = 8128 ∧ eprobFs 3 1 20 = 9856 ∧ eprobDecay 3 1 20 = 2560 := by decide

/-- "Decode inverts encode (after the encoder's documented clamping)": for EVERY parameter pair with `LaplaceOk` and
    EVERY integer `value`, the encoder does not assert, its interval is non-empty and inside `[0, 32768)`, and every
    `fm` in that interval decodes to the clamped value `value'` with exactly the encoder's interval (so the range
    coder states of encoder and decoder stay equal).  Clamping keeps the sign, never increases the magnitude,
    leaves `value'` itself unchanged (fixed point), and only happens for the last symbols of the range. -/
theorem laplace_decode_encode (fs decay : Nat) (h : LaplaceOk fs decay = true) (value : Int) :
    ∃ fl fh v', encode value fs decay = .ok (fl, fh, v') ∧ fl < fh ∧ fh ≤ 32768 ∧
      (∀ fm, fl ≤ fm → fm < fh → decode fm fs decay = .ok (v', fl, fh)) ∧
      encode v' fs decay = .ok (fl, fh, v') ∧
      (v' < 0 ↔ value < 0) ∧ v'.natAbs ≤ value.natAbs ∧ (v' ≠ value → 32766 ≤ fl) := by
  obtain ⟨T, hp⟩ := OpusProofs.Laplace.par_of_ok h
  obtain ⟨fl, fh, v', h1, h2, h3, h4, h5, h6, h7⟩ := OpusProofs.Laplace.encode_then_decode hp value
  refine ⟨fl, fh, v', h1, h2, h3, h4, ?_, h5, h6, h7⟩
  obtain ⟨v, fl2, fh2, hd, _, _, _, he⟩ := OpusProofs.Laplace.decode_then_encode hp (fm := fl) (by omega)
  cases (h4 fl (Nat.le_refl _) h2).symm.trans hd
  exact he

example : LaplaceOk 9216 8128 = true ∧ encode (-3) 9216 8128 = .ok (26948, 28407, -3) ∧
    decode 27000 9216 8128 = .ok (-3, 26948, 28407) ∧ encode 20000 9216 8128 = .ok (32767, 32768, 30) ∧
    encode (-20000) 9216 8128 = .ok (32766, 32767, -30) := by decide +kernel

/-- The converse: every `fm < 32768` the range decoder can return decodes (no assertion) to a value whose encoder
    interval is the decoder's interval and contains `fm`. -/
theorem laplace_encode_decode (fs decay : Nat) (h : LaplaceOk fs decay = true) (fm : Nat) (hfm : fm < 32768) :
    ∃ v fl fh, decode fm fs decay = .ok (v, fl, fh) ∧ fl ≤ fm ∧ fm < fh ∧ fh ≤ 32768 ∧
      encode v fs decay = .ok (fl, fh, v) := by
  obtain ⟨T, hp⟩ := OpusProofs.Laplace.par_of_ok h
  exact OpusProofs.Laplace.decode_then_encode hp hfm

/-- "The symbol intervals tile the probability range with no gap or overlap": every point of `[0, 32768)` lies in
    the interval of exactly one representable value (a value the encoder does not clamp). -/
theorem laplace_tiles (fs decay : Nat) (h : LaplaceOk fs decay = true) (fm : Nat) (hfm : fm < 32768) :
    ∃ v, (∃ fl fh, encode v fs decay = .ok (fl, fh, v) ∧ fl ≤ fm ∧ fm < fh) ∧
      ∀ w, (∃ fl fh, encode w fs decay = .ok (fl, fh, w) ∧ fl ≤ fm ∧ fm < fh) → w = v := by
  obtain ⟨T, hp⟩ := OpusProofs.Laplace.par_of_ok h
  obtain ⟨v, fl, fh, hd, h1, h2, _, he⟩ := OpusProofs.Laplace.decode_then_encode hp hfm
  refine ⟨v, ⟨fl, fh, he, h1, h2⟩, ?_⟩
  rintro w ⟨fl', fh', hw, h1', h2'⟩
  obtain ⟨a, b, c, hc, _, _, hdec, _⟩ := OpusProofs.Laplace.encode_then_decode hp w
  cases hw.symm.trans hc
  cases hd.symm.trans (hdec fm h1' h2')
  rfl


/-! ## The `_p0` variants (celt/laplace.c:136-192; called from dnn/dred_*.c only) -/

/-- `ec_laplace_decode_p0` inverts `ec_laplace_encode_p0`: fed the encoder's symbols (sign symbol, then the magnitude
    symbols in runs of 7) followed by anything, the decoder returns the value and leaves exactly the rest unread. -/
theorem laplace_p0_roundtrip (value : Int) (rest : List Nat) :
    Opus.Laplace.decodeP0 (Opus.Laplace.encodeP0 value).1 ((Opus.Laplace.encodeP0 value).2 ++ rest) = some (value, rest) :=
  OpusProofs.LaplaceP0.p0_roundtrip value rest

example : Opus.Laplace.encodeP0 (-16) = (2, [7, 7, 1]) := by decide +kernel

/-- The two ICDFs the `_p0` functions build at run time are exact codes for `ftb = 15` (so `icdf_tiles` applies to
    them) whenever `0 < p0 ≤ 32766` and `decay < 32768`, and every symbol the encoder emits lies inside its table. -/
theorem laplace_p0_icdfs_ok (p0 decay : Nat) (h1 : 0 < p0) (h2 : p0 ≤ 32766) (hd : decay < 32768) :
    icdfOk 15 (Opus.Laplace.signIcdf p0) = true ∧ icdfOk 15 (Opus.Laplace.magIcdf decay) = true ∧
    (Opus.Laplace.magIcdf decay).length = 8 ∧ ∀ v, ∀ s ∈ Opus.Laplace.magSymbols v, s < 8 :=
  ⟨OpusProofs.LaplaceP0.signIcdf_ok p0 h1 h2, OpusProofs.LaplaceP0.magIcdf_ok decay hd, by simp [Opus.Laplace.magIcdf, Opus.Laplace.magIcdfFrom],
   OpusProofs.LaplaceP0.magSymbols_lt⟩

example : Opus.Laplace.magIcdf 16000 = [16000, 7812, 3814, 1862, 909, 443, 216, 0] := by decide


/-! ## The whole documented Laplace domain, bits2pulses, caps, 32-bit ranges -/

/-- `LaplaceOk` holds on the WHOLE documented domain of `ec_laplace_encode/decode` ("decay is positive and at most
    11456", `fs ≤ 32768 − LAPLACE_MINP·2·LAPLACE_NMIN`), so `laplace_decode_encode`, `laplace_encode_decode` and
    `laplace_tiles` apply to every legal parameter pair, independently of the regenerated `e_prob_model`
    (`eprob_pairs_ok` is the instance for the shipped table). -/
theorem laplace_domain_ok (fs decay : Nat) (h1 : 0 < fs) (h2 : fs ≤ 32736) (h3 : 0 < decay) (h4 : decay ≤ 11456) :
    LaplaceOk fs decay = true :=
  OpusProofs.Laplace.laplaceOk_domain h1 h2 h3 h4

example : LaplaceOk 1 11456 = true ∧ LaplaceOk 32736 1 = true ∧ LaplaceOk 32737 1 = false := by decide +kernel

/-- `ec_laplace_*` stay inside 32 bits: for every index the two "search the decaying part" loops can reach,
    `fl ≤ 32766`, `fs ≤ 16383` and the product `fs*2*decay` is below 2^32 (so the model's unbounded arithmetic is the
    C `unsigned` arithmetic; `fl+fs ≤ 32768` is part of `laplace_decode_encode`). -/
theorem laplace_int_ranges (fs decay : Nat) (h : LaplaceOk fs decay = true) (hd : decay < 65536) :
    ∃ T, OpusProofs.Laplace.F fs decay T = 0 ∧ ∀ j, j ≤ T →
      OpusProofs.Laplace.L fs decay j ≤ 32766 ∧ OpusProofs.Laplace.F fs decay j ≤ 16383 ∧
      OpusProofs.Laplace.F fs decay j * 2 * decay < 4294967296 := by
  obtain ⟨T, hp⟩ := OpusProofs.Laplace.par_of_ok h
  exact ⟨T, hp.zero, fun j hj => OpusProofs.CwrsRanges.laplace_ranges hp hd j hj⟩

/-- What `bits2pulses(m, band, LM, bits)` returns (rate.h:53-78), for every band and every frame size of the static
    mode, with `row = cache.bits + cache.index[(LM+1)*nbEBands+band]`, `K = row[0]`, `c(0) = −1`, `c(p) = row[p]`
    (`pulses2bits(p) = c(p)+1`) and `b = bits−1`: at most `K`; `K` if every entry is below `b`; otherwise, with `h` the
    least index whose entry reaches `b`, the nearer of `h−1`, `h` to the budget — `h−1` exactly when
    `b − c(h−1) ≤ c(h) − b`, i.e. the LOWER index on a tie. -/
theorem bits2pulses_spec (lm1 band ci : Nat) (hl : lm1 ≤ maxLM + 1) (hb : band < nbEBands)
    (hci : cacheIndex[lm1 * nbEBands + band]? = some (Int.ofNat ci)) (bits : Int) :
    let row := OpusProofs.CwrsRanges.rowAt ci
    let K := cacheBits.getD ci 0
    bits2pulsesRow row bits ≤ K ∧
    ((∀ p, 1 ≤ p → p ≤ K → (row p : Int) < bits - 1) → bits2pulsesRow row bits = K) ∧
    (∀ h, 1 ≤ h → h ≤ K → bits - 1 ≤ (row h : Int) → (∀ p, 1 ≤ p → p < h → (row p : Int) < bits - 1) →
      bits2pulsesRow row bits =
        if (bits - 1) - (if h = 1 then -1 else (row (h - 1) : Int)) ≤ (row h : Int) - (bits - 1) then h - 1 else h) :=
  OpusProofs.CwrsRanges.b2p_cache hl hb hci bits

/-- band 20 at LM = 3 (row `4, 67, 127, 182, 234`): a budget exactly between `c(1)+1` and `c(2)+1` goes to the lower
    index (tie rule), one more eighth-bit to the higher; tiny budgets give 0, huge ones `K`. -/
example : bits2pulsesRow (OpusProofs.CwrsRanges.rowAt 387) 98 = 1 ∧ bits2pulsesRow (OpusProofs.CwrsRanges.rowAt 387) 99 = 2 ∧
    bits2pulsesRow (OpusProofs.CwrsRanges.rowAt 387) 30 = 0 ∧ bits2pulsesRow (OpusProofs.CwrsRanges.rowAt 387) 40 = 1 ∧
    bits2pulsesRow (OpusProofs.CwrsRanges.rowAt 387) 1000 = 4 ∧ bits2pulsesRow (OpusProofs.CwrsRanges.rowAt 387) (-5) = 0 := by
  decide +kernel

/-- `pulses2bits` (rate.h:80-87) on the shipped cache: 0 for 0 pulses, `cache[q]+1` otherwise (read inside the array);
    non-decreasing in the pseudo-pulse index for every band, strictly increasing when the band has at least 3 bins
    (the rows for N = 1 and N = 2 contain equal neighbours). -/
theorem pulses2bits_cache (lm1 band ci : Nat) (hl : lm1 ≤ maxLM + 1) (hb : band < nbEBands)
    (hci : cacheIndex[lm1 * nbEBands + band]? = some (Int.ofNat ci)) :
    pulses2bits cacheIndex cacheBits nbEBands band lm1 0 = .ok 0 ∧
    (∀ q, 1 ≤ q → q ≤ cacheBits.getD ci 0 →
      pulses2bits cacheIndex cacheBits nbEBands band lm1 q = .ok (cacheBits.getD (ci + q) 0 + 1)) ∧
    (∀ q, 1 ≤ q → q < cacheBits.getD ci 0 → cacheBits.getD (ci + q) 0 ≤ cacheBits.getD (ci + q + 1) 0) ∧
    (3 ≤ bandN eBands lm1 band → ∀ q, 1 ≤ q → q < cacheBits.getD ci 0 →
      cacheBits.getD (ci + q) 0 < cacheBits.getD (ci + q + 1) 0) :=
  OpusProofs.CwrsRanges.p2b_cache hl hb hci

/-- The shipped `cache.caps` (static_modes_float.h `cache_caps50`) is what the second half of `compute_pulse_cache`
    (rate.c:145-242, re-implemented as `Opus.Rate.computeCaps`) computes from the shipped `cache.index`, `cache.bits`,
    `eBands` and `logN`; in particular every computed cap is in `0..255` (the two `celt_assert`s). -/
theorem cache_caps_recomputed :
    computeCaps cacheIndex cacheBits eBands logN nbEBands maxLM = cacheCaps.map Int.ofNat := by
  decide +kernel

example : cacheCaps.length = 2 * (maxLM + 1) * nbEBands ∧ capEntry cacheIndex cacheBits eBands logN nbEBands 3 2 20 = 40 := by
  decide +kernel

/-- 32-bit ranges in cwrs.c for every reachable `(N,K)`: `V(N,K) < 2^32`; the accumulator of `icwrs` after any
    number of loop iterations (`encS (y.drop j)`, by `OpusProofs.CwrsModel.icwrsAux_agree`) is below `V(N,K)`; each
    iteration of `cwrsi` (`stepS`, by `cwrsiStep_agree`) keeps the pulse count, leaves an index below
    `V(n−1,k') ≤ V(n,k)`, and subtracts only values that are ≤ the running index (no unsigned wrap). -/
theorem cwrs_int_ranges (N K b : Nat) (h : Reach N K b) :
    V N K < 4294967296 ∧
    (∀ y : List Int, y.length = N → sumAbs y = K → ∀ j, j < N → OpusProofs.CwrsBij.encS (y.drop j) < V N K) ∧
    (∀ m k i, 1 ≤ m → i < V (m + 1) k →
      (OpusProofs.CwrsModel.stepS (m + 1) k i).2.1 ≤ k ∧
      (OpusProofs.CwrsModel.stepS (m + 1) k i).2.2 < V m (OpusProofs.CwrsModel.stepS (m + 1) k i).2.1 ∧
      V m (OpusProofs.CwrsModel.stepS (m + 1) k i).2.1 ≤ V (m + 1) k ∧
      U (m + 1) (OpusProofs.CwrsModel.stepS (m + 1) k i).2.1 ≤ (if U (m + 1) (k + 1) ≤ i then i - U (m + 1) (k + 1) else i)) := by
  obtain ⟨_, _, hV, _⟩ := OpusProofs.CwrsCache.reach_facts h
  refine ⟨hV, ?_, fun m k i hm hi => OpusProofs.CwrsRanges.cwrsi_step_range m k i hm hi⟩
  intro y hl hs j hj
  subst hl hs
  exact OpusProofs.CwrsRanges.icwrs_partial_lt y j hj


/-- `opus_int16 val` and the float accumulator `yy` of `cwrsi` lose nothing: for every reachable `(N,K)`, `K ≤ 128`, and
    every vector with `K` pulses has coordinates of magnitude ≤ K < 2^15 and `Σ y² ≤ K² ≤ 2^14 < 2^24` (exact in a
    float). -/
theorem cwrs_val_ranges (N K b : Nat) (h : Reach N K b) (y : List Int) (hs : sumAbs y = K) :
    K ≤ 128 ∧ (∀ v ∈ y, v.natAbs ≤ K) ∧ sumSq y ≤ K * K ∧ K * K ≤ 16384 := by
  have hK := OpusProofs.CwrsRanges.reach_K_le h
  subst hs
  exact ⟨hK, OpusProofs.CwrsRanges.coord_le y, OpusProofs.CwrsRanges.sumSq_le y, Nat.mul_le_mul hK hK⟩


/-! ## CELT bit allocation (celt/rate.c `clt_compute_allocation` / `interp_bits2pulses`, celt/celt.c `init_caps`)

  Model `Opus.CeltAlloc` (OpusModel/CeltAlloc.lean): `computeAllocation p coder`, with the range coder abstracted as
  the list of calls made (`Op.bit v` for `ec_*_bit_logp(…,1)`, `Op.uint v ft` for `ec_*_uint`) and, on the decoder
  side, an oracle list of the values they return.  `Dom p` is the domain: `start < end ≤ 21`, `C ∈ {1,2}`, `LM ≤ 3`,
  `offsets[j] ≥ 0`, `0 ≤ cap[j] ≤ 2^24`, `total ≤ 2^24` (negative totals allowed: the code clamps them to 0). -/

/-- `init_caps(m, cap, LM, C)` yields caps inside `Dom` for every frame size and channel count. -/
theorem init_caps_domain (LM C : Nat) (hLM : LM ≤ 3) (hC : C = 1 ∨ C = 2) (j : Nat) :
    0 ≤ (Opus.CeltAlloc.initCaps LM C).getD j 0 ∧ (Opus.CeltAlloc.initCaps LM C).getD j 0 ≤ 16777216 :=
  OpusProofs.CeltAlloc.initCaps_bounds LM C hLM hC j

example : (Opus.CeltAlloc.initCaps 3 2).getD 20 0 = 9152 ∧ (Opus.CeltAlloc.initCaps 0 1).getD 0 0 = 72 := by decide +kernel

/-- **Totality, ranges and the budget.**  For every input in the domain, encoder side (with a dual-stereo decision in
    {0,1} and a non-negative intensity) or decoder side (any oracle):
    (a) the function returns normally — both bisections and the band-skipping `for(;;)` loop terminate and no
        `celt_assert` fires;
    (d) `start < codedBands ≤ end`, `0 ≤ intensity ≤ codedBands`, `dual_stereo ∈ {0,1}`, `balance ≥ 0`;
    (c) for every band `0 ≤ pulses[j] ≤ cap[j]` (`≤ C<<BITRES` for a single-coefficient band), `0 ≤ ebits[j] ≤
        MAX_FINE_BITS`, `fine_priority[j] ∈ {0,1}` (`AllOkB`);
    (b) the allocation never promises more than the frame has — in fact every 1/8 bit is accounted for:
        `Σ_j (pulses[j] + (C·ebits[j] << BITRES)) + balance + cost(signalling) = max(total, 0)`, where a skip / dual
        stereo flag costs 8 and the intensity `uint` is charged `LOG2_FRAC_TABLE[codedBands-start]`. -/
theorem alloc_total_ranges_budget (p : Opus.CeltAlloc.Inp) (hp : OpusProofs.CeltAlloc.Dom p) (c : Opus.CeltAlloc.Coder)
    (hc : c.ops = [])
    (henc : c.encode = true → (p.dualStereo = 0 ∨ p.dualStereo = 1) ∧ 0 ≤ p.intensity) :
    ∃ o, Opus.CeltAlloc.computeAllocation p c = .ok o ∧
      p.start < o.codedBands ∧ o.codedBands ≤ p.end_ ∧
      0 ≤ o.intensity ∧ o.intensity ≤ o.codedBands ∧ (o.dualStereo = 0 ∨ o.dualStereo = 1) ∧ 0 ≤ o.balance ∧
      OpusProofs.CeltAlloc.AllOkB p (Opus.CeltAlloc.bands p) o.bands ∧
      OpusProofs.CeltAlloc.sumOut (p.C : Int) o.bands + o.balance + OpusProofs.CeltAlloc.opsCost o.ops = max p.total 0 := by
  obtain ⟨o, h1, h2, h3, h4, h5, h6, h7, h8, h9⟩ := OpusProofs.CeltAlloc.alloc_main p hp c henc
  refine ⟨o, h1, h2, h3, h4, h5, h6, h7, h8, ?_⟩
  rw [h9, hc]; simp [OpusProofs.CeltAlloc.opsCost]

/-- a full-band stereo 20 ms frame with 1000 bytes is in the domain -/
example : OpusProofs.CeltAlloc.Dom
    ⟨0, 21, [], Opus.CeltAlloc.initCaps 3 2, 5, 21, 0, 64000, 2, 3, 0, 20⟩ :=
  ⟨by decide, by decide, Or.inr rfl, by decide, fun j => by simp [List.getD],
   fun j => OpusProofs.CeltAlloc.initCaps_bounds 3 2 (by decide) (Or.inr rfl) j, by decide⟩

/-- **Encoder and decoder compute the same allocation.**  If the encoder-side run returns `o`, the decoder-side run —
    same `start, end, offsets, cap, alloc_trim, total, C, LM`; its own irrelevant `*intensity`, `*dual_stereo`, `prev`,
    `signalBandwidth` — fed with the values the encoder handed to `ec_enc_bit_logp` / `ec_enc_uint`, in order, returns
    exactly the same `codedBands`, `balance`, `intensity`, `dual_stereo`, `pulses[]`, `ebits[]`, `fine_priority[]` and
    makes the same coder calls.  (With C08's `decode_encode` for those calls this is the lock-step of the two sides.) -/
theorem alloc_enc_dec_agree (p : Opus.CeltAlloc.Inp) (hp : OpusProofs.CeltAlloc.Dom p) (orc : List Nat)
    (o : Opus.CeltAlloc.Out) (hint : (p.start : Int) ≤ p.intensity) (hdual : p.dualStereo = 0 ∨ p.dualStereo = 1)
    (h : Opus.CeltAlloc.computeAllocation p { encode := true, oracle := orc, ops := [] } = .ok o)
    (i d pv sb : Int) (rest : List Nat) :
    Opus.CeltAlloc.computeAllocation (OpusProofs.CeltAlloc.decInp p i d pv sb)
      { encode := false, oracle := o.ops.map OpusProofs.CeltAlloc.opVal ++ rest, ops := [] } = .ok o :=
  OpusProofs.CeltAlloc.alloc_agree p hp orc o hint hdual h i d pv sb rest


/-- a concrete instance: the full-band stereo 20 ms frame with 1000 bytes of the `Dom` example, intensity 21, no dual
    stereo: the encoder-side run returns some `o` (`alloc_total_ranges_budget`), all 21 bands stay coded (kernel
    evaluation), and `alloc_enc_dec_agree` applies: the decoder-side run on the coded values returns the same `o` -/
example : ∃ o, Opus.CeltAlloc.computeAllocation ⟨0, 21, [], Opus.CeltAlloc.initCaps 3 2, 5, 21, 0, 64000, 2, 3, 0, 20⟩
      { encode := true, oracle := [], ops := [] } = .ok o ∧ o.codedBands = 21 ∧
    Opus.CeltAlloc.computeAllocation
      (OpusProofs.CeltAlloc.decInp ⟨0, 21, [], Opus.CeltAlloc.initCaps 3 2, 5, 21, 0, 64000, 2, 3, 0, 20⟩ 0 0 0 0)
      { encode := false, oracle := o.ops.map OpusProofs.CeltAlloc.opVal, ops := [] } = .ok o := by
  have hd : OpusProofs.CeltAlloc.Dom ⟨0, 21, [], Opus.CeltAlloc.initCaps 3 2, 5, 21, 0, 64000, 2, 3, 0, 20⟩ :=
    ⟨by decide, by decide, Or.inr rfl, by decide, fun j => by simp [List.getD],
     fun j => OpusProofs.CeltAlloc.initCaps_bounds 3 2 (by decide) (Or.inr rfl) j, by decide⟩
  obtain ⟨o, h, _⟩ := alloc_total_ranges_budget _ hd { encode := true, oracle := [], ops := [] } rfl
    (fun _ => ⟨Or.inl rfl, by decide⟩)
  have hcb : (match Opus.CeltAlloc.computeAllocation ⟨0, 21, [], Opus.CeltAlloc.initCaps 3 2, 5, 21, 0, 64000, 2, 3, 0, 20⟩
      { encode := true, oracle := [], ops := [] } with | .ok o => o.codedBands | _ => 0) = 21 := by decide +kernel
  rw [h] at hcb
  have := alloc_enc_dec_agree _ hd [] o (by decide) (Or.inl rfl) h 0 0 0 0 []
  rw [List.append_nil] at this
  exact ⟨o, h, hcb, this⟩

/-! ## CELT frame header: what the encoder writes, the decoder reads back

  Encoder model `Opus.CeltSymsEnc` (OpusModel/CeltSymsEnc.lean, tied call by call to the real `celt_encode_with_ec`:
  `encHeader cfg s0` runs from function entry to the return of `clt_compute_allocation`; every float-driven decision
  is popped from the decision stream `s0.ds` exactly where the corresponding symbol is written); decoder model
  `Opus.CeltSyms.celtHeader` (owned by C03); range coder `Opus.RangeCoder` and its round trip (C08, used at the level
  of the call list through `decode_encode_prefix`); allocation `Opus.CeltAlloc` (above).
  `World`: one packet — a buffer, a legal list of range-coder calls `all`, no coder error, final length `w.len`,
  `w.encAt P` / `w.decAt P` the encoder / decoder (run on the finished bytes) after the calls `P`.  `P0`: the calls
  made before the CELT header (nothing for a CELT-only frame, the SILK layer and redundancy flag of a hybrid frame). -/

/-- **The CELT header round trip** (non-silent frame).  For every configuration (`start < end ≤ 21`, `C ∈ {1,2}`,
    `LM ≤ 3`, CBR or VBR, `nbCompressedBytes ≤ 1275` with `enc->storage` equal to it on entry), every decision stream,
    every buffer content, every prefix `P0` and every continuation of the packet (band data, `ec_enc_done`): if the
    coder reports no error (that is what a `World` is), nothing shrinks the packet after the header (`w.len = hdr.size`),
    the final length is the size the encoder budgeted with or leaves the room the VBR code guarantees
    (`min_allowed`: 16 whole bits beyond the header, and `tell_frac + total_boost + 48 < len·64`), the packet is not
    already full on entry, the tapset symbol of an active post-filter fits (the decoder's own test, the encoder relies
    on `nbAvailableBytes > 12·C`), and the stereo decisions are in range (`intensity ≥ start`, `dual_stereo ∈ {0,1}`),
    then C03's `celtHeader` run on the finished packet returns (`HdrAgree`):
    silence 0 and exactly the encoder's post-filter parameters, transient and intra flags, coarse energies — each as
    the written symbol means it, i.e. after the budget clamps and the Laplace clamp, and `-[qi<0]` in the one-bit
    fall-back — `tf_res[]`, `tf_select`, spread, dynalloc `offsets[]`, `alloc_trim`, `bits` and the anti-collapse
    reservation; the two coders enter `clt_compute_allocation` with the same `rng`, `ec_tell`, `ec_tell_frac`; the range
    decoder hands the decoder-side allocation exactly the values the encoder-side allocation coded, so that it
    returns the same `codedBands`, `balance`, `intensity`, `dual_stereo`, `pulses[]`, `ebits[]`, `fine_priority[]`
    (`alloc_enc_dec_agree`); and both sides reach the band data with the same `rng`, `ec_tell`, `ec_tell_frac`.
    The content is that every budget test takes the same branch on both sides: the decoder's tests against `len·8`
    with a possibly stale `tell`, `tf_decode`'s against `storage·8` minus the `tf_select` reservation, and the dynalloc /
    trim tests of the decoder against its shrinking `total_bits` versus the encoder's `total_bits − total_boost`. -/
theorem celt_header_roundtrip (w : OpusProofs.CeltHdr.World) (P0 : List Opus.RangeCoder.Op)
    (cfg : Opus.CeltSymsEnc.EncCfg) (s0 : Opus.CeltSymsEnc.St) (hs0 : s0.ops = []) (he0 : s0.e = w.encAt P0)
    (hst0 : s0.e.storage = cfg.size)
    (hdr : Opus.CeltSymsEnc.EncHdr) (hrun : Opus.CeltSymsEnc.encHeader cfg s0 = .ok hdr) (hsil : hdr.silence = 0)
    (hp : w.IsPrefix (P0 ++ hdr.ops))
    (hcfg : cfg.start < cfg.end_ ∧ cfg.end_ ≤ 21 ∧ (cfg.C = 1 ∨ cfg.C = 2) ∧ cfg.LM ≤ 3)
    (hsz : cfg.size ≤ 1275) (hlen : w.len = hdr.size)
    (hmargin : w.len = cfg.size ∨
      (Opus.RangeCoder.tell (w.encAt (P0 ++ hdr.opsHdr)) + 16 ≤ ((w.len * 8 : Nat) : Int) ∧
       (Opus.RangeCoder.tellFrac (w.encAt (P0 ++ hdr.opsHdr)) : Int) + hdr.totalBoost + 48 < ((w.len * 8 * 8 : Nat) : Int)))
    (hroom : Opus.RangeCoder.tell s0.e < ((w.len * 8 : Nat) : Int))
    (htap : hdr.pf.on ≠ 0 →
      Opus.RangeCoder.tell (w.encAt (P0 ++ hdr.opsPf.dropLast)) + 2 ≤ ((w.len * 8 : Nat) : Int))
    (hint : (cfg.start : Int) ≤ hdr.allocInp.intensity)
    (hdual : hdr.allocInp.dualStereo = 0 ∨ hdr.allocInp.dualStereo = 1) :
    ∃ dh, Opus.CeltSyms.celtHeader ⟨cfg.start, cfg.end_, cfg.C, cfg.LM⟩ w.len (w.decAt P0) = .ok dh ∧
      OpusProofs.CeltHdr.HdrAgree w P0 cfg hdr dh :=
  OpusProofs.CeltHdr.header_roundtrip w P0 cfg s0 hs0 he0 hst0 hdr hrun hsil hp hcfg hsz hlen hmargin hroom htap hint hdual

/-- a 2.5 ms mono CBR frame of 24 bytes, 47 coder calls in the header (13 Laplace symbols, a dynalloc boost, an
    allocation skip flag), evaluated in the kernel: all hypotheses hold -/
example : ∃ hdr, Opus.CeltSymsEnc.encHeader OpusProofs.CeltHdr.Example.cfg OpusProofs.CeltHdr.Example.s0 = .ok hdr ∧
    hdr.silence = 0 ∧ OpusProofs.CeltHdr.Example.world.IsPrefix ([] ++ hdr.ops) ∧
    OpusProofs.CeltHdr.Example.world.len = hdr.size ∧ hdr.ops.length = 47 := by
  obtain ⟨hdr, h1, _, _, _, h5, h6, _, _, h9, _, _, _, _, _, h15, _⟩ := OpusProofs.CeltHdr.Example.hyps
  exact ⟨hdr, h1, h5, h6, h9, h15⟩

/-- a VBR frame with the post-filter on (60 bytes offered, shrunk to 40 behind the header; `ec_tell` 53 at the end of the
    header, tapset coded), evaluated in the kernel: the hypotheses hold with the VBR arm of `hmargin` and a true premise
    of `htap`, and the theorem applies -/
example : ∃ hdr dh, Opus.CeltSymsEnc.encHeader OpusProofs.CeltHdr.Example.cfgV OpusProofs.CeltHdr.Example.s0V = .ok hdr ∧
    hdr.pf.on ≠ 0 ∧ OpusProofs.CeltHdr.Example.worldV.len ≠ OpusProofs.CeltHdr.Example.cfgV.size ∧
    OpusProofs.CeltHdr.HdrAgree OpusProofs.CeltHdr.Example.worldV [] OpusProofs.CeltHdr.Example.cfgV hdr dh := by
  obtain ⟨hdr, h1, h2, h3, h4, h5, h6, h7, h8, h9, h10, h11, h12, h13, h14, h15, h16, _, _⟩ :=
    OpusProofs.CeltHdr.Example.hypsV
  obtain ⟨dh, _, ag⟩ := celt_header_roundtrip OpusProofs.CeltHdr.Example.worldV [] OpusProofs.CeltHdr.Example.cfgV
    OpusProofs.CeltHdr.Example.s0V h2 h3 h4 hdr h1 h5 h6 h7 h8 h9 (Or.inr h11) h12 (fun _ => h14) h15 (Or.inl h16)
  exact ⟨hdr, dh, h1, h13, h10, ag⟩

/-- **The silent frame.**  If the encoder decides on silence (only possible at `ec_tell == 1`, i.e. CELT-only), the
    finished packet has `2 ≤ len ≤ 1275` and `2 ≤ nbCompressedBytes ≤ 1275`: the header consists of the flag
    `ec_enc_bit_logp(1, 15)` and nothing but `ec_enc_shrink` calls; C03's `celtHeader` on the packet returns silence 1;
    after both sides have set `nbits_total` so that `ec_tell` equals their whole budget (the encoder's
    `nbCompressedBytes·8`, the decoder's `len·8` — these differ in VBR), every later budget test fails on both sides,
    and both get the same defaults: post-filter off, transient 0, intra 0, coarse energy −1 in every band,
    `tf_res = tf_select_table[LM][0]`, `tf_select` 0, spread `SPREAD_NORMAL`, no dynalloc boost, trim 5 (`SilentAgree`).
    (No agreement of the allocation is claimed for silent frames: the two sides' `bits` differ when the VBR code
    shrinks the packet; both are below one whole bit.) -/
theorem celt_header_roundtrip_silence (w : OpusProofs.CeltHdr.World) (P0 : List Opus.RangeCoder.Op)
    (cfg : Opus.CeltSymsEnc.EncCfg) (s0 : Opus.CeltSymsEnc.St) (hs0 : s0.ops = []) (he0 : s0.e = w.encAt P0)
    (hst0 : s0.e.storage = cfg.size)
    (hdr : Opus.CeltSymsEnc.EncHdr) (hrun : Opus.CeltSymsEnc.encHeader cfg s0 = .ok hdr) (hsil : hdr.silence ≠ 0)
    (hp : w.IsPrefix (P0 ++ hdr.ops)) (hsz2 : 2 ≤ cfg.size) (hsz : cfg.size ≤ 1275) (hlen2 : 2 ≤ w.len)
    (hlen : w.len ≤ 1275) :
    ∃ dh, Opus.CeltSyms.celtHeader ⟨cfg.start, cfg.end_, cfg.C, cfg.LM⟩ w.len (w.decAt P0) = .ok dh ∧
      OpusProofs.CeltHdr.SilentAgree cfg hdr dh :=
  OpusProofs.CeltHdr.silent_roundtrip w P0 cfg s0 hs0 he0 hst0 hdr hrun hsil hp hsz2 hsz hlen2 hlen

/-- a silent 20 ms stereo VBR frame (100 bytes offered, 2 bytes sent), evaluated in the kernel: all hypotheses hold -/
example : ∃ hdr, Opus.CeltSymsEnc.encHeader OpusProofs.CeltHdr.Example.cfgS OpusProofs.CeltHdr.Example.s0S = .ok hdr ∧
    hdr.silence ≠ 0 ∧ OpusProofs.CeltHdr.Example.worldS.IsPrefix ([] ++ hdr.ops) ∧
    2 ≤ OpusProofs.CeltHdr.Example.worldS.len ∧ hdr.ops = [.bitLogp 1 15, .shrink 2, .shrink 2] := by
  obtain ⟨hdr, h1, _, _, _, h5, h6, _, _, h9, _, h11⟩ := OpusProofs.CeltHdr.Example.hypsS
  exact ⟨hdr, h1, h5, h6, h9, h11⟩

/-- **Where the encoder's own energy state can leave the decoder's.**  For one band and channel of
    `quant_coarse_energy_impl` (`encCoarseOne`, `i ≤ end`): the `qi` the encoder keeps for its `oldEBands[]` / `error[]`
    equals the value the decoder reconstructs from the written symbol in every branch — Laplace, `small_energy_icdf`,
    one bit, nothing — except exactly one: the one-bit fall-back (`budget − tell == 1`) at the first band
    (`i == start`, the only band the `bits_left < 16` clamp to `[-1, 1]` skips) with a kept `qi < −1`; the decoder then
    has −1.  (Observation on the unchanged code, not a violation of a listed property: it desynchronises only the
    encoder's private prediction state.  Reproduction: a hybrid frame whose SILK part leaves exactly one bit, or a
    direct call — `harness/c17_hdrenc.c coarse`.) -/
theorem coarse_state_agrees_except_one_bit_start (cfg : Opus.CeltSymsEnc.EncCfg) (prob : List Nat) (budget : Int)
    (i : Nat) (s : Opus.CeltSymsEnc.St) (q qd : Int) (s' : Opus.CeltSymsEnc.St) (hi : i ≤ cfg.end_)
    (h : Opus.CeltSymsEnc.encCoarseOne cfg prob budget i s = .ok (q, qd, s')) :
    q = qd ∨ (i = cfg.start ∧ budget - Opus.RangeCoder.tell s.e = 1 ∧ q < -1 ∧ qd = -1) :=
  OpusProofs.CeltHdr.coarse_state_agrees_except_one_bit_start cfg prob budget i s q qd s' hi h

/-- the divergent branch is reachable: first band, one bit left, `qi = −3` is kept, the decoder gets −1 -/
example : (match Opus.CeltSymsEnc.encCoarseOne
      { start := 17, end_ := 21, C := 1, LM := 3, vbr := false, lfe := false, size := 10 } [] 2 17
      { e := Opus.RangeCoder.encInit [] 0, ops := [], ds := [-3] } with
    | .ok (q, qd, _) => (q, qd) | _ => (0, 0)) = (-3, -1) := by decide +kernel

/-! ## CELT frame: everything behind the allocation

  Encoder model `Opus.CeltBandsEnc` (OpusModel/CeltBandsEnc.lean, tied call by call to the real encoder on whole
  frames): `quant_fine_energy`, `quant_all_bands(encode = 1)` — `quant_band`, `quant_partition` with its split
  recursion, `quant_band_stereo`, `quant_band_n1`, `compute_theta` with the step, uniform and triangular PDFs and the
  `inv` flag, the PVQ codeword index of every leaf —, the anti-collapse bit and `quant_energy_finalise`; the decisions
  (fine-energy `q2`, quantised `itheta`, `inv`, sign bits, PVQ indices, anti-collapse flag) are inputs popped where the
  symbol is written.  bands.c is one code for both directions, so every integer computation that selects the next
  symbol and its parameters is shared with C03's decoder model `Opus.CeltBands` (its pure functions are used as they
  are); the theorems show that it is evaluated on equal inputs. -/

/-- **The band data round trip.**  With the same `quant_all_bands` arguments on both sides (what `HdrAgree` provides:
    transient flag, `tf_res[]`, anti-collapse reservation, and `len` = the encoder's final size; the allocation is
    `hdr.alloc` on both sides) and from states in lock-step with equal `remaining_bits` (`Sim`): if what the encoder
    model writes behind the allocation is in the packet (no coder error), C03's `afterAlloc` — `unquant_fine_energy`,
    the decode side of `quant_all_bands`, the anti-collapse bit, `unquant_energy_finalise` — reads it back and ends in
    lock-step with the encoder.  Inside, for every symbol: same `b`, `remaining_bits`, `balance`, `qn`, the decoded
    `itheta` equals the encoded one (step PDF; uniform PDF; triangular PDF, whose two-square-root inverse is proved
    correct for every even `qn`, every `itheta ≤ qn` and every point of the coded interval), hence same `delta`,
    `qalloc`, `mbits`/`sbits`/rebalancing, same `q` after the "never bust the budget" loop, same `V(N,K)`.  `Sim` also
    carries the decoder model's trace: it grows by exactly the events of the encoder's calls (`Sim.tr`). -/
theorem celt_bands_roundtrip (w : OpusProofs.CeltHdr.World) (P0 : List Opus.RangeCoder.Op)
    (cfg : Opus.CeltSymsEnc.EncCfg) (hdr : Opus.CeltSymsEnc.EncHdr) (dh : Opus.CeltSyms.CeltHdr) (len : Nat)
    (hlen : len = hdr.size) (h1 : dh.isTransient = hdr.isTransient) (h2 : dh.tfRes = hdr.tfRes)
    (h3 : dh.antiCollapseRsv = hdr.antiCollapseRsv)
    (e : Opus.CeltBandsEnc.ESt) (d : Opus.CeltBands.BSt) (A : List Opus.RangeCoder.Op)
    (hs : OpusProofs.CeltHdr.Sim w P0 A e d)
    (hp : w.IsPrefix (P0 ++ (Opus.CeltBandsEnc.afterAlloc cfg hdr e).s.ops)) :
    OpusProofs.CeltHdr.Sim w P0 A (Opus.CeltBandsEnc.afterAlloc cfg hdr e)
      (Opus.CeltBands.afterAlloc ⟨cfg.start, cfg.end_, cfg.C, cfg.LM⟩ len dh hdr.alloc d) :=
  (OpusProofs.CeltHdr.afterAlloc_step w P0 cfg hdr dh len hlen h1 h2 h3 e d).2 hs hp

/-- the triangular PDF alone: `qn = 6`, `itheta = 5` is coded as `[13, 15)` of 16; both points decode to 5 -/
example : Opus.CeltBandsEnc.triFl 6 5 = 13 ∧ Opus.CeltBandsEnc.triFs 6 5 = 2 ∧
    OpusProofs.Tri.decIt 6 13 = 5 ∧ OpusProofs.Tri.decIt 6 14 = 5 := by decide +kernel

/-- **The CELT frame round trip** (non-silent frame; C02's lock-step clause for CELT at the symbol level).  Under the
    hypotheses of `celt_header_roundtrip`, with `encFrame` (header, allocation, fine energy, band data, anti-collapse
    bit, finalisation — every call up to `ec_enc_done`) in place of `encHeader`, for every decision stream — every
    pulse vector, theta, sign — whose calls the coder accepts without error: C03's complete frame decoder model
    `celtFrame` run on the finished packet returns normally with
    * the encoder's header (`FrameAgree.hdr : HdrAgree`),
    * the encoder's allocation — although `celtFrame` feeds `clt_compute_allocation` from the range decoder one call
      at a time (`allocDrive`): the decoder side of the allocation reads its values strictly in order
      (OpusProofs/CeltAllocTree.lean `alloc_oracle_prefix`: two decoder-side runs whose oracles share the first `J`
      values make the same first `J` calls and the same call number `J`), so the partial runs ask for exactly the
      calls the encoder made,
    * a final state (`fin`) that has consumed exactly the encoder's calls, never faulted (no out-of-range pulse cache
      index, `ec_dec_uint` argument or `V(N,K)` look-up) and has the encoder's `rng` — the value
      `OPUS_GET_FINAL_RANGE` reports on both sides (`ec_enc_done` does not change `rng`: C08) — `ec_tell` and
      `ec_tell_frac` (`FrameAgree.rngFin`, `tellFin`, `tellFracFin`),
    * and whose trace of entropy-decoder calls behind the allocation is, call by call, the encoder's call list with the
      encoder's values: `ec_dec_uint` / `ec_dec_bits` / `ec_dec_bit_logp` return the coded PVQ index, fine-energy and
      sign bits and flags, `ec_decode` a point of the coded theta interval followed by `ec_dec_update` with the
      encoder's `fl, fh, ft` (`FrameAgree.trace`, `TraceOk`; from C08's round trip at every prefix). -/
theorem celt_frame_roundtrip (w : OpusProofs.CeltHdr.World) (P0 : List Opus.RangeCoder.Op)
    (cfg : Opus.CeltSymsEnc.EncCfg) (s0 : Opus.CeltSymsEnc.St) (hs0 : s0.ops = []) (he0 : s0.e = w.encAt P0)
    (hst0 : s0.e.storage = cfg.size)
    (fr : Opus.CeltBandsEnc.EncFrame) (hrun : Opus.CeltBandsEnc.encFrame cfg s0 = .ok fr) (hsil : fr.hdr.silence = 0)
    (hp : w.IsPrefix (P0 ++ fr.ops))
    (hcfg : cfg.start < cfg.end_ ∧ cfg.end_ ≤ 21 ∧ (cfg.C = 1 ∨ cfg.C = 2) ∧ cfg.LM ≤ 3)
    (hsz : cfg.size ≤ 1275) (hlen : w.len = fr.hdr.size)
    (hmargin : w.len = cfg.size ∨
      (Opus.RangeCoder.tell (w.encAt (P0 ++ fr.hdr.opsHdr)) + 16 ≤ ((w.len * 8 : Nat) : Int) ∧
       (Opus.RangeCoder.tellFrac (w.encAt (P0 ++ fr.hdr.opsHdr)) : Int) + fr.hdr.totalBoost + 48 <
         ((w.len * 8 * 8 : Nat) : Int)))
    (hroom : Opus.RangeCoder.tell s0.e < ((w.len * 8 : Nat) : Int))
    (htap : fr.hdr.pf.on ≠ 0 →
      Opus.RangeCoder.tell (w.encAt (P0 ++ fr.hdr.opsPf.dropLast)) + 2 ≤ ((w.len * 8 : Nat) : Int))
    (hint : (cfg.start : Int) ≤ fr.hdr.allocInp.intensity)
    (hdual : fr.hdr.allocInp.dualStereo = 0 ∨ fr.hdr.allocInp.dualStereo = 1) :
    ∃ (dh : Opus.CeltSyms.CeltHdr) (sA : Opus.CeltBands.BSt), OpusProofs.CeltHdr.FrameAgree w P0 cfg fr dh ∧
      sA.c = w.decAt (P0 ++ fr.hdr.ops) ∧
      Opus.CeltBands.celtFrame ⟨cfg.start, cfg.end_, cfg.C, cfg.LM⟩ w.len (w.decAt P0) =
        .ok { hdr := dh, alloc := fr.hdr.alloc, allocSt := sA,
              fin := Opus.CeltBands.afterAlloc ⟨cfg.start, cfg.end_, cfg.C, cfg.LM⟩ w.len dh fr.hdr.alloc
                { rem := 0, c := w.decAt (P0 ++ fr.hdr.ops), tr := [], fault := false } } :=
  OpusProofs.CeltHdr.celtFrame_roundtrip w P0 cfg s0 hs0 he0 hst0 fr hrun hsil hp hcfg hsz hlen hmargin hroom htap hint hdual

/-- the 24-byte frame of the header example continued to the last bit: 75 coder calls (fine energy, eight one-sample
    bands, four N = 2 bands, a split N = 4 band with a triangular-PDF theta, finalisation), `ec_tell = 192`: all
    hypotheses hold -/
example : ∃ fr, Opus.CeltBandsEnc.encFrame OpusProofs.CeltHdr.Example.cfg OpusProofs.CeltHdr.Example.s0F = .ok fr ∧
    fr.hdr.silence = 0 ∧ OpusProofs.CeltHdr.Example.worldF.IsPrefix ([] ++ fr.ops) ∧
    OpusProofs.CeltHdr.Example.worldF.len = fr.hdr.size ∧ fr.ops.length = 75 ∧ Opus.RangeCoder.tell fr.fin = 192 := by
  obtain ⟨fr, h1, _, _, _, h5, h6, h7, _, _, _, _, _, h13, h14⟩ := OpusProofs.CeltHdr.Example.hypsF
  exact ⟨fr, h1, h5, h6, h7, h13, h14⟩

end OpusProps.C17
