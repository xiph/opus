import OpusProofs.GainPureSep
import OpusProofs.DecSkelApi
/-
  Property C19, slice `Gain` — "OPUS_SET_GAIN is a pure post-multiplication: decoding with gain g gives exactly the
  gain-0 output scaled by 10^(g/(20·256)), and changes nothing else (return values, final range, decoder state, later
  frames)".

  Model: C01's decoder skeleton (`OpusModel/DecSkel.lean`: opus_decode_frame / opus_decode_native / the three API
  wrappers / OPUS_RESET_STATE / OPUS_SET_GAIN; the gain pass of src/opus_decoder.c:654-668 is the logged event
  `.acc 11 pcm n`; tied to the code by C01's `decskel` correspondence suite).  `gz` / `zg` = forget `decode_gain` (and the
  gain-pass events); `gzCall` = the same call for the gain-0 twin (an accepted OPUS_SET_GAIN(v) becomes OPUS_SET_GAIN(0)).
  Sample semantics: `OpusProofs/GainPureSem.lean` (samples in any type with a multiplication; gain pass = `k * ·`).
  First, in `Opus.DecSkel`: the sample-level relation between a call and the same call of the gain-0 twin (`ScaledObs`), for one
  call (`callObs_scaled`: the history simulation `callObs_gz`, the separation of the log `callObs_gainSep`, `semLog_scaled`)
  and along a history with C01's invariant (`stepCall_inv`).
-/
namespace Opus.DecSkel

/-- The observation `xg` of a call (gain g) and the observation `x0` of the same call of the gain-0 twin: same return
    value and packet offset, same events up to gain passes, and for every initial memory the memory the events of `xg`
    leave is the memory the events of `x0` leave, with the samples covered by a gain pass multiplied by `k`. -/
def ScaledObs {α : Type} [Mul α] (k : α) (dsp : List Ev → Ev → Mem α → Mem α) (xg x0 : CallObs) : Prop :=
  x0.ret = xg.ret ∧ x0.packetOffset = xg.packetOffset ∧ x0.log = xg.log.filter notGain ∧
  ∀ (m : Mem α) b i, semLog k dsp xg.log m b i =
    if gained xg.log b i then k * semLog k dsp x0.log m b i else semLog k dsp x0.log m b i

theorem callObs_scaled {α : Type} [Mul α] (k : α) (dsp : List Ev → Ev → Mem α → Mem α) (hd : DspLocal dsp)
    (o : Oracle) (st : DecState) (hinv : DecInv st) (c : Call) (hc : noClip c = true) :
    ScaledObs k dsp (callObs o st c).1 (callObs o (zg st) (gzCall c)).1 := by
  have h := callObs_gz o st c
  have hl : (callObs o (zg st) (gzCall c)).1 = gzObs (callObs o st c).1 := by rw [h]
  rw [hl]
  refine ⟨rfl, rfl, rfl, fun m b i => ?_⟩
  exact semLog_scaled k dsp hd m _ (callObs_gainSep o st hinv c hc) b i

/-- Histories none of whose calls runs the soft clipper: every call satisfies the sample relation.  (For histories that mix
    all three APIs the relation has to name the call: `OpusProps.C19Gain.gain_history_output_scaled`.) -/
theorem runCalls_scaled {α : Type} [Mul α] (k : α) (dsp : List Ev → Ev → Mem α → Mem α) (hd : DspLocal dsp)
    (os : Nat → Oracle) (hos : ∀ i, OracleOk (os i)) (cs : List Call) :
    ∀ (i : Nat) (st : DecState), DecInv st → (∀ c ∈ cs, c.WF ∧ noClip c = true) →
      List.Forall₂ (ScaledObs k dsp) (runCalls os i st cs).1 (runCalls os i (zg st) (cs.map gzCall)).1 := by
  induction cs with
  | nil => intro i st _ _; exact List.Forall₂.nil
  | cons c cs ih =>
    intro i st hinv hcs
    have hc := hcs c (List.mem_cons_self ..)
    simp only [List.map_cons, runCalls]
    refine List.Forall₂.cons (callObs_scaled k dsp hd (os i) st hinv c hc.2) ?_
    rw [callObs_gz]
    have hinv' : DecInv (callObs (os i) st c).2 := by rw [callObs_st]; exact stepCall_inv (hos i) hinv c hc.1
    exact ih (i + 1) _ hinv' (fun c' hc' => hcs c' (List.mem_cons_of_mem _ hc'))

end Opus.DecSkel

namespace OpusProps.C19Gain
open Opus Opus.DecSkel

/-- One call of `opus_decode` / `opus_decode24` / `opus_decode_float` (any arguments: packet,
    lost packet `data = none`, FEC, bad arguments) on two runs that differ only in `decode_gain`: same return value (or
    abort), same `*packet_offset`, same final state except `decode_gain`, same oracle-call counter (so the SILK / CELT /
    range-decoder calls are the same calls with the same arguments) and same event log up to gain passes. -/
theorem gain_api_entry_points (o : Oracle) (fmt : Fmt) (data : Option Bytes) (len frame_size fec : Int) (r : Run) :
    (decodeApi o fmt data len frame_size fec (gz r)).ret = (decodeApi o fmt data len frame_size fec r).ret ∧
    (decodeApi o fmt data len frame_size fec (gz r)).packetOffset = (decodeApi o fmt data len frame_size fec r).packetOffset ∧
    (decodeApi o fmt data len frame_size fec (gz r)).run = gz (decodeApi o fmt data len frame_size fec r).run :=
  let h := decodeApi_gz o fmt data len frame_size fec r
  ⟨h.ret, h.packetOffset, h.run⟩

/-- a run with a non-zero gain and the run `gz` makes of it really differ -/
example (st : DecState) (h : st.decode_gain ≠ 0) : gz ⟨st, 0, []⟩ ≠ ⟨st, 0, []⟩ := by
  intro e; have := congrArg (fun r => r.st.decode_gain) e; exact h this.symm

/-- Whole call histories (`Call`: decode in any of the three formats, lost packets, FEC,
    raw `opus_decode_native` calls as the multistream decoder makes them, OPUS_RESET_STATE, OPUS_SET_GAIN — any number, any
    order, any arguments; `os i` = the DSP of call `i`): the gain-0 twin of the history (`zg st`, `gzCall`) observes, call
    by call, exactly the observations of the original with the gain passes erased from the event logs, and ends in the
    same state except `decode_gain`. -/
theorem gain_history_simulation (os : Nat → Oracle) (cs : List Call) (i : Nat) (st : DecState) :
    runCalls os i (zg st) (cs.map gzCall) = ((runCalls os i st cs).1.map gzObs, zg (runCalls os i st cs).2) :=
  runCalls_gz os cs i st

/-- `runCalls` is C01's history function with the observations added -/
example (os : Nat → Oracle) (cs : List Call) (i : Nat) (st : DecState) :
    (runCalls os i st cs).2 = runHistory os i st cs := runCalls_st os cs i st

/-- Two histories that are the same up to the values of accepted OPUS_SET_GAIN calls, run
    from states that agree except for `decode_gain`: every call returns the same value (or aborts / hangs alike) and the
    same `*packet_offset`, logs the same non-gain events (same DSP calls, same arguments, same buffer accesses), and the
    final states agree in every field except `decode_gain` — in particular OPUS_GET_LAST_PACKET_DURATION, the
    mode / bandwidth / frame size of the last packet, `prev_mode` and `prev_redundancy` (so later frames take the same
    transition / redundancy / concealment paths). -/
theorem gain_history_same_returns (os : Nat → Oracle) (cs1 cs2 : List Call) (i : Nat) (st1 st2 : DecState)
    (hc : cs1.map gzCall = cs2.map gzCall) (hs : zg st1 = zg st2) :
    (runCalls os i st1 cs1).1.map (·.ret) = (runCalls os i st2 cs2).1.map (·.ret) ∧
    (runCalls os i st1 cs1).1.map (·.packetOffset) = (runCalls os i st2 cs2).1.map (·.packetOffset) ∧
    (runCalls os i st1 cs1).1.map (fun x => x.log.filter notGain) = (runCalls os i st2 cs2).1.map (fun x => x.log.filter notGain) ∧
    zg (runCalls os i st1 cs1).2 = zg (runCalls os i st2 cs2).2 ∧
    (runCalls os i st1 cs1).2.last_packet_duration = (runCalls os i st2 cs2).2.last_packet_duration := by
  have h1 := runCalls_gz os cs1 i st1
  have h2 := runCalls_gz os cs2 i st2
  rw [hc, hs] at h1
  have h := h1.symm.trans h2
  have ha : (runCalls os i st1 cs1).1.map gzObs = (runCalls os i st2 cs2).1.map gzObs := congrArg Prod.fst h
  have hb : zg (runCalls os i st1 cs1).2 = zg (runCalls os i st2 cs2).2 := congrArg Prod.snd h
  refine ⟨?_, ?_, ?_, hb, by simpa using congrArg DecState.last_packet_duration hb⟩
  · have := congrArg (List.map (·.ret)) ha
    simpa [List.map_map, Function.comp_def, gzObs] using this
  · have := congrArg (List.map (·.packetOffset)) ha
    simpa [List.map_map, Function.comp_def, gzObs] using this
  · have := congrArg (List.map (·.log)) ha
    simpa [List.map_map, Function.comp_def, gzObs] using this

/-- two histories that differ only in the gain they set: hypotheses satisfiable -/
example : [Call.gain 5120, .decode .f32 none 0 960 0, .reset, .gain (-300)].map gzCall =
    [Call.gain 0, .decode .f32 none 0 960 0, .reset, .gain 7].map gzCall := by simp [gzCall]

/-- In `opus_decode_frame` the gain pass is the last thing the frame logs: after the main
    CELT frame, both redundancy frames, the redundancy cross-fades and the transition cross-fade (`stepTransFade`), and
    before the state update (which logs nothing).  It is one pass over exactly `audiosize·channels` samples starting at
    the frame's own `pcm` pointer iff the gain is non-zero, and a frame whose CELT call succeeded returns `audiosize` — the
    number of samples per channel by which `opus_decode_native` advances `pcm` for the next frame. -/
theorem gain_pass_last_in_frame (o : Oracle) (b : Body) (red : Red) (tr : Bool) (r : Run) :
    let r5 := stepTransFade b tr (stepRedCopy b red (stepRedS2C o b red (stepMainCelt o b red (stepRedC2S o b red r)).2))
    (celtStage o b red tr r).2.log =
      (if r5.st.decode_gain ≠ 0 then [Ev.acc 11 b.pcm (b.audiosize * r5.st.channels)] else []) ++ r5.log ∧
    (0 ≤ (stepMainCelt o b red (stepRedC2S o b red r)).1 → (celtStage o b red tr r).1 = .ret b.audiosize) := by
  intro r5
  refine ⟨?_, fun h => ?_⟩
  · show (stepGain b r5).log = _
    unfold stepGain
    by_cases c : r5.st.decode_gain ≠ 0
    · rw [if_pos c, if_pos c]; rfl
    · rw [if_neg c, if_neg c]; rfl
  · exact congrArg Out.ret (if_neg (by omega))

example : (0 : Int) ≤ 960 := by decide

/-- Abstract sample semantics (`semLog`): samples in ANY type with a multiplication
    (commutative ring, ordered field, binary32 with its rounded product), gain pass = multiply the samples of its extent
    by the constant `k` — the float build has no saturation there (`SATURATE` is the identity, celt/arch.h) —, every other
    event = an arbitrary function `dsp` of the gain-free history and the memory with the footprint property `DspLocal`
    (writes only its logged extent; reads only that extent and the scratch buffers; it cannot read `decode_gain`).  For
    every event log `l` that satisfies the separation condition `gainSep` (every event logged after a gain pass touches
    none of its samples; gain passes lie in the caller's buffer) and every initial memory: the memory after `l` is,
    sample by sample, the memory after the gain-free log `l.filter notGain` multiplied by `k` on exactly the samples
    covered by a gain pass (each once) and identical everywhere else, scratch buffers included. -/
theorem gain_scaling_samplewise {α : Type} [Mul α] (k : α) (dsp : List Ev → Ev → Mem α → Mem α)
    (hd : DspLocal dsp) (m : Mem α) (l : List Ev) (hsep : gainSep l = true) (b : Buf) (i : Int) :
    semLog k dsp l m b i =
      if gained l b i then k * semLog k dsp (l.filter notGain) m b i else semLog k dsp (l.filter notGain) m b i :=
  semLog_scaled k dsp hd m l hsep b i

/-- a DSP semantics with the footprint property exists (here: every event writes 7 over its extent) -/
example : DspLocal (fun _ e (m : Mem Int) b i => if touches e b i then 7 else m b i) :=
  ⟨fun _ _ _ _ _ _ ht => by simp [ht], fun _ _ _ _ _ _ _ _ ht => by simp [ht]⟩

/-- The separation condition is a THEOREM about the skeleton: for every decoder state that
    satisfies C01's invariant `DecInv` (true after every history from `opus_decoder_init`, C01 `decodeNative_history`),
    every DSP behaviour and every call that does not run the soft clipper (`noClip`: opus_decode_float, opus_decode24,
    the per-stream `opus_decode_native` calls of the multistream decoder, lost packets, FEC, any arguments), the event log
    of the call satisfies `gainSep`: each frame (and each concealment chunk) logs its events at or above its own `pcm`
    pointer, its gain pass is its last event and ends where the next frame begins; the inner frame of a mode transition
    runs with gain 0 on a scratch buffer.  Hence no sample is scaled twice and nothing computed after a gain pass reads a
    scaled sample. -/
theorem gain_log_separated (o : Oracle) (st : DecState) (hinv : DecInv st) (c : Call) (hc : noClip c = true) :
    gainSep (callObs o st c).1.log = true :=
  callObs_gainSep o st hinv c hc

/-- the hypotheses are satisfiable (a fresh 48 kHz stereo decoder; a float decode call), and the conclusion is not
    vacuous: the log of this call on a decoder with gain +1 dB has two gain passes, over [0,1920) and [1920,3840) -/
example : ∃ st, init 48000 2 = some st ∧ DecInv st ∧ noClip (.decode .f32 (some [249, 1, 2, 3, 4]) 5 1920 0) = true :=
  ⟨_, rfl, init_inv (fs := 48000) (ch := 2) rfl, rfl⟩

example : gained (callObs ⟨fun _ a => (0, silkSamples a, 1), fun _ a => a.frame_size, fun _ _ t => (0, t), fun _ _ t => (0, t)⟩
    { Fs := 48000, channels := 2, dc := ⟨2, 0, 48000, 0, 0⟩, decode_gain := 256, stream_channels := 2, bandwidth := 0,
      mode := 0, prev_mode := 0, frame_size := 120, prev_redundancy := 0, last_packet_duration := 0 }
    (.decode .f32 (some [249, 1, 2, 3, 4]) 5 1920 0)).1.log .pcm 3839 = true := by decide +kernel

/-- The whole clause for whole histories.  Take any history of calls (decode / lost
    packet / FEC through opus_decode, opus_decode24 or opus_decode_float, raw native calls as the multistream decoder makes
    them, resets, gain changes; any arguments, packet bytes < 256), DSP oracles within C01's contracts, a decoder state
    satisfying `DecInv`, any sample type with a multiplication, any constant `k` and any DSP sample semantics with the
    footprint property.  Call by call, the observation `x0` of the gain-0 twin is the observation `xg` of the history with
    the gain passes erased (same return value, same `*packet_offset`, same events otherwise), and for every call that does
    not run the soft clipper (`noClip`: everything except opus_decode / native calls with soft_clip) `ScaledObs` holds: the
    memory (caller's buffer and scratch buffers) after the call is the twin's memory with the samples covered by a gain
    pass multiplied by `k`, each once, and identical elsewhere:  pcm_g = k · pcm_0.
    (The soft clipper of `opus_decode` runs after all gain passes on the whole output, src/opus_decoder.c:823-828; the
    int16 result is then `FLOAT2INT16(softclip(k·pcm_0))`, C19 `integer_output_saturates`, searched in S4.) -/
theorem gain_history_output_scaled {α : Type} [Mul α] (k : α) (dsp : List Ev → Ev → Mem α → Mem α) (hd : DspLocal dsp)
    (os : Nat → Oracle) (hos : ∀ i, OracleOk (os i)) (cs : List Call) (i : Nat) (st : DecState) (hinv : DecInv st)
    (hcs : ∀ c ∈ cs, c.WF) :
    List.Forall₂ (fun (cx : Call × CallObs) (x0 : CallObs) => x0 = gzObs cx.2 ∧ (noClip cx.1 = true → ScaledObs k dsp cx.2 x0))
      (cs.zip (runCalls os i st cs).1) (runCalls os i (zg st) (cs.map gzCall)).1 := by
  induction cs generalizing i st with
  | nil => exact List.Forall₂.nil
  | cons c cs ih =>
    have hc := hcs c (List.mem_cons_self ..)
    simp only [List.map_cons, runCalls, List.zip_cons_cons]
    refine List.Forall₂.cons ⟨by rw [callObs_gz], fun hn => callObs_scaled k dsp hd (os i) st hinv c hn⟩ ?_
    rw [callObs_gz]
    have hinv' : DecInv (callObs (os i) st c).2 := by rw [callObs_st]; exact stepCall_inv (hos i) hinv c hc
    exact ih (i + 1) _ hinv' (fun c' hc' => hcs c' (List.mem_cons_of_mem _ hc'))

example : OracleOk exOracle := exOracle_ok
example : ∀ c ∈ [Call.gain 256, .decode .f32 (some [249, 1, 2, 3, 4]) 5 1920 0, .decode .f32 none 0 960 0, .reset],
    c.WF ∧ noClip c = true := by
  intro c hc
  simp only [List.mem_cons, List.mem_nil_iff, or_false] at hc
  rcases hc with rfl | rfl | rfl | rfl
  · exact ⟨trivial, rfl⟩
  · exact ⟨fun bs h => (by injection h with h; subst h; decide), rfl⟩
  · exact ⟨fun bs h => (nomatch h), rfl⟩
  · exact ⟨trivial, rfl⟩

end OpusProps.C19Gain
