import OpusProofs.Interleave
/-
  C14 — "Independent codec instances do not interfere when used concurrently":
  any number of encoder, decoder, multistream and repacketizer objects may be used from different threads at
  the same time, one thread per object, with no data race and with every object producing exactly the output
  it produces when run alone.

  Shape of the argument (DESIGN.md §7.C14):
    (1) `interleave_eq_serial`  — for EVERY schedule (interleaving of the per-thread call lists, including
        creation, ctl, coding, destroy and whatever "first use" does) each object's final state and each
        thread's output list are those of the thread run alone — for any step function with the footprint
        "reads rodata + own object + arguments, writes own object + results";
    (2) what could break the footprint is looked for on the binary: `no_writable_globals`, `config_threadsafe`,
        `imports_reentrant` are evaluated on the table regenerated from the freshly built libopus.a
        (OpusModel/Gen/Globals.lean), so a `static int cache`, a static scratch buffer, a lazily filled table, a
        TLS or COMMON symbol, the global pseudo-stack or a call to `rand()` makes this file fail to build.
  Not Lean theorems: that the library's calls satisfy the footprint (`Local`) — no codec model is shown to be an instance,
  and (2) is evidence for it, not a proof of it — and the C11 memory model (see tools/props/C14.py NOT_COVERED).
-/
namespace OpusProps.C14
open Opus.Interleave Opus.Gen.Globals

/-- Clause "every object producing exactly the output it produces when run alone", for all interleavings:
    for every step function, every initial memory, every family of per-thread scripts `P` and EVERY schedule `s`
    that is a merge of them, the final state of each object `t` and the output list of each thread `t` equal those
    of running `P t` alone on the initial state of `t`; the read-only data is unchanged. -/
theorem interleave_eq_serial {Ro St In Out : Type} (step : Ro → St → In → St × Out)
    (m : Mem Ro St) (P : Nat → List In) (s : List (Call In)) (hs : IsSchedule P s) (t : Nat) :
    (run step m s).1.objs t = (runAlone step m.ro (m.objs t) (P t)).1 ∧
    (run step m s).2 t = (runAlone step m.ro (m.objs t) (P t)).2 ∧
    (run step m s).1.ro = m.ro := by
  have h := run_eq_runAlone step m s t
  rw [hs t] at h
  exact ⟨h.1, h.2, run_ro step m s⟩

/-- Non-vacuity: a concrete two-thread system (object state = running sum, output = state before the call);
    all 6 merges of scripts [1,2] and [10,20] are schedules, and they are pairwise different orders. -/
example : ∀ s ∈ merges2 [1, 2] [10, 20],
    IsSchedule (fun t => if t = 0 then [1, 2] else if t = 1 then [10, 20] else []) s := by
  intro s hs t
  have hs' : s ∈ merges2 [1, 2] [10, 20] := hs
  simp only [merges2, List.map, List.mem_cons, List.cons_append, List.nil_append,
    List.mem_nil_iff, or_false] at hs'
  rcases hs' with h | h | h | h | h | h <;> subst h <;>
    (by_cases h0 : t = 0
     · subst h0; rfl
     · by_cases h1 : t = 1
       · subst h1; rfl
       · have e0 : ¬ 0 = t := fun e => h0 e.symm
         have e1 : ¬ 1 = t := fun e => h1 e.symm
         simp [project, h0, h1, e0, e1])
example : (merges2 [1, 2] [10, 20]).length = 6 := by simp [merges2]
example : ((run (fun (_ : Unit) (s i : Nat) => (s + i, s)) ⟨(), fun _ => 0⟩
            [⟨1, 10⟩, ⟨0, 1⟩, ⟨1, 20⟩, ⟨0, 2⟩]).2 1) = [0, 10] := by decide

/-- The same conclusion for an UNRESTRICTED global step function (one that is handed the whole memory), given the
    footprint premise `Local`: a call on object `o` depends only on rodata, `objs o` and its input and replaces only
    `objs o`.  `Local` is a hypothesis here; the table theorems below rule out the ways the library could violate it that a
    symbol table shows (writable or thread-local static storage, non-reentrant imports), they do not derive it. -/
theorem interleave_eq_serial_of_footprint {Ro St In Out : Type}
    (gstep : Ro → (Nat → St) → Nat → In → (Nat → St) × Out) (step : Ro → St → In → St × Out)
    (hl : Local gstep step) (m : Mem Ro St) (P : Nat → List In) (s : List (Call In))
    (hs : Merge P s) (t : Nat) :
    (grun gstep m s).1.objs t = (runAlone step m.ro (m.objs t) (P t)).1 ∧
    (grun gstep m s).2 t = (runAlone step m.ro (m.objs t) (P t)).2 ∧
    (grun gstep m s).1.ro = m.ro := by
  rw [grun_eq_run gstep step hl]
  exact interleave_eq_serial step m P s hs.isSchedule t

/-- Non-vacuity of the premise and necessity of (2): a step function with one writable shared cell (a cache filled
    on first use) is NOT local, and its outputs do depend on the schedule. -/
example : ¬ ∃ step : Unit → Nat → Nat → Nat × Nat, Local cacheStep step := cacheStep_not_local
example : Local (fun (_ : Unit) (objs : Nat → Nat) o (i : Nat) => (update objs o (objs o + i), objs o))
    (fun _ s i => (s + i, s)) := fun _ _ _ _ => rfl

/-- The two notions of "schedule" used above coincide (projection form ⇔ inductive merge). -/
theorem schedule_iff_merge {In : Type} (P : Nat → List In) (s : List (Call In)) :
    IsSchedule P s ↔ Merge P s :=
  ⟨isSchedule_merge, Merge.isSchedule⟩

/-- Clause "no data race … including first-use initialisation of shared read-only tables and CPU-feature
    detection", premise side: in the library built from the current tree every non-empty allocated section of every
    archive member is code, constants, unwind data or a relocated constant table (`.text*`, `.rodata*`, `.eh_frame`,
    `.data.rel.ro*`; no `W` flag outside `.data.rel.ro*`, no TLS), and every data symbol is an OBJECT in such a
    section — i.e. there is no non-empty `.data`, `.bss`, `.tbss`/`.tdata` or COMMON storage at all. -/
theorem no_writable_globals :
    (∀ e ∈ sections, sectionEntryOk e = true) ∧ (∀ e ∈ dataSymbols, symbolEntryOk e = true) :=
  ⟨sections_all_ok, dataSymbols_all_ok⟩

/-- Non-vacuity: the table really lists the build (≥ 100 members and sections, the RTCD dispatch table symbol
    is present and sits in `.data.rel.ro`), and the predicate does reject writable storage. -/
example : 100 ≤ memberCount ∧ 100 ≤ sections.length ∧ 50 ≤ dataSymbols.length ∧
    (dataSymbols.any (fun e => e.2.1 == "SILK_NSQ_IMPL" && e.2.2.2.2.1 == ".data.rel.ro")) = true := table_nonempty
example : sectionEntryOk ("x86cpu.c.o", ".bss", "WA", 4) = false := by decide +kernel
example : sectionEntryOk ("x86cpu.c.o", ".data", "WA", 4) = false := by decide +kernel
example : sectionEntryOk ("x86cpu.c.o", ".tbss", "WAT", 4) = false := by decide +kernel
example : symbolEntryOk ("x86cpu.c.o", "cache", "OBJECT", "LOCAL", ".bss", 4) = false := by decide +kernel
example : symbolEntryOk ("a.o", "buf", "COMMON", "GLOBAL", "COMMON", 64) = false := by decide +kernel

/-- Scratch memory is per call: `NONTHREADSAFE_PSEUDOSTACK` is undefined and `VAR_ARRAYS` or `USE_ALLOCA` is
    defined in the configuration the compiler sees (celt/stack_alloc.h), and the build is not a FUZZING build
    (which calls `rand()` in `opus_select_arch`). -/
theorem config_threadsafe : configThreadSafe configDefined = true := by decide +kernel

example : configThreadSafe ["NONTHREADSAFE_PSEUDOSTACK"] = false := by decide +kernel
example : configThreadSafe ["VAR_ARRAYS", "FUZZING"] = false := by decide +kernel

/-- Everything the library imports from outside (libc, libm, compiler runtime) is on the list of re-entrant
    entry points: no `rand`, `strtok`, `localtime`, `setlocale`, … -/
theorem imports_reentrant : ∀ s ∈ imports, importOk s = true := by decide +kernel

example : importOk "rand" = false := by decide +kernel
example : imports ≠ [] := by decide +kernel

end OpusProps.C14
