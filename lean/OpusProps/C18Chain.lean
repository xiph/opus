import OpusProofs.SilkChain
/-
  OpusProps.C18Chain — property C18 (SILK side information dequantises to stable, in-range parameters), slice Chain:
  the first frame after an internal-rate change / reset never interpolates with the stale previous LSF vector, so the
  vector behind the first-half filter IS the decoded vector (ordered by C18's `nlsf_decode_ordered`), whatever
  `prevNLSF_Q15` holds (after NB/MB <-> WB it holds a vector of the other order and codebook).
-/
namespace OpusProps.C18Chain
open OpusProofs.SilkChain

/-- After `silk_decoder_set_fs` to a DIFFERENT internal rate, for every stale `prevNLSF`, every NLSFInterpCoef_Q2 the
    bitstream carries and every decoded vector, the first-half LSF vector is the decoded vector. -/
theorem rate_switch_disables_interpolation (d : Dec) (fs coef : Int) (cur : List Int) (h : d.fsKHz ≠ fs) :
    firstHalf (setFs d fs) coef cur = cur :=
  firstHalf_of_flag _ (setFs_flag d fs h) coef cur

/-- Same after `silk_reset_decoder` (decoder creation, OPUS_RESET_STATE, mono->stereo for the side channel). -/
theorem reset_disables_interpolation (d : Dec) (coef : Int) (cur : List Int) :
    firstHalf (reset d) coef cur = cur :=
  firstHalf_of_flag _ (reset_flag d) coef cur

/-- A good frame clears the flag and replaces prevNLSF by the vector just decoded (at the rate in force).  Lost frames
    are not events of this small model: in the C code they touch neither member (silk_decode_frame sets
    `first_frame_after_reset = 0` only on the decoded path, decode_frame.c:130). -/
theorem good_frame_installs_current (d : Dec) (cur : List Int) :
    (goodFrame d cur).prevNLSF = cur ∧ (goodFrame d cur).firstFrameAfterReset = 0 := ⟨rfl, rfl⟩

/-- With the flag cleared the factor of the bitstream is used as is; factor 4 means "no interpolation". -/
theorem coef4_no_interpolation (d : Dec) (cur : List Int) : firstHalf d 4 cur = cur := firstHalf_coef4 d cur

/-- The setter leaves a decoder running at the requested rate untouched (so legitimate interpolation continues). -/
theorem same_rate_untouched (d : Dec) : setFs d d.fsKHz = d := setFs_same d

/- non-vacuity: a WB frame after an NB history with coef 1 — without the flag the interpolated vector is unordered -/
example : firstHalf (setFs ⟨8, 0, [1536, 4480, 7680]⟩ 16) 1 [900, 2000, 3000] = [900, 2000, 3000] := by decide
example : firstHalf ⟨16, 0, [1536, 4480, 0]⟩ 1 [900, 2000, 3000] = [1377, 3860, 750] := by decide
example : (⟨8, 0, []⟩ : Dec).fsKHz ≠ 16 := by decide

end OpusProps.C18Chain
