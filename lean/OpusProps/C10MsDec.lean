import OpusProofs.MsDecEq
import OpusProofs.MsDecEqSplit
import OpusProofs.DecSkelDecode
import OpusProps.C10
/-
  Property C10, extension slice MsDec — "each elementary stream inside a multistream / projection decoder behaves exactly
  like a stand-alone decoder fed that stream's packets".

  Model:  `Opus.MsDecEq` (src/opus_multistream_decoder.c:178-307 `opus_multistream_decode_native` incl. the early exits, the
          per-stream loop, the loss branch, the copy-out; :430-548 `opus_multistream_decoder_ctl_va_list`) over an ABSTRACT
          elementary decoder `Machine σ π` (any deterministic state machine for `opus_decode_native` / `opus_decoder_ctl`).
          The projection decoder (src/opus_projection_decoder.c:248-286) calls the same two functions.
  Spec:   `Opus.MsDecEq.specLoop` (stream-by-stream run on the sub-packets of the declarative splitter),
          `Opus.LayoutSpec.msSerialize` / `Opus.FramingSpec` (C10 / C06 packet grammar).
  The two facts used about the real `opus_decode_native` are explicit hypotheses: `PoContract` (its `*packet_offset` is the
  parser's) and, only for the sub-packet form, `Local` (it reads nothing beyond its self-delimited sub-packet).

  First, in `Opus.MsDecEq`: the C01 skeleton of `opus_decode_native` (`Opus.DecSkel.decodeNative`, every inner DSP call an
  oracle) IS an elementary machine in the sense of `Opus.MsDecEq`, and it honours both hypotheses of the multistream
  theorems: `PoContract` (via `decodeNative_po`) and `Local` (it uses nothing of the packet but the parser's result and
  the TOC byte).  So the hypotheses are not only satisfiable by a toy: they hold for the transcription of the real code.
  These two facts are all that is proved of `skelMachine`.  No theorem says that `Opus.DecSkel.msDecodeFull` is
  `Opus.MsDecEq.msDecode` on it, and it is not literally so: `msDecodeFull` has one DSP oracle per stream, hands a stream the
  whole buffer with `len` where `skelMachine` is handed the first `len` bytes, stops on an abort without a return value, and
  validates with `DecSkel.msValidate`.
-/
namespace Opus.MsDecEq
open Opus Opus.Framing Opus.FramingSpec Opus.FramingProofs Opus.DecSkel

/-- `opus_decode_native` (C01 skeleton) as an elementary machine: the state is the `OpusDecoder` skeleton state, the "PCM"
    is the outcome and the event log of the call (every inner SILK / CELT / range-decoder call with its arguments).  An
    abort (hardening assert) is mapped to the return value `-3`, which ends the multistream call like any failure.  `ctl`
    is not modelled here (C11 does that). -/
def skelMachine (o : Oracle) (bufCap : Int) : Machine DecState (List DecSkel.Ev) :=
  { decode := fun st pkt fsz fec sd sc =>
      { st := (decodeNative o pkt ((pkt.getD []).length : Int) { buf := .pcm, off := 0, cap := bufCap } fsz fec sd sc
                { st := st, k := 0, log := [] }).run.st
        ret := match (decodeNative o pkt ((pkt.getD []).length : Int) { buf := .pcm, off := 0, cap := bufCap } fsz fec sd sc
                { st := st, k := 0, log := [] }).ret with
          | .ret v => v
          | _ => -3
        po := (decodeNative o pkt ((pkt.getD []).length : Int) { buf := .pcm, off := 0, cap := bufCap } fsz fec sd sc
                { st := st, k := 0, log := [] }).packetOffset
        pcm := (decodeNative o pkt ((pkt.getD []).length : Int) { buf := .pcm, off := 0, cap := bufCap } fsz fec sd sc
                { st := st, k := 0, log := [] }).run.log }
    ctl := fun st _ _ => (st, -5, 0) }

theorem skel_po (o : Oracle) (bufCap : Int) : PoContract (skelMachine o bufCap) := by
  intro st bs fsz fec sd sc p hp hpos
  simp only [skelMachine, Option.getD_some] at hpos ⊢
  cases hr : (decodeNative o (some bs) (bs.length : Int) { buf := .pcm, off := 0, cap := bufCap } fsz fec sd sc
      { st := st, k := 0, log := [] }).ret with
  | ret v =>
    rw [hr] at hpos
    exact decodeNative_po o bs bs.length _ fsz fec sd sc _ (parse_ok_pos hp) p (by simpa using hp) v hr hpos
  | abort => rw [hr] at hpos; simp at hpos
  | hang => rw [hr] at hpos; simp at hpos

/-- `opus_decode_native` sees of a present packet only its parse and its TOC byte. -/
theorem decodeNative_congr (o : Oracle) (bs1 bs2 : Bytes) (h1 : (0 : Int) < bs1.length) (h2 : (0 : Int) < bs2.length) (sd : Bool)
    (hp : parseImpl sd bs1 = parseImpl sd bs2) (hh : bs1.headD 0 = bs2.headD 0)
    (pcm : Ptr) (fsz fec : Int) (sc : Bool) (r : Run) :
    decodeNative o (some bs1) (bs1.length : Int) pcm fsz fec sd sc r =
      decodeNative o (some bs2) (bs2.length : Int) pcm fsz fec sd sc r := by
  have e1 : ¬ ((bs1.length : Int) = 0) := by omega
  have e2 : ¬ ((bs2.length : Int) = 0) := by omega
  have n1 : ¬ ((bs1.length : Int) < 0) := by omega
  have n2 : ¬ ((bs2.length : Int) < 0) := by omega
  unfold decodeNative
  simp only [Option.getD_some, Int.toNat_natCast, List.take_length, Option.isNone_some, Bool.false_eq_true, or_false,
    e1, e2, n1, n2, if_false, hp, hh]

theorem skel_local (o : Oracle) (bufCap : Int) : Local (skelMachine o bufCap) := by
  intro st p rest fsz fec sc hv
  have h1 := parse_complete true p hv rest (by simp)
  have h2 := parse_complete true p hv [] (by simp)
  rw [List.append_nil] at h2
  have hh : (serialize true p ++ rest).headD 0 = (serialize true p).headD 0 := by
    rw [FramingProofs.serialize_append_headD, FramingProofs.serialize_headD]
  have := decodeNative_congr o _ _ (parse_ok_pos h1) (parse_ok_pos h2) true (h1.trans h2.symm) hh { buf := .pcm, off := 0, cap := bufCap } fsz fec sc
    { st := st, k := 0, log := [] }
  simp only [skelMachine, Option.getD_some]
  rw [this]

end Opus.MsDecEq

namespace OpusProps.C10MsDec
open Opus Opus.Layout Opus.LayoutSpec Opus.FramingSpec Opus.MsDecEq

/-- A toy elementary decoder used for the non-vacuity examples: the state is the list of (TOC, frame sizes) of everything it
    was asked to decode (`none` for a lost packet); it parses its input like `opus_decode_native` (C06 parser), returns
    the frame size it was given and the parser's `packet_offset`, or `-4` on a parse error.  Its `ctl`: OPUS_RESET_STATE (4028)
    clears the state, OPUS_SET_GAIN (4034) refuses `arg > 32767` with `-1`, everything else returns 0; the value stored is
    the length of the state. -/
def toy : Machine (List (Option (Nat × List Nat))) Nat :=
  { decode := fun st pkt fsz _ sd _ =>
      match pkt with
      | none => { st := st ++ [none], ret := fsz, po := 0, pcm := st.length }
      | some b =>
        match Framing.parseImpl sd b with
        | .ok p => { st := st ++ [some (p.toc, p.sizes)], ret := fsz, po := p.packetOffset, pcm := st.length }
        | _ => { st := st, ret := -4, po := 0, pcm := st.length }
    ctl := fun st request arg => (if request = 4028 then [] else st, if request = 4034 ∧ arg > 32767 then -1 else 0, st.length) }

/-- the toy machine honours `PoContract` (non-vacuity witness) -/
theorem toy_po : PoContract toy := by
  intro st bs fsz fec sd sc p hp _
  simp [toy, hp]

/-- the toy machine honours `Local` (non-vacuity witness) -/
theorem toy_local : Local toy := by
  intro st p rest fsz fec sc hv
  have h1 := Opus.FramingProofs.parse_complete true p hv rest (by simp)
  have h2 := Opus.FramingProofs.parse_complete true p hv [] (by simp)
  rw [List.append_nil] at h2
  simp [toy, h1, h2]

/-- **Stream `i` of a multistream decoder is a stand-alone decoder.**  For EVERY elementary machine, every layout and rate,
    every initial stream states and every history of API calls — multistream packets of any content (valid, corrupt,
    truncated), lost packets (`len = 0`), FEC calls, `opus_multistream_decoder_ctl` requests, direct `opus_decoder_ctl`
    requests on a stream obtained with OPUS_MULTISTREAM_GET_DECODER_STATE — the final state of stream `i` is the state of ONE
    stand-alone machine that started in stream `i`'s initial state and performed, in order, exactly the requests that
    reached stream `i` (`seenBy i`), and every answer stream `i` gave inside the multistream decoder (return value,
    `packet_offset`, PCM, ctl value) is the answer that stand-alone machine gives.  Nothing else ever changes a stream,
    and the number of streams is invariant. -/
theorem stream_is_standalone {σ π : Type} (m : Machine σ π) (l : ChannelLayout) (Fs : Nat) (evs : List Ev) (sts : List σ) :
    (runHist m l Fs sts evs).1.length = sts.length ∧
    ∀ (i : Nat) (st : σ), sts[i]? = some st →
      ∃ st', (runHist m l Fs sts evs).1[i]? = some st' ∧
        m.replay st ((seenBy i (runHist m l Fs sts evs).2).map (·.inp)) =
          (st', (seenBy i (runHist m l Fs sts evs).2).map (·.ans)) := by
  induction evs generalizing sts with
  | nil => exact ⟨rfl, fun i st h => ⟨st, h, by simp [runHist, seenBy, Machine.replay]⟩⟩
  | cons e es ih =>
    -- one API call is a thread (`apply_thread`): each stream replays what reached it; then the rest of the history
    obtain ⟨ihl, ihs⟩ := ih (apply m l Fs sts e).sts
    refine ⟨by simp only [runHist]; rw [ihl, (apply_thread m l Fs sts e).length], fun i st h => ?_⟩
    obtain ⟨st1, h1, hr1⟩ := (apply_thread m l Fs sts e).replay i st h
    obtain ⟨st2, h2, hr2⟩ := ihs i st1 h1
    refine ⟨st2, h2, ?_⟩
    simp only [Nat.zero_add] at hr1
    simp only [runHist, seenBy, List.flatMap_cons, List.filter_append, List.map_append] at hr2 ⊢
    rw [replay_append, hr1]
    simp only
    rw [hr2]

example : (runHist toy ⟨2, 2, 0, [0, 1]⟩ 48000 [[], []]
    [.decode [8, 1, 0, 8, 0] 5 960 0 false, .ctl 4034 40000 true, .decode [] 0 960 0 false]).1 =
    [[some (8, [1]), none], [some (8, [1]), none]] := by decide

/-- **An accepted multistream packet is decoded stream by stream as the splitter prescribes.**  For every machine whose
    `packet_offset` is the parser's (`PoContract`), every layout with `n ≥ 1` streams, API rate, stream states, and every
    packet that is `n` RFC-valid packets of a common duration `k` not above the clamped frame size (exactly what
    `opus_multistream_packet_validate` accepts: C10 `ms_packet_structure`), for every `decode_fec` and `soft_clip`: the
    whole outcome of `opus_multistream_decode_native` — return value, every stream's new state, every per-stream call with
    its data offset, `len`, arguments and answer, and the copy-out calls — is `specLoop`: stream `s` is called once, on the
    bytes from its own sub-packet onwards, at offset = the total length of the sub-packets before it, with
    `self_delimited = (s ≠ n-1)`, the caller's `decode_fec` and `soft_clip`, and `frame_size` = the previous stream's
    return value (the caller's `frame_size` clamped to 120 ms for stream 0); a stream returning `≤ 0` ends the call with
    that value, the streams before it and the failing stream itself keep their advanced state, the later ones are not
    called, and nothing of that stream or the muted channels is copied out. -/
theorem accepted_packet_splits {σ π : Type} (m : Machine σ π) (hpo : PoContract m) (l : ChannelLayout) (Fs : Nat) (hFs : Rate Fs)
    (sts : List σ) (ps : List Packet) (hlen : ps.length = l.nbStreams) (hsts : sts.length = l.nbStreams) (hn : 1 ≤ l.nbStreams)
    (hval : ∀ p ∈ ps, Valid p) (k : Nat) (hdur : ∀ p ∈ ps, duration Fs p = k)
    (frame_size fec : Int) (sc : Bool) (hfs : 0 < frame_size) (hk : (k : Int) ≤ clampFs Fs frame_size) :
    msDecode m l Fs sts (msSerialize ps) (msSerialize ps).length frame_size fec sc =
      specLoop m l fec sc feedSuffix ps sts 0 0 (clampFs Fs frame_size) := by
  have hne : ps ≠ [] := by intro h; rw [h] at hlen; simp at hlen; omega
  have hge := msSerialize_length_ge ps hne hval
  unfold msDecode
  rw [msEarly_accept l Fs hFs ps hlen hn hval k hdur frame_size hfs hk]
  have : decide (((msSerialize ps).length : Int) = 0) = false := by rw [decide_eq_false_iff_not]; omega
  rw [this]
  exact msLoop_accepted m hpo l fec sc ps sts 0 0 _ (by omega) hval (by omega)

/-- **…and each stream sees only its own sub-packet.**  If moreover the machine reads nothing beyond its self-delimited
    sub-packet (`Local`), the outcome is that of the run in which stream `s` is handed exactly its own sub-packet
    `serialize (s ≠ n-1) pₛ` (same states, return values, offsets, arguments, PCM; `forget` drops only the record of which
    bytes were handed over). -/
theorem accepted_packet_subpackets {σ π : Type} (m : Machine σ π) (hpo : PoContract m) (hloc : Local m) (l : ChannelLayout)
    (Fs : Nat) (hFs : Rate Fs) (sts : List σ) (ps : List Packet) (hlen : ps.length = l.nbStreams)
    (hsts : sts.length = l.nbStreams) (hn : 1 ≤ l.nbStreams) (hval : ∀ p ∈ ps, Valid p) (k : Nat)
    (hdur : ∀ p ∈ ps, duration Fs p = k) (frame_size fec : Int) (sc : Bool) (hfs : 0 < frame_size)
    (hk : (k : Int) ≤ clampFs Fs frame_size) :
    (msDecode m l Fs sts (msSerialize ps) (msSerialize ps).length frame_size fec sc).forget =
      (specLoop m l fec sc feedSub ps sts 0 0 (clampFs Fs frame_size)).forget := by
  rw [accepted_packet_splits m hpo l Fs hFs sts ps hlen hsts hn hval k hdur frame_size fec sc hfs hk]
  exact specLoop_local m hloc l fec sc ps sts 0 0 _ hval

/-- **A rejected multistream packet changes no stream's state.**  Every early exit of `opus_multistream_decode_native`
    (bad `frame_size` / `len`, packet shorter than `2n-1`, validation failure — any stream malformed or durations
    differing —, duration above the frame size) returns a negative code with NO per-stream call and NO copy-out: all
    stream states are the ones before the call.  Conversely, a call with a packet that is not rejected early carries an
    accepted packet (the hypothesis of `accepted_packet_splits`). -/
theorem rejected_packet_touches_nothing {σ π : Type} (m : Machine σ π) (l : ChannelLayout) (Fs : Nat) (sts : List σ) (bs : Bytes)
    (len frame_size fec : Int) (sc : Bool) :
    (∀ e, msEarly l Fs bs len frame_size = some e →
      e < 0 ∧ msDecode m l Fs sts bs len frame_size fec sc = { ret := e, sts := sts, recs := [], copies := [] }) ∧
    (msEarly l Fs bs len frame_size = none → len ≠ 0 → Rate Fs → BytesOk bs → 1 ≤ l.nbStreams →
      0 < frame_size ∧ 0 < len ∧ ∃ (ps : List Packet) (k : Nat), ps.length = l.nbStreams ∧ (∀ p ∈ ps, Valid p) ∧
        bs.take len.toNat = msSerialize ps ∧ (∀ p ∈ ps, duration Fs p = k) ∧ (k : Int) ≤ clampFs Fs frame_size) :=
  have hS := msEarly_spec l Fs bs len frame_size
  ⟨fun e h => ⟨by rwa [h] at hS, by unfold msDecode; rw [h]⟩, fun h hlen hFs hb hn => by
    rw [h] at hS
    obtain ⟨h1, h2, _, h4⟩ := hS
    obtain ⟨n, hvld, hk⟩ := h4 hlen
    obtain ⟨ps, h5, h6, h7, h8⟩ := msPacketValidate_packets hFs (fun b hb1 => hb b (List.mem_of_mem_take hb1)) hn hvld
    exact ⟨h1, by omega, ps, n, h5, h6, h7, h8, Int.not_lt.mp hk⟩⟩

example : msEarly ⟨2, 2, 0, [0, 1]⟩ 48000 [8, 1, 0, 0, 0] 5 960 = some (-4) ∧
    msEarly ⟨2, 2, 0, [0, 1]⟩ 48000 [8, 1, 0, 8, 0] 5 960 = none ∧
    msEarly ⟨2, 2, 0, [0, 1]⟩ 48000 [8, 1, 0, 8, 0] 5 240 = some (-2) := by decide

/-- A valid 20 ms CELT packet (TOC `F8`, one 2-byte frame) used in the examples. -/
theorem valid_f8 : Valid ⟨0xF8, [[7, 7]], false, none⟩ :=
  { toc_byte := by decide
    frame_max := by intro f hf; simp only [List.mem_singleton] at hf; subst hf; decide
    code0 := fun _ => ⟨rfl, rfl, rfl⟩
    code1 := fun h => absurd h (by decide)
    code2 := fun h => absurd h (by decide)
    code3 := fun h => absurd h (by decide)
    pad_ok := fun pd h => by cases h }

/-- the hypotheses of `accepted_packet_splits` / `_subpackets` are satisfiable: two streams, the packet `F8 02 07 07 F8 07 07` -/
example : PoContract toy ∧ Local toy ∧
    (∀ p ∈ [(⟨0xF8, [[7, 7]], false, none⟩ : Packet), ⟨0xF8, [[7, 7]], false, none⟩], Valid p ∧ duration 48000 p = 960) ∧
    msSerialize [(⟨0xF8, [[7, 7]], false, none⟩ : Packet), ⟨0xF8, [[7, 7]], false, none⟩] = [0xF8, 2, 7, 7, 0xF8, 7, 7] ∧
    ((960 : Nat) : Int) ≤ clampFs 48000 5760 ∧
    (msDecode toy ⟨2, 2, 0, [0, 1]⟩ 48000 [[], []] [0xF8, 2, 7, 7, 0xF8, 7, 7] 7 5760 0 false).sts =
      [[some (0xF8, [2])], [some (0xF8, [2])]] ∧
    (msDecode toy ⟨2, 2, 0, [0, 1]⟩ 48000 [[], []] [0xF8, 2, 7, 7, 0xF8, 7, 7] 7 5760 0 false).recs.map (fun r => (r.s, r.off, r.len)) =
      [(0, 0, 7), (1, 4, 3)] := by
  refine ⟨toy_po, toy_local, ?_, by decide, by decide, by decide, by decide⟩
  intro p hp
  simp only [List.mem_cons, List.not_mem_nil, or_false, or_self] at hp
  subst hp
  exact ⟨valid_f8, by decide⟩

/-- **What happens when a stream fails midway — and who is called with what — for every machine and every input.**
    In one `opus_multistream_decode_native`: the streams called are `0, 1, …, j` in order, each exactly once, each from the
    state it had before the call (`pre`), each with the caller's `decode_fec` and `soft_clip`, `self_delimited = (s ≠ n-1)`,
    a NULL/empty packet exactly when `len = 0` (loss), and its recorded answer is the machine's answer on these
    arguments; afterwards the called streams hold the state their call left and ALL other streams are untouched; a stream
    that returns `≤ 0` is the last one called, its value is the return value of the multistream call (so: the streams
    before it, and the failing stream itself, have advanced; the later ones have not — the decoder is left with its streams
    out of step, exactly as the code does it); a positive return value means every stream was called and returned `> 0`. -/
theorem failing_stream_midway {σ π : Type} (m : Machine σ π) (l : ChannelLayout) (Fs : Nat) (sts : List σ) (bs : Bytes)
    (len frame_size fec : Int) (sc : Bool) :
    (msDecode m l Fs sts bs len frame_size fec sc).recs.map (·.s) =
      List.range' 0 (msDecode m l Fs sts bs len frame_size fec sc).recs.length ∧
    (msDecode m l Fs sts bs len frame_size fec sc).recs.map (·.pre) =
      sts.take (msDecode m l Fs sts bs len frame_size fec sc).recs.length ∧
    (∀ r ∈ (msDecode m l Fs sts bs len frame_size fec sc).recs,
      r.out = m.run r.pre r.args ∧ r.args.fec = fec ∧ r.args.sc = sc ∧ r.args.sd = decide (r.s ≠ l.nbStreams - 1) ∧
      (len = 0 → r.args.pkt = none) ∧ (len ≠ 0 → 0 < r.len ∧ ∃ b, r.args.pkt = some b)) ∧
    (msDecode m l Fs sts bs len frame_size fec sc).sts =
      (msDecode m l Fs sts bs len frame_size fec sc).recs.map (·.out.st) ++
        sts.drop (msDecode m l Fs sts bs len frame_size fec sc).recs.length ∧
    (∀ r ∈ (msDecode m l Fs sts bs len frame_size fec sc).recs, r.out.ret ≤ 0 →
      (msDecode m l Fs sts bs len frame_size fec sc).ret = r.out.ret ∧
      (msDecode m l Fs sts bs len frame_size fec sc).recs.getLast? = some r) ∧
    (0 < (msDecode m l Fs sts bs len frame_size fec sc).ret →
      (msDecode m l Fs sts bs len frame_size fec sc).recs.length = sts.length ∧
      ∀ r ∈ (msDecode m l Fs sts bs len frame_size fec sc).recs, 0 < r.out.ret) := by
  have h := msDecode_shape m l Fs sts bs len frame_size fec sc
  refine ⟨h.idx, h.pre, fun r hr => ?_, h.sts, h.fail, h.ok⟩
  obtain ⟨a, b, c, d, e, f⟩ := h.call r hr
  exact ⟨a, b, c, d, fun h0 => e (by simp [h0]), fun h0 => f (by simp [h0])⟩

/-- three valid sub-packets: with the toy every stream decodes and the call returns 960; with a machine that answers `-4` and
    keeps its state whenever that state is `[none]`, stream 1 fails: stream 0 has advanced, streams 1 and 2 are as before
    (a malformed sub-packet cannot serve to make a stream fail: the validation pass would reject the whole packet) -/
example : (msDecode toy ⟨3, 3, 0, [0, 1, 2]⟩ 48000 [[], [], []] [0xF8, 2, 7, 7, 0xF8, 2, 7, 7, 0xF8, 7, 7] 11 960 0 false).ret = 960 ∧
    (msDecode ({ toy with decode := fun st pkt fsz fec sd sc =>
        if st = [none] then { st := st, ret := -4, po := 0, pcm := 0 } else toy.decode st pkt fsz fec sd sc })
      ⟨3, 3, 0, [0, 1, 2]⟩ 48000 [[], [none], []] [0xF8, 2, 7, 7, 0xF8, 2, 7, 7, 0xF8, 7, 7] 11 960 0 false).sts =
      [[some (0xF8, [2])], [none], []] := by decide

/-- **Output channel `c` is the routed channel of its stream.**  For every created decoder and every successful call of
    `opus_multistream_decode_native` over ANY elementary machines: all `n` streams were called and returned `> 0`, and every
    output channel `c` receives exactly one copy-out call, from the left / right / only channel of the stream its mapping
    byte designates (C10 `expectedSrc`; zeros iff 255), with that stream's sample count.  (Composition with C10 `routing`.
    The model records the copy-out calls, not the contents of `buf`: that the buffer copied from holds the PCM the stream's
    call left, `r.out.pcm`, is not expressible in it.) -/
theorem routed_channel_of_stream {σ π : Type} (m : Machine σ π) (innerOk : Bool) (ch st co : Int) (mp : List Nat) (l : ChannelLayout)
    (hcreate : decoderCreate innerOk ch st co mp = .ok l) (Fs : Nat) (sts : List σ) (hsts : sts.length = l.nbStreams)
    (bs : Bytes) (len frame_size fec : Int) (sc : Bool) (hpos : 0 < (msDecode m l Fs sts bs len frame_size fec sc).ret) :
    (msDecode m l Fs sts bs len frame_size fec sc).recs.length = l.nbStreams ∧
    (∀ r ∈ (msDecode m l Fs sts bs len frame_size fec sc).recs, 0 < r.out.ret) ∧
    (∀ c, c < l.nbChannels →
      (msDecode m l Fs sts bs len frame_size fec sc).copies.filter (fun k => k.chan = c) =
        [{ chan := c, src := expectedSrc l c,
           frameSize := srcFrame ((msDecode m l Fs sts bs len frame_size fec sc).recs.map Rec.toRet)
             (msDecode m l Fs sts bs len frame_size fec sc).ret (expectedSrc l c) }] ∧
      (expectedSrc l c = .zero ↔ l.mapping[c]? = some 255) ∧ (expectedSrc l c).streamLt l.nbStreams) ∧
    (∀ k ∈ (msDecode m l Fs sts bs len frame_size fec sc).copies, k.chan < l.nbChannels) := by
  obtain ⟨h1, h2⟩ := (msDecode_shape m l Fs sts bs len frame_size fec sc).ok hpos
  have hR := OpusProps.C10.routing innerOk ch st co mp l hcreate Fs frame_size len _ _ (by simp [h1, hsts]) _
    (msDecode_route m l Fs sts hsts bs len frame_size fec sc hpos) hpos
  exact ⟨h1.trans hsts, h2, hR.1, hR.2.1⟩

example : decoderCreate true 3 2 1 [2, 255, 0] = .ok ⟨3, 2, 1, [2, 255, 0]⟩ ∧
    (msDecode toy ⟨3, 2, 1, [2, 255, 0]⟩ 48000 [[], []] [] 0 960 0 false).ret = 960 ∧
    (msDecode toy ⟨3, 2, 1, [2, 255, 0]⟩ 48000 [[], []] [] 0 960 0 false).sts = [[none], [none]] := by decide

/-- **ctl requests reach every stream, or the first one, or none — and nothing else.**  For every machine and stream states:
    the five int32 GETs are answered by stream 0 alone; OPUS_GET_FINAL_RANGE (non-NULL pointer), OPUS_RESET_STATE,
    OPUS_SET_GAIN and OPUS_SET_PHASE_INVERSION_DISABLED are handed, unchanged, to streams `0, 1, 2, …` in order, stopping at
    the first stream that refuses; when the call returns OPUS_OK every stream received it (and the final range is the XOR of
    the streams' values); every other request (OPUS_MULTISTREAM_GET_DECODER_STATE included) reaches no stream and leaves
    all states as they are.  That a stream reached performs the request exactly like a stand-alone decoder, and that
    streams not reached are unchanged, is `stream_is_standalone`. -/
theorem ctl_fanout {σ π : Type} (m : Machine σ π) (sts : List σ) (request arg : Int) (nonNull : Bool) :
    (isFirstGet request = true → ∀ st rest, sts = st :: rest →
      (msCtl m sts request arg nonNull).seen = [ctlSeen m 0 st request 0] ∧
      (msCtl m sts request arg nonNull).ret = (m.ctl st request 0).2.1 ∧
      (msCtl m sts request arg nonNull).value = (m.ctl st request 0).2.2) ∧
    (isFirstGet request = false → (request = REQ_GET_FINAL_RANGE ∧ nonNull = true) ∨ isAll request = true →
      (msCtl m sts request arg nonNull).seen.map (·.s) = List.range' 0 (msCtl m sts request arg nonNull).seen.length ∧
      (msCtl m sts request arg nonNull).seen.length ≤ sts.length ∧
      (∀ x ∈ (msCtl m sts request arg nonNull).seen,
        x.inp = .ctl request (if request = REQ_GET_FINAL_RANGE ∨ request = REQ_RESET_STATE then 0 else arg)) ∧
      ((msCtl m sts request arg nonNull).ret = 0 → (msCtl m sts request arg nonNull).seen.length = sts.length) ∧
      ((msCtl m sts request arg nonNull).ret = 0 → request = REQ_GET_FINAL_RANGE →
        (msCtl m sts request arg nonNull).value =
          ((sts.map fun st => (m.ctl st request 0).2.2.toNat).foldl (· ^^^ ·) 0 : Nat))) ∧
    (isFirstGet request = false → ¬ (request = REQ_GET_FINAL_RANGE ∧ nonNull = true) → isAll request = false →
      (msCtl m sts request arg nonNull).seen = [] ∧ (msCtl m sts request arg nonNull).sts = sts ∧
      ((msCtl m sts request arg nonNull).ret = 0 → request = REQ_GET_DECODER_STATE ∧ 0 ≤ arg ∧ arg < sts.length ∧
        (msCtl m sts request arg nonNull).value = arg)) := by
  refine ⟨?_, ?_, ?_⟩
  · intro h st rest hs
    subst hs
    simp [msCtl, h]
  · intro h hcase
    unfold msCtl
    rw [if_neg (by simp [h])]
    by_cases hf : request = REQ_GET_FINAL_RANGE
    · have hnn : nonNull = true := by
        rcases hcase with hc | hc
        · exact hc.2
        · subst hf; exact absurd hc (by decide)
      have hall := ctlAll_shape m request 0 sts 0
      rw [← ctlXor_all m request sts 0 0] at hall
      obtain ⟨a, b, c, d, _⟩ := hall
      rw [if_pos hf, if_neg (by simp [hnn])]
      refine ⟨a, b, ?_, d, fun h0 _ => ?_⟩
      · intro x hx; rw [if_pos (Or.inl hf)]; exact c x hx
      · simp only; rw [ctlXor_value m request sts 0 0 h0]
    · have ha : isAll request = true := by
        rcases hcase with hc | hc
        · exact absurd hc.1 hf
        · exact hc
      rw [if_neg hf, if_pos ha]
      obtain ⟨a, b, c, d, _⟩ := ctlAll_shape m request (if request = REQ_RESET_STATE then 0 else arg) sts 0
      refine ⟨a, b, ?_, d, fun _ h1 => absurd h1 hf⟩
      intro x hx
      rw [c x hx]
      by_cases hr : request = REQ_RESET_STATE
      · simp [hr]
      · simp [hr, hf]
  · intro h hnf ha
    fun_cases msCtl m sts request arg nonNull
    case case1 h1 _ _ => exact absurd h (by simp [h1])
    case case2 h1 => exact absurd h (by simp [h1])
    case case4 hf hn => exact absurd ⟨hf, by simpa using hn⟩ hnf
    case case5 _ _ h5 _ => exact absurd (ha.symm.trans h5) (by decide)
    case case8 hg _ hr => exact ⟨rfl, rfl, fun _ => ⟨hg, by omega, by omega, rfl⟩⟩
    -- the remaining exits return an error code
    all_goals exact ⟨rfl, rfl, fun h0 => by simp [Err.code] at h0⟩

example : (msCtl toy [[none], [], [none]] 4034 40000 true).ret = -1 ∧ (msCtl toy [[none], [], [none]] 4034 40000 true).seen.map (·.s) = [0] ∧
    (msCtl toy [[none], [], [none]] 4028 0 true).sts = [[], [], []] ∧ (msCtl toy [[none], [], [none]] 4031 0 true).value = 0 ∧
    (msCtl toy [[none], [], [none]] 4031 0 true).seen.map (·.s) = [0, 1, 2] ∧
    (msCtl toy [[none], [], [none]] 5122 2 true).value = 2 ∧ (msCtl toy [[none], [], [none]] 4002 0 true).ret = -5 := by decide

/-- **The declarative splitter, in closed form.**  A multistream packet is the concatenation of its sub-packets
    (`subPackets`: packet `i` in self-delimited framing unless it is the last); in the sub-packet run that
    `accepted_packet_subpackets` equates the decoder with, the `j`-th per-stream call is on stream `j`, from that stream's
    state before the API call, at data offset = total length of sub-packets `0..j-1`, on exactly sub-packet `j`, with
    `self_delimited = (j+1 < n)`, the caller's `decode_fec` and `soft_clip`, `frame_size` = the return value of call `j-1`
    (the clamped caller's value for `j = 0`), and its recorded answer (state, return value, PCM) is the stand-alone
    machine's answer on these arguments. -/
theorem stream_inputs_closed_form {σ π : Type} (m : Machine σ π) (l : ChannelLayout) (fec : Int) (sc : Bool) (ps : List Packet)
    (sts : List σ) (fsz : Int) :
    msSerialize ps = (subPackets ps).flatten ∧ (subPackets ps).length = ps.length ∧
    ∀ (j : Nat) (r : Rec σ π), (specLoop m l fec sc feedSub ps sts 0 0 fsz).recs[j]? = some r →
      ∃ sub st, (subPackets ps)[j]? = some sub ∧ sts[j]? = some st ∧ r.s = j ∧ r.pre = st ∧
        r.off = (((subPackets ps).take j).flatten.length : Int) ∧
        r.args = { pkt := some sub, fec := fec, sc := sc, sd := decide (j + 1 < ps.length),
                   fsz := match j with
                     | 0 => fsz
                     | k + 1 => (((specLoop m l fec sc feedSub ps sts 0 0 fsz).recs[k]?).map (·.out.ret)).getD 0 } ∧
        r.out = m.run st r.args := by
  refine ⟨msSerialize_flatten ps, subPackets_length ps, fun j r h => ?_⟩
  obtain ⟨sub, st, a1, a2, a3, a4, a5, a6, a7⟩ := specLoop_sub_closed m l fec sc ps sts 0 0 fsz j r h
  exact ⟨sub, st, a1, a2, by omega, a4, by omega, a6, a7⟩

example : subPackets [(⟨0xF8, [[7, 7]], false, none⟩ : Packet), ⟨0xF8, [[7, 7]], false, none⟩] = [[0xF8, 2, 7, 7], [0xF8, 7, 7]] ∧
    (specLoop toy ⟨2, 2, 0, [0, 1]⟩ 0 false feedSub [(⟨0xF8, [[7, 7]], false, none⟩ : Packet), ⟨0xF8, [[7, 7]], false, none⟩]
      [[], []] 0 0 960).recs.map (fun r => (r.s, r.off, r.args.pkt, r.args.sd)) =
      [(0, 0, some [0xF8, 2, 7, 7], true), (1, 4, some [0xF8, 7, 7], false)] := by decide

/-- **A whole history is the splitter's run.**  For every machine honouring `PoContract` and `Local`, every decoder with
    `n ≥ 1` streams at an API rate, and every history in which multistream packets that the decoder accepts (given by their
    sub-packets: `n` RFC-valid packets of equal duration that fits the frame size) are interleaved with ARBITRARY other API
    calls (lost packets, packets that get rejected, FEC calls, ctl requests, direct ctl): the final stream states, every
    return value and every answer of every stream (state, return value, `packet_offset`, PCM) are those of `specRun`, in
    which each accepted packet is decoded by handing stream `s`, as a stand-alone machine, exactly sub-packet `s` of the
    declarative splitter (closed form: `stream_inputs_closed_form`). -/
theorem history_is_splitter_run {σ π : Type} (m : Machine σ π) (hpo : PoContract m) (hloc : Local m) (l : ChannelLayout)
    (hn : 1 ≤ l.nbStreams) (Fs : Nat) (hFs : Rate Fs) (hs : List HEv) (sts : List σ) (hsts : sts.length = l.nbStreams)
    (hok : ∀ h ∈ hs, h.Ok l Fs) :
    (runHist m l Fs sts (hs.map HEv.ev)).1 = (specRun m l Fs sts hs).1 ∧
    (runHist m l Fs sts (hs.map HEv.ev)).2.map (fun e => (e.ret, e.seen.map (·.ans))) = (specRun m l Fs sts hs).2 := by
  induction hs generalizing sts with
  | nil => simp [runHist, specRun]
  | cons h hs ih =>
    have hok' : ∀ x ∈ hs, x.Ok l Fs := fun x hx => hok x (by simp [hx])
    cases h with
    | other e =>
      obtain ⟨a, b⟩ := ih _ (by rw [(apply_thread m l Fs sts e).length, hsts]) hok'
      simp only [List.map_cons, HEv.ev, runHist, specRun]
      exact ⟨a, by rw [b]⟩
    | accepted ps frame_size fec sc =>
      obtain ⟨h1, h2, h3, k, h4, h5⟩ := hok (.accepted ps frame_size fec sc) (by simp)
      obtain ⟨e1, e2, e3⟩ := forget_fields
        (accepted_packet_subpackets m hpo hloc l Fs hFs sts ps h1 hsts hn h2 k h4 frame_size fec sc h3 h5)
      obtain ⟨a, b⟩ := ih (apply m l Fs sts (.decode (msSerialize ps) (msSerialize ps).length frame_size fec sc)).sts
        (by rw [(apply_thread m l Fs sts _).length, hsts]) hok'
      have hs1 : (apply m l Fs sts (.decode (msSerialize ps) (msSerialize ps).length frame_size fec sc)).sts =
          (specLoop m l fec sc feedSub ps sts 0 0 (clampFs Fs frame_size)).sts := e1
      simp only [List.map_cons, HEv.ev, runHist, specRun]
      rw [← hs1]
      refine ⟨a, ?_⟩
      rw [b]
      congr 1
      refine Prod.ext e2 ?_
      show List.map (·.ans) (List.map Rec.seen _) = _
      rw [List.map_map]
      exact e3 Ans.decode

/-- a history: accepted packet, lost packet, SET_GAIN refused by stream 0, accepted packet -/
example : (HEv.accepted [(⟨0xF8, [[7, 7]], false, none⟩ : Packet), ⟨0xF8, [[7, 7]], false, none⟩] 960 0 false).Ok ⟨2, 2, 0, [0, 1]⟩ 48000 ∧
    (specRun toy ⟨2, 2, 0, [0, 1]⟩ 48000 [[], []]
      [.accepted [(⟨0xF8, [[7, 7]], false, none⟩ : Packet), ⟨0xF8, [[7, 7]], false, none⟩] 960 0 false,
       .other (.decode [] 0 960 0 false), .other (.ctl 4034 40000 true),
       .accepted [(⟨0xF8, [[7, 7]], false, none⟩ : Packet), ⟨0xF8, [[7, 7]], false, none⟩] 960 0 false]).1 =
      [[some (0xF8, [2]), none, some (0xF8, [2])], [some (0xF8, [2]), none, some (0xF8, [2])]] := by
  refine ⟨⟨rfl, ?_, by decide, 960, ?_, by decide⟩, by decide⟩
  · intro p hp; simp only [List.mem_cons, List.not_mem_nil, or_false, or_self] at hp; subst hp; exact valid_f8
  · intro p hp; simp only [List.mem_cons, List.not_mem_nil, or_false, or_self] at hp; subst hp; decide

/-- **The two hypotheses hold for the transcription of the real `opus_decode_native`.**  The C01 skeleton of
    `opus_decode_native` (src/opus_decoder.c:689-829 with every SILK / CELT / range-decoder call an arbitrary oracle `o`),
    packaged as an elementary machine, honours `PoContract` and `Local` — for every oracle and every buffer capacity.  Hence
    `accepted_packet_splits` and `accepted_packet_subpackets` apply to it unconditionally. -/
theorem skeleton_is_a_machine (o : Opus.DecSkel.Oracle) (bufCap : Int) :
    PoContract (skelMachine o bufCap) ∧ Local (skelMachine o bufCap) :=
  ⟨skel_po o bufCap, skel_local o bufCap⟩

end OpusProps.C10MsDec
