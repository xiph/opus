import OpusProofs.DecSkelApi
import OpusProofs.DecSkelMs
import OpusProofs.DecSkelMsFull
import OpusProofs.DecSkelRanges
import OpusProofs.DecSkelShift
import OpusProofs.CeltIdx
import OpusProofs.CeltIdxCalls
import OpusProofs.CeltCallees
/-
  Property C01 — "Decoding is total and memory-safe for arbitrary packets and call histories".

  Model:  `Opus.DecSkel`  — the CONTROL skeleton of src/opus_decoder.c (`opus_decode_native`,
          `opus_decode_frame`, the three format wrappers, reset / set-gain / init) on top of the C06
          parser model `Opus.Framing.parseImpl`.  The SILK / CELT synthesis and the range-decoder
          symbol calls are ORACLES; theorems quantify over ALL oracles within the contracts
          `OracleOk` (each contract is asserted on every explored call by harness/c01_decskel.c).
  Spec:   `OpusModel.DecSkel.Spec` (namespace `Opus.DecSkel`) — `DecInv` (decoder invariant), `OracleOk`, `EvOk` / `EvGood`
          (a logged inner call has legal arguments and an extent inside its buffer), `RetOk`,
          `nativeRet` (the return value as a pure function of the arguments).

  A result `Out.ret v` means the call RETURNS `v`: `Out.abort` (a `celt_assert` of the skeleton fires)
  and `Out.hang` (a `do … while` loop makes no progress) are separate outcomes, so every theorem
  that concludes `… = .ret v` also states that no assertion is reachable and that all loops
  terminate.  All loops of the model are defined by well-founded recursion without fuel.
-/
namespace OpusProps.C01
open Opus Opus.Framing Opus.DecSkel

/-- A decoder state right after `opus_decoder_init` (any legal rate / channel count) satisfies the
    invariant. -/
theorem DecInv_init (fs ch : Int) (st : DecState) (h : init fs ch = some st) : DecInv st :=
  init_inv h

example : ∃ st, init 48000 2 = some st := ⟨_, rfl⟩
example : init 44100 2 = none := rfl

/-- "Any prior call": one call of any kind (decode through any of the three entry points or through
    `opus_decode_native` incl. self-delimited framing, loss, FEC, reset, set-gain; any arguments
    whatsoever) keeps the invariant, for every oracle behaviour within the contracts. -/
theorem DecInv_step (o : Oracle) (ho : OracleOk o) (st : DecState) (h : DecInv st) (c : Call) (hc : c.WF) :
    DecInv (stepCall o st c) :=
  stepCall_inv ho h c hc

example : OracleOk exOracle := exOracle_ok
example : (Call.decode .i16 (some [120, 1, 2, 3]) 4 960 0).WF := by intro bs h; cases h; decide
example : (Call.decode .f32 none 0 (-7) 5).WF := by intro bs h; cases h

/-- "All finite sequences of prior decode / loss / FEC / reset / gain calls on the same state":
    the invariant holds after every history from a freshly initialised decoder, whatever the DSP
    oracles answer within their contracts (a different oracle per call is allowed). -/
theorem decodeNative_history (os : Nat → Oracle) (hos : ∀ i, OracleOk (os i)) (fs ch : Int) (st0 : DecState)
    (hinit : init fs ch = some st0) (cs : List Call) (hcs : ∀ c ∈ cs, c.WF) :
    DecInv (runHistory os 0 st0 cs) :=
  runHistory_inv hos cs 0 st0 (init_inv hinit) hcs

example : ∀ c ∈ [Call.decode .i16 (some [120, 1, 2, 3]) 4 960 0, Call.reset, Call.gain 70000,
    Call.native none 0 5760 1 true false], c.WF := by
  intro c hc
  simp only [List.mem_cons, List.mem_nil_iff, or_false] at hc
  rcases hc with rfl | rfl | rfl | rfl
  · intro bs h; cases h; decide
  · trivial
  · trivial
  · intro bs h; cases h

/-- Return-value clause for `opus_decode_native`: for EVERY state satisfying the invariant (hence
    after every history), every packet or NULL, every `len`, `frame_size`, `decode_fec`,
    `self_delimited`, `soft_clip`, and every oracle behaviour within the contracts, the call
    returns (no `celt_assert` of the skeleton fires — `validate_opus_decoder`, :426, :546, :744,
    :781, :816 —, no loop spins) and the value is `OPUS_BAD_ARG`, `OPUS_BUFFER_TOO_SMALL`,
    `OPUS_INVALID_PACKET` or `n` with `0 < n ≤ frame_size`; never `OPUS_INTERNAL_ERROR`. -/
theorem decodeNative_ret (o : Oracle) (ho : OracleOk o) (r : Run) (hinv : DecInv r.st) (hlog : r.log = [])
    (data : Option Bytes) (hb : ∀ bs, data = some bs → BytesOk bs) (len : Int) (pcm : Ptr) (frame_size fec : Int)
    (sd sc : Bool) (hbuf : pcm.buf = .pcm) (hroom : 0 ≤ pcm.off ∧ pcm.off + frame_size * r.st.channels ≤ pcm.cap) :
    ∃ v, (decodeNative o data len pcm frame_size fec sd sc r).ret = .ret v ∧ RetOk frame_size v :=
  ⟨_, (decodeNative_fresh ho hinv hlog data hb len pcm frame_size fec sd sc hbuf hroom).ret,
    (decodeNative_fresh ho hinv hlog data hb len pcm frame_size fec sd sc hbuf hroom).rok⟩

example : ∃ st, init 16000 1 = some st ∧ DecInv st := ⟨_, rfl, init_inv (fs := 16000) (ch := 1) rfl⟩

/-- The return value is the pure function `nativeRet` of the arguments and of the sampling rate:
    it depends neither on the decoder history nor on anything the SILK / CELT synthesis does. -/
theorem decodeNative_ret_pure (o : Oracle) (ho : OracleOk o) (r : Run) (hinv : DecInv r.st) (hlog : r.log = [])
    (data : Option Bytes) (hb : ∀ bs, data = some bs → BytesOk bs) (len : Int) (pcm : Ptr) (frame_size fec : Int)
    (sd sc : Bool) (hbuf : pcm.buf = .pcm) (hroom : 0 ≤ pcm.off ∧ pcm.off + frame_size * r.st.channels ≤ pcm.cap) :
    (decodeNative o data len pcm frame_size fec sd sc r).ret = .ret (nativeRet r.st data len frame_size fec sd) :=
  (decodeNative_fresh ho hinv hlog data hb len pcm frame_size fec sd sc hbuf hroom).ret

/-- Non-vacuity: a hybrid fullband 20 ms code-0 packet decodes to 960 samples at 48 kHz, the same
    packet into a 959-sample buffer is OPUS_BUFFER_TOO_SMALL, a code-3 packet with zero frames is
    OPUS_INVALID_PACKET, 7 samples of concealment is OPUS_BAD_ARG. -/
example : ∀ st, init 48000 2 = some st → nativeRet st (some [120, 1, 2, 3]) 4 960 0 false = 960 := by
  intro st h; cases h; decide
example : ∀ st, init 48000 2 = some st → nativeRet st (some [120, 1, 2, 3]) 4 959 0 false = BUFFER_TOO_SMALL := by
  intro st h; cases h; decide
example : ∀ st, init 48000 2 = some st → nativeRet st (some [123, 0]) 2 960 0 false = INVALID_PACKET := by
  intro st h; cases h; decide
example : ∀ st, init 48000 2 = some st → nativeRet st none 0 7 0 false = BAD_ARG := by
  intro st h; cases h; decide

/-- Inner-call clause: every `silk_Decode` call the skeleton makes has
    `payloadSize_ms ∈ {10,20,40,60}`, `internalSampleRate ∈ {8000,12000,16000}`,
    `nChannelsInternal ∈ {1,2}` (the conditions under which dec_API.c:159-207 neither asserts nor
    fails); every `celt_decode_with_ec(_dred)` call has a frame size of 2.5/5/10/20 ms at the
    decoder rate and `0 ≤ len ≤ 1275` and is given at most the bytes of the frame being decoded
    (`len ≤ avail`); `ec_dec_init` gets `2 ≤ len ≤ 1275` bytes at a non-negative packet offset. -/
theorem decodeNative_oracle_args (o : Oracle) (ho : OracleOk o) (r : Run) (hinv : DecInv r.st) (hlog : r.log = [])
    (data : Option Bytes) (hb : ∀ bs, data = some bs → BytesOk bs) (len : Int) (pcm : Ptr) (frame_size fec : Int)
    (sd sc : Bool) (hbuf : pcm.buf = .pcm) (hroom : 0 ≤ pcm.off ∧ pcm.off + frame_size * r.st.channels ≤ pcm.cap) :
    ∀ e ∈ (decodeNative o data len pcm frame_size fec sd sc r).run.log, EvOk e :=
  fun e he => ((decodeNative_fresh ho hinv hlog data hb len pcm frame_size fec sd sc hbuf hroom).good.log e he).1

/-- Write-extent clause: every PCM extent touched during the call — what `silk_Decode` and
    `celt_decode_with_ec` write (`nSamplesOut·channels`, `frame_size·channels`), every loop of the
    skeleton itself over a PCM buffer (zero fill, copies, cross-fades, gain) and the soft clip —
    lies inside the buffer it points into, and that buffer is either the caller's
    (`pcm.cap` samples, of which the call may use `frame_size·channels` from `pcm.off`) or a stack
    buffer of exactly the size `opus_decode_frame` allocates for it (`pcm_silk`: 10 ms,
    `pcm_transition_*` and `redundant_audio`: 5 ms, times `channels`). -/
theorem decodeNative_writes (o : Oracle) (ho : OracleOk o) (r : Run) (hinv : DecInv r.st) (hlog : r.log = [])
    (data : Option Bytes) (hb : ∀ bs, data = some bs → BytesOk bs) (len : Int) (pcm : Ptr) (frame_size fec : Int)
    (sd sc : Bool) (hbuf : pcm.buf = .pcm) (hroom : 0 ≤ pcm.off ∧ pcm.off + frame_size * r.st.channels ≤ pcm.cap) :
    ∀ e ∈ (decodeNative o data len pcm frame_size fec sd sc r).run.log, ∀ p n, e.extent? = some (p, n) →
      (0 ≤ p.off ∧ 0 ≤ n ∧ p.off + n ≤ p.cap) ∧ PtrCapOk r.st pcm.cap p :=
  fun e he _ _ hx =>
    evGood_extent ((decodeNative_fresh ho hinv hlog data hb len pcm frame_size fec sd sc hbuf hroom).good.log e he) hx

/-- Tight write extents.  Every entry point hands `opus_decode_native` a buffer pointer with offset 0 and
    capacity exactly `frame_size·channels` (`decodeApi`, `stepCall`, `msStream`: the caller's buffer, the stack buffer
    `out`, half of the multistream `buf`).  For such a pointer every logged access that lies in that buffer satisfies
    `pcm.off ≤ p.off ∧ p.off + n ≤ pcm.off + frame_size·channels` — the bounds of `decodeNative_writes` are tight.  (For a
    pointer with `pcm.off > 0` or slack in `pcm.cap` only `0 ≤ p.off ∧ p.off + n ≤ pcm.cap` is proved: the skeleton's
    invariants do not track the distance to `pcm.off`; no entry point makes such a call.) -/
theorem decodeNative_writes_tight (o : Oracle) (ho : OracleOk o) (r : Run) (hinv : DecInv r.st) (hlog : r.log = [])
    (data : Option Bytes) (hb : ∀ bs, data = some bs → BytesOk bs) (len : Int) (pcm : Ptr) (frame_size fec : Int)
    (sd sc : Bool) (hbuf : pcm.buf = .pcm) (hoff : pcm.off = 0) (hcap : pcm.cap = frame_size * r.st.channels)
    (hfs : 0 ≤ frame_size) :
    ∀ e ∈ (decodeNative o data len pcm frame_size fec sd sc r).run.log, ∀ p n, e.extent? = some (p, n) → p.buf = .pcm →
      pcm.off ≤ p.off ∧ p.off + n ≤ pcm.off + frame_size * r.st.channels := by
  intro e he p n hx hp
  have h := decodeNative_writes o ho r hinv hlog data hb len pcm frame_size fec sd sc hbuf
    (by rw [hoff, hcap]; omega) e he p n hx
  obtain ⟨⟨h1, h2, h3⟩, hc⟩ := h
  have hpc : p.cap = pcm.cap := by unfold PtrCapOk at hc; rw [hp] at hc; exact hc
  rw [hoff]; rw [hpc, hcap] at h3
  exact ⟨h1, by omega⟩

/-- Duration clause: valid framing (the C06 parser accepts: `parseImpl … = .ok p`), no FEC, and a
    buffer with room for `count · samples_per_frame` ⇒ that is what the call returns and what
    `OPUS_GET_LAST_PACKET_DURATION` reports afterwards. -/
theorem decodeNative_duration (o : Oracle) (ho : OracleOk o) (r : Run) (hinv : DecInv r.st) (hlog : r.log = [])
    (bs : Bytes) (hb : BytesOk bs) (hne : bs ≠ []) (pcm : Ptr) (frame_size : Int) (sd sc : Bool) (p : Parsed)
    (hparse : parseImpl sd bs = .ok p)
    (hfit : (p.count : Int) * (samplesPerFrame (bs.headD 0) r.st.Fs.toNat : Int) ≤ frame_size)
    (hbuf : pcm.buf = .pcm) (hroom : 0 ≤ pcm.off ∧ pcm.off + frame_size * r.st.channels ≤ pcm.cap) :
    (decodeNative o (some bs) bs.length pcm frame_size 0 sd sc r).ret =
        .ret ((p.count : Int) * (samplesPerFrame (bs.headD 0) r.st.Fs.toNat : Int)) ∧
    (decodeNative o (some bs) bs.length pcm frame_size 0 sd sc r).run.st.last_packet_duration =
        (p.count : Int) * (samplesPerFrame (bs.headD 0) r.st.Fs.toNat : Int) ∧
    0 < (p.count : Int) * (samplesPerFrame (bs.headD 0) r.st.Fs.toNat : Int) := by
  have h := decodeNative_fresh ho hinv hlog (some bs) (by intro b hb'; cases hb'; exact hb) bs.length pcm frame_size 0 sd sc
    hbuf hroom
  rw [nativeRet_parsed (by omega) (parse_ok_pos hparse) (by simpa using hparse)] at h
  simp only [Int.toNat_natCast, List.take_length] at h
  rw [if_neg (by simp), if_neg (by omega)] at h
  have hpos : 0 < (p.count : Int) * (samplesPerFrame (bs.headD 0) r.st.Fs.toNat : Int) := by
    obtain ⟨_, hc1, _⟩ := FramingProofs.parse_offsets sd bs hb p hparse
    obtain ⟨u, hu⟩ := units_of_fs hinv.fs
    exact Int.mul_pos (by omega) (hu.toc_bounds (tocArgs_of_byte hinv.fs (headD_lt hb)).toc).1
  exact ⟨h.ret, h.lpd hpos, hpos⟩

example : parseImpl false [120, 1, 2, 3] = .ok ⟨120, 1, [3], 1, 0, 4⟩ := by decide

/-- Concealment / FEC duration clause (shared with C09): with no packet (`data = NULL` or `len = 0`),
    or with `decode_fec = 1` on a packet with valid framing, a positive `frame_size` that is a
    multiple of 2.5 ms is returned exactly and becomes the last packet duration. -/
theorem decodeNative_plc_duration (o : Oracle) (ho : OracleOk o) (r : Run) (hinv : DecInv r.st) (hlog : r.log = [])
    (data : Option Bytes) (hb : ∀ bs, data = some bs → BytesOk bs) (len : Int) (pcm : Ptr) (frame_size fec : Int)
    (sd sc : Bool) (hbuf : pcm.buf = .pcm) (hroom : 0 ≤ pcm.off ∧ pcm.off + frame_size * r.st.channels ≤ pcm.cap)
    (hfec : fec = 0 ∨ fec = 1) (hpos : 0 < frame_size) (hmul : frame_size % (r.st.Fs / 400) = 0)
    (hcase : (len = 0 ∨ data = none) ∨
      (fec = 1 ∧ 0 < len ∧ ∃ p, parseImpl sd ((data.getD []).take len.toNat) = .ok p)) :
    (decodeNative o data len pcm frame_size fec sd sc r).ret = .ret frame_size ∧
    (decodeNative o data len pcm frame_size fec sd sc r).run.st.last_packet_duration = frame_size := by
  have h := decodeNative_fresh ho hinv hlog data hb len pcm frame_size fec sd sc hbuf hroom
  obtain ⟨u, hu⟩ := units_of_fs hinv.fs
  have hcm : cmod frame_size (r.st.Fs / 400) = 0 := by rw [cmod_nonneg (by omega)]; exact hmul
  rw [nativeRet_plc (by omega) hcm (hcase.imp (Or.imp_right fun h => h ▸ rfl) fun ⟨hf, hl, hp⟩ => ⟨by omega, hl, hp⟩),
    plcRet_pos hu hcm hpos] at h
  exact ⟨h.ret, h.lpd hpos⟩

example : (960 : Int) % (48000 / 400) = 0 := by decide

/-- Errors leave the decoder alone: when `opus_decode_native` returns a negative code, the decoder
    state (and the event log: nothing was called or written) is exactly what it was. -/
theorem decodeNative_error_leaves_state (o : Oracle) (ho : OracleOk o) (r : Run) (hinv : DecInv r.st) (hlog : r.log = [])
    (data : Option Bytes) (hb : ∀ bs, data = some bs → BytesOk bs) (len : Int) (pcm : Ptr) (frame_size fec : Int)
    (sd sc : Bool) (hbuf : pcm.buf = .pcm) (hroom : 0 ≤ pcm.off ∧ pcm.off + frame_size * r.st.channels ≤ pcm.cap)
    (herr : nativeRet r.st data len frame_size fec sd < 0) :
    (decodeNative o data len pcm frame_size fec sd sc r).run = r :=
  (decodeNative_fresh ho hinv hlog data hb len pcm frame_size fec sd sc hbuf hroom).err herr

/-- The public entry points `opus_decode` / `opus_decode24` / `opus_decode_float` (any `frame_size`,
    including ≤ 0; no assumption on the caller's buffer beyond its documented size): the call
    returns a documented error or `0 < n ≤ frame_size`; the invariant is kept; every inner call is
    legal and every access lies inside a buffer of at most `frame_size·channels` samples (the
    caller's buffer for float, the stack buffer `out` for 16/24-bit) or the right scratch buffer;
    `last_packet_duration` is the sample count on success and the state is untouched on error. -/
theorem decodeApi_ret (o : Oracle) (ho : OracleOk o) (st : DecState) (hinv : DecInv st) (fmt : Fmt)
    (data : Option Bytes) (hb : ∀ bs, data = some bs → BytesOk bs) (len frame_size fec : Int) :
    ∃ v cap0, (decodeApi o fmt data len frame_size fec { st := st, k := 0, log := [] }).ret = .ret v ∧ RetOk frame_size v ∧
      cap0 ≤ max 0 frame_size * st.channels ∧
      DecInv (decodeApi o fmt data len frame_size fec { st := st, k := 0, log := [] }).run.st ∧
      (∀ e ∈ (decodeApi o fmt data len frame_size fec { st := st, k := 0, log := [] }).run.log, EvGood st cap0 e) ∧
      (0 < v → (decodeApi o fmt data len frame_size fec { st := st, k := 0, log := [] }).run.st.last_packet_duration = v) ∧
      (v < 0 → (decodeApi o fmt data len frame_size fec { st := st, k := 0, log := [] }).run = { st := st, k := 0, log := [] }) := by
  obtain ⟨v, cap0, h3, h⟩ := decodeApi_spec ho hinv fmt data hb len frame_size fec
  exact ⟨v, cap0, h.ret, h.rok, h3, h.good.inv, h.good.log, h.lpd, h.err⟩

/-- The duration clause for the public entry points `opus_decode` / `opus_decode24` /
    `opus_decode_float`: a packet with valid framing (`parseImpl false bs = .ok p`), no FEC, and a buffer with room for
    `count · samples_per_frame` samples per channel ⇒ that is what the call returns, through every entry point — the 16- and
    24-bit wrappers clamp `frame_size` to `opus_decoder_get_nb_samples` (:860-867), which is that same number — and what
    `OPUS_GET_LAST_PACKET_DURATION` reports afterwards. -/
theorem decodeApi_duration (o : Oracle) (ho : OracleOk o) (st : DecState) (hinv : DecInv st) (fmt : Fmt)
    (bs : Bytes) (hb : BytesOk bs) (hne : bs ≠ []) (frame_size : Int) (p : Parsed) (hparse : parseImpl false bs = .ok p)
    (hfit : (p.count : Int) * (samplesPerFrame (bs.headD 0) st.Fs.toNat : Int) ≤ frame_size) :
    (decodeApi o fmt (some bs) bs.length frame_size 0 { st := st, k := 0, log := [] }).ret =
        .ret ((p.count : Int) * (samplesPerFrame (bs.headD 0) st.Fs.toNat : Int)) ∧
    (decodeApi o fmt (some bs) bs.length frame_size 0 { st := st, k := 0, log := [] }).run.st.last_packet_duration =
        (p.count : Int) * (samplesPerFrame (bs.headD 0) st.Fs.toNat : Int) := by
  have hch := hinv.ch
  have hpos := (decodeNative_duration o ho { st := st, k := 0, log := [] } hinv rfl bs hb hne
      { buf := .pcm, off := 0, cap := frame_size * st.channels } frame_size false false p hparse hfit rfl (by simp)).2.2
  simp only at hpos
  have hlen : (0 : Int) < (bs.length : Int) := parse_ok_pos hparse
  -- opus_decoder_get_nb_samples of the packet is the same number
  have hnb : nbSamples (bs.take ((bs.length : Int)).toNat) st.Fs = (p.count : Int) * (samplesPerFrame (bs.headD 0) st.Fs.toNat : Int) := by
    have hpo : p.packetOffset = bs.length := (FramingProofs.parse_offsets false bs hb p hparse).2.2.2.2.2.2 rfl
    have h1 := sub_nbSamples false bs hb p hparse st.Fs.toNat (rate_of_fsOk hinv.fs)
    rw [hpo] at h1
    unfold nbSamples
    simp only [Int.toNat_natCast, h1]
    exact Int.natCast_mul _ _
  rcases decodeApi_cases o fmt (some bs) bs.length frame_size 0 { st := st, k := 0, log := [] } (by omega) hch with
    ⟨_, _, _, _, h⟩ | ⟨sc, fsz, e, h⟩
  · simp only [Option.getD_some, hnb] at h; omega
  · rw [e]
    simp only [Option.getD_some, hnb] at h
    -- the native call into a buffer of at least the packet duration
    have hle : (p.count : Int) * (samplesPerFrame (bs.headD 0) st.Fs.toNat : Int) ≤ fsz := by omega
    have hn := decodeNative_duration o ho { st := st, k := 0, log := [] } hinv rfl bs hb hne
      { buf := .pcm, off := 0, cap := fsz * st.channels } fsz false sc p hparse hle rfl (by simp)
    exact ⟨hn.1, hn.2.1⟩

example : parseImpl false [120, 1, 2, 3] = .ok ⟨120, 1, [3], 1, 0, 4⟩ ∧ ((1 : Nat) : Int) * (samplesPerFrame 120 48000 : Int) ≤ 960 := by
  decide

/-- Termination / recursion-depth clause.  `opus_decode_frame` calls itself (PLC chunk loop :334,
    transition concealment :379 / :521) only with `data = NULL` and at most 20 ms, and such a call
    never reaches its own recursive call: whatever stands for the inner call is irrelevant.  Hence
    the recursion depth is at most two and the model's two-layer unrolling (`nullFrame` over
    `nullFrameLeaf`, whose inner call is an unreachable stub) is exact.  The chunk loop itself
    (`plcLoop`) and the outer loops (`nativePlcLoop`, `silkLoop`) are accepted by Lean's
    termination checker by well-founded recursion on the remaining sample count — no fuel. -/
theorem plc_chunk_recursion_depth (o : Oracle) (i1 i2 : Ptr → Int → Run → Res') (pcm : Ptr) (n : Int) (r : Run)
    (hn : n ≤ F20 r.st) : nullFrameGen o i1 pcm n r = nullFrameGen o i2 pcm n r := by
  unfold nullFrameGen
  dsimp only
  split
  · rfl
  · -- after the clamps at most 20 ms are left, so `nullAfterClamp` does not take the chunk loop
    unfold nullAfterClamp
    dsimp only
    have : ¬ min (min n (r.st.Fs / 25 * 3)) r.st.frame_size > F20 r.st := by omega
    simp only [this, ↓reduceIte]

example : ∀ st, init 48000 1 = some st → (960 : Int) ≤ F20 st := by intro st h; cases h; decide

/-- Multistream: `opus_multistream_decode_native` with its per-stream `opus_decode_native` calls
    as contract-bound oracles — each returns a documented error or `0 < n ≤` the clamped
    `frame_size` (what `decodeNative_ret` proves of the single-stream skeleton) and reports the
    `packet_offset` the validation pass computed for its stream.  Then, for every packet, `len`,
    `frame_size` and stream count, the result is `OPUS_BAD_ARG`, `OPUS_BUFFER_TOO_SMALL`,
    `OPUS_INVALID_PACKET` or `0 < n ≤ frame_size`: the `OPUS_INTERNAL_ERROR` return of
    opus_multistream_decoder.c:247-251 is unreachable after a successful
    `opus_multistream_packet_validate`, and no stream is ever handed `len ≤ 0` with a packet. -/
theorem msDecode_ret (no : NativeOracle) (Fs : Int) (hFs : FsOk Fs) (nb : Nat) (bs : Bytes) (hb : BytesOk bs)
    (len frame_size : Int) (hlen : len ≤ bs.length)
    (hno : MsOracleOk no nb (msOffs nb (bs.take len.toNat)) (min frame_size (Fs / 25 * 3))) :
    RetOk frame_size (msDecode no Fs nb bs len frame_size).1 :=
  msDecode_retOk no Fs nb bs hb len frame_size hlen hno hFs

example : MsOracleOk (fun _ => (960, 4)) 1 (msOffs 1 ([120, 1, 2, 3].take (4 : Int).toNat)) (min 960 (48000 / 25 * 3)) :=
  { ret := fun s hs => by
      have : s = 0 := by omega
      subst this; right; right; right; decide
    po := fun s hs => by
      have : s = 0 := by omega
      subst this; decide }

/-- Multistream / projection, the composition: `opus_multistream_decode_native` with its REAL
    per-stream calls — stream `s` decoded by the single-stream skeleton `decodeNative` on its own state and DSP oracle,
    from the bytes left by the previous streams, self-delimited framing for all but the last stream, into `buf`
    (`2·frame_size` samples).  For every layout, every packet / `len` / `frame_size` / `decode_fec`, every stream state
    satisfying the decoder invariant and every oracle within the contracts: the call returns (no assertion, no hang)
    `OPUS_BAD_ARG`, `OPUS_BUFFER_TOO_SMALL`, `OPUS_INVALID_PACKET` or `0 < n ≤ frame_size` — the
    `OPUS_INTERNAL_ERROR` of :247-251 is unreachable — and every stream state satisfies the invariant afterwards (so
    this holds after every history of multistream calls).  `opus_projection_decode*` is this function with another
    `copy_channel_out` (opus_projection_decoder.c:239-264). -/
theorem msDecodeFull_ret (os : Nat → Oracle) (hos : ∀ s, OracleOk (os s)) (l : Layout.ChannelLayout) (Fs : Int) (hFs : FsOk Fs)
    (sts : List DecState) (hsts : ∀ st ∈ sts, DecInv st ∧ st.Fs = Fs) (hn : sts.length = l.nbStreams) (bs : Bytes)
    (hb : BytesOk bs) (len frame_size fec : Int) (hlen : len ≤ bs.length) (sc : Bool) :
    ∃ v, (msDecodeFull os l Fs sts bs len frame_size fec sc).ret = .ret v ∧ RetOk frame_size v ∧
      (msDecodeFull os l Fs sts bs len frame_size fec sc).sts.length = l.nbStreams ∧
      (∀ st ∈ (msDecodeFull os l Fs sts bs len frame_size fec sc).sts, DecInv st ∧ st.Fs = Fs) := by
  obtain ⟨v, h1, h2, h3, h4⟩ := msDecodeFull_spec hos l Fs hFs sts hsts hn bs hb len frame_size fec hlen sc
  exact ⟨v, h1, h2, h3, h4.sts⟩

example : ∃ st, init 48000 2 = some st ∧ ∀ x ∈ [st], DecInv x ∧ x.Fs = 48000 :=
  ⟨_, rfl, fun x hx => by simp only [List.mem_singleton] at hx; subst hx; exact ⟨init_inv (fs := 48000) (ch := 2) rfl, rfl⟩⟩

/-- Multistream / projection write extents.  (1) Every access logged by every per-stream call (SILK / CELT writes,
    the skeleton's own loops, soft clip) lies inside `buf` (`2·min(frame_size, 120 ms)` samples) or the scratch buffer
    allocated for it, and has legal inner-call arguments.  (2) Every `copy_channel_out` call addresses an output channel
    `< nb_channels` with `0 < count ≤ min(frame_size, 120 ms)`; hence for every sample index `i` below that count the
    plain copy-out writes `dst[i·nb_channels + chan]` inside the caller's `frame_size·nb_channels` samples, the
    projection copy-out (which writes a whole row `dst[i·nb_channels + row]`, `row < nb_channels`, and clears
    `count·nb_channels` samples) likewise, and the source read `buf[2·i (+1)]` / `buf[i]` lies inside `buf`. -/
theorem msDecode_writes (os : Nat → Oracle) (hos : ∀ s, OracleOk (os s)) (l : Layout.ChannelLayout) (Fs : Int) (hFs : FsOk Fs)
    (sts : List DecState) (hsts : ∀ st ∈ sts, DecInv st ∧ st.Fs = Fs) (hn : sts.length = l.nbStreams) (bs : Bytes)
    (hb : BytesOk bs) (len frame_size fec : Int) (hlen : len ≤ bs.length) (sc : Bool) :
    (∀ lg ∈ (msDecodeFull os l Fs sts bs len frame_size fec sc).logs, ∃ st0, DecInv st0 ∧ st0.Fs = Fs ∧
      ∀ e ∈ lg, EvOk e ∧ ∀ p n, e.extent? = some (p, n) →
        (0 ≤ p.off ∧ 0 ≤ n ∧ p.off + n ≤ p.cap) ∧ PtrCapOk st0 (2 * min frame_size (Fs / 25 * 3)) p) ∧
    (∀ c ∈ (msDecodeFull os l Fs sts bs len frame_size fec sc).copies,
      c.chan < l.nbChannels ∧ 0 < c.frameSize ∧ c.frameSize ≤ min frame_size (Fs / 25 * 3) ∧
      ∀ i : Int, 0 ≤ i → i < c.frameSize → ∀ row : Int, 0 ≤ row → row < (l.nbChannels : Int) →
        0 ≤ i * (l.nbChannels : Int) + row ∧ i * (l.nbChannels : Int) + row < frame_size * (l.nbChannels : Int) ∧
        2 * i + 1 < 2 * min frame_size (Fs / 25 * 3)) := by
  obtain ⟨v, _, _, _, h4⟩ := msDecodeFull_spec hos l Fs hFs sts hsts hn bs hb len frame_size fec hlen sc
  refine ⟨?_, ?_⟩
  · intro lg hlg
    obtain ⟨st0, a1, a2, a3⟩ := h4.logs lg hlg
    exact ⟨st0, a1, a2, fun e he => ⟨(a3 e he).1, fun p n hx => evGood_extent (a3 e he) hx⟩⟩
  · intro c hc
    obtain ⟨c1, c2, c3⟩ := h4.copies c hc
    refine ⟨c1, c2, c3, ?_⟩
    intro i hi0 hi row hr0 hr
    have := copy_index_bounds i c.frameSize (min frame_size (Fs / 25 * 3)) (l.nbChannels : Int) row ⟨hi0, hi⟩ c3 ⟨hr0, hr⟩
    have hle : min frame_size (Fs / 25 * 3) * (l.nbChannels : Int) ≤ frame_size * (l.nbChannels : Int) :=
      Int.mul_le_mul_of_nonneg_right (by omega) (by omega)
    exact ⟨this.1, by omega, this.2.2.2⟩

/-- The link to the tied skeleton: `msDecode` (the oracle-based multistream skeleton whose return value, per-stream
    call arguments and `buf` size are compared with the C code on every run), fed with the answers of the real
    per-stream calls, returns what the composed model returns and makes the same per-stream calls. -/
theorem msDecode_refines (os : Nat → Oracle) (l : Layout.ChannelLayout) (Fs : Int) (sts : List DecState)
    (hn : sts.length = l.nbStreams) (bs : Bytes) (len frame_size fec : Int) (sc : Bool) (v : Int)
    (hret : (msDecodeFull os l Fs sts bs len frame_size fec sc).ret = .ret v) :
    (msDecode (noOfRun os l fec sc (decide (len = 0)) (2 * min frame_size (Fs / 25 * 3)) sts 0 bs len (min frame_size (Fs / 25 * 3)))
        Fs l.nbStreams bs len frame_size).1 = v ∧
    (0 < frame_size →
      (msDecode (noOfRun os l fec sc (decide (len = 0)) (2 * min frame_size (Fs / 25 * 3)) sts 0 bs len (min frame_size (Fs / 25 * 3)))
        Fs l.nbStreams bs len frame_size).2.1 = (msDecodeFull os l Fs sts bs len frame_size fec sc).mscalls) := by
  rw [msDecodeFull_eq] at hret ⊢
  rw [msDecode_eq]
  cases hE : msExit Fs l.nbStreams bs len frame_size with
  | some e =>
    rw [hE] at hret
    exact ⟨by injection hret, fun _ => rfl⟩
  | none =>
    rw [hE] at hret
    have := msFullLoop_refines os l fec sc (decide (len = 0)) (2 * min frame_size (Fs / 25 * 3)) sts 0 bs len
      (min frame_size (Fs / 25 * 3)) ⟨[], [], [], [], []⟩ _ v (by omega) (fun i _ => rfl) hret
    rw [hn] at this
    simp only [this]
    exact ⟨trivial, fun _ => trivial⟩

/-- Multistream duration.  A packet is present (`0 < len ≤` buffer), `decode_fec = 0`, the validation pass
    `opus_multistream_packet_validate` (C10's model `Opus.Layout.msPacketValidate`, for which C10 proves
    `ms_packet_structure`: the bytes are `n` serialised RFC-valid packets of `k` samples each) reports `k` samples on
    the first `len` bytes, and `0 < k ≤ frame_size`.  Then for every layout / mapping, every set of stream states
    satisfying the decoder invariant (hence after every history) and every DSP oracle behaviour within the contracts,
    `opus_multistream_decode_native` with the REAL per-stream calls returns exactly `k` — never an error —, and every
    stream's `last_packet_duration` is `k` afterwards.  (With it `OpusProps.EndToEndMs.ms_encode_decode_duration` composes
    C10's `ms_encode_packet_structure_skel` with this decoder.) -/
theorem msDecodeFull_duration (os : Nat → Oracle) (hos : ∀ s, OracleOk (os s)) (l : Layout.ChannelLayout) (hl : 1 ≤ l.nbStreams)
    (Fs : Int) (hFs : FsOk Fs) (sts : List DecState) (hsts : ∀ st ∈ sts, DecInv st ∧ st.Fs = Fs) (hn : sts.length = l.nbStreams)
    (bs : Bytes) (hb : BytesOk bs) (len frame_size : Int) (hlen : 0 < len ∧ len ≤ bs.length) (sc : Bool) (k : Nat)
    (hval : Layout.msPacketValidate (bs.take len.toNat) l.nbStreams Fs.toNat = .ok k) (hk : 0 < k ∧ (k : Int) ≤ frame_size) :
    (msDecodeFull os l Fs sts bs len frame_size 0 sc).ret = .ret (k : Int) ∧
    (msDecodeFull os l Fs sts bs len frame_size 0 sc).sts.length = l.nbStreams ∧
    ∀ st ∈ (msDecodeFull os l Fs sts bs len frame_size 0 sc).sts, st.last_packet_duration = (k : Int) :=
  msDecodeFull_duration_spec hos l hl Fs hFs sts hsts hn bs hb len frame_size hlen sc k hval hk

/-- Non-vacuity: two streams at 48 kHz, the packet `F8 02 07 07 | FC 09` (a self-delimited 20 ms CELT packet with one
    2-byte frame, then a standard-framing one) validates to 960 samples; with freshly initialised stream decoders and
    a 960-sample buffer the theorem applies: the call returns 960. -/
example : ∃ st1 st2, init 48000 2 = some st1 ∧ init 48000 1 = some st2 ∧
    (msDecodeFull (fun _ => exOracle) ⟨3, 2, 1, [0, 1, 2]⟩ 48000 [st1, st2] [0xF8, 2, 7, 7, 0xFC, 9] 6 960 0 false).ret = .ret 960 := by
  refine ⟨_, _, rfl, rfl, ?_⟩
  have h := msDecodeFull_duration (fun _ => exOracle) (fun _ => exOracle_ok) ⟨3, 2, 1, [0, 1, 2]⟩ (by decide) 48000 (by decide)
    [_, _] (fun x hx => by
      simp only [List.mem_cons, List.mem_nil_iff, or_false] at hx
      rcases hx with rfl | rfl
      · exact ⟨init_inv (fs := 48000) (ch := 2) rfl, rfl⟩
      · exact ⟨init_inv (fs := 48000) (ch := 1) rfl, rfl⟩) rfl
    [0xF8, 2, 7, 7, 0xFC, 9] (by decide) 6 960 (by decide) false 960 (by decide +kernel) (by decide)
  exact h.1

/-- C `int` ranges.  The model computes with unbounded integers; on the domain the entry checks and the invariant
    guarantee — the caller's buffer of `frame_size·channels` samples exists (so that product is an `int`), `len` is an
    `opus_int32`, `DecInv`, the parser's bounds — every product / sum / difference formed by the skeleton fits 32 bits:
    (a) the rate-derived sizes and scratch-buffer sizes; (b) `pcm_count·channels`, `frame_size − pcm_count`,
    `channels·(frame_size − packet_frame_size)` of the concealment loop and the FEC branch; (c) `count·packet_frame_size`
    (≤ 48·2880), `nb_samples·channels`, frame sizes ≤ 1275 and frame offsets below the packet length;
    (d) `audiosize·channels`, `1000·audiosize/Fs`; (e) the redundancy arithmetic on `len ≤ 1275`; (f) the 16/24-bit
    wrappers' stack buffer for requests up to one second; (g) multistream `2·frame_size`, `2·nb_streams − 1`. -/
theorem int_ranges (st : DecState) (h : DecInv st) :
    (I32 (F20 st) ∧ I32 (st.Fs / 25 * 3) ∧ st.Fs / 25 * 3 ≤ 5760 ∧ 0 ≤ st.frame_size ∧ st.frame_size ≤ 2880 ∧
      I32 (F10 st * st.channels) ∧ I32 (F5 st * st.channels)) ∧
    (∀ frame_size done : Int, I32 (frame_size * st.channels) → 0 ≤ done → done ≤ frame_size →
      I32 (done * st.channels) ∧ I32 (frame_size - done) ∧ I32 (st.channels * (frame_size - done))) ∧
    (∀ (bs : Bytes) (sd : Bool) (p : Parsed) (frame_size : Int), BytesOk bs → (bs.length : Int) ≤ 2147483647 →
      parseImpl sd bs = .ok p → I32 (frame_size * st.channels) →
      (p.count : Int) * (samplesPerFrame (bs.headD 0) st.Fs.toNat : Int) ≤ 48 * 2880 ∧
      (∀ sz ∈ p.sizes, sz ≤ 1275) ∧ I32 ((p.payloadOffset : Int) + (sumN p.sizes : Int)) ∧ I32 (p.packetOffset : Int) ∧
      ((p.count : Int) * (samplesPerFrame (bs.headD 0) st.Fs.toNat : Int) ≤ frame_size → ∀ nb : Int, 0 ≤ nb →
        nb ≤ (p.count : Int) * (samplesPerFrame (bs.headD 0) st.Fs.toNat : Int) → I32 (nb * st.channels) ∧ I32 (frame_size - nb))) ∧
    (∀ audiosize : Int, 0 ≤ audiosize → audiosize ≤ 2880 →
      I32 (audiosize * st.channels) ∧ I32 (1000 * audiosize) ∧ I32 (cdiv (1000 * audiosize) st.Fs)) ∧
    (∀ len tell v : Int, 0 ≤ len ∧ len ≤ 1275 → 0 ≤ tell ∧ tell ≤ 1073741824 → 0 ≤ v ∧ v < 256 →
      I32 (tell + 17 + 20) ∧ I32 (8 * len) ∧ I32 (len - (tell + 7) / 8) ∧ I32 ((len - (v + 2)) * 8)) ∧
    (∀ frame_size : Int, 0 < frame_size → frame_size ≤ st.Fs → I32 (frame_size * st.channels)) ∧
    (∀ (frame_size : Int) (nb : Nat), 0 < frame_size → nb ≤ 255 →
      I32 (2 * min frame_size (st.Fs / 25 * 3)) ∧ I32 (2 * (nb : Int) - 1)) := by
  obtain ⟨a1, _, _, _, a5, a6, _, _, a9, a10, _, a12, a13⟩ := rate_sizes_i32 h
  refine ⟨⟨a1, a5, a6, a9, a10, a12, a13⟩, fun fs d hb h0 hle => native_offsets_i32 h fs d hb h0 hle, ?_, ?_, ?_, ?_, ?_⟩
  · intro bs sd p fs hb hl hp hbuf
    obtain ⟨_, b2, b3, b4, b5, b6⟩ := native_frames_i32 h bs hb hl sd p hp fs hbuf
    exact ⟨b2, b4, b5, b6, b3⟩
  · intro a h0 hle
    obtain ⟨c1, c2, _, c4⟩ := frame_sizes_i32 h a h0 hle
    exact ⟨c1, c2, c4⟩
  · intro len tell v hl ht hv
    obtain ⟨d1, d2, d3, d4, _⟩ := redundancy_i32 len tell v hl ht hv
    exact ⟨d1, d2, d3, d4⟩
  · intro fs h0 h1; exact (wrapper_alloc_i32 h fs h0 h1).1
  · intro fs nb h0 hnb
    obtain ⟨e1, _, e3⟩ := ms_sizes_i32 st.Fs fs nb h.fs h0 hnb
    exact ⟨e1, e3⟩

/-- The return value (and with it `last_packet_duration` on success) of `opus_decode_native` depends on the packet only
    through what the parser reports: two byte strings whose TOC bytes agree up to the two frame-count-code bits
    (`toc / 4`) and which have the same frame count — e.g. a packet and its padded / repacketised form (code 0/1/2 → code 3) — give the same `nativeRet` for the same `frame_size` / `decode_fec` / rate. -/
theorem nativeRet_depends_on_parse (st : DecState) (bs1 bs2 : Bytes) (sd1 sd2 : Bool) (p1 p2 : Parsed) (frame_size fec : Int)
    (h1 : parseImpl sd1 bs1 = .ok p1) (h2 : parseImpl sd2 bs2 = .ok p2) (htoc : bs1.headD 0 / 4 = bs2.headD 0 / 4)
    (hcount : p1.count = p2.count) :
    nativeRet st (some bs1) bs1.length frame_size fec sd1 = nativeRet st (some bs2) bs2.length frame_size fec sd2 :=
  nativeRet_congr h1 h2 hcount (FramingProofs.toc_helpers_congr _ _ st.Fs.toNat htoc).2.2.1

/-- `opus_decode_native` depends on the packet only through what the parser reports (two-run simulation).  Two byte
    strings whose parses report the same frame sizes and count and whose TOC bytes agree up to the frame-count code
    (`toc / 4`) — a packet and its padded / unpadded / repacketised form — decoded from the same state with the same
    arguments, by DSP oracles that answer identically when the frame offset they are shown is shifted by
    `d = payloadOffset₂ − payloadOffset₁` ("the DSP reads the same frame bytes at a shifted address";
    `OracleShift`: `o2.celt k (a.shiftOff d) = o1.celt k a`, SILK / symbol oracles equal): the same return value, the
    same final decoder state and oracle-call counter, and the same inner-call / access log up to the shift of the logged
    packet offsets (`shiftRun d`: `ec_dec_init` offset and CELT data offset `+ d`; PCM pointers untouched).  Purely
    equational — no invariant, no contract; `packet_offset` itself of course differs. -/
theorem decodeNative_depends_on_parse (o1 o2 : Oracle) (bs1 bs2 : Bytes) (sd1 sd2 : Bool) (p1 p2 : Parsed)
    (hp1 : parseImpl sd1 bs1 = .ok p1) (hp2 : parseImpl sd2 bs2 = .ok p2) (hsizes : p1.sizes = p2.sizes)
    (hcount : p1.count = p2.count) (htoc : bs1.headD 0 / 4 = bs2.headD 0 / 4)
    (h : OracleShift o1 o2 ((p2.payloadOffset : Int) - (p1.payloadOffset : Int)))
    (pcm : Ptr) (frame_size fec : Int) (sc : Bool) (r : Run) :
    (decodeNative o2 (some bs2) bs2.length pcm frame_size fec sd2 sc
        (shiftRun ((p2.payloadOffset : Int) - (p1.payloadOffset : Int)) r)).ret =
      (decodeNative o1 (some bs1) bs1.length pcm frame_size fec sd1 sc r).ret ∧
    (decodeNative o2 (some bs2) bs2.length pcm frame_size fec sd2 sc
        (shiftRun ((p2.payloadOffset : Int) - (p1.payloadOffset : Int)) r)).run =
      shiftRun ((p2.payloadOffset : Int) - (p1.payloadOffset : Int)) (decodeNative o1 (some bs1) bs1.length pcm frame_size fec sd1 sc r).run :=
  decodeNative_shift bs1 bs2 sd1 sd2 p1 p2 hp1 hp2 hsizes hcount htoc h pcm frame_size fec sc r

/-- Non-vacuity: an oracle that does not look at offsets is shift-related to itself for every `d`; a code-0 packet and
    its code-3 padded form parse to the same frame list at payload offsets 1 and 3. -/
example (d : Int) : OracleShift exOracle exOracle d :=
  { silk := fun _ _ => rfl, celt := fun _ _ => rfl, bit := fun _ _ _ => rfl, uint := fun _ _ _ => rfl }
example : parseImpl false [120, 1, 2, 3] = .ok ⟨120, 1, [3], 1, 0, 4⟩ ∧
    parseImpl false [123, 65, 2, 1, 2, 3, 0, 0] = .ok ⟨123, 1, [3], 3, 2, 8⟩ ∧ (120 : Nat) / 4 = 123 / 4 := by decide

/-! ## Index-safety bridge for the CELT decoder interior (state layout, buffer shift, post-filter)

  `OpusModel/CeltIdx.lean` transcribes index expressions of celt/celt_decoder.c and celt/celt.c by hand (file:line at
  each definition) — a trusted reading, supported by the tie `celtidx` (harness/c01_celtidx.c: calls recorded inside
  the real decoder, extents of the compiled `comb_filter` measured by NaN propagation).  Geometry constants
  (`DECODE_BUFFER_SIZE`, `MAX_PERIOD`, `COMBFILTER_MINPERIOD`, overlap, struct size / offset, element sizes) are
  regenerated from the tree on every run (`Gen.CeltIdxConsts`). -/

open Opus.CeltIdx Opus.Gen.CeltIdxConsts in
/-- The arrays behind `struct OpusCustomDecoder` — `decode_mem[0..CC)`, `lpc`, `oldBandE`,
    `oldLogE`, `oldLogE2`, `backgroundLogE`, at the byte offsets celt_decoder.c:1024-1028 / :1065 computes — tile the
    allocation: each starts where the previous ends, the last ends inside `opus_custom_decoder_get_size` (:169-177;
    exactly the struct's tail padding before its end), every element of every channel buffer lies before `lpc`, and
    the size formula gives the values the library returned. -/
theorem celt_state_layout (CC : Int) :
    (memOff 0 = offMem ∧ (∀ c, memOff (c + 1) = memOff c + memLen * szSig) ∧ lpcOff CC = memOff CC ∧
      oldBandEOff CC = lpcOff CC + CC * CELT_LPC_ORDER * szVal16 ∧ oldLogEOff CC = oldBandEOff CC + 2 * nbEBands * szGlog ∧
      oldLogE2Off CC = oldLogEOff CC + 2 * nbEBands * szGlog ∧ backgroundOff CC = oldLogE2Off CC + 2 * nbEBands * szGlog ∧
      stateEnd CC = backgroundOff CC + 2 * nbEBands * szGlog ∧ stateEnd CC + (szStruct - offMem - szSig) = getSize CC) ∧
    stateEnd CC ≤ getSize CC ∧
    (∀ c i, 0 ≤ c ∧ c < CC → 0 ≤ i ∧ i < memLen →
      offMem ≤ memOff c + i * szSig ∧ memOff c + i * szSig + szSig ≤ lpcOff CC) ∧
    getSize 1 = getSize1 ∧ getSize 2 = getSize2 :=
  ⟨layout_tiles CC, stateEnd_le_getSize CC, fun _ _ hc hi => mem_elem_in_state hc hi, getSize_values⟩

open Opus.CeltIdx Opus.Gen.CeltIdxConsts in
/-- For every frame size `celt_decode_with_ec_dred` accepts
    (`N = 120·2^LM`, `LM ≤ 3`; the skeleton passes only these: `decodeNative_oracle_args`), every post-filter state the
    decoder can hold (`postfilter_period_old`, `postfilter_period` ∈ {0} ∪ [15, 1024), the set `VALIDATE_CELT_DECODER`
    asserts and `celt_postfilter_period_invariant` maintains), every decoded pitch in {0} ∪ [15, 1024) (C03
    `celtHdr_total_in_range`: [15, 1022]) and any gains / tapsets: every element either post-filter `comb_filter` call
    (:1295-1306) reads lies in `decode_mem[c][DECODE_BUFFER_SIZE−N−MAX_PERIOD−1 .. DECODE_BUFFER_SIZE)` and every
    element it writes in `decode_mem[c][DECODE_BUFFER_SIZE−N .. DECODE_BUFFER_SIZE)` — inside the channel's
    `DECODE_BUFFER_SIZE+overlap` elements (the lowest read index is `2048−960−1025 = 63 ≥ 0`). -/
theorem celt_postfilter_indices_in_bounds {N LM pOld pCur pNew : Int} (hf : LegalFrame N LM) (ho : PeriodOk pOld)
    (hc : PeriodOk pCur) (hn : PeriodOk pNew) (k : PfCall) (hk : k ∈ pfCalls N LM pOld pCur pNew) (g0z g1z gsame : Bool) :
    (k.read g0z g1z gsame).within memLen ∧ (k.write g0z g1z gsame).within memLen ∧
    (k.read g0z g1z gsame).sub (DECODE_BUFFER_SIZE - N - MAX_PERIOD - 1) (DECODE_BUFFER_SIZE - 1) ∧
    (k.write g0z g1z gsame).sub (DECODE_BUFFER_SIZE - N) (DECODE_BUFFER_SIZE - 1) := by
  have h := pfCalls_in_bounds hf ho hc hn k hk g0z g1z gsame
  have hN := legalFrame_cases hf
  have hD : (2048 : Int) = DECODE_BUFFER_SIZE := rfl
  have hM : (1024 : Int) = MAX_PERIOD := rfl
  have hv : (120 : Int) = overlap := rfl
  exact ⟨Ext.sub_within h.1 (by omega) (by unfold memLen; omega), Ext.sub_within h.2 (by omega) (by unfold memLen; omega), h.1, h.2⟩

open Opus.CeltIdx in
/-- Non-vacuity: a 20 ms frame with the extreme periods (old 1022, current 15, new 1022) makes two calls; with all
    gains non-zero the second reads `decode_mem[c][184 .. 2047]` and writes `[1208 .. 2047]`; the lowest index any
    legal combination reaches is 63 (N = 960, first call, period 1023). -/
example : pfCalls 960 3 1022 15 1022 = [⟨1088, 1022, 15, 120, 120⟩, ⟨1208, 15, 1022, 840, 120⟩] ∧
    (PfCall.read ⟨1208, 15, 1022, 840, 120⟩ false false false) = ⟨184, 2047⟩ ∧
    (PfCall.write ⟨1208, 15, 1022, 840, 120⟩ false false false) = ⟨1208, 2047⟩ ∧
    (PfCall.read ⟨1088, 1023, 15, 120, 120⟩ false false false) = ⟨63, 1207⟩ ∧
    LegalFrame 960 3 ∧ PeriodOk 1022 ∧ PeriodOk 0 := by decide

open Opus.CeltIdx Opus.Gen.CeltIdxConsts in
/-- `OPUS_MOVE(decode_mem[c], decode_mem[c]+N, DECODE_BUFFER_SIZE−N+overlap)`
    (:1258-1260) reads and writes inside `decode_mem[c]`; its source ends exactly at the channel buffer's last element. -/
theorem celt_decode_mem_shift_in_bounds {N LM : Int} (hf : LegalFrame N LM) :
    (memMoveSrc N).within memLen ∧ (memMoveDst N).within memLen ∧ (memMoveSrc N).hi = memLen - 1 := by
  have hN := legalFrame_cases hf
  have hD : (2048 : Int) = DECODE_BUFFER_SIZE := rfl
  have hv : (120 : Int) = overlap := rfl
  refine ⟨Or.inr ⟨?_, ?_⟩, Or.inr ⟨?_, ?_⟩, ?_⟩ <;> simp only [memMoveSrc, memMoveDst, memLen] <;> omega

open Opus.CeltIdx in
/-- The period pair the frame leaves in the state (:1308-1319) is again legal. -/
theorem celt_postfilter_period_invariant {LM pOld pCur pNew : Int} (hc : PeriodOk pCur) (hn : PeriodOk pNew) :
    PeriodOk (pfNext LM pOld pCur pNew).1 ∧ PeriodOk (pfNext LM pOld pCur pNew).2 := by
  unfold pfNext
  split
  · exact ⟨hn, hn⟩
  · exact ⟨Or.inr (periodOk_clamp hc), hn⟩

/-! ## Index-safety bridge, second part: celt_synthesis, deemphasis, prefilter_and_fold, celt_decode_lost

  `OpusModel/CeltIdxCalls.lean`: the calls celt_decoder.c makes on its audio buffers (`Call`, compared with the calls
  recorded inside the real decoder: tie lines `celtcalls`), the extent contract of each callee (`Call.accs`; the compiled
  callees are run under the sanitizer on heap blocks holding exactly the contract's elements: tie lines `contract`) and
  the accesses of the loops written inline (hand transcription only).  `Frame.Legal`: `N = 120·2^LM`, `LM ≤ 3`, stream
  and decoder channel counts 1 / 2 in every combination, down-sampling factor 1, 2, 3, 4 or 6, one long or `2^LM` short
  blocks.  `Acc.ok f xl a`: access `a` lies inside its array, whose capacity (`Arr.cap`) is the `ALLOC` / declaration
  size in celt_decoder.c (`decode_mem[c]`: 2168, `lpc`: 24·CC, `freq`, `scratch`: N, `X`: C·N, `pcm`:
  frame_size·CC, `_exc`: 1048, `fir_tmp`: exc_length, `lp_pitch_buf`: 1024, `etmp`: 120, `lpc_mem`: 24, `ac`: 25). -/

open Opus.CeltIdx in
/-- For every legal frame, every access of `celt_synthesis` (:371-460) —
    `denormalise_bands` into `freq` (or, for a stereo stream into a mono decoder, into `out_syn[0]+overlap/2`), the parked
    copy of the spectrum in `out_syn[1]+overlap/2` for a mono stream into a stereo decoder, each `clt_mdct_backward`
    block (input `freq[b], freq[b+B], …`, output `out_syn[c]+NB·b .. +NB+overlap/2`, TDAC over the first `overlap`
    samples), the down-mix and the final saturation — lies inside its array; the highest element written is
    `decode_mem[c][DECODE_BUFFER_SIZE+overlap/2−1]`. -/
theorem celt_synthesis_indices_in_bounds {f : Frame} (hf : f.Legal) {a : Acc}
    (ha : a ∈ (synthCalls f).flatMap Call.accs ++ synthInline f) : a.ok f 0 :=
  synth_ok hf ha

open Opus.CeltIdx in
/-- `deemphasis` (:277-369) with and without down-sampling and accumulation:
    reads `out_syn[c][0 .. N)`, writes `scratch[0 .. N)` and reads `scratch[j·downsample]`, `j < N/downsample`, writes
    (reads, when accumulating) `pcm[c + j·CC]` — all inside `scratch[N]` and the caller's `frame_size·CC` samples. -/
theorem celt_deemphasis_indices_in_bounds {f : Frame} (hf : f.Legal) (accum : Bool) {a : Acc}
    (ha : a ∈ deemphAccs f accum) : a.ok f 0 := by
  have h := all_apply deemph_all hf
  rw [Bool.and_eq_true] at h
  cases accum
  · exact okAll_mem h.1 ha
  · exact okAll_mem h.2 ha

open Opus.CeltIdx in
/-- `prefilter_and_fold` (:507-541) for any post-filter periods the state can
    hold: `comb_filter(etmp, out_syn[c], T_old, T, overlap, …)` reads back at most 1025 samples before `out_syn[c]`
    (lowest index `2048−960−1025 = 63`) and writes `etmp[0 .. overlap)`; the fold writes `out_syn[c][0 .. overlap/2)`. -/
theorem celt_prefilter_fold_indices_in_bounds {f : Frame} (hf : f.Legal) {pOld pCur : Int} (ho : PeriodOk pOld)
    (hc : PeriodOk pCur) {a : Acc} (ha : a ∈ (foldCalls f pOld pCur).flatMap Call.accs ++ foldInline f) : a.ok f 0 :=
  fold_ok hf ho hc ha

open Opus.CeltIdx in
/-- `celt_decode_lost` (:596-962).
    Pitch-based concealment, for every pitch lag in `[PLC_PITCH_LAG_MIN, PLC_PITCH_LAG_MAX] = [100, 720]` (what
    `celt_plc_pitch_search` returns and `VALIDATE_CELT_DECODER` asserts), first or later lost frame: the pitch search
    (`pitch_downsample` over `decode_mem[c][0 .. 2048)` into `lp_pitch_buf[1024]`, `pitch_search` on
    `lp_pitch_buf+360` / `lp_pitch_buf` reaching exactly element 1023 / 973), per channel the excitation copy into
    `_exc[0 .. 1048)`, `_celt_autocorr`, `_celt_lpc` into `lpc[24c ..]`, `celt_fir` from `exc+1024−exc_length−24`
    (≥ `_exc[0]`) into `fir_tmp[exc_length]`, the decay measurement, the buffer shift, the extrapolation writing
    `buf[2048−N .. 2048+overlap)` from `exc[1024−pitch ..]` and reading `buf[2048−N−pitch ..]` (lowest index 368),
    `lpc_mem`, `celt_iir` in place over `N+overlap` samples and the energy check — all inside their arrays.
    Noise-based concealment (frame descriptor with `C = CC`, one long block): the shift, `prefilter_and_fold` when it is
    pending, and the synthesis. -/
theorem celt_plc_indices_in_bounds {f : Frame} (hf : f.Legal) :
    (∀ (pitch : Int) (first : Bool) (a : Acc), PitchOk pitch →
      a ∈ (plcPitchCalls f pitch first).flatMap Call.accs ++ (List.range f.CC.toNat).flatMap (plcPitchInlineCh f pitch) →
      a.ok f (excLen pitch)) ∧
    (f.C = f.CC → f.B = 1 → ∀ (fold : Bool) (pOld pCur : Int) (a : Acc), PeriodOk pOld → PeriodOk pCur →
      a ∈ (plcNoiseCalls f fold pOld pCur).flatMap Call.accs ++ (if fold then foldInline f else []) ++
        synthInline { f with C := f.CC, B := 1 } → a.ok f 0) :=
  ⟨fun _ first _ hp ha => plcPitch_ok hf hp first ha,
   fun hC hB fold _ _ _ ho hc ha => plcNoise_ok hf hC hB fold ho hc ha⟩

open Opus.CeltIdx in
/-- Non-vacuity: a 20 ms transient stereo frame at 8 kHz is legal and makes 2·(1+8) calls; the last MDCT block of a
    channel writes up to `decode_mem[c][2107]` (< 2168); a first lost 20 ms frame with pitch lag 100 filters
    `exc_length = 200` samples starting at `_exc[824]`, with lag 720 it starts at `_exc[0]`. -/
example : Frame.Legal ⟨960, 3, 2, 2, 6, 8⟩ ∧ (synthCalls ⟨960, 3, 2, 2, 6, 8⟩).length = 18 ∧
    (Call.mdct ⟨.freq, 7⟩ 8 ⟨.mem 1, 1928⟩ 120 120).accs.map (·.ext) = [⟨7, 959⟩, ⟨1988, 2107⟩, ⟨1928, 2047⟩, ⟨1928, 2047⟩] ∧
    PitchOk 100 ∧ PitchOk 720 ∧ excLen 100 = 200 ∧ excLen 720 = 1024 ∧
    ((plcPitchCallsCh ⟨960, 3, 1, 1, 1, 1⟩ 100 false 0).head?.map (fun c => c.accs.map (·.ext))) =
      some [⟨824, 1047⟩, ⟨0, 23⟩, ⟨0, 199⟩] ∧
    ((plcPitchCallsCh ⟨960, 3, 1, 1, 1, 1⟩ 720 false 0).head?.map (fun c => c.accs.map (·.ext))) =
      some [⟨0, 1047⟩, ⟨0, 23⟩, ⟨0, 1023⟩] := by decide

/-! ## Index-safety bridge, third part: callee contracts discharged from the callee code

  `OpusModel/CeltCallees.lean` lists, loop by loop, every element the C reference implementations of `celt_fir_c`,
  `celt_iir`, `_celt_autocorr` (with `celt_pitch_xcorr_c`, `xcorr_kernel_c`, `celt_inner_prod_c`), `_celt_lpc` and
  `pitch_downsample` (with `celt_fir5`) touch — argument arrays and local arrays (hand transcription, file:line cited).
  `InB B h`: hit `h` lies inside the bounds `B` gives for its array; an array with bounds `(1, 0)` must not be touched. -/

open Opus.CeltCallees in
/-- For ALL argument values within the routines' own preconditions, every element touched
    lies inside the extent contract the bridge assumes for the routine (`Opus.CeltIdx.Call.accs`, see the examples below)
    and inside the routine's local arrays:
    `celt_fir_c`: `x[−ord .. N)`, `num[0 .. ord)`, `y[0 .. N)`, local `rnum[ord]` (`N ≥ 0`, `ord ≥ 3`);
    `celt_iir`: `x[0 .. N)`, `den[0 .. ord)`, `y[0 .. N)`, `mem[0 .. ord)`, locals `rden[ord]`, `y[N+ord]` (`3 ≤ ord ≤ N`);
    `_celt_autocorr`: `x[0 .. n)`, `ac[0 .. lag]`, `window[0 .. overlap)`, local `xx[n]` (`0 ≤ overlap ≤ n`, `lag ≥ 0`,
    `n − lag ≥ 3`);  `_celt_lpc`: `lpc[0 .. p)`, `ac[0 .. p]`;
    `pitch_downsample`: `x[c][0 .. len)` (second channel only for stereo), `x_lp[0 .. len/2)`, locals `ac[5]`, `lpc[4]`,
    `lpc2[5]` (`len ≥ 14`).  The SIMD variants chosen at run time are covered by the sanitizer probes of the tie. -/
theorem celt_callee_contracts :
    (∀ N ord : Int, 0 ≤ N → 3 ≤ ord → All (InB (firB N ord)) (firHits N ord)) ∧
    (∀ N ord : Int, 3 ≤ ord → ord ≤ N → All (InB (iirB N ord)) (iirHits N ord)) ∧
    (∀ overlap lag n : Int, 0 ≤ overlap ∧ overlap ≤ n → 0 ≤ lag → 3 ≤ n - lag →
      All (InB (acorrB overlap lag n)) (autocorrHits overlap lag n)) ∧
    (∀ p : Int, 0 ≤ p → All (InB (lpcB p)) (lpcHits p)) ∧
    (∀ (len : Int) (stereo : Bool), 14 ≤ len → All (InB (pdownB len stereo)) (pdownHits len stereo)) :=
  ⟨fir_in, iir_in, acorr_in, lpc_in, pdown_in⟩

open Opus.CeltCallees Opus.CeltIdx in
/-- The bounds above are the bridge's contracts (`Call.accs`), read off at pointer offset 0. -/
example (n ord : Int) :
    (Call.fir ⟨.exc, 0⟩ ⟨.lpc, 0⟩ ⟨.fir, 0⟩ n ord).accs.map (fun a => (a.ext.lo, a.ext.hi)) =
      [firB n ord .x, firB n ord .num, firB n ord .y] ∧
    (Call.iir ⟨.mem 0, 0⟩ ⟨.lpc, 0⟩ ⟨.mem 0, 0⟩ n ord ⟨.lpcMem, 0⟩).accs.map (fun a => (a.ext.lo, a.ext.hi)) =
      [iirB n ord .x, iirB n ord .num, iirB n ord .y, iirB n ord .mem, iirB n ord .mem] ∧
    (Call.acorr ⟨.exc, 0⟩ ⟨.ac, 0⟩ 120 ord n).accs.map (fun a => (a.ext.lo, a.ext.hi)) =
      [acorrB 120 ord n .x, acorrB 120 ord n .ac] ∧
    (Call.lpc ⟨.lpc, 0⟩ ⟨.ac, 0⟩ n).accs.map (fun a => (a.ext.lo, a.ext.hi)) = [lpcB n .lpc, lpcB n .ac] ∧
    (Call.pdown ⟨.mem 0, 0⟩ (some ⟨.mem 1, 0⟩) ⟨.lpbuf, 0⟩ n).accs.map (fun a => (a.ext.lo, a.ext.hi)) =
      [pdownB n true .x, pdownB n true .xlp, pdownB n true .xlp, pdownB n true .x1] := by
  simp [Call.accs, rd, wr, firB, iirB, acorrB, lpcB, pdownB]

open Opus.CeltCallees Opus.CeltIdx Opus.Gen.CeltIdxConsts in
/-- …and the arguments celt_decoder.c passes satisfy the preconditions: `celt_fir(…, exc_length ∈ [200, 1024], 24)`,
    `celt_iir(…, N+overlap ≥ 240, 24, …)`, `_celt_autocorr(exc, ac, window, 120, 24, 1024)`, `_celt_lpc(…, 24)`,
    `pitch_downsample(decode_mem, lp_pitch_buf, 2048, C)`. -/
theorem celt_callee_contracts_at_decoder_args (pitch : Int) (hp : PitchOk pitch) (N LM : Int) (hf : LegalFrame N LM)
    (stereo : Bool) :
    All (InB (firB (excLen pitch) CELT_LPC_ORDER)) (firHits (excLen pitch) CELT_LPC_ORDER) ∧
    All (InB (iirB (N + overlap) CELT_LPC_ORDER)) (iirHits (N + overlap) CELT_LPC_ORDER) ∧
    All (InB (acorrB overlap CELT_LPC_ORDER MAX_PERIOD)) (autocorrHits overlap CELT_LPC_ORDER MAX_PERIOD) ∧
    All (InB (lpcB CELT_LPC_ORDER)) (lpcHits CELT_LPC_ORDER) ∧
    All (InB (pdownB DECODE_BUFFER_SIZE stereo)) (pdownHits DECODE_BUFFER_SIZE stereo) := by
  have hN := legalFrame_cases hf
  have h24 : (24 : Int) = CELT_LPC_ORDER := rfl
  have hv : (120 : Int) = overlap := rfl
  have hM : (1024 : Int) = MAX_PERIOD := rfl
  have hD : (2048 : Int) = DECODE_BUFFER_SIZE := rfl
  have h100 : (100 : Int) = PLC_PITCH_LAG_MIN := rfl
  obtain ⟨hp0, hp1⟩ := hp
  exact ⟨fir_in _ _ (by unfold excLen; omega) (by omega), iir_in _ _ (by omega) (by omega),
    acorr_in _ _ _ ⟨by omega, by omega⟩ (by omega) (by omega), lpc_in _ (by omega), pdown_in _ _ (by omega)⟩

open Opus.CeltCallees in
/-- Non-vacuity / tightness: the models do reach the ends of their contracts — `celt_fir_c(…, N = 8, ord = 4)` touches
    `x[-4]` and `x[7]`, `celt_iir(…, 8, 4)` touches its local `y[11]` (size 12) and `_y[7]`, `_celt_autocorr(…, 0, 4, 12)`
    touches `x[11]` and `ac[4]`, `pitch_downsample(…, 16, stereo)` touches `x[1][15]` and `x_lp[7]`. -/
example : (firHits 8 4).any (fun h => h.arr == .x && h.idx == -4) = true ∧ (firHits 8 4).any (fun h => h.arr == .x && h.idx == 7) = true ∧
    (firHits 8 4).length = 46 ∧
    (iirHits 8 4).any (fun h => h.arr == .yloc && h.idx == 11) = true ∧ (iirHits 8 4).any (fun h => h.arr == .y && h.idx == 7) = true ∧
    (autocorrHits 0 4 12).any (fun h => h.arr == .x && h.idx == 11) = true ∧ (autocorrHits 0 4 12).any (fun h => h.arr == .ac && h.idx == 4) = true ∧
    (pdownHits 16 true).any (fun h => h.arr == .x1 && h.idx == 15) = true ∧ (pdownHits 16 true).any (fun h => h.arr == .xlp && h.idx == 7) = true := by
  decide

end OpusProps.C01
