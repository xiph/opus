import OpusProofs.EncSkelWf
import OpusProofs.EncSkelRed
/-
  Property C02 — "Every encoded packet is valid and decodes in lock-step with the encoder".

  Model: the encoder skeleton `Opus.EncSkel.encodeNative` (see OpusProps/C05.lean for what is an oracle and
  what `ok`/`entryCheck` mean), `gen_toc` (`Opus.EncDecide.genToc`), and the packet parser
  `Opus.Framing.parseImpl` that property C06 proves sound and complete against RFC 6716 §3.
  The payload symbol layer (SILK/CELT) is not modelled: final-range equality and decoder sample counts are
  searched on the real library only (tools/props/C02.py, harness/c02_lockstep.c).
-/
namespace OpusProps.C02
open Opus Opus.EncSkel Opus.EncDecide Opus.EncSkel.Proofs

def exSt : St :=
  { fs := 48000, channels := 2, application := 2049, useVbr := 0, userBitrate := 64000, forceChannels := -1000,
    signalType := -1000, userBandwidth := -1000, maxBandwidth := 1105, userForcedMode := -1000, lfe := 0, useDtx := 0,
    fecConfig := 0, variableDuration := 5000, complexity := 9, lossPerc := 0, useInBandFEC := 0, energyMasking := 0,
    streamChannels := 2, mode := 1002, prevMode := 1002, prevChannels := 2, prevFramesize := 960, bandwidth := 1105,
    autoBandwidth := 1105, silkBwSwitch := 0, first := 0, voiceRatio := -1, detectedBandwidth := 0, nbNoActivity := 0,
    nonfinalFrame := 0, bitrateBps := 64000, toMono := 0, lbrrCoded := 0, allowBwSwitch := 0, inWBmode := 0,
    opusCanSwitch := 0, silkUseDtx := 0 }
def exFr (cm : Int) : FrameOr :=
  { aValid := 1, activity := 1, silkBitRateIn := 0, silkRet := 0, nBytes := 0, isr := 0, switchReady := 0, allowBw := 0,
    inWB := 0, tellA := 0, tellB := 0, tellC := 0, tellD := 1, tellE := 1000, stripTo := 0, celtRed1 := 0,
    celtMain := cm, celtRed2 := 0, used1 := 0, used2 := 0 }
def exOr (cm : Int) : NatOr :=
  { isSilence := 0, aValid := 1, aBandwidth := 20, vr0 := 10, vr1 := 10, vr2 := 10, modeVoice := 64000, modeMusic := 10000,
    rands := [], frames := [exFr cm, exFr cm, exFr cm] }

/-- Clause "returns a well-formed Opus packet whose announced duration equals the submitted frame
    size", ToC part: for EVERY legal (mode, frame duration, bandwidth) — SILK 10/20/40/60 ms NB/MB/WB,
    hybrid 10/20 ms SWB/FB, CELT 2.5/5/10/20 ms NB/WB/SWB/FB — both channel counts and all five
    sampling rates, the ToC byte `gen_toc` writes is a byte with code bits 00, and the packet helpers
    read back the mode, the bandwidth, the channel count and `samples_per_frame(Fs) = frame_size`. -/
theorem genToc_roundtrip : ∀ t ∈ tocLegal, ∀ ch ∈ [(1 : Int), 2], ∀ fs ∈ [(8000 : Nat), 12000, 16000, 24000, 48000],
    genToc t.1 t.2.1 t.2.2 ch < 256 ∧ genToc t.1 t.2.1 t.2.2 ch % 4 = 0 ∧
    (Framing.getMode (genToc t.1 t.2.1 t.2.2 ch) : Int) = t.1 ∧
    (Framing.getBandwidth (genToc t.1 t.2.1 t.2.2 ch) : Int) = t.2.2 ∧
    (Framing.getNbChannels (genToc t.1 t.2.1 t.2.2 ch) : Int) = ch ∧
    (Framing.samplesPerFrame (genToc t.1 t.2.1 t.2.2 ch) fs : Int) = spfOf fs t.2.1 :=
  genToc_roundtrip_all

example : (1001, 50, 1105) ∈ tocLegal ∧ genToc 1001 50 1105 2 = 124 ∧ spfOf 48000 50 = 960 := by decide +kernel

/-- Clause "at least two bytes of output space succeeds (one byte is refused only for 100 ms
    frames)", low-budget path: for EVERY sampling rate, frame duration, stale `st->mode` (incl. 0 before
    the first frame), stale `st->bandwidth` (incl. 0), channel count and `out_data_bytes ∈ {1,2,≥3}`:
    the entry check refuses with OPUS_BUFFER_TOO_SMALL exactly for one byte and 100 ms; otherwise the
    ToC-only packet written at :1317-1325 fits `out_data_bytes`, parses (C06 parser), consists of empty
    frames only and announces exactly `frame_size` samples. -/
theorem lowBudget_valid :
    ∀ fs ∈ [(8000 : Nat), 12000, 16000, 24000, 48000], ∀ k ∈ [(1 : Int), 2, 4, 8, 16, 24, 32, 40, 48],
    ∀ mode ∈ [(0 : Int), 1000, 1001, 1002], ∀ bw ∈ [(0 : Int), 1101, 1102, 1103, 1104, 1105], ∀ ch ∈ [(1 : Int), 2],
    ∀ out ∈ [(1 : Int), 2, 3],
      (entryCheck (lowSt fs mode bw ch) (fs / 400 * k) out = some OPUS_BUFFER_TOO_SMALL ↔ (out = 1 ∧ k = 40)) ∧
      (¬ (out = 1 ∧ k = 40) →
        parsesTo (lowHdr0 (lowSt fs mode bw ch) (fs / 400 * k) out) fs (fs / 400 * k) = true ∧
        (lowHdr0 (lowSt fs mode bw ch) (fs / 400 * k) out).length = (lowRet0 (lowSt fs mode bw ch) (fs / 400 * k) out).toNat ∧
        lowRet0 (lowSt fs mode bw ch) (fs / 400 * k) out ≤ out) := by
  intro fs hfs
  have hfs' : (fs : Int) = 8000 ∨ (fs : Int) = 12000 ∨ (fs : Int) = 16000 ∨ (fs : Int) = 24000 ∨ (fs : Int) = 48000 := by
    simp only [List.mem_cons, List.not_mem_nil, or_false] at hfs; omega
  have hq : (fs : Int) = 400 * (fs / 400) ∧ (0 : Int) < fs / 400 := by omega
  clear hfs
  intro k hk mode hmode bw hbw ch _ out hout
  simp only [List.mem_cons, List.not_mem_nil, or_false] at hk
  have hmode' : mode = 0 ∨ (1000 ≤ mode ∧ mode ≤ 1002) := by
    simp only [List.mem_cons, List.not_mem_nil, or_false] at hmode; omega
  have hbw' : bw = 0 ∨ (1101 ≤ bw ∧ bw ≤ 1105) := by
    simp only [List.mem_cons, List.not_mem_nil, or_false] at hbw; omega
  have hout' : 1 ≤ out := by
    simp only [List.mem_cons, List.not_mem_nil, or_false] at hout; omega
  exact lowBudget_valid_of (lowSt fs mode bw ch) fs (fs / 400) k out rfl hq.2 hq.1 hfs' hk hmode' hbw' hout'

example : lowHdr0 (lowSt 48000 1002 1105 2) 4800 3 = [0xFF, 5] ∧ parsesTo [0xFF, 5] 48000 4800 = true := by decide +kernel

/-- Clause "no call ever fails with an internal error": for all oracle behaviours within the contracts,
    all settings/states within `stOk`, legal frame sizes and `out_data_bytes ≥ 1` (not 1 byte for
    100 ms), NONE of the compiled OPUS_INTERNAL_ERROR sites of `opus_encode_native` /
    `opus_encode_frame_native` (:1333, :1739, :1748, :1756, :2114, :2317, :2371, :2410, :2521) is
    reached, nor the OPUS_BUFFER_TOO_SMALL of :2455, nor any `celt_assert` of the skeleton (:2019, :2127,
    `ec_enc_shrink`): the call returns a length `1 ≤ ret ≤ out_data_bytes`.  (The contracts used:
    silk_Encode returns 0; celt_encode_with_ec succeeds when given ≥ 2 bytes — the theorem shows it is
    never given fewer; SILK keeps its internal rate inside one packet, so `opus_repacketizer_cat`
    accepts every sub-frame; range-coder occupancy ≤ ec_tell.) -/
theorem no_internal_error (s : St) (fuzz : Bool) (fsz out : Int) (o : NatOr)
    (he : entryCheck s fsz out = none) (hok : (encodeNative s fuzz fsz out o).ok = true) :
    (encodeNative s fuzz fsz out o).abort = false ∧ 1 ≤ (encodeNative s fuzz fsz out o).ret ∧
    (encodeNative s fuzz fsz out o).ret ≤ out ∧ (encodeNative s fuzz fsz out o).ret ≠ OPUS_INTERNAL_ERROR := by
  have h := encodeNative_post s fuzz fsz out o he hok
  have := h.retLo
  exact ⟨h.noAbort, h.retLo, h.retHi, by simp only [OPUS_INTERNAL_ERROR]; omega⟩

example : entryCheck (lowSt 48000 1002 1105 2) 960 100 = none := by decide +kernel

/-- Clause "returns a well-formed Opus packet", repacketised / padded packets: whatever the
    repacketiser contract `outRange` emits — the model of `opus_repacketizer_out_range_impl` as the
    encoder calls it for multi-frame packets (:1753) and, through `opus_packet_pad`, for every CBR
    packet (:2518, :1329) — i.e. codes 0/1/2/3, CBR or VBR, with or without padding: for ANY frame
    contents of the recorded lengths, `header ++ frames ++ zero padding` is accepted by the packet
    parser (the C06 model, proved sound and complete for RFC 6716), which reports exactly those frame
    sizes and the same ToC configuration and consumes exactly `size` bytes. -/
theorem repack_output_parses (cfg : Nat) (lens : List Nat) (maxlen : Nat) (pad : Bool) (r : OutRes) (frames : List Bytes)
    (hfl : frames.map List.length = lens) (h4 : cfg % 4 = 0) (hcfg : cfg < 256)
    (hall : ∀ l ∈ lens, l ≤ 1275) (hdur : FramingSpec.frameDur48 cfg * lens.length ≤ 5760)
    (h : outRange cfg lens maxlen pad = .ok r) :
    ∃ v, Framing.parseImpl false (pktBytes r.hdr frames r.size) = .ok v ∧ v.sizes = lens ∧
      v.count = lens.length ∧ v.toc / 4 * 4 = cfg ∧ v.packetOffset = (pktBytes r.hdr frames r.size).length :=
  let ⟨v, h1, h2, h3, h4', h5, h6, _⟩ := outRange_view cfg lens maxlen pad r frames hfl h4 hcfg hall hdur h
  ⟨v, h1, h2, h3, h4', h5.trans h6.symm⟩

/-- three 20 ms CELT frames of 3, 0 and 300 bytes padded to 400 bytes (code 3, VBR, padding). -/
example : outRange 252 [3, 0, 300] 400 true = .ok { size := 400, hdr := [255, 195, 92, 3, 0] } ∧
    FramingSpec.frameDur48 252 * 3 ≤ 5760 := by decide +kernel

/-- Clause "returns a well-formed Opus packet whose announced duration equals the submitted frame
    size": for all oracle behaviours within the contracts, all settings/states within
    `stOk`, all legal frame sizes and all `out_data_bytes` (not 1 byte for 100 ms), on EVERY return path
    (low-budget ToC-only packet, single frame VBR/CBR/DTX, repacketised multi-frame packet) and for ANY
    frame contents of the recorded lengths: the emitted bytes `header ++ frames ++ zero padding` are
    accepted by `opus_packet_parse_impl` (the C06 model, proved sound and complete for RFC 6716), which
    reports exactly those frame sizes, announces `count · samples_per_frame(Fs) = frame_size`, and consumes
    exactly `ret` bytes — the whole packet, with `1 ≤ ret ≤ out_data_bytes`. -/
theorem encode_wellformed (s : St) (fuzz : Bool) (fsz out : Int) (o : NatOr)
    (he : entryCheck s fsz out = none) (hok : (encodeNative s fuzz fsz out o).ok = true)
    (frames : List Bytes) (hfl : frames.map List.length = (encodeNative s fuzz fsz out o).pkt.lens) :
    (1 ≤ (encodeNative s fuzz fsz out o).ret ∧ (encodeNative s fuzz fsz out o).ret ≤ out) ∧
    ∃ v, Framing.parseImpl false
        (pktBytes (encodeNative s fuzz fsz out o).pkt.hdr frames (encodeNative s fuzz fsz out o).pkt.size) = .ok v ∧
      v.sizes = (encodeNative s fuzz fsz out o).pkt.lens ∧
      (v.count : Int) * Framing.samplesPerFrame v.toc s.fs.toNat = fsz ∧
      (v.packetOffset : Int) = (encodeNative s fuzz fsz out o).ret ∧
      (pktBytes (encodeNative s fuzz fsz out o).pkt.hdr frames (encodeNative s fuzz fsz out o).pkt.size).length =
        v.packetOffset := by
  have h := encodeNative_post s fuzz fsz out o he hok
  refine ⟨⟨h.retLo, h.retHi⟩, ?_⟩
  clear h
  have hp := encodeNative_pkt s fuzz fsz out o he hok
  generalize encodeNative s fuzz fsz out o = r at *
  obtain ⟨⟨maxlen, pad, hout⟩, hsize, h4, h256, hlens, hd48, hdur⟩ := hp
  obtain ⟨v, hv, hs, hc, -, hpo, hlen, -, hspf⟩ := outRange_view r.pkt.tocCfg r.pkt.lens maxlen pad _ frames hfl h4 h256 hlens hd48 hout
  exact ⟨v, hv, hs, by rw [hspf, hc]; exact hdur, by rw [hpo]; exact hsize, by rw [hlen, hpo]⟩

/-- 64 kb/s CBR, 60 ms, 48 kHz stereo: three CELT frames, header FF 43 03 (code 3, CBR, padding). -/
example : (encodeNative OpusProps.C02.exSt false 2880 4000 (OpusProps.C02.exOr 158)).ok = true ∧
    (encodeNative OpusProps.C02.exSt false 2880 4000 (OpusProps.C02.exOr 158)).pkt.lens = [158, 158, 158] ∧
    (encodeNative OpusProps.C02.exSt false 2880 4000 (OpusProps.C02.exOr 158)).pkt.hdr = [255, 67, 3] := by
  decide +kernel

/-- `redundancy_mirror`, SILK-only mode (P1).  Part 1: whenever the frame skeleton
    `frameNative s fi e` — under its oracle contracts `frameOk` — signalled redundancy in SILK-only mode
    (`frRedSig` returned `redundancy = true`) and returned a packet (`ret ≥ 1`, not the DTX return, range coder not
    busted), then (a) the frame it emits has exactly `⌈tellB/8⌉ + redundancy_bytes` payload bytes
    (`(frameNative s fi e).payload`, what reaches `opus_decode_frame` as `len`), and (b) given C08's lock-step of the
    single flag bit (the decoder reads `celt_to_silk` back at the same `ec_tell`), the decoder skeleton
    `parseRedundancy` (opus_decoder.c:475-503) run ON THAT PAYLOAD LENGTH recovers
    `(redundancy, celt_to_silk, redundancy_bytes) = (1, celt_to_silk, rb)` and the SILK part's length — with NO
    decoder-side hypothesis.  In particular the corner "redundancy_bytes = 2, the flag bit cost no whole bit, ec_tell ≡ 0
    (mod 8)", where the decoder's length test `ec_tell+17 ≤ 8·len` would miss what the encoder's budget test
    `ec_tell+17 ≤ 8·(max_data_bytes−1)` admitted, is arithmetically impossible (`silk_gate_agrees`; the byte count
    the clamp of :2255-2256 starts from is ≥ 13, `mid_rb_ge`).  Part 2: without redundancy the SILK-only frame ends
    with the coded bits (`len ≤ ⌈ec_tell/8⌉`), so the decoder reads none. -/
theorem redundancy_mirror_silk :
    (∀ (s : St) (fi : FrameIn) (e : FrameOr) (x : Mid) (o : DecSkel.Oracle) (r : DecSkel.Run) (c2s : Bool),
      1 ≤ s.streamChannels ∧ s.streamChannels ≤ 2 → frSilk fi (frPre s fi) e = .cont x →
      x.st.mode = MODE_SILK_ONLY → (frRedSig fi x e).1 = true → frameOk s fi e = true →
      (frameNative s fi e).dtx = false → 1 ≤ (frameNative s fi e).ret → e.tellE ≤ (fi.maxDataBytes - 1) * 8 →
      o.bit r.k 1 e.tellA = (b2i c2s, e.tellB) →
      (frameNative s fi e).payload = (e.tellB + 7) / 8 + (frRedSig fi x e).2.1 ∧
      (DecSkel.parseRedundancy o DecSkel.MODE_SILK (frameNative s fi e).payload e.tellA r).1 =
        { redundancy := 1, celt_to_silk := b2i c2s, bytes := (frRedSig fi x e).2.1, len := (e.tellB + 7) / 8,
          tell := e.tellB }) ∧
    (∀ (o : DecSkel.Oracle) (r : DecSkel.Run) (len tellA : Int), len ≤ (tellA + 7) / 8 →
      (DecSkel.parseRedundancy o DecSkel.MODE_SILK len tellA r).1 =
        { redundancy := 0, celt_to_silk := 0, bytes := 0, len := len, tell := tellA }) := by
  refine ⟨?_, fun o r len tellA h => redundancy_mirror_silk_none o r len tellA h⟩
  intro s fi e x o r c2s hch hx hmode hred hok hdtx hret hbust h1
  have hxr := (frRedSig_true fi x e hred).2.1
  have h13 := mid_rb_ge s fi e x hch hx hxr
  have hmono := (silk_red_tells s fi e x hx hmode hred hok).1
  have hpay := silk_red_payload s fi e x hx hmode hred hok hdtx hret
  rw [hpay]
  exact ⟨rfl, redundancy_mirror_silk_full fi x e o r c2s hmode (by omega) hred hmono h1⟩

/-- Decoder side only (NO encoder in this statement): what `parseRedundancy` computes in hybrid mode when its own gate
    passes on a frame of `len` bytes and the three symbols it reads are `red`, `c2s`, `rb − 2`.
    `redundancy_mirror_hybrid_cbr` derives `hgate` / `hsane` from the encoder; for hybrid VBR they are not derived. -/
theorem hybrid_redundancy_parse (o : DecSkel.Oracle) (r : DecSkel.Run) (len tellA tell1 tellB tellU rb : Int)
    (red c2s : Bool) (hgate : tellA + 17 + 20 ≤ 8 * len) (h1 : o.bit r.k 12 tellA = (b2i red, tell1))
    (h2 : red = true → o.bit r.tick.k 1 tell1 = (b2i c2s, tellB))
    (h3 : red = true → o.uint r.tick.tick.k 256 tellB = (rb - 2, tellU))
    (hsane : red = true → tellU ≤ (len - rb) * 8) :
    (DecSkel.parseRedundancy o DecSkel.MODE_HYBRID len tellA r).1 =
      { redundancy := b2i red, celt_to_silk := if red then b2i c2s else 0, bytes := if red then rb else 0,
        len := if red then len - rb else len, tell := if red then tellU else tell1 } := by
  unfold DecSkel.parseRedundancy
  simp only [if_true]
  rw [if_pos (by omega), h1]
  cases red
  · simp [b2i]
  · have h2' := h2 rfl
    have h3' := h3 rfl
    have hs := hsane rfl
    simp only [b2i, if_true]
    rw [if_pos (by decide)]
    unfold DecSkel.redTail
    simp only [if_true]
    rw [h2', h3']
    unfold DecSkel.redFinish
    dsimp only
    rw [if_neg (by omega)]
    simp [b2i]

/-- `redundancy_mirror`, hybrid mode with VBR off.  Whenever the frame skeleton `frameNative s fi e` — under its oracle
    contracts `frameOk`, which include "with VBR off the main CELT call returns exactly its budget" (CBR with
    OPUS_BITRATE_MAX, opus_encoder.c:2176/:2327; monitored on every recorded call) — signalled redundancy in hybrid mode
    and returned a packet, then (a) the frame it emits has exactly `max_data_bytes − 1` payload bytes, so the
    decoder's gate `ec_tell+37 ≤ 8·len` IS the encoder's gate of :2236, and (b) given C08's lock-step of the three
    symbols (`bit_logp(1,12)` at `tellA`, `bit_logp(celt_to_silk,1)` ending at `tellB`, `uint(rb−2,256)` ending at
    `tellD`: the decoder reads them back at the same `ec_tell`s), `parseRedundancy` run ON THAT PAYLOAD LENGTH recovers
    `(1, celt_to_silk, redundancy_bytes)` and leaves `max_data_bytes − 1 − rb` bytes for the main frame — with NO
    decoder-side hypothesis (the decoder's sanity test `ec_tell ≤ 8·(len−rb)` follows from the encoder's `tellD ≤
    8·nb_compr_bytes`, which made the main CELT call run). -/
theorem redundancy_mirror_hybrid_cbr (s : St) (fi : FrameIn) (e : FrameOr) (x : Mid) (o : DecSkel.Oracle)
    (r : DecSkel.Run) (c2s : Bool) (tell1 : Int)
    (hx : frSilk fi (frPre s fi) e = .cont x) (hmode : x.st.mode = MODE_HYBRID) (hcbr : x.st.useVbr = 0)
    (hred : (frRedSig fi x e).1 = true) (hok : frameOk s fi e = true)
    (hdtx : (frameNative s fi e).dtx = false) (hret : 1 ≤ (frameNative s fi e).ret)
    (hbust : e.tellE ≤ (fi.maxDataBytes - 1) * 8)
    (h1 : o.bit r.k 12 e.tellA = (1, tell1))
    (h2 : o.bit r.tick.k 1 tell1 = (b2i c2s, e.tellB))
    (h3 : o.uint r.tick.tick.k 256 e.tellB = ((frRedSig fi x e).2.1 - 2, e.tellD)) :
    (frameNative s fi e).payload = fi.maxDataBytes - 1 ∧
    (DecSkel.parseRedundancy o DecSkel.MODE_HYBRID (frameNative s fi e).payload e.tellA r).1 =
      { redundancy := 1, celt_to_silk := b2i c2s, bytes := (frRedSig fi x e).2.1,
        len := fi.maxDataBytes - 1 - (frRedSig fi x e).2.1, tell := e.tellD } := by
  obtain ⟨hpay, hgate, -, -, htd⟩ := hybrid_cbr_payload s fi e x hx hmode hcbr hred hok hdtx hret hbust
  refine ⟨hpay, ?_⟩
  rw [hpay]
  have h := hybrid_redundancy_parse o r (fi.maxDataBytes - 1) e.tellA tell1 e.tellB e.tellD (frRedSig fi x e).2.1 true c2s
    hgate (by simpa [b2i] using h1) (fun _ => h2) (fun _ => h3) (fun _ => by omega)
  simpa [b2i] using h

/- NOT PROVED (design §7.C02 `redundancy_mirror`, hybrid mode with VBR on): there the length of the frame depends on
   what `celt_encode_with_ec` returns in VBR mode; the decoder's gate needs CELT's `min_allowed` (celt_encoder.c:2303-2318:
   `ec_tell_before + 37 ≤ 8·(ret + redundancy_bytes)`) and its sanity test `ec_tell ≤ 8·ret`, neither of which is a contract
   of the skeleton.  What IS proved for that case is only the decoder side, `hybrid_redundancy_parse`. -/

/-! non-vacuity of `redundancy_mirror_silk` part 1: 16 kHz mono, SILK-only after a CELT frame (`celt_to_silk`), 20 ms,
    23 kb/s, 200 bytes of space; SILK ends at bit 300, the flag costs one bit → 38 coded bytes + 30 redundancy bytes -/
def exSilkSt : St :=
  { fs := 16000, channels := 1, application := 2048, useVbr := 1, userBitrate := 23000, forceChannels := -1000,
    signalType := -1000, userBandwidth := -1000, maxBandwidth := 1103, userForcedMode := -1000, lfe := 0, useDtx := 0,
    fecConfig := 0, variableDuration := 5000, complexity := 9, lossPerc := 0, useInBandFEC := 0, energyMasking := 0,
    streamChannels := 1, mode := 1000, prevMode := 1002, prevChannels := 1, prevFramesize := 320, bandwidth := 1103,
    autoBandwidth := 1103, silkBwSwitch := 0, first := 0, voiceRatio := -1, detectedBandwidth := 0, nbNoActivity := 0,
    nonfinalFrame := 0, bitrateBps := 23000, toMono := 0, lbrrCoded := 0, allowBwSwitch := 0, inWBmode := 0,
    opusCanSwitch := 0, silkUseDtx := 0 }
def exSilkFi : FrameIn :=
  { frameSize := 320, maxDataBytes := 200, isSilence := 0, redundancy := true, celtToSilk := true, prefill := 1,
    equivRate := 23000, toCelt := false }
def exSilkOr : FrameOr :=
  { aValid := 1, activity := 1, silkBitRateIn := 0, silkRet := 0, nBytes := 38, isr := 16000, switchReady := 0, allowBw := 0,
    inWB := 1, tellA := 300, tellB := 301, tellC := 301, tellD := 301, tellE := 301, stripTo := 38, celtRed1 := 30,
    celtMain := 0, celtRed2 := 0, used1 := 0, used2 := 0 }
example : (match frSilk exSilkFi (frPre exSilkSt exSilkFi) exSilkOr with
      | .cont x => decide (x.st.mode = MODE_SILK_ONLY ∧ frRedSig exSilkFi x exSilkOr = (true, 30, x.st))
      | .done _ => false) = true ∧
    frameOk exSilkSt exSilkFi exSilkOr = true ∧
    (frameNative exSilkSt exSilkFi exSilkOr).dtx = false ∧ (frameNative exSilkSt exSilkFi exSilkOr).ret = 69 ∧
    (frameNative exSilkSt exSilkFi exSilkOr).payload = (301 + 7) / 8 + 30 ∧
    exSilkOr.tellE ≤ (exSilkFi.maxDataBytes - 1) * 8 := by
  decide +kernel

/-! non-vacuity of `redundancy_mirror_hybrid_cbr`: 48 kHz mono hybrid FB, 64 kb/s CBR, 20 ms, 160 bytes, last hybrid frame
    before CELT-only (`to_celt`): SILK ends at bit 200, the three symbols end at bit 221, 36 redundancy bytes, CELT
    returns its whole budget 159 − 36 = 123 → payload 159 = max_data_bytes − 1 -/
def exHybSt : St :=
  { fs := 48000, channels := 1, application := 2049, useVbr := 0, userBitrate := 64000, forceChannels := -1000,
    signalType := -1000, userBandwidth := -1000, maxBandwidth := 1105, userForcedMode := -1000, lfe := 0, useDtx := 0,
    fecConfig := 0, variableDuration := 5000, complexity := 9, lossPerc := 0, useInBandFEC := 0, energyMasking := 0,
    streamChannels := 1, mode := 1001, prevMode := 1001, prevChannels := 1, prevFramesize := 960, bandwidth := 1105,
    autoBandwidth := 1105, silkBwSwitch := 0, first := 0, voiceRatio := -1, detectedBandwidth := 0, nbNoActivity := 0,
    nonfinalFrame := 0, bitrateBps := 64000, toMono := 0, lbrrCoded := 0, allowBwSwitch := 0, inWBmode := 0,
    opusCanSwitch := 0, silkUseDtx := 0 }
def exHybFi : FrameIn :=
  { frameSize := 960, maxDataBytes := 160, isSilence := 0, redundancy := true, celtToSilk := false, prefill := 0,
    equivRate := 64000, toCelt := true }
def exHybOr : FrameOr :=
  { aValid := 1, activity := 1, silkBitRateIn := 0, silkRet := 0, nBytes := 25, isr := 16000, switchReady := 0, allowBw := 0,
    inWB := 1, tellA := 200, tellB := 213, tellC := 0, tellD := 221, tellE := 1200, stripTo := 0, celtRed1 := 0,
    celtMain := 123, celtRed2 := 36, used1 := 27, used2 := 100 }
example : (match frSilk exHybFi (frPre exHybSt exHybFi) exHybOr with
      | .cont x => decide (x.st.mode = MODE_HYBRID ∧ x.st.useVbr = 0 ∧ frRedSig exHybFi x exHybOr = (true, 36, x.st))
      | .done _ => false) = true ∧
    frameOk exHybSt exHybFi exHybOr = true ∧
    (frameNative exHybSt exHybFi exHybOr).dtx = false ∧ (frameNative exHybSt exHybFi exHybOr).ret = 160 ∧
    (frameNative exHybSt exHybFi exHybOr).payload = 159 ∧ exHybOr.tellE ≤ (exHybFi.maxDataBytes - 1) * 8 := by
  decide +kernel

/-- the corner, concretely: SILK part ends at bit 64 (≡ 0 mod 8), flag costs 0 bits.  With a budget of 11 bytes
    (`max_redundancy = 10 − 8 = 2`) the encoder's gate `64+17 ≤ 80` fails; with the smallest budget that passes
    (12 bytes) three bytes of redundancy are available. -/
example : ¬ ((64 : Int) + 17 ≤ 8 * (11 - 1)) ∧ (64 : Int) + 17 ≤ 8 * (12 - 1) ∧
    min 257 (max 2 (min ((12 - 1) - (64 + 7) / 8) 13)) = (3 : Int) := by decide

/-- the hypotheses `hgate`, `hsane` of `hybrid_redundancy_parse` for a 100-byte hybrid frame whose SILK part ends at
    bit 200, the three symbols at bit 221, 30 redundancy bytes. -/
example : (200 : Int) + 17 + 20 ≤ 8 * 100 ∧ (213 + 8 : Int) ≤ (100 - 30) * 8 := by decide

end OpusProps.C02
