import OpusProofs.EncSkelRanges
/-
  OpusProps.C05Ranges — property C05: "no 32-bit overflow" in the integer budget arithmetic of the
  encoder.  The C05 skeleton computes with unbounded `Int`; the C code forms the same expressions in `int` /
  `opus_int32`.  Each theorem below says, for one C function / block: on the domain the API admits, EVERY intermediate
  value the C expression forms (the trace of `OpusModel/EncSkelRanges.lean`, file:line cited there; the suite op `encskel ranges` compares
  it entry by entry with the C side) is representable in 32 bits — so the unbounded reading and the C reading coincide
  (no wrap, no signed-overflow UB) — and, where the trace has the model function's value as its last entry, says so.
  The `example` after a theorem is its witness: the hypotheses can be met, and the bound stated is attained.
-/
namespace OpusProps.C05Ranges
open Opus Opus.EncDecide Opus.EncSkel Opus.EncSkel.Proofs

/-- `user_bitrate_to_bitrate` (opus_encoder.c:686-695): for every state the ctl layer admits (`stOk`), every legal frame
    size (2.5..120 ms) and `max_data_bytes = IMIN(1276, out_data_bytes) ≥ 1`, all intermediates (`60*Fs`,
    `max_data_bytes*8*Fs`, …) fit `int`; the last trace entry is the model function, which lies in 1..4 083 200. -/
theorem user_bitrate_fits (s : St) (fsz m : Int) (h : stOk s = true) (hl : legalFrame s.fs fsz = true)
    (hm : 1 ≤ m ∧ m ≤ 1276) :
    (∀ x ∈ ubTrace s fsz m, Fits32 x) ∧ (ubTrace s fsz m).getLast? = some (userBitrateToBitrate s fsz m) ∧
    1 ≤ userBitrateToBitrate s fsz m ∧ userBitrateToBitrate s fsz m ≤ 4083200 :=
  let ⟨hfs, hch, hub⟩ := stOk_domain s h
  let ⟨h1, h2⟩ := ubTrace_fits s fsz m (frameRate_range s.fs fsz (by omega) hl) hch hub hm
  ⟨h1, by simp [ubTrace], h2⟩

example : ∃ s : St, stOk s = true ∧ legalFrame s.fs 120 = true ∧ s.userBitrate = OPUS_BITRATE_MAX ∧
    userBitrateToBitrate s 120 1276 = 4083200 :=
  ⟨{ (default : St) with fs := 48000, channels := 2, userBitrate := OPUS_BITRATE_MAX, userForcedMode := OPUS_AUTO, userBandwidth := OPUS_AUTO, maxBandwidth := BW_FB, forceChannels := OPUS_AUTO, streamChannels := 2, bandwidth := BW_FB, mode := MODE_HYBRID },
   by decide, by decide, rfl, by decide⟩

/-- The CBR sizing block (opus_encoder.c:1258-1264: `frame_rate12`, `12*bitrate/8`, `cbr_bytes`,
    `cbr_bytes*frame_rate12*8/12`): for a bit-rate in 0..4 083 200 (what `user_bitrate_fits` guarantees) every
    intermediate fits; `0 ≤ cbr_bytes ≤ max_data_bytes` and the CBR bit-rate stays in 0..4 083 200. -/
theorem cbr_sizing_fits (fs fsz b m : Int)
    (hfs : fs = 8000 ∨ fs = 12000 ∨ fs = 16000 ∨ fs = 24000 ∨ fs = 48000) (hl : legalFrame fs fsz = true)
    (hb : 0 ≤ b ∧ b ≤ 4083200) (hm : 1 ≤ m ∧ m ≤ 1276) :
    (∀ x ∈ cbrTrace fs fsz b m, Fits32 x) ∧ 0 ≤ cbrBytes fs fsz b m ∧ cbrBytes fs fsz b m ≤ m ∧
    0 ≤ cbrBytes fs fsz b m * (12 * fs / fsz) * 8 / 12 ∧ cbrBytes fs fsz b m * (12 * fs / fsz) * 8 / 12 ≤ 4083200 :=
  cbrTrace_fits fs fsz b m (frameRate_range fs fsz (by omega) hl) hb hm

example : legalFrame 48000 120 = true ∧ cbrBytes 48000 120 4083200 1276 = 1276 := by decide

/-- The trace of the CBR block cannot drift from the skeleton: its last entry is `sizeBudget`'s `bitrate_bps`, entries 8
    and 9 are `cbr_bytes` and the new `max_data_bytes`. -/
theorem cbr_sizing_is_model (s : St) (fsz out : Int) (hv : s.useVbr = 0) :
    let m := min 1276 out
    let t := cbrTrace s.fs fsz (userBitrateToBitrate s fsz m) m
    t.getLast? = some (sizeBudget s fsz out).bitrateBps ∧ t[8]? = some (sizeBudget s fsz out).cbr ∧
    t[9]? = some (sizeBudget s fsz out).maxDataBytes := by
  simp [cbrTrace, sizeBudget, hv]

example : ∃ s : St, s.useVbr = 0 := ⟨default, rfl⟩

/-- The low-budget gate and `max_rate` (opus_encoder.c:1271-1272, :1338: `3*frame_rate*8`,
    `max_data_bytes*frame_rate`, `frame_rate*max_data_bytes*8`) fit for every budget of 1..1276 bytes. -/
theorem gate_maxrate_fits (fs fsz : Int) (b : SizeBudget)
    (hfs : fs = 8000 ∨ fs = 12000 ∨ fs = 16000 ∨ fs = 24000 ∨ fs = 48000) (hl : legalFrame fs fsz = true)
    (hm : 1 ≤ b.maxDataBytes ∧ b.maxDataBytes ≤ 1276) :
    ∀ x ∈ gateTrace fs fsz b, Fits32 x :=
  gateTrace_fits fs fsz b (frameRate_range fs fsz (by omega) hl) hm

example : legalFrame 48000 120 = true ∧ gateTrace 48000 120 ⟨4083200, -1, 1276⟩ = [400, 1200, 9600, 510400, 4083200] := by
  decide

/-- `compute_equiv_rate` (opus_encoder.c:966-997): bit-rate 0..4 083 200, 1-2 channels, frame rate 8..400 Hz,
    complexity 0..10, loss 0..100 (the ctl ranges), any `vbr` / `mode`: every intermediate of all three mode branches
    fits; the last trace entry is the model function, within ±4 083 200. -/
theorem equiv_rate_fits (bitrate channels frameRate vbr mode complexity loss : Int)
    (hb : 0 ≤ bitrate ∧ bitrate ≤ 4083200) (hch : 1 ≤ channels ∧ channels ≤ 2)
    (hfr : 8 ≤ frameRate ∧ frameRate ≤ 400) (hcx : 0 ≤ complexity ∧ complexity ≤ 10)
    (hlo : 0 ≤ loss ∧ loss ≤ 100) :
    (∀ x ∈ erTrace bitrate channels frameRate vbr mode complexity loss, Fits32 x) ∧
    (erTrace bitrate channels frameRate vbr mode complexity loss).getLast? =
      some (computeEquivRate bitrate channels frameRate vbr mode complexity loss) ∧
    -4083200 ≤ computeEquivRate bitrate channels frameRate vbr mode complexity loss ∧
    computeEquivRate bitrate channels frameRate vbr mode complexity loss ≤ 4083200 := by
  -- the trace has the product in this order, `mul_abs_le` in the other (`omega` takes it as an atom)
  have hpm : (40 * channels + 20) * (frameRate - 50) = (frameRate - 50) * (40 * channels + 20) := Int.mul_comm _ _
  have hpb := mul_abs_le (frameRate - 50) (40 * channels + 20) 350 100 ⟨by omega, by omega⟩ ⟨by omega, by omega⟩
  obtain ⟨e1, he1⟩ : ∃ e1, e1 = if frameRate > 50 then bitrate - (40 * channels + 20) * (frameRate - 50) else bitrate :=
    ⟨_, rfl⟩
  have h1 : -4083200 ≤ e1 ∧ e1 ≤ 4083200 := by
    rw [he1]; split
    · have : 0 ≤ (frameRate - 50) * (40 * channels + 20) := Int.mul_nonneg (by omega) (by omega)
      omega
    · omega
  have h12 := cdiv_bounds e1 12 (by omega)
  have b12 := cdiv_abs_le e1 12 4083200 (by omega) h1
  obtain ⟨e2, he2⟩ : ∃ e2, e2 = if vbr = 0 then e1 - cdiv e1 12 else e1 := ⟨_, rfl⟩
  have h2 : -4083200 ≤ e2 ∧ e2 ≤ 4083200 := by
    rw [he2]; split
    · rcases Int.le_total 0 e1 with h | h
      · have := h12.1 h; omega
      · have := h12.2 h; omega
    · exact h1
  obtain ⟨s3a, h3, -⟩ := scale_step e2 (90 + complexity) 100 h2 ⟨by omega, by omega⟩ (by omega) (by omega)
  obtain ⟨e3, he3⟩ : ∃ e3, e3 = cdiv (e2 * (90 + complexity)) 100 := ⟨_, rfl⟩
  rw [← he3] at h3
  obtain ⟨s4a, b4, -⟩ := scale_step e3 4 5 h3 ⟨by omega, by omega⟩ (by omega) (by omega)
  obtain ⟨e4, he4⟩ : ∃ e4, e4 = if complexity < 2 then cdiv (e3 * 4) 5 else e3 := ⟨_, rfl⟩
  have h4 : -4083200 ≤ e4 ∧ e4 ≤ 4083200 := by
    rw [he4]; split
    · exact b4
    · exact h3
  obtain ⟨s5a, b5, r5⟩ := scale_step e4 loss (6 * loss + 10) h4 ⟨by omega, by omega⟩ (by omega) (by omega)
  obtain ⟨s6a, b6, -⟩ := scale_step e3 9 10 h3 ⟨by omega, by omega⟩ (by omega) (by omega)
  obtain ⟨s7a, b7, r7⟩ := scale_step e3 loss (12 * loss + 20) h3 ⟨by omega, by omega⟩ (by omega) (by omega)
  have hlast : computeEquivRate bitrate channels frameRate vbr mode complexity loss =
      if mode = MODE_SILK_ONLY ∨ mode = MODE_HYBRID then e4 - cdiv (e4 * loss) (6 * loss + 10)
      else if mode = MODE_CELT_ONLY then (if complexity < 5 then cdiv (e3 * 9) 10 else e3)
      else e3 - cdiv (e3 * loss) (12 * loss + 20) := by
    subst he4 he3 he2 he1; rfl
  have hret : -4083200 ≤ computeEquivRate bitrate channels frameRate vbr mode complexity loss ∧
      computeEquivRate bitrate channels frameRate vbr mode complexity loss ≤ 4083200 := by
    rw [hlast]; split
    · exact r5
    · split
      · split
        · exact b6
        · exact h3
      · exact r7
  refine ⟨?_, erTrace_last bitrate channels frameRate vbr mode complexity loss, hret⟩
  simp only [erTrace, List.forall_mem_cons, List.not_mem_nil, false_imp_iff, implies_true, and_true, Fits32] at s3a s4a s5a s6a s7a ⊢
  rw [← he1, ← he2, ← he3, ← he4]
  omega

example : computeEquivRate 4083200 2 400 0 MODE_SILK_ONLY 10 100 = 3102514 := by decide

/-- `compute_redundancy_bytes` (opus_encoder.c:1085-1111): budget 1..1276 bytes, bit-rate 0..4 083 200, frame rate 8..400,
    1-2 channels: every intermediate fits; the last trace entry is the model function, in 0..257. -/
theorem redundancy_bytes_fits (m br fr ch : Int) (hm : 1 ≤ m ∧ m ≤ 1276) (hb : 0 ≤ br ∧ br ≤ 4083200)
    (hfr : 8 ≤ fr ∧ fr ≤ 400) (hch : 1 ≤ ch ∧ ch ≤ 2) :
    (∀ x ∈ rbTrace m br fr ch, Fits32 x) ∧ (rbTrace m br fr ch).getLast? = some (computeRedundancyBytes m br fr ch) ∧
    0 ≤ computeRedundancyBytes m br fr ch ∧ computeRedundancyBytes m br fr ch ≤ 257 := by
  have hpm : (40 * ch + 20) * (200 - fr) = (200 - fr) * (40 * ch + 20) := Int.mul_comm _ _
  have hp := mul_abs_le (200 - fr) (40 * ch + 20) 200 100 ⟨by omega, by omega⟩ ⟨by omega, by omega⟩
  have h3 := cdiv_abs_le (3 * (br + (40 * ch + 20) * (200 - fr))) 2 12400000 (by omega) ⟨by omega, by omega⟩
  have h4 := cdiv_abs_le (cdiv (3 * (br + (40 * ch + 20) * (200 - fr))) 2) 1600 12400000 (by omega) h3
  have hq := (cdiv_bounds 48000 fr (by omega)).1 (by omega)
  have h5 := cdiv_abs_le ((m * 8 - 2 * (40 * ch + 20)) * 240) (240 + cdiv 48000 fr) 2500000 (by omega) ⟨by omega, by omega⟩
  have h6 := cdiv_abs_le (cdiv ((m * 8 - 2 * (40 * ch + 20)) * 240) (240 + cdiv 48000 fr) + (40 * ch + 20)) 8 2500100
    (by omega) ⟨by omega, by omega⟩
  have hret : 0 ≤ computeRedundancyBytes m br fr ch ∧ computeRedundancyBytes m br fr ch ≤ 257 := by
    unfold computeRedundancyBytes
    dsimp only
    split <;> omega
  refine ⟨?_, rbTrace_last m br fr ch, hret⟩
  simp only [rbTrace, List.forall_mem_cons, List.not_mem_nil, false_imp_iff, implies_true, and_true, Fits32]
  omega

example : computeRedundancyBytes 1276 4083200 50 2 = 257 := by decide

/-- `bytes_target` and `total_bitRate` (opus_encoder.c:1867 `st->bitrate_bps * frame_size / (st->Fs * 8)`, :1952
    `8 * bytes_target * frame_rate`) for the bit-rate the sizing stage leaves (`sizeBudget`, VBR or CBR, AUTO / MAX / explicit):
    every intermediate fits for every (sub)frame size `e` that is legal, at most the packet's frame size and at most 60 ms
    (what :1631-1658 hands to `opus_encode_frame_native`), any per-frame budget 1..1276 and redundancy 0..257.
    Needs `user_bitrate ≤ 300000·channels` — the clamp OPUS_SET_BITRATE really applies (opus_encoder.c:2690); the skeleton's
    `stOk` (750000·channels, definition in OpusModel/EncSkel/Native.lean) is too weak, see
    `bytes_target_needs_ctl_clamp`. -/
theorem bytes_target_fits (s : St) (fsz out e m red : Int) (h : stOk s = true)
    (hu : s.userBitrate ≤ 300000 * s.channels) (hl : legalFrame s.fs fsz = true) (hle : legalFrame s.fs e = true)
    (he : e ≤ fsz ∧ e ≤ 3 * s.fs / 50) (hout : 1 ≤ out) (hm : 1 ≤ m ∧ m ≤ 1276) (hred : 0 ≤ red ∧ red ≤ 257) :
    (∀ x ∈ btTrace s.fs e (sizeBudget s fsz out).bitrateBps m red, Fits32 x) ∧
    -257 ≤ bytesTarget s.fs e (sizeBudget s fsz out).bitrateBps m red ∧
    bytesTarget s.fs e (sizeBudget s fsz out).bitrateBps m red ≤ 1275 := by
  obtain ⟨hfs, hch, hub⟩ := stOk_domain s h
  have hfs48 : 8000 ≤ s.fs ∧ s.fs ≤ 48000 := by omega
  obtain ⟨hpos, -, h400⟩ := legal_bounds s.fs e (by omega) hle
  obtain ⟨b0, -, b2⟩ := budget_rate_frame s fsz out e (frameRate_range s.fs fsz hfs48 hl) hch hub hu hout ⟨hpos, he.1, by omega⟩
  exact btTrace_fits s.fs e _ m red hfs48 ⟨hpos, h400⟩ ⟨b0, by omega⟩ hm hred

example : ∃ s : St, stOk s = true ∧ s.userBitrate = 300000 * s.channels ∧ legalFrame s.fs 2880 = true ∧
    (2880 : Int) ≤ 3 * s.fs / 50 ∧ (sizeBudget s 2880 4000).bitrateBps * 2880 = 1728000000 :=
  ⟨{ (default : St) with fs := 48000, channels := 2, useVbr := 1, userBitrate := 600000, userForcedMode := OPUS_AUTO, userBandwidth := OPUS_AUTO, maxBandwidth := BW_FB, forceChannels := OPUS_AUTO, streamChannels := 2, bandwidth := BW_FB, mode := MODE_SILK_ONLY },
   by decide, by decide, by decide, by decide, by decide⟩

/-- `max_len_sum` of the multi-frame path (opus_encoder.c:1631-1681: split tests, `enc_frame_size`, `nb_frames`,
    `max_header_bytes`, `nb_frames + repacketize_len - max_header_bytes`): every intermediate fits under the general condition
    `out_data_bytes + nb_frames ≤ INT_MAX` (1 ≤ nb_frames ≤ 6, cbr_bytes in -1..1276); the last entry is the skeleton's
    `maxLenSum`.  Without the condition it does not: `max_len_sum_overflows`. -/
theorem max_len_sum_fits (s : St) (fsz out cbr : Int) (hfs : 8000 ≤ s.fs ∧ s.fs ≤ 48000)
    (hnb : 1 ≤ (multiCtx s fsz out cbr).nbFrames ∧ (multiCtx s fsz out cbr).nbFrames ≤ 6)
    (hout : 1 ≤ out ∧ out + (multiCtx s fsz out cbr).nbFrames ≤ 2147483647) (hcbr : -1 ≤ cbr ∧ cbr ≤ 1276) :
    (∀ x ∈ mlTrace s fsz out cbr, Fits32 x) ∧
    (mlTrace s fsz out cbr).getLast? = some (multiCtx s fsz out cbr).maxLenSum :=
  ⟨mlTrace_fits s fsz out cbr hfs hnb hout hcbr, mlTrace_last s fsz out cbr⟩

/-- … in particular on the property's domain `out_data_bytes ≤ 4000`. -/
theorem max_len_sum_fits_4000 (s : St) (fsz out cbr : Int) (hfs : 8000 ≤ s.fs ∧ s.fs ≤ 48000)
    (hnb : 1 ≤ (multiCtx s fsz out cbr).nbFrames ∧ (multiCtx s fsz out cbr).nbFrames ≤ 6)
    (hout : 1 ≤ out ∧ out ≤ 4000) (hcbr : -1 ≤ cbr ∧ cbr ≤ 1276) :
    ∀ x ∈ mlTrace s fsz out cbr, Fits32 x :=
  mlTrace_fits s fsz out cbr hfs hnb ⟨hout.1, by omega⟩ hcbr

example : (multiCtx { (default : St) with fs := 48000, useVbr := 1, mode := MODE_CELT_ONLY } 5760 4000 (-1)).nbFrames = 6 := by
  decide

/-- `curr_max` of one sub-frame (opus_encoder.c:1709-1716: `3*bitrate_bps/(3*8*Fs/enc_frame_size)`,
    `max_len_sum/nb_frames`, `max_len_sum - tot_size`): fits for a bit-rate in 0..4 083 200, any `max_len_sum` in 0..INT_MAX and
    `0 ≤ tot_size ≤ max_len_sum`; the last entry is the skeleton's `currMax`, at most 1276. -/
theorem curr_max_fits (s : St) (c : MultiCtx) (tot : Int) (hfs : 8000 ≤ s.fs ∧ s.fs ≤ 48000)
    (hb : 0 ≤ s.bitrateBps ∧ s.bitrateBps ≤ 4083200) (he : 0 < c.encFs ∧ c.encFs ≤ s.fs)
    (hnb : 1 ≤ c.nbFrames) (hml : 0 ≤ c.maxLenSum ∧ c.maxLenSum ≤ 2147483647) (ht : 0 ≤ tot ∧ tot ≤ c.maxLenSum) :
    (∀ x ∈ cmTrace s c tot, Fits32 x) ∧ (cmTrace s c tot).getLast? = some (currMax s c tot) ∧ currMax s c tot ≤ 1276 := by
  have hd0 : 0 ≤ 3 * 8 * s.fs / c.encFs := Int.ediv_nonneg (by omega) (by omega)
  have hd1 : 3 * 8 * s.fs / c.encFs ≤ 3 * 8 * s.fs := Int.ediv_le_self _ (by omega)
  have hq0 : 0 ≤ 3 * s.bitrateBps / (3 * 8 * s.fs / c.encFs) := Int.ediv_nonneg (by omega) hd0
  have hq1 : 3 * s.bitrateBps / (3 * 8 * s.fs / c.encFs) ≤ 3 * s.bitrateBps := Int.ediv_le_self _ (by omega)
  have ha0 : 0 ≤ c.maxLenSum / c.nbFrames := Int.ediv_nonneg hml.1 (by omega)
  have ha1 : c.maxLenSum / c.nbFrames ≤ c.maxLenSum := Int.ediv_le_self _ hml.1
  have hcm : currMax s c tot = min (min (c.maxLenSum - tot)
      (min (3 * s.bitrateBps / (3 * 8 * s.fs / c.encFs)) (c.maxLenSum / c.nbFrames))) 1276 := rfl
  refine ⟨?_, cmTrace_last s c tot, by rw [hcm]; omega⟩
  simp only [cmTrace, List.forall_mem_cons, List.not_mem_nil, false_imp_iff, implies_true, and_true, Fits32]
  omega

example : currMax { (default : St) with fs := 48000, bitrateBps := 4083200 } ⟨960, 6, 0, 2147483647⟩ 0 = 1276 := by decide

/-- `frame_size_select` (opus_encoder.c:768-791, fix 212cbc41): for EVERY `int` frame_size and EVERY `int`
    variable_duration (Fs in 8000..48000) every value formed up to the first `return` fits — the products `400*new_size` …
    `25*new_size` are formed only below the guard `new_size > 6*Fs/50`; the last trace entry is the model function, -1..5760. -/
theorem frame_size_select_fits (f vd fs : Int) (hf : Fits32 f) (hvd : Fits32 vd) (hfs : 8000 ≤ fs ∧ fs ≤ 48000) :
    (∀ x ∈ fssTrace f vd fs, Fits32 x) ∧ (fssTrace f vd fs).getLast? = some (frameSizeSelect f vd fs) ∧
    -1 ≤ frameSizeSelect f vd fs ∧ frameSizeSelect f vd fs ≤ 5760 := by
  have hr := fss_ret_fits f vd fs hfs
  unfold Fits32 at hf hvd
  have hP : 5001 ≤ vd → vd ≤ 5005 → _ := fun h1 h2 => (fixedSize_range hfs (vd := vd) ⟨h1, by omega⟩).1 h2
  have hT : 5006 ≤ vd → vd ≤ 5009 → _ := fun h1 h2 => (fixedSize_range hfs (vd := vd) ⟨by omega, h2⟩).2 h1
  refine ⟨?_, fssTrace_last f vd fs, hr⟩
  unfold fssTrace
  simp only [FRAMESIZE_ARG, FRAMESIZE_2_5_MS, FRAMESIZE_40_MS, FRAMESIZE_120_MS]
  repeat' split
  all_goals simp only [List.cons_append, List.nil_append, List.forall_mem_cons, List.not_mem_nil, false_imp_iff,
    implies_true, and_true, Fits32]
  all_goals omega

example : Fits32 2147483647 ∧ frameSizeSelect 2147483647 FRAMESIZE_ARG 48000 = -1 ∧
    frameSizeSelect 2147483647 FRAMESIZE_120_MS 48000 = 5760 := by decide

/-- Multistream budget (opus_multistream_encoder.c:856-859 `smallest_packet`, :878-888 CBR clamp
    `3*rate_sum/(3*8*Fs/frame_size)`, :976-986 per-stream `curr_max` and `curr_max*(8*Fs/frame_size)`): 1..255 streams,
    bit-rate AUTO / MAX / 500..300000·255, `3*rate_sum ≤ INT_MAX` (C05.ms_rate_no_overflow), ANY max_data_bytes in
    1..INT_MAX, `0 ≤ tot_size ≤` clamped budget: every intermediate fits; the last entry is the skeleton's `msCurrMax`,
    at most MS_FRAME_TMP = 7662 (so the per-stream `opus_encode_native` never sees a huge out_data_bytes).
    The rate allocation itself (rate_allocation, fix 69d56905, up to 255 channels) is C05.ms_rate_no_overflow. -/
theorem ms_budget_split_fits (vbr br rs nb fs fsz m tot s : Int) (hfs : 8000 ≤ fs ∧ fs ≤ 48000)
    (hz : 0 < fsz ∧ fsz ≤ fs ∧ fs ≤ 400 * fsz) (hnb : 1 ≤ nb ∧ nb ≤ 255) (hs : 0 ≤ s ∧ s < nb)
    (hbr : br = OPUS_AUTO ∨ br = OPUS_BITRATE_MAX ∨ (500 ≤ br ∧ br ≤ 76500000)) (hrs : 0 ≤ rs ∧ 3 * rs ≤ 2147483647)
    (hm : 1 ≤ m ∧ m ≤ 2147483647) (ht : 0 ≤ tot ∧ tot ≤ msMaxBytes vbr br rs nb fs fsz m) :
    (∀ x ∈ msTrace vbr br rs nb fs fsz m tot s, Fits32 x) ∧
    (msTrace vbr br rs nb fs fsz m tot s).getLast? = some (msCurrMax nb fs fsz (msMaxBytes vbr br rs nb fs fsz m) tot s) ∧
    msCurrMax nb fs fsz (msMaxBytes vbr br rs nb fs fsz m) tot s ≤ 7662 := by
  have hAUTO : (OPUS_AUTO : Int) = -1000 := rfl
  have hMAX : (OPUS_BITRATE_MAX : Int) = -1 := rfl
  have hr0 : 0 ≤ fs / fsz := Int.ediv_nonneg (by omega) (by omega)
  have hr1 : fs / fsz ≤ 400 := Int.ediv_le_of_le_mul hz.1 hz.2.2
  have hd0 : 24 ≤ 3 * 8 * fs / fsz := Int.le_ediv_of_mul_le hz.1 (by omega)
  have hd1 : 3 * 8 * fs / fsz ≤ 3 * 8 * fs := Int.ediv_le_self _ (by omega)
  have h80 : 0 ≤ 8 * fs / fsz := Int.ediv_nonneg (by omega) (by omega)
  have h81 : 8 * fs / fsz ≤ 3200 := Int.ediv_le_of_le_mul hz.1 (by omega)
  have hq1 := cdiv_abs_le (3 * rs) (3 * 8 * fs / fsz) 2147483647 (by omega) ⟨by omega, by omega⟩
  have hq2 := cdiv_abs_le (3 * br) (3 * 8 * fs / fsz) 229500000 (by omega) ⟨by omega, by omega⟩
  have hsm : 1 ≤ msSmallest nb fs fsz ∧ msSmallest nb fs fsz ≤ 764 := by
    unfold msSmallest; dsimp only; split <;> omega
  have hrq : 0 ≤ 3 * rs / (3 * 8 * fs / fsz) := Int.ediv_nonneg (by omega) (by omega)
  have hmm : 0 ≤ msMaxBytes vbr br rs nb fs fsz m ∧ msMaxBytes vbr br rs nb fs fsz m ≤ m := by
    unfold msMaxBytes
    split
    · split
      · omega
      · split <;> omega
    · omega
  generalize hmdef : msMaxBytes vbr br rs nb fs fsz m = m' at *
  have hcm : -800 ≤ msCurrMax nb fs fsz m' tot s ∧ msCurrMax nb fs fsz m' tot s ≤ 7662 := by
    unfold msCurrMax
    dsimp only
    repeat' split
    all_goals omega
  have hp := mul_abs_le (msCurrMax nb fs fsz m' tot s) (8 * fs / fsz) 7662 3200 ⟨by omega, by omega⟩ ⟨h80, h81⟩
  refine ⟨?_, hmdef ▸ msTrace_last vbr br rs nb fs fsz m tot s, hcm.2⟩
  simp only [msTrace, List.forall_mem_cons, List.not_mem_nil, false_imp_iff, implies_true, and_true, Fits32]
  rw [hmdef]
  omega

example : msCurrMax 255 48000 120 (msMaxBytes 0 76500000 0 255 48000 120 2147483647) 0 254 = 7662 := by decide

/-- Sharpness of the domain (why `stOk`'s bound 750000·channels is NOT enough for `bytes_target`, opus_encoder.c:1867
    `st->bitrate_bps * frame_size`): a state inside `stOk` with 1 500 000 b/s and a 60 ms SILK frame at 48 kHz makes the product
    leave `int`.  The ctl layer really clamps to 300000·channels (opus_encoder.c:2690), for which 600000·2880 fits. -/
theorem bytes_target_needs_ctl_clamp :
    (∃ s : St, stOk s = true ∧ legalFrame s.fs 2880 = true ∧ ¬ Fits32 (s.userBitrate * 2880)) ∧
    Fits32 (300000 * 2 * 2880) := by
  refine ⟨⟨{ (default : St) with fs := 48000, channels := 2, userBitrate := 1500000, userForcedMode := OPUS_AUTO, userBandwidth := OPUS_AUTO, maxBandwidth := BW_FB, forceChannels := OPUS_AUTO, streamChannels := 2, bandwidth := BW_FB, mode := MODE_SILK_ONLY }, by decide, by decide, by decide⟩, by decide⟩

/-- `max_len_sum = nb_frames + repacketize_len - max_header_bytes` (opus_encoder.c:1681) leaves `int`
    for an admitted call: VBR, 48 kHz, 40 ms in a non-SILK mode (2 frames), `out_data_bytes = INT_MAX` — the entry
    `nb_frames + repacketize_len` of `mlTrace` is 2^31+1. -/
theorem max_len_sum_overflows :
    ∃ s : St, stOk s = true ∧ legalFrame s.fs 1920 = true ∧ isMulti s 1920 = true ∧
      ¬ (∀ x ∈ mlTrace s 1920 2147483647 (-1), Fits32 x) := by
  refine ⟨{ (default : St) with fs := 48000, channels := 2, useVbr := 1, userBitrate := 64000, userForcedMode := OPUS_AUTO, userBandwidth := OPUS_AUTO, maxBandwidth := BW_FB, forceChannels := OPUS_AUTO, streamChannels := 2, bandwidth := BW_FB, mode := MODE_CELT_ONLY }, by decide, by decide, by decide, ?_⟩
  intro h
  exact absurd (h 2147483649 (by decide)) (by decide)

end OpusProps.C05Ranges
