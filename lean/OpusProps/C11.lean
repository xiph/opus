import OpusProofs.CtlSurround
import OpusProofs.CtlRanges
import OpusProofs.SilkBw
import OpusProofs.CtlStepRun
import OpusProofs.EncSkelCtl
import OpusProofs.EncDecideHonour
import OpusModel.Gen.CtlConsts
/-
  Property C11 — "Settings are validated, read back, and honoured in the bitstream".

  Models (all tied to /repo by suites `ctl-*`, harness/c11_ctl.c):
    Opus.Ctl.encCtl / decCtl / msEncCtl / msDecCtl / projEncCtl, encCreate …   (OpusModel/Ctl.lean)
        opus_encoder_ctl, opus_decoder_ctl, opus_multistream_{en,de}coder_ctl, opus_projection_*_ctl, *_create
    Opus.EncDecide.frameSizeSelect / genToc / chain / step                      (OpusModel/EncDecide.lean)
        frame_size_select, gen_toc, opus_encode_native :1154-1761 seen from the TOC byte
  Legal values (`EncLegal`, `DecLegal`, `MsEncArgsLegal`) are written down from include/opus_defines.h,
  independently of the models.  Everything the decision chain takes from DSP code is an `Oracle`
  field; the honour theorems hold for ALL oracle values with the right C types (`OracleOk`).

  Two read-back deviations of the code are recorded as known findings, not stated as theorems:
  encoder OPUS_GET_BANDWIDTH returns the running bandwidth (C11-get-bandwidth-running; see
  `bandwidth_reported_after_frame`) and multistream OPUS_GET_BITRATE the last allocation
  (C11-ms-get-bitrate-allocated).
-/
namespace OpusProps.C11
open Opus Opus.Ctl Opus.EncDecide Opus.Framing

/-! ## 0. The constants of the model are the constants of the headers -/

/-- Request numbers, sentinels, enumerations and error codes used by the model equal the values
    `tools/extract/CtlConsts.c` prints from include/opus_defines.h, src/opus_private.h, celt/celt.h of
    the CURRENT tree (regenerated on every run). -/
theorem constants_agree :
    EncSetK.all.map (·.id) = Gen.CtlConsts.encSetIds ∧ EncGetK.all.map (·.id) = Gen.CtlConsts.encGetIds ∧
    DecSetK.all.map (·.id) = Gen.CtlConsts.decSetIds ∧ DecGetK.all.map (·.id) = Gen.CtlConsts.decGetIds ∧
    OPUS_RESET_STATE = Gen.CtlConsts.resetState ∧ OPUS_SET_ENERGY_MASK_REQUEST = Gen.CtlConsts.setEnergyMask ∧
    CELT_GET_MODE_REQUEST = Gen.CtlConsts.celtGetMode ∧
    OPUS_MULTISTREAM_GET_ENCODER_STATE_REQUEST = Gen.CtlConsts.msGetEncoderState ∧
    OPUS_MULTISTREAM_GET_DECODER_STATE_REQUEST = Gen.CtlConsts.msGetDecoderState ∧
    OPUS_AUTO = Gen.CtlConsts.opusAuto ∧ OPUS_BITRATE_MAX = Gen.CtlConsts.opusBitrateMax ∧
    [BW_NB, BW_MB, BW_WB, BW_SWB, BW_FB] = Gen.CtlConsts.bandwidths ∧
    [EncDecide.MODE_SILK_ONLY, EncDecide.MODE_HYBRID, EncDecide.MODE_CELT_ONLY] = Gen.CtlConsts.modes ∧
    [APP_VOIP, APP_AUDIO, APP_RESTRICTED_LOWDELAY] = Gen.CtlConsts.applications ∧
    Gen.CtlConsts.signals = [3001, 3002] ∧
    Gen.CtlConsts.frameDurations = [5000, 5001, 5002, 5003, 5004, 5005, 5006, 5007, 5008, 5009] ∧
    (0 : Int) :: [Err.badArg, .bufferTooSmall, .internalError, .invalidPacket, .unimplemented, .invalidState, .allocFail].map
      Err.code = Gen.CtlConsts.errorCodes := by decide +kernel

/-! ## 1. Legal value ⇒ applied and read back -/

/-- **set_get** (encoder).  A documented-legal value is accepted with OPUS_OK, and the matching
    getter then reports it — the bit-rate after its documented clamping to [500, 300000·channels]
    and AUTO/MAX resolution (`readBack`).  Holds in EVERY state `s`, so after any history.
    Three setters have no getter that reads them back (`readGetter k = none`: OPUS_SET_BANDWIDTH — see
    `bandwidth_reported_after_frame` —, OPUS_SET_FORCE_MODE and OPUS_SET_LFE, which have no GET request);
    for them the stored field is stated: these are the fields `honour_bandwidth` (`userBandwidth`) and
    the mode decision (`userForcedMode`, `lfe`) read. -/
theorem set_get (s : EncSt) (k : EncSetK) (v : Int) (h : EncLegal s k v) :
    ∃ s', encCtl s (.set k v) = (s', .ok) ∧
      (∀ g, readGetter k = some g → encCtl s' (.get g true) = (s', .okv (readBack s k v))) ∧
      (k = .bandwidth → s'.userBandwidth = v) ∧ (k = .forceMode → s'.userForcedMode = v) ∧ (k = .lfe → s'.lfe = v) := by
  obtain ⟨s', h1, h2⟩ := encCtl_set_ok s k v h
  have h3 := encSet_stored s s' k v h1
  refine ⟨s', h2, fun g hg => ?_, h3.1, h3.2.1, fun hk => (h3.2.2 hk).1⟩
  rw [encCtl_get, encSet_readBack s s' k v g h1 hg]

/-- **set_get** (decoder): OPUS_SET_GAIN / COMPLEXITY / PHASE_INVERSION_DISABLED. -/
theorem set_get_decoder (s : DecSt) (k : DecSetK) (v : Int) (h : DecLegal k v) :
    ∃ s', decCtl s (.set k v) = (s', .ok) ∧ decCtl s' (.get (decReadGetter k) true) = (s', .okv v) :=
  decCtl_set_get s k v h

/-- **set_get** (multistream / surround / projection encoder): a fanned-out setter that is legal
    for the streams returns OPUS_OK, reaches EVERY stream, and every stream's getter reports it:
    stream by stream (list equality, so stream i is compared with stream i) the values the getters
    report afterwards are the read-back values of the streams before; and for the three setters
    without a getter every stream stores the value. -/
theorem set_get_multistream (s : MsEncSt) (k : EncSetK) (v : Int) (hk : msEncFwdSet k = true)
    (hr : ¬ (k = .forceChannels ∧ v = 2 ∧ s.nbCoupled < s.nbStreams))
    (hleg : ∀ e ∈ s.streams, EncLegal e k v) :
    (msEncCtl s (.set k v)).2.code = 0 ∧
    (msEncCtl s (.set k v)).1 = { s with streams := s.streams.map (fun e => (encCtl e (.set k v)).1) } ∧
    (∀ g, readGetter k = some g →
      (msEncCtl s (.set k v)).1.streams.map (fun e' => encGetVal e' g) = s.streams.map (fun e => readBack e k v)) ∧
    (∀ e' ∈ (msEncCtl s (.set k v)).1.streams,
      (k = .bandwidth → e'.userBandwidth = v) ∧ (k = .forceMode → e'.userForcedMode = v) ∧ (k = .lfe → e'.lfe = v)) :=
  ⟨(msEncCtl_set_all k v hk hr hleg).1, (msEncCtl_set_all k v hk hr hleg).2,
   (msEncCtl_set_map k v hk hr hleg).1, (msEncCtl_set_map k v hk hr hleg).2⟩

/-- **set_get** (multistream / projection decoder): OPUS_SET_GAIN and
    OPUS_SET_PHASE_INVERSION_DISABLED — the two setters `opus_multistream_decoder_ctl` accepts — with a
    legal value return OPUS_OK, reach EVERY stream decoder, each stream's getter reports the value, and
    so does the multistream getter (answered by the first stream).  OPUS_SET_COMPLEXITY is not
    forwarded: OPUS_UNIMPLEMENTED, state unchanged. -/
theorem set_get_ms_decoder (s : MsDecSt) (k : DecSetK) (v : Int) (h : DecLegal k v) :
    (msDecFwdSet k = true ↔ k = .gain ∨ k = .phaseInversionDisabled) ∧
    (msDecFwdSet k = true →
      (msDecCtl s (.set k v)).2.code = 0 ∧
      (msDecCtl s (.set k v)).1 = { s with streams := s.streams.map (fun d => (decCtl d (.set k v)).1) } ∧
      (∀ d' ∈ (msDecCtl s (.set k v)).1.streams, decCtl d' (.get (decReadGetter k) true) = (d', .okv v)) ∧
      (s.streams ≠ [] →
        msDecCtl (msDecCtl s (.set k v)).1 (.get (decReadGetter k) true) = ((msDecCtl s (.set k v)).1, .okv v))) ∧
    (msDecFwdSet k = false → msDecCtl s (.set k v) = (s, .err .unimplemented)) := by
  refine ⟨by cases k <;> simp [msDecFwdSet], fun hk => ?_,
    fun hk => by cases k <;> simp only [msDecFwdSet, reduceCtorEq] at hk <;> rfl⟩
  have hall := fanOut_all_ok (fun d => decCtl d (.set k v)) s.streams (fun d _ => by
    obtain ⟨s', h2, _⟩ := decCtl_set_get d k v h
    show (decCtl d (.set k v)).2.code = 0
    rw [h2]; rfl)
  have hmem : ∀ d' ∈ s.streams.map (fun d => (decCtl d (.set k v)).1),
      decCtl d' (.get (decReadGetter k) true) = (d', .okv v) := by
    intro d' hd'
    simp only [List.mem_map] at hd'
    obtain ⟨d, _, rfl⟩ := hd'
    obtain ⟨s', h2, h3⟩ := decCtl_set_get d k v h
    rw [h2]; exact h3
  rw [msDecCtl_fwd s k v hk, hall]
  refine ⟨rfl, rfl, hmem, fun hne => ?_⟩
  cases hs : s.streams with
  | nil => exact absurd hs hne
  | cons d ds =>
    have := hmem (decCtl d (.set k v)).1 (by rw [hs]; simp)
    cases k <;> simp only [msDecFwdSet, Bool.false_eq_true] at hk <;>
      simp only [decReadGetter] at this ⊢ <;> simp [msDecCtl, msDecFwdGet, this]

/-- OPUS_GET_BANDWIDTH is the one getter that does not read its setter back (known finding
    C11-get-bandwidth-running): it reports the bandwidth decided for the last normally coded frame,
    and that never exceeds the forced (else the maximum) bandwidth nor Nyquist, MDCT MB↦WB aside. -/
theorem bandwidth_reported_after_frame (s : EncSt) (hs : DInv s.toDSt) (o : Oracle) (ho : OracleOk o) (f b : Int) :
    let s' := (stepNormal s.toDSt o f b).1
    encGetVal { s with toDSt := s' } .bandwidth = (chain s.toDSt o f b).bandwidth ∧
    (chain s.toDSt o f b).bandwidth ≤ bwLimit s.toDSt (chain s.toDSt o f b).mode := by
  refine ⟨?_, ?_⟩
  · unfold stepNormal encGetVal; simp only []; split <;> rfl
  · have := bwOf_le hs ho f b
    rw [← chain_mode, ← chain_bandwidth] at this; exact this

/-! ## 2. Illegal value / null pointer / unknown request ⇒ documented error, state identical -/

/-- **reject_unchanged** (encoder), both directions: a request fails iff it is an illegal value, a
    null result pointer or an unknown request number; the error is OPUS_BAD_ARG resp.
    OPUS_UNIMPLEMENTED; the state — every setting and every hidden field — is identical. -/
theorem reject_unchanged (s : EncSt) (r : EncReq) :
    ((encCtl s r).2.code ≠ 0 →
      (encCtl s r).1 = s ∧
      (((encCtl s r).2 = .err .badArg ∧
          ((∃ k v, r = .set k v ∧ ¬ EncLegal s k v) ∨ (∃ k, r = .get k false) ∨ r = .celtGetMode false)) ∨
       ((encCtl s r).2 = .err .unimplemented ∧ ∃ id, r = .unknown id))) ∧
    (∀ k v, ¬ EncLegal s k v → encCtl s (.set k v) = (s, .err .badArg)) ∧
    (∀ k, encCtl s (.get k false) = (s, .err .badArg)) ∧
    (∀ id, encCtl s (.unknown id) = (s, .err .unimplemented)) := by
  refine ⟨fun h => ?_, fun k v h => encCtl_set_reject s k v h, fun _ => rfl, fun _ => rfl⟩
  cases r with
  | set k v =>
    by_cases hl : EncLegal s k v
    · obtain ⟨s', _, h2⟩ := encCtl_set_ok s k v hl
      rw [h2] at h; simp [Ret.ok] at h
    · rw [encCtl_set_reject s k v hl]
      exact ⟨rfl, Or.inl ⟨rfl, Or.inl ⟨k, v, rfl, hl⟩⟩⟩
  | get k nn =>
    cases nn
    · exact ⟨rfl, Or.inl ⟨rfl, Or.inr (Or.inl ⟨k, rfl⟩)⟩⟩
    · simp [encCtl, Ret.okv] at h
  | resetState => simp [encCtl, Ret.ok] at h
  | setEnergyMask p => simp [encCtl, Ret.ok] at h
  | celtGetMode nn =>
    cases nn
    · exact ⟨rfl, Or.inl ⟨rfl, Or.inr (Or.inr rfl)⟩⟩
    · simp [encCtl, Ret.ok] at h
  | unknown id => exact ⟨rfl, Or.inr ⟨rfl, id, rfl⟩⟩

/-- OPUS_SET_APPLICATION is refused once a frame has been coded (unless it re-states the
    current application). -/
theorem application_locked_after_first_frame (s : EncSt) (v : Int) (hfirst : s.first = false) (hv : v ≠ s.application) :
    encCtl s (.set .application v) = (s, .err .badArg) :=
  encCtl_set_reject s .application v (fun h => hv (h.2 hfirst))

/-- **reject_unchanged** (decoder). -/
theorem reject_unchanged_decoder (s : DecSt) (r : DecReq) (h : (decCtl s r).2.code ≠ 0) :
    (decCtl s r).1 = s ∧
    (((decCtl s r).2 = .err .badArg ∧ ((∃ k v, r = .set k v ∧ ¬ DecLegal k v) ∨ ∃ k, r = .get k false)) ∨
     ((decCtl s r).2 = .err .unimplemented ∧ ∃ id, r = .unknown id)) :=
  decCtl_error_unchanged s r h

/-- **reject_unchanged** (multistream / surround / projection encoder): whatever request fails —
    including a fanned-out setter that some stream refuses — no stream and no multistream field
    has changed (OPUS_SET_FORCE_CHANNELS(2) is refused before the loop when a mono stream exists, the
    OPUS_SET_APPLICATION fan-out rolls back; unconditional in the streams' `first` flags).  `MsInv` (per-stream `EncInv`, coupled streams first) holds after creation and is kept
    by every request and every encode call (`ctl_inv_multistream`, `ms_encode_keeps_inv`). -/
theorem reject_unchanged_multistream (s : MsEncSt) (hi : MsInv s) (r : MsEncReq) (h : (msEncCtl s r).2.code ≠ 0) :
    (msEncCtl s r).1 = s :=
  msEncCtl_error_unchanged hi r h

/-- **reject_unchanged** (multistream / projection decoder). -/
theorem reject_unchanged_ms_decoder (s : MsDecSt) (r : MsDecReq) (h : (msDecCtl s r).2.code ≠ 0) :
    (msDecCtl s r).1 = s := by
  cases r with
  | set k v =>
    by_cases hk : msDecFwdSet k = true
    · rw [msDecCtl_fwd s k v hk] at h ⊢
      have := fanOut_fail_unchanged (fun d => decCtl d (.set k v)) s.streams
        (fun d _ hc => (decCtl_error_unchanged d (.set k v) hc).1)
        (fun d _ d' _ => by rw [decCtl_set_code, decCtl_set_code])
        h
      simp only [this]
    · cases k <;> simp only [msDecFwdSet, not_true_eq_false] at hk <;> rfl
  | get k nn =>
    cases k <;> simp only [msDecCtl] <;> (try split) <;> (try split) <;> rfl
  | resetState =>
    simp only [msDecCtl] at h
    exact absurd (by rw [fanOut_all_ok (fun d => decCtl d .resetState) s.streams (fun e _ => rfl)]; rfl) h
  | getDecoderState id nn =>
    simp only [msDecCtl]; split
    · rfl
    · split <;> rfl
  | unknown id => rfl

/-! ## 3. Range invariant over all histories -/

/-- **ctl_inv**.  After ANY sequence of ctl requests (legal, illegal, unknown, reset) interleaved
    with `opus_encode` calls, starting from a successful create, every stored setting is a value its
    setter admits (`CtlInv`: `user_bitrate_bps ∈ {AUTO, MAX} ∪ [500, 300000·channels]`, …) and the
    running state of the decision chain is in range (`DInv`).  THIS form takes the encode calls as
    OBSERVED: `encRunOk` asks of every encode event the monitored contract `encodeContract = none`, whose
    `obsRange` part lists exactly the ranges of the adopted fields — so for encode events the invariant
    is assumed here, and checked on the real encoder after every call by suite `ctl-rand`.  The forms
    that assume nothing of an encode call are `ctl_inv_model` (encode = `EncDecide.step`) and
    `ctl_inv_skeleton` (encode = the C05 skeleton `encodeNative`). -/
theorem ctl_inv (fs ch app : Int) (s0 : EncSt) (hc : encCreate fs ch app true = .ok s0)
    (evs : List EncEv) (hok : encRunOk s0 evs) : CtlInv (encRun s0 evs) ∧ DInv (encRun s0 evs).toDSt := by
  exact encRun_inv (encCreate_inv hc) evs hok

/-- **ctl_inv_model**: the invariant WITHOUT a contract on encode calls.  Histories from a
    successful create of any ctl requests and encode calls, an encode call being the model
    `EncDecide.step` of opus_encode_native's decision chain run with ANY values of the DSP-dependent
    inputs that have their C types' ranges (`OracleOk`: channel/mode/bandwidth decisions are 1..2 /
    SILK-or-CELT / NB..FB), any frame size and any buffer size; the three encoder-object fields the
    SILK / analysis code writes and `step` does not compute take any values in their ranges
    (`FreeRange`: voice_ratio ∈ [−1,100], silk_mode.maxInternalSampleRate ∈ {8000,12000,16000},
    useCBR ∈ {0,1} — the residual, exactly).  Then `CtlInv ∧ DInv` holds after every history, and no
    encode event changes a user setting. -/
theorem ctl_inv_model (fs ch app : Int) (s0 : EncSt) (hc : encCreate fs ch app true = .ok s0)
    (evs : List StepEv) (hok : ∀ e ∈ evs, StepEvOk e) :
    (CtlInv (stepRun s0 evs) ∧ DInv (stepRun s0 evs).toDSt) ∧
    (∀ (s : EncSt) (o : Oracle) (f b : Int) (x : Free), settingsOf (stepEncode s o f b x) = settingsOf s) := by
  exact ⟨stepRun_inv (encCreate_inv hc) evs hok, stepEncode_settings⟩

/-- **ctl_inv_skeleton**: the same over the encoder SKELETON of property C05 (`EncSkel.encodeNative`,
    the model of the whole of opus_encode_native tied to the real encoder by C05's suites): along
    every history `Reach e s` — create, any `encCtl` requests, any encode calls with any arguments and
    any oracle values, the ctl state `e` taking over the skeleton's post-state fields (`ObsOf`) and any
    in-range values for the fields the skeleton does not model (`FreeOk`) — `CtlInv ∧ DInv` holds, the
    skeleton state refines the ctl state, and each encode call satisfies the `obsRange` part of the
    monitored contract.  (OpusProofs/EncSkelCtl.lean, on top of `encCtl_inv`.) -/
theorem ctl_inv_skeleton :
    (∀ (e : EncSt) (s : EncSkel.St), EncSkel.Proofs.Reach e s →
        (CtlInv e ∧ DInv e.toDSt) ∧ EncSkel.Proofs.Refines e s) ∧
    (∀ (e : EncSt) (s : EncSkel.St) (fuzz : Bool) (fsz out : Int) (orc : EncSkel.NatOr) (o : EncObs),
        (CtlInv e ∧ DInv e.toDSt) → EncSkel.Proofs.Refines e s →
        EncSkel.Proofs.ObsOf (EncSkel.encodeNative s fuzz fsz out orc).st o → EncSkel.Proofs.FreeOk e o →
        obsRange e o = none ∧ (CtlInv (encAdopt e o) ∧ DInv (encAdopt e o).toDSt) ∧
        settingsOf (encAdopt e o) = settingsOf e) :=
  ⟨fun e s h => ⟨(EncSkel.Proofs.reach_inv h).1, (EncSkel.Proofs.reach_inv h).2.1⟩,
   fun e s fuzz fsz out orc o hi hr ho hf => by
     have h := EncSkel.Proofs.encode_keeps_inv e s fuzz fsz out orc o hi hr ho hf
     exact ⟨h.1, h.2.1, encAdopt_settings_of_range h.1⟩⟩

/-- **ctl_inv**, stronger clause: an `opus_encode` call never changes a user setting — only a ctl
    can.
    Both views of an encode call: the monitored adopt view of `ctl_inv`, and the `step` model. -/
theorem encode_never_changes_settings :
    (∀ (s : EncSt) (f b ret : Int) (o : EncObs) (fmt : Nat), encodeContract s f b ret o fmt = none →
        settingsOf (encAdopt s o) = settingsOf s) ∧
    (∀ (s : DSt) (o : Oracle) (f b : Int),
        let s' := (step s o f b).1
        s'.fs = s.fs ∧ s'.channels = s.channels ∧ s'.application = s.application ∧ s'.userBitrate = s.userBitrate ∧
        s'.useVbr = s.useVbr ∧ s'.forceChannels = s.forceChannels ∧ s'.maxBandwidth = s.maxBandwidth ∧
        s'.userBandwidth = s.userBandwidth ∧ s'.userForcedMode = s.userForcedMode ∧ s'.lfe = s.lfe) := by
  refine ⟨fun s f b ret o fmt h => ?_, step_settings⟩
  rcases encodeContract_cases h with rfl | rfl | hr
  · rfl
  · rfl
  · exact encAdopt_settings_of_range hr

/-- **ctl_inv** (decoder): gain, complexity and phase-inversion settings stay in range under any
    request and any decode call. -/
theorem ctl_inv_decoder (fs ch : Int) (h : decArgsOk fs ch = true) :
    DecInv (decInit fs ch) ∧ (∀ s r, DecInv s → DecInv (decCtl s r).1) ∧ (∀ s o, DecInv s → DecInv (decAdopt s o)) := by
  refine ⟨?_, fun s r hi => ?_, fun _ _ hi => { hi with }⟩
  · simp only [decArgsOk, Bool.and_eq_true, Bool.or_eq_true, decide_eq_true_eq] at h
    obtain ⟨h1, h2⟩ := h
    exact { fs := h1, ch := h2, gain := by simp [decInit], complexity := by simp [decInit],
            inv := by simp only [decInit]; omega }
  · cases r with
    | set k v =>
      simp only [decCtl]
      cases h : decSet s k v with
      | none => exact hi
      | some s' => exact decSet_inv hi h
    | get k nn => cases nn <;> exact hi
    | resetState => exact { hi with }
    | unknown id => exact hi

/-- **ctl_inv** (multistream encoder): `MsInv` (every stream satisfies `CtlInv ∧ DInv`, coupled
    streams first) holds after creation and after any request. -/
theorem ctl_inv_multistream :
    (∀ fs channels streams coupled mapping app sur amb lfe s,
        msEncInit fs channels streams coupled mapping app sur amb lfe = .ok s → MsInv s) ∧
    (∀ s r, MsInv s → MsInv (msEncCtl s r).1) :=
  ⟨fun _ _ _ _ _ _ _ _ _ _ h => msEncInit_inv h, fun _ r hi => msEncCtl_inv hi r⟩

/-- **ms_encode_keeps_inv**.  A multistream encode call keeps `MsInv`: the per-stream settings it
    writes (rate allocation → OPUS_SET_BITRATE, surround → OPUS_SET_BANDWIDTH / FORCE_MODE /
    FORCE_CHANNELS / ENERGY_MASK, ambisonics → FORCE_MODE, CBR last-stream bit-rate) go through
    `opus_encoder_ctl` and therefore stay legal for ALL values of the rate/bandwidth oracles, the
    streams keep their layout — given the monitored contract `msEncodeContract` (each stream's
    encode call stays in the `obsRange` ranges).  So `MsInv` holds after ANY ctl/encode history
    from create, and with it `reject_unchanged_multistream`. -/
theorem ms_encode_keeps_inv :
    (∀ (s : MsEncSt) (f b : Int) (o : MsOracle), MsInv s → msEncodeContract s f b o = true → MsInv (msEncode s f b o)) ∧
    (∀ fs channels streams coupled mapping app sur amb lfe s0 (evs : List MsEv),
        msEncInit fs channels streams coupled mapping app sur amb lfe = .ok s0 → msRunOk s0 evs → MsInv (msRun s0 evs)) :=
  ⟨fun _ f b o hi hc => msEncode_inv hi f b o hc,
   fun _ _ _ _ _ _ _ _ _ _ evs h hok => msRun_inv (msEncInit_inv h) evs hok⟩

/-! ## 4. Creation -/

/-- **create_rejects**.  `opus_encoder_create` / `opus_decoder_create` succeed exactly for
    Fs ∈ {8000, 12000, 16000, 24000, 48000}, 1–2 channels and the three applications; anything else
    is OPUS_BAD_ARG; a failed allocation is OPUS_ALLOC_FAIL (never an object). -/
theorem create_rejects (fs ch app : Int) (allocOk : Bool) :
    (encArgsOk fs ch app = true ↔
      (fs = 8000 ∨ fs = 12000 ∨ fs = 16000 ∨ fs = 24000 ∨ fs = 48000) ∧ (ch = 1 ∨ ch = 2) ∧
      (app = 2048 ∨ app = 2049 ∨ app = 2051)) ∧
    (encArgsOk fs ch app = false → encCreate fs ch app allocOk = .err .badArg) ∧
    (encArgsOk fs ch app = true → allocOk = false → encCreate fs ch app allocOk = .err .allocFail) ∧
    (encArgsOk fs ch app = true → allocOk = true → encCreate fs ch app allocOk = .ok (encInit fs ch app)) ∧
    (decArgsOk fs ch = true ↔ (fs = 8000 ∨ fs = 12000 ∨ fs = 16000 ∨ fs = 24000 ∨ fs = 48000) ∧ (ch = 1 ∨ ch = 2)) ∧
    (decArgsOk fs ch = false → decCreate fs ch allocOk = .err .badArg) ∧
    (decArgsOk fs ch = true → allocOk = false → decCreate fs ch allocOk = .err .allocFail) ∧
    (decArgsOk fs ch = true → allocOk = true → decCreate fs ch allocOk = .ok (decInit fs ch)) := by
  refine ⟨encArgsOk_iff fs ch app, (encCreate_spec fs ch app allocOk).1, (encCreate_spec fs ch app allocOk).2.1,
    (encCreate_spec fs ch app allocOk).2.2, ?_, ?_, ?_, ?_⟩
  · simp only [decArgsOk, Bool.and_eq_true, Bool.or_eq_true, decide_eq_true_eq, validFs_iff]
  all_goals unfold decCreate; intro h; simp [h]

/-- **create_rejects** (multistream encoder / decoder): success iff the counts, the mapping, the
    rate and (encoder) the application are legal and the allocation succeeds — both directions for
    both objects; otherwise OPUS_BAD_ARG or OPUS_ALLOC_FAIL, never an object. -/
theorem create_rejects_multistream (fs channels streams coupled : Int) (mapping : List Nat) (app : Int) (allocOk : Bool) :
    (¬ MsEncArgsLegal fs channels streams coupled mapping app →
        msEncCreate fs channels streams coupled mapping app allocOk = .err .badArg ∨
        (msEncArgsOk channels streams coupled = true ∧ allocOk = false ∧
         msEncCreate fs channels streams coupled mapping app allocOk = .err .allocFail)) ∧
    (MsEncArgsLegal fs channels streams coupled mapping app → allocOk = false →
        msEncCreate fs channels streams coupled mapping app allocOk = .err .allocFail) ∧
    (MsEncArgsLegal fs channels streams coupled mapping app → allocOk = true →
        ∃ s, msEncCreate fs channels streams coupled mapping app allocOk = .ok s) ∧
    (let legal := 1 ≤ channels ∧ channels ≤ 255 ∧ 1 ≤ streams ∧ 0 ≤ coupled ∧ coupled ≤ streams ∧ streams + coupled ≤ 255 ∧
                  validateLayout channels streams coupled mapping = true ∧
                  (fs = 8000 ∨ fs = 12000 ∨ fs = 16000 ∨ fs = 24000 ∨ fs = 48000)
     (legal → allocOk = true → ∃ s, msDecCreate fs channels streams coupled mapping allocOk = .ok s) ∧
     (¬ legal → msDecCreate fs channels streams coupled mapping allocOk = .err .badArg ∨
                msDecCreate fs channels streams coupled mapping allocOk = .err .allocFail) ∧
     (allocOk = false → ∀ s, msDecCreate fs channels streams coupled mapping allocOk ≠ .ok s)) :=
  ⟨(msEncCreate_spec fs channels streams coupled mapping app allocOk).1,
   (msEncCreate_spec fs channels streams coupled mapping app allocOk).2.1,
   (msEncCreate_spec fs channels streams coupled mapping app allocOk).2.2,
   msDecCreate_spec fs channels streams coupled mapping allocOk⟩

/-- **create_rejects** (surround encoder, mapping families 0/1/2/255).  For every Int argument:
    channels outside 1..255 → OPUS_BAD_ARG; a (family, channels) pair for which no layout is defined
    (`surroundLegalB`: family 0 with 1–2, family 1 with 1–8, family 255 with 1–255 channels, family 2
    with n² or n²+2 ≤ 227 channels; any other family) → OPUS_UNIMPLEMENTED; failed allocation →
    OPUS_ALLOC_FAIL; unsupported rate or application → OPUS_BAD_ARG; otherwise an encoder whose
    reported (streams, coupled, mapping) is the family's layout.  (That these layouts are the RFC
    7845 / RFC 8486 ones is C10 `surround_layout_valid`.) -/
theorem create_rejects_surround (fs ch fam app : Int) (allocOk : Bool) :
    (ch < 1 ∨ ch > 255 → msSurroundCreate fs ch fam app allocOk = .err .badArg) ∧
    (1 ≤ ch ∧ ch ≤ 255 → surroundLegalB ch.toNat fam = false →
        msSurroundCreate fs ch fam app allocOk = .err .unimplemented) ∧
    (1 ≤ ch ∧ ch ≤ 255 → surroundLegalB ch.toNat fam = true → allocOk = false →
        msSurroundCreate fs ch fam app allocOk = .err .allocFail) ∧
    (1 ≤ ch ∧ ch ≤ 255 → surroundLegalB ch.toNat fam = true → allocOk = true → (validFs fs && validApp app) = false →
        msSurroundCreate fs ch fam app allocOk = .err .badArg) ∧
    (1 ≤ ch ∧ ch ≤ 255 → surroundLegalB ch.toNat fam = true → allocOk = true → (validFs fs && validApp app) = true →
        ∃ s st cp mp, msSurroundCreate fs ch fam app allocOk = .ok (s, st, cp, mp) ∧
          surroundLayout ch fam = .ok (st, cp, mp) ∧ s.streams = msStreams fs st cp app (if fam = 1 ∧ ch ≥ 6 then st - 1 else -1)) := by
  refine ⟨fun h => by unfold msSurroundCreate; rw [if_pos (by omega)], ?_⟩
  by_cases hc : 1 ≤ ch ∧ ch ≤ 255
  · -- in range the family either has a layout for the count, which passes the init's layout checks, or has none
    rcases surround_cases ch fam hc with ⟨hl, ⟨st, cp, mp⟩, hsl, hp⟩ | ⟨hl, e, he⟩
    · rw [msSurroundCreate_ok_eq hc hsl hp, hl]
      exact ⟨fun _ h => Bool.noConfusion h, fun _ _ ha => if_pos ha,
        fun _ _ ha hv => by rw [if_neg (by simp [ha]), if_neg (by simp [hv])],
        fun _ _ ha hv => ⟨_, st, cp, mp, by rw [if_neg (by simp [ha]), if_pos hv], hsl, rfl⟩⟩
    · rw [hl]
      exact ⟨fun _ _ => by unfold msSurroundCreate; rw [if_neg (by omega), he],
        fun _ h => Bool.noConfusion h, fun _ h => Bool.noConfusion h, fun _ h => Bool.noConfusion h⟩
  · exact ⟨fun h => absurd h hc, fun h => absurd h hc, fun h => absurd h hc, fun h => absurd h hc⟩

/-- **create_rejects** (projection / ambisonics encoder, family 3).  Success exactly for family 3,
    4/6/9/11/16/18/25/27/36/38 channels (orders 1–5, with or without the non-diegetic pair), a legal
    rate and application and a successful allocation, with (ch+1)/2 streams of which ch/2 coupled;
    any other family or channel count is reported as OPUS_ALLOC_FAIL (`_get_size` returns 0), as is
    a failed allocation; an unsupported rate or application is OPUS_BAD_ARG. -/
theorem create_rejects_projection (fs ch fam app : Int) (allocOk : Bool) :
    let legal := fam = 3 ∧ 0 ≤ ch ∧ projLegalB ch.toNat = true
    (¬ legal → projEncCreate fs ch fam app allocOk = .err .allocFail) ∧
    (legal → allocOk = false → projEncCreate fs ch fam app allocOk = .err .allocFail) ∧
    (legal → allocOk = true → (validFs fs && validApp app) = false → projEncCreate fs ch fam app allocOk = .err .badArg) ∧
    (legal → allocOk = true → (validFs fs && validApp app) = true →
        ∃ s, projEncCreate fs ch fam app allocOk = .ok (s, (ch + 1) / 2, ch / 2) ∧
          s.ms.streams = msStreams fs ((ch + 1) / 2) (ch / 2) app (-1) ∧ s.ms.nbChannels = ch) := by
  intro legal
  refine ⟨?_, ?_, ?_, ?_⟩
  · intro hn
    unfold projEncCreate
    by_cases hf : fam = 3
    · rw [if_neg (by omega)]
      by_cases hr : 0 ≤ ch ∧ ch < 260
      · obtain ⟨hp, hz⟩ := projTable_get hr
        have hnl : projLegalB ch.toNat = false := by
          cases hb : projLegalB ch.toNat with
          | false => rfl
          | true => exact absurd ⟨hf, hr.1, hb⟩ hn
        rw [hnl] at hz
        cases ho : projOrderPlusOne ch with
        | none => rfl
        | some o =>
          rw [ho] at hz
          rcases hz with hz | hz
          · cases hz
          · simp only [hz, ite_true]
      · rw [projOrderPlusOne_big ch (by omega)]
    · rw [if_pos hf]
  · intro hl ha
    rw [projEncCreate_ok_eq hl, if_pos ha]
  · intro hl ha hv
    rw [projEncCreate_ok_eq hl, if_neg (by simp [ha]), if_neg (by simp [hv])]
  · intro hl ha hv
    rw [projEncCreate_ok_eq hl, if_neg (by simp [ha]), if_pos hv]
    exact ⟨_, rfl, rfl, rfl⟩

/-- **set_get** (projection encoder): every multistream request behaves as on the multistream
    encoder inside (so `set_get_multistream` applies), and the three projection getters report the
    demixing-matrix size `channels·(streams+coupled)·2` and gain without touching the state. -/
theorem set_get_projection (s : ProjEncSt) :
    (∀ r, (projEncCtl s (.ms r)).1.ms = (msEncCtl s.ms r).1 ∧ (projEncCtl s (.ms r)).2 = (msEncCtl s.ms r).2 ∧
          (projEncCtl s (.ms r)).1.demixGain = s.demixGain) ∧
    projEncCtl s (.demixSize true) = (s, .okv (s.ms.nbChannels * (s.ms.nbStreams + s.ms.nbCoupled) * 2)) ∧
    projEncCtl s (.demixGain true) = (s, .okv s.demixGain) ∧
    projEncCtl s (.demixMatrix true ((s.ms.nbStreams + s.ms.nbCoupled) * s.ms.nbChannels * 2)) = (s, .ok) :=
  ⟨fun _ => ⟨rfl, rfl, rfl⟩, (projEncCtl_demix s).1, (projEncCtl_demix s).2.1, (projEncCtl_demix s).2.2.2.2.2.2⟩

/-- **reject_unchanged** (projection encoder): a failing request — NULL pointer, wrong matrix size,
    or any failing multistream request — leaves the whole object unchanged; and `MsInv` is kept. -/
theorem reject_unchanged_projection (s : ProjEncSt) (hi : MsInv s.ms) (r : ProjEncReq) :
    ((projEncCtl s r).2.code ≠ 0 → (projEncCtl s r).1 = s) ∧ MsInv (projEncCtl s r).1.ms ∧
    projEncCtl s (.demixSize false) = (s, .err .badArg) ∧ projEncCtl s (.demixGain false) = (s, .err .badArg) ∧
    (∀ size, projEncCtl s (.demixMatrix false size) = (s, .err .badArg)) ∧
    (∀ size, size ≠ (s.ms.nbStreams + s.ms.nbCoupled) * s.ms.nbChannels * 2 →
        projEncCtl s (.demixMatrix true size) = (s, .err .badArg)) := by
  have own : ((projEncCtl s r).2.code ≠ 0 → (projEncCtl s r).1 = s) ∧ MsInv (projEncCtl s r).1.ms := by
    rcases projEncCtl_cases s r with e | ⟨q, rfl⟩
    · rw [e]; exact ⟨fun _ => rfl, hi⟩
    · refine ⟨fun h => ?_, msEncCtl_inv hi q⟩
      simp only [projEncCtl] at h ⊢
      rw [msEncCtl_error_unchanged hi q h]
  exact ⟨own.1, own.2, (projEncCtl_demix s).2.2.1, (projEncCtl_demix s).2.2.2.1,
    (projEncCtl_demix s).2.2.2.2.1, (projEncCtl_demix s).2.2.2.2.2.1⟩

/-! ## 5. Settings bind the packet (for ALL values of the DSP-dependent inputs)

  `s` is any state satisfying `DInv` — by `ctl_inv` every state reachable by a ctl/encode history.
  `f` is the frame size `frame_size_select` returned; `b` = `out_data_bytes`. -/

/-- `frame_size_select`: with OPUS_FRAMESIZE_ARG the caller's frame size is used (and must be one of
    the nine Opus durations); a fixed OPUS_FRAMESIZE_x_MS selects exactly that duration. -/
theorem frame_size_select_spec (frameSize vd fs r : Int) (hfs : fs ∈ rates)
    (h : frameSizeSelect frameSize vd fs = r) (hr : r ≠ -1) :
    r ∈ apiSizes fs ∧ r ≤ frameSize ∧ r ≤ 6 * fs / 50 ∧ (vd = 5000 → r = frameSize) ∧
    (5001 ≤ vd ∧ vd ≤ 5009 → 400 * r = fs * durNum vd) := by
  obtain ⟨h1, h2⟩ := frameSizeSelect_legal frameSize vd fs r h hr
  exact ⟨apiSizes_of_eq hfs h1, h2, frameSizeSelect_le frameSize vd fs r h hr,
         fun hv => frameSizeSelect_arg frameSize fs r (by subst hv; exact h) hr,
         fun hv => (frameSizeSelect_fixed frameSize vd fs r hfs hv h hr).1⟩

/-- **int_ranges**: on the legal domain the C `int` arithmetic of the ctl layer and of the budget
    computation never overflows, so the unbounded-`Int` model computes what the C code computes:
    the bit-rate clamps; `user_bitrate_to_bitrate` (OPUS_GET_BITRATE, AUTO/MAX resolution) for
    `frame_size` 0 or any Opus frame size; every intermediate of :1253-1265 and :1338 (CBR byte budget,
    `max_rate`) for any positive `int` buffer size; `frame_size_select` for EVERY `int` frame_size;
    OPUS_GET_LOOKAHEAD and the demixing-matrix size. -/
theorem int_ranges (s : DSt) (hfs : s.fs ∈ rates) (hch : s.channels = 1 ∨ s.channels = 2)
    (hbr : s.userBitrate = -1000 ∨ s.userBitrate = -1 ∨ (500 ≤ s.userBitrate ∧ s.userBitrate ≤ 300000 * s.channels)) :
    (I32 (300000 * s.channels) ∧ ∀ n : Int, 1 ≤ n ∧ n ≤ 255 → I32 (300000 * n) ∧ I32 (500 * n)) ∧
    (∀ frameSize maxDataBytes : Int, frameSize = 0 ∨ frameSize ∈ apiSizes s.fs → 0 ≤ maxDataBytes ∧ maxDataBytes ≤ 1276 →
        (∀ x ∈ bitrateIntermediates s frameSize maxDataBytes, I32 x) ∧
        0 ≤ userBitrateToBitrate s frameSize maxDataBytes ∧ userBitrateToBitrate s frameSize maxDataBytes ≤ 4083200) ∧
    (∀ f out : Int, f ∈ apiSizes s.fs → 0 < out ∧ out ≤ 2147483647 → ∀ x ∈ budgetIntermediates s f out, I32 x) ∧
    (∀ frameSize vd : Int, 5000 ≤ vd ∧ vd ≤ 5009 → I32 frameSize →
        let n := fssNew frameSize vd s.fs
        I32 n ∧ I32 ((vd - 5001 - 2) * s.fs) ∧ I32 (6 * s.fs) ∧
        (s.fs / 400 ≤ frameSize → n ≤ frameSize → n ≤ 6 * s.fs / 50 →
          I32 (400 * n) ∧ I32 (200 * n) ∧ I32 (100 * n) ∧ I32 (50 * n) ∧ I32 (25 * n))) ∧
    (∀ nc ns cp : Int, 1 ≤ nc ∧ nc ≤ 255 → 0 ≤ ns ∧ 0 ≤ cp ∧ ns + cp ≤ 255 →
        I32 (s.fs / 400 + s.fs / 250) ∧ I32 (nc * (ns + cp)) ∧ I32 (nc * (ns + cp) * 2)) :=
  ⟨⟨(bitrate_clamp_no_overflow s.channels 1 hch (by omega)).1,
     fun n hn => ⟨(bitrate_clamp_no_overflow s.channels n hch hn).2.1, (bitrate_clamp_no_overflow s.channels n hch hn).2.2⟩⟩,
   fun frameSize m hf hm => user_bitrate_no_overflow s hfs hch hbr frameSize m hf hm,
   fun f out hf ho => budget_no_overflow s hfs hch hbr f out hf ho,
   fun frameSize vd hvd hf => frame_size_select_no_overflow frameSize vd s.fs hfs hvd hf,
   fun nc ns cp h1 h2 => getter_arith_no_overflow s.fs nc ns cp hfs h1 h2⟩

/-- **honour_duration**.  Every packet an accepted `opus_encode` call produces — normal path or
    the tiny-budget "PLC frame" path — holds frames that add up to exactly the selected duration. -/
theorem honour_duration (s : DSt) (hs : DInv s) (o : Oracle) (ho : OracleOk o) (frameSize vd b : Int)
    (hsel : frameSizeSelect frameSize vd s.fs ≠ -1)
    (hentry : entryError s (frameSizeSelect frameSize vd s.fs) b = none) :
    let f := frameSizeSelect frameSize vd s.fs
    let p := (step s o f b).2
    (p.frames : Int) * (samplesPerFrame p.toc s.fs.toNat : Int) = f :=
  step_duration hs ho b (frame_size_select_spec frameSize vd s.fs _ hs.fs rfl hsel).1 hentry

/-- **honour_channels** (settings in force).  On the normal path: a mono encoder codes mono; forced
    stereo codes stereo; forced mono codes mono once `MonoNow` holds (always, except for the single
    frame right after a mid-stream switch, see `honour_channels_midstream`). -/
theorem honour_channels (s : DSt) (hs : DInv s) (o : Oracle) (ho : OracleOk o) (f b : Int) (hf : f ∈ apiSizes s.fs) :
    let toc := (stepNormal s o f b).2.toc
    (s.channels = 1 → getNbChannels toc = 1) ∧
    (s.channels = 2 → s.forceChannels = 2 → getNbChannels toc = 2) ∧
    (s.channels = 2 → s.forceChannels = 1 → MonoNow s → getNbChannels toc = 1) ∧
    (s.channels = 2 → s.forceChannels = 1 → s.first = true → s.prevChannels = 0 → getNbChannels toc = 1) := by
  intro toc
  have hch := stepNormal_channels hs ho b hf
  refine ⟨fun h1 => ?_, fun h2 hf2 => ?_, fun h2 hf1 hm => ?_, fun h2 hf1 _ hp => ?_⟩
  · show getNbChannels (stepNormal s o f b).2.toc = 1
    rw [hch, chain_mono_encoder hs h1]; rfl
  · show getNbChannels (stepNormal s o f b).2.toc = 2
    rw [hch, chain_forced_stereo h2 hf2]; rfl
  · show getNbChannels (stepNormal s o f b).2.toc = 1
    rw [hch, (chain_mono_of_monoNow h2 hf1 hm).1]; rfl
  · show getNbChannels (stepNormal s o f b).2.toc = 1
    rw [hch, (chain_mono_of_monoNow h2 hf1 (Or.inl (by omega))).1]; rfl

/-- **honour_channels** (mid-stream change).  After OPUS_SET_FORCE_CHANNELS(1) in ANY state, at
    most the next normally coded packet is still stereo (the `toMono` delay); from the second one
    on every packet is mono, whether or not SILK turns frames into DTX packets in between.  "Within three packets" with room to spare. -/
theorem honour_channels_midstream (s : DSt) (hs : DInv s) (hc : s.channels = 2) (hforce : s.forceChannels = 1)
    (o1 : Oracle) (ho1 : OracleOk o1) (f1 b1 : Int)
    (rest : List (Oracle × Int × Int)) (hrest : ∀ x ∈ rest, OracleOk x.1 ∧ x.2.1 ∈ apiSizes s.fs) :
    let s1 := (stepNormal s o1 f1 b1).1
    ∀ (pre : List (Oracle × Int × Int)) (x : Oracle × Int × Int) (post : List (Oracle × Int × Int)),
      rest = pre ++ x :: post →
      let sk := pre.foldl (fun st y => (stepNormal st y.1 y.2.1 y.2.2).1) s1
      getNbChannels (stepNormal sk x.1 x.2.1 x.2.2).2.toc = 1 := by
  intro s1 pre x post hsplit
  have keep : ∀ (st : DSt) (y : Oracle × Int × Int), (stepNormal st y.1 y.2.1 y.2.2).1.channels = st.channels ∧
      (stepNormal st y.1 y.2.1 y.2.2).1.fs = st.fs := by
    intro st y; unfold stepNormal; simp only []; split <;> exact ⟨rfl, rfl⟩
  have h1 := stepNormal_monoNow' (o := o1) (f := f1) (b := b1) hc hforce
  have hpre : ∀ y ∈ pre, OracleOk y.1 := fun y hy => (hrest y (by rw [hsplit]; simp [hy])).1
  -- carried along the run: a forced-mono stereo encoder at the same rate that codes mono now
  obtain ⟨k1, k2, k3, k4, k5⟩ :=
    List.foldlRecOn pre (fun st y => (stepNormal st y.1 y.2.1 y.2.2).1) (b := s1)
      (motive := fun sk => DInv sk ∧ sk.channels = 2 ∧ sk.forceChannels = 1 ∧ MonoNow sk ∧ sk.fs = s.fs)
      ⟨stepNormal_inv hs ho1 f1 b1, (keep s (o1, f1, b1)).1.trans hc, h1.2, h1.1, (keep s (o1, f1, b1)).2⟩
      fun st ⟨i1, i2, i3, _, i5⟩ y hy =>
        have hk := stepNormal_monoNow' (o := y.1) (f := y.2.1) (b := y.2.2) i2 i3
        ⟨stepNormal_inv i1 (hpre y hy) y.2.1 y.2.2, (keep st y).1.trans i2, hk.2, hk.1, (keep st y).2.trans i5⟩
  have hx := hrest x (by rw [hsplit]; simp)
  intro sk
  have hf : x.2.1 ∈ apiSizes sk.fs := by rw [k5]; exact hx.2
  rw [stepNormal_channels k1 hx.1 x.2.2 hf, (chain_mono_of_monoNow k2 k3 k4).1]; rfl

/-- **honour_bandwidth**.  For all DSP inputs the TOC bandwidth of a normally coded packet is at
    most `lim` = the forced bandwidth (else the maximum bandwidth) capped by the Nyquist bandwidth of
    the input rate — with exactly one exception: the MDCT layer, which has no medium band, codes a
    medium-band limit as wideband (CELT-only packet, `lim` = MB, then WB; `bwLimit` is that function).
    For hybrid and CELT-only packets nothing else is assumed.  For SILK-ONLY packets the TOC signals
    SILK's internal rate, here the oracle field `o.silkBandwidth`, and this form ASSUMES of it the
    contract `SilkBwContract` (SILK reports no more than Opus asked for; monitored by suite
    `ctl-honour`); `honour_bandwidth_silk` below replaces that assumption by the model of SILK's rate
    control. -/
theorem honour_bandwidth (s : DSt) (hs : DInv s) (o : Oracle) (ho : OracleOk o) (f b : Int) (hf : f ∈ apiSizes s.fs)
    (hsilk : SilkBwContract s o f b) :
    let toc := (stepNormal s o f b).2.toc
    let lim := min (if s.userBandwidth ≠ -1000 then s.userBandwidth else s.maxBandwidth) (nyquistBw s.fs)
    (getBandwidth toc : Int) ≤ bwLimit s (getMode toc) ∧
    (bwLimit s (getMode toc) = lim ∨ ((getMode toc : Int) = 1002 ∧ lim = 1102 ∧ bwLimit s (getMode toc) = 1103)) ∧
    (1101 ≤ lim ∧ lim ≤ 1105) := by
  intro toc lim
  have h1 := hs.maxBw; have h2 := hs.userBw
  have h3 : nyquistBw s.fs = 1101 ∨ nyquistBw s.fs = 1102 ∨ nyquistBw s.fs = 1103 ∨ nyquistBw s.fs = 1104 ∨ nyquistBw s.fs = 1105 := by
    unfold nyquistBw; consts; omega
  refine ⟨stepNormal_bw_le hs ho b hf hsilk, ?_, ?_⟩
  · show bwLimit s (getMode toc) = lim ∨ _
    unfold bwLimit; consts
    simp only [lim]
    omega
  · simp only [lim]; split <;> omega

/-! ### SILK's internal rate (the oracle behind the TOC bandwidth of SILK-only packets)

  `Opus.SilkBw.controlBw` transcribes `silk_control_audio_bandwidth`; `runBw` runs it over a history
  of one channel: between two calls any number of coded frames (the transition filter advances), a
  prefill reset (with or without the variable-LP state) or a re-initialisation; per call ANY
  `allow_bandwidth_switch` / `opusCanSwitch` — these come from signal-dependent code. -/

/-- **silk_rate_inv.**  Over every such history, with inputs that pass `check_control_input`: every
    call returns 8, 12 or 16 kHz; the returned rate is within that call's [minInternalSampleRate,
    maxInternalSampleRate] IMMEDIATELY (also on the first call after the maximum was lowered) and not
    above the API rate; and if every call asked for at most `D` (min = 8 kHz, or max ≤ D as in hybrid)
    every returned rate is at most `D` — the desired rate itself is followed with a delay (next two
    theorems), an upper bound on all requests is never exceeded. -/
theorem silk_rate_inv :
    (∀ (s : SilkBw.BwSt) (i : SilkBw.BwIn), SilkBw.BwInv s → SilkBw.BwInOk i → i.minFs ≤ i.apiFs →
        ((SilkBw.controlBw s i).fsKHz = 8 ∨ (SilkBw.controlBw s i).fsKHz = 12 ∨ (SilkBw.controlBw s i).fsKHz = 16) ∧
        SilkBw.BwInv (SilkBw.afterCall (SilkBw.controlBw s i)) ∧
        (SilkBw.controlBw s i).fsKHz * 1000 ≤ i.maxFs ∧ i.minFs ≤ (SilkBw.controlBw s i).fsKHz * 1000 ∧
        (i.desired ≤ i.apiFs → (SilkBw.controlBw s i).fsKHz * 1000 ≤ i.apiFs)) ∧
    (∀ (D : Int), 0 ≤ D → ∀ (evs : List (SilkBw.Gap × SilkBw.BwIn)) (s : SilkBw.BwSt), SilkBw.BwInv s →
        s.fsKHz * 1000 ≤ D ∧ s.savedFsKHz * 1000 ≤ D →
        (∀ e ∈ evs, SilkBw.BwInOk e.2 ∧ e.2.minFs ≤ e.2.apiFs ∧ e.2.desired ≤ D ∧ (e.2.minFs = 8000 ∨ e.2.maxFs ≤ D)) →
        SilkBw.BwInv (SilkBw.runBw s evs).1 ∧
        (∀ k ∈ (SilkBw.runBw s evs).2, (k = 8 ∨ k = 12 ∨ k = 16) ∧ k * 1000 ≤ D) ∧
        (SilkBw.runBw s evs).2.length = evs.length) :=
  ⟨fun s i hs hi hmin => ⟨(SilkBw.controlBw_inv hs hi).1, (SilkBw.controlBw_inv hs hi).2, SilkBw.controlBw_range hs hi hmin⟩,
   fun D hD evs s hs h0 hall => by
     obtain ⟨a, _, c, d⟩ := SilkBw.runBw_spec D hD evs s hs h0 hall
     exact ⟨a, c, d⟩⟩

/-- **silk_rate_constant.**  With the same request on every call (and desired ≤ API rate, as Opus
    guarantees by its Nyquist clamp) the rate IS the desired one from the first call after
    initialisation on, and stays: nothing to switch. -/
theorem silk_rate_constant (s : SilkBw.BwSt) (i : SilkBw.BwIn) (hs : SilkBw.BwInv s) (hi : SilkBw.BwInOk i)
    (hapi : i.desired ≤ i.apiFs) (h : (s.fsKHz = 0 ∧ s.savedFsKHz = 0) ∨ s.fsKHz * 1000 = i.desired) :
    (SilkBw.controlBw s i).fsKHz * 1000 = i.desired := by
  obtain ⟨-, h1, -, h3⟩ := SilkBw.controlBwCore_rate s (SilkBw.origOf_cases hs) hi _ rfl
  rw [SilkBw.controlBw_eq]
  rcases h with ⟨hf, hsv⟩ | h
  · have := h1 (((SilkBw.origOf_spec s).1 hf).trans hsv)
    omega
  · have ho := hi.ord
    have hd := hi.des
    have hf : s.fsKHz ≠ 0 := by omega
    rw [(SilkBw.origOf_spec s).2 hf] at h3 ⊢
    have := h3 hf (by omega)
    omega

/-- **silk_rate_down_switch.**  A LOWER request is not followed at once.  While a switch is allowed
    (`allow_bandwidth_switch`) the call keeps the rate and runs the transition filter down: mode −2,
    whose counter — at most 256 — loses 2 per coded frame, so after at most 128 coded frames a call
    reports `switchReady`; once Opus hands that back as `opusCanSwitch` the rate drops one step
    (16 → 12 → 8 kHz) in that very call.  While `allow_bandwidth_switch` is false (speech activity
    high, a DSP decision) nothing moves: that is the residual of the "settings constant since the first
    frame" restriction. -/
theorem silk_rate_down_switch (s : SilkBw.BwSt) (i : SilkBw.BwIn) (hs : SilkBw.BwInv s) (hi : SilkBw.BwInOk i)
    (hfs : s.fsKHz ≠ 0)
    (hin : s.fsKHz * 1000 ≤ i.apiFs ∧ s.fsKHz * 1000 ≤ i.maxFs ∧ i.minFs ≤ s.fsKHz * 1000)
    (hdown : i.desired < s.fsKHz * 1000) :
    (i.allow = true → i.can = false →
      (SilkBw.controlBw s i).fsKHz = s.fsKHz ∧
      (((SilkBw.controlBw s i).st.mode = -2 ∧ (SilkBw.controlBw s i).ready = false ∧ 0 < (SilkBw.controlBw s i).st.tfn) ∨
       ((SilkBw.controlBw s i).ready = true ∧ (SilkBw.controlBw s i).st.tfn ≤ 0))) ∧
    (∀ (n : Nat) (t : SilkBw.BwSt), t.mode = -2 → 0 ≤ t.tfn ∧ t.tfn ≤ 256 →
      (SilkBw.lpSteps n t).tfn = max 0 (t.tfn - 2 * n) ∧ (SilkBw.lpSteps n t).mode = -2) ∧
    (i.can = true →
      (SilkBw.controlBw s i).fsKHz = (if s.fsKHz = 16 then 12 else 8) ∧ (SilkBw.controlBw s i).st.mode = 0 ∧
      (SilkBw.controlBw s i).fsKHz < s.fsKHz) := by
  exact ⟨fun ha hc => SilkBw.down_progress hfs hin hdown ha hc, fun n t hm ht => SilkBw.lpSteps_down n t hm ht,
    fun hc => SilkBw.down_switch hs hi hfs hin hdown hc⟩

/-- **honour_bandwidth_silk** — `honour_bandwidth` for SILK-only packets WITHOUT the oracle contract.
    Take any history of one SILK channel since `silk_InitEncoder` in which every SILK / hybrid frame was
    coded with a chain bandwidth `bw ≤ L`, `bw ≤ Nyquist(Fs)` (under settings constant since the first
    frame that is what `honour_bandwidth` proves of EVERY frame's chain bandwidth, with
    `L = bwLimit s 1000`), Opus handing SILK the control inputs of opus_encoder.c:2013-2045
    (`opusSilkIn`; a call is (gap, (mode, bw, frameRate, maxDataBytes, allow, can)), the arguments of `opusSilkIn` in
    order), with any switch permissions and any gaps.  Then the rate `k` of every call — hence
    the TOC bandwidth `bwOfKHz k` a SILK-only packet signals — is at most `L`; and plugged into the
    encoder step as `o.silkBandwidth`, the packet's TOC bandwidth is within `bwLimit`. -/
theorem honour_bandwidth_silk (apiFs L : Int)
    (hapi : apiFs = 8000 ∨ apiFs = 12000 ∨ apiFs = 16000 ∨ apiFs = 24000 ∨ apiFs = 48000) (hL : 1101 ≤ L)
    (calls : List (SilkBw.Gap × (Int × Int × Int × Int × Bool × Bool)))
    (hcalls : ∀ c ∈ calls, (c.2.1 = 1000 ∨ (c.2.1 = 1001 ∧ 1104 ≤ c.2.2.1 ∧ 24000 ≤ apiFs)) ∧
        (1101 ≤ c.2.2.1 ∧ c.2.2.1 ≤ L) ∧ c.2.2.1 ≤ nyquistBw apiFs) :
    let evs := calls.map fun c => (c.1, SilkBw.opusSilkIn apiFs c.2.1 c.2.2.1 c.2.2.2.1 c.2.2.2.2.1 c.2.2.2.2.2.1 c.2.2.2.2.2.2)
    (∀ k ∈ (SilkBw.runBw SilkBw.bwInit evs).2, (k = 8 ∨ k = 12 ∨ k = 16) ∧ SilkBw.bwOfKHz k ≤ L ∧
        1101 ≤ SilkBw.bwOfKHz k ∧ SilkBw.bwOfKHz k ≤ 1103) ∧
    (∀ (s : DSt) (hs : DInv s) (o : Oracle) (ho : OracleOk o) (f b : Int) (hf : f ∈ apiSizes s.fs),
        L = bwLimit s 1000 → (∃ k ∈ (SilkBw.runBw SilkBw.bwInit evs).2, o.silkBandwidth = SilkBw.bwOfKHz k) →
        (getBandwidth (stepNormal s o f b).2.toc : Int) ≤ bwLimit s (getMode (stepNormal s o f b).2.toc)) := by
  intro evs
  have hD : (0 : Int) ≤ SilkBw.rateOfBw L := by have := SilkBw.rateOfBw_cases L; omega
  have hall : ∀ e ∈ evs, SilkBw.BwInOk e.2 ∧ e.2.minFs ≤ e.2.apiFs ∧ e.2.desired ≤ SilkBw.rateOfBw L ∧
      (e.2.minFs = 8000 ∨ e.2.maxFs ≤ SilkBw.rateOfBw L) := by
    intro e he
    simp only [evs, List.mem_map] at he
    obtain ⟨c, hc, rfl⟩ := he
    obtain ⟨hm, hb, hn⟩ := hcalls c hc
    have := SilkBw.opusSilkIn_ok apiFs c.2.1 c.2.2.1 c.2.2.2.1 c.2.2.2.2.1 c.2.2.2.2.2.1 c.2.2.2.2.2.2 L hapi hm hb hn _ rfl
    exact ⟨this.1, this.2.1, this.2.2.1, this.2.2.2.1⟩
  have hrun := SilkBw.runBw_spec (SilkBw.rateOfBw L) hD evs SilkBw.bwInit
    ⟨Or.inl rfl, Or.inl rfl, Or.inr (Or.inl rfl), by decide⟩ (by simp only [SilkBw.bwInit]; omega) hall
  have hk : ∀ k ∈ (SilkBw.runBw SilkBw.bwInit evs).2, (k = 8 ∨ k = 12 ∨ k = 16) ∧ SilkBw.bwOfKHz k ≤ L ∧
      1101 ≤ SilkBw.bwOfKHz k ∧ SilkBw.bwOfKHz k ≤ 1103 := by
    intro k hk
    obtain ⟨h8, hle⟩ := hrun.2.2.1 k hk
    exact ⟨h8, SilkBw.bwOfKHz_le h8 hL hle⟩
  refine ⟨hk, ?_⟩
  intro s hs o ho f b hf hLs ⟨k, hkm, hko⟩
  apply stepNormal_bw_le' hs ho b hf
  intro _
  rw [hko, ← hLs]; exact (hk k hkm).2.1

/-- **lowdelay_celt_only**.  With OPUS_APPLICATION_RESTRICTED_LOWDELAY every normally coded
    packet uses the MDCT layer alone.  (`DInv.lowdelay`, part of the invariant of `ctl_inv`, says no
    SILK/hybrid frame can precede: the application can only be changed before the first frame.) -/
theorem lowdelay_celt_only (s : DSt) (hs : DInv s) (o : Oracle) (ho : OracleOk o) (f b : Int) (hf : f ∈ apiSizes s.fs)
    (happ : s.application = 2051) : (getMode (stepNormal s o f b).2.toc : Int) = 1002 := by
  rw [stepNormal_mode hs ho b hf]
  exact (chain_lowdelay_celt b happ (hs.lowdelay happ)).1

/-- **short_frames_celt_only**.  `frame_size < Fs/100` (2.5 and 5 ms) ⇒ MDCT layer alone, whatever
    the application, the forced mode, the previous mode and the signal. -/
theorem short_frames_celt_only (s : DSt) (hs : DInv s) (o : Oracle) (ho : OracleOk o) (f b : Int) (hf : f ∈ apiSizes s.fs)
    (hshort : f < s.fs / 100) : (getMode (stepNormal s o f b).2.toc : Int) = 1002 := by
  rw [stepNormal_mode hs ho b hf]
  exact chain_short_celt b hshort

/-- The decision state stays inside `DInv` across encode calls (the step case of `ctl_inv_model`). -/
theorem encode_keeps_inv (s : DSt) (hs : DInv s) (o : Oracle) (ho : OracleOk o) (f b : Int) : DInv (step s o f b).1 :=
  step_inv hs ho f b

/-! ## Non-vacuity: concrete states, requests and frames -/

def exEnc : EncSt := encInit 48000 2 2049
def exOracle : Oracle :=
  { autoChannels := 2, autoMode := 1002, allowBwSwitch := false, autoBandwidth := 1105, detected := 0,
    fecBandwidth := 0, silkBandwidth := 0, completion := 1 }

example : encCreate 48000 2 2049 true = .ok exEnc := by decide +kernel
example : EncLegal exEnc .bitrate 700000 ∧ readBack exEnc .bitrate 700000 = 600000 := by decide +kernel
/-- SET_BITRATE(700000) on a stereo encoder is accepted and GET_BITRATE then returns 600000. -/
example : ∃ s', encCtl exEnc (.set .bitrate 700000) = (s', .ok) ∧ encCtl s' (.get .bitrate true) = (s', .okv 600000) :=
  (set_get exEnc .bitrate 700000 (by decide +kernel)).imp fun _ h => ⟨h.1, h.2.1 .bitrate rfl⟩
example : ¬ EncLegal exEnc .forceChannels 3 ∧ (encCtl exEnc (.set .forceChannels 3)).2 = .err .badArg := by decide +kernel
example : (encCtl exEnc (.unknown 4050)).2 = .err .unimplemented := rfl
example : DecLegal .gain (-32768) ∧ ¬ DecLegal .gain 32768 := by unfold DecLegal; decide
/-- A history with a legal setter, an illegal one, and an encode call that meets the contract. -/
def exObs : EncObs :=
  { first := false, bandwidth := 1105, prevFramesize := 960, rangeFinal := 12345, voiceRatio := -1,
    forceChannels := -1000, maxInternalSampleRate := 16000, useCBR := 0, silkUseDTX := 0, prevMode := 1002,
    silkInDtx := 0, noActivityQ1 := 0, streamChannels := 2, mode := 1002, prevChannels := 2, toMono := 0,
    celtEnergyMask := false }
example : encRunOk exEnc [.ctl (.set .complexity 5), .ctl (.set .complexity 11), .encode 960 1276 120 exObs 2] := by
  refine ⟨trivial, trivial, ?_, trivial⟩
  decide +kernel
example : OracleOk exOracle := ⟨by decide, by decide, by decide, by decide⟩
example : DInv exEnc.toDSt := (encInit_inv (by decide +kernel)).2
/-- 20 ms at 48 kHz, full budget: a CELT-only fullband stereo 20 ms packet (TOC 0xFC). -/
example : (step exEnc.toDSt exOracle 960 1276).2 = { toc := 0xFC, frames := 1, lowBudget := false } := by decide +kernel
/-- 2 bytes of budget: the low-budget path, still 20 ms. -/
example : (step exEnc.toDSt exOracle 960 2).2.lowBudget = true ∧ frameSizeSelect 960 5000 48000 = 960 := by decide +kernel
/-- oversized frame sizes, on which `400*new_size` would overflow, are refused -/
example : frameSizeSelect 5368710 5000 48000 = -1 ∧ frameSizeSelect 268435576 5000 48000 = -1 ∧
    frameSizeSelect 2147483647 5000 48000 = -1 ∧ frameSizeSelect 5760 5000 48000 = 5760 := by decide +kernel
/-- forced mono after a stereo frame: one delayed stereo packet, then mono. -/
def exAfterStereo : DSt := { (step exEnc.toDSt { exOracle with autoMode := 1000 } 960 1276).1 with forceChannels := 1 }
example : getNbChannels (stepNormal exAfterStereo { exOracle with autoMode := 1000 } 960 1276).2.toc = 2 ∧
          getNbChannels (stepNormal (stepNormal exAfterStereo { exOracle with autoMode := 1000 } 960 1276).1
                            { exOracle with autoMode := 1000 } 960 1276).2.toc = 1 := by decide +kernel
example : SilkBwContract exEnc.toDSt exOracle 960 1276 := by unfold SilkBwContract; decide +kernel
/-- SILK's rate over a history: init, a wideband request (→ 16 kHz at once), a narrowband request that
    is allowed but not yet taken (16 kHz, transition started), 128 frames later `switchReady`, then
    with `opusCanSwitch` one step down to 12 kHz; a maximum of 8 kHz is obeyed immediately. -/
example :
    let i16 := SilkBw.opusSilkIn 48000 1000 1103 50 1276 true false
    let i8 := SilkBw.opusSilkIn 48000 1000 1101 50 1276 true false
    let i8c := SilkBw.opusSilkIn 48000 1000 1101 50 1276 true true
    let iLow := SilkBw.opusSilkIn 48000 1000 1103 50 10 false false
    (SilkBw.runBw SilkBw.bwInit [(.frames 0, i16), (.frames 1, i8), (.frames 128, i8), (.frames 0, i8c), (.frames 1, iLow)]).2 =
      [16, 16, 16, 12, 8] ∧
    (SilkBw.controlBw (SilkBw.lpSteps 128 (SilkBw.afterCall (SilkBw.controlBw (SilkBw.afterCall (SilkBw.controlBw SilkBw.bwInit i16)) i8))) i8).ready = true := by
  decide +kernel
example : MsEncArgsLegal 48000 3 2 1 [0, 1, 2] 2049 := by unfold MsEncArgsLegal; decide +kernel
/-- A created 2-stream encoder (one coupled, one mono): SET_COMPLEXITY(7) is read back from both
    streams, SET_BANDWIDTH(1103) is stored in both, and `set_get_multistream` applies to it. -/
example : (match msEncCreate 48000 3 2 1 [0, 1, 2] 2049 true with
    | .ok s =>
      decide (msEncFwdSet .complexity = true) && decide (s.streams.length = 2) &&
      decide ((msEncCtl s (.set .complexity 7)).1.streams.map (fun e => encGetVal e .complexity) = [7, 7]) &&
      decide (s.streams.map (fun e => readBack e .complexity 7) = [7, 7]) &&
      decide ((msEncCtl s (.set .bandwidth 1103)).1.streams.map (fun (e : EncSt) => e.userBandwidth) = [1103, 1103])
    | _ => false) = true := by decide +kernel
/-- A created 2-stream decoder: SET_GAIN(-300) reaches both streams and GET_GAIN reports it;
    SET_COMPLEXITY is not a multistream decoder request. -/
example : (match msDecCreate 48000 3 2 1 [0, 1, 2] true with
    | .ok s =>
      decide ((msDecCtl s (.set .gain (-300))).1.streams.map (fun d => (decCtl d (.get .gain true)).2) = [.okv (-300), .okv (-300)]) &&
      decide ((msDecCtl (msDecCtl s (.set .gain (-300))).1 (.get .gain true)).2 = .okv (-300)) &&
      decide ((msDecCtl s (.set .complexity 5)).2 = .err .unimplemented)
    | _ => false) = true := by decide +kernel
/-- A history for `ctl_inv_model`: a setter, an encode call of the model, a refused setter. -/
example : ∀ e ∈ [StepEv.ctl (.set .bandwidth 1103), .encode exOracle 960 1276
      { voiceRatio := -1, maxInternalSampleRate := 16000, useCBR := 0, silkUseDTX := 0, silkInDtx := 0, noActivityQ1 := 0,
        rangeFinal := 7, celtEnergyMask := false }, .ctl (.set .application 2051)], StepEvOk e := by
  intro e he
  simp only [List.mem_cons, List.mem_nil_iff, or_false] at he
  rcases he with rfl | rfl | rfl
  · trivial
  · exact ⟨⟨by decide, by decide, by decide, by decide⟩, ⟨by decide, by decide, by decide⟩⟩
  · trivial
example : surroundLegalB 6 1 = true ∧ surroundLegalB 9 1 = false ∧ surroundLegalB 11 2 = true ∧ surroundLegalB 5 2 = false ∧
    surroundLayout 6 1 = .ok (4, 2, [0, 4, 1, 2, 3, 5]) ∧ projLegalB 11 = true ∧ projLegalB 5 = false := by decide +kernel
example : (match projEncCreate 48000 4 3 2049 true with | .ok (s, st, cp) => st == 2 && cp == 2 && s.demixGain == 0 | _ => false) = true ∧
    projEncCreate 48000 5 3 2049 true = .err .allocFail ∧ projEncCreate 44100 4 3 2049 true = .err .badArg := by decide +kernel
/-- Multistream SET_APPLICATION with stream 0 before its first frame, stream 1 after it —
    refused (stream 1), and stream 0 is rolled back. -/
example : (match msEncCreate 8000 2 2 0 [0, 1] 2049 true with
    | .ok s =>
      let s1 := { s with streams := s.streams.mapIdx (fun i e => if i = 1 then { e with first := false } else e) }
      decide (msEncCtl s1 (.set .application 2051) = (s1, .err .badArg))
    | _ => false) = true := by decide +kernel
/-- Multistream FORCE_CHANNELS(2) with a mono stream: refused, nothing changed. -/
example : (match msEncCreate 48000 3 2 1 [0, 1, 2] 2049 true with
    | .ok s => decide (msEncCtl s (.set .forceChannels 2) = (s, .err .badArg))
    | _ => false) = true := by decide +kernel

end OpusProps.C11
