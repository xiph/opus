import OpusProofs.DecSkelApi
import OpusProps.C01
import OpusProofs.SilkPlcGains
import OpusProofs.LbrrFlag
/-
  Property C09 — "Packet loss: PLC and FEC return the requested audio, stay bounded, and recover".

  What is proved here (the CONTROL and INTEGER parts of the property):
    * duration:   a concealment (NULL packet) or FEC request returns exactly the requested duration
                  when it is a positive multiple of 2.5 ms and OPUS_BAD_ARG otherwise; through all
                  three public entry points; for every decoder state satisfying the C01 invariant
                  (hence after every loss pattern) and every DSP behaviour within the oracle contracts.
    * chunking:   a request is cut into chunks the layers accept (CELT: 2.5/5/10/20 ms; SILK: 10/20 ms
                  frames, of which 2.5-10 ms may be kept), tiling the request exactly.
    * FEC shape:  FEC = concealment of `frame_size − packet_frame_size` + ONE LBRR frame at the end of
                  the buffer, or plain concealment when :769 says no LBRR data can be used.
    * LBRR flag:  the bit `opus_packet_has_lbrr` tests is the bit a fresh range decoder hands to
                  `silk_Decode` as the LBRR flag.
    * gains:      the SILK concealment attenuation constants (regenerated from silk/PLC.c on every run)
                  are < 1.0 in Q15, so LTP taps and the random-excitation scale shrink per lost frame.
    * CELT `loss_duration` saturates at 10000 and is reset by a decoded frame.
  What is NOT provable in this setting (float DSP; searched on the implementation only, see
  tools/props/C09.py): level bound of the concealed SIGNAL, its decay, re-convergence, FEC vs. PLC
  accuracy.

  Model: `Opus.DecSkel` (as for C01), `Opus.SilkPlcGains`, `Opus.RangeCoder` (decoder side only).
-/
namespace OpusProps.C09
open Opus Opus.Framing Opus.DecSkel

/-- Duration clause, public entry points (`opus_decode` / `opus_decode24` / `opus_decode_float`):
    for every state satisfying the decoder invariant — in particular after ANY pattern of lost and
    received packets — a NULL-packet (or `len = 0`) request, or a `decode_fec = 1` request on a packet
    with valid framing, for a positive multiple of 2.5 ms returns exactly that many samples, sets
    the last-packet-duration to it and keeps the invariant. -/
theorem plc_duration (o : Oracle) (ho : OracleOk o) (st : DecState) (hinv : DecInv st) (fmt : Fmt)
    (data : Option Bytes) (hb : ∀ bs, data = some bs → BytesOk bs) (len frame_size fec : Int)
    (hfec : fec = 0 ∨ fec = 1) (hpos : 0 < frame_size) (hmul : frame_size % (st.Fs / 400) = 0)
    (hcase : (len = 0 ∨ data = none) ∨
      (fec = 1 ∧ 0 < len ∧ ∃ p, parseImpl false ((data.getD []).take len.toNat) = .ok p)) :
    (decodeApi o fmt data len frame_size fec { st := st, k := 0, log := [] }).ret = .ret frame_size ∧
    (decodeApi o fmt data len frame_size fec { st := st, k := 0, log := [] }).run.st.last_packet_duration = frame_size ∧
    DecInv (decodeApi o fmt data len frame_size fec { st := st, k := 0, log := [] }).run.st := by
  have hloss : data = none ∨ len ≤ 0 ∨ fec ≠ 0 := by
    rcases hcase with (h | h) | ⟨h, _, _⟩
    · exact Or.inr (Or.inl (by omega))
    · exact Or.inl h
    · exact Or.inr (Or.inr (by omega))
  obtain ⟨sc, heq⟩ := decodeApi_loss_eq (o := o) fmt data len frame_size fec { st := st, k := 0, log := [] } hpos hinv.ch hloss
  rw [heq]
  have h := OpusProps.C01.decodeNative_plc_duration o ho { st := st, k := 0, log := [] } hinv rfl data hb len
    { buf := .pcm, off := 0, cap := frame_size * st.channels } frame_size fec false sc rfl (by simp) hfec hpos hmul hcase
  exact ⟨h.1, h.2, (decodeNative_entry ho hinv data hb len frame_size fec false sc).good.inv⟩

example : (Opus.DecSkel.Call.decode .i16 none 0 2880 0).WF := by intro bs h; cases h
example : (2880 : Int) % (48000 / 400) = 0 := by decide

/-- … and a request that is NOT a multiple of 2.5 ms is refused with OPUS_BAD_ARG, leaving the
    decoder untouched. -/
theorem plc_not_multiple (o : Oracle) (ho : OracleOk o) (st : DecState) (hinv : DecInv st) (fmt : Fmt)
    (data : Option Bytes) (hb : ∀ bs, data = some bs → BytesOk bs) (len frame_size fec : Int)
    (hfec : fec = 0 ∨ fec = 1) (hpos : 0 < frame_size) (hmul : frame_size % (st.Fs / 400) ≠ 0)
    (hcase : len = 0 ∨ data = none ∨ fec = 1) :
    (decodeApi o fmt data len frame_size fec { st := st, k := 0, log := [] }).ret = .ret BAD_ARG ∧
    (decodeApi o fmt data len frame_size fec { st := st, k := 0, log := [] }).run = { st := st, k := 0, log := [] } := by
  have hloss : data = none ∨ len ≤ 0 ∨ fec ≠ 0 := by
    rcases hcase with h | h | h
    · exact Or.inr (Or.inl (by omega))
    · exact Or.inl h
    · exact Or.inr (Or.inr (by omega))
  obtain ⟨sc, heq⟩ := decodeApi_loss_eq (o := o) fmt data len frame_size fec { st := st, k := 0, log := [] } hpos hinv.ch hloss
  rw [heq]
  have h := decodeNative_entry ho hinv data hb len frame_size fec false sc
  have hc : fec ≠ 0 ∨ len = 0 ∨ data.isNone = true := by
    rcases hcase with h | h | h
    · exact Or.inr (Or.inl h)
    · exact Or.inr (Or.inr (h ▸ rfl))
    · exact Or.inl (by omega)
  rw [nativeRet_badmul (by omega) hc (by rw [cmod_nonneg (by omega)]; exact hmul)] at h
  exact ⟨h.ret, h.err (by decide)⟩

example : (1000 : Int) % (48000 / 400) ≠ 0 := by decide

/-- Chunking clause.  `opus_decode_frame(NULL, …)` for any multiple `k·2.5 ms` (after the clamps of
    :300/:306) returns a positive multiple `v ≤` the request — the caller's loop (:736-743) then
    advances by exactly `v` — and all inner calls it logs are legal (`EvGood`: every CELT call has a
    frame size of 2.5/5/10/20 ms, every SILK call `payloadSize_ms ∈ {10,20,40,60}`, every extent is
    inside its buffer).  For a request of at most 20 ms after a packet has been decoded the chunk
    is 2.5, 5, 7.5, 10 or 20 ms, 7.5 ms only when the SILK-only layer conceals (it produces 10 ms
    and keeps 7.5); a longer request is cut by the chunk loop (:333-342) into calls of at most
    20 ms and returned in full; a request equal to a packet duration is returned in full. -/
theorem plc_chunking (o : Oracle) (ho : OracleOk o) (st0 : DecState) (cap0 : Int) (r : Run) (hg : Good st0 cap0 r)
    (u : Int) (hu : Units r.st u) (k : Nat) (hk : 1 ≤ k) (pcm : Ptr)
    (hroom : pcm.room ((k : Int) * u * r.st.channels)) (hcap : PtrCapOk st0 cap0 pcm) :
    ∃ v r', nullAfterClamp o (nullFrameLeaf o) 0 pcm ((k : Int) * u) r = (.ret v, r') ∧ Good st0 cap0 r' ∧
      0 < v ∧ v ≤ (k : Int) * u ∧ (∃ j : Nat, v = j * u) ∧
      (((k : Int) * u = u ∨ (k : Int) * u = 2 * u ∨ (k : Int) * u = 4 * u ∨ 8 * u ≤ (k : Int) * u) → v = (k : Int) * u) ∧
      (k ≤ 8 → (if r.st.prev_redundancy ≠ 0 then MODE_CELT else r.st.prev_mode) ≠ 0 →
        (v = u ∨ v = 2 * u ∨ v = 3 * u ∨ v = 4 * u ∨ v = 8 * u) ∧
        ((if r.st.prev_redundancy ≠ 0 then MODE_CELT else r.st.prev_mode) ≠ MODE_SILK → v ≠ 3 * u)) := by
  have hupos : 0 < u := by have := hu.pos; omega
  obtain ⟨_, r', e, g, _, c, rfl, hc1, hck, hkeep, hsmall⟩ :=
    nullAfterClamp_spec ho (hu.congr hg.fs.symm) hg (len := 0) (k := (k : Int)) (by omega) (by omega)
      (hg.room (hg.ch ▸ hroom) hcap) fun _ => nullFrameGen_small ho (hu.congr hg.fs.symm) _
  refine ⟨c * u, r', e, g, Int.mul_pos (by omega) hupos, Int.mul_le_mul_of_nonneg_right hck (Int.le_of_lt hupos),
    ⟨c.toNat, by rw [Int.toNat_of_nonneg (by omega)]⟩, fun h => ?_, fun h8 hm => ?_⟩
  · -- comparing multiples of `u > 0` is comparing the coefficients
    have e1 : (k : Int) * u = u ↔ (k : Int) = 1 := by
      have := Int.mul_eq_mul_right_iff (a := (k : Int)) (b := 1) (Int.ne_of_gt hupos)
      rwa [Int.one_mul] at this
    simp only [e1, Int.mul_eq_mul_right_iff (Int.ne_of_gt hupos), Int.mul_le_mul_right hupos] at h
    rw [hkeep h]
  · obtain ⟨h5, h3⟩ := hsmall (by omega) hm
    refine ⟨?_, fun hs h => h3 hs ?_⟩
    · rcases h5 with rfl | rfl | rfl | rfl | rfl <;> omega
    · rw [← Int.mul_eq_mul_right_iff (Int.ne_of_gt hupos)]; exact h

/-- FEC degrades to concealment exactly as :764-770 say: when the request is shorter than one frame
    of the packet, or the packet is CELT-only, or the previous packet was CELT-only, the FEC call
    and the NULL-packet call have the same return value and the same run (state, inner calls,
    buffer accesses) — "otherwise behaves like concealment". -/
theorem fec_degrades_to_plc (o : Oracle) (bs : Bytes) (len : Int) (pcm : Ptr) (frame_size : Int) (sd sc : Bool) (r : Run)
    (p : Parsed) (hlen : 0 < len) (hp : parseImpl sd (bs.take len.toNat) = .ok p)
    (hcond : frame_size < (samplesPerFrame ((bs.take len.toNat).headD 0) r.st.Fs.toNat : Int) ∨
      ((getMode ((bs.take len.toNat).headD 0) : Nat) : Int) = MODE_CELT ∨ r.st.mode = MODE_CELT) :
    (decodeNative o (some bs) len pcm frame_size 1 sd sc r).ret = (decodeNative o none 0 pcm frame_size 0 sd sc r).ret ∧
    (decodeNative o (some bs) len pcm frame_size 1 sd sc r).run = (decodeNative o none 0 pcm frame_size 0 sd sc r).run := by
  have hR : decodeNative o none 0 pcm frame_size 0 sd sc r =
      if ¬ validateOk r.st = true then .mk' (.abort, r) 0
      else if cmod frame_size (r.st.Fs / 400) ≠ 0 then .mk' (.ret BAD_ARG, r) 0
      else .mk' (nativePlcLoop o frame_size pcm 0 r) 0 := by
    unfold decodeNative
    simp only [Int.lt_irrefl, show ¬ (0 : Int) > 1 by omega, or_self, ne_eq, not_true_eq_false, Option.isNone_none, or_true,
      true_and, ↓reduceIte]
  rw [decodeNative_parsed o pcm frame_size 1 sd sc r hlen hp, hR]
  unfold nativeFec nativePlc
  simp only [if_pos hcond, show ¬ ((1 : Int) < 0 ∨ (1 : Int) > 1) by omega, show (1 : Int) ≠ 0 by omega, ne_eq, not_false_eq_true,
    true_and, ↓reduceIte]
  by_cases hv : ¬ validateOk r.st = true
  · simp only [if_pos hv, and_self]
  · by_cases hm : cmod frame_size (r.st.Fs / 400) = 0
    · simp only [if_neg hv, hm, not_true_eq_false, ↓reduceIte]; exact ⟨rfl, rfl⟩
    · simp only [if_neg hv, hm, not_false_eq_true, ↓reduceIte, and_self]

example : ((getMode 252 : Nat) : Int) = MODE_CELT := by decide

/-- FEC call shape (:771-797): when LBRR data can be used, the branch conceals exactly
    `frame_size − packet_frame_size` samples at the start of the buffer (one recursive
    `opus_decode_native(NULL)`; nothing when the difference is 0), then updates the TOC state and
    makes ONE `opus_decode_frame(data, size[0], pcm + channels·(frame_size − packet_frame_size),
    packet_frame_size, decode_fec = 1)`, and returns `frame_size` with `last_packet_duration =
    frame_size`; `celt_assert(ret==frame_size-packet_frame_size)` (:781) holds. -/
theorem fec_call_shape (o : Oracle) (ho : OracleOk o) (st0 : DecState) (cap0 : Int) (pcm : Ptr) (frame_size : Int)
    (toc : Nat) (off0 sz0 : Int) (r : Run) (u : Int) (hg : Good st0 cap0 r) (hu : Units r.st u) (ht : toc < 256)
    (hmul : cmod frame_size (r.st.Fs / 400) = 0) (hoff : 0 ≤ off0) (hsz : 0 ≤ sz0 ∧ sz0 ≤ 1275)
    (hroom : 0 ≤ pcm.off ∧ pcm.off + frame_size * r.st.channels ≤ pcm.cap) (hcap : PtrCapOk st0 cap0 pcm)
    (hcond : ¬ (frame_size < ((samplesPerFrame toc r.st.Fs.toNat : Nat) : Int) ∨ ((getMode toc : Nat) : Int) = MODE_CELT ∨
      r.st.mode = MODE_CELT)) :
    ∃ (r1 : Run) (v : Int) (r3 : Run),
      ((frame_size - ((samplesPerFrame toc r.st.Fs.toNat : Nat) : Int) = 0 ∧ r1 = r) ∨
       (0 < frame_size - ((samplesPerFrame toc r.st.Fs.toNat : Nat) : Int) ∧
        nativePlc o pcm (frame_size - ((samplesPerFrame toc r.st.Fs.toNat : Nat) : Int)) r =
          (.ret (frame_size - ((samplesPerFrame toc r.st.Fs.toNat : Nat) : Int)), r1))) ∧
      decodeFrame o (some off0) sz0 (pcm.add (r.st.channels * (frame_size - ((samplesPerFrame toc r.st.Fs.toNat : Nat) : Int))))
        ((samplesPerFrame toc r.st.Fs.toNat : Nat) : Int) 1
        (r1.setSt (setToc r1.st ((getMode toc : Nat) : Int) ((getBandwidth toc : Nat) : Int)
          ((samplesPerFrame toc r.st.Fs.toNat : Nat) : Int) ((getNbChannels toc : Nat) : Int))) = (.ret v, r3) ∧
      0 < v ∧
      nativeFec o pcm frame_size ((samplesPerFrame toc r.st.Fs.toNat : Nat) : Int) ((getMode toc : Nat) : Int)
        ((getBandwidth toc : Nat) : Int) ((getNbChannels toc : Nat) : Int) off0 sz0 r =
        (.ret frame_size, r3.setSt { r3.st with last_packet_duration := frame_size }) :=
  let ⟨r1, v, r3, h1, h2, h3, h4, _⟩ :=
    nativeFec_shape ho (hu.congr hg.fs.symm) hg (tocArgs_of_byte hg.inv.fs ht) hmul hoff hsz (hg.ch ▸ hroom) hcap hcond
  ⟨r1, v, r3, h1, h2, h3, h4⟩

/-- … and inside that one frame the SILK layer is asked for the LBRR data (`lost_flag = 2`), no
    redundancy is parsed, and the CELT layer gets no data (it conceals its band). -/
theorem fec_frame_layers (o : Oracle) (b : Body) (off : Int) (hd : b.data = some off) (hf : b.fec ≠ 0) (tell : Int)
    (r : Run) (st : DecState) (red : Red) :
    silkLost b = 2 ∧ (redStage o b tell r).1.redundancy = 0 ∧ (redStage o b tell r).2 = r ∧
    (mainArgs st b red).dataOff = none :=
  Opus.DecSkel.fec_frame_layers o b off hd hf tell r st red

/-- LBRR flag position.  On a frame with first byte `b0`, a freshly initialised range decoder
    returns for its first eight `ec_dec_bit_logp(·, 1)` calls the bits `7, 6, …, 0` of `b0`.
    `silk_Decode` (dec_API.c:229-234) reads, per channel, `nFramesPerPacket` VAD flags and then the
    LBRR flag: for `n ∈ {1,2,3}` SILK frames per packet the mid/mono LBRR flag is decoded bit number
    `n` (= bit `7−n` of `b0`) and the side channel's is decoded bit number `2n+1` (= bit `6−2n`) —
    exactly the bits `opus_packet_has_lbrr` tests (opus_decoder.c:1239-1241, `Framing.hasLbrr`). -/
theorem lbrr_flag_position (frame : Bytes) (hb : BytesOk frame) (hne : 0 < frame.length) (n : Nat)
    (hn : n = 1 ∨ n = 2 ∨ n = 3) :
    (LbrrFlag.firstBits (RangeCoder.decInit frame frame.length) 8).getD n 0 = frame.getD 0 0 / 2 ^ (7 - n) % 2 ∧
    (LbrrFlag.firstBits (RangeCoder.decInit frame frame.length) 8).getD (2 * n + 1) 0 = frame.getD 0 0 / 2 ^ (6 - 2 * n) % 2 := by
  rw [LbrrFlag.firstBits_eq frame frame.length hb hne]
  rcases hn with rfl | rfl | rfl <;> simp

example : BytesOk [0x4B, 1, 2] ∧ 0 < [0x4B, 1, 2].length := by decide

/-- SILK concealment gains (silk/PLC.c:268-298, 352-357) on the constants regenerated from the
    source: every attenuation constant is a Q15 factor strictly between 0 and 1; hence, for a loss
    in progress (`lossCnt ≥ 1`), after each concealed frame every LTP tap `B_Q14[j]` has not grown in
    magnitude and every positive tap has strictly shrunk, and the random-excitation scale
    `rand_scale_Q14` has not grown and has strictly shrunk while positive ("falls under sustained
    loss", for the gain scalars). -/
theorem plc_gains_contract :
    ((∀ g ∈ Gen.PlcConsts.HARM_ATT_Q15, 0 < g ∧ g < 32768) ∧ (∀ g ∈ Gen.PlcConsts.PLC_RAND_ATTENUATE_V_Q15, 0 < g ∧ g < 32768) ∧
      (∀ g ∈ Gen.PlcConsts.PLC_RAND_ATTENUATE_UV_Q15, 0 < g ∧ g < 32768)) ∧
    (∀ (lossCnt : Int) (voiced : Bool) (nbSubfr : Nat) (B : List Int) (rs plt ig : Int), 1 ≤ lossCnt → 0 < nbSubfr →
      0 ≤ rs ∧ rs ≤ 32767 →
      (∃ h : Int → Int, (∀ b, SilkPlcGains.I16 b → SilkPlcGains.I16 (h b) ∧ SilkPlcGains.mag (h b) ≤ SilkPlcGains.mag b ∧
          (0 < b → h b < b)) ∧ (SilkPlcGains.conceal lossCnt voiced nbSubfr B rs plt ig).1 = B.map h) ∧
      0 ≤ (SilkPlcGains.conceal lossCnt voiced nbSubfr B rs plt ig).2 ∧
      (SilkPlcGains.conceal lossCnt voiced nbSubfr B rs plt ig).2 ≤ rs ∧
      (0 < rs → (SilkPlcGains.conceal lossCnt voiced nbSubfr B rs plt ig).2 < rs)) := by
  obtain ⟨_, _, _, _, h1, h2, h3⟩ := SilkPlcGains.att_tables_lt_one
  exact ⟨⟨h1, h2, h3⟩, fun lossCnt voiced nbSubfr B rs plt ig hl hn hrs =>
    SilkPlcGains.conceal_shrinks lossCnt hl voiced nbSubfr hn B rs plt ig hrs⟩

example : SilkPlcGains.I16 11469 ∧ (0 : Int) ≤ 16384 ∧ (16384 : Int) ≤ 32767 := by unfold SilkPlcGains.I16; decide

/-- First lost frame (`lossCnt = 0`): the taps shrink in the same way, and the unvoiced
    random-excitation gain (PLC.c:289-297) is still a Q15 factor not above the table value. -/
theorem plc_gains_first_frame (voiced : Bool) (nbSubfr : Nat) (hn : 0 < nbSubfr) (B : List Int) (rs plt ig : Int) :
    (∃ h : Int → Int, (∀ b, SilkPlcGains.I16 b → SilkPlcGains.I16 (h b) ∧ SilkPlcGains.mag (h b) ≤ SilkPlcGains.mag b ∧
        (0 < b → h b < b)) ∧ (SilkPlcGains.conceal 0 voiced nbSubfr B rs plt ig).1 = B.map h) ∧
    (0 ≤ SilkPlcGains.randGainUnvoiced ig (SilkPlcGains.randGain0 0 false) ∧
      SilkPlcGains.randGainUnvoiced ig (SilkPlcGains.randGain0 0 false) ≤ SilkPlcGains.randGain0 0 false ∧
      SilkPlcGains.randGain0 0 false < 32768) :=
  ⟨SilkPlcGains.conceal_taps 0 voiced nbSubfr hn B rs plt ig,
   (SilkPlcGains.randGainUnvoiced_range ig _ (SilkPlcGains.randGain0_range 0 false)).1,
   (SilkPlcGains.randGainUnvoiced_range ig _ (SilkPlcGains.randGain0_range 0 false)).2,
   (SilkPlcGains.randGain0_range 0 false).2⟩

/-- CELT `loss_duration` (celt_decoder.c:957, :1354; constants observed on the built decoder on
    every run): over any history of concealed frames (2.5–20 ms) and decoded frames the counter
    stays in `[0, 10000]`; a concealed frame never decreases it and strictly increases it below the
    cap (by `2^LM`); a decoded frame resets it to 0 whatever came before. -/
theorem loss_duration_saturates :
    (∀ (frames : List (Option Nat)) (ld : Int), 0 ≤ ld ∧ ld ≤ 10000 → (∀ f ∈ frames, ∀ lm, f = some lm → lm < 4) →
      0 ≤ SilkPlcGains.celtLossRun ld frames ∧ SilkPlcGains.celtLossRun ld frames ≤ 10000) ∧
    (∀ (ld : Int) (lm : Nat), lm < 4 → 0 ≤ ld ∧ ld ≤ 10000 →
      ld ≤ SilkPlcGains.celtLossStep ld lm ∧ (ld < 10000 → ld < SilkPlcGains.celtLossStep ld lm) ∧
      SilkPlcGains.celtLossStep ld lm = min 10000 (ld + 2 ^ lm)) ∧
    (∀ (frames : List (Option Nat)) (ld : Int), SilkPlcGains.celtLossRun ld (frames ++ [none]) = 0) := by
  refine ⟨SilkPlcGains.celtLossRun_bounded, ?_, ?_⟩
  · intro ld lm hlm h
    obtain ⟨h1, _, h3, h4⟩ := SilkPlcGains.celtLossStep_spec ld lm hlm h
    exact ⟨h1, h3, h4⟩
  · intro frames ld
    rw [SilkPlcGains.celtLossRun_append]
    rfl

example : SilkPlcGains.celtLossRun 9990 [some 3, some 0, some 3, none, some 2] = 4 := by decide

/-- Which concealment a lost CELT frame gets (celt_decoder.c:639, :691, :1098, :1557; the threshold
    and the `skip_plc` values are observed on the built decoder on every run).
    (1) A lost frame is concealed by the pitch-based PLC iff `loss_duration < 40` (fewer than 100 ms
        concealed so far), the start band is 0 (CELT-only mode) and `skip_plc` is clear; otherwise by
        the noise PLC — "noise PLC from 40 on", and always in hybrid mode.
    (2) Over a whole loss burst in CELT-only mode starting with `skip_plc` clear, frame `j` gets the
        pitch PLC exactly while the loss duration accumulated before it is below 40.
    (3) Noise concealment is sticky: it sets `skip_plc`, which forces noise concealment for further
        losses and survives one decoded frame after a loss; two consecutive decoded frames clear it;
        init / reset set it (no pitch PLC before two packets have been decoded). -/
theorem plc_kind :
    (∀ (s : SilkPlcGains.CeltPlc) (start : Int),
      (SilkPlcGains.celtLostKind s start = .pitch ↔ s.ld < 40 ∧ start = 0 ∧ s.skip = false) ∧
      (SilkPlcGains.celtLostKind s start = .noise ↔ 40 ≤ s.ld ∨ start ≠ 0 ∨ s.skip = true)) ∧
    (∀ (lms : List Nat) (s : SilkPlcGains.CeltPlc), (∀ lm ∈ lms, lm < 4) → 0 ≤ s.ld ∧ s.ld ≤ 10000 →
      (s.skip = true → 40 ≤ s.ld) →
      (SilkPlcGains.celtPlcRun s (lms.map (fun lm => SilkPlcGains.CeltEv.lost lm 0))).2 = SilkPlcGains.burstKinds s.ld lms) ∧
    (∀ (s : SilkPlcGains.CeltPlc) (start : Int) (lm : Nat),
      (SilkPlcGains.celtLostKind s start = .noise → (SilkPlcGains.celtLost s start lm).skip = true) ∧
      (s.skip = true → SilkPlcGains.celtLostKind s start = .noise) ∧
      (s.skip = true → s.ld ≠ 0 → (SilkPlcGains.celtGood s lm).skip = true)) ∧
    (∀ (s : SilkPlcGains.CeltPlc) (a b : Nat), a < 4 → (SilkPlcGains.celtGood (SilkPlcGains.celtGood s a) b).skip = false) ∧
    SilkPlcGains.celtReset.skip = true :=
  ⟨fun s start => ⟨SilkPlcGains.celtLostKind_pitch_iff s start, SilkPlcGains.celtLostKind_noise_iff s start⟩,
   SilkPlcGains.celt_burst_kinds,
   SilkPlcGains.celt_skip_sticky,
   fun s a b ha => (SilkPlcGains.celt_two_good s a b ha).1,
   rfl⟩

/-- Non-vacuity: after two decoded frames, a burst of 20 ms CELT frames gets five pitch-concealed frames
    (loss durations 0, 8, …, 32) and noise from the sixth on; after one decoded frame the next loss is
    still noise, after two it is pitch again. -/
example : (SilkPlcGains.celtPlcRun SilkPlcGains.celtReset
    [.good 3, .good 3, .lost 3 0, .lost 3 0, .lost 3 0, .lost 3 0, .lost 3 0, .lost 3 0, .lost 3 0,
     .good 3, .lost 3 0, .good 3, .good 3, .lost 3 0]).2 =
    [.pitch, .pitch, .pitch, .pitch, .pitch, .noise, .noise, .noise, .pitch] := by decide


/-- SILK / hybrid TOCs announce 10, 20, 40 or 60 ms frames: `opus_packet_has_lbrr`'s `nb_frames` is 1, 2 or 3. -/
theorem lbrr_nb_frames : ∀ toc ∈ List.range 256, getMode toc ≠ MODE_CELT_ONLY →
    (if samplesPerFrame toc 48000 > 960 then samplesPerFrame toc 48000 / 960 else 1) ∈ [1, 2, 3] := by
  -- a frame lasts at most 60 ms
  intro toc h _
  obtain ⟨h1, -, h3, -⟩ := FramingProofs.toc_table toc (List.mem_range.mp h)
  rw [h1]; simp only [List.mem_cons, List.not_mem_nil, or_false]
  split <;> omega

/-- `opus_packet_has_lbrr` (C06's model `Framing.hasLbrr`) returns exactly the flag(s) the
    SILK layer decodes.  For a SILK-only or hybrid packet with valid framing whose first frame is not empty: let
    `frame0` be the bytes of the first frame, `bits` the first eight `ec_dec_bit_logp(·, 1)` results of a range decoder
    freshly initialised on it (`ec_dec_init(frame0, size[0])`, as `opus_decode_frame` does), and `n` the number of SILK
    frames per packet; then `hasLbrr` is `bits[n]` (the mid / mono LBRR flag, decoded after the `n` VAD flags) for a mono
    packet and `bits[n] ∨ bits[2n+1]` (mid or side LBRR flag) for a stereo one. -/
theorem lbrr_flag_is_has_lbrr (toc : Nat) (rest : Bytes) (hb : BytesOk (toc :: rest)) (hmode : getMode toc ≠ MODE_CELT_ONLY)
    (r : Parsed) (hp : parseImpl false (toc :: rest) = .ok r) (s0 : Nat) (ss : List Nat) (hs : r.sizes = s0 :: ss)
    (h0 : 0 < s0) (f0 : Nat) (fr : Bytes) (hd : (toc :: rest).drop r.payloadOffset = f0 :: fr) :
    hasLbrr (toc :: rest) = .ok
      (if getNbChannels toc = 2 then
        (if (LbrrFlag.firstBits (RangeCoder.decInit (((toc :: rest).drop r.payloadOffset).take s0) s0) 8).getD
              (if samplesPerFrame toc 48000 > 960 then samplesPerFrame toc 48000 / 960 else 1) 0 ≠ 0 ∨
            (LbrrFlag.firstBits (RangeCoder.decInit (((toc :: rest).drop r.payloadOffset).take s0) s0) 8).getD
              (2 * (if samplesPerFrame toc 48000 > 960 then samplesPerFrame toc 48000 / 960 else 1) + 1) 0 ≠ 0 then 1 else 0)
       else
        (LbrrFlag.firstBits (RangeCoder.decInit (((toc :: rest).drop r.payloadOffset).take s0) s0) 8).getD
          (if samplesPerFrame toc 48000 > 960 then samplesPerFrame toc 48000 / 960 else 1) 0) := by
  have htoc : toc < 256 := hb toc (by simp)
  have hn := lbrr_nb_frames toc (List.mem_range.mpr htoc) hmode
  generalize hnd : (if samplesPerFrame toc 48000 > 960 then samplesPerFrame toc 48000 / 960 else 1) = n at hn ⊢
  have hn3 : n = 1 ∨ n = 2 ∨ n = 3 := by simpa using hn
  -- the first frame as a byte string of its own
  have hfr : ((toc :: rest).drop r.payloadOffset).take s0 = f0 :: fr.take (s0 - 1) := by
    rw [hd]; cases s0 with
    | zero => omega
    | succ k => simp
  have hbf : BytesOk (f0 :: fr.take (s0 - 1)) := hfr ▸ bytesOk_take (bytesOk_drop hb _) s0
  rw [hfr, LbrrFlag.firstBits_eq (f0 :: fr.take (s0 - 1)) s0 hbf h0]
  have hg : (f0 :: fr.take (s0 - 1)).getD 0 0 = f0 := rfl
  rw [hg]
  unfold hasLbrr
  simp only [if_neg hmode, hnd, hp, hs, hd]
  rw [if_neg (by omega)]
  rcases hn3 with rfl | rfl | rfl <;> simp <;> split <;> rfl

/-- Non-vacuity: a stereo SILK wide-band 20 ms packet `4C | 58 01 02` (code 0): `n = 1`, first frame byte `0x58 = 0101 1000`:
    VAD mid 0, LBRR mid 1 → the flag is 1. -/
example : parseImpl false [0x4C, 0x58, 1, 2] = .ok ⟨0x4C, 1, [3], 1, 0, 4⟩ ∧ getMode 0x4C ≠ MODE_CELT_ONLY ∧
    hasLbrr [0x4C, 0x58, 1, 2] = .ok 1 ∧ getNbChannels 0x4C = 2 := by decide

/-- Non-vacuity of `plc_chunking`: a freshly initialised 48 kHz stereo decoder (`2.5 ms = 120` samples) and a request of
    `8·120` samples into a 1920-sample buffer satisfy its hypotheses; the chunk call returns all 960 samples. -/
example : ∃ st, init 48000 2 = some st ∧ ∃ v r', nullAfterClamp exOracle (nullFrameLeaf exOracle) 0 ⟨.pcm, 0, 1920⟩ ((8 : Nat) * 120)
    { st := st, k := 0, log := [] } = (.ret v, r') ∧ v = (8 : Nat) * 120 := by
  refine ⟨_, rfl, ?_⟩
  have hinv : DecInv _ := init_inv (fs := 48000) (ch := 2) rfl
  obtain ⟨u, hu⟩ := units_of_fs hinv.fs
  have hu120 : u = 120 := by have := hu.u400; simpa [init] using this.symm
  subst hu120
  obtain ⟨v, r', h1, _, _, _, _, h6, _⟩ := plc_chunking exOracle exOracle_ok _ 1920 _ (good_fresh hinv 1920) 120 hu 8 (by omega)
    ⟨.pcm, 0, 1920⟩ (by simp [Ptr.room]) (callerBuf_cap _ _)
  exact ⟨v, r', h1, h6 (by omega)⟩

/-- Non-vacuity of `fec_call_shape`: the same decoder, a SILK wide-band 20 ms TOC (`0x48`, 960 samples per frame) and an FEC
    request of 1920 samples satisfy its hypotheses (not CELT-only, previous mode not CELT-only, request ≥ one frame). -/
example : ∃ st, init 48000 2 = some st ∧ ∃ r3, nativeFec exOracle ⟨.pcm, 0, 3840⟩ 1920 ((samplesPerFrame 0x48 48000 : Nat) : Int)
    ((getMode 0x48 : Nat) : Int) ((getBandwidth 0x48 : Nat) : Int) ((getNbChannels 0x48 : Nat) : Int) 1 10
    { st := st, k := 0, log := [] } = (.ret 1920, r3) := by
  refine ⟨_, rfl, ?_⟩
  have hinv : DecInv _ := init_inv (fs := 48000) (ch := 2) rfl
  obtain ⟨u, hu⟩ := units_of_fs hinv.fs
  obtain ⟨r1, v, r3, _, _, _, h4⟩ := fec_call_shape exOracle exOracle_ok _ 3840 ⟨.pcm, 0, 3840⟩ 1920 0x48 1 10 _ u
    (good_fresh hinv 3840) hu (by decide) (by decide) (by omega) (by omega) (by simp) (callerBuf_cap _ _) (by decide)
  exact ⟨_, h4⟩

end OpusProps.C09
