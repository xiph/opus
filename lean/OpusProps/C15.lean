import OpusProofs.KernelsDispatch
import OpusProofs.KernelsVQ
import OpusProofs.KernelsXcorr
import OpusProofs.KernelsNsq
import OpusProofs.KernelsPvq
/-
  Property C15 — "Optimised (SIMD, run-time dispatched) kernels match the portable C code".

  Model: `Opus.Kernels` (OpusModel/Kernels.lean)
    (i)   `cpuFeatureCheck` / `selectArchImpl` / `selectArch`   celt/x86/x86cpu.c:114-193 (with the XIPH_OPUS_VERIF cap),
          `floatSpecs` / `symbolAt`: which symbol every RTCD table must hold at every index; the tables themselves
          (`Opus.Gen.DispatchTables`) are regenerated from x86_celt_map.c / x86_silk_map.c on every run;
    (ii)  `vqWMatEC_c` / `vqWMatEC_sse`: silk/VQ_WMat_EC.c and silk/x86/VQ_WMat_EC_sse4_1.c as data-flow programs over
          ℤ with explicit 32/64-bit wrap and the 128-bit register as four lanes;
    (iii) the float reduction kernels as lane programs generic in the number type: every intrinsic is a definition on
          lane functions, every loop a recursion with the C loop's trip count.
  The theorems of (iii) are stated for an arbitrary commutative semiring `α`.  Read at `α = ℝ` they say: the SIMD
  kernel computes the same real number as the portable loop, i.e. the two binary32 results differ by reassociation
  only (no element dropped, duplicated or taken from a neighbouring address, for every length and lag).  Read at
  `α = ℤ` they are what the correspondence run checks bit for bit against the real kernels on the exact domain.

  (ii-b) integer pieces of the quantiser / VAD kernels (OpusModel/KernelsNsq.lean): `silk_nsq_scale_states[_sse4_1]` as a
  whole, the VAD sub-frame energy loop, `silk_sar_round_smulww`.

  NOT proved here (see UNPROVED / NOT_COVERED in tools/props/C15.py): bit-identity of the sample loops of
  silk_NSQ_del_dec_sse4_1/_avx2 and of the rest of silk_VAD_GetSA_Q8_sse4_1 with their C twins; for op_pvq_search_sse2 the
  integer bookkeeping is proved under contracts on its float parts (`pvq_search_relational`), the contracts themselves
  and the quality of its choices are searched only; rounding-error bounds of the float kernels in IEEE arithmetic.
-/
namespace OpusProps.C15
open Opus.Kernels Opus.Gen

/-- "every CPU feature level the library can select at run time" is one of 0..4, and always a valid index of the
    `OPUS_ARCHMASK+1`-entry tables — for every CPUID answer and every value of the cap hook. -/
theorem arch_range (f : CpuFeature) (cap : Option Nat) :
    selectArch f cap ≤ 4 ∧ selectArch f cap ≤ DispatchTables.archMask :=
  ⟨Nat.le_trans (selectArch_le f cap) (selectArchImpl_le f),
   Nat.le_trans (Nat.le_trans (selectArch_le f cap) (selectArchImpl_le f)) archMask_covers⟩

example : selectArch ⟨true, true, true, true⟩ none = 4 ∧ selectArch ⟨true, true, false, true⟩ none = 2 ∧
    selectArch ⟨true, true, true, true⟩ (some 1) = 1 := by decide

/-- The decision list: level `n` is selected exactly when the CPU announces the first `n` feature sets of
    SSE, SSE2, SSE4.1, AVX2 (a hole hides everything above it); AVX2 is only believed when CPUID leaf 1 announces AVX
    and FMA, leaf 7 exists and announces AVX2; the verification cap can only lower the level. -/
theorem arch_decision (f : CpuFeature) (nIds ecx1 edx1 ebx7 c : Nat) :
    ((1 ≤ selectArchImpl f ↔ f.sse = true) ∧
     (2 ≤ selectArchImpl f ↔ (f.sse = true ∧ f.sse2 = true)) ∧
     (3 ≤ selectArchImpl f ↔ (f.sse = true ∧ f.sse2 = true ∧ f.sse41 = true)) ∧
     (4 ≤ selectArchImpl f ↔ (f.sse = true ∧ f.sse2 = true ∧ f.sse41 = true ∧ f.avx2 = true))) ∧
    ((cpuFeatureCheck nIds ecx1 edx1 ebx7).avx2 = true ↔
      (7 ≤ nIds ∧ bit ecx1 28 = true ∧ bit ecx1 12 = true ∧ bit ebx7 5 = true)) ∧
    selectArch f (some c) = min c (selectArchImpl f) ∧ selectArch f none = selectArchImpl f :=
  ⟨selectArchImpl_spec f, cpuFeatureCheck_avx2 nIds ecx1 edx1 ebx7, selectArch_eq_min f c, selectArch_none f⟩

example : (cpuFeatureCheck 13 (2 ^ 28 + 2 ^ 12 + 2 ^ 19) (2 ^ 25 + 2 ^ 26) (2 ^ 5)).avx2 = true ∧
    (cpuFeatureCheck 6 (2 ^ 28 + 2 ^ 12 + 2 ^ 19) (2 ^ 25 + 2 ^ 26) (2 ^ 5)).avx2 = false := by decide

/-- Shape of the dispatch tables as the compiler sees them now (regenerated): exactly the tables this
    configuration needs exist; each has `OPUS_ARCHMASK+1` entries; entry `a ≤ 4` is `symbolAt k a` — the portable
    symbol strictly below the kernel's lowest SIMD level and, from a level on, the SIMD symbol of the highest level
    not above `a`; the entries above 4 are NULL. -/
theorem dispatch_shape :
    DispatchTables.tables.map (·.1) = expectedTableNames (presumedLevel DispatchTables.presume) ∧
    (∀ t ∈ DispatchTables.tables, ∃ k ∈ floatSpecs, k.table = t.1 ∧
      t.2.1 = DispatchTables.archMask + 1 ∧ t.2.2.length = DispatchTables.archMask + 1 ∧
      (∀ a ∈ List.range 5, t.2.2[a]? = some (symbolAt k a)) ∧
      (∀ a ∈ List.range (DispatchTables.archMask + 1), 4 < a → t.2.2[a]? = some "null")) ∧
    (∀ k ∈ floatSpecs, ∀ a ∈ List.range 5,
      ((∀ ls ∈ k.levels, a < ls.1) → symbolAt k a = k.base) ∧
      (∀ ls ∈ k.levels, ls.1 ≤ a → ∃ ms ∈ k.levels, symbolAt k a = ms.2 ∧ ls.1 ≤ ms.1 ∧ ms.1 ≤ a)) :=
  ⟨by decide +kernel, by decide +kernel, by decide +kernel⟩

example : symbolAt ⟨"SILK_NSQ_DEL_DEC_IMPL", "silk_NSQ_del_dec_c",
      [(3, "silk_NSQ_del_dec_sse4_1"), (4, "silk_NSQ_del_dec_avx2")]⟩ 3 = "silk_NSQ_del_dec_sse4_1" ∧
    DispatchTables.tables.length = 6 := by decide

/-- No run-time selected kernel needs an instruction set the CPU lacks, and no NULL entry is ever called: for every
    CPUID answer and cap, the function a table holds at the selected arch index is a real function whose feature level
    is at most the CPU's level, and the CPU has every feature set up to that level. -/
theorem dispatch_safe (f : CpuFeature) (cap : Option Nat) :
    ∀ t ∈ DispatchTables.tables, ∀ k ∈ floatSpecs, k.table = t.1 →
      t.2.2.getD (selectArch f cap) "null" ≠ "null" ∧
      hasLevel f (levelOf k (t.2.2.getD (selectArch f cap) "null")) := fun t ht k hk hkt =>
  ⟨(dispatch_level_le f cap t ht k hk hkt).2, hasLevel_of_le f _ (dispatch_level_le f cap t ht k hk hkt).1⟩

example : hasLevel ⟨true, true, true, false⟩ 3 ∧ ¬ hasLevel ⟨true, true, true, false⟩ 4 := by
  constructor
  · exact ⟨fun _ => rfl, fun _ => rfl, fun _ => rfl, fun h => absurd h (by decide)⟩
  · intro h; exact absurd (h.2.2.2 (Nat.le_refl 4)) (by decide)

/-- Consequence clause ("a float build decodes identical final ranges … identical packets where only integer kernels
    differ"): in this configuration every *float* kernel table holds the same function at arch indices 0..3, so between
    those levels only integer kernels (required bit-exact) change and the encoder must emit identical packets — which is
    what the whole-codec search checks at OPUS_VERIF_ARCH_CAP=0..3. -/
theorem float_kernels_fixed_below_avx2 : ∀ t ∈ DispatchTables.tables, t.1 ∈ floatTables →
    ∀ a ∈ List.range 4, t.2.2[a]? = t.2.2[0]? := by
  decide +kernel

example : "PITCH_XCORR_IMPL" ∈ floatTables ∧ (DispatchTables.tables.filter (fun t => floatTables.contains t.1)).length = 2 := by
  decide

/-- For ALL inputs — every 32-bit correlation matrix/vector, every codebook (any `L`, any int8 rows, any gains and code
    lengths), every `subfr_len`, `max_gain_Q7` — the SSE4.1 kernel returns the same `(ind, res_nrg_Q15, rate_dist_Q8,
    gain_Q7)` as the portable function (including "gain never written" when no vector qualifies).  32-bit wrap-around
    of `silk_MLA` is part of both programs. -/
theorem vqWMatEC_sse_eq_c (inp : VQIn) : vqWMatEC_sse inp = vqWMatEC_c inp := by
  have h : vqIter firstRowSse inp = vqIter firstRowC inp := by
    funext neg best k; exact vqIter_sse_eq inp neg best k
  unfold vqWMatEC_sse vqWMatEC_c vqWMatEC
  rw [h]

/- non-vacuity: a 2-vector codebook on which the search really picks (vector 1 wins), and the model is sensitive to
   the SSE shuffle (`shuffle_matters`: the wrong lane pairing gives another number). -/
example : vqWMatEC_sse ⟨[131072, 1000, 2000, 3000, 4000, 0, 131072, 0, 0, 0, 0, 0, 131072, 0, 0, 0, 0, 0, 131072, 0, 0, 0, 0, 0, 131072],
      [0, 0, 70000, 0, 0], [0, 0, 10, 0, 0, 0, 0, 64, 0, 0], [10, 64], [20, 30], 80, 100, 2⟩
    = ⟨-4920, 23493, 1, some 64⟩ := by decide +kernel

/-- `silk_nsq_scale_states_sse4_1` (silk/x86/NSQ_sse4_1.c) equals `silk_nsq_scale_states` (silk/NSQ.c) as a whole, for
    ALL inputs: every sub-frame / memory length (also not a multiple of four and shorter than four), every 32-bit state
    value, gain and previous gain, every lag, signal type and re-whitening flag.  All of `x_sc_Q10`, `sLTP_shp_Q14`,
    `sLTP_Q15`, `sLF_AR_shp_Q14`, `sDiff_shp_Q14`, `sLPC_Q14`, `sAR2_Q14`, `prev_gain_Q16` agree.  The two files differ
    only in the two vectorised loops; there the `_mm_mul_epi32` / `_mm_srli_epi64` / `_mm_slli_epi64` /
    `_mm_blend_epi16(0xCC)` idiom yields `silk_SMULWW` in every lane, 32-bit wrap of the C macro included, and blocks
    of four plus scalar tail cover exactly the index range of the portable loop. -/
theorem nsq_scale_states_sse_eq_c (inp : NsqScIn) (st : NsqSc) :
    nsqScaleStatesSse inp st = nsqScaleStatesC inp st ∧
    (∀ v g : Int, ∀ odd : Bool, wrap32 (smulwwLaneSse v g odd) = smulww v g) ∧
    vecSmulwwSse = vecSmulwwC :=
  ⟨nsqScaleStatesSse_eq inp st, smulwwLaneSse_eq, vecSmulwwSse_eq⟩

example : smulww (-70000) 123456789 = -131866078 ∧ wrap32 (smulwwLaneSse (-70000) 123456789 true) = -131866078 ∧
    wrap32 (smulwwLaneSse (-70000) 123456789 false) = -131866078 ∧ smulww 2147483647 2147483647 = -65536 := by decide
/- a range of 7 starting at index 1 of a 10-element array: one block of four, a tail of three, ends untouched;
   and a whole call with a gain change (state really rescaled). -/
example : vecSmulwwSse 98304 [1, 2, 3, 4, 5, 6, 7, 8, 9, 10] 1 8 = [1, 3, 4, 6, 7, 9, 10, 12, 9, 10] := by decide +kernel
example : (nsqScaleStatesSse ⟨5, 4, [1000, -2000, 3000, -4000, 5000], [7, 8, 9, 10, 11, 12, 13, 14, 15], 2, 1, 15565, 131072, 2, false, 5, 6⟩
      ⟨[10, 20, 30, 40, 50, 60, 70, 80], [1, 2, 3, 4, 5, 6, 7, 8, 9], [], 100, 200,
       [1, 1, 1, 1, 1, 1, 1, 1, 1, 1, 1, 1, 1, 1, 1, 1], [2, 2, 2, 2, 2, 2, 2, 2, 2, 2, 2, 2, 2, 2, 2, 2, 2, 2, 2, 2, 2, 2, 2, 2], 65536⟩).shp
    = [10, 20, 14, 19, 24, 29, 70, 80] := by decide +kernel

/-- The sub-frame energy accumulation of `silk_VAD_GetSA_Q8_sse4_1` (blocks of eight through `_mm_srai_epi16`,
    `_mm_madd_epi16`, `_mm_add_epi32`, two horizontal adds, scalar tail) equals the portable loop of
    `silk_VAD_GetSA_Q8_c` for every int16 sample sequence of every length, including the 32-bit wrap of the accumulator
    (the C comment excludes overflow only for lengths ≤ 128); both equal the sum of the squares of `x >> 3` modulo 2^32. -/
theorem vad_energy_sse_eq_c (x : Nat → Int) (n : Nat) :
    vadEnergySse x n = vadEnergyC x n ∧ vadEnergyC x n = wrap32 (sqSum x 0 n) :=
  ⟨vadEnergySse_eq x n, vadEnergyC_eq x n⟩

example : vadEnergySse (fun i => (-32768 : Int) + 100 * i) 19 = 301622089 ∧
    vadEnergyC (fun _ => -32768) 200 = -939524096 := by decide +kernel

/-- `silk_sar_round_smulww` (silk/x86/NSQ_del_dec_avx2.c:107-113) returns `silk_RSHIFT_ROUND(silk_SMULWW(a, b), bits)`, the very
    expression of silk_NSQ_del_dec_c, so the two model definitions are the same term and the first conjunct holds by `rfl`:
    it records that the kernel wraps like the C code, nothing more.  The content is the second conjunct: the 64-bit form
    `((int64)a·b + 2^(bits+15)) >> (bits+16)` (`sarRoundSmulww64`, what the comment in the source warns against) agrees with
    the C expression exactly when `(a*b) >> 16` fits 32 bits (for the two shift counts used, 8 and 14) — i.e. it differs
    precisely where the C code wraps. -/
theorem sar_round_smulww_avx2_eq_c (a b : Int) (bits : Nat) :
    sarRoundSmulwwAvx2 a b bits = sarRoundSmulwwC a b bits ∧
    ((-2147483648 ≤ wrap32 a * wrap32 b / 65536 ∧ wrap32 a * wrap32 b / 65536 < 2147483648) →
      sarRoundSmulww64 a b 8 = sarRoundSmulwwC a b 8 ∧ sarRoundSmulww64 a b 14 = sarRoundSmulwwC a b 14) :=
  ⟨rfl, sarRound64_eq_c_of_fits a b⟩

/- the 64-bit form differs on an overflowing input (Xq_Q14 near the 32-bit limit times a gain): the C code
   wraps to -2, the 64-bit form returns the true, large quotient — int16 output -2 versus saturated 32767. -/
example : sarRoundSmulwwC 2147483647 26345472 8 = -2 ∧ sarRoundSmulww64 2147483647 26345472 8 = 3372220414 ∧
    sarRoundSmulwwAvx2 2147483647 26345472 8 = -2 := by decide +kernel

/-- The lane helpers with which silk/x86/NSQ_del_dec_avx2.c builds its per-sample quantisation (lines 125-186, 242-247)
    compute, in every lane and for all 32-bit operands, what the C macros of silk_NSQ_del_dec_c compute:
    `silk_mm_add_sat_epi32` = silk_ADD_SAT32 (= the mathematical clamp), `silk_mm_sub_sat_epi32` = silk_SUB_SAT32,
    `silk_mm_limit_epi32` = silk_LIMIT_32 for either order of the limits, `silk_mm_smulww_epi32` = silk_SMULWW,
    `silk_mm_smulwb_epi32` = silk_SMULWB, `silk_mm256_rand_epi32` = silk_RAND; `silk_mm_srai_round_epi32(a, bits)`
    (:125-130, shift first, then add) = silk_RSHIFT_ROUND(a, bits) for every 32-bit `a` and every shift count 2..30, saturated
    inputs included.  The order in which the kernel composes these helpers is not modelled (UNPROVED
    `nsq_del_dec_simd_eq_c`). -/
theorem nsq_del_dec_avx2_lane_ops_eq_c (a b c : Int) (bits : Nat) (ha : I32 a) (hb : I32 b) (hbits : 2 ≤ bits) :
    addSatLane a b = addSat32C a b ∧ addSat32C a b = max (-2147483648) (min 2147483647 (a + b)) ∧
    subSatLane a b = subSat32C a b ∧ limitLane a b c = limit a b c ∧
    wrap32 (smulwwLaneAvx2 a b) = smulww a b ∧ wrap32 (smulwbLaneAvx2 a b) = smulwb a b ∧ randLane a = randC a ∧
    sraiRoundLane a bits = rshiftRound a bits :=
  ⟨addSatLane_eq a b ha hb, addSat32C_clamp a b ha hb, subSatLane_eq a b ha hb, limitLane_eq a b c,
   smulwwLaneAvx2_eq a b, smulwbLaneAvx2_eq a b, randLane_eq a, sraiRoundLane_eq a ha bits hbits⟩

example : addSatLane 2147483000 5000 = 2147483647 ∧ subSatLane (-2147483000) 5000 = -2147483648 ∧
    limitLane 40000 (30 * 1024) (-(31 * 1024)) = 30720 ∧ wrap32 (smulwbLaneAvx2 (-70000) 40000) = 27275 ∧
    randLane 12345 = randC 12345 := by decide
/- the saturated input the preceding `silk_mm_sub_sat_epi32` can deliver: the helper gives the C value +2^27; rounding as
   `(a + 8) >> 4` with a wrapping add (`sraiRoundLaneOld`) would give -2^27 (regression case in corpus/C15). -/
example : sraiRoundLane 2147483647 4 = 134217728 ∧ rshiftRound 2147483647 4 = 134217728 ∧
    sraiRoundLaneOld 2147483647 4 = -134217728 := by decide

/-- The relational property the codec needs from the PVQ pulse search, for `op_pvq_search_sse2` and `op_pvq_search_c`
    alike: WHATEVER the floating-point parts return — the pre-search counts `proj` (SSE2: `_mm_cvttps_epi32` of an
    `_mm_rcp_ps`-scaled vector) and, in every greedy iteration, the position `pick s` of the (SSE2: `rsqrt`-approximated)
    arg-max — as long as they stay within their contracts (`proj` has one count per position summing to at most K, i.e.
    `pulsesLeft ≥ 0`; the arg-max returns a position `< N`), the search returns a vector of N integers with exactly K
    pulses (`Σ|iy| = K`), whose signs follow the input (`iy[j] ≤ 0` where `X[j] < 0`, `≥ 0` elsewhere), and `yy = Σ iy²`.
    Covers the "too many pulses left" branch and both sign-restoration idioms (`(iy ^ -s) + s` and `(iy + m) ^ m`).
    The two contracts are properties of float code and are NOT proved here (the first is, in exact arithmetic:
    `pvq_presearch_contract_exact`).  Tie: the correspondence run records `proj` and every `pick` inside the compiled
    kernels (harness/c15_pvq.c) and the model, fed with them, must reproduce the kernel's `iy` and `yy` (driver op `pvq`,
    which also reports a recording that breaks a contract). -/
theorem pvq_search_relational (n K : Nat) (proj : List Nat) (pick : Pvq.St → Nat) (signs : List Bool)
    (hn : 0 < n) (hproj : proj.length = n) (hsum : Pvq.sum proj ≤ K) (hpick : ∀ s, pick s < n) (hs : signs.length = n) :
    (let r := Pvq.searchSse2 n K proj pick signs
     r.1.length = n ∧ Pvq.sumAbs r.1 = K ∧ (r.2 : Int) = Pvq.sumSqI r.1 ∧
     (∀ j, j < n → (signs.getD j false = true → r.1.getD j 0 ≤ 0) ∧ (signs.getD j false = false → 0 ≤ r.1.getD j 0))) ∧
    (let r := Pvq.searchC n K proj pick signs
     r.1.length = n ∧ Pvq.sumAbs r.1 = K ∧ (r.2 : Int) = Pvq.sumSqI r.1 ∧
     (∀ j, j < n → (signs.getD j false = true → r.1.getD j 0 ≤ 0) ∧ (signs.getD j false = false → 0 ≤ r.1.getD j 0))) :=
  ⟨Pvq.search_spec _ Pvq.signRestoreSse_eq n K proj pick signs hn hproj hsum hpick hs,
   Pvq.search_spec _ Pvq.signRestoreC_eq n K proj pick signs hn hproj hsum hpick hs⟩

/- non-vacuity: N=4, K=7, pre-search placed 1+0+2+0, the arg-max oracle alternates between positions 3 and 1; and the
   "too many pulses left" branch (K=20 > N+3 with an empty pre-search). -/
example : Pvq.searchSse2 4 7 [1, 0, 2, 0] (fun s => if s.left % 2 = 0 then 3 else 1) [true, false, false, true]
    = ([-1, 2, 2, -2], 13) := by decide
example : Pvq.searchC 4 20 [0, 0, 0, 0] (fun _ => 2) [true, false, false, false] = ([-20, 0, 0, 0], 400) := by decide

/-- The first contract of `pvq_search_relational` ("the pre-search never allocates more than K pulses") in EXACT
    arithmetic, over any ordered field with a floor (ℚ, ℝ): for non-negative `|X[j]|` and the scale factor `r` actually
    used, `r·Σ|x| < K+1` implies that the counts `floor(r·|x_j|)` are one per position and sum to at most K; and
    `r·Σ|x| < K+1` holds for `r = (K+4/5)/Σ|x|` (the code's `(K+0.8f)·rcp(sum)`) even when reciprocal and sum carry a
    relative error ε with `ε·(5K+4) < 1` (K = 128: ε < 1/644, while `_mm_rcp_ps` guarantees 1.5·2⁻¹²).  That the
    binary32 evaluation (rounded sum and products) stays within this margin remains an assumption. -/
theorem pvq_presearch_contract_exact {α : Type} [Field α] [LinearOrder α] [IsStrictOrderedRing α] [FloorRing α]
    (K : Nat) (xs : List α) (S ε r : α) (hx : ∀ x ∈ xs, 0 ≤ x) (hS : Pvq.fsum xs = S) (hSpos : 0 < S) (hr0 : 0 ≤ r)
    (hε : 0 ≤ ε) (hm : ε * (5 * (K : α) + 4) < 1) (hr : r ≤ ((K : α) + 4 / 5) / S * (1 + ε)) :
    (Pvq.counts r xs).length = xs.length ∧ Pvq.sum (Pvq.counts r xs) ≤ K :=
  Pvq.presearch_contract K r xs hx hr0 (by rw [hS]; exact Pvq.presearch_margin K S ε r hSpos hε hm hr)

/- non-vacuity over ℚ: |X| = (1/2, 1/4, 1/4), K = 5, exact r = 5.8: counts 2,1,1 (4 ≤ 5, one pulse left for the greedy loop) -/
example : Pvq.counts (29 / 5 : ℚ) [1 / 2, 1 / 4, 1 / 4] = [2, 1, 1] := by
  simp only [Pvq.counts, List.map]
  norm_num [Int.floor_eq_iff]
  decide

section lanes
variable {α : Type} [CommSemiring α]

/-- celt_inner_prod_sse = celt_inner_prod_c for every length `N` (4-lane strided sums, horizontal add, scalar tail). -/
theorem lanes_eq_seq_inner_prod (x y : Nat → α) (N : Nat) : innerProdSse x y N = innerProdC x y N :=
  innerProdSse_eq x y N

/-- dual_inner_prod_sse = dual_inner_prod_c (both outputs) for every length. -/
theorem lanes_eq_seq_dual_inner_prod (x y1 y2 : Nat → α) (N : Nat) :
    dualInnerProdSse x y1 y2 N = dualInnerProdC x y1 y2 N := by
  -- `dualInnerProdSse` is the body of `innerProdSse` twice, once per `y`
  show (innerProdSse x y1 N, innerProdSse x y2 N) = (innerProdC x y1 N, innerProdC x y2 N)
  rw [innerProdSse_eq, innerProdSse_eq]

/-- xcorr_kernel_sse = xcorr_kernel_c on all four lags for every `len` (also `len < 4` and `len % 4 ≠ 0`), and both
    are `sum[k] + Σ_j x[j]·y[j+k]`: the shuffles 0x49/0x9e pick exactly `y[j+1..j+4]`, `y[j+2..j+5]`. -/
theorem lanes_eq_seq_xcorr_kernel (x y : Nat → α) (sum : Vec α) (len k : Nat) (hk : k < 4) :
    xcorrKernelSse x y sum len k = xcorrKernelC x y sum len k ∧
    xcorrKernelC x y sum len k = sum k + sumRange (fun j => x j * y (j + k)) len :=
  ⟨xcorrKernelSse_eq x y sum len k hk, xcorrKernelC_eq x y sum len k⟩

/-- celt_pitch_xcorr_avx2 (8-lag blocks with FMA accumulators and masked remainder, `celt_inner_prod` for the last
    `max_pitch % 8` lags) and celt_pitch_xcorr_c (4-lag blocks through xcorr_kernel, `celt_inner_prod` for the rest;
    with the SSE or the portable inner kernels) all equal `xcorr[i] = Σ_{j<len} x[j]·y[i+j]` for every `len`,
    `max_pitch` and lag `i`. -/
theorem lanes_eq_seq_pitch_xcorr (x y : Nat → α) (len maxPitch i : Nat) :
    pitchXcorrAvx2 x y len maxPitch i = pitchXcorrSpec x y len i ∧
    pitchXcorrC x y len maxPitch i = pitchXcorrSpec x y len i ∧
    pitchXcorrCPortable x y len maxPitch i = pitchXcorrSpec x y len i :=
  ⟨pitchXcorrAvx2_eq x y len maxPitch i, pitchXcorrC_eq x y len maxPitch i, pitchXcorrCPortable_eq x y len maxPitch i⟩

/-- comb_filter_const_sse = comb_filter_const_c at every output sample it writes, for every period `T` and gains,
    when input and output do NOT overlap (`x` is an immutable memory here): the 0x4e/0x99 shuffles rebuild `x[i-T-1]`,
    `x[i-T]`, `x[i-T+1]` from the two loads.  The codec also calls the filter IN PLACE (`y == x`, celt_decoder.c post-filter).
    There the SSE code reads `x[i-T+2..i-T+5]` and carries `x[i-T-2..i-T+1]` from the previous block, i.e. samples that an
    in-place run has already overwritten only if `T ≤ 5`; for `T ≥ 6` both orders read the same, final, values.  The codec
    guarantees `T ≥ COMBFILTER_MINPERIOD = 15`.  The in-place equality is NOT a theorem of this file (UNPROVED
    `comb_filter_inplace_sse_eq_c`); it is covered by the exact-domain correspondence run (`combip`, sequential in-place
    semantics in the driver, every length at `T = 15` and at random `T ≥ 15`). -/
theorem lanes_eq_seq_comb_filter (x : Nat → α) (T : Nat) (g10 g11 g12 : α) (i : Nat) :
    combSse x T g10 g11 g12 i = combC x T g10 g11 g12 i := by
  unfold combSse combC combSseBlock
  have hi : i = i / 4 * 4 + i % 4 := by have := Nat.div_add_mod i 4; omega
  have hm : i % 4 < 4 := Nat.mod_lt i (by decide)
  generalize i / 4 * 4 = m at hi
  generalize i % 4 = r at hi hm
  subst hi
  have hr : r = 0 ∨ r = 1 ∨ r = 2 ∨ r = 3 := by omega
  rcases hr with h | h | h | h <;> subst h <;>
    simp [vadd, vmul, shufflePs, loadu, Nat.add_assoc] <;> first | ring1 | ring_nf

/-- silk_inner_product_FLP_avx2 (two 4×double accumulators over blocks of 8, one optional block of 4, horizontal
    add, scalar tail) = silk_inner_product_FLP_c (4× unrolled) = Σ x[i]·y[i], for every length. -/
theorem lanes_eq_seq_inner_product_flp (x y : Nat → α) (n : Nat) :
    innerProductFlpAvx2 x y n = innerProductFlpC x y n ∧
    innerProductFlpC x y n = sumRange (fun i => x i * y i) n :=
  ⟨by rw [innerProductFlpAvx2_eq, innerProductFlpC_eq], innerProductFlpC_eq x y n⟩

end lanes

/- non-vacuity of (iii): the lane programs compute non-trivial values, the definitions are sensitive to position
   (weights 1,2,3,… make every element count differently), lengths below / across lane boundaries included. -/
example : innerProdSse (α := Int) (fun i => i + 1) (fun i => 10 ^ (i % 3)) 7 = 1 + 20 + 300 + 4 + 50 + 600 + 7 := by decide
example : innerProdSse (α := Int) (fun i => i + 1) (fun _ => 1) 3 = 6 ∧ innerProdC (α := Int) (fun i => i + 1) (fun _ => 1) 0 = 0 := by decide
example : (List.range 4).map (xcorrKernelSse (α := Int) (fun j => j + 1) (fun j => 2 ^ j) (fun k => 100 * k) 6)
    = [321, 742, 1484, 2868] := by decide
example : (List.range 11).map (pitchXcorrAvx2 (α := Int) (fun j => j + 1) (fun j => j * j) 9 11)
    = (List.range 11).map (pitchXcorrSpec (α := Int) (fun j => j + 1) (fun j => j * j) 9) ∧
    pitchXcorrAvx2 (α := Int) (fun j => j + 1) (fun j => j * j) 9 11 10 = 10800 := by decide
example : (List.range 8).map (combSse (α := Int) (fun j => 3 ^ (j % 7)) 15 2 3 5) =
    (List.range 8).map (combC (α := Int) (fun j => 3 ^ (j % 7)) 15 2 3 5) ∧
    combC (α := Int) (fun j => 3 ^ (j % 7)) 15 2 3 5 0 = 545 := by decide
example : innerProductFlpAvx2 (α := Int) (fun i => i + 1) (fun i => 2 * i + 1) 13 = 1547 := by decide

end OpusProps.C15
