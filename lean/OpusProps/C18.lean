import OpusProofs.SilkParamsNlsf
import OpusProofs.SilkParamsLpc
import OpusProofs.SilkParamsGains
import OpusProofs.SilkParamsDec
import OpusProofs.SilkParamsRangeNlsf2a
import OpusProofs.SilkParamsRangeBridge
import OpusProofs.SilkParamsRangeInvGain
import OpusProofs.SilkSynthIdxCore
import OpusProofs.SilkSynthIdxHist
import OpusProofs.SilkSynthIdxParams
import OpusProofs.SilkSynthIdxOut
import OpusProofs.SilkSynthIdxInit
import OpusProofs.SilkParamsPitch
/-
  C18 — SILK side information always dequantises to stable, in-range parameters.

  Model: OpusModel/SilkParams (+ OpusModel/SilkParams/{Fix,Nlsf,Lpc,Gains,PitchEnc}.lean), tables
  regenerated from /repo into OpusModel/Gen/SilkNlsf.lean.  Vocabulary (OpusProofs/SilkParamsSpec):
  `I16`/`AllI16` (fits opus_int16), `SpacedFrom 0 x d` (x[0] ≥ d[0], x[i] ≥ x[i-1] + d[i],
  x[L-1] + d[L] ≤ 2^15), `StrictInc`.

  Range theorems (the middle part of the file, before the index-safety bridge).  The model computes in unbounded `Int` and applies
  `wrap32`/`wrap16` only where the C code has an explicit narrowing.  For every modelled function
  a *trace* function (OpusProofs/SilkParamsRange*.lean) lists every value the C code holds in an
  `int`/`opus_int32` (results of plain `+ - *`, operands of `(opus_int32)` casts) and a *casts*
  function lists the operands of the conversions to `opus_int16`; the theorems say `I32` resp.
  `I16` of all of them on the input domain the decoder guarantees.

  Full statement that is NOT proved:

    theorem nlsf2a_nowrap_d16 (nlsf : List Int) (hd : nlsf.length = 16)
        (hr : ∀ e ∈ nlsf, 0 ≤ e ∧ e ≤ 32767) (hord : nlsf.Pairwise (· ≤ ·)) :
        ∃ c, nlsf2aCosQA nlsf = .ok c ∧ ∀ e ∈ nlsf2aPoly c, -2147483647 ≤ e ∧ e ≤ 2147483647
    -- i.e. for ORDERED NLSFs of order 16 the final subtraction `a32_QA1[k] = ∓Qtmp - Ptmp`
    -- (NLSF2A.c:125-126) fits 32 bits.  Proved instead (`nlsf2a_nowrap_d16_partial`): everything
    -- before that subtraction fits for all in-range inputs, everything after it fits whenever
    -- `a32_QA1` does, and the subtraction itself DOES overflow for the unordered in-range input
    -- 32767,0,32767,0,… (`nlsf2a_d16_unordered_overflows`), so ordering is necessary.  That
    -- ordering is sufficient is the classical fact that interlaced line spectral frequencies give
    -- a minimum-phase A(z) whose coefficients are bounded by C(16,k) ≤ 12870 (·2^17 = 0.79·2^31);
    -- it needs root-location arguments that are out of reach here.  Search: maximum over ordered
    -- inputs found by hill climbing is exactly that value (all NLSFs equal 0).
-/
namespace OpusProps.C18
open Opus Opus.SilkParams Opus.Gen

/-- Clause "whatever index values a bitstream can carry … at least the codebook's minimum
    spacing" — table side.  For both regenerated NLSF codebooks: array sizes agree with
    `nVectors`/`order` and with the ICDF symbol counts (so decoded indices are in bounds), all
    first-stage weights are positive (no division by zero in `silk_NLSF_decode`), every
    `deltaMin` entry is ≥ 1 and they sum to at most 2^15, and every table read of
    `silk_NLSF_unpack` is in bounds for every first-stage index; the cosine table, the pitch
    contour codebooks and the gain ICDFs have the sizes the decoders index them with. -/
theorem cb_wellformed : CbWellFormed cbNbMb ∧ CbWellFormed cbWb ∧ SideTablesWellFormed :=
  ⟨cbNbMb_wellformed, cbWb_wellformed, sideTables_wellformed⟩

example : cbNbMb.deltaMinQ15 = [250, 3, 6, 3, 3, 3, 4, 3, 3, 3, 461] ∧ cbWb.order = 16 := by decide

/-- Clause "line-spectral frequencies come out strictly ordered with at least the codebook's
    minimum spacing" — the stabiliser.  For EVERY int16 input vector `x` (length L ≥ 1) and EVERY
    minimum-distance table `ds ++ [dL]` with non-negative entries, last entry ≥ 1 and sum ≤ 2^15,
    `silk_NLSF_stabilize` returns (early exit or fallback path) a vector of the same length whose
    entries fit int16 and satisfy `out[0] ≥ d[0]`, `out[i] - out[i-1] ≥ d[i]`, `out[L-1] ≤ 2^15 - d[L]`. -/
theorem stabilize_post (x ds : List Int) (dL : Int) (hx : AllI16 x) (hne : x ≠ [])
    (hlen : ds.length = x.length) (hpos : ∀ e ∈ ds, 0 ≤ e) (hlast : 1 ≤ dL)
    (hsum : sumL ds + dL ≤ 32768) :
    ∃ out, nlsfStabilize x (ds ++ [dL]) = .ok out ∧ SpacedFrom 0 out (ds ++ [dL]) ∧
      out.length = x.length ∧ AllI16 out :=
  nlsfStabilize_spec x (ds ++ [dL]) hx (List.length_pos_iff.mpr hne)
    (by rw [← hlen]; exact DeltaOk_of_facts dL ds 0 hpos hlast (by omega))

/- a reversed vector with a clustered pair: goes through corrective moves -/
example : nlsfStabilize [30000, 200, 200, -5] ([250, 3, 6, 3] ++ [461]) = .ok [7492, 7602, 7608, 7717] := by
  decide +kernel

/-- Clause "line-spectral frequencies come out strictly ordered …" — the decoder.  For both
    codebooks, every first-stage index `cb1 < nVectors` and EVERY residual index vector of length
    `order` (any integers, not only the ±10 a bitstream can produce), `silk_NLSF_decode` performs
    no out-of-bounds read or division by zero and returns `order` values in `[0, 32767]`,
    strictly increasing, spaced by the codebook's `deltaMin`. -/
theorem nlsf_decode_ordered (cb : NlsfCB) (hcb : cb = cbNbMb ∨ cb = cbWb) (cb1 : Nat)
    (h1 : cb1 < cb.nVectors) (idx : List Int) (hlen : idx.length = cb.order) :
    ∃ out, nlsfDecode cb ((cb1 : Int) :: idx) = .ok out ∧ SpacedFrom 0 out cb.deltaMinQ15 ∧
      out.length = cb.order ∧ (∀ e ∈ out, 0 ≤ e ∧ e ≤ 32767) ∧ StrictInc out :=
  nlsfDecode_ordered cb (cbOk hcb) cb1 h1 idx hlen

example : nlsfDecode cbNbMb [7, 10, -10, 10, -10, 0, 0, 4, -4, 10, 10] =
    .ok [2775, 2778, 8662, 8665, 13963, 17510, 26518, 28628, 32304, 32307] := by decide +kernel

/-- Clause "the prediction filters derived from them (including interpolated ones) are stable
    with bounded gain and fit their 16-bit format".  For EVERY vector of 10 or 16 values in
    `[0, 32767]` (no ordering assumed, hence interpolated vectors are covered) `silk_NLSF2A`
    returns `d` int16 coefficients (`AllI16` holds by construction: the model stores them through the `(opus_int16)`
    casts; that no cast truncates is `lpc_fit_int16`) that pass the codec's own stability test:
    `silk_LPC_inverse_pred_gain(a_Q12) ≠ 0`.  What the code does: the loop
    `for (i = 0; inv_gain(a) == 0 && i < 16; i++)` either stops on a passing filter, or reaches
    `i = 15` where the chirp factor `65536 - (2 << 15)` is 0, which zeroes the 32-bit filter; the
    re-quantised all-zero filter has inverse gain 2^30 and passes.  A non-zero inverse gain is
    at least `SILK_FIX_CONST(1/MAX_PREDICTION_POWER_GAIN, 30) = 107374` (bounded gain).

    CAVEAT (scope of "EVERY vector").  This is a statement about the MODEL `nlsf2a`, which computes
    `a32_QA1[k] = ∓Qtmp − Ptmp` (NLSF2A.c:125-126) in unbounded integers.  The model equals the C
    code only on inputs where that subtraction fits `opus_int32`:
      * order 10: always (`nlsf2a_nowrap_d10`) — the statement transfers to the C function as is;
      * order 16: only where `a32_QA1` fits 32 bits (hypothesis `hA` of `nlsf2a_nowrap_d16_partial`).
        For UNORDERED in-range input it does not (`nlsf2a_d16_unordered_overflows`: signed overflow,
        undefined behaviour in C), so for such input this theorem says nothing about the C code.
        For ORDERED input (all the decoder and encoder ever pass) the fit is NOT proved either — it is
        only searched (UBSan + 64-bit recomputation, worst value 0.7855·2^31) and listed under
        UNPROVED.  So for order 16 the transfer to C rests on that search, not on a theorem. -/
theorem nlsf2a_passes_stability (nlsf : List Int) (hd : nlsf.length = 10 ∨ nlsf.length = 16)
    (hr : ∀ e ∈ nlsf, 0 ≤ e ∧ e ≤ 32767) :
    ∃ a, nlsf2a nlsf = .ok a ∧ a.length = nlsf.length ∧ AllI16 a ∧
      lpcInversePredGain a ≠ 0 ∧ 107374 ≤ lpcInversePredGain a := by
  obtain ⟨a, ha, hl, hI, hg⟩ := nlsf2a_spec nlsf hd hr
  exact ⟨a, ha, hl, hI, hg, ((lpcInversePredGain_cases a).resolve_left hg).1⟩

/- an unordered, clustered input that needs bandwidth expansion before it passes -/
example : nlsf2a [100, 100, 100, 100, 100, 20000, 20000, 20000, 20000, 20000] =
    .ok [10411, -10758, 10164, -11137, 7494, -3318, 2083, -869, -92, 102] := by decide +kernel

/-- Clause "… (including interpolated ones)" — composition as in `silk_decode_parameters`
    (decode_parameters.c:44-80, no packet loss).  For both codebooks, every first-stage index,
    every residual vector, every previous NLSF vector in `[0, 32767]` (e.g. the previous frame's
    stabilised NLSFs), every interpolation factor 0..4 and either value of
    `first_frame_after_reset`: decoding succeeds, the NLSFs are spaced by `deltaMin`, and both the
    interpolated filter `PredCoef_Q12[0]` and the final filter `PredCoef_Q12[1]` are int16 (by construction, see
    `nlsf2a_passes_stability`) and pass
    the stability test.

    CAVEAT.  As for `nlsf2a_passes_stability`: a statement about the model, whose `silk_NLSF2A` step is
    computed in unbounded integers.  For the NB/MB codebook (order 10) the model provably equals the C
    code (`nlsf2a_nowrap_d10`, `nlsf_decode_nowrap`).  For the WB codebook (order 16) the NLSFs passed
    to `silk_NLSF2A` are ordered (`nlsf_decode_ordered`; interpolation of ordered vectors is ordered),
    but that `a32_QA1` then fits 32 bits is unproved (UNPROVED: `nlsf2a_nowrap_d16`; search + UBSan
    only), so for order 16 the transfer of this theorem to the C code rests on that search. -/
theorem decode_parameters_stable (cb : NlsfCB) (hcb : cb = cbNbMb ∨ cb = cbWb) (cb1 : Nat)
    (h1 : cb1 < cb.nVectors) (idx prev : List Int) (coef ffar : Int) (hlen : idx.length = cb.order)
    (hpl : prev.length = cb.order) (hpr : ∀ e ∈ prev, 0 ≤ e ∧ e ≤ 32767) (hc0 : 0 ≤ coef) (hc1 : coef ≤ 4) :
    ∃ a0 a1 nlsf, decodeNlsfParams cb ((cb1 : Int) :: idx) prev coef ffar = .ok (a0, a1, nlsf) ∧
      SpacedFrom 0 nlsf cb.deltaMinQ15 ∧ a0.length = cb.order ∧ a1.length = cb.order ∧
      AllI16 a0 ∧ AllI16 a1 ∧ lpcInversePredGain a0 ≠ 0 ∧ lpcInversePredGain a1 ≠ 0 :=
  let ⟨a0, a1, nlsf, h, _⟩ := decodeNlsfParams_spec cb (cbOk hcb) cb1 h1 idx prev coef ffar hlen hpl hpr hc0 hc1
  ⟨a0, a1, nlsf, h⟩

example : decodeNlsfParams cbNbMb [3, 0, 1, -2, 0, 3, 0, 0, -1, 0, 2]
    [1000, 4000, 7000, 10000, 13000, 16000, 19000, 22000, 25000, 28000] 1 0 =
    .ok ([4763, -2165, 1728, -331, -60, -574, 290, -213, 528, -129],
         [3861, -372, 466, 3089, -4097, 13, -771, 394, 1646, -498],
         [1760, 3780, 4608, 11295, 15595, 15598, 18418, 21356, 27208, 31157]) := by
  decide +kernel

/-- Clause "sub-frame gains stay inside the quantiser's range however delta indices
    accumulate".  For EVERY chain of frames (any number of frames, any number of sub-frames, each
    frame independently or conditionally coded), EVERY index value (any integers, not only the
    coded ranges 0..63 / 0..40) and every starting `LastGainIndex` in `[0, 63]`:
    all dequantised gains lie in `[gain(0), gain(63)] = [81920, 1686110208]` (Q16) and
    `LastGainIndex` is again in `[0, 63]` after the chain (hence after every prefix of it). -/
theorem gain_index_inv (frames : List (List Int × Int)) (prev : Int) (h0 : 0 ≤ prev) (h1 : prev ≤ 63) :
    (∀ gs ∈ (gainsDequantChain frames prev).1, ∀ g ∈ gs, gainMinQ16 ≤ g ∧ g ≤ gainMaxQ16) ∧
    0 ≤ (gainsDequantChain frames prev).2 ∧ (gainsDequantChain frames prev).2 ≤ 63 := by
  induction frames generalizing prev with
  | nil => simp [gainsDequantChain, h0, h1]
  | cons f fs ih =>
    obtain ⟨ind, cond⟩ := f
    have h := gainsDequantLoop_spec cond ind true prev
    have hp : 0 ≤ (gainsDequant ind prev cond).2 ∧ (gainsDequant ind prev cond).2 ≤ 63 := by
      unfold gainsDequant
      cases ind with
      | nil => simp [gainsDequantLoop, h0, h1]
      | cons i is => exact h.2.2 (by simp)
    have h' := ih (gainsDequant ind prev cond).2 hp.1 hp.2
    simp only [gainsDequantChain, List.mem_cons, forall_eq_or_imp]
    exact ⟨⟨h.2.1, h'.1⟩, h'.2⟩

example : gainsDequantChain [([63, 40, 40, 40], 0), ([40, 0, 0, 0], 1)] 0 =
    ([[1686110208, 1686110208, 1686110208, 1686110208], [1686110208, 897581056, 480247808, 253755392]], 51) := by
  decide +kernel

/-- Same clause, single step: whatever the index, previous index and coding mode, one sub-frame of
    `silk_gains_dequant` leaves `*prev_ind` in `[0, 63]`; and the range ends are attained:
    `gain(0) = 81920`, `gain(63) = 1686110208`, strictly increasing in between. -/
theorem gain_step_range (first : Bool) (cond ind prev : Int) :
    0 ≤ gainDequantPrev first cond ind prev ∧ gainDequantPrev first cond ind prev ≤ 63 ∧
    gainOfIndex 0 = gainMinQ16 ∧ gainOfIndex 63 = gainMaxQ16 ∧
    (∀ p ∈ List.range 63, gainOfIndex (p : Int) < gainOfIndex ((p : Int) + 1)) :=
  ⟨(gainDequantPrev_range first cond ind prev).1, (gainDequantPrev_range first cond ind prev).2,
   gainOfIndex_ends.1, gainOfIndex_ends.2,
   fun p hp => (gainOfIndex_table p (List.mem_range.mpr (by have := List.mem_range.mp hp; omega))).2.2⟩

example : gainDequantPrev true 0 5 40 = 24 ∧ gainDequantPrev false 1 40 60 = 63 := by decide +kernel

/-- Same clause, arithmetic safety: for indices a bitstream can carry (0..63 absolute, 0..40
    delta) and a previous index in `[0, 63]`, no store into the `opus_int8` `*prev_ind` wraps —
    the update is the plain integer formula followed by the clamp to `[0, 63]`. -/
theorem gain_step_nowrap (first : Bool) (cond ind prev : Int) (hp0 : 0 ≤ prev) (hp1 : prev ≤ 63)
    (hi0 : 0 ≤ ind) (hi1 : if first = true ∧ cond = 0 then ind ≤ 63 else ind ≤ 40) :
    gainDequantPrev first cond ind prev =
      limit (if first = true ∧ cond = 0 then max ind (prev - 16)
             else if ind - 4 > 8 + prev then prev + (2 * (ind - 4) - (8 + prev)) else prev + (ind - 4)) 0 63 := by
  obtain ⟨h1, h2, h3⟩ := gain_consts
  have hl : ∀ a, limit a 0 63 = max 0 (min a 63) := fun a => limit_eq a 0 63 (by omega)
  unfold gainDequantPrev doubleStepThreshold lshift32
  simp only [h1, h2, h3, Int.reducePow, Int.reduceSub, Int.reduceMul, hl]
  by_cases hc : first = true ∧ cond = 0
  · simp only [hc, and_self, ↓reduceIte] at hi1 ⊢
    simp (disch := omega) only [wrap8_id]
  · simp only [hc, ↓reduceIte] at hi1 ⊢
    rw [show wrap32 ((ind + -4) * 2) = 2 * (ind - 4) by unfold wrap32; omega, show ind + -4 = ind - 4 by omega]
    split <;> simp (disch := omega) only [wrap8_id]

example : gainDequantPrev false 1 40 0 = 63 ∧ (if false = true ∧ (1 : Int) = 0 then (40 : Int) ≤ 63 else (40 : Int) ≤ 40) := by
  decide +kernel

/-- Clause "quantising parameters on the encoder side and dequantising them gives the same
    values the decoder will reconstruct" — gains.  For EVERY input gain vector (any 32-bit
    values), every `prev_ind` in `[0, 63]` and either coding mode, running `silk_gains_dequant`
    on the indices produced by `silk_gains_quant` (same `prev_ind`, same mode) yields exactly
    the quantised gains the encoder wrote back and the same final `prev_ind`, again in `[0, 63]`. -/
theorem gains_quant_dequant (gains : List Int) (prev cond : Int) (h0 : 0 ≤ prev) (h1 : prev ≤ 63) :
    gainsDequant (gainsQuant gains prev cond).1 prev cond =
      ((gainsQuant gains prev cond).2.1, (gainsQuant gains prev cond).2.2) ∧
    (gainsQuant gains prev cond).1.length = gains.length ∧
    0 ≤ (gainsQuant gains prev cond).2.2 ∧ (gainsQuant gains prev cond).2.2 ≤ 63 :=
  gainsQuantLoop_agrees cond gains true prev h0 h1

example : gainsQuant [65536, 1000000, 30000000, 123] 10 0 =
    ([6, 13, 26, 0], [210944, 872448, 28049408, 14876672], 33) := by decide +kernel

/-- One sub-frame of the quantiser: the emitted index is in the coded range (0..63 absolute,
    0..40 delta), so it can be written with the gain ICDFs. -/
theorem gains_quant_index_in_range (first : Bool) (cond g prev : Int) (h0 : 0 ≤ prev) (h1 : prev ≤ 63) :
    0 ≤ (gainQuantStep first cond g prev).1 ∧
    (if first = true ∧ cond = 0 then (gainQuantStep first cond g prev).1 ≤ 63
     else (gainQuantStep first cond g prev).1 ≤ 40) :=
  ⟨(gainQuantStep_agrees first cond g prev h0 h1).2.2.2.2.1, (gainQuantStep_agrees first cond g prev h0 h1).2.2.2.2.2⟩

example : (gainQuantStep false 1 2000000000 3).1 = 40 := by decide +kernel

/-- Clause "quantising … gives the same values the decoder will reconstruct" — NLSF
    interpolation.  On NLSF-range vectors the encoder's `silk_interpolate`
    (process_NLSFs.c:73,96) and the decoder's inline interpolation (decode_parameters.c:66-69)
    compute the same vector, which again lies in `[0, 32767]`.  (The encoder's quantised NLSFs
    themselves are produced by a call to the modelled `silk_NLSF_decode`, NLSF_encode.c:119.) -/
theorem nlsf_interp_enc_dec_agree (k : Int) (hk0 : 0 ≤ k) (hk1 : k ≤ 4) (p c : List Int)
    (hl : p.length = c.length) (hp : ∀ e ∈ p, 0 ≤ e ∧ e ≤ 32767) (hc : ∀ e ∈ c, 0 ≤ e ∧ e ≤ 32767) :
    nlsfInterpEnc k p c = nlsfInterpDec k p c ∧ (nlsfInterpDec k p c).length = c.length ∧
    ∀ e ∈ nlsfInterpDec k p c, 0 ≤ e ∧ e ≤ 32767 :=
  nlsfInterp_spec k hk0 hk1 p c hl hp hc

example : nlsfInterpDec 3 [32767, 0, 100] [0, 32767, 101] = [8191, 24575, 100] := by decide +kernel

/-- Clause "pitch lags and contours stay inside the legal lag range for the sampling rate".
    For `Fs_kHz ∈ {8,12,16}`, `nb_subfr ∈ {2,4}`, EVERY `lagIndex` (any integer: in range, or out
    of range after delta decoding) and every contour index below the size of the selected
    codebook: `silk_decode_pitch` reads only inside the contour table and returns `nb_subfr`
    lags with `2*Fs_kHz ≤ lag ≤ 18*Fs_kHz`. -/
theorem pitch_in_range (lagIndex contour fs : Int) (nb : Nat)
    (hfs : fs = 8 ∨ fs = 12 ∨ fs = 16) (hnb : nb = 2 ∨ nb = 4) (hc0 : 0 ≤ contour)
    (hc1 : ∀ cb, pitchCodebook fs nb = .ok cb → contour < (cb.2 : Int)) :
    ∃ lags, decodePitch lagIndex contour fs nb = .ok lags ∧ lags.length = nb ∧
      ∀ l ∈ lags, 2 * fs ≤ l ∧ l ≤ 18 * fs :=
  decodePitch_spec lagIndex contour fs nb hfs hnb hc0 hc1

example : decodePitch 100 33 16 4 = .ok [123, 129, 135, 141] ∧ decodePitch (-7) 2 8 2 = .ok [16, 16] ∧
    pitchCodebook 16 4 = .ok (SilkNlsf.cbLagsStage3, 34) := by decide +kernel

/-- Clause "quantising parameters on the encoder side and dequantising them gives the same values the decoder will
    reconstruct", for pitch lags and contours.  `pitchEncTail` is the integer tail of `silk_pitch_analysis_core_FLP`
    (pitch_analysis_core_FLP.c:459-472; the same lines in the fixed-point file): from the selected lag (`lag_new` at
    12/16 kHz, the stage-2 `lag` at 8 kHz) and contour `CBimax` it produces the per-sub-frame lags the encoder itself
    uses (`psEncCtrl->pitchL[]`) and the transmitted `lagIndex` / `contourIndex`.  For every rate, both sub-frame counts,
    every lag in `[2·Fs, 18·Fs]` (a superset of the search range `[min_lag, max_lag]`, max_lag = 18·Fs − 1) and every
    contour of the codebook the rate / sub-frame count selects: the `(opus_int16)` / `(opus_int8)` stores are lossless,
    and `silk_decode_pitch` applied to the two indices returns exactly the encoder's `pitch_out` — same codebook, same
    `min_lag`, and the same clamp `[2·Fs, 18·Fs]` on both sides. -/
theorem pitch_enc_dec_agree (fs : Int) (nb : Nat) (lag cbimax : Int)
    (hfs : fs = 8 ∨ fs = 12 ∨ fs = 16) (hnb : nb = 2 ∨ nb = 4)
    (hl : 2 * fs ≤ lag ∧ lag ≤ 18 * fs) (hc : 0 ≤ cbimax ∧ cbimax < ((pitchEncCodebook fs nb).2 : Int)) :
    ∃ o, pitchEncTail fs nb lag cbimax = .ok o ∧ o.lagIndex = lag - 2 * fs ∧ o.contourIndex = cbimax ∧
      decodePitch o.lagIndex o.contourIndex fs nb = .ok o.pitchOut ∧ o.pitchOut.length = nb ∧
      ∀ l ∈ o.pitchOut, 2 * fs ≤ l ∧ l ≤ 18 * fs := by
  obtain ⟨-, hlen, hsz, -, -⟩ := pitchCodebook_ok fs (by omega) hnb
  have hd := decodePitch_eq (lag - 2 * fs) cbimax fs (by omega) hnb hc
  rw [show 2 * fs + (lag - 2 * fs) = lag by omega] at hd
  refine ⟨⟨_, lag - 2 * fs, cbimax⟩, ?_, rfl, rfl, hd, pitchLags_length .., pitchLags_range _ _ _ _ _ _ _ _ (by omega)⟩
  unfold pitchEncTail
  simp only [show SilkNlsf.peMinLagMs = 2 from rfl, show SilkNlsf.peMaxLagMs = 18 from rfl, pitchEncLoop_eq,
    pitchLoop_eq _ _ _ _ _ _ hc nb 0 (Nat.le_of_eq (by rw [Nat.zero_add, hlen])), bind, Res.bind, pure,
    wrap16_id (x := lag - 2 * fs) (by unfold I16; omega), wrap8_id (x := cbimax) (by omega) (by omega)]
  rfl

/- Non-vacuity: a lag one below the top of the range with a rising contour reaches the legal maximum 18·Fs = 216
   on both sides (a clamp to the search bound 18·Fs − 1 on the encoder side would give 215 ≠ 216); a lag at the
   bottom with a falling contour is clamped to 2·Fs on both sides; an 8 kHz stage-2 case. -/
example : pitchEncTail 12 2 215 4 = .ok ⟨[216, 214], 191, 4⟩ ∧ decodePitch 191 4 12 2 = .ok [216, 214] ∧
    pitchEncTail 16 4 33 33 = .ok ⟨[32, 32, 36, 42], 1, 33⟩ ∧ decodePitch 1 33 16 4 = .ok [32, 32, 36, 42] ∧
    pitchEncTail 8 4 144 10 = .ok ⟨[144, 144, 144, 143], 128, 10⟩ ∧ decodePitch 128 10 8 4 = .ok [144, 144, 144, 143] ∧
    (pitchEncCodebook 12 2).2 = 12 := by decide +kernel

/-! ## Range theorems: no 32-bit wrap, no truncating `(opus_int16)` cast -/

/-- `silk_bwexpander_32` (bwexpander_32.c:36-51) with a chirp factor `0 ≤ chirp_Q16 ≤ 65536` — all
    callers modelled here: `silk_LPC_fit` passes a value in [13040, 65470], the stabilisation loop of
    `silk_NLSF2A` passes `65536 - (2 << i)`, i ≤ 15 — and `opus_int32` coefficients: every value of
    `bwexpTrace` (the operand of the `(opus_int32)` cast of each `silk_SMULWW`, the 32-bit product
    `silk_MUL( chirp_Q16, chirp_minus_one_Q16 )`, both steps of `silk_RSHIFT_ROUND`, each new
    `chirp_Q16`) fits 32 bits, and every output coefficient lies between its input and 0 (here:
    inside any interval `[lo, hi] ∋ 0` containing the inputs). -/
theorem bwexpander32_nowrap (ar : List Int) (chirp lo hi : Int) (h0 : 0 ≤ chirp) (h1 : chirp ≤ 65536)
    (hlo0 : -2147483648 ≤ lo) (hlo : lo ≤ 0) (hhi : 0 ≤ hi) (hhi1 : hi ≤ 2147483647)
    (hx : ∀ x ∈ ar, lo ≤ x ∧ x ≤ hi) :
    I32 (chirp - 65536) ∧ (∀ v ∈ bwexpTrace ar chirp (chirp - 65536), I32 v) ∧
    (∀ e ∈ bwexpander32 ar chirp, lo ≤ e ∧ e ≤ hi) :=
  bwexpander32_range ar chirp lo hi h0 h1 hlo0 hlo hhi hhi1 hx

example : bwexpander32 [2147483647, -2147483648, 5] 65470 = [2145320959, -2143158272, 4] ∧
    bwexpTrace [7, -7] 65534 (-2) = [6, -131068, -3, -2, 65532, -7] := by decide +kernel

/-- P1 `lpc_fit_int16` (DESIGN §7.C18).  For every `a32_QA1` of 1..16 values of magnitude at most
    `2^31 - 1` (every `opus_int32` except `silk_int32_MIN`, whose `silk_abs` would overflow):
    in `silk_LPC_fit( a_Q12, a32_QA1, 12, 17, d )` and in the stabilisation loop of `silk_NLSF2A`
    that follows it (1) no 32-bit value wraps (`nlsf2aTailTrace`: every `silk_abs`, the steps of
    `silk_RSHIFT_ROUND`, `maxabs - 32767`, its `<< 14`, `silk_MUL( maxabs, idx+1 )`, the quotient,
    `chirp_Q16`, the traces of `silk_bwexpander_32`, `silk_LSHIFT( 2, i )`), (2) no `silk_DIV32`
    divisor is 0, (3) NO `(opus_int16)` CAST TRUNCATES (`nlsf2aCasts`: the operands of the casts of
    LPC_fit.c:74,79 and of NLSF2A.c:137, all iterations), (4) hence the model's `wrap16` in `lpcFit`
    is the identity: its first component is the list of un-truncated cast operands. -/
theorem lpc_fit_int16 (a32 : List Int) (hne : a32 ≠ []) (hlen : a32.length ≤ 16)
    (ha : ∀ e ∈ a32, -2147483647 ≤ e ∧ e ≤ 2147483647) :
    (∀ v ∈ nlsf2aTailTrace a32, I32 v) ∧ (∀ v ∈ lpcFitLoopDivisors 10 a32 0, v ≠ 0) ∧
    (∀ v ∈ nlsf2aCasts a32, I16 v) ∧ (lpcFit a32 5).1 = lpcFitCasts a32 :=
  ⟨(nlsf2aTail_range a32 hne hlen ha).1, (nlsf2aTail_range a32 hne hlen ha).2.1,
   (nlsf2aTail_range a32 hne hlen ha).2.2, (lpcFit_range a32 hne hlen ha).2.2.2.1⟩

/- a filter that needs the limiter (first coefficient 100 in Q12 = 13107200 in Q17) and then fails the
   stability test, so that both kinds of cast are exercised -/
example : lpcFitCasts [13107200, -2147483647, 77, 2147483647] = [9046, -32728, 0, 16] ∧
    (nlsf2aCasts [13107200, -2147483647, 77, 2147483647]).length = 64 ∧
    lpcFitLoopDivisors 10 [13107200, -2147483647, 77, 2147483647] 0 =
      [81919, 81919, 81919, 81919, 81919, 81919, 71586, 26937, 17374] := by decide +kernel

/-- `silk_NLSF2A` for order 10 (NB/MB), EVERY input with `0 ≤ NLSF[k] ≤ 32767` (no ordering needed):
    all table reads in bounds and no 32-bit wrap in the cosine interpolation (`cosLsfTrace`), none in
    `silk_NLSF2A_find_poly`, `Ptmp`, `Qtmp`, `-Qtmp` (`nlsf2aPolyTrace`; majorant `C(10,n)·2^16`),
    `a32_QA1` fits (`|·| ≤ 4·C(10,5)·2^16 = 66060288`), and with it everything of `lpc_fit_int16`:
    the whole of `silk_NLSF2A` runs without signed overflow and without a truncating cast; in
    particular the truncation counter `tr` that the driver reports for the `nlsf2a` op (and that the
    harness measures on the real function by wrapping `silk_LPC_fit`, `silk_bwexpander_32` and
    `silk_LPC_inverse_pred_gain_c`) is 0. -/
theorem nlsf2a_nowrap_d10 (nlsf : List Int) (hd : nlsf.length = 10) (hr : ∀ e ∈ nlsf, 0 ≤ e ∧ e ≤ 32767) :
    (∀ x ∈ nlsf, ∃ c cv nx, cosLsf x = .ok c ∧ getI SilkNlsf.lsfCosTabQ12 (x / 256) = .ok cv ∧
        getI SilkNlsf.lsfCosTabQ12 (x / 256 + 1) = .ok nx ∧ ∀ v ∈ cosLsfTrace x cv nx, I32 v) ∧
    ∃ c, nlsf2aCosQA nlsf = .ok c ∧ (∀ v ∈ nlsf2aPolyTrace c, I32 v) ∧
      (∀ e ∈ nlsf2aPoly c, -66060288 ≤ e ∧ e ≤ 66060288) ∧
      (∀ v ∈ nlsf2aTailTrace (nlsf2aPoly c), I32 v) ∧ (∀ v ∈ lpcFitLoopDivisors 10 (nlsf2aPoly c) 0, v ≠ 0) ∧
      (∀ v ∈ nlsf2aCasts (nlsf2aPoly c), I16 v) ∧
      nlsf2a nlsf = .ok (nlsf2aLoop SilkNlsf.maxLpcStabilizeIterations 0 (lpcFit (nlsf2aPoly c) 5).2
        (lpcFit (nlsf2aPoly c) 5).1) ∧
      nlsf2aTr nlsf = .ok (nlsf2aLoop SilkNlsf.maxLpcStabilizeIterations 0 (lpcFit (nlsf2aPoly c) 5).2
        (lpcFit (nlsf2aPoly c) 5).1, 0) := by
  refine ⟨fun x hx => ?_, ?_⟩
  · obtain ⟨c, cv, nx, h1, h2, h3, h4, _⟩ := cosLsf_range x (hr x hx).1 (hr x hx).2
    exact ⟨c, cv, nx, h1, h2, h3, h4⟩
  · obtain ⟨c, hc, hcl, hcb⟩ := nlsf2aCosQA_range nlsf hr
    have hp := nlsf2aPoly_range c 16515072 hcb (Or.inl ⟨by omega, rfl⟩)
    have ht := nlsf2aTail_range (nlsf2aPoly c)
      (List.ne_nil_of_length_pos (by rw [hp.2.2]; omega)) (by rw [hp.2.2]; omega)
      (fun e he => by have := hp.2.1 e he; omega)
    exact ⟨c, hc, hp.1, fun e he => by have := hp.2.1 e he; omega, ht.1, ht.2.1, ht.2.2,
      (nlsf2a_eq nlsf c (Or.inl hd) hc).2,
      by rw [nlsf2aTr_eq nlsf c (Or.inl hd) hc, truncCount_zero _ ht.2.2]⟩

example : nlsf2aA32 [32767, 0, 32767, 0, 32767, 0, 32767, 0, 32767, 0] =
    .ok [0, -7208960, 0, -43253760, 0, -60555264, 0, -21626880, 0, -1441792] := by decide +kernel

/-- `silk_NLSF2A` for order 16 (WB), every input with `0 ≤ NLSF[k] ≤ 32767`: cosine interpolation,
    `silk_NLSF2A_find_poly` (majorant `C(16,n)·2^16 ≤ 843448320`), `Ptmp`, `Qtmp`, `-Qtmp` fit 32
    bits; `a32_QA1` is bounded by `4·C(16,8)·2^16 = 3373793280` (33 bits) only; and IF `a32_QA1`
    fits (`|a32_QA1[k]| ≤ 2^31 - 1`), everything after it is free of wrap and truncation.
    PARTIAL: what is missing is that the hypothesis `hA` holds for ORDERED inputs — the domain the
    decoder guarantees (`nlsf_decode_ordered` gives strictly increasing NLSFs; the interpolation of
    two non-decreasing vectors is non-decreasing).  It cannot be dropped:
    `nlsf2a_d16_unordered_overflows`. -/
theorem nlsf2a_nowrap_d16_partial (nlsf : List Int) (hd : nlsf.length = 16)
    (hr : ∀ e ∈ nlsf, 0 ≤ e ∧ e ≤ 32767) :
    (∀ x ∈ nlsf, ∃ c cv nx, cosLsf x = .ok c ∧ getI SilkNlsf.lsfCosTabQ12 (x / 256) = .ok cv ∧
        getI SilkNlsf.lsfCosTabQ12 (x / 256 + 1) = .ok nx ∧ ∀ v ∈ cosLsfTrace x cv nx, I32 v) ∧
    ∃ c, nlsf2aCosQA nlsf = .ok c ∧ (∀ v ∈ nlsf2aPolyTrace c, I32 v) ∧
      (∀ e ∈ nlsf2aPoly c, -3373793280 ≤ e ∧ e ≤ 3373793280) ∧
      nlsf2a nlsf = .ok (nlsf2aLoop SilkNlsf.maxLpcStabilizeIterations 0 (lpcFit (nlsf2aPoly c) 5).2
        (lpcFit (nlsf2aPoly c) 5).1) ∧
      ((hA : ∀ e ∈ nlsf2aPoly c, -2147483647 ≤ e ∧ e ≤ 2147483647) →
        (∀ v ∈ nlsf2aTailTrace (nlsf2aPoly c), I32 v) ∧ (∀ v ∈ lpcFitLoopDivisors 10 (nlsf2aPoly c) 0, v ≠ 0) ∧
        (∀ v ∈ nlsf2aCasts (nlsf2aPoly c), I16 v) ∧ ∃ a, nlsf2aTr nlsf = .ok (a, 0)) := by
  refine ⟨fun x hx => ?_, ?_⟩
  · obtain ⟨c, cv, nx, h1, h2, h3, h4, _⟩ := cosLsf_range x (hr x hx).1 (hr x hx).2
    exact ⟨c, cv, nx, h1, h2, h3, h4⟩
  · obtain ⟨c, hc, hcl, hcb⟩ := nlsf2aCosQA_range nlsf hr
    have hp := nlsf2aPoly_range c 843448320 hcb (Or.inr ⟨by omega, rfl⟩)
    refine ⟨c, hc, hp.1, fun e he => by have := hp.2.1 e he; omega, (nlsf2a_eq nlsf c (Or.inr hd) hc).2, ?_⟩
    intro hA
    have ht := nlsf2aTail_range (nlsf2aPoly c)
      (List.ne_nil_of_length_pos (by rw [hp.2.2]; omega)) (by rw [hp.2.2]; omega) hA
    exact ⟨ht.1, ht.2.1, ht.2.2, _, by rw [nlsf2aTr_eq nlsf c (Or.inr hd) hc, truncCount_zero _ ht.2.2]⟩

/- the hypothesis `hA` is satisfiable: a stabilised WB vector -/
example : nlsf2aA32 [1500, 3000, 5000, 7000, 9000, 11000, 13000, 15000, 17000, 19000, 21000, 23000, 25000,
    27000, 29000, 31000] = .ok [49636, 29459, 1136, 8598, -1332, 3676, -1893, 1594, -2058, 437,
    -1910, -168, -1538, -400, -969, -278] := by decide +kernel

/-- FINDING (not reachable from the decoder, whose NLSFs are ordered): on the in-range input
    `32767,0,32767,0,…` of order 16, `a32_QA1[7] = -Qtmp - Ptmp = -3186360320` and
    `a32_QA1[9] = Qtmp - Ptmp = -2549088256` do not fit 32 bits — signed integer overflow (undefined
    behaviour) at NLSF2A.c:125-126; UBSan on the real function reports
    "-1593180160 - 1593180160 cannot be represented in type 'int'".  On such inputs the model
    (unbounded subtraction) and the C code differ, so `nlsf2a_passes_stability` speaks about the C
    function only where `a32_QA1` fits: order 10 always, order 16 for ordered NLSFs (unproved). -/
theorem nlsf2a_d16_unordered_overflows :
    nlsf2aA32 [32767, 0, 32767, 0, 32767, 0, 32767, 0, 32767, 0, 32767, 0, 32767, 0, 32767, 0] =
      .ok [0, -17825792, 0, -311951360, 0, -1622147072, 0, -3186360320, 0, -2549088256, 0, -811073536,
           0, -89128960, 0, -2228224] ∧ ¬ I32 (-3186360320) :=
  ⟨nlsf2a_a32_overflow_witness, by decide⟩

/-- `silk_NLSF_decode` (NLSF_decode.c:64-92) up to the call of the stabiliser, for both codebooks,
    every first-stage index `< nVectors` and every residual vector in `[-10, 10]^order` — the domain
    the symbol decoder guarantees (`nlsf_decode_domain_from_decoder`): `silk_NLSF_unpack` succeeds with
    `ec_ix[]` fitting its `opus_int16`; in `silk_NLSF_residual_dequant` every `int` value
    (`resDequantTrace`: the `silk_SMULBB` product, `pred_Q10`, `indices[i] << 10`, the adjusted level,
    the `silk_SMLAWB` shift and sum) fits 32 bits and every conversion to `opus_int16`
    (`resDequantCasts`: both operands of `silk_SMULBB`, the step size inside `silk_SMLAWB`, the store
    `x_Q10[i] = out_Q10`) is lossless (`|x_Q10[i]| ≤ 1825·(order-i) ≤ 29200`); in the first-stage loop
    `res_Q10[i] << 14`, the quotient, `CB1_NLSF_Q8[i] << 7` and `NLSF_Q15_tmp` fit 32 bits and the
    `(opus_int16)` cast after `silk_LIMIT( ·, 0, 32767 )` is lossless. -/
theorem nlsf_decode_nowrap (cb : NlsfCB) (hcb : cb = cbNbMb ∨ cb = cbWb) (cb1 : Nat) (h1 : cb1 < cb.nVectors)
    (idx : List Int) (hlen : idx.length = cb.order) (hidx : ∀ i ∈ idx, -10 ≤ i ∧ i ≤ 10) :
    ∃ ec pred, nlsfUnpack cb (cb1 : Int) = .ok (ec, pred) ∧ (∀ e ∈ ec, I16 e) ∧
      (∀ v ∈ resDequantTrace cb.quantStepSizeQ16 idx pred, I32 v) ∧
      (∀ v ∈ resDequantCasts cb.quantStepSizeQ16 idx pred, I16 v) ∧
      (∀ v ∈ firstStageTraceAll (resDequant cb.quantStepSizeQ16 idx pred).1
          ((cb.cb1WghtQ9.drop (cb1 * cb.order)).take cb.order)
          ((cb.cb1NlsfQ8.drop (cb1 * cb.order)).take cb.order), I32 v) ∧
      (∀ x ∈ zip3With nlsfFirstStage (resDequant cb.quantStepSizeQ16 idx pred).1
          ((cb.cb1WghtQ9.drop (cb1 * cb.order)).take cb.order)
          ((cb.cb1NlsfQ8.drop (cb1 * cb.order)).take cb.order), 0 ≤ x ∧ x ≤ 32767) :=
  nlsfDecode_range cb hcb cb1 h1 idx hlen hidx

example : (resDequant 11796 [10, 10, 10, 10, 10, 10, 10, 10, 10, 10] [255, 255, 255, 255, 255, 255, 255, 255, 255, 255]).1 =
    [17916, 16156, 14389, 12615, 10834, 9046, 7251, 5449, 3640, 1824] := by decide +kernel

/-- The hypotheses of `nlsf_decode_nowrap` and `gains_dequant_nowrap` are what `silk_decode_indices`
    guarantees: from C03's `IndicesOk` (conclusion of `OpusProps.C03.silkSyms_decode_indices_in_range`,
    for every range-decoder state) the first-stage index is below `nVectors` of the rate's codebook,
    there are `order` residuals, each in `[-10, 10]`, every gain index is `< 64`, the interpolation
    factor is `≤ 4`. -/
theorem nlsf_decode_domain_from_decoder {rate : Opus.SilkSyms.Rate} {nb cc ps : Nat} {pl : Int}
    {ix : Opus.SilkSyms.Indices} (h : Opus.SilkSymsProofs.IndicesOk rate nb cc ps pl ix) :
    (cbOfRate rate = cbNbMb ∨ cbOfRate rate = cbWb) ∧
    ix.nlsf0 < (cbOfRate rate).nVectors ∧ ix.nlsfRes.length = (cbOfRate rate).order ∧
    (∀ r ∈ ix.nlsfRes, -10 ≤ r ∧ r ≤ 10) ∧ (∀ g ∈ ix.gains, g < 64) ∧ ix.interp ≤ 4 :=
  ⟨cbOfRate_cases rate, indicesOk_domain h⟩

example : (cbOfRate .wb).order = 16 ∧ (cbOfRate .nb).nVectors = 32 := by decide

/-- Likewise for `decode_pitch_nowrap`: the contour alphabet of the symbol decoder
    (`psDec->pitch_contour_iCDF`, C03) has exactly as many symbols as the contour codebook that
    `silk_decode_pitch` selects for the same rate and sub-frame count (`contourOk`), and a decoded
    contour index is below that number; the lag index is stored in an `opus_int16` by the decoder. -/
theorem pitch_domain_from_decoder {rate : Opus.SilkSyms.Rate} {nb cc ps : Nat} {pl : Int}
    {ix : Opus.SilkSyms.Indices} (h : Opus.SilkSymsProofs.IndicesOk rate nb cc ps pl ix) (hnb : nb = 2 ∨ nb = 4) :
    contourOk rate nb = true ∧
    (ix.signalType = 2 → ix.contourIndex < (Opus.SilkSyms.pitchContour rate nb).length) :=
  ⟨contour_domain rate nb hnb, h.contour⟩

example : contourOk .wb 4 = true ∧ pitchCodebook 16 4 = .ok (SilkNlsf.cbLagsStage3, 34) := by decide +kernel

/-- `silk_log2lin` (log2lin.c:36-57) on its whole non-saturating domain `0 ≤ inLog_Q7 < 3967`
    (outside it the function returns a constant without arithmetic): every 32-bit value
    (`log2linTrace`: `1 << (inLog_Q7 >> 7)`, `frac_Q7`, `128 - frac_Q7`, the `silk_SMULBB` product, the
    `silk_SMLAWB` shift and sum, the `silk_MUL`/`silk_MLA` product and the final sum — up to
    `2139095040 < 2^31` at 3966) fits, the macro casts are the identity (`log2lin = log2linExact`), and
    the result is positive. -/
theorem log2lin_nowrap (x : Int) (h0 : 0 ≤ x) (h1 : x < 3967) :
    (∀ v ∈ log2linTrace x, I32 v) ∧ log2lin x = log2linExact x ∧ 0 < log2lin x :=
  log2lin_range x h0 h1

example : log2linTrace 3966 = [30, 1073741824, 126, 2, 252, -1, 125, 8388608, 1048576000, 2122317824] ∧
    log2lin 3966 = 2122317824 := by decide +kernel

/-- `silk_gains_dequant` (gain_quant.c:105-123), 32-bit side (the `opus_int8` stores are
    `gain_step_nowrap`): for `opus_int8` index and previous index the `int` values of the index update
    (`ind_tmp`, `double_step_size_threshold`, `ind_tmp << 1`, the sums) fit; for the clamped index
    `0 ≤ *prev_ind ≤ 63` the operand of the `(opus_int32)` cast of `silk_SMULWB( INV_SCALE_Q16, · )`,
    its sum with `OFFSET` and the whole of `silk_log2lin` fit 32 bits, and `silk_log2lin` is entered
    strictly below its saturation point 3967. -/
theorem gains_dequant_nowrap (first : Bool) (cond ind prev p : Int) (hi : -128 ≤ ind ∧ ind ≤ 127)
    (hp : -128 ≤ prev ∧ prev ≤ 127) (hp0 : 0 ≤ p) (hp1 : p ≤ 63) :
    (∀ v ∈ gainDequantPrevTrace first cond ind prev, I32 v) ∧ (∀ v ∈ gainOfIndexTrace p, I32 v) ∧
    gainOfIndex p = log2linExact (min (SilkNlsf.gainInvScaleQ16 * p / 65536 + SilkNlsf.gainOffset) 3967) ∧
    min (SilkNlsf.gainInvScaleQ16 * p / 65536 + SilkNlsf.gainOffset) 3967 < 3967 :=
  ⟨gainDequantPrevTrace_range first cond ind prev hi hp, gainOfIndex_nowrap p hp0 hp1⟩

example : gainDequantPrevTrace false 1 40 60 = [36, 68] ++ [96] ∧
    (gainOfIndexTrace 63).take 3 = [1833, 3923, 3923] := by decide +kernel

/-- `silk_decode_pitch` (decode_pitch.c:69-76) for `Fs_kHz ∈ {8,12,16}`, `nb_subfr ∈ {2,4}`, every
    `opus_int16` lag index and a contour index inside the selected codebook: the `(opus_int16)` casts
    inside the two `silk_SMULBB` are the identity (`min_lag = 2·Fs_kHz`, `max_lag = 18·Fs_kHz`) and every
    `int` value (`pitchTrace`: `lag`, the table index `k·cbk_size + contourIndex`, `lag + Lag_CB_ptr[…]`,
    the clamped lag) has magnitude at most `2^16`. -/
theorem decode_pitch_nowrap (lagIndex contour fs : Int) (nb : Nat) (tab : List Int) (cbk : Nat)
    (hfs : fs = 8 ∨ fs = 12 ∨ fs = 16) (hnb : nb = 2 ∨ nb = 4) (hl : I16 lagIndex)
    (hcb : pitchCodebook fs nb = .ok (tab, cbk)) (hc : 0 ≤ contour ∧ contour < (cbk : Int)) :
    pitchMinLag fs = SilkNlsf.peMinLagMs * fs ∧ pitchMaxLag fs = SilkNlsf.peMaxLagMs * fs ∧
    ∀ v ∈ pitchTrace tab cbk lagIndex contour fs nb, -65536 ≤ v ∧ v ≤ 65536 :=
  decodePitch_range lagIndex contour fs nb tab cbk hfs hnb hl hcb hc

example : pitchCodebook 16 4 = .ok (SilkNlsf.cbLagsStage3, 34) ∧
    pitchTrace SilkNlsf.cbLagsStage3 34 (-32768) 33 16 2 = [32, 288, -32736, 33, -32745, 32, 67, -32739, 32] := by
  decide +kernel

/-- `silk_LPC_inverse_pred_gain_c` (LPC_inv_pred_gain.c:43-141) for EVERY `opus_int16` filter of
    order 1..24 (`SILK_MAX_ORDER_LPC`), every level the recursion reaches: (1) the wrapper's running
    `DC_resp` and every `A_Q12[k] << 12` fit 32 bits (`invGainTopTrace`); (2) per level
    (`invGainLoopTrace`) `A_QA[k] << 7`, its negation `rc_Q31` (never `-silk_int32_MIN`), the operands of
    the `(opus_int32)` casts of both `silk_SMMUL`, `rc_mult1_Q30 ∈ [536765, 2^30]` (the code's
    `silk_assert( rc_mult1_Q30 > (1<<15) )` holds), `invGain_Q30 ∈ [0, 2^30]`, `mult2Q ∈ [20, 31]`,
    inside `silk_INVERSE32_varQ` `b_headrm`, the normalised `b32_nrm ∈ [2^30, 2^31)`, `b32_inv` (fits the
    `opus_int16` operand of `silk_SMULWB`), `b32_inv << 16`, the `silk_SMULWB` cast operand,
    `(1<<29) - …`, `lshift = 0`, and the operand of the cast in every `MUL32_FRAC_Q( tmp, rc_Q31, 31 )`
    all fit 32 bits; (3) every `silk_SMULL` product and every step of `silk_RSHIFT_ROUND64`
    (`invGainLoopTrace64`) fits 64 bits; (4) the divisor of `silk_DIV32_16` lies in [16384, 32767] (never
    0).  The new `A_QA[n]` are range-checked by the C code itself before the `(opus_int32)` cast.
    Deliberate saturation / defined narrowing, modelled as such: `silk_SUB_SAT32`, and the explicit casts
    of the Newton step (`silk_SMLAWW`, `silk_LSHIFT( ·, 3 )`) inside `silk_INVERSE32_varQ`. -/
theorem inverse_pred_gain_nowrap (a : List Int) (hI : AllI16 a) (hl : a.length ≤ 24) :
    (∀ v ∈ invGainTopTrace a 0, I32 v) ∧
    ∀ k, a.length = k + 1 →
      (∀ v ∈ invGainLoopTrace k (a.map fun x => lshift32 x (SilkNlsf.invGainQA - 12)) 1073741824, I32 v) ∧
      (∀ v ∈ invGainLoopTrace64 k (a.map fun x => lshift32 x (SilkNlsf.invGainQA - 12)) 1073741824, I64 v) ∧
      (∀ v ∈ invGainLoopDivisors k (a.map fun x => lshift32 x (SilkNlsf.invGainQA - 12)) 1073741824,
        16384 ≤ v ∧ v ≤ 32767) :=
  lpcInversePredGain_range a hI hl

example : invGainTopTrace [4000, -300, 20] 0 = [4000, 16384000, 3700, -1228800, 3720, 81920] ∧
    invGainLoopDivisors 2 ([4000, -300, 20].map fun x => lshift32 x 12) 1073741824 = [32767, 32614] ∧
    (invGainLoopTrace 2 ([4000, -300, 20].map fun x => lshift32 x 12) 1073741824).length = 41 := by
  decide +kernel

/-- Analytic content of the stability test (towards "stable" beyond the codec's own verdict).  If
    `silk_LPC_inverse_pred_gain_c( A_Q12 ) ≠ 0` then (a) the DC response `Σ A_Q12[k]` is below 4096
    (1.0 in Q12), (b) the fixed-point step-down (Levinson) recursion ran through all `order` levels
    without any updated coefficient leaving 32 bits, and (c) EVERY reflection coefficient it derived —
    `lpcReflectionQ24 a` lists minus the reflection coefficients `A_QA[k]` in Q24, from the last level
    down — has magnitude at most `A_LIMIT = 16773022 = 0.99975·2^24`, i.e. `|rc_k| ≤ 0.99975 < 1`; the
    returned value `Π (1 - rc_k²)` (in the recursion's Q30 arithmetic) is at least
    `1/MAX_PREDICTION_POWER_GAIN` (Q30: 107374).  What this does NOT say: that the real-arithmetic
    reflection coefficients of the real-coefficient filter are below 1 (the recursion rounds at every
    level; closing that gap needs an error analysis of `silk_INVERSE32_varQ` and `silk_RSHIFT_ROUND64`). -/
theorem inverse_pred_gain_reflection_bounded (a : List Int) (h : lpcInversePredGain a ≠ 0) :
    lpcInversePredGain.sumI a < 4096 ∧ (lpcReflectionQ24 a).length = a.length ∧
    (∀ r ∈ lpcReflectionQ24 a, -16773022 ≤ r ∧ r ≤ 16773022) ∧ 107374 ≤ lpcInversePredGain a := by
  have h1 := (lpcInversePredGain_cases a).resolve_left h
  rw [alimit_eq] at h1
  exact ⟨h1.2.1, h1.2.2.1, h1.2.2.2, h1.1⟩

example : lpcInversePredGain [4000, -300, 20] = 176564420 ∧
    lpcReflectionQ24 [4000, -300, 20] = [81920, -1148827, 15328748] := by decide +kernel

/-- The same for the output of `silk_NLSF2A`: for every input of 10 or 16 values in `[0, 32767]` the
    model's Q12 filter has all reflection coefficients of the fixed-point recursion bounded by 0.99975
    and DC response below 1.0 — strengthening `nlsf2a_passes_stability` from "the test returned
    non-zero" to the certificate the test computes.  (For order 16 the statement is about the C function
    only where `a32_QA1` fits 32 bits, see `nlsf2a_nowrap_d16_partial`.) -/
theorem nlsf2a_reflection_bounded (nlsf : List Int) (hd : nlsf.length = 10 ∨ nlsf.length = 16)
    (hr : ∀ e ∈ nlsf, 0 ≤ e ∧ e ≤ 32767) :
    ∃ a, nlsf2a nlsf = .ok a ∧ a.length = nlsf.length ∧ lpcInversePredGain.sumI a < 4096 ∧
      (lpcReflectionQ24 a).length = a.length ∧ ∀ r ∈ lpcReflectionQ24 a, -16773022 ≤ r ∧ r ≤ 16773022 := by
  obtain ⟨a, ha, hl, _, hg, _⟩ := nlsf2a_passes_stability nlsf hd hr
  obtain ⟨h1, h2, h3, _⟩ := inverse_pred_gain_reflection_bounded a hg
  exact ⟨a, ha, hl, h1, h2, h3⟩

example : lpcReflectionQ24 [10411, -10758, 10164, -11137, 7494, -3318, 2083, -869, -92, 102] =
    [417792, 685515, -2921403, 386465, -4601996, 11415106, -1973817, 4817321, -16111762, 16681179] := by
  decide +kernel

/-! ## Index-safety bridge: from C18's parameter ranges to memory safety of the SILK synthesis

  `OpusModel/SilkSynthIdx.lean` models ONLY the index / extent arithmetic of the synthesis interior
  (C01: "index arithmetic inside silk_Decode … not covered by any theorem"): for each C function the
  list of array accesses `(array, [lo, hi), read/write)` in program order.  TRUSTED READING: the
  index expressions are hand-transcribed (file:line cited at every access in the model file); the
  tie does not go through that reading — harness/c18_synthidx*.c compiles the repo's own
  decode_core.c / LPC_analysis_filter.c with compiler-inserted access callbacks
  (`-fsanitize=thread` code generation + recording `__tsan_read/write` stubs, work arrays moved to
  guarded heap blocks through the `ALLOC` macro) and compares the recorded min/max index read and
  written per array with the model, including lags outside the legal range, where the model
  predicts the out-of-bounds index or the firing `celt_assert` and the recorder observes it. -/

open Opus.SilkSynthIdx in
/-- `silk_decode_core` (silk/decode_core.c:38-243) is index-safe on C18's post-conditions.  For every
    configuration `silk_decoder_set_fs` can establish (`fs_kHz ∈ {8,12,16}`, `nb_subfr ∈ {2,4}`; hence
    `LPC_order`, `ltp_mem_length = 20·fs_kHz`, `subfr_length = 5·fs_kHz`, `frame_length`), every signal
    type, quantisation offset type, interpolation flag, loss count, previous signal type and every
    pattern of gain changes: IF the pitch lags of a voiced frame lie in `[2·fs_kHz, 18·fs_kHz]` (what
    `pitch_in_range` proves of `silk_decode_pitch` for EVERY lag / contour index) and — for the branch
    "avoid abrupt transition from voiced PLC to unvoiced normal decoding", which substitutes
    `psDec->lagPrev` — `lagPrev` lies in the same range whenever that branch can be taken (`lossCnt ≠ 0`,
    previous frame voiced), THEN no `celt_assert` fires (`start_idx > 0`; `d ≥ 6`, `d` even, `d ≤ len` of
    `silk_LPC_analysis_filter`) and every read and write index of `sLTP` (`ltp_mem_length`), `sLTP_Q15`
    (`ltp_mem_length + frame_length`), `res_Q14`, `sLPC_Q14` (`subfr_length + MAX_LPC_ORDER`),
    `psDec->exc_Q14` (320), `psDec->outBuf` (480, incl. the k = 2 copy to `outBuf[ltp_mem_length …]` and the
    re-whitening window), `sLPC_Q14_buf`, `PredCoef_Q12`, `LTPCoef_Q14`, `Gains_Q16`, `pitchL`, `xq`,
    `pulses`, `A_Q12_tmp` and the offset table lies inside the array's declared / allocated size (sizes of
    struct members regenerated with `sizeof`). -/
theorem decode_core_indices_in_bounds (x : CoreIn) (h : CoreOk x) :
    (coreAccesses x).2 = false ∧ ∀ a ∈ (coreAccesses x).1, a.inBounds x.cfg :=
  coreAccesses_ok x h

open Opus.SilkSynthIdx in
/- a 20 ms WB voiced frame with NLSF interpolation, lags at both ends of the legal range: 98 accesses,
   the k = 2 re-whitening reaches outBuf[479] and sLTP_Q15[639], the last elements -/
example : (coreAccesses (voicedCoreIn 16 4 [288, 290, 32, 40] 1 0 0 100 true [true, false, true, false]
      [true, false, true, false])).1.length = 98 ∧
    extentsStr (coreAccesses (voicedCoreIn 16 4 [288, 290, 32, 40] 1 0 0 100 true [true, false, true, false]
      [true, false, true, false])).1 [.sLTP, .sLTP_Q15, .outBuf, .xq] =
      "sLTP:r=30..319,w=14..319 sLTP_Q15:r=30..601,w=30..639 outBuf:r=14..479,w=320..479 xq:r=0..159,w=0..319" := by
  decide +kernel

open Opus.SilkSynthIdx in
/-- The hypothesis on the lags is what `silk_decode_pitch` delivers: composed with the pitch decoder —
    ANY lag index (also one driven out of range by delta coding), any contour index inside the codebook —
    a voiced frame is index-safe, whatever the remaining inputs. -/
theorem decode_core_safe_after_decode_pitch (fs : Int) (nb : Nat) (lagIndex contour : Int) (lags : List Int)
    (hfs : fs = 8 ∨ fs = 12 ∨ fs = 16) (hnb : nb = 2 ∨ nb = 4) (hc0 : 0 ≤ contour)
    (hc1 : ∀ cb, pitchCodebook fs nb = .ok cb → contour < (cb.2 : Int))
    (hl : decodePitch lagIndex contour fs nb = .ok lags)
    (qoff lossCnt prevSig lagPrev : Int) (interp : Bool) (gd ad : List Bool) (hq : 0 ≤ qoff ∧ qoff ≤ 1) :
    (coreAccesses (voicedCoreIn fs nb lags qoff lossCnt prevSig lagPrev interp gd ad)).2 = false ∧
    ∀ a ∈ (coreAccesses (voicedCoreIn fs nb lags qoff lossCnt prevSig lagPrev interp gd ad)).1,
      a.inBounds (cfgOf fs nb) := by
  obtain ⟨lags', hl', hlen, hr⟩ := pitch_in_range lagIndex contour fs nb hfs hnb hc0 hc1
  rw [hl] at hl'
  cases hl'
  exact coreAccesses_ok _ (voicedCoreIn_ok fs nb lags qoff lossCnt prevSig lagPrev interp gd ad hfs hnb hq hlen hr)

open Opus.SilkSynthIdx in
/- … and the hypothesis is needed: with a lag just outside the range the model itself exhibits the violation
   (16 kHz: lag 302 → `celt_assert( start_idx > 0 )` fires, 301 is the last lag that passes; lag 1 → `sLTP_Q15[640]` is read, one past the
   end), exactly the cases the instrumented C code shows in the tie -/
example : (coreAccesses (voicedCoreIn 16 4 [302, 302, 302, 302] 0 0 0 100 false [] [])).2 = true ∧
    (coreAccesses (voicedCoreIn 16 4 [301, 301, 301, 301] 0 0 0 100 false [] [])).2 = false ∧
    extentsStr (coreAccesses (voicedCoreIn 16 4 [1, 1, 1, 1] 0 0 0 100 false [] [])).1 [.sLTP_Q15] =
      "sLTP_Q15:r=317..640,w=317..639" ∧ Arr.size (cfgOf 16 4) .sLTP_Q15 = 640 := by
  decide +kernel

open Opus.SilkSynthIdx in
/-- No read of an uninitialised element of `sLTP_Q15` in `silk_decode_core`.  `sLTP_Q15` is a fresh stack array in every
    call (`ALLOC( sLTP_Q15, ltp_mem_length + frame_length, opus_int32 )`, decode_core.c:60); the re-whitening of sub-frame 0
    (and of sub-frame 2 when the NLSFs are interpolated) writes `[sLTP_buf_idx − lag − 2, sLTP_buf_idx)` with the lag of
    THAT sub-frame, every sub-frame appends `subfr_length` elements, and sub-frame `k` reads from
    `sLTP_buf_idx − lag_k − 2` (the gain-adjustment loop :170-172 and the 5-tap prediction :180-189, which must also stay
    strictly below the element being written: `lag_k ≥ 3`).  `coreInitOk` evaluates exactly that on the index model; it
    holds for every admissible input whose lags grow by at most one sub-frame relative to the first one — for the
    transition branch after a concealed frame both voiced sub-frames use `lagPrev`. -/
theorem decode_core_no_uninitialised_ltp_read (x : CoreIn) (h : CoreOk x)
    (hsp : x.signalType = 2 → ∀ k, k < x.nbSubfr → x.pitchL.getD k 0 ≤ x.pitchL.getD 0 0 + x.cfg.subfr) :
    coreInitOk x = true :=
  coreInitOk_of_spread x h (cfgOf_num x.fsKHz x.nbSubfr h.fs h.nb) hsp

open Opus.SilkSynthIdx in
/-- … and that hypothesis is what `silk_decode_pitch` delivers: the lags of one frame are `limit( lag + contour[k] )`
    with one `lag`, the clamp is monotone and 1-Lipschitz, and no contour of the four regenerated codebooks spreads by
    more than 18 samples (`decodePitch_spread`; 3 at 8 kHz) — less than the shortest sub-frame (40).  So for ANY lag
    index and any contour index inside the codebook a voiced frame reads only initialised LTP state, whatever the
    remaining inputs. -/
theorem decode_core_initialised_after_decode_pitch (fs : Int) (nb : Nat) (lagIndex contour : Int) (lags : List Int)
    (hfs : fs = 8 ∨ fs = 12 ∨ fs = 16) (hnb : nb = 2 ∨ nb = 4) (hc0 : 0 ≤ contour)
    (hc1 : ∀ cb, pitchCodebook fs nb = .ok cb → contour < (cb.2 : Int))
    (hl : decodePitch lagIndex contour fs nb = .ok lags)
    (qoff lossCnt prevSig lagPrev : Int) (interp : Bool) (gd ad : List Bool) (hq : 0 ≤ qoff ∧ qoff ≤ 1) :
    coreInitOk (voicedCoreIn fs nb lags qoff lossCnt prevSig lagPrev interp gd ad) = true := by
  obtain ⟨lags', hl', hlen, hr⟩ := pitch_in_range lagIndex contour fs nb hfs hnb hc0 hc1
  rw [hl] at hl'
  cases hl'
  have hok := voicedCoreIn_ok fs nb lags qoff lossCnt prevSig lagPrev interp gd ad hfs hnb hq hlen hr
  apply decode_core_no_uninitialised_ltp_read _ hok
  intro _ k hk
  have hsp := decodePitch_spread lagIndex contour fs nb hfs hnb hc0 hc1 lags hl k 0 hk (by rcases hnb with rfl | rfl <;> omega)
  have hS : 40 ≤ (voicedCoreIn fs nb lags qoff lossCnt prevSig lagPrev interp gd ad).cfg.subfr := by
    have hc := cfgOf_num fs nb hfs hnb
    rcases hc.cases with ⟨_, h, _⟩ | ⟨_, h, _⟩ | ⟨_, h, _⟩ <;> (show 40 ≤ (cfgOf fs nb).subfr; omega)
  show lags.getD k 0 ≤ lags.getD 0 0 + _
  omega

open Opus.SilkSynthIdx in
/- Non-vacuity, both ways: the decoded lags of a real contour pass; lags in range that jump by more than a sub-frame
   (which no contour produces) make the model itself report the uninitialised read — sub-frame 1 would read
   `sLTP_Q15[198..]` while only `[286, 400)` has been written — the same verdict the instrumented C code gives in the tie. -/
example : decodePitch 255 33 16 4 = .ok [278, 284, 288, 288] ∧
    coreInitOk (voicedCoreIn 16 4 [278, 284, 288, 288] 0 0 0 100 true [] [true, true, true, true]) = true ∧
    coreInitOk (voicedCoreIn 16 4 [32, 200, 200, 200] 0 0 0 100 false [] []) = false ∧
    coreInitOk (voicedCoreIn 16 4 [32, 112, 192, 272] 0 0 0 100 false [] []) = true := by decide +kernel

open Opus.SilkSynthIdx in
/-- No read of an uninitialised element of `sLTP_Q14` in `silk_PLC_conceal` (a fresh stack array, PLC.c:245): PLC.c:324-326
    writes `[ltp_mem_length − lag₀ − 2, ltp_mem_length)`, sub-frame `k` reads from `sLTP_buf_idx − lag_k − 2` with the
    drifting lag (`pitchL_Q8 += 1 %`, i.e. at most 4 samples per sub-frame, against ≥ 40 appended elements), and the
    short-term synthesis reads `[ltp_mem_length − 16, …)`, copied in at PLC.c:371 just before. -/
theorem plc_conceal_no_uninitialised_ltp_read (s : DecSt) (h : ConcealOk s) : concealInitOk s = true :=
  concealInitOk_of_inv s h.cfg h.pitch

namespace SynthExample
open Opus.SilkSynthIdx
def fVoiced : FrameIn :=
  { lost := false, signalType := 2, quantOffsetType := 0, interp := true, pitchL := [288, 288, 280, 285],
    ltpCoef := List.replicate 20 1000, gains := [70000, 70000, 90000, 65536], gainDiff := [true, false, true, true],
    adjNe := [true, false, true, true], lowFirst := false }
def fLost : FrameIn := { fVoiced with lost := true }
def fUnv : FrameIn := { fVoiced with signalType := 1, pitchL := [0, 0, 0, 0] }
/-- WB voiced frame at the top of the lag range, two losses (lag drifts to the cap 288), an unvoiced frame
    (takes the transition branch with `lagPrev = 288`), a switch to NB 10 ms, a loss right after it (PLC
    re-initialises: `pitchL_Q8 = frame_length << 7`), the side-channel reset, another frame. -/
def hist : List Ev :=
  [.setFs 16 4, .frame fVoiced, .frame fLost, .frame fLost, .frame fUnv, .setFs 8 2, .frame fLost, .sideReset, .frame fUnv]
end SynthExample

open Opus.SilkSynthIdx in
/-- `silk_PLC_conceal` (silk/PLC.c:216-430) is index-safe on the state invariant.  For a configured decoder
    (`fs_kHz ∈ {8,12,16}`, `nb_subfr ∈ {2,4}`), `lossCnt ≥ 0`, `sPLC.pitchL_Q8 ∈ [2·fs_kHz, 18·fs_kHz]·256`,
    `sPLC.nb_subfr ∈ {2,4}`, `0 ≤ sPLC.subfr_length ≤ 80`, either outcome of the energy comparison and
    every `rand_seed`: `celt_assert( idx > 0 )` and the assertions of `silk_LPC_analysis_filter` do not
    fire; every access to `sLTP_Q14`, `sLTP`, `exc_buf`, `exc_Q14` (incl. the `rand_ptr[ idx ]` reads,
    `idx = (silk_RAND >> 25) & 127` — the generator is modelled exactly), `outBuf`, `sLPC_Q14_buf`,
    `sPLC.LTPCoef_Q14`, `prevLPC_Q12`, `prevGain_Q16`, the attenuation tables (index `min(1, lossCnt)`),
    `pitchL[0..3]` and `frame[]` is in bounds; the drifting lag (`pitchL_Q8 += pitchL_Q8·0.01`, capped at
    `18·fs_kHz·256`) stays legal in every sub-frame, so the new `pitchL_Q8` satisfies the invariant again
    and the lag written to `psDecCtrl->pitchL[]` (which becomes `lagPrev`) lies in `[2·fs_kHz, 18·fs_kHz]`. -/
theorem plc_conceal_indices_in_bounds (s : DecSt) (h : ConcealOk s) (lowFirst : Bool) :
    (concealAccesses s lowFirst).2.1 = false ∧ AllIn s.cfg (concealAccesses s lowFirst).1 ∧
    2 * s.fsKHz * 256 ≤ (concealAccesses s lowFirst).2.2.1 ∧ (concealAccesses s lowFirst).2.2.1 ≤ 18 * s.fsKHz * 256 ∧
    2 * s.fsKHz ≤ (concealAccesses s lowFirst).2.2.2.2 ∧ (concealAccesses s lowFirst).2.2.2.2 ≤ 18 * s.fsKHz :=
  concealAccesses_ok s h lowFirst

open Opus.SilkSynthIdx in
example : concealInitOk (step (step (step resetSt (.setFs 16 4)) (.frame SynthExample.fVoiced)) (.frame SynthExample.fLost)) = true := by
  decide +kernel

open Opus.SilkSynthIdx in
example : ConcealOk (step (step (step resetSt (.setFs 16 4)) (.frame SynthExample.fVoiced)) (.frame SynthExample.fLost)) :=
  { cfg := by decide +kernel, loss := by decide +kernel, pitch := by decide +kernel, plcNb := by decide +kernel,
    plcSubfr := by decide +kernel }

open Opus.SilkSynthIdx in
/-- Both arrays, on the decoder-state invariant (which `silk_synthesis_indices_in_bounds` shows is preserved along every
    history): a `silk_decode_frame` call — decoded or concealed, after any history of frames, losses, rate switches and
    resets — reads no uninitialised element of `sLTP_Q15` / `sLTP_Q14`, provided the lags of a decoded voiced frame are
    those of one contour (`decode_core_initialised_after_decode_pitch`: spread ≤ 18 < sub-frame length). -/
theorem decode_frame_no_uninitialised_ltp_read (s : DecSt) (f : FrameIn) (hcfg : Configured s) (hinv : Inv s)
    (hf : FrameOk s f)
    (hsp : f.lost = false → f.signalType = 2 → ∀ k, k < s.nbSubfr →
      f.pitchL.getD k 0 ≤ f.pitchL.getD 0 0 + s.cfg.subfr) :
    frameInitOk s f = true :=
  frameInitOk_ok s f hcfg hinv hf hsp

open Opus.SilkSynthIdx in
/-- One call of `silk_decode_frame` (silk/decode_frame.c:44-172: `silk_decode_core` or `silk_PLC_conceal`,
    `silk_PLC_update` incl. the `silk_PLC_Reset` on a rate change, the `outBuf` shift
    `mv_len = ltp_mem_length - frame_length`, `silk_CNG` incl. its reset, excitation buffer shift and the
    `CNG_exc_buf_Q14[ (seed >> 24) & mask ]` reads, `silk_PLC_glue_frames`, the `lagPrev` update) on a configured
    decoder whose state satisfies the invariant `Inv`, for a frame satisfying `FrameOk` (signal type ≤ 2,
    offset type ≤ 1, and — decoded voiced frame — lags in the legal range): no assertion fires, EVERY access
    of EVERY phase is inside its array, and the invariant holds for the next call.  `Inv`: `lossCnt ≥ 0`;
    `prevSignalType = VOICED ∧ lossCnt ≠ 0 → lagPrev ∈ [2·fs_kHz, 18·fs_kHz]`;
    `sPLC.pitchL_Q8 ∈ [2, 18]·sPLC.fs_kHz·256`; `sPLC.nb_subfr ∈ {2,4}`; `0 ≤ sPLC.subfr_length ≤ 80`. -/
theorem decode_frame_indices_in_bounds (s : DecSt) (f : FrameIn) (hcfg : Configured s) (hinv : Inv s)
    (hf : FrameOk s f) :
    (frameStep s f).1.aborted = false ∧ AllIn s.cfg (frameStep s f).1.all ∧
    Inv (frameStep s f).2 ∧ (frameStep s f).2.fsKHz = s.fsKHz ∧ (frameStep s f).2.nbSubfr = s.nbSubfr :=
  frameStep_ok s f hcfg hinv hf

open Opus.SilkSynthIdx in
/-- THE COMPOSED STATEMENT: the SILK synthesis is index-safe over EVERY history.  Starting from
    `silk_init_decoder` (`resetSt`), for every finite sequence of events — `silk_decoder_set_fs` with a legal
    rate / frame size (a rate change resets `lagPrev`, `prevSignalType`, `first_frame_after_reset`; the PLC and
    CNG states notice the new rate at their next call and re-initialise), the side-channel reset of
    dec_API.c:302-309, a full reset, decoded frames (any signal type, offsets, gains, LTP coefficients;
    voiced frames with lags as `silk_decode_pitch` delivers them) and lost frames, in any order and number,
    frames only on a configured decoder — every `silk_decode_frame` call of the history runs without a
    fired `celt_assert` and with every array access in bounds.  This discharges the `lagPrev` hypothesis of
    `decode_core_indices_in_bounds`: it is part of the invariant, established by `silk_PLC_conceal`. -/
theorem silk_synthesis_indices_in_bounds (evs : List Ev) (h : HistOk resetSt evs) :
    HistSafe resetSt evs ∧
    ∀ p ∈ histFrames resetSt evs, (frameStep p.1 p.2).1.aborted = false ∧ AllIn p.1.cfg (frameStep p.1 p.2).1.all :=
  ⟨hist_safe evs resetSt inv_reset h, histSafe_frames evs resetSt (hist_safe evs resetSt inv_reset h)⟩


open Opus.SilkSynthIdx SynthExample in
example : HistOk resetSt hist ∧
    (histFrames resetSt hist).map (fun p => (p.1.lossCnt, p.1.prevSignalType, p.1.lagPrev, p.1.pitchLQ8, p.1.plcFs)) =
      [(0, 0, 100, 0, 0), (0, 2, 285, 72960, 16), (1, 2, 288, 73728, 16), (2, 2, 288, 73728, 16), (0, 0, 100, 73728, 16),
       (1, 0, 100, 10445, 8)] ∧
    (histFrames resetSt hist).map (fun p => (frameStep p.1 p.2).1.all.length) = [127, 68, 67, 93, 61, 45] := by
  decide +kernel

open Opus.SilkSynthIdx in
/-- `silk_decode_parameters` (silk/decode_parameters.c:35-115) subscripts in bounds — closing the chain
    "any bytes → indices in range (C03) → parameters in range (C18) → every table read and buffer access in
    bounds (this bridge)" for the SILK frame decoder.  For EVERY index set the symbol decoder can produce
    (C03 `IndicesOk`, the conclusion of `OpusProps.C03.silkSyms_decode_indices_in_range` for every range-decoder
    state), every rate and `nb_subfr ∈ {2,4}`, every interpolation factor, reset flag and loss count: the reads of
    `GainsIndices[0..nb)`, `NLSFIndices[0..order]`, `LTPIndex[k]`, `prevNLSF_Q15`; the pointer table
    `silk_LTP_vq_ptrs_Q7[ PERIndex ]` (3 entries; `PERIndex ≤ 2`); the codebook rows
    `cbk_ptr_Q7[ LTPIndex[k]·LTP_ORDER + i ]` (`LTPIndex[k] < 8 << PERIndex` = the number of rows of that
    codebook: `ltpTables_ok`, on the regenerated tables); `silk_LTPScales_table_Q14[ LTP_scaleIndex ]` (3 entries);
    and the writes of `Gains_Q16`, `PredCoef_Q12[0..1]`, `pitchL`, `LTPCoef_Q14`, `prevNLSF_Q15` all lie inside
    their arrays.  (The table reads inside silk_gains_dequant / silk_NLSF_decode / silk_NLSF2A /
    silk_decode_pitch are `nlsf_decode_ordered`, `nlsf2a_passes_stability`, `pitch_in_range`: no `.oob`.) -/
theorem decode_parameters_indices_in_bounds {rate : Opus.SilkSyms.Rate} {nb cc ps : Nat} {pl : Int}
    {ix : Opus.SilkSyms.Indices} (h : Opus.SilkSymsProofs.IndicesOk rate nb cc ps pl ix) (hnb : nb = 2 ∨ nb = 4)
    (interp : Int) (ffar : Bool) (lossCnt : Int) :
    AllIn (cfgOf rate.kHz nb) (paramsAccesses (paramsInOf rate nb ix interp ffar lossCnt)) ∧
    SilkSynth.ltpVqPtrsOk = 1 ∧ SilkSynth.ltpVqSize0 = 8 ∧ SilkSynth.ltpVqSize1 = 16 ∧ SilkSynth.ltpVqSize2 = 32 :=
  ⟨paramsAccesses_ok _ (paramsOk_of_indicesOk h hnb interp ffar lossCnt), ltpTables_ok.1, ltpTables_ok.2.2.2.2.1,
   ltpTables_ok.2.2.2.2.2.1, ltpTables_ok.2.2.2.2.2.2⟩

open Opus.SilkSynthIdx in
/- voiced WB frame, third codebook, last row (31): reads LTP_vq_2[155..159]; one row further would be out of bounds -/
example : extentsStr (paramsAccesses (ParamsIn.mk 16 4 2 2 [31, 0, 7, 31] 2 3 false 1)) [.ltpVq2, .ltpCoef, .predCoef] =
      "LTP_vq_2:r=0..159,w=- LTPCoef_Q14:r=-,w=0..19 PredCoef_Q12:r=0..31,w=0..31" ∧
    ¬ AllIn (cfgOf 16 4) (paramsAccesses (ParamsIn.mk 16 4 2 2 [32, 0, 7, 31] 2 3 false 1)) := by
  refine ⟨by decide +kernel, ?_⟩
  intro h
  have := h ⟨.ltpVq2, 160, 165, false⟩ (by decide +kernel)
  revert this
  decide

open Opus.SilkSynthIdx in
/-- The OUTPUT STAGE of `silk_Decode` (silk/dec_API.c:311-420, silk/stereo_MS_to_LR.c, top level of
    silk/resampler.c) is index-safe for EVERY legal configuration: internal rate 8/12/16 kHz, 10 or 20 ms frames,
    1 or 2 internal and API channels, API rate 8/12/16/24/48 kHz, with or without a decoded side channel, with or
    without the stereo→mono extra resampler call, decoded or lost frame, first stereo call or not (by
    `Opus.SilkSynthIdx.outAccesses_allIn`, an argument for every `0 < fs_kHz ≤ 48`, frame length `≥ 8·fs_kHz`, API rate
    `K·1000` and input delay in `[0, fs_kHz]`; only the regenerated `delay_matrix_dec`, 15 rate pairs, and the sample
    counts, 30 triples, are evaluated).  In bounds — each ROW of the frame buffer separately: `samplesOut1_tmp[n][frame_length + 2]` (decoded /
    zeroed samples at `[2, frame_length + 2)`, the two history samples, all reads `x1[n], x1[n+1], x1[n+2], x2[n+1]` of
    silk_stereo_MS_to_LR incl. the interpolation over `STEREO_INTERP_LEN_MS·fs_kHz ≤ frame_length` samples, the
    resampler input `&samplesOut1_tmp[n][1]` of `frame_length` samples), `sMid` / `sSide` / `pred_prev_Q13`,
    `samplesOut2_tmp` (`nSamplesOut = frame_length·API_rate/(fs_kHz·1000)`), the `delayBuf[48]` indices
    `[inputDelay, Fs_in_kHz)` and `[0, inputDelay)` for every (in, out) rate pair, the (de-)interleaved writes into
    the caller's `nChannelsAPI·nSamplesOut` buffer; neither `celt_assert` of silk_resampler fires.  The three
    resampling kernels enter as contracts (read `inLen` inputs, write `inLen·Fs_out/Fs_in` outputs), which the
    recorder tie observes on the repo's kernels for all 15 rate pairs. -/
theorem decode_output_indices_in_bounds (fs : Int) (nb : Nat) (nci nca api : Int) (hs stm lost sst : Bool)
    (hfs : fs = 8 ∨ fs = 12 ∨ fs = 16) (hnb : nb = 2 ∨ nb = 4) (hci : nci = 1 ∨ nci = 2) (hca : nca = 1 ∨ nca = 2)
    (hapi : api = 8000 ∨ api = 12000 ∨ api = 16000 ∨ api = 24000 ∨ api = 48000) :
    (outAccesses ⟨fs, nb, nci, nca, api, hs, stm, lost, sst⟩).aborted = false ∧
    AllIn (OutIn.cfg ⟨fs, nb, nci, nca, api, hs, stm, lost, sst⟩) (outAccesses ⟨fs, nb, nci, nca, api, hs, stm, lost, sst⟩).all ∧
    [8000, 12000, 16000, 24000, 48000].map rateId = SilkSynth.rateIds :=
  ⟨(outAccesses_ok fs nb nci nca api hs stm lost sst hfs hnb hci hca hapi).1,
   (outAccesses_ok fs nb nci nca api hs stm lost sst hfs hnb hci hca hapi).2, rateId_ok.1⟩

open Opus.SilkSynthIdx in
/- WB stereo 20 ms to 48 kHz stereo: each row of the frame buffer is used up to its last element 321 (of 322), never
   beyond; 960 samples per channel out; the storage has 2·322 elements -/
example : extentsStr (outAccesses ⟨16, 4, 2, 2, 48000, true, false, false, false⟩).all [.tmp0, .tmp1, .out2, .samplesOut, .delayBuf1] =
    "tmp0:r=0..321,w=0..321 tmp1:r=1..321,w=0..321 samplesOut2_tmp:r=0..959,w=0..959 samplesOut:r=-,w=0..1919 delayBuf1:r=0..15,w=0..15" ∧
    inputDelay 16 48000 = 7 ∧ Arr.size (OutIn.cfg ⟨16, 4, 2, 2, 48000, true, false, false, false⟩) .tmpStore = 644 := by
  decide +kernel

end OpusProps.C18
