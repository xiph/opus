import OpusModel.SilkStereo
import OpusProofs.SilkStereoTab
import OpusProofs.SilkStereoMain
import OpusProofs.SilkStereoSym
import OpusProofs.SilkStereoLoops
import OpusProofs.SilkStereoEnc
/-
  OpusProps.C18Stereo — property C18 (SILK side information dequantises to stable, in-range parameters), slice Stereo:
  the mid/side predictor side information (silk/stereo_quant_pred.c, stereo_encode_pred.c, stereo_decode_pred.c).
-/
namespace OpusProps.C18Stereo
open Opus Opus.SilkParams Opus.SilkStereo OpusProofs.SilkStereoQuant OpusProofs.SilkStereoMain OpusProofs.SilkStereoAgree

/-- The defined domain of one predictor handed to `silk_stereo_quant_pred`: every `opus_int32` except the top 13 365
    values (`silk_int32_MAX - 13364 ..`), i.e. `[-2^31, 2^31 - 1 - 13365]`. -/
def Dom (p : Int) : Prop := -2147483648 ≤ p ∧ p ≤ 2147470282

/-- Table facts over the whole regenerated `silk_stereo_pred_quant_Q13`: 16 entries, strictly increasing, symmetric
    (`tab[15-i] = -tab[i]`), all `opus_int16`; the 75 levels `low + step*(2j+1)` are strictly increasing from -13364 to
    13362, neighbours at most 736 apart, mirror images of each other up to the step's rounding remainder (0..9). -/
theorem table_facts :
    tab.length = 16 ∧ OpusProofs.SilkStereoTab.strictIncr tab = true ∧
    (List.range 16).all (fun i => tab.getD (15 - i) 0 == - tab.getD i 0) = true ∧
    tab.all (fun v => decide (-32768 ≤ v ∧ v ≤ 32767)) = true ∧
    levels.length = 75 ∧ OpusProofs.SilkStereoTab.strictIncr levels = true ∧
    levels.head? = some (-13364) ∧ levels.getLast? = some 13362 ∧
    OpusProofs.SilkStereoTab.gapsLe 736 levels = true ∧
    (List.range 75).all (fun k => decide (0 ≤ -(levels.getD k 0) - levels.getD (74 - k) 0 ∧
      -(levels.getD k 0) - levels.getD (74 - k) 0 ≤ 9)) = true :=
  ⟨OpusProofs.SilkStereoTab.tab_consts.1, OpusProofs.SilkStereoTab.tab_strictIncr, OpusProofs.SilkStereoTab.tab_symmetric,
   OpusProofs.SilkStereoTab.tab_int16, OpusProofs.SilkStereoTab.levels_length.1, OpusProofs.SilkStereoTab.levels_strictIncr,
   OpusProofs.SilkStereoTab.levels_ends.1, OpusProofs.SilkStereoTab.levels_ends.2, OpusProofs.SilkStereoTab.levels_gaps,
   OpusProofs.SilkStereoTab.levels_mirror⟩

example : tab.getD 0 0 = -13732 ∧ tab.getD 15 0 = 13732 ∧ levels.getD 37 0 = 0 := by decide +kernel

/-- TERMINATION WITH INDICES IN RANGE.  For every predictor pair of the defined domain and whatever `ix` holds on entry,
    `silk_stereo_quant_pred` terminates without undefined behaviour with `ix[n][0] ∈ [0,2]`, `ix[n][1] ∈ [0,5)`,
    `ix[n][2] ∈ [0,4]`; hence the joint symbol is in `[0,25)`, no `celt_assert` of `silk_stereo_encode_pred` fires and each
    of the five symbols lies inside its iCDF table (sizes 25, 3, 5, 3, 5). -/
theorem quant_indices_in_range (p0 p1 : Int) (ixIn : List Int) (h0 : Dom p0) (h1 : Dom p1) :
    ∃ out a0 b0 c0 a1 b1 c1, quantPred p0 p1 ixIn = some out ∧ out.ix = [a0, b0, c0, a1, b1, c1] ∧
      (0 ≤ a0 ∧ a0 ≤ 2) ∧ (0 ≤ b0 ∧ b0 < (subSteps : Int)) ∧ (0 ≤ c0 ∧ c0 ≤ 4) ∧
      (0 ≤ a1 ∧ a1 ≤ 2) ∧ (0 ≤ b1 ∧ b1 < (subSteps : Int)) ∧ (0 ≤ c1 ∧ c1 ≤ 4) ∧
      (0 ≤ 5 * c0 + c1 ∧ 5 * c0 + c1 < 25) ∧
      encodeSyms out.ix = .ok [(5 * c0 + c1, 25), (a0, 3), (b0, 5), (a1, 3), (b1, 5)] ∧
      Gen.SilkStereoTabs.predJointIcdf.length = 25 ∧ Gen.SilkStereoTabs.uniform3Icdf.length = 3 ∧
      Gen.SilkStereoTabs.uniform5Icdf.length = 5 := by
  obtain ⟨r0, hr0, r1, hr1, hq, -, -⟩ := quantPred_total p0 p1 ixIn h0.1 h0.2 h1.1 h1.2
  have s0 := post_spec r0 hr0
  have s1 := post_spec r1 hr1
  have hs : (subSteps : Int) = 5 := by rw [OpusProofs.SilkStereoTab.tab_consts.2.2.1]; rfl
  refine ⟨_, _, _, _, _, _, _, hq, rfl, ⟨s0.1, s0.2.1⟩, ⟨s0.2.2.1, by omega⟩, ⟨s0.2.2.2.2.1, s0.2.2.2.2.2.1⟩,
    ⟨s1.1, s1.2.1⟩, ⟨s1.2.2.1, by omega⟩, ⟨s1.2.2.2.2.1, s1.2.2.2.2.2.1⟩, ⟨by omega, by omega⟩,
    encodeSyms_ok ⟨s0.1, s0.2.1⟩ ⟨s0.2.2.1, s0.2.2.2.1⟩ ⟨s0.2.2.2.2.1, s0.2.2.2.2.2.1⟩ ⟨s1.1, s1.2.1⟩ ⟨s1.2.2.1, s1.2.2.2.1⟩
      ⟨s1.2.2.2.2.1, s1.2.2.2.2.2.1⟩, OpusProofs.SilkStereoTab.icdf_tables.1, OpusProofs.SilkStereoTab.icdf_tables.2.1,
    OpusProofs.SilkStereoTab.icdf_tables.2.2.1⟩

example : Dom 0 ∧ Dom (-2147483648) ∧ Dom 2147470282 ∧
    quantPred 4000 (-2147483648) [85, 85, 85, 85, 85, 85] = some { pred0 := 17339, pred1 := -13364, ix := [0, 2, 3, 0, 0, 0] } := by
  refine ⟨by unfold Dom; omega, by unfold Dom; omega, by unfold Dom; omega, by decide +kernel⟩

/-- ENCODER / DECODER AGREEMENT.  `silk_stereo_decode_pred` applied to the indices the encoder produced (joint symbol
    `5*ix[0][2] + ix[1][2]`) returns exactly the pair the encoder keeps in `pred_Q13` — both entries, including the
    `pred_Q13[0] -= pred_Q13[1]` step — so both sides run the same MS<->LR predictor. -/
theorem enc_dec_agree (p0 p1 : Int) (ixIn : List Int) (h0 : Dom p0) (h1 : Dom p1) :
    ∃ out, quantPred p0 p1 ixIn = some out ∧ decodeOfIx out.ix = .ok (out.pred0, out.pred1) := by
  obtain ⟨r0, hr0, r1, hr1, hq, -, -⟩ := quantPred_total p0 p1 ixIn h0.1 h0.2 h1.1 h1.2
  exact ⟨_, hq, decodeOfIx_ok hr0 hr1⟩

example : decodeOfIx [0, 2, 3, 0, 0, 0] = .ok (17339, -13364) := by decide +kernel

/-- NEAREST-POINT SEARCH.  The quantised predictors (`pred_Q13[0] + pred_Q13[1]` undoes the final subtraction) are levels
    of the grid, and no level `low_i + step_i*(2j+1)`, `i < 15`, `j < 5`, is nearer to the input. -/
theorem quant_nearest (p0 p1 : Int) (ixIn : List Int) (h0 : Dom p0) (h1 : Dom p1) :
    ∃ out, quantPred p0 p1 ixIn = some out ∧ (out.pred0 + out.pred1) ∈ levels ∧ out.pred1 ∈ levels ∧
      ∀ i j : Nat, i < 15 → j < 5 →
        sabs (p0 - (out.pred0 + out.pred1)) ≤ sabs (p0 - level i j) ∧ sabs (p1 - out.pred1) ≤ sabs (p1 - level i j) := by
  obtain ⟨r0, hr0, r1, hr1, hq, hn0, hn1⟩ := quantPred_total p0 p1 ixIn h0.1 h0.2 h1.1 h1.2
  have e : lv r0 - lv r1 + lv r1 = lv r0 := by omega
  refine ⟨_, hq, ?_, ?_, ?_⟩
  · show lv r0 - lv r1 + lv r1 ∈ levels
    rw [e]; exact List.mem_map.mpr ⟨r0, hr0, rfl⟩
  · exact List.mem_map.mpr ⟨r1, hr1, rfl⟩
  · intro i j hi hj
    have hm : (i, j) ∈ visitOrder := by
      simp only [visitOrder, List.mem_flatMap, List.mem_map, List.mem_range]
      exact ⟨i, by have := OpusProofs.SilkStereoTab.tab_consts.2.1; omega, j, by have := OpusProofs.SilkStereoTab.tab_consts.2.2.1; omega, rfl⟩
    show sabs (p0 - (lv r0 - lv r1 + lv r1)) ≤ _ ∧ _
    rw [e]
    exact ⟨hn0 (i, j) hm, hn1 (i, j) hm⟩

example : level 0 0 = -13364 ∧ level 14 4 = 13362 ∧ level 7 2 = 0 := by decide +kernel

/-- ERROR BOUND AND SATURATION.  For an input inside the span `[-13364, 13362]` of the levels the quantisation error is at
    most 368 (= the largest `step_Q13`, half of the largest sub-step 736); inputs at or below / above the span map to the
    end levels. -/
theorem quant_error_bound (p0 p1 : Int) (ixIn : List Int) (h0 : Dom p0) (h1 : Dom p1) :
    ∃ out, quantPred p0 p1 ixIn = some out ∧
      (-13364 ≤ p0 → p0 ≤ 13362 → sabs (p0 - (out.pred0 + out.pred1)) ≤ 368) ∧
      (-13364 ≤ p1 → p1 ≤ 13362 → sabs (p1 - out.pred1) ≤ 368) ∧
      (p0 ≤ -13364 → out.pred0 + out.pred1 = -13364) ∧ (13362 ≤ p0 → out.pred0 + out.pred1 = 13362) ∧
      (p1 ≤ -13364 → out.pred1 = -13364) ∧ (13362 ≤ p1 → out.pred1 = 13362) := by
  obtain ⟨r0, hr0, r1, hr1, hq, hn0, hn1⟩ := quantPred_total p0 p1 ixIn h0.1 h0.2 h1.1 h1.2
  have e : lv r0 - lv r1 + lv r1 = lv r0 := by omega
  have c0 := nearest_conseq p0 hr0 hn0
  have c1 := nearest_conseq p1 hr1 hn1
  refine ⟨_, hq, ?_, c1.1, ?_, ?_, c1.2.1, c1.2.2⟩
  · show _ → _ → sabs (p0 - (lv r0 - lv r1 + lv r1)) ≤ 368
    rw [e]; exact c0.1
  · show _ → lv r0 - lv r1 + lv r1 = -13364
    rw [e]; exact c0.2.1
  · show _ → lv r0 - lv r1 + lv r1 = 13362
    rw [e]; exact c0.2.2

example : quantPred 184 (-2147483648) [0, 0, 0, 0, 0, 0] = some { pred0 := 13692, pred1 := -13364, ix := [1, 3, 2, 0, 0, 0] } ∧
    quantPred 2147470282 13362 [0, 0, 0, 0, 0, 0] = some { pred0 := 0, pred1 := 13362, ix := [2, 4, 4, 2, 4, 4] } := by
  decide +kernel

/-- DEQUANTISED RANGE, for EVERY index tuple the symbol layer can decode (joint symbol `< 25`, `ix[n][0] < 3`,
    `ix[n][1] < 5`: the sizes of the three iCDF tables): `silk_stereo_decode_pred` reads inside
    `silk_stereo_pred_quant_Q13`, this model and the symbol layer's `stereoMk` (OpusModel/SilkSyms.lean) compute the same
    pair, `pred_Q13[1] ∈ [-13364, 13362]` and `pred_Q13[0] ∈ [-26726, 26726]`. -/
theorem dequant_in_range (n a0 b0 a1 b1 : Nat) (hn : n < 25) (ha0 : a0 < 3) (hb0 : b0 < 5) (ha1 : a1 < 3) (hb1 : b1 < 5) :
    decodePred n a0 b0 a1 b1 = .ok ((SilkSyms.stereoMk n a0 b0 a1 b1).pred0, (SilkSyms.stereoMk n a0 b0 a1 b1).pred1) ∧
      -26726 ≤ (SilkSyms.stereoMk n a0 b0 a1 b1).pred0 ∧ (SilkSyms.stereoMk n a0 b0 a1 b1).pred0 ≤ 26726 ∧
      -13364 ≤ (SilkSyms.stereoMk n a0 b0 a1 b1).pred1 ∧ (SilkSyms.stereoMk n a0 b0 a1 b1).pred1 ≤ 13362 := by
  have h := OpusProofs.SilkStereoTab.decodeOne_all
  simp only [List.all_eq_true, List.mem_range, Bool.and_eq_true, beq_iff_eq, decide_eq_true_eq] at h
  have h0 := h a0 ha0 b0 hb0 (n / 5) (by omega)
  have h1 := h a1 ha1 b1 hb1 (n - 5 * (n / 5)) (by omega)
  rw [← OpusProofs.SilkStereoSym.stereoDequant_level _ (List.mem_range.mpr (by omega)) _ (List.mem_range.mpr hb0)] at h0
  rw [← OpusProofs.SilkStereoSym.stereoDequant_level _ (List.mem_range.mpr (by omega)) _ (List.mem_range.mpr hb1)] at h1
  have e0 : Int.tdiv (n : Int) 5 = ((n / 5 : Nat) : Int) := by
    rw [Int.tdiv_eq_ediv_of_nonneg (by omega)]; omega
  have e1 : (n : Int) - 5 * ((n / 5 : Nat) : Int) = ((n - 5 * (n / 5) : Nat) : Int) := by omega
  unfold decodePred SilkSyms.stereoMk
  simp only [e0, e1, h0.1, h1.1]
  exact ⟨trivial, by omega, by omega, h1.2.1, h1.2.2⟩

example : decodePred 4 0 0 2 4 = .ok (-26726, 13362) ∧ decodePred 20 2 4 0 0 = .ok (26726, -13364) := by decide +kernel

/-- … and for EVERY state of the range decoder (any packet bytes, any position): the symbol layer's
    `silk_stereo_decode_pred` returns symbols below the table sizes (the iCDF scan stops at the terminating 0), so the
    predictors it hands to `silk_stereo_MS_to_LR` are in range and equal this model's `decodePred` of those symbols. -/
theorem dequant_in_range_any_state (c : RangeCoder.Dec) :
    ∃ n a0 b0 a1 b1 : Nat, n < 25 ∧ a0 < 3 ∧ b0 < 5 ∧ a1 < 3 ∧ b1 < 5 ∧
      decodePred n a0 b0 a1 b1 = .ok ((SilkSyms.stereoDecodePred c).1.pred0, (SilkSyms.stereoDecodePred c).1.pred1) ∧
      -26726 ≤ (SilkSyms.stereoDecodePred c).1.pred0 ∧ (SilkSyms.stereoDecodePred c).1.pred0 ≤ 26726 ∧
      -13364 ≤ (SilkSyms.stereoDecodePred c).1.pred1 ∧ (SilkSyms.stereoDecodePred c).1.pred1 ≤ 13362 := by
  obtain ⟨n, a0, b0, a1, b1, hn, ha0, hb0, ha1, hb1, e⟩ := OpusProofs.SilkStereoSym.decode_any c
  rw [e]
  exact ⟨n, a0, b0, a1, b1, hn, ha0, hb0, ha1, hb1, dequant_in_range n a0 b0 a1 b1 hn ha0 hb0 ha1 hb1⟩

example : (SilkSyms.stereoDecodePred (RangeCoder.decInit [0xf8, 0xd1, 0, 0] 4)).1.pred1 = 6350 := by decide +kernel

/-- `silk_stereo_decode_mid_only`: the decoded flag is 0 or 1 for every state of the range decoder (two-entry iCDF). -/
theorem mid_only_flag_binary (c : RangeCoder.Dec) : (SilkSyms.stereoDecodeMidOnly c).1 ≤ 1 :=
  (SilkSymsProofs.stereoDecodeMidOnly_rd SilkSymsProofs.readInv_true c trivial).1

example : (SilkSyms.stereoDecodeMidOnly (RangeCoder.decInit [0xff, 0xff, 0, 0] 4)).1 = 1 := by decide +kernel

/-! ## The encoder side that produces the pair (OpusModel/SilkStereoEnc.lean) -/

/-- ENCODER PREDICTORS ARE IN THE DOMAIN.  For every input — any results of the sample loops (`nrgx`, `nrgy`, `corr`,
    scales: any int16 signals and more), any smoothing state (`mid_side_amp_Q0`, `smth_width_Q14`, `width_prev_Q14`: no
    invariant needed), any bitrate, rate, speech activity, `toMono` — `silk_stereo_find_predictor` returns a value in
    `[-2^14, 2^14]` (its final `silk_LIMIT`), and the pair `silk_stereo_LR_to_MS` hands to `silk_stereo_quant_pred` in
    whichever of its five branches lies in `[-2^15, 2^15]` (width scaling by an arbitrary `opus_int16`
    `smth_width_Q14`), hence in `Dom`; with the smoothed width in its nominal range `[0, 2^14]` the scaling keeps
    `[-2^14, 2^14]`. -/
theorem encoder_pred_in_domain (x : LrIn) (lp hp : FindIn) :
    (∀ a b c d e f g h : Int, -16384 ≤ (findPredictor a b c d e f g h).pred ∧ (findPredictor a b c d e f g h).pred ≤ 16384) ∧
    (-32768 ≤ (lrToMs x lp hp).q0 ∧ (lrToMs x lp hp).q0 ≤ 32768) ∧
    (-32768 ≤ (lrToMs x lp hp).q1 ∧ (lrToMs x lp hp).q1 ≤ 32768) ∧
    Dom (lrToMs x lp hp).q0 ∧ Dom (lrToMs x lp hp).q1 ∧
    (∀ smth p : Int, 0 ≤ smth → smth ≤ 16384 → -16384 ≤ p → p ≤ 16384 →
      -16384 ≤ scalePred smth p ∧ scalePred smth p ≤ 16384) := by
  have h := OpusProofs.SilkStereoEnc.lrToMs_bounds x lp hp
  refine ⟨fun a b c d e f g h => OpusProofs.SilkStereoEnc.findPredictor_pred a b c d e f g h, h.1, h.2, ?_, ?_,
    fun smth p h1 h2 h3 h4 => OpusProofs.SilkStereoEnc.scalePred_le
      (by rw [wrap16_id (by unfold I16; omega)]; omega) ⟨h3, h4⟩⟩
  · unfold Dom; omega
  · unfold Dom; omega

example : (findPredictor 1000000 0 1000000 0 (-3000000) 0 0 655).pred = -16384 ∧
    (lrPreds { smth := 8000, widthPrev := 8000, totalRate := 20000, fsKHz := 16, is10ms := false, act := 200, toMono := false }
      (-16384) 3000 5000 9000).q0 = -8026 := by decide +kernel

/-- STATE INVARIANT AND NOMINAL BOUND.  With `state->smth_width_Q14` in `[0, 2^14]` on entry (0 after reset) and
    `prev_speech_act_Q8` in `[0, 255]`, `silk_stereo_LR_to_MS` leaves `smth_width_Q14` in `[0, 2^14]` again (whatever the
    signals, rates and the other state fields), and the pair handed to `silk_stereo_quant_pred` lies in `[-2^14, 2^14]`. -/
theorem encoder_width_invariant (x : LrIn) (lp hp : FindIn) (hs : 0 ≤ x.smth ∧ x.smth ≤ 16384) (ha : 0 ≤ x.act ∧ x.act ≤ 255) :
    (0 ≤ (lrToMs x lp hp).smth ∧ (lrToMs x lp hp).smth ≤ 16384) ∧
    (-16384 ≤ (lrToMs x lp hp).q0 ∧ (lrToMs x lp hp).q0 ≤ 16384) ∧
    (-16384 ≤ (lrToMs x lp hp).q1 ∧ (lrToMs x lp hp).q1 ≤ 16384) := by
  unfold lrToMs
  exact OpusProofs.SilkStereoEncInv.lrPreds_nominal x _ _ _ _ hs ha (OpusProofs.SilkStereoEnc.findPredictor_pred ..)
    (OpusProofs.SilkStereoEnc.findPredictor_pred ..)

example : (lrPreds { smth := 16384, widthPrev := 16384, totalRate := 64000, fsKHz := 16, is10ms := false, act := 255, toMono := false }
    16384 100 (-16384) 100).q0 = 16384 := by decide +kernel

/-- COMPOSED: EVERY call of `silk_stereo_quant_pred` the encoder makes (any signals, state, rate, whatever `ix` holds)
    terminates without undefined behaviour, writes only symbols inside their iCDF tables (no `celt_assert`), and the decoder
    rebuilds exactly the pair the encoder keeps. -/
theorem encoder_stereo_symbols_valid (x : LrIn) (lp hp : FindIn) (ixIn : List Int) :
    ∃ out syms, quantPred (lrToMs x lp hp).q0 (lrToMs x lp hp).q1 ixIn = some out ∧
      encodeSyms out.ix = .ok syms ∧ syms.length = 5 ∧ (∀ s ∈ syms, 0 ≤ s.1 ∧ s.1 < (s.2 : Int)) ∧
      decodeOfIx out.ix = .ok (out.pred0, out.pred1) := by
  have hd := encoder_pred_in_domain x lp hp
  obtain ⟨out, a0, b0, c0, a1, b1, c1, hq, -, h1, h2, h3, h4, h5, h6, h7, hs, -⟩ :=
    quant_indices_in_range _ _ ixIn hd.2.2.2.1 hd.2.2.2.2.1
  obtain ⟨out', hq', hdec⟩ := enc_dec_agree _ _ ixIn hd.2.2.2.1 hd.2.2.2.2.1
  have e : out' = out := by rw [hq] at hq'; exact (Option.some.inj hq').symm
  subst e
  have hss : (subSteps : Int) = 5 := by rw [OpusProofs.SilkStereoTab.tab_consts.2.2.1]; rfl
  refine ⟨out', _, hq, hs, rfl, ?_, hdec⟩
  intro s hs'
  simp only [List.mem_cons, List.mem_nil_iff, or_false] at hs'
  rcases hs' with rfl | rfl | rfl | rfl | rfl <;> (constructor <;> simp only [] <;> omega)

/-- `silk_stereo_encode_mid_only` -> `ec_enc_done` -> `silk_stereo_decode_mid_only` (the symbol layer's reader) on a fresh
    range coder gives the flag back, for both flag values. -/
theorem mid_only_round_trip : ∀ flag : Nat, flag ≤ 1 →
    (SilkSyms.stereoDecodeMidOnly (RangeCoder.decInit (RangeCoder.encDone (RangeCoder.encIcdf
      (RangeCoder.encInit [0, 0, 0, 0] 4) (encodeMidOnlySym flag).1.toNat (encodeMidOnlySym flag).2 8)).buf 4)).1 = flag := by
  intro flag h
  have : flag = 0 ∨ flag = 1 := by omega
  rcases this with rfl | rfl <;> decide +kernel

example : (encodeMidOnlySym 1).2 = [64, 0] := by decide +kernel

/-- TRANSCRIPTION.  The search written statement for statement with its two nested `for` loops and the `goto done`
    (OpusModel/SilkStereoLoops.lean) is the scan over the visiting order that `quantOne` — hence every theorem above — uses. -/
theorem nested_loops_are_scan (pred qIn a b : Int) : quantOneLoops pred qIn a b = quantOne pred qIn a b := by
  unfold quantOneLoops quantOne visitOrder
  rw [OpusProofs.SilkStereoLoops.outer_scan]
  rfl

example : quantOneLoops 4000 0 85 85 = some { q := 3975, ix0 := 0, ix1 := 2, ix2 := 3 } := by decide +kernel

/-- THE DOMAIN IS EXACT (finding about the code, outside what the encoder produces).  For `pred_Q13[n] = 2147470283`
    (`silk_int32_MAX - 13364`) there is no overflow but the first level's error equals `silk_int32_MAX`, so `goto done` is
    taken at once: `ix[n][0]`, `ix[n][1]` keep whatever they held and `quant_pred_Q13` is 0 / the other predictor's level;
    for every larger input `pred_Q13[n] - lvl_Q13` overflows `opus_int32` (undefined behaviour). -/
theorem domain_exact (qIn a b : Int) :
    quantOne 2147470283 qIn a b =
      some { q := qIn, ix0 := wrap8 (a - wrap8 (Int.tdiv a 3) * 3), ix1 := b, ix2 := wrap8 (Int.tdiv a 3) } ∧
    ∀ pred, 2147470283 < pred → quantOne pred qIn a b = none :=
  ⟨quantOne_unset qIn a b, fun pred h => quantOne_overflow pred qIn a b h⟩

example : quantPred 2147470283 100 [85, 85, 85, 85, 85, 85] = some { pred0 := 0, pred1 := 0, ix := [1, 85, 28, 1, 2, 2] } := by
  decide +kernel

end OpusProps.C18Stereo
