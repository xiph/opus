import OpusProofs.LayoutSurround
import OpusProofs.LayoutRoute
import OpusProofs.LayoutMs
import OpusProofs.MatrixDemix
import OpusProofs.MsEncode
import OpusProofs.ProjectionCreate
import OpusProofs.MsEncodeSkel
import OpusProofs.LayoutIdentity
import OpusProofs.ProjectionInt24
import OpusProofs.LayoutIsqrt
/-
  Property C10 — "Multistream and projection equal per-stream coding plus the channel mapping".

  Model:  `Opus.Layout`  (src/opus_multistream.c, opus_multistream_decoder.c, opus_multistream_encoder.c,
                          opus_projection_encoder.c: layout validation, channel lookup, creation argument
                          checks, surround / ambisonics / projection layout construction, multistream packet
                          validation, the decode routing loop over opaque per-stream decoders)
          `Opus.Matrix`  (src/mapping_matrix.c: the ten regenerated Q15 matrices, int16 multiply paths)
          `Opus.Projection` (src/opus_projection_decoder.c: decoder creation, import of the demixing matrix;
                          the int24 output path of src/mapping_matrix.c)
          `Opus.MsEncode` (src/opus_multistream_encoder.c: packet assembly of `opus_multistream_encode_native`),
          `Opus.EncSkel`  (the single-stream encoder skeleton of C02/C05, instantiated per stream)
  Spec:   `Opus.LayoutSpec` (RFC 7845 §5.1.1, RFC 8486 §3, RFC 6716 App. B), `Opus.FramingSpec` (C06).

  The per-stream encoders and decoders are opaque: `routing` holds for every answer the decoders may give,
  `ms_encode_packet_structure` for every encoder within its contract.  That the streams inside a multistream
  decoder evolve exactly like stand-alone decoders is `stream_is_standalone` in `OpusProps/C10MsDec.lean`.
-/
namespace OpusProps.C10
open Opus Opus.Layout Opus.LayoutSpec Opus.FramingSpec Opus.Matrix

/-- **Layout validation is the RFC 7845 §5.1.1 validity predicate.**  `validate_layout` accepts exactly
    the layouts whose decoded-channel count fits a byte and whose every mapping byte is an index below
    `streams + coupled` or 255; `validate_encoder_layout` accepts exactly those in which every stream
    is fed (both sides of a coupled stream).  For every layout, including duplicates and 255. -/
theorem validate_spec (l : ChannelLayout) :
    (validateLayout l = true ↔
      l.nbStreams + l.nbCoupled ≤ 255 ∧
      ∀ m ∈ l.mapping.take l.nbChannels, m < l.nbStreams + l.nbCoupled ∨ m = 255) ∧
    (validateEncoderLayout l = true ↔
      ∀ s, s < l.nbStreams →
        (s < l.nbCoupled → s * 2 ∈ l.mapping.take l.nbChannels ∧ s * 2 + 1 ∈ l.mapping.take l.nbChannels) ∧
        (¬ s < l.nbCoupled → s + l.nbCoupled ∈ l.mapping.take l.nbChannels)) :=
  ⟨validateLayout_iff l, validateEncoderLayout_iff l⟩

example : validateLayout ⟨4, 2, 1, [2, 255, 0, 0]⟩ = true ∧ validateEncoderLayout ⟨4, 2, 1, [2, 255, 0, 0]⟩ = false ∧
    validateLayout ⟨2, 1, 0, [0, 1]⟩ = false := by decide

/-- **Invalid layouts are rejected at creation.**  The multistream decoder is created exactly when
    `1 ≤ channels ≤ 255`, `1 ≤ streams`, `0 ≤ coupled ≤ streams`, `streams + coupled ≤ 255`, the layout
    is valid and the rate is supported; the encoder additionally needs `streams + coupled ≤ channels` and
    every stream fed.  `create` and `init` agree.  Every refusal is `OPUS_BAD_ARG`; the only other
    outcome is the API-contract violation of a mapping array shorter than `channels`. -/
theorem create_rejects (innerOk : Bool) (ch st co : Int) (m : List Nat) :
    (∀ l, decoderCreate innerOk ch st co m = .ok l ↔
      DecArgsOk ch st co ∧ ch.toNat ≤ m.length ∧ LayoutValid (storedLayout ch st co m) ∧ innerOk = true ∧
      l = storedLayout ch st co m) ∧
    (∀ e, encoderCreate innerOk ch st co m = .ok e ↔
      EncArgsOk ch st co ∧ ch.toNat ≤ m.length ∧ LayoutValid (storedLayout ch st co m) ∧
      EncoderLayoutValid (storedLayout ch st co m) ∧ innerOk = true ∧
      e = { layout := storedLayout ch st co m, lfeStream := -1, mappingType := .none }) ∧
    decoderCreate innerOk ch st co m = decoderInit innerOk ch st co m ∧
    encoderCreate innerOk ch st co m = encoderInit innerOk ch st co m ∧
    ((∃ l, decoderCreate innerOk ch st co m = .ok l) ∨ decoderCreate innerOk ch st co m = .err .badArg ∨
      (decoderCreate innerOk ch st co m = .oob ∧ m.length < ch.toNat)) ∧
    ((∃ e, encoderCreate innerOk ch st co m = .ok e) ∨ encoderCreate innerOk ch st co m = .err .badArg ∨
      (encoderCreate innerOk ch st co m = .oob ∧ m.length < ch.toNat)) := by
  refine ⟨fun l => ?_, fun e => ?_, decoderCreate_eq _ _ _ _ _, encoderCreate_eq _ _ _ _ _, ?_, ?_⟩
  · rw [decoderCreate_eq]; exact decoderInit_ok_iff _ _ _ _ _ _
  · rw [encoderCreate_eq, encoderInit, encoderInitImpl_ok_iff]
    constructor
    · rintro ⟨a, b, c, d, _, f, g⟩; exact ⟨a, b, c, d, f, g⟩
    · rintro ⟨a, b, c, d, f, g⟩; exact ⟨a, b, c, d, (fun h => by cases h), f, g⟩
  · rw [decoderCreate_eq]; exact decoderInit_cases innerOk ch st co m
  · rw [encoderCreate_eq, encoderInit]; exact encoderInitImpl_cases innerOk ch st co m .none (-1)

example : decoderCreate true 4 2 1 [2, 255, 0, 0] = .ok ⟨4, 2, 1, [2, 255, 0, 0]⟩ ∧
    decoderCreate true 2 1 0 [0, 1] = .err .badArg ∧ decoderCreate true 2 200 56 [0, 1] = .err .badArg ∧
    encoderCreate true 4 2 1 [2, 255, 0, 0] = .err .badArg ∧
    encoderCreate true 3 2 1 [2, 1, 0] = .ok ⟨⟨3, 2, 1, [2, 1, 0]⟩, -1, .none⟩ := by decide

/-- **Decoding routes every stream to the channels its mapping designates.**  For every decoder that
    creation accepted, every packet / PLC call and *every* behaviour of the per-stream decoders
    (`rets`: their return values and consumed lengths; their PCM is arbitrary): if
    `opus_multistream_decode_native` returns a positive sample count then
    * each output channel `c` receives **exactly one** `copy_channel_out` call,
    * whose source is the left / right side of coupled stream `mapping[c]/2` when
      `mapping[c] < 2·coupled`, mono stream `mapping[c] − coupled` otherwise, and `NULL` (zeros)
      iff `mapping[c] = 255`,
    * with the sample count that stream's decoder returned (the final frame size for muted channels),
    * no call targets a channel outside `0 .. channels-1`, and every stream decoder returned `> 0`. -/
theorem routing (innerOk : Bool) (ch st co : Int) (m : List Nat) (l : ChannelLayout)
    (hcreate : decoderCreate innerOk ch st co m = .ok l)
    (fsRate : Nat) (frameSize len : Int) (validate : Res Nat) (rets : List StreamRet)
    (hrets : rets.length = l.nbStreams) (r : Routed)
    (hdec : decodeNative l fsRate frameSize len validate rets = .ok r) (hpos : r.ret > 0) :
    (∀ c, c < l.nbChannels →
      r.calls.filter (fun k => k.chan = c) =
        [{ chan := c, src := expectedSrc l c, frameSize := srcFrame rets r.ret (expectedSrc l c) }] ∧
      (expectedSrc l c = .zero ↔ l.mapping[c]? = some 255) ∧
      (expectedSrc l c).streamLt l.nbStreams) ∧
    (∀ k ∈ r.calls, k.chan < l.nbChannels) ∧ (∀ s ∈ rets, s.ret > 0) := by
  rw [decoderCreate_eq] at hcreate
  obtain ⟨hv, hcs, hmap, _, _⟩ := decoderInit_layout_facts innerOk ch st co m l hcreate
  obtain ⟨h1, h2, h3, _⟩ := decodeNative_routing l hv hcs hmap fsRate frameSize len validate rets hrets r hdec hpos
  exact ⟨fun c hc => ⟨h1 c hc, expectedSrc_zero_iff l c hc hmap, expectedSrc_in_range l hv hcs hmap c hc⟩, h2, h3⟩

/-- **…bit for bit the samples of the mapped stream, exact silence for 255.**  When every stream
    decoder returns the common duration `n` (which `opus_multistream_packet_validate` established for the
    packet), the call returns `n` and output channel `c` is written once, with the first `n` samples
    of the stand-alone output `pcm` of its designated stream and side — `n` zeros for a muted channel. -/
theorem routing_pcm {α} [OfNat α 0] (pcm : Src → List α)
    (innerOk : Bool) (ch st co : Int) (m : List Nat) (l : ChannelLayout)
    (hcreate : decoderCreate innerOk ch st co m = .ok l)
    (fsRate : Nat) (frameSize len : Int) (validate : Res Nat) (rets : List StreamRet)
    (hrets : rets.length = l.nbStreams) (n : Int) (hn : ∀ s ∈ rets, s.ret = n) (r : Routed)
    (hdec : decodeNative l fsRate frameSize len validate rets = .ok r) (hpos : r.ret > 0) :
    r.ret = n ∧ ∀ c, c < l.nbChannels →
      channelWrites pcm r.calls c = [srcSamples pcm n (expectedSrc l c)] ∧
      (l.mapping[c]? = some 255 → srcSamples pcm n (expectedSrc l c) = List.replicate n.toNat 0) := by
  rw [decoderCreate_eq] at hcreate
  obtain ⟨hv, hcs, hmap, _, hst⟩ := decoderInit_layout_facts innerOk ch st co m l hcreate
  obtain ⟨hcalls, _, _, fs0, hfs⟩ := decodeNative_routing l hv hcs hmap fsRate frameSize len validate rets hrets r hdec hpos
  have hne : rets ≠ [] := by intro h; rw [h] at hrets; simp at hrets; omega
  have hret : r.ret = n := hfs.trans (finalFs_const rets n fs0 hne hn)
  refine ⟨hret, fun c hc => ⟨?_, fun h255 => ?_⟩⟩
  · unfold channelWrites
    rw [hcalls c hc, List.map_singleton, hret,
      srcFrame_const rets n hn _ (by rw [hrets]; exact expectedSrc_in_range l hv hcs hmap c hc)]
  · rw [(expectedSrc_zero_iff l c hc hmap).2 h255]; rfl

example : (decodeNative ⟨4, 2, 1, [2, 255, 0, 0]⟩ 48000 960 10 (.ok 960) [⟨960, 5⟩, ⟨960, 5⟩]) =
    .ok ⟨960, [⟨2, .left 0, 960⟩, ⟨3, .left 0, 960⟩, ⟨0, .mono 1, 960⟩, ⟨1, .zero, 960⟩]⟩ := by
  simp [decodeNative, routeLoop, streamCalls_eq, scanAll, mutedCalls, ChannelLayout.chans]

/-- **Surround and ambisonics encoders use the layouts the RFCs prescribe, for every channel count.**
    For every mapping family in {0, 1, 2, 255} and every channel count 1..255 (`SurroundSpec`): if RFC
    7845 §5.1.1 / RFC 8486 §3.1 define a layout for that count (`rfcLayout`), then
    `opus_multistream_surround_encoder_init` and `_create` succeed and report exactly that
    `(streams, coupled, mapping)`, store it as the encoder's layout (LFE stream and mapping type set), both
    validators accept it, and the generic multistream encoder and decoder accept it; if they define
    none, both entry points refuse.  Channel counts outside 1..255 are `OPUS_BAD_ARG`, other families
    `OPUS_UNIMPLEMENTED`. -/
theorem surround_layout_valid :
    (∀ family : Int, family = 0 ∨ family = 1 ∨ family = 2 ∨ family = 255 →
      ∀ ch : Nat, 1 ≤ ch → ch ≤ 255 → SurroundSpec family ch) ∧
    (∀ (innerOk : Bool) (channels family : Int), channels < 1 ∨ channels > 255 →
      surroundInit innerOk channels family = .err .badArg ∧ surroundCreate innerOk channels family = .err .badArg) ∧
    (∀ (innerOk : Bool) (channels family : Int), 1 ≤ channels ∧ channels ≤ 255 →
      family ≠ 0 ∧ family ≠ 1 ∧ family ≠ 2 ∧ family ≠ 255 →
      surroundInit innerOk channels family = .err .unimplemented ∧
      surroundCreate innerOk channels family = .err .unimplemented) := by
  refine ⟨fun family hf ch h1 h2 => ?_, fun innerOk channels family h => ?_, fun innerOk channels family hc hf => ?_⟩
  · have h01 : SurroundSpec 0 ch ∧ SurroundSpec 1 ch := by
      by_cases h9 : ch < 9
      · exact surroundSpec_small ch (List.mem_range.2 h9) h1
      · exact ⟨surroundSpec_large 0 (.inl rfl) ch (by omega) h2, surroundSpec_large 1 (.inr rfl) ch (by omega) h2⟩
    rcases hf with rfl | rfl | rfl | rfl
    exacts [h01.1, h01.2, surroundSpec_f2 ch h1 h2, surroundSpec_f255 ch h1 h2]
  · have h' : channels > 255 ∨ channels < 1 := by omega
    exact ⟨by simp [surroundInit, surroundLayout, h'], by simp [surroundCreate, h']⟩
  · have h' : ¬ (channels > 255 ∨ channels < 1) := by omega
    exact ⟨by simp [surroundInit, surroundLayout, h', hf.1, hf.2.1, hf.2.2.1, hf.2.2.2],
      by simp [surroundCreate, surroundSizeNonzero, h', hf.1, hf.2.1, hf.2.2.1, hf.2.2.2]⟩

example : rfcLayout 1 6 = some (4, 2, [0, 4, 1, 2, 3, 5]) ∧ rfcLayout 2 11 = some (10, 1, [2, 3, 4, 5, 6, 7, 8, 9, 10, 0, 1]) ∧
    rfcLayout 255 3 = some (3, 0, [0, 1, 2]) ∧ rfcLayout 0 3 = none ∧ rfcLayout 2 5 = none := by decide
example : surroundCreate true 6 1 =
    .ok (⟨4, 2, [0, 4, 1, 2, 3, 5], 3⟩, ⟨⟨6, 4, 2, [0, 4, 1, 2, 3, 5]⟩, 3, .surround⟩) := by decide

/-- **Family 1 is RFC 7845 §5.1.1.2.**  For 1..8 channels the regenerated `vorbis_mappings` table equals
    the published literal, and each entry meets what the RFC's loudspeaker order demands
    (`Family1Ok`): the mapping is a permutation of the decoded channels with `streams + coupled =
    channels`, each left/right loudspeaker pair is the two sides of one coupled stream, and the LFE
    is the last, uncoupled, stream. -/
theorem family1_is_rfc7845 : ∀ ch ∈ List.range 9, 1 ≤ ch →
    some ((vorbisEntry ch).1, (vorbisEntry ch).2.1, (vorbisEntry ch).2.2.take ch) = family1Literal ch ∧
    Family1Ok ch (vorbisEntry ch).1 (vorbisEntry ch).2.1 ((vorbisEntry ch).2.2.take ch) = true := by
  decide +kernel

example : Family1Ok 6 4 2 [0, 4, 1, 2, 3, 5] = true ∧ Family1Ok 6 4 2 [0, 4, 2, 1, 3, 5] = false ∧
    Family1Ok 6 4 2 [0, 5, 1, 2, 3, 4] = false := by decide

/-- **Ambisonics channel counts (RFC 8486 §3.1).**  `validate_ambisonics` accepts `ch` — for every
    integer `ch` — exactly when `ch = (n+1)² + 2j` for an order `n ≤ 14` and `j ∈ {0,1}`, and then
    reports `(n+1)² + j` streams of which `j` coupled. -/
theorem ambisonics_counts (ch : Int) (s c : Nat) :
    validateAmbisonics ch = some (s, c) ↔
      ∃ n j : Nat, n ≤ 14 ∧ j ≤ 1 ∧ ch = ((n + 1) * (n + 1) + 2 * j : Nat) ∧ s = (n + 1) * (n + 1) + j ∧ c = j := by
  rw [validateAmbisonics_eq, ambiExpected, Option.map_eq_some_iff]
  constructor
  · rintro ⟨⟨n, j⟩, hq, h⟩
    obtain ⟨hn, hj, hv⟩ := (ambiOrder_iff _ n j).1 hq
    cases h
    have := acn_bounds hn
    exact ⟨n, j, hn, hj, by omega, rfl, rfl⟩
  · rintro ⟨n, j, hn, hj, rfl, rfl, rfl⟩
    exact ⟨(n, _), (ambiOrder_iff _ n _).2 ⟨hn, hj, Int.toNat_natCast _⟩, rfl⟩

example : validateAmbisonics 11 = some (10, 1) ∧ validateAmbisonics 227 = some (226, 1) ∧
    validateAmbisonics 5 = none ∧ validateAmbisonics 228 = none ∧ validateAmbisonics 0 = none := by decide

/-- **Projection (family 3) layouts.**  For every channel count 1..255: when `ch = (n+1)² + 2j` with
    order `1 ≤ n ≤ 5`, `opus_projection_ambisonics_encoder_init/_create` succeed with
    `(ch+1)/2` streams, `ch/2` coupled and the identity mapping, the built-in matrices are large enough,
    and the multistream decoder accepts the layout; every other count, every other family and every
    channel count outside 1..255 is refused. -/
theorem projection_layout_valid :
    (∀ ch ∈ List.range 256, 1 ≤ ch → projectionCheck ch = true) ∧
    (∀ (innerOk : Bool) (channels family : Int), family ≠ 3 ∨ channels < 1 ∨ channels > 227 →
      projectionInit builtinDims innerOk channels family = .err .badArg ∧
      projectionCreate builtinDims innerOk channels family = .err .allocFail) := by
  refine ⟨fun ch _ h1 => ?_, fun innerOk channels family h => ?_⟩
  · cases hf : family3 ch with
    | none =>
      obtain ⟨hi, hc⟩ := projection_refused ch hf
      simp [projectionCheck, hf, hi, hc]
    | some e =>
      unfold family3 at hf
      cases hao : ambiOrder ch with
      | none => rw [hao] at hf; cases hf
      | some nj =>
        obtain ⟨n, j⟩ := nj
        rw [hao] at hf
        simp only at hf
        obtain ⟨_, hj, rfl⟩ := (ambiOrder_iff ch n j).1 hao
        have hn : 1 ≤ n ∧ n ≤ 5 := by
          apply Decidable.byContradiction; intro h; rw [if_neg h] at hf; cases hf
        exact projection_valid n (by simp; omega) j (by simp; omega)
  have hs : streamsFromChannels channels family = none := by
    unfold streamsFromChannels
    by_cases hf : family = 3
    · simp [hf, orderPlusOneFromChannels, show channels < 1 ∨ channels > 227 by omega]
    · simp [hf]
  exact ⟨by simp [projectionInit, hs], by simp [projectionCreate, projectionSizeNonzero, hs]⟩

example : family3 11 = some (6, 5, List.range 11) ∧ family3 3 = none ∧ family3 49 = none := by decide

/-- **The demixing matrix inverts the mixing matrix up to the stated gain.**  For each of the five
    built-in orders, with and without the non-diegetic pair, `P = D·M` over ℤ on the cells the encoder
    uses / exports (Q15·Q15 = Q30) and `g` the demixing gain in Q8 dB:
    `|P[i][j]·10^(g/5120) − δᵢⱼ·2³⁰| ≤ 3·10⁻⁴·2³⁰` for all `i, j`, with the exact real `10^(g/5120)`. -/
theorem demix_inverts_mix (o ch : Nat)
    (hoc : (o, ch) ∈ [(2, 6), (2, 4), (3, 11), (3, 9), (4, 18), (4, 16), (5, 27), (5, 25), (6, 38), (6, 36)])
    (i j : Nat) (hi : i < ch) (hj : j < ch) :
    |(entry (product o ch) i j : ℝ) * (10 : ℝ) ^ (((demixGain o : Int) : ℝ) / 5120) -
        (if i = j then (2 : ℝ) ^ 30 else 0)| ≤ 3 / 10000 * (2 : ℝ) ^ 30 := by
  have ho : o ∈ [2, 3, 4, 5, 6] := by
    simp only [List.mem_cons, Prod.mk.injEq, List.not_mem_nil, or_false] at hoc ⊢; omega
  obtain ⟨hlo, hhi, hb1, hb2⟩ := gain_enclosed (demixGain o) (gains_known o ho)
  obtain ⟨e1, e2⟩ := entriesOk_all o ch hoc i j hi hj
  have r1 := entryOk_real _ _ hb1 _ _ e1
  have r2 := entryOk_real _ _ hb2 _ _ e2
  simp only [decide_eq_true_eq] at r1 r2
  exact abs_linear_le _ _ _ _ _ _ hlo hhi r1 r2

example : demixGain 3 = 3050 ∧ demixGain 2 = 0 ∧ entry (product 2 6) 0 0 = 1073719812 ∧
    entry (product 2 6) 2 0 = 22012 ∧ entry (product 3 11) 0 0 = 272343708 := by decide +kernel

/-- **The projection decoder's own copy of the demixing matrix.**  The little-endian int16 coding the
    encoder exports with `OPUS_PROJECTION_GET_DEMIXING_MATRIX` is inverted by the byte parsing of
    `opus_projection_decoder_init` for every int16 value; and for each built-in order (with / without the
    non-diegetic pair) `opus_projection_decoder_create`, given the exported `2·ch·ch` bytes and the
    encoder's `(ch+1)/2` streams / `ch/2` coupled streams, succeeds with the identity layout and a
    `ch × ch` matrix whose cells are the restricted built-in demixing matrix — so the product formed with
    the decoder's copy is exactly the `product o ch` of `demix_inverts_mix`. -/
theorem import_export_demix :
    (∀ v : Int, InInt16 v → Projection.importCell (Projection.exportCell v).1 (Projection.exportCell v).2 = v) ∧
    (∀ o ch, (o, ch) ∈ [(2, 6), (2, 4), (3, 11), (3, 9), (4, 18), (4, 16), (5, 27), (5, 25), (6, 38), (6, 36)] →
      ∃ d mx bytes pd, demixing o = some d ∧ mixing o = some mx ∧ exportDemixing d ch ch = .ok bytes ∧
        bytes.length = 2 * ch * ch ∧
        Projection.decoderCreate true ch ((ch + 1) / 2 : Nat) (ch / 2 : Nat) bytes (2 * ch * ch : Nat) = .ok pd ∧
        pd.matrix.rows = ch ∧ pd.matrix.cols = ch ∧ subCols pd.matrix ch ch = subCols d ch ch ∧
        pd.layout = ⟨ch, (ch + 1) / 2, ch / 2, List.range ch⟩ ∧
        productCols pd.matrix mx ch ch = product o ch) := by
  refine ⟨Projection.importCell_exportCell, fun o ch hoc => ?_⟩
  obtain ⟨mx, d, hmx, hd, hdl⟩ := (productOk_spec o ch (builtin_checked (o, ch) hoc)).2
  have hch : 1 ≤ ch ∧ ch ≤ 180 := by
    simp only [List.mem_cons, Prod.mk.injEq, List.not_mem_nil, or_false] at hoc; omega
  have hcells : ∀ v ∈ d.data, InInt16 v := by
    obtain ⟨g, _, rfl⟩ := Option.map_eq_some_iff.1 hd
    exact ofGen_cells g
  obtain ⟨bytes, hex, hbl, hcr, hsub⟩ := Projection.import_export_matrix d ch hch.1 hch.2 hdl hcells
  refine ⟨d, mx, bytes, _, hd, hmx, hex, hbl, hcr, rfl, rfl, hsub, rfl, ?_⟩
  unfold product
  rw [hmx, hd]
  simp only [productCols, hsub]

/-- **Projection decoder creation rejects exactly the documented argument classes** (the code of
    `fix:` commit 31272f65).  `opus_projection_decoder_init` succeeds iff `1 ≤ channels ≤ 255`,
    `1 ≤ streams`, `0 ≤ coupled ≤ streams`, `streams + coupled ≤ 255`, the announced size is
    `2·(streams+coupled)·channels ≤ 65004` (and the buffer holds that many bytes), there are at least
    `channels` coded channels (identity mapping valid) and the rate is supported; it then stores the parsed
    cells as a `channels × (streams+coupled)` matrix with gain 0 and the identity layout.  Every refusal is
    `OPUS_BAD_ARG` (`create`: or `OPUS_ALLOC_FAIL`), it never aborts — in particular the scratch array
    always has a positive length — and reads past the matrix only if the caller's buffer is shorter than
    the size it announced.  `create` succeeds exactly when `init` does, with the same state. -/
theorem projdec_create_rejects (innerOk : Bool) (ch st co : Int) (dm : Bytes) (size : Int) :
    (Projection.decoderInit innerOk ch st co dm size ≠ .abort ∧
     (Projection.decoderInit innerOk ch st co dm size = .oob →
       DecArgsOk ch st co ∧ (st + co) * ch * 2 = size ∧ (dm.length : Int) < size) ∧
     (∀ e, Projection.decoderInit innerOk ch st co dm size = .err e → e = .badArg) ∧
     (∀ pd, Projection.decoderInit innerOk ch st co dm size = .ok pd ↔
       DecArgsOk ch st co ∧ (st + co) * ch * 2 = size ∧ size ≤ dm.length ∧ size ≤ 65004 ∧ ch ≤ st + co ∧
       innerOk = true ∧ ∃ cells, Projection.importCells dm ((st + co) * ch).toNat = .ok cells ∧
         pd = { matrix := { rows := ch.toNat, cols := (st + co).toNat, gain := 0, data := cells },
                layout := storedLayout ch st co (List.range ch.toNat) })) ∧
    (Projection.decoderCreate innerOk ch st co dm size ≠ .abort ∧
     (∀ e, Projection.decoderCreate innerOk ch st co dm size = .err e → e = .badArg ∨ e = .allocFail) ∧
     (∀ pd, Projection.decoderInit innerOk ch st co dm size = .ok pd →
       Projection.decoderCreate innerOk ch st co dm size = .ok pd) ∧
     (∀ pd, Projection.decoderCreate innerOk ch st co dm size = .ok pd →
       Projection.decoderInit innerOk ch st co dm size = .ok pd)) :=
  ⟨Projection.decoderInit_outcomes innerOk ch st co dm size, Projection.decoderCreate_outcomes innerOk ch st co dm size⟩

/-- zero channels / zero coded channels with a matching size of 0 are plain `OPUS_BAD_ARG`: the argument
    check precedes the scratch array `buf[nb_input_streams*channels]`, which therefore never has length 0 -/
example : Projection.decoderInit true 0 1 0 [] 0 = .err .badArg ∧ Projection.decoderInit true 1 1 (-1) [] 0 = .err .badArg ∧
    Projection.decoderCreate true 1 1 0 [0, 64] 2 = .ok ⟨⟨1, 1, 0, [16384]⟩, ⟨1, 1, 0, [0]⟩⟩ := by decide

example : Projection.exportCell (-23170) = (0x7E, 0xA5) ∧ Projection.importCell 0x7E 0xA5 = -23170 ∧
    Projection.decoderCreate true 4 2 2 [0, 64] 32 = .oob ∧
    Projection.decoderCreate true 4 2 2 [0, 64] 30 = .err .badArg := by decide

/-- **`isqrt32` is the integer square root** on its whole domain (every `1 ≤ n < 2³²`):
    `r² ≤ n < (r+1)²`. -/
theorem isqrt32_correct (n : Nat) (h1 : 1 ≤ n) (h2 : n < 2 ^ 32) :
    isqrt32 n * isqrt32 n ≤ n ∧ n < (isqrt32 n + 1) * (isqrt32 n + 1) :=
  Layout.isqrt32_correct n h1 h2

example : isqrt32 227 = 15 ∧ isqrt32 4294967295 = 65535 ∧ isqrt32 4294836225 = 65535 ∧ isqrt32 4294836224 = 65534 := by
  decide +kernel

/-- **Ambisonics (family 2) channels keep their identity.**  For every channel count for which RFC 8486
    defines a family-2 layout (the one `surround_layout_valid` shows the encoder builds): every channel `k`
    is coded (not muted), and the stream side the decoder writes to output channel `k` is the one the
    encoder filled from input channel `k` (C04's `encoderInput`).  Complements C04
    `surround_channel_identity` (families 0/1/255). -/
theorem ambisonics_channel_identity (ch : Nat) (e : Nat × Nat × List Nat) (he : rfcLayout 2 ch = some e)
    (k : Nat) (hk : k < ch) :
    expectedSrc (layoutOf ch e) k ≠ .zero ∧
    DelayChannels.encoderInput (layoutOf ch e) (expectedSrc (layoutOf ch e) k) = (k : Int) := by
  obtain ⟨acn, j, hj, _, hacn, hch, rfl, _⟩ := family2_some (show family2 ch = some e from he)
  refine identity_of_perm ?_ (show ch ≤ 255 by omega) k hk
  rw [layoutOf, chans_of_length (by simp; omega)]
  exact hch ▸ family2_perm acn j

example : rfcLayout 2 6 = some (5, 1, [2, 3, 4, 5, 0, 1]) ∧
    expectedSrc (layoutOf 6 (5, 1, [2, 3, 4, 5, 0, 1])) 4 = .left 0 ∧
    DelayChannels.encoderInput (layoutOf 6 (5, 1, [2, 3, 4, 5, 0, 1])) (.left 0) = 4 := by decide

/-- **Projection (family 3): mixing then demixing is the identity up to the stated gain, channel by
    channel.**  For each built-in order (with / without the non-diegetic pair): the projection decoder
    created from the encoder's exported matrix holds `pd`; the multistream layer between the two matrices
    uses the identity mapping, so decoded channel `c` is exactly coded channel `c` (C04's `encoderInput`,
    no channel muted); and the transfer from input channel `j` to output channel `i` — demixing cells of the
    decoder's own copy times the encoder's mixing cells, Q30 — scaled by the exported gain is within
    `3·10⁻⁴` of `δᵢⱼ`: channels keep their identity and level.  (`demix_inverts_mix` ∘
    `import_export_demix` ∘ identity layout.) -/
theorem projection_mix_demix_identity (o ch : Nat)
    (hoc : (o, ch) ∈ [(2, 6), (2, 4), (3, 11), (3, 9), (4, 18), (4, 16), (5, 27), (5, 25), (6, 38), (6, 36)]) :
    ∃ d mx bytes pd, demixing o = some d ∧ mixing o = some mx ∧ exportDemixing d ch ch = .ok bytes ∧
      Projection.decoderCreate true ch ((ch + 1) / 2 : Nat) (ch / 2 : Nat) bytes (2 * ch * ch : Nat) = .ok pd ∧
      (∀ c, c < ch → DelayChannels.encoderInput pd.layout (expectedSrc pd.layout c) = (c : Int) ∧
        expectedSrc pd.layout c ≠ .zero) ∧
      ∀ i j, i < ch → j < ch →
        |(entry (productCols pd.matrix mx ch ch) i j : ℝ) * (10 : ℝ) ^ (((d.gain : Int) : ℝ) / 5120) -
            (if i = j then (2 : ℝ) ^ 30 else 0)| ≤ 3 / 10000 * (2 : ℝ) ^ 30 := by
  obtain ⟨d, mx, bytes, pd, hd, hmx, hex, _, hcr, _, _, _, hlay, hprod⟩ := import_export_demix.2 o ch hoc
  have hch : ch ≤ 255 := by
    simp only [List.mem_cons, Prod.mk.injEq, List.not_mem_nil, or_false] at hoc; omega
  refine ⟨d, mx, bytes, pd, hd, hmx, hex, hcr, fun c hc => ?_, fun i j hi hj => ?_⟩
  · rw [hlay]; exact (identity_mapping_identity ch _ _ c hch hc).symm
  · rw [hprod]
    have hg : demixGain o = d.gain := by simp [demixGain, hd]
    rw [← hg]
    exact demix_inverts_mix o ch hoc i j hi hj

/-- **A multistream packet is one self-delimited packet per stream, the last in standard framing, all of
    equal duration.**  For every byte string, stream count `n ≥ 1` and API rate:
    `opus_multistream_packet_validate` returns `k` samples exactly when the bytes are
    `serialize true p₁ ++ … ++ serialize true p₍ₙ₋₁₎ ++ serialize false pₙ` for RFC-valid packets
    (C06 `Valid`) that all last `k` samples; and on every input it reads only the packet. -/
theorem ms_packet_structure (bs : Bytes) (hb : BytesOk bs) (n fs k : Nat) (hn : 1 ≤ n) (hfs : Rate fs) :
    (msPacketValidate bs n fs = .ok k ↔
      ∃ ps : List Packet, ps.length = n ∧ (∀ p ∈ ps, Valid p) ∧ bs = msSerialize ps ∧
        ∀ p ∈ ps, duration fs p = k) ∧
    (msPacketValidate bs n fs = .ok k → 2 * n - 1 ≤ bs.length) ∧
    msPacketValidate bs n fs ≠ .oob ∧ msPacketValidate bs n fs ≠ .abort := by
  have hnf := validateLoop_nofault fs n true 0 bs
  refine ⟨⟨msPacketValidate_packets hfs hb hn, fun ⟨ps, hlen, hval, hser, hdur⟩ =>
      hser ▸ msPacketValidate_msSerialize hfs hn hlen hval hdur⟩, fun h => ?_, ?_, ?_⟩
  · obtain ⟨ps, rfl, hval, rfl, _⟩ := msPacketValidate_packets hfs hb hn h
    exact msSerialize_length_ge ps (by rintro rfl; cases hn) hval
  · intro h; unfold msPacketValidate at h; rw [h] at hnf; cases hnf
  · intro h; unfold msPacketValidate at h; rw [h] at hnf; cases hnf

example : msPacketValidate ([0xF8, 2, 7, 7] ++ [0xFC, 9]) 2 48000 = .ok 960 ∧
    msPacketValidate ([0xF8, 2, 7, 7] ++ [0xF4, 9]) 2 48000 = .err .invalidPacket := by decide +kernel
example : msSerialize [⟨0xF8, [[7, 7]], false, none⟩, ⟨0xFC, [[9]], false, none⟩] = [0xF8, 2, 7, 7, 0xFC, 9] := by
  decide +kernel

/-- **The multistream encoder emits such packets.**  The stream loop of `opus_multistream_encode_native`
    (per stream: `opus_encode_native` into `tmp_data` with budget `curr_max`, `opus_repacketizer_init` /
    `_cat` / `_out_range_impl` with `self_delimited = (s ≠ nb_streams−1)` and `pad = !vbr` on the last
    stream) for EVERY per-stream encoder behaviour within the contract `EncContract` (C02: a success is a
    valid standard-framing packet of the common `frame_size`, at most `curr_max` bytes; C07: its padding
    carries no extensions) and every stream count, rate, `max_data_bytes`, VBR/CBR setting:
    whenever the call succeeds, the bytes written are `serialize true p₁ ++ … ++ serialize false pₙ` for
    valid packets that all last `frame_size`, they fit `max_data_bytes` (exactly the clamped size in
    CBR), and `opus_multistream_packet_validate` accepts them with that duration; and the unchecked
    return value of `opus_repacketizer_out_range_impl` is never negative (the budget arithmetic of
    `curr_max` always leaves room for the self-delimiting length). -/
theorem ms_encode_packet_structure (n : Nat) (hn : 1 ≤ n) (fs frameSize : Nat) (hfs : Rate fs) (vbr : Bool)
    (bitrate : Option Int) (maxData : Int) (enc : Nat → Int → Res Bytes)
    (hc : MsEncode.EncContract fs frameSize enc) (ht : MsEncode.EncTotal enc) :
    (∀ out, MsEncode.encodeNative n fs frameSize vbr bitrate maxData enc = .ok out →
      ∃ ps : List Packet, ps.length = n ∧ (∀ p ∈ ps, Valid p) ∧ (∀ p ∈ ps, duration fs p = frameSize) ∧
        out = msSerialize ps ∧ (out.length : Int) ≤ maxData ∧
        (vbr = false → (out.length : Int) =
          MsEncode.cbrClamp n (decide (fs / frameSize = 10)) vbr fs frameSize bitrate maxData) ∧
        msPacketValidate out n fs = .ok frameSize) ∧
    MsEncode.encodeNative n fs frameSize vbr bitrate maxData enc ≠ .abort ∧
    MsEncode.encodeNative n fs frameSize vbr bitrate maxData enc ≠ .oob := by
  unfold MsEncode.encodeNative
  simp only
  split
  · exact ⟨fun out h => (by cases h), (by intro h; cases h), (by intro h; cases h)⟩
  · obtain ⟨h1, h2, h3⟩ := MsEncode.loop_spec n fs frameSize (decide (fs / frameSize = 10)) vbr
      (MsEncode.cbrClamp n (decide (fs / frameSize = 10)) vbr fs frameSize bitrate maxData) enc hc ht
      n 0 [] 0 (by omega) (by omega) rfl (fun _ h => by cases h) (fun _ h => by cases h) rfl
    refine ⟨fun out h => ?_, h2, h3⟩
    obtain ⟨ps, hlen, hval, hdur, hser, hle, hcbr⟩ := h1 out h
    exact ⟨ps, hlen, hval, hdur, hser, Int.le_trans hle (MsEncode.cbrClamp_le _ _ _ _ _ _ _), hcbr,
      hser ▸ msPacketValidate_msSerialize hfs hn hlen hval hdur⟩

/-- **…with the single-stream encoder skeleton in every stream.**  `ms_encode_packet_structure` with each
    stream's `opus_encode_native` instantiated by the encoder skeleton of C02/C05
    (`Opus.EncSkel.encodeNative` on an arbitrary per-stream state `sts s`, all at rate `fs`): the
    skeleton's success returns meet `EncContract` — a valid packet of the common `frame_size`
    (`encode_wellformed`), at most `curr_max` bytes (`ret_le_out`), padded with zeros only — so the
    multistream output has the proved structure for ALL inner SILK/CELT/analysis oracle answers `ors`
    within the skeleton's own contracts (`SkelOk`: `(encodeNative …).ok`) and ALL frame payloads `frs` of
    the recorded lengths.  No assumption about the per-stream encoder is left other than those inner
    contracts. -/
theorem ms_encode_packet_structure_skel (n : Nat) (hn : 1 ≤ n) (fs : Nat) (hfs : Rate fs) (fsz : Int)
    (vbr : Bool) (bitrate : Option Int) (maxData : Int)
    (sts : Nat → EncSkel.St) (hfsAll : ∀ s, (sts s).fs = (fs : Int)) (fuzz : Bool)
    (ors : Nat → Int → EncSkel.NatOr) (frs : Nat → Int → List Bytes)
    (hok : MsEncode.SkelOk sts fuzz fsz ors frs) :
    (∀ out, MsEncode.encodeNative n fs fsz.toNat vbr bitrate maxData (MsEncode.skelEnc sts fuzz fsz ors frs) = .ok out →
      ∃ ps : List Packet, ps.length = n ∧ (∀ p ∈ ps, Valid p) ∧ (∀ p ∈ ps, duration fs p = fsz.toNat) ∧
        out = msSerialize ps ∧ (out.length : Int) ≤ maxData ∧
        (vbr = false → (out.length : Int) =
          MsEncode.cbrClamp n (decide (fs / fsz.toNat = 10)) vbr fs fsz.toNat bitrate maxData) ∧
        msPacketValidate out n fs = .ok fsz.toNat) ∧
    MsEncode.encodeNative n fs fsz.toNat vbr bitrate maxData (MsEncode.skelEnc sts fuzz fsz ors frs) ≠ .abort ∧
    MsEncode.encodeNative n fs fsz.toNat vbr bitrate maxData (MsEncode.skelEnc sts fuzz fsz ors frs) ≠ .oob :=
  ms_encode_packet_structure n hn fs fsz.toNat hfs vbr bitrate maxData _
    (MsEncode.skelEnc_contract sts fuzz fsz ors frs fs hfsAll hok) (MsEncode.skelEnc_total sts fuzz fsz ors frs)

/-- `SkelOk` is inhabited — constant per-stream state (48 kHz mono VBR at 500 b/s, where every 20 ms call takes the
    skeleton's low-budget path so that `ok` holds for ALL `curr_max`), the inner oracle a function of
    `curr_max` — and with it the two-stream call succeeds, so the conclusion is not vacuous either -/
example : MsEncode.SkelOk (fun _ => MsEncode.lowSt) false 960 (fun _ cm => MsEncode.lowOr cm)
    (fun _ cm => if cm ≤ 0 then [] else [[]]) := MsEncode.lowSkelOk
example : ∃ out, MsEncode.encodeNative 2 48000 960 true none 100
    (MsEncode.skelEnc (fun _ => MsEncode.lowSt) false 960 (fun _ cm => MsEncode.lowOr cm)
      (fun _ cm => if cm ≤ 0 then [] else [[]])) = .ok out := MsEncode.lowExample_ok

/-- the skeleton really returns multi-frame padded packets inside these hypotheses (the state and oracle of
    C02's example: 64 kb/s CBR, 60 ms, 48 kHz stereo → three CELT frames of 158 bytes, header `FF 43 03`) -/
def exSkelSt : EncSkel.St :=
  { fs := 48000, channels := 2, application := 2049, useVbr := 0, userBitrate := 64000, forceChannels := -1000,
    signalType := -1000, userBandwidth := -1000, maxBandwidth := 1105, userForcedMode := -1000, lfe := 0, useDtx := 0,
    fecConfig := 0, variableDuration := 5000, complexity := 9, lossPerc := 0, useInBandFEC := 0, energyMasking := 0,
    streamChannels := 2, mode := 1002, prevMode := 1002, prevChannels := 2, prevFramesize := 960, bandwidth := 1105,
    autoBandwidth := 1105, silkBwSwitch := 0, first := 0, voiceRatio := -1, detectedBandwidth := 0, nbNoActivity := 0,
    nonfinalFrame := 0, bitrateBps := 64000, toMono := 0, lbrrCoded := 0, allowBwSwitch := 0, inWBmode := 0,
    opusCanSwitch := 0, silkUseDtx := 0 }
def exSkelFr : EncSkel.FrameOr :=
  { aValid := 1, activity := 1, silkBitRateIn := 0, silkRet := 0, nBytes := 0, isr := 0, switchReady := 0, allowBw := 0,
    inWB := 0, tellA := 0, tellB := 0, tellC := 0, tellD := 1, tellE := 1000, stripTo := 0, celtRed1 := 0,
    celtMain := 158, celtRed2 := 0, used1 := 0, used2 := 0 }
def exSkelOr : EncSkel.NatOr :=
  { isSilence := 0, aValid := 1, aBandwidth := 20, vr0 := 10, vr1 := 10, vr2 := 10, modeVoice := 64000, modeMusic := 10000,
    rands := [], frames := [exSkelFr, exSkelFr, exSkelFr] }
example : (EncSkel.encodeNative exSkelSt false 2880 4000 exSkelOr).ok = true ∧
    (EncSkel.encodeNative exSkelSt false 2880 4000 exSkelOr).pkt.hdr = [255, 67, 3] ∧
    (EncSkel.encodeNative exSkelSt false 2880 4000 exSkelOr).pkt.lens = [158, 158, 158] := by
  decide +kernel

/-- the contract is satisfiable: a per-stream encoder that always emits the 20 ms CELT packet `F8 07 07`
    when it has room (the model is executed on such oracles by the `msenc` correspondence suite) -/
example : MsEncode.EncContract 48000 960
      (fun _ cm => if 3 ≤ cm then .ok (serialize false ⟨0xF8, [[7, 7]], false, none⟩) else .err .bufferTooSmall) ∧
    MsEncode.EncTotal (fun _ cm => if 3 ≤ cm then .ok (serialize false ⟨0xF8, [[7, 7]], false, none⟩) else .err .bufferTooSmall) := by
  have hv : Valid ⟨0xF8, [[7, 7]], false, none⟩ :=
    { toc_byte := by decide
      frame_max := by intro f hf; simp only [List.mem_singleton] at hf; subst hf; decide
      code0 := fun _ => ⟨rfl, rfl, rfl⟩
      code1 := fun h => absurd h (by decide)
      code2 := fun h => absurd h (by decide)
      code3 := fun h => absurd h (by decide)
      pad_ok := fun pd h => by cases h }
  constructor
  · intro s cm pk h
    dsimp only at h
    split at h
    · cases h
      exact ⟨_, hv, RepackProofs.count_nil 1 (by decide), rfl, by decide, by simpa [serialize, header, lenFields, Packet.code, Packet.lens, padBytes] using (by assumption : 3 ≤ cm)⟩
    · cases h
  · intro s cm; constructor <;> intro h <;> dsimp only at h <;> split at h <;> cases h

/-- **The int16 output path of the mapping matrices saturates** (the code of `fix:` commit
    a7a5d7f2): whatever the float input and the matrix, every sample `multiply_channel_out_short` leaves
    in an int16 buffer is an int16 value, and the buffer keeps its length. -/
theorem matrix_short_saturates (mx : MappingMatrix) (input : List (Int × Int)) (inputRow inputRows : Nat)
    (output : List Int) (outputRows frameSize : Nat) (out' : List Int)
    (hin : ∀ x ∈ output, InInt16 x)
    (h : multiplyChannelOutShort mx input inputRow inputRows output outputRows frameSize = .ok out') :
    (∀ x ∈ out', InInt16 x) ∧ out'.length = output.length := by
  unfold multiplyChannelOutShort at h
  split at h
  · cases h
  · exact outShortLoop_range mx input inputRow inputRows outputRows frameSize 0 output out' hin h

/-- a saturating row: accumulator 30000 plus 1.0 (→ 32767) through a cell of 32767/32768 would be 62766 and is
    stored as 32767; and the negative side -/
example : multiplyChannelOutShort ⟨1, 1, 0, [32767]⟩ [(1, 0)] 0 1 [30000] 1 1 = .ok [32767] ∧
    multiplyChannelOutShort ⟨2, 1, 0, [-32768, 16384]⟩ [(1, 0)] 0 1 [-30000, 5] 2 1 = .ok [-32768, 16389] := by decide
example : ∀ x ∈ [(30000 : Int)], InInt16 x := by
  intro x hx; simp only [List.mem_singleton] at hx; subst hx; exact ⟨by decide, by decide⟩

/-- **What the 24-bit output path computes** (`mapping_matrix_multiply_channel_out_int24`; the model
    `Projection.outInt24Rows` applies `step24` per cell, and the `mixout24` correspondence suite ties it to
    the code incl. at the int32 limits).  One accumulation `output += (cell·sample + 16384) >> 15` converts
    a 64-bit sum back to `opus_int32` *without* saturation; it is nevertheless the exact integer whenever the
    accumulator has headroom (`|o| ≤ B`, `|sample| ≤ S`, `B + S + 1 ≤ 2³¹−1`); in particular accumulating, from
    a cleared buffer, the contributions of up to 255 input rows of 24-bit samples (`|sample| ≤ 2²³`, i.e.
    decoded floats within ±1.0) through any Q15 cells never wraps and gives exactly `Σ ⌊(c·s + 2¹⁴)/2¹⁵⌋`,
    of magnitude at most `255·(2²³+1)`. -/
theorem matrix_int24_exact :
    (∀ o c s S B : Int, InInt16 c → (-S ≤ s ∧ s ≤ S) → (-B ≤ o ∧ o ≤ B) → B + S + 1 ≤ 2147483647 →
      Projection.step24 o c s = o + (c * s + 16384) / 32768 ∧
      -(B + S + 1) ≤ Projection.step24 o c s ∧ Projection.step24 o c s ≤ B + S + 1) ∧
    (∀ l : List (Int × Int), l.length ≤ 255 → (∀ cs ∈ l, InInt16 cs.1 ∧ -8388608 ≤ cs.2 ∧ cs.2 ≤ 8388608) →
      Projection.acc24 0 l = Projection.sum24 l ∧
      -(255 * 8388609) ≤ Projection.acc24 0 l ∧ Projection.acc24 0 l ≤ 255 * 8388609) := by
  refine ⟨fun o c s S B hc hs ho hr => Projection.step24_exact o c s S B hc hs ho hr, fun l hlen hl => ?_⟩
  have hL : (l.length : Int) * (8388608 + 1) ≤ 255 * 8388609 := by
    have : (l.length : Int) ≤ 255 := by omega
    omega
  have hnn : 0 ≤ (l.length : Int) * (8388608 + 1) := Int.mul_nonneg (by omega) (by omega)
  obtain ⟨h1, h2, h3⟩ := Projection.acc24_exact 8388608 (by omega) l 0 0 hl ⟨by omega, by omega⟩ (by omega)
  exact ⟨by omega, by omega, by omega⟩

/-- without headroom the step wraps (no saturation), and in range it is the Q15 product -/
example : Projection.step24 2147483647 32767 8388608 = -2139095297 ∧ Projection.step24 100 16384 8388608 = 4194404 ∧
    Projection.res2int24 (3, -1) = 12582912 ∧ Projection.res2int24 (1, 9) = -2147483648 := by decide

end OpusProps.C10
