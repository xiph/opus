import OpusProofs.SoftClipBound
import OpusProofs.SoftClipRound
import OpusProofs.GainIndep
import OpusProofs.PcmSpec
import Mathlib.Algebra.Order.Field.Rat
/-
  Property C19 — "Soft clipping and decoder gain post-processing obey their contracts".

  Model:  `Opus.SoftClip` (OpusModel/SoftClip.lean): `opus_pcm_soft_clip` (src/opus.c:36-139) written once,
          generically over the operations it performs on samples (`ClipOps α`: + - * / neg fabs < <= int→float and
          the constants 0 1 2 2.4e-7f), same loops / operation order as the C text; `OPUS_SET_GAIN` and the
          gain multiplication of `opus_decode_frame` (src/opus_decoder.c:654-668, 1087-1096).
  The binary32 instantiation of these very definitions is compared bit for bit with the real function by
  the correspondence suite `softclip`.  Theorems marked "any arithmetic" hold for EVERY `ClipOps` instance
  (so also for the binary32 one); the others are over an arbitrary linearly ordered field `F`
  (exact arithmetic: ℚ, ℝ) with an arbitrary boost constant `eps`.
-/
namespace OpusProps.C19
open Opus Opus.SoftClip

/-- **degenerate_noop** (any arithmetic).  `C < 1`, `N < 1`, a null sample pointer or a null memory
    pointer: the call returns without touching either buffer. -/
theorem degenerate_noop {α : Type} [ClipOps α] (xNull memNull : Bool) (x mem : Array α) (N C : Int)
    (h : C < 1 ∨ N < 1 ∨ xNull = true ∨ memNull = true) :
    softClip xNull memNull x mem N C = .ok (x, mem) := by
  unfold softClip; rw [if_pos h]

example : ((0 : Int) < 1 ∨ (5 : Int) < 1 ∨ false = true ∨ false = true) := Or.inl (by decide)

/-- **channel_independent** (any arithmetic).  On buffers of the declared size (`N·C` samples, `C`
    memories, `N, C ≥ 1`) the call succeeds, and for every channel `c` the samples and the memory it
    leaves for that channel are exactly those of the 1-channel call on the de-interleaved samples of
    channel `c` with that channel's memory: no channel sees another channel's data or state. -/
theorem channel_independent {α : Type} [ClipOps α] (x mem : Array α) (N C : Nat) (hN : 1 ≤ N) (hC : 1 ≤ C)
    (hsz : x.size = N * C) (hm : mem.size = C) :
    ∃ y m', softClip false false x mem (N : Int) (C : Int) = .ok (y, m') ∧ y.size = N * C ∧ m'.size = C ∧
      ∀ c, c < C → softClip false false (chan x C c N) #[mem.getD c ClipOps.zero] (N : Int) 1 =
        .ok (chan y C c N, #[m'.getD c ClipOps.zero]) := by
  obtain ⟨y, m', h1, h2, h3, h4⟩ := softClip_mono x mem N C hN hC hsz hm
  exact ⟨y, m', h1, h2, h3, fun c hc => by rw [softClip_one _ _ N hN (size_chan x C c N), h4 c hc]⟩

example : ∃ (x mem : Array ℚ), x.size = 3 * 2 ∧ mem.size = 2 := ⟨#[1, -2, 3/2, 0, -1/2, 5], #[0, 1/8], rfl, rfl⟩

/-- **passthrough_any_arith** (any arithmetic).  If every sample satisfies the four facts the C code
    tests on an in-range sample (`Pass v`: not `v > 1`, not `v < -1`, `MAX16(-2, MIN16(2, v)) = v`,
    `v*0 >= 0` — true of every non-NaN binary32 with `|v| ≤ 1`, and of every field element with `|v| ≤ 1`)
    and the memory is cleared, output and memory are the input, unchanged. -/
theorem passthrough_any_arith {α : Type} [ClipOps α] (x mem : Array α) (N C : Nat) (hsz : x.size = N * C)
    (hm : mem.size = C) (hmem : ∀ c, c < C → mem.getD c ClipOps.zero = ClipOps.zero)
    (h : ∀ j, j < N * C → Pass (x.getD j ClipOps.zero)) :
    softClip false false x mem (N : Int) (C : Int) = .ok (x, mem) := by
  unfold softClip
  split
  · rfl
  · have hb : ¬ (x.size < N * C ∨ mem.size < C) := by omega
    simp only [Int.toNat_natCast]
    rw [if_neg hb]
    have hs : satLoop x 0 (N * C) = x := satLoop_id x (N * C) (by omega) (fun j hj => (h j (by omega)).2.2.1)
    rw [hs, chanLoop_pass x mem C N 0 hmem]
    intro c j hc hj
    exact h (j * C + c) (idx_lt hc hj)

/-- `Pass` is satisfiable: over ℚ every sample with `|v| ≤ 1` passes (for the binary32 instantiation `Pass v` for
    non-NaN `|v| ≤ 1` is IEEE-754 semantics of `<`, `*0` and `>= 0`; Lean cannot prove it about `Float32`, there the
    pass-through clause rests on the bit-exact tie and on the strict S4 predicate) -/
example : @Pass ℚ (fieldOps 0) (3 / 4) ∧ @Pass ℚ (fieldOps 0) (-1) :=
  ⟨pass_of_abs_le_one 0 _ (by norm_num), pass_of_abs_le_one 0 _ (by norm_num)⟩

/-- **passthrough** (ordered field).  All `|x[j]| ≤ 1` and cleared memory: output = input, memory stays 0. -/
theorem passthrough {F : Type} [Field F] [LinearOrder F] [IsStrictOrderedRing F] (eps : F)
    (x mem : Array F) (N C : Nat) (hsz : x.size = N * C) (hm : mem.size = C)
    (hmem : ∀ c, c < C → mem.getD c 0 = 0) (h : ∀ j, j < N * C → |x.getD j 0| ≤ 1) :
    @softClip F (fieldOps eps) false false x mem (N : Int) (C : Int) = .ok (x, mem) :=
  @passthrough_any_arith F (fieldOps eps) x mem N C hsz hm hmem (fun j hj => pass_of_abs_le_one eps _ (h j hj))

example : ∀ j, j < 2 * 2 → |(#[1, -1, 1/3, 0] : Array ℚ).getD j 0| ≤ 1 := by
  intro j hj
  have : j = 0 ∨ j = 1 ∨ j = 2 ∨ j = 3 := by omega
  rcases this with rfl | rfl | rfl | rfl <;> norm_num

/-- **bounded_sign_preserved** (ordered field; whole call, any channel count).  For every buffer of the
    declared size, every boost constant `0 ≤ eps < 1` (the code's is 2.4e-7) and memories within
    `(1+eps)/4` (zero-initialised memory is; the bound is re-established by every call, so it holds along any
    sequence of frames sharing the memory): the call succeeds, every output sample lies in [-1, 1], no
    sample changes sign (a positive input stays positive, a negative one negative — strict), and the
    memories left behind are again within `(1+eps)/4`.  Covers the ±2 pre-saturation, the continuation of
    the previous frame's curve, every excursion with its boosted coefficient, the start-of-frame ramp
    (`offset = delta*(peak_pos-1-i)`, exactly 0 at the peak) and the loop over excursions. -/
theorem bounded_sign_preserved {F : Type} [Field F] [LinearOrder F] [IsStrictOrderedRing F] (eps : F)
    (he0 : 0 ≤ eps) (he1 : eps < 1) (x mem : Array F) (N C : Nat) (hN : 1 ≤ N) (hC : 1 ≤ C)
    (hsz : x.size = N * C) (hm : mem.size = C) (hmem : ∀ c, c < C → |mem.getD c 0| ≤ (1 + eps) / 4) :
    ∃ y m', @softClip F (fieldOps eps) false false x mem (N : Int) (C : Int) = .ok (y, m') ∧
      y.size = N * C ∧ m'.size = C ∧
      (∀ j, j < N * C → |y.getD j 0| ≤ 1 ∧ (0 < x.getD j 0 → 0 < y.getD j 0) ∧ (x.getD j 0 < 0 → y.getD j 0 < 0)) ∧
      (∀ c, c < C → |m'.getD c 0| ≤ (1 + eps) / 4) := by
  obtain ⟨y, m', h1, h2, h3, h4⟩ := @softClip_mono F (fieldOps eps) x mem N C hN hC hsz hm
  have hch := fun c hc => mono_bound eps he0 he1 N (@chan F (fieldOps eps) x C c N) (mem.getD c 0)
    (@size_chan F (fieldOps eps) x C c N) (hmem c hc) (h4 c hc)
  refine ⟨y, m', h1, h2, h3, fun j hj => ?_, fun c hc => (hch c hc).2.2⟩
  have hc : j % C < C := Nat.mod_lt _ (by omega)
  have hi : j / C < N := Nat.div_lt_of_lt_mul (by rwa [Nat.mul_comm])
  have hidx : j / C * C + j % C = j := by rw [Nat.mul_comm]; exact Nat.div_add_mod j C
  have e : ∀ z : Array F, g (@chan F (fieldOps eps) z C (j % C) N) (j / C) = g z j := fun z =>
    (@getD_chan F (fieldOps eps) z C (j % C) N _ hi).trans (by rw [hidx]; rfl)
  have := (hch _ hc).2.1 (j / C)
  rwa [e y, e x] at this

example : (0 : ℚ) ≤ 1/4194304 ∧ (1/4194304 : ℚ) < 1 ∧ (#[3/2, -3, 1/2, 100, -1/7, 0] : Array ℚ).size = 3 * 2 ∧
    (#[0, 1/8] : Array ℚ).size = 2 ∧ ∀ c, c < 2 → |(#[0, 1/8] : Array ℚ).getD c 0| ≤ (1 + 1/4194304) / 4 := by
  refine ⟨by norm_num, by norm_num, rfl, rfl, fun c hc => ?_⟩
  have : c = 0 ∨ c = 1 := by omega
  rcases this with rfl | rfl <;> norm_num

/-- **bounded** (ordered field).  Every output sample of `opus_pcm_soft_clip` lies in [-1, 1]. -/
theorem bounded {F : Type} [Field F] [LinearOrder F] [IsStrictOrderedRing F] (eps : F)
    (he0 : 0 ≤ eps) (he1 : eps < 1) (x mem : Array F) (N C : Nat) (hN : 1 ≤ N) (hC : 1 ≤ C)
    (hsz : x.size = N * C) (hm : mem.size = C) (hmem : ∀ c, c < C → |mem.getD c 0| ≤ (1 + eps) / 4) :
    ∃ y m', @softClip F (fieldOps eps) false false x mem (N : Int) (C : Int) = .ok (y, m') ∧
      ∀ j, j < N * C → |y.getD j 0| ≤ 1 := by
  obtain ⟨y, m', h1, _, _, h4, _⟩ := bounded_sign_preserved eps he0 he1 x mem N C hN hC hsz hm hmem
  exact ⟨y, m', h1, fun j hj => (h4 j hj).1⟩

/-- **sign_preserved** (ordered field).  No output sample has the opposite sign of its input. -/
theorem sign_preserved {F : Type} [Field F] [LinearOrder F] [IsStrictOrderedRing F] (eps : F)
    (he0 : 0 ≤ eps) (he1 : eps < 1) (x mem : Array F) (N C : Nat) (hN : 1 ≤ N) (hC : 1 ≤ C)
    (hsz : x.size = N * C) (hm : mem.size = C) (hmem : ∀ c, c < C → |mem.getD c 0| ≤ (1 + eps) / 4) :
    ∃ y m', @softClip F (fieldOps eps) false false x mem (N : Int) (C : Int) = .ok (y, m') ∧
      ∀ j, j < N * C → (0 < x.getD j 0 → 0 < y.getD j 0) ∧ (x.getD j 0 < 0 → y.getD j 0 < 0) := by
  obtain ⟨y, m', h1, _, _, h4, _⟩ := bounded_sign_preserved eps he0 he1 x mem N C hN hC hsz hm hmem
  exact ⟨y, m', h1, fun j hj => (h4 j hj).2⟩

/-- **ramp_term_exact** (ordered field).  The start-of-frame ramp adds `delta·(peak-1-j)` to sample `j` and
    clamps to ±1; at the last ramp sample `j = peak-1` the added term is exactly 0, because the term is the product
    `delta*(peak_pos-1-i)` (opus.c:128) and not the outcome of repeated subtraction, which could leave a residue. -/
theorem ramp_term_exact {F : Type} [Field F] [LinearOrder F] [IsStrictOrderedRing F] (eps : F)
    (x : Array F) (delta : F) (i peak : Nat) :
    (∀ j, (@rampLoop F (fieldOps eps) x 1 0 delta i peak).getD j 0 =
      if i ≤ j ∧ j < peak ∧ j < x.size then clamp1 (x.getD j 0 + delta * ((peak - 1 - j : Nat) : F)) else x.getD j 0) ∧
    (1 ≤ peak → i ≤ peak - 1 → peak - 1 < x.size →
      (@rampLoop F (fieldOps eps) x 1 0 delta i peak).getD (peak - 1) 0 = clamp1 (x.getD (peak - 1) 0)) := by
  obtain ⟨_, h⟩ := rampLoop_spec eps x delta i peak
  refine ⟨h, fun h1 h2 h3 => ?_⟩
  have := h (peak - 1)
  rw [if_pos ⟨h2, by omega, h3⟩, Nat.sub_self, Nat.cast_zero, mul_zero, add_zero] at this
  exact this

/-- **bounded_rounded_stdmodel** (the binary32 gap, excursion map).  Standard model of rounded arithmetic:
    each of the six inner operations `p = m*m; a0 = (m-1)/p; e = a0*epsf; a' = a0 + e; t1 = a'*x; t2 = t1*x`
    returns its exact result times `(1+δᵢ)`, `|δᵢ| ≤ u` (`m-1` is exact for `1 < m ≤ 2`; the model is valid when no
    intermediate underflows, which holds for `x ≥ 1`; for `x ≤ 1` the result is ≤ x ≤ 1 anyway because `t2 ≥ 0`).
    If the boost exceeds four units of round-off, `4u ≤ epsf(1-u)(1-3u)`, then for every peak `1 < m ≤ 2` and every
    sample `0 ≤ x ≤ m` the exact difference `x - t2` that the last operation rounds lies in `[0, 1 + (m-1)u]`;
    hence any monotone final rounding that sends `[0, 1+u]` into `[0, 1]` (round-to-nearest-even does: `1+u` is
    the midpoint above 1 and 1 is even) gives a result in `[0, 1]`.  This is the precise content of the source
    comment "slightly boost a by 2^-22 … just enough": with `epsf = 0` the same computation allows `1 + 5(m-1)u`.
    The expression `t2` is linked to the transcription by `bounded_rounded_excursion`.
    NOT covered: a proof that IEEE binary32 operations satisfy the standard model (taken from the literature),
    and the continuation / ramp steps in rounded arithmetic (the ramp is clamped explicitly; the continuation
    feeds the excursion search again); searched on the implementation (S4 incl. the directed `boost` sweep). -/
theorem bounded_rounded_stdmodel {F : Type} [Field F] [LinearOrder F] [IsStrictOrderedRing F]
    (rnd : F → F) (u epsf : F) (hr1 : ∀ y, y ≤ 1 + u → rnd y ≤ 1) (hr0 : ∀ y, 0 ≤ y → 0 ≤ rnd y)
    (m x d1 d2 d3 d4 d5 d6 : F) (hu0 : 0 < u) (hu1 : u ≤ 1 / 16)
    (heps : 4 * u ≤ epsf * (1 - u) * (1 - 3 * u)) (heps0 : 0 ≤ epsf) (heps1 : epsf ≤ 1 / 16)
    (h1 : |d1| ≤ u) (h2 : |d2| ≤ u) (h3 : |d3| ≤ u) (h4 : |d4| ≤ u) (h5 : |d5| ≤ u) (h6 : |d6| ≤ u)
    (hm1 : 1 < m) (hm2 : m ≤ 2) (hx0 : 0 ≤ x) (hxm : x ≤ m) :
    let t2 := ((((m - 1) / (m * m * (1 + d1)) * (1 + d2)) + ((m - 1) / (m * m * (1 + d1)) * (1 + d2)) * epsf * (1 + d4)) *
          (1 + d3) * x * (1 + d5)) * x * (1 + d6)
    0 ≤ x - t2 ∧ x - t2 ≤ 1 + (m - 1) * u ∧ 0 ≤ rnd (x - t2) ∧ rnd (x - t2) ≤ 1 := by
  intro t2
  have lo := rounded_excursion_lower u epsf m x d1 d2 d3 d4 d5 d6 hu1 heps0 heps1 h1 h2 h3 h4 h5 h6 hm1 hm2 hx0 hxm
  have up := rounded_excursion_upper u epsf m x d1 d2 d3 d4 d5 d6 hu0 hu1 heps h1 h2 h3 h4 h5 h6 hm1 hm2 hx0 hxm
  exact ⟨lo, up, hr0 _ lo, rounded_excursion_le_one rnd u hr1 epsf m x d1 d2 d3 d4 d5 d6 hu0 hu1 heps
    (heps1.trans (by norm_num)) h1 h2 h3 h4 h5 h6 hm1 hm2 hx0 hxm⟩

/-- **bounded_rounded_excursion** (link of `bounded_rounded_stdmodel` to the transcription).  Instantiate the
    generic transcription with ROUNDED arithmetic (`roundedOps R epsf`: + - * / return exact·(1+δ), |δ| ≤ u; negation,
    comparisons, constants exact).  For a positive excursion with peak `1 < m ≤ 2` (`m - 1` computed exactly:
    Sterbenz) and a sample `0 ≤ x ≤ m`, what the excursion branch of `opus_pcm_soft_clip` computes,
    `nl (coefA m xi) x`, is `y·(1+δ)` with `0 ≤ y ≤ 1 + (m-1)u` and `|δ| ≤ u`: the pre-rounding value of the last
    addition is inside the enclosure, so a correctly rounded (monotone, `rnd(1+u) ≤ 1`) last addition gives ≤ 1.
    (The negative excursion is the mirror image; not stated separately.) -/
theorem bounded_rounded_excursion {F : Type} [Field F] [LinearOrder F] [IsStrictOrderedRing F] {u : F}
    (R : RoundedArith F u) (epsf m xi x : F) (hu0 : 0 < u) (hu1 : u ≤ 1 / 16)
    (heps : 4 * u ≤ epsf * (1 - u) * (1 - 3 * u)) (heps0 : 0 ≤ epsf) (heps1 : epsf ≤ 1 / 16)
    (hxi : 0 < xi) (hsub : R.rsub m 1 = m - 1) (hm1 : 1 < m) (hm2 : m ≤ 2) (hx0 : 0 ≤ x) (hxm : x ≤ m) :
    ∃ y d : F, |d| ≤ u ∧ 0 ≤ y ∧ y ≤ 1 + (m - 1) * u ∧
      @nl F (roundedOps R epsf) (@coefA F (roundedOps R epsf) m xi) x = y * (1 + d) := by
  obtain ⟨d1, d2, d3, d4, d5, d6, d7, h1, h2, h3, h4, h5, h6, h7, e⟩ := nl_coefA_rounded R epsf m xi x hxi hsub
  exact ⟨_, d7, h7,
    rounded_excursion_lower u epsf m x d1 d2 d3 d4 d5 d6 hu1 heps0 heps1 h1 h2 h3 h4 h5 h6 hm1 hm2 hx0 hxm,
    rounded_excursion_upper u epsf m x d1 d2 d3 d4 d5 d6 hu0 hu1 heps h1 h2 h3 h4 h5 h6 hm1 hm2 hx0 hxm, e⟩

/-- exact arithmetic is a rounded arithmetic (δ = 0): the hypotheses are satisfiable -/
example : ∃ R : RoundedArith ℚ (1 / 2 ^ 24), R.rsub (3 / 2) 1 = 3 / 2 - 1 :=
  ⟨{ radd := (· + ·), rsub := (· - ·), rmul := (· * ·), rdiv := (· / ·),
     add_spec := fun a b => ⟨0, by norm_num, by ring⟩, mul_spec := fun a b => ⟨0, by norm_num, by ring⟩,
     div_spec := fun a b => ⟨0, by norm_num, by ring⟩ }, rfl⟩

/-- the code's constants: u = 2^-24 and `2.4e-7f` = 0x3480D959 = 8444249·2^-45 satisfy the hypotheses
    (the boost is 4.0265 units of round-off; 4 + 16u would already do) -/
example : (0 : ℚ) < 1 / 2 ^ 24 ∧ (1 : ℚ) / 2 ^ 24 ≤ 1 / 16 ∧
    4 * ((1 : ℚ) / 2 ^ 24) ≤ (8444249 / 2 ^ 45) * (1 - 1 / 2 ^ 24) * (1 - 3 * (1 / 2 ^ 24)) ∧
    (0 : ℚ) ≤ 8444249 / 2 ^ 45 ∧ (8444249 : ℚ) / 2 ^ 45 ≤ 1 / 16 := by norm_num

/-- **gain_frame_condition** (decoder skeleton `OpusModel/DecSkel.lean`, C01 — tied to the code by C01's
    correspondence suite, in which the gain pass is the event `G<n>@<ptr>` = `.acc 11`).  `gz r` is the run `r`
    with `decode_gain` set to 0 and the gain-pass events erased from its event log.  For `opus_decode_native` —
    every path: argument checks, concealment, FEC, all frames of a packet, mode transitions, soft clip — two runs
    that differ only in `decode_gain` (and in gain-pass events already logged) give the same return value, the
    same `*packet_offset`, the same final state except `decode_gain`, the same oracle-call counter (hence the
    same list of SILK / CELT / range-decoder calls with the same arguments) and the same event log up to
    gain-pass events: the gain touches nothing but the gain pass. -/
theorem gain_frame_condition (o : DecSkel.Oracle) (data : Option Bytes) (len : Int) (pcm : DecSkel.Ptr)
    (frame_size fec : Int) (sd sc : Bool) (r1 r2 : DecSkel.Run) (h : DecSkel.gz r1 = DecSkel.gz r2) :
    (DecSkel.decodeNative o data len pcm frame_size fec sd sc r1).ret =
      (DecSkel.decodeNative o data len pcm frame_size fec sd sc r2).ret ∧
    (DecSkel.decodeNative o data len pcm frame_size fec sd sc r1).packetOffset =
      (DecSkel.decodeNative o data len pcm frame_size fec sd sc r2).packetOffset ∧
    DecSkel.gz (DecSkel.decodeNative o data len pcm frame_size fec sd sc r1).run =
      DecSkel.gz (DecSkel.decodeNative o data len pcm frame_size fec sd sc r2).run := by
  obtain ⟨a1, a2, a3⟩ := DecSkel.decodeNative_gz o data len pcm frame_size fec sd sc r1
  obtain ⟨b1, b2, b3⟩ := DecSkel.decodeNative_gz o data len pcm frame_size fec sd sc r2
  rw [h] at a1 a2 a3
  exact ⟨a1.symm.trans b1, a2.symm.trans b2, a3.symm.trans b3⟩

/-- two runs that differ only in the gain (here 0 and 5120 = +20 dB) satisfy the hypothesis -/
example (r : DecSkel.Run) :
    DecSkel.gz r = DecSkel.gz (r.setSt { r.st with decode_gain := 5120 }) := rfl

/-- **gain_transition_calls_gain0** (skeleton).  The recursive concealment call for a mode transition is made
    through `DecSkel.gain0Call` (src/opus_decoder.c:375-380 / :517-522): the inner frame runs on the
    caller's run with only `decode_gain` replaced by 0, log and oracle counter are handed through, and the caller
    gets its own gain back; with gain 0 the inner frame's gain pass does nothing (`gain_pass_event`), so the gain is
    applied once, by the outer frame, to the cross-faded signal. -/
theorem gain_transition_calls_gain0 (trans : DecSkel.Ptr → Int → DecSkel.Run → DecSkel.Res') (b : DecSkel.Body)
    (p : DecSkel.Ptr) (n : Int) (r : DecSkel.Run) :
    DecSkel.transCall trans b r =
      DecSkel.bindRun (DecSkel.gain0Call trans (DecSkel.transBuf r.st) (min (DecSkel.F5 r.st) b.audiosize) r)
        (fun _ r' => (.ret (), r')) ∧
    (DecSkel.gain0Call trans p n r).1 = (trans p n (r.setSt { r.st with decode_gain := 0 })).1 ∧
    (DecSkel.gain0Call trans p n r).2.log = (trans p n (r.setSt { r.st with decode_gain := 0 })).2.log ∧
    (DecSkel.gain0Call trans p n r).2.k = (trans p n (r.setSt { r.st with decode_gain := 0 })).2.k ∧
    (DecSkel.gain0Call trans p n r).2.st.decode_gain = r.st.decode_gain :=
  ⟨rfl, DecSkel.gain0Call_inner trans p n r⟩

example : (DecSkel.gain0Call (fun _ n r => (.ret n, r)) ⟨.trans, 0, 240⟩ 120
    ⟨{ Fs := 48000, channels := 1, dc := ⟨1, 0, 48000, 0, 0⟩, decode_gain := 256, stream_channels := 1, bandwidth := 0,
       mode := 0, prev_mode := 0, frame_size := 120, prev_redundancy := 0, last_packet_duration := 0 }, 0, []⟩).2.st.decode_gain = 256 := rfl

/-- **gain_pass_event** (skeleton).  The gain pass of a frame (`stepGain`, the last step before the state
    update) changes neither state nor call counter; with gain 0 it does nothing at all; with a non-zero gain it
    is exactly one pass over `audiosize*channels` samples of the frame's own buffer. -/
theorem gain_pass_event (b : DecSkel.Body) (r : DecSkel.Run) :
    (DecSkel.stepGain b r).st = r.st ∧ (DecSkel.stepGain b r).k = r.k ∧
    (r.st.decode_gain = 0 → DecSkel.stepGain b r = r) ∧
    (r.st.decode_gain ≠ 0 →
      (DecSkel.stepGain b r).log = .acc 11 b.pcm (b.audiosize * r.st.channels) :: r.log) := by
  unfold DecSkel.stepGain
  by_cases h : r.st.decode_gain ≠ 0
  · rw [if_pos h]; exact ⟨rfl, rfl, fun h0 => absurd h0 h, fun _ => rfl⟩
  · rw [if_neg h]; exact ⟨rfl, rfl, fun _ => rfl, fun h1 => absurd h1 h⟩

/-- **integer_output_saturates** ("integer output saturates rather than wraps", gain clause): after the gain the
    16-bit output goes through `FLOAT2INT16`, which never leaves [-32768, 32767] whatever the scaled sample is
    (property C13, `sat16_range`; tied by C13's `pcm-out` / `pcm-f2i16` suites). -/
theorem integer_output_saturates (b : Nat) (hb : b < 2 ^ 32) :
    -32768 ≤ Pcm.float2Int16 b ∧ Pcm.float2Int16 b ≤ 32767 :=
  Pcm.float2Int16_range b

example : Pcm.float2Int16 0x43410000 = 32767 ∧ Pcm.float2Int16 0xC3410000 = -32768 := by decide

/-- **gain_ctl_range**.  `OPUS_SET_GAIN(v)` is accepted exactly for `-32768 ≤ v ≤ 32767` and then stores
    `v`; otherwise it answers `OPUS_BAD_ARG` and the stored gain is unchanged. -/
theorem gain_ctl_range (cur v : Int) :
    ((-32768 ≤ v ∧ v ≤ 32767) → setGain cur v = (.ok 0, v)) ∧
    (¬ (-32768 ≤ v ∧ v ≤ 32767) → setGain cur v = (.err .badArg, cur)) := by
  unfold setGain
  constructor
  · intro h; rw [if_neg (by omega)]
  · intro h; rw [if_pos (by omega)]

example : setGain 7 32767 = (.ok 0, 32767) ∧ setGain 7 32768 = (.err .badArg, 7) := by decide

end OpusProps.C19
