import OpusProofs.OpusFrameHybridRed
import OpusProofs.OpusFrameLockstepExample
import OpusProofs.OpusFrameHybridRedExample2
/-
  Property C08 — frame-level lock step for HYBRID Opus frames WITH the redundancy signalling.

  Encoder model (OpusModel/OpusFrameEnc.lean `hybridFrame`; src/opus_encoder.c opus_encode_frame_native):
    ec_enc_init(data+1, max_data_bytes-1); the SILK payload (`packetOps`); if `ec_tell+17+20 <= 8*(max_data_bytes-1)`
    (`gate`, :2236) `ec_enc_bit_logp(redundancy, 12)` and with redundancy `ec_enc_bit_logp(celt_to_silk, 1)`,
    `ec_enc_uint(redundancy_bytes-2, 256)` (:2240-2258); `ec_enc_shrink(nb_compr_bytes = max_data_bytes-1-redundancy_bytes)`
    (:2276-2292); the CELT encoder's calls on the shared coder, `ec_enc_done`; the 5 ms redundancy frame `R` on a coder of its
    own behind the main part (:2307-2321 `celt_to_silk = 1`, :2383-2413 `celt_to_silk = 0`: the ORDER of the two CELT calls does
    not change the bytes, only the CELT state, so both orders are one model); `rangeFinal = enc.rng ^ redundant_rng` (:2421).
  Decoder model (C03): `decodeOpusFrame` (SILK part, then opus_decoder.c:475-502: the same three symbols when
    `ec_tell+17+20 <= 8*len`, `len -= redundancy_bytes`, `dec.storage -= redundancy_bytes`), `decRangeFinal` (`celtFrame` from
    band 17 on the shared coder, `celtFrame` on `data+len` for the redundancy frame, XOR of the two `rng`).

  Contracts on `ec_tell` positions (C02 `hybrid_redundancy_parse` names the first):
    hgate   `ec_tell_before + 37 <= 8*(ret + redundancy_bytes)` — the decoder's length test sees the WHOLE frame;
            `hybrid_red_gate_cbr` derives it from the encoder's own test when the CELT encoder does not shrink (CBR);
            with VBR (the CELT encoder shrinks the main part) it is a hypothesis;
    hsane   `ec_tell` behind the signalling `<= 8*ret` (else the decoder drops the redundancy, opus_decoder.c:494-499).
-/
namespace OpusProps.C08Hybrid
open Opus Opus.RangeCoder Opus.SilkSyms Opus.SilkSymsEnc Opus.SilkSymsEncProofs Opus.OpusFrameEnc Opus.OpusFrameProofs

/-- The decoder's length test from the encoder's budget test: if the finished main part still has the size
    `S = (max_data_bytes-1) - redundancy_bytes` the frame encoder shrank the coder to (CBR — `celt_encode_with_ec` does not shrink
    further) then `ec_tell+37 <= 8*(max_data_bytes-1)` on the encoder side IS `ec_tell+37 <= 8*len` on the decoder side. -/
theorem hybrid_red_gate_cbr (tellSilk : Int) (maxData S rb : Nat) (hS : S = maxData - 1 - rb) (hrb : rb ≤ maxData - 1)
    (henc : tellSilk + 17 + 20 ≤ 8 * ((maxData - 1 : Nat) : Int)) :
    tellSilk + 17 + 20 ≤ 8 * ((S + rb : Nat) : Int) :=
  Opus.OpusFrameProofs.hybrid_red_gate_cbr tellSilk maxData S rb hS hrb henc

example : (100 : Int) + 17 + 20 ≤ 8 * ((60 + 30 : Nat) : Int) :=
  hybrid_red_gate_cbr 100 91 60 30 (by decide) (by decide) (by decide)

/-- **Hybrid frame WITH redundancy** — for every SILK payload (`pk`), both `celt_to_silk` values, every
    `redundancy_bytes` in 2..257 (`w.bytes.length`), CBR and VBR/shrunk buffers (`celtOps` may contain the CELT encoder's own
    `ec_enc_shrink`; the frame is the final `storage` bytes followed by the redundancy frame).
    Encoder: `hybridFrame … gate=true red=1 c2s celtOps R rr` with the redundancy frame `R = w.bytes`, `rr = fr.fin.rng` produced
    by C17's CELT encoder model on a coder of its own (`OwnCoderFrame`: non-silent, 5 ms `LM = 1`, from band 0).
    Proved, for C03's decoder model applied to the finished frame bytes: it reads back the SILK symbols (`o.evs`), then exactly
    the encoder's `(redundancy = 1, celt_to_silk, redundancy_bytes)`, splits the frame at the same byte (`o.len` = length of
    the main part = the encoder's final `storage`; `dec.storage` reduced to it), hands over to the CELT decoder in lock step
    with the encoder behind the signalling (`rng`, `ec_tell`, error flag), and the redundancy frame decodes as a stand-alone
    CELT frame with the encoder's `redundant_rng` (C17's `celt_frame_roundtrip`).
    `_partial`: the CELT MAIN part is the hypothesis of the last clause (`CeltFrameRT` from the handed-over state ends with the
    encoder's `rng`); with it `decRangeFinal = rangeFinal` (`enc.rng ^ redundant_rng` on both sides).  What is missing to
    discharge it from C17: C17's round trip starts from a decoder initialised on the main part alone; this decoder was
    initialised on main part ++ redundancy frame, may hold up to three look-ahead bytes of the redundancy frame in `val`
    when `storage` is reduced, and keeps those bytes in its buffer behind `storage`.  The concrete frame below shows the
    hypothesis is satisfiable; the tie `rangecoder-hybridred` checks it on every generated real packet.
    Contracts: `hgate` (`ec_tell_before + 37 <= 8*(ret + redundancy_bytes)`, see `hybrid_red_gate_cbr`), `hsane`. -/
theorem opus_frame_lockstep_hybrid_red_partial (buf : List Nat) (maxData bandwidth nCh ms10 spf48 : Nat) (pk : PacketIn)
    (st : SilkSt) (c2s : Nat) (celtOps : List Op) (w : OpusProofs.CeltHdr.World) (ccfg : Opus.CeltSymsEnc.EncCfg)
    (s0 : Opus.CeltSymsEnc.St) (fr : Opus.CeltBandsEnc.EncFrame)
    (hms : ms10 = 100 ∨ ms10 = 200)
    (hs : maxData - 1 ≤ buf.length) (hb : BytesOk buf) (hok : PacketOk (hybridCfg nCh ms10) pk)
    (hc2s : c2s ≤ 1) (hown : OwnCoderFrame w ccfg s0 fr)
    (hcc : ccfg.start = 0 ∧ ccfg.end_ = Opus.CeltSyms.endBandOf bandwidth ∧ ccfg.C = nCh ∧ ccfg.LM = 1)
    (hrb : 2 ≤ w.bytes.length ∧ w.bytes.length ≤ 257)
    (hsuf : LegalRun (encRun (encInit buf (maxData - 1)) (packetOps (hybridCfg nCh ms10) pk ++ redSigOps true true 1 c2s w.bytes.length))
      (Op.shrink (maxData - 1 - w.bytes.length) :: celtOps))
    (hn : (encodeAll buf (maxData - 1) (hybridOps maxData (hybridCfg nCh ms10) pk true 1 c2s w.bytes.length celtOps)).nbitsTotal < 4294967296)
    (herr : (encodeAll buf (maxData - 1) (hybridOps maxData (hybridCfg nCh ms10) pk true 1 c2s w.bytes.length celtOps)).error = 0)
    (hgate : tell (encRun (encInit buf (maxData - 1)) (packetOps (hybridCfg nCh ms10) pk)) + 17 + 20 ≤
        8 * (((encodeAll buf (maxData - 1) (hybridOps maxData (hybridCfg nCh ms10) pk true 1 c2s w.bytes.length celtOps)).storage + w.bytes.length : Nat) : Int))
    (hsane : tell (encRun (encInit buf (maxData - 1)) (packetOps (hybridCfg nCh ms10) pk ++ redSigOps true true 1 c2s w.bytes.length)) ≤
      8 * (((encodeAll buf (maxData - 1) (hybridOps maxData (hybridCfg nCh ms10) pk true 1 c2s w.bytes.length celtOps)).storage : Nat) : Int))
    (hmainpos : 0 < (encodeAll buf (maxData - 1) (hybridOps maxData (hybridCfg nCh ms10) pk true 1 c2s w.bytes.length celtOps)).storage) :
    ∃ o, decodeOpusFrame 1001 bandwidth nCh ms10 false st
        (hybridFrame buf maxData (hybridCfg nCh ms10) pk true 1 c2s celtOps w.bytes fr.fin.rng).payload = .ok o ∧
      o.redundancy = 1 ∧ o.celtToSilk = c2s ∧ o.redundancyBytes = w.bytes.length ∧
      o.len = ((encodeAll buf (maxData - 1) (hybridOps maxData (hybridCfg nCh ms10) pk true 1 c2s w.bytes.length celtOps)).storage : Int) ∧
      o.evs = packetEvs (hybridCfg nCh ms10) pk (fun j =>
        ((encRun (encInit buf (maxData - 1)) (prefixOps (hybridCfg nCh ms10) pk j)).rng,
         tell (encRun (encInit buf (maxData - 1)) (prefixOps (hybridCfg nCh ms10) pk j)))) ∧
      o.dec.error = 0 ∧
      o.dec.rng = (encRun (encInit buf (maxData - 1)) (packetOps (hybridCfg nCh ms10) pk ++ redSigOps true true 1 c2s w.bytes.length)).rng ∧
      tell o.dec = tell (encRun (encInit buf (maxData - 1)) (packetOps (hybridCfg nCh ms10) pk ++ redSigOps true true 1 c2s w.bytes.length)) ∧
      o.dec.storage = (encodeAll buf (maxData - 1) (hybridOps maxData (hybridCfg nCh ms10) pk true 1 c2s w.bytes.length celtOps)).storage ∧
      CeltFrameRT { start := 0, end_ := Opus.CeltSyms.endBandOf bandwidth, C := nCh, LM := 1 } w.bytes.length
        (decInit w.bytes w.bytes.length) fr.fin.rng ∧
      (CeltFrameRT { start := 17, end_ := Opus.CeltSyms.endBandOf bandwidth, C := nCh, LM := Opus.CeltSyms.lmOf spf48 } o.len.toNat o.dec
          (encodeAll buf (maxData - 1) (hybridOps maxData (hybridCfg nCh ms10) pk true 1 c2s w.bytes.length celtOps)).rng →
        decRangeFinal 1001 bandwidth nCh spf48 (hybridFrame buf maxData (hybridCfg nCh ms10) pk true 1 c2s celtOps w.bytes fr.fin.rng).payload o =
          .ok (hybridFrame buf maxData (hybridCfg nCh ms10) pk true 1 c2s celtOps w.bytes fr.fin.rng).rangeFinal) := by
  have hrt := hown.rt
  obtain ⟨h1, h2, h3, h4⟩ := hcc
  rw [h1, h2, h3, h4] at hrt
  have hgr : (true = true ∧ (1 : Nat) ≠ 0) := ⟨rfl, by decide⟩
  obtain ⟨o, ⟨hdec, hred, hcs, hrbytes, hlen, hevs, herr0, hrng, htell, hsto, hfinal⟩, -⟩ := hybrid_frame_lockstep buf maxData bandwidth nCh ms10 spf48 pk st
    true 1 c2s celtOps w.bytes fr.fin.rng hms hs hb hok (by decide) hc2s w.bytes_ok.2 (fun _ => hrb)
    (fun h => absurd hgr h) hsuf hn herr ⟨fun _ => rfl, fun _ => hgate⟩ hsane hmainpos
  rw [if_pos hgr] at hred hcs
  exact ⟨o, hdec, hred, hcs, hrbytes, hlen, hevs, herr0, hrng, htell, hsto, hrt,
    fun hmain => hfinal hmain (fun _ => hrt) (fun h => absurd hgr h)⟩

open Opus.OpusFrameProofs.Example in
/-- An SWB mono 10 ms hybrid frame of 90 bytes (budget 91): WB SILK part, redundancy flag 1, `celt_to_silk = 1`,
    `redundancy_bytes = 30`, `ec_enc_shrink(60)`, CELT bands 17-18 from C17's encoder model on the shared coder (`allHR`), and
    a 30-byte SWB redundancy frame of 105 coder calls from C17's encoder model (`worldR19`, final range 727052288): the
    hypotheses of the theorem that speak of the coder hold (`PacketOk`: `hybOk`; `hmainpos` follows from `storage = 60`; `hs`,
    `hb`: `bufHR` is 90 bytes below 256), and on the finished frame the decoder model answers
    `(1, 1, 30)`, `len = 60`, and the CELT main part from the handed-over state ends with the encoder's `rng` — the hypothesis
    of the last clause.  (All kernel-evaluated in OpusProofs/OpusFrameHybridRedExample*.lean.) -/
example : (∃ fr, OwnCoderFrame worldR19 cfgR19 s0R19 fr ∧ fr.fin.rng = 727052288 ∧ fr.ops.length = 105 ∧ tell fr.fin = 240) ∧
    (cfgR19.start = 0 ∧ cfgR19.end_ = Opus.CeltSyms.endBandOf 1104 ∧ cfgR19.C = 1 ∧ cfgR19.LM = 1) ∧
    worldR19.bytes.length = 30 ∧ PacketOk (hybridCfg 1 100) hybPacket ∧
    (LegalRun (encRun (encInit bufHR (91 - 1)) (packetOps (hybridCfg 1 100) hybPacket ++ redSigOps true true 1 1 30))
      (Op.shrink (91 - 1 - 30) :: allHR) ∧
    (encodeAll bufHR (91 - 1) (hybridOps 91 (hybridCfg 1 100) hybPacket true 1 1 30 allHR)).nbitsTotal < 4294967296 ∧
    (encodeAll bufHR (91 - 1) (hybridOps 91 (hybridCfg 1 100) hybPacket true 1 1 30 allHR)).error = 0 ∧
    (encodeAll bufHR (91 - 1) (hybridOps 91 (hybridCfg 1 100) hybPacket true 1 1 30 allHR)).storage = 60 ∧
    tell (encRun (encInit bufHR (91 - 1)) (packetOps (hybridCfg 1 100) hybPacket)) + 17 + 20 ≤ 8 * ((60 + 30 : Nat) : Int) ∧
    tell (encRun (encInit bufHR (91 - 1)) (packetOps (hybridCfg 1 100) hybPacket ++ redSigOps true true 1 1 30)) ≤ 8 * ((60 : Nat) : Int)) ∧
    (match decodeOpusFrame 1001 1104 1 100 false {}
        (hybridFrame bufHR 91 (hybridCfg 1 100) hybPacket true 1 1 allHR worldR19.bytes 727052288).payload with
     | .ok o =>
       (match Opus.CeltBands.celtFrame { start := 17, end_ := 19, C := 1, LM := 2 } o.len.toNat o.dec with
        | .ok cf => decide (o.redundancy = 1 ∧ o.celtToSilk = 1 ∧ o.redundancyBytes = 30 ∧ o.len = 60 ∧
            cf.fin.c.rng = (encodeAll bufHR (91 - 1) (hybridOps 91 (hybridCfg 1 100) hybPacket true 1 1 30 allHR)).rng)
        | _ => false)
     | _ => false) = true :=
  -- the last clause is `hybRedDec`, but `exact hybRedDec` costs 100 M heartbeats here: this statement and that one carry
  -- different matcher constants for the nested `match`, and the kernel compares them by running the decoder (the single
  -- `match` of `hybNoRedHyps` in the last example of this file does not have that problem); so it is rewritten from `hybRedDec_ok`
  ⟨ownR19, by decide, hybRedLen, hybOk, hybRedHyps, by
    obtain ⟨o, ho, cf, hcf, hq⟩ := hybRedDec_ok
    rw [ho]
    simp only [hcf]
    exact decide_eq_true hq⟩

/-- **Hybrid frame WITH redundancy, CBR — the length contracts proved from the model.**  `opus_frame_lockstep_hybrid_red_partial`
    with `hgate` and `hsane` replaced by what the ENCODER computes: its budget test `ec_tell+17+20 <= 8*(max_data_bytes-1)` (`henc`,
    opus_encoder.c:2236), its bound `redundancy_bytes <= max_redundancy = (max_data_bytes-1)-((ec_tell+8+3+7)>>3)` with `ec_tell` read
    behind the `celt_to_silk` bit (`hmax`, :2246-2256, the `IMIN` not overridden by `IMAX(2, ·)`), and `hcbr`: the finished main part
    has the size `nb_compr_bytes = (max_data_bytes-1)-redundancy_bytes` it was shrunk to (the CELT encoder does not shrink further —
    CBR).  The decoder's `ec_tell+37 <= 8*len` then follows (`hybrid_red_gate_cbr`), and so does `ec_tell <= 8*len` behind the
    signalling: `ec_enc_uint(·,256)` costs at most 8 bits (C08 `tell_contracts`) and `max_redundancy` reserved them
    (`hybrid_red_sane_cbr`).  Still `_partial` for the CELT main part only (last clause, as above). -/
theorem opus_frame_lockstep_hybrid_red_cbr_partial (buf : List Nat) (maxData bandwidth nCh ms10 spf48 : Nat) (pk : PacketIn)
    (st : SilkSt) (c2s : Nat) (celtOps : List Op) (w : OpusProofs.CeltHdr.World) (ccfg : Opus.CeltSymsEnc.EncCfg)
    (s0 : Opus.CeltSymsEnc.St) (fr : Opus.CeltBandsEnc.EncFrame)
    (hms : ms10 = 100 ∨ ms10 = 200)
    (hs : maxData - 1 ≤ buf.length) (hb : BytesOk buf) (hok : PacketOk (hybridCfg nCh ms10) pk)
    (hc2s : c2s ≤ 1) (hown : OwnCoderFrame w ccfg s0 fr)
    (hcc : ccfg.start = 0 ∧ ccfg.end_ = Opus.CeltSyms.endBandOf bandwidth ∧ ccfg.C = nCh ∧ ccfg.LM = 1)
    (hrb : 2 ≤ w.bytes.length ∧ w.bytes.length ≤ 257)
    (hsuf : LegalRun (encRun (encInit buf (maxData - 1)) (packetOps (hybridCfg nCh ms10) pk ++ redSigOps true true 1 c2s w.bytes.length))
      (Op.shrink (maxData - 1 - w.bytes.length) :: celtOps))
    (hn : (encodeAll buf (maxData - 1) (hybridOps maxData (hybridCfg nCh ms10) pk true 1 c2s w.bytes.length celtOps)).nbitsTotal < 4294967296)
    (herr : (encodeAll buf (maxData - 1) (hybridOps maxData (hybridCfg nCh ms10) pk true 1 c2s w.bytes.length celtOps)).error = 0)
    (hcbr : (encodeAll buf (maxData - 1) (hybridOps maxData (hybridCfg nCh ms10) pk true 1 c2s w.bytes.length celtOps)).storage =
      maxData - 1 - w.bytes.length)
    (henc : tell (encRun (encInit buf (maxData - 1)) (packetOps (hybridCfg nCh ms10) pk)) + 17 + 20 ≤ 8 * ((maxData - 1 : Nat) : Int))
    (hmax : (w.bytes.length : Int) ≤ ((maxData - 1 : Nat) : Int) -
      (tell (encRun (encInit buf (maxData - 1)) (packetOps (hybridCfg nCh ms10) pk ++ [Op.bitLogp 1 12, Op.bitLogp c2s 1])) + 8 + 3 + 7) / 8)
    (hmainpos : 0 < (encodeAll buf (maxData - 1) (hybridOps maxData (hybridCfg nCh ms10) pk true 1 c2s w.bytes.length celtOps)).storage) :
    ∃ o, decodeOpusFrame 1001 bandwidth nCh ms10 false st
        (hybridFrame buf maxData (hybridCfg nCh ms10) pk true 1 c2s celtOps w.bytes fr.fin.rng).payload = .ok o ∧
      o.redundancy = 1 ∧ o.celtToSilk = c2s ∧ o.redundancyBytes = w.bytes.length ∧
      o.len = ((maxData - 1 - w.bytes.length : Nat) : Int) ∧
      o.dec.error = 0 ∧
      o.dec.rng = (encRun (encInit buf (maxData - 1)) (packetOps (hybridCfg nCh ms10) pk ++ redSigOps true true 1 c2s w.bytes.length)).rng ∧
      tell o.dec = tell (encRun (encInit buf (maxData - 1)) (packetOps (hybridCfg nCh ms10) pk ++ redSigOps true true 1 c2s w.bytes.length)) ∧
      o.dec.storage = maxData - 1 - w.bytes.length ∧
      (CeltFrameRT { start := 17, end_ := Opus.CeltSyms.endBandOf bandwidth, C := nCh, LM := Opus.CeltSyms.lmOf spf48 } o.len.toNat o.dec
          (encodeAll buf (maxData - 1) (hybridOps maxData (hybridCfg nCh ms10) pk true 1 c2s w.bytes.length celtOps)).rng →
        decRangeFinal 1001 bandwidth nCh spf48 (hybridFrame buf maxData (hybridCfg nCh ms10) pk true 1 c2s celtOps w.bytes fr.fin.rng).payload o =
          .ok (hybridFrame buf maxData (hybridCfg nCh ms10) pk true 1 c2s celtOps w.bytes fr.fin.rng).rangeFinal) := by
  -- `hybridOps … celtOps` unfolds to `packetOps … ++ redSigOps … ++ (Op.shrink … :: celtOps)`
  have hF := encDone_ok hn herr
  obtain ⟨ht, h8⟩ := hybrid_red_uint_cost buf (maxData - 1) (hybridCfg nCh ms10) pk c2s w.bytes.length
    (Op.shrink (maxData - 1 - w.bytes.length) :: celtOps) hs hb hok hrb hF.1 hF.2
  have hrble : w.bytes.length ≤ maxData - 1 := by omega
  have hgate := hybrid_red_gate_cbr _ maxData _ w.bytes.length hcbr hrble henc
  have hsane := hybrid_red_sane_cbr _ _ maxData _ w.bytes.length hcbr (by omega) h8 hmax
  obtain ⟨o, hdec, hred, hcs, hrbytes, hlen, -, herr0, hrng, htell, hsto, -, hfinal⟩ := opus_frame_lockstep_hybrid_red_partial buf maxData bandwidth nCh ms10
    spf48 pk st c2s celtOps w ccfg s0 fr hms hs hb hok hc2s hown hcc hrb hsuf hn herr hgate hsane hmainpos
  rw [hcbr] at hlen hsto
  exact ⟨o, hdec, hred, hcs, hrbytes, hlen, herr0, hrng, htell, hsto, hfinal⟩

open Opus.OpusFrameProofs.Example in
/-- the 90-byte example frame above is CBR: its main part has `91-1-30 = 60` bytes, the encoder's budget test passed and
    `30 <= max_redundancy` (the other hypotheses: the example of `opus_frame_lockstep_hybrid_red_partial`) -/
example : (encodeAll bufHR (91 - 1) (hybridOps 91 (hybridCfg 1 100) hybPacket true 1 1 30 allHR)).storage = 91 - 1 - 30 ∧
    tell (encRun (encInit bufHR (91 - 1)) (packetOps (hybridCfg 1 100) hybPacket)) + 17 + 20 ≤ 8 * ((91 - 1 : Nat) : Int) ∧
    ((30 : Nat) : Int) ≤ ((91 - 1 : Nat) : Int) -
      (tell (encRun (encInit bufHR (91 - 1)) (packetOps (hybridCfg 1 100) hybPacket ++ [Op.bitLogp 1 12, Op.bitLogp 1 1])) + 8 + 3 + 7) / 8 :=
  hybRedCbrHyps

/-- The decoder's sanity test `len*8 >= ec_tell` behind the signalling (opus_decoder.c:494-499) from the encoder's own
    computation `redundancy_bytes <= max_redundancy = (max_data_bytes-1)-((ec_tell+8+3+7)>>3)` (opus_encoder.c:2246-2256; `ec_tell`
    read behind the `celt_to_silk` bit) when `IMAX(2, ·)` does not override it, the `ec_enc_uint(·,256)` costs at most 8 bits
    (`h8`) and the main part keeps the size `(max_data_bytes-1) - redundancy_bytes` (CBR): the contract `hsane`. -/
theorem hybrid_red_sane_cbr (tellC2s tellSig : Int) (maxData S rb : Nat) (hS : S = maxData - 1 - rb) (ht : 0 ≤ tellC2s)
    (h8 : tellSig ≤ tellC2s + 8)
    (hmax : (rb : Int) ≤ ((maxData - 1 : Nat) : Int) - (tellC2s + 8 + 3 + 7) / 8) :
    tellSig ≤ 8 * ((S : Nat) : Int) :=
  Opus.OpusFrameProofs.hybrid_red_sane_cbr tellC2s tellSig maxData S rb hS ht h8 hmax

example : (210 : Int) ≤ 8 * ((60 : Nat) : Int) :=
  hybrid_red_sane_cbr 202 210 91 60 30 (by decide) (by decide) (by decide) (by decide)

open OpusProofs.CeltHdr in
/-- **The main part of a hybrid frame with redundancy decodes on its own, CELT part included** (no `CeltFrameRT` hypothesis:
    `hcelt : HybridCeltG` bundles C17's hypotheses on the encoder run; any signalling `gate / red / c2s`, any `redundancy_bytes = R.length`, CBR and VBR).  The frame `hybridFrame …` is `w.bytes ++ R`
    where `w.bytes` — the first `w.len` = final `storage` bytes, i.e. exactly what the decoder keeps after
    `len -= redundancy_bytes` — is the packet of a C17 `World`: the legal (patch-free) run `hybridP0G ++ fr.ops` that produces the
    same bytes and `rng` as the patched main coder (`patched_equals_true_bits`).  A decoder initialised on those bytes reads
    back `hybridP0G` (SILK flag bits and body, then `ec_dec_bit_logp(12) = red`, `celt_to_silk`, `ec_dec_uint(256) = R.length-2`),
    and C03's `celtFrame` from there returns the encoder's header (`FrameAgree`: header fields, allocation, every coded value of
    the trace) and ends with the encoder's final `rng`; at the hand-over (`w.decAt hybridP0G` = the state after those reads) its `rng`,
    `ec_tell` and `storage` are the values `opus_frame_lockstep_hybrid_red_partial` proves for `o.dec`.  With that theorem (same `rng`, `ec_tell`,
    `storage`, error flag at the hand-over on the WHOLE frame) what remains open for the `_partial` hypothesis is only that the
    two decoder runs — initialised on `w.bytes` resp. on `w.bytes ++ R` with `storage` reduced afterwards — continue alike. -/
theorem hybrid_red_main_part_roundtrip (buf : List Nat) (maxData nCh ms10 : Nat) (pk : PacketIn) (gate : Bool)
    (red c2s : Nat) (R : Bytes) (rr : Nat)
    (ccfg : Opus.CeltSymsEnc.EncCfg) (s0 : Opus.CeltSymsEnc.St) (fr : Opus.CeltBandsEnc.EncFrame)
    (hs : maxData - 1 ≤ buf.length) (hb : BytesOk buf) (hok : PacketOk (hybridCfg nCh ms10) pk)
    (hrb : red ≠ 0 → 2 ≤ R.length ∧ R.length ≤ 257)
    (hsuf : LegalRun (encRun (encInit buf (maxData - 1)) (packetOps (hybridCfg nCh ms10) pk ++ redSigOps true gate red c2s R.length))
      (Op.shrink (maxData - 1 - R.length) :: fr.ops))
    (hn29 : (encodeAll buf (maxData - 1) (hybridOps maxData (hybridCfg nCh ms10) pk gate red c2s R.length fr.ops)).nbitsTotal < 536870912)
    (herr : (encodeAll buf (maxData - 1) (hybridOps maxData (hybridCfg nCh ms10) pk gate red c2s R.length fr.ops)).error = 0)
    (hcelt : HybridCeltG buf maxData (hybridCfg nCh ms10) pk gate red c2s R.length ccfg s0 fr) :
    ∃ (w : World) (dh : Opus.CeltSyms.CeltHdr) (sA : Opus.CeltBands.BSt),
      w.buf = buf ∧ w.size = maxData - 1 ∧
      w.all = hybridP0G maxData (hybridCfg nCh ms10) pk gate red c2s R.length ++ fr.ops ∧
      w.len = (encodeAll buf (maxData - 1) (hybridOps maxData (hybridCfg nCh ms10) pk gate red c2s R.length fr.ops)).storage ∧
      (hybridFrame buf maxData (hybridCfg nCh ms10) pk gate red c2s fr.ops R rr).payload = w.bytes ++ R ∧
      w.bytes.length = w.len ∧
      Reads (decInit w.bytes w.len) (hybridP0G maxData (hybridCfg nCh ms10) pk gate red c2s R.length) ∧
      (w.decAt (hybridP0G maxData (hybridCfg nCh ms10) pk gate red c2s R.length)).rng =
        (encRun (encInit buf (maxData - 1)) (packetOps (hybridCfg nCh ms10) pk ++ redSigOps true gate red c2s R.length)).rng ∧
      tell (w.decAt (hybridP0G maxData (hybridCfg nCh ms10) pk gate red c2s R.length)) =
        tell (encRun (encInit buf (maxData - 1)) (packetOps (hybridCfg nCh ms10) pk ++ redSigOps true gate red c2s R.length)) ∧
      (w.decAt (hybridP0G maxData (hybridCfg nCh ms10) pk gate red c2s R.length)).storage = w.len ∧
      FrameAgree w (hybridP0G maxData (hybridCfg nCh ms10) pk gate red c2s R.length) ccfg fr dh ∧
      Opus.CeltBands.celtFrame (cfgD ccfg) w.len
          (decRun (decInit w.bytes w.len) (hybridP0G maxData (hybridCfg nCh ms10) pk gate red c2s R.length)).2 =
        .ok { hdr := dh, alloc := fr.hdr.alloc, allocSt := sA,
              fin := Opus.CeltBands.afterAlloc (cfgD ccfg) w.len dh fr.hdr.alloc
                { rem := 0, c := w.decAt (hybridP0G maxData (hybridCfg nCh ms10) pk gate red c2s R.length ++ fr.hdr.ops),
                  tr := [], fault := false } } ∧
      (Opus.CeltBands.afterAlloc (cfgD ccfg) w.len dh fr.hdr.alloc
          { rem := 0, c := w.decAt (hybridP0G maxData (hybridCfg nCh ms10) pk gate red c2s R.length ++ fr.hdr.ops),
            tr := [], fault := false }).c.rng =
        (encodeAll buf (maxData - 1) (hybridOps maxData (hybridCfg nCh ms10) pk gate red c2s R.length fr.ops)).rng := by
  obtain ⟨w, dh, sA, h, -⟩ := hybrid_main_part_roundtrip buf maxData nCh ms10 pk gate red c2s R rr ccfg s0 fr hs hb hok hrb hsuf hn29 herr hcelt
  exact ⟨w, dh, sA, h⟩

open Opus.OpusFrameProofs.Example in
/-- the 90-byte example frame (`redundancy = 1`, `celt_to_silk = 1`, `redundancy_bytes = 30`): C17's encoder model started
    behind `hybridP0G` codes 31 calls for bands 17-18; every hypothesis (`HybridCeltG` bundles C17's) holds -/
example : ∃ fr, Opus.CeltBandsEnc.encFrame cfgH s0HG = .ok fr ∧ fr.ops.length = 31 ∧
    LegalRun (encRun (encInit bufHR (91 - 1)) (packetOps (hybridCfg 1 100) hybPacket ++ redSigOps true true 1 1 30))
      (Op.shrink (91 - 1 - 30) :: fr.ops) ∧
    (encodeAll bufHR (91 - 1) (hybridOps 91 (hybridCfg 1 100) hybPacket true 1 1 30 fr.ops)).nbitsTotal < 536870912 ∧
    (encodeAll bufHR (91 - 1) (hybridOps 91 (hybridCfg 1 100) hybPacket true 1 1 30 fr.ops)).error = 0 ∧
    HybridCeltG bufHR 91 (hybridCfg 1 100) hybPacket true 1 1 30 cfgH s0HG fr := caseHybridRedMain

/-- **Hybrid frame with the redundancy flag written as 0**: the encoder's budget test passed and it coded
    `ec_enc_bit_logp(0, 12)` (first clause: that is all of the signalling); the decoder model reads `redundancy = 0`, does NOT
    split (`o.len` and `dec.storage` are the whole frame, `redundancy_bytes = 0`), returns the SILK symbols, and — CELT part by
    C17's round trip with the prefix `hybridP0`, no CELT hypothesis left (`HybridCelt` bundles C17's hypotheses as in
    C08 `opus_frame_lockstep_hybrid_celt`) — ends with the encoder's `rangeFinal`. -/
theorem opus_frame_lockstep_hybrid_nored_flag (buf : List Nat) (maxData bandwidth nCh ms10 spf48 : Nat) (pk : PacketIn)
    (st : SilkSt) (ccfg : Opus.CeltSymsEnc.EncCfg) (s0 : Opus.CeltSymsEnc.St) (fr : Opus.CeltBandsEnc.EncFrame)
    (hms : ms10 = 100 ∨ ms10 = 200)
    (hs : maxData - 1 ≤ buf.length) (hb : BytesOk buf) (hok : PacketOk (hybridCfg nCh ms10) pk)
    (hsuf : LegalRun (encRun (encInit buf (maxData - 1)) (packetOps (hybridCfg nCh ms10) pk ++ redSigOps true true 0 0 0))
      (Op.shrink (maxData - 1 - 0) :: fr.ops))
    (hn29 : (encodeAll buf (maxData - 1) (hybridOps maxData (hybridCfg nCh ms10) pk true 0 0 0 fr.ops)).nbitsTotal < 536870912)
    (herr : (encodeAll buf (maxData - 1) (hybridOps maxData (hybridCfg nCh ms10) pk true 0 0 0 fr.ops)).error = 0)
    (hgate : tell (encRun (encInit buf (maxData - 1)) (packetOps (hybridCfg nCh ms10) pk)) + 17 + 20 ≤
        8 * (((encodeAll buf (maxData - 1) (hybridOps maxData (hybridCfg nCh ms10) pk true 0 0 0 fr.ops)).storage : Nat) : Int))
    (hsane : tell (encRun (encInit buf (maxData - 1)) (packetOps (hybridCfg nCh ms10) pk ++ redSigOps true true 0 0 0)) ≤
      8 * (((encodeAll buf (maxData - 1) (hybridOps maxData (hybridCfg nCh ms10) pk true 0 0 0 fr.ops)).storage : Nat) : Int))
    (hmainpos : 0 < (encodeAll buf (maxData - 1) (hybridOps maxData (hybridCfg nCh ms10) pk true 0 0 0 fr.ops)).storage)
    (hcelt : HybridCelt buf maxData (hybridCfg nCh ms10) pk true ccfg s0 fr)
    (hcc : ccfg.start = 17 ∧ ccfg.end_ = Opus.CeltSyms.endBandOf bandwidth ∧ ccfg.C = nCh ∧ ccfg.LM = Opus.CeltSyms.lmOf spf48) :
    redSigOps true true 0 0 0 = [Op.bitLogp 0 12] ∧
    ∃ o, decodeOpusFrame 1001 bandwidth nCh ms10 false st
        (hybridFrame buf maxData (hybridCfg nCh ms10) pk true 0 0 fr.ops [] 0).payload = .ok o ∧
      o.redundancy = 0 ∧ o.celtToSilk = 0 ∧ o.redundancyBytes = 0 ∧
      o.len = ((encodeAll buf (maxData - 1) (hybridOps maxData (hybridCfg nCh ms10) pk true 0 0 0 fr.ops)).storage : Int) ∧
      o.dec.storage = (encodeAll buf (maxData - 1) (hybridOps maxData (hybridCfg nCh ms10) pk true 0 0 0 fr.ops)).storage ∧
      o.evs = packetEvs (hybridCfg nCh ms10) pk (fun j =>
        ((encRun (encInit buf (maxData - 1)) (prefixOps (hybridCfg nCh ms10) pk j)).rng,
         tell (encRun (encInit buf (maxData - 1)) (prefixOps (hybridCfg nCh ms10) pk j)))) ∧
      decRangeFinal 1001 bandwidth nCh spf48 (hybridFrame buf maxData (hybridCfg nCh ms10) pk true 0 0 fr.ops [] 0).payload o =
        .ok (hybridFrame buf maxData (hybridCfg nCh ms10) pk true 0 0 fr.ops [] 0).rangeFinal := by
  obtain ⟨o, hdec, hred, hevs, hfinal, hcs, hrbytes, hlen, hsto⟩ := opus_frame_lockstep_hybrid_celt_all buf maxData bandwidth nCh ms10 spf48
    pk st true ccfg s0 fr hms hs hb hok hsuf hn29 herr ⟨fun _ => rfl, fun _ => hgate⟩ hmainpos hcelt hcc
  exact ⟨rfl, o, hdec, hred, hcs, hrbytes, hlen, hsto, hevs, hfinal⟩

open Opus.OpusFrameProofs.Example in
/-- C08's 60-byte SWB hybrid example frame (`caseHybrid`: all hypotheses of `opus_frame_lockstep_hybrid_celt` with
    `gate = true`) is a case: the two length contracts hold, and the decoder model on the finished frame answers
    `redundancy = 0`, `redundancy_bytes = 0`, `len = dec.storage = 60`. -/
example : (∃ fr, Opus.CeltBandsEnc.encFrame cfgH s0H = .ok fr ∧ fr.ops.length = 33 ∧
      OpusFrameCase 1104 1 100 480 1001 (hybridFrame bufH 61 (hybridCfg 1 100) hybPacket true 0 0 fr.ops [] 0)) ∧
    (tell (encRun (encInit bufH (61 - 1)) (packetOps (hybridCfg 1 100) hybPacket)) + 17 + 20 ≤ 8 * ((60 : Nat) : Int) ∧
    tell (encRun (encInit bufH (61 - 1)) (packetOps (hybridCfg 1 100) hybPacket ++ redSigOps true true 0 0 0)) ≤ 8 * ((60 : Nat) : Int) ∧
    (encodeAll bufH (61 - 1) (hybridOps 61 (hybridCfg 1 100) hybPacket true 0 0 0 allH)).storage = 60 ∧
    (match decodeOpusFrame 1001 1104 1 100 false {} (hybridFrame bufH 61 (hybridCfg 1 100) hybPacket true 0 0 allH [] 0).payload with
     | .ok o => decide (o.redundancy = 0 ∧ o.redundancyBytes = 0 ∧ o.len = 60 ∧ o.dec.storage = 60)
     | _ => false) = true) :=
  ⟨caseHybrid, hybNoRedHyps⟩

end OpusProps.C08Hybrid
