import OpusModel.SilkPlcCng
import OpusProofs.SilkPlcGlue
import OpusProofs.SilkPlcConceal
import OpusProofs.SilkPlcInv
import OpusProofs.SilkPlcTotal
import Mathlib.Tactic.Linarith
/-
  The Mathlib import is not here for a tactic: `x ^ n` in `conceal_gain_after_n` elaborates through Mathlib's instances
  (`Monoid.npow`); the statement is fixed in that form.

  OpusProps.C09SilkPlc — property theorems of the C09 extension `SilkPlc`: SILK's packet-loss concealment, comfort
  noise and frame glue (silk/PLC.c, silk/CNG.c) as the bit-exact value model OpusModel.SilkPlc{ConcealFix,Conceal,
  Cng,Glue}, tied sample by sample and state member by state member to the real silk_PLC / silk_CNG /
  silk_PLC_glue_frames on live decoder states (harness/c09_silkplc.c, suite `silkplc`).
-/
namespace Opus.SilkPlc

/-- A burst continues: every event is a lost frame with `lossCnt ≥ 1` at a legal decoder configuration
    (the hypothesis of OpusProps.C09SilkPlc.conceal_gain_after_n). -/
def BurstEv : PlcEv → Prop
  | .frame d _ lost => lost = true ∧ DecCfg d ∧ 1 ≤ d.lossCnt
  | .reset => False

end Opus.SilkPlc

namespace OpusProps.C09SilkPlc
open Opus Opus.SilkPlc

/-- The 81-sample frame of the glue counterexample: full-scale first sample, then a ±1000 alternation. -/
def cexFrame : List Int := 32767 :: ((List.replicate 39 [1200, -900]).flatten ++ [3350])

/-- C09 "silk_PLC_glue_frames is the identity when the last frame was not lost": with `lossCnt = 0` and
    `last_frame_lost = 0` the frame and every state member are returned unchanged (PLC.c:444-491). -/
theorem glue_identity_when_not_lost (s : GlueSt) (frame : List Int) (h0 : s.lossCnt = 0) (h1 : s.lastFrameLost = 0) :
    glueFrames s frame = (frame, s) := by
  cases s
  simp_all [glueFrames]

example : glueFrames ⟨0, 0, 77, 3⟩ [5, -7, 32767] = ([5, -7, 32767], ⟨0, 0, 77, 3⟩) := by decide

/-- The fade-in is applied only when the received frame has MORE energy than the concealed one: with `lossCnt = 0`,
    `last_frame_lost ≠ 0` and normalised `energy ≤ conc_energy` (PLC.c:462) the frame is returned unchanged. -/
theorem glue_identity_when_quieter (s : GlueSt) (frame : List Int) (h0 : s.lossCnt = 0)
    (hq : ¬ (glueNormalize s.concEnergy s.concEnergyShift (sumSqrShift frame).1 (sumSqrShift frame).2).2 >
            (glueNormalize s.concEnergy s.concEnergyShift (sumSqrShift frame).1 (sumSqrShift frame).2).1) :
    (glueFrames s frame).1 = frame := by
  unfold glueFrames
  dsimp only
  simp only [h0, ne_eq, not_true_eq_false, ↓reduceIte]
  split
  · rfl
  · rfl

example : ¬ (glueNormalize 900000 0 (sumSqrShift [100, -100, 50]).1 (sumSqrShift [100, -100, 50]).2).2 >
            (glueNormalize 900000 0 (sumSqrShift [100, -100, 50]).1 (sumSqrShift [100, -100, 50]).2).1 := by decide

/-- A lost (concealed) frame passes through silk_PLC_glue_frames unchanged and arms the fade-in; a received
    frame always disarms it (PLC.c:444-448, :491). -/
theorem glue_flags (s : GlueSt) (frame : List Int) :
    (s.lossCnt ≠ 0 → (glueFrames s frame).1 = frame ∧ (glueFrames s frame).2.lastFrameLost = 1) ∧
    (s.lossCnt = 0 → (glueFrames s frame).2.lastFrameLost = 0) :=
  ⟨glue_lost_keeps_frame s frame, glue_received_clears_flag s frame⟩

example : (glueFrames ⟨3, 0, 0, 0⟩ [100, -100]).2.lastFrameLost = 1 := by decide

/-- "every output sample is an int16", glue stage: for every state and every int16 frame, all branches (fade-in
    ramp included) return a frame of the same length whose samples are all in [-32768, 32767]. -/
theorem glue_output_int16 (s : GlueSt) (frame : List Int) (h : ∀ x ∈ frame, I16 x) :
    (glueFrames s frame).1.length = frame.length ∧ ∀ y ∈ (glueFrames s frame).1, I16 y := by
  unfold glueFrames
  dsimp only
  split
  · exact ⟨rfl, h⟩
  · split
    · split
      · exact ⟨glueRamp_length _ _ _, glueRamp_int16 _ _ _ h⟩
      · exact ⟨rfl, h⟩
    · exact ⟨rfl, h⟩

example : ∀ x ∈ cexFrame, I16 x := by unfold I16; decide

/-- silk_PLC_glue_frames never amplifies and never flips a sign WHILE its gain is ≤ 1.0: for every state and int16
    frame for which the start gain `gain_Q16` computed at PLC.c:466-473 is ≤ 1.0 in Q16 (it is always ≥ 0,
    `glue_gain_range`), every output sample lies between 0 and the input sample and the int16 store does not wrap.
    (Without the hypothesis the statement is false for the code: `glue_gain_above_one_counterexample`.) -/
theorem glue_damped_when_gain_le_one (s : GlueSt) (frame : List Int) (h : ∀ x ∈ frame, I16 x)
    (hgain : (glueGain (glueNormalize s.concEnergy s.concEnergyShift (sumSqrShift frame).1 (sumSqrShift frame).2).1
                (glueNormalize s.concEnergy s.concEnergyShift (sumSqrShift frame).1 (sumSqrShift frame).2).2 frame.length).1 ≤ 65536) :
    (glueFrames s frame).1.length = frame.length ∧
    ∀ i, Damped (frame.getD i 0) ((glueFrames s frame).1.getD i 0) :=
  ⟨(glue_damped_of_gain_le_one s frame h hgain).get.1.symm, (glue_damped_of_gain_le_one s frame h hgain).get.2⟩

example : (glueGain (glueNormalize 1000 0 (sumSqrShift [100, -100, 50]).1 (sumSqrShift [100, -100, 50]).2).1
            (glueNormalize 1000 0 (sumSqrShift [100, -100, 50]).1 (sumSqrShift [100, -100, 50]).2).2 3).1 ≤ 65536 := by decide

/-- The fade-in gain ramps UP: `gain_Q16 ≥ 0` always, and whenever it starts at ≤ 1.0 the per-sample increment
    `slope_Q16` (PLC.c:474-476) is ≥ 0, so the applied gains `g, g+slope, …` are non-decreasing until they pass 1.0. -/
theorem glue_gain_range (concE e length : Int) (hl : 0 < length) :
    0 ≤ (glueGain concE e length).1 ∧ (glueGain concE e length).1 ≤ 1044800 ∧
    ((glueGain concE e length).1 ≤ 65536 → 0 ≤ (glueGain concE e length).2.1) :=
  ⟨(glueGain_range concE e length).1, (glueGain_range concE e length).2,
   fun h => glueGain_slope_nonneg concE e length hl ⟨(glueGain_range concE e length).1, h⟩⟩

example : (glueGain 1000 22500 3).1 ≤ 65536 := by decide

/-- Observation beyond the property text (unchanged code): the glue gain CAN exceed 1.0 and then the int16 store of PLC.c:482 wraps — state
    `lossCnt = 0, last_frame_lost = 1, conc_energy = 293162196, conc_energy_shift = 2` and the frame `cexFrame`
    (energy 293162197 at shift 2): gain_Q16 = 65744 > 65536, slope < 0, and the full-scale first sample 32767
    comes out as -32666.  Reproduced on the real silk_PLC_glue_frames (`c09_silkplc glue1 0 1 293162196 2 …`). -/
theorem glue_gain_above_one_counterexample :
    (glueGain 293162196 293162197 81).1 = 65744 ∧ (glueGain 293162196 293162197 81).2.1 < 0 ∧
    (glueFrames ⟨0, 1, 293162196, 2⟩ cexFrame).1.head? = some (-32666) := by decide +kernel


/-! ### silk_PLC (concealment) -/

/-- A live-like decoder state for the non-vacuity examples: 8 kHz, 10 ms (2 sub-frames of 40), order 10, voiced,
    pitch lag 60, taps (0,0,0.7,0,0), previous gains 1.0, second lost frame of a burst. -/
def exDec : Dec :=
  { fsKHz := 8, nbSubfr := 2, frameLength := 80, subfrLength := 40, ltpMemLength := 160, lpcOrder := 10, lossCnt := 1,
    prevSignalType := 2, firstFrameAfterReset := 0, signalType := 2,
    excQ14 := (List.range 320).map (fun i => ((i * 7919 % 2001 : Nat) : Int) * 16 - 16000),
    sLPC := List.replicate 16 0,
    outBuf := (List.range 480).map (fun i => ((i * 104729 % 4001 : Nat) : Int) - 2000),
    plc := { pitchLQ8 := 15360, ltpCoef := [0, 0, 11469, 0, 0], prevLPC := [2000, -1000, 500, -250, 125, -60, 30, -15, 8, -4, 0, 0, 0, 0, 0, 0],
             lastFrameLost := 1, randSeed := 12345, randScale := 3000, concEnergy := 0, concEnergyShift := 0,
             prevLtpScale := 15565, prevGain := [65536, 65536], fsKHz := 8, nbSubfr := 2, subfrLength := 40 } }

def exCtrl : Ctrl := { pitchL := [], gains := [], predCoef1 := [], ltpCoef := [], ltpScale := 0 }

/-- C09 "the concealment excitation gain (rand_scale, harmonic gain) is non-increasing over consecutive lost frames and
    strictly decreasing from the second lost frame", on the full value model of silk_PLC( …, lost = 1 ) — every decoder
    state, every history: when a loss is in progress (`lossCnt ≥ 1`, i.e. from the second lost frame of a burst) the
    stored `randScale_Q14` stays ≥ 0, does not grow and strictly decreases while positive; every harmonic tap
    `LTPCoef_Q14[i]` is mapped by one function `f` that keeps int16, never increases a magnitude and strictly decreases
    every positive tap; `lossCnt` is incremented.  (The attenuation constants are the ones regenerated from PLC.c.) -/
theorem conceal_gain_decreasing (d : Dec) (c : Ctrl) (o : ConcealOut) (h : silkPLC d c true = .ok o)
    (hl : 1 ≤ d.lossCnt) (hn : 0 < d.nbSubfr) (hrs : 0 ≤ d.plc.randScale ∧ d.plc.randScale ≤ 32767) :
    o.dec.lossCnt = d.lossCnt + 1 ∧ 0 ≤ o.dec.plc.randScale ∧ o.dec.plc.randScale ≤ d.plc.randScale ∧
    (0 < d.plc.randScale → o.dec.plc.randScale < d.plc.randScale) ∧
    ∃ f : Int → Int, (∀ b, SilkPlcGains.I16 b → SilkPlcGains.I16 (f b) ∧ SilkPlcGains.mag (f b) ≤ SilkPlcGains.mag b ∧
      (0 < b → f b < b)) ∧ o.dec.plc.ltpCoef = d.plc.ltpCoef.map f := by
  obtain ⟨ig, hg, hc⟩ := silkPLC_gains h
  obtain ⟨⟨f, hf, hmap⟩, a1, a2, a3⟩ := SilkPlcGains.conceal_shrinks d.lossCnt hl
    (decide (d.prevSignalType = Gen.SilkPlcCngConsts.TYPE_VOICED))
    d.nbSubfr hn d.plc.ltpCoef d.plc.randScale d.plc.prevLtpScale ig hrs
  rw [← hg] at hmap a1 a2 a3
  exact ⟨hc, a1, a2, a3, f, hf, hmap⟩

example : (match silkPLC exDec exCtrl true with
    | .ok o => decide (o.dec.plc.randScale < 3000 ∧ 0 < o.dec.plc.randScale ∧ (o.dec.plc.ltpCoef.getD 2 0) < 11469)
    | _ => false) = true := by decide +kernel

/-- "every output sample is an int16", concealment stage: every sample of the frame silk_PLC( …, lost = 1 ) returns is
    in [-32768, 32767] — for every decoder state. -/
theorem conceal_output_int16 (d : Dec) (c : Ctrl) (o : ConcealOut) (h : silkPLC d c true = .ok o) :
    ∀ x ∈ o.frame, -32768 ≤ x ∧ x ≤ 32767 := by
  obtain ⟨o', h1, hf, _⟩ := silkPLC_lost d c o h
  rw [hf]
  exact plcConceal_frame_int16 d _ o' h1

example : (match silkPLC exDec exCtrl true with | .ok o => decide (o.frame.length = 80) | _ => false) = true := by
  decide +kernel

/-- Totality of silk_PLC_conceal (PLC.c:216-430) — PARTIAL: no `celt_assert` fires (`.abort`: idx > 0 :319, the three
    asserts of silk_LPC_analysis_filter, LPC_order ≥ 10 :373) and the model never reports `.oob`, for every state whose
    LPC order is even and in [10, 16], whose `prevLPC_Q12` has 16 entries and whose pitch lag satisfies
    `0 ≤ lag` and `lag + LPC_order + LTP_ORDER/2 < ltp_mem_length`.  Missing: the model reads arrays with a total
    accessor (0 outside), so in-bounds-ness of the individual reads (exc_Q14[rand_ptr+idx], sLTP_Q14[pred_lag_ptr-4..])
    is not part of this statement (it is C18's index model, `OpusProps.C18.plc_conceal_indices_in_bounds`, and the ASan tie that cover it). -/
theorem conceal_total_partial (d : Dec) (p0 : Plc) (ho : 10 ≤ d.lpcOrder ∧ d.lpcOrder ≤ 16 ∧ d.lpcOrder % 2 = 0)
    (hlen : p0.prevLPC.length = 16) (hpq : 0 ≤ lagOf p0.pitchLQ8)
    (hidx : lagOf p0.pitchLQ8 + d.lpcOrder + 2 < d.ltpMemLength) : ∃ o, plcConceal d p0 = .ok o :=
  plcConceal_total d p0 ho hlen hpq hidx

example : 0 ≤ lagOf exDec.plc.pitchLQ8 ∧ lagOf exDec.plc.pitchLQ8 + exDec.lpcOrder + 2 < exDec.ltpMemLength := by decide

/-- Observation beyond the property text (unchanged code), root cause in silk_PLC_update (PLC.c:157-165): the "limit LT coefs" scale
    `scale_Q10 = (11469 << 10) / LTP_Gain_Q14` is truncated to int16 by silk_SMULBB, so for the legal LTP codebook
    entry with tap sum 2/128 (`LTP_Gain_Q14 = 256`) the centre tap becomes -4915 instead of 11469; on the next lost
    frame `rand_scale_Q14` is set up as 16384 + 4915 (then x prevLTP_scale) — a concealment excitation gain ABOVE 1.0
    (20234 / 16384 at sub-frame 0; 16480 is still stored after four sub-frames). -/
theorem ltp_limit_counterexample :
    updLtpCoef 256 = [0, 0, -4915, 0, 0] ∧
    (SilkPlcGains.gainSetup 0 true [0, 0, -4915, 0, 0] 0 15565 0).1 = 20234 ∧
    (SilkPlcGains.conceal 0 true 4 [0, 0, -4915, 0, 0] 0 15565 0).2 = 16480 := by decide +kernel


/-! ### the PLC state invariant, for every history -/

/-- The example decoder state is a legal configuration and its PLC state satisfies the invariant. -/
theorem exDec_ok : DecCfg exDec ∧ PlcInv exDec.plc :=
  ⟨⟨by unfold FsOk; decide, by decide, by decide, by decide, by decide, by decide⟩,
   ⟨rfl, by decide, rfl, by decide, by decide, fun _ => by decide⟩⟩

/-- `PlcInv` (OpusProofs/SilkPlcInv.lean: 5 int16 taps, 16 LPC entries, `randScale_Q14 ∈ [0, 32767]`,
    `prevLTP_scale_Q14 ∈ [0, 2^14]`, and once used at a rate: `2 ms ≤ pitchL_Q8 ≤ 18 ms`, two positive `prevGain_Q16`)
    holds for the zeroed structure and after the rate check / silk_PLC_Reset of silk_PLC (PLC.c:61-70, :84-87) at any
    decoder configuration, where it also makes `sPLC.fs_kHz` the decoder's rate. -/
theorem plc_inv_reset : PlcInv plcZero ∧
    ∀ d : Dec, DecCfg d → PlcInv d.plc → PlcInv (plcRateCheck d) ∧ (plcRateCheck d).fsKHz = d.fsKHz :=
  ⟨plcZero_inv, plcRateCheck_inv⟩

example : DecCfg { exDec with plc := plcZero } := exDec_ok.1.setPlc _

/-- silk_PLC, both branches (silk_PLC_update on a received frame, silk_PLC_conceal on a lost one): for every decoder
    configuration of silk_decoder_set_fs, every state satisfying `PlcInv` (at whatever previous rate) and — on received
    frames — every in-range control structure (`CtrlOk`: lags in [2 ms, 18 ms] when voiced, positive gains,
    LTP_scale ∈ [0, 2^14]; ANY int16 LTP taps, so all codebook entries incl. the one behind `ltp_limit_counterexample`),
    the call never aborts (`.abort` / `.oob`) and `PlcInv` holds afterwards at the decoder's rate. -/
theorem plc_inv_frame (d : Dec) (c : Ctrl) (lost : Bool) (hc : DecCfg d) (hk : lost = false → CtrlOk d c)
    (hi : PlcInv d.plc) : ∃ o, silkPLC d c lost = .ok o ∧ PlcInv o.dec.plc ∧ o.dec.plc.fsKHz = d.fsKHz :=
  silkPLC_inv d c lost hc hk hi

example : DecCfg exDec ∧ PlcInv exDec.plc := exDec_ok

/-- `PlcInv` after EVERY history: starting from the zeroed structure, after any sequence of received frames, lost
    frames and decoder resets — each frame at any legal decoder configuration (the rate may change between frames), the
    rest of the decoder state arbitrary, received frames with in-range controls — no call of silk_PLC aborts and the
    invariant holds. -/
theorem plc_inv_history (evs : List PlcEv) (h : ∀ e ∈ evs, EvOk e) :
    ∃ q, plcRun plcZero evs = some q ∧ PlcInv q :=
  plcRun_inv evs plcZero plcZero_inv h

example : ∀ e ∈ [PlcEv.frame exDec exCtrl true, .reset, .frame exDec exCtrl true], EvOk e := by
  intro e he
  simp only [List.mem_cons, List.mem_nil_iff, or_false] at he
  rcases he with rfl | rfl | rfl
  · exact ⟨exDec_ok.1, fun h => by simp at h⟩
  · trivial
  · exact ⟨exDec_ok.1, fun h => by simp at h⟩

/-- C09 "falls well below the pre-loss level under sustained loss", for the concealment excitation gain: from the second
    lost frame of a burst on (`lossCnt ≥ 1`), after n further lost frames — whatever the rest of the decoder state does —
    `32768^n · randScale_Q14 ≤ 29491^n · (its value before)`, i.e. at most 0.9^n of it (29491 = the larger of the
    regenerated `PLC_RAND_ATTENUATE_V/UV_Q15[1]`); the run never aborts and `PlcInv` holds.  (The per-frame bound uses one
    sub-frame only; the harmonic taps are covered qualitatively by `conceal_gain_decreasing`.) -/
theorem conceal_gain_after_n (evs : List PlcEv) (p : Plc) (hi : PlcInv p) (h : ∀ e ∈ evs, BurstEv e) :
    ∃ q, plcRun p evs = some q ∧ PlcInv q ∧ 0 ≤ q.randScale ∧
      (32768 : Int) ^ evs.length * q.randScale ≤ (29491 : Int) ^ evs.length * p.randScale := by
  induction evs generalizing p with
  | nil => exact ⟨p, rfl, hi, hi.rs.1, by simp⟩
  | cons e rest ih =>
    cases e with
    | reset => exact absurd (h _ List.mem_cons_self) (by simp [BurstEv])
    | frame d c lost =>
      obtain ⟨hlost, hc, hl⟩ := h _ List.mem_cons_self
      subst hlost
      obtain ⟨o, ho, h1, _⟩ := silkPLC_inv { d with plc := p } c true (hc.setPlc p) (fun hf => by simp at hf) hi
      have hn : 0 < d.nbSubfr := by rcases hc.nb with n | n <;> omega
      obtain ⟨_, st⟩ := silkPLC_decay_step { d with plc := p } c o ho hl hn hi.rs
      obtain ⟨q, hq, hqi, hq0, hqd⟩ := ih o.dec.plc h1 (fun e he => h e (List.mem_cons_of_mem _ he))
      refine ⟨q, ?_, hqi, hq0, ?_⟩
      · unfold plcRun; rw [ho]; exact hq
      · -- 32768^(n+1)·q ≤ 32768·29491^n·o ≤ 29491^(n+1)·p
        simp only [List.length_cons, Int.pow_succ]
        have st' : 32768 * o.dec.plc.randScale ≤ 29491 * p.randScale := st
        have a := Int.mul_le_mul_of_nonneg_left st' (show (0 : Int) ≤ 29491 ^ rest.length from Int.pow_nonneg (by decide))
        have b := Int.mul_le_mul_of_nonneg_left hqd (by decide : (0 : Int) ≤ 32768)
        grind

example : ∀ e ∈ [PlcEv.frame exDec exCtrl true, .frame exDec exCtrl true], BurstEv e := by
  intro e he
  simp only [List.mem_cons, List.mem_nil_iff, or_false] at he
  rcases he with rfl | rfl <;> exact ⟨rfl, exDec_ok.1, by decide⟩


/-! ### silk_CNG -/

theorem zipWith_addSat16_int16 : ∀ (a b : List Int), ∀ y ∈ List.zipWith SilkParams.addSat16 a b, -32768 ≤ y ∧ y ≤ 32767
  | [], _ => by simp
  | _ :: _, [] => by simp
  | x :: a, y :: b => by
    intro z hz
    simp only [List.zipWith_cons_cons, List.mem_cons] at hz
    rcases hz with rfl | hz
    · unfold SilkParams.addSat16 SilkParams.wrap16; omega
    · exact zipWith_addSat16_int16 a b z hz

/-- "every output sample is an int16", comfort-noise stage: whenever silk_CNG returns (CNG.c:79-188), every sample of
    the frame it hands back is in [-32768, 32767] (`silk_ADD_SAT16` at :180 when noise is added; the int16 input frame
    is untouched otherwise) — for every CNG state and every decoder state.  (Totality of silk_CNG is not proved.) -/
theorem cng_output_int16 (x : CngIn) (c : Cng) (frame f : List Int) (c' : Cng)
    (h : silkCNG x c frame = .ok (f, c')) (hf : ∀ y ∈ frame, -32768 ≤ y ∧ y ≤ 32767) :
    ∀ y ∈ f, -32768 ≤ y ∧ y ≤ 32767 := by
  unfold silkCNG at h
  dsimp only at h
  split at h
  · split at h
    · injection h with h
      injection h with h1 _
      subst h1
      exact zipWith_addSat16_int16 _ _
    all_goals exact absurd h (by simp)
  · injection h with h
    injection h with h1 _
    subst h1
    exact hf

example : (match silkCNG { fsKHz := 8, nbSubfr := 2, subfrLength := 40, lpcOrder := 10, lossCnt := 0, prevSignalType := 1,
                           prevNLSF := [], excQ14 := [], gains := [], randScale := 0, prevGain1 := 65536 }
                         { excBuf := [], smthNLSF := List.replicate 16 0, synthState := List.replicate 16 7, smthGain := 0,
                           randSeed := 1, fsKHz := 8 } [100, -32768, 32767] with
           | .ok (f, c') => decide (f = [100, -32768, 32767] ∧ c'.synthState.take 10 = List.replicate 10 0)
           | _ => false) = true := by decide +kernel


/-! ### checked reads -/

/-- Per-read index bounds of the LTP synthesis loop of silk_PLC_conceal (PLC.c:331-363), on the CHECKED twin
    `ltpLoopC` (OpusModel.SilkPlcConcealChk: every read of `sLTP_Q14` through `pred_lag_ptr` and of `exc_Q14` through
    `rand_ptr` goes through an accessor that answers `.oob` outside the array): at an internal rate, with five taps,
    `pitchL_Q8` within [2, 18] ms (`PlcInv`), at least `ltp_mem_length` = 20 ms of samples in `sLTP_Q14` and
    `rand_ptr + RAND_BUF_SIZE` inside `exc_Q14`, `.oob` is never taken over any number of sub-frames (the drifting lag stays
    ≤ 18 ms < the buffer filled so far), and the checked loop returns exactly what the unchecked model (the one the tie
    compares) returns.  (The whole-function statement `conceal_total` — energy and re-whitening reads included — is not
    closed; their lemmas `energyRowC_ok`, `firRowsC_ok` are in OpusProofs/SilkPlcTotal.lean.) -/
theorem conceal_ltp_reads_in_bounds (rnd : Array Int) (roff : Int) (sl : Nat) (fs harm rg : Int) (hfs : FsOk fs)
    (hr0 : 0 ≤ roff) (hr1 : roff + 128 ≤ rnd.size) (k : Nat) (s : LtpLoop) (hB : s.B.length = 5)
    (hp : 512 * fs ≤ s.pq8 ∧ s.pq8 ≤ 4608 * fs) (hs : 20 * fs ≤ s.buf.size) :
    ltpLoopC rnd roff sl fs harm rg k s = .ok (ltpLoop rnd roff sl fs harm rg k s) := by
  induction k generalizing s with
  | zero => rfl
  | succ k ih =>
    have hf := hfs.range
    have hlag : 3 ≤ lagOf s.pq8 ∧ lagOf s.pq8 + 2 ≤ 20 * fs := by rw [lagOf_eq]; omega
    unfold ltpLoopC ltpLoop
    rw [ltpSubfrC_ok rnd roff s.B s.rs _ hB hlag.1 hr0 hr1 sl s.buf s.seed (by omega)]
    dsimp only
    exact ih _ (by simp [hB]) (pitchDrift_range fs _ hfs hp) (by dsimp only; rw [ltpSubfr_size]; omega)

example : FsOk 8 ∧ (0 : Int) ≤ 32 ∧ (32 : Int) + 128 ≤ (Array.replicate 320 (0 : Int)).size ∧
    ([0, 0, 11469, 0, 0] : List Int).length = 5 ∧ (512 * 8 ≤ (15360 : Int) ∧ (15360 : Int) ≤ 4608 * 8) ∧
    (20 * 8 : Int) ≤ (Array.replicate 160 (0 : Int)).size := by
  refine ⟨Or.inl rfl, by decide, by simp, rfl, by decide, by simp⟩

end OpusProps.C09SilkPlc
