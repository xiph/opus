import OpusModel.Basic
/-
  OpusModel.Ext — transcription of src/extensions.c (packet extensions in the
  padding area of a code-3 packet).

  Conventions.
  * The padding area is a byte array `d` (`Array Nat`, for O(1) reads in the compiled
    driver; the API functions take `Bytes`); C pointers into it are offsets (`Nat`).
    `last_long` may be NULL: `Option Nat`.  `src_data` is NULL only while
    `src_len = 0` (it is never dereferenced then); it is modelled as an offset.
  * C `opus_int32` lengths (`len`, `curr_len`, …) are `Int`; `-1` results of the
    two skip functions are `none`.
  * A read of a byte that is not inside `d` gives `.oob`; a reachable
    `celt_assert` that fails gives `.abort` (ENABLE_HARDENING build).
  * `opus_extension_iterator_next` is recursive in C (extensions.c:271) and has a
    `for`/`while` nest; here it is split into `repeatPhase` (lines 164-224) and
    `mainLoop` (lines 230-293), both defined by well-founded recursion
    (no fuel).  The loops over `next` (`count`, `parse`, …) terminate by the
    measure `Iter.mu`, shown to decrease in `next_decreases`.
-/
set_option linter.unusedVariables false
namespace Opus.Ext
open Opus

/-- Result of `skip_extension(_payload)`: `none` = `-1`, else
    `(new data offset, remaining len, header_size)`. -/
abbrev Skip := Option (Nat × Int × Nat)

/-- The lacing loop of a long extension with `L=1` (extensions.c:74-81).
    Returns `(data offset after the length bytes, len, bytes, header_size)`. -/
def lacing (d : Array Nat) (p : Nat) (len : Int) (bytes hs : Nat) :
    Res (Option (Nat × Int × Nat × Nat)) :=
  if len < 1 then .ok none
  else match d[p]? with
    | none => .oob
    | some l =>
      if l = 255 then lacing d (p + 1) (len - 256) (bytes + 255) (hs + 1)
      else .ok (some (p + 1, len - (l + 1), bytes + l, hs + 1))
termination_by len.toNat
decreasing_by omega

/-- `skip_extension_payload` (extensions.c:45-90). -/
def skipPayload (d : Array Nat) (p : Nat) (len : Int) (idByte : Nat) (tsl : Int) : Res Skip :=
  let id := idByte / 2
  let l := idByte % 2
  if (id = 0 ∧ l = 1) ∨ id = 2 then .ok (some (p, len, 0))
  else if 0 < id ∧ id < 32 then
    if len < l then .ok none else .ok (some (p + l, len - l, 0))
  else if l = 0 then
    if len < tsl then .ok none else .ok (some (p + (len - tsl).toNat, tsl, 0))
  else
    match lacing d p len 0 0 with
    | .ok none => .ok none
    | .ok (some (p', len', bytes, hs)) =>
      if len' < 0 then .ok none else .ok (some (p' + bytes, len', hs))
    | .err e => .err e
    | .oob => .oob
    | .abort => .abort

/-- `skip_extension` (extensions.c:98-118). -/
def skipExtension (d : Array Nat) (p : Nat) (len : Int) : Res Skip :=
  if len = 0 then .ok (some (p, 0, 0))
  else if len < 1 then .ok none
  else match d[p]? with
    | none => .oob
    | some b =>
      match skipPayload d (p + 1) (len - 1) b 0 with
      | .ok none => .ok none
      | .ok (some (p', len', hs)) => .ok (some (p', len', hs + 1))
      | .err e => .err e
      | .oob => .oob
      | .abort => .abort

theorem lacing_spec (d : Array Nat) (p : Nat) (len : Int) (bytes hs : Nat) :
    ∀ {p' : Nat} {len' : Int} {bytes' hs' : Nat},
    lacing d p len bytes hs = .ok (some (p', len', bytes', hs')) →
    len' < len ∧ (p' : Int) + bytes' + len' = p + bytes + len ∧ hs < hs' ∧
      (p' : Int) - p = (hs' : Int) - hs ∧ bytes ≤ bytes' := by
  fun_induction lacing d p len bytes hs with
  | case1 => intro _ _ _ _ h; simp at h
  | case2 => intro _ _ _ _ h; simp at h
  | case3 p len bytes hs hlt hsome ih => intro _ _ _ _ h; have := ih h; omega
  | case4 p len bytes hs hlt l hsome hne => intro _ _ _ _ h; simp at h; omega

theorem skipPayload_spec {d : Array Nat} {p : Nat} {len : Int} {idByte : Nat} {tsl : Int}
    {p' : Nat} {len' : Int} {hs : Nat}
    (h : skipPayload d p len idByte tsl = .ok (some (p', len', hs))) :
    len' ≤ len ∧ (0 ≤ len → 0 ≤ tsl → 0 ≤ len') ∧ ((p' : Int) + len' = p + len) ∧ p + hs ≤ p' := by
  unfold skipPayload at h
  simp only at h
  split at h
  · simp at h; omega
  · split at h
    · split at h
      · simp at h
      · simp at h; omega
    · split at h
      · split at h
        · simp at h
        · simp at h; omega
      · split at h
        · simp at h
        · rename_i p1 l1 b1 h1 heq
          have := lacing_spec _ _ _ _ _ heq
          split at h
          · simp at h
          · simp at h; omega
        all_goals simp at h

theorem skipExtension_spec {d : Array Nat} {p : Nat} {len : Int}
    {p' : Nat} {len' : Int} {hs : Nat}
    (h : skipExtension d p len = .ok (some (p', len', hs))) :
    0 ≤ len' ∧ (0 < len → len' < len) ∧ ((p' : Int) + len' = p + len) ∧ p + hs ≤ p' := by
  unfold skipExtension at h
  split at h
  · simp at h; omega
  · split at h
    · simp at h
    · split at h
      · simp at h
      · split at h
        · simp at h
        · rename_i heq
          have := skipPayload_spec heq
          simp at h; omega
        all_goals simp at h

/-! ### The iterator -/

/-- `OpusExtensionIterator` (opus_private.h:50-66); pointers are offsets into `data`. -/
structure Iter where
  data : Array Nat
  len : Int
  currData : Nat
  repeatData : Nat
  lastLong : Option Nat
  srcData : Nat
  currLen : Int
  repeatLen : Int
  srcLen : Int
  tsl : Int            -- trailing_short_len
  nbFrames : Nat
  frameMax : Int
  currFrame : Nat
  repeatFrame : Nat
  repeatL : Nat
  deriving Repr, DecidableEq

/-- An extension as reported by the iterator: `off = ext->data - iter->data`. -/
structure ExtRef where
  id : Nat
  frame : Nat
  off : Nat
  len : Int
  deriving Repr, DecidableEq

/-- Return value of `opus_extension_iterator_next`: `1` with an extension, `0`, or
    `OPUS_INVALID_PACKET`. -/
inductive Step where
  | ext (e : ExtRef)
  | done
  | invalid
  deriving Repr, DecidableEq

/-- `opus_extension_iterator_init` (extensions.c:120-133).  Only the first `len`
    bytes of `d` belong to the iterator. -/
def iterInit (d : Bytes) (len : Int) (nbFrames : Int) : Res Iter :=
  if len < 0 then .abort
  else if nbFrames < 0 ∨ nbFrames > 48 then .abort
  else .ok { data := (d.take len.toNat).toArray, len := len, currData := 0, repeatData := 0, lastLong := none,
             srcData := 0, currLen := len, repeatLen := 0, srcLen := 0, tsl := 0,
             nbFrames := nbFrames.toNat, frameMax := nbFrames, currFrame := 0, repeatFrame := 0,
             repeatL := 0 }

/-- `opus_extension_iterator_reset` (extensions.c:137-143). -/
def iterReset (it : Iter) : Iter :=
  { it with repeatData := 0, currData := 0, lastLong := none, currLen := it.len,
            repeatFrame := 0, currFrame := 0, tsl := 0 }

/-- `opus_extension_iterator_set_frame_max` (extensions.c:149-152). -/
def iterSetFrameMax (it : Iter) (frameMax : Int) : Iter := { it with frameMax := frameMax }

/-- Outcome of one pass through the body of `while (iter->src_len > 0)`:
    `cont` = `continue` (next iteration), `ret` = `return` from `next`. -/
inductive RFlow where
  | cont (it : Iter)
  | ret (it : Iter) (s : Step)

/-- Body of `while (iter->src_len > 0)` inside the repeat block
    (extensions.c:168-205); entered with `src_len > 0`. -/
def repeatBody (it : Iter) : Res RFlow :=
  match it.data[it.srcData]? with                                 -- repeat_id_byte = *iter->src_data  :170
  | none => .oob
  | some rb =>
    match skipExtension it.data it.srcData it.srcLen with
    | .ok none => .abort                                          -- celt_assert(iter->src_len >= 0)  :174
    | .ok (some (sp, sl, _)) =>
      let it1 := { it with srcData := sp, srcLen := sl }
      if rb ≤ 3 then .ok (.cont it1)                              -- `continue` :176
      else
        let rb' := if it.repeatL = 0 ∧ it.repeatFrame + 1 ≥ it.nbFrames ∧ some sp = it.lastLong
                   then rb - rb % 2 else rb                       -- repeat_id_byte &= ~1  :183
        match skipPayload it.data it.currData it.currLen rb' it.tsl with
        | .ok none => .ok (.ret { it1 with currLen := -1 } .invalid)
        | .ok (some (cp, cl, hs)) =>
          let it2 := { it1 with currData := cp, currLen := cl }
          if (cp : Int) ≠ it.len - cl then .abort                 -- celt_assert :192
          else if it.frameMax ≤ it.repeatFrame then .ok (.cont it2)   -- `continue` :197
          else .ok (.ret it2 (.ext { id := rb' / 2, frame := it.repeatFrame,
                                     off := it.currData + hs,
                                     len := (cp : Int) - it.currData - hs }))
        | .err e => .err e
        | .oob => .oob
        | .abort => .abort
    | .err e => .err e
    | .oob => .oob
    | .abort => .abort

/-- The ID byte under which a repeated payload is skipped: that of its source, with `L` cleared for the last long
    extension of the last frame (extensions.c:181-184). -/
def repIdByte (it : Iter) (rb sp : Nat) : Nat :=
  if it.repeatL = 0 ∧ it.repeatFrame + 1 ≥ it.nbFrames ∧ some sp = it.lastLong then rb - rb % 2 else rb

/-- The ways a pass through the body of the repeat loop ends without failing.  `rb` is the ID byte at `src_data`,
    `(sp, sl)` where `skip_extension` left the source side; beyond `rb ≤ 3` (nothing to repeat), `(cp, cl, hs)` is
    what `skip_extension_payload` returned on the packet side, with the `celt_assert` behind it (extensions.c:192). -/
inductive RepStep (it : Iter) : RFlow → Prop
  | skip {rb sp sl hs0} : it.data[it.srcData]? = some rb →
      skipExtension it.data it.srcData it.srcLen = .ok (some (sp, sl, hs0)) → rb ≤ 3 →
      RepStep it (.cont { it with srcData := sp, srcLen := sl })
  | invalid {rb sp sl hs0} : it.data[it.srcData]? = some rb →
      skipExtension it.data it.srcData it.srcLen = .ok (some (sp, sl, hs0)) → ¬ rb ≤ 3 →
      skipPayload it.data it.currData it.currLen (repIdByte it rb sp) it.tsl = .ok none →
      RepStep it (.ret { it with srcData := sp, srcLen := sl, currLen := -1 } .invalid)
  | beyond {rb sp sl hs0 cp cl hs} : it.data[it.srcData]? = some rb →
      skipExtension it.data it.srcData it.srcLen = .ok (some (sp, sl, hs0)) → ¬ rb ≤ 3 →
      skipPayload it.data it.currData it.currLen (repIdByte it rb sp) it.tsl = .ok (some (cp, cl, hs)) →
      (cp : Int) = it.len - cl → it.frameMax ≤ it.repeatFrame →
      RepStep it (.cont { it with srcData := sp, srcLen := sl, currData := cp, currLen := cl })
  | ext {rb sp sl hs0 cp cl hs} : it.data[it.srcData]? = some rb →
      skipExtension it.data it.srcData it.srcLen = .ok (some (sp, sl, hs0)) → ¬ rb ≤ 3 →
      skipPayload it.data it.currData it.currLen (repIdByte it rb sp) it.tsl = .ok (some (cp, cl, hs)) →
      (cp : Int) = it.len - cl → ¬ it.frameMax ≤ it.repeatFrame →
      RepStep it (.ret { it with srcData := sp, srcLen := sl, currData := cp, currLen := cl }
        (.ext { id := repIdByte it rb sp / 2, frame := it.repeatFrame, off := it.currData + hs,
                len := (cp : Int) - it.currData - hs }))

theorem repeatBody_ok {it : Iter} {r : RFlow} (h : repeatBody it = .ok r) : RepStep it r := by
  unfold repeatBody at h
  cases hrb : it.data[it.srcData]? with
  | none => rw [hrb] at h; cases h
  | some rb =>
    cases hsk : skipExtension it.data it.srcData it.srcLen with
    | ok o =>
      rw [hrb, hsk] at h
      cases o with
      | none => cases h
      | some q =>
        obtain ⟨sp, sl, hs0⟩ := q
        dsimp only at h
        by_cases h3 : rb ≤ 3
        · rw [if_pos h3] at h; cases h; exact .skip hrb hsk h3
        · rw [if_neg h3] at h
          change (match skipPayload it.data it.currData it.currLen (repIdByte it rb sp) it.tsl with
            | .ok none => _ | .ok (some (cp, cl, hs)) => _ | .err e => _ | .oob => _ | .abort => _) = _ at h
          cases hsp : skipPayload it.data it.currData it.currLen (repIdByte it rb sp) it.tsl with
          | ok o =>
            rw [hsp] at h
            cases o with
            | none => cases h; exact .invalid hrb hsk h3 hsp
            | some q =>
              obtain ⟨cp, cl, hs⟩ := q
              dsimp only at h
              by_cases hpos : (cp : Int) = it.len - cl
              · rw [if_neg (not_not_intro hpos)] at h
                by_cases hfm : it.frameMax ≤ it.repeatFrame
                · rw [if_pos hfm] at h; cases h; exact .beyond hrb hsk h3 hsp hpos hfm
                · rw [if_neg hfm] at h; cases h; exact .ext hrb hsk h3 hsp hpos hfm
              · rw [if_pos hpos] at h; cases h
          | err e => rw [hsp] at h; cases h
          | oob => rw [hsp] at h; cases h
          | abort => rw [hsp] at h; cases h
    | err e => rw [hrb, hsk] at h; cases h
    | oob => rw [hrb, hsk] at h; cases h
    | abort => rw [hrb, hsk] at h; cases h

/-- `RepStep` is exact: each of its passes is what `repeatBody` computes. -/
theorem repeatBody_of_step {it : Iter} {r : RFlow} (h : RepStep it r) : repeatBody it = .ok r := by
  unfold repeatBody
  cases h with
  | skip hb hsk h3 => rw [hb, hsk]; dsimp only; rw [if_pos h3]
  | invalid hb hsk h3 hsp =>
    unfold repIdByte at hsp
    rw [hb, hsk]; dsimp only; rw [if_neg h3, hsp]
  | beyond hb hsk h3 hsp hpos hfm =>
    unfold repIdByte at hsp
    rw [hb, hsk]; dsimp only; rw [if_neg h3, hsp]; dsimp only
    rw [if_neg (not_not_intro hpos), if_pos hfm]
  | ext hb hsk h3 hsp hpos hfm =>
    unfold repIdByte at hsp ⊢
    rw [hb, hsk]; dsimp only; rw [if_neg h3, hsp]; dsimp only
    rw [if_neg (not_not_intro hpos), if_neg hfm]

/-- One pass through the body consumes source bytes and never gives back packet bytes. -/
theorem repeatBody_cont {it it1 : Iter} (h : repeatBody it = .ok (.cont it1)) (hs : 0 < it.srcLen) :
    it1.nbFrames = it.nbFrames ∧ it1.repeatFrame = it.repeatFrame ∧
    it1.srcLen.toNat < it.srcLen.toNat ∧ it1.currLen.toNat ≤ it.currLen.toNat := by
  cases repeatBody_ok h with
  | skip _ hsk => have := skipExtension_spec hsk; exact ⟨rfl, rfl, by simp only; omega, Nat.le_refl _⟩
  | beyond _ hsk _ hsp =>
    have := skipExtension_spec hsk; have := skipPayload_spec hsp
    exact ⟨rfl, rfl, by simp only; omega, by simp only; omega⟩

theorem repeatBody_ret {it it1 : Iter} {s : Step} (h : repeatBody it = .ok (.ret it1 s)) (hs : 0 < it.srcLen) :
    it1.nbFrames = it.nbFrames ∧ it1.repeatFrame = it.repeatFrame ∧
    it1.srcLen.toNat < it.srcLen.toNat ∧ it1.currLen.toNat ≤ it.currLen.toNat := by
  cases repeatBody_ok h with
  | invalid _ hsk => have := skipExtension_spec hsk; exact ⟨rfl, rfl, by simp only; omega, by simp only; omega⟩
  | ext _ hsk _ hsp =>
    have := skipExtension_spec hsk; have := skipPayload_spec hsp
    exact ⟨rfl, rfl, by simp only; omega, by simp only; omega⟩

/-- "We finished repeating extensions" (extensions.c:211-223). -/
def repeatEnd (it : Iter) : Iter :=
  let it1 := { it with repeatData := it.currData, lastLong := none }
  let it2 := if it.repeatL = 0 then
      let cf := it.currFrame + 1
      { it1 with currFrame := cf, currLen := if cf ≥ it.nbFrames then 0 else it1.currLen }
    else it1
  { it2 with repeatFrame := 0 }

/-- The "we are in the process of repeating some extensions" block of
    `opus_extension_iterator_next` (extensions.c:164-224), entered with
    `repeat_frame > 0`.  `some step` = the function returned from inside the block,
    `none` = the block ran to its end (`repeat_frame = 0` again). -/
def repeatPhase (it : Iter) : Res (Iter × Option Step) :=
  if it.repeatFrame < it.nbFrames then
    if 0 < it.srcLen then
      match h : repeatBody it with
      | .ok (.cont it1) => repeatPhase it1
      | .ok (.ret it1 s) => .ok (it1, some s)
      | .err e => .err e
      | .oob => .oob
      | .abort => .abort
    else
      -- "We finished repeating the extensions for this frame."  :207-209
      repeatPhase { it with srcData := it.repeatData, srcLen := it.repeatLen,
                            repeatFrame := it.repeatFrame + 1 }
  else .ok (repeatEnd it, none)
termination_by (it.nbFrames - it.repeatFrame, it.srcLen.toNat)
decreasing_by
  · simp_wf
    have := repeatBody_cont h (by assumption)
    rw [this.1, this.2.1]; right; exact this.2.2.1
  · simp_wf; left; omega

theorem repeatEnd_currLen_le (it : Iter) : (repeatEnd it).currLen.toNat ≤ it.currLen.toNat := by
  unfold repeatEnd
  simp only
  split
  · split <;> simp
  · simp

/-- The repeat block never gives back packet bytes; when it reports an extension it has moved on to a later frame
    or consumed source bytes. -/
theorem repeatPhase_spec (it : Iter) : ∀ (it' : Iter) (s : Option Step), repeatPhase it = .ok (it', s) →
    it'.currLen.toNat ≤ it.currLen.toNat ∧ (∀ e, s = some (.ext e) →
      it'.nbFrames = it.nbFrames ∧ it.repeatFrame ≤ it'.repeatFrame ∧ it'.repeatFrame < it'.nbFrames ∧
      (it.repeatFrame < it'.repeatFrame ∨ it'.srcLen.toNat < it.srcLen.toNat)) := by
  fun_induction repeatPhase it with
  | case1 it hrf hsl it1 hb ih =>
    intro it' s h
    have := ih _ _ h
    have := repeatBody_cont hb hsl
    exact ⟨by omega, fun e he => by have := (ih _ _ h).2 e he; omega⟩
  | case2 it hrf hsl it1 s1 hb =>
    intro it' s h
    simp only [Res.ok.injEq, Prod.mk.injEq] at h; obtain ⟨rfl, _⟩ := h
    have := repeatBody_ret hb hsl
    exact ⟨this.2.2.2, fun _ _ => by omega⟩
  | case3 | case4 | case5 => intro _ _ h; simp at h
  | case6 it hrf hsl ih =>
    intro it' s h
    exact ⟨(ih _ _ h).1, fun e he => by have := (ih _ _ h).2 e he; simp at this; omega⟩
  | case7 it hrf =>
    intro it' s h
    simp only [Res.ok.injEq, Prod.mk.injEq] at h; obtain ⟨rfl, rfl⟩ := h
    exact ⟨repeatEnd_currLen_le it, fun e he => by cases he⟩

theorem repeatPhase_currLen_le (it : Iter) (it' : Iter) (s : Option Step) (h : repeatPhase it = .ok (it', s)) :
    it'.currLen.toNat ≤ it.currLen.toNat := (repeatPhase_spec it it' s h).1

/-- Outcome of one pass through the body of `while (iter->curr_len > 0)`:
    `cont` = next iteration, `ret` = `return`, `rep` = the recursive call of line 271 with
    `repeat_frame = curr_frame+1 > 0`. -/
inductive MFlow where
  | cont (it : Iter)
  | ret (it : Iter) (s : Step)
  | rep (it : Iter)

/-- Body of the main `while (iter->curr_len > 0)` loop (extensions.c:231-291);
    entered with `curr_len > 0`. -/
def mainBody (it : Iter) : Res MFlow :=
  match it.data[it.currData]? with
  | none => .oob
  | some b0 =>
    let id := b0 / 2
    let l := b0 % 2
    match skipExtension it.data it.currData it.currLen with
    | .ok none => .ok (.ret { it with currLen := -1 } .invalid)
    | .ok (some (cp, cl, hs)) =>
      let it1 := { it with currData := cp, currLen := cl }
      if (cp : Int) ≠ it.len - cl then .abort                  -- celt_assert :242
      else if id = 1 then
        if l = 1 ∧ it.data[it.currData + 1]? = none then .oob   -- curr_data0[1]
        else
          let inc := if l = 0 then 1 else (it.data[it.currData + 1]?).getD 0
          if inc = 0 then .ok (.cont it1)                       -- `continue` :249
          else
            let cf := it.currFrame + inc
            if it.nbFrames ≤ cf then .ok (.ret { it1 with currFrame := cf, currLen := -1 } .invalid)
            else .ok (.cont { it1 with currFrame := cf,
                                       currLen := if it.frameMax ≤ cf then 0 else cl,
                                       repeatData := cp, lastLong := none, tsl := 0 })
      else if id = 2 then
        .ok (.rep { it1 with repeatL := l, repeatFrame := it.currFrame + 1,
                             repeatLen := (it.currData : Int) - it.repeatData,
                             srcData := it.repeatData,
                             srcLen := (it.currData : Int) - it.repeatData })
      else if 2 < id then
        let it2 := if 32 ≤ id then { it1 with lastLong := some cp, tsl := 0 }
                   else { it1 with tsl := it.tsl + l }
        .ok (.ret it2 (.ext { id := id, frame := it.currFrame, off := it.currData + hs,
                              len := (cp : Int) - it.currData - hs }))
      else .ok (.cont it1)
    | .err e => .err e
    | .oob => .oob
    | .abort => .abort

/-- `skip_extension` stepped from `curr_data`, where the ID byte `b0` stands, to `cp` with `cl` bytes left and
    `hs` header bytes, and the `celt_assert` behind it (extensions.c:242) holds. -/
structure Skipped (it : Iter) (b0 cp : Nat) (cl : Int) (hs : Nat) : Prop where
  byte : it.data[it.currData]? = some b0
  skip : skipExtension it.data it.currData it.currLen = .ok (some (cp, cl, hs))
  pos : (cp : Int) = it.len - cl

/-- `inc` is the frame increment of the separator with ID byte `b0` at `curr_data`: 1, or (`L = 1`) the byte behind
    the ID byte, which is read whether or not it is inside the buffer (extensions.c:246). -/
def SepInc (it : Iter) (b0 inc : Nat) : Prop :=
  ¬ (b0 % 2 = 1 ∧ it.data[it.currData + 1]? = none) ∧
  inc = if b0 % 2 = 0 then 1 else (it.data[it.currData + 1]?).getD 0

/-- The ways a pass through the main body ends without failing, by what stands at `curr_data`: nothing that
    `skip_extension` accepts; padding or a separator with increment 0; a separator that leaves the packet's frames;
    a separator; "repeat these extensions"; a long extension; a short one. -/
inductive MainStep (it : Iter) : MFlow → Prop
  | invalid {b0} : it.data[it.currData]? = some b0 → skipExtension it.data it.currData it.currLen = .ok none →
      MainStep it (.ret { it with currLen := -1 } .invalid)
  | skip {b0 cp cl hs} : Skipped it b0 cp cl hs → b0 / 2 = 0 ∨ b0 / 2 = 1 ∧ SepInc it b0 0 →
      MainStep it (.cont { it with currData := cp, currLen := cl })
  | sepBad {b0 cp cl hs} (inc : Nat) : Skipped it b0 cp cl hs → b0 / 2 = 1 → SepInc it b0 inc → inc ≠ 0 →
      it.nbFrames ≤ it.currFrame + inc →
      MainStep it (.ret { it with currData := cp, currFrame := it.currFrame + inc, currLen := -1 } .invalid)
  | sep {b0 cp cl hs} (inc : Nat) : Skipped it b0 cp cl hs → b0 / 2 = 1 → SepInc it b0 inc → inc ≠ 0 →
      it.currFrame + inc < it.nbFrames →
      MainStep it (.cont { it with currData := cp, currFrame := it.currFrame + inc,
                                   currLen := if it.frameMax ≤ ((it.currFrame + inc : Nat) : Int) then 0 else cl,
                                   repeatData := cp, lastLong := none, tsl := 0 })
  | rep {b0 cp cl hs} : Skipped it b0 cp cl hs → b0 / 2 = 2 →
      MainStep it (.rep { it with currData := cp, currLen := cl, repeatL := b0 % 2,
                                  repeatFrame := it.currFrame + 1,
                                  repeatLen := (it.currData : Int) - it.repeatData, srcData := it.repeatData,
                                  srcLen := (it.currData : Int) - it.repeatData })
  | long {b0 cp cl hs} : Skipped it b0 cp cl hs → 32 ≤ b0 / 2 →
      MainStep it (.ret { it with currData := cp, currLen := cl, lastLong := some cp, tsl := 0 }
        (.ext { id := b0 / 2, frame := it.currFrame, off := it.currData + hs,
                len := (cp : Int) - it.currData - hs }))
  | short {b0 cp cl hs} : Skipped it b0 cp cl hs → 2 < b0 / 2 → b0 / 2 < 32 →
      MainStep it (.ret { it with currData := cp, currLen := cl, tsl := it.tsl + (b0 % 2 : Nat) }
        (.ext { id := b0 / 2, frame := it.currFrame, off := it.currData + hs,
                len := (cp : Int) - it.currData - hs }))

theorem mainBody_ok {it : Iter} {r : MFlow} (h : mainBody it = .ok r) : MainStep it r := by
  unfold mainBody at h
  cases hb0 : it.data[it.currData]? with
  | none => rw [hb0] at h; cases h
  | some b0 =>
    cases hsk : skipExtension it.data it.currData it.currLen with
    | ok o =>
      rw [hb0, hsk] at h
      cases o with
      | none => cases h; exact .invalid hb0 hsk
      | some q =>
        obtain ⟨cp, cl, hs⟩ := q
        dsimp only at h
        by_cases hpos : (cp : Int) = it.len - cl
        · have hS : Skipped it b0 cp cl hs := ⟨hb0, hsk, hpos⟩
          rw [if_neg (not_not_intro hpos)] at h
          by_cases hid1 : b0 / 2 = 1
          · rw [if_pos hid1] at h
            by_cases hoob : b0 % 2 = 1 ∧ it.data[it.currData + 1]? = none
            · rw [if_pos hoob] at h; cases h
            · rw [if_neg hoob] at h
              generalize hinc : (if b0 % 2 = 0 then 1 else (it.data[it.currData + 1]?).getD 0) = inc at h
              by_cases hne : inc = 0
              · rw [if_pos hne] at h; cases h; exact .skip hS (.inr ⟨hid1, hoob, (hinc.trans hne).symm⟩)
              · rw [if_neg hne] at h
                by_cases hnf : it.nbFrames ≤ it.currFrame + inc
                · rw [if_pos hnf] at h; cases h; exact .sepBad inc hS hid1 ⟨hoob, hinc.symm⟩ hne hnf
                · rw [if_neg hnf] at h; cases h; exact .sep inc hS hid1 ⟨hoob, hinc.symm⟩ hne (by omega)
          · rw [if_neg hid1] at h
            by_cases hid2 : b0 / 2 = 2
            · rw [if_pos hid2] at h; cases h; exact .rep hS hid2
            · rw [if_neg hid2] at h
              by_cases hid : 2 < b0 / 2
              · rw [if_pos hid] at h
                by_cases h32 : 32 ≤ b0 / 2
                · rw [if_pos h32] at h; cases h; exact .long hS h32
                · rw [if_neg h32] at h; cases h; exact .short hS hid (by omega)
              · rw [if_neg hid] at h; cases h; exact .skip hS (.inl (by omega))
        · rw [if_pos hpos] at h; cases h
    | err e => rw [hb0, hsk] at h; cases h
    | oob => rw [hb0, hsk] at h; cases h
    | abort => rw [hb0, hsk] at h; cases h

/-- `MainStep` is exact: each of its passes is what `mainBody` computes. -/
theorem mainBody_of_step {it : Iter} {r : MFlow} (h : MainStep it r) : mainBody it = .ok r := by
  unfold mainBody
  cases h with
  | invalid hb hsk => rw [hb, hsk]
  | skip hS hg =>
    rw [hS.byte, hS.skip]; dsimp only; rw [if_neg (not_not_intro hS.pos)]
    rcases hg with h0 | ⟨h1, hoob, hinc⟩
    · rw [if_neg (by omega), if_neg (by omega), if_neg (by omega)]
    · rw [if_pos h1, if_neg hoob, ← hinc, if_pos rfl]
  | sepBad inc hS h1 hi hne hnf =>
    rw [hS.byte, hS.skip]; dsimp only
    rw [if_neg (not_not_intro hS.pos), if_pos h1, if_neg hi.1, ← hi.2, if_neg hne, if_pos hnf]
  | sep inc hS h1 hi hne hlt =>
    rw [hS.byte, hS.skip]; dsimp only
    rw [if_neg (not_not_intro hS.pos), if_pos h1, if_neg hi.1, ← hi.2, if_neg hne, if_neg (by omega)]
  | rep hS hid =>
    rw [hS.byte, hS.skip]; dsimp only; rw [if_neg (not_not_intro hS.pos), if_neg (by omega), if_pos hid]
  | long hS h32 =>
    rw [hS.byte, hS.skip]; dsimp only
    rw [if_neg (not_not_intro hS.pos), if_neg (by omega), if_neg (by omega), if_pos (by omega), if_pos h32]
  | short hS hid h32 =>
    rw [hS.byte, hS.skip]; dsimp only
    rw [if_neg (not_not_intro hS.pos), if_neg (by omega), if_neg (by omega), if_pos hid, if_neg (by omega)]

/-- Every pass through the main body that does not fail consumes at least one packet byte. -/
theorem mainBody_dec {it : Iter} (hl : 0 < it.currLen) :
    (∀ it1, mainBody it = .ok (.cont it1) → it1.currLen.toNat < it.currLen.toNat) ∧
    (∀ it1, mainBody it = .ok (.rep it1) → it1.currLen.toNat < it.currLen.toNat) ∧
    (∀ it1 e, mainBody it = .ok (.ret it1 (.ext e)) → it1.currLen.toNat < it.currLen.toNat) := by
  have hlt : ∀ {b0 cp cl hs}, Skipped it b0 cp cl hs → cl.toNat < it.currLen.toNat := fun hS => by
    have := skipExtension_spec hS.skip; omega
  refine ⟨fun it1 h => ?_, fun it1 h => ?_, fun it1 e h => ?_⟩
  · cases mainBody_ok h with
    | skip hS => exact hlt hS
    | sep inc hS => have := hlt hS; simp only; split <;> omega
  · cases mainBody_ok h with
    | rep hS => exact hlt hS
  · cases mainBody_ok h with
    | long hS => exact hlt hS
    | short hS => exact hlt hS

/-- The main `while (iter->curr_len > 0)` loop of `opus_extension_iterator_next`
    (extensions.c:230-293).  The recursive call at line 271 (`id == 2`) is unfolded:
    it cannot take the `curr_len < 0` exit, enters the repeat block
    (`repeat_frame = curr_frame+1 > 0`), then re-tests `frame_max` (line 227). -/
def mainLoop (it : Iter) : Res (Iter × Step) :=
  if 0 < it.currLen then
    match h : mainBody it with
    | .ok (.cont it1) => mainLoop it1
    | .ok (.ret it1 s) => .ok (it1, s)
    | .ok (.rep it2) =>
      match hrp : repeatPhase it2 with
      | .ok (it3, some s) => .ok (it3, s)
      | .ok (it3, none) =>
        if it3.frameMax ≤ it3.currFrame then .ok (it3, .done) else mainLoop it3
      | .err e => .err e
      | .oob => .oob
      | .abort => .abort
    | .err e => .err e
    | .oob => .oob
    | .abort => .abort
  else .ok (it, .done)
termination_by it.currLen.toNat
decreasing_by
  · exact (mainBody_dec (by assumption)).1 _ h
  · have h1 := (mainBody_dec (by assumption)).2.1 _ h
    have h2 := repeatPhase_currLen_le _ _ _ hrp
    omega

/-- `opus_extension_iterator_next` (extensions.c:158-294). -/
def next (it : Iter) : Res (Iter × Step) :=
  if it.currLen < 0 then .ok (it, .invalid)
  else if 0 < it.repeatFrame then
    match repeatPhase it with
    | .ok (it', some s) => .ok (it', s)
    | .ok (it', none) =>
      if it'.frameMax ≤ it'.currFrame then .ok (it', .done) else mainLoop it'
    | .err e => .err e
    | .oob => .oob
    | .abort => .abort
  else if it.frameMax ≤ it.currFrame then .ok (it, .done)
  else mainLoop it

/-! ### Termination measure for loops over `next` -/

/-- Lexicographic measure: remaining bytes, remaining repeat frames, remaining source bytes. -/
def Iter.mu (it : Iter) : Nat × Nat × Nat :=
  (it.currLen.toNat, if 0 < it.repeatFrame then it.nbFrames - it.repeatFrame + 1 else 0, it.srcLen.toNat)

theorem mainLoop_lt (it : Iter) : ∀ (it' : Iter) (e : ExtRef),
    mainLoop it = .ok (it', .ext e) → it'.currLen.toNat < it.currLen.toNat := by
  fun_induction mainLoop it with
  | case1 it hl it1 hb ih =>
    intro it' e h; have := ih _ _ h; have := (mainBody_dec hl).1 _ hb; omega
  | case2 it hl it1 s hb =>
    intro it' e h
    simp only [Res.ok.injEq, Prod.mk.injEq] at h; obtain ⟨rfl, rfl⟩ := h
    exact (mainBody_dec hl).2.2 _ _ hb
  | case3 it hl it2 hb it3 s hrp =>
    intro it' e h
    simp only [Res.ok.injEq, Prod.mk.injEq] at h; obtain ⟨rfl, rfl⟩ := h
    have h1 := (mainBody_dec hl).2.1 _ hb
    have h2 := repeatPhase_currLen_le _ _ _ hrp
    omega
  | case5 it hl it2 hb it3 hrp hfm ih =>
    intro it' e h
    have := ih _ _ h
    have h1 := (mainBody_dec hl).2.1 _ hb
    have h2 := repeatPhase_currLen_le _ _ _ hrp
    omega
  | case4 | case6 | case7 | case8 | case9 | case10 | case11 | case12 => intro _ _ h; simp at h

theorem next_decreases {it it' : Iter} {e : ExtRef} (h : next it = .ok (it', .ext e)) :
    Prod.Lex (· < ·) (Prod.Lex (· < ·) (· < ·)) it'.mu it.mu := by
  unfold next at h
  split at h
  · simp at h
  · split at h
    · rename_i hrf
      split at h
      · rename_i it1 s heq
        simp only [Res.ok.injEq, Prod.mk.injEq] at h
        obtain ⟨rfl, rfl⟩ := h
        obtain ⟨hle, this⟩ := repeatPhase_spec _ _ _ heq
        replace this := this e rfl
        unfold Iter.mu
        by_cases hlt : it1.currLen.toNat < it.currLen.toNat
        · exact Prod.Lex.left _ _ hlt
        · have heq1 : it1.currLen.toNat = it.currLen.toNat := by omega
          rw [heq1]
          apply Prod.Lex.right
          have h1 : 0 < it1.repeatFrame := by omega
          simp only [h1, hrf, if_true]
          by_cases hlt2 : it.repeatFrame < it1.repeatFrame
          · apply Prod.Lex.left; omega
          · have heq2 : it1.repeatFrame = it.repeatFrame := by omega
            rw [heq2, this.1]
            apply Prod.Lex.right; omega
      · rename_i it1 heq
        have h1 := repeatPhase_currLen_le _ _ _ heq
        split at h
        · simp at h
        · have h2 := mainLoop_lt _ _ _ h
          exact Prod.Lex.left _ _ (by simp; omega)
      all_goals simp at h
    · split at h
      · simp at h
      · have h2 := mainLoop_lt _ _ _ h
        exact Prod.Lex.left _ _ (by simp; omega)

/-! ### Loops over the iterator -/

/-- `opus_extension_iterator_find` (extensions.c:296-310). -/
def find (it : Iter) (id : Int) : Res (Iter × Step) :=
  match h : next it with
  | .ok (it', .ext e) => if (e.id : Int) = id then .ok (it', .ext e) else find it' id
  | .ok (it', s) => .ok (it', s)
  | .err e => .err e
  | .oob => .oob
  | .abort => .abort
termination_by it.mu
decreasing_by exact next_decreases h

/-- The `for` loop of `opus_packet_extensions_count` (extensions.c:320). -/
def countLoop (it : Iter) (n : Nat) : Res Nat :=
  match h : next it with
  | .ok (it', .ext _) => countLoop it' (n + 1)
  | .ok (_, _) => .ok n
  | .err e => .err e
  | .oob => .oob
  | .abort => .abort
termination_by it.mu
decreasing_by exact next_decreases h

/-- `opus_packet_extensions_count` (extensions.c:314-322). -/
def count (d : Bytes) (len : Int) (nbFrames : Int) : Res Nat :=
  match iterInit d len nbFrames with
  | .ok it => countLoop it 0
  | .err e => .err e
  | .oob => .oob
  | .abort => .abort

/-- The loop of `opus_packet_extensions_count_ext` (extensions.c:333-335);
    `cnt` is `nb_frame_exts[0..nb_frames)`. -/
def countExtLoop (it : Iter) (n : Nat) (cnt : List Nat) : Res (Nat × List Nat) :=
  match h : next it with
  | .ok (it', .ext e) =>
    match cnt[e.frame]? with
    | none => .oob                                   -- nb_frame_exts[ext.frame]++ outside the array
    | some c => countExtLoop it' (n + 1) (cnt.set e.frame (c + 1))
  | .ok (_, _) => .ok (n, cnt)
  | .err e => .err e
  | .oob => .oob
  | .abort => .abort
termination_by it.mu
decreasing_by exact next_decreases h

/-- `opus_packet_extensions_count_ext` (extensions.c:326-337). -/
def countExt (d : Bytes) (len : Int) (nbFrames : Int) : Res (Nat × List Nat) :=
  match iterInit d len nbFrames with
  | .ok it => countExtLoop it 0 (List.replicate it.nbFrames 0)
  | .err e => .err e
  | .oob => .oob
  | .abort => .abort

/-- The loop of `opus_packet_extensions_parse` (extensions.c:353-361); `cap` is the
    caller's `*nb_extensions`. -/
def parseLoop (it : Iter) (cap : Int) (acc : Array ExtRef) : Res (Array ExtRef) :=
  match h : next it with
  | .ok (it', .ext e) =>
    if (acc.size : Int) = cap then .err .bufferTooSmall else parseLoop it' cap (acc.push e)
  | .ok (_, .done) => .ok acc
  | .ok (_, .invalid) => .err .invalidPacket
  | .err e => .err e
  | .oob => .oob
  | .abort => .abort
termination_by it.mu
decreasing_by exact next_decreases h

/-- `opus_packet_extensions_parse` (extensions.c:344-364) with `extensions != NULL`.
    On success the list has `*nb_extensions` entries, in bitstream order. -/
def parse (d : Bytes) (len : Int) (cap : Int) (nbFrames : Int) : Res (List ExtRef) :=
  match iterInit d len nbFrames with
  | .ok it =>
    match parseLoop it cap #[] with
    | .ok a => .ok a.toList
    | .err e => .err e
    | .oob => .oob
    | .abort => .abort
  | .err e => .err e
  | .oob => .oob
  | .abort => .abort

/-- Cumulative sums `nb_frames_cum[0..nb_frames]` (extensions.c:384-391). -/
def cumCounts : List Int → Int → List Int
  | [], prev => [prev]
  | c :: cs, prev => prev :: cumCounts cs (c + prev)

/-- The loop of `opus_packet_extensions_parse_ext` (extensions.c:393-403).  `out` is the
    caller's `extensions[0..cap)` (unset entries `none`). -/
def parseExtLoop (it : Iter) (cap : Int) (cum : List Int) (out : Array (Option ExtRef)) (n : Nat) :
    Res (Array (Option ExtRef) × Nat) :=
  match h : next it with
  | .ok (it', .ext e) =>
    match cum[e.frame]?, cum[e.frame + 1]? with
    | some idx, some nxt =>
      if cap ≤ idx then .err .bufferTooSmall
      else if ¬ idx + 1 ≤ nxt then .abort            -- celt_assert(idx < nb_frames_cum[ext.frame+1]) :401
      else if idx < 0 then .oob
      else parseExtLoop it' cap (cum.set e.frame (idx + 1)) (out.setIfInBounds idx.toNat (some e)) (n + 1)
    | _, _ => .oob
  | .ok (_, .done) => .ok (out, n)
  | .ok (_, .invalid) => .err .invalidPacket
  | .err e => .err e
  | .oob => .oob
  | .abort => .abort
termination_by it.mu
decreasing_by exact next_decreases h

/-- `opus_packet_extensions_parse_ext` (extensions.c:371-406).  Returns the first
    `*nb_extensions` entries of the caller's array (frame order). -/
def parseExt (d : Bytes) (len : Int) (cap : Int) (nbFrameExts : List Int) (nbFrames : Int) :
    Res (List (Option ExtRef)) :=
  if nbFrames > 48 then .abort
  else if nbFrameExts.length ≠ nbFrames.toNat then .oob
  else
    match iterInit d len nbFrames with
    | .ok it =>
      match parseExtLoop it cap (cumCounts nbFrameExts 0) (Array.replicate cap.toNat none) 0 with
      | .ok (a, n) => .ok (a.toList.take n)
      | .err e => .err e
      | .oob => .oob
      | .abort => .abort
    | .err e => .err e
    | .oob => .oob
    | .abort => .abort

/-! ### Generation -/

/-- `opus_extension_data` as an input of the generator: `data` holds the bytes at
    `ext->data` (at least `len` of them are needed when they are copied). -/
structure Ext where
  id : Int
  frame : Int
  data : Bytes
  len : Int
  deriving Repr, DecidableEq

/-- Payload of an extension reported by the iterator, as generator input. -/
def ExtRef.toExt (d : Bytes) (e : ExtRef) : Ext :=
  { id := e.id, frame := e.frame, data := (d.drop e.off).take e.len.toNat, len := e.len }

/-! The generator is modelled in two layers.  `genOps` walks the C control flow of
    `opus_packet_extensions_generate` and emits, in program order, the buffer actions the C code
    performs (`Op`): every `if (len-pos < k) return OPUS_BUFFER_TOO_SMALL` as `need k`, every
    `if (data) data[pos] = b; pos++` as `put b`, every payload copy as `copy`.  Nothing else in the
    function depends on `len`, `pos` or the bytes written, so the action sequence is a function of
    the extension list and `nb_frames` only.  `runOps` executes the actions against a buffer of
    `len` bytes (`data == NULL`: dry run).  A return other than BUFFER_TOO_SMALL (`BAD_ARG`, a failed
    assertion, a read outside the caller's arrays) ends the action sequence (`W.res`). -/

/-- One buffer action of the generator. -/
inductive Op where
  | need (k : Int)                 -- `if (len-pos < k) return OPUS_BUFFER_TOO_SMALL;`
  | put (b : Nat)                  -- `if (data) data[pos] = b;  pos++;`
  | copy (src : Bytes) (n : Nat)   -- `if (data) OPUS_COPY(&data[pos], src, n);  pos += n;`
  deriving Repr, DecidableEq

/-- Buffer actions emitted so far, and the value (or early return) of the computation. -/
structure W (α : Type) where
  ops : List Op
  res : Res α

def W.bind {α β : Type} (x : W α) (f : α → W β) : W β :=
  match x.res with
  | .ok a => let y := f a; { ops := x.ops ++ y.ops, res := y.res }
  | .err e => { ops := x.ops, res := .err e }
  | .oob => { ops := x.ops, res := .oob }
  | .abort => { ops := x.ops, res := .abort }

instance : Monad W where
  pure a := { ops := [], res := .ok a }
  bind := W.bind

/-- Emit buffer actions. -/
def W.emit (l : List Op) : W Unit := { ops := l, res := .ok () }
/-- A step that touches no buffer (array read, argument check, assertion). -/
def W.lift {α : Type} (r : Res α) : W α := { ops := [], res := r }

/-- Execute one action at `pos = out.size` in a buffer of `len` bytes (`dry`: `data == NULL`;
    zeros stand in for the bytes that a dry run does not write, so that `pos = out.size` in both modes). -/
def runOp (dry : Bool) (len : Int) (out : Array Nat) : Op → Res (Array Nat)
  | .need k => if len - out.size < k then .err .bufferTooSmall else .ok out
  | .put b => .ok (out.push (if dry then 0 else b))
  | .copy src n =>
    if dry then .ok (out ++ Array.replicate n 0)
    else if src.length < n then .oob          -- the caller's `ext->data` holds fewer than `n` bytes
    else .ok (out ++ (src.take n).toArray)

/-- Execute a sequence of actions. -/
def runOps (dry : Bool) (len : Int) : List Op → Array Nat → Res (Array Nat)
  | [], out => .ok out
  | op :: ops, out =>
    match runOp dry len out op with
    | .ok out' => runOps dry len ops out'
    | .err e => .err e
    | .oob => .oob
    | .abort => .abort

/-- Mutable locals of `opus_packet_extensions_generate` other than `pos`. -/
structure GSt where
  written : Nat
  currFrame : Nat
  minIdx : List Nat
  repIdx : List Nat
  deriving Repr

def rdN (l : List Nat) (i : Nat) : Res Nat :=
  match l[i]? with
  | some v => .ok v
  | none => .oob

def rdE (a : Array Ext) (i : Nat) : Res Ext :=
  match a[i]? with
  | some v => .ok v
  | none => .oob

/-- `write_extension_payload` (extensions.c:408-444). -/
def wPayload (e : Ext) (last : Bool) : W Unit :=
  if ¬ (3 ≤ e.id ∧ e.id ≤ 127) then W.lift .abort                 -- celt_assert :410
  else if e.id < 32 then
    if e.len < 0 ∨ e.len > 1 then W.lift (.err .badArg)
    else if e.len > 0 then W.emit [.need e.len, .copy e.data 1]     -- data[pos] = ext->data[0]
    else pure ()
  else
    if e.len < 0 then W.lift (.err .badArg)
    else
      let lengthBytes : Int := if last then 0 else 1 + e.len / 255
      W.emit ([.need (lengthBytes + e.len)]
        ++ (if last then []
            else List.replicate (e.len / 255).toNat (.put 255) ++ [.put (e.len % 255).toNat])
        ++ [.copy e.data e.len.toNat])

/-- `write_extension` (extensions.c:446-454). -/
def wExt (e : Ext) (last : Bool) : W Unit := do
  W.emit [.need 1]
  if ¬ (3 ≤ e.id ∧ e.id ≤ 127) then W.lift .abort                  -- celt_assert :450
  else
    let b : Int := e.id * 2 + (if e.id < 32 then e.len else if last then 0 else 1)
    W.emit [.put (b % 256).toNat]
    wPayload e last

/-- First loop nest of the generator (extensions.c:475-484): validation and
    `frame_min_idx` / `frame_max_idx`. -/
def scanLoop (exts : Array Ext) (nbFrames : Int) (i : Nat) (mn mx : List Nat) : Res (List Nat × List Nat) :=
  if i < exts.size then
    match exts[i]? with
    | none => .oob
    | some e =>
      if e.frame < 0 ∨ nbFrames ≤ e.frame then .err .badArg
      else if e.id < 3 ∨ 127 < e.id then .err .badArg
      else
        let f := e.frame.toNat
        scanLoop exts nbFrames (i + 1) (mn.set f (min (mn.getD f 0) i)) (mx.set f (max (mx.getD f 0) (i + 1)))
  else .ok (mn, mx)
termination_by exts.size - i

/-- "Test if we can repeat this extension in future frames" (extensions.c:502-517):
    `true` iff the `for g` loop ran to `nb_frames`. -/
def canRepeat (exts : Array Ext) (mx rep : List Nat) (nbF : Nat) (e : Ext) (g : Nat) : Res Bool :=
  if g < nbF then
    match rdN rep g, rdN mx g with
    | .ok r, .ok m =>
      if m ≤ r then .ok false
      else match rdE exts r with
        | .ok x =>
          if x.frame ≠ g then .abort                 -- celt_assert :505
          else if x.id ≠ e.id then .ok false
          else if x.id < 32 ∧ x.len ≠ e.len then .ok false
          else canRepeat exts mx rep nbF e (g + 1)
        | .err er => .err er
        | .oob => .oob
        | .abort => .abort
    | _, _ => .oob
  else .ok true
termination_by nbF - g

/-- `for (j=…; j<hi && extensions[j].frame != g; j++);` (extensions.c:546-547). -/
def skipToFrame (exts : Array Ext) (g : Nat) (j hi : Nat) : Res Nat :=
  if j < hi then
    match rdE exts j with
    | .ok x => if x.frame ≠ g then skipToFrame exts g (j + 1) hi else .ok j
    | .err er => .err er
    | .oob => .oob
    | .abort => .abort
  else .ok j
termination_by hi - j

/-- "Advance the repeat pointers" (extensions.c:543-549). -/
def advanceRep (exts : Array Ext) (mx : List Nat) (nbF : Nat) (g : Nat) (rep : List Nat) : Res (List Nat) :=
  if g < nbF then
    match rdN rep g, rdN mx g with
    | .ok r, .ok m =>
      match skipToFrame exts g (r + 1) m with
      | .ok j => advanceRep exts mx nbF (g + 1) (rep.set g j)
      | .err er => .err er
      | .oob => .oob
      | .abort => .abort
    | _, _ => .oob
  else .ok rep
termination_by nbF - g

/-- Result of the repeat detection for one frame: `frame_repeat_idx`, `repeat_count`,
    `last_long_idx` (`none` = -1).  (`trailing_short_len` is computed by the C code, :489-527, but
    never read.) -/
structure Det where
  rep : List Nat
  repeatCount : Nat
  lastLong : Option Nat
  deriving Repr

/-- Repeat detection loop for frame `f` (extensions.c:496-555). -/
def detectLoop (exts : Array Ext) (mx : List Nat) (nbF f : Nat) (i hi : Nat) (s : Det) : Res Det :=
  if i < hi then
    match rdE exts i with
    | .ok e =>
      if e.frame = f then
        match canRepeat exts mx s.rep nbF e (f + 1) with
        | .ok false => .ok s                                        -- `break` :517
        | .ok true =>
          match (if 32 ≤ e.id then (match rdN s.rep (nbF - 1) with
                                    | .ok v => Res.ok (some v)
                                    | .err er => .err er
                                    | .oob => .oob
                                    | .abort => .abort)
                 else .ok s.lastLong), advanceRep exts mx nbF (f + 1) s.rep with
          | .ok ll, .ok rep' =>
            detectLoop exts mx nbF f (i + 1) hi
              { rep := rep'.set f i, repeatCount := s.repeatCount + 1, lastLong := ll }
          | .abort, _ => .abort
          | _, .abort => .abort
          | .err er, _ => .err er
          | _, .err er => .err er
          | _, _ => .oob
        | .err er => .err er
        | .oob => .oob
        | .abort => .abort
      else detectLoop exts mx nbF f (i + 1) hi s
    | .err er => .err er
    | .oob => .oob
    | .abort => .abort
  else .ok s
termination_by hi - i

/-- Repeated payloads of frame `g` (extensions.c:598-607); returns `written`. -/
def wRepeatsOfFrame (exts : Array Ext) (g : Nat) (last : Bool) (lastLong : Option Nat) (j hi : Nat)
    (written : Nat) : W Nat :=
  if j < hi then do
    let x ← W.lift (rdE exts j)
    if x.frame = g then do
      wPayload x (last && lastLong == some j)
      wRepeatsOfFrame exts g last lastLong (j + 1) hi (written + 1)
    else wRepeatsOfFrame exts g last lastLong (j + 1) hi written
  else pure written
termination_by hi - j

/-- `for (g=f+1; g<nb_frames; g++)` of the repeat emission (extensions.c:595-609). -/
def wRepeatsLoop (exts : Array Ext) (nbF : Nat) (last : Bool) (lastLong : Option Nat) (g : Nat)
    (s : GSt) : W GSt :=
  if g < nbF then do
    let lo ← W.lift (rdN s.minIdx g)
    let hi ← W.lift (rdN s.repIdx g)
    let w' ← wRepeatsOfFrame exts g last lastLong lo hi s.written
    wRepeatsLoop exts nbF last lastLong (g + 1) { s with written := w', minIdx := s.minIdx.set g (max lo hi) }
  else pure s
termination_by nbF - g

/-- "Insert separator when needed" (extensions.c:561-576). -/
def wSep (f currFrame : Nat) : W Unit :=
  if f ≠ currFrame then
    let diff : Int := (f : Int) - currFrame
    if diff = 1 then W.emit [.need 2, .put 2]
    else W.emit [.need 2, .put 3, .put (diff % 256).toNat]
  else pure ()

/-- Emission loop for frame `f` (extensions.c:557-613). -/
def wFrameLoop (exts : Array Ext) (nbF : Nat) (f : Nat) (det : Det) (i hi : Nat) (s : GSt) : W GSt :=
  if i < hi then do
    let e ← W.lift (rdE exts i)
    if e.frame = f then do
      wSep f s.currFrame
      wExt e ((s.written : Int) = (exts.size : Int) - 1)
      let s1 := { s with written := s.written + 1, currFrame := f }
      if 0 < det.repeatCount ∧ s.repIdx[f]? = some i then do
        let nbRepeated := det.repeatCount * (nbF - (f + 1))
        let last : Bool := s1.written + nbRepeated = exts.size ∨ (det.lastLong = none ∧ hi ≤ i + 1)
        W.emit [.need 1, .put (if last then 4 else 5)]               -- the repeat indicator
        let s3 ← wRepeatsLoop exts nbF last det.lastLong (f + 1) s1
        wFrameLoop exts nbF f det (i + 1) hi
          { s3 with currFrame := if last then s3.currFrame + 1 else s3.currFrame }
      else wFrameLoop exts nbF f det (i + 1) hi s1
    else wFrameLoop exts nbF f det (i + 1) hi s
  else pure s
termination_by hi - i

/-- The `for (f=0;f<nb_frames;f++)` loop (extensions.c:486-614). -/
def wFramesLoop (exts : Array Ext) (nbF : Nat) (mx : List Nat) (f : Nat) (s : GSt) : W GSt :=
  if f < nbF then do
    let lo ← W.lift (rdN s.minIdx f)
    let hi ← W.lift (rdN mx f)
    let det0 : Det := { rep := s.repIdx, repeatCount := 0, lastLong := none }
    let det ← W.lift (if f + 1 < nbF then detectLoop exts mx nbF f lo hi det0 else .ok det0)
    let s' ← wFrameLoop exts nbF f det lo hi { s with repIdx := det.rep }
    wFramesLoop exts nbF mx (f + 1) s'
  else pure s
termination_by nbF - f

/-- The buffer actions of `opus_packet_extensions_generate` up to the final padding step
    (extensions.c:470-615), for `0 ≤ nb_frames ≤ 48`. -/
def genOps (exts : Array Ext) (nbF : Nat) : W Unit := do
  let (mn, mx) ← W.lift (scanLoop exts nbF 0 (List.replicate nbF exts.size) (List.replicate nbF 0))
  let s ← wFramesLoop exts nbF mx 0 { written := 0, currFrame := 0, minIdx := mn, repIdx := mn }
  if s.written ≠ exts.size then W.lift .abort                    -- celt_assert(written == nb_extensions)
  else pure ()

/-- `opus_packet_extensions_generate` (extensions.c:456-630).  Returns the bytes
    `data[0..ret)`; for a dry run (`data == NULL`) only their number is meaningful. -/
def generate (dry : Bool) (len : Int) (exts : Array Ext) (nbFrames : Int) (pad : Bool) : Res (Array Nat) :=
  if len < 0 then .abort                                     -- celt_assert(len >= 0)
  else if 48 < nbFrames then .err .badArg
  else
    let w := genOps exts nbFrames.toNat
    match runOps dry len w.ops #[] with
    | .ok out =>
      match w.res with
      | .ok _ =>
        if pad ∧ (out.size : Int) < len then
          .ok (Array.replicate (len - out.size).toNat (if dry then 0 else 1) ++ out)
        else .ok out
      | .err er => .err er
      | .oob => .oob
      | .abort => .abort
    | .err er => .err er
    | .oob => .oob
    | .abort => .abort

/-- Dry run: `opus_packet_extensions_generate(NULL, len, …)` returns the size. -/
def generateDry (len : Int) (exts : Array Ext) (nbFrames : Int) (pad : Bool) : Res Nat :=
  match generate true len exts nbFrames pad with
  | .ok out => .ok out.size
  | .err er => .err er
  | .oob => .oob
  | .abort => .abort

end Opus.Ext
