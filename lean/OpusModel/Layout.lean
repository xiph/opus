import OpusModel.Basic
import OpusModel.Framing
import OpusModel.Gen.LayoutTables
/-
  OpusModel.Layout — channel layouts of the multistream / surround / projection API (C10).

  C sources:  src/opus_multistream.c:42-99           validate_layout, get_left/right/mono_channel
              src/opus_multistream_encoder.c:104-144  validate_ambisonics, validate_encoder_layout
              src/opus_multistream_encoder.c:389-666  surround get_size / init_impl / init / create
              src/opus_multistream_decoder.c:66-176   decoder init / create, packet_validate
              src/opus_multistream_decoder.c:178-307  opus_multistream_decode_native (routing loop)
              src/opus_projection_encoder.c:92-130,230-362  family-3 stream counts and init checks
              celt/mathops.c:45-68                    isqrt32

  Conventions.  `ChannelLayout.mapping` holds `mapping[0 .. nb_channels-1]` (the only entries the C
  code ever reads); a caller that supplies fewer than `channels` bytes makes the C code read outside
  the supplied buffer, which the init functions report as `.oob`.  C `int` arguments are `Int`;
  once the argument checks have passed the values are stored as `Nat`.  The inner
  `opus_encoder_init` / `opus_decoder_init` only look at `Fs`, the channel count (1 or 2 here) and
  the application; their argument check is the parameter `innerOk`.
-/
namespace Opus.Layout
open Opus

/-- `ChannelLayout` (src/opus_private.h:86-91). -/
structure ChannelLayout where
  nbChannels : Nat
  nbStreams : Nat
  nbCoupled : Nat
  mapping : List Nat
  deriving DecidableEq, Repr

/-- `validate_layout` (src/opus_multistream.c:42-55). -/
def validateLayout (l : ChannelLayout) : Bool :=
  let maxChannel := l.nbStreams + l.nbCoupled
  if maxChannel > 255 then false
  else (l.mapping.take l.nbChannels).all fun m => !(decide (m ≥ maxChannel) && decide (m ≠ 255))

/-- The scan `for (;i<nb_channels;i++) if (mapping[i]==target) return i; return -1;` shared by
    `get_left/right/mono_channel`: the argument list is the suffix `mapping[i..]`. -/
def scanFrom (target : Nat) : List Nat → Nat → Int
  | [], _ => -1
  | x :: xs, i => if x = target then (i : Int) else scanFrom target xs (i + 1)

/-- `i = (prev<0) ? 0 : prev+1` followed by the scan. -/
def findChannel (l : ChannelLayout) (target : Nat) (prev : Int) : Int :=
  let start := if prev < 0 then 0 else prev.toNat + 1
  scanFrom target ((l.mapping.take l.nbChannels).drop start) start

/-- `get_left_channel` (src/opus_multistream.c:58-69). -/
def getLeftChannel (l : ChannelLayout) (streamId : Nat) (prev : Int) : Int :=
  findChannel l (streamId * 2) prev

/-- `get_right_channel` (src/opus_multistream.c:71-82). -/
def getRightChannel (l : ChannelLayout) (streamId : Nat) (prev : Int) : Int :=
  findChannel l (streamId * 2 + 1) prev

/-- `get_mono_channel` (src/opus_multistream.c:84-95). -/
def getMonoChannel (l : ChannelLayout) (streamId : Nat) (prev : Int) : Int :=
  findChannel l (streamId + l.nbCoupled) prev

/-- Body of the loop of `validate_encoder_layout` for stream `s`. -/
def encoderStreamOk (l : ChannelLayout) (s : Nat) : Bool :=
  if s < l.nbCoupled then
    decide (getLeftChannel l s (-1) ≠ -1) && decide (getRightChannel l s (-1) ≠ -1)
  else decide (getMonoChannel l s (-1) ≠ -1)

/-- `validate_encoder_layout` (src/opus_multistream_encoder.c:127-144). -/
def validateEncoderLayout (l : ChannelLayout) : Bool :=
  (List.range l.nbStreams).all (encoderStreamOk l)

/-! ### isqrt32 and the ambisonics channel counts -/

/-- Bit length of a 32-bit value, one bit per step (`ec_ilog`, celt/entcode.c; the argument is an
    `opus_uint32`, so 32 steps suffice). -/
def ilogAux : Nat → Nat → Nat
  | 0, _ => 0
  | k + 1, v => if v = 0 then 0 else 1 + ilogAux k (v / 2)

/-- `EC_ILOG` (celt/ecintrin.h:86). -/
def ilog (v : Nat) : Nat := ilogAux 32 v

/-- The `do … while(bshift>=0)` loop of `isqrt32` (celt/mathops.c:56-66); the first argument is
    `bshift+1` (the loop counter itself, so this is structural recursion, not fuel). -/
def isqrtLoop : Nat → Nat → Nat → Nat
  | 0, g, _ => g
  | k + 1, g, val =>
    let b := 2 ^ k
    let t := (2 * g + b) * 2 ^ k
    if t ≤ val then isqrtLoop k (g + b) (val - t) else isqrtLoop k g val

/-- `isqrt32` (celt/mathops.c:45-68) for `_val ≥ 1` (every caller modelled here guards this;
    for `0` the C code shifts by a negative amount). -/
def isqrt32 (val : Nat) : Nat := isqrtLoop ((ilog val - 1) / 2 + 1) 0 val

/-- `validate_ambisonics` (src/opus_multistream_encoder.c:104-125): `some (streams, coupled)`
    when accepted. -/
def validateAmbisonics (nbChannels : Int) : Option (Nat × Nat) :=
  if nbChannels < 1 ∨ nbChannels > 227 then none
  else
    let ch := nbChannels.toNat
    let orderPlusOne := isqrt32 ch
    let acn := orderPlusOne * orderPlusOne
    let nondiegetic : Int := (ch : Int) - acn
    if nondiegetic ≠ 0 ∧ nondiegetic ≠ 2 then none
    else
      let nd := if nondiegetic ≠ 0 then 1 else 0
      some (acn + nd, nd)

/-! ### encoder / decoder creation -/

/-- `MappingType` (src/opus_private.h:93-97). -/
inductive MappingType where
  | none | surround | ambisonics
  deriving DecidableEq, Repr

def MappingType.code : MappingType → Nat
  | .none => 0 | .surround => 1 | .ambisonics => 2

/-- The argument test shared by `opus_multistream_decoder_init` and `_create`
    (src/opus_multistream_decoder.c:80-82, 124-125). -/
def decArgsBad (channels streams coupled : Int) : Bool :=
  decide (channels > 255) || decide (channels < 1) || decide (coupled > streams) ||
  decide (streams < 1) || decide (coupled < 0) || decide (streams > 255 - coupled)

/-- The argument test of the encoder (src/opus_multistream_encoder.c:445-448, 597-599). -/
def encArgsBad (channels streams coupled : Int) : Bool :=
  decArgsBad channels streams coupled || decide (streams + coupled > channels)

/-- `for (i=0;i<nb_channels;i++) layout.mapping[i] = mapping[i];` — `.oob` when the caller's
    array is shorter than `channels`. -/
def loadLayout (channels streams coupled : Int) (mapping : List Nat) : Res ChannelLayout :=
  if mapping.length < channels.toNat then .oob
  else .ok { nbChannels := channels.toNat, nbStreams := streams.toNat, nbCoupled := coupled.toNat,
             mapping := mapping.take channels.toNat }

/-- `opus_multistream_decoder_init` (src/opus_multistream_decoder.c:66-110). -/
def decoderInit (innerOk : Bool) (channels streams coupled : Int) (mapping : List Nat) :
    Res ChannelLayout :=
  if decArgsBad channels streams coupled then .err .badArg
  else match loadLayout channels streams coupled mapping with
    | .ok l =>
      if !validateLayout l then .err .badArg
      else if !innerOk then .err .badArg
      else .ok l
    | .err e => .err e
    | .oob => .oob
    | .abort => .abort

/-- `opus_multistream_decoder_create` (src/opus_multistream_decoder.c:113-147); allocation is
    assumed to succeed. -/
def decoderCreate (innerOk : Bool) (channels streams coupled : Int) (mapping : List Nat) :
    Res ChannelLayout :=
  if decArgsBad channels streams coupled then .err .badArg
  else decoderInit innerOk channels streams coupled mapping

/-- State of an `OpusMSEncoder` that the layout logic determines. -/
structure MSEncoder where
  layout : ChannelLayout
  lfeStream : Int
  mappingType : MappingType
  deriving DecidableEq, Repr

/-- `opus_multistream_encoder_init_impl` (src/opus_multistream_encoder.c:429-495).
    `lfeIn` is the value of `st->lfe_stream` on entry (set by the surround init). -/
def encoderInitImpl (innerOk : Bool) (channels streams coupled : Int) (mapping : List Nat)
    (mt : MappingType) (lfeIn : Int) : Res MSEncoder :=
  if encArgsBad channels streams coupled then .err .badArg
  else match loadLayout channels streams coupled mapping with
    | .ok l =>
      if !validateLayout l then .err .badArg
      else if !validateEncoderLayout l then .err .badArg
      else if mt = .ambisonics ∧ (validateAmbisonics l.nbChannels).isNone then .err .badArg
      else if !innerOk then .err .badArg
      else .ok { layout := l, lfeStream := if mt ≠ .surround then -1 else lfeIn, mappingType := mt }
    | .err e => .err e
    | .oob => .oob
    | .abort => .abort

/-- `opus_multistream_encoder_init` (src/opus_multistream_encoder.c:497-510). -/
def encoderInit (innerOk : Bool) (channels streams coupled : Int) (mapping : List Nat) :
    Res MSEncoder :=
  encoderInitImpl innerOk channels streams coupled mapping .none (-1)

/-- `opus_multistream_encoder_create` (src/opus_multistream_encoder.c:585-621). -/
def encoderCreate (innerOk : Bool) (channels streams coupled : Int) (mapping : List Nat) :
    Res MSEncoder :=
  if encArgsBad channels streams coupled then .err .badArg
  else encoderInit innerOk channels streams coupled mapping

/-- The layout chosen by `opus_multistream_surround_encoder_init`. -/
structure Surround where
  streams : Nat
  coupled : Nat
  mapping : List Nat
  lfeStream : Int
  deriving DecidableEq, Repr

/-- Entry `channels-1` of the regenerated `vorbis_mappings`. -/
def vorbisEntry (ch : Nat) : Nat × Nat × List Nat :=
  Gen.LayoutTables.vorbisMappings.getD (ch - 1) (0, 0, [])

/-- Family-2 mapping (src/opus_multistream_encoder.c:564-567): mono streams first, then the
    coupled pair. -/
def ambisonicsMapping (streams coupled : Nat) : List Nat :=
  (List.range (streams - coupled)).map (fun i => i + coupled * 2) ++ List.range (coupled * 2)

/-- The layout construction of `opus_multistream_surround_encoder_init`
    (src/opus_multistream_encoder.c:525-569), after which `init_impl` is called. -/
def surroundLayout (channels family : Int) : Res Surround :=
  if channels > 255 ∨ channels < 1 then .err .badArg
  else
    let ch := channels.toNat
    if family = 0 then
      if ch = 1 then .ok { streams := 1, coupled := 0, mapping := [0], lfeStream := -1 }
      else if ch = 2 then .ok { streams := 1, coupled := 1, mapping := [0, 1], lfeStream := -1 }
      else .err .unimplemented
    else if family = 1 ∧ ch ≤ 8 ∧ ch ≥ 1 then
      let e := vorbisEntry ch
      .ok { streams := e.1, coupled := e.2.1, mapping := e.2.2.take ch,
            lfeStream := if ch ≥ 6 then (e.1 : Int) - 1 else -1 }
    else if family = 255 then
      .ok { streams := ch, coupled := 0, mapping := List.range ch, lfeStream := -1 }
    else if family = 2 then
      match validateAmbisonics channels with
      | none => .err .badArg
      | some (s, c) => .ok { streams := s, coupled := c, mapping := ambisonicsMapping s c, lfeStream := -1 }
    else .err .unimplemented

/-- Mapping type chosen at src/opus_multistream_encoder.c:571-579. -/
def surroundMappingType (channels family : Int) : MappingType :=
  if channels > 2 ∧ family = 1 then .surround
  else if family = 2 then .ambisonics
  else .none

/-- `opus_multistream_surround_encoder_init` (src/opus_multistream_encoder.c:512-583):
    the values written through `streams`/`coupled_streams`/`mapping` and the encoder state. -/
def surroundInit (innerOk : Bool) (channels family : Int) : Res (Surround × MSEncoder) :=
  match surroundLayout channels family with
  | .ok s =>
    match encoderInitImpl innerOk channels s.streams s.coupled s.mapping
            (surroundMappingType channels family) s.lfeStream with
    | .ok e => .ok (s, e)
    | .err e => .err e
    | .oob => .oob
    | .abort => .abort
  | .err e => .err e
  | .oob => .oob
  | .abort => .abort

/-- `opus_multistream_surround_encoder_get_size(channels, family) != 0`
    (src/opus_multistream_encoder.c:389-427; `opus_multistream_encoder_get_size` is non-zero
    for `streams ≥ 1`, `0 ≤ coupled ≤ streams`). -/
def surroundSizeNonzero (channels family : Int) : Bool :=
  let msSize (s c : Int) : Bool := !(decide (s < 1) || decide (c > s) || decide (c < 0))
  if family = 0 then
    if channels = 1 then msSize 1 0 else if channels = 2 then msSize 1 1 else false
  else if family = 1 ∧ channels ≤ 8 ∧ channels ≥ 1 then
    let e := vorbisEntry channels.toNat
    msSize e.1 e.2.1
  else if family = 255 then msSize channels 0
  else if family = 2 then
    match validateAmbisonics channels with
    | none => false
    | some (s, c) => msSize s c
  else false

/-- `opus_multistream_surround_encoder_create` (src/opus_multistream_encoder.c:623-666). -/
def surroundCreate (innerOk : Bool) (channels family : Int) : Res (Surround × MSEncoder) :=
  if channels > 255 ∨ channels < 1 then .err .badArg
  else if !surroundSizeNonzero channels family then .err .unimplemented
  else surroundInit innerOk channels family

/-! ### projection (mapping family 3) -/

/-- `get_order_plus_one_from_channels` (src/opus_projection_encoder.c:92-113). -/
def orderPlusOneFromChannels (channels : Int) : Option Nat :=
  if channels < 1 ∨ channels > 227 then none
  else
    let ch := channels.toNat
    let o := isqrt32 ch
    let nondiegetic : Int := (ch : Int) - o * o
    if nondiegetic ≠ 0 ∧ nondiegetic ≠ 2 then none else some o

/-- `get_streams_from_channels` (src/opus_projection_encoder.c:115-130):
    `some (streams, coupled, order_plus_one)`. -/
def streamsFromChannels (channels family : Int) : Option (Nat × Nat × Nat) :=
  if family = 3 then
    match orderPlusOneFromChannels channels with
    | none => none
    | some o => some ((channels.toNat + 1) / 2, channels.toNat / 2, o)
  else none

/-- Dimensions `(rows, cols)` of the built-in matrix pair for `order_plus_one`
    (src/opus_projection_encoder.c:255-291); `none` = no pre-computed matrix. -/
def builtinDim (orderPlusOne : Nat) : Option Nat :=
  if 2 ≤ orderPlusOne ∧ orderPlusOne ≤ 6 then some (orderPlusOne * orderPlusOne + 2) else none

/-- Argument / size checks of `opus_projection_ambisonics_encoder_init`
    (src/opus_projection_encoder.c:230-362) down to the call of `opus_multistream_encoder_init`
    with the identity mapping.  `dims o = some (mr, mc, dr, dc)` are the rows/cols of the mixing
    and demixing matrices selected for `order_plus_one = o` (from the regenerated tables). -/
def projectionInit (dims : Nat → Option (Nat × Nat × Nat × Nat)) (innerOk : Bool)
    (channels family : Int) : Res (Nat × Nat × Nat × MSEncoder) :=
  match streamsFromChannels channels family with
  | none => .err .badArg
  | some (streams, coupled, o) =>
    match dims o with
    | none => .err .badArg
    | some (mr, mc, dr, dc) =>
      -- mapping_matrix_get_size(rows, cols) == 0  (src/mapping_matrix.c:40-56)
      if mr > 255 ∨ mc > 255 ∨ mr * mc * 2 > 65004 then .err .badArg
      else if dr > 255 ∨ dc > 255 ∨ dr * dc * 2 > 65004 then .err .badArg
      else if streams + coupled > mr ∨ channels.toNat > mc ∨ channels.toNat > dr ∨ streams + coupled > dc then
        .err .badArg
      else
        match encoderInit innerOk channels streams coupled (List.range channels.toNat) with
        | .ok e => .ok (streams, coupled, o, e)
        | .err e => .err e
        | .oob => .oob
        | .abort => .abort

/-- `opus_projection_ambisonics_encoder_get_size(channels, family) != 0`
    (src/opus_projection_encoder.c:156-228). -/
def projectionSizeNonzero (dims : Nat → Option (Nat × Nat × Nat × Nat)) (channels family : Int) : Bool :=
  match streamsFromChannels channels family with
  | none => false
  | some (streams, coupled, o) =>
    match dims o with
    | none => false
    | some (mr, mc, dr, dc) =>
      !(decide (mr > 255 ∨ mc > 255 ∨ mr * mc * 2 > 65004)) &&
      !(decide (dr > 255 ∨ dc > 255 ∨ dr * dc * 2 > 65004)) &&
      !(decide (streams < 1) || decide (coupled > streams))

/-- `opus_projection_ambisonics_encoder_create` (src/opus_projection_encoder.c:364-398):
    a zero size is reported as `OPUS_ALLOC_FAIL`. -/
def projectionCreate (dims : Nat → Option (Nat × Nat × Nat × Nat)) (innerOk : Bool)
    (channels family : Int) : Res (Nat × Nat × Nat × MSEncoder) :=
  if !projectionSizeNonzero dims channels family then .err .allocFail
  else projectionInit dims innerOk channels family

/-! ### multistream packet structure -/

/-- One iteration of the loop of `opus_multistream_packet_validate`
    (src/opus_multistream_decoder.c:159-174): parse the next sub-packet (self-delimited unless it
    is the last one) and return its duration and its length. -/
def validateStep (fs : Nat) (last : Bool) (data : Bytes) : Res (Nat × Nat) :=
  if data.length = 0 then .err .invalidPacket
  else match Framing.parseImpl (!last) data with
    | .ok r =>
      match Framing.getNbSamples (data.take r.packetOffset) fs with
      | .ok n => .ok (n, r.packetOffset)
      | .err e => .err e
      | .oob => .oob
      | .abort => .abort
    | .err e => .err e
    | .oob => .oob
    | .abort => .abort

/-- The loop of `opus_multistream_packet_validate` with `k` streams left; `first` tells whether
    this is stream 0 (no duration to compare with yet). -/
def validateLoop (fs : Nat) : Nat → Bool → Nat → Bytes → Res Nat
  | 0, _, samples, _ => .ok samples
  | k + 1, first, samples, data =>
    match validateStep fs (k = 0) data with
    | .ok (n, off) =>
      if !first ∧ samples ≠ n then .err .invalidPacket
      else validateLoop fs k false n (data.drop off)
    | .err e => .err e
    | .oob => .oob
    | .abort => .abort

/-- `opus_multistream_packet_validate` (src/opus_multistream_decoder.c:149-176) with
    `len = data.length`. -/
def msPacketValidate (data : Bytes) (nbStreams fs : Nat) : Res Nat :=
  validateLoop fs nbStreams true 0 data

/-! ### routing loop of opus_multistream_decode_native -/

/-- What a `copy_channel_out` call copies. -/
inductive Src where
  | left (s : Nat)    -- `buf`   with stride 2 of coupled stream s
  | right (s : Nat)   -- `buf+1` with stride 2 of coupled stream s
  | mono (s : Nat)    -- `buf`   with stride 1 of mono stream s
  | zero              -- `NULL` (muted channel)
  deriving DecidableEq, Repr

/-- One call `(*copy_channel_out)(pcm, nb_channels, chan, src, stride, frame_size, user_data)`. -/
structure Call where
  chan : Nat
  src : Src
  frameSize : Int
  deriving DecidableEq, Repr

/-- A successful `scanFrom` returns an index inside the scanned range. -/
theorem scanFrom_bounds (target : Nat) : ∀ (xs : List Nat) (i : Nat),
    scanFrom target xs i = -1 ∨ ((i : Int) ≤ scanFrom target xs i ∧ scanFrom target xs i < (i : Int) + xs.length)
  | [], _ => by simp [scanFrom]
  | x :: xs, i => by
    unfold scanFrom
    split
    · right; simp only [List.length_cons]; omega
    · rcases scanFrom_bounds target xs (i + 1) with h | h
      · left; exact h
      · right; simp only [List.length_cons]; omega

/-- `findChannel` answers `-1` or a channel index after `prev` and below `nb_channels`. -/
theorem findChannel_bounds (l : ChannelLayout) (target : Nat) (prev : Int) :
    findChannel l target prev = -1 ∨
    ((if prev < 0 then 0 else prev + 1) ≤ findChannel l target prev ∧
      findChannel l target prev < (l.nbChannels : Int)) := by
  unfold findChannel
  dsimp only
  generalize hs : (if prev < 0 then 0 else prev.toNat + 1) = start
  rcases scanFrom_bounds target ((l.mapping.take l.nbChannels).drop start) start with h | h
  · exact Or.inl h
  · right
    simp only [List.length_drop, List.length_take] at h
    split at hs <;> split <;> omega

/-- `prev=-1; while ((chan = get_X_channel(layout, s, prev)) != -1) { copy(chan); prev = chan; }`
    (src/opus_multistream_decoder.c:268-293), `target` being the mapping value the respective
    `get_X_channel` compares with.  Terminates because every answer lies strictly after `prev`
    and below `nb_channels` (`findChannel_bounds`). -/
def whileLoop (l : ChannelLayout) (target : Nat) (src : Src) (fs : Int) (prev : Int) : List Call :=
  if h : findChannel l target prev = -1 then []
  else
    { chan := (findChannel l target prev).toNat, src, frameSize := fs } ::
      whileLoop l target src fs (findChannel l target prev)
termination_by l.nbChannels + 1 - (if prev < 0 then 0 else prev.toNat + 1)
decreasing_by
  rcases findChannel_bounds l target prev with h' | h'
  · exact absurd h' h
  · split at h' <;> split <;> omega

/-- Copy calls issued for stream `s` after a successful decode of `fs` samples
    (src/opus_multistream_decoder.c:265-294). -/
def streamCalls (l : ChannelLayout) (s : Nat) (fs : Int) : List Call :=
  if s < l.nbCoupled then
    whileLoop l (s * 2) (.left s) fs (-1) ++ whileLoop l (s * 2 + 1) (.right s) fs (-1)
  else whileLoop l (s + l.nbCoupled) (.mono s) fs (-1)

/-- "Handle muted channels" (src/opus_multistream_decoder.c:296-304). -/
def mutedCalls (fs : Int) : List Nat → Nat → List Call
  | [], _ => []
  | x :: xs, c =>
    if x = 255 then { chan := c, src := .zero, frameSize := fs } :: mutedCalls fs xs (c + 1)
    else mutedCalls fs xs (c + 1)

/-- What the per-stream decoder is assumed to report for stream `s`: the return value of
    `opus_decode_native` and the `packet_offset` it stored. -/
structure StreamRet where
  ret : Int
  packetOffset : Int
  deriving DecidableEq, Repr

/-- Outcome of `opus_multistream_decode_native`: the return value and the copy calls made. -/
structure Routed where
  ret : Int
  calls : List Call
  deriving DecidableEq, Repr

/-- The stream loop (src/opus_multistream_decoder.c:238-295) followed by the muted-channel loop.
    `s` = current stream, `rets` = the oracle answers of streams `s, s+1, …`. -/
def routeLoop (l : ChannelLayout) (doPlc : Bool) : List StreamRet → Nat → Int → Int → List Call → Routed
  | [], _, _, fs, acc =>
    { ret := fs, calls := acc ++ mutedCalls fs (l.mapping.take l.nbChannels) 0 }
  | r :: rest, s, len, _, acc =>
    if !doPlc ∧ len ≤ 0 then { ret := Err.internalError.code, calls := acc }
    else
      let len' := if doPlc then len else len - r.packetOffset
      if r.ret ≤ 0 then { ret := r.ret, calls := acc }
      else routeLoop l doPlc rest (s + 1) len' r.ret (acc ++ streamCalls l s r.ret)

/-- `opus_multistream_decode_native` (src/opus_multistream_decoder.c:178-307) over abstract
    per-stream decoders: `rets[s]` is what `opus_decode_native` answers for stream `s`
    (`rets.length = nb_streams`), `validate` the answer of `opus_multistream_packet_validate`. -/
def decodeNative (l : ChannelLayout) (fsRate : Nat) (frameSize len : Int) (validate : Res Nat)
    (rets : List StreamRet) : Res Routed :=
  if frameSize ≤ 0 then .ok { ret := Err.badArg.code, calls := [] }
  else
    let lim : Int := (fsRate / 25 * 3 : Nat)
    let frameSize := if frameSize < lim then frameSize else lim
    let doPlc := decide (len = 0)
    if len < 0 then .ok { ret := Err.badArg.code, calls := [] }
    else if !doPlc ∧ len < 2 * (l.nbStreams : Int) - 1 then .ok { ret := Err.invalidPacket.code, calls := [] }
    else if doPlc then .ok (routeLoop l doPlc (rets.take l.nbStreams) 0 len frameSize [])
    else match validate with
      | .ok n =>
        if (n : Int) > frameSize then .ok { ret := Err.bufferTooSmall.code, calls := [] }
        else .ok (routeLoop l doPlc (rets.take l.nbStreams) 0 len frameSize [])
      | .err e => .ok { ret := e.code, calls := [] }
      | .oob => .oob
      | .abort => .abort

/-! ### what the routing delivers -/

/-- The source a validated layout prescribes for output channel `c`
    (RFC 7845 §5.1.1: index `< 2·coupled` → side of a coupled stream, otherwise a mono stream,
    255 → silence). -/
def expectedSrc (l : ChannelLayout) (c : Nat) : Src :=
  let m := l.mapping.getD c 255
  if m = 255 then .zero
  else if m < 2 * l.nbCoupled then (if m % 2 = 0 then .left (m / 2) else .right (m / 2))
  else .mono (m - l.nbCoupled)

/-- Abstract per-stream PCM: the samples a stand-alone decoder of stream `s` produces
    (`left`/`right` of a coupled stream, `mono` of an uncoupled one); `zero` is silence. -/
def srcSamples {α} [OfNat α 0] (pcm : Src → List α) (n : Int) : Src → List α
  | .zero => List.replicate n.toNat 0
  | s => (pcm s).take n.toNat

/-- The list of writes channel `c` receives during one call (each write is a block of samples). -/
def channelWrites {α} [OfNat α 0] (pcm : Src → List α) (calls : List Call) (c : Nat) : List (List α) :=
  (calls.filter (fun k => k.chan = c)).map (fun k => srcSamples pcm k.frameSize k.src)

end Opus.Layout
