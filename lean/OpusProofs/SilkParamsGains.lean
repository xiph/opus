import OpusProofs.SilkParamsFix
/-
  OpusProofs.SilkParamsGains — gain index invariant, gain range, encoder/decoder agreement of
  the gain quantiser.
-/
namespace Opus.SilkParams
open Opus.Gen

/-- The values of the regenerated quantiser constants the statements below are written for. -/
theorem gain_consts : SilkNlsf.nLevelsQGain = 64 ∧ SilkNlsf.maxDeltaGainQuant = 36 ∧
    SilkNlsf.minDeltaGainQuant = -4 := by decide

/-- Smallest and largest value of a dequantised gain (Q16): levels 0 and 63. -/
def gainMinQ16 : Int := 81920
def gainMaxQ16 : Int := 1686110208

theorem gainOfIndex_table : ∀ p ∈ List.range 64,
    gainMinQ16 ≤ gainOfIndex (p : Int) ∧ gainOfIndex (p : Int) ≤ gainMaxQ16 ∧
    gainOfIndex (p : Int) < gainOfIndex ((p : Int) + 1) := by
  decide +kernel

theorem gainOfIndex_ends : gainOfIndex 0 = gainMinQ16 ∧ gainOfIndex 63 = gainMaxQ16 := by
  decide +kernel

theorem gainOfIndex_range (p : Int) (h0 : 0 ≤ p) (h1 : p ≤ 63) :
    gainMinQ16 ≤ gainOfIndex p ∧ gainOfIndex p ≤ gainMaxQ16 := by
  have h := gainOfIndex_table p.toNat (by simp only [List.mem_range]; omega)
  have hp : ((p.toNat : Nat) : Int) = p := by omega
  rw [hp] at h
  exact ⟨h.1, h.2.1⟩

/-! ### dequantiser -/

/-- Whatever the index, the previous index and the coding mode: `*prev_ind` ends in `[0, 63]`. -/
theorem gainDequantPrev_range (first : Bool) (cond ind prev : Int) :
    0 ≤ gainDequantPrev first cond ind prev ∧ gainDequantPrev first cond ind prev ≤ 63 := by
  obtain ⟨h1, _, _⟩ := gain_consts
  unfold gainDequantPrev
  simp only [h1]
  generalize (if (first = true ∧ cond = 0) then _ else _ : Int) = p
  rw [limit_eq p 0 (64 - 1) (by decide), wrap8_id (by omega) (by omega)]
  omega

theorem gainsDequantLoop_spec (cond : Int) : ∀ (ind : List Int) (first : Bool) (prev : Int),
    (gainsDequantLoop cond first ind prev).1.length = ind.length ∧
    (∀ g ∈ (gainsDequantLoop cond first ind prev).1, gainMinQ16 ≤ g ∧ g ≤ gainMaxQ16) ∧
    (ind ≠ [] → 0 ≤ (gainsDequantLoop cond first ind prev).2 ∧ (gainsDequantLoop cond first ind prev).2 ≤ 63) := by
  intro ind
  induction ind with
  | nil => intro first prev; simp [gainsDequantLoop]
  | cons i is ih =>
    intro first prev
    have hr := gainDequantPrev_range first cond i prev
    have hg := gainOfIndex_range _ hr.1 hr.2
    have h := ih false (gainDequantPrev first cond i prev)
    simp only [gainsDequantLoop, List.length_cons, List.mem_cons, forall_eq_or_imp]
    refine ⟨by omega, ⟨hg, h.2.1⟩, ?_⟩
    intro _
    cases is with
    | nil => simpa [gainsDequantLoop] using hr
    | cons j js => exact h.2.2 (by simp)

/-- A chain of frames through `silk_gains_dequant`: each frame is `(indices, conditional)`;
    returns the gains of all frames and the final `LastGainIndex` (its theorem is OpusProps.C18.gain_index_inv). -/
def gainsDequantChain : List (List Int × Int) → Int → List (List Int) × Int
  | [], p => ([], p)
  | (ind, cond) :: rest, p =>
    let r := gainsDequant ind p cond
    let r' := gainsDequantChain rest r.2
    (r.1 :: r'.1, r'.2)

/-! ### quantiser / dequantiser agreement -/

theorem gainQuantStep_agrees (first : Bool) (cond g prev : Int) (hp0 : 0 ≤ prev) (hp1 : prev ≤ 63) :
    let s := gainQuantStep first cond g prev
    gainDequantPrev first cond s.1 prev = s.2.1 ∧ s.2.2 = gainOfIndex s.2.1 ∧
    0 ≤ s.2.1 ∧ s.2.1 ≤ 63 ∧ 0 ≤ s.1 ∧ (if first = true ∧ cond = 0 then s.1 ≤ 63 else s.1 ≤ 40) := by
  obtain ⟨h1, h2, h3⟩ := gain_consts
  have hl : ∀ a, limit a 0 63 = max 0 (min a 63) := fun a => limit_eq a 0 63 (by omega)
  have hl2 : ∀ a, limit a (prev + -4) 63 = max (prev + -4) (min a 63) := fun a => limit_eq a _ 63 (by omega)
  have hl3 : ∀ a, limit a (-4) 36 = max (-4) (min a 36) := fun a => limit_eq a _ _ (by omega)
  unfold gainQuantStep gainDequantPrev doubleStepThreshold lshift32 shrI
  simp only [h1, h2, h3, Int.reducePow, hl, hl2, hl3, Int.reduceSub, Int.reduceMul]
  generalize wrap8 (smulwb SilkNlsf.gainScaleQ16 (lin2log g - SilkNlsf.gainOffset)) = i0
  generalize hi : wrap8 (max 0 (min (if i0 < prev then wrap8 (i0 + 1) else i0) 63)) = i2
  have hb : 0 ≤ i2 ∧ i2 ≤ 63 := by rw [← hi, wrap8_id (by omega) (by omega)]; omega
  clear hi
  by_cases hc : first = true ∧ cond = 0
  · simp only [hc, and_self, ↓reduceIte, true_and]
    -- the three `opus_int8` stores of this branch are of values in `[-16, 63]`
    simp (disch := omega) only [wrap8_id]
    omega
  · simp only [hc, ↓reduceIte, true_and]
    rw [wrap8_id (x := i2 - prev) (by omega) (by omega),
      wrap8_id (x := 8 + prev + (i2 - prev - (8 + prev) + 1) / 2) (by omega) (by omega)]
    -- the delta after the double-step compression lies between `-prev` and `i2 - prev`
    generalize hi4 : (if i2 - prev > 8 + prev then 8 + prev + (i2 - prev - (8 + prev) + 1) / 2 else i2 - prev) = i4
    have hb4 : -prev ≤ i4 ∧ i4 ≤ i2 - prev := by rw [← hi4]; split <;> omega
    rw [wrap8_id (x := max (-4) (min i4 36)) (by omega) (by omega)]
    generalize hi5 : max (-4) (min i4 36) = i5
    have hb5 : -4 ≤ i5 ∧ i5 ≤ 36 ∧ 0 ≤ prev + i5 ∧ prev + i5 ≤ 63 := by omega
    clear hi4 hi5 hb4 hb
    rw [wrap8_id (x := i5 - -4) (by omega) (by omega), show i5 - -4 + -4 = i5 by omega,
      show wrap32 (i5 * 2) = i5 * 2 by unfold wrap32; omega]
    -- every remaining `opus_int8` store, on either side of the double-step test, is of a value that `hb5` bounds
    simp (disch := omega) only [wrap8_id]
    split <;> omega

theorem gainsQuantLoop_agrees (cond : Int) : ∀ (gains : List Int) (first : Bool) (prev : Int),
    0 ≤ prev → prev ≤ 63 →
    let q := gainsQuantLoop cond first gains prev
    gainsDequantLoop cond first q.1 prev = (q.2.1, q.2.2) ∧ q.1.length = gains.length ∧
    0 ≤ q.2.2 ∧ q.2.2 ≤ 63 := by
  intro gains
  induction gains with
  | nil => intro first prev h0 h1; simp [gainsQuantLoop, gainsDequantLoop, h0, h1]
  | cons g gs ih =>
    intro first prev h0 h1
    have hs := gainQuantStep_agrees first cond g prev h0 h1
    simp only at hs
    obtain ⟨ha, hb, hc0, hc1, _, _⟩ := hs
    have h := ih false (gainQuantStep first cond g prev).2.1 hc0 hc1
    simp only at h
    simp only [gainsQuantLoop, gainsDequantLoop, ha, h.1, List.length_cons, h.2.1, ← hb]
    exact ⟨trivial, trivial, h.2.2⟩

end Opus.SilkParams
