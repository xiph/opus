import OpusProofs.CeltAllocSkip
/-
  OpusProofs.CeltAllocMain — the state on entry to the band-skipping loop (the band list `l0` with the initial `bits[]`,
  the reservations) satisfies the loop invariant; `computeAllocation` as the loop on `l0` followed by `finishTail`.
-/
namespace OpusProofs.CeltAlloc
open Opus Opus.CeltAlloc
open Opus.Gen.CeltTables

theorem eBands_step : ∀ i, i < 21 → eBands.getD i 0 ≤ eBands.getD (i + 1) 0 := by decide

theorem eBands_mono {i j : Nat} (h : i ≤ j) (hj : j ≤ 21) : eBands.getD i 0 ≤ eBands.getD j 0 := by
  induction h with
  | refl => exact Nat.le_refl _
  | step hle ih => exact Nat.le_trans (ih (by omega)) (eBands_step _ (by omega))

/-- the bands `start … start+n-1`, highest first -/
def revBands (p : Inp) : Nat → List Band
  | 0 => []
  | n + 1 => mkBand p (p.start + n) :: revBands p n

theorem bands_reverse (p : Inp) : (bands p).reverse = revBands p (p.end_ - p.start) := by
  unfold bands
  generalize p.end_ - p.start = n
  induction n with
  | zero => rfl
  | succ n ih => rw [List.range_succ, List.map_append, List.reverse_append, ih]; rfl

def sumWB : List Band → Nat
  | [] => 0
  | b :: bs => b.w + sumWB bs

theorem sumW_eq : ∀ (l : List (Band × Int)), sumW l = sumWB (l.map (·.1)) := by
  intro l
  induction l with
  | nil => rfl
  | cons x t ih => simp only [sumW, List.map_cons, sumWB, ih]

theorem mkBand_edges (p : Inp) (j : Nat) (h1 : p.start ≤ j) (h2 : j < 21) :
    (mkBand p j).j = j ∧ (mkBand p j).w = width j ∧ 1 ≤ (mkBand p j).w ∧
    (mkBand p j).lo + (mkBand p j).w = eBands.getD (j + 1) 0 - eBands.getD p.start 0 := by
  have hw := width_bounds j h2
  have m1 := eBands_mono h1 (by omega)
  have m2 := eBands_step j h2
  simp only [mkBand]
  refine ⟨trivial, trivial, hw.1, ?_⟩
  unfold width
  omega

/-- what `Dom` gives for a band of the frame -/
theorem band_ok {p : Inp} (hp : Dom p) {b : Band} (h : b ∈ bands p) :
    1 ≤ b.w ∧ 0 ≤ b.cap ∧ b.lo + b.w = eBands.getD (b.j + 1) 0 - eBands.getD p.start 0 := by
  obtain ⟨h1, h2, he⟩ := mem_bands h
  obtain ⟨_, _, e3, e4⟩ := mkBand_edges p b.j h1 (Nat.lt_of_lt_of_le h2 hp.hend)
  rw [← he] at e3 e4
  exact ⟨e3, by rw [he]; exact (hp.capB _).1, e4⟩

theorem revBands_facts (p : Inp) : ∀ n, p.start + n ≤ 21 →
    DescB (revBands p n) ∧ sumWB (revBands p n) = eBands.getD (p.start + n) 0 - eBands.getD p.start 0 := by
  intro n
  induction n with
  | zero => intro _; exact ⟨trivial, by simp [revBands, sumWB]⟩
  | succ n ih =>
    intro h
    obtain ⟨h1, h2⟩ := ih (by omega)
    obtain ⟨e1, e2, e3, e4⟩ := mkBand_edges p (p.start + n) (by omega) (by omega)
    refine ⟨?_, ?_⟩
    · cases n with
      | zero => trivial
      | succ m =>
        obtain ⟨f1, f2, f3, f4⟩ := mkBand_edges p (p.start + m) (by omega) (by omega)
        refine ⟨⟨by rw [e1, f1]; omega, ?_⟩, h1⟩
        rw [f4]
        rfl
    · simp only [revBands, sumWB, h2, e2]
      have m1 := eBands_mono (show p.start ≤ p.start + n by omega) (by omega)
      have m2 := eBands_step (p.start + n) (by omega)
      unfold width
      rw [show p.start + (n + 1) = p.start + n + 1 by omega]
      omega

theorem sumBits_zip : ∀ (l : List Band) (m : List Int), l.length = m.length → sumBits (l.zip m) = sumInt m := by
  intro l
  induction l with
  | nil => intro m h; cases m <;> simp_all [sumBits, sumInt]
  | cons a t ih =>
    intro m h
    cases m with
    | nil => simp at h
    | cons b m => simp only [List.zip_cons_cons, sumBits, sumInt, ih m (by simpa using h)]

theorem initBits_nonneg (F : Int) (hF : 0 ≤ F) : ∀ (l : List (Int × Int × Int)) (d : Bool),
    (∀ x ∈ l, 0 ≤ x.1 ∧ 0 ≤ x.2.2) → ∀ y ∈ initBits F l d, 0 ≤ y := by
  intro l
  induction l with
  | nil => intro d _ y hy; simp [initBits] at hy
  | cons x rest ih =>
    intro d h y hy
    obtain ⟨tmp, thresh, cap⟩ := x
    obtain ⟨h1, h2⟩ := h (tmp, thresh, cap) (by simp)
    simp only at h1 h2
    simp only [initBits] at hy
    split at hy
    · simp only [List.mem_cons] at hy
      rcases hy with rfl | hy
      · split <;> omega
      · exact ih false (fun x hx => h x (by simp [hx])) y hy
    · simp only [List.mem_cons] at hy
      rcases hy with rfl | hy
      · omega
      · exact ih true (fun x hx => h x (by simp [hx])) y hy

theorem trimmed_nonneg {x t : Int} (h : 0 ≤ x) : 0 ≤ trimmed x t := by
  unfold trimmed; split <;> omega

theorem entAt_nonneg {p : Inp} (hp : Dom p) (mid : Nat) : ∀ x ∈ entAt p mid, 0 ≤ x.1 ∧ 0 ≤ x.2.2 := by
  intro x hx
  rw [entAt_eq] at hx
  simp only [List.mem_map, List.mem_reverse] at hx
  obtain ⟨b, hb, rfl⟩ := hx
  obtain ⟨_, _, hbe⟩ := mem_bands hb
  have hoff : 0 ≤ b.off := by rw [hbe]; exact hp.offs _
  refine ⟨?_, (band_ok hp hb).2.1⟩
  simp only [interpAt, interpPair]
  have hv : ∀ v, 0 ≤ trimmed (vecBits p v b) b.trim := fun v => trimmed_nonneg (by unfold vecBits; omega)
  have h1 : 0 ≤ (if lo1 p - 1 > 0 then trimmed (vecBits p (lo1 p - 1) b) b.trim + b.off
      else trimmed (vecBits p (lo1 p - 1) b) b.trim) := by
    have := hv (lo1 p - 1); split <;> omega
  generalize (if lo1 p - 1 > 0 then trimmed (vecBits p (lo1 p - 1) b) b.trim + b.off
      else trimmed (vecBits p (lo1 p - 1) b) b.trim) = b1 at *
  generalize (trimmed (if lo1 p ≥ nbAllocVectors then b.cap else vecBits p (lo1 p) b) b.trim + b.off - b1) = d
  have h2 : 0 ≤ (mid : Int) * max 0 d := Int.mul_nonneg (by omega) (by omega)
  have h3 : 0 ≤ (mid : Int) * max 0 d / 2 ^ ALLOC_STEPS := Int.ediv_nonneg h2 (by decide)
  omega

theorem bits0_length (p : Inp) : (bits0 p).length = (bands p).reverse.length := by
  unfold bits0
  rw [initBits_length, entAt_eq]; simp

theorem bits0_nonneg {p : Inp} (hp : Dom p) : ∀ y ∈ bits0 p, 0 ≤ y :=
  initBits_nonneg _ (Int.le_of_lt (floor_pos hp)) _ _ (entAt_nonneg hp _)

/-- the list the loop starts with: bands `end-1 … start` with their initial bits -/
def l0 (p : Inp) : List (Band × Int) := (bands p).reverse.zip (bits0 p)

/-- the band-skipping loop as `computeAllocation` runs it -/
def skipRun (p : Inp) (c : Coder) : Res SkipOut :=
  skipLoop p (skipStart p.start (bands p)) (skipRsv p) (l0 p) (sumInt (bits0 p)) (tot p) (irsv p) c []

/-- `computeAllocation` is the band-skipping loop on `l0` followed by `finishTail` -/
theorem computeAllocation_ok_iff (p : Inp) (c : Coder) (o : Out) :
    computeAllocation p c = .ok o ↔ ∃ s, skipRun p c = .ok s ∧ finishTail p s (dsrsv p) = o := by
  show (skipRun p c >>= fun s => pure (finishTail p s (dsrsv p))) = .ok o ↔ _
  cases skipRun p c <;> simp

theorem l0_fst (p : Inp) : (l0 p).map (·.1) = revBands p (p.end_ - p.start) := by
  unfold l0
  rw [← bands_reverse]
  exact List.map_fst_zip (Nat.le_of_eq (bits0_length p).symm)

theorem table_le : ∀ i, log2FracTable.getD i 0 ≤ 37 := by
  intro i
  by_cases h : i < 24
  · revert i; decide
  · have : log2FracTable.length = 24 := by decide
    simp [List.getD, List.getElem?_eq_none (by omega : log2FracTable.length ≤ i)]

theorem table_ge8 : ∀ i, i < 24 → 1 ≤ i → 8 ≤ log2FracTable.getD i 0 := by decide

theorem tot_le_tot0 (p : Inp) : tot p ≤ tot0 p ∧ tot0 p = tot p + skipRsv p + irsv p + dsrsv p := by
  obtain ⟨h1, h2, h3, _, h5, h6⟩ := resv_facts p
  have := table_le (p.end_ - p.start)
  omega

theorem irsv_facts {p : Inp} (hp : Dom p) :
    0 ≤ irsv p ∧ irsv p ≤ 37 ∧ (0 < irsv p → irsv p = (log2FracTable.getD (p.end_ - p.start) 0 : Int)) ∧
    (skipRsv p = 8 ∨ (skipRsv p = 0 ∧ irsv p = 0)) ∧ (skipRsv p = 0 → tot p < 8) ∧
    (dsrsv p = 0 ∨ dsrsv p = 8) := by
  obtain ⟨h1, h2, h3, h4, h5, h6⟩ := resv_facts p
  have h37 := table_le (p.end_ - p.start)
  have h8 := table_ge8 (p.end_ - p.start)
    (by have := hp.hse; have := hp.hend; have : nbEBands = 21 := rfl; omega) (by have := hp.hse; omega)
  refine ⟨by omega, by omega, fun h => by omega, ?_, by omega, by omega⟩
  rcases h1 with h1 | h1
  · exact Or.inl h1.1
  · refine Or.inr ⟨h1.1, ?_⟩
    rcases h3 with h3 | ⟨hC, h3, _⟩
    · exact h3
    · exact h4 hC (by omega)

theorem l0_inv {p : Inp} (hp : Dom p) : LoopInv p (irsv p) (l0 p) (sumInt (bits0 p)) (tot p) (irsv p) := by
  have h21 : nbEBands = 21 := rfl
  have hn : p.start + (p.end_ - p.start) ≤ 21 := by have := hp.hse; have := hp.hend; omega
  obtain ⟨f1, f2⟩ := revBands_facts p (p.end_ - p.start) hn
  obtain ⟨i0, i37, ihd, _, _, _⟩ := irsv_facts hp
  obtain ⟨m, hm⟩ : ∃ m, p.end_ - p.start = m + 1 := ⟨p.end_ - p.start - 1, by have := hp.hse; omega⟩
  have hhead : ∀ x, (l0 p).head? = some x → x.1 = mkBand p (p.start + m) := by
    intro x hx
    have : ((l0 p).map (·.1)).head? = some x.1 := by rw [List.head?_map, hx]; rfl
    rw [l0_fst, hm] at this
    simp only [revBands, List.head?_cons, Option.some.injEq] at this
    exact this.symm
  refine ⟨by unfold Desc; rw [l0_fst]; exact f1, ?_, ?_, bits0_sum_le hp, ?_, ?_, ⟨i0, Int.le_refl _, by omega⟩,
    fun h => h, ?_, ?_⟩
  · intro x hx
    have hm : x.1 ∈ bands p := by
      rw [← List.mem_reverse, bands_reverse, ← l0_fst]; exact List.mem_map_of_mem hx
    have := hp.hend
    exact ⟨(mem_bands hm).1, by have := (mem_bands hm).2.1; omega, (band_ok hp hm).1⟩
  · intro x hx
    exact bits0_nonneg hp x.2 (List.of_mem_zip hx).2
  · have := (tot_le_tot0 p).1
    have := hp.totB
    unfold tot0 at *
    omega
  · unfold l0
    rw [sumBits_zip _ _ (bits0_length p).symm]
    omega
  · intro hpos x hx
    rw [hhead x hx, ihd hpos]
    simp only [mkBand]
    congr 2; omega
  · intro x hx
    rw [sumW_eq, l0_fst, f2, hhead x hx]
    obtain ⟨_, _, _, e4⟩ := mkBand_edges p (p.start + m) (by omega) (by omega)
    rw [e4]; congr 2; omega

theorem l0_hex {p : Inp} (hp : Dom p) : ∃ x ∈ l0 p, x.1.j ≤ skipStart p.start (bands p) := by
  have hmem : mkBand p p.start ∈ (l0 p).map (·.1) := by
    rw [l0_fst, ← bands_reverse]; simp only [List.mem_reverse]; exact first_band_mem hp.hse
  simp only [List.mem_map] at hmem
  obtain ⟨x, hx, he⟩ := hmem
  refine ⟨x, hx, ?_⟩
  rw [he]
  exact skipStart_ge _ _ (fun b hb => (mem_bands hb).1)

end OpusProofs.CeltAlloc
