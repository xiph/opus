import OpusModel.ResetState
/-
  OpusProofs.ResetState — lemmas behind OpusProps.C12.  The members no call writes after init are an
  invariant of reachable states; given it, a reset object and a new one with the same settings have
  the same `view`; and every operation (set / get / reset / encode footprint) answers from the view
  alone and maps equal views to equal views, so equal views stay indistinguishable.  (Decoder: OpusProofs/ResetDecode.lean.)
-/
namespace Opus.ResetState

/-- Members that never change after `opus_encoder_init` (no request, reset or encode writes them). -/
structure Inv (s : Enc) : Prop where
  delay : s.delayCompensation = s.fs / 250
  buffer : s.encoderBuffer = s.fs / 100
  celtCh : s.celt.channels = s.channels
  celtClip : s.celt.clip = 1
  celtUp : s.celt.upsample = resamplingFactor s.fs
  celtSig : s.celt.signalling = 0
  celtArch : s.celt.arch = s.arch

theorem inv_init (fs ch app arch so co : Int) : Inv (encInit fs ch app arch so co) :=
  ⟨rfl, rfl, rfl, rfl, rfl, rfl, rfl⟩

theorem inv_reset {s : Enc} (h : Inv s) : Inv (encReset s) :=
  { h with }

theorem inv_withSettings {s : Enc} (c : Settings) (h : Inv s) : Inv (withSettings s c) :=
  { h with }

theorem inv_setApply {s : Enc} (k : SetReq) (v : Int) (h : Inv s) : Inv (setApply s k v) := by
  cases k <;> exact { h with }

theorem encSet_some {s s' : Enc} {req v : Int} (h : encSet s req v = some s') :
    ∃ k, setAccept (view s) k v = true ∧ s' = setApply s k v := by
  unfold encSet at h
  split at h
  · unfold encSetK at h
    split at h
    · exact ⟨_, ‹_›, (Option.some.inj h).symm⟩
    · cases h
  · cases h

theorem inv_encSet {s s' : Enc} {req v : Int} (h : Inv s) (hs : encSet s req v = some s') : Inv s' := by
  obtain ⟨k, -, rfl⟩ := encSet_some hs
  exact inv_setApply _ _ h

theorem inv_encodeStep (O : Oracles) {s : Enc} (x : Inp) (h : Inv s) : Inv (encodeStep O s x).1 := by
  unfold encodeStep
  simp only []
  split
  · exact { h with }
  · exact { h with }
  · split <;> exact { h with }

/-- States reachable from `opus_encoder_init` by any sequence of accepted OPUS_SET_* requests,
    OPUS_RESET_STATE and encode calls (for any oracle behaviour and any input). -/
inductive Reach : Enc → Prop
  | init (fs ch app arch so co : Int) : Reach (encInit fs ch app arch so co)
  | set {s s' : Enc} (req v : Int) : Reach s → encSet s req v = some s' → Reach s'
  | reset {s : Enc} : Reach s → Reach (encReset s)
  | encode {s : Enc} (O : Oracles) (x : Inp) : Reach s → Reach (encodeStep O s x).1

theorem reach_inv {s : Enc} (h : Reach s) : Inv s := by
  induction h with
  | init => exact inv_init ..
  | set req v _ hs ih => exact inv_encSet ih hs
  | reset _ ih => exact inv_reset ih
  | encode O x _ ih => exact inv_encodeStep O x ih

theorem view_reset_eq_fresh {s : Enc} (h : Inv s) :
    view (encReset s) = view (encFresh s.fs s.channels s.arch s.silkEncOffset s.celtEncOffset (settingsOf s)) := by
  obtain ⟨h1, h2, h3, h4, h5, h6, h7⟩ := h
  simp [view, encReset, encFresh, withSettings, settingsOf, encInit, silkCtlInit, celtCfgInit,
        MODE_SILK_ONLY, MODE_HYBRID, h1, h2, h3, h4, h5, h6, h7]

/-! ### Every operation factors through the view

  Each operation reads the object through `view` only, and what it leaves in the view is a function of the old view:
  `view` is a homomorphism onto the machine `View.set` / `View.reset` / `View.step` below, which repeats the operations
  at view level.  That two objects with the same view answer every call sequence alike is then immediate. -/

def View.set (w : View) : SetReq → Int → View
  | .application, v => { w with application := v, analysisApp := v }
  | .bitrate, v =>
    { w with userBitrateBps :=
        if v ≠ OPUS_AUTO ∧ v ≠ -1 then (if v ≤ 500 then 500 else if v > 300000 * w.channels then 300000 * w.channels else v)
        else v }
  | .forceChannels, v => { w with forceChannels := v }
  | .maxBandwidth, v => { w with maxBandwidth := v }
  | .bandwidth, v => { w with userBandwidth := v }
  | .dtx, v => { w with useDtx := v }
  | .complexity, v => { w with complexity := v, celtComplexity := v }
  | .inbandFec, v => { w with fecConfig := v, useInBandFEC := if v ≠ 0 then 1 else 0 }
  | .packetLoss, v => { w with packetLossPercentage := v, celtLossRate := v }
  | .vbr, v => { w with useVbr := v }
  | .vbrConstraint, v => { w with vbrConstraint := v }
  | .signal, v => { w with signalType := v }
  | .lsbDepth, v => { w with lsbDepth := v }
  | .frameDuration, v => { w with variableDuration := v }
  | .predictionDisabled, v => { w with reducedDependency := v }
  | .phaseInversionDisabled, v => { w with celtDisableInv := v }
  | .forceMode, v => { w with userForcedMode := v }
  | .lfe, v => { w with lfe := v, celtLfe := v }

theorem view_setApply (s : Enc) (k : SetReq) (v : Int) : view (setApply s k v) = (view s).set k v := by
  cases k <;> rfl

/-- What OPUS_RESET_STATE does to the view: every gated member is closed. -/
def View.reset (w : View) : View :=
  { w with
    analysis := .fresh, hpMem := .fresh, prevMode := 0, prevChannels := 0, prevFramesize := 0, autoBandwidth := 0,
    silkBwSwitch := 0, energyMasking := 0, widthMem := .fresh, delayBuffer := .fresh, detectedBandwidth := 0,
    nbNoActivityMsQ1 := 0, peakSignalEnergy := 0, nonfinalFrame := 0, rangeFinal := 0, celtState := .fresh,
    silkState := .fresh, streamChannels := w.channels, hybridStereoWidthQ14 := 16384, prevHBgain := Q15ONE_BITS,
    first := 1, mode := MODE_HYBRID, bandwidth := BW_FB, variableHPsmth2Q15 := HP_SMTH2_INIT, voiceRatio := -1,
    lbrrCoded := 0, allowBandwidthSwitch := 0, inWBmodeWithoutVariableLP := 0, celtDisablePf := 0, celtForceIntra := 0,
    toMonoGated := 0, useDTXGated := 0, nChannelsInternalGated := 0, opusCanSwitchGated := 0 }

theorem view_encReset (s : Enc) : view (encReset s) = (view s).reset := rfl

theorem isSilkMode_iff (m : Int) : isSilkMode m = true ↔ (m = MODE_SILK_ONLY ∨ m = MODE_HYBRID) := by
  simp [isSilkMode]

/-- `encodeStep` on the view.  A gated member is what the new gate lets through of the new member. -/
def View.step (O : Oracles) (w : View) (x : Inp) : View × Out :=
  match O.path w x with
  | .entryError => ({ w with rangeFinal := 0 }, O.out w x)
  | .lowBudget =>
    let a := O.phaseA w x
    ({ w with rangeFinal := 0, analysis := a.analysis, peakSignalEnergy := a.peakSignalEnergy,
              voiceRatio := a.voiceRatio, detectedBandwidth := a.detectedBandwidth, widthMem := a.widthMem }, O.out w x)
  | p =>
    let a := O.phaseA w x
    let b := O.phaseB w a x
    let ran : Bool := match p with
      | .full => b.silkRan || isSilkMode b.prevMode
      | _ => b.silkRan
    let w1 : View :=
      { w with
        analysis := a.analysis, peakSignalEnergy := a.peakSignalEnergy, voiceRatio := a.voiceRatio, widthMem := a.widthMem,
        detectedBandwidth := b.detectedBandwidth, streamChannels := b.streamChannels, mode := b.mode,
        bandwidth := b.bandwidth, autoBandwidth := b.autoBandwidth, lbrrCoded := b.lbrrCoded,
        allowBandwidthSwitch := if ran then b.silkMode.allowBandwidthSwitch else w.allowBandwidthSwitch,
        inWBmodeWithoutVariableLP := if ran then b.silkMode.inWBmodeWithoutVariableLP else w.inWBmodeWithoutVariableLP,
        silkState := if ran then b.silkState else w.silkState, celtState := b.celtState,
        celtForceIntra := b.celt.forceIntra, celtDisablePf := b.celt.disablePf,
        hybridStereoWidthQ14 := b.hybridStereoWidthQ14, variableHPsmth2Q15 := b.variableHPsmth2Q15,
        prevHBgain := b.prevHBgain, hpMem := b.hpMem, delayBuffer := b.delayBuffer, silkBwSwitch := b.silkBwSwitch,
        nonfinalFrame := b.nonfinalFrame, rangeFinal := b.rangeFinal,
        -- SILK did not run: its state, hence the gate, and `opusCanSwitch` are as before
        opusCanSwitchGated := if ran then (if b.silkState = .fresh then 0 else b.silkMode.opusCanSwitch) else w.opusCanSwitchGated }
    match p with
    | .full =>
      ({ w1 with
         prevMode := b.prevMode, prevChannels := b.prevChannels, prevFramesize := b.prevFramesize, first := 0,
         nbNoActivityMsQ1 := b.nbNoActivityMsQ1,
         toMonoGated := if b.prevChannels = 2 then b.toMono else 0,
         useDTXGated := if b.prevMode = MODE_SILK_ONLY ∨ b.prevMode = MODE_HYBRID ∨ b.nbNoActivityMsQ1 ≠ 0 ∨ w1.silkState ≠ .fresh
                        then b.useDTX else 0,
         -- a completed SILK / hybrid frame ran SILK, which assigned nChannelsInternal
         nChannelsInternalGated := if b.prevMode = MODE_SILK_ONLY ∨ b.prevMode = MODE_HYBRID then b.silkMode.nChannelsInternal else 0 },
       O.out w x)
    | _ =>
      ({ w1 with
         prevChannels := b.streamChannels,
         toMonoGated := if b.streamChannels = 2 then b.toMono else 0,
         useDTXGated := if w.prevMode = MODE_SILK_ONLY ∨ w.prevMode = MODE_HYBRID ∨ w.nbNoActivityMsQ1 ≠ 0 ∨ w1.silkState ≠ .fresh
                        then b.useDTX else 0,
         -- `prev_mode`, hence the gate, is not updated on this path; the member is assigned only when SILK ran
         nChannelsInternalGated :=
           if ran then (if w.prevMode = MODE_SILK_ONLY ∨ w.prevMode = MODE_HYBRID then b.silkMode.nChannelsInternal else 0)
           else w.nChannelsInternalGated },
       O.out w x)

theorem view_encodeStep (O : Oracles) (s : Enc) (x : Inp) :
    view (encodeStep O s x).1 = (View.step O (view s) x).1 ∧ (encodeStep O s x).2 = (View.step O (view s) x).2 := by
  unfold encodeStep View.step
  simp only []
  cases hp : O.path (view s) x <;> simp only []
  · exact ⟨rfl, trivial⟩
  · exact ⟨rfl, trivial⟩
  · cases hr : (O.phaseB (view s) (O.phaseA (view s) x) x).silkRan <;> exact ⟨rfl, trivial⟩
  · -- at least one frame completed: SILK ran if the oracle says so or the frame left `prev_mode` SILK / hybrid
    generalize O.phaseB (view s) (O.phaseA (view s) x) x = b
    generalize O.phaseA (view s) x = a
    -- with the gates as Booleans both sides compute
    simp only [view, ← isSilkMode_iff]
    cases b.silkRan <;> cases isSilkMode b.prevMode <;> exact ⟨rfl, trivial⟩

theorem encodeStep_congr (O : Oracles) {a b : Enc} (x : Inp) (h : view a = view b) :
    view (encodeStep O a x).1 = view (encodeStep O b x).1 ∧ (encodeStep O a x).2 = (encodeStep O b x).2 := by
  rw [(view_encodeStep O a x).1, (view_encodeStep O a x).2, (view_encodeStep O b x).1, (view_encodeStep O b x).2, h]
  exact ⟨rfl, rfl⟩

theorem runOp_congr (O : Oracles) (G : GetOracle) {a b : Enc} (op : Op) (h : view a = view b) :
    view (runOp O G a op).1 = view (runOp O G b op).1 ∧ (runOp O G a op).2 = (runOp O G b op).2 := by
  cases op with
  | set req v =>
    simp only [runOp, encSet]
    cases SetReq.ofId req with
    | none => exact ⟨h, rfl⟩
    | some k =>
      simp only [encSetK, h]
      cases setAccept (view b) k v
      · exact ⟨h, rfl⟩
      · exact ⟨(view_setApply a k v).trans (h ▸ (view_setApply b k v).symm), rfl⟩
  | get req => simp only [runOp, encGet, h]; exact ⟨trivial, trivial⟩
  | reset => exact ⟨by simp only [runOp, view_encReset, h], rfl⟩
  | encode x =>
    have hc := encodeStep_congr O x h
    simp only [runOp]
    exact ⟨hc.1, by rw [hc.2]⟩

theorem run_congr (O : Oracles) (G : GetOracle) (ops : List Op) :
    ∀ {a b : Enc}, view a = view b → run O G a ops = run O G b ops := by
  induction ops with
  | nil => intros; rfl
  | cons op rest ih =>
    intro a b h
    have hc := runOp_congr O G op h
    simp only [run]
    rw [hc.2, ih hc.1]

/-! ### `ViewEq`

  The member-wise spelling of `view a = view b`, with its characterisation `viewEq_iff`; the proofs above work with
  `view a = view b` itself. -/

/-- `view a = view b`, member by member; the gated members as implications. -/
structure ViewEq (a b : Enc) : Prop where
  celtEncOffset : a.celtEncOffset = b.celtEncOffset
  silkEncOffset : a.silkEncOffset = b.silkEncOffset
  application : a.application = b.application
  channels : a.channels = b.channels
  delayCompensation : a.delayCompensation = b.delayCompensation
  forceChannels : a.forceChannels = b.forceChannels
  signalType : a.signalType = b.signalType
  userBandwidth : a.userBandwidth = b.userBandwidth
  maxBandwidth : a.maxBandwidth = b.maxBandwidth
  userForcedMode : a.userForcedMode = b.userForcedMode
  voiceRatio : a.voiceRatio = b.voiceRatio
  fs : a.fs = b.fs
  useVbr : a.useVbr = b.useVbr
  vbrConstraint : a.vbrConstraint = b.vbrConstraint
  variableDuration : a.variableDuration = b.variableDuration
  userBitrateBps : a.userBitrateBps = b.userBitrateBps
  lsbDepth : a.lsbDepth = b.lsbDepth
  encoderBuffer : a.encoderBuffer = b.encoderBuffer
  lfe : a.lfe = b.lfe
  arch : a.arch = b.arch
  useDtx : a.useDtx = b.useDtx
  fecConfig : a.fecConfig = b.fecConfig
  analysisApp : a.analysisApp = b.analysisApp
  analysis : a.analysis = b.analysis
  streamChannels : a.streamChannels = b.streamChannels
  hybridStereoWidthQ14 : a.hybridStereoWidthQ14 = b.hybridStereoWidthQ14
  variableHPsmth2Q15 : a.variableHPsmth2Q15 = b.variableHPsmth2Q15
  prevHBgain : a.prevHBgain = b.prevHBgain
  hpMem : a.hpMem = b.hpMem
  mode : a.mode = b.mode
  prevMode : a.prevMode = b.prevMode
  prevChannels : a.prevChannels = b.prevChannels
  prevFramesize : a.prevFramesize = b.prevFramesize
  bandwidth : a.bandwidth = b.bandwidth
  autoBandwidth : a.autoBandwidth = b.autoBandwidth
  silkBwSwitch : a.silkBwSwitch = b.silkBwSwitch
  first : a.first = b.first
  energyMasking : a.energyMasking = b.energyMasking
  widthMem : a.widthMem = b.widthMem
  delayBuffer : a.delayBuffer = b.delayBuffer
  detectedBandwidth : a.detectedBandwidth = b.detectedBandwidth
  nbNoActivityMsQ1 : a.nbNoActivityMsQ1 = b.nbNoActivityMsQ1
  peakSignalEnergy : a.peakSignalEnergy = b.peakSignalEnergy
  nonfinalFrame : a.nonfinalFrame = b.nonfinalFrame
  rangeFinal : a.rangeFinal = b.rangeFinal
  packetLossPercentage : a.silkMode.packetLossPercentage = b.silkMode.packetLossPercentage
  complexity : a.silkMode.complexity = b.silkMode.complexity
  useInBandFEC : a.silkMode.useInBandFEC = b.silkMode.useInBandFEC
  useDRED : a.silkMode.useDRED = b.silkMode.useDRED
  reducedDependency : a.silkMode.reducedDependency = b.silkMode.reducedDependency
  lbrrCoded : a.silkMode.lbrrCoded = b.silkMode.lbrrCoded
  allowBandwidthSwitch : a.silkMode.allowBandwidthSwitch = b.silkMode.allowBandwidthSwitch
  inWBmodeWithoutVariableLP : a.silkMode.inWBmodeWithoutVariableLP = b.silkMode.inWBmodeWithoutVariableLP
  celtChannels : a.celt.channels = b.celt.channels
  celtForceIntra : a.celt.forceIntra = b.celt.forceIntra
  celtClip : a.celt.clip = b.celt.clip
  celtDisablePf : a.celt.disablePf = b.celt.disablePf
  celtComplexity : a.celt.complexity = b.celt.complexity
  celtUpsample : a.celt.upsample = b.celt.upsample
  celtSignalling : a.celt.signalling = b.celt.signalling
  celtLossRate : a.celt.lossRate = b.celt.lossRate
  celtLfe : a.celt.lfe = b.celt.lfe
  celtDisableInv : a.celt.disableInv = b.celt.disableInv
  celtArch : a.celt.arch = b.celt.arch
  silkState : a.silkState = b.silkState
  celtState : a.celtState = b.celtState
  toMono : b.prevChannels = 2 → a.silkMode.toMono = b.silkMode.toMono
  useDTX : (b.prevMode = MODE_SILK_ONLY ∨ b.prevMode = MODE_HYBRID ∨ b.nbNoActivityMsQ1 ≠ 0 ∨ b.silkState ≠ .fresh) → a.silkMode.useDTX = b.silkMode.useDTX
  nChInt : (b.prevMode = MODE_SILK_ONLY ∨ b.prevMode = MODE_HYBRID) → a.silkMode.nChannelsInternal = b.silkMode.nChannelsInternal
  canSwitch : b.silkState ≠ .fresh → a.silkMode.opusCanSwitch = b.silkMode.opusCanSwitch

/-- Gated members agree iff the members agree wherever the gate is open. -/
theorem gate_eq_iff {α : Type} {c : Prop} [Decidable c] {x y z : α} :
    (if c then x else z) = (if c then y else z) ↔ (c → x = y) := by
  split
  · exact ⟨fun h _ => h, fun h => h ‹_›⟩
  · exact ⟨fun _ hc => absurd hc ‹_›, fun _ => rfl⟩

theorem gate_not_eq_iff {α : Type} {c : Prop} [Decidable c] {x y z : α} :
    (if c then z else x) = (if c then z else y) ↔ (¬ c → x = y) := by
  split
  · exact ⟨fun _ hn => absurd ‹_› hn, fun _ => rfl⟩
  · exact ⟨fun h _ => h, fun h => h ‹_›⟩

theorem viewEq_iff {a b : Enc} : ViewEq a b ↔ view a = view b := by
  constructor
  · intro h
    -- rewrite every member of `a` the view reads into the member of `b` of the same name
    simp only [view, h.celtEncOffset, h.silkEncOffset, h.application, h.channels, h.delayCompensation, h.forceChannels, h.signalType,
      h.userBandwidth, h.maxBandwidth, h.userForcedMode, h.voiceRatio, h.fs, h.useVbr, h.vbrConstraint,
      h.variableDuration, h.userBitrateBps, h.lsbDepth, h.encoderBuffer, h.lfe, h.arch, h.useDtx, h.fecConfig,
      h.analysisApp, h.analysis, h.streamChannels, h.hybridStereoWidthQ14, h.variableHPsmth2Q15, h.prevHBgain, h.hpMem,
      h.mode, h.prevMode, h.prevChannels, h.prevFramesize, h.bandwidth, h.autoBandwidth, h.silkBwSwitch, h.first,
      h.energyMasking, h.widthMem, h.delayBuffer, h.detectedBandwidth, h.nbNoActivityMsQ1, h.peakSignalEnergy,
      h.nonfinalFrame, h.rangeFinal, h.packetLossPercentage, h.complexity, h.useInBandFEC, h.useDRED,
      h.reducedDependency, h.lbrrCoded, h.allowBandwidthSwitch, h.inWBmodeWithoutVariableLP, h.celtChannels,
      h.celtForceIntra, h.celtClip, h.celtDisablePf, h.celtComplexity, h.celtUpsample, h.celtSignalling,
      h.celtLossRate, h.celtLfe, h.celtDisableInv, h.celtArch, h.silkState, h.celtState,
      gate_eq_iff.2 h.toMono, gate_eq_iff.2 h.useDTX, gate_eq_iff.2 h.nChInt, gate_not_eq_iff.2 h.canSwitch]
  · intro h
    -- every member is read off `h` through the projection of `View` that carries its name
    have f : ∀ {α : Type} (p : View → α), p (view a) = p (view b) := fun p => congrArg p h
    have ePC : a.prevChannels = b.prevChannels := f View.prevChannels
    have ePM : a.prevMode = b.prevMode := f View.prevMode
    have eNA : a.nbNoActivityMsQ1 = b.nbNoActivityMsQ1 := f View.nbNoActivityMsQ1
    have eSS : a.silkState = b.silkState := f View.silkState
    have gM := f View.toMonoGated
    have gD := f View.useDTXGated
    have gN := f View.nChannelsInternalGated
    have gC := f View.opusCanSwitchGated
    simp only [view, ePC, ePM, eNA, eSS] at gM gD gN gC
    exact
      { celtEncOffset := f View.celtEncOffset, silkEncOffset := f View.silkEncOffset,
        application := f View.application, channels := f View.channels, delayCompensation := f View.delayCompensation,
        forceChannels := f View.forceChannels, signalType := f View.signalType, userBandwidth := f View.userBandwidth,
        maxBandwidth := f View.maxBandwidth, userForcedMode := f View.userForcedMode, voiceRatio := f View.voiceRatio,
        fs := f View.fs, useVbr := f View.useVbr, vbrConstraint := f View.vbrConstraint,
        variableDuration := f View.variableDuration, userBitrateBps := f View.userBitrateBps,
        lsbDepth := f View.lsbDepth, encoderBuffer := f View.encoderBuffer, lfe := f View.lfe, arch := f View.arch,
        useDtx := f View.useDtx, fecConfig := f View.fecConfig, analysisApp := f View.analysisApp,
        analysis := f View.analysis, streamChannels := f View.streamChannels,
        hybridStereoWidthQ14 := f View.hybridStereoWidthQ14, variableHPsmth2Q15 := f View.variableHPsmth2Q15,
        prevHBgain := f View.prevHBgain, hpMem := f View.hpMem, mode := f View.mode, prevMode := f View.prevMode,
        prevChannels := f View.prevChannels, prevFramesize := f View.prevFramesize, bandwidth := f View.bandwidth,
        autoBandwidth := f View.autoBandwidth, silkBwSwitch := f View.silkBwSwitch, first := f View.first,
        energyMasking := f View.energyMasking, widthMem := f View.widthMem, delayBuffer := f View.delayBuffer,
        detectedBandwidth := f View.detectedBandwidth, nbNoActivityMsQ1 := f View.nbNoActivityMsQ1,
        peakSignalEnergy := f View.peakSignalEnergy, nonfinalFrame := f View.nonfinalFrame,
        rangeFinal := f View.rangeFinal, packetLossPercentage := f View.packetLossPercentage,
        complexity := f View.complexity, useInBandFEC := f View.useInBandFEC, useDRED := f View.useDRED,
        reducedDependency := f View.reducedDependency, lbrrCoded := f View.lbrrCoded,
        allowBandwidthSwitch := f View.allowBandwidthSwitch,
        inWBmodeWithoutVariableLP := f View.inWBmodeWithoutVariableLP, celtChannels := f View.celtChannels,
        celtForceIntra := f View.celtForceIntra, celtClip := f View.celtClip, celtDisablePf := f View.celtDisablePf,
        celtComplexity := f View.celtComplexity, celtUpsample := f View.celtUpsample,
        celtSignalling := f View.celtSignalling, celtLossRate := f View.celtLossRate, celtLfe := f View.celtLfe,
        celtDisableInv := f View.celtDisableInv, celtArch := f View.celtArch, silkState := f View.silkState,
        celtState := f View.celtState,
        toMono := gate_eq_iff.1 gM, useDTX := gate_eq_iff.1 gD, nChInt := gate_eq_iff.1 gN,
        canSwitch := gate_not_eq_iff.1 gC }

theorem viewEq_refl (a : Enc) : ViewEq a a := viewEq_iff.2 rfl

end Opus.ResetState
