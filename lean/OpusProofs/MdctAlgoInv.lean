import OpusProofs.MdctAlgo
/-
  OpusProofs.MdctAlgoInv — clt_mdct_backward_c (celt/mdct.c:268-371) as definitions over ℝ: it computes the textbook
  IMDCT (`Opus.MdctR.imdct`) and overlap-adds it under the low-overlap window with the tail the previous call left in
  the buffer; hence clt_mdct_forward_c on consecutive frames followed by clt_mdct_backward_c with the output buffer
  carried from call to call returns the input times `codeGain`, i.e. the input itself for a power-complementary window
  and within 2⁻²³ relative for the regenerated CELT window.

  `backwardRaw` / `backwardR` are the real-number twins of `Opus.Mdct.backward` (lean/OpusModel/Mdct.lean): same
  pre-rotation with swapped real/imaginary parts, the N/4-point FFT as the DFT it computes, same post-rotation and
  de-shuffle, same "mirror on both sides for TDAC" loop.
-/
namespace Opus.MdctAlgo
open Finset Real Opus.MdctR Opus.MdctWindow

/-- The value the post-rotation loop of clt_mdct_backward_c (mdct.c:318-351) writes at `out[overlap/2 + n]`,
    `n < N/2`, from coefficients `X`. -/
noncomputable def backwardRaw (N : ℕ) (X : ℕ → ℝ) (n : ℕ) : ℝ :=
  let N2 := N / 2
  let N4 := N / 4
  -- pre-rotation (mdct.c:286-314): x1 = *xp1 (+= 2), x2 = *xp2 (-= 2)
  let yr := fun i => X (N2 - 1 - 2 * i) * trigR N i + X (2 * i) * trigR N (N4 + i)
  let yi := fun i => X (2 * i) * trigR N i - X (N2 - 1 - 2 * i) * trigR N (N4 + i)
  -- real and imaginary parts are swapped on purpose: yp[2*rev+1] = yr, yp[2*rev] = yi
  let gr := dftRe N4 yi yr
  let gi := dftIm N4 yi yr
  -- post-rotation: re = G.i, im = G.r;  buf[2j] = re·t0 + im·t1,  buf[N2-1-2j] = re·t1 − im·t0
  if n % 2 = 0 then
    gi (n / 2) * trigR N (n / 2) + gr (n / 2) * trigR N (N4 + n / 2)
  else
    gi ((N2 - 1 - n) / 2) * trigR N (N4 + (N2 - 1 - n) / 2) - gr ((N2 - 1 - n) / 2) * trigR N ((N2 - 1 - n) / 2)

/-- clt_mdct_backward_c: the output buffer (`N/2 + overlap` samples) after the call, `old` being its content before
    the call. -/
noncomputable def backwardR (N overlap : ℕ) (w X old : ℕ → ℝ) (t : ℕ) : ℝ :=
  let N2 := N / 2
  let ov2 := overlap / 2
  -- after the post-rotation: out[ov2 .. ov2+N2) overwritten, the rest untouched
  let pre := fun s => if ov2 ≤ s ∧ s < ov2 + N2 then backwardRaw N X (s - ov2) else old s
  -- mirror on both sides for TDAC (mdct.c:354-370): i < ov2, x1 = out[overlap-1-i], x2 = out[i]
  if t < ov2 then pre t * w (overlap - 1 - t) - pre (overlap - 1 - t) * w t
  else if t < overlap then pre (overlap - 1 - t) * w (overlap - 1 - t) + pre t * w t
  else pre t

/-- **The post-rotation output is the middle half of the IMDCT.** -/
theorem backwardRaw_eq_imdct (Q : ℕ) (hQ : 0 < Q) (X : ℕ → ℝ) (n : ℕ) (hn : n < 2 * Q) :
    backwardRaw (4 * Q) X n = imdct (2 * Q) X (Q + n) := by
  have e2 : 4 * Q / 2 = 2 * Q := by omega
  have e4 : 4 * Q / 4 = Q := by omega
  unfold backwardRaw
  simp only [e2, e4]
  -- the FFT input is the pre-rotation of a_i = X(2i), b_i = X(M − 1 − 2i)
  by_cases hpar : n % 2 = 0
  · rw [if_pos hpar]
    obtain ⟨p, rfl⟩ : ∃ p, n = 2 * p := ⟨n / 2, by omega⟩
    have hp : 2 * p / 2 = p := by omega
    rw [hp, imdct_eq_dct4 Q hQ X (2 * p) (2 * Q - 1 - 2 * p) (by omega), dct4_odd Q hQ X p (2 * Q - 1 - 2 * p) (by omega)]
    exact rot_core_im Q hQ (fun i => X (2 * i)) (fun i => X (2 * Q - 1 - 2 * i)) p
  · rw [if_neg hpar]
    obtain ⟨p, hp⟩ : ∃ p, n + 2 * p + 1 = 2 * Q := ⟨(2 * Q - 1 - n) / 2, by omega⟩
    have hp' : (2 * Q - 1 - n) / 2 = p := by omega
    rw [hp', imdct_eq_dct4 Q hQ X n (2 * p) (by omega), dct4_even Q hQ X p, ← neg_sub]
    exact congrArg Neg.neg (rot_core_re Q hQ (fun i => X (2 * i)) (fun i => X (2 * Q - 1 - 2 * i)) p)

theorem imdct_alias_lo (Q : ℕ) (hQ : 0 < Q) (X : ℕ → ℝ) (n n' : ℕ) (h : n + n' + 1 = 2 * Q) :
    imdct (2 * Q) X n' = - imdct (2 * Q) X n := by
  unfold imdct
  rw [← sum_neg_distrib]
  refine sum_congr rfl fun k _ => ?_
  rw [kern_eq_c4, kern_eq_c4, c4_reflect (2 * Q) (n + Q) (n' + Q) k (by omega) (by omega)]
  ring

theorem imdct_alias_hi (Q : ℕ) (hQ : 0 < Q) (X : ℕ → ℝ) (n n' : ℕ) (h : n + n' + 1 = 6 * Q) :
    imdct (2 * Q) X n' = imdct (2 * Q) X n := by
  unfold imdct
  refine sum_congr rfl fun k _ => ?_
  rw [kern_eq_c4, kern_eq_c4, c4_reflect2 (2 * Q) (n + Q) (n' + Q) k (by omega) (by omega)]

/-- The un-mirrored tail: after any call, `out[N/2 + i]`, `i < overlap/2`, holds `IMDCT(X)[3Q − h + i]`
    (the next call, whose buffer starts `N/2` samples later, finds it at `out[i]`). -/
theorem backward_tail (Q h : ℕ) (hQ : 0 < Q) (hh : h ≤ Q) (w X old : ℕ → ℝ) (i : ℕ) (hi : i < h) :
    backwardR (4 * Q) (2 * h) w X old (2 * Q + i) = imdct (2 * Q) X (3 * Q - h + i) := by
  unfold backwardR
  have e2 : 4 * Q / 2 = 2 * Q := by omega
  have eh : 2 * h / 2 = h := by omega
  simp only [e2, eh]
  rw [if_neg (by omega), if_neg (by omega), if_pos (by omega), backwardRaw_eq_imdct Q hQ X _ (by omega)]
  congr 1; omega

/-- **clt_mdct_backward_c = IMDCT + windowed overlap-add** with the tail the previous call left. -/
theorem backward_overlap_add (Q h : ℕ) (hQ : 0 < Q) (hh : h ≤ Q) (w X Xprev old : ℕ → ℝ)
    (hold : ∀ i, i < h → old i = imdct (2 * Q) Xprev (3 * Q - h + i)) (t : ℕ) (ht : t < 2 * Q) :
    backwardR (4 * Q) (2 * h) w X old t
      = extWindow (2 * Q) (2 * h) w (t + (Q - h)) * imdct (2 * Q) X (t + (Q - h))
        + extWindow (2 * Q) (2 * h) w (t + (Q - h) + 2 * Q) * imdct (2 * Q) Xprev (t + (Q - h) + 2 * Q) := by
  obtain ⟨z, rfl⟩ := Nat.exists_eq_add_of_le hh
  have hz : 2 * (h + z) = 2 * h + 2 * z := Nat.mul_add 2 h z
  have e2 : 4 * (h + z) / 2 = 2 * (h + z) := by omega
  have eh : 2 * h / 2 = h := by omega
  unfold backwardR
  simp only [e2, eh, Nat.add_sub_cancel_left]
  by_cases c1 : t < h
  · -- out[t] is mirrored from the carried tail out[t] and the new sample out[overlap − 1 − t]
    rw [if_pos c1, if_neg (by omega), if_pos (by omega), hold t c1, backwardRaw_eq_imdct _ hQ X _ (by omega),
      extWindow_rise w hz (j := t) (by omega) (by omega),
      extWindow_fall w hz (j := t) (k := 2 * h - 1 - t) (by omega) (by omega),
      imdct_alias_lo (h + z) hQ X (h + z + (2 * h - 1 - t - h)) (t + z) (by omega)]
    have a : t + z + 2 * (h + z) = 3 * (h + z) - h + t := by omega
    rw [a]; ring
  · rw [if_neg c1]
    by_cases c2 : t < 2 * h
    · -- … and here from the new sample out[t] and the carried out[overlap − 1 − t]
      rw [if_pos c2, if_neg (by omega), if_pos (by omega), hold _ (by omega), backwardRaw_eq_imdct _ hQ X _ (by omega),
        extWindow_rise w hz (j := t) (by omega) c2,
        extWindow_fall w hz (j := t) (k := 2 * h - 1 - t) (by omega) (by omega),
        imdct_alias_hi (h + z) hQ Xprev (3 * (h + z) - h + (2 * h - 1 - t)) (t + z + 2 * (h + z)) (by omega)]
      have a : h + z + (t - h) = t + z := by omega
      rw [a]; ring
    · rw [if_neg c2, if_pos (by omega), backwardRaw_eq_imdct _ hQ X _ (by omega),
        extWindow_flat w hz (j := t) (by omega) (by omega) ht, extWindow_hi w hz (by omega)]
      have a : h + z + (t - h) = t + z := by omega
      rw [a]; ring

/-- The block of frame `s` is the window times the signal: `blockR` of the input buffer `x(s + z + ·)`. -/
theorem blockR_eq (Q q : ℕ) (hq : 2 * q ≤ Q) (w x : ℕ → ℝ) (s n : ℕ) :
    blockR (2 * Q) (4 * q) w (fun j => x (s + (Q - 2 * q) + j)) n = extWindow (2 * Q) (4 * q) w n * x (s + n) := by
  have hz : 2 * Q = 4 * q + 2 * (Q - 2 * q) := by omega
  rw [blockR_eq_mul w _ hz]
  by_cases c : n < Q - 2 * q
  · rw [extWindow_lo w hz c, zero_mul, zero_mul]
  · have a : s + (Q - 2 * q) + (n - (Q - 2 * q)) = s + n := by omega
    rw [a]

/-- The output buffer of the second of two consecutive frames: clt_mdct_forward_c on the frames that start at samples
    `s` and `s + M` (`M = N/2`, input buffers `x(s + z + ·)`), then clt_mdct_backward_c on the first result into the
    buffer `old0` and on the second result into the buffer `M` samples further (as celt_decoder.c does). -/
noncomputable def codeOut (Q q : ℕ) (w x old0 : ℕ → ℝ) (scale : ℝ) (s : ℕ) : ℕ → ℝ :=
  let z := Q - 2 * q
  let Xa := forwardR (4 * Q) (4 * q) w (fun j => x (s + z + j)) scale
  let Xb := forwardR (4 * Q) (4 * q) w (fun j => x (s + 2 * Q + z + j)) scale
  let bufA := backwardR (4 * Q) (4 * q) w Xa old0
  backwardR (4 * Q) (4 * q) w Xb (fun i => bufA (2 * Q + i))

/-- **Code-level time-domain alias cancellation** (any window table): every sample of the second frame's output is
    `scale` times the overlap-add of the two windowed IMDCT∘MDCT blocks — expressed with `wola`, the quantity of
    `mdct_tdac`. -/
theorem celt_code_wola (Q q : ℕ) (hQ : 0 < Q) (hq : 2 * q ≤ Q) (w x old0 : ℕ → ℝ) (scale : ℝ) (s t : ℕ) (ht : t < 2 * Q) :
    codeOut Q q w x old0 scale s t
      = scale * (wola (2 * Q) (extWindow (2 * Q) (4 * q) w) x (s + 2 * Q) (t + (Q - 2 * q))
                 + wola (2 * Q) (extWindow (2 * Q) (4 * q) w) x s (t + (Q - 2 * q) + 2 * Q)) := by
  have e : 4 * q = 2 * (2 * q) := by ring
  have hX : ∀ s' m, m < 2 * Q → forwardR (4 * Q) (4 * q) w (fun j => x (s' + (Q - 2 * q) + j)) scale m
      = scale * mdct (2 * Q) (fun n => extWindow (2 * Q) (4 * q) w n * x (s' + n)) m := by
    intro s' m hm
    rw [forward_eq_mdct Q q hQ hq w _ scale m hm]
    congr 2; funext n; exact blockR_eq Q q hq w x s' n
  -- the IMDCT only reads coefficients below M, and is linear
  have himdct : ∀ (X : ℕ → ℝ) (f : ℕ → ℝ) (n : ℕ), (∀ m, m < 2 * Q → X m = scale * f m) →
      imdct (2 * Q) X n = scale * imdct (2 * Q) f n := by
    intro X f n hX
    unfold imdct
    rw [mul_sum]
    refine sum_congr rfl fun k hk => ?_
    rw [hX k (mem_range.mp hk)]; ring
  unfold codeOut
  rw [e, backward_overlap_add Q (2 * q) hQ hq w _ _ _ (fun i hi => backward_tail Q (2 * q) hQ hq w _ old0 i hi) t ht,
    ← e, himdct _ _ _ (hX (s + 2 * Q)), himdct _ _ _ (hX s)]
  unfold wola
  ring

/-- The gain with which a sample comes back: `W(n)² + W(n+M)²` inside the first half of the block (where two
    blocks overlap), 1 in the part of the second half that is final after this call. -/
noncomputable def codeGain (Q q : ℕ) (w : ℕ → ℝ) (t : ℕ) : ℝ :=
  if t + (Q - 2 * q) < 2 * Q then
    extWindow (2 * Q) (4 * q) w (t + (Q - 2 * q)) ^ 2 + extWindow (2 * Q) (4 * q) w (t + (Q - 2 * q) + 2 * Q) ^ 2
  else 1

/-- **Forward → backward of the code, any window table**: with `scale = 1/(N/4)` (the code's `st->scale`) the
    second frame's output buffer holds the input sample times `codeGain` — all aliasing terms cancel. -/
theorem celt_code_gain (Q q : ℕ) (hQ : 0 < Q) (hq : 2 * q ≤ Q) (w x old0 : ℕ → ℝ) (s t : ℕ) (ht : t < 2 * Q) :
    codeOut Q q w x old0 (1 / (Q : ℝ)) s t = codeGain Q q w t * x (s + 2 * Q + (Q - 2 * q) + t) := by
  have hQ' : (Q : ℝ) ≠ 0 := by exact_mod_cast hQ.ne'
  have hz : 2 * Q = 4 * q + 2 * (Q - 2 * q) := by omega
  rw [celt_code_wola Q q hQ hq w x old0 _ s t ht]
  unfold codeGain
  generalize Q - 2 * q = z at hz ⊢
  by_cases c : t + z < 2 * Q
  · -- the sample lies in the first half of block s+M: it overlaps the second half of block s
    rw [if_pos c, tdac_symm_at (2 * Q) _ x (extWindow_symm (2 * Q) (4 * q) w (by omega) ⟨z, by omega⟩) s (t + z) c]
    have : s + 2 * Q + (t + z) = s + 2 * Q + z + t := by ring
    rw [this]; push_cast; field_simp
  · -- the sample lies in the second half of block s+M, where the window is 1 and the neighbours' windows are 0
    rw [if_neg c]
    unfold wola
    rw [imdct_mdct_hi (2 * Q) _ (t + z) (by omega) (by omega),
      extWindow_flat w hz (j := t) (Nat.add_comm _ _) (by omega) ht, extWindow_hi w hz (n := t + z + 2 * Q) (by omega),
      extWindow_hi w hz (n := 3 * (2 * Q) - 1 - (t + z)) (by omega)]
    have : s + 2 * Q + (t + z) = s + 2 * Q + z + t := by ring
    rw [this]; push_cast; field_simp; ring

theorem codeGain_near_one (Q q : ℕ) (hq : 2 * q ≤ Q) (w : ℕ → ℝ) (ε : ℝ) (hε : 0 ≤ ε)
    (hpb : ∀ i, i < 4 * q → |w i ^ 2 + w (4 * q - 1 - i) ^ 2 - 1| ≤ ε) (t : ℕ) :
    |codeGain Q q w t - 1| ≤ ε := by
  unfold codeGain
  split
  · next c => exact extWindow_pc_le (2 * Q) (4 * q) w ε hε (by omega) ⟨Q - 2 * q, by omega⟩ hpb _ c
  · simpa using hε

theorem celt_code_tdac_approx (Q q : ℕ) (hQ : 0 < Q) (hq : 2 * q ≤ Q) (w x old0 : ℕ → ℝ) (ε : ℝ) (hε : 0 ≤ ε)
    (hpb : ∀ i, i < 4 * q → |w i ^ 2 + w (4 * q - 1 - i) ^ 2 - 1| ≤ ε) (s t : ℕ) (ht : t < 2 * Q) :
    |codeOut Q q w x old0 (1 / (Q : ℝ)) s t - x (s + 2 * Q + (Q - 2 * q) + t)|
      ≤ ε * |x (s + 2 * Q + (Q - 2 * q) + t)| := by
  rw [celt_code_gain Q q hQ hq w x old0 s t ht]
  exact abs_gain_sub_le (codeGain_near_one Q q hq w ε hε hpb t)

/-- Power-complementary short window ⇒ **the code reconstructs its input exactly**, every sample of the frame. -/
theorem celt_code_tdac (Q q : ℕ) (hQ : 0 < Q) (hq : 2 * q ≤ Q) (w x old0 : ℕ → ℝ)
    (hpb : ∀ i, i < 4 * q → w i ^ 2 + w (4 * q - 1 - i) ^ 2 = 1) (s t : ℕ) (ht : t < 2 * Q) :
    codeOut Q q w x old0 (1 / (Q : ℝ)) s t = x (s + 2 * Q + (Q - 2 * q) + t) := by
  have h := celt_code_tdac_approx Q q hQ hq w x old0 0 le_rfl (fun i hi => by rw [hpb i hi]; simp) s t ht
  rw [zero_mul] at h
  exact sub_eq_zero.mp (abs_nonpos_iff.mp h)

/-- **The static CELT mode**: transform sizes N = 1920, 960, 480, 240 (`N/4 = Q ∈ {480, 240, 120, 60}`) with the
    regenerated 120-sample window: forward → backward of the code returns the input within 2⁻²³ relative, in exact
    arithmetic.  `bufB` below is `codeOut Q 30 windowR x old0 (1 / Q) s` with its definition written out (the form in which
    OpusProps/C04.lean states it). -/
theorem celt_code_tdac_window (Q : ℕ) (hQ : 60 ≤ Q) (x old0 : ℕ → ℝ) (s t : ℕ) (ht : t < 2 * Q) :
    let z := Q - 60
    let scale : ℝ := 1 / (Q : ℝ)
    let Xa := forwardR (4 * Q) 120 windowR (fun j => x (s + z + j)) scale
    let Xb := forwardR (4 * Q) 120 windowR (fun j => x (s + 2 * Q + z + j)) scale
    let bufA := backwardR (4 * Q) 120 windowR Xa old0
    let bufB := backwardR (4 * Q) 120 windowR Xb (fun i => bufA (2 * Q + i))
    |bufB t - x (s + 2 * Q + z + t)| ≤ 1 / 2 ^ 23 * |x (s + 2 * Q + z + t)| :=
  celt_code_tdac_approx Q 30 (by omega) (by omega) windowR x old0 (1 / 2 ^ 23) (by positivity)
    (fun i hi => window_pc_real i (by simpa [Opus.Gen.Window.overlap] using hi)) s t ht

end Opus.MdctAlgo
