import OpusProofs.SilkResampBasic
/-
  OpusProofs.SilkResampInit — silk_resampler_init (silk/resampler.c:78-170) on all arguments: which rate pairs are
  accepted, the complete table of the 30 configurations it can produce, and the facts about those configurations the
  call theorems (OpusProofs/SilkResampCall.lean) need.  Everything over the finite table is `decide +kernel` on the
  whole table.
-/
namespace OpusProofs.SilkResamp
open Opus Opus.SilkResamp Opus.Gen.SilkResampRom

/-- The rate check of silk_resampler_init (:92-93 encoder, :99-100 decoder). -/
def accepted (fsIn fsOut : Int) (forEnc : Bool) : Bool :=
  if forEnc then isRate5 fsIn && isRate3 fsOut else isRate3 fsIn && isRate5 fsOut

/-- The documented pairs: encoder 8/12/16/24/48 kHz → 8/12/16 kHz, decoder 8/12/16 kHz → 8/12/16/24/48 kHz. -/
def pairs : List (Int × Int × Bool) :=
  [(8000, 8000, true), (8000, 12000, true), (8000, 16000, true), (12000, 8000, true), (12000, 12000, true),
   (12000, 16000, true), (16000, 8000, true), (16000, 12000, true), (16000, 16000, true), (24000, 8000, true),
   (24000, 12000, true), (24000, 16000, true), (48000, 8000, true), (48000, 12000, true), (48000, 16000, true),
   (8000, 8000, false), (8000, 12000, false), (8000, 16000, false), (8000, 24000, false), (8000, 48000, false),
   (12000, 8000, false), (12000, 12000, false), (12000, 16000, false), (12000, 24000, false), (12000, 48000, false),
   (16000, 8000, false), (16000, 12000, false), (16000, 16000, false), (16000, 24000, false), (16000, 48000, false)]

/-- The configurations silk_resampler_init computes for `pairs`, in the same order
    (fn, batchSize, invRatio_Q16, FIR_Order, FIR_Fracs, Fs_in_kHz, Fs_out_kHz, inputDelay, Coefs). -/
def cfgTable : List Cfg :=
  [⟨0, 80, 65536, 0, 0, 8, 8, 6, 0⟩, ⟨2, 80, 87382, 0, 0, 8, 12, 0, 0⟩, ⟨1, 80, 32768, 0, 0, 8, 16, 3, 0⟩,
   ⟨3, 120, 98304, 18, 2, 12, 8, 0, 2⟩, ⟨0, 120, 65536, 0, 0, 12, 12, 7, 0⟩, ⟨2, 120, 98304, 0, 0, 12, 16, 3, 0⟩,
   ⟨3, 160, 131072, 24, 1, 16, 8, 0, 3⟩, ⟨3, 160, 87382, 18, 3, 16, 12, 1, 1⟩, ⟨0, 160, 65536, 0, 0, 16, 16, 10, 0⟩,
   ⟨3, 240, 196608, 36, 1, 24, 8, 0, 4⟩, ⟨3, 240, 131072, 24, 1, 24, 12, 2, 3⟩, ⟨3, 240, 98304, 18, 2, 24, 16, 6, 2⟩,
   ⟨3, 480, 393216, 36, 1, 48, 8, 18, 6⟩, ⟨3, 480, 262144, 36, 1, 48, 12, 10, 5⟩, ⟨3, 480, 196608, 36, 1, 48, 16, 12, 4⟩,
   ⟨0, 80, 65536, 0, 0, 8, 8, 4, 0⟩, ⟨2, 80, 87382, 0, 0, 8, 12, 0, 0⟩, ⟨1, 80, 32768, 0, 0, 8, 16, 2, 0⟩,
   ⟨2, 80, 43691, 0, 0, 8, 24, 0, 0⟩, ⟨2, 80, 21846, 0, 0, 8, 48, 0, 0⟩, ⟨3, 120, 98304, 18, 2, 12, 8, 0, 2⟩,
   ⟨0, 120, 65536, 0, 0, 12, 12, 9, 0⟩, ⟨2, 120, 98304, 0, 0, 12, 16, 4, 0⟩, ⟨1, 120, 32768, 0, 0, 12, 24, 7, 0⟩,
   ⟨2, 120, 32768, 0, 0, 12, 48, 4, 0⟩, ⟨3, 160, 131072, 24, 1, 16, 8, 0, 3⟩, ⟨3, 160, 87382, 18, 3, 16, 12, 3, 1⟩,
   ⟨0, 160, 65536, 0, 0, 16, 16, 12, 0⟩, ⟨2, 160, 87382, 0, 0, 16, 24, 7, 0⟩, ⟨2, 160, 43691, 0, 0, 16, 48, 7, 0⟩]

/-- The state right after a successful init: the configuration, everything else zero (memset :88). -/
def fresh (c : Cfg) : RS := { cfg := c, sIIR := IIR.zero, sFIR := zeros szSFIRi32, delayBuf := zeros szDelayBuf }

theorem init_pairs_table :
    pairs.map (fun p => init p.1 p.2.1 p.2.2) = cfgTable.map (fun c => Res.ok (fresh c)) := by decide +kernel

theorem accepted_iff_mem (a b : Int) (e : Bool) : accepted a b e = true ↔ (a, b, e) ∈ pairs := by
  constructor
  · intro h
    cases e
    · simp only [accepted, isRate5, isRate3, Bool.false_eq_true, if_false, Bool.and_eq_true, Bool.or_eq_true,
        decide_eq_true_eq] at h
      rcases h with ⟨((h1 | h1) | h1), ((((h2 | h2) | h2) | h2) | h2)⟩ <;> subst h1 <;> subst h2 <;> decide
    · simp only [accepted, isRate5, isRate3, if_true, Bool.and_eq_true, Bool.or_eq_true,
        decide_eq_true_eq] at h
      rcases h with ⟨((((h1 | h1) | h1) | h1) | h1), ((h2 | h2) | h2)⟩ <;> subst h1 <;> subst h2 <;> decide
  · intro h
    have : ∀ p ∈ pairs, accepted p.1 p.2.1 p.2.2 = true := by decide +kernel
    exact this (a, b, e) h

theorem not_accepted {a b : Int} {e : Bool} (h : (a, b, e) ∉ pairs) : accepted a b e = false :=
  Bool.eq_false_iff.2 fun hacc => h ((accepted_iff_mem a b e).1 hacc)

theorem init_rejected (a b : Int) (e : Bool) (h : accepted a b e = false) : init a b e = .abort := by
  unfold accepted at h
  unfold init
  simp [h]

theorem initRet_rejected (a b : Int) (e : Bool) (h : accepted a b e = false) : initRet a b e = .ok (-1, RS.zero) := by
  unfold accepted at h
  unfold initRet
  simp [h]

theorem init_accepted (a b : Int) (e : Bool) (h : accepted a b e = true) :
    ∃ c ∈ cfgTable, init a b e = .ok (fresh c) := by
  have hm : init a b e ∈ pairs.map (fun p => init p.1 p.2.1 p.2.2) :=
    List.mem_map.2 ⟨(a, b, e), (accepted_iff_mem a b e).1 h, rfl⟩
  rw [init_pairs_table] at hm
  obtain ⟨c, hc, he⟩ := List.mem_map.1 hm
  exact ⟨c, hc, he.symm⟩

/-- `selectFn` finds a kernel for every pair that passed the rate check: the "None available" exit (:153-155) is dead. -/
theorem selectFn_isSome (a b : Int) (e : Bool) (h : accepted a b e = true) : (selectFn a b).isSome = true := by
  have hm := (accepted_iff_mem a b e).1 h
  have : ∀ p ∈ pairs, (selectFn p.1 p.2.1).isSome = true := by decide +kernel
  exact this (a, b, e) hm

/-- What the call theorems need of a configuration: rates in 2 .. 48 kHz, the delay at most 1 ms, batches of 10 ms, a
    positive increment, and one of the four kernels with what it needs. -/
structure CfgFacts (c : Cfg) : Prop where
  fsIn_gt : 1 < c.fsIn
  fsIn_le : c.fsIn ≤ 48
  delay_le : c.inputDelay ≤ c.fsIn
  batch : c.batchSize = 10 * c.fsIn
  inv_pos : 0 < c.invRatio
  fsOut_pos : 0 < c.fsOut
  fsOut_le : c.fsOut ≤ 48
  kernel : (c.fn = useCopy ∧ c.fsIn = c.fsOut) ∨ (c.fn = useUp2HQ ∧ c.fsOut = 2 * c.fsIn) ∨ c.fn = useIIRFIR ∨
    (c.fn = useDownFIR ∧ DownCfg c (coefsOf c.coefId))

instance (c : Cfg) (coefs : List Int) : Decidable (DownCfg c coefs) := by unfold DownCfg; infer_instance

instance (c : Cfg) : Decidable (CfgFacts c) :=
  decidable_of_iff (_ ∧ _ ∧ _ ∧ _ ∧ _ ∧ _ ∧ _ ∧ _)
    ⟨fun ⟨h1, h2, h3, h4, h5, h6, h7, h8⟩ => ⟨h1, h2, h3, h4, h5, h6, h7, h8⟩,
      fun h => ⟨h.1, h.2, h.3, h.4, h.5, h.6, h.7, h.8⟩⟩

theorem cfg_ok {c : Cfg} (hc : c ∈ cfgTable) : CfgFacts c :=
  (by decide +kernel : ∀ c ∈ cfgTable, CfgFacts c) c hc

end OpusProofs.SilkResamp
