import OpusProofs.LayoutMs
import OpusProofs.Layout
/-
  OpusProofs.MsPackets — a multistream packet as the list of its sub-packets (`msSerialize ps`, all but the last in
  self-delimited framing): how it decomposes at the head, what the parser sees there, what C10's validator accepts, when it
  is a byte string.

  `opus_multistream_decode_native` (opus_multistream_decoder.c:178-307) is transcribed three times and its validation pass
  `opus_multistream_packet_validate` (:149-176) twice.  None is defined through another; the first and the third are each
  compared with the C code by a correspondence run of their own, the second is linked to the first by a theorem:
  * `Opus.DecSkel.msDecode` / `msLoop` (C01): the per-stream calls are answered by an oracle; validator `DecSkel.msValidate`
    (`Int`, the C code literally: errors are negative values).  Proved of it: the return value is a documented one
    (OpusProofs.DecSkelMs).
  * `Opus.DecSkel.msDecodeFull` / `msFullLoop` (C01): the per-stream calls are the decoder skeleton `decodeNative`, one DSP
    oracle per stream; same validator.  Proved of it: decoder invariant, access bounds, durations (DecSkelMsFull),
    and that its return value and calls are those of the first (`msFullLoop_refines`).  The one to build on
    for anything about the decoder's interior.
  * `Opus.MsDecEq.msDecode` / `msLoop` (C10): the per-stream decoder is an arbitrary machine; validator C10's
    `Layout.msPacketValidate` (`Res Nat`).  Proved of it: the streams do not interfere, who is handed what (MsDecEq*).
    The one to build on for what holds of every elementary decoder.
  Three facts are needed of each and are proved per transcription, on its own syntax; the packet list is where they meet
  (the two validators are compared only through it: each accepts exactly the lists of valid packets of one duration):
  * what validation accepts: `Layout.msPacketValidate_packets` with converse `Layout.msPacketValidate_msSerialize` /
    `DecSkel.msValidate_packets` with converse `msValidate_msSerialize`;
  * what the early exits (:199-237) return and what passing them means: `MsDecEq.msEarly_spec`,
    `msEarly_accept` / `DecSkel.msExit_spec`, `msExit_accept`;
  * a stream that returns `> 0` has stepped over exactly its own sub-packet, so the `len <= 0` exit (:247-251) is not met:
    `MsDecEq.msLoop_accepted` / `DecSkel.MsHead.next` / by offsets (`msOffs`), `DecSkel.msLoop_ret`.
  The lemmas are in namespace `Opus.MsDecEq` whoever uses them.
-/
namespace Opus.MsDecEq
open Opus Opus.Framing Opus.FramingSpec Opus.FramingProofs Opus.Layout Opus.LayoutSpec

theorem serialize_length_pos (sd : Bool) (p : Packet) : 0 < (serialize sd p).length := by
  rw [serialize_shape]; simp

theorem msSerialize_pos (p : Packet) (ps : List Packet) : 0 < (msSerialize (p :: ps)).length := by
  rw [msSerialize_cons, List.length_append]; have := serialize_length_pos (decide (ps ≠ [])) p; omega

theorem msSerialize_drop (p : Packet) (ps : List Packet) :
    (msSerialize (p :: ps)).drop (serialize (decide (ps ≠ [])) p).length = msSerialize ps := by
  rw [msSerialize_cons]; simp

theorem parse_msSerialize {p : Packet} (hv : Valid p) (ps : List Packet) :
    parseImpl (decide (ps ≠ [])) (msSerialize (p :: ps)) = .ok (view (decide (ps ≠ [])) p) := by
  rw [msSerialize_cons]
  apply parse_complete _ p hv
  intro h
  cases ps with
  | nil => rfl
  | cons q r => simp at h

/-- Stream `s` of `nb`, with the packets `ps` still to come after its own: it is the last one iff `ps` is empty. -/
theorem sd_of_count {s nb : Nat} {ps : List Packet} (h : s + (ps.length + 1) = nb) :
    decide (s ≠ nb - 1) = decide (ps ≠ []) := by
  cases ps with
  | nil => simp at h ⊢; omega
  | cons q r => simp only [List.length_cons] at h; simp; omega

end Opus.MsDecEq

namespace Opus.DecSkel
open Opus Opus.Framing Opus.FramingSpec Opus.FramingProofs Opus.LayoutSpec Opus.Layout

/-- The sub-packet the parser delimits lasts `count · samples_per_frame(toc)`. -/
theorem sub_nbSamples (sd : Bool) (bs : Bytes) (hb : BytesOk bs) (p : Parsed) (hp : parseImpl sd bs = .ok p) (fs : Nat)
    (hfs : Rate fs) : getNbSamples (bs.take p.packetOffset) fs = .ok (p.count * samplesPerFrame (bs.headD 0) fs) := by
  obtain ⟨pk, rest, hv, hbs, _, hview⟩ := parse_sound sd bs hb p hp
  subst hview
  have htake : bs.take (view sd pk).packetOffset = serialize sd pk := by
    rw [hbs]; show (serialize sd pk ++ rest).take (serialize sd pk).length = _
    exact List.take_left
  have hhead : bs.headD 0 = pk.toc := by rw [hbs, serialize_append_headD]
  rw [htake, hhead, getNbSamples_serialize sd pk hv fs hfs]
  rfl

theorem bytesOk_app {a b : Bytes} (ha : BytesOk a) (hb : BytesOk b) : BytesOk (a ++ b) := by
  intro x hx; rcases List.mem_append.mp hx with h | h
  · exact ha x h
  · exact hb x h

/-- A valid packet whose frame and padding bytes are bytes serialises to bytes, in either framing. -/
theorem serialize_bytesOk_sd (sd : Bool) (p : Packet) (hv : Valid p) (hf : ∀ f ∈ p.frames, BytesOk f)
    (hp : BytesOk (padBytes p)) : BytesOk (serialize sd p) := by
  have hn := Layout.valid_frames_lt_64 p hv
  unfold serialize
  refine bytesOk_app (bytesOk_app ?_ ?_) hp
  · unfold header
    refine bytesOk_app (bytesOk_app ?_ ?_) ?_
    · intro x hx; simp only [List.mem_cons, List.mem_nil_iff, or_false] at hx; rw [hx]; exact hv.toc_byte
    · split
      · refine bytesOk_app ?_ ?_
        · intro x hx
          simp only [List.mem_cons, List.mem_nil_iff, or_false] at hx
          rw [hx]; unfold countByte
          split <;> split <;> omega
        · cases hpd : p.pad with
          | none => intro x hx; cases hx
          | some pd =>
            simp only []
            unfold Pad.hdr
            have := (hv.pad_ok pd hpd).1
            refine bytesOk_app ?_ ?_
            · intro x hx; rw [(List.mem_replicate.mp hx).2]; omega
            · intro x hx; simp only [List.mem_cons, List.mem_nil_iff, or_false] at hx; omega
      · intro x hx; cases hx
    · intro x hx
      obtain ⟨m, hm, hxm⟩ := List.mem_flatMap.mp hx
      have hml : m ∈ p.lens := by
        unfold lenFields at hm
        rcases List.mem_append.mp hm with h | h
        · split at h
          · exact List.dropLast_subset _ h
          · cases h
        · split at h
          · cases hl : p.lens.getLast? with
            | none => rw [hl] at h; cases h
            | some v =>
              rw [hl] at h
              simp only [Option.toList_some, List.mem_cons, List.mem_nil_iff, or_false] at h
              rw [h]; exact List.mem_of_getLast? hl
          · cases h
      simp only [Packet.lens, List.mem_map] at hml
      obtain ⟨f, hfm, rfl⟩ := hml
      have hle := hv.frame_max f hfm
      unfold encLen at hxm
      split at hxm
      · simp only [List.mem_cons, List.mem_nil_iff, or_false] at hxm; omega
      · simp only [List.mem_cons, List.mem_nil_iff, or_false] at hxm; omega
  · intro x hx
    obtain ⟨f, hfm, hxf⟩ := List.mem_flatten.mp hx
    exact hf f hfm x hxf

/-- `msSerialize` of valid packets whose frame and padding bytes are bytes is a byte string. -/
theorem msSerialize_bytesOk : ∀ (ps : List Packet), (∀ p ∈ ps, Valid p ∧ (∀ f ∈ p.frames, BytesOk f) ∧ BytesOk (padBytes p)) →
    BytesOk (msSerialize ps)
  | [], _ => by intro x hx; cases hx
  | [p], h => by
    obtain ⟨h1, h2, h3⟩ := h p (by simp)
    exact serialize_bytesOk_sd false p h1 h2 h3
  | p :: q :: r, h => by
    obtain ⟨h1, h2, h3⟩ := h p (by simp)
    show BytesOk (serialize true p ++ msSerialize (q :: r))
    exact bytesOk_app (serialize_bytesOk_sd true p h1 h2 h3) (msSerialize_bytesOk (q :: r) (fun x hx => h x (by simp [hx])))

end Opus.DecSkel
