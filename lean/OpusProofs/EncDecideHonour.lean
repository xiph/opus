import OpusProofs.EncDecideChain
import OpusProofs.FramingBasic
/-
  OpusProofs.EncDecideHonour — what one `opus_encode_native` call (`EncDecide.step`) puts into the
  TOC byte, for ALL values of the DSP-dependent inputs (`Oracle`): duration, channel count,
  bandwidth limit, CELT-only cases; preservation of the range invariant `DInv`; the forced-mono
  transition.
-/
namespace Opus.EncDecide
open Opus Opus.Framing

theorem chain_mode_range {s : DSt} {o : Oracle} (hs : DInv s) (ho : OracleOk o) (f b : Int) :
    1000 ≤ (chain s o f b).mode ∧ (chain s o f b).mode ≤ 1002 := by
  rw [chain_mode]; exact modeFix_range (trOf_range hs ho f)

/-- Frames shorter than 10 ms: CELT-only, whatever the settings and the signal. -/
theorem chain_short_celt {s : DSt} {o : Oracle} {f : Int} (b : Int) (h : f < s.fs / 100) :
    (chain s o f b).mode = 1002 := by
  rw [chain_mode, modeFix_celt]; exact trOf_short h

theorem chain_lowdelay_celt {s : DSt} {o : Oracle} {f : Int} (b : Int) (happ : s.application = 2051)
    (hp : s.prevMode = 0 ∨ s.prevMode = 1002) : (chain s o f b).mode = 1002 ∧ (chain s o f b).toCelt = false := by
  rw [chain_mode, modeFix_celt, chain_toCelt]; exact trOf_lowdelay happ hp

/-- The TOC bandwidth of a SILK-only packet is SILK's own (narrowband … wideband). -/
theorem tocBandwidth_ok {s : DSt} {o : Oracle} (hs : DInv s) (ho : OracleOk o) (f b : Int) :
    tocBandwidth o (chain s o f b) ∈ bands ∧ modeBwOk (chain s o f b).mode (tocBandwidth o (chain s o f b)) = true := by
  have hm := chain_mode_range hs ho f b
  have hb := bwOf_range hs ho f b
  have hfix := modeFix_bw (bw := bwOf s o f b) (trOf_range hs ho f)
  rw [← chain_mode, ← chain_bandwidth] at hfix
  rw [← chain_bandwidth] at hb
  unfold tocBandwidth modeBwOk
  consts
  generalize (chain s o f b).mode = m at *
  generalize (chain s o f b).bandwidth = bw at *
  have hcases : m = 1000 ∨ m = 1001 ∨ m = 1002 := by omega
  rcases hcases with rfl | rfl | rfl
  · have := hfix.1 rfl
    split
    · rename_i h; exact ⟨mem_bands (by omega) (by omega), by simp; omega⟩
    · exact ⟨mem_bands hb.1 hb.2, by simp; omega⟩
  · have := hfix.2 rfl
    simp only [show ¬ ((1001 : Int) = 1000) by decide, false_and, ite_false]
    exact ⟨mem_bands hb.1 hb.2, by simp; omega⟩
  · simp only [show ¬ ((1002 : Int) = 1000) by decide, false_and, ite_false]
    exact ⟨mem_bands hb.1 hb.2, by simp⟩

/-- Everything `stepNormal` puts into the packet, in terms of the chain's decision `d`:
    the TOC is `gen_toc(d.mode, Fs/e, tocBandwidth, d.streamChannels)` inside gen_toc's domain,
    it decodes to frame size `e`, and the `n` frames add up to the requested `f`. -/
theorem stepNormal_pkt {s : DSt} {o : Oracle} (hs : DInv s) (ho : OracleOk o) {f : Int} (b : Int)
    (hf : f ∈ apiSizes s.fs) :
    let d := chain s o f b
    let p := (stepNormal s o f b).2
    let e := (frameSplit d.mode f s.fs).1
    let n := (frameSplit d.mode f s.fs).2
    p.toc = genToc d.mode (s.fs / e) (tocBandwidth o d) d.streamChannels ∧
    GenTocDom d.mode (s.fs / e) (tocBandwidth o d) ∧
    (samplesPerFrame p.toc s.fs.toNat : Int) = e ∧ n * e = f ∧ 1 ≤ n ∧ p.frames = n.toNat ∧
    p.lowBudget = false := by
  intro d p e n
  have hm := chain_mode_range hs ho f b
  have hshort : d.mode = 1002 ∨ f ≥ s.fs / 100 := by
    by_cases h : f < s.fs / 100
    · exact Or.inl (chain_short_celt b h)
    · exact Or.inr (by omega)
  obtain ⟨he, hok, hsum, hn⟩ := frameSplit_spec hs.fs hf (mem_modes hm.1 hm.2) hshort
  obtain ⟨hbw, hbok⟩ := tocBandwidth_ok hs ho f b
  have hspf := spf_genToc (ch := d.streamChannels) hs.fs he (mem_modes hm.1 hm.2) hbw hok hbok
  have hp : p.toc = genToc d.mode (s.fs / e) (tocBandwidth o d) d.streamChannels := rfl
  refine ⟨hp, hspf.2, ?_, hsum, hn, rfl, rfl⟩
  rw [hp]; exact hspf.1

theorem stepNormal_duration {s : DSt} {o : Oracle} (hs : DInv s) (ho : OracleOk o) {f : Int} (b : Int)
    (hf : f ∈ apiSizes s.fs) :
    ((stepNormal s o f b).2.frames : Int) * (samplesPerFrame (stepNormal s o f b).2.toc s.fs.toNat : Int) = f := by
  obtain ⟨_, _, hspf, hsum, hn, hfr, _⟩ := stepNormal_pkt hs ho b hf
  rw [hspf, hfr, Int.toNat_of_nonneg (by omega)]; exact hsum

theorem stepNormal_mode {s : DSt} {o : Oracle} (hs : DInv s) (ho : OracleOk o) {f : Int} (b : Int)
    (hf : f ∈ apiSizes s.fs) :
    (getMode (stepNormal s o f b).2.toc : Int) = (chain s o f b).mode := by
  obtain ⟨hp, hdom, _⟩ := stepNormal_pkt hs ho b hf
  rw [hp]; exact genToc_mode _ _ _ _ hdom

theorem stepNormal_channels {s : DSt} {o : Oracle} (hs : DInv s) (ho : OracleOk o) {f : Int} (b : Int)
    (hf : f ∈ apiSizes s.fs) :
    getNbChannels (stepNormal s o f b).2.toc = if (chain s o f b).streamChannels = 2 then 2 else 1 := by
  obtain ⟨hp, hdom, _⟩ := stepNormal_pkt hs ho b hf
  rw [hp]; exact genToc_channels _ _ _ _ hdom

theorem stepNormal_bandwidth {s : DSt} {o : Oracle} (hs : DInv s) (ho : OracleOk o) {f : Int} (b : Int)
    (hf : f ∈ apiSizes s.fs) :
    (getBandwidth (stepNormal s o f b).2.toc : Int) =
      if (chain s o f b).mode = MODE_CELT_ONLY ∧ tocBandwidth o (chain s o f b) ≤ BW_MB then BW_NB
      else tocBandwidth o (chain s o f b) := by
  obtain ⟨hp, hdom, _⟩ := stepNormal_pkt hs ho b hf
  rw [hp]; exact genToc_bandwidth _ _ _ _ hdom

/-- Contract on SILK (DESIGN §7.C11): in SILK-only mode the internal rate SILK reports is not above
    the bandwidth Opus asked for. -/
def SilkBwContract (s : DSt) (o : Oracle) (f b : Int) : Prop :=
  (chain s o f b).mode = 1000 → o.silkBandwidth ≤ (chain s o f b).bandwidth

/-- **Bandwidth is honoured** on the normal path, if SILK's internal rate never exceeds the limit the settings impose on a
    SILK-only packet.  (It may lag the CURRENT frame's bandwidth: a down-switch needs the transition filter.) -/
theorem stepNormal_bw_le' {s : DSt} {o : Oracle} (hs : DInv s) (ho : OracleOk o) {f : Int} (b : Int)
    (hf : f ∈ apiSizes s.fs) (hsilk : (chain s o f b).mode = 1000 → o.silkBandwidth ≤ bwLimit s 1000) :
    (getBandwidth (stepNormal s o f b).2.toc : Int) ≤ bwLimit s (getMode (stepNormal s o f b).2.toc) := by
  rw [stepNormal_mode hs ho b hf, stepNormal_bandwidth hs ho b hf]
  have hle := bwOf_le hs ho f b
  rw [← chain_mode, ← chain_bandwidth] at hle
  have hr := bwOf_range hs ho f b
  rw [← chain_bandwidth] at hr
  unfold tocBandwidth
  consts
  generalize (chain s o f b).mode = m at *
  generalize (chain s o f b).bandwidth = bw at *
  by_cases hm : m = 1000
  · subst hm
    have := hsilk rfl
    generalize bwLimit s 1000 = lim at *
    split <;> split <;> omega
  · generalize bwLimit s m = lim at *
    split <;> split <;> omega

/-- … in particular under `SilkBwContract` (SILK's rate is at most the bandwidth Opus asked for in this frame). -/
theorem stepNormal_bw_le {s : DSt} {o : Oracle} (hs : DInv s) (ho : OracleOk o) {f : Int} (b : Int)
    (hf : f ∈ apiSizes s.fs) (hsilk : SilkBwContract s o f b) :
    (getBandwidth (stepNormal s o f b).2.toc : Int) ≤ bwLimit s (getMode (stepNormal s o f b).2.toc) :=
  stepNormal_bw_le' hs ho b hf fun hm => by
    have hle := bwOf_le hs ho f b
    rw [← chain_mode, ← chain_bandwidth, hm] at hle
    exact Int.le_trans (hsilk hm) hle

theorem samplesPerFrame_code (t fs : Nat) : samplesPerFrame (t - t % 4) fs = samplesPerFrame t fs :=
  (FramingProofs.toc_helpers_congr _ t fs (by omega)).2.2.1

/-- Rows of `lowTable` (the stale mode and bandwidth are in range under `DInv`). -/
theorem stepLowBudget_duration {s : DSt} (hs : DInv s) {f : Int} (b : Int) (hf : f ∈ apiSizes s.fs)
    (hentry : ¬ (b = 1 ∧ s.fs = f * 10)) :
    ((stepLowBudget s f b).2.frames : Int) * (samplesPerFrame (stepLowBudget s f b).2.toc s.fs.toNat : Int) = f := by
  have h := lowTable_true
  simp only [lowTable, List.all_eq_true] at h
  have hch : s.streamChannels ∈ ([1, 2] : List Int) := by
    have := hs.streamCh; have := hs.ch
    simp only [List.mem_cons, List.mem_nil_iff, or_false]; omega
  have h1 := h s.fs hs.fs f hf s.mode (List.mem_cons_of_mem _ (mem_modes hs.mode.1 hs.mode.2)) s.bandwidth
    (List.mem_cons_of_mem _ (mem_bands hs.bw.1 hs.bw.2)) s.streamChannels hch (decide (b = 1)) (by cases decide (b = 1) <;> simp)
  simp only [Bool.or_eq_true, Bool.and_eq_true, decide_eq_true_eq, beq_iff_eq] at h1
  rcases h1 with h1 | h1
  · exact absurd h1 hentry
  · show ((lowBudgetPacket s f b).frames : Int) *
      (samplesPerFrame ((lowBudgetPacket s f b).toc - (lowBudgetPacket s f b).toc % 4) s.fs.toNat : Int) = f
    rw [samplesPerFrame_code]
    exact h1

theorem apiSizes_pos {fs f : Int} (hfs : fs ∈ rates) (hf : f ∈ apiSizes fs) : 0 < f := by
  simp only [rates, List.mem_cons, List.mem_nil_iff, or_false] at hfs
  simp only [apiSizes, List.mem_cons, List.mem_nil_iff, or_false] at hf
  rcases hfs with rfl | rfl | rfl | rfl | rfl <;> omega

/-- **Duration is honoured**: whichever path the call takes, the packet's frames add up to the
    selected frame size. -/
theorem step_duration {s : DSt} {o : Oracle} (hs : DInv s) (ho : OracleOk o) {f : Int} (b : Int)
    (hf : f ∈ apiSizes s.fs) (hentry : entryError s f b = none) :
    ((step s o f b).2.frames : Int) * (samplesPerFrame (step s o f b).2.toc s.fs.toNat : Int) = f := by
  unfold step
  split
  · apply stepLowBudget_duration hs b hf
    intro ⟨h1, h2⟩
    unfold entryError at hentry
    subst h1
    simp [h2] at hentry
    have := apiSizes_pos hs.fs hf
    have e : min (1276 : Int) 1 = 1 := by decide
    rw [e] at hentry
    split at hentry
    · exact absurd hentry (by simp)
    · simp at hentry
  · exact stepNormal_duration hs ho _ hf

theorem chain_streamChannels_range {s : DSt} {o : Oracle} (hs : DInv s) (ho : OracleOk o) (f b : Int) :
    1 ≤ (chain s o f b).streamChannels ∧ (chain s o f b).streamChannels ≤ s.channels := by
  rw [chain_streamChannels]
  have hc := chanDecision_range hs ho
  exact ⟨(monoDelay_range hc.1).1, monoDelay_le hc.2 hs.prevCh.2⟩

theorem chain_toMono_range {s : DSt} {o : Oracle} (hs : DInv s) (ho : OracleOk o) (f b : Int) :
    (chain s o f b).toMono = 0 ∨ (chain s o f b).toMono = 1 := by
  rw [chain_toMono]; exact (monoDelay_range (chanDecision_range hs ho).1).2

theorem chain_toMono_stereo {s : DSt} {o : Oracle} (hs : DInv s) (f b : Int) (h : (chain s o f b).toMono ≠ 0) :
    s.channels = 2 := by
  rw [chain_toMono] at h
  unfold monoDelay at h
  have := hs.prevCh; have := hs.ch
  split at h
  · omega
  · simp at h

theorem stepNormal_inv {s : DSt} {o : Oracle} (hs : DInv s) (ho : OracleOk o) (f b : Int) :
    DInv (stepNormal s o f b).1 := by
  have hm := chain_mode_range hs ho f b
  have hb := bwOf_range hs ho f b
  rw [← chain_bandwidth] at hb
  have hsc := chain_streamChannels_range hs ho f b
  have htm := chain_toMono_range hs ho f b
  have hst := chain_toMono_stereo (o := o) hs f b
  have hld : s.application = 2051 → (chain s o f b).mode = 1002 := fun h => (chain_lowdelay_celt b h (hs.lowdelay h)).1
  have hch := hs.ch; have hforce := hs.force; have hpc := hs.prevCh
  have hpm := hs.prevMode; have hfp := hs.firstPrev; have hl := hs.lowdelay
  unfold stepNormal
  simp only []
  generalize chain s o f b = d at *
  split
  · -- completion = 0: SILK DTX returned before the state update
    refine ⟨hs.fs, hs.ch, hforce, hs.maxBw, hs.userBw, hs.forcedMode, hm, hs.prevMode, hb, hsc, ?_, htm, hs.firstPrev, hs.lowdelay⟩
    dsimp only; omega
  · refine ⟨hs.fs, hs.ch, hforce, hs.maxBw, hs.userBw, hs.forcedMode, hm, ?_, hb, hsc, ?_, htm, ?_, ?_⟩
    · dsimp only
      split <;> right <;> consts <;> omega
    · dsimp only; omega
    · intro h; exact absurd h (by simp)
    · intro happ
      have := hld happ
      dsimp only
      split <;> right <;> consts <;> omega

theorem step_inv {s : DSt} {o : Oracle} (hs : DInv s) (ho : OracleOk o) (f b : Int) : DInv (step s o f b).1 := by
  unfold step
  split
  · exact hs
  · exact stepNormal_inv hs ho f _

/-- State in which a forced-mono encoder codes mono from now on (`prev_channels` is not stereo, or
    the one delayed frame has been spent). -/
def MonoNow (s : DSt) : Prop := s.prevChannels ≠ 2 ∨ s.toMono ≠ 0

theorem chain_mono_of_monoNow {s : DSt} {o : Oracle} {f b : Int} (hc : s.channels = 2) (hf : s.forceChannels = 1)
    (h : MonoNow s) : (chain s o f b).streamChannels = 1 ∧ (chain s o f b).toMono = 0 := by
  rcases chain_forced_mono (o := o) (f := f) (b := b) hc hf with h1 | h1
  · exact h1
  · unfold MonoNow at h; omega

/-- After ANY normally coded frame (reaching the state update or turned into a DTX packet by SILK: since fix 88264869 the
    DTX return updates `prev_channels` too) a forced-mono encoder is in `MonoNow`: at most that one frame was still stereo. -/
theorem stepNormal_monoNow' {s : DSt} {o : Oracle} {f b : Int} (hc : s.channels = 2) (hf : s.forceChannels = 1) :
    MonoNow (stepNormal s o f b).1 ∧ (stepNormal s o f b).1.forceChannels = 1 := by
  have h := chain_forced_mono (o := o) (f := f) (b := b) hc hf
  unfold stepNormal MonoNow
  simp only []
  generalize chain s o f b = d at *
  split
  · constructor
    · show d.streamChannels ≠ 2 ∨ d.toMono ≠ 0
      omega
    · exact hf
  · constructor
    · show d.streamChannels ≠ 2 ∨ d.toMono ≠ 0
      omega
    · exact hf

/-- Two instances of `stepNormal_monoNow'` (their extra hypotheses are not needed). -/
theorem stepNormal_monoNow {s : DSt} {o : Oracle} {f b : Int} (hc : s.channels = 2) (hf : s.forceChannels = 1)
    (hcomp : o.completion ≠ 0) : MonoNow (stepNormal s o f b).1 ∧ (stepNormal s o f b).1.forceChannels = 1 :=
  stepNormal_monoNow' hc hf

theorem stepNormal_monoNow_keep {s : DSt} {o : Oracle} {f b : Int} (hc : s.channels = 2) (hf : s.forceChannels = 1)
    (h : MonoNow s) : MonoNow (stepNormal s o f b).1 ∧ (stepNormal s o f b).1.forceChannels = 1 :=
  stepNormal_monoNow' hc hf

/-- An encode call changes no setting of the decision state (since fix 34e4f763). -/
theorem step_settings (s : DSt) (o : Oracle) (f b : Int) :
    let s' := (step s o f b).1
    s'.fs = s.fs ∧ s'.channels = s.channels ∧ s'.application = s.application ∧ s'.userBitrate = s.userBitrate ∧
    s'.useVbr = s.useVbr ∧ s'.forceChannels = s.forceChannels ∧ s'.maxBandwidth = s.maxBandwidth ∧
    s'.userBandwidth = s.userBandwidth ∧ s'.userForcedMode = s.userForcedMode ∧ s'.lfe = s.lfe := by
  unfold step stepLowBudget stepNormal
  split
  · exact ⟨rfl, rfl, rfl, rfl, rfl, rfl, rfl, rfl, rfl, rfl⟩
  · simp only []
    split <;> exact ⟨rfl, rfl, rfl, rfl, rfl, rfl, rfl, rfl, rfl, rfl⟩

end Opus.EncDecide
