import OpusProofs.PcmSpec
/-
  OpusProofs.PcmProj — what the projection clauses of OpusProps/C13.lean rest on, for the 16-bit projection output
  (`mapping_matrix_multiply_channel_out_short`): every accumulation step stays in the int16 range; a run in which no
  step saturates (`NoSat`) is the sum of the rounded Q15 products; element-wise rounding errors add up
  (`abs_sum_sub_le`), for the Q15 products and for the 16-bit conversion of the float samples.
-/
namespace Opus.Pcm

/-- The rounded Q15 product `(m*s + 16384) >> 15`. -/
def q15 (m s : Int) : Int := (m * s + 16384) / 32768

theorem q15_err (m s : Int) : -16384 ≤ 32768 * q15 m s - m * s ∧ 32768 * q15 m s - m * s ≤ 16384 := by
  unfold q15
  generalize m * s = p
  omega

theorem projStep_eq (acc m : Int) (b : Nat) : projStep acc m b = sat16 (acc + q15 m (float2Int16 b)) := rfl

theorem projStep_range (acc m : Int) (b : Nat) : -32768 ≤ projStep acc m b ∧ projStep acc m b ≤ 32767 :=
  sat16_range _

theorem foldl_projStep_range (l : List (Int × Nat)) (acc : Int) (h : -32768 ≤ acc ∧ acc ≤ 32767) :
    -32768 ≤ l.foldl (fun a p => projStep a p.1 p.2) acc ∧ l.foldl (fun a p => projStep a p.1 p.2) acc ≤ 32767 := by
  induction l generalizing acc with
  | nil => exact h
  | cons p t ih => exact ih _ (projStep_range acc p.1 p.2)

/-- No accumulation step leaves the int16 range. -/
def NoSat : Int → List (Int × Nat) → Prop
  | _, [] => True
  | acc, p :: t => (-32768 ≤ acc + q15 p.1 (float2Int16 p.2) ∧ acc + q15 p.1 (float2Int16 p.2) ≤ 32767) ∧
      NoSat (acc + q15 p.1 (float2Int16 p.2)) t

instance decNoSat : (acc : Int) → (l : List (Int × Nat)) → Decidable (NoSat acc l)
  | _, [] => isTrue trivial
  | acc, p :: t => by
    unfold NoSat
    exact @instDecidableAnd _ _ _ (decNoSat _ t)

def sumQ (l : List (Int × Nat)) : Int := (l.map (fun p => q15 p.1 (float2Int16 p.2))).sum
/-- Exact matrix product (times 2^15) of the 16-bit stream samples. -/
def sumExact (l : List (Int × Nat)) : Int := (l.map (fun p => p.1 * float2Int16 p.2)).sum

theorem foldl_projStep_nosat (l : List (Int × Nat)) (acc : Int) (h : NoSat acc l) :
    l.foldl (fun a p => projStep a p.1 p.2) acc = acc + sumQ l := by
  induction l generalizing acc with
  | nil => simp [sumQ]
  | cons p t ih =>
    obtain ⟨⟨h1, h2⟩, h3⟩ := h
    rw [List.foldl_cons, projStep_eq, sat16_id h1 h2, ih _ h3]
    simp only [sumQ, List.map_cons, List.sum_cons]
    omega

/-- Element-wise errors add up: `|c·f p - g p| ≤ B` for every element gives `|c·Σf - Σg| ≤ length·B`. -/
theorem abs_sum_sub_le {α : Type} (c : Int) (f g : α → Int) (B : Int) (l : List α) (h : ∀ p ∈ l, |c * f p - g p| ≤ B) :
    |c * (l.map f).sum - (l.map g).sum| ≤ (l.length : Int) * B := by
  induction l with
  | nil => simp
  | cons p t ih =>
    have hp := h p List.mem_cons_self
    have ht := ih fun q hq => h q (List.mem_cons_of_mem _ hq)
    simp only [List.map_cons, List.sum_cons, List.length_cons, Nat.cast_add, Nat.cast_one]
    rw [mul_add, add_sub_add_comm, add_mul, one_mul, add_comm (_ * B)]
    exact (abs_add_le _ _).trans (add_le_add hp ht)

theorem sumQ_err (l : List (Int × Nat)) :
    -(16384 * (l.length : Int)) ≤ 32768 * sumQ l - sumExact l ∧ 32768 * sumQ l - sumExact l ≤ 16384 * (l.length : Int) := by
  obtain ⟨h1, h2⟩ := abs_le.mp (abs_sum_sub_le 32768 (fun p : Int × Nat => q15 p.1 (float2Int16 p.2))
    (fun p => p.1 * float2Int16 p.2) 16384 l fun p _ => abs_le.mpr (q15_err p.1 (float2Int16 p.2)))
  unfold sumQ sumExact
  exact ⟨by omega, by omega⟩

/-- The exact matrix product of the FLOAT stream samples, `Σ cell_k · v_k`, in units of 2^-164
    (`cell` is Q15, `val` is in units of 2^-149): what `mapping_matrix_multiply_channel_out_float` would give
    without any rounding. -/
def sumExactF (l : List (Int × Nat)) : Int := (l.map (fun p => p.1 * ((val p.2).getD 0))).sum

/-- The stream sample converts to 16 bits without saturating. -/
def ConvOk (p : Int × Nat) : Prop :=
  IsInt16 p.1 ∧ ∃ k, val p.2 = some k ∧ -32768 ≤ rne k 134 ∧ rne k 134 ≤ 32767

theorem conv_err {p : Int × Nat} (h : ConvOk p) :
    |2 ^ 134 * (p.1 * float2Int16 p.2) - p.1 * ((val p.2).getD 0)| ≤ 2 ^ 148 := by
  obtain ⟨⟨m1, m2⟩, k, hk, r1, r2⟩ := h
  have hs : float2Int16 p.2 = rne k 134 := by
    rw [float2Int16_spec, out16Spec_of_val hk]; exact sat16_id r1 r2
  obtain ⟨e1, _⟩ := rne_isRne k 134
  rw [hs, hk]
  simp only [Option.getD_some]
  have e : 2 ^ 134 * (p.1 * rne k 134) - p.1 * k = p.1 * (rne k 134 * 2 ^ 134 - k) := by ring
  rw [e, abs_mul]
  have hm : |p.1| ≤ 32768 := abs_le.mpr ⟨by omega, by omega⟩
  have hz : |rne k 134 * 2 ^ 134 - k| ≤ 2 ^ 133 := by omega
  calc |p.1| * |rne k 134 * 2 ^ 134 - k| ≤ 32768 * 2 ^ 133 := mul_le_mul hm hz (abs_nonneg _) (by norm_num)
    _ = 2 ^ 148 := by norm_num

theorem sumExact_vs_F (l : List (Int × Nat)) (h : ∀ p ∈ l, ConvOk p) :
    |sumExact l * 2 ^ 134 - sumExactF l| ≤ (l.length : Int) * 2 ^ 148 := by
  rw [mul_comm]
  exact abs_sum_sub_le (2 ^ 134) (fun p : Int × Nat => p.1 * float2Int16 p.2) (fun p => p.1 * ((val p.2).getD 0)) (2 ^ 148) l
    fun p hp => conv_err (h p hp)

end Opus.Pcm
