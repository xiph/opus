import OpusProofs.ExtCount
/-
  The canonical serialisation of a frame-ordered extension list without the
  repeat mechanism (`serBytes`), and the fact that iteration over it returns exactly the list.
-/
namespace Opus.ExtProofs
open Opus Opus.Ext

/-- The bytes `bs` sit at offset `p` of `d`. -/
def At (d : Array Nat) (p : Nat) (bs : List Nat) : Prop := ∀ i, i < bs.length → d[p + i]? = bs[i]?

theorem At.append {d : Array Nat} {p : Nat} {a b : List Nat} (h : At d p (a ++ b)) :
    At d p a ∧ At d (p + a.length) b := by
  constructor
  · intro i hi
    have := h i (by simp; omega)
    rw [this, List.getElem?_append_left hi]
  · intro i hi
    have := h (a.length + i) (by simp; omega)
    rw [← Nat.add_assoc] at this
    rw [this, List.getElem?_append_right (by omega)]
    congr 1; omega

theorem At.head {d : Array Nat} {p : Nat} {b : Nat} {bs : List Nat} (h : At d p (b :: bs)) :
    d[p]? = some b ∧ At d (p + 1) bs := by
  have h0 := h 0 (by simp)
  refine ⟨by simpa using h0, ?_⟩
  intro i hi
  have := h (i + 1) (by simp; omega)
  rw [show p + 1 + i = p + (i + 1) by omega, this]; simp

/-- The lacing bytes of a payload length: `n / 255` bytes 255, then `n % 255`. -/
def lenBytes (n : Nat) : List Nat := List.replicate (n / 255) 255 ++ [n % 255]

theorem lacing_run (d : Array Nat) (k r : Nat) (hr : r < 255) : ∀ (p : Nat) (L : Int) (b h : Nat),
    At d p (List.replicate k 255 ++ [r]) → 1 ≤ L - 256 * k →
    lacing d p L b h = .ok (some (p + k + 1, L - 256 * k - (r + 1), b + 255 * k + r, h + k + 1)) := by
  induction k with
  | zero =>
    intro p L b h hat hL
    have h0 := (At.head (by simpa using hat)).1
    rw [lacing]
    have : ¬ L < 1 := by omega
    have hne : ¬ r = 255 := by omega
    simp only [this, if_false, h0, hne]
    simp
  | succ k ih =>
    intro p L b h hat hL
    rw [List.replicate_succ, List.cons_append] at hat
    obtain ⟨h0, hrest⟩ := At.head hat
    rw [lacing]
    have : ¬ L < 1 := by omega
    simp only [this, if_false, h0, if_true]
    rw [ih (p + 1) (L - 256) (b + 255) (h + 1) hrest (by push_cast at hL ⊢; omega)]
    simp only [Res.ok.injEq, Option.some.injEq, Prod.mk.injEq]
    refine ⟨by omega, by push_cast; omega, by omega, by omega⟩

theorem skipPayload_short_at (d : Array Nat) (p : Nat) (L : Int) (b : Nat) (tsl : Int)
    (hid : 0 < b / 2 ∧ b / 2 < 32) (hne : b / 2 ≠ 2) (hL : ((b % 2 : Nat) : Int) ≤ L) :
    skipPayload d p L b tsl = .ok (some (p + b % 2, L - ((b % 2 : Nat) : Int), 0)) := by
  unfold skipPayload
  have c1 : ¬ ((b / 2 = 0 ∧ b % 2 = 1) ∨ b / 2 = 2) := by omega
  have c3 : ¬ (L < ((b % 2 : Nat) : Int)) := by omega
  simp only [c1, if_false, hid, and_self, if_true, c3]

theorem skipPayload_long_at (d : Array Nat) (p : Nat) (L : Int) (b n : Nat) (tsl : Int)
    (hid : 32 ≤ b / 2) (hl : b % 2 = 1) (hat : At d p (lenBytes n)) (hL : ((n / 255 + 1 : Nat) : Int) + n ≤ L) :
    skipPayload d p L b tsl = .ok (some (p + (n / 255 + 1) + n, L - (((n / 255 + 1 : Nat) : Int) + n), n / 255 + 1)) := by
  unfold skipPayload
  have c1 : ¬ ((b / 2 = 0 ∧ b % 2 = 1) ∨ b / 2 = 2) := by omega
  have c2 : ¬ (0 < b / 2 ∧ b / 2 < 32) := by omega
  have c3 : ¬ (b % 2 = 0) := by omega
  simp only [c1, c2, c3, if_false]
  have hmod : n % 255 < 255 := Nat.mod_lt _ (by omega)
  have hdiv : 255 * (n / 255) + n % 255 = n := Nat.div_add_mod n 255
  rw [lacing_run d (n / 255) (n % 255) hmod p L 0 0 hat (by omega)]
  simp only
  have c4 : ¬ (L - 256 * ((n / 255 : Nat) : Int) - (((n % 255 : Nat) : Int) + 1) < 0) := by omega
  simp only [c4, if_false, Res.ok.injEq, Option.some.injEq, Prod.mk.injEq]
  refine ⟨by omega, by omega, by omega⟩

/-- Payload of an extension as the generator reads it: the first `len` bytes at `ext->data`. -/
def payload (e : Ext) : Bytes := e.data.take e.len.toNat

/-- An extension the API accepts for a packet of `nbF` frames. -/
structure ValidExt (nbF : Nat) (e : Ext) : Prop where
  id_lo : 3 ≤ e.id
  id_hi : e.id ≤ 127
  fr_lo : 0 ≤ e.frame
  fr_hi : e.frame < nbF
  len_lo : 0 ≤ e.len
  short : e.id < 32 → e.len ≤ 1
  data : e.len ≤ e.data.length

theorem payload_length {nbF : Nat} {e : Ext} (h : ValidExt nbF e) : ((payload e).length : Int) = e.len := by
  have := h.data; have := h.len_lo
  simp only [payload, List.length_take]; omega

/-- ID byte: `(id << 1) + L`, with `L = len` for short IDs and `L = !last` for long ones. -/
def idByte (e : Ext) (last : Bool) : Nat :=
  (e.id * 2 + (if e.id < 32 then e.len else if last then 0 else 1)).toNat

/-- Number of length bytes of an extension. -/
def hdrLen (e : Ext) (last : Bool) : Nat := if e.id < 32 ∨ last = true then 0 else e.len.toNat / 255 + 1

/-- One extension: ID byte, lacing bytes (long, not last), payload. -/
def extBytes (e : Ext) (last : Bool) : List Nat :=
  idByte e last :: ((if e.id < 32 ∨ last = true then [] else lenBytes e.len.toNat) ++ payload e)

theorem lenBytes_length (n : Nat) : (lenBytes n).length = n / 255 + 1 := by simp [lenBytes]

theorem extBytes_length {nbF : Nat} {e : Ext} (h : ValidExt nbF e) (last : Bool) :
    (extBytes e last).length = 1 + hdrLen e last + e.len.toNat := by
  have := payload_length h; have := h.len_lo
  simp only [extBytes, hdrLen, List.length_cons, List.length_append]
  split <;> simp [lenBytes_length] <;> omega

theorem hdr_length (e : Ext) (last : Bool) :
    (if e.id < 32 ∨ last = true then ([] : List Nat) else lenBytes e.len.toNat).length = hdrLen e last := by
  unfold hdrLen; split <;> simp [lenBytes_length]

/-- ID and `L` bit in the ID byte of a valid extension. -/
theorem idByte_spec {nbF : Nat} {e : Ext} (hv : ValidExt nbF e) (last : Bool) :
    idByte e last / 2 = e.id.toNat ∧
    idByte e last % 2 = (if e.id < 32 then e.len.toNat else if last = true then 0 else 1) := by
  have := hv.id_lo; have := hv.len_lo
  unfold idByte
  split
  · have := hv.short ‹_›; omega
  · split <;> omega

theorem idByte_ge {nbF : Nat} {a : Ext} (hv : ValidExt nbF a) (flag : Bool) : 6 ≤ idByte a flag := by
  have := (idByte_spec hv flag).1; have := hv.id_lo
  omega

theorem tail_length {nbF : Nat} {x : Ext} (hv : ValidExt nbF x) (flag : Bool) :
    (extBytes x flag).tail.length = hdrLen x flag + x.len.toNat := by
  have := extBytes_length hv flag
  rw [List.length_tail, this]; omega

/-- The payload part of what `extBytes x flag` wrote, read with the id byte `idByte x flag`, is skipped exactly;
    a long extension written without length bytes (`flag`) takes everything up to the last `T` bytes. -/
theorem skipPayload_tail {nbF : Nat} {d : Array Nat} {p r : Nat} {x : Ext} {flag : Bool} {L T : Int}
    (hv : ValidExt nbF x) (hat : At d p (extBytes x flag).tail)
    (hL : L = (((extBytes x flag).tail.length + r : Nat) : Int)) (hT : flag = true → (r : Int) = T) :
    skipPayload d p L (idByte x flag) T = .ok (some (p + (extBytes x flag).tail.length, (r : Int), hdrLen x flag)) := by
  obtain ⟨h2, hm⟩ := idByte_spec hv flag
  have hid := hv.id_lo; have hlen := hv.len_lo
  have htl := tail_length hv flag
  rw [htl] at hL ⊢
  by_cases hs : x.id < 32
  · have hh : hdrLen x flag = 0 := by simp only [hdrLen, hs, true_or, if_true]
    have hsh := hv.short hs
    rw [if_pos hs] at hm
    rw [skipPayload_short_at d p L _ T (by omega) (by omega) (by rw [hm]; omega), hm, hh]
    simp only [Res.ok.injEq, Option.some.injEq, Prod.mk.injEq, and_true]
    exact ⟨by omega, by omega⟩
  · rw [if_neg hs] at hm
    cases flag with
    | true =>
      have hh : hdrLen x true = 0 := by simp only [hdrLen, or_true, if_true]
      have hr := hT rfl
      rw [skipPayload_forced d p L _ T (.inr (by omega)) hm (by omega), hh]
      simp only [Res.ok.injEq, Option.some.injEq, Prod.mk.injEq, and_true]
      exact ⟨by omega, by omega⟩
    | false =>
      have hh : hdrLen x false = x.len.toNat / 255 + 1 := by simp only [hdrLen, hs, Bool.false_eq_true, or_self, if_false]
      have hatl : At d p (lenBytes x.len.toNat) := by
        have e : (extBytes x false).tail = (if x.id < 32 ∨ false = true then ([] : List Nat) else lenBytes x.len.toNat) ++ payload x := rfl
        rw [e, if_neg (by simp only [hs, Bool.false_eq_true, or_self, not_false_eq_true])] at hat
        exact (hat.append).1
      rw [skipPayload_long_at d p L _ x.len.toNat T (by omega) hm hatl (by omega), hh]
      simp only [Res.ok.injEq, Option.some.injEq, Prod.mk.injEq, and_true]
      exact ⟨by omega, by omega⟩

/-- A whole extension written by `extBytes`, followed by `r` more bytes (none after the `L = 0` form). -/
theorem skipExtension_extBytes {nbF : Nat} {d : Array Nat} {q r : Nat} {a : Ext} {flag : Bool} (hv : ValidExt nbF a)
    (hat : At d q (extBytes a flag)) (hr : flag = true → r = 0) :
    skipExtension d q (((extBytes a flag).length + r : Nat) : Int) =
      .ok (some (q + (extBytes a flag).length, (r : Int), hdrLen a flag + 1)) := by
  obtain ⟨h0, htail⟩ := At.head hat
  have hlt : (extBytes a flag).length = (extBytes a flag).tail.length + 1 := rfl
  rw [skipExtension_byte h0 (by omega)
    (skipPayload_tail (r := r) hv htail (by omega) (fun h => by rw [hr h]; rfl)), hlt]
  simp only [Res.ok.injEq, Option.some.injEq, Prod.mk.injEq, and_true]
  omega

/-- Frame separator: nothing, `02` (next frame) or `03 k` (advance `k` frames). -/
def sepBytes (f cur : Nat) : List Nat := if f = cur then [] else if f = cur + 1 then [2] else [3, f - cur]

/-- Frame-ordered list written without repeats; the last extension uses the `L = 0` form. -/
def serBytes (cur : Nat) : List Ext → List Nat
  | [] => []
  | e :: l => sepBytes e.frame.toNat cur ++ extBytes e l.isEmpty ++ serBytes e.frame.toNat l

/-- What iteration must report for `serBytes cur l` placed at offset `p`. -/
def serRefs (p cur : Nat) : List Ext → List ExtRef
  | [] => []
  | e :: l =>
    let q := p + (sepBytes e.frame.toNat cur).length
    { id := e.id.toNat, frame := e.frame.toNat, off := q + 1 + hdrLen e l.isEmpty, len := e.len } ::
      serRefs (q + (extBytes e l.isEmpty).length) e.frame.toNat l

/-- Frames never decrease along the list, starting from `cur`. -/
def FrameSorted : Nat → List Ext → Prop
  | _, [] => True
  | cur, e :: l => cur ≤ e.frame.toNat ∧ FrameSorted e.frame.toNat l

/-- Iterator state "at offset `p` of `d`, in frame `cur`, not repeating, no frame limit". -/
structure St (d : Array Nat) (nbF p cur : Nat) (it : Iter) : Prop where
  data : it.data = d
  len : it.len = d.size
  cd : it.currData = p
  cl : it.currLen = (d.size : Int) - p
  cf : it.currFrame = cur
  rf : it.repeatFrame = 0
  nf : it.nbFrames = nbF
  fm : it.frameMax = nbF

theorem iterInit_st (x : Bytes) {nbF : Nat} (hnf : nbF ≤ 48) :
    ∃ it, iterInit x x.length nbF = .ok it ∧ St x.toArray nbF 0 0 it ∧ it.repeatData = 0 ∧ it.lastLong = none :=
  ⟨_, iterInit_eq.mpr ⟨by omega, by omega, by omega, rfl⟩, ⟨by simp, by simp, rfl, by simp, rfl, rfl, by simp, rfl⟩, rfl, rfl⟩

/-- The bytes `bs` sit at offset `p` of `d` and run to its end: what the reader still has in front of it. -/
structure Tail (d : Array Nat) (p : Nat) (bs : List Nat) : Prop where
  bytes : At d p bs
  size : p + bs.length = d.size

theorem Tail.le {d : Array Nat} {p : Nat} {bs : List Nat} (h : Tail d p bs) : p ≤ d.size := by
  have := h.size; omega

theorem Tail.size_append {d : Array Nat} {p : Nat} {a b : List Nat} (h : Tail d p (a ++ b)) :
    p + a.length + b.length = d.size := by
  have := h.size; rw [List.length_append] at this; omega

theorem Tail.drop {d : Array Nat} {p : Nat} {a b : List Nat} (h : Tail d p (a ++ b)) : Tail d (p + a.length) b :=
  ⟨h.bytes.append.2, h.size_append⟩

theorem Tail.head {d : Array Nat} {p b : Nat} {bs : List Nat} (h : Tail d p (b :: bs)) :
    d[p]? = some b ∧ Tail d (p + 1) bs :=
  ⟨(At.head h.bytes).1, (At.head h.bytes).2, by have := h.size; rw [List.length_cons] at this; omega⟩

theorem mainBody_sep {d : Array Nat} {nbF p cur f : Nat} {it : Iter} {rest : List Nat} (hs : St d nbF p cur it)
    (hcf : cur < f) (hf : f < nbF) (h : Tail d p (sepBytes f cur ++ rest)) (hrest : rest ≠ []) :
    ∃ it1, mainBody it = .ok (.cont it1) ∧ St d nbF (p + (sepBytes f cur).length) f it1 ∧
      it1.repeatData = p + (sepBytes f cur).length ∧ it1.lastLong = none ∧ it1.tsl = 0 := by
  have hsz := h.size_append
  have hrl : 0 < rest.length := List.length_pos_iff.mpr hrest
  have hat := h.bytes
  -- the separator is the byte `b = 2`, or `b = 3` followed by the increment
  obtain ⟨b, h0, hid, hlen, h1, h2⟩ : ∃ b, d[p]? = some b ∧ b / 2 = 1 ∧ (sepBytes f cur).length = 1 + b % 2 ∧
      (b % 2 = 1 → d[p + 1]? = some (f - cur)) ∧ (b % 2 = 0 → f - cur = 1) := by
    unfold sepBytes at hat ⊢
    rw [if_neg (by omega)] at hat ⊢
    by_cases h1 : f = cur + 1
    · rw [if_pos h1] at hat ⊢
      exact ⟨2, (At.head hat).1, rfl, rfl, fun h => absurd h (by decide), fun _ => by omega⟩
    · rw [if_neg h1] at hat ⊢
      obtain ⟨h0, hat1⟩ := At.head hat
      exact ⟨3, h0, rfl, rfl, fun _ => (At.head hat1).1, fun h => absurd h (by decide)⟩
  rw [hlen] at hsz ⊢
  have hS : Skipped it b (p + 1 + b % 2) ((d.size : Int) - p - 1 - (b % 2 : Nat)) 1 :=
    ⟨by rw [hs.data, hs.cd]; exact h0,
     by rw [hs.data, hs.cd, hs.cl]; exact skipExtension_byte h0 (by omega) (skipPayload_short_at d _ _ b 0 (by omega) (by omega) (by omega)),
     by rw [hs.len]; omega⟩
  have hi : SepInc it b (f - cur) := by
    rw [SepInc, hs.data, hs.cd]
    by_cases hb : b % 2 = 0
    · exact ⟨by omega, by rw [if_pos hb]; exact h2 hb⟩
    · rw [if_neg hb, h1 (by omega)]; exact ⟨by simp, rfl⟩
  have hfm : ¬ it.frameMax ≤ ((it.currFrame + (f - cur) : Nat) : Int) := by rw [hs.fm, hs.cf]; omega
  refine ⟨_, mainBody_of_step (.sep (f - cur) hS hid hi (by omega) (by rw [hs.cf, hs.nf]; omega)), ?_, ?_, rfl, rfl⟩
  · exact ⟨hs.data, hs.len, by simp only; omega, by simp only [hfm, if_false]; omega,
      by simp only [hs.cf]; omega, hs.rf, hs.nf, hs.fm⟩
  · simp only; omega

theorem mainBody_ext {d : Array Nat} {nbF p f : Nat} {it : Iter} {e : Ext} {last : Bool} {rest : List Nat}
    (hs : St d nbF p f it) (hv : ValidExt nbF e)
    (h : Tail d p (extBytes e last ++ rest)) (hlast : last = true → rest = []) :
    ∃ it2, mainBody it = .ok (.ret it2 (.ext { id := e.id.toNat, frame := f, off := p + 1 + hdrLen e last, len := e.len })) ∧
      St d nbF (p + (extBytes e last).length) f it2 ∧ it2.repeatData = it.repeatData ∧
      (if e.id < 32 then it2.lastLong = it.lastLong ∧ it2.tsl = it.tsl + e.len
       else it2.lastLong = some (p + (extBytes e last).length) ∧ it2.tsl = 0) := by
  obtain ⟨hid, hmod⟩ := idByte_spec hv last
  have hat := h.bytes
  have hend := h.size_append
  have hsk := skipExtension_extBytes (r := rest.length) hv hat.append.1 (fun h => by rw [hlast h]; rfl)
  have hlen := extBytes_length hv last
  have hl0 := hv.len_lo
  have hid1 := hv.id_lo
  have hid2 := hv.id_hi
  have hS : Skipped it (idByte e last) (p + (extBytes e last).length) (rest.length : Int) (hdrLen e last + 1) :=
    ⟨by rw [hs.data, hs.cd]; exact (At.head hat.append.1).1,
     by rw [hs.data, hs.cd, hs.cl, show (d.size : Int) - p = (((extBytes e last).length + rest.length : Nat) : Int) by omega]
        exact hsk,
     by rw [hs.len]; omega⟩
  have href : (⟨idByte e last / 2, it.currFrame, it.currData + (hdrLen e last + 1),
        ((p + (extBytes e last).length : Nat) : Int) - it.currData - ((hdrLen e last + 1 : Nat) : Int)⟩ : ExtRef) =
      ⟨e.id.toNat, f, p + 1 + hdrLen e last, e.len⟩ := by
    rw [hid, hs.cf, hs.cd, ExtRef.mk.injEq]
    exact ⟨rfl, rfl, by omega, by omega⟩
  rw [← href]
  by_cases hshort : e.id < 32
  · refine ⟨_, mainBody_of_step (.short hS (by omega) (by omega)),
      ⟨hs.data, hs.len, rfl, by simp only; omega, hs.cf, hs.rf, hs.nf, hs.fm⟩, rfl, ?_⟩
    rw [if_pos hshort]
    exact ⟨rfl, by rw [if_pos hshort] at hmod; simp only; omega⟩
  · refine ⟨_, mainBody_of_step (.long hS (by omega)),
      ⟨hs.data, hs.len, rfl, by simp only; omega, hs.cf, hs.rf, hs.nf, hs.fm⟩, rfl, ?_⟩
    rw [if_neg hshort]
    exact ⟨rfl, rfl⟩

theorem serBytes_ne_nil {cur : Nat} {e : Ext} {l : List Ext} : serBytes cur (e :: l) ≠ [] := by
  simp [serBytes, extBytes]

/-- `repeat_data`, `last_long`, `trailing_short_len` of the iterator. -/
structure Reg (it : Iter) (p0 : Nat) (ll : Option Nat) (T : Int) : Prop where
  rd : it.repeatData = p0
  ll : it.lastLong = ll
  tsl : it.tsl = T

theorem St.next_eq {d : Array Nat} {nbF p cur : Nat} {it : Iter} (hs : St d nbF p cur it) (hp : p ≤ d.size) (hcur : cur < nbF) :
    next it = mainLoop it :=
  next_main (by rw [hs.cl]; omega) hs.rf (by rw [hs.fm, hs.cf]; omega)

/-- One call of `next` on an extension written by `extBytes` (preceded by its separator when the frame changes): the
    reference it reports, where it stands afterwards, and its registers. -/
theorem next_plain {d : Array Nat} {nbF p cur : Nat} {it : Iter} {e : Ext} {flag : Bool} {rest : List Nat}
    {p0 : Nat} {ll : Option Nat} {T : Int}
    (hs : St d nbF p cur it) (hr : Reg it p0 ll T) (hv : ValidExt nbF e) (hcur : cur ≤ e.frame.toNat)
    (h : Tail d p (sepBytes e.frame.toNat cur ++ (extBytes e flag ++ rest))) (hflag : flag = true → rest = []) :
    ∃ it', next it = .ok (it', .ext ⟨e.id.toNat, e.frame.toNat, p + (sepBytes e.frame.toNat cur).length + 1 + hdrLen e flag, e.len⟩) ∧
      St d nbF (p + (sepBytes e.frame.toNat cur).length + (extBytes e flag).length) e.frame.toNat it' ∧
      Reg it' (if e.frame.toNat = cur then p0 else p + (sepBytes e.frame.toNat cur).length)
        (if e.id < 32 then (if e.frame.toNat = cur then ll else none)
         else some (p + (sepBytes e.frame.toNat cur).length + (extBytes e flag).length))
        (if e.id < 32 then (if e.frame.toNat = cur then T else 0) + e.len else 0) := by
  have hf : e.frame.toNat < nbF := by have := hv.fr_hi; have := hv.fr_lo; omega
  have hel := extBytes_length hv flag
  have hend := h.drop.size_append
  obtain ⟨it1, hn1, hs1, hr1⟩ : ∃ it1, next it = mainLoop it1 ∧ St d nbF (p + (sepBytes e.frame.toNat cur).length) e.frame.toNat it1 ∧
      Reg it1 (if e.frame.toNat = cur then p0 else p + (sepBytes e.frame.toNat cur).length)
        (if e.frame.toNat = cur then ll else none) (if e.frame.toNat = cur then T else 0) := by
    by_cases hsame : e.frame.toNat = cur
    · refine ⟨it, hs.next_eq (by omega) (by omega), ?_, ?_⟩
      · simpa only [sepBytes, hsame, if_true, List.length_nil, Nat.add_zero] using hs
      · simpa only [hsame, if_true] using hr
    · obtain ⟨it1, h1, h2, q⟩ := mainBody_sep hs (by omega) hf h (by simp [extBytes])
      exact ⟨it1, by rw [hs.next_eq (by omega) (by omega), mainLoop_cont (by rw [hs.cl]; omega) h1], h2,
        by simp only [hsame, if_false]; exact ⟨q.1, q.2.1, q.2.2⟩⟩
  obtain ⟨it2, g1, g2, g3, g4⟩ := mainBody_ext hs1 hv h.drop hflag
  refine ⟨it2, hn1.trans (mainLoop_ret (by rw [hs1.cl]; omega) g1), g2, ?_⟩
  obtain ⟨r1, r2, r3⟩ := hr1
  by_cases h32 : e.id < 32
  · simp only [h32, if_true] at g4 ⊢
    exact ⟨g3.trans r1, g4.1.trans r2, by rw [g4.2, r3]⟩
  · simp only [h32, if_false] at g4 ⊢
    exact ⟨g3.trans r1, g4.1, g4.2⟩

theorem iterAll_end {d : Array Nat} {nbF cur : Nat} {it : Iter} (hs : St d nbF d.size cur it) :
    iterAll it = .ok ([], .done) := by
  have : next it = .ok (it, .done) := next_empty (by rw [hs.cl]; omega) hs.rf
  rw [iterAll_eq, this]

/-- Iterating over the canonical serialisation of a frame-ordered list of valid extensions yields
    exactly that list (IDs, frames, payload slices) and ends normally. -/
theorem iterAll_ser (d : Array Nat) (nbF : Nat) : ∀ (l : List Ext) (p cur : Nat) (it : Iter),
    St d nbF p cur it → (∀ e ∈ l, ValidExt nbF e) → FrameSorted cur l → Tail d p (serBytes cur l) →
    iterAll it = .ok (serRefs p cur l, .done) := by
  intro l
  induction l with
  | nil =>
    intro p cur it hs _ _ ht
    exact iterAll_end ((show p = d.size from ht.size) ▸ hs)
  | cons e l ih =>
    intro p cur it hs hv hsort ht
    have ht' : Tail d p (sepBytes e.frame.toNat cur ++ (extBytes e l.isEmpty ++ serBytes e.frame.toNat l)) := by
      simpa only [serBytes, List.append_assoc] using ht
    obtain ⟨it2, h1, h2, _⟩ := next_plain hs ⟨rfl, rfl, rfl⟩ (hv e (List.mem_cons_self ..)) hsort.1 ht'
      (fun h => by rw [List.isEmpty_iff.mp h]; rfl)
    rw [iterAll_eq, h1]
    simp only
    rw [ih _ _ it2 h2 (fun x hx => hv x (List.mem_cons_of_mem _ hx)) hsort.2 ht'.drop.drop]
    rfl

theorem serRefs_length (p cur : Nat) (l : List Ext) : (serRefs p cur l).length = l.length := by
  induction l generalizing p cur with
  | nil => rfl
  | cons e l ih => simp [serRefs, ih]

/-- An extension with its payload cut to `len` bytes (what a reader can report). -/
def normExt (e : Ext) : Ext := { e with data := payload e }

theorem At.tail_payload {d : Array Nat} {p : Nat} {x : Ext} {flag : Bool} (hat : At d p (extBytes x flag).tail) :
    At d (p + hdrLen x flag) (payload x) := by
  have e : (extBytes x flag).tail = (if x.id < 32 ∨ flag = true then ([] : List Nat) else lenBytes x.len.toNat) ++ payload x := rfl
  rw [e] at hat
  have := (hat.append).2
  rwa [hdr_length] at this

theorem at_slice {d : Array Nat} {off : Nat} {bs : List Nat} (h : At d off bs) :
    (d.toList.drop off).take bs.length = bs := by
  apply List.ext_getElem?
  intro i
  by_cases hi : i < bs.length
  · rw [List.getElem?_take_of_lt hi, List.getElem?_drop]
    have := h i hi
    simpa using this
  · rw [List.getElem?_eq_none (by simp only [List.length_take]; omega), List.getElem?_eq_none (by omega)]

theorem toExt_eq {nbF : Nat} {d : Array Nat} {x : Ext} {r : ExtRef} (hv : ValidExt nbF x) (hid : r.id = x.id.toNat)
    (hfr : r.frame = x.frame.toNat) (hlen : r.len = x.len) (hat : At d r.off (payload x)) :
    r.toExt d.toList = normExt x := by
  have h1 := hv.id_lo; have h2 := hv.fr_lo; have hpl := payload_length hv; have h3 := hv.len_lo
  simp only [ExtRef.toExt, normExt, hid, hfr, hlen]
  have hid : ((x.id.toNat : Nat) : Int) = x.id := by omega
  have hfr : ((x.frame.toNat : Nat) : Int) = x.frame := by omega
  rw [hid, hfr]
  congr 1
  have := at_slice hat
  rwa [show (payload x).length = x.len.toNat by omega] at this

/-- The payload slices reported for `serBytes` are the payloads that were written. -/
theorem serRefs_toExt (nbF : Nat) (d : Array Nat) : ∀ (l : List Ext) (p cur : Nat), (∀ e ∈ l, ValidExt nbF e) →
    At d p (serBytes cur l) → (serRefs p cur l).map (ExtRef.toExt d.toList) = l.map normExt := by
  intro l
  induction l with
  | nil => intro _ _ _ _; rfl
  | cons e l ih =>
    intro p cur hv hat
    simp only [serBytes, List.append_assoc] at hat
    obtain ⟨he, hl⟩ := hat.append.2.append
    simp only [serRefs, List.map_cons]
    congr 1
    · have hp : At d (p + (sepBytes e.frame.toNat cur).length + 1) (extBytes e l.isEmpty).tail := (At.head he).2
      exact toExt_eq (hv e (List.mem_cons_self ..)) rfl rfl rfl hp.tail_payload
    · exact ih _ _ (fun x hx => hv x (List.mem_cons_of_mem _ hx)) hl

/-- Reader ∘ canonical writer = identity: for every frame-ordered list of valid extensions,
    `parse` on `serBytes 0 l` succeeds, returns one entry per extension in order, and each entry
    has the ID, frame, length and payload bytes of its extension. -/
theorem parse_ser (l : List Ext) (nbF : Nat) (hnf : nbF ≤ 48) (hv : ∀ e ∈ l, ValidExt nbF e) (hs : FrameSorted 0 l)
    (cap : Int) (hcap : (l.length : Int) ≤ cap) :
    parse (serBytes 0 l) (serBytes 0 l).length cap nbF = .ok (serRefs 0 0 l) ∧
    (serRefs 0 0 l).map (ExtRef.toExt (serBytes 0 l)) = l.map normExt := by
  have ht : Tail (serBytes 0 l).toArray 0 (serBytes 0 l) := ⟨by intro i hi; simp, by simp⟩
  obtain ⟨it, hit, hst, _⟩ := iterInit_st (serBytes 0 l) hnf
  have hall := iterAll_ser (serBytes 0 l).toArray nbF l 0 0 it hst hv hs ht
  exact ⟨by rw [parse_iterAll hit hall cap (by omega), if_neg (by rw [serRefs_length]; omega), if_pos rfl],
    serRefs_toExt nbF _ l 0 0 hv ht.bytes⟩

end Opus.ExtProofs
