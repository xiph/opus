import OpusProofs.SilkParamsFix
/-
  OpusProofs.SilkParamsPitch — silk_decode_pitch (decode_pitch.c:37-77) and the integer tail of the encoder's pitch
  analyser.  `decodePitch_eq` is the specification: the result is `limit (2·Fs + lagIndex + contour offset)` per
  sub-frame; that the lags are in range and that they differ by at most the contour's spread is read off it, and so is
  the encoder agreement OpusProps.C18.pitch_enc_dec_agree.  (`pitchCodebook_ok`, `pitchLag_eq` also serve the range
  lemma `decodePitch_range` of OpusProofs/SilkParamsRangeDec.lean.)
-/
namespace Opus.SilkParams
open Opus Opus.Gen

/-- The lags of sub-frames `k, k+1, …, k+n-1`: one clamp of `lag + contour offset` each. -/
def pitchLags (tab : List Int) (cbk : Nat) (c lag lo hi : Int) (k n : Nat) : List Int :=
  (List.range' k n).map fun j => limit (lag + tab.getD (j * cbk + c.toNat) 0) lo hi

/-- `pitchLoop` reads column `c` of rows `k .. k+n-1`; inside a table of `≥ k+n` rows of `cbk > c` entries every read is
    in bounds and the loop is the closed form. -/
theorem pitchLoop_eq (tab : List Int) (cbk : Nat) (c lag lo hi : Int) (hc : 0 ≤ c ∧ c < cbk) :
    ∀ (n k : Nat), (k + n) * cbk ≤ tab.length →
      pitchLoop tab cbk c lag lo hi n k = .ok (pitchLags tab cbk c lag lo hi k n)
  | 0, _, _ => rfl
  | n + 1, k, h => by
    have hrow : k * cbk + cbk ≤ tab.length := by
      have : (k + 1) * cbk ≤ (k + (n + 1)) * cbk := Nat.mul_le_mul_right _ (by omega)
      rw [Nat.add_mul, Nat.one_mul] at this; omega
    have hi' : (k : Int) * (cbk : Int) + c = ((k * cbk + c.toNat : Nat) : Int) := by push_cast; omega
    unfold pitchLoop
    rw [hi', getI_eq (by omega) (by rw [Int.toNat_natCast]; omega), Int.toNat_natCast,
      pitchLoop_eq tab cbk c lag lo hi hc n (k + 1) (by rw [Nat.add_assoc, Nat.add_comm 1]; exact h)]
    rfl

/-- No column (contour) of the `nb × cbk` table spreads by more than `bound` between any two of its rows. -/
def contourSpreadOk (tab : List Int) (cbk nb : Nat) (bound : Int) : Bool :=
  (List.range cbk).all fun c => (List.range nb).all fun i => (List.range nb).all fun j =>
    decide (tab.getD (i * cbk + c) 0 - tab.getD (j * cbk + c) 0 ≤ bound)

/-- What `silk_decode_pitch` and the encoder's tail need of the contour codebook they select: both select the same one,
    it has `nb` complete rows of at most 34 entries (the widest, stage 3 at 20 ms), no contour spreads by more than 18
    (3 at 8 kHz), entries are in [-128, 127].  The facts are finite: four regenerated tables. -/
theorem pitchCodebook_ok (fs : Int) (hfs : 8 ≤ fs) {nb : Nat} (hnb : nb = 2 ∨ nb = 4) :
    pitchCodebook fs nb = .ok (pitchEncCodebook fs nb) ∧
    (pitchEncCodebook fs nb).1.length = nb * (pitchEncCodebook fs nb).2 ∧ (pitchEncCodebook fs nb).2 ≤ 34 ∧
    contourSpreadOk (pitchEncCodebook fs nb).1 (pitchEncCodebook fs nb).2 nb (if fs = 8 then 3 else 18) = true ∧
    ∀ e ∈ (pitchEncCodebook fs nb).1, -128 ≤ e ∧ e ≤ 127 := by
  by_cases h8 : fs = 8
  · subst h8
    rcases hnb with rfl | rfl <;> decide +kernel
  · have hgt : fs > 8 := by omega
    simp only [pitchCodebook, pitchEncCodebook, if_neg h8, if_pos hgt]
    rcases hnb with rfl | rfl <;> decide +kernel

theorem pitchLag_eq {fs : Int} (h : I16 fs) : pitchMinLag fs = 2 * fs ∧ pitchMaxLag fs = 18 * fs := by
  unfold pitchMinLag pitchMaxLag smulbb
  rw [wrap16_id h]
  exact ⟨rfl, rfl⟩

/-- THE specification of `silk_decode_pitch`: for every rate `8 ≤ Fs_kHz ≤ 32767` (the codebook is chosen by
    `Fs_kHz == 8`), both sub-frame counts and a contour inside the codebook, the result is the closed form. -/
theorem decodePitch_eq (lagIndex contour fs : Int) {nb : Nat} (hfs : 8 ≤ fs ∧ fs ≤ 32767) (hnb : nb = 2 ∨ nb = 4)
    (hc : 0 ≤ contour ∧ contour < ((pitchEncCodebook fs nb).2 : Int)) :
    decodePitch lagIndex contour fs nb = .ok (pitchLags (pitchEncCodebook fs nb).1 (pitchEncCodebook fs nb).2 contour
      (2 * fs + lagIndex) (2 * fs) (18 * fs) 0 nb) := by
  obtain ⟨hcb, hlen, -, -, -⟩ := pitchCodebook_ok fs hfs.1 hnb
  obtain ⟨hmin, hmax⟩ := pitchLag_eq (fs := fs) ⟨by omega, hfs.2⟩
  unfold decodePitch
  simp only [hcb, bind, Res.bind, hmin, hmax]
  exact pitchLoop_eq _ _ _ _ _ _ hc nb 0 (Nat.le_of_eq (by rw [Nat.zero_add, hlen]))

theorem pitchLags_length (tab cbk c lag lo hi k n) : (pitchLags tab cbk c lag lo hi k n).length = n := by
  simp [pitchLags]

theorem pitchLags_range (tab : List Int) (cbk : Nat) (c lag lo hi : Int) (k n : Nat) (h : lo ≤ hi) :
    ∀ l ∈ pitchLags tab cbk c lag lo hi k n, lo ≤ l ∧ l ≤ hi := by
  intro l hl
  obtain ⟨j, -, rfl⟩ := List.mem_map.mp hl
  exact limit_range _ _ _ h

theorem pitchLags_getD (tab : List Int) (cbk : Nat) (c lag lo hi : Int) (n : Nat) {i : Nat} (hi' : i < n) :
    (pitchLags tab cbk c lag lo hi 0 n).getD i 0 = limit (lag + tab.getD (i * cbk + c.toNat) 0) lo hi := by
  unfold pitchLags
  rw [List.getD_eq_getElem?_getD, List.getElem?_map, List.getElem?_range' (by omega)]
  simp

/-! ### range, spread and encoder agreement, read off the closed form -/

/-- `silk_decode_pitch`: for the three internal rates, both sub-frame counts and every contour
    index of the selected codebook, every lag index (in or out of the coded range) yields lags
    inside `[PE_MIN_LAG_MS*Fs_kHz, PE_MAX_LAG_MS*Fs_kHz]`. -/
theorem decodePitch_spec (lagIndex contour fs : Int) (nb : Nat)
    (hfs : fs = 8 ∨ fs = 12 ∨ fs = 16) (hnb : nb = 2 ∨ nb = 4) (hc0 : 0 ≤ contour)
    (hc1 : ∀ cb, pitchCodebook fs nb = .ok cb → contour < (cb.2 : Int)) :
    ∃ lags, decodePitch lagIndex contour fs nb = .ok lags ∧ lags.length = nb ∧
      ∀ l ∈ lags, 2 * fs ≤ l ∧ l ≤ 18 * fs :=
  ⟨_, decodePitch_eq lagIndex contour fs (by omega) hnb ⟨hc0, hc1 _ (pitchCodebook_ok fs (by omega) hnb).1⟩,
    pitchLags_length .., pitchLags_range _ _ _ _ _ _ _ _ (by omega)⟩

/-- `silk_decode_pitch`: any two lags of one frame differ by at most 18 samples (3 at 8 kHz): `limit` is monotone and
    1-Lipschitz, and no contour of the selected codebook spreads by more. -/
theorem decodePitch_spread (lagIndex contour fs : Int) (nb : Nat)
    (hfs : fs = 8 ∨ fs = 12 ∨ fs = 16) (hnb : nb = 2 ∨ nb = 4) (hc0 : 0 ≤ contour)
    (hc1 : ∀ cb, pitchCodebook fs nb = .ok cb → contour < (cb.2 : Int)) (lags : List Int)
    (hd : decodePitch lagIndex contour fs nb = .ok lags) :
    ∀ i j, i < nb → j < nb → lags.getD i 0 - lags.getD j 0 ≤ 18 := by
  obtain ⟨hcb, -, -, hs, -⟩ := pitchCodebook_ok fs (by omega) hnb
  have hc := hc1 _ hcb
  rw [decodePitch_eq lagIndex contour fs (by omega) hnb ⟨hc0, hc⟩] at hd
  cases hd
  intro i j hi hj
  rw [pitchLags_getD _ _ _ _ _ _ _ hi, pitchLags_getD _ _ _ _ _ _ _ hj]
  apply limit_lip _ _ _ _ _ (by omega) (by omega)
  simp only [contourSpreadOk, List.all_eq_true, List.mem_range, decide_eq_true_eq] at hs
  have := hs contour.toNat (by omega) i hi j hj
  split at this <;> omega

theorem pitchEncLoop_eq (tab : List Int) (cbk : Nat) (c lag lo hi : Int) :
    ∀ (n k : Nat), pitchEncLoop tab cbk c lag lo hi n k = pitchLoop tab cbk c lag lo hi n k
  | 0, _ => rfl
  | n + 1, k => by unfold pitchEncLoop pitchLoop; rw [pitchEncLoop_eq tab cbk c lag lo hi n]

end Opus.SilkParams
