import OpusProofs.ExtIter
/-
  What iteration with `next` yields (`iterAll`) determines what every loop over `next` in src/extensions.c returns:
  `count`, `count_ext`, `parse`, `find`.  At the end the simplest instance: all-zero padding (what `opus_packet_pad` and the
  encoder's CBR padding produce) carries no extensions.
-/
namespace Opus.ExtProofs
open Opus Opus.Ext

set_option linter.unusedVariables false in
/-- Plain iteration with `opus_extension_iterator_next` until it returns `<= 0`: the extensions in
    bitstream order and the final return value (`done` = 0, `invalid` = OPUS_INVALID_PACKET). -/
def iterAll (it : Iter) : Res (List ExtRef × Step) :=
  match h : next it with
  | .ok (it', .ext e) =>
    match iterAll it' with
    | .ok (l, s) => .ok (e :: l, s)
    | .err er => .err er
    | .oob => .oob
    | .abort => .abort
  | .ok (_, s) => .ok ([], s)
  | .err e => .err e
  | .oob => .oob
  | .abort => .abort
termination_by it.mu
decreasing_by exact next_decreases h

/-! The loops over `next` bind the witness of their `match` for `decreasing_by`, like `mainLoop` (see the head of ExtIter);
    `iterAll_eq`, `find_eq` and the `_turn` lemmas are their equations with a plain `match`. -/

theorem iterAll_eq (it : Iter) : iterAll it =
    match next it with
    | .ok (it', .ext e) =>
      (match iterAll it' with
       | .ok (l, s) => .ok (e :: l, s)
       | .err er => .err er
       | .oob => .oob
       | .abort => .abort)
    | .ok (_, s) => .ok ([], s)
    | .err e => .err e
    | .oob => .oob
    | .abort => .abort := by
  rw [iterAll]; split <;> simp only [*]

/-- An iteration that ends normally, as a derivation: the first `next` reports no extension, or it reports `e` and
    the iteration goes on from the state it leaves.  Induction over it, unlike `fun_induction iterAll`, has no
    branches for the failing outcomes. -/
inductive Iterates : Iter → List ExtRef → Step → Prop
  | stop {it it' s} : next it = .ok (it', s) → (∀ e, s ≠ .ext e) → Iterates it [] s
  | step {it it' e l s} : next it = .ok (it', .ext e) → iterAll it' = .ok (l, s) → Iterates it' l s →
      Iterates it (e :: l) s

theorem iterAll_iterates (it : Iter) : ∀ {l s}, iterAll it = .ok (l, s) → Iterates it l s := by
  fun_induction iterAll it with
  | case1 it it' e h l s hrec ih =>
    intro l0 s0 heq
    simp only [Res.ok.injEq, Prod.mk.injEq] at heq
    obtain ⟨rfl, rfl⟩ := heq
    exact .step h hrec (ih hrec)
  | case2 => intro _ _ h; simp at h
  | case3 => intro _ _ h; simp at h
  | case4 => intro _ _ h; simp at h
  | case5 it it' s hne h =>
    intro l0 s0 heq
    simp only [Res.ok.injEq, Prod.mk.injEq] at heq
    obtain ⟨rfl, rfl⟩ := heq
    exact .stop h hne
  | case6 => intro _ _ h; simp at h
  | case7 => intro _ _ h; simp at h
  | case8 => intro _ _ h; simp at h

/-- Every caller loop `while (opus_extension_iterator_next(&it, …) > 0)` terminates on arbitrary bytes: the step
    relation "`next` reported an extension" is well-founded. -/
theorem next_wf : WellFounded (fun it' it : Iter => ∃ e, next it = .ok (it', .ext e)) := by
  have hwf : WellFounded (Prod.Lex (· < ·) (Prod.Lex (· < ·) (· < ·)) : Nat × Nat × Nat → Nat × Nat × Nat → Prop) :=
    (Prod.lex ⟨_, Nat.lt_wfRel.wf⟩ (Prod.lex ⟨_, Nat.lt_wfRel.wf⟩ ⟨_, Nat.lt_wfRel.wf⟩)).wf
  apply Subrelation.wf (r := InvImage _ Iter.mu) _ (InvImage.wf _ hwf)
  intro a b ⟨e, h⟩
  exact next_decreases h

/-- From a state satisfying the invariant, iteration ends with `done` or `invalid` (no fault), every extension on
    the way is inside the buffer, and inside the box bounds there are at most `phi it` of them. -/
theorem iterAll_inv (it : Iter) : Inv it → ∃ l s, iterAll it = .ok (l, s) ∧ (s = .done ∨ s = .invalid) ∧
    (∀ e ∈ l, ExtOk it e) ∧ (Box it → 0 ≤ it.currLen → (l.length : Int) ≤ phi it) := by
  intro hI
  induction it using next_wf.induction with
  | h it ih =>
  obtain ⟨it1, s1, g1, gk, gr⟩ := next_keeps hI
  have hnil : Box it → 0 ≤ it.currLen → (([] : List ExtRef).length : Int) ≤ phi it :=
    fun hB hcl => by simpa using phi_nonneg hB hcl
  rw [iterAll_eq, g1]
  cases s1 with
  | ext e =>
    obtain ⟨l, s, k1, k2, k3, k4⟩ := ih it1 ⟨e, g1⟩ gk.inv
    simp only [k1]
    refine ⟨e :: l, s, rfl, k2, fun x hx => ?_, fun hB hcl => ?_⟩
    · have hsame : ∀ y, ExtOk it1 y → ExtOk it y := fun y hy => by
        unfold ExtOk at *; rw [← gk.same.2.1, ← gk.same.2.2.1]; exact hy
      rcases List.mem_cons.mp hx with rfl | hx
      · exact hsame _ gr.1
      · exact hsame _ (k3 x hx)
    · obtain ⟨p1, c1⟩ := gr.2 hB e rfl
      have := k4 (gk.box hB).1 c1
      simp only [List.length_cons]; push_cast; omega
  | done => exact ⟨[], .done, rfl, Or.inl rfl, by simp, hnil⟩
  | invalid => exact ⟨[], .invalid, rfl, Or.inr rfl, by simp, hnil⟩

/-- One turn of a caller loop `while (opus_extension_iterator_next(&it, &ext) > 0) body`: `f` is the body (it may end
    the loop with an error), `fin` what the caller returns once `next` reports no extension, `rec` the next turn. -/
def nextTurn {σ ρ : Type} (f : σ → ExtRef → Res σ) (fin : σ → Step → Res ρ) (rec : Iter → σ → Res ρ) (it : Iter) (a : σ) : Res ρ :=
  match next it with
  | .ok (it', .ext e) =>
    (match f a e with
     | .ok a' => rec it' a'
     | .err er => .err er
     | .oob => .oob
     | .abort => .abort)
  | .ok (_, s) => fin a s
  | .err er => .err er
  | .oob => .oob
  | .abort => .abort

def foldRes {σ : Type} (f : σ → ExtRef → Res σ) : σ → List ExtRef → Res σ
  | a, [] => .ok a
  | a, e :: l =>
    match f a e with
    | .ok a' => foldRes f a' l
    | .err er => .err er
    | .oob => .oob
    | .abort => .abort

/-- A function that satisfies the equation of a loop over `next` with body `f` is `f` folded over what iteration yields,
    followed by `fin`. -/
theorem loop_iterAll {σ ρ : Type} {f : σ → ExtRef → Res σ} {fin : σ → Step → Res ρ} {F : Iter → σ → Res ρ}
    (hF : ∀ it a, F it a = nextTurn f fin F it a) {it : Iter} {l : List ExtRef} {s : Step} (h : iterAll it = .ok (l, s)) :
    ∀ a, F it a = match foldRes f a l with
      | .ok a' => fin a' s
      | .err er => .err er
      | .oob => .oob
      | .abort => .abort := by
  replace h := iterAll_iterates it h
  induction h with
  | @stop it it' s h hne =>
    intro a
    rw [hF, nextTurn, h]
    cases s with
    | ext e => exact (hne _ rfl).elim
    | done => rfl
    | invalid => rfl
  | @step it it' e l s h _ _ ih =>
    intro a
    rw [hF, nextTurn, h]
    simp only [foldRes]
    cases f a e with
    | ok a' => exact ih a'
    | err er => rfl
    | oob => rfl
    | abort => rfl

theorem countLoop_turn (it : Iter) (n : Nat) :
    countLoop it n = nextTurn (fun n _ => .ok (n + 1)) (fun n _ => .ok n) countLoop it n := by
  rw [countLoop, nextTurn]; split <;> simp only [*]

theorem countLoop_iterAll (it : Iter) (l s) (h : iterAll it = .ok (l, s)) (n : Nat) : countLoop it n = .ok (n + l.length) := by
  rw [loop_iterAll countLoop_turn h]
  have : ∀ (l : List ExtRef) n, foldRes (fun n _ => Res.ok (n + 1)) n l = .ok (n + l.length) := by
    intro l; induction l with
    | nil => intro n; rfl
    | cons e l ih => intro n; simp only [foldRes, ih, List.length_cons]; congr 1; omega
  rw [this]

/-- Converse of `countLoop_iterAll`: a count that succeeds has iterated to the end. -/
theorem countLoop_ok (it : Iter) (n : Nat) : ∀ m, countLoop it n = .ok m →
    ∃ l s, iterAll it = .ok (l, s) ∧ (s = .done ∨ s = .invalid) := by
  fun_induction countLoop it n with
  | case1 it n it' e h ih =>
    intro m hm
    obtain ⟨l, s, hl, hs⟩ := ih m hm
    exact ⟨e :: l, s, by rw [iterAll_eq, h]; simp only [hl], hs⟩
  | case2 it n it' s hne h =>
    intro m _
    cases s with
    | ext e => exact absurd rfl (hne e)
    | done => exact ⟨[], .done, by rw [iterAll_eq, h], .inl rfl⟩
    | invalid => exact ⟨[], .invalid, by rw [iterAll_eq, h], .inr rfl⟩
  | case3 => intro m hm; simp at hm
  | case4 => intro m hm; simp at hm
  | case5 => intro m hm; simp at hm

/-- `count` succeeds exactly along a plain iteration that ends; `parse` then returns that list (or fails, when the
    iteration ends in an error): the hypotheses of `count_iterAll` / `parse_iterAll`, from the count alone. -/
theorem count_ok_scan {d : Bytes} {len nbFrames : Int} {n : Nat} (h : Ext.count d len nbFrames = .ok n) :
    ∃ it l s, iterInit d len nbFrames = .ok it ∧ iterAll it = .ok (l, s) ∧ (s = .done ∨ s = .invalid) ∧ l.length = n := by
  unfold Ext.count at h
  cases hi : iterInit d len nbFrames with
  | ok it =>
    rw [hi] at h
    simp only [] at h
    obtain ⟨l, s, hl, hs⟩ := countLoop_ok it 0 n h
    have := countLoop_iterAll it l s hl 0
    rw [h, Nat.zero_add] at this
    exact ⟨it, l, s, rfl, hl, hs, (Res.ok.inj this).symm⟩
  | err e => rw [hi] at h; cases h
  | oob => rw [hi] at h; cases h
  | abort => rw [hi] at h; cases h

theorem parseLoop_turn (cap : Int) (it : Iter) (acc : Array ExtRef) :
    parseLoop it cap acc = nextTurn (fun acc e => if (acc.size : Int) = cap then .err .bufferTooSmall else .ok (acc.push e))
      (fun acc s => if s = .done then .ok acc else .err .invalidPacket) (fun it acc => parseLoop it cap acc) it acc := by
  rw [parseLoop, nextTurn]; split <;> simp only [*]
  · split <;> rfl
  · rfl
  · rfl

theorem parseLoop_iterAll (it : Iter) : ∀ l s, iterAll it = .ok (l, s) → ∀ (cap : Int) (acc : Array ExtRef),
    (acc.size : Int) ≤ cap →
    parseLoop it cap acc =
      if cap < (acc.size : Int) + l.length then .err .bufferTooSmall
      else if s = .done then .ok (acc ++ l.toArray) else .err .invalidPacket := by
  intro l s h cap acc hcap
  rw [loop_iterAll (parseLoop_turn cap) h]
  have : ∀ (l : List ExtRef) (acc : Array ExtRef), (acc.size : Int) ≤ cap →
      foldRes (fun acc e => if (acc.size : Int) = cap then Res.err Err.bufferTooSmall else .ok (acc.push e)) acc l =
        if cap < (acc.size : Int) + l.length then .err .bufferTooSmall else .ok (acc ++ l.toArray) := by
    intro l
    induction l with
    | nil => intro acc hcap; rw [if_neg (by simp only [List.length_nil]; omega)]; simp [foldRes]
    | cons e l ih =>
      intro acc hcap
      simp only [foldRes]
      by_cases hc : (acc.size : Int) = cap
      · rw [if_pos hc, if_pos (by simp only [List.length_cons]; omega)]
      · rw [if_neg hc]
        simp only
        rw [ih (acc.push e) (by simp only [Array.size_push]; omega)]
        simp only [Array.size_push, List.length_cons]
        rw [show ((acc.size + 1 : Nat) : Int) + (l.length : Int) = (acc.size : Int) + ((l.length + 1 : Nat) : Int) by omega,
          show acc.push e ++ l.toArray = acc ++ (e :: l).toArray by apply Array.ext'; simp]
  rw [this l acc hcap]
  by_cases hc : cap < (acc.size : Int) + l.length
  · simp only [hc, if_true]
  · simp only [hc, if_false]

/-- The per-frame counters after the extensions `l` have been counted into `cnt`
    (`nb_frame_exts[ext.frame]++`, extensions.c:334). -/
def bump (cnt : List Nat) : List ExtRef → List Nat
  | [] => cnt
  | e :: l => bump (cnt.set e.frame (cnt.getD e.frame 0 + 1)) l

theorem bump_length (cnt : List Nat) (l : List ExtRef) : (bump cnt l).length = cnt.length := by
  induction l generalizing cnt with
  | nil => rfl
  | cons e l ih => simp [bump, ih]

/-- The body of the `count_ext` loop on `(count, nb_frame_exts)` (extensions.c:334). -/
def bumpR (a : Nat × List Nat) (e : ExtRef) : Res (Nat × List Nat) :=
  match a.2[e.frame]? with
  | none => .oob
  | some c => .ok (a.1 + 1, a.2.set e.frame (c + 1))

theorem countExtLoop_turn (it : Iter) (a : Nat × List Nat) :
    countExtLoop it a.1 a.2 = nextTurn bumpR (fun a _ => .ok a) (fun it a => countExtLoop it a.1 a.2) it a := by
  rw [countExtLoop, nextTurn]; split <;> simp only [*, bumpR]
  · split <;> simp only [*]

theorem countExtLoop_iterAll (it : Iter) : ∀ l s, iterAll it = .ok (l, s) → ∀ (n : Nat) (cnt : List Nat),
    (∀ e ∈ l, e.frame < cnt.length) →
    countExtLoop it n cnt = .ok (n + l.length, bump cnt l) := by
  intro l s h n cnt hfr
  rw [loop_iterAll countExtLoop_turn h (n, cnt)]
  have : ∀ (l : List ExtRef) (n : Nat) (cnt : List Nat), (∀ e ∈ l, e.frame < cnt.length) →
      foldRes bumpR (n, cnt) l = .ok (n + l.length, bump cnt l) := by
    intro l
    induction l with
    | nil => intro n cnt _; rfl
    | cons e l ih =>
      intro n cnt hfr
      have hlt : e.frame < cnt.length := hfr e (List.mem_cons_self ..)
      have hget : cnt[e.frame]? = some cnt[e.frame] := by simp [hlt]
      have hD : cnt.getD e.frame 0 = cnt[e.frame] := by simp [List.getD, hget]
      simp only [foldRes, bumpR, hget, bump, hD]
      rw [ih _ _ (fun x hx => by simp only [List.length_set]; exact hfr x (List.mem_cons_of_mem _ hx))]
      simp only [List.length_cons]; congr 2; omega
  rw [this l n cnt hfr]

/-- Number of extensions of `l` that belong to frame `f`. -/
def frameCount (l : List ExtRef) (f : Nat) : Nat := (l.filter (fun e => e.frame = f)).length

theorem bump_getD (cnt : List Nat) (l : List ExtRef) (f : Nat) (hf : f < cnt.length) :
    (bump cnt l).getD f 0 = cnt.getD f 0 + frameCount l f := by
  induction l generalizing cnt with
  | nil => simp [bump, frameCount]
  | cons e l ih =>
    simp only [bump]
    rw [ih _ (by simp only [List.length_set]; exact hf)]
    unfold frameCount
    by_cases hef : e.frame = f
    · subst hef
      simp [List.getD, hf]
      omega
    · simp only [List.getD, List.filter_cons, hef, decide_false]
      rw [List.getElem?_set_ne hef]
      simp

theorem length_filter_lt_succ {α : Type} (key : α → Nat) (l : List α) (m : Nat) :
    (l.filter (fun a => key a < m + 1)).length =
      (l.filter (fun a => key a < m)).length + (l.filter (fun a => key a = m)).length := by
  induction l with
  | nil => rfl
  | cons a l ih =>
    simp only [List.filter_cons, apply_ite List.length, List.length_cons, ih, decide_eq_true_eq]
    split <;> split <;> split <;> omega

/-- First output index of frame `f`: `nb_frames_cum[f]` before the loop. -/
def startOf (l : List ExtRef) : Nat → Nat
  | 0 => 0
  | f + 1 => startOf l f + frameCount l f

theorem startOf_eq (l : List ExtRef) (m : Nat) : startOf l m = (l.filter (fun e => e.frame < m)).length := by
  induction m with
  | zero => rw [List.filter_eq_nil_iff.mpr (by simp)]; rfl
  | succ m ih => rw [startOf, ih]; exact (length_filter_lt_succ (fun e : ExtRef => e.frame) l m).symm

theorem startOf_total (l : List ExtRef) (nbF : Nat) (h : ∀ e ∈ l, e.frame < nbF) : startOf l nbF = l.length := by
  rw [startOf_eq, List.filter_eq_self.mpr (by simpa using h)]

theorem sumN_frameCount (l : List ExtRef) (n : Nat) : sumN ((List.range n).map (frameCount l)) = startOf l n := by
  induction n with
  | zero => rfl
  | succ n ih => rw [List.range_succ, List.map_append, sumN_append, ih]; simp [startOf]

/-- Reported short IDs carry 0 or 1 payload byte. -/
theorem iterAll_short {it : Iter} {l : List ExtRef} {s : Step} (hI : Inv it) (h : iterAll it = .ok (l, s)) :
    ∀ e ∈ l, e.id < 32 → e.len ≤ 1 := by
  obtain ⟨l', s', h', _, hext, _⟩ := iterAll_inv it hI
  rw [h] at h'; cases h'
  intro e he; exact (hext e he).2.2.2.2.2

theorem bump_replicate (n : Nat) (l : List ExtRef) : bump (List.replicate n 0) l = (List.range n).map (frameCount l) := by
  apply List.ext_getElem
  · simp [bump_length]
  · intro i h1 h2
    have hi : i < n := by simpa [bump_length] using h1
    have := bump_getD (List.replicate n 0) l i (by simpa using hi)
    simp only [List.getD, List.getElem?_eq_getElem h1, Option.getD_some] at this
    rw [this]
    simp [hi]

section
variable {d : Bytes} {len nbFrames : Int} {it : Iter} {l : List ExtRef} {s : Step}

theorem count_iterAll (hit : iterInit d len nbFrames = .ok it) (hall : iterAll it = .ok (l, s)) :
    count d len nbFrames = .ok l.length := by
  unfold count; rw [hit]; simp only; rw [countLoop_iterAll it l s hall]; simp

theorem countExt_iterAll (hit : iterInit d len nbFrames = .ok it) (hall : iterAll it = .ok (l, s))
    (hfr : ∀ e ∈ l, e.frame < it.nbFrames) :
    countExt d len nbFrames = .ok (l.length, (List.range it.nbFrames).map (frameCount l)) := by
  unfold countExt; rw [hit]; simp only
  rw [countExtLoop_iterAll it l s hall 0 _ (by simpa using hfr), bump_replicate]; simp

theorem parse_iterAll (hit : iterInit d len nbFrames = .ok it) (hall : iterAll it = .ok (l, s)) (cap : Int) (h0 : 0 ≤ cap) :
    parse d len cap nbFrames =
      if cap < (l.length : Int) then .err .bufferTooSmall else if s = .done then .ok l else .err .invalidPacket := by
  unfold parse; rw [hit]; simp only
  rw [parseLoop_iterAll it l s hall cap #[] (by simpa using h0)]
  simp only [List.size_toArray, List.length_nil, Int.natCast_zero, Int.zero_add]
  by_cases hc : cap < (l.length : Int)
  · simp only [hc, if_true]
  · simp only [hc, if_false]
    by_cases hd : s = .done <;> simp [hd]

end

/-- On well-formed bytes and at most 48 frames, `count`, `count_ext` and `parse` return what plain iteration yields. -/
theorem scan_agree (d : Bytes) (hb : BytesOk d) (nbFrames : Nat) (hnf : nbFrames ≤ 48) :
    ∃ (it : Iter) (l : List ExtRef) (s : Step),
      iterInit d d.length nbFrames = .ok it ∧ iterAll it = .ok (l, s) ∧ (s = .done ∨ s = .invalid) ∧
      (∀ e ∈ l, 3 ≤ e.id ∧ e.id ≤ 127 ∧ e.frame < nbFrames ∧ 0 ≤ e.len ∧ (e.off : Int) + e.len ≤ d.length) ∧
      count d d.length nbFrames = .ok l.length ∧
      countExt d d.length nbFrames = .ok (l.length, (List.range nbFrames).map (frameCount l)) ∧
      sumN ((List.range nbFrames).map (frameCount l)) = l.length ∧
      (∀ cap : Int, (l.length : Int) ≤ cap →
        parse d d.length cap nbFrames = if s = .done then .ok l else .err .invalidPacket) ∧
      (∀ cap : Int, 0 ≤ cap → cap < l.length → parse d d.length cap nbFrames = .err .bufferTooSmall) := by
  obtain ⟨it, hit⟩ : ∃ it, iterInit d d.length nbFrames = .ok it := ⟨_, iterInit_eq.mpr ⟨by omega, by omega, by omega, rfl⟩⟩
  obtain ⟨hI, hlen, hnb, hdata⟩ := iterInit_inv hb (Int.le_refl _) hit
  have hnb' : it.nbFrames = nbFrames := by omega
  obtain ⟨l, s, hall, hs, hext, _⟩ := iterAll_inv it hI
  have hext' := fun e he => (hext e he).bounds hlen hnb'
  have hfr : ∀ e ∈ l, e.frame < it.nbFrames := fun e he => by rw [hnb']; exact (hext' e he).2.2.1
  refine ⟨it, l, s, hit, hall, hs, hext', count_iterAll hit hall, by rw [countExt_iterAll hit hall hfr, hnb'], ?_, ?_, ?_⟩
  · rw [sumN_frameCount, startOf_total l nbFrames (fun e he => (hext' e he).2.2.1)]
  · intro cap hcap
    rw [parse_iterAll hit hall cap (by omega), if_neg (by omega)]
  · intro cap h0 hcap
    rw [parse_iterAll hit hall cap h0, if_pos hcap]

theorem find_eq (it : Iter) (id : Int) : find it id =
    match next it with
    | .ok (it', .ext e) => if (e.id : Int) = id then .ok (it', .ext e) else find it' id
    | .ok (it', s) => .ok (it', s)
    | .err e => .err e
    | .oob => .oob
    | .abort => .abort := by
  rw [find]; split <;> simp only [*]

/-- `find` in terms of plain iteration: with `l` the extensions `next` would return from this state on and `s` the
    final return value, `find` returns the FIRST entry of `l` with the requested ID, leaving the iterator where
    plain iteration would continue (`post`); with no such entry it returns what iteration ends with (`0` or
    `OPUS_INVALID_PACKET`).  `P` is any property of states preserved by `next` (e.g. reachability). -/
theorem find_iterAll (P : Iter → Prop) (hP : ∀ it it' s, P it → next it = .ok (it', s) → P it') (id : Int) (it : Iter) :
    ∀ l s, iterAll it = .ok (l, s) → P it →
    (∀ pre e post, l = pre ++ e :: post → (∀ x ∈ pre, (x.id : Int) ≠ id) → (e.id : Int) = id →
      ∃ it', find it id = .ok (it', .ext e) ∧ P it' ∧ iterAll it' = .ok (post, s)) ∧
    ((∀ x ∈ l, (x.id : Int) ≠ id) → ∃ it', find it id = .ok (it', s) ∧ P it') := by
  intro l s h
  replace h := iterAll_iterates it h
  induction h with
  | @stop it it' s h hne =>
    intro hp
    constructor
    · intro pre e post hl; cases pre <;> simp at hl
    · intro _
      refine ⟨it', ?_, hP _ _ _ hp h⟩
      rw [find_eq, h]
      cases s with
      | ext e => exact (hne e rfl).elim
      | done => rfl
      | invalid => rfl
  | @step it it' e l s h hrec _ ih =>
    intro hp
    have hp' := hP _ _ _ hp h
    obtain ⟨ih1, ih2⟩ := ih hp'
    constructor
    · intro pre e0 post hl hpre he0
      rw [find_eq, h]
      simp only
      cases pre with
      | nil =>
        simp only [List.nil_append, List.cons.injEq] at hl
        obtain ⟨rfl, rfl⟩ := hl
        simp only [he0, if_true]
        exact ⟨it', rfl, hp', hrec⟩
      | cons x pre' =>
        simp only [List.cons_append, List.cons.injEq] at hl
        obtain ⟨rfl, rfl⟩ := hl
        have hx := hpre e (List.mem_cons_self ..)
        simp only [hx, if_false]
        exact ih1 pre' e0 post rfl (fun y hy => hpre y (List.mem_cons_of_mem _ hy)) he0
    · intro hall
      rw [find_eq, h]
      simp only
      have hx := hall e (List.mem_cons_self ..)
      simp only [hx, if_false]
      exact ih2 (fun y hy => hall y (List.mem_cons_of_mem _ hy))

theorem bytesOk_zeros (n : Nat) : BytesOk (List.replicate n 0) := by
  intro b hb; rw [List.mem_replicate] at hb; omega

theorem skipExtension_zero (d : Array Nat) (p : Nat) (len : Int) (h0 : d[p]? = some 0) (hl : 0 < len) :
    skipExtension d p len = .ok (some (p + 1 + (len - 1).toNat, 0, 1)) :=
  skipExtension_byte h0 (by omega) (by simpa using skipPayload_forced d (p + 1) (len - 1) 0 0 (.inl rfl) rfl (by omega))

/-- On all-zero padding the first call of `next` reports "no more extensions". -/
theorem next_zeros (n nf : Nat) (it : Iter) (hit : iterInit (List.replicate n 0) n nf = .ok it) :
    ∃ it', next it = .ok (it', .done) := by
  obtain ⟨h1, h2, h3, h4, h5, hlen, hdata⟩ : it.currLen = n ∧ it.repeatFrame = 0 ∧ it.currData = 0 ∧ it.currFrame = 0 ∧
      it.frameMax = nf ∧ it.len = n ∧ it.data = (List.replicate n 0).toArray := by
    obtain ⟨_, _, _, rfl⟩ := iterInit_eq.mp hit
    exact ⟨rfl, rfl, rfl, rfl, rfl, rfl, by simp⟩
  by_cases hfm : it.frameMax ≤ it.currFrame
  · exact ⟨it, next_done (by omega) h2 hfm⟩
  · rw [next_main (by omega) h2 hfm]
    by_cases hpos : 0 < it.currLen
    · -- the first zero byte is ID 0 with `L = 0`: it swallows the rest of the padding
      have hd0 : it.data[it.currData]? = some 0 := by
        rw [hdata, h3]; simp [show 0 < n by omega]
      have hS : Skipped it 0 (it.currData + 1 + (it.currLen - 1).toNat) 0 1 :=
        ⟨hd0, skipExtension_zero it.data it.currData it.currLen hd0 hpos, by rw [hlen, h3, h1]; push_cast; omega⟩
      rw [mainLoop_cont hpos (mainBody_of_step (.skip hS (.inl rfl)))]
      exact ⟨_, mainLoop_done (by simp)⟩
    · exact ⟨it, mainLoop_done hpos⟩

theorem iterAll_zeros (n nf : Nat) (hnf : nf ≤ 48) :
    ∃ it, iterInit (List.replicate n 0) n nf = .ok it ∧ iterAll it = .ok ([], .done) := by
  obtain ⟨it, hit⟩ : ∃ it, iterInit (List.replicate n 0) n nf = .ok it := ⟨_, iterInit_eq.mpr ⟨by omega, by omega, by omega, rfl⟩⟩
  obtain ⟨it', hn⟩ := next_zeros n nf it hit
  exact ⟨it, hit, by rw [iterAll_eq, hn]⟩

/-- All-zero padding of any length carries no extensions, for every frame count. -/
theorem count_zeros (n nf : Nat) (hnf : nf ≤ 48) : count (List.replicate n 0) n nf = .ok 0 := by
  obtain ⟨it, hit, hall⟩ := iterAll_zeros n nf hnf
  exact count_iterAll hit hall

theorem parse_zeros (n nf : Nat) (hnf : nf ≤ 48) (cap : Int) (hcap : 0 ≤ cap) :
    parse (List.replicate n 0) n cap nf = .ok [] := by
  obtain ⟨it, hit, hall⟩ := iterAll_zeros n nf hnf
  rw [parse_iterAll hit hall cap hcap, if_neg (by simpa using hcap), if_pos rfl]

end Opus.ExtProofs
