import OpusModel.SilkSynthIdxFrame
import OpusProofs.SilkSynthIdxCore
import OpusProofs.SilkParamsFix
/-
  OpusProofs.SilkSynthIdxFrame — the decoder-state invariant the index expressions rely on, and index safety of the
  routines of one silk_decode_frame call around silk_decode_core: silk_PLC_conceal, silk_PLC_update, silk_CNG, the
  outBuf shift.
-/
namespace Opus.SilkSynthIdx
open Opus Opus.Gen Opus.SilkParams

/-- The decoder has been configured by silk_decoder_set_fs. -/
def Configured (s : DecSt) : Prop :=
  (s.fsKHz = 8 ∨ s.fsKHz = 12 ∨ s.fsKHz = 16) ∧ (s.nbSubfr = 2 ∨ s.nbSubfr = 4)

theorem Configured.num {s : DecSt} (h : Configured s) : CfgNum s.cfg := cfgOf_num s.fsKHz s.nbSubfr h.1 h.2

/-- The state invariant of the index arithmetic. -/
structure Inv (s : DecSt) : Prop where
  loss : 0 ≤ s.lossCnt
  /-- after a concealed frame `lagPrev` is a legal lag (used by the transition branch of decode_core) -/
  lagPrev : s.prevSignalType = 2 → s.lossCnt ≠ 0 → 2 * s.fsKHz ≤ s.lagPrev ∧ s.lagPrev ≤ 18 * s.fsKHz
  /-- the PLC pitch lag is a legal lag (Q8) for the rate the PLC state belongs to (`sPLC.fs_kHz`; 0 = never
      used: then `pitchL_Q8 = 0`); silk_PLC re-initialises it before use when that rate is not the current one -/
  pitch : 2 * s.plcFs * 256 ≤ s.pitchLQ8 ∧ s.pitchLQ8 ≤ 18 * s.plcFs * 256
  plcNb : s.plcNb = 2 ∨ s.plcNb = 4
  plcSubfr : 0 ≤ s.plcSubfr ∧ s.plcSubfr ≤ 80

theorem lag_of_q8 (fs p : Int) (h0 : 2 * fs * 256 ≤ p) (h1 : p ≤ 18 * fs * 256) :
    2 * fs ≤ rshiftRound p 8 ∧ rshiftRound p 8 ≤ 18 * fs := by
  rw [rshiftRound8]; omega

/-- The pitch drift `pitchL_Q8 += pitchL_Q8 * 0.01`, limited to 18 ms (PLC.c:360-361), keeps a legal lag legal. -/
theorem drift_range (fs p : Int) (hfs : 8 ≤ fs ∧ fs ≤ 16) (h0 : 2 * fs * 256 ≤ p) (h1 : p ≤ 18 * fs * 256) :
    2 * fs * 256 ≤ min (smlawb p p 655) (18 * fs * 256) ∧ min (smlawb p p 655) (18 * fs * 256) ≤ 18 * fs * 256 := by
  rw [smlawb_drift (by omega)]
  omega

theorem randRun_range (sh : Nat) (mask : Int) (hm : 0 ≤ mask) : ∀ (n : Nat) (seed : Int) (e : Option (Int × Int)),
    (∀ lo hi, e = some (lo, hi) → 0 ≤ lo ∧ hi ≤ mask) →
    ∀ lo hi, (randRun sh mask n seed e).2 = some (lo, hi) → 0 ≤ lo ∧ hi ≤ mask := by
  intro n
  induction n with
  | zero => intro seed e he lo hi h; exact he lo hi h
  | succ n ih =>
    intro seed e he lo hi h
    unfold randRun at h
    simp only at h
    have hidx : 0 ≤ (silkRand seed / (2 : Int) ^ sh) % (mask + 1) ∧ (silkRand seed / (2 : Int) ^ sh) % (mask + 1) ≤ mask := by
      have h1 := Int.emod_nonneg (silkRand seed / (2 : Int) ^ sh) (show mask + 1 ≠ 0 by omega)
      have h2 := Int.emod_lt_of_pos (silkRand seed / (2 : Int) ^ sh) (show 0 < mask + 1 by omega)
      omega
    refine ih _ _ ?_ lo hi h
    intro lo' hi' h'
    cases e with
    | none => simp only [Option.some.injEq, Prod.mk.injEq] at h'; omega
    | some q =>
      obtain ⟨a, b⟩ := q
      have := he a b rfl
      simp only [Option.some.injEq, Prod.mk.injEq] at h'
      omega

/-- `cnt` reads at `base + ((silk_RAND >> sh) & mask)` stay inside the window `[base, base + mask]`. -/
theorem allIn_rdExt_rand {c : Cfg} {a : Arr} {base mask n : Int} [SizeIs c a n] (sh cnt : Nat) (seed : Int)
    (hm : 0 ≤ mask) (hb : 0 ≤ base) (hs : base + mask + 1 ≤ n) :
    AllIn c (rdExt a base (randRun sh mask cnt seed none).2) := by
  have he := randRun_range sh mask hm cnt seed none (by intro _ _ h; cases h)
  cases h : (randRun sh mask cnt seed none).2 with
  | none => exact allIn_nil.2 trivial
  | some q =>
    obtain ⟨lo, hi⟩ := q
    have := he lo hi h
    exact allIn_rd.2 (by omega)

/-- `hb1`: the random excitation is read through a window of RAND_BUF_SIZE = 128 samples at `rand_ptr = exc_Q14 + base`, inside
    the 320 elements of `exc_Q14`. -/
theorem concealLoop_ok (c : Cfg) (hc : CfgNum c) (base : Int) (hb0 : 0 ≤ base) (hb1 : base + 128 ≤ 320) :
    ∀ (n : Nat) (pos p seed : Int), c.ltpMem ≤ pos → pos + (n : Int) * c.subfr = c.ltpMem + c.frameLen →
    2 * c.fsKHz * 256 ≤ p → p ≤ 18 * c.fsKHz * 256 →
    AllIn c (concealLoop c base n pos p seed).1 ∧
    2 * c.fsKHz * 256 ≤ (concealLoop c base n pos p seed).2.1 ∧ (concealLoop c base n pos p seed).2.1 ≤ 18 * c.fsKHz * 256 := by
  obtain ⟨h8, h16, hS, hL, -, -⟩ := hc.lin
  intro n
  induction n with
  | zero => intro pos p seed _ _ h0 h1; exact ⟨allIn_nil.2 trivial, h0, h1⟩
  | succ n ih =>
    intro pos p seed hp0 hp1 h0 h1
    have hlag := lag_of_q8 c.fsKHz p h0 h1
    have hdr := drift_range c.fsKHz p ⟨h8, h16⟩ h0 h1
    have hn0 : 0 ≤ (n : Int) * c.subfr := Int.mul_nonneg (by omega) (by omega)
    push_cast at hp1
    rw [Int.add_mul] at hp1
    unfold concealLoop
    dsimp only [SilkSynth.pitchDriftFacQ16, SilkSynth.maxPitchLagMs, SilkSynth.randBufSize, SilkSynth.ltpOrder]
    have hrec := ih (pos + c.subfr) (min (smlawb p p 655) (18 * c.fsKHz * 256))
      (randRun 25 (128 - 1) c.subfr.toNat seed none).1 (by omega) (by omega) hdr.1 hdr.2
    refine ⟨?_, hrec.2.1, hrec.2.2⟩
    have hext := allIn_rdExt_rand (c := c) (a := .exc_Q14) 25 c.subfr.toNat seed (show (0 : Int) ≤ 128 - 1 by decide) hb0
      (show base + (128 - 1) + 1 ≤ 320 by omega)
    generalize rshiftRound p 8 = lag at hlag ⊢
    simp only [accs, hext, hrec.1]
    omega

/-- The hypotheses under which silk_PLC_conceal is entered (after the reset check of silk_PLC). -/
structure ConcealOk (s : DecSt) : Prop where
  cfg : Configured s
  loss : 0 ≤ s.lossCnt
  pitch : 2 * s.fsKHz * 256 ≤ s.pitchLQ8 ∧ s.pitchLQ8 ≤ 18 * s.fsKHz * 256
  plcNb : s.plcNb = 2 ∨ s.plcNb = 4
  plcSubfr : 0 ≤ s.plcSubfr ∧ s.plcSubfr ≤ 80

theorem concealAccesses_ok (s : DecSt) (h : ConcealOk s) (lowFirst : Bool) :
    (concealAccesses s lowFirst).2.1 = false ∧ AllIn s.cfg (concealAccesses s lowFirst).1 ∧
    2 * s.fsKHz * 256 ≤ (concealAccesses s lowFirst).2.2.1 ∧ (concealAccesses s lowFirst).2.2.1 ≤ 18 * s.fsKHz * 256 ∧
    2 * s.fsKHz ≤ (concealAccesses s lowFirst).2.2.2.2 ∧ (concealAccesses s lowFirst).2.2.2.2 ≤ 18 * s.fsKHz := by
  have hc := h.cfg.num
  have hcfs : s.cfg.fsKHz = s.fsKHz := rfl
  obtain ⟨h8, h16, hS, hL, hO, hF⟩ := hc.lin
  -- silk_PLC_energy reads the last two sub-frames of the excitation
  have e1 : (s.cfg.nbSubfr : Int) * s.cfg.subfr = s.cfg.frameLen := hc.frame.symm
  have e2 : ((s.cfg.nbSubfr : Int) - 2) * s.cfg.subfr = s.cfg.frameLen - 2 * s.cfg.subfr := by
    rw [Int.sub_mul, e1]
  have hlag := lag_of_q8 s.fsKHz s.pitchLQ8 h.pitch.1 h.pitch.2
  have hloss := h.loss
  -- the statement mentions the function six times: name its value, unfold once
  obtain ⟨r, hr⟩ : ∃ r, concealAccesses s lowFirst = r := ⟨_, rfl⟩
  rw [hr]
  unfold concealAccesses at hr
  rw [show SilkSynth.ltpOrder / 2 = 2 by decide] at hr
  -- `dsimp`: the constants unfold definitionally; `simp only` builds a proof through the whole unfolded body
  dsimp only [SilkSynth.maxLpcOrder, SilkSynth.ltpOrder, SilkSynth.randBufSize, SilkSynth.szPlcPrevLpc,
    SilkSynth.maxNbSubfr] at hr
  generalize hbase : (if lowFirst = true then max 0 ((s.plcNb - 1) * s.plcSubfr - 128)
        else max 0 (s.plcNb * s.plcSubfr - 128)) = base at hr
  have hb : 0 ≤ base ∧ base + 128 ≤ 320 := by
    have := h.plcSubfr
    rw [← hbase]
    rcases h.plcNb with hn | hn <;> rw [hn] <;> split <;> omega
  clear hbase -- left in the context, the last `omega` would split on its `if` and `max`
  generalize rshiftRound s.pitchLQ8 8 = lag at hlag hr
  have hloop := concealLoop_ok s.cfg hc base hb.1 hb.2 s.cfg.nbSubfr s.cfg.ltpMem s.pitchLQ8 s.plcSeed (Int.le_refl _)
    (by rw [hc.frame]) h.pitch.1 h.pitch.2
  have hlagEnd := lag_of_q8 s.fsKHz _ hloop.2.1 hloop.2.2
  obtain ⟨hsi, hcond⟩ := rewhiten_start hc hlag
  simp only [if_neg hsi, lpcAnalysis_eq _ _ _ _ _ _ _ _ hcond, Bool.false_eq_true, if_false] at hr
  subst hr
  refine ⟨rfl, ?_, hloop.2.1, hloop.2.2, hlagEnd⟩
  rw [show SilkSynth.typeVoiced = 2 from rfl]
  simp only [accs, hloop.1]
  omega

theorem updLoop_ok (c : Cfg) (hc : CfgNum c) (pitchL ltp : List Int)
    (hl : ∀ k : Nat, k < c.nbSubfr → 2 * c.fsKHz ≤ pitchL.getD k 0 ∧ pitchL.getD k 0 ≤ 18 * c.fsKHz) :
    ∀ (fuel : Nat) (j best p : Int), 0 ≤ j → j ≤ c.nbSubfr → 2 * c.fsKHz * 256 ≤ p → p ≤ 18 * c.fsKHz * 256 →
    AllIn c (updLoop c.nbSubfr c.subfr pitchL ltp fuel j best p).1 ∧
    2 * c.fsKHz * 256 ≤ (updLoop c.nbSubfr c.subfr pitchL ltp fuel j best p).2.2 ∧
    (updLoop c.nbSubfr c.subfr pitchL ltp fuel j best p).2.2 ≤ 18 * c.fsKHz * 256 := by
  obtain ⟨-, -, -, -, -, hF⟩ := hc.lin
  intro fuel
  induction fuel with
  | zero => intro j best p _ _ h0 h1; exact ⟨allIn_nil.2 trivial, h0, h1⟩
  | succ fuel ih =>
    intro j best p hj0 hj1 h0 h1
    unfold updLoop
    rw [show SilkSynth.ltpOrder = 5 from rfl]
    simp only
    split
    · exact ⟨allIn_rd.2 (by omega), h0, h1⟩
    · split
      · exact ⟨allIn_rd.2 (by omega), h0, h1⟩
      · rename_i hjn
        by_cases ht : sumRange ltp (((c.nbSubfr : Int) - 1 - j) * 5) (5 : Int).toNat > best
        · rw [if_pos ht]
          have hlk := hl ((c.nbSubfr : Int) - 1 - j).toNat (by omega)
          have hr := ih (j + 1) (sumRange ltp (((c.nbSubfr : Int) - 1 - j) * 5) (5 : Int).toNat)
            (pitchL.getD ((c.nbSubfr : Int) - 1 - j).toNat 0 * 256) (by omega) (by omega) (by omega) (by omega)
          refine ⟨?_, hr.2.1, hr.2.2⟩
          simp only [accs, hr.1]
          omega
        · rw [if_neg ht]
          have hr := ih (j + 1) best p (by omega) (by omega) h0 h1
          refine ⟨?_, hr.2.1, hr.2.2⟩
          simp only [accs, hr.1]
          omega

theorem updateAccesses_ok (s : DecSt) (hcfg : Configured s) (signalType : Int) (pitchL ltp : List Int)
    (hp : 2 * s.fsKHz * 256 ≤ s.pitchLQ8 ∧ s.pitchLQ8 ≤ 18 * s.fsKHz * 256)
    (hl : signalType = 2 → ∀ k : Nat, k < s.nbSubfr → 2 * s.fsKHz ≤ pitchL.getD k 0 ∧ pitchL.getD k 0 ≤ 18 * s.fsKHz) :
    AllIn s.cfg (updateAccesses s signalType pitchL ltp).1 ∧
    2 * s.fsKHz * 256 ≤ (updateAccesses s signalType pitchL ltp).2 ∧
    (updateAccesses s signalType pitchL ltp).2 ≤ 18 * s.fsKHz * 256 := by
  have hc := hcfg.num
  obtain ⟨h8, h16, -, -, hO, hF⟩ := hc.lin
  have hfs : s.cfg.fsKHz = s.fsKHz := rfl
  unfold updateAccesses
  rw [show SilkSynth.typeVoiced = 2 from rfl]
  dsimp only [SilkSynth.szPredCoefCols, SilkSynth.ltpOrder, SilkSynth.maxPitchLagMs]
  by_cases hsig : signalType = 2
  · rw [if_pos hsig]
    have hu := updLoop_ok s.cfg hc pitchL ltp (hl hsig) (s.cfg.nbSubfr + 1) 0 0 s.pitchLQ8 (by omega) (by omega) hp.1 hp.2
    refine ⟨?_, hu.2.1, hu.2.2⟩
    simp only [accs, hu.1]
    omega
  · rw [if_neg hsig]
    refine ⟨?_, by omega, by omega⟩
    simp only [accs]
    omega

theorem argMaxGain_lt : ∀ (l : List Int) (i : Nat) (m : Int) (best : Nat),
    argMaxGain l i m best < max (best + 1) (i + l.length) := by
  intro l
  induction l with
  | nil => intro i m best; simp [argMaxGain]; omega
  | cons g gs ih =>
    intro i m best
    unfold argMaxGain
    split
    · have := ih (i + 1) g i; simp only [List.length_cons]; omega
    · have := ih (i + 1) m best; simp only [List.length_cons]; omega

/-- The CNG excitation index is masked to at most 255: the read stays inside the 320 elements of `CNG_exc_buf_Q14`. -/
theorem cngMask_range (n : Int) : 0 ≤ cngMask n ∧ cngMask n ≤ 255 := by
  unfold cngMask; omega

theorem cngAccesses_ok (s : DecSt) (hcfg : Configured s) (gains : List Int) :
    AllIn s.cfg (cngAccesses s gains).1 := by
  have hc := hcfg.num
  obtain ⟨h8, h16, hS, -, hO, hF⟩ := hc.lin
  -- the loudest sub-frame is one of the frame's; the buffer shift moves the other `nb - 1`
  have hslot := hc.slot (k := argMaxGain (gains.take s.cfg.nbSubfr) 0 0 0) (by
    have h1 := argMaxGain_lt (gains.take s.cfg.nbSubfr) 0 0 0
    have h2 : (gains.take s.cfg.nbSubfr).length ≤ s.cfg.nbSubfr := by simp [List.length_take]; omega
    omega)
  have e1 : ((s.cfg.nbSubfr : Int) - 1) * s.cfg.subfr = s.cfg.frameLen - s.cfg.subfr := by
    rw [Int.sub_mul, ← hc.frame, Int.one_mul]
  have hmask := cngMask_range s.cfg.frameLen
  have hext := fun seed => allIn_rdExt_rand (c := s.cfg) (a := .cngExcBuf) 24 s.cfg.frameLen.toNat seed hmask.1 (Int.le_refl 0)
    (show 0 + cngMask s.cfg.frameLen + 1 ≤ 320 by omega)
  unfold cngAccesses
  dsimp only [SilkSynth.maxLpcOrder]
  split <;> simp only [accs, hext] <;> omega

theorem shiftAccesses_ok (c : Cfg) (hc : CfgNum c) : AllIn c (shiftAccesses c) := by
  obtain ⟨h8, h16, -, hL, -, hF⟩ := hc.lin
  unfold shiftAccesses
  simp only [accs]
  omega

end Opus.SilkSynthIdx
