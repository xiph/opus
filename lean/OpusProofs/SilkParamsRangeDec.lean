import OpusProofs.SilkParamsRangeBasic
import OpusProofs.SilkParamsNlsf
import OpusProofs.SilkParamsGains
import OpusProofs.SilkParamsPitch
/-
  OpusProofs.SilkParamsRangeDec — 32-bit range lemmas for the table-driven dequantisers:
  silk_NLSF_residual_dequant, the first-stage reconstruction and with them silk_NLSF_decode (NLSF_decode.c:35-92) as a
  whole up to the call of silk_NLSF_stabilize (the stabiliser itself works on sums of at most 17 `opus_int16` values and
  is covered, int16 stores included, by `stabilize_post`), silk_log2lin (log2lin.c:36-57) and the gain computation of
  silk_gains_dequant (gain_quant.c:123), silk_decode_pitch (decode_pitch.c:69-76).

  Input domains = what the decoder guarantees (C03 `silkSyms_decode_indices_in_range`):
  residual indices in [-10, 10], first-stage index < nVectors, gain index in [0, 63] after the
  clamp, lag index an `opus_int16`, contour index inside the contour table.
-/
namespace Opus.SilkParams
open Opus Opus.Gen

/-! ### silk_NLSF_residual_dequant -/

theorem adj_eq : SilkNlsf.nlsfQuantLevelAdjQ10 = 102 := by decide

/-- The body of the loop of silk_NLSF_residual_dequant (NLSF_decode.c:46-57) as the model computes it, casts included:
    the new `out_Q10` from the previous one, `indices[i]`, `pred_coef_Q8[i]` and `quant_step_size_Q16`. -/
def resStep (q i p out : Int) : Int :=
  let o := lshift32 i 10
  smlawb (shrI (smulbb out p) 8)
    (if o > 0 then o - SilkNlsf.nlsfQuantLevelAdjQ10 else if o < 0 then o + SilkNlsf.nlsfQuantLevelAdjQ10 else o) q

/-- Every `int` value computed by silk_NLSF_residual_dequant (NLSF_decode.c:46-57), in execution
    order (the C loop runs from `order-1` down, i.e. from the tail of the lists): per coefficient
    the product of `silk_SMULBB`, `pred_Q10`, `indices[i] << 10`, the level-adjusted value, the
    64-bit-product shift of `silk_SMLAWB` and its sum (operand of the `(opus_int32)` cast). -/
def resDequantTrace (q : Int) : List Int → List Int → List Int
  | i :: is, p :: ps =>
    let out := (resDequant q is ps).2
    let o := i * 1024
    let o' := if o > 0 then o - 102 else if o < 0 then o + 102 else o
    resDequantTrace q is ps ++ [out * p, out * p / 256, o, o', o' * q / 65536, out * p / 256 + o' * q / 65536]
  | _, _ => []

/-- The operands of the narrowing conversions to `opus_int16` in the same function: the two
    `(opus_int16)` casts inside `silk_SMULBB( out_Q10, pred_coef_Q8[i] )`, the `(opus_int16)` cast
    of `quant_step_size_Q16` inside `silk_SMLAWB`, and the store `x_Q10[i] = out_Q10`. -/
def resDequantCasts (q : Int) : List Int → List Int → List Int
  | i :: is, p :: ps =>
    resDequantCasts q is ps ++ [(resDequant q is ps).2, p, q, (resDequant q (i :: is) (p :: ps)).2]
  | _, _ => []

theorem resDequant_cons (q i p : Int) (is ps : List Int) :
    resDequant q (i :: is) (p :: ps) =
      (wrap16 (resStep q i p (resDequant q is ps).2) :: (resDequant q is ps).1, resStep q i p (resDequant q is ps).2) := by
  simp only [resDequant, resStep]

/-- One step: `|out| ≤ B ≤ 30000`, `|i| ≤ 10`, `0 ≤ p ≤ 255`, `0 ≤ q ≤ 11796` ⟹ the model's step is
    `(out_Q10 * pred_coef_Q8[i] >> 8) + ((indices[i] << 10 ∓ 102) * quant_step_size_Q16 >> 16)` in plain integer arithmetic,
    nothing wraps, and `|out'| ≤ B + 1825`.  11796 is the larger of the two codebooks' step sizes
    (NB/MB: 0.18 in Q16); 1825 bounds the level term `10138·11796 >> 16` (the prediction term `out·p >> 8` is at most
    `B` in magnitude), and 16 steps give 16·1825 = 29200 < 2^15. -/
theorem resStep_range (q i p out B : Int) (hq : 0 ≤ q ∧ q ≤ 11796) (hi : -10 ≤ i ∧ i ≤ 10)
    (hp : 0 ≤ p ∧ p ≤ 255) (ho : -B ≤ out ∧ out ≤ B) (hB : B ≤ 30000) :
    let o := i * 1024
    let o' := if o > 0 then o - 102 else if o < 0 then o + 102 else o
    resStep q i p out = out * p / 256 + o' * q / 65536 ∧
    -(B + 1825) ≤ resStep q i p out ∧ resStep q i p out ≤ B + 1825 ∧
    (∀ v ∈ [out * p, out * p / 256, o, o', o' * q / 65536, out * p / 256 + o' * q / 65536], I32 v) := by
  intro o o'
  have h1 := mul_abs_le ho (show -255 ≤ p ∧ p ≤ 255 by omega)  -- silk_SMULBB( out_Q10, pred )
  have e1 : smulbb out p = out * p := smulbb_eq (by unfold I16; omega) (by unfold I16; omega)
  have e2 : lshift32 i 10 = o := lshift32_eq (n := 10) (by unfold I32; omega)  -- indices[i] << 10
  have h3 : -10138 ≤ o' ∧ o' ≤ 10138 := by  -- ∓ NLSF_QUANT_LEVEL_ADJ
    show _ ≤ (if i * 1024 > 0 then _ else if i * 1024 < 0 then _ else _) ∧ _
    split
    · omega
    · split <;> omega
  have h4 := mul_abs_le h3 (show -11796 ≤ q ∧ q ≤ 11796 by omega)  -- silk_SMLAWB( pred_Q10, out_Q10, qstep )
  have h0 : -10240 ≤ o ∧ o ≤ 10240 := by show _ ≤ i * 1024 ∧ i * 1024 ≤ _; omega
  have heq : resStep q i p out = out * p / 256 + o' * q / 65536 := by
    unfold resStep
    rw [e2, adj_eq, e1]
    show smlawb (out * p / 256) o' q = _
    exact smlawb_eq (by unfold I16; omega) (by unfold I32; omega)
  rw [heq]
  clear_value o o'
  simp only [List.forall_mem_cons, forall_mem_nil_iff, and_true, I32, true_and]
  omega

/-- silk_NLSF_residual_dequant on the decoder's domain (order ≤ 16, residual indices in
    [-10, 10], predictor bytes, step size ≤ 11796): nothing wraps, no int16 conversion truncates,
    the running `out_Q10` stays within `±1825 · order` and every `x_Q10[i]` within `±29200`. -/
theorem resDequant_range (q : Int) (hq : 0 ≤ q ∧ q ≤ 11796) : ∀ (is ps : List Int),
    is.length = ps.length → is.length ≤ 16 → (∀ i ∈ is, -10 ≤ i ∧ i ≤ 10) → (∀ p ∈ ps, 0 ≤ p ∧ p ≤ 255) →
    (-(1825 * (is.length : Int)) ≤ (resDequant q is ps).2 ∧ (resDequant q is ps).2 ≤ 1825 * (is.length : Int)) ∧
    (∀ x ∈ (resDequant q is ps).1, -29200 ≤ x ∧ x ≤ 29200) ∧
    (∀ v ∈ resDequantTrace q is ps, I32 v) ∧ (∀ v ∈ resDequantCasts q is ps, I16 v) := by
  intro is
  induction is with
  | nil => intro ps _ _ _ _; cases ps <;> simp [resDequant, resDequantTrace, resDequantCasts]
  | cons i is ih =>
    intro ps hl hlen hi hp
    match ps, hl with
    | p :: ps', hl =>
      have hrec := ih ps' (by simpa using hl) (by simp at hlen; omega) (fun j hj => hi j (by simp [hj]))
        (fun j hj => hp j (by simp [hj]))
      have hn : (is.length : Int) ≤ 15 := by simp at hlen; omega
      have hst := resStep_range q i p (resDequant q is ps').2 (1825 * (is.length : Int)) hq (hi i (by simp))
        (hp p (by simp)) hrec.1 (by omega)
      simp only at hst
      rw [resDequant_cons]
      simp only [List.length_cons, Int.natCast_add, Int.natCast_one]
      have hI16 : I16 (resStep q i p (resDequant q is ps').2) := by unfold I16; omega
      refine ⟨by omega, List.forall_mem_cons.mpr ⟨by rw [wrap16_id hI16]; omega, hrec.2.1⟩, ?_, ?_⟩
      · unfold resDequantTrace
        exact List.forall_mem_append.mpr ⟨hrec.2.2.1, hst.2.2.2⟩
      · unfold resDequantCasts
        rw [resDequant_cons]
        simp only [List.forall_mem_append, List.forall_mem_cons, forall_mem_nil_iff, and_true, I16]
        have := hrec.1; have := hp p (by simp)
        exact ⟨hrec.2.2.2, by omega, by omega, by omega, hI16⟩

/-! ### first-stage reconstruction of silk_NLSF_decode -/

/-- The 32-bit values of NLSF_decode.c:87-88 for one coefficient: `res_Q10[i] << 14`, the
    quotient of `silk_DIV32_16`, `CB1_NLSF_Q8[i] << 7`, `NLSF_Q15_tmp`, and the clamped value
    (operand of the `(opus_int16)` cast). -/
def firstStageTrace (res w el : Int) : List Int :=
  [res * 16384, Int.tdiv (res * 16384) w, el * 128, Int.tdiv (res * 16384) w + el * 128,
   limit (Int.tdiv (res * 16384) w + el * 128) 0 32767]

/-- One first-stage coefficient: `|res| ≤ 29200`, weight `w ≥ 1` (an `opus_int16` table entry),
    element byte `0 ≤ el ≤ 255`: nothing wraps, the cast is lossless, result in [0, 32767]. -/
theorem nlsfFirstStage_range (res w el : Int) (hr : -29200 ≤ res ∧ res ≤ 29200) (hw : 1 ≤ w)
    (he : 0 ≤ el ∧ el ≤ 255) :
    (∀ v ∈ firstStageTrace res w el, I32 v) ∧
    nlsfFirstStage res w el = limit (Int.tdiv (res * 16384) w + el * 128) 0 32767 ∧
    0 ≤ nlsfFirstStage res w el ∧ nlsfFirstStage res w el ≤ 32767 := by
  have hd := tdiv_abs_le (res * 16384) w hw 478412800 (by omega)  -- silk_DIV32_16( res_Q10 << 14, w )
  have hL : 0 ≤ limit (Int.tdiv (res * 16384) w + el * 128) 0 32767 ∧  -- silk_LIMIT( ·, 0, 32767 )
      limit (Int.tdiv (res * 16384) w + el * 128) 0 32767 ≤ 32767 := by rw [limit_eq _ _ _ (by decide)]; omega
  have heq : nlsfFirstStage res w el = limit (Int.tdiv (res * 16384) w + el * 128) 0 32767 := by
    unfold nlsfFirstStage
    rw [wrap16_id (x := el) (by unfold I16; omega), lshift32_eq (a := res) (n := 14) (by unfold I32; omega),
      lshift32_eq (a := el) (n := 7) (by unfold I32; omega)]
    simp only [Int.reducePow]
    exact wrap16_id (by unfold I16; omega)
  refine ⟨?_, heq, by rw [heq]; exact hL⟩
  simp only [firstStageTrace, List.forall_mem_cons, forall_mem_nil_iff, and_true, I32]
  omega

/-! ### silk_NLSF_decode up to the call of the stabiliser -/

/-- Trace of the first-stage loop (NLSF_decode.c:86-89) over all coefficients. -/
def firstStageTraceAll : List Int → List Int → List Int → List Int
  | r :: rs, w :: ws, e :: es => firstStageTrace r w e ++ firstStageTraceAll rs ws es
  | _, _, _ => []

theorem firstStageAll_range : ∀ (rs ws es : List Int), (∀ r ∈ rs, -29200 ≤ r ∧ r ≤ 29200) →
    (∀ w ∈ ws, 1 ≤ w) → (∀ e ∈ es, 0 ≤ e ∧ e ≤ 255) →
    (∀ v ∈ firstStageTraceAll rs ws es, I32 v) ∧
    (∀ x ∈ zip3With nlsfFirstStage rs ws es, 0 ≤ x ∧ x ≤ 32767) := by
  intro rs
  induction rs with
  | nil => intro ws es _ _ _; simp [firstStageTraceAll, zip3With]
  | cons r rs ih =>
    intro ws es hr hw he
    cases ws with
    | nil => simp [firstStageTraceAll, zip3With]
    | cons w ws =>
      cases es with
      | nil => simp [firstStageTraceAll, zip3With]
      | cons e es =>
        have h1 := nlsfFirstStage_range r w e (hr r (by simp)) (hw w (by simp)) (he e (by simp))
        have h2 := ih ws es (fun x hx => hr x (by simp [hx])) (fun x hx => hw x (by simp [hx]))
          (fun x hx => he x (by simp [hx]))
        simp only [firstStageTraceAll, zip3With, List.forall_mem_append, List.forall_mem_cons]
        exact ⟨⟨h1.1, h2.1⟩, ⟨h1.2.2.1, h1.2.2.2⟩, h2.2⟩

/-- silk_NLSF_decode up to the call of the stabiliser, for any codebook with `CbOk`. -/
theorem nlsfDecode_range_of (cb : NlsfCB) (ok : CbOk cb) (cb1 : Nat) (h1 : cb1 < cb.nVectors)
    (idx : List Int) (hlen : idx.length = cb.order) (hidx : ∀ i ∈ idx, -10 ≤ i ∧ i ≤ 10) :
    ∃ ec pred, nlsfUnpack cb (cb1 : Int) = .ok (ec, pred) ∧
      (∀ e ∈ ec, I16 e) ∧
      (∀ v ∈ resDequantTrace cb.quantStepSizeQ16 idx pred, I32 v) ∧
      (∀ v ∈ resDequantCasts cb.quantStepSizeQ16 idx pred, I16 v) ∧
      (∀ v ∈ firstStageTraceAll (resDequant cb.quantStepSizeQ16 idx pred).1
          ((cb.cb1WghtQ9.drop (cb1 * cb.order)).take cb.order)
          ((cb.cb1NlsfQ8.drop (cb1 * cb.order)).take cb.order), I32 v) ∧
      (∀ x ∈ zip3With nlsfFirstStage (resDequant cb.quantStepSizeQ16 idx pred).1
          ((cb.cb1WghtQ9.drop (cb1 * cb.order)).take cb.order)
          ((cb.cb1NlsfQ8.drop (cb1 * cb.order)).take cb.order), 0 ≤ x ∧ x ≤ 32767) := by
  have hs := ok.stage1 cb1 h1
  have hord : cb.order ≤ 16 := by rcases ok.order with h | h <;> omega
  unfold stage1RangeOk at hs
  match hu : nlsfUnpack cb (cb1 : Int), hs with
  | .ok (ec, pred), hs =>
    simp only [Bool.and_eq_true, beq_iff_eq, List.all_eq_true, decide_eq_true_eq, Int.toNat_natCast] at hs
    obtain ⟨⟨⟨⟨⟨⟨hpl, _⟩, _⟩, hp⟩, hec⟩, hw⟩, hel⟩ := hs
    have hres := resDequant_range cb.quantStepSizeQ16 ok.qstep idx pred (by omega) (by omega) hidx hp
    have hfs := firstStageAll_range (resDequant cb.quantStepSizeQ16 idx pred).1
      ((cb.cb1WghtQ9.drop (cb1 * cb.order)).take cb.order)
      ((cb.cb1NlsfQ8.drop (cb1 * cb.order)).take cb.order) hres.2.1 (fun w hw' => (hw w hw').1) hel
    exact ⟨ec, pred, rfl, fun e he => by have := hec e he; unfold I16; omega, hres.2.2.1, hres.2.2.2, hfs.1, hfs.2⟩

/-- silk_NLSF_decode up to the call of the stabiliser, on the decoder's domain. -/
theorem nlsfDecode_range (cb : NlsfCB) (hcb : cb = cbNbMb ∨ cb = cbWb) (cb1 : Nat) (h1 : cb1 < cb.nVectors)
    (idx : List Int) (hlen : idx.length = cb.order) (hidx : ∀ i ∈ idx, -10 ≤ i ∧ i ≤ 10) :
    ∃ ec pred, nlsfUnpack cb (cb1 : Int) = .ok (ec, pred) ∧
      (∀ e ∈ ec, I16 e) ∧
      (∀ v ∈ resDequantTrace cb.quantStepSizeQ16 idx pred, I32 v) ∧
      (∀ v ∈ resDequantCasts cb.quantStepSizeQ16 idx pred, I16 v) ∧
      (∀ v ∈ firstStageTraceAll (resDequant cb.quantStepSizeQ16 idx pred).1
          ((cb.cb1WghtQ9.drop (cb1 * cb.order)).take cb.order)
          ((cb.cb1NlsfQ8.drop (cb1 * cb.order)).take cb.order), I32 v) ∧
      (∀ x ∈ zip3With nlsfFirstStage (resDequant cb.quantStepSizeQ16 idx pred).1
          ((cb.cb1WghtQ9.drop (cb1 * cb.order)).take cb.order)
          ((cb.cb1NlsfQ8.drop (cb1 * cb.order)).take cb.order), 0 ≤ x ∧ x ≤ 32767) :=
  nlsfDecode_range_of cb (cbOk hcb) cb1 h1 idx hlen hidx

/-! ### silk_log2lin and the gain computation of silk_gains_dequant -/

/-- Every `opus_int32` value computed by `silk_log2lin( inLog_Q7 )` for `0 ≤ inLog_Q7 < 3967`:
    the shift count, `out = 1 << …`, `frac_Q7`, `128 - frac_Q7`, the `silk_SMULBB` product, the
    64-bit-product shift and sum of `silk_SMLAWB`, and the product and sum of
    `silk_ADD_RSHIFT32( out, silk_MUL( out, t ), 7 )` resp. `silk_MLA( out, out >> 7, t )`. -/
def log2linTrace (x : Int) : List Int :=
  let e := x / 128
  let out := (2 : Int) ^ e.toNat
  let frac := x % 128
  let t := frac + (frac * (128 - frac)) * (-174) / 65536
  [e, out, frac, 128 - frac, frac * (128 - frac), (frac * (128 - frac)) * (-174) / 65536, t] ++
    (if x < 2048 then [out * t, out * t / 128, out + out * t / 128]
     else [out / 128, out / 128 * t, out + out / 128 * t])

/-- `silk_log2lin` without any cast, for `0 ≤ inLog_Q7 < 3967`. -/
def log2linExact (x : Int) : Int :=
  let out := (2 : Int) ^ (x / 128).toNat
  let frac := x % 128
  let t := frac + (frac * (128 - frac)) * (-174) / 65536
  if x < 2048 then out + out * t / 128 else out + out / 128 * t

/-- `silk_log2lin` on its whole non-saturating domain `0 ≤ inLog_Q7 < 3967`: no 32-bit value wraps, the
    casts inside the macros are the identity, the result is positive.  With `e = inLog_Q7 >> 7 ≤ 30` and
    `frac < 128` the interpolation term `t` stays in `[0, frac]`, so `out * t` (for `e ≤ 15`) and
    `(out >> 7) * t` are below `2^30`. -/
theorem log2lin_range (x : Int) (h0 : 0 ≤ x) (h1 : x < 3967) :
    (∀ v ∈ log2linTrace x, I32 v) ∧ log2lin x = log2linExact x ∧ 0 < log2lin x := by
  have hE : 0 ≤ x / 128 ∧ x / 128 ≤ 30 ∧ (x < 2048 → x / 128 ≤ 15) := by omega
  have hF : 0 ≤ x % 128 ∧ x % 128 ≤ 127 := by omega
  unfold log2lin log2linTrace log2linExact shrI
  rw [if_neg (by omega), if_neg (by omega)]
  simp only [Int.reducePow]
  generalize x / 128 = e at hE
  generalize x % 128 = frac at hF
  have hO : 1 ≤ (2 : Int) ^ e.toNat ∧ (2 : Int) ^ e.toNat ≤ 1073741824 ∧
      (x < 2048 → (2 : Int) ^ e.toNat ≤ 32768) :=
    ⟨Int.pow_pos (by decide), two_pow_le (m := 30) (by omega), fun h => two_pow_le (m := 15) (by omega)⟩
  rw [lshift32_eq (a := 1) (by rw [Int.one_mul]; unfold I32; omega), Int.one_mul]
  generalize (2 : Int) ^ e.toNat = out at hO
  -- the interpolation term `t` lies between 0 and `frac`, because 174 * 128 < 65536
  have hP : 0 ≤ frac * (128 - frac) ∧ frac * (128 - frac) ≤ frac * 128 :=
    ⟨Int.mul_nonneg hF.1 (by omega), Int.mul_le_mul_of_nonneg_left (by omega) hF.1⟩
  rw [smulbb_eq (a := frac) (by unfold I16; omega) (by unfold I16; omega),
    smlawb_eq (c := -174) (by decide) (by unfold I32; omega)]
  generalize frac * (128 - frac) = p at hP
  have hT : 0 ≤ frac + p * -174 / 65536 ∧ frac + p * -174 / 65536 ≤ frac := by omega
  generalize frac + p * -174 / 65536 = t at hT
  by_cases hx : x < 2048
  · have hM := mul_nonneg_le (show 0 ≤ out ∧ out ≤ 32768 from ⟨by omega, hO.2.2 hx⟩)
      (show 0 ≤ t ∧ t ≤ 127 by omega)
    simp only [hx, ↓reduceIte, List.cons_append, List.nil_append, List.forall_mem_cons, forall_mem_nil_iff, and_true,
      true_and, I32]
    omega
  · have hQ : 0 ≤ out / 128 ∧ out / 128 ≤ 8388608 := by omega
    have hM := mul_nonneg_le hQ (show 0 ≤ t ∧ t ≤ 127 by omega)
    simp only [hx, ↓reduceIte, List.cons_append, List.nil_append, List.forall_mem_cons, forall_mem_nil_iff, and_true,
      true_and, I32]
    omega

/-- The 32-bit values of gain_quant.c:123 for a clamped index `0 ≤ *prev_ind ≤ 63`: the 64-bit
    product shift of `silk_SMULWB( INV_SCALE_Q16, *prev_ind )` (operand of the `(opus_int32)`
    cast), the sum with `OFFSET`, the `silk_min_32`, then the trace of `silk_log2lin`. -/
def gainOfIndexTrace (p : Int) : List Int :=
  let s := SilkNlsf.gainInvScaleQ16 * p / 65536
  [s, s + SilkNlsf.gainOffset, min (s + SilkNlsf.gainOffset) 3967] ++
    log2linTrace (min (s + SilkNlsf.gainOffset) 3967)

/-- Gain of every quantiser level `0 ≤ p ≤ 63`: no wrap, and `silk_log2lin` is entered below its
    saturation threshold (3967 is never reached: the largest argument is 3923). -/
theorem gainOfIndex_nowrap (p : Int) (h0 : 0 ≤ p) (h1 : p ≤ 63) :
    (∀ v ∈ gainOfIndexTrace p, I32 v) ∧
    gainOfIndex p = log2linExact (min (SilkNlsf.gainInvScaleQ16 * p / 65536 + SilkNlsf.gainOffset) 3967) ∧
    min (SilkNlsf.gainInvScaleQ16 * p / 65536 + SilkNlsf.gainOffset) 3967 < 3967 := by
  have hc : SilkNlsf.gainInvScaleQ16 = 1907825 ∧ SilkNlsf.gainOffset = 2090 := by decide
  unfold gainOfIndex gainOfIndexTrace
  rw [hc.1, hc.2, smulwb_eq (b := p) (by unfold I16; omega) (by unfold I32; omega)]
  have hs : 0 ≤ min (1907825 * p / 65536 + 2090) 3967 ∧ min (1907825 * p / 65536 + 2090) 3967 < 3967 := by omega
  have hl := log2lin_range _ hs.1 hs.2
  refine ⟨?_, hl.2.1, hs.2⟩
  simp only [List.cons_append, List.nil_append, List.forall_mem_cons, I32]
  exact ⟨by omega, by omega, by omega, hl.1⟩

/-- The `int` values of one index update of silk_gains_dequant (gain_quant.c:105-120) before the
    store into the `opus_int8` `*prev_ind`. -/
def gainDequantPrevTrace (first : Bool) (cond ind prev : Int) : List Int :=
  if first ∧ cond = 0 then [prev - 16, max ind (prev - 16)]
  else
    let indTmp := ind + SilkNlsf.minDeltaGainQuant
    let thr := 2 * SilkNlsf.maxDeltaGainQuant - SilkNlsf.nLevelsQGain + prev
    [indTmp, thr] ++ (if indTmp > thr then [indTmp * 2, indTmp * 2 - thr, prev + (indTmp * 2 - thr)]
                      else [prev + indTmp])

theorem gainDequantPrevTrace_range (first : Bool) (cond ind prev : Int) (hi : -128 ≤ ind ∧ ind ≤ 127)
    (hp : -128 ≤ prev ∧ prev ≤ 127) : ∀ v ∈ gainDequantPrevTrace first cond ind prev, I32 v := by
  obtain ⟨h3, h2, h1⟩ := gain_consts
  unfold gainDequantPrevTrace
  rw [h1, h2, h3]
  split
  · simp only [List.forall_mem_cons, forall_mem_nil_iff, and_true, I32]; omega
  · simp only
    split <;> simp only [List.forall_mem_append, List.forall_mem_cons, forall_mem_nil_iff, and_true, I32] <;> omega

/-! ### silk_decode_pitch -/

/-- The `int` values of silk_decode_pitch (decode_pitch.c:69-76): the two `silk_SMULBB`
    products, `lag`, and per sub-frame the table index `k * cbk_size + contourIndex`, the sum
    `lag + Lag_CB_ptr[…]` and the clamped lag. -/
def pitchTrace (tab : List Int) (cbkSize : Nat) (lagIndex contour fsKHz : Int) (nb : Nat) : List Int :=
  let minLag := SilkNlsf.peMinLagMs * fsKHz
  let maxLag := SilkNlsf.peMaxLagMs * fsKHz
  [minLag, maxLag, minLag + lagIndex] ++
    (List.range nb).flatMap fun (k : Nat) =>
      let idx := (k : Int) * (cbkSize : Int) + contour
      let c := tab.getD idx.toNat 0
      [idx, minLag + lagIndex + c, limit (minLag + lagIndex + c) minLag maxLag]

/-- silk_decode_pitch for `Fs_kHz ∈ {8, 12, 16}`, `nb_subfr ∈ {2, 4}`, any `opus_int16` lag index
    and a contour index inside the codebook: the `silk_SMULBB` casts are the identity and nothing
    wraps (all values are below 2^16 in magnitude). -/
theorem decodePitch_range (lagIndex contour fs : Int) (nb : Nat) (tab : List Int) (cbk : Nat)
    (hfs : fs = 8 ∨ fs = 12 ∨ fs = 16) (hnb : nb = 2 ∨ nb = 4) (hl : I16 lagIndex)
    (hcb : pitchCodebook fs nb = .ok (tab, cbk)) (hc : 0 ≤ contour ∧ contour < (cbk : Int)) :
    pitchMinLag fs = SilkNlsf.peMinLagMs * fs ∧ pitchMaxLag fs = SilkNlsf.peMaxLagMs * fs ∧
    ∀ v ∈ pitchTrace tab cbk lagIndex contour fs nb, -65536 ≤ v ∧ v ≤ 65536 := by
  obtain ⟨hcb', -, hsz, -, hent⟩ := pitchCodebook_ok fs (by omega) hnb
  rw [hcb'] at hcb
  rw [Res.ok.inj hcb] at hsz hent
  refine ⟨(pitchLag_eq ⟨by omega, by omega⟩).1, (pitchLag_eq ⟨by omega, by omega⟩).2, ?_⟩
  intro v hv
  unfold I16 at hl
  simp only [pitchTrace, show SilkNlsf.peMinLagMs = 2 from rfl, show SilkNlsf.peMaxLagMs = 18 from rfl, List.mem_append,
    List.mem_cons, List.not_mem_nil, or_false, List.mem_flatMap, List.mem_range] at hv
  rcases hv with (h | h | h) | ⟨k, hk, h⟩
  · omega
  · omega
  · omega
  · have hkc := mul_nonneg_le (show 0 ≤ (k : Int) ∧ (k : Int) ≤ 3 by omega) (show 0 ≤ (cbk : Int) ∧ (cbk : Int) ≤ 34 by omega)
    have hcv := getD_of_all (l := tab) hent (show -128 ≤ (0 : Int) ∧ (0 : Int) ≤ 127 by omega) ((k : Int) * (cbk : Int) + contour).toNat
    have := limit_range (2 * fs + lagIndex + tab.getD ((k : Int) * (cbk : Int) + contour).toNat 0) (2 * fs) (18 * fs) (by omega)
    rcases h with h | h | h <;> omega

end Opus.SilkParams
