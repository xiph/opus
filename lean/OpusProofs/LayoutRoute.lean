import OpusProofs.Layout
import OpusProofs.LayoutCreate
/-
  OpusProofs.LayoutRoute — `opus_multistream_decode_native` as a whole: a positive return value
  comes from the stream loop, so the routing lemma of `OpusProofs.Layout` applies (C10 `routing`).
-/
namespace Opus.Layout
open Opus

/-- A positive return value of `opus_multistream_decode_native` is produced by the stream loop
    (every early exit returns a negative error code). -/
theorem decodeNative_success (l : ChannelLayout) (fsRate : Nat) (frameSize len : Int) (validate : Res Nat)
    (rets : List StreamRet) (r : Routed) (h : decodeNative l fsRate frameSize len validate rets = .ok r)
    (hpos : r.ret > 0) :
    ∃ fs0 : Int, r = routeLoop l (decide (len = 0)) (rets.take l.nbStreams) 0 len fs0 [] := by
  have hneg : ∀ e : Err, ¬ ((⟨e.code, []⟩ : Routed).ret > 0) := fun e => by
    have := Err.code_neg e; simp only; omega
  unfold decodeNative at h
  split at h
  · cases h; exact absurd hpos (hneg _)
  dsimp only at h
  generalize (if frameSize < ((fsRate / 25 * 3 : Nat) : Int) then frameSize else ((fsRate / 25 * 3 : Nat) : Int)) = fs0 at h
  split at h
  · cases h; exact absurd hpos (hneg _)
  split at h
  · cases h; exact absurd hpos (hneg _)
  split at h
  · cases h; exact ⟨_, rfl⟩
  split at h
  · split at h
    · cases h; exact absurd hpos (hneg _)
    · cases h; exact ⟨_, rfl⟩
  · cases h; exact absurd hpos (hneg _)
  · cases h
  · cases h

theorem decoderInit_layout_facts (innerOk : Bool) (ch st co : Int) (m : List Nat) (l : ChannelLayout)
    (h : decoderInit innerOk ch st co m = .ok l) :
    validateLayout l = true ∧ l.nbCoupled ≤ l.nbStreams ∧ l.nbChannels ≤ l.mapping.length ∧
    1 ≤ l.nbChannels ∧ 1 ≤ l.nbStreams := by
  obtain ⟨hargs, hlen, hv, _, hl⟩ := (decoderInit_ok_iff innerOk ch st co m l).1 h
  subst hl
  unfold DecArgsOk at hargs
  refine ⟨(validateLayout_iff _).2 hv, ?_, ?_, ?_, ?_⟩ <;> simp only [storedLayout, List.length_take] <;> omega

/-- The stream a source refers to is below `n`. -/
def Src.streamLt (n : Nat) : Src → Prop
  | .left s => s < n | .right s => s < n | .mono s => s < n | .zero => True

theorem srcFrame_const (rets : List StreamRet) (n : Int) (hn : ∀ r ∈ rets, r.ret = n) (src : Src)
    (hs : src.streamLt rets.length) : srcFrame rets n src = n := by
  cases src <;> simp only [srcFrame] <;> simp only [Src.streamLt] at hs
  all_goals first
    | rfl
    | (rw [List.getElem?_eq_getElem hs]; simp only [Option.map_some, Option.getD_some]
       exact hn _ (List.getElem_mem hs))

theorem finalFs_const : ∀ (rets : List StreamRet) (n fs : Int), rets ≠ [] → (∀ r ∈ rets, r.ret = n) →
    finalFs rets fs = n
  | [], _, _, h, _ => absurd rfl h
  | [r], n, fs, _, hn => by simp only [finalFs]; exact hn r (by simp)
  | r :: q :: rest, n, fs, _, hn => by
    rw [finalFs]
    exact finalFs_const (q :: rest) n r.ret (by simp) (fun x hx => hn x (List.mem_cons_of_mem _ hx))

theorem expectedSrc_in_range (l : ChannelLayout) (hv : validateLayout l = true) (hcs : l.nbCoupled ≤ l.nbStreams)
    (hmap : l.nbChannels ≤ l.mapping.length) (c : Nat) (hc : c < l.nbChannels) :
    (expectedSrc l c).streamLt l.nbStreams := by
  obtain ⟨h255, hvals⟩ := (validateLayout_iff l).1 hv
  have hcl : c < l.mapping.length := by omega
  have hmem : l.mapping[c] ∈ l.chans := by
    unfold ChannelLayout.chans
    rw [List.mem_take_iff_getElem]
    exact ⟨c, by simp only [Nat.lt_min]; omega, rfl⟩
  have := hvals _ hmem
  unfold expectedSrc
  simp only [List.getD_eq_getElem?_getD, List.getElem?_eq_getElem hcl, Option.getD_some]
  generalize l.mapping[c] = v at this
  split
  · trivial
  · split
    · split <;> (show v / 2 < l.nbStreams; omega)
    · show v - l.nbCoupled < l.nbStreams; omega

/-- The routing theorem for any valid layout (created by `opus_multistream_decoder_create` or not): a positive
    return value means every channel got its one call, no call went elsewhere, every stream decoded, and the
    value returned is the last stream's. -/
theorem decodeNative_routing (l : ChannelLayout) (hv : validateLayout l = true) (hcs : l.nbCoupled ≤ l.nbStreams)
    (hmap : l.nbChannels ≤ l.mapping.length) (fsRate : Nat) (frameSize len : Int) (validate : Res Nat)
    (rets : List StreamRet) (hrets : rets.length = l.nbStreams) (r : Routed)
    (hdec : decodeNative l fsRate frameSize len validate rets = .ok r) (hpos : r.ret > 0) :
    (∀ c, c < l.nbChannels → r.calls.filter (fun k => k.chan = c) =
      [{ chan := c, src := expectedSrc l c, frameSize := srcFrame rets r.ret (expectedSrc l c) }]) ∧
    (∀ k ∈ r.calls, k.chan < l.nbChannels) ∧ (∀ s ∈ rets, s.ret > 0) ∧ ∃ fs0, r.ret = finalFs rets fs0 := by
  obtain ⟨fs0, hr⟩ := decodeNative_success l fsRate frameSize len validate rets r hdec hpos
  rw [List.take_of_length_le (by omega)] at hr
  subst hr
  obtain ⟨hcalls, hret, hall⟩ := routeLoop_success l _ rets 0 len fs0 [] hpos
  rw [List.nil_append] at hcalls
  rw [hcalls, hret]
  exact ⟨tailCalls_routing l hv hcs hmap rets hrets fs0, fun k => mem_tailCalls l k rets 0 fs0, hall, fs0, rfl⟩

end Opus.Layout
