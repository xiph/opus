import OpusProofs.SilkSynthIdxHist
/-
  OpusProofs.SilkSynthIdxInit — initialised-before-read for the two LTP state arrays that are fresh stack arrays in every
  call: `sLTP_Q15` of silk_decode_core and `sLTP_Q14` of silk_PLC_conceal.  Both are written from
  `sLTP_buf_idx - lag₀ - LTP_ORDER/2` upwards before the sub-frame loop (re-whitening) and then read at
  `sLTP_buf_idx - lag_k - LTP_ORDER/2 …` with the lag of LATER sub-frames: safe because the lags of one frame differ by
  less than one sub-frame (contour codebooks: spread ≤ 18 < 40 samples; PLC pitch drift ≤ 1% per sub-frame).  The value
  model proves the same for silk_decode_core as totality (`Opus.SilkCoreProofs.SubInv.lh`).
-/
namespace Opus.SilkSynthIdx
open Opus Opus.Gen Opus.SilkParams

theorem transition_zero (x : CoreIn) (k : Nat) (h : transition x k = true) : transition x 0 = true := by
  obtain ⟨h1, h2, h3, -⟩ := transition_iff.1 h
  exact transition_iff.2 ⟨h1, h2, h3, by decide⟩

theorem voicedAt_zero (x : CoreIn) (k : Nat) (h : voicedAt x k = true) : voicedAt x 0 = true :=
  voicedAt_iff.2 ((voicedAt_iff.1 h).imp_left (transition_zero x k))

theorem initLoop_ok (x : CoreIn) (h : CoreOk x) (hc : CfgNum x.cfg)
    (hsp : ∀ k, k < x.nbSubfr → voicedAt x k = true → lagOf x k ≤ lagOf x 0 + x.cfg.subfr) :
    ∀ (n k : Nat) (pos wlo : Int), k + n = x.nbSubfr → (k = 0 → pos = x.cfg.ltpMem) →
      (1 ≤ k → voicedAt x 0 = true → x.cfg.ltpMem + x.cfg.subfr ≤ pos ∧ wlo ≤ x.cfg.ltpMem - lagOf x 0 - 2) →
      initLoop x n k pos wlo = true := by
  have hS : 0 < x.cfg.subfr := by have := hc.lin; omega
  have hhalf : SilkSynth.ltpOrder / 2 = 2 := by decide
  have hfs8 : 8 ≤ x.fsKHz := by rcases h.fs with h' | h' | h' <;> omega
  intro n
  induction n with
  | zero => intro k pos wlo _ _ _; rfl
  | succ n ih =>
    intro k pos wlo hkn hk0 hk1
    unfold initLoop
    by_cases hv : voicedAt x k = true
    · rw [if_pos hv]
      simp only [hhalf]
      have hv0 := voicedAt_zero x k hv
      have hl := lag_bounds x h k (by omega) hv
      have hs := hsp k (by omega) hv
      have h3 : 3 ≤ lagOf x k := by omega
      -- the written range after the (possible) re-whitening of this sub-frame: it only grows downwards
      generalize hw : (if (decide (k = 0 ∨ (k = 2 ∧ x.interp = true)) = true) ∧ pos - (lagOf x k + 2) < pos
        then min wlo (pos - (lagOf x k + 2)) else wlo) = wlo1
      have hw1 : wlo1 ≤ wlo := by
        rw [← hw]; split
        · exact Int.min_le_left _ _
        · exact Int.le_refl _
      -- the lowest read of this sub-frame is written, and so is what the next ones rely on
      have key : wlo1 ≤ pos - (lagOf x k + 2) ∧ x.cfg.ltpMem + x.cfg.subfr ≤ pos + x.cfg.subfr ∧
          wlo1 ≤ x.cfg.ltpMem - lagOf x 0 - 2 := by
        by_cases hkz : k = 0
        · subst hkz
          have hp := hk0 rfl
          have := Int.min_le_right wlo (pos - (lagOf x 0 + 2))
          rw [← hw, if_pos ⟨by simp, by omega⟩]
          omega
        · have := hk1 (by omega) hv0; omega
      simp only [key.1, h3, decide_true, Bool.or_true, Bool.true_and]
      exact ih (k + 1) _ _ (by omega) (by omega) fun _ _ => key.2
    · rw [if_neg hv]
      apply ih (k + 1) _ _ (by omega) (by omega)
      intro _ hv0
      by_cases hkz : k = 0
      · subst hkz; exact absurd hv0 hv
      · exact hk1 (by omega) hv0

/-- silk_decode_core reads no element of `sLTP_Q15` before writing it, when the decoded lags of a voiced frame lie within
    one sub-frame of the first one (what `silk_decode_pitch` delivers, see `decodePitch_spread`). -/
theorem coreInitOk_of_spread (x : CoreIn) (h : CoreOk x) (hc : CfgNum x.cfg)
    (hsp : x.signalType = 2 → ∀ k, k < x.nbSubfr → x.pitchL.getD k 0 ≤ x.pitchL.getD 0 0 + x.cfg.subfr) :
    coreInitOk x = true := by
  unfold coreInitOk
  apply initLoop_ok x h hc ?_ x.nbSubfr 0 _ _ (by omega) (fun _ => rfl) (by intro h0; omega)
  intro k hk hv
  have hS : 0 < x.cfg.subfr := by have := hc.lin; omega
  unfold lagOf
  by_cases ht : transition x k = true
  · rw [if_pos ht, if_pos (transition_zero x k ht)]; omega
  · have hsig := (voicedAt_iff.1 hv).resolve_left ht
    rw [if_neg ht, if_neg fun h0 => (transition_iff.1 h0).2.2.1 hsig]
    exact hsp hsig k hk

theorem concealInitLoop_ok (c : Cfg) (hc : CfgNum c) (wlo : Int) :
    ∀ (n : Nat) (pos p : Int), 2 * c.fsKHz * 256 ≤ p → p ≤ 18 * c.fsKHz * 256 →
      wlo ≤ pos - (rshiftRound p 8 + 2) → concealInitLoop c wlo n pos p = true := by
  obtain ⟨h8, h16, hS, -⟩ := hc.lin
  have hhalf : SilkSynth.ltpOrder / 2 = 2 := by decide
  intro n
  induction n with
  | zero => intro pos p _ _ _; rfl
  | succ n ih =>
    intro pos p h0 h1 hw
    have hlag := lag_of_q8 c.fsKHz p h0 h1
    have hdr := drift_range c.fsKHz p ⟨h8, h16⟩ h0 h1
    unfold concealInitLoop
    simp only [hhalf, SilkSynth.pitchDriftFacQ16, SilkSynth.maxPitchLagMs]
    have h3 : 3 ≤ rshiftRound p 8 := by omega
    simp only [hw, h3, decide_true, Bool.true_and]
    apply ih _ _ hdr.1 hdr.2
    -- the lag grows by at most 1% (+ rounding) per sub-frame, far less than a sub-frame
    have hstep : rshiftRound (min (smlawb p p 655) (18 * c.fsKHz * 256)) 8 ≤ rshiftRound p 8 + 4 := by
      rw [smlawb_drift (by omega), rshiftRound8, rshiftRound8]
      omega
    omega

/-- silk_PLC_conceal reads no element of `sLTP_Q14` before writing it. -/
theorem concealInitOk_of_inv (s : DecSt) (hcfg : Configured s) (hp : 2 * s.fsKHz * 256 ≤ s.pitchLQ8 ∧ s.pitchLQ8 ≤ 18 * s.fsKHz * 256) :
    concealInitOk s = true := by
  unfold concealInitOk
  have hc := hcfg.num
  simp only [show SilkSynth.ltpOrder / 2 = 2 by decide]
  exact concealInitLoop_ok s.cfg hc _ _ _ _ hp.1 hp.2 (by omega)

/-- One silk_decode_frame call on a state satisfying the invariant: no uninitialised LTP state is read. -/
theorem frameInitOk_ok (s : DecSt) (f : FrameIn) (hcfg : Configured s) (hinv : Inv s) (hf : FrameOk s f)
    (hsp : f.lost = false → f.signalType = 2 → ∀ k, k < s.nbSubfr →
      f.pitchL.getD k 0 ≤ f.pitchL.getD 0 0 + s.cfg.subfr) :
    frameInitOk s f = true := by
  unfold frameInitOk
  cases hlost : f.lost
  · simp only [Bool.false_eq_true, if_false]
    exact coreInitOk_of_spread _ (coreOk_of s f hcfg hinv hf hlost) hcfg.num (hsp hlost)
  · simp only [if_true]
    obtain ⟨_, hco, _⟩ := plcReset_ok s hcfg hinv
    exact concealInitOk_of_inv _ hco.cfg hco.pitch

end Opus.SilkSynthIdx
