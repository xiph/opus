import OpusProofs.SilkSymsTables
/-
  C03 range lemmas for what `silk_Decode` reads itself, in front of the frames: the stereo predictor
  (silk/stereo_decode_pred.c) and the header flags (dec_API.c:229-248), each for an arbitrary invariant `I` of the
  range-decoder state that the reads keep (`ReadInv`, SilkSymsBasic).
-/
namespace Opus.SilkSymsProofs
open Opus Opus.RangeCoder Opus.SilkSyms Opus.SilkSymsFrozen.Icdf

/-- Everything later code relies on about `silk_stereo_decode_pred`. -/
structure StereoOk (p : StereoPred) : Prop where
  /-- both table indices satisfy `ix + 1 < STEREO_QUANT_TAB_SIZE = 16` -/
  q0 : p.q0 ≤ 14
  q1 : p.q1 ≤ 14
  /-- the raw indices: `ix[n][0] < 3`, `ix[n][1] < STEREO_QUANT_SUB_STEPS = 5`, `ix[n][2] < 5` -/
  ix : ∃ a0 a1 i02 b0 b1 i12, p.ix = [a0, a1, i02, b0, b1, i12] ∧ a0 ≤ 2 ∧ a1 ≤ 4 ∧ i02 ≤ 4 ∧ b0 ≤ 2 ∧ b1 ≤ 4 ∧ i12 ≤ 4

theorem stereoMk_ok (n a0 a1 b0 b1 : Nat) (h : n ≤ 24 ∧ a0 ≤ 2 ∧ a1 ≤ 4 ∧ b0 ≤ 2 ∧ b1 ≤ 4) :
    StereoOk (stereoMk n a0 a1 b0 b1) := by
  unfold stereoMk
  refine ⟨by dsimp only; omega, by dsimp only; omega, ?_⟩
  exact ⟨a0, a1, n / 5, b0, b1, n - 5 * (n / 5), rfl, h.2.1, h.2.2.1, by omega, h.2.2.2.1, h.2.2.2.2, by omega⟩

section
variable {I : Dec → Prop} (hI : ReadInv I)
include hI

theorem stereoIxG_rd (tj t3 t5 : List Nat) (hj : Slice tj 25) (h3' : Slice t3 3) (h5' : Slice t5 5)
    (c : Dec) (hc : I c) (n a0 a1 b0 b1 : Nat) (c' : Dec) (h : stereoIxG tj t3 t5 c = ((n, a0, a1, b0, b1), c')) :
    (n ≤ 24 ∧ a0 ≤ 2 ∧ a1 ≤ 4 ∧ b0 ≤ 2 ∧ b1 ≤ 4) ∧ I c' := by
  revert h
  fun_cases stereoIxG tj t3 t5 c with
  | case1 n' c1 e1 a0' c2 e2 a1' c3 e3 b0' c4 e4 b1' c5 e5 =>
    intro h
    cases h
    have h1 := sym_lt_of_eq hI hj hc e1
    have h2 := sym_lt_of_eq hI h3' h1.2 e2
    have h3 := sym_lt_of_eq hI h5' h2.2 e3
    have h4 := sym_lt_of_eq hI h3' h3.2 e4
    have h5 := sym_lt_of_eq hI h5' h4.2 e5
    exact ⟨⟨by omega, by omega, by omega, by omega, by omega⟩, h5.2⟩

theorem stereoDecodePredG_rd (tj t3 t5 : List Nat) (hj : Slice tj 25) (h3 : Slice t3 3) (h5 : Slice t5 5)
    (c : Dec) (hc : I c) : StereoOk (stereoDecodePredG tj t3 t5 c).1 ∧ I (stereoDecodePredG tj t3 t5 c).2 := by
  fun_cases stereoDecodePredG tj t3 t5 c with
  | case1 n a0 a1 b0 b1 c5 e =>
    have := stereoIxG_rd hI tj t3 t5 hj h3 h5 c hc n a0 a1 b0 b1 c5 e
    exact ⟨stereoMk_ok n a0 a1 b0 b1 this.1, this.2⟩

theorem stereoDecodePred_rd (c : Dec) (hc : I c) : StereoOk (stereoDecodePred c).1 ∧ I (stereoDecodePred c).2 :=
  stereoDecodePredG_rd hI _ _ _ sl_stereoJoint sl_uniform3 sl_uniform5 c hc

theorem stereoDecodeMidOnly_rd (c : Dec) (hc : I c) : (stereoDecodeMidOnly c).1 ≤ 1 ∧ I (stereoDecodeMidOnly c).2 := by
  have := sym_lt hI sl_stereoMid hc
  exact ⟨Nat.le_of_lt_succ this.1, this.2⟩

end

theorem stereoIx_ok (c : Dec) (n a0 a1 b0 b1 : Nat) (c' : Dec) (h : stereoIx c = ((n, a0, a1, b0, b1), c')) :
    n ≤ 24 ∧ a0 ≤ 2 ∧ a1 ≤ 4 ∧ b0 ≤ 2 ∧ b1 ≤ 4 :=
  (stereoIxG_rd readInv_true _ _ _ sl_stereoJoint sl_uniform3 sl_uniform5 c trivial n a0 a1 b0 b1 c' h).1


/-- `LBRR_flags` of one channel: three bits, whatever the header says. -/
theorem decodeLbrrFlags_ok (nfpp lf : Nat) (c : Dec) :
    ListOk (· ≤ 1) 3 (decodeLbrrFlags nfpp lf c).1 := by
  fun_cases decodeLbrrFlags nfpp lf c with
  | case1 => exact .cons (Nat.zero_le _) (.cons (Nat.zero_le _) (.cons (Nat.zero_le _) .nil))
  | case2 => exact .cons (Nat.le_refl _) (.cons (Nat.zero_le _) (.cons (Nat.zero_le _) .nil))
  | case3 _ _ s c1 e =>
    refine ⟨by simp, fun b hb => ?_⟩
    simp only [List.mem_map, List.mem_range] at hb
    obtain ⟨i, _, rfl⟩ := hb
    split
    · exact Nat.le_of_lt_succ (Nat.mod_lt _ (by omega))
    · omega

section
variable {I : Dec → Prop} (hI : ReadInv I)
include hI

theorem decodeVadFlags_rd : ∀ (n : Nat) (c : Dec), I c →
    ListOk (· ≤ 1) n (decodeVadFlags n c).1 ∧ I (decodeVadFlags n c).2
  | 0, _, hc => ⟨.nil, hc⟩
  | n + 1, c, hc => by
    have ih := decodeVadFlags_rd n _ (hI.bit c hc)
    unfold decodeVadFlags
    exact ⟨.cons (decBitLogp_le c 1) ih.1, ih.2⟩

/-- VAD flags and `LBRR_flag` of one channel are bits. -/
theorem decodeChanFlags_rd (nfpp : Nat) (c : Dec) (hc : I c) :
    (∀ b ∈ (decodeChanFlags nfpp c).1, b ≤ 1) ∧ (decodeChanFlags nfpp c).2.1 ≤ 1 ∧ I (decodeChanFlags nfpp c).2.2 := by
  have h := decodeVadFlags_rd hI nfpp c hc
  unfold decodeChanFlags
  exact ⟨h.1.2, decBitLogp_le _ 1, hI.bit _ h.2⟩

theorem decodeLbrrFlags_inv (nfpp lf : Nat) (hf : nfpp ≤ 3) (c : Dec) (hc : I c) : I (decodeLbrrFlags nfpp lf c).2 := by
  fun_cases decodeLbrrFlags nfpp lf c with
  | case1 => exact hc
  | case2 => exact hc
  | case3 _ _ s c1 e =>
    have h := hI.sym c (sliceOk_lbrr nfpp hf) hc
    rw [e] at h
    exact h

end

end Opus.SilkSymsProofs
