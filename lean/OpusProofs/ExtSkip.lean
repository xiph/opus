import OpusModel.Ext
/-
  The two skip functions of src/extensions.c never read outside the
  buffer, and skipping a (non-final) extension does not depend on how many bytes follow it; `skip_extension` is the ID byte and
  then `skip_extension_payload` (`skipExtension_byte`).
-/
namespace Opus.ExtProofs
open Opus Opus.Ext

/-- A modelled call "faults" when it would read outside the supplied bytes or trip an assertion. -/
def fault {α} : Res α → Bool
  | .oob => true
  | .abort => true
  | _ => false

theorem lacing_ok (d : Array Nat) (p : Nat) (len : Int) (bytes hs : Nat)
    (hb : (p : Int) + len ≤ d.size) : ∃ r, lacing d p len bytes hs = .ok r := by
  fun_induction lacing d p len bytes hs with
  | case1 => exact ⟨_, rfl⟩
  | case2 p len bytes hs hlt hnone =>
    have : d.size ≤ p := by simpa using hnone
    omega
  | case3 p len bytes hs hlt hsome ih => exact ih (by omega)
  | case4 => exact ⟨_, rfl⟩

theorem skipPayload_ok (d : Array Nat) (p : Nat) (len : Int) (idByte : Nat) (tsl : Int)
    (hb : (p : Int) + len ≤ d.size) : ∃ r, skipPayload d p len idByte tsl = .ok r := by
  unfold skipPayload
  simp only
  split
  · exact ⟨_, rfl⟩
  · split
    · split <;> exact ⟨_, rfl⟩
    · split
      · split <;> exact ⟨_, rfl⟩
      · obtain ⟨r, hr⟩ := lacing_ok d p len 0 0 hb
        rw [hr]
        cases r with
        | none => exact ⟨_, rfl⟩
        | some q =>
          obtain ⟨p', len', b, h⟩ := q
          simp only
          split <;> exact ⟨_, rfl⟩

theorem skipExtension_ok (d : Array Nat) (p : Nat) (len : Int)
    (hb : (p : Int) + len ≤ d.size) : ∃ r, skipExtension d p len = .ok r := by
  unfold skipExtension
  split
  · exact ⟨_, rfl⟩
  · split
    · exact ⟨_, rfl⟩
    · split
      · rename_i hnone
        have : d.size ≤ p := by simpa using hnone
        omega
      · obtain ⟨r, hr⟩ := skipPayload_ok d (p + 1) (len - 1) ‹Nat› 0 (by push_cast; omega)
        rw [hr]
        cases r with
        | none => exact ⟨_, rfl⟩
        | some q => obtain ⟨p', len', h⟩ := q; exact ⟨_, rfl⟩

/-- Growing or shrinking the number of bytes that follow does not change the lacing walk, as long
    as the payload still fits. -/
theorem lacing_mono (d : Array Nat) (p : Nat) (len : Int) (bytes hs : Nat) :
    ∀ {p' : Nat} {len' : Int} {bytes' hs' : Nat},
    lacing d p len bytes hs = .ok (some (p', len', bytes', hs')) →
    ∀ δ : Int, 0 ≤ len' + δ → lacing d p (len + δ) bytes hs = .ok (some (p', len' + δ, bytes', hs')) := by
  fun_induction lacing d p len bytes hs with
  | case1 => intro _ _ _ _ h; simp at h
  | case2 => intro _ _ _ _ h; simp at h
  | case3 p len bytes hs hlt hsome ih =>
    intro p' len' bytes' hs' h δ hδ
    have hs1 := lacing_spec _ _ _ _ _ h
    have := ih h δ hδ
    rw [lacing]
    have h1 : ¬ (len + δ < 1) := by omega
    simp only [h1, if_false, hsome, if_true]
    rw [← this]; congr 1; omega
  | case4 p len bytes hs hlt l hsome hne =>
    intro p' len' bytes' hs' h δ hδ
    simp only [Res.ok.injEq, Option.some.injEq, Prod.mk.injEq] at h
    obtain ⟨rfl, rfl, rfl, rfl⟩ := h
    rw [lacing]
    have h1 : ¬ (len + δ < 1) := by omega
    simp only [h1, if_false, hsome, hne]
    congr 4; omega

/-- `0 < len'` excludes a long extension in its `L = 0` form, which takes whatever follows. -/
theorem skipPayload_mono {d : Array Nat} {p : Nat} {len : Int} {idByte : Nat}
    {p' : Nat} {len' : Int} {hs : Nat}
    (h : skipPayload d p len idByte 0 = .ok (some (p', len', hs))) (hpos : 0 < len') :
    ∀ δ : Int, 0 ≤ len' + δ → skipPayload d p (len + δ) idByte 0 = .ok (some (p', len' + δ, hs)) := by
  intro δ hδ
  unfold skipPayload at h ⊢
  simp only at h ⊢
  by_cases c1 : (idByte / 2 = 0 ∧ idByte % 2 = 1) ∨ idByte / 2 = 2
  · simp only [c1, if_true] at h ⊢
    simp only [Res.ok.injEq, Option.some.injEq, Prod.mk.injEq] at h
    obtain ⟨rfl, rfl, rfl⟩ := h; rfl
  · simp only [c1, if_false] at h ⊢
    by_cases c2 : 0 < idByte / 2 ∧ idByte / 2 < 32
    · simp only [c2, and_self, if_true] at h ⊢
      split at h
      · simp at h
      · simp only [Res.ok.injEq, Option.some.injEq, Prod.mk.injEq] at h
        obtain ⟨rfl, rfl, rfl⟩ := h
        have : ¬ (len + δ < ((idByte % 2 : Nat) : Int)) := by omega
        simp only [this, if_false]; congr 4; omega
    · simp only [c2, if_false] at h ⊢
      by_cases c3 : idByte % 2 = 0
      · simp only [c3, if_true] at h
        split at h
        · simp at h
        · simp only [Res.ok.injEq, Option.some.injEq, Prod.mk.injEq] at h
          omega
      · simp only [c3, if_false] at h ⊢
        split at h
        · simp at h
        · rename_i p1 l1 b1 h1 heq
          split at h
          · simp at h
          · simp only [Res.ok.injEq, Option.some.injEq, Prod.mk.injEq] at h
            obtain ⟨rfl, rfl, rfl⟩ := h
            rw [lacing_mono _ _ _ _ _ heq δ hδ]
            simp only
            have : ¬ (l1 + δ < 0) := by omega
            simp only [this, if_false]
        all_goals simp at h

/-- A successfully skipped extension that is not the last one (`len' > 0` bytes remain) is skipped
    in exactly the same way for every other number of available bytes that still covers it. -/
theorem skipExtension_mono {d : Array Nat} {p : Nat} {len : Int} {p' : Nat} {len' : Int} {hs : Nat}
    (h : skipExtension d p len = .ok (some (p', len', hs))) (hpos : 0 < len') :
    ∀ len2 : Int, (p' : Int) - p ≤ len2 →
      skipExtension d p len2 = .ok (some (p', len2 - ((p' : Int) - p), hs)) := by
  intro len2 hl2
  have hspec := skipExtension_spec h
  unfold skipExtension at h
  split at h
  · simp only [Res.ok.injEq, Option.some.injEq, Prod.mk.injEq] at h; omega
  · split at h
    · simp at h
    · split at h
      · simp at h
      · rename_i b hb
        split at h
        · simp at h
        · rename_i q1 q2 q3 heq
          simp only [Res.ok.injEq, Option.some.injEq, Prod.mk.injEq] at h
          obtain ⟨rfl, rfl, rfl⟩ := h
          have hps := skipPayload_spec heq
          have hm := skipPayload_mono heq hpos (len2 - len) (by omega)
          unfold skipExtension
          have h1 : ¬ (len2 = 0) := by omega
          have h2 : ¬ (len2 < 1) := by omega
          simp only [h1, h2, if_false, hb]
          have e1 : len2 - 1 = len - 1 + (len2 - len) := by omega
          rw [e1, hm]
          simp only
          congr 4; omega
        all_goals simp at h

/-- A long extension, or the padding byte `00`, decoded with `L = 0`: everything up to the last `tsl` bytes. -/
theorem skipPayload_forced (d : Array Nat) (p : Nat) (L : Int) (b : Nat) (tsl : Int)
    (hid : b / 2 = 0 ∨ 32 ≤ b / 2) (hl : b % 2 = 0) (hL : tsl ≤ L) :
    skipPayload d p L b tsl = .ok (some (p + (L - tsl).toNat, tsl, 0)) := by
  unfold skipPayload
  have c1 : ¬ ((b / 2 = 0 ∧ b % 2 = 1) ∨ b / 2 = 2) := by omega
  have c2 : ¬ (0 < b / 2 ∧ b / 2 < 32) := by omega
  have c3 : ¬ (L < tsl) := by omega
  rw [if_neg c1, if_neg c2, if_pos hl, if_neg c3]

/-- `skip_extension` is the ID byte, then `skip_extension_payload` with no trailing short length. -/
theorem skipExtension_byte {d : Array Nat} {p b p' hs : Nat} {L len' : Int} (h0 : d[p]? = some b) (hL : 1 ≤ L)
    (h : skipPayload d (p + 1) (L - 1) b 0 = .ok (some (p', len', hs))) :
    skipExtension d p L = .ok (some (p', len', hs + 1)) := by
  unfold skipExtension
  rw [if_neg (by omega), if_neg (by omega)]
  simp only [h0, h]

theorem skipExtension_first {d : Array Nat} {p : Nat} {len : Int} {r : Skip}
    (h : skipExtension d p len = .ok r) (hl : 0 < len) : ∃ b, d[p]? = some b := by
  unfold skipExtension at h
  split at h
  · omega
  · split at h
    · omega
    · split at h
      · simp at h
      · exact ⟨_, ‹_›⟩

/-- A short ID (1..31) carries at most one payload byte and no length bytes. -/
theorem skipPayload_short {d : Array Nat} {p : Nat} {len : Int} {b : Nat} {tsl : Int} {p' : Nat} {len' : Int} {hs : Nat}
    (h : skipPayload d p len b tsl = .ok (some (p', len', hs))) (h1 : 0 < b / 2) (h2 : b / 2 < 32) :
    hs = 0 ∧ p' ≤ p + 1 ∧ (b / 2 ≠ 2 → p' = p + b % 2 ∧ ((b % 2 : Nat) : Int) ≤ len) := by
  unfold skipPayload at h
  simp only at h
  by_cases c1 : (b / 2 = 0 ∧ b % 2 = 1) ∨ b / 2 = 2
  · rw [if_pos c1] at h
    simp only [Res.ok.injEq, Option.some.injEq, Prod.mk.injEq] at h
    omega
  · rw [if_neg c1, if_pos ⟨h1, h2⟩] at h
    split at h
    · simp at h
    · simp only [Res.ok.injEq, Option.some.injEq, Prod.mk.injEq] at h
      omega

theorem skipExtension_short {d : Array Nat} {p : Nat} {len : Int} {b : Nat} {p' : Nat} {len' : Int} {hs : Nat}
    (h : skipExtension d p len = .ok (some (p', len', hs))) (hl : 0 < len) (hb : d[p]? = some b)
    (h1 : 0 < b / 2) (h2 : b / 2 < 32) :
    hs = 1 ∧ p' ≤ p + 2 ∧ (b / 2 ≠ 2 → p' = p + 1 + b % 2 ∧ (1 : Int) + ((b % 2 : Nat) : Int) ≤ len) := by
  unfold skipExtension at h
  have a1 : ¬ len = 0 := by omega
  have a2 : ¬ len < 1 := by omega
  simp only [a1, a2, if_false, hb] at h
  split at h
  · simp at h
  · rename_i q1 q2 q3 heq
    have := skipPayload_short heq h1 h2
    simp only [Res.ok.injEq, Option.some.injEq, Prod.mk.injEq] at h
    omega
  all_goals simp at h

/-- A separator with an explicit increment (`id = 1`, `L = 1`) that was skipped has its increment byte. -/
theorem skipExtension_sep {d : Array Nat} {p : Nat} {len : Int} {p' : Nat} {len' : Int} {hs : Nat} {b : Nat}
    (h : skipExtension d p len = .ok (some (p', len', hs))) (hl : 0 < len) (hb : d[p]? = some b)
    (hid : b / 2 = 1) (hL : b % 2 = 1) : 2 ≤ len ∧ p' = p + 2 := by
  have := (skipExtension_short h hl hb (by omega) (by omega)).2.2 (by omega)
  omega

end Opus.ExtProofs
