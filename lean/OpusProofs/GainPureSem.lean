import OpusProofs.GainPure
/-
  OpusProofs.GainPureSem — OPUS_SET_GAIN is a pure post-multiplication (C19, slice `Gain`): samples.

  An abstract sample semantics of the event log of one call.  Samples live in ANY type `α` with a multiplication
  (a commutative ring, an ordered field, or binary32 with its rounded `*`: every sample is multiplied at most once, so no
  ring law is needed).  A memory maps (buffer, index) to a sample.  The gain pass `.acc 11 p n` multiplies the `n`
  samples at `p` by the constant `k` (src/opus_decoder.c:654-668; float build: `MULT16_32_P16` is `*` and `SATURATE` is
  the identity, celt/arch.h:319,358 — no saturation in the float build).  Every other event `e` is interpreted by an
  arbitrary function `dsp h e` of the memory, where `h` is the gain-free history of the call so far (so `dsp` may depend
  on everything the DSP state can depend on — but not on the gain: this is the FOOTPRINT ASSUMPTION `DspLocal`):
    * it changes only the samples of its own extent (`Ev.extent?`, the extent the skeleton logs and C01 ties to the code),
    * what it writes there depends only on the old contents of that extent and of the scratch buffers
      (pcm_silk, pcm_transition, redundant_audio — never on other parts of the caller's buffer).
  Under the separation condition `gainSep` (every event logged after a gain pass touches no sample of that pass, and
  gain passes are on the caller's buffer) the memory of the gain-g run is the memory of the gain-0 run with exactly the
  samples of the gain passes multiplied by `k`, once.
-/
namespace Opus.DecSkel

abbrev Mem (α : Type) := Buf → Int → α

/-- sample `(b, i)` lies in the extent of event `e` -/
def touches (e : Ev) (b : Buf) (i : Int) : Bool :=
  match e.extent? with
  | some (p, n) => decide (b = p.buf) && decide (p.off ≤ i) && decide (i < p.off + n)
  | none => false

/-- the extents of two events share no sample -/
def disjointEv (e g : Ev) : Bool :=
  match e.extent?, g.extent? with
  | some (p, n), some (q, m) => decide (p.buf ≠ q.buf) || decide (p.off + n ≤ q.off) || decide (q.off + m ≤ p.off)
  | _, _ => true

theorem disjointEv_spec {e g : Ev} (h : disjointEv e g = true) (b : Buf) (i : Int) :
    ¬ (touches e b i = true ∧ touches g b i = true) := by
  unfold disjointEv at h
  unfold touches
  cases he : e.extent? with
  | none => simp
  | some pn =>
    obtain ⟨p, n⟩ := pn
    cases hg : g.extent? with
    | none => simp
    | some qm =>
      obtain ⟨q, m⟩ := qm
      rw [he, hg] at h
      simp only [Bool.or_eq_true, decide_eq_true_eq, Bool.and_eq_true] at h ⊢
      rintro ⟨⟨⟨a1, a2⟩, a3⟩, ⟨⟨b1, b2⟩, b3⟩⟩
      rcases h with (h | h) | h
      · exact h (a1.symm.trans b1)
      · omega
      · omega

/-- a gain pass is on the caller's buffer -/
def onPcm (g : Ev) : Bool :=
  match g.extent? with
  | some (p, _) => decide (p.buf = .pcm)
  | none => true

/-- Separation (log newest first): every event logged after a gain pass `g` touches no sample of `g`, and gain passes
    are on the caller's buffer.  (Decidable; it is a property of the skeleton's own output.) -/
def gainSep : List Ev → Bool
  | [] => true
  | e :: rest => gainSep rest && (notGain e || onPcm e) && rest.all (fun g => notGain g || disjointEv e g)

def evSem {α : Type} [Mul α] (k : α) (dsp : List Ev → Ev → Mem α → Mem α) (h : List Ev) (e : Ev) (m : Mem α) : Mem α :=
  if notGain e then dsp h e m else fun b i => if touches e b i then k * m b i else m b i

/-- semantics of a log (newest first) from the initial memory `m` -/
def semLog {α : Type} [Mul α] (k : α) (dsp : List Ev → Ev → Mem α → Mem α) : List Ev → Mem α → Mem α
  | [], m => m
  | e :: rest, m => evSem k dsp (rest.filter notGain) e (semLog k dsp rest m)

/-- the samples some gain pass of the log covers -/
def gained (l : List Ev) (b : Buf) (i : Int) : Bool := l.any (fun g => !notGain g && touches g b i)

theorem gained_cons (e : Ev) (rest : List Ev) (b : Buf) (i : Int) :
    gained (e :: rest) b i = ((!notGain e && touches e b i) || gained rest b i) := rfl

/-- The gain-free log of `e :: rest`: a gain pass is dropped, any other event keeps its place and its history. -/
theorem semLog_filter_cons {α : Type} [Mul α] (k : α) (dsp : List Ev → Ev → Mem α → Mem α) (e : Ev) (rest : List Ev) (m : Mem α) :
    semLog k dsp ((e :: rest).filter notGain) m =
      if notGain e then dsp (rest.filter notGain) e (semLog k dsp (rest.filter notGain) m)
      else semLog k dsp (rest.filter notGain) m := by
  cases hng : notGain e with
  | false => rw [List.filter_cons_of_neg (by simp [hng])]; rfl
  | true =>
    rw [List.filter_cons_of_pos hng, semLog, List.filter_filter, evSem, if_pos hng, if_pos rfl]; simp only [Bool.and_self]

/-- **Footprint assumption on the DSP** (non-gain events): writes stay inside the logged extent; what is written depends
    only on the old contents of the extent and of the scratch buffers. -/
structure DspLocal {α : Type} (dsp : List Ev → Ev → Mem α → Mem α) : Prop where
  frame : ∀ h e m b i, notGain e = true → touches e b i = false → dsp h e m b i = m b i
  reads : ∀ h e m m', notGain e = true → (∀ b i, (touches e b i = true ∨ b ≠ .pcm) → m b i = m' b i) →
    ∀ b i, touches e b i = true → dsp h e m b i = dsp h e m' b i

theorem gained_pcm {l : List Ev} (hs : gainSep l = true) {b : Buf} {i : Int} (hg : gained l b i = true) : b = .pcm := by
  induction l with
  | nil => simp [gained] at hg
  | cons e rest ih =>
    simp only [gainSep, Bool.and_eq_true, Bool.or_eq_true] at hs
    obtain ⟨⟨hs1, hs2⟩, _⟩ := hs
    simp only [gained, List.any_cons, Bool.or_eq_true, Bool.and_eq_true, Bool.not_eq_true'] at hg
    rcases hg with ⟨hng, ht⟩ | hg
    · rcases hs2 with hs2 | hs2
      · rw [hng] at hs2; exact absurd hs2 (by decide)
      · unfold onPcm at hs2; unfold touches at ht
        cases he : e.extent? with
        | none => rw [he] at ht; exact absurd ht (by simp)
        | some pn =>
          obtain ⟨p, n⟩ := pn
          rw [he] at hs2 ht
          simp only [decide_eq_true_eq, Bool.and_eq_true] at hs2 ht
          exact ht.1.1.trans hs2
    · exact ih hs1 (by simpa [gained] using hg)

theorem not_gained_of_touch {e : Ev} {rest : List Ev} (hd : rest.all (fun g => notGain g || disjointEv e g) = true)
    {b : Buf} {i : Int} (ht : touches e b i = true) : gained rest b i = false := by
  cases hgd : gained rest b i with
  | false => rfl
  | true =>
    exfalso
    simp only [gained, List.any_eq_true, Bool.and_eq_true, Bool.not_eq_true'] at hgd
    obtain ⟨g, hmem, hng, htg⟩ := hgd
    have := List.all_eq_true.mp hd g hmem
    simp only [Bool.or_eq_true] at this
    rcases this with h | h
    · rw [hng] at h; exact absurd h (by decide)
    · exact disjointEv_spec h b i ⟨ht, htg⟩

/-- **Scaling, sample by sample.**  For every log with `gainSep`, every constant `k`, every DSP semantics with the
    footprint property and every initial memory: the memory after the log is the memory after the gain-free log, with the
    samples covered by a gain pass multiplied by `k` (once) and all other samples — of the caller's buffer and of every
    scratch buffer — identical. -/
theorem semLog_scaled {α : Type} [Mul α] (k : α) (dsp : List Ev → Ev → Mem α → Mem α) (hd : DspLocal dsp) (m : Mem α) :
    ∀ (l : List Ev), gainSep l = true → ∀ b i,
      semLog k dsp l m b i =
        if gained l b i then k * semLog k dsp (l.filter notGain) m b i else semLog k dsp (l.filter notGain) m b i := by
  intro l
  induction l with
  | nil => intro _ b i; rfl
  | cons e rest ih =>
    intro hs b i
    simp only [gainSep, Bool.and_eq_true] at hs
    obtain ⟨⟨hs1, _⟩, hs3⟩ := hs
    -- where no earlier gain pass has been, the memories before `e` agree
    have hfree : ∀ b i, gained rest b i = false → semLog k dsp rest m b i = semLog k dsp (rest.filter notGain) m b i :=
      fun b i hn => by rw [ih hs1 b i, hn]; rfl
    rw [semLog_filter_cons, gained_cons]
    show evSem k dsp (rest.filter notGain) e (semLog k dsp rest m) b i = _
    unfold evSem
    cases hng : notGain e with
    | false =>
      -- a gain pass scales its own samples, none of which was scaled before
      simp only [Bool.false_eq_true, ↓reduceIte, Bool.not_false, Bool.true_and]
      cases ht : touches e b i with
      | false => rw [if_neg Bool.false_ne_true, Bool.false_or]; exact ih hs1 b i
      | true => rw [if_pos rfl, Bool.true_or, if_pos rfl, hfree b i (not_gained_of_touch hs3 ht)]
    | true =>
      simp only [↓reduceIte, Bool.not_true, Bool.false_and, Bool.false_or]
      cases ht : touches e b i with
      | false => rw [hd.frame _ _ _ _ _ hng ht, hd.frame _ _ _ _ _ hng ht]; exact ih hs1 b i
      | true =>
        -- any other event writes what its extent and the scratch buffers hold, and there the memories agree
        rw [not_gained_of_touch hs3 ht, if_neg Bool.false_ne_true]
        refine hd.reads _ _ _ _ hng (fun b' i' hc => hfree b' i' ?_) b i ht
        rcases hc with h | h
        · exact not_gained_of_touch hs3 h
        · exact Bool.eq_false_iff.mpr fun hg => h (gained_pcm hs1 hg)
end Opus.DecSkel
