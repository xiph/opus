import OpusProofs.EncSkelChain
import OpusProofs.EncSkelRanges
/-
  OpusProofs.EncSkelNative — `opus_encode_native` as a whole (C05, C02), for all oracle behaviours within the
  contracts: the byte budget (`budget_spec`, `CallCtx`), the low-budget path (`lowBudget_cases`), the single-frame path,
  and the three return paths of a call (`encodeNative_cases`).  The multi-frame path itself is in
  OpusProofs/EncSkelMulti.lean; here it is the hypothesis `hmulti` of `encodeNative_post_of`.
-/
namespace Opus.EncSkel.Proofs
open Opus Opus.EncDecide Opus.EncSkel

theorem entryCheck_none {s : St} {fsz out : Int} (he : entryCheck s fsz out = none) :
    1 ≤ out ∧ ¬ (out = 1 ∧ s.fs = fsz * 10) := by
  obtain ⟨-, h1, h2⟩ := (entryCheck_none_iff s fsz out).mp he
  exact ⟨h1, fun ⟨ha, hb⟩ => h2 ⟨by omega, hb⟩⟩

/-- `stOk`, with its clauses as named fields (`stOk_iff`). -/
structure StOk (s : St) : Prop where
  fs : s.fs = 8000 ∨ s.fs = 12000 ∨ s.fs = 16000 ∨ s.fs = 24000 ∨ s.fs = 48000
  ch : s.channels = 1 ∨ s.channels = 2
  bitrate : s.userBitrate = OPUS_AUTO ∨ s.userBitrate = OPUS_BITRATE_MAX ∨
             (500 ≤ s.userBitrate ∧ s.userBitrate ≤ 750000 * s.channels)
  forced : s.userForcedMode = OPUS_AUTO ∨ (MODE_SILK_ONLY ≤ s.userForcedMode ∧ s.userForcedMode ≤ MODE_CELT_ONLY)
  userBw : s.userBandwidth = OPUS_AUTO ∨ (BW_NB ≤ s.userBandwidth ∧ s.userBandwidth ≤ BW_FB)
  maxBw : BW_NB ≤ s.maxBandwidth ∧ s.maxBandwidth ≤ BW_FB
  force : s.forceChannels = OPUS_AUTO ∨ (1 ≤ s.forceChannels ∧ s.forceChannels ≤ s.channels)
  sc : 1 ≤ s.streamChannels ∧ s.streamChannels ≤ s.channels
  bw : BW_NB ≤ s.bandwidth ∧ s.bandwidth ≤ BW_FB
  prevMode : s.prevMode = 0 ∨ (MODE_SILK_ONLY ≤ s.prevMode ∧ s.prevMode ≤ MODE_CELT_ONLY)
  cx : 0 ≤ s.complexity ∧ s.complexity ≤ 10
  loss : 0 ≤ s.lossPerc ∧ s.lossPerc ≤ 100
  mode : MODE_SILK_ONLY ≤ s.mode ∧ s.mode ≤ MODE_CELT_ONLY
  prevCh : 0 ≤ s.prevChannels ∧ s.prevChannels ≤ s.channels
  toMono : s.toMono = 0 ∨ s.toMono = 1
  firstPrev : s.first ≠ 0 → s.prevMode = 0
  lowdelay : s.application = APP_RESTRICTED_LOWDELAY → s.prevMode = 0 ∨ s.prevMode = MODE_CELT_ONLY

theorem stOk_iff (s : St) : stOk s = true ↔ StOk s := by
  unfold stOk
  simp only [decide_eq_true_eq]
  constructor
  · rintro ⟨a1, a2, a3, a4, a5, a6, a7, a8, a9, a10, a11, a12, a13, a14, a15, a16, a17⟩
    exact ⟨a1, a2, a3, a4, a5, a6, a7, a8, a9, a10, a11, a12, a13, a14, a15, a16, a17⟩
  · rintro ⟨a1, a2, a3, a4, a5, a6, a7, a8, a9, a10, a11, a12, a13, a14, a15, a16, a17⟩
    exact ⟨a1, a2, a3, a4, a5, a6, a7, a8, a9, a10, a11, a12, a13, a14, a15, a16, a17⟩

/-- The bit-rate of :1253 is non-negative. -/
theorem userBitrate_nonneg (s : St) (fsz m : Int) (hs : stOk s = true) (hf : 0 < fsz) (hm : 0 ≤ m) :
    0 ≤ userBitrateToBitrate s fsz m := by
  obtain ⟨hfs, hch, hbr⟩ := stOk_domain s hs
  rw [userBitrate_eq s fsz m (by omega)]
  simp only [OPUS_AUTO, OPUS_BITRATE_MAX] at *
  have h60 : 0 ≤ 60 * s.fs / fsz := Int.ediv_nonneg (by omega) (by omega)
  have hsc : 0 ≤ s.fs * s.channels := Int.mul_nonneg (by omega) (by omega)
  have hmx : 0 ≤ m * 8 * s.fs / fsz := Int.ediv_nonneg (Int.mul_nonneg (by omega) (by omega)) (by omega)
  split
  · omega
  · split <;> omega

theorem cbrBytes_bounds (fs fsz b m : Int) (hf : 0 < fsz) (hle : fsz ≤ 12 * fs) (hb : 0 ≤ b) (hm : 0 ≤ m) :
    0 ≤ cbrBytes fs fsz b m ∧ cbrBytes fs fsz b m ≤ m := by
  unfold cbrBytes
  dsimp only
  have h12 : 1 ≤ 12 * fs / fsz := (Int.le_ediv_iff_mul_le hf).mpr (by omega)
  have h0 : 0 ≤ (12 * b / 8 + 12 * fs / fsz / 2) / (12 * fs / fsz) :=
    Int.ediv_nonneg (by omega) (by omega)
  omega

/-- `budgetSt` only writes `voiceRatio`, `detectedBandwidth`, `bitrateBps`. -/
def BudSame (a b : St) : Prop :=
  b = { a with voiceRatio := b.voiceRatio, detectedBandwidth := b.detectedBandwidth, bitrateBps := b.bitrateBps }

theorem BudSame.refl (a : St) : BudSame a a := rfl

theorem BudSame.fs {a b : St} (h : BudSame a b) : b.fs = a.fs := by unfold BudSame at h; rw [h]
theorem BudSame.useVbr {a b : St} (h : BudSame a b) : b.useVbr = a.useVbr := by unfold BudSame at h; rw [h]
theorem BudSame.mode {a b : St} (h : BudSame a b) : b.mode = a.mode := by unfold BudSame at h; rw [h]
theorem BudSame.bandwidth {a b : St} (h : BudSame a b) : b.bandwidth = a.bandwidth := by unfold BudSame at h; rw [h]
theorem BudSame.streamChannels {a b : St} (h : BudSame a b) : b.streamChannels = a.streamChannels := by
  unfold BudSame at h; rw [h]

theorem BudSame.ite {a b c : St} (p : Prop) [Decidable p] (h1 : BudSame a b) (h2 : BudSame a c) :
    BudSame a (if p then b else c) := by split <;> assumption

theorem BudSame.voiceRatio {a b : St} (h : BudSame a b) (v : Int) : BudSame a { b with voiceRatio := v } := by
  unfold BudSame at *; rw [h]

theorem BudSame.detectedBandwidth {a b : St} (h : BudSame a b) (v : Int) :
    BudSame a { b with detectedBandwidth := v } := by
  unfold BudSame at *; rw [h]

theorem analysisUpd_same (s : St) (o : NatOr) : BudSame s (analysisUpd s o) := by
  have h2 : BudSame s { (if (if analysisRuns s = true then o.isSilence else 0) = 0 then { s with voiceRatio := -1 } else s) with
      detectedBandwidth := 0 } := (BudSame.ite _ ((BudSame.refl s).voiceRatio _) (BudSame.refl s)).detectedBandwidth _
  unfold analysisUpd
  dsimp only
  exact BudSame.ite _ ((BudSame.ite _ (h2.voiceRatio _) h2).detectedBandwidth _) h2

theorem budgetSt_same (s : St) (o : NatOr) (fsz out : Int) : BudSame s (budgetSt s o fsz out) := by
  have h := analysisUpd_same s o
  unfold budgetSt BudSame at *
  generalize (sizeBudget (analysisUpd s o) fsz out).bitrateBps = br
  generalize analysisUpd s o = a at *
  rw [h]

theorem BudSame.settings {a b : St} (h : BudSame a b) (hs : Settings a) (hb : BwOk a.bandwidth) :
    Settings b ∧ BwOk b.bandwidth := by
  unfold BudSame at h
  obtain ⟨h1, h2, h3, h4⟩ := hs
  refine ⟨⟨?_, ?_, ?_, ?_⟩, ?_⟩ <;> (rw [h]) <;> assumption

/-- The CBR packet size the property prescribes: `round(bitrate·T/8)` clipped to
    `[1, min(out,1276)]`, as `cbr_bytes` computes it. -/
def cbrTarget (s : St) (fsz out : Int) : Int :=
  max 1 (cbrBytes s.fs fsz (userBitrateToBitrate s fsz (min 1276 out)) (min 1276 out))

/-- Byte budget after :1253-1264. -/
theorem budget_spec (s : St) (o : NatOr) (fsz out : Int) (hs : stOk s = true) (hl : legalFrame s.fs fsz = true)
    (hout : 1 ≤ out) :
    1 ≤ (sizeBudget (analysisUpd s o) fsz out).maxDataBytes ∧
    (sizeBudget (analysisUpd s o) fsz out).maxDataBytes ≤ min 1276 out ∧
    (s.useVbr = 0 → (sizeBudget (analysisUpd s o) fsz out).maxDataBytes = cbrTarget s fsz out ∧
       (sizeBudget (analysisUpd s o) fsz out).cbr =
         cbrBytes s.fs fsz (userBitrateToBitrate s fsz (min 1276 out)) (min 1276 out) ∧
       0 ≤ (sizeBudget (analysisUpd s o) fsz out).cbr ∧ (sizeBudget (analysisUpd s o) fsz out).cbr ≤ min 1276 out) ∧
    (s.useVbr ≠ 0 → (sizeBudget (analysisUpd s o) fsz out).maxDataBytes = min 1276 out) := by
  obtain ⟨hfs, hch, hbr⟩ := stOk_domain s hs
  have hfs0 : 0 < s.fs := by omega
  obtain ⟨hf0, hf25, -⟩ := legal_bounds s.fs fsz hfs0 hl
  have hf12 : fsz ≤ 12 * s.fs := by omega
  have ha := analysisUpd_same s o
  unfold BudSame at ha
  have hub : userBitrateToBitrate (analysisUpd s o) fsz (min 1276 out) = userBitrateToBitrate s fsz (min 1276 out) := by
    unfold userBitrateToBitrate; rw [ha]
  have hfs' : (analysisUpd s o).fs = s.fs := by rw [ha]
  have hv' : (analysisUpd s o).useVbr = s.useVbr := by rw [ha]
  have hb0 := userBitrate_nonneg s fsz (min 1276 out) hs hf0 (by omega)
  have hcb := cbrBytes_bounds s.fs fsz (userBitrateToBitrate s fsz (min 1276 out)) (min 1276 out) hf0 hf12 hb0
    (by omega)
  unfold sizeBudget cbrTarget
  dsimp only
  rw [hub, hfs', hv']
  generalize cbrBytes s.fs fsz (userBitrateToBitrate s fsz (min 1276 out)) (min 1276 out) = cb at *
  by_cases hv : s.useVbr = 0
  · rw [if_pos hv]; dsimp only
    refine ⟨by omega, by omega, fun _ => ⟨rfl, rfl, hcb.1, hcb.2⟩, fun h => absurd hv h⟩
  · rw [if_neg hv]; dsimp only
    refine ⟨by omega, by omega, fun h => absurd h hv, fun _ => rfl⟩

/-- A legal frame at a legal rate is `k` units of `q = Fs/400` samples (2.5 ms). -/
theorem legal_units (fs fsz : Int) (hfs : fs = 8000 ∨ fs = 12000 ∨ fs = 16000 ∨ fs = 24000 ∨ fs = 48000)
    (hl : legalFrame fs fsz = true) :
    ∃ q k : Int, 0 < q ∧ fs = 400 * q ∧ fsz = k * q ∧
      (k = 1 ∨ k = 2 ∨ k = 4 ∨ k = 8 ∨ k = 16 ∨ k = 24 ∨ k = 32 ∨ k = 40 ∨ k = 48) := by
  obtain ⟨q, hq0, hq⟩ : ∃ q, 0 < q ∧ fs = 400 * q := ⟨fs / 400, by omega, by omega⟩
  clear hfs
  rcases legal_fsz fs fsz hl with h | h | h | h | h | h | h | h | h
  · exact ⟨q, 1, hq0, hq, by omega, by simp⟩
  · exact ⟨q, 2, hq0, hq, by omega, by simp⟩
  · exact ⟨q, 4, hq0, hq, by omega, by simp⟩
  · exact ⟨q, 8, hq0, hq, by omega, by simp⟩
  · exact ⟨q, 16, hq0, hq, by omega, by simp⟩
  · exact ⟨q, 24, hq0, hq, by omega, by simp⟩
  · exact ⟨q, 32, hq0, hq, by omega, by simp⟩
  · exact ⟨q, 40, hq0, hq, by omega, by simp⟩
  · exact ⟨q, 48, hq0, hq, by omega, by simp⟩

theorem legalFrame_units (q k : Int)
    (hk : k = 1 ∨ k = 2 ∨ k = 4 ∨ k = 8 ∨ k = 16 ∨ k = 24 ∨ k = 32 ∨ k = 40 ∨ k = 48) :
    legalFrame (400 * q) (q * k) = true := by
  unfold legalFrame
  rw [decide_eq_true_eq]
  rcases hk with rfl | rfl | rfl | rfl | rfl | rfl | rfl | rfl | rfl <;> omega

theorem legal_long (fs fsz : Int)
    (hfs : fs = 8000 ∨ fs = 12000 ∨ fs = 16000 ∨ fs = 24000 ∨ fs = 48000)
    (hl : legalFrame fs fsz = true) (hlong : fs / 50 < fsz) :
    fsz = 2 * (fs / 50) ∨ fsz = 3 * (fs / 50) ∨ fsz = 4 * (fs / 50) ∨ fsz = 5 * (fs / 50) ∨ fsz = 6 * (fs / 50) := by
  obtain ⟨q, k, hq0, rfl, rfl, hk⟩ := legal_units fs fsz hfs hl
  clear hfs hl
  rcases hk with rfl | rfl | rfl | rfl | rfl | rfl | rfl | rfl | rfl <;> omega

/-- Rates per frame, for a frame of `k` units of `q = Fs/400` samples: `Fs` cancels. -/
theorem units_div (a q k : Int) (hq : 0 < q) : a * (400 * q) / (k * q) = a * 400 / k := by
  rw [← Int.mul_assoc, Int.mul_ediv_mul_of_pos_left _ _ hq]

/-- For frames of 60 ms and more, two bytes of output space and a legal bit-rate setting, the CBR
    byte count is at least 2 (so the two-byte code-3 ToC-only packet of the low-budget path never
    exceeds it). -/
theorem cbr_ge2 (s : St) (fsz out : Int) (hs : stOk s = true) (hl : legalFrame s.fs fsz = true)
    (hfr : s.fs / fsz ≤ 16) (hout : 2 ≤ out) :
    2 ≤ cbrBytes s.fs fsz (userBitrateToBitrate s fsz (min 1276 out)) (min 1276 out) := by
  obtain ⟨hfs, hch, hbr⟩ := stOk_domain s hs
  obtain ⟨q, k, hq0, hq, hk, hk9⟩ := legal_units s.fs fsz hfs hl
  rw [hq, hk, Int.mul_ediv_mul_of_pos_left _ _ hq0] at hfr
  have hP : 0 ≤ 400 * q * s.channels := Int.mul_nonneg (by omega) (by omega)
  have hkq : k * q ≠ 0 := Int.ne_of_gt (Int.mul_pos (by omega) hq0)
  unfold cbrBytes userBitrateToBitrate
  simp only [OPUS_AUTO, OPUS_BITRATE_MAX] at *
  rw [hq, hk]
  simp only [if_neg hkq, units_div _ q k hq0]
  generalize 400 * q * s.channels = P at *
  generalize s.userBitrate = ub at *
  clear hfs hq hk hl hkq
  rcases hk9 with rfl | rfl | rfl | rfl | rfl | rfl | rfl | rfl | rfl <;> omega

/-- What the size property (C05) says about one successful call. -/
structure NatPost (s : St) (fsz out : Int) (r : NatRes) : Prop where
  noAbort : r.abort = false
  retLo : 1 ≤ r.ret
  retHi : r.ret ≤ out
  cbr : s.useVbr = 0 → r.dtx = false →
    r.ret = cbrTarget s fsz out ∨ (s.userBitrate = OPUS_BITRATE_MAX ∧ s.fs / 50 < fsz ∧ r.ret = out)

theorem lowCode_cases (s : St) (fsz out : Int) :
    lowCode s fsz out = 0 ∨ lowCode s fsz out = 1 ∨
    (lowCode s fsz out = 3 ∧ s.fs / fsz ≤ 16 ∧ out ≠ 1 ∧ lowNumMulti s fsz out = 50 / (s.fs / fsz)) := by
  unfold lowCode lowNumMulti
  by_cases h1 : s.fs / fsz ≤ 16
  · rw [if_pos h1]
    by_cases h2 : lowToSilk s fsz out = true
    · rw [if_pos h2]; split <;> simp
    · rw [if_neg h2]
      right; right
      refine ⟨rfl, h1, ?_, ?_⟩
      · intro h; apply h2; unfold lowToSilk; simp [h]
      · rw [if_pos ⟨h1, h2⟩]
  · rw [if_neg h1]; split <;> simp

/-- Legal frames last at most 120 ms. -/
theorem legal_rate_ge8 (fs fsz : Int) (hfs : 0 < fs) (hl : legalFrame fs fsz = true) : 8 ≤ fs / fsz := by
  obtain ⟨h0, h25, -⟩ := legal_bounds fs fsz hfs hl
  exact (Int.le_ediv_iff_mul_le h0).mpr (by omega)

theorem lowLens_spec (s : St) (fsz out : Int) (hfs : 0 < s.fs) (hl : legalFrame s.fs fsz = true) :
    lowLens s fsz out ≠ [] ∧ (∀ l ∈ lowLens s fsz out, l ≤ 1275) ∧
    (baseSize (lowLens s fsz out) : Int) = lowRet0 s fsz out := by
  have hfr := legal_rate_ge8 s.fs fsz hfs hl
  unfold lowLens lowRet0
  rcases lowCode_cases s fsz out with h | h | ⟨h, h16, _, hn⟩
  · rw [h]; simp [baseSize]
  · rw [h]; simp [baseSize, List.replicate]
  · rw [h, hn]
    have h3 : 3 ≤ 50 / (s.fs / fsz) := (Int.le_ediv_iff_mul_le (by omega)).mpr (by omega)
    have h3' : 3 ≤ (50 / (s.fs / fsz)).toNat := by omega
    refine ⟨?_, ?_, ?_⟩
    · simp; omega
    · intro l hl; simp at hl; omega
    · simp only [show ¬ (3 : Int) = 0 by decide, show ¬ (3 : Int) = 1 by decide, show ¬ (3 : Int) ≤ 1 by decide, if_false]
      rw [baseSize_zeros _ h3']; rfl

/-- **The low-budget return** (:1271-1336) for a legal frame: no failure, the state untouched, the empty frames `lowLens`
    under the ToC `lowBudgetToc`; the bytes are the ToC-only packet, or — CBR with room — what `opus_packet_pad` makes of
    it: the padded contract output of exactly `max_data_bytes` bytes. -/
theorem lowBudget_cases (s : St) (fsz out : Int) (b : SizeBudget) (hfs : 0 < s.fs) (hlg : legalFrame s.fs fsz = true) :
    (lowBudget s fsz out b).abort = false ∧ (lowBudget s fsz out b).dtx = false ∧ (lowBudget s fsz out b).st = s ∧
    (lowBudget s fsz out b).pkt.tocCfg = (lowBudgetToc s fsz out).1 ∧
    (lowBudget s fsz out b).pkt.lens = lowLens s fsz out ∧
    (((s.useVbr ≠ 0 ∨ b.maxDataBytes ≤ lowRet0 s fsz out) ∧ (lowBudget s fsz out b).ret = lowRet0 s fsz out ∧
        (lowBudget s fsz out b).pkt.size = (lowRet0 s fsz out).toNat ∧
        (lowBudget s fsz out b).pkt.hdr = lowHdr0 s fsz out) ∨
     (s.useVbr = 0 ∧ lowRet0 s fsz out < b.maxDataBytes ∧ (lowBudget s fsz out b).ret = b.maxDataBytes ∧
        ∃ r, outRange (lowBudgetToc s fsz out).1 (lowLens s fsz out) b.maxDataBytes.toNat true = .ok r ∧
          padSpec (lowBudgetToc s fsz out).1 (lowLens s fsz out) (lowRet0 s fsz out) b.maxDataBytes = (OPUS_OK, some r) ∧
          r.size = b.maxDataBytes.toNat ∧ (lowBudget s fsz out b).pkt.size = r.size ∧
          (lowBudget s fsz out b).pkt.hdr = r.hdr)) := by
  obtain ⟨hne, hall, hbase⟩ := lowLens_spec s fsz out hfs hlg
  unfold lowBudget
  dsimp only
  by_cases hv : s.useVbr = 0
  · rw [if_pos hv]
    obtain ⟨hpad, hshape⟩ := padSpec_shape (lowBudgetToc s fsz out).1 (lowLens s fsz out) (lowRet0 s fsz out)
      (max b.maxDataBytes (lowRet0 s fsz out)) hne hall hbase (by omega)
    rw [if_neg (by rw [hpad]; simp)]
    refine ⟨rfl, rfl, rfl, rfl, rfl, ?_⟩
    rcases hshape with ⟨heq, hnone⟩ | ⟨hlt, r, hr, hsome, hsz⟩
    · exact Or.inl ⟨Or.inr (by omega), heq.symm, by dsimp only; rw [← heq], by dsimp only; rw [hnone]⟩
    · have hm : max b.maxDataBytes (lowRet0 s fsz out) = b.maxDataBytes := by omega
      rw [hm] at hr hsome hsz hpad ⊢
      exact Or.inr ⟨hv, by omega, rfl, r, hr, Prod.ext hpad hsome, hsz, hsz.symm, by dsimp only; rw [hsome]⟩
  · rw [if_neg hv]
    exact ⟨rfl, rfl, rfl, rfl, rfl, Or.inl ⟨Or.inl hv, rfl, rfl, rfl⟩⟩

theorem lowRet0_bounds (s : St) (fsz out : Int) (hout : 1 ≤ out) :
    1 ≤ lowRet0 s fsz out ∧ lowRet0 s fsz out ≤ 2 ∧ lowRet0 s fsz out ≤ out ∧
    (lowRet0 s fsz out = 2 → s.fs / fsz ≤ 16 ∧ 2 ≤ out) := by
  unfold lowRet0
  rcases lowCode_cases s fsz out with h | h | ⟨h, h16, h1, _⟩ <;> rw [h] <;> simp <;> omega

theorem lowBudget_post (s0 s : St) (fsz out : Int) (b : SizeBudget) (hs : stOk s0 = true)
    (hl : legalFrame s0.fs fsz = true) (hout : 1 ≤ out)
    (hfs : s.fs = s0.fs) (hv : s.useVbr = s0.useVbr)
    (hb1 : 1 ≤ b.maxDataBytes) (hb2 : b.maxDataBytes ≤ min 1276 out)
    (hbc : s0.useVbr = 0 → b.maxDataBytes = cbrTarget s0 fsz out) :
    NatPost s0 fsz out (lowBudget s fsz out b) := by
  have hfs0 : 0 < s0.fs := by have := (stOk_domain s0 hs).1; omega
  obtain ⟨h1, h2, -, -, -, hsh⟩ := lowBudget_cases s fsz out b (by omega) (by rw [hfs]; exact hl)
  obtain ⟨r1, r2, r3, r4⟩ := lowRet0_bounds s fsz out hout
  refine ⟨h1, ?_, ?_, fun hv0 _ => Or.inl ?_⟩
  · rcases hsh with ⟨-, e, -⟩ | ⟨-, -, e, -⟩ <;> omega
  · rcases hsh with ⟨-, e, -⟩ | ⟨-, -, e, -⟩ <;> omega
  · rw [← hbc hv0]
    rcases hsh with ⟨hc, e, -⟩ | ⟨-, -, e, -⟩
    · -- no room beyond the ToC-only packet: the CBR target is at least its size (`cbr_ge2` for the two-byte one)
      have hcb : lowRet0 s fsz out ≤ cbrTarget s0 fsz out := by
        by_cases h2 : lowRet0 s fsz out = 2
        · have := cbr_ge2 s0 fsz out hs hl (by rw [← hfs]; exact (r4 h2).1) (r4 h2).2
          unfold cbrTarget; omega
        · unfold cbrTarget; omega
      have := hbc hv0
      rcases hc with hc | hc
      · exact absurd (hv.trans hv0) hc
      · omega
    · exact e

theorem decide'_pre (s1 : St) (fuzz : Bool) (o : NatOr) (fsz m isSil : Int) (hs : Settings s1)
    (hb : BwOk s1.bandwidth) (hm1 : 3 ≤ m) (hm2 : m ≤ 1276) :
    FramePre (decide' s1 fuzz o fsz m).st (singleIn (decide' s1 fuzz o fsz m) isSil fsz m) := by
  obtain ⟨_, hmode, hbw, hw, _, _⟩ := decide'_spec s1 fuzz o fsz m hs hb
  refine ⟨hm1, hm2, hmode, ?_⟩
  intro h
  have := hw h
  unfold BwOk at hbw
  simp only [BW_NB, BW_MB, BW_WB, BW_FB] at *
  omega

theorem single_post_of (s0 : St) (d : Decided) (fsz out m isSil : Int) (fo : FrameOr) (okb : Bool)
    (hpre : FramePre d.st (singleIn d isSil fsz m)) (hm2 : m ≤ min 1276 out)
    (hvd : d.st.useVbr = s0.useVbr) (hbc : s0.useVbr = 0 → m = cbrTarget s0 fsz out)
    (hok : frameOk d.st (singleIn d isSil fsz m) fo = true) :
    NatPost s0 fsz out (singleRes (frameNative d.st (singleIn d isSil fsz m) fo) okb) := by
  have hp := frameNative_post _ _ fo hpre hok
  have h3 := hp.retHi
  have h6 := hp.cbr
  have hmi : (singleIn d isSil fsz m).maxDataBytes = m := rfl
  rw [hmi] at h3 h6
  unfold singleRes
  refine ⟨hp.noAbort, hp.retLo, by dsimp only; omega, fun hv0 hd => Or.inl ?_⟩
  dsimp only at hd ⊢
  rw [(h6 (by rw [hvd]; exact hv0) hd).1]
  exact hbc hv0

/-- Does the call take the multi-frame (repacketiser) path of :1631? -/
def takesMulti (s : St) (fuzz : Bool) (fsz out : Int) (o : NatOr) : Bool :=
  !(lowBudgetGate (budgetSt s o fsz out) fsz (sizeBudget (analysisUpd s o) fsz out)) &&
  isMulti (decide' (budgetSt s o fsz out) fuzz o fsz (sizeBudget (analysisUpd s o) fsz out).maxDataBytes).st fsz

theorem NatPost.withOk {s : St} {fsz out : Int} {r : NatRes} (h : NatPost s fsz out r) (b : Bool) :
    NatPost s fsz out { r with ok := b } := ⟨h.noAbort, h.retLo, h.retHi, h.cbr⟩

/-- The decision, the split constants and the result of the multi-frame branch for a given call. -/
abbrev decOf (s : St) (fuzz : Bool) (fsz out : Int) (o : NatOr) : Decided :=
  decide' (budgetSt s o fsz out) fuzz o fsz (sizeBudget (analysisUpd s o) fsz out).maxDataBytes
abbrev ctxOf (s : St) (fuzz : Bool) (fsz out : Int) (o : NatOr) : MultiCtx :=
  multiCtx (decOf s fuzz fsz out o).st fsz out (sizeBudget (analysisUpd s o) fsz out).cbr
abbrev multiOf (s : St) (fuzz : Bool) (fsz out : Int) (o : NatOr) : NatRes :=
  multiFrame (decOf s fuzz fsz out o) (effSilence (budgetSt s o fsz out) o) fsz out
    (sizeBudget (analysisUpd s o) fsz out).cbr o.frames

/-- The frame call of the single-frame path. -/
abbrev singleCall (s : St) (fuzz : Bool) (fsz out : Int) (o : NatOr) : FrameRes :=
  frameNative (decOf s fuzz fsz out o).st
    (singleIn (decOf s fuzz fsz out o) (effSilence (budgetSt s o fsz out) o) fsz (sizeBudget (analysisUpd s o) fsz out).maxDataBytes)
    (o.frames.headD default)

/-- What :1158-1264 establish for a call within the domain that passed the entry check. -/
structure CallCtx (s : St) (fsz out : Int) (o : NatOr) : Prop where
  out1 : 1 ≤ out
  ne100 : ¬ (out = 1 ∧ s.fs = fsz * 10)
  same : BudSame s (budgetSt s o fsz out)
  settings : Settings (budgetSt s o fsz out)
  bw : BwOk (budgetSt s o fsz out).bandwidth
  bLo : 1 ≤ (sizeBudget (analysisUpd s o) fsz out).maxDataBytes
  bHi : (sizeBudget (analysisUpd s o) fsz out).maxDataBytes ≤ min 1276 out
  cbr : s.useVbr = 0 → (sizeBudget (analysisUpd s o) fsz out).maxDataBytes = cbrTarget s fsz out

theorem callCtx (s : St) (fsz out : Int) (o : NatOr) (he : entryCheck s fsz out = none) (hst : stOk s = true)
    (hlg : legalFrame s.fs fsz = true) : CallCtx s fsz out o := by
  obtain ⟨hout, hne⟩ := entryCheck_none he
  obtain ⟨hb1, hb2, hbc, -⟩ := budget_spec s o fsz out hst hlg hout
  have hS := (stOk_iff s).mp hst
  have hbs := budgetSt_same s o fsz out
  have hsb := hbs.settings ⟨hS.forced, hS.userBw, hS.maxBw, hS.prevMode⟩ hS.bw
  exact ⟨hout, hne, hbs, hsb.1, hsb.2, hb1, hb2, fun h => (hbc h).1⟩

theorem CallCtx.framePre {s : St} {fsz out : Int} {o : NatOr} (h : CallCtx s fsz out o) (fuzz : Bool)
    (hg : lowBudgetGate (budgetSt s o fsz out) fsz (sizeBudget (analysisUpd s o) fsz out) = false) :
    3 ≤ (sizeBudget (analysisUpd s o) fsz out).maxDataBytes ∧
    FramePre (decOf s fuzz fsz out o).st (singleIn (decOf s fuzz fsz out o) (effSilence (budgetSt s o fsz out) o) fsz
      (sizeBudget (analysisUpd s o) fsz out).maxDataBytes) := by
  have hm3 : 3 ≤ (sizeBudget (analysisUpd s o) fsz out).maxDataBytes := by
    unfold lowBudgetGate at hg
    simp only [decide_eq_false_iff_not, not_or, not_lt] at hg
    exact hg.1
  have := h.bHi
  exact ⟨hm3, decide'_pre _ fuzz o fsz _ _ h.settings h.bw hm3 (by omega)⟩

/-- **The return paths of `opus_encode_native`** for a call that passed the entry check and stayed within the
    contracts: the call is within its domain, and the result is that of the low-budget path, of the multi-frame path
    or of the one frame call. -/
theorem encodeNative_cases (s : St) (fuzz : Bool) (fsz out : Int) (o : NatOr)
    (he : entryCheck s fsz out = none) (hok : (encodeNative s fuzz fsz out o).ok = true) :
    stOk s = true ∧ legalFrame s.fs fsz = true ∧
    ((lowBudgetGate (budgetSt s o fsz out) fsz (sizeBudget (analysisUpd s o) fsz out) = true ∧
       encodeNative s fuzz fsz out o =
         { lowBudget (budgetSt s o fsz out) fsz out (sizeBudget (analysisUpd s o) fsz out) with ok := true }) ∨
     (takesMulti s fuzz fsz out o = true ∧ (multiOf s fuzz fsz out o).ok = true ∧
       encodeNative s fuzz fsz out o = { multiOf s fuzz fsz out o with ok := true }) ∨
     (lowBudgetGate (budgetSt s o fsz out) fsz (sizeBudget (analysisUpd s o) fsz out) = false ∧
       isMulti (decOf s fuzz fsz out o).st fsz = false ∧
       frameOk (decOf s fuzz fsz out o).st (singleIn (decOf s fuzz fsz out o) (effSilence (budgetSt s o fsz out) o) fsz
         (sizeBudget (analysisUpd s o) fsz out).maxDataBytes) (o.frames.headD default) = true ∧
       encodeNative s fuzz fsz out o = singleRes (singleCall s fuzz fsz out o) true)) := by
  unfold encodeNative at hok ⊢
  rw [he] at hok ⊢
  dsimp only at hok ⊢
  by_cases hg : lowBudgetGate (budgetSt s o fsz out) fsz (sizeBudget (analysisUpd s o) fsz out) = true
  · rw [if_pos hg] at hok ⊢
    have hb : (stOk s && legalFrame s.fs fsz) = true := hok
    rw [hb]
    rw [Bool.and_eq_true] at hb
    exact ⟨hb.1, hb.2, Or.inl ⟨hg, rfl⟩⟩
  · rw [if_neg hg] at hok ⊢
    rw [Bool.not_eq_true] at hg
    by_cases hm : isMulti (decide' (budgetSt s o fsz out) fuzz o fsz (sizeBudget (analysisUpd s o) fsz out).maxDataBytes).st fsz = true
    · rw [if_pos hm] at hok ⊢
      have hb : (stOk s && legalFrame s.fs fsz && (multiOf s fuzz fsz out o).ok) = true := hok
      rw [hb]
      simp only [Bool.and_eq_true] at hb
      exact ⟨hb.1.1, hb.1.2, Or.inr (Or.inl ⟨by simp [takesMulti, hg, hm], hb.2, rfl⟩)⟩
    · rw [if_neg hm] at hok ⊢
      rw [Bool.not_eq_true] at hm
      have hb : (stOk s && legalFrame s.fs fsz && frameOk (decOf s fuzz fsz out o).st
        (singleIn (decOf s fuzz fsz out o) (effSilence (budgetSt s o fsz out) o) fsz
         (sizeBudget (analysisUpd s o) fsz out).maxDataBytes) (o.frames.headD default)) = true := hok
      rw [hb]
      simp only [Bool.and_eq_true] at hb
      exact ⟨hb.1.1, hb.1.2, Or.inr (Or.inr ⟨hg, hm, hb.2, rfl⟩)⟩

/-- `opus_encode_native`, all paths, given the multi-frame path lemma `hmulti`. -/
theorem encodeNative_post_of (s : St) (fuzz : Bool) (fsz out : Int) (o : NatOr)
    (he : entryCheck s fsz out = none)
    (hok : (encodeNative s fuzz fsz out o).ok = true)
    (hmulti : takesMulti s fuzz fsz out o = true → stOk s = true → legalFrame s.fs fsz = true →
       (multiOf s fuzz fsz out o).ok = true → NatPost s fsz out (multiOf s fuzz fsz out o)) :
    NatPost s fsz out (encodeNative s fuzz fsz out o) := by
  obtain ⟨hst, hlg, h⟩ := encodeNative_cases s fuzz fsz out o he hok
  have c := callCtx s fsz out o he hst hlg
  rcases h with ⟨-, e⟩ | ⟨htm, hmok, e⟩ | ⟨hg, hnm, hfok, e⟩ <;> rw [e]
  · exact (lowBudget_post s _ fsz out _ hst hlg c.out1 c.same.fs c.same.useVbr c.bLo c.bHi c.cbr).withOk _
  · exact (hmulti htm hst hlg hmok).withOk _
  · obtain ⟨hm3, hpre⟩ := c.framePre fuzz hg
    exact single_post_of s _ fsz out _ _ _ _ hpre c.bHi
      (by rw [(decide'_spec _ fuzz o fsz _ c.settings c.bw).1.cfg.useVbr, c.same.useVbr]) c.cbr hfok

end Opus.EncSkel.Proofs
