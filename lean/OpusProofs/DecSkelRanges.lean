import OpusProofs.DecSkelApi
/-
  OpusProofs.DecSkelRanges — C `int` / `opus_int32` ranges of the decoder skeleton.  The model computes
  with unbounded `Int`; these lemmas show that, on the domain the entry checks and the invariant
  guarantee, every product / sum / difference the C code forms (quoted with its source line) fits a
  32-bit signed integer, so the unbounded and the C reading coincide.
  Entry facts used: `len` is an `opus_int32` (packet length < 2^31); the caller's buffer holds
  `frame_size·channels` samples (so that product is representable); `DecInv` (legal rate, 1-2
  channels, `frame_size` a packet duration ≤ 60 ms); the parser's bounds (≤ 48 frames, ≤ 1275 bytes
  each, ≤ 120 ms per packet).
-/
namespace Opus.DecSkel
open Opus Opus.Framing

/-- Representable as `int` / `opus_int32`. -/
def I32 (x : Int) : Prop := -2147483648 ≤ x ∧ x ≤ 2147483647

/-- The sizes derived from the rate (:290-293, :300, :703) and the state's frame size: all below 6000;
    the scratch-buffer sizes `F10*channels`, `F5*channels` (:368-370, :401, :554). -/
theorem rate_sizes_i32 {st : DecState} (h : DecInv st) :
    I32 (F20 st) ∧ I32 (F10 st) ∧ I32 (F5 st) ∧ I32 (F2_5 st) ∧ I32 (st.Fs / 25 * 3) ∧ st.Fs / 25 * 3 ≤ 5760 ∧
    I32 (st.Fs / 400) ∧ 20 ≤ st.Fs / 400 ∧ 0 ≤ st.frame_size ∧ st.frame_size ≤ 2880 ∧ I32 (st.frame_size * st.channels) ∧
    I32 (F10 st * st.channels) ∧ I32 (F5 st * st.channels) := by
  obtain ⟨u, hu⟩ := units_of_fs h.fs
  -- all that matters: `20 ≤ u ≤ 120`, `0 ≤ frame_size ≤ 24·u`, `channels ≤ 2`
  have hp := hu.pos
  have hub : u ≤ 120 := by have := hu.five; omega
  have hfb := hu.toc_bounds h.toc
  rw [hu.f20, hu.f10, hu.f5, hu.f25, hu.f120, hu.u400]
  unfold I32
  rcases h.ch with hc | hc <;> rw [hc] <;> omega

/-- `opus_decode_native`, concealment loop (:736-743) and FEC branch (:773-789): `pcm+pcm_count*st->channels`,
    `frame_size-pcm_count`, `frame_size-packet_frame_size`, `st->channels*(frame_size-packet_frame_size)`. -/
theorem native_offsets_i32 {st : DecState} (h : DecInv st) (frame_size done : Int)
    (hbuf : I32 (frame_size * st.channels)) (h0 : 0 ≤ done) (hle : done ≤ frame_size) :
    I32 (done * st.channels) ∧ I32 (frame_size - done) ∧ I32 (st.channels * (frame_size - done)) := by
  unfold I32 at *
  rcases h.ch with hc | hc <;> rw [hc] at hbuf ⊢ <;> omega

/-- `opus_decode_native`, packet path (:752-819): `count*packet_frame_size` (:800) is at most 48·2880; when it fits the
    buffer, `nb_samples*st->channels` and `frame_size-nb_samples` (:813) are in range; frame sizes are `opus_int16`
    (≤ 1275) and every frame offset `data += size[i]` stays below the packet length, an `opus_int32`. -/
theorem native_frames_i32 {st : DecState} (h : DecInv st) (bs : Bytes) (hb : BytesOk bs) (hlen : (bs.length : Int) ≤ 2147483647)
    (sd : Bool) (p : Parsed) (hp : parseImpl sd bs = .ok p) (frame_size : Int) (hbuf : I32 (frame_size * st.channels)) :
    I32 ((p.count : Int) * (samplesPerFrame (bs.headD 0) st.Fs.toNat : Int)) ∧
    (p.count : Int) * (samplesPerFrame (bs.headD 0) st.Fs.toNat : Int) ≤ 48 * 2880 ∧
    ((p.count : Int) * (samplesPerFrame (bs.headD 0) st.Fs.toNat : Int) ≤ frame_size →
      ∀ nb : Int, 0 ≤ nb → nb ≤ (p.count : Int) * (samplesPerFrame (bs.headD 0) st.Fs.toNat : Int) →
        I32 (nb * st.channels) ∧ I32 (frame_size - nb)) ∧
    (∀ sz ∈ p.sizes, sz ≤ 1275) ∧ I32 ((p.payloadOffset : Int) + (sumN p.sizes : Int)) ∧ I32 (p.packetOffset : Int) := by
  obtain ⟨hcnt, hc1, hc48, hsz, hpad, hle, _⟩ := FramingProofs.parse_offsets sd bs hb p hp
  obtain ⟨u, hu⟩ := units_of_fs h.fs
  have hpf := hu.toc_bounds (tocArgs_of_byte h.fs (headD_lt hb)).toc
  have hub : u ≤ 120 := by have := hu.five; omega
  generalize ((samplesPerFrame (bs.headD 0) st.Fs.toNat : Nat) : Int) = pfs at *
  have hmul : (p.count : Int) * pfs ≤ 48 * pfs := Int.mul_le_mul_of_nonneg_right (by omega) (by omega)
  have hnn : 0 ≤ (p.count : Int) * pfs := Int.mul_nonneg (by omega) (by omega)
  have hpadle : p.payloadOffset + sumN p.sizes ≤ bs.length := by unfold Parsed.padOffset at hpad; omega
  refine ⟨⟨by omega, by omega⟩, by omega, ?_, hsz, ⟨by omega, by omega⟩, ⟨by omega, by omega⟩⟩
  intro hfit nb h0 hle'
  unfold I32 at *
  rcases h.ch with hc | hc <;> rw [hc] at hbuf ⊢ <;> omega

/-- `opus_decode_frame` (:300-412, :617-668): with `audiosize` a packet / concealment duration (≤ 60 ms),
    `audiosize*st->channels`, `1000*audiosize` (:412) and `st->channels*(frame_size-F2_5)` (:617) are in range. -/
theorem frame_sizes_i32 {st : DecState} (h : DecInv st) (audiosize : Int) (h0 : 0 ≤ audiosize) (hle : audiosize ≤ 2880) :
    I32 (audiosize * st.channels) ∧ I32 (1000 * audiosize) ∧ I32 (st.channels * (audiosize - F2_5 st)) ∧
    I32 (cdiv (1000 * audiosize) st.Fs) := by
  obtain ⟨u, hu⟩ := units_of_fs h.fs
  have hub : 20 ≤ u ∧ u ≤ 120 := by have := hu.five; omega
  have hdiv : cdiv (1000 * audiosize) st.Fs = 1000 * audiosize / st.Fs := cdiv_nonneg (by omega)
  rw [hu.f25, hdiv, hu.fs]
  have hq : 0 ≤ 1000 * audiosize / (400 * u) := Int.ediv_nonneg (by omega) (by omega)
  have hq2 : 1000 * audiosize / (400 * u) ≤ 1000 * audiosize := Int.ediv_le_self _ (by omega)
  unfold I32
  rcases h.ch with hc | hc <;> rw [hc] <;> omega

/-- Redundancy signalling (:475-502): with a frame of at most 1275 bytes and `ec_tell` below 2^30,
    `ec_tell+17+20`, `8*len`, `len-((ec_tell+7)>>3)`, `len*8` and `ec_dec_uint(256)+2` are in range. -/
theorem redundancy_i32 (len tell v : Int) (hl : 0 ≤ len ∧ len ≤ 1275) (ht : 0 ≤ tell ∧ tell ≤ 1073741824) (hv : 0 ≤ v ∧ v < 256) :
    I32 (tell + 17 + 20) ∧ I32 (8 * len) ∧ I32 (len - (tell + 7) / 8) ∧ I32 ((len - (v + 2)) * 8) ∧ I32 (v + 2) := by
  unfold I32; omega

/-- The 16/24-bit wrappers (:860-869): after the clamp to `opus_decoder_get_nb_samples` (≤ 120 ms) the stack buffer has
    `frame_size*channels ≤ 11520` floats; for concealment / FEC requests up to one second it has at most 96000. -/
theorem wrapper_alloc_i32 {st : DecState} (h : DecInv st) (frame_size : Int) (h0 : 0 < frame_size) (h1 : frame_size ≤ st.Fs) :
    I32 (frame_size * st.channels) ∧ frame_size * st.channels ≤ 96000 := by
  have hfs := h.fs
  unfold FsOk at hfs
  unfold I32
  rcases h.ch with hc | hc <;> rw [hc] <;> omega

/-- Multistream (:207-220): `2*frame_size` after the clamp, `2*nb_streams-1` with at most 255 streams. -/
theorem ms_sizes_i32 (Fs frame_size : Int) (nb : Nat) (hFs : FsOk Fs) (h0 : 0 < frame_size) (hnb : nb ≤ 255) :
    I32 (2 * min frame_size (Fs / 25 * 3)) ∧ 2 * min frame_size (Fs / 25 * 3) ≤ 11520 ∧ I32 (2 * (nb : Int) - 1) := by
  unfold FsOk at hFs
  unfold I32
  omega

end Opus.DecSkel
