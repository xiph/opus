import OpusProofs.RangeCoderRaw
/-
  OpusProofs.RangeCoderDone — C08, `ec_enc_done` (entenc.c:260-310): the bits it
  emits pin the code value inside the final interval whatever follows them (invariant F),
  and the raw bits are merged into the tail of the buffer without touching them.
-/
namespace Opus.RangeCoder

theorem clearMiddle_getD (c : Enc) (ho : c.offs + c.endOffs ≤ c.storage) (hs : c.storage ≤ c.buf.length) (i : Nat) :
    (clearMiddle c).buf.getD i 0 =
      if c.offs ≤ i ∧ i < c.storage - c.endOffs then 0 else c.buf.getD i 0 := by
  unfold clearMiddle
  simp only [List.getD_eq_getElem?_getD]
  have e : c.offs + (c.storage - c.offs - c.endOffs) = c.storage - c.endOffs := by omega
  rw [e]
  by_cases h1 : i < c.offs
  · rw [List.append_assoc, List.getElem?_append_left (by simp; omega), if_neg (by omega)]
    simp [h1]
  · by_cases h2 : i < c.storage - c.endOffs
    · rw [if_pos ⟨by omega, h2⟩, List.getElem?_append_left (by simp; omega),
        List.getElem?_append_right (by simp; omega)]
      simp only [List.length_take]
      rw [List.getElem?_replicate]
      split <;> rfl
    · rw [if_neg (by omega), List.getElem?_append_right (by simp; omega)]
      simp only [List.length_append, List.length_take, List.length_replicate, List.getElem?_drop]
      congr 2
      omega

theorem codeVal_eq_bytesVal (B : List Nat) (S : Nat) : ∀ n, n ≤ S → n ≤ B.length →
    codeVal B S n = bytesVal (B.take n)
  | 0, _, _ => by simp [codeVal]
  | n + 1, h1, h2 => by
    have hlt : n < B.length := by omega
    rw [codeVal, codeVal_eq_bytesVal B S n (by omega) (by omega), List.take_add_one]
    simp only [List.getElem?_eq_getElem hlt, Option.toList]
    rw [bytesVal_snoc]
    unfold byteAt
    rw [if_pos (by omega)]
    simp [List.getD_eq_getElem?_getD, hlt]

theorem or_add_of_mod (x w T : Nat) (hx : x % 2 ^ T = 0) (hw : w < 2 ^ T) : x ||| w = x + w := by
  have e : x = (x / 2 ^ T) <<< T := by
    rw [Nat.shiftLeft_eq]
    have := Nat.div_add_mod x (2 ^ T)
    rw [hx, Nat.add_zero, Nat.mul_comm] at this
    exact this.symm
  rw [Nat.or_comm]
  conv => lhs; rw [e]
  rw [or_shift _ _ _ hw, ← Nat.shiftLeft_eq, ← e, Nat.add_comm]

theorem codeVal_congr {B B' : List Nat} {S S' : Nat} : ∀ (n : Nat),
    (∀ i, i < n → byteAt B S i = byteAt B' S' i) → codeVal B S n = codeVal B' S' n
  | 0, _ => rfl
  | n + 1, h => by
    simp only [codeVal]
    rw [codeVal_congr n (fun i hi => h i (by omega)), h n (by omega)]

/-! ### The terminating value `end` and its number of bits `l` (entenc.c:268-275) -/

theorem roundUp_spec (v : Nat) {P : Nat} (hP : 0 < P) :
    v ≤ (v + (P - 1)) / P * P ∧ (v + (P - 1)) / P * P < v + P ∧ (v + (P - 1)) / P * P % P = 0 := by
  have h1 := Nat.div_add_mod (v + (P - 1)) P
  have h2 := Nat.mod_lt (v + (P - 1)) hP
  rw [Nat.mul_comm] at h1
  exact ⟨by omega, by omega, Nat.mul_mod_left _ _⟩

/-- The mask `(EC_CODE_TOP-1) >> l` for `l = 31 - k`. -/
theorem mask_eq (k : Nat) (hk : k ≤ 31) : 2147483647 / 2 ^ (31 - k) = 2 ^ k - 1 := by
  have e : (2147483648 : Nat) = 2 ^ k * 2 ^ (31 - k) := by rw [← Nat.pow_add, show k + (31 - k) = 31 by omega]
  have hA : 0 < 2 ^ k := Nat.pow_pos (by decide)
  have hP : 0 < 2 ^ (31 - k) := Nat.pow_pos (by decide)
  apply Nat.div_eq_of_lt_le
  · rw [Nat.sub_mul, Nat.one_mul, ← e]; omega
  · rw [Nat.sub_add_cancel hA, ← e]; omega

/-- `end` is `val` rounded up to a multiple of `2^(31-l0)` that leaves room for all `31-l0`
    lower bits inside the interval; `2^(31-l0)` is the top bit of `rng`, or the bit below it when
    the top bit is too coarse. -/
theorem encDoneEnd_spec (c : Enc) (inv : EncInv c) :
    ∃ l0 : Nat, (encDoneEnd c).1 = (l0 : Int) ∧ l0 ≤ 9 ∧ l0 + ilog c.rng ≤ 33 ∧ 32 ≤ l0 + ilog c.rng ∧
      c.val ≤ (encDoneEnd c).2 ∧ (encDoneEnd c).2 % 2 ^ (31 - l0) = 0 ∧
      (encDoneEnd c).2 + 2 ^ (31 - l0) ≤ c.val + c.rng ∧ (l0 = 0 → (encDoneEnd c).2 = 0) := by
  obtain ⟨⟨-, -, rh, sl, -, -⟩, rl⟩ := inv
  obtain ⟨i1, i2⟩ := ilog_range rl rh
  obtain ⟨b1, b2⟩ := ilog_bounds (v := c.rng) (by omega)
  -- `P' * 2 = 2^(k+1)` is the top bit of `rng`
  obtain ⟨k, hk⟩ : ∃ k, ilog c.rng = k + 2 := ⟨ilog c.rng - 2, by omega⟩
  have htn : (32 - (ilog c.rng : Int)).toNat = 31 - (k + 1) := by omega
  rw [hk] at b1 b2
  simp only [show k + 2 - 1 = k + 1 from rfl, Nat.pow_succ] at b1 b2
  have hP' : 0 < 2 ^ k := Nat.pow_pos (by decide)
  have hm := mask_eq (k + 1) (by omega)
  rw [Nat.pow_succ] at hm
  have e31 : 31 - (30 - k) = k + 1 := by omega
  have e30 : 31 - (31 - k) = k := by omega
  unfold encDoneEnd
  simp only [htn, hm]
  generalize hP : 2 ^ k = P' at *
  have hP1 : P' * 2 - 1 + 1 = P' * 2 := by omega
  have hP2 : (P' * 2 - 1) / 2 = P' - 1 := by omega
  have hP3 : P' - 1 + 1 = P' := by omega
  rw [hP1, hP2, hP3, u32_of_lt (x := c.val + (P' * 2 - 1)) (by omega),
    u32_of_lt (x := c.val + (P' - 1)) (by omega)]
  have hu : u32 (c.val + c.rng) ≤ c.val + c.rng := Nat.mod_le _ _
  obtain ⟨p1, p2, p3⟩ := roundUp_spec c.val (P := P' * 2) (by omega)
  obtain ⟨q1, q2, q3⟩ := roundUp_spec c.val hP'
  split
  · -- the coarser `end` would leave the interval: one more bit, which always fits as `P' * 2 ≤ rng`
    refine ⟨31 - k, by simp only; omega, by omega, by omega, by omega, q1, ?_, ?_, by omega⟩
    · dsimp only; rw [e30, hP]; exact q3
    · dsimp only; rw [e30, hP]; omega
  · refine ⟨30 - k, by simp only; omega, by omega, by omega, by omega, p1, ?_, ?_, ?_⟩
    · dsimp only; rw [e31, Nat.pow_succ, hP]; exact p3
    · dsimp only; rw [e31, Nat.pow_succ, hP]; omega
    · intro h0
      have hlt := u32_lt (c.val + c.rng)
      have hk30 : k = 30 := by omega
      subst hk30
      dsimp only
      simp only [Nat.reducePow] at hP
      subst hP
      omega

/-- `end` fits 32 bits, and its bit 31 (a carry into the pending digits) is set only when they can
    absorb it. -/
theorem encDoneEnd_carry (c : Enc) (inv : EncInv c) :
    (encDoneEnd c).2 < 4294967296 ∧ (2147483648 ≤ (encDoneEnd c).2 → 0 ≤ c.rem ∧ c.rem ≤ 254) := by
  obtain ⟨l0, -, -, -, -, -, -, htop, -⟩ := encDoneEnd_spec c inv
  have hP : 0 < 2 ^ (31 - l0) := Nat.pow_pos (by decide)
  have sl := inv.sum_le
  have hwl := inv.wf.rem_lo
  have hwh := inv.wf.rem_hi
  refine ⟨by omega, fun h => ?_⟩
  by_cases hx : c.rem < 0 ∨ c.rem = 255
  · have := inv.carry_safe hx; omega
  · omega

/-! ### The output loop and the final flush of the range bytes (entenc.c:276-282) -/

theorem encDoneOut_nonpos (c : Enc) (end_ : Nat) (l : Int) (h : ¬ l > 0) : encDoneOut c end_ l = (c, l) := by
  rw [encDoneOut]; simp [h]

theorem encDoneOut_pos (c : Enc) (end_ : Nat) (l : Int) (h : l > 0) :
    encDoneOut c end_ l =
      encDoneOut (carryOut c (end_ / 8388608)) (end_ * 256 % 2147483648) (l - 8) := by
  rw [encDoneOut]; simp [h]

theorem doneOut_step (c : Enc) (end_ : Nat) {c1 : Enc} (h1 : carryOut c (end_ / 8388608) = c1) (wf : EncWf c)
    (he : end_ < 4294967296) (hcarry : 2147483648 ≤ end_ → 0 ≤ c.rem ∧ c.rem ≤ 254)
    (hext : c.ext < 4294967295) (herr : c1.error = 0) :
    c.error = 0 ∧ EncWf c1 ∧ digitsVal c1 = digitsVal c * 256 + end_ / 8388608 ∧ encM c1 = encM c + 1 ∧
    c1.buf.drop c1.offs = c.buf.drop c1.offs ∧ c.offs ≤ c1.offs ∧ (c1.rem ≥ 0 ∨ c1.ext > 0) ∧
    c1.ext ≤ c.ext + 1 := by
  subst h1
  obtain ⟨k0, kwf, kd, km, kdrop, koffs, k255, kne⟩ :=
    carryOut_spec c (end_ / 8388608) (by omega) wf (fun h => hcarry (by omega)) hext herr
  refine ⟨k0, kwf, kd, km, kdrop, koffs, ?_, ?_⟩
  · by_cases h255 : end_ / 8388608 = 255
    · right; rw [(k255 h255).2]; omega
    · left; rw [(kne h255).1]; omega
  · by_cases h255 : end_ / 8388608 = 255
    · rw [(k255 h255).2]; omega
    · rw [(kne h255).2]; omega

/-- The final flush of the carry buffer (entenc.c:282): afterwards every digit is a
    committed byte. -/
theorem doneFlush_spec (c1 : Enc) {c2 : Enc} (h2 : (if c1.rem ≥ 0 ∨ c1.ext > 0 then carryOut c1 0 else c1) = c2)
    (wf : EncWf c1) (hext : c1.ext < 4294967295) (herr : c2.error = 0) :
    c1.error = 0 ∧ c2.offs = encM c1 ∧ bytesVal (c2.buf.take (encM c1)) = digitsVal c1 ∧ EncWf c2 ∧
    c2.buf.drop (encM c1) = c1.buf.drop (encM c1) ∧ c1.offs ≤ encM c1 := by
  subst h2
  by_cases h : c1.rem ≥ 0 ∨ c1.ext > 0
  · rw [if_pos h] at herr ⊢
    obtain ⟨k0, kwf, kd, km, kdrop, koffs, _, kne⟩ :=
      carryOut_spec c1 0 (by omega) wf (fun h => by omega) hext herr
    obtain ⟨kr, ke⟩ := kne (by omega)
    have hp : pendCount (carryOut c1 0) = 1 := by unfold pendCount; rw [ke, kr]; simp
    have hv : pendVal (carryOut c1 0) = 0 := by unfold pendVal; rw [ke, kr]; simp
    have ho : (carryOut c1 0).offs = encM c1 := by
      unfold encM at km; rw [hp] at km; unfold encM; omega
    refine ⟨k0, ho, ?_, kwf, by rw [← ho]; exact kdrop, by unfold encM; omega⟩
    unfold digitsVal at kd
    rw [hp, hv, ho] at kd
    unfold digitsVal
    omega
  · rw [if_neg h] at herr ⊢
    have hr : ¬ c1.rem ≥ 0 := fun hh => h (Or.inl hh)
    have he : c1.ext = 0 := Classical.byContradiction fun hh => h (Or.inr (by omega))
    have hp : pendCount c1 = 0 := by unfold pendCount; rw [if_neg hr, he]
    have hv : pendVal c1 = 0 := by unfold pendVal; rw [if_neg hr, he]
    have ho : c1.offs = encM c1 := by unfold encM; rw [hp]; omega
    refine ⟨herr, ho, ?_, wf, rfl, by omega⟩
    unfold digitsVal
    rw [hp, hv, ← ho]; simp

/-- The range-coder half of `ec_enc_done`: context after the final flush, and the `l` left by
    the output loop. -/
def doneRange (c : Enc) : Enc × Int :=
  let r := encDoneOut c (encDoneEnd c).2 (encDoneEnd c).1
  (if r.1.rem ≥ 0 ∨ r.1.ext > 0 then carryOut r.1 0 else r.1, r.2)

theorem encDone_eq (c : Enc) : encDone c =
    encDoneTail (encDoneFlush (doneRange c).1 (doneRange c).1.endWindow (doneRange c).1.nendBits).1
      (doneRange c).2
      (encDoneFlush (doneRange c).1 (doneRange c).1.endWindow (doneRange c).1.nendBits).2.1
      (encDoneFlush (doneRange c).1 (doneRange c).1.endWindow (doneRange c).1.nendBits).2.2 := rfl

theorem doneFlush_error (c1 : Enc)
    (h : (if c1.rem ≥ 0 ∨ c1.ext > 0 then carryOut c1 0 else c1).error = 0) : c1.error = 0 := by
  split at h
  · exact zero_of_sticky (carryOut_error_mono c1 0) h
  · exact h

/-- Fields that the range-coder half of `ec_enc_done` leaves alone. -/
def SameRaw (a b : Enc) : Prop :=
  a.storage = b.storage ∧ a.endOffs = b.endOffs ∧ a.endWindow = b.endWindow ∧ a.nendBits = b.nendBits ∧
  a.buf.length = b.buf.length ∧ a.nbitsTotal = b.nbitsTotal

theorem sameRaw_carryOut (c : Enc) (cc : Nat) : SameRaw (carryOut c cc) c := by simp [SameRaw]

theorem sameRaw_flush (c : Enc) : SameRaw (if c.rem ≥ 0 ∨ c.ext > 0 then carryOut c 0 else c) c := by
  split
  · exact sameRaw_carryOut c 0
  · simp [SameRaw]

theorem SameRaw.trans {a b c : Enc} (h1 : SameRaw a b) (h2 : SameRaw b c) : SameRaw a c := by
  unfold SameRaw at *; omega

/-- Leading digits `X` with `X * H = L`, followed by less than `H * W` in the remaining
    `2 * H * W` code values, put half the code into the window `[L, L + H * W)`. -/
theorem half_window {X δ W H L b K : Nat} (hK : K = 2 * H) (hδ : δ < W) (hb : b < K) (hX : X * H = L) :
    L ≤ ((X + δ) * K + b) / 2 ∧ ((X + δ) * K + b) / 2 < L + H * W := by
  have e : (X + δ) * K = 2 * (X * H + δ * H) := by
    rw [hK, Nat.mul_left_comm, Nat.add_mul]
  have h1 : (δ + 1) * H ≤ W * H := Nat.mul_le_mul_right H hδ
  rw [Nat.add_mul, Nat.one_mul] at h1
  rw [e, hX, Nat.mul_comm H W]
  omega

/-- One byte of the output loop of `ec_enc_done` when `end` is a multiple of `2^23 * W`, `W ∣ 256`:
    the byte takes all of `end`, and the new digit string is a multiple of `W`. -/
theorem done_byte_arith {D D1 E W : Nat} (hW : W ∣ 256) (hE : E % (8388608 * W) = 0)
    (h : D1 = D * 256 + E / 8388608) : D1 % W = 0 ∧ D1 * 8388608 = D * 2147483648 + E := by
  obtain ⟨e, he⟩ := Nat.dvd_of_mod_eq_zero hE
  obtain ⟨q, hq⟩ := hW
  rw [Nat.mul_assoc] at he
  generalize he' : W * e = We at he
  have hD : D1 = D * 256 + We := by omega
  refine ⟨?_, by omega⟩
  rw [hD, hq, ← he', Nat.mul_left_comm, ← Nat.mul_add]
  exact Nat.mul_mod_right _ _

/-- Two bytes of the output loop when `end` is a multiple of `2^22`: nine bits are output. -/
theorem done_two_bytes_arith {D D1 D2 E : Nat} (hE : E % 4194304 = 0) (h1 : D1 = D * 256 + E / 8388608)
    (h2 : D2 = D1 * 256 + E * 256 % 2147483648 / 8388608) :
    D2 % 128 = 0 ∧ D2 * 32768 = D * 2147483648 + E := by
  omega

/-- Invariant F, arithmetic core: if the first `encM c + n` bytes of the stream are digits `X` of
    weight `H` that denote `end` exactly, plus less than `W` in the low bits of the last one, and
    `end` leaves `H * W` code values free above it inside the interval, the interval contains the
    code value. -/
theorem contains_of_prefix {B : List Nat} {S : Nat} (hB : ∀ i, byteAt B S i < 256) (c : Enc)
    {n k X δ W H E : Nat} (hnk : n + k = 4) (hK : 256 ^ k = 2 * H) (hδ : δ < W)
    (hX : X * H = digitsVal c * 2147483648 + E) (hv : c.val ≤ E) (htop : E + H * W ≤ c.val + c.rng)
    (hcv : codeVal B S (encM c + n) = X + δ) : Contains B S c := by
  obtain ⟨b, hb, e⟩ := codeVal_tail hB (encM c + n) k
  have := half_window hK hδ hb hX
  unfold Contains encLow
  rw [show encM c + 4 = encM c + n + k by omega, e, hcv]
  omega

/-- Invariant F for the range bytes: after the range-coder half of `ec_enc_done` the committed
    bytes, whatever follows them and whatever is OR-ed into the `T` unused low bits of the
    last one, denote a code value inside the final interval. -/
theorem doneRange_spec (c : Enc) (inv : EncInv c) (hn : c.nbitsTotal < 4294967296)
    (herr : (doneRange c).1.error = 0) :
    ∃ l0 T : Nat, (doneRange c).2 = -(T : Int) ∧ T ≤ 7 ∧ (l0 + ilog c.rng ≤ 33 ∧ 32 ≤ l0 + ilog c.rng) ∧
      8 * (doneRange c).1.offs = 8 * encM c + l0 + T ∧
      c.error = 0 ∧ EncWf (doneRange c).1 ∧ c.offs ≤ (doneRange c).1.offs ∧ SameRaw (doneRange c).1 c ∧
      (doneRange c).1.buf.drop (doneRange c).1.offs = c.buf.drop (doneRange c).1.offs ∧
      bytesVal ((doneRange c).1.buf.take (doneRange c).1.offs) % 2 ^ T = 0 ∧
      (∀ B S, (∀ i, byteAt B S i < 256) → ∀ δ, δ < 2 ^ T →
        codeVal B S (doneRange c).1.offs = bytesVal ((doneRange c).1.buf.take (doneRange c).1.offs) + δ →
        Contains B S c) := by
  obtain ⟨l0, hl, h9, hil, hil2, hv, hmod, htop, hz⟩ := encDoneEnd_spec c inv
  obtain ⟨hE32, hcarry⟩ := encDoneEnd_carry c inv
  have wf := inv.wf
  have hext : c.ext + 2 < 4294967295 := by have := inv.ext_bound; omega
  unfold doneRange at herr ⊢
  rw [hl] at herr ⊢
  generalize (encDoneEnd c).2 = E at *
  clear hn inv
  rcases (show l0 = 0 ∨ (1 ≤ l0 ∧ l0 ≤ 8) ∨ l0 = 9 by omega) with h0 | h1 | h2
  · -- no bit to output
    subst h0
    have hE0 := hz rfl
    subst hE0
    rw [encDoneOut_nonpos c 0 _ (by omega)] at herr ⊢
    simp only at herr ⊢
    obtain ⟨f0, f1, f2, f3, f4, f5⟩ := doneFlush_spec c rfl wf (by omega) herr
    have sr := sameRaw_flush c
    generalize (if c.rem ≥ 0 ∨ c.ext > 0 then carryOut c 0 else c) = c2 at *
    refine ⟨0, 0, by simp, by omega, ⟨hil, hil2⟩, by omega, f0, f3, by omega, sr, by rw [f1]; exact f4,
      by rw [Nat.pow_zero, Nat.mod_one], ?_⟩
    intro B S hB δ hδ hcv
    rw [f1, f2] at hcv
    exact contains_of_prefix hB c (n := 0) (k := 4) (H := 2147483648) rfl (by decide) hδ (Nat.add_zero _).symm hv htop hcv
  · -- one byte, of which the low `8 - l0` bits are free
    have hpos : (l0 : Int) > 0 := by omega
    rw [encDoneOut_pos c E _ hpos, encDoneOut_nonpos _ _ _ (by omega)] at herr ⊢
    simp only at herr ⊢
    have herr1 := doneFlush_error _ herr
    obtain ⟨s0, s1, s2, s3, s4, s5, -, s7⟩ := doneOut_step c E rfl wf hE32 hcarry (by omega) herr1
    obtain ⟨f0, f1, f2, f3, f4, f5⟩ := doneFlush_spec (carryOut c (E / 8388608)) rfl s1 (by omega) herr
    have sr := (sameRaw_flush (carryOut c (E / 8388608))).trans (sameRaw_carryOut c (E / 8388608))
    generalize carryOut c (E / 8388608) = c1 at *
    generalize (if c1.rem ≥ 0 ∨ c1.ext > 0 then carryOut c1 0 else c1) = c2 at *
    have hpow : 2 ^ (31 - l0) = 8388608 * 2 ^ (8 - l0) := by
      rw [show 31 - l0 = 23 + (8 - l0) by omega, Nat.pow_add]
    rw [hpow] at hmod htop
    obtain ⟨a1, a3⟩ := done_byte_arith (Nat.pow_dvd_pow 2 (show 8 - l0 ≤ 8 by omega)) hmod s2
    refine ⟨l0, 8 - l0, by omega, by omega, ⟨hil, hil2⟩, by rw [f1, s3]; omega, s0, f3, by omega, sr,
      by rw [f1]; exact drop_trans f4 s4 f5, by rw [f1, f2]; exact a1, ?_⟩
    intro B S hB δ hδ hcv
    rw [f1, f2, s3] at hcv
    exact contains_of_prefix hB c (n := 1) (k := 3) rfl (by decide) hδ a3 hv htop hcv
  · -- two bytes, of which the low 7 bits are free
    subst h2
    rw [encDoneOut_pos c E _ (by omega), encDoneOut_pos _ _ _ (by omega), encDoneOut_nonpos _ _ _ (by omega)]
      at herr ⊢
    simp only at herr ⊢
    have herr2 := doneFlush_error _ herr
    have herr1 : (carryOut c (E / 8388608)).error = 0 := zero_of_sticky (carryOut_error_mono _ _) herr2
    obtain ⟨s0, s1, s2, s3, s4, s5, -, s7⟩ := doneOut_step c E rfl wf hE32 hcarry (by omega) herr1
    obtain ⟨t0, t1, t2, t3, t4, t5, -, t7⟩ := doneOut_step (carryOut c (E / 8388608)) (E * 256 % 2147483648) rfl s1
      (by omega) (fun h => by omega) (by omega) herr2
    obtain ⟨f0, f1, f2, f3, f4, f5⟩ := doneFlush_spec _ rfl t1 (by omega) herr
    have sr := ((sameRaw_flush (carryOut (carryOut c (E / 8388608)) (E * 256 % 2147483648 / 8388608))).trans
      (sameRaw_carryOut _ _)).trans (sameRaw_carryOut c (E / 8388608))
    generalize carryOut c (E / 8388608) = c1 at *
    generalize carryOut c1 (E * 256 % 2147483648 / 8388608) = c1' at *
    generalize (if c1'.rem ≥ 0 ∨ c1'.ext > 0 then carryOut c1' 0 else c1') = c2 at *
    simp only [Nat.reduceSub, Nat.reducePow] at hmod htop
    obtain ⟨a1, hX⟩ := done_two_bytes_arith hmod s2 t2
    refine ⟨9, 7, by omega, by omega, ⟨hil, hil2⟩, by rw [f1, t3, s3]; omega, s0, f3, by omega, sr,
      by rw [f1]; exact drop_trans f4 (drop_trans t4 s4 t5) f5, by rw [f1, f2]; exact a1, ?_⟩
    intro B S hB δ hδ hcv
    rw [f1, f2, t3, s3, Nat.add_assoc] at hcv
    exact contains_of_prefix hB c (n := 2) (k := 2) (W := 128) rfl (by decide) hδ hX hv htop hcv

/-- The raw-bit half of `ec_enc_done` (entenc.c:283-309). -/
def doneRaw (c2 : Enc) (l1 : Int) : Enc :=
  encDoneTail (encDoneFlush c2 c2.endWindow c2.nendBits).1 l1
    (encDoneFlush c2 c2.endWindow c2.nendBits).2.1 (encDoneFlush c2 c2.endWindow c2.nendBits).2.2

theorem encDone_eq' (c : Enc) : encDone c = doneRaw (doneRange c).1 (doneRange c).2 := rfl

theorem bytesOk_clearMiddle {c : Enc} (h : BytesOk c.buf) : BytesOk (clearMiddle c).buf := by
  intro b hb
  unfold clearMiddle at hb
  simp only [List.mem_append, List.mem_replicate] at hb
  rcases hb with (h1 | h1) | h1
  · exact h b (List.mem_of_mem_take h1)
  · omega
  · exact h b (List.mem_of_mem_drop h1)

theorem mod_pow_of_le {x T u : Nat} (hx : x % 2 ^ T = 0) (hu : u ≤ T) : x % 2 ^ u = 0 := by
  have h1 : 2 ^ u ∣ 2 ^ T := Nat.pow_dvd_pow 2 hu
  exact Nat.mod_eq_zero_of_dvd (Nat.dvd_trans h1 (Nat.dvd_of_mod_eq_zero hx))

theorem low_byte_mod {A x T : Nat} (hT : T ≤ 7) (h : (A * 256 + x) % 2 ^ T = 0) : x % 2 ^ T = 0 := by
  have h256 : 2 ^ T ∣ A * 256 := Nat.dvd_mul_left_of_dvd (Nat.pow_dvd_pow 2 (show T ≤ 8 by omega)) A
  exact Nat.mod_eq_zero_of_dvd ((Nat.dvd_add_right h256).mp (Nat.dvd_of_mod_eq_zero h))

theorem encDoneFlush_bytesOk (c : Enc) (w u : Nat) (h : BytesOk c.buf) : BytesOk (encDoneFlush c w u).1.buf :=
  encDoneFlush_pres (fun c => BytesOk c.buf) writeByteAtEnd_bytesOk c w u h

theorem clearMiddle_length (c : Enc) (ho : c.offs + c.endOffs ≤ c.storage) (hs : c.storage ≤ c.buf.length) :
    (clearMiddle c).buf.length = c.buf.length := by
  unfold clearMiddle
  simp only [List.length_append, List.length_take, List.length_replicate, List.length_drop]
  omega

/-- The shape of a successful tail of `ec_enc_done`: the gap is cleared, and left-over raw bits are
    OR-ed into the byte in front of the raw bytes. -/
theorem encDoneTail_ok (c3 : Enc) (l : Int) (w u : Nat) (h : (encDoneTail c3 l w u).error = 0) :
    c3.error = 0 ∧ (encDoneTail c3 l w u).storage = c3.storage ∧
    ((u = 0 ∧ (encDoneTail c3 l w u).buf = (clearMiddle c3).buf) ∨
     (0 < u ∧ c3.endOffs < c3.storage ∧ ¬ (c3.offs + c3.endOffs ≥ c3.storage ∧ (-l).toNat < u) ∧
      (encDoneTail c3 l w u).buf = (clearMiddle c3).buf.set (c3.storage - c3.endOffs - 1)
        ((clearMiddle c3).buf.getD (c3.storage - c3.endOffs - 1) 0 ||| (w % 256)))) := by
  unfold encDoneTail at h ⊢
  by_cases he : c3.error = 0
  · rw [if_pos he] at h ⊢
    simp only at h ⊢
    by_cases hu : u > 0
    · rw [if_pos hu] at h ⊢
      have hcs : (clearMiddle c3).storage = c3.storage := rfl
      have hco : (clearMiddle c3).offs = c3.offs := rfl
      have hceo : (clearMiddle c3).endOffs = c3.endOffs := rfl
      rw [hcs, hco, hceo] at h ⊢
      by_cases h1 : c3.endOffs ≥ c3.storage
      · rw [if_pos h1] at h; simp at h
      · rw [if_neg h1] at h ⊢
        by_cases h2 : c3.offs + c3.endOffs ≥ c3.storage ∧ (-l).toNat < u
        · rw [if_pos h2] at h; simp at h
        · rw [if_neg h2]
          exact ⟨he, rfl, Or.inr ⟨hu, by omega, h2, rfl⟩⟩
    · rw [if_neg hu]
      exact ⟨he, rfl, Or.inl ⟨by omega, rfl⟩⟩
  · rw [if_neg he] at h; exact absurd h he

/-- The tail of `ec_enc_done` fails only if the left-over raw bits have no byte to go to, or would
    overwrite range-coder bits. -/
theorem encDoneTail_noerr (c : Enc) (l : Int) (w u : Nat) (he : c.error = 0)
    (h : 0 < u → c.endOffs < c.storage ∧ ¬ (c.offs + c.endOffs ≥ c.storage ∧ (-l).toNat < u)) :
    (encDoneTail c l w u).error = 0 := by
  unfold encDoneTail
  rw [if_pos he]
  have hce : (clearMiddle c).error = 0 := he
  split
  · rename_i hu
    obtain ⟨h1, h2⟩ := h hu
    show (if c.endOffs ≥ c.storage then _ else _ : Enc).error = 0
    rw [if_neg (by omega)]
    show (if c.offs + c.endOffs ≥ c.storage ∧ (-l).toNat < u then _ else _ : Enc).error = 0
    rw [if_neg h2]
    exact hce
  · exact hce

/-- The last step of `ec_enc_done` on plain lists: `CM` is the buffer `B3` with the gap between the
    `offs` range bytes and the `eo` raw bytes zeroed, `F` is `CM` with the `u` left-over raw bits `w`
    OR-ed into the byte in front of the raw bytes.  That byte is either in the zeroed gap or it is
    the last range byte, whose low `T ≥ u` bits are zero: OR is addition, the raw bits end up on top of
    the tail value and at most `δ < 2^T` is added to the value of the range bytes. -/
theorem merge_partial {CM B2 B3 F : List Nat} {S offs eo u w T : Nat}
    (hcm : ∀ i, CM.getD i 0 = if offs ≤ i ∧ i < S - eo then 0 else B3.getD i 0)
    (h7 : ∀ i, i < S - eo → B3.getD i 0 = B2.getD i 0)
    (hcmb : BytesOk CM) (hSl : S ≤ B2.length) (hcml : CM.length = B2.length) (ho : offs + eo ≤ S)
    (hu : u < 8) (hw : w < 2 ^ u) (hT : T ≤ 7) (hz : bytesVal (B2.take offs) % 2 ^ T = 0)
    (hF : (u = 0 ∧ F = CM) ∨ (0 < u ∧ eo < S ∧ ¬ (offs + eo ≥ S ∧ T < u) ∧
      F = CM.set (S - eo - 1) (CM.getD (S - eo - 1) 0 ||| (w % 256)))) :
    F.length = B2.length ∧ BytesOk F ∧
    (∃ δ, δ < 2 ^ T ∧ codeVal F S offs = bytesVal (B2.take offs) + δ) ∧
    tailVal F S S % (2 ^ u * 256 ^ eo) = tailVal B3 S eo + w * 256 ^ eo := by
  have hcv2 : ∀ n, n ≤ offs → codeVal B2 S n = bytesVal (B2.take n) := fun n hn =>
    codeVal_eq_bytesVal B2 S n (by omega) (by omega)
  rcases hF with ⟨hu0, rfl⟩ | ⟨hupos, b1, b2, rfl⟩
  · -- no partial byte
    have hw0 : w = 0 := by rw [hu0] at hw; simpa using hw
    refine ⟨hcml, hcmb, ⟨0, Nat.pow_pos (by decide), ?_⟩, ?_⟩
    · rw [Nat.add_zero, ← hcv2 _ (Nat.le_refl _)]
      apply codeVal_congr
      intro i hi
      unfold byteAt
      rw [if_pos (by omega), if_pos (by omega), hcm i, if_neg (by omega)]
      exact h7 i (by omega)
    · rw [hu0, hw0, Nat.pow_zero, Nat.one_mul, Nat.zero_mul, Nat.add_zero]
      have hS : eo + (S - eo) = S := by omega
      have hlow := tailVal_low (fun j => endByte_lt hcmb S j) eo (S - eo)
      rw [hS] at hlow
      rw [hlow]
      apply tailVal_congr
      intro j hj
      unfold endByte
      rw [if_pos (by omega), if_pos (by omega), hcm, if_neg (by omega)]
  · -- a partial byte is merged into byte `i`
    rw [show w % 256 = w by
      have : 2 ^ u ≤ 2 ^ 7 := Nat.pow_le_pow_right (by decide) (by omega)
      omega]
    generalize hi : S - eo - 1 = i at *
    generalize hx : CM.getD i 0 = x at *
    have hx256 : x < 256 := by rw [← hx]; exact getD_lt_of_bytesOk hcmb i
    have hxT : x % 2 ^ u = 0 ∧ (offs + eo ≥ S → x % 2 ^ T = 0 ∧ u ≤ T) := by
      by_cases hsh : offs + eo ≥ S
      · have hiT : i + 1 = offs := by omega
        have hxv : x = B2.getD i 0 := by
          rw [← hx, hcm i, if_neg (by omega)]; exact h7 i (by omega)
        have hcv := hcv2 (i + 1) (by omega)
        rw [codeVal, hiT] at hcv
        unfold byteAt at hcv
        rw [if_pos (by omega), ← hxv] at hcv
        rw [← hcv] at hz
        have hxT := low_byte_mod hT hz
        have huT : u ≤ T := by omega
        exact ⟨mod_pow_of_le hxT huT, fun _ => ⟨hxT, huT⟩⟩
      · have hx0 : x = 0 := by rw [← hx, hcm i, if_pos ⟨by omega, by omega⟩]
        exact ⟨by rw [hx0]; simp, fun h => absurd h hsh⟩
    have hor : x ||| w = x + w := or_add_of_mod x w u hxT.1 hw
    rw [hor]
    have hset : ∀ j, (CM.set i (x + w)).getD j 0 = if j = i then x + w else CM.getD j 0 := by
      intro j
      rw [getD_set]
      by_cases hji : i = j
      · subst hji; rw [if_pos ⟨rfl, by omega⟩, if_pos rfl]
      · rw [if_neg (fun h => hji h.1), if_neg (fun h => hji h.symm)]
    have hxw : x + w < 256 := by
      rw [← hor]
      exact Nat.or_lt_two_pow (n := 8) hx256 (Nat.lt_of_lt_of_le hw (Nat.pow_le_pow_right (by decide) (show u ≤ 8 by omega)))
    have hbo : BytesOk (CM.set i (x + w)) := bytesOk_set hcmb _ _ hxw
    -- bytes in front of `i` are the range bytes of `B2`
    have hfront : ∀ n, n ≤ offs → n ≤ i → codeVal (CM.set i (x + w)) S n = codeVal B2 S n := by
      intro n hn hni
      apply codeVal_congr
      intro j hj
      unfold byteAt
      rw [if_pos (by omega), if_pos (by omega), hset, if_neg (by omega), hcm j, if_neg (by omega)]
      exact h7 j (by omega)
    refine ⟨by rw [List.length_set]; exact hcml, hbo, ?_, ?_⟩
    · by_cases hsh : offs + eo ≥ S
      · obtain ⟨hxT', huT⟩ := hxT.2 hsh
        have hiT : i + 1 = offs := by omega
        refine ⟨w, Nat.lt_of_lt_of_le hw (Nat.pow_le_pow_right (by decide) huT), ?_⟩
        rw [← hcv2 _ (Nat.le_refl _), ← hiT, codeVal, codeVal, hfront i (by omega) (Nat.le_refl _)]
        have e2 : byteAt (CM.set i (x + w)) S i = x + w := by
          unfold byteAt; rw [if_pos (by omega), hset, if_pos rfl]
        have e3 : byteAt B2 S i = x := by
          unfold byteAt; rw [if_pos (by omega), ← hx, hcm i, if_neg (by omega)]
          exact (h7 i (by omega)).symm
        rw [e2, e3]; omega
      · exact ⟨0, Nat.pow_pos (by decide), by
          rw [Nat.add_zero, ← hcv2 _ (Nat.le_refl _)]; exact hfront offs (Nat.le_refl _) (by omega)⟩
    · have hS : eo + 1 + (S - eo - 1) = S := by omega
      have hlow := tailVal_succ_mod (fun j => endByte_lt hbo S j) eo (S - eo - 1) u (by omega)
      rw [hS] at hlow
      rw [hlow]
      have e1 : tailVal (CM.set i (x + w)) S eo = tailVal B3 S eo := by
        apply tailVal_congr
        intro j hj
        unfold endByte
        rw [if_pos (by omega), if_pos (by omega), hset, if_neg (by omega), hcm, if_neg (by omega)]
      have e2 : endByte (CM.set i (x + w)) S eo = x + w := by
        unfold endByte
        rw [if_pos (by omega), hset, if_pos (by omega)]
      rw [e1, e2, Nat.add_mod, hxT.1, Nat.zero_add, Nat.mod_mod, Nat.mod_eq_of_lt hw]

/-- Invariant F for the whole buffer: after a successful `ec_enc_done` the committed range bytes
    are in place (up to bits OR-ed into the `T` unused low bits of the last one) and the tail of
    the buffer holds exactly the raw bits. -/
theorem doneRaw_spec (c2 : Enc) (T : Nat) (hT : T ≤ 7) (ho : c2.offs + c2.endOffs ≤ c2.storage)
    (hs : c2.storage ≤ c2.buf.length) (ri : RawInv c2) (hb : BytesOk c2.buf)
    (hz : bytesVal (c2.buf.take c2.offs) % 2 ^ T = 0)
    (herr : (doneRaw c2 (-(T : Int))).error = 0) :
    c2.error = 0 ∧ (doneRaw c2 (-(T : Int))).storage = c2.storage ∧
    (doneRaw c2 (-(T : Int))).buf.length = c2.buf.length ∧ BytesOk (doneRaw c2 (-(T : Int))).buf ∧
    (∃ δ, δ < 2 ^ T ∧
      codeVal (doneRaw c2 (-(T : Int))).buf c2.storage c2.offs = bytesVal (c2.buf.take c2.offs) + δ) ∧
    tailVal (doneRaw c2 (-(T : Int))).buf c2.storage c2.storage % 2 ^ rawN c2 = rawQ c2 c2.endWindow := by
  unfold doneRaw at herr ⊢
  have hb3 := encDoneFlush_bytesOk c2 c2.endWindow c2.nendBits hb
  obtain ⟨B3, heq, k0, k5, k6, k4, k7⟩ :=
    encDoneFlush_spec c2 c2.endWindow c2.nendBits ho hs (encDoneTail_ok _ _ _ _ herr).1
  rw [heq] at herr hb3 ⊢
  simp only at herr hb3 ⊢
  have hw3 := window_rest_lt ri.win_lt
  have hrawN : rawN c2 = c2.nendBits % 8 + 8 * (c2.endOffs + c2.nendBits / 8) := by unfold rawN; omega
  rw [hrawN, two_pow_8mul, ← k4]
  generalize c2.endOffs + c2.nendBits / 8 = eo at *
  generalize c2.endWindow / 256 ^ (c2.nendBits / 8) = w3 at *
  have hu3 : c2.nendBits % 8 < 8 := Nat.mod_lt _ (by decide)
  generalize c2.nendBits % 8 = u3 at *
  obtain ⟨-, hsto, hF⟩ := encDoneTail_ok _ _ _ _ herr
  rw [show (-(-(T : Int))).toNat = T by omega] at hF
  have hs3 : c2.storage ≤ B3.length := by rw [k6]; exact hs
  obtain ⟨m1, m2, m3, m4⟩ := merge_partial (clearMiddle_getD { c2 with buf := B3, endOffs := eo } k5 hs3) k7
    (bytesOk_clearMiddle hb3) hs ((clearMiddle_length _ k5 hs3).trans k6) k5 hu3 hw3 hT hz hF
  exact ⟨k0, hsto, m1, m2, m3, m4⟩

/-- The raw bits written so far are the low bits of the tail of the stream `(B, S)`. -/
def RawC (B : List Nat) (S : Nat) (c : Enc) : Prop := tailVal B S S % 2 ^ rawN c = rawQ c c.endWindow

theorem doneRange_pres (P : Enc → Prop) (hw : ∀ c v, P c → P (writeByte c v))
    (he : ∀ (c : Enc) n, P c → P { c with ext := n }) (hr : ∀ (c : Enc) r, P c → P { c with rem := r })
    (c : Enc) (h : P c) : P (doneRange c).1 := by
  have h1 := encDoneOut_pres P hw he hr c (encDoneEnd c).2 (encDoneEnd c).1 h
  unfold doneRange
  simp only
  split
  · exact carryOut_pres P hw he hr _ _ h1
  · exact h1

theorem encDoneTail_pres (P : Enc → Prop) (hc : ∀ c, P c → P (clearMiddle c))
    (hs : ∀ (c : Enc) i v, i < c.storage → P c → P { c with buf := c.buf.set i v })
    (hx : ∀ c : Enc, P c → P { c with error := -1 }) (c : Enc) (l : Int) (w u : Nat) (h : P c) :
    P (encDoneTail c l w u) := by
  have h1 := hc c h
  unfold encDoneTail
  split
  · simp only
    split
    · split
      · exact hx _ h1
      · have hi : (clearMiddle c).storage - (clearMiddle c).endOffs - 1 < (clearMiddle c).storage := by omega
        split
        · exact hx _ (hs _ _ _ hi h1)
        · exact hs _ _ _ hi h1
    · exact h1
  · exact h

theorem encDone_pres (P : Enc → Prop) (hw : ∀ c v, P c → P (writeByte c v))
    (he : ∀ (c : Enc) n, P c → P { c with ext := n }) (hr : ∀ (c : Enc) r, P c → P { c with rem := r })
    (hwe : ∀ c v, P c → P (writeByteAtEnd c v)) (hc : ∀ c, P c → P (clearMiddle c))
    (hs : ∀ (c : Enc) i v, i < c.storage → P c → P { c with buf := c.buf.set i v })
    (hx : ∀ c : Enc, P c → P { c with error := -1 }) (c : Enc) (h : P c) : P (encDone c) :=
  encDoneTail_pres P hc hs hx _ _ _ _ (encDoneFlush_pres P hwe _ _ _ (doneRange_pres P hw he hr c h))

/-- Without raw bits the raw-bit half of the invariant holds for every stream. -/
theorem rawC_of_noRaw (B : List Nat) (S : Nat) (c : Enc) (ri : RawInv c) (h0 : c.endOffs = 0) (h1 : c.nendBits = 0) :
    RawC B S c := by
  have hw := ri.win_lt
  rw [h1] at hw
  unfold RawC rawN rawQ
  rw [h0, h1]
  simp only [Nat.mul_zero, Nat.add_zero, Nat.pow_zero, Nat.mod_one, tailVal, Nat.mul_one, Nat.zero_add]
  omega

theorem doneRange_bytesOk (c : Enc) (h : BytesOk c.buf) : BytesOk (doneRange c).1.buf :=
  doneRange_pres (fun c => BytesOk c.buf) writeByte_bytesOk (fun _ _ h => h) (fun _ _ h => h) c h

theorem doneRaw_error_mono (c2 : Enc) (l : Int) (h : c2.error ≠ 0) : (doneRaw c2 l).error ≠ 0 := by
  unfold doneRaw encDoneTail
  have := encDoneFlush_error_mono c2 c2.endWindow c2.nendBits h
  rw [if_neg this]; exact this

/-- Invariant F: after a successful `ec_enc_done` the finished buffer denotes a code value inside
    the final interval, and its tail holds exactly the raw bits. -/
theorem encDone_spec (c : Enc) (inv : EncInv c) (ri : RawInv c) (hb : BytesOk c.buf)
    (hn : c.nbitsTotal < 4294967296) (herr : (encDone c).error = 0) :
    c.error = 0 ∧ (encDone c).storage = c.storage ∧ (encDone c).buf.length = c.buf.length ∧
    BytesOk (encDone c).buf ∧ Contains (encDone c).buf c.storage c ∧ RawC (encDone c).buf c.storage c := by
  rw [encDone_eq'] at herr ⊢
  have herr2 : (doneRange c).1.error = 0 := zero_of_sticky (doneRaw_error_mono _ _) herr
  obtain ⟨l0, T, hl1, hT, hil, hbits, e0, wf2, ho, sr, hdrop, hz, hcont⟩ := doneRange_spec c inv hn herr2
  rw [hl1] at herr ⊢
  have hb2 := doneRange_bytesOk c hb
  generalize (doneRange c).1 = c2 at *
  obtain ⟨s1, s2, s3, s4, s5, s6⟩ := sr
  obtain ⟨_, d1, d2, d3, ⟨δ, hδ, hcv⟩, d5⟩ := doneRaw_spec c2 T hT wf2.offs_le wf2.storage_le
    ⟨by rw [s3, s4]; exact ri.win_lt, by rw [s4]; exact ri.nend_le⟩ hb2 hz herr
  rw [s1] at d1 hcv d5
  refine ⟨e0, d1, by rw [d2, s5], d3, ?_, ?_⟩
  · exact hcont _ _ (fun i => byteAt_lt_bytesOk d3 _ i) δ hδ hcv
  · unfold RawC
    obtain ⟨e1, e2⟩ := rawQ_congr s1 s2 s3 s4 (by have := wf2.offs_le; rw [s1, s2] at this; exact this) hdrop
    rw [← e1, ← e2]; exact d5

/-- A successful `ec_enc_done` needs a non-empty buffer as soon as there is a digit or the interval
    is no longer the whole code space. -/
theorem encDone_storage_pos (c : Enc) (inv : EncInv c) (hn : c.nbitsTotal < 4294967296)
    (herr : (encDone c).error = 0) (h : 1 ≤ encM c ∨ c.rng < 2147483648) : 0 < c.storage := by
  rw [encDone_eq'] at herr
  have herr2 : (doneRange c).1.error = 0 := zero_of_sticky (doneRaw_error_mono _ _) herr
  obtain ⟨l0, T, _, _, hil, hbits, _, wf2, _, sr, _, _, _⟩ := doneRange_spec c inv hn herr2
  have h1 := wf2.offs_le
  rw [sr.1] at h1
  have hl : 1 ≤ encM c ∨ 1 ≤ l0 := by
    rcases h with h | h
    · exact Or.inl h
    · right
      have : ilog c.rng ≤ 31 := by rw [ilog_lt_iff]; exact h
      omega
  omega

theorem encDone_error_mono (c : Enc) (h : c.error ≠ 0) : (encDone c).error ≠ 0 :=
  encDone_pres (·.error ≠ 0) (fun _ _ h => writeByte_error_mono h) (fun _ _ h => h) (fun _ _ h => h)
    (fun _ _ h => writeByteAtEnd_error_mono h) (fun _ h => h) (fun _ _ _ _ h => h)
    (fun _ _ => Int.neg_ne_zero.2 Int.one_ne_zero) c h

/-- `ec_enc_done` leaves `rng` and `nbits_total`, hence `ec_tell`, alone. -/
theorem encDone_rn (c : Enc) : (encDone c).rng = c.rng ∧ (encDone c).nbitsTotal = c.nbitsTotal :=
  encDone_pres (fun x => x.rng = c.rng ∧ x.nbitsTotal = c.nbitsTotal) (fun _ _ h => by simpa using h)
    (fun _ _ h => h) (fun _ _ h => h) (fun _ _ h => by simpa using h) (fun _ h => h) (fun _ _ _ _ h => h)
    (fun _ h => h) c ⟨rfl, rfl⟩

theorem encDone_rng (c : Enc) : (encDone c).rng = c.rng := (encDone_rn c).1

theorem encDone_nbitsTotal (c : Enc) : (encDone c).nbitsTotal = c.nbitsTotal := (encDone_rn c).2

end Opus.RangeCoder
