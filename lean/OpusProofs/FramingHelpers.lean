import OpusProofs.FramingSound
/-
  OpusProofs.FramingHelpers — what the TOC / packet helpers of src/opus_decoder.c return, stated against the
  packet the parser accepts (both framings): frame count, sample count and the 120 ms rule; `lbrrSilkFrames` for the LBRR results of OpusProps.C06.
-/
namespace Opus.FramingProofs
open Opus Opus.Framing Opus.FramingSpec

/-- A serialisation starts with the TOC byte, and a code-3 one goes on with the count byte. -/
theorem serialize_shape (sd : Bool) (p : Packet) :
    serialize sd p = p.toc :: ((if p.code = 3 then [countByte p] ++ padHdrOf p else []) ++
      (lenFields sd p).flatMap encLen ++ p.frames.flatten ++ padBytes p) := by
  simp [serialize, header, padHdrOf]
  by_cases hc3 : p.code = 3
  · simp [hc3]; cases p.pad <;> rfl
  · simp [hc3]

theorem serialize_headD (sd : Bool) (p : Packet) : (serialize sd p).headD 0 = p.toc := by
  rw [serialize_shape]; rfl

theorem serialize_append_headD (sd : Bool) (p : Packet) (rest : Bytes) : (serialize sd p ++ rest).headD 0 = p.toc := by
  rw [serialize_shape]; rfl

/-- `opus_packet_get_nb_frames` on a serialised valid packet, in either framing, whatever follows: the count byte of a
    code-3 packet sits right after the TOC byte in the self-delimited framing too. -/
theorem getNbFrames_serialize_append (sd : Bool) (p : Packet) (hv : Valid p) (rest : Bytes) :
    getNbFrames (serialize sd p ++ rest) = .ok p.frames.length := by
  rw [serialize_shape, List.cons_append]
  unfold getNbFrames
  rcases p.code_cases with hc | hc | hc | hc
  · have : p.toc % 4 = 0 := hc
    simp only [this, ↓reduceIte, (hv.code0 hc).1]
  · have : p.toc % 4 = 1 := hc
    simp only [this, Nat.succ_ne_self, ↓reduceIte, ne_eq, Nat.reduceEqDiff, not_false_eq_true, (hv.code1 hc).1]
  · have : p.toc % 4 = 2 := hc
    simp only [this, reduceCtorEq, ↓reduceIte, ne_eq, Nat.reduceEqDiff, not_false_eq_true, (hv.code2 hc).1]
  · have h3 : p.toc % 4 = 3 := hc
    have hn := hv.count_bounds
    simp only [h3, reduceCtorEq, ↓reduceIte, ne_eq, not_true_eq_false, hc, List.cons_append, List.nil_append,
      List.append_assoc, countByte_mod p (by omega)]

/-- The frame-count helper reads the same count the parser reports, in BOTH framings. -/
theorem getNbFrames_agrees_any (sd : Bool) (bs : Bytes) (hb : BytesOk bs) (r : Parsed)
    (h : parseImpl sd bs = .ok r) : getNbFrames bs = .ok r.count := by
  obtain ⟨p, rest, hv, rfl, _, rfl⟩ := parse_sound sd bs hb r h
  exact getNbFrames_serialize_append sd p hv rest

/-- An accepted byte string starts with the TOC byte the parser reports. -/
theorem parse_toc (sd : Bool) (bs : Bytes) (hb : BytesOk bs) (r : Parsed) (h : parseImpl sd bs = .ok r) :
    ∃ tl, bs = r.toc :: tl := by
  obtain ⟨p, rest, _, rfl, _, rfl⟩ := parse_sound sd bs hb r h
  exact ⟨_, rfl⟩

/-- Everything reported lies inside the input: between 1 and 48 frames of at most 1275 bytes each, frames and
    padding end at the reported consumed length, which does not exceed the input. -/
theorem parse_offsets (sd : Bool) (bs : Bytes) (hb : BytesOk bs) (r : Parsed) (h : parseImpl sd bs = .ok r) :
    r.count = r.sizes.length ∧ 1 ≤ r.count ∧ r.count ≤ 48 ∧ (∀ s ∈ r.sizes, s ≤ 1275) ∧
    r.padOffset + r.padLen = r.packetOffset ∧ r.packetOffset ≤ bs.length ∧
    (sd = false → r.packetOffset = bs.length) := by
  obtain ⟨p, rest, hv, hbs, hr, hview⟩ := parse_sound sd bs hb r h
  subst hview
  have hF : sumN p.lens = p.frames.flatten.length := sumN_map_length _
  have hlen : (serialize sd p).length =
      (header sd p).length + p.frames.flatten.length + (padBytes p).length := by
    simp only [serialize, List.length_append]
  have hcnt := hv.count_bounds
  refine ⟨by simp [view, Packet.lens], hcnt.1, hcnt.2.1, ?_,
    by simp only [view, Parsed.padOffset]; rw [hF, hlen],
    by simp only [view]; rw [hbs]; simp,
    fun hsd => by simp only [view]; rw [hbs, hr hsd]; simp⟩
  intro s hs
  obtain ⟨f, hf, hfl⟩ := List.mem_map.mp hs
  rw [← hfl]; exact hv.frame_max f hf

/-- The five API rates are multiples of 400 Hz that divide 48 kHz. -/
theorem spf_rates : ∀ toc ∈ List.range 256, ∀ fs ∈ [8000, 12000, 16000, 24000, 48000],
    samplesPerFrame toc fs * (48000 / fs) = frameDur48 toc ∧ frameDur48 toc ≤ 2880 := by
  intro toc h fs hfs
  have ht := List.mem_range.mp h
  have hq : fs = 400 * (fs / 400) ∧ fs / 400 * (48000 / fs) = 120 := by
    simp only [List.mem_cons, List.not_mem_nil, or_false] at hfs
    rcases hfs with rfl | rfl | rfl | rfl | rfl <;> decide
  refine ⟨?_, (toc_table toc ht).2.2.1⟩
  rw [hq.1, spf_units_mul _ _ ht, ← hq.1, Nat.mul_assoc, hq.2, frameDur48_units toc ht]

/-- For a TOC byte, a frame count `c` and one of the five API rates: `opus_packet_get_nb_samples` fails with
    OPUS_INVALID_PACKET exactly when the packet would hold more than 120 ms (5760 samples at 48 kHz), and
    otherwise returns `c · samples_per_frame`. -/
theorem getNbSamples_cases (toc : Nat) (rest : Bytes) (htoc : toc < 256) (c : Nat) (fs : Nat)
    (hfs : fs ∈ [8000, 12000, 16000, 24000, 48000]) (hc : getNbFrames (toc :: rest) = .ok c) :
    (getNbSamples (toc :: rest) fs = .err .invalidPacket ↔ 5760 < c * frameDur48 toc) ∧
    (c * frameDur48 toc ≤ 5760 → getNbSamples (toc :: rest) fs = .ok (c * samplesPerFrame toc fs)) := by
  have hr := (spf_rates toc (List.mem_range.mpr htoc) fs hfs).1
  have hm : c * samplesPerFrame toc fs * (48000 / fs) = c * frameDur48 toc := by rw [Nat.mul_assoc, hr]
  unfold getNbSamples
  rw [hc]
  show ((if c * samplesPerFrame toc fs * 25 > fs * 3 then (Res.err Err.invalidPacket : Res Nat)
      else Res.ok (c * samplesPerFrame toc fs)) = Res.err Err.invalidPacket ↔ 5760 < c * frameDur48 toc) ∧
    (c * frameDur48 toc ≤ 5760 → (if c * samplesPerFrame toc fs * 25 > fs * 3 then (Res.err Err.invalidPacket : Res Nat)
      else Res.ok (c * samplesPerFrame toc fs)) = Res.ok (c * samplesPerFrame toc fs))
  simp only [List.mem_cons, List.not_mem_nil, or_false] at hfs
  rcases hfs with rfl | rfl | rfl | rfl | rfl <;>
  · refine ⟨⟨fun h => ?_, fun h => ?_⟩, fun h => ?_⟩
    · split at h
      · omega
      · cases h
    · rw [if_pos (by omega)]
    · rw [if_neg (by omega)]

/-- Number of 20 ms SILK frames in one Opus frame, as `opus_packet_has_lbrr` computes it from the TOC
    (opus_decoder.c:1230-1232): 1 for 10 / 20 ms, 2 for 40 ms, 3 for 60 ms. -/
def lbrrSilkFrames (toc : Nat) : Nat := if frameDur48 toc > 960 then frameDur48 toc / 960 else 1

end Opus.FramingProofs
