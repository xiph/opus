import OpusProofs.CtlObjects
import OpusProofs.CtlFanOut
/-
  OpusProofs.CtlMs — multistream encoder and multistream / projection decoder ctl: a fanned-out
  setter is applied to every stream or to none; the multistream encoder init as one test, the create's
  verdicts read off it, and the invariant `MsInv` it establishes, which every request and every
  multistream encode call keeps (helper lemmas of property C11).
-/
namespace Opus.Ctl
open Opus Opus.EncDecide

/-- What the streams of a multistream encoder have in common: each satisfies `EncInv`, and
    `layout`: unless the counts say some stream is uncoupled (`nbCoupled < nbStreams`), every stream
    encoder has two channels — the one consequence of "coupled streams are created first" that the
    uniform legality of OPUS_SET_FORCE_CHANNELS(2) needs. -/
structure MsInv (s : MsEncSt) : Prop where
  streams : ∀ e ∈ s.streams, EncInv e
  layout : s.nbCoupled < s.nbStreams ∨ ∀ e ∈ s.streams, e.channels = 2

/-- `MsInv` passes to an object with the same counts each of whose streams satisfies `EncInv` and has the channel count
    of some stream of `s`. -/
theorem MsInv.of_streams {s s' : MsEncSt} (hi : MsInv s) (hc : s'.nbCoupled = s.nbCoupled) (hn : s'.nbStreams = s.nbStreams)
    (h : ∀ e' ∈ s'.streams, ∃ e ∈ s.streams, EncInv e' ∧ e'.channels = e.channels) : MsInv s' := by
  refine ⟨fun e' he' => ?_, ?_⟩
  · obtain ⟨_, _, hinv, _⟩ := h e' he'
    exact hinv
  · rw [hc, hn]
    refine hi.layout.imp id fun h2 e' he' => ?_
    obtain ⟨e, he, _, hch⟩ := h e' he'
    rw [hch]; exact h2 e he

theorem encCtl_set_code_zero (e : EncSt) (k : EncSetK) (v : Int) : (encCtl e (.set k v)).2.code = 0 ↔ EncLegal e k v := by
  by_cases h : EncLegal e k v
  · obtain ⟨s', _, h2⟩ := encCtl_set_ok e k v h
    rw [h2]; simp [Ret.ok, h]
  · rw [encCtl_set_reject e k v h]; simp [Ret.err, Err.code, h]

theorem encCtl_set_code (e : EncSt) (k : EncSetK) (v : Int) : (encCtl e (.set k v)).2.code ≠ 0 ↔ ¬ EncLegal e k v :=
  not_congr (encCtl_set_code_zero e k v)

/-- Streams agree on the legality of every fanned-out request other than OPUS_SET_APPLICATION
    (whose legality depends on `first`, hence the roll-back in the code). -/
theorem ms_legal_uniform {s : MsEncSt} (hi : MsInv s) (k : EncSetK) (v : Int) (hka : k ≠ .application)
    (hk : ¬ (k = .forceChannels ∧ v = 2 ∧ s.nbCoupled < s.nbStreams)) :
    ∀ e ∈ s.streams, ∀ e' ∈ s.streams, (EncLegal e k v ↔ EncLegal e' k v) := by
  intro e he e' he'
  have hc := (hi.streams e he).1.ch
  have hc' := (hi.streams e' he').1.ch
  cases k <;> simp only [EncLegal] <;> try rfl
  · exact absurd rfl hka
  · by_cases hv : v = 2
    · have : ¬ s.nbCoupled < s.nbStreams := fun h => hk ⟨rfl, hv, h⟩
      rcases hi.layout with h | h
      · exact absurd h this
      · rw [h e he, h e' he']
    · omega

/-- A stream that accepted a new application accepts the old one back and is then exactly what
    it was. -/
theorem app_rollback {e : EncSt} (hi : EncInv e) (v : Int) (h : (encCtl e (.set .application v)).2.code = 0) :
    (encCtl (encCtl e (.set .application v)).1 (.set .application e.application)).1 = e := by
  have hl := (encCtl_set_code_zero e .application v).mp h
  obtain ⟨s', h1, h2⟩ := encCtl_set_ok e .application v hl
  rw [h2, encSet_eq_store h1]
  -- the old application is one of the three, and once a frame has been coded `v` is the old application
  have hl2 : EncLegal (encStore e .application v) .application e.application := ⟨hi.1.app, fun hf => (hl.2 hf).symm⟩
  obtain ⟨s2, h3, h4⟩ := encCtl_set_ok _ .application e.application hl2
  rw [h4, encSet_eq_store h3]
  rfl

/-- The roll-back fan-out answers what the plain fan-out of the same request answers, and on OPUS_OK leaves the same
    streams: the two differ only in what they leave behind a refusal. -/
theorem fanOutApp_eq_fanOut (v : Int) (xs : List EncSt) :
    (fanOutApp v xs).2 = (fanOut (fun e => encCtl e (.set .application v)) xs).2 ∧
    ((fanOutApp v xs).2.code = 0 → (fanOutApp v xs).1 = (fanOut (fun e => encCtl e (.set .application v)) xs).1) := by
  induction xs with
  | nil => exact ⟨rfl, fun _ => rfl⟩
  | cons e es ih =>
    simp only [fanOutApp, fanOut]
    by_cases he : (encCtl e (.set .application v)).2.code ≠ 0
    · rw [if_pos he, if_pos he]; exact ⟨rfl, fun _ => rfl⟩
    · rw [if_neg he, if_neg he, ← ih.1]
      by_cases ht : (fanOutApp v es).2.code ≠ 0
      · rw [if_pos ht]; exact ⟨rfl, fun h => absurd h ht⟩
      · rw [if_neg ht]; exact ⟨rfl, fun _ => by rw [ih.2 (Decidable.not_not.mp ht)]⟩

/-- **A refused OPUS_SET_APPLICATION fan-out leaves every stream as it was**, whichever
    stream refuses (the roll-back, opus_multistream_encoder.c:1238-1258). -/
theorem fanOutApp_fail_unchanged (v : Int) (xs : List EncSt) (hi : ∀ e ∈ xs, EncInv e)
    (h : (fanOutApp v xs).2.code ≠ 0) : (fanOutApp v xs).1 = xs := by
  induction xs with
  | nil => simp [fanOutApp, Ret.ok] at h
  | cons e es ih =>
    by_cases he : (encCtl e (.set .application v)).2.code ≠ 0
    · simp only [fanOutApp]; rw [if_pos he]
      have := (encCtl_set_code e .application v).mp he
      rw [encCtl_set_reject e .application v this]
    · simp only [fanOutApp] at h ⊢
      rw [if_neg he] at h ⊢
      by_cases ht : (fanOutApp v es).2.code ≠ 0
      · rw [if_pos ht]
        rw [ih (fun x hx => hi x (List.mem_cons_of_mem _ hx)) ht,
            app_rollback (hi e List.mem_cons_self) v (Decidable.not_not.mp he)]
      · rw [if_neg ht] at h; exact absurd h ht

/-- The fan-out `msEncCtl` uses for a forwarded setter. -/
def msFan (k : EncSetK) (v : Int) (xs : List EncSt) : List EncSt × Ret :=
  if k = .application then fanOutApp v xs else fanOut (fun e => encCtl e (.set k v)) xs

theorem msEncCtl_fwd (s : MsEncSt) (k : EncSetK) (v : Int) (hk : msEncFwdSet k = true)
    (hr : ¬ (k = .forceChannels ∧ v = 2 ∧ s.nbCoupled < s.nbStreams)) :
    msEncCtl s (.set k v) = ({ s with streams := (msFan k v s.streams).1 }, (msFan k v s.streams).2) := by
  unfold msFan
  cases k <;> simp only [msEncFwdSet, Bool.false_eq_true] at hk <;> simp only [msEncCtl, msEncFwdSet, ite_true]
  case forceChannels =>
    have : ¬ (v = 2 ∧ s.nbCoupled < s.nbStreams) := fun h => hr ⟨rfl, h.1, h.2⟩
    simp [this]
  all_goals simp

theorem msFan_all_ok (k : EncSetK) (v : Int) (xs : List EncSt) (h : ∀ e ∈ xs, (encCtl e (.set k v)).2.code = 0) :
    (msFan k v xs).2.code = 0 ∧ (msFan k v xs).1 = xs.map (fun e => (encCtl e (.set k v)).1) := by
  have ha := fanOut_all_ok (fun e => encCtl e (.set k v)) xs h
  unfold msFan
  split
  · rename_i hk; subst hk
    have hc : (fanOutApp v xs).2.code = 0 := by rw [(fanOutApp_eq_fanOut v xs).1, ha]; rfl
    exact ⟨hc, by rw [(fanOutApp_eq_fanOut v xs).2 hc, ha]⟩
  · rw [ha]; exact ⟨rfl, rfl⟩

theorem msFan_ok_all (k : EncSetK) (v : Int) (xs : List EncSt) (h : (msFan k v xs).2.code = 0) :
    ∀ e ∈ xs, (encCtl e (.set k v)).2.code = 0 := by
  unfold msFan at h
  split at h
  · rename_i hk; subst hk; exact fanOut_ok_all _ xs (by rw [← (fanOutApp_eq_fanOut v xs).1]; exact h)
  · exact fanOut_ok_all _ xs h

theorem msFan_fail_unchanged {s : MsEncSt} (hi : MsInv s) (k : EncSetK) (v : Int)
    (hr : ¬ (k = .forceChannels ∧ v = 2 ∧ s.nbCoupled < s.nbStreams))
    (h : (msFan k v s.streams).2.code ≠ 0) : (msFan k v s.streams).1 = s.streams := by
  unfold msFan at h ⊢
  split
  · rename_i hk
    rw [if_pos hk] at h
    exact fanOutApp_fail_unchanged v s.streams hi.streams h
  · rename_i hk
    rw [if_neg hk] at h
    exact fanOut_fail_unchanged (fun e => encCtl e (.set k v)) s.streams
      (fun e _ hc => by
        have := (encCtl_set_code e k v).mp hc
        rw [encCtl_set_reject e k v this])
      (fun e he e' he' => by
        rw [encCtl_set_code, encCtl_set_code, ms_legal_uniform hi k v hk hr e he e' he'])
      h

/-- **What a multistream request can do to the state**: nothing (every getter, every refusal — a refused fan-out has
    changed no stream: OPUS_SET_FORCE_CHANNELS(2) is refused before the loop, OPUS_SET_APPLICATION rolls back); or, with OPUS_OK, store
    the object's own bit-rate or frame duration, or map every stream through one single-stream request. -/
theorem msEncCtl_cases {s : MsEncSt} (hi : MsInv s) (r : MsEncReq) :
    (msEncCtl s r).1 = s ∨
    ((msEncCtl s r).2.code = 0 ∧
      ((∃ b, (msEncCtl s r).1 = { s with bitrateBps := b }) ∨ (∃ d, (msEncCtl s r).1 = { s with variableDuration := d }) ∨
       ∃ q, (msEncCtl s r).1 = { s with streams := s.streams.map (fun e => (encCtl e q).1) })) := by
  cases r with
  | set k v =>
    by_cases hk : msEncFwdSet k = true
    · by_cases hr : k = .forceChannels ∧ v = 2 ∧ s.nbCoupled < s.nbStreams
      · obtain ⟨rfl, hv, hlt⟩ := hr
        exact Or.inl (by simp [msEncCtl, msEncFwdSet, hv, hlt])
      · rw [msEncCtl_fwd s k v hk hr]
        by_cases hc : (msFan k v s.streams).2.code = 0
        · exact Or.inr ⟨hc, Or.inr (Or.inr ⟨.set k v, by rw [(msFan_all_ok k v s.streams (msFan_ok_all k v s.streams hc)).2]⟩)⟩
        · exact Or.inl (by simp only [msFan_fail_unchanged hi k v hr hc])
    · cases k <;> simp only [msEncFwdSet, not_true_eq_false] at hk <;> simp only [msEncCtl]
      case bitrate =>
        split
        · split
          · exact Or.inl rfl
          · exact Or.inr ⟨rfl, Or.inl ⟨_, rfl⟩⟩
        · exact Or.inr ⟨rfl, Or.inl ⟨_, rfl⟩⟩
      case voiceRatio => exact Or.inl rfl
      case expertFrameDuration =>
        split
        · exact Or.inr ⟨rfl, Or.inr (Or.inl ⟨_, rfl⟩)⟩
        · exact Or.inl rfl
      case lfe => exact Or.inl rfl
  | get k nn => exact Or.inl (by cases k <;> simp only [msEncCtl] <;> (try split) <;> (try split) <;> rfl)
  | resetState =>
    have hall := fanOut_all_ok (fun e => encCtl e .resetState) s.streams (fun e _ => rfl)
    exact Or.inr ⟨by simp only [msEncCtl, hall]; rfl, Or.inr (Or.inr ⟨.resetState, by simp only [msEncCtl, hall]⟩)⟩
  | getEncoderState id nn =>
    refine Or.inl ?_
    simp only [msEncCtl]; split
    · rfl
    · split <;> rfl
  | unknown id => exact Or.inl rfl

theorem msEncCtl_error_unchanged {s : MsEncSt} (hi : MsInv s) (r : MsEncReq) (h : (msEncCtl s r).2.code ≠ 0) :
    (msEncCtl s r).1 = s := by
  rcases msEncCtl_cases hi r with e | ⟨hc, _⟩
  · exact e
  · exact absurd hc h

theorem msEncCtl_set_all {s : MsEncSt} (k : EncSetK) (v : Int) (hk : msEncFwdSet k = true)
    (hr : ¬ (k = .forceChannels ∧ v = 2 ∧ s.nbCoupled < s.nbStreams))
    (hleg : ∀ e ∈ s.streams, EncLegal e k v) :
    (msEncCtl s (.set k v)).2.code = 0 ∧
    (msEncCtl s (.set k v)).1 = { s with streams := s.streams.map (fun e => (encCtl e (.set k v)).1) } := by
  have hall := msFan_all_ok k v s.streams (fun e he => (encCtl_set_code_zero e k v).mpr (hleg e he))
  rw [msEncCtl_fwd s k v hk hr]
  exact ⟨hall.1, by rw [hall.2]⟩

theorem msEncCtl_set_map {s : MsEncSt} (k : EncSetK) (v : Int) (hk : msEncFwdSet k = true)
    (hr : ¬ (k = .forceChannels ∧ v = 2 ∧ s.nbCoupled < s.nbStreams))
    (hleg : ∀ e ∈ s.streams, EncLegal e k v) :
    (∀ g, readGetter k = some g →
      (msEncCtl s (.set k v)).1.streams.map (fun e' => encGetVal e' g) = s.streams.map (fun e => readBack e k v)) ∧
    (∀ e' ∈ (msEncCtl s (.set k v)).1.streams,
      (k = .bandwidth → e'.userBandwidth = v) ∧ (k = .forceMode → e'.userForcedMode = v) ∧ (k = .lfe → e'.lfe = v)) := by
  have h2 := (msEncCtl_set_all k v hk hr hleg).2
  rw [h2]
  refine ⟨fun g hg => ?_, fun e' he' => ?_⟩
  · simp only [List.map_map]
    apply List.map_congr_left
    intro e he
    obtain ⟨s', h1, h3⟩ := encCtl_set_ok e k v (hleg e he)
    simp only [Function.comp, h3]
    exact encSet_readBack e s' k v g h1 hg
  · simp only [List.mem_map] at he'
    obtain ⟨e, he, rfl⟩ := he'
    obtain ⟨s', h1, h3⟩ := encCtl_set_ok e k v (hleg e he)
    rw [h3]
    have := encSet_stored e s' k v h1
    exact ⟨this.1, this.2.1, fun hk => (this.2.2 hk).1⟩

theorem encCtl_channels (q : EncReq) (e : EncSt) : (encCtl e q).1.channels = e.channels := by
  cases q with
  | set k v =>
    simp only [encCtl]
    cases hs : encSet e k v with
    | none => rfl
    | some s' => rw [encSet_eq_store hs]; cases k <;> rfl
  | get k nn => cases nn <;> rfl
  | resetState => rfl
  | setEnergyMask p => rfl
  | celtGetMode nn => cases nn <;> rfl
  | unknown id => rfl

theorem msEncCtl_inv {s : MsEncSt} (hi : MsInv s) (r : MsEncReq) : MsInv (msEncCtl s r).1 := by
  rcases msEncCtl_cases hi r with e | ⟨-, ⟨b, e⟩ | ⟨d, e⟩ | ⟨q, e⟩⟩ <;> rw [e]
  · exact hi
  · exact ⟨hi.streams, hi.layout⟩
  · exact ⟨hi.streams, hi.layout⟩
  · -- every stream went through one single-stream request, which keeps `EncInv` and the channel count
    refine hi.of_streams rfl rfl fun e' he' => ?_
    obtain ⟨e, he, rfl⟩ := List.mem_map.1 he'
    exact ⟨e, he, encCtl_inv (hi.streams e he) q, encCtl_channels q e⟩

/-- The checks of `opus_multistream_encoder_init_impl` that depend on the layout only; `l` = (streams, coupled, mapping),
    the triple `surroundLayout` returns. -/
def layoutPasses (ch : Int) (l : Int × Int × List Nat) (amb : Bool) : Bool :=
  msEncArgsOk ch l.1 l.2.1 && validateLayout ch l.1 l.2.1 l.2.2 && validateEncoderLayout ch l.1 l.2.1 l.2.2 &&
  (!amb || (validateAmbisonics ch).isSome)

/-- `opus_multistream_encoder_init_impl` as one test: every refusal is OPUS_BAD_ARG. -/
theorem msEncInit_eq (fs ch st cp : Int) (mp : List Nat) (app : Int) (sur amb : Bool) (lfe : Int) :
    msEncInit fs ch st cp mp app sur amb lfe =
      if layoutPasses ch (st, cp, mp) amb = true ∧ (validFs fs && validApp app) = true then
        .ok { nbChannels := ch, nbStreams := st, nbCoupled := cp, bitrateBps := OPUS_AUTO, variableDuration := FRAMESIZE_ARG,
              application := app, lfeStream := lfe, surround := sur, ambisonics := amb,
              streams := msStreams fs st cp app lfe }
      else .err .badArg := by
  unfold msEncInit layoutPasses
  cases msEncArgsOk ch st cp
  · simp
  cases validateLayout ch st cp mp
  · simp
  cases validateEncoderLayout ch st cp mp
  · simp
  cases amb <;> cases validateAmbisonics ch <;> cases (validFs fs && validApp app) <;> simp

theorem msEncInit_of_passes {fs ch st cp : Int} {mp : List Nat} {app : Int} {sur amb : Bool} {lfe : Int}
    (h : layoutPasses ch (st, cp, mp) amb = true) :
    msEncInit fs ch st cp mp app sur amb lfe =
      if (validFs fs && validApp app) = true then
        .ok { nbChannels := ch, nbStreams := st, nbCoupled := cp, bitrateBps := OPUS_AUTO, variableDuration := FRAMESIZE_ARG,
              application := app, lfeStream := lfe, surround := sur, ambisonics := amb,
              streams := msStreams fs st cp app lfe }
      else .err .badArg := by
  rw [msEncInit_eq]; simp only [h, true_and]

/-- The documented legality of the arguments is the init's one test (without ambisonics). -/
theorem msEncArgsLegal_iff (fs ch st cp : Int) (mp : List Nat) (app : Int) : MsEncArgsLegal fs ch st cp mp app ↔
    layoutPasses ch (st, cp, mp) false = true ∧ (validFs fs && validApp app) = true := by
  simp only [MsEncArgsLegal, layoutPasses, Bool.and_eq_true, msEncArgsOk_iff, validFs_iff, validApp_iff, Bool.not_false,
    Bool.true_or, and_true, and_assoc]

/-- `opus_multistream_encoder_create` succeeds iff the arguments are legal and the allocation
    succeeds; illegal arguments give OPUS_BAD_ARG, a failed allocation OPUS_ALLOC_FAIL. -/
theorem msEncCreate_spec (fs channels streams coupled : Int) (mapping : List Nat) (app : Int) (allocOk : Bool) :
    (¬ MsEncArgsLegal fs channels streams coupled mapping app →
        msEncCreate fs channels streams coupled mapping app allocOk = .err .badArg ∨
        (msEncArgsOk channels streams coupled = true ∧ allocOk = false ∧
         msEncCreate fs channels streams coupled mapping app allocOk = .err .allocFail)) ∧
    (MsEncArgsLegal fs channels streams coupled mapping app → allocOk = false →
        msEncCreate fs channels streams coupled mapping app allocOk = .err .allocFail) ∧
    (MsEncArgsLegal fs channels streams coupled mapping app → allocOk = true →
        ∃ s, msEncCreate fs channels streams coupled mapping app allocOk = .ok s) := by
  rw [msEncArgsLegal_iff]
  unfold msEncCreate
  rw [msEncInit_eq]
  -- the create's own argument check, made before the allocation, is the first of the init's
  have hA : layoutPasses channels (streams, coupled, mapping) false = true → msEncArgsOk channels streams coupled = true :=
    fun h => by simp only [layoutPasses, Bool.and_eq_true] at h; exact h.1.1.1
  refine ⟨fun hn => ?_, fun hl ha => ?_, fun hl ha => ?_⟩
  · cases hO : msEncArgsOk channels streams coupled
    · exact Or.inl rfl
    · cases allocOk
      · exact Or.inr ⟨rfl, rfl, rfl⟩
      · rw [if_neg hn]; exact Or.inl rfl
  · rw [hA hl.1, ha]; rfl
  · rw [hA hl.1, ha, if_pos hl]; exact ⟨_, rfl⟩

theorem msEncInit_inv {fs channels streams coupled : Int} {mapping : List Nat} {app : Int} {sur amb : Bool} {lfe : Int}
    {s : MsEncSt} (h : msEncInit fs channels streams coupled mapping app sur amb lfe = .ok s) : MsInv s := by
  rw [msEncInit_eq] at h
  split at h
  · rename_i hp
    have hfa := hp.2
    simp only [Res.ok.injEq] at h
    subst h
    have hargs : ∀ c : Int, (c = 1 ∨ c = 2) → encArgsOk fs c app = true := by
      intro c hc
      simp only [Bool.and_eq_true] at hfa
      simp only [encArgsOk, Bool.and_eq_true, hfa.1, hfa.2, Bool.or_eq_true, decide_eq_true_eq, hc, and_self]
    -- stream `n` is a new encoder, with two channels if coupled; the LFE stream has then been given OPUS_SET_LFE(1)
    have hmem : ∀ e ∈ msStreams fs streams coupled app lfe, ∃ n : Nat, n < streams.toNat ∧
        EncInv e ∧ e.channels = if (n : Int) < coupled then 2 else 1 := by
      intro e he
      simp only [msStreams, List.mem_map, List.mem_range] at he
      obtain ⟨n, hn, rfl⟩ := he
      have hI : EncInv (encInit fs (if (n : Int) < coupled then 2 else 1) app) :=
        encInit_inv (hargs _ (by split <;> simp))
      refine ⟨n, hn, ?_⟩
      split
      · exact ⟨encCtl_inv hI (.set .lfe 1), rfl⟩
      · exact ⟨hI, rfl⟩
    refine ⟨fun e he => ?_, ?_⟩
    · obtain ⟨_, _, hI, _⟩ := hmem e he
      exact hI
    · by_cases hlt : coupled < streams
      · exact Or.inl hlt
      · right
        intro e he
        obtain ⟨n, hn, _, hch⟩ := hmem e he
        rw [hch, if_pos (by omega)]
  · cases h

theorem decCtl_set_code (d : DecSt) (k : DecSetK) (v : Int) : (decCtl d (.set k v)).2.code ≠ 0 ↔ ¬ DecLegal k v := by
  by_cases h : DecLegal k v
  · obtain ⟨s', h2, _⟩ := decCtl_set_get d k v h
    rw [h2]; simp [Ret.ok, h]
  · rw [decCtl_set_reject d k v h]; simp [Ret.err, Err.code, h]

theorem msDecCtl_fwd (s : MsDecSt) (k : DecSetK) (v : Int) (hk : msDecFwdSet k = true) :
    msDecCtl s (.set k v) =
      ({ s with streams := (fanOut (fun d => decCtl d (.set k v)) s.streams).1 },
       (fanOut (fun d => decCtl d (.set k v)) s.streams).2) := by
  cases k <;> simp only [msDecFwdSet, Bool.false_eq_true] at hk <;> simp [msDecCtl, msDecFwdSet]

/-! ### `MsInv` is kept by `opus_multistream_encode*`

  The per-stream settings the multistream layer writes go through `opus_encoder_ctl`, so they stay legal, and the streams
  keep their channel counts. -/

/-- What one stream goes through before its encode call — per-stream settings written THROUGH `opus_encoder_ctl` — keeps
    `EncInv` and the channel count. -/
theorem msPrep_keeps (s : MsEncSt) (i : Nat) (e : EncSt) (rate bw : Int) (hi : EncInv e) :
    EncInv (msPrep s i e rate bw) ∧ (msPrep s i e rate bw).channels = e.channels := by
  have step : ∀ (e' : EncSt) (q : EncReq), (EncInv e' ∧ e'.channels = e.channels) →
      (EncInv (encCtl e' q).1 ∧ (encCtl e' q).1.channels = e.channels) :=
    fun e' q ⟨h1, h2⟩ => ⟨encCtl_inv h1 _, by rw [encCtl_channels, h2]⟩
  have h0 := step e (.set .bitrate rate) ⟨hi, rfl⟩
  unfold msPrep
  simp only []
  split
  · have h1 := step _ (.set .bandwidth bw) h0
    split
    · exact step _ (.set .forceChannels 2) (step _ (.set .forceMode MODE_CELT_ONLY) h1)
    · exact h1
  · split
    · exact step _ (.set .forceMode MODE_CELT_ONLY) h0
    · exact h0

theorem msPre2_keeps (s : MsEncSt) (i : Nat) (e : EncSt) (lastRate : Option Int) (hi : EncInv e) :
    EncInv (msPre2 s i e lastRate) ∧ (msPre2 s i e lastRate).channels = e.channels := by
  have hm : EncInv (if s.surround then (encCtl e (.setEnergyMask true)).1 else e) ∧
      (if s.surround then (encCtl e (.setEnergyMask true)).1 else e).channels = e.channels := by
    split
    · exact ⟨encCtl_inv hi _, rfl⟩
    · exact ⟨hi, rfl⟩
  unfold msPre2
  simp only []
  generalize (if s.surround then (encCtl e (.setEnergyMask true)).1 else e) = e1 at *
  obtain ⟨h1, h3⟩ := hm
  cases lastRate with
  | none => exact ⟨h1, h3⟩
  | some r =>
    simp only []
    split
    · exact ⟨encCtl_inv h1 _, by rw [encCtl_channels, h3]⟩
    · exact ⟨h1, h3⟩

/-- The new state of stream `i` after a multistream encode call. -/
def msStreamAfter (s : MsEncSt) (o : MsOracle) (i : Nat) (e : EncSt) : EncSt :=
  let e1 := msPrep s i e (o.rates.getD i 0) o.bw
  if i < o.reached then
    match o.obs[i]? with
    | some ob => encAdopt (msPre2 s i e1 o.lastRate) ob
    | none => msPre2 s i e1 o.lastRate
  else e1

theorem msEncode_streams (s : MsEncSt) (f b : Int) (o : MsOracle) (h : msEncodeEarly s f b = none) :
    (msEncode s f b o).streams = s.streams.mapIdx (msStreamAfter s o) ∧
    (msEncode s f b o).nbCoupled = s.nbCoupled ∧ (msEncode s f b o).nbStreams = s.nbStreams := by
  unfold msEncode; rw [h]; exact ⟨rfl, rfl, rfl⟩

/-- **`MsInv` is kept by a multistream encode call** whose streams' encode calls stay inside the
    monitored ranges (`msEncodeContract`, checked after every call by suites `ctl-rand` /
    `ctl-msstarve`): every per-stream setting the multistream layer writes is legal and the streams
    keep their channel layout. -/
theorem msEncode_inv {s : MsEncSt} (hi : MsInv s) (f b : Int) (o : MsOracle) (hc : msEncodeContract s f b o = true) :
    MsInv (msEncode s f b o) := by
  cases hearly : msEncodeEarly s f b with
  | some e => unfold msEncode; rw [hearly]; exact hi
  | none =>
    obtain ⟨hst, hcp, hns⟩ := msEncode_streams s f b o hearly
    unfold msEncodeContract at hc
    rw [hearly] at hc
    simp only [Bool.and_eq_true, List.all_eq_true, List.mem_range] at hc
    obtain ⟨hobs, _⟩ := hc
    refine hi.of_streams hcp hns fun e' he' => ?_
    rw [hst] at he'
    obtain ⟨i, hilt, rfl⟩ := List.mem_mapIdx.mp he'
    have hmem : s.streams[i] ∈ s.streams := List.getElem_mem hilt
    refine ⟨_, hmem, ?_⟩
    have h1 := msPrep_keeps s i s.streams[i] (o.rates.getD i 0) o.bw (hi.streams _ hmem)
    have h2 := msPre2_keeps s i (msPrep s i s.streams[i] (o.rates.getD i 0) o.bw) o.lastRate h1.1
    unfold msStreamAfter
    simp only []
    split
    · rename_i hr
      cases hob : o.obs[i]? with
      | none => simp only []; exact ⟨h2.1, by rw [h2.2, h1.2]⟩
      | some ob =>
        simp only []
        have hrange := hobs i hilt
        rw [List.getElem?_eq_getElem hilt, hob] at hrange
        simp only [hr, decide_true, Bool.not_true, Bool.false_or, Option.isNone_iff_eq_none] at hrange
        refine ⟨encAdopt_inv_of_range h2.1 hrange, ?_⟩
        show (msPre2 s i _ o.lastRate).channels = s.streams[i].channels
        rw [h2.2, h1.2]
    · exact h1

inductive MsEv
  | ctl (r : MsEncReq)
  | encode (frameSize maxDataBytes : Int) (o : MsOracle)

def msApply (s : MsEncSt) : MsEv → MsEncSt
  | .ctl r => (msEncCtl s r).1
  | .encode f b o => msEncode s f b o

/-- The encode calls of the history meet the monitored contract `msEncodeContract`. -/
def msRunOk : MsEncSt → List MsEv → Prop
  | _, [] => True
  | s, e :: es =>
    (match e with
     | .ctl _ => True
     | .encode f b o => msEncodeContract s f b o = true) ∧ msRunOk (msApply s e) es

def msRun : MsEncSt → List MsEv → MsEncSt
  | s, [] => s
  | s, e :: es => msRun (msApply s e) es

theorem msRun_inv {s : MsEncSt} (hi : MsInv s) (evs : List MsEv) (hok : msRunOk s evs) : MsInv (msRun s evs) := by
  induction evs generalizing s with
  | nil => exact hi
  | cons e es ih =>
    obtain ⟨h1, h2⟩ := hok
    apply ih _ h2
    cases e with
    | ctl r => exact msEncCtl_inv hi r
    | encode f b o => exact msEncode_inv hi f b o h1

end Opus.Ctl
