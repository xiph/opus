import OpusProofs.DtxCall
/-
  OpusProofs.DtxQuery — `OPUS_GET_IN_DTX` is true after every DTX packet (C20), with the state
  invariant and the oracle shape assumptions this needs.
-/
namespace Opus.Dtx
open Opus.Gen.DtxConsts

/-- Shape of the recorded SILK oracles of one coded frame; holds by construction of
    `silk_Encode`: at most one prefill call before the main call, 1..3 frames per call
    (`MAX_FRAMES_PER_PACKET`). -/
def WFSub (s : Sub) : Prop :=
  s.silk ≠ [] ∧ s.silk.length ≤ 2 ∧ ∀ c ∈ s.silk, c.frames ≠ [] ∧ c.frames.length ≤ maxFramesPerPacket

def WF (o : CallOr) : Prop := o.mode ≠ .none ∧ (o.mode ≠ .celt → ∀ s ∈ o.subs, WFSub s)

/-- State invariant: before the first completed frame the mid channel's `noSpeechCounter` is untouched. -/
def Inv (st : St) : Prop := st.prevMode = .none → st.silk.c0 = 0

theorem silkFrames_cnt (nch : Nat) (fl : Bool) (s : SilkCh × SilkCh × Bool) (fs : List SFrame) :
    (silkFrames nch fl s fs).1.cnt ≤ s.1.cnt + fs.length := by
  rw [silkFrames_mid, ← durSum_midSched fl fs]
  exact hangSteps_count_le_add _ _ (Nat.le_add_right ..) _ _

/-- Side channel, when the last frame coded it. -/
theorem silkFrames_inDtx_cnt1 (fl : Bool) (s : SilkCh × SilkCh × Bool) (fs : List SFrame) (hne : fs ≠ [])
    (h : (silkFrames 2 fl s fs).2.1.inDtx = true) (hp : (silkFrames 2 fl s fs).2.2 = false) :
    nbSpeechFramesBeforeDtx < (silkFrames 2 fl s fs).2.1.cnt := by
  induction fs generalizing s with
  | nil => exact absurd rfl hne
  | cons f fs ih =>
    simp only [silkFrames] at h hp ⊢
    by_cases hfs : fs = []
    · subst hfs
      simp only [silkFrames, silkFrame] at h hp ⊢
      simp only [hp, and_self, if_true] at h ⊢
      have := silkVad_cnt_of_inDtx _ _ h
      omega
    · exact ih _ hfs h hp

/-- The mid counter after a call is at most the one the call starts with (0 after a prefill re-initialisation) plus one
    per frame. -/
theorem silkCall_c0 (useDtx fl : Bool) (st : SilkSt) (c : SCall) :
    (silkCall useDtx fl st c).1.c0 ≤ (if c.prefill ≠ 0 then 0 else st.c0) + c.frames.length := by
  simp only [silkCall]
  exact silkFrames_cnt c.nch fl _ c.frames

/-- **What "SILK returned zero bytes" says about one `silk_Encode` call**: it was not a prefill call (which clears the
    counter), the mid counter went up by one per frame, from at least 10 to at most 30, and the side counter, when the
    last frame coded the side channel, is past 10 as well. -/
theorem silkCall_zero (useDtx fl : Bool) (st : SilkSt) (c : SCall) (hne : c.frames ≠ [])
    (h : (silkCall useDtx fl st c).2 = true) :
    c.prefill = 0 ∧ (silkCall useDtx fl st c).1.c0 = st.c0 + c.frames.length ∧ nbSpeechFramesBeforeDtx ≤ st.c0 ∧
    st.c0 + c.frames.length ≤ nbSpeechFramesBeforeDtx + maxConsecutiveDtx ∧ (silkCall useDtx fl st c).1.nch = c.nch ∧
    (c.nch = 2 → (silkCall useDtx fl st c).1.pmo = false → nbSpeechFramesBeforeDtx < (silkCall useDtx fl st c).1.c1) := by
  simp only [silkCall] at h ⊢
  simp only [Bool.and_eq_true, Bool.or_eq_true, decide_eq_true_eq] at h
  have hm := h.1
  rw [silkFrames_mid] at hm ⊢
  simp only [Bool.and_eq_true, List.all_eq_true, id] at hm
  -- every SILK frame of the call was droppable: the counter added up, from beyond 10 to at most 30
  obtain ⟨e, -, hw⟩ := hangSteps_all_true _ _ (Nat.le_add_right ..) _ _ hm.1
  obtain ⟨f, fs', hfs⟩ := List.exists_cons_of_ne_nil hne
  have hw := hw _ _ _ (by rw [hfs]; rfl)
  rw [durSum_midSched] at e hw
  have hp : c.prefill = 0 := by
    apply Decidable.byContradiction
    intro hp
    rw [if_pos hp] at hw
    have := nb_eq
    omega
  refine ⟨hp, ?_⟩
  simp only [hp, ne_eq, not_true_eq_false, if_false, false_and] at e hw h ⊢
  refine ⟨e, by omega, hw.2, trivial, ?_⟩
  intro h2 hpm
  rw [h2] at h hpm ⊢
  rcases h.2 with h' | h'
  · omega
  · exact silkFrames_inDtx_cnt1 _ _ _ hne h' hpm

theorem frameSilk_celt (act : Int) (st : St) (o : Sub) : (frameSilk .celt act st o).2 = none := by
  simp [frameSilk]

/-- **What a zero-byte SILK answer says about the states around a coded frame** (one main call, or a call before it):
    SILK's own DTX is in charge, the mid counter was not 0 and is past 10 now (the side counter too when it counts); coded
    by one call, the counter went up by that call's number of SILK frames inside [10, 30]; and a call before the main
    call was not a prefill call, which would have cleared the counter. -/
theorem frameSilk_zero (mode : Mode) (act : Int) (st : St) (o : Sub)
    (hwf : mode ≠ .celt → WFSub o) (h : (frameSilk mode act st o).2 = some true) :
    mode ≠ .celt ∧ st.silkUseDtx = true ∧ st.silk.c0 ≠ 0 ∧
    nbSpeechFramesBeforeDtx < (frameSilk mode act st o).1.silk.c0 ∧
    ((frameSilk mode act st o).1.modeNch = 2 → (frameSilk mode act st o).1.silk.pmo = false →
      nbSpeechFramesBeforeDtx < (frameSilk mode act st o).1.silk.c1) ∧
    (∀ m, o.silk = [m] → (frameSilk mode act st o).1.silk.c0 = st.silk.c0 + m.frames.length ∧
      nbSpeechFramesBeforeDtx ≤ st.silk.c0 ∧ st.silk.c0 + m.frames.length ≤ nbSpeechFramesBeforeDtx + maxConsecutiveDtx) ∧
    (∀ p m, o.silk = [p, m] → p.prefill = 0) := by
  by_cases hm : mode = .celt
  · subst hm; rw [frameSilk_celt] at h; cases h
  obtain ⟨hne, hlen, hfr⟩ := hwf hm
  have hs : st.silkUseDtx = true := by
    cases hs : st.silkUseDtx
    · exact absurd h (frameSilk_useDtx_false mode act st o hs)
    · rfl
  have h10 := nb_eq
  have h3 : maxFramesPerPacket = 3 := rfl
  simp only [frameSilk, hm, if_false, Option.some.injEq] at h ⊢
  rcases hsk : o.silk with _ | ⟨m, _ | ⟨m2, _ | _⟩⟩
  · exact absurd hsk hne
  · rw [hsk] at h hfr
    simp only [runSilk, List.getLast?_singleton] at h ⊢
    obtain ⟨-, z1, z2, z3, -, z5⟩ := silkCall_zero _ _ st.silk m (hfr m (by simp)).1 h
    have := List.length_pos_iff.mpr (hfr m (by simp)).1
    refine ⟨hm, hs, by omega, by omega, z5, fun m' e => ?_, fun p m' e => nomatch e⟩
    cases e; exact ⟨z1, z2, z3⟩
  · rw [hsk] at h hfr
    simp only [runSilk, List.getLast?_cons_cons, List.getLast?_singleton] at h ⊢
    obtain ⟨-, z1, z2, -, -, z5⟩ := silkCall_zero _ _ _ m2 (hfr m2 (by simp)).1 h
    have hp := silkCall_c0 st.silkUseDtx (decide (act = vadNoActivity)) st.silk m
    have hpl := (hfr m (by simp)).2
    have := List.length_pos_iff.mpr (hfr m2 (by simp)).1
    refine ⟨hm, hs, fun h0 => ?_, by omega, z5, (fun m' e => nomatch e), fun p m' e => ?_⟩
    · rw [h0] at hp; split at hp <;> omega
    · cases e
      apply Decidable.byContradiction
      intro hpf
      rw [if_pos hpf] at hp; omega
  · rw [hsk] at hlen; simp at hlen

theorem frameStep_prevMode (useDtx isSil : Bool) (mode : Mode) (fQ1 : Nat) (tc : Bool) (st : St) (o : Sub) :
    ((frameSilk mode (activityOf isSil o.valid o.det) st o).2 = some true ∧
      (frameStep useDtx isSil mode fQ1 tc st o).1 = (frameSilk mode (activityOf isSil o.valid o.det) st o).1) ∨
    (frameStep useDtx isSil mode fQ1 tc st o).1.prevMode = .celt ∨ (frameStep useDtx isSil mode fQ1 tc st o).1.prevMode = mode := by
  unfold frameStep
  simp only
  by_cases hz : (frameSilk mode (activityOf isSil o.valid o.det) st o).2 = some true
  · left; simp [hz]
  · right
    simp only [hz, if_false]
    rw [(frameTail_fields ..).2.2.2]
    cases tc <;> simp

/-- SILK regime: if every coded frame is dropped, SILK dropped them all; `prev_mode` is untouched
    and the counters are past `NB_SPEECH_FRAMES_BEFORE_DTX`. -/
theorem frameFlags_silk_regime (useDtx : Bool) (mode : Mode) (fQ1 : Nat) (tc : Bool) (st : St) (os : List Sub)
    (hne : os ≠ []) (hsd : st.silkUseDtx = true) (hwf : mode ≠ .celt → ∀ s ∈ os, WFSub s)
    (hall : ∀ d ∈ (frameFlags useDtx false mode fQ1 tc st os).2, d = true) :
    let f := (frameFlags useDtx false mode fQ1 tc st os).1
    mode ≠ .celt ∧ st.silk.c0 ≠ 0 ∧ f.prevMode = st.prevMode ∧ f.silkUseDtx = true ∧
    nbSpeechFramesBeforeDtx < f.silk.c0 ∧ (f.modeNch = 2 → f.silk.pmo = false → nbSpeechFramesBeforeDtx < f.silk.c1) := by
  induction os generalizing st with
  | nil => exact absurd rfl hne
  | cons o os ih =>
    simp only [frameFlags] at hall ⊢
    have hflag : (frameStep useDtx false mode fQ1 (tc && os.isEmpty) st o).2.1 = true := hall _ (by simp)
    have hA := frameStep_silk_charge useDtx false mode fQ1 (tc && os.isEmpty) st o hsd hflag
    have hB := frameSilk_zero mode _ st o (fun hm => hwf hm o (by simp)) hA.1
    have hF := frameSilk_fields mode (activityOf false o.valid o.det) st o
    by_cases hos : os = []
    · subst hos
      simp only [frameFlags]
      rw [hA.2]
      exact ⟨hB.1, hB.2.2.1, hF.2.1, by rw [hF.2.2.1]; exact hB.2.1, hB.2.2.2.1, hB.2.2.2.2.1⟩
    · have := ih (frameStep useDtx false mode fQ1 (tc && os.isEmpty) st o).1 hos
        (by rw [frameStep_silkUseDtx]; exact hsd) (fun hm s hs => hwf hm s (by simp [hs])) (fun d hd => hall d (by simp [hd]))
      simp only at this
      obtain ⟨h1, _, h3, h4, h5, h6⟩ := this
      refine ⟨h1, hB.2.2.1, ?_, h4, h5, h6⟩
      rw [h3, hA.2]; exact hF.2.1

theorem prepCall_prevMode (c : Cfg) (st : St) (o : CallOr) : (prepCall c st o).prevMode = st.prevMode := by
  unfold prepCall; simp only; split <;> exact switchReset_prevMode _ _

/-- The SILK slice at the start of the frame loop: re-initialised when leaving CELT-only, counters
    cleared when the detector in charge changes, else untouched. -/
theorem prepCall_silk (c : Cfg) (st : St) (o : CallOr) :
    (prepCall c st o).silk = if o.mode ≠ .celt ∧ st.prevMode = .celt then silkInit
      else (if sdtxOf c o ≠ st.silkUseDtx then { st.silk with c0 := 0, c1 := 0 } else st.silk) := by
  unfold prepCall; simp only
  rw [switchReset_prevMode]
  split
  · rfl
  · exact switchReset_silk _ _

/-- The mid counter at the start of the frame loop is the stored one or 0. -/
theorem prepCall_c0 (c : Cfg) (st : St) (o : CallOr) :
    (prepCall c st o).silk.c0 = st.silk.c0 ∨ (prepCall c st o).silk.c0 = 0 := by
  rw [prepCall_silk]
  split
  · right; rfl
  · split
    · right; rfl
    · left; rfl

theorem inDtx_generalised (c : Cfg) (st : St) (hs : st.silkUseDtx = false) (hu : c.useDtx = true)
    (hn : onsetQ1 ≤ st.nb) : inDtx c st = true := by
  simp [inDtx, hs, hu, hn]

theorem inDtx_silk (c : Cfg) (st : St) (hs : st.silkUseDtx = true) (hp : st.prevMode = .silk ∨ st.prevMode = .hybrid)
    (h0 : nbSpeechFramesBeforeDtx ≤ st.silk.c0)
    (h1 : st.modeNch = 2 → st.silk.pmo = false → nbSpeechFramesBeforeDtx ≤ st.silk.c1) : inDtx c st = true := by
  unfold inDtx
  rw [if_pos ⟨hs, hp⟩]
  simp only [h0, decide_true, true_and]
  split
  · rename_i hh; simp [h1 hh.1 hh.2]
  · rfl

/-- **The in-DTX query is true after every DTX packet.** -/
theorem inDtx_of_dtx (c : Cfg) (st : St) (o : CallOr) (hinv : Inv st) (hwf : WF o) (n : Nat) (hpkt : (encodeCall c st o).2.1 = .dtx n) :
    inDtx c (encodeCall c st o).1 = true := by
  obtain ⟨hst, hsne, hall⟩ := encodeCall_dtx_loop c st o n hpkt
  rw [hst]
  unfold encodeLoop at hall ⊢
  cases hs : (prepCall c st o).silkUseDtx
  · -- generalised detector in charge
    obtain ⟨hu, hnb, hon, _⟩ := frameFlags_generalised_all _ _ _ _ _ _ _ hs hsne hall
    have hsu := frameFlags_silkUseDtx c.useDtx (isSilOf c o) o.mode (subQ1 c o.mode) o.toCelt (prepCall c st o) o.subs
    rw [hs] at hsu
    have : 1 ≤ o.subs.length := List.length_pos_iff.mpr hsne
    refine inDtx_generalised c _ hsu hu ?_
    rw [hnb]
    have := Nat.le_mul_of_pos_left (subQ1 c o.mode) this
    omega
  · -- SILK's own DTX
    have hs0 := hs
    rw [prepCall_silkUseDtx] at hs
    simp only [sdtxOf, Bool.and_eq_true, Bool.not_eq_true', Bool.or_eq_false_iff] at hs
    obtain ⟨hd, hv0, hsil⟩ := hs
    rw [hsil] at hall ⊢
    have hC := frameFlags_silk_regime c.useDtx o.mode (subQ1 c o.mode) o.toCelt (prepCall c st o) o.subs hsne hs0 hwf.2 hall
    simp only at hC
    obtain ⟨hm, hc0, hpm, hsu, h0, h1⟩ := hC
    rw [prepCall_prevMode] at hpm
    have hpm' : st.prevMode = .silk ∨ st.prevMode = .hybrid := by
      cases hp : st.prevMode
      · exfalso
        rcases prepCall_c0 c st o with h | h
        · exact hc0 (by rw [h]; exact hinv hp)
        · exact hc0 h
      · left; rfl
      · right; rfl
      · exfalso
        apply hc0
        rw [prepCall_silk, if_pos ⟨hm, hp⟩]; rfl
    exact inDtx_silk c _ hsu (by rw [hpm]; exact hpm') (Nat.le_of_lt h0) (fun a b => Nat.le_of_lt (h1 a b))

theorem inv_init (ch : Nat) : Inv (initSt ch) := fun _ => rfl

/-- `Inv` is kept frame by frame: a frame either sets `prev_mode`, or was dropped by SILK, whose counter was then not 0. -/
theorem frameStep_inv (useDtx isSil : Bool) {mode : Mode} (fQ1 : Nat) (tc : Bool) (st : St) (o : Sub)
    (hm : mode ≠ .none) (hwf : mode ≠ .celt → WFSub o) (hinv : Inv st) : Inv (frameStep useDtx isSil mode fQ1 tc st o).1 := by
  intro hp
  rcases frameStep_prevMode useDtx isSil mode fQ1 tc st o with ⟨hz, e⟩ | h | h
  · -- SILK dropped the frame: its counter was not 0, so a frame had completed before
    rw [e, (frameSilk_fields ..).2.1] at hp
    exact absurd (hinv hp) (frameSilk_zero mode _ st o hwf hz).2.2.1
  · rw [h] at hp; cases hp
  · exact absurd (h.symm.trans hp) hm

theorem prepCall_inv (c : Cfg) (o : CallOr) (st : St) (hinv : Inv st) : Inv (prepCall c st o) := by
  intro hp
  rw [prepCall_prevMode] at hp
  rcases prepCall_c0 c st o with h | h
  · rw [h]; exact hinv hp
  · exact h

theorem inv_encodeCall (c : Cfg) (st : St) (o : CallOr) (hinv : Inv st) (hwf : WF o) : Inv (encodeCall c st o).1 :=
  encodeCall_keeps c o (prepCall_inv c o)
    (fun tc st s hs => frameStep_inv _ _ _ tc st s hwf.1 (fun hm => hwf.2 hm s hs)) st hinv

theorem inv_runFinal (c : Cfg) (st : St) (ors : List CallOr) (hinv : Inv st) (hwf : ∀ o ∈ ors, WF o) :
    Inv (runFinal c st ors) :=
  runFinal_keeps c ors (fun st o ho h => inv_encodeCall c st o h (hwf o ho)) st hinv

end Opus.Dtx
