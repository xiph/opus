import OpusModel.EncSkel
import OpusProofs.EncSkelSizing
import Mathlib.Data.Rat.Floor
import Mathlib.Tactic.Linarith
import Mathlib.Tactic.NormNum
/-
  OpusProofs.EncSkelCbr — what the sizing proofs of the encoder skeleton share.
  * The CBR byte count of opus_encoder.c:1259-1262 is `min(round(bitrate·T/8), max_data_bytes)` with `T = frame_size/Fs`,
    round = round-half-up over ℚ (`OpusProps.C05.cbrBytes_spec`): here the rounding argument `round_core` ("the 12· trick is
    exact": the two integer divisions `12*bitrate/8` and `(… + frame_rate12/2)/frame_rate12` lose nothing) and the even
    integer `frame_rate12` of a legal frame (`legal_F`, `fr12_eq`); `cbrBytes_full` for OPUS_BITRATE_MAX.
  * C's `/` by a positive divisor (`tdiv_spec`, `cdiv_bounds`, `cdiv_abs_le`, `cdiv_scale`) and products of a signed and a
    bounded factor (`mul_abs_le`).  (The domain `FrameRates` and `mul_nn_le` are in OpusProofs/EncSkelSizing.lean.)
  * The entry check of :1158-1172 (`entryCheck_none_iff`, `entryCheck_some`), which every path starts with.
  The Mathlib imports also serve the ℚ statement of `cbrBytes_spec` downstream.
-/
namespace Opus.EncSkel.Proofs
open Opus Opus.EncSkel Opus.EncDecide

/-- opus_encoder.c:1158-1172 passes exactly the calls with a frame, a byte of space, and not one byte for 100 ms. -/
theorem entryCheck_none_iff (s : St) (fsz out : Int) :
    entryCheck s fsz out = none ↔ 0 < fsz ∧ 1 ≤ out ∧ ¬ (min 1276 out = 1 ∧ s.fs = fsz * 10) := by
  unfold entryCheck
  dsimp only
  split
  · exact ⟨(fun h => nomatch h), fun h => by omega⟩
  · split
    · exact ⟨(fun h => nomatch h), fun h => absurd ‹_› h.2.2⟩
    · exact ⟨fun _ => ⟨by omega, by omega, ‹_›⟩, fun _ => rfl⟩

theorem entryCheck_some {s : St} {fsz out e : Int} (h : entryCheck s fsz out = some e) :
    e = OPUS_BAD_ARG ∨ (e = OPUS_BUFFER_TOO_SMALL ∧ min 1276 out = 1 ∧ s.fs = fsz * 10) := by
  unfold entryCheck at h
  dsimp only at h
  split at h
  · exact Or.inl (Option.some.inj h).symm
  · split at h
    · exact Or.inr ⟨(Option.some.inj h).symm, ‹_›⟩
    · nomatch h

/-- C's `/` by a positive divisor: the quotient has the sign of the dividend and brackets it. -/
theorem tdiv_spec (a b : Int) (hb : 0 < b) :
    (0 ≤ a → 0 ≤ Int.tdiv a b ∧ Int.tdiv a b * b ≤ a ∧ a < (Int.tdiv a b + 1) * b) ∧
    (a < 0 → Int.tdiv a b ≤ 0 ∧ a ≤ Int.tdiv a b * b ∧ (Int.tdiv a b - 1) * b < a) := by
  constructor
  · intro ha
    rw [Int.tdiv_eq_ediv_of_nonneg ha]
    exact ⟨Int.ediv_nonneg ha (by omega), Int.ediv_mul_le a (by omega), Int.lt_ediv_add_one_mul_self a hb⟩
  · intro ha
    have h : Int.tdiv a b = -((-a) / b) := by
      have := Int.neg_tdiv (a := -a) (b := b)
      rw [Int.neg_neg] at this
      rw [this, Int.tdiv_eq_ediv_of_nonneg (by omega)]
    have h1 := Int.ediv_mul_le (-a) (show b ≠ 0 by omega)
    have h2 := Int.lt_ediv_add_one_mul_self (-a) hb
    have h3 : 0 ≤ (-a) / b := Int.ediv_nonneg (by omega) (by omega)
    rw [h]
    refine ⟨by omega, by nlinarith, by nlinarith⟩

theorem cdiv_bounds (a b : Int) (hb : 0 < b) :
    (0 ≤ a → 0 ≤ cdiv a b ∧ cdiv a b ≤ a) ∧ (a ≤ 0 → a ≤ cdiv a b ∧ cdiv a b ≤ 0) := by
  obtain ⟨hp, hn⟩ := tdiv_spec a b hb
  unfold cdiv
  constructor
  · intro ha
    obtain ⟨h0, h1, -⟩ := hp ha
    have := Int.mul_le_mul_of_nonneg_left (show 1 ≤ b by omega) h0
    omega
  · intro ha
    rcases Int.lt_or_eq_of_le ha with ha | rfl
    · obtain ⟨h0, h1, -⟩ := hn ha
      have := Int.mul_le_mul_of_nonpos_left h0 (show 1 ≤ b by omega)
      omega
    · simp

theorem cdiv_abs_le (a b A : Int) (hb : 0 < b) (h : -A ≤ a ∧ a ≤ A) : -A ≤ cdiv a b ∧ cdiv a b ≤ A := by
  obtain ⟨h1, h2⟩ := cdiv_bounds a b hb
  rcases Int.le_total 0 a with ha | ha
  · have := h1 ha; omega
  · have := h2 ha; omega

theorem mul_abs_le (x y A B : Int) (hx : -A ≤ x ∧ x ≤ A) (hy : 0 ≤ y ∧ y ≤ B) :
    -(A * B) ≤ x * y ∧ x * y ≤ A * B := by
  obtain ⟨hx1, hx2⟩ := hx
  obtain ⟨hy1, hy2⟩ := hy
  constructor <;> nlinarith

theorem cdiv_eq_ediv (a b : Int) (ha : 0 ≤ a) : cdiv a b = a / b := by
  unfold cdiv; exact Int.tdiv_eq_ediv_of_nonneg ha

theorem cdiv_scale (a k A : Int) (hk : 0 < k) (h : -(A * k) ≤ a ∧ a ≤ A * k) : -A ≤ cdiv a k ∧ cdiv a k ≤ A := by
  obtain ⟨hp, hn⟩ := tdiv_spec a k hk
  unfold cdiv
  have hA0 : 0 ≤ A := Int.nonneg_of_mul_nonneg_left (show 0 ≤ A * k by omega) hk
  rcases Int.lt_or_le a 0 with ha | ha
  · obtain ⟨h0, h1, -⟩ := hn ha
    have : -A * k ≤ Int.tdiv a k * k := by rw [Int.neg_mul]; omega
    have := Int.le_of_mul_le_mul_right this hk
    omega
  · obtain ⟨h0, h1, -⟩ := hp ha
    have := Int.le_of_mul_le_mul_right (Int.le_trans h1 h.2) hk
    omega

/-- Core of the rounding argument, with the integer `F = frame_rate12` (even, positive): rounding `b·(12/F)/8` half up over ℚ
    is what the two integer divisions compute. -/
theorem round_core (b F : Int) (hF : 0 < F) (hev : F % 2 = 0) :
    ⌊(b : ℚ) * 12 / F / 8 + 1 / 2⌋ = (12 * b / 8 + F / 2) / F := by
  rw [Int.floor_eq_iff]
  obtain ⟨h, rfl⟩ : ∃ h, F = 2 * h := ⟨F / 2, by omega⟩
  have hh : 0 < h := by omega
  have e1 : 2 * h / 2 = h := by omega
  rw [e1]
  generalize hn : 12 * b / 8 = n
  have hn1 : 2 * n ≤ 3 * b ∧ 3 * b ≤ 2 * n + 1 := by omega
  have hr1 := Int.ediv_mul_le (n + h) (show (2 * h) ≠ 0 by omega)
  have hr2 := Int.lt_ediv_add_one_mul_self (n + h) (show 0 < 2 * h by omega)
  generalize (n + h) / (2 * h) = r at *
  have hhq : (0 : ℚ) < h := by exact_mod_cast hh
  have q1 : (r : ℚ) * (2 * h) ≤ n + h := by exact_mod_cast hr1
  have q2 : (n : ℚ) + h + 1 ≤ (r + 1) * (2 * h) := by exact_mod_cast (by omega : n + h + 1 ≤ (r + 1) * (2 * h))
  have q3 : (2 : ℚ) * n ≤ 3 * b := by exact_mod_cast hn1.1
  have q4 : (3 : ℚ) * b ≤ 2 * n + 1 := by exact_mod_cast hn1.2
  have key : (b : ℚ) * 12 / ((2 * h : ℤ) : ℚ) / 8 + 1 / 2 = (3 * b + 2 * h) / (4 * h) := by
    push_cast
    field_simp
    ring
  rw [key]
  constructor
  · rw [le_div_iff₀ (by linarith)]
    nlinarith
  · rw [div_lt_iff₀ (by linarith)]
    nlinarith

theorem legal_F (fs fsz : Int) (hl : legalFrame fs fsz = true) :
    ∃ F : Int, 0 < F ∧ F % 2 = 0 ∧ F * fsz = 12 * fs := by
  rcases legal_fsz fs fsz hl with h | h | h | h | h | h | h | h | h
  · exact ⟨4800, by omega, by omega, by omega⟩
  · exact ⟨2400, by omega, by omega, by omega⟩
  · exact ⟨1200, by omega, by omega, by omega⟩
  · exact ⟨600, by omega, by omega, by omega⟩
  · exact ⟨300, by omega, by omega, by omega⟩
  · exact ⟨200, by omega, by omega, by omega⟩
  · exact ⟨150, by omega, by omega, by omega⟩
  · exact ⟨120, by omega, by omega, by omega⟩
  · exact ⟨100, by omega, by omega, by omega⟩

/-- `frame_rate12` of :1259 is the `F` of `legal_F`. -/
theorem fr12_eq (fs fsz F : Int) (hfz : 0 < fsz) (hF : F * fsz = 12 * fs) : 12 * fs / fsz = F := by
  rw [← hF]; exact Int.mul_ediv_cancel _ (by omega)

/-- With the bit-rate `m·8·Fs/frame_size` that OPUS_BITRATE_MAX stands for (:692) the CBR count is `m` itself:
    the bit-rate is `b = ⌊2mF/3⌋`, so `mF - 1 ≤ ⌊3b/2⌋ ≤ mF`, and the rounding term `F/2 ≥ 1` makes up for the loss. -/
theorem cbrBytes_full (fs fsz m : Int) (hfs : 0 < fs) (hl : legalFrame fs fsz = true) :
    cbrBytes fs fsz (m * 8 * fs / fsz) m = m := by
  obtain ⟨F, hF0, hFev, hF⟩ := legal_F fs fsz hl
  have hfz := (legal_bounds fs fsz hfs hl).1
  have hb : m * 8 * fs / fsz = m * F * 8 / 12 := by
    rw [← Int.mul_ediv_mul_of_pos_left (m * 8 * fs) fsz (show (0 : Int) < 12 by omega),
      show m * 8 * fs * 12 = m * F * 8 * fsz by rw [Int.mul_assoc (m * 8), Int.mul_comm fs 12, ← hF]; ring,
      Int.mul_comm fsz 12, Int.mul_ediv_mul_of_pos_left _ _ hfz]
  unfold cbrBytes
  dsimp only
  rw [fr12_eq fs fsz F hfz hF, hb]
  have hs : (m + 1) * F = m * F + F := by rw [Int.add_mul, Int.one_mul]
  generalize hp : m * F = p at *
  have h1 : m ≤ (12 * (p * 8 / 12) / 8 + F / 2) / F := Int.le_ediv_of_mul_le hF0 (by omega)
  have h2 : (12 * (p * 8 / 12) / 8 + F / 2) / F < m + 1 := Int.ediv_lt_of_lt_mul hF0 (by omega)
  omega

end Opus.EncSkel.Proofs
