import OpusProofs.RangeCoderOps
/-
  OpusProofs.RangeCoderDec — the decoder tracks the encoder's interval (C08;
  DESIGN.md §7.C08 invariant D):  `val_d = encLow + rng - 1 - ⌊code · 2^s⌋`.
-/
namespace Opus.RangeCoder

/-- Invariant D: decoder state `d` reading the stream `(B, S)` mirrors encoder state `e`.
    The code value is taken from a second stream `Bt`; the lemmas below assume separately (`hag`) that it
    agrees with `B` from byte 1 on (it is `B` itself except in the proofs about
    `ec_enc_patch_initial_bits`, where the first bits differ). -/
structure DecInv (B : List Nat) (S : Nat) (e : Enc) (d : Dec) (Bt : List Nat) : Prop where
  buf_eq : d.buf = B
  storage_eq : d.storage = S
  rng_eq : d.rng = e.rng
  nbits_eq : d.nbitsTotal = e.nbitsTotal
  val_eq : d.val + codeVal Bt S (encM e + 4) / 2 + 1 = encLow e + e.rng
  offs_eq : d.offs = min (encM e + 4) S
  rem_eq : d.rem = ((byteAt B S (encM e + 3) : Nat) : Int)

/-- One iteration of `ec_dec_normalize` (entdec.c:104-116). -/
def decStep (d : Dec) : Dec :=
  { (readByte d).2 with nbitsTotal := d.nbitsTotal + 8,
                        rng := u32 (d.rng * 256),
                        rem := ((readByte d).1 : Int),
                        val := (u32 (d.val * 256) + (255 - (d.rem.toNat * 256 + (readByte d).1) / 2 % 256)) % 2147483648 }

theorem decNormalize_step (d : Dec) (h : 0 < d.rng ∧ d.rng ≤ 8388608) :
    decNormalize d = decNormalize (decStep d) := by
  rw [decNormalize]; simp only [h, and_self, dite_true]; rfl

theorem decNormalize_done (d : Dec) (h : ¬ (0 < d.rng ∧ d.rng ≤ 8388608)) : decNormalize d = d := by
  rw [decNormalize]; simp only [h, dite_false]

theorem readByte_spec (B : List Nat) (S : Nat) (d : Dec) (n : Nat) (hb : d.buf = B) (hs : d.storage = S)
    (ho : d.offs = min n S) :
    (readByte d).1 = byteAt B S n ∧ (readByte d).2.offs = min (n + 1) S ∧
    (readByte d).2.buf = B ∧ (readByte d).2.storage = S ∧ (readByte d).2.endOffs = d.endOffs ∧
    (readByte d).2.endWindow = d.endWindow ∧ (readByte d).2.nendBits = d.nendBits ∧
    (readByte d).2.error = d.error := by
  unfold readByte byteAt
  by_cases h : d.offs < d.storage
  · have h1 : n < S := by omega
    have e : d.offs = n := by omega
    rw [if_pos h, if_pos h1]
    exact ⟨by rw [hb, e], by show d.offs + 1 = _; omega, hb, hs, rfl, rfl, rfl, rfl⟩
  · have h1 : ¬ n < S := by omega
    rw [if_neg h, if_neg h1]
    exact ⟨rfl, by show d.offs = _; omega, hb, hs, rfl, rfl, rfl, rfl⟩

theorem byteAt_lt_of_bytesOk {B : List Nat} (hB : BytesOk B) (S i : Nat) : byteAt B S i < 256 :=
  byteAt_lt_bytesOk hB S i

/-- What the decoder knows by itself once it has read bytes `0..n` of `(B, S)`: `X = val + ⌊code / 2⌋ + 1`
    (`code` the first `n + 1` bytes of `Bt`) is the upper end of the interval it tracks. -/
structure DecSt (B : List Nat) (S : Nat) (Bt : List Nat) (d : Dec) (n X : Nat) : Prop where
  buf_eq : d.buf = B
  storage_eq : d.storage = S
  offs_eq : d.offs = min (n + 1) S
  rem_eq : d.rem = ((byteAt B S n : Nat) : Int)
  val_eq : d.val + codeVal Bt S (n + 1) / 2 + 1 = X

theorem DecInv.st {B : List Nat} {S : Nat} {e : Enc} {d : Dec} {Bt : List Nat} (h : DecInv B S e d Bt) :
    DecSt B S Bt d (encM e + 3) (encLow e + e.rng) :=
  ⟨h.buf_eq, h.storage_eq, h.offs_eq, h.rem_eq, h.val_eq⟩

/-- One iteration of `ec_dec_normalize`: one more byte, everything times 256. -/
theorem decStep_st {B : List Nat} {S : Nat} {Bt : List Nat} (hB : ∀ i, byteAt B S i < 256) {d : Dec} {n X : Nat}
    (hag : ∀ i, n ≤ i → byteAt Bt S i = byteAt B S i) (st : DecSt B S Bt d n X) (hv : d.val < d.rng)
    (hr : d.rng ≤ 8388608) :
    DecSt B S Bt (decStep d) (n + 1) (X * 256) ∧ (decStep d).rng = d.rng * 256 ∧
    (decStep d).val < (decStep d).rng := by
  obtain ⟨ib, is, io, irem, iv⟩ := st
  obtain ⟨r1, r2, r3, r4, -⟩ := readByte_spec B S d (n + 1) ib is io
  have hb1 := hB (n + 1)
  have hb0 := hB n
  have e1 : (decStep d).rng = d.rng * 256 := u32_of_lt (by omega)
  have ev : (decStep d).val =
      (d.val * 256 + (255 - (byteAt B S n * 256 + byteAt B S (n + 1)) / 2 % 256)) % 2147483648 := by
    show (u32 (d.val * 256) + (255 - (d.rem.toNat * 256 + (readByte d).1) / 2 % 256)) % 2147483648 = _
    rw [r1, irem, u32_of_lt (by omega)]; simp only [Int.toNat_natCast]
  have cv0 : codeVal Bt S (n + 1) = codeVal Bt S n * 256 + byteAt B S n := by
    simp only [codeVal]; rw [hag n (Nat.le_refl _)]
  have cv1 : codeVal Bt S (n + 1 + 1) = codeVal Bt S (n + 1) * 256 + byteAt B S (n + 1) := by
    simp only [codeVal]; rw [hag (n + 1) (by omega)]
  refine ⟨⟨r3, r4, r2, ?_, ?_⟩, e1, ?_⟩
  · show (((readByte d).1 : Nat) : Int) = _; rw [r1]
  · rw [ev, cv1, cv0]; rw [cv0] at iv
    generalize codeVal Bt S n = cv at *
    generalize byteAt B S n = b0 at *
    generalize byteAt B S (n + 1) = b1 at *
    omega
  · rw [ev, e1]; omega

/-- `ec_dec_normalize` on its own: `k` iterations read `k` bytes and multiply range and interval end by `256^k`. -/
theorem decNormalize_st {B : List Nat} {S : Nat} {Bt : List Nat} (hB : ∀ i, byteAt B S i < 256) (d : Dec) :
    ∀ (n X : Nat), (∀ i, n ≤ i → byteAt Bt S i = byteAt B S i) → DecSt B S Bt d n X → d.val < d.rng →
    d.rng ≤ 2147483648 →
    ∃ k, DecSt B S Bt (decNormalize d) (n + k) (X * 256 ^ k) ∧ (decNormalize d).rng = d.rng * 256 ^ k ∧
      (decNormalize d).nbitsTotal = d.nbitsTotal + 8 * k := by
  induction hm : 8388609 - d.rng using Nat.strongRecOn generalizing d with
  | _ m ih =>
    intro n X hag st hv hr
    by_cases h : 0 < d.rng ∧ d.rng ≤ 8388608
    · rw [decNormalize_step d h]
      obtain ⟨st1, r1, v1⟩ := decStep_st hB hag st hv h.2
      obtain ⟨k, a, b, c⟩ := ih (8388609 - (decStep d).rng) (by rw [r1]; omega) (decStep d) rfl (n + 1) (X * 256)
        (fun i hi => hag i (by omega)) st1 v1 (by rw [r1]; omega)
      have e : (256 : Nat) ^ (k + 1) = 256 * 256 ^ k := by rw [Nat.pow_succ, Nat.mul_comm]
      refine ⟨k + 1, ?_, ?_, ?_⟩
      · rw [e, ← Nat.mul_assoc, show n + (k + 1) = n + 1 + k by omega]; exact a
      · rw [b, r1, e, Nat.mul_assoc]
      · rw [c]; show d.nbitsTotal + 8 + 8 * k = _; omega
    · rw [decNormalize_done d h]
      exact ⟨0, by simpa using st, by simp, by simp⟩

/-- `ec_dec_normalize` mirrors a successful `ec_enc_normalize`: each loop is known by its iteration count, and the two
    counts agree because both `nbits_total` are `normRN` of the same pair. -/
theorem decNormalize_spec (B : List Nat) (S : Nat) (hB : ∀ i, byteAt B S i < 256) (e : Enc) (d : Dec)
    (Bt : List Nat) (hag : ∀ i, 1 ≤ i → byteAt Bt S i = byteAt B S i) (hBt : ∀ i, byteAt Bt S i < 256)
    (pre : EncPre e) (inv : DecInv B S e d Bt) (hn : (encNormalize e).nbitsTotal < 4294967296)
    (herr : (encNormalize e).error = 0) (hc : Contains Bt S (encNormalize e)) :
    DecInv B S (encNormalize e) (decNormalize d) Bt := by
  obtain ⟨k, eM, eL, eR, eN, -⟩ := encNormalize_scale e pre hn herr
  have hv : d.val < d.rng := by
    have := inv.val_eq; have := (contains_scale hBt eM (Nat.le_of_eq eL.symm) (by rw [eL, eR, Nat.add_mul]; exact Nat.le_refl _) hc).1; rw [inv.rng_eq]; omega
  obtain ⟨k', st, -, dN⟩ := decNormalize_st hB d _ _ (fun i hi => hag i (by omega)) inv.st hv
    (by rw [inv.rng_eq]; exact pre.rng_hi)
  have hrn : ((decNormalize d).rng, (decNormalize d).nbitsTotal) =
      ((encNormalize e).rng, (encNormalize e).nbitsTotal) := by
    rw [decNormalize_rn, encNormalize_rn, inv.rng_eq, inv.nbits_eq]
  have hk : k' = k := by have := inv.nbits_eq; have := congrArg Prod.snd hrn; simp only at this; omega
  subst hk
  have e4 : encM e + k' + 4 = encM e + 3 + k' + 1 := by omega
  have e3 : encM e + k' + 3 = encM e + 3 + k' := by omega
  exact ⟨st.buf_eq, st.storage_eq, congrArg Prod.fst hrn, congrArg Prod.snd hrn,
    by rw [eM, eL, eR, e4, ← Nat.add_mul]; exact st.val_eq, by rw [eM, e4]; exact st.offs_eq,
    by rw [eM, e3]; exact st.rem_eq⟩

end Opus.RangeCoder
