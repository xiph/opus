import OpusProofs.Ctl
import OpusProofs.EncDecideHonour
/-
  OpusProofs.CtlStepRun — the range invariant `EncInv = CtlInv ∧ DInv` over histories whose encode
  event is the MODEL of `opus_encode_native` (`EncDecide.step`), not the monitored adopt view of
  `encRun`: nothing about the decision state is assumed of an encode call, only the C types of the
  DSP-dependent inputs (`OracleOk`) and the ranges of the three fields the SILK/analysis code writes
  into the encoder object and that `step` does not model (`FreeRange`).
-/
namespace Opus.Ctl
open Opus Opus.EncDecide

/-- The encoder-object fields an encode call writes that `EncDecide.step` does not compute:
    `voice_ratio` (float analysis), `silk_mode.maxInternalSampleRate` (a constant 8000/12000/16000,
    opus_encoder.c:2021-2045), `silk_mode.useCBR` (= !use_vbr), SILK's DTX flags, `rangeFinal`, CELT's energy-mask pointer. -/
structure Free where
  voiceRatio : Int
  maxInternalSampleRate : Int
  useCBR : Int
  silkUseDTX : Int
  silkInDtx : Int
  noActivityQ1 : Int
  rangeFinal : Nat
  celtEnergyMask : Bool

structure FreeRange (x : Free) : Prop where
  voice : -1 ≤ x.voiceRatio ∧ x.voiceRatio ≤ 100
  rate : x.maxInternalSampleRate = 8000 ∨ x.maxInternalSampleRate = 12000 ∨ x.maxInternalSampleRate = 16000
  cbr : x.useCBR = 0 ∨ x.useCBR = 1

inductive StepEv
  | ctl (r : EncReq)
  | encode (o : Oracle) (frameSize outDataBytes : Int) (x : Free)

/-- One encode call: the decision state advances by `step`; the unmodelled fields take any values. -/
def stepEncode (s : EncSt) (o : Oracle) (f b : Int) (x : Free) : EncSt :=
  { s with toDSt := (step s.toDSt o f b).1, voiceRatio := x.voiceRatio,
           maxInternalSampleRate := x.maxInternalSampleRate, useCBR := x.useCBR, silkUseDTX := x.silkUseDTX,
           silkInDtx := x.silkInDtx, noActivityQ1 := x.noActivityQ1, rangeFinal := x.rangeFinal,
           celtEnergyMask := x.celtEnergyMask }

def stepApply (s : EncSt) : StepEv → EncSt
  | .ctl r => (encCtl s r).1
  | .encode o f b x => stepEncode s o f b x

def stepRun : EncSt → List StepEv → EncSt
  | s, [] => s
  | s, e :: es => stepRun (stepApply s e) es

/-- All that is asked of the events: the DSP inputs have their C types' ranges, and the fields
    `step` does not compute are in range (`FreeRange`). -/
def StepEvOk : StepEv → Prop
  | .ctl _ => True
  | .encode o _ _ x => OracleOk o ∧ FreeRange x

/-- `step_settings` as a structure update: an encode call writes the running state only. -/
theorem step_running (s : DSt) (o : Oracle) (f b : Int) :
    (step s o f b).1 =
      { s with streamChannels := (step s o f b).1.streamChannels, mode := (step s o f b).1.mode,
               prevMode := (step s o f b).1.prevMode, prevChannels := (step s o f b).1.prevChannels,
               prevFramesize := (step s o f b).1.prevFramesize, bandwidth := (step s o f b).1.bandwidth,
               first := (step s o f b).1.first, toMono := (step s o f b).1.toMono } := by
  obtain ⟨e1, e2, e3, e4, e5, e6, e7, e8, e9, e10⟩ := step_settings s o f b
  generalize (step s o f b).1 = d at *
  cases d
  cases s
  simp only [] at e1 e2 e3 e4 e5 e6 e7 e8 e9 e10
  subst e1 e2 e3 e4 e5 e6 e7 e8 e9 e10
  rfl

theorem stepEncode_inv {s : EncSt} (hi : EncInv s) {o : Oracle} (ho : OracleOk o) (f b : Int) {x : Free}
    (hx : FreeRange x) : EncInv (stepEncode s o f b x) := by
  obtain ⟨hc, hd⟩ := hi
  refine ⟨?_, step_inv hd ho f b⟩
  unfold stepEncode
  rw [step_running]
  exact { hc with cbr := hx.cbr, voice := hx.voice, silkRate := hx.rate }

theorem stepRun_inv {s : EncSt} (hi : EncInv s) (evs : List StepEv) (hok : ∀ e ∈ evs, StepEvOk e) :
    EncInv (stepRun s evs) := by
  induction evs generalizing s with
  | nil => exact hi
  | cons e es ih =>
    apply ih _ (fun x hx => hok x (List.mem_cons_of_mem _ hx))
    have he := hok e List.mem_cons_self
    cases e with
    | ctl r => exact encCtl_inv hi r
    | encode o f b x => exact stepEncode_inv hi he.1 f b he.2

theorem stepEncode_settings (s : EncSt) (o : Oracle) (f b : Int) (x : Free) :
    settingsOf (stepEncode s o f b x) = settingsOf s := by
  unfold stepEncode
  rw [step_running]
  rfl

end Opus.Ctl
