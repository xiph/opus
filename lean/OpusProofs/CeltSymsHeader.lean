import OpusProofs.CeltSymsBasic
import OpusProofs.CeltSymsFrozenEq
import OpusProofs.SilkSymsBasic
import OpusProofs.LaplaceMain
/-
  C03, CELT header: every field of the CELT header lies in its legal range and the header model never reaches
  an assertion of laplace.c — for every decoder state satisfying the stand-alone invariant `J` (in particular for
  `ec_dec_init` on arbitrary bytes).
-/
namespace Opus.CeltSymsProofs
open Opus Opus.RangeCoder Opus.CeltSyms Opus.CeltSymsFrozen
open Opus.SilkSymsProofs (zeroPos decIcdf_le)

theorem tapset_ok : TblOk 2 tapsetIcdf ∧ zeroPos tapsetIcdf = 2 := by
  refine ⟨by simp [TblOk, Decr, tapsetIcdf], by decide⟩
theorem small_ok : TblOk 2 smallEnergyIcdf ∧ zeroPos smallEnergyIcdf = 2 := by
  refine ⟨by simp [TblOk, Decr, smallEnergyIcdf], by decide⟩
theorem spread_ok : TblOk 5 spreadIcdf ∧ zeroPos spreadIcdf = 3 := by
  refine ⟨by simp [TblOk, Decr, spreadIcdf], by decide⟩
theorem trim_ok : TblOk 7 trimIcdf ∧ zeroPos trimIcdf = 10 := by
  refine ⟨by simp [TblOk, Decr, trimIcdf], by decide⟩

/-- a symbol read with one of the tables above: its range, and `J` goes on -/
theorem icdf_ok (c : Dec) (hj : J c) {tbl : List Nat} {ftb n : Nat} (hf : ftb ≤ 8) (ht : TblOk ftb tbl ∧ zeroPos tbl = n) :
    (decIcdf c tbl ftb).1 ≤ n ∧ J (decIcdf c tbl ftb).2 :=
  ⟨ht.2 ▸ decIcdf_le c tbl ftb, J_icdf c hj tbl ftb hf ht.1⟩

theorem tfTable_range : ∀ LM, LM < 4 → ∀ idx, idx < 8 → -3 ≤ tfTable LM idx ∧ tfTable LM idx ≤ 3 := by decide

theorem readSilence_ok (total : Int) (c : Dec) (hj : J c) :
    J (readSilence total c).2.1 ∧ (readSilence total c).1 ≤ 1 := by
  unfold readSilence
  split
  · exact ⟨hj, by omega⟩
  · split
    · exact J_bitLogp c hj 15 (by omega) (by omega)
    · exact ⟨hj, by omega⟩

theorem applySilence_J (total t0 : Int) (sil : Nat) (c : Dec) (hj : J c) : J (applySilence total t0 sil c).2 := by
  unfold applySilence
  split
  · exact hj
  · exact hj

/-- The post-filter parameters are legal: octave ≤ 5, period in `[15, 1022]` (inside the comb-filter memory),
    gain index ≤ 7, tapset ≤ 2. -/
def PfOk (pf : PostFilter) : Prop :=
  pf.on ≤ 1 ∧ pf.octave ≤ 5 ∧ (pf.on = 1 → 15 ≤ pf.pitch ∧ pf.pitch ≤ 1022) ∧ pf.qg ≤ 7 ∧ pf.tapset ≤ 2

theorem pitch_range (oct pb : Nat) (ho : oct ≤ 5) (hp : pb < 2 ^ (4 + oct)) :
    15 ≤ 16 * 2 ^ oct + pb - 1 ∧ 16 * 2 ^ oct + pb - 1 ≤ 1022 := by
  have h1 : 1 ≤ 2 ^ oct := Nat.one_le_two_pow
  have h2 : 2 ^ oct ≤ 2 ^ 5 := pow_le_of_le ho
  rw [Nat.pow_add] at hp
  omega

theorem readPostFilterOn_ok (total : Int) (c : Dec) (hj : J c) :
    PfOk (readPostFilterOn total c).1 ∧ J (readPostFilterOn total c).2.1 := by
  unfold readPostFilterOn
  have h1 := J_uint c hj 6 (by omega) (by omega)
  generalize decUint c 6 = y at h1
  obtain ⟨oct, c1⟩ := y
  dsimp only at h1 ⊢
  have h2 := J_bits c1 h1.2 (4 + oct)
  generalize decBits c1 (4 + oct) = y at h2
  obtain ⟨pb, c2⟩ := y
  dsimp only at h2 ⊢
  have h3 := J_bits c2 h2.1 3
  generalize decBits c2 3 = y at h3
  obtain ⟨qg, c3⟩ := y
  dsimp only at h3 ⊢
  have hp := pitch_range oct pb (by omega) h2.2
  split
  · have h4 := icdf_ok c3 h3.1 (by omega) tapset_ok
    exact ⟨⟨by dsimp only; omega, by dsimp only; omega, fun _ => hp, by dsimp only; have := h3.2; omega, h4.1⟩, h4.2⟩
  · dsimp only
    exact ⟨⟨by dsimp only; omega, by dsimp only; omega, fun _ => hp, by dsimp only; have := h3.2; omega, by dsimp only; omega⟩, h3.1⟩

theorem readPostFilter_ok (start : Nat) (total tellV : Int) (c : Dec) (hj : J c) :
    PfOk (readPostFilter start total tellV c).1 ∧ J (readPostFilter start total tellV c).2.2.1 := by
  have hdef : PfOk ({} : PostFilter) := ⟨by decide, by decide, fun h => absurd h (by decide), by decide, by decide⟩
  unfold readPostFilter
  split
  · have h1 := J_bitLogp c hj 1 (by omega) (by omega)
    generalize decBitLogp c 1 = y at h1
    obtain ⟨b, c1⟩ := y
    dsimp only at h1 ⊢
    split
    · have h2 := readPostFilterOn_ok total c1 h1.1
      generalize readPostFilterOn total c1 = z at h2
      obtain ⟨pf, c2, tr⟩ := z
      exact h2
    · exact ⟨hdef, h1.1⟩
  · exact ⟨hdef, hj⟩

theorem readTransient_ok (LM : Nat) (total tellV : Int) (c : Dec) (hj : J c) :
    (readTransient LM total tellV c).1 ≤ 1 ∧ J (readTransient LM total tellV c).2.2.1 := by
  unfold readTransient
  split
  · exact (J_bitLogp c hj 3 (by omega) (by omega)).symm
  · exact ⟨by omega, hj⟩

theorem readIntra_ok (total tellV : Int) (c : Dec) (hj : J c) :
    (readIntra total tellV c).1 ≤ 1 ∧ J (readIntra total tellV c).2.1 := by
  unfold readIntra
  split
  · exact (J_bitLogp c hj 3 (by omega) (by omega)).symm
  · exact ⟨by omega, hj⟩

/-- A coarse-energy symbol is one of the fallback values or a value the Laplace coder can represent with the
    parameters of some band (a fixed point of `ec_laplace_encode`: no clamping applies to it). -/
def QiOk (LM intra : Nat) (q : Int) : Prop :=
  q = -1 ∨ q = 0 ∨ q = 1 ∨
  ∃ b fl fh, b < 21 ∧
    Laplace.encode q (OpusProofs.Laplace.eprobFs LM intra b) (OpusProofs.Laplace.eprobDecay LM intra b) = .ok (fl, fh, q)

theorem smallMap_range (q : Nat) (h : q ≤ 2) : smallMap q = -1 ∨ smallMap q = 0 ∨ smallMap q = 1 := by
  have : q = 0 ∨ q = 1 ∨ q = 2 := by omega
  rcases this with rfl | rfl | rfl <;> simp [smallMap]

theorem coarseOne_ok (LM intra : Nat) (hl : LM < 4) (hi : intra < 2) (i : Nat) (c : Dec) (hj : J c) :
    ∃ q c' tr, coarseOne ((eProbModel.getD LM []).getD intra []) i c = .ok (q, c', tr) ∧ QiOk LM intra q ∧ J c' := by
  unfold coarseOne
  split
  · -- Laplace symbol
    rw [decodeBin_eq c 15 (by omega)]
    have hd := decode_lt c hj (2 ^ 15) (by omega) (by omega)
    generalize decode c (2 ^ 15) = y at hd
    obtain ⟨fm, c1⟩ := y
    dsimp only at hd ⊢
    have hb : min i 20 < 21 := by omega
    have hok := OpusProofs.Laplace.eprob_ok hl hi hb
    have hfs : (((eProbModel.getD LM []).getD intra []).getD (2 * min i 20) 0) * 128 =
        OpusProofs.Laplace.eprobFs LM intra (min i 20) := by
      unfold OpusProofs.Laplace.eprobFs; rw [frozen_eProbModel]
    have hdc : (((eProbModel.getD LM []).getD intra []).getD (2 * min i 20 + 1) 0) * 64 =
        OpusProofs.Laplace.eprobDecay LM intra (min i 20) := by
      unfold OpusProofs.Laplace.eprobDecay; rw [frozen_eProbModel]
    rw [hfs, hdc]
    obtain ⟨T, hp⟩ := OpusProofs.Laplace.par_of_ok hok.1
    obtain ⟨v, fl, fh, hdec, h1, h2, h3, henc⟩ := OpusProofs.Laplace.decode_then_encode hp (fm := fm) (by
      have := hd.1; omega)
    rw [hdec]
    dsimp only
    refine ⟨v, _, _, rfl, Or.inr (Or.inr (Or.inr ⟨min i 20, fl, fh, hb, henc⟩)), ?_⟩
    rw [hd.2]
    exact J_update c hj 32768 fl fh (by omega) (by omega) (by omega) h3
  · split
    · have h4 := icdf_ok c hj (by omega) small_ok
      refine ⟨_, _, _, rfl, ?_, h4.2⟩
      rcases smallMap_range _ h4.1 with h | h | h
      · exact Or.inl h
      · exact Or.inr (Or.inl h)
      · exact Or.inr (Or.inr (Or.inl h))
    · split
      · have h1 := J_bitLogp c hj 1 (by omega) (by omega)
        generalize decBitLogp c 1 = y at h1
        obtain ⟨b, c1⟩ := y
        dsimp only at h1 ⊢
        refine ⟨_, _, _, rfl, ?_, h1.1⟩
        have : b = 0 ∨ b = 1 := by omega
        rcases this with rfl | rfl
        · exact Or.inr (Or.inl (by simp))
        · exact Or.inl (by simp)
      · exact ⟨_, _, _, rfl, Or.inl rfl, hj⟩

theorem coarseChans_ok (LM intra : Nat) (hl : LM < 4) (hi : intra < 2) (i : Nat) : ∀ (n : Nat) (c : Dec), J c →
    ∃ qs c' tr, coarseChans ((eProbModel.getD LM []).getD intra []) i n c = .ok (qs, c', tr) ∧
      qs.length = n ∧ (∀ q ∈ qs, QiOk LM intra q) ∧ J c'
  | 0, c, hj => ⟨[], c, [], by unfold coarseChans; rfl, rfl, by intro q hq; simp at hq, hj⟩
  | n + 1, c, hj => by
    obtain ⟨q, c1, t1, h1, hq, hj1⟩ := coarseOne_ok LM intra hl hi i c hj
    obtain ⟨qs, c2, t2, h2, hlen, hqs, hj2⟩ := coarseChans_ok LM intra hl hi i n c1 hj1
    refine ⟨q :: qs, c2, t1 ++ t2, ?_, by simp [hlen], List.forall_mem_cons.mpr ⟨hq, hqs⟩, hj2⟩
    unfold coarseChans; rw [h1]; dsimp only; rw [h2]

theorem coarseBands_ok (LM intra C : Nat) (hl : LM < 4) (hi : intra < 2) : ∀ (k i : Nat) (c : Dec), J c →
    ∃ qs c' tr, coarseBands ((eProbModel.getD LM []).getD intra []) C k i c = .ok (qs, c', tr) ∧
      qs.length = k * C ∧ (∀ q ∈ qs, QiOk LM intra q) ∧ J c'
  | 0, i, c, hj => ⟨[], c, [], by unfold coarseBands; rfl, by simp, by intro q hq; simp at hq, hj⟩
  | k + 1, i, c, hj => by
    obtain ⟨q, c1, t1, h1, hlen1, hq, hj1⟩ := coarseChans_ok LM intra hl hi i C c hj
    obtain ⟨qs, c2, t2, h2, hlen, hqs, hj2⟩ := coarseBands_ok LM intra C hl hi k (i + 1) c1 hj1
    refine ⟨q ++ qs, c2, t1 ++ t2, ?_, ?_, List.forall_mem_append.mpr ⟨hq, hqs⟩, hj2⟩
    · unfold coarseBands; rw [h1]; dsimp only; rw [h2]
    · simp only [List.length_append, hlen1, hlen]; rw [Nat.add_mul, Nat.one_mul, Nat.add_comm]


theorem xor_bit {a b : Nat} (ha : a ≤ 1) (hb : b ≤ 1) : a ^^^ b ≤ 1 := by
  have : a = 0 ∨ a = 1 := by omega
  have : b = 0 ∨ b = 1 := by omega
  rcases ‹a = 0 ∨ a = 1› with rfl | rfl <;> rcases ‹b = 0 ∨ b = 1› with rfl | rfl <;> decide

theorem or_bit {a b : Nat} (ha : a ≤ 1) (hb : b ≤ 1) : a ||| b ≤ 1 := by
  have : a = 0 ∨ a = 1 := by omega
  have : b = 0 ∨ b = 1 := by omega
  rcases ‹a = 0 ∨ a = 1› with rfl | rfl <;> rcases ‹b = 0 ∨ b = 1› with rfl | rfl <;> decide

theorem tfLoop_ok (isT : Bool) (budget : Int) : ∀ (k logp curr changed : Nat) (tellV : Int) (c : Dec), J c →
    curr ≤ 1 → changed ≤ 1 → 1 ≤ logp → logp ≤ 23 →
    let r := tfLoop isT budget k logp curr changed tellV c
    r.1.length = k ∧ (∀ x ∈ r.1, x ≤ 1) ∧ r.2.1 ≤ 1 ∧ J r.2.2.1
  | 0, logp, curr, changed, tellV, c, hj, _, hch, _, _ => by
    unfold tfLoop
    exact ⟨rfl, by intro x hx; simp at hx, hch, hj⟩
  | k + 1, logp, curr, changed, tellV, c, hj, hc, hch, h1, h2 => by
    have hnext : 1 ≤ (if isT then 4 else 5) ∧ (if isT then 4 else 5) ≤ 23 := by split <;> omega
    unfold tfLoop
    split
    · have hb := J_bitLogp c hj logp h1 h2
      generalize decBitLogp c logp = y at hb
      obtain ⟨b, c1⟩ := y
      dsimp only at hb ⊢
      have hx := xor_bit hc hb.2
      have ih := tfLoop_ok isT budget k (if isT then 4 else 5) (curr ^^^ b) (changed ||| (curr ^^^ b)) (tell c1) c1
        hb.1 hx (or_bit hch hx) hnext.1 hnext.2
      generalize tfLoop isT budget k (if isT then 4 else 5) (curr ^^^ b) (changed ||| (curr ^^^ b)) (tell c1) c1 = z at ih
      obtain ⟨rs, ch, c2, tr⟩ := z
      dsimp only at ih ⊢
      exact ⟨by simp [ih.1], List.forall_mem_cons.mpr ⟨hx, ih.2.1⟩, ih.2.2.1, ih.2.2.2⟩
    · have ih := tfLoop_ok isT budget k (if isT then 4 else 5) curr changed tellV c hj hc hch hnext.1 hnext.2
      generalize tfLoop isT budget k (if isT then 4 else 5) curr changed tellV c = z at ih
      obtain ⟨rs, ch, c2, tr⟩ := z
      dsimp only at ih ⊢
      exact ⟨by simp [ih.1], List.forall_mem_cons.mpr ⟨hc, ih.2.1⟩, ih.2.2.1, ih.2.2.2⟩

theorem tfFinish_ok (cfg : CeltCfg) (hl : cfg.LM < 4) (isT : Nat) (ht : isT ≤ 1) (rsv : Nat) (raw : List Nat)
    (hraw : ∀ x ∈ raw, x ≤ 1) (changed : Nat) (c1 : Dec) (hj : J c1) (tr : List CEv) :
    let r := tfFinish cfg isT rsv raw changed c1 tr
    r.1.length = raw.length ∧ (∀ t ∈ r.1, -3 ≤ t ∧ t ≤ 3) ∧ r.2.1 ≤ 1 ∧ J r.2.2.1 := by
  have hrange : ∀ f : Nat → Nat, (∀ r, r ≤ 1 → f r < 8) → ∀ t ∈ raw.map (fun r => tfTable cfg.LM (f r)), -3 ≤ t ∧ t ≤ 3 := by
    intro f hf t ht'
    obtain ⟨r, hr, rfl⟩ := List.mem_map.mp ht'
    exact tfTable_range cfg.LM hl _ (hf r (hraw r hr))
  unfold tfFinish
  split
  · have hb := J_bitLogp c1 hj 1 (by omega) (by omega)
    exact ⟨by simp, hrange _ (fun r hr => by have := hb.2; omega), hb.2, hb.1⟩
  · exact ⟨by simp, hrange _ (fun r hr => by omega), Nat.zero_le 1, hj⟩

theorem tfDecode_ok (cfg : CeltCfg) (hl : cfg.LM < 4) (isT : Nat) (ht : isT ≤ 1) (c : Dec) (hj : J c) :
    let r := tfDecode cfg isT c
    r.1.length = cfg.end_ - cfg.start ∧ (∀ t ∈ r.1, -3 ≤ t ∧ t ≤ 3) ∧ r.2.1 ≤ 1 ∧ J r.2.2.1 := by
  unfold tfDecode
  have hlp : 1 ≤ (if isT ≠ 0 then 2 else 4) ∧ (if isT ≠ 0 then 2 else 4) ≤ 23 := by split <;> omega
  have h := tfLoop_ok (decide (isT ≠ 0)) (((c.storage * 8 : Nat) : Int) - tfRsv cfg isT c)
    (cfg.end_ - cfg.start) (if isT ≠ 0 then 2 else 4) 0 0 (tell c) c hj (by omega) (by omega) hlp.1 hlp.2
  generalize tfLoop (decide (isT ≠ 0)) (((c.storage * 8 : Nat) : Int) - tfRsv cfg isT c)
    (cfg.end_ - cfg.start) (if isT ≠ 0 then 2 else 4) 0 0 (tell c) c = z at h
  obtain ⟨raw, changed, c1, tr⟩ := z
  dsimp only at h ⊢
  have hf := tfFinish_ok cfg hl isT ht (tfRsv cfg isT c) raw h.2.1 changed c1 h.2.2.2 tr
  exact ⟨by rw [hf.1, h.1], hf.2.1, hf.2.2.1, hf.2.2.2⟩

theorem readSpread_ok (total : Int) (c : Dec) (hj : J c) : (readSpread total c).1 ≤ 3 ∧ J (readSpread total c).2.1 := by
  unfold readSpread
  split
  · exact icdf_ok c hj (by omega) spread_ok
  · exact ⟨by omega, hj⟩

theorem readTrim_ok (totalF : Int) (c : Dec) (hj : J c) : (readTrim totalF c).1 ≤ 10 ∧ J (readTrim totalF c).2.1 := by
  unfold readTrim
  split
  · exact icdf_ok c hj (by omega) trim_ok
  · exact ⟨by omega, hj⟩

theorem boostLoop_ok (cap quanta : Nat) : ∀ (n logp boost : Nat) (totalF : Int) (c : Dec), cap - boost ≤ n → J c →
    1 ≤ logp → logp ≤ 23 →
    let r := boostLoop cap quanta logp boost totalF c
    (r.1 = boost ∨ r.1 < cap + quanta) ∧ J r.2.2.1
  | 0, logp, boost, totalF, c, hn, hj, _, _ => by
    rw [boostLoop]
    rw [dif_neg (by omega)]
    exact ⟨Or.inl rfl, hj⟩
  | n + 1, logp, boost, totalF, c, hn, hj, h1, h2 => by
    rw [boostLoop]
    split
    · rename_i hc
      have hb := J_bitLogp c hj logp h1 h2
      generalize decBitLogp c logp = y at hb
      obtain ⟨flag, c1⟩ := y
      dsimp only at hb ⊢
      split
      · exact ⟨Or.inl rfl, hb.1⟩
      · have ih := boostLoop_ok cap quanta n 1 (boost + quanta) (totalF - quanta) c1 (by omega) hb.1 (by omega) (by omega)
        generalize boostLoop cap quanta 1 (boost + quanta) (totalF - quanta) c1 = z at ih
        obtain ⟨b, t, c2, tr⟩ := z
        dsimp only at ih ⊢
        refine ⟨Or.inr ?_, ih.2⟩
        rcases ih.1 with h | h <;> omega
    · exact ⟨Or.inl rfl, hj⟩

/-- A boost is `0` or stays below `cap[i] + quanta` (the loop stops as soon as the boost reaches the cap). -/
def BoostOk (cfg : CeltCfg) (i b : Nat) : Prop := b = 0 ∨ b < capOf cfg i + quantaOf cfg i

theorem dynalloc_ok (cfg : CeltCfg) : ∀ (k i dlogp : Nat) (totalF : Int) (c : Dec), J c → 2 ≤ dlogp → dlogp ≤ 6 →
    let r := dynalloc cfg k i dlogp totalF c
    r.1.length = k ∧ (∀ j, j < k → BoostOk cfg (i + j) (r.1.getD j 0)) ∧ J r.2.2.1
  | 0, i, dlogp, totalF, c, hj, _, _ => by
    unfold dynalloc
    exact ⟨rfl, by intro j hjj; omega, hj⟩
  | k + 1, i, dlogp, totalF, c, hj, h1, h2 => by
    unfold dynalloc
    have hb := boostLoop_ok (capOf cfg i) (quantaOf cfg i) (capOf cfg i - 0) dlogp 0 totalF c (Nat.le_refl _) hj
      (by omega) (by omega)
    generalize boostLoop (capOf cfg i) (quantaOf cfg i) dlogp 0 totalF c = y at hb
    obtain ⟨boost, t1, c1, tr1⟩ := y
    dsimp only at hb ⊢
    have hnext : 2 ≤ (if boost > 0 then max 2 (dlogp - 1) else dlogp) ∧ (if boost > 0 then max 2 (dlogp - 1) else dlogp) ≤ 6 := by
      split <;> omega
    have ih := dynalloc_ok cfg k (i + 1) (if boost > 0 then max 2 (dlogp - 1) else dlogp) t1 c1 hb.2 hnext.1 hnext.2
    generalize dynalloc cfg k (i + 1) (if boost > 0 then max 2 (dlogp - 1) else dlogp) t1 c1 = z at ih
    obtain ⟨bs, t2, c2, tr2⟩ := z
    dsimp only at ih ⊢
    refine ⟨by simp [ih.1], ?_, ih.2.2⟩
    intro j hjj
    cases j with
    | zero => simpa [BoostOk] using hb.1
    | succ j =>
      have := ih.2.1 j (by omega)
      have e : i + 1 + j = i + (j + 1) := by omega
      rw [e] at this
      simpa using this

/-- Everything guaranteed about a decoded CELT header. -/
structure HdrOk (cfg : CeltCfg) (h : CeltHdr) : Prop where
  silence : h.silence ≤ 1
  pf : PfOk h.pf
  transient : h.isTransient ≤ 1
  intra : h.intra ≤ 1
  coarseLen : h.coarse.length = (cfg.end_ - cfg.start) * cfg.C
  coarse : ∀ q ∈ h.coarse, QiOk cfg.LM h.intra q
  tfLen : h.tfRes.length = cfg.end_ - cfg.start
  tf : ∀ t ∈ h.tfRes, -3 ≤ t ∧ t ≤ 3
  tfSelect : h.tfSelect ≤ 1
  spread : h.spread ≤ 3
  offsLen : h.offsets.length = cfg.end_ - cfg.start
  offs : ∀ j, j < cfg.end_ - cfg.start → BoostOk cfg (cfg.start + j) (h.offsets.getD j 0)
  trim : h.trim ≤ 10
  dec : J h.dec

theorem readFlags_ok (cfg : CeltCfg) (total : Int) (c : Dec) (hj : J c) :
    let r := readFlags cfg total c
    r.1.1 ≤ 1 ∧ PfOk r.1.2.1 ∧ r.1.2.2.1 ≤ 1 ∧ r.1.2.2.2 ≤ 1 ∧ J r.2.1 := by
  unfold readFlags
  have h1 := readSilence_ok total c hj
  generalize readSilence total c = y at h1
  obtain ⟨sil, c1, t1⟩ := y
  dsimp only at h1 ⊢
  have h2 := applySilence_J total (tell c) sil c1 h1.1
  generalize applySilence total (tell c) sil c1 = y at h2
  obtain ⟨tv1, c2⟩ := y
  dsimp only at h2 ⊢
  have h3 := readPostFilter_ok cfg.start total tv1 c2 h2
  generalize readPostFilter cfg.start total tv1 c2 = y at h3
  obtain ⟨pf, tv2, c3, t2⟩ := y
  dsimp only at h3 ⊢
  have h4 := readTransient_ok cfg.LM total tv2 c3 h3.2
  generalize readTransient cfg.LM total tv2 c3 = y at h4
  obtain ⟨isT, tv3, c4, t3⟩ := y
  dsimp only at h4 ⊢
  have h5 := readIntra_ok total tv3 c4 h4.2
  generalize readIntra total tv3 c4 = y at h5
  obtain ⟨intra, c5, t4⟩ := y
  dsimp only at h5 ⊢
  exact ⟨h1.2, h3.1, h4.1, h5.1, h5.2⟩

theorem readTail_ok (cfg : CeltCfg) (hl : cfg.LM < 4) (len : Nat) (flags : Nat × PostFilter × Nat × Nat)
    (hf : flags.1 ≤ 1 ∧ PfOk flags.2.1 ∧ flags.2.2.1 ≤ 1 ∧ flags.2.2.2 ≤ 1) (coarse : List Int)
    (hc : coarse.length = (cfg.end_ - cfg.start) * cfg.C ∧ ∀ q ∈ coarse, QiOk cfg.LM flags.2.2.2 q)
    (tr0 : List CEv) (c : Dec) (hj : J c) : HdrOk cfg (readTail cfg len flags coarse tr0 c) := by
  unfold readTail
  have h1 := tfDecode_ok cfg hl flags.2.2.1 hf.2.2.1 c hj
  generalize tfDecode cfg flags.2.2.1 c = y at h1
  obtain ⟨tf, sel, c1, t1⟩ := y
  dsimp only at h1 ⊢
  have h2 := readSpread_ok ((len * 8 : Nat) : Int) c1 h1.2.2.2
  generalize readSpread ((len * 8 : Nat) : Int) c1 = y at h2
  obtain ⟨spread, c2, t2⟩ := y
  dsimp only at h2 ⊢
  have h3 := dynalloc_ok cfg (cfg.end_ - cfg.start) cfg.start 6 ((len * 8 * 8 : Nat) : Int) c2 h2.2 (by omega) (by omega)
  generalize dynalloc cfg (cfg.end_ - cfg.start) cfg.start 6 ((len * 8 * 8 : Nat) : Int) c2 = y at h3
  obtain ⟨offs, totalF, c3, t3⟩ := y
  dsimp only at h3 ⊢
  have h4 := readTrim_ok totalF c3 h3.2.2
  generalize readTrim totalF c3 = y at h4
  obtain ⟨trim, c4, t4⟩ := y
  dsimp only at h4 ⊢
  exact ⟨hf.1, hf.2.1, hf.2.2.1, hf.2.2.2, hc.1, hc.2, h1.1, h1.2.1, h1.2.2.1, h2.1, h3.1, h3.2.1, h4.1, h4.2⟩

/-- Totality and legality of the CELT header model: from any decoder state satisfying `J`, for every configuration
    with `LM ≤ 3`, the header decodes (no laplace.c assertion) and every field is legal. -/
theorem celtHeader_ok (cfg : CeltCfg) (hl : cfg.LM < 4) (len : Nat) (c : Dec) (hj : J c) :
    ∃ h, celtHeader cfg len c = .ok h ∧ HdrOk cfg h := by
  unfold celtHeader
  have h1 := readFlags_ok cfg ((len * 8 : Nat) : Int) c hj
  generalize readFlags cfg ((len * 8 : Nat) : Int) c = y at h1
  obtain ⟨flags, c1, t1⟩ := y
  dsimp only at h1 ⊢
  unfold coarseEnergy
  obtain ⟨qs, c2, t2, h2, hlen, hq, hj2⟩ := coarseBands_ok cfg.LM flags.2.2.2 cfg.C hl (by omega)
    (cfg.end_ - cfg.start) cfg.start c1 h1.2.2.2.2
  rw [h2]
  dsimp only
  exact ⟨_, rfl, readTail_ok cfg hl len flags ⟨h1.1, h1.2.1, h1.2.2.1, h1.2.2.2.1⟩ qs ⟨hlen, hq⟩ (t1 ++ t2) c2 hj2⟩

end Opus.CeltSymsProofs
