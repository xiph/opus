import OpusModel.Delay
/-
  OpusProofs.Delay — lemmas about the look-ahead model (`OpusModel/Delay.lean`).
-/
namespace Opus.Delay
open Opus Opus.Gen.Window

theorem validFs_cases {fs : Nat} (h : validFs fs = true) :
    fs = 48000 ∨ fs = 24000 ∨ fs = 16000 ∨ fs = 12000 ∨ fs = 8000 := by
  simp [validFs] at h; omega

theorem validApp_cases {app : Int} (h : validApp app = true) :
    app = APP_VOIP ∨ app = APP_AUDIO ∨ app = APP_RESTRICTED_LOWDELAY := by
  simpa [validApp, or_assoc] using h

/-- The model's constants are the ones of include/opus_defines.h as compiled. -/
theorem app_constants :
    APP_VOIP = applicationVoip ∧ APP_AUDIO = applicationAudio ∧
    APP_RESTRICTED_LOWDELAY = applicationRestrictedLowdelay := by decide

/-- What `init` returns, with the BAD_ARG test as a proposition. -/
theorem init_eq (fs ch : Nat) (app : Int) :
    init fs ch app = if validFs fs = true ∧ (ch = 1 ∨ ch = 2) ∧ validApp app = true
      then .ok { fs := fs, channels := ch, application := app, delayCompensation := fs / 250,
                 encoderBuffer := fs / 100, first := true }
      else .err .badArg := by
  unfold init
  by_cases h1 : validFs fs = true <;> by_cases h2 : validApp app = true <;>
    by_cases h3 : ch = 1 <;> by_cases h4 : ch = 2 <;> simp [h1, h2, h3, h4]

/-- `init` succeeds exactly on the argument combinations opus_encoder_init accepts. -/
theorem init_ok_iff (fs ch : Nat) (app : Int) :
    (∃ st, init fs ch app = .ok st) ↔ (validFs fs = true ∧ (ch = 1 ∨ ch = 2) ∧ validApp app = true) := by
  rw [init_eq]; split <;> simp [*]

theorem init_err (fs ch : Nat) (app : Int)
    (h : ¬ (validFs fs = true ∧ (ch = 1 ∨ ch = 2) ∧ validApp app = true)) :
    init fs ch app = .err .badArg := by
  rw [init_eq, if_neg h]

theorem init_fields {fs ch : Nat} {app : Int} {st : Enc} (h : init fs ch app = .ok st) :
    st.fs = fs ∧ st.channels = ch ∧ st.application = app ∧ st.delayCompensation = fs / 250 ∧
    st.encoderBuffer = fs / 100 ∧ st.first = true ∧ validFs fs = true ∧ validApp app = true := by
  rw [init_eq] at h
  split at h
  · next hc => injection h with h; subst h; exact ⟨rfl, rfl, rfl, rfl, rfl, rfl, hc.1, hc.2.2⟩
  · cases h

/-- State invariant: the stored compensation is Fs/250 for a valid rate, the application is a valid one. -/
def Inv (st : Enc) : Prop :=
  validFs st.fs = true ∧ validApp st.application = true ∧ st.delayCompensation = st.fs / 250 ∧
  st.encoderBuffer = st.fs / 100

theorem init_inv {fs ch : Nat} {app : Int} {st : Enc} (h : init fs ch app = .ok st) : Inv st := by
  obtain ⟨a, _, c, d, e, _, g, i⟩ := init_fields h
  exact ⟨a ▸ g, c ▸ i, by rw [d, a], by rw [e, a]⟩

theorem setApplication_ok {st st' : Enc} {v : Int} (h : setApplication st v = .ok st') :
    st' = { st with application := v } ∧ validApp v = true ∧ (st.first = true ∨ st.application = v) := by
  unfold setApplication at h
  split at h
  · cases h
  · next hc =>
    injection h with h
    refine ⟨h.symm, ?_, ?_⟩
    · by_cases h2 : validApp v = true <;> simp_all
    · by_cases h3 : st.first = true
      · exact Or.inl h3
      · right
        by_cases h4 : st.application = v
        · exact h4
        · simp_all

theorem setApplication_inv {st st' : Enc} {v : Int} (hi : Inv st) (h : setApplication st v = .ok st') : Inv st' := by
  obtain ⟨e, hv, _⟩ := setApplication_ok h
  subst e
  exact ⟨hi.1, hv, hi.2.2.1, hi.2.2.2⟩

theorem afterEncode_inv {st : Enc} (hi : Inv st) : Inv (afterEncode st) := hi
theorem resetState_inv {st : Enc} (hi : Inv st) : Inv (resetState st) := hi

/-- Under the invariant the reported look-ahead is the closed form of the current (Fs, application). -/
theorem getLookahead_of_inv {st : Enc} (hi : Inv st) : getLookahead st = lookahead st.fs st.application := by
  unfold getLookahead lookahead
  rw [hi.2.2.1]
  by_cases h : st.application = APP_RESTRICTED_LOWDELAY <;> simp [h]

/-- Client operations that can touch the look-ahead inputs. -/
inductive Op where
  | setApp (v : Int)
  | encode
  | reset
  deriving Repr

/-- A rejected ctl leaves the state unchanged (the C code `break`s before any store). -/
def step (st : Enc) : Op → Enc
  | .setApp v => match setApplication st v with
    | .ok st' => st'
    | _ => st
  | .encode => afterEncode st
  | .reset => resetState st

def run (st : Enc) (ops : List Op) : Enc := ops.foldl step st

theorem step_inv {st : Enc} (hi : Inv st) (op : Op) : Inv (step st op) := by
  cases op with
  | setApp v =>
    show Inv (match setApplication st v with | .ok st' => st' | _ => st)
    split
    · next st' h => exact setApplication_inv hi h
    · exact hi
  | encode => exact afterEncode_inv hi
  | reset => exact resetState_inv hi

theorem run_inv {st : Enc} (hi : Inv st) (ops : List Op) : Inv (run st ops) := by
  induction ops generalizing st with
  | nil => exact hi
  | cons op ops ih => exact ih (step_inv hi op)

theorem step_fs (st : Enc) (op : Op) : (step st op).fs = st.fs := by
  cases op with
  | setApp v =>
    show (match setApplication st v with | .ok st' => st' | _ => st).fs = st.fs
    split
    · next st' h => rw [(setApplication_ok h).1]
    · rfl
  | encode => rfl
  | reset => rfl

theorem run_fs (st : Enc) (ops : List Op) : (run st ops).fs = st.fs := by
  induction ops generalizing st with
  | nil => rfl
  | cons op ops ih => exact (ih (step st op)).trans (step_fs st op)

/-- Look-ahead = MDCT overlap of the CELT layer at the API rate + the encoder's delay buffer. -/
theorem lookahead_decomp {st : Enc} (hi : Inv st) :
    getLookahead st = celtOverlapAtFs st.fs + totalBuffer st := by
  unfold getLookahead totalBuffer celtOverlapAtFs
  have : st.fs / 400 = overlap / (48000 / st.fs) := by
    rcases validFs_cases hi.1 with h | h | h | h | h <;> rw [h] <;> decide
  rw [this]
  by_cases h : st.application = APP_RESTRICTED_LOWDELAY <;> simp [h]

/-- The model's `init` reproduces the struct fields read from real encoders (regenerated `encInit`). -/
theorem init_matches_code :
    ∀ e ∈ encInit, ∀ ch ∈ [1, 2], ∀ app ∈ allApps,
      (init e.1 ch app).isOk = true ∧
      ∀ st, init e.1 ch app = .ok st → st.delayCompensation = e.2.1 ∧ st.encoderBuffer = e.2.2 := by
  intro e he ch hch app happ
  have hfs : validFs e.1 = true ∧ e.2.1 = e.1 / 250 ∧ e.2.2 = e.1 / 100 := by
    revert e; decide
  have hc : ch = 1 ∨ ch = 2 := by simpa using hch
  have ha : validApp app = true := by revert app; decide
  obtain ⟨st, hst⟩ := (init_ok_iff e.1 ch app).mpr ⟨hfs.1, hc, ha⟩
  refine ⟨by rw [hst]; rfl, ?_⟩
  intro st' hst'
  obtain ⟨_, _, _, d, eb, _⟩ := init_fields hst'
  rw [d, eb, hfs.2.1, hfs.2.2]; exact ⟨rfl, rfl⟩

end Opus.Delay
