import OpusProofs.DecSkelPlc
/-
  OpusProofs.DecSkelDecode — `opus_decode_frame` as called by `opus_decode_native`: with packet
  data (`decodeFrame_data`) and without (`decodeFrame_null`); the concealment loop of
  `opus_decode_native` (:736-748) and the per-frame loop (:810-819).  At the end, for the files that compare two runs or
  follow `*packet_offset`: `decodeNative_parsed`, what `opus_decode_native` is on a packet the parser accepts (no contract),
  with `parse_ok_pos` and `decodeNative_po`.
-/
namespace Opus.DecSkel
open Opus
variable {o : Oracle} {st0 : DecState} {cap0 u : Int} {r : Run}

/-- `opus_decode_frame` on a frame with at least two bytes: decodes exactly `st->frame_size`
    samples per channel. -/
theorem decodeFrame_data (ho : OracleOk o) (hu : Units st0 u) (hg : Good st0 cap0 r) {off len : Int} {pcm : Ptr}
    {frame_size fec : Int} (hmode : r.st.mode ≠ 0) (hlen : 2 ≤ len ∧ len ≤ 1275) (hoff : 0 ≤ off)
    (hfs : r.st.frame_size ≤ frame_size) (hroom : Room st0 cap0 pcm r.st.frame_size) :
    SPost st0 cap0 r.st (fun v _ => v = r.st.frame_size) (decodeFrame o (some off) len pcm frame_size fec r) := by
  have hur := hg.units hu
  have hupos := hu.pos
  -- arithmetic before the case facts of the TOC row enter the context: `omega` would split on them
  have haud : FrameDur u r.st.frame_size := by have := tocOk_pfs hg.inv.toc hur.u400; simp only [FrameDur]; omega
  have hfits : r.st.frame_size ≤ min frame_size (48 * u) := by have := (hur.toc_bounds hg.inv.toc).2; omega
  have h1 : ¬ frame_size < F2_5 r.st := by rw [hur.f25]; omega
  have h2 : ¬ (len ≤ 1 ∨ (some off).isNone = true) := by simp; omega
  unfold decodeFrame
  dsimp only
  simp only [h1, h2, ↓reduceIte, hur.f120]
  have hg1 : Good st0 cap0 (r.push (.decInit ((some off).getD 0) len)) :=
    hg.push ⟨⟨by simpa using hoff, hlen.1, hlen.2⟩, by intro p hp; simp [Ev.ptr?] at hp⟩
  refine (frameBody_spec ho hu (trans := nullFrame o) hg1 ?_ hroom
    fun _ => nullFrameGen_small ho hu (nullFrameLeaf o)).mono fun _ _ _ _ h => h.1
  -- the TOC row of the state (`DecInv.toc`) is what the body asks of a data frame
  obtain ⟨tmode, tcelt, tbw, tend, t10⟩ := tocOk_frame hg.inv.toc hur.u400 (by omega) hmode
  exact ⟨tmode, haud, tcelt, hfits, ⟨Int.le_trans (by decide) hlen.1, hlen.2⟩,
    fun _ => ⟨fun x hx => by cases hx; exact hoff, tbw, tend, t10⟩, fun h => by simp at h⟩

/-- `opus_decode_frame` when the frame is NULL / DTX (`len ≤ 1`) and `min(frame_size, 120 ms, st->frame_size)` is `k ≥ 1`
    units: conceals `c` units, `1 ≤ c ≤ k`; all `k` when that is a packet duration or at least 20 ms. -/
theorem decodeFrame_null (ho : OracleOk o) (hu : Units st0 u) (hg : Good st0 cap0 r) {data : Option Int} {len : Int}
    {pcm : Ptr} {frame_size fec k : Int} (hnull : len ≤ 1 ∨ data.isNone = true) (hlen : 0 ≤ len ∧ len ≤ 1)
    (hk : min (min frame_size (48 * u)) r.st.frame_size = k * u) (hk1 : 1 ≤ k) (hroom : Room st0 cap0 pcm (k * u)) :
    SPost st0 cap0 r.st (fun v _ => ∃ c, v = c * u ∧ 1 ≤ c ∧ c ≤ k ∧ ((k = 1 ∨ k = 2 ∨ k = 4 ∨ 8 ≤ k) → c = k))
      (decodeFrame o data len pcm frame_size fec r) := by
  have hur := hg.units hu
  have hupos : 0 < u := by have := hu.pos; omega
  unfold decodeFrame
  dsimp only
  have h1 : ¬ frame_size < F2_5 r.st := by rw [hur.f25]; have := unit_le_mul hupos hk1; omega
  simp only [h1, hnull, ↓reduceIte, hur.f120, hk]
  exact (nullAfterClamp_spec ho hu hg hk1 hlen hroom fun _ => nullFrameGen_small ho hu _).mono
    fun _ _ _ _ ⟨c, e, h1, h2, h3, _⟩ => ⟨c, e, h1, h2, h3⟩

/-- One frame of a parsed packet (any `0 ≤ len ≤ 1275`; DTX when `len ≤ 1`) after the TOC state update, with room for the
    `st->frame_size` samples the TOC announces: exactly that many are decoded or concealed. -/
theorem decodeFrame_pkt (ho : OracleOk o) (hu : Units st0 u) (hg : Good st0 cap0 r) {off len : Int} {pcm : Ptr}
    {frame_size fec : Int} (hmode : r.st.mode ≠ 0) (hlen : 0 ≤ len ∧ len ≤ 1275) (hoff : 0 ≤ off)
    (hfs : r.st.frame_size ≤ frame_size) (hroom : Room st0 cap0 pcm r.st.frame_size) :
    SPost st0 cap0 r.st (fun v _ => v = r.st.frame_size) (decodeFrame o (some off) len pcm frame_size fec r) := by
  by_cases h2 : 2 ≤ len
  · exact decodeFrame_data ho hu hg hmode ⟨h2, hlen.2⟩ hoff hfs hroom
  · have hupos : 0 < u := by have := hu.pos; omega
    obtain ⟨f, hf, hf6⟩ := tocOk_units hg.inv.toc (hg.units hu).u400
    have h48 : f * u ≤ 48 * u := Int.mul_le_mul_of_nonneg_right (by omega) (Int.le_of_lt hupos)
    rw [hf] at hfs hroom ⊢
    exact (decodeFrame_null ho hu hg (k := f) (Or.inl (by omega)) (by omega) (by rw [hf]; omega) (by omega) hroom).mono
      fun _ _ _ _ ⟨c, e, _, _, hkeep⟩ => by rw [e, hkeep (by omega)]

/-- The concealment loop of `opus_decode_native` (:736-748) on a request of `K` units with `c` of them done: terminates
    with exactly `K` units, `celt_assert(pcm_count == frame_size)` holds, `last_packet_duration = frame_size`. -/
theorem nativePlcLoop_spec (ho : OracleOk o) (hu : Units st0 u) {pcm : Ptr} (K : Int) (hroom : Room st0 cap0 pcm (K * u)) :
    ∀ (c : Int) (r : Run), 0 ≤ c → c < K → Good st0 cap0 r →
      ∃ r', nativePlcLoop o (K * u) pcm (c * u) r = (.ret (K * u), r') ∧ Good st0 cap0 r' ∧
        r'.st.last_packet_duration = K * u := by
  have hupos : 0 < u := by have := hu.pos; omega
  have hu0 : 0 ≤ u := Int.le_of_lt hupos
  intro c
  induction hn : (K - c).toNat using Nat.strongRecOn generalizing c with
  | _ n ih =>
    intro r hc0 hcK hg
    subst hn
    -- the three clamps leave `k = min(K − c, 48, st->frame_size/u)` units; of `st->frame_size` only `1 ≤ f` matters
    obtain ⟨f, hf, hf1⟩ : ∃ f, r.st.frame_size = f * u ∧ 1 ≤ f := by
      obtain ⟨f, hf, hf6⟩ := tocOk_units hg.inv.toc (hg.units hu).u400
      exact ⟨f, hf, by omega⟩
    have hk : min (min (K * u - c * u) (48 * u)) r.st.frame_size = min (min (K - c) 48) f * u := by
      rw [← Int.sub_mul, hf, min_mul_unit hupos, min_mul_unit hupos]
    obtain ⟨_, r1, e1, g1, _, v, rfl, hv1, hvle, _⟩ := decodeFrame_null ho hu hg (data := none) (len := 0)
      (pcm := pcm.add (c * u * st0.channels)) (frame_size := K * u - c * u) (fec := 0) (Or.inr rfl) (by omega) hk
      (by omega)
      (hroom.add (Int.mul_nonneg hc0 hu0) (Int.mul_nonneg (by omega) hu0)
        (by rw [← Int.add_mul]; exact Int.mul_le_mul_of_nonneg_right (by omega) hu0))
    rw [nativePlcLoop, hg.ch]
    simp only [e1]
    have hn1 : ¬ v * u < 0 := Int.not_lt.mpr (Int.mul_nonneg (by omega) hu0)
    have hn2 : ¬ v * u = 0 := Int.ne_of_gt (Int.mul_pos (by omega) hupos)
    simp only [hn1, ↓reduceIte, hn2, ↓reduceDIte, ← Int.add_mul, Int.mul_lt_mul_right hupos]
    by_cases hmore : c + v < K
    · simp only [hmore, ↓reduceDIte]
      exact ih (K - (c + v)).toNat (by omega) (c + v) rfl r1 (by omega) hmore g1
    · have heq : c + v = K := by omega
      simp only [hmore, ↓reduceDIte]
      simp only [heq, ne_eq, not_true_eq_false, ↓reduceIte]
      exact ⟨_, rfl, g1.setSt (g1.inv.setLpd (Int.mul_nonneg (by omega) hu0)) g1.fs g1.ch, rfl⟩

/-- The per-frame loop (:810-819): every frame yields `packet_frame_size` samples
    (`celt_assert(ret==packet_frame_size)` holds), frames are laid out back to back.  `T` is the total: what has been
    decoded plus one `pfs` for each frame left. -/
theorem frameLoop_spec (ho : OracleOk o) (hu : Units st0 u) {pcm : Ptr} {frame_size pfs T : Int} (hT : T ≤ frame_size)
    (hroom : Room st0 cap0 pcm T) :
    ∀ (sizes : List Nat) (off nb : Int) (r : Run), Good st0 cap0 r → r.st.mode ≠ 0 →
      r.st.frame_size = pfs → (∀ s ∈ sizes, s ≤ 1275) → 0 ≤ off → 0 ≤ nb → nb + sizes.length * pfs = T →
      SPost st0 cap0 r.st (fun v _ => v = T) (frameLoop o pcm frame_size pfs sizes off nb r) := by
  intro sizes
  induction sizes with
  | nil =>
    intro off nb r hg _ _ _ _ _ hsum
    exact .ret hg (.refl _) (by simpa using hsum)
  | cons sz rest ih =>
    intro off nb r hg hmode hpfs hsz hoff hnb hsum
    have hupos : 0 < u := by have := hu.pos; omega
    obtain ⟨f, hf, hf6⟩ := tocOk_units hg.inv.toc (hg.units hu).u400
    rw [hpfs] at hf
    have hpos : 0 ≤ pfs := by rw [hf]; exact Int.mul_nonneg (by omega) (Int.le_of_lt hupos)
    have hlen : ((sz :: rest).length : Int) * pfs = pfs + rest.length * pfs := by
      simp only [List.length_cons]; push_cast; rw [Int.add_mul]; omega
    rw [hlen] at hsum
    have hrestnn : 0 ≤ (rest.length : Int) * pfs := Int.mul_nonneg (by omega) hpos
    obtain ⟨_, r1, e1, g1, f1, rfl⟩ := decodeFrame_pkt ho hu hg (off := off) (len := sz) (pcm := pcm.add (nb * st0.channels))
      (frame_size := frame_size - nb) (fec := 0) hmode ⟨by omega, by have := hsz sz (by simp); omega⟩ hoff (by omega)
      (hpfs ▸ hroom.add hnb hpos (by omega))
    rw [frameLoop, hg.ch]
    simp only [e1, hpfs]
    have hn1 : ¬ pfs < 0 := by omega
    simp only [hn1, ↓reduceIte, ne_eq, not_true_eq_false]
    exact (ih (off + sz) (nb + pfs) r1 g1 (by rw [f1.mode]; exact hmode)
      (by rw [f1.fsz]; exact hpfs) (fun s hs => hsz s (by simp [hs])) (by omega) (by omega) (by omega)).after f1

open Opus.Framing in
theorem parse_ok_pos {sd : Bool} {bs : Bytes} {p : Parsed} (h : parseImpl sd bs = .ok p) : (0 : Int) < bs.length := by
  cases bs with
  | nil => simp [parseImpl] at h
  | cons a t => simp only [List.length_cons]; omega

open Opus.Framing in
/-- `opus_decode_native` on a packet (`0 < len`) the parser accepts. -/
theorem decodeNative_parsed (o : Oracle) {bs : Bytes} {len : Int} (pcm : Ptr) (frame_size fec : Int) (sd sc : Bool) (r : Run)
    {p : Parsed} (hlen : 0 < len) (hp : parseImpl sd (bs.take len.toNat) = .ok p) :
    decodeNative o (some bs) len pcm frame_size fec sd sc r =
      if ¬ validateOk r.st then .mk' (.abort, r) 0
      else if fec < 0 ∨ fec > 1 then .mk' (.ret BAD_ARG, r) 0
      else if fec ≠ 0 ∧ cmod frame_size (r.st.Fs / 400) ≠ 0 then .mk' (.ret BAD_ARG, r) 0
      else if fec ≠ 0 then
        .mk' (nativeFec o pcm frame_size (samplesPerFrame ((bs.take len.toNat).headD 0) r.st.Fs.toNat)
          (getMode ((bs.take len.toNat).headD 0)) (getBandwidth ((bs.take len.toNat).headD 0))
          (getNbChannels ((bs.take len.toNat).headD 0)) p.payloadOffset (p.sizes.headD 0) r) p.packetOffset
      else if (p.count : Int) * (samplesPerFrame ((bs.take len.toNat).headD 0) r.st.Fs.toNat : Int) > frame_size then
        .mk' (.ret BUFFER_TOO_SMALL, r) p.packetOffset
      else
        .mk' (nativeFrames o pcm frame_size (samplesPerFrame ((bs.take len.toNat).headD 0) r.st.Fs.toNat)
          (getMode ((bs.take len.toNat).headD 0)) (getBandwidth ((bs.take len.toNat).headD 0))
          (getNbChannels ((bs.take len.toNat).headD 0)) p.sizes p.payloadOffset sc r) p.packetOffset := by
  unfold decodeNative
  have e1 : (len = 0) = False := eq_false (by omega)
  have e2 : (len < 0) = False := eq_false (by omega)
  simp only [e1, e2, Option.isNone_some, Bool.false_eq_true, or_false, or_self, ↓reduceIte, Option.getD_some, hp]

open Opus.Framing in
/-- `*packet_offset` of a successful `opus_decode_native` call on a packet is the parser's `packet_offset`. -/
theorem decodeNative_po (o : Oracle) (bs : Bytes) (len : Int) (pcm : Ptr) (frame_size fec : Int) (sd sc : Bool) (r : Run)
    (hlen : 0 < len) (p : Parsed) (hp : parseImpl sd (bs.take len.toNat) = .ok p) (v : Int)
    (hret : (decodeNative o (some bs) len pcm frame_size fec sd sc r).ret = .ret v) (hv : 0 < v) :
    (decodeNative o (some bs) len pcm frame_size fec sd sc r).packetOffset = p.packetOffset := by
  rw [decodeNative_parsed o pcm frame_size fec sd sc r hlen hp] at hret ⊢
  have hneg : ∀ po, ¬ (NativeOut.mk' (.ret BAD_ARG, r) po).ret = .ret v := by
    intro po h; injection h with e; rw [← e] at hv; exact absurd hv (by decide)
  by_cases c0 : ¬ validateOk r.st = true
  · rw [if_pos c0] at hret; cases hret
  by_cases c1 : fec < 0 ∨ fec > 1
  · rw [if_neg c0, if_pos c1] at hret; exact absurd hret (hneg _)
  by_cases c2 : fec ≠ 0 ∧ cmod frame_size (r.st.Fs / 400) ≠ 0
  · rw [if_neg c0, if_neg c1, if_pos c2] at hret; exact absurd hret (hneg _)
  rw [if_neg c0, if_neg c1, if_neg c2]
  split
  · rfl
  · split <;> rfl

end Opus.DecSkel
