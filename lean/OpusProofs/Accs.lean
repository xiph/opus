import OpusProofs.AccsAttr
/-! The list half of the simp set `accs`: `∀ x ∈ l, P x` over `++`, `::`, `[]` and `if`. -/

theorem List.forall_mem_ite {α : Type} {P : α → Prop} {p : Prop} [Decidable p] {l1 l2 : List α} :
    (∀ x ∈ (if p then l1 else l2), P x) ↔ (p → ∀ x ∈ l1, P x) ∧ (¬p → ∀ x ∈ l2, P x) := by
  split <;> simp [*]

attribute [accs] List.forall_mem_append List.forall_mem_cons List.forall_mem_ite List.not_mem_nil false_imp_iff
  implies_true and_true true_and

/-- A property of both branches holds of the `if`; with `Q` given, this splits an `if` between records without touching
    the records. -/
theorem ite_ind {α : Type} {Q : α → Prop} {p : Prop} [Decidable p] {a b : α} (ha : p → Q a) (hb : ¬p → Q b) :
    Q (if p then a else b) := by
  split
  · exact ha ‹_›
  · exact hb ‹_›
