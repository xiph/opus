import OpusProofs.CtlMs
/-
  OpusProofs.CtlSurround — which (Fs, channels, family, application) the surround and the
  projection (ambisonics) encoder constructors accept, with the error kinds; projection encoder
  ctl (helper lemmas of property C11).  The layouts themselves (that they are the RFC 7845 /
  RFC 8486 layouts) are property C10's `surround_layout_valid` / `projection_layout_valid`.
-/
namespace Opus.Ctl
open Opus Opus.EncDecide

/-- RFC 8486 §3.1: `n²` or `n² + 2` channels for an order+1 `n` in 1..15 (at most 227). -/
def ambiB (ch : Nat) : Bool := (List.range 16).any fun k => decide (1 ≤ k) && (ch == k * k || ch == k * k + 2) && decide (ch ≤ 227)

/-- Channel counts for which a mapping family defines a layout (RFC 7845 §5.1.1, RFC 8486 §3.1). -/
def surroundLegalB (ch : Nat) (fam : Int) : Bool :=
  (fam == 0 && (ch == 1 || ch == 2)) || (fam == 1 && decide (1 ≤ ch ∧ ch ≤ 8)) || (fam == 255 && decide (1 ≤ ch ∧ ch ≤ 255)) ||
  (fam == 2 && ambiB ch)

theorem surroundLayout_other (ch fam : Int) (hf : fam ≠ 0 ∧ fam ≠ 1 ∧ fam ≠ 2 ∧ fam ≠ 255) :
    surroundLayout ch fam = .err .unimplemented := by
  unfold surroundLayout
  simp [hf.1, hf.2.1, hf.2.2.1, hf.2.2.2]

/-- A layout that uses every decoded channel exactly as far as the streams need — `streams + coupled`
    equals the channel count and the mapping is onto `0 … channels−1` — passes every layout check.
    Families 2 and 255 and the projection encoder all build such a mapping. -/
theorem layoutPasses_of_onto {ch st cp : Int} {mp : List Nat} {amb : Bool} (hch : 1 ≤ ch ∧ ch ≤ 255)
    (hst : 1 ≤ st) (hcp : 0 ≤ cp ∧ cp ≤ st) (hsum : st + cp = ch) (hlen : mp.length = ch.toNat)
    (hlt : ∀ m ∈ mp, (m : Int) < ch) (honto : ∀ c : Nat, (c : Int) < ch → c ∈ mp)
    (hamb : amb = true → (validateAmbisonics ch).isSome = true) :
    layoutPasses ch (st, cp, mp) amb = true := by
  have htake : mp.take ch.toNat = mp := by rw [← hlen]; exact List.take_length
  have hhas : ∀ c : Int, 0 ≤ c → c < ch → hasChannel ch mp c = true := by
    intro c h0 h1
    simp only [hasChannel, htake, List.any_eq_true, decide_eq_true_eq]
    exact ⟨c.toNat, honto c.toNat (by omega), by omega⟩
  simp only [layoutPasses, Bool.and_eq_true, Bool.or_eq_true, Bool.not_eq_true']
  refine ⟨⟨⟨?_, ?_⟩, ?_⟩, ?_⟩
  · simp only [msEncArgsOk, Bool.not_eq_true', decide_eq_false_iff_not]; omega
  · simp only [validateLayout]
    rw [if_neg (by omega), htake]
    simp only [List.all_eq_true, Bool.not_eq_true', Bool.and_eq_false_iff, decide_eq_false_iff_not]
    intro m hm; left; have := hlt m hm; omega
  · simp only [validateEncoderLayout, List.all_eq_true, List.mem_range]
    intro k hk
    split
    · rw [hhas _ (by omega) (by omega), hhas _ (by omega) (by omega)]; rfl
    · exact hhas _ (by omega) (by omega)
  · cases amb
    · exact Or.inl rfl
    · exact Or.inr (hamb rfl)

theorem family255_passes (n : Nat) (h1 : 1 ≤ n) (h2 : n ≤ 255) :
    layoutPasses (n : Int) ((n : Int), 0, List.range n) false = true :=
  layoutPasses_of_onto (by omega) (by omega) (by omega) (by omega) (by simp)
    (fun m hm => by have := List.mem_range.mp hm; omega) (fun c hc => List.mem_range.mpr (by omega)) (fun h => nomatch h)

/-- What `validate_ambisonics` returns: `n²` mono streams, plus one coupled stream for the
    non-diegetic pair.  (That `n` is the integer square root plays no part in the layout checks.) -/
theorem validateAmbisonics_some {ch st cp : Int} (h : validateAmbisonics ch = some (st, cp)) :
    (1 ≤ ch ∧ ch ≤ 227) ∧ 1 ≤ st ∧ (0 ≤ cp ∧ cp ≤ st) ∧ st + cp = ch := by
  unfold validateAmbisonics at h
  split at h
  · cases h
  · have hq := Int.mul_nonneg (Int.natCast_nonneg (isqrtSmall ch.toNat)) (Int.natCast_nonneg (isqrtSmall ch.toNat))
    simp only [] at h
    generalize (isqrtSmall ch.toNat : Int) * (isqrtSmall ch.toNat : Int) = q at *
    split at h
    · cases h
    · simp only [Option.some.injEq, Prod.mk.injEq] at h
      omega

/-- Family 2 (ambisonics): the mono streams' channels follow the coupled pair's in the mapping. -/
theorem family2_passes {ch st cp : Int} (h : validateAmbisonics ch = some (st, cp)) :
    layoutPasses ch (st, cp, (List.range (st - cp).toNat).map (fun i => i + (cp * 2).toNat) ++ List.range (cp * 2).toNat)
      true = true := by
  obtain ⟨hch, hst, hcp, hsum⟩ := validateAmbisonics_some h
  refine layoutPasses_of_onto (by omega) hst hcp hsum ?_ ?_ ?_ (fun _ => by rw [h]; rfl)
  · simp only [List.length_append, List.length_map, List.length_range]; omega
  · intro m hm
    simp only [List.mem_append, List.mem_map, List.mem_range] at hm
    rcases hm with ⟨i, hi, rfl⟩ | hm <;> omega
  · intro c hc
    simp only [List.mem_append, List.mem_map, List.mem_range]
    by_cases h2 : c < (cp * 2).toNat
    · exact Or.inr h2
    · exact Or.inl ⟨c - (cp * 2).toNat, by omega, by omega⟩

/-- For every channel count 1..255: the family's layout exists exactly for the legal counts and then
    passes every layout check.  Evaluated for families 0 and 1, which are tables in the code (family 1:
    the Vorbis channel orders). -/
def surroundTable (fam : Int) : Bool :=
  (List.range 256).all fun n =>
    n == 0 ||
    (match surroundLayout (n : Int) fam with
     | .ok l => surroundLegalB n fam && layoutPasses (n : Int) l (fam == 2)
     | .err _ => !surroundLegalB n fam
     | _ => false)

/-- The counts `validate_ambisonics` accepts are the legal family-2 counts. -/
def ambiTable : Bool := (List.range 256).all fun n => ambiB n == (validateAmbisonics (n : Int)).isSome

theorem surroundTable_0 : surroundTable 0 = true := by decide +kernel
theorem surroundTable_1 : surroundTable 1 = true := by decide +kernel
theorem ambiTable_true : ambiTable = true := by decide +kernel

/-- A table entry read at an `int` channel count in range: either the family defines a layout for the count and
    it passes every check, or it defines none and `surroundLayout` refuses. -/
theorem surroundTable_get {fam : Int} (h : surroundTable fam = true) (ch : Int) (hc : 1 ≤ ch ∧ ch ≤ 255) :
    (surroundLegalB ch.toNat fam = true ∧ ∃ l, surroundLayout ch fam = .ok l ∧ layoutPasses ch l (fam == 2) = true) ∨
    (surroundLegalB ch.toNat fam = false ∧ ∃ e, surroundLayout ch fam = .err e) := by
  simp only [surroundTable, List.all_eq_true, List.mem_range] at h
  have hent := h ch.toNat (by omega)
  rw [show ((ch.toNat : Nat) : Int) = ch by omega] at hent
  simp only [Bool.or_eq_true, beq_iff_eq] at hent
  rcases hent with h0 | hent
  · omega
  cases hsl : surroundLayout ch fam with
  | err e =>
    rw [hsl] at hent
    exact Or.inr ⟨by simpa using hent, e, rfl⟩
  | oob => rw [hsl] at hent; cases hent
  | abort => rw [hsl] at hent; cases hent
  | ok l =>
    rw [hsl] at hent
    simp only [Bool.and_eq_true] at hent
    exact Or.inl ⟨hent.1, l, rfl, hent.2⟩

/-- The same for every family: 0 and 1 from their tables, 2 and 255 from `layoutPasses_of_onto`, no other family
    defines a layout. -/
theorem surround_cases (ch fam : Int) (hc : 1 ≤ ch ∧ ch ≤ 255) :
    (surroundLegalB ch.toNat fam = true ∧ ∃ l, surroundLayout ch fam = .ok l ∧ layoutPasses ch l (fam == 2) = true) ∨
    (surroundLegalB ch.toNat fam = false ∧ ∃ e, surroundLayout ch fam = .err e) := by
  have hcn : ch = ((ch.toNat : Nat) : Int) := by omega
  by_cases h0 : fam = 0
  · exact h0 ▸ surroundTable_get surroundTable_0 ch hc
  by_cases h1 : fam = 1
  · exact h1 ▸ surroundTable_get surroundTable_1 ch hc
  by_cases h2 : fam = 2
  · subst h2
    have ht := ambiTable_true
    simp only [ambiTable, List.all_eq_true, List.mem_range, beq_iff_eq] at ht
    have hleg : surroundLegalB ch.toNat 2 = (validateAmbisonics ch).isSome := by
      have := ht ch.toNat (by omega)
      rw [← hcn] at this
      simpa [surroundLegalB] using this
    cases hv : validateAmbisonics ch with
    | none =>
      refine Or.inr ⟨by rw [hleg, hv]; rfl, .badArg, ?_⟩
      unfold surroundLayout; simp [hv]
    | some l =>
      refine Or.inl ⟨by rw [hleg, hv]; rfl,
        (l.1, l.2, (List.range (l.1 - l.2).toNat).map (fun i => i + (l.2 * 2).toNat) ++ List.range (l.2 * 2).toNat), ?_,
        family2_passes hv⟩
      unfold surroundLayout; simp [hv]
  by_cases h255 : fam = 255
  · subst h255
    left
    refine ⟨by simp [surroundLegalB]; omega, (ch, 0, List.range ch.toNat), ?_, ?_⟩
    · unfold surroundLayout
      simp
    · have := family255_passes ch.toNat (by omega) (by omega)
      rw [← hcn] at this
      exact this
  · right
    refine ⟨by simp [surroundLegalB, h0, h1, h2, h255], .unimplemented, surroundLayout_other ch fam ⟨h0, h1, h2, h255⟩⟩

theorem msSurroundCreate_ok_eq {fs ch fam app : Int} {allocOk : Bool} (hc : 1 ≤ ch ∧ ch ≤ 255) {st cp : Int} {mp : List Nat}
    (hsl : surroundLayout ch fam = .ok (st, cp, mp)) (hp : layoutPasses ch (st, cp, mp) (fam == 2) = true) :
    msSurroundCreate fs ch fam app allocOk =
      if allocOk = false then .err .allocFail
      else if (validFs fs && validApp app) = true then
        .ok ({ nbChannels := ch, nbStreams := st, nbCoupled := cp, bitrateBps := OPUS_AUTO, variableDuration := FRAMESIZE_ARG,
               application := app, lfeStream := (if fam = 1 ∧ ch ≥ 6 then st - 1 else -1),
               surround := decide (ch > 2 ∧ fam = 1), ambisonics := decide (fam = 2),
               streams := msStreams fs st cp app (if fam = 1 ∧ ch ≥ 6 then st - 1 else -1) }, st, cp, mp)
      else .err .badArg := by
  unfold msSurroundCreate
  rw [if_neg (by omega), hsl]
  have hp' : layoutPasses ch (st, cp, mp) (decide (fam = 2)) = true := by
    have : (fam == 2) = decide (fam = 2) := by simp [BEq.beq]
    rw [← this]; exact hp
  cases allocOk
  · rfl
  · simp only [Bool.not_true, Bool.false_eq_true, ite_false]
    rw [msEncInit_of_passes hp']
    cases validFs fs && validApp app <;> rfl

/-- Channel counts with a built-in mixing matrix: order 1..5, with or without the non-diegetic pair. -/
def projLegalB (ch : Nat) : Bool := [4, 6, 9, 11, 16, 18, 25, 27, 36, 38].contains ch

/-- What `opus_projection_ambisonics_encoder_create` checks of the channel count before it hands the
    layout to the multistream init: order, built-in matrix, matrix dimensions. -/
def projPasses (ch : Int) : Bool :=
  match projOrderPlusOne ch with
  | none => false
  | some o => projMatrixDim o ≠ 0 && !(decide ((ch + 1) / 2 + ch / 2 > projMatrixDim o ∨ ch > projMatrixDim o))

/-- The projection layout (`(ch+1)/2` streams, `ch/2` of them coupled, identity mapping) passes the
    layout checks of the multistream init. -/
theorem projLayout_passes {ch : Int} (hch : 1 ≤ ch ∧ ch ≤ 255) :
    layoutPasses ch ((ch + 1) / 2, ch / 2, List.range ch.toNat) false = true :=
  layoutPasses_of_onto hch (by omega) (by omega) (by omega) (by simp)
    (fun m hm => by have := List.mem_range.mp hm; omega) (fun c hc => List.mem_range.mpr (by omega)) (fun h => nomatch h)

/-- For every count below 260: the checks of the constructor pass exactly for the legal counts, and an illegal count
    fails already at the order or the built-in matrix (so that every refusal is OPUS_ALLOC_FAIL, never OPUS_BAD_ARG). -/
def projTable : Bool :=
  (List.range 260).all fun n =>
    (projPasses (n : Int) == projLegalB n) &&
    (projLegalB n || (match projOrderPlusOne (n : Int) with | none => true | some o => projMatrixDim o == 0))

theorem projTable_true : projTable = true := by decide +kernel

theorem projOrderPlusOne_big (ch : Int) (h : ch < 1 ∨ ch > 227) : projOrderPlusOne ch = none := by
  unfold projOrderPlusOne; rw [if_pos h]

theorem projTable_get {ch : Int} (h : 0 ≤ ch ∧ ch < 260) : projPasses ch = projLegalB ch.toNat ∧
    (projLegalB ch.toNat = true ∨ (match projOrderPlusOne ch with | none => True | some o => projMatrixDim o = 0)) := by
  have ht := projTable_true
  simp only [projTable, List.all_eq_true, List.mem_range, Bool.and_eq_true, beq_iff_eq, Bool.or_eq_true] at ht
  have := ht ch.toNat (by omega)
  have e : ((ch.toNat : Nat) : Int) = ch := by omega
  rw [e] at this
  refine ⟨this.1, ?_⟩
  rcases this.2 with h2 | h2
  · exact Or.inl h2
  · right
    cases ho : projOrderPlusOne ch with
    | none => trivial
    | some o => rw [ho] at h2; simpa using h2

theorem projEncCreate_ok_eq {fs ch fam app : Int} {allocOk : Bool}
    (hl : fam = 3 ∧ 0 ≤ ch ∧ projLegalB ch.toNat = true) :
    projEncCreate fs ch fam app allocOk =
    if allocOk = false then .err .allocFail
    else if (validFs fs && validApp app) = true then
      .ok ({ ms := { nbChannels := ch, nbStreams := (ch + 1) / 2, nbCoupled := ch / 2, bitrateBps := OPUS_AUTO,
                     variableDuration := FRAMESIZE_ARG, application := app, lfeStream := -1, surround := false,
                     ambisonics := false, streams := msStreams fs ((ch + 1) / 2) (ch / 2) app (-1) },
             demixGain := projDemixGain ((projOrderPlusOne ch).getD 0) }, (ch + 1) / 2, ch / 2)
    else .err .badArg := by
  obtain ⟨hf, h0, hb⟩ := hl
  have hr : 4 ≤ ch ∧ ch ≤ 38 := by
    simp only [projLegalB, List.contains_iff_mem, List.mem_cons, List.mem_nil_iff, or_false] at hb
    omega
  obtain ⟨hp, _⟩ := projTable_get ⟨h0, by omega⟩
  rw [hb] at hp
  unfold projPasses at hp
  unfold projEncCreate
  rw [if_neg (by omega)]
  cases ho : projOrderPlusOne ch with
  | none => rw [ho] at hp; cases hp
  | some o =>
    rw [ho] at hp
    simp only [Bool.and_eq_true, Bool.not_eq_true', decide_eq_false_iff_not, ne_eq, decide_eq_true_eq] at hp
    obtain ⟨hd, hsz⟩ := hp
    have hlp := projLayout_passes (ch := ch) (by omega)
    simp only [hd, ite_false]
    cases allocOk
    · rfl
    · simp only [Bool.not_true, Bool.false_eq_true, ite_false, hsz]
      rw [msEncInit_of_passes hlp]
      cases validFs fs && validApp app <;> rfl

theorem projEncCtl_demix (s : ProjEncSt) :
    projEncCtl s (.demixSize true) = (s, .okv (s.ms.nbChannels * (s.ms.nbStreams + s.ms.nbCoupled) * 2)) ∧
    projEncCtl s (.demixGain true) = (s, .okv s.demixGain) ∧
    projEncCtl s (.demixSize false) = (s, .err .badArg) ∧ projEncCtl s (.demixGain false) = (s, .err .badArg) ∧
    (∀ size, projEncCtl s (.demixMatrix false size) = (s, .err .badArg)) ∧
    (∀ size, size ≠ (s.ms.nbStreams + s.ms.nbCoupled) * s.ms.nbChannels * 2 → projEncCtl s (.demixMatrix true size) = (s, .err .badArg)) ∧
    projEncCtl s (.demixMatrix true ((s.ms.nbStreams + s.ms.nbCoupled) * s.ms.nbChannels * 2)) = (s, .ok) := by
  refine ⟨rfl, rfl, rfl, rfl, fun _ => rfl, fun size h => ?_, ?_⟩
  · simp [projEncCtl, h]
  · simp [projEncCtl]

/-- The projection encoder's own three requests never change the object; any other request is the multistream ctl's. -/
theorem projEncCtl_cases (s : ProjEncSt) (r : ProjEncReq) : (projEncCtl s r).1 = s ∨ ∃ q, r = .ms q := by
  cases r with
  | demixSize nn => cases nn <;> exact Or.inl rfl
  | demixGain nn => cases nn <;> exact Or.inl rfl
  | demixMatrix nn size =>
    refine Or.inl ?_
    simp only [projEncCtl]
    split
    · rfl
    · split <;> rfl
  | ms q => exact Or.inr ⟨q, rfl⟩

end Opus.Ctl
