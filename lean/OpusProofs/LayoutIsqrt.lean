import OpusProofs.LayoutSurround
import Mathlib.Tactic.Ring
import Mathlib.Tactic.Linarith
/-
  OpusProofs.LayoutIsqrt — `isqrt32` (celt/mathops.c:45-68) is the integer square root on its whole
  domain `1 ≤ n < 2^32` (C10; used by `validate_ambisonics` and the projection encoder), stated with `2 ^ 32` read
  as Mathlib's power on ℕ, as `OpusProps/C10.lean` reads it; it is `isqrt32_sqrt` of `OpusProofs.LayoutSurround`.
-/
namespace Opus.Layout

/-- **`isqrt32` is the integer square root for every 32-bit argument ≥ 1.** -/
theorem isqrt32_correct (n : Nat) (h1 : 1 ≤ n) (h2 : n < 2 ^ 32) :
    isqrt32 n * isqrt32 n ≤ n ∧ n < (isqrt32 n + 1) * (isqrt32 n + 1) :=
  isqrt32_sqrt n h1 h2

end Opus.Layout
