import OpusProofs.ExtRepLists
/-
  C16, writer side: what `opus_packet_extensions_generate` does, as programs in the writer monad `W` over LISTS
  (`wPayloads`, `wRepBlock`, `wList`, `wAll`: the writers of `repPayloads`, `repBlock`, `serW`, `serAll`).  How such a
  program ends (`EndsBy`: normally, or in `OPUS_BAD_ARG` as soon as a payload length is inadmissible) and what it writes
  (`Writes`: the specified bytes, for valid extensions) are properties of `W` values that `>>=` composes, like `Nice`; each
  program has them from its parts.  The index loops of the model are proved equal to these programs in ExtRepEmit /
  ExtRepFrames.
-/
namespace Opus.ExtProofs
open Opus Opus.Ext

/-- The program ends normally if `P` holds, and in `OPUS_BAD_ARG` if not. -/
structure EndsBy (x : W Unit) (P : Prop) : Prop where
  ok : P → x.res = .ok ()
  bad : ¬ P → x.res = .err .badArg

theorem EndsBy.of_ok {x : W Unit} (h : x.res = .ok ()) : EndsBy x True := ⟨fun _ => h, fun hn => absurd trivial hn⟩

theorem EndsBy.iff {x : W Unit} {P Q : Prop} (hx : EndsBy x P) (h : P ↔ Q) : EndsBy x Q :=
  ⟨fun hq => hx.ok (h.mpr hq), fun hn => hx.bad (fun hp => hn (h.mp hp))⟩

/-- The first part that fails ends the run. -/
theorem EndsBy.bind {x y : W Unit} {P Q : Prop} (hx : EndsBy x P) (hy : EndsBy y Q) : EndsBy (x >>= fun _ => y) (P ∧ Q) := by
  by_cases hp : P
  · rw [W.bind_of_ok _ (hx.ok hp)]
    exact ⟨fun h => hy.ok h.2, fun hn => hy.bad (fun hq => hn ⟨hp, hq⟩)⟩
  · exact ⟨fun h => absurd h.1 hp, fun _ => W.bind_of_err _ (hx.bad hp)⟩

/-- The program ends normally and writes `bs`. -/
structure Writes (x : W Unit) (bs : List Nat) : Prop where
  ok : x.res = .ok ()
  bytes : content false x.ops = bs

theorem Writes.bind {x y : W Unit} {a b : List Nat} (hx : Writes x a) (hy : Writes y b) : Writes (x >>= fun _ => y) (a ++ b) := by
  rw [W.bind_of_ok _ hx.ok]; exact ⟨hy.ok, by rw [content_append, hx.bytes, hy.bytes]⟩

theorem content_puts (k b : Nat) : content false (List.replicate k (Op.put b)) = List.replicate k b := by
  induction k with
  | zero => rfl
  | succ k ih => simp [List.replicate_succ, content, ih]


theorem wPayload_ends {nbF : Nat} {x : Ext} (hif : IFExt nbF x) (flag : Bool) : EndsBy (wPayload x flag) (LenOk x) := by
  have hid : (3 ≤ x.id ∧ x.id ≤ 127) := ⟨hif.id_lo, hif.id_hi⟩
  unfold wPayload LenOk
  simp only [hid, not_true_eq_false, if_false, and_self]
  by_cases hs : x.id < 32
  · simp only [hs, if_true]
    by_cases c : x.len < 0 ∨ x.len > 1
    · rw [if_pos c]; exact ⟨fun h => by have := h.2 trivial; omega, fun _ => rfl⟩
    · rw [if_neg c]; exact ⟨fun _ => by split <;> rfl, fun h => absurd ⟨by omega, fun _ => by omega⟩ h⟩
  · simp only [hs, if_false]
    by_cases c : x.len < 0
    · rw [if_pos c]; exact ⟨fun h => by omega, fun _ => rfl⟩
    · rw [if_neg c]; exact ⟨fun _ => rfl, fun h => absurd ⟨by omega, fun h => absurd h (by trivial)⟩ h⟩

theorem wPayload_writes {nbF : Nat} {x : Ext} (hv : ValidExt nbF x) (flag : Bool) :
    Writes (wPayload x flag) (extBytes x flag).tail := by
  refine ⟨(wPayload_ends hv.toIF flag).ok hv.lenOk, ?_⟩
  have h1 := hv.id_lo; have h2 := hv.id_hi; have h3 := hv.len_lo
  have hid : (3 ≤ x.id ∧ x.id ≤ 127) := ⟨h1, h2⟩
  unfold wPayload extBytes payload
  simp only [hid, not_true_eq_false, if_false, and_self, List.tail_cons]
  by_cases hs : x.id < 32
  · have hl := hv.short hs
    have c : ¬ (x.len < 0 ∨ x.len > 1) := by omega
    simp only [hs, if_true, c, if_false, true_or]
    by_cases hl1 : x.len > 0
    · have : x.len.toNat = 1 := by omega
      simp only [hl1, if_true, W.emit, content, Bool.false_eq_true, if_false, this]
      simp
    · have : x.len.toNat = 0 := by omega
      simp [hl1, W.pure_eq, content, this]
  · have c : ¬ (x.len < 0) := by omega
    simp only [hs, if_false, c, false_or]
    cases flag with
    | true => simp [W.emit, content]
    | false =>
      simp only [Bool.false_eq_true, if_false, W.emit, List.cons_append, List.nil_append, content,
        content_append, content_puts, lenBytes, List.append_assoc]
      have hq : (x.len / 255).toNat = x.len.toNat / 255 := by omega
      have hm : (x.len % 255).toNat = x.len.toNat % 255 := by omega
      rw [hq, hm]
      simp


theorem wExt_ends {nbF : Nat} {x : Ext} (hif : IFExt nbF x) (flag : Bool) : EndsBy (wExt x flag) (LenOk x) := by
  rw [wExt_eq ⟨hif.id_lo, hif.id_hi⟩]
  exact ((EndsBy.of_ok rfl).bind (wPayload_ends hif flag)).iff (by rw [true_and])

theorem wExt_writes {nbF : Nat} {e : Ext} (hv : ValidExt nbF e) (last : Bool) : Writes (wExt e last) (extBytes e last) := by
  have hb : ((e.id * 2 + (if e.id < 32 then e.len else if last then 0 else 1)) % 256).toNat = idByte e last := by
    have := hv.id_lo; have := hv.id_hi; have := hv.len_lo
    unfold idByte
    split
    · have := hv.short ‹_›; omega
    · split <;> omega
  rw [wExt_eq ⟨hv.id_lo, hv.id_hi⟩, hb]
  exact (⟨rfl, rfl⟩ : Writes (W.emit [Op.need 1, Op.put (idByte e last)]) [idByte e last]).bind (wPayload_writes hv last)

theorem wSep_ok (f cur : Nat) : (wSep f cur).res = .ok () := by
  unfold wSep; split
  · simp only; split <;> rfl
  · rfl

theorem wSep_content {f cur : Nat} (h1 : cur ≤ f) (h2 : f < 256) : content false (wSep f cur).ops = sepBytes f cur := by
  unfold wSep sepBytes
  by_cases hfc : f = cur
  · simp only [hfc, ne_eq, not_true_eq_false, if_false, if_true, W.pure_eq, content]
  · simp only [hfc, if_false, ne_eq, not_false_eq_true, if_true]
    by_cases h1' : f = cur + 1
    · have hd : ((f : Int) - (cur : Int) = 1) := by omega
      simp only [if_true, h1', W.emit]
      all_goals (try simp only [show ((cur + 1 : Nat) : Int) - (cur : Int) = 1 by omega, if_true, content, Bool.false_eq_true, if_false])
    · have hd : ¬ ((f : Int) - (cur : Int) = 1) := by omega
      simp only [hd, h1', if_false, W.emit, content, Bool.false_eq_true]
      have : (((f : Int) - (cur : Int)) % 256).toNat = f - cur := by omega
      rw [this]

/-- The payloads (with their length bytes) of a list of repeated extensions: the writer of `repPayloads`. -/
def wPayloads (z : Option Nat) : Nat → List Ext → W Unit
  | _, [] => pure ()
  | k, x :: l => wPayload x (decide (z = some k)) >>= fun _ => wPayloads z (k + 1) l

theorem wPayloads_ends {nbF : Nat} (z : Option Nat) : ∀ (l : List Ext) (k : Nat), (∀ x ∈ l, IFExt nbF x) →
    EndsBy (wPayloads z k l) (∀ x ∈ l, LenOk x)
  | [], _, _ => (EndsBy.of_ok rfl).iff (by simp)
  | x :: l, k, hv => ((wPayload_ends (hv x (List.mem_cons_self ..)) _).bind
      (wPayloads_ends z l (k + 1) fun y hy => hv y (List.mem_cons_of_mem _ hy))).iff List.forall_mem_cons.symm

theorem wPayloads_writes {nbF : Nat} (z : Option Nat) : ∀ (l : List Ext) (k : Nat), (∀ x ∈ l, ValidExt nbF x) →
    Writes (wPayloads z k l) (repPayloads z k l)
  | [], _, _ => ⟨rfl, rfl⟩
  | x :: l, k, hv => (wPayload_writes (hv x (List.mem_cons_self ..)) _).bind
      (wPayloads_writes z l (k + 1) fun y hy => hv y (List.mem_cons_of_mem _ hy))

/-- The writer of `repBlock`: the repeated payloads of each later frame; `ll` (the position whose length bytes are dropped
    when the indicator has `L = 0`) applies to the last frame only, hence the case `[r]`. -/
def wRepBlock (R : Nat) (last : Bool) (ll : Option Nat) : List (List Ext) → W Unit
  | [] => pure ()
  | [r] => wPayloads (if last then ll else none) 0 (r.take R)
  | r :: rs => wPayloads none 0 (r.take R) >>= fun _ => wRepBlock R last ll rs

theorem wRepBlock_cons2 (R : Nat) (last : Bool) (ll : Option Nat) (r r' : List Ext) (rs : List (List Ext)) :
    wRepBlock R last ll (r :: r' :: rs) = wPayloads none 0 (r.take R) >>= fun _ => wRepBlock R last ll (r' :: rs) := rfl

/-- The writer of `serW`: extensions one after the other, a separator where the frame changes; the `n`-th extension
    written overall takes the `L = 0` form. -/
def wList (n : Nat) : Nat → Nat → List Ext → W Unit
  | _, _, [] => pure ()
  | cur, w, e :: l =>
    wSep e.frame.toNat cur >>= fun _ => wExt e (decide ((w : Int) = (n : Int) - 1)) >>= fun _ => wList n e.frame.toNat (w + 1) l

theorem wList_append (n : Nat) : ∀ (l1 l2 : List Ext) (cur w : Nat),
    wList n cur w (l1 ++ l2) = wList n cur w l1 >>= fun _ => wList n (lastFrame cur l1) (w + l1.length) l2
  | [], l2, cur, w => by simp only [List.nil_append, wList, W.pure_bind, lastFrame, List.length_nil, Nat.add_zero]
  | e :: l1, l2, cur, w => by
    simp only [List.cons_append, wList, lastFrame, List.length_cons, W.bind_assoc, wList_append n l1 l2]
    rw [show w + 1 + l1.length = w + (l1.length + 1) by omega]

theorem wList_ends {nbF : Nat} (n : Nat) : ∀ (l : List Ext) (cur w : Nat), (∀ x ∈ l, IFExt nbF x) →
    EndsBy (wList n cur w l) (∀ x ∈ l, LenOk x)
  | [], _, _, _ => (EndsBy.of_ok rfl).iff (by simp)
  | x :: l, cur, w, hv => ((EndsBy.of_ok (wSep_ok _ _)).bind ((wExt_ends (hv x (List.mem_cons_self ..)) _).bind
      (wList_ends n l _ (w + 1) fun y hy => hv y (List.mem_cons_of_mem _ hy)))).iff
        (by rw [List.forall_mem_cons, true_and])

theorem wList_writes {nbF : Nat} (hnf : nbF ≤ 48) (n : Nat) : ∀ (l : List Ext) (cur w : Nat),
    (∀ e ∈ l, ValidExt nbF e) → FrameSorted cur l → Writes (wList n cur w l) (serW n cur w l)
  | [], _, _, _, _ => ⟨rfl, rfl⟩
  | e :: l, cur, w, hv, hs => by
    have hve := hv e (List.mem_cons_self ..)
    have hfh := hve.fr_hi
    rw [wList]
    simp only [serW, List.append_assoc]
    exact (⟨wSep_ok _ _, wSep_content hs.1 (by omega)⟩ : Writes (wSep e.frame.toNat cur) _).bind
      ((wExt_writes hve _).bind (wList_writes hnf n l _ (w + 1) (fun x hx => hv x (List.mem_cons_of_mem _ hx)) hs.2))

theorem wRepBlock_zero (last : Bool) (ll : Option Nat) : ∀ (later : List (List Ext)), wRepBlock 0 last ll later = pure () := by
  intro later
  induction later with
  | nil => rfl
  | cons r rs ih =>
    cases rs with
    | nil => rfl
    | cons r' rs' => rw [wRepBlock_cons2, ih]; rfl

theorem wRepBlock_ends {nbF : Nat} (R : Nat) (last : Bool) (ll : Option Nat) : ∀ (later : List (List Ext)),
    (∀ r ∈ later, ∀ x ∈ r.take R, IFExt nbF x) → EndsBy (wRepBlock R last ll later) (∀ r ∈ later, ∀ x ∈ r.take R, LenOk x)
  | [], _ => (EndsBy.of_ok rfl).iff (by simp)
  | [r], hv => (wPayloads_ends _ _ 0 (hv r (List.mem_cons_self ..))).iff (by simp)
  | r :: r' :: rs, hv => ((wPayloads_ends none _ 0 (hv r (List.mem_cons_self ..))).bind
      (wRepBlock_ends R last ll (r' :: rs) fun y hy => hv y (List.mem_cons_of_mem _ hy))).iff
        (List.forall_mem_cons (p := fun r : List Ext => ∀ x ∈ List.take R r, LenOk x)).symm

theorem wRepBlock_writes {nbF : Nat} (R : Nat) (last : Bool) (ll : Option Nat) : ∀ (later : List (List Ext)),
    (∀ r ∈ later, ∀ x ∈ r.take R, ValidExt nbF x) → Writes (wRepBlock R last ll later) (repBlock R last ll later)
  | [], _ => ⟨rfl, rfl⟩
  | [r], hv => wPayloads_writes _ _ 0 (hv r (List.mem_cons_self ..))
  | r :: r' :: rs, hv => (wPayloads_writes none _ 0 (hv r (List.mem_cons_self ..))).bind
      (wRepBlock_writes R last ll (r' :: rs) fun y hy => hv y (List.mem_cons_of_mem _ hy))

/-- The writer of `serAll`: per frame the repeatable prefix, the indicator, the repeated payloads of the later frames,
    the rest of the frame. -/
def wAll (n : Nat) : List (List Ext) → Nat → Nat → W Unit
  | [], _, _ => pure ()
  | a :: later, cur, w =>
    let R := blockR a later
    let last := blockLast n a later w
    let cur2 := if 0 < R ∧ last = true then lastFrame cur (a.take R) + 1 else lastFrame cur (a.take R)
    let w2 := w + R + R * later.length
    wList n cur w (a.take R) >>= fun _ =>
    (if 0 < R then W.emit [.need 1, .put (if last then 4 else 5)] else pure ()) >>= fun _ =>
    wRepBlock R last (lastLongPos (a.take R)) later >>= fun _ =>
    wList n cur2 w2 (a.drop R) >>= fun _ =>
    wAll n (later.map (List.drop R)) (lastFrame cur2 (a.drop R)) (w2 + (a.drop R).length)
termination_by l => l.length
decreasing_by simp

theorem wAll_cons (n : Nat) (a : List Ext) (later : List (List Ext)) (cur w : Nat) :
    wAll n (a :: later) cur w =
      wList n cur w (a.take (blockR a later)) >>= fun _ =>
      (if 0 < blockR a later then W.emit [.need 1, .put (if blockLast n a later w then 4 else 5)] else pure ()) >>= fun _ =>
      wRepBlock (blockR a later) (blockLast n a later w) (lastLongPos (a.take (blockR a later))) later >>= fun _ =>
      wList n (if 0 < blockR a later ∧ blockLast n a later w = true then lastFrame cur (a.take (blockR a later)) + 1
                else lastFrame cur (a.take (blockR a later)))
        (w + blockR a later + blockR a later * later.length) (a.drop (blockR a later)) >>= fun _ =>
      wAll n (later.map (List.drop (blockR a later)))
        (lastFrame (if 0 < blockR a later ∧ blockLast n a later w = true then lastFrame cur (a.take (blockR a later)) + 1
                else lastFrame cur (a.take (blockR a later))) (a.drop (blockR a later)))
        (w + blockR a later + blockR a later * later.length + (a.drop (blockR a later)).length) := by
  rw [wAll]

/-- A property of all members of the queues, by the parts of the block that the first queue opens: its first `R`
    entries, (the indicator,) the first `R` of every later queue, its other entries, what remains of the later queues. -/
theorem forall_queues (P : Ext → Prop) (R : Nat) (a : List Ext) (later : List (List Ext)) :
    (∀ r ∈ a :: later, ∀ x ∈ r, P x) ↔ (∀ x ∈ a.take R, P x) ∧ True ∧ (∀ r ∈ later, ∀ x ∈ r.take R, P x) ∧
      (∀ x ∈ a.drop R, P x) ∧ (∀ r ∈ later.map (List.drop R), ∀ x ∈ r, P x) := by
  have hsplit : ∀ (r : List Ext), (∀ x ∈ r, P x) ↔ (∀ x ∈ r.take R, P x) ∧ (∀ x ∈ r.drop R, P x) := fun r => by
    conv => lhs; rw [← List.take_append_drop R r]
    simp only [List.mem_append, or_imp, forall_and]
  rw [List.forall_mem_cons, hsplit a, List.forall_mem_map, true_and]
  constructor
  · rintro ⟨⟨h1, h2⟩, h3⟩
    exact ⟨h1, fun r hr => ((hsplit r).mp (h3 r hr)).1, h2, fun r hr => ((hsplit r).mp (h3 r hr)).2⟩
  · rintro ⟨h1, h2, h3, h4⟩
    exact ⟨⟨h1, h3⟩, fun r hr => (hsplit r).mpr ⟨h2 r hr, h4 r hr⟩⟩

theorem wAll_ends {nbF : Nat} (n : Nat) (rems : List (List Ext)) : ∀ (cur w : Nat), (∀ r ∈ rems, ∀ x ∈ r, IFExt nbF x) →
    EndsBy (wAll n rems cur w) (∀ r ∈ rems, ∀ x ∈ r, LenOk x) := by
  induction rems using queues_ind with
  | nil => intro cur w _; rw [wAll]; exact (EndsBy.of_ok rfl).iff (by simp)
  | cons a later ih =>
    intro cur w hv
    obtain ⟨h1, -, h3, h4, h5⟩ := (forall_queues _ (blockR a later) a later).mp hv
    rw [wAll_cons]
    exact ((wList_ends n _ cur w h1).bind <| (EndsBy.of_ok (by split <;> rfl)).bind <| (wRepBlock_ends _ _ _ later h3).bind <|
      (wList_ends n _ _ _ h4).bind (ih _ _ _ h5)).iff (forall_queues _ _ a later).symm

/-- Valid queues are written as `serAll` specifies. -/
theorem wAll_writes {nbF : Nat} (hnf : nbF ≤ 48) (n : Nat) (rems : List (List Ext)) : ∀ (f cur w : Nat),
    QOk nbF f rems → w + total rems = n → cur ≤ f → Writes (wAll n rems cur w) (serAll n rems cur w) := by
  induction rems using queues_ind with
  | nil => intro f cur w _ _ _; rw [wAll, serAll]; exact ⟨rfl, rfl⟩
  | cons a later ih =>
    intro f cur w hq hcount hcur
    obtain ⟨hv1, -, hv3, hv4, -⟩ := (forall_queues (ValidExt nbF) (blockR a later) a later).mp hq.valid
    have hfr : ∀ e ∈ a, e.frame.toNat = f := fun e he => (hq.head e he).2
    obtain ⟨hRa, hRl⟩ := blockR_le a later
    have htot := total_map_drop (blockR a later) later hRl
    rw [total_cons] at hcount
    have hbl := blockLast_true (n := n) (w := w) hcount
    have hqt := hq.tail (blockR a later)
    rw [wAll_cons, serAll_cons]
    generalize blockR a later = R at *
    generalize blockLast n a later w = last at *
    have hlen_post : (a.drop R).length = a.length - R := List.length_drop
    have hc1 := frameSorted_const (l := a.take R) hcur (fun e he => hfr e (List.mem_of_mem_take he))
    generalize hcur2 : (if 0 < R ∧ last = true then lastFrame cur (a.take R) + 1 else lastFrame cur (a.take R)) = cur2
    have hsorted2 : FrameSorted cur2 (a.drop R) ∧ lastFrame cur2 (a.drop R) ≤ f + 1 := by
      by_cases hl : 0 < R ∧ last = true
      · rw [(hbl hl.2).1]; rw [if_pos hl] at hcur2; exact ⟨trivial, by simp only [lastFrame]; omega⟩
      · rw [if_neg hl] at hcur2
        have := frameSorted_const (l := a.drop R) (hcur2 ▸ hc1.2) (fun e he => hfr e (List.mem_of_mem_drop he))
        exact ⟨this.1, by omega⟩
    have hind : Writes (if 0 < R then W.emit [.need 1, .put (if last then 4 else 5)] else (pure () : W Unit))
        (if 0 < R then [if last then 4 else 5] else []) := by split <;> exact ⟨rfl, rfl⟩
    simp only [List.append_assoc]
    exact (wList_writes hnf n _ cur w hv1 hc1.1).bind <| hind.bind <| (wRepBlock_writes R last _ later hv3).bind <|
      (wList_writes hnf n _ cur2 _ hv4 hsorted2.1).bind <|
      ih (List.drop R) (f + 1) _ _ hqt (by omega) hsorted2.2

end Opus.ExtProofs
