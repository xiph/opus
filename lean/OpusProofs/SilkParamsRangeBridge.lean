import OpusProofs.SilkSymsIndices
import OpusProofs.SilkParamsRangeDec
/-
  OpusProofs.SilkParamsRangeBridge — the input domain of the C18 range lemmas is what the SILK
  symbol decoder guarantees: from C03's `IndicesOk` (the conclusion of
  `OpusProps.C03.silkSyms_decode_indices_in_range`) to the hypotheses of
  `nlsfDecode_range`, `gainOfIndex_nowrap`/`gainDequantPrevTrace_range` and `decodePitch_range`.
-/
namespace Opus.SilkParams
open Opus Opus.Gen

/-- The C18 codebook record for a C03 `Rate` (`psDec->psNLSF_CB`, decoder_set_fs.c). -/
def cbOfRate : Opus.SilkSyms.Rate → NlsfCB
  | .wb => cbWb
  | _ => cbNbMb

theorem cbOfRate_cases (r : Opus.SilkSyms.Rate) : cbOfRate r = cbNbMb ∨ cbOfRate r = cbWb := by
  cases r <;> simp [cbOfRate]

theorem cbOfRate_dims (r : Opus.SilkSyms.Rate) :
    (Opus.SilkSyms.nlsfCB r).nVectors = (cbOfRate r).nVectors ∧
    (Opus.SilkSyms.nlsfCB r).order = (cbOfRate r).order := by
  cases r <;> decide

/-- Whatever `silk_decode_indices` returns lies in the domain on which the dequantiser range
    lemmas are proved. -/
theorem indicesOk_domain {rate : Opus.SilkSyms.Rate} {nb cc ps : Nat} {pl : Int} {ix : Opus.SilkSyms.Indices}
    (h : Opus.SilkSymsProofs.IndicesOk rate nb cc ps pl ix) :
    ix.nlsf0 < (cbOfRate rate).nVectors ∧ ix.nlsfRes.length = (cbOfRate rate).order ∧
    (∀ r ∈ ix.nlsfRes, -10 ≤ r ∧ r ≤ 10) ∧ (∀ g ∈ ix.gains, g < 64) ∧ ix.interp ≤ 4 := by
  have hd := cbOfRate_dims rate
  refine ⟨by rw [← hd.1]; exact h.nlsf0, by rw [← hd.2]; exact h.nlsfLen, h.nlsfRes, ?_, h.interp⟩
  intro g hg
  cases hgs : ix.gains with
  | nil => rw [hgs] at hg; cases hg
  | cons g0 gt =>
    rw [hgs] at hg
    rcases List.mem_cons.mp hg with rfl | h'
    · exact (h.gainsHead g (by rw [hgs]; rfl)).1
    · have := h.gainsTail g (by rw [hgs]; exact h'); omega

/-- The contour alphabet of C03 for `rate`, `nb` has as many symbols as the codebook `pitchCodebook` selects has columns. -/
def contourOk (rate : Opus.SilkSyms.Rate) (nb : Nat) : Bool :=
  match pitchCodebook (rate.kHz : Int) nb with
  | .ok (_, cbk) => (Opus.SilkSyms.pitchContour rate nb).length == cbk
  | _ => false

/-- The contour symbol alphabet of C03 (`psDec->pitch_contour_iCDF`) has exactly as many symbols as the
    contour codebook `silk_decode_pitch` selects for the same rate and sub-frame count, so a decoded
    contour index satisfies the hypothesis of `decodePitch_range`. -/
theorem contour_domain (rate : Opus.SilkSyms.Rate) (nb : Nat) (hnb : nb = 2 ∨ nb = 4) :
    contourOk rate nb = true := by
  rcases hnb with rfl | rfl <;> cases rate <;> decide +kernel

end Opus.SilkParams
