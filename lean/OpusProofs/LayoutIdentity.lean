import OpusProofs.DelayChannels
/-
  OpusProofs.LayoutIdentity — "channels keep their identity" for every layout whose mapping is a permutation of
  the coded channels: the ambisonics (family 2, C10 `ambisonics_channel_identity`), projection (family 3) and
  family-255 layouts.  `encoderInput` (which input channel the encoder feeds into a stream side) is defined in
  `OpusModel/DelayChannels.lean`, the general lemma `encoderInput_expectedSrc` is proved in
  `OpusProofs/DelayChannels.lean` (C04).
-/
namespace Opus.Layout
open Opus Opus.DelayChannels

/-- A mapping whose entries are pairwise distinct and never 255 codes every channel (none is muted) and
    the decoder reads channel `c` from the stream side the encoder filled from channel `c`: with distinct
    entries the encoder's first-occurrence scan for `mapping[c]` can only stop at `c`. -/
theorem identity_of_distinct (l : ChannelLayout) (hmap : l.nbChannels ≤ l.mapping.length)
    (h255 : ∀ c, c < l.nbChannels → l.mapping[c]? ≠ some 255)
    (hdist : ∀ i c, i < c → c < l.nbChannels → l.mapping[i]? ≠ l.mapping[c]?)
    (c : Nat) (hc : c < l.nbChannels) :
    expectedSrc l c ≠ .zero ∧ encoderInput l (expectedSrc l c) = (c : Int) := by
  have hv : l.mapping[c]? = some l.mapping[c] := List.getElem?_eq_getElem (by omega)
  exact ⟨fun h => h255 c hc ((expectedSrc_zero_iff l c hc hmap).1 h),
    encoderInput_expectedSrc l c _ hc hv (fun h => h255 c hc (h ▸ hv))
      (fun i hi h => hdist i c hi hc (h.trans hv.symm))⟩

/-- A mapping that is a permutation of `0..ch-1` has distinct entries below `ch ≤ 255`. -/
theorem identity_of_perm {l : ChannelLayout} (hp : l.chans.Perm (List.range l.nbChannels)) (h255 : l.nbChannels ≤ 255)
    (c : Nat) (hc : c < l.nbChannels) :
    expectedSrc l c ≠ .zero ∧ encoderInput l (expectedSrc l c) = (c : Int) := by
  have hlen : l.chans.length = l.nbChannels := by rw [hp.length_eq, List.length_range]
  have hmap : l.nbChannels ≤ l.mapping.length := by
    unfold ChannelLayout.chans at hlen; rw [List.length_take] at hlen; omega
  have hget : ∀ i, i < l.nbChannels → l.mapping[i]? = l.chans[i]? := fun i hi => by
    unfold ChannelLayout.chans; rw [List.getElem?_take, if_pos hi]
  refine identity_of_distinct l hmap (fun k hk e => ?_) (fun i k hi hk e => ?_) c hc
  · rw [hget k hk] at e
    have := List.mem_range.1 (hp.mem_iff.1 (List.mem_of_getElem? e)); omega
  · rw [hget k hk, hget i (by omega)] at e
    have := (List.getElem?_inj (by omega) (hp.nodup_iff.2 List.nodup_range)).1 e; omega

/-- An identity mapping (projection, family 255) routes every channel back to itself, whatever the
    split into coupled and mono streams. -/
theorem identity_mapping_identity (ch st co c : Nat) (hch : ch ≤ 255) (hc : c < ch) :
    expectedSrc ⟨ch, st, co, List.range ch⟩ c ≠ .zero ∧
    encoderInput ⟨ch, st, co, List.range ch⟩ (expectedSrc ⟨ch, st, co, List.range ch⟩ c) = (c : Int) :=
  identity_of_perm (by rw [chans_of_length List.length_range]) hch c hc

end Opus.Layout
