import OpusProofs.SilkParamsNlsf
import OpusProofs.SilkParamsRangeCos
/-
  OpusProofs.SilkParamsDec — NLSF interpolation and the NLSF part of silk_decode_parameters.
-/
namespace Opus.SilkParams
open Opus.Gen

/-- The decoder's inline interpolation (decode_parameters.c:66-69) and the encoder's `silk_interpolate` (through `silk_SMULBB`)
    on vectors in `[0, 32767]`: every result lies between the two inputs, so no cast on either side changes a value. -/
theorem nlsfInterp_spec (k : Int) (hk0 : 0 ≤ k) (hk1 : k ≤ 4) : ∀ (p c : List Int),
    p.length = c.length → (∀ e ∈ p, 0 ≤ e ∧ e ≤ 32767) → (∀ e ∈ c, 0 ≤ e ∧ e ≤ 32767) →
    nlsfInterpEnc k p c = nlsfInterpDec k p c ∧ (nlsfInterpDec k p c).length = c.length ∧
    ∀ e ∈ nlsfInterpDec k p c, 0 ≤ e ∧ e ≤ 32767 := by
  intro p
  induction p with
  | nil => intro c h _ _; cases c <;> simp_all [nlsfInterpEnc, nlsfInterpDec]
  | cons p0 ps ih =>
    intro c h hp hc
    match c, h with
    | c0 :: cs, h =>
      have := ih cs (by simpa using h) (fun e he => hp e (by simp [he])) (fun e he => hc e (by simp [he]))
      have hp0 := hp p0 (by simp)
      have hc0 := hc c0 (by simp)
      have hb : 0 ≤ p0 + k * (c0 - p0) / 4 ∧ p0 + k * (c0 - p0) / 4 ≤ 32767 := by
        rcases (show k = 0 ∨ k = 1 ∨ k = 2 ∨ k = 3 ∨ k = 4 by omega) with rfl | rfl | rfl | rfl | rfl <;> omega
      have h1 : wrap16 (c0 - p0) = c0 - p0 := by unfold wrap16; omega
      have h2 : wrap16 k = k := by unfold wrap16; omega
      simp only [nlsfInterpEnc, nlsfInterpDec, this.1, List.length_cons, List.mem_cons, forall_eq_or_imp]
      refine ⟨?_, by omega, ?_, this.2.2⟩
      · unfold smulbb
        rw [h1, h2, Int.mul_comm]
      · unfold shrI
        simp only [Int.reducePow]
        rw [wrap16_id ⟨by omega, by omega⟩]
        exact hb

/-- The NLSF part of `silk_decode_parameters`, for any codebook with the table facts `CbOk` (the two real ones have them: `cbOk`).
    The first conjunct is what C18 states; length and range of the decoded vector are what the synthesis side needs of it. -/
theorem decodeNlsfParams_spec (cb : NlsfCB) (ok : CbOk cb) (cb1 : Nat) (h1 : cb1 < cb.nVectors) (idx prev : List Int)
    (coef ffar : Int) (hlen : idx.length = cb.order) (hpl : prev.length = cb.order)
    (hpr : ∀ e ∈ prev, 0 ≤ e ∧ e ≤ 32767) (hc0 : 0 ≤ coef) (hc1 : coef ≤ 4) :
    ∃ a0 a1 nlsf, (decodeNlsfParams cb ((cb1 : Int) :: idx) prev coef ffar = .ok (a0, a1, nlsf) ∧
      SpacedFrom 0 nlsf cb.deltaMinQ15 ∧
      a0.length = cb.order ∧ a1.length = cb.order ∧ AllI16 a0 ∧ AllI16 a1 ∧
      lpcInversePredGain a0 ≠ 0 ∧ lpcInversePredGain a1 ≠ 0) ∧
      nlsf.length = cb.order ∧ ∀ e ∈ nlsf, 0 ≤ e ∧ e ≤ 32767 := by
  obtain ⟨nlsf, hn, hsp, hnl, hrange, -⟩ := nlsfDecode_ordered cb ok cb1 h1 idx hlen
  have ho := ok.order
  obtain ⟨a1, ha1, ha1l, ha1I, ha1g⟩ := nlsf2a_spec nlsf (by rw [hnl]; exact ho) hrange
  unfold decodeNlsfParams
  simp only [hn, ha1, bind, Res.bind, pure]
  have hk : 0 ≤ (if ffar = 1 then 4 else coef) ∧ (if ffar = 1 then 4 else coef) ≤ 4 := by
    split <;> omega
  generalize (if ffar = 1 then (4 : Int) else coef) = k at hk ⊢
  by_cases hlt : k < 4
  · simp only [hlt, ↓reduceIte]
    have hi := (nlsfInterp_spec k hk.1 hk.2 prev nlsf (by omega) hpr hrange).2
    obtain ⟨a0, ha0, ha0l, ha0I, ha0g⟩ := nlsf2a_spec _ (by rw [hi.1, hnl]; exact ho) hi.2
    simp only [ha0]
    exact ⟨a0, a1, nlsf, ⟨rfl, hsp, by omega, by omega, ha0I, ha1I, ha0g, ha1g⟩, hnl, hrange⟩
  · simp only [hlt, ↓reduceIte]
    exact ⟨a1, a1, nlsf, ⟨rfl, hsp, by omega, by omega, ha1I, ha1I, ha1g, ha1g⟩, hnl, hrange⟩

end Opus.SilkParams
