import OpusProofs.RangeCoderDone
import OpusProofs.RangeCoderSym
import OpusProofs.RangeCoderStageA
import OpusProofs.RangeCoderNest
/-
  OpusProofs.RangeCoderRun — C08: one encoder operation preserves the run invariant
  and lets the two containment facts (range bytes: `Contains`, raw bits: `RawC`) travel backwards
  from the finished buffer to every intermediate encoder state.
-/
namespace Opus.RangeCoder

/-- The run invariant: invariant E, a well-formed raw-bit window, and a buffer of bytes. -/
structure RunInv (c : Enc) : Prop where
  inv : EncInv c
  raw : RawInv c
  bytes : BytesOk c.buf

/-- Legality of an operation in a given encoder state.  `ec_enc_shrink` must keep the bytes
    already written (its `celt_assert`) and may only shrink.  `ec_enc_patch_initial_bits` is
    not part of the round-trip theorems. -/
def Op.LegalAt (c : Enc) : Op → Prop
  | .patchInitial _ _ => False
  | .shrink size => c.offs + c.endOffs ≤ size ∧ size ≤ c.storage
  | op => op.Legal

instance (c : Enc) (op : Op) : Decidable (op.LegalAt c) := by
  cases op <;> unfold Op.LegalAt <;> infer_instance

theorem legalAt_legal {c : Enc} {op : Op} (h : op.LegalAt c) : op.Legal := by
  cases op with
  | patchInitial v n => exact absurd h (by simp [Op.LegalAt])
  | shrink size => trivial
  | _ => exact h

theorem take_eq_of_getD {l m : List Nat} (hl : l.length = m.length) (n : Nat)
    (h : ∀ i, i < n → l.getD i 0 = m.getD i 0) : l.take n = m.take n := by
  apply List.ext_getElem?
  intro i
  simp only [List.getElem?_take]
  split
  · rename_i hi
    have := h i hi
    simp only [List.getD_eq_getElem?_getD] at this
    by_cases hil : i < l.length
    · have him : i < m.length := by omega
      rw [List.getElem?_eq_getElem hil, List.getElem?_eq_getElem him] at this ⊢
      simpa using this
    · rw [List.getElem?_eq_none (by omega), List.getElem?_eq_none (by omega)]
  · rfl

theorem rawQ_lt (c : Enc) (ri : RawInv c) (hb : BytesOk c.buf) : rawQ c c.endWindow < 2 ^ rawN c := by
  unfold rawQ rawN
  have h1 : tailVal c.buf c.storage c.endOffs < 256 ^ c.endOffs := tailVal_lt _ (fun j _ => endByte_lt hb _ j)
  have h2 := ri.win_lt
  have e : 8 * c.endOffs + c.nendBits = c.nendBits + 8 * c.endOffs := by omega
  rw [e, two_pow_8mul]
  have : (c.endWindow + 1) * 256 ^ c.endOffs ≤ 2 ^ c.nendBits * 256 ^ c.endOffs := Nat.mul_le_mul_right _ h2
  rw [Nat.add_mul] at this
  omega

/-- Raw-bit containment goes back through an append to the queue. -/
theorem rawC_back {B : List Nat} {S : Nat} {c c' : Enc} (ri : RawInv c) (hb : BytesOk c.buf) (v n : Nat)
    (hq : rawQ c' c'.endWindow = rawQ c c.endWindow + v * 2 ^ rawN c) (hn : rawN c' = rawN c + n)
    (h : RawC B S c') : RawC B S c := by
  unfold RawC at h ⊢
  rw [hq, hn] at h
  have hd : 2 ^ rawN c ∣ 2 ^ (rawN c + n) := Nat.pow_dvd_pow 2 (by omega)
  have := congrArg (fun x => x % 2 ^ rawN c) h
  rw [Nat.mod_mod_of_dvd _ hd, Nat.add_mul_mod_self_right, Nat.mod_eq_of_lt (rawQ_lt c ri hb)] at this
  exact this

/-- One successful encoder operation from `c` to `c'`, as the run lemmas compose it: the invariant holds again, the
    counters are monotone, the interval is nested (`nest`), raw-bit containment travels back (`rawc`). -/
structure StepOk (c c' : Enc) : Prop where
  err0 : c.error = 0
  run : RunInv c'
  nbits : c.nbitsTotal ≤ c'.nbitsTotal
  sto : c'.storage ≤ c.storage
  nest : ∃ k, Nest k c c'
  rawc : ∀ B S, RawC B S c' → RawC B S c

theorem StepOk.cont {c c' : Enc} (h : StepOk c c') (B : List Nat) (S : Nat) (hB : ∀ i, byteAt B S i < 256)
    (hc : Contains B S c') : Contains B S c :=
  h.nest.elim fun _ n => n.contains B S hB hc

theorem step_prim (c : Enc) (op : Op) (ri : RunInv c) (hl : op.Legal) {r a b : Nat} {first : Bool}
    (hsub : op.sub c.rng = some (r, a, b, first)) (hn : (encOp c op).nbitsTotal < 4294967296)
    (herr : (encOp c op).error = 0) : StepOk c (encOp c op) := by
  obtain ⟨inv, raw, bytes⟩ := ri
  obtain ⟨ok, heq⟩ := encOp_sub c op inv hl hsub
  rw [heq] at hn herr ⊢
  have nest := Nest.prim c r a b first inv ok hn herr
  obtain ⟨n0, n1, -, n3, n4, n5, n6, n7, n8, n9⟩ :=
    encNormalize_spec (encSub c r a b first) (encSub_spec c r a b first inv ok).1 hn herr
  have hnb := encNormalize_nbits_ge (encSub c r a b first)
  rw [encSub_nbitsTotal] at hnb
  rw [encSub_error] at n0
  rw [encSub_buf] at n3 n7
  rw [encSub_storage] at n5
  rw [encSub_endOffs] at n6
  rw [encSub_endWindow] at n8
  rw [encSub_nendBits] at n9
  have hb' : BytesOk (encNormalize (encSub c r a b first)).buf :=
    encNormalize_bytesOk _ (by rw [encSub_buf]; exact bytes)
  generalize encNormalize (encSub c r a b first) = c' at *
  refine ⟨n0, ⟨n1, ⟨by rw [n8, n9]; exact raw.win_lt, by rw [n9]; exact raw.nend_le⟩, hb'⟩, hnb, by omega, nest, ?_⟩
  intro B S h
  unfold RawC at h ⊢
  obtain ⟨e1, e2⟩ := rawQ_congr n5 n6 n8 n9 (by have := n1.wf.offs_le; rw [n5, n6] at this; exact this) n3
  rw [← e1, ← e2]; exact h

theorem encBits_error_mono (c : Enc) (v n : Nat) (h : c.error ≠ 0) : (encBits c v n).error ≠ 0 :=
  encBits_pres (·.error ≠ 0) (fun _ _ h => writeByteAtEnd_error_mono h) (fun _ _ _ _ h => h) c v n h

/-- `ec_enc_bits` leaves the range coder's fields alone. -/
theorem encBits_fields (c : Enc) (v n : Nat) :
    (encBits c v n).offs = c.offs ∧ (encBits c v n).storage = c.storage ∧ (encBits c v n).rng = c.rng ∧
    (encBits c v n).val = c.val ∧ (encBits c v n).ext = c.ext ∧ (encBits c v n).rem = c.rem :=
  encBits_pres (fun x => x.offs = c.offs ∧ x.storage = c.storage ∧ x.rng = c.rng ∧ x.val = c.val ∧ x.ext = c.ext ∧
    x.rem = c.rem) (fun _ _ h => by simpa using h) (fun _ _ _ _ h => h) c v n ⟨rfl, rfl, rfl, rfl, rfl, rfl⟩

/-- `ec_enc_bits` leaves the range coder's interval alone. -/
theorem encBits_range (c : Enc) (v n : Nat) (ri : RunInv c) (hn2 : n ≤ 25) (hv : v < 2 ^ n)
    (herr : (encBits c v n).error = 0) :
    encM (encBits c v n) = encM c ∧ encLow (encBits c v n) = encLow c ∧ (encBits c v n).rng = c.rng ∧
    (encBits c v n).nbitsTotal = c.nbitsTotal + n ∧
    rawQ (encBits c v n) (encBits c v n).endWindow = rawQ c c.endWindow + v * 2 ^ rawN c ∧
    rawN (encBits c v n) = rawN c + n := by
  have wf := ri.inv.wf
  obtain ⟨_, _, k2, k3, _, k7, k8⟩ :=
    encBits_spec c v n ri.raw hn2 hv wf.offs_le wf.storage_le herr
  obtain ⟨f_offs, _, f_rng, f_val, f_ext, f_rem⟩ := encBits_fields c v n
  have htake : (encBits c v n).buf.take c.offs = c.buf.take c.offs :=
    take_eq_of_getD k7 _ (fun i hi => k8 i (by have := wf.offs_le; omega))
  have hdig : digitsVal (encBits c v n) = digitsVal c := by
    unfold digitsVal pendCount pendVal; rw [f_offs, f_rem, f_ext, htake]
  have hM : encM (encBits c v n) = encM c := by unfold encM pendCount; rw [f_offs, f_rem, f_ext]
  exact ⟨hM, by unfold encLow; rw [hdig, f_val], f_rng, (encBits_rn c v n).2, k2, k3⟩

theorem step_bits (c : Enc) (v n : Nat) (ri : RunInv c) (hn2 : n ≤ 25) (hv : v < 2 ^ n)
    (herr : (encBits c v n).error = 0) : StepOk c (encBits c v n) := by
  obtain ⟨g1, g2, g3, g4, g5, g6⟩ := encBits_range c v n ri hn2 hv herr
  obtain ⟨inv, raw, bytes⟩ := ri
  obtain ⟨⟨wf, rp, rh, sl, cs, eb⟩, rl⟩ := inv
  obtain ⟨k0, k1, _, _, k6, k7, _⟩ :=
    encBits_spec c v n raw hn2 hv wf.offs_le wf.storage_le herr
  obtain ⟨f_offs, f_sto, f_rng, f_val, f_ext, f_rem⟩ := encBits_fields c v n
  have hb' : BytesOk (encBits c v n).buf :=
    encBits_pres (fun c => BytesOk c.buf) writeByteAtEnd_bytesOk (fun _ _ _ _ h => h) c v n bytes
  refine ⟨k0, ⟨⟨⟨⟨by rw [f_offs, f_sto]; exact k6, by rw [f_sto, k7]; exact wf.storage_le,
    by rw [f_rem]; exact wf.rem_lo, by rw [f_rem]; exact wf.rem_hi⟩, by rw [f_rng]; exact rp,
    by rw [f_rng]; exact rh, by rw [f_rng, f_val]; exact sl, by rw [f_rng, f_val, f_rem]; exact cs,
    by rw [f_ext, g4]; omega⟩, by rw [f_rng]; exact rl⟩, k1, hb'⟩, by omega, by omega,
    ⟨0, (Nest.refl c).raw g1 g2 g3 f_val (by omega)⟩, fun B S h => rawC_back raw bytes v n g5 g6 h⟩

/-- `ec_enc_shrink` moves raw bytes only: the range coder's digits stay. -/
theorem encShrink_encLow (c : Enc) (size : Nat) (ws : c.storage ≤ c.buf.length) (h1 : c.offs + c.endOffs ≤ size)
    (h2 : size ≤ c.storage) : encLow (encShrink c size) = encLow c := by
  obtain ⟨hlen, hpre, -⟩ := shrink_buf c.buf c.storage size c.endOffs (by omega) h2 ws
  have htake : (encShrink c size).buf.take c.offs = c.buf.take c.offs :=
    take_eq_of_getD hlen _ (fun i hi => hpre i (by omega))
  exact congrArg (fun t => (bytesVal t * 256 ^ pendCount c + pendVal c) * 2147483648 + c.val) htake

theorem step_shrink (c : Enc) (size : Nat) (ri : RunInv c) (h1 : c.offs + c.endOffs ≤ size)
    (h2 : size ≤ c.storage) (herr : (encShrink c size).error = 0) : StepOk c (encShrink c size) := by
  obtain ⟨inv, raw, bytes⟩ := ri
  obtain ⟨⟨wf, rp, rh, sl, cs, eb⟩, rl⟩ := inv
  obtain ⟨hlen, -, hend, hmem, -⟩ := shrink_buf c.buf c.storage size c.endOffs (by omega) h2 wf.storage_le
  -- `ec_enc_shrink` changes `buf` and `storage` only
  have hrun : RunInv (encShrink c size) :=
    ⟨⟨⟨⟨h1, Nat.le_trans h2 (Nat.le_trans wf.storage_le (Nat.le_of_eq hlen.symm)), wf.rem_lo, wf.rem_hi⟩,
      rp, rh, sl, cs, eb⟩, rl⟩, ⟨raw.win_lt, raw.nend_le⟩, fun b hb => bytes b (hmem b hb)⟩
  have hq : rawQ (encShrink c size) (encShrink c size).endWindow = rawQ c c.endWindow :=
    congrArg (· + c.endWindow * 256 ^ c.endOffs) (tailVal_congr c.endOffs (fun j hj => by
      show (if j < size then (encShrink c size).buf.getD (size - 1 - j) 0 else 0) = endByte c.buf c.storage j
      unfold endByte
      rw [if_pos (show j < size by omega), if_pos (show j < c.storage by omega)]
      exact hend j hj))
  refine ⟨herr, hrun, Nat.le_refl _, h2,
    ⟨0, (Nest.refl c).raw rfl (encShrink_encLow c size wf.storage_le h1 h2) rfl rfl rfl⟩, fun B S h => ?_⟩
  unfold RawC at h ⊢
  rw [← hq]; exact h

theorem step_uint (c : Enc) (v ft : Nat) (ri : RunInv c) (h1 : 2 ≤ ft) (h2 : ft ≤ 4294967295) (h3 : v < ft)
    (hn : (encUint c v ft).nbitsTotal < 4294967296) (herr : (encUint c v ft).error = 0) :
    StepOk c (encUint c v ft) := by
  rcases uint_shape h1 h2 h3 with ⟨ft', -, hleg, he, -⟩ | ⟨ftb, ft', -, h24, -, -, hleg, he, -⟩
  · rw [he] at hn herr ⊢
    exact step_prim c (.encode v (v + 1) ft') ri hleg rfl hn herr
  · rw [he] at hn herr ⊢
    have hlo : v % 2 ^ ftb < 2 ^ ftb := Nat.mod_lt _ (Nat.pow_pos (by decide))
    have hmono := (encBits_rn (encode c (v / 2 ^ ftb) (v / 2 ^ ftb + 1) ft') (v % 2 ^ ftb) ftb).2
    have s1 := step_prim c (.encode (v / 2 ^ ftb) (v / 2 ^ ftb + 1) ft') ri hleg rfl
      (by simp only [encOp]; omega) (zero_of_sticky (encBits_error_mono _ _ _) herr)
    simp only [encOp] at s1
    have s2 := step_bits _ _ _ s1.run (by omega) hlo herr
    obtain ⟨g1, g2, g3, g4, -, g6⟩ := encBits_range _ (v % 2 ^ ftb) ftb s1.run (by omega) hlo herr
    obtain ⟨k, n1⟩ := s1.nest
    exact ⟨s1.err0, s2.run, Nat.le_trans s1.nbits s2.nbits, Nat.le_trans s2.sto s1.sto,
      ⟨k, n1.raw g1 g2 g3 (encBits_fields _ _ _).2.2.2.1 (by omega)⟩, fun B S h => s1.rawc B S (s2.rawc B S h)⟩

theorem Op.isPrim_legalAt {op : Op} (h : op.isPrim = true) (c : Enc) : op.LegalAt c ↔ op.Legal := by
  cases op with
  | patchInitial v n => cases h
  | shrink size => cases h
  | _ => rfl

theorem step_op (c : Enc) (op : Op) (ri : RunInv c) (hl : op.LegalAt c)
    (hn : (encOp c op).nbitsTotal < 4294967296) (herr : (encOp c op).error = 0) : StepOk c (encOp c op) := by
  by_cases hp : op.isPrim = true
  · obtain ⟨r, a, b, first, hsub⟩ := Op.isPrim_sub hp c.rng
    exact step_prim c op ri ((Op.isPrim_legalAt hp c).1 hl) hsub hn herr
  cases op with
  | uint v ft => exact step_uint c v ft ri hl.1 hl.2.1 hl.2.2 hn herr
  | bits v n => exact step_bits c v n ri hl.2.1 hl.2.2 herr
  | patchInitial v n => exact absurd hl (by simp [Op.LegalAt])
  | shrink size => exact step_shrink c size ri hl.1 hl.2 herr
  -- the five symbol coders, for which `isPrim` is `true` by `rfl`
  | _ => exact absurd rfl hp

end Opus.RangeCoder
