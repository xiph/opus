import OpusProofs.OpusFrameCelt
/-
  C08 — the redundancy frame of the concrete HYBRID frame WITH redundancy
  (OpusProofs/OpusFrameHybridRedExample2.lean): a 30-byte SWB 5 ms frame from C17's encoder model on a coder of its own,
  105 coder calls, filled to the last bit.
-/
namespace Opus.OpusFrameProofs.Example
open Opus Opus.RangeCoder Opus.SilkSyms Opus.SilkSymsEnc Opus.SilkSymsEncProofs Opus.OpusFrameEnc Opus.CeltSymsEnc
open OpusProofs.CeltHdr Opus.OpusFrameProofs

def cfgR19 : EncCfg := { start := 0, end_ := 19, C := 1, LM := 1, vbr := false, lfe := false, size := 30 }
/-- decisions: silence 0, pf off, transient 0, intra 0, 19 energies, 19 tf decisions, spread 2, 19 × no dynalloc boost,
    trim 5, intensity 19, dual 0, prev 0, signalBandwidth 19; then 38 × 1 for the band data -/
def dsR19 : List Int := [0, 0, 0, 0, 1, 2, -1, 0, 0, 1, 0, -2, 0, 0, 1, 0, 0, 0, 0, 1, 0, -1, 0] ++ List.replicate 19 0 ++
  [2] ++ List.replicate 19 0 ++ [5, 19, 0, 0, 19] ++ List.replicate 38 1
def bufR19 : List Nat := List.replicate 30 0
def s0R19 : St := { e := encInit bufR19 30, ops := [], ds := dsR19 }
def allR19 : List Op := match Opus.CeltBandsEnc.encFrame cfgR19 s0R19 with | .ok f => f.ops | _ => []

/-- the finished redundancy frame (`ec_enc_done`, 30 bytes) -/
def bytesR19 : List Nat :=
  [75, 32, 87, 22, 199, 32, 32, 196, 32, 241, 163, 73, 220, 5, 139, 204, 0, 0, 0, 0, 0, 8, 8, 32, 136, 32, 235, 247, 250, 169]

/-- One evaluation for every fact about this run that is used below or in OpusProofs/OpusFrameHybridRedExample2.lean (header
    decisions, final coder state, the finished frame `bytesR19`) -/
theorem runR19 : (Opus.CeltBandsEnc.encFrame cfgR19 s0R19).OkAnd fun fr =>
    (fr.hdr.silence = 0 ∧ fr.hdr.size = 30 ∧ fr.hdr.pf.on = 0 ∧ (cfgR19.start : Int) ≤ fr.hdr.allocInp.intensity ∧
      fr.hdr.allocInp.dualStereo = 0 ∧ fr.fin.rng = 727052288 ∧ fr.ops.length = 105 ∧ tell fr.fin = 240) ∧
    (RunOk bufR19 30 fr.ops ∧ (encodeAll bufR19 30 fr.ops).storage = 30 ∧
      (encodeAll bufR19 30 fr.ops).buf.take 30 = bytesR19) := by
  decide +kernel

theorem allR19_eq {fr : Opus.CeltBandsEnc.EncFrame} (h : Opus.CeltBandsEnc.encFrame cfgR19 s0R19 = .ok fr) :
    allR19 = fr.ops := by
  rw [allR19, h]

theorem allR19_coder : RunOk bufR19 30 allR19 ∧ (encodeAll bufR19 30 allR19).storage = 30 ∧
    (encodeAll bufR19 30 allR19).buf.take 30 = bytesR19 := by
  obtain ⟨fr, h, -, hc⟩ := runR19
  rw [allR19_eq h]; exact hc

def worldR19 : World :=
  { buf := bufR19, size := 30, all := allR19, hs := by decide, hb := by decide +kernel, hl := allR19_coder.1.1,
    hn := allR19_coder.1.2.1, herr := allR19_coder.1.2.2.1, hn29 := allR19_coder.1.2.2.2 }

theorem worldR19_len : worldR19.len = 30 := by
  rw [World.len]; exact allR19_coder.2.1

theorem worldR19_bytes : worldR19.bytes = bytesR19 := by
  rw [World.bytes, worldR19_len]; exact allR19_coder.2.2

theorem hybRedLen : worldR19.bytes.length = 30 := by rw [worldR19_bytes]; rfl

theorem ownR19 : ∃ fr, OwnCoderFrame worldR19 cfgR19 s0R19 fr ∧ fr.fin.rng = 727052288 ∧ fr.ops.length = 105 ∧ tell fr.fin = 240 := by
  obtain ⟨fr, h, ⟨hsil, hsize, hpf, hint, hdual, hfin⟩, -⟩ := runR19
  exact ⟨fr, ⟨rfl, rfl, rfl, h, hsil, ⟨[], by rw [List.append_nil]; exact allR19_eq h⟩, by decide, by decide,
    by rw [worldR19_len, hsize], Or.inl worldR19_len, by rw [worldR19_len]; decide +kernel, fun hne => absurd hpf hne, hint,
    Or.inl hdual⟩, hfin⟩

end Opus.OpusFrameProofs.Example
