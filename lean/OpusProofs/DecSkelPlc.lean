import OpusProofs.DecSkelFrame
/-
  OpusProofs.DecSkelPlc — the concealment prologue of `opus_decode_frame` (:294-352): frame-size
  clamps, the "no packet yet" path, the PLC chunk loop (:333-342) and the unrolling of the
  recursion into layers.

  Durations are written `j * u`, multiples of the 2.5 ms unit `u`.  As `u > 0`, comparing two multiples is comparing
  their coefficients (`Int.mul_lt_mul_right`, `Int.mul_le_mul_right`), which turns the clamps into arithmetic on small
  numbers.
-/
namespace Opus.DecSkel
open Opus
variable {o : Oracle} {st0 : DecState} {cap0 u : Int} {r : Run} {inner : Ptr → Int → Run → Res'}

theorem min_mul_unit {u : Int} (hu : 0 < u) (a b : Int) : min (a * u) (b * u) = min a b * u := by
  simp only [Int.min_def, Int.mul_le_mul_right hu]
  split <;> rfl

theorem unit_le_mul {u j : Int} (hu : 0 < u) (hj : 1 ≤ j) : u ≤ j * u := by
  have := Int.mul_le_mul_of_nonneg_right hj (Int.le_of_lt hu)
  rwa [Int.one_mul] at this

/-- The frame durations `TocOk` allows, as explicit multiples. -/
theorem tocOk_pfs {fs mode bw pfs u : Int} (h : TocOk fs mode bw pfs) (hu : fs / 400 = u) :
    pfs = 1 * u ∨ pfs = 2 * u ∨ pfs = 4 * u ∨ pfs = 8 * u ∨ pfs = 16 * u ∨ pfs = 24 * u := by
  unfold TocOk at h
  simp only [hu] at h
  omega

theorem Units.toc_bounds {st : DecState} {u mode bw pfs : Int} (hu : Units st u) (h : TocOk st.Fs mode bw pfs) :
    0 < pfs ∧ pfs ≤ 24 * u := by
  have := tocOk_pfs h hu.u400
  have := hu.pos
  omega

/-- The same durations as `f` units, the form the unit arithmetic of the loops uses. -/
theorem tocOk_units {fs mode bw pfs u : Int} (h : TocOk fs mode bw pfs) (hu : fs / 400 = u) :
    ∃ f : Int, pfs = f * u ∧ (f = 1 ∨ f = 2 ∨ f = 4 ∨ f = 8 ∨ f = 16 ∨ f = 24) := by
  rcases tocOk_pfs h hu with e | e | e | e | e | e <;> exact ⟨_, e, by omega⟩

/-- A row of the TOC table with a mode, in the terms `BodyOk` asks of a data frame: CELT frames last at most 20 ms, a
    SILK-only frame has a SILK bandwidth, every bandwidth has an end band, SILK and hybrid frames last at least 10 ms. -/
theorem tocOk_frame {fs mode bw fsz u : Int} (h : TocOk fs mode bw fsz) (hu : fs / 400 = u) (hu0 : 0 ≤ u) (hm : mode ≠ 0) :
    (mode = MODE_SILK ∨ mode = MODE_HYBRID ∨ mode = MODE_CELT) ∧
    (mode ≠ MODE_SILK → (fsz = u ∨ fsz = 2 * u ∨ fsz = 4 * u ∨ fsz = 8 * u)) ∧
    (mode = MODE_SILK → (bw = BW_NB ∨ bw = BW_MB ∨ bw = BW_WB)) ∧ endbandOk bw = true ∧
    (mode ≠ MODE_CELT → 4 * u ≤ fsz) := by
  unfold TocOk at h
  simp only [hu] at h
  rcases h with h | ⟨rfl, hb, hf⟩ | ⟨rfl, hb, hf⟩ | ⟨rfl, hb, hf⟩
  · exact absurd h.1 hm
  · exact ⟨Or.inl rfl, fun h => absurd rfl h, fun _ => hb, by rcases hb with h | h | h <;> rw [h] <;> decide, fun _ => by omega⟩
  · exact ⟨Or.inr (Or.inl rfl), fun _ => by omega, fun h => absurd h (by decide),
      by rcases hb with h | h <;> rw [h] <;> decide, fun _ => by omega⟩
  · exact ⟨Or.inr (Or.inr rfl), fun _ => by omega, fun h => absurd h (by decide),
      by rcases hb with h | h | h | h <;> rw [h] <;> decide, fun h => absurd rfl h⟩

/-- The mode a lost frame is concealed in (:316-318): CELT after a SILK→CELT redundancy frame, otherwise the mode of
    the previous frame; 0 = nothing decoded yet. -/
def plcMode (st : DecState) : Int := if st.prev_redundancy ≠ 0 then MODE_CELT else st.prev_mode

theorem DecInv.plcMode_cases {st : DecState} (h : DecInv st) :
    plcMode st = 0 ∨ plcMode st = MODE_SILK ∨ plcMode st = MODE_HYBRID ∨ plcMode st = MODE_CELT := by
  unfold plcMode
  split
  · exact Or.inr (Or.inr (Or.inr rfl))
  · exact h.pm

theorem DecInv.plcMode_ready {st : DecState} (h : DecInv st) (h0 : plcMode st ≠ 0) (hc : plcMode st ≠ MODE_CELT) :
    st.dc.internalSampleRate ≠ 0 ∧ st.dc.nChannelsInternal ≠ 0 := by
  unfold plcMode at h0 hc
  split at hc
  · exact absurd rfl hc
  · rename_i hr
    rw [if_neg hr] at h0
    have := h.pm
    exact h.silkReady (by omega)

theorem nullAfterClamp_noHistory (o : Oracle) (inner : Ptr → Int → Run → Res') (len : Int) (pcm : Ptr) (n : Int) (r : Run)
    (h : plcMode r.st = 0) :
    nullAfterClamp o inner len pcm n r = (.ret n, r.push (.acc 12 pcm (n * r.st.channels))) := by
  unfold plcMode at h
  unfold nullAfterClamp
  simp only [h, ↓reduceIte]

theorem nullAfterClamp_loop (o : Oracle) (inner : Ptr → Int → Run → Res') (len : Int) (pcm : Ptr) (n : Int) (r : Run)
    (h0 : plcMode r.st ≠ 0) (hn : n > F20 r.st) :
    nullAfterClamp o inner len pcm n r = plcLoop inner (F20 r.st) r.st.channels n n pcm r := by
  unfold plcMode at h0
  unfold nullAfterClamp
  simp only [h0, hn, ↓reduceIte]

/-- The frame a concealment call of at most 20 ms hands to the body: no data, the clamped audiosize (:343-352). -/
def plcBody (len : Int) (pcm : Ptr) (n : Int) (st : DecState) : Body :=
  { data := none, len := len, pcm := pcm, frame_size := n,
    audiosize :=
      if n < F20 st then
        if n > F10 st then F10 st
        else if plcMode st ≠ MODE_SILK ∧ n > F5 st ∧ n < F10 st then F5 st else n
      else n,
    mode := plcMode st, bandwidth := 0, fec := 0 }

theorem nullAfterClamp_frame (o : Oracle) (inner : Ptr → Int → Run → Res') (len : Int) (pcm : Ptr) (n : Int) (r : Run)
    (h0 : plcMode r.st ≠ 0) (hn : ¬ n > F20 r.st) :
    nullAfterClamp o inner len pcm n r = frameBody o (fun _ _ r => (.abort, r)) (plcBody len pcm n r.st) r := by
  unfold plcBody plcMode at *
  unfold nullAfterClamp
  simp only [h0, hn, ↓reduceIte]

/-- The audiosize clamp of :343-352 on a request of `j ≤ 8` units: 5–7 units become 4 (one 10 ms frame), and 3 units
    become 2 unless the SILK-only layer conceals (it produces 10 ms and 7.5 ms are kept). -/
theorem plcClamp_units {u : Int} (hu : 0 < u) (notSilk : Prop) [Decidable notSilk] {j : Int} (hj : 1 ≤ j ∧ j ≤ 8) :
    ∃ c : Int, (if j * u < 8 * u then
        if j * u > 4 * u then 4 * u else if notSilk ∧ j * u > 2 * u ∧ j * u < 4 * u then 2 * u else j * u
      else j * u) = c * u ∧ 1 ≤ c ∧ c ≤ j ∧ (c = 1 ∨ c = 2 ∨ c = 3 ∨ c = 4 ∨ c = 8) ∧ (notSilk → c ≠ 3) ∧
      ((j = 1 ∨ j = 2 ∨ j = 4 ∨ j = 8) → c = j) := by
  simp only [gt_iff_lt, Int.mul_lt_mul_right hu]
  by_cases h8 : j < 8
  · by_cases h4 : 4 < j
    · exact ⟨4, by simp only [h8, h4, ↓reduceIte], by omega, by omega, by omega, by omega, by omega⟩
    · by_cases h3 : notSilk ∧ 2 < j ∧ j < 4
      · exact ⟨2, by simp only [h8, h4, h3, and_self, ↓reduceIte], by omega, by omega, by omega, by omega, by omega⟩
      · exact ⟨j, by simp only [h8, h4, h3, ↓reduceIte], by omega, by omega, by omega,
          fun hn h => h3 ⟨hn, by omega, by omega⟩, fun _ => rfl⟩
  · exact ⟨j, by simp only [h8, ↓reduceIte], by omega, by omega, by omega, by omega, fun _ => rfl⟩

/-- The chunk sizes of a concealment call, in the form `frameBody_spec` asks for. -/
theorem chunk_cases {c u : Int} (h : c = 1 ∨ c = 2 ∨ c = 3 ∨ c = 4 ∨ c = 8) :
    c * u = u ∨ c * u = 2 * u ∨ c * u = 3 * u ∨ c * u = 4 * u ∨ c * u = 8 * u ∨ c * u = 16 * u ∨ c * u = 24 * u := by
  rcases h with rfl | rfl | rfl | rfl | rfl <;> omega

theorem chunk_cases_celt {c u : Int} (h : c = 1 ∨ c = 2 ∨ c = 3 ∨ c = 4 ∨ c = 8) (h3 : c ≠ 3) :
    c * u = u ∨ c * u = 2 * u ∨ c * u = 4 * u ∨ c * u = 8 * u := by
  rcases h with rfl | rfl | rfl | rfl | rfl <;> omega

/-- The PLC chunk loop (:333-342) on a request of `k` units: terminates, returns `frame_size`, and the chunks tile the
    request (the pointer advances by what each chunk produced, never past the end). -/
theorem plcLoop_spec {frame_size : Int} (hu : 0 < u) (hinner : InnerOk st0 cap0 u inner) :
    ∀ (k : Int) (pcm : Ptr) (r : Run), 0 < k → Good st0 cap0 r → Room st0 cap0 pcm (k * u) →
      SPost st0 cap0 r.st (fun v _ => v = frame_size) (plcLoop inner (8 * u) st0.channels frame_size (k * u) pcm r) := by
  have hu0 : 0 ≤ u := Int.le_of_lt hu
  intro k
  induction hn : k.toNat using Nat.strongRecOn generalizing k with
  | _ n ih =>
    intro pcm r hk hg hroom
    subst hn
    obtain ⟨_, r1, e1, g1, f1, c, rfl, hc1, hcj⟩ := hinner r pcm (min k 8) hg (by omega)
      (hroom.le (Int.mul_nonneg (by omega) hu0) (Int.mul_le_mul_of_nonneg_right (by omega) hu0))
    rw [plcLoop, min_mul_unit hu]
    simp only [e1]
    have hn1 : ¬ c * u < 0 := Int.not_lt.mpr (Int.mul_nonneg (by omega) hu0)
    have hn2 : ¬ c * u = 0 := Int.ne_of_gt (Int.mul_pos (by omega) hu)
    simp only [hn1, ↓reduceIte, hn2, ↓reduceDIte]
    by_cases hmore : k * u - c * u > 0
    · simp only [hmore, ↓reduceDIte]
      have hck : c < k := (Int.mul_lt_mul_right hu).mp (by omega)
      rw [← Int.sub_mul]
      exact (ih (k - c).toNat (by omega) (k - c) rfl (pcm.add (c * u * st0.channels)) r1 (by omega) g1
        (hroom.add (Int.mul_nonneg (by omega) hu0) (Int.mul_nonneg (by omega) hu0) (by rw [Int.sub_mul]; omega))).after f1
    · simp only [hmore, ↓reduceDIte]
      exact .ret g1 f1 rfl

/-- Concealment of `k ≥ 1` units (`data = NULL` after the clamps), with `inner` for the recursive call of the chunk loop
    (reached for more than 20 ms only): returns `c` units, `1 ≤ c ≤ k` — the request itself when it is a packet duration or
    at least 20 ms; for at most 20 ms after a packet has been decoded the chunk is 2.5, 5, 7.5, 10 or 20 ms, 7.5 ms only
    when the SILK-only layer conceals. -/
theorem nullAfterClamp_spec (ho : OracleOk o) (hu : Units st0 u) (hg : Good st0 cap0 r) {len : Int} {pcm : Ptr} {k : Int}
    (hk : 1 ≤ k) (hlen : 0 ≤ len ∧ len ≤ 1) (hroom : Room st0 cap0 pcm (k * u)) (hinner : 8 < k → InnerOk st0 cap0 u inner) :
    SPost st0 cap0 r.st (fun v _ => ∃ c, v = c * u ∧ 1 ≤ c ∧ c ≤ k ∧ ((k = 1 ∨ k = 2 ∨ k = 4 ∨ 8 ≤ k) → c = k) ∧
      (k ≤ 8 → plcMode r.st ≠ 0 → (c = 1 ∨ c = 2 ∨ c = 3 ∨ c = 4 ∨ c = 8) ∧ (plcMode r.st ≠ MODE_SILK → c ≠ 3)))
      (nullAfterClamp o inner len pcm (k * u) r) := by
  have hur := hg.units hu
  have hupos : 0 < u := by have := hu.pos; omega
  by_cases hm0 : plcMode r.st = 0
  · -- nothing decoded yet: zeros
    rw [nullAfterClamp_noHistory _ _ _ _ _ _ hm0, hg.ch]
    exact .ret (hg.acc hroom) (.refl _) ⟨k, rfl, hk, Int.le_refl _, fun _ => rfl, fun _ h => absurd hm0 h⟩
  by_cases h8 : k ≤ 8
  · -- at most 20 ms: one frame of the clamped size
    have hnb : ¬ k * u > F20 r.st := by rw [hur.f20, gt_iff_lt, Int.mul_lt_mul_right hupos]; omega
    rw [nullAfterClamp_frame _ _ _ _ _ _ hm0 hnb]
    simp only [plcBody, hur.f20, hur.f10, hur.f5]
    obtain ⟨c, ec, hc1, hcj, hc5, hc3, hkeep⟩ := plcClamp_units hupos (plcMode r.st ≠ MODE_SILK) ⟨hk, h8⟩
    rw [ec]
    have hcu : c * u ≤ k * u := Int.mul_le_mul_of_nonneg_right hcj (Int.le_of_lt hupos)
    refine (frameBody_spec ho hu (trans := fun _ _ r => (.abort, r)) hg ?_
      (hroom.le (Int.mul_nonneg (by omega) (Int.le_of_lt hupos)) hcu) (by intro h; simp at h)).mono
      fun _ _ _ _ h => ⟨c, h.1, hc1, hcj, fun h => hkeep (by omega), fun _ _ => ⟨hc5, hc3⟩⟩
    exact ⟨(hg.inv.plcMode_cases).resolve_left hm0, chunk_cases hc5, fun h => chunk_cases_celt hc5 (hc3 h), hcu,
      ⟨hlen.1, Int.le_trans hlen.2 (by decide)⟩, fun h => by simp at h, fun _ => ⟨rfl, hg.inv.plcMode_ready hm0⟩⟩
  · -- more: the chunk loop, which returns the request
    rw [nullAfterClamp_loop _ _ _ _ _ _ hm0 (by rw [hur.f20, gt_iff_lt, Int.mul_lt_mul_right hupos]; omega), hur.f20, hg.ch]
    exact (plcLoop_spec (frame_size := k * u) hupos (hinner (by omega)) k pcm r (by omega) hg hroom).mono
      fun _ _ _ _ e => ⟨k, e, hk, Int.le_refl _, fun _ => rfl, fun h => absurd h h8⟩

/-- `opus_decode_frame(st, NULL, 0, pcm, n, 0)` for `n ≤ 20 ms`, whatever stands for its own recursive call. -/
theorem nullFrameGen_small (ho : OracleOk o) (hu : Units st0 u) (inner : Ptr → Int → Run → Res') :
    InnerOk st0 cap0 u (nullFrameGen o inner) := by
  intro r pcm j hg hj hroom
  have hur := hg.units hu
  have hupos : 0 < u := by have := hu.pos; omega
  obtain ⟨f, hf, hf6⟩ := tocOk_units hg.inv.toc hur.u400
  unfold nullFrameGen
  dsimp only
  have h1 : ¬ j * u < F2_5 r.st := by rw [hur.f25]; exact Int.not_lt.mpr (unit_le_mul hupos hj.1)
  simp only [h1, ↓reduceIte, hur.f120, hf, min_mul_unit hupos]
  have hle : min (min j 48) f ≤ j := by omega
  exact (nullAfterClamp_spec ho hu (len := 0) hg (k := min (min j 48) f) (by omega) (by omega)
    (hroom.le (Int.mul_nonneg (by omega) (Int.le_of_lt hupos)) (Int.mul_le_mul_of_nonneg_right hle (Int.le_of_lt hupos)))
    fun h => absurd h (by omega)).mono fun _ _ _ _ ⟨c, e, hc1, hcj, _⟩ => ⟨c, e, hc1, Int.le_trans hcj hle⟩

end Opus.DecSkel
