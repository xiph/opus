import OpusProofs.SilkSymsTables
/-
  C03 range lemmas for `silk_decode_pulses` (rate level, pulses per block with the LSB-count loop, shell
  decoder, LSB bits, signs), each for an arbitrary invariant `I` of the
  range-decoder state that the reads keep (`ReadInv`, SilkSymsBasic): from a state in `I` the values lie in their
  ranges and the state returned is in `I` again.

  Proof discipline (see the note at `ReadInv`): a body that threads the state through `match`es is opened with the
  case (or induction) principle Lean derives from the definition, which names every intermediate result as the model
  does and gives the equation `callee … = (x, c')` for it; the callee's lemma is then rewritten with that equation.
  The list loops, where only the state is passed on, are the lemmas of head and tail put together (`Prod` has eta).
-/
namespace Opus.SilkSymsProofs
open Opus Opus.RangeCoder Opus.SilkSyms Opus.SilkSymsFrozen.Icdf

theorem ListOk.le {n m m' : Nat} {l : List Nat} (h : ListOk (· ≤ m) n l) (hm : m ≤ m') : ListOk (· ≤ m') n l :=
  h.mono fun _ hq => Nat.le_trans hq hm

theorem halves_le {a b : List Nat} {m n x y p : Nat} (ha : ListOk (· ≤ x) m a) (hb : ListOk (· ≤ y) n b) (hx : x ≤ p)
    (hy : y ≤ p) : ListOk (· ≤ p) (m + n) (a ++ b) :=
  (ha.le hx).append (hb.le hy)

abbrev BlockOk (m : Nat) : List Nat → Prop := ListOk (· ≤ m) 16

def SBlockOk (m : Int) (b : List Int) : Prop := b.length = 16 ∧ ∀ v ∈ b, -m ≤ v ∧ v ≤ m

theorem two_mul_pow (q n : Nat) : (q + 1) * 2 ^ (n + 1) = (2 * (q + 1)) * 2 ^ n := by
  rw [Nat.pow_succ, Nat.mul_comm (2 ^ n) 2, ← Nat.mul_assoc, Nat.mul_comm (q + 1) 2]

theorem castBlock_ok (m : Nat) (b : List Nat) (hb : BlockOk m b) :
    SBlockOk m (b.map (fun (q : Nat) => (q : Int))) := by
  refine ⟨by simp [hb.1], ?_⟩
  intro v hv
  simp only [List.mem_map] at hv
  obtain ⟨q, hq, rfl⟩ := hv
  have := hb.2 q hq
  omega

theorem castBlocks_ok {m : Nat} {bs : List (List Nat)} (hb : ∀ b ∈ bs, BlockOk m b) :
    ListOk (SBlockOk m) bs.length (bs.map (fun b => b.map (fun (q : Nat) => (q : Int)))) :=
  ⟨List.length_map _, fun _ hb' => by
    obtain ⟨b0, h0, rfl⟩ := List.mem_map.mp hb'
    exact castBlock_ok m b0 (hb b0 h0)⟩

/-- The sign table of one sample is a well-formed slice whatever the index: `getD` yields `0` behind the end of
    `silk_sign_iCDF`, and `[0, 0]` is a slice too.  That is why `decodePulses_rd` needs no bound on `qoff`.  The read
    itself stays inside the 42 entries for every call the decoder makes: `decodeOneCore` passes `ix.signalType ≤ 2`,
    `ix.quantOffsetType ≤ 1` (`IndicesOk`), so `7·(qoff + 2·sig) + min(·, 6) ≤ 41`. -/
theorem sign_slice (i : Nat) : icdfSliceOk [silk_sign_iCDF.getD i 0, 0] = true := by
  by_cases h : i < 42
  · exact (sl_sign i h).1
  · rw [List.getD_eq_getElem?_getD, List.getElem?_eq_none (by rw [signTable_len]; omega)]
    rfl

/-- Everything later code relies on about the output of `silk_decode_pulses`. -/
structure PulsesOk (frameLen : Nat) (p : Pulses) : Prop where
  /-- `RateLevelIndex < N_RATE_LEVELS - 1` indexes `silk_pulses_per_block_iCDF` -/
  rateLevel : p.rateLevel ≤ 8
  blocks : p.sumPulses.length = shellBlocks frameLen
  /-- `sum_pulses[i] ≤ SILK_MAX_PULSES` indexes `silk_shell_code_table_offsets`; `< 32`, so `|= nLS<<5` is `+` -/
  sumPulses : ∀ sp ∈ p.sumPulses, sp ≤ 16
  nLshiftsLen : p.nLshifts.length = shellBlocks frameLen
  /-- at most ten LSB planes -/
  nLshifts : ∀ n ∈ p.nLshifts, n ≤ 10
  signedLen : p.signed.length = shellBlocks frameLen
  /-- every block holds 16 pulses of magnitude at most `16*2^10 + 2^10 - 1 = 17407 < 2^15` -/
  signed : ∀ b ∈ p.signed, SBlockOk 17407 b

section
variable {I : Dec → Prop} (hI : ReadInv I)
include hI

/-- The unrolled `while( sum_pulses[i] == SILK_MAX_PULSES + 1 )` loop: entered with `n + k = 10` iterations
    accounted for and `sp ≤ 17`, it returns `nLshifts ≤ 10` and `sum_pulses ≤ 16` — in particular the C loop
    condition is false when the unrolling ends. -/
theorem lsbCountLoop_rd (k : Nat) (c : Dec) (n sp : Nat) (hn : n + k = 10) (hs : sp ≤ 17) (h0 : k = 0 → sp ≤ 16)
    (hc : I c) :
    (lsbCountLoop k c n sp).1 ≤ 10 ∧ (lsbCountLoop k c n sp).2.1 ≤ 16 ∧ I (lsbCountLoop k c n sp).2.2 := by
  fun_induction lsbCountLoop k c n sp with
  | case1 c n sp => exact ⟨by dsimp only; omega, h0 rfl, hc⟩
  | case2 k c n sp' c1 e ih =>
    -- sp = 17: one more symbol from level 9 (shifted by one entry on the tenth round)
    have hz : (sp' ≤ 17 ∧ (k = 0 → sp' ≤ 16)) ∧ I c1 := by
      by_cases h10 : n + 1 = 10
      · rw [if_pos h10] at e
        have := sym_lt_of_eq hI sl_ppb9shift hc e
        exact ⟨⟨by omega, fun _ => by omega⟩, this.2⟩
      · rw [if_neg h10] at e
        have := sym_lt_of_eq hI (tbl := List.drop 0 (silk_pulses_per_block_iCDF.getD 9 [])) (sl_ppb 9 (by decide)) hc e
        exact ⟨⟨by omega, fun hk => by omega⟩, this.2⟩
    exact ih (by omega) hz.1.1 hz.1.2 hz.2
  | case3 k c n sp hsp => exact ⟨by dsimp only; omega, by dsimp only; omega, hc⟩

theorem sumPulsesLoop_rd (cdf : List Nat) (hcdf : Slice cdf 18) (iter : Nat) (c : Dec) (hc : I c) :
    ListOk (· ≤ 16) iter (sumPulsesLoop cdf iter c).1 ∧ ListOk (· ≤ 10) iter (sumPulsesLoop cdf iter c).2.1 ∧
    I (sumPulsesLoop cdf iter c).2.2 := by
  fun_induction sumPulsesLoop cdf iter c with
  | case1 c => exact ⟨.nil, .nil, hc⟩
  | case2 iter c sp0 c1 e1 n sp c2 e2 sps ns c3 e3 ih =>
    have h0 := sym_lt_of_eq hI hcdf hc e1
    have h1 := lsbCountLoop_rd hI 10 c1 0 sp0 (by omega) (by omega) (by omega) h0.2
    simp only [e2] at h1
    have ih' := ih h1.2.2
    simp only [e3] at ih'
    exact ⟨.cons h1.2.1 ih'.1, .cons h1.1 ih'.2.1, ih'.2.2⟩

theorem decodeSplit_rd (tbl : List Nat) (ht : ShellTbl tbl) (c : Dec) (p : Nat) (hp : p ≤ 16) (hc : I c) {a b : Nat}
    {c' : Dec} (e : decodeSplit c p tbl = (a, b, c')) : a ≤ p ∧ b ≤ p ∧ a + b = p ∧ I c' := by
  revert e
  fun_cases decodeSplit c p tbl with
  | case1 h a' c1 e1 =>
    intro e
    cases e
    have h1 := sym_lt_of_eq hI (ht p (by omega) (by omega)) hc e1
    exact ⟨by omega, by omega, by omega, h1.2⟩
  | case2 h =>
    intro e
    cases e
    exact ⟨by omega, by omega, by omega, hc⟩

theorem shellQuarter_rd (c : Dec) (p : Nat) (hp : p ≤ 16) (hc : I c) {l : List Nat} {c' : Dec}
    (e : shellQuarter c p = (l, c')) : ListOk (· ≤ p) 4 l ∧ I c' := by
  revert e
  fun_cases shellQuarter c p with
  | case1 a1 a2 c1 e1 b1 b2 c2 e2 d1 d2 c3 e3 =>
    intro e
    cases e
    have h1 := decodeSplit_rd hI _ sl_shell1 c p hp hc e1
    have h2 := decodeSplit_rd hI _ sl_shell0 c1 a1 (by omega) h1.2.2.2 e2
    have h3 := decodeSplit_rd hI _ sl_shell0 c2 a2 (by omega) h2.2.2.2 e3
    refine ⟨⟨rfl, fun q hq => ?_⟩, h3.2.2.2⟩
    simp only [List.mem_cons, List.mem_nil_iff, or_false] at hq
    rcases hq with rfl | rfl | rfl | rfl <;> omega

theorem shellHalf_rd (c : Dec) (p : Nat) (hp : p ≤ 16) (hc : I c) {l : List Nat} {c' : Dec}
    (e : shellHalf c p = (l, c')) : ListOk (· ≤ p) 8 l ∧ I c' := by
  revert e
  fun_cases shellHalf c p with
  | case1 a1 a2 c1 e1 q0 c2 e2 q1 c3 e3 =>
    intro e
    cases e
    have h1 := decodeSplit_rd hI _ sl_shell2 c p hp hc e1
    have h2 := shellQuarter_rd hI c1 a1 (by omega) h1.2.2.2 e2
    have h3 := shellQuarter_rd hI c2 a2 (by omega) h2.2 e3
    exact ⟨halves_le h2.1 h3.1 (by omega) (by omega), h3.2⟩

theorem shellDecoder_rd (c : Dec) (p : Nat) (hp : p ≤ 16) (hc : I c) :
    BlockOk p (shellDecoder c p).1 ∧ I (shellDecoder c p).2 := by
  fun_cases shellDecoder c p with
  | case1 a1 a2 c1 e1 q0 c2 e2 q1 c3 e3 =>
    have h1 := decodeSplit_rd hI _ sl_shell3 c p hp hc e1
    have h2 := shellHalf_rd hI c1 a1 (by omega) h1.2.2.2 e2
    have h3 := shellHalf_rd hI c2 a2 (by omega) h2.2 e3
    exact ⟨halves_le h2.1 h3.1 (by omega) (by omega), h3.2⟩

theorem shellBlock_rd (sp : Nat) (hs : sp ≤ 16) (c : Dec) (hc : I c) :
    BlockOk 16 (shellBlock sp c).1 ∧ I (shellBlock sp c).2 := by
  unfold shellBlock
  split
  · have := shellDecoder_rd hI c sp hs hc
    exact ⟨this.1.le hs, this.2⟩
  · refine ⟨⟨List.length_replicate .., ?_⟩, hc⟩
    intro q hq
    rw [(List.mem_replicate.mp hq).2]
    exact Nat.zero_le _

theorem shellLoop_rd : ∀ (sps : List Nat) (c : Dec), (∀ sp ∈ sps, sp ≤ 16) → I c →
    ListOk (BlockOk 16) sps.length (shellLoop sps c).1 ∧ I (shellLoop sps c).2
  | [], c, _, hc => ⟨.nil, hc⟩
  | sp :: sps, c, h, hc => by
    unfold shellLoop
    have h1 := shellBlock_rd hI sp (h sp List.mem_cons_self) c hc
    have ih := shellLoop_rd sps _ (fun s hs => h s (List.mem_cons_of_mem _ hs)) h1.2
    exact ⟨.cons h1.1 ih.1, ih.2⟩

theorem lsbBits_rd (n q : Nat) (c : Dec) (hc : I c) :
    (lsbBits n q c).1 + 1 ≤ (q + 1) * 2 ^ n ∧ I (lsbBits n q c).2 := by
  fun_induction lsbBits n q c with
  | case1 q c => exact ⟨by rw [Nat.pow_zero, Nat.mul_one]; exact Nat.le_refl _, hc⟩
  | case2 n q c b c1 e ih =>
    have h1 := sym_lt_of_eq hI sl_lsb hc e
    have hm : (2 * q + b + 1) * 2 ^ n ≤ (2 * (q + 1)) * 2 ^ n := Nat.mul_le_mul_right _ (by omega)
    rw [two_mul_pow]
    exact ⟨Nat.le_trans (ih h1.2).1 hm, (ih h1.2).2⟩

theorem lsbBits_bound (n q : Nat) (hn : n ≤ 10) (hq : q ≤ 16) (c : Dec) (hc : I c) :
    (lsbBits n q c).1 ≤ 17407 ∧ I (lsbBits n q c).2 := by
  have h1 := lsbBits_rd hI n q c hc
  have h2 : 2 ^ n ≤ 2 ^ 10 := Nat.pow_le_pow_right (by omega) hn
  have h3 : (q + 1) * 2 ^ n ≤ 17 * 2 ^ 10 := Nat.mul_le_mul (by omega) h2
  have h4 : 17 * 2 ^ 10 = 17408 := by decide
  exact ⟨by omega, h1.2⟩

theorem lsbBlock_rd (n : Nat) (hn : n ≤ 10) : ∀ (b : List Nat) (c : Dec), (∀ q ∈ b, q ≤ 16) → I c →
    ListOk (· ≤ 17407) b.length (lsbBlock n b c).1 ∧ I (lsbBlock n b c).2
  | [], c, _, hc => ⟨.nil, hc⟩
  | q :: qs, c, h, hc => by
    unfold lsbBlock
    have h1 := lsbBits_bound hI n q hn (h q List.mem_cons_self) c hc
    have ih := lsbBlock_rd n hn qs _ (fun s hs => h s (List.mem_cons_of_mem _ hs)) h1.2
    exact ⟨.cons h1.1 ih.1, ih.2⟩

theorem lsbBlockIf_rd (n : Nat) (hn : n ≤ 10) (b : List Nat) (hb : BlockOk 16 b) (c : Dec) (hc : I c) :
    BlockOk 17407 (lsbBlockIf n b c).1 ∧ I (lsbBlockIf n b c).2 := by
  unfold lsbBlockIf
  split
  · have := lsbBlock_rd hI n hn b c hb.2 hc
    exact ⟨⟨this.1.1.trans hb.1, this.1.2⟩, this.2⟩
  · exact ⟨hb.le (by omega), hc⟩

/-- A block without a partner in `ns` is handed on as it is. -/
theorem lsbLoop_rd (bs : List (List Nat)) (ns : List Nat) (c : Dec) (hb : ∀ b ∈ bs, BlockOk 16 b)
    (hn : ∀ n ∈ ns, n ≤ 10) (hc : I c) :
    ListOk (BlockOk 17407) bs.length (lsbLoop bs ns c).1 ∧ I (lsbLoop bs ns c).2 := by
  fun_induction lsbLoop bs ns c with
  | case1 b bs n ns c b' c1 h1 bs' c2 h2 ih =>
    have h := lsbBlockIf_rd hI n (hn n List.mem_cons_self) b (hb b List.mem_cons_self) c hc
    rw [h1] at h
    have ih' := ih (fun x hx => hb x (List.mem_cons_of_mem _ hx)) (fun x hx => hn x (List.mem_cons_of_mem _ hx)) h.2
    rw [h2] at ih'
    exact ⟨.cons h.1 ih'.1, ih'.2⟩
  | case2 bs ns c _ => exact ⟨⟨rfl, fun b h => (hb b h).le (by omega)⟩, hc⟩

theorem signOne_rd (x q : Nat) (hs : icdfSliceOk [x, 0] = true) (c : Dec) (hc : I c) :
    (-(q : Int) ≤ (signOne x q c).1 ∧ (signOne x q c).1 ≤ (q : Int)) ∧ I (signOne x q c).2 := by
  fun_cases signOne x q c with
  | case1 hq s c1 e =>
    have h1 := sym_lt_of_eq hI ⟨hs, rfl⟩ hc e
    have hz : zeroPos [x, 0] ≤ 1 := by unfold zeroPos zeroPos; split <;> simp
    have : s = 0 ∨ s = 1 := by omega
    refine ⟨?_, h1.2⟩
    rcases this with rfl | rfl <;> simp <;> omega
  | case2 hq => dsimp only; exact ⟨by omega, hc⟩

theorem signBlock_rd (x m : Nat) (hs : icdfSliceOk [x, 0] = true) : ∀ (b : List Nat) (c : Dec), (∀ q ∈ b, q ≤ m) → I c →
    ListOk (fun v => -(m : Int) ≤ v ∧ v ≤ (m : Int)) b.length (signBlock x b c).1 ∧ I (signBlock x b c).2
  | [], c, _, hc => ⟨.nil, hc⟩
  | q :: qs, c, h, hc => by
    unfold signBlock
    have h1 := signOne_rd hI x q hs c hc
    have hq := h q List.mem_cons_self
    have ih := signBlock_rd x m hs qs _ (fun s hs => h s (List.mem_cons_of_mem _ hs)) h1.2
    exact ⟨.cons (by omega) ih.1, ih.2⟩

theorem signBlockIf_rd (base p m : Nat) (b : List Nat) (hb : BlockOk m b) (c : Dec) (hc : I c) :
    SBlockOk m (signBlockIf base p b c).1 ∧ I (signBlockIf base p b c).2 := by
  unfold signBlockIf
  split
  · have := signBlock_rd hI _ m (sign_slice (base + min (p % 32) 6)) b c hb.2 hc
    exact ⟨⟨this.1.1.trans hb.1, this.1.2⟩, this.2⟩
  · exact ⟨castBlock_ok m b hb, hc⟩

theorem signLoop_rd (base m n : Nat) (bs : List (List Nat)) (ps : List Nat) (c : Dec) (hb : ∀ b ∈ bs, BlockOk m b)
    (hc : I c) :
    ListOk (SBlockOk m) bs.length (signLoop base n bs ps c).1 ∧ I (signLoop base n bs ps c).2 := by
  fun_induction signLoop base n bs ps c with
  | case1 n b bs p ps c v c1 h1 vs c2 h2 ih =>
    have h := signBlockIf_rd hI base p m b (hb b List.mem_cons_self) c hc
    rw [h1] at h
    have ih' := ih (fun x hx => hb x (List.mem_cons_of_mem _ hx)) h.2
    rw [h2] at ih'
    exact ⟨.cons h.1 ih'.1, ih'.2⟩
  | case2 n bs ps c _ => exact ⟨castBlocks_ok hb, hc⟩

theorem decodePulses_rd (sig qoff frameLen : Nat) (hs : sig ≤ 2) (c : Dec) (hc : I c) (p : Pulses) (c' : Dec)
    (h : decodePulses sig qoff frameLen c = (p, c')) : PulsesOk frameLen p ∧ I c' := by
  revert h
  fun_cases decodePulses sig qoff frameLen c with
  | case1 rl c1 e1 sps ns c2 e2 sh c3 e3 ab c4 e4 sg c5 e5 =>
    intro h
    cases h
    have h1 := sym_lt_of_eq hI (sl_rateLevels (sig / 2) (by omega)) hc e1
    have h2 := sumPulsesLoop_rd hI _ (sl_ppb rl (by omega)) (shellBlocks frameLen) c1 h1.2
    simp only [e2] at h2
    have h3 := shellLoop_rd hI sps c2 h2.1.2 h2.2.2
    simp only [e3] at h3
    have h4 := lsbLoop_rd hI sh ns c3 h3.1.2 h2.2.1.2 h3.2
    simp only [e4] at h4
    have h5 := signLoop_rd hI (7 * (qoff + 2 * sig)) 17407 ((frameLen + 8) / 16) ab (markLsb sps ns) c4 h4.1.2 h4.2
    simp only [e5] at h5
    exact ⟨⟨Nat.le_of_lt_succ h1.1, h2.1.1, h2.1.2, h2.2.1.1, h2.2.1.2, by rw [h5.1.1, h4.1.1, h3.1.1, h2.1.1], h5.1.2⟩,
      h5.2⟩

end

end Opus.SilkSymsProofs
