import OpusProofs.LaplaceSeq
import OpusModel.Icdf
/-
  OpusProofs.LaplaceMain — celt/laplace.c at the interval level.  Closed forms of `Opus.Laplace.encode` / `decode`
  (ec_laplace_encode / ec_laplace_decode) in terms of the sequence `L`, `F` and the tail start `T`; decode inverts encode
  (and conversely) for every parameter pair with `Par`; `LaplaceOk` for every parameter pair of the energy model; the
  `_p0` variants (laplace.c:134-195, used by DRED only).
  In the names, `A` is the decaying part of the PDF (magnitudes `J + 1 ≤ T`, intervals `L J …`), `B` the tail beyond it
  (magnitudes `> T`, probability LAPLACE_MINP each).
-/
namespace OpusProofs.Laplace
open Opus Opus.Laplace

section
open Opus.Gen.CeltTables (laplaceLogMinP laplaceMinP laplaceNMin)

variable {fs decay T : Nat}

theorem enc_run (hp : Par fs decay T) (n : Nat) :
    encLoop decay n fs (getFreq1 fs decay) 1 =
      (L fs decay (min n T), F fs decay (min n T), min n T + 1) := by
  have := encLoop_eq hp n 0 (Nat.zero_le _)
  simpa [L, F] using this

theorem room_le (hp : Par fs decay T) {J : Nat} (hJ : J < T) : L fs decay J + F fs decay J * 2 + 2 ≤ 32766 :=
  Nat.le_trans (L_succ_le fs decay hJ) hp.room

/-- A value of magnitude `J + 1 ≤ T` (the decaying part), either sign: the negative symbol comes first. -/
theorem enc_A (hp : Par fs decay T) {J : Nat} (hJ : J < T) {v : Int} (hv : v.natAbs = J + 1) :
    encode v fs decay =
      .ok (L fs decay J + (if v < 0 then 0 else F fs decay J + 1),
           L fs decay J + (if v < 0 then 0 else F fs decay J + 1) + (F fs decay J + 1), v) := by
  have hv0 : v ≠ 0 := by omega
  have hpos := hp.pos J hJ
  have hroom := room_le hp hJ
  unfold encode
  rw [if_neg hv0]
  simp only [hv, enc_run hp, Nat.add_sub_cancel, Nat.min_eq_left (Nat.le_of_lt hJ), minP_eq, decide_eq_true_eq]
  rw [if_neg (by omega)]
  split <;> rw [if_neg (by omega)] <;> rfl

/-- A value of magnitude `a > T` (the tail), either sign: clamped to the last magnitude of its sign that fits; `σ` is
    the offset of the positive symbol within the pair. -/
theorem enc_B (hp : Par fs decay T) {v : Int} {a σ : Nat} (ha : v.natAbs = a) (ha1 : T + 1 ≤ a)
    (hσ : σ = if v < 0 then 0 else 1) :
    encode v fs decay =
      .ok (L fs decay T + 2 * min (a - (T + 1)) ((32767 - σ - L fs decay T) / 2) + σ,
           L fs decay T + 2 * min (a - (T + 1)) ((32767 - σ - L fs decay T) / 2) + σ + 1,
           if v < 0 then -((T + 1 + min (a - (T + 1)) ((32767 - σ - L fs decay T) / 2) : Nat) : Int)
           else ((T + 1 + min (a - (T + 1)) ((32767 - σ - L fs decay T) / 2) : Nat) : Int)) := by
  have hv0 : v ≠ 0 := by omega
  have hroom := hp.room
  unfold encode
  rw [if_neg hv0]
  simp only [ha, enc_run hp, Nat.min_eq_right (show T ≤ a - 1 by omega), minP_eq, logMinP_eq, decide_eq_true_eq, hp.zero,
    if_true]
  generalize L fs decay T = l at *
  have hσ1 : σ ≤ 1 := by rw [hσ]; split <;> omega
  have hs : (if v < 0 then (-1 : Int) else 0) = (σ : Int) - 1 := by rw [hσ]; split <;> rfl
  rw [hs]
  -- `di` once in closed form, so that the remaining goals are linear
  have hdi : min ((a : Int) - ((T + 1 : Nat) : Int)) ((((32768 : Int) - l + ((1 : Nat) : Int) - 1) / 2 ^ 0 - ((σ : Int) - 1)) / 2 - 1) =
      ((min (a - (T + 1)) ((32767 - σ - l) / 2) : Nat) : Int) := by omega
  have hd : 2 * min (a - (T + 1)) ((32767 - σ - l) / 2) ≤ 32767 - σ - l := by omega
  rw [hdi]
  generalize min (a - (T + 1)) ((32767 - σ - l) / 2) = d at *
  rw [if_neg (by omega)]
  simp only [Res.ok.injEq, Prod.mk.injEq]
  refine ⟨by omega, by omega, ?_⟩
  split <;> omega

/-! ## Decoder -/

theorem dec_run (hp : Par fs decay T) {fm J : Nat} (hT : J ≤ T) (hlo : L fs decay J ≤ fm)
    (hhi : J < T → fm < L fs decay (J + 1)) :
    decLoop decay fm fs (getFreq1 fs decay + 1) 1 = (L fs decay J, F fs decay J + 1, J + 1) := by
  have := decLoop_eq hp fm J 0 J (by omega) hT hlo hhi
  simpa [L, F] using this

theorem dec_zero (hp : Par fs decay T) {fm : Nat} (h : fm < fs) : decode fm fs decay = .ok (0, 0, fs) := by
  have h0 := hp.fs_pos
  have : fs ≤ 32766 := Nat.le_trans (L_mono fs decay (Nat.zero_le T)) hp.room
  unfold decode
  simp only [ge_iff_le, show ¬ fs ≤ fm by omega, if_false]
  rw [if_pos (by omega), Nat.min_eq_left (by omega), Nat.zero_add]

/-- `fm` inside the pair of intervals of the decaying magnitude `J+1`. -/
theorem dec_A (hp : Par fs decay T) {fm J : Nat} (hJ : J < T) (hlo : L fs decay J ≤ fm)
    (hhi : fm < L fs decay (J + 1)) :
    decode fm fs decay =
      if fm < L fs decay J + (F fs decay J + 1) then
        .ok (-((J + 1 : Nat) : Int), L fs decay J, L fs decay J + (F fs decay J + 1))
      else .ok (((J + 1 : Nat) : Int), L fs decay J + (F fs decay J + 1),
        L fs decay J + (F fs decay J + 1) + (F fs decay J + 1)) := by
  have hpos := hp.pos J hJ
  have hroom := room_le hp hJ
  have hfs : fs ≤ fm := Nat.le_trans (L_mono fs decay (Nat.zero_le J)) hlo
  have hhi' := hhi
  simp only [L] at hhi'
  unfold decode
  simp only [ge_iff_le, hfs, if_true, minP_eq, logMinP_eq, dec_run hp (Nat.le_of_lt hJ) hlo (fun _ => hhi),
    show ¬ F fs decay J + 1 ≤ 1 by omega, if_false, Nat.mul_zero, Nat.zero_mul, Nat.add_zero]
  by_cases hlt : fm < L fs decay J + (F fs decay J + 1)
  · simp only [hlt, if_true]
    rw [if_pos (by omega), Nat.min_eq_left (by omega)]
  · simp only [hlt, if_false]
    rw [if_pos (by omega), Nat.min_eq_left (by omega)]

/-- The tail symbol of magnitude `T + 1 + d`, positive if `σ = 1`, is the point `L T + 2d + σ`. -/
theorem dec_B (hp : Par fs decay T) {d σ : Nat} (hσ : σ ≤ 1) (hhi : L fs decay T + 2 * d + σ < 32768) :
    decode (L fs decay T + 2 * d + σ) fs decay =
      .ok (if σ = 0 then -((T + 1 + d : Nat) : Int) else ((T + 1 + d : Nat) : Int),
           L fs decay T + 2 * d + σ, L fs decay T + 2 * d + σ + 1) := by
  have hfs : fs ≤ L fs decay T + 2 * d + σ := Nat.le_trans (L_mono fs decay (Nat.zero_le T)) (by omega)
  unfold decode
  simp only [ge_iff_le, hfs, if_true, minP_eq, logMinP_eq,
    dec_run hp (Nat.le_refl T) (show L fs decay T ≤ L fs decay T + 2 * d + σ by omega) (fun h => absurd h (Nat.lt_irrefl _)),
    hp.zero, Nat.zero_add, Nat.le_refl, Nat.mul_one, Nat.pow_one]
  generalize L fs decay T = l at *
  have hd : (l + 2 * d + σ - l) / 2 = d := by omega
  rw [hd]
  obtain rfl | rfl : σ = 0 ∨ σ = 1 := by omega
  · rw [if_pos (show l + 2 * d + 0 < l + 2 * d + 1 by omega)]
    dsimp only
    rw [if_pos (by omega), Nat.min_eq_left (by omega), if_pos rfl]
    rfl
  · rw [if_neg (Nat.lt_irrefl (l + 2 * d + 1))]
    dsimp only
    rw [if_pos (by omega), Nat.min_eq_left (by omega), if_neg (show ¬ 1 = 0 by omega)]

end

section
open Opus.Gen.CeltTables (eProbModel)

variable {fs decay T : Nat}

theorem enc_zero (fs decay : Nat) : encode 0 fs decay = .ok (0, fs, 0) := by
  unfold encode; rw [if_pos rfl]

/-- Every point of the range decodes to a value whose encoder interval is the decoder's interval and contains
    the point; that value is not changed by the encoder's clamping. -/
theorem decode_then_encode (hp : Par fs decay T) {fm : Nat} (hfm : fm < 32768) :
    ∃ v fl fh, decode fm fs decay = .ok (v, fl, fh) ∧ fl ≤ fm ∧ fm < fh ∧ fh ≤ 32768 ∧
      encode v fs decay = .ok (fl, fh, v) := by
  have hfs : fs ≤ 32766 := Nat.le_trans (L_mono fs decay (Nat.zero_le T)) hp.room
  by_cases h0 : fm < fs
  · exact ⟨0, 0, fs, dec_zero hp h0, Nat.zero_le _, h0, by omega, enc_zero fs decay⟩
  · obtain ⟨J, _, hJT, hlo, hhi⟩ := exists_J (fs := fs) (decay := decay) (T := T) fm T 0 (by omega)
      (show L fs decay 0 ≤ fm by simp only [L]; omega)
    by_cases hJ : J < T
    · have hhi' := hhi hJ
      have hroom := room_le hp hJ
      rw [dec_A hp hJ hlo hhi']
      simp only [L] at hhi'
      split
      · exact ⟨_, _, _, rfl, hlo, by omega, by omega, by rw [enc_A hp hJ (v := -((J + 1 : Nat) : Int)) (by omega), if_pos (by omega)]; rfl⟩
      · exact ⟨_, _, _, rfl, by omega, by omega, by omega, by rw [enc_A hp hJ (v := ((J + 1 : Nat) : Int)) (by omega), if_neg (by omega)]⟩
    · have hJe : J = T := by omega
      subst hJe
      have hroom := hp.room
      -- `fm` is the tail symbol `(d, σ)`; the encoder's clamp leaves `d` alone since the symbol lies below 32768
      obtain ⟨d, σ, hσ, rfl⟩ : ∃ d σ, σ ≤ 1 ∧ fm = L fs decay J + 2 * d + σ :=
        ⟨(fm - L fs decay J) / 2, (fm - L fs decay J) % 2, by omega, by omega⟩
      refine ⟨_, _, _, dec_B hp hσ hfm, Nat.le_refl _, by omega, by omega, ?_⟩
      rw [enc_B hp (a := J + 1 + d) (σ := σ) (by split <;> omega) (by omega) (by split <;> split <;> omega),
        show J + 1 + d - (J + 1) = d by omega, Nat.min_eq_left (by omega)]
      by_cases h0 : σ = 0
      · rw [if_pos h0, if_pos (by omega)]
      · rw [if_neg h0, if_neg (by omega)]

/-- The encoder never asserts, produces a non-empty interval inside `[0, 32768)`, and every point of that interval
    decodes to the (clamped) value with the same interval.  The clamped value keeps the sign, does not grow, and a
    value is only changed when its symbol would start at or beyond 32766 (the last symbols of the range). -/
theorem encode_then_decode (hp : Par fs decay T) (value : Int) :
    ∃ fl fh v', encode value fs decay = .ok (fl, fh, v') ∧ fl < fh ∧ fh ≤ 32768 ∧
      (∀ fm, fl ≤ fm → fm < fh → decode fm fs decay = .ok (v', fl, fh)) ∧
      (v' < 0 ↔ value < 0) ∧ v'.natAbs ≤ value.natAbs ∧ (v' ≠ value → 32766 ≤ fl) := by
  have hfs : fs ≤ 32766 := Nat.le_trans (L_mono fs decay (Nat.zero_le T)) hp.room
  have hroomT := hp.room
  by_cases hz : value = 0
  · subst hz
    exact ⟨0, fs, 0, enc_zero fs decay, hp.fs_pos, by omega, fun fm _ h => dec_zero hp h, by omega, by omega,
      fun h => absurd rfl h⟩
  · by_cases hJ : value.natAbs - 1 < T
    · obtain ⟨J, hJe⟩ : ∃ J, value.natAbs = J + 1 := ⟨value.natAbs - 1, by omega⟩
      have hJ' : J < T := by omega
      have hroom := room_le hp hJ'
      have hpos := hp.pos J hJ'
      rw [enc_A hp hJ' hJe]
      refine ⟨_, _, _, rfl, by omega, by split <;> omega, ?_, Iff.rfl, Nat.le_refl _, fun h => absurd rfl h⟩
      intro fm h1 h2
      rw [dec_A hp hJ' (by omega) (by simp only [L]; split at h2 <;> omega)]
      by_cases hneg : value < 0 <;> simp only [hneg, if_true, if_false, Nat.add_zero] at h1 h2 ⊢
      · rw [if_pos (by omega), show value = -((J + 1 : Nat) : Int) by omega]
      · rw [if_neg (by omega), show value = ((J + 1 : Nat) : Int) by omega]
    · rw [enc_B hp rfl (by omega) rfl]
      generalize hσ : (if value < 0 then 0 else 1 : Nat) = σ
      have hσ1 : σ ≤ 1 := by rw [← hσ]; split <;> omega
      generalize hd : min (value.natAbs - (T + 1)) ((32767 - σ - L fs decay T) / 2) = d
      have hd2 : 2 * d ≤ 32767 - σ - L fs decay T ∧ d ≤ value.natAbs - (T + 1) := by omega
      refine ⟨_, _, _, rfl, by omega, by omega, ?_, by split <;> omega, by split <;> omega, by split <;> omega⟩
      -- a tail symbol has probability LAPLACE_MINP = 1: the interval is the one point
      intro fm h1 h2
      rw [show fm = L fs decay T + 2 * d + σ by omega, dec_B hp hσ1 (by omega)]
      by_cases hneg : value < 0 <;> simp only [hneg, if_true, if_false] at hσ ⊢ <;> subst hσ <;> rfl

/-! ## The parameter pairs of the energy model (quant_bands.c: `prob_model[pi]<<7`, `prob_model[pi+1]<<6`,
    `pi = 2*IMIN(i,20)`) -/

def eprobFs (lm intra band : Nat) : Nat := (((eProbModel.getD lm []).getD intra []).getD (2 * band) 0) * 128
def eprobDecay (lm intra band : Nat) : Nat := (((eProbModel.getD lm []).getD intra []).getD (2 * band + 1) 0) * 64

/-- Shape of `e_prob_model[4][2][42]` and, for every entry: `LaplaceOk`, and `decay < 2^16` (with `LaplaceOk` this
    keeps every `unsigned` product `fs*decay` of laplace.c below 2^32, so the unbounded model arithmetic is the C
    arithmetic; the one place that relies on unsigned conversion, `ec_laplace_get_freq1`, is modelled with its wrap). -/
def eprobCheck : Bool :=
  decide (eProbModel.length = 4) && eProbModel.all (fun a => decide (a.length = 2) && a.all (fun r => decide (r.length = 42))) &&
  (List.range 4).all fun lm => (List.range 2).all fun intra => (List.range 21).all fun band =>
    LaplaceOk (eprobFs lm intra band) (eprobDecay lm intra band) && decide (eprobDecay lm intra band < 65536)

theorem eprobCheck_true : eprobCheck = true := by decide +kernel

theorem eprob_ok {lm intra band : Nat} (h1 : lm < 4) (h2 : intra < 2) (h3 : band < 21) :
    LaplaceOk (eprobFs lm intra band) (eprobDecay lm intra band) = true ∧ eprobDecay lm intra band < 65536 := by
  have h := eprobCheck_true
  simp only [eprobCheck, Bool.and_eq_true, List.all_eq_true, List.mem_range, decide_eq_true_eq] at h
  exact h.2 lm h1 intra h2 band h3

end

end OpusProofs.Laplace

/-! ## The `_p0` variants: the decoder's symbol loop inverts the encoder's, and the two 16-bit ICDFs built at run time are
    exact codes for ftb = 15 -/

namespace OpusProofs.LaplaceP0
open Opus Opus.Laplace Opus.Icdf

theorem magValue_magSymbols (rest : List Nat) : ∀ (v acc : Nat),
    magValue (magSymbols v ++ rest) acc = some (acc + v, rest) := by
  intro v
  induction v using Nat.strongRecOn with
  | _ v ih =>
    intro acc
    rw [magSymbols]
    by_cases h : v < 7
    · rw [if_pos h]
      simp only [List.cons_append, List.nil_append, magValue]
      rw [if_neg (by omega)]
    · rw [if_neg h]
      simp only [List.cons_append, magValue, if_true]
      rw [ih (v - 7) (by omega) (acc + 7)]
      congr 2; omega

/-- `ec_laplace_decode_p0` inverts `ec_laplace_encode_p0` at the symbol level, leaving the following symbols unread. -/
theorem p0_roundtrip (value : Int) (rest : List Nat) :
    decodeP0 (encodeP0 value).1 ((encodeP0 value).2 ++ rest) = some (value, rest) := by
  unfold encodeP0 decodeP0
  by_cases h0 : value = 0
  · simp [h0]
  · by_cases hp : value > 0
    · simp only [h0, hp, if_true, if_false, show (1 : Nat) ≠ 0 by decide, magValue_magSymbols, show ¬ (1 : Nat) = 2 by decide]
      congr 2; omega
    · simp only [h0, hp, if_false, show (2 : Nat) ≠ 0 by decide, magValue_magSymbols, if_true]
      congr 2; omega

/-- every magnitude symbol is inside the 8-entry table -/
theorem magSymbols_lt : ∀ v, ∀ s ∈ magSymbols v, s < 8 := by
  intro v
  induction v using Nat.strongRecOn with
  | _ v ih =>
    intro s hs
    rw [magSymbols] at hs
    by_cases h : v < 7
    · rw [if_pos h] at hs; simp at hs; omega
    · rw [if_neg h] at hs
      simp only [List.mem_cons] at hs
      rcases hs with rfl | hs
      · decide
      · exact ih (v - 7) (by omega) s hs

theorem signIcdf_ok (p0 : Nat) (h1 : 0 < p0) (h2 : p0 ≤ 32766) : icdfOk 15 (signIcdf p0) = true := by
  have e : (32768 + 65536 - p0) % 65536 = 32768 - p0 := by omega
  simp only [signIcdf, e, icdfOk, strictDecr, endsZero, Bool.and_eq_true, decide_eq_true_eq, beq_self_eq_true, and_true]
  omega

/-- the decayed entries stay positive, strictly below their predecessor and below 2^16 -/
theorem magIcdfFrom_ok (decay : Nat) (hd : decay < 32768) : ∀ n prev, n < prev → prev < 32768 →
    strictDecr (prev :: (magIcdfFrom decay n prev ++ [0])) = true ∧ endsZero (prev :: (magIcdfFrom decay n prev ++ [0])) = true := by
  intro n
  induction n with
  | zero =>
    intro prev h _
    simp [magIcdfFrom, strictDecr, endsZero]; omega
  | succ n ih =>
    intro prev h hp
    have hq : prev * decay / 32768 < prev := by
      apply Nat.div_lt_of_lt_mul
      have : prev * decay < prev * 32768 := Nat.mul_lt_mul_of_pos_left hd (by omega)
      rw [Nat.mul_comm 32768 prev]; exact this
    have hx : max (n + 1) (prev * decay / 32768) % 65536 = max (n + 1) (prev * decay / 32768) := by
      apply Nat.mod_eq_of_lt; omega
    have hlt : max (n + 1) (prev * decay / 32768) < prev := by omega
    obtain ⟨h1, h2⟩ := ih (max (n + 1) (prev * decay / 32768)) (by omega) (by omega)
    simp only [magIcdfFrom, hx, List.cons_append, strictDecr, endsZero, Bool.and_eq_true, decide_eq_true_eq]
    exact ⟨⟨hlt, h1⟩, h2⟩

theorem magIcdf_ok (decay : Nat) (hd : decay < 32768) : icdfOk 15 (magIcdf decay) = true := by
  obtain ⟨h1, h2⟩ := magIcdfFrom_ok decay hd 6 (max 7 decay) (by omega) (by omega)
  simp only [magIcdf, icdfOk, Bool.and_eq_true, decide_eq_true_eq]
  exact ⟨⟨by omega, h1⟩, h2⟩

end OpusProofs.LaplaceP0
