import OpusModel.SilkVad
import OpusProofs.SilkParamsFix
/-
  OpusProofs.SilkVad — range lemmas for the small functions of the SILK VAD (OpusModel.SilkVad):
  macro helpers inside 32 bits, `silk_sigm_Q15`, `silk_lin2log`, `silk_SQRT_APPROX`,
  `silk_ADD_POS_SAT32`.  The regenerated constants enter through the `*_eq` lemmas.
-/
namespace Opus.SilkVad
open Opus Opus.SilkParams

theorem noiseLevelsBias_eq : noiseLevelsBias = 50 := rfl
theorem noiseLevelSmoothCoefQ16_eq : noiseLevelSmoothCoefQ16 = 1024 := rfl
theorem snrFactorQ16_eq : snrFactorQ16 = 45000 := rfl
theorem negativeOffsetQ5_eq : negativeOffsetQ5 = 128 := rfl
theorem snrSmoothCoefQ18_eq : snrSmoothCoefQ18 = 4096 := rfl
theorem tiltWeights_eq : tiltWeights = ⟨30000, 6000, -12000, -12000⟩ := rfl
theorem aFb120_eq : aFb120 = 10788 := rfl
theorem aFb121_eq : aFb121 = -24290 := rfl
theorem int32Max_eq : int32Max = 2147483647 := rfl

theorem sat16_range (x : Int) : -32768 ≤ sat16 x ∧ sat16 x ≤ 32767 := sat16_I16 x

theorem addPosSat32_spec (a b : Int) (ha : 0 ≤ a ∧ a ≤ 2147483647) (hb : 0 ≤ b ∧ b ≤ 2147483647) :
    addPosSat32 a b = min (a + b) 2147483647 := by
  unfold addPosSat32 int32Max
  split <;> omega

theorem addPosSat32_range (a b : Int) (ha : 0 ≤ a ∧ a ≤ 2147483647) (hb : 0 ≤ b ∧ b ≤ 2147483647) :
    0 ≤ addPosSat32 a b ∧ addPosSat32 a b ≤ 2147483647 ∧ a ≤ addPosSat32 a b ∧ b ≤ addPosSat32 a b := by
  rw [addPosSat32_spec a b ha hb]; omega

/-- `silk_DIV32(a, d)` with `d ≥ 1` and `a ≥ k·d` for some `k ≥ 0`: it is Euclidean division, the quotient lies between
    `k` and `a`, and times `d` it does not pass `a`. -/
theorem div32_pos (a d k : Int) (hd : 1 ≤ d) (hk : 0 ≤ k) (h : k * d ≤ a) :
    Int.tdiv a d = a / d ∧ k ≤ a / d ∧ a / d ≤ a ∧ a / d * d ≤ a := by
  have ha : 0 ≤ a := Int.le_trans (Int.mul_nonneg hk (by omega)) h
  exact ⟨Int.tdiv_eq_ediv_of_nonneg ha, Int.le_ediv_of_mul_le (by omega) h, Int.ediv_le_self _ ha, Int.ediv_mul_le _ (by omega)⟩

theorem sigm_table : ∀ k : Nat, k < 192 →
    (0 ≤ sigmQ15 (k : Int) ∧ sigmQ15 (k : Int) ≤ 32767 ∧ 16384 ≤ sigmQ15 (k : Int)) ∧
    (0 ≤ sigmQ15 (-(k : Int)) ∧ sigmQ15 (-(k : Int)) ≤ 16384) := by
  decide +kernel

theorem sigmQ15_of_nonneg (x : Int) (h : 0 ≤ x) : 16384 ≤ sigmQ15 x ∧ sigmQ15 x ≤ 32767 := by
  by_cases h2 : x ≥ 192
  · have : sigmQ15 x = 32767 := by unfold sigmQ15; simp [h2]; omega
    omega
  · obtain ⟨k, hk⟩ : ∃ k : Nat, x = (k : Int) := ⟨x.toNat, by omega⟩
    have := (sigm_table k (by omega)).1
    rw [hk]; omega

theorem sigmQ15_nonneg_arg (x : Int) (h : 0 ≤ x) : 16384 ≤ sigmQ15 x := (sigmQ15_of_nonneg x h).1

theorem sigmQ15_range (x : Int) : 0 ≤ sigmQ15 x ∧ sigmQ15 x ≤ 32767 := by
  by_cases hx : x < 0
  · by_cases h2 : -x ≥ 192
    · have : sigmQ15 x = 0 := by unfold sigmQ15; simp [hx, h2]
      omega
    · obtain ⟨k, hk⟩ : ∃ k : Nat, x = -(k : Int) := ⟨(-x).toNat, by omega⟩
      have := (sigm_table k (by omega)).2
      rw [hk]; omega
  · have := sigmQ15_of_nonneg x (by omega)
    omega

theorem clz32_range (x : Int) (h0 : 0 < x) (h1 : x ≤ 2147483647) : 0 ≤ clz32 x ∧ clz32 x ≤ 31 := by
  unfold clz32
  have hx : x.toNat ≠ 0 := by omega
  have hlt : x.toNat < 2 ^ 31 := by omega
  have := (Nat.log2_lt hx).2 hlt
  simp only [show ¬ x = 0 by omega, show ¬ x < 0 by omega, if_false]
  omega

theorem clzFrac_range (x : Int) (h0 : 0 < x) (h1 : x ≤ 2147483647) :
    0 ≤ (clzFrac x).1 ∧ (clzFrac x).1 ≤ 31 ∧ 0 ≤ (clzFrac x).2 ∧ (clzFrac x).2 ≤ 127 := by
  have := clz32_range x h0 h1
  unfold clzFrac
  simp only
  omega

theorem lin2log_range (x : Int) (h0 : 0 < x) (h1 : x ≤ 2147483647) : 0 ≤ lin2log x ∧ lin2log x ≤ 4139 := by
  obtain ⟨hl0, hl1, hf0, hf1⟩ := clzFrac_range x h0 h1
  unfold lin2log
  generalize clzFrac x = p at *
  obtain ⟨lz, frac⟩ := p
  simp only at hl0 hl1 hf0 hf1 ⊢
  have hp0 : 0 ≤ frac * (128 - frac) := Int.mul_nonneg hf0 (by omega)
  have hp1 : frac * (128 - frac) ≤ 127 * 128 := Int.mul_le_mul hf1 (by omega) (by omega) (by omega)
  have hq0 : 0 ≤ frac * (128 - frac) * 179 / 65536 := Int.ediv_nonneg (Int.mul_nonneg hp0 (by omega)) (by omega)
  have hq1 : frac * (128 - frac) * 179 / 65536 ≤ 44 := by
    have : frac * (128 - frac) * 179 ≤ 127 * 128 * 179 := Int.mul_le_mul_of_nonneg_right hp1 (by omega)
    omega
  rw [smlawb_eq (by unfold SilkParams.I16; omega) (by unfold I32; omega), lshift32_eq (by unfold I32; simp only [Int.reducePow]; omega)]
  simp only [Int.reducePow]
  omega

theorem clz32_lower (x : Int) (k : Nat) (h0 : 0 < x) (hk : x < 2 ^ k) : 32 - (k : Int) ≤ clz32 x := by
  unfold clz32
  have hx : x.toNat ≠ 0 := by omega
  have hlt : x.toNat < 2 ^ k := by
    have : (x.toNat : Int) < ((2 ^ k : Nat) : Int) := by rw [Int.toNat_of_nonneg (by omega)]; exact_mod_cast hk
    exact_mod_cast this
  have := (Nat.log2_lt hx).2 hlt
  simp only [show ¬ x = 0 by omega, show ¬ x < 0 by omega, if_false]
  omega

/-- `silk_SQRT_APPROX` of a positive 32-bit value with at least `2k` leading zeros: the start value
    `46214` or `32768` is shifted right by at least `k` before the interpolation. -/
theorem sqrtApprox_clz (x : Int) (k : Nat) (h0 : 0 < x) (h1 : x ≤ 2147483647) (hk : 2 * (k : Int) ≤ clz32 x) :
    0 ≤ sqrtApprox x ∧ sqrtApprox x ≤ 46214 / 2 ^ k + 46214 / 2 ^ k * 27051 / 65536 := by
  obtain ⟨-, -, hf⟩ := clzFrac_range x h0 h1
  unfold sqrtApprox
  rw [if_neg (by omega)]
  have hy := shrI_le (if clz32 x % 2 = 1 then 32768 else 46214) k (clz32 x / 2).toNat (by split <;> omega) (by omega)
  have hY : (if clz32 x % 2 = 1 then 32768 else 46214 : Int) / 2 ^ k ≤ 46214 / 2 ^ k :=
    Int.ediv_le_ediv (Int.pow_pos (by omega)) (by split <;> omega)
  exact sqrtInterp _ (46214 / 2 ^ k) _ ⟨hy.1, Int.le_trans hy.2 hY⟩ (Int.ediv_le_self _ (by omega)) hf

theorem sqrtApprox_nonneg (x : Int) (h1 : x ≤ 2147483647) : 0 ≤ sqrtApprox x := by
  by_cases h0 : 0 < x
  · exact (sqrtApprox_clz x 0 h0 h1 (clz32_range x h0 h1).1).1
  · unfold sqrtApprox; rw [if_pos (by omega)]; omega

theorem sqrtApprox_le (x : Int) (h1 : x ≤ 2147483647) : sqrtApprox x ≤ 65290 := by
  by_cases h0 : 0 < x
  · exact Int.le_trans (sqrtApprox_clz x 0 h0 h1 (clz32_range x h0 h1).1).2 (by decide)
  · unfold sqrtApprox; rw [if_pos (by omega)]; omega

/-- `0 < x < 2^k` with `k ≤ 32 - 2j`: the bound of `sqrtApprox_clz` for `j` (32644 for `j = 1`, 4080 for
    `j = 4`, 1020 for `j = 6`). -/
theorem sqrtApprox_small (x : Int) (k j : Nat) (h0 : 0 < x) (hk : x < 2 ^ k) (hj : k + 2 * j ≤ 32) (hk30 : k ≤ 30) :
    sqrtApprox x ≤ 46214 / 2 ^ j + 46214 / 2 ^ j * 27051 / 65536 := by
  have h1 : x ≤ 2147483647 := by
    have : (2 : Int) ^ k ≤ 2 ^ 30 := by exact_mod_cast Nat.pow_le_pow_right (by omega : 0 < 2) hk30
    simp only [Int.reducePow] at this; omega
  have hl := clz32_lower x k h0 hk
  exact (sqrtApprox_clz x j h0 h1 (by omega)).2

end Opus.SilkVad
