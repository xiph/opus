import OpusProofs.ExtRepLists
/-
  C16, repeat mechanism, reader side: what one call of `next` does on each kind of item the generator writes.
  `Steps d it it' es` records that from `it` iteration first reports `es` and then goes on as from `it'`.
-/
namespace Opus.ExtProofs
open Opus Opus.Ext

/-- A one-byte item: padding `01` or the repeat indicator `04`/`05`. -/
theorem skipExtension_one {d : Array Nat} {p b : Nat} {L : Int} (h0 : d[p]? = some b) (hL : 1 ≤ L)
    (hb : (b / 2 = 0 ∧ b % 2 = 1) ∨ b / 2 = 2) : skipExtension d p L = .ok (some (p + 1, L - 1, 1)) :=
  skipExtension_byte h0 hL (by unfold skipPayload; simp only [hb, if_true])

theorem St.skipped_one {d : Array Nat} {nbF p cur b : Nat} {it : Iter} (hs : St d nbF p cur it) (h0 : d[p]? = some b)
    (hp : p + 1 ≤ d.size) (hb : (b / 2 = 0 ∧ b % 2 = 1) ∨ b / 2 = 2) :
    Skipped it b (p + 1) ((d.size : Int) - p - 1) 1 :=
  ⟨by rw [hs.data, hs.cd]; exact h0, by rw [hs.data, hs.cd, hs.cl]; exact skipExtension_one h0 (by omega) hb,
    by rw [hs.len]; omega⟩

/-- From `it`, iteration first reports references that decode to `es` (IDs, frames, lengths, payload
    bytes), then continues as from `it'`. -/
def Steps (d : Array Nat) (it it' : Iter) (es : List Ext) : Prop :=
  ∀ l s, iterAll it' = .ok (l, s) →
    ∃ rs, iterAll it = .ok (rs ++ l, s) ∧ rs.map (ExtRef.toExt d.toList) = es

theorem Steps.refl (d : Array Nat) (it : Iter) : Steps d it it [] :=
  fun l s h => ⟨[], by simpa using h, rfl⟩

theorem Steps.trans {d : Array Nat} {a b c : Iter} {e1 e2 : List Ext} (h1 : Steps d a b e1) (h2 : Steps d b c e2) :
    Steps d a c (e1 ++ e2) := by
  intro l s hc
  obtain ⟨r2, hb, hr2⟩ := h2 l s hc
  obtain ⟨r1, ha, hr1⟩ := h1 _ s hb
  exact ⟨r1 ++ r2, by rw [ha, List.append_assoc], by rw [List.map_append, hr1, hr2]⟩

theorem Steps.of_next_eq {d : Array Nat} {it it' : Iter} (h : next it = next it') : Steps d it it' [] := by
  intro l s hc
  refine ⟨[], ?_, rfl⟩
  rw [iterAll_eq, h, ← iterAll_eq]; simpa using hc

theorem Steps.of_next {d : Array Nat} {it it' : Iter} {r : ExtRef} {e : Ext} (h : next it = .ok (it', .ext r))
    (he : r.toExt d.toList = e) : Steps d it it' [e] := by
  intro l s hc
  refine ⟨[r], ?_, by simp [he]⟩
  rw [iterAll_eq, h]; simp only; rw [hc]; rfl

theorem plain_step {d : Array Nat} {nbF p cur : Nat} {it : Iter} {e : Ext} {flag : Bool} {rest : List Nat}
    {p0 : Nat} {ll : Option Nat} {T : Int}
    (hs : St d nbF p cur it) (hr : Reg it p0 ll T) (hv : ValidExt nbF e) (hcur : cur ≤ e.frame.toNat)
    (h : Tail d p (sepBytes e.frame.toNat cur ++ (extBytes e flag ++ rest))) (hflag : flag = true → rest = []) :
    ∃ it', Steps d it it' [normExt e] ∧
      St d nbF (p + (sepBytes e.frame.toNat cur).length + (extBytes e flag).length) e.frame.toNat it' ∧
      Reg it' (if e.frame.toNat = cur then p0 else p + (sepBytes e.frame.toNat cur).length)
        (if e.id < 32 then (if e.frame.toNat = cur then ll else none)
         else some (p + (sepBytes e.frame.toNat cur).length + (extBytes e flag).length))
        (if e.id < 32 then (if e.frame.toNat = cur then T else 0) + e.len else 0) := by
  obtain ⟨it', hn, hst, hreg⟩ := next_plain hs hr hv hcur h hflag
  exact ⟨it', Steps.of_next hn (toExt_eq hv rfl rfl rfl (At.head (h.drop.bytes.append).1).2.tail_payload), hst, hreg⟩

/-- Padding bytes `01` are skipped by the main loop; `repeat_data` and `last_long` stay. -/
theorem ones_steps {d : Array Nat} {nbF cur : Nat} {rest : List Nat} : ∀ (k p : Nat) (it : Iter), St d nbF p cur it →
    (0 < k → cur < nbF) → Tail d p (List.replicate k 1 ++ rest) →
    ∃ it', Steps d it it' [] ∧ St d nbF (p + k) cur it' ∧ it'.repeatData = it.repeatData ∧ it'.lastLong = it.lastLong := by
  intro k
  induction k with
  | zero => intro p it hs _ _; exact ⟨it, Steps.refl d it, hs, rfl, rfl⟩
  | succ k ih =>
    intro p it hs hcur h
    have hcur := hcur (Nat.succ_pos k)
    obtain ⟨h0, hrest⟩ := h.head
    have hend := hrest.size
    have hmb : mainBody it = .ok (.cont { it with currData := p + 1, currLen := (d.size : Int) - p - 1 }) :=
      mainBody_of_step (.skip (hs.skipped_one h0 (by omega) (Or.inl ⟨rfl, rfl⟩)) (Or.inl rfl))
    have hst1 : St d nbF (p + 1) cur { it with currData := p + 1, currLen := (d.size : Int) - p - 1 } :=
      ⟨hs.data, hs.len, rfl, by simp only; omega, hs.cf, hs.rf, hs.nf, hs.fm⟩
    obtain ⟨it2, hs2, hst2, hr2, hl2⟩ := ih (p + 1) _ hst1 (fun _ => hcur) hrest
    refine ⟨it2, ?_, by rw [show p + (k + 1) = p + 1 + k by omega]; exact hst2, hr2, hl2⟩
    have hstep : Steps d it { it with currData := p + 1, currLen := (d.size : Int) - p - 1 } [] :=
      Steps.of_next_eq (by
        rw [hs.next_eq (by omega) hcur, hst1.next_eq (by omega) hcur]
        exact mainLoop_cont (by rw [hs.cl]; omega) hmb)
    exact hstep.trans hs2

/-- Iterator state in the middle of replaying a repeat block of frame `f` into frame `g` (`repeat_frame`), indicator bit
    `L` (`repeat_l`): the source region is `[p0, p0 + plen)` (`repeat_data`, `repeat_len`), the next source extension
    starts at `sq` with `sl` source bytes left (`src_data`, `src_len`), the next payload is read at `p` (`curr_data`);
    `ll`, `T` are `last_long` and `trailing_short_len`. -/
structure RSt (d : Array Nat) (nbF f g L p0 plen sq sl p : Nat) (ll : Option Nat) (T : Int) (it : Iter) : Prop where
  data : it.data = d
  len : it.len = d.size
  nf : it.nbFrames = nbF
  fm : it.frameMax = nbF
  cf : it.currFrame = f
  rf : it.repeatFrame = g
  rl : it.repeatL = L
  rd : it.repeatData = p0
  rlen : it.repeatLen = plen
  sd : it.srcData = sq
  sl : it.srcLen = sl
  cd : it.currData = p
  cl : it.currLen = (d.size : Int) - p
  ll : it.lastLong = ll
  tsl : it.tsl = T

/-- The "repeat these extensions" indicator (`04`: L = 0, `05`: L = 1) starts a repeat block. -/
theorem rep_start {d : Array Nat} {nbF p f p0 : Nat} {ll : Option Nat} {T : Int} {it : Iter} {b : Nat}
    (hs : St d nbF p f it) (hr : Reg it p0 ll T) (hb : d[p]? = some b) (hb2 : b / 2 = 2) (hp0 : p0 ≤ p)
    (hf : f + 1 < nbF) (hp : p + 1 ≤ d.size) :
    ∃ it', Steps d it it' [] ∧ RSt d nbF f (f + 1) (b % 2) p0 (p - p0) p0 (p - p0) (p + 1) ll T it' := by
  obtain ⟨r1, r2, r3⟩ := hr
  have hmb := mainBody_of_step (.rep (hs.skipped_one hb hp (Or.inr hb2)) hb2)
  have hn := (hs.next_eq (by omega) (by omega)).trans
    (mainLoop_rep (by rw [hs.cl]; omega) hmb (by simp only; omega) (by simp only; omega))
  exact ⟨_, Steps.of_next_eq hn, ⟨hs.data, hs.len, hs.nf, hs.fm, hs.cf, by simp only; rw [hs.cf], rfl, r1, by simp only; rw [hs.cd, r1]; omega, r1,
      by simp only; rw [hs.cd, r1]; omega, rfl, by simp only; omega, r2, r3⟩⟩

/-- One repeated extension: source extension `a` (of the region), target `x` of frame `g` whose payload
    (with length bytes unless `forced`) is read at `p`. -/
theorem rep_step {d : Array Nat} {nbF f g L p0 plen sq sl' p : Nat} {ll : Option Nat} {T : Int} {it : Iter}
    {a x : Ext} {rest : List Nat}
    (hR : RSt d nbF f g L p0 plen sq ((extBytes a false).length + sl') p ll T it)
    (hg0 : 0 < g) (hg : g < nbF) (hva : ValidExt nbF a) (hvx : ValidExt nbF x) (hxf : x.frame.toNat = g)
    (hm : matchB x a = true)
    (forced : Bool) (hforced : forced = true ↔ (L = 0 ∧ g + 1 ≥ nbF ∧ some (sq + (extBytes a false).length) = ll))
    (hfl : forced = true → 32 ≤ a.id)
    (hsrc : At d sq (extBytes a false))
    (h : Tail d p ((extBytes x forced).tail ++ rest)) (hT : forced = true → (rest.length : Int) = T) :
    ∃ it', Steps d it it' [normExt x] ∧
      RSt d nbF f g L p0 plen (sq + (extBytes a false).length) sl' (p + (extBytes x forced).tail.length) ll T it' := by
  obtain ⟨hmid, hmlen⟩ := matchB_iff.mp hm
  obtain ⟨ha2, ham⟩ := idByte_spec hva false
  obtain ⟨hx2, hxm⟩ := idByte_spec hvx forced
  -- under `matchB`, the source id byte with its L bit masked as the reader does is the id byte of `x`
  have hrb : (if L = 0 ∧ g + 1 ≥ nbF ∧ some (sq + (extBytes a false).length) = ll then idByte a false - idByte a false % 2
      else idByte a false) = idByte x forced := by
    have e : ∀ n m : Nat, n / 2 = m / 2 → n % 2 = m % 2 → n = m := by omega
    have hmask : ∀ n : Nat, (n - n % 2) / 2 = n / 2 ∧ (n - n % 2) % 2 = 0 := by omega
    have hid : idByte a false / 2 = idByte x forced / 2 := by rw [ha2, hx2, hmid]
    by_cases hfo : forced = true
    · have hl : ¬ x.id < 32 := by have := hfl hfo; omega
      rw [if_pos (hforced.mp hfo)]
      exact e _ _ ((hmask _).1.trans hid) (by rw [(hmask _).2, hxm, if_neg hl, if_pos hfo])
    · rw [if_neg (mt hforced.mpr hfo)]
      refine e _ _ hid ?_
      rw [ham, hxm, hmid]
      by_cases hs : a.id < 32
      · rw [if_pos hs, if_pos hs, hmlen (hmid ▸ hs)]
      · rw [if_neg hs, if_neg hs, if_neg hfo]; rfl
  have hend := h.size_append
  have hsp := skipPayload_tail (L := (d.size : Int) - p) hvx h.bytes.append.1 (by omega) hT
  have hid : repIdByte it (idByte a false) (sq + (extBytes a false).length) = idByte x forced := by
    unfold repIdByte; rw [hR.rl, hR.rf, hR.nf, hR.ll]; exact hrb
  have hbody := repeatBody_of_step (it := it) (.ext (by rw [hR.data, hR.sd]; exact (At.head hsrc).1)
    (by rw [hR.data, hR.sd, hR.sl]; exact skipExtension_extBytes hva hsrc (fun h => by cases h)) (by have := idByte_ge hva false; omega)
    (by rw [hid, hR.data, hR.cd, hR.cl, hR.tsl]; exact hsp) (by rw [hR.len]; omega) (by rw [hR.fm, hR.rf]; omega))
  rw [hid] at hbody
  have hpos := extBytes_pos a false
  refine ⟨_, Steps.of_next (next_repeat_ret (by rw [hR.cl]; omega) (by rw [hR.rf]; exact hg0)
    (repeatPhase_ret (by rw [hR.rf, hR.nf]; exact hg) (by rw [hR.sl]; omega) hbody)) ?_, ?_⟩
  · refine toExt_eq hvx hx2 (by rw [hxf]; exact hR.rf) ?_ ?_
    · have := tail_length hvx forced; have := hvx.len_lo
      simp only [hR.cd]; omega
    · simp only [hR.cd]; exact h.bytes.append.1.tail_payload
  · exact ⟨hR.data, hR.len, hR.nf, hR.fm, hR.cf, hR.rf, hR.rl, hR.rd, hR.rlen, rfl, rfl, rfl, by simp only; omega, hR.ll, hR.tsl⟩

/-- A padding byte `01` inside the source region is skipped when the region is replayed
    (`if (repeat_id_byte <= 3) continue;`, extensions.c:176). -/
theorem rep_skip_one {d : Array Nat} {nbF f g L p0 plen sq sl p : Nat} {ll : Option Nat} {T : Int} {it : Iter}
    (hR : RSt d nbF f g L p0 plen sq (sl + 1) p ll T it) (hg0 : 0 < g) (hg : g < nbF) (hb : d[sq]? = some 1) (hp : p ≤ d.size) :
    ∃ it', Steps d it it' [] ∧ RSt d nbF f g L p0 plen (sq + 1) sl p ll T it' := by
  have hsk : skipExtension d sq ((sl + 1 : Nat) : Int) = .ok (some (sq + 1, (sl : Int), 1)) := by
    rw [skipExtension_one hb (by omega) (Or.inl ⟨rfl, rfl⟩)]; simp
  have hbody : repeatBody it = .ok (.cont { it with srcData := sq + 1, srcLen := (sl : Int) }) :=
    repeatBody_of_step (.skip (by rw [hR.data, hR.sd]; exact hb) (by rw [hR.data, hR.sd, hR.sl]; exact hsk) (by omega))
  have hcl : 0 ≤ it.currLen := by rw [hR.cl]; omega
  have hrf : 0 < it.repeatFrame := by rw [hR.rf]; exact hg0
  exact ⟨_, Steps.of_next_eq (next_repeat_congr (it1 := { it with srcData := sq + 1, srcLen := (sl : Int) }) hcl hrf hcl hrf
      (repeatPhase_cont (by rw [hR.rf, hR.nf]; exact hg) (by rw [hR.sl]; omega) hbody)),
    ⟨hR.data, hR.len, hR.nf, hR.fm, hR.cf, hR.rf, hR.rl, hR.rd, hR.rlen, rfl, rfl, hR.cd, hR.cl, hR.ll, hR.tsl⟩⟩

theorem rep_skip_ones {d : Array Nat} {nbF f g L p0 plen p : Nat} {ll : Option Nat} {T : Int} (hg0 : 0 < g) (hg : g < nbF)
    (hp : p ≤ d.size) : ∀ (k sq sl : Nat) (it : Iter), RSt d nbF f g L p0 plen sq (k + sl) p ll T it →
    At d sq (List.replicate k 1) → ∃ it', Steps d it it' [] ∧ RSt d nbF f g L p0 plen (sq + k) sl p ll T it' := by
  intro k
  induction k with
  | zero => intro sq sl it hR _; exact ⟨it, Steps.refl d it, by simpa using hR⟩
  | succ k ih =>
    intro sq sl it hR hat
    obtain ⟨h0, hrest⟩ := At.head hat
    obtain ⟨it1, hs1, hR1⟩ := rep_skip_one (sl := k + sl) (by rw [show k + sl + 1 = k + 1 + sl by omega]; exact hR) hg0 hg h0 hp
    obtain ⟨it2, hs2, hR2⟩ := ih (sq + 1) sl it1 hR1 hrest
    exact ⟨it2, hs1.trans hs2, by rw [show sq + (k + 1) = sq + 1 + k by omega]; exact hR2⟩

theorem rep_switch {d : Array Nat} {nbF f g L p0 plen sq p : Nat} {ll : Option Nat} {T : Int} {it : Iter}
    (hR : RSt d nbF f g L p0 plen sq 0 p ll T it) (hg0 : 0 < g) (hg : g < nbF) (hp : p ≤ d.size) :
    ∃ it', Steps d it it' [] ∧ RSt d nbF f (g + 1) L p0 plen p0 plen p ll T it' := by
  have hcl : 0 ≤ it.currLen := by rw [hR.cl]; omega
  exact ⟨_, Steps.of_next_eq (next_repeat_congr
      (it1 := { it with srcData := it.repeatData, srcLen := it.repeatLen, repeatFrame := it.repeatFrame + 1 })
      hcl (by rw [hR.rf]; exact hg0) hcl (Nat.succ_pos _)
      (repeatPhase_switch (by rw [hR.rf, hR.nf]; exact hg) (by rw [hR.sl]; omega))),
    ⟨hR.data, hR.len, hR.nf, hR.fm, hR.cf, by simp only; rw [hR.rf], hR.rl, hR.rd, hR.rlen, hR.rd, hR.rlen,
      hR.cd, hR.cl, hR.ll, hR.tsl⟩⟩

/-- The repeat block is finished (`repeat_frame = nb_frames`): back to the main loop, in the next frame
    when the indicator had `L = 0`. -/
theorem rep_end {d : Array Nat} {nbF f L p0 plen sq sl p : Nat} {ll : Option Nat} {T : Int} {it : Iter}
    (hR : RSt d nbF f nbF L p0 plen sq sl p ll T it) (hf : f + 1 < nbF) (hp : p ≤ d.size) :
    ∃ it', Steps d it it' [] ∧ St d nbF p (if L = 0 then f + 1 else f) it' ∧ Reg it' p none T := by
  have hc : ¬ (it.currFrame + 1 ≥ it.nbFrames) := by rw [hR.cf, hR.nf]; omega
  have hst : St d nbF p (if L = 0 then f + 1 else f) (repeatEnd it) ∧ Reg (repeatEnd it) p none T := by
    unfold repeatEnd
    by_cases hl : L = 0
    · simp only [hR.rl, hl, if_true, hc, if_false]
      exact ⟨⟨hR.data, hR.len, hR.cd, hR.cl, by simp only; rw [hR.cf], rfl, hR.nf, hR.fm⟩, hR.cd, rfl, hR.tsl⟩
    · simp only [hR.rl, hl, if_false]
      exact ⟨⟨hR.data, hR.len, hR.cd, hR.cl, hR.cf, rfl, hR.nf, hR.fm⟩, hR.cd, rfl, hR.tsl⟩
  exact ⟨repeatEnd it, Steps.of_next_eq (next_repeat_none (by rw [hR.cl]; omega) (by rw [hR.rf]; omega)
    (repeatPhase_end (by rw [hR.rf, hR.nf]; omega)) (by rw [hst.1.cl]; omega) hst.1.rf), hst⟩

end Opus.ExtProofs
