import OpusProofs.OpusFrameHybridCelt
import OpusProofs.RangeCoderBudget
/-
  C08, hybrid frames WITH the redundancy signalling: the length contracts of the decoder derived from the encoder's own tests
  when the CELT encoder does not shrink the main part (CBR) — `hybrid_red_gate_cbr`, `hybrid_red_sane_cbr` — and the cost of
  `ec_enc_uint(·, 256)` in `ec_tell`.
-/
namespace Opus.OpusFrameProofs
open Opus Opus.RangeCoder Opus.SilkSyms Opus.SilkSymsEnc Opus.SilkSymsEncProofs Opus.OpusFrameEnc OpusProofs.CeltHdr

/-- the contract `hgate` in the CBR case; what it says of opus_encoder.c / opus_decoder.c is written at
    `OpusProps.C08Hybrid.hybrid_red_gate_cbr` -/
theorem hybrid_red_gate_cbr (tellSilk : Int) (maxData S rb : Nat) (hS : S = maxData - 1 - rb) (hrb : rb ≤ maxData - 1)
    (henc : tellSilk + 17 + 20 ≤ 8 * ((maxData - 1 : Nat) : Int)) :
    tellSilk + 17 + 20 ≤ 8 * ((S + rb : Nat) : Int) := by
  have : S + rb = maxData - 1 := by omega
  rw [this]; exact henc

/-- the contract `hsane` in the CBR case (see `OpusProps.C08Hybrid.hybrid_red_sane_cbr`) -/
theorem hybrid_red_sane_cbr (tellC2s tellSig : Int) (maxData S rb : Nat) (hS : S = maxData - 1 - rb) (ht : 0 ≤ tellC2s)
    (h8 : tellSig ≤ tellC2s + 8)
    (hmax : (rb : Int) ≤ ((maxData - 1 : Nat) : Int) - (tellC2s + 8 + 3 + 7) / 8) :
    tellSig ≤ 8 * ((S : Nat) : Int) := by
  subst hS
  omega

theorem redSig_split (c2s rb : Nat) :
    redSigOps true true 1 c2s rb = [Op.bitLogp 1 12, Op.bitLogp c2s 1] ++ [Op.uint (rb - 2) 256] := by
  unfold redSigOps
  simp only [↓reduceIte, ne_eq, one_ne_zero, not_false_eq_true, List.cons_append, List.nil_append]

/-- `ec_tell` behind the signalling is at most 8 bits above `ec_tell` behind the `celt_to_silk` bit, and that is `>= 1`. -/
theorem hybrid_red_uint_cost (buf : List Nat) (size : Nat) (cfg : Cfg) (pk : PacketIn) (c2s rb : Nat) (suf : List Op)
    (hs : size ≤ buf.length) (hb : BytesOk buf) (hok : PacketOk cfg pk) (hrb : 2 ≤ rb ∧ rb ≤ 257)
    (hn : (encRun (encInit buf size) (packetOps cfg pk ++ redSigOps true true 1 c2s rb ++ suf)).nbitsTotal < 4294967296)
    (herr : (encRun (encInit buf size) (packetOps cfg pk ++ redSigOps true true 1 c2s rb ++ suf)).error = 0) :
    1 ≤ tell (encRun (encInit buf size) (packetOps cfg pk ++ [Op.bitLogp 1 12, Op.bitLogp c2s 1])) ∧
    tell (encRun (encInit buf size) (packetOps cfg pk ++ redSigOps true true 1 c2s rb)) ≤
      tell (encRun (encInit buf size) (packetOps cfg pk ++ [Op.bitLogp 1 12, Op.bitLogp c2s 1])) + 8 := by
  have hsplit : packetOps cfg pk ++ redSigOps true true 1 c2s rb ++ suf =
      (packetOps cfg pk ++ [Op.bitLogp 1 12, Op.bitLogp c2s 1]) ++ ([Op.uint (rb - 2) 256] ++ suf) := by
    rw [redSig_split]; simp only [List.append_assoc]
  rw [hsplit] at hn herr
  obtain ⟨hnP, herrP⟩ := encRun_ok_of_append hn herr
  have hsigL : LegalRun (encRun (encInit buf size) (packetOps cfg pk)) [Op.bitLogp 1 12, Op.bitLogp c2s 1] :=
    (legalRun_append _ _ _ (redSig_split c2s rb ▸ redSigOps_legal _ true 1 c2s rb fun _ => hrb)).1
  have hsigN : ∀ op ∈ [Op.bitLogp 1 12, Op.bitLogp c2s 1], NoRawOp op := fun op hop =>
    redSigOps_noRaw true 1 c2s rb op (redSig_split c2s rb ▸ List.mem_append_left _ hop)
  obtain ⟨ri, _, _, _, _⟩ := sig_run_facts buf size cfg pk [Op.bitLogp 1 12, Op.bitLogp c2s 1] hs hb hok hsigN hsigL hnP herrP
  have hr : RngOk (encRun (encInit buf size) (packetOps cfg pk ++ [Op.bitLogp 1 12, Op.bitLogp c2s 1])) :=
    ⟨ri.inv.rng_lo, ri.inv.rng_hi⟩
  have h33 : 33 ≤ (encRun (encInit buf size) (packetOps cfg pk ++ [Op.bitLogp 1 12, Op.bitLogp c2s 1])).nbitsTotal :=
    encRun_nbits_mono (packetOps cfg pk ++ [Op.bitLogp 1 12, Op.bitLogp c2s 1]) (encInit buf size)
  have hil := ilog_le_32 hr
  have hstep := (tell_step_bounds _ hr 0 1 (by decide) (by decide) (rb - 2) (by omega)).2
  have hrun : encRun (encInit buf size) (packetOps cfg pk ++ redSigOps true true 1 c2s rb) =
      encOp (encRun (encInit buf size) (packetOps cfg pk ++ [Op.bitLogp 1 12, Op.bitLogp c2s 1])) (.uint (rb - 2) 256) := by
    rw [redSig_split, ← List.append_assoc, encRun_append]; rfl
  rw [hrun]
  refine ⟨?_, hstep⟩
  unfold tell; omega

end Opus.OpusFrameProofs
