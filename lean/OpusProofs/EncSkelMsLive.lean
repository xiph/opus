import OpusProofs.MsEncodeSkel
import OpusProofs.EncSkelMsRate
/-
  OpusProofs.EncSkelMsLive — C05 for the multistream encoder, stated over C10's TIED model of
  `opus_multistream_encode_native` (`Opus.MsEncode.loop` / `encodeNative`, OpusModel/MsEncode.lean, executed by
  the `msenc` correspondence suite): if `max_data_bytes ≥ smallest_packet`, every stream is
  handed a LEGAL budget (≥ 1 byte, ≥ 2 for 100 ms) — so a per-stream encoder that succeeds on every legal budget
  (C05 for `opus_encode_native`) is never made to fail, the loop runs to the end, and the call returns a packet.
  Its size (≤ max_data_bytes, exactly the clamped size with VBR off) and structure are C10's `loop_spec`.
  First the arithmetic of the per-stream budget split (src/opus_multistream_encoder.c:976-984, `msCurrMax`): the invariant is
  that the space left covers the minimum the remaining streams need (`msNeed`; `curr_max>253 ? 2 : 1` is reserved for the
  self-delimiting length).
-/
namespace Opus.EncSkel.Proofs
open Opus Opus.EncSkel

/-- Minimum space for streams `s .. n-1` (`smallest_packet` is `msNeed n fr 0`). -/
def msNeed (n fr s : Int) : Int :=
  if s ≥ n then 0 else (2 * (n - s) - 1) + (if fr = 10 then n - s else 0)

/-- `curr_max` is the space left minus what the streams after `s` need, capped at 7662, minus the bytes reserved for the
    self-delimiting length of all but the last stream. -/
theorem msCurrMax_eq (n fs fsz maxB tot s : Int) (hsn : s < n) :
    msCurrMax n fs fsz maxB tot s =
      (fun cm => if s ≠ n - 1 then cm - (if cm > 253 then 2 else 1) else cm)
        (min (maxB - tot - msNeed n (fs / fsz) (s + 1)) 7662) := by
  have hN : maxB - tot - msNeed n (fs / fsz) (s + 1) =
      if fs / fsz = 10 then maxB - tot - max 0 (2 * (n - s - 1) - 1) - (n - s - 1)
      else maxB - tot - max 0 (2 * (n - s - 1) - 1) := by
    unfold msNeed
    split <;> split <;> omega
  rw [hN]
  unfold msCurrMax
  dsimp only
  split <;> rfl

/-- While the space left covers what streams `s .. n-1` need: stream `s` gets a legal budget (≥ 1 byte, not 1 byte for a
    100 ms frame), and if it is not the last one, whatever it returns within that budget (`len` bytes, last frame `lastLen`)
    plus the self-delimiting length the repacketiser adds (`outB` emitted bytes) leaves what streams `s+1 .. n-1` need. -/
theorem msCurrMax_spec (n fs fsz maxB tot s : Int) (hsn : s < n)
    (hinv : tot + msNeed n (fs / fsz) s ≤ maxB) :
    (1 ≤ msCurrMax n fs fsz maxB tot s ∧ ¬ (msCurrMax n fs fsz maxB tot s = 1 ∧ fs / fsz = 10)) ∧
    (∀ len lastLen outB : Int, 1 ≤ len → len ≤ msCurrMax n fs fsz maxB tot s → 0 ≤ lastLen → lastLen ≤ len - 1 →
       s ≠ n - 1 → outB ≤ len + (if lastLen ≥ 252 then 2 else 1) → tot + outB + msNeed n (fs / fsz) (s + 1) ≤ maxB) := by
  have hN : msNeed n (fs / fsz) s = msNeed n (fs / fsz) (s + 1) + (if s = n - 1 then 1 else 2) +
      (if fs / fsz = 10 then 1 else 0) := by
    unfold msNeed
    split <;> split <;> split <;> split <;> omega
  rw [msCurrMax_eq n fs fsz maxB tot s hsn]
  rw [hN] at hinv
  generalize msNeed n (fs / fsz) (s + 1) = N at *
  dsimp only
  refine ⟨?_, fun len lastLen outB h1 h2 h3 h4 hl ho => ?_⟩
  all_goals repeat' split
  all_goals omega

end Opus.EncSkel.Proofs

namespace Opus.EncSkel.Proofs
open Opus Opus.EncSkel Opus.Framing Opus.FramingSpec Opus.Repack Opus.RepackProofs Opus.LayoutSpec Opus.MsEncode

/-- The per-stream encoder succeeds whenever its budget is legal for `opus_encode_native`
    (`max_data_bytes ≥ 1`, and not one byte for a 100 ms frame — opus_encoder.c:1158-1172); C05's `ret_le_out` /
    `too_small_clean` for the single-stream encoder. -/
def EncLive (fs100 : Bool) (enc : Nat → Int → Res Bytes) : Prop :=
  ∀ s cm, 1 ≤ cm → ¬ (cm = 1 ∧ fs100 = true) → ∃ pk, enc s cm = .ok pk

/-- C10's `currMax` is C05's `msCurrMax` (the one the driver executes for suite op `mscurr3`). -/
theorem msCurrMax_eq_c10 (n s : Nat) (fs fsz maxData tot : Int) :
    MsEncode.currMax n s (decide (fs / fsz = 10)) maxData tot = msCurrMax n fs fsz maxData tot s := by
  unfold MsEncode.currMax msCurrMax MsEncode.MS_FRAME_TMP
  simp only [decide_eq_true_eq]
  have hl : (s + 1 ≠ n) ↔ ((s : Int) ≠ (n : Int) - 1) := by omega
  by_cases h10 : fs / fsz = 10 <;> by_cases hls : s + 1 = n <;>
    simp only [h10, hls, hl, ne_eq, not_true_eq_false, if_true, if_false] <;>
    (try rw [if_neg (by omega)])

theorem smallest_eq (n : Nat) (fs fsz : Int) :
    MsEncode.smallestPacket n (decide (fs / fsz = 10)) = msSmallest n fs fsz := by
  unfold MsEncode.smallestPacket msSmallest
  simp only [decide_eq_true_eq]
  split <;> omega

/-- **The stream loop runs to the end**: from any point where the space left covers the minimum the remaining
    streams need (`msNeed`), every stream's budget is legal, its encoder therefore succeeds, and what the
    repacketiser emits for it leaves enough for the rest. -/
theorem loop_live (n fs frameSize : Nat) (fsI fszI : Int) (vbr : Bool) (maxB : Int) (enc : Nat → Int → Res Bytes)
    (hc : EncContract fs frameSize enc) (hlive : EncLive (decide (fsI / fszI = 10)) enc) :
    ∀ (k s : Nat) (tot : Int) (acc : Bytes), s + k = n → 0 ≤ tot → tot + msNeed n (fsI / fszI) s ≤ maxB →
      ∃ out, loop n (decide (fsI / fszI = 10)) vbr maxB enc k s tot acc = .ok out
  | 0, _, _, acc, _, _, _ => ⟨acc, rfl⟩
  | k + 1, s, tot, acc, hsk, htot, hinv => by
    obtain ⟨⟨hb1, hb2⟩, hstep⟩ := msCurrMax_spec n fsI fszI maxB tot s (by omega) hinv
    rw [← msCurrMax_eq_c10] at hb1 hb2 hstep
    obtain ⟨pk, henc⟩ := hlive s _ hb1 (by
      intro ⟨h1, h2⟩; simp only [decide_eq_true_eq] at h2; exact hb2 ⟨h1, h2⟩)
    obtain ⟨p, hv, hpf, hpk, hd, hle⟩ := hc s _ pk henc
    subst hpk
    obtain ⟨q, -, -, hloop, -, hlq⟩ := loop_step n fs frameSize (decide (fsI / fszI = 10)) vbr maxB enc k s tot acc (by omega)
      p hv hpf hd henc hle
    rw [hloop]
    by_cases hlast : s + 1 = n
    · have hk0 : k = 0 := by omega
      subst hk0
      exact ⟨_, rfl⟩
    · simp only [hlast, ne_eq, not_false_eq_true, decide_true, decide_false, Bool.and_false, Bool.false_eq_true,
        if_false] at hlq ⊢
      have hsd := minSize_sd p.lens
      have hmin := minSize_minimal false p hv
      have hll := lastLen_lt p hv
      have hnext := hstep (serialize false p).length (p.lens.getLastD 0 : Nat) (serialize true q).length
        (by omega) hle (by omega) (by omega) (by omega) (by
          rw [hlq, hsd]
          split <;> split <;> omega)
      exact loop_live n fs frameSize fsI fszI vbr maxB enc hc hlive k (s + 1) _ _ (by omega) (by omega)
        (by push_cast; exact hnext)

/-- **C05 for the multistream stream loop** (C10's tied `MsEncode.loop`, any effective `max_data_bytes = maxB ≥
    smallest_packet`): for EVERY per-stream encoder behaviour that (a) when it succeeds returns a valid packet of the
    common duration in at most `curr_max` bytes (C02/C05 single stream, `EncContract`), (b) succeeds on every legal
    budget (`EncLive`), the call returns a packet `out` with `1 ≤ |out| ≤ maxB`, `|out| = maxB` with VBR off, of the
    multistream structure. -/
theorem ms_loop_ret (n : Nat) (hn : 1 ≤ n) (fs frameSize : Nat) (fsI fszI : Int) (vbr : Bool) (maxB : Int)
    (enc : Nat → Int → Res Bytes) (hc : EncContract fs frameSize enc) (ht : EncTotal enc)
    (hlive : EncLive (decide (fsI / fszI = 10)) enc) (hsmall : msSmallest n fsI fszI ≤ maxB) :
    ∃ out, loop n (decide (fsI / fszI = 10)) vbr maxB enc n 0 0 [] = .ok out ∧
      1 ≤ out.length ∧ (out.length : Int) ≤ maxB ∧ (vbr = false → (out.length : Int) = maxB) ∧
      ∃ ps : List Packet, ps.length = n ∧ (∀ p ∈ ps, Valid p) ∧ (∀ p ∈ ps, duration fs p = frameSize) ∧
        out = LayoutSpec.msSerialize ps := by
  have hneed : msNeed n (fsI / fszI) 0 = msSmallest n fsI fszI := by
    unfold msNeed msSmallest
    rw [if_neg (by omega)]
    dsimp only
    split <;> omega
  obtain ⟨out, hout⟩ := loop_live n fs frameSize fsI fszI vbr maxB enc hc hlive n 0 0 [] (by omega) (by omega)
    (by show (0 : Int) + msNeed (n : Int) (fsI / fszI) 0 ≤ maxB; rw [hneed]; omega)
  obtain ⟨h1, -, -⟩ := loop_spec n fs frameSize (decide (fsI / fszI = 10)) vbr maxB enc hc ht n 0 [] 0 (by omega) (by omega) rfl
    (fun _ h => by cases h) (fun _ h => by cases h) rfl
  obtain ⟨ps, hlen, hval, hdur, hser, hle, hcbr⟩ := h1 out hout
  refine ⟨out, hout, ?_, hle, hcbr, ps, hlen, hval, hdur, hser⟩
  rw [hser]
  cases ps with
  | nil => simp at hlen; omega
  | cons p ps => exact MsDecEq.msSerialize_pos p ps

/-- `st->bitrate_bps` as C10's `cbrClamp` takes it (`none` = OPUS_BITRATE_MAX). -/
def brOpt (br : Int) : Option Int := if br = Opus.EncDecide.OPUS_BITRATE_MAX then none else some br

theorem fs100_eq (fs fsz : Nat) : decide (fs / fsz = 10) = decide ((fs : Int) / (fsz : Int) = 10) := by
  by_cases h : fs / fsz = 10
  · have : (fs : Int) / (fsz : Int) = 10 := by omega
    simp [h, this]
  · have : ¬ (fs : Int) / (fsz : Int) = 10 := by omega
    simp [h, this]

theorem cbrClamp_eq (n fs fsz : Nat) (vbr : Bool) (br rs maxData : Int) (hb : br ≠ Opus.EncDecide.OPUS_AUTO) :
    cbrClamp n (decide ((fs : Int) / (fsz : Int) = 10)) vbr fs fsz (brOpt br) maxData =
      msMaxBytes (if vbr then 1 else 0) br rs n fs fsz maxData := by
  unfold cbrClamp msMaxBytes brOpt
  rw [smallest_eq]
  have hd : ((3 * 8 * fs / fsz : Nat) : Int) = 3 * 8 * (fs : Int) / (fsz : Int) := by
    rw [Int.natCast_ediv]; push_cast; rfl
  cases vbr
  · simp only [Bool.false_eq_true, if_false, if_true, if_neg hb]
    by_cases hm : br = Opus.EncDecide.OPUS_BITRATE_MAX
    · simp only [hm, if_true, ne_eq, not_true_eq_false, if_false]
    · simp only [hm, if_false, ne_eq, not_false_eq_true, if_true, hd]
  · simp only [if_true, show ¬ ((1 : Int) = 0) by decide, if_false]

/-- `opus_multistream_encode_native` for every bit-rate setting: the entry test of :860, then C10's stream loop run with
    the `max_data_bytes` that the CBR clamp of :878-888 leaves, where for OPUS_AUTO the clamp uses the sum of
    `rate_allocation` (`msMaxBytesAlloc`).  For every setting other than OPUS_AUTO this IS C10's tied
    `MsEncode.encodeNative` (`msEncodeAlloc_eq`); for OPUS_AUTO the clamp value is tied by suite op `mscurr3`. -/
def msEncodeAlloc (l : MsLayout) (fs fsz : Nat) (vbr : Bool) (br maxData : Int) (enc : Nat → Int → Res Bytes) : Res Bytes :=
  let fs100 := decide (fs / fsz = 10)
  if maxData < smallestPacket l.nbStreams.toNat fs100 then .err .bufferTooSmall
  else loop l.nbStreams.toNat fs100 vbr (msMaxBytesAlloc l (if vbr then 1 else 0) br fs fsz maxData) enc l.nbStreams.toNat 0 0 []

theorem msEncodeAlloc_eq (l : MsLayout) (hn : 0 ≤ l.nbStreams) (fs fsz : Nat) (vbr : Bool) (br maxData : Int)
    (enc : Nat → Int → Res Bytes) (hb : br ≠ Opus.EncDecide.OPUS_AUTO) :
    msEncodeAlloc l fs fsz vbr br maxData enc = MsEncode.encodeNative l.nbStreams.toNat fs fsz vbr (brOpt br) maxData enc := by
  unfold msEncodeAlloc MsEncode.encodeNative msMaxBytesAlloc
  dsimp only
  rw [fs100_eq, cbrClamp_eq l.nbStreams.toNat fs fsz vbr br (msRateSum l fs fsz br) maxData hb, Int.toNat_of_nonneg hn]

/-- **C05 for `opus_multistream_encode_native`, all settings.**  For every layout, rate, legal frame size, VBR/CBR,
    bit-rate setting (OPUS_AUTO, OPUS_BITRATE_MAX, explicit), `max_data_bytes`, and EVERY per-stream encoder within the
    single-stream contracts (`EncContract`: a success is a valid packet of the common duration in ≤ `curr_max` bytes;
    `EncLive`: it succeeds whenever `curr_max ≥ 1` and not (1 byte ∧ 100 ms)):
    * `max_data_bytes < smallest_packet` → OPUS_BUFFER_TOO_SMALL;
    * otherwise the call SUCCEEDS (no stream is ever handed an illegal budget) with `1 ≤ ret ≤ max_data_bytes`, with VBR
      off `ret` is exactly the clamped size `msMaxBytesAlloc`, and the bytes are a valid multistream packet. -/
theorem ms_encode_alloc_ret (l : MsLayout) (hl : MsLayoutOk l) (fs fsz : Nat)
    (hfs : fs = 8000 ∨ fs = 12000 ∨ fs = 16000 ∨ fs = 24000 ∨ fs = 48000) (hleg : legalFrame fs fsz = true)
    (vbr : Bool) (br maxData : Int) (enc : Nat → Int → Res Bytes)
    (hc : EncContract fs fsz enc) (ht : EncTotal enc) (hlive : EncLive (decide (fs / fsz = 10)) enc) :
    (maxData < msSmallest l.nbStreams fs fsz → msEncodeAlloc l fs fsz vbr br maxData enc = .err .bufferTooSmall) ∧
    (msSmallest l.nbStreams fs fsz ≤ maxData →
      ∃ out, msEncodeAlloc l fs fsz vbr br maxData enc = .ok out ∧ 1 ≤ out.length ∧ (out.length : Int) ≤ maxData ∧
        (vbr = false → (out.length : Int) = msMaxBytesAlloc l 0 br fs fsz maxData) ∧
        ∃ ps : List Packet, (ps.length : Int) = l.nbStreams ∧ (∀ p ∈ ps, Valid p) ∧ (∀ p ∈ ps, duration fs p = fsz) ∧
          out = LayoutSpec.msSerialize ps) := by
  have hn := hl.n1
  have hnn : ((l.nbStreams.toNat : Nat) : Int) = l.nbStreams := Int.toNat_of_nonneg (by omega)
  have hfsI : ((fs : Nat) : Int) = 8000 ∨ (fs : Int) = 12000 ∨ (fs : Int) = 16000 ∨ (fs : Int) = 24000 ∨ (fs : Int) = 48000 := by omega
  unfold msEncodeAlloc
  dsimp only
  rw [fs100_eq, smallest_eq, hnn]
  rw [fs100_eq] at hlive
  constructor
  · intro h; rw [if_pos h]
  · intro h
    rw [if_neg (by omega)]
    -- the clamped budget is between smallest_packet and max_data_bytes
    have hmax : msSmallest l.nbStreams fs fsz ≤ msMaxBytesAlloc l (if vbr then 1 else 0) br fs fsz maxData ∧
        msMaxBytesAlloc l (if vbr then 1 else 0) br fs fsz maxData ≤ maxData := by
      unfold msMaxBytesAlloc msMaxBytes
      cases vbr
      · simp only [Bool.false_eq_true, if_false, if_true]
        split
        · rename_i hb
          have := ms_auto_enough l hl fs fsz hfsI hleg
          rw [hb]; omega
        · split <;> omega
      · simp only [if_true, show ¬ ((1 : Int) = 0) by decide, if_false]; omega
    obtain ⟨out, ho, h1, h2, h3, ps, p1, p2, p3, p4⟩ := ms_loop_ret l.nbStreams.toNat (by omega) fs fsz fs fsz vbr
      (msMaxBytesAlloc l (if vbr then 1 else 0) br fs fsz maxData) enc hc ht hlive (by rw [hnn]; exact hmax.1)
    refine ⟨out, ho, h1, by omega, ?_, ps, by rw [p1, hnn], p2, p3, p4⟩
    intro hv
    rw [h3 hv, hv]
    rfl

/-- The encoder skeleton of C02/C05 succeeds on every legal budget (`ret_le_out`): C10's `skelEnc` is live. -/
theorem skelEnc_live (sts : Nat → St) (fuzz : Bool) (fsz : Int) (hfsz : 0 < fsz) (ors : Nat → Int → NatOr)
    (frs : Nat → Int → List Bytes) (fs : Int) (hfsAll : ∀ s, (sts s).fs = fs) (hok : SkelOk sts fuzz fsz ors frs) :
    EncLive (decide (fs / fsz = 10)) (skelEnc sts fuzz fsz ors frs) := by
  intro s cm h1 h2
  have he : entryCheck (sts s) fsz cm = none := by
    refine (entryCheck_none_iff _ fsz cm).mpr ⟨hfsz, h1, fun ⟨hm, hf⟩ => h2 ⟨by omega, ?_⟩⟩
    rw [decide_eq_true_eq, ← hfsAll s, hf, Int.mul_ediv_cancel_left _ (by omega : fsz ≠ 0)]
  have hp := encodeNative_post (sts s) fuzz fsz cm (ors s cm) he (hok s cm).1
  unfold skelEnc
  dsimp only
  rw [if_pos hp.retLo]
  exact ⟨_, rfl⟩

end Opus.EncSkel.Proofs
