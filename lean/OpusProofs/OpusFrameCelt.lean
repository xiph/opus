import OpusProofs.OpusFrameRed
import OpusProofs.CeltFrameDrive
/-
  C08, frame level: the hypothesis `CeltFrameRT` of the frame-level lock-step theorems, discharged by C17's CELT
  frame round trip (OpusProofs/CeltFrameDrive.lean `celtFrame_roundtrip`, the proof behind OpusProps.C17
  `celt_frame_roundtrip`) for a frame coded on a coder of its own — the 5 ms redundancy frame of a SILK-only or
  hybrid packet (`P0 = []`: nothing precedes the CELT header).

  A C17 `World` is a finished packet: buffer, size, a legal op sequence `all` without coder error; its `bytes`
  (the first `len` bytes after `ec_enc_done`) are the redundancy frame `R`, the CELT encoder model's final `rng` is
  `redundant_rng`.
-/
namespace Opus.OpusFrameProofs
open Opus Opus.RangeCoder Opus.OpusFrameEnc OpusProofs.CeltHdr

/-- The hypotheses of C17's `celt_frame_roundtrip` for a CELT frame on a coder of its own (`P0 = []`), bundled:
    `w` is the finished packet, `cfg` the CELT encoder's configuration, `s0` its start state (fresh coder on `w`'s
    buffer, the DSP decisions `s0.ds`), `fr` what the encoder model `encFrame` produces. -/
structure OwnCoderFrame (w : World) (cfg : Opus.CeltSymsEnc.EncCfg) (s0 : Opus.CeltSymsEnc.St)
    (fr : Opus.CeltBandsEnc.EncFrame) : Prop where
  ops0 : s0.ops = []
  enc0 : s0.e = encInit w.buf w.size
  storage0 : s0.e.storage = cfg.size
  run : Opus.CeltBandsEnc.encFrame cfg s0 = .ok fr
  notSilent : fr.hdr.silence = 0
  inPacket : w.IsPrefix fr.ops
  cfgOk : cfg.start < cfg.end_ ∧ cfg.end_ ≤ 21 ∧ (cfg.C = 1 ∨ cfg.C = 2) ∧ cfg.LM ≤ 3
  sizeOk : cfg.size ≤ 1275
  len : w.len = fr.hdr.size
  margin : w.len = cfg.size ∨ (tell (w.encAt fr.hdr.opsHdr) + 16 ≤ ((w.len * 8 : Nat) : Int) ∧
       (tellFrac (w.encAt fr.hdr.opsHdr) : Int) + fr.hdr.totalBoost + 48 < ((w.len * 8 * 8 : Nat) : Int))
  room : tell s0.e < ((w.len * 8 : Nat) : Int)
  tapset : fr.hdr.pf.on ≠ 0 → tell (w.encAt fr.hdr.opsPf.dropLast) + 2 ≤ ((w.len * 8 : Nat) : Int)
  intensity : (cfg.start : Int) ≤ fr.hdr.allocInp.intensity
  dual : fr.hdr.allocInp.dualStereo = 0 ∨ fr.hdr.allocInp.dualStereo = 1

/-- **`CeltFrameRT` from C17's round trip**, for a CELT frame on a coder of its own: C03's `celtFrame` started on the
    finished packet ends with the `rng` the encoder model ended with, and that is the coder's state behind the frame's calls. -/
theorem OwnCoderFrame.roundtrip {w : World} {cfg : Opus.CeltSymsEnc.EncCfg} {s0 : Opus.CeltSymsEnc.St}
    {fr : Opus.CeltBandsEnc.EncFrame} (h : OwnCoderFrame w cfg s0 fr) :
    CeltFrameRT ⟨cfg.start, cfg.end_, cfg.C, cfg.LM⟩ w.bytes.length (decInit w.bytes w.bytes.length) fr.fin.rng ∧
    fr.fin = w.encAt fr.ops := by
  obtain ⟨dh, sA, fa, _, hcf⟩ := celtFrame_roundtrip w [] cfg s0 h.ops0 h.enc0 h.storage0 fr h.run h.notSilent h.inPacket
    h.cfgOk h.sizeOk h.len h.margin h.room h.tapset h.intensity h.dual
  rw [w.bytes_ok.1]
  exact ⟨⟨_, hcf, fa.rngFin⟩, fa.encFin⟩

theorem OwnCoderFrame.rt {w : World} {cfg : Opus.CeltSymsEnc.EncCfg} {s0 : Opus.CeltSymsEnc.St}
    {fr : Opus.CeltBandsEnc.EncFrame} (h : OwnCoderFrame w cfg s0 fr) :
    CeltFrameRT ⟨cfg.start, cfg.end_, cfg.C, cfg.LM⟩ w.bytes.length (decInit w.bytes w.bytes.length) fr.fin.rng :=
  h.roundtrip.1

end Opus.OpusFrameProofs
