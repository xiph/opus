import OpusProofs.CeltBandsSync
import OpusProofs.CeltBandsWalk
/-
  OpusProofs.CeltFrameMain — the CELT frame round trip behind the header (OpusProofs/CeltHdrMain.lean): everything
  behind `clt_compute_allocation` — fine energy, `quant_all_bands`, anti-collapse bit, `quant_energy_finalise` — up to
  the final range.
-/
namespace OpusProofs.CeltHdr
open Opus Opus.RangeCoder Opus.CeltSymsEnc
open Opus.CeltBandsEnc (ESt)
open Opus.CeltBands (BSt)

/-- The two sides call `quant_all_bands` with the same arguments. -/
theorem bandsIn_eq (cfg : EncCfg) (hdr : EncHdr) (dh : Opus.CeltSyms.CeltHdr) (len : Nat) (hlen : len = hdr.size)
    (h1 : dh.isTransient = hdr.isTransient) (h2 : dh.tfRes = hdr.tfRes) (h3 : dh.antiCollapseRsv = hdr.antiCollapseRsv) :
    Opus.CeltBands.bandsIn (cfgD cfg) len dh hdr.alloc = Opus.CeltBandsEnc.bandsIn cfg hdr := by
  unfold Opus.CeltBands.bandsIn Opus.CeltBandsEnc.bandsIn
  rw [h1, h2, h3, hlen]

/-- `ec_tell` in whole bits is the same on both sides (`StepV.getTell` is this for `ec_tell_frac`) -/
theorem StepV.getTellBits {w : World} {P0 : List Op} : StepV w P0 (fun e => (tell e.s.e, e)) (fun d => (tell d.c, d)) :=
  fun e _ => ⟨Ext0.refl e.s, fun h hp => ⟨(h.tells hp).1, h⟩⟩

/-- Everything behind the allocation, in lock-step: fine energy, the bands, the anti-collapse bit if one was reserved, and
    the finalisation with the bits that `ec_tell` leaves, one after the other. -/
theorem afterAlloc_step (w : World) (P0 : List Op) (cfg : EncCfg) (hdr : EncHdr) (dh : Opus.CeltSyms.CeltHdr) (len : Nat)
    (hlen : len = hdr.size) (h1 : dh.isTransient = hdr.isTransient) (h2 : dh.tfRes = hdr.tfRes)
    (h3 : dh.antiCollapseRsv = hdr.antiCollapseRsv) :
    Step w P0 (Opus.CeltBandsEnc.afterAlloc cfg hdr) (Opus.CeltBands.afterAlloc (cfgD cfg) len dh hdr.alloc) := by
  intro e d
  unfold Opus.CeltBandsEnc.afterAlloc Opus.CeltBands.afterAlloc
  rw [bandsIn_eq cfg hdr dh len hlen h1 h2 h3, h3, hlen]
  exact Step.comp
    (Step.comp
      (Step.comp (fineLoop_step w P0 cfg.C (hdr.alloc.bands.map (·.ebits)))
        (bandLoop_step w P0 (Opus.CeltBandsEnc.bandsIn cfg hdr) (cfg.end_ - cfg.start) cfg.start (hdr.alloc.dualStereo ≠ 0)
          hdr.alloc.balance))
      (Step.ite (hdr.antiCollapseRsv > 0) (fun _ => (raw_step w P0 1).snd) (fun _ => Step.id w P0)))
    (StepV.bind StepV.getTellBits fun t =>
      finalise_step w P0 cfg.C (hdr.alloc.bands.map fun x => (x.ebits, x.prio)) (((hdr.size * 8 : Nat) : Int) - t)) e d

open Opus.CeltSyms (CEv)

/-- the events C03's model records for one encoder call, with the encoder's values: `ec_dec_uint`, `ec_dec_bits` and
    `ec_dec_bit_logp` return the coded value; `ec_decode` returns a point of the coded interval and `ec_dec_update` is
    called with the encoder's `fl`, `fh`, `ft`; the other calls leave no event (the band data uses none of them) -/
def EvOk : Op → List CEv → Prop
  | .uint v ft, evs => evs = [.uint ft v]
  | .bits v n, evs => evs = [.raw n v]
  | .bitLogp v logp, evs => evs = [.bit logp (if v ≠ 0 then 1 else 0)]
  | .encode fl fh ft, evs => ∃ fs, fl ≤ fs ∧ fs < fh ∧ evs = [.dec ft fs, .upd fl fh ft]
  | _, evs => evs = []

/-- a trace that is, call by call, what the encoder's calls `ops` stand for -/
def TraceOk : List Op → List CEv → Prop
  | [], evs => evs = []
  | op :: r, evs => ∃ e1 e2, evs = e1 ++ e2 ∧ EvOk op e1 ∧ TraceOk r e2

theorem evOf_ok (w : World) (P : List Op) (op : Op) (h : w.IsPrefix (P ++ [op])) : EvOk op (evOf (w.decAt P) op) := by
  obtain ⟨m, _⟩ := w.next P op h
  cases op with
  | uint v ft => show _ = _; have m' : (decUint (w.decAt P) ft).1 = v := m; simp only [evOf, m']
  | bits v n => show _ = _; have m' : (decBits (w.decAt P) n).1 = v := m; simp only [evOf, m']
  | bitLogp v logp =>
    show _ = _
    have m' : (decBitLogp (w.decAt P) logp).1 = if v ≠ 0 then 1 else 0 := m
    simp only [evOf, m']
  | encode fl fh ft =>
    have m' : fl ≤ (RangeCoder.decode (w.decAt P) ft).1 ∧ (RangeCoder.decode (w.decAt P) ft).1 < fh := m
    exact ⟨_, m'.1, m'.2, rfl⟩
  | encodeBin _ _ _ => rfl
  | icdf _ _ _ => rfl
  | icdf16 _ _ _ => rfl
  | patchInitial _ _ => rfl
  | shrink _ => rfl

theorem traceOk_evs (w : World) : ∀ (δ P : List Op), w.IsPrefix (P ++ δ) → TraceOk δ (evsFrom w P δ)
  | [], _, _ => rfl
  | op :: r, P, h => by
    have h1 : w.IsPrefix (P ++ [op]) := by
      have : P ++ op :: r = (P ++ [op]) ++ r := by simp
      rw [this] at h; exact World.isPrefix_of_append h
    have h2 : w.IsPrefix ((P ++ [op]) ++ r) := by simpa using h
    exact ⟨_, _, rfl, evOf_ok w P op h1, traceOk_evs w r (P ++ [op]) h2⟩

/-- Everything behind the allocation only appends calls: the first half of `afterAlloc_step`, needed on its own because
    the header's calls must be placed in the packet (`encFrame_hdr`) before `header_roundtrip` delivers the decoder's header that
    `afterAlloc_step` asks for.  (`Step` keeps this half under its world and states; the decoder header made up here carries the
    three fields the band data reads.) -/
theorem afterAlloc_ext (w : World) (P0 : List Op) (cfg : EncCfg) (hdr : EncHdr) (e : ESt) :
    Ext0 e.s (Opus.CeltBandsEnc.afterAlloc cfg hdr e).s :=
  (afterAlloc_step w P0 cfg hdr
    { silence := 0, pf := {}, isTransient := hdr.isTransient, intra := 0, coarse := [], tfRes := hdr.tfRes, tfSelect := 0,
      spread := 0, offsets := [], trim := 0, bits := 0, antiCollapseRsv := hdr.antiCollapseRsv, caps := [], dec := e.s.e,
      trace := [] } hdr.size rfl rfl rfl rfl e { rem := 0, c := e.s.e, tr := [], fault := false }).1

/-- What the frame round trip adds to `HdrAgree`: C03's decoder model of the rest of the frame (`afterAlloc`: fine
    energy, band data, anti-collapse bit, finalise), started where the allocation left the decoder, ends in lock-step
    with the encoder — same final range. -/
structure FrameAgree (w : World) (P0 : List Op) (cfg : EncCfg) (fr : Opus.CeltBandsEnc.EncFrame)
    (dh : Opus.CeltSyms.CeltHdr) : Prop where
  hdr : HdrAgree w P0 cfg fr.hdr dh
  /-- the encoder's calls of the frame extend those of the header -/
  opsExt : ∃ δ, fr.ops = fr.hdr.ops ++ δ
  encFin : fr.fin = w.encAt (P0 ++ fr.ops)
  decFin : (Opus.CeltBands.afterAlloc (cfgD cfg) w.len dh fr.hdr.alloc
      { rem := 0, c := w.decAt (P0 ++ fr.hdr.ops), tr := [], fault := false }).c = w.decAt (P0 ++ fr.ops)
  noFault : (Opus.CeltBands.afterAlloc (cfgD cfg) w.len dh fr.hdr.alloc
      { rem := 0, c := w.decAt (P0 ++ fr.hdr.ops), tr := [], fault := false }).fault = false
  /-- the decoder model's trace of entropy-decoder calls (in call order) is the encoder's call list behind the
      allocation with the encoder's values -/
  trace : ∃ δ, fr.ops = fr.hdr.ops ++ δ ∧ TraceOk δ (Opus.CeltBands.afterAlloc (cfgD cfg) w.len dh fr.hdr.alloc
      { rem := 0, c := w.decAt (P0 ++ fr.hdr.ops), tr := [], fault := false }).tr.reverse
  /-- `OPUS_GET_FINAL_RANGE` agrees -/
  rngFin : (Opus.CeltBands.afterAlloc (cfgD cfg) w.len dh fr.hdr.alloc
      { rem := 0, c := w.decAt (P0 ++ fr.hdr.ops), tr := [], fault := false }).c.rng = fr.fin.rng
  tellFin : tell (Opus.CeltBands.afterAlloc (cfgD cfg) w.len dh fr.hdr.alloc
      { rem := 0, c := w.decAt (P0 ++ fr.hdr.ops), tr := [], fault := false }).c = tell fr.fin
  tellFracFin : tellFrac (Opus.CeltBands.afterAlloc (cfgD cfg) w.len dh fr.hdr.alloc
      { rem := 0, c := w.decAt (P0 ++ fr.hdr.ops), tr := [], fault := false }).c = tellFrac fr.fin

/-- `encFrame` is the header followed by `afterAlloc` on the header's coder, and fails only where the header does. -/
theorem encFrame_ok {cfg : EncCfg} {s0 : St} {fr : Opus.CeltBandsEnc.EncFrame} (h : Opus.CeltBandsEnc.encFrame cfg s0 = .ok fr) :
    ∃ hd, encHeader cfg s0 = .ok hd ∧ fr =
      { hdr := hd,
        ops := (Opus.CeltBandsEnc.afterAlloc cfg hd { rem := 0, s := { e := hd.enc, ops := hd.ops, ds := hd.rest } }).s.ops,
        fin := (Opus.CeltBandsEnc.afterAlloc cfg hd { rem := 0, s := { e := hd.enc, ops := hd.ops, ds := hd.rest } }).s.e } := by
  unfold Opus.CeltBandsEnc.encFrame at h
  cases hh : encHeader cfg s0 with
  | ok hd => rw [hh] at h; exact ⟨hd, rfl, (Res.ok.inj h).symm⟩
  | err e => rw [hh] at h; cases h
  | oob => rw [hh] at h; cases h
  | abort => rw [hh] at h; cases h

/-- the header of a frame, and its calls in the packet: what `header_roundtrip` asks for -/
theorem encFrame_hdr (w : World) (P0 : List Op) {cfg : EncCfg} {s0 : St} {fr : Opus.CeltBandsEnc.EncFrame}
    (h : Opus.CeltBandsEnc.encFrame cfg s0 = .ok fr) (hp : w.IsPrefix (P0 ++ fr.ops)) :
    encHeader cfg s0 = .ok fr.hdr ∧ w.IsPrefix (P0 ++ fr.hdr.ops) := by
  obtain ⟨hd, hh, rfl⟩ := encFrame_ok h
  exact ⟨hh, prefix_of_ext0 (afterAlloc_ext w P0 cfg hd _) hp⟩

/-- **What the rest of the frame adds to the header round trip**: where C03's `celtHeader` has returned the encoder's header
    (`HdrAgree`) and the frame's calls are in the packet, C03's `afterAlloc` from the state the allocation leaves ends in lock-step
    with the encoder.  (`hcfg`: the band data raises no `fault`.) -/
theorem frame_roundtrip (w : World) (P0 : List Op) (cfg : EncCfg) (s0 : St)
    (fr : Opus.CeltBandsEnc.EncFrame) (hrun : Opus.CeltBandsEnc.encFrame cfg s0 = .ok fr) (hp : w.IsPrefix (P0 ++ fr.ops))
    (hcfg : cfg.start < cfg.end_ ∧ cfg.end_ ≤ 21 ∧ (cfg.C = 1 ∨ cfg.C = 2) ∧ cfg.LM ≤ 3) (hlen : w.len = fr.hdr.size)
    (dh : Opus.CeltSyms.CeltHdr) (ag : HdrAgree w P0 cfg fr.hdr dh) : FrameAgree w P0 cfg fr dh := by
  obtain ⟨h, -, rfl⟩ := encFrame_ok hrun
  simp only [] at hp hlen ag ⊢
  have st := afterAlloc_step w P0 cfg h dh w.len hlen ag.isTransient ag.tfRes ag.antiCollapseRsv
    { rem := 0, s := { e := h.enc, ops := h.ops, ds := h.rest } }
    { rem := 0, c := w.decAt (P0 ++ h.ops), tr := [], fault := false }
  have sim := st.2 (A := h.ops) ⟨⟨ag.encAtBands, rfl⟩, rfl, ⟨[], by simp, rfl⟩⟩ hp
  obtain ⟨t1, t2, _, _⟩ := w.sync _ hp
  refine ⟨ag, st.1, sim.here.enc, sim.here.dec, ?_, ?_, ?_, ?_, ?_⟩
  · exact Opus.CeltBandsProofs.afterAlloc_fault (cfgD cfg) w.len dh h.alloc _ (by have := hcfg.2.2.2; show cfg.LM < 4; omega)
      (by show cfg.start ≤ cfg.end_; have := hcfg.1; omega) hcfg.2.1 rfl
  · obtain ⟨B, hB, hT⟩ := sim.tr
    refine ⟨B, hB, ?_⟩
    rw [hT]
    exact traceOk_evs w B (P0 ++ h.ops) (by rw [List.append_assoc, ← hB]; exact hp)
  · rw [sim.here.dec, sim.here.enc]; exact w.sync_rng _ hp
  · rw [sim.here.dec, sim.here.enc]; exact t1
  · rw [sim.here.dec, sim.here.enc]; exact t2

end OpusProofs.CeltHdr
