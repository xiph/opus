import OpusProofs.CeltBandsBudget
import OpusProofs.CeltBandsTri
/-
  C03, stage 2: the walk over the band-data program of OpusModel/CeltBands.lean, done once for any property `P` of the state
  that the entropy-decoder calls keep when their arguments are in range (`Keeps P`, OpusProofs/CeltBandsFault.lean):
  everything behind the allocation keeps `P` (`afterAlloc_keeps`).  The two PDFs of `compute_theta` enter through their
  interval laws (`Pdf.step_interval`, `Tri.dec_interval`).
-/
namespace Opus.CeltBandsProofs
open Opus Opus.RangeCoder Opus.CeltSymsFrozen Opus.CeltBands OpusProofs.Pdf
open Opus.CeltSymsProofs

theorem triFt_range {qn : Nat} (hq : qn ≤ 256) : 1 ≤ CeltBandsEnc.triFt qn ∧ CeltBandsEnc.triFt qn ≤ 32768 := by
  have h129 : qn / 2 + 1 ≤ 129 := by omega
  have := Nat.mul_le_mul h129 h129
  unfold CeltBandsEnc.triFt
  exact ⟨Nat.mul_pos (by omega) (by omega), by omega⟩

section ThetaWalk
variable {P : BSt → Prop} (K : Keeps P)
include K

theorem thetaRead_keeps (stereo : Bool) (N : Nat) (b : Int) (B0 qn : Nat) (s : BSt) (hs : P s)
    (h1 : 1 ≤ qn) (h2 : qn ≤ 256) : P (thetaRead stereo N b B0 qn s).2 := by
  unfold thetaRead
  split
  · show P (if stereo = true ∧ N > 2 then thetaStep s qn else if B0 > 1 ∨ stereo = true then s.uint (qn + 1)
        else thetaTri s qn).2
    split
    · rw [thetaStep_eq]
      exact K.read s _ _ _ _ hs (by omega) (by omega) (step_interval qn)
    · split
      · exact K.uint s (qn + 1) hs (by omega) (by omega)
      · rw [OpusProofs.Tri.thetaTri_eq]
        exact K.read s _ _ _ _ hs (triFt_range h2).1 (triFt_range h2).2 fun fm _ => OpusProofs.Tri.dec_interval qn fm
  · split
    · split
      · exact K.bit s 2 hs (by omega) (by omega)
      · exact hs
    · exact hs

theorem computeTheta_keeps (i intensity : Nat) (stereo : Bool) (N : Nat) (b : Int) (B0 : Nat) (lm : Int) (s : BSt)
    (hs : P s) : P (computeTheta i intensity stereo N b B0 lm s).2 :=
  thetaRead_keeps K stereo N b B0 (thetaQn i intensity stereo N b lm) s hs (thetaQn_spec ..).1 (thetaQn_spec ..).2.1

end ThetaWalk

section BandWalk
variable {P : BSt → Prop} (K : Keeps P)
include K

theorem leaf_keeps (i lm1 : Nat) (b : Int) (s : BSt) (hs : P s) (hl : lm1 < 5) (hi : i < 21)
    (hN : 2 ≤ bandNOf lm1 i) : P (leaf i lm1 (bandNOf lm1 i) b s) := by
  rw [leaf_eq]
  have hs' := K.row _ _ (K.rem s (s.rem - p2b (rowOf lm1 i) (leafQ i lm1 b s)) hs) (rows_ok lm1 hl i hi hN)
  split
  · have hle := leafQ_le i lm1 b s
    have hb := OpusProofs.CwrsB2p.bits2pulsesRow_le (cacheAt (rowOf lm1 i)) b
    have hp := pvqFt_ok lm1 i (leafQ i lm1 b s) hl hi hN (by omega) (by omega)
    exact K.uint _ _ hs' hp.1 hp.2
  · exact hs'

omit K in
theorem splitRun_keeps (f : Int → BSt → BSt) (hf : ∀ b s, P s → P (f b s))
    (mbits sbits : Int) (itheta : Nat) (s : BSt) (hs : P s) : P (splitRun f mbits sbits itheta s) := by
  unfold splitRun
  split
  · exact hf _ _ (hf _ _ hs)
  · exact hf _ _ (hf _ _ hs)

theorem splitGo_keeps (f : Int → BSt → BSt) (hf : ∀ b s, P s → P (f b s))
    (th : Theta) (delta : Int) (s : BSt) (hs : P s) : P (splitGo f th delta s) := by
  unfold splitGo
  exact splitRun_keeps f hf _ _ _ _ (K.rem s _ hs)

theorem quantPartition_keeps (i : Nat) (hi : i < 21) : ∀ (lm1 : Nat) (b : Int) (B : Nat) (s : BSt), lm1 < 5 →
    2 ≤ bandNOf lm1 i → P s → P (quantPartition i lm1 (bandNOf lm1 i) b B s)
  | 0, b, B, s, hl, hN, hs => by
    unfold quantPartition
    exact leaf_keeps K i 0 b s hs hl hi hN
  | lm + 1, b, B, s, hl, hN, hs => by
    unfold quantPartition
    split
    · rename_i hc
      have ht := computeTheta_keeps K i 0 false (bandNOf (lm + 1) i / 2) b B ((lm : Int) - 1) _
        (K.row s _ hs (rows_ok (lm + 1) hl i hi hN))
      apply splitGo_keeps K _ _ _ _ _ ht
      intro b' s' hs''
      rw [bandNOf_half]
      exact quantPartition_keeps i hi lm b' ((B + 1) / 2) s' (by omega) (halves lm (by omega) i hi hc.2) hs''
    · exact leaf_keeps K i (lm + 1) b s hs hl hi hN

theorem n1One_keeps (s : BSt) (hs : P s) : P (n1One s) := by
  unfold n1One
  split
  · exact K.rem _ _ (K.raw s 1 hs)
  · exact hs

theorem quantBand_keeps (i lm1 : Nat) (B : Nat) (tf : Int) (b : Int) (s : BSt) (hi : i < 21) (hl : lm1 < 5)
    (hN : 1 ≤ bandNOf lm1 i) (hs : P s) : P (quantBand i lm1 (bandNOf lm1 i) B tf b s) := by
  unfold quantBand
  split
  · exact n1One_keeps K s hs
  · exact quantPartition_keeps K i hi lm1 b _ s hl (by omega) hs

theorem stereoN2_keeps (i lm1 : Nat) (B : Nat) (tf : Int) (th : Theta) (s : BSt) (hi : i < 21) (hl : lm1 < 5)
    (hN : bandNOf lm1 i = 2) (hs : P s) : P (stereoN2 i lm1 B tf th s) := by
  unfold stereoN2
  split
  · rw [← hN]
    exact quantBand_keeps K i lm1 B tf _ _ hi hl (by omega) (K.raw _ 1 (K.rem s (s.rem - (th.qalloc + 8)) hs))
  · rw [← hN]
    exact quantBand_keeps K i lm1 B tf _ _ hi hl (by omega) (K.rem s _ hs)

theorem quantBandStereo_keeps (i lm1 : Nat) (B : Nat) (tf : Int) (intensity : Nat) (b : Int) (s : BSt) (hi : i < 21)
    (hl : lm1 < 5) (hN : 1 ≤ bandNOf lm1 i) (hs : P s) :
    P (quantBandStereo i lm1 (bandNOf lm1 i) B tf intensity b s) := by
  unfold quantBandStereo
  split
  · exact n1One_keeps K _ (n1One_keeps K s hs)
  · have ht := computeTheta_keeps K i intensity true (bandNOf lm1 i) b B ((lm1 : Int) - 1) s hs
    generalize computeTheta i intensity true (bandNOf lm1 i) b B ((lm1 : Int) - 1) s = y at ht
    obtain ⟨th, s1⟩ := y
    dsimp only at ht ⊢
    split
    · rename_i h2
      exact stereoN2_keeps K i lm1 B tf th s1 hi hl h2 ht
    · exact splitGo_keeps K _ (fun b' s' hs' => quantBand_keeps K i lm1 B tf b' s' hi hl hN hs') _ _ _ ht

theorem bandOne_keeps (p : BandsIn) (i : Nat) (dual : Bool) (b : Int) (s : BSt) (hi : i < 21) (hl : p.LM < 4)
    (hs : P s) : P (bandOne p i dual b s) := by
  have hN : 1 ≤ bandNOf (p.LM + 1) i := by
    rw [← bandNOf_top]
    exact Nat.mul_pos (Nat.two_pow_pos _) (widths i hi)
  unfold bandOne
  rw [bandNOf_top]
  split
  · exact quantBand_keeps K _ _ _ _ _ _ hi (by omega) hN (quantBand_keeps K _ _ _ _ _ _ hi (by omega) hN hs)
  · split
    · exact quantBandStereo_keeps K _ _ _ _ _ _ _ hi (by omega) hN hs
    · exact quantBand_keeps K _ _ _ _ _ _ hi (by omega) hN hs

theorem bandLoop_keeps (p : BandsIn) (hl : p.LM < 4) : ∀ (k i : Nat) (dual : Bool) (balance : Int) (s : BSt),
    i + k ≤ 21 → P s → P (bandLoop p k i dual balance s)
  | 0, _, _, _, s, _, hs => by unfold bandLoop; exact hs
  | k + 1, i, dual, balance, s, hik, hs => by
    unfold bandLoop
    exact bandLoop_keeps p hl k (i + 1) _ _ _ (by omega) (bandOne_keeps K p i _ _ _ (by omega) hl (K.rem s _ hs))

theorem rawN_keeps (bits : Nat) : ∀ (n : Nat) (s : BSt), P s → P (rawN bits n s)
  | 0, s, hs => by unfold rawN; exact hs
  | n + 1, s, hs => by unfold rawN; exact rawN_keeps bits n _ (K.raw s bits hs)

theorem fineLoop_keeps (C : Nat) : ∀ (l : List Int) (s : BSt), P s → P (fineLoop C l s)
  | [], s, hs => by unfold fineLoop; exact hs
  | fq :: r, s, hs => by
    unfold fineLoop
    apply fineLoop_keeps C r
    split
    · exact rawN_keeps K _ _ _ hs
    · exact hs

theorem finalPass_keeps (C : Nat) (prio : Int) : ∀ (l : List (Int × Int)) (bl : Int) (s : BSt), P s →
    P (finalPass C prio l bl s).2
  | [], bl, s, hs => by unfold finalPass; exact hs
  | (fq, pr) :: r, bl, s, hs => by
    unfold finalPass
    split
    · exact hs
    · split
      · exact finalPass_keeps C prio r bl s hs
      · exact finalPass_keeps C prio r _ _ (rawN_keeps K _ _ _ hs)

theorem finalise_keeps (C : Nat) (fp : List (Int × Int)) (bl : Int) (s : BSt) (hs : P s) : P (finalise C fp bl s) := by
  unfold finalise
  exact finalPass_keeps K C 1 fp _ _ (finalPass_keeps K C 0 fp bl s hs)

/-- Everything behind the allocation keeps `P`, whatever the allocation returned. -/
theorem afterAlloc_keeps (cfg : CeltSyms.CeltCfg) (len : Nat) (h : CeltSyms.CeltHdr) (o : CeltAlloc.Out) (s : BSt)
    (hl : cfg.LM < 4) (hse : cfg.start ≤ cfg.end_) (he : cfg.end_ ≤ 21) (hs : P s) : P (afterAlloc cfg len h o s) := by
  unfold afterAlloc
  dsimp only
  apply finalise_keeps K
  have h1 : P (bandLoop (bandsIn cfg len h o) (cfg.end_ - cfg.start) cfg.start (o.dualStereo ≠ 0) o.balance
          (fineLoop cfg.C (o.bands.map (·.ebits)) s)) :=
    bandLoop_keeps K _ hl _ _ _ _ _ (by omega) (fineLoop_keeps K _ _ _ hs)
  split
  · exact K.raw _ 1 h1
  · exact h1

end BandWalk

/-- Everything behind the allocation is fault-free, whatever the allocation returned. -/
theorem afterAlloc_fault (cfg : CeltSyms.CeltCfg) (len : Nat) (h : CeltSyms.CeltHdr) (o : CeltAlloc.Out) (s : BSt)
    (hl : cfg.LM < 4) (hse : cfg.start ≤ cfg.end_) (he : cfg.end_ ≤ 21) (hs : s.fault = false) : (afterAlloc cfg len h o s).fault = false :=
  afterAlloc_keeps keeps_fault cfg len h o s hl hse he hs

end Opus.CeltBandsProofs
