import OpusModel.SilkSymsEnc
import OpusProofs.RangeCoderFlags
import OpusProofs.SilkSymsTables
/-
  C08 × C03 composition: the vocabulary.

  * `cut`: the decoder's scan of `ec_dec_icdf` never looks behind the first zero of the table it is
    given, so C03's convention (`&table[off]` is `table.drop off`, no `take`) and the encoder model's
    convention (the table ends with its first zero, which is what `Op.Legal` wants) read the same symbol.
  * `Reads d ops` / `after d ops` (defined in OpusProofs/RangeCoderRoundTrip.lean): the decoder context `d` decodes every
    operation of `ops` to the value that was encoded, and where it ends up.  `decode_encode_flags_all` (RangeCoderFlags)
    produces `Reads` (through `reads_iff`); the per-function lemmas (`…_spec`) consume it:
    Reads d (encF x) → decodeF d = (x, after d (encF x)).
  * `IcLegal ops`: every operation is an 8-bit `ec_enc_icdf` with a well-formed table and a symbol
    inside it — the legality side of the round trip; the table facts are C03's (`Slice`, SilkSymsTables).
-/
namespace Opus.SilkSymsEncProofs
open Opus Opus.RangeCoder Opus.SilkSyms Opus.SilkSymsEnc Opus.SilkSymsFrozen.Icdf
open Opus.SilkSymsProofs (zeroPos icdfSliceOk Slice)

theorem decIcdfLoop_cut (r d : Nat) : ∀ (xs : List Nat) (t k : Nat),
    decIcdfLoop r d (cut xs) t k = decIcdfLoop r d xs t k
  | [], t, k => by simp [cut]
  | x :: xs, t, k => by
    by_cases hx : x = 0
    · subst hx
      have : mul32 r 0 = 0 := by simp [mul32]
      simp [cut, decIcdfLoop, this]
    · simp only [cut, hx, if_false, decIcdfLoop]
      rw [decIcdfLoop_cut r d xs]

theorem decIcdf_cut (c : Dec) (tbl : List Nat) (ftb : Nat) : decIcdf c (cut tbl) ftb = decIcdf c tbl ftb := by
  unfold decIcdf
  simp only [decIcdfLoop_cut]

theorem decOp_ic (c : Dec) (s : Nat) (tbl : List Nat) : decOp c (ic s tbl) = sym c tbl := by
  simp only [ic, decOp, sym, decIcdf_cut]

theorem reads_ic_cons {d : Dec} {s : Nat} {tbl : List Nat} {rest : List Op} :
    Reads d (ic s tbl :: rest) ↔ (sym d tbl).1 = s ∧ Reads (sym d tbl).2 rest := by
  simp only [Reads, decOp_ic]
  simp only [ic, Op.Matches]

theorem after_ic_cons (d : Dec) (s : Nat) (tbl : List Nat) (rest : List Op) :
    after d (ic s tbl :: rest) = after (sym d tbl).2 rest := by
  simp only [after, decOp_ic]

theorem sym_spec {d : Dec} {s : Nat} {tbl : List Nat} (h : Reads d [ic s tbl]) :
    sym d tbl = (s, after d [ic s tbl]) := by
  rw [reads_ic_cons] at h
  rw [after_ic_cons, after_nil]
  exact Prod.ext h.1 rfl

theorem symLoop_spec (tbl : List Nat) : ∀ (xs : List Nat) (d : Dec), Reads d (encSyms tbl xs) →
    symLoop tbl xs.length d = (xs, after d (encSyms tbl xs)) := by
  intro xs
  induction xs with
  | nil => intro d _; rfl
  | cons x xs ih =>
    intro d h
    simp only [encSyms, List.map_cons] at h ⊢
    rw [reads_cons_append] at h
    simp only [List.length_cons, symLoop]
    rw [sym_spec h.1]
    simp only
    have := ih _ h.2
    simp only [encSyms] at this
    rw [this]
    exact Prod.ext rfl (after_cons _ _ _).symm

/-- Every operation is a legal 8-bit `ec_enc_icdf`. -/
def IcLegal (ops : List Op) : Prop :=
  ∀ op ∈ ops, ∃ s tbl, op = .icdf s tbl 8 ∧ IcdfOk tbl 8 ∧ s < tbl.length

theorem icLegal_nil : IcLegal [] := by intro op h; cases h

theorem icLegal_append {a b : List Op} (ha : IcLegal a) (hb : IcLegal b) : IcLegal (a ++ b) := by
  intro op h
  rcases List.mem_append.mp h with h | h
  · exact ha op h
  · exact hb op h

theorem icLegal_cons {op : Op} {a : List Op} (ho : IcLegal [op]) (ha : IcLegal a) : IcLegal (op :: a) :=
  icLegal_append (a := [op]) ho ha

theorem icLegal_flatten {ls : List (List Op)} (h : ∀ l ∈ ls, IcLegal l) : IcLegal ls.flatten := by
  intro op hop
  rcases List.mem_flatten.mp hop with ⟨l, hl, hm⟩
  exact h l hl op hm

/-- What the decoder's convention (`zeroPos`, `icdfSliceOk` on the un-cut slice) says about the table the
    encoder is handed: `cut` keeps `zeroPos + 1` strictly decreasing entries, the last one `0`. -/
theorem cut_of_sliceOk : ∀ (l : List Nat), icdfSliceOk l = true →
    (cut l).getLast? = some 0 ∧ (cut l).Pairwise (· > ·) ∧ (∀ z ∈ cut l, z ≤ l.headD 0) ∧
    (cut l).length = zeroPos l + 1 ∧ l.headD 0 < 256
  | [], h => by simp [icdfSliceOk] at h
  | [x], h => by
    simp only [icdfSliceOk, beq_iff_eq] at h
    subst h
    simp [cut, zeroPos]
  | x :: y :: t, h => by
    simp only [icdfSliceOk, Bool.and_eq_true, Bool.or_eq_true, decide_eq_true_eq, beq_iff_eq] at h
    obtain ⟨hx, h0 | ⟨hyx, ht⟩⟩ := h
    · subst h0
      simp [cut, zeroPos]
    · have hne : x ≠ 0 := by omega
      obtain ⟨i1, i2, i3, i4, _⟩ := cut_of_sliceOk (y :: t) ht
      have hc : cut (x :: y :: t) = x :: cut (y :: t) := by simp only [cut, hne, if_false]
      have hz : zeroPos (x :: y :: t) = zeroPos (y :: t) + 1 := by simp only [zeroPos, hne, if_false]
      have hnil : cut (y :: t) ≠ [] := by intro e; rw [e] at i4; simp at i4
      rw [hc, hz]
      refine ⟨by rw [List.getLast?_cons_of_ne_nil hnil]; exact i1, ?_, ?_, by rw [List.length_cons, i4], hx⟩
      · exact List.pairwise_cons.mpr ⟨fun z hz => by have := i3 z hz; simp only [List.headD_cons] at this; omega, i2⟩
      · intro z hz
        rcases List.mem_cons.mp hz with rfl | hz
        · exact Nat.le_refl _
        · have := i3 z hz; simp only [List.headD_cons] at this ⊢; omega

theorem icLegal_ic {s n : Nat} {tbl : List Nat} (ht : Slice tbl n) (hs : s < n) : IcLegal [ic s tbl] := by
  intro op h
  rw [List.mem_singleton] at h
  obtain ⟨h1, h2, _, h4, h5⟩ := cut_of_sliceOk tbl ht.1
  have hne : cut tbl ≠ [] := by intro e; rw [e] at h4; simp at h4
  have hh : (cut tbl).headD 0 = tbl.headD 0 := by
    cases tbl with
    | nil => rfl
    | cons x xs => simp only [cut]; split <;> simp_all
  exact ⟨s, cut tbl, h, ⟨hne, h1, h2, by rw [hh]; exact h5⟩, by rw [h4, ht.2]; exact hs⟩

theorem icLegal_replicate {op : Op} (n : Nat) (h : IcLegal [op]) : IcLegal (List.replicate n op) := by
  intro o ho
  rw [List.mem_replicate] at ho
  exact h o (by rw [ho.2]; exact List.mem_singleton.mpr rfl)

theorem icLegal_syms {tbl : List Nat} {n : Nat} (ht : Slice tbl n) (xs : List Nat) (h : ∀ x ∈ xs, x < n) :
    IcLegal (encSyms tbl xs) := by
  intro op hop
  simp only [encSyms, List.mem_map] at hop
  rcases hop with ⟨x, hx, rfl⟩
  exact icLegal_ic ht (h x hx) _ (List.mem_singleton.mpr rfl)

/-- A run of legal `ec_enc_icdf`s followed by the header patch is a legal patched run, whatever the
    encoder state. -/
theorem legalRunP_of_ic (n v : Nat) (hv : v < 2 ^ n) : ∀ (ops : List Op) (c : Enc), IcLegal ops →
    LegalRunP n c (ops ++ [.patchInitial v n]) := by
  intro ops
  induction ops with
  | nil => intro c _; exact ⟨⟨rfl, hv⟩, trivial⟩
  | cons op ops ih =>
    intro c h
    rcases h op (List.mem_cons_self ..) with ⟨s, tbl, rfl, hok, hs⟩
    refine ⟨?_, ih _ (fun o ho => h o (List.mem_cons_of_mem _ ho))⟩
    exact ⟨hok, hs, Nat.le_refl 8⟩

end Opus.SilkSymsEncProofs
