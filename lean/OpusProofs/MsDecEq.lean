import OpusModel.MsDecEq
import OpusProofs.Layout
/-
  OpusProofs.MsDecEq — non-interference of the streams of a multistream decoder: whatever the elementary machine is,
  every API call (decode / loss / FEC / ctl fan-out / direct ctl) changes stream `i` exactly as a stand-alone machine
  performing the requests that reached stream `i` would, and produces the same answers (return values, PCM).
  Also the shape of one run of the stream loop (`LoopShape`: who was called with what, who advanced, what is returned
  when a stream fails midway), which the whole call has too since an early exit returns a negative code (`msEarly_spec`,
  `msDecode_shape`), and of the ctl fan-out loop (`ctlAll_shape`); the thread of each is one clause of its shape.
  The bridge to C10's routing model: a successful `msDecode` is `Opus.Layout.decodeNative` on the answers the streams gave
  (`msDecode_route`), so C10's `routing` theorem applies to its copy-out calls.
-/
namespace Opus.MsDecEq
open Opus Opus.Layout

variable {σ π : Type}

/-- `Thread m s pre post seen`: `post` arises from `pre` (the states of streams `s, s+1, …`) by letting some streams, in
    increasing order and each at most once, perform one request, and `seen` lists exactly these requests with the
    stand-alone machine's answers. -/
inductive Thread (m : Machine σ π) : Nat → List σ → List σ → List (Seen σ π) → Prop
  | nil (s : Nat) : Thread m s [] [] []
  | skip (s : Nat) (st : σ) {pre post : List σ} {seen : List (Seen σ π)} :
      Thread m (s + 1) pre post seen → Thread m s (st :: pre) (st :: post) seen
  | hit (s : Nat) (st : σ) (inp : In) {pre post : List σ} {seen : List (Seen σ π)} :
      Thread m (s + 1) pre post seen →
      Thread m s (st :: pre) ((m.step st inp).st :: post) (⟨s, inp, m.step st inp⟩ :: seen)

theorem Thread.refl (m : Machine σ π) : ∀ (l : List σ) (s : Nat), Thread m s l l []
  | [], s => .nil s
  | st :: rest, s => .skip s st (Thread.refl m rest (s + 1))

theorem Thread.length {m : Machine σ π} {s : Nat} {pre post : List σ} {seen : List (Seen σ π)}
    (h : Thread m s pre post seen) : post.length = pre.length := by
  induction h with
  | nil => rfl
  | skip _ _ _ ih => simp [ih]
  | hit _ _ _ _ ih => simp [ih]

theorem Thread.ge {m : Machine σ π} {s : Nat} {pre post : List σ} {seen : List (Seen σ π)}
    (h : Thread m s pre post seen) : ∀ x ∈ seen, s ≤ x.s := by
  induction h with
  | nil => intro x hx; cases hx
  | skip _ _ _ ih => intro x hx; have := ih x hx; omega
  | hit s _ _ _ ih =>
    intro x hx
    rcases List.mem_cons.mp hx with rfl | hx
    · exact Nat.le_refl _
    · have := ih x hx; omega

theorem filter_none {seen : List (Seen σ π)} {s : Nat} (h : ∀ x ∈ seen, s + 1 ≤ x.s) :
    seen.filter (fun x => x.s = s) = [] := by
  rw [List.filter_eq_nil_iff]
  intro x hx
  have := h x hx
  simp; omega

/-- The content of a thread, stream by stream: stream `s + j` went from `pre[j]` to `post[j]` exactly by replaying, on a
    stand-alone machine, the requests of `seen` addressed to it — and its recorded answers are the replay's answers. -/
theorem Thread.replay {m : Machine σ π} {s : Nat} {pre post : List σ} {seen : List (Seen σ π)}
    (h : Thread m s pre post seen) : ∀ (j : Nat) (st : σ), pre[j]? = some st →
      ∃ st', post[j]? = some st' ∧
        m.replay st ((seen.filter (fun x => x.s = s + j)).map (·.inp)) =
          (st', (seen.filter (fun x => x.s = s + j)).map (·.ans)) := by
  induction h with
  | nil => intro j st hj; simp at hj
  | skip s st0 hth ih =>
    intro j st hj
    cases j with
    | zero =>
      simp only [List.getElem?_cons_zero, Option.some.injEq] at hj
      subst hj
      refine ⟨st0, by simp, ?_⟩
      rw [Nat.add_zero, filter_none hth.ge]; rfl
    | succ j =>
      simp only [List.getElem?_cons_succ] at hj ⊢
      have := ih j st hj
      rw [show s + 1 + j = s + (j + 1) by omega] at this
      exact this
  | hit s st0 inp hth ih =>
    intro j st hj
    cases j with
    | zero =>
      simp only [List.getElem?_cons_zero, Option.some.injEq] at hj
      subst hj
      refine ⟨(m.step st0 inp).st, by simp, ?_⟩
      rw [Nat.add_zero, List.filter_cons_of_pos (by simp), filter_none hth.ge]
      rfl
    | succ j =>
      simp only [List.getElem?_cons_succ] at hj ⊢
      have := ih j st hj
      rw [show s + 1 + j = s + (j + 1) by omega] at this
      rw [List.filter_cons_of_neg (by simp)]
      exact this

/-- The shape of a run of the stream loop over the streams `todo`, the first of which has index `s`. -/
structure LoopShape (m : Machine σ π) (l : ChannelLayout) (fec : Int) (sc doPlc : Bool) (todo : List σ) (s : Nat)
    (o : Out σ π) : Prop where
  /-- the streams called are `s, s+1, …` in order, -/
  idx : o.recs.map (·.s) = List.range' s o.recs.length
  /-- each from the state it had, -/
  pre : o.recs.map (·.pre) = todo.take o.recs.length
  /-- each with the loop's arguments -/
  call : ∀ r ∈ o.recs, r.out = m.run r.pre r.args ∧ r.args.fec = fec ∧ r.args.sc = sc ∧
    r.args.sd = decide (r.s ≠ l.nbStreams - 1) ∧ (doPlc = true → r.args.pkt = none) ∧
    (doPlc = false → 0 < r.len ∧ ∃ b, r.args.pkt = some b)
  /-- the called streams have the state their call left, the others are untouched -/
  sts : o.sts = o.recs.map (·.out.st) ++ todo.drop o.recs.length
  /-- a stream that returns ≤ 0 is the last one called and its value is the call's return value -/
  fail : ∀ r ∈ o.recs, r.out.ret ≤ 0 → o.ret = r.out.ret ∧ o.recs.getLast? = some r
  /-- a positive return value means every stream was called and returned > 0 -/
  ok : 0 < o.ret → o.recs.length = todo.length ∧ ∀ r ∈ o.recs, 0 < r.out.ret
  /-- each stream called performed its one request as a stand-alone machine would -/
  thread : Thread m s todo o.sts (o.recs.map Rec.seen)

/-- A call that stops with a value `≤ 0` before any stream is called has the shape. -/
theorem LoopShape.stop {m : Machine σ π} {l : ChannelLayout} {fec : Int} {sc doPlc : Bool} {todo : List σ} {s : Nat} {e : Int}
    (he : e ≤ 0) : LoopShape m l fec sc doPlc todo s { ret := e, sts := todo, recs := [], copies := [] } :=
  ⟨rfl, rfl, by simp, rfl, by simp, fun h => absurd he (Int.not_le.mpr h), Thread.refl m todo s⟩

/-- What the per-stream call is handed (the loop calls a stream only with a packet or on a loss). -/
theorem streamArgs_call (n : Nat) (doPlc : Bool) (s : Nat) (bs : Bytes) (len fsz fec : Int) (sc : Bool)
    (h : ¬ (¬ doPlc = true ∧ len ≤ 0)) :
    (streamArgs n doPlc s bs len fsz fec sc).fec = fec ∧ (streamArgs n doPlc s bs len fsz fec sc).sc = sc ∧
    (streamArgs n doPlc s bs len fsz fec sc).sd = decide (s ≠ n - 1) ∧
    (doPlc = true → (streamArgs n doPlc s bs len fsz fec sc).pkt = none) ∧
    (doPlc = false → 0 < len ∧ ∃ b, (streamArgs n doPlc s bs len fsz fec sc).pkt = some b) :=
  ⟨rfl, rfl, rfl, fun h' => by simp [streamArgs, h'], fun h' => ⟨by simp [h'] at h; exact h, by simp [streamArgs, h']⟩⟩

theorem msLoop_shape (m : Machine σ π) (l : ChannelLayout) (fec : Int) (sc doPlc : Bool)
    (todo : List σ) (s : Nat) (bs : Bytes) (off len fsz : Int) :
      LoopShape m l fec sc doPlc todo s (msLoop m l fec sc doPlc todo s bs off len fsz) := by
  fun_induction msLoop m l fec sc doPlc todo s bs off len fsz with
  | case1 s => exact ⟨rfl, rfl, by simp, rfl, by simp, by simp, .nil s⟩
  | case2 => exact .stop (by decide)
  | case3 st rest s bs off len fsz h1 a x r h2 =>
    refine ⟨rfl, rfl, ?_, rfl, ?_, fun hpos => absurd hpos (Int.not_lt.mpr h2), .hit s st (.decode _) (Thread.refl m rest (s + 1))⟩
    · intro r' hr; cases List.mem_singleton.mp hr; exact ⟨rfl, streamArgs_call _ _ _ _ _ _ _ _ h1⟩
    · intro r' hr _; cases List.mem_singleton.mp hr; exact ⟨rfl, rfl⟩
  | case4 st rest s bs off len fsz h1 a x r h2 o ih =>
    obtain ⟨i1, i2, i3, i4, i5, i6, i7⟩ : LoopShape m l fec sc doPlc rest (s + 1) o := ih
    refine ⟨?_, ?_, ?_, ?_, ?_, ?_, .hit s st (.decode _) i7⟩
    · simp only [List.map_cons, List.length_cons, List.range'_succ]; rw [i1]
    · simp only [List.map_cons, List.length_cons, List.take_succ_cons]; rw [i2]
    · intro r' hr
      rcases List.mem_cons.mp hr with rfl | hr
      · exact ⟨rfl, streamArgs_call _ _ _ _ _ _ _ _ h1⟩
      · exact i3 r' hr
    · simp only [List.map_cons, List.length_cons, List.drop_succ_cons, List.cons_append]; rw [← i4]
    · intro r' hr hneg
      rcases List.mem_cons.mp hr with rfl | hr
      · exact absurd hneg h2
      · obtain ⟨a, b⟩ := i5 r' hr hneg
        refine ⟨a, ?_⟩
        rw [List.getLast?_cons, b]; rfl
    · intro hpos
      obtain ⟨a, b⟩ := i6 hpos
      refine ⟨by simp only [List.length_cons]; omega, ?_⟩
      intro r' hr
      rcases List.mem_cons.mp hr with rfl | hr
      · exact Int.not_le.mp h2
      · exact b r' hr

/-- The early exits return a negative code; past them the arguments are legal and a packet, if there is one, has been
    validated against the clamped frame size. -/
theorem msEarly_spec (l : ChannelLayout) (Fs : Nat) (bs : Bytes) (len frame_size : Int) :
    match msEarly l Fs bs len frame_size with
    | some e => e < 0
    | none => 0 < frame_size ∧ 0 ≤ len ∧ ¬ (len ≠ 0 ∧ len < 2 * (l.nbStreams : Int) - 1) ∧
        (len ≠ 0 → ∃ n : Nat, msPacketValidate (bs.take len.toNat) l.nbStreams Fs = .ok n ∧ ¬ (n : Int) > clampFs Fs frame_size) := by
  fun_cases msEarly l Fs bs len frame_size
  case case1 => exact (by decide : Err.badArg.code < 0)
  case case2 => exact (by decide : Err.badArg.code < 0)
  case case3 => exact (by decide : Err.invalidPacket.code < 0)
  case case4 h1 h2 h3 h4 => exact ⟨by omega, by omega, h3, fun h => absurd h4 h⟩
  case case5 h1 h2 h3 h4 =>
    fun_cases msCheck l Fs (bs.take len.toNat) (clampFs Fs frame_size)
    case case1 => exact (by decide : Err.bufferTooSmall.code < 0)
    case case2 n hv hk => exact ⟨by omega, by omega, h3, fun _ => ⟨n, hv, hk⟩⟩
    case case3 e _ => exact Err.code_neg e
    case case4 => exact (by decide : INTERNAL_ERROR < 0)

/-- The whole call has the shape of its stream loop: an early exit calls no stream and returns a negative code. -/
theorem msDecode_shape (m : Machine σ π) (l : ChannelLayout) (Fs : Nat) (sts : List σ) (bs : Bytes)
    (len frame_size fec : Int) (sc : Bool) :
    LoopShape m l fec sc (decide (len = 0)) sts 0 (msDecode m l Fs sts bs len frame_size fec sc) := by
  have hS := msEarly_spec l Fs bs len frame_size
  unfold msDecode
  cases hE : msEarly l Fs bs len frame_size with
  | some e => rw [hE] at hS; exact .stop (Int.le_of_lt hS)
  | none => exact msLoop_shape m l fec sc _ sts 0 bs 0 len _

/-- What C10's routing model keeps of a per-stream call. -/
def Rec.toRet (r : Rec σ π) : StreamRet := { ret := r.out.ret, packetOffset := r.out.po }

/-- A successful stream loop is C10's routing loop on the answers the streams gave. -/
theorem msLoop_route (m : Machine σ π) (l : ChannelLayout) (fec : Int) (sc doPlc : Bool)
    (todo : List σ) (s : Nat) (bs : Bytes) (off len fsz : Int) (acc : List Layout.Call) :
      0 < (msLoop m l fec sc doPlc todo s bs off len fsz).ret →
      routeLoop l doPlc ((msLoop m l fec sc doPlc todo s bs off len fsz).recs.map Rec.toRet) s len fsz acc =
        { ret := (msLoop m l fec sc doPlc todo s bs off len fsz).ret,
          calls := acc ++ (msLoop m l fec sc doPlc todo s bs off len fsz).copies } := by
  fun_induction msLoop m l fec sc doPlc todo s bs off len fsz generalizing acc with
  | case1 => simp [routeLoop]
  | case2 => intro h; simp [INTERNAL_ERROR] at h
  | case3 st rest s bs off len fsz h1 a x r h2 => intro h; exact absurd h (Int.not_lt.mpr h2)
  | case4 st rest s bs off len fsz h1 a x r h2 o ih =>
    intro hpos
    have h1' : ¬ ((!doPlc) = true ∧ len ≤ 0) := by simpa using h1
    simp only [List.map_cons, routeLoop, Rec.toRet]
    rw [if_neg h1', if_neg h2, ih _ hpos, List.append_assoc]

/-- **A successful multistream decode is `Opus.Layout.decodeNative` (C10's routing model) fed the answers of the streams**,
    so everything C10 proves about routing holds for its copy-out calls. -/
theorem msDecode_route (m : Machine σ π) (l : ChannelLayout) (Fs : Nat) (sts : List σ) (hsts : sts.length = l.nbStreams)
    (bs : Bytes) (len frame_size fec : Int) (sc : Bool) (hpos : 0 < (msDecode m l Fs sts bs len frame_size fec sc).ret) :
    Layout.decodeNative l Fs frame_size len (msPacketValidate (bs.take len.toNat) l.nbStreams Fs)
      ((msDecode m l Fs sts bs len frame_size fec sc).recs.map Rec.toRet) =
      .ok { ret := (msDecode m l Fs sts bs len frame_size fec sc).ret,
            calls := (msDecode m l Fs sts bs len frame_size fec sc).copies } := by
  have hl := ((msDecode_shape m l Fs sts bs len frame_size fec sc).ok hpos).1
  have hS := msEarly_spec l Fs bs len frame_size
  unfold msDecode at hpos hl ⊢
  cases hE : msEarly l Fs bs len frame_size with
  | some e =>
    rw [hE] at hpos hS; simp only at hpos hS
    omega
  | none =>
    rw [hE] at hpos hS hl
    simp only at hpos hl ⊢
    have hroute := msLoop_route m l fec sc (decide (len = 0)) sts 0 bs 0 len (clampFs Fs frame_size) [] hpos
    have htake : ((msLoop m l fec sc (decide (len = 0)) sts 0 bs 0 len (clampFs Fs frame_size)).recs.map Rec.toRet).take l.nbStreams =
        (msLoop m l fec sc (decide (len = 0)) sts 0 bs 0 len (clampFs Fs frame_size)).recs.map Rec.toRet :=
      List.take_of_length_le (by simp; omega)
    obtain ⟨h1, h2, h3, h4⟩ := hS
    unfold Layout.decodeNative
    rw [if_neg (by omega : ¬ frame_size ≤ 0)]
    dsimp only
    rw [show (if frame_size < ((Fs / 25 * 3 : Nat) : Int) then frame_size else ((Fs / 25 * 3 : Nat) : Int)) = clampFs Fs frame_size from rfl]
    rw [if_neg (by omega : ¬ len < 0)]
    have h3' : ¬ ((!decide (len = 0)) = true ∧ len < 2 * (l.nbStreams : Int) - 1) := by
      intro h; apply h3; refine ⟨?_, h.2⟩; have := h.1; simp at this; exact this
    rw [if_neg h3', htake]
    by_cases h0 : len = 0
    · rw [if_pos (by simp [h0]), hroute]; simp
    · obtain ⟨n, hv, hk⟩ := h4 h0
      rw [if_neg (by simp [h0]), hv]
      simp only
      rw [if_neg hk, hroute]; simp

theorem ctlAll_shape (m : Machine σ π) (request arg : Int) (todo : List σ) (s : Nat) :
    (ctlAll m request arg todo s).2.2.map (·.s) = List.range' s (ctlAll m request arg todo s).2.2.length ∧
    (ctlAll m request arg todo s).2.2.length ≤ todo.length ∧
    (∀ x ∈ (ctlAll m request arg todo s).2.2, x.inp = .ctl request arg) ∧
    ((ctlAll m request arg todo s).1 = 0 → (ctlAll m request arg todo s).2.2.length = todo.length) ∧
    Thread m s todo (ctlAll m request arg todo s).2.1 (ctlAll m request arg todo s).2.2 := by
  fun_induction ctlAll m request arg todo s with
  | case1 s => exact ⟨rfl, Nat.le_refl _, fun _ h => absurd h List.not_mem_nil, fun _ => rfl, .nil s⟩
  | case2 st rest s h =>
    refine ⟨by simp [ctlSeen], by simp, ?_, fun h0 => absurd h0 h, .hit s st (.ctl request arg) (Thread.refl m rest (s + 1))⟩
    intro x hx; cases List.mem_singleton.mp hx; rfl
  | case3 st rest s h ih =>
    obtain ⟨i1, i2, i3, i4, i5⟩ := ih
    refine ⟨?_, by simp only [List.length_cons]; omega, ?_, ?_, .hit s st (.ctl request arg) i5⟩
    · simp only [List.map_cons, List.length_cons, List.range'_succ]; rw [i1]; rfl
    · intro x hx
      rcases List.mem_cons.mp hx with rfl | hx
      · rfl
      · exact i3 x hx
    · intro h0; simp only [List.length_cons]; rw [i4 h0]

/-- The final-range loop is the fan-out loop (handed `arg = 0`) with an accumulator beside it. -/
theorem ctlXor_all (m : Machine σ π) (request : Int) (todo : List σ) (s acc : Nat) :
    ((ctlXor m request todo s acc).1, (ctlXor m request todo s acc).2.2) = ctlAll m request 0 todo s := by
  fun_induction ctlXor m request todo s acc with
  | case1 => rfl
  | case2 st rest s acc h => unfold ctlAll; rw [if_pos h]
  | case3 st rest s acc h o ih => unfold ctlAll; rw [if_neg h, ← ih]

/-- When every stream accepts, the value stored is the xor of the streams' values. -/
theorem ctlXor_value (m : Machine σ π) (request : Int) (todo : List σ) (s acc : Nat) : (ctlXor m request todo s acc).1 = 0 →
    (ctlXor m request todo s acc).2.1 = (todo.map fun st => (m.ctl st request 0).2.2.toNat).foldl (· ^^^ ·) acc := by
  fun_induction ctlXor m request todo s acc with
  | case1 => intro _; rfl
  | case2 st rest s acc h => intro h0; exact absurd h0 h
  | case3 st rest s acc h o ih => exact ih

theorem msCtl_thread (m : Machine σ π) (sts : List σ) (request arg : Int) (nonNull : Bool) :
    Thread m 0 sts (msCtl m sts request arg nonNull).sts (msCtl m sts request arg nonNull).seen := by
  fun_cases msCtl m sts request arg nonNull
  case case1 st rest => exact .hit 0 st (.ctl request 0) (Thread.refl m rest 1)
  case case2 => exact .nil 0
  case case4 =>
    have := (ctlAll_shape m request 0 sts 0).2.2.2.2
    rw [← ctlXor_all m request sts 0 0] at this
    exact this
  case case5 => exact (ctlAll_shape m request _ sts 0).2.2.2.2
  -- a NULL pointer, GET_DECODER_STATE and unknown requests reach no stream
  all_goals exact Thread.refl m sts 0

theorem directCtl_thread (m : Machine σ π) (request arg : Int) : ∀ (todo : List σ) (k s0 : Nat),
    Thread m s0 todo (directCtl m request arg todo k (s0 + k)).1 (directCtl m request arg todo k (s0 + k)).2
  | [], _, s0 => by unfold directCtl; exact .nil s0
  | st :: rest, 0, s0 => by unfold directCtl; exact .hit s0 st (.ctl request arg) (Thread.refl m rest (s0 + 1))
  | st :: rest, k + 1, s0 => by
    unfold directCtl
    have := directCtl_thread m request arg rest k (s0 + 1)
    rw [show s0 + 1 + k = s0 + (k + 1) by omega] at this
    exact .skip s0 st this

theorem apply_thread (m : Machine σ π) (l : ChannelLayout) (Fs : Nat) (sts : List σ) (e : Ev) :
    Thread m 0 sts (apply m l Fs sts e).sts (apply m l Fs sts e).seen := by
  cases e with
  | decode bs len frame_size fec sc => exact (msDecode_shape m l Fs sts bs len frame_size fec sc).thread
  | ctl request arg nonNull => exact msCtl_thread m sts request arg nonNull
  | direct s request arg =>
    have := directCtl_thread m request arg sts s 0
    rw [Nat.zero_add] at this
    exact this

/-- A history is replayed call by call: `replay` over a concatenation. -/
theorem replay_append (m : Machine σ π) : ∀ (a b : List In) (st : σ),
    m.replay st (a ++ b) = ((m.replay (m.replay st a).1 b).1, (m.replay st a).2 ++ (m.replay (m.replay st a).1 b).2)
  | [], b, st => by simp [Machine.replay]
  | i :: a, b, st => by
    simp only [List.cons_append, Machine.replay]
    rw [replay_append m a b]

end Opus.MsDecEq
