import OpusProofs.SilkParamsStab
/-
  OpusProofs.SilkParamsLpc — the stabilisation loop of silk_NLSF2A always ends on a filter that passes the codec's own
  stability test (silk_LPC_inverse_pred_gain ≠ 0) and is int16 (stored through `wrap16`; that no cast truncates is
  `lpcFit_range` / `nlsf2aLoop_range`).  silk_NLSF2A as a whole: `nlsf2a_spec` in OpusProofs/SilkParamsRangeCos.lean.
-/
namespace Opus.SilkParams
open Opus.Gen

/-! ### lengths -/

theorem bwexpLoop_length : ∀ (l : List Int) (c cm1 : Int), (bwexpLoop l c cm1).length = l.length := by
  intro l
  induction l with
  | nil => intro c cm1; simp [bwexpLoop]
  | cons x xs ih =>
    intro c cm1
    cases xs with
    | nil => simp [bwexpLoop]
    | cons y ys => simp only [bwexpLoop, List.length_cons]; rw [ih]; simp

theorem bwexpander32_length (l : List Int) (c : Int) : (bwexpander32 l c).length = l.length :=
  bwexpLoop_length l c _

theorem smulww_zero (x : Int) : smulww 0 x = 0 := by
  unfold smulww; rw [Int.zero_mul]; decide

theorem chirp_zero_step (cm1 : Int) : (0 : Int) + rshiftRound (0 * cm1) 16 = 0 := by
  rw [Int.zero_mul]; decide

theorem bwexpLoop_zero : ∀ (l : List Int) (cm1 : Int), bwexpLoop l 0 cm1 = List.replicate l.length 0 := by
  intro l
  induction l with
  | nil => intro cm1; simp [bwexpLoop]
  | cons x xs ih =>
    intro cm1
    cases xs with
    | nil => simp [bwexpLoop, smulww_zero]
    | cons y ys =>
      simp only [bwexpLoop, smulww_zero, chirp_zero_step, List.length_cons, List.replicate_succ]
      rw [ih cm1]
      simp [List.replicate_succ]

theorem lpcFitLoop_length (sh : Nat) : ∀ (n : Nat) (a : List Int) (idx : Nat),
    (lpcFitLoop sh n a idx).1.length = a.length := by
  intro n
  induction n with
  | zero => intro a idx; simp [lpcFitLoop]
  | succ n ih =>
    intro a idx
    unfold lpcFitLoop
    simp only
    split
    · rw [ih, bwexpander32_length]
    · rfl

theorem map_wrap16_I16 (f : Int → Int) (l : List Int) : AllI16 (l.map fun x => wrap16 (f x)) := by
  intro e he
  obtain ⟨x, _, rfl⟩ := List.mem_map.mp he
  exact wrap16_I16 _

theorem lpcFit_spec (a : List Int) (sh : Nat) :
    (lpcFit a sh).1.length = a.length ∧ (lpcFit a sh).2.length = a.length ∧ AllI16 (lpcFit a sh).1 := by
  unfold lpcFit
  simp only
  split <;> exact ⟨by simp [lpcFitLoop_length], by simp [lpcFitLoop_length], map_wrap16_I16 _ _⟩

theorem requantQ12_spec (a : List Int) : (requantQ12 a).length = a.length ∧ AllI16 (requantQ12 a) :=
  ⟨by simp [requantQ12], map_wrap16_I16 _ _⟩

theorem requantQ12_zero (n : Nat) : requantQ12 (List.replicate n 0) = List.replicate n 0 := by
  unfold requantQ12
  rw [List.map_replicate]
  congr

/-! ### the stabilisation loop of silk_NLSF2A -/

/-- The all-zero filter of order 10 or 16 passes the test (its inverse gain is `2^30`). -/
theorem invGain_zero_filter : lpcInversePredGain (List.replicate 10 0) = 1073741824 ∧
    lpcInversePredGain (List.replicate 16 0) = 1073741824 := by
  constructor <;> decide +kernel

/-- In the last permitted iteration (`i = 15`) the chirp factor `65536 - (2 << 15)` is 0. -/
theorem last_chirp_zero : (65536 : Int) - lshift32 2 15 = 0 := by decide +kernel

theorem nlsf2aLoop_spec : ∀ (n i : Nat) (a32 aQ12 : List Int), n + i = 16 →
    (a32.length = 10 ∨ a32.length = 16) → aQ12.length = a32.length → AllI16 aQ12 →
    (n = 0 → lpcInversePredGain aQ12 ≠ 0) →
    lpcInversePredGain (nlsf2aLoop n i a32 aQ12) ≠ 0 ∧
    (nlsf2aLoop n i a32 aQ12).length = a32.length ∧ AllI16 (nlsf2aLoop n i a32 aQ12) := by
  intro n
  induction n with
  | zero => intro i a32 aQ12 _ _ hl hI h0; exact ⟨h0 rfl, hl, hI⟩
  | succ n ih =>
    intro i a32 aQ12 hni hlen hl hI _
    unfold nlsf2aLoop
    split
    · have hbl := bwexpander32_length a32 (65536 - lshift32 2 i)
      have hrq := requantQ12_spec (bwexpander32 a32 (65536 - lshift32 2 i))
      have := ih (i + 1) (bwexpander32 a32 (65536 - lshift32 2 i))
        (requantQ12 (bwexpander32 a32 (65536 - lshift32 2 i))) (by omega) (by rw [hbl]; exact hlen)
        hrq.1 hrq.2 (by
          intro hn
          have hi : i = 15 := by omega
          subst hi
          rw [last_chirp_zero]
          unfold bwexpander32
          rw [bwexpLoop_zero, requantQ12_zero]
          rcases hlen with h | h <;> rw [h]
          · rw [invGain_zero_filter.1]; decide
          · rw [invGain_zero_filter.2]; decide)
      exact ⟨this.1, by rw [this.2.1, hbl], this.2.2⟩
    · rename_i hne
      exact ⟨hne, hl, hI⟩

end Opus.SilkParams
