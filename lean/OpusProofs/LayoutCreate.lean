import OpusModel.LayoutSpec
import OpusProofs.Layout
/-
  OpusProofs.LayoutCreate — exactly which arguments the multistream decoder / encoder creation
  functions accept (C10 "invalid layouts are rejected at creation").
-/
namespace Opus.Layout
open Opus

/-- The argument ranges `opus_multistream_decoder_init/create` demand. -/
def DecArgsOk (channels streams coupled : Int) : Prop :=
  1 ≤ channels ∧ channels ≤ 255 ∧ 1 ≤ streams ∧ 0 ≤ coupled ∧ coupled ≤ streams ∧ streams + coupled ≤ 255

/-- The encoder additionally needs a channel for every coded channel. -/
def EncArgsOk (channels streams coupled : Int) : Prop :=
  DecArgsOk channels streams coupled ∧ streams + coupled ≤ channels

theorem decArgsBad_false_iff (ch st co : Int) : decArgsBad ch st co = false ↔ DecArgsOk ch st co := by
  unfold decArgsBad DecArgsOk
  simp only [Bool.or_eq_false_iff, decide_eq_false_iff_not]
  omega

theorem encArgsBad_false_iff (ch st co : Int) : encArgsBad ch st co = false ↔ EncArgsOk ch st co := by
  unfold encArgsBad EncArgsOk
  simp only [Bool.or_eq_false_iff, decide_eq_false_iff_not, decArgsBad_false_iff]
  unfold DecArgsOk
  omega

/-- The layout stored by a successful init. -/
def storedLayout (ch st co : Int) (m : List Nat) : ChannelLayout :=
  { nbChannels := ch.toNat, nbStreams := st.toNat, nbCoupled := co.toNat, mapping := m.take ch.toNat }

/-- The shape of the init functions of the multistream API: an argument test, a read of the caller's array, then
    the remaining checks.  Such a function succeeds, with `v`, exactly when all three pass; every refusal is
    `OPUS_BAD_ARG`; the only fault is the short array. -/
theorem guarded_init {α} {bad short good : Prop} [Decidable bad] [Decidable short] [Decidable good] {v : α} {f : Res α}
    (hf : f = if bad then .err .badArg else if short then .oob else if good then .ok v else .err .badArg) :
    (∀ x, f = .ok x ↔ ¬ bad ∧ ¬ short ∧ good ∧ x = v) ∧
    ((∃ x, f = .ok x) ∨ f = .err .badArg ∨ (f = .oob ∧ short)) ∧
    f ≠ .abort ∧ (f = .oob → ¬ bad ∧ short) ∧ (∀ e, f = .err e → e = .badArg) := by
  subst hf
  by_cases hb : bad <;> by_cases hs : short <;> by_cases hg : good <;> simp [hb, hs, hg, eq_comm]

theorem loadLayout_eq (ch st co : Int) (m : List Nat) :
    loadLayout ch st co m = if m.length < ch.toNat then .oob else .ok (storedLayout ch st co m) := rfl

theorem decoderInit_eq (innerOk : Bool) (ch st co : Int) (m : List Nat) :
    decoderInit innerOk ch st co m =
      if decArgsBad ch st co then .err .badArg
      else if m.length < ch.toNat then .oob
      else if validateLayout (storedLayout ch st co m) = true ∧ innerOk = true then .ok (storedLayout ch st co m)
      else .err .badArg := by
  unfold decoderInit
  rw [loadLayout_eq]
  split
  · rfl
  · by_cases hl : m.length < ch.toNat
    · simp only [hl, if_true]
    · simp only [hl, if_false]
      cases validateLayout (storedLayout ch st co m) <;> cases innerOk <;> rfl

/-- `opus_multistream_decoder_init` succeeds exactly on in-range arguments with a valid layout
    (and a sampling rate the stream decoders accept). -/
theorem decoderInit_ok_iff (innerOk : Bool) (ch st co : Int) (m : List Nat) (l : ChannelLayout) :
    decoderInit innerOk ch st co m = .ok l ↔
      DecArgsOk ch st co ∧ ch.toNat ≤ m.length ∧ LayoutValid (storedLayout ch st co m) ∧ innerOk = true ∧
      l = storedLayout ch st co m := by
  rw [(guarded_init (decoderInit_eq ..)).1, Bool.not_eq_true, decArgsBad_false_iff, Nat.not_lt, validateLayout_iff, and_assoc]

/-- Every refusal of `opus_multistream_decoder_init` is `OPUS_BAD_ARG`; the only other outcome is a
    read past a mapping array shorter than `channels` (excluded by the API contract). -/
theorem decoderInit_cases (innerOk : Bool) (ch st co : Int) (m : List Nat) :
    (∃ l, decoderInit innerOk ch st co m = .ok l) ∨ decoderInit innerOk ch st co m = .err .badArg ∨
    (decoderInit innerOk ch st co m = .oob ∧ m.length < ch.toNat) :=
  (guarded_init (decoderInit_eq ..)).2.1

theorem decoderCreate_eq (innerOk : Bool) (ch st co : Int) (m : List Nat) :
    decoderCreate innerOk ch st co m = decoderInit innerOk ch st co m := by
  unfold decoderCreate decoderInit
  by_cases ha : decArgsBad ch st co = true <;> simp [ha]

theorem encoderInitImpl_eq (innerOk : Bool) (ch st co : Int) (m : List Nat) (mt : MappingType) (lfe : Int) :
    encoderInitImpl innerOk ch st co m mt lfe =
      if encArgsBad ch st co then .err .badArg
      else if m.length < ch.toNat then .oob
      else if validateLayout (storedLayout ch st co m) = true ∧ validateEncoderLayout (storedLayout ch st co m) = true ∧
          (mt = .ambisonics → (validateAmbisonics (ch.toNat : Int)).isSome = true) ∧ innerOk = true then
        .ok { layout := storedLayout ch st co m, lfeStream := if mt ≠ .surround then -1 else lfe, mappingType := mt }
      else .err .badArg := by
  unfold encoderInitImpl
  rw [loadLayout_eq]
  split
  · rfl
  · by_cases hl : m.length < ch.toNat
    · simp only [hl, if_true]
    · simp only [hl, if_false]
      have hn : (storedLayout ch st co m).nbChannels = ch.toNat := rfl
      rw [hn]
      cases validateLayout (storedLayout ch st co m)
      · rfl
      cases validateEncoderLayout (storedLayout ch st co m)
      · rfl
      cases innerOk <;> cases validateAmbisonics (ch.toNat : Int) <;> by_cases hmt : mt = .ambisonics <;> simp [hmt]

theorem encoderInitImpl_ok_iff (innerOk : Bool) (ch st co : Int) (m : List Nat) (mt : MappingType) (lfe : Int)
    (e : MSEncoder) :
    encoderInitImpl innerOk ch st co m mt lfe = .ok e ↔
      EncArgsOk ch st co ∧ ch.toNat ≤ m.length ∧ LayoutValid (storedLayout ch st co m) ∧
      EncoderLayoutValid (storedLayout ch st co m) ∧
      (mt = .ambisonics → (validateAmbisonics (ch.toNat : Int)).isSome = true) ∧ innerOk = true ∧
      e = { layout := storedLayout ch st co m, lfeStream := if mt ≠ .surround then -1 else lfe, mappingType := mt } := by
  rw [(guarded_init (encoderInitImpl_eq ..)).1, Bool.not_eq_true, encArgsBad_false_iff, Nat.not_lt, validateLayout_iff,
    validateEncoderLayout_iff]
  simp only [and_assoc]

theorem encoderInitImpl_cases (innerOk : Bool) (ch st co : Int) (m : List Nat) (mt : MappingType) (lfe : Int) :
    (∃ e, encoderInitImpl innerOk ch st co m mt lfe = .ok e) ∨
    encoderInitImpl innerOk ch st co m mt lfe = .err .badArg ∨
    (encoderInitImpl innerOk ch st co m mt lfe = .oob ∧ m.length < ch.toNat) :=
  (guarded_init (encoderInitImpl_eq ..)).2.1

theorem encoderCreate_eq (innerOk : Bool) (ch st co : Int) (m : List Nat) :
    encoderCreate innerOk ch st co m = encoderInit innerOk ch st co m := by
  unfold encoderCreate encoderInit encoderInitImpl
  by_cases ha : encArgsBad ch st co = true <;> simp [ha]
end Opus.Layout
