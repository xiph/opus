import OpusProofs.ExtRepLists
/-
  C16, repeat mechanism, writer side: the index arrays of the generator (`frame_min_idx`, `frame_repeat_idx`) seen as
  per-frame queues; the repeat test, advancing the repeat pointers, and the detection loop, which computes `repCount`
  and moves the repeat pointers of all later frames past the repeated extensions.  That an index has moved over `R` entries
  of a queue is `SegAdv`; every loop here composes it from single indices (`SegAdv.step`, `SegAdv.trans`).
-/
namespace Opus.ExtProofs
open Opus Opus.Ext

/-- `frame_repeat_idx[g]` / `frame_min_idx[g]` is "clean": past the end of frame `g`, or at an extension of frame `g`. -/
def Clean (exts : Array Ext) (mx : List Nat) (i g : Nat) : Prop :=
  ∀ e, exts[i]? = some e → i < mx.getD g 0 → e.frame.toNat = g

/-- The queue of frame `g` as seen through an index array. -/
def remQ (exts : Array Ext) (mx idx : List Nat) (g : Nat) : List Ext := seg exts (idx.getD g 0) (mx.getD g 0) g

/-- The queues of frames `g0, g0+1, …, nbF-1`. -/
def remsFrom (exts : Array Ext) (mx idx : List Nat) (nbF g0 : Nat) : List (List Ext) :=
  (List.range' g0 (nbF - g0)).map (remQ exts mx idx)

theorem remsFrom_succ (exts : Array Ext) (mx idx : List Nat) {nbF g : Nat} (h : g < nbF) :
    remsFrom exts mx idx nbF g = remQ exts mx idx g :: remsFrom exts mx idx nbF (g + 1) := by
  unfold remsFrom
  rw [show nbF - g = (nbF - (g + 1)) + 1 by omega, List.range'_succ, List.map_cons]

theorem remsFrom_end (exts : Array Ext) (mx idx : List Nat) {nbF g : Nat} (h : nbF ≤ g) : remsFrom exts mx idx nbF g = [] := by
  unfold remsFrom; have : nbF - g = 0 := by omega
  simp [this]

theorem remsFrom_length (exts : Array Ext) (mx idx : List Nat) (nbF g : Nat) : (remsFrom exts mx idx nbF g).length = nbF - g := by
  simp [remsFrom]

/-- An index into frame `g` (whose extensions end before `hi`) that stood at `a` stands at `b` after `R` entries of the queue:
    the entries passed are the first `R` of the queue seen from `a`, the queue seen from `b` is the rest. -/
structure SegAdv (exts : Array Ext) (g hi R a b : Nat) : Prop where
  le : a ≤ b
  bound : b ≤ max a hi
  rest : seg exts b hi g = (seg exts a hi g).drop R
  passed : seg exts a b g = (seg exts a hi g).take R

theorem SegAdv.refl (exts : Array Ext) (g hi a : Nat) : SegAdv exts g hi 0 a a :=
  ⟨Nat.le_refl _, Nat.le_max_left _ _, rfl, seg_empty exts g (Nat.le_refl _)⟩

theorem SegAdv.trans {exts : Array Ext} {g hi R1 R2 a b c : Nat} (h1 : SegAdv exts g hi R1 a b) (h2 : SegAdv exts g hi R2 b c) :
    SegAdv exts g hi (R1 + R2) a c := by
  obtain ⟨a2, a3, a4, a5⟩ := h1
  obtain ⟨b2, b3, b4, b5⟩ := h2
  refine ⟨by omega, by omega, by rw [b4, a4, List.drop_drop], ?_⟩
  rw [seg_split exts g a2 b2, a5, b5, a4, List.take_add]

/-- Over one index: an entry of the queue if an extension of frame `g` stands there. -/
theorem SegAdv.step {exts : Array Ext} {g hi j : Nat} {e : Ext} (hlt : j < hi) (he : exts[j]? = some e) :
    SegAdv exts g hi (if e.frame.toNat = g then 1 else 0) j (j + 1) := by
  refine ⟨Nat.le_succ _, by omega, ?_, ?_⟩ <;> rw [seg_step exts j hi g e hlt he]
  · split <;> rfl
  · rw [seg_one exts g he]; split <;> simp

/-- Reading index `j` of the array inside `[j, hi)`: the entry, and how `seg` steps over it. -/
theorem idx_step {exts : Array Ext} {nbF : Nat} (hv : AllIF exts nbF) {j hi : Nat} (g : Nat) (hlt : j < hi) (hhi : hi ≤ exts.size) :
    ∃ x, exts[j]? = some x ∧ rdE exts j = .ok x ∧ (x.frame = (g : Int) ↔ x.frame.toNat = g) ∧
      seg exts j hi g = (if x.frame.toNat = g then [x] else []) ++ seg exts (j + 1) hi g := by
  have hj : j < exts.size := Nat.lt_of_lt_of_le hlt hhi
  have hget : exts[j]? = some exts[j] := Array.getElem?_eq_getElem hj
  exact ⟨exts[j], hget, by simp only [rdE]; rw [hget],
    ⟨fun h => by rw [h, Int.toNat_natCast], fun h => by rw [← h, Int.toNat_of_nonneg (hv j _ hget).fr_lo]⟩,
    seg_step exts j hi g _ hlt hget⟩

theorem clean_head {exts : Array Ext} {mx : List Nat} {i g : Nat} (hc : Clean exts mx i g) (hlt : i < mx.getD g 0)
    (hmx : mx.getD g 0 ≤ exts.size) :
    ∃ e, exts[i]? = some e ∧ e.frame.toNat = g ∧ seg exts i (mx.getD g 0) g = e :: seg exts (i + 1) (mx.getD g 0) g := by
  have hin : i < exts.size := by omega
  have hget : exts[i]? = some exts[i] := by simp [hin]
  refine ⟨exts[i], hget, hc _ hget hlt, ?_⟩
  rw [seg_step exts i _ g _ hlt hget]
  simp [hc _ hget hlt]

/-- When the last index before `hi` holds an extension of frame `g` (as `frame_max_idx[g] - 1` does), the segment of `g`
    up to `hi` is empty only if the range is. -/
theorem seg_eq_nil_iff {exts : Array Ext} {lo hi g : Nat} (hlast : hi = 0 ∨ ∃ e, exts[hi - 1]? = some e ∧ e.frame.toNat = g) :
    seg exts lo hi g = [] ↔ hi ≤ lo := by
  refine ⟨fun h => ?_, seg_empty exts g⟩
  apply Decidable.byContradiction; intro hc
  rcases hlast with h0 | ⟨e, he, hfe⟩
  · omega
  · have := seg_split_at (lo := lo) (j := hi - 1) (hi := hi) (by omega) (by omega) he hfe
    rw [h] at this
    have := congrArg List.length this; simp at this

section
variable {exts : Array Ext} {nbF : Nat} {mx : List Nat}

/-- One turn of the repeat test (extensions.c:502-517) at a frame whose repeat pointer is clean: it looks at the head
    of the queue. -/
theorem canRepeat_step (hv : AllIF exts nbF) (hmxl : mx.length = nbF) (hmx : ∀ g, g < nbF → mx.getD g 0 ≤ exts.size)
    (rep : List Nat) (hrl : rep.length = nbF) (e : Ext) {g : Nat} (hlt : g < nbF) (hc : Clean exts mx (rep.getD g 0) g) :
    canRepeat exts mx rep nbF e g =
      match remQ exts mx rep g with
      | [] => .ok false
      | x :: _ => if matchB x e = true then canRepeat exts mx rep nbF e (g + 1) else .ok false := by
  rw [canRepeat, if_pos hlt, rdN_getD (by rw [hrl]; exact hlt), rdN_getD (by rw [hmxl]; exact hlt)]
  simp only
  unfold remQ
  by_cases hle : mx.getD g 0 ≤ rep.getD g 0
  · rw [if_pos hle, seg_empty exts g hle]
  · obtain ⟨x, hx1, hx2, hx3⟩ := clean_head hc (by omega) (hmx g hlt)
    have hfr : ¬ x.frame ≠ (g : Int) := by have := (hv _ _ hx1).fr_lo; omega
    rw [if_neg hle, hx3]
    simp only [rdE, hx1, hfr, if_false]
    by_cases hm : matchB x e = true
    · obtain ⟨h1, h2⟩ := matchB_iff.mp hm
      rw [if_pos hm, if_neg (not_not_intro h1), if_neg (fun h => h.2 (h2 h.1))]
    · rw [if_neg hm]
      by_cases h1 : x.id = e.id
      · rw [if_neg (not_not_intro h1), if_pos]
        exact Decidable.byContradiction fun h => hm (matchB_iff.mpr ⟨h1, fun hs => Decidable.byContradiction fun hl => h ⟨hs, hl⟩⟩)
      · rw [if_pos h1]

theorem canRepeat_spec (hv : AllIF exts nbF) (hmxl : mx.length = nbF) (hmx : ∀ g, g < nbF → mx.getD g 0 ≤ exts.size)
    (rep : List Nat) (hrl : rep.length = nbF) (e : Ext) (g0 : Nat) :
    (∀ g, g0 ≤ g → g < nbF → Clean exts mx (rep.getD g 0) g) →
    canRepeat exts mx rep nbF e g0 = .ok (headsMatch (remsFrom exts mx rep nbF g0) e) := by
  generalize hk : nbF - g0 = k
  induction k generalizing g0 with
  | zero =>
    intro _
    have hge := Nat.le_of_sub_eq_zero hk
    rw [canRepeat, if_neg (Nat.not_lt.mpr hge), remsFrom_end _ _ _ hge]; rfl
  | succ k ih =>
    intro hc
    have hlt : g0 < nbF := Nat.lt_of_sub_eq_succ hk
    rw [canRepeat_step hv hmxl hmx rep hrl e hlt (hc g0 (Nat.le_refl _) hlt), remsFrom_succ _ _ _ hlt]
    simp only [headsMatch, List.all_cons]
    cases remQ exts mx rep g0 with
    | nil => rfl
    | cons x t =>
      simp only [List.head?_cons]
      by_cases hm : matchB x e = true
      · rw [if_pos hm, ih (g0 + 1) (by rw [Nat.sub_succ, hk, Nat.pred_succ]) (fun g h1 h2 => hc g (by omega) h2), hm, Bool.true_and]; rfl
      · rw [if_neg hm, Bool.not_eq_true] at *; simp [hm]

theorem skipToFrame_spec (hv : AllIF exts nbF) (g j hi : Nat) (hhi : hi ≤ exts.size) :
    ∃ j', skipToFrame exts g j hi = .ok j' ∧ SegAdv exts g hi 0 j j' ∧
      (∀ e, exts[j']? = some e → j' < hi → e.frame.toNat = g) := by
  generalize hm : hi - j = m
  induction m generalizing j with
  | zero =>
    have hge := Nat.le_of_sub_eq_zero hm
    rw [skipToFrame, if_neg (Nat.not_lt.mpr hge)]; exact ⟨j, rfl, .refl .., fun e _ h => by omega⟩
  | succ m ih =>
    have hlt : j < hi := Nat.lt_of_sub_eq_succ hm
    obtain ⟨x, hget, hrd, hfr, -⟩ := idx_step hv g hlt hhi
    rw [skipToFrame, if_pos hlt, hrd]
    simp only
    by_cases hfe : x.frame = (g : Int)
    · rw [if_neg (not_not_intro hfe)]
      exact ⟨j, rfl, .refl .., fun e he _ => by rw [hget] at he; cases he; exact hfr.mp hfe⟩
    · rw [if_pos hfe]
      obtain ⟨j', h1, h2, h3⟩ := ih (j + 1) (by rw [Nat.sub_succ, hm, Nat.pred_succ])
      have := (SegAdv.step (g := g) hlt hget).trans h2
      rw [if_neg (mt hfr.mpr hfe)] at this
      exact ⟨j', h1, this, h3⟩

theorem getElem?_of_getD {l : List Nat} {i v : Nat} (h : i < l.length) (hv : l.getD i 0 = v) : l[i]? = some v := by
  rw [List.getD, List.getElem?_eq_getElem h, Option.getD_some] at hv
  rw [List.getElem?_eq_getElem h, hv]

/-- "Advance the repeat pointers": every queue from `g0` on loses its head. -/
theorem advanceRep_spec (hv : AllIF exts nbF) (hmxl : mx.length = nbF) (hmx : ∀ g, g < nbF → mx.getD g 0 ≤ exts.size)
    (g0 : Nat) (rep : List Nat) : rep.length = nbF →
    (∀ g, g0 ≤ g → g < nbF → Clean exts mx (rep.getD g 0) g ∧ rep.getD g 0 < mx.getD g 0) →
    ∃ rep', advanceRep exts mx nbF g0 rep = .ok rep' ∧ rep'.length = nbF ∧
      (∀ g, g < g0 → rep'.getD g 0 = rep.getD g 0) ∧
      ∀ g, g0 ≤ g → g < nbF →
        Clean exts mx (rep'.getD g 0) g ∧ SegAdv exts g (mx.getD g 0) 1 (rep.getD g 0) (rep'.getD g 0) := by
  generalize hm : nbF - g0 = m
  induction m generalizing g0 rep with
  | zero =>
    intro hrl _
    rw [advanceRep, if_neg (Nat.not_lt.mpr (Nat.le_of_sub_eq_zero hm))]
    exact ⟨rep, rfl, hrl, fun _ _ => rfl, fun g' h1 h2 => by omega⟩
  | succ m ih =>
    intro hrl hc
    have hlt : g0 < nbF := Nat.lt_of_sub_eq_succ hm
    obtain ⟨hcg, hltg⟩ := hc g0 (Nat.le_refl _) hlt
    obtain ⟨e, he1, he2, -⟩ := clean_head hcg hltg (hmx g0 hlt)
    obtain ⟨j, hj1, hj2, hj4⟩ := skipToFrame_spec hv g0 (rep.getD g0 0 + 1) (mx.getD g0 0) (hmx g0 hlt)
    rw [advanceRep, if_pos hlt, rdN_getD (by rw [hrl]; exact hlt), rdN_getD (by rw [hmxl]; exact hlt)]
    simp only
    rw [hj1]
    obtain ⟨rep', h1, h2, h3, h4⟩ := ih (g0 + 1) (rep.set g0 j) (by rw [Nat.sub_succ, hm, Nat.pred_succ]) (by simp [hrl])
      (fun g' hg1 hg2 => by rw [getD_set_ne _ _ _ _ (by omega)]; exact hc g' (by omega) hg2)
    refine ⟨rep', h1, h2, ?_, ?_⟩
    · intro g' hg'; rw [h3 g' (by omega), getD_set_ne _ _ _ _ (by omega)]
    · intro g' hg1 hg2
      by_cases hgg : g' = g0
      · subst hgg
        have hval : rep'.getD g' 0 = j := by rw [h3 g' (by omega), getD_set_eq _ _ _ (by rw [hrl]; exact hlt)]
        have := (SegAdv.step (g := g') hltg he1).trans hj2
        rw [if_pos he2] at this
        rw [hval]
        exact ⟨hj4, this⟩
      · have := h4 g' (by omega) hg2
        rwa [getD_set_ne _ _ _ _ (fun h => hgg h.symm)] at this

end

/-- What the detection loop for frame `f`, started at index `i` in state `s`, returns: `R` extensions
    (`pre`) of frame `f` are repeated. -/
structure DetSpec (exts : Array Ext) (mx : List Nat) (nbF f i hi : Nat) (s det : Det) (R : Nat) (pre : List Ext) : Prop where
  cnt : det.repeatCount = s.repeatCount + R
  len : det.rep.length = nbF
  upper : ∀ g, f < g → g < nbF →
    Clean exts mx (det.rep.getD g 0) g ∧ SegAdv exts g (mx.getD g 0) R (s.rep.getD g 0) (det.rep.getD g 0)
  zero : R = 0 → det.rep = s.rep
  pos : 0 < R → i ≤ det.rep.getD f 0 ∧ det.rep.getD f 0 < hi ∧
    (∃ e, exts[det.rep.getD f 0]? = some e ∧ e.frame.toNat = f) ∧ SegAdv exts f hi R i (det.rep.getD f 0 + 1)
  ll : match lastLongPos pre with
    | none => det.lastLong = s.lastLong
    | some kL => ∃ jL, det.lastLong = some jL ∧ (∃ e, exts[jL]? = some e ∧ e.frame.toNat = nbF - 1) ∧
        s.rep.getD (nbF - 1) 0 ≤ jL ∧ (seg exts (s.rep.getD (nbF - 1) 0) jL (nbF - 1)).length = kL

theorem remQ_mem_remsFrom {exts : Array Ext} {mx idx : List Nat} {nbF g0 g : Nat} (h1 : g0 ≤ g) (h2 : g < nbF) :
    remQ exts mx idx g ∈ remsFrom exts mx idx nbF g0 :=
  List.mem_map.mpr ⟨g, by rw [List.mem_range'_1]; omega, rfl⟩

theorem headsMatch_remsFrom {exts : Array Ext} {mx rep : List Nat} {nbF g0 : Nat} {e : Ext}
    (h : headsMatch (remsFrom exts mx rep nbF g0) e = true) :
    ∀ g, g0 ≤ g → g < nbF → ∃ x, (remQ exts mx rep g).head? = some x ∧ matchB x e = true := by
  intro g h1 h2
  unfold headsMatch at h
  rw [List.all_eq_true] at h
  have := h (remQ exts mx rep g) (remQ_mem_remsFrom h1 h2)
  cases hh : (remQ exts mx rep g).head? with
  | none => rw [hh] at this; cases this
  | some x => rw [hh] at this; exact ⟨x, rfl, this⟩

theorem remsFrom_congr {exts : Array Ext} {mx rep rep' : List Nat} {nbF g0 : Nat} (F : List Ext → List Ext)
    (h : ∀ g, g0 ≤ g → g < nbF → remQ exts mx rep' g = F (remQ exts mx rep g)) :
    remsFrom exts mx rep' nbF g0 = (remsFrom exts mx rep nbF g0).map F := by
  unfold remsFrom
  rw [List.map_map]
  apply List.map_congr_left
  intro g hg
  rw [List.mem_range'_1] at hg
  exact h g hg.1 (by omega)

theorem remsFrom_eq {exts : Array Ext} {mx rep rep' : List Nat} {nbF g0 : Nat}
    (h : ∀ g, g0 ≤ g → g < nbF → rep'.getD g 0 = rep.getD g 0) : remsFrom exts mx rep' nbF g0 = remsFrom exts mx rep nbF g0 := by
  simpa using remsFrom_congr id fun g h1 h2 => by unfold remQ; rw [h g h1 h2]; rfl

section
variable {exts : Array Ext} {nbF : Nat} {mx : List Nat}

/-- After a positive repeat test every later queue has a head, so its repeat pointer stands below `frame_max_idx` (and
    `advanceRep` can move it). -/
theorem detect_heads {f : Nat} {rep : List Nat} {e : Ext} (hc : ∀ g, f < g → g < nbF → Clean exts mx (rep.getD g 0) g)
    (hcr : headsMatch (remsFrom exts mx rep nbF (f + 1)) e = true) :
    ∀ g, f + 1 ≤ g → g < nbF → Clean exts mx (rep.getD g 0) g ∧ rep.getD g 0 < mx.getD g 0 := fun g h1 h2 => by
  refine ⟨hc g (by omega) h2, ?_⟩
  obtain ⟨x, hx, _⟩ := headsMatch_remsFrom hcr g h1 h2
  apply Decidable.byContradiction; intro hcn
  unfold remQ at hx
  rw [seg_empty exts g (by omega)] at hx; cases hx

/-- The detection loop has found nothing (more) to repeat. -/
theorem DetSpec.none (f i hi : Nat) (s : Det) (hrl : s.rep.length = nbF)
    (hc : ∀ g, f < g → g < nbF → Clean exts mx (s.rep.getD g 0) g) : DetSpec exts mx nbF f i hi s s 0 [] :=
  ⟨by omega, hrl, fun g h1 h2 => ⟨hc g h1 h2, .refl ..⟩, fun _ => rfl, fun h => by omega, by simp [lastLongPos]⟩

/-- What a detection begun without `last_long_idx` leaves in it: nothing if no long extension is repeated, else the index IN
    THE LAST FRAME of the last long one (positions counted from the repeat pointers at the start). -/
theorem detSpec_flag {f i hi R : Nat} {s det : Det} {pre : List Ext} (h : DetSpec exts mx nbF f i hi s det R pre)
    (hs : s.lastLong = none) :
    (det.lastLong = none ↔ lastLongPos pre = none) ∧
    ∀ g j' e, g < nbF → s.rep.getD g 0 ≤ j' → exts[j']? = some e → e.frame.toNat = g →
      (det.lastLong = some j' ↔
        (if g + 1 < nbF then none else lastLongPos pre) = some (seg exts (s.rep.getD g 0) j' g).length) := by
  have hll := h.ll
  cases hlp : lastLongPos pre with
  | none => rw [hlp] at hll; simp only at hll; rw [hll, hs]; simp
  | some k =>
    rw [hlp] at hll
    obtain ⟨jL, hj, ⟨eL, heL, hfL⟩, j3, j5⟩ := hll
    rw [hj]
    refine ⟨by simp, fun g j' e h2 h3 he hfe => ?_⟩
    by_cases hgl : g + 1 < nbF
    · rw [if_pos hgl]
      exact ⟨fun h => by
        have : jL = j' := by simpa using h
        subst this; rw [heL] at he; cases he; omega, fun h => by cases h⟩
    · have hg : g = nbF - 1 := by omega
      subst hg
      rw [if_neg hgl, ← j5, Option.some.injEq, Option.some.injEq]
      exact ⟨fun h => by rw [h], seg_pos_inj j3 h3 heL he hfL hfe⟩

theorem detectLoop_spec (hv : AllIF exts nbF) (hmxl : mx.length = nbF) (hmx : ∀ g, g < nbF → mx.getD g 0 ≤ exts.size)
    (f : Nat) (hf : f + 1 < nbF) (i hi : Nat) (s : Det) (hhi : hi ≤ exts.size) :
    s.rep.length = nbF → (∀ g, f < g → g < nbF → Clean exts mx (s.rep.getD g 0) g) →
    ∃ det, detectLoop exts mx nbF f i hi s = .ok det ∧
      DetSpec exts mx nbF f i hi s det (repCount (seg exts i hi f) (remsFrom exts mx s.rep nbF (f + 1)))
        ((seg exts i hi f).take (repCount (seg exts i hi f) (remsFrom exts mx s.rep nbF (f + 1)))) := by
  generalize hm : hi - i = m
  induction m generalizing i s with
  | zero =>
    intro hrl hc
    have hge := Nat.le_of_sub_eq_zero hm
    rw [detectLoop, if_neg (Nat.not_lt.mpr hge), seg_empty exts f hge]
    exact ⟨s, rfl, DetSpec.none f i hi s hrl hc⟩
  | succ m ih =>
    intro hrl hc
    have hlt : i < hi := Nat.lt_of_sub_eq_succ hm
    obtain ⟨e, hget, hrd, hfr, hsegstep⟩ := idx_step hv f hlt hhi
    rw [detectLoop, if_pos hlt, hrd, hsegstep]
    simp only
    by_cases hfe : e.frame = (f : Int)
    · have hfn : e.frame.toNat = f := hfr.mp hfe
      rw [if_pos hfe, if_pos hfn, canRepeat_spec hv hmxl hmx s.rep hrl e (f + 1) (fun g h1 h2 => hc g (by omega) h2)]
      simp only [List.singleton_append, repCount]
      cases hcr : headsMatch (remsFrom exts mx s.rep nbF (f + 1)) e with
      | false =>
        simp only [Bool.false_eq_true, if_false, List.take_zero]
        exact ⟨s, rfl, DetSpec.none f i hi s hrl hc⟩
      | true =>
        simp only [if_true]
        have hheads := headsMatch_remsFrom hcr
        have hne := detect_heads hc hcr
        obtain ⟨rep', hA, hrl', -, hup⟩ := advanceRep_spec hv hmxl hmx (f + 1) s.rep hrl hne
        have hl1 : f + 1 ≤ nbF - 1 := by omega
        have hl2 : nbF - 1 < nbF := by omega
        have hl3 : f < nbF - 1 := hl1
        rw [hA, rdN_getD (by omega : nbF - 1 < s.rep.length)]
        simp only [← apply_ite Res.ok]
        have hset_ne : ∀ g, g ≠ f → (rep'.set f i).getD g 0 = rep'.getD g 0 := fun g hg => getD_set_ne _ _ _ _ (fun h => hg h.symm)
        have hset_eq : (rep'.set f i).getD f 0 = i := getD_set_eq _ _ _ (by omega)
        obtain ⟨det, hdet, hspec⟩ := ih (i + 1)
          ⟨rep'.set f i, s.repeatCount + 1, if 32 ≤ e.id then some (s.rep.getD (nbF - 1) 0) else s.lastLong⟩
          (by rw [Nat.sub_succ, hm, Nat.pred_succ]) (by simp [hrl'])
          (fun g h1 h2 => by rw [hset_ne g (by omega)]; exact (hup g (by omega) h2).1)
        have hrems : remsFrom exts mx (rep'.set f i) nbF (f + 1) = (remsFrom exts mx s.rep nbF (f + 1)).map List.tail :=
          remsFrom_congr List.tail fun g h1 h2 => by
            unfold remQ; rw [hset_ne g (by omega), (hup g h1 h2).2.rest, List.drop_one]
        simp only at hspec
        rw [← hrems, List.take_succ_cons]
        generalize hR' : repCount (seg exts (i + 1) hi f) (remsFrom exts mx (rep'.set f i) nbF (f + 1)) = R' at hspec ⊢
        refine ⟨det, hdet, ⟨?_, hspec.len, ?_, fun h => by omega, ?_, ?_⟩⟩
        · have := hspec.cnt; simp only at this; omega
        · intro g h1 h2
          have h3 := hspec.upper g h1 h2
          simp only [hset_ne g (by omega)] at h3
          exact ⟨h3.1, Nat.add_comm R' 1 ▸ (hup g (by omega) h2).2.trans h3.2⟩
        · intro _
          have hstep := SegAdv.step (g := f) hlt hget
          rw [if_pos hfn] at hstep
          by_cases hR0 : R' = 0
          · have hz := hspec.zero hR0
            simp only at hz
            rw [hz, hset_eq, hR0]
            exact ⟨Nat.le_refl _, hlt, ⟨e, hget, hfn⟩, hstep⟩
          · obtain ⟨p1, p2, p3, p4⟩ := hspec.pos (by omega)
            exact ⟨by omega, p2, p3, Nat.add_comm R' 1 ▸ hstep.trans p4⟩
        · have hll := hspec.ll
          simp only at hll
          simp only [lastLongPos]
          have hlf : nbF - 1 ≠ f := Nat.ne_of_gt hl3
          have hL := (hup (nbF - 1) hl1 hl2).2
          cases hlp : lastLongPos (List.take R' (seg exts (i + 1) hi f)) with
          | some k =>
            rw [hlp] at hll
            obtain ⟨jL, j1, j2, j3, j5⟩ := hll
            rw [hset_ne _ hlf] at j3 j5
            refine ⟨jL, j1, j2, Nat.le_trans hL.le j3, ?_⟩
            rw [seg_split exts (nbF - 1) hL.le j3, hL.passed, List.length_append, j5]
            obtain ⟨x, hx, _⟩ := hheads (nbF - 1) hl1 hl2
            unfold remQ at hx
            cases hq : seg exts (s.rep.getD (nbF - 1) 0) (mx.getD (nbF - 1) 0) (nbF - 1) with
            | nil => rw [hq] at hx; cases hx
            | cons y ys => simp; omega
          | none =>
            rw [hlp] at hll
            simp only at hll ⊢
            rw [hll]
            by_cases h32 : 32 ≤ e.id
            · simp only [h32, if_true]
              obtain ⟨e', he1, he2, _⟩ := clean_head (hc (nbF - 1) hl3 hl2) (hne (nbF - 1) hl1 hl2).2 (hmx (nbF - 1) hl2)
              exact ⟨_, rfl, ⟨e', he1, he2⟩, Nat.le_refl _, by
                rw [seg_empty exts (nbF - 1) (Nat.le_refl _)]; rfl⟩
            · simp only [h32, if_false]
    · have hfn : ¬ e.frame.toNat = f := mt hfr.mpr hfe
      rw [if_neg hfe, if_neg hfn, List.nil_append]
      obtain ⟨det, hdet, hspec⟩ := ih (i + 1) s (by rw [Nat.sub_succ, hm, Nat.pred_succ]) hrl hc
      refine ⟨det, hdet, ⟨hspec.cnt, hspec.len, hspec.upper, hspec.zero, ?_, hspec.ll⟩⟩
      intro hR
      obtain ⟨p1, p2, p3, p4⟩ := hspec.pos hR
      have := (SegAdv.step (g := f) hlt hget).trans p4
      rw [if_neg hfn, Nat.zero_add] at this
      exact ⟨by omega, p2, p3, this⟩

/-- The detection stage of frame `f` (extensions.c:494-555; skipped for the last frame) finds `blockR` of the queues. -/
theorem detect_spec (hv : AllIF exts nbF) (hmxl : mx.length = nbF) (hmx : ∀ g, g < nbF → mx.getD g 0 ≤ exts.size)
    (f : Nat) (i hi : Nat) (rep : List Nat) (hhi : hi ≤ exts.size) (hrl : rep.length = nbF)
    (hc : ∀ g, f < g → g < nbF → Clean exts mx (rep.getD g 0) g) :
    ∃ det, (if f + 1 < nbF then detectLoop exts mx nbF f i hi { rep := rep, repeatCount := 0, lastLong := none }
        else .ok { rep := rep, repeatCount := 0, lastLong := none }) = .ok det ∧
      DetSpec exts mx nbF f i hi { rep := rep, repeatCount := 0, lastLong := none } det
        (blockR (seg exts i hi f) (remsFrom exts mx rep nbF (f + 1)))
        ((seg exts i hi f).take (blockR (seg exts i hi f) (remsFrom exts mx rep nbF (f + 1)))) := by
  unfold blockR
  by_cases hf1 : f + 1 < nbF
  · have hne : remsFrom exts mx rep nbF (f + 1) ≠ [] := fun h => by
      have := remsFrom_length exts mx rep nbF (f + 1); rw [h] at this; simp at this; omega
    rw [if_pos hf1, if_neg hne]
    exact detectLoop_spec hv hmxl hmx f hf1 i hi _ hhi hrl hc
  · rw [if_neg hf1, remsFrom_end exts mx rep (by omega), if_pos rfl]
    exact ⟨_, rfl, DetSpec.none f i hi _ hrl hc⟩

end

end Opus.ExtProofs
