import OpusProofs.SilkCoreParams
import OpusProofs.SilkParamsRangeBridge
/-
  OpusProofs.SilkCoreBridge — the index ranges proved for the symbol layer (C03 stage 1: `IndicesOk`, the conclusion of
  `OpusProps.C03.silkSyms_decode_indices_in_range`) imply the hypothesis `FrameOk` of the synthesis theorems.
-/
namespace Opus.SilkCoreProofs
open Opus Opus.SilkParams Opus.SilkCore Opus.Gen Opus.Frozen

/-- The decoded side information of the symbol layer, as the input record of the synthesis model
    (`psDec->indices` after `silk_decode_indices`, `pulses[]` after `silk_decode_pulses`). -/
def frameOfIndices (condCoding : Int) (ix : Opus.SilkSyms.Indices) (pulses : List Int) : FrameIn :=
  { condCoding := condCoding, gainsIdx := ix.gains.map (fun (g : Nat) => (g : Int)),
    nlsfIdx := (ix.nlsf0 : Int) :: ix.nlsfRes, interp := (ix.interp : Int), signalType := (ix.signalType : Int),
    quantOffsetType := (ix.quantOffsetType : Int), lagIndex := ix.lagIndex, contourIndex := (ix.contourIndex : Int),
    perIndex := (ix.perIndex : Int), ltpIdx := ix.ltp.map (fun (l : Nat) => (l : Int)), ltpScaleIndex := (ix.ltpScale : Int),
    seed := (ix.seed : Int), pulses := pulses }

theorem cbOf_rate (rate : Opus.SilkSyms.Rate) : cbOf rate.kHz = cbOfRate rate ∧ lpcOrder rate.kHz = (cbOfRate rate).order := by
  cases rate <;> exact ⟨rfl, rfl⟩

theorem frameOk_of_indicesOk {rate : Opus.SilkSyms.Rate} {nb cc ps : Nat} {pl : Int} {ix : Opus.SilkSyms.Indices}
    (h : Opus.SilkSymsProofs.IndicesOk rate nb cc ps pl ix) (hnb : nb = 2 ∨ nb = 4) (condCoding : Int) (pulses : List Int)
    (hp : frameLen rate.kHz nb ≤ pulses.length) : FrameOk rate.kHz nb (frameOfIndices condCoding ix pulses) := by
  obtain ⟨hn0, hnl, _, _, hint⟩ := indicesOk_domain h
  obtain ⟨hcb, hord⟩ := cbOf_rate rate
  have hsig := h.sig
  have hq := h.qoff
  have hper := h.per
  refine { sig := ?_, qoff := ?_, gains := ?_, nlsf := ?_, interp := ?_, contour := ?_, per := ?_, ltp := ?_, scale := ?_,
           pulses := hp }
  · dsimp only [frameOfIndices]; omega
  · dsimp only [frameOfIndices]; omega
  · exact Nat.le_of_eq (by show nb = (ix.gains.map _).length; rw [List.length_map, h.gainsLen])
  · refine ⟨ix.nlsf0, ix.nlsfRes, ?_, by rw [hcb]; exact hn0, by rw [hord]; exact hnl⟩
    show ((ix.nlsf0 : Int) :: ix.nlsfRes).take (lpcOrder rate.kHz + 1) = _
    rw [List.take_of_length_le (Nat.le_of_eq (by simp only [List.length_cons]; rw [hnl, hord]))]
  · dsimp only [frameOfIndices]; omega
  · intro hv
    have hv' : ix.signalType = 2 := Int.ofNat.inj hv
    have hc := h.contour hv'
    have hco := contour_domain rate nb hnb
    refine ⟨by show 0 ≤ ((ix.contourIndex : Nat) : Int); omega, ?_⟩
    intro cb hcbk
    unfold contourOk at hco
    rw [hcbk] at hco
    have : (Opus.SilkSyms.pitchContour rate nb).length = cb.2 := by
      simpa using hco
    show ((ix.contourIndex : Nat) : Int) < _
    omega
  · intro _
    dsimp only [frameOfIndices]; omega
  · intro hv
    have hv' : ix.signalType = 2 := Int.ofNat.inj hv
    refine ⟨Nat.le_of_eq (by show nb = (ix.ltp.map _).length; rw [List.length_map, h.ltpLen hv']), ?_⟩
    intro i hi
    have hi' := List.mem_of_mem_take hi
    obtain ⟨l, hl, rfl⟩ := List.mem_map.mp hi'
    have hlt := h.ltp l hl
    show 0 ≤ (l : Int) ∧ (l : Int) < ((SilkCoreTabs.ltpVqSizes.getD ((ix.perIndex : Nat) : Int).toNat 0 : Nat) : Int)
    rw [Int.toNat_natCast]
    have hp3 : ix.perIndex = 0 ∨ ix.perIndex = 1 ∨ ix.perIndex = 2 := by omega
    rcases hp3 with h0 | h0 | h0 <;> rw [h0] at hlt ⊢ <;> simp [SilkCoreTabs.ltpVqSizes] at hlt ⊢ <;> omega
  · intro _
    have := h.ltpScale
    dsimp only [frameOfIndices]; omega

end Opus.SilkCoreProofs
