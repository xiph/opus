import OpusModel.EncSkelRanges
/-
  OpusProofs.EncSkelSizing — the sizing head of `opus_encode_native` in 32 bits, over plain integers: `user_bitrate_to_bitrate`
  (opus_encoder.c:686-695), the CBR block (:1253-1264), the low-budget gate and `max_rate` (:1271-1272, :1338), and the two products
  of `frame_size_select` (:775-782) that are not linear.  The domain is `FrameRates`: 8..48 kHz and a frame of 2.5..120 ms, with the
  quotients by the frame size bounded on it; every legal frame is in it (`frameRate_range`).  The skeleton's range theorems
  (`OpusProofs/EncSkelRanges.lean`, `OpusProps/C05Ranges.lean`) and C11's `int_ranges` (`OpusProofs/CtlRanges.lean`) are instances.
  Core Lean and the model only.
-/
namespace Opus.EncSkel.Proofs
open Opus Opus.EncSkel Opus.EncDecide

theorem mul_nn_le (x y A B : Int) (hx : 0 ≤ x ∧ x ≤ A) (hy : 0 ≤ y ∧ y ≤ B) : 0 ≤ x * y ∧ x * y ≤ A * B :=
  ⟨Int.mul_nonneg hx.1 hy.1, Int.mul_le_mul hx.2 hy.2 hy.1 (Int.le_trans hx.1 hx.2)⟩

theorem legal_fsz (fs fsz : Int) (hl : legalFrame fs fsz = true) :
    400 * fsz = fs ∨ 200 * fsz = fs ∨ 100 * fsz = fs ∨ 50 * fsz = fs ∨ 25 * fsz = fs ∨ 50 * fsz = 3 * fs ∨
    50 * fsz = 4 * fs ∨ 50 * fsz = 5 * fs ∨ 50 * fsz = 6 * fs := by
  unfold legalFrame at hl
  simpa using hl

/-- `user_bitrate_to_bitrate` (:686-695) for a frame size other than 0. -/
theorem userBitrate_eq (s : St) (fsz m : Int) (hne : fsz ≠ 0) :
    userBitrateToBitrate s fsz m =
      if s.userBitrate = OPUS_AUTO then 60 * s.fs / fsz + s.fs * s.channels
      else if s.userBitrate = OPUS_BITRATE_MAX then m * 8 * s.fs / fsz else s.userBitrate := by
  simp [userBitrateToBitrate, hne]

/-- A legal frame lasts between 2.5 and 120 ms. -/
theorem legal_bounds (fs fsz : Int) (hfs : 0 < fs) (hl : legalFrame fs fsz = true) :
    0 < fsz ∧ fsz * 25 ≤ 3 * fs ∧ fs ≤ 400 * fsz := by
  have := legal_fsz fs fsz hl
  omega

/-- The domain of the range proofs: a frame of 2.5..120 ms (`lo`, `hi`) at 8..48 kHz, with the bounds this gives for the
    quotients the sizing code forms (`Fs/frame_size`, `12·Fs/frame_size`, `3·8·Fs/frame_size`, `60·Fs/frame_size`).
    Nothing else about the pair `(Fs, frame_size)` enters them: not which of the five rates, not which of the nine durations. -/
structure FrameRates (fs fsz : Int) : Prop where
  fs1 : 8000 ≤ fs
  fs2 : fs ≤ 48000
  pos : 0 < fsz
  lo : fsz * 25 ≤ 3 * fs
  hi : fs ≤ 400 * fsz
  r1 : 8 ≤ fs / fsz
  r2 : fs / fsz ≤ 400
  f1 : 100 ≤ 12 * fs / fsz
  f2 : 12 * fs / fsz ≤ 4800
  d1 : 0 < 3 * 8 * fs / fsz
  d2 : 3 * 8 * fs / fsz ≤ 9600
  q1 : 500 ≤ 60 * fs / fsz
  q2 : 60 * fs / fsz ≤ 24000

theorem FrameRates.of_bounds {fs fsz : Int} (hfs : 8000 ≤ fs ∧ fs ≤ 48000) (hf : 0 < fsz) (h25 : fsz * 25 ≤ 3 * fs)
    (h400 : fs ≤ 400 * fsz) : FrameRates fs fsz :=
  ⟨hfs.1, hfs.2, hf, h25, h400, Int.le_ediv_of_mul_le hf (by omega), Int.ediv_le_of_le_mul hf (by omega),
    Int.le_ediv_of_mul_le hf (by omega), Int.ediv_le_of_le_mul hf (by omega),
    Int.le_ediv_of_mul_le hf (show 1 * fsz ≤ 3 * 8 * fs by omega), Int.ediv_le_of_le_mul hf (by omega),
    Int.le_ediv_of_mul_le hf (by omega), Int.ediv_le_of_le_mul hf (by omega)⟩

theorem frameRate_range (fs fsz : Int) (hfs : 8000 ≤ fs ∧ fs ≤ 48000) (hl : legalFrame fs fsz = true) : FrameRates fs fsz :=
  let ⟨hf, h25, h400⟩ := legal_bounds fs fsz (by omega) hl
  .of_bounds hfs hf h25 h400

/-- opus_encoder.c:686-695: every intermediate fits 32 bits, and the returned bit-rate is between 1 and 4 083 200 b/s
    (`OPUS_BITRATE_MAX` with 1276 bytes per 2.5 ms) — for 1-2 channels and a user bit-rate AUTO / MAX / 500..750000·channels. -/
theorem ubTrace_fits (s : St) (fsz m : Int) (R : FrameRates s.fs fsz) (hch : s.channels = 1 ∨ s.channels = 2)
    (hub : s.userBitrate = OPUS_AUTO ∨ s.userBitrate = OPUS_BITRATE_MAX ∨
       (500 ≤ s.userBitrate ∧ s.userBitrate ≤ 750000 * s.channels))
    (hm : 1 ≤ m ∧ m ≤ 1276) :
    (∀ x ∈ ubTrace s fsz m, Fits32 x) ∧
    1 ≤ userBitrateToBitrate s fsz m ∧ userBitrateToBitrate s fsz m ≤ 4083200 := by
  have hfs1 := R.fs1; have hfs2 := R.fs2; have hpos := R.pos; have h25 := R.lo; have h400 := R.hi
  have a0 := R.q1; have a1 := R.q2
  have hne : fsz ≠ 0 := by omega
  have hub' := userBitrate_eq s fsz m hne
  have hc : 8000 ≤ s.fs * s.channels ∧ s.fs * s.channels ≤ 96000 := by rcases hch with h | h <;> rw [h] <;> omega
  -- MAX: `m·8·Fs ≤ 10208·Fs ≤ 10208·400·frame_size`
  have hlo : 8 * s.fs ≤ m * 8 * s.fs := Int.mul_le_mul_of_nonneg_right (by omega) (by omega)
  have hhi : m * 8 * s.fs ≤ 10208 * s.fs := Int.mul_le_mul_of_nonneg_right (by omega) (by omega)
  have m0 : 1 ≤ m * 8 * s.fs / fsz := Int.le_ediv_of_mul_le hpos (by omega)
  have m1 : m * 8 * s.fs / fsz ≤ 4083200 := Int.ediv_le_of_le_mul hpos (by omega)
  have hret : 1 ≤ userBitrateToBitrate s fsz m ∧ userBitrateToBitrate s fsz m ≤ 4083200 := by
    rw [hub']; split
    · omega
    · split <;> omega
  refine ⟨?_, hret⟩
  simp only [ubTrace, hne, if_false, List.forall_mem_cons, List.not_mem_nil, false_imp_iff, implies_true, and_true, Fits32]
  omega

/-- opus_encoder.c:1258-1264: every intermediate fits 32 bits; `0 ≤ cbr_bytes ≤ max_data_bytes`
    and the CBR bit-rate is at most 4 083 200 b/s. -/
theorem cbrTrace_fits (fs fsz b m : Int) (R : FrameRates fs fsz) (hb : 0 ≤ b ∧ b ≤ 4083200) (hm : 1 ≤ m ∧ m ≤ 1276) :
    (∀ x ∈ cbrTrace fs fsz b m, Fits32 x) ∧ 0 ≤ cbrBytes fs fsz b m ∧ cbrBytes fs fsz b m ≤ m ∧
    0 ≤ cbrBytes fs fsz b m * (12 * fs / fsz) * 8 / 12 ∧ cbrBytes fs fsz b m * (12 * fs / fsz) * 8 / 12 ≤ 4083200 := by
  have hfs2 := R.fs2; have h25 := R.lo; have h400 := R.hi
  have r1 := R.r1; have r2 := R.r2; have f1 := R.f1; have f2 := R.f2
  have hq0 : 0 ≤ (12 * b / 8 + 12 * fs / fsz / 2) / (12 * fs / fsz) := Int.ediv_nonneg (by omega) (by omega)
  have hq1 : (12 * b / 8 + 12 * fs / fsz / 2) / (12 * fs / fsz) ≤ 12 * b / 8 + 12 * fs / fsz / 2 :=
    Int.ediv_le_self _ (by omega)
  have hc : cbrBytes fs fsz b m = min ((12 * b / 8 + 12 * fs / fsz / 2) / (12 * fs / fsz)) m := rfl
  have hc0 : 0 ≤ cbrBytes fs fsz b m := by rw [hc]; omega
  have hc1 : cbrBytes fs fsz b m ≤ m := by rw [hc]; omega
  have hp := mul_nn_le (cbrBytes fs fsz b m) (12 * fs / fsz) 1276 4800 ⟨hc0, by omega⟩ ⟨by omega, f2⟩
  refine ⟨?_, hc0, hc1, by omega, by omega⟩
  simp only [cbrTrace, List.forall_mem_cons, List.not_mem_nil, false_imp_iff, implies_true, and_true, Fits32]
  omega

/-- The low-budget gate and `max_rate` (opus_encoder.c:1271-1272, :1338) for a budget of 1..1276 bytes. -/
theorem gateTrace_fits (fs fsz : Int) (b : SizeBudget) (R : FrameRates fs fsz)
    (hm : 1 ≤ b.maxDataBytes ∧ b.maxDataBytes ≤ 1276) : ∀ x ∈ gateTrace fs fsz b, Fits32 x := by
  have r1 := R.r1
  have r2 := R.r2
  have hp := mul_nn_le b.maxDataBytes (fs / fsz) 1276 400 ⟨by omega, hm.2⟩ ⟨by omega, r2⟩
  -- `omega` takes a product of two variables as an atom: the trace has it in the other order
  have hp' : fs / fsz * b.maxDataBytes = b.maxDataBytes * (fs / fsz) := Int.mul_comm _ _
  simp only [gateTrace, List.forall_mem_cons, List.not_mem_nil, false_imp_iff, implies_true, and_true, Fits32]
  omega

/-- `new_size` of a fixed OPUS_FRAMESIZE_x (opus_encoder.c:775-782) at any rate of 8..48 kHz: the two products that are not
    linear, `(Fs/400)·2^k` with `k ≤ 4` and `k·Fs` with `k = 3..6`. -/
theorem fixedSize_range {vd fs : Int} (hfs : 8000 ≤ fs ∧ fs ≤ 48000) (hvd : 5001 ≤ vd ∧ vd ≤ 5009) :
    (vd ≤ 5005 → 0 ≤ fs / 400 * 2 ^ (vd - 5001).toNat ∧ fs / 400 * 2 ^ (vd - 5001).toNat ≤ 1920) ∧
    (5006 ≤ vd → 0 ≤ (vd - 5001 - 2) * fs ∧ (vd - 5001 - 2) * fs ≤ 288000) := by
  refine ⟨fun h2 => ?_, fun h1 => ?_⟩
  · have hk : (vd - 5001).toNat ≤ 4 := by omega
    generalize (vd - 5001).toNat = k at hk ⊢
    have hp : (1 : Int) ≤ 2 ^ k ∧ (2 : Int) ^ k ≤ 16 := by
      rcases (by omega : k = 0 ∨ k = 1 ∨ k = 2 ∨ k = 3 ∨ k = 4) with rfl | rfl | rfl | rfl | rfl <;> decide
    have := mul_nn_le (fs / 400) (2 ^ k) 120 16 ⟨by omega, by omega⟩ ⟨by omega, hp.2⟩
    omega
  · have := mul_nn_le (vd - 5001 - 2) fs 6 48000 ⟨by omega, by omega⟩ ⟨by omega, hfs.2⟩
    omega

end Opus.EncSkel.Proofs
