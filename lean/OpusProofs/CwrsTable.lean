import OpusProofs.CwrsU
/-
  OpusProofs.CwrsTable — the regenerated CELT_PVQ_U_DATA / CELT_PVQ_U_ROW against U(N,K).
-/
namespace OpusProofs.CwrsTable
open Opus Opus.Cwrs OpusProofs.CwrsU
open Opus.Gen.CeltTables

/-- number of rows of CELT_PVQ_U_ROW -/
def nRows : Nat := pvqURowOff.length

def offL (r : Nat) : Nat := pvqURowOff.getD r 0

/-- Row `r` of the data as a list: the words `CELT_PVQ_U_ROW[r][r .. ]` up to the start of the next row. -/
def rowSlice (r : Nat) : List Nat := (pvqUData.drop (offL r + r)).take (rowEnd r - (offL r + r))

/-- The same words computed from the recurrence: `U r c` for `c = r .. rowEnd r - offL r - 1`. -/
def rowWant (r : Nat) : List Nat := (rowList (rowEnd r - offL r) r).drop r

/-- Shape of the table: the arrays used by `Utab` are the regenerated lists, rows are non-empty, inside the
    data array, and stored back to back starting at word 0 (so every one of the `pvqUSize` words belongs to
    exactly one row). -/
def shapeOk : Bool :=
  decide (rowOffArr.size = nRows) && decide (pvqUArr.size = pvqUSize) && decide (pvqUData.length = pvqUSize) &&
  decide (offL 0 = 0) && decide (rowEnd (nRows - 1) = pvqUSize) &&
  (List.range nRows).all (fun r =>
    decide (rowOffArr[r]? = some (offL r)) && decide (rowEndArr.getD r 0 = rowEnd r) &&
    decide (offL r + r < rowEnd r) && decide (rowEnd r ≤ pvqUSize))

def rowsOk : Bool :=
  (List.range nRows).all (fun r => rowSlice r == rowWant r && (rowSlice r).all (fun v => decide (v < 4294967296)))

theorem shapeOk_true : shapeOk = true := by decide +kernel
theorem rowsOk_true : rowsOk = true := by decide +kernel

/-- total number of table words checked against the recurrence -/
theorem words_checked : ((List.range nRows).map (fun r => (rowSlice r).length)).sum = pvqUSize := by decide +kernel


theorem shape_row {r : Nat} (hr : r < nRows) :
    rowOffArr[r]? = some (offL r) ∧ rowEndArr.getD r 0 = rowEnd r ∧ offL r + r < rowEnd r ∧ rowEnd r ≤ pvqUSize := by
  have h := shapeOk_true
  simp only [shapeOk, Bool.and_eq_true, List.all_eq_true, List.mem_range, decide_eq_true_eq] at h
  have := h.2 r hr
  exact ⟨this.1.1.1, this.1.1.2, this.1.2, this.2⟩

theorem rows_row {r : Nat} (hr : r < nRows) :
    rowSlice r = rowWant r ∧ ∀ v ∈ rowSlice r, v < 4294967296 := by
  have h := rowsOk_true
  simp only [rowsOk, Bool.and_eq_true, List.all_eq_true, List.mem_range, decide_eq_true_eq, beq_iff_eq] at h
  exact h r hr

/-- In-table predicate: row `r` exists and column `c` lies inside it. -/
def inTab (r c : Nat) : Prop := r < nRows ∧ r ≤ c ∧ offL r + c < rowEnd r

instance (r c : Nat) : Decidable (inTab r c) := by unfold inTab; infer_instance

theorem rowSlice_get {r c : Nat} (h : inTab r c) : (rowSlice r)[c - r]? = some (U r c) := by
  obtain ⟨hr, hrc, hc⟩ := h
  obtain ⟨hs, _⟩ := rows_row hr
  rw [hs]
  simp only [rowWant, rowList_spec, List.getElem?_drop, List.getElem?_map]
  have e : r + (c - r) = c := by omega
  rw [e]
  have : c < rowEnd r - offL r := by omega
  simp [this]

theorem data_eq_U {r c : Nat} (h : inTab r c) :
    pvqUData[offL r + c]? = some (U r c) ∧ U r c < 4294967296 := by
  have hw := rowSlice_get h
  obtain ⟨hr, hrc, hc⟩ := h
  obtain ⟨_, hlt⟩ := rows_row hr
  have hsl : (rowSlice r)[c - r]? = pvqUData[offL r + c]? := by
    simp only [rowSlice, List.getElem?_take, List.getElem?_drop]
    have e : offL r + r + (c - r) = offL r + c := by omega
    have : c - r < rowEnd r - (offL r + r) := by omega
    simp [this, e]
  rw [← hsl, hw]
  exact ⟨rfl, hlt _ (List.mem_of_getElem? hw)⟩

theorem shape_sizes : rowOffArr.size = nRows ∧ pvqUArr.size = pvqUSize := by
  have h := shapeOk_true
  simp only [shapeOk, Bool.and_eq_true, decide_eq_true_eq] at h
  exact ⟨h.1.1.1.1.1, h.1.1.1.1.2⟩

/-- `Utab` on an existing row, with the lists in place of the arrays made from them -/
theorem Utab_row {r : Nat} (hr : r < nRows) (c : Nat) :
    Utab r c = if r ≤ c ∧ offL r + c < rowEnd r then .ok (pvqUData.getD (offL r + c) 0) else .oob := by
  obtain ⟨ho, he, _, hle⟩ := shape_row hr
  have hr' : r < rowOffArr.size := by rw [shape_sizes.1]; exact hr
  rw [Array.getElem?_eq_getElem hr'] at ho
  simp only [Utab, hr', ↓reduceDIte, Option.some.inj ho, he]
  split
  · have h2 : offL r + c < pvqUData.length := by
      have := shape_sizes.2
      simp only [pvqUArr, List.size_toArray] at this
      omega
    simp only [pvqUArr, List.size_toArray, h2, ↓reduceDIte, List.getElem_toArray, List.getD_eq_getElem?_getD,
      List.getElem?_eq_getElem h2, Option.getD_some]
  · rfl

/-- Characterisation of the regenerated table: inside a row the word is `U r c` (and fits 32 bits), outside
    every row the access is `.oob`. -/
theorem Utab_spec (r c : Nat) :
    (inTab r c → Utab r c = .ok (U r c) ∧ U r c < 4294967296) ∧ (¬ inTab r c → Utab r c = .oob) := by
  constructor
  · intro h
    obtain ⟨hd, hlt⟩ := data_eq_U h
    rw [Utab_row h.1, if_pos h.2, List.getD_eq_getElem?_getD, hd]
    exact ⟨rfl, hlt⟩
  · intro h
    by_cases hr : r < nRows
    · rw [Utab_row hr, if_neg (fun hh => h ⟨hr, hh⟩)]
    · unfold Utab
      rw [dif_neg (by rw [shape_sizes.1]; exact hr)]

theorem Utab_ok {r c v : Nat} (h : Utab r c = .ok v) : inTab r c ∧ v = U r c ∧ v < 4294967296 := by
  by_cases hin : inTab r c
  · obtain ⟨h1, h2⟩ := (Utab_spec r c).1 hin
    rw [h1] at h
    have : U r c = v := by injection h
    exact ⟨hin, this.symm, this ▸ h2⟩
  · rw [(Utab_spec r c).2 hin] at h; cases h

end OpusProofs.CwrsTable
