import OpusModel.Matrix
/-
  OpusProofs.MatrixInt16 — the int16 range in the mapping matrices: the cells of the regenerated tables lie in it,
  and the int16 output path `multiply_channel_out_short` stores nothing outside it (C10 `matrix_short_saturates`).
-/
namespace Opus.Matrix
open Opus

def InInt16 (x : Int) : Prop := -32768 ≤ x ∧ x ≤ 32767

theorem InInt16.natAbs_le {x : Int} (h : InInt16 x) : x.natAbs ≤ 32768 := by
  unfold InInt16 at h; omega

theorem toS16_range (u : Nat) : InInt16 (toS16 u) := by
  unfold toS16 InInt16; split <;> omega

/-- Cells of the regenerated tables are int16 values. -/
theorem ofGen_cells (g : Nat × Nat × Int × List Nat) : ∀ v ∈ (ofGen g).data, InInt16 v := by
  intro v hv
  obtain ⟨u, _, rfl⟩ := List.mem_map.1 hv
  exact toS16_range u

theorem sat16_range (x : Int) : InInt16 (sat16 x) := by
  unfold sat16 InInt16
  split
  · omega
  · split <;> omega

theorem outShortRows_range (m : MappingMatrix) (inputRow outputRows i : Nat) (sample : Int) :
    ∀ (k : Nat) (out out' : List Int), (∀ x ∈ out, InInt16 x) →
      outShortRows m inputRow outputRows i sample k out = .ok out' → (∀ x ∈ out', InInt16 x) ∧ out'.length = out.length
  | 0, out, out', h, he => by
    simp only [outShortRows, Res.ok.injEq] at he; subst he; exact ⟨h, rfl⟩
  | k + 1, out, out', h, he => by
    unfold outShortRows at he
    dsimp only at he
    split at he
    · rename_i c o _ _
      have := outShortRows_range m inputRow outputRows i sample k _ out' (by
        intro x hx
        rcases List.mem_or_eq_of_mem_set hx with h' | h'
        · exact h x h'
        · rw [h']; exact sat16_range _) he
      refine ⟨this.1, ?_⟩
      rw [this.2]; simp [setAt]
    all_goals cases he

theorem outShortLoop_range (m : MappingMatrix) (input : List (Int × Int)) (inputRow inputRows outputRows : Nat) :
    ∀ (k i : Nat) (out out' : List Int), (∀ x ∈ out, InInt16 x) →
      outShortLoop m input inputRow inputRows outputRows k i out = .ok out' →
      (∀ x ∈ out', InInt16 x) ∧ out'.length = out.length
  | 0, _, out, out', h, he => by
    simp only [outShortLoop, Res.ok.injEq] at he; subst he; exact ⟨h, rfl⟩
  | k + 1, i, out, out', h, he => by
    unfold outShortLoop at he
    split at he
    · cases he
    · split at he
      · rename_i out1 hrows
        obtain ⟨h1, l1⟩ := outShortRows_range m inputRow outputRows i _ outputRows out out1 h hrows
        obtain ⟨h2, l2⟩ := outShortLoop_range m input inputRow inputRows outputRows k (i + 1) out1 out' h1 he
        exact ⟨h2, by rw [l2, l1]⟩
      all_goals cases he

end Opus.Matrix
