import OpusProofs.Ctl
/-
  OpusProofs.CtlObjects — the decoder ctl state machine, the create/init argument validation of the
  encoder, decoder and multistream decoder, and the documented legal arguments of a multistream
  encoder (its create: OpusProofs/CtlMs.lean) (helper lemmas of property C11).
-/
namespace Opus.Ctl
open Opus Opus.EncDecide

/-- Documented legal values of the decoder setters (opus_defines.h: OPUS_SET_GAIN is Q8 dB in
    [-32768, 32767]; complexity 0..10; phase inversion 0/1). -/
def DecLegal : DecSetK → Int → Prop
  | .complexity, v => 0 ≤ v ∧ v ≤ 10
  | .gain, v => -32768 ≤ v ∧ v ≤ 32767
  | .phaseInversionDisabled, v => 0 ≤ v ∧ v ≤ 1

def decReadGetter : DecSetK → DecGetK
  | .complexity => .complexity | .gain => .gain | .phaseInversionDisabled => .phaseInversionDisabled

theorem decSet_isSome_iff (s : DecSt) (k : DecSetK) (v : Int) : (decSet s k v).isSome ↔ DecLegal k v := by
  cases k <;> simp only [decSet, DecLegal, isSome_ite_none] <;> omega

theorem decCtl_set_get (s : DecSt) (k : DecSetK) (v : Int) (h : DecLegal k v) :
    ∃ s', decCtl s (.set k v) = (s', .ok) ∧ decCtl s' (.get (decReadGetter k) true) = (s', .okv v) := by
  cases k <;> simp only [DecLegal] at h <;> simp only [decCtl, decSet]
  · rw [if_neg (by omega)]; exact ⟨_, rfl, rfl⟩
  · rw [if_neg (by omega)]; exact ⟨_, rfl, rfl⟩
  · rw [if_neg (by omega)]; exact ⟨_, rfl, rfl⟩

theorem decCtl_set_reject (s : DecSt) (k : DecSetK) (v : Int) (h : ¬ DecLegal k v) :
    decCtl s (.set k v) = (s, .err .badArg) := by
  have hn : decSet s k v = none := by
    cases hd : decSet s k v with
    | none => rfl
    | some x => exact absurd ((decSet_isSome_iff s k v).mp (by rw [hd]; rfl)) h
  simp only [decCtl, hn]

theorem decCtl_error_unchanged (s : DecSt) (r : DecReq) (h : (decCtl s r).2.code ≠ 0) :
    (decCtl s r).1 = s ∧
    (((decCtl s r).2 = .err .badArg ∧ ((∃ k v, r = .set k v ∧ ¬ DecLegal k v) ∨ ∃ k, r = .get k false)) ∨
     ((decCtl s r).2 = .err .unimplemented ∧ ∃ id, r = .unknown id)) := by
  cases r with
  | set k v =>
    by_cases hl : DecLegal k v
    · obtain ⟨s', h2, _⟩ := decCtl_set_get s k v hl
      rw [h2] at h; simp [Ret.ok] at h
    · rw [decCtl_set_reject s k v hl]
      exact ⟨rfl, Or.inl ⟨rfl, Or.inl ⟨k, v, rfl, hl⟩⟩⟩
  | get k nn =>
    cases nn
    · exact ⟨rfl, Or.inl ⟨rfl, Or.inr ⟨k, rfl⟩⟩⟩
    · simp [decCtl, Ret.okv] at h
  | resetState => simp [decCtl, Ret.ok] at h
  | unknown id => exact ⟨rfl, Or.inr ⟨rfl, id, rfl⟩⟩

/-- Every stored decoder setting is a value its setter admits (the decoder's `CtlInv`). -/
structure DecInv (s : DecSt) : Prop where
  fs : validFs s.fs = true
  ch : s.channels = 1 ∨ s.channels = 2
  gain : -32768 ≤ s.decodeGain ∧ s.decodeGain ≤ 32767
  complexity : 0 ≤ s.complexity ∧ s.complexity ≤ 10 ∧ s.celtComplexity = s.complexity
  inv : s.celtDisableInv = 0 ∨ s.celtDisableInv = 1

theorem decSet_inv {s s' : DecSt} {k : DecSetK} {v : Int} (hi : DecInv s) (h : decSet s k v = some s') : DecInv s' := by
  cases k <;> obtain ⟨hv, rfl⟩ := ite_none_some h
  · exact { hi with complexity := by show 0 ≤ v ∧ v ≤ 10 ∧ v = v; omega }
  · exact { hi with gain := by show -32768 ≤ v ∧ v ≤ 32767; omega }
  · exact { hi with inv := by show v = 0 ∨ v = 1; omega }

theorem encCreate_spec (fs ch app : Int) (allocOk : Bool) :
    (encArgsOk fs ch app = false → encCreate fs ch app allocOk = .err .badArg) ∧
    (encArgsOk fs ch app = true → allocOk = false → encCreate fs ch app allocOk = .err .allocFail) ∧
    (encArgsOk fs ch app = true → allocOk = true → encCreate fs ch app allocOk = .ok (encInit fs ch app)) := by
  unfold encCreate
  refine ⟨?_, ?_, ?_⟩ <;> intro h <;> simp [h]

theorem encCreate_inv {fs ch app : Int} {s0 : EncSt} (hc : encCreate fs ch app true = .ok s0) : EncInv s0 := by
  have hargs : encArgsOk fs ch app = true := by
    cases h : encArgsOk fs ch app with
    | true => rfl
    | false => rw [(encCreate_spec fs ch app true).1 h] at hc; cases hc
  rw [(encCreate_spec fs ch app true).2.2 hargs rfl] at hc
  cases hc
  exact encInit_inv hargs

/-- What a multistream encoder accepts (opus_multistream_encoder.c:429-495, :585-621): the counts,
    a mapping into the decoded channels in which every stream has its input, a legal rate and
    application. -/
def MsEncArgsLegal (fs channels streams coupled : Int) (mapping : List Nat) (app : Int) : Prop :=
  1 ≤ channels ∧ channels ≤ 255 ∧ 1 ≤ streams ∧ 0 ≤ coupled ∧ coupled ≤ streams ∧ streams + coupled ≤ 255 ∧
  streams + coupled ≤ channels ∧
  validateLayout channels streams coupled mapping = true ∧ validateEncoderLayout channels streams coupled mapping = true ∧
  (fs = 8000 ∨ fs = 12000 ∨ fs = 16000 ∨ fs = 24000 ∨ fs = 48000) ∧ (app = 2048 ∨ app = 2049 ∨ app = 2051)

theorem msEncArgsOk_iff (channels streams coupled : Int) : msEncArgsOk channels streams coupled = true ↔
    (1 ≤ channels ∧ channels ≤ 255 ∧ 1 ≤ streams ∧ 0 ≤ coupled ∧ coupled ≤ streams ∧ streams + coupled ≤ 255 ∧
     streams + coupled ≤ channels) := by
  simp only [msEncArgsOk, Bool.not_eq_true', decide_eq_false_iff_not]
  omega

theorem msDecCreate_spec (fs channels streams coupled : Int) (mapping : List Nat) (allocOk : Bool) :
    let legal := 1 ≤ channels ∧ channels ≤ 255 ∧ 1 ≤ streams ∧ 0 ≤ coupled ∧ coupled ≤ streams ∧ streams + coupled ≤ 255 ∧
                 validateLayout channels streams coupled mapping = true ∧
                 (fs = 8000 ∨ fs = 12000 ∨ fs = 16000 ∨ fs = 24000 ∨ fs = 48000)
    (legal → allocOk = true → ∃ s, msDecCreate fs channels streams coupled mapping allocOk = .ok s) ∧
    (¬ legal → msDecCreate fs channels streams coupled mapping allocOk = .err .badArg ∨
               msDecCreate fs channels streams coupled mapping allocOk = .err .allocFail) ∧
    (allocOk = false → ∀ s, msDecCreate fs channels streams coupled mapping allocOk ≠ .ok s) := by
  intro legal
  have hA : msDecArgsOk channels streams coupled = true ↔
      (1 ≤ channels ∧ channels ≤ 255 ∧ 1 ≤ streams ∧ 0 ≤ coupled ∧ coupled ≤ streams ∧ streams + coupled ≤ 255) := by
    simp only [msDecArgsOk, Bool.not_eq_true', decide_eq_false_iff_not]; omega
  -- the three tests of the create besides the allocation, in the order it makes them
  have hL : legal ↔ msDecArgsOk channels streams coupled = true ∧ validateLayout channels streams coupled mapping = true ∧
      validFs fs = true := by
    simp only [legal, hA, validFs_iff, and_assoc]
  unfold msDecCreate
  refine ⟨fun hl ha => ?_, fun hn => ?_, fun ha s => ?_⟩
  · obtain ⟨h1, h2, h3⟩ := hL.1 hl
    rw [h1, ha, h2, h3]; exact ⟨_, rfl⟩
  · cases h1 : msDecArgsOk channels streams coupled
    · exact Or.inl rfl
    cases allocOk
    · exact Or.inr rfl
    cases h2 : validateLayout channels streams coupled mapping
    · exact Or.inl rfl
    cases h3 : validFs fs
    · exact Or.inl rfl
    · exact absurd (hL.2 ⟨h1, h2, h3⟩) hn
  · rw [ha]
    cases msDecArgsOk channels streams coupled <;> exact fun h => nomatch h

end Opus.Ctl
