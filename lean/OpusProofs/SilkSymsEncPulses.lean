import OpusProofs.SilkSymsEncBlocks
/-
  C08 × C03 composition: `silk_decode_pulses` (C03's model) inverts `silk_encode_pulses`
  (OpusModel/SilkSymsEnc.lean) — rate level, sum-weighted pulses with the 17-escape chain, the shell
  tree, the LSBs and the signs — and the legality of the operations the encoder emits.

  Proof style (see the kernel note in SilkSymsEncIndices.lean): in `match f c with | (a, c1) => …` of the decoder
  model the scrutinee is rewritten with the lemma for `f` and the match reduced by `dsimp only`, which also turns the
  matches below it into projections of their scrutinees: harmless where the kernel gets stuck on those at once (a
  variable list, count or sum), not where it could run them (`sumPulsesLoop_step`).
-/
namespace Opus.SilkSymsEncProofs
open Opus Opus.RangeCoder Opus.SilkSyms Opus.SilkSymsEnc Opus.SilkSymsFrozen.Icdf

theorem lsbCount_exit (k : Nat) (c : Dec) (n sp : Nat) (h : sp ≠ 17) : lsbCountLoop k c n sp = (n, sp, c) := by
  cases k with
  | zero => rfl
  | succ k => simp only [lsbCountLoop, h, if_false]

/-- One escape read.  `T9` stands for the concrete table (`hT`) so that the kernel does not evaluate reads of it (note in
    SilkSymsEncIndices.lean); it is not a generalisation. -/
theorem lsbCount_step (T9 : List Nat) (hT : T9 = silk_pulses_per_block_iCDF.getD 9 []) {s n : Nat} {rest : List Op}
    {c : Dec} (k : Nat) (hn : n + 1 < 10) (h : Reads c (ic s T9 :: rest)) :
    lsbCountLoop (k + 1) c n 17 = lsbCountLoop k (after c [ic s T9]) (n + 1) s := by
  rw [reads_cons_append] at h
  rw [lsbCountLoop, if_pos rfl, if_neg (by omega), List.drop_zero, ← hT, sym_spec h.1]

/-- The escape chain: `m` more escapes, then the sum. -/
theorem lsbCount_spec (T9 : List Nat) (hT : T9 = silk_pulses_per_block_iCDF.getD 9 []) (s : Nat) (hs : s ≤ 16) :
    ∀ (m k n : Nat) (c : Dec), m + 1 ≤ k → n + m + 1 < 10 →
    Reads c (List.replicate m (ic 17 T9) ++ [ic s T9]) →
    lsbCountLoop k c n 17 = (n + m + 1, s, after c (List.replicate m (ic 17 T9) ++ [ic s T9])) := by
  intro m
  induction m with
  | zero =>
    intro k n c hk hn h
    obtain ⟨k, rfl⟩ : ∃ k', k = k' + 1 := ⟨k - 1, by omega⟩
    rw [List.replicate_zero, List.nil_append] at h ⊢
    rw [lsbCount_step T9 hT k (by omega) h, lsbCount_exit _ _ _ _ (by omega)]
  | succ m ih =>
    intro k n c hk hn h
    obtain ⟨k, rfl⟩ : ∃ k', k = k' + 1 := ⟨k - 1, by omega⟩
    rw [List.replicate_succ, List.cons_append] at h ⊢
    rw [after_cons, lsbCount_step T9 hT k (by omega) h, ih k (n + 1) _ (by omega) (by omega) ((reads_cons_append ..).mp h).2,
      show n + 1 + m + 1 = n + (m + 1) + 1 by omega]

/-- One block of the sum-weighted-pulses loop: the sum, or an escape from table `rl`, `nR - 1` escapes and the sum from table 9.
    The two reads are opened with `split`, so that the chain is rewritten while its first symbol is still a variable: the
    kernel would run `lsbCountLoop 10 c 0 17`. -/
theorem sumPulsesLoop_step {rl : Nat} {b : Block} {c : Dec} (hb : BlockOk b) (h : Reads c (encSum rl b)) (iter : Nat) :
    sumPulsesLoop (silk_pulses_per_block_iCDF.getD rl []) (iter + 1) c =
      match sumPulsesLoop (silk_pulses_per_block_iCDF.getD rl []) iter (after c (encSum rl b)) with
      | (sps, ns, c3) => (b.sum :: sps, b.nR :: ns, c3) := by
  have hle := hb.le16
  have hnR := hb.nR
  rw [sumPulsesLoop]
  split
  rename_i sp0 c1 e0
  split
  rename_i n sp c2 e1
  have key : (n, sp, c2) = (b.nR, b.sum, after c (encSum rl b)) := by
    unfold encSum at h ⊢
    by_cases h0 : b.nR = 0
    · rw [if_pos h0] at h ⊢
      rw [sym_spec h] at e0
      cases e0
      rw [lsbCount_exit _ _ _ _ (by omega)] at e1
      rw [← e1, h0]
    · rw [if_neg h0] at h ⊢
      rw [reads_cons_append] at h
      rw [sym_spec h.1] at e0
      cases e0
      rw [lsbCount_spec _ rfl b.sum hle (b.nR - 1) 10 0 _ (by omega) (by omega) h.2] at e1
      rw [← e1, ← after_cons, show 0 + (b.nR - 1) + 1 = b.nR by omega]
  cases key
  rfl

theorem sumPulsesLoop_spec (rl : Nat) : ∀ (bs : List Block) (c : Dec), (∀ b ∈ bs, BlockOk b) →
    Reads c (bs.map (encSum rl)).flatten →
    sumPulsesLoop (silk_pulses_per_block_iCDF.getD rl []) bs.length c =
      (bs.map (·.sum), bs.map (·.nR), after c (bs.map (encSum rl)).flatten) := by
  intro bs
  induction bs with
  | nil => intro c _ _; rfl
  | cons b bs ih =>
    intro c hok h
    obtain ⟨hb, hbs⟩ := List.forall_mem_cons.mp hok
    simp only [List.map_cons, List.flatten_cons, List.length_cons] at h ⊢
    rw [reads_append] at h
    rw [sumPulsesLoop_step hb h.1, ih _ hbs h.2, after_append]

theorem decodeSplit_spec {c : Dec} {a p : Nat} {tbl : List Nat} (ha : a ≤ p) (h : Reads c (encSplit a p tbl)) :
    decodeSplit c p tbl = (a, p - a, after c (encSplit a p tbl)) := by
  unfold encSplit at h ⊢
  unfold decodeSplit
  by_cases hp : p > 0
  · rw [if_pos hp] at h
    rw [if_pos hp, if_pos hp, sym_spec h]
  · rw [if_neg hp, if_neg hp, show a = 0 by omega, show p = 0 by omega]
    rfl

theorem sum4 (b1 b2 d1 d2 : Nat) : [b1, b2, d1, d2].sum = b1 + b2 + (d1 + d2) := by
  simp only [List.sum_cons, List.sum_nil]; omega

theorem shellQuarter_spec {c : Dec} {q : List Nat} (hq : q.length = 4) (h : Reads c (encQuarter q)) :
    shellQuarter c q.sum = (q, after c (encQuarter q)) := by
  obtain ⟨b1, b2, d1, d2, rfl⟩ := list4 hq
  rw [sum4]
  rw [encQuarter] at h ⊢
  rw [reads_append, reads_append, after_append] at h
  rw [after_append, after_append, shellQuarter, decodeSplit_spec (by omega) h.1.1]
  dsimp only
  rw [decodeSplit_spec (by omega) h.1.2]
  dsimp only
  rw [show b1 + b2 + (d1 + d2) - (b1 + b2) = d1 + d2 by omega, decodeSplit_spec (by omega) h.2]
  dsimp only
  rw [show b1 + b2 - b1 = b2 by omega, show d1 + d2 - d1 = d2 by omega]

theorem sum_take_drop (l : List Nat) (n : Nat) : l.sum = (l.take n).sum + (l.drop n).sum := by
  conv => lhs; rw [← List.take_append_drop n l]
  rw [List.sum_append]

theorem shellHalf_spec {c : Dec} {l : List Nat} (hl : l.length = 8) (h : Reads c (encHalf l)) :
    shellHalf c l.sum = (l, after c (encHalf l)) := by
  unfold encHalf at h ⊢
  rw [reads_append, reads_append, after_append] at h
  rw [after_append, after_append, sum_take_drop l 4, shellHalf, decodeSplit_spec (by omega) h.1.1]
  dsimp only
  rw [shellQuarter_spec (by rw [List.length_take]; omega) h.1.2]
  dsimp only
  rw [Nat.add_sub_cancel_left, shellQuarter_spec (by rw [List.length_drop]; omega) h.2]
  dsimp only
  rw [List.take_append_drop]

theorem shellDecoder_spec {c : Dec} {l : List Nat} (hl : l.length = 16) (h : Reads c (encShell l)) :
    shellDecoder c l.sum = (l, after c (encShell l)) := by
  unfold encShell at h ⊢
  rw [reads_append, reads_append, after_append] at h
  rw [after_append, after_append, sum_take_drop l 8, shellDecoder, decodeSplit_spec (by omega) h.1.1]
  dsimp only
  rw [shellHalf_spec (by rw [List.length_take]; omega) h.1.2]
  dsimp only
  rw [Nat.add_sub_cancel_left, shellHalf_spec (by rw [List.length_drop]; omega) h.2]
  dsimp only
  rw [List.take_append_drop]

theorem shellBlock_spec {b : Block} {c : Dec} (hb : BlockOk b) (h : Reads c (encShellIf b)) :
    shellBlock b.sum c = (b.scaled, after c (encShellIf b)) := by
  unfold shellBlock
  unfold encShellIf at h ⊢
  by_cases hp : b.sum > 0
  · rw [if_pos hp] at h
    rw [if_pos hp, if_pos hp, hb.sum, shellDecoder_spec hb.lenS h]
  · rw [if_neg hp, if_neg hp, (hb.zero (by omega)).2.1, after_nil]

theorem shellLoop_spec : ∀ (bs : List Block) (c : Dec), (∀ b ∈ bs, BlockOk b) →
    Reads c (bs.map encShellIf).flatten →
    shellLoop (bs.map (·.sum)) c = (bs.map (·.scaled), after c (bs.map encShellIf).flatten) := by
  intro bs
  induction bs with
  | nil => intro c _ _; rfl
  | cons b bs ih =>
    intro c hok h
    obtain ⟨hb, hbs⟩ := List.forall_mem_cons.mp hok
    simp only [List.map_cons, List.flatten_cons] at h ⊢
    rw [reads_append] at h
    rw [shellLoop, shellBlock_spec hb h.1]
    dsimp only
    rw [ih _ hbs h.2, after_append]

theorem lsb_arith (q B P R : Nat) : (2 * q + B) * P + R = q * (P * 2) + (R + P * B) := by
  have e1 : (2 * q + B) * P = q * (P * 2) + P * B := by
    rw [Nat.add_mul, Nat.mul_comm 2 q, Nat.mul_assoc, Nat.mul_comm 2 P, Nat.mul_comm B P]
  omega

theorem lsbBits_spec : ∀ (n a q : Nat) (c : Dec), Reads c (encLsbBits n a) →
    lsbBits n q c = (q * 2 ^ n + a % 2 ^ n, after c (encLsbBits n a)) := by
  intro n
  induction n with
  | zero =>
    intro a q c _
    unfold lsbBits
    rw [encLsbBits, after_nil]
    have : q * 2 ^ 0 + a % 2 ^ 0 = q := by simp [Nat.mod_one]
    rw [this]
  | succ n ih =>
    intro a q c h
    rw [encLsbBits] at h ⊢
    rw [reads_cons_append] at h
    unfold lsbBits
    rw [sym_spec h.1]
    dsimp only
    rw [ih a _ _ h.2, after_cons]
    refine Prod.ext ?_ rfl
    show (2 * q + a / 2 ^ n % 2) * 2 ^ n + a % 2 ^ n = q * 2 ^ (n + 1) + a % 2 ^ (n + 1)
    rw [Nat.mod_pow_succ, Nat.pow_succ]
    exact lsb_arith q _ _ _

theorem lsbBlock_spec (n : Nat) : ∀ (os : List Nat) (c : Dec), Reads c (os.map (encLsbBits n)).flatten →
    lsbBlock n (os.map (· / 2 ^ n)) c = (os, after c (os.map (encLsbBits n)).flatten) := by
  intro os
  induction os with
  | nil => intro c _; rfl
  | cons a os ih =>
    intro c h
    simp only [List.map_cons, List.flatten_cons] at h ⊢
    rw [reads_append] at h
    rw [after_append, lsbBlock, lsbBits_spec n a _ _ h.1]
    dsimp only
    rw [ih _ h.2]
    exact Prod.ext (congrArg (· :: os) (Nat.div_add_mod' a (2 ^ n))) rfl

theorem lsbBlockIf_spec {b : Block} {c : Dec} (hb : BlockOk b) (h : Reads c (encLsbIf b)) :
    lsbBlockIf b.nR b.scaled c = (b.orig.map Int.natAbs, after c (encLsbIf b)) := by
  unfold lsbBlockIf
  unfold encLsbIf at h ⊢
  by_cases hp : b.nR > 0
  · have hm : b.orig.map (fun q => encLsbBits b.nR q.natAbs) = (b.orig.map Int.natAbs).map (encLsbBits b.nR) := by
      rw [List.map_map]; rfl
    rw [if_pos hp, hm] at h
    rw [if_pos hp, if_pos hp, hm, hb.scaled]
    exact lsbBlock_spec b.nR _ _ h
  · rw [if_neg hp, if_neg hp, after_nil, hb.scaled, show b.nR = 0 by omega]
    simp only [Nat.pow_zero, Nat.div_one, List.map_id']

theorem lsbLoop_spec : ∀ (bs : List Block) (c : Dec), (∀ b ∈ bs, BlockOk b) →
    Reads c (bs.map encLsbIf).flatten →
    lsbLoop (bs.map (·.scaled)) (bs.map (·.nR)) c =
      (bs.map (fun b => b.orig.map Int.natAbs), after c (bs.map encLsbIf).flatten) := by
  intro bs
  induction bs with
  | nil => intro c _ _; rfl
  | cons b bs ih =>
    intro c hok h
    obtain ⟨hb, hbs⟩ := List.forall_mem_cons.mp hok
    simp only [List.map_cons, List.flatten_cons] at h ⊢
    rw [reads_append] at h
    rw [lsbLoop, lsbBlockIf_spec hb h.1]
    dsimp only
    rw [ih _ hbs h.2, after_append]

/-- The operations `silk_encode_signs` emits for the samples `os` of one block. -/
def signOps (icdf0 : Nat) (os : List Int) : List Op :=
  (os.filter (· ≠ 0)).map (fun q => ic (if q < 0 then 0 else 1) [icdf0, 0])

theorem signOps_cons (icdf0 : Nat) (q : Int) (os : List Int) :
    signOps icdf0 (q :: os) = signOps icdf0 [q] ++ signOps icdf0 os := by
  show signOps icdf0 ([q] ++ os) = _
  simp only [signOps, List.filter_append, List.map_append]

theorem sign_arith (q : Int) (hq : q ≠ 0) :
    (q.natAbs : Int) * (2 * (((if q < 0 then 0 else 1 : Nat)) : Int) - 1) = q := by
  split
  · simp only [Int.natCast_zero, Int.mul_zero, Int.zero_sub]
    omega
  · simp only [Int.natCast_one, Int.mul_one]
    omega

/-- One sample: no symbol for a zero, else the sign. -/
theorem signOne_spec (icdf0 : Nat) (q : Int) {c : Dec} (h : Reads c (signOps icdf0 [q])) :
    signOne icdf0 q.natAbs c = (q, after c (signOps icdf0 [q])) := by
  by_cases hq : q = 0
  · subst hq
    rfl
  · have hops : signOps icdf0 [q] = [ic (if q < 0 then 0 else 1) [icdf0, 0]] := by
      simp [signOps, hq]
    rw [hops] at h ⊢
    rw [signOne, if_pos (by omega), sym_spec h]
    dsimp only
    rw [sign_arith q hq]

theorem signBlock_spec (icdf0 : Nat) : ∀ (os : List Int) (c : Dec), Reads c (signOps icdf0 os) →
    signBlock icdf0 (os.map Int.natAbs) c = (os, after c (signOps icdf0 os)) := by
  intro os
  induction os with
  | nil => intro c _; rfl
  | cons q os ih =>
    intro c h
    rw [signOps_cons, reads_append] at h
    rw [signOps_cons, after_append, List.map_cons, signBlock, signOne_spec icdf0 q h.1]
    dsimp only
    rw [ih _ h.2]

theorem signBlockIf_spec (base : Nat) {b : Block} {c : Dec} (hb : BlockOk b) (h : Reads c (encSignIf base b)) :
    signBlockIf base (b.sum + 32 * b.nR) (b.orig.map Int.natAbs) c = (b.orig, after c (encSignIf base b)) := by
  have hle := hb.le16
  unfold signBlockIf
  unfold encSignIf at h ⊢
  by_cases hp : b.sum > 0
  · rw [if_pos hp] at h
    rw [if_pos hp, if_pos (by omega), Nat.add_mul_mod_self_left]
    exact signBlock_spec _ _ _ h
  · obtain ⟨hz, -, ho⟩ := hb.zero (by omega)
    rw [if_neg hp, if_neg (by omega), after_nil, ho]
    rfl

theorem signLoop_spec (base : Nat) : ∀ (bs : List Block) (c : Dec), (∀ b ∈ bs, BlockOk b) →
    Reads c (bs.map (encSignIf base)).flatten →
    signLoop base bs.length (bs.map (fun b => b.orig.map Int.natAbs)) (markLsb (bs.map (·.sum)) (bs.map (·.nR))) c =
      (bs.map (·.orig), after c (bs.map (encSignIf base)).flatten) := by
  intro bs
  induction bs with
  | nil => intro c _ _; rfl
  | cons b bs ih =>
    intro c hok h
    obtain ⟨hb, hbs⟩ := List.forall_mem_cons.mp hok
    simp only [List.map_cons, List.flatten_cons, List.length_cons, markLsb] at h ⊢
    rw [reads_append] at h
    rw [signLoop, signBlockIf_spec base hb h.1]
    dsimp only
    rw [ih _ hbs h.2, after_append]

/-- `bs` stands for `pulseBlocks frameLen pulses`, `rl` for its rate level. -/
theorem decodePulses_core {sig qoff frameLen rl : Nat} (bs : List Block) (hok : ∀ b ∈ bs, BlockOk b)
    (hn1 : shellBlocks frameLen = bs.length) (hn2 : (frameLen + 8) / 16 = bs.length) {d : Dec}
    (h : Reads d (ic rl (silk_rate_levels_iCDF.getD (sig / 2) []) ::
      ((bs.map (encSum rl)).flatten ++ (bs.map encShellIf).flatten ++ (bs.map encLsbIf).flatten ++
       ((bs.take ((frameLen + 8) / 16)).map (encSignIf (7 * (qoff + 2 * sig)))).flatten))) :
    decodePulses sig qoff frameLen d =
      ({ rateLevel := rl, sumPulses := bs.map (·.sum), nLshifts := bs.map (·.nR),
         absBlocks := bs.map (fun b => b.orig.map Int.natAbs), signed := bs.map (·.orig) },
       after d (ic rl (silk_rate_levels_iCDF.getD (sig / 2) []) ::
      ((bs.map (encSum rl)).flatten ++ (bs.map encShellIf).flatten ++ (bs.map encLsbIf).flatten ++
       ((bs.take ((frameLen + 8) / 16)).map (encSignIf (7 * (qoff + 2 * sig)))).flatten))) := by
  rw [hn2, List.take_length, reads_cons_append, reads_append, reads_append, reads_append] at h
  rcases h with ⟨h0, ⟨⟨h1, h2⟩, h3⟩, h4⟩
  rw [after_append, after_append] at h4
  rw [after_append] at h3
  rw [hn2, List.take_length, after_cons, after_append, after_append, after_append, decodePulses, hn1, hn2, sym_spec h0]
  dsimp only
  rw [sumPulsesLoop_spec _ _ _ hok h1]
  dsimp only
  rw [shellLoop_spec _ _ hok h2]
  dsimp only
  rw [lsbLoop_spec _ _ hok h3]
  dsimp only
  rw [signLoop_spec _ _ _ hok h4]

/-- `silk_decode_pulses` inverts `silk_encode_pulses`. -/
theorem decodePulses_spec {sig qoff frameLen : Nat} {pulses : List Int} {d : Dec}
    (hp : PulsesOk frameLen pulses) (hfl : (frameLen + 8) / 16 = shellBlocks frameLen)
    (h : Reads d (encodePulses sig qoff frameLen pulses)) :
    decodePulses sig qoff frameLen d =
      (pulsesView sig frameLen pulses, after d (encodePulses sig qoff frameLen pulses)) := by
  have hlen := pulseBlocks_length frameLen pulses
  exact decodePulses_core _ (pulseBlocks_ok hp) hlen.symm (by rw [hfl, hlen]) h

theorem encSplit_legal {a p : Nat} {tbl : List Nat} (ha : a ≤ p) (hp : p ≤ 16)
    (ht : SilkSymsProofs.ShellTbl tbl) :
    IcLegal (encSplit a p tbl) := by
  unfold encSplit
  split
  · exact icLegal_ic (ht p (by omega) (by omega)) (by omega)
  · exact icLegal_nil

theorem encQuarter_legal {q : List Nat} (hq : q.length = 4) (hs : q.sum ≤ 16) : IcLegal (encQuarter q) := by
  obtain ⟨b1, b2, d1, d2, rfl⟩ := list4 hq
  rw [sum4] at hs
  simp only [encQuarter]
  exact icLegal_append (icLegal_append (encSplit_legal (by omega) (by omega) SilkSymsProofs.sl_shell1)
    (encSplit_legal (by omega) (by omega) SilkSymsProofs.sl_shell0)) (encSplit_legal (by omega) (by omega) SilkSymsProofs.sl_shell0)

theorem encHalf_legal {l : List Nat} (hl : l.length = 8) (hs : l.sum ≤ 16) : IcLegal (encHalf l) := by
  have := sum_take_drop l 4
  unfold encHalf
  exact icLegal_append (icLegal_append (encSplit_legal (by omega) (by omega) SilkSymsProofs.sl_shell2)
    (encQuarter_legal (by rw [List.length_take]; omega) (by omega)))
    (encQuarter_legal (by rw [List.length_drop]; omega) (by omega))

theorem encShell_legal {l : List Nat} (hl : l.length = 16) (hs : l.sum ≤ 16) : IcLegal (encShell l) := by
  have := sum_take_drop l 8
  unfold encShell
  exact icLegal_append (icLegal_append (encSplit_legal (by omega) (by omega) SilkSymsProofs.sl_shell3)
    (encHalf_legal (by rw [List.length_take]; omega) (by omega)))
    (encHalf_legal (by rw [List.length_drop]; omega) (by omega))

theorem encLsbBits_legal : ∀ (n a : Nat), IcLegal (encLsbBits n a)
  | 0, _ => icLegal_nil
  | n + 1, a => icLegal_cons (icLegal_ic SilkSymsProofs.sl_lsb (Nat.mod_lt _ (by decide))) (encLsbBits_legal n a)

theorem icLegal_map_flatten {α : Type} (f : α → List Op) (l : List α) (h : ∀ x ∈ l, IcLegal (f x)) :
    IcLegal (l.map f).flatten := by
  apply icLegal_flatten
  intro ops hops
  rw [List.mem_map] at hops
  rcases hops with ⟨x, hx, rfl⟩
  exact h x hx

/-- Under `PulsesOk` every operation `silk_encode_pulses` emits is a legal `ec_enc_icdf`. -/
theorem encodePulses_legal {sig qoff frameLen : Nat} {pulses : List Int} (hp : PulsesOk frameLen pulses)
    (hsig : sig ≤ 2) (hq : qoff ≤ 1) : IcLegal (encodePulses sig qoff frameLen pulses) := by
  have hok := pulseBlocks_ok hp
  unfold encodePulses
  simp only
  generalize pulseBlocks frameLen pulses = bs at *
  have hrl := rateLevel_lt sig bs
  refine icLegal_cons (icLegal_ic (SilkSymsProofs.sl_rateLevels _ (by omega)) hrl) (icLegal_append (icLegal_append (icLegal_append
    (icLegal_map_flatten _ _ ?_) (icLegal_map_flatten _ _ ?_)) (icLegal_map_flatten _ _ ?_)) (icLegal_map_flatten _ _ ?_))
  · intro b hb
    have ok := hok b hb
    have hle := ok.le16
    unfold encSum
    split
    · exact icLegal_ic (SilkSymsProofs.sl_ppb _ (by omega)) (by omega)
    · exact icLegal_cons (icLegal_ic (SilkSymsProofs.sl_ppb _ (by omega)) (by decide))
        (icLegal_append (icLegal_replicate _ (icLegal_ic (SilkSymsProofs.sl_ppb 9 (by decide)) (by decide)))
          (icLegal_ic (SilkSymsProofs.sl_ppb 9 (by decide)) (by omega)))
  · intro b hb
    have ok := hok b hb
    unfold encShellIf
    split
    · exact encShell_legal ok.lenS (by rw [← ok.sum]; exact ok.le16)
    · exact icLegal_nil
  · intro b hb
    unfold encLsbIf
    split
    · exact icLegal_map_flatten _ _ (fun q _ => encLsbBits_legal _ _)
    · exact icLegal_nil
  · intro b hb
    unfold encSignIf
    split
    · intro op hop
      rw [List.mem_map] at hop
      rcases hop with ⟨q, _, rfl⟩
      have hi : 7 * (qoff + 2 * sig) + min (b.sum % 32) 6 < 42 := by
        have : min (b.sum % 32) 6 ≤ 6 := Nat.min_le_right ..
        omega
      exact icLegal_ic (SilkSymsProofs.sl_sign _ hi) (by split <;> decide) _ (List.mem_singleton.mpr rfl)
    · exact icLegal_nil

end Opus.SilkSymsEncProofs
