import OpusModel.SilkCoreFrame
import OpusModel.SilkCoreFrozenEq
import OpusProofs.SilkCoreParams
/-
  OpusProofs.SilkCoreExample — concrete frames used as non-vacuity witnesses by `OpusProps.C03SilkCore`
  (evaluated by the kernel).
-/
namespace Opus.SilkCoreProofs
open Opus Opus.SilkParams Opus.SilkCore Opus.Gen Opus.Frozen

/-- Decoder state after `silk_init_decoder` + `silk_decoder_set_fs( 8 kHz )`, 10 ms frames, with a non-trivial signal history. -/
def exState : DecState :=
  { fsKHz := 8, nbSubfr := 2,
    sLPC := [1200, -3400, 560, 78000, -91000, 4400, -120, 0, 77, -15000, 1, 2, 3, 4, 5, 6],
    outBuf := (List.range 480).map (fun (i : Nat) => ((i : Int) * 7919 % 4001) - 2000),
    excQ14 := List.replicate 320 0, prevGainQ16 := 65536, lagPrev := 100, lastGainIndex := 10,
    prevNlsf := [1000, 4000, 7000, 10000, 13000, 16000, 19000, 22000, 25000, 28000, 0, 0, 0, 0, 0, 0],
    firstFrameAfterReset := 0, prevSignalType := 0, lossCnt := 0 }

/-- A voiced 10 ms frame. -/
def exVoiced : FrameIn :=
  { condCoding := 0, gainsIdx := [30, 6], nlsfIdx := [3, 0, 1, -2, 0, 3, 0, 0, -1, 0, 2], interp := 4, signalType := 2,
    quantOffsetType := 1, lagIndex := 37, contourIndex := 2, perIndex := 1, ltpIdx := [5, 11], ltpScaleIndex := 1, seed := 3,
    pulses := (List.range 80).map (fun (i : Nat) => ((i : Int) * 31 % 7) - 3) }

/-- An unvoiced 10 ms frame following it (conditionally coded). -/
def exUnvoiced : FrameIn :=
  { condCoding := 2, gainsIdx := [2, 7], nlsfIdx := [17, 1, 0, 0, 2, -1, 0, 1, 0, 0, -3], interp := 4, signalType := 1,
    quantOffsetType := 0, lagIndex := 0, contourIndex := 0, perIndex := 0, ltpIdx := [0, 0], ltpScaleIndex := 0, seed := 1,
    pulses := (List.range 80).map (fun (i : Nat) => ((i : Int) * 17 % 5) - 2) }

theorem exRun_ok : (runFrames exState [exVoiced, exUnvoiced]).isSome = true := by decide +kernel

/-- The first frame of the run above. -/
theorem exVoiced_ok : (frameGood exState exVoiced).isOk = true := by
  have h := exRun_ok
  rw [runFrames] at h
  cases hf : frameGood exState exVoiced with
  | ok o => rfl
  | err e => rw [hf] at h; cases h
  | oob => rw [hf] at h; cases h
  | abort => rw [hf] at h; cases h

theorem exState_ok : StateOk exState :=
  { cfg := by unfold CfgOk; decide, slpc := by decide, outLen := by decide +kernel, outI16 := by unfold I16; decide +kernel,
    excLen := by decide +kernel, nlsfLen := by decide, nlsfRange := by decide +kernel, lgi := by decide,
    lag := fun h => absurd rfl h }

theorem pitchCb_8_2 : pitchCodebook (8 : Int) 2 = .ok (SilkNlsf.cbLagsStage2_10ms, SilkNlsf.peNbCbksStage2_10ms) := by decide +kernel

theorem exVoiced_frameOk : FrameOk 8 2 exVoiced :=
  { sig := by decide, qoff := by decide, gains := by decide,
    nlsf := ⟨3, [0, 1, -2, 0, 3, 0, 0, -1, 0, 2], by decide +kernel, by decide +kernel, by decide⟩,
    interp := by decide,
    contour := fun _ => ⟨by decide, fun cb h => by
      have h' : pitchCodebook (8 : Int) 2 = .ok cb := h
      rw [pitchCb_8_2] at h'
      cases h'
      decide +kernel⟩,
    per := fun _ => by decide,
    ltp := fun _ => ⟨by decide, by decide +kernel⟩,
    scale := fun _ => by decide,
    pulses := by decide +kernel }

theorem exUnvoiced_frameOk : FrameOk 8 2 exUnvoiced :=
  { sig := by decide, qoff := by decide, gains := by decide,
    nlsf := ⟨17, [1, 0, 0, 2, -1, 0, 1, 0, 0, -3], by decide +kernel, by decide +kernel, by decide⟩,
    interp := by decide,
    contour := fun h => absurd h (by decide),
    per := fun h => absurd h (by decide),
    ltp := fun h => absurd h (by decide),
    scale := fun h => absurd h (by decide),
    pulses := by decide +kernel }

end Opus.SilkCoreProofs
