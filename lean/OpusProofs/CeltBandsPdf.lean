import OpusModel.CeltBands
/-
  OpusProofs.CeltBandsPdf — a PDF symbol of `compute_theta` on the decoder side: `ec_decode(ft)`, the symbol `it fm` of the
  decoded point `fm`, `ec_dec_update` on that symbol's interval `[fl fm, fh fm)` (`readSym`).  The step PDF (bands.c:790-809) in
  this form, with its two laws: every point has a non-empty interval inside `[0, ft)` (`step_interval`), and from every point of
  the interval of `x` the decoder finds `x` (`step_inv`).  The triangular PDF: OpusProofs/CeltBandsTri.lean.
  What follows from the laws for any such symbol: `Keeps.read` (OpusProofs/CeltBandsFault.lean), `read_J`
  (OpusProofs/CeltBandsJ.lean), `pdf_step` (OpusProofs/CeltBandsSync.lean).
-/
namespace OpusProofs.Pdf
open Opus Opus.CeltBands

def readSym (ft : Nat) (it fl fh : Nat → Nat) (s : BSt) : Nat × BSt :=
  (it (s.decode ft).1, (s.decode ft).2.update (fl (s.decode ft).1) (fh (s.decode ft).1) ft)

/-- the symbol of the decoded point `fs` -/
def stepIt (qn fs : Nat) : Nat := if fs < (qn / 2 + 1) * 3 then fs / 3 else qn / 2 + 1 + (fs - (qn / 2 + 1) * 3)

/-- the interval `[stepFl qn x, stepFh qn x)` of the symbol `x` -/
def stepFl (qn x : Nat) : Nat := if x ≤ qn / 2 then 3 * x else (x - 1 - qn / 2) + (qn / 2 + 1) * 3
def stepFh (qn x : Nat) : Nat := if x ≤ qn / 2 then 3 * (x + 1) else (x - qn / 2) + (qn / 2 + 1) * 3

/-- This and `Tri.thetaTri_eq` are the two places that take the pair the model's `match` binds apart; everything else is
    stated about `readSym` applied to variables (left to definitional unfolding of `thetaStep`, the kernel runs into "deep
    recursion"). -/
theorem thetaStep_eq (s : BSt) (qn : Nat) : thetaStep s qn =
    readSym (3 * (qn / 2 + 1) + qn / 2) (stepIt qn) (fun fs => stepFl qn (stepIt qn fs)) (fun fs => stepFh qn (stepIt qn fs)) s := by
  unfold thetaStep readSym
  generalize s.decode (3 * (qn / 2 + 1) + qn / 2) = y
  obtain ⟨fs, s1⟩ := y
  rfl

theorem step_interval (qn fs : Nat) (h : fs < 3 * (qn / 2 + 1) + qn / 2) :
    stepFl qn (stepIt qn fs) < stepFh qn (stepIt qn fs) ∧ stepFh qn (stepIt qn fs) ≤ 3 * (qn / 2 + 1) + qn / 2 := by
  unfold stepFl stepFh stepIt
  generalize qn / 2 = x0 at h ⊢
  split <;> split <;> omega

theorem step_inv (qn x fs : Nat) (h1 : stepFl qn x ≤ fs) (h2 : fs < stepFh qn x) : stepIt qn fs = x := by
  unfold stepFl at h1; unfold stepFh at h2; unfold stepIt
  generalize qn / 2 = x0 at *
  split at h1 <;> split at h2 <;> split <;> omega

end OpusProofs.Pdf
