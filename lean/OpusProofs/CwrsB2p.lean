import OpusModel.Cwrs
/-
  OpusProofs.CwrsB2p — what the binary search of `bits2pulses` (rate.h:53-78) returns, for ANY cache row that is
  non-decreasing and has at most 63 entries (that the regenerated rows are such: `CwrsCache.row_at`).
-/
namespace OpusProofs.CwrsB2p
open Opus Opus.Cwrs Opus.Rate
open Opus.Gen.CeltTables

/-! ## The binary search -/

/-- one iteration of the `for (i=0;i<LOG_MAX_PSEUDO;i++)` loop -/
def b2pStep (row : Nat → Nat) (b : Int) (lo hi : Nat) : Nat × Nat :=
  if (row ((lo + hi + 1) / 2) : Int) ≥ b then (lo, (lo + hi + 1) / 2) else ((lo + hi + 1) / 2, hi)

theorem b2pLoop_succ (row : Nat → Nat) (b : Int) (it lo hi : Nat) :
    b2pLoop row b (it + 1) lo hi = b2pLoop row b it (b2pStep row b lo hi).1 (b2pStep row b lo hi).2 := by
  simp only [b2pLoop, b2pStep]
  split <;> rfl

/-! Whatever the row, the result is at most `row 0`. -/

theorem b2pLoop_le (row : Nat → Nat) (bits : Int) : ∀ (n lo hi : Nat), lo ≤ hi →
    (b2pLoop row bits n lo hi).1 ≤ hi ∧ (b2pLoop row bits n lo hi).2 ≤ hi
  | 0, lo, hi, h => by unfold b2pLoop; exact ⟨h, Nat.le_refl _⟩
  | n + 1, lo, hi, h => by
    unfold b2pLoop
    dsimp only
    split
    · have := b2pLoop_le row bits n lo ((lo + hi + 1) / 2) (by omega)
      omega
    · exact b2pLoop_le row bits n ((lo + hi + 1) / 2) hi (by omega)

theorem ite_le {c : Prop} [Decidable c] {a b m : Nat} (ha : a ≤ m) (hb : b ≤ m) : (if c then a else b) ≤ m := by
  split <;> assumption

theorem bits2pulsesRow_le (row : Nat → Nat) (bits : Int) : bits2pulsesRow row bits ≤ row 0 := by
  unfold bits2pulsesRow
  dsimp only
  have := b2pLoop_le row (bits - 1) LOG_MAX_PSEUDO 0 (row 0) (by omega)
  exact ite_le this.1 this.2

/-- loop invariant: everything up to `lo` is below the budget; `hi` is either still the initial `K` or has been
    tested to reach the budget -/
structure Inv (row : Nat → Nat) (b : Int) (K lo hi : Nat) : Prop where
  le : lo ≤ hi
  hiK : hi ≤ K
  below : ∀ q, 1 ≤ q → q ≤ lo → (row q : Int) < b
  above : hi = K ∨ (1 ≤ hi ∧ b ≤ (row hi : Int))

/-- width of the bracket, plus one while `hi` has not been shown to reach the budget -/
def mu (row : Nat → Nat) (b : Int) (lo hi : Nat) : Nat := hi - lo + (if b ≤ (row hi : Int) then 0 else 1)

theorem step_inv {row : Nat → Nat} {b : Int} {K lo hi : Nat}
    (hm : ∀ q q', 1 ≤ q → q ≤ q' → q' ≤ K → row q ≤ row q') (h : Inv row b K lo hi) :
    Inv row b K (b2pStep row b lo hi).1 (b2pStep row b lo hi).2 ∧
    mu row b (b2pStep row b lo hi).1 (b2pStep row b lo hi).2 * 2 ≤ mu row b lo hi + 1 := by
  obtain ⟨hle, hK, hbelow, habove⟩ := h
  unfold b2pStep
  generalize hmid : (lo + hi + 1) / 2 = mid
  by_cases hc : (row mid : Int) ≥ b
  · rw [if_pos hc]
    refine ⟨⟨by omega, by omega, hbelow, ?_⟩, ?_⟩
    · by_cases h0 : hi = 0
      · left; rcases habove with h | h <;> omega
      · right; exact ⟨by omega, hc⟩
    · simp only [mu, if_pos hc]
      split <;> omega
  · rw [if_neg hc]
    refine ⟨⟨by omega, hK, ?_, habove⟩, ?_⟩
    · intro q h1 h2
      have := hm q mid h1 h2 (by omega)
      omega
    · simp only [mu]
      split <;> omega

theorem loop_inv {row : Nat → Nat} {b : Int} {K : Nat}
    (hm : ∀ q q', 1 ≤ q → q ≤ q' → q' ≤ K → row q ≤ row q') : ∀ n lo hi, Inv row b K lo hi →
    Inv row b K (b2pLoop row b n lo hi).1 (b2pLoop row b n lo hi).2 ∧
    mu row b (b2pLoop row b n lo hi).1 (b2pLoop row b n lo hi).2 * 2 ^ n ≤ mu row b lo hi + 2 ^ n - 1 := by
  intro n
  induction n with
  | zero => intro lo hi h; exact ⟨h, by simp [b2pLoop]⟩
  | succ n ih =>
    intro lo hi h
    obtain ⟨h1, h2⟩ := step_inv hm h
    obtain ⟨h3, h4⟩ := ih _ _ h1
    rw [b2pLoop_succ]
    refine ⟨h3, ?_⟩
    rw [Nat.pow_succ, ← Nat.mul_assoc]
    generalize mu row b (b2pLoop row b n (b2pStep row b lo hi).1 (b2pStep row b lo hi).2).1
      (b2pLoop row b n (b2pStep row b lo hi).1 (b2pStep row b lo hi).2).2 * 2 ^ n = A at *
    omega

/-- **What `bits2pulses` returns** on a cache row `row` (`row 0 = K ≤ 63` entries, non-decreasing on `1..K`; 63 because the
    `LOG_MAX_PSEUDO = 6` halvings bring a bracket measure `mu ≤ K + 1 ≤ 64` down to 1), with
    `c(0) = -1`, `c(p) = row p` (so `pulses2bits(p) = c(p) + 1`) and `b = bits - 1`:
    * never more than `K`;
    * `K` when every entry is below `b`;
    * otherwise, with `h` the least index whose entry reaches `b`: `h-1` if `b - c(h-1) ≤ c(h) - b`, else `h` —
      the nearer of the two neighbours of the budget, the LOWER one on a tie. -/
theorem bits2pulsesRow_spec (row : Nat → Nat) (K : Nat) (hK : row 0 = K) (hK63 : K ≤ 63)
    (hm : ∀ q q', 1 ≤ q → q ≤ q' → q' ≤ K → row q ≤ row q') (bits : Int) :
    bits2pulsesRow row bits ≤ K ∧
    ((∀ p, 1 ≤ p → p ≤ K → (row p : Int) < bits - 1) → bits2pulsesRow row bits = K) ∧
    (∀ h, 1 ≤ h → h ≤ K → bits - 1 ≤ (row h : Int) → (∀ p, 1 ≤ p → p < h → (row p : Int) < bits - 1) →
      bits2pulsesRow row bits =
        if (bits - 1) - (if h = 1 then -1 else (row (h - 1) : Int)) ≤ (row h : Int) - (bits - 1) then h - 1 else h) := by
  refine ⟨hK ▸ bits2pulsesRow_le row bits, ?_⟩
  have h0 : Inv row (bits - 1) K 0 K := ⟨Nat.zero_le _, Nat.le_refl _, fun q h1 h2 => by omega, Or.inl rfl⟩
  obtain ⟨hinv, hmu⟩ := loop_inv hm 6 0 K h0
  have hL : LOG_MAX_PSEUDO = 6 := by decide
  unfold bits2pulsesRow
  simp only [hL, hK]
  generalize (b2pLoop row (bits - 1) 6 0 K).1 = lo at *
  generalize (b2pLoop row (bits - 1) 6 0 K).2 = hi at *
  obtain ⟨hle, hhiK, hbelow, habove⟩ := hinv
  have hmu1 : mu row (bits - 1) lo hi ≤ 1 := by
    have : mu row (bits - 1) 0 K ≤ 64 := by simp only [mu]; split <;> omega
    have e : (2 : Nat) ^ 6 = 64 := by decide
    rw [e] at hmu
    omega
  have hgap : hi ≤ lo + 1 := by simp only [mu] at hmu1; split at hmu1 <;> omega
  have htested : hi = lo + 1 → bits - 1 ≤ (row hi : Int) := by
    intro e; simp only [mu] at hmu1; split at hmu1
    · assumption
    · omega
  refine ⟨?_, ?_⟩
  · intro hall
    have hhi : hi = K := by
      rcases habove with h | ⟨h1, h2⟩
      · exact h
      · have := hall hi h1 hhiK; omega
    have hlo : lo = hi := by
      apply Decidable.byContradiction; intro hne
      have h1 := htested (by omega)
      have := hall hi (by omega) hhiK
      omega
    rw [hlo, ite_self]
    exact hhi
  · intro h h1 hhK hreach hmin
    have hlo : lo < h := by
      apply Decidable.byContradiction; intro hge
      have := hbelow h h1 (by omega); omega
    have hhi : h ≤ hi := by
      apply Decidable.byContradiction; intro hlt
      rcases habove with e | ⟨e1, e2⟩
      · omega
      · have := hmin hi e1 (by omega); omega
    obtain rfl : hi = h := by omega
    obtain rfl : lo = hi - 1 := by omega
    simp only [show hi - 1 = 0 ↔ hi = 1 by omega]

end OpusProofs.CwrsB2p
