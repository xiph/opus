import OpusModel.SilkStereo
/-
  OpusProofs.SilkStereoTab — facts about the complete regenerated tables of slice C18 Stereo, by kernel evaluation.
-/
namespace OpusProofs.SilkStereoTab
open Opus Opus.SilkParams Opus.SilkStereo

/-- `l` is strictly increasing (adjacent comparison over the whole list). -/
def strictIncr : List Int → Bool
  | [] => true
  | [_] => true
  | a :: b :: r => decide (a < b) && strictIncr (b :: r)

/-- The adjacent comparison decides strict monotonicity (`<` is transitive). -/
theorem strictIncr_pairwise : ∀ {l : List Int}, strictIncr l = true → l.Pairwise (· < ·)
  | [], _ => .nil
  | [_], _ => List.pairwise_singleton _ _
  | a :: b :: r, h => by
    simp only [strictIncr, Bool.and_eq_true, decide_eq_true_eq] at h
    have ih := strictIncr_pairwise h.2
    exact List.pairwise_cons.mpr ⟨fun x hx => by
      rcases List.mem_cons.mp hx with rfl | hx
      · exact h.1
      · exact Int.lt_trans h.1 ((List.pairwise_cons.mp ih).1 x hx), ih⟩

theorem tab_consts : tab.length = 16 ∧ tabSize = 16 ∧ subSteps = 5 ∧ halfSubStepQ16 = 6554 ∧ int32Max = 2147483647 := by
  decide +kernel

theorem tab_strictIncr : strictIncr tab = true := by decide +kernel

theorem tab_symmetric : (List.range 16).all (fun i => tab.getD (15 - i) 0 == - tab.getD i 0) = true := by decide +kernel

theorem tab_int16 : tab.all (fun v => decide (-32768 ≤ v ∧ v ≤ 32767)) = true := by decide +kernel

theorem levels_length : levels.length = 75 ∧ visitOrder.length = 75 := by decide +kernel

theorem levels_strictIncr : strictIncr levels = true := by decide +kernel

/-- Every step is positive, fits 16 bits, and ten half-sub-steps do not exceed the table interval. -/
theorem steps_fit : (List.range 15).all (fun i => decide (0 < step i ∧ step i ≤ 368 ∧ 10 * step i ≤ low (i + 1) - low i ∧
    low (i + 1) - low i - 10 * step i ≤ 9)) = true := by decide +kernel

/-- Adjacent entries of the list are at most `g` apart. -/
def gapsLe (g : Int) : List Int → Bool
  | [] => true
  | [_] => true
  | a :: b :: r => decide (b - a ≤ g) && gapsLe g (b :: r)

/-- Adjacent levels are at most 736 (= 2 * 368) apart. -/
theorem levels_gaps : gapsLe 736 levels = true := by decide +kernel

theorem levels_ends : levels.head? = some (-13364) ∧ levels.getLast? = some 13362 := by decide +kernel

/-- The level grid is the mirror image of itself up to the rounding remainder of the step (0..9). -/
theorem levels_mirror : (List.range 75).all (fun k => decide (0 ≤ -(levels.getD k 0) - levels.getD (74 - k) 0 ∧
    -(levels.getD k 0) - levels.getD (74 - k) 0 ≤ 9)) = true := by decide +kernel

/-- `l` is strictly decreasing (adjacent comparison). -/
def strictDecr : List Nat → Bool
  | [] => true
  | [_] => true
  | a :: b :: r => decide (b < a) && strictDecr (b :: r)

/-- iCDF tables: sizes, strictly decreasing, final 0 (so that every symbol below the size has non-zero probability). -/
theorem icdf_tables :
    Gen.SilkStereoTabs.predJointIcdf.length = 25 ∧ Gen.SilkStereoTabs.uniform3Icdf.length = 3 ∧
    Gen.SilkStereoTabs.uniform5Icdf.length = 5 ∧ Gen.SilkStereoTabs.onlyCodeMidIcdf.length = 2 ∧
    strictDecr (256 :: Gen.SilkStereoTabs.predJointIcdf) = true ∧ strictDecr (256 :: Gen.SilkStereoTabs.uniform3Icdf) = true ∧
    strictDecr (256 :: Gen.SilkStereoTabs.uniform5Icdf) = true ∧ strictDecr (256 :: Gen.SilkStereoTabs.onlyCodeMidIcdf) = true ∧
    Gen.SilkStereoTabs.predJointIcdf.getLast? = some 0 ∧ Gen.SilkStereoTabs.uniform3Icdf.getLast? = some 0 ∧
    Gen.SilkStereoTabs.uniform5Icdf.getLast? = some 0 ∧ Gen.SilkStereoTabs.onlyCodeMidIcdf.getLast? = some 0 := by
  decide +kernel

/-- The dequantiser on every index triple: defined, and the value is the level `(a + 3c, b)`, inside the span. -/
theorem decodeOne_all : (List.range 3).all (fun a => (List.range 5).all fun b => (List.range 5).all fun c =>
    decodeOne a b c == .ok (level (a + 3 * c) b) && decide (-13364 ≤ level (a + 3 * c) b ∧ level (a + 3 * c) b ≤ 13362)) = true := by
  decide +kernel

end OpusProofs.SilkStereoTab
