import OpusModel.SilkStereo
import OpusProofs.SilkSymsFlags
/-
  OpusProofs.SilkStereoSym — whatever the range decoder's state, the symbol layer's `silk_stereo_decode_pred`
  (OpusModel/SilkSyms.lean) yields indices below the iCDF table sizes, hence in-range predictors.
-/
namespace OpusProofs.SilkStereoSym
open Opus Opus.RangeCoder Opus.SilkParams Opus.SilkStereo Opus.SilkSyms Opus.SilkSymsProofs Opus.SilkSymsFrozen.Icdf

/-- The walk over the five reads is `stereoIxG_rd` of the symbol layer, at the trivial invariant.  The tables stay variables
    here: with the literal iCDF tables in the goal the kernel unfolds them. -/
theorem decode_anyG (tj t3 t5 : List Nat) (hj : Slice tj 25) (h3 : Slice t3 3) (h5 : Slice t5 5) (c : Dec) :
    ∃ n a0 b0 a1 b1 : Nat, n < 25 ∧ a0 < 3 ∧ b0 < 5 ∧ a1 < 3 ∧ b1 < 5 ∧
      (stereoDecodePredG tj t3 t5 c).1 = stereoMk n a0 b0 a1 b1 := by
  unfold stereoDecodePredG
  rcases h : stereoIxG tj t3 t5 c with ⟨⟨n, a0, a1, b0, b1⟩, c'⟩
  have := (stereoIxG_rd readInv_true tj t3 t5 hj h3 h5 c trivial n a0 a1 b0 b1 c' h).1
  exact ⟨n, a0, a1, b0, b1, by omega, by omega, by omega, by omega, by omega, rfl⟩

theorem decode_any (c : Dec) :
    ∃ n a0 b0 a1 b1 : Nat, n < 25 ∧ a0 < 3 ∧ b0 < 5 ∧ a1 < 3 ∧ b1 < 5 ∧
      (stereoDecodePred c).1 = stereoMk n a0 b0 a1 b1 :=
  decode_anyG _ _ _ sl_stereoJoint sl_uniform3 sl_uniform5 c

/-- The symbol layer's dequantiser (OpusModel/SilkSyms.lean `stereoDequant`, over its frozen copy of the table) computes
    the levels of this model (75 pairs, kernel evaluation). -/
theorem stereoDequant_level : ∀ i ∈ List.range 15, ∀ j ∈ List.range 5, stereoDequant i j = level i j := by
  decide +kernel

end OpusProofs.SilkStereoSym
