import OpusProofs.CeltAllocSplit
import OpusProofs.CeltAllocMain
/-
  OpusProofs.CeltAllocFinal — coding of the intensity / dual-stereo parameters in two stages, the distribution of the
  left-over bits, and the main theorem about `clt_compute_allocation`: total on its domain, outputs in range, every
  1/8 bit of the budget accounted for.
-/
namespace OpusProofs.CeltAlloc
open Opus Opus.CeltAlloc
open Opus.Gen.CeltTables

/-- the intensity stage of `codeStereo` (rate.c:395-406): the parameter and the coder after it -/
def icOf (p : Inp) (s : SkipOut) : Int × Coder :=
  if s.irsv > 0 then
    if s.coder.encode then
      (min p.intensity s.codedBands,
        s.coder.encUint (min p.intensity s.codedBands - p.start).toNat (s.codedBands + 1 - p.start))
    else ((p.start : Int) + (s.coder.decUint (s.codedBands + 1 - p.start)).1,
        (s.coder.decUint (s.codedBands + 1 - p.start)).2)
  else (0, s.coder)

/-- the dual-stereo stage (rate.c:412-420), entered with the reservation that is left -/
def dcOf (p : Inp) (c : Coder) (ds : Int) : Int × Coder :=
  if ds > 0 then
    if c.encode then (p.dualStereo, c.encBit (if p.dualStereo ≠ 0 then 1 else 0))
    else ((c.decBit.1 : Int), c.decBit.2)
  else (0, c)

theorem codeStereo_eq (p : Inp) (s : SkipOut) (d : Int) : codeStereo p s d =
    ((icOf p s).1, (dcOf p (icOf p s).2 (if (icOf p s).1 ≤ p.start then 0 else d)).1,
     (if (icOf p s).1 ≤ p.start then s.total + d else s.total),
     (dcOf p (icOf p s).2 (if (icOf p s).1 ≤ p.start then 0 else d)).2) := rfl

/-- the intensity stage makes no call, or one `uint` call with `ft = codedBands+1-start` -/
theorem icOf_coder (p : Inp) (s : SkipOut) :
    (¬ s.irsv > 0 ∧ icOf p s = (0, s.coder)) ∨
    (s.irsv > 0 ∧ ∃ v, (icOf p s).2.ops = .uint v (s.codedBands + 1 - p.start) :: s.coder.ops ∧
      (icOf p s).2.encode = s.coder.encode) := by
  unfold icOf
  by_cases hpos : s.irsv > 0
  · refine Or.inr ⟨hpos, ?_⟩
    rw [if_pos hpos]
    by_cases he : s.coder.encode = true
    · rw [if_pos he]; exact ⟨_, rfl, rfl⟩
    · rw [if_neg he]; exact ⟨_, rfl, rfl⟩
  · exact Or.inl ⟨hpos, by rw [if_neg hpos]⟩

/-- the dual-stereo stage makes no call, or one flag -/
theorem dcOf_coder (p : Inp) (c : Coder) (ds : Int) :
    (¬ ds > 0 ∧ dcOf p c ds = (0, c)) ∨
    (ds > 0 ∧ ∃ v, v ≤ 1 ∧ (dcOf p c ds).2.ops = .bit v :: c.ops ∧ (dcOf p c ds).2.encode = c.encode) := by
  unfold dcOf
  by_cases hpos : ds > 0
  · refine Or.inr ⟨hpos, ?_⟩
    rw [if_pos hpos]
    by_cases he : c.encode = true
    · rw [if_pos he]; exact ⟨_, ite_le_one _, rfl, rfl⟩
    · rw [if_neg he]; exact ⟨_, Nat.le_of_lt_succ (Nat.mod_lt _ (by omega)), rfl, rfl⟩
  · exact Or.inl ⟨hpos, by rw [if_neg hpos]⟩

/-- "code the intensity and dual stereo parameters" makes at most two calls, the `uint` one with `ft = codedBands+1-start` -/
theorem codeStereo_ops (p : Inp) (s : SkipOut) (d : Int) :
    ∃ pre, (codeStereo p s d).2.2.2.ops = pre ++ s.coder.ops ∧ pre.length ≤ 2 ∧
      ∀ v ft, Op.uint v ft ∈ pre → ft = s.codedBands + 1 - p.start := by
  rw [codeStereo_eq]
  obtain ⟨pre1, h1, l1, u1⟩ : ∃ pre, (icOf p s).2.ops = pre ++ s.coder.ops ∧ pre.length ≤ 1 ∧
      ∀ v ft, Op.uint v ft ∈ pre → ft = s.codedBands + 1 - p.start := by
    rcases icOf_coder p s with ⟨_, he⟩ | ⟨_, v, hops, _⟩
    · exact ⟨[], by rw [he]; rfl, by simp, by simp⟩
    · exact ⟨[_], hops, by simp, by simp⟩
  generalize icOf p s = ic at *
  rcases dcOf_coder p ic.2 (if ic.1 ≤ p.start then 0 else d) with ⟨_, he⟩ | ⟨_, v, _, hops, _⟩
  · exact ⟨pre1, by simp only [he]; exact h1, by omega, u1⟩
  · exact ⟨.bit v :: pre1, by simp only [hops, h1, List.cons_append], by simp only [List.length_cons]; omega,
      fun v' ft hm => u1 v' ft (by simpa using hm)⟩

theorem icOf_range (p : Inp) (s : SkipOut) (hcb : p.start < s.codedBands)
    (henc : s.coder.encode = true → 0 ≤ p.intensity) : 0 ≤ (icOf p s).1 ∧ (icOf p s).1 ≤ s.codedBands := by
  unfold icOf
  split
  · split
    · rename_i he
      have := henc he
      exact ⟨by omega, by omega⟩
    · have hm : s.coder.oracle.headD 0 % (s.codedBands + 1 - p.start) < s.codedBands + 1 - p.start :=
        Nat.mod_lt _ (by omega)
      simp only [Coder.decUint]
      exact ⟨by omega, by omega⟩
  · exact ⟨by omega, by omega⟩

theorem dcOf_range (p : Inp) (c : Coder) (ds : Int) (henc : c.encode = true → p.dualStereo = 0 ∨ p.dualStereo = 1) :
    (dcOf p c ds).1 = 0 ∨ (dcOf p c ds).1 = 1 := by
  unfold dcOf
  split
  · split
    · rename_i he
      exact henc he
    · have hm : c.oracle.headD 0 % 2 < 2 := Nat.mod_lt _ (by omega)
      simp only [Coder.decBit]
      omega
  · exact Or.inl rfl

theorem codeStereo_spec (p : Inp) (s : SkipOut) (d : Int) (hd : d = 0 ∨ d = 8)
    (hcb : p.start < s.codedBands)
    (hir : 0 ≤ s.irsv) (hirCb : 0 < s.irsv → s.irsv = (log2FracTable.getD (s.codedBands - p.start) 0 : Int))
    (henc : s.coder.encode = true → (p.dualStereo = 0 ∨ p.dualStereo = 1) ∧ 0 ≤ p.intensity) :
    let st := codeStereo p s d
    0 ≤ st.1 ∧ st.1 ≤ s.codedBands ∧ (st.2.1 = 0 ∨ st.2.1 = 1) ∧
    s.total ≤ st.2.2.1 ∧ st.2.2.1 ≤ s.total + d ∧
    st.2.2.1 + opsCost st.2.2.2.ops = s.total + d + s.irsv + opsCost s.coder.ops ∧
    st.2.2.2.encode = s.coder.encode := by
  intro st
  simp only [st, codeStereo_eq]
  obtain ⟨h1, h2⟩ := icOf_range p s hcb (fun he => (henc he).2)
  -- the intensity call is charged `LOG2_FRAC_TABLE[ft-1]`, which is the reservation
  have h3 : opsCost (icOf p s).2.ops = opsCost s.coder.ops + s.irsv ∧ (icOf p s).2.encode = s.coder.encode := by
    rcases icOf_coder p s with ⟨hn, he⟩ | ⟨hpos, v, hops, he⟩
    · simp only [he]; exact ⟨by omega, trivial⟩
    · rw [hops, opsCost_cons, opCost, hirCb hpos, show s.codedBands + 1 - p.start - 1 = s.codedBands - p.start by omega]
      exact ⟨by omega, he⟩
  generalize icOf p s = ic at *
  have h5 := fun ds => dcOf_range p ic.2 ds (fun he => (henc (by rw [← h3.2]; exact he)).1)
  -- the dual-stereo flag costs the 8 that were reserved for it; they go back to `total` when it is not coded
  by_cases hle : ic.1 ≤ (p.start : Int)
  · simp only [if_pos hle]
    rcases dcOf_coder p ic.2 0 with ⟨_, he⟩ | ⟨hpos, _⟩
    · simp only [he]
      exact ⟨h1, h2, Or.inl trivial, by omega, by omega, by omega, h3.2⟩
    · exact absurd hpos (by omega)
  · simp only [if_neg hle]
    rcases dcOf_coder p ic.2 d with ⟨hn, he⟩ | ⟨hpos, v, _, hops, he⟩
    · simp only [he]
      exact ⟨h1, h2, Or.inl trivial, by omega, by omega, by omega, h3.2⟩
    · rw [hops, opsCost_cons, opCost, he]
      exact ⟨h1, h2, h5 d, by omega, by omega, by omega, h3.2⟩

theorem sumBits_reverse (l : List (Band × Int)) : sumBits l.reverse = sumBits l := by
  induction l with
  | nil => rfl
  | cons x t ih => simp only [List.reverse_cons, sumBits_append, ih, sumBits]; omega

theorem sumW_append (a b : List (Band × Int)) : sumW (a ++ b) = sumW a + sumW b := by
  induction a with
  | nil => simp [sumW]
  | cons x t ih => simp only [List.cons_append, sumW, ih]; omega

theorem sumW_reverse (l : List (Band × Int)) : sumW l.reverse = sumW l := by
  induction l with
  | nil => rfl
  | cons x t ih => simp only [List.reverse_cons, sumW_append, ih, sumW]; omega

theorem addq_spec (q : Int) : ∀ (l : List (Band × Int)),
    (l.map fun x => (x.1, x.2 + q * (x.1.w : Int))).map (·.1) = l.map (·.1) ∧
    sumW (l.map fun x => (x.1, x.2 + q * (x.1.w : Int))) = sumW l ∧
    sumBits (l.map fun x => (x.1, x.2 + q * (x.1.w : Int))) = sumBits l + q * (sumW l : Int) := by
  intro l
  induction l with
  | nil => simp [sumW, sumBits]
  | cons x t ih =>
    obtain ⟨h1, h2, h3⟩ := ih
    simp only [List.map_cons, h1, sumW, h2, sumBits, h3]
    refine ⟨trivial, trivial, ?_⟩
    have : q * ((x.1.w + sumW t : Nat) : Int) = q * (x.1.w : Int) + q * (sumW t : Int) := by
      rw [Int.natCast_add, Int.mul_add]
    omega

theorem distribute_spec (p : Inp) (s : SkipOut) (total : Int)
    (hnn : ∀ x ∈ s.kept, 0 ≤ x.2) (hle : s.psum ≤ total) (hB : total - s.psum < 2147483648)
    (hw : ((eBands.getD s.codedBands 0 - eBands.getD p.start 0 : Nat) : Int) = (sumW s.kept : Int))
    (hw1 : 1 ≤ sumW s.kept) :
    (distribute p s total).map (·.1) = s.kept.reverse.map (·.1) ∧ (∀ x ∈ distribute p s total, 0 ≤ x.2) ∧
    sumBits (distribute p s total) = sumBits s.kept + (total - s.psum) := by
  unfold distribute
  simp only [hw]
  generalize hL : total - s.psum = L at *
  generalize hW : (sumW s.kept : Int) = W at *
  have hWpos : 0 < W := by omega
  rw [udiv_eq (by omega) hB hWpos]
  have hq0 : 0 ≤ L / W := Int.ediv_nonneg (by omega) (by omega)
  have e : L - W * (L / W) = L % W := (Int.emod_def L W).symm
  rw [e]
  have hm0 : 0 ≤ L % W := Int.emod_nonneg _ (by omega)
  have hm1 : L % W < W := Int.emod_lt_of_pos _ hWpos
  obtain ⟨a1, a2, a3⟩ := addq_spec (L / W) s.kept.reverse
  have hnn' : ∀ x ∈ (s.kept.reverse.map fun x => (x.1, x.2 + L / W * (x.1.w : Int))), 0 ≤ x.2 := by
    intro x hx
    simp only [List.mem_map, List.mem_reverse] at hx
    obtain ⟨y, hy, rfl⟩ := hx
    have := hnn y hy
    have : 0 ≤ L / W * (y.1.w : Int) := Int.mul_nonneg hq0 (by omega)
    simp only; omega
  obtain ⟨b1, b2, b3⟩ := spread_spec _ (L % W) hm0 hnn'
  refine ⟨by rw [b1, a1], b2, ?_⟩
  rw [b3, a3, a2, sumBits_reverse, sumW_reverse, hW]
  have hmul : L / W * W = W * (L / W) := Int.mul_comm _ _
  omega

theorem AllOkB_append (p : Inp) : ∀ (a : List Band) (oa : List BandOut) (b : List Band) (ob : List BandOut),
    AllOkB p a oa → AllOkB p b ob → AllOkB p (a ++ b) (oa ++ ob) := by
  intro a
  induction a with
  | nil =>
    intro oa b ob h1 h2
    cases oa with
    | nil => exact h2
    | cons o os => exact h1.elim
  | cons x t ih =>
    intro oa b ob h1 h2
    cases oa with
    | nil => simp [AllOkB] at h1
    | cons o os => exact ⟨h1.1, ih os b ob h1.2 h2⟩

theorem AllOkB_length (p : Inp) : ∀ (a : List Band) (oa : List BandOut), AllOkB p a oa → oa.length = a.length := by
  intro a
  induction a with
  | nil =>
    intro oa h
    cases oa with
    | nil => rfl
    | cons o os => exact h.elim
  | cons x t ih =>
    intro oa h
    cases oa with
    | nil => simp [AllOkB] at h
    | cons o os => simp [ih os h.2]


theorem skipped_spec (p : Inp) (hC : p.C = 1 ∨ p.C = 2) : ∀ (l : List (Band × Int)),
    (∀ x ∈ l, x.2 = allocFloor p.C ∨ x.2 = 0) → (∀ x ∈ l, 0 ≤ x.1.cap) →
    AllOkB p (l.map (·.1)) (l.map fun x => skippedOut p x.2) ∧
    sumOut (p.C : Int) (l.map fun x => skippedOut p x.2) = sumBits l := by
  intro l
  induction l with
  | nil => intro _ _; simp [AllOkB, sumOut, sumBits]
  | cons x t ih =>
    intro h1 h2
    obtain ⟨i1, i2⟩ := ih (fun y hy => h1 y (by simp [hy])) (fun y hy => h2 y (by simp [hy]))
    obtain ⟨s1, s2, s3, s4, s5⟩ := skippedOut_spec p hC x.2 (h1 x (by simp))
    have hc := h2 x (by simp)
    have hcl : 0 ≤ capLimit p x.1 := by
      unfold capLimit; split
      · exact hc
      · rcases hC with h | h <;> rw [h] <;> decide
    simp only [List.map_cons, AllOkB, sumOut, sumBits, i2]
    exact ⟨⟨⟨by omega, by omega, s2, by omega, s4⟩, i1⟩, by omega⟩

/-- On its domain `clt_compute_allocation` returns normally (no assertion, the band-skipping loop
    and both bisections terminate), `codedBands ∈ (start, end]`, `0 ≤ intensity ≤ codedBands`, `dual_stereo ∈ {0,1}`,
    `balance ≥ 0`; every band has `0 ≤ pulses ≤ cap` (one sign bit per channel for N = 1), `0 ≤ ebits ≤ MAX_FINE_BITS`,
    `fine_priority ∈ {0,1}`; and the budget is met EXACTLY:
    `Σ (pulses[j] + C·ebits[j]<<BITRES) + balance + (cost of the signalling) = max(total, 0)`. -/
theorem alloc_main (p : Inp) (hp : Dom p) (c : Coder)
    (henc : c.encode = true → (p.dualStereo = 0 ∨ p.dualStereo = 1) ∧ 0 ≤ p.intensity) :
    ∃ o, computeAllocation p c = .ok o ∧
      p.start < o.codedBands ∧ o.codedBands ≤ p.end_ ∧
      0 ≤ o.intensity ∧ o.intensity ≤ o.codedBands ∧ (o.dualStereo = 0 ∨ o.dualStereo = 1) ∧
      0 ≤ o.balance ∧ AllOkB p (bands p) o.bands ∧
      sumOut (p.C : Int) o.bands + o.balance + opsCost o.ops = max p.total 0 + opsCost c.ops := by
  obtain ⟨i0, i37, _, hr, hsmall, hds⟩ := irsv_facts hp
  obtain ⟨s, hs, _⟩ : ∃ s, skipRun p c = .ok s ∧ _ := skipLoop_ok p _ _ _ _ _ _ c [] (l0_hex hp)
  have out := skipLoop_out p hp (irsv p) _ _ hr _ _ _ _ c [] s hs (l0_hex hp) (l0_inv hp) hsmall
  refine ⟨_, (computeAllocation_ok_iff p c _).2 ⟨s, hs, rfl⟩, ?_⟩
  -- the loop only moves bands from the kept list to the skipped one: in the order of the output they are `bands p`, so
  -- whatever is needed of a band comes from `mem_bands`, `band_ok`
  have hall : s.kept.reverse.map (·.1) ++ s.skipped.map (·.1) = bands p := by
    rw [out.spec.bands_eq, List.map_reverse, l0_fst, ← bands_reverse, List.reverse_reverse, List.map_nil, List.append_nil]
  have hsk : ∀ x ∈ s.skipped, x.1 ∈ bands p := fun x hx => by
    rw [← hall]; exact List.mem_append_right _ (List.mem_map_of_mem hx)
  obtain ⟨hd, tl, hkeq⟩ := List.exists_cons_of_ne_nil out.spec.kept_ne
  have hhd : s.kept.head? = some hd := by rw [hkeq]; rfl
  have hdm : hd.1 ∈ bands p := by
    rw [← hall, hkeq]; exact List.mem_append_left _ (List.mem_map_of_mem (by simp))
  have hcbv : s.codedBands = hd.1.j + 1 := out.spec.cb hd hhd
  obtain ⟨g1, g2, _⟩ := mem_bands hdm
  obtain ⟨hw1, _, e4⟩ := band_ok hp hdm
  have hcb1 : p.start < s.codedBands := by omega
  have hcb2 : s.codedBands ≤ p.end_ := by omega
  obtain ⟨t1, t2, t3, t4, t5, t6, _⟩ := codeStereo_spec p s (dsrsv p) hds hcb1 out.irB.1 out.irCb
    (by rw [out.enc]; exact henc)
  generalize hst : codeStereo p s (dsrsv p) = st at *
  have hsk_nn : 0 ≤ sumBits s.kept := sumBits_nonneg _ out.kept_nn
  have hwsum := out.wsum hd hhd
  have hw : ((eBands.getD s.codedBands 0 - eBands.getD p.start 0 : Nat) : Int) = (sumW s.kept : Int) := by
    rw [hwsum, e4, hcbv]
  have hlow := out.low
  have htotB := out.totB
  have hirB := out.irB
  obtain ⟨d1, d2, d3⟩ := distribute_spec p s st.2.2.1 out.kept_nn (by have := out.le; omega) (by omega) hw
    (by rw [hwsum]; omega)
  rw [← d1] at hall
  obtain ⟨k1, k2, k3⟩ := splitLoop_spec p hp st.1 st.2.1 _ 0
    (fun x hx => by
      have hb := band_ok hp (show x.1 ∈ bands p by rw [← hall]; exact List.mem_append_left _ (List.mem_map_of_mem hx))
      exact ⟨d2 x hx, hb.1, hb.2.1⟩)
    (Int.le_refl 0)
  obtain ⟨q1, q2⟩ := skipped_spec p hp.hC s.skipped
    (fun x hx => (out.skipped x hx).resolve_left (by simp))
    (fun x hx => (band_ok hp (hsk x hx)).2.1)
  -- the one idea: what the loop accounts for (`out.account`), the stereo parameters (`t6`), the left-over bits (`d3`), the
  -- split (`k3`) and the skipped bands (`q2`) telescope to the budget
  have hacc := out.account
  simp only [sumBits] at hacc
  have hl0sum : sumBits (l0 p) = sumInt (bits0 p) := sumBits_zip _ _ (bits0_length p).symm
  have htot0 := (tot_le_tot0 p).2
  unfold tot0 at htot0
  simp only [finishTail, hst]
  refine ⟨hcb1, hcb2, t1, t2, t3, k2, ?_, ?_⟩
  · rw [← hall]
    exact AllOkB_append p _ _ _ _ k1 q1
  · rw [sumOut_append, q2, opsCost_reverse]
    omega


theorem cacheCaps_le (k : Nat) : cacheCaps.getD k 0 ≤ 255 := by
  have h : ∀ x ∈ cacheCaps, x ≤ 255 := by decide +kernel
  rw [List.getD_eq_getElem?_getD]
  cases hx : cacheCaps[k]? with
  | none => exact Nat.zero_le _
  | some x => exact h x (List.mem_of_getElem? hx)

/-- the cap formula of `init_caps` on byte-sized table entries: at most `(255+64)·2·(22·8)/4 = 28072`, stated with the bound
    `Dom.capB` asks for -/
theorem cap_formula_le {a C w LM : Nat} (ha : a ≤ 255) (hC : C ≤ 2) (hw : w ≤ 22) (hLM : LM ≤ 3) :
    (a + 64) * C * (w * 2 ^ LM) / 4 ≤ 16777216 := by
  have h3 : 2 ^ LM ≤ 2 ^ 3 := Nat.pow_le_pow_right (by omega) hLM
  have := Nat.mul_le_mul (Nat.mul_le_mul (show a + 64 ≤ 319 by omega) hC) (Nat.mul_le_mul hw h3)
  have := Nat.div_le_self ((a + 64) * C * (w * 2 ^ LM)) 4
  omega

/-- `init_caps` produces caps inside the domain of the allocation theorems, for every LM and channel count. -/
theorem initCaps_bounds (LM C : Nat) (hLM : LM ≤ 3) (hC : C = 1 ∨ C = 2) (j : Nat) :
    0 ≤ (initCaps LM C).getD j 0 ∧ (initCaps LM C).getD j 0 ≤ 16777216 := by
  unfold initCaps
  rw [List.getD_eq_getElem?_getD, List.getElem?_map]
  cases hj : (List.range nbEBands)[j]? with
  | none => simp
  | some i =>
    have hi : i < 21 := List.mem_range.1 (List.mem_of_getElem? hj)
    have := cap_formula_le (cacheCaps_le (nbEBands * (2 * LM + C - 1) + i)) (show C ≤ 2 by omega) (width_bounds i hi).2 hLM
    simp only [Option.map_some, Option.getD_some]
    omega

end OpusProofs.CeltAlloc
