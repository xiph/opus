import OpusProofs.ExtCount
/-
  `opus_packet_extensions_parse_ext` is the stable sort by frame of
  `opus_packet_extensions_parse` (a counting sort driven by the per-frame counts of `count_ext`).
-/
namespace Opus.ExtProofs
open Opus Opus.Ext

/-- The body of the `parse_ext` loop: the state is `nb_frames_cum[]`, the caller's array and the running count. -/
def placeStep (cap : Int) (a : List Int × Array (Option ExtRef) × Nat) (e : ExtRef) :
    Res (List Int × Array (Option ExtRef) × Nat) :=
  match a.1[e.frame]?, a.1[e.frame + 1]? with
  | some idx, some nxt =>
    if cap ≤ idx then .err .bufferTooSmall
    else if ¬ idx + 1 ≤ nxt then .abort            -- celt_assert(idx < nb_frames_cum[ext.frame+1]) :401
    else if idx < 0 then .oob
    else .ok (a.1.set e.frame (idx + 1), a.2.1.setIfInBounds idx.toNat (some e), a.2.2 + 1)
  | _, _ => .oob

theorem parseExtLoop_turn (cap : Int) (it : Iter) (a : List Int × Array (Option ExtRef) × Nat) :
    parseExtLoop it cap a.1 a.2.1 a.2.2 =
      nextTurn (placeStep cap) (fun a s => if s = .done then .ok (a.2.1, a.2.2) else .err .invalidPacket)
        (fun it a => parseExtLoop it cap a.1 a.2.1 a.2.2) it a := by
  rw [parseExtLoop, nextTurn]; split <;> simp only [*, placeStep]
  · split <;> simp only [*]
    split
    · rfl
    · split
      · rfl
      · split <;> rfl
  · rfl
  · rfl

/-- Extensions of `l` that belong to frame `f`, in order. -/
def ofFrame (l : List ExtRef) (f : Nat) : List ExtRef := l.filter (fun e => e.frame = f)

theorem frameCount_eq (l : List ExtRef) (f : Nat) : frameCount l f = (ofFrame l f).length := rfl

theorem startOf_mono (l : List ExtRef) {a b : Nat} (h : a ≤ b) : startOf l a ≤ startOf l b := by
  induction b with
  | zero => have : a = 0 := by omega
            subst this; exact Nat.le_refl _
  | succ b ih =>
    by_cases hab : a = b + 1
    · subst hab; exact Nat.le_refl _
    · have := ih (by omega); simp only [startOf]; omega

/-- The slots of the counting sort are disjoint: frame `f` owns `[startOf l f, startOf l f + frameCount l f)`. -/
theorem slot_inj (l : List ExtRef) {f g k m : Nat} (hk : k < frameCount l f) (hm : m < frameCount l g)
    (h : startOf l f + k = startOf l g + m) : f = g ∧ k = m := by
  have hs : ∀ a, startOf l (a + 1) = startOf l a + frameCount l a := fun _ => rfl
  rcases Nat.lt_trichotomy f g with hlt | rfl | hgt
  · have := startOf_mono l (show f + 1 ≤ g by omega); have := hs f; omega
  · exact ⟨rfl, by omega⟩
  · have := startOf_mono l (show g + 1 ≤ f by omega); have := hs g; omega

theorem cumCounts_eq (l : List ExtRef) (k a : Nat) :
    cumCounts ((List.range k).map (fun f => ((frameCount l (a + f) : Nat) : Int))) (startOf l a) =
      (List.range (k + 1)).map (fun f => ((startOf l (a + f) : Nat) : Int)) := by
  induction k generalizing a with
  | zero => simp [cumCounts]
  | succ k ih =>
    rw [List.range_succ_eq_map, List.range_succ_eq_map (n := k + 1)]
    simp only [List.map_cons, List.map_map, cumCounts, Nat.add_zero]
    congr 1
    have e1 : ((frameCount l a : Nat) : Int) + ((startOf l a : Nat) : Int) = ((startOf l (a + 1) : Nat) : Int) := by
      simp only [startOf]; push_cast; omega
    rw [e1]
    have := ih (a + 1)
    have e2 : (fun f => ((frameCount l (a + f) : Nat) : Int)) ∘ Nat.succ = fun f => ((frameCount l (a + 1 + f) : Nat) : Int) := by
      funext f; simp only [Function.comp]; congr 2; omega
    have e3 : (fun f => ((startOf l (a + f) : Nat) : Int)) ∘ Nat.succ = fun f => ((startOf l (a + 1 + f) : Nat) : Int) := by
      funext f; simp only [Function.comp]; congr 2; omega
    rw [e2, e3]
    exact this

theorem frameCount_append (p r : List ExtRef) (f : Nat) : frameCount (p ++ r) f = frameCount p f + frameCount r f := by
  simp [frameCount]

theorem getElem?_ofFrame_snoc {p : List ExtRef} {e x : ExtRef} {f k : Nat} (h : (ofFrame (p ++ [e]) f)[k]? = some x) :
    (ofFrame p f)[k]? = some x ∨ (e.frame = f ∧ k = frameCount p f ∧ x = e) := by
  rw [ofFrame, List.filter_append, List.getElem?_append] at h
  split at h
  · exact .inl h
  · right
    by_cases hf : e.frame = f
    · rw [List.filter_cons_of_pos (by simpa using hf), List.filter_nil, List.getElem?_singleton] at h
      split at h
      · exact ⟨hf, by rw [frameCount]; omega, (Option.some.inj h).symm⟩
      · cases h
    · rw [List.filter_cons_of_neg (by simpa using hf)] at h; cases h

/-- `nb_frames_cum[]` after the extensions `p` (a prefix of `l`) have been placed. -/
def cumAfter (l p : List ExtRef) (nbF : Nat) : List Int :=
  (List.range (nbF + 1)).map (fun f => ((startOf l f + frameCount p f : Nat) : Int))

theorem cumAfter_getElem? (l p : List ExtRef) {nbF f : Nat} (hf : f ≤ nbF) :
    (cumAfter l p nbF)[f]? = some ((startOf l f + frameCount p f : Nat) : Int) := by
  simp only [cumAfter, List.getElem?_map]
  rw [List.getElem?_range (by omega)]; rfl

theorem cumAfter_snoc (l p : List ExtRef) (e : ExtRef) (nbF : Nat) :
    (cumAfter l p nbF).set e.frame (((startOf l e.frame + frameCount p e.frame : Nat) : Int) + 1) = cumAfter l (p ++ [e]) nbF := by
  apply List.ext_getElem
  · simp [cumAfter]
  · intro i h1 h2
    simp only [cumAfter, List.getElem_set, List.getElem_map, List.getElem_range, frameCount_append]
    by_cases hi : e.frame = i
    · subst hi; simp [frameCount]; omega
    · simp [hi, frameCount]

/-- The counting sort places every extension of `l = p ++ r` into its frame's slot. -/
theorem placeStep_spec (l : List ExtRef) (nbF : Nat) (cap : Int) (hcap : (startOf l nbF : Int) ≤ cap)
    (hfr : ∀ e ∈ l, e.frame < nbF) :
    ∀ (r p : List ExtRef) (out : Array (Option ExtRef)) (n : Nat), p ++ r = l →
      (∀ f k x, f < nbF → (ofFrame p f)[k]? = some x → out[startOf l f + k]? = some (some x)) →
      (cap.toNat ≤ out.size) →
      ∃ cum' out', foldRes (placeStep cap) (cumAfter l p nbF, out, n) r = .ok (cum', out', n + r.length) ∧ out'.size = out.size ∧
        ∀ f k x, f < nbF → (ofFrame l f)[k]? = some x → out'[startOf l f + k]? = some (some x) := by
  intro r
  induction r with
  | nil =>
    intro p out n hpl hout hsz
    have : p = l := by simpa using hpl
    subst this
    exact ⟨_, out, rfl, rfl, hout⟩
  | cons e r ih =>
    intro p out n hpl hout hsz
    have hf : e.frame < nbF := hfr e (by rw [← hpl]; simp)
    have hle : ∀ g, frameCount p g ≤ frameCount l g := by
      intro g; rw [← hpl, frameCount_append]; omega
    -- `e` goes to the slot `startOf l e.frame + frameCount p e.frame`, which its frame still owns
    have hcnt : frameCount p e.frame < frameCount l e.frame := by
      rw [← hpl, frameCount_append]
      have : 1 ≤ frameCount (e :: r) e.frame := by simp [frameCount]
      omega
    have hs1 : startOf l (e.frame + 1) = startOf l e.frame + frameCount l e.frame := rfl
    have hsN : startOf l (e.frame + 1) ≤ startOf l nbF := startOf_mono l (by omega)
    have := hle (e.frame + 1)
    simp only [foldRes, placeStep, cumAfter_getElem? l p (Nat.le_of_lt hf), cumAfter_getElem? l p (show e.frame + 1 ≤ nbF by omega)]
    rw [if_neg (by push_cast; omega), if_neg (by push_cast; omega), if_neg (by omega), cumAfter_snoc,
      show (((startOf l e.frame + frameCount p e.frame : Nat) : Int)).toNat = startOf l e.frame + frameCount p e.frame by omega]
    have hin : startOf l e.frame + frameCount p e.frame < out.size := by omega
    obtain ⟨cum', out', h1, h2, h3⟩ := ih (p ++ [e]) (out.setIfInBounds (startOf l e.frame + frameCount p e.frame) (some e)) (n + 1)
      (by rw [← hpl]; simp) (by
        intro f k x hfn hx
        rcases getElem?_ofFrame_snoc hx with h | ⟨rfl, rfl, rfl⟩
        · have hk : k < frameCount p f := (List.getElem?_eq_some_iff.mp h).1
          have := hle f
          rw [Array.getElem?_setIfInBounds_ne (fun hc => by
            obtain ⟨rfl, rfl⟩ := slot_inj l hcnt (show k < frameCount l f by omega) hc
            exact Nat.lt_irrefl _ hk)]
          exact hout _ _ _ hfn h
        · simp [hin])
      (by simp only [Array.size_setIfInBounds]; exact hsz)
    exact ⟨cum', out', by dsimp only; rw [h1, List.length_cons, show n + 1 + r.length = n + (r.length + 1) by omega], by rw [h2]; simp, h3⟩

/-- Stable sort by frame: the extensions of frame 0 in order, then those of frame 1, … -/
def sortByFrame (l : List ExtRef) (nbF : Nat) : List ExtRef := (List.range nbF).flatMap (ofFrame l)

theorem take_start (l : List ExtRef) (nbF : Nat) (out : Array (Option ExtRef))
    (hout : ∀ f k x, f < nbF → (ofFrame l f)[k]? = some x → out[startOf l f + k]? = some (some x)) :
    ∀ m, m ≤ nbF → out.toList.take (startOf l m) = ((List.range m).flatMap (ofFrame l)).map some := by
  intro m
  induction m with
  | zero => intro _; simp [startOf]
  | succ m ih =>
    intro hm
    have hle := startOf_mono l hm
    simp only [startOf] at hle ⊢
    rw [List.take_add, ih (by omega), List.range_succ, List.flatMap_append, List.map_append]
    congr 1
    simp only [List.flatMap_cons, List.flatMap_nil, List.append_nil]
    apply List.ext_getElem?
    intro k
    by_cases hk : k < frameCount l m
    · have hk2 : k < (ofFrame l m).length := by rw [← frameCount_eq]; exact hk
      have hx : (ofFrame l m)[k]? = some (ofFrame l m)[k] := List.getElem?_eq_getElem hk2
      have := hout m k _ (by omega) hx
      rw [List.getElem?_take_of_lt hk, List.getElem?_drop, List.getElem?_map, hx]
      simpa using this
    · rw [List.getElem?_eq_none (by simp only [List.length_take]; omega)]
      rw [List.getElem?_eq_none (by simp only [List.length_map, ← frameCount_eq]; omega)]

/-- `parse_ext` with the counts of `count_ext` and room for all extensions. -/
theorem parseExt_sorted (d : Bytes) (nbFrames : Nat) (hnf : nbFrames ≤ 48) (it : Iter) (l : List ExtRef) (s : Step)
    (hit : iterInit d d.length nbFrames = .ok it) (hall : iterAll it = .ok (l, s))
    (hfr : ∀ e ∈ l, e.frame < nbFrames) (cap : Int) (hcap : (l.length : Int) ≤ cap) :
    parseExt d d.length cap ((List.range nbFrames).map (fun f => ((frameCount l f : Nat) : Int))) nbFrames =
      if s = .done then .ok ((sortByFrame l nbFrames).map some) else .err .invalidPacket := by
  unfold parseExt
  have h1 : ¬ ((nbFrames : Int) > 48) := by omega
  have h2 : ¬ (((List.range nbFrames).map (fun f => ((frameCount l f : Nat) : Int))).length ≠ (nbFrames : Int).toNat) := by
    simp
  simp only [h1, h2, if_false, hit]
  have htot := startOf_total l nbFrames hfr
  have hcum : cumCounts ((List.range nbFrames).map (fun f => ((frameCount l f : Nat) : Int))) 0 = cumAfter l [] nbFrames := by
    have := cumCounts_eq l nbFrames 0
    simp only [Nat.zero_add, startOf] at this
    rw [show ((0 : Nat) : Int) = 0 from rfl] at this
    rw [this]
    simp [cumAfter, frameCount]
  rw [hcum, show parseExtLoop it cap (cumAfter l [] nbFrames) (Array.replicate cap.toNat none) 0 = _ from
    loop_iterAll (parseExtLoop_turn cap) hall (cumAfter l [] nbFrames, Array.replicate cap.toNat none, 0)]
  obtain ⟨cum', out', hp, hsz, hout⟩ := placeStep_spec l nbFrames cap (by rw [htot]; exact hcap) hfr l []
    (Array.replicate cap.toNat none) 0 (by simp) (by intro f k x _ hx; simp [ofFrame] at hx) (by simp)
  rw [hp]
  simp only [Nat.zero_add]
  by_cases hd : s = .done
  · simp only [hd, if_true]
    have := take_start l nbFrames out' hout nbFrames (Nat.le_refl _)
    rw [htot] at this
    rw [this]; rfl
  · simp only [hd, if_false]

end Opus.ExtProofs
