import OpusProofs.ExtRepBlock
/-
  C16, repeat mechanism, reader side: iterating over `serAll rems` reports `expAll rems`, by induction over the frames.
-/
namespace Opus.ExtProofs
open Opus Opus.Ext

/-- A run of extensions of the current frame, written without separators and with their length bytes. -/
theorem src_steps {d : Array Nat} {nbF f p0 : Nat} {rest : List Nat} :
    ∀ (as : List Ext) (q : Nat) (ll : Option Nat) (T : Int) (it : Iter),
    St d nbF q f it → Reg it p0 ll T → (∀ a ∈ as, ValidExt nbF a ∧ a.frame.toNat = f) →
    Tail d q (srcBytes as ++ rest) →
    ∃ it', Steps d it it' (as.map normExt) ∧ St d nbF (q + (srcBytes as).length) f it' ∧
      Reg it' p0 (regLL q ll as) (regT T as) := by
  intro as
  induction as with
  | nil => intro q ll T it hs hr _ _; exact ⟨it, Steps.refl d it, by simpa [srcBytes] using hs, hr⟩
  | cons a as ih =>
    intro q ll T it hs hr hv h
    obtain ⟨hva, haf⟩ := hv a (List.mem_cons_self ..)
    rw [srcBytes_cons, List.append_assoc] at h
    have hsep : sepBytes a.frame.toNat f = [] := by simp [sepBytes, haf]
    obtain ⟨it1, hs1, hst1, hr1⟩ := plain_step (flag := false) hs hr hva (by omega) (by rw [hsep]; exact h) (by intro h; cases h)
    rw [hsep] at hst1 hr1
    simp only [List.length_nil, Nat.add_zero, haf, if_true] at hst1 hr1
    obtain ⟨it2, hs2, hst2, hr2⟩ := ih _ _ _ it1 hst1 hr1 (fun x hx => hv x (List.mem_cons_of_mem _ hx)) h.drop
    refine ⟨it2, by simpa using hs1.trans hs2, ?_, hr2⟩
    simp only [srcBytes_cons, List.length_append, ← Nat.add_assoc]; exact hst2

/-- A run of plain extensions, frames non-decreasing; the `n`-th extension overall ends the buffer. -/
theorem plain_list {d : Array Nat} {nbF n : Nat} {rest : List Nat} :
    ∀ (l : List Ext) (cur w p : Nat) (it : Iter),
    St d nbF p cur it → (∀ e ∈ l, ValidExt nbF e) → FrameSorted cur l →
    w + l.length ≤ n → (w + l.length = n → rest = []) → Tail d p (serW n cur w l ++ rest) →
    ∃ it' q, Steps d it it' (l.map normExt) ∧ St d nbF q (lastFrame cur l) it' ∧ Tail d q rest := by
  intro l
  induction l with
  | nil => intro cur w p it hs _ _ _ _ h; exact ⟨it, p, Steps.refl d it, hs, h⟩
  | cons e l ih =>
    intro cur w p it hs hv hsort hle hlast h
    have hve := hv e (List.mem_cons_self ..)
    simp only [serW, List.append_assoc] at h
    obtain ⟨it1, hs1, hst1, _⟩ := plain_step (p0 := it.repeatData) (ll := it.lastLong) (T := it.tsl) hs ⟨rfl, rfl, rfl⟩ hve hsort.1 h
      (by
        intro hfl
        rw [decide_eq_true_eq] at hfl
        cases l with
        | nil => simp only [serW, List.nil_append]; exact hlast (by simp; omega)
        | cons x xs =>
          -- another extension follows, so this one is not the n-th
          exfalso
          simp only [List.length_cons] at hle
          omega)
    obtain ⟨it2, q, hs2, h2⟩ := ih _ (w + 1) _ it1 hst1 (fun x hx => hv x (List.mem_cons_of_mem _ hx)) hsort.2
      (by simp only [List.length_cons] at hle; omega) (by intro h; exact hlast (by simp; omega)) h.drop.drop
    exact ⟨it2, q, by simpa using hs1.trans hs2, h2⟩

/-- What the reader knows of the repeat region when it stands at `p`, current frame `cur`, in front of what was written for
    frame `f`.  If a separator follows (`cur < f`) the region will start behind it and nothing is needed.  If none follows
    (`cur = f`) the region began at `repeat_data`: between there and `p` stand only padding bytes `01` (which a replay of the
    region skips), and no long extension has been seen (`last_long` is unset). -/
def RegionOpen (d : Array Nat) (p f cur : Nat) (it : Iter) : Prop :=
  cur = f → ∃ k, it.repeatData + k = p ∧ At d it.repeatData (List.replicate k 1) ∧ it.lastLong = none

/-- The repeated prefix of a frame: separator, then the source region. -/
theorem pre_steps {d : Array Nat} {nbF n f cur w p : Nat} {it : Iter} {pre : List Ext} {rest : List Nat}
    (hs : St d nbF p cur it) (hcur : cur ≤ f)
    (hfresh : RegionOpen d p f cur it)
    (hne : pre ≠ []) (hv : ∀ e ∈ pre, ValidExt nbF e ∧ e.frame.toNat = f) (hw : w + pre.length < n)
    (h : Tail d p (serW n cur w pre ++ rest)) :
    ∃ it' T0 p0 k', Steps d it it' (pre.map normExt) ∧
      St d nbF (p + (serW n cur w pre).length) f it' ∧ p0 + k' = p + (sepBytes f cur).length ∧
      At d p0 (List.replicate k' 1) ∧ Reg it' p0 (regLL (p + (sepBytes f cur).length) none pre) (regT T0 pre) ∧
      At d (p + (sepBytes f cur).length) (srcBytes pre) ∧
      p + (serW n cur w pre).length = p + (sepBytes f cur).length + (srcBytes pre).length := by
  have hsw := serW_pre n f pre cur w (fun e he => (hv e he).2) hw
  simp only [hne, if_false] at hsw
  rw [hsw] at h ⊢
  simp only [List.append_assoc, List.length_append] at h ⊢
  cases pre with
  | nil => exact absurd rfl hne
  | cons a as =>
    obtain ⟨hva, haf⟩ := hv a (List.mem_cons_self ..)
    rw [srcBytes_cons] at h ⊢
    simp only [List.append_assoc, List.length_append] at h ⊢
    obtain ⟨it1, hs1, hst1, hr1⟩ := plain_step (p0 := it.repeatData) (ll := it.lastLong) (T := it.tsl) (flag := false)
      hs ⟨rfl, rfl, rfl⟩ hva (by omega) (by rw [haf]; exact h) (by intro h; cases h)
    rw [haf] at hst1 hr1
    -- the region starts right after the separator (or, without separator, at `repeat_data`, before padding bytes)
    have hreg1 : ∃ p0 k', p0 + k' = p + (sepBytes f cur).length ∧ At d p0 (List.replicate k' 1) ∧
        Reg it1 p0 (regLL (p + (sepBytes f cur).length) none [a])
        (if a.id < 32 then (if f = cur then it.tsl else 0) + a.len else 0) := by
      obtain ⟨q1, q2, q3⟩ := hr1
      by_cases hfc : f = cur
      · have hs0 : (sepBytes f cur).length = 0 := by simp [sepBytes, hfc]
        obtain ⟨k, hk1, hk2, hk3⟩ := hfresh hfc.symm
        exact ⟨it.repeatData, k, by omega, hk2, by rw [q1, if_pos hfc], by rw [q2]; simp only [regLL, if_pos hfc, hk3], q3⟩
      · exact ⟨p + (sepBytes f cur).length, 0, rfl, by intro i hi; simp at hi, by rw [q1, if_neg hfc],
          by rw [q2]; simp only [regLL, if_neg hfc], q3⟩
    obtain ⟨p0, k', hk'1, hk'2, hreg1⟩ := hreg1
    obtain ⟨it2, hs2, hst2, hr2⟩ := src_steps (rest := rest) as _ _ _ it1 hst1 hreg1
      (fun x hx => hv x (List.mem_cons_of_mem _ hx)) h.drop.drop
    refine ⟨it2, if f = cur then it.tsl else 0, p0, k', ?_, ?_, hk'1, hk'2, ?_, ?_, by omega⟩
    · simpa using hs1.trans hs2
    · simp only [← Nat.add_assoc]; exact hst2
    · simpa [regLL, regT] using hr2
    · have h1 := h.drop.bytes
      rw [← List.append_assoc] at h1
      exact (h1.append).1

/-- One repeat block: the repeated prefix of the queue `a` of frame `f` (with its separator), the indicator
    (`last` = its `L = 0` form), the repeated payloads of all later frames.  When `L = 0` drops the length bytes of a
    long extension, the block ends the buffer. -/
theorem block_steps {d : Array Nat} {nbF n f cur w p R : Nat} {it : Iter} {a : List Ext} {later : List (List Ext)}
    {last : Bool} {rest : List Nat}
    (hs : St d nbF p cur it) (hcur : cur ≤ f)
    (hfresh : RegionOpen d p f cur it)
    (hq : QOk nbF f (a :: later)) (hR : 0 < R) (hRa : R ≤ a.length)
    (hRl : ∀ r ∈ later, R ≤ r.length ∧ MatchL (r.take R) (a.take R)) (hlne : later ≠ []) (hw : w + R < n)
    (hrest : last = true → lastLongPos (a.take R) ≠ none → rest = [])
    (h : Tail d p (serW n cur w (a.take R) ++ ([if last = true then 4 else 5] ++
      (repBlock R last (lastLongPos (a.take R)) later ++ rest)))) :
    ∃ it' T q, Steps d it it' ((a.take R ++ (later.map (List.take R)).flatten).map normExt) ∧
      St d nbF q (if last = true then f + 1 else f) it' ∧ Reg it' q none T ∧ Tail d q rest := by
  have hva : ∀ e ∈ a.take R, ValidExt nbF e ∧ e.frame.toNat = f := fun e he => hq.head e (List.mem_of_mem_take he)
  have hf1 : f + 1 < nbF := by
    have := List.length_pos_iff.mpr hlne
    have := hq.1
    simp only [List.length_cons] at this; omega
  have hpre_ne : a.take R ≠ [] := take_ne_nil hR hRa
  obtain ⟨it1, T0, p0, k', hs1, hst1, hk', hones1, hreg1, hsrc1, hp1⟩ := pre_steps (n := n) (w := w) hs hcur hfresh hpre_ne hva
    (by rw [List.length_take]; omega) h
  obtain ⟨hb, h3⟩ := h.drop.head
  obtain ⟨it2, hs2, hR2⟩ := rep_start (b := if last = true then 4 else 5) hst1 hreg1 hb (by split <;> rfl) (by omega) hf1 h3.le
  have hL : (if last = true then 4 else 5) % 2 = if last = true then 0 else 1 := by split <;> rfl
  have hplen : p + (serW n cur w (a.take R)).length - p0 = k' + (srcBytes (a.take R)).length := by omega
  rw [hL, hplen] at hR2
  have hZ : ZOk (if last = true then 0 else 1) (nbF - 1) nbF (regLL (p + (sepBytes f cur).length) none (a.take R))
      (if last = true then lastLongPos (a.take R) else none) 0 (p + (sepBytes f cur).length) (a.take R) := by
    have := ZOk_region (L := if last = true then 0 else 1) (g := nbF - 1) (nbF := nbF) (p + (sepBytes f cur).length) (a.take R)
    have hg : nbF - 1 + 1 ≥ nbF := by omega
    cases last <;> simpa [hg] using this
  obtain ⟨it3, q, hs3, h4⟩ := rep_outer (R := R) (last := last) (k := k') hf1 (fun x hx => (hva x hx).1)
    hones1 (hk' ▸ hsrc1) later (f + 1) _ it2 (hq.later.map _ fun _ _ => List.mem_of_mem_take) (by omega) hR2
    (fun r hr => (hRl r hr).2) (hk' ▸ hZ)
    (fun r hr j hz hj => by
      have hmem : r ∈ later := List.mem_of_mem_getLast? hr
      by_cases hl : last = true
      · simp only [hl, if_true, Nat.zero_add] at hz ⊢
        rw [hrest hl (by rw [hz]; exact Option.some_ne_none _), regT_after_long _ T0 j hz]
        simp only [List.length_nil, Nat.add_zero]
        obtain ⟨_, _, hshort⟩ := lastLongPos_lt _ j hz
        refine repPayloads_shorts (nbF := nbF) _ _ _ _ ((hRl r hmem).2.drop (j + 1)) ?_ ?_
        · intro y hy
          obtain ⟨i, hi⟩ := List.mem_iff_getElem?.mp hy
          rw [List.getElem?_drop] at hi
          exact hshort _ y (by omega) hi
        · exact fun y hy => hq.later.valid r hmem y (List.mem_of_mem_take (List.mem_of_mem_drop hy))
      · simp only [hl] at hz; cases hz)
    h3
  have hLf : (if (if last = true then 0 else 1) = 0 then f + 1 else f) = (if last = true then f + 1 else f) := by
    cases last <;> rfl
  rw [hLf] at h4
  exact ⟨it3, _, q, by simpa using (hs1.trans hs2).trans hs3, h4⟩

/-- Iterating over everything the generator writes for the queues `rems` reports `expAll rems`. -/
theorem serAll_steps {d : Array Nat} {nbF n : Nat} (rems : List (List Ext)) : ∀ (f cur w p : Nat) (it : Iter),
    QOk nbF f rems → w + total rems = n → cur ≤ f →
    St d nbF p cur it →
    RegionOpen d p f cur it →
    Tail d p (serAll n rems cur w) →
    ∃ it' cur', Steps d it it' ((expAll rems).map normExt) ∧ St d nbF d.size cur' it' := by
  induction rems using queues_ind with
  | nil =>
    intro f cur w p it _ _ _ hs _ h
    rw [serAll] at h
    rw [expAll]
    exact ⟨it, cur, Steps.refl d it, (show p = d.size from h.size) ▸ hs⟩
  | cons a later ih =>
    intro f cur w p it hq hcount hcur hs hfresh h
    have hva := hq.head
    rw [total_cons] at hcount
    rw [serAll_cons] at h
    rw [expAll_cons]
    have hbl := blockLast_true (n := n) (w := w) hcount
    obtain ⟨hRa, hRl⟩ := blockR_spec a later
    generalize hR : blockR a later = R at h hbl hRa hRl ⊢
    generalize hlast : blockLast n a later w = last at h hbl
    have hqt := hq.tail R
    by_cases hR0 : R = 0
    · subst hR0
      simp only [List.take_zero, List.drop_zero, serW, List.nil_append, Nat.lt_irrefl, if_false, false_and, repBlock_zero,
        lastFrame, Nat.add_zero, Nat.zero_mul, map_drop_zero, List.append_nil] at h hqt ⊢
      have hlf := lastFrame_same a cur (fun e he => (hva e he).2)
      obtain ⟨it1, q, hs1, hst1, h1⟩ := plain_list a cur w p it hs
        (fun e he => (hva e he).1) (frameSorted_const hcur (fun e he => (hva e he).2)).1 (by omega)
        (fun h => serAll_empty n later _ _ (by omega)) h
      have ih' := ih id; rw [List.map_id] at ih'
      obtain ⟨it2, cur2, hs2, hst2⟩ := ih' (f + 1) (lastFrame cur a) (w + a.length) _ it1 hqt (by omega)
        (by rw [hlf]; split <;> omega) hst1 (fun h => by rw [hlf] at h; split at h <;> omega) h1
      refine ⟨it2, cur2, ?_, hst2⟩
      have hflat : (later.map (List.take 0)).flatten = [] := by simp
      simpa [hflat] using hs1.trans hs2
    · have hRpos : 0 < R := by omega
      have hlne := blockR_pos (hR ▸ hRpos)
      have hpost_v : ∀ e ∈ a.drop R, ValidExt nbF e ∧ e.frame.toNat = f := fun e he => hva e (List.mem_of_mem_drop he)
      have htot := total_map_drop R later (fun r hr => (hRl r hr).1)
      have hlen_post : (a.drop R).length = a.length - R := List.length_drop
      have hmul : R ≤ R * later.length := Nat.le_mul_of_pos_right R (List.length_pos_iff.mpr hlne)
      have hcur1 : lastFrame cur (a.take R) = f := by
        rw [lastFrame_same _ cur (fun e he => (hva e (List.mem_of_mem_take he)).2)]
        simp [take_ne_nil hRpos hRa]
      simp only [hRpos, if_true, true_and, List.append_assoc, hcur1] at h
      obtain ⟨it3, T, q, hs3, hst3, hreg3, h4⟩ := block_steps (n := n) (w := w) hs hcur hfresh hq hRpos hRa hRl hlne (by omega)
        (fun hl hlong => by
          rw [(hbl hl).1, serAll_empty n _ _ _ ((hbl hl).2 hlong)]; rfl)
        h
      by_cases hpost : a.drop R = []
      · rw [hpost] at h4 ⊢
        simp only [serW, List.nil_append, List.length_nil, Nat.add_zero, lastFrame, List.append_nil] at h4 ⊢
        obtain ⟨it4, cur4, hs4, hst4⟩ := ih (List.drop R) (f + 1) (if last = true then f + 1 else f)
          (w + R + R * later.length) _ it3 hqt (by rw [hpost] at hlen_post; simp only [List.length_nil] at hlen_post; omega)
          (by split <;> omega) hst3
          (fun h => ⟨0, hreg3.rd, by intro i hi; simp at hi, hreg3.ll⟩) h4
        exact ⟨it4, cur4, by simpa using hs3.trans hs4, hst4⟩
      · have hlf : last = false := by cases last; rfl; exact absurd (hbl rfl).1 hpost
        subst hlf
        simp only [Bool.false_eq_true, if_false] at h4 hst3 ⊢
        obtain ⟨it4, q4, hs4, hst4, h5⟩ := plain_list (n := n) (a.drop R) f (w + R + R * later.length) _ it3 hst3
          (fun e he => (hpost_v e he).1) (frameSorted_const (Nat.le_refl f) (fun e he => (hpost_v e he).2)).1 (by omega)
          (fun h => serAll_empty n _ _ _ (by omega)) h4
        have hcf : lastFrame f (a.drop R) = f := by
          rw [lastFrame_same _ f (fun e he => (hpost_v e he).2)]; simp
        rw [hcf] at h5
        rw [lastFrame_same _ f (fun e he => (hpost_v e he).2), if_neg hpost] at hst4
        obtain ⟨it5, cur5, hs5, hst5⟩ := ih (List.drop R) (f + 1) f
          (w + R + R * later.length + (a.drop R).length) _ it4 hqt (by omega) (by omega) hst4
          (fun h => by omega) h5
        exact ⟨it5, cur5, by simpa using (hs3.trans hs4).trans hs5, hst5⟩

end Opus.ExtProofs
