import OpusProofs.SilkSymsEncBasic
/-
  C08 × C03 composition: what the preparation part of `silk_encode_pulses` computes for one
  16-sample block (`mkBlock`): the down-scaling loop terminates by its own exit test, the scaled block
  sums to at most 16 (so every `shell_code_table_offsets` lookup is inside the table), `nRshifts ≤ 8 < 10`
  (so the decoder's ten-iteration bound on the LSB-count loop never binds), and a block that was scaled
  down is not empty (so encoder and decoder agree on which blocks carry signs).  Pure list arithmetic.
-/
namespace Opus.SilkSymsEncProofs
open Opus Opus.RangeCoder Opus.SilkSyms Opus.SilkSymsEnc Opus.SilkSymsFrozen.Icdf

theorem len_succ {α : Type} {l : List α} {n : Nat} (h : l.length = n + 1) : ∃ a t, l = a :: t ∧ t.length = n := by
  cases l with
  | nil => simp at h
  | cons a t => exact ⟨a, t, rfl, by simpa using h⟩

theorem list4 {α : Type} {l : List α} (h : l.length = 4) : ∃ a b c d, l = [a, b, c, d] := by
  obtain ⟨a, t1, rfl, h1⟩ := len_succ h
  obtain ⟨b, t2, rfl, h2⟩ := len_succ h1
  obtain ⟨c, t3, rfl, h3⟩ := len_succ h2
  obtain ⟨d, t4, rfl, h4⟩ := len_succ h3
  rw [List.length_eq_zero_iff] at h4
  subst h4
  exact ⟨a, b, c, d, rfl⟩

theorem maxPulses_eq : Gen.SilkEncBits.silk_max_pulses_table = [8, 10, 12, 16] := by decide

theorem pairSums_le (m : Nat) : ∀ (a : List Nat), (∀ x ∈ a, x ≤ m) → ∀ y ∈ pairSums a, y ≤ 2 * m
  | [], _, y, hy => by simp [pairSums] at hy
  | [_], _, y, hy => by simp [pairSums] at hy
  | a :: b :: t, h, y, hy => by
    simp only [pairSums, List.mem_cons] at hy
    rcases hy with rfl | hy
    · have := h a (List.mem_cons_self ..)
      have := h b (List.mem_cons_of_mem _ (List.mem_cons_self ..))
      omega
    · exact pairSums_le m t (fun x hx => h x (List.mem_cons_of_mem _ (List.mem_cons_of_mem _ hx))) y hy

/-- One level of pair sums halves an even length and keeps the sum. -/
theorem pairSums_half : ∀ (a : List Nat) (k : Nat), a.length = 2 * k → (pairSums a).length = k ∧ (pairSums a).sum = a.sum
  | [], k, h => ⟨by simp only [List.length_nil] at h; simp only [pairSums, List.length_nil]; omega, rfl⟩
  | [_], k, h => by simp only [List.length_cons, List.length_nil] at h; omega
  | x :: y :: t, k, h => by
    simp only [List.length_cons] at h
    obtain ⟨hl, hs⟩ := pairSums_half t (k - 1) (by omega)
    simp only [pairSums, List.length_cons, List.sum_cons, hl, hs]
    omega

/-- The exit test, level by level: the limits are `silk_max_pulses_table`. -/
theorem fitsShell_iff (a : List Nat) : fitsShell a = true ↔
    (∀ y ∈ pairSums a, y ≤ 8) ∧ (∀ y ∈ pairSums (pairSums a), y ≤ 10) ∧
    (∀ y ∈ pairSums (pairSums (pairSums a)), y ≤ 12) ∧
    ∀ y ∈ pairSums (pairSums (pairSums (pairSums a))), y ≤ 16 := by
  simp only [fitsShell, maxPulses_eq, List.getD_cons_zero, List.getD_cons_succ, Bool.and_eq_true, List.all_eq_true,
    decide_eq_true_eq, and_assoc]

/-- A block of 0s and 1s passes the exit test: the limits 8, 10, 12, 16 are at least 2, 4, 8, 16. -/
theorem fits_of_le_one {a : List Nat} (h : ∀ x ∈ a, x ≤ 1) : fitsShell a = true := by
  have h1 := pairSums_le 1 a h
  have h2 := pairSums_le 2 _ h1
  have h3 := pairSums_le 4 _ h2
  exact (fitsShell_iff a).mpr ⟨fun y hy => Nat.le_trans (h1 y hy) (by decide), fun y hy => Nat.le_trans (h2 y hy) (by decide),
    fun y hy => Nat.le_trans (h3 y hy) (by decide), pairSums_le 8 _ h3⟩

/-- The exit test bounds the block sum: the fourth level of pair sums is the sum itself. -/
theorem fits_sum_le {a : List Nat} (hl : a.length = 16) (hf : fitsShell a = true) : a.sum ≤ 16 := by
  obtain ⟨l1, s1⟩ := pairSums_half a 8 hl
  obtain ⟨l2, s2⟩ := pairSums_half _ 4 l1
  obtain ⟨l3, s3⟩ := pairSums_half _ 2 l2
  obtain ⟨l4, s4⟩ := pairSums_half _ 1 l3
  obtain ⟨x, hx⟩ := List.length_eq_one_iff.mp l4
  rw [← s1, ← s2, ← s3, ← s4, hx, List.sum_singleton]
  exact ((fitsShell_iff a).mp hf).2.2.2 x (by rw [hx]; exact List.mem_singleton.mpr rfl)

/-- A block that fails the exit test has an entry ≥ 2: halving it leaves something. -/
theorem not_fits_half_pos {a : List Nat} (hf : fitsShell a = false) : 0 < (a.map (· / 2)).sum := by
  apply Nat.pos_of_ne_zero
  intro h0
  rw [List.sum_eq_zero_iff_forall_eq_nat] at h0
  rw [fits_of_le_one (a := a) (fun x hx => by have := h0 (x / 2) (List.mem_map_of_mem hx); omega)] at hf
  cases hf

/-- The down-scaling loop (encode_pulses.c:107-135) from `nRshifts = n` with fuel `f` on entries below `2 ^ f`: it ends with
    `n ≤ nRshifts ≤ n + f`, every amplitude divided by `2 ^ (nRshifts - n)`, the exit test passed (the unrolling never stops
    the loop) and, if it halved at all, something left. -/
theorem scaleDown_spec : ∀ (f : Nat) (a : List Nat) (n : Nat), (∀ x ∈ a, x < 2 ^ f) →
    n ≤ (scaleDown f a n).2 ∧ (scaleDown f a n).2 ≤ n + f ∧
    (scaleDown f a n).1 = a.map (· / 2 ^ ((scaleDown f a n).2 - n)) ∧
    fitsShell (scaleDown f a n).1 = true ∧ (n < (scaleDown f a n).2 → 0 < (scaleDown f a n).1.sum)
  | 0, a, n, h => by
    simp only [scaleDown, Nat.sub_self, Nat.pow_zero, Nat.div_one, List.map_id', Nat.lt_irrefl, false_imp_iff, and_true]
    exact ⟨Nat.le_refl n, Nat.le_refl n, trivial, fits_of_le_one (fun x hx => by have := h x hx; omega)⟩
  | f + 1, a, n, h => by
    unfold scaleDown
    split
    · rename_i hf
      simp only [Nat.sub_self, Nat.pow_zero, Nat.div_one, List.map_id', Nat.lt_irrefl, false_imp_iff, and_true, hf]
      omega
    · rename_i hf
      obtain ⟨i1, i2, i3, i4, i5⟩ := scaleDown_spec f (a.map (· / 2)) (n + 1) (fun x hx => by
        obtain ⟨y, hy, rfl⟩ := List.mem_map.mp hx
        have := h y hy
        rw [Nat.pow_succ] at this
        omega)
      refine ⟨by omega, by omega, ?_, i4, fun _ => ?_⟩
      · rw [i3, List.map_map]
        apply List.map_congr_left
        intro x _
        simp only [Function.comp]
        have e : (scaleDown f (a.map (· / 2)) (n + 1)).2 - n = ((scaleDown f (a.map (· / 2)) (n + 1)).2 - (n + 1)) + 1 := by omega
        rw [e, Nat.pow_succ, Nat.mul_comm, Nat.div_div_eq_div_mul]
      · by_cases h2 : n + 1 < (scaleDown f (a.map (· / 2)) (n + 1)).2
        · exact i5 h2
        · -- halved once: the block that failed the test had an entry ≥ 2
          have e : (scaleDown f (a.map (· / 2)) (n + 1)).2 - (n + 1) = 0 := by omega
          rw [i3, e]
          simp only [Nat.pow_zero, Nat.div_one, List.map_id']
          exact not_fits_half_pos (by simpa using hf)

theorem scaleDown_fits (f : Nat) (a : List Nat) (n : Nat) (h : ∀ x ∈ a, x < 2 ^ f) : fitsShell (scaleDown f a n).1 = true :=
  (scaleDown_spec f a n h).2.2.2.1

/-- One prepared block: 16 samples, scaled by `2^nR` with `nR ≤ 8`, summing to at most 16, and not empty if scaled. -/
structure BlockOk (b : Block) : Prop where
  lenO : b.orig.length = 16
  scaled : b.scaled = (b.orig.map Int.natAbs).map (· / 2 ^ b.nR)
  sum : b.sum = b.scaled.sum
  le16 : b.sum ≤ 16
  nR : b.nR ≤ 8
  pos : 0 < b.nR → 0 < b.sum

theorem BlockOk.lenS {b : Block} (h : BlockOk b) : b.scaled.length = 16 := by
  rw [h.scaled]; simp [h.lenO]

theorem mkBlock_ok {p : List Int} (hl : p.length = 16) (hp : ∀ q ∈ p, -127 ≤ q ∧ q ≤ 127) : BlockOk (mkBlock p) := by
  obtain ⟨-, s2, s3, s4, s5⟩ := scaleDown_spec 8 (p.map Int.natAbs) 0 (fun x hx => by
    obtain ⟨q, hq, rfl⟩ := List.mem_map.mp hx
    have := hp q hq
    omega)
  have hls : (scaleDown 8 (p.map Int.natAbs) 0).1.length = 16 := by rw [s3]; simpa using hl
  exact ⟨hl, by simpa [mkBlock] using s3, rfl, fits_sum_le hls s4, by simpa [mkBlock] using s2, s5⟩

/-- An empty block (no pulses after scaling, and hence never scaled) is all zeros. -/
theorem BlockOk.zero {b : Block} (h : BlockOk b) (h0 : b.sum = 0) :
    b.nR = 0 ∧ b.scaled = List.replicate 16 0 ∧ b.orig = List.replicate 16 0 := by
  have hn : b.nR = 0 := by
    have := h.pos
    omega
  have hs : ∀ x ∈ b.scaled, x = 0 := List.sum_eq_zero_iff_forall_eq_nat.mp (h.sum ▸ h0)
  refine ⟨hn, List.eq_replicate_iff.mpr ⟨h.lenS, hs⟩, List.eq_replicate_iff.mpr ⟨h.lenO, fun q hq => ?_⟩⟩
  have := hs (q.natAbs / 2 ^ b.nR) (by rw [h.scaled]; exact List.mem_map_of_mem (List.mem_map_of_mem hq))
  rw [hn, Nat.pow_zero, Nat.div_one] at this
  omega

theorem blocks16_length {α : Type} : ∀ (n : Nat) (l : List α), (blocks16 n l).length = n
  | 0, _ => rfl
  | n + 1, l => by simp [blocks16, blocks16_length n]

theorem blocks16_mem {α : Type} : ∀ (n : Nat) (l : List α), l.length = n * 16 →
    ∀ b ∈ blocks16 n l, b.length = 16 ∧ ∀ x ∈ b, x ∈ l
  | 0, _, _, b, hb => by simp [blocks16] at hb
  | n + 1, l, hl, b, hb => by
    simp only [blocks16, List.mem_cons] at hb
    rcases hb with hb | hb
    · subst hb
      refine ⟨by rw [List.length_take]; omega, fun x hx => List.mem_of_mem_take hx⟩
    · have := blocks16_mem n (l.drop 16) (by rw [List.length_drop]; omega) b hb
      exact ⟨this.1, fun x hx => List.mem_of_mem_drop (this.2 x hx)⟩

theorem blocks16_flatten {α : Type} : ∀ (n : Nat) (l : List α), l.length = n * 16 → (blocks16 n l).flatten = l
  | 0, l, hl => by
    have : l = [] := List.length_eq_zero_iff.mp (by omega)
    simp [blocks16, this]
  | n + 1, l, hl => by
    simp only [blocks16, List.flatten_cons]
    rw [blocks16_flatten n (l.drop 16) (by rw [List.length_drop]; omega), List.take_append_drop]

theorem shellBlocks_ge (frameLen : Nat) : frameLen ≤ shellBlocks frameLen * 16 := by
  unfold shellBlocks
  simp only
  split <;> omega

theorem padPulses_length {frameLen : Nat} {pulses : List Int} (hl : pulses.length = frameLen) :
    (padPulses frameLen pulses).length = shellBlocks frameLen * 16 := by
  have := shellBlocks_ge frameLen
  simp only [padPulses, List.length_append, List.length_take, List.length_replicate, hl, Nat.min_self]
  omega

theorem padPulses_bound {frameLen : Nat} {pulses : List Int} (hp : ∀ q ∈ pulses, -127 ≤ q ∧ q ≤ 127) :
    ∀ q ∈ padPulses frameLen pulses, -127 ≤ q ∧ q ≤ 127 := by
  intro q hq
  simp only [padPulses, List.mem_append, List.mem_replicate] at hq
  rcases hq with hq | hq
  · exact hp q (List.mem_of_mem_take hq)
  · rw [hq.2]; omega

theorem pulseBlocks_length (frameLen : Nat) (pulses : List Int) :
    (pulseBlocks frameLen pulses).length = shellBlocks frameLen := by
  simp [pulseBlocks, blocks16_length]

/-- Every block `silk_encode_pulses` prepares is well-formed. -/
theorem pulseBlocks_ok {frameLen : Nat} {pulses : List Int} (h : PulsesOk frameLen pulses) :
    ∀ b ∈ pulseBlocks frameLen pulses, BlockOk b := by
  intro b hb
  simp only [pulseBlocks, List.mem_map] at hb
  rcases hb with ⟨p, hp, rfl⟩
  have := blocks16_mem _ _ (padPulses_length h.len) p hp
  exact mkBlock_ok this.1 (fun q hq => padPulses_bound h.abs q (this.2 q hq))

theorem mkBlock_orig (p : List Int) : (mkBlock p).orig = p := rfl

/-- The blocks' original samples are the padded `pulses[]` array. -/
theorem pulseBlocks_orig {frameLen : Nat} {pulses : List Int} (h : PulsesOk frameLen pulses) :
    ((pulseBlocks frameLen pulses).map (·.orig)).flatten = padPulses frameLen pulses := by
  simp only [pulseBlocks, List.map_map]
  have : (fun b => b.orig) ∘ mkBlock = id := funext mkBlock_orig
  rw [this, List.map_id, blocks16_flatten _ _ (padPulses_length h.len)]

theorem rateLevelLoop_lt (sig : Nat) (bs : List Block) : ∀ (ks : List Nat) (acc : Nat × Nat),
    acc.2 < 9 → (∀ k ∈ ks, k < 9) → (rateLevelLoop sig bs ks acc).2 < 9
  | [], acc, h, _ => h
  | k :: ks, acc, h, hk => by
    simp only [rateLevelLoop]
    apply rateLevelLoop_lt sig bs ks
    · split
      · exact hk k (List.mem_cons_self ..)
      · exact h
    · exact fun k' hk' => hk k' (List.mem_cons_of_mem _ hk')

theorem rateLevel_lt (sig : Nat) (bs : List Block) : rateLevel sig bs < 9 := by
  unfold rateLevel
  apply rateLevelLoop_lt
  · decide
  · intro k hk
    rw [List.mem_range] at hk
    exact hk

end Opus.SilkSymsEncProofs
