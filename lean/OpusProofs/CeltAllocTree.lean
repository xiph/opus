import OpusProofs.CeltAllocFinal
/-
  OpusProofs.CeltAllocTree — the conversation of `clt_compute_allocation` with the range coder as a decision tree, and the
  three things that follow from it.

  The allocation touches the coder in three places only (skip flag, intensity, dual-stereo flag), each a mirrored
  `if (encode) ec_enc_…(v) else v = ec_dec_…()`.  `Tree` keeps exactly that; `computeAllocation_run` says that the model
  function is the run of its tree.  What holds of every tree is proved once: a run only adds calls (`run_grow`), a
  mirrored pair of trees agrees (`Mirror.run_agree`), flags are bits (`run_bits`), decoder-side runs read the oracle from
  the front (`run_syn`).  Hence, for the allocation:
  * encoder/decoder agreement (`alloc_agree`): the decoder-side run, fed with the values the encoder-side run handed to the
    range coder, reproduces every output;
  * every flag handed to `ec_enc_bit_logp` is 0 or 1 (`alloc_bits`), so that the value the range decoder returns for it is
    the value itself;
  * oracle-prefix determinism (`alloc_oracle_prefix`): two decoder-side runs whose oracles share the first `J` values make
    the same first `J` calls and, if there is a call number `J` (counted from 0) at all, it is the same call
    (`ec_dec_bit_logp` or `ec_dec_uint` with the same `ft`) in both.  This is what lets a decoder feed the allocation one
    decoded value at a time (C03's `allocDrive`).
-/
namespace OpusProofs.CeltAlloc
open Opus Opus.CeltAlloc
open Opus.Gen.CeltTables

/-- the value carried by a coder call -/
def opVal : Op → Nat
  | .bit v => v
  | .uint v _ => v

/-- The decoder's call: same frame parameters; `*intensity`, `*dual_stereo` are outputs only and `prev`,
    `signalBandwidth` are not used on the decoder side (celt_decoder.c passes 0, 0). -/
def decInp (p : Inp) (i d pv sb : Int) : Inp :=
  { p with intensity := i, dualStereo := d, prev := pv, signalBandwidth := sb }

/-- decoder coder state that has made the same calls as `ce` and still has `orc` to read -/
def decOf (ce : Coder) (orc : List Nat) : Coder := { encode := false, oracle := orc, ops := ce.ops }

/-! ## Trees of coder calls -/

/-- the two kinds of call: `ec_enc_bit_logp(…, 1)` / `ec_dec_bit_logp(…, 1)` and `ec_enc_uint(…, ft)` / `ec_dec_uint(…, ft)` -/
inductive Ask where
  | bit
  | uint (ft : Nat)

def Ask.op : Ask → Nat → Op
  | .bit, v => .bit v
  | .uint ft, v => .uint v ft

/-- number of values the call distinguishes -/
def Ask.ft : Ask → Nat
  | .bit => 2
  | .uint ft => ft

theorem opVal_op (q : Ask) (v : Nat) : opVal (q.op v) = v := by cases q <;> rfl

/-- decoder side of a call (`Coder.decBit`, `Coder.decUint`): the next oracle value, reduced -/
def read (c : Coder) (q : Ask) : Nat × Coder :=
  (c.oracle.headD 0 % q.ft, { c with oracle := c.oracle.tail, ops := q.op (c.oracle.headD 0 % q.ft) :: c.ops })

/-- encoder side of a call (`Coder.encBit`, `Coder.encUint`) -/
def emit (c : Coder) (q : Ask) (v : Nat) : Coder := { c with ops := q.op v :: c.ops }

/-- A computation that talks to the coder only through calls: at a call the encoder side writes `ev` and goes on with
    `ke`, the decoder side reads `v` and goes on with `kd v`.  The trees below (`stepT` … `allocT`) are a second text of
    rate.c:330-421 beside the model's `skipStep`, `skipLoop`, `codeStereo`; the theorems `*_run` are what ties the two. -/
inductive Tree (α : Type) where
  | ret (a : α)
  | ask (q : Ask) (ev : Nat) (ke : Tree α) (kd : Nat → Tree α)

namespace Tree
variable {α β : Type}

def run : Tree α → Coder → α × Coder
  | .ret a, c => (a, c)
  | .ask q ev ke kd, c => if c.encode then ke.run (emit c q ev) else (kd (read c q).1).run (read c q).2

def bind : Tree α → (α → Tree β) → Tree β
  | .ret a, f => f a
  | .ask q ev ke kd, f => .ask q ev (ke.bind f) (fun v => (kd v).bind f)

theorem run_bind (f : α → Tree β) : ∀ (t : Tree α) (c : Coder), (t.bind f).run c = (f (t.run c).1).run (t.run c).2
  | .ret _, _ => rfl
  | .ask q ev ke kd, c => by
    simp only [bind, run]
    split
    · exact run_bind f ke _
    · exact run_bind f (kd _) _

/-- a run only adds calls, and stays on its side -/
theorem run_grow : ∀ (t : Tree α) (c : Coder), ∃ k, (t.run c).2.ops = k ++ c.ops ∧ (t.run c).2.encode = c.encode
  | .ret _, c => ⟨[], rfl, rfl⟩
  | .ask q ev ke kd, c => by
    simp only [run]
    split
    · obtain ⟨k, h1, h2⟩ := run_grow ke (emit c q ev)
      exact ⟨k ++ [q.op ev], by rw [h1]; simp [emit], h2⟩
    · obtain ⟨k, h1, h2⟩ := run_grow (kd (read c q).1) (read c q).2
      exact ⟨k ++ [q.op (read c q).1], by rw [h1]; simp [read], h2⟩

end Tree

/-! ## The allocation's trees -/

/-- stands in the `coder` field of a result until the run has produced the coder (`setC`) -/
def c0 : Coder := { encode := false }

/-- the encoder's decision to stop skipping (rate.c:350-367) -/
def encStop (p : Inp) (b : Band) (bb : Int) : Bool :=
  decide (b.j + 1 ≤ p.start + 2) ||
    (decide (bb > (if b.j + 1 > 17 then (if (b.j : Int) < p.prev then 7 else 9) else 0) * b.w * 2 ^ p.LM * 2 ^ BITRES / 16) &&
      decide ((b.j : Int) ≤ p.signalBandwidth))

/-- the skip flag of one iteration (rate.c:344-373): coded only above the threshold -/
def stepT (p : Inp) (b : Band) (bits psum total : Int) : Tree Bool :=
  if bandBitsOf b bits psum total ≥ max b.thresh (allocFloor p.C + 2 ^ BITRES) then
    .ask .bit (if encStop p b (bandBitsOf b bits psum total) then 1 else 0)
      (.ret (encStop p b (bandBitsOf b bits psum total))) (fun v => .ret (decide (v ≠ 0)))
  else .ret false

theorem skipStep_run (p : Inp) (b : Band) (bits psum total irsv : Int) (c : Coder) :
    ((skipStep p b bits psum total irsv c).stop, (skipStep p b bits psum total irsv c).coder) =
      (stepT p b bits psum total).run c := by
  unfold skipStep stepT
  by_cases hc : bandBitsOf b bits psum total ≥ max b.thresh (allocFloor p.C + 2 ^ BITRES)
  · simp only [hc, decide_true, if_true]; rfl
  · simp only [hc, decide_false, Bool.false_eq_true, if_false]; rfl

/-- two coders get the same numbers from an iteration (`skipStep_fields` has them in closed form) -/
theorem skipStep_rest (p : Inp) (b : Band) (bits psum total irsv : Int) (c1 c2 : Coder) :
    (skipStep p b bits psum total irsv c1).psum = (skipStep p b bits psum total irsv c2).psum ∧
    (skipStep p b bits psum total irsv c1).irsv = (skipStep p b bits psum total irsv c2).irsv ∧
    (skipStep p b bits psum total irsv c1).newBits = (skipStep p b bits psum total irsv c2).newBits := by
  simp only [skipStep]
  exact ⟨trivial, trivial, trivial⟩

/-- the band-skipping loop (rate.c:310-392) -/
def loopT (p : Inp) (ss : Nat) (rsv : Int) : List (Band × Int) → Int → Int → Int → List (Band × Int) → Tree (Option SkipOut)
  | [], _, _, _, _ => .ret none
  | (b, bits) :: rest, psum, total, irsv, acc =>
    if b.j ≤ ss then
      .ret (some { codedBands := b.j + 1, total := total + rsv, psum := psum, irsv := irsv, coder := c0,
                   kept := (b, bits) :: rest, skipped := acc })
    else
      (stepT p b bits psum total).bind fun stop =>
        if stop then
          .ret (some { codedBands := b.j + 1, total := total, psum := psum, irsv := irsv, coder := c0,
                       kept := (b, bits) :: rest, skipped := acc })
        else loopT p ss rsv rest (skipStep p b bits psum total irsv c0).psum total (skipStep p b bits psum total irsv c0).irsv
          ((b, (skipStep p b bits psum total irsv c0).newBits) :: acc)

/-- puts the coder the run has produced into the result (where `loopT` had `c0`); `none` is the list that ran out
    (`skipLoop`'s `.abort`) -/
def setC : Option SkipOut × Coder → Res SkipOut
  | (some s, c) => .ok { s with coder := c }
  | (none, _) => .abort

/-- **The loop is its tree.**  The one walk over `skipLoop`'s recursion that looks at the coder. -/
theorem skipLoop_run (p : Inp) (ss : Nat) (rsv : Int) : ∀ (l : List (Band × Int)) (psum total irsv : Int) (c : Coder)
    (acc : List (Band × Int)),
    skipLoop p ss rsv l psum total irsv c acc = setC ((loopT p ss rsv l psum total irsv acc).run c) := by
  intro l
  induction l with
  | nil => intro _ _ _ _ _; rfl
  | cons hd rest ih =>
    intro psum total irsv c acc
    obtain ⟨b, bits⟩ := hd
    rw [skipLoop, loopT]
    by_cases hj : b.j ≤ ss
    · rw [if_pos hj, if_pos hj]; rfl
    · rw [if_neg hj, if_neg hj, Tree.run_bind, ← skipStep_run p b bits psum total irsv c]
      obtain ⟨r1, r2, r3⟩ := skipStep_rest p b bits psum total irsv c c0
      dsimp only
      by_cases hst : (skipStep p b bits psum total irsv c).stop = true
      · simp only [hst, if_true]; rfl
      · simp only [hst, Bool.false_eq_true, if_false]
        rw [ih, r1, r2, r3]

/-- the intensity parameter (rate.c:395-406) -/
def icT (p : Inp) (irsv : Int) (cb : Nat) : Tree Int :=
  if irsv > 0 then
    .ask (.uint (cb + 1 - p.start)) (min p.intensity cb - p.start).toNat (.ret (min p.intensity cb))
      (fun v => .ret ((p.start : Int) + v))
  else .ret 0

/-- the dual-stereo flag (rate.c:412-420), entered with the reservation that is left -/
def dcT (p : Inp) (ds : Int) : Tree Int :=
  if ds > 0 then .ask .bit (if p.dualStereo ≠ 0 then 1 else 0) (.ret p.dualStereo) (fun v => .ret (v : Int))
  else .ret 0

theorem icOf_run (p : Inp) (s : SkipOut) : icOf p s = (icT p s.irsv s.codedBands).run s.coder := by
  unfold icOf icT
  split <;> rfl

theorem dcOf_run (p : Inp) (c : Coder) (ds : Int) : dcOf p c ds = (dcT p ds).run c := by
  unfold dcOf dcT
  split <;> rfl

/-- "Code the intensity and dual stereo parameters." (rate.c:395-421) -/
def stereoT (p : Inp) (irsv : Int) (cb : Nat) (d : Int) : Tree (Int × Int) :=
  (icT p irsv cb).bind fun i => (dcT p (if i ≤ p.start then 0 else d)).bind fun dl => .ret (i, dl)

/-- everything after the two stereo parameters (rate.c:423-523), from the values decided and the coder at the end -/
def tailOut (p : Inp) (s : SkipOut) (d i dl : Int) (c : Coder) : Out :=
  let r := splitLoop p i dl (distribute p s (if i ≤ p.start then s.total + d else s.total)) 0
  { codedBands := s.codedBands, balance := r.2, intensity := i, dualStereo := dl,
    bands := r.1 ++ s.skipped.map (fun x => skippedOut p x.2), ops := c.ops.reverse }

theorem finishTail_run (p : Inp) (s : SkipOut) (d : Int) :
    finishTail p s d = tailOut p s d ((stereoT p s.irsv s.codedBands d).run s.coder).1.1
      ((stereoT p s.irsv s.codedBands d).run s.coder).1.2 ((stereoT p s.irsv s.codedBands d).run s.coder).2 := by
  simp only [finishTail, codeStereo_eq, stereoT, Tree.run_bind, Tree.run, ← icOf_run, ← dcOf_run]
  rfl

/-- the whole conversation of `clt_compute_allocation` -/
def allocT (p : Inp) : Tree (Option (SkipOut × Int × Int)) :=
  (loopT p (skipStart p.start (bands p)) (skipRsv p) (l0 p) (sumInt (bits0 p)) (tot p) (irsv p) []).bind fun
    | some s => (stereoT p s.irsv s.codedBands (dsrsv p)).bind fun x => .ret (some (s, x.1, x.2))
    | none => .ret none

/-- the allocation's result from what its tree returns and the coder the run ends with -/
def outOf (p : Inp) : Option (SkipOut × Int × Int) × Coder → Res Out
  | (some x, c) => .ok (tailOut p x.1 (dsrsv p) x.2.1 x.2.2 c)
  | (none, _) => .abort

/-- **`clt_compute_allocation` is the run of its tree.** -/
theorem computeAllocation_run (p : Inp) (c : Coder) : computeAllocation p c = outOf p ((allocT p).run c) := by
  show (skipRun p c >>= fun s => pure (finishTail p s (dsrsv p))) = _
  rw [skipRun, skipLoop_run, allocT, Tree.run_bind]
  generalize (loopT p (skipStart p.start (bands p)) (skipRsv p) (l0 p) (sumInt (bits0 p)) (tot p) (irsv p) []).run c = r
  obtain ⟨r1, c1⟩ := r
  cases r1 with
  | some s =>
    simp only [setC, Res.bind_ok, Tree.run_bind, Tree.run, outOf, finishTail_run]
    rfl
  | none => rfl

theorem outOf_ok {p : Inp} {r : Option (SkipOut × Int × Int) × Coder} {o : Out} (h : outOf p r = .ok o) :
    ∃ x, r.1 = some x ∧ o = tailOut p x.1 (dsrsv p) x.2.1 x.2.2 r.2 := by
  obtain ⟨r1, c⟩ := r
  cases r1 with
  | some x => exact ⟨x, rfl, by injection h with h; exact h.symm⟩
  | none => cases h

/-! ## Encoder / decoder agreement -/

/-- The encoder side of `t` is mirrored by the decoder side of `t'`: the same calls, every value written is one the
    decoder can read back (`ev < ft`), and the encoder goes on as the decoder does after reading that value. -/
inductive Mirror {α : Type} : Tree α → Tree α → Prop
  | ret (a : α) : Mirror (.ret a) (.ret a)
  | ask {q : Ask} {ev ev' : Nat} {ke ke' : Tree α} {kd kd' : Nat → Tree α} :
      ev < q.ft → Mirror ke (kd' ev) → Mirror (.ask q ev ke kd) (.ask q ev' ke' kd')

theorem Mirror.bind {α β : Type} {f f' : α → Tree β} (hf : ∀ a, Mirror (f a) (f' a)) {t t' : Tree α} (h : Mirror t t') :
    Mirror (t.bind f) (t'.bind f') := by
  induction h with
  | ret a => exact hf a
  | ask hlt _ ih => exact .ask hlt ih

/-- the decoder-side run of `t'`, fed with the values the encoder-side run of `t` from `c` wrote, followed by anything,
    returns what that run returned -/
def Agrees {α : Type} (t t' : Tree α) (c : Coder) : Prop :=
  ∃ k, (t.run c).2.ops = k ++ c.ops ∧
    ∀ rest, t'.run (decOf c (k.reverse.map opVal ++ rest)) = ((t.run c).1, decOf (t.run c).2 rest)

/-- **The decoder reproduces the encoder** — for any mirrored pair of trees. -/
theorem Mirror.run_agree {α : Type} {t t' : Tree α} (h : Mirror t t') : ∀ c : Coder, c.encode = true → Agrees t t' c := by
  induction h with
  | ret a => exact fun c _ => ⟨[], rfl, fun _ => rfl⟩
  | @ask q ev ev' ke ke' kd kd' hlt _ ih =>
    intro c he
    obtain ⟨k, hk, hrest⟩ := ih (emit c q ev) he
    unfold Agrees
    simp only [Tree.run, he, if_true]
    refine ⟨k ++ [q.op ev], by rw [hk]; simp [emit], fun rest => ?_⟩
    -- the first value of the oracle is the one written, and the decoder reads it back unchanged
    have hread : read (decOf c ((k ++ [q.op ev]).reverse.map opVal ++ rest)) q =
        (ev, decOf (emit c q ev) (k.reverse.map opVal ++ rest)) := by
      simp only [read, decOf, emit, List.reverse_append, List.reverse_cons, List.reverse_nil, List.nil_append,
        List.map_cons, opVal_op, List.cons_append, List.headD_cons, List.tail_cons, Nat.mod_eq_of_lt hlt]
    simp only [decOf, Bool.false_eq_true, if_false] at hread ⊢
    rw [hread]
    exact hrest rest

theorem Agrees.bind {α β : Type} {t t' : Tree α} {f f' : α → Tree β} {c : Coder} (h1 : Agrees t t' c)
    (h2 : Agrees (f (t.run c).1) (f' (t.run c).1) (t.run c).2) : Agrees (t.bind f) (t'.bind f') c := by
  obtain ⟨k1, a1, b1⟩ := h1
  obtain ⟨k2, a2, b2⟩ := h2
  refine ⟨k2 ++ k1, by rw [Tree.run_bind, a2, a1, List.append_assoc], fun rest => ?_⟩
  -- the oracle the decoder gets is the encoder's calls in order: those of `t`, then those of `f`
  have e : (k2 ++ k1).reverse.map opVal ++ rest = k1.reverse.map opVal ++ (k2.reverse.map opVal ++ rest) := by
    simp [List.reverse_append, List.map_append, List.append_assoc]
  rw [Tree.run_bind, Tree.run_bind, e, b1]
  exact b2 rest

theorem stepT_mirror (p : Inp) (i d pv sb : Int) (b : Band) (bits psum total : Int) :
    Mirror (stepT p b bits psum total) (stepT (decInp p i d pv sb) b bits psum total) := by
  unfold stepT
  by_cases hc : bandBitsOf b bits psum total ≥ max b.thresh (allocFloor p.C + 2 ^ BITRES)
  · rw [if_pos hc, if_pos (show bandBitsOf b bits psum total ≥ max b.thresh (allocFloor (decInp p i d pv sb).C + 2 ^ BITRES) from hc)]
    refine .ask (by show _ < 2; split <;> omega) ?_
    cases encStop p b (bandBitsOf b bits psum total) <;> exact .ret _
  · rw [if_neg hc, if_neg (show ¬ bandBitsOf b bits psum total ≥ max b.thresh (allocFloor (decInp p i d pv sb).C + 2 ^ BITRES) from hc)]
    exact .ret _

theorem loopT_mirror (p : Inp) (i d pv sb : Int) (ss : Nat) (rsv : Int) : ∀ (l : List (Band × Int)) (psum total irsv : Int)
    (acc : List (Band × Int)),
    Mirror (loopT p ss rsv l psum total irsv acc) (loopT (decInp p i d pv sb) ss rsv l psum total irsv acc) := by
  intro l
  induction l with
  | nil => intro _ _ _ _; exact .ret _
  | cons hd rest ih =>
    intro psum total irsv acc
    obtain ⟨b, bits⟩ := hd
    rw [loopT, loopT]
    split
    · exact .ret _
    · refine Mirror.bind (fun stop => ?_) (stepT_mirror p i d pv sb b bits psum total)
      split
      · exact .ret _
      · exact ih _ _ _ _

/-- the value written for the intensity is below `ft` and gives `intensity` back; the dual-stereo flag is its own value -/
theorem stereoT_mirror (p : Inp) (i d pv sb : Int) (irsv : Int) (cb : Nat) (ds : Int) (hcb : p.start < cb)
    (hint : (p.start : Int) ≤ p.intensity) (hdual : p.dualStereo = 0 ∨ p.dualStereo = 1) :
    Mirror (stereoT p irsv cb ds) (stereoT (decInp p i d pv sb) irsv cb ds) := by
  have hic : Mirror (icT p irsv cb) (icT (decInp p i d pv sb) irsv cb) := by
    unfold icT
    split
    · refine .ask (by show _ < cb + 1 - p.start; omega) ?_
      show Mirror (.ret _) (.ret ((p.start : Int) + ((min p.intensity (cb : Int) - (p.start : Int)).toNat : Nat)))
      rw [show (p.start : Int) + ((min p.intensity (cb : Int) - (p.start : Int)).toNat : Nat) = min p.intensity (cb : Int) by omega]
      exact .ret _
    · exact .ret _
  have hdc : ∀ x, Mirror (dcT p x) (dcT (decInp p i d pv sb) x) := by
    intro x
    unfold dcT
    split
    · refine .ask (by show _ < 2; split <;> omega) ?_
      show Mirror (.ret _) (.ret _)
      rcases hdual with h | h <;> rw [h] <;> exact .ret _
    · exact .ret _
  exact Mirror.bind (fun _ => Mirror.bind (fun _ => .ret _) (hdc _)) hic

theorem splitLoop_decInp (p : Inp) (i d pv sb : Int) (inten dual : Int) : ∀ (l : List (Band × Int)) (bal : Int),
    splitLoop (decInp p i d pv sb) inten dual l bal = splitLoop p inten dual l bal := by
  intro l
  induction l with
  | nil => intro bal; rfl
  | cons x t ih =>
    intro bal
    obtain ⟨b, bits⟩ := x
    simp only [splitLoop]
    have e : splitBand (decInp p i d pv sb) inten dual b bits bal = splitBand p inten dual b bits bal := rfl
    rw [e, ih]

theorem tailOut_decInp (p : Inp) (i d pv sb : Int) (s : SkipOut) (dd ii dl : Int) (c : Coder) :
    tailOut (decInp p i d pv sb) s dd ii dl c = tailOut p s dd ii dl c := by
  simp only [tailOut, splitLoop_decInp]
  rfl

/-- **Encoder/decoder agreement.**  If the encoder-side run (any dual-stereo decision in {0,1}, any intensity
    `≥ start`, any `prev` / `signalBandwidth`) returns `o`, then the decoder-side run — same frame parameters, its own
    (ignored) values for the in/out parameters, fed with the values the encoder handed to the range coder followed by
    anything — returns exactly `o`: same `codedBands`, `balance`, `intensity`, `dual_stereo`, `pulses[]`, `ebits[]`,
    `fine_priority[]`, and the same sequence of coder calls. -/
theorem alloc_agree (p : Inp) (hp : Dom p) (orc : List Nat) (o : Out)
    (hint : (p.start : Int) ≤ p.intensity) (hdual : p.dualStereo = 0 ∨ p.dualStereo = 1)
    (h : computeAllocation p { encode := true, oracle := orc, ops := [] } = .ok o)
    (i d pv sb : Int) (rest : List Nat) :
    computeAllocation (decInp p i d pv sb) { encode := false, oracle := o.ops.map opVal ++ rest, ops := [] } = .ok o := by
  obtain ⟨o', ho', hcb, _⟩ := alloc_main p hp { encode := true, oracle := orc, ops := [] } (fun _ => ⟨hdual, by omega⟩)
  rw [h] at ho'
  injection ho' with ho'
  subst ho'
  rw [computeAllocation_run] at h
  obtain ⟨x, e, rfl⟩ := outOf_ok h
  generalize hc : ({ encode := true, oracle := orc, ops := [] } : Coder) = c at e hcb ⊢
  have hce : c.encode = true := by rw [← hc]
  have hops : c.ops = [] := by rw [← hc]
  -- the loop's tree is mirrored for every input; the stereo tree for the `codedBands` this run arrived at
  have hag : Agrees (allocT p) (allocT (decInp p i d pv sb)) c := by
    refine Agrees.bind ((loopT_mirror p i d pv sb _ _ _ _ _ _ _).run_agree c hce) ?_
    rw [allocT, Tree.run_bind] at e
    obtain ⟨_, _, hen⟩ := Tree.run_grow (loopT p (skipStart p.start (bands p)) (skipRsv p) (l0 p) (sumInt (bits0 p)) (tot p) (irsv p) []) c
    generalize (loopT p (skipStart p.start (bands p)) (skipRsv p) (l0 p) (sumInt (bits0 p)) (tot p) (irsv p) []).run c = r at e hen ⊢
    obtain ⟨r1, c1⟩ := r
    have hc1 : c1.encode = true := by rw [← hce]; exact hen
    cases r1 with
    | some s =>
      simp only [Tree.run_bind, Tree.run] at e
      injection e with e
      subst e
      exact Agrees.bind ((stereoT_mirror p i d pv sb s.irsv s.codedBands (dsrsv p) hcb hint hdual).run_agree c1 hc1)
        ⟨[], rfl, fun _ => rfl⟩
    | none => exact ⟨[], rfl, fun _ => rfl⟩
  obtain ⟨k, hk, hr⟩ := hag
  rw [computeAllocation_run]
  have horc : (tailOut p x.1 (dsrsv p) x.2.1 x.2.2 ((allocT p).run c).2).ops.map opVal ++ rest = k.reverse.map opVal ++ rest := by
    simp only [tailOut, hk, hops, List.append_nil]
  rw [horc]
  have := hr rest
  simp only [decOf, hops] at this
  rw [this, e]
  show Res.ok (tailOut (decInp p i d pv sb) x.1 (dsrsv p) x.2.1 x.2.2 _) = _
  rw [tailOut_decInp]
  rfl

/-! ## Flags are bits -/

def BitOk : Op → Prop
  | .bit v => v ≤ 1
  | .uint _ _ => True

def BitsOk (l : List Op) : Prop := ∀ op ∈ l, BitOk op

theorem BitsOk.cons {op : Op} {l : List Op} (h1 : BitOk op) (h2 : BitsOk l) : BitsOk (op :: l) := by
  intro o ho
  rcases List.mem_cons.mp ho with rfl | ho
  · exact h1
  · exact h2 o ho

namespace Tree
variable {α β : Type}

/-- every flag the encoder side writes is 0 or 1 -/
def Flags : Tree α → Prop
  | .ret _ => True
  | .ask q ev ke kd => (q = .bit → ev ≤ 1) ∧ ke.Flags ∧ ∀ v, (kd v).Flags

/-- the encoder writes what `Flags` allows; the decoder's flag is a value modulo 2 -/
theorem run_bits : ∀ (t : Tree α) (c : Coder), t.Flags → BitsOk c.ops → BitsOk (t.run c).2.ops
  | .ret _, _, _, h => h
  | .ask q ev ke kd, c, hf, h => by
    simp only [run]
    split
    · refine run_bits ke _ hf.2.1 (BitsOk.cons ?_ h)
      cases q with
      | bit => exact hf.1 rfl
      | uint ft => trivial
    · refine run_bits (kd _) _ (hf.2.2 _) (BitsOk.cons ?_ h)
      cases q with
      | bit => exact Nat.le_of_lt_succ (Nat.mod_lt _ (by decide))
      | uint ft => trivial

theorem bind_flags (f : α → Tree β) (hf : ∀ a, (f a).Flags) : ∀ t : Tree α, t.Flags → (t.bind f).Flags
  | .ret a, _ => hf a
  | .ask q ev ke kd, h => ⟨h.1, bind_flags f hf ke h.2.1, fun v => bind_flags f hf (kd v) (h.2.2 v)⟩

end Tree

theorem stepT_flags (p : Inp) (b : Band) (bits psum total : Int) : (stepT p b bits psum total).Flags := by
  unfold stepT
  split
  · exact ⟨fun _ => ite_le_one _, trivial, fun _ => trivial⟩
  · trivial

theorem loopT_flags (p : Inp) (ss : Nat) (rsv : Int) : ∀ (l : List (Band × Int)) (psum total irsv : Int)
    (acc : List (Band × Int)), (loopT p ss rsv l psum total irsv acc).Flags := by
  intro l
  induction l with
  | nil => intro _ _ _ _; trivial
  | cons hd rest ih =>
    intro psum total irsv acc
    obtain ⟨b, bits⟩ := hd
    rw [loopT]
    split
    · trivial
    · refine Tree.bind_flags _ (fun stop => ?_) _ (stepT_flags p b bits psum total)
      split
      · trivial
      · exact ih _ _ _ _

theorem stereoT_flags (p : Inp) (irsv : Int) (cb : Nat) (d : Int) : (stereoT p irsv cb d).Flags := by
  have hic : (icT p irsv cb).Flags := by
    unfold icT
    split
    · exact ⟨(fun h => by cases h), trivial, fun _ => trivial⟩
    · trivial
  have hdc : ∀ x, (dcT p x).Flags := by
    intro x
    unfold dcT
    split
    · exact ⟨fun _ => ite_le_one _, trivial, fun _ => trivial⟩
    · trivial
  refine Tree.bind_flags _ (fun _ => ?_) _ hic
  refine Tree.bind_flags _ (fun _ => ?_) _ (hdc _)
  trivial

theorem allocT_flags (p : Inp) : (allocT p).Flags := by
  refine Tree.bind_flags _ (fun r => ?_) _ (loopT_flags _ _ _ _ _ _ _ _)
  cases r with
  | some s =>
    refine Tree.bind_flags _ (fun _ => ?_) _ (stereoT_flags _ _ _ _)
    trivial
  | none => trivial

/-- All `ec_enc_bit_logp` arguments of a run of `clt_compute_allocation` are 0 or 1. -/
theorem alloc_bits (p : Inp) (c : Coder) (o : Out) (hc : c.ops = []) (h : computeAllocation p c = .ok o) : BitsOk o.ops := by
  rw [computeAllocation_run] at h
  obtain ⟨x, _, rfl⟩ := outOf_ok h
  intro op hop
  exact Tree.run_bits _ c (allocT_flags p) (by rw [hc]; intro _ hh; cases hh) op (List.mem_reverse.1 hop)

/-! ## Decoder-side runs read the oracle from the front -/

def SameKind : Op → Op → Prop
  | .bit _, .bit _ => True
  | .uint _ f1, .uint _ f2 => f1 = f2
  | _, _ => False

/-- both coders decode, have made the same calls, and still have a common stretch of oracle in front that reaches up to
    call number `J` -/
structure Syn (J : Nat) (c1 c2 : Coder) : Prop where
  e1 : c1.encode = false
  e2 : c2.encode = false
  ops : c1.ops = c2.ops
  orc : ∃ pre a b, c1.oracle = pre ++ a ∧ c2.oracle = pre ++ b ∧ c1.ops.length + pre.length = J

/-- the runs have gone apart at call number `J`, which was the same call on both sides -/
def Apart (J : Nat) (c1 c2 : Coder) : Prop :=
  ∃ h x1 x2 t1 t2, c1.ops = t1 ++ x1 :: h ∧ c2.ops = t2 ++ x2 :: h ∧ SameKind x1 x2 ∧ h.length = J

theorem Apart.grow {J : Nat} {c1 c2 c1' c2' : Coder} (h : Apart J c1 c2) (g1 : ∃ p, c1'.ops = p ++ c1.ops)
    (g2 : ∃ p, c2'.ops = p ++ c2.ops) : Apart J c1' c2' := by
  obtain ⟨hh, x1, x2, t1, t2, a, b, k, l⟩ := h
  obtain ⟨p1, q1⟩ := g1
  obtain ⟨p2, q2⟩ := g2
  exact ⟨hh, x1, x2, p1 ++ t1, p2 ++ t2, by rw [q1, a, List.append_assoc], by rw [q2, b, List.append_assoc], k, l⟩

/-- one decoder call from two coders in step: the same value and still in step, or — the common stretch is used up —
    apart at this very call -/
theorem read_syn {J : Nat} {c1 c2 : Coder} (h : Syn J c1 c2) (q : Ask) :
    ((read c1 q).1 = (read c2 q).1 ∧ Syn J (read c1 q).2 (read c2 q).2) ∨ Apart J (read c1 q).2 (read c2 q).2 := by
  obtain ⟨pre, a, b, h1, h2, h3⟩ := h.orc
  cases pre with
  | nil =>
    refine Or.inr ⟨c1.ops, q.op (c1.oracle.headD 0 % q.ft), q.op (c2.oracle.headD 0 % q.ft), [], [], rfl, ?_, ?_,
      by simpa using h3⟩
    · show q.op _ :: c2.ops = _
      rw [h.ops]; rfl
    · cases q with
      | bit => trivial
      | uint ft => exact rfl
  | cons v pre' =>
    have hv1 : c1.oracle.headD 0 = v := by rw [h1]; rfl
    have hv2 : c2.oracle.headD 0 = v := by rw [h2]; rfl
    refine Or.inl ⟨by simp only [read, hv1, hv2], ⟨h.e1, h.e2, ?_, pre', a, b, ?_, ?_, ?_⟩⟩
    · simp only [read, hv1, hv2, h.ops]
    · simp only [read, h1]; rfl
    · simp only [read, h2]; rfl
    · simp only [read, List.length_cons] at h3 ⊢; omega

/-- **Decoder-side runs read the oracle from the front** — for ANY tree: two runs in step end with the same result and
    in step, or have gone apart at call number `J`, which was the same call on both sides. -/
theorem Tree.run_syn {α : Type} {J : Nat} : ∀ (t : Tree α) (c1 c2 : Coder), Syn J c1 c2 →
    ((t.run c1).1 = (t.run c2).1 ∧ Syn J (t.run c1).2 (t.run c2).2) ∨ Apart J (t.run c1).2 (t.run c2).2
  | .ret _, _, _, h => Or.inl ⟨rfl, h⟩
  | .ask q ev ke kd, c1, c2, h => by
    simp only [Tree.run, h.e1, h.e2, Bool.false_eq_true, if_false]
    rcases read_syn h q with ⟨v, sy⟩ | dv
    · rw [v]
      exact Tree.run_syn (kd _) _ _ sy
    · -- apart: from here on the two runs only add calls
      refine Or.inr (dv.grow ?_ ?_)
      · obtain ⟨k, hk, _⟩ := Tree.run_grow (kd (read c1 q).1) (read c1 q).2; exact ⟨k, hk⟩
      · obtain ⟨k, hk, _⟩ := Tree.run_grow (kd (read c2 q).1) (read c2 q).2; exact ⟨k, hk⟩

/-- **Oracle-prefix determinism.**  Two decoder-side runs whose oracles start with the same `orc`: either they are the
    same run using no more than `orc`, or both make a call number `orc.length` and it is the same call. -/
theorem alloc_oracle_prefix (p : Inp) (orc a b : List Nat) (o1 o2 : Out)
    (h1 : computeAllocation p { encode := false, oracle := orc ++ a, ops := [] } = .ok o1)
    (h2 : computeAllocation p { encode := false, oracle := orc ++ b, ops := [] } = .ok o2) :
    (o1 = o2 ∧ o1.ops.length ≤ orc.length) ∨
    (∃ x1 x2, o1.ops[orc.length]? = some x1 ∧ o2.ops[orc.length]? = some x2 ∧ SameKind x1 x2) := by
  rw [computeAllocation_run] at h1 h2
  obtain ⟨y1, e1, rfl⟩ := outOf_ok h1
  obtain ⟨y2, e2, rfl⟩ := outOf_ok h2
  have hs0 : Syn orc.length { encode := false, oracle := orc ++ a, ops := [] } { encode := false, oracle := orc ++ b, ops := [] } :=
    ⟨rfl, rfl, rfl, orc, a, b, rfl, rfl, by simp⟩
  rcases Tree.run_syn (allocT p) _ _ hs0 with ⟨v, sy⟩ | ⟨h, x1, x2, t1, t2, q1, q2, k, l⟩
  · rw [e1, e2] at v
    injection v with v
    subst v
    refine Or.inl ⟨by simp only [tailOut, sy.ops], ?_⟩
    obtain ⟨pre, _, _, _, _, hl⟩ := sy.orc
    simp only [tailOut, List.length_reverse]
    omega
  · -- `ops` is kept most recent first: call number `orc.length` of the reversed list is the one on top of `h`
    refine Or.inr ⟨x1, x2, ?_, ?_, k⟩
    · simp only [tailOut]
      rw [q1, List.reverse_append, List.reverse_cons, List.append_assoc, List.getElem?_append_right (by simp [l])]
      simp [l]
    · simp only [tailOut]
      rw [q2, List.reverse_append, List.reverse_cons, List.append_assoc, List.getElem?_append_right (by simp [l])]
      simp [l]

end OpusProofs.CeltAlloc
