import OpusModel.Kernels
import Mathlib.Tactic.Ring
/-
  OpusProofs.Kernels — the reduction kernels of OpusProps/C15.lean, clause (iii), in any commutative semiring: a counted
  loop adds up what its iterations add (`loop_sum_mod`), and blocks, lanes and masked loads are reindexings of one
  sequential sum (`sumRange_mul`, `sumRange_lanes`, `sumRange_mask`).  What is left to each kernel is one iteration.
-/
namespace Opus.Kernels

variable {α : Type} [CommSemiring α]

theorem sumRange_congr {f g : Nat → α} (n : Nat) (h : ∀ i, i < n → f i = g i) :
    sumRange f n = sumRange g n := by
  induction n with
  | zero => rfl
  | succ n ih =>
    show sumRange f n + f n = sumRange g n + g n
    rw [ih (fun i hi => h i (Nat.lt_succ_of_lt hi)), h n (Nat.lt_succ_self n)]

theorem sumRange_add (f : Nat → α) (a b : Nat) :
    sumRange f (a + b) = sumRange f a + sumRange (fun j => f (a + j)) b := by
  induction b with
  | zero => simp [sumRange]
  | succ b ih =>
    show sumRange f (a + b) + f (a + b) = sumRange f a + (sumRange (fun j => f (a + j)) b + f (a + b))
    rw [ih, add_assoc]

theorem sumRange_zero_fn (n : Nat) : sumRange (fun _ => (0 : α)) n = 0 := by
  induction n with
  | zero => rfl
  | succ n ih => show sumRange (fun _ => (0 : α)) n + 0 = 0; rw [ih, add_zero]

theorem sumRange_add_fn (f g : Nat → α) (n : Nat) :
    sumRange (fun i => f i + g i) n = sumRange f n + sumRange g n := by
  induction n with
  | zero => show (0 : α) = 0 + 0; rw [add_zero]
  | succ n ih =>
    show sumRange (fun i => f i + g i) n + (f n + g n) = sumRange f n + f n + (sumRange g n + g n)
    rw [ih]; ring

/-- Fubini. -/
theorem sumRange_comm (f : Nat → Nat → α) (a b : Nat) :
    sumRange (fun i => sumRange (f i) b) a = sumRange (fun j => sumRange (fun i => f i j) a) b := by
  induction a with
  | zero => exact (sumRange_zero_fn b).symm
  | succ a ih =>
    show sumRange (fun i => sumRange (f i) b) a + sumRange (f a) b = _
    rw [ih, ← sumRange_add_fn]; rfl

/-- A sum over `L*b` elements, block by block. -/
theorem sumRange_mul (f : Nat → α) (L b : Nat) :
    sumRange f (L * b) = sumRange (fun k => sumRange (fun l => f (L * k + l)) L) b := by
  induction b with
  | zero => rfl
  | succ b ih => rw [Nat.mul_succ, sumRange_add, ih]; rfl

/-- **The reassociation theorem**: the sequential sum over `L*b` elements is the sum over the `L` lanes of the
    lane-strided partial sums. -/
theorem sumRange_lanes (f : Nat → α) (L b : Nat) :
    sumRange f (L * b) = sumRange (fun l => sumRange (fun k => f (L * k + l)) b) L := by
  rw [sumRange_mul, sumRange_comm]

/-- A masked load of the first `r ≤ L` lanes sums to the sequential sum of those elements. -/
theorem sumRange_mask (g : Nat → α) (r L : Nat) (h : r ≤ L) :
    sumRange (fun l => if l < r then g l else 0) L = sumRange g r := by
  obtain ⟨d, rfl⟩ := Nat.exists_eq_add_of_le h
  rw [sumRange_add, sumRange_congr r (g := g) (fun i hi => if_pos hi),
    sumRange_congr d (g := fun _ => 0) (fun i _ => if_neg (by omega)), sumRange_zero_fn, add_zero]

theorem sumRange_blocks (f : Nat → α) (n L : Nat) :
    sumRange f n = sumRange f (L * (n / L)) + sumRange (fun j => f (L * (n / L) + j)) (n - L * (n / L)) := by
  have h : n = L * (n / L) + (n - L * (n / L)) := by
    have := Nat.mul_div_le n L; omega
  conv_lhs => rw [h]
  exact sumRange_add f _ _

/-- A counted loop `for (k = 0; k < b; k++, i += step) s = body i s` (`body i s` is `loop 1 i s`) whose observed value
    `val s` grows by `t i` in every iteration adds up the `t`s — read through a projection `π` that respects addition
    (`id` for exact sums, `wrap32` for 32-bit accumulators). -/
theorem loop_sum_mod {β σ : Type} (π : α → β) (hπ : ∀ a b c, π a = π b → π (a + c) = π (b + c))
    (loop : Nat → Nat → σ → σ) (step : Nat) (val : σ → α) (t : Nat → α)
    (h0 : ∀ i s, loop 0 i s = s) (hs : ∀ b i s, loop (b + 1) i s = loop b (i + step) (loop 1 i s))
    (hv : ∀ i s, π (val (loop 1 i s)) = π (val s + t i)) (b i : Nat) (s : σ) :
    π (val (loop b i s)) = π (val s + sumRange (fun k => t (i + step * k)) b) := by
  induction b generalizing i s with
  | zero => rw [h0]; exact congrArg π (add_zero _).symm
  | succ b ih =>
    rw [hs, ih, hπ _ _ _ (hv i s), Nat.add_comm b 1, sumRange_add, add_assoc]
    congr 3
    · show t i = 0 + t (i + step * 0); rw [Nat.mul_zero, zero_add]; rfl
    · exact sumRange_congr b fun k _ => by rw [Nat.mul_add, Nat.mul_one, Nat.add_assoc]

theorem loop_sum {σ : Type} (loop : Nat → Nat → σ → σ) (step : Nat) (val : σ → α) (t : Nat → α)
    (h0 : ∀ i s, loop 0 i s = s) (hs : ∀ b i s, loop (b + 1) i s = loop b (i + step) (loop 1 i s))
    (hv : ∀ i s, val (loop 1 i s) = val s + t i) (b i : Nat) (s : σ) :
    val (loop b i s) = val s + sumRange (fun k => t (i + step * k)) b :=
  loop_sum_mod id (fun _ _ _ h => congrArg (· + _) h) loop step val t h0 hs hv b i s

/-- **Block loop = scalar loop** for reductions: a loop that consumes `L` consecutive elements per iteration adds up
    the sequential sum over `L*b` elements. -/
theorem loop_blocks {σ : Type} (loop : Nat → Nat → σ → σ) (L : Nat) (val : σ → α) (f : Nat → α)
    (h0 : ∀ i s, loop 0 i s = s) (hs : ∀ b i s, loop (b + 1) i s = loop b (i + L) (loop 1 i s))
    (hv : ∀ i s, val (loop 1 i s) = val s + sumRange (fun l => f (i + l)) L) (b i : Nat) (s : σ) :
    val (loop b i s) = val s + sumRange (fun j => f (i + j)) (L * b) := by
  rw [loop_sum loop L val _ h0 hs hv, sumRange_mul]
  exact congrArg _ (sumRange_congr b fun k _ => sumRange_congr L fun l _ => by rw [Nat.add_assoc])

theorem tailLoop_eq (f : Nat → α) (c i : Nat) (acc : α) :
    tailLoop f c i acc = acc + sumRange (fun j => f (i + j)) c := by
  simpa only [Nat.one_mul, id_eq] using
    loop_sum (tailLoop f) 1 id f (fun _ _ => rfl) (fun _ _ _ => rfl) (fun _ _ => rfl) c i acc

theorem accLoop_eq (step : Nat) (term : Nat → Vec α) (b i : Nat) (acc : Vec α) (l : Nat) :
    accLoop step term b i acc l = acc l + sumRange (fun k => term (i + step * k) l) b :=
  loop_sum (accLoop step term) step (· l) (term · l)
    (fun _ _ => rfl) (fun _ _ _ => rfl) (fun _ _ => rfl) b i acc

theorem fmaLoop_eq (step : Nat) (term : Nat → Vec α) (b i : Nat) (acc : Vec α) (l : Nat) :
    fmaLoop step term b i acc l = acc l + sumRange (fun k => term (i + step * k) l) b :=
  loop_sum (fmaLoop step term) step (· l) (term · l)
    (fun _ _ => rfl) (fun _ _ _ => rfl) (fun _ _ => add_comm _ _) b i acc

theorem hsumSse_eq (s : Vec α) : hsumSse s = (s 0 + s 2) + (s 1 + s 3) := by
  simp [hsumSse, vadd, movehlPs, addSs, shufflePs]

theorem innerProdSse_eq (x y : Nat → α) (N : Nat) : innerProdSse x y N = innerProdC x y N := by
  unfold innerProdSse innerProdC
  simp only []
  rw [tailLoop_eq, hsumSse_eq, sumRange_blocks (fun i => x i * y i) N 4, sumRange_lanes]
  simp only [accLoop_eq, vzero, vmul, loadu, zero_add, sumRange, Nat.add_zero]
  ring

end Opus.Kernels
