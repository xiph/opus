import OpusProofs.SilkCoreParams
/-
  OpusProofs.SilkCoreTotal — totality of the model of `silk_decode_core`: on a configuration of `silk_decoder_set_fs`, with
  non-zero gains and pitch lags as `silk_decode_pitch` delivers them (legal range, spread of at most 18 samples inside a frame),
  no sub-frame reaches `.oob` (a read of an unwritten `sLTP_Q15` element, an index outside a table or buffer) or `.abort`
  (`celt_assert( start_idx > 0 )`, division by a zero gain).
-/
namespace Opus.SilkCoreProofs
open Opus Opus.SilkParams Opus.SilkCore Opus.Gen Opus.Frozen

/-- What `silk_decode_core` needs from its caller. -/
structure CoreHyp (s : DecState) (f : FrameIn) (ctrl : Ctrl) : Prop where
  cfg : CfgOk s.fsKHz s.nbSubfr
  outLen : s.outBuf.length = 480
  sig : f.signalType = 0 ∨ f.signalType = 1 ∨ f.signalType = 2
  qoff : f.quantOffsetType = 0 ∨ f.quantOffsetType = 1
  pulses : frameLen s.fsKHz s.nbSubfr ≤ f.pulses.length
  gainsLen : ctrl.gainsQ16.length = s.nbSubfr
  gainsNz : ∀ g ∈ ctrl.gainsQ16, g ≠ 0
  pitchLen : ctrl.pitchL.length = s.nbSubfr
  pitchRange : f.signalType = 2 → ∀ l ∈ ctrl.pitchL, 2 * (s.fsKHz : Int) ≤ l ∧ l ≤ 18 * (s.fsKHz : Int)
  pitchSpread : f.signalType = 2 → ∀ i j, i < s.nbSubfr → j < s.nbSubfr → ctrl.pitchL.getD i 0 - ctrl.pitchL.getD j 0 ≤ 18
  lagPrev : s.lossCnt ≠ 0 → s.prevSignalType = 2 → 2 * (s.fsKHz : Int) ≤ s.lagPrev ∧ s.lagPrev ≤ 18 * (s.fsKHz : Int)

/-- The lag of sub-frame 0 when it is voiced. -/
def lag0 (s : DecState) (f : FrameIn) (ctrl : Ctrl) : Int := if f.signalType = 2 then ctrl.pitchL.getD 0 0 else s.lagPrev

theorem getI_of_getD (l : List Int) (k : Nat) (h : k < l.length) : getI l (k : Int) = .ok (l.getD k 0) :=
  getI_eq (i := k) (by omega) (by omega)

theorem splice_one_len (l : List Int) (k : Nat) (v : Int) (h : k < l.length) : (splice l k [v]).length = l.length :=
  splice_len l k [v] (by simp; omega)

theorem splice_one_get (l : List Int) (k : Nat) (v : Int) (h : k < l.length) : (splice l k [v]).getD k 0 = v := by
  unfold splice
  rw [List.getD_eq_getElem?_getD, List.append_assoc, List.getElem?_append_right (by simp; omega)]
  simp [List.length_take, Nat.min_eq_left (Nat.le_of_lt h)]

theorem isOk_ex {α} {r : Res α} (h : r.isOk = true) : ∃ v, r = .ok v := by
  cases r with
  | ok v => exact ⟨v, rfl⟩
  | err e => simp [Res.isOk] at h
  | oob => simp [Res.isOk] at h
  | abort => simp [Res.isOk] at h

theorem quantOffset_ok (st qo : Int) (h1 : st = 0 ∨ st = 1 ∨ st = 2) (h2 : qo = 0 ∨ qo = 1) : ∃ v, quantOffset st qo = .ok v := by
  rcases h1 with h | h | h <;> rcases h2 with h' | h' <;> subst h <;> subst h' <;> exact isOk_ex (by decide)

theorem lpcAnaRev_len (B : List Int) : ∀ (n : Nat) (sig : List Int), n ≤ sig.length → (lpcAnaRev B n sig).length = n := by
  intro n
  induction n with
  | zero => intro sig _; simp [lpcAnaRev]
  | succ n ih =>
    intro sig h
    cases sig with
    | nil => simp at h
    | cons x past => simp only [lpcAnaRev, List.length_cons]; rw [ih past (by simp at h; omega)]

theorem rewhitenBuf_len (fs k : Nat) (c : CoreSt) (h : ltpMemLen fs + 2 * subfrLen fs ≤ c.outBuf.length) :
    (rewhitenBuf fs k c).length = c.outBuf.length := by
  unfold rewhitenBuf
  split
  · apply splice_len
    have := List.length_take_le (2 * subfrLen fs) c.xq
    omega
  · rfl

theorem rewhitenBuf_i16 (fs k : Nat) (c : CoreSt) (hx : ∀ x ∈ c.xq, I16 x) (ho : ∀ x ∈ c.outBuf, I16 x) :
    ∀ x ∈ rewhitenBuf fs k c, I16 x := by
  unfold rewhitenBuf
  split
  · exact splice_mem _ _ _ _ ho fun x h => hx x (List.mem_of_mem_take h)
  · exact ho

/-- `ltpSynth` is total as soon as the LTP state holds `lag + 2` written elements and `lag ≥ 3`. -/
theorem ltpSynth_total (B : List Int) (lag : Int) (h3 : 3 ≤ lag) : ∀ (es h : List Int) (ub : Nat), (lag + 2).toNat ≤ h.length →
    ∃ r, ltpSynth B lag es h ub = .ok r := by
  intro es
  induction es with
  | nil => intro h ub _; exact ⟨_, rfl⟩
  | cons e es ih =>
    intro h ub hl
    simp only [ltpSynth]
    rw [if_neg (by omega)]
    have ht : ¬ ((h.drop (lag - 3).toNat).take 5).length < 5 := by
      rw [List.length_take, List.length_drop]; omega
    rw [if_neg ht]
    obtain ⟨r, hr⟩ := ih (lshift32 (wrap32 (e + lshift32 (ltpPred ((h.drop (lag - 3).toNat).take 5) B) 1)) 1 :: h)
      (ub + (if wrap32 (e + lshift32 (ltpPred ((h.drop (lag - 3).toNat).take 5) B) 1) =
        e + lshift32 (ltpPred ((h.drop (lag - 3).toNat).take 5) B) 1 then 0 else 1)) (by simp only [List.length_cons]; omega)
    rw [hr]
    exact ⟨_, rfl⟩

/-- Sub-frame 0 of the frame runs the long-term predictor. -/
def VoicedFrame (s : DecState) (f : FrameIn) : Prop :=
  f.signalType = 2 ∨ (s.lossCnt ≠ 0 ∧ s.prevSignalType = 2 ∧ f.signalType ≠ 2)

/-- Loop invariant of the sub-frame loop.  `lh` is the totality argument: once sub-frame 0 of a voiced frame has run, at least
    `lag₀ + 2 + subfr_length` elements of `sLTP_Q15` are written, and every later lag is at most `lag₀ + 18 < lag₀ + subfr_length`
    (`CoreHyp.pitchSpread`; `subfr_length ≥ 40`), so the reads `sLTP_buf_idx - lag_k - 2 …` of the later sub-frames hit written
    elements.  (`initLoop_ok` in SilkSynthIdxInit is the same argument on the index model.) -/
structure SubInv (s : DecState) (f : FrameIn) (ctrl : Ctrl) (k : Nat) (c : CoreSt) : Prop where
  pl : c.pitchL.length = s.nbSubfr
  ob : c.outBuf.length = 480
  same : f.signalType = 2 → c.pitchL = ctrl.pitchL
  lh : 1 ≤ k → VoicedFrame s f → (lag0 s f ctrl + 2).toNat + subfrLen s.fsKHz ≤ c.ltpH.length
  xqI : ∀ x ∈ c.xq, I16 x
  /-- `CoreHyp` says nothing of the content of `outBuf`; if it held `opus_int16` values on entry it still does -/
  obI : (∀ x ∈ s.outBuf, I16 x) → ∀ x ∈ c.outBuf, I16 x

theorem transK_iff {s : DecState} {f : FrameIn} {k : Nat} :
    transK s f k = true ↔ s.lossCnt ≠ 0 ∧ s.prevSignalType = 2 ∧ f.signalType ≠ 2 ∧ k < 2 := by
  simp only [transK, Bool.and_eq_true, decide_eq_true_eq]
  exact and_assoc.trans and_assoc

theorem subPrep_pitchL (s : DecState) (f : FrameIn) (ctrl : Ctrl) (exc : List Int) (k : Nat) (c : CoreSt) (g : Int) :
    (subPrep s f ctrl exc k c g).pitchL = if transK s f k = true then splice c.pitchL k [s.lagPrev] else c.pitchL := rfl

theorem subPrep_voiced (s : DecState) (f : FrameIn) (ctrl : Ctrl) (exc : List Int) (k : Nat) (c : CoreSt) (g : Int) :
    (subPrep s f ctrl exc k c g).voiced = true ↔ transK s f k = true ∨ f.signalType = 2 :=
  Bool.or_eq_true_iff.trans (or_congr Iff.rfl decide_eq_true_iff)

theorem getD_mem (l : List Int) (k : Nat) (h : k < l.length) : l.getD k 0 ∈ l := by
  rw [List.getD_eq_getElem?_getD, List.getElem?_eq_getElem h]
  exact List.getElem_mem h

/-- The lag a voiced sub-frame uses: read in bounds from `pitchL` (as the transition branch leaves it), legal, at most 18 above the
    lag of sub-frame 0 and equal to it at `k = 0`; and what the branch leaves of `pitchL` itself. -/
theorem lagFacts (s : DecState) (f : FrameIn) (ctrl : Ctrl) (exc : List Int) (k : Nat) (c : CoreSt) (g : Int)
    (H : CoreHyp s f ctrl) (hk : k < s.nbSubfr) (I : SubInv s f ctrl k c)
    (hv : (subPrep s f ctrl exc k c g).voiced = true) :
    ∃ lag, getI (subPrep s f ctrl exc k c g).pitchL k = .ok lag ∧ 2 * (s.fsKHz : Int) ≤ lag ∧ lag ≤ 18 * (s.fsKHz : Int) ∧
      lag ≤ lag0 s f ctrl + 18 ∧ (k = 0 → lag = lag0 s f ctrl) ∧ VoicedFrame s f ∧
      (subPrep s f ctrl exc k c g).pitchL.length = s.nbSubfr ∧
      (f.signalType = 2 → (subPrep s f ctrl exc k c g).pitchL = ctrl.pitchL) := by
  by_cases h2 : f.signalType = 2
  · have hp : (subPrep s f ctrl exc k c g).pitchL = ctrl.pitchL := by
      rw [subPrep_pitchL, if_neg fun ht => (transK_iff.1 ht).2.2.1 h2]; exact I.same h2
    have hkl : k < ctrl.pitchL.length := by rw [H.pitchLen]; exact hk
    have hr := H.pitchRange h2 _ (getD_mem ctrl.pitchL k hkl)
    have hs := H.pitchSpread h2 k 0 hk (by omega)
    refine ⟨ctrl.pitchL.getD k 0, by rw [hp]; exact getI_of_getD _ _ hkl, hr.1, hr.2, ?_, ?_, Or.inl h2, by rw [hp]; exact H.pitchLen,
      fun _ => hp⟩
    · unfold lag0; rw [if_pos h2]; omega
    · intro h0; subst h0; unfold lag0; rw [if_pos h2]
  · have ht := ((subPrep_voiced s f ctrl exc k c g).1 hv).resolve_right h2
    obtain ⟨t1, t2, t3, -⟩ := transK_iff.1 ht
    have hkl : k < c.pitchL.length := by rw [I.pl]; exact hk
    have hp : (subPrep s f ctrl exc k c g).pitchL = splice c.pitchL k [s.lagPrev] := by rw [subPrep_pitchL, if_pos ht]
    have hlen : (splice c.pitchL k [s.lagPrev]).length = s.nbSubfr := by rw [splice_one_len _ _ _ hkl]; exact I.pl
    have hl := H.lagPrev t1 t2
    have hl0 : lag0 s f ctrl = s.lagPrev := by unfold lag0; rw [if_neg h2]
    refine ⟨s.lagPrev, ?_, hl.1, hl.2, by rw [hl0]; omega, fun _ => hl0.symm, Or.inr ⟨t1, t2, t3⟩, by rw [hp]; exact hlen,
      fun h => absurd h h2⟩
    rw [hp]
    have := getI_of_getD (splice c.pitchL k [s.lagPrev]) k (by rw [hlen]; exact hk)
    rw [this, splice_one_get _ _ _ hkl]

theorem cfg_order {fs nb : Nat} (h : CfgOk fs nb) : (lpcOrder fs : Int) + 2 < 2 * (fs : Int) ∧ 0 ≤ (lpcOrder fs : Int) := by
  rcases h with ⟨h | h | h, _⟩ <;> subst h <;> decide

theorem rewhiten_total (fs nb k : Nat) (lag : Int) (A : List Int) (ig : Int) (c : CoreSt) (hc : CfgOk fs nb)
    (hob : c.outBuf.length = 480) (hl : 2 * (fs : Int) ≤ lag ∧ lag ≤ 18 * (fs : Int)) :
    ∃ ob, rewhiten fs k lag A ig c = .ok ob ∧ ob.1.length = 480 ∧ (lag + 2).toNat ≤ ob.2.length ∧ c.ltpH.length ≤ ob.2.length ∧
      ob.1 = rewhitenBuf fs k c := by
  obtain ⟨hsf, hm, _, _⟩ := cfg_nums hc
  obtain ⟨ho, ho0⟩ := cfg_order hc
  have hfs : fs ≤ 16 := by rcases hc.1 with h | h | h <;> omega
  have h5 : ((SilkCoreTabs.ltpOrder / 2 : Nat) : Int) = 2 := by decide
  have hbuf : (rewhitenBuf fs k c).length = 480 := by rw [rewhitenBuf_len _ _ _ (by omega), hob]
  have hn : (lag + 2).toNat ≤ ((rewhitenBuf fs k c).take (ltpMemLen fs + k * subfrLen fs)).reverse.length := by
    rw [List.length_reverse, List.length_take, hbuf, hm]; omega
  have hL := lpcAnaRev_len A _ _ hn
  unfold rewhiten
  rw [if_neg (by rw [h5, hm]; omega), if_neg (by rw [h5]; omega), hL, if_neg (Nat.lt_irrefl _)]
  refine ⟨_, rfl, hbuf, ?_, ?_, rfl⟩
  · simp only [List.length_append, List.length_map, hL]; omega
  · simp only [List.length_append, List.length_map, hL, List.length_drop]; omega

theorem ltpState_total (fs nb : Nat) (sc : Int) (ifl : Bool) (k : Nat) (lag : Int) (p : SubPrep) (c : CoreSt) (hc : CfgOk fs nb)
    (hob : c.outBuf.length = 480) (hl : 2 * (fs : Int) ≤ lag ∧ lag ≤ 18 * (fs : Int))
    (hh : 1 ≤ k → (lag + 2).toNat ≤ c.ltpH.length) :
    ∃ ob, ltpState fs sc ifl k lag p c = .ok ob ∧ ob.1.length = 480 ∧ (lag + 2).toNat ≤ ob.2.length ∧
      c.ltpH.length ≤ ob.2.length ∧ ((∀ x ∈ c.xq, I16 x) → (∀ x ∈ c.outBuf, I16 x) → ∀ x ∈ ob.1, I16 x) := by
  unfold ltpState
  split
  · obtain ⟨ob, h, h1, h2, h3, e⟩ := rewhiten_total fs nb k lag p.A _ { c with hist := p.hist } hc hob hl
    exact ⟨ob, h, h1, h2, h3, fun hx ho => e ▸ rewhitenBuf_i16 fs k { c with hist := p.hist } hx ho⟩
  · rename_i hk
    have hk1 : 1 ≤ k := by omega
    split
    · refine ⟨_, rfl, hob, ?_, ?_, fun _ ho => ho⟩ <;>
        (simp only [List.length_append, List.length_map, List.length_take, List.length_drop]; have := hh hk1; omega)
    · exact ⟨_, rfl, hob, hh hk1, Nat.le_refl _, fun _ ho => ho⟩

theorem excK_len (exc : List Int) (k sl : Nat) (h : (k + 1) * sl ≤ exc.length) : ((exc.drop (k * sl)).take sl).length = sl := by
  rw [List.length_take, List.length_drop]
  have : (k + 1) * sl = k * sl + sl := by rw [Nat.add_mul, Nat.one_mul]
  omega

theorem subPrep_excK (s : DecState) (f : FrameIn) (ctrl : Ctrl) (exc : List Int) (k : Nat) (c : CoreSt) (g : Int) :
    (subPrep s f ctrl exc k c g).excK = (exc.drop (k * subfrLen s.fsKHz)).take (subfrLen s.fsKHz) := rfl

theorem voicedLtp_total (s : DecState) (f : FrameIn) (ctrl : Ctrl) (ifl : Bool) (exc : List Int) (k : Nat) (c : CoreSt) (g : Int)
    (H : CoreHyp s f ctrl) (hk : k < s.nbSubfr) (I : SubInv s f ctrl k c)
    (hexc : (k + 1) * subfrLen s.fsKHz ≤ exc.length)
    (hv : (subPrep s f ctrl exc k c g).voiced = true) :
    ∃ v, voicedLtp s.fsKHz ctrl.ltpScaleQ14 ifl k (subPrep s f ctrl exc k c g) c = .ok v ∧ v.2.1.length = 480 ∧
      (lag0 s f ctrl + 2).toNat + subfrLen s.fsKHz ≤ v.2.2.1.length ∧
      ((∀ x ∈ c.xq, I16 x) → (∀ x ∈ c.outBuf, I16 x) → ∀ x ∈ v.2.1, I16 x) ∧
      (subPrep s f ctrl exc k c g).pitchL.length = s.nbSubfr ∧
      (f.signalType = 2 → (subPrep s f ctrl exc k c g).pitchL = ctrl.pitchL) := by
  obtain ⟨lag, hlag, hl1, hl2, hl3, hl4, hvf, hpl, hsame⟩ := lagFacts s f ctrl exc k c g H hk I hv
  obtain ⟨hsf, _, _, _⟩ := cfg_nums H.cfg
  have hfs : 8 ≤ s.fsKHz := by rcases H.cfg.1 with h | h | h <;> omega
  obtain ⟨ob, hob, ho1, ho2, ho3, ho4⟩ := ltpState_total s.fsKHz s.nbSubfr ctrl.ltpScaleQ14 ifl k lag (subPrep s f ctrl exc k c g) c H.cfg
    I.ob ⟨hl1, hl2⟩ (by intro h1; have := I.lh h1 hvf; omega)
  obtain ⟨r, hr⟩ := ltpSynth_total (subPrep s f ctrl exc k c g).B lag (by omega) (subPrep s f ctrl exc k c g).excK ob.2 c.ub ho2
  have hrl := (ltpSynth_len _ _ _ _ _ _ hr).2
  rw [subPrep_excK, excK_len exc k _ hexc] at hrl
  unfold voicedLtp
  simp only [hlag, hob, hr, Res.bind_ok, Res.pure_eq]
  refine ⟨_, rfl, ho1, ?_, ho4, hpl, hsame⟩
  show _ ≤ r.2.1.length
  rw [hrl]
  by_cases h0 : k = 0
  · rw [← hl4 h0]; omega
  · have := I.lh (by omega) hvf; omega

theorem subframe_total (s : DecState) (f : FrameIn) (ctrl : Ctrl) (ifl : Bool) (exc : List Int) (k : Nat) (c : CoreSt)
    (H : CoreHyp s f ctrl) (hk : k < s.nbSubfr) (I : SubInv s f ctrl k c) (hexc : (k + 1) * subfrLen s.fsKHz ≤ exc.length) :
    ∃ c', subframe s f ctrl ifl exc k c = .ok c' ∧ SubInv s f ctrl (k + 1) c' := by
  have hkl : k < ctrl.gainsQ16.length := by rw [H.gainsLen]; exact hk
  have hg := getI_of_getD ctrl.gainsQ16 k hkl
  have hnz := H.gainsNz _ (getD_mem ctrl.gainsQ16 k hkl)
  unfold subframe
  simp only [hg, Res.bind_ok]
  rw [if_neg hnz]
  by_cases hv : (subPrep s f ctrl exc k c (ctrl.gainsQ16.getD k 0)).voiced = true
  · rw [if_pos hv]
    obtain ⟨v, hvv, hv1, hv2, hv3, hpl, hsame⟩ := voicedLtp_total s f ctrl ifl exc k c _ H hk I hexc hv
    simp only [hvv, Res.bind_ok, Res.pure_eq]
    exact ⟨_, rfl, { pl := hpl, ob := hv1, same := hsame, lh := fun _ _ => hv2,
                     xqI := List.forall_mem_append.2 ⟨I.xqI, lpcSynth_xq_I16 _ _ _ _⟩, obI := fun h => hv3 I.xqI (I.obI h) }⟩
  · rw [if_neg hv]
    simp only [Res.pure_eq]
    obtain ⟨hnt, hns⟩ := not_or.1 (mt (subPrep_voiced s f ctrl exc k c _).2 hv)
    have hp : (subPrep s f ctrl exc k c (ctrl.gainsQ16.getD k 0)).pitchL = c.pitchL := by rw [subPrep_pitchL, if_neg hnt]
    refine ⟨_, rfl, { pl := by show (subPrep s f ctrl exc k c (ctrl.gainsQ16.getD k 0)).pitchL.length = _; rw [hp]; exact I.pl, ob := I.ob,
                      same := fun h => absurd h hns, lh := ?_,
                      xqI := List.forall_mem_append.2 ⟨I.xqI, lpcSynth_xq_I16 _ _ _ _⟩, obI := I.obI }⟩
    intro _ hvf
    show _ ≤ c.ltpH.length
    -- an unvoiced sub-frame of a frame whose sub-frame 0 was voiced: only after the transition sub-frames, k ≥ 2
    rcases hvf with h | ⟨t1, t2, t3⟩
    · exact absurd h hns
    · have hk2 : ¬ k < 2 := fun hlt => hnt (transK_iff.2 ⟨t1, t2, t3, hlt⟩)
      exact I.lh (by omega) (Or.inr ⟨t1, t2, t3⟩)

theorem subframes_total (s : DecState) (f : FrameIn) (ctrl : Ctrl) (ifl : Bool) (exc : List Int) (H : CoreHyp s f ctrl)
    (hexc : s.nbSubfr * subfrLen s.fsKHz ≤ exc.length) :
    ∀ (n k : Nat) (c : CoreSt), k + n = s.nbSubfr → SubInv s f ctrl k c →
      ∃ c', subframes s f ctrl ifl exc n k c = .ok c' ∧ SubInv s f ctrl s.nbSubfr c' := by
  intro n
  induction n with
  | zero => intro k c hk I; exact ⟨c, rfl, by rw [← hk]; exact I⟩
  | succ n ih =>
    intro k c hkn I
    have hle : (k + 1) * subfrLen s.fsKHz ≤ s.nbSubfr * subfrLen s.fsKHz := Nat.mul_le_mul_right _ (by omega)
    obtain ⟨c1, h1, I1⟩ := subframe_total s f ctrl ifl exc k c H (by omega) I (Nat.le_trans hle hexc)
    obtain ⟨c2, h2⟩ := ih (k + 1) c1 (by omega) I1
    simp only [subframes, h1, Res.bind_ok]
    exact ⟨c2, h2⟩

theorem decodeCore_total (s : DecState) (f : FrameIn) (ctrl : Ctrl) (interp : Int) (H : CoreHyp s f ctrl) :
    ∃ o, decodeCore s f ctrl interp = .ok o ∧ o.pitchL.length = s.nbSubfr ∧ o.outBuf.length = 480 ∧
      ((∀ x ∈ s.outBuf, I16 x) → ∀ x ∈ o.outBuf, I16 x) := by
  obtain ⟨off, hoff⟩ := quantOffset_ok f.signalType f.quantOffsetType H.sig H.qoff
  have hpl : (f.pulses.take (frameLen s.fsKHz s.nbSubfr)).length = frameLen s.fsKHz s.nbSubfr := by
    rw [List.length_take]; have := H.pulses; omega
  obtain ⟨c, hc, Ic⟩ := subframes_total s f ctrl (decide (interp < 4))
    (excLoop off f.seed (f.pulses.take (frameLen s.fsKHz s.nbSubfr))) H
    (by rw [excLoop_len, hpl]; exact Nat.le_refl _) s.nbSubfr 0
    { hist := s.sLPC.reverse, ltpH := [], outBuf := s.outBuf, xq := [], prevGainQ16 := s.prevGainQ16,
      ltpCoef := ctrl.ltpCoef, pitchL := ctrl.pitchL, ub := 0 } (by omega)
    { pl := H.pitchLen, ob := H.outLen, same := fun _ => rfl, lh := fun h => absurd h (by omega), xqI := nofun, obI := id }
  exact ⟨_, (decodeCore_ok_iff ..).2 ⟨off, c, hoff, hpl, hc, rfl⟩, Ic.pl, Ic.ob, Ic.obI⟩

end Opus.SilkCoreProofs
