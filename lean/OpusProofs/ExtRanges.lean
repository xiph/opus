import OpusProofs.ExtCount
/-
  The model computes with unbounded `Int`/`Nat`; for a padding length below 2^31 every value the C code of
  src/extensions.c stores in an `opus_int32`/`int` stays inside that type:
    * the lacing loop of `skip_extension_payload` (`bytes`, `header_size`, `len`),
    * every field of `OpusExtensionIterator` in every state a caller can reach (`Box` of ExtBox, kept by `Reach.reached`),
    * the number of extensions an iteration returns (`count`, `nb_extensions`): at most `nb_frames * len`,
    * on the writer side, the position and size arithmetic of `opus_packet_extensions_generate`.
-/
namespace Opus.ExtProofs
open Opus Opus.Ext

/-- `x` is representable as `opus_int32`. -/
def InI32 (x : Int) : Prop := -2147483648 ≤ x ∧ x ≤ 2147483647

/-- The values `(len, bytes, header_size)` after each execution of the body of
    `do { … lacing = *data++; bytes += lacing; header_size++; len -= lacing + 1; } while (lacing == 255)`
    (extensions.c:74-81), same recursion as `lacing`. -/
def lacingTrace (d : Array Nat) (p : Nat) (len : Int) (bytes hs : Nat) : List (Int × Nat × Nat) :=
  if len < 1 then []
  else match d[p]? with
    | none => []
    | some l =>
      (len - (l + 1), bytes + l, hs + 1) ::
        (if l = 255 then lacingTrace d (p + 1) (len - 256) (bytes + 255) (hs + 1) else [])
termination_by len.toNat
decreasing_by omega

/-- What `lacing` returns is an entry of the trace. -/
theorem lacing_mem_trace (d : Array Nat) (p : Nat) (len : Int) (bytes hs : Nat) :
    ∀ {p' : Nat} {len' : Int} {bytes' hs' : Nat},
    lacing d p len bytes hs = .ok (some (p', len', bytes', hs')) →
    (len', bytes', hs') ∈ lacingTrace d p len bytes hs := by
  fun_induction lacing d p len bytes hs with
  | case1 => intro _ _ _ _ h; simp at h
  | case2 => intro _ _ _ _ h; simp at h
  | case3 p len bytes hs hlt hsome ih =>
    intro _ _ _ _ h
    rw [lacingTrace]
    simp only [hlt, if_false, hsome, if_true]
    exact List.mem_cons_of_mem _ (ih h)
  | case4 p len bytes hs hlt l hsome hne =>
    intro _ _ _ _ h
    rw [lacingTrace]
    simp only [hlt, if_false, hsome, hne]
    simp only [Res.ok.injEq, Option.some.injEq, Prod.mk.injEq] at h
    obtain ⟨_, rfl, rfl, rfl⟩ := h
    exact List.mem_cons_self ..

/-- Loop invariant `bytes = 255·header_size`, `len = len0 − 256·header_size` at the loop head gives, after
    every pass: `header_size ≥ 1`, `256·(header_size−1) + 1 ≤ len0`, `bytes ≤ 255·header_size`,
    `−255 ≤ len ≤ len0`. -/
theorem lacingTrace_inv (d : Array Nat) (hb : ∀ (i x : Nat), d[i]? = some x → x < 256) (len0 : Int)
    (p : Nat) (len : Int) (bytes hs : Nat) :
    len + 256 * hs = len0 → bytes = 255 * hs →
    ∀ t ∈ lacingTrace d p len bytes hs,
      -255 ≤ t.1 ∧ t.1 ≤ len0 ∧ 1 ≤ t.2.2 ∧ 256 * ((t.2.2 : Int) - 1) + 1 ≤ len0 ∧ t.2.1 ≤ 255 * t.2.2 := by
  fun_induction lacingTrace d p len bytes hs with
  | case1 => intro _ _ t ht; simp at ht
  | case2 => intro _ _ t ht; simp at ht
  | case3 p len bytes hs hlt l hsome ih =>
    intro h1 h2 t ht
    have hl := hb _ _ hsome
    rcases List.mem_cons.mp ht with rfl | ht
    · simp only; omega
    · split at ht
      · exact ih (by omega) (by omega) t ht
      · simp at ht

/-- Lacing loop, `opus_int32`: called with `0 ≤ len < 2^31`: after every pass through the loop body
    `len ∈ [−255, len0]`, `header_size ∈ [1, 2^23]`, `bytes ∈ [0, 2139095040]` — all inside `opus_int32`
    (and `lacing + 1 ≤ 256`). -/
theorem lacing_ranges (d : Array Nat) (hb : ∀ (i x : Nat), d[i]? = some x → x < 256) (p : Nat) (len0 : Int)
    (hl : len0 ≤ 2147483647) :
    ∀ t ∈ lacingTrace d p len0 0 0,
      -255 ≤ t.1 ∧ t.1 ≤ len0 ∧ 1 ≤ t.2.2 ∧ t.2.2 ≤ 8388608 ∧ t.2.1 ≤ 2139095040 ∧
      InI32 t.1 ∧ InI32 t.2.1 ∧ InI32 t.2.2 := by
  intro t ht
  have := lacingTrace_inv d hb len0 p len0 0 0 (by omega) (by omega) t ht
  unfold InI32
  omega

/-- Iterator fields, `opus_int32`: in every state a caller can reach on `len < 2^31` bytes of padding, every
    integer field of `OpusExtensionIterator` and every pointer difference the code computes
    (`curr_data - data`, `curr_data0 - repeat_data`) is inside `opus_int32`; the frame counters are at most 302
    (`curr_frame` after a rejected separator: `47 + 255`). -/
theorem Reach.ranges {d : Bytes} {nbFrames : Nat} (hb : BytesOk d) (hl : (d.length : Int) ≤ 2147483647) {it : Iter}
    (h : Reach d nbFrames it) :
    InI32 it.len ∧ InI32 it.currLen ∧ InI32 it.repeatLen ∧ InI32 it.srcLen ∧ InI32 it.tsl ∧
    InI32 it.currData ∧ InI32 ((it.currData : Int) - it.repeatData) ∧ 0 ≤ (it.currData : Int) - it.repeatData ∧
    it.nbFrames ≤ 48 ∧ it.repeatFrame ≤ 48 ∧ it.currFrame ≤ 302 := by
  have hB := (h.reached hb).box
  have hlen := (h.reached hb).len
  unfold Box at hB
  unfold InI32
  omega

/-- Number of extensions: iterating over `len` bytes of padding of a packet with `nb_frames` frames returns
    at most `nb_frames · len` extensions (each byte at most once per frame: directly, or replayed by
    "repeat these extensions").  This is what `count`, `count_ext`, `parse` and `parse_ext` count in an `int`. -/
theorem iterAll_count_le (d : Bytes) (hb : BytesOk d) (nbF : Nat) {it : Iter} {l : List ExtRef} {s : Step}
    (hinit : iterInit d d.length nbF = .ok it) (hall : iterAll it = .ok (l, s)) :
    (l.length : Int) ≤ nbF * d.length := by
  obtain ⟨hB, hlen, hcl, hphi⟩ := iterInit_box hinit
  obtain ⟨hI, _, hnb, _⟩ := iterInit_inv hb (Int.le_refl _) hinit
  obtain ⟨l', s', h1, _, _, h4⟩ := iterAll_inv it hI
  rw [hall] at h1; cases h1
  have := h4 hB hcl
  rw [hphi, show it.nbFrames = nbF by omega] at this
  exact this

/-- The arithmetic of `write_extension_payload` for a long ID (extensions.c:423-442), on a bare integer `n` standing
    for `ext->len`: with `0 ≤ n ≤ 2139095039`
    (`= 255·2^23 − 1`), `length_bytes = 1 + n/255` and the sum `length_bytes + n` of the buffer check are inside
    `opus_int32`; at `n = 2139095040` the sum is `2^31 + 1`: an extension payload of 2 139 095 040 bytes or more
    makes the check itself overflow.  (Below that the check is exact, so it fails for every `len < 2^31` that is
    too small: the total size is never formed as a sum.) -/
theorem gen_long_ranges (n : Int) (h0 : 0 ≤ n) (h1 : n ≤ 2139095039) :
    InI32 (n / 255) ∧ InI32 (1 + n / 255) ∧ InI32 (1 + n / 255 + n) ∧ 0 ≤ n % 255 ∧ n % 255 < 255 := by
  unfold InI32; omega

theorem gen_long_tight : ¬ InI32 (1 + (2139095040 : Int) / 255 + 2139095040) := by
  unfold InI32; omega

/-- Position arithmetic (every `len-pos < k` check followed by `k` writes, the final `padding = len - pos`):
    with `0 ≤ pos ≤ len ≤ INT32_MAX` and a request `k ≥ 0` computed without overflow, `len - pos` is in range, and when
    the check passes the new position `pos + k` is again `≤ len`.  So `pos` — the return value — never exceeds `len`. -/
theorem gen_pos_ranges (len pos k : Int) (hl : len ≤ 2147483647) (hp : 0 ≤ pos) (hpl : pos ≤ len) (hk : 0 ≤ k)
    (hpass : ¬ (len - pos < k)) :
    InI32 (len - pos) ∧ 0 ≤ len - pos ∧ InI32 (pos + k) ∧ 0 ≤ pos + k ∧ pos + k ≤ len ∧ InI32 (pos + (len - pos)) := by
  unfold InI32; omega

/-- The ID byte `(ext->id<<1) + (ext->id < 32 ? ext->len : !last)` (extensions.c:451): for a valid ID and an
    admissible length it is a byte value; for an inadmissible short length (rejected in `write_extension_payload`, extensions.c:413-414) the `int` sum
    is still exact unless `ext->len > INT32_MAX − 2·id` (`id ≤ 31`, so at least `2147483586`). -/
theorem gen_idbyte_ranges (id l : Int) (h3 : 3 ≤ id) (h127 : id ≤ 127) :
    (0 ≤ l → l ≤ 1 → 0 ≤ 2 * id + l ∧ 2 * id + l ≤ 255) ∧
    (id ≤ 31 → InI32 l → l ≤ 2147483585 → InI32 (2 * id + l)) := by
  unfold InI32; omega

end Opus.ExtProofs
