import OpusProofs.DecSkelBasic
/-
  OpusProofs.DecSkelSilk — the SILK stage of `opus_decode_frame` (opus_decoder.c:392-472):
  the control block the skeleton hands to `silk_Decode` is always legal, the loop terminates, and the SILK frames
  that cover the frame fit where it writes them: every write stays inside `pcm` / `pcm_silk`.
-/
namespace Opus.DecSkel
open Opus
variable {o : Oracle} {st0 : DecState} {cap0 u : Int} {r : Run} {b : Body}

/-- The arguments `silkLoop` passes to `silk_Decode`; `first` is `newPacketFlag`.  `SilkArgsOk` does not look at that flag, so
    the lemmas below ask for legal arguments at `first = 0` only. -/
def loopArgs (st : DecState) (lost first : Int) : SilkArgs :=
  { payloadSize_ms := st.dc.payloadSize_ms, internalSampleRate := st.dc.internalSampleRate,
    nChannelsInternal := st.dc.nChannelsInternal, nChannelsAPI := st.dc.nChannelsAPI,
    API_sampleRate := st.dc.API_sampleRate, lostFlag := lost, newPacketFlag := first }

/-- `silk_Decode` frame length for the current control block. -/
def loopN (st : DecState) : Int := (if st.dc.payloadSize_ms = 10 then 10 else 20) * (st.dc.API_sampleRate / 1000)

theorem silkStep_ok (ho : OracleOk o) {lost fsz decoded tell : Int} {p : Ptr} (hg : Good st0 cap0 r)
    (hargs : SilkArgsOk (loopArgs r.st lost 0)) (hroom : Room st0 cap0 p (loopN r.st)) (htell : 1 ≤ tell) :
    (silkStep o lost fsz decoded p tell r).err = 0 ∧ (silkStep o lost fsz decoded p tell r).n = loopN r.st ∧
    (silkStep o lost fsz decoded p tell r).run.st = r.st ∧ Good st0 cap0 (silkStep o lost fsz decoded p tell r).run ∧
    1 ≤ (silkStep o lost fsz decoded p tell r).tell := by
  have hA : SilkArgsOk (loopArgs r.st lost (if decoded = 0 then 1 else 0)) := hargs
  obtain ⟨h1, h2, h3⟩ := ho.silk r.k (loopArgs r.st lost (if decoded = 0 then 1 else 0)) hA
  have hn : silkSamples (loopArgs r.st lost (if decoded = 0 then 1 else 0)) = loopN r.st := rfl
  unfold silkStep
  simp only [loopArgs] at h1 h2 h3 hn hA
  simp only [h1, ne_eq, not_true_eq_false, false_and, ↓reduceIte]
  refine ⟨trivial, ?_, rfl, ?_, ?_⟩
  · rw [h2, hn]
  · refine hg.tick.push (evGood_of_ptr rfl ⟨hA, rfl, ?_, ?_⟩ hroom.cap)
    · rw [h2, hn]
    · rw [h2, hn, hg.inv.nca, hg.ch]; exact hroom.room
  · by_cases hl : lost = 1
    · simp only [hl, ↓reduceIte]; exact htell
    · simp only [hl, ↓reduceIte]; exact h3 hl

/-- The `silk_Decode` loop under the oracle contract, entered with samples still to decode: each iteration writes one SILK
    frame of `loopN` samples per channel; if `k` such frames cover what is left and fit at `p`, every write is in bounds;
    the state is left alone. -/
theorem silkLoop_spec (ho : OracleOk o) (lost fsz : Int) :
    ∀ (k : Nat) (decoded : Int) (p : Ptr) (tell : Int) (r : Run), Good st0 cap0 r →
      SilkArgsOk (loopArgs r.st lost 0) → 0 < loopN r.st → 1 ≤ tell → Room st0 cap0 p (k * loopN r.st) →
      decoded < fsz → fsz - decoded ≤ k * loopN r.st →
      SPost st0 cap0 r.st (fun et r' => et.1 = 0 ∧ 1 ≤ et.2 ∧ r'.st = r.st) (silkLoop o lost fsz decoded p tell r) := by
  intro k
  induction k with
  | zero => intro decoded p tell r _ _ _ _ _ hlt hle; simp only [Int.natCast_zero, Int.zero_mul] at hle; omega
  | succ k ih =>
    intro decoded p tell r hg hargs hn htell hroom hlt hle
    have hmul : ((k + 1 : Nat) : Int) * loopN r.st = k * loopN r.st + loopN r.st := by
      push_cast; rw [Int.add_mul, Int.one_mul]
    have hkn : 0 ≤ (k : Int) * loopN r.st := Int.mul_nonneg (by omega) (Int.le_of_lt hn)
    rw [hmul] at hroom hle
    obtain ⟨e1, e2, e3, e4, e5⟩ := silkStep_ok ho (fsz := fsz) (decoded := decoded) hg hargs
      (hroom.le (Int.le_of_lt hn) (by omega)) htell
    rw [silkLoop]
    simp only [e1, ne_eq, not_true_eq_false, ↓reduceIte, e2]
    by_cases hcont : decoded + loopN r.st < fsz
    · simp only [hcont, ↓reduceDIte, show ¬ loopN r.st ≤ 0 by omega, hg.ch]
      have := ih (decoded + loopN r.st) (p.add (loopN r.st * st0.channels)) (silkStep o lost fsz decoded p tell r).tell
        (silkStep o lost fsz decoded p tell r).run e4
      rw [e3] at this
      exact this hargs hn e5 (hroom.add (Int.le_of_lt hn) hkn (by omega)) hcont (by omega)
    · simp only [hcont, ↓reduceDIte]
      exact .ret e4 (e3 ▸ .refl _) ⟨rfl, e5, e3⟩

/-- The durations of a frame handed to the SILK and CELT stages, `u` = 2.5 ms: a packet duration (2.5 … 60 ms) or the 7.5 ms
    the SILK-only layer may be asked to conceal. -/
@[reducible] def FrameDur (u a : Int) : Prop :=
  a = u ∨ a = 2 * u ∨ a = 3 * u ∨ a = 4 * u ∨ a = 8 * u ∨ a = 16 * u ∨ a = 24 * u

/-- What the SILK stage needs of a frame: a legal duration; with data, a SILK-only frame announces a SILK bandwidth (else
    `silkConfig` asserts, :426); without data (concealment) the SILK control block must have been initialised by an earlier
    frame, since `silkConfig` then keeps its rate and channel count. -/
structure SilkPre (st : DecState) (u : Int) (b : Body) : Prop where
  aud : FrameDur u b.audiosize
  bw : b.data.isSome → b.mode = MODE_SILK → (b.bandwidth = BW_NB ∨ b.bandwidth = BW_MB ∨ b.bandwidth = BW_WB)
  ready : b.data.isNone → st.dc.internalSampleRate ≠ 0 ∧ st.dc.nChannelsInternal ≠ 0

/-- `1000·(j·2.5 ms)/Fs` is `5j/2` milliseconds, whatever the rate. -/
theorem cdiv_ms {st : DecState} {u : Int} (hu : Units st u) {j : Int} (hj : 0 ≤ j) :
    cdiv (1000 * (j * u)) st.Fs = 5 * j / 2 := by
  have hp := hu.pos
  rw [hu.fs, cdiv_nonneg (Int.mul_nonneg (by decide) (Int.mul_nonneg hj (by omega))), ← Int.mul_assoc,
    Int.mul_ediv_mul_of_pos_left _ _ (by omega)]
  omega

/-- `IMAX(10, 1000*audiosize/Fs)` (:412) is a legal SILK payload size for every audiosize the
    skeleton can reach. -/
theorem payload_val {st : DecState} {u a : Int} (hu : Units st u)
    (ha : FrameDur u a) :
    (max 10 (cdiv (1000 * a) st.Fs) = 10 ∧ a ≤ 4 * u) ∨ (max 10 (cdiv (1000 * a) st.Fs) = 20 ∧ a = 8 * u) ∨
    (max 10 (cdiv (1000 * a) st.Fs) = 40 ∧ a = 16 * u) ∨ (max 10 (cdiv (1000 * a) st.Fs) = 60 ∧ a = 24 * u) := by
  have hp := hu.pos
  rcases ha with h | h | h | h | h | h | h
  · rw [h, ← Int.one_mul u, cdiv_ms hu (by decide)]; omega
  all_goals rw [h, cdiv_ms hu (by decide)]; omega

theorem silkConfig_spec {st : DecState} {u : Int} {b : Body} (hinv : DecInv st) (hu : Units st u) (hp : SilkPre st u b) :
    ∃ st3, silkConfig st b = some st3 ∧ DecInv st3 ∧ FrameRel st st3 ∧ st3.prev_mode = st.prev_mode ∧
      st3.prev_redundancy = st.prev_redundancy ∧ st3.dc.internalSampleRate ≠ 0 ∧ st3.dc.nChannelsInternal ≠ 0 ∧
      ((st3.dc.payloadSize_ms = 10 ∧ b.audiosize ≤ 4 * u) ∨ (st3.dc.payloadSize_ms = 20 ∧ b.audiosize = 8 * u) ∨
       (st3.dc.payloadSize_ms = 40 ∧ b.audiosize = 16 * u) ∨ (st3.dc.payloadSize_ms = 60 ∧ b.audiosize = 24 * u)) := by
  have hps := payload_val hu hp.aud
  -- what `silkConfig` returns: `st` with the payload size of :412 and a SILK rate and channel count in use
  obtain ⟨isr, nci, hisr, hnci, hcfg⟩ : ∃ isr nci : Int, (isr = 8000 ∨ isr = 12000 ∨ isr = 16000) ∧ (nci = 1 ∨ nci = 2) ∧
      silkConfig st b = some { st with dc := { st.dc with
        payloadSize_ms := max 10 (cdiv (1000 * b.audiosize) st.Fs), nChannelsInternal := nci, internalSampleRate := isr } } := by
    unfold silkConfig
    by_cases hd : b.data.isSome
    · simp only [hd, ↓reduceIte]
      by_cases hm : b.mode = MODE_SILK
      · simp only [hm, ↓reduceIte]
        rcases hp.bw hd hm with hb | hb | hb
        · simp only [hb, ↓reduceIte]
          exact ⟨8000, _, Or.inl rfl, hinv.sch, rfl⟩
        · have : ¬ BW_MB = BW_NB := by decide
          simp only [hb, this, ↓reduceIte]
          exact ⟨12000, _, Or.inr (Or.inl rfl), hinv.sch, rfl⟩
        · have h1 : ¬ BW_WB = BW_NB := by decide
          have h2 : ¬ BW_WB = BW_MB := by decide
          simp only [hb, h1, h2, ↓reduceIte]
          exact ⟨16000, _, Or.inr (Or.inr rfl), hinv.sch, rfl⟩
      · simp only [hm, ↓reduceIte]
        exact ⟨16000, _, Or.inr (Or.inr rfl), hinv.sch, rfl⟩
    · simp only [hd]
      -- concealment keeps rate and channel count, which an earlier frame has set
      obtain ⟨hi0, hn0⟩ := hp.ready ((isSome_or_isNone b.data).resolve_left hd)
      exact ⟨_, _, hinv.isr.resolve_left hi0, hinv.nci.resolve_left hn0, rfl⟩
  have hi0 : isr ≠ 0 := by omega
  have hn0 : nci ≠ 0 := by omega
  refine ⟨_, hcfg, { hinv with isr := Or.inr hisr, nci := Or.inr hnci, silkReady := fun _ => ⟨hi0, hn0⟩,
                               ps := Or.inr (hps.imp And.left (Or.imp And.left (Or.imp And.left And.left))) },
    ?_, rfl, rfl, hi0, hn0, hps⟩
  constructor <;> first | rfl | exact fun _ => hi0 | exact fun _ => hn0

theorem silkLost_cases (b : Body) : silkLost b = 0 ∨ silkLost b = 1 ∨ silkLost b = 2 := by
  unfold silkLost; split
  · simp
  · split <;> simp

theorem Good.silkRoom (hg : Good st0 cap0 r) (hu : Units st0 u) : Room st0 cap0 (silkBuf r.st) (4 * u) := by
  have hp := hu.pos
  refine hg.room ⟨Int.le_refl 0, Int.mul_nonneg (by omega) (hg.ch ▸ hg.inv.ch_nonneg), ?_⟩ ?_
  · simp only [silkBuf, (hg.units hu).f10, hg.ch]; omega
  · simp [PtrCapOk, silkBuf, F10, F20, hg.fs, hg.ch]

/-- The SILK stage: legal control block, the loop returns, all writes in bounds. -/
theorem silkStage_spec (ho : OracleOk o) (hu : Units st0 u) (hg : Good st0 cap0 r) (hp : SilkPre r.st u b)
    (hroom : Room st0 cap0 b.pcm b.audiosize) :
    SPost st0 cap0 r.st (fun et r' => et.1 = 0 ∧ 1 ≤ et.2 ∧ r'.st.prev_mode = r.st.prev_mode ∧
      r'.st.prev_redundancy = r.st.prev_redundancy ∧ r'.st.dc.internalSampleRate ≠ 0 ∧ r'.st.dc.nChannelsInternal ≠ 0)
      (silkStage o b r) := by
  have hur := hg.units hu
  have hupos := hu.pos
  have haud1 : u ≤ b.audiosize := by have := hp.aud; omega
  have haud0 : 0 < b.audiosize := by omega
  obtain ⟨st3, hcfg, hinv3, hrel, hpm, hpr, hi0, hn0, hps⟩ := silkConfig_spec hg.inv hur hp
  have g3 : Good st0 cap0 ((if r.st.prev_mode = MODE_CELT then r.push .silkReset else r).setSt st3) :=
    (hg.pushIf (e := .silkReset) fun _ => ⟨trivial, by intro p hp; simp [Ev.ptr?] at hp⟩).setSt hinv3 (hrel.fs.trans hg.fs)
      (hrel.ch.trans hg.ch)
  have hargs : SilkArgsOk (loopArgs st3 (silkLost b) 0) := by
    refine ⟨?_, ?_, ?_, ?_, ?_, silkLost_cases b⟩
    · simp only [loopArgs]; omega
    · have := hinv3.isr; simp only [loopArgs]; omega
    · have := hinv3.nci; simp only [loopArgs]; omega
    · simp only [loopArgs, hinv3.nca]; exact hinv3.ch
    · simp only [loopArgs, hinv3.api]; exact hinv3.fs
  -- `k` SILK frames make up the frame, or the 10 ms of `pcm_silk` when the frame is shorter (`pcm_too_small`, :399)
  obtain ⟨k, hk, hNpos⟩ : ∃ k : Nat, (k : Int) * loopN st3 = max b.audiosize (4 * u) ∧ 0 < loopN st3 := by
    have hN : loopN st3 = if st3.dc.payloadSize_ms = 10 then 4 * u else 8 * u := by
      have h10 := hur.ms10; have h20 := hur.ms20
      unfold loopN
      rw [hinv3.api, hrel.fs]
      split <;> omega
    rw [hN]
    rcases hps with h | h | h | h <;> rw [h.1]
    · rw [if_pos rfl]; exact ⟨1, by omega, by omega⟩
    · rw [if_neg (by decide)]; exact ⟨1, by omega, by omega⟩
    · rw [if_neg (by decide)]; exact ⟨2, by omega, by omega⟩
    · rw [if_neg (by decide)]; exact ⟨3, by omega, by omega⟩
  have hbuf : Room st0 cap0 (if b.audiosize < F10 r.st then silkBuf r.st else b.pcm) (k * loopN st3) := by
    rw [hk, hur.f10]
    split
    · rw [Int.max_eq_right (Int.le_of_lt ‹_›)]; exact hg.silkRoom hu
    · rw [Int.max_eq_left (Int.not_lt.mp ‹_›)]; exact hroom
  unfold silkStage
  simp only [hcfg, hg.ch]
  refine .after hrel (.bind (silkLoop_spec ho _ _ k 0 _ 1 _ g3 hargs hNpos (Int.le_refl 1) hbuf haud0
    (by rw [Int.sub_zero]; exact hk ▸ Int.le_max_left _ _)) fun et r1 g1 _ ⟨het, htell, hst⟩ => ?_)
  have hq : r1.st.prev_mode = r.st.prev_mode ∧ r1.st.prev_redundancy = r.st.prev_redundancy ∧
      r1.st.dc.internalSampleRate ≠ 0 ∧ r1.st.dc.nChannelsInternal ≠ 0 := by rw [hst]; exact ⟨hpm, hpr, hi0, hn0⟩
  rw [if_neg fun h => h het]
  split
  · -- :469-471 the copy out of pcm_silk
    rename_i hsmall
    rw [hur.f10] at hsmall
    exact .ret ((g1.acc ((hg.silkRoom hu).le (by omega) (by omega))).acc hroom) (.refl _) ⟨rfl, htell, hq⟩
  · exact .ret g1 (.refl _) ⟨rfl, htell, hq⟩

end Opus.DecSkel
