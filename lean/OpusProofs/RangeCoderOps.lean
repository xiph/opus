import OpusProofs.RangeCoderEnc
/-
  OpusProofs.RangeCoderOps — every range-coded encoder primitive is an instance of the
  generic subdivision `encSub` followed by `ec_enc_normalize` (C08).
-/
namespace Opus.RangeCoder

/-- Subdivision parameters `(r, a, b, first)` of a primitive range-coded operation at the
    current `rng`; `none` for the other operations. -/
def Op.sub (rng : Nat) : Op → Option (Nat × Nat × Nat × Bool)
  | .encode fl fh ft => some (rng / ft, ft - fl, ft - fh, decide (fl = 0))
  | .encodeBin fl fh nb => some (rng / 2 ^ nb, 2 ^ nb - fl, 2 ^ nb - fh, decide (fl = 0))
  | .bitLogp v logp =>
    if v ≠ 0 then some (rng / 2 ^ logp, 1, 0, false) else some (rng / 2 ^ logp, 2 ^ logp, 1, true)
  | .icdf s tbl ftb =>
    some (rng / 2 ^ ftb, if s = 0 then 2 ^ ftb else tbl.getD (s - 1) 0, tbl.getD s 0, decide (s = 0))
  | .icdf16 s tbl ftb =>
    some (rng / 2 ^ ftb, if s = 0 then 2 ^ ftb else tbl.getD (s - 1) 0, tbl.getD s 0, decide (s = 0))
  | _ => none

/-- range-coded operations: `ec_encode`, `ec_encode_bin`, `ec_enc_bit_logp`, `ec_enc_icdf(16)` -/
def Op.isPrim : Op → Bool
  | .encode _ _ _ => true
  | .encodeBin _ _ _ => true
  | .bitLogp _ _ => true
  | .icdf _ _ _ => true
  | .icdf16 _ _ _ => true
  | _ => false

theorem Op.isPrim_sub {op : Op} (h : op.isPrim = true) (rng : Nat) :
    ∃ r a b first, op.sub rng = some (r, a, b, first) := by
  cases op with
  | bitLogp v logp =>
    by_cases hv : v ≠ 0
    · exact ⟨_, _, _, _, by simp only [Op.sub]; rw [if_pos hv]⟩
    · exact ⟨_, _, _, _, by simp only [Op.sub]; rw [if_neg hv]⟩
  | uint v ft => cases h
  | bits v n => cases h
  | patchInitial v n => cases h
  | shrink size => cases h
  | _ => exact ⟨_, _, _, _, rfl⟩

/-- Case rule for the parameters `op.sub` gives a legal `op`: one case per symbol coder, `ec_enc_bit_logp` once for a
    one and once for a zero. -/
@[elab_as_elim] theorem Op.sub_cases {rng : Nat} {motive : Op → Nat → Nat → Nat → Bool → Prop}
    (encode : ∀ fl fh ft, (Op.encode fl fh ft).Legal →
      motive (.encode fl fh ft) (rng / ft) (ft - fl) (ft - fh) (decide (fl = 0)))
    (encodeBin : ∀ fl fh nb, (Op.encodeBin fl fh nb).Legal →
      motive (.encodeBin fl fh nb) (rng / 2 ^ nb) (2 ^ nb - fl) (2 ^ nb - fh) (decide (fl = 0)))
    (one : ∀ v logp, v ≠ 0 → (Op.bitLogp v logp).Legal → motive (.bitLogp v logp) (rng / 2 ^ logp) 1 0 false)
    (zero : ∀ logp, (Op.bitLogp 0 logp).Legal → motive (.bitLogp 0 logp) (rng / 2 ^ logp) (2 ^ logp) 1 true)
    (icdf : ∀ s tbl ftb, (Op.icdf s tbl ftb).Legal → motive (.icdf s tbl ftb) (rng / 2 ^ ftb)
      (if s = 0 then 2 ^ ftb else tbl.getD (s - 1) 0) (tbl.getD s 0) (decide (s = 0)))
    (icdf16 : ∀ s tbl ftb, (Op.icdf16 s tbl ftb).Legal → motive (.icdf16 s tbl ftb) (rng / 2 ^ ftb)
      (if s = 0 then 2 ^ ftb else tbl.getD (s - 1) 0) (tbl.getD s 0) (decide (s = 0)))
    {op : Op} {r a b : Nat} {first : Bool} (hl : op.Legal) (hsub : op.sub rng = some (r, a, b, first)) :
    motive op r a b first := by
  cases op with
  | encode fl fh ft => cases hsub; exact encode fl fh ft hl
  | encodeBin fl fh nb => cases hsub; exact encodeBin fl fh nb hl
  | bitLogp v logp =>
    by_cases hv : v ≠ 0
    · rw [Op.sub, if_pos hv] at hsub; cases hsub; exact one v logp hv hl
    · obtain rfl : v = 0 := Decidable.of_not_not hv
      cases hsub; exact zero logp hl
  | icdf s tbl ftb => cases hsub; exact icdf s tbl ftb hl
  | icdf16 s tbl ftb => cases hsub; exact icdf16 s tbl ftb hl
  | _ => cases hsub

/-- `rng` is normalised: what `ec_enc_normalize` / `ec_dec_normalize` leave behind. -/
def RngOk (c : Ctx) : Prop := 8388608 < c.rng ∧ c.rng ≤ 2147483648

/-- The new range of a subdivision before normalisation. -/
def subRho (rng r a b : Nat) (first : Bool) : Nat := if first then rng - r * b else r * (a - b)

theorem encSub_rng (c : Enc) (r a b : Nat) (first : Bool) :
    (encSub c r a b first).rng = subRho c.rng r a b first := by
  unfold encSub subRho; split <;> rfl

/-- The new range as encoder and decoder compute it, in `opus_uint32` arithmetic. -/
def rho32 (rng r a b : Nat) (first : Bool) : Nat := if first then sub32 rng (mul32 r b) else mul32 r (a - b)

theorem rho32_eq {rng r a b : Nat} (first : Bool) (ok : SubOk rng r a b) (hr : rng ≤ 2147483648) :
    rho32 rng r a b first = subRho rng r a b first := by
  obtain ⟨f1, f2, f3⟩ := ok.facts
  unfold rho32 subRho
  rw [mul32_of_lt (a := r) (b := b) (by omega), sub32_of_le (by omega) (by omega),
    mul32_of_lt (a := r) (b := a - b) (by rw [f2]; omega)]

/-- The subdivision as the symbol coders compute it, in `opus_uint32` arithmetic. -/
def encSub32 (c : Enc) (r a b : Nat) (first : Bool) : Enc :=
  if first then { c with rng := sub32 c.rng (mul32 r b) }
  else { c with val := add32 c.val (sub32 c.rng (mul32 r a)), rng := mul32 r (a - b) }

theorem encSub32_rng (c : Enc) (r a b : Nat) (first : Bool) :
    (encSub32 c r a b first).rng = rho32 c.rng r a b first := by
  unfold encSub32 rho32; split <;> rfl

theorem encSub32_nbitsTotal (c : Enc) (r a b : Nat) (first : Bool) :
    (encSub32 c r a b first).nbitsTotal = c.nbitsTotal := by
  unfold encSub32; split <;> rfl

/-- Without wrap-around the 32-bit subdivision is `encSub`. -/
theorem encSub32_eq (c : Enc) (r a b : Nat) (first : Bool) (h : SubOk c.rng r a b)
    (hs : c.val + c.rng ≤ 4294967296) (hr : c.rng ≤ 2147483648) :
    encSub32 c r a b first = encSub c r a b first := by
  obtain ⟨f1, f2, f3⟩ := h.facts
  have hp := h.r_pos
  have e1 : mul32 r a = r * a := mul32_of_lt (by omega)
  have e2 : sub32 c.rng (r * a) = c.rng - r * a := sub32_of_le (by omega) f3
  have e3 : add32 c.val (c.rng - r * a) = c.val + (c.rng - r * a) := add32_of_lt (by omega)
  have e4 : mul32 r (a - b) = r * (a - b) := mul32_of_lt (by rw [f2]; omega)
  have e5 : mul32 r b = r * b := mul32_of_lt (by omega)
  have e6 : sub32 c.rng (r * b) = c.rng - r * b := sub32_of_le (by omega) (by omega)
  unfold encSub32 encSub
  rw [e1, e2, e3, e4, e5, e6]

theorem mul32_div {rng ft y : Nat} (hr : rng < 4294967296) (hy : y ≤ ft) : mul32 (rng / ft) y = rng / ft * y :=
  mul32_of_lt (Nat.lt_of_le_of_lt (Nat.le_trans (Nat.mul_le_mul_left _ hy) (Nat.div_mul_le_self rng ft)) hr)

theorem two_pow_le_65536 {n : Nat} (h : n ≤ 16) : 2 ^ n ≤ 65536 :=
  Nat.pow_le_pow_right (by decide) h

/-- `rng / ft` subdivisions fit: `ft ≤ 2^16 < rng`. -/
theorem div_subOk {rng ft a b : Nat} (hft : 0 < ft) (hft2 : ft ≤ 65536) (hrng : 8388608 < rng)
    (ha : a ≤ ft) (hb : b < a) : SubOk rng (rng / ft) a b := by
  refine ⟨Nat.div_pos (by omega) hft, hb, ?_⟩
  exact Nat.le_trans (Nat.mul_le_mul_left _ ha) (Nat.div_mul_le_self rng ft)

/-- An inverse-CDF table is strictly decreasing … -/
theorem IcdfOk.getD_lt {tbl : List Nat} {ftb i j : Nat} (h : IcdfOk tbl ftb) (hij : i < j) (hj : j < tbl.length) :
    tbl.getD j 0 < tbl.getD i 0 := by
  have := List.pairwise_iff_getElem.1 h.2.2.1 i j (by omega) hj hij
  simpa [List.getD_eq_getElem?_getD, hj, (by omega : i < tbl.length)] using this

/-- … and starts below `2^ftb`. -/
theorem IcdfOk.getD_lt_pow {tbl : List Nat} {ftb : Nat} (h : IcdfOk tbl ftb) (i : Nat) (hi : i < tbl.length) :
    tbl.getD i 0 < 2 ^ ftb := by
  have h0 : tbl.headD 0 < 2 ^ ftb := h.2.2.2
  have e0 : tbl.headD 0 = tbl.getD 0 0 := by cases tbl <;> rfl
  by_cases e : i = 0
  · subst e; rw [← e0]; exact h0
  · have := h.getD_lt (Nat.pos_of_ne_zero e) hi
    omega

theorem icdf_facts {tbl : List Nat} {ftb s : Nat} (h : IcdfOk tbl ftb) (hs : s < tbl.length) :
    tbl.getD s 0 < (if s = 0 then 2 ^ ftb else tbl.getD (s - 1) 0) ∧
    (if s = 0 then 2 ^ ftb else tbl.getD (s - 1) 0) ≤ 2 ^ ftb := by
  by_cases e : s = 0
  · subst e; exact ⟨h.getD_lt_pow 0 hs, Nat.le_refl _⟩
  · simp only [e, if_false]
    exact ⟨h.getD_lt (by omega) hs, Nat.le_of_lt (h.getD_lt_pow _ (by omega))⟩

/-- Static legality gives parameters that fit, for every normalised `rng`. -/
theorem Op.sub_ok {op : Op} {rng r a b : Nat} {first : Bool} (hl : op.Legal) (h1 : 8388608 < rng)
    (hsub : op.sub rng = some (r, a, b, first)) : SubOk rng r a b := by
  refine Op.sub_cases ?_ ?_ ?_ ?_ ?_ ?_ hl hsub
  · rintro fl fh ft ⟨l1, l2, l3, l4⟩
    exact div_subOk (by omega) l4 h1 (by omega) (by omega)
  · rintro fl fh nb ⟨l1, l2, l3, l4⟩
    exact div_subOk (Nat.pow_pos (by decide)) (two_pow_le_65536 l4) h1 (by omega) (by omega)
  · rintro v logp - ⟨l1, l2⟩
    exact div_subOk (Nat.pow_pos (by decide)) (two_pow_le_65536 (by omega)) h1 Nat.one_le_two_pow (by omega)
  · rintro logp ⟨l1, l2⟩
    exact div_subOk (Nat.pow_pos (by decide)) (two_pow_le_65536 (by omega)) h1 (Nat.le_refl _)
      (Nat.one_lt_two_pow (by omega))
  · rintro s tbl ftb ⟨l1, l2, l3⟩
    obtain ⟨g1, g2⟩ := icdf_facts l1 l2
    exact div_subOk (Nat.pow_pos (by decide)) (two_pow_le_65536 (by omega)) h1 g2 g1
  · rintro s tbl ftb ⟨l1, l2, l3⟩
    obtain ⟨g1, g2⟩ := icdf_facts l1 l2
    exact div_subOk (Nat.pow_pos (by decide)) (two_pow_le_65536 l3) h1 g2 g1

/-- `ec_encode` is the 32-bit subdivision at `(rng / ft, ft - fl, ft - fh)`. -/
theorem encode_eq (c : Enc) {fl fh ft : Nat} (h1 : fl < fh) (h2 : fh ≤ ft) (h3 : ft < 4294967296) :
    encode c fl fh ft = encNormalize (encSub32 c (c.rng / ft) (ft - fl) (ft - fh) (decide (fl = 0))) := by
  have e1 : sub32 ft fl = ft - fl := sub32_of_le h3 (by omega)
  have e2 : sub32 fh fl = (ft - fl) - (ft - fh) := by rw [sub32_of_le (by omega) (by omega)]; omega
  have e3 : sub32 ft fh = ft - fh := sub32_of_le h3 h2
  unfold encode udiv encSub32
  simp only [e1, e2, e3]
  by_cases hfl : fl = 0
  · rw [if_neg (show ¬ fl > 0 by omega), if_pos (show decide (fl = 0) = true by simpa using hfl)]
  · rw [if_pos (show fl > 0 by omega), if_neg (show ¬ decide (fl = 0) = true by simpa using hfl)]

/-- `ec_encode_bin` is `ec_encode` with `ft = 2^bits`. -/
theorem encodeBin_eq_encode (c : Enc) (fl fh bits : Nat) (h : 2 ^ bits < 4294967296) :
    encodeBin c fl fh bits = encode c fl fh (2 ^ bits) := by
  unfold encodeBin encode udiv; rw [u32_of_lt h]

/-- `ec_enc_icdf` is the 32-bit subdivision at `(rng / 2^ftb, icdf[s-1], icdf[s])`, with `2^ftb` for `icdf[-1]`. -/
theorem encIcdf_eq (c : Enc) {s : Nat} {tbl : List Nat} {ftb : Nat}
    (h : tbl.getD s 0 < (if s = 0 then 2 ^ ftb else tbl.getD (s - 1) 0) ∧
      (if s = 0 then 2 ^ ftb else tbl.getD (s - 1) 0) ≤ 2 ^ ftb) (hp : 2 ^ ftb < 4294967296) :
    encIcdf c s tbl ftb = encNormalize (encSub32 c (c.rng / 2 ^ ftb)
      (if s = 0 then 2 ^ ftb else tbl.getD (s - 1) 0) (tbl.getD s 0) (decide (s = 0))) := by
  unfold encIcdf encSub32
  simp only []
  by_cases hs : s = 0
  · rw [if_neg (show ¬ s > 0 by omega), if_pos (show decide (s = 0) = true by simpa using hs)]
  · rw [if_pos (show s > 0 by omega), if_neg (show ¬ decide (s = 0) = true by simpa using hs)]
    simp only [hs, if_false] at h ⊢
    rw [sub32_of_le (by omega) (by omega)]

/-- Every primitive range-coded encoder call is the 32-bit subdivision at its `Op.sub` parameters followed by
    `ec_enc_normalize`; this needs the legality of the parameters and `rng` an `opus_uint32`, no invariant of the coder. -/
theorem encOp_prim (c : Enc) (op : Op) (hl : op.Legal) (hr : c.rng < 4294967296) {r a b : Nat} {first : Bool}
    (hsub : op.sub c.rng = some (r, a, b, first)) : encOp c op = encNormalize (encSub32 c r a b first) := by
  have e1 : ∀ logp, mul32 (c.rng / 2 ^ logp) 1 = c.rng / 2 ^ logp := fun logp =>
    (mul32_div hr Nat.one_le_two_pow).trans (Nat.mul_one _)
  refine Op.sub_cases ?_ ?_ ?_ ?_ ?_ ?_ hl hsub
  · rintro fl fh ft ⟨l1, l2, -, l4⟩
    exact encode_eq c l1 l2 (by omega)
  · rintro fl fh nb ⟨l1, l2, -, l4⟩
    have hp := two_pow_le_65536 l4
    exact (encodeBin_eq_encode c fl fh nb (by omega)).trans (encode_eq c l1 l2 (by omega))
  · rintro v logp hv -
    simp only [encOp, encBitLogp, encSub32, hv, ne_eq, not_false_eq_true, if_true, Bool.false_eq_true, if_false,
      Nat.sub_zero, e1]
  · rintro logp -
    simp only [encOp, encBitLogp, encSub32, ne_eq, not_true_eq_false, if_false, if_true, e1]
  · rintro s tbl ftb ⟨l1, l2, l3⟩
    exact encIcdf_eq c (icdf_facts l1 l2) (by have := two_pow_le_65536 (n := ftb) (by omega); omega)
  · rintro s tbl ftb ⟨l1, l2, l3⟩
    exact encIcdf_eq c (icdf_facts l1 l2) (by have := two_pow_le_65536 l3; omega)

/-- Every primitive range-coded encoder call is `encSub` followed by `ec_enc_normalize`,
    with parameters that fit the current range. -/
theorem encOp_sub (c : Enc) (op : Op) (inv : EncInv c) (hl : op.Legal) {r a b : Nat} {first : Bool}
    (hsub : op.sub c.rng = some (r, a, b, first)) :
    SubOk c.rng r a b ∧ encOp c op = encNormalize (encSub c r a b first) := by
  have ok := Op.sub_ok hl inv.rng_lo hsub
  have hr := inv.rng_hi
  exact ⟨ok, by rw [encOp_prim c op hl (by omega) hsub, encSub32_eq c r a b first ok inv.sum_le hr]⟩

/-- The shapes of an encoder call: a change of `(val, rng)` followed by `ec_enc_normalize`, possibly followed by
    `ec_enc_bits`; `ec_enc_bits` alone; or one of the two calls without a decoder counterpart. -/
theorem encOp_shape (c : Enc) (op : Op) :
    (∃ v r, encOp c op = encNormalize { c with val := v, rng := r }) ∨
    (∃ v r x n, encOp c op = encBits (encNormalize { c with val := v, rng := r }) x n) ∨
    (∃ x n, encOp c op = encBits c x n) ∨ (∃ v n, op = .patchInitial v n) ∨ ∃ s, op = .shrink s := by
  have norm : ∀ (p : Prop) [Decidable p] (v r r' : Nat), ∃ v' r'',
      encNormalize (if p then ({ c with val := v, rng := r } : Enc) else { c with rng := r' }) =
        encNormalize { c with val := v', rng := r'' } := by
    intro p _ v r r'
    by_cases h : p
    · exact ⟨v, r, by rw [if_pos h]⟩
    · exact ⟨c.val, r', by rw [if_neg h]⟩
  cases op with
  | uint v ft =>
    simp only [encOp, encUint]
    split
    · obtain ⟨v', r', h⟩ := norm (v / 2 ^ (ilog (ft - 1) - 8) > 0) _ _ _
      exact Or.inr (Or.inl ⟨v', r', _, _, congrArg (encBits · _ _) h⟩)
    · exact Or.inl (norm _ _ _ _)
  | bits v n => exact Or.inr (Or.inr (Or.inl ⟨v, n, rfl⟩))
  | patchInitial v n => exact Or.inr (Or.inr (Or.inr (Or.inl ⟨v, n, rfl⟩)))
  | shrink size => exact Or.inr (Or.inr (Or.inr (Or.inr ⟨size, rfl⟩)))
  | _ => exact Or.inl (norm _ _ _ _)

/-- The four symbol coders as `ec_enc_normalize` of a state with new `val`, `rng`, the new values written out
    (`encOp_shape` above says only that they exist). -/
def setVR (c : Enc) (v r : Nat) : Enc := { c with val := v, rng := r }

theorem setVR_setVR (c : Enc) (a b x y : Nat) : setVR (setVR c a b) x y = setVR c x y := rfl
theorem setVR_val (c : Enc) (a b : Nat) : (setVR c a b).val = a := rfl
theorem setVR_rng (c : Enc) (a b : Nat) : (setVR c a b).rng = b := rfl

theorem encode_form (c : Enc) (fl fh ft : Nat) : encode c fl fh ft = encNormalize (setVR c
    (if fl > 0 then add32 c.val (sub32 c.rng (mul32 (udiv c.rng ft) (sub32 ft fl))) else c.val)
    (if fl > 0 then mul32 (udiv c.rng ft) (sub32 fh fl) else sub32 c.rng (mul32 (udiv c.rng ft) (sub32 ft fh)))) := by
  by_cases h : fl > 0
  · simp only [encode, setVR, if_pos h]
  · simp only [encode, setVR, if_neg h]

theorem encodeBin_form (c : Enc) (fl fh bits : Nat) : encodeBin c fl fh bits = encNormalize (setVR c
    (if fl > 0 then add32 c.val (sub32 c.rng (mul32 (c.rng / 2 ^ bits) (sub32 (u32 (2 ^ bits)) fl))) else c.val)
    (if fl > 0 then mul32 (c.rng / 2 ^ bits) (sub32 fh fl)
     else sub32 c.rng (mul32 (c.rng / 2 ^ bits) (sub32 (u32 (2 ^ bits)) fh)))) := by
  by_cases h : fl > 0
  · simp only [encodeBin, setVR, if_pos h]
  · simp only [encodeBin, setVR, if_neg h]

theorem encBitLogp_form (c : Enc) (v logp : Nat) : encBitLogp c v logp = encNormalize (setVR c
    (if v ≠ 0 then add32 c.val (sub32 c.rng (c.rng / 2 ^ logp)) else c.val)
    (if v ≠ 0 then c.rng / 2 ^ logp else sub32 c.rng (c.rng / 2 ^ logp))) := by
  by_cases h : v ≠ 0
  · simp only [encBitLogp, setVR, if_pos h]
  · simp only [encBitLogp, setVR, if_neg h]

theorem encIcdf_form (c : Enc) (s : Nat) (tbl : List Nat) (ftb : Nat) : encIcdf c s tbl ftb = encNormalize (setVR c
    (if s > 0 then add32 c.val (sub32 c.rng (mul32 (c.rng / 2 ^ ftb) (tbl.getD (s - 1) 0))) else c.val)
    (if s > 0 then mul32 (c.rng / 2 ^ ftb) (sub32 (tbl.getD (s - 1) 0) (tbl.getD s 0))
     else sub32 c.rng (mul32 (c.rng / 2 ^ ftb) (tbl.getD s 0)))) := by
  by_cases h : s > 0
  · simp only [encIcdf, setVR, if_pos h]
  · simp only [encIcdf, setVR, if_neg h]

/-- `ec_enc_patch_initial_bits` changes the first digit, wherever it lives, or raises the error flag. -/
theorem encPatch_shape (c : Enc) (v n : Nat) : ∃ B R E V ER,
    encPatchInitialBits c v n = { c with buf := B, rem := R, ext := E, val := V, error := ER } ∧
    (ER = c.error ∨ ER = -1) ∧ (B = c.buf ∨ ∃ x, 0 < c.offs ∧ B = c.buf.set 0 x) := by
  unfold encPatchInitialBits
  split
  · exact ⟨_, _, _, _, _, rfl, Or.inl rfl, Or.inr ⟨_, by assumption, rfl⟩⟩
  · split
    · exact ⟨_, _, _, _, _, rfl, Or.inl rfl, Or.inl rfl⟩
    · split
      · exact ⟨_, _, _, _, _, rfl, Or.inl rfl, Or.inl rfl⟩
      · split
        · exact ⟨_, _, _, _, _, rfl, Or.inl rfl, Or.inl rfl⟩
        · exact ⟨_, _, _, _, _, rfl, Or.inr rfl, Or.inl rfl⟩

/-- `ec_enc_patch_initial_bits` leaves `rng` and `nbits_total` alone. -/
theorem patch_rn (c : Enc) (v n : Nat) :
    (encPatchInitialBits c v n).rng = c.rng ∧ (encPatchInitialBits c v n).nbitsTotal = c.nbitsTotal := by
  obtain ⟨_, _, _, _, _, e, _⟩ := encPatch_shape c v n
  rw [e]; exact ⟨rfl, rfl⟩

end Opus.RangeCoder
