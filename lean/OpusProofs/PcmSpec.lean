import OpusProofs.PcmConv
/-
  OpusProofs.PcmSpec — what the conversion macros compute, stated on exact values:
  * the three input conversions give the same, exactly representable `opus_res` / analysis value
    for every int16 sample (and 24-bit input is exact for every 24-bit sample); hence the three encoder entry points hand
    the core the same arguments (`section entry`);
  * `RES2INT24` = round-half-even of value·2^23 (integer indefinite outside int32);
  * `FLOAT2INT16` = saturate(round-half-even(value·2^15)), −32768 for NaN;
  * round trips int16 → res → int16 / int24 and int24 → res → int24 are the identity.
-/
set_option exponentiation.threshold 400   -- `norm_num` compares `±2^300` (the `xval` of ±inf) with the int16 ends
namespace Opus.Pcm

def IsInt16 (x : Int) : Prop := -32768 ≤ x ∧ x ≤ 32767

/-- "`b` is the float sample `x / 32768`" (any bit pattern with exactly that value except −0, which
    `(float)x / 32768.f` never produces). -/
def FloatOfInt16 (x : Int) (b : Nat) : Prop := b < 2 ^ 32 ∧ val b = some (x * 2 ^ 134) ∧ b ≠ 2 ^ 31

theorem val_negzero : val (2 ^ 31) = some 0 := by decide

private theorem natAbs_int16 {x : Int} (hx : IsInt16 x) : x.natAbs < 2 ^ 24 := by
  unfold IsInt16 at hx; omega

private theorem dyadic_fin {x : Int} {t : Nat} (hx : x.natAbs < 2 ^ 24) (ht : t ≤ 253) :
    (x * 2 ^ t).natAbs = x.natAbs * 2 ^ t ∧ (x * 2 ^ t).natAbs < 2 ^ 277 := by
  have h1 : (x * 2 ^ t).natAbs = x.natAbs * 2 ^ t := by rw [Int.natAbs_mul, Int.natAbs_pow]; rfl
  refine ⟨h1, ?_⟩
  rw [h1]
  calc x.natAbs * 2 ^ t < 2 ^ 24 * 2 ^ t := Nat.mul_lt_mul_of_pos_right hx (by positivity)
    _ = 2 ^ (24 + t) := by rw [Nat.pow_add]
    _ ≤ 2 ^ 277 := Nat.pow_le_pow_right (by norm_num) (by omega)

theorem ofScaled_exact24 {x : Int} {t : Nat} (hx : x.natAbs < 2 ^ 24) (ht : t ≤ 253) :
    val (ofScaled (x * 2 ^ t) 0) = some (x * 2 ^ t) ∧ ofScaled (x * 2 ^ t) 0 < 2 ^ 32 ∧
      ofScaled (x * 2 ^ t) 0 ≠ 2 ^ 31 := by
  obtain ⟨h1, h2⟩ := dyadic_fin hx ht
  have := val_ofScaled_dyadic (x * 2 ^ t) 0 x.natAbs t h1 hx h2
  simpa using this

/-- `INT16TORES(x)` is exactly `x / 32768`. -/
theorem int16ToRes_val {x : Int} (hx : IsInt16 x) :
    val (int16ToRes x) = some (x * 2 ^ 134) ∧ int16ToRes x < 2 ^ 32 ∧ int16ToRes x ≠ 2 ^ 31 :=
  ofScaled_exact24 (natAbs_int16 hx) (by norm_num)

/-- `INT24TORES(a)` is exactly `a · 2^-23` for every `|a| < 2^24` (all 24-bit samples). -/
theorem int24ToRes_val {a : Int} (ha : a.natAbs < 2 ^ 24) :
    val (int24ToRes a) = some (a * 2 ^ 126) ∧ int24ToRes a < 2 ^ 32 ∧ int24ToRes a ≠ 2 ^ 31 :=
  ofScaled_exact24 ha (by norm_num)

/-- `INT24TORES(256·x)` and `INT16TORES(x)` are the same bits (for every integer `x`). -/
theorem int24ToRes_shift (x : Int) : int24ToRes (256 * x) = int16ToRes x := by
  unfold int24ToRes int16ToRes; congr 1; ring

/-- The float sample `x/32768` passes through `FLOAT2RES` as the bits of `INT16TORES(x)`. -/
theorem float2Res_of_int16 {x : Int} {b : Nat} (h : FloatOfInt16 x b) : float2Res b = int16ToRes x :=
  eq_ofScaled_of_val h.1 h.2.1 h.2.2

/-- `INT16TOSIG(x)` is exactly `x`. -/
theorem int16ToSig_val {x : Int} (hx : IsInt16 x) :
    val (int16ToSig x) = some (x * 2 ^ 149) ∧ int16ToSig x < 2 ^ 32 ∧ int16ToSig x ≠ 2 ^ 31 :=
  ofScaled_exact24 (natAbs_int16 hx) (by norm_num)

/-- `INT24TOSIG(256·x) = INT16TOSIG(x)`: both roundings of `(float)(256x) * (1/256)` are exact. -/
theorem int24ToSig_shift {x : Int} (hx : IsInt16 x) : int24ToSig (256 * x) = int16ToSig x := by
  have hx24 := natAbs_int16 hx
  have e : 256 * x * 2 ^ 149 = x * 2 ^ 157 := by ring
  obtain ⟨h1, _, _⟩ := ofScaled_exact24 (x := x) (t := 157) hx24 (by norm_num)
  have hinner : val (ofScaled (256 * x * 2 ^ 149) 0) = some (x * 2 ^ 149 * 2 ^ 8) := by
    rw [e, h1]; congr 1; ring
  obtain ⟨d1, d2⟩ := dyadic_fin (x := x) (t := 149) hx24 (by norm_num)
  have houter : int24ToSig (256 * x) = ofScaled (x * 2 ^ 149 * 2 ^ 8) 8 := by
    unfold int24ToSig; rw [hinner]; exact rfl
  rw [houter, ofScaled_dyadic_eq (x * 2 ^ 149) 8 x.natAbs 149 d1 hx24 d2]
  unfold int16ToSig
  exact rfl

/-- `FLOAT2SIG(x/32768) = INT16TOSIG(x)`. -/
theorem float2Sig_of_int16 {x : Int} {b : Nat} (hx : IsInt16 x) (h : FloatOfInt16 x b) :
    float2Sig b = int16ToSig x := by
  obtain ⟨hb, hv, hnz⟩ := h
  -- the product is not −0 because `x ≠ 0`; for `x = 0` the pattern is +0 and both sides are evaluated
  by_cases hx0 : x = 0
  · subst hx0
    have : b = ofScaled (0 * 2 ^ 134) 0 := eq_ofScaled_of_val hb hv hnz
    rw [this]; decide
  · have hx24 := natAbs_int16 hx
    rcases mulPow2_finite 15 hv with ⟨_, h2, h3⟩ | ⟨hov, _⟩
    · have e : x * 2 ^ 134 * 2 ^ 15 = x * 2 ^ 149 := by ring
      rw [e] at h2
      unfold float2Sig int16ToSig
      apply eq_ofScaled_of_val h3 h2
      intro h31
      rw [h31, val_negzero] at h2
      injection h2 with h2
      omega
    · exfalso
      obtain ⟨c1, _⟩ := dyadic_fin (x := x) (t := 134) hx24 (by norm_num)
      omega

section entry
variable {St Pkt : Type}

/-- Two conversions that agree on related samples agree on related blocks. -/
theorem map_eq_of_forall₂ {α β γ : Type} {R : α → β → Prop} {f : β → γ} {g : α → γ} {xs : List α} {ys : List β}
    (h : List.Forall₂ R xs ys) (hfg : ∀ a b, a ∈ xs → R a b → f b = g a) : ys.map f = xs.map g := by
  induction h with
  | nil => rfl
  | cons hab _ ih =>
    rw [List.map_cons, List.map_cons, hfg _ _ List.mem_cons_self hab,
      ih (fun a b ha => hfg a b (List.mem_cons_of_mem _ ha))]

theorem encode24_eq_encode16 (core : St → CoreArgs → Pkt) (st : St) (d channels frameSize : Nat) (hd : d ≤ 16)
    (pcm : List Int) (hp : ∀ x ∈ pcm, IsInt16 x) :
    encode24 core st d channels frameSize (pcm.map (256 * ·)) = encode16 core st d channels frameSize pcm := by
  -- `∘` is unfolded before the pointwise step: otherwise the kernel unfolds `int24ToRes` to compare the two sides
  have hres : (pcm.map (256 * ·)).map int24ToRes = pcm.map int16ToRes := by
    rw [List.map_map, Function.comp_def]; exact List.map_congr_left fun x _ => int24ToRes_shift x
  have hsig : (pcm.map (256 * ·)).map int24ToSig = pcm.map int16ToSig := by
    rw [List.map_map, Function.comp_def]; exact List.map_congr_left fun x hx => int24ToSig_shift (hp x hx)
  unfold encode24 encode16
  rw [List.map_take, hres, hsig, List.map_take, Nat.min_eq_right (by omega : d ≤ 24), Nat.min_eq_right hd,
    List.length_map]

theorem encodeFloat_eq_encode16 (core : St → CoreArgs → Pkt) (st : St) (d channels frameSize : Nat) (hd : d ≤ 16)
    (pcm : List Int) (hp : ∀ x ∈ pcm, IsInt16 x) (fl : List Nat) (hfl : List.Forall₂ FloatOfInt16 pcm fl) :
    encodeFloat core st d channels frameSize fl = encode16 core st d channels frameSize pcm := by
  unfold encodeFloat encode16
  rw [List.map_take, List.map_take, map_eq_of_forall₂ hfl fun _ _ _ h => float2Res_of_int16 h,
    map_eq_of_forall₂ hfl fun x _ hx h => float2Sig_of_int16 (hp x hx) h,
    Nat.min_eq_right (by omega : d ≤ 24), Nat.min_eq_right hd, hfl.length_eq]

end entry

/-- What `RES2INT24` must compute: nearest integer (ties to even) to value·2^23; the x86 "integer
    indefinite" −2^31 when that does not fit an int32 or the sample is not finite. -/
def out24Spec (b : Nat) : Int :=
  match val b with
  | none => -(2 ^ 31)
  | some k => if -(2 ^ 31) ≤ rne k 126 ∧ rne k 126 < 2 ^ 31 then rne k 126 else -(2 ^ 31)

theorem sat16_range (z : Int) : -32768 ≤ sat16 z ∧ sat16 z ≤ 32767 := by
  unfold sat16; split
  · omega
  · split <;> omega

/-- What `FLOAT2INT16` must compute: value·2^15 rounded to nearest (ties to even) and saturated;
    −32768 for NaN (both C comparisons are false), ±inf saturate. -/
def out16Spec (b : Nat) : Int :=
  match val b with
  | some k => sat16 (rne k 134)
  | none => if isNaN b then -32768 else if signBit b then -32768 else 32767

/-- Value and order value of `±inf`, the sign given by a proposition. -/
theorem inf_val (s : Prop) [Decidable s] :
    val ((if s then 2 ^ 31 else 0) + 0x7f800000) = none ∧
    xval ((if s then 2 ^ 31 else 0) + 0x7f800000) = some (if s then -(2 ^ 300 : Int) else 2 ^ 300) := by
  split <;> exact ⟨by decide, by decide⟩

/-- A value whose product with `2^p` overflows binary32 (`2^277` units) rounds, at scale `2^d`, beyond `±2^e`
    whenever `e + d + p = 277`. -/
theorem rne_overflow {k : Int} {p d e : Nat} (hov : 2 ^ 277 ≤ k.natAbs * 2 ^ p) (he : e + d + p = 277) :
    if k < 0 then rne k d ≤ -2 ^ e else 2 ^ e ≤ rne k d := by
  have hk : (2 : Int) ^ e * 2 ^ d ≤ (k.natAbs : Int) := by
    rw [← he, Nat.pow_add, Nat.pow_add] at hov
    exact_mod_cast Nat.le_of_mul_le_mul_right hov (Nat.two_pow_pos p)
  split
  · exact rne_le (by rw [neg_mul]; omega)
  · exact le_rne (by omega)

theorem res2Int24_spec (b : Nat) : res2Int24 b = out24Spec b := by
  unfold res2Int24 out24Spec
  cases hv : val b with
  | none =>
    simp only
    exact float2int_none (mulPow2_nonfinite 23 hv).1
  | some k =>
    simp only
    rcases mulPow2_finite 23 hv with ⟨_, h2, _⟩ | ⟨hov, heq⟩
    · rw [float2int_of_val h2, rne_scale k 23 126]
    · rw [float2int_none (heq ▸ (inf_val _).1), if_neg]
      intro hc
      have hz := rne_overflow (d := 126) (e := 128) hov rfl
      split at hz <;> omega

theorem xval_fNeg : xval fNeg32768 = some (-32768 * 2 ^ 149) := by decide
theorem xval_f32767 : xval f32767 = some (32767 * 2 ^ 149) := by decide
theorem float2int_fNeg : float2int fNeg32768 = -32768 := by decide
theorem float2int_f32767 : float2int f32767 = 32767 := by decide

/-- `x = MAX32(x, -32768); x = MIN32(x, 32767);` of `FLOAT2INT16` (float_cast.h:153-154), on bit patterns. -/
def clamp16 (x : Nat) : Nat :=
  let x := if flt fNeg32768 x then x else fNeg32768
  if flt x f32767 then x else f32767

theorem float2Int16_eq (b : Nat) : float2Int16 b = float2int (clamp16 (mulPow2 b 15)) := rfl

/-- The two C comparisons on an operand with a defined order value. -/
theorem clamp_some {x1 : Nat} {X : Int} (hx : xval x1 = some X) :
    float2int (clamp16 x1) =
      (if X ≤ -32768 * 2 ^ 149 then -32768 else if 32767 * 2 ^ 149 ≤ X then 32767 else float2int x1) := by
  have f1 : flt fNeg32768 x1 = decide (-32768 * 2 ^ 149 < X) := by unfold flt; rw [xval_fNeg, hx]
  have f2 : flt x1 f32767 = decide (X < 32767 * 2 ^ 149) := by unfold flt; rw [xval_f32767, hx]
  have f3 : flt fNeg32768 f32767 = true := by decide
  unfold clamp16
  by_cases c1 : X ≤ -32768 * 2 ^ 149
  · have : flt fNeg32768 x1 = false := by rw [f1]; exact decide_eq_false (by omega)
    rw [this, if_pos c1]
    simp only [Bool.false_eq_true, if_false, f3, if_true]
    exact float2int_fNeg
  · have h1 : flt fNeg32768 x1 = true := by rw [f1]; exact decide_eq_true (by omega)
    rw [h1, if_neg c1]
    simp only [if_true]
    by_cases c2 : 32767 * 2 ^ 149 ≤ X
    · have : flt x1 f32767 = false := by rw [f2]; exact decide_eq_false (by omega)
      rw [this, if_pos c2]
      simp only [Bool.false_eq_true, if_false]
      exact float2int_f32767
    · have : flt x1 f32767 = true := by rw [f2]; exact decide_eq_true (by omega)
      rw [this, if_neg c2]
      simp only [if_true]

/-- NaN operand: the first comparison is false, so the result is −32768. -/
theorem clamp_nan {x1 : Nat} (hx : xval x1 = none) : float2int (clamp16 x1) = -32768 := by
  have f1 : flt fNeg32768 x1 = false := by unfold flt; rw [xval_fNeg, hx]
  have f3 : flt fNeg32768 f32767 = true := by decide
  simp only [clamp16, f1, Bool.false_eq_true, if_false, f3, if_true]
  exact float2int_fNeg

theorem xval_of_val {b : Nat} {k : Int} (h : val b = some k) : xval b = some k := by
  unfold xval; rw [h]

theorem sat16_lo {z : Int} (h : z ≤ -32768) : sat16 z = -32768 := by
  unfold sat16; split
  · rfl
  · rw [if_neg (by omega)]; omega

theorem sat16_hi {z : Int} (h : 32767 ≤ z) : sat16 z = 32767 := by
  unfold sat16; rw [if_neg (by omega)]; split
  · rfl
  · omega

theorem sat16_id {z : Int} (h1 : -32768 ≤ z) (h2 : z ≤ 32767) : sat16 z = z := by
  unfold sat16; rw [if_neg (by omega), if_neg (by omega)]

/-- Rounding to 16 bits then saturating, by the position of the value against the two int16 ends. -/
theorem sat16_rne_cases (k : Int) :
    (k ≤ -32768 * 2 ^ 134 ∧ sat16 (rne k 134) = -32768) ∨ (32767 * 2 ^ 134 ≤ k ∧ sat16 (rne k 134) = 32767) ∨
    (-32768 * 2 ^ 134 < k ∧ k < 32767 * 2 ^ 134 ∧ -32768 ≤ rne k 134 ∧ rne k 134 ≤ 32767) := by
  by_cases h1 : k ≤ -32768 * 2 ^ 134
  · exact Or.inl ⟨h1, sat16_lo (rne_le h1)⟩
  by_cases h2 : 32767 * 2 ^ 134 ≤ k
  · exact Or.inr (Or.inl ⟨h2, sat16_hi (le_rne h2)⟩)
  exact Or.inr (Or.inr ⟨not_le.mp h1, not_le.mp h2, le_rne (not_le.mp h1).le, rne_le (not_le.mp h2).le⟩)

theorem float2Int16_spec (b : Nat) : float2Int16 b = out16Spec b := by
  rw [float2Int16_eq]
  unfold out16Spec
  cases hv : val b with
  | none =>
    simp only
    obtain ⟨n1, n2, n3⟩ := mulPow2_nonfinite 15 hv
    by_cases hnan : isNaN b = true
    · rw [if_pos hnan]
      apply clamp_nan
      unfold xval; rw [n1, n2, hnan]; rfl
    · rw [if_neg hnan]
      have hx : xval (mulPow2 b 15) = some (if signBit b then -(2 ^ 300 : Int) else 2 ^ 300) := by
        unfold xval; rw [n1, n2, n3]
        simp only [hnan, Bool.false_eq_true, if_false]
      rw [clamp_some hx]
      cases signBit b
      · simp only [Bool.false_eq_true, if_false]
        rw [if_neg (by norm_num), if_pos (by norm_num)]
      · simp only [if_true]
        rw [if_pos (by norm_num)]
  | some k =>
    simp only
    rcases mulPow2_finite 15 hv with ⟨_, h2, _⟩ | ⟨hov, heq⟩
    · rw [clamp_some (xval_of_val h2)]
      rcases sat16_rne_cases k with ⟨hk, hs⟩ | ⟨hk, hs⟩ | ⟨hk1, hk2, z1, z2⟩
      · rw [if_pos (by omega), hs]
      · rw [if_neg (by omega), if_pos (by omega), hs]
      · rw [if_neg (by omega), if_neg (by omega), float2int_of_val h2, rne_scale k 15 134,
          if_pos ⟨by omega, by omega⟩, sat16_id z1 z2]
    · rw [clamp_some (heq ▸ (inf_val _).2)]
      have hz := rne_overflow (d := 134) (e := 128) hov rfl
      by_cases hneg : k < 0
      · rw [if_pos hneg] at hz
        rw [if_pos hneg, if_pos (by norm_num)]
        exact (sat16_lo (by omega)).symm
      · rw [if_neg hneg] at hz
        rw [if_neg hneg, if_neg (by norm_num), if_pos (by norm_num)]
        exact (sat16_hi (by omega)).symm

theorem out16Spec_range (b : Nat) : -32768 ≤ out16Spec b ∧ out16Spec b ≤ 32767 := by
  unfold out16Spec
  split
  · exact sat16_range _
  · split
    · omega
    · split <;> omega

theorem float2Int16_range (b : Nat) : -32768 ≤ float2Int16 b ∧ float2Int16 b ≤ 32767 := by
  rw [float2Int16_spec]; exact out16Spec_range b

theorem out16Spec_of_val {b : Nat} {k : Int} (h : val b = some k) : out16Spec b = sat16 (rne k 134) := by
  unfold out16Spec; rw [h]

theorem out24Spec_of_val {b : Nat} {k : Int} (h : val b = some k) :
    out24Spec b = (if -(2 ^ 31) ≤ rne k 126 ∧ rne k 126 < 2 ^ 31 then rne k 126 else -(2 ^ 31)) := by
  unfold out24Spec; rw [h]

theorem int16_roundtrip {x : Int} (hx : IsInt16 x) : float2Int16 (int16ToRes x) = x := by
  obtain ⟨h1, h2, _⟩ := int16ToRes_val hx
  rw [float2Int16_spec, out16Spec_of_val h1, rne_mul_pow]
  exact sat16_id hx.1 hx.2

theorem int24_roundtrip {a : Int} (ha : a.natAbs < 2 ^ 24) : res2Int24 (int24ToRes a) = a := by
  obtain ⟨h1, h2, _⟩ := int24ToRes_val ha
  rw [res2Int24_spec, out24Spec_of_val h1, rne_mul_pow, if_pos ⟨by omega, by omega⟩]

theorem int16_to_int24 {x : Int} (hx : IsInt16 x) : res2Int24 (int16ToRes x) = 256 * x := by
  rw [← int24ToRes_shift x]
  exact int24_roundtrip (by unfold IsInt16 at hx; omega)

end Opus.Pcm
