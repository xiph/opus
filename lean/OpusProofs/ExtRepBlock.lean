import OpusProofs.ExtRepStep
/-
  C16, repeat mechanism, reader side: replaying the source region against the later frames reports their repeated
  extensions.  `ZOk` / `TOk` say where the reader forces `L = 0` and how many bytes it then leaves.
-/
namespace Opus.ExtProofs
open Opus Opus.Ext

/-- The position `z` whose length bytes are dropped is exactly where the iterator forces `L = 0`
    (`repeat_l == 0`, last frame, source pointer = `last_long`), and that extension is a long one; `as` are the source
    extensions from position `k` on, read from offset `sq`. -/
def ZOk (L g nbF : Nat) (ll z : Option Nat) (k sq : Nat) (as : List Ext) : Prop :=
  ∀ j a, as[j]? = some a →
    ((L = 0 ∧ g + 1 ≥ nbF ∧ some (sq + (srcBytes (as.take (j + 1))).length) = ll) ↔ z = some (k + j)) ∧
    (z = some (k + j) → 32 ≤ a.id)

/-- After the forced extension exactly `T` bytes remain in the buffer; `xs` are the target extensions from position `k` on. -/
def TOk (T : Int) (z : Option Nat) (restLen k : Nat) (xs : List Ext) : Prop :=
  ∀ j, z = some (k + j) → j < xs.length → (((repPayloads z (k + j + 1) (xs.drop (j + 1))).length + restLen : Nat) : Int) = T

theorem ZOk.cons {L g nbF k sq : Nat} {ll z : Option Nat} {a : Ext} {as : List Ext} (h : ZOk L g nbF ll z k sq (a :: as)) :
    ((L = 0 ∧ g + 1 ≥ nbF ∧ some (sq + (extBytes a false).length) = ll) ↔ z = some k) ∧ (z = some k → 32 ≤ a.id) ∧
      ZOk L g nbF ll z (k + 1) (sq + (extBytes a false).length) as := by
  refine ⟨by simpa [srcBytes] using (h 0 a rfl).1, (h 0 a rfl).2, fun j a' hj => ?_⟩
  have := h (j + 1) a' (by simpa using hj)
  simpa [srcBytes_cons, Nat.add_assoc, Nat.add_comm 1 j] using this

theorem TOk.cons {T : Int} {z : Option Nat} {m k : Nat} {x : Ext} {xs : List Ext} (h : TOk T z m k (x :: xs)) :
    (z = some k → (((repPayloads z (k + 1) xs).length + m : Nat) : Int) = T) ∧ TOk T z m (k + 1) xs := by
  refine ⟨fun hz => by simpa using h 0 (by simpa using hz) (by simp), fun j hz hj => ?_⟩
  have := h (j + 1) (by rw [hz]; congr 1; omega) (by simp; omega)
  simpa [Nat.add_assoc, Nat.add_comm 1 j] using this

theorem ZOk_none {L g nbF : Nat} {ll : Option Nat} (hg : g + 1 < nbF) (as : List Ext) (k sq : Nat) : ZOk L g nbF ll none k sq as :=
  fun _ _ _ => ⟨⟨fun h => by omega, fun h => by cases h⟩, fun h => by cases h⟩

theorem TOk_none {T : Int} {n : Nat} (xs : List Ext) (k : Nat) : TOk T none n k xs := fun _ h => by cases h

/-- `ZOk` holds for the region `pre` read from `p0` with `z` the position of its last long extension (where `L = 0` can be
    forced at all): the iterator's `last_long` is the end of that extension. -/
theorem ZOk_region {L g nbF : Nat} (p0 : Nat) (pre : List Ext) :
    ZOk L g nbF (regLL p0 none pre) (if L = 0 ∧ g + 1 ≥ nbF then lastLongPos pre else none) 0 p0 pre := by
  intro k a hak
  have hklt : k < pre.length := (List.getElem?_eq_some_iff.mp hak).1
  rw [Nat.zero_add, regLL_spec]
  refine ⟨?_, ?_⟩
  · by_cases hC : L = 0 ∧ g + 1 ≥ nbF
    · rw [if_pos hC]
      cases hl : lastLongPos pre with
      | none => simp
      | some kk =>
        have hkk := (lastLongPos_lt pre kk hl).1
        constructor
        · rintro ⟨_, _, h3⟩
          have := srcBytes_take_inj pre (i := k + 1) (j := kk + 1) (by omega) (by omega) (by simpa using h3)
          rw [show kk = k by omega]
        · intro h; cases h; exact ⟨hC.1, hC.2, rfl⟩
    · rw [if_neg hC]; exact ⟨fun h => absurd ⟨h.1, h.2.1⟩ hC, fun h => by cases h⟩
  · intro hzk
    split at hzk
    · obtain ⟨_, ⟨a', ha', h32⟩, _⟩ := lastLongPos_lt pre k hzk
      rw [hak] at ha'; cases ha'; exact h32
    · cases hzk

theorem rep_inner {d : Array Nat} {nbF f g L p0 plen : Nat} {ll : Option Nat} {T : Int} {z : Option Nat} {rest : List Nat}
    (hg0 : 0 < g) (hg : g < nbF) :
    ∀ (as xs : List Ext) (k sq p : Nat) (it : Iter),
    RSt d nbF f g L p0 plen sq (srcBytes as).length p ll T it →
    (∀ a ∈ as, ValidExt nbF a) → (∀ x ∈ xs, ValidExt nbF x ∧ x.frame.toNat = g) →
    MatchL xs as →
    ZOk L g nbF ll z k sq as → TOk T z rest.length k xs →
    At d sq (srcBytes as) → Tail d p (repPayloads z k xs ++ rest) →
    ∃ it', Steps d it it' (xs.map normExt) ∧
      RSt d nbF f g L p0 plen (sq + (srcBytes as).length) 0 (p + (repPayloads z k xs).length) ll T it' := by
  intro as
  induction as with
  | nil =>
    intro xs k sq p it hR _ _ hm _ _ _ _
    cases hm
    exact ⟨it, Steps.refl d it, by simpa [srcBytes, repPayloads] using hR⟩
  | cons a as ih =>
    intro xs k sq p it hR hva hvx hm hz ht hsrc h
    cases hm with
    | cons hxa hrest =>
      rename_i x xs'
      obtain ⟨hz1, hz2, hz3⟩ := hz.cons
      obtain ⟨ht1, ht2⟩ := ht.cons
      rw [srcBytes_cons] at hsrc hR
      simp only [List.length_append] at hR
      simp only [repPayloads, List.append_assoc] at h
      obtain ⟨hsrc1, hsrc2⟩ := hsrc.append
      have hvx1 := hvx x (List.mem_cons_self ..)
      obtain ⟨it1, hs1, hR1⟩ := rep_step hR hg0 hg (hva a (List.mem_cons_self ..)) hvx1.1 hvx1.2 hxa
        (decide (z = some k)) (by rw [decide_eq_true_eq]; exact hz1.symm)
        (by intro hf; exact hz2 (by simpa using hf)) hsrc1 h
        (by intro hf; have := ht1 (by simpa using hf); rw [← this]; simp)
      obtain ⟨it2, hs2, hR2⟩ := ih xs' (k + 1) _ _ it1 hR1 (fun a' ha' => hva a' (List.mem_cons_of_mem _ ha'))
        (fun x' hx' => hvx x' (List.mem_cons_of_mem _ hx')) hrest hz3 ht2 hsrc2 h.drop
      refine ⟨it2, ?_, ?_⟩
      · have := hs1.trans hs2
        simpa using this
      · rw [srcBytes_cons]
        simp only [List.length_append, repPayloads, ← Nat.add_assoc]
        exact hR2

theorem rep_outer {d : Array Nat} {nbF f L p0 k : Nat} {ll : Option Nat} {T : Int} {pre : List Ext} {R : Nat}
    {last : Bool} {rest : List Nat} (hf : f + 1 < nbF) (hpre : ∀ a ∈ pre, ValidExt nbF a)
    (hones : At d p0 (List.replicate k 1)) (hsrc : At d (p0 + k) (srcBytes pre)) :
    ∀ (later : List (List Ext)) (g p : Nat) (it : Iter),
    QOk nbF g (later.map (List.take R)) → 0 < g →
    RSt d nbF f g L p0 (k + (srcBytes pre).length) p0 (k + (srcBytes pre).length) p ll T it →
    (∀ r ∈ later, MatchL (r.take R) pre) →
    ZOk L (nbF - 1) nbF ll (if last then lastLongPos pre else none) 0 (p0 + k) pre →
    (∀ r, later.getLast? = some r → TOk T (if last then lastLongPos pre else none) rest.length 0 (r.take R)) →
    Tail d p (repBlock R last (lastLongPos pre) later ++ rest) →
    ∃ it' q, Steps d it it' ((later.map (List.take R)).flatten.map normExt) ∧
      St d nbF q (if L = 0 then f + 1 else f) it' ∧ Reg it' q none T ∧ Tail d q rest := by
  intro later
  induction later with
  | nil =>
    intro g p it hq hg0 hR _ _ _ h
    have hgn : g = nbF := by simpa using hq.1
    subst hgn
    obtain ⟨it', hs', h'⟩ := rep_end hR hf h.le
    exact ⟨it', p, by simpa using hs', h'.1, h'.2, h⟩
  | cons r rs ih =>
    intro g p it hq hg0 hR hm hZ hTk h
    rw [List.map_cons] at hq
    have hgl := hq.1
    simp only [List.length_cons, List.length_map] at hgl
    have hglt : g < nbF := by omega
    have hm1 := hm r (List.mem_cons_self ..)
    obtain ⟨it0, hs0, hR0⟩ := rep_skip_ones hg0 hglt h.le k p0 (srcBytes pre).length it hR hones
    cases rs with
    | nil =>
      have hgn : g + 1 = nbF := by simpa using hgl
      have hgn' : nbF - 1 = g := by omega
      simp only [repBlock] at h
      obtain ⟨it1, hs1, hR1⟩ := rep_inner hg0 hglt pre (r.take R) 0 (p0 + k) p it0 hR0 hpre hq.head hm1 (hgn' ▸ hZ)
        (hTk r rfl) hsrc h
      obtain ⟨it2, hs2, hR2⟩ := rep_switch hR1 hg0 hglt h.drop.le
      rw [hgn] at hR2
      obtain ⟨it3, hs3, h3⟩ := rep_end hR2 hf h.drop.le
      exact ⟨it3, _, by simpa using ((hs0.trans hs1).trans hs2).trans hs3, h3.1, h3.2, h.drop⟩
    | cons r' rs' =>
      have hg1 : g + 1 < nbF := by simp only [List.length_cons] at hgl; omega
      rw [repBlock_cons2, List.append_assoc] at h
      obtain ⟨it1, hs1, hR1⟩ := rep_inner hg0 hglt pre (r.take R) 0 (p0 + k) p it0 hR0 hpre hq.head hm1 (ZOk_none hg1 _ _ _)
        (TOk_none _ _) hsrc h
      obtain ⟨it2, hs2, hR2⟩ := rep_switch hR1 hg0 hglt h.drop.le
      obtain ⟨it3, q, hs3, h3⟩ := ih (g + 1) _ it2 hq.later (by omega) hR2 (fun r0 hr0 => hm r0 (List.mem_cons_of_mem _ hr0))
        hZ (fun r0 hr0 => hTk r0 (by simpa [List.getLast?_cons_cons] using hr0)) h.drop
      exact ⟨it3, q, by simpa using ((hs0.trans hs1).trans hs2).trans hs3, h3⟩

end Opus.ExtProofs
