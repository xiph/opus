import OpusModel.LayoutSpec
import OpusProofs.FramingHelpers
/-
  OpusProofs.LayoutMs — `opus_multistream_packet_validate` accepts exactly the concatenations of
  one self-delimited packet per stream (the last one in standard framing) of equal duration (C10).
  Built on the C06 soundness / completeness theorems of the packet parser.
-/
namespace Opus.Layout
open Opus Opus.Framing Opus.FramingSpec Opus.FramingProofs Opus.LayoutSpec

theorem rate_mem {fs : Nat} (h : Rate fs) : fs ∈ [8000, 12000, 16000, 24000, 48000] := by
  rcases h with h | h | h | h | h <;> subst h <;> simp

theorem valid_frames_lt_64 (p : Packet) (hv : Valid p) : p.frames.length < 64 :=
  Nat.lt_of_le_of_lt hv.count_bounds.2.1 (by decide)

theorem getNbFrames_serialize (sd : Bool) (p : Packet) (hv : Valid p) :
    getNbFrames (serialize sd p) = .ok p.frames.length := by
  simpa using getNbFrames_serialize_append sd p hv []

theorem getNbSamples_serialize (sd : Bool) (p : Packet) (hv : Valid p) (fs : Nat) (hfs : Rate fs) :
    getNbSamples (serialize sd p) fs = .ok (duration fs p) := by
  have hf := getNbFrames_serialize sd p hv
  rw [serialize_shape] at hf ⊢
  exact (getNbSamples_cases p.toc _ hv.toc_byte _ fs (rate_mem hfs) hf).2 (by rw [Nat.mul_comm]; exact hv.count_bounds.2.2)

theorem bytesOk_append_right {a b : Bytes} (h : BytesOk (a ++ b)) : BytesOk b :=
  fun x hx => h x (List.mem_append_right a hx)

theorem msSerialize_cons (p : Packet) (ps : List Packet) :
    msSerialize (p :: ps) = serialize (decide (ps ≠ [])) p ++ msSerialize ps := by
  cases ps with
  | nil => simp [msSerialize]
  | cons q r => simp [msSerialize]

theorem msSerialize_snoc (pre : List Packet) (last : Packet) :
    msSerialize (pre ++ [last]) = pre.flatMap (serialize true) ++ serialize false last := by
  induction pre with
  | nil => simp [msSerialize]
  | cons p ps ih => rw [List.cons_append, msSerialize_cons, ih]; simp

/-- What one iteration accepts: a valid packet in the framing of its position (self-delimited unless `last`), then the
    rest; it reports the packet's duration and length. -/
def StepAcc (fs : Nat) (last : Bool) (data : Bytes) (n off : Nat) : Prop :=
  ∃ p rest, Valid p ∧ data = serialize (!last) p ++ rest ∧ (last = true → rest = []) ∧
    n = duration fs p ∧ off = (serialize (!last) p).length

theorem validateStep_complete {fs : Nat} (hfs : Rate fs) (last : Bool) {data : Bytes} {n off : Nat}
    (h : StepAcc fs last data n off) : validateStep fs last data = .ok (n, off) := by
  obtain ⟨p, rest, hv, rfl, hrest, rfl, rfl⟩ := h
  unfold validateStep
  have hne : (serialize (!last) p ++ rest).length ≠ 0 := by
    rw [serialize_shape]; simp
  rw [if_neg hne, parse_complete (!last) p hv rest (by intro h; apply hrest; cases last <;> simp_all)]
  simp only [view, List.take_left', getNbSamples_serialize (!last) p hv fs hfs]

theorem validateStep_sound {fs : Nat} (hfs : Rate fs) (last : Bool) {data : Bytes} (hb : BytesOk data) {n off : Nat}
    (h : validateStep fs last data = .ok (n, off)) : StepAcc fs last data n off := by
  unfold validateStep at h
  split at h
  · cases h
  · split at h
    · rename_i r hr
      obtain ⟨p, rest, hv, rfl, hrest, rfl⟩ := parse_sound (!last) data hb r hr
      simp only [view, List.take_left', getNbSamples_serialize (!last) p hv fs hfs, Res.ok.injEq, Prod.mk.injEq] at h
      exact ⟨p, rest, hv, rfl, fun hl => hrest (by simp [hl]), h.1.symm, h.2.symm⟩
    all_goals cases h

/-- One turn of the loop. -/
theorem validateLoop_succ (fs k : Nat) (first : Bool) (samples : Nat) (data : Bytes) (res : Nat) :
    validateLoop fs (k + 1) first samples data = .ok res ↔
      ∃ n off, validateStep fs (decide (k = 0)) data = .ok (n, off) ∧ (first = false → samples = n) ∧
        validateLoop fs k false n (data.drop off) = .ok res := by
  rw [validateLoop]
  cases hs : validateStep fs (decide (k = 0)) data with
  | ok r =>
    obtain ⟨n, off⟩ := r
    have e : (¬ ((!first) = true ∧ samples ≠ n)) ↔ (first = false → samples = n) := by cases first <;> simp
    simp only [Res.ok.injEq, Prod.mk.injEq]
    by_cases hc : (!first) = true ∧ samples ≠ n
    · rw [if_pos hc]; exact ⟨nofun, fun ⟨_, _, ⟨rfl, rfl⟩, hf, _⟩ => absurd (e.2 hf) (fun h => h hc)⟩
    · rw [if_neg hc]; exact ⟨fun h => ⟨n, off, ⟨rfl, rfl⟩, e.1 hc, h⟩, fun ⟨_, _, ⟨rfl, rfl⟩, _, hl⟩ => hl⟩
  | _ => exact ⟨nofun, fun ⟨_, _, h, _⟩ => nomatch h⟩

/-- What the loop with `k + 1` streams left accepts: `k + 1` valid packets in multistream framing, all of the duration
    it reports, which — unless this is stream 0 — is also the duration `samples` of the streams before. -/
def LoopAcc (fs : Nat) (k : Nat) (first : Bool) (samples : Nat) (data : Bytes) (res : Nat) : Prop :=
  ∃ ps : List Packet, ps.length = k + 1 ∧ (∀ p ∈ ps, Valid p) ∧ data = msSerialize ps ∧
    (∀ p ∈ ps, duration fs p = res) ∧ (first = false → samples = res)

theorem validateLoop_sound {fs : Nat} (hfs : Rate fs) : ∀ (k : Nat) (first : Bool) (samples : Nat) (data : Bytes) (res : Nat),
    BytesOk data → validateLoop fs (k + 1) first samples data = .ok res → LoopAcc fs k first samples data res
  | 0, first, samples, data, res, hb, h => by
    obtain ⟨n, off, hstep, hfirst, hloop⟩ := (validateLoop_succ ..).1 h
    obtain ⟨p, rest, hv, hdata, hlast, hn, -⟩ := validateStep_sound hfs true hb hstep
    have hres : n = res := Res.ok.inj hloop
    rw [hlast rfl, List.append_nil] at hdata
    exact ⟨[p], rfl, fun q hq => List.mem_singleton.1 hq ▸ hv, hdata,
      fun q hq => List.mem_singleton.1 hq ▸ hn ▸ hres, fun h => (hfirst h).trans hres⟩
  | k + 1, first, samples, data, res, hb, h => by
    obtain ⟨n, off, hstep, hfirst, hloop⟩ := (validateLoop_succ ..).1 h
    obtain ⟨p, rest, hv, hdata, -, hn, hoff⟩ := validateStep_sound hfs false hb hstep
    rw [hdata, hoff, List.drop_left] at hloop
    obtain ⟨qs, hlen, hval, hrest, hdur, hsame⟩ :=
      validateLoop_sound hfs k false n rest res (bytesOk_append_right (hdata ▸ hb)) hloop
    have hres : n = res := hsame rfl
    match qs, hlen with
    | q :: r, hlen =>
      exact ⟨p :: q :: r, congrArg (· + 1) hlen, List.forall_mem_cons.2 ⟨hv, hval⟩, hdata.trans (congrArg (serialize true p ++ ·) hrest),
        List.forall_mem_cons.2 ⟨hn ▸ hres, hdur⟩, fun h => (hfirst h).trans hres⟩

theorem validateLoop_complete {fs : Nat} (hfs : Rate fs) : ∀ (k : Nat) (first : Bool) (samples : Nat) (data : Bytes) (res : Nat),
    LoopAcc fs k first samples data res → validateLoop fs (k + 1) first samples data = .ok res
  | 0, first, samples, _, res, ⟨[p], _, hval, rfl, hdur, hsame⟩ => by
    have hd := hdur p (.head _)
    exact (validateLoop_succ ..).2 ⟨_, _,
      validateStep_complete hfs true ⟨p, [], hval p (.head _), (List.append_nil _).symm, fun _ => rfl, rfl, rfl⟩,
      fun h => (hsame h).trans hd.symm, hd ▸ rfl⟩
  | k + 1, first, samples, _, res, ⟨p :: q :: r, hlen, hval, rfl, hdur, hsame⟩ => by
    obtain ⟨hv, hval⟩ := List.forall_mem_cons.1 hval
    obtain ⟨hd, hdur⟩ := List.forall_mem_cons.1 hdur
    refine (validateLoop_succ ..).2 ⟨_, _,
      validateStep_complete hfs false ⟨p, msSerialize (q :: r), hv, rfl, nofun, rfl, rfl⟩,
      fun h => (hsame h).trans hd.symm, ?_⟩
    rw [hd]
    exact validateLoop_complete hfs k false res _ res
      ⟨q :: r, Nat.succ.inj hlen, hval, List.drop_left (l₁ := serialize true p), hdur, fun _ => rfl⟩

/-- What `opus_multistream_packet_validate` accepts: one valid packet per stream, in multistream framing, all of the
    duration it reports (the forward direction of C10 `ms_packet_structure`; `msPacketValidate_msSerialize` is the converse,
    which needs no hypothesis on the bytes). -/
theorem msPacketValidate_packets {fs : Nat} (hfs : Rate fs) {bs : Bytes} (hb : BytesOk bs) {n k : Nat} (hn : 1 ≤ n)
    (h : msPacketValidate bs n fs = .ok k) :
    ∃ ps : List Packet, ps.length = n ∧ (∀ p ∈ ps, Valid p) ∧ bs = msSerialize ps ∧ ∀ p ∈ ps, duration fs p = k := by
  obtain ⟨m, rfl⟩ : ∃ m, n = m + 1 := ⟨n - 1, by omega⟩
  obtain ⟨ps, h1, h2, h3, h4, _⟩ := validateLoop_sound hfs m true 0 bs k hb h
  exact ⟨ps, h1, h2, h3, h4⟩

theorem msPacketValidate_msSerialize {fs : Nat} (hfs : Rate fs) {ps : List Packet} {n k : Nat} (hn : 1 ≤ n)
    (hlen : ps.length = n) (hval : ∀ p ∈ ps, Valid p) (hdur : ∀ p ∈ ps, duration fs p = k) :
    msPacketValidate (msSerialize ps) n fs = .ok k := by
  obtain ⟨m, rfl⟩ : ∃ m, n = m + 1 := ⟨n - 1, by omega⟩
  exact validateLoop_complete hfs m true 0 _ k ⟨ps, hlen, hval, rfl, hdur, nofun⟩

theorem getNbFrames_nofault (bs : Bytes) : fault (getNbFrames bs) = false := by
  unfold getNbFrames
  cases bs with
  | nil => rfl
  | cons toc rest =>
    simp only
    split
    · rfl
    · split
      · rfl
      · cases rest <;> rfl

theorem getNbSamples_nofault (bs : Bytes) (fs : Nat) : fault (getNbSamples bs fs) = false := by
  have h := getNbFrames_nofault bs
  unfold getNbSamples
  cases hq : getNbFrames bs with
  | ok c => simp only; split <;> rfl
  | err e => rfl
  | oob => rw [hq] at h; cases h
  | abort => rw [hq] at h; cases h

theorem validateStep_nofault (fs : Nat) (last : Bool) (data : Bytes) : fault (validateStep fs last data) = false := by
  unfold validateStep
  split
  · rfl
  · have hp := parseImpl_nofault (!last) data
    split
    · rename_i r _
      have hg := getNbSamples_nofault (data.take r.packetOffset) fs
      split
      · rfl
      · rfl
      · rename_i h; rw [h] at hg; cases hg
      · rename_i h; rw [h] at hg; cases hg
    · rfl
    · rename_i h; rw [h] at hp; cases hp
    · rename_i h; rw [h] at hp; cases hp

theorem validateLoop_nofault (fs : Nat) : ∀ (k : Nat) (first : Bool) (samples : Nat) (data : Bytes),
    fault (validateLoop fs k first samples data) = false
  | 0, _, _, _ => rfl
  | k + 1, first, samples, data => by
    unfold validateLoop
    have hs := validateStep_nofault fs (decide (k = 0)) data
    split
    · split
      · rfl
      · exact validateLoop_nofault fs k false _ _
    · rfl
    · rename_i h; rw [h] at hs; cases hs
    · rename_i h; rw [h] at hs; cases hs

/-- A self-delimited packet is at least two bytes (TOC + a length), a standard one at least one. -/
theorem serialize_length_ge (sd : Bool) (p : Packet) (hv : Valid p) :
    (if sd then 2 else 1) ≤ (serialize sd p).length := by
  cases sd
  · rw [serialize_shape]; simp
  · obtain ⟨x, hx, _⟩ := hv.last_len
    have h1 : 1 ≤ ((lenFields true p).flatMap encLen).length := by
      unfold lenFields
      simp only [if_true, hx, Option.toList_some, List.flatMap_append, List.flatMap_cons, List.flatMap_nil,
        List.append_nil, List.length_append]
      have := encLen_length_pos x
      omega
    rw [serialize_shape]
    simp only [List.length_cons, List.length_append, if_true]
    omega

theorem msSerialize_length_ge : ∀ (ps : List Packet), ps ≠ [] → (∀ p ∈ ps, Valid p) →
    2 * ps.length - 1 ≤ (msSerialize ps).length
  | [], h, _ => absurd rfl h
  | [p], _, hv => by
    have := serialize_length_ge false p (hv p (by simp))
    simp only [msSerialize, List.length_singleton] at this ⊢; simpa using this
  | p :: q :: r, _, hv => by
    have h1 := serialize_length_ge true p (hv p (by simp))
    have h2 := msSerialize_length_ge (q :: r) (by simp) (fun x hx => hv x (List.mem_cons_of_mem _ hx))
    simp only [msSerialize, List.length_append, List.length_cons, if_true] at h1 h2 ⊢
    omega

end Opus.Layout
