import OpusModel.SilkPlcConcealChk
import OpusProofs.SilkPlcInv
/-
  OpusProofs.SilkPlcTotal — the checked reads of silk_PLC_conceal (OpusModel.SilkPlcConcealChk): they return the values
  the unchecked model uses, and none of them leaves its array (the sub-frame loop as a whole:
  OpusProps.C09SilkPlc.conceal_ltp_reads_in_bounds).
-/
namespace Opus.SilkPlc
open Opus Opus.SilkParams Opus.Gen.PlcConsts Opus.Gen.SilkPlcCngConsts

theorem agetC_ok (a : Array Int) (i : Int) (h0 : 0 ≤ i) (h1 : i < a.size) : agetC a i = .ok (agetI a i) := by
  unfold agetC; rw [if_pos ⟨h0, h1⟩]

theorem ltpPredC_ok (buf : Array Int) (p : Int) : ∀ (B : List Int) (j acc : Int),
    (B.length : Int) ≤ p - j + 1 → p - j < buf.size → ltpPredC buf p B j acc = .ok (ltpPred buf p B j acc)
  | [], _, _, _, _ => rfl
  | b :: bs, j, acc, h1, h2 => by
    simp only [List.length_cons, Int.natCast_add, Int.natCast_one] at h1
    unfold ltpPredC ltpPred
    rw [agetC_ok buf (p - j) (by omega) h2]
    exact ltpPredC_ok buf p bs (j + 1) _ (by omega) (by omega)

theorem ltpSubfrC_ok (rnd : Array Int) (roff : Int) (B : List Int) (rs lag : Int) (hB : B.length = 5) (hl : 3 ≤ lag)
    (hr0 : 0 ≤ roff) (hr1 : roff + 128 ≤ rnd.size) : ∀ (n : Nat) (buf : Array Int) (seed : Int),
    lag + 2 ≤ buf.size → ltpSubfrC rnd roff B rs lag n buf seed = .ok (ltpSubfr rnd roff B rs lag n buf seed)
  | 0, _, _, _ => rfl
  | n + 1, buf, seed, h => by
    have h5 : LTP_ORDER = 5 := rfl
    have hm : RAND_BUF_MASK = 127 := rfl
    unfold ltpSubfrC ltpSubfr
    rw [ltpPredC_ok buf _ B 0 2 (by rw [hB, h5]; omega) (by rw [h5]; omega)]
    dsimp only
    rw [agetC_ok rnd _ (by rw [hm]; omega) (by rw [hm]; omega)]
    exact ltpSubfrC_ok rnd roff B rs lag hB hl hr0 hr1 n _ _ (by simp only [Array.size_push]; omega)

theorem ltpSubfr_size (rnd : Array Int) (roff : Int) (B : List Int) (rs lag : Int) : ∀ (n : Nat) (buf : Array Int) (seed : Int),
    (ltpSubfr rnd roff B rs lag n buf seed).1.size = buf.size + n
  | 0, _, _ => rfl
  | n + 1, buf, seed => by
    unfold ltpSubfr
    rw [ltpSubfr_size rnd roff B rs lag n]
    simp only [Array.size_push]; omega

theorem firAccC_ok (x : Array Int) (ix : Int) : ∀ (B : List Int) (j acc : Int),
    (B.length : Int) ≤ ix - 1 - j + 1 → ix - 1 - j < x.size → firAccC x ix B j acc = .ok (firAcc x ix B j acc)
  | [], _, _, _, _ => rfl
  | b :: bs, j, acc, h1, h2 => by
    simp only [List.length_cons, Int.natCast_add, Int.natCast_one] at h1
    unfold firAccC firAcc
    rw [agetC_ok x _ (by omega) h2]
    exact firAccC_ok x ix bs (j + 1) _ (by omega) (by omega)

theorem firRowsC_ok (x : Array Int) (B : List Int) : ∀ (n : Nat) (ix : Int),
    (B.length : Int) ≤ ix → ix + n ≤ x.size → ∃ vs, firRowsC x B n ix = .ok vs
  | 0, _, _, _ => ⟨[], rfl⟩
  | n + 1, ix, h1, h2 => by
    obtain ⟨vs, hv⟩ := firRowsC_ok x B n (ix + 1) (by omega) (by omega)
    unfold firRowsC firSampleC
    rw [firAccC_ok x ix B 0 0 (by omega) (by omega), agetC_ok x ix (by omega) (by omega), hv]
    exact ⟨_, rfl⟩

theorem energyRowC_ok (exc : Array Int) (g off : Int) (h0 : 0 ≤ off) : ∀ (n : Nat) (i : Int),
    0 ≤ i → i + n + off ≤ exc.size → ∃ vs, energyRowC exc g off n i = .ok vs
  | 0, _, _, _ => ⟨[], rfl⟩
  | n + 1, i, hi, h => by
    obtain ⟨vs, hv⟩ := energyRowC_ok exc g off h0 n (i + 1) (by omega) (by omega)
    unfold energyRowC
    rw [agetC_ok exc _ (by omega) (by omega), hv]
    exact ⟨_, rfl⟩

end Opus.SilkPlc
