import OpusProofs.Pcm
/-
  OpusProofs.PcmConv — consequences of `roundMag_dyadic` / `roundMag_mag` for the conversion macros of
  OpusModel/Pcm.lean: bit patterns are determined by their value (apart from −0), exact results of
  `ofScaled` / `mulPow2`, overflow of `mulPow2`, what `mulPow2` does to ±inf and NaN, and `float2int` in terms
  of the value (`RES2INT24` and `FLOAT2INT16` are characterised in OpusProofs/PcmSpec.lean).
-/
namespace Opus.Pcm

theorem mag_add_sign (m : Nat) : mag (2 ^ 31 + m) = mag m := by
  unfold mag
  have h1 : (2 ^ 31 + m) / 2 ^ 23 % 256 = m / 2 ^ 23 % 256 := by omega
  have h2 : (2 ^ 31 + m) % 2 ^ 23 = m % 2 ^ 23 := by omega
  simp only [h1, h2]

theorem signBit_add_sign {m : Nat} (hm : m < 2 ^ 31) : signBit (2 ^ 31 + m) = true := by
  unfold signBit
  have : (2 ^ 31 + m) / 2 ^ 31 % 2 = 1 := by omega
  rw [this]; rfl

theorem signBit_lt {m : Nat} (hm : m < 2 ^ 31) : signBit m = false := by
  unfold signBit
  have : m / 2 ^ 31 % 2 = 0 := by omega
  rw [this]; rfl

theorem bits_split {b : Nat} (hb : b < 2 ^ 32) :
    ∃ m, m < 2 ^ 31 ∧ b = (if signBit b then 2 ^ 31 else 0) + m ∧ mag b = mag m := by
  by_cases h : b < 2 ^ 31
  · exact ⟨b, h, by rw [signBit_lt h]; exact (Nat.zero_add b).symm, rfl⟩
  · have e : b = 2 ^ 31 + (b - 2 ^ 31) := by omega
    refine ⟨b - 2 ^ 31, by omega, ?_, by rw [e, mag_add_sign, ← e]⟩
    rw [e, signBit_add_sign (by omega), ← e]; exact e

theorem roundMag_lt (n d : Nat) : roundMag n d < 2 ^ 31 := by
  have key : ∀ x : Nat, (if 0x7f800000 ≤ x then 0x7f800000 else x) < 2 ^ 31 := fun x => by split <;> omega
  unfold roundMag
  exact key _

/-- A finite pattern holds `|k|` in its magnitude bits and the sign of `k` in its sign bit (either sign for `k = 0`). -/
theorem val_some {b : Nat} {k : Int} (h : val b = some k) :
    mag b = some k.natAbs ∧ k = (if signBit b then -(k.natAbs : Int) else (k.natAbs : Int)) := by
  unfold val at h
  split at h
  · cases h
  · rename_i n hn
    obtain rfl := Option.some.inj h
    have : (if signBit b = true then -(n : Int) else (n : Int)).natAbs = n := by split <;> omega
    rw [this]
    exact ⟨hn, rfl⟩

theorem val_of_mag {b n : Nat} (h : mag b = some n) :
    val b = some (if signBit b then -(n : Int) else (n : Int)) := by
  unfold val; rw [h]

theorem val_eq_none {b : Nat} : val b = none ↔ mag b = none := by
  unfold val
  split <;> simp [*]

/-- The value of sign·2^31 + magnitude bits, the sign given by a proposition. -/
theorem val_sign_mag (s : Prop) [Decidable s] {m n : Nat} (hm : m < 2 ^ 31) (h : mag m = some n) :
    val ((if s then 2 ^ 31 else 0) + m) = some (if s then -(n : Int) else n) := by
  split
  · rw [val_of_mag (by rw [mag_add_sign]; exact h), signBit_add_sign hm]; rfl
  · rw [Nat.zero_add, val_of_mag h, signBit_lt hm]; rfl

theorem mag_zero {m : Nat} (hm : m < 2 ^ 31) (h : mag m = some 0) : m = 0 := by
  have := roundMag_mag hm h
  rw [← this]; decide

/-- A bit pattern is determined by its value (apart from −0). -/
theorem eq_ofScaled_of_val {b : Nat} {k : Int} (hb : b < 2 ^ 32) (hv : val b = some k) (hnz : b ≠ 2 ^ 31) :
    b = ofScaled k 0 := by
  obtain ⟨hn, hk⟩ := val_some hv
  obtain ⟨m, hm, hbm, hmag⟩ := bits_split hb
  rw [hmag] at hn
  unfold ofScaled
  rw [roundMag_mag hm hn]
  cases hs : signBit b
  · rw [hs] at hk hbm
    rw [if_neg (by rw [hk]; simp)]; exact hbm
  · rw [hs] at hk hbm
    have hn0 : k.natAbs ≠ 0 := fun h0 => hnz (by rw [hbm, mag_zero hm (h0 ▸ hn)]; rfl)
    rw [if_pos (by rw [hk]; simp; omega)]; exact hbm

/-- `ofScaled (j·2^d) d` is exact when `|j|` is a 24-bit integer times a power of two. -/
theorem val_ofScaled_dyadic (j : Int) (d q t : Nat) (hj : j.natAbs = q * 2 ^ t) (hq : q < 2 ^ 24)
    (hfin : j.natAbs < 2 ^ 277) :
    val (ofScaled (j * 2 ^ d) d) = some j ∧ ofScaled (j * 2 ^ d) d < 2 ^ 32 ∧
      ofScaled (j * 2 ^ d) d ≠ 2 ^ 31 := by
  have hn : (j * 2 ^ d).natAbs = q * 2 ^ (t + d) := by
    rw [Int.natAbs_mul, hj, Int.natAbs_pow, Nat.pow_add, Nat.mul_assoc]; rfl
  have hm : mag (roundMag (j * 2 ^ d).natAbs d) = some j.natAbs := by
    rw [hn, roundMag_dyadic hq (Nat.le_add_left d t), Nat.add_sub_cancel, hj]
    rw [Nat.pow_add, ← Nat.mul_assoc, ← hj, Nat.pow_add]
    exact Nat.mul_lt_mul_of_pos_right hfin (Nat.two_pow_pos d)
  have hr := roundMag_lt (j * 2 ^ d).natAbs d
  have hneg : j * 2 ^ d < 0 ↔ j < 0 :=
    ⟨fun h => neg_of_mul_neg_left h (by positivity), fun h => Int.mul_neg_of_neg_of_pos h (by positivity)⟩
  unfold ofScaled
  refine ⟨?_, by split <;> omega, ?_⟩
  · rw [val_sign_mag _ hr hm]; congr 1; split <;> omega
  · split
    · intro h
      rw [show roundMag (j * 2 ^ d).natAbs d = 0 by omega] at hm
      have := Option.some.inj ((show mag 0 = some 0 by decide).symm.trans hm)
      omega
    · omega

theorem ofScaled_dyadic_eq (j : Int) (d q t : Nat) (hj : j.natAbs = q * 2 ^ t) (hq : q < 2 ^ 24)
    (hfin : j.natAbs < 2 ^ 277) : ofScaled (j * 2 ^ d) d = ofScaled j 0 := by
  obtain ⟨h1, h2, h3⟩ := val_ofScaled_dyadic j d q t hj hq hfin
  exact eq_ofScaled_of_val h2 h1 h3

theorem roundMag_overflow {n : Nat} (h : 2 ^ 277 ≤ n) : roundMag n 0 = 0x7f800000 := by
  have hn : n ≠ 0 := by
    intro h0; subst h0; exact absurd h (by norm_num)
  have hL : 277 ≤ Nat.log2 n := (Nat.le_log2 hn).mpr h
  have hL1 : 2 ^ Nat.log2 n ≤ n := (Nat.le_log2 hn).mp (le_refl _)
  unfold roundMag
  generalize Nat.log2 n = L at *
  have hsh : max (L - 23) 0 = L - 23 := by simp
  simp only [hsh, Nat.sub_zero]
  have hq : 2 ^ 23 ≤ n / 2 ^ (L - 23) := by
    rw [Nat.le_div_iff_mul_le (by positivity), ← Nat.pow_add]
    have : 23 + (L - 23) = L := by omega
    rw [this]; exact hL1
  generalize n / 2 ^ (L - 23) = Q at *
  generalize n % 2 ^ (L - 23) = R at *
  generalize 2 ^ (L - 23) / 2 = H at *
  have h254 : 254 * 2 ^ 23 ≤ (L - 23) * 2 ^ 23 := Nat.mul_le_mul_right _ (by omega)
  have hq' : ∀ (c1 c2 : Prop) [Decidable c1] [Decidable c2],
      Q ≤ (if c1 then Q else if c2 then Q + 1 else Q) := by
    intro c1 c2 _ _; split
    · omega
    · split <;> omega
  have key : ∀ x : Nat, 0x7f800000 ≤ x → (if 0x7f800000 ≤ x then 0x7f800000 else x) = 0x7f800000 :=
    fun x hx => if_pos hx
  apply key
  have := hq' (L - 23 = 0) (H < R ∨ R = H ∧ Q % 2 = 1)
  omega

theorem mag_inf : mag 0x7f800000 = none := by decide

/-- A finite value times 2^p: either the exact product, or ±inf when it does not fit. -/
theorem mulPow2_finite {b : Nat} {k : Int} (p : Nat) (hv : val b = some k) :
    (k.natAbs * 2 ^ p < 2 ^ 277 ∧ val (mulPow2 b p) = some (k * 2 ^ p) ∧ mulPow2 b p < 2 ^ 32) ∨
    (2 ^ 277 ≤ k.natAbs * 2 ^ p ∧ mulPow2 b p = (if k < 0 then 2 ^ 31 else 0) + 0x7f800000) := by
  obtain ⟨hn, hk⟩ := val_some hv
  have hmul : mulPow2 b p = (if signBit b then 2 ^ 31 else 0) + roundMag (k.natAbs * 2 ^ p) 0 := by
    unfold mulPow2; rw [hn]
  generalize k.natAbs = n at *
  by_cases hfit : n * 2 ^ p < 2 ^ 277
  · left
    obtain ⟨q, t, hqt, hq⟩ := mag_dyadic hn
    have hnp : n * 2 ^ p = q * 2 ^ (t + p) := by rw [hqt, Nat.pow_add, Nat.mul_assoc]
    have hex : mag (roundMag (n * 2 ^ p) 0) = some (n * 2 ^ p) := by
      rw [hnp, roundMag_dyadic hq (Nat.zero_le _) (hnp ▸ hfit), Nat.sub_zero]
    have hr := roundMag_lt (n * 2 ^ p) 0
    refine ⟨hfit, ?_, by rw [hmul]; split <;> omega⟩
    rw [hmul, val_sign_mag _ hr hex, hk]
    cases signBit b
    · simp only [Bool.false_eq_true, if_false]; congr 1
    · simp only [if_true]; congr 1; push_cast; ring
  · right
    have hge : 2 ^ 277 ≤ n * 2 ^ p := by omega
    refine ⟨hge, ?_⟩
    rw [hmul, roundMag_overflow hge]
    have hn0 : n ≠ 0 := by
      intro h0; subst h0; simp at hge
    congr 1
    rw [hk]
    cases hs : signBit b
    · simp only [Bool.false_eq_true, if_false]
      rw [if_neg (by omega)]
    · simp only [if_true]
      rw [if_pos (by omega)]

theorem mag_eq_none_iff {b : Nat} : mag b = none ↔ b / 2 ^ 23 % 256 = 255 := by
  constructor
  · intro hm
    by_contra h
    unfold mag at hm
    simp only [h, if_false] at hm
    split at hm <;> cases hm
  · intro h
    unfold mag
    simp only [h, if_true]

/-- `mulPow2` keeps ±inf and keeps NaN a NaN (quieting sets mantissa bit 22: exponent field and sign stay). -/
theorem mulPow2_nonfinite {b : Nat} (p : Nat) (hv : val b = none) :
    val (mulPow2 b p) = none ∧ isNaN (mulPow2 b p) = isNaN b ∧ signBit (mulPow2 b p) = signBit b := by
  have hm := val_eq_none.mp hv
  have he := mag_eq_none_iff.mp hm
  unfold mulPow2
  rw [hm]
  simp only
  split
  · rename_i hq
    -- bit 22 was clear: setting it leaves the bits from 23 up alone and adds 2^22 to the mantissa
    obtain ⟨d1, d2⟩ : (b + 2 ^ 22) / 2 ^ 23 = b / 2 ^ 23 ∧ (b + 2 ^ 22) % 2 ^ 23 = b % 2 ^ 23 + 2 ^ 22 := by
      have := hq.2
      omega
    have h31 : ∀ x, x / 2 ^ 23 / 2 ^ 8 = x / 2 ^ (23 + 8) := fun x => by rw [Nat.div_div_eq_div_mul, ← Nat.pow_add]
    refine ⟨val_eq_none.mpr (mag_eq_none_iff.mpr (by rw [d1]; exact he)), ?_, ?_⟩
    · rw [hq.1]; unfold isNaN
      exact decide_eq_true ⟨by rw [d1]; exact he, by rw [d2]; omega⟩
    · unfold signBit; rw [← h31, ← h31, d1]
  · exact ⟨hv, rfl, rfl⟩

theorem float2int_of_val {b : Nat} {k : Int} (hv : val b = some k) :
    float2int b = (if -(2 ^ 31) ≤ rne k 149 ∧ rne k 149 < 2 ^ 31 then rne k 149 else -(2 ^ 31)) := by
  unfold float2int; rw [hv]

theorem float2int_none {b : Nat} (hv : val b = none) : float2int b = -(2 ^ 31) := by
  unfold float2int; rw [hv]

end Opus.Pcm
