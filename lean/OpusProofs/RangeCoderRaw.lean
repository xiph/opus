import OpusProofs.RangeCoderEnc
/-
  OpusProofs.RangeCoderRaw — C08, encoder side of the raw-bit queue that grows from
  the end of the buffer (`ec_enc_bits`, the flush loops of `ec_enc_bits` / `ec_enc_done`).

  `tailVal B S n` is the little-endian value of the last `n` bytes of the `S`-byte buffer
  (byte `j` from the end has weight `256^j`); the raw bits written so far are
  `rawQ c w = tailVal c.buf c.storage c.endOffs + w * 256^c.endOffs` (`w` the window), and
  there are `rawN c = 8*c.endOffs + c.nendBits` of them.  At the end: `BytesOk` of the buffer is
  preserved by every output helper, and `shrink_buf`, the `memmove` of `ec_enc_shrink` on plain lists.
-/
namespace Opus.RangeCoder

theorem getD_set (l : List Nat) (i j v : Nat) :
    (l.set i v).getD j 0 = if i = j ∧ i < l.length then v else l.getD j 0 := by
  simp only [List.getD_eq_getElem?_getD, List.getElem?_set]
  by_cases h : i = j
  · subst h
    by_cases h2 : i < l.length
    · simp [h2]
    · simp [h2]
  · simp [h]

theorem getD_of_drop_eq {l m : List Nat} {o : Nat} (h : l.drop o = m.drop o) (i : Nat) (hi : o ≤ i) :
    l.getD i 0 = m.getD i 0 := by
  have e1 : l.getD i 0 = (l.drop o).getD (i - o) 0 := by
    simp only [List.getD_eq_getElem?_getD, List.getElem?_drop]; congr 2; omega
  have e2 : m.getD i 0 = (m.drop o).getD (i - o) 0 := by
    simp only [List.getD_eq_getElem?_getD, List.getElem?_drop]; congr 2; omega
  rw [e1, e2, h]

theorem getD_of_take_eq {l m : List Nat} {o : Nat} (h : l.take o = m.take o) (i : Nat) (hi : i < o) :
    l.getD i 0 = m.getD i 0 := by
  have e1 : l.getD i 0 = (l.take o).getD i 0 := by
    simp only [List.getD_eq_getElem?_getD, List.getElem?_take, hi, if_true]
  have e2 : m.getD i 0 = (m.take o).getD i 0 := by
    simp only [List.getD_eq_getElem?_getD, List.getElem?_take, hi, if_true]
  rw [e1, e2, h]

/-- Byte `j` counted from the end of the `S`-byte buffer; 0 past the front
    (`ec_read_byte_from_end`, entdec.c:95-98). -/
def endByte (B : List Nat) (S j : Nat) : Nat := if j < S then B.getD (S - 1 - j) 0 else 0

/-- Little-endian value of the last `n` bytes. -/
def tailVal (B : List Nat) (S : Nat) : Nat → Nat
  | 0 => 0
  | n + 1 => tailVal B S n + endByte B S n * 256 ^ n

theorem tailVal_congr {B B' : List Nat} {S S' : Nat} : ∀ (n : Nat),
    (∀ j, j < n → endByte B S j = endByte B' S' j) → tailVal B S n = tailVal B' S' n
  | 0, _ => rfl
  | n + 1, h => by
    simp only [tailVal]
    rw [tailVal_congr n (fun j hj => h j (by omega)), h n (by omega)]

theorem tailVal_lt {B : List Nat} {S : Nat} : ∀ (n : Nat), (∀ j, j < n → endByte B S j < 256) →
    tailVal B S n < 256 ^ n
  | 0, _ => by simp [tailVal]
  | n + 1, h => by
    simp only [tailVal, Nat.pow_succ]
    have h1 := tailVal_lt n (fun j hj => h j (by omega))
    have h2 := h n (by omega)
    have : endByte B S n * 256 ^ n + 256 ^ n ≤ 256 * 256 ^ n := by
      rw [← Nat.succ_mul]; exact Nat.mul_le_mul_right _ h2
    omega

theorem endByte_lt {B : List Nat} (hB : BytesOk B) (S j : Nat) : endByte B S j < 256 := by
  unfold endByte; split
  · exact getD_lt_of_bytesOk hB _
  · omega

theorem two_pow_8mul (a b : Nat) : 2 ^ (a + 8 * b) = 2 ^ a * 256 ^ b := by
  rw [Nat.pow_add, Nat.pow_mul]

/-- What is left of a `u`-bit window after its `u / 8` whole bytes have been flushed. -/
theorem window_rest_lt {w u : Nat} (h : w < 2 ^ u) : w / 256 ^ (u / 8) < 2 ^ (u % 8) := by
  rw [Nat.div_lt_iff_lt_mul (Nat.pow_pos (by decide)), ← two_pow_8mul, show u % 8 + 8 * (u / 8) = u by omega]
  exact h

theorem add_mul_mod_lt {a b P X : Nat} (ha : a < P) (hX : 0 < X) : (a + b * P) % (X * P) = a + b % X * P := by
  have hb : b = X * (b / X) + b % X := (Nat.div_add_mod b X).symm
  have hr : b % X < X := Nat.mod_lt _ hX
  have e : a + b * P = (a + b % X * P) + (X * P) * (b / X) := by
    conv => lhs; rw [hb]
    rw [Nat.add_mul, Nat.mul_assoc, Nat.mul_assoc, Nat.mul_comm (b / X) P, ← Nat.mul_assoc X P]
    omega
  rw [e, Nat.add_mul_mod_self_left]
  apply Nat.mod_eq_of_lt
  have : (b % X + 1) * P ≤ X * P := Nat.mul_le_mul_right _ hr
  rw [Nat.add_mul] at this
  omega

theorem tailVal_split (B : List Nat) (S n : Nat) : ∀ m, ∃ K, tailVal B S (n + m) = tailVal B S n + 256 ^ n * K
  | 0 => ⟨0, by simp⟩
  | m + 1 => by
    obtain ⟨K, hK⟩ := tailVal_split B S n m
    refine ⟨K + endByte B S (n + m) * 256 ^ m, ?_⟩
    rw [← Nat.add_assoc, tailVal, hK, Nat.pow_add, Nat.mul_add]
    rw [Nat.mul_comm (endByte B S (n + m)) (256 ^ n * 256 ^ m), Nat.mul_assoc, Nat.mul_comm (256 ^ m)]
    omega

theorem tailVal_low {B : List Nat} {S : Nat} (hB : ∀ j, endByte B S j < 256) (n m : Nat) :
    tailVal B S (n + m) % 256 ^ n = tailVal B S n := by
  obtain ⟨K, hK⟩ := tailVal_split B S n m
  rw [hK, Nat.add_mul_mod_self_left]
  exact Nat.mod_eq_of_lt (tailVal_lt n (fun j _ => hB j))

theorem tailVal_succ_mod {B : List Nat} {S : Nat} (hB : ∀ j, endByte B S j < 256) (n m u : Nat) (hu : u ≤ 8) :
    tailVal B S (n + 1 + m) % (2 ^ u * 256 ^ n) = tailVal B S n + endByte B S n % 2 ^ u * 256 ^ n := by
  obtain ⟨K, hK⟩ := tailVal_split B S (n + 1) m
  have e8 : (256 : Nat) = 2 ^ u * 2 ^ (8 - u) := by
    rw [← Nat.pow_add]; have : u + (8 - u) = 8 := by omega
    rw [this]
  have e : 256 ^ (n + 1) * K = (2 ^ u * 256 ^ n) * (2 ^ (8 - u) * K) := by
    rw [Nat.pow_succ]
    generalize 256 ^ n = P
    generalize 2 ^ u = X at e8 ⊢
    generalize 2 ^ (8 - u) = Y at e8 ⊢
    rw [e8]
    simp only [Nat.mul_comm, Nat.mul_left_comm]
  rw [hK, e, Nat.add_mul_mod_self_left, tailVal]
  exact add_mul_mod_lt (tailVal_lt n (fun j _ => hB j)) (Nat.pow_pos (by decide))

/-- Raw bits written so far, with the window `w`. -/
def rawQ (c : Enc) (w : Nat) : Nat := tailVal c.buf c.storage c.endOffs + w * 256 ^ c.endOffs

/-- Well-formedness of the raw-bit window. -/
structure RawInv (c : Enc) : Prop where
  win_lt : c.endWindow < 2 ^ c.nendBits
  nend_le : c.nendBits ≤ 32

theorem writeByteAtEnd_ok {c : Enc} {v : Nat} (h : (writeByteAtEnd c v).error = 0) :
    c.error = 0 ∧ c.offs + c.endOffs < c.storage := by
  unfold writeByteAtEnd at h
  split at h
  · simp at h
  · exact ⟨h, by omega⟩

theorem writeByteAtEnd_eq {c : Enc} (v : Nat) (h : c.offs + c.endOffs < c.storage) :
    writeByteAtEnd c v =
      { c with buf := c.buf.set (c.storage - (c.endOffs + 1)) (v % 256), endOffs := c.endOffs + 1 } := by
  unfold writeByteAtEnd; rw [if_neg (by omega)]

theorem writeByteAtEnd_error_mono {c : Enc} {v : Nat} (h : c.error ≠ 0) : (writeByteAtEnd c v).error ≠ 0 := by
  unfold writeByteAtEnd; split <;> simp [h]

/-- One successful write at the end moves the low byte of the window into the buffer. -/
theorem writeByteAtEnd_rawQ {c : Enc} (w : Nat) (h : c.offs + c.endOffs < c.storage)
    (hs : c.storage ≤ c.buf.length) :
    rawQ (writeByteAtEnd c (w % 256)) (w / 256) = rawQ c w := by
  rw [writeByteAtEnd_eq _ h]
  unfold rawQ
  simp only [tailVal, Nat.pow_succ]
  have e1 : tailVal (c.buf.set (c.storage - (c.endOffs + 1)) (w % 256 % 256)) c.storage c.endOffs =
      tailVal c.buf c.storage c.endOffs := by
    apply tailVal_congr
    intro j hj
    have hjS : j < c.storage := by omega
    simp only [endByte, hjS, if_true]
    rw [getD_set, if_neg (by omega)]
  have e2 : endByte (c.buf.set (c.storage - (c.endOffs + 1)) (w % 256 % 256)) c.storage c.endOffs = w % 256 := by
    unfold endByte
    rw [if_pos (by omega), getD_set, if_pos ⟨by omega, by omega⟩]
    omega
  rw [e1, e2]
  generalize 256 ^ c.endOffs = P
  have : w = w / 256 * 256 + w % 256 := by omega
  calc tailVal c.buf c.storage c.endOffs + w % 256 * P + w / 256 * (P * 256)
      = tailVal c.buf c.storage c.endOffs + (w / 256 * 256 + w % 256) * P := by
        rw [Nat.add_mul, Nat.mul_assoc, Nat.mul_comm 256 P]; omega
    _ = _ := by rw [← this]

/-- `ec_enc_bits`' do-while loop is `ec_enc_done`'s while loop once it is entered. -/
theorem encBitsFlush_eq (c : Enc) (w u : Nat) (hu : 8 ≤ u) : encBitsFlush c w u = encDoneFlush c w u := by
  fun_induction encBitsFlush c w u with
  | case1 c w u c1 h ih =>
    rw [encDoneFlush, dif_pos hu]
    exact ih h
  | case2 c w u c1 h =>
    rw [encDoneFlush, dif_pos hu, encDoneFlush, dif_neg h]

theorem encDoneFlush_pres (P : Enc → Prop) (hw : ∀ c v, P c → P (writeByteAtEnd c v))
    (c : Enc) (w u : Nat) (h : P c) : P (encDoneFlush c w u).1 := by
  fun_induction encDoneFlush c w u with
  | case1 c w u hu ih => exact ih (hw _ _ h)
  | case2 c w u hu => exact h

theorem encBitsFlush_pres (P : Enc → Prop) (hw : ∀ c v, P c → P (writeByteAtEnd c v))
    (c : Enc) (w u : Nat) (h : P c) : P (encBitsFlush c w u).1 := by
  fun_induction encBitsFlush c w u with
  | case1 c w u c1 hu ih => exact ih (hw _ _ h)
  | case2 c w u c1 hu => exact hw _ _ h

theorem encBits_pres (P : Enc → Prop) (hw : ∀ c v, P c → P (writeByteAtEnd c v))
    (hu : ∀ (c : Enc) w u t, P c → P { c with endWindow := w, nendBits := u, nbitsTotal := t })
    (c : Enc) (v n : Nat) (h : P c) : P (encBits c v n) := by
  unfold encBits
  simp only
  split
  · exact hu _ _ _ _ (encBitsFlush_pres P hw _ _ _ h)
  · exact hu _ _ _ _ h

theorem encBitsFlush_frame {α} (f : Enc → α) (hw : ∀ c v, f (writeByteAtEnd c v) = f c)
    (c : Enc) (w u : Nat) : f (encBitsFlush c w u).1 = f c :=
  encBitsFlush_pres (f · = f c) (fun x v h => (hw x v).trans h) c w u rfl

theorem encDoneFlush_error_mono (c : Enc) (w u : Nat) (h : c.error ≠ 0) : (encDoneFlush c w u).1.error ≠ 0 :=
  encDoneFlush_pres (·.error ≠ 0) (fun _ _ h => writeByteAtEnd_error_mono h) c w u h

/-- A successful byte flush of the raw-bit window: `u / 8` bytes of the window have moved into the
    buffer in front of the raw bytes already there, nothing else has changed. -/
theorem encDoneFlush_spec (c : Enc) (w u : Nat) (ho : c.offs + c.endOffs ≤ c.storage)
    (hs : c.storage ≤ c.buf.length) (herr : (encDoneFlush c w u).1.error = 0) :
    ∃ B, encDoneFlush c w u = ({ c with buf := B, endOffs := c.endOffs + u / 8 }, w / 256 ^ (u / 8), u % 8) ∧
      c.error = 0 ∧ c.offs + (c.endOffs + u / 8) ≤ c.storage ∧ B.length = c.buf.length ∧
      rawQ { c with buf := B, endOffs := c.endOffs + u / 8 } (w / 256 ^ (u / 8)) = rawQ c w ∧
      (∀ i, i < c.storage - (c.endOffs + u / 8) → B.getD i 0 = c.buf.getD i 0) := by
  fun_induction encDoneFlush c w u with
  | case1 c w u h ih =>
    have h8 : u / 8 = (u - 8) / 8 + 1 := by omega
    have herr1 : (writeByteAtEnd c (w % 256)).error = 0 := zero_of_sticky (encDoneFlush_error_mono _ _ _) herr
    obtain ⟨k0, kg⟩ := writeByteAtEnd_ok herr1
    have hq := writeByteAtEnd_rawQ (c := c) w kg hs
    rw [writeByteAtEnd_eq _ kg] at ih hq herr ⊢
    obtain ⟨B, i1, _, i5, i6, i4, i7⟩ := ih (by simp only; omega) (by simpa using hs) herr
    simp only at i1 i4 i5 i6 i7
    have e1 : c.endOffs + 1 + (u - 8) / 8 = c.endOffs + u / 8 := by omega
    have e2 : w / 256 / 256 ^ ((u - 8) / 8) = w / 256 ^ (u / 8) := by
      rw [h8, Nat.pow_succ, Nat.div_div_eq_div_mul, Nat.mul_comm]
    rw [e1] at i1 i4 i5 i7
    rw [e2] at i1 i4
    refine ⟨B, by rw [i1, show (u - 8) % 8 = u % 8 by omega], k0, i5, by rw [i6, List.length_set], by rw [i4, hq],
      fun i hi => ?_⟩
    rw [i7 i hi, getD_set, if_neg (by omega)]
  | case2 c w u h =>
    have e0 : u / 8 = 0 := by omega
    rw [e0]
    exact ⟨c.buf, by simp only [Nat.add_zero, Nat.pow_zero, Nat.div_one]; rw [show u % 8 = u by omega],
      herr, ho, rfl, by simp only [rawQ, Nat.add_zero, Nat.pow_zero, Nat.div_one], fun _ _ => rfl⟩

theorem or_shift (w v u : Nat) (h : w < 2 ^ u) : w ||| v <<< u = w + v * 2 ^ u := by
  rw [Nat.or_comm, ← Nat.shiftLeft_add_eq_or_of_lt h, Nat.shiftLeft_eq, Nat.add_comm]

theorem window_bound {w v u n : Nat} (hw : w < 2 ^ u) (hv : v < 2 ^ n) : w + v * 2 ^ u < 2 ^ (u + n) := by
  rw [Nat.pow_add]
  have : (v + 1) * 2 ^ u ≤ 2 ^ n * 2 ^ u := Nat.mul_le_mul_right _ hv
  rw [Nat.add_mul, Nat.mul_comm (2 ^ n)] at this
  omega

theorem shl_lt {v n u : Nat} (hv : v < 2 ^ n) (h : u + n ≤ 32) : v <<< u < 4294967296 := by
  rw [Nat.shiftLeft_eq]
  have := window_bound (w := 0) (u := u) (Nat.pow_pos (by decide)) hv
  have h2 : 2 ^ (u + n) ≤ 2 ^ 32 := Nat.pow_le_pow_right (by decide) h
  omega

theorem or_shl32 {w v n u : Nat} (hw : w < 2 ^ u) (hv : v < 2 ^ n) (h : u + n ≤ 32) :
    w ||| u32 (v <<< u) = w + v * 2 ^ u := by
  rw [u32_of_lt (shl_lt hv h), or_shift _ _ _ hw]

/-- Successful `ec_enc_bits`: the value is appended to the raw-bit queue. -/
theorem encBits_spec (c : Enc) (v n : Nat) (ri : RawInv c) (hn2 : n ≤ 25) (hv : v < 2 ^ n)
    (ho : c.offs + c.endOffs ≤ c.storage) (hs : c.storage ≤ c.buf.length)
    (herr : (encBits c v n).error = 0) :
    c.error = 0 ∧ RawInv (encBits c v n) ∧
    rawQ (encBits c v n) (encBits c v n).endWindow = rawQ c c.endWindow + v * 2 ^ rawN c ∧
    rawN (encBits c v n) = rawN c + n ∧
    c.offs + (encBits c v n).endOffs ≤ c.storage ∧
    (encBits c v n).buf.length = c.buf.length ∧
    (∀ i, i < c.storage - (encBits c v n).endOffs → (encBits c v n).buf.getD i 0 = c.buf.getD i 0) := by
  obtain ⟨rw_, rn⟩ := ri
  by_cases hf : c.nendBits + n > 32
  · have est : (if c.nendBits + n > 32 then encBitsFlush c c.endWindow c.nendBits
        else (c, c.endWindow, c.nendBits)) = encDoneFlush c c.endWindow c.nendBits := by
      rw [if_pos hf, encBitsFlush_eq _ _ _ (by omega)]
    unfold encBits at herr ⊢
    simp only [est] at herr ⊢
    obtain ⟨B, heq, k0, k5, k6, k4, k7⟩ := encDoneFlush_spec c c.endWindow c.nendBits ho hs herr
    rw [heq] at herr ⊢
    simp only
    have hw1 := window_rest_lt rw_
    rw [or_shl32 hw1 hv (by omega)]
    refine ⟨k0, ⟨window_bound hw1 hv, by show c.nendBits % 8 + n ≤ 32; omega⟩, ?_,
      by unfold rawN; simp only; omega, k5, k6, k7⟩
    unfold rawQ at k4 ⊢
    simp only at k4 ⊢
    rw [Nat.add_mul, ← Nat.add_assoc, k4]
    unfold rawN
    rw [show 8 * c.endOffs + c.nendBits = c.nendBits % 8 + 8 * (c.endOffs + c.nendBits / 8) by omega,
      two_pow_8mul, Nat.mul_assoc]
  · have heq : encBits c v n =
        { c with endWindow := c.endWindow ||| u32 (v <<< c.nendBits), nendBits := c.nendBits + n,
                 nbitsTotal := c.nbitsTotal + n } := by
      unfold encBits; simp only [if_neg hf]
    rw [heq] at herr ⊢
    rw [or_shl32 rw_ hv (by omega)]
    refine ⟨herr, ⟨window_bound rw_ hv, by simp only; omega⟩, ?_, ?_, ho, rfl, fun _ _ => rfl⟩
    · unfold rawQ rawN
      simp only
      rw [Nat.add_mul, ← Nat.add_assoc]
      have : 8 * c.endOffs + c.nendBits = c.nendBits + 8 * c.endOffs := by omega
      rw [this, two_pow_8mul, Nat.mul_assoc]
    · unfold rawN; simp only; omega

/-- The raw-bit queue is the same in two states that agree in the raw-bit fields and in the buffer from `o` on, `o` in
    front of the raw bytes. -/
theorem rawQ_congr {c c' : Enc} {o : Nat} (hs : c'.storage = c.storage) (he : c'.endOffs = c.endOffs)
    (hw : c'.endWindow = c.endWindow) (hn : c'.nendBits = c.nendBits) (ho : o + c.endOffs ≤ c.storage)
    (hd : c'.buf.drop o = c.buf.drop o) : rawN c' = rawN c ∧ rawQ c' c'.endWindow = rawQ c c.endWindow := by
  refine ⟨by unfold rawN; rw [he, hn], ?_⟩
  unfold rawQ
  rw [hs, he, hw]
  congr 1
  apply tailVal_congr
  intro j hj
  unfold endByte
  rw [if_pos (by omega), if_pos (by omega)]
  exact getD_of_drop_eq hd _ (by omega)

theorem encDoneOut_pres (P : Enc → Prop) (hw : ∀ c v, P c → P (writeByte c v))
    (he : ∀ (c : Enc) n, P c → P { c with ext := n }) (hr : ∀ (c : Enc) r, P c → P { c with rem := r })
    (c : Enc) (end_ : Nat) (l : Int) (h : P c) : P (encDoneOut c end_ l).1 := by
  fun_induction encDoneOut c end_ l with
  | case1 c end_ l hl ih => exact ih (carryOut_pres P hw he hr c _ h)
  | case2 c end_ l hl => exact h

theorem bytesOk_set {l : List Nat} (h : BytesOk l) (i v : Nat) (hv : v < 256) : BytesOk (l.set i v) := by
  intro b hb
  rcases List.mem_or_eq_of_mem_set hb with h1 | h1
  · exact h b h1
  · omega

theorem writeByte_bytesOk (c : Enc) (v : Nat) (h : BytesOk c.buf) : BytesOk (writeByte c v).buf := by
  unfold writeByte; split
  · exact h
  · exact bytesOk_set h _ _ (Nat.mod_lt _ (by decide))

theorem writeByteAtEnd_bytesOk (c : Enc) (v : Nat) (h : BytesOk c.buf) : BytesOk (writeByteAtEnd c v).buf := by
  unfold writeByteAtEnd; split
  · exact h
  · exact bytesOk_set h _ _ (Nat.mod_lt _ (by decide))

theorem carryOut_bytesOk (c : Enc) (cc : Nat) (h : BytesOk c.buf) : BytesOk (carryOut c cc).buf :=
  carryOut_pres (fun c => BytesOk c.buf) writeByte_bytesOk (fun _ _ h => h) (fun _ _ h => h) c cc h

theorem encNormalize_bytesOk (c : Enc) (h : BytesOk c.buf) : BytesOk (encNormalize c).buf :=
  encNormalize_pres (fun c => BytesOk c.buf) writeByte_bytesOk (fun _ _ h => h) (fun _ _ h => h)
    (fun _ _ _ _ h => h) c h

/-- The `memmove` of `ec_enc_shrink` on a buffer `l` with `eo` raw-bit bytes below `sto`: the length stays, the bytes in
    front of the raw-bit area stay, the `j`-th byte from the end moves from below `sto` to below `size`, no
    new byte value appears, and the buffer from `size` on stays. -/
theorem shrink_buf (l : List Nat) (sto size eo : Nat) (h1 : eo ≤ size) (h2 : size ≤ sto) (h3 : sto ≤ l.length) :
    (l.take (size - eo) ++ (l.drop (sto - eo)).take eo ++ l.drop size).length = l.length ∧
    (∀ i, i < size - eo →
      (l.take (size - eo) ++ (l.drop (sto - eo)).take eo ++ l.drop size).getD i 0 = l.getD i 0) ∧
    (∀ j, j < eo →
      (l.take (size - eo) ++ (l.drop (sto - eo)).take eo ++ l.drop size).getD (size - 1 - j) 0 =
        l.getD (sto - 1 - j) 0) ∧
    (∀ b ∈ l.take (size - eo) ++ (l.drop (sto - eo)).take eo ++ l.drop size, b ∈ l) ∧
    (∀ n, size ≤ n → (l.take (size - eo) ++ (l.drop (sto - eo)).take eo ++ l.drop size).drop n = l.drop n) := by
  have hA : (l.take (size - eo)).length = size - eo := by rw [List.length_take]; omega
  have hB : ((l.drop (sto - eo)).take eo).length = eo := by rw [List.length_take, List.length_drop]; omega
  refine ⟨?_, ?_, ?_, ?_, ?_⟩
  · rw [List.length_append, List.length_append, hA, hB, List.length_drop]; omega
  · intro i hi
    simp only [List.getD_eq_getElem?_getD]
    rw [List.append_assoc, List.getElem?_append_left (by omega), List.getElem?_take, if_pos hi]
  · intro j hj
    simp only [List.getD_eq_getElem?_getD]
    rw [List.getElem?_append_left (by rw [List.length_append, hA, hB]; omega),
      List.getElem?_append_right (by omega), hA, List.getElem?_take, if_pos (by omega), List.getElem?_drop]
    congr 2
    omega
  · intro b hb
    simp only [List.mem_append] at hb
    rcases hb with (g | g) | g
    · exact List.mem_of_mem_take g
    · exact List.mem_of_mem_drop (List.mem_of_mem_take g)
    · exact List.mem_of_mem_drop g
  · intro n hn
    rw [List.drop_append, List.length_append, hA, hB,
      List.drop_of_length_le (by rw [List.length_append, hA, hB]; omega), List.nil_append, List.drop_drop]
    congr 1
    omega

end Opus.RangeCoder
