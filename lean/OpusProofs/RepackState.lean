import OpusProofs.RepackValid
import OpusProofs.RepackExt
/-
  C07 (repacketizer): the operations on the state.  `cat` — what it accepts, the state it leaves — and the repacketizer
  invariant; then `opus_repacketizer_out_range_impl` as a whole on a state with the invariant: through the gathering
  loops (RepackExt) to `emit`, and the extension-free case.
-/
namespace Opus.RepackProofs
open Opus Opus.Framing Opus.FramingSpec Opus.FramingProofs Opus.Repack Opus.Ext

/-- The invariant of `OpusRepacketizer` (called `RepackInv` in DESIGN.md §7.C07): every frame at most 1275 bytes,
    at most 120 ms, one padding entry per frame, `toc` / `framesize` meaningful once a frame is stored.
    `nb_frames ≤ 48` follows (`Inv.nb_le`). -/
structure Inv (rp : Rp) : Prop where
  toc_lt : rp.frames ≠ [] → rp.toc < 256
  fs : rp.frames ≠ [] → rp.framesize = samplesPerFrame rp.toc 8000
  dur : rp.frames.length * rp.framesize ≤ 960
  le : ∀ f ∈ rp.frames, f.length ≤ 1275
  pads_len : rp.pads.length = rp.frames.length

/-- 120 ms (960 samples at 8 kHz) hold at most 48 frames: the shortest frame, 2.5 ms, has 20 samples at 8 kHz. -/
theorem le_48_of_dur {n f : Nat} (h : n * f ≤ 960) (h20 : 20 ≤ f) : n ≤ 48 := by
  apply Decidable.byContradiction; intro hc
  have : 49 * 20 ≤ n * f := Nat.mul_le_mul (by omega) h20
  omega

theorem Inv.nb_le {rp : Rp} (h : Inv rp) : rp.nbFrames ≤ 48 := by
  unfold Rp.nbFrames
  by_cases hne : rp.frames = []
  · simp [hne]
  · exact le_48_of_dur h.dur (by
      rw [h.fs hne]; exact (frameDur48_spf8 rp.toc (List.mem_range.mpr (h.toc_lt hne))).2.2)

theorem inv_empty : Inv Rp.empty := ⟨by simp [Rp.empty], by simp [Rp.empty], by simp [Rp.empty], by simp [Rp.empty], rfl⟩

theorem inv_init (rp : Rp) : Inv (init rp) := ⟨by simp [init], by simp [init], by simp [init], by simp [init], rfl⟩

theorem parse_count_bounds (sd : Bool) (bs : Bytes) (hb : BytesOk bs) (r : Parsed)
    (h : parseImpl sd bs = .ok r) : 1 ≤ r.count ∧ r.count ≤ 48 :=
  ⟨(parse_offsets sd bs hb r h).2.1, (parse_offsets sd bs hb r h).2.2.1⟩

/-- `opus_packet_get_nb_frames` returns a count or an error code, never a fault of the model. -/
theorem getNbFrames_no_fault (bs : Bytes) :
    (∃ n, Framing.getNbFrames bs = .ok n) ∨ ∃ e, Framing.getNbFrames bs = .err e := by
  unfold Framing.getNbFrames
  match bs with
  | [] => exact Or.inr ⟨_, rfl⟩
  | toc :: rest =>
    simp only []
    split
    · exact Or.inl ⟨_, rfl⟩
    · split
      · exact Or.inl ⟨_, rfl⟩
      · cases rest
        · exact Or.inr ⟨_, rfl⟩
        · exact Or.inl ⟨_, rfl⟩

/-- When `cat` accepts: configuration-compatible, parses, and stays within 120 ms. -/
def CatOk (rp : Rp) (bs : Bytes) (sd : Bool) : Prop :=
  ∃ r, parseImpl sd bs = .ok r ∧ (rp.nbFrames = 0 ∨ rp.toc / 4 = bs.headD 0 / 4) ∧
    (rp.nbFrames + r.count) * samplesPerFrame (if rp.nbFrames = 0 then bs.headD 0 else rp.toc) 8000 ≤ 960

/-- The state after an accepted `cat` (`rp1` = state after the TOC was stored). -/
def catNew (rp1 : Rp) (bs : Bytes) (r : Parsed) : Rp :=
  { rp1 with
    frames := rp1.frames ++ slices bs r.payloadOffset r.sizes
    pads := rp1.pads ++ ((bs.drop r.padOffset).take r.padLen, r.count) :: List.replicate (r.count - 1) ([], 0) }

/-- `rp1` of `opus_repacketizer_cat_impl`: a first `cat` stores the TOC and the frame size. -/
def withToc (rp : Rp) (b0 : Nat) : Rp :=
  if rp.nbFrames = 0 then { rp with toc := b0, framesize := samplesPerFrame b0 8000 } else rp

/-- What `cat` does after the TOC check: either nothing (and an error code), or the packet parses, fits
    into 120 ms and its frames are appended. -/
theorem catBody_cases (rp1 : Rp) (bs : Bytes) (sd : Bool) :
    (∃ res, res ≠ .ok () ∧ catBody rp1 bs sd = (rp1, res)) ∨
    ∃ r, parseImpl sd bs = .ok r ∧ (r.count + rp1.nbFrames) * rp1.framesize ≤ 960 ∧
      catBody rp1 bs sd = (catNew rp1 bs r, .ok ()) := by
  unfold catBody
  cases Framing.getNbFrames bs with
  | ok curr =>
    simp only []
    by_cases h1 : curr < 1
    · exact Or.inl ⟨.err .invalidPacket, nofun, if_pos h1⟩
    by_cases hd : (curr + rp1.nbFrames) * rp1.framesize > 960
    · exact Or.inl ⟨.err .invalidPacket, nofun, by rw [if_neg h1, if_pos hd]⟩
    rw [if_neg h1, if_neg hd]
    cases hp : parseImpl sd bs with
    | ok r =>
      simp only []
      by_cases h2 : r.count < 1
      · exact Or.inl ⟨.err .invalidPacket, nofun, if_pos h2⟩
      by_cases h3 : 48 < rp1.nbFrames + r.count ∨ 48 < rp1.nbFrames + curr
      · exact Or.inl ⟨.oob, nofun, by rw [if_neg h2, if_pos h3]⟩
      by_cases h4 : curr ≠ r.count
      · exact Or.inl ⟨.oob, nofun, by rw [if_neg h2, if_neg h3, if_pos h4]⟩
      have : curr = r.count := Decidable.of_not_not h4
      subst this
      exact Or.inr ⟨r, rfl, by omega, by rw [if_neg h2, if_neg h3, if_neg h4]; rfl⟩
    | err e => exact Or.inl ⟨.err e, nofun, rfl⟩
    | oob => exact Or.inl ⟨.oob, nofun, rfl⟩
    | abort => exact Or.inl ⟨.abort, nofun, rfl⟩
  | err e => exact Or.inl ⟨.err .invalidPacket, nofun, rfl⟩
  | oob => exact Or.inl ⟨.oob, nofun, rfl⟩
  | abort => exact Or.inl ⟨.abort, nofun, rfl⟩

theorem catBody_reject (rp1 : Rp) (bs : Bytes) (sd : Bool) (h : (catBody rp1 bs sd).2 ≠ .ok ()) :
    (catBody rp1 bs sd).1 = rp1 := by
  rcases catBody_cases rp1 bs sd with ⟨res, _, he⟩ | ⟨r, _, _, he⟩
  · rw [he]
  · rw [he] at h; exact absurd rfl h

theorem catBody_ok (rp1 : Rp) (bs : Bytes) (sd : Bool) (h : (catBody rp1 bs sd).2 = .ok ()) :
    ∃ r, parseImpl sd bs = .ok r ∧ (r.count + rp1.nbFrames) * rp1.framesize ≤ 960 ∧
      catBody rp1 bs sd = (catNew rp1 bs r, .ok ()) := by
  rcases catBody_cases rp1 bs sd with ⟨res, hres, he⟩ | h'
  · rw [he] at h; exact absurd h hres
  · exact h'

/-- `20 ≤ framesize` (the shortest frame) turns the 120 ms test into the bound of 48 that guards the arrays. -/
theorem catBody_accept' (rp1 : Rp) (bs : Bytes) (sd : Bool) (r : Parsed)
    (hp : parseImpl sd bs = .ok r) (hn : Framing.getNbFrames bs = .ok r.count) (hib : 1 ≤ r.count)
    (hd : (r.count + rp1.nbFrames) * rp1.framesize ≤ 960) (hfs : 20 ≤ rp1.framesize) :
    (catBody rp1 bs sd).2 = .ok () := by
  have h48 : r.count + rp1.nbFrames ≤ 48 := le_48_of_dur hd hfs
  unfold catBody
  rw [hn]
  simp only [hp]
  rw [if_neg (by omega), if_neg (by omega), if_neg (by omega), if_neg (by omega), if_neg (by simp)]

theorem catBody_accept (rp1 : Rp) (bs : Bytes) (sd : Bool) (hb : BytesOk bs) (r : Parsed)
    (hp : parseImpl sd bs = .ok r) (hd : (r.count + rp1.nbFrames) * rp1.framesize ≤ 960) (hfs : 20 ≤ rp1.framesize) :
    (catBody rp1 bs sd).2 = .ok () :=
  catBody_accept' rp1 bs sd r hp (getNbFrames_agrees_any sd bs hb r hp) (parse_count_bounds sd bs hb r hp).1 hd hfs

/-- A rejected `cat` reports `OPUS_INVALID_PACKET`; it never reads outside the packet or aborts. -/
theorem catBody_err (rp1 : Rp) (bs : Bytes) (sd : Bool) (hb : BytesOk bs) (h20 : 20 ≤ rp1.framesize)
    (h : (catBody rp1 bs sd).2 ≠ .ok ()) : (catBody rp1 bs sd).2 = .err .invalidPacket := by
  rcases (parseImpl_tame sd bs).cases with ⟨r, hp⟩ | hp
  · -- the packet parses: it is the 120 ms test that failed
    have hn := getNbFrames_agrees_any sd bs hb r hp
    have hib := (parse_count_bounds sd bs hb r hp).1
    have hd : (r.count + rp1.nbFrames) * rp1.framesize > 960 := by
      apply Decidable.byContradiction; intro hd
      exact h (catBody_accept' rp1 bs sd r hp hn hib (by omega) h20)
    unfold catBody
    rw [hn]
    simp only []
    rw [if_neg (by omega), if_pos hd]
  · unfold catBody
    rcases getNbFrames_no_fault bs with ⟨n, hn⟩ | ⟨e, hn⟩ <;> rw [hn] <;> simp only [hp]
    split
    · rfl
    · split <;> rfl

/-- The frame slices the parser reports on a serialised packet are the packet's frames. -/
theorem slices_serialize (sd : Bool) (p : Packet) (rest : Bytes) :
    slices (serialize sd p ++ rest) (view sd p).payloadOffset (view sd p).sizes = p.frames := by
  have : serialize sd p ++ rest = header sd p ++ p.frames.flatten ++ (padBytes p ++ rest) := by
    simp [serialize]
  rw [this]
  exact slices_spec _ _ _

/-- The frames `cat` stores are the frames of the RFC packet the bytes serialise. -/
theorem parsed_frames (sd : Bool) (bs : Bytes) (hb : BytesOk bs) (r : Parsed) (h : parseImpl sd bs = .ok r) :
    ∃ p rest, Valid p ∧ bs = serialize sd p ++ rest ∧ (sd = false → rest = []) ∧ r = view sd p ∧
      slices bs r.payloadOffset r.sizes = p.frames := by
  obtain ⟨p, rest, hv, rfl, hr, rfl⟩ := parse_sound sd bs hb r h
  exact ⟨p, rest, hv, rfl, hr, rfl, slices_serialize sd p rest⟩

theorem withToc_frames (rp : Rp) (b0 : Nat) : (withToc rp b0).frames = rp.frames ∧ (withToc rp b0).pads = rp.pads ∧
    (rp.nbFrames ≠ 0 → withToc rp b0 = rp) := by
  unfold withToc; split <;> simp_all

theorem withToc_fs (rp : Rp) (hinv : Inv rp) (b0 : Nat) (hb0 : b0 < 256) :
    (withToc rp b0).toc < 256 ∧ (withToc rp b0).framesize = samplesPerFrame (withToc rp b0).toc 8000 ∧
    20 ≤ (withToc rp b0).framesize ∧ (withToc rp b0).toc = (if rp.nbFrames = 0 then b0 else rp.toc) := by
  unfold withToc
  split
  · rename_i h0
    have := (frameDur48_spf8 b0 (List.mem_range.mpr hb0)).2.2
    simp only [and_true, true_and]; exact ⟨hb0, this⟩
  · rename_i h0
    have hne : rp.frames ≠ [] := by intro h; apply h0; simp [Rp.nbFrames, h]
    have hlt := hinv.toc_lt hne
    have := (frameDur48_spf8 rp.toc (List.mem_range.mpr hlt)).2.2
    rw [hinv.fs hne]
    simp only [and_true, true_and]; exact ⟨hlt, this⟩

theorem catImpl_eq (rp : Rp) (b0 : Nat) (t : Bytes) (sd : Bool) :
    catImpl rp (b0 :: t) sd =
      if rp.nbFrames ≠ 0 ∧ rp.toc / 4 ≠ b0 / 4 then (rp, .err .invalidPacket)
      else catBody (withToc rp b0) (b0 :: t) sd := rfl

/-- `cat` accepts exactly the packets that parse, are configuration-compatible and keep the total
    duration within 120 ms. -/
theorem catImpl_accepts_iff (rp : Rp) (hinv : Inv rp) (bs : Bytes) (hb : BytesOk bs) (sd : Bool) :
    (catImpl rp bs sd).2 = .ok () ↔ CatOk rp bs sd := by
  cases bs with
  | nil => simp [catImpl, CatOk, parseImpl]
  | cons b0 t =>
    have hb0 : b0 < 256 := hb b0 (by simp)
    obtain ⟨h1, h2, h3, h4⟩ := withToc_fs rp hinv b0 hb0
    have hnb : (withToc rp b0).nbFrames = rp.nbFrames := by simp [Rp.nbFrames, (withToc_frames rp b0).1]
    rw [catImpl_eq]
    constructor
    · intro h
      split at h
      · simp at h
      · rename_i hc
        obtain ⟨r, hr, hd, _⟩ := catBody_ok _ _ _ h
        refine ⟨r, hr, ?_, ?_⟩
        · simp only [List.headD_cons]
          by_cases h0 : rp.nbFrames = 0
          · exact Or.inl h0
          · right; apply Decidable.byContradiction; intro hne; exact hc ⟨h0, hne⟩
        · simp only [List.headD_cons]
          rw [← h4, ← h2, ← hnb, Nat.add_comm]; exact hd
    · rintro ⟨r, hr, hcomp, hd⟩
      simp only [List.headD_cons] at hcomp hd
      rw [if_neg (by
        rintro ⟨a, b⟩
        rcases hcomp with h | h
        · exact a h
        · exact b h)]
      apply catBody_accept _ _ _ hb r hr _ h3
      rw [h2, h4, hnb, Nat.add_comm]; exact hd

theorem catImpl_ok_state (rp : Rp) (bs : Bytes) (sd : Bool) (h : (catImpl rp bs sd).2 = .ok ()) :
    ∃ r, parseImpl sd bs = .ok r ∧ (catImpl rp bs sd).1 = catNew (withToc rp (bs.headD 0)) bs r := by
  cases bs with
  | nil => simp [catImpl] at h
  | cons b0 t =>
    rw [catImpl_eq] at h ⊢
    split at h
    · simp at h
    · rename_i hc
      rw [if_neg hc]
      obtain ⟨r, hr, _, he⟩ := catBody_ok _ _ _ h
      exact ⟨r, hr, by rw [he]; rfl⟩

/-- A rejected `cat` leaves the observable contents untouched (a failed first `cat` may have
    overwritten `toc` / `framesize`, which the next `cat` overwrites again). -/
theorem catImpl_reject (rp : Rp) (bs : Bytes) (sd : Bool) (h : (catImpl rp bs sd).2 ≠ .ok ()) :
    (catImpl rp bs sd).1.frames = rp.frames ∧ (catImpl rp bs sd).1.pads = rp.pads ∧
    (rp.nbFrames ≠ 0 → (catImpl rp bs sd).1 = rp) := by
  cases bs with
  | nil => simp [catImpl]
  | cons b0 t =>
    rw [catImpl_eq] at h ⊢
    split
    · simp
    · rename_i hc
      rw [if_neg hc] at h
      rw [catBody_reject _ _ _ h]
      exact withToc_frames rp b0

theorem slices_length (bs : Bytes) (off : Nat) (ss : List Nat) : (slices bs off ss).length = ss.length := by
  induction ss generalizing off with
  | nil => rfl
  | cons s ss ih => simp [slices, ih]

theorem catImpl_inv (rp : Rp) (hinv : Inv rp) (bs : Bytes) (hb : BytesOk bs) (sd : Bool) :
    Inv (catImpl rp bs sd).1 := by
  by_cases h : (catImpl rp bs sd).2 = .ok ()
  · obtain ⟨r, hr, hst⟩ := catImpl_ok_state rp bs sd h
    obtain ⟨r', hr', _, hd⟩ := (catImpl_accepts_iff rp hinv bs hb sd).mp h
    rw [hr] at hr'; cases hr'
    obtain ⟨p, rest, hv, hbs, _, hview, hfr⟩ := parsed_frames sd bs hb r hr
    have hb0 : bs.headD 0 < 256 := by
      cases bs with
      | nil => simp
      | cons b0 t => exact hb b0 (by simp)
    obtain ⟨h1, h2, h3, h4⟩ := withToc_fs rp hinv (bs.headD 0) hb0
    obtain ⟨w1, w2, _⟩ := withToc_frames rp (bs.headD 0)
    have hcnt : r.count = p.frames.length := by rw [hview]; rfl
    have hc1 := (parse_count_bounds sd bs hb r hr).1
    rw [hst]
    refine ⟨fun _ => h1, fun _ => h2, ?_, ?_, ?_⟩
    · simp only [catNew, List.length_append, hfr, w1]
      rw [h2, h4, ← hcnt]; exact hd
    · simp only [catNew, hfr, w1]
      intro f hf
      rcases List.mem_append.mp hf with hf | hf
      · exact hinv.le f hf
      · exact hv.frame_max f hf
    · simp only [catNew, List.length_append, List.length_cons, List.length_replicate, hfr, w1, w2, hinv.pads_len]
      omega
  · obtain ⟨hf, hp, hs⟩ := catImpl_reject rp bs sd h
    by_cases h0 : rp.nbFrames = 0
    · have hnil : rp.frames = [] := by simpa [Rp.nbFrames] using h0
      refine ⟨by rw [hf, hnil]; simp, by rw [hf, hnil]; simp, by rw [hf, hnil]; simp, by rw [hf]; exact hinv.le, by rw [hf, hp]; exact hinv.pads_len⟩
    · rw [hs h0]; exact hinv

/-- A rejected `cat` returns `OPUS_INVALID_PACKET` (never reads outside the packet, never aborts). -/
theorem catImpl_err (rp : Rp) (hinv : Inv rp) (bs : Bytes) (hb : BytesOk bs) (sd : Bool)
    (h : (catImpl rp bs sd).2 ≠ .ok ()) : (catImpl rp bs sd).2 = .err .invalidPacket := by
  cases bs with
  | nil => rfl
  | cons b0 t =>
    have hb0 : b0 < 256 := hb b0 (by simp)
    rw [catImpl_eq] at h ⊢
    split
    · rfl
    · rename_i hc
      rw [if_neg hc] at h
      exact catBody_err _ _ _ hb (withToc_fs rp hinv b0 hb0).2.2.1 h

end Opus.RepackProofs

namespace Opus.RepackProofs
open Opus Opus.Framing Opus.FramingSpec Opus.FramingProofs Opus.Repack Opus.Ext

theorem selFrames_length (rp : Rp) (b e : Nat) (he : e ≤ rp.nbFrames) : (selFrames rp b e).length = e - b := by
  unfold Rp.nbFrames at he
  simp [selFrames]; omega

theorem selFrames_ne (rp : Rp) (b e : Nat) (hb : b < e) (he : e ≤ rp.nbFrames) : selFrames rp b e ≠ [] := by
  intro h
  have := selFrames_length rp b e he
  rw [h] at this; simp at this; omega

theorem selFrames_ok (rp : Rp) (hinv : Inv rp) (b e : Nat) (hb : b < e) (he : e ≤ rp.nbFrames) :
    FramesOk rp.toc (selFrames rp b e) ∧ (selFrames rp b e).length = e - b := by
  have hlen := selFrames_length rp b e he
  unfold Rp.nbFrames at he
  have hne : rp.frames ≠ [] := by intro h; simp [h] at he; omega
  have hsub : ∀ f ∈ selFrames rp b e, f ∈ rp.frames := fun f hf =>
    List.mem_of_mem_drop (List.mem_of_mem_take hf)
  refine ⟨⟨hinv.toc_lt hne, selFrames_ne rp b e hb he, fun f hf => hinv.le f (hsub f hf), ?_⟩, hlen⟩
  rw [hlen, ← hinv.fs hne]
  exact Nat.le_trans (Nat.mul_le_mul_right _ (by omega)) hinv.dur

/-- `out_range_impl` on a valid range: the gathering loops produce the caller's extensions followed by `gathered`. -/
theorem outRangeImpl_gather (rp : Rp) (hp : ∀ pn ∈ rp.pads, PadReads pn.1 pn.2) (b e : Nat) (hb : b < e)
    (he : e ≤ rp.nbFrames) (maxlen : Int) (sd pad : Bool) (exts : Array Ext) :
    outRangeImpl rp b e maxlen sd pad exts =
      emit rp.toc (selFrames rp b e) maxlen sd pad (exts ++ (gathered (rp.pads.take e) 0 b e).toArray) := by
  unfold outRangeImpl
  rw [if_neg (by omega)]
  simp only [Int.toNat_natCast]
  rw [gatherExts_spec _ (fun pn h => hp pn (List.mem_of_mem_take h))]

/-- Nothing gathered for this range (whatever lies in stored paddings outside it): `BUFFER_TOO_SMALL` exactly when
    the minimal size exceeds `maxlen`, otherwise the serialisation of `outPacket`. -/
theorem outRangeImpl_nogather (rp : Rp) (hp : ∀ pn ∈ rp.pads, PadReads pn.1 pn.2) (b e : Nat) (hb : b < e)
    (he : e ≤ rp.nbFrames) (hnil : gathered (rp.pads.take e) 0 b e = []) (maxlen : Int) (sd pad : Bool) :
    outRangeImpl rp b e maxlen sd pad #[] =
      if minSize sd ((selFrames rp b e).map List.length) > maxlen then .err .bufferTooSmall
      else .ok (serialize sd (outPacket rp.toc (selFrames rp b e) maxlen sd pad)) := by
  rw [outRangeImpl_gather rp hp b e hb he, hnil]
  exact emit_noext rp.toc _ (selFrames_ne rp b e hb he) maxlen sd pad

/-- … in particular when every stored padding has extension count 0. -/
theorem outRangeImpl_noext (rp : Rp) (b e : Nat) (hb : b < e) (he : e ≤ rp.nbFrames)
    (hfree : ExtFree rp.pads) (maxlen : Int) (sd pad : Bool) :
    outRangeImpl rp b e maxlen sd pad #[] =
      if minSize sd ((selFrames rp b e).map List.length) > maxlen then .err .bufferTooSmall
      else .ok (serialize sd (outPacket rp.toc (selFrames rp b e) maxlen sd pad)) :=
  outRangeImpl_nogather rp (fun pn h => .of_count (hfree pn h)) b e hb he
    (gathered_nil _ (fun pn h => padRefs_of_count_zero _ _ (hfree pn (List.mem_of_mem_take h))) 0 b e) maxlen sd pad

/-- A serialised valid packet parses back, with the parser of C06, to exactly its frames. -/
theorem parse_serialize_frames (sd : Bool) (p : Packet) (hv : Valid p) (rest : Bytes) (hrest : sd = false → rest = []) :
    parseImpl sd (serialize sd p ++ rest) = .ok (view sd p) ∧
    slices (serialize sd p ++ rest) (view sd p).payloadOffset (view sd p).sizes = p.frames :=
  ⟨parse_complete sd p hv rest hrest, slices_serialize sd p rest⟩

end Opus.RepackProofs
