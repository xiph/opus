import OpusProofs.RangeCoderBudget
/-
  OpusProofs.RangeCoderStream — C08, frame level: what may be done to the finished stream without changing the code
  value the decoder sees.

  * `encDone_contains_ext`: the interval property of `ec_enc_done` depends only on the bytes the range coder
    wrote (`n ≤ storage` of them): ANY stream that starts with them has its code value in the encoder's final
    interval, whatever follows (redundancy frame bytes behind the main part of an Opus frame, for instance).
    The bound `8 * n + ilog rng ≤ 8 * encM + 40`: after `encM` digits `ec_enc_done` outputs at most `33 - ilog rng` more
    bits, rounded up to bytes; with exact bit accounting this is `n ≤ (ec_tell+7)>>3`, so a buffer cut there keeps
    every byte the interval depends on.
  * A stream without raw bits may be cut behind `(ec_tell+7)>>3` bytes and stripped of trailing zeros, as
    `opus_encode_frame_native` does to a SILK-only buffer (`ret = (ec_tell+7)>>3; ec_enc_done(&enc)`, later
    `while(ret>2&&data[ret]==0)ret--`).  `NoRawOp`: the calls that leave the raw-bit end and the buffer size alone;
    `encDone_zero_tail`: without raw bits, `ec_enc_done` writes nothing but zeros from byte `(ec_tell+7)>>3` on (it
    needs at most that many bytes: "ec_tell is a conservative count"); `contains_trunc`: dropping trailing zero bytes
    does not change the code value the decoder sees (it reads zeros beyond the end of the buffer).
-/
namespace Opus.RangeCoder
open Opus

theorem encDone_contains_ext (c : Enc) (inv : EncInv c) (ri : RawInv c) (hb : BytesOk c.buf)
    (hn : c.nbitsTotal < 4294967296) (herr : (encDone c).error = 0) :
    ∃ n, n ≤ c.storage ∧ 8 * n + ilog c.rng ≤ 8 * encM c + 40 ∧
      ∀ (B' : List Nat) (S' : Nat), (∀ i, byteAt B' S' i < 256) →
      (∀ i, i < n → byteAt B' S' i = byteAt (encDone c).buf c.storage i) → Contains B' S' c := by
  rw [encDone_eq'] at herr ⊢
  have herr2 : (doneRange c).1.error = 0 := zero_of_sticky (doneRaw_error_mono _ _) herr
  obtain ⟨l0, T, hl1, hT, hil, hbits, e0, wf2, ho, sr, hdrop, hz, hcont⟩ := doneRange_spec c inv hn herr2
  rw [hl1] at herr ⊢
  have hb2 := doneRange_bytesOk c hb
  generalize (doneRange c).1 = c2 at *
  obtain ⟨s1, s2, s3, s4, s5, s6⟩ := sr
  obtain ⟨_, d1, d2, d3, ⟨δ, hδ, hcv⟩, d5⟩ := doneRaw_spec c2 T hT wf2.offs_le wf2.storage_le
    ⟨by rw [s3, s4]; exact ri.win_lt, by rw [s4]; exact ri.nend_le⟩ hb2 hz herr
  rw [s1] at hcv
  refine ⟨c2.offs, by have := wf2.offs_le; rw [s1] at this; omega, by omega, ?_⟩
  intro B' S' hby hag
  apply hcont B' S' hby δ hδ
  rw [← hcv]
  exact codeVal_congr _ hag

/-- Operations that neither touch the raw-bit end of the buffer nor its size: what SILK uses (`ec_enc_icdf`, the
    header patch) and the redundancy signalling of `opus_encode` (`ec_enc_bit_logp`, `ec_enc_uint(·, 256)`). -/
def NoRawOp : Op → Prop
  | .icdf _ _ _ => True
  | .patchInitial _ _ => True
  | .bitLogp _ _ => True
  | .uint _ ft => ft = 256
  | _ => False

theorem noRaw_op (c : Enc) (op : Op) (h : NoRawOp op) :
    (encOp c op).endOffs = c.endOffs ∧ (encOp c op).nendBits = c.nendBits ∧ (encOp c op).storage = c.storage := by
  have norm : ∀ x : Enc, (x.endOffs = c.endOffs ∧ x.nendBits = c.nendBits ∧ x.storage = c.storage) →
      (encNormalize x).endOffs = c.endOffs ∧ (encNormalize x).nendBits = c.nendBits ∧
        (encNormalize x).storage = c.storage := fun x hx =>
    encNormalize_pres (fun x => x.endOffs = c.endOffs ∧ x.nendBits = c.nendBits ∧ x.storage = c.storage)
      (fun x v hx => by simpa using hx)
      (fun _ _ h => h) (fun _ _ h => h) (fun _ _ _ _ h => h) x hx
  cases op with
  | icdf s tbl ftb => exact norm _ (by split <;> exact ⟨rfl, rfl, rfl⟩)
  | bitLogp v logp => exact norm _ (by split <;> exact ⟨rfl, rfl, rfl⟩)
  | uint v ft =>
    have hft : ft = 256 := h
    subst hft
    show (encUint c v 256).endOffs = _ ∧ (encUint c v 256).nendBits = _ ∧ (encUint c v 256).storage = _
    rw [encUint_256]
    exact norm _ (by split <;> exact ⟨rfl, rfl, rfl⟩)
  | patchInitial v n =>
    obtain ⟨_, _, _, _, _, e, _⟩ := encPatch_shape c v n
    show (encPatchInitialBits c v n).endOffs = _ ∧ (encPatchInitialBits c v n).nendBits = _ ∧
      (encPatchInitialBits c v n).storage = _
    rw [e]; exact ⟨rfl, rfl, rfl⟩
  | _ => exact absurd h (by simp [NoRawOp])

theorem noRaw_run (ops : List Op) : ∀ (c : Enc), (∀ op ∈ ops, NoRawOp op) →
    (encRun c ops).endOffs = c.endOffs ∧ (encRun c ops).nendBits = c.nendBits ∧ (encRun c ops).storage = c.storage := by
  induction ops with
  | nil => intro c _; exact ⟨rfl, rfl, rfl⟩
  | cons op ops ih =>
    intro c h
    have h1 := noRaw_op c op (h op (List.mem_cons_self ..))
    have h2 := ih (encOp c op) (fun o ho => h o (List.mem_cons_of_mem _ ho))
    exact ⟨h2.1.trans h1.1, h2.2.1.trans h1.2.1, h2.2.2.trans h1.2.2⟩

theorem encDoneFlush_zero (c : Enc) (w : Nat) : encDoneFlush c w 0 = (c, w, 0) := by
  rw [encDoneFlush, dif_neg (by decide)]

/-- Without raw bits, everything `ec_enc_done` leaves from byte `(ec_tell+7)>>3` on is zero. -/
theorem encDone_zero_tail (c : Enc) (inv : EncInv c) (ac : Acct c) (h0 : c.endOffs = 0) (h1 : c.nendBits = 0)
    (hn : c.nbitsTotal < 4294967296) (herr : (encDone c).error = 0) (i : Nat)
    (hi : tell c + 7 < 8 * (i + 1)) (his : i < c.storage) : (encDone c).buf.getD i 0 = 0 := by
  rw [encDone_eq'] at herr ⊢
  have herr2 : (doneRange c).1.error = 0 :=
      zero_of_sticky (doneRaw_error_mono _ _) herr
  obtain ⟨l0, T, hl1, hT, hil, hbits, e0, wf2, ho, sr, hdrop, hz, hcont⟩ := doneRange_spec c inv hn herr2
  obtain ⟨s1, s2, s3, s4, s5, s6⟩ := sr
  generalize (doneRange c).1 = c2 at *
  generalize (doneRange c).2 = l1 at *
  unfold doneRaw at herr ⊢
  rw [s4, h1, encDoneFlush_zero] at herr ⊢
  simp only at herr ⊢
  obtain ⟨-, -, ⟨-, hcm⟩ | ⟨hu, -⟩⟩ := encDoneTail_ok c2 l1 c2.endWindow 0 herr
  · rw [hcm, clearMiddle_getD c2 wf2.offs_le wf2.storage_le i, s2, h0, s1]
    have hoffs : c2.offs ≤ i := by
      unfold Acct rawN at ac
      unfold tell at hi
      rw [h0, h1] at ac
      omega
    rw [if_pos ⟨hoffs, by omega⟩]
  · exact absurd hu (by decide)

theorem byteAt_trunc (B : List Nat) (S L : Nat) (hL : L ≤ S) (hz : ∀ i, L ≤ i → i < S → B.getD i 0 = 0) (i : Nat) :
    byteAt (B.take L) L i = byteAt B S i := by
  unfold byteAt
  by_cases h1 : i < L
  · rw [if_pos h1, if_pos (by omega)]
    simp only [List.getD_eq_getElem?_getD, List.getElem?_take, h1, if_true]
  · rw [if_neg h1]
    by_cases h2 : i < S
    · rw [if_pos h2, hz i (by omega) h2]
    · rw [if_neg h2]

theorem contains_trunc (B : List Nat) (S L : Nat) (c : Enc) (hL : L ≤ S)
    (hz : ∀ i, L ≤ i → i < S → B.getD i 0 = 0) (h : Contains B S c) : Contains (B.take L) L c := by
  unfold Contains at h ⊢
  rw [codeVal_congr (B' := B) (S' := S) _ (fun i _ => byteAt_trunc B S L hL hz i)]
  exact h

end Opus.RangeCoder
