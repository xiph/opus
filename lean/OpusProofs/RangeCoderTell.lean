import OpusProofs.RangeCoderBasic
/-
  OpusProofs.RangeCoderTell — `ec_tell` / `ec_tell_frac` (C08): the table variant of the
  fractional bits equals the squaring variant; bounds and monotonicity in `rng`.

  Both variants are monotone in the mantissa `r ∈ [2^15, 2^16)` (the top 16 bits of `rng`), so each
  is constant between two mantissas on which it takes the same value.  `correction[k]` is the last
  mantissa on which the squaring variant returns `k`: the two variants agree everywhere because
  they agree at both ends of the eight classes that `correction` delimits.
-/
namespace Opus.RangeCoder

/-- Within one class of `r / 4096` the comparison with `correction` is monotone, and moving to a
    higher class gains at least the 1 that the comparison can contribute. -/
theorem fracTable_mono {a b : Nat} (h1 : 32768 ≤ a) (hab : a ≤ b) : fracTable a ≤ fracTable b := by
  unfold fracTable
  by_cases h : a / 4096 = b / 4096
  · simp only [h]; split <;> split <;> omega
  · simp only []; split <;> split <;> omega

theorem fracTable_le {r : Nat} (h1 : 32768 ≤ r) (h2 : r < 65536) : fracTable r ≤ 7 := by
  unfold fracTable
  by_cases h : r / 4096 - 8 = 7
  · -- `correction[7] = 65535` is never exceeded
    simp only [h, correction, List.getD_cons_succ, List.getD_cons_zero]
    rw [if_neg (by omega)]; exact Nat.le_refl 7
  · simp only []; split <;> omega

theorem fracSquareStep_eq {r : Nat} (h1 : 32768 ≤ r) (h2 : r < 65536) :
    fracSquareStep r =
      if r * r / 32768 < 65536 then (r * r / 32768, 0) else (r * r / 32768 / 2, 1) := by
  have lo : 32768 * 32768 ≤ r * r := Nat.mul_le_mul h1 h1
  have hi : r * r < 65536 * 65536 := Nat.mul_lt_mul'' h2 h2
  unfold fracSquareStep
  split
  · have e : r * r / 32768 / 65536 = 0 := by omega
    simp only [e, Nat.pow_zero, Nat.div_one]
  · have e : r * r / 32768 / 65536 = 1 := by omega
    simp only [e, Nat.pow_one]

/-- Squaring a mantissa and renormalising gives a mantissa again, and one more bit of the
    logarithm. -/
theorem fracSquareStep_range {r : Nat} (h1 : 32768 ≤ r) (h2 : r < 65536) :
    32768 ≤ (fracSquareStep r).1 ∧ (fracSquareStep r).1 < 65536 ∧ (fracSquareStep r).2 ≤ 1 := by
  have lo : 32768 * 32768 ≤ r * r := Nat.mul_le_mul h1 h1
  have hi : r * r < 65536 * 65536 := Nat.mul_lt_mul'' h2 h2
  rw [fracSquareStep_eq h1 h2]
  split <;> simp only [] <;> omega

/-- One step is monotone in the lexicographic order of (bit, new mantissa). -/
theorem fracSquareStep_mono {r s : Nat} (h1 : 32768 ≤ r) (hrs : r ≤ s) (h2 : s < 65536) :
    (fracSquareStep r).2 < (fracSquareStep s).2 ∨
    ((fracSquareStep r).2 = (fracSquareStep s).2 ∧ (fracSquareStep r).1 ≤ (fracSquareStep s).1) := by
  have le : r * r ≤ s * s := Nat.mul_le_mul hrs hrs
  rw [fracSquareStep_eq h1 (by omega), fracSquareStep_eq (by omega) h2]
  split <;> split <;> dsimp only <;> omega

theorem fracSquare_eq (r : Nat) : fracSquare r =
    (fracSquareStep r).2 * 4 + (fracSquareStep (fracSquareStep r).1).2 * 2 +
      (fracSquareStep (fracSquareStep (fracSquareStep r).1).1).2 := rfl

/-- The three bits, read as a number, are monotone because each step is monotone in the
    lexicographic order: the first bit that differs decides. -/
theorem fracSquare_mono {r s : Nat} (h1 : 32768 ≤ r) (hrs : r ≤ s) (h2 : s < 65536) :
    fracSquare r ≤ fracSquare s := by
  obtain ⟨ra, rb, rc⟩ := fracSquareStep_range h1 (Nat.lt_of_le_of_lt hrs h2)
  obtain ⟨sa, sb, sc⟩ := fracSquareStep_range (Nat.le_trans h1 hrs) h2
  obtain ⟨ra', rb', rc'⟩ := fracSquareStep_range ra rb
  obtain ⟨sa', sb', sc'⟩ := fracSquareStep_range sa sb
  have rc'' := (fracSquareStep_range ra' rb').2.2
  have sc'' := (fracSquareStep_range sa' sb').2.2
  rw [fracSquare_eq, fracSquare_eq]
  rcases fracSquareStep_mono h1 hrs h2 with m | ⟨e, m⟩
  · omega
  · rcases fracSquareStep_mono ra m sb with m' | ⟨e', m'⟩
    · omega
    · rcases fracSquareStep_mono ra' m' sb' with m'' | ⟨e'', _⟩ <;> omega

theorem fracTable_eq_fracSquare {r : Nat} (h1 : 32768 ≤ r) (h2 : r < 65536) : fracTable r = fracSquare r := by
  -- both variants take the value `k` at `lo` and at `hi`, hence on all of `[lo, hi]`
  have cls : ∀ lo hi k, 32768 ≤ lo → hi < 65536 → fracTable lo = k → fracTable hi = k →
      fracSquare lo = k → fracSquare hi = k → lo ≤ r → r ≤ hi → fracTable r = fracSquare r := by
    intro lo hi k hlo hhi t1 t2 s1 s2 l1 l2
    have a1 := fracTable_mono hlo l1
    have a2 := fracTable_mono h1 l2
    have b1 := fracSquare_mono hlo l1 h2
    have b2 := fracSquare_mono h1 l2 hhi
    omega
  rcases (show r ≤ 35733 ∨ (35734 ≤ r ∧ r ≤ 38967) ∨ (38968 ≤ r ∧ r ≤ 42495) ∨
      (42496 ≤ r ∧ r ≤ 46340) ∨ (46341 ≤ r ∧ r ≤ 50535) ∨ (50536 ≤ r ∧ r ≤ 55109) ∨
      (55110 ≤ r ∧ r ≤ 60097) ∨ 60098 ≤ r by omega) with h | h | h | h | h | h | h | h
  · exact cls 32768 35733 0 (by omega) (by omega) rfl rfl rfl rfl h1 h
  · exact cls 35734 38967 1 (by omega) (by omega) rfl rfl rfl rfl h.1 h.2
  · exact cls 38968 42495 2 (by omega) (by omega) rfl rfl rfl rfl h.1 h.2
  · exact cls 42496 46340 3 (by omega) (by omega) rfl rfl rfl rfl h.1 h.2
  · exact cls 46341 50535 4 (by omega) (by omega) rfl rfl rfl rfl h.1 h.2
  · exact cls 50536 55109 5 (by omega) (by omega) rfl rfl rfl rfl h.1 h.2
  · exact cls 55110 60097 6 (by omega) (by omega) rfl rfl rfl rfl h.1 h.2
  · exact cls 60098 65535 7 (by omega) (by omega) rfl rfl rfl rfl h (by omega)

/-- `l*8 + b`: the quantity subtracted from `nbits_total<<3` by `ec_tell_frac`. -/
def fbits (rng : Nat) : Nat := ilog rng * 8 + fracTable (rng / 2 ^ (ilog rng - 16))

theorem tellFrac_eq (c : Ctx) : tellFrac c = sub32 (u32 (c.nbitsTotal * 8)) (fbits c.rng) := rfl

/-- The top 16 bits `r = rng >> (l-16)` lie in `[2^15, 2^16)`. -/
theorem top16_bounds {rng : Nat} (h : 32768 ≤ rng) :
    32768 ≤ rng / 2 ^ (ilog rng - 16) ∧ rng / 2 ^ (ilog rng - 16) < 65536 := by
  have hv : rng ≠ 0 := by omega
  obtain ⟨b1, b2⟩ := ilog_bounds hv
  have hl : 16 ≤ ilog rng := by
    have : ¬ ilog rng ≤ 15 := by rw [ilog_lt_iff]; omega
    omega
  have hp : 0 < 2 ^ (ilog rng - 16) := Nat.pow_pos (by decide)
  constructor
  · rw [Nat.le_div_iff_mul_le hp]
    have : 32768 * 2 ^ (ilog rng - 16) = 2 ^ (ilog rng - 1) := by
      have : ilog rng - 1 = 15 + (ilog rng - 16) := by omega
      rw [this, Nat.pow_add]
    omega
  · rw [Nat.div_lt_iff_lt_mul hp]
    have : 65536 * 2 ^ (ilog rng - 16) = 2 ^ (ilog rng) := by
      have : ilog rng = 16 + (ilog rng - 16) := by omega
      rw (config := {occs := .pos [2]}) [this]
      rw [Nat.pow_add]
    omega

theorem fbits_bounds {rng : Nat} (h : 32768 ≤ rng) :
    ilog rng * 8 ≤ fbits rng ∧ fbits rng ≤ ilog rng * 8 + 7 := by
  obtain ⟨a, b⟩ := top16_bounds h
  have := fracTable_le a b
  unfold fbits; omega

theorem fbits_mono {a b : Nat} (h : 32768 ≤ a) (hab : a ≤ b) : fbits a ≤ fbits b := by
  have hl := ilog_mono hab
  by_cases e : ilog a = ilog b
  · unfold fbits
    rw [e]
    have := fracTable_mono (a := a / 2 ^ (ilog b - 16)) (b := b / 2 ^ (ilog b - 16))
      (by rw [← e]; exact (top16_bounds h).1) (Nat.div_le_div_right hab)
    omega
  · have := (fbits_bounds h).2
    have := (fbits_bounds (rng := b) (by omega)).1
    omega

end Opus.RangeCoder
