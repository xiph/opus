import OpusModel.SilkPipe
import OpusProofs.SilkCoreHist
import OpusProofs.SilkResampLen
/-
  OpusProofs.SilkPipe — the SILK-only pipeline (property C03, slice SilkPipe): it is literally the composition of its parts; the
  combined invariant `PipeInv` makes synthesis → buffering → resampling total for one `silk_Decode` call and for any list of them,
  with the sample count at the API rate (one Opus frame: `OpusProps.C03SilkPipe.opus_frame_total`); a fresh decoder satisfies the invariant for every pair of rates.
-/
namespace Opus.SilkPipeProofs
open Opus Opus.SilkCore Opus.SilkPipe Opus.SilkCoreProofs

/-- `silkOnlyDecode` unfolded: parse ∘ symbols (`SilkSyms.decodePacket`, which calls `Framing.parseImpl` and the range decoder),
    then per Opus frame the frames of the event list through `silkFrames`. -/
theorem silkOnlyDecode_eq (apiHz : Nat) (S : PipeSt) (pkt : Bytes) :
    silkOnlyDecode apiHz S pkt =
      if !silkOnlyMono pkt then .err .unimplemented
      else match SilkSyms.decodePacket apiHz false false S.syms pkt with
        | .ok (some frs) => opusFrames S frs
        | .ok none => .err .unimplemented
        | .err e => .err e
        | .oob => .oob
        | .abort => .abort := rfl

/-- `decodePacket` is parse-then-symbols. -/
theorem decodePacket_eq (fs : Nat) (st : SilkSyms.SilkSt) (pkt : Bytes) :
    SilkSyms.decodePacket fs false false st pkt =
      if SilkSyms.packetPre fs false pkt then
        match Framing.parseImpl false pkt with
        | .ok p => SilkSyms.someRes (SilkSyms.framesLoop p.toc pkt false (SilkSyms.frameSpans p.payloadOffset p.sizes) st)
        | .err e => .err e
        | .oob => .oob
        | .abort => .abort
      else .err .invalidPacket := by
  unfold SilkSyms.decodePacket SilkSyms.decodeFrames
  split
  · cases Framing.parseImpl false pkt <;> simp
  · rfl

/-- One `silk_Decode` call is synthesis, then buffering, then resampling. -/
theorem silkFrameStep_eq (nb : Nat) (S : PipeSt) (fr : Nat × SilkSyms.Indices × List Int) :
    silkFrameStep nb S fr =
      (frameGood { S.dec with nbSubfr := nb } (frameIn fr.1 fr.2.1 fr.2.2)).bind fun o =>
        (SilkResamp.resampler S.rs (monoBuffer S.sMid o.core.xq).2).bind fun r =>
          .ok ({ S with dec := o.st, sMid := (monoBuffer S.sMid o.core.xq).1, rs := r.1 }, r.2) := rfl

/-- Combined invariant of the pipeline state (without the symbol-layer part, which has no invariant of its own: every field
    of `SilkSt` is overwritten by the header of the next packet before it is read, `OpusProps.C03.silkSyms_symbols_history_free`). -/
structure PipeInv (S : PipeSt) : Prop where
  dec : StateOk S.dec
  rs : OpusProofs.SilkResamp.Inv S.rs
  rate : S.rs.cfg.fsIn = S.dec.fsKHz
  midLen : S.sMid.length = 2
  mid16 : ∀ x ∈ S.sMid, I16 x

theorem stateOk_setNb (s : DecState) (nb : Nat) (h : StateOk s) (hnb : nb = 2 ∨ nb = 4) : StateOk { s with nbSubfr := nb } :=
  { cfg := ⟨h.cfg.1, hnb⟩, slpc := h.slpc, outLen := h.outLen, outI16 := h.outI16, excLen := h.excLen, nlsfLen := h.nlsfLen,
    nlsfRange := h.nlsfRange, lgi := h.lgi, lag := h.lag }

theorem monoBuffer_spec (sMid xq : List Int) (hm : sMid.length = 2) (hm16 : ∀ x ∈ sMid, I16 x) (hx : ∀ x ∈ xq, I16 x) :
    (monoBuffer sMid xq).1.length = 2 ∧ (∀ x ∈ (monoBuffer sMid xq).1, I16 x) ∧
    (monoBuffer sMid xq).2.length = xq.length ∧ ∀ x ∈ (monoBuffer sMid xq).2, I16 x := by
  have hall : ∀ x ∈ sMid ++ xq, I16 x := List.forall_mem_append.2 ⟨hm16, hx⟩
  unfold monoBuffer
  refine ⟨?_, ?_, ?_, ?_⟩
  · simp only [List.length_take, List.length_drop, List.length_append, hm]; omega
  · intro x h; exact hall x (List.mem_of_mem_drop (List.mem_of_mem_take h))
  · simp only [List.length_take, List.length_drop, List.length_append, hm]; omega
  · intro x h; exact hall x (List.mem_of_mem_drop (List.mem_of_mem_take h))

/-- One `silk_Decode` call of the pipeline (symbols given): total, `outLen` samples, all int16, invariant preserved. -/
theorem silkFrameStep_total (nb : Nat) (S : PipeSt) (fr : Nat × SilkSyms.Indices × List Int) (hI : PipeInv S)
    (hnb : nb = 2 ∨ nb = 4) (hf : FrameOk S.dec.fsKHz nb (frameIn fr.1 fr.2.1 fr.2.2)) :
    ∃ S' pcm, silkFrameStep nb S fr = .ok (S', pcm) ∧ PipeInv S' ∧ S'.dec.fsKHz = S.dec.fsKHz ∧ S'.rs.cfg = S.rs.cfg ∧
      S'.syms = S.syms ∧
      pcm.length = OpusProofs.SilkResamp.outLen S.rs.cfg (frameLen S.dec.fsKHz nb) ∧ ∀ x ∈ pcm, -32768 ≤ x ∧ x ≤ 32767 := by
  obtain ⟨o, ho, hso, e1, e2, xl, xi⟩ := frameGood_total { S.dec with nbSubfr := nb } (frameIn fr.1 fr.2.1 fr.2.2)
    (stateOk_setNb S.dec nb hI.dec hnb) hf
  have xl' : o.core.xq.length = frameLen S.dec.fsKHz nb := xl
  obtain ⟨b1, b2, b3, b4⟩ := monoBuffer_spec S.sMid o.core.xq hI.midLen hI.mid16 xi
  have hfs : S.dec.fsKHz ≤ frameLen S.dec.fsKHz nb := by
    have := (cfg_nums (show CfgOk S.dec.fsKHz nb from ⟨hI.dec.cfg.1, hnb⟩)).2.2.1
    rw [this]
    rcases hnb with h | h <;> subst h <;> omega
  obtain ⟨R, out, hr, hRi, hRc, hol, ho16⟩ := OpusProofs.SilkResamp.resampler_ok S.rs (monoBuffer S.sMid o.core.xq).2 hI.rs
    (by rw [b3, xl', hI.rate]; exact hfs) (fun v hv => b4 v hv)
  rw [silkFrameStep_eq, ho]
  simp only [Res.bind, hr]
  have e1' : o.st.fsKHz = S.dec.fsKHz := e1
  refine ⟨_, _, rfl, ?_, e1', hRc, rfl, by rw [hol, b3, xl'], fun x hx => ho16 x hx⟩
  exact { dec := hso, rs := hRi, rate := by show R.cfg.fsIn = o.st.fsKHz; rw [hRc, e1', hI.rate], midLen := b1, mid16 := b2 }

/-- Any number of `silk_Decode` calls (the frames of one Opus frame): total, the sample counts add up, all int16, invariant preserved. -/
theorem silkFrames_total (nb : Nat) (hnb : nb = 2 ∨ nb = 4) : ∀ (frs : List (Nat × SilkSyms.Indices × List Int)) (S : PipeSt),
    PipeInv S → (∀ fr ∈ frs, FrameOk S.dec.fsKHz nb (frameIn fr.1 fr.2.1 fr.2.2)) →
    ∃ S' pcm, silkFrames nb S frs = .ok (S', pcm) ∧ PipeInv S' ∧ S'.dec.fsKHz = S.dec.fsKHz ∧ S'.rs.cfg = S.rs.cfg ∧
      pcm.length = frs.length * OpusProofs.SilkResamp.outLen S.rs.cfg (frameLen S.dec.fsKHz nb) ∧
      ∀ x ∈ pcm, -32768 ≤ x ∧ x ≤ 32767 := by
  intro frs
  induction frs with
  | nil => intro S hI _; exact ⟨S, [], rfl, hI, rfl, rfl, by simp, by simp⟩
  | cons fr rest ih =>
    intro S hI hf
    obtain ⟨S1, p1, h1, I1, f1, c1, _, l1, x1⟩ := silkFrameStep_total nb S fr hI hnb (hf fr List.mem_cons_self)
    obtain ⟨S2, p2, h2, I2, f2, c2, l2, x2⟩ := ih S1 I1 (by intro g hg; rw [f1]; exact hf g (List.mem_cons_of_mem _ hg))
    refine ⟨S2, p1 ++ p2, ?_, I2, by rw [f2, f1], by rw [c2, c1], ?_, List.forall_mem_append.2 ⟨x1, x2⟩⟩
    · simp only [silkFrames, h1, h2, Res.bind_ok, Res.pure_eq]
    · rw [List.length_append, l1, l2, c1, f1, List.length_cons, Nat.add_mul, Nat.one_mul, Nat.add_comm]

/-- One frame of `nb` sub-frames at the state's rates: `5 * nb` ms in, `5 * nb` ms out. -/
theorem outLen_frame (S : PipeSt) (hI : PipeInv S) {nb : Nat} (hnb : nb = 2 ∨ nb = 4) :
    OpusProofs.SilkResamp.outLen S.rs.cfg (frameLen S.dec.fsKHz nb) = (5 * nb) * S.rs.cfg.fsOut := by
  have hfl : frameLen S.dec.fsKHz nb = (5 * nb) * S.rs.cfg.fsIn := by
    rw [(cfg_nums (show CfgOk S.dec.fsKHz nb from ⟨hI.dec.cfg.1, hnb⟩)).2.2.1, hI.rate]
    rw [Nat.mul_comm 5 nb, Nat.mul_assoc]
  rw [hfl, OpusProofs.SilkResamp.outLen_ms S.rs.cfg hI.rs.cfg (5 * nb) (by omega)]

/-- An Opus frame of the class: SILK, mono, normally decoded, no redundancy, the state's internal rate, a legal duration, and
    every normally decoded (indices, pulses) pair of its event list satisfies `FrameOk`. -/
structure OpusFrameOk (S : PipeSt) (o : SilkSyms.FrameOut) (nb : Nat) : Prop where
  red : o.redundancy = 0
  mono : o.nCh = 1
  normal : o.lostFlag = 0
  rate : o.internalRate = S.dec.fsKHz * 1000
  shape : ∃ nfpp, SilkSyms.packetShape o.payloadMs = .ok (nfpp, nb)
  nbOk : nb = 2 ∨ nb = 4
  frames : ∀ fr ∈ framesOfEvs o.evs, FrameOk S.dec.fsKHz nb (frameIn fr.1 fr.2.1 fr.2.2)

section fresh
open OpusProofs.SilkResamp

theorem initDec_ok (fs : Nat) (h : fs = 8 ∨ fs = 12 ∨ fs = 16) : StateOk (initDec fs 4) :=
  { cfg := ⟨h, Or.inr rfl⟩,
    slpc := by simp [initDec, Frozen.SilkCoreTabs.szSLpcQ14Buf],
    outLen := by show (List.replicate Frozen.SilkCoreTabs.szOutBuf (0 : Int)).length = 480; rw [List.length_replicate]; rfl,
    outI16 := List.forall_mem_replicate.2 (Or.inr (by unfold SilkCoreProofs.I16; omega))
    excLen := by show (List.replicate Frozen.SilkCoreTabs.szExcQ14 (0 : Int)).length = 320; rw [List.length_replicate]; rfl,
    nlsfLen := by simp [initDec, Frozen.SilkCoreTabs.szPrevNlsf],
    nlsfRange := by
      intro e he
      have : e = 0 := List.eq_of_mem_replicate (List.mem_of_mem_take (by simpa [initDec] using he))
      subst this; omega
    lgi := by simp [initDec, Frozen.SilkCoreTabs.setFsLastGainIndex],
    lag := fun hl => absurd rfl hl }

/-- The 15 decoder configurations: internal rate (kHz) × API rate (Hz). -/
def pipeConfigs : List (Nat × Nat) :=
  [(8, 8000), (8, 12000), (8, 16000), (8, 24000), (8, 48000), (12, 8000), (12, 12000), (12, 16000), (12, 24000), (12, 48000),
   (16, 8000), (16, 12000), (16, 16000), (16, 24000), (16, 48000)]

theorem pipeConfigs_rate : pipeConfigs.all (fun p =>
    accepted ((p.1 : Int) * 1000) (p.2 : Int) false &&
    (match Opus.SilkResamp.init ((p.1 : Int) * 1000) (p.2 : Int) false with
     | .ok R => R.cfg.fsIn == p.1 && R.cfg.fsOut * 1000 == p.2
     | _ => false)) = true := by decide +kernel

/-- A fresh decoder (state after `opus_decoder_create` and the first `silk_decoder_set_fs`) satisfies the pipeline invariant. -/
theorem initPipe_inv (fs api : Nat) (h : (fs, api) ∈ pipeConfigs) :
    ∃ S, initPipe fs api = .ok S ∧ PipeInv S ∧ S.dec.fsKHz = fs ∧ S.rs.cfg.fsOut * 1000 = api := by
  have hr := List.all_eq_true.mp pipeConfigs_rate (fs, api) h
  simp only [Bool.and_eq_true] at hr
  obtain ⟨hacc, hm⟩ := hr
  obtain ⟨c, hc, hi⟩ := init_accepted ((fs : Int) * 1000) (api : Int) false hacc
  rw [hi] at hm
  simp only [Bool.and_eq_true, beq_iff_eq] at hm
  have hfs : fs = 8 ∨ fs = 12 ∨ fs = 16 := by
    simp only [pipeConfigs, List.mem_cons, Prod.mk.injEq, List.mem_nil_iff, or_false] at h
    omega
  unfold initPipe
  simp only [hi, Res.bind_ok, Res.pure_eq]
  refine ⟨_, rfl, ?_, rfl, hm.2⟩
  exact { dec := initDec_ok fs hfs, rs := fresh_inv hc, rate := hm.1, midLen := rfl,
          mid16 := (List.forall_mem_replicate (n := 2)).2 (Or.inr (by unfold SilkCoreProofs.I16; omega)) }

end fresh

end Opus.SilkPipeProofs
