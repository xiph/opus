import OpusModel.Ext
/-
  The two layers of the generator model.  The writer monad `W` (buffer actions emitted so far, and the value or early return):
  what `>>=` does by outcome of its first argument, the monad laws, and `W.as`.  The buffer actions (`Op`) and their interpreter
  `runOps`: whether a run succeeds depends only on the `need` checks; its size is independent of `dry`.
-/
namespace Opus.ExtProofs
open Opus Opus.Ext

theorem W.bind_eq {α β : Type} (x : W α) (f : α → W β) : (x >>= f) = W.bind x f := rfl
theorem W.pure_eq {α : Type} (a : α) : (pure a : W α) = { ops := [], res := .ok a } := rfl

theorem W.lift_ok_bind {α β : Type} (a : α) (f : α → W β) : (W.lift (.ok a) >>= f) = f a := by
  simp only [W.bind_eq, W.bind, W.lift, List.nil_append]

theorem W.bind_of_ok {α β : Type} {x : W α} {a : α} (f : α → W β) (h : x.res = .ok a) :
    (x >>= f) = { ops := x.ops ++ (f a).ops, res := (f a).res } := by
  simp only [W.bind_eq, W.bind, h]

theorem W.bind_of_err {α β : Type} {x : W α} {e : Err} (f : α → W β) (h : x.res = .err e) : (x >>= f).res = .err e := by
  simp only [W.bind_eq, W.bind, h]

/-- `x` with the value of a successful run replaced by `b` (declared in the namespace of `W`, so that `x.as b` can be
    written). -/
def _root_.Opus.Ext.W.as {α β : Type} (x : W α) (b : β) : W β :=
  { ops := x.ops, res := match x.res with | .ok _ => .ok b | .err e => .err e | .oob => .oob | .abort => .abort }

theorem W.pure_as {α β : Type} (a : α) (b : β) : (pure a : W α).as b = pure b := rfl

theorem W.bind_as {α β γ : Type} (x : W α) (f : α → W β) (c : γ) : (x >>= f).as c = x >>= fun a => (f a).as c := by
  simp only [W.bind_eq, W.bind, W.as]; cases x.res <;> rfl

theorem W.as_bind {α β γ : Type} (x : W α) (b : β) (f : β → W γ) : (x.as b >>= f) = x >>= fun _ => f b := by
  simp only [W.bind_eq, W.bind, W.as]; cases x.res <;> rfl

theorem W.bind_pure {α β : Type} (x : W α) (b : β) : (x >>= fun _ => (pure b : W β)) = x.as b := by
  simp only [W.bind_eq, W.bind, W.as, W.pure_eq]; cases x.res <;> simp

theorem W.bind_assoc {α β γ : Type} (x : W α) (f : α → W β) (g : β → W γ) : ((x >>= f) >>= g) = x >>= fun a => f a >>= g := by
  simp only [W.bind_eq, W.bind]
  cases x.res with
  | ok a => simp only; cases (f a).res <;> simp
  | _ => rfl

theorem W.pure_bind {α β : Type} (a : α) (f : α → W β) : ((pure a : W α) >>= f) = f a := by
  simp only [W.bind_eq, W.bind, W.pure_eq, List.nil_append]

theorem W.as_unit (x : W Unit) : x.as () = x := by
  obtain ⟨ops, res⟩ := x
  cases res <;> rfl

def opSize : Op → Nat
  | .need _ => 0
  | .put _ => 1
  | .copy _ n => n

/-- Number of bytes a sequence of actions writes. -/
def opsSize : List Op → Nat
  | [] => 0
  | o :: l => opSize o + opsSize l

@[simp] theorem opsSize_nil : opsSize [] = 0 := rfl
@[simp] theorem opsSize_cons (o : Op) (l : List Op) : opsSize (o :: l) = opSize o + opsSize l := rfl
@[simp] theorem opsSize_append (a b : List Op) : opsSize (a ++ b) = opsSize a + opsSize b := by
  induction a with
  | nil => simp
  | cons o a ih => simp [ih]; omega

/-- Number of bytes that must be available at the start for every check to pass and every write to fit. -/
def req : List Op → Int
  | [] => 0
  | .need k :: l => max k (req l)
  | .put _ :: l => 1 + req l
  | .copy _ n :: l => n + req l

theorem req_ge_size (l : List Op) : (opsSize l : Int) ≤ req l := by
  induction l with
  | nil => simp [req]
  | cons o l ih => cases o <;> simp [req, opSize] <;> omega

theorem req_append (a b : List Op) : req (a ++ b) = max (req a) (opsSize a + req b) := by
  induction a with
  | nil => simp [req]; have := req_ge_size b; omega
  | cons o a ih => cases o <;> simp [req, opSize, ih] <;> omega

/-- Every write is covered by an earlier check: `c` = number of bytes known to be available. -/
def guarded : Int → List Op → Prop
  | _, [] => True
  | c, .need k :: l => guarded (max c k) l
  | c, .put _ :: l => 1 ≤ c ∧ guarded (c - 1) l
  | c, .copy _ n :: l => (n : Int) ≤ c ∧ guarded (c - n) l

/-- Bytes still known to be available after the actions. -/
def cover : Int → List Op → Int
  | c, [] => c
  | c, .need k :: l => cover (max c k) l
  | c, .put _ :: l => cover (c - 1) l
  | c, .copy _ n :: l => cover (c - n) l

theorem guarded_mono (l : List Op) : ∀ c c' : Int, c ≤ c' → guarded c l → guarded c' l ∧ cover c l ≤ cover c' l := by
  induction l with
  | nil => intro c c' h _; exact ⟨trivial, h⟩
  | cons o l ih =>
    intro c c' h hg
    cases o with
    | need k => exact ih _ _ (by omega) hg
    | put b => obtain ⟨h1, h2⟩ := hg; have := ih (c - 1) (c' - 1) (by omega) h2; exact ⟨⟨by omega, this.1⟩, this.2⟩
    | copy s n => obtain ⟨h1, h2⟩ := hg; have := ih (c - n) (c' - n) (by omega) h2; exact ⟨⟨by omega, this.1⟩, this.2⟩

theorem cover_nonneg (l : List Op) : ∀ c : Int, 0 ≤ c → guarded c l → 0 ≤ cover c l := by
  induction l with
  | nil => intro c h _; exact h
  | cons o l ih =>
    intro c h hg
    cases o with
    | need k => exact ih _ (by omega) hg
    | put b => exact ih _ (by have := hg.1; omega) hg.2
    | copy s n => exact ih _ (by have := hg.1; omega) hg.2

theorem guarded_append (a b : List Op) : ∀ c : Int, guarded c (a ++ b) ↔ guarded c a ∧ guarded (cover c a) b := by
  induction a with
  | nil => intro c; simp [guarded, cover]
  | cons o a ih =>
    intro c
    cases o <;> simp [guarded, cover, ih, and_assoc]

/-- Writes only (no check among the actions) ask for exactly what they write, and are covered as soon as that many bytes are
    known to be available. -/
theorem writes_facts (l : List Op) (hl : ∀ k, Op.need k ∉ l) :
    req l = opsSize l ∧ ∀ c : Int, (opsSize l : Int) ≤ c → guarded c l := by
  induction l with
  | nil => exact ⟨rfl, fun _ _ => trivial⟩
  | cons o l ih =>
    obtain ⟨h1, h2⟩ := ih (fun k hk => hl k (List.mem_cons_of_mem _ hk))
    cases o with
    | need k => exact absurd (List.mem_cons_self ..) (hl k)
    | put b =>
      simp only [req, guarded, opsSize_cons, opSize, h1]
      exact ⟨by omega, fun c hc => ⟨by omega, h2 _ (by omega)⟩⟩
    | copy s n =>
      simp only [req, guarded, opsSize_cons, opSize, h1]
      exact ⟨by omega, fun c hc => ⟨by omega, h2 _ (by omega)⟩⟩

theorem opsSize_puts (k b : Nat) : opsSize (List.replicate k (Op.put b)) = k := by
  induction k with
  | zero => rfl
  | succ k ih => rw [List.replicate_succ, opsSize_cons, ih, opSize]; omega

/-- All checks pass when the actions run at position `p` of a buffer of `len` bytes. -/
def needsPass (len : Int) : Nat → List Op → Prop
  | _, [] => True
  | p, .need k :: l => ¬ (len - p < k) ∧ needsPass len p l
  | p, .put _ :: l => needsPass len (p + 1) l
  | p, .copy _ n :: l => needsPass len (p + n) l

/-- Classical, so that `runOps_eq` and `generate_eq` can be written with `if needsPass …`; nothing is computed with it. -/
noncomputable instance (len : Int) (p : Nat) (l : List Op) : Decidable (needsPass len p l) :=
  Classical.propDecidable _

/-- The bytes the actions write (`dry`: zeros stand in). -/
def content (dry : Bool) : List Op → List Nat
  | [] => []
  | .need _ :: l => content dry l
  | .put b :: l => (if dry then 0 else b) :: content dry l
  | .copy src n :: l => (if dry then List.replicate n 0 else src.take n) ++ content dry l

theorem content_append (dry : Bool) (a b : List Op) : content dry (a ++ b) = content dry a ++ content dry b := by
  induction a with
  | nil => rfl
  | cons o a ih => cases o <;> simp [content, ih]

/-- Every payload copy finds its bytes at the caller's `ext->data`. -/
def CopyOk (l : List Op) : Prop := ∀ src n, Op.copy src n ∈ l → n ≤ src.length

theorem CopyOk.tail {o : Op} {l : List Op} (h : CopyOk (o :: l)) : CopyOk l :=
  fun s n hm => h s n (List.mem_cons_of_mem _ hm)

theorem CopyOk_append {a b : List Op} : CopyOk (a ++ b) ↔ CopyOk a ∧ CopyOk b := by
  unfold CopyOk
  constructor
  · intro h; exact ⟨fun s n hm => h s n (List.mem_append_left _ hm), fun s n hm => h s n (List.mem_append_right _ hm)⟩
  · intro ⟨h1, h2⟩ s n hm
    rcases List.mem_append.mp hm with hm | hm
    · exact h1 s n hm
    · exact h2 s n hm

theorem content_length (dry : Bool) (l : List Op) (h : dry = true ∨ CopyOk l) :
    (content dry l).length = opsSize l := by
  induction l with
  | nil => rfl
  | cons o l ih =>
    have ih' := ih (h.imp id CopyOk.tail)
    cases o with
    | need k => simp [content, opSize, ih']
    | put b => simp [content, opSize, ih']; omega
    | copy s n =>
      simp only [content, List.length_append, ih', opsSize_cons, opSize]
      rcases h with h | h
      · simp [h]
      · have := h s n (List.mem_cons_self ..)
        cases dry <;> simp <;> omega

/-- The interpreter, in closed form. -/
theorem runOps_eq (dry : Bool) (len : Int) (l : List Op) : ∀ out : Array Nat, (dry = true ∨ CopyOk l) →
    runOps dry len l out =
      if needsPass len out.size l then .ok (out ++ (content dry l).toArray) else .err .bufferTooSmall := by
  induction l with
  | nil => intro out _; simp [runOps, needsPass, content]
  | cons o l ih =>
    intro out h
    have ih' := fun o' => ih o' (h.imp id CopyOk.tail)
    cases o with
    | need k =>
      simp only [runOps, runOp, needsPass, content]
      by_cases hk : len - out.size < k
      · simp [hk]
      · simp only [hk, if_false, not_false_eq_true, true_and]; exact ih' out
    | put b =>
      simp only [runOps, runOp, needsPass, content]
      rw [ih' _]
      simp only [Array.size_push]
      congr 2
      apply Array.ext'; simp
    | copy s n =>
      simp only [runOps, runOp, needsPass, content]
      cases dry with
      | true =>
        simp only [if_true]
        rw [ih' _]
        simp only [Array.size_append, Array.size_replicate]
        congr 2
        apply Array.ext'; simp
      | false =>
        have hc : CopyOk (Op.copy s n :: l) := by rcases h with h | h; exact absurd h (by simp); exact h
        have hn := hc s n (List.mem_cons_self ..)
        have : ¬ (s.length < n) := by omega
        simp only [Bool.false_eq_true, if_false, this]
        rw [ih' _]
        have e1 : (out ++ (List.take n s).toArray).size = out.size + n := by
          simp only [Array.size_append, List.size_toArray, List.length_take]; omega
        rw [e1]
        congr 2
        apply Array.ext'; simp

theorem needsPass_of_req (len : Int) (l : List Op) : ∀ p : Nat, req l ≤ len - p → needsPass len p l := by
  induction l with
  | nil => intro _ _; trivial
  | cons o l ih =>
    intro p h
    cases o with
    | need k => simp only [req] at h; exact ⟨by omega, ih p (by omega)⟩
    | put b => simp only [req] at h; exact ih (p + 1) (by push_cast; omega)
    | copy s n => simp only [req] at h; exact ih (p + n) (by push_cast; omega)

/-- The buffer at the moment the run stops (successfully or not): the "write log". -/
def runOpsLog (dry : Bool) (len : Int) : List Op → Array Nat → Array Nat
  | [], out => out
  | op :: ops, out =>
    match runOp dry len out op with
    | .ok out' => runOpsLog dry len ops out'
    | _ => out

theorem runOpsLog_ok (dry : Bool) (len : Int) (l : List Op) : ∀ out out', runOps dry len l out = .ok out' →
    runOpsLog dry len l out = out' := by
  induction l with
  | nil => intro out out' h; simp [runOps] at h; simp [runOpsLog, h]
  | cons o l ih =>
    intro out out' h
    simp only [runOps] at h
    simp only [runOpsLog]
    split at h
    · rename_i o1 heq; rw [heq]; exact ih _ _ h
    all_goals simp at h

/-- Guarded actions never write at an index `≥ len`, whether or not the run succeeds. -/
theorem runOpsLog_within (dry : Bool) (len : Int) (l : List Op) : ∀ (out : Array Nat) (c : Int), 0 ≤ c →
    c ≤ len - out.size → guarded c l → ((runOpsLog dry len l out).size : Int) ≤ len := by
  induction l with
  | nil => intro out c h0 h1 _; simp only [runOpsLog]; omega
  | cons o l ih =>
    intro out c h0 h1 hg
    cases o with
    | need k =>
      simp only [runOpsLog, runOp]
      by_cases hk : len - out.size < k
      · simp only [hk, if_true]; omega
      · simp only [hk, if_false]; exact ih out (max c k) (by omega) (by omega) hg
    | put b =>
      simp only [runOpsLog, runOp]
      exact ih _ (c - 1) (by have := hg.1; omega) (by simp only [Array.size_push]; push_cast; omega) hg.2
    | copy s n =>
      simp only [runOpsLog, runOp]
      cases dry with
      | true =>
        simp only [if_true]
        exact ih _ (c - n) (by have := hg.1; omega)
          (by simp only [Array.size_append, Array.size_replicate]; push_cast; omega) hg.2
      | false =>
        simp only [Bool.false_eq_true, if_false]
        by_cases hs : s.length < n
        · simp only [hs, if_true]; omega
        · simp only [hs, if_false]
          exact ih _ (c - n) (by have := hg.1; omega)
            (by simp only [Array.size_append, List.size_toArray, List.length_take]
                have : min n s.length = n := by omega
                rw [this]; push_cast; omega) hg.2

/-- Guarded actions that would write beyond `len` fail one of their checks: a run that passes them all writes `opsSize l` bytes
    and stays inside the buffer. -/
theorem not_needsPass (len : Int) (l : List Op) (p : Nat) (c : Int) (h0 : 0 ≤ c) (h1 : c ≤ len - p) (hg : guarded c l)
    (h2 : len - p < opsSize l) : ¬ needsPass len p l := by
  intro hp
  have hw := runOpsLog_within true len l (Array.replicate p 0) c h0 (by simpa using h1) hg
  rw [runOpsLog_ok _ _ _ _ _ ((runOps_eq true len l _ (.inl rfl)).trans (if_pos (by simpa using hp)))] at hw
  simp only [Array.size_append, Array.size_replicate, List.size_toArray, content_length true l (.inl rfl)] at hw
  omega

end Opus.ExtProofs
