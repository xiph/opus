import OpusProofs.DtxCall
/-
  OpusProofs.DtxOnset — a run of calls on digital silence with the generalised detector in charge:
  which packets are DTX packets, and the onset window.
-/
namespace Opus.Dtx
open Opus.Gen.DtxConsts

/-- Frame geometry the DTX arithmetic relies on: in every mode a call of `q` 2.5 ms units is split
    into `nSub ≥ 1` coded frames of equal positive duration `subQ1` adding up to `5*q` Q1 ms. -/
def GoodGeom (c : Cfg) : Prop :=
  ∀ m : Mode, 1 ≤ nSub c m ∧ 1 ≤ subQ1 c m ∧ nSub c m * subQ1 c m = 5 * c.q

theorem GoodGeom.subQ1_le {c : Cfg} (hg : GoodGeom c) (m : Mode) : subQ1 c m ≤ 5 * c.q := by
  obtain ⟨h1, _, h3⟩ := hg m
  rw [← h3]; exact Nat.le_mul_of_pos_left _ h1

def geomOk (fs q : Nat) : Bool :=
  [Mode.none, Mode.silk, Mode.hybrid, Mode.celt].all fun m =>
    let sp := split fs (q * fs / 400) m
    decide (1 ≤ sp.1) && decide (1 ≤ 2 * 1000 * sp.2 / fs) && decide (sp.1 * (2 * 1000 * sp.2 / fs) = 5 * q)

/-- The geometry holds for every sampling rate and frame duration the API accepts. -/
theorem geomOk_all : ∀ fs ∈ [8000, 12000, 16000, 24000, 48000], ∀ q ∈ [1, 2, 4, 8, 16, 24, 32, 40, 48],
    geomOk fs q = true := by decide

theorem goodGeom_of_api (c : Cfg) (hfs : c.fs ∈ [8000, 12000, 16000, 24000, 48000])
    (hq : c.q ∈ [1, 2, 4, 8, 16, 24, 32, 40, 48]) : GoodGeom c := by
  have h := geomOk_all c.fs hfs c.q hq
  intro m
  unfold geomOk at h
  simp only [List.all_cons, List.all_nil, Bool.and_true, Bool.and_eq_true, decide_eq_true_eq] at h
  unfold nSub subQ1 frameSize
  cases m
  · exact ⟨h.1.1.1, h.1.1.2, h.1.2⟩
  · exact ⟨h.2.1.1.1, h.2.1.1.2, h.2.1.2⟩
  · exact ⟨h.2.2.1.1.1, h.2.2.1.1.2, h.2.2.1.2⟩
  · exact ⟨h.2.2.2.1.1, h.2.2.2.1.2, h.2.2.2.2⟩

theorem q_of_api {q : Nat} (hq : q ∈ [1, 2, 4, 8, 16, 24, 32, 40, 48]) : 1 ≤ q ∧ q ≤ 48 := by
  simp only [List.mem_cons, List.not_mem_nil, or_false] at hq
  omega

def pkts (c : Cfg) (st : St) (ors : List CallOr) : List Pkt := (run c st ors).map Prod.fst

theorem pkts_cons (c : Cfg) (st : St) (o : CallOr) (os : List CallOr) :
    pkts c st (o :: os) = (encodeCall c st o).2.1 :: pkts c (encodeCall c st o).1 os := rfl

/-- Every call of the run is fed digital silence (and the oracle record has the right shape). -/
def SilentRun (c : Cfg) (ors : List CallOr) : Prop :=
  ∀ o ∈ ors, o.digSil = true ∧ o.subs.length = nSub c o.mode ∧ NoBust o

/-- One silent call from counter `nb` with room below the 600 ms limit; the state is one in which the
    generalised detector was already in charge, or the counter is clear (so that the reset at a
    change of detector changes nothing). -/
theorem encodeCall_silence_room (c : Cfg) (st : St) (o : CallOr) (hr : Regular c) (hg : GoodGeom c)
    (hlen : o.subs.length = nSub c o.mode) (hdtx : c.useDtx = true) (hon : analysisOn c = true) (hsil : o.digSil = true)
    (hnob : NoBust o) (hst : st.silkUseDtx = false ∨ st.nb = 0)
    (hroom : st.nb + 5 * c.q ≤ limitQ1) :
    (encodeCall c st o).1.nb = st.nb + 5 * c.q ∧
    (encodeCall c st o).2.1 =
      (if onsetQ1 < st.nb + subQ1 c o.mode then Pkt.dtx (dtxPacketLen (nSub c o.mode)) else Pkt.normal) ∧
    (encodeCall c st o).1.silkUseDtx = false := by
  have hs := encodeCall_silence c st o hr hlen hdtx hon hsil hnob
  have hsd : sdtxOf c o = false := by simp [sdtxOf, isSilOf, hsil, hon]
  have hnb : (prepCall c st o).nb = st.nb := by
    apply prepCall_nb_same
    rcases hst with h | h
    · left; rw [hsd, h]
    · right; exact h
  rw [hnb] at hs
  obtain ⟨hn, hf, hnf⟩ := hg o.mode
  obtain ⟨n, hn'⟩ : ∃ n, nSub c o.mode = n + 1 := ⟨nSub c o.mode - 1, by omega⟩
  rw [hn'] at hs hnf
  have hrep := hangSteps_replicate onsetQ1 limitQ1 st.nb n (subQ1 c o.mode) (by rw [hnf]; exact hroom)
  simp only [← dtxSteps_eq_hang] at hrep
  rw [hs.1, hs.2.1, hrep.1, hnf]
  refine ⟨rfl, ?_, hs.2.2⟩
  have hne : (dtxSteps st.nb (List.replicate (n + 1) (false, subQ1 c o.mode))).1 ≠ [] := fun h => by
    have := dtxSteps_length st.nb (List.replicate (n + 1) (false, subQ1 c o.mode))
    rw [h] at this; simp at this
  simp only [pktOf_eq, hne, ne_eq, not_false_eq_true, true_and, hrep.2, hn']

/-- **Which packets of a silent run are DTX packets.**  Packet `j` (0-based), as long as the run
    stays below the 600 ms limit, is a DTX packet iff the inactivity at the end of its *first* coded
    frame exceeds 200 ms. -/
theorem run_silence (c : Cfg) (hr : Regular c) (hg : GoodGeom c) (hdtx : c.useDtx = true) (hon : analysisOn c = true) :
    ∀ (ors : List CallOr) (st : St), (st.silkUseDtx = false ∨ st.nb = 0) → SilentRun c ors →
      ∀ j (hj : j < ors.length), st.nb + (j + 1) * (5 * c.q) ≤ limitQ1 →
        (pkts c st ors)[j]? = some
          (if onsetQ1 < st.nb + j * (5 * c.q) + subQ1 c (ors[j]).mode then Pkt.dtx (dtxPacketLen (nSub c (ors[j]).mode))
           else Pkt.normal) := by
  intro ors
  induction ors with
  | nil => intro st _ _ j hj; cases hj
  | cons o os ih =>
    intro st hst hsr j hj hroom
    have ho := hsr o (by simp)
    have hroom0 : st.nb + 5 * c.q ≤ limitQ1 := by
      have : (j + 1) * (5 * c.q) = j * (5 * c.q) + 5 * c.q := Nat.succ_mul ..
      omega
    have hc := encodeCall_silence_room c st o hr hg ho.2.1 hdtx hon ho.1 ho.2.2 hst hroom0
    rw [pkts_cons]
    cases j with
    | zero => simp [hc.2.1]
    | succ j =>
      simp only [List.getElem?_cons_succ, List.getElem_cons_succ]
      have hsr' : SilentRun c os := fun o' ho' => hsr o' (by simp [ho'])
      have := ih (encodeCall c st o).1 (Or.inl hc.2.2) hsr' j (by simpa using hj) (by
        rw [hc.1]
        have : (j + 1 + 1) * (5 * c.q) = (j + 1) * (5 * c.q) + 5 * c.q := Nat.succ_mul ..
        omega)
      rw [this, hc.1]
      have : st.nb + 5 * c.q + j * (5 * c.q) = st.nb + (j + 1) * (5 * c.q) := by
        have : (j + 1) * (5 * c.q) = j * (5 * c.q) + 5 * c.q := Nat.succ_mul ..
        omega
      rw [this]

/-- The packet that contains the onset mark `o`: its index `k`, for packets of duration `F` in a run of `L` packets that
    lasts at least `o` plus two packets; packets `k` and `k + 1` end within the limit `l` when `l` leaves room for two
    packets after the mark. -/
theorem onset_index (o l F L : Nat) (hF : 1 ≤ F) (hl : o + 2 * F ≤ l) (hlong : o + 2 * F ≤ L * F) :
    ∃ k, k + 2 ≤ L ∧ (k + 1 + 1) * F ≤ l ∧ k * F ≤ o ∧ o < k * F + F := by
  have h1 : o / F * F ≤ o := Nat.div_mul_le_self ..
  refine ⟨o / F, ?_, ?_, h1, ?_⟩
  · have : (o / F + 2) * F ≤ L * F := by rw [Nat.add_mul]; omega
    exact Nat.le_of_mul_le_mul_right this (by omega)
  · rw [show o / F + 1 + 1 = o / F + 2 from rfl, Nat.add_mul]; omega
  · have h1 := Nat.div_add_mod o F
    have h2 := Nat.mod_lt o (show F > 0 by omega)
    rw [Nat.mul_comm] at h1
    omega

/-- **Onset.**  Activity has just stopped (counter 0), the generalised detector is in charge, the
    input is digital silence from now on, packets last `F = 5q` Q1 ms (2.5 … 120 ms).  Then there is a
    first DTX packet; all packets before it are normal; and it starts at a time `t = P·F` with
    `200 ms − F < t < 200 ms + F`. -/
theorem onset_window (c : Cfg) (hr : Regular c) (hg : GoodGeom c) (hdtx : c.useDtx = true) (hon : analysisOn c = true)
    (hq : 1 ≤ c.q ∧ c.q ≤ 48) (ors : List CallOr) (st : St) (hnb : st.nb = 0) (hsr : SilentRun c ors)
    (hlong : onsetQ1 + 2 * (5 * c.q) ≤ ors.length * (5 * c.q)) :
    ∃ P, P < ors.length ∧ (∀ j < P, (pkts c st ors)[j]? = some Pkt.normal) ∧
      (∃ n, (pkts c st ors)[P]? = some (Pkt.dtx n)) ∧
      onsetQ1 < P * (5 * c.q) + 5 * c.q ∧ P * (5 * c.q) < onsetQ1 + 5 * c.q := by
  have hrs := run_silence c hr hg hdtx hon ors st (Or.inr hnb) hsr
  rw [hnb] at hrs
  have hsub : ∀ m, 1 ≤ subQ1 c m ∧ subQ1 c m ≤ 5 * c.q := fun m => ⟨(hg m).2.1, hg.subQ1_le m⟩
  rw [onsetQ1_eq] at hlong hrs ⊢
  rw [limitQ1_eq] at hrs
  generalize hF : 5 * c.q = F at *
  obtain ⟨k, hkL, hk12, hk4, hk4'⟩ := onset_index 400 1200 F ors.length (by omega) (by omega) hlong
  have hsucc : ∀ j : Nat, (j + 1) * F = j * F + F := fun j => Nat.succ_mul ..
  have hk1 := hsucc k
  have hk2 := hsucc (k + 1)
  -- packets before the one that contains the 200 ms mark are normal
  have hbefore : ∀ j < k, (pkts c st ors)[j]? = some Pkt.normal := by
    intro j hj
    have hjF : (j + 1) * F ≤ k * F := Nat.mul_le_mul_right F hj
    have := (hsub (ors[j]'(by omega)).mode).2
    have := hsucc j
    rw [hrs j (by omega) (by omega), if_neg (by omega)]
  have hpk := hrs k (by omega) (by omega)
  have hpk1 := hrs (k + 1) (by omega) (by omega)
  by_cases hd : 400 < 0 + k * F + subQ1 c (ors[k]'(by omega)).mode
  · exact ⟨k, by omega, hbefore, ⟨_, by rw [hpk, if_pos hd]⟩, by omega, by omega⟩
  · have hd1 : 400 < 0 + (k + 1) * F + subQ1 c (ors[k + 1]'(by omega)).mode := by
      have := (hsub (ors[k + 1]'(by omega)).mode).1; omega
    refine ⟨k + 1, by omega, fun j hj => ?_, ⟨_, by rw [hpk1, if_pos hd1]⟩, by omega, ?_⟩
    · by_cases hjk : j < k
      · exact hbefore j hjk
      · rw [show j = k by omega, hpk, if_neg hd]
    · have := (hsub (ors[k]'(by omega)).mode).1; omega

end Opus.Dtx
