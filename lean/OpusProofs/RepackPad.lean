import OpusProofs.RepackState
import OpusProofs.MsPackets
/-
  C07 (repacketizer): `opus_packet_pad` / `opus_packet_unpad` on serialised valid packets.
-/
namespace Opus.RepackProofs
open Opus Opus.Framing Opus.FramingSpec Opus.FramingProofs Opus.Repack Opus.Ext
open Opus.MsDecEq (serialize_length_pos)

theorem valid_dur (p : Packet) (hv : Valid p) : p.frames.length * samplesPerFrame p.toc 8000 ≤ 960 := by
  have h6 := (frameDur48_spf8 p.toc (List.mem_range.mpr hv.toc_byte)).1
  have := hv.count_bounds.2.2
  rw [h6, Nat.mul_assoc, Nat.mul_comm (samplesPerFrame p.toc 8000)] at this
  omega

theorem valid_ne (p : Packet) (hv : Valid p) : p.frames ≠ [] := by
  intro h; have := hv.count_bounds.1; rw [h] at this; cases this

theorem framesOk_of_valid {p : Packet} (hv : Valid p) : FramesOk p.toc p.frames :=
  ⟨hv.toc_byte, valid_ne p hv, hv.frame_max, valid_dur p hv⟩

/-- The repacketizer state after `cat` of a valid packet on an empty repacketizer. -/
def firstState (p : Packet) : Rp :=
  { toc := p.toc, framesize := samplesPerFrame p.toc 8000, frames := p.frames,
    pads := (padBytes p, p.frames.length) :: List.replicate (p.frames.length - 1) ([], 0) }

theorem view_packetOffset (sd : Bool) (p : Packet) : (view sd p).packetOffset = (serialize sd p).length := rfl

/-- The padding region the parser reports for a serialised packet is the packet's padding. -/
theorem padding_of_serialize (sd : Bool) (p : Packet) (rest : Bytes) :
    ((serialize sd p ++ rest).drop (view sd p).padOffset).take (view sd p).padLen = padBytes p := by
  simp only [view, Parsed.padOffset, Packet.lens, sumN_map_length]
  have : serialize sd p ++ rest = (header sd p ++ p.frames.flatten) ++ (padBytes p ++ rest) := by simp [serialize]
  rw [this, ← List.length_append, List.drop_left, List.take_left]

theorem cat_first (sd : Bool) (p : Packet) (hv : Valid p) (rest : Bytes) (hrest : sd = false → rest = []) :
    catImpl Rp.empty (serialize sd p ++ rest) sd = (firstState p, .ok ()) := by
  obtain ⟨hparse, hfr⟩ := parse_serialize_frames sd p hv rest hrest
  have h20 := (frameDur48_spf8 p.toc (List.mem_range.mpr hv.toc_byte)).2.2
  have hne := valid_ne p hv
  have hpos : 1 ≤ p.frames.length := List.length_pos_iff.mpr hne
  have hcat : catImpl Rp.empty (serialize sd p ++ rest) sd = catBody (withToc Rp.empty p.toc) (serialize sd p ++ rest) sd := by
    rw [serialize_shape, List.cons_append, catImpl_eq, if_neg (by simp [Rp.empty, Rp.nbFrames])]
  have hw : withToc Rp.empty p.toc = { toc := p.toc, framesize := samplesPerFrame p.toc 8000, frames := [], pads := [] } := by
    simp [withToc, Rp.empty, Rp.nbFrames]
  rw [hcat, hw]
  have hacc := catBody_accept' { toc := p.toc, framesize := samplesPerFrame p.toc 8000, frames := [], pads := [] }
    (serialize sd p ++ rest) sd (view sd p) hparse (getNbFrames_serialize_append sd p hv rest) hpos
    (by simp [view, Rp.nbFrames]; exact valid_dur p hv) h20
  obtain ⟨r, hr, _, he⟩ := catBody_ok _ _ _ hacc
  rw [hparse] at hr; cases hr
  rw [he]
  congr 1
  simp only [catNew, List.nil_append, hfr, firstState]
  congr 2
  exact congrArg (·, p.frames.length) (padding_of_serialize sd p rest)

/-- The canonical (unpadded, minimal) packet with these configuration bits and frames. -/
def canonPacket (toc : Nat) (frames : List Bytes) : Packet := outPacket toc frames 0 false false

/-- Without padding the emitted packet depends neither on `maxlen` nor on the framing. -/
theorem outPacket_nopad_sd (toc : Nat) (frames : List Bytes) (maxlen : Int) (sd : Bool) :
    outPacket toc frames maxlen sd false = canonPacket toc frames := by
  simp only [outPacket, useLow, Bool.false_eq_true, false_and, not_false_eq_true, and_true, highPacket,
    ↓reduceIte, canonPacket]

theorem canonPacket_congr (toc toc' : Nat) (frames : List Bytes) (h : toc / 4 = toc' / 4) :
    canonPacket toc frames = canonPacket toc' frames := by
  simp only [canonPacket, outPacket, lowPacket, h, highPacket, Bool.false_eq_true, ↓reduceIte]

/-- Two packets the decoder cannot tell apart except for the address of the frame data: both valid, the
    same frames, the same configuration bits. -/
structure PktRel (p q : Packet) : Prop where
  vp : Valid p
  vq : Valid q
  frames : q.frames = p.frames
  toc : q.toc / 4 = p.toc / 4

theorem PktRel.refl {p : Packet} (hv : Valid p) : PktRel p p := ⟨hv, hv, rfl, rfl⟩

/-- Whatever the repacketizer emits for the frames of a valid packet is related to it. -/
theorem pktRel_outPacket {p : Packet} (hv : Valid p) (maxlen : Int) (sd pad : Bool)
    (hfit : ((serialize sd p).length : Int) ≤ maxlen) : PktRel p (outPacket p.toc p.frames maxlen sd pad) := by
  have hmin := minSize_minimal sd p hv
  simp only [Packet.lens] at hmin
  exact ⟨hv, outPacket_valid _ _ (framesOk_of_valid hv) _ _ _ (by omega), outPacket_frames _ _ _ _ _, outPacket_toc _ _ _ _ _⟩

theorem pktRel_canon {p : Packet} (hv : Valid p) : PktRel p (canonPacket p.toc p.frames) := by
  have := pktRel_outPacket hv (serialize false p).length false false (Int.le_refl _)
  rwa [outPacket_nopad_sd] at this

/-- What the parser reports for two related packets (standard framing). -/
theorem PktRel.parse {p q : Packet} (h : PktRel p q) :
    parseImpl false (serialize false q) = .ok (view false q) ∧
    slices (serialize false q) (view false q).payloadOffset (view false q).sizes = p.frames ∧
    (view false q).toc / 4 = (view false p).toc / 4 ∧ (view false q).sizes = (view false p).sizes ∧
    (view false q).count = (view false p).count := by
  obtain ⟨hparse, hsl⟩ := parse_serialize_frames false q h.vq [] (fun _ => rfl)
  simp only [List.append_nil] at hparse hsl
  exact ⟨hparse, by rw [hsl, h.frames], h.toc, by simp only [view, Packet.lens, h.frames], by simp only [view, h.frames]⟩

/-- Related packets have the same duration. -/
theorem PktRel.duration {p q : Packet} (h : PktRel p q) (fs : Nat) :
    Opus.LayoutSpec.duration fs q = Opus.LayoutSpec.duration fs p := by
  unfold Opus.LayoutSpec.duration
  rw [h.frames, (toc_helpers_congr _ _ fs h.toc).2.2.1]

/-- The head streams of two multistream packets that begin with related packets: both parse, with the same frame
    sizes, frame count and configuration bits. -/
theorem PktRel.head {p q : Packet} (h : PktRel p q) (sd : Bool) {r1 r2 : Bytes} (h1 : sd = false → r1 = [])
    (h2 : sd = false → r2 = []) :
    parseImpl sd (serialize sd p ++ r1) = .ok (view sd p) ∧ parseImpl sd (serialize sd q ++ r2) = .ok (view sd q) ∧
    (view sd p).sizes = (view sd q).sizes ∧ (view sd p).count = (view sd q).count ∧
    (serialize sd p ++ r1).headD 0 / 4 = (serialize sd q ++ r2).headD 0 / 4 := by
  exact ⟨parse_complete sd p h.vp _ h1, parse_complete sd q h.vq _ h2, by simp only [view, Packet.lens, h.frames],
    by simp only [view, h.frames], by rw [serialize_append_headD, serialize_append_headD]; exact h.toc.symm⟩

theorem canonPacket_valid (p : Packet) (hv : Valid p) : Valid (canonPacket p.toc p.frames) :=
  (pktRel_canon hv).vq

theorem canonPacket_canon (p : Packet) :
    canonPacket (canonPacket p.toc p.frames).toc (canonPacket p.toc p.frames).frames = canonPacket p.toc p.frames := by
  unfold canonPacket
  rw [outPacket_frames]
  exact canonPacket_congr _ _ _ (outPacket_toc _ _ _ _ _)

theorem canonPacket_nopad (toc : Nat) (frames : List Bytes) : padBytes (canonPacket toc frames) = [] := by
  unfold canonPacket outPacket
  split
  · rfl
  · simp [highPacket, padBytes]

theorem extFree_cleared (pads : List (Bytes × Nat)) : ExtFree (pads.map fun _ => (([] : Bytes), 0)) := by
  intro pn hpn
  simp only [List.mem_map] at hpn
  obtain ⟨_, _, rfl⟩ := hpn
  exact count_nil 0 (by omega)

theorem selFrames_all (rp : Rp) : selFrames rp 0 rp.nbFrames = rp.frames := by
  simp [selFrames, Rp.nbFrames]

theorem inv_firstState (p : Packet) (hv : Valid p) : Inv (firstState p) := by
  have hpos : 1 ≤ p.frames.length := List.length_pos_iff.mpr (valid_ne p hv)
  refine ⟨fun _ => hv.toc_byte, fun _ => rfl, valid_dur p hv, hv.frame_max, ?_⟩
  simp [firstState]; omega

/-- The canonical packet has the minimal size, in either framing. -/
theorem canonPacket_length (sd : Bool) (p : Packet) (hv : Valid p) :
    ((serialize sd (canonPacket p.toc p.frames)).length : Int) = minSize sd p.lens := by
  have hl := outPacket_len p.toc p.frames (valid_ne p hv) (serialize sd p).length sd false (minSize_minimal sd p hv)
  rw [outPacket_nopad_sd] at hl
  simpa [Packet.lens] using hl

theorem canonPacket_len (p : Packet) (hv : Valid p) :
    0 < (serialize false (canonPacket p.toc p.frames)).length ∧
    (serialize false (canonPacket p.toc p.frames)).length ≤ (serialize false p).length ∧
    ((serialize false (canonPacket p.toc p.frames)).length : Int) = minSize false p.lens := by
  have hl := canonPacket_length false p hv
  have hmin := minSize_minimal false p hv
  exact ⟨serialize_length_pos _ _, by omega, hl⟩

/-- `out` of everything that `cat` of one valid packet stored, whatever (extension-free) paddings are kept
    with it: the packet `outPacket` of its frames. -/
theorem out_first (sd : Bool) (p : Packet) (hv : Valid p) (pads : List (Bytes × Nat)) (hfree : ExtFree pads)
    (maxlen : Int) (pad : Bool) (hm : ((serialize sd p).length : Int) ≤ maxlen) :
    outRangeImpl { firstState p with pads := pads } 0 ({ firstState p with pads := pads } : Rp).nbFrames maxlen sd pad #[] =
      .ok (serialize sd (outPacket p.toc p.frames maxlen sd pad)) := by
  have hpos : 0 < p.frames.length := List.length_pos_iff.mpr (valid_ne p hv)
  have hout := outRangeImpl_noext { firstState p with pads := pads } 0 p.frames.length hpos (Nat.le_refl _) hfree
    maxlen sd pad
  have hsel : selFrames { firstState p with pads := pads } 0 p.frames.length = p.frames := by
    simp [selFrames, firstState]
  have hmin := minSize_minimal sd p hv
  simp only [Packet.lens] at hmin
  rw [hsel, if_neg (by omega)] at hout
  simp only [Int.ofNat_zero] at hout
  exact hout

/-- One stream of `opus_packet_unpad` / `opus_multistream_packet_unpad`: cat + clear paddings + out. -/
theorem unpad_stream (sd : Bool) (p : Packet) (hv : Valid p) (maxlen : Nat) (hm : (serialize sd p).length ≤ maxlen) :
    ∃ rp, catImpl (init Rp.empty) (serialize sd p) sd = (rp, .ok ()) ∧
      outRangeImpl { rp with pads := rp.pads.map fun _ => (([] : Bytes), 0) } 0
        ({ rp with pads := rp.pads.map fun _ => (([] : Bytes), 0) } : Rp).nbFrames maxlen sd false #[] =
        .ok (serialize sd (canonPacket p.toc p.frames)) := by
  have hcat := cat_first sd p hv [] (fun _ => rfl)
  simp only [List.append_nil] at hcat
  refine ⟨firstState p, hcat, ?_⟩
  rw [out_first sd p hv _ (extFree_cleared _) maxlen false (Int.ofNat_le.mpr hm), outPacket_nopad_sd]

/-- `opus_packet_unpad` of a serialised valid packet is the canonical packet. -/
theorem unpad_serialize (p : Packet) (hv : Valid p) :
    packetUnpad (serialize false p) = .ok (serialize false (canonPacket p.toc p.frames)) := by
  obtain ⟨rp, hcat, hout⟩ := unpad_stream false p hv (serialize false p).length (Nat.le_refl _)
  obtain ⟨l1, l2, _⟩ := canonPacket_len p hv
  have hpos := serialize_length_pos false p
  unfold packetUnpad
  rw [if_neg (by omega)]
  simp only [cat]
  rw [hcat]
  simp only []
  rw [hout]
  simp only []
  rw [if_pos ⟨l1, l2⟩]

/-- The padding of `p` carries no extensions. -/
def PadFree (p : Packet) : Prop := Ext.count (padBytes p) (padBytes p).length p.frames.length = .ok 0

theorem extFree_firstState (p : Packet) (h : PadFree p) : ExtFree (firstState p).pads := by
  intro pn hpn
  simp only [firstState, List.mem_cons, List.mem_replicate] at hpn
  rcases hpn with rfl | ⟨_, rfl⟩
  · exact h
  · exact count_nil 0 (by omega)

/-- `opus_packet_pad` of a serialised valid packet (padding without extensions) to a larger size. -/
theorem pad_serialize (p : Packet) (hv : Valid p) (hfree : PadFree p) (newLen : Int)
    (hgt : ((serialize false p).length : Int) < newLen) :
    packetPad (serialize false p) newLen = .ok (serialize false (outPacket p.toc p.frames newLen false true)) := by
  have hpos := serialize_length_pos false p
  have hcat := cat_first false p hv [] (fun _ => rfl)
  simp only [List.append_nil] at hcat
  unfold packetPad padImpl
  rw [if_neg (by omega), if_neg (by omega), if_neg (by omega)]
  simp only [cat, show init Rp.empty = Rp.empty from rfl, hcat]
  exact out_first false p hv _ (extFree_firstState p hfree) newLen true (by omega)

theorem pad_same (bs : Bytes) (h : 1 ≤ bs.length) : packetPad bs bs.length = .ok bs := by
  unfold packetPad padImpl
  rw [if_neg (by omega), if_pos rfl]

theorem pad_bad_arg (bs : Bytes) (newLen : Int) (h : bs.length < 1 ∨ newLen < bs.length) :
    packetPad bs newLen = .err .badArg := by
  unfold packetPad padImpl
  by_cases h1 : bs.length < 1
  · rw [if_pos h1]
  · rw [if_neg h1, if_neg (by omega), if_pos (by omega)]

/-- On a byte string that is not a valid packet `cat` on an empty repacketizer fails with
    `OPUS_INVALID_PACKET`. -/
theorem cat_first_invalid (bs : Bytes) (hb : BytesOk bs) (sd : Bool) (h : ∀ r, parseImpl sd bs ≠ .ok r) :
    (catImpl Rp.empty bs sd).2 = .err .invalidPacket :=
  catImpl_err Rp.empty inv_empty bs hb sd fun hok => by
    obtain ⟨r, hr, _⟩ := catImpl_ok_state _ _ _ hok
    exact h r hr

theorem unpad_invalid (bs : Bytes) (hb : BytesOk bs) (hne : bs ≠ []) (h : ∀ r, parseImpl false bs ≠ .ok r) :
    packetUnpad bs = .err .invalidPacket := by
  have hlen : ¬ bs.length < 1 := Nat.not_lt.mpr (List.length_pos_iff.mpr hne)
  have hc := cat_first_invalid bs hb false h
  unfold packetUnpad
  rw [if_neg hlen]
  simp only [cat, show init Rp.empty = Rp.empty from rfl]
  generalize catImpl Rp.empty bs false = x at hc
  obtain ⟨rp, res⟩ := x
  simp only [] at hc
  subst hc
  rfl

theorem pad_invalid (bs : Bytes) (hb : BytesOk bs) (newLen : Int) (hlt : (bs.length : Int) < newLen) (hne : bs ≠ [])
    (h : ∀ r, parseImpl false bs ≠ .ok r) : packetPad bs newLen = .err .invalidPacket := by
  have hlen : ¬ bs.length < 1 := Nat.not_lt.mpr (List.length_pos_iff.mpr hne)
  have hc := cat_first_invalid bs hb false h
  unfold packetPad padImpl
  rw [if_neg hlen, if_neg (by omega), if_neg (by omega)]
  simp only [cat, show init Rp.empty = Rp.empty from rfl]
  generalize catImpl Rp.empty bs false = x at hc
  obtain ⟨rp, res⟩ := x
  simp only [] at hc
  subst hc
  rfl

end Opus.RepackProofs
