import OpusProofs.ResetState
import OpusModel.ResetDecode
/-
  OpusProofs.ResetDecode — the decoder half of C12: reset = fresh on the view, and the decoder view is a bisimulation
  for set / get / reset / decode footprint.
-/
namespace Opus.ResetState

/-- `DecControl.nChannelsAPI` / `API_sampleRate` are written by `opus_decoder_init` only: they stay `channels` / `Fs`. -/
structure DecInv (s : Dec) : Prop where
  api : s.dcNChannelsAPI = s.channels
  rate : s.dcApiSampleRate = s.fs

theorem decInv_init (fs ch arch so co : Int) : DecInv (decInit fs ch arch so co) := ⟨rfl, rfl⟩
theorem decInv_reset {s : Dec} (h : DecInv s) : DecInv (decReset s) := ⟨h.api, h.rate⟩

theorem decView_reset_eq_fresh {s : Dec} (h : DecInv s) :
    decView (decReset s) =
      decView (decFresh s.fs s.channels s.arch s.silkDecOffset s.celtDecOffset s.decodeGain s.complexity
                 s.celtComplexity s.celtDisableInv) := by
  obtain ⟨h1, h2⟩ := h
  simp [decView, decReset, decFresh, decWithSettings, decInit, MODE_SILK_ONLY, MODE_HYBRID, h1, h2]

/-! ### Every operation factors through the view (as for the encoder, OpusProofs/ResetState.lean) -/

def DecView.set (w : DecView) : DSetReq → Int → DecView
  | .gain, v => { w with decodeGain := v }
  | .complexity, v => { w with complexity := v, celtComplexity := v }
  | .phaseInversionDisabled, v => { w with celtDisableInv := v }

theorem decView_dsetApply (s : Dec) (k : DSetReq) (v : Int) : decView (dsetApply s k v) = (decView s).set k v := by
  cases k <;> rfl

def DecView.reset (w : DecView) : DecView :=
  { w with bandwidth := 0, mode := 0, prevMode := 0, prevRedundancy := 0, lastPacketDuration := 0, softclipMem := .fresh,
           rangeFinal := 0, celtState := .fresh, silkState := .fresh, streamChannels := w.channels, frameSize := w.fs / 400,
           dcPrevPitchLag := 0, dcNChannelsInternalGated := 0, dcInternalSampleRateGated := 0, silkNChannelsAPIGated := 0,
           silkNChannelsInternalGated := 0 }

theorem decView_decReset (s : Dec) : decView (decReset s) = (decView s).reset := rfl

/-- `decodeStep` on the view. -/
def DecView.step (O : DOracles) (w : DecView) (x : DInp) : DecView × DOut :=
  let d := O.res w x
  match O.path w x with
  | .noWrite => (w, O.out w x)
  | .conceal =>
    let mode := if w.prevRedundancy ≠ 0 then MODE_CELT_ONLY else w.prevMode
    if mode = 0 then ({ w with lastPacketDuration := d.lastPacketDuration }, O.out w x)
    else
      ({ w with
         streamChannels := d.streamChannels, bandwidth := d.bandwidth, mode := d.mode, prevMode := mode,
         frameSize := d.frameSize, prevRedundancy := 0, lastPacketDuration := d.lastPacketDuration,
         softclipMem := d.softclipMem, rangeFinal := d.rangeFinal, celtState := d.celtState,
         silkState := if d.silkRan then d.silkState else w.silkState,
         dcPrevPitchLag := if d.silkRan then d.dcPrevPitchLag else w.dcPrevPitchLag,
         -- concealment keeps a SILK / hybrid `prev_mode` (or leaves it CELT-only): the DecControl gate can only close
         dcNChannelsInternalGated := if w.prevRedundancy ≠ 0 then 0 else w.dcNChannelsInternalGated,
         dcInternalSampleRateGated := if w.prevRedundancy ≠ 0 then 0 else w.dcInternalSampleRateGated,
         silkNChannelsAPIGated :=
           if d.silkRan then (if d.silkState = .fresh then 0 else d.silkNChannelsAPI) else w.silkNChannelsAPIGated,
         silkNChannelsInternalGated :=
           if d.silkRan then (if d.silkState = .fresh then 0 else d.silkNChannelsInternal) else w.silkNChannelsInternalGated },
       O.out w x)
  | .packet =>
    let ran := d.silkRan || isSilkMode d.prevMode
    ({ w with
       streamChannels := d.streamChannels, bandwidth := d.bandwidth, mode := d.mode, prevMode := d.prevMode,
       frameSize := d.frameSize, prevRedundancy := d.prevRedundancy, lastPacketDuration := d.lastPacketDuration,
       softclipMem := d.softclipMem, rangeFinal := d.rangeFinal, celtState := d.celtState,
       silkState := if ran then d.silkState else w.silkState,
       dcPrevPitchLag := if ran then d.dcPrevPitchLag else w.dcPrevPitchLag,
       -- a SILK / hybrid packet assigns the DecControl members before SILK runs
       dcNChannelsInternalGated := if d.prevMode = MODE_SILK_ONLY ∨ d.prevMode = MODE_HYBRID then d.dcNChannelsInternal else 0,
       dcInternalSampleRateGated := if d.prevMode = MODE_SILK_ONLY ∨ d.prevMode = MODE_HYBRID then d.dcInternalSampleRate else 0,
       silkNChannelsAPIGated := if ran then (if d.silkState = .fresh then 0 else d.silkNChannelsAPI) else w.silkNChannelsAPIGated,
       silkNChannelsInternalGated :=
         if ran then (if d.silkState = .fresh then 0 else d.silkNChannelsInternal) else w.silkNChannelsInternalGated },
     O.out w x)

theorem decView_decodeStep (O : DOracles) (s : Dec) (x : DInp) :
    decView (decodeStep O s x).1 = (DecView.step O (decView s) x).1 ∧ (decodeStep O s x).2 = (DecView.step O (decView s) x).2 := by
  unfold decodeStep DecView.step
  simp only []
  generalize O.res (decView s) x = d
  cases hp : O.path (decView s) x <;> simp only []
  · exact ⟨trivial, trivial⟩
  · show _ ∧ _
    have hvr : (decView s).prevRedundancy = s.prevRedundancy := rfl
    have hvm : (decView s).prevMode = s.prevMode := rfl
    rw [hvr, hvm]
    by_cases hm : (if s.prevRedundancy ≠ 0 then MODE_CELT_ONLY else s.prevMode) = 0
    · rw [if_pos hm, if_pos hm]; exact ⟨rfl, rfl⟩
    · rw [if_neg hm, if_neg hm]
      by_cases hr : s.prevRedundancy ≠ 0
      · cases hs : d.silkRan <;>
          simp [decView, hr, hs, MODE_CELT_ONLY, MODE_SILK_ONLY, MODE_HYBRID]
      · cases hs : d.silkRan <;> simp [decView, hr, hs]
  · -- the gates as Booleans: then both sides compute
    simp only [decView, ← isSilkMode_iff]
    cases d.silkRan <;> cases isSilkMode d.prevMode <;> exact ⟨rfl, trivial⟩

theorem decodeStep_congr (O : DOracles) {a b : Dec} (x : DInp) (h : decView a = decView b) :
    decView (decodeStep O a x).1 = decView (decodeStep O b x).1 ∧ (decodeStep O a x).2 = (decodeStep O b x).2 := by
  rw [(decView_decodeStep O a x).1, (decView_decodeStep O a x).2, (decView_decodeStep O b x).1, (decView_decodeStep O b x).2, h]
  exact ⟨rfl, rfl⟩

theorem runDOp_congr (O : DOracles) {a b : Dec} (op : DOp) (h : decView a = decView b) :
    decView (runDOp O a op).1 = decView (runDOp O b op).1 ∧ (runDOp O a op).2 = (runDOp O b op).2 := by
  cases op with
  | set req v =>
    simp only [runDOp, decSet]
    cases DSetReq.ofId req with
    | none => exact ⟨h, rfl⟩
    | some k =>
      simp only []
      cases dsetAccept k v
      · exact ⟨h, rfl⟩
      · exact ⟨(decView_dsetApply a k v).trans (h ▸ (decView_dsetApply b k v).symm), rfl⟩
  | get req => simp only [runDOp, decGet, h]; exact ⟨trivial, trivial⟩
  | reset => exact ⟨by simp only [runDOp, decView_decReset, h], rfl⟩
  | decode x =>
    have hc := decodeStep_congr O x h
    simp only [runDOp]
    exact ⟨hc.1, by rw [hc.2]⟩

theorem runDec_congr (O : DOracles) (ops : List DOp) :
    ∀ {a b : Dec}, decView a = decView b → runDec O a ops = runDec O b ops := by
  induction ops with
  | nil => intros; rfl
  | cons op rest ih =>
    intro a b h
    have hc := runDOp_congr O op h
    simp only [runDec]
    rw [hc.2, ih hc.1]

/-! ### `DecViewEq`

  The member-wise spelling of `decView a = decView b`, with its characterisation `decViewEq_iff`; the proofs above work
  with `decView a = decView b` itself. -/

/-- `decView a = decView b`, member by member; the gated members as implications. -/
structure DecViewEq (a b : Dec) : Prop where
  celtDecOffset : a.celtDecOffset = b.celtDecOffset
  silkDecOffset : a.silkDecOffset = b.silkDecOffset
  channels : a.channels = b.channels
  fs : a.fs = b.fs
  dcNChannelsAPI : a.dcNChannelsAPI = b.dcNChannelsAPI
  dcApiSampleRate : a.dcApiSampleRate = b.dcApiSampleRate
  dcPrevPitchLag : a.dcPrevPitchLag = b.dcPrevPitchLag
  decodeGain : a.decodeGain = b.decodeGain
  complexity : a.complexity = b.complexity
  arch : a.arch = b.arch
  streamChannels : a.streamChannels = b.streamChannels
  bandwidth : a.bandwidth = b.bandwidth
  mode : a.mode = b.mode
  prevMode : a.prevMode = b.prevMode
  frameSize : a.frameSize = b.frameSize
  prevRedundancy : a.prevRedundancy = b.prevRedundancy
  lastPacketDuration : a.lastPacketDuration = b.lastPacketDuration
  softclipMem : a.softclipMem = b.softclipMem
  rangeFinal : a.rangeFinal = b.rangeFinal
  silkState : a.silkState = b.silkState
  celtState : a.celtState = b.celtState
  celtComplexity : a.celtComplexity = b.celtComplexity
  celtDisableInv : a.celtDisableInv = b.celtDisableInv
  ctlCh : (b.prevMode = MODE_SILK_ONLY ∨ b.prevMode = MODE_HYBRID) → a.dcNChannelsInternal = b.dcNChannelsInternal
  ctlRate : (b.prevMode = MODE_SILK_ONLY ∨ b.prevMode = MODE_HYBRID) → a.dcInternalSampleRate = b.dcInternalSampleRate
  silkApi : b.silkState ≠ .fresh → a.silkNChannelsAPI = b.silkNChannelsAPI
  silkInt : b.silkState ≠ .fresh → a.silkNChannelsInternal = b.silkNChannelsInternal

theorem decViewEq_iff {a b : Dec} : DecViewEq a b ↔ decView a = decView b := by
  constructor
  · intro h
    -- rewrite every member of `a` the view reads into the member of `b` of the same name
    simp only [decView, h.celtDecOffset, h.silkDecOffset, h.channels, h.fs, h.dcNChannelsAPI, h.dcApiSampleRate, h.dcPrevPitchLag,
      h.decodeGain, h.complexity, h.arch, h.streamChannels, h.bandwidth, h.mode, h.prevMode, h.frameSize,
      h.prevRedundancy, h.lastPacketDuration, h.softclipMem, h.rangeFinal, h.silkState, h.celtState, h.celtComplexity,
      h.celtDisableInv,
      gate_eq_iff.2 h.ctlCh, gate_eq_iff.2 h.ctlRate, gate_not_eq_iff.2 h.silkApi, gate_not_eq_iff.2 h.silkInt]
  · intro h
    -- every member is read off `h` through the projection of `DecView` that carries its name
    have f : ∀ {α : Type} (p : DecView → α), p (decView a) = p (decView b) := fun p => congrArg p h
    have ePM : a.prevMode = b.prevMode := f DecView.prevMode
    have eSS : a.silkState = b.silkState := f DecView.silkState
    have gC := f DecView.dcNChannelsInternalGated
    have gR := f DecView.dcInternalSampleRateGated
    have gA := f DecView.silkNChannelsAPIGated
    have gI := f DecView.silkNChannelsInternalGated
    simp only [decView, ePM, eSS] at gC gR gA gI
    exact
      { celtDecOffset := f DecView.celtDecOffset, silkDecOffset := f DecView.silkDecOffset,
        channels := f DecView.channels, fs := f DecView.fs, dcNChannelsAPI := f DecView.dcNChannelsAPI,
        dcApiSampleRate := f DecView.dcApiSampleRate, dcPrevPitchLag := f DecView.dcPrevPitchLag,
        decodeGain := f DecView.decodeGain, complexity := f DecView.complexity, arch := f DecView.arch,
        streamChannels := f DecView.streamChannels, bandwidth := f DecView.bandwidth, mode := f DecView.mode,
        prevMode := f DecView.prevMode, frameSize := f DecView.frameSize, prevRedundancy := f DecView.prevRedundancy,
        lastPacketDuration := f DecView.lastPacketDuration, softclipMem := f DecView.softclipMem,
        rangeFinal := f DecView.rangeFinal, silkState := f DecView.silkState, celtState := f DecView.celtState,
        celtComplexity := f DecView.celtComplexity, celtDisableInv := f DecView.celtDisableInv,
        ctlCh := gate_eq_iff.1 gC, ctlRate := gate_eq_iff.1 gR, silkApi := gate_not_eq_iff.1 gA,
        silkInt := gate_not_eq_iff.1 gI }

/-- Decoder states reachable from `opus_decoder_init`. -/
inductive DReach : Dec → Prop
  | init (fs ch arch so co : Int) : DReach (decInit fs ch arch so co)
  | set {s s' : Dec} (req v : Int) : DReach s → decSet s req v = some s' → DReach s'
  | reset {s : Dec} : DReach s → DReach (decReset s)
  | decode {s : Dec} (O : DOracles) (x : DInp) : DReach s → DReach (decodeStep O s x).1

theorem decInv_dsetApply {s : Dec} (k : DSetReq) (v : Int) (h : DecInv s) : DecInv (dsetApply s k v) := by
  cases k <;> exact ⟨h.api, h.rate⟩

theorem decInv_decodeStep (O : DOracles) {s : Dec} (x : DInp) (h : DecInv s) : DecInv (decodeStep O s x).1 := by
  unfold decodeStep
  simp only []
  repeat' split
  all_goals exact ⟨h.api, h.rate⟩

theorem dreach_inv {s : Dec} (h : DReach s) : DecInv s := by
  induction h with
  | init => exact decInv_init ..
  | set req v _ hs ih =>
    unfold decSet at hs
    split at hs
    · split at hs
      · simp only [Option.some.injEq] at hs; subst hs; exact decInv_dsetApply _ _ ih
      · simp at hs
    · simp at hs
  | reset _ ih => exact decInv_reset ih
  | decode O x _ ih => exact decInv_decodeStep O x ih

theorem decStepCheck_ok {pre post : Dec} {dn : Bool} (hc : decConstSame pre post = true)
    (h : post = pre ∨ concealClaim pre post = true ∨ (dn = false ∧ packetClaim pre post = true)) :
    decStepCheck pre post dn = "ok" := by
  unfold decStepCheck
  simp only [hc, Bool.not_true, Bool.false_eq_true, if_false]
  by_cases h1 : post = pre
  · simp [h1]
  · by_cases h2 : concealClaim pre post = true
    · simp [h1, h2]
    · rcases h with h | h | ⟨hd, hpk⟩
      · exact absurd h h1
      · exact absurd h h2
      · simp [h1, h2, hd, hpk]

end Opus.ResetState
