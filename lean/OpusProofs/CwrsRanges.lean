import OpusProofs.CwrsB2p
import OpusProofs.CwrsCache
import OpusProofs.LaplaceSeq
/-
  OpusProofs.CwrsRanges — (1) `bits2pulses` / `pulses2bits` on the regenerated cache rows; (2) 32-bit range facts: the
  accumulator of `icwrs` and the running index of `cwrsi` never exceed `V(N,K)`, no subtraction of `cwrsi` underflows;
  the `unsigned` intermediates of `ec_laplace_*` stay far below 2^32.
-/
namespace OpusProofs.CwrsRanges
open Opus Opus.Cwrs Opus.Rate OpusProofs.CwrsU OpusProofs.CwrsBij OpusProofs.CwrsModel OpusProofs.CwrsCache OpusProofs.CwrsB2p
open Opus.Gen.CeltTables

/-! ## bits2pulses / pulses2bits on the shipped cache -/

/-- the cache row at `ci` as `bits2pulses` indexes it -/
def rowAt (ci : Nat) : Nat → Nat := fun j => cacheBits.getD (ci + j) 0

theorem rowAt_mono {N ci : Nat} (h : RowFacts N ci) {q q' : Nat} (h1 : 1 ≤ q) (hq : q ≤ q') :
    q' ≤ rowAt ci 0 → rowAt ci q ≤ rowAt ci q' := by
  induction hq with
  | refl => intro _; exact Nat.le_refl _
  | @step q' hq ih =>
    intro h2
    have hq : q ≤ q' := hq
    have h0 : rowAt ci 0 = cacheBits.getD ci 0 := by simp [rowAt]
    have := h.mono q' (by omega) (by omega)
    have := ih (by omega)
    show rowAt ci q ≤ rowAt ci (q' + 1)
    simp only [rowAt, ← Nat.add_assoc] at *
    omega

/-- `bits2pulses(m, band, LM, bits)` for every band and frame size of the static mode. -/
theorem b2p_cache {lm1 band ci : Nat} (hl : lm1 ≤ maxLM + 1) (hb : band < nbEBands)
    (hci : cacheIndex[lm1 * nbEBands + band]? = some (Int.ofNat ci)) (bits : Int) :
    let K := cacheBits.getD ci 0
    bits2pulsesRow (rowAt ci) bits ≤ K ∧
    ((∀ p, 1 ≤ p → p ≤ K → (rowAt ci p : Int) < bits - 1) → bits2pulsesRow (rowAt ci) bits = K) ∧
    (∀ h, 1 ≤ h → h ≤ K → bits - 1 ≤ (rowAt ci h : Int) → (∀ p, 1 ≤ p → p < h → (rowAt ci p : Int) < bits - 1) →
      bits2pulsesRow (rowAt ci) bits =
        if (bits - 1) - (if h = 1 then -1 else (rowAt ci (h - 1) : Int)) ≤ (rowAt ci h : Int) - (bits - 1)
        then h - 1 else h) := by
  have R := row_at hl hb hci
  have hK := R.short
  have hM : MAX_PSEUDO = 40 := by decide
  have h0 : rowAt ci 0 = cacheBits.getD ci 0 := by simp [rowAt]
  exact bits2pulsesRow_spec (rowAt ci) (cacheBits.getD ci 0) h0 (by omega)
    (fun q q' h1 h2 h3 => rowAt_mono R h1 h2 (by rw [h0]; omega)) bits

/-- `pulses2bits` reads the cache word and adds one; it is strictly increasing in the pseudo-pulse index for every
    band of size ≥ 3, and non-decreasing (strictly from 0 to 1) for sizes 1 and 2. -/
theorem p2b_cache {lm1 band ci : Nat} (hl : lm1 ≤ maxLM + 1) (hb : band < nbEBands)
    (hci : cacheIndex[lm1 * nbEBands + band]? = some (Int.ofNat ci)) :
    pulses2bits cacheIndex cacheBits nbEBands band lm1 0 = .ok 0 ∧
    (∀ q, 1 ≤ q → q ≤ cacheBits.getD ci 0 →
      pulses2bits cacheIndex cacheBits nbEBands band lm1 q = .ok (cacheBits.getD (ci + q) 0 + 1)) ∧
    (∀ q, 1 ≤ q → q < cacheBits.getD ci 0 → cacheBits.getD (ci + q) 0 ≤ cacheBits.getD (ci + q + 1) 0) ∧
    (3 ≤ bandN eBands lm1 band → ∀ q, 1 ≤ q → q < cacheBits.getD ci 0 →
      cacheBits.getD (ci + q) 0 < cacheBits.getD (ci + q + 1) 0) := by
  have R := row_at hl hb hci
  refine ⟨by simp [pulses2bits, hci], fun q h1 h2 => ?_, R.mono, R.strict⟩
  have hlen : ci + q < cacheBits.length := by have := R.inside; omega
  have : cacheBits[ci + q]? = some (cacheBits.getD (ci + q) 0) := by
    rw [List.getD, List.getElem?_eq_getElem hlen]; rfl
  have e1 : ¬ (Int.ofNat ci < 0) := Int.not_lt.mpr (Int.natCast_nonneg ci)
  have e2 : (Int.ofNat ci).toNat = ci := rfl
  simp only [pulses2bits, hci]
  rw [if_neg (show ¬ q = 0 by omega), if_neg e1, e2, this]

/-! ## 32-bit ranges in cwrs.c -/

theorem V_mono_n (n k : Nat) : V n k ≤ V (n + 1) k := by
  cases k with
  | zero =>
    rw [V_zero]
    cases n with
    | zero => decide
    | succ n => rw [V_zero]; exact Nat.le_refl _
  | succ k => rw [V_rec]; omega

theorem V_mono_k (n k : Nat) : V (n + 1) k ≤ V (n + 1) (k + 1) := by
  unfold V
  have := U_mono_step n k
  have := U_mono_step n (k + 1)
  omega

theorem V_le {n n' k k' : Nat} (h1 : 1 ≤ n) (hn : n ≤ n') (hk : k ≤ k') : V n k ≤ V n' k' := by
  have a : V n k ≤ V n k' := by
    induction hk with
    | refl => exact Nat.le_refl _
    | step _ ih =>
      obtain ⟨m, rfl⟩ : ∃ m, n = m + 1 := ⟨n - 1, by omega⟩
      exact Nat.le_trans ih (V_mono_k m _)
  have b : V n k' ≤ V n' k' := by
    induction hn with
    | refl => exact Nat.le_refl _
    | step _ ih => exact Nat.le_trans ih (V_mono_n _ _)
  exact Nat.le_trans a b

theorem sumAbs_drop_le : ∀ (y : List Int) (j : Nat), sumAbs (y.drop j) ≤ sumAbs y := by
  intro y
  induction y with
  | nil => intro j; simp [sumAbs]
  | cons a t ih =>
    intro j
    cases j with
    | zero => exact Nat.le_refl _
    | succ j => simp only [List.drop_succ_cons, sumAbs]; have := ih j; omega

/-- The accumulator `i` of `icwrs` after the loop has processed the coordinates `j, …, n-1` is `encS (y.drop j)`
    (`icwrsAux_agree`); it is below `V(n, K)`. -/
theorem icwrs_partial_lt (y : List Int) (j : Nat) (hj : j < y.length) :
    encS (y.drop j) < V y.length (sumAbs y) := by
  have h := (encS_spec (y.drop j)).1
  have hl : (y.drop j).length = y.length - j := by simp
  rw [hl] at h
  exact Nat.lt_of_lt_of_le h (V_le (by omega) (by omega) (sumAbs_drop_le y j))

/-- One step of `cwrsi` (`cwrsiStep_agree`: the C loop body computes `stepS`): the pulse count does not grow, both
    subtractions `_i -= p&s`, `_i -= p` are of values ≤ `_i` (no unsigned wrap), and the new index is below
    `V(n-1, k') ≤ V(n, k)`. -/
theorem cwrsi_step_range (m k i : Nat) (hm : 1 ≤ m) (hi : i < V (m + 1) k) :
    (stepS (m + 1) k i).2.1 ≤ k ∧
    (stepS (m + 1) k i).2.2 < V m (stepS (m + 1) k i).2.1 ∧
    V m (stepS (m + 1) k i).2.1 ≤ V (m + 1) k ∧
    U (m + 1) (stepS (m + 1) k i).2.1 ≤ (if U (m + 1) (k + 1) ≤ i then i - U (m + 1) (k + 1) else i) := by
  obtain ⟨h1, h2, h3, _, _⟩ := step_bounds m k i hi _ _ _ rfl rfl rfl
  exact ⟨h1, h3, V_le hm (by omega) h1, h2⟩


/-! ## `opus_int16 val` and the float accumulator `yy` -/

theorem getPulses_le : ∀ q, q < 41 → getPulses q ≤ 128 := by decide

/-- every reachable pulse count is at most CELT_MAX_PULSES = 128 -/
theorem reach_K_le {N K b : Nat} (h : Reach N K b) : K ≤ 128 := by
  obtain ⟨lm1, band, ci, q, hl, hb, hci, _, hq, _, rfl, _⟩ := h
  have hK := (row_at hl hb hci).short
  have hM : MAX_PSEUDO = 40 := by decide
  exact getPulses_le q (by omega)

theorem coord_le : ∀ (y : List Int), ∀ v ∈ y, v.natAbs ≤ sumAbs y := by
  intro y
  induction y with
  | nil => intro v hv; simp at hv
  | cons a t ih =>
    intro v hv
    simp only [List.mem_cons] at hv
    simp only [sumAbs]
    rcases hv with rfl | hv
    · omega
    · have := ih v hv; omega

theorem sumSq_le : ∀ (y : List Int), sumSq y ≤ sumAbs y * sumAbs y := by
  intro y
  induction y with
  | nil => simp [sumSq, sumAbs]
  | cons a t ih =>
    simp only [sumSq, sumAbs]
    have e : (a.natAbs + sumAbs t) * (a.natAbs + sumAbs t) =
        a.natAbs * a.natAbs + a.natAbs * sumAbs t + (sumAbs t * a.natAbs + sumAbs t * sumAbs t) := by
      rw [Nat.add_mul, Nat.mul_add, Nat.mul_add]
    omega

/-! ## ranges in laplace.c -/

open OpusProofs.Laplace in
/-- Every value the two search loops of laplace.c can hold (`encLoop_eq`, `decLoop_eq`: they only visit indices
    `j ≤ T`): `fl = L j ≤ 32766`, `fs = F j ≤ 16383`, and the product `fs*2*decay` is below 2^32. -/
theorem laplace_ranges {fs decay T : Nat} (hp : Par fs decay T) (hd : decay < 65536) (j : Nat) (hj : j ≤ T) :
    L fs decay j ≤ 32766 ∧ F fs decay j ≤ 16383 ∧ F fs decay j * 2 * decay < 4294967296 := by
  have h1 : L fs decay j ≤ 32766 := Nat.le_trans (L_mono fs decay hj) hp.room
  have h2 : F fs decay j ≤ 16383 := by
    by_cases e : j = T
    · subst e; rw [hp.zero]; omega
    · have := L_succ_le fs decay (show j < T by omega)
      have := hp.room
      omega
  refine ⟨h1, h2, ?_⟩
  have : F fs decay j * 2 * decay ≤ 32766 * 65535 := Nat.mul_le_mul (by omega) (by omega)
  omega

end OpusProofs.CwrsRanges
