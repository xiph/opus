import OpusProofs.RepackExt
import OpusProofs.ExtCount
import OpusProofs.ExtNoRepeat
/-
  C07 (repacketizer): code 3 with extensions (`code3_ext`).  For whatever non-empty byte string `B` the generator
  of src/extensions.c writes for the array `all` (`GenBytes`), the padding of the emitted packet is `0x01 … 0x01`
  followed by `B`.  `genBytes_full`: `B` is C16's `serAll` of the queues (repeat mechanism included); `genBytes_norep`:
  when the generator repeats nothing (C16's `NoRepeat`) that is the canonical serialisation `serBytes` of the stable
  sort of `all` by frame.
-/
namespace Opus.RepackProofs
open Opus Opus.Framing Opus.FramingSpec Opus.FramingProofs Opus.Repack Opus.Ext Opus.ExtProofs

/-- The bytes `opus_packet_extensions_generate` writes for `all` (no repeats). -/
def extSer (all : Array Ext) (nbF : Nat) : Bytes := serBytes 0 (sortedFrom all nbF 0)

/-- What the repacketizer needs of `opus_packet_extensions_generate` for the array `all`: with any
    sufficient buffer it writes the (non-empty) byte string `B`. -/
structure GenBytes (all : Array Ext) (nbF : Nat) (B : Bytes) : Prop where
  ok : ExtsOk all
  gen : ∀ len : Int, (B.length : Int) ≤ len → generate false len all nbF false = .ok B.toArray
  pos : 0 < B.length

/-- Dry run of the generator: the size of `B` when it fits, `BUFFER_TOO_SMALL` otherwise. -/
theorem generateDry_gen (all : Array Ext) (nbF : Nat) (B : Bytes) (hG : GenBytes all nbF B) (len : Int) (hl : 0 ≤ len) :
    generateDry len all nbF false = if (B.length : Int) ≤ len then .ok B.length else .err .bufferTooSmall := by
  rw [generate_dry_eq_written len all nbF false hG.ok]
  have hbig := hG.gen B.length (Int.le_refl _)
  split
  · rename_i hfit
    rw [hG.gen len hfit]
    simp [resSize]
  · rename_i hfit
    have := (generate_exact_and_smaller hG.ok hbig).2 len false false hl (by simp at hfit ⊢; omega)
    rw [this]; rfl

/-- The bytes `opus_packet_extensions_generate` writes for `all` (repeat mechanism included). -/
def fullSer (all : Array Ext) (nbF : Nat) : Bytes := serAll all.size (queues all nbF) 0 0

theorem genBytes_full (all : Array Ext) (nbF : Nat) (hnf : nbF ≤ 48) (hv : AllValid all nbF) (hpos : 0 < all.size) :
    GenBytes all nbF (fullSer all nbF) := by
  refine ⟨allValid_extsOk hv, fun len hfit => (generate_parse_full all nbF hnf hv len hfit all.size (Int.le_refl _)).1, ?_⟩
  obtain ⟨_, refs, hparse, hlen, _⟩ := generate_parse_full all nbF hnf hv (fullSer all nbF).length (Int.le_refl _) all.size (Int.le_refl _)
  apply Decidable.byContradiction
  intro h0
  have hnil : fullSer all nbF = [] := List.length_eq_zero_iff.mp (by omega)
  have hp : parse (fullSer all nbF) (fullSer all nbF).length all.size nbF = .ok refs := hparse
  rw [hnil] at hp
  obtain ⟨it, l, s, hit, hall, _, hl⟩ := count_ok_scan (count_nil nbF hnf)
  rw [parse_iterAll hit hall all.size (by omega), List.eq_nil_of_length_eq_zero hl,
    if_neg (by simp only [List.length_nil]; omega)] at hp
  split at hp <;> cases hp
  simp at hlen; omega

/-- The `NoRepeat` instance: the same bytes, by `serAll_noRepeat`. -/
theorem genBytes_norep (all : Array Ext) (nbF : Nat) (hnf : nbF ≤ 48) (hv : AllValid all nbF) (hnr : NoRepeat all nbF)
    (hpos : 0 < all.size) : GenBytes all nbF (extSer all nbF) := by
  unfold extSer
  rw [← serAll_noRepeat all nbF hv hnr]
  exact genBytes_full all nbF hnf hv hpos

/-- Padding written with extensions: `nb` length bytes 255, a final length byte, `0x01` fill, extensions. -/
def extPad (amount : Int) (ser : Bytes) : Pad :=
  let nb := (amount - 1) / 255
  { n255 := nb.toNat, last := (amount - 255 * nb - 1).toNat,
    bytes := List.replicate (amount - ser.length - nb - 1).toNat 1 ++ ser }

/-- `pad_amount` of the code-3 branch when extensions are present. -/
def extAmount (maxlen tot : Int) (pad : Bool) (L : Nat) : Int :=
  if pad then maxlen - tot else (L : Int) + L / 254 + 1

theorem code3_ext (toc : Nat) (frames : List Bytes) (all : Array Ext) (hpos : 0 < all.size) (B : Bytes)
    (hG : GenBytes all frames.length B)
    (tot0 maxlen : Int) (sdBytes : Bytes) (pad : Bool) :
    code3 toc frames tot0 maxlen sdBytes pad all =
      let L := B.length
      let tot := tot3 (frames.map List.length) tot0
      let amount := extAmount maxlen tot pad L
      if tot > maxlen ∨ maxlen - tot < L ∨ tot + L + (amount - 1) / 255 + 1 > maxlen then .err .bufferTooSmall
      else .ok ([toc / 4 * 4 + 3, frames.length + 64 + (if isVbr (frames.map List.length) then 128 else 0)] ++
                (extPad amount B).hdr ++
                (if isVbr (frames.map List.length) then (frames.map List.length).dropLast.flatMap encLen else []) ++
                sdBytes ++ frames.flatten ++ (extPad amount B).bytes) := by
  have hLpos := hG.pos
  simp only []
  unfold code3
  simp only []
  generalize tot3 (frames.map List.length) tot0 = tot
  by_cases hbig : tot > maxlen
  · rw [if_pos hbig, if_pos (Or.inl hbig)]
  rw [if_neg hbig, if_pos hpos, generateDry_gen all frames.length B hG _ (by omega)]
  by_cases hfit : maxlen - tot < (B.length : Int)
  · rw [if_neg (by omega), if_pos (Or.inr (Or.inl hfit))]
  rw [if_pos (by omega)]
  simp only []
  have ham : (if pad = true then (if pad = true then maxlen - tot else 0)
      else (B.length : Int) + (B.length : Int) / 254 + 1) = extAmount maxlen tot pad B.length := by
    unfold extAmount; cases pad <;> simp
  rw [ham]
  -- all that is used of `pad_amount`
  have hA : 1 ≤ extAmount maxlen tot pad B.length ∧
      (¬ tot + B.length + (extAmount maxlen tot pad B.length - 1) / 255 + 1 > maxlen →
        (B.length : Int) + (extAmount maxlen tot pad B.length - 1) / 255 + 1 ≤ extAmount maxlen tot pad B.length) := by
    unfold extAmount; cases pad <;> simp <;> omega
  generalize extAmount maxlen tot pad B.length = amount at hA ⊢
  rw [if_pos (by omega : amount ≠ 0)]
  by_cases h3 : tot + (B.length : Int) + (amount - 1) / 255 + 1 > maxlen
  · rw [if_pos h3, if_pos (Or.inr (Or.inr h3))]
  have hlay := hA.2 h3
  rw [if_neg h3, if_neg (by omega : ¬ (tot > maxlen ∨ maxlen - tot < (B.length : Int) ∨ _)),
    if_neg (by omega : ¬ (tot + amount - (B.length : Int) < tot + (amount - 1) / 255 + 1)),
    if_neg (by omega : ¬ (pad = true ∧ all.size = 0)), if_pos (by omega : (0 : Int) < (B.length : Int)),
    hG.gen B.length (Int.le_refl _)]
  simp only [List.size_toArray, if_true, extPad, Pad.hdr, vbrSizeBytes_eq]
  rw [show (tot + amount - (B.length : Int) - (tot + (amount - 1) / 255 + 1)).toNat =
    (amount - (B.length : Int) - (amount - 1) / 255 - 1).toNat by omega]
  split <;> simp <;> omega

end Opus.RepackProofs
