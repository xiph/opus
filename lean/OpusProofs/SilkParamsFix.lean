import OpusProofs.SilkParamsSpec
/-
  OpusProofs.SilkParamsFix — facts about the fixed-point vocabulary of OpusModel/SilkParams/Fix.lean that every proof
  about the SILK integer code uses: the narrowing functions `wrap8/16/32`, `sat16` are the identity on (resp. land in)
  the type's range; a narrowing macro (`silk_LSHIFT`, `silk_SMULBB`, `silk_SMULWB`, `silk_SMLAWB`, `silk_SMULWW`,
  `silk_SMMUL`) is the exact operation when the exact value fits; bounds of products and quotients; two computations that several routines share (the PLC pitch drift, the interpolation
  step of `silk_SQRT_APPROX`); the closed form of `silk_RSHIFT_ROUND`; `silk_LIMIT`;
  in-bounds table reads.  Core Lean only, so that files without Mathlib can import it.
-/
namespace Opus.SilkParams

/-- `x` is representable as `opus_int32`. -/
def I32 (x : Int) : Prop := -2147483648 ≤ x ∧ x ≤ 2147483647

instance (x : Int) : Decidable (I32 x) := by unfold I32; infer_instance

/-- `x` is representable as `opus_int64`. -/
def I64 (x : Int) : Prop := -9223372036854775808 ≤ x ∧ x ≤ 9223372036854775807

instance (x : Int) : Decidable (I64 x) := by unfold I64; infer_instance

/-! ### narrowing -/

theorem wrap8_id {x : Int} (h0 : -128 ≤ x) (h1 : x ≤ 127) : wrap8 x = x := by unfold wrap8; omega

theorem wrap16_id {x : Int} (h : I16 x) : wrap16 x = x := by
  unfold I16 at h; unfold wrap16; omega

theorem wrap16_I16 (x : Int) : I16 (wrap16 x) := by
  unfold wrap16 I16; omega

theorem wrap32_id {x : Int} (h : I32 x) : wrap32 x = x := by
  unfold I32 at h; unfold wrap32; omega

theorem wrap32_I32 (x : Int) : I32 (wrap32 x) := by unfold I32 wrap32; omega

theorem sat16_I16 (x : Int) : I16 (sat16 x) := by
  unfold sat16 I16
  split
  · omega
  · split <;> omega

theorem I32_of_abs {x b : Int} (h1 : -b ≤ x) (h2 : x ≤ b) (hb : b ≤ 2147483647) : I32 x := by
  unfold I32; omega

theorem I16_I32 {x : Int} (h : I16 x) : I32 x := by unfold I16 at h; unfold I32; omega

/-! ### a narrowing macro is the exact operation when the exact value fits -/

theorem lshift32_eq {a : Int} {n : Nat} (h : I32 (a * 2 ^ n)) : lshift32 a n = a * 2 ^ n := wrap32_id h

theorem smulbb_eq {a b : Int} (ha : I16 a) (hb : I16 b) : smulbb a b = a * b := by
  unfold smulbb; rw [wrap16_id ha, wrap16_id hb]

theorem smulwb_eq {a b : Int} (hb : I16 b) (h : I32 (a * b / 65536)) : smulwb a b = a * b / 65536 := by
  unfold smulwb; rw [wrap16_id hb, wrap32_id h]

theorem smlawb_eq {a b c : Int} (hc : I16 c) (h : I32 (a + b * c / 65536)) :
    smlawb a b c = a + b * c / 65536 := by
  unfold smlawb; rw [wrap16_id hc, wrap32_id h]

theorem smulww_eq {a b : Int} (h : I32 (a * b / 65536)) : smulww a b = a * b / 65536 := wrap32_id h

theorem smmul_eq {a b : Int} (h : I32 (a * b / 4294967296)) : smmul a b = a * b / 4294967296 := wrap32_id h

/-! ### bounds of products and quotients, stated about variables: the range proofs instantiate them and leave only
    linear arithmetic on the results -/

/-- A product of two factors bounded in magnitude is bounded by the product of the bounds (the four products
    `(A ∓ a) * (B ∓ b)` are non-negative). -/
theorem mul_abs_le {a b A B : Int} (ha : -A ≤ a ∧ a ≤ A) (hb : -B ≤ b ∧ b ≤ B) :
    -(A * B) ≤ a * b ∧ a * b ≤ A * B := by
  have h1 : 0 ≤ (A - a) * (B - b) := Int.mul_nonneg (by omega) (by omega)
  have h2 : 0 ≤ (A + a) * (B + b) := Int.mul_nonneg (by omega) (by omega)
  have h3 : 0 ≤ (A - a) * (B + b) := Int.mul_nonneg (by omega) (by omega)
  have h4 : 0 ≤ (A + a) * (B - b) := Int.mul_nonneg (by omega) (by omega)
  constructor <;> grind

theorem mul_nonneg_le {a b A B : Int} (ha : 0 ≤ a ∧ a ≤ A) (hb : 0 ≤ b ∧ b ≤ B) :
    0 ≤ a * b ∧ a * b ≤ A * B :=
  ⟨Int.mul_nonneg ha.1 hb.1, Int.mul_le_mul ha.2 hb.2 hb.1 (by omega)⟩

theorem self_mul_nonneg (a : Int) : 0 ≤ a * a := by
  rcases Int.le_total 0 a with h | h
  · exact Int.mul_nonneg h h
  · exact Int.mul_nonneg_of_nonpos_of_nonpos h h

theorem ediv_between {a d lo hi : Int} (hd : 0 < d) (hlo : lo ≤ 0) (hhi : 0 ≤ hi) (h : lo ≤ a ∧ a ≤ hi) :
    lo ≤ a / d ∧ a / d ≤ hi := by
  constructor
  · refine Int.le_ediv_of_mul_le hd ?_
    have : lo * d ≤ lo * 1 := Int.mul_le_mul_of_nonpos_left hlo (by omega)
    omega
  · refine Int.ediv_le_of_le_mul hd ?_
    have : hi * 1 ≤ hi * d := Int.mul_le_mul_of_nonneg_left (by omega) hhi
    omega

theorem shrI_I32 {a : Int} (h : I32 a) (n : Nat) : I32 (shrI a n) :=
  ediv_between (Int.pow_pos (by decide)) (by decide) (by decide) h

theorem shrI_le (a : Int) (k n : Nat) (ha : 0 ≤ a) (h : k ≤ n) : 0 ≤ shrI a n ∧ shrI a n ≤ a / 2 ^ k := by
  obtain ⟨d, rfl⟩ : ∃ d, n = k + d := ⟨n - k, by omega⟩
  unfold shrI
  have hk : (0 : Int) ≤ 2 ^ k := Int.le_of_lt (Int.pow_pos (by omega))
  rw [Int.pow_add, ← Int.ediv_ediv_of_nonneg hk]
  exact ⟨Int.ediv_nonneg (Int.ediv_nonneg ha hk) (Int.le_of_lt (Int.pow_pos (by omega))),
    Int.ediv_le_self _ (Int.ediv_nonneg ha hk)⟩

/-- C's truncating division by `w ≥ 1` does not increase the magnitude. -/
theorem tdiv_abs_le (a w : Int) (hw : 1 ≤ w) (B : Int) (ha : -B ≤ a ∧ a ≤ B) :
    -B ≤ Int.tdiv a w ∧ Int.tdiv a w ≤ B := by
  rcases Int.le_total 0 a with h | h
  · rw [Int.tdiv_eq_ediv_of_nonneg h]
    have h1 : 0 ≤ a / w := Int.ediv_nonneg h (by omega)
    have h2 : a / w ≤ a := Int.ediv_le_self w h
    omega
  · have hneg : Int.tdiv a w = -(Int.tdiv (-a) w) := by rw [Int.neg_tdiv, Int.neg_neg]
    rw [hneg, Int.tdiv_eq_ediv_of_nonneg (by omega)]
    have h1 : 0 ≤ -a / w := Int.ediv_nonneg (by omega) (by omega)
    have h2 : -a / w ≤ -a := Int.ediv_le_self w (by omega)
    omega

/-- `(c * x) >> 16` for a Q16 factor `0 ≤ c ≤ 1` moves `x` towards zero (never past it). -/
theorem mulshift16_between (c x : Int) (h0 : 0 ≤ c) (h1 : c ≤ 65536) :
    min x 0 ≤ c * x / 65536 ∧ c * x / 65536 ≤ max x 0 := by
  rcases Int.le_total 0 x with hx | hx
  · have h2 : 0 ≤ c * x := Int.mul_nonneg h0 hx
    have h3 : c * x ≤ 65536 * x := Int.mul_le_mul_of_nonneg_right h1 hx
    omega
  · have h2 : c * x ≤ 0 := Int.mul_nonpos_of_nonneg_of_nonpos h0 hx
    have h3 : 65536 * x ≤ c * x := Int.mul_le_mul_of_nonpos_right h1 hx
    omega

theorem two_pow_le {n m : Nat} (h : n ≤ m) : (2 : Int) ^ n ≤ (2 : Int) ^ m := by
  have := Nat.pow_le_pow_right (n := 2) (by decide) h
  exact_mod_cast this

/-- `silk_CLZ32` of a positive value locates its highest set bit `e`: `2^e ≤ x < 2^(e+1)`. -/
theorem clz32_pos {x : Int} (h : 0 < x) :
    ∃ e : Nat, clz32 x = 31 - (e : Int) ∧ (2 : Int) ^ e ≤ x ∧ x < (2 : Int) ^ (e + 1) := by
  obtain ⟨n, rfl⟩ : ∃ n : Nat, x = (n : Int) := ⟨x.toNat, (Int.toNat_of_nonneg (by omega)).symm⟩
  have hne : n ≠ 0 := by omega
  refine ⟨Nat.log2 n, ?_, by exact_mod_cast Nat.log2_self_le hne, by exact_mod_cast Nat.lt_log2_self⟩
  unfold clz32
  rw [if_neg (by omega), if_neg (by omega), Int.toNat_natCast]
  omega

/-- `pitchL_Q8 + ((pitchL_Q8 * PITCH_DRIFT_FAC_Q16) >> 16)` (PLC.c:360) on a non-negative value below `2^24`: no wrap. -/
theorem smlawb_drift {p : Int} (h : 0 ≤ p ∧ p ≤ 16777216) : smlawb p p 655 = p + p * 655 / 65536 :=
  smlawb_eq (by decide) (And.intro (by omega) (by omega))

/-- The interpolation step `y + (y·(213·frac) >> 16)` of `silk_SQRT_APPROX` (Inlines.h:88) is monotone in `y ≥ 0`, and nothing
    wraps since `213·frac ≤ 27051 < 2^15`. -/
theorem sqrtInterp (y Y frac : Int) (hy : 0 ≤ y ∧ y ≤ Y) (hY : Y ≤ 46214) (hf : 0 ≤ frac ∧ frac ≤ 127) :
    0 ≤ smlawb y y (smulbb 213 frac) ∧ smlawb y y (smulbb 213 frac) ≤ Y + Y * 27051 / 65536 := by
  have h0 : 0 ≤ y * (213 * frac) := Int.mul_nonneg hy.1 (by omega)
  have h1 : y * (213 * frac) ≤ Y * 27051 := Int.mul_le_mul hy.2 (by omega) (by omega) (by omega)
  rw [smulbb_eq (by unfold I16; omega) (by unfold I16; omega), smlawb_eq (by unfold I16; omega) (by unfold I32; omega)]
  omega

/-! ### `silk_RSHIFT_ROUND` -/

/-- `silk_RSHIFT_ROUND(a, s)`, `s ≥ 2`, is `floor((a + 2^(s-1)) / 2^s)`.  The two powers are variables `h`, `m`, so that an
    instance is closed by evaluating one literal power. -/
theorem rshiftRound_eq {s : Nat} {h m : Int} (hs : s ≠ 1) (hh : (2 : Int) ^ (s - 1) = h) (hm : 2 * h = m) (h0 : 0 < h)
    (a : Int) : rshiftRound a s = (a + h) / m := by
  unfold rshiftRound
  rw [if_neg hs, hh, ← hm, ← Int.add_mul_ediv_left a 1 (Int.ne_of_gt h0), Int.mul_one,
    Int.ediv_ediv_of_nonneg (Int.le_of_lt h0), Int.mul_comm]

theorem rshiftRound4 (a : Int) : rshiftRound a 4 = (a + 8) / 16 := rshiftRound_eq (by decide) (by decide) rfl (by decide) a

theorem rshiftRound5 (a : Int) : rshiftRound a 5 = (a + 16) / 32 := rshiftRound_eq (by decide) (by decide) rfl (by decide) a

theorem rshiftRound8 (a : Int) : rshiftRound a 8 = (a + 128) / 256 := rshiftRound_eq (by decide) (by decide) rfl (by decide) a

theorem rshiftRound16 (a : Int) : rshiftRound a 16 = (a + 32768) / 65536 :=
  rshiftRound_eq (by decide) (by decide) rfl (by decide) a

/-! ### `silk_abs`, `silk_LIMIT`, table reads -/

theorem sabs_nonneg (x : Int) : 0 ≤ sabs x := by unfold sabs; split <;> omega

theorem sabs_le {x b : Int} (h1 : -b ≤ x) (h2 : x ≤ b) : sabs x ≤ b := by
  unfold sabs; split <;> omega

theorem le_sabs (x : Int) : x ≤ sabs x ∧ -x ≤ sabs x := by unfold sabs; split <;> omega

theorem limit_eq (a l1 l2 : Int) (h : l1 ≤ l2) : limit a l1 l2 = max l1 (min a l2) := by
  unfold limit
  split
  · omega
  · split
    · omega
    · split <;> omega

theorem limit_range (a lo hi : Int) (h : lo ≤ hi) : lo ≤ limit a lo hi ∧ limit a lo hi ≤ hi := by
  rw [limit_eq a lo hi h]
  omega

/-- `silk_LIMIT` is monotone and 1-Lipschitz. -/
theorem limit_lip (a b lo hi d : Int) (h : lo ≤ hi) (hd : 0 ≤ d) (hab : a - b ≤ d) :
    limit a lo hi - limit b lo hi ≤ d := by
  rw [limit_eq a lo hi h, limit_eq b lo hi h]
  omega

/-- An in-bounds read is `getD`. -/
theorem getI_eq {l : List Int} {i : Int} (h0 : 0 ≤ i) (h1 : i.toNat < l.length) :
    getI l i = .ok (l.getD i.toNat 0) := by
  unfold getI
  rw [if_neg (by omega), List.getD_eq_getElem?_getD, List.getElem?_eq_getElem h1]
  rfl

theorem getI_ok (l : List Int) (i : Int) (h0 : 0 ≤ i) (h1 : i.toNat < l.length) :
    ∃ v, getI l i = .ok v := ⟨_, getI_eq h0 h1⟩

theorem getI_mem {l : List Int} {i v : Int} (h : getI l i = .ok v) : v ∈ l := by
  unfold getI at h
  split at h
  · cases h
  · split at h
    · rename_i w hw
      cases h
      exact List.mem_of_getElem? hw
    · cases h

/-- What holds of every entry and of the default holds of every `getD`, in or out of bounds. -/
theorem getD_of_all {P : Int → Prop} {l : List Int} {d : Int} (h : ∀ e ∈ l, P e) (hd : P d) (n : Nat) : P (l.getD n d) := by
  rw [List.getD_eq_getElem?_getD]
  cases hn : l[n]? with
  | none => exact hd
  | some v => exact h v (List.mem_of_getElem? hn)

/-- With `List.forall_mem_cons` a statement about every entry of an explicit trace list becomes one conjunction. -/
theorem forall_mem_nil_iff (p : Int → Prop) : (∀ v ∈ ([] : List Int), p v) ↔ True := by simp

end Opus.SilkParams
