import OpusProofs.RangeCoderPatchRun
/-
  OpusProofs.RangeCoderFlags — C08, the SILK header flags (silk/enc_API.c:346-351, 527-539;
  silk/dec_API.c:226-234): the encoder reserves `k` bits with one `ec_enc_icdf` symbol of probability
  `2^-k`, later overwrites them with `ec_enc_patch_initial_bits(flags, k)`; the decoder reads them
  with `k` calls `ec_dec_bit_logp(·, 1)`.
-/
namespace Opus.RangeCoder

/-- `k` bits of `w`, most significant first, each read/written with `ec_*_bit_logp(·, 1)`. -/
def bitsOps (w : Nat) : Nat → List Op
  | 0 => []
  | k + 1 => .bitLogp (w / 2 ^ k % 2) 1 :: bitsOps (w % 2 ^ k) k

theorem bitsOps_length (w k : Nat) : (bitsOps w k).length = k := by
  induction k generalizing w with
  | zero => rfl
  | succ k ih => simp [bitsOps, ih]

theorem bitsState_done (buf : List Nat) (size j v : Nat) (hj : j ≤ 7) :
    encNormalize (bitsState buf size j v) = bitsState buf size j v := by
  apply encNormalize_done
  show ¬ (0 < 2 ^ (31 - j) ∧ 2 ^ (31 - j) ≤ 8388608)
  have : 2 ^ 24 ≤ 2 ^ (31 - j) := Nat.pow_le_pow_right (by decide) (by omega)
  omega

theorem bit_step (buf : List Nat) (size j v b : Nat) (hj : j ≤ 7) (hv : v < 2 ^ j) :
    encOp (bitsState buf size j v) (.bitLogp b 1) =
      encNormalize (bitsState buf size (j + 1) (2 * v + (if b ≠ 0 then 1 else 0))) := by
  have e1 : 31 - j = (31 - (j + 1)) + 1 := by omega
  have hR : 2 ^ (31 - j) = 2 * 2 ^ (31 - (j + 1)) := by rw [e1, Nat.pow_succ, Nat.mul_comm]
  have hR'hi : 2 ^ (31 - (j + 1)) ≤ 2 ^ 30 := Nat.pow_le_pow_right (by decide) (by omega)
  have hR'pos : 0 < 2 ^ (31 - (j + 1)) := Nat.pow_pos (by decide)
  have hvR := cell_end_le (m := 31) (by omega) hv
  show encBitLogp (bitsState buf size j v) b 1 = _
  rw [encBitLogp_form]
  unfold bitsState
  rw [setVR_val, setVR_rng, setVR_setVR, Nat.pow_one, hR]
  rw [hR] at hvR
  generalize 2 ^ (31 - (j + 1)) = R' at *
  have ed : 2 * R' / 2 = R' := by omega
  rw [ed, sub32_of_le (by omega) (by omega)]
  have es : 2 * R' - R' = R' := by omega
  rw [es]
  by_cases hb : b ≠ 0
  · rw [if_pos hb, if_pos hb, if_pos hb, add32_of_lt (by omega)]
    have : v * (2 * R') + R' = (2 * v + 1) * R' := by
      rw [Nat.add_mul, Nat.one_mul, Nat.mul_left_comm, Nat.mul_assoc]
    rw [this]
  · rw [if_neg hb, if_neg hb, if_neg hb]
    have : v * (2 * R') = (2 * v + 0) * R' := by
      rw [Nat.add_zero, Nat.mul_left_comm, Nat.mul_assoc]
    rw [this]

theorem bits_chain (buf : List Nat) (size : Nat) : ∀ (n j v w : Nat), j ≤ 7 → j + n ≤ 8 → v < 2 ^ j → w < 2 ^ n →
    encRun (bitsState buf size j v) (bitsOps w n) = encNormalize (bitsState buf size (j + n) (v * 2 ^ n + w))
  | 0, j, v, w, hj, _, _, hw => by
    have : w = 0 := by simpa using hw
    subst this
    simp only [bitsOps, encRun, Nat.pow_zero, Nat.mul_one, Nat.add_zero]
    exact (bitsState_done buf size j v hj).symm
  | n + 1, j, v, w, hj, hjn, hv, hw => by
    have hP : 0 < 2 ^ n := Nat.pow_pos (by decide)
    have hq : w / 2 ^ n < 2 := by
      rw [Nat.div_lt_iff_lt_mul hP, Nat.mul_comm, ← Nat.pow_succ]; exact hw
    have hb : (if w / 2 ^ n % 2 ≠ 0 then 1 else 0) = w / 2 ^ n := by
      generalize w / 2 ^ n = q at hq ⊢
      by_cases h : q % 2 ≠ 0
      · rw [if_pos h]; omega
      · rw [if_neg h]; omega
    have e1 : j + 1 + n = j + (n + 1) := by omega
    have e2 : (2 * v + w / 2 ^ n) * 2 ^ n + w % 2 ^ n = v * 2 ^ (n + 1) + w := by
      have := Nat.div_add_mod w (2 ^ n)
      rw [Nat.add_mul, Nat.pow_succ, Nat.mul_comm 2 v, Nat.mul_assoc, Nat.mul_comm 2 (2 ^ n), Nat.mul_comm (w / 2 ^ n)]
      omega
    have hv' : 2 * v + w / 2 ^ n < 2 ^ (j + 1) := by rw [Nat.pow_succ]; omega
    simp only [bitsOps, encRun]
    rw [bit_step buf size j v _ hj hv, hb]
    by_cases h7 : j + 1 ≤ 7
    · rw [bitsState_done buf size (j + 1) _ h7,
        bits_chain buf size n (j + 1) (2 * v + w / 2 ^ n) (w % 2 ^ n) h7 (by omega) hv' (Nat.mod_lt _ hP), e1, e2]
    · -- the eighth bit: nothing follows it
      have hn0 : n = 0 := by omega
      subst hn0
      simp only [bitsOps, encRun, Nat.pow_zero, Nat.div_one, Nat.mod_one, Nat.add_zero, Nat.zero_add, Nat.pow_one] at *
      rw [Nat.mul_comm v 2]

theorem encInit_bitsState (buf : List Nat) (size : Nat) : encInit buf size = bitsState buf size 0 0 := by
  unfold bitsState setVR
  rw [Nat.zero_mul]
  rfl

theorem bits_state (buf : List Nat) (size k w : Nat) (hk8 : k ≤ 8) (hw : w < 2 ^ k) :
    encRun (encInit buf size) (bitsOps w k) = encNormalize (bitsState buf size k w) := by
  rw [encInit_bitsState, bits_chain buf size k 0 0 w (by omega) (by omega) (by decide) hw, Nat.zero_mul,
    Nat.zero_add, Nat.zero_add]

/-- `k ≤ 8` single bits put a fresh encoder into the state of one `ec_encode_bin`. -/
theorem bits_eq_bin (buf : List Nat) (size k w : Nat) (hs : size ≤ buf.length) (hb : BytesOk buf) (hk1 : 1 ≤ k)
    (hk8 : k ≤ 8) (hw : w < 2 ^ k) :
    encRun (encInit buf size) (bitsOps w k) = encOp (encInit buf size) (.encodeBin w (w + 1) k) :=
  (bits_state buf size k w hk8 hw).trans (bin_state buf size k w hs hb hk1 hk8 hw).1.symm

theorem bitsOps_prim : ∀ (w n : Nat), ∀ op ∈ bitsOps w n, op.isPrim = true ∧ op.Legal
  | w, 0 => by intro op h; simp [bitsOps] at h
  | w, n + 1 => by
    intro op h
    simp only [bitsOps, List.mem_cons] at h
    rcases h with rfl | h
    · exact ⟨rfl, Nat.le_refl 1, by decide⟩
    · exact bitsOps_prim (w % 2 ^ n) n op h

/-- The inverse-CDF table `{256 - (256 >> k), 0}` of the SILK flag placeholder (enc_API.c:349-350). -/
def flagTable (k : Nat) : List Nat := [256 - 256 / 2 ^ k, 0]

theorem flagTable_legal (k : Nat) (h1 : 1 ≤ k) (h8 : k ≤ 8) : (Op.icdf 0 (flagTable k) 8).Legal := by
  rcases (show k = 1 ∨ k = 2 ∨ k = 3 ∨ k = 4 ∨ k = 5 ∨ k = 6 ∨ k = 7 ∨ k = 8 by omega) with
    h | h | h | h | h | h | h | h <;> (subst h; decide)

/-- On a fresh encoder the placeholder `ec_enc_icdf(0, {256 - (256 >> k), 0}, 8)` is the same call as
    `ec_encode_bin(0, 1, k)`: both leave the interval `[0, 2^(31-k))`. -/
theorem flag_placeholder_eq (buf : List Nat) (size k : Nat) (h1 : 1 ≤ k) (h8 : k ≤ 8) :
    encOp (encInit buf size) (.icdf 0 (flagTable k) 8) = encOp (encInit buf size) (.encodeBin 0 1 k) := by
  rcases (show k = 1 ∨ k = 2 ∨ k = 3 ∨ k = 4 ∨ k = 5 ∨ k = 6 ∨ k = 7 ∨ k = 8 by omega) with
    h | h | h | h | h | h | h | h <;>
    (subst h
     simp only [encOp, encIcdf, encodeBin, flagTable]
     apply congrArg encNormalize
     rw [if_neg (Nat.lt_irrefl 0), if_neg (Nat.lt_irrefl 0)]
     apply ctx_eq <;> (first | rfl | (simp only [encInit]; decide)))

/-- Like `first_dec`, but the decoder reads the first `n` bits with `n` calls `ec_dec_bit_logp(·, 1)`:
    it obtains the bits of `w`, most significant first, and mirrors the encoder after `ec_encode_bin(fl, fl+1, n)`.
    The decoder side is the round trip (`run_decode`) for the encoder of `first_ghost`, which coded these `n` bits. -/
theorem flags_first (B : List Nat) (hB : BytesOk B) (S : Nat) (hS : 0 < S) (hBl : 0 < B.length)
    (buf : List Nat) (size n fl w : Nat) (hs : size ≤ buf.length) (hb : BytesOk buf)
    (hn1 : 1 ≤ n) (hn8 : n ≤ 8) (hfl : fl < 2 ^ n) (hw : w < 2 ^ n) (hBw : setTop B n w = B)
    (hc : Contains (setTop B n fl) S (encOp (encInit buf size) (.encodeBin fl (fl + 1) n))) :
    MatchAll (bitsOps w n) (decRun (decInit B S) (bitsOps w n)).1 ∧
    DecAll B S (encOp (encInit buf size) (.encodeBin fl (fl + 1) n))
      (decRun (decInit B S) (bitsOps w n)).2 (setTop B n fl) := by
  obtain ⟨hnw, ew, hq, hcw, back⟩ := first_ghost B S hS hBl buf size n fl w hs hb hn1 hn8 hfl hw hBw hc
  have ri0 := runInv_encInit buf size hs hb
  have riw := (step_op _ (.encodeBin w (w + 1) n) ri0 ⟨by omega, by omega, hn1, by omega⟩ hnw ew).run
  rw [← bits_eq_bin buf size n w hs hb hn1 hn8 hw] at hnw ew hcw back riw hq
  have hr : RawC B S (encRun (encInit buf size) (bitsOps w n)) := by
    unfold rawN at hq
    exact rawC_of_noRaw B S _ riw.raw (by omega) (by omega)
  obtain ⟨m, a⟩ := run_decode B hB S B (fun _ _ => rfl) (fun i => byteAt_lt_bytesOk hB S i) (bitsOps w n)
    (encInit buf size) (decInit B S) ri0 (prim_legalRun (bitsOps w n) (bitsOps_prim w n) _)
    (decInit_spec B hB S buf size) hnw ew hcw hr
  exact ⟨m, back _ a⟩

/-- The patched round trip after the placeholder, for ANY cut `pre | suf` of the patch-style run and any byte stream
    `(B, S)` whose code value lies in the final interval and whose tail holds the raw bits of `pre`: the decoder, having read
    the `k` flag bits the stream starts with (the value last patched in the WHOLE run), returns the values of `pre` and
    mirrors the encoder after `pre` — relative to the stream whose first bits are put back to what was patched up to there
    (`B` itself once the last patch lies in `pre`, `setTop_self`).
    (`0 + 1` in `he1`: the form in which `first_ok` and `flags_first` at `fl = 0` state the placeholder.) -/
theorem flags_stream_any (buf : List Nat) (size k : Nat) (pre suf : List Op) (hs : size ≤ buf.length)
    (hb : BytesOk buf) (hk1 : 1 ≤ k) (hk8 : k ≤ 8) {e1 : Enc}
    (he1 : encOp (encInit buf size) (.encodeBin 0 (0 + 1) k) = e1) (hl : LegalRunP k e1 (pre ++ suf))
    (hnF : (encRun e1 (pre ++ suf)).nbitsTotal < 4294967296) (herrF : (encRun e1 (pre ++ suf)).error = 0) :
    Cell k (lastPatch 0 (pre ++ suf)) (encRun e1 (pre ++ suf)) ∧
    ∀ (B : List Nat) (S : Nat), BytesOk B → 0 < S → 0 < B.length → Contains B S (encRun e1 (pre ++ suf)) →
      RawC B S (encRun e1 pre) →
      MatchAll (bitsOps (lastPatch 0 (pre ++ suf)) k ++ pre)
        (decRun (decInit B S) (bitsOps (lastPatch 0 (pre ++ suf)) k ++ pre)).1 ∧
      DecAll B S (encRun e1 pre) (decRun (decInit B S) (bitsOps (lastPatch 0 (pre ++ suf)) k ++ pre)).2
        (setTop B k (lastPatch 0 pre)) := by
  have hfl : 0 < 2 ^ k := Nat.pow_pos (by decide)
  obtain ⟨ri1, hcell1⟩ : RunInv e1 ∧ Cell k 0 e1 := by
    rw [← he1]; exact first_ok buf size k 0 hs hb hk1 hk8 hfl
  obtain ⟨-, cellF, key⟩ := patched_stream pre suf ri1 hcell1 hl hnF herrF
  refine ⟨cellF, fun B S hB hS hBl hc hr => ?_⟩
  obtain ⟨hself, hc1, dec⟩ := key B S hB hS hBl hc
  obtain ⟨m0, a0⟩ := flags_first B hB S hS hBl buf size k 0 _ hs hb hk1 hk8 hfl cellF.t_lt hself
    (by rw [he1]; exact hc1)
  rw [he1] at a0
  obtain ⟨m1, a1⟩ := dec _ hr a0
  rw [decRun_append]
  exact ⟨matchAll_append m0 m1, a1⟩

/-- `flags_stream_any` with the placeholder as `silk_Encode` writes it, the last patch in `pre`: the hand-over from the
    SILK part and the redundancy flags (`pre`) to the CELT part (`suf`) of a hybrid frame.  Second clause: lock step at
    EVERY earlier point `P` of `pre`, before or behind the patch — there the decoder has the encoder's `rng` and
    `nbits_total` (what `silk_Decode` reports when a call returns). -/
theorem decode_flags_prefix_stream (buf : List Nat) (size k : Nat) (pre suf : List Op) (hs : size ≤ buf.length)
    (hb : BytesOk buf) (hk1 : 1 ≤ k) (hk8 : k ≤ 8)
    (hl : LegalRunP k (encOp (encInit buf size) (.icdf 0 (flagTable k) 8)) pre)
    (hl2 : LegalRun (encRun (encInit buf size) (.icdf 0 (flagTable k) 8 :: pre)) suf)
    (hnF : (encRun (encInit buf size) (.icdf 0 (flagTable k) 8 :: (pre ++ suf))).nbitsTotal < 4294967296)
    (herrF : (encRun (encInit buf size) (.icdf 0 (flagTable k) 8 :: (pre ++ suf))).error = 0)
    (B : List Nat) (S : Nat) (hB : BytesOk B) (hS : 0 < S) (hBl : 0 < B.length)
    (hc : Contains B S (encRun (encInit buf size) (.icdf 0 (flagTable k) 8 :: (pre ++ suf))))
    (hr : RawC B S (encRun (encInit buf size) (.icdf 0 (flagTable k) 8 :: pre))) :
    (MatchAll (bitsOps (lastPatch 0 pre) k ++ pre)
      (decRun (decInit B S) (bitsOps (lastPatch 0 pre) k ++ pre)).1 ∧
    DecAll B S (encRun (encInit buf size) (.icdf 0 (flagTable k) 8 :: pre))
      (decRun (decInit B S) (bitsOps (lastPatch 0 pre) k ++ pre)).2 B) ∧
    ∀ P Q, pre = P ++ Q →
      (decRun (decInit B S) (bitsOps (lastPatch 0 pre) k ++ P)).2.rng =
        (encRun (encInit buf size) (.icdf 0 (flagTable k) 8 :: P)).rng ∧
      (decRun (decInit B S) (bitsOps (lastPatch 0 pre) k ++ P)).2.nbitsTotal =
        (encRun (encInit buf size) (.icdf 0 (flagTable k) 8 :: P)).nbitsTotal := by
  simp only [encRun] at hl2 hnF herrF hc hr ⊢
  rw [flag_placeholder_eq buf size k hk1 hk8] at hl hl2 hnF herrF hc hr ⊢
  obtain ⟨ri1, hcell1⟩ := first_ok buf size k 0 hs hb hk1 hk8 (Nat.pow_pos (by decide))
  have hlF : LegalRunP k (encOp (encInit buf size) (.encodeBin 0 1 k)) (pre ++ suf) :=
    (legalRunP_append k pre suf _).2 ⟨hl, legalRunP_of_legalRun k suf _ hl2⟩
  have hW : lastPatch 0 (pre ++ suf) = lastPatch 0 pre := by rw [lastPatch_append, lastPatch_legalRun _ suf _ hl2]
  -- the cut `P | Q ++ suf` of the run; the raw bits of `P` are among those of `pre`
  have cut : ∀ P Q, pre = P ++ Q →
      MatchAll (bitsOps (lastPatch 0 pre) k ++ P) (decRun (decInit B S) (bitsOps (lastPatch 0 pre) k ++ P)).1 ∧
      DecAll B S (encRun (encOp (encInit buf size) (.encodeBin 0 1 k)) P)
        (decRun (decInit B S) (bitsOps (lastPatch 0 pre) k ++ P)).2 (setTop B k (lastPatch 0 P)) := by
    intro P Q hPQ
    subst hPQ
    obtain ⟨hnPQ, herrPQ⟩ := encRun_ok_of_append hnF herrF
    have hrP := rawC_backP P Q ri1 hcell1 hl hnPQ herrPQ B S hr
    rw [List.append_assoc] at hlF hW hnF herrF hc
    have h := (flags_stream_any buf size k P (Q ++ suf) hs hb hk1 hk8 rfl hlF hnF herrF).2 B S hB hS hBl hc hrP
    rw [hW] at h
    exact h
  refine ⟨?_, fun P Q hPQ => ⟨(cut P Q hPQ).2.rc.rng_eq, (cut P Q hPQ).2.rc.nbits_eq⟩⟩
  have h := cut pre [] (List.append_nil _).symm
  have cellF := (flags_stream_any buf size k pre suf hs hb hk1 hk8 rfl hlF hnF herrF).1
  rw [hW] at cellF
  rw [setTop_self B S k _ _ hS (fun i => byteAt_lt_bytesOk hB S i) hc cellF] at h
  exact h

/-- A SILK-flag run (placeholder as `silk_Encode` writes it, then a patch-style list) that ends error-free: run
    invariant, exact bit accounting, and the interval lies in the cell of the bits last patched (so that the finished
    buffer is not empty, `Cell.storage_pos`). -/
theorem flags_run_facts (buf : List Nat) (size k : Nat) (ops : List Op) (hs : size ≤ buf.length)
    (hb : BytesOk buf) (hk1 : 1 ≤ k) (hk8 : k ≤ 8)
    (hl : LegalRunP k (encOp (encInit buf size) (.icdf 0 (flagTable k) 8)) ops)
    (hnF : (encRun (encInit buf size) (.icdf 0 (flagTable k) 8 :: ops)).nbitsTotal < 4294967296)
    (herrF : (encRun (encInit buf size) (.icdf 0 (flagTable k) 8 :: ops)).error = 0) :
    RunInv (encRun (encInit buf size) (.icdf 0 (flagTable k) 8 :: ops)) ∧
    Acct (encRun (encInit buf size) (.icdf 0 (flagTable k) 8 :: ops)) ∧
    Cell k (lastPatch 0 ops) (encRun (encInit buf size) (.icdf 0 (flagTable k) 8 :: ops)) := by
  simp only [encRun] at hnF herrF ⊢
  rw [flag_placeholder_eq buf size k hk1 hk8] at hl hnF herrF ⊢
  have hfl : 0 < 2 ^ k := Nat.pow_pos (by decide)
  obtain ⟨ri1, hcell1⟩ := first_ok buf size k 0 hs hb hk1 hk8 hfl
  have ac1 : Acct (encOp (encInit buf size) (.encodeBin 0 1 k)) :=
    acct_op _ _ (runInv_encInit buf size hs hb) (acct_encInit buf size) ⟨by omega, by omega, hk1, by omega⟩
      (encRun_ok hnF herrF).1 (encRun_ok hnF herrF).2
  obtain ⟨_, riF, cellF, _, _, acF⟩ := run_backP k _ _ 0 ri1 hcell1 hl hnF herrF
  exact ⟨riF, acF ac1, cellF⟩

/-- **SILK header flags.**  The encoder's first call is the placeholder
    `ec_enc_icdf(0, {256 - (256 >> k), 0}, 8)` (`1 ≤ k ≤ 8`), the rest are the operations of the round
    trip plus any number of `ec_enc_patch_initial_bits(flags, k)`.  If `ec_enc_done` reports no error,
    a decoder that starts with `k` calls `ec_dec_bit_logp(·, 1)` reads the bits of the last patched
    `flags` value, most significant first (all zero if nothing was patched), then decodes every other
    operation to the encoded value, and ends in lock-step with the encoder. -/
theorem decode_encode_flags_all (buf : List Nat) (size k : Nat) (rest : List Op) (hs : size ≤ buf.length)
    (hb : BytesOk buf) (hk1 : 1 ≤ k) (hk8 : k ≤ 8)
    (hl : LegalRunP k (encOp (encInit buf size) (.icdf 0 (flagTable k) 8)) rest)
    (hnb : (encodeAll buf size (.icdf 0 (flagTable k) 8 :: rest)).nbitsTotal < 4294967296)
    (herr : (encodeAll buf size (.icdf 0 (flagTable k) 8 :: rest)).error = 0) :
    MatchAll (bitsOps (lastPatch 0 rest) k ++ rest)
      (decRun (decInit ((encodeAll buf size (.icdf 0 (flagTable k) 8 :: rest)).buf.take
        (encodeAll buf size (.icdf 0 (flagTable k) 8 :: rest)).storage)
        (encodeAll buf size (.icdf 0 (flagTable k) 8 :: rest)).storage)
        (bitsOps (lastPatch 0 rest) k ++ rest)).1 ∧
    DecAll ((encodeAll buf size (.icdf 0 (flagTable k) 8 :: rest)).buf.take
        (encodeAll buf size (.icdf 0 (flagTable k) 8 :: rest)).storage)
      (encodeAll buf size (.icdf 0 (flagTable k) 8 :: rest)).storage
      (encRun (encInit buf size) (.icdf 0 (flagTable k) 8 :: rest))
      (decRun (decInit ((encodeAll buf size (.icdf 0 (flagTable k) 8 :: rest)).buf.take
        (encodeAll buf size (.icdf 0 (flagTable k) 8 :: rest)).storage)
        (encodeAll buf size (.icdf 0 (flagTable k) 8 :: rest)).storage)
        (bitsOps (lastPatch 0 rest) k ++ rest)).2
      ((encodeAll buf size (.icdf 0 (flagTable k) 8 :: rest)).buf.take
        (encodeAll buf size (.icdf 0 (flagTable k) 8 :: rest)).storage) := by
  unfold encodeAll at hnb herr ⊢
  obtain ⟨hnF, herrF⟩ := encDone_ok hnb herr
  obtain ⟨riF, -, cellF⟩ := flags_run_facts buf size k rest hs hb hk1 hk8 hl hnF herrF
  obtain ⟨d1, hBt, hBl, hc, hr⟩ := encDone_stream _ riF hnF herr
  have hS := cellF.storage_pos hk1 riF.inv hnF herr
  rw [d1]
  exact (decode_flags_prefix_stream buf size k rest [] hs hb hk1 hk8 hl trivial (by rw [List.append_nil]; exact hnF)
    (by rw [List.append_nil]; exact herrF) _ _ hBt hS (by omega) (by rw [List.append_nil]; exact hc) hr).1

end Opus.RangeCoder
