import OpusProofs.FramingBasic
/-
  C06 completeness: every RFC-valid packet, serialised by the spec, is accepted by the parser
  with exactly the spec's view (both framings).  Per frame-count code the packet is only translated
  into the parser's quantities (count, VBR flag, explicit sizes); the switch is then the size stage
  (`sizeStage_ok`: behind the count byte and the padding chain for code 3, at once for codes 0-2 by
  `parseHdr_low`), and the common tail with the reported view is handled once (`complete_of_hdr`).
-/
namespace Opus.FramingProofs
open Opus Opus.Framing Opus.FramingSpec

theorem list_len1 {α} (l : List α) (h : l.length = 1) : ∃ a, l = [a] := by
  match l, h with
  | [a], _ => exact ⟨a, rfl⟩

theorem list_len2 {α} (l : List α) (h : l.length = 2) : ∃ a b, l = [a, b] := by
  match l, h with
  | [a, b], _ => exact ⟨a, b, rfl⟩

/-- Frame duration announced by a TOC byte in units of 2.5 ms (RFC 6716 Table 2): 1, 2, 4, 8, 16 or 24. -/
def tocUnits (toc : Nat) : Nat := frameDur48 toc / 120

/-- What the TOC helpers of the decoder and the spec's `frameDur48` say, for every TOC byte: frame duration (RFC 6716
    Table 2, between 2.5 and 60 ms), channel count, the three modes as a partition of the configurations, the
    bandwidth range, and the duration in units of 2.5 ms along the branches of `opus_packet_get_samples_per_frame`. -/
theorem toc_table : ∀ toc < 256,
    samplesPerFrame toc 48000 = frameDur48 toc ∧ 120 ≤ frameDur48 toc ∧ frameDur48 toc ≤ 2880 ∧
    getNbChannels toc = (if toc / 4 % 2 = 1 then 2 else 1) ∧
    (getMode toc = MODE_SILK_ONLY ↔ toc / 8 % 32 < 12) ∧
    (getMode toc = MODE_HYBRID ↔ 12 ≤ toc / 8 % 32 ∧ toc / 8 % 32 < 16) ∧
    (getMode toc = MODE_CELT_ONLY ↔ 16 ≤ toc / 8 % 32) ∧
    1101 ≤ getBandwidth toc ∧ getBandwidth toc ≤ 1105 ∧
    tocUnits toc = (if toc / 128 % 2 = 1 then 2 ^ (toc / 8 % 4)
      else if toc / 32 % 4 = 3 then (if toc / 8 % 2 = 1 then 8 else 4)
      else if toc / 8 % 4 = 3 then 24 else 4 * 2 ^ (toc / 8 % 4)) := by
  decide +kernel

/-- `opus_packet_get_samples_per_frame` at ANY rate: the duration in units of 2.5 ms times `Fs/400`, rounded down.  Every
    branch of the C function is `Fs·j/400` with the fraction cancelled differently; the table says which `j`. -/
theorem spf_units (toc fs : Nat) (h : toc < 256) : samplesPerFrame toc fs = fs * tocUnits toc / 400 := by
  rw [(toc_table toc h).2.2.2.2.2.2.2.2.2]
  unfold samplesPerFrame
  split
  · rfl
  · split
    · split <;> omega
    · dsimp only
      split
      · omega
      · generalize 2 ^ (toc / 8 % 4) = k
        rw [Nat.mul_left_comm]
        generalize fs * k = m
        omega

/-- At a rate of `q` samples per 2.5 ms. -/
theorem spf_units_mul (toc q : Nat) (h : toc < 256) : samplesPerFrame toc (400 * q) = tocUnits toc * q := by
  rw [spf_units toc _ h, Nat.mul_assoc, Nat.mul_div_cancel_left _ (by decide), Nat.mul_comm]

theorem frameDur48_units (toc : Nat) (h : toc < 256) : frameDur48 toc = tocUnits toc * 120 := by
  rw [← (toc_table toc h).1]; exact spf_units_mul toc 120 h

theorem frameDur48_spf (toc : Nat) (h : toc < 256) : samplesPerFrame toc 48000 = frameDur48 toc :=
  (toc_table toc h).1

theorem frameDur48_ge : ∀ toc ∈ List.range 256, 120 ≤ frameDur48 toc :=
  fun toc h => (toc_table toc (List.mem_range.mp h)).2.1

def padHdrOf (p : Packet) : Bytes := match p.pad with | some pd => pd.hdr | none => []

theorem sumN_map_length (fs : List Bytes) : sumN (fs.map List.length) = fs.flatten.length := by
  induction fs with
  | nil => simp
  | cons f fs ih => simp [ih]

theorem sumN_replicate (n L : Nat) : sumN (List.replicate n L) = n * L := by
  induction n with
  | zero => simp
  | succ n ih => simp [List.replicate_succ, ih, Nat.succ_mul]; omega

theorem allEq_replicate (l : List Nat) (h : allEq l) (L : Nat) (hL : l.getLast? = some L) :
    l = List.replicate l.length L := by
  have hmem : L ∈ l := List.mem_of_getLast? hL
  apply List.eq_replicate_iff.mpr
  exact ⟨rfl, fun b hb => h b hb L hmem⟩

theorem sumN_dropLast_le (l : List Nat) : sumN l.dropLast ≤ sumN l := by
  induction l with
  | nil => simp
  | cons a l ih =>
    cases l with
    | nil => simp
    | cons b l => simp [List.dropLast] at *; omega

theorem dropLast_append_last (l : List Nat) (L : Nat) (h : l.getLast? = some L) :
    l.dropLast ++ [L] = l := by
  induction l with
  | nil => simp at h
  | cons a l ih =>
    cases l with
    | nil => simp at h; simp [h]
    | cons b l => simp [List.getLast?_cons_cons] at h ⊢; exact ih h

theorem countByte_mod (p : Packet) (hn : p.frames.length < 64) : countByte p % 64 = p.frames.length := by
  unfold countByte; split <;> split <;> omega

theorem countByte_vbr (p : Packet) (hn : p.frames.length < 64) : (countByte p / 128 % 2 = 1) ↔ p.vbr = true := by
  unfold countByte
  cases p.vbr <;> cases p.pad.isSome
  · simp only [Bool.false_eq_true, if_false, iff_false]; omega
  · simp only [Bool.false_eq_true, if_true, if_false, iff_false]; omega
  · simp only [Bool.false_eq_true, if_true, if_false, iff_true]; omega
  · simp only [if_true, iff_true]; omega

theorem countByte_pad (p : Packet) (hn : p.frames.length < 64) : (countByte p / 64 % 2 = 1) ↔ p.pad.isSome = true := by
  unfold countByte
  cases p.vbr <;> cases p.pad.isSome
  · simp only [Bool.false_eq_true, if_false, iff_false]; omega
  · simp only [Bool.false_eq_true, if_true, if_false, iff_true]; omega
  · simp only [Bool.false_eq_true, if_true, if_false, iff_false]; omega
  · simp only [if_true, iff_true]; omega

/-- The padding chain of a packet in the form the parser lemmas use. -/
def padwOf (p : Packet) : Option (Nat × Nat) := p.pad.map fun pd => (pd.n255, pd.last)

theorem padHdrW_padwOf (p : Packet) : padHdrW (padwOf p) = padHdrOf p := by
  unfold padwOf padHdrOf; cases p.pad <;> rfl

theorem padTotal_padwOf {p : Packet} (hv : Valid p) : padTotal (padwOf p) = (padBytes p).length := by
  unfold padwOf padBytes
  cases hp : p.pad with
  | none => rfl
  | some pd => exact (hv.pad_ok pd hp).2.symm

theorem _root_.Opus.FramingSpec.Packet.code_cases (p : Packet) : p.code = 0 ∨ p.code = 1 ∨ p.code = 2 ∨ p.code = 3 := by
  unfold Packet.code; omega

/-- 120 ms hold at most 48 frames: the shortest frame is 2.5 ms. -/
theorem count_le_48 (toc : Nat) (htoc : toc < 256) (n : Nat) (h : frameDur48 toc * n ≤ 5760) : n ≤ 48 := by
  have hge := (toc_table toc htoc).2.1
  apply Decidable.byContradiction; intro hgt
  have : 120 * 49 ≤ frameDur48 toc * n := Nat.mul_le_mul hge (by omega)
  omega

/-- A valid packet has between 1 and 48 frames and lasts at most 120 ms. -/
theorem _root_.Opus.FramingSpec.Valid.count_bounds {p : Packet} (hv : Valid p) :
    1 ≤ p.frames.length ∧ p.frames.length ≤ 48 ∧ frameDur48 p.toc * p.frames.length ≤ 5760 := by
  have hle := (toc_table p.toc hv.toc_byte).2.2.1
  rcases p.code_cases with hc | hc | hc | hc
  · rw [(hv.code0 hc).1]; omega
  · rw [(hv.code1 hc).1]; omega
  · rw [(hv.code2 hc).1]; omega
  · obtain ⟨h1, h2, _⟩ := hv.code3 hc
    exact ⟨h1, count_le_48 p.toc hv.toc_byte _ h2, h2⟩

theorem _root_.Opus.FramingSpec.Valid.last_len {p : Packet} (hv : Valid p) : ∃ L, p.lens.getLast? = some L ∧ L ≤ 1275 := by
  have hlen : p.lens.length = p.frames.length := by simp [Packet.lens]
  cases hl : p.lens.getLast? with
  | none =>
    rw [List.getLast?_eq_none_iff.mp hl] at hlen
    have := hv.count_bounds.1
    simp at hlen; omega
  | some L =>
    obtain ⟨f, hf, hfl⟩ := List.mem_map.mp (List.mem_of_getLast? hl)
    exact ⟨L, rfl, by rw [← hfl]; exact hv.frame_max f hf⟩

/-- The state after the switch: `n` frames, `padn` bytes of padding (code 3 only), explicit sizes `ss`, remaining data
    `d`; `vbr` says that every size but the last is explicit (codes 0, 2 and code-3 VBR).  In the CBR self-delimited
    form `lastSize` is not used afterwards. -/
structure HdrState (sd : Bool) (n : Nat) (vbr : Bool) (padn : Nat) (ss : List Nat) (d : Bytes) (h : Hdr) : Prop where
  count : h.count = n
  cbr : h.cbr = !vbr
  sizes : h.sizes = ss
  data : h.data = d
  pad : h.pad = padn
  len : h.len = d.length - padn
  len_nonneg : 0 ≤ h.len
  vbr_last : vbr = true → h.lastSize = h.len - sumN ss
  cbr_last : vbr = false → sd = false → h.lastSize * n = h.len
  last_nonneg : 0 ≤ h.lastSize

/-- The state the VBR forms leave: `last` is what remains of `len` after the explicit sizes. -/
theorem HdrState.of_vbr (sd : Bool) (n pad : Nat) (ss : List Nat) (d : Bytes) (l last : Int)
    (hl : l = d.length - pad) (hlast : last = l - sumN ss) (h0 : 0 ≤ last) :
    HdrState sd n true pad ss d { count := n, cbr := false, sizes := ss, data := d, len := l, lastSize := last, pad } :=
  { count := rfl, cbr := rfl, sizes := rfl, data := rfl, pad := rfl,
    len := hl,
    len_nonneg := (by simp only; omega),
    vbr_last := (fun _ => hlast),
    cbr_last := (nofun),
    last_nonneg := h0 }

/-- The state the CBR forms leave; they differ in `lastSize` only. -/
theorem HdrState.of_cbr (sd : Bool) (n pad : Nat) (d : Bytes) (l last : Int)
    (hl : l = d.length - pad) (hl0 : 0 ≤ l) (h0 : 0 ≤ last) (hmul : sd = false → last * n = l) :
    HdrState sd n false pad [] d { count := n, cbr := true, sizes := [], data := d, len := l, lastSize := last, pad } :=
  { count := rfl, cbr := rfl, sizes := rfl, data := rfl, pad := rfl,
    len := hl,
    len_nonneg := hl0,
    vbr_last := (nofun),
    cbr_last := (fun _ => hmul),
    last_nonneg := h0 }

/-- The size stage on the coded sizes `ss` followed by `d`.  Converse: `sizeStage_inv`. -/
theorem sizeStage_ok (sd : Bool) (n : Nat) (hn : 1 ≤ n) (P : Prop) [Decidable P] (vbr : Bool) (hP : P ↔ vbr = true)
    (len : Int) (hlen : 0 ≤ len) (ss : List Nat) (d : Bytes) (len2 : Int) (pad : Nat)
    (hl2 : len2 = H ss + d.length - pad) (hss : ∀ s ∈ ss, s ≤ 1275) (hfit : sumN ss + pad ≤ d.length)
    (hv : vbr = true → ss.length + 1 = n)
    (hc : vbr = false → ss = [] ∧ (sd = false → ∃ L : Nat, L * n + pad = d.length)) :
    ∃ h, sizeStage sd n P len (ss.flatMap encLen ++ d) len2 pad = .ok h ∧ HdrState sd n vbr pad ss d h := by
  unfold sizeStage
  rw [if_neg (by omega)]
  cases vbr with
  | true =>
    have := hv rfl
    rw [if_pos (hP.mpr rfl), show n - 1 = ss.length by omega, vbrSizes_enc ss hss d _ _ (by omega)]
    simp only
    rw [if_neg (by omega)]
    exact ⟨_, rfl, .of_vbr sd n pad ss d _ _ (by omega) rfl (by omega)⟩
  | false =>
    obtain ⟨hss0, hL⟩ := hc rfl
    subst hss0
    simp only [H_nil, Int.natCast_zero, Int.zero_add, List.flatMap_nil, List.nil_append] at hl2 ⊢
    rw [if_neg (by simpa using hP)]
    cases sd with
    | true => exact ⟨_, rfl, .of_cbr true n pad d len2 _ hl2 (by omega) hlen nofun⟩
    | false =>
      obtain ⟨L, hL⟩ := hL rfl
      have hlen2 : len2 = (L : Int) * (n : Int) := by omega
      simp only [Bool.false_eq_true, if_false]
      have hq : len2 / (n : Int) = L := by rw [hlen2]; exact Int.mul_ediv_cancel _ (by omega)
      rw [hq, if_neg (by omega)]
      exact ⟨_, rfl, .of_cbr false n pad d len2 _ hl2 (by omega) (by omega) (fun _ => hlen2.symm)⟩

/-- `parseCode3` on: count byte, padding chain, coded sizes, rest.  Converse: `parseCode3_inv`. -/
theorem parseCode3_ok (sd : Bool) (fs ch : Nat) (vbr : Bool) (padw : Option (Nat × Nat)) (ss : List Nat) (d : Bytes)
    (data : Bytes) (hdata : data = ch :: (padHdrW padw ++ (ss.flatMap encLen ++ d)))
    (hn : 1 ≤ ch % 64) (hdur : fs * (ch % 64) ≤ 5760)
    (hflag : ch / 64 % 2 = 1 ↔ padw.isSome = true) (hvbr : ch / 128 % 2 = 1 ↔ vbr = true)
    (hlast : ∀ k last, padw = some (k, last) → last < 255)
    (hss : ∀ s ∈ ss, s ≤ 1275) (hfit : sumN ss + padTotal padw ≤ d.length)
    (hv : vbr = true → ss.length + 1 = ch % 64)
    (hc : vbr = false → ss = [] ∧ (sd = false → ∃ L : Nat, L * (ch % 64) + padTotal padw = d.length)) :
    ∃ h, parseCode3 sd fs data data.length = .ok h ∧ HdrState sd (ch % 64) vbr (padTotal padw) ss d h := by
  have hlen : (data.length : Int) = 1 + ((padHdrW padw).length : Int) + H ss + d.length := by
    simp only [hdata, List.length_cons, List.length_append, H]; omega
  generalize (data.length : Int) = len at hlen
  subst hdata
  rw [parseCode3_cons, if_neg (by omega), if_neg (by omega),
    padStage_hdr ch padw _ _ hflag hlast (by omega)]
  exact sizeStage_ok sd _ hn _ vbr hvbr len (by omega) ss d _ _ (by omega) hss hfit hv hc


/-- The serialisation, with the coded length `L` of the last frame (self-delimited framing) set apart. -/
theorem serialize_split (sd : Bool) (p : Packet) (rest : Bytes) (L : Nat) (hL : p.lens.getLast? = some L) :
    serialize sd p ++ rest = p.toc :: ((if p.code = 3 then countByte p :: padHdrOf p else []) ++
      ((if p.code = 2 ∨ (p.code = 3 ∧ p.vbr) then p.lens.dropLast else []).flatMap encLen ++
        ((if sd then encLen L else []) ++ (p.frames.flatten ++ (padBytes p ++ rest))))) := by
  simp only [serialize, header, lenFields, hL, padHdrOf]
  cases sd <;> split <;> simp
  all_goals (cases p.pad <;> rfl)

/-- The common tail: from the state after the switch on the serialisation of a valid packet `p` (last frame length
    `L`) followed by `rest`, `finish` reports the view of `p`. -/
theorem complete_of_hdr (sd : Bool) (p : Packet) (hv : Valid p) (rest : Bytes) (hrest : sd = false → rest = []) (L : Nat)
    (hL : L ≤ 1275) (data : Bytes) (hser : serialize sd p ++ rest = p.toc :: data) (h : Hdr)
    (hh : parseHdr sd p.toc data data.length = .ok h) (vbr : Bool) (ss : List Nat)
    (hs : HdrState sd p.frames.length vbr (padBytes p).length ss
      ((if sd then encLen L else []) ++ (p.frames.flatten ++ (padBytes p ++ rest))) h)
    (hvbr : vbr = true → ss ++ [L] = p.lens) (hcbr : vbr = false → p.lens = List.replicate p.frames.length L) :
    parseImpl sd (serialize sd p ++ rest) = .ok (view sd p) := by
  have hF : sumN p.lens = p.frames.flatten.length := sumN_map_length _
  have hlens : (if h.cbr then List.replicate h.count L else h.sizes ++ [L]) = p.lens := by
    rw [hs.cbr, hs.count, hs.sizes]
    cases vbr
    · exact (hcbr rfl).symm
    · exact hvbr rfl
  have hsum : vbr = true → sumN ss + L = p.frames.flatten.length := by
    intro hc; rw [← hF, ← hvbr hc, sumN_append]; simp
  have hmul : vbr = false → (L : Int) * p.frames.length = p.frames.flatten.length := by
    intro hc; rw [← hF, hcbr hc, sumN_replicate]; push_cast; exact Int.mul_comm _ _
  have hlen := hs.len
  simp only [List.length_append] at hlen
  rw [hser]
  unfold parseImpl
  simp only
  rw [hh]
  simp only
  rw [finish_ok sd _ p.toc h L _ hL hs.data, hlens, ← hser]
  · simp only [view, mkParsed, serialize, List.length_append, hs.count, hs.pad, hF, Res.ok.injEq, Parsed.mk.injEq,
      true_and]
    omega
  · intro hsd; subst hsd
    have hr := hrest rfl; subst hr
    simp only [Bool.false_eq_true, if_false, List.length_nil] at hlen
    cases vbr
    · have h1 := hs.cbr_last rfl rfl
      have h2 := hmul rfl
      have h3 : h.lastSize * (p.frames.length : Int) = (L : Int) * p.frames.length := by omega
      exact Int.eq_of_mul_eq_mul_right (by have := hv.count_bounds.1; omega) h3
    · have := hsum rfl; rw [hs.vbr_last rfl]; omega
  · intro hsd; subst hsd
    simp only [if_true] at hlen
    rw [hs.cbr, hs.count]
    cases vbr <;> simp only [Bool.not_true, Bool.not_false, if_true, Bool.false_eq_true, if_false]
    · have := hmul rfl
      have : 0 ≤ (L : Int) * p.frames.length := Int.mul_nonneg (by omega) (by omega)
      have h1 := hv.count_bounds.1
      have := Int.mul_le_mul_of_nonneg_left (show (1 : Int) ≤ p.frames.length by omega) (show (0 : Int) ≤ L by omega)
      omega
    · have := hsum rfl; rw [hs.vbr_last rfl]; omega

theorem parse_complete (sd : Bool) (p : Packet) (hv : Valid p) (rest : Bytes)
    (hrest : sd = false → rest = []) :
    parseImpl sd (serialize sd p ++ rest) = .ok (view sd p) := by
  obtain ⟨L, hLast, hL⟩ := hv.last_len
  have hshape := serialize_split sd p rest L hLast
  have hlens_len : p.lens.length = p.frames.length := by simp [Packet.lens]
  have hle : ∀ s ∈ p.lens, s ≤ 1275 := fun s hs => by
    obtain ⟨f, hf, hfl⟩ := List.mem_map.mp hs
    rw [← hfl]; exact hv.frame_max f hf
  have hF : sumN p.lens = p.frames.flatten.length := sumN_map_length _
  have hn := hv.count_bounds
  have hdl := dropLast_append_last p.lens L hLast
  have hrep : allEq p.lens → p.lens = List.replicate p.frames.length L := fun h => by
    have := allEq_replicate p.lens h L hLast
    rwa [hlens_len] at this
  generalize hss : (if p.code = 2 ∨ (p.code = 3 ∧ p.vbr) then p.lens.dropLast else []) = ss at hshape
  generalize hd : (if sd then encLen L else []) ++ (p.frames.flatten ++ (padBytes p ++ rest)) = d at hshape
  have hdlen : d.length = (if sd then (encLen L).length else 0) + p.frames.flatten.length + (padBytes p).length +
      rest.length := by
    rw [← hd]; cases sd <;> simp only [List.length_append, if_true, Bool.false_eq_true, if_false, List.length_nil] <;> omega
  -- The packet in the parser's terms, code by code: `vbr` says whether the lengths before the last are coded.
  obtain ⟨vbr, hA, hB, hlow, hhi⟩ : ∃ vbr : Bool, (vbr = true → ss ++ [L] = p.lens) ∧
      (vbr = false → ss = [] ∧ p.lens = List.replicate p.frames.length L) ∧
      (p.toc % 4 ≠ 3 → p.frames.length = (if p.toc % 4 = 0 then 1 else 2) ∧ p.pad = none ∧
        (p.toc % 4 ≠ 1 ↔ vbr = true)) ∧
      (p.toc % 4 = 3 → vbr = p.vbr) := by
    subst hss
    rcases p.code_cases with hc | hc | hc | hc
    · obtain ⟨hlen, _, hpad⟩ := hv.code0 hc
      obtain ⟨a, ha⟩ := list_len1 p.lens (hlens_len.trans hlen)
      have hc' : p.toc % 4 = 0 := hc
      refine ⟨true, fun _ => ?_, nofun, fun _ => ⟨by rw [hlen, if_pos hc'], hpad, by simp [hc']⟩, fun h => by omega⟩
      rw [ha] at hLast ⊢; simp at hLast; simp [hc, hLast]
    · obtain ⟨hlen, _, hpad, heq⟩ := hv.code1 hc
      have hc' : p.toc % 4 = 1 := hc
      exact ⟨false, nofun, fun _ => ⟨by simp [hc], hrep heq⟩,
        fun _ => ⟨by rw [hlen, if_neg (by omega)], hpad, by simp [hc']⟩, fun h => by omega⟩
    · obtain ⟨hlen, _, hpad⟩ := hv.code2 hc
      have hc' : p.toc % 4 = 2 := hc
      exact ⟨true, fun _ => by simpa [hc] using hdl, nofun,
        fun _ => ⟨by rw [hlen, if_neg (by omega)], hpad, by simp [hc']⟩, fun h => by omega⟩
    · obtain ⟨_, _, hcbr⟩ := hv.code3 hc
      have hc' : p.toc % 4 = 3 := hc
      exact ⟨p.vbr, fun h => by simpa [hc, h] using hdl, fun h => ⟨by simp [hc, h], hrep (hcbr h)⟩,
        fun h => absurd hc' h, fun _ => rfl⟩
  -- What the size stage asks for, the same for all four codes.
  have hss1275 : ∀ s ∈ ss, s ≤ 1275 := fun s hs => by
    cases vbr
    · rw [(hB rfl).1] at hs; cases hs
    · exact hle s (by rw [← hA rfl]; exact List.mem_append_left _ hs)
  have hsum : sumN ss + (if vbr then L else 0) ≤ p.frames.flatten.length := by
    cases vbr
    · rw [(hB rfl).1]; simp
    · rw [← hF, ← hA rfl, sumN_append]; simp
  have hv' : vbr = true → ss.length + 1 = p.frames.length := fun h => by
    rw [← hlens_len, ← hA h]; simp
  have hc' : vbr = false → ss = [] ∧ (sd = false → ∃ L' : Nat, L' * p.frames.length + (padBytes p).length = d.length) :=
    fun h => ⟨(hB h).1, fun hsd => ⟨L, by
      rw [hdlen, hrest hsd, hsd, ← hF, (hB h).2, sumN_replicate]
      simp only [Bool.false_eq_true, if_false, List.length_nil]; rw [Nat.mul_comm]; omega⟩⟩
  by_cases h3 : p.toc % 4 = 3
  · have hn64 : p.frames.length < 64 := by omega
    have hmod := countByte_mod p hn64
    have hlast : ∀ k last, padwOf p = some (k, last) → last < 255 := by
      intro k last h
      obtain ⟨pd, hpd, he⟩ := Option.map_eq_some_iff.mp h
      cases he; exact (hv.pad_ok pd hpd).1
    rw [if_pos (show p.code = 3 from h3), ← padHdrW_padwOf, List.cons_append] at hshape
    rw [← hmod] at hv' hc'
    rw [← padTotal_padwOf hv] at hc'
    obtain ⟨h, hh, hs⟩ := parseCode3_ok sd (samplesPerFrame p.toc 48000) (countByte p) vbr (padwOf p) ss d _ rfl
      (by omega) (by rw [frameDur48_spf p.toc hv.toc_byte, hmod]; exact (hv.code3 h3).2.1)
      (by rw [countByte_pad p hn64, padwOf]; simp) (by rw [hhi h3]; exact countByte_vbr p hn64) hlast hss1275
      (by rw [padTotal_padwOf hv]; omega) hv' hc'
    rw [hmod, padTotal_padwOf hv] at hs
    subst hd
    exact complete_of_hdr sd p hv rest hrest L hL _ hshape h (by rw [parseHdr_code3 _ _ _ _ h3]; exact hh) vbr ss hs hA
      (fun h => (hB h).2)
  · obtain ⟨hcount, hpad, hflag⟩ := hlow h3
    have hp0 : (padBytes p).length = 0 := by simp [padBytes, hpad]
    rw [if_neg (show ¬ p.code = 3 from h3), List.nil_append] at hshape
    obtain ⟨h, hh, hs⟩ := sizeStage_ok sd p.frames.length hn.1 _ vbr hflag
      ((ss.flatMap encLen ++ d).length : Int) (by omega) ss d ((ss.flatMap encLen ++ d).length : Int) (padBytes p).length
      (by simp only [List.length_append, H]; omega) hss1275 (by omega) hv' hc'
    rw [hp0, hcount, ← parseHdr_low sd p.toc _ _ h3 (by omega)] at hh
    subst hd
    exact complete_of_hdr sd p hv rest hrest L hL _ hshape h hh vbr ss hs hA (fun h => (hB h).2)

end Opus.FramingProofs
