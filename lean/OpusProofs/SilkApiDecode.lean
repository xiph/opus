import OpusProofs.SilkApi
/-! The configuration part as a whole: `prep` reaches no error exit and leaves the decoder `Ready` for the frame loop. -/
namespace Opus.SilkApi

/-- State after the configuration part of silk_Decode (:159-:224). -/
def Ready (api : Int) (a : Args) (d : Dec) : Prop :=
  ChanOk api d.ch0 ∧ d.ch0.nFramesDecoded < d.ch0.nFramesPerPacket ∧
  (a.nChannelsInternal = 2 → ChanOk api d.ch1 ∧ Same d.ch0 d.ch1) ∧
  d.nChannelsInternal = a.nChannelsInternal ∧ d.nChannelsAPI = a.nChannelsAPI

theorem preOk_of_chanOk {api : Int} {c : Chan} (h : ChanOk api c) : PreOk api c := Or.inr ⟨_, h.1⟩

theorem prepReset_new_gt {d : Dec} {a : Args} (hnew : a.newPacketFlag ≠ 0) (hgt : a.nChannelsInternal > d.nChannelsInternal) :
    (prepReset d a).1 = { d with ch0 := { d.ch0 with nFramesDecoded := 0 }, ch1 := freshChan } := by
  simp [prepReset, hnew, hgt]

theorem prepReset_new_le {d : Dec} {a : Args} (hnew : a.newPacketFlag ≠ 0) (hgt : ¬ a.nChannelsInternal > d.nChannelsInternal) :
    (prepReset d a).1 = { d with ch0 := { d.ch0 with nFramesDecoded := 0 },
                                 ch1 := if a.nChannelsInternal = 2 then { d.ch1 with nFramesDecoded := 0 } else d.ch1 } := by
  simp [prepReset, hnew, hgt]

theorem prepReset_old {d : Dec} {a : Args} (hnew : a.newPacketFlag = 0) (hgt : ¬ a.nChannelsInternal > d.nChannelsInternal) :
    (prepReset d a).1 = d := by
  simp [prepReset, hnew, hgt]

/-- The frame-counter reset :164-:173 on an invariant state: it leaves the internal channel count; each
    channel that :178-:209 will configure is fresh or configured (`PreOk`), both with the same frame counter; and when that
    counter is not 0 (no re-configuration in this call) the channels are as `Ready` wants them.
    `hN`: the model's `Inv` does not bound `nChannelsInternal`; with `hN`, "not more channels than before" and
    `a.nChannelsInternal = 2` give `d.nChannelsInternal = 2`, i.e. channel 1 is covered by `Inv`. -/
theorem prepReset_facts {api : Int} {d : Dec} {a : Args} (hI : Inv api d) (hN : d.nChannelsInternal ≤ 2)
    (hci : a.nChannelsInternal = 1 ∨ a.nChannelsInternal = 2)
    (hproto : a.newPacketFlag ≠ 0 ∨ (d.ch0.nFramesDecoded < d.ch0.nFramesPerPacket ∧ a.nChannelsInternal = d.nChannelsInternal)) :
    (prepReset d a).1.nChannelsInternal = d.nChannelsInternal ∧
    PreOk api (prepReset d a).1.ch0 ∧
    (a.nChannelsInternal = 2 → PreOk api (prepReset d a).1.ch1 ∧
        (prepReset d a).1.ch1.nFramesDecoded = (prepReset d a).1.ch0.nFramesDecoded) ∧
    ((prepReset d a).1.ch0.nFramesDecoded ≠ 0 →
        ChanOk api (prepReset d a).1.ch0 ∧ (prepReset d a).1.ch0.nFramesDecoded < (prepReset d a).1.ch0.nFramesPerPacket ∧
        (a.nChannelsInternal = 2 → ChanOk api (prepReset d a).1.ch1 ∧ Same (prepReset d a).1.ch0 (prepReset d a).1.ch1)) := by
  have hp0 : PreOk api d.ch0 := by
    rcases hI with ⟨h0, _⟩ | ⟨h0, _⟩
    · rw [h0]; exact Or.inl ⟨rfl, rfl, rfl⟩
    · exact preOk_of_chanOk h0
  have hp0' : PreOk api { d.ch0 with nFramesDecoded := 0 } := hp0
  by_cases hnew : a.newPacketFlag ≠ 0
  · by_cases hgt : a.nChannelsInternal > d.nChannelsInternal
    · rw [prepReset_new_gt hnew hgt]
      exact ⟨rfl, hp0', fun _ => ⟨Or.inl ⟨rfl, rfl, rfl⟩, rfl⟩, fun h => absurd rfl h⟩
    · rw [prepReset_new_le hnew hgt]
      refine ⟨rfl, hp0', fun h2 => ?_, fun h => absurd rfl h⟩
      simp only [h2, if_true]
      have hp1 : PreOk api d.ch1 := by
        rcases hI with ⟨_, h1⟩ | ⟨_, h1⟩
        · rw [h1]; exact Or.inl ⟨rfl, rfl, rfl⟩
        · exact preOk_of_chanOk (h1 (by omega)).1
      have hp1' : PreOk api { d.ch1 with nFramesDecoded := 0 } := hp1
      exact ⟨hp1', trivial⟩
  · have hnew' : a.newPacketFlag = 0 := by omega
    have hp := hproto.resolve_left hnew
    have hgt : ¬ a.nChannelsInternal > d.nChannelsInternal := by omega
    rw [prepReset_old hnew' hgt]
    rcases hI with ⟨h0, h1⟩ | ⟨h0, h1⟩
    · refine ⟨rfl, hp0, fun _ => ⟨by rw [h1]; exact Or.inl ⟨rfl, rfl, rfl⟩, by rw [h0, h1]⟩, ?_⟩
      intro h; rw [h0] at h; exact absurd rfl h
    · refine ⟨rfl, hp0, fun h2 => ?_, fun _ => ⟨h0, hp.1, fun h2 => h1 (by omega)⟩⟩
      have := h1 (by omega)
      exact ⟨preOk_of_chanOk this.1, this.2.2.2.2⟩

theorem prepStereo_ready {api : Int} {a : Args} {d : Dec} (h0 : ChanOk api d.ch0)
    (hlt : d.ch0.nFramesDecoded < d.ch0.nFramesPerPacket)
    (h1 : a.nChannelsInternal = 2 → ChanOk api d.ch1 ∧ Same d.ch0 d.ch1) : Ready api a (prepStereo d a) := by
  unfold prepStereo
  split
  · rename_i hc
    refine ⟨h0, hlt, fun h2 => ?_, rfl, rfl⟩
    obtain ⟨hc1, hs⟩ := h1 h2
    refine ⟨?_, hs⟩
    obtain ⟨⟨c1, c2, c3, c4, c5, c6, c7, c8, c9, c10, c11⟩, c12, c13, c14, c15⟩ := hc1
    obtain ⟨⟨_, _, _, _, _, _, _, _, _, z10, z11⟩, _⟩ := h0
    exact ⟨⟨c1, c2, c3, c4, c5, c6, c7, c8, c9, (by show d.ch0.rsIn = d.ch1.fs_kHz; rw [z10, hs.1]), z11⟩, c12, c13, c14, c15⟩
  · exact ⟨h0, hlt, h1, rfl, rfl⟩

theorem chanOk_of_cfgd {api : Int} {a : Args} {c c' : Chan} (h : Cfgd api a c c') (hz : c.nFramesDecoded = 0) :
    ChanOk api c' ∧ c'.nFramesDecoded < c'.nFramesPerPacket := by
  obtain ⟨h1, h2, h3, h4, _, _⟩ := h
  exact ⟨⟨h1, h2, h3, by omega, by omega⟩, by omega⟩

theorem same_of_cfgd {api : Int} {a : Args} {c0 c0' c1 c1' : Chan} (h0 : Cfgd api a c0 c0') (h1 : Cfgd api a c1 c1')
    (hn : c1.nFramesDecoded = c0.nFramesDecoded) : Same c0' c1' := by
  obtain ⟨_, _, _, a4, a5, a6⟩ := h0
  obtain ⟨_, _, _, b4, b5, b6⟩ := h1
  rw [a6] at b6
  have := Option.some.inj b6
  have e1 : c0'.nFramesPerPacket = c1'.nFramesPerPacket := congrArg Prod.fst this
  have e2 : c0'.nb_subfr = c1'.nb_subfr := congrArg Prod.snd this
  exact ⟨by rw [a5, b5], e2.symm, e1.symm, by rw [a4, b4, hn]⟩

/-- In a stereo → mono switch the reset leaves channel 1 (whose resampler the extra call :404 uses) and the rate of channel 0. -/
theorem prepReset_facts2 (d : Dec) (a : Args) (h1 : a.nChannelsInternal = 1) (h2 : d.nChannelsInternal = 2) :
    (prepReset d a).1.ch1 = d.ch1 ∧ (prepReset d a).1.ch0.fs_kHz = d.ch0.fs_kHz := by
  have hgt : ¬ a.nChannelsInternal > d.nChannelsInternal := by omega
  by_cases hnew : a.newPacketFlag ≠ 0
  · rw [prepReset_new_le hnew hgt]
    have : ¬ a.nChannelsInternal = 2 := by omega
    rw [if_neg this]
    exact ⟨rfl, rfl⟩
  · rw [prepReset_old (by omega) hgt]
    exact ⟨rfl, rfl⟩

theorem prepStereo_keeps_chans (d : Dec) (a : Args) (h1 : a.nChannelsInternal = 1) :
    (prepStereo d a).ch1 = d.ch1 ∧ (prepStereo d a).ch0 = d.ch0 := by
  unfold prepStereo
  have : ¬ (a.nChannelsAPI = 2 ∧ a.nChannelsInternal = 2 ∧ (d.nChannelsAPI = 1 ∨ d.nChannelsInternal = 1)) := by omega
  rw [if_neg this]
  exact ⟨rfl, rfl⟩

theorem fs_of_rate {r k : Int} (hk : k = 8 ∨ k = 12 ∨ k = 16) (hr : r = 1000 * k) : r / 1024 + 1 = k := by omega

/-- The configuration part leaves the decoder ready for the frame loop; and when it detects a stereo to mono switch
    (:175), channel 1 still carries the resampler of the collapsed stereo stream, at the current rate. -/
theorem prep_ok {api : Int} {d : Dec} {a : Args} (hI : Inv api d) (hN : d.nChannelsInternal ≤ 2) (hA : ArgsOk api d a) :
    (prep d a).err = none ∧ (prep d a).ok = true ∧ (prep d a).ret = 0 ∧ Ready api a (prep d a).d ∧
    ((prep d a).sToM = true → (prep d a).d.ch1.rsIn = (prep d a).d.ch0.fs_kHz) := by
  -- before `hA` is taken apart: with all of `ArgsOk` in the context `omega` would split every disjunction of it
  have hrate : ¬ (a.API_sampleRate > 48 * 1000 ∨ a.API_sampleRate < 8000) := by
    have := hA.api; have := hA.rate; unfold ApiOk at *; omega
  obtain ⟨ha, hapi, hp, hr, hca, hci, hl, hproto⟩ := hA
  obtain ⟨f1, f4, f5, f6⟩ := prepReset_facts hI hN hci hproto
  have key : ∀ c0 : Chan, (c0.fs_kHz = a.internalSampleRate / 1024 + 1 ∨ c0.fs_kHz = (prepReset d a).1.ch0.fs_kHz) →
      decide (a.nChannelsInternal = 1 ∧ (prepReset d a).1.nChannelsInternal = 2 ∧
        a.internalSampleRate = 1000 * (prepReset d a).1.ch0.fs_kHz) = true →
      (prepReset d a).1.ch1.rsIn = c0.fs_kHz := by
    intro c0 hc0 hdec
    obtain ⟨m1, m2, m3⟩ := of_decide_eq_true hdec
    rw [f1] at m2
    obtain ⟨q1, q2⟩ := prepReset_facts2 d a m1 m2
    rw [q2] at m3 hc0
    rw [q1]
    rcases hI with ⟨i0, _⟩ | ⟨i0, i1⟩
    · rw [i0] at m3
      have m0 : a.internalSampleRate = 0 := m3
      rcases hr with h | h | h <;> rw [h] at m0 <;> exact absurd m0 (by decide)
    · obtain ⟨j1, j2⟩ := i1 m2
      rw [j1.rsIn, j2.1]
      rcases hc0 with hc0 | hc0 <;> rw [hc0]
      exact (fs_of_rate i0.1.1 m3).symm
  -- unfolding inlines the local `step2` at its three call sites: `prepStereo` and the rate check :220, one `if_neg hrate` per leaf
  unfold prep
  rw [if_neg (fun h => h hci)]
  generalize hd1 : (prepReset d a).1 = d1 at *
  dsimp only
  by_cases hz : d1.ch0.nFramesDecoded = 0
  · rw [if_pos hz]
    obtain ⟨c0, e0, g0⟩ := cfgChan_ok ha hapi hp hr f4
    rw [e0]
    dsimp only
    obtain ⟨k0, l0⟩ := chanOk_of_cfgd g0 hz
    by_cases h2 : a.nChannelsInternal = 2
    · rw [if_pos h2]
      obtain ⟨c1, e1, g1⟩ := cfgChan_ok ha hapi hp hr (f5 h2).1
      rw [e1]
      dsimp only
      rw [if_neg hrate]
      have hz1 : d1.ch1.nFramesDecoded = 0 := by rw [(f5 h2).2, hz]
      exact ⟨rfl, rfl, rfl, prepStereo_ready (d := { d1 with ch0 := c0, ch1 := c1 }) k0 l0
        (fun _ => ⟨(chanOk_of_cfgd g1 hz1).1, same_of_cfgd g0 g1 (f5 h2).2⟩),
        fun hs => absurd (of_decide_eq_true hs).1 (by rw [h2]; decide)⟩
    · have h1 : a.nChannelsInternal = 1 := by omega
      rw [if_neg h2, if_neg hrate]
      refine ⟨rfl, rfl, rfl, prepStereo_ready (d := { d1 with ch0 := c0 }) k0 l0 (fun h => absurd h h2), ?_⟩
      show _ → (prepStereo { d1 with ch0 := c0 } a).ch1.rsIn = (prepStereo { d1 with ch0 := c0 } a).ch0.fs_kHz
      rw [(prepStereo_keeps_chans _ a h1).1, (prepStereo_keeps_chans _ a h1).2]
      exact key c0 (Or.inl g0.2.2.2.2.1)
  · rw [if_neg hz, if_neg hrate]
    obtain ⟨k0, l0, m0⟩ := f6 hz
    refine ⟨rfl, rfl, rfl, prepStereo_ready k0 l0 m0, fun hs => ?_⟩
    have h1 : a.nChannelsInternal = 1 := (of_decide_eq_true hs).1
    show (prepStereo d1 a).ch1.rsIn = (prepStereo d1 a).ch0.fs_kHz
    rw [(prepStereo_keeps_chans _ a h1).1, (prepStereo_keeps_chans _ a h1).2]
    exact key d1.ch0 (Or.inr rfl) hs

end Opus.SilkApi
