import OpusModel.CeltBands
import OpusProofs.CeltAllocSplit
import OpusProofs.CeltBandsPdf
import OpusProofs.CeltSymsFrozenEq
import OpusProofs.CwrsB2p
import OpusProofs.CwrsCache
import OpusProofs.CwrsU
/-
  C03, stage 2: the band-data symbol layer (OpusModel/CeltBands.lean) never raises `fault` — for ANY allocation
  (arbitrary `pulses[]`, `fine_quant[]`, …), any decoder state and any bytes:
    * every pulse-cache row it touches lies inside `cache.bits` (index ≥ 0, `ci + cache[0]` inside the array);
    * every `ec_dec_uint` it issues has `2 ≤ ft < 2^32` — the `qn+1` of the uniform theta PDF and the `V(N,K)` of
      `decode_pulses`, which is moreover found inside the `CELT_PVQ_U` table (C17's `cache_reachable_fits`).
  The geometric invariant carried through the split recursion is `N = (eBands[i+1]-eBands[i]) << (LM+1) >> 1`.

  Here: what a property `P` of the state has to satisfy to be kept by every entropy-decoder call whose arguments are in range
  (`Keeps`; `fault = false` is one such property, the decoder invariant `J` of OpusProofs/CeltBandsJ.lean another), and the
  bounds on those arguments (`thetaQn_spec`, `rows_ok`, `pvqFt_ok`).  The walk over the program, done once for any such `P`:
  OpusProofs/CeltBandsWalk.lean.
-/
namespace Opus.CeltBandsProofs
open Opus Opus.RangeCoder Opus.CeltSymsFrozen Opus.CeltBands
open Opus.CeltSymsProofs

/-! The primitives return pairs through a `match`; by structure eta the components are projections of the range decoder's
    result, so a fact about `(s.uint ft).2` is stated and proved without taking the pair apart. -/

theorem uint_eq (s : BSt) (ft : Nat) : s.uint ft = ((decUint s.c ft).1,
    { s with c := (decUint s.c ft).2, tr := .uint ft (decUint s.c ft).1 :: s.tr,
             fault := s.fault || decide (ft < 2) || decide (4294967296 ≤ ft) }) := rfl

theorem raw_eq (s : BSt) (n : Nat) : s.raw n = ((decBits s.c n).1,
    { s with c := (decBits s.c n).2, tr := .raw n (decBits s.c n).1 :: s.tr }) := rfl

theorem uint_fault (s : BSt) (ft : Nat) :
    (s.uint ft).2.fault = (s.fault || decide (ft < 2) || decide (4294967296 ≤ ft)) := rfl


theorem uint_ok (s : BSt) (ft : Nat) (hs : s.fault = false) (h1 : 2 ≤ ft) (h2 : ft < 4294967296) :
    (s.uint ft).2.fault = false := by
  rw [uint_fault, hs]
  simp only [Bool.false_or, Bool.or_eq_false_iff, decide_eq_false_iff_not]
  omega

theorem exp2_ge : ∀ m, m < 8 → 16384 ≤ exp2Table8.getD m 0 := by decide

theorem qnOfQb_pos (qb : Int) : 1 ≤ qnOfQb qb := by
  unfold qnOfQb
  split
  · omega
  · generalize qb.toNat = q
    have h1 := exp2_ge (q % 8) (Nat.mod_lt _ (by omega))
    have h2 : (2 : Nat) ^ (14 - q / 8) ≤ 2 ^ 14 := Nat.pow_le_pow_right (by omega) (by omega)
    have h3 : 1 ≤ exp2Table8.getD (q % 8) 0 / 2 ^ (14 - q / 8) :=
      (Nat.le_div_iff_mul_le (Nat.two_pow_pos _)).2 (by omega)
    omega

theorem qn_small : ∀ q, q < 65 → 4 ≤ q →
    ((exp2Table8.getD (q % 8) 0 / 2 ^ (14 - q / 8) + 1) / 2) * 2 ≤ 256 := by decide

theorem qnOfQb_le (qb : Int) (h : qb ≤ 64) : qnOfQb qb ≤ 256 := by
  unfold qnOfQb
  split
  · omega
  · exact qn_small qb.toNat (by omega) (by omega)

/-- `1 ≤ qn ≤ 256`: the clamp `qb ≤ 8<<BITRES` of bands.c:674. -/
theorem computeQn_bounds (N : Nat) (b offset pulseCap : Int) (stereo : Bool) :
    1 ≤ computeQn N b offset pulseCap stereo ∧ computeQn N b offset pulseCap stereo ≤ 256 := by
  unfold computeQn
  exact ⟨qnOfQb_pos _, qnOfQb_le _ (Int.min_le_left _ _)⟩

theorem qnOfQb_parity (qb : Int) : qnOfQb qb = 1 ∨ qnOfQb qb % 2 = 0 := by
  unfold qnOfQb
  split
  · exact Or.inl rfl
  · exact Or.inr (Nat.mul_mod_left _ _)

/-- `qn` of a split (bands.c:742-746): 1 at and above the intensity band of a stereo frame, else `compute_qn`. -/
def thetaQn (i intensity : Nat) (stereo : Bool) (N : Nat) (b : Int) (lm : Int) : Nat :=
  if stereo ∧ i ≥ intensity then 1
  else computeQn N b ((logN.getD i 0 + lm * 8) / 2 - (if stereo ∧ N = 2 then 16 else 4)) (logN.getD i 0 + lm * 8) stereo

theorem thetaQn_spec (i intensity : Nat) (stereo : Bool) (N : Nat) (b : Int) (lm : Int) :
    1 ≤ thetaQn i intensity stereo N b lm ∧ thetaQn i intensity stereo N b lm ≤ 256 ∧
    (thetaQn i intensity stereo N b lm = 1 ∨ thetaQn i intensity stereo N b lm % 2 = 0) := by
  unfold thetaQn
  split
  · exact ⟨Nat.le_refl _, by omega, Or.inl rfl⟩
  · exact ⟨(computeQn_bounds _ _ _ _ _).1, (computeQn_bounds _ _ _ _ _).2, qnOfQb_parity _⟩

/-- `P` survives every kind of call the band data makes, given the bounds the walk establishes for the arguments (`read`: a
    PDF symbol of `compute_theta`, `OpusProofs.Pdf.readSym`, whose intervals are non-empty and inside `[0, ft)`);
    `remaining_bits` is free, and the `fault` flag may absorb a check that holds. -/
structure Keeps (P : BSt → Prop) : Prop where
  uint : ∀ (s : BSt) (ft : Nat), P s → 2 ≤ ft → ft < 4294967296 → P (s.uint ft).2
  raw : ∀ (s : BSt) (n : Nat), P s → P (s.raw n).2
  bit : ∀ (s : BSt) (n : Nat), P s → 1 ≤ n → n ≤ 23 → P (s.bit n).2
  read : ∀ (s : BSt) (ft : Nat) (it fl fh : Nat → Nat), P s → 1 ≤ ft → ft ≤ 32768 →
    (∀ fm, fm < ft → fl fm < fh fm ∧ fh fm ≤ ft) → P (OpusProofs.Pdf.readSym ft it fl fh s).2
  rem : ∀ (s : BSt) (r : Int), P s → P { s with rem := r }
  row : ∀ (s : BSt) (ok : Bool), P s → ok = true → P { s with fault := s.fault || !ok }

theorem keeps_fault : Keeps (fun s => s.fault = false) where
  uint := uint_ok
  raw := fun _ _ hs => hs
  bit := fun _ _ hs _ _ => hs
  read := fun _ _ _ _ _ hs _ _ _ => hs
  rem := fun _ _ hs => hs
  row := fun s ok hs h => by show (s.fault || !ok) = false; rw [hs, h]; rfl

theorem Keeps.and {P Q : BSt → Prop} (hP : Keeps P) (hQ : Keeps Q) : Keeps (fun s => P s ∧ Q s) where
  uint := fun s ft h a b => ⟨hP.uint s ft h.1 a b, hQ.uint s ft h.2 a b⟩
  raw := fun s n h => ⟨hP.raw s n h.1, hQ.raw s n h.2⟩
  bit := fun s n h a b => ⟨hP.bit s n h.1 a b, hQ.bit s n h.2 a b⟩
  read := fun s ft it fl fh h a b c => ⟨hP.read s ft it fl fh h.1 a b c, hQ.read s ft it fl fh h.2 a b c⟩
  rem := fun s r h => ⟨hP.rem s r h.1, hQ.rem s r h.2⟩
  row := fun s ok h a => ⟨hP.row s ok h.1 a, hQ.row s ok h.2 a⟩

/-- `N` of band `i` at `LM+1 = lm1` (C17's `Rate.bandN` on the frozen band edges). -/
def bandNOf (lm1 i : Nat) : Nat := (eBands.getD (i + 1) 0 - eBands.getD i 0) * 2 ^ lm1 / 2

theorem rows_ok : ∀ lm1, lm1 < 5 → ∀ i, i < 21 → 2 ≤ bandNOf lm1 i → rowOk (rowOf lm1 i) = true := by decide +kernel
theorem halves : ∀ lm, lm < 4 → ∀ i, i < 21 → 2 < bandNOf (lm + 1) i → 2 ≤ bandNOf lm i := by decide +kernel
theorem widths (i : Nat) (hi : i < 21) : 1 ≤ eBands.getD (i + 1) 0 - eBands.getD i 0 := by
  rw [frozen_eBands]
  exact (OpusProofs.CeltAlloc.width_bounds i hi).1

theorem bandNOf_half (lm i : Nat) : bandNOf (lm + 1) i / 2 = bandNOf lm i := by
  unfold bandNOf
  rw [Nat.pow_succ, ← Nat.mul_assoc, Nat.mul_div_cancel _ (by omega : 0 < 2)]

theorem bandNOf_top (LM i : Nat) : 2 ^ LM * (eBands.getD (i + 1) 0 - eBands.getD i 0) = bandNOf (LM + 1) i := by
  unfold bandNOf
  rw [Nat.pow_succ, ← Nat.mul_assoc, Nat.mul_div_cancel _ (by omega : 0 < 2), Nat.mul_comm]

theorem getD_eq_some_of_nonneg {l : List Int} {idx : Nat} {v : Int} (h : l.getD idx (-1) = v) (hv : 0 ≤ v) : l[idx]? = some v := by
  rw [List.getD_eq_getElem?_getD] at h
  cases hx : l[idx]? with
  | none => rw [hx] at h; simp at h; omega
  | some w => rw [hx] at h; simp at h; rw [h]

/-- The `V(N,K)` of a reachable cache entry is read inside the table and lies in `[2, 2^32)`. -/
theorem pvqFt_ok (lm1 i q : Nat) (hl : lm1 < 5) (hi : i < 21) (hN : 2 ≤ bandNOf lm1 i) (hq1 : 1 ≤ q)
    (hq : q ≤ cacheAt (rowOf lm1 i) 0) :
    2 ≤ pvqFt (bandNOf lm1 i) (Rate.getPulses q) ∧ pvqFt (bandNOf lm1 i) (Rate.getPulses q) < 4294967296 := by
  have hrow := rows_ok lm1 hl i hi hN
  unfold rowOk at hrow
  simp only [Bool.and_eq_true, decide_eq_true_eq] at hrow
  have hci : Gen.CeltTables.cacheIndex[lm1 * Gen.CeltTables.nbEBands + i]? = some (Int.ofNat (rowOf lm1 i).toNat) := by
    rw [← frozen_cacheIndex, ← frozen_nbEBands]
    have : Int.ofNat (rowOf lm1 i).toNat = rowOf lm1 i := Int.toNat_of_nonneg hrow.1
    rw [this]
    exact getD_eq_some_of_nonneg rfl hrow.1
  have hpair := (OpusProofs.CwrsCache.row_at (lm1 := lm1) (show lm1 ≤ 3 + 1 by omega) (show i < 21 from hi) hci).pair q hq1
    (by rw [← frozen_cacheBits]; unfold cacheAt at hq; simpa using hq)
  have hN' : Rate.bandN Gen.CeltTables.eBands lm1 i = bandNOf lm1 i := by unfold bandNOf Rate.bandN; rw [← frozen_eBands]
  rw [hN'] at hpair
  obtain ⟨hag, hv, _⟩ := OpusProofs.CwrsCache.pairOk_spec hpair
  have hk := OpusProofs.CwrsCache.getPulses_pos hq1
  have hft : pvqFt (bandNOf lm1 i) (Rate.getPulses q) = Cwrs.V (bandNOf lm1 i) (Rate.getPulses q) := by
    unfold pvqFt Cwrs.decodePulsesFt
    rw [OpusProofs.CwrsModel.pvqV_agree hag (Nat.le_refl _) (Nat.le_refl _)]
  rw [hft]
  exact ⟨OpusProofs.CwrsU.V_ge_two _ _ (by omega) hk, hv⟩

end Opus.CeltBandsProofs
