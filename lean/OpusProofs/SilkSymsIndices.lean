import OpusProofs.SilkSymsTables
/-
  C03 range lemmas for `silk_decode_indices`: whatever the range-decoder state, every decoded index lies inside the
  table the decoder later indexes with it; and whatever invariant `I` the reads keep (`ReadInv`, SilkSymsBasic), it
  holds again of the state the function returns.
-/
namespace Opus.SilkSymsProofs
open Opus Opus.RangeCoder Opus.SilkSyms Opus.SilkSymsFrozen.Icdf

/-- Everything later code relies on about the output of `silk_decode_indices`. -/
structure IndicesOk (rate : Rate) (nbSubfr cc prevSig : Nat) (prevLag : Int) (ix : Indices) : Prop where
  /-- `signalType ∈ {0,1,2}` indexes `silk_gain_iCDF`, `silk_rate_levels_iCDF[·>>1]`, the sign table, the
      quantisation-offset table -/
  sig : ix.signalType ≤ 2
  qoff : ix.quantOffsetType ≤ 1
  gainsLen : ix.gains.length = nbSubfr
  /-- first gain index: `< N_LEVELS_QGAIN = 64` when coded independently, a delta symbol `< 41` otherwise -/
  gainsHead : ∀ g, ix.gains.head? = some g → g < 64 ∧ (cc = 2 → g < 41)
  gainsTail : ∀ g ∈ ix.gains.tail, g < 41
  /-- `NLSFIndices[0] < nVectors = 32`, so every `ec_sel` read of `silk_NLSF_unpack` is inside the array -/
  nlsf0 : ix.nlsf0 < (nlsfCB rate).nVectors
  ecSelIdx : ∀ j, j < (nlsfCB rate).order / 2 →
    ix.nlsf0 * (nlsfCB rate).order / 2 + j < (nlsfCB rate).ecSel.length
  nlsfLen : ix.nlsfRes.length = (nlsfCB rate).order
  /-- residuals after the extension rule lie in `[-NLSF_QUANT_MAX_AMPLITUDE_EXT, +…] = [-10, 10]` -/
  nlsfRes : ∀ r ∈ ix.nlsfRes, -10 ≤ r ∧ r ≤ 10
  interp : ix.interp ≤ 4
  /-- absolute lag index inside `[0, 32*fs_kHz/2)`, or a delta of −8…+11 on the previous one -/
  lag : ix.signalType = 2 →
    (0 ≤ ix.lagIndex ∧ ix.lagIndex < 32 * (rate.kHz / 2)) ∨
    (cc = 2 ∧ prevSig = 2 ∧ prevLag - 8 ≤ ix.lagIndex ∧ ix.lagIndex ≤ prevLag + 11)
  /-- the contour iCDF has one entry per vector of the lag codebook the index later addresses (34 / 11 / 12 / 3
      for 20 ms, 20 ms NB, 10 ms, 10 ms NB), so the bound by its length is the bound by the codebook size -/
  contour : ix.signalType = 2 → ix.contourIndex < (pitchContour rate nbSubfr).length
  per : ix.perIndex ≤ 2
  ltpLen : ix.signalType = 2 → ix.ltp.length = nbSubfr
  /-- `LTPIndex[k] < silk_LTP_vq_sizes[PERIndex] = 8 << PERIndex` -/
  ltp : ∀ l ∈ ix.ltp, l < 8 * 2 ^ ix.perIndex
  ltpScale : ix.ltpScale ≤ 2
  seed : ix.seed ≤ 3

section
variable {I : Dec → Prop} (hI : ReadInv I)
include hI

theorem nlsfResOne_rd (rate : Rate) (k : Nat) (hk : k < 8) (c : Dec) (hc : I c) :
    -6 ≤ (nlsfResOne (nlsfCB rate) (9 * k) c).1 ∧ (nlsfResOne (nlsfCB rate) (9 * k) c).1 ≤ 14 ∧
    I (nlsfResOne (nlsfCB rate) (9 * k) c).2 := by
  have key : ∀ (r x : Nat × Dec) (y : Int × Dec), r.1 < 9 ∧ I r.2 → x.1 < 7 ∧ I x.2 →
      y = (if r.1 = 0 then ((r.1 : Int) - (x.1 : Int), x.2) else if r.1 = 8 then ((r.1 : Int) + (x.1 : Int), x.2)
         else ((r.1 : Int), r.2)) → -6 ≤ y.1 ∧ y.1 ≤ 14 ∧ I y.2 := by
    intro r x y h1 h2 e
    subst e
    split
    · exact ⟨by simp only; omega, by simp only; omega, h2.2⟩
    · split
      · exact ⟨by simp only; omega, by simp only; omega, h2.2⟩
      · exact ⟨by simp only; omega, by simp only; omega, h1.2⟩
  have h1 := sym_lt hI (sl_ecIcdf rate k hk) hc
  exact key _ _ _ h1 (sym_lt hI sl_nlsfExt h1.2) rfl

theorem nlsfResLoop_rd (rate : Rate) : ∀ (es : List Nat) (c : Dec), (∀ e ∈ es, ∃ k, k < 8 ∧ e = 9 * k) → I c →
    ListOk (fun r => -10 ≤ r ∧ r ≤ 10) es.length (nlsfResLoop (nlsfCB rate) es c).1 ∧
    I (nlsfResLoop (nlsfCB rate) es c).2
  | [], c, _, hc => ⟨.nil, hc⟩
  | e :: es, c, h, hc => by
    obtain ⟨k, hk, he⟩ := h e (by simp)
    have hb := nlsfResOne_rd hI rate k hk c hc
    rw [← he] at hb
    have ih := nlsfResLoop_rd rate es _ (fun e' h' => h e' (by simp [h'])) hb.2.2
    unfold nlsfResLoop
    exact ⟨.cons ⟨by omega, by omega⟩ ih.1, ih.2⟩

theorem decodeType_rd (v : Bool) (c : Dec) (hc : I c) : (decodeType v c).1 ≤ 5 ∧ I (decodeType v c).2 := by
  unfold decodeType
  dsimp only
  split
  · have := sym_lt hI sl_typeVAD hc; exact ⟨by simp only; omega, this.2⟩
  · have := sym_lt hI sl_typeNoVAD hc; exact ⟨by omega, this.2⟩

theorem decodeGain0_rd (cc sig : Nat) (hs : sig ≤ 2) (c : Dec) (hc : I c) :
    (decodeGain0 cc sig c).1 < 64 ∧ (cc = 2 → (decodeGain0 cc sig c).1 < 41) ∧ I (decodeGain0 cc sig c).2 := by
  have key : ∀ (g a b y : Nat × Dec), g.1 < 41 ∧ I g.2 → a.1 < 8 → b.1 < 8 ∧ I b.2 →
      y = (if cc = 2 then g else (a.1 * 8 + b.1, b.2)) → y.1 < 64 ∧ (cc = 2 → y.1 < 41) ∧ I y.2 := by
    intro g a b y hg ha hb e
    subst e
    split
    · exact ⟨by omega, fun _ => hg.1, hg.2⟩
    · rename_i h
      exact ⟨by simp only; omega, fun h' => absurd h' h, hb.2⟩
  have h1 := sym_lt hI (sl_gain sig (by omega)) hc
  exact key _ _ _ _ (sym_lt hI sl_deltaGain hc) h1.1 (sym_lt hI sl_uniform8 h1.2) rfl

theorem decodeNlsf_rd (rate : Rate) (sig : Nat) (hs : sig ≤ 2) (c : Dec) (hc : I c) :
    (decodeNlsf rate sig c).1.1 < 32 ∧ (decodeNlsf rate sig c).1.2.length = (nlsfCB rate).order ∧
    (∀ r ∈ (decodeNlsf rate sig c).1.2, -10 ≤ r ∧ r ≤ 10) ∧ I (decodeNlsf rate sig c).2 := by
  unfold decodeNlsf
  dsimp only
  have h1 := sym_lt hI (sl_cb1 rate (sig / 2) (by omega)) hc
  generalize sym c ((nlsfCB rate).cb1.drop (sig / 2 * (nlsfCB rate).nVectors)) = n0 at h1 ⊢
  have hl := nlsfResLoop_rd hI rate (nlsfUnpackEcIx (nlsfCB rate) n0.1) n0.2 (nlsfUnpackEcIx_mem _ _) h1.2
  exact ⟨h1.1, by rw [hl.1.1, ecIx_length], hl.1.2, hl.2⟩

theorem decodeLag_rd (rate : Rate) (cc prevSig : Nat) (prevLag : Int) (c : Dec) (hc : I c) :
    ((0 ≤ (decodeLag rate cc prevSig prevLag c).1 ∧ (decodeLag rate cc prevSig prevLag c).1 < 32 * (rate.kHz / 2)) ∨
     (cc = 2 ∧ prevSig = 2 ∧ prevLag - 8 ≤ (decodeLag rate cc prevSig prevLag c).1 ∧
       (decodeLag rate cc prevSig prevLag c).1 ≤ prevLag + 11)) ∧ I (decodeLag rate cc prevSig prevLag c).2 := by
  unfold decodeLag
  dsimp only
  have absLag : ∀ (a b : Nat), a < 32 → b < rate.kHz / 2 →
      (0 : Int) ≤ ((a * (rate.kHz / 2) + b : Nat) : Int) ∧ ((a * (rate.kHz / 2) + b : Nat) : Int) < 32 * (rate.kHz / 2) := by
    intro a b ha hb
    have : a * (rate.kHz / 2) ≤ 31 * (rate.kHz / 2) := Nat.mul_le_mul_right _ (by omega)
    have h32 : ((32 * (rate.kHz / 2) : Nat) : Int) = 32 * ((rate.kHz : Int) / 2) := by
      cases rate <;> decide
    exact ⟨Int.natCast_nonneg _, by omega⟩
  by_cases hd : cc = 2 ∧ prevSig = 2
  · rw [if_pos hd]
    have h1 := sym_lt hI sl_pitchDelta hc
    generalize sym c silk_pitch_delta_iCDF = d at h1 ⊢
    have ha := sym_lt hI sl_pitchLag h1.2
    have hb := sym_lt hI (sl_pitchLow rate) ha.2
    split
    · exact ⟨Or.inr ⟨hd.1, hd.2, by simp only; omega, by simp only; omega⟩, h1.2⟩
    · exact ⟨Or.inl (absLag _ _ ha.1 hb.1), hb.2⟩
  · rw [if_neg hd]
    simp only [Nat.lt_irrefl, gt_iff_lt, if_false]
    have ha := sym_lt hI sl_pitchLag hc
    have hb := sym_lt hI (sl_pitchLow rate) ha.2
    exact ⟨Or.inl (absLag _ _ ha.1 hb.1), hb.2⟩

theorem decodeLtp_rd (nbSubfr cc : Nat) (c : Dec) (hc : I c) :
    (decodeLtp nbSubfr cc c).1.1 ≤ 2 ∧ (decodeLtp nbSubfr cc c).1.2.1.length = nbSubfr ∧
    (∀ l ∈ (decodeLtp nbSubfr cc c).1.2.1, l < 8 * 2 ^ (decodeLtp nbSubfr cc c).1.1) ∧
    (decodeLtp nbSubfr cc c).1.2.2 ≤ 2 ∧ I (decodeLtp nbSubfr cc c).2 := by
  unfold decodeLtp
  dsimp only
  have h1 := sym_lt hI sl_perIndex hc
  generalize sym c silk_LTP_per_index_iCDF = per at h1 ⊢
  have h2 := symLoop_rd hI (sl_ltpGain per.1 h1.1) nbSubfr per.2 h1.2
  generalize symLoop _ nbSubfr per.2 = ltp at h2 ⊢
  refine ⟨by omega, h2.1.1, h2.1.2, ?_⟩
  split
  · have := sym_lt hI sl_ltpScale h2.2; exact ⟨by omega, this.2⟩
  · exact ⟨Nat.zero_le _, h2.2⟩

theorem decodeInterp_rd (nb : Nat) (c : Dec) (hc : I c) : (decodeInterp nb c).1 ≤ 4 ∧ I (decodeInterp nb c).2 := by
  unfold decodeInterp
  split
  · have := sym_lt hI sl_interp hc; exact ⟨by omega, this.2⟩
  · exact ⟨Nat.le_refl _, hc⟩

theorem decodePitchLtp_rd (rate : Rate) (nbSubfr cc prevSig : Nat) (prevLag : Int) (c : Dec) (hc : I c)
    (lag : Int) (contour per : Nat) (ltp : List Nat) (scale : Nat) (c' : Dec)
    (h : decodePitchLtp rate nbSubfr cc prevSig prevLag c = ((lag, contour, per, ltp, scale), c')) :
    ((0 ≤ lag ∧ lag < 32 * (rate.kHz / 2)) ∨ (cc = 2 ∧ prevSig = 2 ∧ prevLag - 8 ≤ lag ∧ lag ≤ prevLag + 11)) ∧
    contour < (pitchContour rate nbSubfr).length ∧ per ≤ 2 ∧ ltp.length = nbSubfr ∧
    (∀ l ∈ ltp, l < 8 * 2 ^ per) ∧ scale ≤ 2 ∧ I c' := by
  revert h
  fun_cases decodePitchLtp rate nbSubfr cc prevSig prevLag c with
  | case1 lag' c1 e1 contour' c2 e2 per' ltp' scale' c3 e3 =>
    intro h
    cases h
    have h1 := decodeLag_rd hI rate cc prevSig prevLag c hc
    simp only [e1] at h1
    have hs := sliceOk_contour rate nbSubfr
    have h2 := sym_lt_of_eq hI ⟨hs, rfl⟩ h1.2 e2
    have hz := zeroPos_lt _ hs
    have h3 := decodeLtp_rd hI nbSubfr cc c2 h2.2
    simp only [e3] at h3
    exact ⟨h1.1, by omega, h3.1, h3.2.1, h3.2.2.1, h3.2.2.2.1, h3.2.2.2.2⟩

theorem decodeVoiced_rd (rate : Rate) (nbSubfr sig cc prevSig : Nat) (prevLag : Int) (c : Dec) (hc : I c)
    (lag : Int) (contour per : Nat) (ltp : List Nat) (scale : Nat) (c' : Dec)
    (h : decodeVoiced rate nbSubfr sig cc prevSig prevLag c = ((lag, contour, per, ltp, scale), c')) :
    (sig = 2 → ((0 ≤ lag ∧ lag < 32 * (rate.kHz / 2)) ∨
                (cc = 2 ∧ prevSig = 2 ∧ prevLag - 8 ≤ lag ∧ lag ≤ prevLag + 11))) ∧
    (sig = 2 → contour < (pitchContour rate nbSubfr).length) ∧ per ≤ 2 ∧ (sig = 2 → ltp.length = nbSubfr) ∧
    (∀ l ∈ ltp, l < 8 * 2 ^ per) ∧ scale ≤ 2 ∧ I c' := by
  unfold decodeVoiced at h
  by_cases hv : sig = 2
  · rw [if_pos hv] at h
    have := decodePitchLtp_rd hI rate nbSubfr cc prevSig prevLag c hc lag contour per ltp scale c' h
    exact ⟨fun _ => this.1, fun _ => this.2.1, this.2.2.1, fun _ => this.2.2.2.1, this.2.2.2.2.1, this.2.2.2.2.2⟩
  · rw [if_neg hv] at h
    simp only [Prod.mk.injEq] at h
    obtain ⟨⟨rfl, rfl, rfl, rfl, rfl⟩, rfl⟩ := h
    exact ⟨fun h => absurd h hv, fun h => absurd h hv, by omega, fun h => absurd h hv, by simp, by omega, hc⟩

/-- `silk_decode_indices` from a state in `I`: every index inside the table it later addresses, the state in `I` again. -/
theorem decodeIndices_rd (rate : Rate) (nbSubfr : Nat) (hnb : 1 ≤ nbSubfr) (v : Bool) (cc prevSig : Nat)
    (prevLag : Int) (c : Dec) (hc : I c) (ix : Indices) (c' : Dec)
    (h : decodeIndices rate nbSubfr v cc prevSig prevLag c = (ix, c')) :
    IndicesOk rate nbSubfr cc prevSig prevLag ix ∧ I c' := by
  revert h
  fun_cases decodeIndices rate nbSubfr v cc prevSig prevLag c with
  | case1 tix c1 e1 g0 c2 e2 gs c3 e3 n0 res c4 e4 ip c5 e5 lag contour per ltp scale c6 e6 seed c7 e7 =>
    intro h
    cases h
    have ht := decodeType_rd hI v c hc
    simp only [e1] at ht
    have hsig : tix / 2 ≤ 2 := by omega
    have hg0 := decodeGain0_rd hI cc (tix / 2) hsig c1 ht.2
    simp only [e2] at hg0
    have hgs := symLoop_rd hI sl_deltaGain (nbSubfr - 1) c2 hg0.2.2
    simp only [e3] at hgs
    have hnl := decodeNlsf_rd hI rate (tix / 2) hsig c3 hgs.2
    simp only [e4] at hnl
    have hip := decodeInterp_rd hI nbSubfr c4 hnl.2.2.2
    simp only [e5] at hip
    have hv := decodeVoiced_rd hI rate nbSubfr (tix / 2) cc prevSig prevLag c5 hip.2 lag contour per ltp scale c6 e6
    have hsd := sym_lt_of_eq hI sl_uniform4 hv.2.2.2.2.2.2 e7
    have hgeo := cb_geometry rate
    refine ⟨?_, hsd.2⟩
    constructor <;> dsimp only
    · exact hsig
    · omega
    · have := hgs.1.1; simp only [List.length_cons]; omega
    · intro g hg; simp only [List.head?_cons, Option.some.injEq] at hg; rw [← hg]; exact ⟨hg0.1, hg0.2.1⟩
    · intro g hg; simp only [List.tail_cons] at hg; exact hgs.1.2 g hg
    · rw [hgeo.1]; exact hnl.1
    · intro j hj
      rw [hgeo.2.2.1]
      have : n0 * (nlsfCB rate).order / 2 = n0 * ((nlsfCB rate).order / 2) := by
        rcases hgeo.2.1 with h | h <;> rw [h] <;> omega
      rw [this]
      have := Nat.mul_le_mul_right ((nlsfCB rate).order / 2) (Nat.le_of_lt_succ hnl.1)
      omega
    · exact hnl.2.1
    · exact hnl.2.2.1
    · exact hip.1
    · exact hv.1
    · exact hv.2.1
    · exact hv.2.2.1
    · exact hv.2.2.2.1
    · exact hv.2.2.2.2.1
    · exact hv.2.2.2.2.2.1
    · omega

end


theorem decodeIndices_ok (rate : Rate) (nbSubfr : Nat) (hnb : 1 ≤ nbSubfr) (v : Bool) (cc prevSig : Nat)
    (prevLag : Int) (c : Dec) (ix : Indices) (c' : Dec)
    (h : decodeIndices rate nbSubfr v cc prevSig prevLag c = (ix, c')) :
    IndicesOk rate nbSubfr cc prevSig prevLag ix :=
  (decodeIndices_rd readInv_true rate nbSubfr hnb v cc prevSig prevLag c trivial ix c' h).1

end Opus.SilkSymsProofs
