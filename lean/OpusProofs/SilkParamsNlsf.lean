import OpusProofs.SilkParamsStab
/-
  OpusProofs.SilkParamsNlsf — well-formedness of the regenerated NLSF codebooks and the
  ordering of every silk_NLSF_decode output.
-/
namespace Opus.SilkParams
open Opus.Gen

/-! ### table facts (decidable, re-checked against the regenerated tables) -/

/-- Facts about one NLSF codebook struct that the decoder relies on. -/
structure CbWellFormed (cb : NlsfCB) : Prop where
  order_pos : 0 < cb.order
  order_even : cb.order % 2 = 0
  order_le : cb.order ≤ SilkNlsf.maxLpcOrder
  /-- first-stage vectors and weights: `nVectors * order` entries each -/
  cb1_len : cb.cb1NlsfQ8.length = cb.nVectors * cb.order
  wght_len : cb.cb1WghtQ9.length = cb.nVectors * cb.order
  /-- no division by zero in `silk_DIV32_16( ..., pCB_Wght_Q9[ i ] )` -/
  wght_pos : ∀ w ∈ cb.cb1WghtQ9, 0 < w
  cb1_bytes : ∀ e ∈ cb.cb1NlsfQ8, 0 ≤ e ∧ e ≤ 255
  /-- the two first-stage ICDFs (unvoiced / voiced) have `nVectors` symbols each: their last
      entry is the terminating 0, so a decoded CB1 index is `< nVectors` -/
  icdf1_len : cb.cb1ICDF.length = 2 * cb.nVectors
  icdf1_term : cb.cb1ICDF.getD (cb.nVectors - 1) 1 = 0 ∧ cb.cb1ICDF.getD (2 * cb.nVectors - 1) 1 = 0
  /-- second-stage selector: `order/2` bytes per first-stage vector -/
  sel_len : cb.ecSel.length = cb.nVectors * cb.order / 2
  pred_len : cb.predQ8.length = 2 * (cb.order - 1)
  /-- eight residual ICDFs / rate tables of `2*NLSF_QUANT_MAX_AMPLITUDE+1` symbols -/
  icdf2_len : (cb.ecICDF.length : Int) = 8 * ecTabSize
  rates_len : (cb.ecRatesQ5.length : Int) = 8 * ecTabSize
  icdf2_term : ∀ r ∈ List.range 8, cb.ecICDF.getD (r * ecTabSize.toNat + (ecTabSize.toNat - 1)) 1 = 0
  /-- minimum distances: `order+1` entries, each `≥ 1`, summing to at most `2^15` -/
  delta_len : cb.deltaMinQ15.length = cb.order + 1
  delta_pos : ∀ d ∈ cb.deltaMinQ15, 1 ≤ d
  delta_sum : sumL cb.deltaMinQ15 ≤ 32768
  /-- every table read of `silk_NLSF_unpack` is in bounds for every first-stage index -/
  unpack_ok : ∀ i ∈ List.range cb.nVectors, (nlsfUnpack cb (i : Int)).isOk = true

/-- Facts about the remaining side-information tables. -/
structure SideTablesWellFormed : Prop where
  cos_len : SilkNlsf.lsfCosTabQ12.length = SilkNlsf.lsfCosTabSz + 1
  cos_sz : SilkNlsf.lsfCosTabSz = 128
  /-- pitch contour codebooks: rows = sub-frames, columns = number of contour symbols -/
  lag2_len : SilkNlsf.cbLagsStage2.length = SilkNlsf.peMaxNbSubfr * SilkNlsf.peNbCbksStage2Ext
  lag2s_len : SilkNlsf.cbLagsStage2_10ms.length = (SilkNlsf.peMaxNbSubfr / 2) * SilkNlsf.peNbCbksStage2_10ms
  lag3_len : SilkNlsf.cbLagsStage3.length = SilkNlsf.peMaxNbSubfr * SilkNlsf.peNbCbksStage3Max
  lag3s_len : SilkNlsf.cbLagsStage3_10ms.length = (SilkNlsf.peMaxNbSubfr / 2) * SilkNlsf.peNbCbksStage3_10ms
  /-- the contour ICDFs have exactly as many symbols as the codebooks have columns -/
  contour_nb : SilkNlsf.pitchContourNbICDFLen = SilkNlsf.peNbCbksStage2Ext
  contour_nb10 : SilkNlsf.pitchContour10msNbICDFLen = SilkNlsf.peNbCbksStage2_10ms
  contour_wb : SilkNlsf.pitchContourICDFLen = SilkNlsf.peNbCbksStage3Max
  contour_wb10 : SilkNlsf.pitchContour10msICDFLen = SilkNlsf.peNbCbksStage3_10ms
  /-- gain indices: 8 MSB symbols x 8 LSB symbols = N_LEVELS_QGAIN, delta symbols = MAX-MIN+1 -/
  gain_abs : ((SilkNlsf.gainICDFCols * SilkNlsf.uniform8ICDFLen : Nat) : Int) = SilkNlsf.nLevelsQGain
  gain_delta : (SilkNlsf.deltaGainICDFLen : Int) = SilkNlsf.maxDeltaGainQuant - SilkNlsf.minDeltaGainQuant + 1
  lag_ms : 0 < SilkNlsf.peMinLagMs ∧ SilkNlsf.peMinLagMs ≤ SilkNlsf.peMaxLagMs

theorem sideTables_wellformed : SideTablesWellFormed := by
  constructor <;> decide +kernel

/-! ### `DeltaOk` from the table facts -/

theorem sumL_append : ∀ (a b : List Int), sumL (a ++ b) = sumL a + sumL b
  | [], b => by simp [sumL]
  | x :: a, b => by simp only [List.cons_append, sumL, sumL_append a b]; omega

/-- The three `delta_*` fields of `CbWellFormed` are what the stabiliser needs of the minimum-distance table. -/
theorem deltaOk_of_wf {cb : NlsfCB} (wf : CbWellFormed cb) : DeltaOk 0 cb.order cb.deltaMinQ15 := by
  have hne : cb.deltaMinQ15 ≠ [] := List.ne_nil_of_length_pos (by rw [wf.delta_len]; omega)
  have hsplit := List.dropLast_concat_getLast hne
  have hlen : cb.deltaMinQ15.dropLast.length = cb.order := by rw [List.length_dropLast, wf.delta_len]; omega
  have hsum := wf.delta_sum
  rw [← hsplit, sumL_append] at hsum
  rw [← hsplit, ← hlen]
  exact DeltaOk_of_facts _ _ 0 (fun e he => by have := wf.delta_pos e (List.dropLast_subset _ he); omega)
    (wf.delta_pos _ (List.getLast_mem hne)) (by simp only [sumL] at hsum; omega)

/-! ### consequences of `SpacedFrom` -/

/-- With every minimum distance `≥ 1` the entries lie in `[p, 32767]` and increase strictly from `p`. -/
theorem spaced_range : ∀ (x d : List Int) (p : Int), SpacedFrom p x d → (∀ e ∈ d, 1 ≤ e) →
    p ≤ 32767 ∧ (∀ e ∈ x, p ≤ e ∧ e ≤ 32767) ∧ StrictInc (p :: x)
  | [], [dL], p, hs, hd => by
    simp only [SpacedFrom] at hs
    have := hd dL (by simp)
    exact ⟨by omega, by simp, by simp [StrictInc]⟩
  | x0 :: xs, d0 :: ds, p, hs, hd => by
    simp only [SpacedFrom] at hs
    have hd0 := hd d0 (by simp)
    obtain ⟨h1, h2, h3⟩ := spaced_range xs ds x0 hs.2 (fun e he => hd e (by simp [he]))
    exact ⟨by omega, List.forall_mem_cons.mpr ⟨⟨by omega, h1⟩, fun e he => ⟨by have := (h2 e he).1; omega, (h2 e he).2⟩⟩,
      by simp only [StrictInc]; exact ⟨by omega, h3⟩⟩
  | [], [], _, hs, _ => by simp [SpacedFrom] at hs
  | [], _ :: _ :: _, _, hs, _ => by simp [SpacedFrom] at hs
  | _ :: _, [], _, hs, _ => by simp [SpacedFrom] at hs

theorem strictInc_tail (p : Int) : ∀ (x : List Int), StrictInc (p :: x) → StrictInc x := by
  intro x h
  cases x with
  | nil => simp [StrictInc]
  | cons a as => simp only [StrictInc] at h; exact h.2

/-! ### silk_NLSF_decode -/

theorem resDequant_length (q : Int) : ∀ (is ps : List Int), is.length = ps.length →
    (resDequant q is ps).1.length = is.length := by
  intro is
  induction is with
  | nil => intro ps _; cases ps <;> simp [resDequant]
  | cons i is ih =>
    intro ps h
    match ps, h with
    | p :: ps', h =>
      simp only [resDequant, List.length_cons]
      have := ih ps' (by simpa using h)
      omega

theorem zip3With_first_spec : ∀ (a b c : List Int), a.length = b.length → b.length = c.length →
    (zip3With nlsfFirstStage a b c).length = a.length ∧ AllI16 (zip3With nlsfFirstStage a b c) := by
  intro a
  induction a with
  | nil => intro b c _ _; simp [zip3With, AllI16]
  | cons a0 as ih =>
    intro b c h1 h2
    match b, c, h1, h2 with
    | b0 :: bs, c0 :: cs, h1, h2 =>
      have := ih bs cs (by simpa using h1) (by simpa using h2)
      simp only [zip3With, List.length_cons]
      exact ⟨by omega, List.forall_mem_cons.mpr ⟨wrap16_I16 _, this.2⟩⟩

/-- Range facts about the first-stage data of one CB1 index (decidable, checked per index on the
    regenerated tables): `silk_NLSF_unpack` succeeds, the three rows are complete, `pred_Q8[]` are bytes, `ec_ix[]` (a product
    `silk_SMULBB( 0..7, 9 )` stored in an `opus_int16`) lies in [0, 63], the weights are positive
    `opus_int16` values, the first-stage elements are bytes. -/
def stage1RangeOk (cb : NlsfCB) (cb1 : Int) : Bool :=
  match nlsfUnpack cb cb1 with
  | .ok (ec, pred) =>
    pred.length == cb.order &&
    ((cb.cb1NlsfQ8.drop (cb1.toNat * cb.order)).take cb.order).length == cb.order &&
    ((cb.cb1WghtQ9.drop (cb1.toNat * cb.order)).take cb.order).length == cb.order &&
    pred.all (fun p => decide (0 ≤ p ∧ p ≤ 255)) &&
    ec.all (fun e => decide (0 ≤ e ∧ e ≤ 63)) &&
    ((cb.cb1WghtQ9.drop (cb1.toNat * cb.order)).take cb.order).all (fun w => decide (1 ≤ w ∧ w ≤ 32767)) &&
    ((cb.cb1NlsfQ8.drop (cb1.toNat * cb.order)).take cb.order).all (fun e => decide (0 ≤ e ∧ e ≤ 255))
  | _ => false

theorem nlsfDecode_spec (cb : NlsfCB) (cb1 : Int) (idx : List Int) (hs : stage1RangeOk cb cb1 = true)
    (hpos : 0 < cb.order) (hd : DeltaOk 0 cb.order cb.deltaMinQ15) (hlen : idx.length = cb.order) :
    ∃ out, nlsfDecode cb (cb1 :: idx) = .ok out ∧ SpacedFrom 0 out cb.deltaMinQ15 ∧
      out.length = cb.order ∧ AllI16 out := by
  unfold stage1RangeOk at hs
  unfold nlsfDecode
  simp only [hlen, ne_eq, not_true_eq_false, ↓reduceIte]
  match hu : nlsfUnpack cb cb1, hs with
  | .ok (ec, pred), hs =>
    simp only [Bool.and_eq_true, beq_iff_eq, List.all_eq_true, decide_eq_true_eq] at hs
    obtain ⟨⟨⟨⟨⟨⟨hp, hel⟩, hw⟩, -⟩, -⟩, hw1⟩, -⟩ := hs
    -- weights `≥ 1` are non-zero: no `silk_DIV32_16` by zero
    have hz : ((cb.cb1WghtQ9.drop (cb1.toNat * cb.order)).take cb.order).any (· == 0) = false :=
      List.any_eq_false.mpr fun w hw' h0 => by have := hw1 w hw'; rw [beq_iff_eq] at h0; omega
    have hres := resDequant_length cb.quantStepSizeQ16 idx pred (by omega)
    have hx := zip3With_first_spec (resDequant cb.quantStepSizeQ16 idx pred).1
      ((cb.cb1WghtQ9.drop (cb1.toNat * cb.order)).take cb.order)
      ((cb.cb1NlsfQ8.drop (cb1.toNat * cb.order)).take cb.order) (by omega) (by omega)
    obtain ⟨out, ho, hsp, hol, hoI⟩ := nlsfStabilize_spec _ cb.deltaMinQ15 hx.2 (by omega)
      (by rw [hx.1, hres, hlen]; exact hd)
    refine ⟨out, ?_, hsp, by omega, hoI⟩
    simp only [bind, Res.bind]
    rw [if_neg (by omega), hz]
    simpa using ho

theorem cbNbMb_stage1Range : ∀ i ∈ List.range cbNbMb.nVectors, stage1RangeOk cbNbMb (i : Int) = true := by
  decide +kernel

theorem cbWb_stage1Range : ∀ i ∈ List.range cbWb.nVectors, stage1RangeOk cbWb (i : Int) = true := by
  decide +kernel

/-- `stage1RangeOk` starts from a successful `silk_NLSF_unpack`, so the sweeps above also give the field `unpack_ok`. -/
theorem unpack_ok_of_stage1 {cb : NlsfCB} (h : ∀ i ∈ List.range cb.nVectors, stage1RangeOk cb (i : Int) = true) :
    ∀ i ∈ List.range cb.nVectors, (nlsfUnpack cb (i : Int)).isOk = true := by
  intro i hi
  have := h i hi
  unfold stage1RangeOk at this
  split at this
  · rename_i heq; rw [heq]; rfl
  · cases this

theorem cbNbMb_wellformed : CbWellFormed cbNbMb := by
  constructor
  case unpack_ok => exact unpack_ok_of_stage1 cbNbMb_stage1Range
  all_goals decide +kernel

theorem cbWb_wellformed : CbWellFormed cbWb := by
  constructor
  case unpack_ok => exact unpack_ok_of_stage1 cbWb_stage1Range
  all_goals decide +kernel

theorem cbNbMb_deltaOk : DeltaOk 0 cbNbMb.order cbNbMb.deltaMinQ15 := deltaOk_of_wf cbNbMb_wellformed

theorem cbWb_deltaOk : DeltaOk 0 cbWb.order cbWb.deltaMinQ15 := deltaOk_of_wf cbWb_wellformed

/-- All that the theorems about `silk_NLSF_decode` and the NLSF part of `silk_decode_parameters` use of a codebook. -/
structure CbOk (cb : NlsfCB) : Prop where
  order : cb.order = 10 ∨ cb.order = 16
  qstep : 0 ≤ cb.quantStepSizeQ16 ∧ cb.quantStepSizeQ16 ≤ 11796
  delta : DeltaOk 0 cb.order cb.deltaMinQ15
  delta_pos : ∀ d ∈ cb.deltaMinQ15, 1 ≤ d
  stage1 : ∀ i, i < cb.nVectors → stage1RangeOk cb (i : Int) = true

/-- Both regenerated codebooks are such; the theorems below are about any codebook that is. -/
theorem cbOk {cb : NlsfCB} (h : cb = cbNbMb ∨ cb = cbWb) : CbOk cb := by
  rcases h with rfl | rfl
  · exact ⟨by decide, by decide, cbNbMb_deltaOk, cbNbMb_wellformed.delta_pos,
      fun i hi => cbNbMb_stage1Range i (List.mem_range.mpr hi)⟩
  · exact ⟨by decide, by decide, cbWb_deltaOk, cbWb_wellformed.delta_pos,
      fun i hi => cbWb_stage1Range i (List.mem_range.mpr hi)⟩

theorem nlsfDecode_ordered (cb : NlsfCB) (ok : CbOk cb)
    (cb1 : Nat) (h1 : cb1 < cb.nVectors) (idx : List Int) (hlen : idx.length = cb.order) :
    ∃ out, nlsfDecode cb ((cb1 : Int) :: idx) = .ok out ∧ SpacedFrom 0 out cb.deltaMinQ15 ∧
      out.length = cb.order ∧ (∀ e ∈ out, 0 ≤ e ∧ e ≤ 32767) ∧ StrictInc out := by
  obtain ⟨out, ho, hsp, hl, _⟩ := nlsfDecode_spec cb (cb1 : Int) idx
    (ok.stage1 cb1 h1) (by rcases ok.order with h | h <;> omega) ok.delta hlen
  obtain ⟨-, hr, hs⟩ := spaced_range out _ 0 hsp ok.delta_pos
  exact ⟨out, ho, hsp, hl, hr, strictInc_tail 0 out hs⟩

end Opus.SilkParams
