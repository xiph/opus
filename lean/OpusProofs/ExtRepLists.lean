import OpusProofs.ExtRepSpec
/-
  C16, repeat mechanism: facts about the list-level specification (`repCount`, `lastLongPos`, `serW`, `repBlock`,
  `serAll`, `expAll`) and about lists of extensions (`srcBytes`, and `regLL` / `regT`: the values the reader's registers
  take along such a list) in which neither the iterator nor the generator occurs.
-/
namespace Opus.ExtProofs
open Opus Opus.Ext

theorem matchB_iff {x e : Ext} : matchB x e = true ↔ (x.id = e.id ∧ (x.id < 32 → x.len = e.len)) := by
  unfold matchB
  simp only [Bool.and_eq_true, decide_eq_true_eq, Bool.not_eq_true', Bool.and_eq_false_iff, decide_eq_false_iff_not,
    Decidable.not_not, ne_eq]
  constructor
  · rintro ⟨h1, h2⟩; refine ⟨h1, fun h => ?_⟩; rcases h2 with h2 | h2; exact absurd h h2; exact h2
  · rintro ⟨h1, h2⟩; refine ⟨h1, ?_⟩
    by_cases h : x.id < 32
    · exact Or.inr (h2 h)
    · exact Or.inl h

/-- `xs` matches `as` position by position (same ID; same length for short IDs), same length. -/
inductive MatchL : List Ext → List Ext → Prop
  | nil : MatchL [] []
  | cons {x a : Ext} {xs as : List Ext} : matchB x a = true → MatchL xs as → MatchL (x :: xs) (a :: as)

theorem take_ne_nil {α : Type} {l : List α} {R : Nat} (h0 : 0 < R) (hR : R ≤ l.length) : l.take R ≠ [] := by
  intro h; have := congrArg List.length h; rw [List.length_take] at this; simp only [List.length_nil] at this; omega

theorem MatchL.length_eq {xs as : List Ext} (h : MatchL xs as) : xs.length = as.length := by
  induction h with
  | nil => rfl
  | cons _ _ ih => simp [ih]

theorem MatchL.drop {xs as : List Ext} (h : MatchL xs as) : ∀ k, MatchL (xs.drop k) (as.drop k) := by
  induction h with
  | nil => intro k; simpa using MatchL.nil
  | cons hxa _ ih =>
    intro k
    cases k with
    | zero => simpa using MatchL.cons hxa (by simpa using ih 0)
    | succ k' => simpa using ih k'

theorem repCount_spec : ∀ (a : List Ext) (later : List (List Ext)),
    repCount a later ≤ a.length ∧
    ∀ r ∈ later, repCount a later ≤ r.length ∧ MatchL (r.take (repCount a later)) (a.take (repCount a later)) := by
  intro a
  induction a with
  | nil => intro later; simp only [repCount, List.length_nil, Nat.le_refl, true_and]; intro r _; exact ⟨Nat.zero_le _, by simpa using MatchL.nil⟩
  | cons e a ih =>
    intro later
    simp only [repCount]
    by_cases hh : headsMatch later e = true
    · simp only [hh, if_true]
      obtain ⟨h1, h2⟩ := ih (later.map List.tail)
      refine ⟨by simp only [List.length_cons]; omega, ?_⟩
      intro r hr
      unfold headsMatch at hh
      rw [List.all_eq_true] at hh
      have hr1 := hh r hr
      cases r with
      | nil => simp at hr1
      | cons x r' =>
        simp only [List.head?_cons] at hr1
        have := h2 r' (by rw [List.mem_map]; exact ⟨x :: r', hr, rfl⟩)
        refine ⟨by simp only [List.length_cons]; omega, ?_⟩
        simp only [List.take_succ_cons]
        exact MatchL.cons hr1 this.2
    · simp only [hh, if_false]
      refine ⟨Nat.zero_le _, fun r _ => ⟨Nat.zero_le _, by simpa using MatchL.nil⟩⟩

/-- Bytes of the source region: the repeated extensions of the current frame, written in full. -/
def srcBytes (as : List Ext) : List Nat := as.flatMap (fun a => extBytes a false)

theorem srcBytes_cons (a : Ext) (as : List Ext) : srcBytes (a :: as) = extBytes a false ++ srcBytes as := by
  simp [srcBytes]

theorem extBytes_pos (e : Ext) (flag : Bool) : 0 < (extBytes e flag).length := by simp [extBytes]

theorem srcBytes_take_mono (pre : List Ext) {i j : Nat} (hij : i < j) (hj : j ≤ pre.length) :
    (srcBytes (pre.take i)).length < (srcBytes (pre.take j)).length := by
  induction pre generalizing i j with
  | nil => simp at hj; omega
  | cons e l ih =>
    cases j with
    | zero => omega
    | succ j' =>
      cases i with
      | zero =>
        simp only [List.take_zero, srcBytes, List.flatMap_nil, List.length_nil, List.take_succ_cons, List.flatMap_cons,
          List.length_append]
        have := extBytes_pos e false; omega
      | succ i' =>
        simp only [List.take_succ_cons, srcBytes_cons, List.length_append]
        have := ih (i := i') (j := j') (by omega) (by simpa using hj)
        omega

theorem srcBytes_take_inj (pre : List Ext) {i j : Nat} (hi : i ≤ pre.length) (hj : j ≤ pre.length)
    (h : (srcBytes (pre.take i)).length = (srcBytes (pre.take j)).length) : i = j := by
  apply Decidable.byContradiction; intro hne
  rcases Nat.lt_or_gt_of_ne hne with hlt | hlt
  · have := srcBytes_take_mono pre hlt hj; omega
  · have := srcBytes_take_mono pre hlt hi; omega

theorem lastLongPos_none : ∀ (l : List Ext), lastLongPos l = none → ∀ a ∈ l, a.id < 32 := by
  intro l
  induction l with
  | nil => intro _ a h; simp at h
  | cons x xs ih =>
    intro hn a ha
    simp only [lastLongPos] at hn
    cases hx : lastLongPos xs with
    | some _ => rw [hx] at hn; simp at hn
    | none =>
      rw [hx] at hn
      by_cases hx32 : 32 ≤ x.id
      · simp [hx32] at hn
      · rcases List.mem_cons.mp ha with rfl | h
        · omega
        · exact ih hx a h

theorem lastLongPos_lt : ∀ (pre : List Ext) (k : Nat), lastLongPos pre = some k →
    k < pre.length ∧ (∃ a : Ext, pre[k]? = some a ∧ 32 ≤ a.id) ∧ ∀ (j : Nat) (a : Ext), k < j → pre[j]? = some a → a.id < 32 := by
  intro pre
  induction pre with
  | nil => intro k h; simp [lastLongPos] at h
  | cons e l ih =>
    intro k h
    simp only [lastLongPos] at h
    cases hl : lastLongPos l with
    | some k' =>
      rw [hl] at h; simp only [Option.some.injEq] at h; subst h
      obtain ⟨h1, ⟨a, h2, h3⟩, h4⟩ := ih k' hl
      refine ⟨by simp; omega, ⟨a, by simpa using h2, h3⟩, ?_⟩
      intro j a' hj ha'
      cases j with
      | zero => omega
      | succ j' => exact h4 j' a' (by omega) (by simpa using ha')
    | none =>
      rw [hl] at h
      by_cases h32 : 32 ≤ e.id
      · simp only [h32, if_true, Option.some.injEq] at h; subst h
        refine ⟨by simp, ⟨e, by simp, h32⟩, ?_⟩
        intro j a' hj ha'
        cases j with
        | zero => omega
        | succ j' =>
          exact lastLongPos_none l hl a' (List.mem_of_getElem? (by simpa using ha'))
      · simp [h32] at h

/-- `last_long` (as an offset) after the extensions `as` were read from offset `q`. -/
def regLL : Nat → Option Nat → List Ext → Option Nat
  | _, ll, [] => ll
  | q, ll, e :: l => regLL (q + (extBytes e false).length) (if e.id < 32 then ll else some (q + (extBytes e false).length)) l

/-- `trailing_short_len` after the extensions `as`. -/
def regT : Int → List Ext → Int
  | T, [] => T
  | T, e :: l => regT (if e.id < 32 then T + e.len else 0) l

theorem regLL_spec : ∀ (pre : List Ext) (q : Nat) (ll : Option Nat),
    regLL q ll pre = match lastLongPos pre with
      | some k => some (q + (srcBytes (pre.take (k + 1))).length)
      | none => ll := by
  intro pre
  induction pre with
  | nil => intro q ll; rfl
  | cons e l ih =>
    intro q ll
    simp only [regLL, lastLongPos]
    rw [ih]
    cases hl : lastLongPos l with
    | some k =>
      simp only [List.take_succ_cons, srcBytes_cons, List.length_append]
      congr 1; omega
    | none =>
      simp only
      by_cases h32 : e.id < 32
      · have : ¬ (32 ≤ e.id) := by omega
        simp [h32, this]
      · have : 32 ≤ e.id := by omega
        simp [h32, this, srcBytes]

theorem regT_shorts : ∀ (as : List Ext) (T : Int), (∀ a ∈ as, a.id < 32) → regT T as = T + (as.map (fun a => a.len)).sum := by
  intro as
  induction as with
  | nil => intro T _; simp [regT]
  | cons a as ih =>
    intro T h
    have ha := h a (List.mem_cons_self ..)
    simp only [regT, ha, if_true]
    rw [ih _ (fun x hx => h x (List.mem_cons_of_mem _ hx))]
    simp; omega

theorem regT_after_long : ∀ (pre : List Ext) (T : Int) (k : Nat), lastLongPos pre = some k →
    regT T pre = ((pre.drop (k + 1)).map (fun a => a.len)).sum := by
  intro pre
  induction pre with
  | nil => intro T k h; simp [lastLongPos] at h
  | cons e l ih =>
    intro T k h
    simp only [lastLongPos] at h
    cases hl : lastLongPos l with
    | some k' =>
      rw [hl] at h; simp only [Option.some.injEq] at h; subst h
      simp only [regT, List.drop_succ_cons]
      exact ih _ k' hl
    | none =>
      rw [hl] at h
      by_cases h32 : 32 ≤ e.id
      · simp only [h32, if_true, Option.some.injEq] at h; subst h
        have hn : ¬ e.id < 32 := by omega
        simp only [regT, hn, if_false, List.drop_succ_cons, List.drop_zero]
        rw [regT_shorts l 0 (lastLongPos_none l hl)]; simp
      · simp [h32] at h

theorem repPayloads_shorts {nbF : Nat} (z : Option Nat) : ∀ (xs as : List Ext) (k : Nat), MatchL xs as →
    (∀ a ∈ as, a.id < 32) → (∀ x ∈ xs, ValidExt nbF x) →
    ((repPayloads z k xs).length : Int) = (as.map (fun a => a.len)).sum := by
  intro xs as k hm
  induction hm generalizing k with
  | nil => intro _ _; simp [repPayloads]
  | @cons x a xs as hxa _ ih =>
    intro ha hv
    obtain ⟨hid, hlen⟩ := matchB_iff.mp hxa
    have ha1 := ha a (List.mem_cons_self ..)
    have hvx := hv x (List.mem_cons_self ..)
    have hxs : x.id < 32 := by omega
    have hpl := payload_length hvx
    have : (extBytes x (decide (z = some k))).tail = payload x := by
      show (if x.id < 32 ∨ decide (z = some k) = true then ([] : List Nat) else lenBytes x.len.toNat) ++ payload x = payload x
      simp [hxs]
    simp only [repPayloads, List.length_append, this, List.map_cons, List.sum_cons]
    have := ih (k + 1) (fun y hy => ha y (List.mem_cons_of_mem _ hy)) (fun y hy => hv y (List.mem_cons_of_mem _ hy))
    rw [← hlen hxs]
    push_cast
    omega

/-- Number of extensions in the queues. -/
def total (rems : List (List Ext)) : Nat := (rems.map List.length).sum

/-- The queues `rems` belong to frames `f, f+1, …, nbF-1` and hold valid extensions of those frames. -/
def QOk (nbF f : Nat) (rems : List (List Ext)) : Prop :=
  f + rems.length = nbF ∧ ∀ (i : Nat) (r : List Ext), rems[i]? = some r → ∀ e ∈ r, ValidExt nbF e ∧ e.frame.toNat = f + i

theorem total_cons (a : List Ext) (l : List (List Ext)) : total (a :: l) = a.length + total l := by simp [total]

theorem total_map_drop (R : Nat) : ∀ (later : List (List Ext)), (∀ r ∈ later, R ≤ r.length) →
    total (later.map (List.drop R)) + R * later.length = total later := by
  intro later
  induction later with
  | nil => intro _; simp [total]
  | cons r rs ih =>
    intro h
    have h1 := h r (List.mem_cons_self ..)
    have := ih (fun x hx => h x (List.mem_cons_of_mem _ hx))
    simp only [List.map_cons, total_cons, List.length_drop, List.length_cons]
    rw [Nat.mul_add]; omega

theorem QOk.head {nbF f : Nat} {a : List Ext} {later : List (List Ext)} (h : QOk nbF f (a :: later)) :
    ∀ e ∈ a, ValidExt nbF e ∧ e.frame.toNat = f := fun e he => by simpa using h.2 0 a rfl e he

theorem QOk.later {nbF f : Nat} {a : List Ext} {later : List (List Ext)} (h : QOk nbF f (a :: later)) : QOk nbF (f + 1) later :=
  ⟨by have := h.1; simp only [List.length_cons] at this; omega, fun i r hr e he => by
    have := h.2 (i + 1) r (by simpa using hr) e he
    exact ⟨this.1, by rw [this.2]; omega⟩⟩

theorem QOk.valid {nbF f : Nat} {rems : List (List Ext)} (h : QOk nbF f rems) : ∀ r ∈ rems, ∀ e ∈ r, ValidExt nbF e :=
  fun r hr e he => by
    obtain ⟨i, hi⟩ := List.mem_iff_getElem?.mp hr
    exact (h.2 i r hi e he).1

/-- Every queue cut down (to its first `R` entries, or to the others). -/
theorem QOk.map {nbF f : Nat} {rems : List (List Ext)} (h : QOk nbF f rems) (g : List Ext → List Ext)
    (hg : ∀ r, ∀ e ∈ g r, e ∈ r) : QOk nbF f (rems.map g) := by
  refine ⟨by rw [List.length_map]; exact h.1, fun i r hr e he => ?_⟩
  rw [List.getElem?_map] at hr
  cases hl : rems[i]? with
  | none => rw [hl] at hr; cases hr
  | some r0 => rw [hl] at hr; cases hr; exact h.2 i r0 hl e (hg r0 e he)

theorem QOk.tail {nbF f : Nat} {a : List Ext} {later : List (List Ext)} (h : QOk nbF f (a :: later)) (R : Nat) :
    QOk nbF (f + 1) (later.map (List.drop R)) := h.later.map _ fun _ _ => List.mem_of_mem_drop

theorem lastFrame_same {f : Nat} : ∀ (l : List Ext) (cur : Nat), (∀ e ∈ l, e.frame.toNat = f) →
    lastFrame cur l = if l = [] then cur else f := by
  intro l
  induction l with
  | nil => intro _ _; rfl
  | cons e l ih =>
    intro cur h
    simp only [lastFrame, reduceCtorEq, if_false]
    rw [ih _ (fun x hx => h x (List.mem_cons_of_mem _ hx)), h e (List.mem_cons_self ..)]
    split <;> rfl

theorem blockR_pos {a : List Ext} {later : List (List Ext)} (h : 0 < blockR a later) : later ≠ [] :=
  fun hl => by simp [blockR, hl] at h

theorem blockR_spec (a : List Ext) (later : List (List Ext)) :
    blockR a later ≤ a.length ∧
    ∀ r ∈ later, blockR a later ≤ r.length ∧ MatchL (r.take (blockR a later)) (a.take (blockR a later)) := by
  unfold blockR
  split
  · rename_i h; subst h; exact ⟨Nat.zero_le _, fun r hr => by cases hr⟩
  · exact repCount_spec a later

theorem blockR_le (a : List Ext) (later : List (List Ext)) :
    blockR a later ≤ a.length ∧ ∀ r ∈ later, blockR a later ≤ r.length :=
  ⟨(blockR_spec a later).1, fun r hr => ((blockR_spec a later).2 r hr).1⟩

/-- `L = 0` on the repeat indicator: nothing of this frame follows the block, and nothing at all follows a block that
    holds a long extension. -/
theorem blockLast_true {n w : Nat} {a : List Ext} {later : List (List Ext)} (hcount : w + (a.length + total later) = n)
    (h : blockLast n a later w = true) :
    a.drop (blockR a later) = [] ∧
    (lastLongPos (a.take (blockR a later)) ≠ none → total (later.map (List.drop (blockR a later))) = 0) := by
  obtain ⟨hRa, hRl⟩ := blockR_le a later
  have htot := total_map_drop (blockR a later) later hRl
  unfold blockLast at h
  simp only [Bool.or_eq_true, decide_eq_true_eq, Bool.and_eq_true, List.isEmpty_iff] at h
  rcases h with h | h
  · exact ⟨List.eq_nil_of_length_eq_zero (by rw [List.length_drop]; omega), fun _ => by omega⟩
  · exact ⟨h.2, fun hl => absurd h.1 hl⟩

theorem repBlock_cons2 (R : Nat) (last : Bool) (ll : Option Nat) (r r' : List Ext) (rs : List (List Ext)) :
    repBlock R last ll (r :: r' :: rs) = repPayloads none 0 (r.take R) ++ repBlock R last ll (r' :: rs) := rfl

theorem repBlock_zero (last : Bool) (ll : Option Nat) : ∀ (later : List (List Ext)), repBlock 0 last ll later = [] := by
  intro later
  induction later with
  | nil => rfl
  | cons r rs ih =>
    cases rs with
    | nil => simp [repBlock, repPayloads]
    | cons r' rs' => rw [repBlock_cons2, ih]; simp [repPayloads]

theorem map_drop_zero (later : List (List Ext)) : later.map (List.drop 0) = later := List.map_id'' (fun _ => rfl) later

theorem serAll_cons (n : Nat) (a : List Ext) (later : List (List Ext)) (cur w : Nat) :
    serAll n (a :: later) cur w =
      serW n cur w (a.take (blockR a later)) ++ (if 0 < blockR a later then [if blockLast n a later w then 4 else 5] else []) ++
        repBlock (blockR a later) (blockLast n a later w) (lastLongPos (a.take (blockR a later))) later ++
        serW n (if 0 < blockR a later ∧ blockLast n a later w = true then lastFrame cur (a.take (blockR a later)) + 1
                else lastFrame cur (a.take (blockR a later)))
          (w + blockR a later + blockR a later * later.length) (a.drop (blockR a later)) ++
        serAll n (later.map (List.drop (blockR a later)))
          (lastFrame (if 0 < blockR a later ∧ blockLast n a later w = true then lastFrame cur (a.take (blockR a later)) + 1
                else lastFrame cur (a.take (blockR a later))) (a.drop (blockR a later)))
          (w + blockR a later + blockR a later * later.length + (a.drop (blockR a later)).length) := by
  rw [serAll]; rfl

theorem expAll_cons (a : List Ext) (later : List (List Ext)) :
    expAll (a :: later) = a.take (blockR a later) ++ (later.map (List.take (blockR a later))).flatten ++
      a.drop (blockR a later) ++ expAll (later.map (List.drop (blockR a later))) := by
  rw [expAll]

/-- The recursion of `serAll`, `expAll` and `wAll`: from the queues `a :: later` to the later queues, each cut by the same
    function (`List.drop R`). -/
theorem queues_ind {α : Type} {P : List (List α) → Prop} (nil : P [])
    (cons : ∀ a later, (∀ g : List α → List α, P (later.map g)) → P (a :: later)) : ∀ rems, P rems := by
  intro rems
  generalize hm : rems.length = m
  induction m generalizing rems with
  | zero => rw [List.eq_nil_of_length_eq_zero hm]; exact nil
  | succ m ih =>
    cases rems with
    | nil => cases hm
    | cons a later => exact cons a later fun g => ih _ (by simpa using hm)

theorem serAll_empty (n : Nat) (rems : List (List Ext)) : ∀ (cur w : Nat), total rems = 0 → serAll n rems cur w = [] := by
  induction rems using queues_ind with
  | nil => intro cur w _; rw [serAll]
  | cons a later ih =>
    intro cur w ht
    rw [total_cons] at ht
    have ha : a = [] := List.eq_nil_of_length_eq_zero (by omega)
    subst ha
    have hR : blockR [] later = 0 := by unfold blockR; split <;> simp [repCount]
    rw [serAll_cons, hR]
    simp only [List.take_nil, List.drop_nil, serW, List.nil_append, Nat.lt_irrefl, if_false, false_and, repBlock_zero,
      List.append_nil, map_drop_zero]
    have := ih id; rw [List.map_id] at this
    exact this _ _ (by omega)

theorem serW_pre (n f : Nat) : ∀ (pre : List Ext) (cur w : Nat), (∀ e ∈ pre, e.frame.toNat = f) → w + pre.length < n →
    serW n cur w pre = (if pre = [] then [] else sepBytes f cur) ++ srcBytes pre := by
  intro pre
  induction pre with
  | nil => intro _ _ _ _; simp [serW, srcBytes]
  | cons e l ih =>
    intro cur w hf hw
    have hef := hf e (List.mem_cons_self ..)
    have hflag : decide ((w : Int) = (n : Int) - 1) = false := by
      rw [decide_eq_false_iff_not]; simp only [List.length_cons] at hw; omega
    simp only [serW, hef, hflag, reduceCtorEq, if_false, srcBytes_cons]
    rw [ih f (w + 1) (fun x hx => hf x (List.mem_cons_of_mem _ hx)) (by simp only [List.length_cons] at hw; omega)]
    have : sepBytes f f = [] := by simp [sepBytes]
    cases l with
    | nil => simp
    | cons x xs => simp [this]

end Opus.ExtProofs
