import OpusModel.RepackInPlace
import OpusProofs.RepackMs
/-
  C07 (repacketizer): in-place safety.  Unpadding on one byte array — header first, then the
  frames moved one by one with memmove, exactly in the order of src/repacketizer.c — gives the same
  bytes as the pure model that reads frames from private copies: no frame byte is overwritten before
  it is read, and nothing beyond the old packet is touched.
-/
namespace Opus.RepackProofs
open Opus Opus.Framing Opus.FramingSpec Opus.FramingProofs Opus.Repack Opus.Ext
open Opus.MsDecEq (serialize_length_pos)

/-- A write at the start of the middle part `Y` of a buffer replaces the first `|bs|` bytes of `Y`. -/
theorem writeAt_mid (A Y Z bs : Bytes) (h : bs.length ≤ Y.length) :
    writeAt (A ++ Y ++ Z) A.length bs = A ++ bs ++ Y.drop bs.length ++ Z := by
  unfold writeAt
  rw [List.append_assoc A, List.take_left, ← List.drop_drop, List.drop_left, List.drop_append_of_le_length h]
  simp only [List.append_assoc]

/-- The frame-moving loop: with the destination at or before the first source and the frames lying
    back to back, every frame arrives intact; the bytes after the last frame are untouched. -/
theorem moveFrames_spec : ∀ (sizes : List Nat) (A G F R : Bytes), F.length = sumN sizes →
    ∃ X, X.length = G.length ∧
      moveFrames (A ++ G ++ F ++ R) A.length (frameSlots (A.length + G.length) sizes) = A ++ F ++ X ++ R := by
  intro sizes
  induction sizes with
  | nil =>
    intro A G F R hF
    have : F = [] := List.length_eq_zero_iff.mp (by simpa using hF)
    subst this
    exact ⟨G, rfl, by simp [moveFrames, frameSlots]⟩
  | cons n ss ih =>
    intro A G F R hF
    simp only [sumN_cons] at hF
    obtain ⟨f, F', rfl, hfl, hrl⟩ : ∃ f F', F = f ++ F' ∧ f.length = n ∧ F'.length = sumN ss :=
      ⟨F.take n, F.drop n, (List.take_append_drop n F).symm, by simp; omega, by simp; omega⟩
    simp only [frameSlots, moveFrames]
    have hread : ((A ++ G ++ (f ++ F') ++ R).drop (A.length + G.length)).take n = f := by
      rw [List.append_assoc (A ++ G), List.append_assoc f, ← List.length_append, List.drop_left, ← hfl, List.take_left]
    -- the write lands on the first |f| bytes of G ++ f: the frame has been read before any of its bytes is overwritten
    rw [hread, show A ++ G ++ (f ++ F') ++ R = A ++ (G ++ f) ++ (F' ++ R) by simp only [List.append_assoc],
      writeAt_mid A _ _ f (by simp), ← List.append_assoc]
    obtain ⟨X, hX, hm⟩ := ih (A ++ f) ((G ++ f).drop f.length) F' R hrl
    have hgl : ((G ++ f).drop f.length).length = G.length := by simp
    rw [show (A ++ f).length + ((G ++ f).drop f.length).length = A.length + G.length + n by rw [hgl]; simp; omega,
      show (A ++ f).length = A.length + n by simp; omega] at hm
    exact ⟨X, hX.trans hgl, by rw [hm]; simp⟩

theorem frameSlots_eq (off : Nat) (ss : List Nat) : frameSlots off ss = frameSlots off ss := rfl

theorem serialize_canon_eq (sd : Bool) (p : Packet) :
    serialize sd (canonPacket p.toc p.frames) = header sd (canonPacket p.toc p.frames) ++ p.frames.flatten := by
  have hpb := canonPacket_nopad p.toc p.frames
  have hfr : (canonPacket p.toc p.frames).frames = p.frames := outPacket_frames _ _ _ _ _
  simp [serialize, hpb, hfr]

/-- The canonical packet's header is no longer than the header of any valid packet with these frames. -/
theorem canon_header_le (sd : Bool) (p : Packet) (hv : Valid p) :
    (header sd (canonPacket p.toc p.frames)).length ≤ (header sd p).length := by
  have hmin := minSize_le_header sd p hv
  have hl := canonPacket_length sd p hv
  rw [serialize_canon_eq] at hl
  simp only [serialize, List.length_append] at hl hmin
  omega

/-- The two in-place steps of one stream, in variables: the stream `H ++ F ++ Pd` (header, frames, padding) stands
    at `|P| + |M|`; a header `H'` no longer than `H` is written at `|P|`, then the frames are moved down behind it. -/
theorem unpad_moves (P M H H' F Pd tail : Bytes) (sizes : List Nat) (hF : F.length = sumN sizes)
    (hH : H'.length ≤ H.length) :
    ∃ X, X.length + (H' ++ F).length = M.length + (H ++ F ++ Pd).length ∧
      moveFrames (writeAt (P ++ M ++ (H ++ F ++ Pd) ++ tail) P.length H') (P.length + H'.length)
          (frameSlots (P.length + M.length + H.length) sizes) = P ++ (H' ++ F) ++ X ++ tail := by
  rw [show P ++ M ++ (H ++ F ++ Pd) ++ tail = P ++ (M ++ H) ++ (F ++ (Pd ++ tail)) by simp only [List.append_assoc],
    writeAt_mid P _ _ H' (by simp; omega)]
  obtain ⟨X, hX, hmv⟩ := moveFrames_spec sizes (P ++ H') ((M ++ H).drop H'.length) F (Pd ++ tail) hF
  have hidx : (P ++ H').length + ((M ++ H).drop H'.length).length = P.length + M.length + H.length := by
    simp; omega
  have hdst : (P ++ H').length = P.length + H'.length := by simp
  rw [hidx, hdst] at hmv
  rw [← List.append_assoc, hmv]
  refine ⟨X ++ Pd, ?_, by simp only [List.append_assoc]⟩
  simp only [List.length_append, List.length_drop] at hX ⊢
  omega

/-- One stream unpadded in place.  The buffer is `P ++ M ++ (the stream) ++ tail`; the write position is
    `|P|`, the read position `|P| + |M|`.  Afterwards the canonical packet stands at the write position,
    followed by `|M| + (bytes saved)` stale bytes, and `tail` is untouched. -/
theorem unpadStreamInPlace_spec (sd : Bool) (p : Packet) (hv : Valid p) (P M tail : Bytes) (maxlen : Int)
    (hm : ((serialize sd p).length : Int) ≤ maxlen) :
    ∃ X, X.length + (serialize sd (canonPacket p.toc p.frames)).length = M.length + (serialize sd p).length ∧
      unpadStreamInPlace (P ++ M ++ serialize sd p ++ tail) (P.length + M.length) (serialize sd p).length P.length maxlen sd =
        .ok (P ++ serialize sd (canonPacket p.toc p.frames) ++ X ++ tail, (serialize sd (canonPacket p.toc p.frames)).length) := by
  have hne := valid_ne p hv
  have hpkt : ((P ++ M ++ serialize sd p ++ tail).drop (P.length + M.length)).take (serialize sd p).length = serialize sd p := by
    have : P ++ M ++ serialize sd p ++ tail = (P ++ M) ++ (serialize sd p ++ tail) := by simp
    rw [this, ← List.length_append, List.drop_left, List.take_left]
  have hcat := cat_first sd p hv [] (fun _ => rfl)
  simp only [List.append_nil] at hcat
  have hparse := parse_complete sd p hv [] (fun _ => rfl)
  simp only [List.append_nil] at hparse
  have hmin := minSize_minimal sd p hv
  simp only [Packet.lens] at hmin
  have hemit : emit p.toc p.frames maxlen sd false #[] = .ok (serialize sd (canonPacket p.toc p.frames)) := by
    rw [emit_noext p.toc p.frames hne maxlen sd false, if_neg (by omega), outPacket_nopad_sd]
  have hcl := serialize_canon_eq sd p
  have hhl := canon_header_le sd p hv
  have hser : serialize sd p = header sd p ++ p.frames.flatten ++ padBytes p := rfl
  have hsum : sumN (view sd p).sizes = p.frames.flatten.length := by simp only [view, Packet.lens, sumN_map_length]
  unfold unpadStreamInPlace
  simp only [hpkt, show init Rp.empty = Rp.empty from rfl, hcat, hparse]
  have hst : (firstState p).toc = p.toc ∧ (firstState p).frames = p.frames := ⟨rfl, rfl⟩
  rw [hst.1, hst.2, hemit]
  simp only [hsum]
  rw [if_neg (by rw [hcl]; simp)]
  have hhdr : (serialize sd (canonPacket p.toc p.frames)).take
      ((serialize sd (canonPacket p.toc p.frames)).length - p.frames.flatten.length) =
      header sd (canonPacket p.toc p.frames) := by
    rw [hcl]; simp
  rw [hhdr]
  have hcanlen : (serialize sd (canonPacket p.toc p.frames)).length =
      (header sd (canonPacket p.toc p.frames)).length + p.frames.flatten.length := by rw [hcl]; simp
  have hplen : (serialize sd p).length = (header sd p).length + p.frames.flatten.length + (padBytes p).length := by
    rw [hser]; simp only [List.length_append]
  rw [if_neg (by simp only [List.length_append]; omega)]
  have hpo : (view sd p).payloadOffset = (header sd p).length := rfl
  rw [hpo, hser]
  obtain ⟨X, hX, hmv⟩ := unpad_moves P M (header sd p) (header sd (canonPacket p.toc p.frames)) p.frames.flatten
    (padBytes p) tail (view sd p).sizes (by rw [hsum]) hhl
  rw [hmv, hcl]
  exact ⟨X, hX, rfl⟩

theorem msUnpadLoopInPlace_spec (ps : List Packet) (hv : ∀ p ∈ ps, Valid p) : ∀ (Done M : Bytes),
    ∃ X, (Done ++ msSerialize (ps.map fun p => canonPacket p.toc p.frames) ++ X).length = (Done ++ M ++ msSerialize ps).length ∧
      msUnpadLoopInPlace ps.length (Done ++ M ++ msSerialize ps) (Done.length + M.length) Done.length =
        .ok (Done ++ msSerialize (ps.map fun p => canonPacket p.toc p.frames) ++ X,
             Done.length + (msSerialize (ps.map fun p => canonPacket p.toc p.frames)).length) := by
  induction ps with
  | nil => intro Done M; exact ⟨M, by simp [msSerialize], by simp [msUnpadLoopInPlace, msSerialize]⟩
  | cons p ps ih =>
    intro Done M
    have hvp := hv p (by simp)
    rw [msSerialize_cons]
    simp only [List.length_cons, msUnpadLoopInPlace]
    have hdec : decide (ps.length ≠ 0) = decide (ps ≠ []) := by simp
    rw [hdec]
    generalize hsdv : decide (ps ≠ []) = sd
    have hrest : sd = false → msSerialize ps = [] := fun h => msSerialize_tail_nil (hsdv.trans h)
    have hpos := serialize_length_pos sd p
    have hbuf : Done ++ M ++ (serialize sd p ++ msSerialize ps) = Done ++ M ++ serialize sd p ++ msSerialize ps := by
      simp only [List.append_assoc]
    rw [hbuf]
    rw [if_neg (by simp only [List.length_append]; omega)]
    have hdrop : (Done ++ M ++ serialize sd p ++ msSerialize ps).drop (Done.length + M.length) = serialize sd p ++ msSerialize ps := by
      have : Done ++ M ++ serialize sd p ++ msSerialize ps = (Done ++ M) ++ (serialize sd p ++ msSerialize ps) := by simp
      rw [this, ← List.length_append, List.drop_left]
    rw [hdrop, parse_complete sd p hvp (msSerialize ps) hrest]
    simp only []
    rw [view_packetOffset]
    obtain ⟨X, hX, hstream⟩ := unpadStreamInPlace_spec sd p hvp Done M (msSerialize ps)
      (((Done ++ M ++ serialize sd p ++ msSerialize ps).length : Int) - ((Done.length + M.length : Nat) : Int))
      (by simp only [List.length_append]; push_cast; omega)
    rw [hstream]
    simp only []
    obtain ⟨Y, hY, hloop⟩ := ih (fun q hq => hv q (by simp [hq])) (Done ++ serialize sd (canonPacket p.toc p.frames)) X
    have hsrc : Done.length + M.length + (serialize sd p).length =
        (Done ++ serialize sd (canonPacket p.toc p.frames)).length + X.length := by simp only [List.length_append]; omega
    have hdst : Done.length + (serialize sd (canonPacket p.toc p.frames)).length =
        (Done ++ serialize sd (canonPacket p.toc p.frames)).length := by simp
    rw [hsrc, hdst, hloop]
    have hsd2 : decide (ps.map (fun p => canonPacket p.toc p.frames) ≠ []) = sd := by
      rw [← hsdv]; simp
    refine ⟨Y, ?_, ?_⟩
    · rw [List.map_cons, msSerialize_cons, hsd2]
      simp only [List.length_append] at hY ⊢
      omega
    · rw [List.map_cons, msSerialize_cons, hsd2]
      simp only [List.length_append, List.append_assoc, Nat.add_assoc]

end Opus.RepackProofs
