import OpusProofs.SilkResampBasic
/-
  OpusProofs.SilkResampRange — where the 32-bit reduction of the model is the identity.
  silk_resampler_private_IIR_FIR_INTERPOL (resampler_private_IIR_FIR.c:52-59): the eight `silk_SMLABB` accumulations onto res_Q15 never
  leave `opus_int32` when the buffer holds `opus_int16` values — it does, the buffer is an `opus_int16` array — for
  every one of the 12 interpolation phases: the C `+` has no signed overflow there and `smlabb`'s `wrap32` is the
  identity.
  The all-pass sections of silk_resampler_private_up2_HQ (resampler_private_up2_HQ.c:56-101) for every history of opus_int16 inputs,
  PARTIAL: the three sections of the even phase and the first two of the odd phase, by a magnitude invariant on the state
  words S[0..4] (each section: |S'| ≤ |in| + g(|in| + |S|) + 1 with g the section's gain).  For the third odd section
  (gain 1 - 9994/65536 = 0.8475) this crude invariant gives 2154e6 > 2^31: it needs the true l1 gain of the cascade; not
  proved, nor the AR2 recursion of down_FIR: there the model reduces mod 2^32 and the tie runs under UBSan.
-/
namespace OpusProofs.SilkResamp
open Opus Opus.SilkResamp Opus.SilkParams Opus.Gen.SilkResampRom

/-- `32768 * Σ |c|` over the second components. -/
def absSum : List (Int × Int) → Nat
  | [] => 0
  | p :: ps => 32768 * p.2.natAbs + absSum ps

theorem mul_bound {b c : Int} (hb : I16 b) : -(32768 * c.natAbs : Nat) ≤ b * c ∧ b * c ≤ (32768 * c.natAbs : Nat) := by
  have h : (b * c).natAbs ≤ 32768 * c.natAbs := by
    rw [Int.natAbs_mul]
    apply Nat.mul_le_mul_right
    unfold I16 at hb; omega
  omega

/-- The exact (unbounded) accumulation. -/
def exactAcc (acc : Int) (ps : List (Int × Int)) : Int := ps.foldl (fun a p => a + p.1 * p.2) acc

/-- A chain of `silk_SMLABB` on int16 operands that starts within `±L` and whose products can add at most `absSum` stays
    exact as long as `L + absSum` fits `opus_int32`.  (Two-sided bounds rather than `natAbs`: every step is linear.) -/
theorem smlabb_chain_exact : ∀ (ps : List (Int × Int)) (acc : Int) (L : Nat),
    (∀ p ∈ ps, I16 p.1 ∧ I16 p.2) → -(L : Int) ≤ acc → acc ≤ L → L + absSum ps ≤ 2147483647 →
    ps.foldl (fun a p => smlabb a p.1 p.2) acc = exactAcc acc ps ∧
      -((L + absSum ps : Nat) : Int) ≤ exactAcc acc ps ∧ exactAcc acc ps ≤ (L + absSum ps : Nat) := by
  intro ps
  induction ps with
  | nil => intro acc L _ h1 h2 _; exact ⟨rfl, by simpa [exactAcc, absSum] using h1, by simpa [exactAcc, absSum] using h2⟩
  | cons p ps ih =>
    intro acc L hp h1 h2 hb
    obtain ⟨i1, i2⟩ := hp p List.mem_cons_self
    obtain ⟨m1, m2⟩ := mul_bound (c := p.2) i1
    simp only [absSum] at hb
    have hstep : smlabb acc p.1 p.2 = acc + p.1 * p.2 := by
      unfold smlabb add32 smulbb
      rw [wrap16_id i1, wrap16_id i2]
      exact wrap32_id (And.intro (by omega) (by omega))
    obtain ⟨e1, e2, e3⟩ := ih (acc + p.1 * p.2) (L + 32768 * p.2.natAbs) (fun q hq => hp q (List.mem_cons_of_mem _ hq))
      (by omega) (by omega) (by omega)
    simp only [List.foldl_cons, hstep, exactAcc, absSum] at e1 e2 e3 ⊢
    exact ⟨e1, by omega, by omega⟩

theorem phase_sums : ∀ t : Fin 12, (phaseCoefs t.val).length = 8 ∧
    (∀ c ∈ phaseCoefs t.val, -32768 ≤ c ∧ c ≤ 32767) ∧
    32768 * ((phaseCoefs t.val).map Int.natAbs).sum ≤ 2147483647 := by decide +kernel

theorem absSum_zip (w cs : List Int) : absSum (w.zip cs) ≤ 32768 * (cs.map Int.natAbs).sum := by
  induction w generalizing cs with
  | nil => simp [absSum]
  | cons a w ih =>
    cases cs with
    | nil => simp [absSum]
    | cons c cs =>
      simp only [List.zip_cons_cons, absSum, List.map_cons, List.sum_cons]
      have := ih cs
      omega

/-- For every phase and every eight `opus_int16` samples the res_Q15 accumulation is exact: no 32-bit wrap. -/
theorem iirFir_acc_exact (t : Fin 12) (w : List Int) (hw : ∀ v ∈ w, I16 v) :
    (w.zip (phaseCoefs t.val)).foldl (fun a p => smlabb a p.1 p.2) 0 = exactAcc 0 (w.zip (phaseCoefs t.val)) ∧
    (exactAcc 0 (w.zip (phaseCoefs t.val))).natAbs ≤ 2147483647 := by
  obtain ⟨_, hc, hs⟩ := phase_sums t
  have hb := absSum_zip w (phaseCoefs t.val)
  obtain ⟨e, lo, hi⟩ := smlabb_chain_exact (w.zip (phaseCoefs t.val)) 0 0 (by
    intro p hp
    have := List.of_mem_zip hp
    exact ⟨hw _ this.1, hc _ this.2⟩) (by omega) (by omega) (by omega)
  exact ⟨e, by omega⟩

/-- silk_resampler_private_IIR_FIR_INTERPOL on an `opus_int16` buffer computes, for every index inside the buffer,
    `SAT16( RSHIFT_ROUND( Σ buf_ptr[ i ] * coef[ i ], 15 ) )` with the sum taken in unbounded integers. -/
theorem iirFirSample_exact {buf : List Int} {idx : Int} (h0 : 0 ≤ idx) (h : (idx / 65536).toNat + 8 ≤ buf.length)
    (hb : ∀ v ∈ buf, I16 v) :
    iirFirSample buf idx = .ok (sat16 (rshiftRound (exactAcc 0
      (((buf.drop (idx / 65536).toNat).take 8).zip (phaseCoefs (smulwb (idx % 65536) 12).toNat))) 15)) := by
  obtain ⟨ht0, ht1⟩ := smulwb_frac (idx := idx) (k := 12) (by omega) (by omega)
  have hacc := iirFir_acc_exact ⟨(smulwb (idx % 65536) 12).toNat, by omega⟩ ((buf.drop (idx / 65536).toNat).take 8)
    (fun v hv => hb v (List.mem_of_mem_drop (List.mem_of_mem_take hv)))
  rw [iirFirSample_eq h0 h]
  exact congrArg (fun x => Res.ok (sat16 (rshiftRound x 15))) hacc.1

def absLe (x : Int) (k : Int) : Prop := -k ≤ x ∧ x ≤ k

/-- Magnitude invariant on S[0..4] (Q10).  Each constant is the fixed point `k_in·(1 + g)/(1 − g)` of the step bound, rounded up,
    for the section's input bound `k_in` (2^25 = int16 << 10 at a first section, the previous section's output bound after it) and
    its gain `g` = c/65536 (1 + c/65536 for the third section). -/
def ApInv (S : IIR) : Prop :=
  absLe S.s0 35500000 ∧ absLe S.s1 59700000 ∧ absLe S.s2 325000000 ∧ absLe S.s3 41500000 ∧ absLe S.s4 113600000

/-- The sections without any 32-bit reduction. -/
def apSecExact (inp s c : Int) : Int × Int := (s + (inp - s) * c / 65536, inp + (inp - s) * c / 65536)
def apSec3Exact (inp s c : Int) : Int × Int :=
  (s + ((inp - s) + (inp - s) * c / 65536), inp + ((inp - s) + (inp - s) * c / 65536))

theorem apSec_exact {inp s c : Int} {ki ks : Int} (hc : -32768 ≤ c ∧ c ≤ 32767) (hi : absLe inp ki) (hs : absLe s ks)
    (hk : ki + ks ≤ 1000000000) (hki : 0 ≤ ki) (hks : 0 ≤ ks)
    (hx : absLe ((inp - s) * c / 65536) 1000000000) : apSec inp s c = apSecExact inp s c := by
  unfold absLe at *
  unfold apSec apSecExact sub32 add32 smulwb
  dsimp only
  rw [wrap16_id hc, wrap32_id (x := inp - s) (And.intro (by omega) (by omega)),
    wrap32_id (x := (inp - s) * c / 65536) (And.intro (by omega) (by omega)),
    wrap32_id (x := s + (inp - s) * c / 65536) (And.intro (by omega) (by omega)),
    wrap32_id (x := inp + (inp - s) * c / 65536) (And.intro (by omega) (by omega))]

theorem apSec3_exact {inp s c : Int} {ki ks : Int} (hc : -32768 ≤ c ∧ c ≤ 32767) (hi : absLe inp ki) (hs : absLe s ks)
    (hk : ki + ks ≤ 1000000000) (hki : 0 ≤ ki) (hks : 0 ≤ ks)
    (hx : absLe ((inp - s) + (inp - s) * c / 65536) 1000000000) : apSec3 inp s c = apSec3Exact inp s c := by
  unfold absLe at *
  unfold apSec3 apSec3Exact sub32 add32 smlawb
  dsimp only
  rw [wrap16_id hc, wrap32_id (x := inp - s) (And.intro (by omega) (by omega)),
    wrap32_id (x := (inp - s) + (inp - s) * c / 65536) (And.intro (by omega) (by omega)),
    wrap32_id (x := s + ((inp - s) + (inp - s) * c / 65536)) (And.intro (by omega) (by omega)),
    wrap32_id (x := inp + ((inp - s) + (inp - s) * c / 65536)) (And.intro (by omega) (by omega))]

theorem up2hqStep_bounds (S : IIR) (x : Int) (h : ApInv S) (hx : I16 x) :
    ApInv (up2hqStep S x).1 ∧
    apSec (lshift32 x 10) S.s0 1746 = apSecExact (x * 1024) S.s0 1746 ∧
    apSec (apSecExact (x * 1024) S.s0 1746).1 S.s1 14986 = apSecExact (apSecExact (x * 1024) S.s0 1746).1 S.s1 14986 ∧
    apSec (lshift32 x 10) S.s3 6854 = apSecExact (x * 1024) S.s3 6854 ∧
    apSec (apSecExact (x * 1024) S.s3 6854).1 S.s4 25769 = apSecExact (apSecExact (x * 1024) S.s3 6854).1 S.s4 25769 ∧
    apSec3 (apSecExact (apSecExact (x * 1024) S.s0 1746).1 S.s1 14986).1 S.s2 (-26453) =
      apSec3Exact (apSecExact (apSecExact (x * 1024) S.s0 1746).1 S.s1 14986).1 S.s2 (-26453) := by
  -- section bounds, each from the bounds of its input and its state word only
  have sec1 : ∀ u s : Int, absLe u 33554432 → absLe s 35500000 →
      absLe ((u - s) * 1746 / 65536) 1000000000 ∧ absLe (apSecExact u s 1746).1 37400000 ∧
        absLe (apSecExact u s 1746).2 35500000 := by
    intro u s hu hs; unfold absLe at hu hs; unfold absLe apSecExact; dsimp only; omega
  have sec2 : ∀ u s : Int, absLe u 37400000 → absLe s 59700000 →
      absLe ((u - s) * 14986 / 65536) 1000000000 ∧ absLe (apSecExact u s 14986).1 82000000 ∧
        absLe (apSecExact u s 14986).2 59700000 := by
    intro u s hu hs; unfold absLe at hu hs; unfold absLe apSecExact; dsimp only; omega
  have sec3 : ∀ u s : Int, absLe u 82000000 → absLe s 325000000 →
      absLe ((u - s) + (u - s) * (-26453) / 65536) 1000000000 ∧ absLe (apSec3Exact u s (-26453)).2 325000000 := by
    intro u s hu hs; unfold absLe at hu hs; unfold absLe apSec3Exact; dsimp only; omega
  have sec4 : ∀ u s : Int, absLe u 33554432 → absLe s 41500000 →
      absLe ((u - s) * 6854 / 65536) 1000000000 ∧ absLe (apSecExact u s 6854).1 49400000 ∧
        absLe (apSecExact u s 6854).2 41500000 := by
    intro u s hu hs; unfold absLe at hu hs; unfold absLe apSecExact; dsimp only; omega
  have sec5 : ∀ u s : Int, absLe u 49400000 → absLe s 113600000 →
      absLe ((u - s) * 25769 / 65536) 1000000000 ∧ absLe (apSecExact u s 25769).2 113600000 := by
    intro u s hu hs; unfold absLe at hu hs; unfold absLe apSecExact; dsimp only; omega
  obtain ⟨h0, h1, h2, h3, h4⟩ := h
  unfold I16 at hx
  have hin : lshift32 x 10 = x * 1024 := by unfold lshift32; exact wrap32_id (And.intro (by omega) (by omega))
  have hi : absLe (x * 1024) 33554432 := And.intro (by omega) (by omega)
  obtain ⟨xA, bA1, bA2⟩ := sec1 _ _ hi h0
  obtain ⟨xB, bB1, bB2⟩ := sec2 _ _ bA1 h1
  obtain ⟨xC, bC⟩ := sec3 _ _ bB1 h2
  obtain ⟨xA', bA1', bA2'⟩ := sec4 _ _ hi h3
  obtain ⟨xB', bB'⟩ := sec5 _ _ bA1' h4
  have eA := apSec_exact (c := 1746) (by omega) hi h0 (by omega) (by omega) (by omega) xA
  have eB := apSec_exact (c := 14986) (by omega) bA1 h1 (by omega) (by omega) (by omega) xB
  have eC := apSec3_exact (c := -26453) (by omega) bB1 h2 (by omega) (by omega) (by omega) xC
  have eA' := apSec_exact (c := 6854) (by omega) hi h3 (by omega) (by omega) (by omega) xA'
  have eB' := apSec_exact (c := 25769) (by omega) bA1' h4 (by omega) (by omega) (by omega) xB'
  refine ⟨⟨?_, ?_, ?_, ?_, ?_⟩, by rw [hin]; exact eA, eB, by rw [hin]; exact eA', eB', eC⟩
  · show absLe (apSec (lshift32 x 10) S.s0 (hq0 0)).2 _
    rw [show hq0 0 = 1746 from rfl, hin, eA]; exact bA2
  · show absLe (apSec (apSec (lshift32 x 10) S.s0 (hq0 0)).1 S.s1 (hq0 1)).2 _
    rw [show hq0 0 = 1746 from rfl, show hq0 1 = 14986 from rfl, hin, eA, eB]; exact bB2
  · show absLe (apSec3 (apSec (apSec (lshift32 x 10) S.s0 (hq0 0)).1 S.s1 (hq0 1)).1 S.s2 (hq0 2)).2 _
    rw [show hq0 0 = 1746 from rfl, show hq0 1 = 14986 from rfl, show hq0 2 = -26453 from rfl, hin, eA, eB, eC]
    exact bC
  · show absLe (apSec (lshift32 x 10) S.s3 (hq1 0)).2 _
    rw [show hq1 0 = 6854 from rfl, hin, eA']; exact bA2'
  · show absLe (apSec (apSec (lshift32 x 10) S.s3 (hq1 0)).1 S.s4 (hq1 1)).2 _
    rw [show hq1 0 = 6854 from rfl, show hq1 1 = 25769 from rfl, hin, eA', eB']; exact bB'

/-- The magnitude invariant is kept over every history of int16 inputs (`apInv_zero`: the state after init has it). -/
theorem up2hq_apInv (S : IIR) (xs : List Int) (h : ApInv S) (hx : ∀ v ∈ xs, I16 v) : ApInv (up2hq S xs).1 := by
  induction xs generalizing S with
  | nil => exact h
  | cons x xs ih =>
    simp only [up2hq]
    exact ih _ (up2hqStep_bounds S x h (hx x List.mem_cons_self)).1 (fun v hv => hx v (List.mem_cons_of_mem _ hv))

theorem apInv_zero : ApInv IIR.zero := by
  unfold ApInv absLe IIR.zero; dsimp only; omega

end OpusProofs.SilkResamp
