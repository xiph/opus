import OpusProofs.RangeCoderBasic
/-
  OpusProofs.RangeCoderEnc — the encoder as an exact interval over unbounded naturals
  (C08; DESIGN.md §7.C08 invariants E and N).

  `digitsVal c` is the base-256 value of everything the encoder has output so far:
  the committed bytes `buf[0..offs)`, the byte `rem` awaiting carry propagation and
  the `ext` pending `0xFF`s.  `encLow c = digitsVal c * 2^31 + val` is the exact low
  end of the current interval at scale `2^(31 + 8*encM c)`; a carry is simply bit 31
  of `val`.
-/
namespace Opus.RangeCoder

/-- Big-endian base-256 value of a byte string. -/
def bytesVal (l : List Nat) : Nat := l.foldl (fun acc b => acc * 256 + b) 0

@[simp] theorem bytesVal_nil : bytesVal [] = 0 := rfl

theorem bytesVal_foldl (l : List Nat) (a : Nat) :
    l.foldl (fun acc b => acc * 256 + b) a = a * 256 ^ l.length + bytesVal l := by
  induction l generalizing a with
  | nil => simp [bytesVal]
  | cons x xs ih =>
    simp only [List.foldl_cons, List.length_cons, bytesVal]
    rw [ih, ih (0 * 256 + x)]
    rw [Nat.pow_succ, Nat.add_mul]
    simp [Nat.mul_assoc, Nat.mul_comm 256, Nat.add_assoc]

theorem bytesVal_append (l m : List Nat) :
    bytesVal (l ++ m) = bytesVal l * 256 ^ m.length + bytesVal m := by
  unfold bytesVal
  rw [List.foldl_append, bytesVal_foldl]
  rfl

@[simp] theorem bytesVal_singleton (b : Nat) : bytesVal [b] = b := by simp [bytesVal]

theorem bytesVal_snoc (l : List Nat) (b : Nat) : bytesVal (l ++ [b]) = bytesVal l * 256 + b := by
  rw [bytesVal_append]; simp

theorem bytesVal_replicate_zero (n : Nat) : bytesVal (List.replicate n 0) = 0 := by
  induction n with
  | zero => rfl
  | succ n ih => rw [List.replicate_succ', bytesVal_snoc, ih]

theorem bytesVal_replicate_ff (n : Nat) : bytesVal (List.replicate n 255) + 1 = 256 ^ n := by
  induction n with
  | zero => rfl
  | succ n ih => rw [List.replicate_succ', bytesVal_snoc, Nat.pow_succ]; omega

theorem bytesVal_cons (x : Nat) (l : List Nat) : bytesVal (x :: l) = x * 256 ^ l.length + bytesVal l := by
  have := bytesVal_append [x] l
  simpa using this

theorem bytesVal_lt (l : List Nat) (h : ∀ b ∈ l, b < 256) : bytesVal l < 256 ^ l.length := by
  induction l with
  | nil => simp
  | cons x l ih =>
    rw [bytesVal_cons, List.length_cons, Nat.pow_succ]
    have h1 := ih (fun b hb => h b (List.mem_cons_of_mem _ hb))
    have h2 := h x (by simp)
    have : x * 256 ^ l.length + 256 ^ l.length ≤ 256 * 256 ^ l.length := by
      rw [← Nat.succ_mul]; exact Nat.mul_le_mul_right _ h2
    omega

theorem take_succ_set (l : List Nat) (n v : Nat) (h : n < l.length) :
    (l.set n v).take (n + 1) = l.take n ++ [v] := by
  rw [List.take_add_one]
  simp only [List.take_set, List.getElem?_set, h, if_true, Option.toList]
  rw [List.set_eq_of_length_le (by simp; omega)]

/-- Structural well-formedness of an encoder state. -/
structure EncWf (c : Enc) : Prop where
  offs_le : c.offs + c.endOffs ≤ c.storage
  storage_le : c.storage ≤ c.buf.length
  rem_lo : -1 ≤ c.rem
  rem_hi : c.rem ≤ 255

/-- Number of output digits still awaiting carry propagation (`rem` and the `ext` 0xFFs). -/
def pendCount (c : Enc) : Nat := (if c.rem ≥ 0 then 1 else 0) + c.ext
/-- Their value. -/
def pendVal (c : Enc) : Nat :=
  (if c.rem ≥ 0 then c.rem.toNat * 256 ^ c.ext else 0) + (256 ^ c.ext - 1)
/-- Base-256 value of all digits output so far. -/
def digitsVal (c : Enc) : Nat := bytesVal (c.buf.take c.offs) * 256 ^ pendCount c + pendVal c
/-- Number of digits output so far (= number of `ec_enc_carry_out` calls). -/
def encM (c : Enc) : Nat := c.offs + pendCount c
/-- Exact low end of the encoder's interval, at scale `2^(31 + 8*encM c)`. -/
def encLow (c : Enc) : Nat := digitsVal c * 2147483648 + c.val

theorem writeByte_ok {c : Enc} {v : Nat} (h : (writeByte c v).error = 0) :
    c.error = 0 ∧ c.offs + c.endOffs < c.storage := by
  unfold writeByte at h
  split at h
  · simp at h
  · exact ⟨h, by omega⟩

theorem writeByte_eq {c : Enc} (v : Nat) (h : c.offs + c.endOffs < c.storage) :
    writeByte c v = { c with buf := c.buf.set c.offs (v % 256), offs := c.offs + 1 } := by
  unfold writeByte; rw [if_neg (by omega)]

theorem writeByte_error_mono {c : Enc} {v : Nat} (h : c.error ≠ 0) : (writeByte c v).error ≠ 0 := by
  unfold writeByte; split <;> simp [h]

theorem carryOut_error_mono (c : Enc) (cc : Nat) (h : c.error ≠ 0) : (carryOut c cc).error ≠ 0 :=
  carryOut_pres (·.error ≠ 0) (fun _ _ h => writeByte_error_mono h) (fun _ _ h => h) (fun _ _ h => h) c cc h

theorem drop_trans {a b c : List Nat} {o1 o2 : Nat} (h1 : a.drop o2 = b.drop o2) (h2 : b.drop o1 = c.drop o1)
    (h : o1 ≤ o2) : a.drop o2 = c.drop o2 := by
  rw [h1, show o2 = o1 + (o2 - o1) by omega, ← List.drop_drop, ← List.drop_drop, h2]

/-- Buffer `B` and cursor `o` are those of `c` after the bytes `l` have been written at `c.offs`, all
    of them in front of the raw bytes. -/
structure Wrote (c : Enc) (B : List Nat) (o : Nat) (l : List Nat) : Prop where
  offs : o = c.offs + l.length
  room : o + c.endOffs ≤ c.storage
  len : B.length = c.buf.length
  take : B.take o = c.buf.take c.offs ++ l
  drop : B.drop o = c.buf.drop o

theorem Wrote.refl (c : Enc) (h : c.offs + c.endOffs ≤ c.storage) : Wrote c c.buf c.offs [] :=
  ⟨rfl, h, rfl, by simp, rfl⟩

theorem Wrote.trans {a b : Enc} {B : List Nat} {o : Nat} {l m : List Nat} (h1 : Wrote a b.buf b.offs l)
    (hs : b.storage = a.storage) (he : b.endOffs = a.endOffs) (h2 : Wrote b B o m) : Wrote a B o (l ++ m) :=
  ⟨by rw [h2.offs, h1.offs, List.length_append, Nat.add_assoc], by rw [← he, ← hs]; exact h2.room,
    h2.len.trans h1.len, by rw [h2.take, h1.take, List.append_assoc],
    drop_trans h2.drop h1.drop (by rw [h2.offs]; omega)⟩

theorem writeByte_wrote {c : Enc} {v : Nat} (hs : c.storage ≤ c.buf.length) (h : (writeByte c v).error = 0) :
    Wrote c (writeByte c v).buf (writeByte c v).offs [v % 256] := by
  obtain ⟨_, hr⟩ := writeByte_ok h
  rw [writeByte_eq v hr]
  exact ⟨rfl, by show c.offs + 1 + c.endOffs ≤ c.storage; omega, List.length_set,
    take_succ_set _ _ _ (by omega), List.drop_set_of_lt (Nat.lt_succ_self _)⟩

/-- The pending digits, after a carry into them, as a byte string. -/
theorem bytesVal_pend_carry (r e carry : Nat) (hc : carry ≤ 1) :
    bytesVal ([r + carry] ++ List.replicate e ((255 + carry) % 256)) = r * 256 ^ e + (256 ^ e - 1) + carry ∧
    (carry = 0 → bytesVal (List.replicate e ((255 + carry) % 256)) = 256 ^ e - 1) := by
  have hW : 1 ≤ 256 ^ e := Nat.pow_pos (by decide)
  have hff := bytesVal_replicate_ff e
  rcases (show carry = 0 ∨ carry = 1 by omega) with rfl | rfl
  · rw [bytesVal_append, bytesVal_singleton, List.length_replicate]
    exact ⟨by simp only [Nat.add_zero, Nat.reduceMod]; omega, fun _ => by simp only [Nat.add_zero, Nat.reduceMod]; omega⟩
  · rw [bytesVal_append, bytesVal_singleton, List.length_replicate, show (255 + 1) % 256 = 0 from rfl,
      bytesVal_replicate_zero, Nat.add_mul, Nat.one_mul]
    exact ⟨by omega, fun h => absurd h (by decide)⟩

/-- `ec_write_byte` for each byte of a list. -/
def writes (c : Enc) : List Nat → Enc
  | [] => c
  | b :: l => writes (writeByte c b) l

/-- The digits awaiting carry propagation, with the carry added, as the bytes `ec_enc_carry_out` writes. -/
def pend (c : Enc) (carry : Nat) : List Nat :=
  (if c.rem ≥ 0 then [c.rem.toNat + carry] else []) ++ List.replicate c.ext ((255 + carry) % 256)

theorem writeByte_with_ext (c : Enc) (e v : Nat) : writeByte { c with ext := e } v = { writeByte c v with ext := e } := by
  unfold writeByte; split <;> rfl

theorem writes_with_ext (e : Nat) : ∀ (l : List Nat) (c : Enc), writes { c with ext := e } l = { writes c l with ext := e }
  | [], _ => rfl
  | b :: l, c => by rw [writes, writes, writeByte_with_ext]; exact writes_with_ext e l _

theorem flushExt_eq_writes (sym : Nat) : ∀ (n : Nat) (c : Enc), c.ext = n →
    flushExt sym n c = { writes c (List.replicate n sym) with ext := 0 }
  | 0, c, h => by show c = { c with ext := 0 }; rw [← h]
  | n + 1, c, _ => by
    rw [flushExt, flushExt_eq_writes sym n _ rfl, writes_with_ext, List.replicate_succ, writes]

/-- `ec_enc_carry_out` with a digit other than 0xFF commits all pending digits. -/
theorem carryOut_eq_writes (c : Enc) (cc : Nat) (h : cc ≠ 255) :
    carryOut c cc = { writes c (pend c (cc / 256)) with rem := ((cc % 256 : Nat) : Int), ext := 0 } := by
  have flush : ∀ c1 : Enc, (if c1.ext > 0 then flushExt ((255 + cc / 256) % 256) c1.ext c1 else c1) =
      { writes c1 (List.replicate c1.ext ((255 + cc / 256) % 256)) with ext := 0 } := by
    intro c1
    rw [flushExt_eq_writes _ _ c1 rfl]
    split
    · rfl
    · have : c1.ext = 0 := by omega
      rw [this]; show c1 = { c1 with ext := 0 }; rw [← this]
  unfold carryOut pend
  rw [if_pos h]
  simp only [flush]
  split
  · rw [writeByte_ext]; rfl
  · rfl

theorem writes_pres (P : Enc → Prop) (hw : ∀ c v, P c → P (writeByte c v)) :
    ∀ (l : List Nat) (c : Enc), P c → P (writes c l)
  | [], _, h => h
  | b :: l, c, h => writes_pres P hw l _ (hw c b h)

/-- Writing a list of bytes succeeds exactly when the flag was clear and there is room for all of them in front of
    the raw bytes; it then appends them at `offs` and touches nothing else. -/
theorem writes_spec : ∀ (l : List Nat) (c : Enc), c.offs + c.endOffs ≤ c.storage → c.storage ≤ c.buf.length →
    ((writes c l).error = 0 ↔ c.error = 0 ∧ c.offs + l.length + c.endOffs ≤ c.storage) ∧
    ((writes c l).error = 0 → Wrote c (writes c l).buf (writes c l).offs (l.map (· % 256)))
  | [], c, ho, _ => ⟨⟨fun h => ⟨h, ho⟩, fun h => h.1⟩, fun _ => Wrote.refl c ho⟩
  | b :: l, c, ho, hs => by
    by_cases hr : c.offs + c.endOffs < c.storage
    · have e := writeByte_eq (c := c) b hr
      obtain ⟨i1, i2⟩ := writes_spec l (writeByte c b) (by rw [e]; show c.offs + 1 + c.endOffs ≤ c.storage; omega)
        (by rw [e]; simpa using hs)
      have he : (writeByte c b).error = c.error := by rw [e]
      have ho' : (writeByte c b).offs = c.offs + 1 := by rw [e]
      refine ⟨by rw [writes, i1, he, ho', writeByte_endOffs, writeByte_storage, List.length_cons]; omega, fun h => ?_⟩
      rw [writes] at h ⊢
      exact (writeByte_wrote hs (i1.1 h).1).trans (writeByte_storage c b) (writeByte_endOffs c b) (i2 h)
    · have hne : (writes c (b :: l)).error ≠ 0 :=
        writes_pres (·.error ≠ 0) (fun _ _ h => writeByte_error_mono h) l _
          (by unfold writeByte; rw [if_pos (by omega)]; exact Int.neg_ne_zero.2 Int.one_ne_zero)
      exact ⟨⟨fun h => absurd h hne, fun h => by rw [List.length_cons] at h; omega⟩, fun h => absurd h hne⟩

theorem writes_frame {α} (f : Enc → α) (hw : ∀ c v, f (writeByte c v) = f c) (l : List Nat) (c : Enc) :
    f (writes c l) = f c :=
  writes_pres (f · = f c) (fun x v h => (hw x v).trans h) l c rfl

theorem pend_length (c : Enc) (carry : Nat) : (pend c carry).length = pendCount c := by
  unfold pend pendCount; split <;> simp [Nat.add_comm]

/-- The pending digits, with a carry they can absorb, are bytes of value `pendVal + carry`. -/
theorem pend_spec (c : Enc) (carry : Nat) (hc : carry ≤ 1) (wh : c.rem ≤ 255)
    (hcarry : carry = 1 → 0 ≤ c.rem ∧ c.rem ≤ 254) :
    (pend c carry).map (· % 256) = pend c carry ∧ bytesVal (pend c carry) = pendVal c + carry := by
  obtain ⟨p1, p2⟩ := bytesVal_pend_carry c.rem.toNat c.ext carry hc
  refine ⟨?_, ?_⟩
  · have : ∀ b ∈ pend c carry, b % 256 = b := by
      intro b hb
      apply Nat.mod_eq_of_lt
      unfold pend at hb
      rcases List.mem_append.1 hb with hb | hb
      · split at hb
        · rw [List.mem_singleton] at hb; omega
        · cases hb
      · rw [(List.mem_replicate.1 hb).2]; omega
    rw [List.map_congr_left this, List.map_id']
  · unfold pend pendVal
    split
    · exact p1
    · rw [List.nil_append, p2 (by omega)]; omega

/-- `ec_enc_carry_out` fails exactly when the flag was set or the pending digits it has to commit do not fit. -/
theorem carryOut_error_iff (c : Enc) (cc : Nat) (ho : c.offs + c.endOffs ≤ c.storage) (hs : c.storage ≤ c.buf.length) :
    (carryOut c cc).error = 0 ↔ c.error = 0 ∧ (cc = 255 ∨ encM c + c.endOffs ≤ c.storage) := by
  by_cases h : cc = 255
  · have e : (carryOut c cc).error = c.error := by unfold carryOut; rw [if_neg (by omega)]
    rw [e]; exact ⟨fun h0 => ⟨h0, Or.inl h⟩, fun h0 => h0.1⟩
  · rw [carryOut_eq_writes c cc h]
    show (writes c (pend c (cc / 256))).error = 0 ↔ _
    rw [(writes_spec _ c ho hs).1, pend_length]
    unfold encM
    exact ⟨fun h0 => ⟨h0.1, Or.inr h0.2⟩, fun h0 => ⟨h0.1, h0.2.resolve_left h⟩⟩

/-- `ec_enc_carry_out` on success appends the 9-bit digit `cc` (byte plus carry) to the
    digit string:  `digitsVal' = digitsVal * 256 + cc`. -/
theorem carryOut_spec (c : Enc) (cc : Nat) (hcc : cc < 512) (wf : EncWf c)
    (hcarry : 256 ≤ cc → 0 ≤ c.rem ∧ c.rem ≤ 254) (hext : c.ext < 4294967295)
    (h : (carryOut c cc).error = 0) :
    c.error = 0 ∧ EncWf (carryOut c cc) ∧ digitsVal (carryOut c cc) = digitsVal c * 256 + cc ∧
    encM (carryOut c cc) = encM c + 1 ∧
    (carryOut c cc).buf.drop (carryOut c cc).offs = c.buf.drop (carryOut c cc).offs ∧
    c.offs ≤ (carryOut c cc).offs ∧
    (cc = 255 → (carryOut c cc).rem = c.rem ∧ (carryOut c cc).ext = c.ext + 1) ∧
    (cc ≠ 255 → (carryOut c cc).rem = ((cc % 256 : Nat) : Int) ∧ (carryOut c cc).ext = 0) := by
  obtain ⟨wo, ws, wl, wh⟩ := wf
  by_cases h255 : cc = 255
  · have hc0 : c.error = 0 := zero_of_sticky (carryOut_error_mono c cc) h
    have e : carryOut c cc = { c with ext := c.ext + 1 } := by
      unfold carryOut; rw [if_neg (by omega)]; simp only [u32]
      congr 1; omega
    rw [e]
    refine ⟨hc0, ⟨wo, ws, wl, wh⟩, ?_, ?_, rfl, Nat.le_refl _, fun _ => ⟨rfl, rfl⟩, fun hne => absurd h255 hne⟩
    · -- one more pending 0xFF: `(x·W + (W − 1))·256 + 255 = x·(W·256) + (W·256 − 1)`, `W = 256^ext`
      unfold digitsVal pendCount pendVal
      dsimp only
      have hW : 1 ≤ 256 ^ c.ext := Nat.pow_pos (by decide)
      generalize (if c.rem ≥ 0 then 1 else 0 : Nat) = p
      rw [h255, ← Nat.add_assoc p, Nat.pow_succ, Nat.pow_succ, ← Nat.mul_assoc]
      generalize bytesVal (c.buf.take c.offs) * 256 ^ (p + c.ext) = X
      generalize 256 ^ c.ext = W at *
      split
      · rw [← Nat.mul_assoc]; generalize c.rem.toNat * W = Y; omega
      · omega
    · unfold encM pendCount; simp only; omega
  · -- all pending digits, with the carry, become committed bytes
    rw [carryOut_eq_writes c cc h255] at h ⊢
    obtain ⟨hP, hvalP⟩ := pend_spec c (cc / 256) (by omega) wh (fun h1 => hcarry (by omega))
    have hlenP := pend_length c (cc / 256)
    obtain ⟨i1, i2⟩ := writes_spec (pend c (cc / 256)) c wo ws
    obtain ⟨hc0, -⟩ := i1.1 h
    have w := i2 h
    rw [hP] at w
    have hsto := writes_frame (·.storage) writeByte_storage (pend c (cc / 256)) c
    have heo := writes_frame (·.endOffs) writeByte_endOffs (pend c (cc / 256)) c
    generalize writes c (pend c (cc / 256)) = c2 at *
    have hq1 : pendCount { c2 with rem := ((cc % 256 : Nat) : Int), ext := 0 } = 1 := by
      unfold pendCount; simp only; rw [if_pos (by omega)]
    have hq2 : pendVal { c2 with rem := ((cc % 256 : Nat) : Int), ext := 0 } = cc % 256 := by
      unfold pendVal; simp only; rw [if_pos (by omega)]; simp; omega
    refine ⟨hc0, ⟨by simp only; rw [heo, hsto]; exact w.room, by simp only; rw [hsto, w.len]; exact ws,
      by simp only; omega, by simp only; omega⟩, ?_, by unfold encM; rw [hq1]; simp only; rw [w.offs, hlenP],
      w.drop, by simp only; rw [w.offs]; omega, fun hh => absurd hh h255, fun _ => ⟨rfl, rfl⟩⟩
    unfold digitsVal
    rw [hq1, hq2]
    simp only
    rw [w.take, bytesVal_append, hlenP, hvalP]
    generalize bytesVal (List.take c.offs c.buf) * 256 ^ pendCount c = A
    omega

/-- Invariant of an encoder state *before* normalisation (`rng` may be small).  `ext_bound`: every buffered 0xFF was
    paid for with 8 counted bits, so `nbits_total < 2^32` keeps `ext + 1` from wrapping (`hext` of `carryOut_spec`). -/
structure EncPre (c : Enc) : Prop where
  wf : EncWf c
  rng_pos : 0 < c.rng
  rng_hi : c.rng ≤ 2147483648
  sum_le : c.val + c.rng ≤ 4294967296
  carry_safe : (c.rem < 0 ∨ c.rem = 255) → c.val + c.rng ≤ 2147483648
  ext_bound : 8 * c.ext + 33 ≤ c.nbitsTotal

/-- Invariant E of a normalised encoder state: `2^23 < rng ≤ 2^31`, no 32-bit wrap of
    `val + rng`, and a carry out of `val` can always be absorbed by the pending digits. -/
structure EncInv (c : Enc) : Prop extends EncPre c where
  rng_lo : 8388608 < c.rng

/-- One iteration of `ec_enc_normalize` (entenc.c:104-108). -/
def normStep (c : Enc) : Enc :=
  { carryOut c (c.val / 8388608) with val := c.val * 256 % 2147483648,
                                      rng := u32 (c.rng * 256),
                                      nbitsTotal := c.nbitsTotal + 8 }

theorem encNormalize_step (c : Enc) (h : 0 < c.rng ∧ c.rng ≤ 8388608) :
    encNormalize c = encNormalize (normStep c) := by
  rw [encNormalize]; simp only [h, and_self, dite_true]; rfl

theorem encNormalize_done (c : Enc) (h : ¬ (0 < c.rng ∧ c.rng ≤ 8388608)) : encNormalize c = c := by
  rw [encNormalize]; simp only [h, dite_false]

/-- One normalisation step multiplies the exact interval by 256. -/
theorem normStep_spec (c : Enc) (pre : EncPre c) (hr : c.rng ≤ 8388608)
    (hn : c.nbitsTotal < 4294967296) (herr : (normStep c).error = 0) :
    c.error = 0 ∧ EncPre (normStep c) ∧ encLow (normStep c) = encLow c * 256 ∧
    (normStep c).rng = c.rng * 256 ∧ encM (normStep c) = encM c + 1 ∧
    (normStep c).buf.drop (normStep c).offs = c.buf.drop (normStep c).offs ∧
    c.offs ≤ (normStep c).offs ∧ (normStep c).storage = c.storage ∧ (normStep c).endOffs = c.endOffs ∧
    (normStep c).buf.length = c.buf.length ∧ (normStep c).endWindow = c.endWindow ∧
    (normStep c).nendBits = c.nendBits ∧ (normStep c).nbitsTotal = c.nbitsTotal + 8 := by
  obtain ⟨wf, rp, rh, sl, cs, eb⟩ := pre
  have hcc : c.val / 8388608 < 512 := by omega
  have hcarry : 256 ≤ c.val / 8388608 → 0 ≤ c.rem ∧ c.rem ≤ 254 := by
    intro h256
    have := wf.rem_lo; have := wf.rem_hi
    by_cases hx : c.rem < 0 ∨ c.rem = 255
    · have := cs hx; omega
    · omega
  have herr' : (carryOut c (c.val / 8388608)).error = 0 := herr
  obtain ⟨k0, kwf, kd, km, kdrop, koffs, k255, kne⟩ :=
    carryOut_spec c (c.val / 8388608) hcc wf hcarry (by omega) herr'
  have e1 : u32 (c.rng * 256) = c.rng * 256 := by unfold u32; omega
  have fr : (normStep c).rem = (carryOut c (c.val / 8388608)).rem := rfl
  have fe : (normStep c).ext = (carryOut c (c.val / 8388608)).ext := rfl
  have fo : (normStep c).offs = (carryOut c (c.val / 8388608)).offs := rfl
  have fb : (normStep c).buf = (carryOut c (c.val / 8388608)).buf := rfl
  have fv : (normStep c).val = c.val * 256 % 2147483648 := rfl
  have frn : (normStep c).rng = c.rng * 256 := e1
  have fdig : digitsVal (normStep c) = digitsVal (carryOut c (c.val / 8388608)) := rfl
  have fM : encM (normStep c) = encM (carryOut c (c.val / 8388608)) := rfl
  refine ⟨k0, ⟨⟨?_, ?_, ?_, ?_⟩, ?_, ?_, ?_, ?_, ?_⟩, ?_, frn, by rw [fM, km], by rw [fo, fb]; exact kdrop,
    by rw [fo]; exact koffs, carryOut_storage c _, carryOut_endOffs c _, carryOut_buf_length c _,
    carryOut_endWindow c _, carryOut_nendBits c _, rfl⟩
  · exact kwf.offs_le
  · exact kwf.storage_le
  · exact kwf.rem_lo
  · exact kwf.rem_hi
  · rw [frn]; omega
  · rw [frn]; omega
  · rw [frn, fv]; omega
  · rw [frn, fv, fr]
    intro hx
    by_cases h255 : c.val / 8388608 = 255
    · rw [(k255 h255).1] at hx
      have := cs hx; omega
    · rw [(kne h255).1] at hx
      omega
  · rw [fe]
    show 8 * (carryOut c (c.val / 8388608)).ext + 33 ≤ c.nbitsTotal + 8
    by_cases h255 : c.val / 8388608 = 255
    · rw [(k255 h255).2]; omega
    · rw [(kne h255).2]; omega
  · unfold encLow
    rw [fdig, kd, fv]
    generalize digitsVal c = D
    omega

/-! ### The code stream read by the decoder, and containment (invariant N) -/

/-- Byte `i` of the stream the decoder reads: the first `S` bytes of `B`, then zeros
    (`ec_read_byte`, entdec.c:91-93). -/
def byteAt (B : List Nat) (S i : Nat) : Nat := if i < S then B.getD i 0 else 0

/-- Value of the first `n` bytes of the stream. -/
def codeVal (B : List Nat) (S : Nat) : Nat → Nat
  | 0 => 0
  | n + 1 => codeVal B S n * 256 + byteAt B S n

theorem getD_lt_of_bytesOk {B : List Nat} (hB : BytesOk B) (i : Nat) : B.getD i 0 < 256 := by
  by_cases h : i < B.length
  · have : B.getD i 0 = B[i] := by simp [List.getD_eq_getElem?_getD, h]
    rw [this]; exact hB _ (List.getElem_mem h)
  · have : B.getD i 0 = 0 := by
      rw [List.getD_eq_getElem?_getD, List.getElem?_eq_none (by omega)]; rfl
    omega

theorem byteAt_lt_bytesOk {B : List Nat} (hB : BytesOk B) (S i : Nat) : byteAt B S i < 256 := by
  unfold byteAt; split
  · exact getD_lt_of_bytesOk hB _
  · omega

/-- The code value, truncated to the encoder's current scale, lies in the encoder's
    current interval `[encLow, encLow + rng)`.  The decoder reads 4 bytes = 32 bits ahead of the `encM` digits the encoder
    has output (hence `+ 4` here, `+ 4` / `+ 3` in `DecInv`); `/ 2` brings those 32 bits to the 31-bit scale of `encLow`. -/
def Contains (B : List Nat) (S : Nat) (c : Enc) : Prop :=
  encLow c ≤ codeVal B S (encM c + 4) / 2 ∧ codeVal B S (encM c + 4) / 2 < encLow c + c.rng

/-- The bytes after the first `n` contribute less than one unit of byte `n - 1`. -/
theorem codeVal_tail {B : List Nat} {S : Nat} (hB : ∀ i, byteAt B S i < 256) (n : Nat) :
    ∀ k, ∃ b, b < 256 ^ k ∧ codeVal B S (n + k) = codeVal B S n * 256 ^ k + b
  | 0 => ⟨0, by decide, by simp⟩
  | k + 1 => by
    obtain ⟨b, hb, e⟩ := codeVal_tail hB n k
    refine ⟨b * 256 + byteAt B S (n + k), ?_, ?_⟩
    · have := hB (n + k); rw [Nat.pow_succ]; omega
    · rw [← Nat.add_assoc, codeVal, e, Nat.pow_succ, Nat.add_mul, Nat.mul_assoc, Nat.add_assoc]

theorem encNormalize_nbits_ge (c : Enc) : c.nbitsTotal ≤ (encNormalize c).nbitsTotal := by
  have := encNormalize_rn c
  have h2 := normRN_nbits_ge c.rng c.nbitsTotal
  rw [← this] at h2; exact h2

theorem normStep_error_mono (c : Enc) (h : c.error ≠ 0) : (normStep c).error ≠ 0 :=
  carryOut_error_mono c _ h

theorem encNormalize_error_mono (c : Enc) (h : c.error ≠ 0) : (encNormalize c).error ≠ 0 :=
  encNormalize_pres (·.error ≠ 0) (fun _ _ h => writeByte_error_mono h) (fun _ _ h => h) (fun _ _ h => h)
    (fun _ _ _ _ h => h) c h

/-- Invariant rule for `ec_enc_normalize` when what is known is that the END state is error-free with `nbits_total` an
    `opus_uint32`: every step on the way then is, too. -/
theorem encNormalize_ind (P : Enc → Prop)
    (step : ∀ c, 0 < c.rng → c.rng ≤ 8388608 → (normStep c).error = 0 → (normStep c).nbitsTotal < 4294967296 →
      P c → P (normStep c))
    (c : Enc) (hn : (encNormalize c).nbitsTotal < 4294967296) (herr : (encNormalize c).error = 0) (h : P c) :
    P (encNormalize c) := by
  induction hm : 8388609 - c.rng using Nat.strongRecOn generalizing c with
  | _ m ih =>
    by_cases hc : 0 < c.rng ∧ c.rng ≤ 8388608
    · rw [encNormalize_step c hc] at hn herr ⊢
      have hr : (normStep c).rng = u32 (c.rng * 256) := rfl
      exact ih _ (by rw [← hm, hr]; unfold u32; omega) _ hn herr
        (step c hc.1 hc.2 (zero_of_sticky (encNormalize_error_mono _) herr)
          (Nat.lt_of_le_of_lt (encNormalize_nbits_ge _) hn) h) rfl
    · rw [encNormalize_done c hc]; exact h

/-- Number of raw bits written so far (here, not with `rawQ` in RangeCoderRaw, because `encNormalize_scale` says that
    normalisation keeps it). -/
def rawN (c : Enc) : Nat := 8 * c.endOffs + c.nendBits

/-- What `ec_enc_normalize` keeps, and where it may write. -/
theorem encNormalize_pre (c : Enc) (pre : EncPre c) (hn : (encNormalize c).nbitsTotal < 4294967296)
    (herr : (encNormalize c).error = 0) :
    EncPre (encNormalize c) ∧ (encNormalize c).buf.drop (encNormalize c).offs = c.buf.drop (encNormalize c).offs ∧
    c.offs ≤ (encNormalize c).offs :=
  encNormalize_ind (fun c' => EncPre c' ∧ c'.buf.drop c'.offs = c.buf.drop c'.offs ∧ c.offs ≤ c'.offs)
    (fun c' _ h2 he hnb ⟨p, d, o⟩ => by
      have hnb2 : (normStep c').nbitsTotal = c'.nbitsTotal + 8 := rfl
      obtain ⟨_, s1, _, _, _, s5, s6, _⟩ := normStep_spec c' p h2 (by omega) he
      exact ⟨s1, drop_trans s5 d s6, Nat.le_trans o s6⟩) c hn herr ⟨pre, rfl, Nat.le_refl _⟩

/-- `ec_enc_normalize` multiplies the exact interval by `256 ^ k`, `k` the number of digits it outputs. -/
theorem encNormalize_scale (c : Enc) (pre : EncPre c) (hn : (encNormalize c).nbitsTotal < 4294967296)
    (herr : (encNormalize c).error = 0) :
    ∃ k, encM (encNormalize c) = encM c + k ∧ encLow (encNormalize c) = encLow c * 256 ^ k ∧
      (encNormalize c).rng = c.rng * 256 ^ k ∧ (encNormalize c).nbitsTotal = c.nbitsTotal + 8 * k ∧
      rawN (encNormalize c) = rawN c ∧ ((k = 0 ∧ encNormalize c = c) ∨ (encNormalize c).val < 2147483648) := by
  refine (encNormalize_ind (fun c' => EncPre c' ∧ ∃ k, encM c' = encM c + k ∧ encLow c' = encLow c * 256 ^ k ∧
    c'.rng = c.rng * 256 ^ k ∧ c'.nbitsTotal = c.nbitsTotal + 8 * k ∧ rawN c' = rawN c ∧
    ((k = 0 ∧ c' = c) ∨ c'.val < 2147483648)) ?_ c hn herr
    ⟨pre, 0, rfl, by simp, by simp, rfl, rfl, Or.inl ⟨rfl, rfl⟩⟩).2
  intro c' _ h2 he hnb ⟨p, k, i1, i2, i3, i4, i5, _⟩
  have hnb2 : (normStep c').nbitsTotal = c'.nbitsTotal + 8 := rfl
  obtain ⟨_, s1, s2, s3, s4, _, _, _, s8, _, _, s11, _⟩ := normStep_spec c' p h2 (by omega) he
  refine ⟨s1, k + 1, by omega, by rw [s2, i2, Nat.pow_succ, Nat.mul_assoc], by rw [s3, i3, Nat.pow_succ, Nat.mul_assoc],
    by omega, by rw [← i5]; unfold rawN; rw [s8, s11], Or.inr ?_⟩
  show c'.val * 256 % 2147483648 < 2147483648
  omega

/-- Containment goes back from a sub-interval `k` bytes further on to the interval it lies in. -/
theorem contains_scale {B : List Nat} {S : Nat} (hB : ∀ i, byteAt B S i < 256) {c c' : Enc} {k : Nat}
    (hM : encM c' = encM c + k) (hL : encLow c * 256 ^ k ≤ encLow c')
    (hR : encLow c' + c'.rng ≤ (encLow c + c.rng) * 256 ^ k) (h : Contains B S c') : Contains B S c := by
  unfold Contains at h ⊢
  obtain ⟨b, hb, e⟩ := codeVal_tail hB (encM c + 4) k
  rw [hM, show encM c + k + 4 = encM c + 4 + k by omega, e] at h
  generalize codeVal B S (encM c + 4) = C at *
  generalize encLow c = L at *
  generalize encLow c' = L' at *
  generalize 256 ^ k = P at *
  obtain ⟨h1, h2⟩ := h
  have a1 : 2 * L * P < (C + 1) * P := by rw [Nat.mul_assoc, Nat.add_mul, Nat.one_mul]; omega
  have a2 : C * P < 2 * (L + c.rng) * P := by rw [Nat.mul_assoc]; omega
  have a3 := Nat.lt_of_mul_lt_mul_right a1
  have a4 := Nat.lt_of_mul_lt_mul_right a2
  omega

theorem encNormalize_spec (c : Enc) (pre : EncPre c) (hn : (encNormalize c).nbitsTotal < 4294967296)
    (herr : (encNormalize c).error = 0) :
    c.error = 0 ∧ EncInv (encNormalize c) ∧
    (∀ B S, (∀ i, byteAt B S i < 256) → Contains B S (encNormalize c) → Contains B S c) ∧
    (encNormalize c).buf.drop (encNormalize c).offs = c.buf.drop (encNormalize c).offs ∧
    c.offs ≤ (encNormalize c).offs ∧ (encNormalize c).storage = c.storage ∧
    (encNormalize c).endOffs = c.endOffs ∧ (encNormalize c).buf.length = c.buf.length ∧
    (encNormalize c).endWindow = c.endWindow ∧ (encNormalize c).nendBits = c.nendBits := by
  obtain ⟨k, eM, eL, eR, -⟩ := encNormalize_scale c pre hn herr
  obtain ⟨p, hd, ho⟩ := encNormalize_pre c pre hn herr
  have hlo : 8388608 < (encNormalize c).rng := by
    have := (normRN_spec c.rng c.nbitsTotal pre.rng_pos pre.rng_hi).1
    rw [← encNormalize_rn] at this; exact this
  exact ⟨zero_of_sticky (encNormalize_error_mono c) herr, ⟨p, hlo⟩, fun B S hB h => contains_scale hB eM (Nat.le_of_eq eL.symm) (by rw [eL, eR, Nat.add_mul]; exact Nat.le_refl _) h, hd, ho,
    encNormalize_frame (·.storage) (by simp) (fun _ _ => rfl) (fun _ _ => rfl) (fun _ _ _ _ => rfl) c,
    encNormalize_frame (·.endOffs) (by simp) (fun _ _ => rfl) (fun _ _ => rfl) (fun _ _ _ _ => rfl) c,
    encNormalize_frame (·.buf.length) (by simp) (fun _ _ => rfl) (fun _ _ => rfl) (fun _ _ _ _ => rfl) c,
    encNormalize_frame (·.endWindow) (by simp) (fun _ _ => rfl) (fun _ _ => rfl) (fun _ _ _ _ => rfl) c,
    encNormalize_frame (·.nendBits) (by simp) (fun _ _ => rfl) (fun _ _ => rfl) (fun _ _ _ _ => rfl) c⟩

/-! ### The generic interval subdivision behind every range-coded symbol (invariant N) -/

/-- The state change common to `ec_encode`, `ec_encode_bin`, `ec_enc_bit_logp`, `ec_enc_icdf`
    before normalisation: `r` is the scaled unit, `a`/`b` the cumulative frequencies counted
    from the top (`ft-fl`, `ft-fh`), `first` says that the symbol is the first one (`fl = 0`). -/
def encSub (c : Enc) (r a b : Nat) (first : Bool) : Enc :=
  if first then { c with rng := c.rng - r * b }
  else { c with val := c.val + (c.rng - r * a), rng := r * (a - b) }

structure SubOk (rng r a b : Nat) : Prop where
  r_pos : 0 < r
  b_lt : b < a
  fit : r * a ≤ rng

theorem SubOk.facts {rng r a b : Nat} (h : SubOk rng r a b) :
    r * b + r ≤ r * a ∧ r * (a - b) = r * a - r * b ∧ r * a ≤ rng := by
  refine ⟨?_, Nat.mul_sub .., h.fit⟩
  have : r * (b + 1) ≤ r * a := Nat.mul_le_mul_left r h.b_lt
  rw [Nat.mul_add] at this; omega

section
variable (c : Enc) (r a b : Nat) (first : Bool)
@[simp] theorem encSub_buf : (encSub c r a b first).buf = c.buf := by unfold encSub; split <;> rfl
@[simp] theorem encSub_offs : (encSub c r a b first).offs = c.offs := by unfold encSub; split <;> rfl
@[simp] theorem encSub_storage : (encSub c r a b first).storage = c.storage := by unfold encSub; split <;> rfl
@[simp] theorem encSub_endOffs : (encSub c r a b first).endOffs = c.endOffs := by unfold encSub; split <;> rfl
@[simp] theorem encSub_endWindow : (encSub c r a b first).endWindow = c.endWindow := by unfold encSub; split <;> rfl
@[simp] theorem encSub_nendBits : (encSub c r a b first).nendBits = c.nendBits := by unfold encSub; split <;> rfl
@[simp] theorem encSub_nbitsTotal : (encSub c r a b first).nbitsTotal = c.nbitsTotal := by unfold encSub; split <;> rfl
@[simp] theorem encSub_ext : (encSub c r a b first).ext = c.ext := by unfold encSub; split <;> rfl
@[simp] theorem encSub_rem : (encSub c r a b first).rem = c.rem := by unfold encSub; split <;> rfl
@[simp] theorem encSub_error : (encSub c r a b first).error = c.error := by unfold encSub; split <;> rfl
theorem encSub_digitsVal : digitsVal (encSub c r a b first) = digitsVal c := by
  unfold digitsVal pendCount pendVal; simp
theorem encSub_encM : encM (encSub c r a b first) = encM c := by
  unfold encM pendCount; simp
end

/-- A subdivision that fits stays inside the interval and does not move its low end down. -/
theorem encSub_bounds (c : Enc) (r a b : Nat) (first : Bool) (ok : SubOk c.rng r a b) :
    (encSub c r a b first).val + (encSub c r a b first).rng ≤ c.val + c.rng ∧
    0 < (encSub c r a b first).rng ∧ (encSub c r a b first).rng ≤ c.rng ∧ c.val ≤ (encSub c r a b first).val := by
  obtain ⟨f1, f2, f3⟩ := ok.facts
  have hr := ok.r_pos
  unfold encSub; split
  · simp only; omega
  · simp only; rw [f2]; omega

theorem encSub_spec (c : Enc) (r a b : Nat) (first : Bool) (inv : EncInv c) (ok : SubOk c.rng r a b) :
    EncPre (encSub c r a b first) ∧ (encSub c r a b first).rng ≤ c.rng ∧
    (∀ B S, Contains B S (encSub c r a b first) → Contains B S c) := by
  obtain ⟨⟨wf, rp, rh, sl, cs, eb⟩, rl⟩ := inv
  have hv := encSub_bounds c r a b first ok
  refine ⟨⟨⟨by simpa using wf.offs_le, by simpa using wf.storage_le, by simpa using wf.rem_lo,
    by simpa using wf.rem_hi⟩, hv.2.1, by omega, by omega, ?_, by simpa using eb⟩, hv.2.2.1, ?_⟩
  · intro hx
    rw [encSub_rem] at hx
    have := cs hx; omega
  · intro B S hc
    unfold Contains encLow at hc ⊢
    rw [encSub_digitsVal, encSub_encM] at hc
    omega

end Opus.RangeCoder
