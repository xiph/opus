import OpusProofs.CeltBandsFault
import OpusProofs.CeltSymsHeader
import OpusProofs.CeltAllocFinal
/-
  C03, stage 2: what the totality of the CELT frame model `Opus.CeltBands.celtFrame` needs from the allocation.

  * The header hands C17's allocation an input inside the domain of its theorems (`Dom`: offsets ≥ 0, caps of
    `init_caps`, `total ≤ len·64`), so `clt_compute_allocation` returns for every oracle (`alloc_main`, C17).
  * What the driving loop `allocDrive` needs from the allocation beyond that is a bound on its coder calls (`AllocOps`:
    at most 63 of them, every `ec_dec_uint` with `2 ≤ ft < 2^32`).  It holds on `Dom` (`allocOps_of_dom`: one skip
    flag per band, the intensity `uint` with `ft = codedBands+1-start`, one dual-stereo flag).
  * So the driving loop ends within its fuel and its calls keep whatever the band data keeps (`allocDrive_spec`); the
    theorem about the whole frame is `celtFrame_spec` in OpusProofs/CeltBandsJ.lean.
-/
namespace Opus.CeltBandsProofs
open Opus Opus.RangeCoder Opus.CeltSymsFrozen Opus.CeltBands Opus.CeltSyms
open Opus.CeltSymsProofs

/-- The contract on the allocation's coder calls (decoder side, any oracle). -/
def AllocOps (p : CeltAlloc.Inp) : Prop :=
  ∀ orc o, CeltAlloc.computeAllocation p { encode := false, oracle := orc, ops := [] } = .ok o →
    o.ops.length ≤ 63 ∧ ∀ v ft, CeltAlloc.Op.uint v ft ∈ o.ops → 2 ≤ ft ∧ ft < 4294967296

open Opus.CeltAlloc OpusProofs.CeltAlloc in
/-- The contract holds on the domain of the allocation theorems: the band-skipping loop issues at most one
    `ec_dec_bit_logp` per band, "code the intensity and dual stereo parameters" at most one
    `ec_dec_uint(codedBands+1-start)` and one more flag; with `start < codedBands ≤ end ≤ 21` that is at most 23 calls
    and `2 ≤ ft ≤ 22`, well inside the `63` and `2^32` the contract asks for. -/
theorem allocOps_of_dom (p : CeltAlloc.Inp) (hp : OpusProofs.CeltAlloc.Dom p) : AllocOps p := by
  intro orc o ho
  obtain ⟨o', ho', hcb1, hcb2, _⟩ := alloc_main p hp { encode := false, oracle := orc, ops := [] } (fun h => by simp at h)
  rw [ho] at ho'
  injection ho' with ho'
  subst ho'
  obtain ⟨s, hs, rfl⟩ := (computeAllocation_ok_iff p _ o).1 ho
  obtain ⟨pre1, h1, h2, h3⟩ := skipLoop_ops p _ _ _ _ _ _ _ _ s hs
  obtain ⟨pre2, g1, g2, g3⟩ := codeStereo_ops p s (dsrsv p)
  have hl0 : (l0 p).length ≤ 21 := by
    unfold l0
    rw [List.length_zip, List.length_reverse, bands_length]
    have := hp.hend
    have : Gen.CeltTables.nbEBands = 21 := rfl
    omega
  have hops : (finishTail p s (dsrsv p)).ops = (pre2 ++ (pre1 ++ [])).reverse := by
    show (codeStereo p s (dsrsv p)).2.2.2.ops.reverse = _
    rw [g1, h1]
  refine ⟨by rw [hops]; simp only [List.length_reverse, List.length_append, List.length_nil]; omega, ?_⟩
  intro v ft hm
  rw [hops, List.mem_reverse, List.append_nil, List.mem_append] at hm
  rcases hm with hm | hm
  · have := g3 v ft hm
    have := hp.hend
    have : Gen.CeltTables.nbEBands = 21 := rfl
    have : (finishTail p s (dsrsv p)).codedBands = s.codedBands := rfl
    omega
  · exact absurd hm (h3 v ft)

theorem getD_map_nonneg (l : List Nat) (j : Nat) : 0 ≤ (l.map Int.ofNat).getD j 0 := by
  rw [List.getD_eq_getElem?_getD, List.getElem?_map]
  cases l[j]? with
  | none => simp
  | some x => simp

/-- `init_caps` as C03's header model computes it (frozen tables) is `init_caps` as the allocation model takes it -/
theorem caps_eq (cfg : CeltCfg) :
    ((List.range nbEBands).map (capOf cfg)).map Int.ofNat = CeltAlloc.initCaps cfg.LM cfg.C := by
  unfold CeltAlloc.initCaps
  rw [List.map_map]
  refine List.map_congr_left fun i _ => ?_
  simp only [Function.comp, capOf, frozen_cacheCaps, frozen_eBands]
  rfl

theorem readTail_shape (cfg : CeltCfg) (len : Nat) (flags : Nat × PostFilter × Nat × Nat) (coarse : List Int)
    (tr0 : List CEv) (c : Dec) :
    (readTail cfg len flags coarse tr0 c).caps = (List.range nbEBands).map (capOf cfg) ∧
    (readTail cfg len flags coarse tr0 c).bits ≤ ((len * 64 : Nat) : Int) := by
  unfold readTail
  generalize tfDecode cfg flags.2.2.1 c = y
  obtain ⟨tf, sel, c1, t1⟩ := y
  dsimp only
  generalize readSpread ((len * 8 : Nat) : Int) c1 = y
  obtain ⟨spread, c2, t2⟩ := y
  dsimp only
  generalize dynalloc cfg (cfg.end_ - cfg.start) cfg.start 6 ((len * 8 * 8 : Nat) : Int) c2 = y
  obtain ⟨offs, totalF, c3, t3⟩ := y
  dsimp only
  generalize readTrim totalF c3 = y
  obtain ⟨trim, c4, t4⟩ := y
  dsimp only
  refine ⟨rfl, ?_⟩
  generalize tellFrac c4 = t
  split <;> omega

theorem celtHeader_shape (cfg : CeltCfg) (len : Nat) (c : Dec) (h : CeltHdr) (hh : celtHeader cfg len c = .ok h) :
    h.caps = (List.range nbEBands).map (capOf cfg) ∧ h.bits ≤ ((len * 64 : Nat) : Int) := by
  unfold celtHeader at hh
  generalize readFlags cfg ((len * 8 : Nat) : Int) c = y at hh
  obtain ⟨flags, c1, t1⟩ := y
  dsimp only at hh
  split at hh
  · injection hh with hh
    rw [← hh]
    exact readTail_shape _ _ _ _ _ _
  all_goals exact absurd hh (by simp)

theorem allocInp_dom (cfg : CeltCfg) (len : Nat) (c : Dec) (h : CeltHdr) (hh : celtHeader cfg len c = .ok h)
    (hl : cfg.LM < 4) (hC : cfg.C = 1 ∨ cfg.C = 2) (hse : cfg.start < cfg.end_) (he : cfg.end_ ≤ 21)
    (hlen : len ≤ 262144) : OpusProofs.CeltAlloc.Dom (allocInp cfg h) := by
  obtain ⟨hcaps, hbits⟩ := celtHeader_shape cfg len c h hh
  refine ⟨hse, he, hC, by show cfg.LM ≤ 3; omega, fun j => getD_map_nonneg _ j, fun j => ?_, ?_⟩
  · show 0 ≤ (h.caps.map Int.ofNat).getD j 0 ∧ (h.caps.map Int.ofNat).getD j 0 ≤ 16777216
    rw [hcaps, caps_eq]
    exact OpusProofs.CeltAlloc.initCaps_bounds cfg.LM cfg.C (by omega) hC j
  · show h.bits ≤ 16777216
    omega

/-- The driving loop ends within its fuel — each round delivers one more value, and the allocation asks for at most 63 — and
    its calls (`ec_dec_bit_logp(…,1)`, `ec_dec_uint` inside the contract `AllocOps`) keep what the band data keeps. -/
theorem allocDrive_spec {P : BSt → Prop} (K : Keeps P) (p : CeltAlloc.Inp) (hp : OpusProofs.CeltAlloc.Dom p) :
    ∀ (k : Nat) (orc : List Nat) (s : BSt), 64 ≤ orc.length + k → 1 ≤ k → P s →
      ∃ o s', allocDrive p k orc s = .ok (o, s') ∧ P s'
  | 0, _, _, _, hk, _ => by omega
  | k + 1, orc, s, hlen, _, hs => by
    unfold allocDrive
    obtain ⟨o, ho, _⟩ := OpusProofs.CeltAlloc.alloc_main p hp { encode := false, oracle := orc, ops := [] }
      (fun h => by simp at h)
    rw [ho]
    dsimp only
    obtain ⟨hn, hu⟩ := allocOps_of_dom p hp orc o ho
    cases hd : o.ops.drop orc.length with
    | nil => exact ⟨o, s, rfl, hs⟩
    | cons op rest =>
      have hlt : orc.length < o.ops.length := by
        have : (o.ops.drop orc.length).length = o.ops.length - orc.length := List.length_drop
        rw [hd] at this
        simp only [List.length_cons] at this
        omega
      cases op with
      | bit v =>
        exact allocDrive_spec K p hp k (orc ++ [(s.bit 1).1]) (s.bit 1).2
          (by simp only [List.length_append, List.length_cons, List.length_nil]; omega) (by omega)
          (K.bit s 1 hs (by omega) (by omega))
      | uint v ft =>
        have hm : CeltAlloc.Op.uint v ft ∈ o.ops := List.mem_of_mem_drop (by rw [hd]; exact List.mem_cons_self)
        exact allocDrive_spec K p hp k (orc ++ [(s.uint ft).1]) (s.uint ft).2
          (by simp only [List.length_append, List.length_cons, List.length_nil]; omega) (by omega)
          (K.uint s ft hs (hu v ft hm).1 (hu v ft hm).2)

end Opus.CeltBandsProofs
