import OpusProofs.SilkSymsEncPacket
import OpusProofs.SilkSymsHistory
/-
  C08 × C03 composition: a whole SILK payload through the real range coder.
  Legality of everything the payload writer emits, the reduction of an arbitrary decoder history to one
  that agrees with the encoder's conditional-coding memory (C03's `silkCalls_first`: the symbols read do
  not depend on the history), the payload decoded from a stream on which the decoder `Reads` it in lock step with the
  encoder (`payload_decode`), the range coder's stream theorem for the payload and the signalling behind it
  (`frame_prefix_reads`), their composition `frame_prefix_decode` — the one statement the frame level builds on —, the
  round trip on the encoder's own buffer as its case without signalling, and the mono packet of one frame as an instance.
-/
namespace Opus.SilkSymsEncProofs
open Opus Opus.RangeCoder Opus.SilkSyms Opus.SilkSymsEnc Opus.SilkSymsFrozen.Icdf

theorem placeholder_eq (k : Nat) : placeholder k = .icdf 0 (flagTable k) 8 := rfl

theorem lastPatch_ic (t v n : Nat) : ∀ (ops : List Op), IcLegal ops → lastPatch t (ops ++ [.patchInitial v n]) = v := by
  intro ops
  induction ops with
  | nil => intro _; rfl
  | cons op ops ih =>
    intro h
    rcases h op (List.mem_cons_self ..) with ⟨s, tbl, rfl, _, _⟩
    rw [List.cons_append, lastPatch]
    exact ih (fun o ho => h o (List.mem_cons_of_mem _ ho))

theorem after_patch (c : Dec) (v n : Nat) : after c [.patchInitial v n] = c := rfl

theorem tell_congr {a b : Ctx} (h1 : a.rng = b.rng) (h2 : a.nbitsTotal = b.nbitsTotal) : tell a = tell b :=
  (tell_eq_of_rn h1 h2).1

theorem lbrrOne_legal {cfg : Cfg} {pk : PacketIn} (hok : PacketOk cfg pk) {i n : Nat} (hi : i < cfg.nfpp)
    (hn : n < cfg.nCh) (s : EncSt) : IcLegal (lbrrOne cfg pk i n s).1 := by
  have hco := chanOk_of hok hn
  unfold lbrrOne
  split
  · rename_i hf
    obtain ⟨hix, hpu⟩ := hco.lbrr i hi hf
    apply icLegal_append
    · split
      · rename_i hs
        obtain ⟨h2, rfl⟩ := hs
        obtain ⟨hp, hm⟩ := hok.lbrrPred h2 i hi hf
        apply icLegal_append (predOps_legal hp)
        split
        · exact midOnly_legal hm
        · exact icLegal_nil
      · exact icLegal_nil
    · exact frameOps_legal hix hpu (fun _ => rfl)
  · exact icLegal_nil

theorem lbrrChans_legal {cfg : Cfg} {pk : PacketIn} (hok : PacketOk cfg pk) {i : Nat} (hi : i < cfg.nfpp) :
    ∀ (ns : List Nat), (∀ n ∈ ns, n < cfg.nCh) → ∀ (s : EncSt), IcLegal (lbrrChans cfg pk i ns s).1 := by
  intro ns
  induction ns with
  | nil => intro _ _; exact icLegal_nil
  | cons n ns ih =>
    intro hn s
    rw [lbrrChans]
    exact icLegal_append (lbrrOne_legal hok hi (hn n (List.mem_cons_self ..)) s)
      (ih (fun n' h' => hn n' (List.mem_cons_of_mem _ h')) _)

theorem lbrrFrames_legal {cfg : Cfg} {pk : PacketIn} (hok : PacketOk cfg pk) :
    ∀ (is : List Nat), (∀ i ∈ is, i < cfg.nfpp) → ∀ (s : EncSt), IcLegal (lbrrFrames cfg pk is s).1 := by
  intro is
  induction is with
  | nil => intro _ _; exact icLegal_nil
  | cons i is ih =>
    intro hi s
    rw [lbrrFrames]
    exact icLegal_append (lbrrChans_legal hok (hi i (List.mem_cons_self ..)) _ (fun n hn => List.mem_range.mp hn) s)
      (ih (fun i' h' => hi i' (List.mem_cons_of_mem _ h')) _)

theorem frameChan_legal {cfg : Cfg} {pk : PacketIn} (hok : PacketOk cfg pk) {i n : Nat} (hi : i < cfg.nfpp)
    (hn : n < cfg.nCh) (s : EncSt) : IcLegal (frameChan cfg pk i n s).1 := by
  unfold frameChan
  split
  · rename_i hc
    obtain ⟨hix, hpu⟩ := framesOk_of hok hi hn hc
    exact frameOps_legal hix hpu (fun hh => absurd hh (by decide))
  · exact icLegal_nil

theorem frameCall_legal {cfg : Cfg} {pk : PacketIn} (hok : PacketOk cfg pk) {i : Nat} (hi : i < cfg.nfpp)
    (s : EncSt) : IcLegal (frameCall cfg pk i s).1 := by
  have h0 : 0 < cfg.nCh := by have := hok.nCh; omega
  by_cases h2 : cfg.nCh = 2
  · rw [frameCall_two h2]
    obtain ⟨hp, hm, _⟩ := hok.pred h2 i hi
    refine icLegal_append (icLegal_append (icLegal_append (predOps_legal hp) ?_) (frameChan_legal hok hi h0 s))
      (frameChan_legal hok hi (by omega) _)
    split
    · exact midOnly_legal hm
    · exact icLegal_nil
  · rw [frameCall_one h2]
    exact frameChan_legal hok hi h0 s

theorem headerOps_legal {cfg : Cfg} {pk : PacketIn} (hok : PacketOk cfg pk) : IcLegal (headerOps cfg pk) := by
  unfold headerOps
  rw [List.append_assoc]
  have := lbrrSyms_legal hok
  rw [← List.append_assoc]
  exact icLegal_append this (lbrrFrames_legal hok _ (fun i hi => List.mem_range.mp hi) _)

theorem callOps_legal {cfg : Cfg} {pk : PacketIn} (hok : PacketOk cfg pk) {i : Nat} (hi : i < cfg.nfpp) :
    IcLegal (callOps cfg pk i) := by
  unfold callOps
  apply icLegal_append
  · split
    · exact headerOps_legal hok
    · exact icLegal_nil
  · exact frameCall_legal hok hi _

theorem callsPrefix_split (cfg : Cfg) (pk : PacketIn) {j : Nat} (hj : j < cfg.nfpp) :
    ∃ rest, packetBody cfg pk = ((List.range (j + 1)).map (callOps cfg pk)).flatten ++ rest := by
  rw [packetBody_calls cfg pk (by omega)]
  obtain ⟨m, hm⟩ : ∃ m, cfg.nfpp = (j + 1) + m := ⟨cfg.nfpp - (j + 1), by omega⟩
  rw [hm, List.range_add, List.map_append, List.flatten_append]
  exact ⟨_, rfl⟩

theorem packetBody_legal {cfg : Cfg} {pk : PacketIn} (hok : PacketOk cfg pk) : IcLegal (packetBody cfg pk) := by
  rw [packetBody_calls cfg pk hok.nfpp.1]
  apply icLegal_flatten
  intro l hl
  obtain ⟨i, hi, rfl⟩ := List.mem_map.mp hl
  exact callOps_legal hok (List.mem_range.mp hi)

theorem packetEvs_congr (cfg : Cfg) (pk : PacketIn) (r r' : Nat → Nat × Int) (h : ∀ j, j < cfg.nfpp → r j = r' j) :
    packetEvs cfg pk r = packetEvs cfg pk r' := by
  unfold packetEvs
  congr 1
  apply List.map_congr_left
  intro j hj
  rw [List.mem_range] at hj
  rw [h j hj]

/-- The history `st` with the encoder's conditional-coding memory put in. -/
def syncSt (pk : PacketIn) (st : SilkSt) : SilkSt :=
  { st with ch0 := { st.ch0 with ecPrevSignalType := pk.ch0.prev.sig, ecPrevLagIndex := pk.ch0.prev.lag },
            ch1 := { st.ch1 with ecPrevSignalType := pk.ch1.prev.sig, ecPrevLagIndex := pk.ch1.prev.lag } }

theorem silkCalls_any {cfg : Cfg} {pk : PacketIn} (hok : PacketOk cfg pk) (st : SilkSt) (d0 : Dec)
    (h : Reads d0 (flagOps (headerBits cfg pk) ++ packetBody cfg pk)) :
    (silkCalls cfg cfg.nfpp true st d0).1 =
      packetEvs cfg pk (fun j => ((decAt cfg pk d0 j).rng, tell (decAt cfg pk d0 j))) ∧
    (silkCalls cfg cfg.nfpp true st d0).2.2 = after d0 (flagOps (headerBits cfg pk) ++ packetBody cfg pk) := by
  obtain ⟨e1, e2⟩ := Opus.SilkSymsProofs.silkCalls_first cfg hok.nCh (Or.inl hok.lost) cfg.nfpp st (syncSt pk st) d0
  rw [e1, e2]
  exact silkCalls_sync hok (syncSt pk st) d0 ⟨rfl, rfl, rfl, rfl⟩ h

/-- the number of header flag bits of a SILK payload, `(nfpp + 1) * nCh`, lies in 1..8 -/
theorem flagCount_bounds {cfg : Cfg} {pk : PacketIn} (hok : PacketOk cfg pk) :
    1 ≤ (cfg.nfpp + 1) * cfg.nCh ∧ (cfg.nfpp + 1) * cfg.nCh ≤ 8 := by
  have := hok.nfpp
  rcases hok.nCh with h | h <;> rw [h] <;> omega

/-- A SILK payload read back from a byte stream `(B, S)` on which the decoder reads the flag bits and the body and, at
    every point `P` of the body, has the `rng` and `nbits_total` of the encoder behind placeholder and `P` (`hlk`; the
    range coder's lock step along the stream, `frame_prefix_reads`): what `silk_Decode` reports, where it ends, and that
    every `ret` and the final state carry the encoder's `rng` and `ec_tell` (the patch moves neither). -/
theorem payload_decode (buf : List Nat) (size : Nat) {cfg : Cfg} {pk : PacketIn} (hok : PacketOk cfg pk) (st : SilkSt)
    (B : List Nat) (S : Nat) (h : Reads (decInit B S) (flagOps (headerBits cfg pk) ++ packetBody cfg pk))
    (hlk : ∀ P rest, packetBody cfg pk = P ++ rest →
      (after (decInit B S) (flagOps (headerBits cfg pk) ++ P)).rng =
        (encRun (encInit buf size) (placeholder ((cfg.nfpp + 1) * cfg.nCh) :: P)).rng ∧
      (after (decInit B S) (flagOps (headerBits cfg pk) ++ P)).nbitsTotal =
        (encRun (encInit buf size) (placeholder ((cfg.nfpp + 1) * cfg.nCh) :: P)).nbitsTotal) :
    (silkCalls cfg cfg.nfpp true st (decInit B S)).1 =
      packetEvs cfg pk (fun j => ((encRun (encInit buf size) (prefixOps cfg pk j)).rng,
        tell (encRun (encInit buf size) (prefixOps cfg pk j)))) ∧
    (silkCalls cfg cfg.nfpp true st (decInit B S)).2.2 =
      after (decInit B S) (flagOps (headerBits cfg pk) ++ packetBody cfg pk) ∧
    (after (decInit B S) (flagOps (headerBits cfg pk) ++ packetBody cfg pk)).rng =
      (encRun (encInit buf size) (packetOps cfg pk)).rng ∧
    tell (after (decInit B S) (flagOps (headerBits cfg pk) ++ packetBody cfg pk)) =
      tell (encRun (encInit buf size) (packetOps cfg pk)) := by
  obtain ⟨q1, q2⟩ := silkCalls_any hok st (decInit B S) h
  obtain ⟨b1, b2⟩ := hlk (packetBody cfg pk) [] (List.append_nil _).symm
  have hp : (encRun (encInit buf size) (packetOps cfg pk)).rng =
        (encRun (encInit buf size) (placeholder ((cfg.nfpp + 1) * cfg.nCh) :: packetBody cfg pk)).rng ∧
      (encRun (encInit buf size) (packetOps cfg pk)).nbitsTotal =
        (encRun (encInit buf size) (placeholder ((cfg.nfpp + 1) * cfg.nCh) :: packetBody cfg pk)).nbitsTotal := by
    rw [show packetOps cfg pk = (placeholder ((cfg.nfpp + 1) * cfg.nCh) :: packetBody cfg pk) ++
      [.patchInitial (bitsWord (headerBits cfg pk) 0) ((cfg.nfpp + 1) * cfg.nCh)] from rfl, encRun_append]
    exact patch_rn _ _ _
  refine ⟨?_, q2, b1.trans hp.1.symm, (tell_congr b1 b2).trans (tell_congr hp.1 hp.2).symm⟩
  rw [q1]
  apply packetEvs_congr
  intro j hj
  obtain ⟨rest, hrest⟩ := callsPrefix_split cfg pk hj
  obtain ⟨r1, r2⟩ := hlk _ rest hrest
  unfold decAt prefixOps
  rw [r1, tell_congr r1 r2]

end Opus.SilkSymsEncProofs

namespace Opus.OpusFrameProofs
open Opus Opus.RangeCoder Opus.SilkSyms Opus.SilkSymsEnc Opus.SilkSymsEncProofs

/-- On ANY byte stream `(B, S)` whose code value lies in the encoder's final interval the decoder reads back the SILK payload
    (flag bits coded directly, then the body), then the signalling `sig`, and is then in lock step (invariant D) with the
    encoder state at that point; at every point `P` of the body it has the `rng` and `nbits_total` the encoder had behind
    placeholder and `P`.  No decoder model yet: `frame_prefix_decode` puts C03's `silkCalls` on top. -/
theorem frame_prefix_reads (buf : List Nat) (size : Nat) (cfg : Cfg) (pk : PacketIn) (sig suf : List Op)
    (hs : size ≤ buf.length) (hb : BytesOk buf) (hok : PacketOk cfg pk)
    (hsig : LegalRun (encRun (encInit buf size) (packetOps cfg pk)) sig)
    (hsuf : LegalRun (encRun (encInit buf size) (packetOps cfg pk ++ sig)) suf)
    (hnF : (encRun (encInit buf size) (packetOps cfg pk ++ sig ++ suf)).nbitsTotal < 4294967296)
    (herrF : (encRun (encInit buf size) (packetOps cfg pk ++ sig ++ suf)).error = 0)
    (B : List Nat) (S : Nat) (hB : BytesOk B) (hS : 0 < S) (hBl : 0 < B.length)
    (hc : Contains B S (encRun (encInit buf size) (packetOps cfg pk ++ sig ++ suf)))
    (hr : RawC B S (encRun (encInit buf size) (packetOps cfg pk ++ sig))) :
    (Reads (decInit B S) (flagOps (headerBits cfg pk) ++ packetBody cfg pk) ∧
    Reads (after (decInit B S) (flagOps (headerBits cfg pk) ++ packetBody cfg pk)) sig ∧
    DecAll B S (encRun (encInit buf size) (packetOps cfg pk ++ sig))
      (after (after (decInit B S) (flagOps (headerBits cfg pk) ++ packetBody cfg pk)) sig) B) ∧
    ∀ P rest, packetBody cfg pk = P ++ rest →
      (after (decInit B S) (flagOps (headerBits cfg pk) ++ P)).rng =
        (encRun (encInit buf size) (placeholder ((cfg.nfpp + 1) * cfg.nCh) :: P)).rng ∧
      (after (decInit B S) (flagOps (headerBits cfg pk) ++ P)).nbitsTotal =
        (encRun (encInit buf size) (placeholder ((cfg.nfpp + 1) * cfg.nCh) :: P)).nbitsTotal := by
  obtain ⟨hk1, hk8⟩ := flagCount_bounds hok
  have hleg := packetBody_legal hok
  have hw := headerWord_lt hok
  have hbo := headerWord_ops hok
  unfold packetOps at hsig hsuf hnF herrF hc hr ⊢
  rw [placeholder_eq] at hsig hsuf hnF herrF hc hr ⊢
  generalize hkk : (cfg.nfpp + 1) * cfg.nCh = k at *
  generalize hword : bitsWord (headerBits cfg pk) 0 = word at *
  -- normal form: placeholder :: (pre ++ suf) with pre = body ++ [patch] ++ sig
  simp only [List.cons_append] at hsuf hnF herrF hc hr ⊢
  have hl : LegalRunP k (encOp (encInit buf size) (.icdf 0 (flagTable k) 8))
      (packetBody cfg pk ++ [Op.patchInitial word k] ++ sig) :=
    (legalRunP_append ..).2 ⟨legalRunP_of_ic k _ hw _ _ hleg, legalRunP_of_legalRun k sig _ hsig⟩
  have key := decode_flags_prefix_stream buf size k (packetBody cfg pk ++ [Op.patchInitial word k] ++ sig) suf
    hs hb hk1 hk8 hl hsuf hnF herrF B S hB hS hBl hc hr
  have hlp : lastPatch 0 (packetBody cfg pk ++ [Op.patchInitial word k] ++ sig) = word := by
    rw [lastPatch_append, lastPatch_ic 0 _ k _ hleg, lastPatch_legalRun word sig _ hsig]
  rw [hlp, hbo] at key
  obtain ⟨⟨hm, hall⟩, hlk⟩ := key
  have e : flagOps (headerBits cfg pk) ++ (packetBody cfg pk ++ [Op.patchInitial word k] ++ sig) =
      (flagOps (headerBits cfg pk) ++ packetBody cfg pk) ++ ([Op.patchInitial word k] ++ sig) := by
    simp only [List.append_assoc]
  rw [← reads_iff, e, reads_append] at hm
  rw [← after_eq, e, after_append, List.singleton_append, after_cons, after_patch] at hall
  refine ⟨⟨hm.1, hm.2.2, hall⟩, fun P rest hP => ?_⟩
  have h := hlk P (rest ++ [Op.patchInitial word k] ++ sig) (by rw [hP]; simp only [List.append_assoc])
  rw [← after_eq] at h
  exact h

/-- The common core of the frame-level theorems: on ANY byte stream `(B, S)` whose code value lies in the encoder's
    final interval, C03's SILK decoder returns what was encoded, then reads the signalling symbols `sig` back, and is then
    in lock step (invariant D: same rng, same ec_tell, val = top − code, error 0) with the encoder state at that point —
    the hand-over to what follows on the coder (`suf`; nothing for a SILK-only frame). -/
theorem frame_prefix_decode (buf : List Nat) (size : Nat) (cfg : Cfg) (pk : PacketIn) (st : SilkSt) (sig suf : List Op)
    (hs : size ≤ buf.length) (hb : BytesOk buf) (hok : PacketOk cfg pk)
    (hsig : LegalRun (encRun (encInit buf size) (packetOps cfg pk)) sig)
    (hsuf : LegalRun (encRun (encInit buf size) (packetOps cfg pk ++ sig)) suf)
    (hnF : (encRun (encInit buf size) (packetOps cfg pk ++ sig ++ suf)).nbitsTotal < 4294967296)
    (herrF : (encRun (encInit buf size) (packetOps cfg pk ++ sig ++ suf)).error = 0)
    (B : List Nat) (S : Nat) (hB : BytesOk B) (hS : 0 < S) (hBl : 0 < B.length)
    (hc : Contains B S (encRun (encInit buf size) (packetOps cfg pk ++ sig ++ suf)))
    (hr : RawC B S (encRun (encInit buf size) (packetOps cfg pk ++ sig))) :
    (silkCalls cfg cfg.nfpp true st (decInit B S)).1 =
      packetEvs cfg pk (fun j => ((encRun (encInit buf size) (prefixOps cfg pk j)).rng,
        tell (encRun (encInit buf size) (prefixOps cfg pk j)))) ∧
    (silkCalls cfg cfg.nfpp true st (decInit B S)).2.2.rng = (encRun (encInit buf size) (packetOps cfg pk)).rng ∧
    tell (silkCalls cfg cfg.nfpp true st (decInit B S)).2.2 = tell (encRun (encInit buf size) (packetOps cfg pk)) ∧
    Reads (silkCalls cfg cfg.nfpp true st (decInit B S)).2.2 sig ∧
    DecAll B S (encRun (encInit buf size) (packetOps cfg pk ++ sig))
      (after (silkCalls cfg cfg.nfpp true st (decInit B S)).2.2 sig) B := by
  obtain ⟨⟨hmA, hmS, hall⟩, hlk⟩ :=
    frame_prefix_reads buf size cfg pk sig suf hs hb hok hsig hsuf hnF herrF B S hB hS hBl hc hr
  obtain ⟨q1, q2, q3, q4⟩ := payload_decode buf size hok st B S hmA hlk
  rw [q2]
  exact ⟨q1, q3, q4, hmS, hall⟩

end Opus.OpusFrameProofs

namespace Opus.SilkSymsEncProofs
open Opus Opus.RangeCoder Opus.SilkSyms Opus.SilkSymsEnc Opus.SilkSymsFrozen.Icdf

/-- "What the SILK payload writer writes, `silk_Decode` reads back": every configuration `silk_Encode` produces
    (mono / stereo, 1-3 frames of 10 or 20 ms, with or without LBRR data), every input in the encoder's domain
    (`PacketOk`), any buffer, any decoder history. -/
theorem silk_syms_roundtrip_all (buf : List Nat) (size : Nat) (cfg : Cfg) (pk : PacketIn) (st : SilkSt)
    (hs : size ≤ buf.length) (hb : BytesOk buf) (hok : PacketOk cfg pk)
    (hnbits : (encodeAll buf size (packetOps cfg pk)).nbitsTotal < 4294967296)
    (herr : (encodeAll buf size (packetOps cfg pk)).error = 0) :
    (silkCalls cfg cfg.nfpp true st (decInit ((encodeAll buf size (packetOps cfg pk)).buf.take
        (encodeAll buf size (packetOps cfg pk)).storage) (encodeAll buf size (packetOps cfg pk)).storage)).1 =
      packetEvs cfg pk (fun j => ((encRun (encInit buf size) (prefixOps cfg pk j)).rng,
        tell (encRun (encInit buf size) (prefixOps cfg pk j)))) ∧
    (silkCalls cfg cfg.nfpp true st (decInit ((encodeAll buf size (packetOps cfg pk)).buf.take
        (encodeAll buf size (packetOps cfg pk)).storage) (encodeAll buf size (packetOps cfg pk)).storage)).2.2.error = 0 ∧
    (silkCalls cfg cfg.nfpp true st (decInit ((encodeAll buf size (packetOps cfg pk)).buf.take
        (encodeAll buf size (packetOps cfg pk)).storage) (encodeAll buf size (packetOps cfg pk)).storage)).2.2.rng =
      (encRun (encInit buf size) (packetOps cfg pk)).rng ∧
    (silkCalls cfg cfg.nfpp true st (decInit ((encodeAll buf size (packetOps cfg pk)).buf.take
        (encodeAll buf size (packetOps cfg pk)).storage) (encodeAll buf size (packetOps cfg pk)).storage)).2.2.nbitsTotal =
      (encRun (encInit buf size) (packetOps cfg pk)).nbitsTotal := by
  obtain ⟨hk1, hk8⟩ := flagCount_bounds hok
  have hw := headerWord_lt hok
  unfold encodeAll at hnbits herr ⊢
  obtain ⟨hnF, herrF⟩ := encDone_ok hnbits herr
  have hpo : packetOps cfg pk = .icdf 0 (flagTable ((cfg.nfpp + 1) * cfg.nCh)) 8 ::
      (packetBody cfg pk ++ [.patchInitial (bitsWord (headerBits cfg pk) 0) ((cfg.nfpp + 1) * cfg.nCh)]) := rfl
  have facts := flags_run_facts buf size _ _ hs hb hk1 hk8 (legalRunP_of_ic _ _ hw _ _ (packetBody_legal hok))
  rw [← hpo] at facts
  obtain ⟨riF, -, cell⟩ := facts hnF herrF
  -- the finished buffer is a stream in the final interval, and it is not empty
  have hS := cell.storage_pos hk1 riF.inv hnF herr
  obtain ⟨d1, hBt, hBl, hc, hr⟩ := encDone_stream _ riF hnF herr
  rw [d1]
  obtain ⟨r1, -, -, -, r5⟩ := Opus.OpusFrameProofs.frame_prefix_decode buf size cfg pk st [] [] hs hb hok trivial trivial
    (by rw [List.append_nil, List.append_nil]; exact hnF) (by rw [List.append_nil, List.append_nil]; exact herrF)
    _ _ hBt hS (by rw [hBl]; exact hS) (by rw [List.append_nil, List.append_nil]; exact hc)
    (by rw [List.append_nil]; exact hr)
  rw [List.append_nil] at r5
  exact ⟨r1, r5.err, r5.rc.rng_eq, r5.rc.nbits_eq⟩

/-! ### A mono packet of one frame without LBRR data is the payload `monoPk` -/

/-- The configuration of the `silk_Decode` call for a mono packet with one SILK frame. -/
def monoCfg (rate : Rate) (nbSubfr : Nat) : Cfg := { rate, nCh := 1, nfpp := 1, nbSubfr, lostFlag := 0 }

/-- What `silk_Decode` reports for that packet. -/
def monoEvents (rate : Rate) (nbSubfr vad : Nat) (ix : Indices) (pulses : List Int) (rng : Nat) (tl : Int) : List Ev :=
  [.flags 0 [vad] 0 [0, 0, 0], .indices 0 0 0 0 rate nbSubfr 0 0 ix,
   .pulses ix.signalType ix.quantOffsetType (frameLength rate nbSubfr)
     (pulsesView ix.signalType (frameLength rate nbSubfr) pulses), .ret rng tl]

/-- What `encodeMonoFrame` is given, as the input of the payload writer. -/
def monoPk (vad : Nat) (ix : Indices) (pulses : List Int) : PacketIn :=
  { ch0 := { vad := [vad], lbrrFlags := [0], lbrr := [], frames := [⟨ix, pulses⟩], prev := {} },
    ch1 := default, predIx := [], midOnly := [], lbrrPredIx := [], lbrrMidOnly := [] }

theorem monoPk_ok {rate : Rate} {nbSubfr vad : Nat} {ix : Indices} {pulses : List Int} (hnb : nbSubfr = 2 ∨ nbSubfr = 4)
    (hv : vad ≤ 1) (hix : IxOk rate nbSubfr (decide (vad ≠ 0)) 0 ix) (hp : PulsesOk (frameLength rate nbSubfr) pulses) :
    PacketOk (monoCfg rate nbSubfr) (monoPk vad ix pulses) := by
  have one : ∀ i, i < (monoCfg rate nbSubfr).nfpp → i = 0 := fun i (hi : i < 1) => by omega
  have mono : ¬ (monoCfg rate nbSubfr).nCh = 2 := fun (h : 1 = 2) => by omega
  refine ⟨Or.inl rfl, ⟨Nat.le_refl 1, (by decide : 1 ≤ 3)⟩, hnb, rfl, ⟨rfl, ?_, rfl, ?_, ?_⟩, fun h => absurd h mono, ?_,
    fun h => absurd h mono, fun h => absurd h mono, fun h => absurd h mono⟩
  · intro v h; rw [List.mem_singleton.mp h]; exact hv
  · intro v h; rw [List.mem_singleton.mp h]; decide
  · intro i hi h; rw [one i hi] at h; exact absurd rfl h
  · intro i hi; rw [one i hi]; exact ⟨hix, hp⟩

theorem monoPk_ops {rate : Rate} {nbSubfr vad : Nat} {ix : Indices} {pulses : List Int} {a : List Op}
    (ha : encodeFrame rate nbSubfr false 0 0 0 ix pulses = .ok a) :
    packetOps (monoCfg rate nbSubfr) (monoPk vad ix pulses) = placeholder 2 :: (a ++ [.patchInitial (2 * vad) 2]) ∧
    prefixOps (monoCfg rate nbSubfr) (monoPk vad ix pulses) 0 = placeholder 2 :: a := by
  have hf : frameOps rate nbSubfr false 0 {} ⟨ix, pulses⟩ = a := by unfold frameOps; rw [ha]
  have hb : packetBody (monoCfg rate nbSubfr) (monoPk vad ix pulses) = frameOps rate nbSubfr false 0 {} ⟨ix, pulses⟩ :=
    List.append_nil _
  have hc : callOps (monoCfg rate nbSubfr) (monoPk vad ix pulses) 0 = frameOps rate nbSubfr false 0 {} ⟨ix, pulses⟩ := rfl
  have hw : bitsWord (headerBits (monoCfg rate nbSubfr) (monoPk vad ix pulses)) 0 = 2 * vad := by
    show 2 * (2 * 0 + vad) + 0 = 2 * vad
    omega
  constructor
  · unfold packetOps; rw [hb, hf, hw]; rfl
  · unfold prefixOps
    show _ :: (callOps _ _ 0 ++ []) = _
    rw [hc, hf, List.append_nil]; rfl

theorem monoPk_evs (rate : Rate) (nbSubfr vad : Nat) (ix : Indices) (pulses : List Int) (r : Nat → Nat × Int) :
    packetEvs (monoCfg rate nbSubfr) (monoPk vad ix pulses) r =
      monoEvents rate nbSubfr vad ix pulses (r 0).1 (r 0).2 := rfl

/-- A mono packet of one SILK frame without LBRR data.  For every index/pulse assignment in the
    encoder's domain, any buffer, `error = 0` after `ec_enc_done`: C03's decoder model run on the bytes the
    encoder model produces reports exactly the VAD flag, the indices and the pulses that were encoded, and
    ends with the encoder's `rng` and `ec_tell`. -/
theorem silk_syms_roundtrip_frame_all (buf : List Nat) (size : Nat) (rate : Rate) (nbSubfr vad : Nat) (ix : Indices)
    (pulses : List Int) (ops : List Op) (st : SilkSt) (hs : size ≤ buf.length) (hb : BytesOk buf)
    (hnb : nbSubfr = 2 ∨ nbSubfr = 4) (hv : vad ≤ 1) (hix : IxOk rate nbSubfr (decide (vad ≠ 0)) 0 ix)
    (hp : PulsesOk (frameLength rate nbSubfr) pulses) (hops : encodeMonoFrame rate nbSubfr vad ix pulses = .ok ops)
    (hnbits : (encodeAll buf size ops).nbitsTotal < 4294967296) (herr : (encodeAll buf size ops).error = 0) :
    (silkDecodeCall (monoCfg rate nbSubfr) true st
        (decInit ((encodeAll buf size ops).buf.take (encodeAll buf size ops).storage) (encodeAll buf size ops).storage)).1 =
      monoEvents rate nbSubfr vad ix pulses (encRun (encInit buf size) ops).rng (tell (encRun (encInit buf size) ops)) ∧
    (silkDecodeCall (monoCfg rate nbSubfr) true st
        (decInit ((encodeAll buf size ops).buf.take (encodeAll buf size ops).storage) (encodeAll buf size ops).storage)).2.2.error = 0 ∧
    (silkDecodeCall (monoCfg rate nbSubfr) true st
        (decInit ((encodeAll buf size ops).buf.take (encodeAll buf size ops).storage) (encodeAll buf size ops).storage)).2.2.rng =
      (encRun (encInit buf size) ops).rng ∧
    (silkDecodeCall (monoCfg rate nbSubfr) true st
        (decInit ((encodeAll buf size ops).buf.take (encodeAll buf size ops).storage) (encodeAll buf size ops).storage)).2.2.nbitsTotal =
      (encRun (encInit buf size) ops).nbitsTotal := by
  obtain ⟨a, ha⟩ : ∃ a, encodeFrame rate nbSubfr false 0 0 0 ix pulses = .ok a :=
    ⟨_, encodeFrame_eq hix (fun h => Bool.noConfusion h)⟩
  unfold encodeMonoFrame at hops
  rw [ha] at hops
  injection hops with hops
  subst hops
  obtain ⟨ho, hpre⟩ := monoPk_ops (vad := vad) ha
  have hr : (encRun (encInit buf size) (placeholder 2 :: a)).rng =
        (encRun (encInit buf size) (placeholder 2 :: (a ++ [.patchInitial (2 * vad) 2]))).rng ∧
      (encRun (encInit buf size) (placeholder 2 :: a)).nbitsTotal =
        (encRun (encInit buf size) (placeholder 2 :: (a ++ [.patchInitial (2 * vad) 2]))).nbitsTotal := by
    rw [← List.cons_append, encRun_append]
    exact ⟨(patch_rn _ _ _).1.symm, (patch_rn _ _ _).2.symm⟩
  rw [← ho] at hnbits herr hr ⊢
  have h := silk_syms_roundtrip_all buf size (monoCfg rate nbSubfr) (monoPk vad ix pulses) st hs hb
    (monoPk_ok hnb hv hix hp) hnbits herr
  generalize decInit ((encodeAll buf size (packetOps (monoCfg rate nbSubfr) (monoPk vad ix pulses))).buf.take
    (encodeAll buf size (packetOps (monoCfg rate nbSubfr) (monoPk vad ix pulses))).storage)
    (encodeAll buf size (packetOps (monoCfg rate nbSubfr) (monoPk vad ix pulses))).storage = d at h ⊢
  have h1 : silkCalls (monoCfg rate nbSubfr) (monoCfg rate nbSubfr).nfpp true st d =
      ((silkDecodeCall (monoCfg rate nbSubfr) true st d).1 ++ [], (silkDecodeCall (monoCfg rate nbSubfr) true st d).2.1,
       (silkDecodeCall (monoCfg rate nbSubfr) true st d).2.2) := Opus.SilkSymsProofs.silkCalls_one _ _ _ _
  rw [h1, monoPk_evs, hpre, List.append_nil, hr.1, tell_congr hr.1 hr.2] at h
  -- the projections are reduced first: matched against the goal as they stand, `silkDecodeCall` gets unfolded
  dsimp only at h
  exact h

/-! ### The domain predicates are decidable (used for the non-vacuity examples) -/

instance (rate : Rate) (nb : Nat) (v : Bool) (cc : Nat) (ix : Indices) : Decidable (IxOk rate nb v cc ix) :=
  decidable_of_iff
    (ix.signalType ≤ 2 ∧ ix.quantOffsetType ≤ 1 ∧ v = decide (ix.signalType ≠ 0) ∧ ix.gains.length = nb ∧
     ix.gains.headD 0 < (if cc = 2 then 41 else 64) ∧ (∀ g ∈ ix.gains.tail, g < 41) ∧ ix.nlsf0 < 32 ∧
     ix.nlsfRes.length = (nlsfCB rate).order ∧ (∀ r ∈ ix.nlsfRes, -10 ≤ r ∧ r ≤ 10) ∧
     (if nb = 4 then ix.interp < 5 else ix.interp = 4) ∧
     (if ix.signalType = 2 then 0 ≤ ix.lagIndex ∧ ix.lagIndex < 16 * rate.kHz else ix.lagIndex = 0) ∧
     (if ix.signalType = 2 then ix.contourIndex < contourSyms rate nb else ix.contourIndex = 0) ∧
     (if ix.signalType = 2 then ix.perIndex < 3 else ix.perIndex = 0) ∧
     ix.ltp.length = (if ix.signalType = 2 then nb else 0) ∧ (∀ l ∈ ix.ltp, l < 8 * 2 ^ ix.perIndex) ∧
     (if ix.signalType = 2 ∧ cc = 0 then ix.ltpScale < 3 else ix.ltpScale = 0) ∧ ix.seed < 4)
    ⟨fun ⟨a, b, c, d, e, f, g, h, i, j, k, l, m, n, o, p, q⟩ => ⟨a, b, c, d, e, f, g, h, i, j, k, l, m, n, o, p, q⟩,
     fun h => ⟨h.sig, h.qoff, h.vad, h.gainsLen, h.gain0, h.gainsTail, h.nlsf0, h.resLen, h.res, h.interp, h.lag,
       h.contour, h.per, h.ltpLen, h.ltp, h.scale, h.seed⟩⟩

instance (n : Nat) (p : List Int) : Decidable (PulsesOk n p) :=
  decidable_of_iff (p.length = n ∧ ∀ q ∈ p, -127 ≤ q ∧ q ≤ 127) ⟨fun ⟨a, b⟩ => ⟨a, b⟩, fun h => ⟨h.len, h.abs⟩⟩

instance (cfg : Cfg) (c : ChanIn) : Decidable (ChanOk cfg c) :=
  decidable_of_iff
    (c.vad.length = cfg.nfpp ∧ (∀ v ∈ c.vad, v ≤ 1) ∧ c.lbrrFlags.length = cfg.nfpp ∧ (∀ v ∈ c.lbrrFlags, v ≤ 1) ∧
     (∀ i, i < cfg.nfpp → c.lbrrFlags.getD i 0 ≠ 0 →
       IxOk cfg.rate cfg.nbSubfr true (lbrrCondCoding c i) (c.lbrr.getD i default).ix ∧
       PulsesOk (frameLength cfg.rate cfg.nbSubfr) (c.lbrr.getD i default).pulses))
    ⟨fun ⟨a, b, c, d, e⟩ => ⟨a, b, c, d, e⟩, fun h => ⟨h.vadLen, h.vadBits, h.lbrrLen, h.lbrrBits, h.lbrr⟩⟩

instance (ix : List Nat) : Decidable (PredOk ix) := by unfold PredOk; infer_instance

end Opus.SilkSymsEncProofs
