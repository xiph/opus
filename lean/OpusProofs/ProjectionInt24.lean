import OpusModel.Projection
import OpusProofs.MatrixInt16
/-
  OpusProofs.ProjectionInt24 — what the 24-bit output path of the mapping matrices computes (C10
  `matrix_int24_exact`): one accumulation `output += (cell*sample + 16384) >> 15` converts a 64-bit sum
  back to `opus_int32` WITHOUT saturation (`wrap32`); it is the exact integer as long as the accumulator
  has headroom, which 24-bit samples always leave.
-/
namespace Opus.Projection
open Opus Opus.Matrix

/-- One accumulation step of `out_int24`: what `Projection.outInt24Rows` stores for accumulator `o`, cell `c` and
    sample `s` (the same expression, written out there). -/
def step24 (o c s : Int) : Int := wrap32 (o + (c * s + 16384) / 32768)

theorem wrap32_id (x : Int) (h : -2147483648 ≤ x ∧ x ≤ 2147483647) : wrap32 x = x := by
  unfold wrap32; omega

/-- A Q15 cell scales a sample by at most 1 (plus rounding). -/
theorem q15_term_bound (c s S : Int) (hc : InInt16 c) (hs : -S ≤ s ∧ s ≤ S) :
    -(S + 1) ≤ (c * s + 16384) / 32768 ∧ (c * s + 16384) / 32768 ≤ S + 1 := by
  unfold InInt16 at hc
  have h : (c * s).natAbs ≤ 32768 * S.toNat := by
    rw [Int.natAbs_mul]; exact Nat.mul_le_mul (by omega) (by omega)
  generalize c * s = t at h
  omega

theorem step24_exact (o c s S B : Int) (hc : InInt16 c) (hs : -S ≤ s ∧ s ≤ S) (ho : -B ≤ o ∧ o ≤ B)
    (hroom : B + S + 1 ≤ 2147483647) :
    step24 o c s = o + (c * s + 16384) / 32768 ∧ -(B + S + 1) ≤ step24 o c s ∧ step24 o c s ≤ B + S + 1 := by
  have hb := q15_term_bound c s S hc hs
  unfold step24
  rw [wrap32_id _ (by omega)]
  omega

/-- The steps that reach ONE output cell: `mapping_matrix_multiply_channel_out_int24` is called once per input row,
    and each call adds one `(cell, sample)` term to the cell. -/
def acc24 : Int → List (Int × Int) → Int
  | o, [] => o
  | o, (c, s) :: rest => acc24 (step24 o c s) rest

def sum24 : List (Int × Int) → Int
  | [] => 0
  | (c, s) :: rest => (c * s + 16384) / 32768 + sum24 rest

theorem acc24_exact (S : Int) (hS : 0 ≤ S) : ∀ (l : List (Int × Int)) (o B : Int),
    (∀ cs ∈ l, InInt16 cs.1 ∧ -S ≤ cs.2 ∧ cs.2 ≤ S) → -B ≤ o ∧ o ≤ B →
    B + (l.length : Int) * (S + 1) ≤ 2147483647 →
    acc24 o l = o + sum24 l ∧ -(B + (l.length : Int) * (S + 1)) ≤ acc24 o l ∧ acc24 o l ≤ B + (l.length : Int) * (S + 1)
  | [], o, B, _, ho, _ => by simp [acc24, sum24]; omega
  | (c, s) :: rest, o, B, hl, ho, hroom => by
    have hcs := hl (c, s) (by simp)
    simp only [List.length_cons, Int.natCast_add, Int.cast_ofNat_Int] at hroom ⊢
    have hmul : ((rest.length : Int) + 1) * (S + 1) = (rest.length : Int) * (S + 1) + (S + 1) := by
      rw [Int.add_mul, Int.one_mul]
    have hnn : 0 ≤ (rest.length : Int) * (S + 1) := Int.mul_nonneg (by omega) (by omega)
    rw [hmul] at hroom ⊢
    obtain ⟨h1, h2, h3⟩ := step24_exact o c s S B hcs.1 hcs.2 ho (by omega)
    have ih := acc24_exact S hS rest (step24 o c s) (B + S + 1) (fun x hx => hl x (List.mem_cons_of_mem _ hx))
      ⟨h2, h3⟩ (by omega)
    simp only [acc24, sum24]
    rw [ih.1, h1]
    refine ⟨by omega, by omega, by omega⟩

end Opus.Projection
