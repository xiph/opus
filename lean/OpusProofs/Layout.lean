import OpusModel.Layout
/-
  OpusProofs.Layout — lemmas about layout validation and the decode routing loop (C10).
-/
namespace Opus.Layout
open Opus

/-- The channels the C code reads: `mapping[0 .. nb_channels-1]`. -/
def ChannelLayout.chans (l : ChannelLayout) : List Nat := l.mapping.take l.nbChannels

/-- RFC 7845 §5.1.1: every mapping byte is an index below `streams + coupled` or 255, and the
    total number of decoded channels fits a byte. -/
def LayoutValid (l : ChannelLayout) : Prop :=
  l.nbStreams + l.nbCoupled ≤ 255 ∧ ∀ m ∈ l.chans, m < l.nbStreams + l.nbCoupled ∨ m = 255

theorem validateLayout_iff (l : ChannelLayout) : validateLayout l = true ↔ LayoutValid l := by
  unfold validateLayout LayoutValid ChannelLayout.chans
  by_cases h : l.nbStreams + l.nbCoupled > 255
  · simp only [h, if_true, Bool.false_eq_true, false_iff]; omega
  · simp only [h, if_false, List.all_eq_true, Bool.not_eq_true', Bool.and_eq_false_imp, decide_eq_true_eq,
      decide_eq_false_iff_not, ge_iff_le, Decidable.not_not]
    exact ⟨fun h' => ⟨by omega, fun m hm => by have := h' m hm; omega⟩,
      fun h' m hm => by have := h'.2 m hm; omega⟩

/-- What the scan returns: `-1` when the target does not occur, else the position of its first occurrence. -/
theorem scanFrom_spec (target : Nat) : ∀ (xs : List Nat) (i : Nat),
    (scanFrom target xs i = -1 ∧ target ∉ xs) ∨
    ∃ k, scanFrom target xs i = ((i + k : Nat) : Int) ∧ xs[k]? = some target ∧ ∀ j, j < k → xs[j]? ≠ some target
  | [], _ => .inl ⟨rfl, List.not_mem_nil⟩
  | x :: xs, i => by
    unfold scanFrom
    by_cases hx : x = target
    · rw [if_pos hx]
      exact .inr ⟨0, rfl, by rw [hx]; rfl, fun j hj => absurd hj (Nat.not_lt_zero j)⟩
    · rw [if_neg hx]
      rcases scanFrom_spec target xs (i + 1) with ⟨h, hn⟩ | ⟨k, h, hk, hf⟩
      · exact .inl ⟨h, fun hm => (List.mem_cons.mp hm).elim (fun e => hx e.symm) hn⟩
      · refine .inr ⟨k + 1, by rw [h]; congr 1; omega, hk, fun j hj => ?_⟩
        cases j with
        | zero => simpa using hx
        | succ j => exact hf j (by omega)

theorem scanFrom_ne_iff (target : Nat) : ∀ (xs : List Nat) (i : Nat),
    scanFrom target xs i ≠ -1 ↔ target ∈ xs := fun xs i => by
  rcases scanFrom_spec target xs i with ⟨h, hn⟩ | ⟨k, h, hk, _⟩
  · exact ⟨fun h' => absurd h h', fun hm => absurd hm hn⟩
  · exact ⟨fun _ => List.mem_of_getElem? hk, fun _ => by rw [h]; omega⟩

theorem findChannel_first_ne_iff (l : ChannelLayout) (target : Nat) :
    findChannel l target (-1) ≠ -1 ↔ target ∈ l.chans := by
  unfold findChannel ChannelLayout.chans
  simp only [show ((-1 : Int) < 0) = True from by simp, if_true, List.drop_zero]
  exact scanFrom_ne_iff target _ 0

/-- What `validate_encoder_layout` demands: every stream is fed by some channel. -/
def EncoderLayoutValid (l : ChannelLayout) : Prop :=
  ∀ s, s < l.nbStreams →
    (s < l.nbCoupled → s * 2 ∈ l.chans ∧ s * 2 + 1 ∈ l.chans) ∧
    (¬ s < l.nbCoupled → s + l.nbCoupled ∈ l.chans)

theorem validateEncoderLayout_iff (l : ChannelLayout) :
    validateEncoderLayout l = true ↔ EncoderLayoutValid l := by
  unfold validateEncoderLayout EncoderLayoutValid
  simp only [List.all_eq_true, List.mem_range]
  refine forall_congr' fun s => imp_congr_right fun _ => ?_
  unfold encoderStreamOk getLeftChannel getRightChannel getMonoChannel
  by_cases hc : s < l.nbCoupled <;>
    simp only [hc, if_true, if_false, Bool.and_eq_true, decide_eq_true_eq, findChannel_first_ne_iff,
      true_imp_iff, false_imp_iff, not_true, not_false_eq_true, and_true, true_and]

theorem chans_of_length {ch st co : Nat} {m : List Nat} (h : m.length = ch) :
    (⟨ch, st, co, m⟩ : ChannelLayout).chans = m :=
  List.take_of_length_le (Nat.le_of_eq h)

/-- What the surround, ambisonics and projection encoders all build: `mapping[0..ch-1]` is a permutation of the
    coded channels `0..ch-1`.  With `streams + coupled = ch ≤ 255` such a layout passes both validators (and
    routes every channel back to itself: `identity_of_perm`). -/
theorem valid_of_perm {l : ChannelLayout} (hp : l.chans.Perm (List.range l.nbChannels))
    (hs : l.nbStreams + l.nbCoupled = l.nbChannels) (h255 : l.nbChannels ≤ 255) :
    LayoutValid l ∧ EncoderLayoutValid l := by
  have hmem : ∀ x, x ∈ l.chans ↔ x < l.nbChannels := fun x => by rw [hp.mem_iff, List.mem_range]
  refine ⟨⟨by omega, fun m hm => Or.inl (by have := (hmem m).1 hm; omega)⟩, fun s hs => ?_⟩
  simp only [hmem]
  omega

/-- All matches of one left-to-right scan of `mapping[i..]`. -/
def scanAll (target : Nat) (src : Src) (fs : Int) : List Nat → Nat → List Call
  | [], _ => []
  | x :: xs, i =>
    if x = target then { chan := i, src, frameSize := fs } :: scanAll target src fs xs (i + 1)
    else scanAll target src fs xs (i + 1)

theorem scanAll_eq_nil (target : Nat) (src : Src) (fs : Int) : ∀ (xs : List Nat) (i : Nat),
    target ∉ xs → scanAll target src fs xs i = []
  | [], _, _ => rfl
  | x :: xs, i, h => by
    rw [scanAll, if_neg (fun e : x = target => h (e ▸ List.mem_cons_self)),
      scanAll_eq_nil target src fs xs (i + 1) (fun hm => h (List.mem_cons_of_mem _ hm))]

/-- A scan whose first hit is at position `k`: the call for it, then the scan of what follows. -/
theorem scanAll_first (target : Nat) (src : Src) (fs : Int) : ∀ (xs : List Nat) (i k : Nat),
    xs[k]? = some target → (∀ j, j < k → xs[j]? ≠ some target) →
    scanAll target src fs xs i =
      { chan := i + k, src, frameSize := fs } :: scanAll target src fs (xs.drop (k + 1)) (i + k + 1)
  | [], _, _, hk, _ => by cases hk
  | x :: xs, i, 0, hk, _ => by
    rw [scanAll, if_pos (Option.some.inj hk)]; rfl
  | x :: xs, i, k + 1, hk, hf => by
    rw [scanAll, if_neg (fun e => hf 0 (Nat.succ_pos k) (congrArg some e)),
      scanAll_first target src fs xs (i + 1) k hk (fun j hj => hf (j + 1) (by omega)), List.drop_succ_cons]
    congr 2 <;> omega

/-- `i = (prev<0) ? 0 : prev+1`. -/
def startOf (prev : Int) : Nat := if prev < 0 then 0 else prev.toNat + 1

theorem findChannel_eq (l : ChannelLayout) (target : Nat) (prev : Int) :
    findChannel l target prev = scanFrom target (l.chans.drop (startOf prev)) (startOf prev) := rfl

theorem startOf_natCast (n : Nat) : startOf (n : Int) = n + 1 := by
  unfold startOf; rw [if_neg (by omega), Int.toNat_natCast]

/-- The `while` loop calls `findChannel` again and again from the last hit on; by `scanFrom_spec` each call finds
    the next occurrence, so all of them together are one scan. -/
theorem whileLoop_eq_scanAll (l : ChannelLayout) (target : Nat) (src : Src) (fs : Int) (prev : Int) :
    whileLoop l target src fs prev =
      scanAll target src fs (l.chans.drop (startOf prev)) (startOf prev) := by
  fun_induction whileLoop l target src fs prev with
  | case1 prev h =>
    rw [findChannel_eq] at h
    rcases scanFrom_spec target (l.chans.drop (startOf prev)) (startOf prev) with ⟨_, hn⟩ | ⟨k, hk, _⟩
    · exact (scanAll_eq_nil target src fs _ _ hn).symm
    · rw [hk] at h; omega
  | case2 prev h ih =>
    rw [ih]
    rw [findChannel_eq] at h ⊢
    rcases scanFrom_spec target (l.chans.drop (startOf prev)) (startOf prev) with ⟨hneg, _⟩ | ⟨k, hk, hx, hf⟩
    · exact absurd hneg h
    · rw [hk, scanAll_first target src fs _ _ k hx hf, Int.toNat_natCast, startOf_natCast, List.drop_drop]
      rfl

theorem streamCalls_eq (l : ChannelLayout) (s : Nat) (fs : Int) :
    streamCalls l s fs =
      if s < l.nbCoupled then
        scanAll (s * 2) (.left s) fs l.chans 0 ++ scanAll (s * 2 + 1) (.right s) fs l.chans 0
      else scanAll (s + l.nbCoupled) (.mono s) fs l.chans 0 := by
  unfold streamCalls
  have e : startOf (-1) = 0 := rfl
  simp only [whileLoop_eq_scanAll, e, List.drop_zero]

theorem filter_scanAll (target : Nat) (src : Src) (fs : Int) (c : Nat) : ∀ (xs : List Nat) (i : Nat),
    (scanAll target src fs xs i).filter (fun k => k.chan = c) =
      if i ≤ c ∧ xs[c - i]? = some target then [{ chan := c, src, frameSize := fs }] else []
  | [], i => by simp [scanAll]
  | x :: xs, i => by
    rw [scanAll]
    have ih := filter_scanAll target src fs c xs (i + 1)
    rcases Nat.lt_trichotomy i c with h | rfl | h
    · rw [show c - i = (c - (i + 1)) + 1 by omega, List.getElem?_cons_succ]
      split <;> simp [ih, show ¬ i = c by omega, show i ≤ c by omega, show i + 1 ≤ c by omega]
    · split <;> simp [show ¬ i + 1 ≤ i by omega, *]
    · split <;> simp [ih, show ¬ i = c by omega, show ¬ i ≤ c by omega, show ¬ i + 1 ≤ c by omega]

/-- The muted-channel loop is the same scan, for the byte 255. -/
theorem mutedCalls_eq_scanAll (fs : Int) : ∀ (xs : List Nat) (i : Nat),
    mutedCalls fs xs i = scanAll 255 .zero fs xs i
  | [], _ => rfl
  | x :: xs, i => by rw [mutedCalls, scanAll, mutedCalls_eq_scanAll fs xs (i + 1)]

/-- Stream a valid, non-muted mapping byte `v` designates. -/
def streamOf (l : ChannelLayout) (v : Nat) : Nat :=
  if v < 2 * l.nbCoupled then v / 2 else v - l.nbCoupled

/-- Source a mapping byte designates (`expectedSrc` in terms of the byte). -/
def srcOfValue (l : ChannelLayout) (v : Nat) : Src :=
  if v = 255 then .zero
  else if v < 2 * l.nbCoupled then (if v % 2 = 0 then .left (v / 2) else .right (v / 2))
  else .mono (v - l.nbCoupled)

theorem expectedSrc_eq (l : ChannelLayout) (c v : Nat) (hv : l.chans[c]? = some v) :
    expectedSrc l c = srcOfValue l v := by
  unfold ChannelLayout.chans at hv
  rw [List.getElem?_take] at hv
  split at hv
  · unfold expectedSrc srcOfValue
    simp only [List.getD_eq_getElem?_getD, hv, Option.getD_some]
  · cases hv

theorem filter_streamCalls (l : ChannelLayout) (s c v : Nat) (fs : Int)
    (h255 : l.nbStreams + l.nbCoupled ≤ 255) (hcs : l.nbCoupled ≤ l.nbStreams) (hs : s < l.nbStreams)
    (hv : l.chans[c]? = some v) :
    (streamCalls l s fs).filter (fun k => k.chan = c) =
      if v ≠ 255 ∧ streamOf l v = s then [{ chan := c, src := srcOfValue l v, frameSize := fs }] else [] := by
  rw [streamCalls_eq]
  unfold streamOf srcOfValue
  by_cases hc : s < l.nbCoupled
  · simp only [hc, if_true, List.filter_append, filter_scanAll, Nat.zero_le, true_and, Nat.sub_zero, hv,
      Option.some.injEq]
    by_cases h1 : v = s * 2
    · subst h1
      simp [show s * 2 < 2 * l.nbCoupled by omega, show s * 2 ≠ 255 by omega, show s * 2 / 2 = s by omega,
        show s * 2 % 2 = 0 by omega]
    · by_cases h2 : v = s * 2 + 1
      · subst h2
        simp [show s * 2 + 1 < 2 * l.nbCoupled by omega, show s * 2 + 1 ≠ 255 by omega,
          show (s * 2 + 1) / 2 = s by omega]
      · rw [if_neg h1, if_neg h2, if_neg, List.append_nil]
        intro ⟨_, h⟩; split at h <;> omega
  · simp only [hc, if_false, filter_scanAll, Nat.zero_le, true_and, Nat.sub_zero, hv, Option.some.injEq]
    by_cases h1 : v = s + l.nbCoupled
    · subst h1
      simp [show ¬ s + l.nbCoupled < 2 * l.nbCoupled by omega, show s + l.nbCoupled ≠ 255 by omega]
    · rw [if_neg h1, if_neg]
      intro ⟨_, h⟩; split at h <;> omega

/-- Calls made from stream `s` on, when every remaining stream decodes successfully. -/
def tailCalls (l : ChannelLayout) : List StreamRet → Nat → Int → List Call
  | [], _, fs => mutedCalls fs l.chans 0
  | r :: rest, s, _ => streamCalls l s r.ret ++ tailCalls l rest (s + 1) r.ret

/-- The `frame_size` left after the loop: the last stream's return value. -/
def finalFs : List StreamRet → Int → Int
  | [], fs => fs
  | r :: rest, _ => finalFs rest r.ret

theorem routeLoop_success (l : ChannelLayout) (doPlc : Bool) : ∀ (rets : List StreamRet) (s : Nat) (len fs : Int)
    (acc : List Call), (routeLoop l doPlc rets s len fs acc).ret > 0 →
    (routeLoop l doPlc rets s len fs acc).calls = acc ++ tailCalls l rets s fs ∧
    (routeLoop l doPlc rets s len fs acc).ret = finalFs rets fs ∧ ∀ r ∈ rets, r.ret > 0
  | [], s, len, fs, acc, _ => by simp [routeLoop, tailCalls, finalFs, ChannelLayout.chans]
  | r :: rest, s, len, fs, acc, h => by
    unfold routeLoop at h ⊢
    by_cases h1 : (!doPlc) = true ∧ len ≤ 0
    · simp only [h1, and_self, if_true, Err.code] at h; omega
    · simp only [h1, if_false] at h ⊢
      by_cases h2 : r.ret ≤ 0
      · simp only [h2, if_true] at h; omega
      · simp only [h2, if_false] at h ⊢
        have ih := routeLoop_success l doPlc rest (s + 1) _ r.ret _ h
        refine ⟨?_, ?_, ?_⟩
        · rw [ih.1, tailCalls, List.append_assoc]
        · rw [ih.2.1, finalFs]
        · intro r' hr'
          rcases List.mem_cons.1 hr' with e | e
          · subst e; omega
          · exact ih.2.2 r' e

/-- Number of samples copied from a source: the return value of that stream's decoder, or the final
    `frame_size` for a muted channel. -/
def srcFrame (rets : List StreamRet) (final : Int) : Src → Int
  | .left s => ((rets[s]?).map (·.ret)).getD 0
  | .right s => ((rets[s]?).map (·.ret)).getD 0
  | .mono s => ((rets[s]?).map (·.ret)).getD 0
  | .zero => final

theorem srcFrame_srcOfValue (l : ChannelLayout) (rets : List StreamRet) (final : Int) (v : Nat) (h : v ≠ 255) :
    srcFrame rets final (srcOfValue l v) = ((rets[streamOf l v]?).map (·.ret)).getD 0 := by
  unfold srcOfValue streamOf
  rw [if_neg h]
  split
  · split <;> rfl
  · rfl

theorem streamOf_lt (l : ChannelLayout) (v : Nat) (hcs : l.nbCoupled ≤ l.nbStreams)
    (hv : v < l.nbStreams + l.nbCoupled) : streamOf l v < l.nbStreams := by
  unfold streamOf; split <;> omega

/-- The calls channel `c` (valid mapping byte `v`) receives from stream `s0` on, `n` streams being left and `rets` the
    answers of ALL streams: the one call its byte designates (for 255 that of the closing loop, with the final frame
    size), unless its stream has gone by. -/
theorem filter_tailCalls (l : ChannelLayout) (c v : Nat)
    (h255 : l.nbStreams + l.nbCoupled ≤ 255) (hcs : l.nbCoupled ≤ l.nbStreams)
    (hv : l.chans[c]? = some v) (hvv : v < l.nbStreams + l.nbCoupled ∨ v = 255)
    (rets : List StreamRet) (hlen : rets.length = l.nbStreams) : ∀ (n s0 : Nat) (fs : Int), s0 + n = l.nbStreams →
    (tailCalls l (rets.drop s0) s0 fs).filter (fun k => k.chan = c) =
      if v = 255 ∨ s0 ≤ streamOf l v then
        [{ chan := c, src := srcOfValue l v,
           frameSize := srcFrame rets (finalFs (rets.drop s0) fs) (srcOfValue l v) }]
      else []
  | 0, s0, fs, hs => by
    rw [List.drop_of_length_le (by omega), tailCalls, mutedCalls_eq_scanAll, filter_scanAll, finalFs]
    simp only [Nat.zero_le, true_and, Nat.sub_zero, hv, Option.some.injEq]
    by_cases h : v = 255
    · subst h; rfl
    · have := streamOf_lt l v hcs (by omega)
      rw [if_neg h, if_neg (by omega)]
  | n + 1, s0, fs, hs => by
    have hs0 : s0 < rets.length := by omega
    rw [List.drop_eq_getElem_cons hs0, tailCalls, List.filter_append, filter_streamCalls l s0 c v _ h255 hcs (by omega) hv,
      filter_tailCalls l c v h255 hcs hv hvv rets hlen n (s0 + 1) _ (by omega), finalFs]
    by_cases h : v = 255
    · simp [h]
    · by_cases he : streamOf l v = s0
      · rw [if_pos ⟨h, he⟩, if_neg (by omega), if_pos (by omega), srcFrame_srcOfValue l rets _ v h, he,
          List.getElem?_eq_getElem hs0]
        rfl
      · rw [if_neg (by omega), List.nil_append]
        by_cases hlt : s0 < streamOf l v
        · rw [if_pos (by omega), if_pos (by omega)]
        · rw [if_neg (by omega), if_neg (by omega)]

theorem chans_length_le (l : ChannelLayout) : l.chans.length ≤ l.nbChannels := by
  unfold ChannelLayout.chans; simp only [List.length_take]; omega

/-- Who is in a scan: `filter_scanAll` at the call's own channel. -/
theorem mem_scanAll_iff (target : Nat) (src : Src) (fs : Int) (k : Call) (xs : List Nat) (i : Nat) :
    k ∈ scanAll target src fs xs i ↔ (i ≤ k.chan ∧ xs[k.chan - i]? = some target) ∧ k = ⟨k.chan, src, fs⟩ := by
  have : k ∈ scanAll target src fs xs i ↔ k ∈ (scanAll target src fs xs i).filter (fun k' => k'.chan = k.chan) := by
    simp [List.mem_filter]
  rw [this, filter_scanAll]
  split <;> simp [*]

/-- A call found by a scan of the layout's channels addresses one of them and carries the scan's sample count. -/
theorem mem_scanAll_chans (l : ChannelLayout) (target : Nat) (src : Src) (fs : Int) (k : Call)
    (h : k ∈ scanAll target src fs l.chans 0) : k.chan < l.nbChannels ∧ k.frameSize = fs := by
  obtain ⟨⟨_, h2⟩, h3⟩ := (mem_scanAll_iff ..).1 h
  have := (List.getElem?_eq_some_iff.1 h2).1
  have := chans_length_le l
  exact ⟨by omega, by rw [h3]⟩

/-- Every copy-out call issued for a stream addresses an output channel and carries the stream's sample count. -/
theorem mem_streamCalls (l : ChannelLayout) (s : Nat) (fs : Int) (k : Call) (h : k ∈ streamCalls l s fs) :
    k.chan < l.nbChannels ∧ k.frameSize = fs := by
  rw [streamCalls_eq] at h
  split at h
  · exact (List.mem_append.1 h).elim (mem_scanAll_chans _ _ _ _ _) (mem_scanAll_chans _ _ _ _ _)
  · exact mem_scanAll_chans _ _ _ _ _ h

theorem mem_mutedCalls (l : ChannelLayout) (fs : Int) (k : Call) (h : k ∈ mutedCalls fs l.chans 0) :
    k.chan < l.nbChannels ∧ k.frameSize = fs :=
  mem_scanAll_chans l 255 .zero fs k (mutedCalls_eq_scanAll fs _ _ ▸ h)

theorem mem_tailCalls (l : ChannelLayout) (k : Call) : ∀ (rets : List StreamRet) (s0 : Nat) (fs : Int),
    k ∈ tailCalls l rets s0 fs → k.chan < l.nbChannels
  | [], _, fs, h => (mem_mutedCalls l fs k h).1
  | r :: rest, s0, fs, h => by
    rw [tailCalls] at h
    exact (List.mem_append.1 h).elim (fun h => (mem_streamCalls l s0 r.ret k h).1) (mem_tailCalls l k rest (s0 + 1) r.ret)

/-- Main routing lemma: on the success path of the stream loop each output channel receives exactly
    one copy call, whose source is the one its mapping byte designates. -/
theorem tailCalls_routing (l : ChannelLayout) (hvalid : validateLayout l = true) (hcs : l.nbCoupled ≤ l.nbStreams)
    (hmap : l.nbChannels ≤ l.mapping.length) (rets : List StreamRet) (hlen : rets.length = l.nbStreams) (fs : Int)
    (c : Nat) (hc : c < l.nbChannels) :
    (tailCalls l rets 0 fs).filter (fun k => k.chan = c) =
      [{ chan := c, src := expectedSrc l c, frameSize := srcFrame rets (finalFs rets fs) (expectedSrc l c) }] := by
  obtain ⟨h255, hvals⟩ := (validateLayout_iff l).1 hvalid
  have hclen : c < l.chans.length := by
    unfold ChannelLayout.chans; simp only [List.length_take]; omega
  have hv := List.getElem?_eq_getElem hclen
  have := filter_tailCalls l c _ h255 hcs hv (hvals _ (List.getElem_mem hclen)) rets hlen l.nbStreams 0 fs (Nat.zero_add _)
  rwa [List.drop_zero, if_pos (.inr (Nat.zero_le _)), ← expectedSrc_eq l c _ hv] at this

theorem expectedSrc_zero_iff (l : ChannelLayout) (c : Nat) (hc : c < l.nbChannels)
    (hmap : l.nbChannels ≤ l.mapping.length) :
    expectedSrc l c = .zero ↔ l.mapping[c]? = some 255 := by
  have hcl : c < l.mapping.length := by omega
  unfold expectedSrc
  simp only [List.getD_eq_getElem?_getD, List.getElem?_eq_getElem hcl, Option.getD_some, Option.some.injEq]
  constructor
  · intro h
    split at h
    · assumption
    · split at h
      · split at h <;> cases h
      · cases h
  · intro h; rw [if_pos h]

theorem Err.code_neg (e : Err) : e.code < 0 := by cases e <;> decide

end Opus.Layout
