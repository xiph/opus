import OpusProofs.RepackMs
import OpusProofs.DecSkelShift
import OpusProofs.DecSkelMsFull
/-
  C07 (repacketizer): the stream loop of `opus_multistream_decode_native` (C01's `msFullLoop`) on a
  multistream packet and on its unpadded form: same return value, same stream states, same copy-out calls,
  per-stream logs equal up to the frame-offset shift.
-/
namespace Opus.RepackProofs
open Opus Opus.Framing Opus.FramingSpec Opus.FramingProofs Opus.Repack Opus.Ext Opus.DecSkel
open Opus.MsDecEq (serialize_length_pos)

/-- Stream by stream related multistream packets. -/
def PairRel : List Packet → List Packet → Prop
  | [], [] => True
  | p :: ps, q :: qs => PktRel p q ∧ PairRel ps qs
  | _, _ => False

theorem PairRel.nil_iff {ps qs : List Packet} (h : PairRel ps qs) : qs = [] ↔ ps = [] := by
  cases ps <;> cases qs <;> simp_all [PairRel]

theorem PairRel.decide_ne_nil {ps qs : List Packet} (h : PairRel ps qs) : decide (qs ≠ []) = decide (ps ≠ []) := by
  cases ps <;> cases qs <;> simp_all [PairRel]

theorem PairRel.valid {ps qs : List Packet} (h : PairRel ps qs) : (∀ p ∈ ps, Valid p) ∧ ∀ q ∈ qs, Valid q := by
  induction ps generalizing qs with
  | nil => cases qs <;> simp_all [PairRel]
  | cons x xs ih =>
    cases qs with
    | nil => simp [PairRel] at h
    | cons y ys =>
      obtain ⟨h1, h2⟩ := ih h.2
      exact ⟨List.forall_mem_cons.mpr ⟨h.1.vp, h1⟩, List.forall_mem_cons.mpr ⟨h.1.vq, h2⟩⟩

theorem PairRel.length {ps qs : List Packet} : PairRel ps qs → qs.length = ps.length := by
  induction ps generalizing qs with
  | nil => intro h; cases qs <;> simp_all [PairRel]
  | cons p ps ih => intro h; cases qs with
    | nil => simp [PairRel] at h
    | cons q qs => simp [PairRel] at h; simp [ih h.2]

/-- The frame-offset shift of the first stream between two multistream packets `ps` and `qs` (0 for empty lists):
    payload offset of `qs`' head packet minus that of `ps`' head packet, in the framing the position calls for. -/
def firstShift2 : List Packet → List Packet → Int
  | p :: rest, q :: _ =>
    ((view (decide (rest ≠ [])) q).payloadOffset : Int) - ((view (decide (rest ≠ [])) p).payloadOffset : Int)
  | _, _ => 0

/-- The frame-offset shift of the first stream of `ps` against its canonical form. -/
def firstShift (ps : List Packet) : Int := firstShift2 ps (ps.map fun p => canonPacket p.toc p.frames)

/-- `l2` is `l1` with the packet offsets of the i-th log shifted by some `d_i`. -/
def LogsRel (l1 l2 : List (List Ev)) : Prop :=
  ∃ ds : List Int, ds.length = l1.length ∧ l2 = List.zipWith (fun a d => a.map (Ev.shiftOff d)) l1 ds

/-- What the stream loop of `opus_multistream_decode_native` has accumulated on two related packets: the same stream
    states and copy-out calls, logs equal up to the frame-offset shift.  Of `trace` (return value and `packet_offset`
    of each per-stream call) only the return values agree: the packet offsets are the sub-packet lengths, which
    padding changes. -/
structure AccRel (a1 a2 : MsAcc) : Prop where
  sts : a2.sts = a1.sts
  copies : a2.copies = a1.copies
  rets : a2.trace.map Prod.fst = a1.trace.map Prod.fst
  logs : LogsRel a1.logs a2.logs

/-- The same relation between two results of the whole call, with equal return values. -/
structure OutRel (o1 o2 : MsOut) : Prop where
  ret : o2.ret = o1.ret
  sts : o2.sts = o1.sts
  copies : o2.copies = o1.copies
  rets : o2.trace.map Prod.fst = o1.trace.map Prod.fst
  logs : LogsRel o1.logs o2.logs

theorem AccRel.out {a1 a2 : MsAcc} (h : AccRel a1 a2) (r : Out Int) (rest : List DecState) :
    OutRel (a1.out r rest) (a2.out r rest) :=
  ⟨rfl, by simp [MsAcc.out, h.sts], by simp [MsAcc.out, h.copies], by simp [MsAcc.out, h.rets], by simpa [MsAcc.out] using h.logs⟩

theorem logsRel_append {l1 l2 : List (List Ev)} (h : LogsRel l1 l2) (a : List Ev) (d : Int) :
    LogsRel (l1 ++ [a]) (l2 ++ [a.map (Ev.shiftOff d)]) := by
  obtain ⟨ds, hl, rfl⟩ := h
  refine ⟨ds ++ [d], by simp [hl], ?_⟩
  rw [List.zipWith_append (by omega)]
  rfl

theorem AccRel.step {a1 a2 : MsAcc} (h : AccRel a1 a2) {x1 x2 : NativeOut} {d : Int} (hrun : x2.run = shiftRun d x1.run)
    (v : Int) (c1 c2 : MsCall) (cp : List Layout.Call) : AccRel (a1.step x1 v c1 cp) (a2.step x2 v c2 cp) :=
  ⟨by simp [MsAcc.step, h.sts, hrun, shiftRun], by simp [MsAcc.step, h.copies], by simp [MsAcc.step, h.rets],
   by simp only [MsAcc.step, hrun, shiftRun]; exact logsRel_append h.logs _ _⟩

/-- One iteration of the stream loop on a whole multistream packet whose first sub-packet is valid: the `len ≤ 0` exit
    (:247-251) is not taken, and a stream that returns `> 0` has stepped over exactly its own sub-packet, so the loop goes
    on with the whole packet of the remaining streams. -/
theorem msFullLoop_head {os : Nat → Oracle} {l : Layout.ChannelLayout} {fec : Int} {sc : Bool} {bufCap : Int} {st : DecState}
    {rest : List DecState} {s : Nat} {p : Packet} {ps : List Packet} (hv : Valid p) (hs : s + (ps.length + 1) = l.nbStreams)
    (fsz : Int) (a : MsAcc) :
    msFullLoop os l fec sc false bufCap (st :: rest) s (msSerialize (p :: ps)) (msSerialize (p :: ps)).length fsz a =
      let x := msStream os l fec sc bufCap s st (msSerialize (p :: ps)) (msSerialize (p :: ps)).length fsz
      let c : MsCall := { s := s, len := (msSerialize (p :: ps)).length, frame_size := fsz, sd := decide (s ≠ l.nbStreams - 1) }
      match x.ret with
      | .ret v =>
        if v ≤ 0 then (a.step x v c []).out (.ret v) rest
        else msFullLoop os l fec sc false bufCap rest (s + 1) (msSerialize ps) (msSerialize ps).length v
          (a.step x v c (Layout.streamCalls l s v))
      | .abort => a.out .abort (st :: rest)
      | .hang => a.out .hang (st :: rest) := by
  have hpos := msSerialize_pos (ps := p :: ps) (by simp)
  rw [msFullLoop, if_neg (by omega)]
  simp only []
  cases hr : (msStream os l fec sc bufCap s st (msSerialize (p :: ps)) (msSerialize (p :: ps)).length fsz).ret with
  | ret v =>
    simp only []
    split
    · rfl
    · have hpo : (msStream os l fec sc bufCap s st (msSerialize (p :: ps)) (msSerialize (p :: ps)).length fsz).packetOffset =
          (view (decide (ps ≠ [])) p).packetOffset :=
        decodeNative_po _ _ _ _ fsz fec _ sc _ (by omega) _
          (by rw [Int.toNat_natCast, List.take_length, MsDecEq.sd_of_count hs, msSerialize_eq_layout]
              exact MsDecEq.parse_msSerialize hv ps) v hr (by omega)
      rw [if_neg (by simp), if_neg (by simp), hpo, view_packetOffset, msSerialize_cons, Int.toNat_natCast, List.drop_left,
        List.length_append, Int.natCast_add, Int.add_comm, Int.add_sub_cancel]
  | abort => rfl
  | hang => rfl

theorem msFullLoop_rel (os1 os2 : Nat → Oracle) (l : Layout.ChannelLayout) (fec : Int) (sc : Bool) (bufCap : Int) :
    ∀ (sts : List DecState) (ps qs : List Packet) (s : Nat) (fsz : Int) (a1 a2 : MsAcc),
    PairRel ps qs → (ps ≠ [] → s + ps.length = l.nbStreams) →
    (∀ i, i < ps.length → OracleShift (os1 (s + i)) (os2 (s + i)) (firstShift2 (ps.drop i) (qs.drop i))) →
    AccRel a1 a2 →
    OutRel (msFullLoop os1 l fec sc false bufCap sts s (msSerialize ps) (msSerialize ps).length fsz a1)
           (msFullLoop os2 l fec sc false bufCap sts s (msSerialize qs) (msSerialize qs).length fsz a2) := by
  intro sts
  induction sts with
  | nil =>
    intro ps qs s fsz a1 a2 _ _ _ hrel
    simp only [msFullLoop]
    have hrel' : AccRel { a1 with copies := a1.copies ++ Layout.mutedCalls fsz (l.mapping.take l.nbChannels) 0 }
        { a2 with copies := a2.copies ++ Layout.mutedCalls fsz (l.mapping.take l.nbChannels) 0 } :=
      ⟨hrel.sts, by simp [hrel.copies], hrel.rets, hrel.logs⟩
    exact hrel'.out _ _
  | cons st rest ih =>
    intro ps qs s fsz a1 a2 hpr hcount hos hrel
    match ps, qs, hpr with
    | [], _ :: _, h => exact h.elim
    | _ :: _, [], h => exact h.elim
    | [], [], _ =>
      simp only [msFullLoop, msSerialize, List.length_nil]
      simp only [Bool.false_eq_true, not_false_eq_true, true_and]
      rw [if_pos (by omega), if_pos (by omega)]
      exact hrel.out _ _
    | p :: ps', q :: qs', ⟨hpq, hpr'⟩ =>
      have hlen : s + (ps'.length + 1) = l.nbStreams := hcount (by simp)
      have hsd2 := hpr'.decide_ne_nil
      have hos0 := hos 0 (by simp)
      simp only [Nat.add_zero, List.drop_zero, firstShift2] at hos0
      -- the two per-stream calls: same return value, runs equal up to the shift
      obtain ⟨hp1, hp2, hsz, hcnt, htoc⟩ :=
        hpq.head (decide (ps' ≠ [])) msSerialize_tail_nil fun h => msSerialize_tail_nil (hsd2.trans h)
      obtain ⟨hret, hrun⟩ := decodeNative_shift (o1 := os1 s) (o2 := os2 s) _ _ _ _ _ _ hp1 hp2 hsz hcnt htoc hos0
        { buf := .pcm, off := 0, cap := bufCap } fsz fec sc { st := st, k := 0, log := [] }
      rw [show shiftRun _ { st := st, k := 0, log := [] } = { st := st, k := 0, log := [] } from rfl] at hret hrun
      rw [msFullLoop_head hpq.vp hlen, msFullLoop_head hpq.vq (hpr'.length.symm ▸ hlen)]
      simp only [msStream, MsDecEq.sd_of_count hlen, msSerialize_cons p, msSerialize_cons q, hsd2]
      generalize decodeNative (os1 s) (some (serialize (decide (ps' ≠ [])) p ++ msSerialize ps'))
        ((serialize (decide (ps' ≠ [])) p ++ msSerialize ps').length : Int) { buf := .pcm, off := 0, cap := bufCap } fsz fec
        (decide (ps' ≠ [])) sc { st := st, k := 0, log := [] } = x1 at hret hrun ⊢
      generalize decodeNative (os2 s) (some (serialize (decide (ps' ≠ [])) q ++ msSerialize qs'))
        ((serialize (decide (ps' ≠ [])) q ++ msSerialize qs').length : Int) { buf := .pcm, off := 0, cap := bufCap } fsz fec
        (decide (ps' ≠ [])) sc { st := st, k := 0, log := [] } = x2 at hret hrun ⊢
      rw [hret]
      cases x1.ret with
      | ret v =>
        simp only []
        split
        · exact (hrel.step hrun v _ _ _).out _ _
        · exact ih ps' qs' (s + 1) v _ _ hpr' (fun hne => by have := List.length_pos_iff.mpr hne; omega)
            (fun i hi => by simpa [Nat.add_assoc, Nat.add_comm 1 i] using hos (i + 1) (by simp; omega))
            (hrel.step hrun v _ _ _)
      | abort => exact hrel.out _ _
      | hang => exact hrel.out _ _

theorem accRel_refl (a : MsAcc) : AccRel a a :=
  ⟨rfl, rfl, rfl, ⟨List.replicate a.logs.length 0, by simp, by
    induction a.logs with
    | nil => rfl
    | cons x xs ih =>
      simp only [List.length_cons, List.replicate_succ, List.zipWith_cons_cons]
      rw [← ih]
      rw [show Ev.shiftOff 0 = id from funext Ev.shiftOff_zero, List.map_id]⟩⟩

/-- `opus_packet_get_nb_samples` sees only the frame count and the configuration bits. -/
theorem getNbSamples_rel (sd : Bool) (p q : Packet) (h : PktRel p q) (fs : Nat) :
    getNbSamples (serialize sd q) fs = getNbSamples (serialize sd p) fs := by
  have h1 := getNbFrames_serialize_append sd p h.vp []
  have h2 := getNbFrames_serialize_append sd q h.vq []
  simp only [List.append_nil] at h1 h2
  unfold getNbSamples
  rw [h1, h2, h.frames, serialize_headD, serialize_headD, (toc_helpers_congr _ _ fs h.toc).2.2.1]

theorem msValidate_rel (fs : Int) : ∀ (ps qs : List Packet), PairRel ps qs → ∀ (first : Bool) (samples : Int),
    msValidate fs ps.length first (msSerialize qs) samples = msValidate fs ps.length first (msSerialize ps) samples := by
  intro ps
  induction ps with
  | nil => intro qs h first samples; have := (h.nil_iff).mpr rfl; subst this; rfl
  | cons p rest ih =>
    intro qs hpr first samples
    cases qs with
    | nil => simp [PairRel] at hpr
    | cons q qs' =>
    obtain ⟨hpq, hpr'⟩ := hpr
    have hsd2 := hpr'.decide_ne_nil
    obtain ⟨hp1, hp2, _⟩ := hpq.head (decide (rest ≠ [])) msSerialize_tail_nil fun h => msSerialize_tail_nil (hsd2.trans h)
    have hpos1 := serialize_length_pos (decide (rest ≠ [])) p
    have hpos2 := serialize_length_pos (decide (rest ≠ [])) q
    rw [msSerialize_cons, msSerialize_cons, hsd2]
    simp only [List.length_cons, msValidate]
    rw [show decide (rest.length ≠ 0) = decide (rest ≠ []) by simp]
    rw [if_neg (by rw [List.length_append]; omega), if_neg (by rw [List.length_append]; omega), hp1, hp2]
    simp only []
    rw [view_packetOffset, view_packetOffset, List.take_left, List.take_left, List.drop_left, List.drop_left]
    have hnb : nbSamples (serialize (decide (rest ≠ [])) q) fs = nbSamples (serialize (decide (rest ≠ [])) p) fs := by
      unfold nbSamples; rw [getNbSamples_rel _ p q hpq]
    rw [hnb]
    split
    · rfl
    · exact ih qs' hpr' false _

/-- `opus_multistream_decode_native` (C01's `msDecodeFull`) on two stream-by-stream related multistream packets. -/
theorem msDecodeFull_rel (os1 os2 : Nat → Oracle) (l : Layout.ChannelLayout) (Fs : Int) (sts : List DecState)
    (ps qs : List Packet) (hne : ps ≠ []) (hpr : PairRel ps qs) (hn : ps.length = l.nbStreams)
    (hos : ∀ i, i < ps.length → OracleShift (os1 i) (os2 i) (firstShift2 (ps.drop i) (qs.drop i)))
    (frame_size fec : Int) (sc : Bool) :
    OutRel (msDecodeFull os1 l Fs sts (msSerialize ps) (msSerialize ps).length frame_size fec sc)
           (msDecodeFull os2 l Fs sts (msSerialize qs) (msSerialize qs).length frame_size fec sc) := by
  obtain ⟨hv, hcv⟩ := hpr.valid
  have hqne : qs ≠ [] := fun h => hne ((hpr.nil_iff).mp h)
  have hge1 := Opus.Layout.msSerialize_length_ge ps hne hv
  have hge2 := Opus.Layout.msSerialize_length_ge qs hqne hcv
  rw [← msSerialize_eq_layout] at hge1 hge2
  rw [hpr.length] at hge2
  have hpos : 0 < ps.length := List.length_pos_iff.mpr hne
  have hrefl := accRel_refl ⟨[], [], [], [], []⟩
  have hlz1 : ¬ ((msSerialize ps).length : Int) = 0 := by omega
  have hlz2 : ¬ ((msSerialize qs).length : Int) = 0 := by omega
  -- the early exits look at the lengths (both past the tests) and at the validator, which cannot tell the packets apart
  have hex : msExit Fs l.nbStreams (msSerialize qs) (msSerialize qs).length frame_size =
      msExit Fs l.nbStreams (msSerialize ps) (msSerialize ps).length frame_size := by
    unfold msExit
    simp only [hlz1, hlz2, decide_false, Bool.false_eq_true, not_false_eq_true, true_and, Int.toNat_natCast,
      List.take_length]
    rw [if_neg (by omega : ¬ ((msSerialize ps).length : Int) < 0), if_neg (by omega : ¬ ((msSerialize qs).length : Int) < 0),
      if_neg (by omega : ¬ ((msSerialize ps).length : Int) < 2 * (l.nbStreams : Int) - 1),
      if_neg (by omega : ¬ ((msSerialize qs).length : Int) < 2 * (l.nbStreams : Int) - 1),
      ← hn, msValidate_rel Fs ps qs hpr true 0]
  rw [msDecodeFull_eq, msDecodeFull_eq, hex]
  simp only [hlz1, hlz2, decide_false]
  cases msExit Fs l.nbStreams (msSerialize ps) (msSerialize ps).length frame_size with
  | some e => exact hrefl.out _ _
  | none =>
    exact msFullLoop_rel os1 os2 l fec sc _ sts ps qs 0 _ _ _ hpr (fun _ => by omega)
      (fun i hi => by simpa using hos i hi) hrefl

theorem pairRel_canon : ∀ (ps : List Packet), (∀ p ∈ ps, Valid p) → PairRel ps (ps.map fun p => canonPacket p.toc p.frames)
  | [], _ => trivial
  | p :: ps, hv =>
    ⟨pktRel_canon (hv p (by simp)), pairRel_canon ps (fun q hq => hv q (by simp [hq]))⟩

theorem pairRel_last (pre : List Packet) (hv : ∀ p ∈ pre, Valid p) (a b : Packet) (h : PktRel a b) :
    PairRel (pre ++ [a]) (pre ++ [b]) := by
  induction pre with
  | nil => exact ⟨h, trivial⟩
  | cons p ps ih =>
    exact ⟨⟨hv p (by simp), hv p (by simp), rfl, rfl⟩, ih (fun q hq => hv q (by simp [hq]))⟩

end Opus.RepackProofs
