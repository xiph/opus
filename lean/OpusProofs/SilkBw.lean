import OpusModel.SilkBw
import OpusProofs.EncDecideChain
/-
  OpusProofs.SilkBw — invariants of SILK's internal-rate state machine over ALL call sequences, and
  what they give for the TOC bandwidth of SILK-only packets (helper lemmas of property C11).
-/
namespace Opus.SilkBw
open Opus Opus.EncDecide

/-- Reachable rate-control states: rates in {0 (just initialised), 8, 12, 16} kHz, a transition
    counter in [0, 256], mode in {−2, 0, 1}. -/
structure BwInv (s : BwSt) : Prop where
  fs : s.fsKHz = 0 ∨ s.fsKHz = 8 ∨ s.fsKHz = 12 ∨ s.fsKHz = 16
  saved : s.savedFsKHz = 0 ∨ s.savedFsKHz = 8 ∨ s.savedFsKHz = 12 ∨ s.savedFsKHz = 16
  mode : s.mode = -2 ∨ s.mode = 0 ∨ s.mode = 1
  tfn : 0 ≤ s.tfn ∧ s.tfn ≤ 256

/-- What `check_control_input` (silk/check_control_input.c:41-61) lets through, with the API rates
    Opus uses. -/
structure BwInOk (i : BwIn) : Prop where
  api : i.apiFs = 8000 ∨ i.apiFs = 12000 ∨ i.apiFs = 16000 ∨ i.apiFs = 24000 ∨ i.apiFs = 48000
  des : i.desired = 8000 ∨ i.desired = 12000 ∨ i.desired = 16000
  max : i.maxFs = 8000 ∨ i.maxFs = 12000 ∨ i.maxFs = 16000
  min : i.minFs = 8000 ∨ i.minFs = 12000 ∨ i.minFs = 16000
  ord : i.minFs ≤ i.desired ∧ i.desired ≤ i.maxFs

theorem origOf_spec (s : BwSt) : (s.fsKHz = 0 → origOf s = s.savedFsKHz) ∧ (s.fsKHz ≠ 0 → origOf s = s.fsKHz) :=
  ⟨fun h => if_pos h, fun h => if_neg h⟩

theorem origOf_cases {s : BwSt} (hs : BwInv s) : origOf s = 0 ∨ origOf s = 8 ∨ origOf s = 12 ∨ origOf s = 16 := by
  unfold origOf; split
  · exact hs.saved
  · exact hs.fs

theorem controlBw_eq (s : BwSt) (i : BwIn) : controlBw s i = controlBwCore (origOf s) s i := rfl

/-- Generic case analysis: to prove `P` of the result, prove it in every branch. -/
macro "bw_result" hr:ident : tactic =>
  `(tactic| (unfold controlBwCore at $hr:ident; repeat' (split at $hr:ident)))

/-- The returned rate: only `opusCanSwitch` moves it once it is inside the permitted range, and then by
    one step; the transition bookkeeping (`allow`, `mode`, `tfn`) has no influence on it. -/
theorem controlBwCore_fsKHz (orig : Int) (s : BwSt) (i : BwIn) :
    (controlBwCore orig s i).fsKHz =
      if orig * 1000 = 0 then min i.desired i.apiFs / 1000
      else if orig * 1000 > i.apiFs ∨ orig * 1000 > i.maxFs ∨ orig * 1000 < i.minFs then
        max (min i.apiFs i.maxFs) i.minFs / 1000
      else if i.can = true ∧ orig * 1000 > i.desired then (if orig = 16 then 12 else 8)
      else if i.can = true ∧ orig * 1000 < i.desired then (if orig = 8 then 12 else 16)
      else orig := by
  cases hc : i.can <;>
    simp only [controlBwCore, apply_ite BwOut.fsKHz, hc, ite_self, or_true, or_false, if_true, true_and, false_and,
      if_false, Bool.false_eq_true]

/-- The state after a call: the two rate members are not written here (`afterCall` stores the rate),
    the mode is the old one or one of −2, 0, 1, the counter the old one, 0 or 256. -/
theorem controlBwCore_st (orig : Int) (s : BwSt) (i : BwIn) :
    (controlBwCore orig s i).st.fsKHz = s.fsKHz ∧ (controlBwCore orig s i).st.savedFsKHz = s.savedFsKHz ∧
    ((controlBwCore orig s i).st.mode = s.mode ∨ (controlBwCore orig s i).st.mode = -2 ∨
      (controlBwCore orig s i).st.mode = 0 ∨ (controlBwCore orig s i).st.mode = 1) ∧
    ((controlBwCore orig s i).st.tfn = s.tfn ∨ (controlBwCore orig s i).st.tfn = 0 ∨
      (controlBwCore orig s i).st.tfn = 256) := by
  simp only [controlBwCore, apply_ite BwOut.st, apply_ite BwSt.fsKHz, apply_ite BwSt.savedFsKHz, apply_ite BwSt.mode,
    apply_ite BwSt.tfn, ite_self, true_and]
  omega

/-- The branch taken by a lower request from inside the permitted range
    (control_audio_bandwidth.c:59-86). -/
theorem controlBwCore_down {orig : Int} {s : BwSt} {i : BwIn} (h0 : orig * 1000 ≠ 0)
    (hin : ¬ (orig * 1000 > i.apiFs ∨ orig * 1000 > i.maxFs ∨ orig * 1000 < i.minFs))
    (hsw : i.allow = true ∨ i.can = true) (hdown : orig * 1000 > i.desired) :
    controlBwCore orig s i =
      if i.can = true then
        { fsKHz := if orig = 16 then 12 else 8,
          st := { s with mode := 0, tfn := if (if s.tfn ≥ 256 then 0 else s.mode) = 0 then 256 else s.tfn }, ready := false }
      else if (if (if s.tfn ≥ 256 then 0 else s.mode) = 0 then 256 else s.tfn) ≤ 0 then
        { fsKHz := orig, st := { s with mode := if s.tfn ≥ 256 then 0 else s.mode,
                                        tfn := if (if s.tfn ≥ 256 then 0 else s.mode) = 0 then 256 else s.tfn }, ready := true }
      else { fsKHz := orig, st := { s with mode := -2, tfn := if (if s.tfn ≥ 256 then 0 else s.mode) = 0 then 256 else s.tfn },
             ready := false } := by
  unfold controlBwCore
  rw [if_neg h0, if_neg hin, if_pos hsw, if_pos hdown]

/-! The rates are multiples of 1000 Hz, so the C code's `/ 1000` loses nothing. -/

theorem hz_div {x : Int} (h : x = 8000 ∨ x = 12000 ∨ x = 16000) : x / 1000 * 1000 = x := by omega

/-- **The returned rate `R`, in Hz.**  It is 8, 12 or 16 kHz.  On the first call after an initialisation
    it is the desired rate as far as the API rate supports it; from outside [min, max] or above the API
    rate it is clamped into range at once; from inside it stays between the old rate and the desired
    one.  Range, upper bound and constancy below follow from these four facts; that a switch is one
    step (`down_switch`) is read off the branch itself (`controlBwCore_down`). -/
theorem controlBwCore_rate {orig : Int} (s : BwSt) {i : BwIn} (ho : orig = 0 ∨ orig = 8 ∨ orig = 12 ∨ orig = 16)
    (hi : BwInOk i) (R : Int) (hR : (controlBwCore orig s i).fsKHz * 1000 = R) :
    (R = 8000 ∨ R = 12000 ∨ R = 16000) ∧
    (orig = 0 → R = min i.desired i.apiFs) ∧
    (orig ≠ 0 → orig * 1000 > i.apiFs ∨ orig * 1000 > i.maxFs ∨ orig * 1000 < i.minFs →
      R = max (min i.apiFs i.maxFs) i.minFs) ∧
    (orig ≠ 0 → ¬ (orig * 1000 > i.apiFs ∨ orig * 1000 > i.maxFs ∨ orig * 1000 < i.minFs) →
      min (orig * 1000) i.desired ≤ R ∧ R ≤ max (orig * 1000) i.desired) := by
  subst hR
  rw [controlBwCore_fsKHz]
  by_cases h0 : orig * 1000 = 0
  · have hx : min i.desired i.apiFs = 8000 ∨ min i.desired i.apiFs = 12000 ∨ min i.desired i.apiFs = 16000 := by
      have := hi.des; have := hi.api; omega
    rw [if_pos h0, hz_div hx]
    omega
  · by_cases h1 : orig * 1000 > i.apiFs ∨ orig * 1000 > i.maxFs ∨ orig * 1000 < i.minFs
    · have hx : max (min i.apiFs i.maxFs) i.minFs = 8000 ∨ max (min i.apiFs i.maxFs) i.minFs = 12000 ∨
          max (min i.apiFs i.maxFs) i.minFs = 16000 := by
        have := hi.api; have := hi.max; have := hi.min; omega
      rw [if_neg h0, if_pos h1, hz_div hx]
      omega
    · have hd := hi.des
      rw [if_neg h0, if_neg h1]
      omega

theorem controlBw_inv {s : BwSt} {i : BwIn} (hs : BwInv s) (hi : BwInOk i) :
    ((controlBw s i).fsKHz = 8 ∨ (controlBw s i).fsKHz = 12 ∨ (controlBw s i).fsKHz = 16) ∧
    BwInv (afterCall (controlBw s i)) := by
  have k1 : (controlBw s i).fsKHz = 8 ∨ (controlBw s i).fsKHz = 12 ∨ (controlBw s i).fsKHz = 16 := by
    have := (controlBwCore_rate s (origOf_cases hs) hi _ rfl).1
    rw [controlBw_eq]
    omega
  obtain ⟨-, k2, k3, k4⟩ := controlBwCore_st (origOf s) s i
  rw [← controlBw_eq] at k2 k3 k4
  have hsv := hs.saved
  have hm := hs.mode
  have ht := hs.tfn
  rw [← k2] at hsv
  have hm' : (controlBw s i).st.mode = -2 ∨ (controlBw s i).st.mode = 0 ∨ (controlBw s i).st.mode = 1 := by omega
  have ht' : 0 ≤ (controlBw s i).st.tfn ∧ (controlBw s i).st.tfn ≤ 256 := by omega
  exact ⟨k1, ⟨Or.inr k1, hsv, hm', ht'⟩⟩

/-- **Range.**  The returned rate is never above `maxInternalSampleRate` — IMMEDIATELY, also on the
    first call after the maximum was lowered — and never below `minInternalSampleRate`, nor above the
    API rate when Opus asks for no more than the API rate supports. -/
theorem controlBw_range {s : BwSt} {i : BwIn} (hs : BwInv s) (hi : BwInOk i) (hmin : i.minFs ≤ i.apiFs) :
    (controlBw s i).fsKHz * 1000 ≤ i.maxFs ∧ i.minFs ≤ (controlBw s i).fsKHz * 1000 ∧
    (i.desired ≤ i.apiFs → (controlBw s i).fsKHz * 1000 ≤ i.apiFs) := by
  obtain ⟨-, h1, h2, h3⟩ := controlBwCore_rate s (origOf_cases hs) hi _ rfl
  have ho := hi.ord
  rw [controlBw_eq]
  omega

/-- **Upper bound carried along.**  If the state's rate is at most `D`, this call asks for at most
    `D`, and the minimum is 8 kHz or the maximum is at most `D` (Opus: SILK-only has min = 8 kHz,
    hybrid has min = desired = max = 16 kHz), the returned rate is at most `D`. -/
theorem controlBw_le {s : BwSt} {i : BwIn} (hs : BwInv s) (hi : BwInOk i) (D : Int)
    (h0 : s.fsKHz * 1000 ≤ D ∧ s.savedFsKHz * 1000 ≤ D) (hd : i.desired ≤ D) (hm : i.minFs = 8000 ∨ i.maxFs ≤ D) :
    (controlBw s i).fsKHz * 1000 ≤ D ∧ (controlBw s i).st.savedFsKHz * 1000 ≤ D := by
  have horig := origOf_cases hs
  obtain ⟨-, h1, h2, h3⟩ := controlBwCore_rate s horig hi _ rfl
  have ho := hi.ord
  have hD : origOf s * 1000 ≤ D := by unfold origOf; split <;> omega
  rw [controlBw_eq, (controlBwCore_st (origOf s) s i).2.1]
  omega

theorem lpStep_fs (s : BwSt) : (lpStep s).fsKHz = s.fsKHz ∧ (lpStep s).savedFsKHz = s.savedFsKHz := by
  unfold lpStep; split <;> exact ⟨rfl, rfl⟩

theorem lpStep_inv {s : BwSt} (hs : BwInv s) : BwInv (lpStep s) := by
  obtain ⟨h1, h2, h3, h4⟩ := hs
  unfold lpStep
  split
  · exact ⟨h1, h2, h3, by dsimp only [TRANSITION_FRAMES]; omega⟩
  · exact ⟨h1, h2, h3, h4⟩

theorem lpSteps_inv {s : BwSt} (hs : BwInv s) (n : Nat) : BwInv (lpSteps n s) := by
  induction n generalizing s with
  | zero => exact hs
  | succ n ih => exact ih (lpStep_inv hs)

theorem lpSteps_fs (n : Nat) (s : BwSt) : (lpSteps n s).fsKHz = s.fsKHz ∧ (lpSteps n s).savedFsKHz = s.savedFsKHz := by
  induction n generalizing s with
  | zero => exact ⟨rfl, rfl⟩
  | succ n ih =>
    have := ih (lpStep s); have h := lpStep_fs s
    simp only [lpSteps]
    exact ⟨by rw [this.1, h.1], by rw [this.2, h.2]⟩

theorem applyGap_inv {s : BwSt} (hs : BwInv s) (g : Gap) : BwInv (applyGap s g) := by
  cases g with
  | frames n => exact lpSteps_inv hs n
  | prefill k =>
    obtain ⟨h1, h2, h3, h4⟩ := hs
    cases k
    · exact ⟨Or.inl rfl, Or.inl rfl, Or.inr (Or.inl rfl), by show (0 : Int) ≤ 0 ∧ (0 : Int) ≤ 256; omega⟩
    · exact ⟨Or.inl rfl, h1, h3, h4⟩
  | init => exact ⟨Or.inl rfl, Or.inl rfl, Or.inr (Or.inl rfl), by show (0 : Int) ≤ 0 ∧ (0 : Int) ≤ 256; omega⟩

theorem applyGap_le {s : BwSt} (g : Gap) (D : Int) (hD : 0 ≤ D) (h0 : s.fsKHz * 1000 ≤ D ∧ s.savedFsKHz * 1000 ≤ D) :
    (applyGap s g).fsKHz * 1000 ≤ D ∧ (applyGap s g).savedFsKHz * 1000 ≤ D := by
  cases g with
  | frames n => have := lpSteps_fs n s; simp only [applyGap]; rw [this.1, this.2]; exact h0
  | prefill k =>
    cases k
    · show (0 : Int) * 1000 ≤ D ∧ (0 : Int) * 1000 ≤ D; omega
    · simp only [applyGap, prefillReset, if_true]; constructor
      · show (0 : Int) * 1000 ≤ D; omega
      · exact h0.1
  | init => show (0 : Int) * 1000 ≤ D ∧ (0 : Int) * 1000 ≤ D; omega

/-- **Over any history** (any number of coded frames, prefill resets and re-initialisations between
    the calls; any `allow_bandwidth_switch` / `opusCanSwitch`): every returned rate is 8, 12 or 16 kHz
    and lies in that call's [min, max]; and if every call asked for at most `D` (with min = 8 kHz or
    max ≤ D), every returned rate is at most `D`. -/
theorem runBw_spec (D : Int) (hD : 0 ≤ D) :
    ∀ (evs : List (Gap × BwIn)) (s : BwSt), BwInv s → s.fsKHz * 1000 ≤ D ∧ s.savedFsKHz * 1000 ≤ D →
      (∀ e ∈ evs, BwInOk e.2 ∧ e.2.minFs ≤ e.2.apiFs ∧ e.2.desired ≤ D ∧ (e.2.minFs = 8000 ∨ e.2.maxFs ≤ D)) →
      BwInv (runBw s evs).1 ∧ ((runBw s evs).1.fsKHz * 1000 ≤ D ∧ (runBw s evs).1.savedFsKHz * 1000 ≤ D) ∧
      (∀ k ∈ (runBw s evs).2, (k = 8 ∨ k = 12 ∨ k = 16) ∧ k * 1000 ≤ D) ∧
      (runBw s evs).2.length = evs.length := by
  intro evs
  induction evs with
  | nil => intro s hs h0 _; exact ⟨hs, h0, fun k hk => by simp [runBw] at hk, rfl⟩
  | cons e rest ih =>
    intro s hs h0 hall
    obtain ⟨g, i⟩ := e
    have he := hall (g, i) List.mem_cons_self
    have hg := applyGap_inv hs g
    have hgl := applyGap_le g D hD h0
    have hc := controlBw_inv hg he.1
    have hl := controlBw_le hg he.1 D hgl he.2.2.1 he.2.2.2
    have := ih (afterCall (controlBw (applyGap s g) i)) hc.2 hl (fun x hx => hall x (List.mem_cons_of_mem _ hx))
    simp only [runBw]
    refine ⟨this.1, this.2.1, ?_, by simp [this.2.2.2]⟩
    intro k hk
    rcases List.mem_cons.mp hk with rfl | hk
    · exact ⟨hc.1, hl.1⟩
    · exact this.2.2.1 k hk

/-! ### Switching down: what holds at once, what needs the transition filter -/

/-- A lower request while a switch is allowed (and Opus cannot take it yet) starts or continues the
    down transition: mode −2, or — once the counter has reached 0 — `switchReady`.  The rate is
    unchanged by this call. -/
theorem down_progress {s : BwSt} {i : BwIn} (hfs : s.fsKHz ≠ 0)
    (hin : s.fsKHz * 1000 ≤ i.apiFs ∧ s.fsKHz * 1000 ≤ i.maxFs ∧ i.minFs ≤ s.fsKHz * 1000)
    (hdown : i.desired < s.fsKHz * 1000) (hallow : i.allow = true) (hcan : i.can = false) :
    (controlBw s i).fsKHz = s.fsKHz ∧
    (((controlBw s i).st.mode = -2 ∧ (controlBw s i).ready = false ∧ 0 < (controlBw s i).st.tfn) ∨
     ((controlBw s i).ready = true ∧ (controlBw s i).st.tfn ≤ 0)) := by
  rw [controlBw_eq, (origOf_spec s).2 hfs, controlBwCore_down (by omega) (by omega) (Or.inl hallow) (by omega),
    if_neg (by rw [hcan]; decide)]
  by_cases hT : (if (if s.tfn ≥ 256 then 0 else s.mode) = 0 then 256 else s.tfn) ≤ 0
  · rw [if_pos hT]
    exact ⟨rfl, Or.inr ⟨rfl, hT⟩⟩
  · rw [if_neg hT]
    exact ⟨rfl, Or.inl ⟨rfl, rfl, by dsimp only; omega⟩⟩

/-- Each coded frame in mode −2 lowers the counter by 2 (not below 0): at most 128 frames. -/
theorem lpSteps_down (n : Nat) (s : BwSt) (hm : s.mode = -2) (ht : 0 ≤ s.tfn ∧ s.tfn ≤ 256) :
    (lpSteps n s).tfn = max 0 (s.tfn - 2 * n) ∧ (lpSteps n s).mode = -2 := by
  induction n generalizing s with
  | zero => simp only [lpSteps]; omega
  | succ n ih =>
    have hstep : (lpStep s).tfn = max 0 (s.tfn - 2) ∧ (lpStep s).mode = -2 ∧ (0 ≤ (lpStep s).tfn ∧ (lpStep s).tfn ≤ 256) := by
      unfold lpStep; rw [if_pos (by omega)]; dsimp only [TRANSITION_FRAMES]; omega
    have := ih (lpStep s) hstep.2.1 hstep.2.2
    simp only [lpSteps]
    rw [this.1, this.2, hstep.1]
    refine ⟨?_, rfl⟩
    push_cast
    omega

/-- When Opus can switch (`opusCanSwitch`, i.e. `switchReady` was reported on a final frame) a lower
    request takes effect in THIS call: one step down (16 → 12, 12 → 8), transition stopped. -/
theorem down_switch {s : BwSt} {i : BwIn} (hs : BwInv s) (hi : BwInOk i) (hfs : s.fsKHz ≠ 0)
    (hin : s.fsKHz * 1000 ≤ i.apiFs ∧ s.fsKHz * 1000 ≤ i.maxFs ∧ i.minFs ≤ s.fsKHz * 1000)
    (hdown : i.desired < s.fsKHz * 1000) (hcan : i.can = true) :
    (controlBw s i).fsKHz = (if s.fsKHz = 16 then 12 else 8) ∧ (controlBw s i).st.mode = 0 ∧
    (controlBw s i).fsKHz < s.fsKHz := by
  rw [controlBw_eq, (origOf_spec s).2 hfs, controlBwCore_down (by omega) (by omega) (Or.inr hcan) (by omega), if_pos hcan]
  have h1 := hs.fs
  have hd := hi.des
  exact ⟨rfl, rfl, by dsimp only; omega⟩

theorem rateOfBw_cases (bw : Int) : rateOfBw bw = 8000 ∨ rateOfBw bw = 12000 ∨ rateOfBw bw = 16000 := by
  unfold rateOfBw; omega

theorem rateOfBw_mono {a b : Int} (ha : 1101 ≤ a) (h : a ≤ b) : rateOfBw a ≤ rateOfBw b := by
  unfold rateOfBw; consts; omega

theorem rateOfBw_le_api {apiFs bw : Int}
    (hapi : apiFs = 8000 ∨ apiFs = 12000 ∨ apiFs = 16000 ∨ apiFs = 24000 ∨ apiFs = 48000) (hbw : 1101 ≤ bw)
    (hny : bw ≤ nyquistBw apiFs) : rateOfBw bw ≤ apiFs := by
  unfold nyquistBw at hny; unfold rateOfBw; consts; omega

/-- What Opus hands to SILK passes `check_control_input`, asks for at most `rateOfBw L` when the
    frame's bandwidth is at most `L`, never asks for more than the API rate supports when the
    bandwidth respects Nyquist, and has min = 8 kHz (SILK-only) or max ≤ `rateOfBw L` (hybrid: max is
    16 kHz and the bandwidth, hence `L`, is above wideband). -/
theorem opusSilkIn_ok (apiFs mode bw frameRate maxDataBytes : Int) (allow can : Bool) (L : Int)
    (hapi : apiFs = 8000 ∨ apiFs = 12000 ∨ apiFs = 16000 ∨ apiFs = 24000 ∨ apiFs = 48000)
    (hmode : mode = 1000 ∨ (mode = 1001 ∧ 1104 ≤ bw ∧ 24000 ≤ apiFs)) (hbw : 1101 ≤ bw ∧ bw ≤ L)
    (hny : bw ≤ nyquistBw apiFs) :
    ∀ i, i = opusSilkIn apiFs mode bw frameRate maxDataBytes allow can →
    BwInOk i ∧ i.minFs ≤ i.apiFs ∧ i.desired ≤ rateOfBw L ∧ (i.minFs = 8000 ∨ i.maxFs ≤ rateOfBw L) ∧
    i.desired ≤ i.apiFs := by
  intro i hi
  subst hi
  have hL := rateOfBw_mono hbw.1 hbw.2
  have hr := rateOfBw_cases bw
  have hnyq := rateOfBw_le_api hapi hbw.1 hny
  have hLc := rateOfBw_cases L
  have hd : 1104 ≤ bw → rateOfBw bw = 16000 := by unfold rateOfBw; consts; omega
  unfold opusSilkIn
  consts
  generalize (if frameRate > 50 then frameRate * maxDataBytes * 8 * 2 / 3 else frameRate * maxDataBytes * 8) = eff
  generalize rateOfBw bw = d at *
  generalize rateOfBw L = DL at *
  refine ⟨⟨hapi, ?_, ?_, ?_, ?_⟩, by omega, by omega, by omega, by omega⟩
  all_goals (dsimp only; omega)

theorem bwOfKHz_le {k L : Int} (hk : k = 8 ∨ k = 12 ∨ k = 16) (hL : 1101 ≤ L) (h : k * 1000 ≤ rateOfBw L) :
    bwOfKHz k ≤ L ∧ 1101 ≤ bwOfKHz k ∧ bwOfKHz k ≤ 1103 := by
  unfold bwOfKHz; unfold rateOfBw at h; consts; omega

end Opus.SilkBw
