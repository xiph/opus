import OpusProofs.SilkSymsCtl
import OpusProofs.SilkSymsDecode
/-
  C03: the conditional-coding memory (`ec_prevSignalType` / `ec_prevLagIndex`) of a channel is read only behind a
  frame of the same pass over the payload, which has just written it.  Stated as an induction principle: two runs
  of the symbol layer on the same bytes from arbitrary states `st`, `st'` read the same symbols, and whatever a
  decoded frame establishes about the memory (`Q`, with `E` about the indices it decodes) holds whenever the memory
  is read.  `Q := True` is history-freedom; the diagonal `st' = st` with a bound for `Q` is the lag bound.
-/
namespace Opus.SilkSymsProofs
open Opus Opus.RangeCoder Opus.SilkSyms
open Opus.SilkSymsEncProofs (AllBits)

/-- The two runs agree on the conditional-coding memory of a channel (the lag only matters after a voiced frame). -/
def PrevEq (a b : Chan) : Prop :=
  a.ecPrevSignalType = b.ecPrevSignalType ∧ (a.ecPrevSignalType = 2 → a.ecPrevLagIndex = b.ecPrevLagIndex)

theorem handed_congr {cc : Nat} {a b : Chan} (h : cc = 2 → PrevEq a b) : handed cc a = handed cc b := by
  unfold handed
  by_cases hc : cc = 2
  · obtain ⟨h1, h2⟩ := h hc
    rw [← h1]
    by_cases hs : a.ecPrevSignalType = 2
    · rw [← h2 hs]
    · have hn : ¬ (cc = 2 ∧ a.ecPrevSignalType = 2) := fun q => hs q.2
      rw [if_neg hn, if_neg hn]
  · have hn (x : Nat) : ¬ (cc = 2 ∧ x = 2) := fun q => hc q.1
    rw [if_neg hc, if_neg hc, if_neg (hn _), if_neg (hn _)]

def EvIx (E : Nat → Indices → Prop) (b : Nat) : Ev → Prop
  | .indices _ fi _ _ _ _ _ _ ix => fi < b ∧ E fi ix
  | _ => True

def EvsIx (E : Nat → Indices → Prop) (b : Nat) (l : List Ev) : Prop := ∀ e ∈ l, EvIx E b e

theorem EvsIx.nil {E : Nat → Indices → Prop} {b : Nat} : EvsIx E b [] := fun _ h => by cases h
theorem EvsIx.cons {E : Nat → Indices → Prop} {b : Nat} {e : Ev} {l : List Ev} (he : EvIx E b e) (hl : EvsIx E b l) :
    EvsIx E b (e :: l) := List.forall_mem_cons.mpr ⟨he, hl⟩
theorem EvsIx.append {E : Nat → Indices → Prop} {b : Nat} {l l' : List Ev} (h : EvsIx E b l) (h' : EvsIx E b l') :
    EvsIx E b (l ++ l') := List.forall_mem_append.mpr ⟨h, h'⟩
theorem EvsIx.mono {E : Nat → Indices → Prop} {b b' : Nat} {l : List Ev} (h : EvsIx E b l) (hb : b ≤ b') :
    EvsIx E b' l := by
  intro e he
  have := h e he
  cases e <;> try trivial
  exact ⟨by have := this.1; omega, this.2⟩

def Mem (Q : Nat → Nat → Int → Prop) (d : Nat) (a b : Chan) : Prop :=
  PrevEq a b ∧ Q d a.ecPrevSignalType a.ecPrevLagIndex

/-- Two runs of a step of the symbol layer agree: the same events, all in `P`, the same decoder context, and results
    related by `R`. -/
structure Agree {α : Type} (P : List Ev → Prop) (R : α → α → Prop) (r r' : List Ev × α × Dec) : Prop where
  evs : r.1 = r'.1
  c : r.2.2 = r'.2.2
  st : R r.2.1 r'.2.1
  ev : P r.1

/-- A decoded frame keeps `Q`, `E`: if the memory satisfies `Q fi` in case frame `fi` is coded conditionally, the
    indices satisfy `E fi` and the memory left behind `Q (fi + 1)`. -/
def MemStep (cfg : Cfg) (Q : Nat → Nat → Int → Prop) (E : Nat → Indices → Prop) : Prop :=
  ∀ (n fi lb cc : Nat) (ch : Chan) (c : Dec), (cc = 2 → Q fi ch.ecPrevSignalType ch.ecPrevLagIndex) →
    EvsIx E (fi + 1) (decodeOne cfg n fi lb cc ch c).1 ∧
    Q (fi + 1) (decodeOne cfg n fi lb cc ch c).2.1.ecPrevSignalType (decodeOne cfg n fi lb cc ch c).2.1.ecPrevLagIndex

section walk
variable {cfg : Cfg} {Q : Nat → Nat → Int → Prop} {E : Nat → Indices → Prop}

theorem decodeOne_rel (hM : MemStep cfg Q E) (n fi lb cc : Nat) (ch ch' : Chan) (c : Dec)
    (he : ChanEqv ch ch') (hp : cc = 2 → Mem Q fi ch ch') :
    Agree (EvsIx E (fi + 1)) (fun x y => ChanEqv x y ∧ Mem Q (fi + 1) x y)
      (decodeOne cfg n fi lb cc ch c) (decodeOne cfg n fi lb cc ch' c) := by
  obtain ⟨evs, ix, c2, h1, h2⟩ := decodeOne_congr cfg n fi lb cc c he.2.1 (handed_congr fun q => (hp q).1)
  have hm := hM n fi lb cc ch c (fun q => (hp q).2)
  rw [h1] at hm ⊢
  rw [h2]
  refine ⟨rfl, rfl, ⟨he, ⟨rfl, fun q => ?_⟩, hm.2⟩, hm.1⟩
  have q' : ix.signalType = 2 := q
  show (if ix.signalType = 2 then ix.lagIndex else _) = (if ix.signalType = 2 then ix.lagIndex else _)
  rw [if_pos q', if_pos q']

/-- What `SkipRel` says of a channel whose next LBRR frame is frame `k`. -/
def SkipCh (Q : Nat → Nat → Int → Prop) (k : Nat) (x y : Chan) : Prop :=
  ChanEqv x y ∧ (0 < k → x.lbrrFlags.getD (k - 1) 0 ≠ 0 → Mem Q k x y)

/-- Relation between the two runs inside the LBRR-skipping loops: same decoder context, events and
    `decode_only_middle`; channels agree on what steers reads, and on the memory (with `Q`) wherever the next LBRR
    frame is coded conditionally (dec_API.c:265 tests `LBRR_flags[ i - 1 ]`). -/
structure SkipRel (cfg : Cfg) (Q : Nat → Nat → Int → Prop) (E : Nat → Indices → Prop) (b i a : Nat) (s s' : SkipSt) :
    Prop where
  c : s.c = s'.c
  evs : s.evs = s'.evs
  dom : s.dom = s'.dom
  chan : ∀ m, m < cfg.nCh → SkipCh Q (chanPos i a m) (s.st.ch m) (s'.st.ch m)
  ev : EvsIx E b s.evs

theorem skipStereoG_rel (P : Dec → StereoPred × Dec) (M : Dec → Nat × Dec) (b i a n : Nat)
    (s s' : SkipSt) (h : SkipRel cfg Q E b i a s s') :
    SkipRel cfg Q E b i a (skipStereoG P M cfg i n s) (skipStereoG P M cfg i n s') := by
  unfold skipStereoG
  split
  · rename_i hc
    have hf : s.st.ch1.lbrrFlags = s'.st.ch1.lbrrFlags := (h.chan 1 (by omega)).1.2.2
    rw [← h.c, ← hf]
    dsimp only
    split
    · exact ⟨rfl, by dsimp only; rw [h.evs], rfl, h.chan, h.ev.append (.cons trivial (.cons trivial .nil))⟩
    · exact ⟨rfl, by dsimp only; rw [h.evs], h.dom, h.chan, h.ev.append (.cons trivial .nil)⟩
  · exact h

theorem skipOne_rel (hM : MemStep cfg Q E) (hN : cfg.nCh ≤ 2) {b i n : Nat} (hi : i < b) (hn : n < cfg.nCh)
    (s s' : SkipSt) (h : SkipRel cfg Q E b i n s s') :
    SkipRel cfg Q E b i (n + 1) (skipOne cfg i n s) (skipOne cfg i n s') := by
  have he := (h.chan n hn).1
  have hf : (s'.st.ch n).lbrrFlags = (s.st.ch n).lbrrFlags := he.2.2.symm
  have others : ∀ m, m < cfg.nCh → m ≠ n → SkipCh Q (chanPos i n m) (s.st.ch m) (s'.st.ch m) →
      SkipCh Q (chanPos i (n + 1) m) (s.st.ch m) (s'.st.ch m) := fun m _ hmn p => by rw [chanPos_ne i hmn]; exact p
  by_cases hfl : (s.st.ch n).lbrrFlags.getD i 0 ≠ 0
  · rw [skipOne_pos hfl, skipOne_pos (hf ▸ hfl), hf]
    have hr : SkipRel cfg Q E b i n (skipStereo cfg i n s) (skipStereo cfg i n s') := skipStereoG_rel _ _ b i n n s s' h
    generalize skipStereo cfg i n s = t at hr ⊢
    generalize skipStereo cfg i n s' = t' at hr ⊢
    rw [← hr.c]
    have hrel := decodeOne_rel hM n i 1 (if i > 0 ∧ (s.st.ch n).lbrrFlags.getD (i - 1) 0 ≠ 0 then 2 else 0)
      (s.st.ch n) (s'.st.ch n) t.c he (by
        -- dec_API.c:265: LBRR frame `i` is coded conditionally iff LBRR frame `i - 1` of the channel was present
        intro hcc
        have hm := (h.chan n hn).2
        rw [chanPos_self] at hm
        by_cases hq : i > 0 ∧ (s.st.ch n).lbrrFlags.getD (i - 1) 0 ≠ 0
        · exact hm hq.1 hq.2
        · rw [if_neg hq] at hcc; omega)
    generalize decodeOne cfg n i 1 (if i > 0 ∧ (s.st.ch n).lbrrFlags.getD (i - 1) 0 ≠ 0 then 2 else 0) (s.st.ch n) t.c = y at hrel ⊢
    generalize decodeOne cfg n i 1 (if i > 0 ∧ (s.st.ch n).lbrrFlags.getD (i - 1) 0 ≠ 0 then 2 else 0) (s'.st.ch n) t.c = y' at hrel ⊢
    exact ⟨hrel.c, by dsimp only; rw [hr.evs, hrel.evs], hr.dom,
      forall_setCh hN hn h.chan (by rw [chanPos_done]; exact ⟨hrel.st.1, fun _ _ => hrel.st.2⟩) others,
      hr.ev.append (hrel.ev.mono (by omega))⟩
  · rw [skipOne_neg hfl, skipOne_neg (hf ▸ hfl)]
    refine ⟨h.c, h.evs, h.dom, fun m hm => ?_, h.ev⟩
    by_cases hmn : m = n
    · subst hmn; rw [chanPos_done]
      exact ⟨he, fun _ hl => absurd hl hfl⟩
    · exact others m hm hmn (h.chan m hm)

theorem skipChans_rel (hM : MemStep cfg Q E) (hN : cfg.nCh ≤ 2) {b i : Nat} (hi : i < b) :
    ∀ (m a : Nat) (s s' : SkipSt), a + m = cfg.nCh → SkipRel cfg Q E b i a s s' →
    SkipRel cfg Q E b i cfg.nCh (skipChans cfg i (List.range' a m) s) (skipChans cfg i (List.range' a m) s')
  | 0, a, s, s', ha, h => by
    have : a = cfg.nCh := by omega
    subst this
    exact h
  | m + 1, a, s, s', ha, h => by
    rw [List.range'_succ]
    unfold skipChans
    exact skipChans_rel hM hN hi m (a + 1) _ _ (by omega) (skipOne_rel hM hN hi (by omega) s s' h)

theorem SkipRel.next {b i : Nat} {s s' : SkipSt} (h : SkipRel cfg Q E b i cfg.nCh s s') :
    SkipRel cfg Q E b (i + 1) 0 s s' := by
  refine ⟨h.c, h.evs, h.dom, fun m hm => ?_, h.ev⟩
  rw [chanPos_zero, ← chanPos_all hm]
  exact h.chan m hm

theorem skipFrames_rel (hM : MemStep cfg Q E) (hN : cfg.nCh ≤ 2) {b : Nat} : ∀ (k i : Nat) (s s' : SkipSt),
    i + k ≤ b → SkipRel cfg Q E b i 0 s s' →
    SkipRel cfg Q E b (i + k) 0 (skipFrames cfg (List.range' i k) s) (skipFrames cfg (List.range' i k) s')
  | 0, _, _, _, _, h => h
  | k + 1, i, s, s', hk, h => by
    rw [List.range'_succ]
    unfold skipFrames
    rw [List.range_eq_range']
    have := skipFrames_rel hM hN k (i + 1) _ _ (by omega)
      (skipChans_rel hM hN (show i < b by omega) cfg.nCh 0 s s' (by omega) h).next
    rwa [show i + 1 + k = i + (k + 1) by omega] at this

end walk

/-- The flags of the header do not look at the state: two runs read the same context, report the same flags and write
    them (the LBRR flags are bits) into their channels, whose frame counters they leave alone. -/
theorem decodeFlags_facts (cfg : Cfg) (hN : cfg.nCh = 1 ∨ cfg.nCh = 2) (st st' : SilkSt) (c : Dec) :
    (headerFlags cfg st c).c = (headerFlags cfg st' c).c ∧ (headerFlags cfg st c).evs = (headerFlags cfg st' c).evs ∧
    (headerFlags cfg st c).dom = (headerFlags cfg st' c).dom ∧
    (∀ (E : Nat → Indices → Prop) (b : Nat), EvsIx E b (headerFlags cfg st c).evs) ∧
    ∀ n, n < cfg.nCh →
      ((headerFlags cfg st c).st.ch n).vad = ((headerFlags cfg st' c).st.ch n).vad ∧
      ((headerFlags cfg st c).st.ch n).lbrrFlags = ((headerFlags cfg st' c).st.ch n).lbrrFlags ∧
      AllBits ((headerFlags cfg st c).st.ch n).lbrrFlags ∧
      ((headerFlags cfg st c).st.ch n).nFramesDecoded = (st.ch n).nFramesDecoded := by
  unfold headerFlags
  split
  · unfold decodeFlagsStereo
    refine ⟨rfl, rfl, rfl, fun _ _ => .cons trivial (.cons trivial .nil), fun n hn => ?_⟩
    have hn' : n = 0 ∨ n = 1 := by omega
    rcases hn' with rfl | rfl <;> exact ⟨rfl, rfl, (decodeLbrrFlags_ok _ _ _).2, rfl⟩
  · unfold decodeFlagsMono
    refine ⟨rfl, rfl, rfl, fun _ _ => .cons trivial .nil, fun n hn => ?_⟩
    have : n = 0 := by omega
    subst this
    exact ⟨rfl, rfl, (decodeLbrrFlags_ok _ _ _).2, rfl⟩

theorem decodeHeader_view (cfg : Cfg) (hN : cfg.nCh = 1 ∨ cfg.nCh = 2) (st : SilkSt) (c : Dec) (n : Nat)
    (hn : n < cfg.nCh) :
    AllBits ((decodeHeader cfg st c).st.ch n).lbrrFlags ∧
    ((decodeHeader cfg st c).st.ch n).nFramesDecoded = (st.ch n).nFramesDecoded := by
  have hf := (decodeFlags_facts cfg hN st st c).2.2.2.2 n hn
  rw [decodeHeader_eq]
  split
  · have hv := (skipFrames_view cfg n (List.range cfg.nfpp) (headerFlags cfg st c)).1
    rw [hv.2.2, hv.1]
    exact hf.2.2
  · exact hf.2.2

section walk
variable {cfg : Cfg} {Q : Nat → Nat → Int → Prop} {E : Nat → Indices → Prop}

/-- The flags of the header: from states that agree on the frame counters (which `silk_Decode` has just reset). -/
theorem decodeFlags_rel (hN : cfg.nCh = 1 ∨ cfg.nCh = 2) (b : Nat) (st st' : SilkSt) (c : Dec)
    (h0 : ∀ n, n < cfg.nCh → (st.ch n).nFramesDecoded = (st'.ch n).nFramesDecoded) :
    SkipRel cfg Q E b 0 0 (headerFlags cfg st c) (headerFlags cfg st' c) := by
  obtain ⟨hc, he, hd, hev, hch⟩ := decodeFlags_facts cfg hN st st' c
  refine ⟨hc, he, hd, fun m hm => ⟨?_, fun q => absurd q (by rw [chanPos_zero]; omega)⟩, hev E b⟩
  exact ⟨(hch m hm).2.2.2.trans ((h0 m hm).trans ((decodeFlags_facts cfg hN st' st c).2.2.2.2 m hm).2.2.2.symm),
    (hch m hm).1, (hch m hm).2.1⟩

theorem decodeHeader_rel (hM : MemStep cfg Q E) (hN : cfg.nCh = 1 ∨ cfg.nCh = 2) {b : Nat} (hb : cfg.nfpp ≤ b)
    (st st' : SilkSt) (c : Dec) (h0 : ∀ n, n < cfg.nCh → (st.ch n).nFramesDecoded = (st'.ch n).nFramesDecoded) :
    ∃ i, SkipRel cfg Q E b i 0 (decodeHeader cfg st c) (decodeHeader cfg st' c) := by
  have hf := decodeFlags_rel (Q := Q) (E := E) hN b st st' c h0
  rw [decodeHeader_eq, decodeHeader_eq]
  split
  · rw [List.range_eq_range']
    exact ⟨_, skipFrames_rel hM (by omega) cfg.nfpp 0 _ _ (by omega) hf⟩
  · exact ⟨_, hf⟩

theorem decodeStereoHeadG_eq (P : Dec → StereoPred × Dec) (M : Dec → Nat × Dec) (cfg : Cfg) (st st' : SilkSt)
    (dom : Nat) (c : Dec) (e : ∀ n, n < cfg.nCh → ChanEqv (st.ch n) (st'.ch n)) :
    decodeStereoHeadG P M cfg st dom c = decodeStereoHeadG P M cfg st' dom c := by
  unfold decodeStereoHeadG
  by_cases h2 : cfg.nCh = 2
  · have e0 : ChanEqv st.ch0 st'.ch0 := e 0 (by omega)
    have e1 : ChanEqv st.ch1 st'.ch1 := e 1 (by omega)
    have hp : hasPred cfg st' = hasPred cfg st := by
      unfold hasPred; rw [e0.1, e0.2.2]
    have hm : hasMidOnly cfg st' = hasMidOnly cfg st := by
      unfold hasMidOnly; rw [e0.1, e1.2.1, e1.2.2]
    rw [hp, hm]
  · simp only [h2, false_and, if_false]

theorem decodeStereoHeadG_ev (P : Dec → StereoPred × Dec) (M : Dec → Nat × Dec) (cfg : Cfg) (st : SilkSt) (dom : Nat)
    (c : Dec) (b : Nat) : EvsIx E b (decodeStereoHeadG P M cfg st dom c).2.2 := by
  unfold decodeStereoHeadG
  split
  · dsimp only
    split
    · exact .cons trivial (.cons trivial .nil)
    · exact .cons trivial .nil
  · exact .nil

theorem chanStep_rel (hM : MemStep cfg Q E) (reads : Bool) (n cc : Nat) (ch ch' : Chan) (c : Dec)
    (he : ChanEqv ch ch') (hp : reads = true → cc = 2 → Mem Q ch.nFramesDecoded ch ch') :
    Agree (EvsIx E (ch.nFramesDecoded + 1))
      (fun x y => ChanEqv x y ∧ (reads = true → Mem Q (ch.nFramesDecoded + 1) x y))
      (chanStep cfg reads n cc ch c) (chanStep cfg reads n cc ch' c) := by
  unfold chanStep
  by_cases hr : reads = true
  · rw [if_pos hr, if_pos hr, ← he.1]
    have h1 := decodeOne_rel hM n ch.nFramesDecoded cfg.lostFlag cc ch ch' c he (hp hr)
    generalize decodeOne cfg n ch.nFramesDecoded cfg.lostFlag cc ch c = y at h1
    generalize decodeOne cfg n ch.nFramesDecoded cfg.lostFlag cc ch' c = y' at h1
    exact ⟨h1.evs, h1.c, ⟨⟨congrArg (· + 1) h1.st.1.1, h1.st.1.2⟩, fun _ => h1.st.2⟩, h1.ev⟩
  · rw [if_neg hr, if_neg hr]
    exact ⟨rfl, rfl, ⟨⟨congrArg (· + 1) he.1, he.2⟩, fun q => absurd q hr⟩, .nil⟩

/-- What `Inv` says of channel `m`, with contents `x`, `y` in the two runs and `pd` the `prev_decode_only_middle` of the
    first: they agree on what steers reads, and on the memory (with `Q`) if the next frame of the channel — frame `j`
    if the channel is still to be done in this call, frame `j + 1` of the next call, which will see `dom`, if it is
    done — is coded conditionally. -/
structure InvCh (cfg : Cfg) (Q : Nat → Nat → Int → Prop) (j a dom pd m : Nat) (x y : Chan) : Prop where
  eqv : ChanEqv x y
  pos : x.nFramesDecoded = chanPos j a m
  bits : AllBits x.lbrrFlags
  todo : a ≤ m → ccOf cfg pd m (j + m) x.lbrrFlags = 2 → Mem Q j x y
  after : m < a → ccOf cfg dom m (j + 1 + m) x.lbrrFlags = 2 → Mem Q (j + 1) x y

/-- The invariant between two runs inside the `silk_Decode` call for frame `j` of the payload, channels `< a` being done
    (`dom` is the `decode_only_middle` of the call, stored as `prev_decode_only_middle` when the call returns).  Between
    calls `a = 0`, no channel is done and `dom` plays no part (`Inv.start`): it is written `0` there. -/
structure Inv (cfg : Cfg) (Q : Nat → Nat → Int → Prop) (j a dom : Nat) (st st' : SilkSt) : Prop where
  pd : 0 < j → st.prevDecodeOnlyMiddle = st'.prevDecodeOnlyMiddle
  chan : ∀ n, n < cfg.nCh → InvCh cfg Q j a dom st.prevDecodeOnlyMiddle n (st.ch n) (st'.ch n)

/-- Channel `n` of the per-channel loop (`hs`, `hs'` are `has_side` of the call in the two runs). -/
theorem decodeChan_rel (hM : MemStep cfg Q E) (hL : cfg.lostFlag = 0 ∨ cfg.lostFlag = 2) (hN : cfg.nCh ≤ 2)
    {j n dom : Nat} (hn : n < cfg.nCh) (hs hs' : Bool) (S S' : SilkSt) (c : Dec) (hi : Inv cfg Q j n dom S S')
    (hr : readsFrame cfg hs n (S.ch n) = readsOf cfg dom n (S.ch n))
    (hr' : readsFrame cfg hs' n (S'.ch n) = readsOf cfg dom n (S'.ch n)) :
    Agree (EvsIx E (j + 1)) (Inv cfg Q j (n + 1) dom) (decodeChan cfg hs n S c) (decodeChan cfg hs' n S' c) := by
  have others : ∀ m, m < cfg.nCh → m ≠ n → InvCh cfg Q j n dom S.prevDecodeOnlyMiddle m (S.ch m) (S'.ch m) →
      InvCh cfg Q j (n + 1) dom S.prevDecodeOnlyMiddle m (S.ch m) (S'.ch m) := fun m _ hmn p =>
    { p with pos := by rw [chanPos_ne j hmn]; exact p.pos, todo := fun q => p.todo (by omega),
             after := fun q => p.after (by omega) }
  obtain ⟨e, hfd, hb, htodo, _⟩ := hi.chan n hn
  rw [chanPos_self] at hfd
  have hfd0 : S.ch0.nFramesDecoded = j + n := by
    rw [show S.ch0.nFramesDecoded = _ from (hi.chan 0 (by omega)).pos]; unfold chanPos; split <;> omega
  have hfd0' : S'.ch0.nFramesDecoded = j + n := ((hi.chan 0 (by omega)).eqv.1.symm.trans hfd0 :)
  have hcc : condCodingOf cfg S' n (j + n) = condCodingOf cfg S n (j + n) :=
    condCodingOf_congr cfg S' S n _ e.2.2.symm (fun _ _ => (hi.pd (by omega)).symm)
  rw [decodeChan_eq, decodeChan_eq, hr, hr', ← readsOf_congr cfg dom n e, hfd0, hfd0', hcc]
  have h := chanStep_rel hM (readsOf cfg dom n (S.ch n)) n (condCodingOf cfg S n (j + n)) (S.ch n) (S'.ch n) c e
    (fun _ h2 => by rw [hfd]; exact htodo (Nat.le_refl n) ((condCodingOf_eq cfg S n _).symm.trans h2))
  have hv := chanStep_view cfg (readsOf cfg dom n (S.ch n)) n (condCodingOf cfg S n (j + n)) (S.ch n) c
  rw [hfd] at h hv
  generalize chanStep cfg (readsOf cfg dom n (S.ch n)) n (condCodingOf cfg S n (j + n)) (S.ch n) c = y at h hv ⊢
  generalize chanStep cfg (readsOf cfg dom n (S.ch n)) n (condCodingOf cfg S n (j + n)) (S'.ch n) c = y' at h ⊢
  obtain ⟨evs, x, c1⟩ := y
  obtain ⟨evs', x', c1'⟩ := y'
  obtain ⟨rfl, rfl, ⟨he, hmem⟩, hev⟩ := h
  refine ⟨rfl, rfl, ⟨fun q => by dsimp only; rw [setCh_pd, setCh_pd]; exact hi.pd q, ?_⟩, hev⟩
  dsimp only
  rw [setCh_pd]
  refine forall_setCh (P' := InvCh cfg Q j (n + 1) dom S.prevDecodeOnlyMiddle) hN hn hi.chan
    { eqv := he, pos := by rw [chanPos_done]; exact hv.1, bits := by rw [hv.2.2]; exact hb,
      todo := fun q => absurd q (Nat.not_succ_le_self n), after := fun _ h2 => hmem ?_ } others
  -- the next frame of this channel can be coded conditionally only if this one was read, and then it has just
  -- written the memory
  exact cc_two_reads cfg hL (S.ch n) dom n hb (by rw [hfd, ← hv.2.2]; exact h2)

theorem Inv.start {j d d' : Nat} {st st' : SilkSt} (h : Inv cfg Q j 0 d st st') : Inv cfg Q j 0 d' st st' :=
  ⟨h.pd, fun n hn => { h.chan n hn with after := fun q => absurd q (Nat.not_lt_zero n) }⟩

theorem Inv.next {j dom : Nat} {st st' : SilkSt} (h : Inv cfg Q j cfg.nCh dom st st') :
    Inv cfg Q (j + 1) 0 0 { st with prevDecodeOnlyMiddle := dom } { st' with prevDecodeOnlyMiddle := dom } :=
  ⟨fun _ => rfl, fun n hn =>
    have p := h.chan n hn
    { p with pos := by rw [chanPos_zero, ← chanPos_all hn]; exact p.pos, todo := fun _ => p.after hn,
             after := fun q => absurd q (Nat.not_lt_zero n) }⟩

theorem decodeChans_rel (hM : MemStep cfg Q E) (hN : cfg.nCh = 1 ∨ cfg.nCh = 2) (hL : cfg.lostFlag = 0 ∨ cfg.lostFlag = 2)
    (dom : Nat) {j : Nat} (st st' : SilkSt) (c : Dec) (hi : Inv cfg Q j 0 0 st st') :
    Agree (EvsIx E (j + 1))
      (fun s s' => Inv cfg Q (j + 1) 0 0 { s with prevDecodeOnlyMiddle := dom } { s' with prevDecodeOnlyMiddle := dom })
      (decodeChans cfg (hasSideOf cfg st dom) st c) (decodeChans cfg (hasSideOf cfg st' dom) st' c) := by
  have hN' : cfg.nCh ≤ 2 := by omega
  have hi0 : Inv cfg Q j 0 dom st st' := hi.start
  have h0 := decodeChan_rel hM hL hN' (show 0 < cfg.nCh by omega) _ _ st st' c hi0
    (readsFrame_hasSide cfg hL st dom 0 (by omega) hN') (readsFrame_hasSide cfg hL st' dom 0 (by omega) hN')
  by_cases h2 : cfg.nCh = 2
  · rw [decodeChans_two cfg _ st c h2, decodeChans_two cfg _ st' c h2, ← h0.c]
    have h1 := decodeChan_rel hM hL hN' (show 1 < cfg.nCh by omega) (hasSideOf cfg st dom) (hasSideOf cfg st' dom) _ _
      (decodeChan cfg (hasSideOf cfg st dom) 0 st c).2.2 h0.st
      -- `has_side` was computed at the start of the call; channel 0's step has left channel 1 as it was
      (by rw [decodeChan_eq]; exact readsFrame_hasSide cfg hL st dom 1 (by omega) hN')
      (by rw [decodeChan_eq]; exact readsFrame_hasSide cfg hL st' dom 1 (by omega) hN')
    exact ⟨by dsimp only; rw [h0.evs, h1.evs], h1.c, (show Inv cfg Q j cfg.nCh dom _ _ by rw [h2]; exact h1.st).next,
      h0.ev.append h1.ev⟩
  · rw [decodeChans_one cfg _ st c h2, decodeChans_one cfg _ st' c h2]
    exact ⟨h0.evs, h0.c, (show Inv cfg Q j cfg.nCh dom _ _ by rw [show cfg.nCh = 1 by omega]; exact h0.st).next, h0.ev⟩

theorem decodeBody_rel (hM : MemStep cfg Q E) (hN : cfg.nCh = 1 ∨ cfg.nCh = 2) (hL : cfg.lostFlag = 0 ∨ cfg.lostFlag = 2)
    {b j : Nat} (hj : j < b) (h h' : SkipSt) (hc : h.c = h'.c) (he : h.evs = h'.evs) (hd : h.dom = h'.dom)
    (hev : EvsIx E b h.evs) (hi : Inv cfg Q j 0 0 h.st h'.st) :
    Agree (EvsIx E b) (Inv cfg Q (j + 1) 0 0) (decodeBody cfg h) (decodeBody cfg h') := by
  unfold decodeBody decodeStereoHead
  rw [← hc, ← hd, ← he, ← decodeStereoHeadG_eq _ _ cfg h.st h'.st h.dom h.c (fun n hn => (hi.chan n hn).eqv)]
  have hy := decodeStereoHeadG_ev (E := E) stereoDecodePred stereoDecodeMidOnly cfg h.st h.dom h.c b
  generalize decodeStereoHeadG stereoDecodePred stereoDecodeMidOnly cfg h.st h.dom h.c = y at hy ⊢
  obtain ⟨dom, c1, e1⟩ := y
  dsimp only
  have hr := decodeChans_rel hM hN hL dom h.st h'.st c1 hi
  generalize decodeChans cfg (hasSideOf cfg h.st dom) h.st c1 = z at hr
  generalize decodeChans cfg (hasSideOf cfg h'.st dom) h'.st c1 = z' at hr
  exact ⟨by rw [hr.evs, hr.c], hr.c, hr.st, ((hev.append hy).append (hr.ev.mono (by omega))).append (.cons trivial .nil)⟩

/-- First call of a payload: from *arbitrary* states the two runs agree and end up related. -/
theorem silkDecodeCall_first (hM : MemStep cfg Q E) (hN : cfg.nCh = 1 ∨ cfg.nCh = 2)
    (hL : cfg.lostFlag = 0 ∨ cfg.lostFlag = 2) {b : Nat} (hb : cfg.nfpp ≤ b) (hb0 : 0 < b) (st st' : SilkSt) (c : Dec) :
    Agree (EvsIx E b) (Inv cfg Q 1 0 0) (silkDecodeCall cfg true st c) (silkDecodeCall cfg true st' c) := by
  unfold silkDecodeCall
  have h0 := beginCall_true cfg st
  have h0' := beginCall_true cfg st'
  rw [if_pos h0.1, if_pos h0'.1]
  have hz : ∀ (S : SilkSt), S.ch0.nFramesDecoded = 0 ∧ (cfg.nCh = 2 → S.ch1.nFramesDecoded = 0) →
      ∀ n, n < cfg.nCh → (S.ch n).nFramesDecoded = 0 := by
    intro S hS n hn
    have : n = 0 ∨ (n = 1 ∧ cfg.nCh = 2) := by omega
    rcases this with rfl | ⟨rfl, h2⟩
    · exact hS.1
    · exact hS.2 h2
  obtain ⟨i, hh⟩ := decodeHeader_rel hM hN hb (beginCall cfg true st) (beginCall cfg true st') c
    (fun n hn => (hz _ h0 n hn).trans (hz _ h0' n hn).symm)
  have hi : Inv cfg Q 0 0 0 (decodeHeader cfg (beginCall cfg true st) c).st (decodeHeader cfg (beginCall cfg true st') c).st :=
    ⟨fun q => absurd q (Nat.lt_irrefl 0), fun n hn =>
      { eqv := (hh.chan n hn).1, pos := (decodeHeader_view cfg hN _ c n hn).2.trans (hz _ h0 n hn),
        bits := (decodeHeader_view cfg hN _ c n hn).1, todo := fun _ q => absurd (cc_two_pos cfg _ n _ _ q) (by omega),
        after := fun q => absurd q (Nat.not_lt_zero n) }⟩
  exact decodeBody_rel hM hN hL hb0 _ _ hh.c hh.evs hh.dom hh.ev hi

theorem silkDecodeCall_later (hM : MemStep cfg Q E) (hN : cfg.nCh = 1 ∨ cfg.nCh = 2)
    (hL : cfg.lostFlag = 0 ∨ cfg.lostFlag = 2) {b j : Nat} (hj : j < b) (hp : 0 < j) (st st' : SilkSt) (c : Dec)
    (hi : Inv cfg Q j 0 0 st st') :
    Agree (EvsIx E b) (Inv cfg Q (j + 1) 0 0) (silkDecodeCall cfg false st c) (silkDecodeCall cfg false st' c) := by
  unfold silkDecodeCall
  have h0 : st.ch0.nFramesDecoded ≠ 0 := by have := (hi.chan 0 (by omega)).pos; rw [ch_zero, chanPos_zero] at this; omega
  have h0' : st'.ch0.nFramesDecoded ≠ 0 := by have := (hi.chan 0 (by omega)).eqv.1; rw [ch_zero, ch_zero] at this; omega
  rw [beginCall_false cfg st h0, beginCall_false cfg st' h0', if_neg h0, if_neg h0']
  exact decodeBody_rel hM hN hL hj { st := st, dom := 0, c := c, evs := [] } { st := st', dom := 0, c := c, evs := [] }
    rfl rfl rfl .nil hi

theorem silkCalls_later (hM : MemStep cfg Q E) (hN : cfg.nCh = 1 ∨ cfg.nCh = 2)
    (hL : cfg.lostFlag = 0 ∨ cfg.lostFlag = 2) {b : Nat} : ∀ (k j : Nat) (st st' : SilkSt) (c : Dec),
    0 < j → j + k ≤ b → Inv cfg Q j 0 0 st st' →
    Agree (EvsIx E b) (fun _ _ => True) (silkCalls cfg k false st c) (silkCalls cfg k false st' c)
  | 0, _, _, _, _, _, _, _ => ⟨rfl, rfl, trivial, .nil⟩
  | k + 1, j, st, st', c, hp, hk, hi => by
    have h1 := silkDecodeCall_later hM hN hL (show j < b by omega) hp st st' c hi
    have h2 := silkCalls_later (b := b) hM hN hL k (j + 1) _ _ (silkDecodeCall cfg false st c).2.2 (by omega) (by omega)
      h1.st
    rw [silkCalls_succ, silkCalls_succ, ← h1.evs, ← h1.c]
    exact ⟨by dsimp only; rw [h2.evs], h2.c, trivial, h1.ev.append h2.ev⟩

/-- All `silk_Decode` calls of one payload: events and final decoder context do not depend on the incoming state,
    and every frame decoded satisfies `E`. -/
theorem silkCalls_mem (hM : MemStep cfg Q E) (hN : cfg.nCh = 1 ∨ cfg.nCh = 2)
    (hL : cfg.lostFlag = 0 ∨ cfg.lostFlag = 2) {b : Nat} (hb : cfg.nfpp ≤ b) (k : Nat) (hk : k ≤ b) (st st' : SilkSt)
    (c : Dec) :
    Agree (EvsIx E b) (fun _ _ => True) (silkCalls cfg k true st c) (silkCalls cfg k true st' c) := by
  cases k with
  | zero => exact ⟨rfl, rfl, trivial, .nil⟩
  | succ k =>
    have h1 := silkDecodeCall_first hM hN hL hb (by omega) st st' c
    have h2 := silkCalls_later (b := b) hM hN hL k 1 _ _ (silkDecodeCall cfg true st c).2.2 (by omega) (by omega) h1.st
    rw [silkCalls_succ, silkCalls_succ, ← h1.evs, ← h1.c]
    exact ⟨by dsimp only; rw [h2.evs], h2.c, trivial, h1.ev.append h2.ev⟩

end walk

theorem memStep_true (cfg : Cfg) : MemStep cfg (fun _ _ _ => True) (fun _ _ => True) := by
  intro n fi lb cc ch c _
  refine ⟨?_, trivial⟩
  unfold decodeOne decodeOneCore
  exact .cons ⟨Nat.lt_succ_self fi, trivial⟩ (.cons trivial .nil)

/-- All `silk_Decode` calls of one payload: events and final decoder context do not depend on the incoming state. -/
theorem silkCalls_first (cfg : Cfg) (hN : cfg.nCh = 1 ∨ cfg.nCh = 2) (hL : cfg.lostFlag = 0 ∨ cfg.lostFlag = 2)
    (k : Nat) (st st' : SilkSt) (c : Dec) :
    (silkCalls cfg k true st c).1 = (silkCalls cfg k true st' c).1 ∧
    (silkCalls cfg k true st c).2.2 = (silkCalls cfg k true st' c).2.2 :=
  have h := silkCalls_mem (memStep_true cfg) hN hL (Nat.le_max_left cfg.nfpp k) k (Nat.le_max_right cfg.nfpp k) st st' c
  ⟨h.evs, h.c⟩

/-- Everything observable of a decoded frame: the record with the carried SILK state erased. -/
def _root_.Opus.SilkSyms.FrameOut.obs (o : FrameOut) : FrameOut := { o with st := {} }

theorem decodeOpusFrameCfg_hist (mode ir pm : Nat) (fec : Bool) (cfg : Cfg) (hN : cfg.nCh = 1 ∨ cfg.nCh = 2)
    (hL : cfg.lostFlag = 0 ∨ cfg.lostFlag = 2) (st st' : SilkSt) (fr : Bytes) :
    (decodeOpusFrameCfg mode ir pm fec cfg st fr).obs = (decodeOpusFrameCfg mode ir pm fec cfg st' fr).obs := by
  unfold decodeOpusFrameCfg
  have h := silkCalls_first cfg hN hL cfg.nfpp st st' (decInit fr fr.length)
  generalize silkCalls cfg cfg.nfpp true st (decInit fr fr.length) = y at h
  generalize silkCalls cfg cfg.nfpp true st' (decInit fr fr.length) = y' at h
  split
  rename_i _ evs st1 c1
  dsimp only at h ⊢
  rw [← h.1, ← h.2]
  generalize redundancyHeader mode fec fr.length c1 = z
  rfl

def obsFrame : Res FrameOut → Res FrameOut
  | .ok o => .ok o.obs
  | r => r

def _root_.Opus.SilkSyms.FrameRes.obs : FrameRes → FrameRes
  | .silk off o => .silk off o.obs
  | x => x

def obsList : Res (List FrameRes) → Res (List FrameRes)
  | .ok l => .ok (l.map FrameRes.obs)
  | r => r

def obsPacket : Res (Option (List FrameRes)) → Res (Option (List FrameRes))
  | .ok (some l) => .ok (some (l.map FrameRes.obs))
  | r => r

theorem decodeOpusFrame_hist (mode bw nCh ms10 : Nat) (hN : nCh = 1 ∨ nCh = 2) (fec : Bool) (st st' : SilkSt)
    (fr : Bytes) :
    obsFrame (decodeOpusFrame mode bw nCh ms10 fec st fr) = obsFrame (decodeOpusFrame mode bw nCh ms10 fec st' fr) := by
  unfold decodeOpusFrame
  split
  · split
    · split
      · unfold obsFrame
        dsimp only
        rw [decodeOpusFrameCfg_hist _ _ _ _ _ hN (by dsimp only; cases fec <;> simp) st st' fr]
      all_goals rfl
    all_goals rfl
  all_goals rfl

theorem obsList_cons {x y : FrameRes} (hxy : x.obs = y.obs) {a b : Res (List FrameRes)} (h : obsList a = obsList b) :
    obsList (match (generalizing := false) a with | .ok l => .ok (x :: l) | e => e) =
      obsList (match (generalizing := false) b with | .ok l => .ok (y :: l) | e => e) := by
  cases a <;> cases b <;> simp only [obsList, Res.ok.injEq, reduceCtorEq, List.map_cons] at h ⊢
  · rw [hxy, h]
  · exact h

theorem framesLoop_hist (toc : Nat) (pkt : Bytes) (fec : Bool) : ∀ (spans : List (Nat × Nat)) (st st' : SilkSt),
    obsList (framesLoop toc pkt fec spans st) = obsList (framesLoop toc pkt fec spans st')
  | [], st, st' => by unfold framesLoop; rfl
  | (off, sz) :: rest, st, st' => by
    unfold framesLoop
    split
    · exact obsList_cons rfl (framesLoop_hist toc pkt fec rest st st')
    · split
      · exact obsList_cons rfl (framesLoop_hist toc pkt fec rest st st')
      · have hf := decodeOpusFrame_hist (Framing.getMode toc) (Framing.getBandwidth toc) (Framing.getNbChannels toc)
          (Framing.samplesPerFrame toc 48000 * 10 / 48) (nbChannels_cases toc) fec st st' ((pkt.drop off).take sz)
        generalize decodeOpusFrame (Framing.getMode toc) (Framing.getBandwidth toc) (Framing.getNbChannels toc)
          (Framing.samplesPerFrame toc 48000 * 10 / 48) fec st ((pkt.drop off).take sz) = A at hf
        generalize decodeOpusFrame (Framing.getMode toc) (Framing.getBandwidth toc) (Framing.getNbChannels toc)
          (Framing.samplesPerFrame toc 48000 * 10 / 48) fec st' ((pkt.drop off).take sz) = B at hf
        cases A <;> cases B <;> simp only [obsFrame, Res.ok.injEq, reduceCtorEq] at hf <;> try rfl
        · rename_i o o'
          exact obsList_cons (x := .silk off o) (y := .silk off o') (congrArg (FrameRes.silk off) hf)
            (framesLoop_hist toc pkt fec rest o.st o'.st)
        · simp_all

theorem someRes_obs (a b : Res (List FrameRes)) (h : obsList a = obsList b) :
    obsPacket (someRes a) = obsPacket (someRes b) := by
  cases a <;> cases b <;> simp_all [obsList, obsPacket, someRes]

end Opus.SilkSymsProofs
