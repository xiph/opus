import OpusModel.SilkPlcGains
import OpusProofs.SilkParamsFix
/-
  OpusProofs.SilkPlcGains — the attenuation constants of SILK concealment (regenerated from
  silk/PLC.c) are all below 1.0 in Q15, hence the LTP taps and the random-excitation scale shrink
  with every concealed subframe.  Second part (as in the model file OpusModel/SilkPlcGains.lean, which holds both scalar
  recursions of C09): the CELT `loss_duration` counter saturates and is reset, and which lost CELT frame gets the
  pitch-based or the noise concealment.

  "Fits opus_int16" exists four times (`Opus.SilkParams.I16`, `Opus.SilkPlcGains.I16` below, `Opus.SilkPlc.I16`,
  `Opus.SilkPlc.J16`), because the C09 / C18 theorems are each stated with the one of their model's namespace; all four
  unfold to the same inequality and the lemmas of OpusProofs/SilkParamsFix.lean apply to each.  Likewise `toI16` is
  `wrap16`, and `mag` computes the same as `sabs`.
-/
namespace Opus.SilkPlcGains
open Opus Opus.Gen.PlcConsts

/-- Every regenerated attenuation constant is a Q15 factor in (0, 1). -/
theorem att_tables_lt_one :
    NB_ATT = 2 ∧ HARM_ATT_Q15.length = NB_ATT ∧ PLC_RAND_ATTENUATE_V_Q15.length = NB_ATT ∧
    PLC_RAND_ATTENUATE_UV_Q15.length = NB_ATT ∧
    (∀ g ∈ HARM_ATT_Q15, 0 < g ∧ g < 32768) ∧ (∀ g ∈ PLC_RAND_ATTENUATE_V_Q15, 0 < g ∧ g < 32768) ∧
    (∀ g ∈ PLC_RAND_ATTENUATE_UV_Q15, 0 < g ∧ g < 32768) := by decide

theorem attIdx_cases (lossCnt : Int) : attIdx lossCnt = 0 ∨ attIdx lossCnt = 1 := by
  unfold attIdx
  have : NB_ATT = 2 := rfl
  omega

theorem randGain0_range (lossCnt : Int) (voiced : Bool) : 0 < randGain0 lossCnt voiced ∧ randGain0 lossCnt voiced < 32768 := by
  unfold randGain0
  cases voiced <;> rcases attIdx_cases lossCnt with h2 | h2 <;> simp only [h2] <;> decide

/-- From the second lost frame on the table index is 1 and both random-gain tables are ≤ 29491 (0.9 in Q15) there. -/
theorem randGain0_le (lossCnt : Int) (hl : 1 ≤ lossCnt) (voiced : Bool) : randGain0 lossCnt voiced ≤ 29491 := by
  have h1 : attIdx lossCnt = 1 := by
    unfold attIdx
    have : NB_ATT = 2 := rfl
    omega
  unfold randGain0
  rw [h1]
  cases voiced <;> decide

/-- `harmGain` is an entry of `HARM_ATT_Q15`. -/
theorem harmGain_cases (lossCnt : Int) : harmGain lossCnt ∈ HARM_ATT_Q15 := by
  unfold harmGain
  rcases attIdx_cases lossCnt with h2 | h2 <;> rw [h2] <;> decide

/-- `toI16` is the model's second name for `wrap16`. -/
theorem toI16_id {x : Int} (h : -32768 ≤ x ∧ x ≤ 32767) : toI16 x = x := SilkParams.wrap16_id h

theorem harmGain_range (lossCnt : Int) : 0 < harmGain lossCnt ∧ harmGain lossCnt < 32768 :=
  att_tables_lt_one.2.2.2.2.1 _ (harmGain_cases lossCnt)

/-- Magnitude of an `opus_int16`. -/
def mag (x : Int) : Int := if x < 0 then -x else x

/-- `opus_int16` range. -/
def I16 (x : Int) : Prop := -32768 ≤ x ∧ x ≤ 32767

/-! ### one sub-frame: PLC.c:354 and PLC.c:357 are the same operation `(opus_int16)( silk_SMULBB( x, y ) >> 15 )` -/

theorem randStep_eq_harmStep (rs rg : Int) : randStep rs rg = harmStep rs rg := rfl

/-- The Q15 product of two `opus_int16` values is the exact `x * y >> 15` when that fits `opus_int16`. -/
theorem harmStep_eq {g b : Int} (hg : I16 g) (hb : I16 b) (h : I16 (g * b / 32768)) : harmStep g b = g * b / 32768 := by
  unfold harmStep smulbb rshift
  rw [toI16_id hg, toI16_id hb, show (2 : Int) ^ 15 = 32768 by decide, toI16_id h]

/-- `f` damps an `opus_int16`: the value stays an int16 and never grows in magnitude, a non-negative one stays
    non-negative and not above itself, a positive one strictly decreases. -/
def Damp (f : Int → Int) : Prop :=
  ∀ b, I16 b → I16 (f b) ∧ mag (f b) ≤ mag b ∧ (0 ≤ b → 0 ≤ f b ∧ f b ≤ b) ∧ (0 < b → f b < b)

/-- Multiplication by any Q15 gain in [0, 32767] damps: an LTP tap (PLC.c:354) as well as the random scale (PLC.c:357). -/
theorem harmStep_damp {g : Int} (hg : 0 ≤ g ∧ g ≤ 32767) : Damp (harmStep g) := by
  intro b hb
  unfold I16 at hb
  -- `g · b` lies between 0 and `32767 · b`
  have hp : min 0 (32767 * b) ≤ g * b ∧ g * b ≤ max 0 (32767 * b) := by
    rcases Int.le_total 0 b with h | h
    · have := Int.mul_nonneg hg.1 h; have := Int.mul_le_mul_of_nonneg_right hg.2 h; omega
    · have := Int.mul_nonpos_of_nonneg_of_nonpos hg.1 h; have := Int.mul_le_mul_of_nonpos_right hg.2 h; omega
  rw [harmStep_eq (by unfold I16; omega) hb (by unfold I16; omega)]
  unfold I16 mag
  omega

/-- Iterating a damping map damps; strictly, on positive values, as soon as it is applied once. -/
theorem Damp.iter {f : Int → Int} (hf : Damp f) : ∀ (n : Nat) (b : Int), I16 b →
    I16 (Nat.repeat f n b) ∧ mag (Nat.repeat f n b) ≤ mag b ∧ (0 ≤ b → 0 ≤ Nat.repeat f n b ∧ Nat.repeat f n b ≤ b) ∧
    (0 < n → 0 < b → Nat.repeat f n b < b)
  | 0, b, hb => ⟨hb, Int.le_refl _, fun h => ⟨h, Int.le_refl _⟩, fun h => absurd h (by omega)⟩
  | n + 1, b, hb => by
    obtain ⟨b1, b2, b3, _⟩ := Damp.iter hf n b hb
    obtain ⟨a1, a2, a3, a4⟩ := hf _ b1
    refine ⟨a1, Int.le_trans a2 b2, fun h0 => ?_, fun _ hpos => ?_⟩
    · have := b3 h0; have := a3 this.1; show 0 ≤ f (Nat.repeat f n b) ∧ f (Nat.repeat f n b) ≤ b; omega
    · have h := b3 (by omega)
      have := a3 h.1
      rcases Int.lt_or_eq_of_le h.1 with hp | hz
      · have := a4 hp; show f (Nat.repeat f n b) < b; omega
      · show f (Nat.repeat f n b) < b; omega

/-- One subframe of random-excitation attenuation (PLC.c:357) for any Q15 gain in [0, 32767]:
    `32768 · rs' ≤ rg · rs`. -/
theorem randStep_scaled (rs rg : Int) (hrs : 0 ≤ rs ∧ rs ≤ 32767) (hrg : 0 ≤ rg ∧ rg ≤ 32767) :
    0 ≤ randStep rs rg ∧ 32768 * randStep rs rg ≤ rs * rg := by
  have a : 0 ≤ rs * rg := Int.mul_nonneg hrs.1 hrg.1
  have b : rs * rg ≤ rs * 32767 := Int.mul_le_mul_of_nonneg_left hrg.2 hrs.1
  rw [randStep_eq_harmStep, harmStep_eq (by unfold I16; omega) (by unfold I16; omega) (by unfold I16; omega)]
  omega

/-- The random scale under the gain `rg` is a value damped by `harmStep rg`. -/
theorem randStep_damp {rg : Int} (hrg : 0 ≤ rg ∧ rg ≤ 32767) : Damp (fun r => randStep r rg) := by
  rw [show (fun r => randStep r rg) = harmStep rg from
    funext fun r => by unfold randStep harmStep smulbb; rw [Int.mul_comm]]
  exact harmStep_damp hrg

/-- Hence the scale stays non-negative, never grows, and strictly shrinks while positive. -/
theorem randStep_shrinks (rs rg : Int) (hrs : 0 ≤ rs ∧ rs ≤ 32767) (hrg : 0 ≤ rg ∧ rg ≤ 32767) :
    0 ≤ randStep rs rg ∧ randStep rs rg ≤ rs ∧ (0 < rs → randStep rs rg < rs) := by
  obtain ⟨-, -, h3, h4⟩ := randStep_damp hrg rs ⟨by omega, hrs.2⟩
  exact ⟨(h3 hrs.1).1, (h3 hrs.1).2, h4⟩

/-- The first-lost-frame unvoiced gain (PLC.c:299-310) is still a Q15 factor below 1. -/
theorem randGainUnvoiced_range (invGain_Q30 rg0 : Int) (hrg : 0 < rg0 ∧ rg0 < 32768) :
    0 ≤ randGainUnvoiced invGain_Q30 rg0 ∧ randGainUnvoiced invGain_Q30 rg0 ≤ rg0 := by
  unfold randGainUnvoiced smulwb rshift
  simp only [show LOG2_INV_LPC_GAIN_HIGH_THRES = 3 from rfl, show LOG2_INV_LPC_GAIN_LOW_THRES = 8 from rfl, Int.reducePow,
    Int.reduceDiv]
  rw [toI16_id (x := rg0) (by omega)]
  have hd : 4194304 ≤ max 4194304 (min 134217728 invGain_Q30) ∧ max 4194304 (min 134217728 invGain_Q30) ≤ 134217728 := by
    omega
  generalize max 4194304 (min 134217728 invGain_Q30) = d at hd
  -- `d · 8 ≤ 2^30`, and the two shifts together divide by 2^30
  have := SilkParams.mul_nonneg_le (⟨by omega, by omega⟩ : 0 ≤ d * 8 ∧ d * 8 ≤ 1073741824)
    (⟨by omega, Int.le_refl _⟩ : 0 ≤ rg0 ∧ rg0 ≤ rg0)
  omega

theorem foldl_toI16 : ∀ (B : List Int) (v : Int), I16 v → I16 (B.foldl (fun rs b => toI16 (rs - b)) v)
  | [], _, h => h
  | _ :: B, _, _ => foldl_toI16 B _ (SilkParams.wrap16_I16 _)

/-- The first-lost-frame voiced scale (PLC.c:293-298) is in [0, 32767] (and can exceed 2^14:
    OpusProps.C09SilkPlc.ltp_limit_counterexample). -/
theorem randScaleVoiced_range (B : List Int) {plt : Int} (hplt : 0 ≤ plt ∧ plt ≤ 16384) :
    0 ≤ randScaleVoiced B plt ∧ randScaleVoiced B plt ≤ 32767 := by
  unfold randScaleVoiced
  dsimp only
  have hv := foldl_toI16 B (2 ^ 14) ⟨by decide, by decide⟩
  generalize B.foldl _ _ = v at hv
  have hm : 3277 ≤ max 3277 v ∧ max 3277 v ≤ 32767 := ⟨Int.le_max_left _ _, Int.max_le.mpr ⟨by decide, hv.2⟩⟩
  generalize max 3277 v = m at hm
  have := SilkParams.mul_nonneg_le (⟨by omega, hm.2⟩ : 0 ≤ m ∧ m ≤ 32767) hplt
  unfold rshift smulbb
  rw [toI16_id (x := m) (by omega), toI16_id (x := plt) (by omega), toI16_id (by simp only [Int.reducePow]; omega)]
  simp only [Int.reducePow]; omega

/-- `rand_scale_Q14` / `rand_Gain_Q15` the loop starts from (PLC.c:272-311) are in [0, 32767]. -/
theorem gainSetup_range (lossCnt : Int) (voiced : Bool) (B : List Int) (rs plt ig : Int)
    (hrs : 0 ≤ rs ∧ rs ≤ 32767) (hplt : 0 ≤ plt ∧ plt ≤ 16384) :
    (0 ≤ (gainSetup lossCnt voiced B rs plt ig).1 ∧ (gainSetup lossCnt voiced B rs plt ig).1 ≤ 32767) ∧
    (0 ≤ (gainSetup lossCnt voiced B rs plt ig).2 ∧ (gainSetup lossCnt voiced B rs plt ig).2 ≤ 32767) := by
  have g0 := randGain0_range lossCnt voiced
  unfold gainSetup
  dsimp only
  split
  · cases voiced <;> simp only [Bool.false_eq_true, ↓reduceIte]
    · have := randGainUnvoiced_range ig _ g0
      exact ⟨by decide, by omega⟩
    · exact ⟨randScaleVoiced_range B hplt, by omega⟩
  · exact ⟨hrs, by omega⟩

/-! ### a whole concealed frame -/

/-- `Nat.repeat` applies `f` outermost; the sub-frame loop applies it first. -/
theorem repeat_comm {α : Type} (f : α → α) : ∀ (n : Nat) (a : α), Nat.repeat f n (f a) = f (Nat.repeat f n a)
  | 0, _ => rfl
  | n + 1, a => congrArg f (repeat_comm f n a)

/-- The loop PLC.c:352-357 attenuates the taps and the random scale independently of each other:
    `n` times `harmStep g` on every tap, `n` times `randStep · rg` on the scale. -/
theorem subfrLoop_eq (g rg : Int) : ∀ (n : Nat) (B : List Int) (rs : Int),
    subfrLoop g rg n (B, rs) = (B.map (Nat.repeat (harmStep g) n), Nat.repeat (fun r => randStep r rg) n rs)
  | 0, B, rs => by simp [subfrLoop, Nat.repeat]
  | n + 1, B, rs => by
    rw [subfrLoop, subfrLoop_eq g rg n, List.map_map, repeat_comm]
    exact congrArg (·, _) (List.map_congr_left fun b _ => repeat_comm _ n b)

theorem harmGain_damp (lossCnt : Int) : Damp (harmStep (harmGain lossCnt)) :=
  harmStep_damp (by have := harmGain_range lossCnt; omega)

/-- During a loss (`lossCnt ≠ 0`) the loop starts from the state's own `randScale_Q14` and the table gain. -/
theorem gainSetup_loss {lossCnt : Int} (h : lossCnt ≠ 0) (voiced : Bool) (B : List Int) (rs plt ig : Int) :
    gainSetup lossCnt voiced B rs plt ig = (rs, randGain0 lossCnt voiced) := if_neg h

/-- One concealed frame: `nbSubfr` times `harmStep` on every tap, `nbSubfr` times `randStep` on the scale set up. -/
theorem conceal_eq (lossCnt : Int) (voiced : Bool) (nbSubfr : Nat) (B : List Int) (rs plt ig : Int) :
    conceal lossCnt voiced nbSubfr B rs plt ig =
      (B.map (Nat.repeat (harmStep (harmGain lossCnt)) nbSubfr),
       Nat.repeat (fun r => randStep r (gainSetup lossCnt voiced B rs plt ig).2) nbSubfr
         (gainSetup lossCnt voiced B rs plt ig).1) := subfrLoop_eq ..

/-- The taps after one concealed frame, first of a burst (where PLC.c:289-311 re-initialises the random scale) or
    not: each has shrunk (weakly) in magnitude, every positive one strictly. -/
theorem conceal_taps (lossCnt : Int) (voiced : Bool) (nbSubfr : Nat) (hn : 0 < nbSubfr) (B : List Int) (rs plt ig : Int) :
    ∃ h : Int → Int, (∀ b, I16 b → I16 (h b) ∧ mag (h b) ≤ mag b ∧ (0 < b → h b < b)) ∧
      (conceal lossCnt voiced nbSubfr B rs plt ig).1 = B.map h :=
  ⟨_, fun b hb => have h := (harmGain_damp lossCnt).iter nbSubfr b hb; ⟨h.1, h.2.1, h.2.2.2 hn⟩, by rw [conceal_eq]⟩

/-- The gain scalars after one concealed SILK frame (PLC.c:271-280, 352-357), for a loss in
    progress (`lossCnt ≥ 1`: the state's own `randScale_Q14` is used): the taps as in `conceal_taps`; the random scale
    has not grown and has strictly shrunk if it was positive. -/
theorem conceal_shrinks (lossCnt : Int) (hl : 1 ≤ lossCnt) (voiced : Bool) (nbSubfr : Nat) (hn : 0 < nbSubfr)
    (B : List Int) (rs plt ig : Int) (hrs : 0 ≤ rs ∧ rs ≤ 32767) :
    (∃ h : Int → Int, (∀ b, I16 b → I16 (h b) ∧ mag (h b) ≤ mag b ∧ (0 < b → h b < b)) ∧
      (conceal lossCnt voiced nbSubfr B rs plt ig).1 = B.map h) ∧
    0 ≤ (conceal lossCnt voiced nbSubfr B rs plt ig).2 ∧ (conceal lossCnt voiced nbSubfr B rs plt ig).2 ≤ rs ∧
    (0 < rs → (conceal lossCnt voiced nbSubfr B rs plt ig).2 < rs) := by
  refine ⟨conceal_taps lossCnt voiced nbSubfr hn B rs plt ig, ?_⟩
  rw [conceal_eq, gainSetup_loss (by omega)]
  have g := randGain0_range lossCnt voiced
  obtain ⟨-, -, r, r3⟩ := (randStep_damp (rg := randGain0 lossCnt voiced) ⟨by omega, by omega⟩).iter nbSubfr rs
    ⟨by omega, hrs.2⟩
  exact ⟨(r hrs.1).1, (r hrs.1).2, r3 hn⟩

/-- … and has lost the factor `rand_Gain_Q15 ≤ c` at least once: `32768 · rs' ≤ c · rs`. -/
theorem conceal_decay {lossCnt : Int} (hl : lossCnt ≠ 0) (voiced : Bool) {nbSubfr : Nat} (hn : 0 < nbSubfr)
    (B : List Int) (rs plt ig : Int) (hrs : 0 ≤ rs ∧ rs ≤ 32767) {c : Int} (hc : randGain0 lossCnt voiced ≤ c) :
    0 ≤ (conceal lossCnt voiced nbSubfr B rs plt ig).2 ∧ 32768 * (conceal lossCnt voiced nbSubfr B rs plt ig).2 ≤ rs * c := by
  obtain ⟨n, rfl⟩ : ∃ n, nbSubfr = n + 1 := ⟨nbSubfr - 1, by omega⟩
  rw [conceal_eq, gainSetup_loss hl]
  have g := randGain0_range lossCnt voiced
  have hrg : 0 ≤ randGain0 lossCnt voiced ∧ randGain0 lossCnt voiced ≤ 32767 := by omega
  obtain ⟨r0, r1⟩ := ((randStep_damp hrg).iter n rs ⟨by omega, hrs.2⟩).2.2.1 hrs.1
  -- the last sub-frame scales by `rand_Gain_Q15` what the others have not increased
  obtain ⟨s0, s1⟩ := randStep_scaled _ _ ⟨r0, by omega⟩ hrg
  have := Int.mul_le_mul_of_nonneg_right r1 hrg.1
  have := Int.mul_le_mul_of_nonneg_left hc hrs.1
  exact ⟨s0, Int.le_trans s1 (by omega)⟩

/-! ### CELT loss_duration -/

theorem celtLoss_tables : celtLossInc = [1, 2, 4, 8] ∧ celtLossCap = [10000, 10000, 10000, 10000] ∧
    celtLossAfterGood = [0, 0, 0, 0] := by decide

theorem celtLossStep_spec (ld : Int) (lm : Nat) (hlm : lm < 4) (h : 0 ≤ ld ∧ ld ≤ 10000) :
    ld ≤ celtLossStep ld lm ∧ celtLossStep ld lm ≤ 10000 ∧ (ld < 10000 → ld < celtLossStep ld lm) ∧
    celtLossStep ld lm = min 10000 (ld + 2 ^ lm) := by
  unfold celtLossStep
  have hc : lm = 0 ∨ lm = 1 ∨ lm = 2 ∨ lm = 3 := by omega
  rcases hc with rfl | rfl | rfl | rfl <;> simp [celtLossCap, celtLossInc] <;> omega

theorem celtLossRun_bounded : ∀ (frames : List (Option Nat)) (ld : Int), 0 ≤ ld ∧ ld ≤ 10000 →
    (∀ f ∈ frames, ∀ lm, f = some lm → lm < 4) → 0 ≤ celtLossRun ld frames ∧ celtLossRun ld frames ≤ 10000 := by
  intro frames
  induction frames with
  | nil => intro ld h _; exact h
  | cons f rest ih =>
    intro ld h hf
    cases f with
    | none =>
      rw [celtLossRun]
      exact ih _ (by decide) (fun f' hf' => hf f' (by simp [hf']))
    | some lm =>
      rw [celtLossRun]
      have hlm := hf (some lm) (by simp) lm rfl
      obtain ⟨h1, h2, _⟩ := celtLossStep_spec ld lm hlm h
      exact ih _ ⟨by omega, h2⟩ (fun f' hf' => hf f' (by simp [hf']))

theorem celtLossRun_append (a b : List (Option Nat)) : ∀ ld, celtLossRun ld (a ++ b) = celtLossRun (celtLossRun ld a) b := by
  induction a with
  | nil => intro ld; rfl
  | cons f rest ih =>
    intro ld
    cases f with
    | none => simp only [List.cons_append, celtLossRun]; exact ih _
    | some lm => simp only [List.cons_append, celtLossRun]; exact ih _

/-! ### which concealment a lost CELT frame gets -/

/-- The regenerated constants of the concealment-kind machine. -/
theorem celt_kind_consts : celtNoiseFrom = 40 ∧ celtSkipAfterReset = true ∧ celtSkipAfterTwoGood = false ∧
    celtSkipAfterNoise = true := by decide

theorem celtLostKind_pitch_iff (s : CeltPlc) (start : Int) :
    celtLostKind s start = .pitch ↔ s.ld < 40 ∧ start = 0 ∧ s.skip = false := by
  unfold celtLostKind
  rw [show celtNoiseFrom = 40 from rfl]
  have : ¬(s.ld ≥ 40 ∨ start ≠ 0 ∨ s.skip = true) ↔ s.ld < 40 ∧ start = 0 ∧ s.skip = false := by
    simp only [not_or, Int.not_le, ne_eq, Decidable.not_not, Bool.not_eq_true, ge_iff_le]
  split
  · rename_i h
    exact ⟨nofun, fun hp => absurd h (this.mpr hp)⟩
  · rename_i h
    exact ⟨fun _ => this.mp h, fun _ => rfl⟩

theorem celtLostKind_noise_iff (s : CeltPlc) (start : Int) :
    celtLostKind s start = .noise ↔ 40 ≤ s.ld ∨ start ≠ 0 ∨ s.skip = true := by
  unfold celtLostKind
  rw [show celtNoiseFrom = 40 from rfl]
  split
  · rename_i h
    exact ⟨fun _ => h, fun _ => rfl⟩
  · rename_i h
    exact ⟨nofun, fun h' => absurd h' h⟩

/-- Noise concealment is sticky: it sets `skip_plc`, a set `skip_plc` forces noise concealment and
    survives further lost frames and a single decoded frame that follows a loss. -/
theorem celt_skip_sticky (s : CeltPlc) (start : Int) (lm : Nat) :
    (celtLostKind s start = .noise → (celtLost s start lm).skip = true) ∧
    (s.skip = true → celtLostKind s start = .noise) ∧
    (s.skip = true → s.ld ≠ 0 → (celtGood s lm).skip = true) := by
  refine ⟨?_, ?_, ?_⟩
  · intro h; unfold celtLost; rw [if_pos h]; rfl
  · intro h; exact (celtLostKind_noise_iff s start).mpr (Or.inr (Or.inr h))
  · intro h h0; unfold celtGood; simp only [if_neg h0]; exact h

/-- Two consecutive decoded frames re-enable the pitch-based concealment (and one does not, after a
    noise-concealed loss: see `celt_skip_sticky`). -/
theorem celt_two_good (s : CeltPlc) (a b : Nat) (ha : a < 4) :
    (celtGood (celtGood s a) b).skip = false ∧ (celtGood (celtGood s a) b).ld = celtLossGood b := by
  have h0 : (celtGood s a).ld = 0 := by
    unfold celtGood celtLossGood
    have hc : a = 0 ∨ a = 1 ∨ a = 2 ∨ a = 3 := by omega
    rcases hc with rfl | rfl | rfl | rfl <;> rfl
  refine ⟨?_, rfl⟩
  show (if (celtGood s a).ld = 0 then false else (celtGood s a).skip) = false
  rw [if_pos h0]

/-- What the frames of one loss burst get, as a function of the loss duration at the start of each. -/
def burstKinds : Int → List Nat → List PlcKind
  | _, [] => []
  | ld, lm :: rest => (if ld < 40 then .pitch else .noise) :: burstKinds (celtLossStep ld lm) rest

/-- In CELT-only mode (start band 0), while a set `skip_plc` comes with `loss_duration ≥ 40`, the loss duration alone
    decides the kind of concealment … -/
theorem celtLostKind_zero {s : CeltPlc} (hs : s.skip = true → 40 ≤ s.ld) :
    celtLostKind s 0 = if s.ld < 40 then .pitch else .noise := by
  split
  next h40 => exact (celtLostKind_pitch_iff s 0).mpr ⟨h40, rfl, Bool.eq_false_iff.mpr fun hsk => by have := hs hsk; omega⟩
  next h40 => exact (celtLostKind_noise_iff s 0).mpr (Or.inl (by omega))

/-- … and a lost frame keeps it so: `skip_plc` is set by a noise concealment only, the counter does not fall. -/
theorem celtLost_skip {s : CeltPlc} (hs : s.skip = true → 40 ≤ s.ld) {lm : Nat} (hle : s.ld ≤ celtLossStep s.ld lm)
    (h : (celtLost s 0 lm).skip = true) : 40 ≤ (celtLost s 0 lm).ld := by
  refine Int.le_trans ?_ hle
  unfold celtLost at h
  rw [celtLostKind_zero hs] at h
  by_cases h40 : s.ld < 40
  · rw [if_pos h40, if_neg nofun] at h; exact hs h
  · omega

/-- A loss burst in CELT-only mode (start band 0): as long as `skip_plc` is clear the frame whose
    `loss_duration` on entry is below 40 (i.e. fewer than 100 ms concealed so far) is concealed by the
    pitch-based PLC and every later one by the noise PLC. -/
theorem celt_burst_kinds : ∀ (lms : List Nat) (s : CeltPlc), (∀ lm ∈ lms, lm < 4) → 0 ≤ s.ld ∧ s.ld ≤ 10000 →
    (s.skip = true → 40 ≤ s.ld) →
    (celtPlcRun s (lms.map (fun lm => CeltEv.lost lm 0))).2 = burstKinds s.ld lms
  | [], _, _, _, _ => rfl
  | lm :: rest, s, hl, hr, hs => by
    obtain ⟨h1, h2, -, -⟩ := celtLossStep_spec s.ld lm (hl lm (by simp)) hr
    simp only [List.map_cons, celtPlcRun, burstKinds]
    rw [celtLostKind_zero hs, celt_burst_kinds rest (celtLost s 0 lm) (fun x hx => hl x (by simp [hx]))
      ⟨Int.le_trans hr.1 h1, h2⟩ (celtLost_skip hs h1)]
    rfl

/-- In hybrid mode (start band 17) every lost frame is concealed by the noise PLC. -/
theorem celt_hybrid_noise (s : CeltPlc) (start : Int) (h : start ≠ 0) : celtLostKind s start = .noise :=
  (celtLostKind_noise_iff s start).mpr (Or.inr (Or.inl h))

end Opus.SilkPlcGains
