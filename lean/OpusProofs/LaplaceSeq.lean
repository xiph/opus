import OpusModel.Laplace
/-
  OpusProofs.LaplaceSeq — the frequency sequence behind celt/laplace.c and the two "search the decaying part of
  the PDF" loops in closed form.

  `F j` is the frequency (without the LAPLACE_MINP floor) of magnitude `j+1`, `L j` the lower end of the pair of
  intervals (negative first, then positive) of magnitude `j+1`:
      F 0 = ec_laplace_get_freq1(fs, decay)      F (j+1) = (2·F j · decay) >> 15
      L 0 = fs                                    L (j+1) = L j + 2·F j + 2·LAPLACE_MINP
  `T` is the first index with `F T = 0`: magnitudes `> T` form the tail of probability LAPLACE_MINP each.
-/
namespace OpusProofs.Laplace
open Opus Opus.Laplace
open Opus.Gen.CeltTables (laplaceLogMinP laplaceMinP laplaceNMin)

theorem minP_eq : laplaceMinP = 1 := by decide
theorem logMinP_eq : laplaceLogMinP = 0 := by decide

def F (fs decay : Nat) : Nat → Nat
  | 0 => getFreq1 fs decay
  | j + 1 => F fs decay j * 2 * decay / 32768

def L (fs decay : Nat) : Nat → Nat
  | 0 => fs
  | j + 1 => L fs decay j + F fs decay j * 2 + 2

theorem L_mono (fs decay : Nat) {j k : Nat} (h : j ≤ k) : L fs decay j ≤ L fs decay k := by
  induction h with
  | refl => exact Nat.le_refl _
  | step _ ih => simp only [L]; omega

theorem L_succ_le (fs decay : Nat) {j k : Nat} (h : j < k) : L fs decay j + F fs decay j * 2 + 2 ≤ L fs decay k :=
  L_mono fs decay (show j + 1 ≤ k from h)

/-- The parameters behave: `fs > 0`, the decaying part ends at index `T`, and the tail starts at `L T ≤ 32766`, so
    that at least one negative and one positive tail symbol fit below 32768. -/
structure Par (fs decay T : Nat) : Prop where
  fs_pos : 0 < fs
  zero : F fs decay T = 0
  pos : ∀ i, i < T → 0 < F fs decay i
  room : L fs decay T ≤ 32766

/-- Computes `(T, L T)`; `fuel` bounds the number of decaying magnitudes examined. -/
def tailStart (decay : Nat) : Nat → Nat → Nat → Nat → Option (Nat × Nat)
  | 0, _, _, _ => none
  | fuel + 1, j, l, f => if f = 0 then some (j, l) else tailStart decay fuel (j + 1) (l + f * 2 + 2) (f * 2 * decay / 32768)

/-- Decidable form of `∃ T, Par fs decay T`.  The fuel 32768 suffices whenever there is such a `T` (`L` grows by at least 2
    per magnitude and must stay ≤ 32766): `ok_of_par` in OpusProofs/LaplaceDomain.lean. -/
def LaplaceOk (fs decay : Nat) : Bool :=
  decide (0 < fs) &&
  match tailStart decay 32768 0 fs (getFreq1 fs decay) with
  | some (_, l) => decide (l ≤ 32766)
  | none => false

theorem tailStart_spec (fs decay : Nat) : ∀ fuel j T l,
    tailStart decay fuel j (L fs decay j) (F fs decay j) = some (T, l) →
    j ≤ T ∧ l = L fs decay T ∧ F fs decay T = 0 ∧ ∀ i, j ≤ i → i < T → 0 < F fs decay i := by
  intro fuel
  induction fuel with
  | zero => intro j T l h; simp [tailStart] at h
  | succ fuel ih =>
    intro j T l h
    simp only [tailStart] at h
    by_cases hf : F fs decay j = 0
    · rw [if_pos hf] at h
      injection h with h; injection h with h1 h2
      subst h1; subst h2
      exact ⟨Nat.le_refl _, rfl, hf, fun i h1 h2 => by omega⟩
    · rw [if_neg hf] at h
      obtain ⟨h1, h2, h3, h4⟩ := ih (j + 1) T l h
      refine ⟨by omega, h2, h3, fun i hi1 hi2 => ?_⟩
      by_cases e : i = j
      · subst e; omega
      · exact h4 i (by omega) hi2

theorem par_of_ok {fs decay : Nat} (h : LaplaceOk fs decay = true) : ∃ T, Par fs decay T := by
  simp only [LaplaceOk, Bool.and_eq_true, decide_eq_true_eq] at h
  obtain ⟨h0, h1⟩ := h
  split at h1
  · rename_i T l heq
    obtain ⟨_, h2, h3, h4⟩ := tailStart_spec fs decay 32768 0 T l heq
    simp only [decide_eq_true_eq] at h1
    exact ⟨T, h0, h3, fun i hi => h4 i (Nat.zero_le _) hi, by omega⟩
  · cases h1

/-! ## The two loops -/

/-- Encoder loop started at magnitude `j+1` with `n` iterations allowed: it stops at `min (j+n) T`. -/
theorem encLoop_eq {fs decay T : Nat} (hp : Par fs decay T) : ∀ n j, j ≤ T →
    encLoop decay n (L fs decay j) (F fs decay j) (j + 1) =
      (L fs decay (min (j + n) T), F fs decay (min (j + n) T), min (j + n) T + 1) := by
  intro n
  induction n with
  | zero => intro j hj; simp only [encLoop, Nat.add_zero, Nat.min_eq_left hj]
  | succ n ih =>
    intro j hj
    simp only [encLoop, minP_eq]
    by_cases e : j = T
    · subst e
      rw [if_neg (by rw [hp.zero]; omega)]
      rw [Nat.min_eq_right (by omega)]
    · have hpos := hp.pos j (by omega)
      rw [if_pos hpos]
      have := ih (j + 1) (by omega)
      simp only [L, F] at this
      have e2 : j + 1 + n = j + (n + 1) := by omega
      rw [e2] at this
      exact this

/-- Decoder loop: from magnitude `j+1` it walks to the magnitude `J+1` whose pair of intervals contains `fm`
    (`J = T`: the tail). -/
theorem decLoop_eq {fs decay T : Nat} (hp : Par fs decay T) (fm : Nat) : ∀ d j J, J = j + d → J ≤ T →
    L fs decay J ≤ fm → (J < T → fm < L fs decay (J + 1)) →
    decLoop decay fm (L fs decay j) (F fs decay j + 1) (j + 1) = (L fs decay J, F fs decay J + 1, J + 1) := by
  intro d
  induction d with
  | zero =>
    intro j J hJ hT hlo hhi
    simp only [Nat.add_zero] at hJ; subst hJ
    rw [decLoop]
    simp only [minP_eq]
    by_cases e : J = T
    · subst e; rw [if_neg (by rw [hp.zero]; omega)]
    · have := hhi (by omega)
      simp only [L] at this
      rw [if_neg (by omega)]
  | succ d ih =>
    intro j J hJ hT hlo hhi
    rw [decLoop]
    simp only [minP_eq]
    have hpos := hp.pos j (by omega)
    have hle := L_succ_le fs decay (show j < J by omega)
    rw [if_pos (by omega)]
    have e1 : (F fs decay j + 1) * 2 - 2 * 1 = F fs decay j * 2 := by omega
    have e2 : L fs decay j + (F fs decay j + 1) * 2 = L fs decay (j + 1) := by simp only [L]; omega
    rw [e1, e2]
    exact ih (j + 1) J (by omega) hT hlo hhi

/-- Every `fm ≥ fs` lies in the pair of intervals of some magnitude `J + 1 ≤ T`, or in the tail (`J = T`). -/
theorem exists_J {fs decay T : Nat} (fm : Nat) : ∀ d j, T = j + d → L fs decay j ≤ fm →
    ∃ J, j ≤ J ∧ J ≤ T ∧ L fs decay J ≤ fm ∧ (J < T → fm < L fs decay (J + 1)) := by
  intro d
  induction d with
  | zero => intro j hT h; exact ⟨j, Nat.le_refl _, by omega, h, fun hh => by omega⟩
  | succ d ih =>
    intro j hT h
    by_cases hlt : fm < L fs decay (j + 1)
    · exact ⟨j, Nat.le_refl _, by omega, h, fun _ => hlt⟩
    · obtain ⟨J, h1, h2, h3, h4⟩ := ih (j + 1) (by omega) (by omega)
      exact ⟨J, by omega, h2, h3, h4⟩

end OpusProofs.Laplace
