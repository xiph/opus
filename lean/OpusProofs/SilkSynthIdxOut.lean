import OpusModel.SilkSynthIdxOut
import OpusProofs.SilkSynthIdxCore
/-
  OpusProofs.SilkSynthIdxOut — the output stage of silk_Decode is index-safe for every legal
  configuration.  The only table is the resampler delay matrix (15 rate pairs, `inputDelay_le`); the rest is
  interval arithmetic over the frame length `F`, the internal rate `fs` and `N = F·K/fs` output samples at `K` kHz
  (`outAccesses_allIn`).  `nSamplesOut_all` evaluates `N` for the 30 legal (rate, frame size, API rate) triples.
-/
namespace Opus.SilkSynthIdx
open Opus Opus.Gen

/-- The `rateID` transcription agrees with the values the C macro yields for the five legal rates, and
    every decoder input delay is at most 1 ms of input (the `celt_assert` of resampler.c:186). -/
theorem rateId_ok : [8000, 12000, 16000, 24000, 48000].map rateId = SilkSynth.rateIds ∧
    SilkSynth.delayMatrixDec.length = 15 ∧
    (∀ fs ∈ [8, 12, 16], ∀ api ∈ [8000, 12000, 16000, 24000, 48000], 0 ≤ inputDelay fs api ∧ inputDelay fs api ≤ fs) := by
  decide +kernel

theorem inputDelay_le : ∀ fs ∈ [8, 12, 16], ∀ api ∈ [8000, 12000, 16000, 24000, 48000],
    0 ≤ inputDelay fs api ∧ inputDelay fs api ≤ fs := rateId_ok.2.2

/-- The number of output samples is `frame_length · API_rate / (fs_kHz · 1000) = nb_subfr · 5 · API_kHz`. -/
theorem nSamplesOut_all : ∀ fs ∈ [8, 12, 16], ∀ nb ∈ [2, 4], ∀ api ∈ [8000, 12000, 16000, 24000, 48000],
    (cfgOf fs nb).frameLen * api / (fs * 1000) = (nb : Int) * 5 * (api / 1000) := by
  decide +kernel

/-- The first kernel call of silk_resampler writes 1 ms (`K` samples), the second the other `F - fs` inputs' worth:
    together exactly the `F·K/fs` samples of `samplesOut2_tmp`. -/
theorem resampler_fill (F fs K : Int) (h : fs ≠ 0) : K + (F - fs) * K / fs = F * K / fs := by
  have e : (F - fs) * K = F * K + -K * fs := by
    rw [Int.sub_mul, Int.neg_mul, Int.mul_comm fs K]; omega
  rw [e, Int.add_mul_ediv_right _ _ h]; omega

theorem resamplerAccesses_ok {c : Cfg} {tmp dly : Arr} {fsIn fsOut delay inLen : Int}
    (h0 : 0 ≤ delay) (h1 : delay ≤ fsIn) (hlen : fsIn ≤ inLen) (hfo : 0 ≤ fsOut)
    (htmp : inLen + 1 ≤ tmp.size c) (hdly : fsIn ≤ dly.size c)
    (hout : fsOut ≤ Arr.size c .out2 ∧ fsOut + (inLen - fsIn) * fsOut / fsIn ≤ Arr.size c .out2) :
    (resamplerAccesses tmp dly fsIn fsOut delay inLen).2 = false ∧
    AllIn c (resamplerAccesses tmp dly fsIn fsOut delay inLen).1 := by
  have hcond : ¬ (inLen < fsIn ∨ delay > fsIn) := by omega
  unfold resamplerAccesses
  rw [if_neg hcond]
  refine ⟨rfl, ?_⟩
  generalize (inLen - fsIn) * fsOut / fsIn = q at hout
  simp only [accs]
  omega

/-- silk_stereo_MS_to_LR stays inside the two rows of `frame_length + 2` samples as soon as the interpolation
    length `8·fs_kHz` does not exceed the frame. -/
theorem msToLrAccesses_ok {c : Cfg} (hfs : 0 ≤ c.fsKHz) (hF : 8 * c.fsKHz ≤ c.frameLen) (h2 : c.nChInt = 2) :
    AllIn c (msToLrAccesses c) := by
  have : SizeIs c .tmp1 (c.frameLen + 2) := ⟨if_pos h2⟩
  have n8 : SilkSynth.stereoInterpLenMs * c.fsKHz = 8 * c.fsKHz := rfl
  unfold msToLrAccesses
  rw [n8]
  simp only [accs]
  omega

/-- The output stage at any internal rate `fs ≤ 48` kHz whose frame covers the interpolation length, any API rate
    `K` kHz, any input delay of at most 1 ms and any internal channel count (only `nChInt = 2` has a second row).
    `N = F·K/fs` is both `nSamplesOut` and the size of `samplesOut2_tmp`. -/
theorem outAccesses_allIn (x : OutIn) (K : Int) (hfs : 0 < x.fsKHz ∧ x.fsKHz ≤ 48)
    (hF : 8 * x.fsKHz ≤ x.cfg.frameLen) (hapi : x.apiHz = K * 1000) (hK : 0 ≤ K)
    (hd : 0 ≤ inputDelay x.fsKHz x.apiHz ∧ inputDelay x.fsKHz x.apiHz ≤ x.fsKHz)
    (hca : x.nChAPI = 1 ∨ x.nChAPI = 2) :
    (outAccesses x).aborted = false ∧ AllIn x.cfg (outAccesses x).all := by
  have hk : x.apiHz / 1000 = K := by rw [hapi]; exact Int.mul_ediv_cancel K (by decide)
  subst hk
  unfold outAccesses
  extract_lets c F N fsOut delay stereo pp dec0 dec1 zero1 buf ms r0 il0 r11 r10
  -- the facts about the pieces, in the function's own names; then the names are all that is left of them
  have hF : 8 * x.fsKHz ≤ F := hF
  have hd : 0 ≤ delay ∧ delay ≤ x.fsKHz := hd
  have hN : N = F * fsOut / x.fsKHz := by
    show F * x.apiHz / (x.fsKHz * 1000) = _
    rw [hapi, ← Int.mul_assoc]; exact Int.mul_ediv_mul_of_pos_left _ _ (by decide)
  have hfill : fsOut + (F - x.fsKHz) * fsOut / x.fsKHz = N := hN ▸ resampler_fill F x.fsKHz fsOut (by omega)
  have hq : 0 ≤ (F - x.fsKHz) * fsOut / x.fsKHz := Int.ediv_nonneg (Int.mul_nonneg (by omega) hK) (by omega)
  have o2 : Arr.size c .out2 = N := hN.symm
  have so : Arr.size c .samplesOut = x.nChAPI * N := hN ▸ rfl
  have : SizeIs c .tmp0 (F + 2) := ⟨rfl⟩
  have t1 : x.nChInt = 2 → Arr.size c .tmp1 = F + 2 := fun h => if_pos h
  have hms : x.nChInt = 2 → AllIn c (msToLrAccesses c) := msToLrAccesses_ok (Int.le_of_lt hfs.1) hF
  have hst : stereo = true ↔ x.nChAPI = 2 ∧ x.nChInt = 2 := decide_eq_true_iff
  have hr : ∀ tmp dly : Arr, F + 2 ≤ tmp.size c → dly.size c = 48 →
      (resamplerAccesses tmp dly x.fsKHz fsOut delay F).2 = false ∧
      AllIn c (resamplerAccesses tmp dly x.fsKHz fsOut delay F).1 :=
    fun tmp dly ht hdl => resamplerAccesses_ok hd.1 hd.2 (by omega) hK (by omega) (by omega) (by omega)
  have h0 : r0.2 = false ∧ AllIn c r0.1 := hr .tmp0 .delayBuf0 (Int.le_refl _) rfl
  have h10 : r10.2 = false ∧ AllIn c r10.1 := hr .tmp0 .delayBuf1 (Int.le_refl _) rfl
  have h11 : x.nChInt = 2 → r11.2 = false ∧ AllIn c r11.1 := fun h => hr .tmp1 .delayBuf1 (Int.le_of_eq (t1 h).symm) rfl
  clear_value F N fsOut delay stereo r0 r10 r11
  have so1 : x.nChAPI = 1 → Arr.size c .samplesOut = N := fun h => by rw [so, h]; omega
  have so2 : x.nChAPI = 2 → Arr.size c .samplesOut = 2 * N := fun h => by rw [so, h]
  have hm : AllIn c ms := by
    simp only [ms, hst, accs]
    exact fun h => hms h.2
  have hp : AllIn c pp ∧ AllIn c zero1 ∧ AllIn c buf ∧ AllIn c il0 ∧ AllIn c dec0 ∧ AllIn c dec1 := by
    simp only [pp, zero1, buf, il0, dec0, dec1, hst, accs, o2]
    -- only the size facts are needed from here on
    clear hr h0 h10 h11 hm hms hfill hq hN hd hapi so hst
    omega
  obtain ⟨hpp, hz, hb, hil, hd0, hd1⟩ := hp
  -- every exit that does not abort: the common pieces, a tail of the top-level accesses, a second resampler call
  have key : ∀ tail res1 : List Acc, AllIn c tail → AllIn c res1 →
      (OutAcc.mk (pp ++ zero1 ++ buf ++ il0 ++ tail) (dec0 ++ dec1) ms r0.1 res1 false).aborted = false ∧
      AllIn c (OutAcc.mk (pp ++ zero1 ++ buf ++ il0 ++ tail) (dec0 ++ dec1) ms r0.1 res1 false).all :=
    fun tail res1 ht hr1 => ⟨rfl, by
      show AllIn c (_ ++ _ ++ _ ++ _ ++ _)
      simp only [accs, hpp, hz, hb, hil, hd0, hd1, hm, h0.2, ht, hr1]⟩
  have nil : AllIn c [] := allIn_nil.2 trivial
  have htl : x.nChAPI = 2 → AllIn c (rd .out2 0 N ++ wrt .samplesOut 1 (2 * N)) := fun h => by
    have := so2 h
    simp only [accs, o2]
    omega
  refine ite_ind (Q := fun r : OutAcc => r.aborted = false ∧ AllIn c r.all)
    (fun h => absurd (h0.1 ▸ h) Bool.false_ne_true) fun _ => ?_
  refine ite_ind (Q := fun r : OutAcc => r.aborted = false ∧ AllIn c r.all) (fun h => ?_) fun _ => ?_
  · obtain ⟨e, ha⟩ := h11 (hst.1 h).2
    rw [e, if_neg Bool.false_ne_true]
    exact key _ _ (htl (hst.1 h).1) ha
  · refine ite_ind (Q := fun r : OutAcc => r.aborted = false ∧ AllIn c r.all) (fun h2 => ?_) fun _ => ?_
    · refine ite_ind (Q := fun r : OutAcc => r.aborted = false ∧ AllIn c r.all) (fun _ => ?_) fun _ => ?_
      · rw [h10.1, if_neg Bool.false_ne_true]
        exact key _ _ (htl h2.1) h10.2
      · have := so2 h2.1
        rw [List.append_assoc]
        exact key _ _ (by simp only [accs]; omega) nil
    · have := key [] [] nil nil
      rwa [List.append_nil] at this

theorem outAccesses_ok (fs : Int) (nb : Nat) (nci nca api : Int) (hs stm lost sst : Bool)
    (hfs : fs = 8 ∨ fs = 12 ∨ fs = 16) (hnb : nb = 2 ∨ nb = 4) (hci : nci = 1 ∨ nci = 2) (hca : nca = 1 ∨ nca = 2)
    (hapi : api = 8000 ∨ api = 12000 ∨ api = 16000 ∨ api = 24000 ∨ api = 48000) :
    (outAccesses ⟨fs, nb, nci, nca, api, hs, stm, lost, sst⟩).aborted = false ∧
    AllIn (OutIn.cfg ⟨fs, nb, nci, nca, api, hs, stm, lost, sst⟩) (outAccesses ⟨fs, nb, nci, nca, api, hs, stm, lost, sst⟩).all := by
  have hd := inputDelay_le fs (by rcases hfs with h | h | h <;> simp [h])
    api (by rcases hapi with h | h | h | h | h <;> simp [h])
  refine outAccesses_allIn _ (api / 1000) (by show 0 < fs ∧ fs ≤ 48; omega) ?_ (by show api = api / 1000 * 1000; omega)
    (by omega) hd hca
  show 8 * fs ≤ (nb : Int) * (5 * fs)
  rcases hnb with rfl | rfl <;> omega

end Opus.SilkSynthIdx
