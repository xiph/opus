import OpusModel.KernelsPvq
import Mathlib.Tactic.Ring
import Mathlib.Tactic.Linarith
import Mathlib.Algebra.Order.Floor.Ring
import Mathlib.Data.Rat.Floor
/-
  OpusProofs.KernelsPvq — whatever the floating-point arg-max and pre-search return (within their contracts), the PVQ
  search hands back exactly K pulses, signed like the input, and `yy = Σ iy²`.
-/
namespace Opus.Kernels.Pvq

theorem bump_length (l : List Nat) (i d : Nat) : (bump l i d).length = l.length := by
  induction l generalizing i with
  | nil => rfl
  | cons v l ih => cases i <;> simp [bump, ih]

theorem bump_sum (l : List Nat) (i d : Nat) (h : i < l.length) : sum (bump l i d) = sum l + d := by
  induction l generalizing i with
  | nil => simp at h
  | cons v l ih =>
    cases i with
    | zero => simp only [bump, sum]; omega
    | succ i =>
      simp only [bump, sum]
      rw [ih i (by simpa using h)]; omega

theorem bump_sumSq (l : List Nat) (i d : Nat) (h : i < l.length) :
    sumSq (bump l i d) = sumSq l + d * d + d * (2 * l.getD i 0) := by
  induction l generalizing i with
  | nil => simp at h
  | cons v l ih =>
    cases i with
    | zero => simp only [bump, sumSq, List.getD_cons_zero]; ring
    | succ i =>
      simp only [bump, sumSq, List.getD_cons_succ]
      rw [ih i (by simpa using h)]; ring

/-- the loop invariant: right length, `yy` is the energy, pulses placed + pulses left = K. -/
def Inv (n K : Nat) (s : St) : Prop := s.iy.length = n ∧ s.yy = sumSq s.iy ∧ sum s.iy + s.left = K

theorem dumpStep_inv (n K : Nat) (s : St) (hn : 0 < n) (h : Inv n K s) : Inv n K (dumpStep n s) := by
  obtain ⟨h1, h2, h3⟩ := h
  unfold dumpStep
  split
  · refine ⟨by simp [bump_length, h1], ?_, ?_⟩
    · simp only []; rw [bump_sumSq _ _ _ (by omega), h2]
    · simp only []; rw [bump_sum _ _ _ (by omega)]; omega
  · exact ⟨h1, h2, h3⟩

theorem greedyStep_inv (n K best : Nat) (s : St) (hb : best < n) (hl : 0 < s.left) (h : Inv n K s) :
    Inv n K (greedyStep best s) ∧ (greedyStep best s).left = s.left - 1 := by
  obtain ⟨h1, h2, h3⟩ := h
  unfold greedyStep
  refine ⟨⟨by simp [bump_length, h1], ?_, ?_⟩, rfl⟩
  · simp only []; rw [bump_sumSq _ _ _ (by omega), h2]; ring
  · simp only []; rw [bump_sum _ _ _ (by omega)]; omega

theorem greedy_inv (n K : Nat) (pick : St → Nat) (hp : ∀ s, pick s < n) (c : Nat) (s : St)
    (hc : s.left = c) (h : Inv n K s) : Inv n K (greedy pick c s) ∧ (greedy pick c s).left = 0 := by
  induction c generalizing s with
  | zero => exact ⟨h, hc⟩
  | succ c ih =>
    have hs := greedyStep_inv n K (pick s) s (hp s) (by omega) h
    exact ih _ (by rw [hs.2]; omega) hs.1

theorem signRestoreC_eq (v : Nat) (neg : Bool) : signRestoreC v neg = if neg then -(v : Int) else v := by
  unfold signRestoreC xorMask; cases neg <;> simp <;> omega

theorem signRestoreSse_eq (v : Nat) (neg : Bool) : signRestoreSse v neg = if neg then -(v : Int) else v := by
  unfold signRestoreSse xorMask; cases neg <;> simp <;> omega

theorem zipSign_facts (f : Nat → Bool → Int) (hf : ∀ v b, f v b = if b then -(v : Int) else v)
    (l : List Nat) (bs : List Bool) (hlen : l.length = bs.length) :
    (zipSign f l bs).length = l.length ∧ sumAbs (zipSign f l bs) = sum l ∧
    sumSqI (zipSign f l bs) = (sumSq l : Int) ∧
    (∀ j, j < l.length → (bs.getD j false = true → (zipSign f l bs).getD j 0 ≤ 0) ∧
                          (bs.getD j false = false → 0 ≤ (zipSign f l bs).getD j 0)) := by
  induction l generalizing bs with
  | nil => cases bs <;> simp [zipSign, sumAbs, sum, sumSqI, sumSq]
  | cons v l ih =>
    cases bs with
    | nil => simp at hlen
    | cons b bs =>
      obtain ⟨i1, i2, i3, i4⟩ := ih bs (by simpa using hlen)
      simp only [zipSign, sumAbs, sum, sumSqI, sumSq, List.length_cons]
      refine ⟨by omega, ?_, ?_, ?_⟩
      · rw [i2, hf]; cases b <;> simp
      · rw [i3, hf]; cases b <;> simp <;> push_cast <;> ring
      · intro j hj
        cases j with
        | zero => simp only [List.getD_cons_zero, hf]; cases b <;> simp
        | succ j => simp only [List.getD_cons_succ]; exact i4 j (by omega)

/-- the relational property, for either sign-restoration idiom. -/
theorem search_spec (restore : Nat → Bool → Int) (hr : ∀ v b, restore v b = if b then -(v : Int) else v)
    (n K : Nat) (proj : List Nat) (pick : St → Nat) (signs : List Bool)
    (hn : 0 < n) (hproj : proj.length = n) (hsum : sum proj ≤ K) (hpick : ∀ s, pick s < n) (hs : signs.length = n) :
    let r := search restore n K proj pick signs
    r.1.length = n ∧ sumAbs r.1 = K ∧ (r.2 : Int) = sumSqI r.1 ∧
    (∀ j, j < n → (signs.getD j false = true → r.1.getD j 0 ≤ 0) ∧ (signs.getD j false = false → 0 ≤ r.1.getD j 0)) := by
  intro r
  have h0 : Inv n K { iy := proj, yy := sumSq proj, left := K - sum proj } := ⟨hproj, rfl, by simp only []; omega⟩
  have h1 := dumpStep_inv n K _ hn h0
  have h2 := greedy_inv n K pick hpick _ _ rfl h1
  obtain ⟨⟨g1, g2, g3⟩, g4⟩ := h2
  have z := zipSign_facts restore hr _ signs (by rw [g1, hs])
  obtain ⟨z1, z2, z3, z4⟩ := z
  refine ⟨by show (zipSign restore _ signs).length = n; rw [z1, g1], ?_, ?_, ?_⟩
  · show sumAbs (zipSign restore _ signs) = K; rw [z2]; omega
  · show ((greedy pick _ _).yy : Int) = sumSqI (zipSign restore _ signs); rw [z3, g2]
  · intro j hj; exact z4 j (by rw [g1]; exact hj)

/-! ### the pre-search contract, in exact arithmetic

  vq.c:197-235 / vq_sse2.c:91-136: `sum = Σ|X[j]|`, `rcp = (K+0.8)·(1/sum)`, `iy[j] = floor(rcp·|X[j]|)` (SSE2: truncating
  conversion of a non-negative product).  Over any ordered field with a floor (ℚ, ℝ): if the scale factor `r` that was
  actually used satisfies `r·Σ|x| < K+1`, the counts are non-negative and sum to at most K — the contract `hsum` of
  `search_spec`.  With exact division `r = (K+4/5)/Σ|x|` that is `K + 4/5 < K + 1`; a relative error ε of the computed
  reciprocal/sum is tolerated while `ε·(5K+4) < 1`.  That the binary32 evaluation (rounded sum, `_mm_rcp_ps` with its
  1.5·2⁻¹² relative error, rounded products) stays inside this margin is NOT proved. -/

section presearch
variable {α : Type} [Field α] [LinearOrder α] [IsStrictOrderedRing α] [FloorRing α]

def fsum : List α → α
  | [] => 0
  | v :: l => v + fsum l

/-- the counts the pre-search stores: `floor(r·x)` of a non-negative number, as a natural number. -/
def counts (r : α) (xs : List α) : List Nat := xs.map (fun x => ⌊r * x⌋.toNat)

theorem counts_sum_le (r : α) (xs : List α) (hx : ∀ x ∈ xs, 0 ≤ x) (hr : 0 ≤ r) :
    ((sum (counts r xs) : Nat) : α) ≤ r * fsum xs := by
  induction xs with
  | nil => simp [counts, sum, fsum]
  | cons x xs ih =>
    have hx0 : 0 ≤ r * x := mul_nonneg hr (hx x (by simp))
    have h1 : ((⌊r * x⌋.toNat : Nat) : α) ≤ r * x := by
      rw [Int.floor_toNat]; exact Nat.floor_le hx0
    have h2 := ih (fun y hy => hx y (by simp [hy]))
    simp only [counts, List.map_cons, sum, fsum, Nat.cast_add] at h2 ⊢
    have : r * (x + fsum xs) = r * x + r * fsum xs := by ring
    rw [this]; exact add_le_add h1 h2

theorem presearch_contract (K : Nat) (r : α) (xs : List α) (hx : ∀ x ∈ xs, 0 ≤ x) (hr : 0 ≤ r)
    (h : r * fsum xs < (K : α) + 1) : (counts r xs).length = xs.length ∧ sum (counts r xs) ≤ K := by
  refine ⟨by simp [counts], ?_⟩
  have h1 := counts_sum_le r xs hx hr
  have h2 : ((sum (counts r xs) : Nat) : α) < ((K + 1 : Nat) : α) := by push_cast; exact lt_of_le_of_lt h1 h
  have h3 : sum (counts r xs) < K + 1 := by exact_mod_cast h2
  omega

/-- exact reciprocal, and a reciprocal/sum with relative error up to ε where ε·(5K+4) < 1. -/
theorem presearch_margin (K : Nat) (S ε r : α) (hS : 0 < S) (hε : 0 ≤ ε) (hm : ε * (5 * (K : α) + 4) < 1)
    (hr : r ≤ ((K : α) + 4 / 5) / S * (1 + ε)) : r * S < (K : α) + 1 := by
  have h1 : r * S ≤ ((K : α) + 4 / 5) / S * (1 + ε) * S := mul_le_mul_of_nonneg_right hr (le_of_lt hS)
  have h2 : ((K : α) + 4 / 5) / S * (1 + ε) * S = (K : α) + 4 / 5 + ε * (5 * (K : α) + 4) / 5 := by
    field_simp
  linarith

end presearch

end Opus.Kernels.Pvq
