import OpusProofs.SilkSynthIdxFrame
/-
  OpusProofs.SilkSynthIdxHist — one whole silk_decode_frame call from the routines of SilkSynthIdxFrame; preservation of
  the state invariant; every history of decoded / lost frames, rate switches and resets.
-/
namespace Opus.SilkSynthIdx
open Opus Opus.Gen Opus.SilkParams

/-- What the bit-stream layer and the parameter decoder guarantee about one frame of the INDEX model: the decoded parameters that
    enter index expressions.  (`Opus.SilkCoreProofs.FrameOk`, of the value model, speaks of the indices before
    silk_decode_parameters.) -/
structure FrameOk (s : DecSt) (f : FrameIn) : Prop where
  sig : 0 ≤ f.signalType ∧ f.signalType ≤ 2
  qoff : 0 ≤ f.quantOffsetType ∧ f.quantOffsetType ≤ 1
  /-- a decoded voiced frame carries legal lags (C18 `pitch_in_range`) -/
  lags : f.lost = false → f.signalType = 2 → ∀ k, k < s.nbSubfr →
    2 * s.fsKHz ≤ f.pitchL.getD k 0 ∧ f.pitchL.getD k 0 ≤ 18 * s.fsKHz

def FrameAcc.all (a : FrameAcc) : List Acc := a.core ++ a.plc ++ a.top ++ a.cng ++ a.glue

/-- silk_PLC after its reset check (PLC.c:84-87): the PLC state belongs to the current rate, so that silk_PLC_conceal may be
    entered (`ConcealOk`); rate and frame size are untouched. -/
theorem plcReset_ok (s : DecSt) (hcfg : Configured s) (hinv : Inv s) :
    AllIn s.cfg (plcResetIfNeeded s).1 ∧ ConcealOk (plcResetIfNeeded s).2 ∧ (plcResetIfNeeded s).2.fsKHz = s.fsKHz ∧
    (plcResetIfNeeded s).2.nbSubfr = s.nbSubfr ∧ (plcResetIfNeeded s).2.plcFs = s.fsKHz := by
  unfold plcResetIfNeeded
  split
  · have hc := hcfg.num
    obtain ⟨h8, -, -, -, -, hF⟩ := hc.lin
    have hfs : s.cfg.fsKHz = s.fsKHz := rfl
    dsimp only
    exact ⟨allIn_wrt.2 (by omega), ⟨hcfg, hinv.loss, by dsimp only; omega, Or.inl rfl, by dsimp only; omega⟩, rfl, rfl, rfl⟩
  · rename_i heq
    have heq' : s.plcFs = s.fsKHz := (Decidable.not_not.1 heq).symm
    exact ⟨allIn_nil.2 trivial, ⟨hcfg, hinv.loss, heq' ▸ hinv.pitch, hinv.plcNb, hinv.plcSubfr⟩, rfl, rfl, heq'⟩

/-- The inputs of silk_decode_core for a decoded frame on an invariant state satisfy `CoreOk`. -/
theorem coreOk_of (s : DecSt) (f : FrameIn) (hcfg : Configured s) (hinv : Inv s) (hf : FrameOk s f) (hlost : f.lost = false) :
    CoreOk (coreInOf s f) :=
  { fs := hcfg.1, nb := hcfg.2, sig := hf.sig, qoff := hf.qoff, lags := hf.lags hlost,
    lagPrev := fun h1 h2 _ => hinv.lagPrev h2 h1 }

theorem pitchAfterCore_voiced (x : CoreIn) (h : x.signalType = 2) (k : Nat) (hk : k < 4) :
    (pitchAfterCore x).getD k 0 = x.pitchL.getD k 0 := by
  have ht : ∀ j, transition x j = false := fun j => Bool.eq_false_iff.2 fun hj => (transition_iff.1 hj).2.2.1 h
  unfold pitchAfterCore
  rw [List.getD_eq_getElem?_getD, List.getElem?_map, List.getElem?_range hk]
  simp [ht]

theorem cfg_eq_of (s t : DecSt) (h1 : t.fsKHz = s.fsKHz) (h2 : t.nbSubfr = s.nbSubfr) : t.cfg = s.cfg := by
  unfold DecSt.cfg; rw [h1, h2]

/-- One call of silk_decode_frame on a configured decoder whose state satisfies the invariant: no
    assertion fires, every access of every phase is in bounds, and the invariant holds again. -/
theorem frameStep_ok (s : DecSt) (f : FrameIn) (hcfg : Configured s) (hinv : Inv s) (hf : FrameOk s f) :
    (frameStep s f).1.aborted = false ∧ AllIn s.cfg (frameStep s f).1.all ∧
    Inv (frameStep s f).2 ∧ (frameStep s f).2.fsKHz = s.fsKHz ∧ (frameStep s f).2.nbSubfr = s.nbSubfr := by
  have hc := hcfg.num
  obtain ⟨hr1, hco, hrfs, hrnb, hrplc⟩ := plcReset_ok s hcfg hinv
  have hrcfg : (plcResetIfNeeded s).2.cfg = s.cfg := cfg_eq_of _ _ hrfs hrnb
  have hshift := shiftAccesses_ok s.cfg hc
  obtain ⟨h8, h16, hS, -, -, hF⟩ := hc.lin
  -- silk_CNG sees a state with the rate and frame size of `s`
  have hg : ∀ s1 : DecSt, s1.fsKHz = s.fsKHz → s1.nbSubfr = s.nbSubfr → AllIn s.cfg (cngAccesses s1 f.gains).1 :=
    fun s1 h1 h2 => cfg_eq_of s s1 h1 h2 ▸ cngAccesses_ok s1 (by unfold Configured; rw [h1, h2]; exact hcfg) f.gains
  -- a lag that is legal at the current rate is legal for the PLC state, which silk_PLC has brought to that rate
  have hpit : ∀ p, 2 * (plcResetIfNeeded s).2.fsKHz * 256 ≤ p ∧ p ≤ 18 * (plcResetIfNeeded s).2.fsKHz * 256 →
      2 * (plcResetIfNeeded s).2.plcFs * 256 ≤ p ∧ p ≤ 18 * (plcResetIfNeeded s).2.plcFs * 256 :=
    fun p h => (hrplc.trans hrfs.symm) ▸ h
  unfold frameStep
  simp only
  cases hlost : f.lost
  · -- a decoded frame
    simp only [Bool.false_eq_true, not_false_eq_true, if_true]
    have hcore : (coreAccesses (coreInOf s f)).2 = false ∧ AllIn s.cfg (coreAccesses (coreInOf s f)).1 :=
      coreAccesses_ok _ (coreOk_of s f hcfg hinv hf hlost)
    rw [if_neg (by rw [hcore.1]; simp)]
    have hu := updateAccesses_ok (plcResetIfNeeded s).2 hco.cfg f.signalType (pitchAfterCore (coreInOf s f)) f.ltpCoef hco.pitch
      (by intro hs k hk
          rw [hrfs]; rw [hrnb] at hk
          rw [pitchAfterCore_voiced (coreInOf s f) hs k (by rcases hcfg.2 with h | h <;> omega)]
          exact hf.lags hlost hs k hk)
    rw [hrcfg] at hu
    generalize hudef : updateAccesses (plcResetIfNeeded s).2 f.signalType (pitchAfterCore (coreInOf s f)) f.ltpCoef = u at hu
    have hg := hg (stAfterUpdate (plcResetIfNeeded s).2 s.cfg u.2 f.signalType) hrfs hrnb
    refine ⟨rfl, ?_, ?_, hrfs, hrnb⟩
    · simp only [FrameAcc.all, accs, hcore.2, hr1, hu.1, hshift, hg]
      omega
    · have hN : (s.cfg.nbSubfr : Int) = 2 ∨ (s.cfg.nbSubfr : Int) = 4 := by omega
      have hS80 : 0 ≤ s.cfg.subfr ∧ s.cfg.subfr ≤ 80 := by omega
      exact { loss := Int.le_refl 0, lagPrev := fun _ h => absurd rfl h, pitch := hpit _ hu.2, plcNb := hN, plcSubfr := hS80 }
  · -- a concealed frame
    simp only [not_true_eq_false, if_false]
    have hcc := concealAccesses_ok (plcResetIfNeeded s).2 hco f.lowFirst
    rw [hrcfg] at hcc
    generalize hccdef : concealAccesses (plcResetIfNeeded s).2 f.lowFirst = cc at hcc
    obtain ⟨hab, hall, hp0, hp1, hlg⟩ := hcc
    rw [if_neg (by rw [hab]; simp)]
    have hg := hg (stAfterConceal (plcResetIfNeeded s).2 cc.2.2.1 cc.2.2.2.1 (s.lossCnt + 1)) hrfs hrnb
    refine ⟨rfl, ?_, ?_, hrfs, hrnb⟩
    · simp only [FrameAcc.all, accs, hr1, hall, hshift, hg]
      omega
    · exact { loss := Int.add_nonneg hinv.loss (by decide), lagPrev := fun _ _ => hlg, pitch := hpit _ ⟨hp0, hp1⟩,
              plcNb := hco.plcNb, plcSubfr := hco.plcSubfr }

/-- One event of a decoder history. -/
def step (s : DecSt) : Ev → DecSt
  | .reset => resetSt
  | .setFs fs nb => setFs s fs nb
  | .sideReset => sideReset s
  | .frame f => (frameStep s f).2

/-- What the callers (dec_API.c) guarantee for each event: rate and frame size are legal, and frames are
    decoded only on a configured decoder, with parameters satisfying `FrameOk`. -/
def EvOk (s : DecSt) : Ev → Prop
  | .reset => True
  | .setFs fs nb => (fs = 8 ∨ fs = 12 ∨ fs = 16) ∧ (nb = 2 ∨ nb = 4)
  | .sideReset => True
  | .frame f => Configured s ∧ FrameOk s f

def HistOk : DecSt → List Ev → Prop
  | _, [] => True
  | s, e :: es => EvOk s e ∧ HistOk (step s e) es

/-- Every frame of the history runs without a fired assertion and with all accesses in bounds. -/
def HistSafe : DecSt → List Ev → Prop
  | _, [] => True
  | s, e :: es =>
    (match e with
     | .frame f => (frameStep s f).1.aborted = false ∧ AllIn s.cfg (frameStep s f).1.all
     | _ => True) ∧ HistSafe (step s e) es

theorem inv_reset : Inv resetSt :=
  { loss := by decide, lagPrev := fun h => absurd h (by decide), pitch := by decide, plcNb := Or.inl rfl,
    plcSubfr := by decide }

theorem inv_setFs (s : DecSt) (h : Inv s) (fs : Int) (nb : Nat) : Inv (setFs s fs nb) := by
  unfold setFs
  split
  · exact { loss := h.loss, lagPrev := fun hp => absurd (show SilkSynth.typeNoVoiceActivity = (2 : Int) from hp) (by decide),
            pitch := h.pitch, plcNb := h.plcNb, plcSubfr := h.plcSubfr }
  · exact { loss := h.loss, lagPrev := h.lagPrev, pitch := h.pitch, plcNb := h.plcNb, plcSubfr := h.plcSubfr }

theorem inv_sideReset (s : DecSt) (h : Inv s) : Inv (sideReset s) :=
  { loss := h.loss, lagPrev := fun hp => absurd (show SilkSynth.typeNoVoiceActivity = (2 : Int) from hp) (by decide),
    pitch := h.pitch, plcNb := h.plcNb, plcSubfr := h.plcSubfr }

theorem hist_safe : ∀ (evs : List Ev) (s : DecSt), Inv s → HistOk s evs → HistSafe s evs := by
  intro evs
  induction evs with
  | nil => intro _ _ _; trivial
  | cons e es ih =>
    intro s hinv hok
    obtain ⟨he, hrest⟩ := hok
    cases e with
    | reset => exact ⟨trivial, ih _ inv_reset hrest⟩
    | setFs fs nb => exact ⟨trivial, ih _ (inv_setFs s hinv fs nb) hrest⟩
    | sideReset => exact ⟨trivial, ih _ (inv_sideReset s hinv) hrest⟩
    | frame f =>
      have hfr := frameStep_ok s f he.1 hinv he.2
      exact ⟨⟨hfr.1, hfr.2.1⟩, ih _ hfr.2.2.1 hrest⟩

/-! Decidability of the hypotheses, for the concrete examples of OpusProps/C18.lean. -/
instance (s : DecSt) (f : FrameIn) : Decidable (FrameOk s f) :=
  decidable_of_iff
    ((0 ≤ f.signalType ∧ f.signalType ≤ 2) ∧ (0 ≤ f.quantOffsetType ∧ f.quantOffsetType ≤ 1) ∧
      (f.lost = false → f.signalType = 2 → ∀ k, k < s.nbSubfr →
        2 * s.fsKHz ≤ f.pitchL.getD k 0 ∧ f.pitchL.getD k 0 ≤ 18 * s.fsKHz))
    ⟨fun h => ⟨h.1, h.2.1, h.2.2⟩, fun h => ⟨h.sig, h.qoff, h.lags⟩⟩

instance (s : DecSt) : Decidable (Configured s) := by unfold Configured; infer_instance

instance (s : DecSt) (e : Ev) : Decidable (EvOk s e) := by
  cases e <;> unfold EvOk <;> infer_instance

instance histOkDec : (s : DecSt) → (evs : List Ev) → Decidable (HistOk s evs)
  | _, [] => isTrue trivial
  | s, e :: es =>
    match (inferInstance : Decidable (EvOk s e)), histOkDec (step s e) es with
    | isTrue h1, isTrue h2 => isTrue ⟨h1, h2⟩
    | isFalse h1, _ => isFalse fun h => h1 h.1
    | _, isFalse h2 => isFalse fun h => h2 h.2

/-- The frames of a history with the state each is decoded in. -/
def histFrames : DecSt → List Ev → List (DecSt × FrameIn)
  | _, [] => []
  | s, .frame f :: es => (s, f) :: histFrames (step s (.frame f)) es
  | s, e :: es => histFrames (step s e) es

theorem histSafe_frames : ∀ (evs : List Ev) (s : DecSt), HistSafe s evs →
    ∀ p ∈ histFrames s evs, (frameStep p.1 p.2).1.aborted = false ∧ AllIn p.1.cfg (frameStep p.1 p.2).1.all := by
  intro evs
  induction evs with
  | nil => intro s _ p hp; cases hp
  | cons e es ih =>
    intro s h p hp
    cases e with
    | frame f =>
      simp only [histFrames, List.mem_cons] at hp
      rcases hp with rfl | hp
      · exact h.1
      · exact ih _ h.2 p hp
    | reset => exact ih _ h.2 p hp
    | setFs fs nb => exact ih _ h.2 p hp
    | sideReset => exact ih _ h.2 p hp

end Opus.SilkSynthIdx
