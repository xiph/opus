import OpusProofs.OpusFrameHybridCelt
/-
  C08, frame level: for every kind of Opus frame whose decisions are representable and whose coder ends
  without error, the decoder's final range equals the one the encoder reports.

  `OpusFrameCase` collects, per frame kind, the encoder model and the hypotheses under which the lock step is proved;
  `OpusProps.C08.opus_frame_lockstep` is the one statement over all of them.  What is NOT a case: hybrid frames WITH a
  redundancy frame (see `hybrid_frame_lockstep`: the SILK part, the parse and the redundancy frame are
  proved; the CELT main part stays the hypothesis `CeltFrameRT`), silent CELT frames, DTX / one-byte frames.
-/
namespace Opus.OpusFrameProofs
open Opus Opus.RangeCoder Opus.SilkSyms Opus.SilkSymsEnc Opus.SilkSymsEncProofs Opus.OpusFrameEnc OpusProofs.CeltHdr

/-- An encoded frame of mode `mode` (1000 SILK-only, 1001 hybrid, 1002 CELT-only) together with the facts about its
    production that the lock-step proof uses. -/
inductive OpusFrameCase (bandwidth nCh ms10 spf48 : Nat) : Nat → FrameEnc → Prop
  /-- SILK-only, no redundancy: SILK decisions in the encoder's domain, `ec_enc_done` without error, within budget -/
  | silk (buf : List Nat) (maxData : Nat) (pk : PacketIn)
      (hbw : bandwidth = 1101 ∨ bandwidth = 1102 ∨ bandwidth = 1103)
      (hms : ms10 = 100 ∨ ms10 = 200 ∨ ms10 = 400 ∨ ms10 = 600)
      (hs : maxData - 1 ≤ buf.length) (hb : BytesOk buf) (hok : PacketOk (silkCfg bandwidth nCh ms10) pk)
      (hn : (encodeAll buf (maxData - 1) (packetOps (silkCfg bandwidth nCh ms10) pk)).nbitsTotal < 4294967296)
      (herr : (encodeAll buf (maxData - 1) (packetOps (silkCfg bandwidth nCh ms10) pk)).error = 0)
      (hfit : tell (encRun (encInit buf (maxData - 1)) (packetOps (silkCfg bandwidth nCh ms10) pk)) ≤
        8 * ((maxData - 1 : Nat) : Int)) :
      OpusFrameCase bandwidth nCh ms10 spf48 1000 (silkOnlyFrame buf maxData (silkCfg bandwidth nCh ms10) pk)
  /-- SILK-only with a 5 ms redundancy frame produced by the CELT encoder model on a coder of its own -/
  | silkRed (buf : List Nat) (maxData : Nat) (pk : PacketIn) (c2s : Nat) (w : World) (ccfg : Opus.CeltSymsEnc.EncCfg)
      (s0 : Opus.CeltSymsEnc.St) (fr : Opus.CeltBandsEnc.EncFrame)
      (hbw : bandwidth = 1101 ∨ bandwidth = 1102 ∨ bandwidth = 1103)
      (hms : ms10 = 100 ∨ ms10 = 200 ∨ ms10 = 400 ∨ ms10 = 600)
      (hs : maxData - 1 ≤ buf.length) (hb : BytesOk buf) (hok : PacketOk (silkCfg bandwidth nCh ms10) pk)
      (hc2s : c2s ≤ 1) (hown : OwnCoderFrame w ccfg s0 fr)
      (hcc : ccfg.start = 0 ∧ ccfg.end_ = Opus.CeltSyms.endBandOf bandwidth ∧ ccfg.C = nCh ∧ ccfg.LM = 1)
      (hn : (encodeAll buf (maxData - 1) (packetOps (silkCfg bandwidth nCh ms10) pk ++ redSigOps false true 1 c2s w.bytes.length)).nbitsTotal < 4294967296)
      (herr : (encodeAll buf (maxData - 1) (packetOps (silkCfg bandwidth nCh ms10) pk ++ redSigOps false true 1 c2s w.bytes.length)).error = 0)
      (hfit : tell (encRun (encInit buf (maxData - 1)) (packetOps (silkCfg bandwidth nCh ms10) pk ++ redSigOps false true 1 c2s w.bytes.length)) ≤
        8 * ((maxData - 1 : Nat) : Int))
      (hgate : tell (encRun (encInit buf (maxData - 1)) (packetOps (silkCfg bandwidth nCh ms10) pk)) + 17 ≤
        8 * (((tell (encRun (encInit buf (maxData - 1)) (packetOps (silkCfg bandwidth nCh ms10) pk ++ redSigOps false true 1 c2s w.bytes.length)) + 7) / 8) +
          (w.bytes.length : Int))) :
      OpusFrameCase bandwidth nCh ms10 spf48 1000 (silkRedFrame buf maxData (silkCfg bandwidth nCh ms10) pk c2s w.bytes fr.fin.rng)
  /-- hybrid without redundancy: SILK part, redundancy flag (if the budget test `gate` passed), CELT part from the
      CELT encoder model, all on one coder -/
  | hybrid (buf : List Nat) (maxData : Nat) (pk : PacketIn) (gate : Bool) (ccfg : Opus.CeltSymsEnc.EncCfg)
      (s0 : Opus.CeltSymsEnc.St) (fr : Opus.CeltBandsEnc.EncFrame)
      (hms : ms10 = 100 ∨ ms10 = 200)
      (hs : maxData - 1 ≤ buf.length) (hb : BytesOk buf) (hok : PacketOk (hybridCfg nCh ms10) pk)
      (hsuf : LegalRun (encRun (encInit buf (maxData - 1)) (packetOps (hybridCfg nCh ms10) pk ++ redSigOps true gate 0 0 0))
        (Op.shrink (maxData - 1 - 0) :: fr.ops))
      (hn29 : (encodeAll buf (maxData - 1) (hybridOps maxData (hybridCfg nCh ms10) pk gate 0 0 0 fr.ops)).nbitsTotal < 536870912)
      (herr : (encodeAll buf (maxData - 1) (hybridOps maxData (hybridCfg nCh ms10) pk gate 0 0 0 fr.ops)).error = 0)
      (hgate : (tell (encRun (encInit buf (maxData - 1)) (packetOps (hybridCfg nCh ms10) pk)) + 17 + 20 ≤
          8 * (((encodeAll buf (maxData - 1) (hybridOps maxData (hybridCfg nCh ms10) pk gate 0 0 0 fr.ops)).storage : Nat) : Int)) ↔
        gate = true)
      (hmainpos : 0 < (encodeAll buf (maxData - 1) (hybridOps maxData (hybridCfg nCh ms10) pk gate 0 0 0 fr.ops)).storage)
      (hcelt : HybridCelt buf maxData (hybridCfg nCh ms10) pk gate ccfg s0 fr)
      (hcc : ccfg.start = 17 ∧ ccfg.end_ = Opus.CeltSyms.endBandOf bandwidth ∧ ccfg.C = nCh ∧ ccfg.LM = Opus.CeltSyms.lmOf spf48) :
      OpusFrameCase bandwidth nCh ms10 spf48 1001 (hybridFrame buf maxData (hybridCfg nCh ms10) pk gate 0 0 fr.ops [] 0)
  /-- CELT-only: the frame the CELT encoder model produces on its coder -/
  | celt (w : World) (ccfg : Opus.CeltSymsEnc.EncCfg) (s0 : Opus.CeltSymsEnc.St) (fr : Opus.CeltBandsEnc.EncFrame)
      (hown : OwnCoderFrame w ccfg s0 fr) (hall : w.all = fr.ops)
      (hcc : ccfg.start = 0 ∧ ccfg.end_ = Opus.CeltSyms.endBandOf bandwidth ∧ ccfg.C = nCh ∧ ccfg.LM = Opus.CeltSyms.lmOf spf48) :
      OpusFrameCase bandwidth nCh ms10 spf48 1002 (celtOnlyFrame w.buf w.size w.all)

end Opus.OpusFrameProofs
