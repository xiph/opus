import OpusProofs.SilkSymsEncIndices
import OpusProofs.SilkSymsEncPulses
import OpusProofs.SilkSymsCtl
/-
  C08 × C03 composition: the parts of a payload below the packet walk — the LBRR-flags symbol, one frame
  (`silk_decode_indices` + `silk_decode_pulses` against `silk_encode_indices` + `silk_encode_pulses`) and one frame inside
  a payload (`decodeOne_spec`: only the part of the conditional-coding memory the decoder hands over matters to the
  encoder), the stereo predictor, and the header flags: the VAD/LBRR-flag bits the encoder patches into the
  placeholder against the single bits `silk_Decode` reads.
-/
namespace Opus.SilkSymsEncProofs
open Opus Opus.RangeCoder Opus.SilkSyms Opus.SilkSymsEnc Opus.SilkSymsFrozen.Icdf
open Opus.SilkSymsProofs (updCh headerFlags)

theorem AllBits.tail {b : Nat} {l : List Nat} (h : AllBits (b :: l)) : AllBits l :=
  fun v hv => h v (List.mem_cons_of_mem _ hv)

theorem AllBits.take {l : List Nat} (h : AllBits l) (n : Nat) : AllBits (l.take n) :=
  fun v hv => h v (List.mem_of_mem_take hv)

theorem lbrrSymbol_bit : ∀ (fl : List Nat), AllBits fl → ∀ i, lbrrSymbol fl / 2 ^ i % 2 = fl.getD i 0
  | [], _, i => by simp [lbrrSymbol]
  | f :: fs, h, i => by
    have hf := h f (List.mem_cons_self ..)
    rw [lbrrSymbol]
    cases i with
    | zero => simp only [Nat.pow_zero, Nat.div_one, List.getD_cons_zero]; omega
    | succ i =>
      simp only [List.getD_cons_succ]
      have : (f + 2 * lbrrSymbol fs) / 2 = lbrrSymbol fs := by omega
      have e : (f + 2 * lbrrSymbol fs) / 2 ^ (i + 1) = lbrrSymbol fs / 2 ^ i := by
        rw [Nat.pow_succ, Nat.mul_comm (2 ^ i) 2, ← Nat.div_div_eq_div_mul, this]
      rw [e, lbrrSymbol_bit fs h.tail i]

theorem lbrrSymbol_lt : ∀ (fl : List Nat), AllBits fl → lbrrSymbol fl < 2 ^ fl.length
  | [], _ => by simp [lbrrSymbol]
  | f :: fs, h => by
    have hf := h f (List.mem_cons_self ..)
    have := lbrrSymbol_lt fs h.tail
    rw [lbrrSymbol, List.length_cons, Nat.pow_succ]
    omega

theorem lbrrSymbol_take_lt {fl : List Nat} (hb : AllBits fl) {nfpp : Nat} (hl : nfpp ≤ fl.length) :
    lbrrSymbol (fl.take nfpp) < 2 ^ nfpp := by
  have := lbrrSymbol_lt _ (hb.take nfpp)
  rwa [List.length_take, Nat.min_eq_left hl] at this

theorem take_getD (fl : List Nat) (n i : Nat) (h : i < n) : (fl.take n).getD i 0 = fl.getD i 0 := by
  rw [List.getD_eq_getElem?_getD, List.getD_eq_getElem?_getD, List.getElem?_take, if_pos h]

/-- The flags the decoder stores are the bits of the symbol the encoder forms from them: one formula for the three ways
    `silk_Decode` obtains them (no LBRR: all zero; one frame: the flag itself; else the coded symbol plus one). -/
theorem lbrr3_bits {fl : List Nat} (hb : AllBits fl) (nfpp : Nat) :
    lbrr3 nfpp fl = (List.range 3).map (fun i => if i < nfpp then lbrrSymbol (fl.take nfpp) / 2 ^ i % 2 else 0) := by
  unfold lbrr3
  apply List.map_congr_left
  intro i _
  split
  · rename_i hi
    rw [lbrrSymbol_bit _ (hb.take nfpp) i, take_getD fl nfpp i hi]
  · rfl

theorem decodeLbrrFlags_spec {nfpp : Nat} {fl : List Nat} {c : Dec} (hn : 1 ≤ nfpp ∧ nfpp ≤ 3) (hb : AllBits fl)
    (hl : nfpp ≤ fl.length) (h : Reads c (lbrrSymOps nfpp fl)) :
    decodeLbrrFlags nfpp (lbrrFlagOf nfpp fl) c = (lbrr3 nfpp fl, after c (lbrrSymOps nfpp fl)) := by
  have hlt := lbrrSymbol_take_lt hb hl
  unfold lbrrSymOps at h ⊢
  unfold decodeLbrrFlags
  rw [lbrr3_bits hb]
  by_cases hz : lbrrSymbol (fl.take nfpp) = 0
  · rw [show lbrrFlagOf nfpp fl = 0 from if_neg (fun hh => hh hz), if_pos rfl, if_neg (fun hh => hh.1 hz), after_nil, hz]
    simp only [Nat.zero_div, Nat.zero_mod, ite_self]
    rfl
  · rw [show lbrrFlagOf nfpp fl = 1 from if_pos hz, if_neg (by decide)]
    by_cases h1 : nfpp = 1
    · subst h1
      rw [if_pos rfl, if_neg (fun hh => absurd hh.2 (by decide)), after_nil, show lbrrSymbol (fl.take 1) = 1 by omega]
      rfl
    · rw [if_pos ⟨hz, by omega⟩] at h
      rw [if_neg h1, if_pos ⟨hz, by omega⟩, sym_spec h]
      dsimp only
      rw [show lbrrSymbol (fl.take nfpp) - 1 + 1 = lbrrSymbol (fl.take nfpp) by omega]

theorem lbrrSymOps_legal {nfpp : Nat} {fl : List Nat} (hn : 1 ≤ nfpp ∧ nfpp ≤ 3) (hb : AllBits fl)
    (hl : nfpp ≤ fl.length) : IcLegal (lbrrSymOps nfpp fl) := by
  unfold lbrrSymOps
  split
  · rename_i h
    have hlt := lbrrSymbol_take_lt hb hl
    have hp : 0 < 2 ^ nfpp := Nat.pow_pos (by decide)
    exact icLegal_ic (SilkSymsProofs.sl_lbrrFlags nfpp (by omega) (by omega)) (by omega)
  · exact icLegal_nil

/-- `silk_encode_signs` and `silk_decode_signs` visit `(frame_length + 8) >> 4` blocks, the other loops
    `iter` blocks: the same number for every frame length SILK uses. -/
theorem signBlocks_eq (rate : Rate) {nbSubfr : Nat} (hnb : nbSubfr = 2 ∨ nbSubfr = 4) :
    (frameLength rate nbSubfr + 8) / 16 = shellBlocks (frameLength rate nbSubfr) := by
  rcases hnb with rfl | rfl <;> cases rate <;> decide +kernel

theorem decodeOneCore_spec {cfg : Cfg} {n fi lbrrN cc prevSig : Nat} {v : Bool} {prevLag : Int}
    {ix : Indices} {pulses : List Int} {d : Dec}
    (hnb : cfg.nbSubfr = 2 ∨ cfg.nbSubfr = 4) (hix : IxOk cfg.rate cfg.nbSubfr v cc ix)
    (hp : PulsesOk (frameLength cfg.rate cfg.nbSubfr) pulses)
    (h : Reads d (indicesOps cfg.rate cfg.nbSubfr v cc prevSig prevLag ix ++
      encodePulses ix.signalType ix.quantOffsetType (frameLength cfg.rate cfg.nbSubfr) pulses)) :
    decodeOneCore cfg n fi lbrrN cc v prevSig prevLag d =
      ([.indices n fi lbrrN cc cfg.rate cfg.nbSubfr prevSig prevLag ix,
        .pulses ix.signalType ix.quantOffsetType (frameLength cfg.rate cfg.nbSubfr)
          (pulsesView ix.signalType (frameLength cfg.rate cfg.nbSubfr) pulses)], ix,
       after d (indicesOps cfg.rate cfg.nbSubfr v cc prevSig prevLag ix ++
         encodePulses ix.signalType ix.quantOffsetType (frameLength cfg.rate cfg.nbSubfr) pulses)) := by
  rw [reads_append] at h
  rw [after_append]
  unfold decodeOneCore
  rw [decodeIndices_spec hix (by omega) h.1]
  dsimp only
  rw [decodePulses_spec hp (signBlocks_eq _ hnb) h.2]

theorem encLag_prev (rate : Rate) (cc ps : Nat) (pl lag : Int) :
    encLag rate cc ps pl lag = encLag rate cc (if cc = 2 then ps else 0) (if cc = 2 ∧ ps = 2 then pl else 0) lag := by
  unfold encLag lagDeltaFits
  by_cases hc : cc = 2
  · by_cases hp : ps = 2
    · simp only [hc, hp, and_self, if_true]
    · simp only [hc, hp, if_true, and_false, false_and, if_false]
  · simp only [hc, false_and, if_false]

/-- Only the part of the conditional-coding memory the decoder hands over matters to the encoder. -/
theorem indicesOps_prev (rate : Rate) (nb : Nat) (v : Bool) (cc ps : Nat) (pl : Int) (ix : Indices) :
    indicesOps rate nb v cc ps pl ix =
    indicesOps rate nb v cc (if cc = 2 then ps else 0) (if cc = 2 ∧ ps = 2 then pl else 0) ix := by
  unfold indicesOps encVoiced
  rw [encLag_prev]

/-- `silk_encode_indices` + `silk_encode_pulses` in the encoder's domain; `lbrr → v`: LBRR frames are decoded with
    `decode_LBRR` set. -/
theorem encodeFrame_eq {rate : Rate} {nb cc ps : Nat} {lbrr v : Bool} {pl : Int} {ix : Indices} {pu : List Int}
    (hix : IxOk rate nb v cc ix) (hl : lbrr = true → v = true) :
    encodeFrame rate nb lbrr cc ps pl ix pu =
      .ok (indicesOps rate nb v cc ps pl ix ++ encodePulses ix.signalType ix.quantOffsetType (frameLength rate nb) pu) := by
  unfold encodeFrame
  rw [encodeIndices_eq hix hl]

theorem frameOps_eq {rate : Rate} {nb cc : Nat} {lbrr v : Bool} {p : EcPrev} {f : FrameIn}
    (hix : IxOk rate nb v cc f.ix) (hl : lbrr = true → v = true) :
    frameOps rate nb lbrr cc p f = indicesOps rate nb v cc p.sig p.lag f.ix ++
      encodePulses f.ix.signalType f.ix.quantOffsetType (frameLength rate nb) f.pulses := by
  unfold frameOps
  rw [encodeFrame_eq hix hl]

theorem decodeOne_spec {cfg : Cfg} {n fi lbrrN cc : Nat} {lbrr v : Bool} {ch : Chan} {p : EcPrev} {f : FrameIn} {d : Dec}
    (hnb : cfg.nbSubfr = 2 ∨ cfg.nbSubfr = 4) (hix : IxOk cfg.rate cfg.nbSubfr v cc f.ix)
    (hp : PulsesOk (frameLength cfg.rate cfg.nbSubfr) f.pulses) (hl : lbrr = true → v = true)
    (hv : v = decide (lbrrN ≠ 0 ∨ ch.vad.getD fi 0 ≠ 0)) (hps : ch.ecPrevSignalType = p.sig)
    (hpl : ch.ecPrevLagIndex = p.lag) (h : Reads d (frameOps cfg.rate cfg.nbSubfr lbrr cc p f)) :
    decodeOne cfg n fi lbrrN cc ch d =
      (frameEvs cfg n fi lbrrN cc p f, updCh ch f.ix, after d (frameOps cfg.rate cfg.nbSubfr lbrr cc p f)) := by
  rw [frameOps_eq hix hl, indicesOps_prev] at h ⊢
  unfold decodeOne
  rw [← hv, hps, hpl, decodeOneCore_spec hnb hix hp h, updCh, hpl]
  rfl

theorem frameOps_legal {rate : Rate} {nb cc : Nat} {lbrr v : Bool} {p : EcPrev} {f : FrameIn}
    (hix : IxOk rate nb v cc f.ix) (hp : PulsesOk (frameLength rate nb) f.pulses) (hl : lbrr = true → v = true) :
    IcLegal (frameOps rate nb lbrr cc p f) := by
  rw [frameOps_eq hix hl]
  exact icLegal_append (indicesOps_legal hix) (encodePulses_legal hp hix.sig hix.qoff)

theorem predOps_eq {ix : List Nat} (h : PredOk ix) :
    predOps ix = [ic (5 * ix.getD 2 0 + ix.getD 5 0) silk_stereo_pred_joint_iCDF,
      ic (ix.getD 0 0) silk_uniform3_iCDF, ic (ix.getD 1 0) silk_uniform5_iCDF,
      ic (ix.getD 3 0) silk_uniform3_iCDF, ic (ix.getD 4 0) silk_uniform5_iCDF] := by
  obtain ⟨_, h0, h1, h2, h3, h4, h5⟩ := h
  unfold predOps encStereoPred
  rw [if_neg (by omega), if_neg (fun hh => hh ⟨h0, h1⟩), if_neg (fun hh => hh ⟨h3, h4⟩)]

theorem stereoIxG_spec {tj t3 t5 : List Nat} {n a0 a1 b0 b1 : Nat} {d : Dec}
    (h : Reads d [ic n tj, ic a0 t3, ic a1 t5, ic b0 t3, ic b1 t5]) :
    stereoIxG tj t3 t5 d = ((n, a0, a1, b0, b1), after d [ic n tj, ic a0 t3, ic a1 t5, ic b0 t3, ic b1 t5]) := by
  rw [reads_cons_append] at h
  obtain ⟨h1, h⟩ := h
  rw [reads_cons_append] at h
  obtain ⟨h2, h⟩ := h
  rw [reads_cons_append] at h
  obtain ⟨h3, h⟩ := h
  rw [reads_cons_append] at h
  obtain ⟨h4, h5⟩ := h
  rw [after_cons_cons, after_cons_cons, after_cons_cons, after_cons_cons, stereoIxG, sym_spec h1]
  dsimp only
  rw [sym_spec h2]
  dsimp only
  rw [sym_spec h3]
  dsimp only
  rw [sym_spec h4]
  dsimp only
  rw [sym_spec h5]

theorem stereoDecodePred_spec {ix : List Nat} {d : Dec} (hok : PredOk ix) (h : Reads d (predOps ix)) :
    stereoDecodePred d = (stereoMk (5 * ix.getD 2 0 + ix.getD 5 0) (ix.getD 0 0) (ix.getD 1 0) (ix.getD 3 0) (ix.getD 4 0),
      after d (predOps ix)) := by
  rw [predOps_eq hok] at h ⊢
  rw [stereoDecodePred, stereoDecodePredG, stereoIxG_spec h]

theorem predOps_legal {ix : List Nat} (h : PredOk ix) : IcLegal (predOps ix) := by
  rw [predOps_eq h]
  obtain ⟨_, h0, h1, h2, h3, h4, h5⟩ := h
  exact icLegal_cons (icLegal_ic SilkSymsProofs.sl_stereoJoint (by omega)) (icLegal_cons (icLegal_ic SilkSymsProofs.sl_uniform3 h0)
    (icLegal_cons (icLegal_ic SilkSymsProofs.sl_uniform5 h1) (icLegal_cons (icLegal_ic SilkSymsProofs.sl_uniform3 h3) (icLegal_ic SilkSymsProofs.sl_uniform5 h4))))

theorem midOnly_spec {m : Nat} {d : Dec} (h : Reads d (encMidOnly m)) :
    stereoDecodeMidOnly d = (m, after d (encMidOnly m)) := by
  unfold encMidOnly at h ⊢
  unfold stereoDecodeMidOnly
  exact sym_spec h

theorem midOnly_legal {m : Nat} (h : m ≤ 1) : IcLegal (encMidOnly m) :=
  icLegal_ic SilkSymsProofs.sl_stereoMid (by omega)

/-- The flags `vs` as the decoder reads them: one `ec_dec_bit_logp(·, 1)` each. -/
def flagOps (vs : List Nat) : List Op := vs.map (fun v => Op.bitLogp v 1)

theorem bit_spec {d : Dec} {v : Nat} (hv : v ≤ 1) (h : Reads d [.bitLogp v 1]) :
    decBitLogp d 1 = (v, after d [.bitLogp v 1]) := by
  have h1 : (decBitLogp d 1).1 = (if v ≠ 0 then 1 else 0) := h.1
  have h2 : (if v ≠ 0 then 1 else 0) = v := by split <;> omega
  exact Prod.ext (h1.trans h2) rfl

theorem decodeVadFlags_spec : ∀ (vs : List Nat) (d : Dec), (∀ v ∈ vs, v ≤ 1) → Reads d (flagOps vs) →
    decodeVadFlags vs.length d = (vs, after d (flagOps vs)) := by
  intro vs
  induction vs with
  | nil => intro d _ _; rfl
  | cons v vs ih =>
    intro d hv h
    rw [flagOps, List.map_cons] at h ⊢
    rw [reads_cons_append] at h
    obtain ⟨hv0, hvs⟩ := List.forall_mem_cons.mp hv
    rw [after_cons, List.length_cons, decodeVadFlags, bit_spec hv0 h.1]
    dsimp only
    rw [← flagOps, ih _ hvs h.2]

theorem decodeChanFlags_spec {vs : List Nat} {l : Nat} {d : Dec} (hv : ∀ v ∈ vs, v ≤ 1) (hl : l ≤ 1)
    (h : Reads d (flagOps vs ++ [.bitLogp l 1])) :
    decodeChanFlags vs.length d = (vs, l, after d (flagOps vs ++ [.bitLogp l 1])) := by
  rw [reads_append] at h
  rw [after_append]
  unfold decodeChanFlags
  rw [decodeVadFlags_spec _ _ hv h.1]
  dsimp only
  rw [bit_spec hl h.2]

theorem range_map_getD (l : List Nat) : (List.range l.length).map (fun i => l.getD i 0) = l := by
  apply List.ext_getElem
  · simp
  · intro i h1 h2
    simp only [List.getElem_map, List.getElem_range]
    rw [List.getD_eq_getElem?_getD, List.getElem?_eq_getElem h2, Option.getD_some]

theorem flagOps_append (a b : List Nat) : flagOps (a ++ b) = flagOps a ++ flagOps b := by
  unfold flagOps; rw [List.map_append]

theorem chanFlagBits_eq {cfg : Cfg} {c : ChanIn} (h : ChanOk cfg c) :
    chanFlagBits cfg.nfpp c = c.vad ++ [lbrrFlagOf cfg.nfpp c.lbrrFlags] := by
  unfold chanFlagBits lbrrFlagOf
  rw [← h.vadLen, range_map_getD]

theorem chanFlagBits_bits {cfg : Cfg} {c : ChanIn} (h : ChanOk cfg c) : AllBits (chanFlagBits cfg.nfpp c) := by
  rw [chanFlagBits_eq h]
  intro v hv
  rcases List.mem_append.mp hv with hv | hv
  · exact h.vadBits v hv
  · rw [List.mem_singleton] at hv
    rw [hv]; unfold lbrrFlagOf; split <;> decide

theorem chanFlagBits_length {cfg : Cfg} {c : ChanIn} (h : ChanOk cfg c) : (chanFlagBits cfg.nfpp c).length = cfg.nfpp + 1 := by
  rw [chanFlagBits_eq h, List.length_append, h.vadLen]; rfl

theorem chanFlags_spec {cfg : Cfg} {c : ChanIn} {d : Dec} (h : ChanOk cfg c)
    (hr : Reads d (flagOps (chanFlagBits cfg.nfpp c))) :
    decodeChanFlags cfg.nfpp d = (c.vad, lbrrFlagOf cfg.nfpp c.lbrrFlags, after d (flagOps (chanFlagBits cfg.nfpp c))) := by
  rw [chanFlagBits_eq h, flagOps_append] at hr ⊢
  have hl : lbrrFlagOf cfg.nfpp c.lbrrFlags ≤ 1 := by unfold lbrrFlagOf; split <;> decide
  have := decodeChanFlags_spec (vs := c.vad) (l := lbrrFlagOf cfg.nfpp c.lbrrFlags) (d := d) h.vadBits hl hr
  rw [h.vadLen] at this
  exact this

def hdrCh (nfpp : Nat) (c : ChanIn) (ch : Chan) : Chan :=
  { ch with vad := c.vad, lbrrFlag := lbrrFlagOf nfpp c.lbrrFlags, lbrrFlags := lbrr3 nfpp c.lbrrFlags }

/-- The decoder state after the header flags. -/
def hdrSt (cfg : Cfg) (pk : PacketIn) (st : SilkSt) : SilkSt :=
  { st with ch0 := hdrCh cfg.nfpp pk.ch0 st.ch0, ch1 := if cfg.nCh = 2 then hdrCh cfg.nfpp pk.ch1 st.ch1 else st.ch1 }

/-- What the decoder reads for the flags: the patched bits, then the LBRR-flags symbols. -/
def headerFlagsOps (cfg : Cfg) (pk : PacketIn) : List Op :=
  flagOps (headerBits cfg pk) ++
  (lbrrSymOps cfg.nfpp pk.ch0.lbrrFlags ++ (if cfg.nCh = 2 then lbrrSymOps cfg.nfpp pk.ch1.lbrrFlags else []))

theorem decodeFlags_spec {cfg : Cfg} {pk : PacketIn} (hok : PacketOk cfg pk) (st : SilkSt) {d : Dec}
    (h : Reads d (headerFlagsOps cfg pk)) :
    headerFlags cfg st d =
      { st := hdrSt cfg pk st, dom := 0, c := after d (headerFlagsOps cfg pk), evs := headerEvs cfg pk } := by
  unfold headerFlags
  have h0 := hok.ch0
  unfold headerFlagsOps headerBits at h ⊢
  unfold hdrSt headerEvs
  by_cases h2 : cfg.nCh = 2
  · have h1 := hok.ch1 h2
    simp only [if_pos h2] at h ⊢
    rw [flagOps_append, reads_append, reads_append, reads_append] at h
    simp only [after_append] at h
    obtain ⟨⟨ha, hb⟩, hc, hd⟩ := h
    rw [flagOps_append, after_append, after_append, after_append]
    rw [decodeFlagsStereo, chanFlags_spec h0 ha]
    dsimp only
    rw [chanFlags_spec h1 hb]
    dsimp only
    rw [decodeLbrrFlags_spec hok.nfpp h0.lbrrBits (Nat.le_of_eq h0.lbrrLen.symm) hc]
    dsimp only
    rw [decodeLbrrFlags_spec hok.nfpp h1.lbrrBits (Nat.le_of_eq h1.lbrrLen.symm) hd]
    rfl
  · simp only [if_neg h2, List.append_nil] at h ⊢
    rw [reads_append] at h
    rw [after_append]
    rw [decodeFlagsMono, chanFlags_spec h0 h.1]
    dsimp only
    rw [decodeLbrrFlags_spec hok.nfpp h0.lbrrBits (Nat.le_of_eq h0.lbrrLen.symm) h.2]
    rfl

theorem headerBits_bits {cfg : Cfg} {pk : PacketIn} (hok : PacketOk cfg pk) : AllBits (headerBits cfg pk) := by
  unfold headerBits
  intro v hv
  rcases List.mem_append.mp hv with hv | hv
  · exact chanFlagBits_bits hok.ch0 v hv
  · split at hv
    · rename_i h2; exact chanFlagBits_bits (hok.ch1 h2) v hv
    · cases hv

theorem headerBits_length {cfg : Cfg} {pk : PacketIn} (hok : PacketOk cfg pk) :
    (headerBits cfg pk).length = (cfg.nfpp + 1) * cfg.nCh := by
  unfold headerBits
  rw [List.length_append, chanFlagBits_length hok.ch0]
  rcases hok.nCh with h1 | h2
  · rw [if_neg (by omega), h1]; simp
  · rw [if_pos h2, chanFlagBits_length (hok.ch1 h2), h2]; omega

theorem lbrrSyms_legal {cfg : Cfg} {pk : PacketIn} (hok : PacketOk cfg pk) :
    IcLegal (lbrrSymOps cfg.nfpp pk.ch0.lbrrFlags ++ (if cfg.nCh = 2 then lbrrSymOps cfg.nfpp pk.ch1.lbrrFlags else [])) := by
  apply icLegal_append
  · exact lbrrSymOps_legal hok.nfpp hok.ch0.lbrrBits (by rw [hok.ch0.lbrrLen]; exact Nat.le_refl _)
  · split
    · rename_i h2
      exact lbrrSymOps_legal hok.nfpp (hok.ch1 h2).lbrrBits (by rw [(hok.ch1 h2).lbrrLen]; exact Nat.le_refl _)
    · exact icLegal_nil

theorem bitsWord_acc : ∀ (bs : List Nat) (acc : Nat), bitsWord bs acc = acc * 2 ^ bs.length + bitsWord bs 0
  | [], acc => by simp [bitsWord]
  | b :: bs, acc => by
    rw [bitsWord, bitsWord, bitsWord_acc bs (2 * acc + b), bitsWord_acc bs (2 * 0 + b), List.length_cons, Nat.pow_succ]
    rw [Nat.add_mul, Nat.mul_zero, Nat.zero_add, Nat.mul_comm 2 acc, Nat.mul_assoc, Nat.mul_comm 2 (2 ^ bs.length)]
    omega

theorem bitsWord_lt : ∀ (bs : List Nat), AllBits bs → bitsWord bs 0 < 2 ^ bs.length
  | [], _ => by simp [bitsWord]
  | b :: bs, h => by
    rw [bitsWord, bitsWord_acc, List.length_cons, Nat.pow_succ]
    have := bitsWord_lt bs h.tail
    have hb := h b (List.mem_cons_self ..)
    have : (2 * 0 + b) * 2 ^ bs.length ≤ 1 * 2 ^ bs.length := Nat.mul_le_mul_right _ (by omega)
    omega

/-- The decoder's single-bit reads of the patched word are the flags, first to last. -/
theorem bitsOps_word : ∀ (bs : List Nat), AllBits bs → bitsOps (bitsWord bs 0) bs.length = flagOps bs
  | [], _ => rfl
  | b :: bs, h => by
    have hb := h b (List.mem_cons_self ..)
    have hlt := bitsWord_lt bs h.tail
    have hpos : 0 < 2 ^ bs.length := Nat.pow_pos (by decide)
    rw [bitsWord, bitsWord_acc, List.length_cons, bitsOps, flagOps, List.map_cons]
    have e0 : (2 * 0 + b) = b := by omega
    rw [e0]
    have e1 : (b * 2 ^ bs.length + bitsWord bs 0) / 2 ^ bs.length = b := by
      rw [Nat.mul_comm, Nat.mul_add_div hpos, Nat.div_eq_of_lt hlt]; omega
    have e2 : (b * 2 ^ bs.length + bitsWord bs 0) % 2 ^ bs.length = bitsWord bs 0 := by
      rw [Nat.mul_comm, Nat.mul_add_mod, Nat.mod_eq_of_lt hlt]
    rw [e1, e2, Nat.mod_eq_of_lt (by omega), bitsOps_word bs h.tail, flagOps]

/-- The word patched into the placeholder fits its `(nFramesPerPacket + 1) * nChannels` bits … -/
theorem headerWord_lt {cfg : Cfg} {pk : PacketIn} (hok : PacketOk cfg pk) :
    bitsWord (headerBits cfg pk) 0 < 2 ^ ((cfg.nfpp + 1) * cfg.nCh) := by
  rw [← headerBits_length hok]
  exact bitsWord_lt _ (headerBits_bits hok)

/-- … and read back bit by bit it is the header flags. -/
theorem headerWord_ops {cfg : Cfg} {pk : PacketIn} (hok : PacketOk cfg pk) :
    bitsOps (bitsWord (headerBits cfg pk) 0) ((cfg.nfpp + 1) * cfg.nCh) = flagOps (headerBits cfg pk) := by
  rw [← headerBits_length hok]
  exact bitsOps_word _ (headerBits_bits hok)

end Opus.SilkSymsEncProofs
