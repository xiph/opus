import OpusProofs.Ctl
import OpusProofs.EncDecideHonour
import OpusProofs.EncSkelSizing
/-
  OpusProofs.CtlRanges — 32-bit range lemmas for the integer arithmetic of the ctl layer and of
  the budget computation at the head of opus_encode_native: on the legal domain every
  intermediate value the C code forms fits `int` / `opus_int32`, so the unbounded-`Int` model and
  the C code agree (helper lemmas of property C11).  The budget head and `frame_size_select` are the encoder skeleton's
  bounds (OpusProofs/EncSkelSizing.lean, on the domain `FrameRates`) read in C11's terms.
-/
namespace Opus.Ctl
open Opus Opus.EncDecide
open Opus.EncSkel.Proofs (FrameRates mul_nn_le cbrTrace_fits gateTrace_fits fixedSize_range)

/-- Representable as a C `int` / `opus_int32`. -/
def I32 (x : Int) : Prop := -2147483648 ≤ x ∧ x ≤ 2147483647

/-- A legal rate and frame size are in the domain of the skeleton's range proofs. -/
theorem apiSizes_rates {fs f : Int} (hfs : fs ∈ rates) (hf : f ∈ apiSizes fs) : FrameRates fs f := by
  simp only [rates, List.mem_cons, List.mem_nil_iff, or_false] at hfs
  simp only [apiSizes, List.mem_cons, List.mem_nil_iff, or_false] at hf
  refine .of_bounds ?_ ?_ ?_ ?_ <;> (rcases hfs with rfl | rfl | rfl | rfl | rfl <;> omega)

/-- OPUS_SET_BITRATE (opus_encoder.c:2681-2693, opus_multistream_encoder.c:1121-1130): the clamp
    bounds `300000*channels`, `500*nb_channels` fit for every legal channel count. -/
theorem bitrate_clamp_no_overflow (channels nbChannels : Int) (hc : channels = 1 ∨ channels = 2)
    (hn : 1 ≤ nbChannels ∧ nbChannels ≤ 255) :
    I32 (300000 * channels) ∧ I32 (300000 * nbChannels) ∧ I32 (500 * nbChannels) := by
  unfold I32; omega

/-- Everything `user_bitrate_to_bitrate(st, frame_size, max_data_bytes)` computes
    (opus_encoder.c:686-695), listed. -/
def bitrateIntermediates (s : DSt) (frameSize maxDataBytes : Int) : List Int :=
  let fz := if frameSize = 0 then s.fs / 400 else frameSize
  [s.fs / 400, 60 * s.fs, 60 * s.fs / fz, s.fs * s.channels, 60 * s.fs / fz + s.fs * s.channels,
   maxDataBytes * 8, maxDataBytes * 8 * s.fs, maxDataBytes * 8 * s.fs / fz, userBitrateToBitrate s frameSize maxDataBytes]

/-- OPUS_GET_BITRATE / the encoder's own call: for a legal rate, 1–2 channels, `frame_size` zero
    (before the first frame) or one of the nine Opus durations, `0 ≤ max_data_bytes ≤ 1276` and a
    stored bit-rate in its `CtlInv` range, nothing overflows and the result is in [0, 4083200]. -/
theorem user_bitrate_no_overflow (s : DSt) (hfs : s.fs ∈ rates) (hch : s.channels = 1 ∨ s.channels = 2)
    (hbr : s.userBitrate = -1000 ∨ s.userBitrate = -1 ∨ (500 ≤ s.userBitrate ∧ s.userBitrate ≤ 300000 * s.channels))
    (frameSize maxDataBytes : Int) (hf : frameSize = 0 ∨ frameSize ∈ apiSizes s.fs) (hm : 0 ≤ maxDataBytes ∧ maxDataBytes ≤ 1276) :
    (∀ x ∈ bitrateIntermediates s frameSize maxDataBytes, I32 x) ∧
    0 ≤ userBitrateToBitrate s frameSize maxDataBytes ∧ userBitrateToBitrate s frameSize maxDataBytes ≤ 4083200 := by
  have hfz : (if frameSize = 0 then s.fs / 400 else frameSize) ∈ apiSizes s.fs := by
    rcases hf with rfl | hf
    · exact List.mem_cons_self
    · rw [if_neg (by have := apiSizes_pos hfs hf; omega)]; exact hf
  have R := apiSizes_rates hfs hfz
  unfold bitrateIntermediates userBitrateToBitrate I32
  consts
  simp only [List.mem_cons, List.mem_nil_iff, or_false, forall_eq_or_imp, forall_eq]
  generalize (if frameSize = 0 then s.fs / 400 else frameSize) = fz at *
  generalize s.fs = fs at *
  generalize s.userBitrate = ub at *
  have hfs1 := R.fs1; have hfs2 := R.fs2; have q1 := R.q1; have q2 := R.q2
  -- MAX: `0 ≤ m·8·Fs ≤ 10208·Fs ≤ 10208·400·frame_size`
  have hp := mul_nn_le (maxDataBytes * 8) fs 10208 48000 (by omega) (by omega)
  have hhi : maxDataBytes * 8 * fs ≤ 10208 * fs := Int.mul_le_mul_of_nonneg_right (by omega) (by omega)
  have hmax0 : 0 ≤ maxDataBytes * 8 * fs / fz := Int.ediv_nonneg hp.1 (by have := R.pos; omega)
  have hmax1 : maxDataBytes * 8 * fs / fz ≤ 4083200 := Int.ediv_le_of_le_mul R.pos (by have := R.hi; omega)
  generalize 60 * fs / fz = auto at *
  generalize maxDataBytes * 8 * fs / fz = bmax at *
  generalize maxDataBytes * 8 * fs = p at *
  rcases hch with hc | hc <;> rw [hc] at hbr ⊢ <;> omega

/-! ### The byte / bit budget at the head of opus_encode_native (:1158-1338) -/

/-- Every value :1253-1264 and :1338 compute from the bit-rate, listed (`out` = out_data_bytes). -/
def budgetIntermediates (s : DSt) (f out : Int) : List Int :=
  let maxDataBytes := min 1276 out
  let bitrate := userBitrateToBitrate s f maxDataBytes
  let fr12 := 12 * s.fs / f
  let cbr := min ((12 * bitrate / 8 + fr12 / 2) / fr12) maxDataBytes
  let fr := s.fs / f
  [maxDataBytes, bitrate, 12 * s.fs, fr12, 12 * bitrate, 12 * bitrate / 8 + fr12 / 2, cbr, cbr * fr12,
   cbr * fr12 * 8, 3 * fr * 8, maxDataBytes * fr, fr * maxDataBytes * 8, fr * max 1 cbr * 8]

/-- For a legal rate, 1–2 channels, a stored bit-rate in its `CtlInv` range, one of the nine Opus
    frame sizes and any positive `int` buffer size, no intermediate of the budget computation
    overflows (CBR and VBR alike). -/
theorem budget_no_overflow (s : DSt) (hfs : s.fs ∈ rates) (hch : s.channels = 1 ∨ s.channels = 2)
    (hbr : s.userBitrate = -1000 ∨ s.userBitrate = -1 ∨ (500 ≤ s.userBitrate ∧ s.userBitrate ≤ 300000 * s.channels))
    (f out : Int) (hf : f ∈ apiSizes s.fs) (hout : 0 < out ∧ out ≤ 2147483647) :
    ∀ x ∈ budgetIntermediates s f out, I32 x := by
  have R := apiSizes_rates hfs hf
  have hm : 1 ≤ min 1276 out ∧ min 1276 out ≤ 1276 := by omega
  -- the bit-rate of :1253 is in range, so the CBR block is (`cbrTrace_fits`); the gate and `max_rate` are the skeleton's
  -- at the two byte budgets, `max_data_bytes` and `IMAX(1, cbr_bytes)`
  have hb := (user_bitrate_no_overflow s hfs hch hbr f (min 1276 out) (Or.inr hf) (by omega)).2
  obtain ⟨hc, c0, c1, -⟩ := cbrTrace_fits s.fs f _ _ R hb hm
  have g1 := gateTrace_fits s.fs f ⟨0, 0, min 1276 out⟩ R hm
  have g2 := gateTrace_fits s.fs f
    ⟨0, 0, max 1 (EncSkel.cbrBytes s.fs f (userBitrateToBitrate s f (min 1276 out)) (min 1276 out))⟩ R (by dsimp only; omega)
  simp only [EncSkel.cbrTrace, EncSkel.gateTrace, EncSkel.cbrBytes, List.forall_mem_cons, List.not_mem_nil, false_imp_iff,
    implies_true, and_true, EncSkel.Fits32] at hc g1 g2 c0 c1
  simp only [budgetIntermediates, List.forall_mem_cons, List.not_mem_nil, false_imp_iff, implies_true, and_true, I32]
  omega

/-! ### frame_size_select (:768-796) -/

/-- The candidate frame size `frame_size_select` forms before it tests it. -/
def fssNew (frameSize vd fs : Int) : Int := if vd = 5000 then frameSize else fixedSize vd fs

/-- **For EVERY `int` frame_size**: for a legal rate and a frame-duration setting in its `CtlInv`
    range, the candidate fits `int`, and the products `400*new_size` … are formed only after
    `new_size ≤ frame_size` and `new_size ≤ 6*Fs/50` have been tested, where they fit (without the second
    test `400 * 5368710` overflows). -/
theorem frame_size_select_no_overflow (frameSize vd fs : Int) (hfs : fs ∈ rates) (hvd : 5000 ≤ vd ∧ vd ≤ 5009)
    (hf : I32 frameSize) :
    let n := fssNew frameSize vd fs
    I32 n ∧ I32 ((vd - 5001 - 2) * fs) ∧ I32 (6 * fs) ∧
    (fs / 400 ≤ frameSize → n ≤ frameSize → n ≤ 6 * fs / 50 →
      I32 (400 * n) ∧ I32 (200 * n) ∧ I32 (100 * n) ∧ I32 (50 * n) ∧ I32 (25 * n)) := by
  intro n
  have h48 : 8000 ≤ fs ∧ fs ≤ 48000 := by
    simp only [rates, List.mem_cons, List.mem_nil_iff, or_false] at hfs; omega
  -- `(vd-5003)·Fs` is the one product formed whatever `vd` is: bounded through `(vd-5000)·Fs`
  have hp := mul_nn_le (vd - 5000) fs 9 48000 (by omega) (by omega)
  have hT : (vd - 5001 - 2) * fs = (vd - 5000) * fs - 3 * fs := by
    rw [show vd - 5001 - 2 = vd - 5000 - 3 by omega, Int.sub_mul]
  have hn : (fs / 400 ≤ frameSize → 0 ≤ n) ∧ I32 n := by
    show (fs / 400 ≤ frameSize → 0 ≤ fssNew frameSize vd fs) ∧ I32 (fssNew frameSize vd fs)
    unfold fssNew fixedSize I32
    unfold I32 at hf
    split
    · omega
    · obtain ⟨a, b⟩ := fixedSize_range h48 (vd := vd) (by omega)
      split
      · have := a ‹_›; omega
      · have := b (by omega); omega
  unfold I32 at hn ⊢
  exact ⟨hn.2, by omega, by omega, fun h1 _ h3 => by have := hn.1 h1; omega⟩

/-- OPUS_GET_LOOKAHEAD (`Fs/400 + delay_compensation`, delay_compensation = Fs/250) and the
    projection demixing-matrix size (`channels·(streams+coupled)·2`, at most 255 channels). -/
theorem getter_arith_no_overflow (fs nbChannels nbStreams nbCoupled : Int) (hfs : fs ∈ rates)
    (hn : 1 ≤ nbChannels ∧ nbChannels ≤ 255) (hs : 0 ≤ nbStreams ∧ 0 ≤ nbCoupled ∧ nbStreams + nbCoupled ≤ 255) :
    I32 (fs / 400 + fs / 250) ∧ I32 (nbChannels * (nbStreams + nbCoupled)) ∧ I32 (nbChannels * (nbStreams + nbCoupled) * 2) := by
  simp only [rates, List.mem_cons, List.mem_nil_iff, or_false] at hfs
  have hp := mul_nn_le nbChannels (nbStreams + nbCoupled) 255 255 (by omega) (by omega)
  unfold I32
  generalize nbChannels * (nbStreams + nbCoupled) = p at *
  refine ⟨?_, by omega, by omega⟩
  rcases hfs with rfl | rfl | rfl | rfl | rfl <;> omega

end Opus.Ctl
