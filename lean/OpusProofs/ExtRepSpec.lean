import OpusProofs.ExtQueues
/-
  C16 helper lemmas, part 11: list-level specification of what `opus_packet_extensions_generate` writes
  when it uses the "repeat these extensions" mechanism (ID 2).

  The generator treats the extensions of each frame as a queue (`rems`: one list per frame, in array
  order).  For frame `f` it finds the longest prefix `pre` of the queue of `f` that can be repeated in
  ALL later frames (the k-th extension of every later queue has the same ID and, for short IDs, the
  same length), writes `pre`, the repeat indicator, the payloads of the matching extensions of every
  later frame (which are thereby removed from those queues), then the rest `post` of frame `f`.
-/
set_option linter.unusedVariables false
namespace Opus.ExtProofs
open Opus Opus.Ext

/-- The test of extensions.c:504-515 between the candidate `x` of a later frame and `e`. -/
def matchB (x e : Ext) : Bool := decide (x.id = e.id) && !(decide (x.id < 32) && decide (x.len ≠ e.len))

/-- Every later queue has a head that matches `e`. -/
def headsMatch (later : List (List Ext)) (e : Ext) : Bool :=
  later.all (fun r => match r.head? with | some x => matchB x e | none => false)

/-- Number of leading extensions of `a` that can be repeated in all `later` queues. -/
def repCount : List Ext → List (List Ext) → Nat
  | [], _ => 0
  | e :: a, later => if headsMatch later e then repCount a (later.map List.tail) + 1 else 0

/-- Position of the last long extension (ID ≥ 32) of `pre`. -/
def lastLongPos : List Ext → Option Nat
  | [] => none
  | e :: l => match lastLongPos l with
    | some k => some (k + 1)
    | none => if 32 ≤ e.id then some 0 else none

/-- Extensions written one after the other (separator when the frame changes); the `n`-th extension
    written overall uses the `L = 0` form. -/
def serW (n : Nat) : Nat → Nat → List Ext → List Nat
  | _, _, [] => []
  | cur, w, e :: l => sepBytes e.frame.toNat cur ++ extBytes e (decide ((w : Int) = (n : Int) - 1)) ++ serW n e.frame.toNat (w + 1) l

/-- Payloads (with their length bytes) of the `R` repeated extensions of one later frame; `z` = position
    whose length bytes are dropped (the last long extension of the last frame when the indicator has L = 0). -/
def repPayloads (z : Option Nat) (k : Nat) : List Ext → List Nat
  | [] => []
  | x :: l => (extBytes x (decide (z = some k))).tail ++ repPayloads z (k + 1) l

def repBlock (R : Nat) (last : Bool) (ll : Option Nat) : List (List Ext) → List Nat
  | [] => []
  | [r] => repPayloads (if last then ll else none) 0 (r.take R)
  | r :: rs => repPayloads none 0 (r.take R) ++ repBlock R last ll rs

/-- Number of repeated extensions of frame `f`: none for the last frame. -/
def blockR (a : List Ext) (later : List (List Ext)) : Nat := if later = [] then 0 else repCount a later

/-- `last` of extensions.c:589-590 (`L = 0` on the repeat indicator). -/
def blockLast (n : Nat) (a : List Ext) (later : List (List Ext)) (w : Nat) : Bool :=
  let R := blockR a later
  decide (w + R + R * later.length = n) || (lastLongPos (a.take R) = none && (a.drop R).isEmpty)

/-- Frame written last (`curr_frame`) after a list has been written. -/
def curAfter (cur : Nat) (l : List Ext) : Nat := lastFrame cur l

/-- Everything written for the queues `a :: later` (frames `f, f+1, …`), starting with `curr_frame = cur`
    and `written = w`. -/
def serAll (n : Nat) : List (List Ext) → Nat → Nat → List Nat
  | [], _, _ => []
  | a :: later, cur, w =>
    let R := blockR a later
    let last := blockLast n a later w
    let pre := a.take R
    let post := a.drop R
    let cur1 := curAfter cur pre
    let cur2 := if 0 < R ∧ last = true then cur1 + 1 else cur1
    let w2 := w + R + R * later.length
    serW n cur w pre ++ (if 0 < R then [if last then 4 else 5] else []) ++ repBlock R last (lastLongPos pre) later ++
      serW n cur2 w2 post ++
      serAll n (later.map (List.drop R)) (curAfter cur2 post) (w2 + post.length)
termination_by l => l.length
decreasing_by simp

/-- The order in which iteration reports them. -/
def expAll : List (List Ext) → List Ext
  | [] => []
  | a :: later =>
    let R := blockR a later
    a.take R ++ (later.map (List.take R)).flatten ++ a.drop R ++ expAll (later.map (List.drop R))
termination_by l => l.length
decreasing_by simp

/-- The queues of an extension array. -/
def queues (exts : Array Ext) (nbF : Nat) : List (List Ext) := (List.range nbF).map (allOf exts)

end Opus.ExtProofs
