import OpusProofs.ExtRepEmit
/-
  C16, repeat mechanism, writer side: the frame loop of the generator is `wAll` of the queues.
-/
namespace Opus.ExtProofs
open Opus Opus.Ext

/-- Counting extensions across a repeat block: `w` written before, `a` in the queue of the frame of which `R` are
    repeated, `t` in the `m` later queues of which `t'` remain afterwards. -/
theorem count_after_block {w a R m t t' n : Nat} (hc : w + (a + t) = n) (ht : t' + R * m = t) (hR : R ≤ a) :
    w + R + R * m + (a - R) + t' = n := by omega

theorem remsFrom_getElem {exts : Array Ext} {mx idx : List Nat} {nbF g0 i : Nat} {r : List Ext}
    (h : (remsFrom exts mx idx nbF g0)[i]? = some r) : r = remQ exts mx idx (g0 + i) ∧ g0 + i < nbF := by
  have hlt : i < nbF - g0 := by
    have := (List.getElem?_eq_some_iff.mp h).1
    rwa [remsFrom_length] at this
  unfold remsFrom at h
  rw [List.getElem?_map, List.getElem?_range' hlt] at h
  simp only [Nat.one_mul, Option.map_some, Option.some.injEq] at h
  exact ⟨h.symm, by omega⟩

/-- State of the generator when it starts with frame `f`: for the frames still to come `frame_repeat_idx` equals
    `frame_min_idx` and points at an extension of the frame (or past its end). -/
structure QInv (exts : Array Ext) (mx : List Nat) (nbF f : Nat) (s : GSt) : Prop where
  lmin : s.minIdx.length = nbF
  lrep : s.repIdx.length = nbF
  eq : ∀ g, f ≤ g → g < nbF → s.repIdx.getD g 0 = s.minIdx.getD g 0
  clean : ∀ g, f ≤ g → g < nbF → Clean exts mx (s.minIdx.getD g 0) g
  bound : ∀ g, f ≤ g → g < nbF → s.minIdx.getD g 0 ≤ exts.size

section
variable {exts : Array Ext} {nbF : Nat} {mx : List Nat}

/-- The frame loop of `opus_packet_extensions_generate()` is `wAll` of the queues. -/
theorem wFramesLoop_eq (hv : AllIF exts nbF) (hmxl : mx.length = nbF) (hmx : ∀ g, g < nbF → mx.getD g 0 ≤ exts.size)
    (hlastp : ∀ g, g < nbF → mx.getD g 0 = 0 ∨ ∃ e, exts[mx.getD g 0 - 1]? = some e ∧ e.frame.toNat = g)
    (f : Nat) (s : GSt) :
    QInv exts mx nbF f s → s.written + total (remsFrom exts mx s.minIdx nbF f) = exts.size →
    ∃ sF, wFramesLoop exts nbF mx f s = (wAll exts.size (remsFrom exts mx s.minIdx nbF f) s.currFrame s.written).as sF ∧
      sF.written = exts.size := by
  fun_induction wFramesLoop exts nbF mx f s with
  | case1 f s hlt ih =>
    intro hI hcount
    rw [rdN_getD (by rw [hI.lmin]; exact hlt), W.lift_ok_bind, rdN_getD (by rw [hmxl]; exact hlt), W.lift_ok_bind]
    simp only
    rw [remsFrom_succ exts mx s.minIdx hlt, total_cons] at hcount
    rw [remsFrom_succ exts mx s.minIdx hlt, wAll_cons]
    have hlaterrep : remsFrom exts mx s.repIdx nbF (f + 1) = remsFrom exts mx s.minIdx nbF (f + 1) :=
      remsFrom_eq fun g h1 h2 => hI.eq g (by omega) h2
    have hlen_later : (remsFrom exts mx s.minIdx nbF (f + 1)).length = nbF - (f + 1) := remsFrom_length _ _ _ _ _
    have hfr : ∀ e ∈ remQ exts mx s.minIdx f, e.frame.toNat = f := fun e he => (mem_seg he).2
    have hrq : seg exts (s.minIdx.getD f 0) (mx.getD f 0) f = remQ exts mx s.minIdx f := rfl
    obtain ⟨det, hdeq, hspec⟩ := detect_spec hv hmxl hmx f (s.minIdx.getD f 0) (mx.getD f 0) s.repIdx (hmx f hlt) hI.lrep
      (fun g h1 h2 => by rw [hI.eq g (by omega) h2]; exact hI.clean g (by omega) h2)
    rw [hlaterrep, hrq] at hspec
    rw [hdeq, W.lift_ok_bind]
    obtain ⟨hRa, hRl⟩ := blockR_spec (remQ exts mx s.minIdx f) (remsFrom exts mx s.minIdx nbF (f + 1))
    generalize hRdef : blockR (remQ exts mx s.minIdx f) (remsFrom exts mx s.minIdx nbF (f + 1)) = R at hspec hRa hRl ⊢
    generalize hlastdef : blockLast exts.size (remQ exts mx s.minIdx f) (remsFrom exts mx s.minIdx nbF (f + 1)) s.written = last
    have hcnt : det.repeatCount = R := by have := hspec.cnt; simp only at this; omega
    by_cases hR0 : R = 0
    · subst hR0
      have hz1 := hspec.zero rfl
      simp only at hz1
      have hst : ({ written := s.written, currFrame := s.currFrame, minIdx := s.minIdx, repIdx := det.rep } : GSt) = s := by rw [hz1]
      rw [hst, wFrameLoop_plain_eq hv f det (s.minIdx.getD f 0) (mx.getD f 0) s (hmx f hlt) (fun i' _ _ h => by omega), hrq, W.as_bind]
      obtain ⟨sF, h1, h2⟩ := ih
        { s with written := s.written + (remQ exts mx s.minIdx f).length,
                 currFrame := lastFrame s.currFrame (remQ exts mx s.minIdx f) }
        ⟨hI.lmin, hI.lrep, fun g h1 h2 => hI.eq g (by omega) h2, fun g h1 h2 => hI.clean g (by omega) h2,
          fun g h1 h2 => hI.bound g (by omega) h2⟩ (by simp only; omega)
      refine ⟨sF, ?_, h2⟩
      rw [h1]
      simp only [List.take_zero, List.drop_zero, wList, W.pure_bind, Nat.lt_irrefl, if_false, false_and, wRepBlock_zero,
        lastFrame, Nat.add_zero, Nat.zero_mul, map_drop_zero, W.bind_as]
    · have hRpos : 0 < R := by omega
      have hlne := blockR_pos (hRdef ▸ hRpos)
      have hf1 : f + 1 < nbF := by
        have : 0 < (remsFrom exts mx s.minIdx nbF (f + 1)).length := List.length_pos_iff.mpr hlne
        rw [hlen_later] at this; omega
      -- the repeated prefix and the rest, as index ranges
      obtain ⟨p1, p2, ⟨eR, heR, hfR⟩, -, -, hpostq, hpre⟩ := hspec.pos hRpos
      generalize hiRdef : det.rep.getD f 0 = iR at p1 p2 heR hpostq hpre
      replace hpostq : (remQ exts mx s.minIdx f).drop R = seg exts (iR + 1) (mx.getD f 0) f := hpostq.symm
      replace hpre : (remQ exts mx s.minIdx f).take R = seg exts (s.minIdx.getD f 0) (iR + 1) f := hpre.symm
      have hprelen : (seg exts (s.minIdx.getD f 0) (iR + 1) f).length = R := by
        rw [← hpre, List.length_take]; exact Nat.min_eq_left hRa
      have htot := total_map_drop R (remsFrom exts mx s.minIdx nbF (f + 1)) (fun r hr => (hRl r hr).1)
      have hpostlen : ((remQ exts mx s.minIdx f).drop R).length = (remQ exts mx s.minIdx f).length - R := by simp
      obtain ⟨hllnone, hflag⟩ := detSpec_flag hspec rfl
      have hpostempty : (remQ exts mx s.minIdx f).drop R = [] ↔ mx.getD f 0 ≤ iR + 1 := by
        rw [hpostq]; exact seg_eq_nil_iff (hlastp f hlt)
      have hlastV : last = decide (s.written + R + det.repeatCount * (nbF - (f + 1)) = exts.size ∨
          (det.lastLong = none ∧ mx.getD f 0 ≤ iR + 1)) := by
        rw [← hlastdef]; unfold blockLast
        rw [Bool.eq_iff_iff]
        simp only [hRdef, Bool.or_eq_true, decide_eq_true_eq, Bool.and_eq_true, List.isEmpty_iff]
        rw [hlen_later, hcnt, hllnone, hpostempty]
      -- how detection has moved the pointers of the later frames, counted from `frame_min_idx`
      have hup : ∀ g, f + 1 ≤ g → g < nbF →
          Clean exts mx (det.rep.getD g 0) g ∧ SegAdv exts g (mx.getD g 0) R (s.minIdx.getD g 0) (det.rep.getD g 0) := fun g h1 h2 => by
        have := hspec.upper g (by omega) h2
        simp only [hI.eq g (by omega) h2] at this
        exact this
      have hsegall : ∀ g, f + 1 ≤ g → g < nbF → s.minIdx.getD g 0 ≤ det.rep.getD g 0 ∧ det.rep.getD g 0 ≤ exts.size ∧
          seg exts (s.minIdx.getD g 0) (det.rep.getD g 0) g = (remQ exts mx s.minIdx g).take det.repeatCount ∧
          det.repeatCount ≤ (remQ exts mx s.minIdx g).length := by
        intro g h1 h2
        have hA := (hup g h1 h2).2
        have hb := hI.bound g (by omega) h2
        have hm := hmx g h2
        exact ⟨hA.le, by have := hA.bound; omega, hcnt ▸ hA.passed, hcnt ▸ (hRl _ (remQ_mem_remsFrom h1 h2)).1⟩
      obtain ⟨sF, r1, r2, r3, r5, r6, r7⟩ := wFrameLoop_rep_eq hv mx f hf1 det (by omega) iR (mx.getD f 0) p2 (hmx f hlt)
        eR heR hfR (s.written + R) (lastLongPos ((remQ exts mx s.minIdx f).take R)) last hlastV
        (s.minIdx.getD f 0) { s with repIdx := det.rep } hspec.len hiRdef p1 hI.lmin (by simp only; omega) ⟨hsegall,
        (fun g j' e h1 h2 h3 h4 he hfe => by
          have := hflag g j' e h2 (hI.eq g (by omega) h2 ▸ h3) he hfe
          simp only [hI.eq g (by omega) h2] at this
          cases last
          · simp
          · simpa using this)⟩
      simp only at r2 r5 r6 r7
      rw [hcnt, ← hlen_later] at r1 r6
      -- the state after the frame: the queues of the later frames have lost their first `R` entries
      have hq : ∀ g, f + 1 ≤ g → g < nbF → remQ exts mx sF.minIdx g = (remQ exts mx s.minIdx g).drop R := by
        intro g h1 h2
        unfold remQ; rw [r5 g h1 h2]; exact (hup g h1 h2).2.rest
      have hremsF : remsFrom exts mx sF.minIdx nbF (f + 1) = (remsFrom exts mx s.minIdx nbF (f + 1)).map (List.drop R) :=
        remsFrom_congr (List.drop R) hq
      obtain ⟨sG, g1, g2⟩ := ih sF
        ⟨r3, by rw [r2]; exact hspec.len, fun g h1 h2 => by rw [r2, r5 g h1 h2],
          fun g h1 h2 => by rw [r5 g h1 h2]; exact (hup g h1 h2).1,
          fun g h1 h2 => by rw [r5 g h1 h2]; exact (hsegall g h1 h2).2.1⟩
        (by rw [hremsF, r6, ← hpostq, hpostlen]; exact count_after_block hcount htot hRa)
      refine ⟨sG, ?_, g2⟩
      have hcur1 : lastFrame s.currFrame ((remQ exts mx s.minIdx f).take R) = f := by
        rw [lastFrame_same _ _ (fun e he => hfr e (List.mem_of_mem_take he))]
        simp [take_ne_nil hRpos hRa]
      rw [r1, W.as_bind, g1, hremsF, r6, r7]
      simp only [hRpos, if_true, true_and, hpostq, hcur1, ← hpre, W.bind_assoc, W.bind_as]
  | case2 f s hge =>
    intro hI hcount
    rw [remsFrom_end exts mx s.minIdx (by omega)] at hcount ⊢
    refine ⟨s, ?_, by simpa [total] using hcount⟩
    rw [wAll]; rfl

end

end Opus.ExtProofs
