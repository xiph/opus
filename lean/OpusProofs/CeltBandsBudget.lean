import OpusProofs.CeltBandsFault
/-
  C03, stage 2: the budget discipline of the band data as the code documents it (bands.c:1050-1062, 930-942).
  `ctx->remaining_bits` is the budget in 1/8 bit, `total_bits - ec_tell_frac - 1` at the start of each band.  A PVQ index is
  read only after its CACHED cost has been charged and the result is still non-negative (the "never bust the budget" loop
  lowers the pulse count until it is, or to zero pulses = no read); a sign bit of an N = 1 band is read only while at least
  one whole bit (8) remains.  That is the whole guarantee the accounting gives: it is a statement about cached costs.
  Whether `ec_tell_frac` itself stays within `total_bits` additionally depends on the cached cost bounding the true
  increment of `ec_tell_frac` for each read; nothing is proved about that here (tools/props/C03.py lists it as unproved:
  `celtFrame_overrun_bound`).
-/
namespace Opus.CeltBandsProofs
open Opus Opus.RangeCoder Opus.CeltSymsFrozen Opus.CeltBands

theorem lowerQ_le (ci : Int) : ∀ (q : Nat) (curr rem : Int), (lowerQ ci q curr rem).1 ≤ q
  | 0, _, _ => by unfold lowerQ; exact Nat.le_refl _
  | q + 1, curr, rem => by
    unfold lowerQ
    split
    · have := lowerQ_le ci q (p2b ci q) (rem + curr - p2b ci q)
      omega
    · exact Nat.le_refl _

/-- After the loop either no pulse is left (nothing will be read) or the remaining budget is non-negative. -/
theorem lowerQ_nonneg (ci : Int) : ∀ (q : Nat) (curr rem : Int), (lowerQ ci q curr rem).1 ≠ 0 → 0 ≤ (lowerQ ci q curr rem).2
  | 0, _, _, h => by unfold lowerQ at h; exact absurd rfl h
  | q + 1, curr, rem, h => by
    by_cases hlt : rem < 0
    · unfold lowerQ at h ⊢
      rw [if_pos hlt] at h ⊢
      exact lowerQ_nonneg ci q _ _ h
    · unfold lowerQ
      rw [if_neg hlt]
      show 0 ≤ rem
      omega

/-- … and the budget it returns is the budget it was given minus the cached cost of the pulse count it returns. -/
theorem lowerQ_charge (ci : Int) : ∀ (q : Nat) (rem0 : Int),
    (lowerQ ci q (p2b ci q) (rem0 - p2b ci q)).2 = rem0 - p2b ci (lowerQ ci q (p2b ci q) (rem0 - p2b ci q)).1
  | 0, rem0 => by unfold lowerQ; simp [p2b]
  | q + 1, rem0 => by
    unfold lowerQ
    split
    · have ih := lowerQ_charge ci q rem0
      have e : rem0 - p2b ci (q + 1) + p2b ci (q + 1) - p2b ci q = rem0 - p2b ci q := by omega
      rw [e]
      exact ih
    · rfl

/-- The pulse count (pseudo-pulse index `q`) a no-split partition ends with: `bits2pulses(b)` lowered by the
    "never bust the budget" loop. -/
def leafQ (i lm1 : Nat) (b : Int) (s : BSt) : Nat :=
  (lowerQ (rowOf lm1 i) (Rate.bits2pulsesRow (cacheAt (rowOf lm1 i)) b)
    (p2b (rowOf lm1 i) (Rate.bits2pulsesRow (cacheAt (rowOf lm1 i)) b))
    (s.rem - p2b (rowOf lm1 i) (Rate.bits2pulsesRow (cacheAt (rowOf lm1 i)) b))).1

theorem leafQ_le (i lm1 : Nat) (b : Int) (s : BSt) : leafQ i lm1 b s ≤ Rate.bits2pulsesRow (cacheAt (rowOf lm1 i)) b :=
  lowerQ_le ..

theorem leafQ_nonneg (i lm1 : Nat) (b : Int) (s : BSt) (h : leafQ i lm1 b s ≠ 0) :
    0 ≤ s.rem - p2b (rowOf lm1 i) (leafQ i lm1 b s) := by
  unfold leafQ at h ⊢
  rw [← lowerQ_charge]
  exact lowerQ_nonneg _ _ _ _ h

/-- `leaf` through `leafQ`: the budget is charged the cached cost of `leafQ`, the row check goes into `fault`, and the PVQ
    index is read if a pulse is left. -/
theorem leaf_eq (i lm1 N : Nat) (b : Int) (s : BSt) :
    leaf i lm1 N b s =
      if leafQ i lm1 b s ≠ 0 then
        ({ s with rem := s.rem - p2b (rowOf lm1 i) (leafQ i lm1 b s), fault := s.fault || !rowOk (rowOf lm1 i) }.uint
          (pvqFt N (Rate.getPulses (leafQ i lm1 b s)))).2
      else { s with rem := s.rem - p2b (rowOf lm1 i) (leafQ i lm1 b s), fault := s.fault || !rowOk (rowOf lm1 i) } := by
  unfold leafQ
  rw [← lowerQ_charge]
  rfl

/-- With `q = leafQ …`: the tracked budget after the leaf is the budget before minus the cached cost `pulses2bits(q)` of
    exactly that `q`; for `q = 0` nothing is read; for `q ≠ 0` the budget is still non-negative and the one call the leaf
    adds to the trace is `ec_dec_uint(V(N, get_pulses(q)))` for that same `q`. -/
theorem leaf_budget (i lm1 N : Nat) (b : Int) (s : BSt) :
    (leaf i lm1 N b s).rem = s.rem - p2b (rowOf lm1 i) (leafQ i lm1 b s) ∧
    (leafQ i lm1 b s = 0 → (leaf i lm1 N b s).tr = s.tr) ∧
    (leafQ i lm1 b s ≠ 0 → 0 ≤ (leaf i lm1 N b s).rem ∧
      ∃ v, (leaf i lm1 N b s).tr = .uint (pvqFt N (Rate.getPulses (leafQ i lm1 b s))) v :: s.tr) := by
  rw [leaf_eq]
  by_cases hq : leafQ i lm1 b s ≠ 0
  · rw [if_pos hq, uint_eq]
    exact ⟨rfl, fun h0 => absurd h0 hq, fun _ => ⟨leafQ_nonneg i lm1 b s hq, _, rfl⟩⟩
  · rw [if_neg hq]
    exact ⟨rfl, fun _ => rfl, fun h => absurd h hq⟩

/-- A sign bit of an `N = 1` band is read only while a whole bit is left, and costs exactly 8. -/
theorem n1One_budget (s : BSt) : ((n1One s).tr ≠ s.tr → 8 ≤ s.rem ∧ (n1One s).rem = s.rem - 8) ∧ ((n1One s).tr = s.tr → n1One s = s) := by
  unfold n1One
  split
  · rename_i h
    rw [raw_eq]
    exact ⟨fun _ => ⟨h, rfl⟩, fun h2 => absurd h2 (by simp)⟩
  · exact ⟨fun h => absurd rfl h, fun _ => rfl⟩

end Opus.CeltBandsProofs
