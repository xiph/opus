import OpusProofs.EncSkelFrame
import OpusProofs.EncDecideHonour
/-
  OpusProofs.EncSkelChain — the decision chain of the encoder skeleton (`EncSkel.decide'`, opus_encoder.c:1338-1628, which
  computes everything from the state and the oracle values of the analysis) IS the decision chain of property C11
  (`EncDecide.chain`, in which the DSP-dependent choices are free `Oracle` fields), at the oracle values the skeleton
  computes: `decide'_chain`.  What C11 proves for all oracle values then holds of the skeleton; `decide'_spec` reads off it
  what the chain hands to the frame encoder (a legal mode, a bandwidth in NB..FB that is at most WB in SILK-only mode, an
  unchanged rate configuration: the pre-condition `FramePre` of the frame theorem).
-/
namespace Opus.EncSkel.Proofs
open Opus Opus.EncDecide Opus.EncSkel

/-- Configuration fields no part of `opus_encode_native` changes after :1262. -/
structure Cfg (a b : St) : Prop where
  fs : b.fs = a.fs
  useVbr : b.useVbr = a.useVbr
  bitrateBps : b.bitrateBps = a.bitrateBps
  userBitrate : b.userBitrate = a.userBitrate
  channels : b.channels = a.channels

theorem Cfg.refl (a : St) : Cfg a a := ⟨rfl, rfl, rfl, rfl, rfl⟩
theorem Cfg.trans {a b c : St} (h1 : Cfg a b) (h2 : Cfg b c) : Cfg a c :=
  ⟨h2.fs.trans h1.fs, h2.useVbr.trans h1.useVbr, h2.bitrateBps.trans h1.bitrateBps,
   h2.userBitrate.trans h1.userBitrate, h2.channels.trans h1.channels⟩
theorem Keeps.cfg {a b : St} (h : Keeps a b) : Cfg a b := by
  unfold Keeps at h
  refine ⟨?_, ?_, ?_, ?_, ?_⟩ <;> (rw [h])

def ModeOk (m : Int) : Prop := m = MODE_SILK_ONLY ∨ m = MODE_HYBRID ∨ m = MODE_CELT_ONLY
def BwOk (b : Int) : Prop := BW_NB ≤ b ∧ b ≤ BW_FB

theorem BwOk.le_wb {b : Int} (h : BwOk b) (hw : b ≤ BW_WB) : b = BW_NB ∨ b = BW_MB ∨ b = BW_WB := by
  unfold BwOk at h
  simp only [BW_NB, BW_MB, BW_WB, BW_FB] at *
  omega

theorem BwOk.ge_swb {b : Int} (h : BwOk b) (hw : BW_SWB ≤ b) : b = BW_SWB ∨ b = BW_FB := by
  unfold BwOk at h
  simp only [BW_NB, BW_SWB, BW_FB] at *
  omega

/-- The decision chain only writes these fields. -/
def Same (a b : St) : Prop :=
  b = { a with streamChannels := b.streamChannels, silkUseDtx := b.silkUseDtx, mode := b.mode, toMono := b.toMono,
               bandwidth := b.bandwidth, autoBandwidth := b.autoBandwidth,
               detectedBandwidth := b.detectedBandwidth, lbrrCoded := b.lbrrCoded, nbNoActivity := b.nbNoActivity }

theorem Same.refl (a : St) : Same a a := rfl
theorem Same.trans {a b c : St} (h1 : Same a b) (h2 : Same b c) : Same a c := by
  unfold Same at *; rw [h2, h1]
theorem Same.cfg {a b : St} (h : Same a b) : Cfg a b := by
  unfold Same at h
  refine ⟨?_, ?_, ?_, ?_, ?_⟩ <;> (rw [h])

/-- The settings the chain reads (from `stOk`). -/
structure Settings (s : St) : Prop where
  forced : s.userForcedMode = OPUS_AUTO ∨ (MODE_SILK_ONLY ≤ s.userForcedMode ∧ s.userForcedMode ≤ MODE_CELT_ONLY)
  userBw : s.userBandwidth = OPUS_AUTO ∨ (BW_NB ≤ s.userBandwidth ∧ s.userBandwidth ≤ BW_FB)
  maxBw : BW_NB ≤ s.maxBandwidth ∧ s.maxBandwidth ≤ BW_FB
  prevMode : s.prevMode = 0 ∨ (MODE_SILK_ONLY ≤ s.prevMode ∧ s.prevMode ≤ MODE_CELT_ONLY)

theorem Same.settings {a b : St} (h : Same a b) (hs : Settings a) : Settings b := by
  unfold Same at h
  obtain ⟨h1, h2, h3, h4⟩ := hs
  refine ⟨?_, ?_, ?_, ?_⟩ <;> (rw [h]) <;> assumption

theorem modeThresh_ok (s : St) (o : NatOr) (ve er : Int) :
    modeThresh s o ve er = MODE_SILK_ONLY ∨ modeThresh s o ve er = MODE_CELT_ONLY := by
  unfold modeThresh
  extract_lets thr0 thr1 thr
  clear_value thr
  (repeat' split) <;> first | exact Or.inl rfl | exact Or.inr rfl

theorem modeAuto_ok (s : St) (fuzz : Bool) (o : NatOr) (ve er : Int) (rands : List Int) :
    (modeAuto s fuzz o ve er rands).1 = MODE_SILK_ONLY ∨ (modeAuto s fuzz o ve er rands).1 = MODE_CELT_ONLY := by
  unfold modeAuto
  split
  · split
    · split
      · exact Or.inr rfl
      · exact Or.inl rfl
    · split
      · exact Or.inr rfl
      · exact Or.inl rfl
  · exact modeThresh_ok s o ve er

theorem decChan_same (s : St) (fuzz : Bool) (o : NatOr) (fsz : Int) : Same s (decChan s fuzz o fsz).1 := rfl

theorem decMode_same (s : St) (t : Trans) : Same s (decMode s t) := by
  unfold decMode; split <;> rfl

theorem decMode_bw (s : St) (t : Trans) : (decMode s t).bandwidth = s.bandwidth := by
  unfold decMode; split <;> rfl

theorem BwOk.ite {c : Prop} [Decidable c] {x y : Int} (hx : c → BwOk x) (hy : ¬ c → BwOk y) :
    BwOk (if c then x else y) := by
  split
  · exact hx ‹_›
  · exact hy ‹_›

/-- The threshold walk returns one of its candidates, or NB when it runs off the end. -/
theorem bwWalk_mem (th : List Int) (first ab er : Int) (l : List Int) :
    bwWalk th first ab er l = BW_NB ∨ bwWalk th first ab er l ∈ l := by
  induction l with
  | nil => exact Or.inl rfl
  | cons bw rest ih =>
    have step : ∀ (c : Prop) [Decidable c], (if c then bw else bwWalk th first ab er rest) = BW_NB ∨
        (if c then bw else bwWalk th first ab er rest) ∈ bw :: rest := by
      intro c _
      split
      · exact Or.inr List.mem_cons_self
      · exact ih.imp_right (List.mem_cons_of_mem _)
    unfold bwWalk
    exact step _

theorem bwWalk_ok (th : List Int) (first ab er : Int) : BwOk (bwWalk th first ab er [BW_FB, BW_SWB, BW_WB, BW_MB]) := by
  rcases bwWalk_mem th first ab er [BW_FB, BW_SWB, BW_WB, BW_MB] with h | h
  · rw [h]; exact ⟨by decide, by decide⟩
  · simp only [List.mem_cons, List.mem_nil_iff, or_false] at h
    rcases h with h | h | h | h <;> rw [h] <;> exact ⟨by decide, by decide⟩

/-- The bandwidth tail of the chain (:1519-1628) writes only these fields. -/
def TailSame (a b : St) : Prop :=
  b = { a with bandwidth := b.bandwidth, autoBandwidth := b.autoBandwidth, detectedBandwidth := b.detectedBandwidth,
               lbrrCoded := b.lbrrCoded, mode := b.mode }

theorem TailSame.trans {a b c : St} (h1 : TailSame a b) (h2 : TailSame b c) : TailSame a c := by
  unfold TailSame at *; rw [h2, h1]
theorem TailSame.same {a b : St} (h : TailSame a b) : Same a b := by
  unfold TailSame at h; unfold Same; rw [h]
theorem TailSame.channels {a b : St} (h : TailSame a b) : b.streamChannels = a.streamChannels ∧ b.toMono = a.toMono := by
  unfold TailSame at h; constructor <;> rw [h]
/-- The settings the stages of the tail read. -/
theorem TailSame.reads {a b : St} (h : TailSame a b) :
    b.maxBandwidth = a.maxBandwidth ∧ b.userBandwidth = a.userBandwidth ∧ b.fs = a.fs ∧ b.lfe = a.lfe := by
  unfold TailSame at h; refine ⟨?_, ?_, ?_, ?_⟩ <;> rw [h]

theorem autoBw_same (s : St) (ve er : Int) : TailSame s (autoBandwidthUpd s ve er) := by
  unfold autoBandwidthUpd
  split
  · extract_lets w bw s1
    split <;> rfl
  · rfl
theorem bwClamp_same (s : St) (r : Int) : TailSame s (bwClamp s r) := rfl
theorem detectedClamp_same (s : St) (er : Int) : TailSame s (detectedClamp s er) := by
  unfold detectedClamp; split <;> rfl
theorem decFec_same (s : St) (er : Int) : TailSame s (decFec s er) := rfl

theorem tail_same (b : St) (ve er r : Int) :
    TailSame b (decFec (detectedClamp (bwClamp (autoBandwidthUpd b ve er) r) er) er) :=
  (((autoBw_same b ve er).trans (bwClamp_same _ r)).trans (detectedClamp_same _ er)).trans (decFec_same _ er)

theorem autoBw_spec (s : St) (ve er : Int) (hb : BwOk s.bandwidth) :
    (autoBandwidthUpd s ve er).mode = s.mode ∧ BwOk (autoBandwidthUpd s ve er).bandwidth := by
  unfold autoBandwidthUpd
  split
  · extract_lets w bw s1
    have hw : BwOk bw := BwOk.ite (fun _ => ⟨by decide, by decide⟩) (fun _ => bwWalk_ok _ _ _ _)
    refine ⟨by split <;> rfl, ?_⟩
    split
    · exact (⟨by decide, by decide⟩ : BwOk BW_WB)
    · exact hw
  · exact ⟨rfl, hb⟩

theorem decideFecLoop_ok (n : Nat) (loss last bw rate orig : Int) (h1 : BW_NB ≤ bw) (h2 : BW_NB ≤ orig) :
    BW_NB ≤ (decideFecLoop n loss last bw rate orig).2 ∧
    (decideFecLoop n loss last bw rate orig).2 ≤ max bw orig := by
  induction n generalizing bw with
  | zero => unfold decideFecLoop; omega
  | succ n ih =>
    unfold decideFecLoop
    extract_lets t0 hy t1 t2 thres
    clear_value thres
    simp only [BW_NB] at *
    have := ih (bw - 1)
    (repeat' split) <;> omega

/-- The decision state of C11 that a skeleton state determines. -/
def dstOf (s : St) : DSt :=
  { fs := s.fs, channels := s.channels, application := s.application, userBitrate := s.userBitrate, useVbr := s.useVbr,
    forceChannels := s.forceChannels, maxBandwidth := s.maxBandwidth, userBandwidth := s.userBandwidth,
    userForcedMode := s.userForcedMode, lfe := s.lfe, streamChannels := s.streamChannels, mode := s.mode,
    prevMode := s.prevMode, prevChannels := s.prevChannels, prevFramesize := s.prevFramesize, bandwidth := s.bandwidth,
    first := decide (s.first ≠ 0), toMono := s.toMono }

/-- The clamps of :1565-1586 are C11's `clampBw`. -/
theorem bwClamp_eq (s : St) (r : Int) : (bwClamp s r).bandwidth = clampBw (dstOf s) s.mode r s.bandwidth := rfl

/-- What the bandwidth tail of the chain (:1519-1628) computes from the state `b` after the mode decision, as the oracle
    values of C11's `chain`. -/
def tailOracle (b : St) (ve er r : Int) (o0 : Oracle) : Oracle :=
  let c1 := autoBandwidthUpd b ve er
  let c2 := bwClamp c1 r
  let c3 := detectedClamp c2 er
  { o0 with
    allowBwSwitch := decide (b.allowBwSwitch ≠ 0)
    autoBandwidth := c1.bandwidth
    detected := if c2.detectedBandwidth ≠ 0 ∧ c2.userBandwidth = OPUS_AUTO then min c3.detectedBandwidth BW_FB else 0
    fecBandwidth := (decideFec c3.useInBandFEC c3.lossPerc c3.lbrrCoded c3.mode c3.bandwidth er).2 }

/-- :1589-1609 keep the mode; when the block runs, `detected_bandwidth` is at least NB afterwards and caps the
    bandwidth; otherwise nothing changes. -/
theorem detectedClamp_cases (s : St) (er : Int) :
    (detectedClamp s er).mode = s.mode ∧
    (s.detectedBandwidth ≠ 0 ∧ s.userBandwidth = OPUS_AUTO →
      BW_NB ≤ (detectedClamp s er).detectedBandwidth ∧
      (detectedClamp s er).bandwidth = min s.bandwidth (detectedClamp s er).detectedBandwidth) ∧
    (¬ (s.detectedBandwidth ≠ 0 ∧ s.userBandwidth = OPUS_AUTO) → detectedClamp s er = s) := by
  unfold detectedClamp
  refine ⟨by split <;> rfl, ?_, ?_⟩
  · intro h
    rw [if_pos h]
    extract_lets sc celt minDet det
    have hmin : BwOk minDet :=
      BwOk.ite (fun _ => ⟨by decide, by decide⟩) fun _ => BwOk.ite (fun _ => ⟨by decide, by decide⟩) fun _ =>
        BwOk.ite (fun _ => ⟨by decide, by decide⟩) fun _ => BwOk.ite (fun _ => ⟨by decide, by decide⟩) fun _ =>
          ⟨by decide, by decide⟩
    exact ⟨Int.le_trans hmin.1 (Int.le_max_right _ _), rfl⟩
  · intro h; rw [if_neg h]

theorem decideFec_le (fec loss last mode bw rate : Int) (hb : BW_NB ≤ bw) :
    BW_NB ≤ (decideFec fec loss last mode bw rate).2 ∧ (decideFec fec loss last mode bw rate).2 ≤ bw := by
  unfold decideFec
  split
  · exact ⟨hb, Int.le_refl _⟩
  · have := decideFecLoop_ok 5 loss last bw rate bw hb hb
    omega

/-- The bandwidth tail of `decide'` is C11's `autoBw` / `clampBw` / `finishBw` / `modeFix` at the oracle values `tailOracle`.
    The fields the tail only reads (maximum and user bandwidth, `Fs`, LFE flag) are those of `b` at every stage (`TailSame.reads`);
    the guard `NB ≤ fec ≤ bw` of `finishBw` holds because `decide_fec` only lowers the bandwidth (`decideFec_le`). -/
theorem tail_refines (b : St) (ve er r : Int) (o0 : Oracle) (hb : BwOk b.bandwidth) (hs : Settings b) :
    let d := decFec (detectedClamp (bwClamp (autoBandwidthUpd b ve er) r) er) er
    let o := tailOracle b ve er r o0
    autoBw (dstOf b) o b.mode = (autoBandwidthUpd b ve er).bandwidth ∧
    d.bandwidth = finishBw (dstOf b) o b.mode (clampBw (dstOf b) b.mode r (autoBandwidthUpd b ve er).bandwidth) ∧
    d.mode = modeFix b.mode d.bandwidth := by
  intro d o
  have hd : d = decFec (detectedClamp (bwClamp (autoBandwidthUpd b ve er) r) er) er := rfl
  clear_value d
  obtain ⟨h1m, h1b⟩ := autoBw_spec b ve er hb
  have h1s := autoBw_same b ve er
  have f1 := h1s.reads
  have hu2 := (h1s.trans (bwClamp_same _ r)).reads.2.1
  have hl3 := ((h1s.trans (bwClamp_same _ r)).trans (detectedClamp_same _ er)).reads.2.2.2
  have hs1 : Settings (autoBandwidthUpd b ve er) := h1s.same.settings hs
  have h2m : (bwClamp (autoBandwidthUpd b ve er) r).mode = (autoBandwidthUpd b ve er).mode := rfl
  have h2b : BwOk (bwClamp (autoBandwidthUpd b ve er) r).bandwidth := by
    rw [bwClamp_eq]; exact clampBw_range hs1.maxBw hs1.userBw h1b
  have hauto : autoBw (dstOf b) o b.mode = (autoBandwidthUpd b ve er).bandwidth := by
    unfold autoBw
    split
    · rfl
    · rename_i hc
      have : autoBandwidthUpd b ve er = b := by
        unfold autoBandwidthUpd
        rw [if_neg]
        intro h; apply hc
        rcases h with h | h | h
        · exact Or.inl h
        · exact Or.inr (Or.inl (by simpa [dstOf] using h))
        · exact Or.inr (Or.inr (by simpa [o, tailOracle] using h))
      show b.bandwidth = _
      rw [this]
  refine ⟨hauto, ?_⟩
  clear hauto
  have hclamp : clampBw (dstOf b) b.mode r (autoBandwidthUpd b ve er).bandwidth = (bwClamp (autoBandwidthUpd b ve er) r).bandwidth := by
    rw [bwClamp_eq, h1m]
    unfold clampBw dstOf
    simp only [f1.1, f1.2.1, f1.2.2.1]
  generalize hc1 : autoBandwidthUpd b ve er = c1 at *
  generalize hc2 : bwClamp c1 r = c2 at *
  obtain ⟨h3m, dpos, dneg⟩ := detectedClamp_cases c2 er
  have h3b : BW_NB ≤ (detectedClamp c2 er).bandwidth := by
    by_cases hc : c2.detectedBandwidth ≠ 0 ∧ c2.userBandwidth = OPUS_AUTO
    · rw [(dpos hc).2]; exact Int.le_min.mpr ⟨h2b.1, (dpos hc).1⟩
    · rw [dneg hc]; exact h2b.1
  have hfec := decideFec_le (detectedClamp c2 er).useInBandFEC (detectedClamp c2 er).lossPerc (detectedClamp c2 er).lbrrCoded
    (detectedClamp c2 er).mode (detectedClamp c2 er).bandwidth er h3b
  have hod : o.detected = if c2.detectedBandwidth ≠ 0 ∧ c2.userBandwidth = OPUS_AUTO then min (detectedClamp c2 er).detectedBandwidth BW_FB else 0 := by
    simp only [o, tailOracle, hc1, hc2]
  have hof : o.fecBandwidth = (decideFec (detectedClamp c2 er).useInBandFEC (detectedClamp c2 er).lossPerc (detectedClamp c2 er).lbrrCoded
    (detectedClamp c2 er).mode (detectedClamp c2 er).bandwidth er).2 := by
    simp only [o, tailOracle, hc1, hc2]
  have hbw1 : (if o.detected ≠ 0 ∧ (dstOf b).userBandwidth = OPUS_AUTO then min c2.bandwidth o.detected else c2.bandwidth) =
      (detectedClamp c2 er).bandwidth := by
    rw [hod]
    by_cases hc : c2.detectedBandwidth ≠ 0 ∧ c2.userBandwidth = OPUS_AUTO
    · obtain ⟨p1, p2⟩ := dpos hc
      have := h2b.2
      simp only [BW_NB, BW_FB] at p1 this ⊢
      rw [if_pos hc, p2, if_pos ⟨by omega, by show b.userBandwidth = _; rw [← hu2]; exact hc.2⟩]
      omega
    · rw [if_neg hc, dneg hc, if_neg (fun h => h.1 rfl)]
  have hdb : d.bandwidth = finishBw (dstOf b) o b.mode c2.bandwidth := by
    unfold finishBw
    simp only [hbw1, hof]
    rw [if_pos hfec]
    rw [hd]
    unfold decFec
    simp only [h3m, h2m, h1m, hl3]
    rfl
  refine ⟨by rw [hclamp]; exact hdb, ?_⟩
  rw [hd]
  unfold decFec modeFix
  simp only [h3m, h2m, h1m]

theorem transDecide_eq (m pm f fs : Int) :
    (transDecide m pm f fs).mode = (modeTransition m pm f fs).mode ∧
    (transDecide m pm f fs).redundancy = (modeTransition m pm f fs).redundancy ∧
    (transDecide m pm f fs).celtToSilk = (modeTransition m pm f fs).celtToSilk ∧
    (transDecide m pm f fs).toCelt = (modeTransition m pm f fs).toCelt := by
  unfold transDecide modeTransition
  by_cases h1 : pm > 0 ∧ ((m ≠ MODE_CELT_ONLY ∧ pm = MODE_CELT_ONLY) ∨ (m = MODE_CELT_ONLY ∧ pm ≠ MODE_CELT_ONLY))
  · rw [if_pos h1, if_pos h1]
    by_cases h2 : m ≠ MODE_CELT_ONLY
    · simp [h2]
    · have h2' : m = MODE_CELT_ONLY := Decidable.not_not.mp h2
      by_cases h3 : f ≥ fs / 100 <;> simp [h2', h3]
  · rw [if_neg h1, if_neg h1]; exact ⟨rfl, rfl, rfl, rfl⟩

theorem decMode_eq (s : St) (t : EncSkel.Trans) :
    (decMode s t).mode = t.mode ∧
    ((decMode s t).streamChannels, (decMode s t).toMono) = monoDelay s.streamChannels s.prevChannels s.toMono t.mode s.prevMode := by
  unfold decMode monoDelay
  split <;> exact ⟨rfl, rfl⟩

/-- The requested mode (:1408-1475) is C11's `modeDecision` with the automatic choice as the oracle value. -/
theorem modeDecide_eq (s : St) (fuzz : Bool) (o : NatOr) (ve er fsz m : Int) (rands : List Int) (o0 : Oracle) :
    (modeDecide s fuzz o ve er fsz m rands).1 =
      modeDecision (dstOf s) { o0 with autoMode :=
        (if m < (if s.fs / fsz > 50 then 9000 else 6000) * fsz / (s.fs * 8) then MODE_CELT_ONLY
         else (modeAuto s fuzz o ve er rands).1) } fsz := by
  unfold modeDecide modeReq modeDecision
  show _ = (if s.lfe ≠ 0 then _ else _)
  by_cases hl : s.lfe ≠ 0
  · rw [if_pos hl, if_pos hl]
  · rw [if_neg hl, if_neg hl]
    by_cases ha : s.application = APP_RESTRICTED_LOWDELAY
    · simp [dstOf, ha]
    · by_cases hu : s.userForcedMode = OPUS_AUTO
      · simp only [dstOf, ha, hu, if_true, if_false]
      · simp only [dstOf, ha, hu, if_false]

/-- The state after the mode decision (:1338-1506), the equivalent rate of :1509 and `max_rate` of :1338, as `decide'` forms them. -/
def midSt (s : St) (fuzz : Bool) (o : NatOr) (fsz m : Int) : St :=
  let a := decChan s fuzz o fsz
  decMode a.1 (transDecide (modeDecide a.1 fuzz o (voiceEst s)
    (computeEquivRate s.bitrateBps a.1.streamChannels (s.fs / fsz) s.useVbr 0 s.complexity s.lossPerc) fsz m a.2).1
    s.prevMode fsz s.fs)

/-- The oracle values of the front part of the chain: the channel count of :1359-1384 and the automatic mode of :1413-1462
    (with the `max_data_bytes` override of :1465 folded in); the bandwidth fields are filled by `tailOracle`. -/
def frontOracle (s : St) (fuzz : Bool) (o : NatOr) (fsz m : Int) : Oracle :=
  let a := decChan s fuzz o fsz
  { autoChannels := a.1.streamChannels
    autoMode := if m < (if s.fs / fsz > 50 then 9000 else 6000) * fsz / (s.fs * 8) then MODE_CELT_ONLY
                else (modeAuto a.1 fuzz o (voiceEst s)
                  (computeEquivRate s.bitrateBps a.1.streamChannels (s.fs / fsz) s.useVbr 0 s.complexity s.lossPerc) a.2).1
    allowBwSwitch := false, autoBandwidth := 0, detected := 0, fecBandwidth := 0, silkBandwidth := 0, completion := 0 }

/-- The oracle values of C11's `chain` that the skeleton computes for a call. -/
def oracleOf (s : St) (fuzz : Bool) (o : NatOr) (fsz m : Int) : Oracle :=
  tailOracle (midSt s fuzz o fsz m) (voiceEst s) (equivRate2 (midSt s fuzz o fsz m) fsz) ((s.fs / fsz) * m * 8)
    (frontOracle s fuzz o fsz m)

theorem decide'_st (s : St) (fuzz : Bool) (o : NatOr) (fsz m : Int) :
    (decide' s fuzz o fsz m).st =
      decFec (detectedClamp (bwClamp (autoBandwidthUpd (midSt s fuzz o fsz m) (voiceEst s) (equivRate2 (midSt s fuzz o fsz m) fsz))
        ((s.fs / fsz) * m * 8)) (equivRate2 (midSt s fuzz o fsz m) fsz)) (equivRate2 (midSt s fuzz o fsz m) fsz) := rfl

theorem midSt_same (s : St) (fuzz : Bool) (o : NatOr) (fsz m : Int) :
    Same s (midSt s fuzz o fsz m) ∧ (midSt s fuzz o fsz m).bandwidth = s.bandwidth :=
  ⟨(decChan_same s fuzz o fsz).trans (decMode_same _ _), decMode_bw _ _⟩

/-- The oracle values the skeleton computes lie where C11 assumes them (`OracleOk`, but for the channel count, which needs
    the channel part of `stOk`). -/
theorem oracleOf_ranges (s : St) (fuzz : Bool) (o : NatOr) (fsz m : Int) (hb : BwOk s.bandwidth) :
    ((oracleOf s fuzz o fsz m).autoMode = 1000 ∨ (oracleOf s fuzz o fsz m).autoMode = 1002) ∧
    (1101 ≤ (oracleOf s fuzz o fsz m).autoBandwidth ∧ (oracleOf s fuzz o fsz m).autoBandwidth ≤ 1105) ∧
    ((oracleOf s fuzz o fsz m).detected = 0 ∨
      (1101 ≤ (oracleOf s fuzz o fsz m).detected ∧ (oracleOf s fuzz o fsz m).detected ≤ 1105)) := by
  refine ⟨?_, (autoBw_spec _ _ _ (by rw [(midSt_same s fuzz o fsz m).2]; exact hb)).2, ?_⟩
  · have key : ∀ (c : Prop) [Decidable c] (x : Int), (x = 1000 ∨ x = 1002) →
        ((if c then MODE_CELT_ONLY else x) = 1000 ∨ (if c then MODE_CELT_ONLY else x) = 1002) := by
      intro c _ x hx
      split
      · exact Or.inr rfl
      · exact hx
    exact key _ _ (modeAuto_ok _ fuzz o _ _ _)
  · have key : ∀ (c : Prop) [Decidable c] (x : Int), (c → BW_NB ≤ x) →
        ((if c then min x BW_FB else 0) = 0 ∨ (1101 ≤ (if c then min x BW_FB else 0) ∧ (if c then min x BW_FB else 0) ≤ 1105)) := by
      intro c _ x hx
      split
      · have := hx ‹_›
        simp only [BW_NB, BW_FB] at this ⊢
        omega
      · exact Or.inl rfl
    exact key _ _ fun hc => ((detectedClamp_cases _ (equivRate2 (midSt s fuzz o fsz m) fsz)).2.1 hc).1

/-- **The skeleton's decision chain is C11's `chain`** at the oracle values `oracleOf`: same mode, bandwidth, channel count,
    `toMono` and transition flags.  (The two channel facts need that a mono encoder codes mono — part of `stOk`: the
    FUZZING build's channel choice keeps `stream_channels` there, C11's `chanDecision` says `channels`.) -/
theorem decide'_chain (s : St) (fuzz : Bool) (o : NatOr) (fsz m : Int) (hs : Settings s) (hb : BwOk s.bandwidth) :
    (decide' s fuzz o fsz m).st.mode = (chain (dstOf s) (oracleOf s fuzz o fsz m) fsz m).mode ∧
    (decide' s fuzz o fsz m).st.bandwidth = (chain (dstOf s) (oracleOf s fuzz o fsz m) fsz m).bandwidth ∧
    (decide' s fuzz o fsz m).toCelt = (chain (dstOf s) (oracleOf s fuzz o fsz m) fsz m).toCelt ∧
    (decide' s fuzz o fsz m).redundancy = (chain (dstOf s) (oracleOf s fuzz o fsz m) fsz m).redundancy ∧
    (decide' s fuzz o fsz m).celtToSilk = (chain (dstOf s) (oracleOf s fuzz o fsz m) fsz m).celtToSilk ∧
    ((s.channels ≠ 2 → s.streamChannels = s.channels) →
      (decide' s fuzz o fsz m).st.streamChannels = (chain (dstOf s) (oracleOf s fuzz o fsz m) fsz m).streamChannels ∧
      (decide' s fuzz o fsz m).st.toMono = (chain (dstOf s) (oracleOf s fuzz o fsz m) fsz m).toMono) := by
  let a := decChan s fuzz o fsz
  let er0 := computeEquivRate s.bitrateBps a.1.streamChannels (s.fs / fsz) s.useVbr 0 s.complexity s.lossPerc
  let md := modeDecide a.1 fuzz o (voiceEst s) er0 fsz m a.2
  let t := transDecide md.1 s.prevMode fsz s.fs
  have hbdef : midSt s fuzz o fsz m = decMode a.1 t := rfl
  generalize hO : oracleOf s fuzz o fsz m = O
  -- requested mode (:1408-1475) and the transition logic (:1477-1494)
  have hmd : modeDecision (dstOf s) O fsz = md.1 := by
    rw [← hO]; exact (modeDecide_eq a.1 fuzz o (voiceEst s) er0 fsz m a.2 (oracleOf s fuzz o fsz m)).symm
  obtain ⟨t1, t2, t3, t4⟩ := transDecide_eq md.1 s.prevMode fsz s.fs
  have htr : trOf (dstOf s) O fsz = modeTransition md.1 s.prevMode fsz s.fs := by unfold trOf; rw [hmd]; rfl
  -- the delayed stereo → mono switch (:1498-1506)
  obtain ⟨hbm, hbmono⟩ := decMode_eq a.1 t
  -- bandwidth (:1519-1628)
  have hsb := (midSt_same s fuzz o fsz m).1
  have hbb : BwOk (midSt s fuzz o fsz m).bandwidth := by rw [(midSt_same s fuzz o fsz m).2]; exact hb
  obtain ⟨e0, e1, e2⟩ := tail_refines (midSt s fuzz o fsz m) (voiceEst s) (equivRate2 (midSt s fuzz o fsz m) fsz)
    ((s.fs / fsz) * m * 8) (frontOracle s fuzz o fsz m) hbb (hsb.settings hs)
  obtain ⟨e3, e4⟩ := (tail_same (midSt s fuzz o fsz m) (voiceEst s) (equivRate2 (midSt s fuzz o fsz m) fsz)
    ((s.fs / fsz) * m * 8)).channels
  rw [← decide'_st] at e1 e2 e3 e4
  change _ = finishBw _ (oracleOf s fuzz o fsz m) _ _ at e1
  change autoBw _ (oracleOf s fuzz o fsz m) _ = _ at e0
  rw [hO] at e0 e1
  -- the settings the bandwidth chain reads are those of `s`
  have hD : dstOf (midSt s fuzz o fsz m) =
      { dstOf s with
        streamChannels := (midSt s fuzz o fsz m).streamChannels
        mode := (midSt s fuzz o fsz m).mode
        toMono := (midSt s fuzz o fsz m).toMono
        bandwidth := (midSt s fuzz o fsz m).bandwidth } := by
    unfold Same at hsb
    conv => lhs; rw [hsb]
    rfl
  have hmt : t.mode = (trOf (dstOf s) O fsz).mode := by rw [htr]; exact t1
  have hmode : (midSt s fuzz o fsz m).mode = (trOf (dstOf s) O fsz).mode := by rw [hbdef, hbm, hmt]
  have hbw : (decide' s fuzz o fsz m).st.bandwidth = bwOf (dstOf s) O fsz m := by
    rw [e1, ← e0, hD, hmode]
    unfold bwOf
    rw [(midSt_same s fuzz o fsz m).2]
    rfl
  rw [chain_mode, chain_bandwidth, chain_streamChannels, chain_toMono, chain_toCelt]
  refine ⟨by rw [e2, hbw, hmode], hbw, by rw [htr]; exact t4, by rw [← htr] at t2; exact t2, by rw [← htr] at t3; exact t3, ?_⟩
  intro hch
  -- channels (:1359-1384)
  have hcd : chanDecision (dstOf s) O = a.1.streamChannels := by
    have hA : O.autoChannels = a.1.streamChannels := by rw [← hO]; rfl
    have hA' : a.1.streamChannels = (chanDecide s fuzz (voiceEst s)
        (computeEquivRate s.bitrateBps s.channels (s.fs / fsz) s.useVbr 0 s.complexity s.lossPerc) o.rands).1 := rfl
    unfold chanDecision
    show (if s.forceChannels ≠ OPUS_AUTO ∧ s.channels = 2 then s.forceChannels
          else if s.channels = 2 then O.autoChannels else s.channels) = _
    by_cases h1 : s.forceChannels ≠ OPUS_AUTO ∧ s.channels = 2
    · rw [if_pos h1, hA']; unfold chanDecide; rw [if_pos h1]
    · rw [if_neg h1]
      by_cases h2 : s.channels = 2
      · rw [if_pos h2, hA]
      · rw [if_neg h2, hA']; unfold chanDecide; rw [if_neg h1]
        cases fuzz
        · simp only [Bool.false_eq_true, if_false, if_neg h2]
        · simp only [if_true, if_neg h2]; exact (hch h2).symm
  constructor
  · rw [e3, hcd, ← hmt]
    exact congrArg Prod.fst hbmono
  · rw [e4, hcd, ← hmt]
    exact congrArg Prod.snd hbmono

/-- **Decision chain.**  Whatever the oracles say, the chain leaves a legal mode, a bandwidth in
    NB..FB (at most WB in SILK-only mode) and does not touch the rate configuration. -/
theorem decide'_spec (s : St) (fuzz : Bool) (o : NatOr) (fsz m : Int) (hs : Settings s) (hb : BwOk s.bandwidth) :
    Same s (decide' s fuzz o fsz m).st ∧ ModeOk (decide' s fuzz o fsz m).st.mode ∧
    BwOk (decide' s fuzz o fsz m).st.bandwidth ∧
    ((decide' s fuzz o fsz m).st.mode = MODE_SILK_ONLY → (decide' s fuzz o fsz m).st.bandwidth ≤ BW_WB) ∧
    ((decide' s fuzz o fsz m).st.mode = MODE_HYBRID → BW_SWB ≤ (decide' s fuzz o fsz m).st.bandwidth) ∧
    ((decide' s fuzz o fsz m).st.mode ≠ MODE_CELT_ONLY → s.fs / 100 ≤ fsz) := by
  obtain ⟨hmid, -⟩ := midSt_same s fuzz o fsz m
  have hsame : Same s (decide' s fuzz o fsz m).st := by
    rw [decide'_st]; exact hmid.trans (tail_same _ _ _ _).same
  obtain ⟨hm, hbw, -⟩ := decide'_chain s fuzz o fsz m hs hb
  obtain ⟨omode, obw, odet⟩ := oracleOf_ranges s fuzz o fsz m hb
  generalize oracleOf s fuzz o fsz m = O at *
  -- C11, for all oracle values: the mode after :1477-1494 is legal, the bandwidth of :1621 is in NB..FB, and :1625-1628
  -- (`modeFix`) make SILK-only mean at most WB, hybrid above WB; frames below 10 ms are CELT-only
  have htr : 1000 ≤ (trOf (dstOf s) O fsz).mode ∧ (trOf (dstOf s) O fsz).mode ≤ 1002 :=
    modeTransition_range (modeDecision_range hs.forced omode fsz) hs.prevMode
  have hr : 1101 ≤ bwOf (dstOf s) O fsz m ∧ bwOf (dstOf s) O fsz m ≤ 1105 :=
    finishBw_range odet (clampBw_range hs.maxBw hs.userBw (autoBw_range (s := dstOf s) hb obw _))
  have hfr := modeFix_range (bw := bwOf (dstOf s) O fsz m) htr
  have hfb := modeFix_bw (bw := bwOf (dstOf s) O fsz m) htr
  rw [chain_mode] at hm
  rw [chain_bandwidth] at hbw
  rw [← hm, ← hbw] at hfb
  rw [← hm] at hfr
  rw [← hbw] at hr
  refine ⟨hsame, ?_, hr, hfb.1, hfb.2, fun hne => ?_⟩
  · unfold ModeOk
    simp only [MODE_SILK_ONLY, MODE_HYBRID, MODE_CELT_ONLY]
    omega
  · apply Decidable.byContradiction
    intro hlt
    apply hne
    rw [hm, modeFix_celt]
    exact trOf_short (s := dstOf s) (show fsz < s.fs / 100 by omega)

end Opus.EncSkel.Proofs
