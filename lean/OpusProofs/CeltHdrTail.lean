import OpusProofs.CeltHdrCoarse
/-
  OpusProofs.CeltHdrTail — the header fields behind the coarse energies: tf_encode/tf_decode, spread, the dynalloc loops and
  the allocation trim, each as a `Stage` (OpusProofs/CeltHdrFlags.lean).  As for the flags and the coarse energy, the content is
  that the decoder's
  budget tests (against `len*8`, with a shrinking `total_bits`) take the same branch as the encoder's (against
  `nbCompressedBytes*8`, `enc->storage*8`, and `total_bits - total_boost`).
-/
namespace OpusProofs.CeltHdr
open Opus Opus.RangeCoder Opus.CeltSymsEnc

/-- the decoder's view of the frame configuration -/
abbrev cfgD (cfg : EncCfg) : Opus.CeltSyms.CeltCfg := ⟨cfg.start, cfg.end_, cfg.C, cfg.LM⟩

section
variable {size1 tbMax len : Nat}

/-- the two budgets are the two packet sizes less the same reservation -/
def TfBud (size1 len : Nat) (budE budD : Int) : Prop :=
  ∃ rsv : Nat, rsv ≤ 1 ∧ budE = ((size1 * 8 : Nat) : Int) - rsv ∧ budD = ((len * 8 : Nat) : Int) - rsv

/-- a `tf_res` flag (`logp <= 5`) is tested alike against the two budgets -/
theorem TfBud.test_iff {budE budD t : Int} (h : TfBud size1 len budE budD)
    (bud : BudOk ((size1 * 8 : Nat) : Int) ((len * 8 : Nat) : Int) t) {logp : Nat} (hl : logp ≤ 5) :
    t + (logp : Int) ≤ budE ↔ t + (logp : Int) ≤ budD := by
  obtain ⟨rsv, hr, rfl, rfl⟩ := h
  have := bud (logp + rsv) (by omega) (by omega)
  omega

theorem tfLoop_stage (isT : Bool) (budE budD : Int) : ∀ (k logp curr changed : Nat), logp ≤ 5 →
    Stage size1 tbMax len (fun _ => TfBud size1 len budE budD) (fun a b => b.1 = a)
      (fun s => let r := encTfLoop isT budE k logp curr changed s; ((r.1, r.2.1), r.2.2))
      (fun d => let r := Opus.CeltSyms.tfLoop isT budD k logp curr changed (tell d) d; (((r.1, r.2.1), r.2.2.2), r.2.2.1)) := by
  intro k
  induction k with
  | zero => intro _ _ _ _; exact ⟨fun s => Ext.refl s, fun _ _ _ _ _ _ _ _ _ hh => ⟨rfl, hh⟩⟩
  | succ k ih =>
    intro logp curr changed hl
    refine Stage.of_pointwise fun s => ?_
    have h45 : (if isT = true then 4 else 5 : Nat) ≤ 5 := by split <;> omega
    simp only [encTfLoop, Opus.CeltSyms.tfLoop]
    by_cases hc : tell s.e + (logp : Int) ≤ budE
    · simp only [hc, if_true]
      have r := ih (if isT = true then 4 else 5) (curr ^^^ (if s.pop.1 ≠ 0 then 1 else 0))
        (changed ||| (curr ^^^ (if s.pop.1 ≠ 0 then 1 else 0))) h45
      have rx := r.ext (s.pop.2.emit (.bitLogp (if s.pop.1 ≠ 0 then 1 else 0) logp))
      refine ⟨(Ext.step s _).trans rx, fun w P0 hw d sEnd hx m hp hh => ?_⟩
      subst hw
      obtain ⟨t, _, _, bud, _⟩ := hh.budget (((Ext.step s _).trans rx).ext0.trans hx) m
      have hc' : tell d + (logp : Int) ≤ budD := t ▸ (hp.test_iff bud hl).mp hc
      obtain ⟨e1, e2⟩ := hh.pop.emit_bit (if s.pop.1 ≠ 0 then 1 else 0) logp (bit_le_one _)
        (prefix_of_ext0 (rx.ext0.trans hx) m.pre)
      obtain ⟨i1, i2⟩ := r.2 w P0 rfl _ _ sEnd hx m hp e2
      obtain ⟨j1, j2⟩ := Prod.mk.inj i1
      simp only [hc', if_true]
      rw [e1]
      exact ⟨Prod.ext (congrArg (_ :: ·) j1) j2, i2⟩
    · simp only [hc, if_false]
      have r := ih (if isT = true then 4 else 5) curr changed h45
      refine ⟨r.ext s, fun w P0 hw d sEnd hx m hp hh => ?_⟩
      subst hw
      obtain ⟨i1, i2⟩ := r.2 w P0 rfl s d sEnd hx m hp hh
      obtain ⟨t, _, _, bud, _⟩ := hh.budget ((r.ext s).ext0.trans hx) m
      have hc' : ¬ tell d + (logp : Int) ≤ budD := fun h => hc ((hp.test_iff bud hl).mpr (t ▸ h))
      obtain ⟨j1, j2⟩ := Prod.mk.inj i1
      simp only [hc', if_false]
      exact ⟨Prod.ext (congrArg (_ :: ·) j1) j2, i2⟩

theorem tfFinish_stage (cfg : EncCfg) (isT rsv : Nat) (raw : List Nat) (changed : Nat) (tr : List Opus.CeltSyms.CEv) :
    Stage size1 tbMax len (fun _ => True) (fun a b => b = a)
      (fun s => let r := encTfFinish cfg isT rsv raw changed s; ((r.1, r.2.1), r.2.2.2))
      (fun d => let r := Opus.CeltSyms.tfFinish (cfgD cfg) isT rsv raw changed d tr; ((r.1, r.2.1), r.2.2.1)) := by
  refine Stage.of_pointwise fun s => ?_
  have htab : ∀ a b, Opus.CeltSyms.tfTable a b = tfTable a b := fun _ _ => rfl
  unfold encTfFinish Opus.CeltSyms.tfFinish
  simp only [htab]
  by_cases hc : rsv ≠ 0 ∧ tfTable cfg.LM (4 * isT + 0 + changed) ≠ tfTable cfg.LM (4 * isT + 2 + changed)
  · simp only [if_pos hc]
    refine ⟨Ext.step s _, fun _ _ _ d _ hx m _ hh => ?_⟩
    obtain ⟨e1, e2⟩ := hh.pop.emit_bit (if s.pop.1 ≠ 0 then 1 else 0) 1 (bit_le_one _) (prefix_of_ext0 hx m.pre)
    rw [e1]; exact ⟨rfl, e2⟩
  · simp only [if_neg hc]
    exact ⟨Ext.refl s, fun _ _ _ _ _ _ _ _ hh => ⟨trivial, hh⟩⟩

/-- `tf_encode` / `tf_decode`: same `tf_select_rsv`, same per-band budget decisions, same `tf_select` rule. -/
theorem tf_stage (cfg : EncCfg) (isT : Nat) :
    Stage size1 tbMax len (fun s => s.e.storage = size1) (fun a b => b = a)
      (fun s => let r := encTf cfg isT s; ((r.1, r.2.1), r.2.2.2))
      (fun d => let r := Opus.CeltSyms.tfDecode (cfgD cfg) isT d; ((r.1, r.2.1), r.2.2.1)) := by
  refine Stage.of_pointwise fun s => ?_
  have hlogp0 : (if isT ≠ 0 then 2 else 4 : Nat) ≤ 5 := by split <;> omega
  have L := fun budD => tfLoop_stage (size1 := size1) (tbMax := tbMax) (len := len) (decide (isT ≠ 0))
    (((s.e.storage * 8 : Nat) : Int) - encTfRsv cfg isT s) budD (cfg.end_ - cfg.start) (if isT ≠ 0 then 2 else 4) 0 0 hlogp0
  have Lx := (L 0).ext s
  unfold encTf Opus.CeltSyms.tfDecode
  simp only [] at Lx ⊢
  generalize hLE : encTfLoop _ _ _ _ _ _ s = LE at Lx ⊢
  have F := fun tr => tfFinish_stage (size1 := size1) (tbMax := tbMax) (len := len) cfg isT (encTfRsv cfg isT s) LE.1 LE.2.1 tr
  have Fx := (F []).ext LE.2.2
  refine ⟨Lx.trans Fx, fun w P0 hw d sEnd hx m hst hh => ?_⟩
  subst hw
  obtain ⟨t, _, hsd, bud, _⟩ := hh.budget ((Lx.trans Fx).ext0.trans hx) m
  have hb := bud (((if isT ≠ 0 then 2 else 4 : Nat) : Int) + 1) (by omega) (by omega)
  have e : Opus.CeltSyms.tfRsv (cfgD cfg) isT d = encTfRsv cfg isT s := by
    unfold Opus.CeltSyms.tfRsv encTfRsv
    simp only [t, hsd, hst, Int.add_assoc, hb]
  have Ls := (L (((d.storage * 8 : Nat) : Int) - Opus.CeltSyms.tfRsv (cfgD cfg) isT d)).2 w P0 rfl s d sEnd
  simp only [hLE] at Ls
  generalize Opus.CeltSyms.tfLoop _ _ _ _ _ _ _ d = LD at Ls ⊢
  obtain ⟨l, hl⟩ := Ls (Fx.ext0.trans hx) m
    ⟨encTfRsv cfg isT s, by unfold encTfRsv; exact bit_le_one _, by rw [hst], by rw [e, hsd]⟩ hh
  obtain ⟨l1, l2⟩ := Prod.mk.inj l
  rw [e, l1, l2]
  exact (F LD.2.2.2).2 w P0 rfl _ _ sEnd hx m trivial hl

theorem spread_stage : Stage size1 tbMax len (fun _ => True) (fun a b => b = a) (encSpread ((size1 * 8 : Nat) : Int))
    (fun d => let r := Opus.CeltSyms.readSpread ((len * 8 : Nat) : Int) d; (r.1, r.2.1)) := by
  refine Stage.guard (R := fun a b => b = a) (fun s => tell s.e + 4 ≤ ((size1 * 8 : Nat) : Int))
    (fun d => tell d + 4 ≤ ((len * 8 : Nat) : Int)) rfl (Stage.icdf _ 5 Int.toNat)
    (fun w P0 hw s d sEnd hh hx m _ => ?_) fun d => ?_
  · subst hw
    obtain ⟨t, _, _, b, _⟩ := hh.budget hx m
    rw [t]; exact b 4 (by omega) (by omega)
  · unfold Opus.CeltSyms.readSpread; split <;> rfl

/-- the trim is tested against `total_bits - total_boost` -/
theorem trim_stage (tb : Nat) :
    Stage size1 tbMax len (fun _ => tb ≤ tbMax) (fun a b => b = a) (encTrim (((size1 * 8 : Nat) : Int) * 8) tb)
      (fun d => let r := Opus.CeltSyms.readTrim (((len * 8 * 8 : Nat) : Int) - tb) d; (r.1, r.2.1)) := by
  refine Stage.guard (R := fun a b => b = a) (fun s => (tellFrac s.e : Int) + 48 ≤ ((size1 * 8 : Nat) : Int) * 8 - tb)
    (fun d => (tellFrac d : Int) + 48 ≤ ((len * 8 * 8 : Nat) : Int) - tb) rfl (Stage.icdf _ 7 Int.toNat)
    (fun w P0 hw s d sEnd hh hx m htb => ?_) fun d => ?_
  · subst hw
    obtain ⟨_, t, _, _, f⟩ := hh.budget hx m
    have := f tb htb 47 (by omega) (by omega)
    rw [t]; constructor <;> intro h <;> omega
  · unfold Opus.CeltSyms.readTrim; split <;> rfl

theorem encBoostLoop_tb_le (cap quanta : Nat) (logp boost tb : Nat) (totF : Int) (s : St) :
    tb ≤ (encBoostLoop cap quanta logp boost tb totF s).2.1 := by
  fun_induction encBoostLoop cap quanta logp boost tb totF s with
  | case1 => exact Nat.le_refl _
  | case2 logp boost tb s hc hz ih => omega
  | case3 => exact Nat.le_refl _

/-- The `while` of the dynalloc loop for one band; the precondition is that the total boost stays within what `Margin`
    allows for.  The decoder's shrinking `total_bits` is the encoder's constant one less the total boost. -/
theorem boostLoop_stage (cap quanta : Nat) (logp boost tb : Nat) (hl : logp ≤ 6) :
    Stage size1 tbMax len
      (fun s => (encBoostLoop cap quanta logp boost tb (((size1 * 8 : Nat) : Int) * 8) s).2.1 ≤ tbMax)
      (fun (a : Nat × Nat) (b : Nat × Int) => b.1 = a.1 ∧ b.2 = ((len * 8 * 8 : Nat) : Int) - (a.2 : Nat))
      (fun s => let r := encBoostLoop cap quanta logp boost tb (((size1 * 8 : Nat) : Int) * 8) s; ((r.1, r.2.1), r.2.2))
      (fun d => let r := Opus.CeltSyms.boostLoop cap quanta logp boost (((len * 8 * 8 : Nat) : Int) - tb) d;
        ((r.1, r.2.1), r.2.2.1)) := by
  refine Stage.of_pointwise fun s => ?_
  simp only []
  fun_induction encBoostLoop cap quanta logp boost tb (((size1 * 8 : Nat) : Int) * 8) s with
  | case1 logp boost tb s hc hz =>
    refine ⟨Ext.step s _, fun w P0 hw d sEnd hx m htb h => ?_⟩
    subst hw
    obtain ⟨_, htf, _, _, frac⟩ := h.budget ((Ext.step s _).ext0.trans hx) m
    have hf := frac tb htb ((logp : Int) * 8) (by omega) (by omega)
    have hc' : (tellFrac d : Int) + logp * 8 < ((w.len * 8 * 8 : Nat) : Int) - tb ∧ boost < cap ∧ 0 < quanta :=
      ⟨by rw [htf]; exact hf.mp hc.1, hc.2⟩
    obtain ⟨e1, e2⟩ := h.pop.emit_bit 0 logp (by omega) (prefix_of_ext0 hx m.pre)
    unfold Opus.CeltSyms.boostLoop
    simp only [hc', and_self, dif_pos, e1, if_true]
    exact ⟨trivial, e2⟩
  | case2 logp boost tb s hc hz ih =>
    have r := ih (by omega)
    refine ⟨(Ext.step s _).trans r.1, fun w P0 hw d sEnd hx m htb h => ?_⟩
    subst hw
    have hmono := encBoostLoop_tb_le cap quanta 1 (boost + quanta) (tb + quanta) (((size1 * 8 : Nat) : Int) * 8)
      (s.pop.2.emit (.bitLogp 1 logp))
    obtain ⟨_, htf, _, _, frac⟩ := h.budget (((Ext.step s _).trans r.1).ext0.trans hx) m
    have hf := frac tb (by omega) ((logp : Int) * 8) (by omega) (by omega)
    have hc' : (tellFrac d : Int) + logp * 8 < ((w.len * 8 * 8 : Nat) : Int) - tb ∧ boost < cap ∧ 0 < quanta :=
      ⟨by rw [htf]; exact hf.mp hc.1, hc.2⟩
    obtain ⟨e1, e2⟩ := h.pop.emit_bit 1 logp (by omega) (prefix_of_ext0 (r.1.ext0.trans hx) m.pre)
    obtain ⟨⟨i1, i2⟩, i3⟩ := r.2 w P0 rfl _ sEnd hx m htb e2
    rw [Int.natCast_add, ← Int.sub_sub] at i1 i2 i3
    rw [Opus.CeltSyms.boostLoop]
    simp only [hc', and_self, dif_pos, e1, Nat.succ_ne_zero, if_false]
    exact ⟨⟨i1, i2⟩, i3⟩
  | case3 logp boost tb s hc =>
    refine ⟨Ext.refl s, fun w P0 hw d sEnd hx m htb h => ?_⟩
    subst hw
    obtain ⟨_, htf, _, _, frac⟩ := h.budget hx m
    have hf := frac tb htb ((logp : Int) * 8) (by omega) (by omega)
    have hc' : ¬ ((tellFrac d : Int) + logp * 8 < ((w.len * 8 * 8 : Nat) : Int) - tb ∧ boost < cap ∧ 0 < quanta) := by
      intro hh; exact hc ⟨by have := hh.1; rw [htf] at this; exact hf.mpr this, hh.2⟩
    unfold Opus.CeltSyms.boostLoop
    simp only [hc', dif_neg, not_false_eq_true]
    exact ⟨⟨trivial, trivial⟩, h⟩

theorem encDynalloc_tb_le (cfg : EncCfg) (totF : Int) : ∀ (k i dlogp tb : Nat) (s : St),
    tb ≤ (encDynalloc cfg totF k i dlogp tb s).2.1 := by
  intro k
  induction k with
  | zero => intro _ _ tb s; exact Nat.le_refl _
  | succ k ih =>
    intro i dlogp tb s
    simp only [encDynalloc]
    exact Nat.le_trans (encBoostLoop_tb_le _ _ _ _ _ _ _) (ih _ _ _ _)

/-- the decoder model's `cap[i]` and `quanta` are the encoder model's, term for term -/
theorem capOf_eq (cfg : EncCfg) (i : Nat) : Opus.CeltSyms.capOf (cfgD cfg) i = capOf cfg i := rfl
theorem quantaOf_eq (cfg : EncCfg) (i : Nat) : Opus.CeltSyms.quantaOf (cfgD cfg) i = quantaOf cfg i := rfl

theorem dynalloc_stage (cfg : EncCfg) : ∀ (k i dlogp tb : Nat), dlogp ≤ 6 →
    Stage size1 tbMax len
      (fun s => (encDynalloc cfg (((size1 * 8 : Nat) : Int) * 8) k i dlogp tb s).2.1 ≤ tbMax)
      (fun (a : List Nat × Nat) (b : List Nat × Int) => b.1 = a.1 ∧ b.2 = ((len * 8 * 8 : Nat) : Int) - (a.2 : Nat))
      (fun s => let r := encDynalloc cfg (((size1 * 8 : Nat) : Int) * 8) k i dlogp tb s; ((r.1, r.2.1), r.2.2))
      (fun d => let r := Opus.CeltSyms.dynalloc (cfgD cfg) k i dlogp (((len * 8 * 8 : Nat) : Int) - tb) d;
        ((r.1, r.2.1), r.2.2.1)) := by
  intro k
  induction k with
  | zero => intro _ _ _ _; exact ⟨fun s => Ext.refl s, fun _ _ _ _ _ _ _ _ _ hh => ⟨⟨rfl, rfl⟩, hh⟩⟩
  | succ k ih =>
    intro i dlogp tb hl
    refine Stage.of_pointwise fun s => ?_
    have B := boostLoop_stage (size1 := size1) (tbMax := tbMax) (len := len) (capOf cfg i) (quantaOf cfg i) dlogp 0 tb hl
    have Bx := B.ext s
    simp only [encDynalloc, Opus.CeltSyms.dynalloc] at Bx ⊢
    generalize hBE : encBoostLoop (capOf cfg i) (quantaOf cfg i) dlogp 0 tb (((size1 * 8 : Nat) : Int) * 8) s = BE at Bx ⊢
    have hl' : (if BE.1 > 0 then max 2 (dlogp - 1) else dlogp) ≤ 6 := by split <;> omega
    have r := ih (i + 1) (if BE.1 > 0 then max 2 (dlogp - 1) else dlogp) BE.2.1 hl'
    refine ⟨Bx.trans (r.ext BE.2.2), fun w P0 hw d sEnd hx m htb h => ?_⟩
    subst hw
    have hmono := encDynalloc_tb_le cfg (((size1 * 8 : Nat) : Int) * 8) k (i + 1)
      (if BE.1 > 0 then max 2 (dlogp - 1) else dlogp) BE.2.1 BE.2.2
    have Bs := B.2 w P0 rfl s d sEnd
    simp only [hBE] at Bs
    simp only [← capOf_eq, ← quantaOf_eq] at Bs
    generalize Opus.CeltSyms.boostLoop _ _ dlogp 0 (((w.len * 8 * 8 : Nat) : Int) - tb) d = BD at Bs ⊢
    obtain ⟨⟨l1, l2⟩, l3⟩ := Bs ((r.ext BE.2.2).ext0.trans hx) m (by omega) h
    obtain ⟨⟨i1, i2⟩, i3⟩ := r.2 w P0 rfl _ _ sEnd hx m htb l3
    rw [l1, l2]
    exact ⟨⟨by rw [i1], i2⟩, i3⟩

end

end OpusProofs.CeltHdr
