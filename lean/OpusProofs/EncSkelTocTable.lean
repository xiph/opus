import OpusProofs.FramingHelpers
import OpusProofs.EncDecide
import OpusProofs.EncSkelCbr
/-
  OpusProofs.EncSkelTocTable — ToC facts of property C02.  The table: `gen_toc` on every legal (mode, frame rate,
  bandwidth) triple round-trips through the packet helpers (`genToc_roundtrip_all`, by evaluation).  The ToC of any
  frame whose mode can code its duration is a row of it (`toc_units`; the duration at 48 kHz is C06's `toc_table`);
  `toc_frame` says it for a frame given by its sample count, the form the packet theorems use.
-/
namespace Opus.EncSkel.Proofs
open Opus Opus.EncDecide Opus.EncSkel

/-- Legal (mode, frame rate, bandwidth) triples of a coded frame. -/
def tocLegal : List (Int × Int × Int) :=
  (do let fr ← [100, 50, 25, 16]; let bw ← [1101, 1102, 1103]; pure (1000, fr, bw)) ++
  (do let fr ← [100, 50]; let bw ← [1104, 1105]; pure (1001, fr, bw)) ++
  (do let fr ← [400, 200, 100, 50]; let bw ← [1101, 1103, 1104, 1105]; pure (1002, fr, bw))

/-- Samples per frame at `fs` for a frame rate (`16` stands for 60 ms). -/
def spfOf (fs fr : Int) : Int := if fr = 16 then 3 * fs / 50 else fs / fr

theorem genToc_roundtrip_all : ∀ t ∈ tocLegal, ∀ ch ∈ [(1 : Int), 2], ∀ fs ∈ [(8000 : Nat), 12000, 16000, 24000, 48000],
    genToc t.1 t.2.1 t.2.2 ch < 256 ∧ genToc t.1 t.2.1 t.2.2 ch % 4 = 0 ∧
    (Framing.getMode (genToc t.1 t.2.1 t.2.2 ch) : Int) = t.1 ∧
    (Framing.getBandwidth (genToc t.1 t.2.1 t.2.2 ch) : Int) = t.2.2 ∧
    (Framing.getNbChannels (genToc t.1 t.2.1 t.2.2 ch) : Int) = ch ∧
    (Framing.samplesPerFrame (genToc t.1 t.2.1 t.2.2 ch) fs : Int) = spfOf fs t.2.1 := by
  decide +kernel

theorem mem_tocLegal (m fr bw : Int) : (m, fr, bw) ∈ tocLegal ↔
    (m = 1000 ∧ fr ∈ [(100 : Int), 50, 25, 16] ∧ bw ∈ [(1101 : Int), 1102, 1103]) ∨
    (m = 1001 ∧ fr ∈ [(100 : Int), 50] ∧ bw ∈ [(1104 : Int), 1105]) ∨
    (m = 1002 ∧ fr ∈ [(400 : Int), 200, 100, 50] ∧ bw ∈ [(1101 : Int), 1103, 1104, 1105]) := by
  simp only [tocLegal, List.mem_append, List.bind_eq_flatMap, List.mem_flatMap, List.pure_def,
    List.mem_singleton, Prod.mk.injEq]
  constructor
  · rintro ((⟨fr, hf, bw, hb, rfl, rfl, rfl⟩ | ⟨fr, hf, bw, hb, rfl, rfl, rfl⟩) | ⟨fr, hf, bw, hb, rfl, rfl, rfl⟩)
    · exact Or.inl ⟨rfl, hf, hb⟩
    · exact Or.inr (Or.inl ⟨rfl, hf, hb⟩)
    · exact Or.inr (Or.inr ⟨rfl, hf, hb⟩)
  · rintro (⟨rfl, hf, hb⟩ | ⟨rfl, hf, hb⟩ | ⟨rfl, hf, hb⟩)
    · exact Or.inl (Or.inl ⟨fr, hf, bw, hb, rfl, rfl, rfl⟩)
    · exact Or.inl (Or.inr ⟨fr, hf, bw, hb, rfl, rfl, rfl⟩)
    · exact Or.inr ⟨fr, hf, bw, hb, rfl, rfl, rfl⟩

/-- Frame durations (in units of 2.5 ms) a mode can code. -/
def DurOk (mode j : Int) : Prop :=
  (mode = 1000 ∧ (j = 4 ∨ j = 8 ∨ j = 16 ∨ j = 24)) ∨ (mode = 1001 ∧ (j = 4 ∨ j = 8)) ∨
  (mode = 1002 ∧ (j = 1 ∨ j = 2 ∨ j = 4 ∨ j = 8))

/-- Bandwidths a mode can announce (`gen_toc` writes CELT mediumband as narrowband). -/
def BwFor (mode bw : Int) : Prop :=
  (mode = 1000 → 1101 ≤ bw ∧ bw ≤ 1103) ∧ (mode = 1001 → 1104 ≤ bw ∧ bw ≤ 1105) ∧ (mode = 1002 → 1101 ≤ bw ∧ bw ≤ 1105)

theorem genToc_celt_mb (fr ch : Int) : genToc 1002 fr 1102 ch = genToc 1002 fr 1101 ch := by
  unfold genToc; rfl

theorem toc_units (mode j bw ch q : Int) (n : Nat) (hn : n ∈ [8000, 12000, 16000, 24000, 48000])
    (hq : (n : Int) = 400 * q) (hd : DurOk mode j) (hbw : BwFor mode bw) :
    genToc mode (400 / j) bw ch % 4 = 0 ∧ genToc mode (400 / j) bw ch < 256 ∧
    (Framing.samplesPerFrame (genToc mode (400 / j) bw ch) n : Int) = j * q ∧
    (FramingSpec.frameDur48 (genToc mode (400 / j) bw ch) : Int) = 120 * j := by
  -- the facts are rows of the table `genToc_roundtrip_all`, at `n` and at 48 kHz
  have key : ∀ bw', (mode, 400 / j, bw') ∈ tocLegal → spfOf n (400 / j) = j * q → spfOf 48000 (400 / j) = 120 * j →
      genToc mode (400 / j) bw' ch % 4 = 0 ∧ genToc mode (400 / j) bw' ch < 256 ∧
      (Framing.samplesPerFrame (genToc mode (400 / j) bw' ch) n : Int) = j * q ∧
      (FramingSpec.frameDur48 (genToc mode (400 / j) bw' ch) : Int) = 120 * j := by
    intro bw' ht h1 h2
    rw [genToc_ch]
    have hc : (if ch = 2 then (2 : Int) else 1) ∈ [(1 : Int), 2] := by split <;> simp
    obtain ⟨a1, a2, -, -, -, a6⟩ := genToc_roundtrip_all _ ht _ hc n hn
    obtain ⟨-, -, -, -, -, b6⟩ := genToc_roundtrip_all _ ht _ hc 48000 (by simp)
    rw [← FramingProofs.frameDur48_spf _ a1]
    exact ⟨a2, a1, a6.trans h1, b6.trans h2⟩
  unfold BwFor at hbw
  unfold spfOf at key
  rcases hd with ⟨rfl, hj⟩ | ⟨rfl, hj⟩ | ⟨rfl, hj⟩
  · rcases hj with rfl | rfl | rfl | rfl <;>
      exact key bw ((mem_tocLegal _ _ _).mpr (Or.inl ⟨rfl, by decide, by simp; omega⟩)) (by norm_num; omega) (by norm_num)
  · rcases hj with rfl | rfl <;>
      exact key bw ((mem_tocLegal _ _ _).mpr (Or.inr (Or.inl ⟨rfl, by decide, by simp; omega⟩))) (by norm_num; omega)
        (by norm_num)
  · by_cases hmb : bw = 1102
    · rw [hmb, genToc_celt_mb]
      rcases hj with rfl | rfl | rfl | rfl <;>
        exact key 1101 ((mem_tocLegal _ _ _).mpr (Or.inr (Or.inr ⟨rfl, by decide, by decide⟩))) (by norm_num; omega)
          (by norm_num)
    · rcases hj with rfl | rfl | rfl | rfl <;>
        exact key bw ((mem_tocLegal _ _ _).mpr (Or.inr (Or.inr ⟨rfl, by decide, by simp; omega⟩))) (by norm_num; omega)
          (by norm_num)

theorem bwFor_frame (mode bw sbw : Int) (hbwd : 1101 ≤ sbw ∧ sbw ≤ 1105)
    (hb1 : mode ≠ 1000 → bw = sbw) (hb2 : mode = 1000 → bw = 1101 ∨ bw = 1102 ∨ bw = 1103)
    (hwH : mode = 1001 → 1104 ≤ sbw) : BwFor mode bw := by
  unfold BwFor; omega

/-- **What the ToC of a (sub)frame of `j` units of 2.5 ms announces**: the frame has `e = j·(Fs/400)` samples, the ToC is
    `gen_toc` at the frame rate `Fs/e`; it gives `e` samples back at `Fs`, `20·j` at 8 kHz (the repacketiser's 120 ms
    are 960 of them) and `120·j` at 48 kHz. -/
theorem toc_frame (mode bw ch fs e j : Int)
    (hfs : fs = 8000 ∨ fs = 12000 ∨ fs = 16000 ∨ fs = 24000 ∨ fs = 48000) (he : e = j * (fs / 400))
    (hd : DurOk mode j) (hbw : BwFor mode bw) :
    genToc mode (fs / e) bw ch % 4 = 0 ∧ genToc mode (fs / e) bw ch < 256 ∧
    (Framing.samplesPerFrame (genToc mode (fs / e) bw ch) fs.toNat : Int) = e ∧
    (Framing.samplesPerFrame (genToc mode (fs / e) bw ch) 8000 : Int) = 20 * j ∧
    (FramingSpec.frameDur48 (genToc mode (fs / e) bw ch) : Int) = 120 * j := by
  have hq0 : 0 < fs / 400 := by omega
  have hfr : fs / e = 400 / j := by
    have hq : fs = 400 * (fs / 400) := by omega
    generalize fs / 400 = q at *
    rw [he, hq]; exact Int.mul_ediv_mul_of_pos_left _ _ hq0
  have hn : fs.toNat ∈ [8000, 12000, 16000, 24000, 48000] := by
    rcases hfs with h | h | h | h | h <;> rw [h] <;> decide
  obtain ⟨t1, t2, t3, t4⟩ := toc_units mode j bw ch (fs / 400) fs.toNat hn (by omega) hd hbw
  have t5 := (toc_units mode j bw ch 20 8000 (by simp) rfl hd hbw).2.2.1
  rw [hfr, he]
  exact ⟨t1, t2, t3, by rw [t5, Int.mul_comm], t4⟩

end Opus.EncSkel.Proofs
