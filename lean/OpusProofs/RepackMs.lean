import OpusProofs.RepackProps
/-
  C07 (repacketizer): the multistream variants, per stream.  A multistream packet is the
  concatenation of self-delimited packets followed by one standard packet (RFC 6716 Appendix B).
  On ARBITRARY byte strings they accept exactly when the bytes are `n-1` self-delimited valid packets followed by
  one standard valid packet (`MsShape`, the same shape C10 proves for `opus_multistream_packet_validate`), and
  refuse with `OPUS_INVALID_PACKET` otherwise.
-/
namespace Opus.RepackProofs
open Opus Opus.Framing Opus.FramingSpec Opus.FramingProofs Opus.Repack Opus.Ext
open Opus.MsDecEq (serialize_length_pos)

/-- Serialisation of a multistream packet: every stream but the last is self-delimited. -/
def msSerialize : List Packet → Bytes
  | [] => []
  | [p] => serialize false p
  | p :: q :: ps => serialize true p ++ msSerialize (q :: ps)

/-- Same definition as C10's `Opus.LayoutSpec.msSerialize`, whose lemmas (LayoutMs, MsPackets) it inherits. -/
theorem msSerialize_eq_layout : ∀ ps : List Packet, msSerialize ps = Opus.LayoutSpec.msSerialize ps
  | [] => rfl
  | [_] => rfl
  | p :: q :: r => by
    show serialize true p ++ msSerialize (q :: r) = serialize true p ++ Opus.LayoutSpec.msSerialize (q :: r)
    rw [msSerialize_eq_layout (q :: r)]

theorem msSerialize_cons (p : Packet) (ps : List Packet) :
    msSerialize (p :: ps) = serialize (decide (ps ≠ [])) p ++ msSerialize ps := by
  simp only [msSerialize_eq_layout]; exact Layout.msSerialize_cons p ps

theorem msSerialize_tail_nil {ps : List Packet} (h : decide (ps ≠ []) = false) : msSerialize ps = [] := by
  have : ps = [] := by simpa using h
  rw [this]; rfl

theorem msSerialize_pos {ps : List Packet} (hne : ps ≠ []) : 1 ≤ (msSerialize ps).length := by
  obtain ⟨p, qs, rfl⟩ := List.exists_cons_of_ne_nil hne
  rw [msSerialize_eq_layout]; exact MsDecEq.msSerialize_pos p qs

/-- One iteration of the stream loop of `opus_multistream_packet_unpad` on a valid first stream. -/
theorem msUnpadLoop_step (k : Nat) (p : Packet) (hv : Valid p) (rest acc : Bytes)
    (hrest : decide (k ≠ 0) = false → rest = []) :
    msUnpadLoop (k + 1) (serialize (decide (k ≠ 0)) p ++ rest) acc =
      msUnpadLoop k rest (acc ++ serialize (decide (k ≠ 0)) (canonPacket p.toc p.frames)) := by
  generalize hsd : decide (k ≠ 0) = sd at hrest ⊢
  simp only [msUnpadLoop]
  rw [hsd]
  have hpos := serialize_length_pos sd p
  have hparse := parse_complete sd p hv rest hrest
  rw [if_neg (by rw [List.length_append]; omega), hparse]
  have hpo := view_packetOffset sd p
  simp only [hpo]
  rw [if_neg (by rw [List.length_append]; omega)]
  rw [List.take_left]
  obtain ⟨rp, hcat, hout⟩ := unpad_stream sd p hv (serialize sd p ++ rest).length (by simp)
  rw [hcat]
  simp only []
  rw [hout]
  simp only [List.drop_left]

/-- `opus_multistream_packet_unpad` unpads every stream to its canonical packet. -/
theorem msUnpadLoop_serialize (ps : List Packet) (hv : ∀ p ∈ ps, Valid p) (acc : Bytes) :
    msUnpadLoop ps.length (msSerialize ps) acc = .ok (acc ++ msSerialize (ps.map fun p => canonPacket p.toc p.frames)) := by
  induction ps generalizing acc with
  | nil => simp [msUnpadLoop, msSerialize]
  | cons p ps ih =>
    have hsd : decide (ps ≠ []) = decide (ps.length ≠ 0) := by simp
    have hsd' : decide (ps.map (fun p => canonPacket p.toc p.frames) ≠ []) = decide (ps.length ≠ 0) := by simp
    rw [msSerialize_cons, List.map_cons, msSerialize_cons, hsd, hsd', List.length_cons,
      msUnpadLoop_step ps.length p (hv p (by simp)) _ acc (fun h => msSerialize_tail_nil (hsd ▸ h)),
      ih (fun q hq => hv q (by simp [hq])), List.append_assoc]

theorem msUnpad_serialize (ps : List Packet) (hne : ps ≠ []) (hv : ∀ p ∈ ps, Valid p) :
    msUnpad (msSerialize ps) ps.length = .ok (msSerialize (ps.map fun p => canonPacket p.toc p.frames)) := by
  have hpos := msSerialize_pos hne
  unfold msUnpad
  rw [if_neg (by omega)]
  simp only [Int.toNat_natCast]
  have := msUnpadLoop_serialize ps hv []
  simpa using this

/-- A multistream packet as prefix streams (self-delimited) and the last stream. -/
def msJoin (pre : List Packet) (last : Packet) : Bytes := pre.flatMap (serialize true) ++ serialize false last

theorem msSerialize_join (pre : List Packet) (last : Packet) : msSerialize (pre ++ [last]) = msJoin pre last := by
  rw [msSerialize_eq_layout]; exact Layout.msSerialize_snoc pre last

theorem seekLast_spec (pre : List Packet) (hv : ∀ p ∈ pre, Valid p) (front tail : Bytes) :
    seekLast pre.length (front ++ (pre.flatMap (serialize true) ++ tail)) front.length =
      .ok (front.length + (pre.flatMap (serialize true)).length) := by
  induction pre generalizing front with
  | nil => simp [seekLast]
  | cons p ps ih =>
    have hvp := hv p (by simp)
    have hpos := serialize_length_pos true p
    simp only [List.length_cons, seekLast, List.flatMap_cons]
    rw [if_neg (by simp only [List.length_append]; omega)]
    rw [List.drop_left]
    have hparse := parse_complete true p hvp (ps.flatMap (serialize true) ++ tail) (fun h => by cases h)
    rw [List.append_assoc, hparse]
    simp only []
    rw [view_packetOffset]
    have := ih (fun q hq => hv q (by simp [hq])) (front ++ serialize true p)
    simp only [List.length_append, List.append_assoc] at this ⊢
    rw [this]; congr 1; omega

/-- `opus_multistream_packet_pad` to a larger size, on `n-1` self-delimited valid packets followed by any bytes: the call
    of `opus_packet_pad` on those bytes, in front of them nothing changes. -/
theorem msPad_tail (pre : List Packet) (hv : ∀ p ∈ pre, Valid p) (tail : Bytes) (newLen : Int)
    (hpos : 1 ≤ (pre.flatMap (serialize true) ++ tail).length)
    (hgt : ((pre.flatMap (serialize true) ++ tail).length : Int) < newLen) :
    msPad (pre.flatMap (serialize true) ++ tail) newLen (pre.length + 1 : Nat) =
      match packetPad tail (tail.length + (newLen - (pre.flatMap (serialize true) ++ tail).length)) with
      | .ok p => .ok (pre.flatMap (serialize true) ++ p)
      | .err e => .err e
      | .oob => .oob
      | .abort => .abort := by
  have hs := seekLast_spec pre hv [] tail
  simp only [List.nil_append, List.length_nil, Nat.zero_add] at hs
  unfold msPad
  rw [if_neg (by omega), if_neg (by omega), if_neg (by omega),
    show ((((pre.length + 1 : Nat) : Int) - 1).toNat) = pre.length by omega, hs]
  simp only []
  rw [if_neg (by simp only [List.length_append]; omega), List.drop_left, List.take_left]
  rfl

/-- `opus_multistream_packet_pad`: all the padding goes to the last stream, the others are untouched. -/
theorem msPad_serialize (pre : List Packet) (last : Packet) (hv : ∀ p ∈ pre, Valid p) (hl : Valid last)
    (hfree : PadFree last) (newLen : Int) (hgt : ((msJoin pre last).length : Int) < newLen) :
    msPad (msJoin pre last) newLen (pre.length + 1 : Nat) =
      .ok (pre.flatMap (serialize true) ++
           serialize false (outPacket last.toc last.frames
             ((serialize false last).length + (newLen - (msJoin pre last).length)) false true)) := by
  have hpos := serialize_length_pos false last
  unfold msJoin at hgt ⊢
  rw [msPad_tail pre hv _ newLen (by simp only [List.length_append]; omega) hgt,
    pad_serialize last hl hfree _ (by simp only [List.length_append] at hgt ⊢; omega)]

/-- `opus_multistream_packet_pad`: the last stream is replaced by a related packet, the total is `new_len`. -/
theorem msPad_rel (pre : List Packet) (last : Packet) (hv : ∀ p ∈ pre, Valid p) (hl : Valid last)
    (hfree : PadFree last) (newLen : Int) (hgt : ((msJoin pre last).length : Int) < newLen) :
    ∃ q, msPad (msJoin pre last) newLen (pre.length + 1 : Nat) = .ok (msJoin pre q) ∧ PktRel last q ∧
      ((msJoin pre q).length : Int) = newLen := by
  have hlen : ∀ q, (msJoin pre q).length = (pre.flatMap (serialize true)).length + (serialize false q).length := by
    intro q; simp [msJoin]
  have hpos := serialize_length_pos false last
  obtain ⟨q, hrel, hq, hql, -⟩ := pad_pkt hl hfree ((serialize false last).length + (newLen - (msJoin pre last).length))
    (by omega)
  refine ⟨q, ?_, hrel, by rw [hlen, Int.natCast_add, hql, hlen]; omega⟩
  unfold msJoin at hgt hq ⊢
  rw [msPad_tail pre hv _ newLen (by simp only [List.length_append]; omega) hgt, hq]

end Opus.RepackProofs

namespace Opus.RepackProofs
open Opus Opus.Framing Opus.FramingSpec Opus.FramingProofs Opus.Repack Opus.Ext

/-- The bytes are `k` valid packets in multistream framing. -/
def MsShape (k : Nat) (data : Bytes) : Prop :=
  ∃ ps : List Packet, ps.length = k ∧ (∀ p ∈ ps, Valid p) ∧ data = msSerialize ps

/-- Anything that is not `k+1` valid packets in multistream framing is refused with
    `OPUS_INVALID_PACKET`; the loop never reads outside the buffer and trips no assertion. -/
theorem msUnpadLoop_reject : ∀ (k : Nat) (data acc : Bytes), BytesOk data → ¬ MsShape (k + 1) data →
    msUnpadLoop (k + 1) data acc = .err .invalidPacket := by
  intro k
  induction k with
  | zero =>
    intro data acc hb hns
    rcases (parseImpl_tame false data).cases with ⟨r, hp⟩ | hp
    · exfalso
      obtain ⟨p, rest, hv, hbs, hr, _⟩ := parse_sound false data hb r hp
      have := hr rfl; subst this
      exact hns ⟨[p], rfl, by simpa using hv, by simpa [msSerialize] using hbs⟩
    · simp only [msUnpadLoop]
      split
      · rfl
      · simp [hp]
  | succ k ih =>
    intro data acc hb hns
    rcases (parseImpl_tame true data).cases with ⟨r, hp⟩ | hp
    · obtain ⟨p, rest, hv, hbs, _, _⟩ := parse_sound true data hb r hp
      subst hbs
      have hstep := msUnpadLoop_step (k + 1) p hv rest acc (by simp)
      simp only [show decide (k + 1 ≠ 0) = true by simp] at hstep
      rw [hstep]
      apply ih rest _ (Layout.bytesOk_append_right hb)
      rintro ⟨ps, hlen, hvs, hrs⟩
      apply hns
      refine ⟨p :: ps, by simp [hlen], List.forall_mem_cons.mpr ⟨hv, hvs⟩, ?_⟩
      rw [msSerialize_cons, hrs, decide_eq_true (List.ne_nil_of_length_pos (by omega))]
    · simp only [msUnpadLoop]
      split
      · rfl
      · simp [hp]

/-- The bytes start with `k` self-delimited valid packets. -/
def PrefShape (k : Nat) (data : Bytes) : Prop :=
  ∃ (pre : List Packet) (tail : Bytes), pre.length = k ∧ (∀ p ∈ pre, Valid p) ∧
    data = pre.flatMap (serialize true) ++ tail

theorem seekLast_reject : ∀ (k : Nat) (bs : Bytes) (off : Nat), BytesOk bs → ¬ PrefShape k (bs.drop off) →
    seekLast k bs off = .err .invalidPacket := by
  intro k
  induction k with
  | zero => intro bs off _ h; exact absurd ⟨[], bs.drop off, rfl, by simp, by simp⟩ h
  | succ k ih =>
    intro bs off hb hns
    simp only [seekLast]
    split
    · rfl
    · have hbd : BytesOk (bs.drop off) := fun x hx => hb x (List.mem_of_mem_drop hx)
      rcases (parseImpl_tame true (bs.drop off)).cases with ⟨r, hp⟩ | hp
      · rw [hp]
        simp only []
        obtain ⟨p, rest, hv, hbs, _, hview⟩ := parse_sound true (bs.drop off) hbd r hp
        rw [hview, view_packetOffset]
        apply ih bs _ hb
        have hdrop : bs.drop (off + (serialize true p).length) = rest := by
          rw [← List.drop_drop, hbs, List.drop_left]
        rw [hdrop]
        rintro ⟨pre, tail, hlen, hvs, hrs⟩
        apply hns
        exact ⟨p :: pre, tail, by simp [hlen], List.forall_mem_cons.mpr ⟨hv, hvs⟩, by rw [hbs, hrs]; simp⟩
      · rw [hp]

/-- `opus_multistream_packet_pad` on arbitrary bytes that do not have the multistream shape:
    `OPUS_INVALID_PACKET`, or `OPUS_BAD_ARG` in the one case where the first `n-1` self-delimited packets use
    up the whole buffer (the code then calls `opus_packet_pad` with `len = 0`). -/
theorem msPad_reject (bs : Bytes) (hb : BytesOk bs) (hne : bs ≠ []) (n : Nat) (hn : 1 ≤ n) (newLen : Int)
    (hgt : (bs.length : Int) < newLen) (hns : ¬ MsShape n bs) :
    msPad bs newLen n = .err .invalidPacket ∨
    (msPad bs newLen n = .err .badArg ∧ ∃ pre : List Packet, pre.length = n - 1 ∧ (∀ p ∈ pre, Valid p) ∧
        bs = pre.flatMap (serialize true)) := by
  have hlen := List.length_pos_iff.mpr hne
  by_cases hps : PrefShape (n - 1) bs
  · obtain ⟨pre, tail, hplen, hvs, rfl⟩ := hps
    obtain rfl : n = pre.length + 1 := by omega
    rw [msPad_tail pre hvs tail newLen hlen hgt]
    by_cases ht : tail = []
    · right
      subst ht
      exact ⟨by rw [pad_bad_arg [] _ (Or.inl (by simp))], pre, rfl, hvs, by simp⟩
    · left
      have hbt : BytesOk tail := Layout.bytesOk_append_right hb
      have hinv : ∀ r, parseImpl false tail ≠ .ok r := by
        intro r hr
        obtain ⟨p, rest, hv, hts, hrr, _⟩ := parse_sound false tail hbt r hr
        rw [hrr rfl, List.append_nil] at hts
        exact hns ⟨pre ++ [p], by simp, List.forall_mem_append.mpr ⟨hvs, by simpa using hv⟩,
          by rw [msSerialize_join, hts, msJoin]⟩
      rw [pad_invalid tail hbt _ (by omega) ht hinv]
  · left
    unfold msPad
    rw [if_neg (by omega), if_neg (by omega), if_neg (by omega), show (((n : Nat) : Int) - 1).toNat = n - 1 by omega,
      seekLast_reject (n - 1) bs 0 hb (by simpa using hps)]

end Opus.RepackProofs
