import OpusProofs.DecSkelSilk
/-
  OpusProofs.DecSkelFrame — `opus_decode_frame` from :354 on (`frameBody`): redundancy parse,
  CELT stage and cross-fades, and the whole body under the oracle contracts.
-/
namespace Opus.DecSkel
open Opus
variable {o : Oracle} {st0 s : DecState} {cap0 u : Int} {r : Run} {b : Body} {red : Red} {trans : Ptr → Int → Run → Res'}

/-- What the redundancy parse (:475-502) leaves of a frame of `len` bytes: state and log as they were (it only consumes
    oracle calls), `0 ≤ x.1.len ≤ len` bytes for the main frame and, if a redundant frame is signalled, its bytes right
    behind them. -/
structure RedOk (len : Int) (r : Run) (x : Red × Run) : Prop where
  st : x.2.st = r.st
  log : x.2.log = r.log
  len0 : 0 ≤ x.1.len
  lenle : x.1.len ≤ len
  red : x.1.redundancy ≠ 0 → 0 ≤ x.1.bytes ∧ x.1.len + x.1.bytes = len

theorem redFinish_spec (redundancy c2s bytes len tell3 : Int) (r r3 : Run) (hst : r3.st = r.st) (hlog : r3.log = r.log)
    (hl : 0 ≤ len) (ht : 1 ≤ tell3) (hb : 0 ≤ bytes) : RedOk len r (redFinish redundancy c2s bytes len tell3 r3) := by
  unfold redFinish
  split
  · exact ⟨hst, hlog, by simp, by simpa using hl, by simp⟩
  · exact ⟨hst, hlog, by simp; omega, by simp; omega, by intro _; simp; omega⟩

/-- `hcond`: outside hybrid mode the caller has tested `tell + 17 ≤ 8 * len` (:476); one less is asked here, and it is what
    keeps the redundant frame's size `len - (tell' + 7) / 8` (:490, `tell' ≤ tell1 + 1`) non-negative. -/
theorem redTail_spec {o : Oracle} (ho : OracleOk o) (mode len redundancy tell1 : Int) (r r1 : Run) (hst : r1.st = r.st)
    (hlog : r1.log = r.log) (hl : 0 ≤ len) (ht : 1 ≤ tell1) (hcond : mode ≠ MODE_HYBRID → tell1 + 16 ≤ 8 * len) :
    RedOk len r (redTail o mode len redundancy tell1 r1) := by
  unfold redTail
  have hb := ho.bit r1.k 1 tell1 (by decide)
  split
  · have hu := ho.uint r1.tick.k 256 (o.bit r1.k 1 tell1).2 (by decide)
    exact redFinish_spec _ _ _ _ _ r _ hst hlog hl (by omega) (by omega)
  · rename_i hm
    have := hcond hm
    exact redFinish_spec _ _ _ _ _ r _ hst hlog hl (by omega) (by omega)

theorem parseRedundancy_spec {o : Oracle} (ho : OracleOk o) (mode len tell : Int) (r : Run) (hl : 0 ≤ len) (ht : 1 ≤ tell) :
    RedOk len r (parseRedundancy o mode len tell r) := by
  unfold parseRedundancy
  have hb := ho.bit r.k 12 tell (by decide)
  by_cases hm : mode = MODE_HYBRID
  · simp only [hm, ↓reduceIte]
    split
    · split
      · exact redTail_spec ho _ _ _ _ r _ rfl rfl hl (by omega) (by intro h; exact absurd rfl h)
      · exact ⟨rfl, rfl, hl, by simp, by simp⟩
    · exact ⟨rfl, rfl, hl, by simp, by simp⟩
  · simp only [hm, ↓reduceIte]
    split
    · exact redTail_spec ho _ _ _ _ r _ rfl rfl hl ht (by intro _; omega)
    · exact ⟨rfl, rfl, hl, by simp, by simp⟩

theorem redStage_spec {o : Oracle} (ho : OracleOk o) (b : Body) (tell : Int) (r : Run) (hl : 0 ≤ b.len) (ht : 1 ≤ tell) :
    RedOk b.len r (redStage o b tell r) ∧
    ((redStage o b tell r).1.redundancy ≠ 0 → b.mode ≠ MODE_CELT ∧ b.data.isSome) := by
  unfold redStage
  split
  · rename_i h
    exact ⟨parseRedundancy_spec ho _ _ _ r hl ht, fun _ => ⟨h.2.1, h.2.2⟩⟩
  · exact ⟨⟨rfl, rfl, hl, by simp, by simp⟩, by simp⟩

/-- One CELT call of the skeleton: made at the decoder's rate and channel count for 2.5, 5, 10 or 20 ms and at most 1275
    bytes, it has legal arguments (`CeltArgsOk`), so the oracle returns the frame size; what it writes must fit behind `p`. -/
theorem celtCall_spec (ho : OracleOk o) (hu : Units st0 u) {a : CeltArgs} {p : Ptr} (hg : Good st0 cap0 r)
    (hfs : a.fs = r.st.Fs) (hch : a.channels = r.st.channels)
    (hf : a.frame_size = u ∨ a.frame_size = 2 * u ∨ a.frame_size = 4 * u ∨ a.frame_size = 8 * u)
    (hlen : 0 ≤ a.len ∧ a.len ≤ 1275) (hroom : Room st0 cap0 p a.frame_size)
    (hav : a.len ≤ a.avail) (hoff : ∀ off, a.dataOff = some off → 0 ≤ off) :
    (celtCall o a p r).1 = a.frame_size ∧ Good st0 cap0 (celtCall o a p r).2 := by
  have hur := hg.units hu
  have ha : CeltArgsOk a :=
    ⟨hfs ▸ hur.fsOk, by rw [hfs, hur.u400, hur.u200, hur.u100, hur.u50]; exact hf, hlen.1, hlen.2, hch ▸ hg.inv.ch⟩
  have hc := ho.celt r.k a ha
  exact ⟨hc, hg.tick.push (evGood_of_ptr rfl ⟨ha, hc, (hch.trans hg.ch) ▸ hroom.room, hav, hoff⟩ hroom.cap)⟩

/-- What `frameBody` needs of its inputs (established by `opus_decode_frame`'s prologue).  With data it is what the TOC fixes:
    a SILK-only frame has a SILK bandwidth, the bandwidth has an end band (:530-548), SILK and hybrid frames last at least
    10 ms.  Without data (concealment) the bandwidth is 0 and, unless CELT conceals, the SILK control block is initialised. -/
structure BodyOk (st : DecState) (u : Int) (b : Body) : Prop where
  mode : b.mode = MODE_SILK ∨ b.mode = MODE_HYBRID ∨ b.mode = MODE_CELT
  aud : FrameDur u b.audiosize
  audCelt : b.mode ≠ MODE_SILK → (b.audiosize = u ∨ b.audiosize = 2 * u ∨ b.audiosize = 4 * u ∨ b.audiosize = 8 * u)
  fits : b.audiosize ≤ b.frame_size
  len : 0 ≤ b.len ∧ b.len ≤ 1275
  isData : b.data.isSome → (∀ off, b.data = some off → 0 ≤ off) ∧
    (b.mode = MODE_SILK → (b.bandwidth = BW_NB ∨ b.bandwidth = BW_MB ∨ b.bandwidth = BW_WB)) ∧
    endbandOk b.bandwidth = true ∧ (b.mode ≠ MODE_CELT → 4 * u ≤ b.audiosize)
  isNull : b.data.isNone → b.bandwidth = 0 ∧
    (b.mode ≠ MODE_CELT → st.dc.internalSampleRate ≠ 0 ∧ st.dc.nChannelsInternal ≠ 0)

theorem BodyOk.off {st : DecState} {u : Int} {b : Body} (h : BodyOk st u b) {off : Int} (hoff : b.data = some off) : 0 ≤ off :=
  (h.isData (by rw [hoff]; rfl)).1 off hoff

/-- What the CELT stage needs beyond `BodyOk`: the redundancy parse left `red.len ≤ b.len` bytes to the main frame, and a
    redundant frame, if signalled, has its `red.bytes` behind them and comes with at least 10 ms (SILK / hybrid TOC durations,
    the only frames that can carry one: the 5 ms cross-fades of `stepRedS2C` / `stepRedCopy` fit). -/
structure CeltPre (st : DecState) (u : Int) (b : Body) (red : Red) : Prop where
  body : BodyOk st u b
  len : 0 ≤ red.len ∧ red.len ≤ b.len
  red : red.redundancy ≠ 0 → 0 ≤ red.bytes ∧ red.len + red.bytes = b.len ∧ 4 * u ≤ b.audiosize

theorem BodyOk.aud_ge {st : DecState} {u : Int} {b : Body} (h : BodyOk st u b) (hu : 0 ≤ u) : u ≤ b.audiosize := by
  have := h.aud; omega

theorem Good.redRoom (hg : Good st0 cap0 r) (hu : Units st0 u) (hr : red.redundancy ≠ 0) :
    Room st0 cap0 (redBuf r.st red) (2 * u) := by
  have hp := hu.pos
  refine hg.room ⟨Int.le_refl 0, Int.mul_nonneg (by omega) (hg.ch ▸ hg.inv.ch_nonneg), ?_⟩ ?_
  · simp only [redBuf, hr, ne_eq, not_false_eq_true, ↓reduceIte, (hg.units hu).f5, hg.ch]; omega
  · simp [PtrCapOk, redBuf, F5, F10, F20, hg.fs, hg.ch, hr]

theorem Good.transRoom (hg : Good st0 cap0 r) (hu : Units st0 u) : Room st0 cap0 (transBuf r.st) (2 * u) := by
  have hp := hu.pos
  refine hg.room ⟨Int.le_refl 0, Int.mul_nonneg (by omega) (hg.ch ▸ hg.inv.ch_nonneg), ?_⟩ ?_
  · simp only [transBuf, (hg.units hu).f5, hg.ch]; omega
  · simp [PtrCapOk, transBuf, F5, F10, F20, hg.fs, hg.ch]

theorem redCall_spec (ho : OracleOk o) (hu : Units st0 u) (site : Nat) (hg : Good st0 cap0 r)
    (hp : CeltPre s u b red) (hr : red.redundancy ≠ 0) :
    Good st0 cap0 (celtCall o (redArgs r.st b red site) (redBuf r.st red) r).2 := by
  have hur := hg.units hu
  obtain ⟨hb0, hsum, _⟩ := hp.red hr
  have hlen := hp.len
  have hlen' := hp.body.len
  refine (celtCall_spec ho hu hg rfl rfl (Or.inr (Or.inl hur.f5)) ⟨hb0, by simp only [redArgs]; omega⟩
    (show Room st0 cap0 _ (F5 r.st) from hur.f5 ▸ hg.redRoom hu hr) (by simp only [redArgs]; omega) fun off hoff => ?_).2
  simp only [redArgs, Option.map_eq_some_iff] at hoff
  obtain ⟨x, hx, rfl⟩ := hoff
  have := hp.body.off hx; omega

theorem stepRedC2S_spec (ho : OracleOk o) (hu : Units st0 u) (hg : Good st0 cap0 r) (hp : CeltPre s u b red) :
    Good st0 cap0 (stepRedC2S o b red r) := by
  unfold stepRedC2S
  split
  · rename_i h; exact redCall_spec ho hu 0 hg hp h.1
  · exact hg

/-- Arguments of the main CELT call (:581). -/
def mainArgs (st : DecState) (b : Body) (red : Red) : CeltArgs :=
  { fs := st.Fs, site := 1, dataOff := if b.fec ≠ 0 then none else b.data, avail := b.len, len := red.len,
    frame_size := min (F20 st) b.audiosize, withDec := true, accum := if b.mode ≠ MODE_CELT then 1 else 0,
    channels := st.channels }

/-- Arguments of the silence-frame CELT call (:599). -/
def silenceArgs (st : DecState) (b : Body) : CeltArgs :=
  { fs := st.Fs, site := 2, dataOff := none, avail := 2, len := 2, frame_size := F2_5 st, withDec := false,
    accum := if b.mode ≠ MODE_CELT then 1 else 0, channels := st.channels }

theorem stepMainCelt_eq (o : Oracle) (b : Body) (red : Red) (r : Run) :
    stepMainCelt o b red r =
      if b.mode ≠ MODE_SILK then celtCall o (mainArgs r.st b red) b.pcm r
      else if r.st.prev_mode = MODE_HYBRID ∧ ¬(red.redundancy ≠ 0 ∧ red.celt_to_silk ≠ 0 ∧ r.st.prev_redundancy ≠ 0) then
        (0, (celtCall o (silenceArgs r.st b) b.pcm r).2)
      else (0, r) := rfl

@[simp] theorem celtCall_st (a : CeltArgs) (p : Ptr) : (celtCall o a p r).2.st = r.st := rfl
@[simp] theorem stepRedC2S_st : (stepRedC2S o b red r).st = r.st := by unfold stepRedC2S; split <;> rfl
@[simp] theorem stepMainCelt_st : (stepMainCelt o b red r).2.st = r.st := by
  rw [stepMainCelt_eq]; split
  · rfl
  · split <;> rfl
@[simp] theorem stepRedS2C_st : (stepRedS2C o b red r).st = r.st := by unfold stepRedS2C; dsimp only; split <;> rfl
@[simp] theorem stepRedCopy_st : (stepRedCopy b red r).st = r.st := by unfold stepRedCopy; dsimp only; split <;> rfl
@[simp] theorem stepTransFade_st (tr : Bool) : (stepTransFade b tr r).st = r.st := by
  unfold stepTransFade; dsimp only; split
  · split <;> rfl
  · rfl
@[simp] theorem stepGain_st : (stepGain b r).st = r.st := by unfold stepGain; split <;> rfl

theorem stepMainCelt_spec (ho : OracleOk o) (hu : Units st0 u) (hg : Good st0 cap0 r) (hp : CeltPre s u b red)
    (hroom : Room st0 cap0 b.pcm b.audiosize) :
    0 ≤ (stepMainCelt o b red r).1 ∧ Good st0 cap0 (stepMainCelt o b red r).2 := by
  have hur := hg.units hu
  have hupos := hu.pos
  have hlen := hp.len
  have hlen' := hp.body.len
  rw [stepMainCelt_eq]
  by_cases hm : b.mode ≠ MODE_SILK
  · simp only [hm, ne_eq, not_false_eq_true, ↓reduceIte]
    have haud := hp.body.audCelt hm
    -- a frame with a CELT layer lasts at most 20 ms: the call is for all of it
    have hf : (mainArgs r.st b red).frame_size = b.audiosize := by simp only [mainArgs, hur.f20]; omega
    have hoff : ∀ off, (mainArgs r.st b red).dataOff = some off → 0 ≤ off := by
      intro off hoff
      simp only [mainArgs] at hoff
      split at hoff
      · cases hoff
      · exact hp.body.off hoff
    have := celtCall_spec ho hu hg rfl rfl (hf ▸ haud) ⟨hlen.1, Int.le_trans hlen.2 hlen'.2⟩ (hf ▸ hroom) hlen.2 hoff
    exact ⟨by rw [this.1, hf]; omega, this.2⟩
  · simp only [hm, ↓reduceIte]
    split
    · have hrm : Room st0 cap0 b.pcm (F2_5 r.st) := hur.f25 ▸ hroom.le (by omega) (hp.body.aud_ge (by omega))
      exact ⟨Int.le_refl 0, (celtCall_spec ho hu hg rfl rfl (Or.inl hur.f25) (by simp [silenceArgs]) hrm (by simp [silenceArgs])
        (by intro off hoff; cases hoff)).2⟩
    · exact ⟨Int.le_refl 0, hg⟩

theorem stepRedS2C_spec (ho : OracleOk o) (hu : Units st0 u) (hg : Good st0 cap0 r) (hp : CeltPre s u b red)
    (hroom : Room st0 cap0 b.pcm b.audiosize) : Good st0 cap0 (stepRedS2C o b red r) := by
  have hupos := hu.pos
  unfold stepRedS2C
  dsimp only
  split
  · rename_i h
    obtain ⟨_, _, h4u⟩ := hp.red h.1
    simp only [(hg.units hu).f25, hg.ch, Int.mul_comm st0.channels]
    exact ((redCall_spec ho hu 3 hg hp h.1).acc (hroom.add (by omega) (by omega) (by omega))).acc
      ((hg.redRoom hu h.1).add (by omega) (by omega) (by omega))
  · exact hg

theorem stepRedCopy_spec (hu : Units st0 u) (hg : Good st0 cap0 r) (hp : CeltPre s u b red)
    (hroom : Room st0 cap0 b.pcm b.audiosize) : Good st0 cap0 (stepRedCopy b red r) := by
  have hupos := hu.pos
  unfold stepRedCopy
  dsimp only
  split
  · rename_i h
    obtain ⟨_, _, h4u⟩ := hp.red h.1
    simp only [(hg.units hu).f25, hg.ch]
    exact (hg.acc ((hg.redRoom hu h.1).le (by omega) (by omega))).acc (hroom.le (by omega) (by omega))
  · exact hg

theorem stepTransFade_spec {tr : Bool} (hu : Units st0 u) (hg : Good st0 cap0 r) (hp : CeltPre s u b red)
    (hroom : Room st0 cap0 b.pcm b.audiosize) : Good st0 cap0 (stepTransFade b tr r) := by
  have hur := hg.units hu
  have hupos := hu.pos
  unfold stepTransFade
  dsimp only
  split
  · split
    · rename_i h5
      rw [hur.f5] at h5
      simp only [hur.f25, hg.ch]
      exact (hg.acc ((hg.transRoom hu).le (by omega) (by omega))).acc (hroom.le (by omega) (by omega))
    · simp only [hur.f25, hg.ch]
      exact (hg.acc ((hg.transRoom hu).le (by omega) (by omega))).acc (hroom.le (by omega) (hp.body.aud_ge (by omega)))
  · exact hg

theorem stepGain_spec (hg : Good st0 cap0 r) (hroom : Room st0 cap0 b.pcm b.audiosize) : Good st0 cap0 (stepGain b r) := by
  unfold stepGain
  rw [hg.ch]
  exact hg.pushIf fun _ => hroom.ev 11

theorem FrameRel.finish (s : DecState) (m p : Int) : FrameRel s { s with prev_mode := m, prev_redundancy := p } :=
  ⟨rfl, rfl, rfl, rfl, rfl, rfl, rfl, rfl, rfl, rfl, id, id⟩

/-- The CELT stage and the output cross-fades: returns `audiosize`, every access in bounds. -/
theorem celtStage_spec {tr : Bool} (ho : OracleOk o) (hu : Units st0 u) (hg : Good st0 cap0 r) (hp : CeltPre s u b red)
    (hroom : Room st0 cap0 b.pcm b.audiosize)
    (hready : b.mode ≠ MODE_CELT → r.st.dc.internalSampleRate ≠ 0 ∧ r.st.dc.nChannelsInternal ≠ 0) :
    SPost st0 cap0 r.st (fun v r' => v = b.audiosize ∧ r'.st.prev_mode = b.mode) (celtStage o b red tr r) := by
  have g1 := stepRedC2S_spec ho hu hg hp
  obtain ⟨m0, g2⟩ := stepMainCelt_spec ho hu g1 hp hroom
  have g6 := stepGain_spec (stepTransFade_spec (tr := tr) hu (stepRedCopy_spec hu
    (stepRedS2C_spec ho hu g2 hp hroom) hp hroom) hp hroom) hroom
  -- no step before `stepFinish` touches the state
  have hst : (stepGain b (stepTransFade b tr (stepRedCopy b red (stepRedS2C o b red
      (stepMainCelt o b red (stepRedC2S o b red r)).2)))).st = r.st := by simp
  unfold celtStage
  simp only [if_neg (Int.not_lt.mpr m0)]
  refine .ret (g6.setSt ?_ g6.fs g6.ch) (by unfold stepFinish; rw [Run.setSt_st, hst]; exact .finish _ _ _) ⟨rfl, rfl⟩
  rw [hst]
  refine { hg.inv with pm := ?_, pr := ?_, silkReady := fun hm => hready ?_ }
  · have := hp.body.mode; simp only; omega
  · simp only; split <;> simp
  · simp only at hm; rcases hm with h | h <;> rw [h] <;> decide

/-- Contract of a recursive call `opus_decode_frame(st, NULL, 0, pcm, n, 0)` — the chunk loop (:334) and the mode transitions
    (:379 / :521) make such calls, for at most 20 ms: asked for `j ≤ 8` units with room for them, it produces between 1 and
    `j` units. -/
def InnerOk (st0 : DecState) (cap0 u : Int) (inner : Ptr → Int → Run → Res') : Prop :=
  ∀ (r : Run) (pcm : Ptr) (j : Int), Good st0 cap0 r → 1 ≤ j ∧ j ≤ 8 → Room st0 cap0 pcm (j * u) →
    SPost st0 cap0 r.st (fun v _ => ∃ c, v = c * u ∧ 1 ≤ c ∧ c ≤ j) (inner pcm (j * u) r)

theorem wantTransition_data {st : DecState} {b : Body} (h : wantTransition st b = true) : b.data.isSome = true := by
  unfold wantTransition at h
  simp only [Bool.and_eq_true] at h
  exact h.1.1

/-- The call with the gain saved, cleared and restored (`gain0Call`; :375-380 / :517-522) meets the contract of
    the recursive call whenever the plain call does; the caller's gain is back afterwards (`FrameRel.gain`). -/
theorem gain0Call_innerOk (h : InnerOk st0 cap0 u trans) : InnerOk st0 cap0 u (gain0Call trans) := by
  intro r pcm j hg hj hroom
  obtain ⟨v, r', h1, h2, h3, hv⟩ := h (r.setSt { r.st with decode_gain := 0 }) pcm j
    (hg.setSt (hg.inv.withGain 0 (by omega)) hg.fs hg.ch) hj hroom
  unfold gain0Call
  rw [h1]
  exact .ret (h2.setSt (h2.inv.withGain _ hg.inv.gain) h2.fs h2.ch) { h3 with gain := rfl } hv

theorem transStep_spec (c : Prop) [Decidable c] (hu : Units st0 u) (hg : Good st0 cap0 r)
    (haud : FrameDur u b.audiosize)
    (htr : c → InnerOk st0 cap0 u trans) :
    SPost st0 cap0 r.st (fun _ _ => True) (if c then transCall trans b r else (.ret (), r)) := by
  have hupos := hu.pos
  refine .ite (fun hc => ?_) fun _ => .ret hg (.refl _) trivial
  -- 2.5 ms or 5 ms into the transition buffer
  obtain ⟨j, hj, ej⟩ : ∃ j : Int, (1 ≤ j ∧ j ≤ 2) ∧ min (F5 r.st) b.audiosize = j * u := by
    rw [(hg.units hu).f5]
    by_cases h : b.audiosize = u
    · exact ⟨1, by omega, by omega⟩
    · exact ⟨2, by omega, by omega⟩
  unfold transCall
  rw [ej]
  exact (gain0Call_innerOk (htr hc) r _ j hg (by omega) ((hg.transRoom hu).le (Int.mul_nonneg (by omega) (by omega))
    (Int.mul_le_mul_of_nonneg_right hj.2 (by omega)))).bind fun _ r' g f _ => .ret g (.refl _) trivial

/-- `opus_decode_frame` from :354 on, under the oracle contracts: returns `audiosize`, preserves the
    invariant, and every inner call / buffer access is legal. -/
theorem frameBody_spec (ho : OracleOk o) (hu : Units st0 u) (hg : Good st0 cap0 r) (hb : BodyOk r.st u b)
    (hroom : Room st0 cap0 b.pcm b.audiosize)
    (htr : b.data.isSome → InnerOk st0 cap0 u trans) :
    SPost st0 cap0 r.st (fun v r' => v = b.audiosize ∧ r'.st.prev_mode = b.mode) (frameBody o trans b r) := by
  have hlen := hb.len
  have hend : endbandOk b.bandwidth = true := by
    rcases isSome_or_isNone b.data with h | h
    · exact (hb.isData h).2.2.1
    · rw [(hb.isNull h).1]; decide
  unfold frameBody
  dsimp only
  refine (transStep_spec _ hu hg hb.aud fun h => htr (wantTransition_data h.1)).bind fun _ rA gA fA _ => ?_
  rw [if_neg (Int.not_lt.mpr hb.fits)]
  -- the SILK stage, or nothing: `ec_tell` is at least 1 and the SILK control block is ready if it is needed
  have hC : SPost st0 cap0 rA.st (fun et rC => et.1 = 0 ∧ 1 ≤ et.2 ∧
      (b.mode ≠ MODE_CELT → rC.st.dc.internalSampleRate ≠ 0 ∧ rC.st.dc.nChannelsInternal ≠ 0))
      (if b.mode ≠ MODE_CELT then silkStage o b rA else (.ret (0, 1), rA)) := by
    refine .ite (fun hm => ?_) fun hm => .ret gA (.refl _) ⟨rfl, Int.le_refl 1, fun h => absurd h hm⟩
    refine (silkStage_spec ho hu gA ⟨hb.aud, fun hd => (hb.isData hd).2.1, fun hn => ?_⟩ hroom).mono
      fun _ _ _ _ h => ⟨h.1, h.2.1, fun _ => h.2.2.2.2⟩
    obtain ⟨h1, h2⟩ := (hb.isNull hn).2 hm
    exact ⟨fA.isr h1, fA.nci h2⟩
  refine hC.bind fun et rC gC fC ⟨het, htell, hreadyC⟩ => ?_
  rw [if_neg fun h => h het]
  obtain ⟨hred, hredm⟩ := redStage_spec ho b et.2 rC hlen.1 htell
  rw [← hred.st]
  refine (transStep_spec _ hu (gC.of_eq hred.st hred.log) hb.aud fun h => htr ?_).bind fun _ rE gE fE _ => ?_
  · have h1 := h.1
    split at h1
    · cases h1
    · exact wantTransition_data h1
  · rw [if_neg fun h => h hend]
    refine celtStage_spec (s := r.st) ho hu gE ⟨hb, ⟨hred.len0, hred.lenle⟩, fun hr => ?_⟩
      hroom fun hm => ?_
    · obtain ⟨h1, h2⟩ := hred.red hr
      obtain ⟨h3, h4⟩ := hredm hr
      exact ⟨h1, h2, (hb.isData h4).2.2.2 h3⟩
    · obtain ⟨h1, h2⟩ := hreadyC hm
      exact ⟨fE.isr (hred.st ▸ h1), fE.nci (hred.st ▸ h2)⟩

/-- `gain0Call` by projections, for C19: the inner call sees gain 0, its result, log and call counter are kept, the caller's
    gain is back afterwards. -/
theorem gain0Call_inner (inner : Ptr → Int → Run → Res') (p : Ptr) (n : Int) (r : Run) :
    (gain0Call inner p n r).1 = (inner p n (r.setSt { r.st with decode_gain := 0 })).1 ∧
    (gain0Call inner p n r).2.log = (inner p n (r.setSt { r.st with decode_gain := 0 })).2.log ∧
    (gain0Call inner p n r).2.k = (inner p n (r.setSt { r.st with decode_gain := 0 })).2.k ∧
    (gain0Call inner p n r).2.st.decode_gain = r.st.decode_gain :=
  ⟨rfl, rfl, rfl, rfl⟩

/-- What a FEC frame asks of the layers (:444, :475, :581): SILK decodes the LBRR data
    (`lost_flag = 2`), no redundancy is parsed, and the CELT layer is given no data (it conceals). -/
theorem fec_frame_layers (o : Oracle) (b : Body) (off : Int) (hd : b.data = some off) (hf : b.fec ≠ 0) (tell : Int)
    (r : Run) (st : DecState) (red : Red) :
    silkLost b = 2 ∧ (redStage o b tell r).1.redundancy = 0 ∧ (redStage o b tell r).2 = r ∧
    (mainArgs st b red).dataOff = none := by
  refine ⟨?_, ?_, ?_, ?_⟩
  · unfold silkLost; simp [hd, hf]
  · unfold redStage; simp [hf]
  · unfold redStage; simp [hf]
  · unfold mainArgs; simp [hf]

end Opus.DecSkel
