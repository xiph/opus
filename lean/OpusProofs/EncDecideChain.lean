import OpusProofs.EncDecide
/-
  OpusProofs.EncDecideChain — the decision chain of opus_encode_native (opus_encoder.c:1359-1628):
  range invariant, what the settings force, and what that means for the TOC byte.
-/
namespace Opus.EncDecide
open Opus Opus.Framing

/-- The DSP-dependent inputs have the types the C code gives them. -/
structure OracleOk (o : Oracle) : Prop where
  ch : o.autoChannels = 1 ∨ o.autoChannels = 2
  mode : o.autoMode = 1000 ∨ o.autoMode = 1002
  bw : 1101 ≤ o.autoBandwidth ∧ o.autoBandwidth ≤ 1105
  det : o.detected = 0 ∨ (1101 ≤ o.detected ∧ o.detected ≤ 1105)

/-- Range invariant of the decision state: every setting in the range its ctl admits, the running
    state in range, `first` ⇒ no previous mode, and a low-delay encoder never has a SILK/hybrid
    previous mode. -/
structure DInv (s : DSt) : Prop where
  fs : s.fs ∈ rates
  ch : s.channels = 1 ∨ s.channels = 2
  force : s.forceChannels = -1000 ∨ (1 ≤ s.forceChannels ∧ s.forceChannels ≤ s.channels)
  maxBw : 1101 ≤ s.maxBandwidth ∧ s.maxBandwidth ≤ 1105
  userBw : s.userBandwidth = -1000 ∨ (1101 ≤ s.userBandwidth ∧ s.userBandwidth ≤ 1105)
  forcedMode : s.userForcedMode = -1000 ∨ (1000 ≤ s.userForcedMode ∧ s.userForcedMode ≤ 1002)
  mode : 1000 ≤ s.mode ∧ s.mode ≤ 1002
  prevMode : s.prevMode = 0 ∨ (1000 ≤ s.prevMode ∧ s.prevMode ≤ 1002)
  bw : 1101 ≤ s.bandwidth ∧ s.bandwidth ≤ 1105
  streamCh : 1 ≤ s.streamChannels ∧ s.streamChannels ≤ s.channels
  prevCh : 0 ≤ s.prevChannels ∧ s.prevChannels ≤ s.channels
  toMono : s.toMono = 0 ∨ s.toMono = 1
  firstPrev : s.first = true → s.prevMode = 0
  lowdelay : s.application = 2051 → s.prevMode = 0 ∨ s.prevMode = 1002

/-- The mode after the transition logic, and the bandwidth at :1621, as used by `chain`. -/
def trOf (s : DSt) (o : Oracle) (f : Int) : Trans := modeTransition (modeDecision s o f) s.prevMode f s.fs
def bwOf (s : DSt) (o : Oracle) (f b : Int) : Int :=
  finishBw s o (trOf s o f).mode (clampBw s (trOf s o f).mode ((s.fs / f) * b * 8) (autoBw s o (trOf s o f).mode))

theorem chain_mode (s o f b) : (chain s o f b).mode = modeFix (trOf s o f).mode (bwOf s o f b) := rfl
theorem chain_bandwidth (s o f b) : (chain s o f b).bandwidth = bwOf s o f b := rfl
theorem chain_streamChannels (s o f b) : (chain s o f b).streamChannels =
    (monoDelay (chanDecision s o) s.prevChannels s.toMono (trOf s o f).mode s.prevMode).1 := rfl
theorem chain_toMono (s o f b) : (chain s o f b).toMono =
    (monoDelay (chanDecision s o) s.prevChannels s.toMono (trOf s o f).mode s.prevMode).2 := rfl
theorem chain_toCelt (s o f b) : (chain s o f b).toCelt = (trOf s o f).toCelt := rfl

theorem chanDecision_range {s : DSt} {o : Oracle} (hs : DInv s) (ho : OracleOk o) :
    1 ≤ chanDecision s o ∧ chanDecision s o ≤ s.channels := by
  unfold chanDecision
  have := hs.ch; have := hs.force; have := ho.ch
  consts
  split
  · omega
  · split <;> omega

theorem modeDecision_range {s : DSt} {o : Oracle}
    (hf : s.userForcedMode = -1000 ∨ (1000 ≤ s.userForcedMode ∧ s.userForcedMode ≤ 1002))
    (ho : o.autoMode = 1000 ∨ o.autoMode = 1002) (f : Int) :
    1000 ≤ modeDecision s o f ∧ modeDecision s o f ≤ 1002 := by
  unfold modeDecision
  consts
  grind

theorem modeTransition_range {m pm f fs : Int} (hm : 1000 ≤ m ∧ m ≤ 1002)
    (hp : pm = 0 ∨ (1000 ≤ pm ∧ pm ≤ 1002)) :
    1000 ≤ (modeTransition m pm f fs).mode ∧ (modeTransition m pm f fs).mode ≤ 1002 := by
  unfold modeTransition
  consts
  grind

theorem trOf_range {s : DSt} {o : Oracle} (hs : DInv s) (ho : OracleOk o) (f : Int) :
    1000 ≤ (trOf s o f).mode ∧ (trOf s o f).mode ≤ 1002 :=
  modeTransition_range (modeDecision_range hs.forcedMode ho.mode f) hs.prevMode

/-- Frames shorter than 10 ms are coded by the MDCT layer alone, whatever the state. -/
theorem trOf_short {s : DSt} {o : Oracle} {f : Int} (h : f < s.fs / 100) : (trOf s o f).mode = 1002 := by
  -- the override of :1471-1473 makes the requested mode CELT-only, and the transition logic only leaves CELT-only
  -- (`to_celt`, :1487) when `frame_size ≥ Fs/100`
  unfold trOf modeTransition modeDecision
  consts
  grind

/-- A low-delay stream is coded by the MDCT layer alone if no SILK/hybrid frame precedes. -/
theorem trOf_lowdelay {s : DSt} {o : Oracle} {f : Int} (happ : s.application = 2051)
    (hp : s.prevMode = 0 ∨ s.prevMode = 1002) : (trOf s o f).mode = 1002 ∧ (trOf s o f).toCelt = false := by
  -- the requested mode is CELT-only (:1409-1411) and so is the previous one, or there is none: no transition (:1477)
  unfold trOf modeTransition modeDecision
  consts
  grind

theorem modeFix_range {m bw : Int} (hm : 1000 ≤ m ∧ m ≤ 1002) :
    1000 ≤ modeFix m bw ∧ modeFix m bw ≤ 1002 := by
  unfold modeFix; consts; grind

theorem modeFix_celt (m bw : Int) : modeFix m bw = 1002 ↔ m = 1002 := by
  unfold modeFix; consts; grind

/-- After :1625-1628 SILK-only means at most wideband, hybrid means above wideband. -/
theorem modeFix_bw {m bw : Int} (hm : 1000 ≤ m ∧ m ≤ 1002) :
    (modeFix m bw = 1000 → bw ≤ 1103) ∧ (modeFix m bw = 1001 → 1104 ≤ bw) := by
  unfold modeFix; consts; grind

theorem autoBw_range {s : DSt} {o : Oracle} (hs : 1101 ≤ s.bandwidth ∧ s.bandwidth ≤ 1105)
    (ho : 1101 ≤ o.autoBandwidth ∧ o.autoBandwidth ≤ 1105) (m : Int) :
    1101 ≤ autoBw s o m ∧ autoBw s o m ≤ 1105 := by
  unfold autoBw
  split <;> omega

/-- `clampBw` step by step (:1565-1586): the result is in range, at most the forced bandwidth
    (else the maximum bandwidth) and at most the Nyquist bandwidth. -/
theorem clampBw_spec {s : DSt} (h1 : 1101 ≤ s.maxBandwidth ∧ s.maxBandwidth ≤ 1105)
    (h2 : s.userBandwidth = -1000 ∨ (1101 ≤ s.userBandwidth ∧ s.userBandwidth ≤ 1105)) (m r bw : Int)
    (hb : 1101 ≤ bw ∧ bw ≤ 1105) :
    clampBw s m r bw ≤ (if s.userBandwidth ≠ -1000 then s.userBandwidth else s.maxBandwidth) ∧
    clampBw s m r bw ≤ nyquistBw s.fs ∧ 1101 ≤ clampBw s m r bw ∧ clampBw s m r bw ≤ 1105 := by
  unfold clampBw nyquistBw
  extract_lets b1 b2 b3 b4 b5 b6 b7
  consts
  have e1 : b1 ≤ s.maxBandwidth ∧ 1101 ≤ b1 ∧ b1 ≤ 1105 := by simp only [b1]; consts; split <;> omega
  clear_value b1
  have e2 : b2 ≤ (if ¬ s.userBandwidth = -1000 then s.userBandwidth else s.maxBandwidth) ∧ 1101 ≤ b2 ∧ b2 ≤ 1105 := by
    simp only [b2]; consts; split <;> simp_all <;> omega
  clear_value b2
  have e3 : b3 ≤ b2 ∧ 1101 ≤ b3 := by simp only [b3]; consts; split <;> omega
  clear_value b3
  have e4 : b4 ≤ b3 ∧ 1101 ≤ b4 ∧ (s.fs ≤ 24000 → b4 ≤ 1104) := by simp only [b4]; consts; split <;> omega
  clear_value b4
  have e5 : b5 ≤ b4 ∧ 1101 ≤ b5 ∧ (s.fs ≤ 16000 → b5 ≤ 1103) := by simp only [b5]; consts; split <;> omega
  clear_value b5
  have e6 : b6 ≤ b5 ∧ 1101 ≤ b6 ∧ (s.fs ≤ 12000 → b6 ≤ 1102) := by simp only [b6]; consts; split <;> omega
  clear_value b6
  have e7 : b7 ≤ b6 ∧ 1101 ≤ b7 ∧ (s.fs ≤ 8000 → b7 ≤ 1101) := by simp only [b7]; consts; split <;> omega
  clear_value b7
  refine ⟨by omega, ?_, by omega, by omega⟩
  repeat' split
  all_goals omega

theorem clampBw_range {s : DSt} (h1 : 1101 ≤ s.maxBandwidth ∧ s.maxBandwidth ≤ 1105)
    (h2 : s.userBandwidth = -1000 ∨ (1101 ≤ s.userBandwidth ∧ s.userBandwidth ≤ 1105)) {m r bw : Int}
    (hb : 1101 ≤ bw ∧ bw ≤ 1105) : 1101 ≤ clampBw s m r bw ∧ clampBw s m r bw ≤ 1105 :=
  (clampBw_spec h1 h2 m r bw hb).2.2

theorem finishBw_range {s : DSt} {o : Oracle} (ho : o.detected = 0 ∨ (1101 ≤ o.detected ∧ o.detected ≤ 1105)) {m bw : Int}
    (hb : 1101 ≤ bw ∧ bw ≤ 1105) : 1101 ≤ finishBw s o m bw ∧ finishBw s o m bw ≤ 1105 := by
  unfold finishBw
  consts
  grind

theorem bwOf_range {s : DSt} {o : Oracle} (hs : DInv s) (ho : OracleOk o) (f b : Int) :
    1101 ≤ bwOf s o f b ∧ bwOf s o f b ≤ 1105 :=
  finishBw_range ho.det (clampBw_range hs.maxBw hs.userBw (autoBw_range hs.bw ho.bw _))

def userLimit (s : DSt) : Int := if s.userBandwidth ≠ OPUS_AUTO then s.userBandwidth else s.maxBandwidth

theorem clampBw_le {s : DSt} (hs : DInv s) (m r bw : Int) (hb : 1101 ≤ bw ∧ bw ≤ 1105) :
    clampBw s m r bw ≤ userLimit s ∧ clampBw s m r bw ≤ nyquistBw s.fs := by
  have h := clampBw_spec hs.maxBw hs.userBw m r bw hb
  unfold userLimit; consts
  exact ⟨h.1, h.2.1⟩

/-- :1587-1619 only lower the bandwidth, except for the MDCT layer's missing medium band. -/
theorem finishBw_le {s : DSt} {o : Oracle} (m bw : Int) (hb : 1101 ≤ bw) :
    finishBw s o m bw ≤ bw ∨ (m = 1002 ∧ finishBw s o m bw = 1103 ∧ bw ≥ 1102) := by
  unfold finishBw
  consts
  grind

theorem bwLimit_eq (s : DSt) (mode : Int) :
    bwLimit s mode = if mode = 1002 ∧ min (userLimit s) (nyquistBw s.fs) = 1102 then 1103
                     else min (userLimit s) (nyquistBw s.fs) := by
  unfold bwLimit userLimit; consts

/-- **Bandwidth clamp chain.**  For all DSP inputs the bandwidth at :1621 is at most the forced
    bandwidth (else the maximum bandwidth) and at most the Nyquist bandwidth of the input rate;
    the only exception is that the MDCT layer codes a medium-band limit as wideband. -/
theorem bwOf_le {s : DSt} {o : Oracle} (hs : DInv s) (ho : OracleOk o) (f b : Int) :
    bwOf s o f b ≤ bwLimit s (modeFix (trOf s o f).mode (bwOf s o f b)) := by
  rw [bwLimit_eq]
  have hc := clampBw_le hs (trOf s o f).mode ((s.fs / f) * b * 8) (autoBw s o (trOf s o f).mode) (autoBw_range hs.bw ho.bw _)
  have hr := clampBw_range hs.maxBw hs.userBw (m := (trOf s o f).mode) (r := (s.fs / f) * b * 8) (autoBw_range hs.bw ho.bw (trOf s o f).mode)
  have hf := finishBw_le (s := s) (o := o) (trOf s o f).mode _ hr.1
  have hfix := modeFix_celt (trOf s o f).mode (bwOf s o f b)
  unfold bwOf at *
  generalize clampBw s (trOf s o f).mode (s.fs / f * b * 8) (autoBw s o (trOf s o f).mode) = c at *
  generalize finishBw s o (trOf s o f).mode c = r at *
  have hmin : min (userLimit s) (nyquistBw s.fs) = userLimit s ∨ min (userLimit s) (nyquistBw s.fs) = nyquistBw s.fs := by
    omega
  split <;> omega

theorem monoDelay_range {c pc tm m pm : Int} (hc : 1 ≤ c) :
    1 ≤ (monoDelay c pc tm m pm).1 ∧ ((monoDelay c pc tm m pm).2 = 0 ∨ (monoDelay c pc tm m pm).2 = 1) := by
  unfold monoDelay; split <;> simp <;> omega

theorem monoDelay_le {c pc tm m pm ch : Int} (hc : c ≤ ch) (hp : pc ≤ ch) : (monoDelay c pc tm m pm).1 ≤ ch := by
  unfold monoDelay; split <;> simp <;> omega

theorem chain_forced_stereo {s : DSt} {o : Oracle} {f b : Int} (hc : s.channels = 2) (hf : s.forceChannels = 2) :
    (chain s o f b).streamChannels = 2 := by
  rw [chain_streamChannels]; unfold monoDelay chanDecision; consts
  simp [hc, hf]

theorem chain_mono_encoder {s : DSt} {o : Oracle} {f b : Int} (hs : DInv s) (hc : s.channels = 1) :
    (chain s o f b).streamChannels = 1 := by
  rw [chain_streamChannels]; unfold monoDelay chanDecision; consts
  have := hs.prevCh
  grind

/-- Forced mono: the packet is mono unless this is the one delayed frame, which arms `toMono`. -/
theorem chain_forced_mono {s : DSt} {o : Oracle} {f b : Int} (hc : s.channels = 2) (hf : s.forceChannels = 1) :
    ((chain s o f b).streamChannels = 1 ∧ (chain s o f b).toMono = 0) ∨
    ((chain s o f b).streamChannels = 2 ∧ (chain s o f b).toMono = 1 ∧ s.toMono = 0 ∧ s.prevChannels = 2) := by
  rw [chain_streamChannels, chain_toMono]; unfold monoDelay chanDecision; consts
  grind

end Opus.EncDecide
