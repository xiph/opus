import OpusModel.CeltIdx
/-
  OpusProofs.CeltIdx — the index extents of the CELT decoder interior lie inside their allocations
  (decoder-state layout, decode_mem shift, post-filter).
-/
namespace Opus.CeltIdx
open Opus.Gen.CeltIdxConsts

/-! ## Interval algebra -/

/-- Empty, or contained in `[lo, hi]`. -/
def Ext.sub (e : Ext) (lo hi : Int) : Prop := e.isEmpty = true ∨ (lo ≤ e.lo ∧ e.hi ≤ hi)

theorem Ext.empty_sub (lo hi : Int) : Ext.empty.sub lo hi := Or.inl (by decide)

theorem Ext.mk_sub {l h lo hi : Int} (h1 : lo ≤ l) (h2 : h ≤ hi) : (Ext.mk l h).sub lo hi := Or.inr ⟨h1, h2⟩

theorem Ext.union_sub {a b : Ext} {lo hi : Int} (ha : a.sub lo hi) (hb : b.sub lo hi) : (a.union b).sub lo hi := by
  unfold Ext.union
  by_cases ea : a.isEmpty = true
  · rw [if_pos ea]; exact hb
  · rw [if_neg ea]
    by_cases eb : b.isEmpty = true
    · rw [if_pos eb]; exact ha
    · rw [if_neg eb]
      rcases ha with ha | ha
      · exact absurd ha ea
      rcases hb with hb | hb
      · exact absurd hb eb
      exact Or.inr ⟨by show lo ≤ min a.lo b.lo; omega, by show max a.hi b.hi ≤ hi; omega⟩

theorem Ext.shift_sub {e : Ext} {lo hi : Int} (d : Int) (h : e.sub lo hi) : (e.shift d).sub (lo + d) (hi + d) := by
  unfold Ext.shift
  by_cases ee : e.isEmpty = true
  · rw [if_pos ee]; exact Or.inl ee
  · rw [if_neg ee]
    rcases h with h | h
    · exact absurd h ee
    exact Or.inr ⟨by show lo + d ≤ e.lo + d; omega, by show e.hi + d ≤ hi + d; omega⟩

theorem Ext.sub_within {e : Ext} {lo hi n : Int} (h : e.sub lo hi) (h0 : 0 ≤ lo) (hn : hi < n) : e.within n := by
  rcases h with h | h
  · exact Or.inl h
  · exact Or.inr (by omega)

theorem Ext.sub_mono {e : Ext} {lo hi lo' hi' : Int} (h : e.sub lo hi) (h1 : lo' ≤ lo) (h2 : hi ≤ hi') : e.sub lo' hi' := by
  rcases h with h | h
  · exact Or.inl h
  · exact Or.inr (by omega)

/-! ## Decoder state layout -/

/-- The arrays behind the struct tile the allocation in the order the code computes the pointers: each starts where the
    previous one ends, and the last ends `szStruct − offMem − szSig` (struct tail padding) bytes before
    `opus_custom_decoder_get_size`. -/
theorem layout_tiles (CC : Int) :
    memOff 0 = offMem ∧ (∀ c, memOff (c + 1) = memOff c + memLen * szSig) ∧
    lpcOff CC = memOff CC ∧
    oldBandEOff CC = lpcOff CC + CC * CELT_LPC_ORDER * szVal16 ∧
    oldLogEOff CC = oldBandEOff CC + 2 * nbEBands * szGlog ∧
    oldLogE2Off CC = oldLogEOff CC + 2 * nbEBands * szGlog ∧
    backgroundOff CC = oldLogE2Off CC + 2 * nbEBands * szGlog ∧
    stateEnd CC = backgroundOff CC + 2 * nbEBands * szGlog ∧
    stateEnd CC + (szStruct - offMem - szSig) = getSize CC := by
  refine ⟨?_, ?_, rfl, rfl, rfl, rfl, rfl, rfl, ?_⟩
  · simp only [memOff, memLen, offMem, szSig, DECODE_BUFFER_SIZE, overlap]; omega
  · intro c; simp only [memOff, memLen, offMem, szSig, DECODE_BUFFER_SIZE, overlap]; omega
  · simp only [stateEnd, backgroundOff, oldLogE2Off, oldLogEOff, oldBandEOff, lpcOff, getSize, memLen, offMem, szSig, szVal16,
      szGlog, szStruct, DECODE_BUFFER_SIZE, overlap, CELT_LPC_ORDER, nbEBands]
    omega

/-- The struct's own `_decode_mem[1]` lies inside the struct, so the tail padding is non-negative and everything up to
    `stateEnd` is inside the `get_size` bytes. -/
theorem stateEnd_le_getSize (CC : Int) : stateEnd CC ≤ getSize CC := by
  have h := (layout_tiles CC).2.2.2.2.2.2.2.2
  have : (0 : Int) ≤ szStruct - offMem - szSig := by decide
  omega

/-- The model's size formula agrees with what the library returned when the constants were extracted. -/
theorem getSize_values : getSize 1 = getSize1 ∧ getSize 2 = getSize2 := by decide

/-- Element `i` of `decode_mem[c]` (`0 ≤ i < DECODE_BUFFER_SIZE+overlap`, `0 ≤ c < CC`) lies inside the `_decode_mem`
    region, before `lpc`. -/
theorem mem_elem_in_state {CC c i : Int} (hc : 0 ≤ c ∧ c < CC) (hi : 0 ≤ i ∧ i < memLen) :
    offMem ≤ memOff c + i * szSig ∧ memOff c + i * szSig + szSig ≤ lpcOff CC := by
  simp only [memOff, lpcOff, memLen, offMem, szSig, DECODE_BUFFER_SIZE, overlap] at *
  constructor
  · have : 0 ≤ c * 2168 := by omega
    omega
  · have : (c + 1) * 2168 ≤ CC * 2168 := by omega
    omega

/-! ## comb_filter -/

theorem clampT_ge (T : Int) : COMBFILTER_MINPERIOD ≤ clampT T ∧ T ≤ clampT T := by
  unfold clampT; omega

theorem combOv_range (a : CombArgs) (hov : 0 ≤ a.ovl ∧ a.ovl ≤ a.n) : 0 ≤ combOv a ∧ combOv a ≤ a.n := by
  unfold combOv; split <;> omega

/-- Reads of `comb_filter` stay within `[−max(T0,T1)−2, n−1]` of `x` (periods after the `IMAX` clamp). -/
theorem combRead_sub (a : CombArgs) (hov : 0 ≤ a.ovl ∧ a.ovl ≤ a.n) :
    (combRead a).sub (-(max (clampT a.T0) (clampT a.T1)) - 2) (a.n - 1) := by
  have h0 := clampT_ge a.T0
  have h1 := clampT_ge a.T1
  have hm : (15 : Int) = COMBFILTER_MINPERIOD := rfl
  have ho := combOv_range a hov
  unfold combRead
  generalize combOv a = o at ho ⊢
  split
  · split
    · exact Ext.empty_sub _ _
    · exact Ext.mk_sub (by omega) (by omega)
  · refine Ext.union_sub (Ext.union_sub (Ext.mk_sub (by omega) (by omega)) ?_) ?_
    · split
      · exact Ext.mk_sub (by omega) (by omega)
      · exact Ext.empty_sub _ _
    · split
      · split
        · exact Ext.empty_sub _ _
        · exact Ext.mk_sub (by omega) (by omega)
      · split
        · exact Ext.mk_sub (by omega) (by omega)
        · exact Ext.mk_sub (by omega) (by omega)

/-- Writes of `comb_filter` stay within `[0, n−1]` of `y`. -/
theorem combWrite_sub (a : CombArgs) (hov : 0 ≤ a.ovl ∧ a.ovl ≤ a.n) : (combWrite a).sub 0 (a.n - 1) := by
  have ho := combOv_range a hov
  unfold combWrite
  generalize combOv a = o at ho ⊢
  split
  · split
    · exact Ext.empty_sub _ _
    · exact Ext.mk_sub (by omega) (by omega)
  · refine Ext.union_sub ?_ ?_
    · split
      · exact Ext.mk_sub (by omega) (by omega)
      · exact Ext.empty_sub _ _
    · split
      · split
        · exact Ext.empty_sub _ _
        · exact Ext.mk_sub (by omega) (by omega)
      · split
        · exact Ext.mk_sub (by omega) (by omega)
        · exact Ext.empty_sub _ _

/-! ## Legal frames and periods -/

theorem legalFrame_cases {N LM : Int} (h : LegalFrame N LM) :
    (LM = 0 ∧ N = 120) ∨ (LM = 1 ∧ N = 240) ∨ (LM = 2 ∧ N = 480) ∨ (LM = 3 ∧ N = 960) := by
  obtain ⟨h0, h1, h2⟩ := h
  have hm : maxLM = 3 := rfl
  have : LM = 0 ∨ LM = 1 ∨ LM = 2 ∨ LM = 3 := by omega
  rcases this with rfl | rfl | rfl | rfl <;> simp [h2, frameN, shortMdctSize]

theorem periodOk_clamp {p : Int} (h : PeriodOk p) : COMBFILTER_MINPERIOD ≤ clampT p ∧ clampT p < MAX_PERIOD := by
  have hm : (15 : Int) = COMBFILTER_MINPERIOD := rfl
  have hM : (1024 : Int) = MAX_PERIOD := rfl
  unfold clampT
  rcases h with h | h <;> omega

/-! ## The post-filter calls -/

/-- A post-filter call, whatever its arguments: reads within `[xoff − max(T0,T1) − 2, xoff + n − 1]`, writes within
    `[xoff, xoff + n − 1]` of `decode_mem[c]` (periods after the `IMAX` clamp). -/
theorem PfCall.in_bounds (k : PfCall) (g0z g1z gsame : Bool) {lo lo' hi : Int} (hov : 0 ≤ k.ovl ∧ k.ovl ≤ k.n)
    (hlo : lo ≤ k.xoff - max (clampT k.T0) (clampT k.T1) - 2) (hlo' : lo' ≤ k.xoff) (hhi : k.xoff + k.n - 1 ≤ hi) :
    (k.read g0z g1z gsame).sub lo hi ∧ (k.write g0z g1z gsame).sub lo' hi :=
  ⟨Ext.sub_mono (Ext.shift_sub k.xoff (combRead_sub (k.args g0z g1z gsame) hov))
      (by show lo ≤ -(max (clampT k.T0) (clampT k.T1)) - 2 + k.xoff; omega) (by show k.n - 1 + k.xoff ≤ hi; omega),
   Ext.sub_mono (Ext.shift_sub k.xoff (combWrite_sub (k.args g0z g1z gsame) hov)) (by omega)
      (by show k.n - 1 + k.xoff ≤ hi; omega)⟩

/-- Every read and write of every post-filter `comb_filter` call of a legal frame, for any gains / tapsets, lies inside
    `decode_mem[c][0 .. DECODE_BUFFER_SIZE+overlap)`; more precisely reads start at `DECODE_BUFFER_SIZE − N − 1025` or
    later, and nothing at or above `DECODE_BUFFER_SIZE` (the overlap tail) is touched. -/
theorem pfCalls_in_bounds {N LM pOld pCur pNew : Int} (hf : LegalFrame N LM) (ho : PeriodOk pOld) (hc : PeriodOk pCur)
    (hn : PeriodOk pNew) (k : PfCall) (hk : k ∈ pfCalls N LM pOld pCur pNew) (g0z g1z gsame : Bool) :
    (k.read g0z g1z gsame).sub (DECODE_BUFFER_SIZE - N - MAX_PERIOD - 1) (DECODE_BUFFER_SIZE - 1) ∧
    (k.write g0z g1z gsame).sub (DECODE_BUFFER_SIZE - N) (DECODE_BUFFER_SIZE - 1) := by
  have co := periodOk_clamp ho
  have cc := periodOk_clamp hc
  have cn := periodOk_clamp hn
  have hm : (15 : Int) = COMBFILTER_MINPERIOD := rfl
  have hM : (1024 : Int) = MAX_PERIOD := rfl
  have hD : (2048 : Int) = DECODE_BUFFER_SIZE := rfl
  have hs : (120 : Int) = shortMdctSize := rfl
  have hv : (120 : Int) = overlap := rfl
  have hN := legalFrame_cases hf
  have idem : ∀ T, COMBFILTER_MINPERIOD ≤ T → clampT T = T := by intro T h; unfold clampT; omega
  unfold pfCalls at hk
  rcases List.mem_cons.mp hk with rfl | hk
  · -- first call: x = out_syn[c], n = shortMdctSize
    refine PfCall.in_bounds _ _ _ _ (by show 0 ≤ overlap ∧ overlap ≤ shortMdctSize; omega) ?_ ?_ ?_ <;> dsimp only <;>
      try rw [idem _ co.1, idem _ cc.1]
    all_goals simp only [outSynOff]; omega
  · -- second call (LM ≠ 0): x = out_syn[c] + shortMdctSize, n = N − shortMdctSize
    split at hk
    · rcases List.mem_cons.mp hk with rfl | hk
      · refine PfCall.in_bounds _ _ _ _ (by show 0 ≤ overlap ∧ overlap ≤ N - shortMdctSize; omega) ?_ ?_ ?_ <;> dsimp only <;>
          try rw [idem _ cc.1]
        all_goals simp only [outSynOff]; omega
      · exact absurd hk List.not_mem_nil
    · exact absurd hk List.not_mem_nil

end Opus.CeltIdx
