import OpusProofs.DecSkelDecode
/-
  OpusProofs.DecSkelEqs — the skeleton in normal form.  The model sequences a step that may abort or hang in two spellings:
  `bindRun x f`, and `match x with | (.ret v, r1) => … | x => x`.  They are the same operation; the equations below restate
  the functions written in the second spelling (and `frameBody`) with `bindRun`, so that a walk over the skeleton needs one
  rule for `bindRun` and one for `if`, and never splits on the outcome of a call.
-/
namespace Opus.DecSkel
open Opus Opus.Framing

/-- `frameBody` after the SILK stage. -/
def fbTail (o : Oracle) (trans : Ptr → Int → Run → Res') (b : Body) (transition : Bool) (et : Int × Int) (r : Run) : Res' :=
  if et.1 ≠ 0 then (.ret et.1, r)
  else
    bindRun (if (if (redStage o b et.2 r).1.redundancy ≠ 0 then false else transition) = true ∧ b.mode ≠ MODE_CELT
        then transCall trans b (redStage o b et.2 r).2 else (.ret (), (redStage o b et.2 r).2)) fun _ r' =>
      if ¬ endbandOk b.bandwidth then (.abort, r')
      else celtStage o b (redStage o b et.2 r).1 (if (redStage o b et.2 r).1.redundancy ≠ 0 then false else transition) r'

theorem frameBody_eq (o : Oracle) (trans : Ptr → Int → Run → Res') (b : Body) (r : Run) :
    frameBody o trans b r =
      bindRun (if wantTransition r.st b = true ∧ b.mode = MODE_CELT then transCall trans b r else (.ret (), r)) fun _ r1 =>
        if b.audiosize > b.frame_size then (.ret BAD_ARG, r1)
        else bindRun (if b.mode ≠ MODE_CELT then silkStage o b r1 else (.ret (0, 1), r1)) (fbTail o trans b (wantTransition r.st b)) := rfl

theorem plcLoop_eq (inner : Ptr → Int → Run → Res') (f20 ch frame_size audiosize : Int) (pcm : Ptr) (r : Run) :
    plcLoop inner f20 ch frame_size audiosize pcm r =
      bindRun (inner pcm (min audiosize f20) r) fun ret r1 =>
        if ret < 0 then (.ret ret, r1)
        else if ret = 0 then (.hang, r1)
        else if audiosize - ret > 0 then plcLoop inner f20 ch frame_size (audiosize - ret) (pcm.add (ret * ch)) r1
        else (.ret frame_size, r1) := by
  rw [plcLoop]
  rcases inner pcm (min audiosize f20) r with ⟨_ | _ | _, r1⟩ <;> rfl

theorem nativePlcLoop_eq (o : Oracle) (frame_size : Int) (pcm : Ptr) (pc : Int) (r : Run) :
    nativePlcLoop o frame_size pcm pc r =
      bindRun (decodeFrame o none 0 (pcm.add (pc * r.st.channels)) (frame_size - pc) 0 r) fun ret r1 =>
        if ret < 0 then (.ret ret, r1)
        else if ret = 0 then (.hang, r1)
        else if pc + ret < frame_size then nativePlcLoop o frame_size pcm (pc + ret) r1
        else if pc + ret ≠ frame_size then (.abort, r1)
        else (.ret (pc + ret), r1.setSt { r1.st with last_packet_duration := pc + ret }) := by
  rw [nativePlcLoop]
  rcases decodeFrame o none 0 (pcm.add (pc * r.st.channels)) (frame_size - pc) 0 r with ⟨_ | _ | _, r1⟩ <;> rfl

theorem frameLoop_cons (o : Oracle) (pcm : Ptr) (frame_size pfs : Int) (sz : Nat) (rest : List Nat) (off nb : Int) (r : Run) :
    frameLoop o pcm frame_size pfs (sz :: rest) off nb r =
      bindRun (decodeFrame o (some off) sz (pcm.add (nb * r.st.channels)) (frame_size - nb) 0 r) fun ret r1 =>
        if ret < 0 then (.ret ret, r1)
        else if ret ≠ pfs then (.abort, r1)
        else frameLoop o pcm frame_size pfs rest (off + sz) (nb + ret) r1 := by
  rw [frameLoop]
  rcases decodeFrame o (some off) sz (pcm.add (nb * r.st.channels)) (frame_size - nb) 0 r with ⟨_ | _ | _, r1⟩ <;> rfl

theorem fecGap_eq (o : Oracle) (pcm : Ptr) (gap : Int) (r : Run) :
    fecGap o pcm gap r =
      if gap ≠ 0 then
        bindRun (nativePlc o pcm gap r) fun ret r1 =>
          if ret < 0 then (.ret ret, r1.setSt { r1.st with last_packet_duration := r.st.last_packet_duration })
          else if ret ≠ gap then (.abort, r1)
          else (.ret 0, r1)
      else (.ret 0, r) := by
  unfold fecGap
  rcases nativePlc o pcm gap r with ⟨_ | _ | _, r1⟩ <;> rfl

theorem nativeFec_eq (o : Oracle) (pcm : Ptr) (frame_size pfs pm pb pc off0 sz0 : Int) (r : Run) :
    nativeFec o pcm frame_size pfs pm pb pc off0 sz0 r =
      if frame_size < pfs ∨ pm = MODE_CELT ∨ r.st.mode = MODE_CELT then nativePlc o pcm frame_size r
      else
        bindRun (fecGap o pcm (frame_size - pfs) r) fun v r1 =>
          if v < 0 then (.ret v, r1)
          else
            bindRun (decodeFrame o (some off0) sz0 (pcm.add (r.st.channels * (frame_size - pfs))) pfs 1
                (r1.setSt (setToc r1.st pm pb pfs pc))) fun ret r3 =>
              if ret < 0 then (.ret ret, r3)
              else (.ret frame_size, r3.setSt { r3.st with last_packet_duration := frame_size }) := by
  unfold nativeFec
  rcases fecGap o pcm (frame_size - pfs) r with ⟨v | _ | _, r1⟩
  · dsimp only [bindRun]
    rcases decodeFrame o (some off0) sz0 (pcm.add (r.st.channels * (frame_size - pfs))) pfs 1
      (r1.setSt (setToc r1.st pm pb pfs pc)) with ⟨_ | _ | _, r3⟩ <;> rfl
  · rfl
  · rfl

theorem nativeFrames_eq (o : Oracle) (pcm : Ptr) (frame_size pfs pm pb pc : Int) (sizes : List Nat) (off0 : Int) (sc : Bool)
    (r : Run) :
    nativeFrames o pcm frame_size pfs pm pb pc sizes off0 sc r =
      bindRun (frameLoop o pcm frame_size pfs sizes off0 0 (r.setSt (setToc r.st pm pb pfs pc))) fun nb r2 =>
        if nb < 0 then (.ret nb, r2)
        else if sc then (.ret nb, (r2.setSt { r2.st with last_packet_duration := nb }).push (.clip pcm nb r.st.channels))
        else (.ret nb, r2.setSt { r2.st with last_packet_duration := nb }) := by
  unfold nativeFrames
  rcases frameLoop o pcm frame_size pfs sizes off0 0 (r.setSt (setToc r.st pm pb pfs pc)) with ⟨_ | _ | _, r2⟩ <;> rfl

end Opus.DecSkel
