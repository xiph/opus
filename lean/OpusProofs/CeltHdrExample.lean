import OpusProofs.CeltHdrSilent
/-
  OpusProofs.CeltHdrExample — three concrete frames (kernel-evaluated) showing that the hypotheses of the header round
  trip theorems can be met: a 2.5 ms mono CBR frame of 24 bytes whose header has 47 coder calls (coarse energy in
  Laplace mode, a dynalloc boost in band 0, an allocation skip flag), a silent VBR frame, and a 5 ms VBR frame with the
  post-filter on that is shrunk behind the header.
-/
namespace OpusProofs.CeltHdr.Example
open Opus Opus.RangeCoder Opus.CeltSymsEnc OpusProofs.CeltHdr

def cfg : EncCfg := { start := 0, end_ := 13, C := 1, LM := 0, vbr := false, lfe := false, size := 24 }
/-- decisions: silence 0, pf off, [LM = 0: no transient flag], intra 0, 13 energies, 13 tf bits, spread 2, one boost in band 0
    and then no more, no boost in the other bands, trim 5, intensity 13, dual 0, prev 0, signalBandwidth 13 -/
def ds : List Int := [0, 0, 0, 1, 2, -1, 0, 0, 1, 0, -2, 0, 0, 1, 0, 0, 0,
   0,0,0,0,0,0,0,0,0,0,0,0,0,  2,  1,0, 0,0,0,0,0,0,0,0,0,0,0,0,  5,  13, 0, 0, 13]
def buf : List Nat := List.replicate 24 0
def s0 : St := { e := encInit buf 24, ops := [], ds := ds }
def all : List Op := match encHeader cfg s0 with | .ok h => h.ops | _ => []

/-- the encoder run on this frame, with everything that is evaluated about it -/
theorem run : (encHeader cfg s0).OkAnd fun h => RunOk buf 24 h.ops ∧ h.silence = 0 ∧ h.size = 24 ∧ h.pf.on = 0 ∧
    (cfg.start : Int) ≤ h.allocInp.intensity ∧ h.allocInp.dualStereo = 0 ∧ h.ops.length = 47 ∧
    h.offsets.getD 0 0 = 16 ∧ h.alloc.ops = [.bit 1] ∧ (encodeAll buf 24 h.ops).storage = 24 := by
  decide +kernel

theorem world_ok : RunOk buf 24 all := by
  obtain ⟨hdr, h, f, _⟩ := run
  rw [all, h]; exact f

def world : World :=
  { buf := buf, size := 24, all := all, hs := by decide, hb := by decide +kernel, hl := world_ok.hl,
    hn := world_ok.hn, herr := world_ok.herr, hn29 := world_ok.hn29 }

/-- every hypothesis of `header_roundtrip` holds for this frame -/
theorem hyps : ∃ hdr, encHeader cfg s0 = .ok hdr ∧ s0.ops = [] ∧ s0.e = world.encAt [] ∧ s0.e.storage = cfg.size ∧
    hdr.silence = 0 ∧ world.IsPrefix ([] ++ hdr.ops) ∧
    (cfg.start < cfg.end_ ∧ cfg.end_ ≤ 21 ∧ (cfg.C = 1 ∨ cfg.C = 2) ∧ cfg.LM ≤ 3) ∧ cfg.size ≤ 1275 ∧
    world.len = hdr.size ∧ world.len = cfg.size ∧ tell s0.e < ((world.len * 8 : Nat) : Int) ∧ hdr.pf.on = 0 ∧
    (cfg.start : Int) ≤ hdr.allocInp.intensity ∧ hdr.allocInp.dualStereo = 0 ∧
    hdr.ops.length = 47 ∧ hdr.offsets.getD 0 0 = 16 ∧ hdr.alloc.ops = [.bit 1] := by
  obtain ⟨hdr, h, _, f1⟩ := run
  -- `rw [all, h]`, not `unfold all`: the clean-up after `unfold` (like `rfl` on `world.len`) reduces the closed match
  -- discriminant, i.e. runs the encoder once more, in the elaborator
  have hall : world.all = hdr.ops := show all = hdr.ops by rw [all, h]
  have hlen : world.len = 24 := by rw [World.len, hall]; exact f1.2.2.2.2.2.2.2.2
  refine ⟨hdr, h, rfl, rfl, rfl, f1.1, hall ▸ world.isPrefix_all,
    by decide, by decide, by rw [hlen, f1.2.1], hlen, by rw [hlen]; decide +kernel, f1.2.2.1, f1.2.2.2.1, f1.2.2.2.2.1,
    f1.2.2.2.2.2.1, f1.2.2.2.2.2.2.1, f1.2.2.2.2.2.2.2.1⟩

/-! a silent VBR frame: flag, shrink to 2 bytes, (second) shrink to 2 bytes -/

def cfgS : EncCfg := { start := 0, end_ := 21, C := 2, LM := 3, vbr := true, lfe := false, size := 100 }
def s0S : St := { e := encInit (List.replicate 100 0) 100, ops := [], ds := [1, 2, 21, 0, 0, 20] }
def allS : List Op := match encHeader cfgS s0S with | .ok h => h.ops | _ => []

theorem runS : (encHeader cfgS s0S).OkAnd fun h => RunOk (List.replicate 100 0) 100 h.ops ∧ h.silence ≠ 0 ∧
    h.ops = [.bitLogp 1 15, .shrink 2, .shrink 2] ∧ (encodeAll (List.replicate 100 0) 100 h.ops).storage = 2 := by
  decide +kernel

theorem worldS_ok : RunOk (List.replicate 100 0) 100 allS := by
  obtain ⟨hdr, h, f, _⟩ := runS
  rw [allS, h]; exact f

def worldS : World :=
  { buf := List.replicate 100 0, size := 100, all := allS, hs := by decide, hb := by decide +kernel, hl := worldS_ok.hl,
    hn := worldS_ok.hn, herr := worldS_ok.herr, hn29 := worldS_ok.hn29 }

/-- every hypothesis of `silent_roundtrip` holds for this frame -/
theorem hypsS : ∃ hdr, encHeader cfgS s0S = .ok hdr ∧ s0S.ops = [] ∧ s0S.e = worldS.encAt [] ∧ s0S.e.storage = cfgS.size ∧
    hdr.silence ≠ 0 ∧ worldS.IsPrefix ([] ++ hdr.ops) ∧ 2 ≤ cfgS.size ∧ cfgS.size ≤ 1275 ∧ 2 ≤ worldS.len ∧ worldS.len ≤ 1275 ∧
    hdr.ops = [.bitLogp 1 15, .shrink 2, .shrink 2] := by
  obtain ⟨hdr, h, _, f1⟩ := runS
  have hall : worldS.all = hdr.ops := show allS = hdr.ops by rw [allS, h]
  have hlen : worldS.len = 2 := by rw [World.len, hall]; exact f1.2.2
  exact ⟨hdr, h, rfl, rfl, rfl, f1.1, hall ▸ worldS.isPrefix_all, by decide, by decide,
    by rw [hlen]; decide, by rw [hlen]; decide, f1.2.1⟩

/-! a VBR frame with the post-filter on: 60 bytes offered, shrunk to 40 behind the header (5 ms, mono) -/

def cfgV : EncCfg := { start := 0, end_ := 13, C := 1, LM := 1, vbr := true, lfe := false, size := 60 }
def dsV : List Int := [0, 1, 2, 5, 3, 1, 0, 0, 1, 2, -1, 0, 0, 1, 0, -2, 0, 0, 1, 0, 0,
   0,0,0,0,0,0,0,0,0,0,0,0,0, 0, 2,  0,0,0,0,0,0,0,0,0,0,0,0,0,  5,  40,  13, 0, 0, 13]
def s0V : St := { e := encInit (List.replicate 60 0) 60, ops := [], ds := dsV }
def allV : List Op := match encHeader cfgV s0V with | .ok h => h.ops | _ => []

theorem runV : (encHeader cfgV s0V).OkAnd fun h => RunOk (List.replicate 60 0) 60 h.ops ∧ h.silence = 0 ∧ h.size = 40 ∧
    h.pf.on ≠ 0 ∧ h.pf.tapset = 1 ∧ (cfgV.start : Int) ≤ h.allocInp.intensity ∧ h.allocInp.dualStereo = 0 ∧
    tell (encRun (encInit (List.replicate 60 0) 60) ([] ++ h.opsHdr)) + 16 ≤ 320 ∧
    (tellFrac (encRun (encInit (List.replicate 60 0) 60) ([] ++ h.opsHdr)) : Int) + h.totalBoost + 48 < 2560 ∧
    tell (encRun (encInit (List.replicate 60 0) 60) ([] ++ h.opsPf.dropLast)) + 2 ≤ 320 ∧
    (encodeAll (List.replicate 60 0) 60 h.ops).storage = 40 := by
  decide +kernel

theorem worldV_ok : RunOk (List.replicate 60 0) 60 allV := by
  obtain ⟨hdr, h, f, _⟩ := runV
  rw [allV, h]; exact f

def worldV : World :=
  { buf := List.replicate 60 0, size := 60, all := allV, hs := by decide, hb := by decide +kernel, hl := worldV_ok.hl,
    hn := worldV_ok.hn, herr := worldV_ok.herr, hn29 := worldV_ok.hn29 }

/-- every hypothesis of `header_roundtrip` holds for this frame — with the post-filter on (`htap` has a true premise)
    and the final length below the budgeted size (the VBR arm of `hmargin`) -/
theorem hypsV : ∃ hdr, encHeader cfgV s0V = .ok hdr ∧ s0V.ops = [] ∧ s0V.e = worldV.encAt [] ∧ s0V.e.storage = cfgV.size ∧
    hdr.silence = 0 ∧ worldV.IsPrefix ([] ++ hdr.ops) ∧
    (cfgV.start < cfgV.end_ ∧ cfgV.end_ ≤ 21 ∧ (cfgV.C = 1 ∨ cfgV.C = 2) ∧ cfgV.LM ≤ 3) ∧ cfgV.size ≤ 1275 ∧
    worldV.len = hdr.size ∧ worldV.len ≠ cfgV.size ∧
    (tell (worldV.encAt ([] ++ hdr.opsHdr)) + 16 ≤ ((worldV.len * 8 : Nat) : Int) ∧
      (tellFrac (worldV.encAt ([] ++ hdr.opsHdr)) : Int) + hdr.totalBoost + 48 < ((worldV.len * 8 * 8 : Nat) : Int)) ∧
    tell s0V.e < ((worldV.len * 8 : Nat) : Int) ∧ hdr.pf.on ≠ 0 ∧
    tell (worldV.encAt ([] ++ hdr.opsPf.dropLast)) + 2 ≤ ((worldV.len * 8 : Nat) : Int) ∧
    (cfgV.start : Int) ≤ hdr.allocInp.intensity ∧ hdr.allocInp.dualStereo = 0 ∧ hdr.size = 40 ∧ hdr.pf.tapset = 1 := by
  obtain ⟨hdr, h, _, f1⟩ := runV
  have hall : worldV.all = hdr.ops := show allV = hdr.ops by rw [allV, h]
  have hlen : worldV.len = 40 := by rw [World.len, hall]; exact f1.2.2.2.2.2.2.2.2.2
  refine ⟨hdr, h, rfl, rfl, rfl, f1.1, hall ▸ worldV.isPrefix_all,
    by decide, by decide, by rw [hlen, f1.2.1], by rw [hlen]; decide, ?_, by rw [hlen]; decide +kernel, f1.2.2.1, ?_,
    f1.2.2.2.2.1, f1.2.2.2.2.2.1, f1.2.1, f1.2.2.2.1⟩
  · rw [hlen]; exact ⟨f1.2.2.2.2.2.2.1, f1.2.2.2.2.2.2.2.1⟩
  · rw [hlen]; exact f1.2.2.2.2.2.2.2.2.1

end OpusProofs.CeltHdr.Example
