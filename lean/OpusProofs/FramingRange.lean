import OpusProofs.FramingHelpers
import Mathlib.Tactic.Linarith
/-
  OpusProofs.FramingRange — `int_ranges` for opus_packet_parse_impl (src/opus.c:196-355).

  The model computes `len`, `last_size`, `pad`, the products and the sums in unbounded `Int`/`Nat`.
  Here trace functions list, in program order and on EVERY path (also the paths that return
  OPUS_INVALID_PACKET early), every value the C function computes in an `int` / `opus_int32`,
  and `castStores` lists the operands of the three explicit `(opus_int16)` casts; the lemmas bound
  the traced values stage by stage (assembled in `OpusProps.C06.int_ranges`) and show that whenever the
  parse succeeds every cast operand lies in [0, 1275] (lossless store).
  The statements of C06 speak of these lists.  `Opus.Framing.parseImplT` (OpusModel.FramingTrace, what the
  driver runs) computes the same values as logs beside the parser's result; OpusProofs.FramingTraceEq proves
  the logs equal to the lists, so the lists are the intermediates of the function compared with the C code.
-/
namespace Opus.FramingProofs
open Opus Opus.Framing

/-- `x` fits `opus_int32` / `int`. -/
def I32 (x : Int) : Prop := -2147483648 ≤ x ∧ x ≤ 2147483647

instance (x : Int) : Decidable (I32 x) := by unfold I32; infer_instance

/-- `x` fits `opus_int16`. -/
def I16 (x : Int) : Prop := -32768 ≤ x ∧ x ≤ 32767

instance (x : Int) : Decidable (I16 x) := by unfold I16; infer_instance

theorem forall_mem_nil (p : Int → Prop) : (∀ v ∈ ([] : List Int), p v) ↔ True :=
  ⟨fun _ => trivial, fun _ => nofun⟩

/-- What `parse_size` stores through `opus_int16 *size` is always -1 or a value ≤ 1275 (the
    implicit `int` → `opus_int16` conversion of `*size = 4*data[1] + data[0]` is lossless), and it
    returns -1, 1 or 2. -/
theorem parseSize_range (data : Bytes) (hb : BytesOk data) (len : Int) (bytes sz : Int)
    (h : parseSize data len = .ok (bytes, sz)) :
    -1 ≤ sz ∧ sz ≤ 1275 ∧ (bytes = -1 ∨ bytes = 1 ∨ bytes = 2) ∧ (bytes = -1 → sz = -1) ∧
    (0 ≤ sz → bytes ≤ len ∧ 1 ≤ bytes) := by
  have hs := parseSize_shape data len bytes sz h
  by_cases hsz : 0 ≤ sz
  · obtain ⟨n, h1, h2, _, h4, _⟩ := parseSize_ok_inv data len hb bytes sz h hsz
    rcases hs with hs | hs | hs <;> omega
  · rcases hs with hs | hs | hs <;> omega

/-- Values computed by the padding loop (src/opus.c:265-274) from a state `(len, pad)`: per
    iteration `len--`, `len -= tmp`, `pad += tmp`. -/
def padChainTrace : Bytes → Int → Int → List Int
  | data, len, pad =>
    if len ≤ 0 then []
    else match data with
      | [] => []
      | p :: rest =>
        if p = 255 then [len - 1, len - 1 - 254, pad + 254] ++ padChainTrace rest (len - 1 - 254) (pad + 254)
        else [len - 1, len - 1 - p, pad + p]

/-- The invariant `255 · pad ≤ 254 · (L0 - len)` (each link of the chain costs 255 of `len` and adds at most 254 to
    `pad`) keeps `pad` below `L0`; `len - 1 - 254 ≥ -254` is the lowest value `len` takes. -/
theorem padChainTrace_range (L0 : Int) (hL : L0 ≤ 2147483647) : ∀ (data : Bytes), BytesOk data →
    ∀ (len pad : Int), len ≤ L0 → 0 ≤ pad → pad * 255 ≤ 254 * (L0 - len) →
    ∀ v ∈ padChainTrace data len pad, I32 v := by
  intro data
  induction data with
  | nil => intro _ len pad _ _ _; unfold padChainTrace; split <;> exact nofun
  | cons p rest ih =>
    intro hb len pad hl hp hinv
    have hp8 : p < 256 := hb p (by simp)
    unfold padChainTrace
    split
    · exact nofun
    · simp only
      split
      · simp only [List.forall_mem_append, List.forall_mem_cons, forall_mem_nil, and_true, I32]
        exact ⟨by omega, ih (bytesOk_tail hb) _ _ (by omega) (by omega) (by omega)⟩
      · simp only [List.forall_mem_cons, forall_mem_nil, and_true, I32]
        omega

/-- Values computed by the VBR loop (src/opus.c:284-292), `n` iterations left: per iteration the
    stored size, `len -= bytes`, and — when the size is accepted — `bytes + size[i]` and
    `last_size -= bytes + size[i]`. -/
def vbrTrace : Nat → Bytes → Int → Int → List Int
  | 0, _, _, _ => []
  | n + 1, data, len, last =>
    match parseSize data len with
    | .ok (bytes, sz) =>
      [sz, len - bytes] ++
        (if sz < 0 ∨ sz > len - bytes then []
         else [bytes + sz, last - (bytes + sz)] ++
           vbrTrace n (data.drop bytes.toNat) (len - bytes) (last - (bytes + sz)))
    | _ => []

/-- `k` counts the iterations done: each lowers `last_size` by at most 2 + 1275, hence `-(1277 · k) ≤ last`; any bound
    `k + n ≤ 63` or above would do (the caller has `k = 0`, `n ≤ 62`).  `L0 ≤ 2^31 - 2` because a failed `parse_size` returns
    `bytes = -1` and `len -= bytes` (`len + 1`) is computed before the size is tested. -/
theorem vbrTrace_range (L0 : Int) (hL : L0 ≤ 2147483646) : ∀ (n : Nat) (data : Bytes), BytesOk data →
    ∀ (len last : Int) (k : Int), 0 ≤ len → len ≤ L0 → -(1277 * k) ≤ last → last ≤ L0 → 0 ≤ k →
    k + n ≤ 100 → ∀ v ∈ vbrTrace n data len last, I32 v := by
  intro n
  induction n with
  | zero => intro _ _ _ _ _ _ _ _ _ _ _; unfold vbrTrace; exact nofun
  | succ n ih =>
    intro data hb len last k h0 hl hlast1 hlast2 hk hkn
    unfold vbrTrace
    split
    · rename_i bytes sz hps
      have hr := parseSize_range data hb len bytes sz hps
      simp only [List.forall_mem_append, List.forall_mem_cons, forall_mem_nil, and_true, I32]
      refine ⟨by omega, ?_⟩
      split
      · exact nofun
      · have := hr.2.2.2.2 (by omega)
        simp only [List.forall_mem_append, List.forall_mem_cons, forall_mem_nil, and_true, I32]
        exact ⟨by omega, ih _ (fun b hb' => hb b (List.mem_of_mem_drop hb')) _ _ (k + 1) (by omega) (by omega)
          (by omega) (by omega) (by omega) (by omega)⟩
    · exact nofun

/-- Values of the `default:` branch (code 3) before the common tail: `framesize * count`,
    `len--`, the padding loop, then the VBR loop or `len / count` and `last_size * count`. -/
def code3Trace (sd : Bool) (framesize : Nat) (data : Bytes) (len : Int) : List Int :=
  if len < 1 then []
  else match data with
    | [] => []
    | ch :: data1 =>
      let count := ch % 64
      [((framesize * count : Nat) : Int)] ++
        (if count = 0 ∨ framesize * count > 5760 then []
         else
           [len - 1] ++ (if ch / 64 % 2 = 1 then padChainTrace data1 (len - 1) 0 else []) ++
             match (if ch / 64 % 2 = 1 then padChain data1 (len - 1) 0 else .ok (data1, len - 1, 0)) with
             | .ok (data2, len2, _) =>
               if len2 < 0 then []
               else if ch / 128 % 2 = 1 then vbrTrace (count - 1) data2 len2 len2
               else if sd then []
               else [len2 / count, len2 / count * count]
             | _ => [])

/-- Values of the whole `switch (toc&0x3)`. -/
def hdrTrace (sd : Bool) (toc : Nat) (data : Bytes) (len : Int) : List Int :=
  if toc % 4 = 0 then []
  else if toc % 4 = 1 then (if sd then [] else [len % 2, len / 2])
  else if toc % 4 = 2 then
    match parseSize data len with
    | .ok (bytes, sz) => [sz, len - bytes] ++ (if sz < 0 ∨ sz > len - bytes then [] else [len - bytes - sz])
    | _ => []
  else code3Trace sd (samplesPerFrame toc 48000) data len

/-- Values of the common tail up to the size checks (src/opus.c:306-331). -/
def finishTrace (sd : Bool) (h : Hdr) : List Int :=
  if sd then
    match parseSize h.data h.len with
    | .ok (bytes, sz) =>
      [sz, h.len - bytes] ++
        (if sz < 0 ∨ sz > h.len - bytes then []
         else if h.cbr then [sz * h.count] else [bytes + sz])
    | _ => []
  else []

/-- Values of the reporting tail on success (src/opus.c:333-349): `data - data0` before the frame
    loop, the running offsets `data += size[i]`, and `pad + (data - data0)`. -/
def reportTrace (r : Parsed) : List Int :=
  [(r.payloadOffset : Int)] ++
    (List.range (r.sizes.length + 1)).map (fun i => ((r.payloadOffset + sumN (r.sizes.take i) : Nat) : Int)) ++
    [(r.padLen : Int), (r.packetOffset : Int)]

/-- Every `int` / `opus_int32` value computed by `opus_packet_parse_impl( data, len, sd, … )` with
    `len = bs.length > 0`, in program order: `framesize`, `len--`, the switch, the tail, the report. -/
def implTrace (sd : Bool) (bs : Bytes) : List Int :=
  match bs with
  | [] => []
  | toc :: data =>
    [(samplesPerFrame toc 48000 : Int), (data.length : Int)] ++ hdrTrace sd toc data data.length ++
      (match parseHdr sd toc data data.length with
       | .ok h => finishTrace sd h ++ (match finish sd bs.length toc h with
                                        | .ok r => reportTrace r
                                        | _ => [])
       | _ => [])

theorem spf48_le (toc : Nat) (h : toc < 256) : samplesPerFrame toc 48000 ≤ 2880 := by
  rw [frameDur48_spf toc h]; exact (toc_table toc h).2.2.1

theorem code3Trace_range (sd : Bool) (fs : Nat) (hfs : fs ≤ 2880) (data : Bytes) (hb : BytesOk data)
    (len : Int) (hl0 : 0 ≤ len) (hl : len ≤ 2147483646) : ∀ v ∈ code3Trace sd fs data len, I32 v := by
  unfold code3Trace
  by_cases hl1 : len < 1
  · rw [if_pos hl1]; exact nofun
  · rw [if_neg hl1]
    cases data with
    | nil => exact nofun
    | cons ch data1 =>
      have hch : ch < 256 := hb ch (by simp)
      have hb1 := bytesOk_tail hb
      have hdur : fs * (ch % 64) ≤ 2880 * 63 := Nat.mul_le_mul hfs (by omega)
      simp only [List.forall_mem_append, List.forall_mem_cons, forall_mem_nil, and_true, I32]
      refine ⟨by omega, ?_⟩
      by_cases hcnt : ch % 64 = 0 ∨ fs * (ch % 64) > 5760
      · rw [if_pos hcnt]; exact nofun
      · rw [if_neg hcnt]
        simp only [List.forall_mem_append, List.forall_mem_cons, forall_mem_nil, and_true, I32]
        refine ⟨⟨by omega, ?_⟩, ?_⟩
        · split
          · exact padChainTrace_range (len - 1) (by omega) data1 hb1 (len - 1) 0 (by omega) (by omega) (by omega)
          · exact nofun
        · generalize hps : (if ch / 64 % 2 = 1 then padChain data1 (len - 1) 0
              else Res.ok (data1, len - 1, 0)) = ps
          cases ps with
          | ok tr =>
            obtain ⟨data2, len2, pad⟩ := tr
            obtain ⟨padw, hd1, _, hl2, _, _⟩ := padStage_inv ch data1 hb1 (len - 1) data2 len2 pad hps
            have hb2 : BytesOk data2 := fun b hb' => hb1 b (by rw [hd1]; simp [hb'])
            simp only
            split
            · exact nofun
            · split
              · exact vbrTrace_range (len - 1) (by omega) _ data2 hb2 len2 len2 0 (by omega) (by omega)
                  (by omega) (by omega) (by omega) (by omega)
              · split
                · exact nofun
                · have hc1 : (1 : Int) ≤ ((ch % 64 : Nat) : Int) := by omega
                  have hq0 : 0 ≤ len2 / ((ch % 64 : Nat) : Int) := Int.ediv_nonneg (by omega) (by omega)
                  have hq1 : len2 / ((ch % 64 : Nat) : Int) ≤ len2 := Int.ediv_le_self _ (by omega)
                  have hq2 : len2 / ((ch % 64 : Nat) : Int) * ((ch % 64 : Nat) : Int) ≤ len2 :=
                    Int.ediv_mul_le _ (by omega)
                  have hq3 : 0 ≤ len2 / ((ch % 64 : Nat) : Int) * ((ch % 64 : Nat) : Int) :=
                    Int.mul_nonneg hq0 (by omega)
                  simp only [List.forall_mem_cons, forall_mem_nil, and_true, I32]
                  omega
          | _ => exact nofun

theorem hdrTrace_range (sd : Bool) (toc : Nat) (htoc : toc < 256) (data : Bytes) (hb : BytesOk data)
    (len : Int) (hl0 : 0 ≤ len) (hl : len ≤ 2147483646) : ∀ v ∈ hdrTrace sd toc data len, I32 v := by
  unfold hdrTrace
  split
  · exact nofun
  · split
    · split
      · exact nofun
      · simp only [List.forall_mem_cons, forall_mem_nil, and_true, I32]; omega
    · split
      · split
        · rename_i bytes sz hps
          have hr := parseSize_range data hb len bytes sz hps
          simp only [List.forall_mem_append, List.forall_mem_cons, forall_mem_nil, and_true, I32]
          refine ⟨by omega, ?_⟩
          split
          · exact nofun
          · simp only [List.forall_mem_cons, forall_mem_nil, and_true, I32]; omega
        · exact nofun
      · exact code3Trace_range sd _ (spf48_le toc htoc) data hb len hl0 hl

/-- Range facts about the state after the switch. -/
theorem parseHdr_state (sd : Bool) (toc : Nat) (htoc : toc < 256) (data : Bytes) (hb : BytesOk data) (h : Hdr)
    (hh : parseHdr sd toc data data.length = .ok h) :
    1 ≤ h.count ∧ h.count ≤ 48 ∧ h.len ≤ data.length ∧ BytesOk h.data ∧ 0 ≤ h.len ∧ 0 ≤ h.lastSize := by
  obtain ⟨padw, pre, hdata, h1, hdur, _, _, _, _, _, hs⟩ := parseHdr_inv sd toc htoc data hb h hh
  have hlen := congrArg List.length hdata
  simp only [List.length_append] at hlen
  have := hs.len
  exact ⟨h1, count_le_48 toc htoc _ hdur, by omega, fun b hb' => hb b (by rw [hdata]; simp [hb']), hs.len_nonneg,
    hs.last_nonneg⟩

theorem finishTrace_range (sd : Bool) (h : Hdr) (hb : BytesOk h.data) (hc : h.count ≤ 63)
    (hl : h.len ≤ 2147483646) (hl0 : 0 ≤ h.len) : ∀ v ∈ finishTrace sd h, I32 v := by
  unfold finishTrace
  split
  · split
    · rename_i bytes sz hps
      have hr := parseSize_range h.data hb h.len bytes sz hps
      simp only [List.forall_mem_append, List.forall_mem_cons, forall_mem_nil, and_true, I32]
      refine ⟨by omega, ?_⟩
      split
      · exact nofun
      · split
        · have h1 : sz * (h.count : Int) ≤ 1275 * 63 :=
            Int.mul_le_mul hr.2.1 (by omega) (Int.natCast_nonneg _) (by omega)
          have h2 : 0 ≤ sz * (h.count : Int) := Int.mul_nonneg (by omega) (Int.natCast_nonneg _)
          simp only [List.forall_mem_cons, forall_mem_nil, and_true, I32]; omega
        · simp only [List.forall_mem_cons, forall_mem_nil, and_true, I32]; omega
    · exact nofun
  · exact nofun

theorem sumN_take_le : ∀ (l : List Nat) (i : Nat), sumN (l.take i) ≤ sumN l
  | [], i => by simp
  | x :: xs, 0 => by simp
  | x :: xs, i + 1 => by
    simp only [List.take_succ_cons, sumN_cons]
    have := sumN_take_le xs i
    omega

theorem reportTrace_range (sd : Bool) (bs : Bytes) (hb : BytesOk bs) (r : Parsed)
    (h : parseImpl sd bs = .ok r) (hl : bs.length ≤ 2147483647) : ∀ v ∈ reportTrace r, I32 v := by
  obtain ⟨_, _, _, _, ho, hle, _⟩ := parse_offsets sd bs hb r h
  unfold Parsed.padOffset at ho
  unfold reportTrace
  simp only [List.forall_mem_append, List.forall_mem_cons, forall_mem_nil, and_true, List.mem_map, List.mem_range,
    I32]
  refine ⟨⟨by omega, ?_⟩, by omega⟩
  rintro v ⟨i, _, rfl⟩
  have := sumN_take_le r.sizes i
  omega

/-- The operands of the three explicit `(opus_int16)` casts of `opus_packet_parse_impl`, in
    program order, as far as the C function gets: `size[0] = (opus_int16)last_size` for code 1
    (src/opus.c:238, not self-delimited, even `len`), `size[i] = (opus_int16)last_size`, i < count-1,
    for code-3 CBR (src/opus.c:301-302, not self-delimited, after the exact-division check), and
    `size[count-1] = (opus_int16)last_size` (src/opus.c:330, not self-delimited, after
    `last_size > 1275` has been rejected).  All other stores into `size[]` are made by `parse_size`
    (always -1 or a value ≤ 1275, `parseSize_range`) or copy an `opus_int16` (src/opus.c:319-320). -/
def castStores (sd : Bool) (bs : Bytes) : List Int :=
  match bs with
  | [] => []
  | toc :: data =>
    if sd then []
    else
      match parseHdr false toc data data.length with
      | .ok h =>
        (if toc % 4 = 1 then [h.lastSize]
         else if toc % 4 = 3 ∧ h.cbr then List.replicate (h.count - 1) h.lastSize else []) ++
          (if h.lastSize > 1275 then [] else [h.lastSize])
      | _ => []

/-- `int_ranges`, second half: whenever the parse succeeds, every `(opus_int16)` store is
    lossless — each cast operand lies in `[0, 1275]`.  (Self-delimited framing has no explicit
    cast at all.) -/
theorem castStores_lossless (sd : Bool) (bs : Bytes) (hb : BytesOk bs) (r : Parsed)
    (h : parseImpl sd bs = .ok r) : ∀ v ∈ castStores sd bs, 0 ≤ v ∧ v ≤ 1275 := by
  intro v hv
  cases bs with
  | nil => simp [castStores] at hv
  | cons toc data =>
    have hbd : BytesOk data := fun b hb' => hb b (by simp [hb'])
    unfold castStores at hv
    cases sd with
    | true => simp at hv
    | false =>
      simp only [Bool.false_eq_true, if_false] at hv
      unfold parseImpl at h
      simp only at h
      split at hv
      · rename_i hh hhdr
        rw [hhdr] at h
        simp only at h
        have h0 := (parseHdr_state false toc (hb toc (by simp)) data hbd hh hhdr).2.2.2.2.2
        have hle : hh.lastSize ≤ 1275 := by
          unfold finish at h
          simp only [Bool.false_eq_true, if_false] at h
          split at h
          · simp at h
          · omega
        rcases List.mem_append.mp hv with hv | hv
        · split at hv
          · simp at hv; subst hv; omega
          · split at hv
            · have := List.eq_of_mem_replicate hv; subst this; omega
            · simp at hv
        · split at hv
          · simp at hv
          · simp at hv; subst hv; omega
      · simp at hv

end Opus.FramingProofs
