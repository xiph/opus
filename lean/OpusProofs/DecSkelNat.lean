import OpusProofs.DecSkelEqs
import OpusProofs.FramingBasic
/-
  OpusProofs.DecSkelNat — the skeleton cannot tell a run from a VIEW of it.  A view (`RunMap`) moves the packet offsets by
  `d`, sends the decoder gain through `γ` and the logged events through `φ`; if the oracles answer alike on the moved
  frames and the gain pass is logged by the viewed run exactly when `φ` keeps it (`RunMap.Natural`), every function `f` of
  the skeleton satisfies  `f o2 (moved args) (m.run r) = m.res (f o1 args r)`:  same return values, oracle-call counters
  and states, and the log of the one run is the view of the log of the other.  Purely equational: no invariant, no
  contract.  The offset shift between a packet and its padded / repacketised form (`OpusProofs.DecSkelShift`) and the
  erasure of the gain (`OpusProofs.GainIndep`) are the two views in use.
-/
namespace Opus.DecSkel
open Opus Opus.Framing

/-- Shift the packet offset a CELT call is shown. -/
def CeltArgs.shiftOff (a : CeltArgs) (d : Int) : CeltArgs := { a with dataOff := a.dataOff.map (· + d) }

/-- Shift the packet offsets logged in an event (`ec_dec_init` offset, CELT data offset); PCM pointers are untouched. -/
def Ev.shiftOff (d : Int) : Ev → Ev
  | .decInit off len => .decInit (off + d) len
  | .celt a p ret => .celt (a.shiftOff d) p ret
  | e => e

/-- a CELT call that is shown no packet bytes (PLC, the silence frame) looks the same from every offset -/
theorem CeltArgs.shiftOff_none (a : CeltArgs) (d : Int) (h : a.dataOff = none) : a.shiftOff d = a := by
  cases a; simp only [CeltArgs.shiftOff] at *; subst h; rfl

theorem CeltArgs.shiftOff_zero (a : CeltArgs) : a.shiftOff 0 = a := by
  rcases a with ⟨_, _, _ | _, _, _, _, _, _, _⟩ <;> simp [CeltArgs.shiftOff]

theorem Ev.shiftOff_zero (e : Ev) : e.shiftOff 0 = e := by
  cases e <;> simp [Ev.shiftOff, CeltArgs.shiftOff_zero]

/-- A data pointer moved by `d`. -/
def shiftData (d : Int) (x : Option Int) : Option Int := x.map (· + d)

/-- The same frame found `d` bytes further into the packet. -/
def Body.shift (d : Int) (b : Body) : Body := { b with data := shiftData d b.data }

@[simp] theorem shiftData_isSome (d : Int) (x : Option Int) : (shiftData d x).isSome = x.isSome := by cases x <;> rfl
@[simp] theorem shiftData_isNone (d : Int) (x : Option Int) : (shiftData d x).isNone = x.isNone := by cases x <;> rfl
@[simp] theorem Body.shift_pcm (d : Int) (b : Body) : (b.shift d).pcm = b.pcm := rfl
@[simp] theorem Body.shift_len (d : Int) (b : Body) : (b.shift d).len = b.len := rfl
@[simp] theorem Body.shift_fs (d : Int) (b : Body) : (b.shift d).frame_size = b.frame_size := rfl
@[simp] theorem Body.shift_aud (d : Int) (b : Body) : (b.shift d).audiosize = b.audiosize := rfl
@[simp] theorem Body.shift_mode (d : Int) (b : Body) : (b.shift d).mode = b.mode := rfl
@[simp] theorem Body.shift_bw (d : Int) (b : Body) : (b.shift d).bandwidth = b.bandwidth := rfl
@[simp] theorem Body.shift_fec (d : Int) (b : Body) : (b.shift d).fec = b.fec := rfl
@[simp] theorem Body.shift_data (d : Int) (b : Body) : (b.shift d).data = shiftData d b.data := rfl

theorem silkConfig_shift (st : DecState) (b : Body) (d : Int) : silkConfig st (b.shift d) = silkConfig st b := by
  rcases b with ⟨_ | _, len, pcm, fs, aud, mode, bw, fec⟩ <;> rfl

theorem silkLost_shift (b : Body) (d : Int) : silkLost (b.shift d) = silkLost b := by
  rcases b with ⟨_ | _, len, pcm, fs, aud, mode, bw, fec⟩ <;> rfl

theorem wantTransition_shift (st : DecState) (b : Body) (d : Int) : wantTransition st (b.shift d) = wantTransition st b := by
  rcases b with ⟨_ | _, len, pcm, fs, aud, mode, bw, fec⟩ <;> rfl

theorem redArgs_shift (st : DecState) (b : Body) (red : Red) (site : Nat) (d : Int) :
    redArgs st (b.shift d) red site = (redArgs st b red site).shiftOff d := by
  rcases b with ⟨_ | x, len, pcm, fs, aud, mode, bw, fec⟩
  · rfl
  · simp only [redArgs, Body.shift, shiftData, CeltArgs.shiftOff, Option.map_some]
    congr 2; omega

theorem mainArgs_shift (st : DecState) (b : Body) (red : Red) (d : Int) :
    mainArgs st (b.shift d) red = (mainArgs st b red).shiftOff d := by
  rcases b with ⟨data, len, pcm, fs, aud, mode, bw, fec⟩
  dsimp only [mainArgs, Body.shift, CeltArgs.shiftOff]
  split <;> rfl

/-- every event except the gain pass of a frame (`stepGain`, site 11) -/
def notGain : Ev → Bool
  | .acc 11 _ _ => false
  | _ => true

/-- A view of a run: packet offsets moved by `d`, the decoder gain sent through `γ`, the logged events through `φ`. -/
structure RunMap where
  d : Int
  γ : Int → Int
  φ : Ev → Option Ev

namespace RunMap
variable (m : RunMap)

/- `st` and `run` are reducible because the `if`s of the model carry `Decidable` instances that mention the state of the
   run they are given: `rw` has to see `(m.run r).st.prev_mode` and `r.st.prev_mode` as the same term there. -/
@[reducible] def st (s : DecState) : DecState := { s with decode_gain := m.γ s.decode_gain }
@[reducible] def run (r : Run) : Run := { st := m.st r.st, k := r.k, log := r.log.filterMap m.φ }
def res {α : Type} (x : α × Run) : α × Run := (x.1, m.run x.2)

/-- What makes the view invisible to the skeleton run by `o1` (plain) and `o2` (viewed): the DSP answers the same on the
    moved frames, gain 0 stays gain 0, every event but the gain pass is kept with its offsets moved, and the viewed run
    logs the gain pass (which it does iff its own gain `γ g` is non-zero) exactly when `φ` keeps the one of the plain run. -/
structure Natural (o1 o2 : Oracle) : Prop where
  silk : ∀ k a, o2.silk k a = o1.silk k a
  celt : ∀ k a, o2.celt k (a.shiftOff m.d) = o1.celt k a
  bit : ∀ k a b, o2.bit k a b = o1.bit k a b
  uint : ∀ k a b, o2.uint k a b = o1.uint k a b
  γ0 : m.γ 0 = 0
  ev : ∀ e, notGain e = true → m.φ e = some (e.shiftOff m.d)
  gain : ∀ g p n, (if m.γ g ≠ 0 then some (Ev.acc 11 p n) else none) = if g ≠ 0 then m.φ (.acc 11 p n) else none

@[simp] theorem st_F10 (s : DecState) : F10 (m.st s) = F10 s := rfl
@[simp] theorem st_silkBuf (s : DecState) : silkBuf (m.st s) = silkBuf s := rfl
@[simp] theorem st_validateOk (s : DecState) : validateOk (m.st s) = validateOk s := rfl
@[simp] theorem st_wantTransition (s : DecState) (b : Body) : wantTransition (m.st s) b = wantTransition s b := rfl
theorem run_tick (r : Run) : m.run r.tick = (m.run r).tick := rfl
theorem run_setSt (r : Run) (s : DecState) : m.run (r.setSt s) = (m.run r).setSt (m.st s) := rfl
@[simp] theorem res_fst {α : Type} (x : α × Run) : (m.res x).1 = x.1 := rfl
@[simp] theorem res_snd {α : Type} (x : α × Run) : (m.res x).2 = m.run x.2 := rfl
theorem res_mk {α : Type} (a : α) (r : Run) : m.res (a, r) = (a, m.run r) := rfl
theorem res_ite {α : Type} (c : Prop) [Decidable c] (x y : α × Run) :
    m.res (if c then x else y) = if c then m.res x else m.res y := by split <;> rfl
theorem run_ite (c : Prop) [Decidable c] (x y : Run) :
    m.run (if c then x else y) = if c then m.run x else m.run y := by split <;> rfl

variable {m} {o1 o2 : Oracle}

theorem Natural.push (h : m.Natural o1 o2) (r : Run) {e : Ev} (he : notGain e = true) :
    m.run (r.push e) = (m.run r).push (e.shiftOff m.d) := by
  simp only [run, Run.push, List.filterMap_cons, h.ev e he]

/-- an event that carries no packet offset -/
theorem Natural.push_same (h : m.Natural o1 o2) (r : Run) {e : Ev} (he : notGain e = true) (hs : e.shiftOff m.d = e) :
    m.run (r.push e) = (m.run r).push e := by
  rw [h.push r he, hs]

/-- Sequencing commutes with the view when both parts do. -/
theorem bind {α β : Type} {x1 x2 : Out α × Run} {f1 f2 : α → Run → Out β × Run}
    (hx : x2 = m.res x1) (hf : ∀ a r, f2 a (m.run r) = m.res (f1 a r)) : bindRun x2 f2 = m.res (bindRun x1 f1) := by
  subst hx
  rcases x1 with ⟨_ | _ | _, r⟩
  · exact hf _ r
  · rfl
  · rfl

/-- An optional step: if the taken branch commutes with the view, so does the `if`. -/
theorem ite {α : Type} (m : RunMap) (c : Prop) [Decidable c] {x1 x2 : α × Run} (a : α) (r : Run) (hx : c → x2 = m.res x1) :
    (if c then x2 else (a, m.run r)) = m.res (if c then x1 else (a, r)) := by
  split
  · exact hx ‹_›
  · rfl

end RunMap
open RunMap

variable {m : RunMap} {o1 o2 : Oracle}

theorem silkStep_nat (h : m.Natural o1 o2) (lost fsz decoded : Int) (p : Ptr) (tell : Int) (r : Run) :
    silkStep o2 lost fsz decoded p tell (m.run r) =
      { silkStep o1 lost fsz decoded p tell r with run := m.run (silkStep o1 lost fsz decoded p tell r).run } := by
  unfold silkStep
  dsimp only
  rw [h.silk]
  generalize o1.silk r.k _ = ans
  rw [← run_tick, ← h.push_same _ (e := .silk _ p ans.1 ans.2.1) rfl rfl, ← h.push_same _ (e := .acc 0 p _) rfl rfl]
  split
  · rfl
  · split <;> rfl

theorem silkLoop_nat (h : m.Natural o1 o2) (lost fsz decoded : Int) (p : Ptr) (tell : Int) (r : Run) :
    silkLoop o2 lost fsz decoded p tell (m.run r) = m.res (silkLoop o1 lost fsz decoded p tell r) := by
  fun_induction silkLoop o1 lost fsz decoded p tell r with
  | case1 decoded p tell r s he => rw [silkLoop, silkStep_nat h]; exact if_pos he
  | case2 decoded p tell r s he h1 h2 => rw [silkLoop, silkStep_nat h]; exact (if_neg he).trans ((dif_pos h1).trans (dif_pos h2))
  | case3 decoded p tell r s he h1 h2 ih =>
    rw [silkLoop, silkStep_nat h]; exact (if_neg he).trans ((dif_pos h1).trans ((dif_neg h2).trans ih))
  | case4 decoded p tell r s he h1 => rw [silkLoop, silkStep_nat h]; exact (if_neg he).trans (dif_neg h1)

theorem silkConfig_nat (m : RunMap) (st : DecState) (b : Body) :
    silkConfig (m.st st) (b.shift m.d) = (silkConfig st b).map m.st := by
  rw [silkConfig_shift]
  unfold silkConfig
  dsimp only
  simp only [apply_ite (Option.map m.st)]
  exact ite_congr rfl (fun _ => ite_congr rfl (fun _ => ite_congr rfl (fun _ => rfl) (fun _ => ite_congr rfl (fun _ => rfl)
    (fun _ => ite_congr rfl (fun _ => rfl) (fun _ => rfl)))) (fun _ => rfl)) (fun _ => rfl)

theorem silkStage_nat (h : m.Natural o1 o2) (b : Body) (r : Run) :
    silkStage o2 (b.shift m.d) (m.run r) = m.res (silkStage o1 b r) := by
  unfold silkStage
  simp only [Body.shift_aud, Body.shift_pcm, st_F10, st_silkBuf]
  rw [silkConfig_nat, silkLost_shift,
    show (if r.st.prev_mode = MODE_CELT then (m.run r).push Ev.silkReset else m.run r) =
      m.run (if r.st.prev_mode = MODE_CELT then r.push .silkReset else r) by rw [run_ite, h.push_same _ rfl rfl]]
  cases silkConfig r.st b with
  | none => rfl
  | some st3 =>
    refine bind (by rw [← run_setSt]; exact silkLoop_nat h ..) fun et r1 => ?_
    rw [res_ite, res_ite, res_mk, res_mk, res_mk, h.push_same _ rfl rfl, h.push_same _ rfl rfl]
    rfl

theorem redFinish_nat (m : RunMap) (a b c e f : Int) (r : Run) :
    redFinish a b c e f (m.run r) = m.res (redFinish a b c e f r) := by
  unfold redFinish; split <;> rfl

theorem redTail_nat (h : m.Natural o1 o2) (mode len red tell : Int) (r : Run) :
    redTail o2 mode len red tell (m.run r) = m.res (redTail o1 mode len red tell r) := by
  unfold redTail
  simp only [Run.tick_k, h.bit, h.uint, res_ite, ← redFinish_nat]
  rfl

theorem parseRedundancy_nat (h : m.Natural o1 o2) (mode len tell : Int) (r : Run) :
    parseRedundancy o2 mode len tell (m.run r) = m.res (parseRedundancy o1 mode len tell r) := by
  unfold parseRedundancy
  simp only [h.bit, res_ite, ← redTail_nat h]
  rfl

theorem redStage_nat (h : m.Natural o1 o2) (b : Body) (tell : Int) (r : Run) :
    redStage o2 (b.shift m.d) tell (m.run r) = m.res (redStage o1 b tell r) := by
  unfold redStage
  simp only [Body.shift_fec, Body.shift_mode, Body.shift_data, shiftData_isSome, Body.shift_len, res_ite,
    ← parseRedundancy_nat h]
  rfl

theorem celtCall_nat (h : m.Natural o1 o2) (a : CeltArgs) (p : Ptr) (r : Run) :
    celtCall o2 (a.shiftOff m.d) p (m.run r) = m.res (celtCall o1 a p r) := by
  unfold celtCall
  dsimp only
  rw [h.celt, res_mk, h.push _ rfl, run_tick]
  rfl

theorem stepRedC2S_nat (h : m.Natural o1 o2) (b : Body) (red : Red) (r : Run) :
    stepRedC2S o2 (b.shift m.d) red (m.run r) = m.run (stepRedC2S o1 b red r) := by
  unfold stepRedC2S
  rw [run_ite, ← res_snd, ← celtCall_nat h, ← redArgs_shift]
  rfl

theorem stepMainCelt_nat (h : m.Natural o1 o2) (b : Body) (red : Red) (r : Run) :
    stepMainCelt o2 (b.shift m.d) red (m.run r) = m.res (stepMainCelt o1 b red r) := by
  rw [stepMainCelt_eq, stepMainCelt_eq, res_ite, res_ite, ← celtCall_nat h, ← mainArgs_shift, res_mk, ← res_snd,
    ← celtCall_nat h (silenceArgs r.st b)]
  rfl

theorem stepRedS2C_nat (h : m.Natural o1 o2) (b : Body) (red : Red) (r : Run) :
    stepRedS2C o2 (b.shift m.d) red (m.run r) = m.run (stepRedS2C o1 b red r) := by
  unfold stepRedS2C
  dsimp only
  rw [run_ite, h.push_same _ rfl rfl, h.push_same _ rfl rfl, ← res_snd, ← celtCall_nat h, ← redArgs_shift]
  rfl

theorem stepRedCopy_nat (h : m.Natural o1 o2) (b : Body) (red : Red) (r : Run) :
    stepRedCopy (b.shift m.d) red (m.run r) = m.run (stepRedCopy b red r) := by
  unfold stepRedCopy
  dsimp only
  rw [run_ite, h.push_same _ rfl rfl, h.push_same _ rfl rfl]
  rfl

theorem stepTransFade_nat (h : m.Natural o1 o2) (b : Body) (tr : Bool) (r : Run) :
    stepTransFade (b.shift m.d) tr (m.run r) = m.run (stepTransFade b tr r) := by
  unfold stepTransFade
  dsimp only
  rw [run_ite, run_ite, h.push_same _ rfl rfl, h.push_same _ rfl rfl, h.push_same _ rfl rfl, h.push_same _ rfl rfl]
  rfl

theorem stepGain_zero (b : Body) {r : Run} (h : r.st.decode_gain = 0) : stepGain b r = r := if_neg (fun c => c h)
theorem stepGain_ne (b : Body) {r : Run} (h : r.st.decode_gain ≠ 0) :
    stepGain b r = r.push (.acc 11 b.pcm (b.audiosize * r.st.channels)) := if_pos h

/-- The one step that looks at the gain. -/
theorem stepGain_nat (h : m.Natural o1 o2) (b : Body) (r : Run) :
    stepGain (b.shift m.d) (m.run r) = m.run (stepGain b r) := by
  have key := h.gain r.st.decode_gain b.pcm (b.audiosize * r.st.channels)
  by_cases c : r.st.decode_gain = 0
  · rw [stepGain_zero b c, stepGain_zero _ (show m.γ r.st.decode_gain = 0 by rw [c, h.γ0])]
  · rw [stepGain_ne b c]
    rw [if_pos c] at key
    by_cases c' : m.γ r.st.decode_gain = 0
    · rw [stepGain_zero _ (show (m.run r).st.decode_gain = 0 from c')]
      rw [if_neg (fun x => x c')] at key
      simp only [run, Run.push, List.filterMap_cons, ← key]
    · rw [stepGain_ne _ (show (m.run r).st.decode_gain ≠ 0 from c')]
      rw [if_pos c'] at key
      simp only [run, Run.push, List.filterMap_cons, ← key]
      rfl

theorem stepFinish_nat (b : Body) (red : Red) (r : Run) :
    stepFinish (b.shift m.d) red (m.run r) = m.run (stepFinish b red r) := rfl

theorem celtStage_nat (h : m.Natural o1 o2) (b : Body) (red : Red) (tr : Bool) (r : Run) :
    celtStage o2 (b.shift m.d) red tr (m.run r) = m.res (celtStage o1 b red tr r) := by
  unfold celtStage
  simp only [stepRedC2S_nat h, stepMainCelt_nat h, res_fst, res_snd, stepRedS2C_nat h, stepRedCopy_nat h, stepTransFade_nat h,
    stepGain_nat h, stepFinish_nat, Body.shift_aud]
  rfl

/-- A recursive-call parameter (`trans`, `inner`) of the viewed run is the view of that of the plain run. -/
def TransNat (m : RunMap) (t1 t2 : Ptr → Int → Run → Res') : Prop := ∀ p n r, t2 p n (m.run r) = m.res (t1 p n r)

/-- Clearing and restoring the gain around the recursive call commutes with the view: `γ 0 = 0`. -/
theorem gain0Call_nat (h : m.Natural o1 o2) {t1 t2 : Ptr → Int → Run → Res'} (ht : TransNat m t1 t2) :
    TransNat m (gain0Call t1) (gain0Call t2) := by
  intro p n r
  unfold gain0Call
  rw [show (m.run r).setSt { (m.run r).st with decode_gain := 0 } = m.run (r.setSt { r.st with decode_gain := 0 }) by
    rw [run_setSt]; simp only [RunMap.st, h.γ0], ht p n]
  rfl

theorem transCall_nat (h : m.Natural o1 o2) {t1 t2 : Ptr → Int → Run → Res'} (ht : TransNat m t1 t2) (b : Body) (r : Run) :
    transCall t2 (b.shift m.d) (m.run r) = m.res (transCall t1 b r) :=
  bind (gain0Call_nat h ht _ _ _) (fun _ _ => rfl)

theorem fbTail_nat (h : m.Natural o1 o2) {t1 t2 : Ptr → Int → Run → Res'} (ht : TransNat m t1 t2) (b : Body) (tr : Bool)
    (et : Int × Int) (r : Run) : fbTail o2 t2 (b.shift m.d) tr et (m.run r) = m.res (fbTail o1 t1 b tr et r) := by
  unfold fbTail
  rw [redStage_nat h]
  dsimp only [res_fst, res_snd, Body.shift_mode, Body.shift_bw]
  rw [res_ite]
  congr 1
  refine bind (RunMap.ite m _ _ _ fun _ => transCall_nat h ht b _) fun _ r' => ?_
  rw [res_ite, ← celtStage_nat h]
  rfl

theorem frameBody_nat (h : m.Natural o1 o2) {t1 t2 : Ptr → Int → Run → Res'} (ht : TransNat m t1 t2) (b : Body) (r : Run) :
    frameBody o2 t2 (b.shift m.d) (m.run r) = m.res (frameBody o1 t1 b r) := by
  rw [frameBody_eq, frameBody_eq]
  simp only [Body.shift_mode, Body.shift_aud, Body.shift_fs, st_wantTransition, wantTransition_shift]
  refine bind (RunMap.ite m _ _ _ fun _ => transCall_nat h ht b r) fun _ r1 => ?_
  rw [res_ite]
  congr 1
  exact bind (RunMap.ite m _ _ _ fun _ => silkStage_nat h b r1) fun et r2 => fbTail_nat h ht b _ et r2

theorem plcLoop_nat {i1 i2 : Ptr → Int → Run → Res'} (ht : TransNat m i1 i2) (f20 ch frame_size audiosize : Int) (pcm : Ptr)
    (r : Run) :
    plcLoop i2 f20 ch frame_size audiosize pcm (m.run r) = m.res (plcLoop i1 f20 ch frame_size audiosize pcm r) := by
  generalize hn : audiosize.toNat = n
  induction n using Nat.strongRecOn generalizing audiosize pcm r with
  | _ n ih =>
    rw [plcLoop_eq, plcLoop_eq]
    refine bind (ht ..) fun ret r1 => ?_
    simp only [res_ite]
    exact ite_congr rfl (fun _ => rfl) fun _ => ite_congr rfl (fun _ => rfl) fun _ =>
      ite_congr rfl (fun _ => ih _ (by omega) _ _ _ rfl) fun _ => rfl

theorem abortStub_nat (m : RunMap) : TransNat m (fun _ _ r => (Out.abort, r)) (fun _ _ r => (Out.abort, r)) :=
  fun _ _ _ => rfl

theorem nullAfterClamp_nat (h : m.Natural o1 o2) {i1 i2 : Ptr → Int → Run → Res'} (ht : TransNat m i1 i2) (len : Int) (pcm : Ptr)
    (frame_size : Int) (r : Run) :
    nullAfterClamp o2 i2 len pcm frame_size (m.run r) = m.res (nullAfterClamp o1 i1 len pcm frame_size r) := by
  by_cases c0 : plcMode r.st = 0
  · rw [nullAfterClamp_noHistory _ _ _ _ _ (m.run r) c0, nullAfterClamp_noHistory _ _ _ _ _ r c0, res_mk, h.push_same _ rfl rfl]
  · by_cases c1 : frame_size > F20 r.st
    · rw [nullAfterClamp_loop _ _ _ _ _ (m.run r) c0 c1, nullAfterClamp_loop _ _ _ _ _ r c0 c1]
      exact plcLoop_nat ht ..
    · rw [nullAfterClamp_frame _ _ _ _ _ (m.run r) c0 c1, nullAfterClamp_frame _ _ _ _ _ r c0 c1]
      exact frameBody_nat h (abortStub_nat m) (plcBody len pcm frame_size r.st) r

theorem nullFrameGen_nat (h : m.Natural o1 o2) {i1 i2 : Ptr → Int → Run → Res'} (ht : TransNat m i1 i2) :
    TransNat m (nullFrameGen o1 i1) (nullFrameGen o2 i2) := by
  intro pcm n r
  unfold nullFrameGen
  dsimp only
  rw [nullAfterClamp_nat h ht, res_ite]
  rfl

theorem nullFrameLeaf_nat (h : m.Natural o1 o2) : TransNat m (nullFrameLeaf o1) (nullFrameLeaf o2) :=
  nullFrameGen_nat h (abortStub_nat m)

theorem nullFrame_nat (h : m.Natural o1 o2) : TransNat m (nullFrame o1) (nullFrame o2) :=
  nullFrameGen_nat h (nullFrameLeaf_nat h)

/-- `opus_decode_frame` on the view of a run. -/
theorem decodeFrame_nat (h : m.Natural o1 o2) (data : Option Int) (len : Int) (pcm : Ptr) (frame_size fec : Int) (r : Run) :
    decodeFrame o2 (shiftData m.d data) len pcm frame_size fec (m.run r) =
      m.res (decodeFrame o1 data len pcm frame_size fec r) := by
  unfold decodeFrame
  dsimp only
  rw [shiftData_isNone, nullAfterClamp_nat h (nullFrameLeaf_nat h), res_ite, res_ite]
  by_cases c : len ≤ 1 ∨ data.isNone = true
  · simp only [if_pos c]; rfl
  · obtain ⟨x, rfl⟩ : ∃ x, data = some x := by
      cases data with
      | none => exact absurd (Or.inr rfl) c
      | some x => exact ⟨x, rfl⟩
    simp only [if_neg c]
    rw [← frameBody_nat h (nullFrame_nat h), h.push _ rfl]
    rfl

theorem frameLoop_nat (h : m.Natural o1 o2) (pcm : Ptr) (frame_size pfs : Int) :
    ∀ (sizes : List Nat) (off nb : Int) (r : Run),
      frameLoop o2 pcm frame_size pfs sizes (off + m.d) nb (m.run r) = m.res (frameLoop o1 pcm frame_size pfs sizes off nb r)
  | [], _, _, _ => rfl
  | sz :: rest, off, nb, r => by
    rw [frameLoop_cons, frameLoop_cons]
    refine bind (decodeFrame_nat h (some off) ..) fun ret r1 => ?_
    rw [res_ite, res_ite, show off + m.d + sz = off + sz + m.d by omega, frameLoop_nat h pcm frame_size pfs rest]
    rfl

theorem nativePlcLoop_nat (h : m.Natural o1 o2) (frame_size : Int) (pcm : Ptr) (pc : Int) (r : Run) :
    nativePlcLoop o2 frame_size pcm pc (m.run r) = m.res (nativePlcLoop o1 frame_size pcm pc r) := by
  generalize hn : (frame_size - pc).toNat = n
  induction n using Nat.strongRecOn generalizing pc r with
  | _ n ih =>
    rw [nativePlcLoop_eq, nativePlcLoop_eq]
    refine bind (decodeFrame_nat h none 0 _ _ 0 r) fun ret r1 => ?_
    simp only [res_ite]
    exact ite_congr rfl (fun _ => rfl) fun _ => ite_congr rfl (fun _ => rfl) fun _ =>
      ite_congr rfl (fun _ => ih _ (by omega) _ _ rfl) fun _ => rfl

theorem nativePlc_nat (h : m.Natural o1 o2) (pcm : Ptr) (frame_size : Int) (r : Run) :
    nativePlc o2 pcm frame_size (m.run r) = m.res (nativePlc o1 pcm frame_size r) := by
  unfold nativePlc
  rw [nativePlcLoop_nat h, res_ite, res_ite]
  rfl

theorem fecGap_nat (h : m.Natural o1 o2) (pcm : Ptr) (gap : Int) (r : Run) :
    fecGap o2 pcm gap (m.run r) = m.res (fecGap o1 pcm gap r) := by
  rw [fecGap_eq, fecGap_eq, res_ite]
  exact ite_congr rfl (fun _ => bind (nativePlc_nat h ..) fun ret r1 => by rw [res_ite, res_ite]; rfl) fun _ => rfl

theorem nativeFec_nat (h : m.Natural o1 o2) (pcm : Ptr) (frame_size pfs pm pb pc off0 sz0 : Int) (r : Run) :
    nativeFec o2 pcm frame_size pfs pm pb pc (off0 + m.d) sz0 (m.run r) =
      m.res (nativeFec o1 pcm frame_size pfs pm pb pc off0 sz0 r) := by
  rw [nativeFec_eq, nativeFec_eq, res_ite]
  refine ite_congr rfl (fun _ => nativePlc_nat h ..) fun _ => bind (fecGap_nat h ..) fun v r1 => ?_
  rw [res_ite]
  exact ite_congr rfl (fun _ => rfl) fun _ =>
    bind (decodeFrame_nat h (some off0) sz0 _ pfs 1 (r1.setSt (setToc r1.st pm pb pfs pc))) fun ret r3 => by rw [res_ite]; rfl

theorem nativeFrames_nat (h : m.Natural o1 o2) (pcm : Ptr) (frame_size pfs pm pb pc : Int) (sizes : List Nat) (off0 : Int)
    (sc : Bool) (r : Run) :
    nativeFrames o2 pcm frame_size pfs pm pb pc sizes (off0 + m.d) sc (m.run r) =
      m.res (nativeFrames o1 pcm frame_size pfs pm pb pc sizes off0 sc r) := by
  rw [nativeFrames_eq, nativeFrames_eq]
  refine bind (frameLoop_nat h pcm frame_size pfs sizes off0 0 (r.setSt (setToc r.st pm pb pfs pc))) fun nb r2 => ?_
  rw [res_ite, res_ite, res_mk, res_mk, res_mk, h.push_same _ rfl rfl]
  rfl

/-- Two packets (TOC byte and parse) look alike to `opus_decode_native` up to `d`: the same error, or the same frame
    sizes, found `d` bytes further on, under TOC bytes that agree up to the frame-count code (`e`: by how much the
    `packet_offset`s the parses report differ). -/
def ParseAlike (d e : Int) (t1 : Nat) (x1 : Res Parsed) (t2 : Nat) (x2 : Res Parsed) : Prop :=
  match x1, x2 with
  | .ok p1, .ok p2 => p1.sizes = p2.sizes ∧ p1.count = p2.count ∧ t1 / 4 = t2 / 4 ∧
      (p2.payloadOffset : Int) = p1.payloadOffset + d ∧ (p2.packetOffset : Int) = p1.packetOffset + e
  | .err e1, .err e2 => e1 = e2
  | .oob, .oob => True
  | .abort, .abort => True
  | _, _ => False

theorem ParseAlike.refl (t : Nat) (x : Res Parsed) : ParseAlike 0 0 t x t x := by
  cases x <;> simp [ParseAlike]

/-- The call on the viewed run: same return value, its run is the view of the other's, and `*packet_offset` is the same or
    (where both come from the parses) differs by `e`. -/
structure NatOut (m : RunMap) (e : Int) (a b : NativeOut) : Prop where
  ret : a.ret = b.ret
  run : a.run = m.run b.run
  packetOffset : a.packetOffset = b.packetOffset ∨ a.packetOffset = b.packetOffset + e

theorem NatOut.same {e : Int} {x y : Res'} (po : Int) (h : x = m.res y) : NatOut m e (.mk' x po) (.mk' y po) := by
  subst h; exact ⟨rfl, rfl, Or.inl rfl⟩

theorem NatOut.ite {e : Int} {c1 c2 : Prop} [Decidable c1] [Decidable c2] {x y x' y' : NativeOut} (hc : c2 ↔ c1)
    (hx : NatOut m e x x') (hy : NatOut m e y y') : NatOut m e (if c2 then x else y) (if c1 then x' else y') := by
  by_cases h : c1
  · rw [if_pos h, if_pos (hc.mpr h)]; exact hx
  · rw [if_neg h, if_neg (fun h2 => h (hc.mp h2))]; exact hy

/-- **`opus_decode_native` commutes with every natural view**, for two packet arguments that look alike up to the offset
    shift `m.d` of the view (the same argument, if `m.d = 0`; a packet and its padded or repacketised form otherwise). -/
theorem decodeNative_nat (h : m.Natural o1 o2) {e : Int} (data1 data2 : Option Bytes) (len1 len2 : Int) (sd1 sd2 : Bool)
    (hnull : (len2 = 0 ∨ data2.isNone = true) ↔ (len1 = 0 ∨ data1.isNone = true)) (hneg : len2 < 0 ↔ len1 < 0)
    (hp : ParseAlike m.d e (((data1.getD []).take len1.toNat).headD 0) (parseImpl sd1 ((data1.getD []).take len1.toNat))
      (((data2.getD []).take len2.toNat).headD 0) (parseImpl sd2 ((data2.getD []).take len2.toNat)))
    (pcm : Ptr) (frame_size fec : Int) (sc : Bool) (r : Run) :
    NatOut m e (decodeNative o2 data2 len2 pcm frame_size fec sd2 sc (m.run r))
      (decodeNative o1 data1 len1 pcm frame_size fec sd1 sc r) := by
  unfold decodeNative
  refine .ite Iff.rfl (.same _ rfl) (.ite Iff.rfl (.same _ rfl) (.ite (and_congr_left' (or_congr_right hnull)) (.same _ rfl)
    (.ite hnull (.same _ (nativePlcLoop_nat h ..)) (.ite hneg (.same _ rfl) ?_))))
  generalize ((data1.getD []).take len1.toNat).headD 0 = t1 at hp ⊢
  generalize ((data2.getD []).take len2.toNat).headD 0 = t2 at hp ⊢
  generalize parseImpl sd1 ((data1.getD []).take len1.toNat) = x1 at hp ⊢
  generalize parseImpl sd2 ((data2.getD []).take len2.toNat) = x2 at hp ⊢
  cases x1 <;> cases x2 <;> first | exact False.elim hp | skip
  · obtain ⟨hsz, hcnt, htoc, hoff, hpo⟩ := hp
    obtain ⟨tm, tb, ts, tc⟩ := FramingProofs.toc_helpers_congr t1 t2 r.st.Fs.toNat htoc
    have off : ∀ {x y : Res'}, x = m.res y → NatOut m e (.mk' x _) (.mk' y _) := fun h => by
      subst h; exact ⟨rfl, rfl, Or.inr hpo⟩
    dsimp only
    rw [← tm, ← tb, ← ts, ← tc, ← hsz, ← hcnt, hoff]
    exact .ite Iff.rfl (off (nativeFec_nat h ..)) (.ite Iff.rfl (off rfl) (off (nativeFrames_nat h ..)))
  · cases (show _ = _ from hp); exact .same _ rfl
  · exact .same _ rfl
  · exact .same _ rfl

end Opus.DecSkel
