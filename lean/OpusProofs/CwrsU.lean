import OpusModel.Cwrs
/-
  OpusProofs.CwrsU — arithmetic of U(N,K), V(N,K) (cwrs.c:74-150) and an evaluator of its rows as lists (`rowList`,
  `rowList_spec`), against which OpusProofs/CwrsTable.lean checks the regenerated CELT_PVQ_U_DATA.
-/
namespace OpusProofs.CwrsU
open Opus Opus.Cwrs

@[simp] theorem U_zero_zero : U 0 0 = 1 := rfl
@[simp] theorem U_zero_succ (k : Nat) : U 0 (k + 1) = 0 := rfl
@[simp] theorem U_succ_zero (n : Nat) : U (n + 1) 0 = 0 := rfl
theorem U_succ_succ (n k : Nat) : U (n + 1) (k + 1) = U n (k + 1) + U (n + 1) k + U n k := rfl

theorem U_zero (k : Nat) : U 0 k = if k = 0 then 1 else 0 := by
  cases k <;> simp

/-- `U(N,K) = U(K,N)` (cwrs.c:116). -/
theorem U_symm : ∀ n k, U n k = U k n := by
  intro n
  induction n with
  | zero => intro k; cases k <;> simp
  | succ n ihn =>
    intro k
    induction k with
    | zero => simp
    | succ k ihk =>
      rw [U_succ_succ, U_succ_succ, ihn (k + 1), ihk, ihn k]
      omega

/-- `U(N,K)` is non-decreasing in `K` for `N ≥ 1`. -/
theorem U_mono_step (n k : Nat) : U (n + 1) k ≤ U (n + 1) (k + 1) := by
  rw [U_succ_succ]; omega

theorem U_mono (n : Nat) {a b : Nat} (h : a ≤ b) : U (n + 1) a ≤ U (n + 1) b := by
  induction h with
  | refl => exact Nat.le_refl _
  | step _ ih => exact Nat.le_trans ih (U_mono_step n _)

/-- `U(N,K+1) - U(N,K) = V(N-1,K)` for `N ≥ 1`. -/
theorem U_succ_eq_add_V (n k : Nat) : U (n + 1) (k + 1) = U (n + 1) k + V n k := by
  rw [U_succ_succ, V]; omega

@[simp] theorem U_one_succ (k : Nat) : U 1 (k + 1) = 1 := by
  induction k with
  | zero => rfl
  | succ k ih => rw [U_succ_succ, ih]; simp

/-- `U(2,K) = 2K-1` for `K>0` (cwrs.c:168). -/
theorem U_two_succ (k : Nat) : U 2 (k + 1) = 2 * k + 1 := by
  induction k with
  | zero => rfl
  | succ k ih =>
    rw [U_succ_succ, ih, U_one_succ, U_one_succ]; omega

theorem V_rec (n k : Nat) : V (n + 1) (k + 1) = V n (k + 1) + V (n + 1) k + V n k := by
  simp only [V, U_succ_succ]; omega

@[simp] theorem U_succ_one (n : Nat) : U (n + 1) 1 = 1 := by
  rw [U_symm]; exact U_one_succ n

theorem V_zero (n : Nat) : V (n + 1) 0 = 1 := by
  simp [V]

/-! ## Efficient rows (for kernel evaluation) -/

/-- Row `n+1` as a list from row `n` as a list: `next[0]=0`, `next[k+1]=prev[k+1]+next[k]+prev[k]`.
    `acc` is `next[k]`, `p` is `prev[k]`, the remaining input is `prev[k+1..]`. -/
def nextRowAux : Nat → Nat → List Nat → List Nat
  | _, _, [] => []
  | acc, p, q :: rest => let x := q + acc + p; x :: nextRowAux x q rest

def nextRow : List Nat → List Nat
  | [] => []
  | p :: rest => 0 :: nextRowAux 0 p rest

/-- Row `n` for `k = 0..len-1`. -/
def rowList (len : Nat) : Nat → List Nat
  | 0 => (List.range len).map (fun k => if k = 0 then 1 else 0)
  | n + 1 => nextRow (rowList len n)

theorem nextRowAux_spec (f g : Nat → Nat) (hg : ∀ k, g (k + 1) = f (k + 1) + g k + f k) :
    ∀ (m k : Nat), nextRowAux (g k) (f k) ((List.range' (k + 1) m).map f) = (List.range' (k + 1) m).map g := by
  intro m
  induction m with
  | zero => intro k; rfl
  | succ m ih =>
    intro k
    simp only [List.range'_succ, List.map_cons, nextRowAux]
    rw [← hg k, ih (k + 1)]

theorem rowList_spec (len : Nat) : ∀ n, rowList len n = (List.range len).map (U n) := by
  intro n
  induction n with
  | zero =>
    simp only [rowList]
    apply List.map_congr_left
    intro k _
    cases k <;> simp
  | succ n ih =>
    simp only [rowList, ih, List.range_eq_range']
    cases len with
    | zero => rfl
    | succ m =>
      simp only [List.range'_succ, List.map_cons, nextRow]
      exact congrArg (List.cons 0) (nextRowAux_spec (U n) (U (n + 1)) (U_succ_succ n) m 0)

theorem rowList_getD (len n k : Nat) (h : k < len) : (rowList len n).getD k 0 = U n k := by
  rw [rowList_spec]
  simp [List.getD, h]

theorem U_pos (n k : Nat) : 1 ≤ U (n + 1) (k + 1) := by
  have := U_mono n (show 1 ≤ k + 1 by omega)
  rw [U_succ_one] at this
  exact this

theorem V_ge_two (n k : Nat) (hn : 1 ≤ n) (hk : 1 ≤ k) : 2 ≤ V n k := by
  obtain ⟨n', rfl⟩ : ∃ n', n = n' + 1 := ⟨n - 1, by omega⟩
  obtain ⟨k', rfl⟩ : ∃ k', k = k' + 1 := ⟨k - 1, by omega⟩
  unfold V
  have h1 := U_pos n' k'
  have h2 := U_pos n' (k' + 1)
  omega

end OpusProofs.CwrsU
