import OpusProofs.RangeCoderDec
/-
  OpusProofs.LbrrFlag — a freshly initialised range decoder (celt/entdec.c `ec_dec_init`) returns, for its first
  eight `ec_dec_bit_logp(·, 1)` calls, the eight bits of the first byte of the frame, most significant first
  (`firstBits_eq`; `OpusProps.C09.lbrr_flag_position` reads the LBRR flag positions off it).
  Model: `OpusModel.RangeCoder` (`BytesOk`: `OpusModel.Basic`); the normalisation step lemmas are those of `OpusProofs.RangeCoderDec`.
-/
namespace Opus.LbrrFlag
open Opus Opus.RangeCoder

theorem readByte_lt (d : Dec) (hb : BytesOk d.buf) : (readByte d).1 < 256 := by
  unfold readByte
  split
  · exact getD_lt_of_bytesOk hb _
  · show (0 : Nat) < 256; decide

theorem readByte_buf (d : Dec) : (readByte d).2.buf = d.buf := by
  unfold readByte; split <;> rfl

/-- One normalisation step on a state `rng = R ≤ 2^23`, `val = R − 1 − B/2`, where `B` is the number the bytes read so far
    spell (big-endian) and `rem`, the last of them, has its parity: one more byte `b` is read, `B` becomes `256·B + b`. -/
theorem norm_byte (d : Dec) (R B r : Nat) (hb : BytesOk d.buf) (hR : d.rng = R) (hRpos : 0 < R) (hRle : R ≤ 8388608)
    (hv : d.val + B / 2 + 1 = R) (hrem : d.rem = (r : Int)) (hpar : r % 2 = B % 2) :
    ∃ (d' : Dec) (b : Nat), b < 256 ∧ decNormalize d = decNormalize d' ∧ BytesOk d'.buf ∧ d'.rng = R * 256 ∧
      d'.val + (B * 256 + b) / 2 + 1 = R * 256 ∧ d'.rem = (b : Int) := by
  refine ⟨decStep d, (readByte d).1, readByte_lt d hb, decNormalize_step d (by omega), ?_, ?_, ?_, rfl⟩
  · rw [show (decStep d).buf = d.buf from readByte_buf d]; exact hb
  · show u32 (d.rng * 256) = R * 256
    rw [hR]; exact u32_of_lt (by omega)
  · show (u32 (d.val * 256) + (255 - (d.rem.toNat * 256 + (readByte d).1) / 2 % 256)) % 2147483648 + _ + 1 = _
    have := readByte_lt d hb
    rw [u32_of_lt (by omega), hrem, Int.toNat_natCast]
    generalize (readByte d).1 = b at *
    omega

/-- The state `ec_dec_init` hands to `ec_dec_normalize` (entdec.c:119-134). -/
def initDec (buf : List Nat) (storage offs val : Nat) (rem : Int) : Dec :=
  { buf := buf, storage := storage, endOffs := 0, endWindow := 0, nendBits := 0, nbitsTotal := 9,
    offs := offs, rng := 128, val := val, ext := 0, rem := rem, error := 0 }

theorem decInit_eq (buf : List Nat) (storage : Nat) (hs : 0 < storage) :
    decInit buf storage = decNormalize (initDec buf storage 1 (sub32 (128 - 1) (buf.getD 0 0 / 2)) (buf.getD 0 0 : Nat)) := by
  unfold decInit
  have hrb : readByte (initDec buf storage 0 0 0) = (buf.getD 0 0, initDec buf storage 1 0 0) := by
    unfold readByte initDec; simp only [hs, ↓reduceIte]
  show decNormalize { (readByte (initDec buf storage 0 0 0)).2 with
    rem := ((readByte (initDec buf storage 0 0 0)).1 : Int),
    val := sub32 (128 - 1) ((readByte (initDec buf storage 0 0 0)).1 / 2) } = _
  rw [hrb]; rfl

/-- After `ec_dec_init` on a non-empty frame: `rng = 2^31` and `val = 2^31 − 1 − (b0·2^23 + low)`
    with `low < 2^23`, where `b0` is the first byte of the frame. -/
theorem decInit_shape (buf : List Nat) (storage : Nat) (hb : BytesOk buf) (hs : 0 < storage) :
    ∃ low, low < 8388608 ∧ (decInit buf storage).rng = 2147483648 ∧
      (decInit buf storage).val + (buf.getD 0 0 * 8388608 + low) + 1 = 2147483648 := by
  have hb0 := getD_lt_of_bytesOk hb 0
  rw [decInit_eq buf storage hs]
  generalize buf.getD 0 0 = b0 at *
  -- three normalisation steps: 2^7 → 2^15 → 2^23 → 2^31
  obtain ⟨d1, b1, _, e1, bf1, r1, v1, m1⟩ := norm_byte (initDec buf storage 1 (sub32 (128 - 1) (b0 / 2)) b0) 128 b0 b0 hb rfl
    (by decide) (by decide) (by show sub32 (128 - 1) (b0 / 2) + b0 / 2 + 1 = 128; rw [sub32_of_le (by decide) (by omega)]; omega) rfl rfl
  obtain ⟨d2, b2, _, e2, bf2, r2, v2, m2⟩ := norm_byte d1 _ _ b1 bf1 r1 (by decide) (by decide) v1 m1 (by omega)
  obtain ⟨d3, b3, _, e3, _, r3, v3, _⟩ := norm_byte d2 _ _ b2 bf2 r2 (by decide) (by decide) v2 m2 (by omega)
  rw [e1, e2, e3, decNormalize_done d3 (by rw [r3]; decide)]
  exact ⟨((b1 * 256 + b2) * 256 + b3) / 2, by omega, r3, by omega⟩

/-- `ec_dec_bit_logp(·, 1)` on `rng = 2R`, `val = 2R − 1 − Y` returns the top bit of `Y` and, while `R > 2^23` (no
    renormalisation), leaves `rng = R`, `val = R − 1 − (Y mod R)`. -/
theorem bit_step (d : Dec) (R Y : Nat) (hR : d.rng = 2 * R) (hv : d.val + Y + 1 = 2 * R) :
    (decBitLogp d 1).1 = Y / R ∧ (8388608 < R → 2 * R ≤ 2147483648 →
      (decBitLogp d 1).2.rng = R ∧ (decBitLogp d 1).2.val + Y % R + 1 = R) := by
  unfold decBitLogp
  have hs : d.rng / 2 ^ 1 = R := by rw [hR]; omega
  simp only [hs]
  by_cases hlt : Y < R
  · have hnot : ¬ d.val < R := by omega
    simp only [hnot, decide_false, Bool.false_eq_true, ↓reduceIte, Nat.div_eq_of_lt hlt, Nat.mod_eq_of_lt hlt]
    refine ⟨trivial, fun hbig hsmall => ?_⟩
    rw [sub32_of_le (by omega) (by omega), sub32_of_le (by omega) (by omega), decNormalize_done _ (by simp only; omega)]
    exact ⟨by simp only; omega, by simp only; omega⟩
  · have hyes : d.val < R := by omega
    have hmod : Y % R = Y - R := by rw [Nat.mod_eq_sub_mod (by omega), Nat.mod_eq_of_lt (by omega)]
    simp only [hyes, decide_true, ↓reduceIte, Nat.div_eq_of_lt_le (show 1 * R ≤ Y by omega) (show Y < (1 + 1) * R by omega), hmod]
    refine ⟨trivial, fun hbig hsmall => ?_⟩
    rw [decNormalize_done _ (by simp only; omega)]
    exact ⟨rfl, by simp only; omega⟩
/-- The first `n` results of `ec_dec_bit_logp(·, 1)`. -/
def firstBits (d : Dec) : Nat → List Nat
  | 0 => []
  | n + 1 => (decBitLogp d 1).1 :: firstBits (decBitLogp d 1).2 n

/-- The low `n` binary digits of `x`, most significant first. -/
def msb : Nat → Nat → List Nat
  | 0, _ => []
  | n + 1, x => x / 2 ^ n % 2 :: msb n x

/-- From `rng = 2^(23+n)`, `val = rng − 1 − (Y mod rng)`, the next `n ≤ 8` one-bit symbols are the digits `n−1, …, 0` of
    `Y / 2^23`: each call halves `rng` and peels the top bit off the remainder, and no renormalisation (which would shift in
    a new byte) happens before `rng` has come down to `2^23`. -/
theorem firstBits_msb (Y : Nat) : ∀ (n : Nat) (d : Dec), n ≤ 8 → d.rng = 8388608 * 2 ^ n →
    d.val + Y % (8388608 * 2 ^ n) + 1 = 8388608 * 2 ^ n → firstBits d n = msb n (Y / 8388608)
  | 0, _, _, _, _ => rfl
  | n + 1, d, hn, hr, hv => by
    have hR : 8388608 * 2 ^ (n + 1) = 2 * (8388608 * 2 ^ n) := by rw [Nat.pow_succ]; omega
    rw [hR] at hr hv
    have hdigit : Y % (2 * (8388608 * 2 ^ n)) / (8388608 * 2 ^ n) = Y / 8388608 / 2 ^ n % 2 := by
      rw [Nat.mul_comm 2, Nat.mod_mul_right_div_self, Nat.div_div_eq_div_mul]
    rw [firstBits, msb, (bit_step d _ _ hr hv).1, hdigit]
    congr 1
    cases n with
    | zero => rfl
    | succ m =>
      have hle : 2 ^ (m + 1) ≤ 2 ^ 7 := Nat.pow_le_pow_right (by decide) (by omega)
      have h1 : 1 < 2 ^ (m + 1) := Nat.one_lt_two_pow (by omega)
      obtain ⟨r, v⟩ := (bit_step d _ _ hr hv).2 (by omega) (by omega)
      rw [Nat.mod_mod_of_dvd _ (Nat.dvd_mul_left _ 2)] at v
      exact firstBits_msb Y (m + 1) _ (by omega) r v

/-- The first eight one-bit symbols of a fresh range decoder are the bits of the first byte of the
    frame, most significant first. -/
theorem firstBits_eq (buf : List Nat) (storage : Nat) (hb : BytesOk buf) (hs : 0 < storage) :
    firstBits (decInit buf storage) 8 =
      [buf.getD 0 0 / 128 % 2, buf.getD 0 0 / 64 % 2, buf.getD 0 0 / 32 % 2, buf.getD 0 0 / 16 % 2,
       buf.getD 0 0 / 8 % 2, buf.getD 0 0 / 4 % 2, buf.getD 0 0 / 2 % 2, buf.getD 0 0 % 2] := by
  obtain ⟨low, hlow, hr, hv⟩ := decInit_shape buf storage hb hs
  have hb0 := getD_lt_of_bytesOk hb 0
  rw [firstBits_msb (buf.getD 0 0 * 8388608 + low) 8 _ (Nat.le_refl 8) hr (by rw [Nat.mod_eq_of_lt (by omega)]; exact hv),
    show (buf.getD 0 0 * 8388608 + low) / 8388608 = buf.getD 0 0 by omega]
  simp [msb]

end Opus.LbrrFlag
