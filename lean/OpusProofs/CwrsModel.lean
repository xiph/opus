import OpusProofs.CwrsBij
/-
  OpusProofs.CwrsModel — the transcribed C loops of cwrs.c (`Opus.Cwrs.icwrs`, `Opus.Cwrs.cwrsi`) compute the
  specification functions `encS` / `decS` on every table that agrees with U(N,K) on the words the walk can touch.
-/
namespace OpusProofs.CwrsModel
open Opus Opus.Cwrs OpusProofs.CwrsU OpusProofs.CwrsBij

/-- `tab` holds `U r c` at every word `CELT_PVQ_U_ROW[r][c]`, `r ≤ c`, that a walk for dimension ≤ `N` and
    pulse count ≤ `K` can touch: `(r,c) = (min a b, max a b)` with `a ≤ N`, `b ≤ K+1`. -/
def Agree (tab : Tab) (N K : Nat) : Prop :=
  ∀ r c, r ≤ c → ((r ≤ N ∧ c ≤ K + 1) ∨ (c ≤ N ∧ r ≤ K + 1)) → tab r c = .ok (U r c)

theorem Agree.mono {tab : Tab} {N K N' K' : Nat} (h : Agree tab N K) (hn : N' ≤ N) (hk : K' ≤ K) :
    Agree tab N' K' := by
  intro r c hrc hd
  apply h r c hrc
  rcases hd with hd | hd
  · left; omega
  · right; omega

theorem agree_Umath (N K : Nat) : Agree Umath N K := fun _ _ _ _ => rfl

theorem pvqU_agree {tab : Tab} {N K a b : Nat} (h : Agree tab N K) (ha : a ≤ N) (hb : b ≤ K + 1) :
    pvqU tab a b = .ok (U a b) := by
  unfold pvqU
  by_cases hab : a ≤ b
  · rw [Nat.min_eq_left hab, Nat.max_eq_right hab]
    exact h a b hab (Or.inl ⟨ha, hb⟩)
  · have hba : b ≤ a := by omega
    rw [Nat.min_eq_right hba, Nat.max_eq_left hba, U_symm a b]
    exact h b a hba (Or.inr ⟨ha, hb⟩)

/-! ## icwrs -/

theorem icwrsStep_agree {tab : Tab} {N K m : Nat} (h : Agree tab N K) (y : Int) (i k : Nat)
    (hm : m ≤ N) (hk : k + y.natAbs ≤ K) :
    icwrsStep tab m y (i, k) =
      .ok (i + U m k + (if y < 0 then U m (k + y.natAbs + 1) else 0), k + y.natAbs) := by
  unfold icwrsStep
  simp only [pvqU_agree h hm (show k ≤ K + 1 by omega), Res.bind_ok]
  split
  · simp only [pvqU_agree h hm (show k + y.natAbs + 1 ≤ K + 1 by omega), Res.bind_ok, Res.pure_eq]
  · simp only [Res.pure_eq, Nat.add_zero]

theorem icwrsAux_agree {tab : Tab} {N K : Nat} (h : Agree tab N K) :
    ∀ (ys : List Int) (m : Nat), ys ≠ [] → m = ys.length → m ≤ N → sumAbs ys ≤ K →
      icwrsAux tab m ys = .ok (encS ys, sumAbs ys) := by
  intro ys
  induction ys with
  | nil => intro m hne; exact absurd rfl hne
  | cons y rest ih =>
    intro m _ hm hmN hK
    cases rest with
    | nil =>
      simp only [icwrsAux, encS, sumAbs, List.length_nil, Nat.zero_add, Nat.add_zero, U_succ_zero, U_one_succ]
    | cons y' ys =>
      have hK' : sumAbs (y' :: ys) ≤ K := by simp only [sumAbs] at hK ⊢; omega
      have := ih (m - 1) (by simp) (by simp at hm ⊢; omega) (by omega) hK'
      simp only [icwrsAux, this, Res.bind_ok]
      have hk2 : sumAbs (y' :: ys) + y.natAbs ≤ K := by simp only [sumAbs] at hK ⊢; omega
      rw [icwrsStep_agree h y _ _ hmN hk2]
      have hm' : m = (y' :: ys).length + 1 := by simpa using hm
      simp only [encS, sumAbs, hm']
      congr 2
      · omega
      · omega

theorem icwrs_agree {tab : Tab} {y : List Int} (h : Agree tab y.length (sumAbs y)) (hn : 2 ≤ y.length) :
    icwrs tab y = .ok (encS y) := by
  unfold icwrs
  have hne : y ≠ [] := by intro e; subst e; simp at hn
  rw [if_neg (by omega), icwrsAux_agree h y y.length hne rfl (Nat.le_refl _) (Nat.le_refl _)]
  rfl


/-! ## cwrsi -/

theorem findK_top (n i k : Nat) (h : U n k ≤ i) : findK n i k = k := by
  cases k with
  | zero => rfl
  | succ k => simp [findK, h]

theorem findK_drop (n i k : Nat) (h : i < U n (k + 1)) : findK n i (k + 1) = findK n i k := by
  simp only [findK]; rw [if_neg (by omega)]

/-- above `a` no `j` has `U (m+1) j ≤ i`, so the search from further up ends where the search from `a` does -/
theorem findK_trunc (m i a : Nat) (h : i < U (m + 1) (a + 1)) {k : Nat} (hk : a ≤ k) :
    findK (m + 1) i k = findK (m + 1) i a := by
  induction hk with
  | refl => rfl
  | @step k hk ih =>
    have hk : a ≤ k := hk
    have hm : U (m + 1) (a + 1) ≤ U (m + 1) (k + 1) := U_mono m (by omega)
    rw [findK_drop _ _ _ (by omega), ih]

theorem searchCol_agree {tab : Tab} {N K : Nat} (h : Agree tab N K) (m i : Nat) (hm : m + 1 ≤ N) :
    ∀ k, k ≤ m + 1 → k ≤ K + 1 →
      searchCol tab (m + 1) i (k + 1) = .ok (findK (m + 1) i k, U (m + 1) (findK (m + 1) i k)) := by
  intro k
  induction k with
  | zero =>
    intro _ _
    have : tab 0 (m + 1) = .ok (U 0 (m + 1)) := h 0 (m + 1) (by omega) (Or.inr ⟨hm, by omega⟩)
    simp only [searchCol, this, U_zero_succ, findK, U_succ_zero]
    simp
  | succ k ih =>
    intro hk1 hk2
    have : tab (k + 1) (m + 1) = .ok (U (m + 1) (k + 1)) := by
      rw [U_symm (m + 1) (k + 1)]
      exact h (k + 1) (m + 1) hk1 (Or.inr ⟨hm, hk2⟩)
    rw [searchCol]
    simp only [this, findK]
    by_cases hp : U (m + 1) (k + 1) ≤ i
    · rw [if_neg (by omega), if_pos hp]
    · rw [if_pos (by omega), if_neg hp]
      exact ih (by omega) (by omega)

theorem searchRow_agree {tab : Tab} {N K : Nat} (h : Agree tab N K) (m i : Nat) (hm : m + 1 ≤ N)
    (hnn : U (m + 1) (m + 1) ≤ i) {k : Nat} (hk : m + 1 ≤ k) : k ≤ K + 1 →
      searchRow tab (m + 1) i k = .ok (findK (m + 1) i k, U (m + 1) (findK (m + 1) i k)) := by
  induction hk with
  | refl =>
    intro hk
    have : tab (m + 1) (m + 1) = .ok (U (m + 1) (m + 1)) := h _ _ (Nat.le_refl _) (Or.inl ⟨hm, hk⟩)
    rw [searchRow]
    simp only [this, findK]
    rw [if_neg (by omega), if_pos hnn]
  | @step k hk' ih =>
    intro hk
    have hk' : m + 1 ≤ k := hk'
    have : tab (m + 1) (k + 1) = .ok (U (m + 1) (k + 1)) := h _ _ (by omega) (Or.inl ⟨hm, by omega⟩)
    rw [searchRow]
    simp only [this, findK]
    by_cases hp : U (m + 1) (k + 1) ≤ i
    · rw [if_neg (by omega), if_pos hp]
    · rw [if_pos (by omega), if_neg hp]
      exact ih (by omega)

/-- The first coordinate and the state after one decoding step, as `decS` has them. -/
def stepS (n k i : Nat) : Int × Nat × Nat :=
  let q := U n (k + 1)
  let i1 := if q ≤ i then i - q else i
  let k' := findK n i1 k
  (signed (decide (q ≤ i)) ((k : Int) - k'), k', i1 - U n k')

theorem decS_succ (n k i : Nat) :
    decS (n + 1) k i = (stepS (n + 1) k i).1 :: decS n (stepS (n + 1) k i).2.1 (stepS (n + 1) k i).2.2 := rfl

theorem cwrsiStep_agree {tab : Tab} {N K : Nat} (h : Agree tab N K) (m k i : Nat)
    (hm : m + 1 ≤ N) (hk : k ≤ K) (hi : i < V (m + 1) k) :
    cwrsiStep tab (m + 1) k i = .ok (stepS (m + 1) k i) := by
  unfold cwrsiStep stepS
  generalize hq : U (m + 1) (k + 1) = q at *
  generalize hi1 : (if q ≤ i then i - q else i) = i1 at *
  by_cases hkn : k ≥ m + 1
  · -- lots of pulses
    rw [if_pos hkn]
    have t1 : tab (m + 1) (k + 1) = .ok q := by
      rw [← hq]; exact h _ _ (by omega) (Or.inl ⟨hm, by omega⟩)
    have t2 : tab (m + 1) (m + 1) = .ok (U (m + 1) (m + 1)) := h _ _ (Nat.le_refl _) (Or.inl ⟨hm, by omega⟩)
    simp only [t1, t2, Res.bind_ok, ge_iff_le, decide_eq_true_eq]
    rw [hi1]
    by_cases hnn : U (m + 1) (m + 1) > i1
    · rw [if_pos hnn, searchCol_agree h m i1 hm m (by omega) (by omega)]
      simp only [Res.bind_ok, Res.pure_eq, findK_trunc m i1 m hnn (show m ≤ k by omega)]
    · rw [if_neg hnn, searchRow_agree h m i1 hm (by omega) hkn (by omega)]
      simp only [Res.bind_ok, Res.pure_eq]
  · -- lots of dimensions
    rw [if_neg hkn]
    have t1 : tab k (m + 1) = .ok (U (m + 1) k) := by
      rw [U_symm (m + 1) k]; exact h _ _ (by omega) (Or.inr ⟨hm, by omega⟩)
    have t2 : tab (k + 1) (m + 1) = .ok q := by
      rw [← hq, U_symm (m + 1) (k + 1)]; exact h _ _ (by omega) (Or.inr ⟨hm, by omega⟩)
    simp only [t1, t2, Res.bind_ok, ge_iff_le, decide_eq_true_eq]
    by_cases hz : U (m + 1) k ≤ i ∧ i < q
    · rw [if_pos hz]
      have hnq : ¬ q ≤ i := by omega
      rw [if_neg hnq] at hi1
      subst hi1
      have := findK_top (m + 1) i k hz.1
      simp only [Res.pure_eq, hnq, decide_false, signed]
      simp [this]
    · rw [if_neg hz]
      rw [hi1]
      -- here i1 < U (m+1) k, in particular k ≥ 1
      have hlt : i1 < U (m + 1) k := by
        have hV : V (m + 1) k = U (m + 1) k + q := by rw [← hq]; rfl
        rw [← hi1]; split <;> omega
      cases k with
      | zero => simp at hlt
      | succ k' =>
        rw [searchCol_agree h m i1 hm k' (by omega) (by omega)]
        simp only [Res.bind_ok, Res.pure_eq, findK_drop _ _ _ hlt]


theorem U_two (j : Nat) : U 2 j = if j = 0 then 0 else 2 * j - 1 := by
  cases j with
  | zero => rfl
  | succ j => rw [U_two_succ]; simp; omega

theorem findK_one_zero : ∀ k, findK 1 0 k = 0 := by
  intro k
  induction k with
  | zero => rfl
  | succ k ih => simp [findK, ih]

theorem decS_one (k i : Nat) :
    decS 1 k i = [signed (decide (1 ≤ i)) ((k : Int) - findK 1 (if 1 ≤ i then i - 1 else i) k)] := by
  simp [decS]

theorem decS_two (k i : Nat) :
    decS 2 k i =
      signed (decide (2 * k + 1 ≤ i))
          ((k : Int) - findK 2 (if 2 * k + 1 ≤ i then i - (2 * k + 1) else i) k) ::
        decS 1 (findK 2 (if 2 * k + 1 ≤ i then i - (2 * k + 1) else i) k)
          ((if 2 * k + 1 ≤ i then i - (2 * k + 1) else i) -
            U 2 (findK 2 (if 2 * k + 1 ≤ i then i - (2 * k + 1) else i) k)) := by
  have : decS 2 k i = (stepS 2 k i).1 :: decS 1 (stepS 2 k i).2.1 (stepS 2 k i).2.2 := decS_succ 1 k i
  rw [this]
  simp only [stepS, U_two_succ]

/-- the `_n==2`, `_n==1` tails compute `decS 2`. -/
theorem cwrsiTail_eq (k i : Nat) (hi : i < V 2 k) : cwrsiTail k i = decS 2 k i := by
  rw [decS_two]
  simp only [cwrsiTail, ge_iff_le, decide_eq_true_eq]
  generalize hi1 : (if 2 * k + 1 ≤ i then i - (2 * k + 1) else i) = i1
  obtain ⟨hle, hU, hb, hneg, hi1q⟩ :=
    step_bounds 1 k i hi (2 * k + 1) i1 (findK 2 i1 k) (U_two_succ k).symm hi1.symm rfl
  have hf : findK 2 i1 k = (i1 + 1) / 2 := by
    apply findK_unique 1 i1 k ((i1 + 1) / 2) (by omega)
    · show U 2 ((i1 + 1) / 2) ≤ i1
      rw [U_two]; split <;> omega
    · intro _
      show i1 < U 2 ((i1 + 1) / 2 + 1)
      rw [U_two_succ]; omega
  rw [hf, U_two, decS_one]
  generalize hk1 : (i1 + 1) / 2 = k1
  have e1 : (if k1 ≠ 0 then i1 - (2 * k1 - 1) else i1) = i1 - (if k1 = 0 then 0 else 2 * k1 - 1) := by
    by_cases h0 : k1 = 0 <;> simp [h0]
  rw [e1]
  generalize hi2 : i1 - (if k1 = 0 then 0 else 2 * k1 - 1) = i2
  have hi2b : i2 ≤ 1 := by
    rw [← hi2]; split <;> omega
  have e2 : (if 1 ≤ i2 then i2 - 1 else i2) = 0 := by split <;> omega
  rw [e2, findK_one_zero]
  have e3 : decide (i2 ≠ 0) = decide (1 ≤ i2) := decide_eq_decide.2 (by omega)
  rw [e3]
  simp

theorem cwrsiLoop_agree {tab : Tab} {N K : Nat} (h : Agree tab N K) :
    ∀ n k i, n + 2 ≤ N → k ≤ K → i < V (n + 2) k → cwrsiLoop tab (n + 2) k i = .ok (decS (n + 2) k i) := by
  intro n
  induction n with
  | zero =>
    intro k i _ _ hi
    simp only [cwrsiLoop]
    rw [cwrsiTail_eq k i hi]
  | succ n ih =>
    intro k i hn hk hi
    show cwrsiLoop tab (n + 3) k i = .ok (decS (n + 3) k i)
    obtain ⟨hle, _, hb, _, _⟩ := step_bounds (n + 2) k i hi _ _ _ rfl rfl rfl
    rw [cwrsiLoop]
    simp only [cwrsiStep_agree h (n + 2) k i (by omega) hk hi, Res.bind_ok]
    rw [ih (stepS (n + 3) k i).2.1 (stepS (n + 3) k i).2.2 (by omega) (Nat.le_trans hle hk) hb]
    simp only [Res.bind_ok, Res.pure_eq]
    rfl

/-- **cwrsi = decS.**  On any table that agrees with U on the words reachable for `(n,k)`, `cwrsi` returns the
    specification vector and `yy = Σ y²`. -/
theorem cwrsi_agree {tab : Tab} {n k i : Nat} (h : Agree tab n k) (hn : 2 ≤ n) (hk : 1 ≤ k) (hi : i < V n k) :
    cwrsi tab n k i = .ok (decS n k i, sumSq (decS n k i)) := by
  unfold cwrsi
  rw [if_neg (by omega)]
  obtain ⟨m, rfl⟩ : ∃ m, n = m + 2 := ⟨n - 2, by omega⟩
  rw [cwrsiLoop_agree h m k i (Nat.le_refl _) (Nat.le_refl _) hi]
  rfl

theorem pvqV_agree {tab : Tab} {N K n k : Nat} (h : Agree tab N K) (hn : n ≤ N) (hk : k ≤ K) :
    pvqV tab n k = .ok (V n k) := by
  unfold pvqV
  simp only [pvqU_agree h hn (show k ≤ K + 1 by omega), pvqU_agree h hn (show k + 1 ≤ K + 1 by omega), Res.bind_ok]
  rfl

end OpusProofs.CwrsModel
