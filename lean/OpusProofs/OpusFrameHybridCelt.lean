import OpusProofs.OpusFrameCelt
import OpusProofs.RangeCoderTwin
/-
  C08, frame level: a HYBRID frame without redundancy, with the CELT part discharged by C17's round trip.

  C17's `World` is a legal run (no `ec_enc_patch_initial_bits`); the main coder of a hybrid frame patches the SILK
  header flags.  `patched_eq_bits` (OpusProofs/RangeCoderTwin.lean) closes the gap: the patched run produces, byte
  for byte and in `rng`, what the run coding the true flag bits first produces.  That second run is a `World`
  (`hybrid_world`, for any redundancy signalling); its prefix `hybridP0G` (flag bits, SILK body, redundancy signalling,
  `ec_enc_shrink`) — `hybridP0` when no redundancy is signalled — is the `P0` of `celt_frame_roundtrip`.
-/
namespace Opus.OpusFrameProofs
open Opus Opus.RangeCoder Opus.SilkSyms Opus.SilkSymsEnc Opus.SilkSymsEncProofs Opus.OpusFrameEnc OpusProofs.CeltHdr

/-- what precedes the CELT part on the shared coder, with the flag bits coded directly -/
def hybridP0 (maxData : Nat) (cfg : Cfg) (pk : PacketIn) (gate : Bool) : List Op :=
  bitsOps (bitsWord (headerBits cfg pk) 0) ((cfg.nfpp + 1) * cfg.nCh) ++ packetBody cfg pk ++
    (redSigOps true gate 0 0 0 ++ [Op.shrink (maxData - 1)])

theorem icLegal_prim {ops : List Op} (h : IcLegal ops) : ∀ op ∈ ops, op.isPrim = true ∧ op.Legal := by
  intro op hop
  rcases h op hop with ⟨s, tbl, rfl, h1, h2⟩
  exact ⟨rfl, h1, h2, Nat.le_refl 8⟩

/-- the main coder's calls of a hybrid frame without redundancy: placeholder, body, patch, then the rest — the form
    `hybrid_twin` works with -/
theorem hybridOps_shape (maxData : Nat) (cfg : Cfg) (pk : PacketIn) (gate : Bool) (celtOps : List Op) :
    hybridOps maxData cfg pk gate 0 0 0 celtOps =
      Op.icdf 0 (flagTable ((cfg.nfpp + 1) * cfg.nCh)) 8 ::
        (packetBody cfg pk ++ [Op.patchInitial (bitsWord (headerBits cfg pk) 0) ((cfg.nfpp + 1) * cfg.nCh)] ++
          ((redSigOps true gate 0 0 0 ++ [Op.shrink (maxData - 1)]) ++ celtOps)) := by
  unfold hybridOps
  rw [packetOps_eq, Nat.sub_zero]
  simp only [List.cons_append, List.append_assoc, List.nil_append]

/-- The patched main coder of a hybrid frame and the legal run with the flag bits coded directly: same finished
    stream, and canon-equal states after every prefix `suf1` of what follows the SILK part. -/
theorem hybrid_twin (buf : List Nat) (maxData : Nat) (cfg : Cfg) (pk : PacketIn) (suf1 suf2 : List Op)
    (hs : maxData - 1 ≤ buf.length) (hb : BytesOk buf) (hok : PacketOk cfg pk) (hk7 : (cfg.nfpp + 1) * cfg.nCh ≤ 7)
    (hsuf : LegalRun (encRun (encInit buf (maxData - 1)) (packetOps cfg pk)) (suf1 ++ suf2))
    (hn : (encRun (encInit buf (maxData - 1)) (packetOps cfg pk ++ (suf1 ++ suf2))).nbitsTotal < 4294967296)
    (herr : (encRun (encInit buf (maxData - 1)) (packetOps cfg pk ++ (suf1 ++ suf2))).error = 0) :
    canon (encRun (encInit buf (maxData - 1)) (packetOps cfg pk ++ suf1)) =
      canon (encRun (encInit buf (maxData - 1))
        (bitsOps (bitsWord (headerBits cfg pk) 0) ((cfg.nfpp + 1) * cfg.nCh) ++ packetBody cfg pk ++ suf1)) ∧
    LegalRun (encInit buf (maxData - 1))
      (bitsOps (bitsWord (headerBits cfg pk) 0) ((cfg.nfpp + 1) * cfg.nCh) ++ packetBody cfg pk ++ (suf1 ++ suf2)) ∧
    encDone (encRun (encInit buf (maxData - 1)) (packetOps cfg pk ++ (suf1 ++ suf2))) =
      encDone (encRun (encInit buf (maxData - 1))
        (bitsOps (bitsWord (headerBits cfg pk) 0) ((cfg.nfpp + 1) * cfg.nCh) ++ packetBody cfg pk ++ (suf1 ++ suf2))) := by
  have hlen := headerBits_length hok
  have hbits := headerBits_bits hok
  have hk1 := (flagCount_bounds hok).1
  have hw : bitsWord (headerBits cfg pk) 0 < 2 ^ ((cfg.nfpp + 1) * cfg.nCh) := by
    rw [← hlen]; exact bitsWord_lt _ hbits
  have hprim := icLegal_prim (packetBody_legal hok)
  simp only [packetOps_eq, List.cons_append] at hsuf hn herr ⊢
  generalize (cfg.nfpp + 1) * cfg.nCh = k at *
  generalize bitsWord (headerBits cfg pk) 0 = word at *
  obtain ⟨_, _, a3, a4⟩ := patched_eq_bits buf (maxData - 1) k word (packetBody cfg pk) (suf1 ++ suf2) hs hb hk1 hk7 hw
    hprim hsuf hn herr
  have hsuf1 := (legalRun_append suf1 suf2 _ hsuf).1
  have e1 : Op.icdf 0 (flagTable k) 8 :: (packetBody cfg pk ++ [Op.patchInitial word k] ++ (suf1 ++ suf2)) =
      (Op.icdf 0 (flagTable k) 8 :: (packetBody cfg pk ++ [Op.patchInitial word k] ++ suf1)) ++ suf2 := by
    simp only [List.cons_append, List.append_assoc]
  rw [e1] at hn herr
  obtain ⟨hn1, herr1⟩ := encRun_ok_of_append hn herr
  obtain ⟨b1, _, _, _⟩ := patched_eq_bits buf (maxData - 1) k word (packetBody cfg pk) suf1 hs hb hk1 hk7 hw
    hprim hsuf1 hn1 herr1
  exact ⟨b1, a3, a4⟩

/-- what precedes the CELT part on the shared coder, flag bits coded directly, any redundancy signalling (`G`: general);
    `hybridP0` is this at `red = c2s = rb = 0` (`hybridP0_eq`) -/
def hybridP0G (maxData : Nat) (cfg : Cfg) (pk : PacketIn) (gate : Bool) (red c2s rb : Nat) : List Op :=
  bitsOps (bitsWord (headerBits cfg pk) 0) ((cfg.nfpp + 1) * cfg.nCh) ++ packetBody cfg pk ++
    (redSigOps true gate red c2s rb ++ [Op.shrink (maxData - 1 - rb)])

theorem hybridP0_eq (maxData : Nat) (cfg : Cfg) (pk : PacketIn) (gate : Bool) :
    hybridP0 maxData cfg pk gate = hybridP0G maxData cfg pk gate 0 0 0 := rfl

/-- The legal run behind the main coder of a hybrid frame is fit for a C17 `World` (`RunOk`). -/
theorem hybrid_world (buf : List Nat) (maxData nCh ms10 : Nat) (pk : PacketIn) (gate : Bool) (red c2s rb : Nat)
    (celtOps : List Op)
    (hs : maxData - 1 ≤ buf.length) (hb : BytesOk buf) (hok : PacketOk (hybridCfg nCh ms10) pk)
    (hrb : red ≠ 0 → 2 ≤ rb ∧ rb ≤ 257)
    (hsuf : LegalRun (encRun (encInit buf (maxData - 1)) (packetOps (hybridCfg nCh ms10) pk ++ redSigOps true gate red c2s rb))
      (Op.shrink (maxData - 1 - rb) :: celtOps))
    (hn29 : (encodeAll buf (maxData - 1) (hybridOps maxData (hybridCfg nCh ms10) pk gate red c2s rb celtOps)).nbitsTotal < 536870912)
    (herr : (encodeAll buf (maxData - 1) (hybridOps maxData (hybridCfg nCh ms10) pk gate red c2s rb celtOps)).error = 0) :
    RunOk buf (maxData - 1) (hybridP0G maxData (hybridCfg nCh ms10) pk gate red c2s rb ++ celtOps) ∧
      encodeAll buf (maxData - 1) (hybridOps maxData (hybridCfg nCh ms10) pk gate red c2s rb celtOps) =
        encodeAll buf (maxData - 1) (hybridP0G maxData (hybridCfg nCh ms10) pk gate red c2s rb ++ celtOps) ∧
      canon (encRun (encInit buf (maxData - 1)) (packetOps (hybridCfg nCh ms10) pk ++
          (redSigOps true gate red c2s rb ++ [Op.shrink (maxData - 1 - rb)]))) =
        canon (encRun (encInit buf (maxData - 1)) (hybridP0G maxData (hybridCfg nCh ms10) pk gate red c2s rb)) := by
  have hk7 : ((hybridCfg nCh ms10).nfpp + 1) * (hybridCfg nCh ms10).nCh ≤ 7 := by
    have h1 : (hybridCfg nCh ms10).nfpp = 1 := rfl
    rcases hok.nCh with h | h <;> rw [h1, h] <;> decide
  generalize hybridCfg nCh ms10 = cfg at *
  have hops : hybridOps maxData cfg pk gate red c2s rb celtOps =
      packetOps cfg pk ++ ((redSigOps true gate red c2s rb ++ [Op.shrink (maxData - 1 - rb)]) ++ celtOps) := by
    unfold hybridOps
    simp only [List.append_assoc, List.cons_append, List.nil_append]
  have hsufR : LegalRun (encRun (encInit buf (maxData - 1)) (packetOps cfg pk))
      ((redSigOps true gate red c2s rb ++ [Op.shrink (maxData - 1 - rb)]) ++ celtOps) := by
    rw [List.append_assoc]
    apply legalRun_append_mk _ _ _ (redSigOps_legal _ gate red c2s rb hrb)
    rw [← encRun_append]
    exact hsuf
  unfold encodeAll at hn29 herr
  rw [hops] at hn29 herr
  obtain ⟨hnR, herrR⟩ := encDone_ok (Nat.lt_trans hn29 (by decide)) herr
  obtain ⟨a1, a2, a3⟩ := hybrid_twin buf maxData cfg pk (redSigOps true gate red c2s rb ++ [Op.shrink (maxData - 1 - rb)]) celtOps
    hs hb hok hk7 hsufR hnR herrR
  -- `hybridP0G … ++ celtOps`, up to unfolding `hybridP0G`
  rw [← List.append_assoc (_ ++ packetBody cfg pk) _ celtOps] at a2 a3
  rw [a3] at hn29 herr
  exact ⟨⟨a2, Nat.lt_trans hn29 (by decide), herr, hn29⟩, by unfold encodeAll; rw [hops]; exact a3, a1⟩

/-- The hypotheses of C17's `celt_frame_roundtrip` for the CELT part of a hybrid frame without redundancy, stated on
    the encoder models: `L` is the final length of the frame, `hybridP0` what precedes the CELT part on the shared
    coder (the legal form of the SILK prefix), `s0` the CELT encoder model's start state — the coder behind that
    prefix, which differs from the state of the patched coder at most in how a pending 0xFF first digit is
    represented (`hybrid_world`) — with the CELT decisions `s0.ds`. -/
structure HybridCelt (buf : List Nat) (maxData : Nat) (cfg : Cfg) (pk : PacketIn) (gate : Bool)
    (ccfg : Opus.CeltSymsEnc.EncCfg) (s0 : Opus.CeltSymsEnc.St) (fr : Opus.CeltBandsEnc.EncFrame) : Prop where
  ops0 : s0.ops = []
  enc0 : s0.e = encRun (encInit buf (maxData - 1)) (hybridP0 maxData cfg pk gate)
  storage0 : s0.e.storage = ccfg.size
  run : Opus.CeltBandsEnc.encFrame ccfg s0 = .ok fr
  notSilent : fr.hdr.silence = 0
  cfgOk : ccfg.start < ccfg.end_ ∧ ccfg.end_ ≤ 21 ∧ (ccfg.C = 1 ∨ ccfg.C = 2) ∧ ccfg.LM ≤ 3
  sizeOk : ccfg.size ≤ 1275
  len : (encodeAll buf (maxData - 1) (hybridOps maxData cfg pk gate 0 0 0 fr.ops)).storage = fr.hdr.size
  margin : (encodeAll buf (maxData - 1) (hybridOps maxData cfg pk gate 0 0 0 fr.ops)).storage = ccfg.size ∨
    (tell (encRun (encInit buf (maxData - 1)) (hybridP0 maxData cfg pk gate ++ fr.hdr.opsHdr)) + 16 ≤
        (((encodeAll buf (maxData - 1) (hybridOps maxData cfg pk gate 0 0 0 fr.ops)).storage * 8 : Nat) : Int) ∧
     (tellFrac (encRun (encInit buf (maxData - 1)) (hybridP0 maxData cfg pk gate ++ fr.hdr.opsHdr)) : Int) + fr.hdr.totalBoost + 48 <
        (((encodeAll buf (maxData - 1) (hybridOps maxData cfg pk gate 0 0 0 fr.ops)).storage * 8 * 8 : Nat) : Int))
  room : tell s0.e < (((encodeAll buf (maxData - 1) (hybridOps maxData cfg pk gate 0 0 0 fr.ops)).storage * 8 : Nat) : Int)
  tapset : fr.hdr.pf.on ≠ 0 →
    tell (encRun (encInit buf (maxData - 1)) (hybridP0 maxData cfg pk gate ++ fr.hdr.opsPf.dropLast)) + 2 ≤
      (((encodeAll buf (maxData - 1) (hybridOps maxData cfg pk gate 0 0 0 fr.ops)).storage * 8 : Nat) : Int)
  intensity : (ccfg.start : Int) ≤ fr.hdr.allocInp.intensity
  dual : fr.hdr.allocInp.dualStereo = 0 ∨ fr.hdr.allocInp.dualStereo = 1

/-- The hypotheses of C17's `celt_frame_roundtrip` for the CELT part of a hybrid frame with any redundancy signalling
    (`HybridCelt` with the prefix `hybridP0G`). -/
structure HybridCeltG (buf : List Nat) (maxData : Nat) (cfg : Cfg) (pk : PacketIn) (gate : Bool) (red c2s rb : Nat)
    (ccfg : Opus.CeltSymsEnc.EncCfg) (s0 : Opus.CeltSymsEnc.St) (fr : Opus.CeltBandsEnc.EncFrame) : Prop where
  ops0 : s0.ops = []
  enc0 : s0.e = encRun (encInit buf (maxData - 1)) (hybridP0G maxData cfg pk gate red c2s rb)
  storage0 : s0.e.storage = ccfg.size
  run : Opus.CeltBandsEnc.encFrame ccfg s0 = .ok fr
  notSilent : fr.hdr.silence = 0
  cfgOk : ccfg.start < ccfg.end_ ∧ ccfg.end_ ≤ 21 ∧ (ccfg.C = 1 ∨ ccfg.C = 2) ∧ ccfg.LM ≤ 3
  sizeOk : ccfg.size ≤ 1275
  len : (encodeAll buf (maxData - 1) (hybridOps maxData cfg pk gate red c2s rb fr.ops)).storage = fr.hdr.size
  margin : (encodeAll buf (maxData - 1) (hybridOps maxData cfg pk gate red c2s rb fr.ops)).storage = ccfg.size ∨
    (tell (encRun (encInit buf (maxData - 1)) (hybridP0G maxData cfg pk gate red c2s rb ++ fr.hdr.opsHdr)) + 16 ≤
        (((encodeAll buf (maxData - 1) (hybridOps maxData cfg pk gate red c2s rb fr.ops)).storage * 8 : Nat) : Int) ∧
     (tellFrac (encRun (encInit buf (maxData - 1)) (hybridP0G maxData cfg pk gate red c2s rb ++ fr.hdr.opsHdr)) : Int) + fr.hdr.totalBoost + 48 <
        (((encodeAll buf (maxData - 1) (hybridOps maxData cfg pk gate red c2s rb fr.ops)).storage * 8 * 8 : Nat) : Int))
  room : tell s0.e < (((encodeAll buf (maxData - 1) (hybridOps maxData cfg pk gate red c2s rb fr.ops)).storage * 8 : Nat) : Int)
  tapset : fr.hdr.pf.on ≠ 0 →
    tell (encRun (encInit buf (maxData - 1)) (hybridP0G maxData cfg pk gate red c2s rb ++ fr.hdr.opsPf.dropLast)) + 2 ≤
      (((encodeAll buf (maxData - 1) (hybridOps maxData cfg pk gate red c2s rb fr.ops)).storage * 8 : Nat) : Int)
  intensity : (ccfg.start : Int) ≤ fr.hdr.allocInp.intensity
  dual : fr.hdr.allocInp.dualStereo = 0 ∨ fr.hdr.allocInp.dualStereo = 1

/-- `HybridCelt` is `HybridCeltG` without redundancy signalling, field by field (`hybridP0_eq`; `maxData - 1 - 0` is `maxData - 1`) -/
theorem HybridCelt.toG {buf : List Nat} {maxData : Nat} {cfg : Cfg} {pk : PacketIn} {gate : Bool}
    {ccfg : Opus.CeltSymsEnc.EncCfg} {s0 : Opus.CeltSymsEnc.St} {fr : Opus.CeltBandsEnc.EncFrame}
    (h : HybridCelt buf maxData cfg pk gate ccfg s0 fr) : HybridCeltG buf maxData cfg pk gate 0 0 0 ccfg s0 fr :=
  ⟨h.ops0, h.enc0, h.storage0, h.run, h.notSilent, h.cfgOk, h.sizeOk, h.len, h.margin, h.room, h.tapset, h.intensity, h.dual⟩

/-- A coder `canon`-equal to `e` behind an `ec_enc_shrink` has `e`'s range and `ec_tell`: `canon` changes how a pending
    0xFF is represented, the shrink moves bytes.  (`e` a variable: asked whether `(encRun e [Op.shrink n]).rng` is `e.rng` for a
    run `e` over a symbolic op list, the elaborator unfolds that run.) -/
theorem canon_shrink_rn {e b : Enc} {n : Nat} (h : canon (encRun e [Op.shrink n]) = canon b) :
    b.rng = e.rng ∧ tell b = tell e := by
  have e1 : b.rng = e.rng := by have := congrArg Ctx.rng h; rw [canon_rng, canon_rng] at this; exact this.symm
  have e2 : b.nbitsTotal = e.nbitsTotal := by
    have := congrArg Ctx.nbitsTotal h; rw [canon_nbitsTotal, canon_nbitsTotal] at this; exact this.symm
  exact ⟨e1, tell_congr e1 e2⟩

/-- **The CELT part of a hybrid frame, any redundancy signalling** (`gate / red / c2s`, `redundancy_bytes = R.length`).  The main
    part `w.bytes` of the frame is the packet of a C17 `World` (`hybrid_world`); a decoder initialised on it reads back
    `hybridP0G`, and C03's `celtFrame` from there returns the encoder's header and ends with the encoder's final `rng`.
    The last clause carries `ec_tell` at the hand-over from the legal run to the patched coder of the encoder model. -/
theorem hybrid_main_part_roundtrip (buf : List Nat) (maxData nCh ms10 : Nat) (pk : PacketIn) (gate : Bool)
    (red c2s : Nat) (R : Bytes) (rr : Nat)
    (ccfg : Opus.CeltSymsEnc.EncCfg) (s0 : Opus.CeltSymsEnc.St) (fr : Opus.CeltBandsEnc.EncFrame)
    (hs : maxData - 1 ≤ buf.length) (hb : BytesOk buf) (hok : PacketOk (hybridCfg nCh ms10) pk)
    (hrb : red ≠ 0 → 2 ≤ R.length ∧ R.length ≤ 257)
    (hsuf : LegalRun (encRun (encInit buf (maxData - 1)) (packetOps (hybridCfg nCh ms10) pk ++ redSigOps true gate red c2s R.length))
      (Op.shrink (maxData - 1 - R.length) :: fr.ops))
    (hn29 : (encodeAll buf (maxData - 1) (hybridOps maxData (hybridCfg nCh ms10) pk gate red c2s R.length fr.ops)).nbitsTotal < 536870912)
    (herr : (encodeAll buf (maxData - 1) (hybridOps maxData (hybridCfg nCh ms10) pk gate red c2s R.length fr.ops)).error = 0)
    (hcelt : HybridCeltG buf maxData (hybridCfg nCh ms10) pk gate red c2s R.length ccfg s0 fr) :
    ∃ (w : World) (dh : Opus.CeltSyms.CeltHdr) (sA : Opus.CeltBands.BSt),
      (w.buf = buf ∧ w.size = maxData - 1 ∧
      w.all = hybridP0G maxData (hybridCfg nCh ms10) pk gate red c2s R.length ++ fr.ops ∧
      w.len = (encodeAll buf (maxData - 1) (hybridOps maxData (hybridCfg nCh ms10) pk gate red c2s R.length fr.ops)).storage ∧
      (hybridFrame buf maxData (hybridCfg nCh ms10) pk gate red c2s fr.ops R rr).payload = w.bytes ++ R ∧
      w.bytes.length = w.len ∧
      Reads (decInit w.bytes w.len) (hybridP0G maxData (hybridCfg nCh ms10) pk gate red c2s R.length) ∧
      (w.decAt (hybridP0G maxData (hybridCfg nCh ms10) pk gate red c2s R.length)).rng =
        (encRun (encInit buf (maxData - 1)) (packetOps (hybridCfg nCh ms10) pk ++ redSigOps true gate red c2s R.length)).rng ∧
      tell (w.decAt (hybridP0G maxData (hybridCfg nCh ms10) pk gate red c2s R.length)) =
        tell (encRun (encInit buf (maxData - 1)) (packetOps (hybridCfg nCh ms10) pk ++ redSigOps true gate red c2s R.length)) ∧
      (w.decAt (hybridP0G maxData (hybridCfg nCh ms10) pk gate red c2s R.length)).storage = w.len ∧
      FrameAgree w (hybridP0G maxData (hybridCfg nCh ms10) pk gate red c2s R.length) ccfg fr dh ∧
      Opus.CeltBands.celtFrame (cfgD ccfg) w.len
          (decRun (decInit w.bytes w.len) (hybridP0G maxData (hybridCfg nCh ms10) pk gate red c2s R.length)).2 =
        .ok { hdr := dh, alloc := fr.hdr.alloc, allocSt := sA,
              fin := Opus.CeltBands.afterAlloc (cfgD ccfg) w.len dh fr.hdr.alloc
                { rem := 0, c := w.decAt (hybridP0G maxData (hybridCfg nCh ms10) pk gate red c2s R.length ++ fr.hdr.ops),
                  tr := [], fault := false } } ∧
      (Opus.CeltBands.afterAlloc (cfgD ccfg) w.len dh fr.hdr.alloc
          { rem := 0, c := w.decAt (hybridP0G maxData (hybridCfg nCh ms10) pk gate red c2s R.length ++ fr.hdr.ops),
            tr := [], fault := false }).c.rng =
        (encodeAll buf (maxData - 1) (hybridOps maxData (hybridCfg nCh ms10) pk gate red c2s R.length fr.ops)).rng) ∧
      tell s0.e = tell (encRun (encInit buf (maxData - 1)) (packetOps (hybridCfg nCh ms10) pk ++ redSigOps true gate red c2s R.length)) := by
  obtain ⟨ok, hE, c2⟩ := hybrid_world buf maxData nCh ms10 pk gate red c2s R.length fr.ops hs hb hok hrb hsuf hn29 herr
  generalize hybridCfg nCh ms10 = cfg at *
  let w : World := ⟨buf, maxData - 1, hybridP0G maxData cfg pk gate red c2s R.length ++ fr.ops, hs, hb, ok.hl, ok.hn, ok.herr, ok.hn29⟩
  have hwlen : w.len = (encodeAll buf (maxData - 1) (hybridOps maxData cfg pk gate red c2s R.length fr.ops)).storage :=
    congrArg Ctx.storage hE.symm
  have hpay : (hybridFrame buf maxData cfg pk gate red c2s fr.ops R rr).payload = w.bytes ++ R := by
    unfold hybridFrame; rw [hE]; rfl
  obtain ⟨dh, sA, fa, _, hcf⟩ := celtFrame_roundtrip w (hybridP0G maxData cfg pk gate red c2s R.length) ccfg s0 hcelt.ops0
    hcelt.enc0 hcelt.storage0 fr hcelt.run hcelt.notSilent ⟨[], (List.append_nil _).symm⟩
    hcelt.cfgOk hcelt.sizeOk (by rw [hwlen]; exact hcelt.len) (by rw [hwlen]; exact hcelt.margin) (by rw [hwlen]; exact hcelt.room)
    (by rw [hwlen]; exact hcelt.tapset) hcelt.intensity hcelt.dual
  have hp0 : w.IsPrefix (hybridP0G maxData cfg pk gate red c2s R.length) := ⟨fr.ops, rfl⟩
  have hreads : Reads w.d0 (hybridP0G maxData cfg pk gate red c2s R.length) := (w.reads [] _ hp0).1
  obtain ⟨sy1, _, sy3, _⟩ := w.sync _ hp0
  rw [← List.append_assoc, encRun_append] at c2
  obtain ⟨hcr, hct⟩ := canon_shrink_rn c2
  refine ⟨w, dh, sA, ⟨rfl, rfl, rfl, hwlen, hpay, w.bytes_ok.1, hreads, (w.sync_rng _ hp0).trans hcr,
    sy1.trans hct, sy3, fa, hcf, ?_⟩, by rw [hcelt.enc0, hct]⟩
  rw [fa.rngFin, fa.encFin, hE]
  exact (encDone_rng _).symm

/-- **Hybrid frame without redundancy, CELT part included.** -/
theorem opus_frame_lockstep_hybrid_celt_all (buf : List Nat) (maxData bandwidth nCh ms10 spf48 : Nat) (pk : PacketIn)
    (st : SilkSt) (gate : Bool) (ccfg : Opus.CeltSymsEnc.EncCfg) (s0 : Opus.CeltSymsEnc.St) (fr : Opus.CeltBandsEnc.EncFrame)
    (hms : ms10 = 100 ∨ ms10 = 200)
    (hs : maxData - 1 ≤ buf.length) (hb : BytesOk buf) (hok : PacketOk (hybridCfg nCh ms10) pk)
    (hsuf : LegalRun (encRun (encInit buf (maxData - 1)) (packetOps (hybridCfg nCh ms10) pk ++ redSigOps true gate 0 0 0))
      (Op.shrink (maxData - 1 - 0) :: fr.ops))
    (hn29 : (encodeAll buf (maxData - 1) (hybridOps maxData (hybridCfg nCh ms10) pk gate 0 0 0 fr.ops)).nbitsTotal < 536870912)
    (herr : (encodeAll buf (maxData - 1) (hybridOps maxData (hybridCfg nCh ms10) pk gate 0 0 0 fr.ops)).error = 0)
    (hgate : (tell (encRun (encInit buf (maxData - 1)) (packetOps (hybridCfg nCh ms10) pk)) + 17 + 20 ≤
        8 * (((encodeAll buf (maxData - 1) (hybridOps maxData (hybridCfg nCh ms10) pk gate 0 0 0 fr.ops)).storage : Nat) : Int)) ↔
      gate = true)
    (hmainpos : 0 < (encodeAll buf (maxData - 1) (hybridOps maxData (hybridCfg nCh ms10) pk gate 0 0 0 fr.ops)).storage)
    (hcelt : HybridCelt buf maxData (hybridCfg nCh ms10) pk gate ccfg s0 fr)
    (hcc : ccfg.start = 17 ∧ ccfg.end_ = Opus.CeltSyms.endBandOf bandwidth ∧ ccfg.C = nCh ∧ ccfg.LM = Opus.CeltSyms.lmOf spf48) :
    ∃ o, decodeOpusFrame 1001 bandwidth nCh ms10 false st
        (hybridFrame buf maxData (hybridCfg nCh ms10) pk gate 0 0 fr.ops [] 0).payload = .ok o ∧
      o.redundancy = 0 ∧
      o.evs = packetEvs (hybridCfg nCh ms10) pk (fun j =>
        ((encRun (encInit buf (maxData - 1)) (prefixOps (hybridCfg nCh ms10) pk j)).rng,
         tell (encRun (encInit buf (maxData - 1)) (prefixOps (hybridCfg nCh ms10) pk j)))) ∧
      decRangeFinal 1001 bandwidth nCh spf48 (hybridFrame buf maxData (hybridCfg nCh ms10) pk gate 0 0 fr.ops [] 0).payload o =
        .ok (hybridFrame buf maxData (hybridCfg nCh ms10) pk gate 0 0 fr.ops [] 0).rangeFinal ∧
      -- the frame is not split
      o.celtToSilk = 0 ∧ o.redundancyBytes = 0 ∧
      o.len = ((encodeAll buf (maxData - 1) (hybridOps maxData (hybridCfg nCh ms10) pk gate 0 0 0 fr.ops)).storage : Int) ∧
      o.dec.storage = (encodeAll buf (maxData - 1) (hybridOps maxData (hybridCfg nCh ms10) pk gate 0 0 0 fr.ops)).storage := by
  obtain ⟨w, dh, sA, ⟨-, -, -, hwlen, hpay, -, -, -, -, -, -, hcf, hfin⟩, t2⟩ :=
    hybrid_main_part_roundtrip buf maxData nCh ms10 pk gate 0 0 [] 0 ccfg s0 fr hs hb hok (fun h => absurd rfl h) hsuf hn29 herr
      hcelt.toG
  rw [List.append_nil] at hpay
  -- the SILK part and the parse, on the patched model
  obtain ⟨o, ⟨o1, o2, o3, o4, o5, o6, _, _, _, o10, o11⟩, odec⟩ := hybrid_frame_lockstep buf maxData bandwidth nCh ms10 spf48 pk st
    gate 0 0 fr.ops [] 0 hms hs hb hok (by decide) (by decide) (by intro b hb; cases hb)
    (fun h => absurd rfl h) (fun _ => rfl) hsuf
    (Nat.lt_trans hn29 (by decide))
    herr (by simpa using hgate)
    (by
      have h1 := hcelt.room
      rw [t2] at h1
      have h8 : ∀ n : Nat, ((n * 8 : Nat) : Int) = 8 * (n : Int) := fun n => by omega
      rw [h8] at h1
      exact Int.le_of_lt h1)
    hmainpos
  refine ⟨o, o1, by rw [o2]; simp, o6, ?_, by rw [o3]; simp, o4, o5, o10⟩
  -- the decoder state at the hand-over is the one C17's round trip starts from
  have hfo : bitsOps (bitsWord (headerBits (hybridCfg nCh ms10) pk) 0) (((hybridCfg nCh ms10).nfpp + 1) * (hybridCfg nCh ms10).nCh) =
      flagOps (headerBits (hybridCfg nCh ms10) pk) := by
    rw [← headerBits_length hok]; exact bitsOps_word _ (headerBits_bits hok)
  have hd : o.dec = (decRun (decInit w.bytes w.len) (hybridP0G maxData (hybridCfg nCh ms10) pk gate 0 0 ([] : Bytes).length)).2 := by
    have e : hybridP0G maxData (hybridCfg nCh ms10) pk gate 0 0 ([] : Bytes).length =
        (flagOps (headerBits (hybridCfg nCh ms10) pk) ++ packetBody (hybridCfg nCh ms10) pk ++
          redSigOps true gate 0 0 ([] : Bytes).length) ++ [Op.shrink (maxData - 1 - ([] : Bytes).length)] := by
      unfold hybridP0G; rw [hfo]; simp only [List.append_assoc]
    rw [odec (fun h => h.2 rfl), hpay, w.bytes_ok.1, ← after_eq, e, after_append _ [Op.shrink _]]
    rfl
  apply o11
  · have hlen' : o.len.toNat = w.len := by rw [o5, ← hwlen]; exact Int.toNat_natCast _
    have hcfgD : ({ start := 17, end_ := Opus.CeltSyms.endBandOf bandwidth, C := nCh, LM := Opus.CeltSyms.lmOf spf48 } :
        Opus.CeltSyms.CeltCfg) = cfgD ccfg := by
      obtain ⟨h1, h2, h3, h4⟩ := hcc
      rw [← h1, ← h2, ← h3, ← h4]
    rw [hlen', hd, hcfgD]
    exact ⟨_, hcf, hfin⟩
  · intro h; exact absurd rfl h.2
  · intro _; rfl

end Opus.OpusFrameProofs
