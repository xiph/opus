import OpusProofs.SilkSymsBasic
/-
  C03 table obligations, for the frozen tables of OpusModel/SilkSymsFrozen.lean (their equality with the tables
  regenerated from /repo is `frozenEqAll_true`): each slice the SILK symbol-layer model hands to `ec_dec_icdf` is a
  well-formed 8-bit ICDF whose first zero sits exactly at (number of symbols − 1).  Stated twice: as one Boolean over
  the list `usedSlices` (the check the documents name), and slice by slice (`sl_*`), which is what the walk through
  the decoder uses — the lemma about a function that calls `sym` must produce the fact for the table of that call
  (`ReadInv.sym`), so it is the `sl_*` facts that are tied to the model.  All by kernel evaluation.
-/
namespace Opus.SilkSymsProofs
open Opus Opus.SilkSyms Opus.SilkSymsFrozen.Icdf

/-- The ICDF slices that occur as arguments of `sym` in OpusModel/SilkSyms.lean (collected by hand: no theorem
    ties the list to the model), each paired with the number of symbols it codes. -/
def usedSlices : List (List Nat × Nat) :=
  [(silk_type_offset_VAD_iCDF, 4), (silk_type_offset_no_VAD_iCDF, 2), (silk_delta_gain_iCDF, 41),
   (silk_uniform3_iCDF, 3), (silk_uniform4_iCDF, 4), (silk_uniform5_iCDF, 5), (silk_uniform6_iCDF, 6),
   (silk_uniform8_iCDF, 8), (silk_NLSF_EXT_iCDF, 7), (silk_NLSF_interpolation_factor_iCDF, 5),
   (silk_pitch_delta_iCDF, 21), (silk_pitch_lag_iCDF, 32), (silk_pitch_contour_iCDF, 34),
   (silk_pitch_contour_NB_iCDF, 11), (silk_pitch_contour_10_ms_iCDF, 12), (silk_pitch_contour_10_ms_NB_iCDF, 3),
   (silk_LTP_per_index_iCDF, 3), (silk_LTP_gain_iCDF_0, 8), (silk_LTP_gain_iCDF_1, 16), (silk_LTP_gain_iCDF_2, 32),
   (silk_LTPscale_iCDF, 3), (silk_lsb_iCDF, 2), (silk_stereo_pred_joint_iCDF, 25),
   (silk_stereo_only_code_mid_iCDF, 2), (silk_LBRR_flags_2_iCDF, 3), (silk_LBRR_flags_3_iCDF, 7)] ++
  silk_gain_iCDF.map (fun r => (r, 8)) ++
  silk_rate_levels_iCDF.map (fun r => (r, 9)) ++
  silk_pulses_per_block_iCDF.map (fun r => (r, 18)) ++
  [((silk_pulses_per_block_iCDF.getD 9 []).drop 1, 17)] ++
  [cbNbMb, cbWb].flatMap (fun cb =>
    (List.range 2).map (fun h => (cb.cb1.drop (h * cb.nVectors), cb.nVectors)) ++
    (List.range 8).map (fun k => (cb.ecIcdf.drop (9 * k), 9))) ++
  [silk_shell_code_table0, silk_shell_code_table1, silk_shell_code_table2, silk_shell_code_table3].flatMap (fun t =>
    (List.range 16).map (fun q => (t.drop (silk_shell_code_table_offsets.getD (q + 1) 0), q + 2))) ++
  silk_sign_iCDF.map (fun x => ([x, 0], 2))

def slicesOk : Bool := usedSlices.all (fun p => icdfSliceOk p.1 && zeroPos p.1 + 1 == p.2)

theorem slicesOk_true : slicesOk = true := by decide +kernel

theorem constsOk_true : constsOk = true := by decide +kernel

theorem sl_typeVAD : Slice silk_type_offset_VAD_iCDF 4 := by decide +kernel
theorem sl_typeNoVAD : Slice silk_type_offset_no_VAD_iCDF 2 := by decide +kernel
theorem sl_deltaGain : Slice silk_delta_gain_iCDF 41 := by decide +kernel
theorem sl_uniform3 : Slice silk_uniform3_iCDF 3 := by decide +kernel
theorem sl_uniform4 : Slice silk_uniform4_iCDF 4 := by decide +kernel
theorem sl_uniform5 : Slice silk_uniform5_iCDF 5 := by decide +kernel
theorem sl_uniform8 : Slice silk_uniform8_iCDF 8 := by decide +kernel
theorem sl_nlsfExt : Slice silk_NLSF_EXT_iCDF 7 := by decide +kernel
theorem sl_interp : Slice silk_NLSF_interpolation_factor_iCDF 5 := by decide +kernel
theorem sl_pitchDelta : Slice silk_pitch_delta_iCDF 21 := by decide +kernel
theorem sl_pitchLag : Slice silk_pitch_lag_iCDF 32 := by decide +kernel
theorem sl_perIndex : Slice silk_LTP_per_index_iCDF 3 := by decide +kernel
theorem sl_ltpScale : Slice silk_LTPscale_iCDF 3 := by decide +kernel
theorem sl_lsb : Slice silk_lsb_iCDF 2 := by decide +kernel
theorem sl_stereoJoint : Slice silk_stereo_pred_joint_iCDF 25 := by decide +kernel
theorem sl_stereoMid : Slice silk_stereo_only_code_mid_iCDF 2 := by decide +kernel
theorem sl_gain : ∀ s, s < 3 → Slice (silk_gain_iCDF.getD s []) 8 := by decide +kernel
theorem sl_rateLevels : ∀ h, h < 2 → Slice (silk_rate_levels_iCDF.getD h []) 9 := by decide +kernel
theorem sl_ppb : ∀ rl, rl < 10 → Slice (silk_pulses_per_block_iCDF.getD rl []) 18 := by decide +kernel
theorem sl_ppb9shift : Slice ((silk_pulses_per_block_iCDF.getD 9 []).drop 1) 17 := by decide +kernel
theorem sl_ltpGain : ∀ p, p < 3 →
    Slice ([silk_LTP_gain_iCDF_0, silk_LTP_gain_iCDF_1, silk_LTP_gain_iCDF_2].getD p []) (8 * 2 ^ p) := by decide +kernel
theorem sl_lbrrFlags : ∀ n, n < 4 → 2 ≤ n →
    Slice ([silk_LBRR_flags_2_iCDF, silk_LBRR_flags_3_iCDF].getD (n - 2) []) (2 ^ n - 1) := by decide +kernel
theorem sl_cb1 : ∀ rate : Rate, ∀ h, h < 2 → Slice ((nlsfCB rate).cb1.drop (h * (nlsfCB rate).nVectors)) 32 := by
  intro rate; cases rate <;> decide +kernel
theorem sl_ecIcdf : ∀ rate : Rate, ∀ k, k < 8 → Slice ((nlsfCB rate).ecIcdf.drop (9 * k)) 9 := by
  intro rate; cases rate <;> decide +kernel
theorem sl_pitchLow (rate : Rate) : Slice (pitchLagLowBits rate) (rate.kHz / 2) := by
  cases rate <;> decide +kernel
/-- A shell table: its slice for `p` pulses codes exactly the symbols `0..p`. -/
def ShellTbl (tbl : List Nat) : Prop :=
  ∀ p, p < 17 → 1 ≤ p → Slice (tbl.drop (silk_shell_code_table_offsets.getD p 0)) (p + 1)


theorem sl_shell0 : ShellTbl silk_shell_code_table0 := by unfold ShellTbl; decide +kernel
theorem sl_shell1 : ShellTbl silk_shell_code_table1 := by unfold ShellTbl; decide +kernel
theorem sl_shell2 : ShellTbl silk_shell_code_table2 := by unfold ShellTbl; decide +kernel
theorem sl_shell3 : ShellTbl silk_shell_code_table3 := by unfold ShellTbl; decide +kernel
theorem sl_sign : ∀ i, i < 42 → Slice [silk_sign_iCDF.getD i 0, 0] 2 := by decide +kernel

theorem sliceOk_lbrr : ∀ n, n ≤ 3 →
    icdfSliceOk ([silk_LBRR_flags_2_iCDF, silk_LBRR_flags_3_iCDF].getD (n - 2) []) = true := by decide +kernel

/-- The four contour tables and their numbers of symbols (encode_indices.c:150-153, `contourSyms` of the encoder model). -/
theorem sl_contour (rate : Rate) (nb : Nat) :
    Slice (pitchContour rate nb) (if rate = .nb then (if nb = 4 then 11 else 3) else (if nb = 4 then 34 else 12)) := by
  unfold pitchContour
  cases rate <;> by_cases h : nb = 4 <;> simp [h] <;> decide +kernel

theorem sliceOk_contour (rate : Rate) (nb : Nat) : icdfSliceOk (pitchContour rate nb) = true := (sl_contour rate nb).1

theorem cb_geometry (rate : Rate) :
    (nlsfCB rate).nVectors = 32 ∧ ((nlsfCB rate).order = 10 ∨ (nlsfCB rate).order = 16) ∧
    (nlsfCB rate).ecSel.length = 32 * ((nlsfCB rate).order / 2) ∧
    (nlsfCB rate).cb1.length = 64 ∧ (nlsfCB rate).ecIcdf.length = 72 := by
  cases rate <;> decide +kernel

/-- `ec_ix[]` entries are `9*k`, `k < 8`, whatever byte `ec_sel` holds. -/
theorem nlsfUnpackEcIx_mem (cb : NlsfCB) (i : Nat) : ∀ e ∈ nlsfUnpackEcIx cb i, ∃ k, k < 8 ∧ e = 9 * k := by
  intro e he
  unfold nlsfUnpackEcIx at he
  simp only [List.mem_flatMap, List.mem_range, List.mem_cons, List.mem_nil_iff, or_false] at he
  obtain ⟨j, _, h⟩ := he
  rcases h with h | h
  · exact ⟨cb.ecSel.getD (i * cb.order / 2 + j) 0 / 2 % 8, Nat.mod_lt _ (by omega), by omega⟩
  · exact ⟨cb.ecSel.getD (i * cb.order / 2 + j) 0 / 32 % 8, Nat.mod_lt _ (by omega), by omega⟩

theorem flatMap_pair_length {α} (f g : Nat → α) : ∀ (l : List Nat), (l.flatMap fun j => [f j, g j]).length = 2 * l.length
  | [] => rfl
  | _ :: t => by simp [List.flatMap_cons, flatMap_pair_length f g t]; omega

theorem nlsfUnpackEcIx_length (cb : NlsfCB) (i : Nat) : (nlsfUnpackEcIx cb i).length = 2 * (cb.order / 2) := by
  unfold nlsfUnpackEcIx
  rw [flatMap_pair_length]; simp

/-- Both codebooks have an even order, so `silk_NLSF_unpack` fills all `order` entries of `ec_ix[]`. -/
theorem ecIx_length (rate : Rate) (n0 : Nat) : (nlsfUnpackEcIx (nlsfCB rate) n0).length = (nlsfCB rate).order := by
  rw [nlsfUnpackEcIx_length]
  rcases (cb_geometry rate).2.1 with h | h <;> rw [h]

theorem signTable_len : silk_sign_iCDF.length = 42 := by decide

/-! Facts about the frozen tables that no proof uses, kept for whoever indexes these tables next: zero positions
    beyond what `Slice` is needed for, and the lengths of two arrays that decoded indices address. -/

theorem zp_uniform6 : zeroPos silk_uniform6_iCDF = 5 := by decide
theorem zp_lbrrFlags : ∀ n, n < 4 → 2 ≤ n →
    zeroPos ([silk_LBRR_flags_2_iCDF, silk_LBRR_flags_3_iCDF].getD (n - 2) []) + 2 = 2 ^ n := by decide
theorem zp_contour (rate : Rate) (nb : Nat) : zeroPos (pitchContour rate nb) ≤ 33 := by
  have h := (sl_contour rate nb).2
  split at h <;> split at h <;> omega
theorem stereoQuant_len : SilkSymsFrozen.Consts.silk_stereo_pred_quant_Q13.length = 16 := by decide
theorem shellOffsets_len : silk_shell_code_table_offsets.length = 17 := by decide

end Opus.SilkSymsProofs
