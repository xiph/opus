import OpusModel.SilkStereoEnc
import OpusProofs.SilkParamsFix
/-
  OpusProofs.SilkStereoEnc — the pair handed to silk_stereo_quant_pred is bounded whatever the signals, the state and
  the arguments: silk_stereo_find_predictor ends with silk_LIMIT( pred_Q13, -(1 << 14), 1 << 14 ), the branches of
  silk_stereo_LR_to_MS hand over 0, that value, or silk_RSHIFT( silk_SMULBB( smth_width_Q14, pred_Q13 ), 14 ).
  Second part: the smoothed stereo width stays in [0, 2^14] (stereo_LR_to_MS.c:131) for speech activities in [0, 255],
  so the pair stays in [-2^14, 2^14].
-/
namespace OpusProofs.SilkStereoEnc
open Opus Opus.SilkParams Opus.SilkStereo

theorem findPredictor_pred (a b c d e f g h : Int) :
    -16384 ≤ (findPredictor a b c d e f g h).pred ∧ (findPredictor a b c d e f g h).pred ≤ 16384 := by
  unfold findPredictor
  exact limit_range _ (-16384) 16384 (by decide)

/-- The width scaling of a limited predictor by a width whose `opus_int16` value is within `±W` stays within `±W`:
    `W = 2^15` for any width, `W = 2^14` for a smoothed width in its nominal range `[0, 2^14]`. -/
theorem scalePred_le {W smth p : Int} (hw : -W ≤ wrap16 smth ∧ wrap16 smth ≤ W) (hp : -16384 ≤ p ∧ p ≤ 16384) :
    -W ≤ scalePred smth p ∧ scalePred smth p ≤ W := by
  unfold scalePred smulbb shrI
  rw [wrap16_id (x := p) (by unfold I16; omega), show (2 : Int) ^ 14 = 16384 by decide]
  have hm := mul_abs_le hw hp
  omega

/-- The five branches of `silk_stereo_LR_to_MS` hand over `(0, 0)`, the predictors themselves, or the predictors scaled
    by the smoothed width; none of them touches the width state. -/
theorem lrSelect_cases (x : LrIn) (smth total minMid frac r0 r1 p0 p1 : Int) :
    let o := lrSelect x smth total minMid frac r0 r1 p0 p1
    o.smth = smth ∧ ((o.q0 = 0 ∧ o.q1 = 0) ∨ (o.q0 = p0 ∧ o.q1 = p1) ∨
      (o.q0 = scalePred smth p0 ∧ o.q1 = scalePred smth p1)) := by
  unfold lrSelect
  split
  · exact ⟨rfl, .inl ⟨rfl, rfl⟩⟩
  · split
    · exact ⟨rfl, .inr (.inr ⟨rfl, rfl⟩)⟩
    · split
      · exact ⟨rfl, .inr (.inr ⟨rfl, rfl⟩)⟩
      · split
        · exact ⟨rfl, .inr (.inl ⟨rfl, rfl⟩)⟩
        · exact ⟨rfl, .inr (.inr ⟨rfl, rfl⟩)⟩

/-- Every branch of `silk_stereo_LR_to_MS` hands a pair within `±W` to `silk_stereo_quant_pred`, for any `W ≥ 2^14` that
    bounds the width. -/
theorem lrSelect_le {W : Int} (x : LrIn) (smth total minMid frac r0 r1 p0 p1 : Int) (hW : 16384 ≤ W)
    (hw : -W ≤ wrap16 smth ∧ wrap16 smth ≤ W) (h0 : -16384 ≤ p0 ∧ p0 ≤ 16384) (h1 : -16384 ≤ p1 ∧ p1 ≤ 16384) :
    (-W ≤ (lrSelect x smth total minMid frac r0 r1 p0 p1).q0 ∧ (lrSelect x smth total minMid frac r0 r1 p0 p1).q0 ≤ W) ∧
    (-W ≤ (lrSelect x smth total minMid frac r0 r1 p0 p1).q1 ∧ (lrSelect x smth total minMid frac r0 r1 p0 p1).q1 ≤ W) := by
  have b0 := scalePred_le hw h0
  have b1 := scalePred_le hw h1
  rcases (lrSelect_cases x smth total minMid frac r0 r1 p0 p1).2 with ⟨e0, e1⟩ | ⟨e0, e1⟩ | ⟨e0, e1⟩ <;>
    rw [e0, e1] <;> omega

theorem lrPreds_bounds (x : LrIn) (p0 l0 p1 l1 : Int) (h0 : -16384 ≤ p0 ∧ p0 ≤ 16384) (h1 : -16384 ≤ p1 ∧ p1 ≤ 16384) :
    (-32768 ≤ (lrPreds x p0 l0 p1 l1).q0 ∧ (lrPreds x p0 l0 p1 l1).q0 ≤ 32768) ∧
    (-32768 ≤ (lrPreds x p0 l0 p1 l1).q1 ∧ (lrPreds x p0 l0 p1 l1).q1 ≤ 32768) := by
  have hw : ∀ s : Int, -32768 ≤ wrap16 s ∧ wrap16 s ≤ 32768 := fun s => by
    have := wrap16_I16 s; unfold I16 at this; omega
  unfold lrPreds
  exact lrSelect_le x _ _ _ _ _ _ p0 p1 (by decide) (hw _) h0 h1

theorem lrToMs_bounds (x : LrIn) (lp hp : FindIn) :
    (-32768 ≤ (lrToMs x lp hp).q0 ∧ (lrToMs x lp hp).q0 ≤ 32768) ∧
    (-32768 ≤ (lrToMs x lp hp).q1 ∧ (lrToMs x lp hp).q1 ≤ 32768) := by
  unfold lrToMs
  exact lrPreds_bounds x _ _ _ _ (findPredictor_pred ..) (findPredictor_pred ..)

end OpusProofs.SilkStereoEnc

namespace OpusProofs.SilkStereoEncInv
open Opus Opus.SilkParams Opus.SilkStereo OpusProofs.SilkStereoEnc

/-- One smoother step towards a target in `[0, 2^14]` with a coefficient in `[0, 32767]` stays in `[0, 2^14]`. -/
theorem smooth_step {smth width c : Int} (hs : 0 ≤ smth ∧ smth ≤ 16384) (hw : 0 ≤ width ∧ width ≤ 16384)
    (hc : 0 ≤ c ∧ c ≤ 32767) :
    0 ≤ wrap16 (smlawb smth (width - smth) c) ∧ wrap16 (smlawb smth (width - smth) c) ≤ 16384 := by
  -- `(width - smth) * c >> 16` lies between 0 and `width - smth`: the state moves towards the target, not past it
  have hb := mulshift16_between c (width - smth) hc.1 (by omega)
  rw [Int.mul_comm] at hb
  rw [smlawb_eq (by unfold I16; omega) (by unfold I32; omega), wrap16_id (by unfold I16; omega)]
  omega

/-- `smooth_coef_Q16` is in `[0, 649]` for `prev_speech_act_Q8` in `[0, 255]`. -/
theorem coef_bounds (is10 : Bool) {act : Int} (h : 0 ≤ act ∧ act ≤ 255) :
    0 ≤ lrSmoothCoef is10 act ∧ lrSmoothCoef is10 act ≤ 649 := by
  unfold lrSmoothCoef smulwb smulbb
  rw [wrap16_id (x := act) (by unfold I16; omega)]
  have h1 : 0 ≤ act * act := Int.mul_nonneg h.1 h.1
  have h2 : act * act ≤ act * 255 := Int.mul_le_mul_of_nonneg_left h.2 h.1
  cases is10 <;>
    simp only [Gen.SilkStereoTabs.ratioSmoothCoefQ16, Gen.SilkStereoTabs.ratioSmoothCoefHalfQ16, if_true, if_false,
      Bool.false_eq_true] <;>
    (rw [wrap16_id (by unfold I16; omega), wrap32_id (by unfold I32; omega)]; omega)

theorem lrRateWidth_width (a b c : Int) : 0 ≤ (lrRateWidth a b c).2.2 ∧ (lrRateWidth a b c).2.2 ≤ 16384 := by
  unfold lrRateWidth
  simp only []
  split
  · exact limit_range _ 0 16384 (by decide)
  · simp

/-- Invariant of `state->smth_width_Q14` and the nominal bound of the pair: with the width state in `[0, 2^14]` and the
    speech activity in `[0, 255]`, the new width state is in `[0, 2^14]` and the pair in `[-2^14, 2^14]`. -/
theorem lrPreds_nominal (x : LrIn) (p0 l0 p1 l1 : Int) (hs : 0 ≤ x.smth ∧ x.smth ≤ 16384) (ha : 0 ≤ x.act ∧ x.act ≤ 255)
    (h0 : -16384 ≤ p0 ∧ p0 ≤ 16384) (h1 : -16384 ≤ p1 ∧ p1 ≤ 16384) :
    (0 ≤ (lrPreds x p0 l0 p1 l1).smth ∧ (lrPreds x p0 l0 p1 l1).smth ≤ 16384) ∧
    (-16384 ≤ (lrPreds x p0 l0 p1 l1).q0 ∧ (lrPreds x p0 l0 p1 l1).q0 ≤ 16384) ∧
    (-16384 ≤ (lrPreds x p0 l0 p1 l1).q1 ∧ (lrPreds x p0 l0 p1 l1).q1 ≤ 16384) := by
  have hc := coef_bounds x.is10ms ha
  unfold lrPreds
  simp only []
  generalize hwd : lrRateWidth _ _ _ = rw
  have hw : 0 ≤ rw.2.2 ∧ rw.2.2 ≤ 16384 := by rw [← hwd]; exact lrRateWidth_width _ _ _
  have hsm := smooth_step hs hw ⟨hc.1, by omega⟩
  generalize wrap16 (smlawb x.smth (rw.2.2 - x.smth) (lrSmoothCoef x.is10ms x.act)) = S at hsm ⊢
  have key := fun t m f r0 r1 => lrSelect_le (W := 16384) x S t m f r0 r1 p0 p1 (by decide)
    (by rw [wrap16_id (by unfold I16; omega)]; omega) h0 h1
  refine ⟨?_, (key _ _ _ _ _).1, (key _ _ _ _ _).2⟩
  rw [(lrSelect_cases x S _ _ _ _ _ p0 p1).1]
  exact hsm

end OpusProofs.SilkStereoEncInv
