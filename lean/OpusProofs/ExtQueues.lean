import OpusProofs.ExtScan
/-
  The extensions of an array as per-frame queues (`seg`, `allOf`) and their stable sort by frame (`sortedFrom`).
-/
namespace Opus.ExtProofs
open Opus Opus.Ext

/-- Frame of the last extension of `l` (or `cur`). -/
def lastFrame (cur : Nat) : List Ext → Nat
  | [] => cur
  | e :: l => lastFrame e.frame.toNat l

/-- `extensions[i..hi)` restricted to frame `f`. -/
def seg (exts : Array Ext) (i hi f : Nat) : List Ext :=
  ((exts.toList.drop i).take (hi - i)).filter (fun e => e.frame.toNat = f)

theorem seg_step (exts : Array Ext) (i hi f : Nat) (e : Ext) (hlt : i < hi) (he : exts[i]? = some e) :
    seg exts i hi f = (if e.frame.toNat = f then [e] else []) ++ seg exts (i + 1) hi f := by
  obtain ⟨hi', hget⟩ := Array.getElem?_eq_some_iff.mp he
  rw [← Array.length_toList] at hi'
  rw [← Array.getElem_toList] at hget
  unfold seg
  rw [List.drop_eq_getElem_cons hi', show hi - i = (hi - (i + 1)) + 1 by omega, List.take_succ_cons,
    List.filter_cons, hget]
  by_cases hfe : e.frame.toNat = f <;> simp [hfe]

theorem seg_empty (exts : Array Ext) {i hi : Nat} (f : Nat) (h : hi ≤ i) : seg exts i hi f = [] := by
  unfold seg; have : hi - i = 0 := by omega
  simp [this]

theorem mem_seg {exts : Array Ext} {i hi g : Nat} {e : Ext} (he : e ∈ seg exts i hi g) :
    (∃ j : Nat, i ≤ j ∧ j < hi ∧ exts[j]? = some e) ∧ e.frame.toNat = g := by
  unfold seg at he
  rw [List.mem_filter] at he
  obtain ⟨k, hk⟩ := List.mem_iff_getElem?.mp he.1
  rw [List.getElem?_take] at hk
  split at hk
  · rw [List.getElem?_drop] at hk
    exact ⟨⟨i + k, by omega, by omega, by simpa using hk⟩, by simpa using he.2⟩
  · cases hk

theorem seg_one (exts : Array Ext) {j : Nat} (g : Nat) {x : Ext} (hget : exts[j]? = some x) :
    seg exts j (j + 1) g = if x.frame.toNat = g then [x] else [] := by
  rw [seg_step exts j (j + 1) g x (by omega) hget, seg_empty exts g (Nat.le_refl _), List.append_nil]

theorem seg_split (exts : Array Ext) {i j hi : Nat} (f : Nat) (h1 : i ≤ j) (h2 : j ≤ hi) :
    seg exts i hi f = seg exts i j f ++ seg exts j hi f := by
  unfold seg
  rw [show hi - i = (j - i) + (hi - j) by omega, List.take_add, List.filter_append, List.drop_drop,
    show i + (j - i) = j by omega]

theorem seg_split_at {exts : Array Ext} {lo j hi g : Nat} {e : Ext} (h1 : lo ≤ j) (h2 : j < hi) (he : exts[j]? = some e)
    (hf : e.frame.toNat = g) : seg exts lo hi g = seg exts lo j g ++ e :: seg exts (j + 1) hi g := by
  rw [seg_split exts g h1 (by omega : j ≤ hi), seg_step exts j hi g e h2 he]
  simp [hf]

/-- Two indices of frame `g` with the same number of frame-`g` extensions before them are equal. -/
theorem seg_pos_inj {exts : Array Ext} {lo j1 j2 g : Nat} {e1 e2 : Ext} (h1 : lo ≤ j1) (h2 : lo ≤ j2)
    (he1 : exts[j1]? = some e1) (he2 : exts[j2]? = some e2) (hf1 : e1.frame.toNat = g) (hf2 : e2.frame.toNat = g)
    (hlen : (seg exts lo j1 g).length = (seg exts lo j2 g).length) : j1 = j2 := by
  apply Decidable.byContradiction; intro hne
  rcases Nat.lt_or_gt_of_ne hne with h | h
  · have := seg_split_at (hi := j2) h1 h he1 hf1
    rw [this] at hlen; simp at hlen
  · have := seg_split_at (hi := j1) h2 h he2 hf2
    rw [this] at hlen; simp at hlen

/-- All extensions of frame `g`, in array order. -/
def allOf (exts : Array Ext) (g : Nat) : List Ext := exts.toList.filter (fun e => e.frame.toNat = g)

/-- Frames `f, f+1, …, nbF-1` one after the other: the stable sort by frame (from frame `f` on). -/
def sortedFrom (exts : Array Ext) (nbF f : Nat) : List Ext := (List.range' f (nbF - f)).flatMap (allOf exts)

theorem sortedFrom_succ (exts : Array Ext) {nbF f : Nat} (h : f < nbF) :
    sortedFrom exts nbF f = allOf exts f ++ sortedFrom exts nbF (f + 1) := by
  unfold sortedFrom
  rw [show nbF - f = (nbF - (f + 1)) + 1 by omega, List.range'_succ, List.flatMap_cons]

/-- After the whole array was scanned `[frame_min_idx[f], frame_max_idx[f])` holds all extensions of frame `f`. -/
theorem seg_all {exts : Array Ext} {f lo hi : Nat} (h : FrameIdx exts exts.size f lo hi) : seg exts lo hi f = allOf exts f := by
  have hnil : ∀ a b, (∀ j, a ≤ j → j < b → ¬ (lo ≤ j ∧ j < hi)) → seg exts a b f = [] := fun a b hab => by
    rw [List.eq_nil_iff_forall_not_mem]
    intro e he
    obtain ⟨⟨j, h1, h2, hj⟩, hf⟩ := mem_seg he
    exact hab j h1 h2 (h.cover j e (Array.getElem?_eq_some_iff.mp hj).1 hj hf)
  have hmx := h.mxle
  have hall : allOf exts f = seg exts 0 exts.size f := by
    unfold allOf seg; rw [List.drop_zero, Nat.sub_zero, ← Array.length_toList, List.take_length]
  by_cases hlt : lo ≤ hi
  · rw [hall, seg_split exts f (Nat.zero_le lo) (by omega), seg_split exts f hlt hmx, hnil 0 lo (fun j _ _ => by omega),
      hnil hi _ (fun j _ _ => by omega), List.nil_append, List.append_nil]
  · rw [hall, hnil lo hi (fun j _ _ => by omega), hnil 0 _ (fun j _ _ => by omega)]

/-- Every array entry is a valid extension for `nbF` frames. -/
def AllValid (exts : Array Ext) (nbF : Nat) : Prop := ∀ (j : Nat) (e : Ext), exts[j]? = some e → ValidExt nbF e

theorem allOf_eq_nil_of_ge {exts : Array Ext} {nbF g : Nat} (hv : AllValid exts nbF) (hg : nbF ≤ g) : allOf exts g = [] := by
  unfold allOf
  rw [List.filter_eq_nil_iff]
  intro e he
  obtain ⟨j, hj⟩ := Array.mem_iff_getElem?.mp (Array.mem_toList_iff.mp he)
  have hve := hv j e hj
  have := hve.fr_lo; have := hve.fr_hi
  simp; omega

theorem sortedFrom_zero (exts : Array Ext) (nbF : Nat) : sortedFrom exts nbF 0 = (List.range nbF).flatMap (allOf exts) := by
  rw [sortedFrom, Nat.sub_zero, ← List.range_eq_range']

theorem sortedFrom_lengthIF (exts : Array Ext) (nbF : Nat) (hv : AllIF exts nbF) : (sortedFrom exts nbF 0).length = exts.size := by
  have : ∀ m, ((List.range m).flatMap (allOf exts)).length = (exts.toList.filter (fun e => e.frame.toNat < m)).length := by
    intro m
    induction m with
    | zero => rw [List.filter_eq_nil_iff.mpr (by simp)]; rfl
    | succ m ih =>
      rw [List.range_succ, List.flatMap_append, List.length_append, ih, List.flatMap_singleton]
      exact (length_filter_lt_succ (fun e : Ext => e.frame.toNat) _ m).symm
  rw [sortedFrom_zero, this, List.filter_eq_self.mpr, Array.length_toList]
  intro a ha
  obtain ⟨j, hj⟩ := Array.mem_iff_getElem?.mp (Array.mem_toList_iff.mp ha)
  have := (hv j a hj).fr_lo; have := (hv j a hj).fr_hi
  rw [decide_eq_true_eq]; omega

theorem sortedFrom_length (exts : Array Ext) (nbF : Nat) (hv : AllValid exts nbF) :
    (sortedFrom exts nbF 0).length = exts.size :=
  sortedFrom_lengthIF exts nbF (fun j e h => (hv j e h).toIF)

theorem mem_sortedFrom {exts : Array Ext} {nbF f : Nat} {e : Ext} (h : e ∈ sortedFrom exts nbF f) :
    e ∈ exts.toList ∧ f ≤ e.frame.toNat := by
  unfold sortedFrom at h
  rw [List.mem_flatMap] at h
  obtain ⟨g, hg, he⟩ := h
  unfold allOf at he
  rw [List.mem_filter] at he
  rw [List.mem_range'_1] at hg
  refine ⟨he.1, ?_⟩
  have := he.2; simp at this; omega

theorem frameSorted_append {cur : Nat} {a b : List Ext} (ha : FrameSorted cur a) (hb : FrameSorted (lastFrame cur a) b) :
    FrameSorted cur (a ++ b) := by
  induction a generalizing cur with
  | nil => exact hb
  | cons e a ih => exact ⟨ha.1, ih ha.2 hb⟩

theorem frameSorted_const {cur f : Nat} {l : List Ext} (hc : cur ≤ f) (h : ∀ e ∈ l, e.frame.toNat = f) :
    FrameSorted cur l ∧ lastFrame cur l ≤ f := by
  induction l generalizing cur with
  | nil => exact ⟨trivial, hc⟩
  | cons e l ih =>
    have he := h e (List.mem_cons_self ..)
    have := ih (cur := e.frame.toNat) (by omega) (fun x hx => h x (List.mem_cons_of_mem _ hx))
    exact ⟨⟨by omega, this.1⟩, this.2⟩

theorem frameSorted_sortedFrom (exts : Array Ext) (nbF : Nat) : ∀ k f cur, f + k = nbF → cur ≤ f →
    FrameSorted cur (sortedFrom exts nbF f) := by
  intro k
  induction k with
  | zero =>
    intro f cur hf _
    have : nbF - f = 0 := by omega
    simp [sortedFrom, this, FrameSorted]
  | succ k ih =>
    intro f cur hf hc
    rw [sortedFrom_succ exts (by omega)]
    have hall : ∀ e ∈ allOf exts f, e.frame.toNat = f := by
      intro e he; unfold allOf at he; rw [List.mem_filter] at he; simpa using he.2
    obtain ⟨h1, h2⟩ := frameSorted_const hc hall
    exact frameSorted_append h1 (ih (f + 1) _ (by omega) (by omega))

theorem allValid_extsOk {exts : Array Ext} {nbF : Nat} (hv : AllValid exts nbF) : ExtsOk exts :=
  fun i e h => (hv i e h).data

theorem validExt_iff (nbF : Nat) (e : Ext) : ValidExt nbF e ↔
    (3 ≤ e.id ∧ e.id ≤ 127 ∧ 0 ≤ e.frame ∧ e.frame < nbF ∧ 0 ≤ e.len ∧ (e.id < 32 → e.len ≤ 1) ∧ e.len ≤ e.data.length) :=
  ⟨fun h => ⟨h.id_lo, h.id_hi, h.fr_lo, h.fr_hi, h.len_lo, h.short, h.data⟩,
   fun ⟨a, b, c, d, e', f, g⟩ => ⟨a, b, c, d, e', f, g⟩⟩

instance (nbF : Nat) (e : Ext) : Decidable (ValidExt nbF e) := decidable_of_iff _ (validExt_iff nbF e).symm

theorem allValid_of_all (exts : Array Ext) (nbF : Nat) (h : ∀ e ∈ exts.toList, ValidExt nbF e) : AllValid exts nbF :=
  fun _ e hi => h e (Array.mem_toList_iff.mpr (Array.mem_of_getElem? hi))

end Opus.ExtProofs
