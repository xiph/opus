import OpusProofs.DecSkelMs
import OpusProofs.Layout
import OpusModel.DecSkel.Ms
/-
  OpusProofs.DecSkelMsFull — the multistream decoder with the REAL per-stream calls (`msDecodeFull`): the composition of
  `decodeNative_spec` (single-stream skeleton), the C06 parser bounds, the validation pass and C10's routing calls.
  For every DSP oracle within the contracts (`OracleOk`; no contract on the per-stream calls themselves): documented return
  values, never OPUS_INTERNAL_ERROR, every stream state keeps the decoder invariant, every inner access of every stream lies inside `buf` or the right scratch buffer,
  every copy-out call addresses a channel `< nb_channels` with a sample count `≤ frame_size`.
  At the end the duration clause: when the validation pass (C10's `msPacketValidate`, imported read-only) reports `k` samples,
  `k ≤ frame_size`, no FEC, the call returns exactly `k` and every stream's `last_packet_duration` is `k`.
-/
namespace Opus.DecSkel
open Opus Opus.Framing

/-- One per-stream call under the oracle contracts, on a fresh run of the stream's state. -/
theorem msStream_spec {os : Nat → Oracle} (hos : ∀ s, OracleOk (os s)) (l : Layout.ChannelLayout) (fec : Int) (sc : Bool)
    (cap : Int) (s : Nat) (st : DecState) (hinv : DecInv st) (bs : Bytes) (hb : BytesOk bs) (len fsz : Int)
    (hf : 0 < fsz ∧ fsz ≤ cap) :
    NativeOk st (2 * cap) { st := st, k := 0, log := [] } fsz (nativeRet st (some bs) len fsz fec (decide (s ≠ l.nbStreams - 1)))
      (msStream os l fec sc (2 * cap) s st bs len fsz) :=
  decodeNative_fresh (r := { st := st, k := 0, log := [] }) (hos s) hinv rfl (some bs) (by intro b hb'; cases hb'; exact hb) len
      { buf := .pcm, off := 0, cap := 2 * cap } fsz fec (decide (s ≠ l.nbStreams - 1)) sc rfl
      (by simp only [Int.zero_add]; refine ⟨Int.le_refl 0, ?_⟩; rcases hinv.ch with h | h <;> rw [h] <;> omega)

/-- What the accumulator guarantees so far. -/
structure MsAccOk (l : Layout.ChannelLayout) (Fs cap : Int) (sts : List DecState) (logs : List (List Ev))
    (copies : List Layout.Call) : Prop where
  sts : ∀ st ∈ sts, DecInv st ∧ st.Fs = Fs
  logs : ∀ lg ∈ logs, ∃ st0, DecInv st0 ∧ st0.Fs = Fs ∧ ∀ e ∈ lg, EvGood st0 (2 * cap) e
  copies : ∀ c ∈ copies, c.chan < l.nbChannels ∧ 0 < c.frameSize ∧ c.frameSize ≤ cap

theorem MsAccOk.step {l : Layout.ChannelLayout} {Fs cap : Int} {a : MsAcc} (ha : MsAccOk l Fs cap a.sts a.logs a.copies)
    {x : NativeOut} (hx : DecInv x.run.st ∧ x.run.st.Fs = Fs) {st0 : DecState}
    (hlog : DecInv st0 ∧ st0.Fs = Fs ∧ ∀ e ∈ x.run.log, EvGood st0 (2 * cap) e) {nc : List Layout.Call}
    (hnc : ∀ c ∈ nc, c.chan < l.nbChannels ∧ 0 < c.frameSize ∧ c.frameSize ≤ cap) (v : Int) (c : MsCall) :
    MsAccOk l Fs cap (a.step x v c nc).sts (a.step x v c nc).logs (a.step x v c nc).copies :=
  ⟨fun y hy => (List.mem_append.1 hy).elim (ha.sts y) fun h => by rw [List.mem_singleton.1 h]; exact hx,
   fun y hy => (List.mem_append.1 hy).elim (ha.logs y) fun h => by rw [List.mem_singleton.1 h]; exact ⟨st0, hlog⟩,
   fun y hy => (List.mem_append.1 hy).elim (ha.copies y) (hnc y)⟩

theorem MsAccOk.out {l : Layout.ChannelLayout} {Fs cap : Int} {a : MsAcc} (ha : MsAccOk l Fs cap a.sts a.logs a.copies)
    {rest : List DecState} (hrest : ∀ st ∈ rest, DecInv st ∧ st.Fs = Fs) (r : Out Int) :
    MsAccOk l Fs cap (a.out r rest).sts (a.out r rest).logs (a.out r rest).copies :=
  ⟨fun y hy => (List.mem_append.1 hy).elim (ha.sts y) (hrest y), ha.logs, ha.copies⟩

theorem MsAccOk.nil (l : Layout.ChannelLayout) (Fs cap : Int) : MsAccOk l Fs cap [] [] [] :=
  ⟨fun _ h => absurd h List.not_mem_nil, fun _ h => absurd h List.not_mem_nil, fun _ h => absurd h List.not_mem_nil⟩

section Packets
open Opus.FramingSpec Opus.FramingProofs Opus.LayoutSpec Opus.Layout Opus.MsDecEq

/-- At the head of the stream loop: a lost packet (`len = 0`), or the first `len` bytes are one valid packet for each of the
    `n` streams still to decode. -/
def MsHead (doPlc : Bool) (ps : List Packet) (n : Nat) (bs : Bytes) (len : Int) : Prop :=
  BytesOk bs ∧ len ≤ bs.length ∧
    if doPlc then len = 0 else ps.length = n ∧ (∀ p ∈ ps, Valid p) ∧ bs.take len.toNat = msSerialize ps

/-- The `len ≤ 0` exit (:247-251) is not taken, and a stream that returns `> 0` has stepped over exactly its own
    sub-packet: the next stream is again at a head.  No oracle contract is needed for this. -/
theorem MsHead.next {doPlc : Bool} {ps : List Packet} {n : Nat} {bs : Bytes} {len : Int} (h : MsHead doPlc ps (n + 1) bs len)
    {os : Nat → Oracle} {l : Layout.ChannelLayout} {fec : Int} {sc : Bool} {bufCap : Int} {s : Nat} (hs : s + (n + 1) = l.nbStreams)
    (st : DecState) (fsz : Int) :
    ¬ (¬ doPlc = true ∧ len ≤ 0) ∧ ∀ v, (msStream os l fec sc bufCap s st bs len fsz).ret = .ret v → 0 < v →
      MsHead doPlc ps.tail n (if doPlc then bs else bs.drop (msStream os l fec sc bufCap s st bs len fsz).packetOffset.toNat)
        (if doPlc then len else len - (msStream os l fec sc bufCap s st bs len fsz).packetOffset) := by
  obtain ⟨hb, hlen, hm⟩ := h
  cases doPlc with
  | true => exact ⟨fun c => c.1 rfl, fun _ _ _ => ⟨hb, hlen, hm⟩⟩
  | false =>
    obtain ⟨hl, hval, hbs⟩ := hm
    cases ps with
    | nil => cases hl
    | cons p ps =>
      simp only [List.length_cons, Nat.add_right_cancel_iff] at hl
      have hpos := msSerialize_pos p ps
      rw [← hbs, List.length_take] at hpos
      refine ⟨fun c => by omega, fun v xret hv => ?_⟩
      have hpo : (msStream os l fec sc bufCap s st bs len fsz).packetOffset = ((serialize (decide (ps ≠ [])) p).length : Int) :=
        decodeNative_po _ bs len _ fsz fec _ sc _ (by omega) (view (decide (ps ≠ [])) p)
          (by rw [hbs, sd_of_count (hl ▸ hs)]; exact parse_msSerialize (hval p (by simp)) ps) v xret hv
      have hle : (serialize (decide (ps ≠ [])) p).length ≤ len.toNat := by
        have := congrArg List.length hbs
        rw [msSerialize_cons, List.length_take, List.length_append] at this; omega
      simp only [Bool.false_eq_true, if_false, hpo, Int.toNat_natCast, List.tail_cons]
      refine ⟨bytesOk_drop hb _, by simp only [List.length_drop]; omega, hl,
        fun q hq => hval q (by simp [hq]), ?_⟩
      rw [← msSerialize_drop p ps, ← hbs, List.drop_take]; congr 1; omega

/-- Without FEC, a stream handed a sub-packet of `k ≤ frame_size` samples returns `k`. -/
theorem MsHead.nativeRet {ps : List Packet} {n : Nat} {bs : Bytes} {len : Int} (h : MsHead false ps (n + 1) bs len)
    {s nb : Nat} (hs : s + (n + 1) = nb) {st : DecState} {k : Nat}
    (hk : ∀ p ∈ ps, duration st.Fs.toNat p = k) {fsz : Int} (hkf : (k : Int) ≤ fsz) :
    nativeRet st (some bs) len fsz 0 (decide (s ≠ nb - 1)) = k := by
  obtain ⟨_, _, hl, hval, hbs⟩ := h
  cases ps with
  | nil => cases hl
  | cons p ps =>
    simp only [List.length_cons, Nat.add_right_cancel_iff] at hl
    have hpos := msSerialize_pos p ps
    rw [← hbs, List.length_take] at hpos
    have hd := hk p (by simp)
    unfold duration at hd
    rw [nativeRet_parsed (by omega) (by omega) (by rw [hbs, sd_of_count (hl ▸ hs)]; exact parse_msSerialize (hval p (by simp)) ps),
      if_neg (by simp), hbs, msSerialize_cons, serialize_shape]
    simp only [view, List.cons_append, List.headD_cons, ← Int.natCast_mul, hd]
    rw [if_neg (by omega)]

/-- What a run of the stream loop over `n` streams, started with accumulator `a` and frame size `fsz`, guarantees. -/
structure MsRunOk (l : Layout.ChannelLayout) (Fs cap : Int) (a : MsAcc) (n : Nat) (fsz : Int) (o : MsOut) (v : Int)
    (news : List DecState) : Prop where
  ret : o.ret = .ret v
  retOk : RetOk fsz v
  sts : o.sts = a.sts ++ news
  len : news.length = n
  acc : MsAccOk l Fs cap o.sts o.logs o.copies

/-- **The stream loop with the real per-stream calls**, on a lost packet or on one valid packet per stream: a documented
    result, the invariant for every stream, every access and copy-out call in bounds; and without FEC, on packets of one
    duration `k ≤ frame_size`, every stream returns `k` (so the `frame_size` handed on, :264, stays `k`).  The last premise of
    that clause is for the loop entered with no stream left, which returns `fsz` itself. -/
theorem msFullLoop_run {os : Nat → Oracle} (hos : ∀ s, OracleOk (os s)) (l : Layout.ChannelLayout) (Fs fec : Int) (sc doPlc : Bool)
    (cap : Int) :
    ∀ (sts : List DecState) (ps : List Packet) (s : Nat) (bs : Bytes) (len fsz : Int) (a : MsAcc),
      (∀ st ∈ sts, DecInv st ∧ st.Fs = Fs) → s + sts.length = l.nbStreams →
      (0 < sts.length → MsHead doPlc ps sts.length bs len) → 0 < fsz ∧ fsz ≤ cap → MsAccOk l Fs cap a.sts a.logs a.copies →
      ∃ v news, MsRunOk l Fs cap a sts.length fsz (msFullLoop os l fec sc doPlc (2 * cap) sts s bs len fsz a) v news ∧
        (fec = 0 → doPlc = false → ∀ k : Nat, (∀ p ∈ ps, duration Fs.toNat p = k) → 0 < k → (k : Int) ≤ fsz →
          (sts = [] → fsz = k) → v = k ∧ ∀ st ∈ news, st.last_packet_duration = k) := by
  intro sts
  induction sts with
  | nil =>
    intro ps s bs len fsz a _ _ _ hf ha
    refine ⟨fsz, [], ⟨rfl, .count hf.1 (Int.le_refl _), by simp [msFullLoop, MsAcc.out], rfl, ?_⟩,
      fun _ _ k _ _ _ hnil => ⟨hnil rfl, fun _ h => absurd h List.not_mem_nil⟩⟩
    simp only [msFullLoop, MsAcc.out, List.append_nil]
    refine ⟨ha.sts, ha.logs, fun c hc => (List.mem_append.1 hc).elim (ha.copies c) fun h => ?_⟩
    obtain ⟨h1, h2⟩ := Layout.mem_mutedCalls l fsz c h
    exact ⟨h1, by rw [h2]; exact hf.1, by rw [h2]; exact hf.2⟩
  | cons st rest ih =>
    intro ps s bs len fsz a hsts hs hh hf ha
    obtain ⟨hinv, hFsst⟩ := hsts st (by simp)
    have hrest : ∀ x ∈ rest, DecInv x ∧ x.Fs = Fs := fun x hx => hsts x (by simp [hx])
    replace hh := hh (by simp)
    simp only [List.length_cons] at hs hh ⊢
    obtain ⟨hnie, hnext⟩ := hh.next (os := os) (fec := fec) (sc := sc) (bufCap := 2 * cap) hs st fsz
    have hcall := msStream_spec hos l fec sc cap s st hinv bs hh.1 len fsz hf
    have xok := hcall.rok
    have hdur : fec = 0 → doPlc = false → ∀ k : Nat, (∀ p ∈ ps, duration Fs.toNat p = k) → (k : Int) ≤ fsz →
        nativeRet st (some bs) len fsz fec (decide (s ≠ l.nbStreams - 1)) = k := by
      intro h0 hd k hk hkf
      subst h0 hd
      exact hh.nativeRet hs (hFsst ▸ hk) hkf
    rw [msFullLoop, if_neg hnie]
    simp only [hcall.ret] at hnext ⊢
    generalize nativeRet st (some bs) len fsz fec (decide (s ≠ l.nbStreams - 1)) = v at *
    have hstep := fun nc hnc => ha.step (x := msStream os l fec sc (2 * cap) s st bs len fsz) ⟨hcall.good.inv, hcall.good.fs.trans hFsst⟩
      ⟨hinv, hFsst, hcall.good.log⟩ (nc := nc) hnc v { s := s, len := len, frame_size := fsz, sd := decide (s ≠ l.nbStreams - 1) }
    by_cases hle : v ≤ 0
    · -- this stream fails: it has advanced, the later ones are untouched
      rw [if_pos hle]
      refine ⟨v, (msStream os l fec sc (2 * cap) s st bs len fsz).run.st :: rest,
        ⟨rfl, xok, by simp [MsAcc.out, MsAcc.step], rfl, (hstep [] (fun _ h => absurd h List.not_mem_nil)).out hrest _⟩, ?_⟩
      intro h0 hd k hk hk0 hkf _
      have := hdur h0 hd k hk hkf
      omega
    · rw [if_neg hle]
      have hvpos := xok.pos hle
      obtain ⟨w, news, hrun, hk'⟩ := ih ps.tail (s + 1) _ _ v _ hrest (by omega) (fun _ => hnext v rfl hvpos.1) ⟨hvpos.1, by omega⟩
        (hstep (Layout.streamCalls l s v) fun c hc => by
          obtain ⟨h1, h2⟩ := Layout.mem_streamCalls l s v c hc
          exact ⟨h1, by rw [h2]; exact hvpos.1, by rw [h2]; omega⟩)
      refine ⟨w, (msStream os l fec sc (2 * cap) s st bs len fsz).run.st :: news,
        ⟨hrun.ret, retOk_mono hrun.retOk hvpos.2, by rw [hrun.sts]; simp [MsAcc.step], by simp [hrun.len], hrun.acc⟩, ?_⟩
      intro h0 hd k hk hk0 hkf _
      have hvk := hdur h0 hd k hk hkf
      obtain ⟨e1, e2⟩ := hk' h0 hd k (fun p hp => hk p (List.mem_of_mem_tail hp)) hk0 (by omega) (fun _ => hvk)
      exact ⟨e1, fun x hx => (List.mem_cons.1 hx).elim (fun h => by rw [h, hcall.lpd hvpos.1, hvk]) (e2 x)⟩

/-- Past the early exits the loop starts at a loss, or at one valid packet per stream, each of the validated duration. -/
theorem msExit_head {Fs : Int} (hFs : FsOk Fs) {nb : Nat} {bs : Bytes} {len frame_size : Int} (hb : BytesOk bs)
    (hlen : len ≤ bs.length) (h : msExit Fs nb bs len frame_size = none) :
    ∃ ps : List Packet, (0 < nb → MsHead (decide (len = 0)) ps nb bs len) ∧
      (len ≠ 0 → ∀ p ∈ ps, (duration Fs.toNat p : Int) = msValidate Fs nb true (bs.take len.toNat) 0) := by
  have hE := msExit_spec hFs nb hb len frame_size
  rw [h] at hE
  by_cases h0 : len = 0
  · exact ⟨[], fun _ => ⟨hb, hlen, by rw [decide_eq_true h0]; exact h0⟩, fun h => absurd h0 h⟩
  obtain ⟨ps, h1, h2, h3, h4, _⟩ := (msValidate_packets hFs nb true _ 0 (bytesOk_take hb len.toNat)).resolve_left
    fun h => absurd (h ▸ (hE.2.2 h0).1) (by decide)
  exact ⟨ps, fun hn => ⟨hb, hlen, by rw [decide_eq_false h0]; exact ⟨h1, h2, h3 (by omega)⟩⟩, fun _ => h4⟩

end Packets

/-- `opus_multistream_decode_native` with the real per-stream calls, for any bytes, `len ≤` their number, `frame_size` /
    `decode_fec` / layout: a documented result (never OPUS_INTERNAL_ERROR, no assertion, no hang), all stream states
    keep the invariant, all inner accesses and all copy-out calls are in bounds. -/
theorem msDecodeFull_spec {os : Nat → Oracle} (hos : ∀ s, OracleOk (os s)) (l : Layout.ChannelLayout) (Fs : Int) (hFs : FsOk Fs)
    (sts : List DecState) (hsts : ∀ st ∈ sts, DecInv st ∧ st.Fs = Fs) (hn : sts.length = l.nbStreams) (bs : Bytes)
    (hb : BytesOk bs) (len frame_size fec : Int) (hlen : len ≤ bs.length) (sc : Bool) :
    ∃ v, (msDecodeFull os l Fs sts bs len frame_size fec sc).ret = .ret v ∧ RetOk frame_size v ∧
      (msDecodeFull os l Fs sts bs len frame_size fec sc).sts.length = l.nbStreams ∧
      MsAccOk l Fs (min frame_size (Fs / 25 * 3)) (msDecodeFull os l Fs sts bs len frame_size fec sc).sts
        (msDecodeFull os l Fs sts bs len frame_size fec sc).logs (msDecodeFull os l Fs sts bs len frame_size fec sc).copies := by
  have ha0 := MsAccOk.nil l Fs (min frame_size (Fs / 25 * 3))
  have hE := msExit_spec hFs l.nbStreams hb len frame_size
  rw [msDecodeFull_eq]
  cases h : msExit Fs l.nbStreams bs len frame_size with
  | some e =>
    rw [h] at hE
    exact ⟨e, rfl, by unfold RetOk; simp only [] at hE; omega, by simp [MsAcc.out, hn], MsAccOk.out (a := ⟨[], [], [], [], []⟩) ha0 hsts _⟩
  | none =>
    rw [h] at hE
    have hF : 0 < Fs / 25 * 3 := by unfold FsOk at hFs; omega
    obtain ⟨ps, hh, _⟩ := msExit_head hFs hb hlen h
    obtain ⟨v, news, hrun, _⟩ := msFullLoop_run hos l Fs fec sc (decide (len = 0)) (min frame_size (Fs / 25 * 3)) sts ps 0 bs len
      (min frame_size (Fs / 25 * 3)) ⟨[], [], [], [], []⟩ hsts (by omega) (hn ▸ hh) ⟨by have := hE.1; omega, Int.le_refl _⟩ ha0
    exact ⟨v, hrun.ret, retOk_mono hrun.retOk (by omega), by rw [hrun.sts]; simp [hrun.len, hn], hrun.acc⟩

/-- Index arithmetic of a copy-out call (`dst[i*dst_stride + dst_channel]`, `src[i*src_stride (+1)]`): with a channel
    below `n`, a sample index below the call's `frameSize ≤ F`, everything addressed lies in `[0, F·n)` resp. `[0, 2·F)`. -/
theorem copy_index_bounds (i f F n c : Int) (hi : 0 ≤ i ∧ i < f) (hf : f ≤ F) (hc : 0 ≤ c ∧ c < n) :
    0 ≤ i * n + c ∧ i * n + c < F * n ∧ 0 ≤ 2 * i ∧ 2 * i + 1 < 2 * F := by
  have hn : 0 < n := by omega
  have h1 : (i + 1) * n ≤ F * n := Int.mul_le_mul_of_nonneg_right (by omega) (by omega)
  have h2 : (i + 1) * n = i * n + n := by rw [Int.add_mul]; simp
  have h3 : 0 ≤ i * n := Int.mul_nonneg hi.1 (by omega)
  omega

/-- The per-stream answers `(ret, packet_offset)` of the real run, as an oracle for `msLoop` / `msDecode`. -/
def noOfRun (os : Nat → Oracle) (l : Layout.ChannelLayout) (fec : Int) (sc doPlc : Bool) (bufCap : Int) :
    List DecState → Nat → Bytes → Int → Int → NativeOracle
  | [], _, _, _, _ => fun _ => (0, 0)
  | st :: rest, s, bs, len, fsz =>
    match (msStream os l fec sc bufCap s st bs len fsz).ret with
    | .ret ret => fun i =>
      if i = s then (ret, (msStream os l fec sc bufCap s st bs len fsz).packetOffset)
      else noOfRun os l fec sc doPlc bufCap rest (s + 1)
        (if doPlc then bs else bs.drop (msStream os l fec sc bufCap s st bs len fsz).packetOffset.toNat)
        (if doPlc then len else len - (msStream os l fec sc bufCap s st bs len fsz).packetOffset) ret i
    | _ => fun _ => (0, 0)

/-- The stream loop of the oracle-based skeleton, fed with the answers of the real per-stream calls, returns the same
    value and makes the same calls (stream index, `len`, `frame_size`, self-delimited flag) as the real loop. -/
theorem msFullLoop_refines (os : Nat → Oracle) (l : Layout.ChannelLayout) (fec : Int) (sc doPlc : Bool) (bufCap : Int) :
    ∀ (sts : List DecState) (s : Nat) (bs : Bytes) (len fsz : Int) (a : MsAcc) (no : NativeOracle) (v : Int),
      s + sts.length = l.nbStreams → (∀ i, s ≤ i → no i = noOfRun os l fec sc doPlc bufCap sts s bs len fsz i) →
      (msFullLoop os l fec sc doPlc bufCap sts s bs len fsz a).ret = .ret v →
      msLoop no l.nbStreams doPlc sts.length len fsz a.mscalls =
        (v, (msFullLoop os l fec sc doPlc bufCap sts s bs len fsz a).mscalls) := by
  intro sts
  induction sts with
  | nil =>
    intro s bs len fsz a no v _ _ hret
    cases hret
    rfl
  | cons st rest ih =>
    -- the premise on the real run's result stays in the goal: both sides walk the same tests
    intro s bs len fsz a no v hs hno
    simp only [List.length_cons] at hs ⊢
    rw [msLoop, show l.nbStreams - (rest.length + 1) = s by omega, msFullLoop]
    by_cases hnie : ¬ doPlc = true ∧ len ≤ 0
    · rw [if_pos hnie, if_pos hnie]; rintro ⟨⟩; rfl
    rw [if_neg hnie, if_neg hnie]
    have hnos := hno s (Nat.le_refl _)
    rw [noOfRun] at hnos
    cases hx : (msStream os l fec sc bufCap s st bs len fsz).ret with
    | ret r =>
      simp only [hx, ↓reduceIte] at hnos
      simp only [hnos]
      by_cases hle : r ≤ 0
      · rw [if_pos hle, if_pos hle]; rintro ⟨⟩; rfl
      · rw [if_neg hle, if_neg hle]
        refine ih (s + 1) _ _ r _ no v (by omega) fun i hi => ?_
        have h1 := hno i (by omega)
        rw [noOfRun] at h1
        simp only [hx, show ¬ i = s by omega, ↓reduceIte] at h1
        exact h1
    | abort => rintro ⟨⟩
    | hang => rintro ⟨⟩

section Duration
open Opus.FramingSpec Opus.FramingProofs Opus.LayoutSpec Opus.Layout

/-- **Duration of a multistream decode, in the packet's own terms.**  The first `len` bytes are one valid packet per stream,
    each of `k` samples, `0 < k ≤ frame_size`, no FEC: `opus_multistream_decode_native` returns exactly `k` — never an
    error — and every stream's `last_packet_duration` is `k` afterwards. -/
theorem msDecodeFull_packets {os : Nat → Oracle} (hos : ∀ s, OracleOk (os s)) (l : Layout.ChannelLayout) (Fs : Int) (hFs : FsOk Fs)
    (sts : List DecState) (hsts : ∀ st ∈ sts, DecInv st ∧ st.Fs = Fs) (hn : sts.length = l.nbStreams) (bs : Bytes) (hb : BytesOk bs)
    (len frame_size : Int) (hlen : len ≤ bs.length) (sc : Bool) (ps : List Packet) (hne : ps ≠ []) (hpl : ps.length = l.nbStreams)
    (hpv : ∀ p ∈ ps, Valid p) (hser : bs.take len.toNat = msSerialize ps) (k : Nat) (hdur : ∀ p ∈ ps, duration Fs.toNat p = k)
    (hk : 0 < k ∧ (k : Int) ≤ frame_size) :
    (msDecodeFull os l Fs sts bs len frame_size 0 sc).ret = .ret (k : Int) ∧
    (msDecodeFull os l Fs sts bs len frame_size 0 sc).sts.length = l.nbStreams ∧
    ∀ st ∈ (msDecodeFull os l Fs sts bs len frame_size 0 sc).sts, st.last_packet_duration = (k : Int) := by
  have hge := Layout.msSerialize_length_ge ps hne hpv
  rw [← hser, hpl, List.length_take] at hge
  have hpos : 0 < ps.length := List.length_pos_iff.2 hne
  obtain ⟨p0, hp0⟩ := List.exists_mem_of_ne_nil ps hne
  have hk120 := duration_le hFs (hpv p0 hp0)
  rw [hdur p0 hp0] at hk120
  -- the decoder's own validation pass returns `k`, and no early exit is taken
  have hmine : msValidate Fs l.nbStreams true (bs.take len.toNat) 0 = k := by
    rw [hser, ← hpl]; exact msValidate_msSerialize hFs k ps true 0 hpv hdur (fun h => h.elim (fun h => by cases h) (absurd · hne))
  rw [msDecodeFull_eq, msExit_accept (by omega) (by omega) (by omega) (by rw [hmine]; omega) (by rw [hmine]; omega)]
  have hd : decide (len = 0) = false := decide_eq_false (by omega)
  obtain ⟨v, news, hrun, hk'⟩ := msFullLoop_run hos l Fs 0 sc (decide (len = 0)) (min frame_size (Fs / 25 * 3)) sts ps 0 bs len
    (min frame_size (Fs / 25 * 3)) ⟨[], [], [], [], []⟩ hsts (by omega)
    (fun _ => ⟨hb, hlen, by rw [hd]; exact ⟨hpl.trans hn.symm, hpv, hser⟩⟩) ⟨by omega, Int.le_refl _⟩ (MsAccOk.nil _ _ _)
  obtain ⟨e1, e2⟩ := hk' rfl hd k hdur hk.1 (by omega) (fun h => by rw [h] at hn; simp at hn; omega)
  simp only []
  exact ⟨e1 ▸ hrun.ret, by rw [hrun.sts]; simp [hrun.len, hn], fun st hst => e2 st (by rw [hrun.sts] at hst; simpa using hst)⟩

/-- **Duration of a multistream decode.**  Packet present (`0 < len`), no FEC, the validation pass (C10's
    `msPacketValidate` on the first `len` bytes) reports `k` samples and `0 < k ≤ frame_size`:
    `opus_multistream_decode_native` returns exactly `k` — never an error — and every stream's
    `last_packet_duration` is `k` afterwards. -/
theorem msDecodeFull_duration_spec {os : Nat → Oracle} (hos : ∀ s, OracleOk (os s)) (l : Layout.ChannelLayout) (hl : 1 ≤ l.nbStreams)
    (Fs : Int) (hFs : FsOk Fs) (sts : List DecState) (hsts : ∀ st ∈ sts, DecInv st ∧ st.Fs = Fs) (hn : sts.length = l.nbStreams)
    (bs : Bytes) (hb : BytesOk bs) (len frame_size : Int) (hlen : 0 < len ∧ len ≤ bs.length) (sc : Bool) (k : Nat)
    (hval : Layout.msPacketValidate (bs.take len.toNat) l.nbStreams Fs.toNat = .ok k) (hk : 0 < k ∧ (k : Int) ≤ frame_size) :
    (msDecodeFull os l Fs sts bs len frame_size 0 sc).ret = .ret (k : Int) ∧
    (msDecodeFull os l Fs sts bs len frame_size 0 sc).sts.length = l.nbStreams ∧
    ∀ st ∈ (msDecodeFull os l Fs sts bs len frame_size 0 sc).sts, st.last_packet_duration = (k : Int) := by
  obtain ⟨ps, hpl, hpv, hser, hdur⟩ := msPacketValidate_packets (rate_of_fsOk hFs) (bytesOk_take hb _) hl hval
  exact msDecodeFull_packets hos l Fs hFs sts hsts hn bs hb len frame_size hlen.2 sc ps
    (by intro h; rw [h] at hpl; simp at hpl; omega) hpl hpv hser k hdur hk

end Duration

end Opus.DecSkel
