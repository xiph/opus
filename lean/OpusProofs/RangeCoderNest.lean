import OpusProofs.RangeCoderOps
/-
  OpusProofs.RangeCoderNest — C08: what one successful encoder operation does to the exact interval, as one relation
  (every `step_*` of RangeCoderRun provides it as `StepOk.nest`).
  `Nest k c c'`: the interval of `c'` lies in that of `c`, `k` output digits further on.  That the interval stays in
  a cell of the first bits (`Nest.cell`, RangeCoderPatch), that the bit count is exact (`Nest.acct`, RangeCoderBudget)
  and that containment of a stream travels back (`Nest.contains`) are readings of this one fact.
-/
namespace Opus.RangeCoder

/-- `c'` codes a sub-interval of the interval of `c`, `k` output digits further on; the bit count has grown by the
    `8 * k` bits of those digits and by the raw bits appended.  Last clause: either no digit was output, or the
    low end has no carry pending; `Nest.cell` (RangeCoderPatch) needs it to know that the first digit is final. -/
structure Nest (k : Nat) (c c' : Enc) : Prop where
  encM_eq : encM c' = encM c + k
  lo : encLow c * 256 ^ k ≤ encLow c'
  hi : encLow c' + c'.rng ≤ (encLow c + c.rng) * 256 ^ k
  nbits : c'.nbitsTotal + rawN c = c.nbitsTotal + 8 * k + rawN c'
  dig : (k = 0 ∧ digitsVal c' = digitsVal c) ∨ c'.val < 2147483648

theorem Nest.refl (c : Enc) : Nest 0 c c := ⟨rfl, by simp, by simp, rfl, Or.inl ⟨rfl, rfl⟩⟩

theorem encSub_nest (c : Enc) (r a b : Nat) (first : Bool) (ok : SubOk c.rng r a b) :
    Nest 0 c (encSub c r a b first) := by
  obtain ⟨h1, -, -, h4⟩ := encSub_bounds c r a b first ok
  have eL : encLow (encSub c r a b first) = digitsVal c * 2147483648 + (encSub c r a b first).val := by
    unfold encLow; rw [encSub_digitsVal]
  refine ⟨encSub_encM .., ?_, ?_, ?_, Or.inl ⟨rfl, encSub_digitsVal ..⟩⟩
  · rw [eL]; unfold encLow; omega
  · rw [eL]; unfold encLow; omega
  · unfold rawN; simp

theorem normStep_nest (c : Enc) (pre : EncPre c) (hr : c.rng ≤ 8388608) (hn : c.nbitsTotal < 4294967296)
    (herr : (normStep c).error = 0) : Nest 1 c (normStep c) := by
  obtain ⟨_, _, s2, s3, s4, _, _, _, s8, _, _, s11, s12⟩ := normStep_spec c pre hr hn herr
  refine ⟨s4, by rw [s2]; omega, by rw [s2, s3]; omega, by unfold rawN; rw [s8, s11, s12], Or.inr ?_⟩
  show c.val * 256 % 2147483648 < 2147483648
  omega

theorem encNormalize_nest (c : Enc) (pre : EncPre c) (hn : (encNormalize c).nbitsTotal < 4294967296)
    (herr : (encNormalize c).error = 0) : ∃ k, Nest k c (encNormalize c) := by
  obtain ⟨k, i1, i2, i3, i4, i5, i6⟩ := encNormalize_scale c pre hn herr
  refine ⟨k, i1, by rw [i2]; exact Nat.le_refl _, by rw [i2, i3, Nat.add_mul]; exact Nat.le_refl _, by omega, ?_⟩
  rcases i6 with ⟨k0, e⟩ | h
  · exact Or.inl ⟨k0, by rw [e]⟩
  · exact Or.inr h

/-- A step that outputs no digit and leaves the digits alone, followed by `Nest k`. -/
theorem Nest.after {k : Nat} {a b c : Enc} (h1 : Nest 0 a b) (hd : digitsVal b = digitsVal a) (h2 : Nest k b c) :
    Nest k a c := by
  have l1 := h1.lo; have u1 := h1.hi
  rw [Nat.pow_zero, Nat.mul_one] at l1 u1
  refine ⟨by rw [h2.encM_eq, h1.encM_eq, Nat.add_zero], Nat.le_trans (Nat.mul_le_mul_right _ l1) h2.lo,
    Nat.le_trans h2.hi (Nat.mul_le_mul_right _ u1), by have := h1.nbits; have := h2.nbits; omega, ?_⟩
  rcases h2.dig with ⟨k0, e⟩ | h
  · exact Or.inl ⟨k0, e.trans hd⟩
  · exact Or.inr h

/-- A range-coded symbol: subdivision, then normalisation. -/
theorem Nest.prim (c : Enc) (r a b : Nat) (first : Bool) (inv : EncInv c) (ok : SubOk c.rng r a b)
    (hn : (encNormalize (encSub c r a b first)).nbitsTotal < 4294967296)
    (herr : (encNormalize (encSub c r a b first)).error = 0) :
    ∃ k, Nest k c (encNormalize (encSub c r a b first)) := by
  obtain ⟨k, h⟩ := encNormalize_nest _ (encSub_spec c r a b first inv ok).1 hn herr
  exact ⟨k, (encSub_nest c r a b first ok).after (encSub_digitsVal ..) h⟩

/-- After `Nest`, an operation that leaves the range coder's interval and digits alone (`ec_enc_bits`,
    `ec_enc_shrink`). -/
theorem Nest.raw {k : Nat} {c c1 c2 : Enc} (h : Nest k c c1) (eM : encM c2 = encM c1) (eL : encLow c2 = encLow c1)
    (eR : c2.rng = c1.rng) (eV : c2.val = c1.val) (eN : c2.nbitsTotal + rawN c1 = c1.nbitsTotal + rawN c2) :
    Nest k c c2 := by
  refine ⟨by rw [eM]; exact h.encM_eq, by rw [eL]; exact h.lo, by rw [eL, eR]; exact h.hi,
    by have := h.nbits; omega, ?_⟩
  rcases h.dig with ⟨k0, e⟩ | h1
  · refine Or.inl ⟨k0, ?_⟩
    unfold encLow at eL; omega
  · exact Or.inr (by rw [eV]; exact h1)

theorem Nest.contains {k : Nat} {c c' : Enc} (h : Nest k c c') (B : List Nat) (S : Nat)
    (hb : ∀ i, byteAt B S i < 256) (hc : Contains B S c') : Contains B S c :=
  contains_scale hb h.encM_eq h.lo h.hi hc

end Opus.RangeCoder
