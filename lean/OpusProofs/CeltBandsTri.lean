import Mathlib.Tactic.Ring
import OpusModel.CeltBandsEnc
import OpusProofs.CeltBandsPdf
/-
  OpusProofs.CeltBandsTri — the triangular PDF of `compute_theta` (bands.c:816-849): the decoder's closed-form inverse
  (two integer square roots) returns the `itheta` the encoder coded, from every point of the encoder's interval, and
  recomputes the same interval; and every point, coded or not, is decoded to a non-empty interval inside `[0, ft)`.
  Pure arithmetic on `Nat.sqrt`.

  With `T n = n(n+1)/2` and `qn = 2h` the total is `ft = (h+1)² = T h + T (h+1)`; the encoder's intervals are
  `[T x, T (x+1))` for `x ≤ h` and `[ft - T (k+1), ft - T k)` for `x = 2h-k ≥ h` (the two forms agree at `x = h`).
  The decoder inverts `T` from below for points `< T h` and from above (on `ft - fm - 1`) for the others.
-/
namespace OpusProofs.Tri
open Opus.CeltBandsEnc (triFt triFl triFs)

/-- triangular number as the C code computes it: `n*(n+1)>>1` -/
def T (n : Nat) : Nat := n * (n + 1) / 2

theorem T_two (n : Nat) : T n * 2 = n * (n + 1) :=
  Nat.div_mul_cancel (Nat.even_mul_succ_self n).two_dvd

theorem T_succ (n : Nat) : T (n + 1) = T n + (n + 1) := by
  have a := T_two n
  have b := T_two (n + 1)
  have : (n + 1) * (n + 1 + 1) = n * (n + 1) + 2 * (n + 1) := by ring
  omega

theorem T_mono {a b : Nat} (h : a ≤ b) : T a ≤ T b := by
  induction h with
  | refl => exact Nat.le_refl _
  | step _ ih => rw [T_succ]; omega

theorem T_band (g : Nat) : ∃ k, T k ≤ g ∧ g < T (k + 1) := by
  induction g with
  | zero => exact ⟨0, by decide, by decide⟩
  | succ g ih =>
    obtain ⟨k, h1, h2⟩ := ih
    by_cases h : g + 1 < T (k + 1)
    · exact ⟨k, by omega, h⟩
    · exact ⟨k + 1, by omega, by rw [T_succ (k + 1)]; omega⟩

theorem sq_eq (h : Nat) : (h + 1) * (h + 1) = T h + T (h + 1) := by
  have a := T_two h
  have b := T_succ h
  have : (h + 1) * (h + 1) = h * (h + 1) + (h + 1) := by ring
  omega

theorem odd_sq (k : Nat) : (2 * k + 1) * (2 * k + 1) = 8 * T k + 1 := by
  have a := T_two k
  have : (2 * k + 1) * (2 * k + 1) = 4 * (k * (k + 1)) + 1 := by ring
  omega

/-- `T k ≤ g < T (k+1)` pins `isqrt(8g+1)` to `2k+1` or `2k+2` -/
theorem sqrt_band (g k : Nat) (h1 : T k ≤ g) (h2 : g < T (k + 1)) :
    2 * k + 1 ≤ Nat.sqrt (8 * g + 1) ∧ Nat.sqrt (8 * g + 1) < 2 * k + 3 := by
  have a := odd_sq k
  have b : (2 * k + 3) * (2 * k + 3) = 8 * T (k + 1) + 1 := odd_sq (k + 1)
  exact ⟨Nat.le_sqrt.2 (by omega), Nat.sqrt_lt.2 (by omega)⟩

/-- `itheta` as the decoder computes it from the decoded point `fm` (bands.c:832-848) -/
def decIt (qn fm : Nat) : Nat :=
  if fm < (qn / 2) * (qn / 2 + 1) / 2 then (Nat.sqrt (8 * fm + 1) - 1) / 2
  else (2 * (qn + 1) - Nat.sqrt (8 * ((qn / 2 + 1) * (qn / 2 + 1) - fm - 1) + 1)) / 2

/-- … the low end `fl` of its interval -/
def decFl (qn fm : Nat) : Nat :=
  if fm < (qn / 2) * (qn / 2 + 1) / 2 then decIt qn fm * (decIt qn fm + 1) / 2
  else (qn / 2 + 1) * (qn / 2 + 1) - (qn + 1 - decIt qn fm) * (qn + 2 - decIt qn fm) / 2

/-- … and its length `fs` -/
def decFs (qn fm : Nat) : Nat :=
  if fm < (qn / 2) * (qn / 2 + 1) / 2 then decIt qn fm + 1 else qn + 1 - decIt qn fm

open Opus.CeltBands OpusProofs.Pdf in
/-- the decoder model's `thetaTri` is the PDF symbol `decIt` with the interval `[decFl, decFl + decFs)` -/
theorem thetaTri_eq (s : BSt) (qn : Nat) :
    thetaTri s qn = readSym (triFt qn) (decIt qn) (decFl qn) (fun fm => decFl qn fm + decFs qn fm) s := by
  unfold thetaTri readSym decFl decFs decIt triFt
  generalize s.decode ((qn / 2 + 1) * (qn / 2 + 1)) = y
  obtain ⟨fm, s1⟩ := y
  dsimp only
  split <;> rfl

/-- below `T h`, `h = qn / 2`, the decoder inverts `T` from below -/
theorem dec_lo {qn h fm k : Nat} (hh : qn / 2 = h) (hb : fm < T h) (h1 : T k ≤ fm) (h2 : fm < T (k + 1)) :
    decIt qn fm = k ∧ decFl qn fm = T k ∧ decFs qn fm = k + 1 := by
  subst hh
  have hb' : fm < (qn / 2) * (qn / 2 + 1) / 2 := hb
  have hit : decIt qn fm = k := by
    unfold decIt
    rw [if_pos hb']
    have := sqrt_band fm k h1 h2
    omega
  unfold decFl decFs
  rw [hit, if_pos hb', if_pos hb']
  exact ⟨rfl, rfl, rfl⟩

/-- from `T h` on it inverts `T` from above, on `g = ft - fm - 1` -/
theorem dec_hi {qn h fm k : Nat} (hh : qn / 2 = h) (hb : ¬ fm < T h) (hk : k ≤ qn)
    (h1 : T k ≤ (h + 1) * (h + 1) - fm - 1) (h2 : (h + 1) * (h + 1) - fm - 1 < T (k + 1)) :
    decIt qn fm = qn - k ∧ decFl qn fm = (h + 1) * (h + 1) - T (k + 1) ∧ decFs qn fm = k + 1 := by
  subst hh
  have hb' : ¬ fm < (qn / 2) * (qn / 2 + 1) / 2 := hb
  have hit : decIt qn fm = qn - k := by
    unfold decIt
    rw [if_neg hb']
    have := sqrt_band _ k h1 h2
    omega
  unfold decFl decFs
  rw [hit, if_neg hb', if_neg hb', show qn + 1 - (qn - k) = k + 1 by omega, show qn + 2 - (qn - k) = k + 1 + 1 by omega]
  exact ⟨rfl, rfl, rfl⟩

/-- Every point is decoded to a non-empty interval inside `[0, ft)`: the band `[T k, T (k+1))` that holds `fm` resp.
    `ft - fm - 1`, as `dec_lo`, `dec_hi` say. -/
theorem dec_interval (qn fm : Nat) :
    decFl qn fm < decFl qn fm + decFs qn fm ∧ decFl qn fm + decFs qn fm ≤ triFt qn := by
  have hft : triFt qn = T (qn / 2) + T (qn / 2 + 1) := sq_eq _
  have hT := T_succ (qn / 2)
  by_cases hb : fm < T (qn / 2)
  · obtain ⟨k, h1, h2⟩ := T_band fm
    obtain ⟨_, b, c⟩ := dec_lo rfl hb h1 h2
    -- `T k ≤ fm < T h`, so `k < h` and the band ends at or below `T h`
    have hk : k + 1 ≤ qn / 2 := by
      by_contra hc
      have := T_mono (show qn / 2 ≤ k by omega)
      omega
    have := T_mono hk
    have := T_succ k
    rw [b, c]
    omega
  · obtain ⟨k, h1, h2⟩ := T_band ((qn / 2 + 1) * (qn / 2 + 1) - fm - 1)
    -- `ft - fm - 1 < ft - T h = T (h+1)`, so `k ≤ h`
    have hk : k ≤ qn / 2 := by
      by_contra hc
      have := T_mono (show qn / 2 + 1 ≤ k by omega)
      unfold triFt at hft
      omega
    obtain ⟨_, b, c⟩ := dec_hi rfl hb (by omega) h1 h2
    have := T_mono (show k + 1 ≤ qn / 2 + 1 by omega)
    have := T_succ k
    unfold triFt at hft ⊢
    rw [b, c]
    omega

/-- the points of `[F - A, F - A + (k+1))`, `A = T (k+1) ≤ T (h+1)`, lie at or above `T h`, and `F - fm - 1` in `[T k, A)` -/
theorem hi_arith {F A B Th Th1 fm k h : Nat} (hF : F = Th + Th1) (hT : Th1 = Th + (h + 1)) (hA : A = B + (k + 1))
    (hm : A ≤ Th1) (h1 : F - A ≤ fm) (h2 : fm < F - A + (k + 1)) :
    ¬ fm < Th ∧ B ≤ F - fm - 1 ∧ F - fm - 1 < A := by
  omega

/-- **The triangular PDF is decoded correctly**: for an even `qn`, `x ≤ qn` and every point `fm` of the interval
    `[fl, fl+fs)` the encoder codes for `x`, the decoder finds `x` and recomputes the same interval. -/
theorem tri_inv (qn x fm : Nat) (heven : qn % 2 = 0) (hx : x ≤ qn) (h1 : triFl qn x ≤ fm) (h2 : fm < triFl qn x + triFs qn x) :
    decIt qn fm = x ∧ decFl qn fm = triFl qn x ∧ decFs qn fm = triFs qn x := by
  obtain ⟨h, rfl⟩ : ∃ h, qn = 2 * h := ⟨qn / 2, by omega⟩
  have hh : 2 * h / 2 = h := by omega
  by_cases hxh : x ≤ h
  · simp only [triFl, triFs, hh, if_pos hxh] at h1 h2 ⊢
    have hft := sq_eq h
    have hTh := T_succ h
    replace h1 : T x ≤ fm := h1
    replace h2 : fm < T x + (x + 1) := h2
    have hTx := T_succ x
    by_cases hlt : x < h
    · have := T_mono (show x + 1 ≤ h from hlt)
      exact dec_lo hh (by omega) h1 (by omega)
    · -- `x = h`: the middle interval `[T h, T (h+1)) = [ft - T (h+1), ft - T h)` is decoded from above
      obtain rfl : x = h := by omega
      obtain ⟨g1, g2, g3⟩ := hi_arith (fm := fm) (k := x) hft hTh hTx (Nat.le_refl _) (by omega) (by omega)
      obtain ⟨a, b, c⟩ := dec_hi hh g1 (by omega) g2 g3
      exact ⟨by omega, by rw [b]; show _ = T x; omega, c⟩
  · -- `x = 2h - k` with `k < h`: the interval `[ft - T (k+1), ft - T (k+1) + (k+1))`
    obtain ⟨k, hk⟩ : ∃ k, 2 * h - x = k := ⟨_, rfl⟩
    have e1 : 2 * h + 1 - x = k + 1 := by omega
    have e2 : 2 * h + 2 - x = k + 1 + 1 := by omega
    have hkx : 2 * h - k = x := by omega
    have hm := T_mono (show k + 1 ≤ h + 1 by omega)
    simp only [triFl, triFs, hh, if_neg hxh, e1, e2] at h1 h2 ⊢
    obtain ⟨g1, g2, g3⟩ := hi_arith (sq_eq h) (T_succ h) (T_succ k) hm h1 h2
    obtain ⟨a, b, c⟩ := dec_hi hh g1 (by omega) g2 g3
    exact ⟨a.trans hkx, b, c⟩

end OpusProofs.Tri
