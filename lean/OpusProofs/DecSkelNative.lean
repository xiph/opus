import OpusProofs.DecSkelDecode
import OpusProofs.FramingRange
/-
  OpusProofs.DecSkelNative — `opus_decode_native` (opus_decoder.c:689-830):
  the return value is the pure function `nativeRet` of the arguments and a documented result (`RetOk`), the invariant is
  preserved, every logged inner call / access is legal, no assertion of the skeleton is reachable (`NativeOk`).  Before
  `decodeNative_spec`: `nativeRet` branch by branch (`nativeRet_badfec` … `nativeRet_parsed`), through which it reads it.
  `FramingRange` is imported for the parser's bounds (`parse_offsets`); it also brings `Mathlib.Tactic.Linarith` into scope,
  which the files behind this one have always had and fixed statements there are elaborated with: keep it.
-/
namespace Opus.DecSkel
open Opus Opus.Framing
variable {o : Oracle} {st0 : DecState} {cap0 u : Int} {r : Run} {pcm : Ptr} {frame_size po : Int}

theorem validateOk_of_inv {st : DecState} (h : DecInv st) : validateOk st = true := by
  unfold validateOk
  simp only [Bool.and_eq_true, Bool.or_eq_true, beq_iff_eq]
  -- conjunct by conjunct, each from the one field of the invariant that states it
  refine ⟨⟨⟨⟨⟨⟨⟨h.ch, ?_⟩, h.api⟩, ?_⟩, h.nca⟩, ?_⟩, ?_⟩, h.sch⟩
  · have := h.fs; unfold FsOk at this; omega
  · have := h.isr; omega
  · have := h.nci; omega
  · have := h.ps; omega

/-- Every TOC byte announces a mode / bandwidth / frame duration combination that `TocOk` lists. -/
theorem tocArgs_table : ∀ fs ∈ [8000, 12000, 16000, 24000, 48000], ∀ toc ∈ List.range 256,
    TocOk ((fs : Nat) : Int) ((getMode toc : Nat) : Int) ((getBandwidth toc : Nat) : Int) ((samplesPerFrame toc fs : Nat) : Int) ∧
    ((getMode toc : Nat) : Int) ≠ 0 ∧ (getNbChannels toc = 1 ∨ getNbChannels toc = 2) := by
  decide +kernel

/-- What the state update `setToc` (:784-787 / :804-807) needs of the four values taken from a TOC byte to keep `DecInv`: the first
    three form a row of `TocOk`, the mode is not the reset value 0, and there are one or two channels. -/
structure TocArgs (fs pm pb pfs pc : Int) : Prop where
  toc : TocOk fs pm pb pfs
  mode : pm ≠ 0
  ch : pc = 1 ∨ pc = 2

theorem tocArgs_of_byte {st : DecState} (hfs : FsOk st.Fs) {toc : Nat} (ht : toc < 256) :
    TocArgs st.Fs ((getMode toc : Nat) : Int) ((getBandwidth toc : Nat) : Int) ((samplesPerFrame toc st.Fs.toNat : Nat) : Int)
      ((getNbChannels toc : Nat) : Int) := by
  have key : ∀ fs ∈ [8000, 12000, 16000, 24000, 48000], TocArgs ((fs : Nat) : Int) ((getMode toc : Nat) : Int)
      ((getBandwidth toc : Nat) : Int) ((samplesPerFrame toc fs : Nat) : Int) ((getNbChannels toc : Nat) : Int) :=
    fun fs hfs' => by
      obtain ⟨h1, h2, h3⟩ := tocArgs_table fs hfs' toc (List.mem_range.mpr ht)
      exact ⟨h1, h2, by omega⟩
  rcases hfs with h | h | h | h | h <;> rw [h]
  · exact key 8000 (by simp)
  · exact key 12000 (by simp)
  · exact key 16000 (by simp)
  · exact key 24000 (by simp)
  · exact key 48000 (by simp)

/-- The state update of :784-787 / :804-807 keeps the invariant. -/
theorem setToc_inv {st : DecState} (h : DecInv st) {pm pb pfs pc : Int} (ht : TocArgs st.Fs pm pb pfs pc) :
    DecInv (setToc st pm pb pfs pc) :=
  { h with sch := ht.ch, toc := ht.toc }

theorem plcRet_cases {st : DecState} {u frame_size : Int} (hu : Units st u) (hmul : cmod frame_size (st.Fs / 400) = 0) :
    (0 < frame_size ∧ plcRet st frame_size = frame_size) ∨ (frame_size ≤ 0 ∧ plcRet st frame_size = BUFFER_TOO_SMALL) := by
  have hupos := hu.pos
  unfold plcRet
  rw [hu.u400] at hmul ⊢
  by_cases hpos : 0 < frame_size
  · left
    rw [cmod_nonneg (by omega)] at hmul
    have : ¬ frame_size < u := by
      intro hlt
      have : frame_size % u = frame_size := Int.emod_eq_of_lt (by omega) hlt
      omega
    exact ⟨hpos, by rw [if_neg this]⟩
  · right
    have : frame_size < u := by omega
    exact ⟨by omega, by rw [if_pos this]⟩

theorem plcRet_pos {st : DecState} {u frame_size : Int} (hu : Units st u) (hmul : cmod frame_size (st.Fs / 400) = 0)
    (hpos : 0 < frame_size) : plcRet st frame_size = frame_size :=
  (plcRet_cases hu hmul).elim (·.2) fun h => absurd hpos (Int.not_lt.mpr h.1)

/-- What a call of `opus_decode_native` establishes, and each of its branches before `*packet_offset` is attached (`.mk' x po`):
    it returns `v`, a documented result of a call with room for `fsz` samples per channel, the run is good, a positive `v` is the
    new last-packet duration, an error leaves the run alone. -/
structure NativeOk (st0 : DecState) (cap0 : Int) (r : Run) (fsz v : Int) (x : NativeOut) : Prop where
  ret : x.ret = .ret v
  rok : RetOk fsz v
  good : Good st0 cap0 x.run
  lpd : 0 < v → x.run.st.last_packet_duration = v
  err : v < 0 → x.run = r

/-- The buffer handed to `opus_decode_native`, for a non-negative `frame_size`. -/
theorem Good.pcmRoom (hg : Good st0 cap0 r) (hroom : 0 ≤ pcm.off ∧ pcm.off + frame_size * st0.channels ≤ pcm.cap)
    (hcap : PtrCapOk st0 cap0 pcm) (h0 : 0 ≤ frame_size) : Room st0 cap0 pcm frame_size :=
  hg.room ⟨hroom.1, Int.mul_nonneg h0 (hg.ch ▸ hg.inv.ch_nonneg), hroom.2⟩ hcap

theorem retOk_mono {a b v : Int} (h : RetOk a v) (hab : a ≤ b) : RetOk b v := by
  unfold RetOk at *; omega

theorem RetOk.count {n v : Int} (h0 : 0 < v) (hle : v ≤ n) : RetOk n v := Or.inr (Or.inr (Or.inr ⟨h0, hle⟩))

/-- A documented result that is neither an error code nor 0 is a sample count. -/
theorem RetOk.pos {n v : Int} (h : RetOk n v) (hv : ¬ v ≤ 0) : 0 < v ∧ v ≤ n := by
  simp only [RetOk, BAD_ARG, BUFFER_TOO_SMALL, INVALID_PACKET] at h; omega

/-- A branch that refuses the call and leaves the run alone. -/
theorem NativeOk.error (hg : Good st0 cap0 r) {fsz e : Int} (he : e = BAD_ARG ∨ e = BUFFER_TOO_SMALL ∨ e = INVALID_PACKET) :
    NativeOk st0 cap0 r fsz e (.mk' (.ret e, r) po) :=
  ⟨rfl, he.imp_right (Or.imp_right Or.inl), hg, fun h => by rcases he with rfl | rfl | rfl <;> exact absurd h (by decide),
    fun _ => rfl⟩

/-- A branch that returns a sample count `0 < v ≤ fsz` and has made it the last-packet duration. -/
theorem NativeOk.count {x : Res'} {fsz v : Int} {r' : Run} (e : x = (.ret v, r')) (h0 : 0 < v) (hle : v ≤ fsz)
    (hg : Good st0 cap0 r') (hl : r'.st.last_packet_duration = v) : NativeOk st0 cap0 r fsz v (.mk' x po) := by
  subst e; exact ⟨rfl, .count h0 hle, hg, fun _ => hl, fun h => by omega⟩

theorem NativeOk.mono {a b v : Int} {x : NativeOut} (h : NativeOk st0 cap0 r a v x) (hab : a ≤ b) : NativeOk st0 cap0 r b v x :=
  { h with rok := retOk_mono h.rok hab }

/-- `opus_decode_native(st, NULL, 0, pcm, frame_size, …)` once `frame_size` is known to be a multiple
    of 2.5 ms (possibly ≤ 0). -/
theorem nativePlcLoop_top (ho : OracleOk o) (hu : Units st0 u) (hg : Good st0 cap0 r)
    (hmul : cmod frame_size (r.st.Fs / 400) = 0)
    (hroom : 0 ≤ pcm.off ∧ pcm.off + frame_size * st0.channels ≤ pcm.cap) (hcap : PtrCapOk st0 cap0 pcm) :
    NativeOk st0 cap0 r frame_size (plcRet r.st frame_size) (.mk' (nativePlcLoop o frame_size pcm 0 r) po) := by
  have hur := hg.units hu
  have hupos : 0 < u := by have := hu.pos; omega
  rcases plcRet_cases hur hmul with ⟨hpos, e0⟩ | ⟨hle, e0⟩ <;> rw [e0]
  · rw [hur.u400, cmod_nonneg (by omega)] at hmul
    obtain ⟨K, hK⟩ : ∃ K, frame_size = K * u :=
      ⟨frame_size / u, (Int.ediv_mul_cancel (Int.dvd_of_emod_eq_zero hmul)).symm⟩
    subst hK
    have hK1 : 0 < K := (Int.mul_lt_mul_right hupos).mp (by rw [Int.zero_mul]; exact hpos)
    obtain ⟨r', e, g, hl⟩ := nativePlcLoop_spec ho hu K (hg.pcmRoom hroom hcap (Int.le_of_lt hpos)) 0 r (Int.le_refl 0) hK1 hg
    rw [Int.zero_mul] at e
    exact .count e hpos (Int.le_refl _) g hl
  · have : decodeFrame o none 0 (pcm.add (0 * r.st.channels)) (frame_size - 0) 0 r = (.ret BUFFER_TOO_SMALL, r) := by
      unfold decodeFrame
      dsimp only
      have : frame_size - 0 < F2_5 r.st := by rw [hur.f25]; omega
      simp only [this, ↓reduceIte]
    rw [nativePlcLoop]
    simp only [this, show BUFFER_TOO_SMALL < 0 by decide, ↓reduceIte]
    exact .error hg (Or.inr (Or.inl rfl))

/-- The recursive call `opus_decode_native(st, NULL, 0, pcm, frame_size, 0, …)` of the FEC paths. -/
theorem nativePlc_spec (ho : OracleOk o) (hu : Units st0 u) (hg : Good st0 cap0 r)
    (hmul : cmod frame_size (r.st.Fs / 400) = 0)
    (hroom : 0 ≤ pcm.off ∧ pcm.off + frame_size * st0.channels ≤ pcm.cap) (hcap : PtrCapOk st0 cap0 pcm) :
    NativeOk st0 cap0 r frame_size (plcRet r.st frame_size) (.mk' (nativePlc o pcm frame_size r) po) := by
  unfold nativePlc
  have hv : ¬ ¬ validateOk r.st = true := by simp [validateOk_of_inv hg.inv]
  have hm : ¬ cmod frame_size (r.st.Fs / 400) ≠ 0 := by simp [hmul]
  simp only [hv, hm, ↓reduceIte]
  exact nativePlcLoop_top ho hu hg hmul hroom hcap

/-- :772-782 — the part of a FEC request in front of the packet's frame is concealed by the recursive call, which returns
    exactly what it was asked for (`celt_assert`, :781); nothing is done when there is no such part. -/
theorem fecGap_spec (ho : OracleOk o) (hu : Units st0 u) (hg : Good st0 cap0 r) {gap : Int} (h0 : 0 ≤ gap)
    (hmul : cmod gap (r.st.Fs / 400) = 0) (hroom : 0 ≤ pcm.off ∧ pcm.off + gap * st0.channels ≤ pcm.cap)
    (hcap : PtrCapOk st0 cap0 pcm) :
    ∃ r1 : Run, fecGap o pcm gap r = (.ret 0, r1) ∧ Good st0 cap0 r1 ∧
      ((gap = 0 ∧ r1 = r) ∨ (0 < gap ∧ nativePlc o pcm gap r = (.ret gap, r1))) := by
  unfold fecGap
  by_cases h : gap = 0
  · rw [if_neg (by simp [h])]
    exact ⟨r, rfl, hg, Or.inl ⟨h, rfl⟩⟩
  · have hpos : 0 < gap := by omega
    have hn := nativePlc_spec (po := 0) ho hu hg hmul hroom hcap
    rw [plcRet_pos (hg.units hu) hmul hpos] at hn
    obtain ⟨r1, e⟩ : ∃ r1, nativePlc o pcm gap r = (.ret gap, r1) := ⟨_, Prod.ext hn.ret rfl⟩
    rw [e] at hn
    simp only [ne_eq, h, not_false_eq_true, ↓reduceIte, e, show ¬ gap < 0 by omega, not_true_eq_false]
    exact ⟨r1, rfl, hn.good, Or.inr ⟨hpos, rfl⟩⟩

/-- :771-797 — FEC on a packet that may carry LBRR data: concealment of exactly
    `frame_size − packet_frame_size` samples at the start of the buffer (skipped when that is 0),
    then the TOC state update, then ONE `opus_decode_frame(data, size[0], …, decode_fec = 1)` at
    the end of the buffer, which returns a positive count; the call returns `frame_size`. -/
theorem nativeFec_shape (ho : OracleOk o) (hu : Units st0 u) (hg : Good st0 cap0 r) {pfs pm pb pc off0 sz0 : Int}
    (ht : TocArgs r.st.Fs pm pb pfs pc)
    (hmul : cmod frame_size (r.st.Fs / 400) = 0) (hoff : 0 ≤ off0) (hsz : 0 ≤ sz0 ∧ sz0 ≤ 1275)
    (hroom : 0 ≤ pcm.off ∧ pcm.off + frame_size * st0.channels ≤ pcm.cap) (hcap : PtrCapOk st0 cap0 pcm)
    (hcond : ¬ (frame_size < pfs ∨ pm = MODE_CELT ∨ r.st.mode = MODE_CELT)) :
    ∃ (r1 : Run) (v : Int) (r3 : Run),
      ((frame_size - pfs = 0 ∧ r1 = r) ∨
       (0 < frame_size - pfs ∧ nativePlc o pcm (frame_size - pfs) r = (.ret (frame_size - pfs), r1))) ∧
      decodeFrame o (some off0) sz0 (pcm.add (r.st.channels * (frame_size - pfs))) pfs 1
        (r1.setSt (setToc r1.st pm pb pfs pc)) = (.ret v, r3) ∧
      0 < v ∧
      nativeFec o pcm frame_size pfs pm pb pc off0 sz0 r =
        (.ret frame_size, r3.setSt { r3.st with last_packet_duration := frame_size }) ∧
      Good st0 cap0 r3 := by
  have hur := hg.units hu
  have hupos : 0 < u := by have := hu.pos; omega
  obtain ⟨f, hf, hf6⟩ := tocOk_units ht.toc hur.u400
  have hpfs0 : 0 < pfs := by rw [hf]; exact Int.mul_pos (by omega) hupos
  have hge : pfs ≤ frame_size := by omega
  have hmul' := hmul
  rw [hur.u400, cmod_nonneg (by omega)] at hmul'
  have hgapmul : cmod (frame_size - pfs) (r.st.Fs / 400) = 0 := by
    rw [hur.u400, cmod_nonneg (by omega), hf, Int.sub_mul_emod_self_right]; exact hmul'
  have hroomF := hg.pcmRoom hroom hcap (by omega)
  obtain ⟨r1, e1, g1, hshape⟩ := fecGap_spec ho hu hg (by omega) hgapmul
    ⟨hroom.1, (hroomF.le (by omega) (by omega)).room.2.2⟩ hcap
  have g2 : Good st0 cap0 (r1.setSt (setToc r1.st pm pb pfs pc)) :=
    g1.setSt (setToc_inv g1.inv ((g1.fs.trans hg.fs.symm) ▸ ht)) g1.fs g1.ch
  have hroom2 : Room st0 cap0 (pcm.add (r.st.channels * (frame_size - pfs))) pfs := by
    rw [hg.ch, Int.mul_comm st0.channels]; exact hroomF.add (by omega) (by omega) (by omega)
  obtain ⟨v, r3, e3, g3, _, hv⟩ := decodeFrame_pkt ho hu g2 (off := off0) (len := sz0) (frame_size := pfs) (fec := 1)
    ht.mode hsz hoff (Int.le_refl _) hroom2
  have hv : v = pfs := hv
  subst hv
  refine ⟨r1, v, r3, hshape, e3, hpfs0, ?_, g3⟩
  unfold nativeFec
  simp only [if_neg hcond, e1]
  simp only [show ¬ (0 : Int) < 0 by omega, ↓reduceIte, e3]
  rw [if_neg (by omega)]

/-- :764-798 under the contracts. -/
theorem nativeFec_spec (ho : OracleOk o) (hu : Units st0 u) (hg : Good st0 cap0 r) {pfs pm pb pc off0 sz0 : Int}
    (ht : TocArgs r.st.Fs pm pb pfs pc)
    (hmul : cmod frame_size (r.st.Fs / 400) = 0) (hoff : 0 ≤ off0) (hsz : 0 ≤ sz0 ∧ sz0 ≤ 1275)
    (hroom : 0 ≤ pcm.off ∧ pcm.off + frame_size * st0.channels ≤ pcm.cap) (hcap : PtrCapOk st0 cap0 pcm) :
    NativeOk st0 cap0 r frame_size (plcRet r.st frame_size) (.mk' (nativeFec o pcm frame_size pfs pm pb pc off0 sz0 r) po) := by
  by_cases hcond : frame_size < pfs ∨ pm = MODE_CELT ∨ r.st.mode = MODE_CELT
  · unfold nativeFec
    rw [if_pos hcond]
    exact nativePlc_spec ho hu hg hmul hroom hcap
  · obtain ⟨r1, v, r3, _, _, _, e, g3⟩ := nativeFec_shape ho hu hg ht hmul hoff hsz hroom hcap hcond
    have hur := hg.units hu
    have hfpos : 0 < frame_size := by have := (hur.toc_bounds ht.toc).1; omega
    rw [plcRet_pos hur hmul hfpos]
    exact .count e hfpos (Int.le_refl _) (g3.setSt (g3.inv.setLpd (by omega)) g3.fs g3.ch) rfl

/-- :804-829 under the contracts. -/
theorem nativeFrames_spec (ho : OracleOk o) (hu : Units st0 u) (hg : Good st0 cap0 r) {pfs pm pb pc : Int}
    {sizes : List Nat} {off0 : Int} {sc : Bool} (ht : TocArgs r.st.Fs pm pb pfs pc) (hoff : 0 ≤ off0)
    (hsz : ∀ s ∈ sizes, s ≤ 1275) (hcnt : 1 ≤ sizes.length) (hfit : (sizes.length : Int) * pfs ≤ frame_size)
    (hroom : 0 ≤ pcm.off ∧ pcm.off + frame_size * st0.channels ≤ pcm.cap) (hcap : PtrCapOk st0 cap0 pcm) :
    NativeOk st0 cap0 r frame_size ((sizes.length : Int) * pfs) (.mk' (nativeFrames o pcm frame_size pfs pm pb pc sizes off0 sc r) po) := by
  have hur := hg.units hu
  have hupos := hu.pos
  have hpfspos : 0 < pfs := (hur.toc_bounds ht.toc).1
  have hnn : 0 ≤ (sizes.length : Int) * pfs := Int.mul_nonneg (by omega) (by omega)
  have hpos : 0 < (sizes.length : Int) * pfs := Int.mul_pos (by omega) hpfspos
  have hroomN : Room st0 cap0 pcm ((sizes.length : Int) * pfs) :=
    (hg.pcmRoom hroom hcap (by omega)).le hnn hfit
  obtain ⟨_, r2, e2, g2, _, rfl⟩ := frameLoop_spec ho hu (frame_size := frame_size) (pfs := pfs) hfit hroomN sizes off0 0 _
    (hg.setSt (setToc_inv hg.inv ht) hg.fs hg.ch) ht.mode rfl hsz hoff (Int.le_refl 0) (Int.zero_add _)
  unfold nativeFrames
  simp only [e2]
  rw [if_neg (by omega)]
  have g3 : Good st0 cap0 (r2.setSt { r2.st with last_packet_duration := (sizes.length : Int) * pfs }) :=
    g2.setSt (g2.inv.setLpd hnn) g2.fs g2.ch
  split
  · exact .count rfl hpos hfit (g3.push (evGood_of_ptr rfl (hg.ch ▸ hroomN.room) hcap)) rfl
  · exact .count rfl hpos hfit g3 rfl

/-! ### `nativeRet` branch by branch, in the order of the tests of `opus_decode_native` -/

section nativeRet
variable {st : DecState} {data : Option Bytes} {len fec : Int} {sd : Bool}

theorem nativeRet_badfec (h : fec < 0 ∨ fec > 1) : nativeRet st data len frame_size fec sd = BAD_ARG := by
  unfold nativeRet
  rw [if_pos h]

/-- A concealment or FEC request for a `frame_size` that is not a multiple of 2.5 ms is refused before the packet is looked at. -/
theorem nativeRet_badmul (hfec : ¬ (fec < 0 ∨ fec > 1)) (hcase : fec ≠ 0 ∨ len = 0 ∨ data.isNone = true)
    (hmul : cmod frame_size (st.Fs / 400) ≠ 0) : nativeRet st data len frame_size fec sd = BAD_ARG := by
  unfold nativeRet
  rw [if_neg hfec, if_pos ⟨hcase, hmul⟩]

theorem nativeRet_neglen (hfec : ¬ (fec < 0 ∨ fec > 1)) (h3 : ¬ (len = 0 ∨ data.isNone = true)) (h4 : len < 0) :
    nativeRet st data len frame_size fec sd = BAD_ARG := by
  unfold nativeRet
  rw [if_neg hfec]
  by_cases h2 : (fec ≠ 0 ∨ len = 0 ∨ data.isNone = true) ∧ cmod frame_size (st.Fs / 400) ≠ 0
  · rw [if_pos h2]
  · rw [if_neg h2, if_neg h3, if_pos h4]

/-- Past the argument checks, with a packet: what the parser reports decides. -/
theorem nativeRet_packet (hfec : ¬ (fec < 0 ∨ fec > 1)) (hmul : fec ≠ 0 → cmod frame_size (st.Fs / 400) = 0)
    (h3 : ¬ (len = 0 ∨ data.isNone = true)) (h4 : ¬ len < 0) :
    nativeRet st data len frame_size fec sd =
      match parseImpl sd ((data.getD []).take len.toNat) with
      | .ok p =>
        if fec ≠ 0 then plcRet st frame_size
        else if (p.count : Int) * (samplesPerFrame (((data.getD []).take len.toNat).headD 0) st.Fs.toNat : Int) > frame_size then
          BUFFER_TOO_SMALL
        else (p.count : Int) * (samplesPerFrame (((data.getD []).take len.toNat).headD 0) st.Fs.toNat : Int)
      | .err e => e.code
      | _ => INVALID_PACKET := by
  unfold nativeRet
  rw [if_neg hfec, if_neg (fun h => h.1.elim (fun hf => h.2 (hmul hf)) h3), if_neg h3, if_neg h4]
  rfl

/-- A concealment request, or a FEC request on a packet with valid framing, for a multiple of 2.5 ms returns `plcRet`. -/
theorem nativeRet_plc (hfec : ¬ (fec < 0 ∨ fec > 1)) (hmul : cmod frame_size (st.Fs / 400) = 0)
    (hcase : (len = 0 ∨ data.isNone = true) ∨ (fec ≠ 0 ∧ 0 < len ∧ ∃ p, parseImpl sd ((data.getD []).take len.toNat) = .ok p)) :
    nativeRet st data len frame_size fec sd = plcRet st frame_size := by
  by_cases h3 : len = 0 ∨ data.isNone = true
  · unfold nativeRet
    rw [if_neg hfec, if_neg fun h => h.2 hmul, if_pos h3]
  · obtain ⟨hf, hl, p, hp⟩ := hcase.resolve_left h3
    rw [nativeRet_packet hfec (fun _ => hmul) h3 (by omega)]
    simp only [hp, if_pos hf]

/-- `nativeRet` on a packet (`0 < len`) the parser accepts. -/
theorem nativeRet_parsed {bs : Bytes} {p : Parsed}
    (hfec : ¬ (fec < 0 ∨ fec > 1)) (hlen : 0 < len) (hp : parseImpl sd (bs.take len.toNat) = .ok p) :
    nativeRet st (some bs) len frame_size fec sd =
      if fec ≠ 0 then (if cmod frame_size (st.Fs / 400) ≠ 0 then BAD_ARG else plcRet st frame_size)
      else if (p.count : Int) * (samplesPerFrame ((bs.take len.toNat).headD 0) st.Fs.toNat : Int) > frame_size then
        BUFFER_TOO_SMALL
      else (p.count : Int) * (samplesPerFrame ((bs.take len.toNat).headD 0) st.Fs.toNat : Int) := by
  have h3 : ¬ (len = 0 ∨ (some bs).isNone = true) := by simp; omega
  by_cases hf : fec ≠ 0
  · rw [if_pos hf]
    by_cases hm : cmod frame_size (st.Fs / 400) ≠ 0
    · rw [if_pos hm, nativeRet_badmul hfec (Or.inl hf) hm]
    · rw [if_neg hm, nativeRet_plc hfec (Decidable.not_not.mp hm) (Or.inr ⟨hf, hlen, p, hp⟩)]
  · rw [nativeRet_packet hfec (fun h => absurd h hf) h3 (by omega)]
    simp only [Option.getD_some, hp, if_neg hf]

/-- `nativeRet` depends on the packet only through what the parser reports: the frame count and the TOC's frame duration. -/
theorem nativeRet_congr {bs1 bs2 : Bytes} {sd1 sd2 : Bool} {p1 p2 : Parsed} (h1 : parseImpl sd1 bs1 = .ok p1)
    (h2 : parseImpl sd2 bs2 = .ok p2) (hcount : p1.count = p2.count)
    (hspf : samplesPerFrame (bs1.headD 0) st.Fs.toNat = samplesPerFrame (bs2.headD 0) st.Fs.toNat) :
    nativeRet st (some bs1) bs1.length frame_size fec sd1 = nativeRet st (some bs2) bs2.length frame_size fec sd2 := by
  by_cases c1 : fec < 0 ∨ fec > 1
  · rw [nativeRet_badfec c1, nativeRet_badfec c1]
  rw [nativeRet_parsed c1 (parse_ok_pos h1) (by simpa using h1), nativeRet_parsed c1 (parse_ok_pos h2) (by simpa using h2)]
  simp only [Int.toNat_natCast, List.take_length, hcount, hspf]

end nativeRet

theorem bytesOk_take {bs : Bytes} (h : BytesOk bs) (n : Nat) : BytesOk (bs.take n) :=
  fun b hb => h b (List.mem_of_mem_take hb)

theorem bytesOk_drop {bs : Bytes} (h : BytesOk bs) (n : Nat) : BytesOk (bs.drop n) :=
  fun b hb => h b (List.mem_of_mem_drop hb)

theorem headD_lt {bs : Bytes} (h : BytesOk bs) : bs.headD 0 < 256 := by
  cases bs with
  | nil => simp
  | cons b t => exact h b (by simp)

/-- `opus_decode_native` under the oracle contracts, for every state satisfying the invariant and
    every argument combination: returns `nativeRet` (a function of the arguments only), keeps the
    invariant, logs only legal inner calls and in-bounds accesses, leaves the state alone on error,
    and sets `last_packet_duration` to the sample count on success. -/
theorem decodeNative_spec {o : Oracle} (ho : OracleOk o) {st0 : DecState} {cap0 : Int} {r : Run} (hg : Good st0 cap0 r)
    (data : Option Bytes) (hb : ∀ bs, data = some bs → BytesOk bs) (len : Int) (pcm : Ptr) (frame_size fec : Int)
    (sd sc : Bool) (hroom : 0 ≤ pcm.off ∧ pcm.off + frame_size * r.st.channels ≤ pcm.cap) (hcap : PtrCapOk st0 cap0 pcm) :
    NativeOk st0 cap0 r frame_size (nativeRet r.st data len frame_size fec sd) (decodeNative o data len pcm frame_size fec sd sc r) := by
  obtain ⟨u, hu⟩ := units_of_fs (hg.fs ▸ hg.inv.fs)
  rw [hg.ch] at hroom
  have hv : ¬ ¬ validateOk r.st = true := by simp [validateOk_of_inv hg.inv]
  unfold decodeNative
  simp only [hv, ↓reduceIte]
  by_cases h1 : fec < 0 ∨ fec > 1
  · rw [if_pos h1, nativeRet_badfec h1]; exact .error hg (Or.inl rfl)
  rw [if_neg h1]
  by_cases h2 : (fec ≠ 0 ∨ len = 0 ∨ data.isNone = true) ∧ cmod frame_size (r.st.Fs / 400) ≠ 0
  · rw [if_pos h2, nativeRet_badmul h1 h2.1 h2.2]; exact .error hg (Or.inl rfl)
  rw [if_neg h2]
  have hmul : (fec ≠ 0 ∨ len = 0 ∨ data.isNone = true) → cmod frame_size (r.st.Fs / 400) = 0 := fun hc =>
    Decidable.byContradiction fun hne => h2 ⟨hc, hne⟩
  by_cases h3 : len = 0 ∨ data.isNone = true
  · rw [if_pos h3, nativeRet_plc h1 (hmul (Or.inr h3)) (Or.inl h3)]
    exact nativePlcLoop_top ho hu hg (hmul (Or.inr h3)) hroom hcap
  rw [if_neg h3]
  by_cases h4 : len < 0
  · rw [if_pos h4, nativeRet_neglen h1 h3 h4]; exact .error hg (Or.inl rfl)
  rw [if_neg h4, nativeRet_packet h1 (fun hf => hmul (Or.inl hf)) h3 h4]
  have hbs : BytesOk ((data.getD []).take len.toNat) := by
    cases hd : data with
    | none => intro b hb'; simp at hb'
    | some bs0 => exact bytesOk_take (hb bs0 hd) _
  have htoc := headD_lt hbs
  generalize (data.getD []).take len.toNat = bs at *
  rcases (FramingProofs.parseImpl_tame sd bs).cases with ⟨p, hp⟩ | hp
  · simp only [hp]
    obtain ⟨hcnt, hc1, _, hsz, _, _, _⟩ := FramingProofs.parse_offsets sd bs hbs p hp
    by_cases h5 : fec ≠ 0
    · simp only [if_pos h5]
      have hsz0 : 0 ≤ ((p.sizes.headD 0 : Nat) : Int) ∧ ((p.sizes.headD 0 : Nat) : Int) ≤ 1275 := by
        refine ⟨by omega, ?_⟩
        cases hs : p.sizes with
        | nil => simp
        | cons a t => have := hsz a (by rw [hs]; simp); simp; omega
      exact nativeFec_spec ho hu hg (tocArgs_of_byte hg.inv.fs htoc) (hmul (Or.inl h5)) (by omega) hsz0 hroom hcap
    · simp only [if_neg h5]
      by_cases h6 : (p.count : Int) * ((samplesPerFrame (bs.headD 0) r.st.Fs.toNat : Nat) : Int) > frame_size
      · simp only [if_pos h6]; exact .error hg (Or.inr (Or.inl rfl))
      · simp only [if_neg h6]
        rw [hcnt] at h6 ⊢
        exact nativeFrames_spec ho hu hg (tocArgs_of_byte hg.inv.fs htoc) (by omega) hsz (by omega) (by omega) hroom hcap
  · simp only [hp]
    exact .error hg (Or.inr (Or.inr rfl))

end Opus.DecSkel
