import OpusProofs.ExtGenOps
/-
  The action sequence of `opus_packet_extensions_generate` is
  well-guarded (every write preceded by a covering check), honest (every check is followed by at
  least the bytes it asked for) and copies only bytes the caller supplied.  From this: dry-run
  size = written size, an exact-size buffer suffices, anything smaller is refused, nothing is
  written at an index ≥ len.
-/
namespace Opus.ExtProofs
open Opus Opus.Ext

/-- Static well-formedness of an emitted action sequence; `s` = number of bytes that a check of
    the sequence may ask for beyond what the sequence itself writes (the separator check asks for
    2 bytes and may write 1: the extension that follows supplies the other). -/
structure Nice {α : Type} (s : Nat) (w : W α) : Prop where
  copy : CopyOk w.ops
  grd : ∀ c : Int, 0 ≤ c → guarded c w.ops
  hon : ∀ a, w.res = .ok a → req w.ops ≤ opsSize w.ops + s

theorem Nice.mono {α : Type} {s t : Nat} {w : W α} (h : Nice s w) (hst : s ≤ t) : Nice t w :=
  ⟨h.copy, h.grd, fun a ha => by have := h.hon a ha; omega⟩

theorem Nice.pure {α : Type} (a : α) : Nice 0 (pure a : W α) :=
  ⟨by intro s n h; simp [W.pure_eq] at h, fun c _ => by simp [W.pure_eq, guarded], fun _ _ => by simp [W.pure_eq, req]⟩

theorem Nice.lift {α : Type} (r : Res α) : Nice 0 (W.lift r) :=
  ⟨by intro s n h; simp [W.lift] at h, fun c _ => by simp [W.lift, guarded], fun _ _ => by simp [W.lift, req]⟩

/-- Sequencing: the continuation must supply the slack of the first part. -/
theorem Nice.bind {α β : Type} {s1 s2 : Nat} {x : W α} {f : α → W β} (hx : Nice s1 x)
    (hf : ∀ a, x.res = .ok a → Nice s2 (f a))
    (hs : ∀ a b, x.res = .ok a → (f a).res = .ok b → s1 ≤ opsSize (f a).ops + s2) :
    Nice s2 (x >>= f) := by
  rw [W.bind_eq]
  unfold W.bind
  cases hr : x.res with
  | ok a =>
    have hfa := hf a hr
    simp only
    refine ⟨CopyOk_append.mpr ⟨hx.copy, hfa.copy⟩, ?_, ?_⟩
    · intro c hc
      rw [guarded_append]
      exact ⟨hx.grd c hc, hfa.grd _ (cover_nonneg _ _ hc (hx.grd c hc))⟩
    · intro b hb
      have h1 := hx.hon a hr
      have h2 := hfa.hon b hb
      have h3 := hs a b hr hb
      rw [req_append, opsSize_append]
      push_cast
      omega
  | err e => exact ⟨hx.copy, hx.grd, fun a ha => by simp at ha⟩
  | oob => exact ⟨hx.copy, hx.grd, fun a ha => by simp at ha⟩
  | abort => exact ⟨hx.copy, hx.grd, fun a ha => by simp at ha⟩

theorem Nice.bind0 {α β : Type} {x : W α} {f : α → W β} (hx : Nice 0 x)
    (hf : ∀ a, x.res = .ok a → Nice 0 (f a)) : Nice 0 (x >>= f) :=
  Nice.bind hx hf (fun _ _ _ _ => Nat.zero_le _)

/-- One check, then writes only, of at most the `k` bytes it asked for (`s` of them are left to what follows). -/
theorem Nice.emit_need {k : Int} {l : List Op} {s : Nat} (hl : ∀ k', Op.need k' ∉ l) (hc : CopyOk l)
    (hk : (opsSize l : Int) ≤ k ∧ k ≤ opsSize l + s) : Nice s (W.emit (.need k :: l)) := by
  obtain ⟨h1, h2⟩ := writes_facts l hl
  exact ⟨fun src n hm => hc src n ((List.mem_cons.mp hm).resolve_left (by simp)), fun c _ => h2 _ (by omega),
    fun _ _ => by simp only [W.emit, req, h1, opsSize_cons, opSize]; omega⟩

/-- The caller's payload pointer supplies `len` bytes. -/
def DataOk (e : Ext) : Prop := e.len ≤ e.data.length

theorem wPayload_nice (e : Ext) (last : Bool) (hd : DataOk e) : Nice 0 (wPayload e last) := by
  have hcopy : ∀ n : Nat, (n : Int) ≤ e.len → CopyOk [Op.copy e.data n] := fun n hn s m hm => by
    simp only [List.mem_cons, Op.copy.injEq, List.not_mem_nil, or_false] at hm
    obtain ⟨rfl, rfl⟩ := hm
    unfold DataOk at hd; omega
  unfold wPayload
  split
  · exact Nice.lift _
  · split
    · split
      · exact Nice.lift _
      · split
        · exact Nice.emit_need (by simp) (hcopy 1 (by omega)) (by simp [opSize]; omega)
        · exact Nice.pure _
    · split
      · exact Nice.lift _
      · have hq : 0 ≤ e.len / 255 := Int.ediv_nonneg (by omega) (by omega)
        have hm : 0 ≤ e.len % 255 := Int.emod_nonneg _ (by omega)
        cases last with
        | true => exact Nice.emit_need (by simp) (hcopy _ (by omega)) (by simp [opSize]; omega)
        | false =>
          exact Nice.emit_need (by simp) (CopyOk_append.mpr ⟨by intro s n h; simp at h, hcopy _ (by omega)⟩)
            (by simp [opSize, opsSize_puts]; omega)

theorem emit_need_put_nice (k : Int) (b : Nat) (hk : 1 ≤ k) : Nice (k - 1).toNat (W.emit [Op.need k, Op.put b]) :=
  Nice.emit_need (by simp) (by intro s n h; simp at h) (by simp [opSize]; omega)

/-- `write_extension` for a valid ID: the buffer check and the ID byte, then the payload. -/
theorem wExt_eq {e : Ext} (hid : 3 ≤ e.id ∧ e.id ≤ 127) (last : Bool) :
    wExt e last = (W.emit [Op.need 1, Op.put
      ((e.id * 2 + (if e.id < 32 then e.len else if last then 0 else 1)) % 256).toNat] >>= fun _ => wPayload e last) := by
  simp only [wExt, W.bind_eq, W.bind, W.emit, hid, not_true_eq_false, if_false, and_self, List.cons_append,
    List.nil_append]

theorem wExt_nice (e : Ext) (last : Bool) (hd : DataOk e) : Nice 0 (wExt e last) := by
  by_cases hid : 3 ≤ e.id ∧ e.id ≤ 127
  · rw [wExt_eq hid]
    exact Nice.bind0 (emit_need_put_nice 1 _ (by omega)) (fun _ _ => wPayload_nice e last hd)
  · have e1 : wExt e last = { ops := [Op.need 1], res := .abort } := by
      simp only [wExt, W.bind_eq, W.bind, W.emit, W.lift, hid, not_false_eq_true, if_true, List.append_nil]
    rw [e1]
    exact ⟨by intro s n hm; simp at hm, fun c _ => by simp [guarded], fun a ha => by simp at ha⟩

/-- A successful `write_extension` writes at least the ID byte. -/
theorem wExt_size (e : Ext) (last : Bool) (a : Unit) (h : (wExt e last).res = .ok a) : 1 ≤ opsSize (wExt e last).ops := by
  by_cases hid : 3 ≤ e.id ∧ e.id ≤ 127
  · simp only [wExt, W.bind_eq, W.bind, W.emit, hid, not_true_eq_false, if_false, and_self]
    cases (wPayload e last).res <;> simp [opSize] <;> omega
  · simp [wExt, W.bind_eq, W.bind, W.emit, W.lift, hid] at h

theorem wSep_nice (f cur : Nat) : Nice 1 (wSep f cur) := by
  unfold wSep
  split
  · simp only
    split
    · exact emit_need_put_nice 2 2 (by omega)
    · exact Nice.emit_need (by simp) (by intro s n h; simp at h) (by simp [opSize])
  · exact (Nice.pure ()).mono (by omega)

/-- Every extension of the caller's array comes with its payload bytes. -/
def ExtsOk (exts : Array Ext) : Prop := ∀ (i : Nat) (e : Ext), exts[i]? = some e → DataOk e

instance (e : Ext) : Decidable (DataOk e) := by unfold DataOk; infer_instance

theorem extsOk_of_all (exts : Array Ext) (h : ∀ e ∈ exts.toList, DataOk e) : ExtsOk exts :=
  fun _ e hi => h e (Array.mem_toList_iff.mpr (Array.mem_of_getElem? hi))

theorem rdE_ok {exts : Array Ext} (h : ExtsOk exts) {i : Nat} {e : Ext} (hr : (W.lift (rdE exts i)).res = .ok e) : DataOk e := by
  simp only [W.lift, rdE] at hr
  split at hr
  · rename_i v hv; simp only [Res.ok.injEq] at hr; subst hr; exact h i _ hv
  · simp at hr

theorem wRepeatsOfFrame_nice (exts : Array Ext) (hE : ExtsOk exts) (g : Nat) (last : Bool) (ll : Option Nat)
    (j hi w : Nat) : Nice 0 (wRepeatsOfFrame exts g last ll j hi w) := by
  fun_induction wRepeatsOfFrame exts g last ll j hi w with
  | case1 j w hlt ih2 ih1 =>
    apply Nice.bind0 (Nice.lift _)
    intro x hx
    split
    · exact Nice.bind0 (wPayload_nice _ _ (rdE_ok hE hx)) (fun _ _ => ih2)
    · exact ih1
  | case2 => exact Nice.pure _

theorem wRepeatsLoop_nice (exts : Array Ext) (hE : ExtsOk exts) (nbF : Nat) (last : Bool) (ll : Option Nat)
    (g : Nat) (s : GSt) : Nice 0 (wRepeatsLoop exts nbF last ll g s) := by
  fun_induction wRepeatsLoop exts nbF last ll g s with
  | case1 g s hlt ih =>
    apply Nice.bind0 (Nice.lift _); intro lo _
    apply Nice.bind0 (Nice.lift _); intro hi _
    apply Nice.bind0 (wRepeatsOfFrame_nice exts hE _ _ _ _ _ _); intro w' _
    exact ih lo hi w'
  | case2 => exact Nice.pure _

theorem wFrameLoop_nice (exts : Array Ext) (hE : ExtsOk exts) (nbF f : Nat) (det : Det) (i hi : Nat) (s : GSt) :
    Nice 0 (wFrameLoop exts nbF f det i hi s) := by
  fun_induction wFrameLoop exts nbF f det i hi s with
  | case1 i s hlt ih3 ih2 ih1 =>
    apply Nice.bind0 (Nice.lift _); intro e he
    split
    · apply Nice.bind (wSep_nice _ _)
      · intro _ _
        apply Nice.bind0 (wExt_nice _ _ (rdE_ok hE he)); intro _ _
        split
        · apply Nice.bind0 (emit_need_put_nice 1 _ (by omega)); intro _ _
          apply Nice.bind0 (wRepeatsLoop_nice exts hE _ _ _ _ _); intro s3 _
          exact ih3 e s3
        · exact ih2 e
      · intro a b _ hb
        -- the extension written right after the separator supplies the second byte the check asked for
        simp only [W.bind_eq] at hb ⊢
        unfold W.bind at hb ⊢
        cases hr : (wExt e ((s.written : Int) = (exts.size : Int) - 1)).res with
        | ok u =>
          have := wExt_size _ _ u hr
          simp only [hr] at hb ⊢
          simp only [opsSize_append]; omega
        | err er => simp [hr] at hb
        | oob => simp [hr] at hb
        | abort => simp [hr] at hb
    · exact ih1
  | case2 => exact Nice.pure _

theorem wFramesLoop_nice (exts : Array Ext) (hE : ExtsOk exts) (nbF : Nat) (mx : List Nat) (f : Nat) (s : GSt) :
    Nice 0 (wFramesLoop exts nbF mx f s) := by
  fun_induction wFramesLoop exts nbF mx f s with
  | case1 f s hlt ih =>
    apply Nice.bind0 (Nice.lift _); intro lo _
    apply Nice.bind0 (Nice.lift _); intro hi _
    apply Nice.bind0 (Nice.lift _); intro det _
    apply Nice.bind0 (wFrameLoop_nice exts hE _ _ _ _ _ _); intro s' _
    exact ih s'
  | case2 => exact Nice.pure _

theorem genOps_nice (exts : Array Ext) (hE : ExtsOk exts) (nbF : Nat) : Nice 0 (genOps exts nbF) := by
  unfold genOps
  apply Nice.bind0 (Nice.lift _); intro mm _
  obtain ⟨mn, mx⟩ := mm
  apply Nice.bind0 (wFramesLoop_nice exts hE _ _ _ _); intro s _
  split
  · exact Nice.lift _
  · exact Nice.pure _

/-- Size of a generated buffer (what the C function returns). -/
def resSize : Res (Array Nat) → Res Nat
  | .ok out => .ok out.size
  | .err e => .err e
  | .oob => .oob
  | .abort => .abort

theorem generateDry_eq (len : Int) (exts : Array Ext) (nbFrames : Int) (pad : Bool) :
    generateDry len exts nbFrames pad = resSize (generate true len exts nbFrames pad) := by
  unfold generateDry resSize; split <;> simp [*]

/-- `generate` in closed form. -/
theorem generate_eq (dry : Bool) (len : Int) (exts : Array Ext) (nbFrames : Int) (pad : Bool)
    (hE : ExtsOk exts) (hl : 0 ≤ len) (hn : nbFrames ≤ 48) :
    generate dry len exts nbFrames pad =
      let w := genOps exts nbFrames.toNat
      if needsPass len 0 w.ops then
        match w.res with
        | .ok _ =>
          if pad ∧ (opsSize w.ops : Int) < len then
            .ok (Array.replicate (len - opsSize w.ops).toNat (if dry then 0 else 1) ++ (content dry w.ops).toArray)
          else .ok (content dry w.ops).toArray
        | .err e => .err e
        | .oob => .oob
        | .abort => .abort
      else .err .bufferTooSmall := by
  have hN := genOps_nice exts hE nbFrames.toNat
  have hcl := content_length dry (genOps exts nbFrames.toNat).ops (Or.inr hN.copy)
  unfold generate
  have h1 : ¬ (len < 0) := by omega
  have h2 : ¬ (48 < nbFrames) := by omega
  simp only [h1, h2, if_false]
  rw [runOps_eq dry len _ #[] (Or.inr hN.copy)]
  simp only [List.size_toArray, List.length_nil]
  by_cases hp : needsPass len 0 (genOps exts nbFrames.toNat).ops
  · simp only [hp, if_true]
    have e0 : (#[] : Array Nat) ++ (content dry (genOps exts nbFrames.toNat).ops).toArray
        = (content dry (genOps exts nbFrames.toNat).ops).toArray := by simp
    rw [e0]
    simp only [List.size_toArray, hcl]
    cases (genOps exts nbFrames.toNat).res <;> rfl
  · simp only [hp, if_false]

/-- Dry-run return value = return value when writing, for every `len` and `pad`. -/
theorem generate_dry_eq_written (len : Int) (exts : Array Ext) (nbFrames : Int) (pad : Bool) (hE : ExtsOk exts) :
    generateDry len exts nbFrames pad = resSize (generate false len exts nbFrames pad) := by
  rw [generateDry_eq]
  by_cases hl : 0 ≤ len
  · by_cases hn : nbFrames ≤ 48
    · have hN := genOps_nice exts hE nbFrames.toNat
      have c1 := content_length true (genOps exts nbFrames.toNat).ops (Or.inl rfl)
      have c2 := content_length false (genOps exts nbFrames.toNat).ops (Or.inr hN.copy)
      rw [generate_eq true len exts nbFrames pad hE hl hn, generate_eq false len exts nbFrames pad hE hl hn]
      simp only
      by_cases hp : needsPass len 0 (genOps exts nbFrames.toNat).ops
      · simp only [hp, if_true]
        cases (genOps exts nbFrames.toNat).res with
        | ok u =>
          simp only
          by_cases hpad : pad = true ∧ (opsSize (genOps exts nbFrames.toNat).ops : Int) < len
          · simp only [hpad, and_self, if_true, resSize, Array.size_append, Array.size_replicate, List.size_toArray, c1, c2]
          · simp only [hpad, if_false, resSize, List.size_toArray, c1, c2]
        | err e => rfl
        | oob => rfl
        | abort => rfl
      · simp only [hp, if_false, resSize]
    · unfold generate; have h1 : ¬ (len < 0) := by omega
      have h2 : 48 < nbFrames := by omega
      simp [h1, h2, resSize]
  · unfold generate; have h1 : len < 0 := by omega
    simp [h1, resSize]

theorem generate_ok_args {dry : Bool} {len : Int} {exts : Array Ext} {nbFrames : Int} {pad : Bool} {out : Array Nat}
    (h : generate dry len exts nbFrames pad = .ok out) : 0 ≤ len ∧ nbFrames ≤ 48 := by
  unfold generate at h
  split at h
  · cases h
  · split at h
    · cases h
    · omega

/-- What a successful run tells about the action sequence. -/
theorem generate_ok_inv {dry : Bool} {len : Int} {exts : Array Ext} {nbFrames : Int} {pad : Bool} {out : Array Nat}
    (hE : ExtsOk exts) (h : generate dry len exts nbFrames pad = .ok out) :
    0 ≤ len ∧ nbFrames ≤ 48 ∧ (∃ u, (genOps exts nbFrames.toNat).res = .ok u) ∧
    (opsSize (genOps exts nbFrames.toNat).ops : Int) ≤ len ∧
    out = if pad ∧ (opsSize (genOps exts nbFrames.toNat).ops : Int) < len then
        Array.replicate (len - opsSize (genOps exts nbFrames.toNat).ops).toNat (if dry then 0 else 1) ++
          (content dry (genOps exts nbFrames.toNat).ops).toArray
      else (content dry (genOps exts nbFrames.toNat).ops).toArray := by
  obtain ⟨hl, hn⟩ := generate_ok_args h
  have hN := genOps_nice exts hE nbFrames.toNat
  rw [generate_eq dry len exts nbFrames pad hE hl hn] at h
  simp only at h
  by_cases hp : needsPass len 0 (genOps exts nbFrames.toNat).ops
  · -- all writes were guarded, so the run stayed inside `len`
    have hfit : (opsSize (genOps exts nbFrames.toNat).ops : Int) ≤ len := by
      apply Decidable.byContradiction; intro hc
      exact not_needsPass len _ 0 0 (Int.le_refl _) (by simpa using hl) (hN.grd 0 (Int.le_refl _)) (by simpa using (by omega : len < _)) hp
    cases hr : (genOps exts nbFrames.toNat).res with
    | ok u =>
      simp only [hp, if_true, hr] at h
      refine ⟨hl, hn, ⟨u, rfl⟩, hfit, ?_⟩
      by_cases hc : pad = true ∧ (opsSize (genOps exts nbFrames.toNat).ops : Int) < len
      · rw [if_pos hc] at h ⊢; exact (Res.ok.inj h).symm
      · rw [if_neg hc] at h ⊢; exact (Res.ok.inj h).symm
    | err e => simp [hp, hr] at h
    | oob => simp [hp, hr] at h
    | abort => simp [hp, hr] at h
  · simp [hp] at h

/-- A buffer of exactly the dry-run size suffices (in both modes, with or without padding request),
    and every smaller buffer is refused with `OPUS_BUFFER_TOO_SMALL`. -/
theorem generate_exact_and_smaller {dry : Bool} {len : Int} {exts : Array Ext} {nbFrames : Int} {out : Array Nat}
    (hE : ExtsOk exts) (h : generate dry len exts nbFrames false = .ok out) :
    (∀ dry' pad', ∃ out', generate dry' out.size exts nbFrames pad' = .ok out' ∧ out'.size = out.size ∧
        (dry' = dry → out' = out)) ∧
    (∀ (m : Int) dry' pad', 0 ≤ m → m < out.size → generate dry' m exts nbFrames pad' = .err .bufferTooSmall) := by
  obtain ⟨hl, hn, ⟨u, hu⟩, _, hout⟩ := generate_ok_inv hE h
  have hN := genOps_nice exts hE nbFrames.toNat
  simp only [Bool.false_eq_true, false_and, if_false] at hout
  have hsz : out.size = opsSize (genOps exts nbFrames.toNat).ops := by
    rw [hout, List.size_toArray, content_length dry _ (Or.inr hN.copy)]
  constructor
  · intro dry' pad'
    rw [generate_eq dry' out.size exts nbFrames pad' hE (by omega) hn]
    have hp : needsPass (out.size : Int) 0 (genOps exts nbFrames.toNat).ops :=
      needsPass_of_req _ _ 0 (by have := hN.hon u hu; rw [hsz]; push_cast; omega)
    have hnp : ¬ (pad' = true ∧ (opsSize (genOps exts nbFrames.toNat).ops : Int) < (out.size : Int)) := by
      rw [hsz]; omega
    simp only [hp, if_true, hu, hnp, if_false]
    refine ⟨_, rfl, ?_, ?_⟩
    · simp only [List.size_toArray]
      rw [content_length dry' _ (Or.inr hN.copy), hsz]
    · intro hd; subst hd; exact hout.symm
  · intro m dry' pad' h0 hm
    rw [generate_eq dry' m exts nbFrames pad' hE h0 hn]
    have hp : ¬ needsPass m 0 (genOps exts nbFrames.toNat).ops :=
      not_needsPass m _ 0 0 (Int.le_refl _) (by simpa using h0) (hN.grd 0 (Int.le_refl _)) (by rw [← hsz]; simpa using hm)
    simp only [hp, if_false]

/-- Whatever happens (success, `BUFFER_TOO_SMALL`, `BAD_ARG`), the generator writes nothing at an
    index `≥ len`: the write log of the run stays inside the buffer. -/
theorem generate_log_within (dry : Bool) (len : Int) (exts : Array Ext) (nbF : Nat) (hE : ExtsOk exts) (hl : 0 ≤ len) :
    ((runOpsLog dry len (genOps exts nbF).ops #[]).size : Int) ≤ len :=
  runOpsLog_within dry len _ #[] 0 (Int.le_refl _) (by simpa using hl) ((genOps_nice exts hE nbF).grd 0 (Int.le_refl _))

/-- A returned buffer (padded or not) has at most `len` bytes. -/
theorem generate_size_le {dry : Bool} {len : Int} {exts : Array Ext} {nbFrames : Int} {pad : Bool} {out : Array Nat}
    (hE : ExtsOk exts) (h : generate dry len exts nbFrames pad = .ok out) : (out.size : Int) ≤ len := by
  obtain ⟨_, _, _, hfit, hout⟩ := generate_ok_inv hE h
  have hcl := content_length dry _ (Or.inr (genOps_nice exts hE nbFrames.toNat).copy)
  rw [hout]
  split
  · simp only [Array.size_append, Array.size_replicate, List.size_toArray, hcl]; omega
  · simp only [List.size_toArray, hcl]; exact hfit

end Opus.ExtProofs
