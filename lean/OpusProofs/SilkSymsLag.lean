import OpusProofs.SilkSymsHistory
/-
  C03: a packet-level bound on the pitch-lag index.  A conditionally coded frame follows a frame of the same pass
  over the payload (`silkCalls_mem`), so frame `fi` of a pass is at most `fi` steps of −8…+11 away from an absolute
  lag in `[0, 255]`.
-/
namespace Opus.SilkSymsProofs
open Opus Opus.RangeCoder Opus.SilkSyms

def LagEv (d : Nat) : Ev → Prop
  | .indices _ _ _ _ _ _ _ _ ix => ix.signalType = 2 → -(8 * (d : Int)) ≤ ix.lagIndex ∧ ix.lagIndex ≤ 255 + 11 * (d : Int)
  | _ => True

def LagEvs (d : Nat) (l : List Ev) : Prop := ∀ e ∈ l, LagEv d e

/-- After a voiced frame, `d` conditional steps behind an absolutely coded one, the lag lies in `[-8d, 255 + 11d]`.
    `LagEv d (.indices … ix)` is `LagIn d ix.signalType ix.lagIndex`. -/
def LagIn (d : Nat) (sig : Nat) (lag : Int) : Prop := sig = 2 → -(8 * (d : Int)) ≤ lag ∧ lag ≤ 255 + 11 * (d : Int)

theorem LagIn.mono {d d' sig : Nat} {lag : Int} (h : LagIn d sig lag) (hd : d ≤ d') : LagIn d' sig lag :=
  fun hs => by have := h hs; omega

theorem LagEv.mono {d d' : Nat} {e : Ev} (h : LagEv d e) (hd : d ≤ d') : LagEv d' e := by
  cases e with
  | indices _ _ _ _ _ _ _ _ ix => exact LagIn.mono (sig := ix.signalType) h hd
  | _ => trivial

theorem LagEvs.mono {d d' : Nat} {l : List Ev} (h : LagEvs d l) (hd : d ≤ d') : LagEvs d' l :=
  fun e he => (h e he).mono hd

/-- The absolute lag index stays below `32 · (16 / 2)` (the bound of `IndicesOk.lag`, as it is written there). -/
theorem lagAbs_le (rate : Rate) : (32 : Int) * ((rate.kHz : Int) / 2) ≤ 256 := by cases rate <;> decide

/-- The lag memory in front of frame `d` of a pass, where that frame can be coded conditionally (never frame 0). -/
def LagMem : Nat → Nat → Int → Prop
  | 0, _, _ => False
  | d + 1, sig, lag => LagIn d sig lag

/-- One frame: an absolutely coded lag lies in `[0, 255]`, a conditionally coded one within −8…+11 of the memory. -/
theorem memStep_lag (cfg : Cfg) (hnb : 1 ≤ cfg.nbSubfr) :
    MemStep cfg LagMem (fun fi ix => LagIn fi ix.signalType ix.lagIndex) := by
  intro n fi lb cc ch c hl
  unfold decodeOne decodeOneCore
  generalize hix : decodeIndices cfg.rate cfg.nbSubfr (decide (lb ≠ 0 ∨ ch.vad.getD fi 0 ≠ 0)) cc
    (if cc = 2 then ch.ecPrevSignalType else 0) (if cc = 2 ∧ ch.ecPrevSignalType = 2 then ch.ecPrevLagIndex else 0) c = z
  obtain ⟨ix0, c1⟩ := z
  have hi := decodeIndices_ok cfg.rate cfg.nbSubfr hnb _ cc _ _ c ix0 c1 hix
  have key : LagIn fi ix0.signalType ix0.lagIndex := by
    intro hs
    rcases hi.lag hs with ⟨h0, h1⟩ | ⟨hc2, hps, h0, h1⟩
    · have := lagAbs_le cfg.rate
      omega
    · rw [if_pos hc2] at hps
      rw [if_pos ⟨hc2, hps⟩] at h0 h1
      cases fi with
      | zero => exact absurd (hl hc2) id
      | succ d =>
        have := hl hc2 hps
        push_cast
        omega
  refine ⟨.cons ⟨Nat.lt_succ_self fi, key⟩ (.cons trivial .nil), fun hs => ?_⟩
  have hs' : ix0.signalType = 2 := hs
  show _ ≤ (if ix0.signalType = 2 then ix0.lagIndex else _) ∧ (if ix0.signalType = 2 then ix0.lagIndex else _) ≤ _
  rw [if_pos hs']
  exact key hs'

theorem lagEvs_of {b : Nat} {l : List Ev} (h : EvsIx (fun fi ix => LagIn fi ix.signalType ix.lagIndex) (b + 1) l) :
    LagEvs b l := by
  intro e he
  have := h e he
  cases e with
  | indices _ fi _ _ _ _ _ _ ix => exact LagIn.mono (sig := ix.signalType) this.2 (by have := this.1; omega)
  | _ => trivial

/-- Every lag index of a payload lies in `[-8·(nfpp-1), 255 + 11·(nfpp-1)]`, whatever the incoming decoder state. -/
theorem decodeOpusFrameCfg_lag (mode ir pm : Nat) (fec : Bool) (cfg : Cfg) (hnb : 1 ≤ cfg.nbSubfr)
    (hN : cfg.nCh = 1 ∨ cfg.nCh = 2) (hL : cfg.lostFlag = 0 ∨ cfg.lostFlag = 2) (st : SilkSt) (fr : Bytes) :
    LagEvs (cfg.nfpp - 1) (decodeOpusFrameCfg mode ir pm fec cfg st fr).evs := by
  unfold decodeOpusFrameCfg
  by_cases h0 : cfg.nfpp = 0
  · rw [h0]; exact fun _ h => by cases h
  · apply lagEvs_of
    rw [show cfg.nfpp - 1 + 1 = cfg.nfpp by omega]
    exact (silkCalls_mem (memStep_lag cfg hnb) hN hL (Nat.le_refl _) cfg.nfpp (Nat.le_refl _) st st _).ev

/-- `nFramesPerPacket ≤ 3`: every lag index lies in `[-16, 277]`. -/
theorem decodeOpusFrame_lag (mode bw nCh ms10 : Nat) (hN : nCh = 1 ∨ nCh = 2) (fec : Bool) (st : SilkSt) (fr : Bytes)
    (o : FrameOut) (h : decodeOpusFrame mode bw nCh ms10 fec st fr = .ok o) : LagEvs 2 o.evs := by
  obtain ⟨ir, pm, cfg, rfl, hc, hnb, hf, hL⟩ := decodeOpusFrame_cfg h
  exact (decodeOpusFrameCfg_lag mode ir pm fec cfg hnb (hc ▸ hN) hL st fr).mono (by omega)

theorem flagsEv_lag (d : Nat) (ch : Nat) (v : List Nat) (l : Nat) (f : List Nat) : LagEv d (.flags ch v l f) := trivial

/-- Lag bound for one frame record of a packet: `6`, i.e. `[-48, 321]`, is what `silkSyms_lag_index_packet_bound`
    (OpusProps/C03.lean) states; `decodeOpusFrame_lag` has `LagEvs 2`. -/
def FrameResLag : FrameRes → Prop
  | .silk _ o => LagEvs 6 o.evs
  | _ => True

end Opus.SilkSymsProofs
