import OpusModel.MsEncode
import OpusProofs.LayoutMs
import OpusProofs.RepackMs
/-
  OpusProofs.MsEncode — the stream loop of `opus_multistream_encode_native` emits
  `serialize true p₁ ++ … ++ serialize false pₙ` (C10 `ms_encode_packet_structure`), on top of the
  repacketizer theorems of C07 (`cat_first`, `outRangeImpl_noext`, `outPacket_*`, `minSize_minimal`)
  and the decoder-side `msPacketValidate_msSerialize` of `OpusProofs.LayoutMs`.
-/
namespace Opus.MsEncode
open Opus Opus.Framing Opus.FramingSpec Opus.Repack Opus.RepackProofs Opus.LayoutSpec

/-- What the per-stream encoder is assumed to deliver (C02's contract for `opus_encode_native`,
    plus C07's `emitted_padding_ext_free` for the padding it writes): whenever it succeeds, a valid packet
    in standard framing of the common duration, no longer than `curr_max`, whose padding (if any) holds
    no extensions. -/
def EncContract (fs frameSize : Nat) (enc : Nat → Int → Res Bytes) : Prop :=
  ∀ s cm pk, enc s cm = .ok pk →
    ∃ p, Valid p ∧ PadFree p ∧ pk = serialize false p ∧ duration fs p = frameSize ∧ (pk.length : Int) ≤ cm

/-- The oracle itself neither reads out of bounds nor aborts (those outcomes belong to C01/C02). -/
def EncTotal (enc : Nat → Int → Res Bytes) : Prop := ∀ s cm, enc s cm ≠ .oob ∧ enc s cm ≠ .abort

/-- Self-delimiting framing costs the length field of the last frame: one byte, two from 252 bytes on. -/
theorem minSize_sd (lens : List Nat) :
    minSize true lens = minSize false lens + (if 252 ≤ lens.getLastD 0 then 2 else 1) := by
  match lens with
  | [] => simp [minSize, tot3, isVbr, sdSize]
  | [l0] => simp [minSize, sdSize]; split <;> omega
  | [l0, l1] => simp only [minSize, sdSize, List.getLastD_cons, List.getLastD_nil]; split <;> simp <;> split <;> omega
  | a :: b :: c :: r => simp only [minSize, tot3, sdSize]; split <;> simp <;> split <;> omega

theorem mem_flatten_length_le (f : Bytes) : ∀ (fs : List Bytes), f ∈ fs → f.length ≤ fs.flatten.length
  | [], h => by cases h
  | g :: gs, h => by
    simp only [List.flatten_cons, List.length_append]
    rcases List.mem_cons.1 h with e | e
    · subst e; omega
    · have := mem_flatten_length_le f gs e; omega

theorem frame_lt_serialize (p : Packet) (f : Bytes) (hf : f ∈ p.frames) : f.length < (serialize false p).length := by
  have h1 : f.length ≤ p.frames.flatten.length := mem_flatten_length_le f _ hf
  have h2 : 1 ≤ (header false p).length := by simp [header]
  simp only [serialize, List.length_append]; omega

theorem lastLen_lt (p : Packet) (hv : Valid p) : p.lens.getLastD 0 + 1 ≤ (serialize false p).length := by
  have hne := valid_ne p hv
  have hl : p.lens ≠ [] := by simp [Packet.lens, hne]
  rw [List.getLastD_eq_getLast?, List.getLast?_eq_some_getLast hl]
  simp only [Option.getD_some]
  have hm : p.lens.getLast hl ∈ p.lens := List.getLast_mem hl
  obtain ⟨f, hf, hfl⟩ := List.mem_map.1 hm
  have := frame_lt_serialize p f hf
  omega

/-- One stream: what `cat` + `out_range_impl` make of a packet that meets the contract. -/
theorem stream_step (fs frameSize : Nat) (p : Packet) (hv : Valid p) (hpf : PadFree p) (hd : duration fs p = frameSize)
    (maxlen : Int) (sd pad : Bool) (hfit : minSize sd p.lens ≤ maxlen) :
    cat Rp.empty (serialize false p) = (firstState p, .ok ()) ∧
    ∃ q, outRangeImpl (firstState p) 0 (firstState p).nbFrames maxlen sd pad #[] = .ok (serialize sd q) ∧
      Valid q ∧ duration fs q = frameSize ∧
      ((serialize sd q).length : Int) = (if pad then maxlen else minSize sd p.lens) := by
  have hcat := cat_first false p hv [] (fun _ => rfl)
  simp only [List.append_nil] at hcat
  refine ⟨hcat, ?_⟩
  have hne := valid_ne p hv
  have hnb : (firstState p).nbFrames = p.frames.length := rfl
  have hpos : 0 < p.frames.length := List.length_pos_iff.mpr hne
  have hsel : selFrames (firstState p) 0 (firstState p).nbFrames = p.frames := selFrames_all _
  have hno := outRangeImpl_noext (firstState p) 0 (firstState p).nbFrames (by rw [hnb]; exact hpos) (Nat.le_refl _)
    (extFree_firstState p hpf) maxlen sd pad
  rw [hsel] at hno
  have hlens : p.frames.map List.length = p.lens := rfl
  rw [hlens, if_neg (by omega)] at hno
  have hok : FramesOk p.toc p.frames := ⟨hv.toc_byte, hne, hv.frame_max, valid_dur p hv⟩
  refine ⟨outPacket (firstState p).toc p.frames maxlen sd pad, by exact_mod_cast hno, ?_, ?_, ?_⟩
  · exact outPacket_valid _ _ hok _ _ _ (by rw [hlens]; omega)
  · unfold duration
    have ht : (firstState p).toc = p.toc := rfl
    rw [ht, outPacket_frames, (FramingProofs.toc_helpers_congr _ p.toc fs (outPacket_toc _ _ _ _ _)).2.2.1]
    exact hd
  · exact outPacket_len _ _ hne _ _ _ (by rw [hlens]; omega)

/-- The budget handed to a stream leaves room for the self-delimiting length the repacketizer adds. -/
theorem currMax_leaves_room (n s : Nat) (hs : s < n) (fs100 : Bool) (maxData tot : Int) (p : Packet) (hv : Valid p)
    (hlen : ((serialize false p).length : Int) ≤ currMax n s fs100 maxData tot) :
    minSize (decide (s + 1 ≠ n)) p.lens ≤ maxData - tot := by
  have hmin := minSize_minimal false p hv
  unfold currMax at hlen
  simp only at hlen
  generalize hc3 : min (if fs100 = true then maxData - tot - max 0 (2 * ((n : Int) - s - 1) - 1) - ((n : Int) - s - 1)
      else maxData - tot - max 0 (2 * ((n : Int) - s - 1) - 1)) MS_FRAME_TMP = c3 at hlen
  have hc3le : c3 ≤ maxData - tot := by
    rw [← hc3]
    split <;> omega
  by_cases hlast : s + 1 = n
  · simp only [hlast, ne_eq, not_true_eq_false, decide_false] at hlen ⊢
    rw [if_neg (by simp)] at hlen
    omega
  · simp only [hlast, ne_eq, not_false_eq_true, decide_true, if_true] at hlen ⊢
    rw [minSize_sd]
    by_cases h253 : c3 > 253
    · rw [if_pos h253] at hlen; split <;> omega
    · rw [if_neg h253] at hlen
      have hlastf := lastLen_lt p hv
      rw [if_neg (by omega)]; omega

/-- **One successful iteration of the stream loop**: a stream whose encoder returns, within `curr_max`, a valid packet `p`
    with extension-free padding.  `cat` and `out_range_impl` emit a valid packet `q` of the same duration, self-delimited but
    for the last stream, of minimal size (the last stream of a CBR packet: all that is left), and the loop goes on. -/
theorem loop_step (n fs frameSize : Nat) (fs100 vbr : Bool) (maxData : Int) (enc : Nat → Int → Res Bytes) (k s : Nat) (tot : Int)
    (acc : Bytes) (hs : s < n) (p : Packet) (hv : Valid p) (hpf : PadFree p) (hd : duration fs p = frameSize)
    (henc : enc s (currMax n s fs100 maxData tot) = .ok (serialize false p))
    (hlen : ((serialize false p).length : Int) ≤ currMax n s fs100 maxData tot) :
    ∃ q : Packet, Valid q ∧ duration fs q = frameSize ∧
      loop n fs100 vbr maxData enc (k + 1) s tot acc =
        loop n fs100 vbr maxData enc k (s + 1) (tot + ((serialize (decide (s + 1 ≠ n)) q).length : Nat))
          (acc ++ serialize (decide (s + 1 ≠ n)) q) ∧
      minSize (decide (s + 1 ≠ n)) p.lens ≤ maxData - tot ∧
      ((serialize (decide (s + 1 ≠ n)) q).length : Int) =
        (if (!vbr && decide (s + 1 = n)) = true then maxData - tot else minSize (decide (s + 1 ≠ n)) p.lens) := by
  have hfit := currMax_leaves_room n s hs fs100 maxData tot p hv hlen
  obtain ⟨hcat, q, hout, hvq, hdq, hlq⟩ := stream_step fs frameSize p hv hpf hd (maxData - tot)
    (decide (s + 1 ≠ n)) (!vbr && decide (s + 1 = n)) hfit
  refine ⟨q, hvq, hdq, ?_, hfit, hlq⟩
  rw [loop, henc]
  simp only [hcat, hout]

/-- Loop invariant → result: with `pre` the packets of the streams already written. -/
theorem loop_spec (n : Nat) (fs frameSize : Nat) (fs100 vbr : Bool) (maxData : Int) (enc : Nat → Int → Res Bytes)
    (hc : EncContract fs frameSize enc) (ht : EncTotal enc) :
    ∀ (k s : Nat) (pre : List Packet) (tot : Int), s + k = n → 0 < k → pre.length = s → (∀ p ∈ pre, Valid p) →
      (∀ p ∈ pre, duration fs p = frameSize) → tot = ((pre.flatMap (serialize true)).length : Int) →
      (∀ out, loop n fs100 vbr maxData enc k s tot (pre.flatMap (serialize true)) = .ok out →
        ∃ ps, ps.length = n ∧ (∀ p ∈ ps, Valid p) ∧ (∀ p ∈ ps, duration fs p = frameSize) ∧
          out = LayoutSpec.msSerialize ps ∧ (out.length : Int) ≤ maxData ∧ (vbr = false → (out.length : Int) = maxData)) ∧
      loop n fs100 vbr maxData enc k s tot (pre.flatMap (serialize true)) ≠ .abort ∧
      loop n fs100 vbr maxData enc k s tot (pre.flatMap (serialize true)) ≠ .oob
  | 0, _, _, _, _, hk, _, _, _, _ => absurd hk (by omega)
  | k + 1, s, pre, tot, hsk, _, hlen, hval, hdur, htot => by
    cases henc : enc s (currMax n s fs100 maxData tot) with
    | err e =>
      have : loop n fs100 vbr maxData enc (k + 1) s tot (pre.flatMap (serialize true)) = .err e := by rw [loop, henc]
      rw [this]
      exact ⟨fun out h => (by cases h), (by intro h; cases h), (by intro h; cases h)⟩
    | oob => exact absurd henc (ht _ _).1
    | abort => exact absurd henc (ht _ _).2
    | ok pk =>
      obtain ⟨p, hv, hpf, hpk, hd, hle⟩ := hc s _ pk henc
      subst hpk
      obtain ⟨q, hvq, hdq, hstep, hfit, hlq⟩ := loop_step n fs frameSize fs100 vbr maxData enc k s tot
        (pre.flatMap (serialize true)) (by omega) p hv hpf hd henc hle
      rw [hstep]
      have hvalid' : ∀ x ∈ pre ++ [q], Valid x := List.forall_mem_append.2 ⟨hval, List.forall_mem_singleton.2 hvq⟩
      have hdur' : ∀ x ∈ pre ++ [q], duration fs x = frameSize :=
        List.forall_mem_append.2 ⟨hdur, List.forall_mem_singleton.2 hdq⟩
      by_cases hlast : s + 1 = n
      · have hk0 : k = 0 := by omega
        subst hk0
        simp only [hlast, ne_eq, not_true_eq_false, decide_false, decide_true, Bool.and_true] at hlq hfit ⊢
        refine ⟨fun out h => ?_, by simp [loop], by simp [loop]⟩
        simp only [loop, Res.ok.injEq] at h
        subst h
        refine ⟨pre ++ [q], by simp; omega, hvalid', hdur', (Layout.msSerialize_snoc pre q).symm, ?_, ?_⟩
        · simp only [List.length_append]; push_cast
          cases vbr <;> simp at hlq <;> omega
        · intro hvbr; subst hvbr
          simp only [List.length_append]; push_cast
          simp at hlq; omega
      · simp only [hlast, ne_eq, not_false_eq_true, decide_true, decide_false, Bool.and_false] at hlq ⊢
        have hflat : pre.flatMap (serialize true) ++ serialize true q = (pre ++ [q]).flatMap (serialize true) := by simp
        rw [hflat]
        exact loop_spec n fs frameSize fs100 vbr maxData enc hc ht k (s + 1) (pre ++ [q]) _ (by omega) (by omega)
          (by simp; omega) hvalid' hdur' (by rw [← hflat]; simp only [List.length_append]; push_cast; omega)

theorem cbrClamp_le (n : Nat) (fs100 vbr : Bool) (fs frameSize : Nat) (bitrate : Option Int) (maxData : Int) :
    cbrClamp n fs100 vbr fs frameSize bitrate maxData ≤ maxData := by
  unfold cbrClamp
  split
  · exact Int.le_refl _
  · split
    · exact Int.le_refl _
    · exact Int.min_le_left _ _

end Opus.MsEncode
