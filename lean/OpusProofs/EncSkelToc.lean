import OpusProofs.EncSkelNative
import OpusProofs.EncSkelTocTable
/-
  OpusProofs.EncSkelToc — the ToC of the low-budget path (C02): `low_plan` says which (mode, rate, count) the path
  picks for each frame duration, and `lowToc_wf` reads the ToC facts off the table of OpusProofs/EncSkelTocTable.lean.
  Durations are counted in units of 2.5 ms: a frame of `k` units has `k · Fs/400` samples and frame rate `400 / k`,
  whatever `Fs`.
-/
namespace Opus.EncSkel.Proofs
open Opus Opus.EncDecide Opus.EncSkel

/-- A state with the four fields the low-budget ToC reads (`Fs`, stale `mode`, `bandwidth`, `stream_channels`). -/
def lowSt (fs mode bw ch : Int) : St := { (default : St) with fs, mode, bandwidth := bw, streamChannels := ch }

/-- Does the byte string parse (standard framing) to `count` empty frames of `spf` samples each with
    `count * spf = fsz`? -/
def parsesTo (bs : Bytes) (fs : Nat) (fsz : Int) : Bool :=
  match Framing.parseImpl false bs with
  | .ok r => decide ((r.count : Int) * Framing.samplesPerFrame r.toc fs = fsz) && r.sizes.all (· == 0) && decide (r.count = r.sizes.length)
  | _ => false

/-- A code-0 packet (`toc` with code bits 00, then the frame) parses to that one frame. -/
theorem parse_code0 (toc : Nat) (payload : Bytes) (h4 : toc % 4 = 0) (hl : payload.length ≤ 1275) :
    Framing.parseImpl false (toc :: payload) =
      .ok { toc, count := 1, sizes := [payload.length], payloadOffset := 1, padLen := 0,
            packetOffset := payload.length + 1 } := by
  unfold Framing.parseImpl Framing.parseHdr
  simp only [h4, if_true]
  unfold Framing.finish
  simp only [Bool.false_eq_true, if_false]
  rw [if_neg (by omega)]
  simp [Framing.mkParsed, sumN]
  omega

/-- **What the low-budget path announces**, for a frame of `k` units of 2.5 ms: `n` frames of `j` units with `n·j = k`,
    `j` a duration the ToC mode can code.  Up to 20 ms one frame; 40 ms is one SILK frame or two 20 ms frames; 60, 80,
    120 ms are 1×60, 2×40, 2×60 ms SILK frames when the mode is SILK-only or there is one byte only, otherwise — and
    always for 100 ms — 3 to 6 frames of 20 ms under a code-3 header. -/
theorem low_plan (s : St) (fsz out k : Int)
    (hk : k = 1 ∨ k = 2 ∨ k = 4 ∨ k = 8 ∨ k = 16 ∨ k = 24 ∨ k = 32 ∨ k = 40 ∨ k = 48)
    (hfr : s.fs / fsz = 400 / k) (hm : s.mode = 0 ∨ (1000 ≤ s.mode ∧ s.mode ≤ 1002))
    (hne : ¬ (out = 1 ∧ k = 40)) :
    ∃ n j : Int, n * j = k ∧ lowTocRate s fsz out = 400 / j ∧ DurOk (lowTocMode s fsz out) j ∧
      ((n = 1 ∧ lowCode s fsz out = 0) ∨ (n = 2 ∧ lowCode s fsz out = 1) ∨
       (3 ≤ n ∧ n ≤ 6 ∧ lowCode s fsz out = 3 ∧ lowNumMulti s fsz out = n)) := by
  have hM : lowMode0 s fsz = 1000 ∨ lowMode0 s fsz = 1001 ∨ lowMode0 s fsz = 1002 := by
    unfold lowMode0; simp only [MODE_SILK_ONLY, MODE_CELT_ONLY]; split
    · omega
    · split <;> omega
  have hM2 : 100 < s.fs / fsz → lowMode0 s fsz = 1002 := by
    intro h; unfold lowMode0; rw [if_pos h]
  unfold DurOk lowTocRate lowTocMode lowCode lowNumMulti lowC1 lowToSilk
  simp only [MODE_SILK_ONLY]
  generalize lowMode0 s fsz = M at *
  rw [hfr] at hM2 ⊢
  clear hfr hm
  rcases hk with rfl | rfl | rfl | rfl | rfl | rfl | rfl | rfl | rfl
  · refine ⟨1, 1, ?_⟩; norm_num at hM2 ⊢; omega
  · refine ⟨1, 2, ?_⟩; norm_num at hM2 ⊢; omega
  · refine ⟨1, 4, ?_⟩; norm_num; omega
  · refine ⟨1, 8, ?_⟩; norm_num; omega
  · by_cases h : M = 1000
    · refine ⟨1, 16, ?_⟩; norm_num [h]
    · refine ⟨2, 8, ?_⟩; norm_num [h]; omega
  · by_cases h : out = 1 ∨ M = 1000
    · refine ⟨1, 24, ?_⟩; norm_num [h]
    · refine ⟨3, 8, ?_⟩; norm_num [h]; omega
  · by_cases h : out = 1 ∨ M = 1000
    · refine ⟨2, 16, ?_⟩; norm_num [h]
    · refine ⟨4, 8, ?_⟩; norm_num [h]; omega
  · have h : ¬ out = 1 := fun h => hne ⟨h, rfl⟩
    refine ⟨5, 8, ?_⟩; norm_num [h]; omega
  · by_cases h : out = 1 ∨ M = 1000
    · refine ⟨2, 24, ?_⟩; norm_num [h]
    · refine ⟨6, 8, ?_⟩; norm_num [h]; omega

theorem lowTocBw_for (s : St) (fsz out : Int)
    (hb : s.bandwidth = 0 ∨ (1101 ≤ s.bandwidth ∧ s.bandwidth ≤ 1105)) :
    BwFor (lowTocMode s fsz out) (lowTocBw s fsz out) := by
  unfold BwFor lowTocBw
  simp only [BW_NB, BW_MB, BW_WB, BW_SWB, MODE_SILK_ONLY, MODE_HYBRID, MODE_CELT_ONLY]
  generalize lowTocMode s fsz out = m
  have hb' : 1101 ≤ (if s.bandwidth = 0 then 1101 else s.bandwidth) ∧ (if s.bandwidth = 0 then 1101 else s.bandwidth) ≤ 1105 := by
    split <;> omega
  generalize (if s.bandwidth = 0 then (1101 : Int) else s.bandwidth) = b at *
  refine ⟨fun h => ?_, fun h => ?_, fun h => ?_⟩ <;> subst h <;> (repeat' split) <;> omega

/-- The ToC-only packet of the low-budget path, for any state: a ToC with code bits 00 announcing a
    legal frame duration, as many empty frames as make up the submitted frame size, and the header
    the repacketiser contract writes for them. -/
theorem lowToc_wf (s : St) (fsz out : Int)
    (hfs : s.fs = 8000 ∨ s.fs = 12000 ∨ s.fs = 16000 ∨ s.fs = 24000 ∨ s.fs = 48000)
    (hlg : legalFrame s.fs fsz = true)
    (hmode : s.mode = 0 ∨ (MODE_SILK_ONLY ≤ s.mode ∧ s.mode ≤ MODE_CELT_ONLY))
    (hbw : s.bandwidth = 0 ∨ (BW_NB ≤ s.bandwidth ∧ s.bandwidth ≤ BW_FB))
    (hne : ¬ (out = 1 ∧ s.fs = fsz * 10)) :
    (lowBudgetToc s fsz out).1 % 4 = 0 ∧ (lowBudgetToc s fsz out).1 < 256 ∧
    FramingSpec.frameDur48 (lowBudgetToc s fsz out).1 * (lowLens s fsz out).length ≤ 5760 ∧
    ((lowLens s fsz out).length : Int) * Framing.samplesPerFrame (lowBudgetToc s fsz out).1 s.fs.toNat = fsz ∧
    outRange (lowBudgetToc s fsz out).1 (lowLens s fsz out) (lowRet0 s fsz out).toNat false =
      .ok { size := (lowRet0 s fsz out).toNat, hdr := lowHdr0 s fsz out } := by
  obtain ⟨q, k, hq0, hq, hk, hk9⟩ := legal_units s.fs fsz hfs hlg
  have hfr : s.fs / fsz = 400 / k := by rw [hq, hk]; exact Int.mul_ediv_mul_of_pos_left _ _ hq0
  have hne' : ¬ (out = 1 ∧ k = 40) := fun ⟨h1, h2⟩ => hne ⟨h1, by rw [hq, hk, h2]; omega⟩
  simp only [MODE_SILK_ONLY, MODE_CELT_ONLY, BW_NB, BW_FB] at hmode hbw
  obtain ⟨n, j, hnj, hR, hd, hshape⟩ := low_plan s fsz out k hk9 hfr hmode hne'
  have hn : s.fs.toNat ∈ [8000, 12000, 16000, 24000, 48000] := by
    rcases hfs with h | h | h | h | h <;> rw [h] <;> decide
  obtain ⟨t1, t2, t3, t4⟩ := toc_units (lowTocMode s fsz out) j (lowTocBw s fsz out) s.streamChannels q s.fs.toNat hn
    (by omega) hd (lowTocBw_for s fsz out hbw)
  rw [← hR] at t1 t2 t3 t4
  change (lowBudgetToc s fsz out).1 % 4 = 0 at t1
  change (lowBudgetToc s fsz out).1 < 256 at t2
  change (Framing.samplesPerFrame (lowBudgetToc s fsz out).1 s.fs.toNat : Int) = j * q at t3
  change (FramingSpec.frameDur48 (lowBudgetToc s fsz out).1 : Int) = 120 * j at t4
  unfold lowHdr0 lowRet0 lowLens
  generalize (lowBudgetToc s fsz out).1 = toc at *
  have hz := outRange_zeros toc n.toNat
  have dur : ∀ N : Nat, (N : Int) = n → FramingSpec.frameDur48 toc * N ≤ 5760 ∧ (N : Int) * Framing.samplesPerFrame toc s.fs.toNat = fsz := by
    intro N hN
    have e : ((FramingSpec.frameDur48 toc * N : Nat) : Int) = 120 * (n * j) := by push_cast; rw [t4, hN]; ring
    refine ⟨by omega, ?_⟩
    rw [hN, t3, hk, ← hnj]; ring
  rcases hshape with ⟨rfl, hc⟩ | ⟨rfl, hc⟩ | ⟨h3, h6, hc, hm⟩
  · rw [hc]
    exact ⟨t1, t2, (dur 1 rfl).1, (dur 1 rfl).2, hz.1⟩
  · rw [hc]
    exact ⟨t1, t2, (dur 2 rfl).1, (dur 2 rfl).2, hz.2.1⟩
  · rw [hc, hm]
    have hl : (List.replicate n.toNat 0).length = n.toNat := List.length_replicate
    simp only [show ¬ (3 : Int) = 0 by decide, show ¬ (3 : Int) = 1 by decide, show ¬ (3 : Int) ≤ 1 by decide, if_false, if_true]
    rw [hl]
    exact ⟨t1, t2, (dur n.toNat (by omega)).1, (dur n.toNat (by omega)).2, hz.2.2 (by omega)⟩

end Opus.EncSkel.Proofs
