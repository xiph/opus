import OpusModel.Kernels
import OpusModel.Gen.DispatchTables
/-
  OpusProofs.KernelsDispatch — the arch-selection decision list and the shape of the regenerated RTCD tables.
-/
namespace Opus.Kernels
open Opus.Gen

theorem selectArchImpl_le (f : CpuFeature) : selectArchImpl f ≤ 4 := by
  unfold selectArchImpl; split <;> (try split) <;> (try split) <;> (try split) <;> omega

/-- the level is the number of leading available feature sets SSE, SSE2, SSE4.1, AVX2. -/
theorem selectArchImpl_spec (f : CpuFeature) :
    (1 ≤ selectArchImpl f ↔ f.sse = true) ∧
    (2 ≤ selectArchImpl f ↔ (f.sse = true ∧ f.sse2 = true)) ∧
    (3 ≤ selectArchImpl f ↔ (f.sse = true ∧ f.sse2 = true ∧ f.sse41 = true)) ∧
    (4 ≤ selectArchImpl f ↔ (f.sse = true ∧ f.sse2 = true ∧ f.sse41 = true ∧ f.avx2 = true)) := by
  obtain ⟨a, b, c, d⟩ := f
  cases a <;> cases b <;> cases c <;> cases d <;> simp [selectArchImpl]

theorem selectArch_eq_min (f : CpuFeature) (c : Nat) : selectArch f (some c) = min c (selectArchImpl f) := by
  unfold selectArch; simp only []; split <;> omega

theorem selectArch_none (f : CpuFeature) : selectArch f none = selectArchImpl f := rfl

/-- AVX2 is only reported when leaf 1 announces AVX and FMA, leaf 7 exists and announces AVX2. -/
theorem cpuFeatureCheck_avx2 (nIds ecx1 edx1 ebx7 : Nat) :
    (cpuFeatureCheck nIds ecx1 edx1 ebx7).avx2 = true ↔
      (7 ≤ nIds ∧ bit ecx1 28 = true ∧ bit ecx1 12 = true ∧ bit ebx7 5 = true) := by
  unfold cpuFeatureCheck
  by_cases h1 : nIds ≥ 1
  · simp only [h1, if_true]
    by_cases h7 : nIds ≥ 7
    · cases bit ecx1 28 <;> cases bit ecx1 12 <;> cases bit ebx7 5 <;> simp [h7] <;> omega
    · cases bit ecx1 28 <;> cases bit ecx1 12 <;> simp [h7] <;> omega
  · simp only [h1, if_false]; constructor
    · intro h; cases h
    · intro h; omega

theorem selectArch_le (f : CpuFeature) (cap : Option Nat) : selectArch f cap ≤ selectArchImpl f := by
  cases cap with
  | none => exact Nat.le_refl _
  | some c => rw [selectArch_eq_min]; exact Nat.min_le_right _ _

/-- the CPU has every feature set up to level `l` (1 = SSE, 2 = SSE2, 3 = SSE4.1, 4 = AVX2). -/
def hasLevel (f : CpuFeature) (l : Nat) : Prop :=
  (1 ≤ l → f.sse = true) ∧ (2 ≤ l → f.sse2 = true) ∧ (3 ≤ l → f.sse41 = true) ∧ (4 ≤ l → f.avx2 = true)

theorem hasLevel_of_le (f : CpuFeature) (l : Nat) (h : l ≤ selectArchImpl f) : hasLevel f l := by
  obtain ⟨h1, h2, h3, h4⟩ := selectArchImpl_spec f
  refine ⟨fun hl => h1.mp (by omega), fun hl => (h2.mp (by omega)).2, fun hl => (h3.mp (by omega)).2.2,
    fun hl => (h4.mp (by omega)).2.2.2⟩

/-- every regenerated table has OPUS_ARCHMASK+1 entries and holds, at index `a ≤ 4`, the C symbol below the
    kernel's feature level and the SIMD symbol from it on (NULL above 4). -/
theorem tables_shape : ∀ t ∈ DispatchTables.tables, tableOk DispatchTables.archMask t = true := by
  decide +kernel

/-- symbol level lookup: 0 for the portable symbol. -/
def levelOf (k : KernelSpec) (s : String) : Nat :=
  match k.levels.find? (fun ls => ls.2 == s) with
  | some ls => ls.1
  | none => 0

/-- at arch index `a` a table never holds a kernel that needs more than level `a`, and from a kernel's level
    on it holds SIMD code. -/
theorem symbolAt_level : ∀ k ∈ floatSpecs, ∀ a ∈ List.range 5,
    levelOf k (symbolAt k a) ≤ a ∧ (∀ ls ∈ k.levels, ls.1 ≤ a → symbolAt k a ≠ k.base) := by
  decide +kernel

/-- no NULL entry is reachable: every arch value `opus_select_arch` can return indexes a real function. -/
theorem tables_total : ∀ t ∈ DispatchTables.tables, ∀ a ∈ List.range 5, t.2.2.getD a "null" ≠ "null" := by
  decide +kernel

theorem archMask_covers : 4 ≤ DispatchTables.archMask := by decide

/-- tables of kernels that compute in floating point (all others are integer kernels, required bit-exact). -/
def floatTables : List String :=
  ["PITCH_XCORR_IMPL", "XCORR_KERNEL_IMPL", "CELT_INNER_PROD_IMPL", "DUAL_INNER_PROD_IMPL", "COMB_FILTER_CONST_IMPL",
   "OP_PVQ_SEARCH_IMPL", "SILK_INNER_PRODUCT_FLP_IMPL"]

/-- the entry a table holds at any arch value `opus_select_arch` can return needs no feature the CPU lacks. -/
theorem dispatch_level_le (f : CpuFeature) (cap : Option Nat) :
    ∀ t ∈ DispatchTables.tables, ∀ k ∈ floatSpecs, k.table = t.1 →
      levelOf k (t.2.2.getD (selectArch f cap) "null") ≤ selectArchImpl f ∧
      t.2.2.getD (selectArch f cap) "null" ≠ "null" := by
  have hle := selectArch_le f cap
  have h4 := selectArchImpl_le f
  have key : ∀ a ∈ List.range 5, ∀ t ∈ DispatchTables.tables, ∀ k ∈ floatSpecs, k.table = t.1 →
      levelOf k (t.2.2.getD a "null") ≤ a := by decide +kernel
  intro t ht k hk hkt
  have ha : selectArch f cap ∈ List.range 5 := List.mem_range.mpr (by omega)
  exact ⟨Nat.le_trans (key _ ha t ht k hk hkt) hle, tables_total t ht _ ha⟩

end Opus.Kernels
