import OpusProofs.SilkParamsRangeBasic
import OpusProofs.SilkParamsLpc
/-
  OpusProofs.SilkParamsRangeInvGain — silk_LPC_inverse_pred_gain_c (LPC_inv_pred_gain.c:43-141):
  (a) analytic content of a non-zero result: it is at least the 1/MAX_PREDICTION_POWER_GAIN threshold, and every
      coefficient `A_QA[k]` (minus the reflection coefficient, Q24) met by the fixed-point step-down recursion has
      magnitude at most A_LIMIT = 0.99975;
  (b) range lemmas: on every `opus_int16` filter of order ≤ 24 no plain 32-bit operation
      overflows, the `(opus_int32)` casts of the stated 64-bit results are the identity, no
      division by zero occurs in silk_INVERSE32_varQ, and every 64-bit product fits 64 bits.
  Deliberate saturation / wrap in the C code: `silk_SUB_SAT32` saturates (modelled by `subSat32`);
  the result of the Newton step `silk_SMLAWW` and of `silk_LSHIFT( ·, 3 )` in silk_INVERSE32_varQ are
  narrowed by an explicit cast (modelled by `wrap32`, faithful whether or not it wraps).
-/
namespace Opus.SilkParams
open Opus Opus.Gen

theorem alimit_eq : SilkNlsf.invGainALimit = 16773022 := by decide
theorem pow2_16' : ((2 : Int) ^ 16) = 65536 := by decide

/-! ### (a) reflection coefficients -/

/-- The coefficients `A_QA[k]` (= minus the reflection coefficient in Q24) examined at the
    successive levels of the step-down recursion, as far as the C function gets before it returns. -/
def invGainRcs : Nat → List Int → Int → List Int
  | 0, A, _ => [A.getD 0 0]
  | k + 1, A, g =>
    let ak := A.getD (k + 1) 0
    if ak > SilkNlsf.invGainALimit ∨ ak < -SilkNlsf.invGainALimit then [ak]
    else
      let rc := -(lshift32 ak invGainRcShift)
      let rcMult1 := 1073741824 - smmul rc rc
      let g := lshift32 (smmul g rcMult1) 2
      if g < SilkNlsf.invGainThresholdQ30 then [ak]
      else
        let mult2Q := (32 - clz32 (sabs rcMult1)).toNat
        let rcMult2 := inverse32VarQ rcMult1 ((mult2Q : Int) + 30)
        let init := A.take (k + 1)
        let upd := List.zipWith (invGainUpd rc rcMult2 mult2Q) init init.reverse
        if upd.any (fun v => decide (v > 2147483647) || decide (v < -2147483648)) then [ak]
        else ak :: invGainRcs k upd g

/-- The recursion returns 0 at each of its three exits; a result that is not 0 is at least the threshold
    1/MAX_PREDICTION_POWER_GAIN, the recursion ran through all `k+1` levels, and at each of them `|A_QA[k]| ≤ A_LIMIT`. -/
theorem invGainLoop_cases : ∀ (k : Nat) (A : List Int) (g : Int), invGainLoop k A g = 0 ∨
    (SilkNlsf.invGainThresholdQ30 ≤ invGainLoop k A g ∧ (invGainRcs k A g).length = k + 1 ∧
     ∀ a ∈ invGainRcs k A g, -SilkNlsf.invGainALimit ≤ a ∧ a ≤ SilkNlsf.invGainALimit) := by
  intro k
  induction k with
  | zero =>
    intro A g
    unfold invGainLoop invGainRcs
    simp only
    split
    · exact Or.inl rfl
    · split
      · exact Or.inl rfl
      · exact Or.inr ⟨by omega, rfl, by simp only [List.mem_singleton, forall_eq]; omega⟩
  | succ k ih =>
    intro A g
    unfold invGainLoop invGainRcs
    simp only
    by_cases hlim : A.getD (k + 1) 0 > SilkNlsf.invGainALimit ∨ A.getD (k + 1) 0 < -SilkNlsf.invGainALimit
    · rw [if_pos hlim]; exact Or.inl rfl
    · rw [if_neg hlim, if_neg hlim]
      split
      · exact Or.inl rfl
      · split
        · exact Or.inl rfl
        · rcases ih _ _ with h | ⟨h1, h2, h3⟩
          · exact Or.inl h
          · exact Or.inr ⟨h1, by rw [List.length_cons, h2], List.forall_mem_cons.mpr ⟨by omega, h3⟩⟩

/-- The coefficients `A_QA[k]` (minus the reflection coefficients, Q24) the recursion examines for a Q12 filter. -/
def lpcReflectionQ24 (aQ12 : List Int) : List Int :=
  match aQ12.length with
  | 0 => []
  | k + 1 => invGainRcs k (aQ12.map fun a => lshift32 a (SilkNlsf.invGainQA - 12)) 1073741824

theorem lpcInversePredGain_cases (a : List Int) : lpcInversePredGain a = 0 ∨
    (SilkNlsf.invGainThresholdQ30 ≤ lpcInversePredGain a ∧ lpcInversePredGain.sumI a < 4096 ∧
     (lpcReflectionQ24 a).length = a.length ∧
     ∀ r ∈ lpcReflectionQ24 a, -SilkNlsf.invGainALimit ≤ r ∧ r ≤ SilkNlsf.invGainALimit) := by
  unfold lpcInversePredGain lpcReflectionQ24
  simp only
  split
  · exact Or.inl rfl
  · split
    · exact Or.inl rfl
    · rename_i k hk
      simp only [hk]
      exact (invGainLoop_cases k _ _).imp_right fun h => ⟨h.1, by omega, h.2⟩

theorem lpcInversePredGain_rcs (a : List Int) (h : lpcInversePredGain a ≠ 0) :
    lpcInversePredGain.sumI a < 4096 ∧ (lpcReflectionQ24 a).length = a.length ∧
    ∀ r ∈ lpcReflectionQ24 a, -SilkNlsf.invGainALimit ≤ r ∧ r ≤ SilkNlsf.invGainALimit :=
  ((lpcInversePredGain_cases a).resolve_left h).2

/-! ### (b) range lemmas -/

/-- 32-bit values of the scalar part of one level (LPC_inv_pred_gain.c:58-67) for the coefficient
    `ak = A_QA[k]` and running gain `g`: `A_QA[k] << 7`, `rc_Q31` (its negation), the operand of the
    `(opus_int32)` cast of `silk_SMMUL( rc, rc )`, `rc_mult1_Q30`, the operand of the cast of
    `silk_SMMUL( invGain, rc_mult1 )`, and its `<< 2`. -/
def invGainScalarTrace (ak g : Int) : List Int :=
  let rc := -(ak * 128)
  let m1 := 1073741824 - rc * rc / 4294967296
  [ak * 128, rc, rc * rc / 4294967296, m1, g * m1 / 4294967296, g * m1 / 4294967296 * 4]

/-- The scalar part of one level for `|A_QA[k]| ≤ A_LIMIT = 16773022`.  536765 = 2^30 − ⌊(A_LIMIT·2^7)^2 / 2^32⌋ is the
    smallest `rc_mult1_Q30` the limit test lets through; it is what makes `mult2Q ≥ 20` in `inverse32_range`. -/
theorem invGainScalar_range (ak g : Int) (ha : -16773022 ≤ ak ∧ ak ≤ 16773022)
    (hg : 0 ≤ g ∧ g ≤ 1073741824) :
    let rc := -(ak * 128)
    let m1 := 1073741824 - rc * rc / 4294967296
    (∀ v ∈ invGainScalarTrace ak g, I32 v) ∧
    -(lshift32 ak invGainRcShift) = rc ∧ 1073741824 - smmul rc rc = m1 ∧
    lshift32 (smmul g m1) 2 = g * m1 / 4294967296 * 4 ∧
    536765 ≤ m1 ∧ m1 ≤ 1073741824 ∧ 0 ≤ g * m1 / 4294967296 * 4 ∧ g * m1 / 4294967296 * 4 ≤ 1073741824 := by
  intro rc m1
  have hrc : -2146946816 ≤ rc ∧ rc ≤ 2146946816 := by show _ ≤ -(ak * 128) ∧ -(ak * 128) ≤ _; omega
  have hy := mul_abs_le hrc hrc  -- rc * rc, non-negative
  have hy0 := self_mul_nonneg rc
  have hm1 : 536765 ≤ m1 ∧ m1 ≤ 1073741824 := by
    show _ ≤ 1073741824 - rc * rc / 4294967296 ∧ 1073741824 - rc * rc / 4294967296 ≤ _; omega
  have hz := mul_nonneg_le hg (show 0 ≤ m1 ∧ m1 ≤ 1073741824 by omega)  -- g * m1
  have e1 : lshift32 ak invGainRcShift = ak * 128 := lshift32_eq (n := 7) (by unfold I32; omega)
  have e2 : smmul rc rc = rc * rc / 4294967296 := smmul_eq (by unfold I32; omega)
  have e3 : smmul g m1 = g * m1 / 4294967296 := smmul_eq (by unfold I32; omega)
  have e4 : lshift32 (g * m1 / 4294967296) 2 = g * m1 / 4294967296 * 4 := lshift32_eq (n := 2) (by unfold I32; omega)
  refine ⟨?_, by rw [e1], by rw [e2], by rw [e3, e4], hm1.1, hm1.2, by omega, by omega⟩
  show ∀ v ∈ [ak * 128, rc, rc * rc / 4294967296, m1, g * m1 / 4294967296, g * m1 / 4294967296 * 4], I32 v
  simp only [List.forall_mem_cons, forall_mem_nil_iff, and_true, I32]
  omega

/-- Normalisation: a value whose highest set bit is `e ≤ 30`, shifted left by `30 - e`, lies in `[2^30, 2^31)`. -/
theorem normalise_range {b : Int} {e : Nat} (he : e ≤ 30) (h1 : (2 : Int) ^ e ≤ b) (h2 : b < (2 : Int) ^ (e + 1)) :
    1073741824 ≤ b * (2 : Int) ^ (30 - e) ∧ b * (2 : Int) ^ (30 - e) < 2147483648 := by
  have hs : (2 : Int) ^ e * (2 : Int) ^ (30 - e) = 1073741824 := by
    rw [← Int.pow_add, Nat.add_sub_cancel' he]; decide
  have hF : 0 < (2 : Int) ^ (30 - e) := Int.pow_pos (by decide)
  rw [Int.pow_succ] at h2
  generalize (2 : Int) ^ e = E at h1 h2 hs
  generalize (2 : Int) ^ (30 - e) = F at hs hF ⊢
  have lo := Int.mul_le_mul_of_nonneg_right h1 (show 0 ≤ F by omega)
  have hi := Int.mul_le_mul_of_nonneg_right (show b + 1 ≤ E * 2 by omega) (show 0 ≤ F by omega)
  rw [Int.add_mul, Int.one_mul, Int.mul_right_comm] at hi
  omega

/-- The result of `silk_INVERSE32_varQ` is produced by a narrowing cast, a saturating shift or a right
    shift of such a value in every branch. -/
theorem inverse32VarQ_I32 (b q : Int) : I32 (inverse32VarQ b q) := by
  unfold inverse32VarQ
  simp only
  split
  · exact wrap32_I32 _
  · split
    · exact shrI_I32 (wrap32_I32 _) _
    · decide

/-- The plain 32-bit operations inside `silk_INVERSE32_varQ( rc_mult1_Q30, mult2Q + 30 )`
    (Inlines.h:143-185): `silk_abs`, `b_headrm`, the normalised `b32_nrm` (operand of the cast in
    `silk_LSHIFT`), the divisor `b32_nrm >> 16`, `b32_inv`, `b32_inv << 16`, the operand of the cast
    in `silk_SMULWB( b32_nrm, b32_inv )`, `(1 << 29) - …`, and `lshift`. -/
def inverse32Trace (b qres : Int) : List Int :=
  let hr := clz32 (sabs b) - 1
  let bn := b * (2 : Int) ^ hr.toNat
  let h := bn / 65536
  let inv := Int.tdiv 536870911 h
  [sabs b, hr, bn, h, inv, inv * 65536, bn * inv / 65536, 536870912 - bn * inv / 65536, 61 - hr - qres]

theorem inverse32_range (b : Int) (hb0 : 536765 ≤ b) (hb1 : b ≤ 1073741824) :
    let mult2Q := (32 - clz32 (sabs b)).toNat
    20 ≤ mult2Q ∧ mult2Q ≤ 31 ∧
    (∀ v ∈ inverse32Trace b ((mult2Q : Int) + 30), I32 v) ∧
    16384 ≤ (b * (2 : Int) ^ (clz32 (sabs b) - 1).toNat) / 65536 ∧
    (b * (2 : Int) ^ (clz32 (sabs b) - 1).toNat) / 65536 ≤ 32767 ∧
    I16 (Int.tdiv 536870911 ((b * (2 : Int) ^ (clz32 (sabs b) - 1).toNat) / 65536)) ∧
    61 - (clz32 (sabs b) - 1) - ((mult2Q : Int) + 30) = 0 ∧
    I32 (inverse32VarQ b ((mult2Q : Int) + 30)) := by
  intro mult2Q
  have hsabs : sabs b = b := by unfold sabs; rw [if_pos (by omega)]
  obtain ⟨e, hclz, hlo, hhi⟩ := clz32_pos (show 0 < b by omega)
  -- `2^19 < 536765 ≤ b ≤ 2^30`
  have he1 : 19 ≤ e := by
    by_contra h
    have := two_pow_le (show e + 1 ≤ 19 by omega)
    simp only [Int.reducePow] at this; omega
  have he2 : e ≤ 30 := by
    by_contra h
    have := two_pow_le (show 31 ≤ e by omega)
    simp only [Int.reducePow] at this; omega
  have hm : mult2Q = e + 1 := by
    show (32 - clz32 (sabs b)).toNat = e + 1
    rw [hsabs, hclz]; omega
  have hhr : (clz32 (sabs b) - 1).toNat = 30 - e := by rw [hsabs, hclz]; omega
  have hlsh : 61 - (clz32 (sabs b) - 1) - ((mult2Q : Int) + 30) = 0 := by
    rw [hsabs, hclz, hm]; push_cast; omega
  have hN := normalise_range he2 hlo hhi
  unfold inverse32Trace
  simp only
  rw [hhr, hlsh, hsabs, hclz, hm]
  clear hlo hhi hhr hlsh hsabs hclz hm
  generalize b * (2 : Int) ^ (30 - e) = bn at hN
  have hh : 16384 ≤ bn / 65536 ∧ bn / 65536 ≤ 32767 := by omega
  generalize bn / 65536 = h at hh
  -- `inv = (2^29 - 1) / h` lies in the same interval `[2^14, 2^15)`
  have hinv : 16384 ≤ 536870911 / h ∧ 536870911 / h ≤ 32767 :=
    ⟨Int.le_ediv_of_mul_le (by omega) (by omega),
     Int.lt_add_one_iff.mp (Int.ediv_lt_of_lt_mul (by omega) (by omega))⟩
  rw [Int.tdiv_eq_ediv_of_nonneg (by decide)]
  generalize 536870911 / h = inv at hinv
  have hp := mul_nonneg_le (show 0 ≤ bn ∧ bn ≤ 2147483648 by omega) (show 0 ≤ inv ∧ inv ≤ 32767 by omega)
  generalize bn * inv = y at hp
  refine ⟨by omega, by omega, ?_, hh.1, hh.2, by unfold I16; omega, rfl, inverse32VarQ_I32 _ _⟩
  simp only [List.forall_mem_cons, forall_mem_nil_iff, and_true, I32]
  omega

/-- The 64-bit values of one coefficient update (LPC_inv_pred_gain.c:81-95): the `silk_SMULL` products, the first
    step of each `silk_RSHIFT_ROUND64`, and the rounded result. -/
def invGainUpdTrace64 (rc rcMult2 : Int) (mult2Q : Nat) (t1 t2 : Int) : List Int :=
  let x := t2 * rc
  let m := rshiftRound x 31
  let y := subSat32 t1 m * rcMult2
  [x, x / 1073741824 + 1, y, y / (2 : Int) ^ (mult2Q - 1) + 1, rshiftRound y mult2Q]

theorem rshiftRound31 (a : Int) : rshiftRound a 31 = (a + 1073741824) / 2147483648 :=
  rshiftRound_eq (by decide) (by decide) rfl (by decide) a

theorem subSat32_I32 (a b : Int) : I32 (subSat32 a b) := by
  unfold subSat32 sat32 I32
  split
  · omega
  · split <;> omega

/-- One coefficient update for an `opus_int32` `tmp2` (`tmp1` enters through the saturating `silk_SUB_SAT32` only, and any
    shift `mult2Q` will do): the operand of the `(opus_int32)` cast in `MUL32_FRAC_Q( tmp2, rc_Q31, 31 )` fits 32 bits,
    the 64-bit values fit 64 bits, and the model's update is the formula without that cast. -/
theorem invGainUpd_range (rc rcMult2 : Int) (mult2Q : Nat) (t1 t2 : Int) (hrc : -2147483647 ≤ rc ∧ rc ≤ 2147483647)
    (hm2 : I32 rcMult2) (h2 : I32 t2) :
    I32 (rshiftRound (t2 * rc) 31) ∧ (∀ v ∈ invGainUpdTrace64 rc rcMult2 mult2Q t1 t2, I64 v) ∧
    invGainUpd rc rcMult2 mult2Q t1 t2 = rshiftRound (subSat32 t1 (rshiftRound (t2 * rc) 31) * rcMult2) mult2Q := by
  unfold I32 at hm2 h2
  have hx := mul_abs_le (show -2147483648 ≤ t2 ∧ t2 ≤ 2147483648 by omega)
    (show -2147483647 ≤ rc ∧ rc ≤ 2147483647 from hrc)
  unfold invGainUpdTrace64 invGainUpd
  simp only
  generalize t2 * rc = x at hx ⊢
  have hm : I32 (rshiftRound x 31) := by rw [rshiftRound31]; unfold I32; omega
  rw [wrap32_id hm]
  generalize rshiftRound x 31 = m at hm ⊢
  have hs := subSat32_I32 t1 m
  unfold I32 at hs
  generalize subSat32 t1 m = sv at hs ⊢
  have hy := mul_abs_le (show -2147483648 ≤ sv ∧ sv ≤ 2147483648 by omega)
    (show -2147483648 ≤ rcMult2 ∧ rcMult2 ≤ 2147483648 by omega)
  generalize sv * rcMult2 = y at hy ⊢
  refine ⟨hm, ?_, rfl⟩
  have hp : 0 < (2 : Int) ^ (mult2Q - 1) := Int.pow_pos (by decide)
  have hdiv := ediv_between hp (by decide) (by decide) hy
  unfold rshiftRound
  generalize y / (2 : Int) ^ (mult2Q - 1) = z at hdiv ⊢
  simp only [List.forall_mem_cons, forall_mem_nil_iff, and_true, I64]
  refine ⟨by omega, by omega, by omega, by omega, ?_⟩
  split <;> omega

/-! ### the whole recursion

  `invGainRcs` above and `invGainLoopTrace`, `invGainLoopTrace64`, `invGainLoopDivisors` below follow the model's
  `invGainLoop` (OpusModel/SilkParams/Lpc.lean) branch for branch — the same `let`s and the same three exits — so that
  `invGainLoop_range` can unfold them side by side; they have to be kept in step with it. -/

/-- All `opus_int32` values of `LPC_inverse_pred_gain_QA_c` from the level with C loop variable `k`
    down, for the state `(A_QA[0..k], invGain_Q30)`: per level the scalar trace, `mult2Q`, the trace
    of `silk_INVERSE32_varQ`, and the operand of the `(opus_int32)` cast of every
    `MUL32_FRAC_Q( tmp2, rc_Q31, 31 )` (both orders of each pair). -/
def invGainLoopTrace : Nat → List Int → Int → List Int
  | 0, A, g =>
    let a0 := A.getD 0 0
    if a0 > SilkNlsf.invGainALimit ∨ a0 < -SilkNlsf.invGainALimit then [] else invGainScalarTrace a0 g
  | k + 1, A, g =>
    let ak := A.getD (k + 1) 0
    if ak > SilkNlsf.invGainALimit ∨ ak < -SilkNlsf.invGainALimit then []
    else
      let rc := -(lshift32 ak invGainRcShift)
      let rcMult1 := 1073741824 - smmul rc rc
      let g' := lshift32 (smmul g rcMult1) 2
      invGainScalarTrace ak g ++
        (if g' < SilkNlsf.invGainThresholdQ30 then []
         else
           let mult2Q := (32 - clz32 (sabs rcMult1)).toNat
           let rcMult2 := inverse32VarQ rcMult1 ((mult2Q : Int) + 30)
           let init := A.take (k + 1)
           let upd := List.zipWith (invGainUpd rc rcMult2 mult2Q) init init.reverse
           [(mult2Q : Int)] ++ inverse32Trace rcMult1 ((mult2Q : Int) + 30) ++
             List.zipWith (fun _ t2 => rshiftRound (t2 * rc) 31) init init.reverse ++
             (if upd.any (fun v => decide (v > 2147483647) || decide (v < -2147483648)) then []
              else invGainLoopTrace k upd g'))

/-- All 64-bit values (products of `silk_SMULL`, steps of `silk_RSHIFT_ROUND64`) of the same levels. -/
def invGainLoopTrace64 : Nat → List Int → Int → List Int
  | 0, _, _ => []
  | k + 1, A, g =>
    let ak := A.getD (k + 1) 0
    if ak > SilkNlsf.invGainALimit ∨ ak < -SilkNlsf.invGainALimit then []
    else
      let rc := -(lshift32 ak invGainRcShift)
      let rcMult1 := 1073741824 - smmul rc rc
      let g' := lshift32 (smmul g rcMult1) 2
      if g' < SilkNlsf.invGainThresholdQ30 then []
      else
        let mult2Q := (32 - clz32 (sabs rcMult1)).toNat
        let rcMult2 := inverse32VarQ rcMult1 ((mult2Q : Int) + 30)
        let init := A.take (k + 1)
        let upd := List.zipWith (invGainUpd rc rcMult2 mult2Q) init init.reverse
        (List.zipWith (fun t1 t2 => invGainUpdTrace64 rc rcMult2 mult2Q t1 t2) init init.reverse).flatten ++
          (if upd.any (fun v => decide (v > 2147483647) || decide (v < -2147483648)) then []
           else invGainLoopTrace64 k upd g')

/-- The divisors `b32_nrm >> 16` of the `silk_DIV32_16` inside `silk_INVERSE32_varQ`, all levels. -/
def invGainLoopDivisors : Nat → List Int → Int → List Int
  | 0, _, _ => []
  | k + 1, A, g =>
    let ak := A.getD (k + 1) 0
    if ak > SilkNlsf.invGainALimit ∨ ak < -SilkNlsf.invGainALimit then []
    else
      let rc := -(lshift32 ak invGainRcShift)
      let rcMult1 := 1073741824 - smmul rc rc
      let g' := lshift32 (smmul g rcMult1) 2
      if g' < SilkNlsf.invGainThresholdQ30 then []
      else
        let mult2Q := (32 - clz32 (sabs rcMult1)).toNat
        let rcMult2 := inverse32VarQ rcMult1 ((mult2Q : Int) + 30)
        let init := A.take (k + 1)
        let upd := List.zipWith (invGainUpd rc rcMult2 mult2Q) init init.reverse
        (rcMult1 * (2 : Int) ^ (clz32 (sabs rcMult1) - 1).toNat) / 65536 ::
          (if upd.any (fun v => decide (v > 2147483647) || decide (v < -2147483648)) then []
           else invGainLoopDivisors k upd g')

theorem forall_mem_zipWith {β : Type} {f : Int → Int → β} {P : β → Prop} {l1 l2 : List Int}
    (h : ∀ a ∈ l1, ∀ b ∈ l2, P (f a b)) : ∀ v ∈ List.zipWith f l1 l2, P v := by
  intro v hv
  rw [← List.map_uncurry_zip_eq_zipWith] at hv
  obtain ⟨⟨a, b⟩, hab, rfl⟩ := List.mem_map.mp hv
  exact h a (List.of_mem_zip hab).1 b (List.of_mem_zip hab).2

/-- The part of a trace that is recorded only when the C function does not return early. -/
theorem forall_mem_ite_nil {c : Prop} [Decidable c] {P : Int → Prop} {l : List Int} (h : ¬c → ∀ v ∈ l, P v) :
    ∀ v ∈ (if c then [] else l), P v := by
  split
  · simp
  · exact h ‹_›

theorem getD_I32 {A : List Int} (hA : ∀ a ∈ A, I32 a) (n : Nat) : I32 (A.getD n 0) := getD_of_all hA (by decide) n

/-- `LPC_inverse_pred_gain_QA_c` on any `opus_int32` coefficients and `0 ≤ invGain_Q30 ≤ 2^30`: no
    32-bit wrap, every 64-bit value fits 64 bits, no division by zero. -/
theorem invGainLoop_range : ∀ (k : Nat) (A : List Int) (g : Int), (∀ a ∈ A, I32 a) → 0 ≤ g → g ≤ 1073741824 →
    (∀ v ∈ invGainLoopTrace k A g, I32 v) ∧ (∀ v ∈ invGainLoopTrace64 k A g, I64 v) ∧
    (∀ v ∈ invGainLoopDivisors k A g, 16384 ≤ v ∧ v ≤ 32767) := by
  intro k
  induction k with
  | zero =>
    intro A g hA hg0 hg1
    refine ⟨?_, by simp [invGainLoopTrace64], by simp [invGainLoopDivisors]⟩
    unfold invGainLoopTrace
    exact forall_mem_ite_nil fun hlim =>
      (invGainScalar_range _ g (by rw [alimit_eq] at hlim; omega) ⟨hg0, hg1⟩).1
  | succ k ih =>
    intro A g hA hg0 hg1
    unfold invGainLoopTrace invGainLoopTrace64 invGainLoopDivisors
    simp only
    by_cases hlim : A.getD (k + 1) 0 > SilkNlsf.invGainALimit ∨ A.getD (k + 1) 0 < -SilkNlsf.invGainALimit
    · rw [if_pos hlim, if_pos hlim, if_pos hlim]; simp
    · rw [if_neg hlim, if_neg hlim, if_neg hlim]
      have hlim' := hlim
      rw [alimit_eq] at hlim'
      have hsc := invGainScalar_range (A.getD (k + 1) 0) g (by omega) ⟨hg0, hg1⟩
      simp only at hsc
      obtain ⟨hsT, hsrc, hsm1, hsg, hm1a, hm1b, hg'0, hg'1⟩ := hsc
      rw [hsrc, hsm1, hsg]
      generalize hrcd : -(A.getD (k + 1) 0 * 128) = rc at *
      have hrcb : -2147483647 ≤ rc ∧ rc ≤ 2147483647 := by omega
      generalize hm1d : 1073741824 - rc * rc / 4294967296 = m1 at *
      generalize hgd : g * m1 / 4294967296 * 4 = g' at *
      by_cases hthr : g' < SilkNlsf.invGainThresholdQ30
      · rw [if_pos hthr, if_pos hthr, if_pos hthr, List.append_nil]
        exact ⟨hsT, by simp, by simp⟩
      · rw [if_neg hthr, if_neg hthr, if_neg hthr]
        have hinv := inverse32_range m1 hm1a hm1b
        simp only at hinv
        obtain ⟨hq0, hq1, hiT, hd0, hd1, _, _, hm2⟩ := hinv
        generalize hmq : (32 - clz32 (sabs m1)).toNat = mult2Q at *
        generalize hr2 : inverse32VarQ m1 ((mult2Q : Int) + 30) = rcMult2 at *
        have hU := fun a (_ : a ∈ A.take (k + 1)) b (hb : b ∈ (A.take (k + 1)).reverse) =>
          invGainUpd_range rc rcMult2 mult2Q a b hrcb hm2 (hA b (List.mem_of_mem_take (List.mem_reverse.mp hb)))
        generalize hupd : List.zipWith (invGainUpd rc rcMult2 mult2Q) (A.take (k + 1)) (A.take (k + 1)).reverse = upd
        -- the levels below are entered only if no updated coefficient left 32 bits
        have hrec := fun (hany : ¬ upd.any (fun v => decide (v > 2147483647) || decide (v < -2147483648)) = true) =>
          ih upd g' (fun a ha => by
            simp only [List.any_eq_true, Bool.or_eq_true, decide_eq_true_eq, not_exists, not_and, not_or] at hany
            have := hany a ha
            unfold I32; omega) hg'0 hg'1
        refine ⟨?_, ?_, ?_⟩
        · simp only [List.forall_mem_append, List.forall_mem_cons, forall_mem_nil_iff, and_true]
          exact ⟨hsT, ⟨⟨by unfold I32; omega, hiT⟩, forall_mem_zipWith fun a ha b hb => (hU a ha b hb).1⟩,
            forall_mem_ite_nil fun h => (hrec h).1⟩
        · exact List.forall_mem_append.mpr
            ⟨List.forall_mem_flatten.mpr (forall_mem_zipWith fun a ha b hb => (hU a ha b hb).2.1),
             forall_mem_ite_nil fun h => (hrec h).2.1⟩
        · exact List.forall_mem_cons.mpr ⟨⟨hd0, hd1⟩, forall_mem_ite_nil fun h => (hrec h).2.2⟩

/-- The 32-bit values of the wrapper `silk_LPC_inverse_pred_gain_c` (LPC_inv_pred_gain.c:131-134):
    the running `DC_resp` and every `A_Q12[k] << 12`. -/
def invGainTopTrace : List Int → Int → List Int
  | [], _ => []
  | a :: as, dc => (dc + a) :: a * 4096 :: invGainTopTrace as (dc + a)

/-- The wrapper's running `DC_resp` and the shifts `A_Q12[k] << 12`: the sum so far plus `2^15` for each coefficient still to
    come fits 32 bits. -/
theorem invGainTop_range : ∀ (a : List Int) (dc : Int), (∀ x ∈ a, I16 x) →
    -(2147483647 - 32768 * (a.length : Int)) ≤ dc → dc ≤ 2147483647 - 32768 * (a.length : Int) →
    (∀ v ∈ invGainTopTrace a dc, I32 v) ∧
    (∀ x ∈ a.map (fun x => lshift32 x (SilkNlsf.invGainQA - 12)), I32 x) := by
  intro a
  induction a with
  | nil => intro dc _ _ _; simp [invGainTopTrace]
  | cons x xs ih =>
    intro dc hI h0 h1
    have hx := hI x (by simp)
    unfold I16 at hx
    simp only [List.length_cons, Int.natCast_add, Int.natCast_one] at h0 h1
    have hrec := ih (dc + x) (fun y hy => hI y (by simp [hy])) (by omega) (by omega)
    simp only [invGainTopTrace, List.map_cons, List.forall_mem_cons]
    exact ⟨⟨by unfold I32; omega, by unfold I32; omega, hrec.1⟩, wrap32_I32 _, hrec.2⟩

/-- `silk_LPC_inverse_pred_gain_c( A_Q12, order )` for every `opus_int16` filter of order 1..24
    (`SILK_MAX_ORDER_LPC`): nothing wraps in 32 or 64 bits and no division by zero occurs. -/
theorem lpcInversePredGain_range (a : List Int) (hI : ∀ x ∈ a, I16 x) (hl : a.length ≤ 24) :
    (∀ v ∈ invGainTopTrace a 0, I32 v) ∧
    ∀ k, a.length = k + 1 →
      (∀ v ∈ invGainLoopTrace k (a.map fun x => lshift32 x (SilkNlsf.invGainQA - 12)) 1073741824, I32 v) ∧
      (∀ v ∈ invGainLoopTrace64 k (a.map fun x => lshift32 x (SilkNlsf.invGainQA - 12)) 1073741824, I64 v) ∧
      (∀ v ∈ invGainLoopDivisors k (a.map fun x => lshift32 x (SilkNlsf.invGainQA - 12)) 1073741824,
        16384 ≤ v ∧ v ≤ 32767) := by
  have ht := invGainTop_range a 0 hI (by omega) (by omega)
  exact ⟨ht.1, fun k _ => invGainLoop_range k _ 1073741824 ht.2 (by omega) (by omega)⟩

end Opus.SilkParams
