import OpusModel.OpusFrameEnc
import OpusModel.CeltBandsEnc
import OpusProofs.SilkSymsEncRoundTrip
/-
  What the concrete hybrid frames (OpusProofs/OpusFrameLockstepExample.lean without redundancy,
  OpusProofs/OpusFrameHybridRedExample2.lean with) have in common: the WB SILK part of an SWB mono 10 ms
  frame and the CELT encoder's configuration and decisions for bands 17-18.
-/
namespace Opus.OpusFrameProofs.Example
open Opus Opus.RangeCoder Opus.SilkSyms Opus.SilkSymsEnc Opus.OpusFrameEnc Opus.CeltSymsEnc

def hybPacket : PacketIn :=
  { ch0 := { vad := [1], lbrrFlags := [0], lbrr := [], frames := [⟨{ signalType := 1, quantOffsetType := 0, gains := [30, 5], nlsf0 := 3, nlsfRes := [0, 1, -1, 0, 2, 0, 0, -2, 0, 0, 1, 0, 0, 0, -1, 0], interp := 4, lagIndex := 0, contourIndex := 0, perIndex := 0, ltp := [], ltpScale := 0, seed := 2 }, (List.range 160).map (fun (i : Nat) => if i % 17 = 0 then 1 else if i % 29 = 0 then -2 else 0)⟩], prev := {} },
    ch1 := default, predIx := [], midOnly := [], lbrrPredIx := [], lbrrMidOnly := [] }
def cfgH : EncCfg := { start := 17, end_ := 19, C := 1, LM := 2, vbr := false, lfe := false, size := 60 }
/-- CELT decisions: post-filter off, transient 0, intra 0, two coarse energies, tf, spread, dynalloc, trim 5, intensity 19,
    dual 0, …; then 40 × 1 for the band data -/
def dsH : List Int := [0, 0, 0, 0, 1, -1, 0, 0, 2, 0, 0, 5, 19, 0, 0, 19] ++ List.replicate 40 1
/-- the 90-byte budget of the frames with a 30-byte redundancy frame -/
def bufHR : List Nat := List.replicate 90 170

theorem hybOk : PacketOk (hybridCfg 1 100) hybPacket :=
  ⟨by decide, by decide, by decide, by decide, by decide +kernel, by decide +kernel, by decide +kernel,
   by decide +kernel, by decide +kernel, by decide +kernel⟩

end Opus.OpusFrameProofs.Example
