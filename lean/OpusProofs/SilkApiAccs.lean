import OpusProofs.SilkApiTail
import OpusProofs.Accs
/-! Every access silk_Decode records (`Run.ac`) is in bounds.  A contiguous access is its three bounds (`inb_iff`, in the simp
    set `accs`), so a phase's lemma is `unfold`, `simp only [accs]`, `omega`; the strided output and the rows of
    samplesOut1_tmp are lemmas of their own; `tail_accs` puts the phases together. -/
namespace Opus.SilkApi

/-- A contiguous access. -/
@[accs] theorem inb_iff {b : String} {lo n cap : Int} :
    Acc.InBounds { buf := b, lo := lo, n := n, cap := cap } ↔ (n = 0 ∨ 0 < n ∧ 0 ≤ lo ∧ lo + n ≤ cap) := by
  simp only [Acc.InBounds, Acc.hi]; omega

theorem inb_whole {b : String} {n : Int} (h : 0 ≤ n) : Acc.InBounds { buf := b, lo := 0, n := n, cap := n } :=
  inb_iff.2 (by omega)

/-- Channel `lo` of `nCh` interleaved channels of `n` samples each. -/
theorem inb_interleaved {b : String} {n nCh lo : Int} (hn : 0 < n) (h0 : 0 ≤ lo) (h1 : lo < nCh) :
    Acc.InBounds { buf := b, lo := lo, n := n, stride := nCh, cap := n * nCh } := by
  have h : lo + (n - 1) * nCh + 1 ≤ n * nCh := by rw [Int.sub_mul, Int.one_mul]; omega
  exact Or.inr ⟨hn, h0, (by omega : 0 < nCh), h⟩

/-- Row `n` of `nCh` rows of `fl + 2` samples: `fl` samples from offset `k ≤ 2` of the row. -/
theorem inb_row {n nCh fl k : Int} (hfl : 0 < fl) (h0 : 0 ≤ n) (h1 : n < nCh) (hk0 : 0 ≤ k) (hk : k ≤ 2) :
    Acc.InBounds { buf := "tmp", lo := n * (fl + 2) + k, n := fl, cap := nCh * (fl + 2) } := by
  have h := Int.mul_le_mul_of_nonneg_right (show n + 1 ≤ nCh by omega) (show 0 ≤ fl + 2 by omega)
  rw [Int.add_mul, Int.one_mul] at h
  have := Int.mul_nonneg h0 (show 0 ≤ fl + 2 by omega)
  exact inb_iff.2 (by omega)

theorem tmp_extents_ok {api : Int} {c : Chan} (hc : ChanOk api c) (nCh : Int) (hn : nCh = 1 ∨ nCh = 2) :
    let fl := c.frame_length
    let cap := nCh * (fl + 2)
    (∀ n, 0 ≤ n → n < nCh →
       Acc.InBounds { buf := "tmp", lo := n * (fl + 2) + 2, n := fl, cap := cap } ∧         -- silk_decode_frame output / memset :349, :358
       Acc.InBounds { buf := "tmp", lo := n * (fl + 2) + 1, n := fl, cap := cap } ∧         -- silk_resampler input :382, :401
       Acc.InBounds { buf := "resampler-1ms", lo := 0, n := c.rsIn, cap := fl }) ∧          -- resampler.c:184 inLen >= Fs_in_kHz
    Acc.InBounds { buf := "tmp", lo := 0, n := 2, cap := cap } ∧ Acc.InBounds { buf := "tmp", lo := fl, n := 2, cap := cap } ∧   -- :368-:369
    (nCh = 2 → ∀ a ∈ msAccs fl c.fs_kHz fl cap, a.InBounds) := by
  have hf := hc.fs
  have hri := hc.rsIn
  intro fl cap
  have hcap : cap = nCh * (fl + 2) := rfl
  obtain ⟨h10, hfl0, -⟩ : 10 * c.fs_kHz ≤ fl ∧ 0 < fl ∧ fl ≤ 320 := hc.1.frame_range
  have hcap1 : fl + 2 ≤ cap := by rcases hn with rfl | rfl <;> omega
  refine ⟨fun n h0 h1 => ⟨inb_row hfl0 h0 h1 (by decide) (by decide), inb_row hfl0 h0 h1 (by decide) (by decide),
    inb_iff.2 (by omega)⟩, inb_iff.2 (by omega), inb_iff.2 (by omega), fun h2 => ?_⟩
  subst h2
  unfold msAccs
  rw [if_pos (show fl ≥ 8 * c.fs_kHz by omega)]
  simp only [accs]
  omega

theorem flagAccs_ok (c : Chan) (flag : Int) (h : c.nFramesPerPacket = 1 ∨ c.nFramesPerPacket = 2 ∨ c.nFramesPerPacket = 3) :
    ∀ x ∈ flagAccs c flag, x.InBounds := by
  unfold flagAccs
  simp only [accs]
  omega

theorem readFlags_accs {api : Int} (d : Dec) (a : Args) (o : Orc) (h0 : ChanOk api d.ch0)
    (h1 : a.nChannelsInternal = 2 → ChanOk api d.ch1) : ∀ x ∈ (readFlags d a o).2.2, x.InBounds := by
  unfold readFlags
  simp only [apply_ite Prod.snd, accs]
  exact fun _ => ⟨flagAccs_ok _ _ h0.nFramesPerPacket, fun h2 => flagAccs_ok _ _ (h1 h2).nFramesPerPacket⟩

theorem stereoPred_accs (d : Dec) (a : Args) (o : Orc) (h : 0 ≤ d.ch0.nFramesDecoded ∧ d.ch0.nFramesDecoded < 3) :
    ∀ x ∈ (stereoPred d a o).ac, x.InBounds := by
  unfold stereoPred
  simp only [apply_ite Pred.ac, accs]
  omega

theorem hasSide_accs (d : Dec) (a : Args) (dom : Int) (h : a.nChannelsInternal = 2 → 0 ≤ d.ch1.nFramesDecoded ∧ d.ch1.nFramesDecoded < 3) :
    ∀ x ∈ (hasSide d a dom).2, x.InBounds := by
  unfold hasSide
  simp only [apply_ite Prod.snd, accs]
  omega

theorem pitchLagOut_accs (c : Chan) (h : c.fs_kHz = 8 ∨ c.fs_kHz = 12 ∨ c.fs_kHz = 16) : ∀ x ∈ (pitchLagOut c).2, x.InBounds := by
  unfold pitchLagOut
  simp only [apply_ite Prod.snd, accs]
  omega

theorem condCoding_accs (d : Dec) (a : Args) (n : Int) (h : d.ch0.nFramesDecoded - n < 3) :
    ∀ x ∈ (condCoding d a n).2, x.InBounds := by
  unfold condCoding
  simp only [apply_ite Prod.snd, accs]
  omega

theorem frames_accs (d : Dec) (a : Args) (o : Orc) (hs : Bool) (hci : a.nChannelsInternal = 1 ∨ a.nChannelsInternal = 2)
    (hfl : 0 < d.ch0.frame_length) (hfl1 : a.nChannelsInternal = 2 → d.ch1.frame_length = d.ch0.frame_length)
    (h3 : 0 ≤ d.ch0.nFramesDecoded ∧ d.ch0.nFramesDecoded < 3) : ∀ x ∈ (frames d a o hs).ac, x.InBounds := by
  have hc0 := condCoding_accs d a 0 (by omega)
  have hc1 := condCoding_accs { d with ch0 := { applyFrame d.ch0 o.frame0 with nFramesDecoded := d.ch0.nFramesDecoded + 1 } } a 1
    (by show d.ch0.nFramesDecoded + 1 - 1 < 3; omega)
  unfold frames
  rcases hci with h | h
  · simp only [h, apply_ite Frames.ac, accs, iff_true_intro hc0]
    omega
  · have := hfl1 h
    simp only [h, apply_ite Frames.ac, accs, iff_true_intro hc0, iff_true_intro hc1]
    omega

theorem two_of_min {x y : Int} (hx : x = 1 ∨ x = 2) (hy : y = 1 ∨ y = 2) (h : (if x < y then x else y) = 2) :
    x = 2 ∧ y = 2 := by
  split at h <;> omega

theorem tail_accs {api : Int} {p : Prep} {a : Args} {o : Orc} (ha : ApiOk api) (hapi : a.API_sampleRate = api)
    (hca : a.nChannelsAPI = 1 ∨ a.nChannelsAPI = 2) (hci : a.nChannelsInternal = 1 ∨ a.nChannelsInternal = 2)
    (hR : Ready api a p.d) (hO : OrcOk p.d.ch0.frame_length (p.d.ch0.nb_subfr * (api / 200)) o)
    (hsm : p.sToM = true → p.d.ch1.rsIn = p.d.ch0.fs_kHz) : ∀ x ∈ (tail p a o).ac, x.InBounds := by
  have pI : 0 < a.nChannelsInternal := by omega
  have pA : 0 < a.nChannelsAPI := by omega
  obtain ⟨c0, c1, hN⟩ := tFr_ok (o := o) hR
  have R1 : Ready api a (tD1 p a o) := hR.keep (readFlags_keep p.d a o)
  have R2 : Ready api a (tD2 p a o) := hR.keep (keep_tD2 p a o)
  have o9 := hO.rsLen0
  have o10 := hO.rsLen1
  have K := keep_tFr p a o
  have k1 := K.ch0.fs_kHz
  have k3 := K.ch0.nb_subfr
  obtain ⟨n1, n2, n3, n4, n5⟩ := nSamplesOut_ok ha c0
  have hf := c0.fs
  have hri : (tFr p a o).d.ch0.rsIn = (tFr p a o).d.ch0.fs_kHz := c0.rsIn
  have hfl0 := c0.1.frame_range.2.1
  have hri1 : a.nChannelsInternal = 2 → (tFr p a o).d.ch1.rsIn = (tFr p a o).d.ch0.rsIn := fun h2 =>
    ((c1 h2).1.rsIn.trans (c1 h2).2.1).trans hri.symm
  have hri2 : p.sToM = true → a.nChannelsInternal = 1 → (tFr p a o).d.ch1.rsIn = (tFr p a o).d.ch0.rsIn := by
    intro hs h1
    rw [K.mono h1, hsm hs, hri, k1]
  have hstr : (if a.nChannelsAPI = 2 then (2 : Int) else 1) = a.nChannelsAPI := by rcases hca with h | h <;> simp [h]
  have n4' : 0 ≤ p.d.ch0.nb_subfr * (api / 200) := by rw [← k3]; exact Int.le_of_lt n4
  have hlen0 : ((rsOutp o 0).length : Int) = (tFr p a o).d.ch0.nb_subfr * (api / 200) := by
    rw [o9, k3]; exact Int.toNat_of_nonneg n4'
  have hlen1 : ((rsOutp o 1).length : Int) = (tFr p a o).d.ch0.nb_subfr * (api / 200) := by
    rw [o10, k3]; exact Int.toNat_of_nonneg n4'
  have T := tmp_extents_ok c0 a.nChannelsInternal hci
  have hcap : 0 ≤ a.nChannelsInternal * ((tFr p a o).d.ch0.frame_length + 2) := by
    rcases hci with h | h <;> rw [h] <;> omega
  -- one silk_resampler call: row `n` of the frame buffer in, oracle output `i` out, with the state's input rate `rsIn`
  have hrs : ∀ (n rsIn : Int) (i : Nat), 0 ≤ n → n < a.nChannelsInternal → rsIn = (tFr p a o).d.ch0.rsIn →
      ((rsOutp o i).length : Int) = (tFr p a o).d.ch0.nb_subfr * (api / 200) →
      ∀ x ∈ [({ buf := "tmp", lo := n * ((tFr p a o).d.ch0.frame_length + 2) + 1, n := (tFr p a o).d.ch0.frame_length,
                cap := a.nChannelsInternal * ((tFr p a o).d.ch0.frame_length + 2) } : Acc),
             { buf := "samplesOut2_tmp", lo := 0, n := (rsOutp o i).length,
               cap := (tFr p a o).d.ch0.nb_subfr * (api / 200) },
             { buf := "resampler-1ms", lo := 0, n := rsIn, cap := (tFr p a o).d.ch0.frame_length }], x.InBounds := by
    intro n rsIn i h0 h1 hr hl
    rw [hr, hl]
    exact List.forall_mem_cons.2 ⟨(T.1 n h0 h1).2.1, List.forall_mem_cons.2 ⟨inb_iff.2 (Or.inr ⟨n4, Int.le_refl _, Int.le_of_eq (Int.zero_add _)⟩),
      List.forall_mem_cons.2 ⟨(T.1 n h0 h1).2.2, nofun⟩⟩⟩
  have hout : ∀ lo : Int, 0 ≤ lo → lo < a.nChannelsAPI →
      Acc.InBounds { buf := "samplesOut", lo := lo, n := (tFr p a o).d.ch0.nb_subfr * (api / 200), stride := a.nChannelsAPI,
                     cap := (tFr p a o).d.ch0.nb_subfr * (api / 200) * a.nChannelsAPI } :=
    fun lo h0 h1 => inb_interleaved n4 h0 h1
  unfold tail
  dsimp only
  rw [if_neg n1, hN, hapi, n3, hstr]
  -- the groups of accesses, in program order
  simp only [List.forall_mem_append]
  refine ⟨⟨⟨⟨⟨⟨⟨⟨⟨?_, ?_⟩, ?_⟩, ?_⟩, ?_⟩, ?_⟩, ⟨?_, ?_⟩⟩, ?_⟩, ?_⟩, pitchLagOut_accs _ hf⟩
  · exact readFlags_accs p.d a o hR.1 (fun h2 => (hR.2.2.1 h2).1)
  · exact stereoPred_accs _ a o R1.dec0
  · exact hasSide_accs _ a _ fun h2 => by rw [(R2.2.2.1 h2).2.2.2.2]; exact R2.dec0
  · exact List.forall_mem_cons.2 ⟨inb_whole hcap, nofun⟩
  · exact frames_accs _ a o _ hci R2.1.1.frame_range.2.1 R2.frame_length1 R2.dec0
  · refine List.forall_mem_ite.2 ⟨fun h => ?_, fun _ => ?_⟩
    · rw [h.2]
      exact (tmp_extents_ok c0 2 (Or.inr rfl)).2.2.2 rfl
    · exact List.forall_mem_cons.2 ⟨T.2.1, List.forall_mem_cons.2 ⟨T.2.2.1, nofun⟩⟩
  · exact hrs 0 _ 0 (Int.le_refl _) pI rfl hlen0
  · simp only [accs, hout 0 (Int.le_refl _) pA]
  · refine List.forall_mem_ite.2 ⟨fun h => ?_, fun _ => nofun⟩
    have h2 := two_of_min hca hci h
    have := hout 1 (by decide) (by rw [h2.1]; decide)
    rw [h2.1] at this ⊢
    exact List.forall_mem_append.2 ⟨hrs 1 _ 1 (by decide) (by rw [h2.2]; decide) (hri1 h2.2) hlen1, by simp only [accs, this]⟩
  · refine List.forall_mem_ite.2 ⟨fun h => ?_, fun _ => nofun⟩
    have h1 := hout 1 (by decide) (by rw [h.1]; decide)
    have h0 := hout 0 (Int.le_refl _) pA
    rw [h.1] at h0 h1 ⊢
    exact List.forall_mem_append.2 ⟨List.forall_mem_ite.2 ⟨fun hs => hrs 0 _ 1 (Int.le_refl _) pI (hri2 hs h.2) hlen1,
      fun _ => by simp only [accs, h0]⟩, by simp only [accs, h1]⟩

end Opus.SilkApi
