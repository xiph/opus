import OpusProofs.SilkVad
/-
  OpusProofs.SilkVadOut — the state invariant of the SILK VAD and `silk_VAD_GetSA_Q8_c` on every int16 frame (C20):
  divisors are positive, `NL`/`inv_NL` stay in their documented bounds, band signals are int16, band energies fit
  32 bits (with the documented `silk_ADD_POS_SAT32`), outputs in range, invariant kept.
-/
namespace Opus.SilkVad
open Opus Opus.SilkParams

def I16 (x : Int) : Prop := -32768 ≤ x ∧ x ≤ 32767
def Pos32 (x : Int) : Prop := 1 ≤ x ∧ x ≤ 2147483647
def NonNeg32 (x : Int) : Prop := 0 ≤ x ∧ x ≤ 2147483647

/-- Invariant of `silk_VAD_state` between calls (holds after `silk_VAD_Init`, preserved by every call). -/
structure VadInv (st : VadState) : Prop where
  counter : 0 ≤ st.counter ∧ st.counter ≤ 1000
  bias : st.bias.all Pos32
  nl : st.nl.all (fun x => 0 ≤ x ∧ x ≤ 16777215)
  invNl : st.invNl.all Pos32
  xnrgSubfr : st.xnrgSubfr.all NonNeg32
  ratioSmth : st.ratioSmth.all Pos32
  hp : -16384 ≤ st.hp ∧ st.hp ≤ 16383

theorem vadInv_init : VadInv vadInit := by
  constructor <;> first | decide | (unfold Q4.all Pos32; decide) | (unfold Q4.all NonNeg32; decide) | (unfold Q4.all; decide)

theorem sq_le (a b : Int) (h : -b ≤ a ∧ a ≤ b) : a * a ≤ b * b := (mul_abs_le h h).2

/-- The smoothing step `a + ((b - a)·c >> 16)` with `0 ≤ c ≤ 65536` stays between `a` and `b`. -/
theorem smooth_between (a b c : Int) (hc : 0 ≤ c ∧ c ≤ 65536) :
    min a b ≤ a + (b - a) * c / 65536 ∧ a + (b - a) * c / 65536 ≤ max a b := by
  have := mulshift16_between c (b - a) hc.1 hc.2
  rw [Int.mul_comm] at this
  omega

theorem smlawb_between (a b c : Int) (ha : Pos32 a) (hb : Pos32 b) (hc : 0 ≤ c ∧ c ≤ 32767) :
    Pos32 (smlawb a (b - a) c) ∧ min a b ≤ smlawb a (b - a) c ∧ smlawb a (b - a) c ≤ max a b := by
  have := smooth_between a b c (by omega)
  unfold Pos32 at *
  rw [smlawb_eq (by unfold SilkParams.I16; omega) (by unfold I32; omega)]
  omega

theorem minCoefOf_range (counter : Int) (h : 0 ≤ counter ∧ counter ≤ 1000) :
    0 ≤ (minCoefOf counter).1 ∧ (minCoefOf counter).1 ≤ 32767 ∧ 0 ≤ (minCoefOf counter).2 ∧ (minCoefOf counter).2 ≤ 1000 := by
  unfold minCoefOf
  split
  · obtain ⟨e, h1, h2, -⟩ := div32_pos 32767 (shrI counter 4 + 1) 0 (by unfold shrI; omega) (by omega) (by omega)
    simp only [e]
    omega
  · simp only; omega

/-- The smoothing coefficient of one band (silk/VAD.c:336-347) lies in `[0, 32767]`; `invNrg` is `int32_MAX / nrg`. -/
theorem noiseCoef_range (nrg nl invNrg : Int) (hnl : 0 ≤ nl ∧ nl ≤ 16777215) (hn : 1 ≤ nrg) (hi1 : 1 ≤ invNrg)
    (hi3 : invNrg * nrg ≤ 2147483647) :
    0 ≤ (if nrg > lshift32 nl 3 then shrI noiseLevelSmoothCoefQ16 3
        else if nrg < nl then noiseLevelSmoothCoefQ16
        else smulwb (smulww invNrg nl) (noiseLevelSmoothCoefQ16 * 2)) ∧
    (if nrg > lshift32 nl 3 then shrI noiseLevelSmoothCoefQ16 3
        else if nrg < nl then noiseLevelSmoothCoefQ16
        else smulwb (smulww invNrg nl) (noiseLevelSmoothCoefQ16 * 2)) ≤ 32767 := by
  rw [noiseLevelSmoothCoefQ16_eq]
  split
  · simp [shrI]
  · split
    · omega
    · rename_i h1 h2
      have hp0 : 0 ≤ invNrg * nl := Int.mul_nonneg (by omega) hnl.1
      have hp1 : invNrg * nl ≤ invNrg * nrg := Int.mul_le_mul_of_nonneg_left (by omega) (by omega)
      rw [smulww_eq (by unfold I32; omega), smulwb_eq (by unfold SilkParams.I16; omega) (by unfold I32; omega)]
      omega

/-- One band of `silk_VAD_GetNoiseLevels`: the divisors are positive and the new `NL`, `inv_NL` are in
    their documented bounds; `inv_NL'` lies between `inv_NL` and the inverse of the biased energy. -/
theorem noiseBand_inv (mc px nl invNl bias : Int) (hmc : 0 ≤ mc ∧ mc ≤ 32767) (hpx : NonNeg32 px)
    (hnl : 0 ≤ nl ∧ nl ≤ 16777215) (hinv : Pos32 invNl) (hb : Pos32 bias) :
    Pos32 (addPosSat32 px bias) ∧
    (1 ≤ (noiseBand mc px nl invNl bias).1 ∧ (noiseBand mc px nl invNl bias).1 ≤ 16777215) ∧
    Pos32 (noiseBand mc px nl invNl bias).2 := by
  unfold Pos32 NonNeg32 at *
  have hnrg := addPosSat32_range px bias hpx (by omega)
  have hnrg1 : 1 ≤ addPosSat32 px bias := by omega
  refine ⟨⟨hnrg1, hnrg.2.1⟩, ?_⟩
  unfold noiseBand
  simp only
  generalize addPosSat32 px bias = nrg at *
  obtain ⟨hin, hi1, hi2, hi3⟩ := div32_pos 2147483647 nrg 1 (by omega) (by omega) (by omega)
  rw [int32Max_eq, hin]
  generalize 2147483647 / nrg = invNrg at *
  obtain ⟨hc0, hc1⟩ := noiseCoef_range nrg nl invNrg hnl (by omega) hi1 hi3
  generalize (if nrg > lshift32 nl 3 then _ else _ : Int) = coef0 at *
  have hmax : 0 ≤ max coef0 mc ∧ max coef0 mc ≤ 32767 := by omega
  generalize max coef0 mc = coef at *
  have hs := smlawb_between invNl invNrg coef ⟨hinv.1, hinv.2⟩ ⟨hi1, hi2⟩ hmax
  unfold Pos32 at hs
  generalize smlawb invNl (invNrg - invNl) coef = inv' at *
  refine ⟨?_, hs.1⟩
  obtain ⟨e, h1, -, -⟩ := div32_pos 2147483647 inv' 1 (by omega) (by omega) (by omega)
  rw [e]
  omega

theorem getNoiseLevels_inv (px : Q4) (st : VadState) (hinv : VadInv st) (hpx : px.all NonNeg32) :
    VadInv (getNoiseLevels px st) ∧ (getNoiseLevels px st).nl.all (fun x => 1 ≤ x ∧ x ≤ 16777215) ∧
      (getNoiseLevels px st).bias = st.bias ∧ (getNoiseLevels px st).xnrgSubfr = st.xnrgSubfr ∧
      (getNoiseLevels px st).ratioSmth = st.ratioSmth ∧ (getNoiseLevels px st).hp = st.hp := by
  have hmc := minCoefOf_range st.counter hinv.counter
  have hb := hinv.bias; have hn := hinv.nl; have hi := hinv.invNl
  unfold Q4.all at hb hn hi hpx
  have r0 := noiseBand_inv (minCoefOf st.counter).1 px.b0 st.nl.b0 st.invNl.b0 st.bias.b0 ⟨hmc.1, hmc.2.1⟩ hpx.1 hn.1 hi.1 hb.1
  have r1 := noiseBand_inv (minCoefOf st.counter).1 px.b1 st.nl.b1 st.invNl.b1 st.bias.b1 ⟨hmc.1, hmc.2.1⟩ hpx.2.1 hn.2.1 hi.2.1 hb.2.1
  have r2 := noiseBand_inv (minCoefOf st.counter).1 px.b2 st.nl.b2 st.invNl.b2 st.bias.b2 ⟨hmc.1, hmc.2.1⟩ hpx.2.2.1 hn.2.2.1 hi.2.2.1 hb.2.2.1
  have r3 := noiseBand_inv (minCoefOf st.counter).1 px.b3 st.nl.b3 st.invNl.b3 st.bias.b3 ⟨hmc.1, hmc.2.1⟩ hpx.2.2.2 hn.2.2.2 hi.2.2.2 hb.2.2.2
  have hnl' : (getNoiseLevels px st).nl.all (fun x => 1 ≤ x ∧ x ≤ 16777215) := ⟨r0.2.1, r1.2.1, r2.2.1, r3.2.1⟩
  refine ⟨⟨⟨hmc.2.2.1, hmc.2.2.2⟩, hinv.bias, ?_, ?_, hinv.xnrgSubfr, hinv.ratioSmth, hinv.hp⟩, hnl', rfl, rfl, rfl, rfl⟩
  · exact ⟨⟨Int.le_trans (by omega) r0.2.1.1, r0.2.1.2⟩, ⟨Int.le_trans (by omega) r1.2.1.1, r1.2.1.2⟩,
      ⟨Int.le_trans (by omega) r2.2.1.1, r2.2.1.2⟩, ⟨Int.le_trans (by omega) r3.2.1.1, r3.2.1.2⟩⟩
  · exact ⟨r0.2.2, r1.2.2, r2.2.2, r3.2.2⟩

theorem anaFilt_i16 (s : Int × Int) (l : List Int) :
    (∀ y ∈ (anaFilt s l).2.1, I16 y) ∧ (∀ y ∈ (anaFilt s l).2.2, I16 y) := by
  fun_induction anaFilt s l with
  | case1 s x0 x1 rest r t ih =>
    simp only [List.mem_cons, forall_eq_or_imp]
    exact ⟨⟨sat16_range _, ih.1⟩, ⟨sat16_range _, ih.2⟩⟩
  | case2 s l h =>
    exact ⟨fun y hy => (by cases hy), fun y hy => (by cases hy)⟩

theorem shr1_i16 (x : Int) (h : I16 x) : -16384 ≤ shrI x 1 ∧ shrI x 1 ≤ 16383 := by
  unfold I16 at h; unfold shrI; omega

theorem hpDiff_i16 (hp : Int) (l : List Int) (hhp : -16384 ≤ hp ∧ hp ≤ 16383) (hl : ∀ x ∈ l, I16 x) :
    (∀ y ∈ hpDiff hp l, I16 y) ∧ (-16384 ≤ hpLast hp l ∧ hpLast hp l ≤ 16383) := by
  induction l generalizing hp with
  | nil => exact ⟨fun y hy => (by cases hy), by simpa [hpLast] using hhp⟩
  | cons x rest ih =>
    have hx := shr1_i16 x (hl x (by simp))
    have := ih (shrI x 1) hx (fun y hy => hl y (by simp [hy]))
    refine ⟨?_, ?_⟩
    · intro y hy
      simp only [hpDiff, List.mem_cons] at hy
      rcases hy with rfl | hy
      · unfold I16; omega
      · exact this.1 y hy
    · cases rest with
      | nil => simp [hpLast]; omega
      | cons x' r' =>
        have h2 := this.2
        simp only [hpLast, List.getLast?_cons_cons] at h2 ⊢
        exact h2

theorem subEnergy_range (l : List Int) (hl : ∀ x ∈ l, I16 x) : 0 ≤ subEnergy l ∧ subEnergy l ≤ l.length * 16777216 := by
  induction l with
  | nil => simp [subEnergy]
  | cons x rest ih =>
    have hr := ih (fun y hy => hl y (by simp [hy]))
    have hx := hl x (by simp)
    unfold I16 at hx
    have hs : -4096 ≤ shrI x 3 ∧ shrI x 3 ≤ 4096 := by unfold shrI; omega
    have h1 : smulbb (shrI x 3) (shrI x 3) = shrI x 3 * shrI x 3 := smulbb_eq (by unfold SilkParams.I16; omega) (by unfold SilkParams.I16; omega)
    have h2 := self_mul_nonneg (shrI x 3)
    have h3 := sq_le (shrI x 3) 4096 (by omega)
    simp only [subEnergy, List.length_cons, h1]
    generalize shrI x 3 * shrI x 3 = q at *
    push_cast
    omega

theorem subEnergy_take (x : List Int) (d n : Nat) (hl : ∀ y ∈ x, I16 y) (hn : n ≤ 64) :
    0 ≤ subEnergy ((x.drop d).take n) ∧ subEnergy ((x.drop d).take n) ≤ 1073741824 := by
  have h := subEnergy_range ((x.drop d).take n) (fun y hy => hl y (List.mem_of_mem_drop (List.mem_of_mem_take hy)))
  have hlen : ((x.drop d).take n).length ≤ n := List.length_take_le _ _
  have : (((x.drop d).take n).length : Int) ≤ 64 := by exact_mod_cast Nat.le_trans hlen hn
  omega

/-- Band energy: with an int16 band signal of decimated length at most 256 (`frame_length ≤ 512`) the
    sub-frame sums stay below 2^30 and the saturating accumulation stays in `[0, int32_MAX]`. -/
theorem bandEnergy_range (carry : Int) (x : List Int) (len : Nat) (hc : NonNeg32 carry) (hl : ∀ y ∈ x, I16 y)
    (hlen : len ≤ 256) :
    NonNeg32 (bandEnergy carry x len).1 ∧ (0 ≤ (bandEnergy carry x len).2 ∧ (bandEnergy carry x len).2 ≤ 1073741824) := by
  unfold NonNeg32 at *
  have hs : len / 4 ≤ 64 := by omega
  have e0 := subEnergy_take x 0 (len / 4) hl hs
  have e1 := subEnergy_take x (len / 4) (len / 4) hl hs
  have e2 := subEnergy_take x (2 * (len / 4)) (len / 4) hl hs
  have e3 := subEnergy_take x (3 * (len / 4)) (len / 4) hl hs
  unfold bandEnergy
  simp only
  generalize subEnergy ((x.drop 0).take (len / 4)) = a0 at *
  generalize subEnergy ((x.drop (len / 4)).take (len / 4)) = a1 at *
  generalize subEnergy ((x.drop (2 * (len / 4))).take (len / 4)) = a2 at *
  generalize subEnergy ((x.drop (3 * (len / 4))).take (len / 4)) = a3 at *
  have h1 := addPosSat32_range carry a0 hc (by omega)
  have h2 := addPosSat32_range _ a1 ⟨h1.1, h1.2.1⟩ (by omega)
  have h3 := addPosSat32_range _ a2 ⟨h2.1, h2.2.1⟩ (by omega)
  have hsh : 0 ≤ shrI a3 1 ∧ shrI a3 1 ≤ 2147483647 := by unfold shrI; omega
  have h4 := addPosSat32_range _ (shrI a3 1) ⟨h3.1, h3.2.1⟩ hsh
  exact ⟨⟨h4.1, h4.2.1⟩, e3⟩

/-- `NrgToNoiseRatio_Q8` is a positive 32-bit value and both divisors are positive; the band's contribution to
    `sumSquared` is in `[0, 2^30]`; and the tilt accumulator is at least `int32_MIN` after the band unless it was below
    already (`silk_SMLAWB` wraps; an untouched tilt stays what it was). -/
theorem snrBand_range (xnrg nl w tilt : Int) (hx : NonNeg32 xnrg) (hn : 0 ≤ nl ∧ nl ≤ 16777215) :
    Pos32 (snrBand xnrg nl w tilt).1 ∧ 0 ≤ (snrBand xnrg nl w tilt).2.1 ∧ (snrBand xnrg nl w tilt).2.1 ≤ 1073741824 ∧
      (-2147483648 ≤ (snrBand xnrg nl w tilt).2.2 ∨ tilt < -2147483648) := by
  unfold NonNeg32 Pos32 at *
  have hsq : ∀ v : Int, 0 ≤ smulbb v v ∧ smulbb v v ≤ 1073741824 := by
    intro v; unfold smulbb
    have : -32768 ≤ wrap16 v ∧ wrap16 v ≤ 32767 := wrap16_I16 v
    exact ⟨self_mul_nonneg _, by have := sq_le (wrap16 v) 32768 (by omega); omega⟩
  by_cases hs : xnrg - nl > 0
  · simp only [snrBand, hs, ↓reduceIte]
    refine ⟨?_, (hsq _).1, (hsq _).2, Or.inl ?_⟩
    · by_cases hlt : 0 ≤ xnrg ∧ xnrg < 8388608
      · rw [if_pos hlt]
        rw [lshift32_eq (by unfold I32; simp only [Int.reducePow]; omega)]
        simp only [Int.reducePow]
        obtain ⟨e, h1, h2, -⟩ := div32_pos (xnrg * 256) (nl + 1) 256 (by omega) (by omega) (by omega)
        rw [e]
        omega
      · rw [if_neg hlt]
        have hd : 1 ≤ shrI nl 8 + 1 ∧ shrI nl 8 + 1 ≤ 65536 := by unfold shrI; omega
        obtain ⟨e, h1, h2, -⟩ := div32_pos xnrg (shrI nl 8 + 1) 128 (by omega) (by omega) (by omega)
        rw [e]
        omega
    · unfold smlawb; exact (wrap32_I32 _).1
  · simp only [snrBand, hs, ↓reduceIte]
    refine ⟨by omega, by omega, by omega, ?_⟩
    omega

theorem snrBand_tilt32 (xnrg nl w tilt : Int) (ht : -2147483648 ≤ tilt ∧ tilt ≤ 2147483647) :
    -2147483648 ≤ (snrBand xnrg nl w tilt).2.2 ∧ (snrBand xnrg nl w tilt).2.2 ≤ 2147483647 := by
  by_cases hs : xnrg - nl > 0
  · simp only [snrBand, hs, ↓reduceIte]; unfold smlawb; exact wrap32_I32 _
  · simp only [snrBand, hs, ↓reduceIte]; exact ht

theorem powerScale_range (sa : Int) (nl xnrg : Q4) (b : Bool) (hsa : 0 ≤ sa ∧ sa ≤ 32767) :
    0 ≤ powerScale sa nl xnrg b ∧ powerScale sa nl xnrg b ≤ 32767 := by
  unfold powerScale
  simp only
  generalize (if b = true then _ else _ : Int) = sn
  split
  · unfold shrI; omega
  · split
    · rename_i h1 h2
      rw [lshift32_eq (by unfold I32; simp only [Int.reducePow]; omega)]
      simp only [Int.reducePow]
      have hq : sqrtApprox (sn * 65536) ≤ 32645 :=
        Int.le_trans (sqrtApprox_small (sn * 65536) 30 1 (by omega) (by simp only [Int.reducePow]; omega) (by omega) (by omega)) (by decide)
      have hq0 := sqrtApprox_nonneg (sn * 65536) (by omega)
      generalize sqrtApprox (sn * 65536) = r at *
      have hp0 : 0 ≤ (32768 + r) * sa := Int.mul_nonneg (by omega) hsa.1
      have hp1 : (32768 + r) * sa ≤ 65413 * 32767 := Int.mul_le_mul (by omega) hsa.2 hsa.1 (by omega)
      rw [smulwb_eq (by unfold SilkParams.I16; omega) (by unfold I32; omega)]
      omega
    · exact hsa

theorem smoothCoef_range (sa : Int) (hsa : 0 ≤ sa ∧ sa ≤ 32767) (half : Bool) :
    0 ≤ smoothCoef sa half ∧ smoothCoef sa half ≤ 1023 := by
  unfold smoothCoef
  simp only
  rw [snrSmoothCoefQ18_eq]
  have hp0 := self_mul_nonneg sa
  have hp1 := sq_le sa 32767 (by omega)
  rw [smulwb_eq (a := sa) (by unfold SilkParams.I16; omega) (by unfold I32; omega), smulwb_eq (by unfold SilkParams.I16; omega) (by unfold I32; omega)]
  cases half <;> simp [shrI] <;> omega

theorem qualityBand_range (smth ratio coef : Int) (hs : Pos32 smth) (hr : Pos32 ratio) (hc : 0 ≤ coef ∧ coef ≤ 1023) :
    Pos32 (qualityBand smth ratio coef).1 ∧ 0 ≤ (qualityBand smth ratio coef).2 ∧ (qualityBand smth ratio coef).2 ≤ 32767 := by
  unfold qualityBand
  simp only
  exact ⟨(smlawb_between smth ratio coef hs hr (by omega)).1, sigmQ15_range _⟩

/-- Output ranges of `silk_VAD_GetSA_Q8`. -/
structure OutOk (o : VadOut) : Prop where
  sa : 0 ≤ o.speechActivityQ8 ∧ o.speechActivityQ8 ≤ 255
  tilt : -32768 ≤ o.inputTiltQ15 ∧ o.inputTiltQ15 ≤ 32766
  quality : o.quality.all (fun x => 0 ≤ x ∧ x ≤ 32767)

theorem bands_inv (st : VadState) (hinv : VadInv st) (len : Nat) (hlen : len ≤ 512) (pIn : List Int) :
    VadInv (bands st len pIn).1 ∧ (bands st len pIn).2.all NonNeg32 ∧
      (bands st len pIn).1.xnrgSubfr.all (fun x => 0 ≤ x ∧ x ≤ 1073741824) ∧ (bands st len pIn).1.bias = st.bias ∧
      (bands st len pIn).1.nl = st.nl ∧ (bands st len pIn).1.invNl = st.invNl ∧ (bands st len pIn).1.counter = st.counter ∧
      (bands st len pIn).1.ratioSmth = st.ratioSmth := by
  have hx := hinv.xnrgSubfr
  unfold Q4.all at hx
  have f0 := anaFilt_i16 st.ana0 (pIn.take len)
  have f1 := anaFilt_i16 st.ana1 ((anaFilt st.ana0 (pIn.take len)).2.1.take (len / 2))
  have f2 := anaFilt_i16 st.ana2 ((anaFilt st.ana1 ((anaFilt st.ana0 (pIn.take len)).2.1.take (len / 2))).2.1.take (len / 4))
  have hd := hpDiff_i16 st.hp ((anaFilt st.ana2 ((anaFilt st.ana1 ((anaFilt st.ana0 (pIn.take len)).2.1.take (len / 2))).2.1.take (len / 4))).2.1.take (len / 8))
    hinv.hp (fun y hy => f2.1 y (List.mem_of_mem_take hy))
  have e0 := bandEnergy_range st.xnrgSubfr.b0 _ (len / 8) hx.1 hd.1 (by omega)
  have e1 := bandEnergy_range st.xnrgSubfr.b1 _ (len / 8) hx.2.1 f2.2 (by omega)
  have e2 := bandEnergy_range st.xnrgSubfr.b2 _ (len / 4) hx.2.2.1 f1.2 (by omega)
  have e3 := bandEnergy_range st.xnrgSubfr.b3 _ (len / 2) hx.2.2.2 f0.2 (by omega)
  refine ⟨⟨hinv.counter, hinv.bias, hinv.nl, hinv.invNl, ?_, hinv.ratioSmth, hd.2⟩, ⟨e0.1, e1.1, e2.1, e3.1⟩,
    ⟨e0.2, e1.2, e2.2, e3.2⟩, rfl, rfl, rfl, rfl, rfl⟩
  exact ⟨⟨e0.2.1, Int.le_trans e0.2.2 (by omega)⟩, ⟨e1.2.1, Int.le_trans e1.2.2 (by omega)⟩,
         ⟨e2.2.1, Int.le_trans e2.2.2 (by omega)⟩, ⟨e3.2.1, Int.le_trans e3.2.2 (by omega)⟩⟩

theorem snrStage_range (nl xnrg : Q4) (hn : nl.all (fun x => 0 ≤ x ∧ x ≤ 16777215)) (hx : xnrg.all NonNeg32) :
    (0 ≤ (snrStage nl xnrg).1 ∧ (snrStage nl xnrg).1 ≤ 32767) ∧
    (-32768 ≤ (snrStage nl xnrg).2.1 ∧ (snrStage nl xnrg).2.1 ≤ 32766) ∧ (snrStage nl xnrg).2.2.all Pos32 := by
  unfold Q4.all at hn hx
  unfold snrStage
  simp only
  refine ⟨sigmQ15_range _, ?_, ⟨(snrBand_range _ _ _ _ hx.1 hn.1).1, (snrBand_range _ _ _ _ hx.2.1 hn.2.1).1,
    (snrBand_range _ _ _ _ hx.2.2.1 hn.2.2.1).1, (snrBand_range _ _ _ _ hx.2.2.2 hn.2.2.2).1⟩⟩
  have := sigmQ15_range (snrBand xnrg.b3 nl.b3 tiltWeights.b3
    (snrBand xnrg.b2 nl.b2 tiltWeights.b2 (snrBand xnrg.b1 nl.b1 tiltWeights.b1 (snrBand xnrg.b0 nl.b0 tiltWeights.b0 0).2.2).2.2).2.2).2.2
  generalize sigmQ15 _ = v at *
  rw [lshift32_eq (by unfold I32; omega)]
  omega

theorem decision_ok (st2 : VadState) (xnrg : Q4) (fs len : Nat) (hinv : VadInv st2) (hx : xnrg.all NonNeg32) :
    VadInv (decision st2 xnrg fs len).st ∧ OutOk (decision st2 xnrg fs len) ∧ (decision st2 xnrg fs len).st.bias = st2.bias := by
  have hs := snrStage_range st2.nl xnrg hinv.nl hx
  have hp := powerScale_range (snrStage st2.nl xnrg).1 st2.nl xnrg (decide (len = 20 * fs)) hs.1
  have hc := smoothCoef_range _ hp (decide (len = 10 * fs))
  have hr := hinv.ratioSmth
  have hq := hs.2.2
  unfold Q4.all at hr hq
  have q0 := qualityBand_range st2.ratioSmth.b0 _ _ hr.1 hq.1 hc
  have q1 := qualityBand_range st2.ratioSmth.b1 _ _ hr.2.1 hq.2.1 hc
  have q2 := qualityBand_range st2.ratioSmth.b2 _ _ hr.2.2.1 hq.2.2.1 hc
  have q3 := qualityBand_range st2.ratioSmth.b3 _ _ hr.2.2.2 hq.2.2.2 hc
  refine ⟨⟨hinv.counter, hinv.bias, hinv.nl, hinv.invNl, hinv.xnrgSubfr, ⟨q0.1, q1.1, q2.1, q3.1⟩, hinv.hp⟩,
    ⟨?_, hs.2.1, ⟨q0.2, q1.2, q2.2, q3.2⟩⟩, rfl⟩
  show 0 ≤ min (shrI (powerScale _ _ _ _) 7) 255 ∧ min (shrI (powerScale _ _ _ _) 7) 255 ≤ 255
  generalize powerScale _ _ _ _ = sa at *
  unfold shrI
  omega

/-- **`silk_VAD_GetSA_Q8_c` is total and stays in range**: from any state satisfying the invariant, for
    any legal frame length and any frame (the band signals are saturated to int16 by the filter bank), the call returns
    (no assertion, no out-of-bounds read),
    every divisor is positive (part of `noiseBand_inv` / `snrBand_range`), the invariant holds again and
    the outputs are in their documented ranges; `NoiseLevelBias` never changes. -/
theorem getSA_ok (st : VadState) (hinv : VadInv st) (fs len : Nat) (hlen : len ≤ 512 ∧ len % 8 = 0) (pIn : List Int)
    (hp : len ≤ pIn.length) :
    ∃ o, getSA st fs len pIn = .ok o ∧ VadInv o.st ∧ OutOk o ∧ o.st.bias = st.bias := by
  unfold getSA
  rw [if_neg (by omega), if_neg (by omega)]
  simp only
  have hb := bands_inv st hinv len hlen.1 pIn
  have hn := getNoiseLevels_inv (bands st len pIn).2 (bands st len pIn).1 hb.1 hb.2.1
  have hd := decision_ok (getNoiseLevels (bands st len pIn).2 (bands st len pIn).1) (bands st len pIn).2 fs len hn.1 hb.2.1
  exact ⟨_, rfl, hd.1, hd.2.1, by rw [hd.2.2, hn.2.2.1, hb.2.2.2.1]⟩

end Opus.SilkVad
