import OpusProofs.ExtRepFrames
import OpusProofs.ExtRepIterAll
import OpusProofs.ExtParseExt
/-
  C16, repeat mechanism: the full round trip — the generator writes `serAll` of the queues, iteration
  over those bytes reports `expAll` of the queues, which is, frame by frame, the original array.
-/
namespace Opus.ExtProofs
open Opus Opus.Ext

theorem filter_all {l : List Ext} {t : Nat} (h : ∀ e ∈ l, e.frame.toNat = t) : l.filter (fun e => e.frame.toNat = t) = l := by
  rw [List.filter_eq_self]; intro a ha; simpa using h a ha

theorem filter_none {l : List Ext} {t g : Nat} (h : ∀ e ∈ l, e.frame.toNat = g) (hne : g ≠ t) :
    l.filter (fun e => e.frame.toNat = t) = [] := by
  rw [List.filter_eq_nil_iff]; intro a ha; have := h a ha; simp; omega

/-- Frame `t` of a flattened list of per-frame lists (frames `g0, g0+1, …`). -/
theorem flatten_filter {nbF : Nat} : ∀ (rs : List (List Ext)) (g0 : Nat), QOk nbF g0 rs →
    ∀ t, rs.flatten.filter (fun e => e.frame.toNat = t) = if g0 ≤ t then (rs[t - g0]?).getD [] else [] := by
  intro rs
  induction rs with
  | nil => intro g0 _ t; simp
  | cons r rs ih =>
    intro g0 h t
    have hr : ∀ e ∈ r, e.frame.toNat = g0 := fun e he => (h.head e he).2
    have ih' := ih (g0 + 1) h.later t
    rw [List.flatten_cons, List.filter_append, ih']
    by_cases h1 : g0 = t
    · subst h1
      rw [filter_all hr]
      have : ¬ (g0 + 1 ≤ g0) := by omega
      simp [this]
    · rw [filter_none hr h1]
      by_cases h2 : g0 ≤ t
      · have h3 : g0 + 1 ≤ t := by omega
        have h4 : t - g0 = (t - (g0 + 1)) + 1 := by omega
        simp only [h2, h3, if_true, List.nil_append]
        rw [h4]; simp
      · have h3 : ¬ (g0 + 1 ≤ t) := by omega
        simp [h2, h3]

theorem expAll_filter (nbF : Nat) (rems : List (List Ext)) : ∀ (f : Nat), QOk nbF f rems →
    ∀ t, (expAll rems).filter (fun e => e.frame.toNat = t) = if f ≤ t then (rems[t - f]?).getD [] else [] := by
  induction rems using queues_ind with
  | nil => intro f _ t; rw [expAll]; simp
  | cons a later ih =>
    intro f hq t
    have ha : ∀ e ∈ a, e.frame.toNat = f := fun e he => (hq.head e he).2
    rw [expAll_cons]
    generalize blockR a later = R
    have ih' := ih (List.drop R) (f + 1) (hq.tail R) t
    have hflat := flatten_filter _ (f + 1) (hq.later.map (List.take R) fun _ _ => List.mem_of_mem_take) t
    simp only [List.filter_append, ih', hflat]
    by_cases h1 : f = t
    · subst h1
      rw [filter_all (fun e he => ha e (List.mem_of_mem_take he)), filter_all (fun e he => ha e (List.mem_of_mem_drop he))]
      have : ¬ (f + 1 ≤ f) := by omega
      simp [this]
    · rw [filter_none (fun e he => ha e (List.mem_of_mem_take he)) h1, filter_none (fun e he => ha e (List.mem_of_mem_drop he)) h1]
      by_cases h2 : f ≤ t
      · have h3 : f + 1 ≤ t := by omega
        have h4 : t - f = (t - (f + 1)) + 1 := by omega
        simp only [h2, h3, if_true, List.nil_append, List.append_nil]
        rw [h4]
        simp only [List.getElem?_cons_succ, List.getElem?_map]
        cases later[t - (f + 1)]? with
        | none => simp
        | some r => simp
      · have h3 : ¬ (f + 1 ≤ t) := by omega
        simp [h2, h3]

theorem expAll_length (rems : List (List Ext)) : (expAll rems).length = total rems := by
  induction rems using queues_ind with
  | nil => rw [expAll]; rfl
  | cons a later ih =>
    rw [expAll_cons, total_cons]
    generalize blockR a later = R
    have hfl : ∀ (l : List (List Ext)), ((l.map (List.take R)).flatten).length + total (l.map (List.drop R)) = total l := by
      intro l
      induction l with
      | nil => rfl
      | cons r rs ihr =>
        simp only [List.map_cons, List.flatten_cons, List.length_append, total_cons, List.length_take, List.length_drop]
        omega
    simp only [List.length_append, ih (List.drop R), List.length_take, List.length_drop]
    have := hfl later
    omega

theorem queues_eq_remsFrom {exts : Array Ext} {nbF : Nat} {mn mx : List Nat} (hI : ScanInv exts nbF exts.size mn mx) :
    remsFrom exts mx mn nbF 0 = queues exts nbF := by
  unfold remsFrom queues
  rw [Nat.sub_zero, ← List.range_eq_range']
  apply List.map_congr_left
  intro g hg
  rw [List.mem_range] at hg
  exact seg_all (hI.idx g hg)

theorem queues_QOk (exts : Array Ext) (nbF : Nat) (hv : AllValid exts nbF) : QOk nbF 0 (queues exts nbF) := by
  refine ⟨by simp [queues], ?_⟩
  intro i r hr e he
  have hlt : i < nbF := by simpa [queues] using (List.getElem?_eq_some_iff.mp hr).1
  unfold queues at hr
  rw [List.getElem?_map, List.getElem?_range hlt] at hr
  simp only [Option.map_some, Option.some.injEq] at hr; subst hr
  unfold allOf at he
  rw [List.mem_filter] at he
  obtain ⟨j, hj⟩ := List.mem_iff_getElem?.mp he.1
  exact ⟨hv j e (by simpa using hj), by simpa using he.2⟩

theorem total_queuesIF (exts : Array Ext) (nbF : Nat) (hv : AllIF exts nbF) : total (queues exts nbF) = exts.size := by
  rw [← sortedFrom_lengthIF exts nbF hv]
  unfold sortedFrom queues total
  rw [Nat.sub_zero, ← List.range_eq_range', List.length_flatMap, List.map_map]
  rfl

theorem total_queues (exts : Array Ext) (nbF : Nat) (hv : AllValid exts nbF) : total (queues exts nbF) = exts.size :=
  total_queuesIF exts nbF (fun j e h => (hv j e h).toIF)

/-- For every array whose IDs and frame indices are valid, `opus_packet_extensions_generate()` is `wAll` of the per-frame
    queues. -/
theorem genOps_eq (exts : Array Ext) (nbF : Nat) (hv : AllIF exts nbF) :
    genOps exts nbF = wAll exts.size (queues exts nbF) 0 0 := by
  obtain ⟨mn, mx, hscan, hI⟩ := scanLoop_spec exts nbF hv 0 _ _ (scanInv_init exts nbF) (Nat.zero_le _)
  have hQI : QInv exts mx nbF 0 { written := 0, currFrame := 0, minIdx := mn, repIdx := mn } := by
    refine ⟨hI.lmn, hI.lmn, fun _ _ _ => rfl, ?_, ?_⟩
    · intro g _ hg e he hlt
      rcases (hI.idx g hg).first with h | ⟨_, e', he', hf'⟩
      · have := (hI.idx g hg).mxle; simp only at hlt; omega
      · simp only at he; rw [he'] at he; cases he; exact hf'
    · intro g _ hg
      rcases (hI.idx g hg).first with h | ⟨h, _⟩
      · simp only; omega
      · simp only; omega
  obtain ⟨sF, h1, h2⟩ := wFramesLoop_eq hv hI.lmx (fun g hg => (hI.idx g hg).mxle) (fun g hg => (hI.idx g hg).lastp) 0 _ hQI
    (by simp only; rw [queues_eq_remsFrom hI, total_queuesIF exts nbF hv]; omega)
  unfold genOps
  rw [hscan, W.lift_ok_bind]
  simp only
  rw [h1, W.as_bind, queues_eq_remsFrom hI]
  simp only [h2, ne_eq, not_true_eq_false, if_false, W.bind_pure, W.as_unit]

/-- The action sequence of the generator for EVERY array whose IDs and frame indices are valid, both outcomes:
    with admissible payload lengths it ends normally and writes `serAll` of the per-frame queues;
    with an inadmissible payload length anywhere (negative, or more than 1 for a short ID) it ends in `OPUS_BAD_ARG`. -/
theorem genOps_gen (exts : Array Ext) (nbF : Nat) (hnf : nbF ≤ 48) (hv : AllIF exts nbF) (hD : ExtsOk exts) :
    ((∀ (j : Nat) (e : Ext), exts[j]? = some e → LenOk e) →
      (genOps exts nbF).res = .ok () ∧
      content false (genOps exts nbF).ops = serAll exts.size (queues exts nbF) 0 0) ∧
    ((∃ (j : Nat) (e : Ext), exts[j]? = some e ∧ ¬ LenOk e) → (genOps exts nbF).res = .err .badArg) := by
  rw [genOps_eq exts nbF hv]
  have hmem : ∀ r ∈ queues exts nbF, ∀ x ∈ r, ∃ j : Nat, exts[j]? = some x := by
    intro r hr x hx
    obtain ⟨g, _, rfl⟩ := List.mem_map.mp hr
    obtain ⟨j, hj⟩ := List.mem_iff_getElem?.mp (List.mem_filter.mp hx).1
    exact ⟨j, by simpa using hj⟩
  constructor
  · intro hL
    have hq := queues_QOk exts nbF (fun j e h => validExt_of (hv j e h) (hL j e h) (hD j e h))
    have := wAll_writes hnf exts.size (queues exts nbF) 0 0 0 hq (by rw [total_queuesIF exts nbF hv]; omega) (Nat.le_refl _)
    exact ⟨this.ok, this.bytes⟩
  · rintro ⟨j, e, he, hb⟩
    refine (wAll_ends (nbF := nbF) exts.size (queues exts nbF) 0 0 (fun r hr x hx => ?_)).bad (fun hall => hb ?_)
    · obtain ⟨i, hi⟩ := hmem r hr x hx; exact hv i x hi
    · have hif := hv j e he
      have hg : e.frame.toNat < nbF := by have := hif.fr_lo; have := hif.fr_hi; omega
      refine hall (allOf exts e.frame.toNat) (List.mem_map.mpr ⟨_, List.mem_range.mpr hg, rfl⟩) e ?_
      exact List.mem_filter.mpr ⟨List.mem_iff_getElem?.mpr ⟨j, by simpa using he⟩, by simp⟩

theorem allIF_of_all (exts : Array Ext) (nbF : Nat)
    (h : ∀ e ∈ exts.toList, 3 ≤ e.id ∧ e.id ≤ 127 ∧ 0 ≤ e.frame ∧ e.frame < (nbF : Int)) : AllIF exts nbF := by
  intro j e he
  have := h e (List.mem_iff_getElem?.mpr ⟨j, by simpa using he⟩)
  exact ⟨this.1, this.2.1, this.2.2.1, this.2.2.2⟩

theorem toExt_frame (bs : Bytes) (r : ExtRef) : (ExtRef.toExt bs r).frame.toNat = r.frame := by
  simp [ExtRef.toExt]

/-- Iteration over `k` padding bytes `01` followed by what the generator writes for `exts`: the reader skips the
    padding (also when it replays a repeat block whose source region starts at the first padding byte), reports one
    reference per extension, in the order `expAll`, and — frame by frame — exactly the extensions of that frame, in
    array order, with identical IDs, lengths and payload bytes. -/
theorem iter_padded_full (exts : Array Ext) (nbF : Nat) (hnf : nbF ≤ 48) (hv : AllValid exts nbF) (k : Nat)
    (hk : 0 < k → 0 < nbF) (cap : Int) (hcap : (exts.size : Int) ≤ cap) :
    let x := List.replicate k 1 ++ serAll exts.size (queues exts nbF) 0 0
    ∃ it refs, iterInit x x.length nbF = .ok it ∧ iterAll it = .ok (refs, .done) ∧
      parse x x.length cap nbF = .ok refs ∧ refs.length = exts.size ∧
      refs.map (ExtRef.toExt x) = (expAll (queues exts nbF)).map normExt ∧
      ∀ g, (refs.filter (fun r => r.frame = g)).map (ExtRef.toExt x) = (allOf exts g).map normExt := by
  intro x
  have hq := queues_QOk exts nbF hv
  obtain ⟨it, hit, hst, hrd, hll⟩ := iterInit_st x hnf
  have hx : Tail x.toArray 0 x := ⟨by intro i hi; simp, by simp⟩
  obtain ⟨it1, hs1, hst1, hr1, hl1⟩ := ones_steps k 0 it hst hk hx
  have hx2 := hx.drop
  simp only [Nat.zero_add, List.length_replicate] at hst1 hx2
  obtain ⟨it', cur', hsteps, hst'⟩ := serAll_steps (n := exts.size) (queues exts nbF) 0 0 0 k it1 hq
    (by rw [total_queues exts nbF hv]; omega) (Nat.le_refl _) hst1
    (fun _ => ⟨k, by rw [hr1, hrd]; omega, by rw [hr1, hrd]; exact hx.bytes.append.1, by rw [hl1, hll]⟩) hx2
  have hend := iterAll_end (by simpa using hst' : St x.toArray nbF x.toArray.size cur' it')
  obtain ⟨rs, hall, hmap⟩ := (hs1.trans hsteps) [] .done hend
  simp only [List.append_nil, List.nil_append] at hall hmap
  have hrslen : rs.length = exts.size := by
    have := congrArg List.length hmap
    simp only [List.length_map] at this
    rw [this, expAll_length (queues exts nbF), total_queues exts nbF hv]
  refine ⟨it, rs, hit, hall, ?_, hrslen, hmap, ?_⟩
  · rw [parse_iterAll hit hall cap (by omega), if_neg (by omega), if_pos rfl]
  · intro g
    have h1 : (rs.filter (fun r => r.frame = g)).map (ExtRef.toExt x) =
        (rs.map (ExtRef.toExt x)).filter (fun e => e.frame.toNat = g) := by
      rw [List.filter_map]
      congr 1
    rw [h1, hmap]
    have h2 : ((expAll (queues exts nbF)).map normExt).filter (fun e => e.frame.toNat = g) =
        ((expAll (queues exts nbF)).filter (fun e => e.frame.toNat = g)).map normExt := by
      rw [List.filter_map]
      congr 1
    rw [h2, expAll_filter nbF (queues exts nbF) 0 hq g]
    simp only [Nat.zero_le, if_true, Nat.sub_zero]
    unfold queues
    rw [List.getElem?_map]
    by_cases hg : g < nbF
    · rw [List.getElem?_eq_getElem (by simpa using hg)]; simp
    · rw [List.getElem?_eq_none (by simpa using hg), allOf_eq_nil_of_ge hv (by omega)]; rfl

/-- For EVERY array of valid extensions and every buffer that is large enough, `generate` succeeds and writes `serAll`
    of the per-frame queues, preceded by `01` bytes up to `len` when padding is requested. -/
theorem generate_serAll (exts : Array Ext) (nbF : Nat) (hnf : nbF ≤ 48) (hv : AllValid exts nbF) (len : Int)
    (hlen : ((serAll exts.size (queues exts nbF) 0 0).length : Int) ≤ len) (pad : Bool) :
    generate false len exts nbF pad =
      .ok ((if pad = true then List.replicate (len.toNat - (serAll exts.size (queues exts nbF) 0 0).length) 1 else []) ++
        serAll exts.size (queues exts nbF) 0 0).toArray := by
  have hE := allValid_extsOk hv
  obtain ⟨hres, hcontent⟩ := (genOps_gen exts nbF hnf (fun j e h => (hv j e h).toIF) hE).1 (fun j e h => (hv j e h).lenOk)
  have hN := genOps_nice exts hE nbF
  have hsize : opsSize (genOps exts nbF).ops = (serAll exts.size (queues exts nbF) 0 0).length := by
    rw [← content_length false _ (Or.inr hN.copy), hcontent]
  rw [generate_eq false len exts nbF pad hE (by omega) (by omega)]
  simp only [Int.toNat_natCast]
  have hp : needsPass len 0 (genOps exts nbF).ops := by
    apply needsPass_of_req
    have := hN.hon () hres
    rw [hsize] at this
    omega
  simp only [hp, if_true, hcontent, hres, hsize]
  cases pad with
  | false => simp
  | true =>
    by_cases hlt : ((serAll exts.size (queues exts nbF) 0 0).length : Int) < len
    · simp only [hlt, and_self, if_true, Bool.false_eq_true, if_false]
      apply congrArg
      apply Array.ext'
      simp
    · simp only [hlt, and_false, if_false, if_true]
      have : len.toNat - (serAll exts.size (queues exts nbF) 0 0).length = 0 := by omega
      rw [this]; simp

/-- Round trip through the repeat mechanism: for EVERY array of valid extensions and every buffer
    that is large enough, `generate` succeeds; `parse` on the bytes it wrote succeeds, returns one entry
    per extension, and — frame by frame — the entries are exactly the extensions of that frame, in
    array order, with identical IDs, lengths and payload bytes. -/
theorem generate_parse_full (exts : Array Ext) (nbF : Nat) (hnf : nbF ≤ 48) (hv : AllValid exts nbF) (len : Int)
    (hlen : ((serAll exts.size (queues exts nbF) 0 0).length : Int) ≤ len) (cap : Int) (hcap : (exts.size : Int) ≤ cap) :
    let bs := serAll exts.size (queues exts nbF) 0 0
    generate false len exts nbF false = .ok bs.toArray ∧
    ∃ refs, parse bs bs.length cap nbF = .ok refs ∧ refs.length = exts.size ∧
      refs.map (ExtRef.toExt bs) = (expAll (queues exts nbF)).map normExt ∧
      ∀ g, (refs.filter (fun r => r.frame = g)).map (ExtRef.toExt bs) = (allOf exts g).map normExt := by
  intro bs
  obtain ⟨_, refs, _, _, h⟩ := iter_padded_full exts nbF hnf hv 0 (fun h => absurd h (Nat.lt_irrefl 0)) cap hcap
  exact ⟨generate_serAll exts nbF hnf hv len hlen false, refs, h⟩

/-- The same round trip when the extension block is preceded by `k` padding bytes `01` (what `generate`
    with `pad = 1` and the repacketizer's padding path produce): the reader skips them, also when it
    replays a repeat block whose source region starts at the first padding byte. -/
theorem parse_padded_full (exts : Array Ext) (nbF : Nat) (hnf : nbF ≤ 48) (hnf0 : 0 < nbF) (hv : AllValid exts nbF) (k : Nat)
    (cap : Int) (hcap : (exts.size : Int) ≤ cap) :
    let bs := serAll exts.size (queues exts nbF) 0 0
    let x := List.replicate k 1 ++ bs
    ∃ refs, parse x x.length cap nbF = .ok refs ∧ refs.length = exts.size ∧
      refs.map (ExtRef.toExt x) = (expAll (queues exts nbF)).map normExt ∧
      ∀ g, (refs.filter (fun r => r.frame = g)).map (ExtRef.toExt x) = (allOf exts g).map normExt := by
  intro bs x
  obtain ⟨_, refs, _, _, h⟩ := iter_padded_full exts nbF hnf hv k (fun _ => hnf0) cap hcap
  exact ⟨refs, h⟩

theorem toExt_valid {x : Bytes} {nbF : Nat} {e : ExtRef}
    (h : 3 ≤ e.id ∧ e.id ≤ 127 ∧ e.frame < nbF ∧ 0 ≤ e.len ∧ (e.off : Int) + e.len ≤ x.length) (hs : e.id < 32 → e.len ≤ 1) :
    ValidExt nbF (ExtRef.toExt x e) ∧ normExt (ExtRef.toExt x e) = ExtRef.toExt x e := by
  obtain ⟨h1, h2, h3, h4, h5⟩ := h
  have hlen : ((x.drop e.off).take e.len.toNat).length = e.len.toNat := by
    simp only [List.length_take, List.length_drop]; omega
  refine ⟨⟨by simp [ExtRef.toExt]; omega, by simp [ExtRef.toExt]; omega, by simp [ExtRef.toExt], by simp [ExtRef.toExt]; omega,
    by simp [ExtRef.toExt]; omega, fun h => by simp only [ExtRef.toExt] at h ⊢; exact hs (by omega), ?_⟩, ?_⟩
  · simp only [ExtRef.toExt, hlen]; omega
  · simp only [normExt, payload, ExtRef.toExt]
    congr 1
    rw [List.take_of_length_le (by rw [hlen]; exact Nat.le_refl _)]

end Opus.ExtProofs
