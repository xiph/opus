import OpusProofs.CeltFrameMain
import OpusProofs.CeltAllocTree
import OpusProofs.CeltBandsTotal
/-
  OpusProofs.CeltFrameDrive — C03's `celtFrame` feeds `clt_compute_allocation` from the range decoder one call at a
  time (`allocDrive`: re-run the allocation with the values decoded so far, look at the next call it makes, decode
  it).  With the oracle-prefix determinism of the allocation (OpusProofs/CeltAllocTree.lean) this reaches exactly the
  allocation of the encoder, and the CELT frame round trip can be stated against `celtFrame` itself.
-/
namespace OpusProofs.CeltHdr
open Opus Opus.RangeCoder Opus.CeltSymsEnc
open Opus.CeltBands (BSt)
open OpusProofs.CeltAlloc (opVal SameKind)

/-- One round of `allocDrive`: the allocation run on the values so far (`oj`) asks next for a call `x2` of the kind of `x`; the
    drive decodes it — what the decoder returns does not depend on the value a call carries, so this is the decoder's answer to
    `allocOp x` — and goes on with that value appended.  Only the coder state moves (`x` legal: an `ec_dec_uint` in range raises no
    `fault`). -/
theorem allocDrive_round (p : CeltAlloc.Inp) (k : Nat) (orc : List Nat) (s : BSt) (oj : CeltAlloc.Out)
    (hoj : CeltAlloc.computeAllocation p { encode := false, oracle := orc, ops := [] } = .ok oj)
    (x x2 : CeltAlloc.Op) (rest : List CeltAlloc.Op) (hd : oj.ops.drop orc.length = x2 :: rest) (sk : SameKind x x2)
    (hleg : (allocOp x).Legal) :
    ∃ s1 : BSt, Opus.CeltBands.allocDrive p (k + 1) orc s =
        Opus.CeltBands.allocDrive p k (orc ++ [(decOp s.c (allocOp x)).1]) s1 ∧
      s1.c = (decOp s.c (allocOp x)).2 ∧ s1.rem = s.rem ∧ s1.fault = s.fault := by
  rw [Opus.CeltBands.allocDrive, hoj]
  simp only [hd]
  cases x with
  | bit v1 =>
    cases x2 with
    | bit v2 => exact ⟨(s.bit 1).2, rfl, rfl, rfl, rfl⟩
    | uint v2 ft => exact absurd sk (by simp [SameKind])
  | uint v1 f1 =>
    cases x2 with
    | bit v2 => exact absurd sk (by simp [SameKind])
    | uint v2 ft =>
      obtain rfl : f1 = ft := sk
      have hl : 2 ≤ f1 ∧ f1 ≤ 4294967295 := ⟨hleg.1, hleg.2.1⟩
      refine ⟨(s.uint f1).2, rfl, rfl, rfl, ?_⟩
      rw [Opus.CeltBandsProofs.uint_fault, decide_eq_false (by omega), decide_eq_false (by omega), Bool.or_false, Bool.or_false]

/-- `allocDrive` reproduces a run `o` of the allocation whose calls the range decoder answers with that run's values: with the
    calls `pre` behind it and their values as oracle, from a decoder state that answers the remaining calls `post`. -/
theorem allocDrive_run (p : CeltAlloc.Inp) (hp : OpusProofs.CeltAlloc.Dom p) (o : CeltAlloc.Out)
    (hfull : ∀ rest, CeltAlloc.computeAllocation p { encode := false, oracle := o.ops.map opVal ++ rest, ops := [] } = .ok o)
    (hleg : ∀ op ∈ o.ops.map allocOp, op.Legal) :
    ∀ (post pre : List CeltAlloc.Op) (k : Nat), o.ops = pre ++ post → ∀ s : BSt,
      (decRun s.c (post.map allocOp)).1 = post.map opVal →
      ∃ s', Opus.CeltBands.allocDrive p (k + post.length + 1) (pre.map opVal) s = .ok (o, s') ∧
        s'.c = (decRun s.c (post.map allocOp)).2 ∧ s'.rem = s.rem ∧ s'.fault = s.fault := by
  intro post
  induction post with
  | nil =>
    intro pre k hpre s _
    rw [List.append_nil] at hpre
    have hrun := hfull []
    rw [List.append_nil, hpre] at hrun
    refine ⟨s, ?_, rfl, rfl, rfl⟩
    rw [Opus.CeltBands.allocDrive, hrun]
    have : o.ops.drop (pre.map opVal).length = [] := by rw [hpre]; simp
    simp only [this]
  | cons x post ih =>
    intro pre k hpre s hv
    obtain ⟨oj, hoj, _⟩ := OpusProofs.CeltAlloc.alloc_main p hp
      { encode := false, oracle := pre.map opVal, ops := [] } (fun h => by simp at h)
    have hrunV := hfull []
    rw [List.append_nil, hpre, List.map_append] at hrunV
    have hlen : (pre.map opVal).length = pre.length := List.length_map _
    have hx : o.ops[pre.length]? = some x := by rw [hpre]; simp
    rcases OpusProofs.CeltAlloc.alloc_oracle_prefix p _ _ [] o oj hrunV (by rw [List.append_nil]; exact hoj) with
      ⟨_, hle⟩ | ⟨x1, x2, g1, g2, sk⟩
    · rw [hlen, hpre] at hle; simp at hle
    · rw [hlen] at g1 g2
      obtain rfl : x = x1 := by rw [hx] at g1; injection g1
      have hdrop : oj.ops.drop pre.length = x2 :: oj.ops.drop (pre.length + 1) := by
        obtain ⟨hj2, hx2⟩ := List.getElem?_eq_some_iff.mp g2
        rw [← hx2]; exact List.drop_eq_getElem_cons hj2
      simp only [List.map_cons, decRun, List.cons.injEq] at hv ⊢
      obtain ⟨hval, hv'⟩ := hv
      obtain ⟨s1, e1, c1, r1, f1⟩ := allocDrive_round p (k + post.length + 1) (pre.map opVal) s oj hoj x x2 _
        (by rw [hlen]; exact hdrop) sk (hleg _ (by rw [hpre]; simp))
      rw [hval] at e1
      obtain ⟨s', r1', r2, r3, r4⟩ := ih (pre ++ [x]) k (by rw [hpre]; simp) s1 (by rw [c1]; exact hv')
      rw [List.map_append] at r1'
      exact ⟨s', e1.trans r1', by rw [r2, c1], by rw [r3, r1], by rw [r4, f1]⟩

theorem encHeader_size_le (cfg : EncCfg) (s0 : St) (hdr : EncHdr) (hrun : encHeader cfg s0 = .ok hdr)
    (hsil : hdr.silence = 0) : hdr.size ≤ cfg.size := by
  obtain ⟨_, _, _, _, _, _, _, rfl, _, _, _, hrun⟩ := encHeader_ok hrun
  obtain ⟨k1, _, _, _, _, _, _, _, k10⟩ := encTail_facts _ _ _ _ _ _ _ _ _ _ _ hrun
  have := (encSilence_zero (cfg := cfg) (s := s0) (by rw [← k1]; exact hsil)).1
  omega

/-- C03's allocation input is the one of `HdrAgree.allocAgree` -/
theorem allocInp_eq (cfg : EncCfg) (dh : Opus.CeltSyms.CeltHdr)
    (hcaps : dh.caps = (List.range Opus.CeltSymsFrozen.nbEBands).map (Opus.CeltSyms.capOf (cfgD cfg))) :
    Opus.CeltBands.allocInp (cfgD cfg) dh = decAllocInp cfg dh 0 0 0 0 := by
  unfold Opus.CeltBands.allocInp decAllocInp
  have h1 : (List.replicate cfg.start 0 ++ dh.offsets).map Int.ofNat =
      List.replicate cfg.start (0 : Int) ++ dh.offsets.map (fun (x : Nat) => (x : Int)) := by
    rw [List.map_append, List.map_replicate]; rfl
  have h2 : dh.caps.map Int.ofNat = CeltAlloc.initCaps cfg.LM cfg.C := by
    rw [hcaps]; exact Opus.CeltBandsProofs.caps_eq (cfgD cfg)
  show CeltAlloc.Inp.mk _ _ _ _ _ _ _ _ _ _ _ _ = _
  simp only [h1, h2]

/-- **The CELT frame round trip against C03's `celtFrame`** (non-silent frame).  Under the hypotheses of `header_roundtrip`
    (explained there), for the header `fr.hdr` of the frame, C03's complete frame decoder model — header, allocation fed call
    by call from the range decoder, band data — returns the encoder's header, the encoder's allocation and ends with the
    encoder's final range. -/
theorem celtFrame_roundtrip (w : World) (P0 : List Op) (cfg : EncCfg) (s0 : St) (hs0 : s0.ops = [])
    (he0 : s0.e = w.encAt P0) (hst0 : s0.e.storage = cfg.size)
    (fr : Opus.CeltBandsEnc.EncFrame) (hrun : Opus.CeltBandsEnc.encFrame cfg s0 = .ok fr) (hsil : fr.hdr.silence = 0)
    (hp : w.IsPrefix (P0 ++ fr.ops))
    (hcfg : cfg.start < cfg.end_ ∧ cfg.end_ ≤ 21 ∧ (cfg.C = 1 ∨ cfg.C = 2) ∧ cfg.LM ≤ 3)
    (hsz : cfg.size ≤ 1275) (hlen : w.len = fr.hdr.size)
    (hmargin : w.len = cfg.size ∨ (tell (w.encAt (P0 ++ fr.hdr.opsHdr)) + 16 ≤ ((w.len * 8 : Nat) : Int) ∧
       (tellFrac (w.encAt (P0 ++ fr.hdr.opsHdr)) : Int) + fr.hdr.totalBoost + 48 < ((w.len * 8 * 8 : Nat) : Int)))
    (hroom : tell s0.e < ((w.len * 8 : Nat) : Int))
    (htap : fr.hdr.pf.on ≠ 0 → tell (w.encAt (P0 ++ fr.hdr.opsPf.dropLast)) + 2 ≤ ((w.len * 8 : Nat) : Int))
    (hint : (cfg.start : Int) ≤ fr.hdr.allocInp.intensity)
    (hdual : fr.hdr.allocInp.dualStereo = 0 ∨ fr.hdr.allocInp.dualStereo = 1) :
    ∃ (dh : Opus.CeltSyms.CeltHdr) (sA : BSt), FrameAgree w P0 cfg fr dh ∧
      sA.c = w.decAt (P0 ++ fr.hdr.ops) ∧
      Opus.CeltBands.celtFrame (cfgD cfg) w.len (w.decAt P0) =
        .ok { hdr := dh, alloc := fr.hdr.alloc, allocSt := sA,
              fin := Opus.CeltBands.afterAlloc (cfgD cfg) w.len dh fr.hdr.alloc
                { rem := 0, c := w.decAt (P0 ++ fr.hdr.ops), tr := [], fault := false } } := by
  obtain ⟨hh, pH⟩ := encFrame_hdr w P0 hrun hp
  obtain ⟨dh, hd, agH⟩ := header_roundtrip w P0 cfg s0 hs0 he0 hst0 fr.hdr hh hsil pH hcfg hsz hlen hmargin hroom htap hint hdual
  have ag := frame_roundtrip w P0 cfg s0 fr hrun hp hcfg hlen dh agH
  have hLM : cfg.LM < 4 := by have := hcfg.2.2.2; omega
  obtain ⟨hcaps, _⟩ := Opus.CeltBandsProofs.celtHeader_shape (cfgD cfg) w.len (w.decAt P0) dh hd
  have hpe := allocInp_eq cfg dh hcaps
  have hlenLe : w.len ≤ 262144 := by
    have hk := encHeader_size_le cfg s0 fr.hdr hh hsil
    omega
  have hdom := Opus.CeltBandsProofs.allocInp_dom (cfgD cfg) w.len (w.decAt P0) dh hd hLM hcfg.2.2.1 hcfg.1 hcfg.2.1 hlenLe
  have hops := Opus.CeltBandsProofs.allocOps_of_dom _ hdom
  have hfull : ∀ rest, CeltAlloc.computeAllocation (Opus.CeltBands.allocInp (cfgD cfg) dh)
      { encode := false, oracle := fr.hdr.alloc.ops.map opVal ++ rest, ops := [] } = .ok fr.hdr.alloc := by
    intro rest
    have := ag.hdr.allocAgree 0 0 0 0 rest
    rw [ag.hdr.allocVals] at this
    rw [hpe]; exact this
  -- `celtFrame` drives the allocation with fuel 64: one round per value it asks for, at most 63 of them (`allocOps_of_dom`),
  -- and a last one that returns
  have hn63 : fr.hdr.alloc.ops.length ≤ 63 := by
    have := hops (fr.hdr.alloc.ops.map opVal) fr.hdr.alloc (by have := hfull []; rw [List.append_nil] at this; exact this)
    exact this.1
  have hpH : w.IsPrefix (P0 ++ fr.hdr.opsHdr ++ fr.hdr.alloc.ops.map allocOp) := by
    obtain ⟨δ, hδ⟩ := ag.opsExt
    rw [hδ, ag.hdr.opsSplit, ← List.append_assoc, ← List.append_assoc] at hp
    exact World.isPrefix_of_append hp
  obtain ⟨sA, r1, r2, r3, r4⟩ := allocDrive_run (Opus.CeltBands.allocInp (cfgD cfg) dh) hdom fr.hdr.alloc hfull
    (w.legal_mem _ _ hpH) fr.hdr.alloc.ops [] (63 - fr.hdr.alloc.ops.length) rfl
    { rem := 0, c := dh.dec, tr := [], fault := false } ag.hdr.allocVals
  have hfuel : 63 - fr.hdr.alloc.ops.length + fr.hdr.alloc.ops.length + 1 = 64 := by omega
  rw [hfuel, List.map_nil] at r1
  have hsAc : sA.c = w.decAt (P0 ++ fr.hdr.ops) := by rw [r2]; exact ag.hdr.decAtBands
  refine ⟨dh, sA, ag, hsAc, ?_⟩
  unfold Opus.CeltBands.celtFrame
  rw [hd]
  simp only [r1]
  have hst : ({ sA with tr := [] } : BSt) = { rem := 0, c := w.decAt (P0 ++ fr.hdr.ops), tr := [], fault := false } := by
    rw [← hsAc]
    cases sA
    simp only at r3 r4 ⊢
    rw [r3, r4]
  rw [hst, ag.noFault]
  simp only [Bool.false_eq_true, if_false]

end OpusProofs.CeltHdr
