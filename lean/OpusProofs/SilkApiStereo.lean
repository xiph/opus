import OpusModel.SilkApiSpec
/-! silk_stereo_MS_to_LR keeps the buffer lengths and saturates every output sample to int16. -/
namespace Opus.SilkApi

theorem sat16_in16 (x : Int) : In16 (sat16 x) := by
  unfold sat16 In16; split
  · omega
  · split <;> omega

theorem msLoop1_length (x1 : List Int) (d0 d1 : Int) : ∀ (cnt n : Nat) (p0 p1 : Int) (x2 : List Int),
    (msLoop1 x1 d0 d1 cnt n p0 p1 x2).length = x2.length
  | 0, _, _, _, _ => rfl
  | cnt + 1, n, p0, p1, x2 => by
    unfold msLoop1
    simp only []
    rw [msLoop1_length x1 d0 d1 cnt]; simp

theorem msLoop2_length (x1 : List Int) (p0 p1 : Int) : ∀ (cnt n : Nat) (x2 : List Int),
    (msLoop2 x1 p0 p1 cnt n x2).length = x2.length
  | 0, _, _ => rfl
  | cnt + 1, n, x2 => by
    unfold msLoop2
    rw [msLoop2_length x1 p0 p1 cnt]; simp

theorem msToLR_length (st : Stereo) (x1 x2 : List Int) (p0 p1 fs N : Int) :
    (msToLR st x1 x2 p0 p1 fs N).x1.length = x1.length ∧ (msToLR st x1 x2 p0 p1 fs N).x2.length = x2.length := by
  unfold msToLR
  simp [msLoop1_length, msLoop2_length]

theorem mapIdx_sat (f : Nat → Int → Int) (l : List Int) (k : Nat) (v : Int) (hf : ∀ w, In16 (f k w))
    (h : (l.mapIdx f)[k]? = some v) : In16 v := by
  rw [List.getElem?_mapIdx] at h
  cases hl : l[k]? with
  | none => simp [hl] at h
  | some w => simp [hl] at h; rw [← h]; exact hf w

/-- Elements 1..N of both outputs come out of the final silk_SAT16 (:82-:83). -/
theorem msToLR_in16 (st : Stereo) (x1 x2 : List Int) (p0 p1 fs N : Int) (k : Nat) (h1 : 1 ≤ k) (h2 : k ≤ N.toNat) (v : Int)
    (hk : (msToLR st x1 x2 p0 p1 fs N).x1[k]? = some v ∨ (msToLR st x1 x2 p0 p1 fs N).x2[k]? = some v) : In16 v := by
  unfold msToLR at hk
  rcases hk with hk | hk <;>
    exact mapIdx_sat _ _ k v (fun w => by simp only [if_pos (And.intro h1 h2)]; exact sat16_in16 _) hk

end Opus.SilkApi
