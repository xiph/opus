import OpusProofs.ExtSer
import OpusProofs.ExtGen
/-
  The first loop nest of the generator: what it computes (`frame_min_idx`, `frame_max_idx`) and the argument validation it
  performs.
-/
namespace Opus.ExtProofs
open Opus Opus.Ext

/-- ID and frame index of an extension are what the API allows (the payload length is not constrained). -/
structure IFExt (nbF : Nat) (e : Ext) : Prop where
  id_lo : 3 ≤ e.id
  id_hi : e.id ≤ 127
  fr_lo : 0 ≤ e.frame
  fr_hi : e.frame < nbF

/-- Every array entry has a valid ID and frame index. -/
def AllIF (exts : Array Ext) (nbF : Nat) : Prop := ∀ (j : Nat) (e : Ext), exts[j]? = some e → IFExt nbF e

/-- The payload length is admissible: non-negative, and 0 or 1 for a short ID. -/
def LenOk (e : Ext) : Prop := 0 ≤ e.len ∧ (e.id < 32 → e.len ≤ 1)

instance (e : Ext) : Decidable (LenOk e) := by unfold LenOk; infer_instance

theorem ValidExt.toIF {nbF : Nat} {e : Ext} (h : ValidExt nbF e) : IFExt nbF e := ⟨h.id_lo, h.id_hi, h.fr_lo, h.fr_hi⟩
theorem ValidExt.lenOk {nbF : Nat} {e : Ext} (h : ValidExt nbF e) : LenOk e := ⟨h.len_lo, h.short⟩
/-- The predicates on one extension: `ValidExt` (what the API accepts) is `IFExt` (ID and frame: what the first loop of the
    generator checks, `OPUS_BAD_ARG` before anything is written; `BadIdFrame` is its negation with `nb_frames` an `Int`) and
    `LenOk` (checked only when the payload is written) and `DataOk` (the caller's pointer supplies `len` bytes: no C check, a
    precondition).  `AllIF`, `AllValid`, `ExtsOk` are `IFExt`, `ValidExt`, `DataOk` of every array entry. -/
theorem validExt_of {nbF : Nat} {e : Ext} (h1 : IFExt nbF e) (h2 : LenOk e) (h3 : DataOk e) : ValidExt nbF e :=
  ⟨h1.id_lo, h1.id_hi, h1.fr_lo, h1.fr_hi, h2.1, h2.2, h3⟩

/-- What `lo = frame_min_idx[f]` and `hi = frame_max_idx[f]` satisfy after the first `i` extensions were scanned: those of
    frame `f` among them lie in `[lo, hi)`, which begins and ends with one of them (with none so far, `lo = nb_extensions` and
    `hi = 0`). -/
structure FrameIdx (exts : Array Ext) (i f lo hi : Nat) : Prop where
  cover : ∀ (j : Nat) (e : Ext), j < i → exts[j]? = some e → e.frame.toNat = f → lo ≤ j ∧ j < hi
  mxle : hi ≤ i
  first : lo = exts.size ∨ (lo < i ∧ ∃ e, exts[lo]? = some e ∧ e.frame.toNat = f)
  lastp : hi = 0 ∨ ∃ e, exts[hi - 1]? = some e ∧ e.frame.toNat = f

/-- Scanning an extension of frame `f` (extensions.c:482-483). -/
theorem FrameIdx.here {exts : Array Ext} {i f lo hi : Nat} {e : Ext} (h : FrameIdx exts i f lo hi) (he : exts[i]? = some e)
    (hf : e.frame.toNat = f) : FrameIdx exts (i + 1) f (min lo i) (max hi (i + 1)) := by
  have hmx := h.mxle
  have hi' := (Array.getElem?_eq_some_iff.mp he).1
  refine ⟨fun j e' hj hj' hf' => ?_, by omega, .inr ?_, .inr ⟨e, by rw [show max hi (i + 1) - 1 = i by omega]; exact he, hf⟩⟩
  · by_cases hji : j = i
    · omega
    · have := h.cover j e' (by omega) hj' hf'; omega
  · rcases h.first with h1 | ⟨h1, x, h2, h3⟩
    · rw [show min lo i = i by omega]; exact ⟨by omega, e, he, hf⟩
    · rw [show min lo i = lo by omega]; exact ⟨by omega, x, h2, h3⟩

theorem FrameIdx.other {exts : Array Ext} {i f lo hi : Nat} {e : Ext} (h : FrameIdx exts i f lo hi) (he : exts[i]? = some e)
    (hf : e.frame.toNat ≠ f) : FrameIdx exts (i + 1) f lo hi := by
  have hmx := h.mxle
  refine ⟨fun j e' hj hj' hf' => ?_, by omega, h.first.imp_right fun ⟨h1, x⟩ => ⟨by omega, x⟩, h.lastp⟩
  by_cases hji : j = i
  · subst hji; rw [he] at hj'; cases hj'; exact absurd hf' hf
  · exact h.cover j e' (by omega) hj' hf'

structure ScanInv (exts : Array Ext) (nbF i : Nat) (mn mx : List Nat) : Prop where
  lmn : mn.length = nbF
  lmx : mx.length = nbF
  idx : ∀ f, f < nbF → FrameIdx exts i f (mn.getD f 0) (mx.getD f 0)

theorem getD_set_eq (l : List Nat) (i v : Nat) (h : i < l.length) : (l.set i v).getD i 0 = v := by
  simp [List.getD, h]

theorem getD_set_ne (l : List Nat) (i j v : Nat) (h : i ≠ j) : (l.set i v).getD j 0 = l.getD j 0 := by
  simp [List.getD, List.getElem?_set_ne h]

theorem scanLoop_spec (exts : Array Ext) (nbF : Nat) (hv : AllIF exts nbF)
    (i : Nat) (mn mx : List Nat) :
    ScanInv exts nbF i mn mx → i ≤ exts.size →
    ∃ mn' mx', scanLoop exts (nbF : Int) i mn mx = .ok (mn', mx') ∧ ScanInv exts nbF exts.size mn' mx' := by
  fun_induction scanLoop exts (nbF : Int) i mn mx with
  | case1 i mn mx hlt hnone =>
    intro _ _
    have : exts.size ≤ i := by simpa using hnone
    omega
  | case2 i mn mx hlt e hsome hbad =>
    intro _ _
    have hve := hv i e hsome
    have := hve.fr_lo; have := hve.fr_hi; omega
  | case3 i mn mx hlt e hsome hfr hbad =>
    intro _ _
    have hve := hv i e hsome
    have := hve.id_lo; have := hve.id_hi; omega
  | case4 i mn mx hlt e hsome hfr hid f ih =>
    intro hI hle
    have hve := hv i e hsome
    have hf : f < nbF := by have := hve.fr_lo; have := hve.fr_hi; omega
    refine ih ⟨by simp [hI.lmn], by simp [hI.lmx], fun g hg => ?_⟩ (by omega)
    by_cases hfg : f = g
    · subst hfg
      rw [getD_set_eq _ _ _ (by rw [hI.lmn]; exact hf), getD_set_eq _ _ _ (by rw [hI.lmx]; exact hf)]
      exact (hI.idx f hf).here hsome rfl
    · rw [getD_set_ne _ _ _ _ hfg, getD_set_ne _ _ _ _ hfg]
      exact (hI.idx g hg).other hsome hfg
  | case5 i mn mx hge =>
    intro hI hle
    have : i = exts.size := by omega
    subst this
    exact ⟨mn, mx, rfl, hI⟩

theorem scanInv_init (exts : Array Ext) (nbF : Nat) :
    ScanInv exts nbF 0 (List.replicate nbF exts.size) (List.replicate nbF 0) := by
  refine ⟨by simp, by simp, fun f hf => ?_⟩
  rw [show (List.replicate nbF exts.size).getD f 0 = exts.size by simp [List.getD, hf],
    show (List.replicate nbF 0).getD f 0 = 0 by simp [List.getD, hf]]
  exact ⟨fun j e hj => by omega, Nat.le_refl _, .inl rfl, .inl rfl⟩

/-- ID or frame index outside what the API allows. -/
def BadIdFrame (nbFrames : Int) (e : Ext) : Prop :=
  e.frame < 0 ∨ nbFrames ≤ e.frame ∨ e.id < 3 ∨ 127 < e.id

theorem scanLoop_badArg (exts : Array Ext) (nbF : Int) (i : Nat) (mn mx : List Nat) :
    (∃ (j : Nat) (e : Ext), i ≤ j ∧ exts[j]? = some e ∧ BadIdFrame nbF e) →
    scanLoop exts nbF i mn mx = .err .badArg := by
  fun_induction scanLoop exts nbF i mn mx with
  | case1 i mn mx hlt hnone =>
    intro _
    have : exts.size ≤ i := by simpa using hnone
    omega
  | case2 => intro _; rfl
  | case3 => intro _; rfl
  | case4 i mn mx hlt e hsome hfr hid f ih =>
    intro ⟨j, e', hij, hj, hbad⟩
    apply ih
    refine ⟨j, e', ?_, hj, hbad⟩
    by_cases hji : j = i
    · subst hji
      rw [hsome] at hj; cases hj
      unfold BadIdFrame at hbad; omega
    · omega
  | case5 i mn mx hge =>
    intro ⟨j, e', hij, hj, _⟩
    have ⟨_, _⟩ := Array.getElem?_eq_some_iff.mp hj
    omega

/-- An extension with an ID outside 3..127 or a frame index outside `0..nb_frames-1` makes the
    generator return `OPUS_BAD_ARG` before anything is written; so do more than 48 frames. -/
theorem generate_badArg (dry : Bool) (len : Int) (exts : Array Ext) (nbFrames : Int) (pad : Bool) (hl : 0 ≤ len)
    (h : 48 < nbFrames ∨ ∃ (j : Nat) (e : Ext), exts[j]? = some e ∧ BadIdFrame (nbFrames.toNat : Int) e) :
    generate dry len exts nbFrames pad = .err .badArg ∧
    (nbFrames ≤ 48 → (genOps exts nbFrames.toNat).ops = []) := by
  unfold generate
  have h1 : ¬ len < 0 := by omega
  by_cases hn : 48 < nbFrames
  · simp only [h1, hn, if_false, if_true, true_and]; omega
  · rcases h with h | ⟨j, e, hj, hbad⟩
    · exact absurd h hn
    · have hs := scanLoop_badArg exts (nbFrames.toNat : Int) 0 (List.replicate nbFrames.toNat exts.size)
          (List.replicate nbFrames.toNat 0) ⟨j, e, Nat.zero_le _, hj, hbad⟩
      have hg : genOps exts nbFrames.toNat = { ops := [], res := .err .badArg } := by
        unfold genOps
        simp only [W.bind_eq, W.bind, W.lift, hs]
      simp only [h1, hn, if_false, hg, runOps]
      exact ⟨trivial, fun _ => trivial⟩

/-- Conversely, whenever the generator succeeds every ID is in 3..127 and every frame index is
    below `nb_frames`. -/
theorem generate_ok_valid {dry : Bool} {len : Int} {exts : Array Ext} {nbFrames : Int} {pad : Bool}
    {out : Array Nat} (h : generate dry len exts nbFrames pad = .ok out) :
    nbFrames ≤ 48 ∧ ∀ (j : Nat) (e : Ext), exts[j]? = some e →
      0 ≤ e.frame ∧ e.frame < nbFrames ∧ 3 ≤ e.id ∧ e.id ≤ 127 := by
  have hl := (generate_ok_args h).1
  have hb := fun hbad => (generate_badArg dry len exts nbFrames pad hl hbad).1
  rw [h] at hb
  constructor
  · apply Decidable.byContradiction; intro hc
    cases hb (Or.inl (by omega))
  · intro j e hj
    apply Decidable.byContradiction; intro hc
    cases hb (Or.inr ⟨j, e, hj, by unfold BadIdFrame; omega⟩)

theorem rdN_getD {l : List Nat} {i : Nat} (h : i < l.length) : rdN l i = .ok (l.getD i 0) := by
  simp [rdN, List.getD, h]

end Opus.ExtProofs
