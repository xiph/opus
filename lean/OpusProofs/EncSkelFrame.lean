import OpusModel.EncSkel
import OpusProofs.EncSkelRepack
/-
  OpusProofs.EncSkelFrame — what one `opus_encode_frame_native` call returns, for all oracle
  behaviours that satisfy the contracts (`frameOk`): no assertion fires, no INTERNAL_ERROR /
  BUFFER_TOO_SMALL return is taken, `1 ≤ ret ≤ max_data_bytes`, CBR frames are exactly
  `max_data_bytes` long unless the DTX return is taken, and the configuration fields of the
  state are left alone; and, for ALL oracle values, how a call leaves `prev_mode`, `prev_channels`, `first`
  (`frameNative_st`).  (Properties C05 and C02.)
-/
namespace Opus.EncSkel.Proofs
open Opus Opus.EncDecide Opus.EncSkel

/-- What `opus_encode_frame_native` needs from its caller: a budget of 3..1276 bytes and a
    mode/bandwidth pair as the decision chain leaves it. -/
structure FramePre (s : St) (fi : FrameIn) : Prop where
  mLo : 3 ≤ fi.maxDataBytes
  mHi : fi.maxDataBytes ≤ 1276
  mode : s.mode = MODE_SILK_ONLY ∨ s.mode = MODE_HYBRID ∨ s.mode = MODE_CELT_ONLY
  bw : s.mode = MODE_SILK_ONLY → s.bandwidth = BW_NB ∨ s.bandwidth = BW_MB ∨ s.bandwidth = BW_WB

/-- Fields of the state that a frame call never changes. -/
def Keeps (a b : St) : Prop :=
  b = { a with silkBwSwitch := b.silkBwSwitch, opusCanSwitch := b.opusCanSwitch,
               allowBwSwitch := b.allowBwSwitch, inWBmode := b.inWBmode, prevMode := b.prevMode,
               prevChannels := b.prevChannels, prevFramesize := b.prevFramesize, first := b.first,
               nbNoActivity := b.nbNoActivity }

theorem Keeps.refl (a : St) : Keeps a a := rfl

theorem Keeps.trans {a b c : St} (h1 : Keeps a b) (h2 : Keeps b c) : Keeps a c := by
  unfold Keeps at *; rw [h2, h1]

/-- Header bytes of a CBR frame: what `opus_packet_pad` leaves before the payload. -/
def cbrHdr (toc : Nat) (payload m : Int) : Bytes :=
  match (padSpec toc [payload.toNat] (payload + 1) m).2 with
  | some r => r.hdr
  | none => [toc]

/-- `cbrHdr` is the header of the padded contract output of `m` bytes: `opus_packet_pad` leaves a code-0 packet that
    fills `m` alone and re-codes it as code 3 when there is room to fill. -/
theorem cbrHdr_spec (toc : Nat) (payload m : Int) (hp : 0 ≤ payload ∧ payload ≤ 1275) (hm : payload + 1 ≤ m) :
    outRange toc [payload.toNat] m.toNat true = .ok { size := m.toNat, hdr := cbrHdr toc payload m } := by
  unfold cbrHdr
  rcases (padSpec_shape toc [payload.toNat] (payload + 1) m (by simp) (by intro l hl; simp at hl; omega)
    (by simp [baseSize]; omega) hm).2 with ⟨heq, hnone⟩ | ⟨-, q, hq, hsome, hsz⟩
  · rw [hnone, show m.toNat = payload.toNat + 1 by omega]
    exact outRange_code0 toc payload.toNat true
  · rw [hsome, hq, ← hsz]

/-- What a frame call within `FramePre` and the oracle contracts returns.  The CBR clause also records
    `payload + 1 ≤ max_data_bytes`: it is what lets `opus_packet_pad` (`padSpec_shape`) account for the header. -/
structure FramePost (s : St) (fi : FrameIn) (r : FrameRes) : Prop where
  noAbort : r.abort = false
  retLo : 1 ≤ r.ret
  retHi : r.ret ≤ fi.maxDataBytes
  payload : 0 ≤ r.payload ∧ r.payload ≤ 1275
  dtx1 : r.dtx = true → r.ret = 1 ∧ r.payload = 0 ∧ r.hdr = [r.toc]
  cbr : s.useVbr = 0 → r.dtx = false → r.ret = fi.maxDataBytes ∧ r.hdr = cbrHdr r.toc r.payload fi.maxDataBytes ∧
          r.payload + 1 ≤ fi.maxDataBytes
  vbr : s.useVbr ≠ 0 → r.dtx = false → r.ret = r.payload + 1 ∧ r.hdr = [r.toc]
  toc : ∃ bw, r.toc = genToc s.mode (s.fs / fi.frameSize) bw s.streamChannels ∧
          (s.mode ≠ MODE_SILK_ONLY → bw = s.bandwidth) ∧
          (s.mode = MODE_SILK_ONLY → bw = BW_NB ∨ bw = BW_MB ∨ bw = BW_WB)
  keeps : Keeps s r.st

theorem Keeps.mode {a b : St} (h : Keeps a b) : b.mode = a.mode := by
  unfold Keeps at h; rw [h]
theorem Keeps.bandwidth {a b : St} (h : Keeps a b) : b.bandwidth = a.bandwidth := by
  unfold Keeps at h; rw [h]
theorem Keeps.fs {a b : St} (h : Keeps a b) : b.fs = a.fs := by
  unfold Keeps at h; rw [h]
theorem Keeps.useVbr {a b : St} (h : Keeps a b) : b.useVbr = a.useVbr := by
  unfold Keeps at h; rw [h]
theorem Keeps.bitrateBps {a b : St} (h : Keeps a b) : b.bitrateBps = a.bitrateBps := by
  unfold Keeps at h; rw [h]
theorem Keeps.streamChannels {a b : St} (h : Keeps a b) : b.streamChannels = a.streamChannels := by
  unfold Keeps at h; rw [h]
theorem Keeps.userBitrate {a b : St} (h : Keeps a b) : b.userBitrate = a.userBitrate := by
  unfold Keeps at h; rw [h]
theorem Keeps.useDtx {a b : St} (h : Keeps a b) : b.useDtx = a.useDtx := by
  unfold Keeps at h; rw [h]
theorem Keeps.toMono {a b : St} (h : Keeps a b) : b.toMono = a.toMono := by
  unfold Keeps at h; rw [h]

/-- `frPre` clears `silk_bw_switch` and writes nothing else (when the switch is clear the write is the identity). -/
theorem frPre_st (s : St) (fi : FrameIn) : (frPre s fi).st = { s with silkBwSwitch := 0 } := by
  unfold frPre
  dsimp only
  split
  · rfl
  · rename_i h
    have h0 : s.silkBwSwitch = 0 := Decidable.not_not.mp h
    cases s
    dsimp only at h0
    subst h0
    rfl

theorem frPre_keeps (s : St) (fi : FrameIn) : Keeps s (frPre s fi).st := by
  rw [frPre_st]; rfl

theorem silkSt_keeps (p : Pre) (o : FrameOr) : Keeps p.st (silkSt p o) := rfl
theorem silkSt2_keeps (p : Pre) (o : FrameOr) : Keeps p.st (silkSt2 p o) := rfl

theorem silkCurrBw_spec (s : St) (o : FrameOr)
    (hbw : s.mode = MODE_SILK_ONLY → s.bandwidth = BW_NB ∨ s.bandwidth = BW_MB ∨ s.bandwidth = BW_WB) :
    (s.mode ≠ MODE_SILK_ONLY → silkCurrBw s o = s.bandwidth) ∧
    (s.mode = MODE_SILK_ONLY → silkCurrBw s o = BW_NB ∨ silkCurrBw s o = BW_MB ∨ silkCurrBw s o = BW_WB) := by
  unfold silkCurrBw
  simp only [BW_NB, BW_MB, BW_WB, MODE_SILK_ONLY] at *
  constructor
  · intro h; rw [if_neg h]
  · intro h; have := hbw h; rw [if_pos h]; omega

/-- The SILK calls go through: no assertion (:2019, :2127) fires and `silk_Encode` returns 0. -/
def SilkRuns (p : Pre) (o : FrameOr) : Prop :=
  ¬ (p.st.bandwidth ≠ BW_NB ∧ p.st.bandwidth ≠ BW_MB ∧ p.st.mode ≠ MODE_HYBRID ∧ p.st.bandwidth ≠ BW_WB) ∧
  o.silkRet = 0 ∧ ¬ (p.st.mode ≠ MODE_SILK_ONLY ∧ o.isr ≠ 16000)

/-- **The SILK block, by outcome.**  It continues in the state it found (CELT-only mode: nothing happened) or in `silkSt2`,
    with `silk_bw_switch` set and the redundancy decided afresh when SILK is ready to switch bandwidth.  It returns early —
    never in CELT-only mode — with the DTX return (:2132) when the SILK calls went through, otherwise with an assertion or
    INTERNAL_ERROR outcome in the state before or after the calls. -/
theorem frSilk_cases (fi : FrameIn) (p : Pre) (o : FrameOr) :
    match frSilk fi p o with
    | .cont x =>
      x.currBw = silkCurrBw p.st o ∧
      (x.st = p.st ∨ x.st = silkSt2 p o ∨ x.st = { (silkSt2 p o) with silkBwSwitch := 1 }) ∧
      ((x.redundancy = p.redundancy ∧ x.rb = p.rb) ∨
       (x.redundancy = decide (x.rb ≠ 0) ∧
        x.rb = computeRedundancyBytes fi.maxDataBytes p.st.bitrateBps (p.st.fs / fi.frameSize) p.st.streamChannels))
    | .done r =>
      p.st.mode ≠ MODE_CELT_ONLY ∧
      ((SilkRuns p o ∧ r = silkDtxRes fi p o (silkCalls p (silkBudget p.st fi p o))) ∨
       (¬ SilkRuns p o ∧ (r.st = p.st ∨ r.st = silkSt p o))) := by
  unfold SilkRuns
  rw [frSilk]
  by_cases hc : p.st.mode = MODE_CELT_ONLY
  · rw [if_pos hc]
    refine ⟨?_, Or.inl rfl, Or.inl ⟨rfl, rfl⟩⟩
    unfold silkCurrBw
    rw [if_neg (by rw [hc]; decide)]
  rw [if_neg hc]
  by_cases h1 : p.st.bandwidth ≠ BW_NB ∧ p.st.bandwidth ≠ BW_MB ∧ p.st.mode ≠ MODE_HYBRID ∧ p.st.bandwidth ≠ BW_WB
  · rw [if_pos h1]; exact ⟨hc, Or.inr ⟨fun hr => hr.1 h1, Or.inl rfl⟩⟩
  rw [if_neg h1]
  by_cases h2 : o.silkRet ≠ 0
  · rw [if_pos h2]; exact ⟨hc, Or.inr ⟨fun hr => h2 hr.2.1, Or.inr rfl⟩⟩
  rw [if_neg h2]
  by_cases h3 : p.st.mode ≠ MODE_SILK_ONLY ∧ o.isr ≠ 16000
  · rw [if_pos h3]; exact ⟨hc, Or.inr ⟨fun hr => hr.2.2 h3, Or.inr rfl⟩⟩
  rw [if_neg h3]
  by_cases hn : o.nBytes = 0
  · rw [if_pos hn]; exact ⟨hc, Or.inl ⟨⟨h1, Decidable.not_not.mp h2, h3⟩, rfl⟩⟩
  rw [if_neg hn]
  by_cases hs : canSwitch p.st o ≠ 0
  · rw [if_pos hs]; exact ⟨rfl, Or.inr (Or.inr rfl), Or.inr ⟨rfl, rfl⟩⟩
  · rw [if_neg hs]; exact ⟨rfl, Or.inr (Or.inl rfl), Or.inl ⟨rfl, rfl⟩⟩

theorem silkRuns_of (p : Pre) (o : FrameOr) (hm : p.st.mode = MODE_SILK_ONLY ∨ p.st.mode = MODE_HYBRID)
    (hbw : p.st.mode = MODE_SILK_ONLY → p.st.bandwidth = BW_NB ∨ p.st.bandwidth = BW_MB ∨ p.st.bandwidth = BW_WB)
    (hk : silkOk p.st o = true) : SilkRuns p o := by
  unfold silkOk at hk
  unfold SilkRuns
  simp only [decide_eq_true_eq, MODE_SILK_ONLY, MODE_HYBRID, MODE_CELT_ONLY, BW_NB, BW_MB, BW_WB] at *
  omega

/-- How a frame call leaves `prev_mode`, `prev_channels`, `first` (whatever the oracles say, also on
    the error and assertion outcomes): untouched (early returns) — `prev_channels` possibly set by the
    SILK DTX return — or set by the state update at :2423-2430. -/
def FrameSt (s : St) (r : St) : Prop :=
  Keeps s r ∧
  ((r.prevMode = s.prevMode ∧ r.first = s.first ∧ (r.prevChannels = s.prevChannels ∨ r.prevChannels = s.streamChannels)) ∨
   (r.first = 0 ∧ (r.prevMode = s.mode ∨ r.prevMode = MODE_CELT_ONLY) ∧ r.prevChannels = s.streamChannels))

theorem frSilk_st (s : St) (fi : FrameIn) (o : FrameOr) :
    (∀ r, frSilk fi (frPre s fi) o = .done r → FrameSt s r.st) ∧
    (∀ x, frSilk fi (frPre s fi) o = .cont x → Keeps s x.st ∧ x.st.prevMode = s.prevMode ∧ x.st.first = s.first ∧
       x.st.prevChannels = s.prevChannels) := by
  have hkp := frPre_keeps s fi
  have hp : (frPre s fi).st.prevMode = s.prevMode ∧ (frPre s fi).st.first = s.first ∧
      (frPre s fi).st.prevChannels = s.prevChannels ∧ (frPre s fi).st.streamChannels = s.streamChannels := by
    rw [frPre_st]; exact ⟨rfl, rfl, rfl, rfl⟩
  generalize frPre s fi = p at *
  obtain ⟨h1, h2, h3, h4⟩ := hp
  have hk2 : Keeps s (silkSt2 p o) := hkp.trans (silkSt2_keeps p o)
  have hcs := frSilk_cases fi p o
  constructor
  · intro r hr
    rw [hr] at hcs
    rcases hcs.2 with ⟨-, h⟩ | ⟨-, h | h⟩ <;> rw [h]
    · unfold silkDtxRes
      exact ⟨hk2.trans rfl, Or.inl ⟨h1, h2, Or.inr h4⟩⟩
    · exact ⟨hkp, Or.inl ⟨h1, h2, Or.inl h3⟩⟩
    · exact ⟨hkp.trans (silkSt_keeps p o), Or.inl ⟨h1, h2, Or.inl h3⟩⟩
  · intro x hx
    rw [hx] at hcs
    -- the three fields are those of `p.st` by unfolding: `dsimp` does that at once, the unifier left to itself takes 3 M
    rcases hcs.2.1 with h | h | h <;> rw [h]
    · exact ⟨hkp, h1, h2, h3⟩
    · exact ⟨hk2, by dsimp only [silkSt2, silkSt]; exact ⟨h1, h2, h3⟩⟩
    · exact ⟨hk2.trans rfl, by dsimp only [silkSt2, silkSt]; exact ⟨h1, h2, h3⟩⟩

/-- Within the contract `silkOk` the SILK block either takes the DTX return (:2132) or continues with the same
    configuration. -/
theorem frSilk_spec (s : St) (fi : FrameIn) (o : FrameOr) (hp : FramePre s fi)
    (hk : silkOk (frPre s fi).st o = true) :
    (∃ r, frSilk fi (frPre s fi) o = .done r ∧ FramePost s fi r ∧ r.dtx = true) ∨
    (∃ x, frSilk fi (frPre s fi) o = .cont x ∧ Keeps s x.st ∧
        (s.mode ≠ MODE_SILK_ONLY → x.currBw = s.bandwidth) ∧
        (s.mode = MODE_SILK_ONLY → x.currBw = BW_NB ∨ x.currBw = BW_MB ∨ x.currBw = BW_WB)) := by
  obtain ⟨hd, hc⟩ := frSilk_st s fi o
  have hkp := frPre_keeps s fi
  generalize frPre s fi = p at *
  have hm := hkp.mode
  have hbw : p.st.mode = MODE_SILK_ONLY → p.st.bandwidth = BW_NB ∨ p.st.bandwidth = BW_MB ∨ p.st.bandwidth = BW_WB := by
    rw [hm, hkp.bandwidth]; exact hp.bw
  have hcb := silkCurrBw_spec p.st o hbw
  rw [hm, hkp.bandwidth] at hcb
  have hcs := frSilk_cases fi p o
  cases hs : frSilk fi p o with
  | done r =>
    rw [hs] at hcs
    obtain ⟨hnc, h⟩ := hcs
    have hkr := (hd r hs).1
    rcases h with ⟨-, rfl⟩ | ⟨hnr, -⟩
    · refine Or.inl ⟨_, rfl, ?_, rfl⟩
      have hm1 := hp.mLo
      unfold silkDtxRes at hkr ⊢
      exact ⟨rfl, by simp, by simp; omega, by simp, by simp, by simp, by simp,
        ⟨_, by rw [hm, hkp.fs, hkp.streamChannels], hcb.1, hcb.2⟩, hkr⟩
    · have hmode : p.st.mode = MODE_SILK_ONLY ∨ p.st.mode = MODE_HYBRID := by
        rcases hp.mode with h | h | h
        · exact Or.inl (hm.trans h)
        · exact Or.inr (hm.trans h)
        · exact absurd (hm.trans h) hnc
      exact absurd (silkRuns_of p o hmode hbw hk) hnr
  | cont x =>
    rw [hs] at hcs
    refine Or.inr ⟨x, rfl, (hc x hs).1, ?_⟩
    rw [hcs.1]
    exact hcb

/-- `max_redundancy` of :2249/:2252. -/
def maxRed (mode m : Int) (o : FrameOr) : Int :=
  if mode = MODE_HYBRID then (m - 1) - (o.tellB + 8 + 3 + 7) / 8 else (m - 1) - (o.tellB + 7) / 8

/-- The redundancy decision as `frRedSig` leaves it. -/
def RedOk (mode m : Int) (xred : Bool) (xrb : Int) (red : Bool) (rb : Int) (o : FrameOr) : Prop :=
  (red = false ∧ rb = 0) ∨
  (red = true ∧ readsB mode m xred o = true ∧ rb = min 257 (max 2 (min (maxRed mode m o) xrb)))

/-- **Redundancy signalling** (:2236-2268): off, with 0 bytes and `silk_bw_switch` cleared; or on — the reading B was
    taken, so the SILK block asked for redundancy —, with the byte count clamped as at :2249-2256 and the state left alone. -/
theorem frRedSig_cases (fi : FrameIn) (x : Mid) (o : FrameOr) :
    ((frRedSig fi x o).1 = false ∧ (frRedSig fi x o).2.1 = 0 ∧
      (frRedSig fi x o).2.2 = { x.st with silkBwSwitch := 0 }) ∨
    ((frRedSig fi x o).1 = true ∧ readsB x.st.mode fi.maxDataBytes x.redundancy o = true ∧ x.redundancy = true ∧
      (frRedSig fi x o).2.1 = min 257 (max 2 (min (maxRed x.st.mode fi.maxDataBytes o) x.rb)) ∧
      (frRedSig fi x o).2.2 = x.st) := by
  unfold frRedSig
  dsimp only
  split
  · rename_i hb
    refine Or.inr ⟨rfl, hb, ?_, rfl, rfl⟩
    unfold readsB at hb
    rw [Bool.and_eq_true] at hb
    exact hb.2
  · exact Or.inl ⟨rfl, rfl, rfl⟩

theorem frRedSig_spec (fi : FrameIn) (x : Mid) (o : FrameOr) :
    Keeps x.st (frRedSig fi x o).2.2 ∧
    RedOk x.st.mode fi.maxDataBytes x.redundancy x.rb (frRedSig fi x o).1 (frRedSig fi x o).2.1 o := by
  rcases frRedSig_cases fi x o with ⟨h1, h2, h3⟩ | ⟨h1, hb, -, h2, h3⟩
  · exact ⟨by rw [h3]; rfl, Or.inl ⟨h1, h2⟩⟩
  · exact ⟨by rw [h3]; exact Keeps.refl _, Or.inr ⟨h1, hb, h2⟩⟩

theorem frRedSig_true (fi : FrameIn) (x : Mid) (o : FrameOr) (h : (frRedSig fi x o).1 = true) :
    readsB x.st.mode fi.maxDataBytes x.redundancy o = true ∧ x.redundancy = true ∧
    (frRedSig fi x o).2.1 = min 257 (max 2 (min (maxRed x.st.mode fi.maxDataBytes o) x.rb)) ∧
    (frRedSig fi x o).2.2 = x.st := by
  rcases frRedSig_cases fi x o with ⟨h1, -⟩ | ⟨-, h⟩
  · rw [h1] at h; cases h
  · exact h

/-- What the redundancy decision and the `ec_tell` contracts leave for the coding block, in terms of `redundancy_bytes`:
    none, or at least two that fit; in hybrid mode they leave CELT at least two bytes that hold the bits coded so far, in
    SILK-only mode they come behind the coded bytes. -/
theorem red_budget (mode m xrb rb : Int) (xred red : Bool) (o : FrameOr) (hm1 : 3 ≤ m)
    (hred : RedOk mode m xred xrb red rb o) (ht : tellsOk mode m xred o = true) :
    (red = true → 2 ≤ rb) ∧ (rb = 0 ∨ (2 ≤ rb ∧ rb ≤ m - 2)) ∧ (mode = MODE_CELT_ONLY → rb = 0) ∧
    (mode = MODE_HYBRID → rb = 0 ∨ (2 ≤ m - 1 - rb ∧ o.tellD ≤ 8 * (m - 1 - rb))) ∧
    (mode = MODE_SILK_ONLY → 1 ≤ o.tellC ∧ (rb = 0 ∨ (o.tellC + 7) / 8 + rb ≤ m - 1)) := by
  unfold tellsOk at ht
  unfold RedOk maxRed at hred
  simp only [MODE_SILK_ONLY, MODE_HYBRID, MODE_CELT_ONLY] at *
  -- `red` only matters through `rb`: 0, or the clamped count when the reading B was taken
  have hr2 : red = true → 2 ≤ rb := by
    rintro rfl; rcases hred with ⟨h, -⟩ | ⟨-, -, h⟩
    · cases h
    · omega
  have hoff : readsB mode m xred o = false → rb = 0 := by
    intro hB; rcases hred with ⟨-, h⟩ | ⟨-, h, -⟩
    · exact h
    · rw [hB] at h; cases h
  have hrb : rb = 0 ∨
      rb = min 257 (max 2 (min (if mode = 1001 then m - 1 - (o.tellB + 8 + 3 + 7) / 8 else m - 1 - (o.tellB + 7) / 8) xrb)) :=
    hred.imp And.right (fun h => h.2.2)
  refine ⟨hr2, ?_⟩
  clear hr2 hred
  by_cases hc : mode = 1002
  · have h0 := hoff (by simp [readsB, redGate, hc])
    exact ⟨Or.inl h0, fun _ => h0, fun _ => Or.inl h0, fun h => by omega⟩
  rw [if_neg hc] at ht
  simp only [Bool.and_eq_true, Bool.or_eq_true, Bool.not_eq_true', decide_eq_true_eq] at ht
  obtain ⟨⟨hA, hAB⟩, hCD⟩ := ht
  by_cases hB : readsB mode m xred o = true
  · rw [hB] at hCD
    have hAB := hAB.resolve_left (by rw [hB]; decide)
    have hg : o.tellA + 17 + (if mode = 1001 then 20 else 0) ≤ 8 * (m - 1) := by
      simp only [readsB, redGate, Bool.and_eq_true, decide_eq_true_eq, MODE_HYBRID, MODE_CELT_ONLY] at hB
      exact hB.1.2
    simp only [if_true] at hCD
    clear hB hoff
    by_cases hs : mode = 1000
    · rw [if_pos hs, decide_eq_true_eq] at hCD
      rw [if_neg (by omega)] at hAB hg hrb
      exact ⟨by omega, fun h => absurd h hc, fun h => by omega, fun _ => ⟨by omega, by omega⟩⟩
    · rw [if_neg hs, decide_eq_true_eq] at hCD
      refine ⟨by split at hrb <;> split at hg <;> omega, fun h => absurd h hc, fun h => ?_, fun h => absurd h hs⟩
      rw [if_pos h] at hAB hg hrb
      omega
  · have hB' : readsB mode m xred o = false := by simpa using hB
    have h0 := hoff hB'
    rw [hB'] at hCD
    refine ⟨Or.inl h0, fun _ => h0, fun _ => Or.inl h0, fun hs => ⟨?_, Or.inl h0⟩⟩
    rw [if_pos hs] at hCD
    simp only [Bool.false_eq_true, if_false, decide_eq_true_eq] at hCD
    omega

theorem frCode_ret (s : St) (fi : FrameIn) (red c2s : Bool) (rb : Int) (o : FrameOr) (c : Coded) (cs : List Call)
    (h : frCode s fi red c2s rb o = (.ok c, cs)) :
    c.ret = if runMain s fi rb o = true then o.celtMain else if s.mode = MODE_SILK_ONLY then (o.tellC + 7) / 8 else 0 := by
  unfold frCode at h
  dsimp only at h
  generalize hR : (if runMain s fi rb o = true then o.celtMain else
    if s.mode = MODE_SILK_ONLY then (o.tellC + 7) / 8 else 0) = R at h
  by_cases a1 : s.mode ≠ MODE_SILK_ONLY ∧ o.used1 > nbCompr0 s fi rb o
  · rw [if_pos a1] at h; cases h
  rw [if_neg a1] at h
  by_cases a2 : red = true ∧ c2s = true ∧ o.celtRed1 < 0
  · rw [if_pos a2] at h; cases h
  rw [if_neg a2] at h
  by_cases a3 : runMain s fi rb o = true ∧ o.celtMain < 0
  · rw [if_pos a3] at h; cases h
  rw [if_neg a3] at h
  by_cases a4 : red = true ∧ ¬ c2s = true
  · rw [if_pos a4] at h
    by_cases a5 : s.mode = MODE_HYBRID ∧ o.used2 > R
    · rw [if_pos a5] at h; cases h
    rw [if_neg a5] at h
    by_cases a6 : o.celtRed2 < 0
    · rw [if_pos a6] at h; cases h
    rw [if_neg a6] at h
    cases h
    rfl
  · rw [if_neg a4] at h
    cases h
    rfl

/-- **The coding block takes none of its error returns** (:2317, :2371, :2410) **and fires neither `ec_enc_shrink` assertion.**
    `red_budget` leaves every CELT call at least two bytes and `tellD ≤ 8·nb_compr_bytes`, so the contracts `coderOk`
    are only ever consulted on their "given ≥ 2 bytes, returns 0..nb" side. -/
theorem frCode_ok (s : St) (fi : FrameIn) (xred : Bool) (xrb : Int) (red c2s : Bool) (rb : Int) (o : FrameOr)
    (hmode : s.mode = MODE_SILK_ONLY ∨ s.mode = MODE_HYBRID ∨ s.mode = MODE_CELT_ONLY)
    (hm1 : 3 ≤ fi.maxDataBytes) (hred : RedOk s.mode fi.maxDataBytes xred xrb red rb o)
    (ht : tellsOk s.mode fi.maxDataBytes xred o = true) (hc : coderOk s fi red c2s rb o = true) :
    ∃ c cs, frCode s fi red c2s rb o = (.ok c, cs) ∧
      (s.mode = MODE_SILK_ONLY → c.ret = (o.tellC + 7) / 8) ∧
      (s.mode ≠ MODE_SILK_ONLY → 0 ≤ c.ret ∧ c.ret + 1 + rb ≤ fi.maxDataBytes) := by
  obtain ⟨hrb2, hrb, hbc, hbh, -⟩ := red_budget s.mode fi.maxDataBytes xrb rb xred red o hm1 hred ht
  -- outside SILK-only mode `nb_compr_bytes` is `max_data_bytes − 1 − rb`
  have hnbS : s.mode ≠ MODE_SILK_ONLY →
      rb = 0 ∨ (2 ≤ fi.maxDataBytes - 1 - rb ∧ o.tellD ≤ 8 * (fi.maxDataBytes - 1 - rb)) := by
    intro hs
    rcases hmode with h | h | h
    · exact absurd h hs
    · exact hbh h
    · exact Or.inl (hbc h)
  unfold coderOk at hc
  simp only [Bool.and_eq_true, decide_eq_true_eq] at hc
  obtain ⟨⟨⟨⟨⟨c1, c2⟩, c3⟩, c4⟩, c5⟩, -⟩ := hc
  have hnb : nbCompr0 s fi rb o = if s.mode = MODE_SILK_ONLY then (o.tellC + 7) / 8 else fi.maxDataBytes - 1 - rb := rfl
  have hrun : runMain s fi rb o = true ↔ s.mode ≠ MODE_SILK_ONLY ∧ o.tellD ≤ 8 * nbCompr0 s fi rb o := by
    unfold runMain; exact decide_eq_true_iff
  have e1 : ¬ (s.mode ≠ MODE_SILK_ONLY ∧ o.used1 > nbCompr0 s fi rb o) := by
    rintro ⟨hs, hu⟩
    have := c1 hs
    have := hnbS hs
    rw [hnb, if_neg hs] at hu
    omega
  have e2 : ¬ (red = true ∧ c2s = true ∧ o.celtRed1 < 0) := by
    rintro ⟨hr, hc2, hn⟩
    have := (c2 ⟨hr, hc2⟩).1 (by have := hrb2 hr; omega); omega
  have hmain : runMain s fi rb o = true → 0 ≤ o.celtMain ∧ o.celtMain ≤ fi.maxDataBytes - 1 - rb := by
    intro h
    obtain ⟨hs, -⟩ := hrun.mp h
    have hcm := c3 h
    rw [hnb, if_neg hs] at hcm
    have := hnbS hs
    exact hcm.1 (by omega)
  have e3 : ¬ (runMain s fi rb o = true ∧ o.celtMain < 0) := fun ⟨h, hn⟩ => by have := hmain h; omega
  obtain ⟨c, cs, hcode⟩ : ∃ c cs, frCode s fi red c2s rb o = (.ok c, cs) := by
    unfold frCode
    dsimp only
    rw [if_neg e1, if_neg e2, if_neg e3]
    by_cases h4 : red = true ∧ ¬ c2s = true
    · rw [if_pos h4]
      have hrb' := hrb2 h4.1
      have e5 : ¬ o.celtRed2 < 0 := by have := (c5 h4).1 hrb'; omega
      have e4 : ¬ (s.mode = MODE_HYBRID ∧ o.used2 > if runMain s fi rb o = true then o.celtMain else
          if s.mode = MODE_SILK_ONLY then (o.tellC + 7) / 8 else 0) := by
        rintro ⟨hh, hu⟩
        -- with redundancy in hybrid mode the main CELT call runs
        have hr : runMain s fi rb o = true := by
          have := hbh hh
          exact hrun.mpr ⟨by rw [hh]; decide, by rw [hnb, if_neg (by rw [hh]; decide)]; omega⟩
        rw [if_pos hr] at hu
        have := (c4 h4 hh).1 hr; omega
      rw [if_neg e4, if_neg e5]
      exact ⟨_, _, rfl⟩
    · rw [if_neg h4]
      exact ⟨_, _, rfl⟩
  refine ⟨c, cs, hcode, ?_, ?_⟩ <;> rw [frCode_ret s fi red c2s rb o c cs hcode]
  · intro hs
    rw [if_neg (fun h => (hrun.mp h).1 hs), if_pos hs]
  · intro hs
    by_cases hr : runMain s fi rb o = true
    · rw [if_pos hr]; have := hmain hr; omega
    · rw [if_neg hr, if_neg hs]; omega

theorem finishRet_bounds (s : St) (fi : FrameIn) (xred : Bool) (xrb : Int) (red : Bool) (rb ret : Int) (o : FrameOr)
    (hm1 : 3 ≤ fi.maxDataBytes) (hred : RedOk s.mode fi.maxDataBytes xred xrb red rb o)
    (ht : tellsOk s.mode fi.maxDataBytes xred o = true)
    (hf : s.mode = MODE_SILK_ONLY → o.tellE = o.tellC)
    (hr1 : s.mode = MODE_SILK_ONLY → ret = (o.tellC + 7) / 8)
    (hr2 : s.mode ≠ MODE_SILK_ONLY → 0 ≤ ret ∧ ret + 1 + rb ≤ fi.maxDataBytes) :
    1 ≤ finishRet s fi red rb ret o ∧ finishRet s fi red rb ret o ≤ fi.maxDataBytes := by
  obtain ⟨-, hrb, -, -, hbs⟩ := red_budget s.mode fi.maxDataBytes xrb rb xred red o hm1 hred ht
  clear hred ht
  unfold finishRet
  simp only [MODE_SILK_ONLY] at *
  by_cases hs : s.mode = 1000
  · have := hf hs; have := hr1 hs; have := hbs hs
    clear hf hr1 hr2 hbs
    (repeat' split) <;> omega
  · have := hr2 hs
    clear hf hr1 hr2 hbs
    (repeat' split) <;> omega

theorem finishSt_keeps (s : St) (fi : FrameIn) (o : FrameOr) : Keeps s (finishSt s fi o) := rfl

theorem frFinish_post (s0 s : St) (fi : FrameIn) (xred : Bool) (xrb : Int) (red : Bool) (rb currBw ret : Int)
    (o : FrameOr) (calls : List Call) (hp : FramePre s0 fi) (hk : Keeps s0 s)
    (hb1 : s0.mode ≠ MODE_SILK_ONLY → currBw = s0.bandwidth)
    (hb2 : s0.mode = MODE_SILK_ONLY → currBw = BW_NB ∨ currBw = BW_MB ∨ currBw = BW_WB)
    (hred : RedOk s.mode fi.maxDataBytes xred xrb red rb o)
    (ht : tellsOk s.mode fi.maxDataBytes xred o = true)
    (hf : finishOk s fi o = true)
    (hr1 : s.mode = MODE_SILK_ONLY → ret = (o.tellC + 7) / 8)
    (hr2 : s.mode ≠ MODE_SILK_ONLY → 0 ≤ ret ∧ ret + 1 + rb ≤ fi.maxDataBytes) :
    FramePost s0 fi (frFinish s fi red rb currBw ret o calls) := by
  have hm := hk.mode
  have hmode : s.mode = MODE_SILK_ONLY ∨ s.mode = MODE_HYBRID ∨ s.mode = MODE_CELT_ONLY := by rw [hm]; exact hp.mode
  have hm1 := hp.mLo
  have hm2 := hp.mHi
  have htoc : ∃ bw, genToc s.mode (s.fs / fi.frameSize) currBw s.streamChannels =
        genToc s0.mode (s0.fs / fi.frameSize) bw s0.streamChannels ∧
        (s0.mode ≠ MODE_SILK_ONLY → bw = s0.bandwidth) ∧
        (s0.mode = MODE_SILK_ONLY → bw = BW_NB ∨ bw = BW_MB ∨ bw = BW_WB) :=
    ⟨currBw, by rw [hm, hk.fs, hk.streamChannels], hb1, hb2⟩
  have hkeep : Keeps s0 (finishSt s fi o) := hk.trans (finishSt_keeps s fi o)
  unfold frFinish
  dsimp only
  split
  · exact ⟨rfl, by simp, by simp; omega, by simp, by simp, by simp, by simp, htoc, hkeep⟩
  · rename_i hd
    have hd0 : (dtxDecision s fi o).1 = 0 := by simpa using hd
    have hfe : s.mode = MODE_SILK_ONLY → o.tellE = o.tellC := by
      intro h
      unfold finishOk at hf
      simp only [decide_eq_true_eq] at hf
      rcases hf h with h' | h'
      · exact absurd hd0 h'
      · exact h'
    have hR := finishRet_bounds s fi xred xrb red rb ret o hm1 hred ht hfe hr1 hr2
    generalize finishRet s fi red rb ret o = R at *
    rw [if_neg (by omega)]
    have hvbr := hk.useVbr
    split
    · rename_i hv
      have hpad := padSpec_shape (genToc s.mode (s.fs / fi.frameSize) currBw s.streamChannels) [(R - 1).toNat] R
        fi.maxDataBytes (by simp) (by intro l hl; simp at hl; omega) (by simp [baseSize]; omega) (by omega)
      rw [if_neg (by rw [hpad.1]; simp)]
      refine ⟨rfl, by dsimp only; omega, by dsimp only; omega, by dsimp only; omega, by simp, ?_, ?_, htoc, hkeep⟩
      · intro _ _
        refine ⟨rfl, ?_, by dsimp only; omega⟩
        dsimp only
        unfold cbrHdr
        rw [show R - 1 + 1 = R by omega]
        rfl
      · intro h; rw [hvbr] at hv; exact absurd hv h
    · rename_i hv
      refine ⟨rfl, by dsimp only; omega, by dsimp only; omega, by dsimp only; omega, by simp, ?_, ?_, htoc, hkeep⟩
      · intro h; rw [hvbr] at hv; exact absurd h hv
      · intro _ _; exact ⟨by dsimp only; omega, rfl⟩

/-- **Frame theorem.**  For every oracle behaviour within the contracts, a frame call with a
    budget of 3..1276 bytes and a consistent mode/bandwidth pair returns a packet of
    `1 ≤ ret ≤ max_data_bytes` bytes (exactly `max_data_bytes` in CBR unless the DTX return is
    taken), fires no assertion and takes none of the error returns. -/
theorem frameNative_post (s : St) (fi : FrameIn) (o : FrameOr) (hp : FramePre s fi)
    (hok : frameOk s fi o = true) : FramePost s fi (frameNative s fi o) := by
  unfold frameOk at hok
  simp only [Bool.and_eq_true] at hok
  obtain ⟨hsilk, hrest⟩ := hok
  unfold frameNative
  dsimp only
  rcases frSilk_spec s fi o hp hsilk with ⟨r, hr, hpost, _⟩ | ⟨x, hx, hkx, hb1, hb2⟩
  · rw [hr]; exact hpost
  · rw [hx] at hrest ⊢
    simp only [Bool.and_eq_true] at hrest
    obtain ⟨ht, hc, hf⟩ := hrest
    have hpm : (frPre s fi).st.mode = x.st.mode := by rw [(frPre_keeps s fi).mode, hkx.mode]
    rw [hpm] at ht
    obtain ⟨hk2, hred⟩ := frRedSig_spec fi x o
    rcases hrs : frRedSig fi x o with ⟨red, rb, s'⟩
    simp only [hrs] at hc hf hk2 hred ⊢
    have hm' : s'.mode = x.st.mode := hk2.mode
    have hredok : RedOk s'.mode fi.maxDataBytes x.redundancy x.rb red rb o := by rw [hm']; exact hred
    have hks : Keeps s s' := hkx.trans hk2
    have hmode : s'.mode = MODE_SILK_ONLY ∨ s'.mode = MODE_HYBRID ∨ s'.mode = MODE_CELT_ONLY := by
      rw [hks.mode]; exact hp.mode
    rw [← hm'] at ht
    obtain ⟨c, cs, hcode, hr1, hr2⟩ := frCode_ok s' fi x.redundancy x.rb red x.celtToSilk rb o hmode hp.mLo hredok ht hc
    rw [hcode]
    exact frFinish_post s s' fi x.redundancy x.rb red rb x.currBw c.ret o _ hp hks hb1 hb2 hredok ht hf hr1 hr2

theorem frameNative_finish (s : St) (fi : FrameIn) (o : FrameOr) (x : Mid) (hx : frSilk fi (frPre s fi) o = .cont x)
    (hret : 1 ≤ (frameNative s fi o).ret) :
    ∃ c cs, frCode (frRedSig fi x o).2.2 fi (frRedSig fi x o).1 x.celtToSilk (frRedSig fi x o).2.1 o = (.ok c, cs) ∧
      frameNative s fi o =
        frFinish (frRedSig fi x o).2.2 fi (frRedSig fi x o).1 (frRedSig fi x o).2.1 x.currBw c.ret o (x.calls ++ cs) := by
  unfold frameNative at hret ⊢
  dsimp only at hret ⊢
  rw [hx] at hret ⊢
  dsimp only at hret ⊢
  rcases hfc : frCode (frRedSig fi x o).2.2 fi (frRedSig fi x o).1 x.celtToSilk (frRedSig fi x o).2.1 o with ⟨cr, cs⟩
  rw [hfc] at hret
  cases cr with
  | abort => simp only [abortRes] at hret; omega
  | ierr => simp only [errRes, OPUS_INTERNAL_ERROR] at hret; omega
  | ok c => exact ⟨c, cs, rfl, rfl⟩

/-- Every outcome of `frFinish` leaves the state of :2423-2430. -/
theorem frFinish_st (s : St) (fi : FrameIn) (red : Bool) (rb bw ret : Int) (o : FrameOr) (calls : List Call) :
    (frFinish s fi red rb bw ret o calls).st = finishSt s fi o := by
  unfold frFinish
  dsimp only
  (repeat' split) <;> rfl

/-- A packet that is not the DTX return: the DTX decision was 0, and the payload is `finishRet − 1`. -/
theorem frFinish_payload (s : St) (fi : FrameIn) (red : Bool) (rb bw ret : Int) (o : FrameOr) (calls : List Call)
    (hd : (frFinish s fi red rb bw ret o calls).dtx = false) (hr : 1 ≤ (frFinish s fi red rb bw ret o calls).ret) :
    (dtxDecision s fi o).1 = 0 ∧
    (frFinish s fi red rb bw ret o calls).payload = finishRet s fi red rb ret o - 1 := by
  unfold frFinish at hd hr ⊢
  dsimp only at hd hr ⊢
  split at hd
  · cases hd
  · rename_i h1
    refine ⟨Decidable.not_not.mp h1, ?_⟩
    rw [if_neg h1] at hr ⊢
    split at hr
    · simp only [errRes, OPUS_BUFFER_TOO_SMALL] at hr; omega
    · rename_i h2
      rw [if_neg h2]
      split at hr
      · rename_i h3
        rw [if_pos h3]
        split at hr
        · simp only [errRes, OPUS_INTERNAL_ERROR] at hr; omega
        · rename_i h4; rw [if_neg h4]
      · rename_i h3; rw [if_neg h3]

theorem frameNative_st (s : St) (fi : FrameIn) (o : FrameOr) : FrameSt s (frameNative s fi o).st := by
  obtain ⟨hd, hc⟩ := frSilk_st s fi o
  unfold frameNative
  dsimp only
  cases hs : frSilk fi (frPre s fi) o with
  | done r => exact hd r hs
  | cont x =>
    obtain ⟨hk, h1, h2, h3⟩ := hc x hs
    dsimp only
    obtain ⟨hk2, _⟩ := frRedSig_spec fi x o
    have hq : (frRedSig fi x o).2.2.prevMode = x.st.prevMode ∧ (frRedSig fi x o).2.2.first = x.st.first ∧
        (frRedSig fi x o).2.2.prevChannels = x.st.prevChannels := by
      rcases frRedSig_cases fi x o with ⟨-, -, h⟩ | ⟨-, -, -, -, h⟩ <;> rw [h] <;> exact ⟨rfl, rfl, rfl⟩
    rcases hrs : frRedSig fi x o with ⟨red, rb, s'⟩
    simp only [hrs] at hk2 hq ⊢
    obtain ⟨q1, q2, q3⟩ := hq
    have hks : Keeps s s' := hk.trans hk2
    have hearly : FrameSt s s' := ⟨hks, Or.inl ⟨by rw [q1, h1], by rw [q2, h2], Or.inl (by rw [q3, h3])⟩⟩
    have hmode : s'.mode = s.mode := hks.mode
    have hsc : s'.streamChannels = s.streamChannels := hks.streamChannels
    rcases hcode : frCode s' fi red x.celtToSilk rb o with ⟨cr, cs⟩
    cases cr with
    | abort => exact hearly
    | ierr => exact hearly
    | ok c =>
      dsimp only
      rw [frFinish_st]
      refine ⟨hks.trans (finishSt_keeps s' fi o), Or.inr ⟨rfl, ?_, hsc⟩⟩
      by_cases ht : fi.toCelt = true
      · right; show (if fi.toCelt = true then MODE_CELT_ONLY else s'.mode) = MODE_CELT_ONLY; rw [if_pos ht]
      · left; show (if fi.toCelt = true then MODE_CELT_ONLY else s'.mode) = s.mode; rw [if_neg ht]; exact hmode

end Opus.EncSkel.Proofs
