import OpusModel.SilkSyms
/-
  The frame of the control layer of `silk_Decode`, for the walks over it (two runs: SilkSymsHistory; the encoder-side
  inverse: SilkSymsEncPacket): for every function whose body is a `match` on a pair the equation
  `f … = ((g …).1, …, (g …).2.2)` between projections, which channel a step touches and what it leaves alone, stated for a
  channel variable, and when a frame can be coded conditionally.
-/
namespace Opus.SilkSymsEncProofs

/-- Every entry is a bit.  The name is the encoder side's; the decoder side needs it for `LBRR_flags`. -/
def AllBits (l : List Nat) : Prop := ∀ v ∈ l, v ≤ 1

theorem AllBits.getD {l : List Nat} (h : AllBits l) (i : Nat) : l.getD i 0 ≤ 1 := by
  rw [List.getD_eq_getElem?_getD]
  cases hq : l[i]? with
  | none => simp
  | some v => simp only [Option.getD_some]; exact h v (List.mem_of_getElem? hq)

end Opus.SilkSymsEncProofs

namespace Opus.SilkSymsProofs
open Opus Opus.RangeCoder Opus.SilkSyms
open Opus.SilkSymsEncProofs (AllBits)

@[simp] theorem ch_zero (st : SilkSt) : st.ch 0 = st.ch0 := rfl
@[simp] theorem ch_one (st : SilkSt) : st.ch 1 = st.ch1 := rfl

@[simp] theorem setCh_pd (st : SilkSt) (n : Nat) (x : Chan) :
    (st.setCh n x).prevDecodeOnlyMiddle = st.prevDecodeOnlyMiddle := by
  unfold SilkSt.setCh; split <;> rfl

@[simp] theorem ch_setCh (st : SilkSt) (n : Nat) (x : Chan) : (st.setCh n x).ch n = x := by
  unfold SilkSt.setCh SilkSt.ch; split <;> rfl

/-- `ch`/`setCh` know two channels: `0` and "not `0`". -/
theorem ch_setCh_ne (st : SilkSt) {m n : Nat} (x : Chan) (hm : m < 2) (hn : n < 2) (h : m ≠ n) :
    (st.setCh n x).ch m = st.ch m := by
  unfold SilkSt.setCh SilkSt.ch
  by_cases h0 : n = 0
  · rw [if_pos h0, if_neg (by omega), if_neg (by omega)]
  · rw [if_neg h0, if_pos (by omega), if_pos (by omega)]

theorem forall_setCh {nCh n : Nat} (hN : nCh ≤ 2) (hn : n < nCh) {P P' : Nat → Chan → Chan → Prop} {S S' : SilkSt}
    {x x' : Chan} (h : ∀ m, m < nCh → P m (S.ch m) (S'.ch m)) (hx : P' n x x')
    (hP : ∀ m, m < nCh → m ≠ n → P m (S.ch m) (S'.ch m) → P' m (S.ch m) (S'.ch m)) :
    ∀ m, m < nCh → P' m ((S.setCh n x).ch m) ((S'.setCh n x').ch m) := by
  intro m hm
  by_cases hmn : m = n
  · subst hmn; rw [ch_setCh, ch_setCh]; exact hx
  · rw [ch_setCh_ne S x (by omega) (by omega) hmn, ch_setCh_ne S' x' (by omega) (by omega) hmn]
    exact hP m hm hmn (h m hm)

/-- Where channel `m` stands (frames done, index of its next frame) in round `i` of a loop over frames with an inner loop
    over channels, channels `< a` being done in this round. -/
def chanPos (i a m : Nat) : Nat := if m < a then i + 1 else i

theorem chanPos_zero (i m : Nat) : chanPos i 0 m = i := if_neg (Nat.not_lt_zero m)
theorem chanPos_all {i a m : Nat} (h : m < a) : chanPos i a m = i + 1 := if_pos h
theorem chanPos_self (i n : Nat) : chanPos i n n = i := if_neg (Nat.lt_irrefl n)
theorem chanPos_done (i n : Nat) : chanPos i (n + 1) n = i + 1 := if_pos (Nat.lt_succ_self n)
theorem chanPos_ne (i : Nat) {n m : Nat} (h : m ≠ n) : chanPos i (n + 1) m = chanPos i n m := by
  unfold chanPos
  by_cases hm : m < n
  · rw [if_pos hm, if_pos (by omega)]
  · rw [if_neg hm, if_neg (by omega)]

/-- What a decoded frame leaves in the channel: the conditional-coding memory (decode_indices.c:121, :145). -/
def updCh (ch : Chan) (ix : Indices) : Chan :=
  { ch with ecPrevSignalType := ix.signalType,
            ecPrevLagIndex := if ix.signalType = 2 then ix.lagIndex else ch.ecPrevLagIndex }

/-- What `decodeOne` hands to `silk_decode_indices` of that memory under `condCoding = cc`. -/
def handed (cc : Nat) (ch : Chan) : Nat × Int :=
  (if cc = 2 then ch.ecPrevSignalType else 0, if cc = 2 ∧ ch.ecPrevSignalType = 2 then ch.ecPrevLagIndex else 0)

theorem decodeOne_eq (cfg : Cfg) (n fi lb cc : Nat) (ch : Chan) (c : Dec) :
    decodeOne cfg n fi lb cc ch c =
      ((decodeOneCore cfg n fi lb cc (decide (lb ≠ 0 ∨ ch.vad.getD fi 0 ≠ 0)) (handed cc ch).1 (handed cc ch).2 c).1,
       updCh ch (decodeOneCore cfg n fi lb cc (decide (lb ≠ 0 ∨ ch.vad.getD fi 0 ≠ 0)) (handed cc ch).1 (handed cc ch).2 c).2.1,
       (decodeOneCore cfg n fi lb cc (decide (lb ≠ 0 ∨ ch.vad.getD fi 0 ≠ 0)) (handed cc ch).1 (handed cc ch).2 c).2.2) := by
  unfold decodeOne handed
  generalize decodeOneCore cfg n fi lb cc _ _ _ c = y
  rfl

theorem decodeOne_congr (cfg : Cfg) (n fi lb cc : Nat) {ch ch' : Chan} (c : Dec) (hv : ch.vad = ch'.vad)
    (hh : handed cc ch = handed cc ch') :
    ∃ evs ix c2, decodeOne cfg n fi lb cc ch c = (evs, updCh ch ix, c2) ∧
      decodeOne cfg n fi lb cc ch' c = (evs, updCh ch' ix, c2) := by
  rw [decodeOne_eq, decodeOne_eq, hv, hh]
  exact ⟨_, _, _, rfl, rfl⟩

/-- The two runs agree on what else the symbol layer reads from a channel. -/
def ChanEqv (a b : Chan) : Prop :=
  a.nFramesDecoded = b.nFramesDecoded ∧ a.vad = b.vad ∧ a.lbrrFlags = b.lbrrFlags

theorem ChanEqv.refl (a : Chan) : ChanEqv a a := ⟨rfl, rfl, rfl⟩
theorem ChanEqv.symm {a b : Chan} (h : ChanEqv a b) : ChanEqv b a := ⟨h.1.symm, h.2.1.symm, h.2.2.symm⟩
theorem ChanEqv.trans {a b c : Chan} (h : ChanEqv a b) (g : ChanEqv b c) : ChanEqv a c :=
  ⟨h.1.trans g.1, h.2.1.trans g.2.1, h.2.2.trans g.2.2⟩

theorem decodeOne_view (cfg : Cfg) (n fi lb cc : Nat) (ch : Chan) (c : Dec) :
    ChanEqv (decodeOne cfg n fi lb cc ch c).2.1 ch := by
  rw [decodeOne_eq]
  generalize decodeOneCore cfg n fi lb cc _ _ _ c = y
  exact ⟨rfl, rfl, rfl⟩

/-! ### The LBRR-skipping phase touches only the conditional-coding memory -/

theorem skipStereoG_st (P : Dec → StereoPred × Dec) (M : Dec → Nat × Dec) (cfg : Cfg) (i n : Nat) (s : SkipSt) :
    (skipStereoG P M cfg i n s).st = s.st := by
  unfold skipStereoG
  split
  · dsimp only
    split <;> rfl
  · rfl

theorem skipStereo_st (cfg : Cfg) (i n : Nat) (s : SkipSt) : (skipStereo cfg i n s).st = s.st :=
  skipStereoG_st _ _ cfg i n s

theorem skipOne_pos {cfg : Cfg} {i n : Nat} {s : SkipSt} (h : (s.st.ch n).lbrrFlags.getD i 0 ≠ 0) :
    skipOne cfg i n s =
      { st := s.st.setCh n (decodeOne cfg n i 1 (if i > 0 ∧ (s.st.ch n).lbrrFlags.getD (i - 1) 0 ≠ 0 then 2 else 0)
                (s.st.ch n) (skipStereo cfg i n s).c).2.1,
        dom := (skipStereo cfg i n s).dom,
        c := (decodeOne cfg n i 1 (if i > 0 ∧ (s.st.ch n).lbrrFlags.getD (i - 1) 0 ≠ 0 then 2 else 0)
                (s.st.ch n) (skipStereo cfg i n s).c).2.2,
        evs := (skipStereo cfg i n s).evs ++
          (decodeOne cfg n i 1 (if i > 0 ∧ (s.st.ch n).lbrrFlags.getD (i - 1) 0 ≠ 0 then 2 else 0)
                (s.st.ch n) (skipStereo cfg i n s).c).1 } := by
  rw [skipOne, if_pos h, skipStereo_st]

theorem skipOne_neg {cfg : Cfg} {i n : Nat} {s : SkipSt} (h : ¬ (s.st.ch n).lbrrFlags.getD i 0 ≠ 0) :
    skipOne cfg i n s = s := by
  rw [skipOne, if_neg h]

theorem skipOne_st (cfg : Cfg) (i n : Nat) (s : SkipSt) :
    (skipOne cfg i n s).st = s.st ∨ ∃ ix, (skipOne cfg i n s).st = s.st.setCh n (updCh (s.st.ch n) ix) := by
  unfold skipOne
  split
  · rw [decodeOne_eq, skipStereo_st]
    exact Or.inr ⟨_, rfl⟩
  · exact Or.inl rfl

theorem updCh_view (ch : Chan) (ix : Indices) : ChanEqv (updCh ch ix) ch := ⟨rfl, rfl, rfl⟩

theorem setCh_view (st : SilkSt) (n : Nat) {x : Chan} (h : ChanEqv x (st.ch n)) (m : Nat) :
    ChanEqv ((st.setCh n x).ch m) (st.ch m) := by
  unfold SilkSt.setCh SilkSt.ch at *
  by_cases hn : n = 0 <;> by_cases hm : m = 0 <;> simp only [hn, hm, if_true, if_false] at h ⊢
  · exact h
  · exact ChanEqv.refl _
  · exact ChanEqv.refl _
  · exact h

theorem skipOne_view (cfg : Cfg) (i n : Nat) (s : SkipSt) (m : Nat) :
    ChanEqv ((skipOne cfg i n s).st.ch m) (s.st.ch m) ∧
    (skipOne cfg i n s).st.prevDecodeOnlyMiddle = s.st.prevDecodeOnlyMiddle := by
  rcases skipOne_st cfg i n s with h | ⟨ix, h⟩ <;> rw [h]
  · exact ⟨ChanEqv.refl _, rfl⟩
  · exact ⟨setCh_view _ _ (updCh_view _ _) m, setCh_pd _ _ _⟩

theorem skipChans_view (cfg : Cfg) (i : Nat) (m : Nat) : ∀ (ns : List Nat) (s : SkipSt),
    ChanEqv ((skipChans cfg i ns s).st.ch m) (s.st.ch m) ∧
    (skipChans cfg i ns s).st.prevDecodeOnlyMiddle = s.st.prevDecodeOnlyMiddle
  | [], _ => ⟨ChanEqv.refl _, rfl⟩
  | n :: ns, s =>
    ⟨(skipChans_view cfg i m ns _).1.trans (skipOne_view cfg i n s m).1,
     (skipChans_view cfg i m ns _).2.trans (skipOne_view cfg i n s m).2⟩

theorem skipFrames_view (cfg : Cfg) (m : Nat) : ∀ (is : List Nat) (s : SkipSt),
    ChanEqv ((skipFrames cfg is s).st.ch m) (s.st.ch m) ∧
    (skipFrames cfg is s).st.prevDecodeOnlyMiddle = s.st.prevDecodeOnlyMiddle
  | [], _ => ⟨ChanEqv.refl _, rfl⟩
  | i :: is, s =>
    ⟨(skipFrames_view cfg m is _).1.trans (skipChans_view cfg i m _ s).1,
     (skipFrames_view cfg m is _).2.trans (skipChans_view cfg i m _ s).2⟩

/-- The flags part of the header (dec_API.c:229-248). -/
def headerFlags (cfg : Cfg) (st : SilkSt) (c : Dec) : SkipSt :=
  if cfg.nCh = 2 then decodeFlagsStereo cfg st c else decodeFlagsMono cfg st c

theorem decodeHeader_eq (cfg : Cfg) (st : SilkSt) (c : Dec) :
    decodeHeader cfg st c =
      if cfg.lostFlag = 0 then skipFrames cfg (List.range cfg.nfpp) (headerFlags cfg st c) else headerFlags cfg st c := rfl

/-- The channel-level content of `decodeChan`. -/
def chanStep (cfg : Cfg) (reads : Bool) (n cc : Nat) (ch : Chan) (c : Dec) : List Ev × Chan × Dec :=
  if reads then
    match decodeOne cfg n ch.nFramesDecoded cfg.lostFlag cc ch c with
    | (evs, ch', c1) => (evs, { ch' with nFramesDecoded := ch'.nFramesDecoded + 1 }, c1)
  else ([], { ch with nFramesDecoded := ch.nFramesDecoded + 1 }, c)

theorem decodeChan_eq (cfg : Cfg) (hs : Bool) (n : Nat) (st : SilkSt) (c : Dec) :
    decodeChan cfg hs n st c =
      ((chanStep cfg (readsFrame cfg hs n (st.ch n)) n (condCodingOf cfg st n st.ch0.nFramesDecoded) (st.ch n) c).1,
       st.setCh n (chanStep cfg (readsFrame cfg hs n (st.ch n)) n (condCodingOf cfg st n st.ch0.nFramesDecoded) (st.ch n) c).2.1,
       (chanStep cfg (readsFrame cfg hs n (st.ch n)) n (condCodingOf cfg st n st.ch0.nFramesDecoded) (st.ch n) c).2.2) := by
  unfold decodeChan chanStep
  split
  · generalize decodeOne cfg n (st.ch n).nFramesDecoded cfg.lostFlag _ (st.ch n) c = y
    rfl
  · rfl

theorem chanStep_view (cfg : Cfg) (reads : Bool) (n cc : Nat) (ch : Chan) (c : Dec) :
    (chanStep cfg reads n cc ch c).2.1.nFramesDecoded = ch.nFramesDecoded + 1 ∧
    (chanStep cfg reads n cc ch c).2.1.vad = ch.vad ∧
    (chanStep cfg reads n cc ch c).2.1.lbrrFlags = ch.lbrrFlags := by
  unfold chanStep
  split
  · have h := decodeOne_view cfg n ch.nFramesDecoded cfg.lostFlag cc ch c
    generalize decodeOne cfg n ch.nFramesDecoded cfg.lostFlag cc ch c = y at h
    exact ⟨congrArg (· + 1) h.1, h.2⟩
  · exact ⟨rfl, rfl, rfl⟩

theorem condCodingOf_congr (cfg : Cfg) (st st' : SilkSt) (n fd0 : Nat)
    (hf : (st.ch n).lbrrFlags = (st'.ch n).lbrrFlags)
    (hd : fd0 > n → n > 0 → st.prevDecodeOnlyMiddle = st'.prevDecodeOnlyMiddle) :
    condCodingOf cfg st n fd0 = condCodingOf cfg st' n fd0 := by
  unfold condCodingOf
  rw [hf]
  by_cases h1 : fd0 ≤ n
  · simp only [h1, if_true]
  · simp only [h1, if_false]
    by_cases h2 : cfg.lostFlag = 2
    · simp only [h2, if_true]
    · simp only [h2, if_false]
      by_cases h3 : n > 0
      · rw [hd (by omega) h3]
      · simp only [h3, false_and, if_false]

theorem decodeChans_two (cfg : Cfg) (hs : Bool) (st : SilkSt) (c : Dec) (h2 : cfg.nCh = 2) :
    decodeChans cfg hs st c =
      ((decodeChan cfg hs 0 st c).1 ++ (decodeChan cfg hs 1 (decodeChan cfg hs 0 st c).2.1 (decodeChan cfg hs 0 st c).2.2).1,
       (decodeChan cfg hs 1 (decodeChan cfg hs 0 st c).2.1 (decodeChan cfg hs 0 st c).2.2).2.1,
       (decodeChan cfg hs 1 (decodeChan cfg hs 0 st c).2.1 (decodeChan cfg hs 0 st c).2.2).2.2) := by
  unfold decodeChans
  generalize decodeChan cfg hs 0 st c = y
  dsimp only
  rw [if_pos h2]

theorem decodeChans_one (cfg : Cfg) (hs : Bool) (st : SilkSt) (c : Dec) (h2 : ¬ cfg.nCh = 2) :
    decodeChans cfg hs st c = decodeChan cfg hs 0 st c := by
  unfold decodeChans
  generalize decodeChan cfg hs 0 st c = y
  dsimp only
  rw [if_neg h2]

theorem decodeStereoHead_one {cfg : Cfg} (h2 : ¬ cfg.nCh = 2) (st : SilkSt) (dom : Nat) (c : Dec) :
    decodeStereoHead cfg st dom c = (dom, c, []) := by
  rw [decodeStereoHead, decodeStereoHeadG, if_neg (fun q => h2 q.1)]

theorem decodeBody_eq (cfg : Cfg) (h : SkipSt) :
    decodeBody cfg h =
      (h.evs ++ (decodeStereoHead cfg h.st h.dom h.c).2.2 ++
          (decodeChans cfg (hasSideOf cfg h.st (decodeStereoHead cfg h.st h.dom h.c).1) h.st
            (decodeStereoHead cfg h.st h.dom h.c).2.1).1 ++
          [.ret (decodeChans cfg (hasSideOf cfg h.st (decodeStereoHead cfg h.st h.dom h.c).1) h.st
              (decodeStereoHead cfg h.st h.dom h.c).2.1).2.2.rng
            (tell (decodeChans cfg (hasSideOf cfg h.st (decodeStereoHead cfg h.st h.dom h.c).1) h.st
              (decodeStereoHead cfg h.st h.dom h.c).2.1).2.2)],
       { (decodeChans cfg (hasSideOf cfg h.st (decodeStereoHead cfg h.st h.dom h.c).1) h.st
            (decodeStereoHead cfg h.st h.dom h.c).2.1).2.1 with
          prevDecodeOnlyMiddle := (decodeStereoHead cfg h.st h.dom h.c).1 },
       (decodeChans cfg (hasSideOf cfg h.st (decodeStereoHead cfg h.st h.dom h.c).1) h.st
            (decodeStereoHead cfg h.st h.dom h.c).2.1).2.2) := by
  unfold decodeBody
  generalize decodeStereoHead cfg h.st h.dom h.c = y
  dsimp only

theorem silkCalls_succ (cfg : Cfg) (k : Nat) (first : Bool) (st : SilkSt) (c : Dec) :
    silkCalls cfg (k + 1) first st c =
      ((silkDecodeCall cfg first st c).1 ++
          (silkCalls cfg k false (silkDecodeCall cfg first st c).2.1 (silkDecodeCall cfg first st c).2.2).1,
       (silkCalls cfg k false (silkDecodeCall cfg first st c).2.1 (silkDecodeCall cfg first st c).2.2).2.1,
       (silkCalls cfg k false (silkDecodeCall cfg first st c).2.1 (silkDecodeCall cfg first st c).2.2).2.2) := by
  rw [silkCalls]

theorem silkCalls_one (cfg : Cfg) (first : Bool) (st : SilkSt) (c : Dec) :
    silkCalls cfg 1 first st c =
      ((silkDecodeCall cfg first st c).1 ++ [], (silkDecodeCall cfg first st c).2.1, (silkDecodeCall cfg first st c).2.2) := by
  rw [silkCalls_succ]
  generalize silkDecodeCall cfg first st c = y
  rfl

theorem beginCall_true (cfg : Cfg) (st : SilkSt) :
    (beginCall cfg true st).ch0.nFramesDecoded = 0 ∧ (cfg.nCh = 2 → (beginCall cfg true st).ch1.nFramesDecoded = 0) := by
  unfold beginCall
  simp only [if_true]
  refine ⟨trivial, fun h => ?_⟩
  simp only [h, if_true]

theorem beginCall_false (cfg : Cfg) (st : SilkSt) (h : st.ch0.nFramesDecoded ≠ 0) : beginCall cfg false st = st := by
  unfold beginCall
  simp only [Bool.false_eq_true, if_false, h]

/-! ### When a frame can be coded conditionally, the frame before it was decoded -/

/-- `condCodingOf` looks at `prevDecodeOnlyMiddle` and at the LBRR flags of its channel. -/
def ccOf (cfg : Cfg) (pd n fd0 : Nat) (flags : List Nat) : Nat :=
  if fd0 ≤ n then 0
  else if cfg.lostFlag = 2 then (if flags.getD (fd0 - n - 1) 0 ≠ 0 then 2 else 0)
  else if n > 0 ∧ pd ≠ 0 then 1
  else 2

theorem condCodingOf_eq (cfg : Cfg) (st : SilkSt) (n fd0 : Nat) :
    condCodingOf cfg st n fd0 = ccOf cfg st.prevDecodeOnlyMiddle n fd0 (st.ch n).lbrrFlags := rfl

theorem cc_two_pos (cfg : Cfg) (pd n fd : Nat) (flags : List Nat) (h : ccOf cfg pd n fd flags = 2) : fd > n := by
  unfold ccOf at h
  by_cases h1 : fd ≤ n
  · rw [if_pos h1] at h; omega
  · omega

/-- Whether `silk_decode_frame` reads symbols for channel `n` in a call whose `decode_only_middle` is `dom`. -/
def readsOf (cfg : Cfg) (dom n : Nat) (ch : Chan) : Bool :=
  decide (cfg.lostFlag = 0 ∧ (n = 0 ∨ dom = 0) ∨ cfg.lostFlag = 2 ∧ ch.lbrrFlags.getD ch.nFramesDecoded 0 = 1)

/-- With `has_side` of the call, `readsFrame` is `readsOf`: `prevDecodeOnlyMiddle` plays no part. -/
theorem readsFrame_hasSide (cfg : Cfg) (hL : cfg.lostFlag = 0 ∨ cfg.lostFlag = 2) (st : SilkSt) (dom n : Nat)
    (hn : n < cfg.nCh) (hN : cfg.nCh ≤ 2) :
    readsFrame cfg (hasSideOf cfg st dom) n (st.ch n) = readsOf cfg dom n (st.ch n) := by
  unfold readsFrame hasSideOf readsOf
  have hn' : n = 0 ∨ n = 1 := by omega
  rcases hL with hL | hL
  · rcases hn' with rfl | rfl <;> simp [hL]
  · rcases hn' with rfl | rfl
    · simp [hL]
    · rw [ch_one]
      generalize st.ch1.lbrrFlags.getD st.ch1.nFramesDecoded 0 = f
      by_cases hf : f = 1 <;> simp [hL, show cfg.nCh = 2 by omega, hf]

theorem readsOf_congr (cfg : Cfg) (dom n : Nat) {ch ch' : Chan} (h : ChanEqv ch ch') :
    readsOf cfg dom n ch = readsOf cfg dom n ch' := by
  unfold readsOf; rw [h.1, h.2.2]

/-- If the frame of channel `n` behind the one `ch` stands at is coded conditionally (with the `decode_only_middle` of
    the call as `prevDecodeOnlyMiddle`), then that one was decoded. -/
theorem cc_two_reads (cfg : Cfg) (hL : cfg.lostFlag = 0 ∨ cfg.lostFlag = 2) (ch : Chan) (dom n : Nat)
    (hb : AllBits ch.lbrrFlags) (h : ccOf cfg dom n (ch.nFramesDecoded + 1 + n) ch.lbrrFlags = 2) :
    readsOf cfg dom n ch = true := by
  unfold ccOf at h
  rw [if_neg (by omega), show ch.nFramesDecoded + 1 + n - n - 1 = ch.nFramesDecoded by omega] at h
  rw [readsOf, decide_eq_true_eq]
  rcases hL with hL | hL
  · rw [if_neg (by omega)] at h
    by_cases hd : n > 0 ∧ dom ≠ 0
    · rw [if_pos hd] at h; omega
    · exact Or.inl ⟨hL, by omega⟩
  · rw [if_pos hL] at h
    by_cases hz : ch.lbrrFlags.getD ch.nFramesDecoded 0 ≠ 0
    · exact Or.inr ⟨hL, by have := hb.getD ch.nFramesDecoded; omega⟩
    · rw [if_neg hz] at h; omega

end Opus.SilkSymsProofs
