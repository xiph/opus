import OpusProofs.EncSkelWf
import OpusProofs.RepackProps
import OpusProps.C01
/-
  OpusProofs.EndToEnd — the pieces of the composition across the encoder skeleton (C02), the packet parser (C06),
  the repacketiser's pad/unpad (C07) and the decoder skeleton (C01), around C07's `PktRel` (valid packets with the same
  frames and configuration bits).  What the encoder skeleton emits is a valid packet with zero padding
  (`EncSkel.Proofs.encoder_packet`, in EncSkelWf); pad and unpad map it to related packets (`pad_valid`, `unpad_valid`);
  on any packet related to it the decoder skeleton returns `frame_size · Fs_dec / Fs_enc` samples
  (`decode_same_frames`).  OpusProps/EndToEnd.lean composes them.
-/
namespace Opus.EndToEnd
open Opus Opus.FramingSpec Opus.Framing Opus.DecSkel Opus.RepackProofs

/-- `count · spf(toc, Fs_enc) = fsz` ⇒ `count · spf(toc, Fs_dec) = fsz · Fs_dec / Fs_enc` (exactly): both rates are
    multiples of 400 Hz, and a frame has its units of 2.5 ms times `Fs/400` samples (`spf_units_mul`). -/
theorem duration_rate (toc : Nat) (ht : toc < 256) (count : Nat) (fsz fe fd : Int) (hfe : FsOk fe) (hfd : FsOk fd)
    (h : (count : Int) * (samplesPerFrame toc fe.toNat : Int) = fsz) :
    (count : Int) * (samplesPerFrame toc fd.toNat : Int) = fsz * fd / fe := by
  have he : fe.toNat = 400 * (fe / 400).toNat ∧ fe = 400 * (fe / 400) ∧ 0 < fe / 400 := by unfold FsOk at hfe; omega
  have hd : fd.toNat = 400 * (fd / 400).toNat ∧ fd = 400 * (fd / 400) ∧ 0 < fd / 400 := by unfold FsOk at hfd; omega
  rw [he.1, FramingProofs.spf_units_mul _ _ ht, Int.natCast_mul, Int.toNat_of_nonneg he.2.2.le] at h
  rw [hd.1, FramingProofs.spf_units_mul _ _ ht, Int.natCast_mul, Int.toNat_of_nonneg hd.2.2.le]
  generalize fe / 400 = qe at *
  generalize fd / 400 = qd at *
  have key : fsz * fd = ((count : Int) * ((FramingProofs.tocUnits toc : Nat) * qd)) * fe := by
    rw [← h, hd.2.1, he.2.1]; simp only [Int.mul_assoc, Int.mul_left_comm, Int.mul_comm]
  rw [key, Int.mul_ediv_cancel _ (by omega)]

/-- `opus_decode_native` on the RFC serialisation of a valid packet (frames and padding are bytes): if
    the caller's buffer holds `count · samples_per_frame(Fs_dec)` samples per channel the call returns
    exactly that and `last_packet_duration` equals it — for every decoder state within `DecInv` and
    every DSP oracle within `OracleOk`. -/
theorem decode_serialized (o : Oracle) (ho : OracleOk o) (r : Run) (hinv : DecInv r.st) (hlog : r.log = [])
    (q : Packet) (hv : Valid q) (hf : ∀ f ∈ q.frames, BytesOk f) (hp : BytesOk (padBytes q))
    (pcm : Ptr) (frame_size : Int) (sc : Bool)
    (hfit : (q.frames.length : Int) * (samplesPerFrame q.toc r.st.Fs.toNat : Int) ≤ frame_size)
    (hbuf : pcm.buf = .pcm) (hroom : 0 ≤ pcm.off ∧ pcm.off + frame_size * r.st.channels ≤ pcm.cap) :
    (decodeNative o (some (serialize false q)) (serialize false q).length pcm frame_size 0 false sc r).ret =
        .ret ((q.frames.length : Int) * (samplesPerFrame q.toc r.st.Fs.toNat : Int)) ∧
    (decodeNative o (some (serialize false q)) (serialize false q).length pcm frame_size 0 false sc r).run.st.last_packet_duration =
        (q.frames.length : Int) * (samplesPerFrame q.toc r.st.Fs.toNat : Int) ∧
    BytesOk (serialize false q) ∧ 0 < (q.frames.length : Int) * (samplesPerFrame q.toc r.st.Fs.toNat : Int) := by
  have hparse := FramingProofs.parse_complete false q hv [] (fun _ => rfl)
  rw [List.append_nil] at hparse
  have hb := serialize_bytesOk_sd false q hv hf hp
  have hne : serialize false q ≠ [] := by rw [FramingProofs.serialize_shape]; simp
  have hhead := FramingProofs.serialize_headD false q
  have hcount : (view false q).count = q.frames.length := rfl
  have hd := OpusProps.C01.decodeNative_duration o ho r hinv hlog (serialize false q) hb hne pcm frame_size false sc
    (view false q) hparse (by rw [hhead, hcount]; exact hfit) hbuf hroom
  rw [hhead, hcount] at hd
  exact ⟨hd.1, hd.2.1, hb, hd.2.2⟩

/-- The decoder skeleton on (the serialisation of) any packet `q` related to the encoder's packet `P` (valid, the same
    frames and configuration bits): `frame_size · Fs_dec / Fs_enc` samples. -/
theorem decode_same_frames (fe fsz : Int) (hfe : FsOk fe) {P q : Packet} (hrel : PktRel P q)
    (hdur : (P.frames.length : Int) * (samplesPerFrame P.toc fe.toNat : Int) = fsz)
    (hf : ∀ f ∈ P.frames, BytesOk f) (hz : ∃ k, padBytes q = List.replicate k 0)
    (o : Oracle) (ho : OracleOk o) (r : Run) (hinv : DecInv r.st) (hlog : r.log = [])
    (pcm : Ptr) (frame_size : Int) (sc : Bool) (hfit : fsz * r.st.Fs / fe ≤ frame_size)
    (hbuf : pcm.buf = .pcm) (hroom : 0 ≤ pcm.off ∧ pcm.off + frame_size * r.st.channels ≤ pcm.cap) :
    (decodeNative o (some (serialize false q)) (serialize false q).length pcm frame_size 0 false sc r).ret =
        .ret (fsz * r.st.Fs / fe) ∧
    (decodeNative o (some (serialize false q)) (serialize false q).length pcm frame_size 0 false sc r).run.st.last_packet_duration =
        fsz * r.st.Fs / fe ∧
    BytesOk (serialize false q) ∧ 0 < fsz * r.st.Fs / fe := by
  have hd := duration_rate P.toc hrel.vp.toc_byte P.frames.length fsz fe r.st.Fs hfe hinv.fs hdur
  have hspf := (FramingProofs.toc_helpers_congr _ _ r.st.Fs.toNat hrel.toc).2.2.1
  obtain ⟨k, hk⟩ := hz
  have := decode_serialized o ho r hinv hlog q hrel.vq (by rw [hrel.frames]; exact hf) (by rw [hk]; exact ExtProofs.bytesOk_zeros k)
    pcm frame_size sc (by rw [hrel.frames, hspf, hd]; exact hfit) hbuf hroom
  rw [hrel.frames, hspf, hd] at this
  exact this

/-- Padding a valid packet whose padding is all zero to ANY `new_len ≥ len` succeeds and yields the
    serialisation of a related packet of exactly `new_len` bytes with all-zero padding. -/
theorem pad_valid (P : Packet) (hv : Valid P) (hz : ∃ k, padBytes P = List.replicate k 0) (newLen : Int)
    (hge : ((serialize false P).length : Int) ≤ newLen) :
    ∃ q : Packet, PktRel P q ∧ Repack.packetPad (serialize false P) newLen = .ok (serialize false q) ∧
      ((serialize false q).length : Int) = newLen ∧ ∃ k, padBytes q = List.replicate k 0 := by
  obtain ⟨q, hrel, hq, hl, hc⟩ := pad_pkt hv (EncSkel.Proofs.padFree_of_zero P hv hz) newLen hge
  refine ⟨q, hrel, hq, hl, ?_⟩
  rcases hc with rfl | rfl
  · exact hz
  · exact padBytes_outPacket _ _ _ _ _

/-- Unpadding a valid packet succeeds and yields the serialisation of a related packet without padding, never longer
    than the input. -/
theorem unpad_valid (P : Packet) (hv : Valid P) :
    ∃ q : Packet, PktRel P q ∧ Repack.packetUnpad (serialize false P) = .ok (serialize false q) ∧
      (serialize false q).length ≤ (serialize false P).length ∧ ∃ k, padBytes q = List.replicate k 0 :=
  ⟨_, pktRel_canon hv, unpad_serialize P hv, (canonPacket_len P hv).2.1, 0, canonPacket_nopad _ _⟩

end Opus.EndToEnd
