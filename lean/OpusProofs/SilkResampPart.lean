import OpusProofs.SilkResampLoops
import OpusProofs.SilkResampInit
/-
  OpusProofs.SilkResampPart — partition independence of the batch loops of the SILK resampler
  (resampler_private_IIR_FIR.c:85-102, resampler_private_down_FIR.c:168-189) at whole-millisecond cuts.  The loop
  lemmas of OpusProofs/SilkResampLoops.lean reduce it to one fact about a round, `batchRound_split`: a round may be cut
  after its first millisecond, because the filter has an append law and the interpolation index
  `(Fs_out_kHz + i) * invRatio_Q16` addresses the same samples and the same fractional phase as `i * invRatio_Q16` one
  millisecond later.  The latter is not a consequence of how invRatio_Q16 is computed alone (it is rounded up, so
  `Fs_out_kHz * invRatio_Q16` overshoots the millisecond by a few units of 2^-16, which add up over the milliseconds of a
  round): the overshoots of a whole round must carry no index over a sample or phase boundary (`idx_shift_ms`), and that is
  checked for every index of the first millisecond of every configuration of the table.
-/
namespace OpusProofs.SilkResamp
open Opus Opus.SilkResamp Opus.SilkParams Opus.Gen.SilkResampRom

/-- One round on `x ++ y`, `x` one millisecond (`m` samples in, `mo` out) and at most `M` ms in all, is the round on `x`
    followed by the round on `y`.  `ph` is the phase the sampler derives from `index_Q16 & 0xFFFF`. -/
theorem batchRound_split {τ : Type} {filt : τ → List Int → τ × List Int} {sample : List Int → Int → Res Int}
    {g order cap sh : Nat} {inv : Int} {m mo M : Nat} (ph : Int → Int)
    (hfa : ∀ s x y, filt s (x ++ y) = ((filt (filt s x).1 y).1, (filt s x).2 ++ (filt (filt s x).1 y).2))
    (hfl : ∀ s xs, (filt s xs).2.length = g * xs.length)
    (hloc : ∀ buf buf' idx idx', window buf (idx / 65536) order = window buf' (idx' / 65536) order →
      ph (idx % 65536) = ph (idx' % 65536) → sample buf idx = sample buf' idx')
    (hinv : 0 < inv)
    (hsh : ∀ n : Nat, n ≤ M * m → lshift32 (n : Int) sh = ((g * n : Nat) : Int) * 65536)
    (hcnt : ∀ r, r < M + 1 → interpCount (lshift32 ((r * m : Nat) : Int) sh) inv = r * mo)
    (hidx : ∀ i, i < (M - 1) * mo →
      (((mo + i : Nat) : Int) * inv) / 65536 = ((g * m : Nat) : Int) + ((i : Int) * inv) / 65536 ∧
      ph ((((mo + i : Nat) : Int) * inv) % 65536) = ph (((i : Int) * inv) % 65536))
    (hcap : order + g * (M * m) ≤ cap)
    (st : τ × List Int) (x y : List Int) (r : Nat) (hh : st.2.length = order) (hx : x.length = m)
    (hy : y.length = r * m) (hr : r + 1 ≤ M) :
    batchRound filt sample g order cap sh inv st (x ++ y) =
      seq2 (batchRound filt sample g order cap sh inv st x)
        (fun s1 => batchRound filt sample g order cap sh inv s1 y) := by
  have hwin : ∀ (idx : Int) (G : Nat), 0 ≤ idx → idx < (G : Int) * 65536 →
      0 ≤ idx / 65536 ∧ (idx / 65536).toNat + order ≤ order + G := by
    intro idx G h0 h1; omega
  have hle : ∀ a b c : Nat, a ≤ b + a + c := by intro a b c; omega
  have hrf : m + r * m ≤ M * m := by
    have := Nat.mul_le_mul_right m hr; rw [Nat.add_mul, Nat.one_mul] at this; omega
  have hcap' : order + (g * m + g * (r * m)) ≤ cap := by
    have := Nat.mul_le_mul_left g hrf; rw [Nat.mul_add] at this; omega
  have hU1 : (filt st.1 x).2.length = g * m := by rw [hfl, hx]
  have hm1 := hsh m (by omega)
  have hm2 := hsh (r * m) (by omega)
  have hm12 := hsh (m + r * m) hrf
  rw [Nat.mul_add] at hm12
  have hsum : lshift32 ((m + r * m : Nat) : Int) sh = lshift32 (m : Int) sh + lshift32 ((r * m : Nat) : Int) sh := by
    rw [hm1, hm2, hm12]; omega
  have hc1 : interpCount (lshift32 (m : Int) sh) inv = mo := by
    have := hcnt 1 (by omega); simpa using this
  have hc2 := hcnt r (by omega)
  have hc12 : interpCount (lshift32 (m : Int) sh + lshift32 ((r * m : Nat) : Int) sh) inv = mo + r * mo := by
    have h := hcnt (r + 1) (by omega)
    rw [Nat.add_one_mul, Nat.add_one_mul, Nat.add_comm (r * m), Nat.add_comm (r * mo), hsum] at h; exact h
  have hxy : (x ++ y).length = m + r * m := by rw [List.length_append, hx, hy]
  have hB1 : (st.2 ++ (filt st.1 x).2).length = order + g * m := by rw [List.length_append, hh, hU1]
  have hh1 : ((st.2 ++ (filt st.1 x).2).drop (g * m)).length = order := by rw [List.length_drop, hB1, Nat.add_sub_cancel]
  -- the three rounds in their explicit form
  unfold seq2
  rw [batchRound_eq (hfl _ _) hh (by rw [hxy, Nat.mul_add]; exact hcap'), batchRound_eq (hfl _ _) hh (by rw [hx]; omega),
    Res.bind_assoc']
  simp only [Res.ok_bind]
  rw [batchRound_eq (hfl _ _) (by rw [hx]; exact hh1) (by rw [hy]; omega), hfa, hxy, hx, hy, hsum, Nat.mul_add]
  generalize filt st.1 x = F1 at hU1 hB1 hh1 ⊢
  generalize filt F1.1 y = F2
  generalize g * m = G1 at hidx hm1 hB1 hh1 ⊢
  generalize g * (r * m) = G2
  have hdrop : ((st.2 ++ F1.2) ++ F2.2).drop G1 = (st.2 ++ F1.2).drop G1 ++ F2.2 :=
    List.drop_append_of_le_length (by rw [hB1]; exact Nat.le_add_left _ _)
  -- the interpolation splits: the first Fs_out_kHz samples read the first buffer, the others the second one
  have hA := interpol_split (sample ((st.2 ++ F1.2) ++ F2.2)) (sample (st.2 ++ F1.2))
    (sample ((st.2 ++ F1.2).drop G1 ++ F2.2)) (lshift32 (m : Int) sh) (lshift32 ((r * m : Nat) : Int) sh) inv hinv
    (by rw [hc12, hc1, hc2])
    (by
      intro i hi
      have hlt := idx_lt_max hinv hi
      rw [hm1] at hlt
      have h0 : 0 ≤ (i : Int) * inv := Int.mul_nonneg (Int.natCast_nonneg i) (Int.le_of_lt hinv)
      exact hloc _ _ _ _ (window_append_left (hwin _ _ h0 hlt).1 (by rw [hB1]; exact (hwin _ _ h0 hlt).2)) rfl)
    (by
      intro i hi
      rw [hc1]
      rw [hc2] at hi
      have hi9 : i < (M - 1) * mo := by
        have : r * mo ≤ (M - 1) * mo := Nat.mul_le_mul_right _ (by omega)
        omega
      obtain ⟨e1, e2⟩ := hidx i hi9
      have h0 : 0 ≤ (i : Int) * inv := Int.mul_nonneg (Int.natCast_nonneg i) (Int.le_of_lt hinv)
      refine hloc _ _ _ _ ?_ e2
      rw [e1, window_drop (Int.ediv_nonneg h0 (by decide)) (by rw [List.length_append, hB1]; exact hle _ _ _), hdrop])
  rw [← List.append_assoc, hA, ← List.drop_drop, hdrop]
  simp only [Res.bind_assoc', Res.ok_bind]

/-- Adding a whole number of samples and a fraction that does not carry to an index. -/
theorem ediv_emod_add {A Y e : Int} (h0 : 0 ≤ e) (h : Y % 65536 + e < 65536) :
    (A * 65536 + e + Y) / 65536 = A + Y / 65536 ∧ (A * 65536 + e + Y) % 65536 = Y % 65536 + e := by
  omega

/-- One millisecond of output indices against one millisecond of buffer samples: if `mo * inv` overshoots `G << 16` by `d ≥ 0`, and for
    every index `t * inv` of the first millisecond `N` overshoots carry its fraction neither into the next sample nor into the next
    phase, then up to `N` milliseconds on every index addresses the same samples and the same phase as the index one millisecond
    before it, `G` samples further on. -/
theorem idx_shift_ms {inv d k : Int} {mo G N : Nat} (hk0 : 0 < k) (hk : k ≤ 12)
    (hd : (mo : Int) * inv = (G : Int) * 65536 + d) (hd0 : 0 ≤ d)
    (h1 : ∀ t, t < mo → ((t : Int) * inv) % 65536 + (N : Int) * d < 65536 ∧
      smulwb (((t : Int) * inv) % 65536 + (N : Int) * d) k = smulwb (((t : Int) * inv) % 65536) k)
    (i : Nat) (hi : i < N * mo) :
    (((mo + i : Nat) : Int) * inv) / 65536 = (G : Int) + ((i : Int) * inv) / 65536 ∧
    smulwb ((((mo + i : Nat) : Int) * inv) % 65536) k = smulwb (((i : Int) * inv) % 65536) k := by
  have hmo : 0 < mo := Nat.pos_of_ne_zero fun h => by rw [h, Nat.mul_zero] at hi; omega
  have hj : i / mo < N := (Nat.div_lt_iff_lt_mul hmo).2 hi
  obtain ⟨hm, hp⟩ := h1 (i % mo) (Nat.mod_lt _ hmo)
  -- i = j * mo + t:  i * inv = (j * G << 16) + j * d + t * inv,  and  (mo + i) * inv  is  (G << 16) + d  more
  have e : (i : Int) = (mo : Int) * ((i / mo : Nat) : Int) + ((i % mo : Nat) : Int) := by
    exact_mod_cast (Nat.div_add_mod i mo).symm
  have hX : (i : Int) * inv =
      ((i / mo : Nat) : Int) * (G : Int) * 65536 + ((i / mo : Nat) : Int) * d + ((i % mo : Nat) : Int) * inv := by
    rw [e, Int.add_mul, Int.mul_comm (mo : Int), Int.mul_assoc, hd, Int.mul_add, Int.mul_assoc]
  have hX' : ((mo + i : Nat) : Int) * inv = (G : Int) * 65536 + d + (i : Int) * inv := by
    rw [Int.natCast_add, Int.add_mul, hd]
  have hJ0 : 0 ≤ ((i / mo : Nat) : Int) * d := Int.mul_nonneg (Int.natCast_nonneg _) hd0
  have hJN : ((i / mo : Nat) : Int) * d + d ≤ (N : Int) * d := by
    have := Int.mul_le_mul_of_nonneg_right (show ((i / mo : Nat) : Int) + 1 ≤ (N : Int) by omega) hd0
    rwa [Int.add_mul, Int.one_mul] at this
  have hy0 : 0 ≤ (((i % mo : Nat) : Int) * inv) % 65536 := Int.emod_nonneg _ (by omega)
  -- from here on `omega` sees the few linear facts it needs and no `%`: with everything in the context it costs four times as much
  clear hi hj e hd hmo h1
  generalize ((i / mo : Nat) : Int) * d = JD at hX hJ0 hJN
  generalize (N : Int) * d = ND at hm hp hJN
  generalize hy : (((i % mo : Nat) : Int) * inv) % 65536 = y at hm hp hy0
  obtain ⟨-, r0⟩ := ediv_emod_add (A := ((i / mo : Nat) : Int) * (G : Int)) hJ0 (show _ + JD < 65536 by rw [hy]; omega)
  rw [← hX, hy] at r0
  obtain ⟨q1, r1⟩ := ediv_emod_add (A := (G : Int)) hd0 (show _ + d < 65536 by rw [r0]; omega)
  rw [hX', r1, r0]
  refine ⟨q1, ?_⟩
  clear hX hX' r0 r1 q1 hy
  -- the phase is monotone, and the same at both ends of  y ≤ y + j d ≤ y + (j + 1) d ≤ y + N d
  have a := smulwb_mono (k := k) hy0 (show y ≤ y + JD by omega) (by omega) hk0 hk
  have b := smulwb_mono (k := k) (show 0 ≤ y + JD by omega) (show _ ≤ y + JD + d by omega) (by omega) hk0 hk
  have c := smulwb_mono (k := k) (show 0 ≤ y + JD + d by omega) (show _ ≤ y + ND by omega) (by omega) hk0 hk
  omega

/-- `Fs_out_kHz * invRatio_Q16 - (g * Fs_in_kHz << 16)`: invRatio_Q16 is rounded up, so one millisecond of output indices overshoots
    one millisecond of buffer samples by a few units of 2^-16. -/
def overshoot (g : Nat) (c : Cfg) : Int := (c.fsOut : Int) * c.invRatio - ((g * c.fsIn : Nat) : Int) * 65536

/-- What `batchRound_split` needs of a configuration, for a kernel with `g` buffer samples per input sample,
    `max_index_Q16 = inLen << sh` and the phase `silk_SMULWB( index_Q16 & 0xFFFF, k )`: the number of output samples
    of 0 .. 10 ms (11 = `M + 1` counts for `M` = 10 = RESAMPLER_MAX_BATCH_SIZE_MS), and the hypotheses of `idx_shift_ms` with `N` = 9 = `M - 1`
    further milliseconds of a round. -/
def partFacts (g sh : Nat) (k : Int) (c : Cfg) : Bool :=
  (List.range 11).all (fun r => interpCount (lshift32 ((r * c.fsIn : Nat) : Int) sh) c.invRatio == r * c.fsOut) &&
  decide (0 < k) && decide (k ≤ 12) && decide (0 ≤ overshoot g c) &&
  (List.range c.fsOut).all (fun t =>
    decide (((t : Int) * c.invRatio) % 65536 + 9 * overshoot g c < 65536) &&
    smulwb (((t : Int) * c.invRatio) % 65536 + 9 * overshoot g c) k == smulwb (((t : Int) * c.invRatio) % 65536) k)

theorem cfgTable_partFacts : ∀ c ∈ cfgTable,
    ((c.fn != useIIRFIR || partFacts 2 17 12 c) && (c.fn != useDownFIR || partFacts 1 16 c.firFracs c)) = true := by
  decide +kernel

theorem partFacts_spec {g sh : Nat} {k : Int} {c : Cfg} (h : partFacts g sh k c = true) :
    (∀ r, r < 11 → interpCount (lshift32 ((r * c.fsIn : Nat) : Int) sh) c.invRatio = r * c.fsOut) ∧
    ∀ i, i < 9 * c.fsOut →
      (((c.fsOut + i : Nat) : Int) * c.invRatio) / 65536 = ((g * c.fsIn : Nat) : Int) + ((i : Int) * c.invRatio) / 65536 ∧
      smulwb ((((c.fsOut + i : Nat) : Int) * c.invRatio) % 65536) k = smulwb (((i : Int) * c.invRatio) % 65536) k := by
  simp only [partFacts, Bool.and_eq_true, List.all_eq_true, List.mem_range, beq_iff_eq, decide_eq_true_eq] at h
  obtain ⟨⟨⟨⟨hcnt, hk0⟩, hk⟩, hd0⟩, h1⟩ := h
  exact ⟨hcnt, idx_shift_ms (N := 9) hk0 hk (by unfold overshoot; omega) hd0 h1⟩

/-- The round of a batch kernel may be cut at a millisecond, given the index facts of the configuration. -/
theorem BatchK.rd_ms (K : BatchK) {c : Cfg} {cap : Nat} (ok : CfgFacts c) (hcap : K.order + K.g * c.batchSize ≤ cap)
    (hpf : partFacts K.g K.sh K.k c = true) (W : Prop) : MsRound (K.rd cap c.invRatio) c.fsIn 10 (K.P W) := by
  have hB := ok.batch
  have h48 := ok.fsIn_le
  obtain ⟨hcnt, hidx⟩ := partFacts_spec hpf
  refine ⟨fun st xs r hP hx hr => ?_, fun st hP => ?_, fun st x y r hP hx hy hr => ?_⟩
  · obtain ⟨st', outs, hr', hP', _⟩ := K.rd_ok (B := c.batchSize) ok.inv_pos (by omega) hcap W st xs hP (by omega)
    rw [hr'] at hr; injection hr with hr; subst hr; exact hP'
  · exact batchRound_nil K.filt_nil (by have := K.lshift (n := 0) (by omega); simpa using this) ok.inv_pos st hP.1
      (by omega)
  · exact batchRound_split (fun f => smulwb f K.k) K.filt_append K.filt_len K.sample_congr ok.inv_pos
      (fun n hn => K.lshift (by omega)) hcnt hidx (by rw [← hB]; omega) st x y r hP.1 hx hy hr

/-- Partition independence of a batch kernel's loop at whole-millisecond cuts. -/
theorem BatchK.For.lp_append {K : BatchK} {c : Cfg} {cap thr : Nat}
    {lp : IIR × List Int → List Int → Res ((IIR × List Int) × List Int)} (h : K.For c lp cap thr) (ok : CfgFacts c)
    (hpf : partFacts K.g K.sh K.k c = true) (hthr : thr < c.fsIn) (W : Prop) (kx ky : Nat)
    (st : IIR × List Int) (x y : List Int) (hP : K.P W st) (hx : x.length = kx * c.fsIn) (hy : y.length = ky * c.fsIn) :
    lp st (x ++ y) = seq2 (lp st x) (fun s1 => lp s1 y) :=
  loop_append (K.rd_ms ok h.cap hpf W) h.loop (by have := ok.fsIn_gt; omega) (by decide) ok.batch hthr kx ky st x y hP hx hy

end OpusProofs.SilkResamp
