import OpusProofs.SilkApiDecode
/-! silk_Decode after the configuration part (:226-:431).  Its phases (flags, side reset, frame loop) change no configuration
    member of a channel: `KeyEq` / `DecKeep`, so `ChanOk` carries over (`chanOk_of_keyEq`).  The part itself is the function `tail`
    of the prepared state, with the intermediate states named (`tD1`, `tD2`, `tFr`); what the frame loop leaves (`tFr_ok`) and the
    results of the call (`tail_ok`).  Last, histories of silk_Decode calls and resets: what is asked of each call (`HistOk`) and
    what each delivers (`HistRet`). -/
namespace Opus.SilkApi

/-- The configuration members of a channel: what `ChanOk` speaks of besides the frame counter. -/
def Chan.key (c : Chan) :=
  (c.fs_kHz, c.nb_subfr, c.frame_length, c.nFramesPerPacket, c.rsIn, c.fs_API_hz, c.subfr_length, c.ltp_mem_length,
   c.LPC_order, c.lagLowBits, c.pitchContour, c.nlsfCb, c.rsOut)

/-- The configuration members of a channel are unchanged; `nFramesDecoded` advanced by `k`. -/
structure KeyEq (k : Int) (c c' : Chan) : Prop where
  key : c'.key = c.key
  dec : c'.nFramesDecoded = c.nFramesDecoded + k

namespace KeyEq
theorem fs_kHz {k : Int} {c c' : Chan} (h : KeyEq k c c') : c'.fs_kHz = c.fs_kHz := congrArg (·.1) h.key
theorem nb_subfr {k : Int} {c c' : Chan} (h : KeyEq k c c') : c'.nb_subfr = c.nb_subfr := congrArg (·.2.1) h.key
theorem frame_length {k : Int} {c c' : Chan} (h : KeyEq k c c') : c'.frame_length = c.frame_length := congrArg (·.2.2.1) h.key
theorem nFramesPerPacket {k : Int} {c c' : Chan} (h : KeyEq k c c') : c'.nFramesPerPacket = c.nFramesPerPacket := congrArg (·.2.2.2.1) h.key
theorem rsIn {k : Int} {c c' : Chan} (h : KeyEq k c c') : c'.rsIn = c.rsIn := congrArg (·.2.2.2.2.1) h.key

theorem refl (c : Chan) : KeyEq 0 c c := ⟨rfl, by omega⟩

theorem trans {j k : Int} {c c' c'' : Chan} (h : KeyEq j c c') (h' : KeyEq k c' c'') : KeyEq (j + k) c c'' :=
  ⟨h'.key.trans h.key, by rw [h'.dec, h.dec]; omega⟩

end KeyEq

theorem chanOk_of_keyEq {api k : Int} {c c' : Chan} (h : ChanOk api c) (hk : KeyEq k c c') (h0 : 0 ≤ k)
    (hle : c.nFramesDecoded + k ≤ c.nFramesPerPacket) : ChanOk api c' := by
  have hkey := hk.key
  simp only [Chan.key, Prod.mk.injEq] at hkey
  obtain ⟨a1, a2, a3, a4, a5, a6, a7, a8, a9, a10, a11, a12, a13⟩ := hkey
  unfold ChanOk Cfg at *
  rw [a1, a2, a3, a4, a5, a6, a7, a8, a9, a10, a11, a12, a13, hk.dec]
  obtain ⟨h1, h2, h3, h4, h5⟩ := h
  exact ⟨h1, h2, h3, by omega, by omega⟩

theorem setVad_key (c : Chan) (b : List Int) : KeyEq 0 c (setVad c b) := ⟨rfl, by simp [setVad]⟩

theorem setLbrr_key (c : Chan) (f s : Int) : KeyEq 0 c (setLbrr c f s) := by
  unfold setLbrr
  dsimp only
  split
  · split <;> exact ⟨rfl, by simp⟩
  · exact ⟨rfl, by simp⟩

/-- Both channels keep their configuration; channel 0 advances by k, channel 1 by k when the stream is stereo and is untouched
    when it is mono. -/
structure DecKeep (k : Int) (a : Args) (d d' : Dec) : Prop where
  ch0 : KeyEq k d.ch0 d'.ch0
  ch1 : a.nChannelsInternal = 2 → KeyEq k d.ch1 d'.ch1
  mono : a.nChannelsInternal = 1 → d'.ch1 = d.ch1
  nInt : d'.nChannelsInternal = d.nChannelsInternal
  nAPI : d'.nChannelsAPI = d.nChannelsAPI

theorem DecKeep.trans {j k : Int} {a : Args} {d d' d'' : Dec} (h : DecKeep j a d d') (h' : DecKeep k a d' d'') :
    DecKeep (j + k) a d d'' :=
  ⟨h.ch0.trans h'.ch0, fun h2 => (h.ch1 h2).trans (h'.ch1 h2), fun h1 => (h'.mono h1).trans (h.mono h1),
    h'.nInt.trans h.nInt, h'.nAPI.trans h.nAPI⟩

theorem readFlags_keep (d : Dec) (a : Args) (o : Orc) : DecKeep 0 a d (readFlags d a o).1 := by
  unfold readFlags
  split
  · refine ⟨(setVad_key _ _).trans (setLbrr_key _ _ _), fun h2 => ?_, fun h1 => ?_, rfl, rfl⟩
    · simp only [h2, if_true]
      exact (setVad_key _ _).trans (setLbrr_key _ _ _)
    · exact if_neg (by omega)
  · exact ⟨KeyEq.refl _, fun _ => KeyEq.refl _, fun _ => rfl, rfl, rfl⟩

theorem sideReset_keep (d : Dec) (a : Args) (dom : Int) : DecKeep 0 a d (sideReset d a dom).1 := by
  unfold sideReset
  split
  · exact ⟨KeyEq.refl _, fun _ => ⟨rfl, by simp⟩, fun h1 => by omega, rfl, rfl⟩
  · exact ⟨KeyEq.refl _, fun _ => KeyEq.refl _, fun _ => rfl, rfl, rfl⟩

theorem frames_keep (d : Dec) (a : Args) (o : Orc) (hs : Bool) : DecKeep 1 a d (frames d a o hs).d := by
  unfold frames
  dsimp only
  split
  · split <;> exact ⟨⟨rfl, rfl⟩, fun _ => ⟨rfl, rfl⟩, fun h1 => by omega, rfl, rfl⟩
  · rename_i h
    exact ⟨⟨rfl, rfl⟩, fun h2 => absurd h2 h, fun _ => rfl, rfl, rfl⟩

/-- Phases that keep the configuration keep the channels configured (and alike), as long as the frame counter stays within
    the packet. -/
theorem DecKeep.chans {api k : Int} {a : Args} {d d' : Dec} (K : DecKeep k a d d') (h0 : ChanOk api d.ch0)
    (h1 : a.nChannelsInternal = 2 → ChanOk api d.ch1 ∧ Same d.ch0 d.ch1) (hk : 0 ≤ k)
    (hle : d.ch0.nFramesDecoded + k ≤ d.ch0.nFramesPerPacket) :
    ChanOk api d'.ch0 ∧ (a.nChannelsInternal = 2 → ChanOk api d'.ch1 ∧ Same d'.ch0 d'.ch1) := by
  refine ⟨chanOk_of_keyEq h0 K.ch0 hk hle, fun h2 => ?_⟩
  obtain ⟨q1, s1, s2, s3, s4⟩ := h1 h2
  have J := K.ch1 h2
  exact ⟨chanOk_of_keyEq q1 J hk (by rw [s4, s3]; exact hle), by rw [J.fs_kHz, K.ch0.fs_kHz, s1],
    by rw [J.nb_subfr, K.ch0.nb_subfr, s2], by rw [J.nFramesPerPacket, K.ch0.nFramesPerPacket, s3], by rw [J.dec, K.ch0.dec, s4]⟩

namespace Ready
variable {api : Int} {a : Args} {d d' : Dec}

theorem keep (hR : Ready api a d) (K : DecKeep 0 a d d') : Ready api a d' := by
  obtain ⟨r0, rlt, r1, rn, rapi⟩ := hR
  obtain ⟨c0, c1⟩ := K.chans r0 r1 (Int.le_refl 0) (by omega)
  exact ⟨c0, by rw [K.ch0.dec, K.ch0.nFramesPerPacket]; omega, c1, K.nInt.trans rn, K.nAPI.trans rapi⟩

theorem dec0 (hR : Ready api a d) : 0 ≤ d.ch0.nFramesDecoded ∧ d.ch0.nFramesDecoded < 3 := by
  have := hR.1.nFramesPerPacket; have := hR.1.nFramesDecoded; have := hR.2.1; omega

/-- Both channels of a stereo stream have the same frame length. -/
theorem frame_length1 (hR : Ready api a d) (h2 : a.nChannelsInternal = 2) : d.ch1.frame_length = d.ch0.frame_length := by
  obtain ⟨q1, q2⟩ := hR.2.2.1 h2
  rw [q1.frame_length, hR.1.frame_length, q2.1, q2.2.1]

end Ready

theorem nSamplesOut_ok {api : Int} {c : Chan} (ha : ApiOk api) (hc : ChanOk api c) :
    smulbb c.fs_kHz 1000 ≠ 0 ∧ wrap32 (c.frame_length * api) = c.frame_length * api ∧
    wrap32 (c.frame_length * api) / smulbb c.fs_kHz 1000 = c.nb_subfr * (api / 200) ∧
    0 < c.nb_subfr * (api / 200) ∧ c.nb_subfr * (api / 200) ≤ 960 := by
  have hf := hc.fs
  have hnb := hc.nb
  -- with api = K kHz: nb_subfr·5·fs_kHz·K·1000 / (fs_kHz·1000) = nb_subfr·5·K, the product at most 320·48000; checked on the
  -- 3·2·5 configurations
  rw [hc.frame_length]
  rcases hf with hf | hf | hf <;> rcases hnb with hnb | hnb <;> rcases ha with rfl | rfl | rfl | rfl | rfl <;>
    simp [hf, hnb, smulbb, sext16, wrap32]

def tD1 (p : Prep) (a : Args) (o : Orc) : Dec := (readFlags p.d a o).1
def tSp (p : Prep) (a : Args) (o : Orc) : Pred := stereoPred (tD1 p a o) a o
def tD2 (p : Prep) (a : Args) (o : Orc) : Dec := (sideReset (tD1 p a o) a (tSp p a o).dom).1
def tFr (p : Prep) (a : Args) (o : Orc) : Frames := frames (tD2 p a o) a o (hasSide (tD2 p a o) a (tSp p a o).dom).1

/-- silk_Decode :226-:431, the part of `silkDecode` after `prep`, written out again with the intermediate states as functions of
    their own (`tD1`, `tSp`, `tD2`, `tFr`): in the model they are `let`-bound inside `silkDecode` and no lemma can name them.
    `silkDecode_eq` (by `rfl`) is the tie to the model; every theorem of this file and of SilkApiAccs is about `tail`. -/
def tail (p : Prep) (a : Args) (o : Orc) : Run :=
  let rf := readFlags p.d a o
  let sp := tSp p a o
  let sr := sideReset (tD1 p a o) a (tSp p a o).dom
  let d := tD2 p a o
  let hs := hasSide d a sp.dom
  let fr := tFr p a o
  let d := fr.d
  let fl := d.ch0.frame_length
  let cap := a.nChannelsInternal * (fl + 2)
  let N := fr.N
  -- :363-:370
  let ms : MsOut :=
    if a.nChannelsAPI = 2 ∧ a.nChannelsInternal = 2 then msToLR d.st fr.x1 fr.x2 sp.p0 sp.p1 d.ch0.fs_kHz N
    else { st := { d.st with sMid0 := ((fr.x1.set 0 d.st.sMid0).set 1 d.st.sMid1).getD N.toNat 0,
                             sMid1 := ((fr.x1.set 0 d.st.sMid0).set 1 d.st.sMid1).getD (N.toNat + 1) 0 },
           x1 := (fr.x1.set 0 d.st.sMid0).set 1 d.st.sMid1, x2 := fr.x2 }
  let msAc : List Acc :=
    if a.nChannelsAPI = 2 ∧ a.nChannelsInternal = 2 then msAccs fl d.ch0.fs_kHz N cap
    else [{ buf := "tmp", lo := 0, n := 2, cap := cap }, { buf := "tmp", lo := N, n := 2, cap := cap }]
  let msEv : List Ev := if a.nChannelsAPI = 2 ∧ a.nChannelsInternal = 2 then [("mstolr", [0, fl + 2, d.ch0.fs_kHz, N])] else []
  let d := { d with st := ms.st }
  -- :373
  let den := smulbb d.ch0.fs_kHz 1000
  if den = 0 then { d := d, ret := 0, ok := false } else      -- integer division by zero
  let nOut := wrap32 (N * a.API_sampleRate) / den
  let nO := nOut.toNat
  let total := nOut * a.nChannelsAPI
  let out0 := List.replicate total.toNat SENTINEL
  -- :379-:394
  let nLoop := if a.nChannelsAPI < a.nChannelsInternal then a.nChannelsAPI else a.nChannelsInternal
  let rsAcc (n : Int) (c : Chan) (i : Nat) : List Acc :=
    [{ buf := "tmp", lo := n * (fl + 2) + 1, n := N, cap := cap },
     { buf := "samplesOut2_tmp", lo := 0, n := (rsOutp o i).length, cap := nOut },
     { buf := "resampler-1ms", lo := 0, n := c.rsIn, cap := N }]            -- resampler.c:184 celt_assert( inLen >= Fs_in_kHz )
  let w0 : List Int := if a.nChannelsAPI = 2 then strideWrite out0 0 2 (rsOutp o 0) nO 0 else strideWrite out0 0 1 (rsOutp o 0) nO 0
  let ev0 : List Ev := [("alloc2", [nOut]), ("resample", [0, 1, N, hashList ((ms.x1.drop 1).take N.toNat)])]
  let ac0 : List Acc := rsAcc 0 d.ch0 0 ++ [{ buf := "samplesOut", lo := 0, n := nOut, stride := if a.nChannelsAPI = 2 then 2 else 1, cap := total }]
  let two := nLoop = 2
  let w1 : List Int := if two then strideWrite w0 1 2 (rsOutp o 1) nO 0 else w0
  let ev1 : List Ev := if two then [("resample", [1, fl + 2 + 1, N, hashList ((ms.x2.drop 1).take N.toNat)])] else []
  let ac1 : List Acc := if two then rsAcc 1 d.ch1 1 ++ [{ buf := "samplesOut", lo := 1, n := nOut, stride := 2, cap := total }] else []
  let ret1 := rsRet o 0 + (if two then rsRet o 1 else 0)
  -- :397-:411
  let m2s := a.nChannelsAPI = 2 ∧ a.nChannelsInternal = 1
  let w2 : List Int := if m2s then (if p.sToM then strideWrite w1 1 2 (rsOutp o 1) nO 0 else dupWrite w1 nO 0) else w1
  let ev2 : List Ev := if m2s ∧ p.sToM then [("resample", [1, 1, N, hashList ((ms.x1.drop 1).take N.toNat)])] else []
  let ac2 : List Acc :=
    if m2s then
      (if p.sToM then rsAcc 0 d.ch1 1 else [{ buf := "samplesOut", lo := 0, n := nOut, stride := 2, cap := total }]) ++
      [{ buf := "samplesOut", lo := 1, n := nOut, stride := 2, cap := total }]
    else []
  let ret2 := if m2s ∧ p.sToM then rsRet o 1 else 0
  -- :414-:419
  let pl := pitchLagOut d.ch0
  -- :421-:428
  let d := if a.lostFlag = 1 then
             { d with ch0 := { d.ch0 with LastGainIndex := 10 },
                      ch1 := if d.nChannelsInternal = 2 then { d.ch1 with LastGainIndex := 10 } else d.ch1 }
           else { d with prev_decode_only_middle := sp.dom }
  { d := d, ret := p.ret + fr.ret + ret1 + ret2, ok := p.ok, nSamplesOut := nOut, prevPitchLag := pl.1, out := w2,
    x1 := ms.x1, x2 := ms.x2,
    ev := p.ev ++ rf.2.1 ++ sp.ev ++ sr.2 ++ fr.ev ++ msEv ++ ev0 ++ ev1 ++ ev2,
    ac := rf.2.2 ++ sp.ac ++ hs.2 ++ [{ buf := "alloc", lo := 0, n := cap, cap := cap }] ++ fr.ac ++ msAc ++ ac0 ++ ac1 ++ ac2 ++ pl.2 }

theorem silkDecode_eq {d : Dec} {a : Args} {o : Orc} (hok : (prep d a).ok = true) (herr : (prep d a).err = none) :
    silkDecode d a o = tail (prep d a) a o := by
  unfold silkDecode
  dsimp only
  rw [if_neg (by rw [hok]; simp), herr]
  rfl

theorem keep_tD2 (p : Prep) (a : Args) (o : Orc) : DecKeep 0 a p.d (tD2 p a o) :=
  (readFlags_keep p.d a o).trans (sideReset_keep (tD1 p a o) a (tSp p a o).dom)

theorem keep_tFr (p : Prep) (a : Args) (o : Orc) : DecKeep 1 a p.d (tFr p a o).d :=
  (keep_tD2 p a o).trans (frames_keep (tD2 p a o) a o (hasSide (tD2 p a o) a (tSp p a o).dom).1)

theorem frames_N (d : Dec) (a : Args) (o : Orc) (hs : Bool) (h : a.nChannelsInternal = 2 → d.ch1.frame_length = d.ch0.frame_length) :
    (frames d a o hs).N = d.ch0.frame_length := by
  unfold frames
  dsimp only
  split
  · rename_i h2
    split
    · exact h h2
    · rfl
  · rfl

theorem frames_ret (d : Dec) (a : Args) (o : Orc) (hs : Bool) (h0 : o.frame0.ret = 0) (h1 : o.frame1.ret = 0) :
    (frames d a o hs).ret = 0 := by
  unfold frames
  dsimp only
  split
  · split
    · show o.frame0.ret + o.frame1.ret = 0; omega
    · exact h0
  · exact h0

theorem strideWrite_length (base stride : Nat) (src : List Int) : ∀ (cnt i : Nat) (out : List Int),
    (strideWrite out base stride src cnt i).length = out.length
  | 0, _, _ => rfl
  | cnt + 1, i, out => by unfold strideWrite; rw [strideWrite_length base stride src cnt]; simp

theorem dupWrite_length : ∀ (cnt i : Nat) (out : List Int), (dupWrite out cnt i).length = out.length
  | 0, _, _ => rfl
  | cnt + 1, i, out => by unfold dupWrite; rw [dupWrite_length cnt]; simp

/-- The frame loop leaves both channels configured as they were and delivers one frame of channel 0's length. -/
theorem tFr_ok {api : Int} {p : Prep} {a : Args} {o : Orc} (hR : Ready api a p.d) :
    ChanOk api (tFr p a o).d.ch0 ∧
    (a.nChannelsInternal = 2 → ChanOk api (tFr p a o).d.ch1 ∧ Same (tFr p a o).d.ch0 (tFr p a o).d.ch1) ∧
    (tFr p a o).N = (tFr p a o).d.ch0.frame_length := by
  obtain ⟨c0, c1⟩ := (keep_tFr p a o).chans hR.1 hR.2.2.1 (by decide) (by have := hR.2.1; omega)
  refine ⟨c0, c1, ?_⟩
  rw [(keep_tFr p a o).ch0.frame_length, ← (keep_tD2 p a o).ch0.frame_length]
  exact frames_N _ _ _ _ (hR.keep (keep_tD2 p a o)).frame_length1

theorem tail_ok {api : Int} {p : Prep} {a : Args} {o : Orc} (ha : ApiOk api) (hapi : a.API_sampleRate = api)
    (hok : p.ok = true) (hret : p.ret = 0) (hR : Ready api a p.d)
    (hO : OrcOk p.d.ch0.frame_length (p.d.ch0.nb_subfr * (api / 200)) o) :
    (tail p a o).ok = true ∧ (tail p a o).err = none ∧ (tail p a o).ret = 0 ∧
    (tail p a o).nSamplesOut = p.d.ch0.nb_subfr * (api / 200) ∧
    Inv api (tail p a o).d ∧ (tail p a o).d.nChannelsInternal = a.nChannelsInternal ∧
    (tail p a o).d.ch0.nb_subfr = p.d.ch0.nb_subfr ∧
    (tail p a o).out.length = ((tail p a o).nSamplesOut * a.nChannelsAPI).toNat := by
  obtain ⟨c0, c1, hN⟩ := tFr_ok (o := o) hR
  obtain ⟨o1, o2, _, _, _, _, o7, o8, _, _⟩ := hO
  have K := keep_tFr p a o
  have k3 := K.ch0.nb_subfr
  have hn : (tFr p a o).d.nChannelsInternal = a.nChannelsInternal := by rw [K.nInt, hR.2.2.2.1]
  obtain ⟨n1, n2, n3, n4, n5⟩ := nSamplesOut_ok ha c0
  have c1' : (tFr p a o).d.nChannelsInternal = 2 →
      ChanOk api (tFr p a o).d.ch1 ∧ Same (tFr p a o).d.ch0 (tFr p a o).d.ch1 := fun h2 => c1 (hn ▸ h2)
  unfold tail
  dsimp only
  rw [if_neg n1]
  refine ⟨hok, rfl, ?_, ?_, ?_, ?_, ?_, ?_⟩
  · show p.ret + (tFr p a o).ret + (rsRet o 0 + if _ then rsRet o 1 else 0) + (if _ then rsRet o 1 else 0) = 0
    rw [hret, show (tFr p a o).ret = 0 from frames_ret _ _ _ _ o1 o2, o7, o8]; simp
  · show wrap32 ((tFr p a o).N * a.API_sampleRate) / smulbb (tFr p a o).d.ch0.fs_kHz 1000 = _
    rw [hN, hapi, n3, k3]
  · show Inv api (if a.lostFlag = 1 then _ else _)
    split
    · refine Or.inr ⟨c0, fun h2 => ?_⟩
      have h2' : (tFr p a o).d.nChannelsInternal = 2 := h2
      simp only [h2', if_true]
      exact c1' h2'
    · exact Or.inr ⟨c0, c1'⟩
  · show (if a.lostFlag = 1 then _ else _ : Dec).nChannelsInternal = _
    split <;> exact hn
  · show (if a.lostFlag = 1 then _ else _ : Dec).ch0.nb_subfr = _
    split <;> exact k3
  · simp only [apply_ite List.length, strideWrite_length, dupWrite_length, List.length_replicate, ite_self]

/-- The oracle contract for one call, at the configuration in force after the configuration part of the call. -/
def CallOrcOk (api : Int) (d : Dec) (a : Args) (o : Orc) : Prop :=
  OrcOk (prep d a).d.ch0.frame_length ((prep d a).d.ch0.nb_subfr * (api / 200)) o

/-- One step of a history: a silk_Decode call with its oracle answers, or silk_InitDecoder / silk_ResetDecoder. -/
inductive Step where
  | dec (a : Args) (o : Orc)
  | reset

def runHistory : Dec → List Step → Dec
  | d, [] => d
  | d, .dec a o :: rest => runHistory (silkDecode d a o).d rest
  | d, .reset :: rest => runHistory (initDecoder d) rest

/-- Every call of the history has legal arguments for the state it meets and oracles within their contracts. -/
def HistOk (api : Int) : Dec → List Step → Prop
  | _, [] => True
  | d, .dec a o :: rest => ArgsOk api d a ∧ CallOrcOk api d a o ∧ HistOk api (silkDecode d a o).d rest
  | d, .reset :: rest => HistOk api (initDecoder d) rest

/-- Every call of the history returned 0 with nSamplesOut = nb_subfr * 5 ms at the API rate. -/
def HistRet (api : Int) : Dec → List Step → Prop
  | _, [] => True
  | d, .dec a o :: rest => ((silkDecode d a o).ok = true ∧ (silkDecode d a o).ret = 0 ∧
      (silkDecode d a o).nSamplesOut = (silkDecode d a o).d.ch0.nb_subfr * (api / 200) ∧
      (silkDecode d a o).out.length = ((silkDecode d a o).nSamplesOut * a.nChannelsAPI).toNat) ∧
      HistRet api (silkDecode d a o).d rest
  | d, .reset :: rest => HistRet api (initDecoder d) rest

end Opus.SilkApi
