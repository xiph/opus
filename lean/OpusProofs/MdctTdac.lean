import Mathlib.Analysis.SpecialFunctions.Trigonometric.Basic
import Mathlib.Algebra.BigOperators.Group.Finset.Basic
import Mathlib.Tactic.Ring
import Mathlib.Tactic.Linarith
import Mathlib.Tactic.FieldSimp
/-
  OpusProofs.MdctTdac — time-domain alias cancellation of the MDCT over ℝ (property C04).  `kern`, `mdct`, `imdct` are the
  formulas of `Opus.Mdct.mdctDirect` / `imdctDirect` in the executable model.  The Gram matrix of the kernels is the
  identity minus and plus one anti-diagonal each (orthogonality sums of cosines), so IMDCT∘MDCT returns a block plus its
  mirrored alias; under a symmetric window the aliases of two consecutive blocks cancel in the overlap-add, and what
  is left is the input times the window's power sum.
-/
namespace Opus.MdctR
open Finset Real

noncomputable def kern (M n k : ℕ) : ℝ := cos (π / M * ((n : ℝ) + 1 / 2 + (M : ℝ) / 2) * ((k : ℝ) + 1 / 2))

/-- Forward MDCT of a block of `2M` samples. -/
noncomputable def mdct (M : ℕ) (x : ℕ → ℝ) (k : ℕ) : ℝ := ∑ n ∈ range (2 * M), x n * kern M n k

/-- Inverse MDCT (`2M` outputs from `M` coefficients), no normalisation. -/
noncomputable def imdct (M : ℕ) (X : ℕ → ℝ) (n : ℕ) : ℝ := ∑ k ∈ range M, X k * kern M n k

noncomputable def cosSum (N : ℕ) (θ : ℝ) : ℝ := ∑ k ∈ range N, cos (((k : ℝ) + 1 / 2) * θ)

/-- Telescoping (Dirichlet-kernel) identity: `2·sin(θ/2)·Σ_{k<N} cos((k+1/2)θ) = sin(Nθ)`. -/
theorem two_sin_mul_cosSum (N : ℕ) (θ : ℝ) : 2 * sin (θ / 2) * cosSum N θ = sin (N * θ) := by
  induction N with
  | zero => simp [cosSum]
  | succ n ih =>
    unfold cosSum at ih ⊢
    rw [sum_range_succ, mul_add, ih]
    have h1 : ((n + 1 : ℕ) : ℝ) * θ = ((n : ℝ) + 1 / 2) * θ + θ / 2 := by push_cast; ring
    have h2 : (n : ℝ) * θ = ((n : ℝ) + 1 / 2) * θ - θ / 2 := by ring
    rw [h1, h2, sin_add, sin_sub]
    ring

theorem cosSum_eq_zero (M : ℕ) (hM : 0 < M) (j : ℤ) (hj : ¬ (2 * (M : ℤ)) ∣ j) :
    cosSum M (π / M * j) = 0 := by
  have hM' : (M : ℝ) ≠ 0 := by exact_mod_cast hM.ne'
  have h := two_sin_mul_cosSum M (π / M * j)
  rw [show (M : ℝ) * (π / M * j) = (j : ℝ) * π by field_simp, sin_int_mul_pi] at h
  -- `sin(πj/2M) = 0` would make `j` a multiple of `2M`
  refine (mul_eq_zero.mp h).resolve_left (mul_ne_zero two_ne_zero fun h0 => hj ?_)
  obtain ⟨n, hn⟩ := sin_eq_zero_iff.mp h0
  have hpi : (π : ℝ) ≠ 0 := pi_ne_zero
  have : (j : ℝ) = 2 * (M : ℝ) * n := by
    field_simp at hn
    linarith
  exact ⟨n, by exact_mod_cast this⟩

theorem cosSum_zero (M : ℕ) : cosSum M 0 = M := by
  simp [cosSum]

/-- `j = 2M·c`: every term is `cos((2k+1)·c·π) = (−1)^c`. -/
theorem cosSum_two_mul (M : ℕ) (hM : 0 < M) (c : ℕ) : cosSum M (π / M * ((2 * M * c : ℕ) : ℤ)) = (M : ℝ) * (-1) ^ c := by
  have hM' : (M : ℝ) ≠ 0 := by exact_mod_cast hM.ne'
  unfold cosSum
  have : ∀ k ∈ range M, cos (((k : ℝ) + 1 / 2) * (π / M * ((2 * M * c : ℕ) : ℤ))) = (-1) ^ c := by
    intro k _
    have : ((k : ℝ) + 1 / 2) * (π / M * ((2 * M * c : ℕ) : ℤ)) = (((2 * k + 1) * c : ℕ) : ℝ) * π := by
      push_cast; field_simp
    rw [this, cos_nat_mul_pi, pow_mul, Odd.neg_one_pow (odd_two_mul_add_one k)]
  rw [sum_congr rfl this]; simp

/-- Product of two kernels summed over the frequency index, by product-to-sum. -/
theorem kern_sum (M n m : ℕ) (hM : 0 < M) :
    ∑ k ∈ range M, kern M m k * kern M n k
      = (cosSum M (π / M * ((n : ℤ) - (m : ℤ) : ℤ)) + cosSum M (π / M * ((n + m + 1 + M : ℕ) : ℤ))) / 2 := by
  have hM' : (M : ℝ) ≠ 0 := by exact_mod_cast hM.ne'
  unfold cosSum kern
  rw [← sum_add_distrib, eq_div_iff (two_ne_zero), sum_mul]
  refine sum_congr rfl fun k _ => ?_
  set a := π / M * ((m : ℝ) + 1 / 2 + (M : ℝ) / 2) * ((k : ℝ) + 1 / 2) with ha
  set b := π / M * ((n : ℝ) + 1 / 2 + (M : ℝ) / 2) * ((k : ℝ) + 1 / 2) with hb
  have h1 : ((k : ℝ) + 1 / 2) * (π / M * (((n : ℤ) - (m : ℤ) : ℤ) : ℝ)) = b - a := by
    push_cast; rw [ha, hb]; ring
  have h2 : ((k : ℝ) + 1 / 2) * (π / M * (((n + m + 1 + M : ℕ) : ℤ) : ℝ)) = b + a := by
    push_cast; rw [ha, hb]; field_simp; ring
  rw [h1, h2, cos_sub, cos_add]; ring

/-- The Gram matrix of the kernels: identity minus/plus the two anti-diagonals. -/
theorem kern_gram (M n m : ℕ) (hM : 0 < M) (hn : n < 2 * M) (hm : m < 2 * M) :
    ∑ k ∈ range M, kern M m k * kern M n k
      = (M : ℝ) / 2 * ((if m = n then 1 else 0) - (if n + m + 1 = M then 1 else 0)
                        + (if n + m + 1 = 3 * M then 1 else 0)) := by
  rw [kern_sum M n m hM]
  -- first sum: j = n − m
  have hA : cosSum M (π / M * ((n : ℤ) - (m : ℤ) : ℤ)) = if m = n then (M : ℝ) else 0 := by
    split
    · next h => subst h; simp [cosSum_zero]
    · next h =>
      apply cosSum_eq_zero M hM
      intro hd
      -- |n − m| < 2M leaves only the multiple 0
      have := Int.eq_zero_of_abs_lt_dvd hd (abs_lt.mpr ⟨by omega, by omega⟩)
      omega
  -- second sum: j = n + m + 1 + M ∈ [M+1, 5M−1]
  have hB : cosSum M (π / M * ((n + m + 1 + M : ℕ) : ℤ))
      = (if n + m + 1 = 3 * M then (M : ℝ) else 0) - (if n + m + 1 = M then (M : ℝ) else 0) := by
    by_cases h1 : n + m + 1 = M
    · have : n + m + 1 + M = 2 * M * 1 := by omega
      rw [this, cosSum_two_mul M hM]
      have h3 : ¬ (n + m + 1 = 3 * M) := by omega
      rw [if_pos h1, if_neg h3]; ring
    · by_cases h3 : n + m + 1 = 3 * M
      · have : n + m + 1 + M = 2 * M * 2 := by omega
        rw [this, cosSum_two_mul M hM]
        rw [if_pos h3, if_neg h1]; ring
      · rw [cosSum_eq_zero M hM]
        · rw [if_neg h3, if_neg h1]; ring
        · intro hd
          -- M < n + m + 1 + M < 5M: a multiple of 2M there is within 2M of 2M or of 4M, hence one of them
          rcases Nat.lt_or_ge (n + m + 1) (3 * M) with h | h
          · have := Int.eq_zero_of_abs_lt_dvd (dvd_sub hd (dvd_refl _)) (abs_lt.mpr ⟨by omega, by omega⟩)
            omega
          · have := Int.eq_zero_of_abs_lt_dvd (dvd_sub hd (Dvd.intro 2 rfl)) (abs_lt.mpr ⟨by omega, by omega⟩)
            omega
  rw [hA, hB]
  split <;> split <;> split <;> ring

theorem imdct_mdct_sum (M : ℕ) (x : ℕ → ℝ) (n : ℕ) :
    imdct M (mdct M x) n = ∑ m ∈ range (2 * M), x m * ∑ k ∈ range M, kern M m k * kern M n k := by
  unfold imdct mdct
  simp_rw [sum_mul, mul_sum]
  rw [sum_comm]
  refine sum_congr rfl fun m _ => sum_congr rfl fun k _ => ?_
  ring

/-- A row of the Gram matrix with, off the diagonal, the single entry `σ` in column `a`: the block comes back as
    itself plus `σ` times its alias at `a`. -/
theorem imdct_mdct_alias (M : ℕ) (x : ℕ → ℝ) (n a : ℕ) (σ : ℝ) (hn : n < 2 * M) (ha : a < 2 * M)
    (hrow : ∀ m, m < 2 * M →
      ((if n + m + 1 = 3 * M then 1 else 0) - (if n + m + 1 = M then 1 else 0) : ℝ) = if m = a then σ else 0) :
    imdct M (mdct M x) n = (M : ℝ) / 2 * (x n + σ * x a) := by
  have hM : 0 < M := by omega
  rw [imdct_mdct_sum]
  have : ∀ m ∈ range (2 * M), x m * ∑ k ∈ range M, kern M m k * kern M n k
      = (M : ℝ) / 2 * ((if m = n then x m else 0) + σ * (if m = a then x m else 0)) := by
    intro m hm
    rw [kern_gram M n m hM hn (mem_range.mp hm), sub_add_eq_add_sub, add_sub_assoc, hrow m (mem_range.mp hm)]
    split <;> split <;> ring
  rw [sum_congr rfl this, ← mul_sum, sum_add_distrib, ← mul_sum, sum_ite_eq', sum_ite_eq',
    if_pos (mem_range.mpr hn), if_pos (mem_range.mpr ha)]

/-- First half: `imdct (mdct x) n = M/2·(x n − x (M−1−n))` for `n < M`. -/
theorem imdct_mdct_lo (M : ℕ) (x : ℕ → ℝ) (n : ℕ) (hn : n < M) :
    imdct M (mdct M x) n = (M : ℝ) / 2 * (x n - x (M - 1 - n)) := by
  rw [imdct_mdct_alias M x n (M - 1 - n) (-1) (by omega) (by omega) fun m hm => by
    rw [if_neg (by omega)]
    by_cases h1 : n + m + 1 = M
    · rw [if_pos h1, if_pos (by omega)]; ring
    · rw [if_neg h1, if_neg (by omega)]; ring]
  ring

/-- Second half: `imdct (mdct x) n = M/2·(x n + x (3M−1−n))` for `M ≤ n < 2M`. -/
theorem imdct_mdct_hi (M : ℕ) (x : ℕ → ℝ) (n : ℕ) (hn : M ≤ n) (hn2 : n < 2 * M) :
    imdct M (mdct M x) n = (M : ℝ) / 2 * (x n + x (3 * M - 1 - n)) := by
  rw [imdct_mdct_alias M x n (3 * M - 1 - n) 1 hn2 (by omega) fun m hm => by
    rw [if_neg (by omega : ¬ n + m + 1 = M)]
    by_cases h3 : n + m + 1 = 3 * M
    · rw [if_pos h3, if_pos (by omega)]; ring
    · rw [if_neg h3, if_neg (by omega)]; ring]
  ring

/-- Windowed analysis/synthesis of the block that starts at sample `s`:
    `w n · imdct (mdct (w · x(s + ·))) n`. -/
noncomputable def wola (M : ℕ) (w : ℕ → ℝ) (x : ℕ → ℝ) (s n : ℕ) : ℝ :=
  w n * imdct M (mdct M (fun m => w m * x (s + m))) n

/-- With a symmetric window only, blocks starting at any sample `s` and `s + M`: the aliases of the two blocks
    cancel exactly, what remains is the input scaled by `M/2·(w n² + w (n+M)²)`. -/
theorem tdac_symm_at (M : ℕ) (w x : ℕ → ℝ) (hsym : ∀ n, n < 2 * M → w (2 * M - 1 - n) = w n)
    (s n : ℕ) (hn : n < M) :
    wola M w x (s + M) n + wola M w x s (n + M) = (M : ℝ) / 2 * (w n ^ 2 + w (n + M) ^ 2) * x (s + M + n) := by
  unfold wola
  rw [imdct_mdct_lo M _ n hn, imdct_mdct_hi M _ (n + M) (by omega) (by omega)]
  have e1 : 3 * M - 1 - (n + M) = 2 * M - 1 - n := by omega
  have e2 : s + (n + M) = s + M + n := by omega
  have e3 : s + (2 * M - 1 - n) = s + M + (M - 1 - n) := by omega
  have s1 : w (2 * M - 1 - n) = w n := hsym n (by omega)
  have s2 : w (M - 1 - n) = w (n + M) := by
    have := hsym (n + M) (by omega)
    have e : 2 * M - 1 - (n + M) = M - 1 - n := by omega
    rw [e] at this; exact this
  simp only [e1, e2, e3, s1, s2]
  ring

theorem tdac_symm (M : ℕ) (w x : ℕ → ℝ) (hsym : ∀ n, n < 2 * M → w (2 * M - 1 - n) = w n)
    (t n : ℕ) (hn : n < M) :
    wola M w x ((t + 1) * M) n + wola M w x (t * M) (n + M)
      = (M : ℝ) / 2 * (w n ^ 2 + w (n + M) ^ 2) * x ((t + 1) * M + n) := by
  rw [Nat.succ_mul]; exact tdac_symm_at M w x hsym (t * M) n hn

/-- a gain within `ε` of one changes a sample by at most `ε` relative. -/
theorem abs_gain_sub_le {g ε x : ℝ} (h : |g - 1| ≤ ε) : |g * x - x| ≤ ε * |x| := by
  rw [← sub_one_mul, abs_mul]; exact mul_le_mul_of_nonneg_right h (abs_nonneg _)

theorem tdac_approx (M : ℕ) (w x : ℕ → ℝ) (ε : ℝ) (hsym : ∀ n, n < 2 * M → w (2 * M - 1 - n) = w n)
    (hpb : ∀ n, n < M → |w n ^ 2 + w (n + M) ^ 2 - 1| ≤ ε) (t n : ℕ) (hn : n < M) :
    |wola M w x ((t + 1) * M) n + wola M w x (t * M) (n + M) - (M : ℝ) / 2 * x ((t + 1) * M + n)|
      ≤ (M : ℝ) / 2 * ε * |x ((t + 1) * M + n)| := by
  rw [tdac_symm M w x hsym t n hn, mul_assoc, ← mul_sub, abs_mul, abs_of_nonneg (by positivity), mul_assoc]
  exact mul_le_mul_of_nonneg_left (abs_gain_sub_le (hpb n hn)) (by positivity)

end Opus.MdctR
