import OpusProofs.EncSkelParse
import OpusProofs.EncSkelMulti
/-
  OpusProofs.EncSkelWf — what `OpusProps.C02.encode_wellformed` rests on: on every return path of `opus_encode_native` the
  emitted structure (header bytes, frame lengths, size) is an output of the repacketiser contract for a
  ToC that announces the coded duration, hence parses (C06 parser) to frames totalling `frame_size`.
-/
namespace Opus.EncSkel.Proofs
open Opus Opus.EncDecide Opus.EncSkel Opus.FramingSpec

/-- What `encode_wellformed` needs of the emitted packet. -/
structure PktOk (fs fsz : Int) (r : NatRes) : Prop where
  out : ∃ maxlen pad, outRange r.pkt.tocCfg r.pkt.lens maxlen pad = .ok { size := r.pkt.size, hdr := r.pkt.hdr }
  size : (r.pkt.size : Int) = r.ret
  toc4 : r.pkt.tocCfg % 4 = 0
  toc256 : r.pkt.tocCfg < 256
  lens : ∀ l ∈ r.pkt.lens, l ≤ 1275
  dur48 : frameDur48 r.pkt.tocCfg * r.pkt.lens.length ≤ 5760
  dur : (r.pkt.lens.length : Int) * Framing.samplesPerFrame r.pkt.tocCfg fs.toNat = fsz

theorem lowHdr0_length (s : St) (fsz out : Int) : (lowHdr0 s fsz out).length = (lowRet0 s fsz out).toNat := by
  unfold lowHdr0 lowRet0
  rcases lowCode_cases s fsz out with h | h | ⟨h, _⟩ <;> rw [h] <;> rfl

end Opus.EncSkel.Proofs

namespace Opus.EncSkel.WfProofs
open Opus Opus.EncSkel

/-- The (empty) frames of the ToC-only packet. -/
def lowFrames (s : St) (fsz out : Int) : List Bytes :=
  List.replicate (lowLens s fsz out).length []

theorem lowFrames_lens (s : St) (fsz out : Int) :
    (lowFrames s fsz out).map List.length = lowLens s fsz out := by
  unfold lowFrames lowLens
  simp

end Opus.EncSkel.WfProofs

namespace Opus.EncSkel.Proofs
open Opus Opus.EncDecide Opus.EncSkel Opus.FramingSpec

open WfProofs in
theorem low_bytes (s : St) (fsz out : Int) :
    pktBytes (lowHdr0 s fsz out) (lowFrames s fsz out) (lowRet0 s fsz out).toNat = lowHdr0 s fsz out := by
  unfold pktBytes lowFrames; simp [lowHdr0_length]

/-- Low-budget path, any state and any output space: one byte is refused exactly for 100 ms frames;
    otherwise the ToC-only packet fits, parses to empty frames and announces the submitted duration. -/
theorem lowBudget_valid_of (s : St) (n : Nat) (q k out : Int) (hn : (n : Int) = s.fs) (hq0 : 0 < q) (hfs : s.fs = 400 * q)
    (hfs5 : s.fs = 8000 ∨ s.fs = 12000 ∨ s.fs = 16000 ∨ s.fs = 24000 ∨ s.fs = 48000)
    (hk : k = 1 ∨ k = 2 ∨ k = 4 ∨ k = 8 ∨ k = 16 ∨ k = 24 ∨ k = 32 ∨ k = 40 ∨ k = 48)
    (hmode : s.mode = 0 ∨ (MODE_SILK_ONLY ≤ s.mode ∧ s.mode ≤ MODE_CELT_ONLY))
    (hbw : s.bandwidth = 0 ∨ (BW_NB ≤ s.bandwidth ∧ s.bandwidth ≤ BW_FB)) (hout : 1 ≤ out) :
    (entryCheck s (q * k) out = some OPUS_BUFFER_TOO_SMALL ↔ (out = 1 ∧ k = 40)) ∧
    (¬ (out = 1 ∧ k = 40) →
      parsesTo (lowHdr0 s (q * k) out) n (q * k) = true ∧
      (lowHdr0 s (q * k) out).length = (lowRet0 s (q * k) out).toNat ∧ lowRet0 s (q * k) out ≤ out) := by
  have hk0 : 0 < k := by omega
  have hkq : 0 < q * k := Int.mul_pos hq0 hk0
  have h10 : s.fs = q * k * 10 ↔ k = 40 := by
    rw [hfs]; constructor
    · intro h
      have : q * 400 = q * (k * 10) := by rw [← Int.mul_assoc, ← h, Int.mul_comm]
      have := Int.eq_of_mul_eq_mul_left (by omega) this
      omega
    · rintro rfl; omega
  constructor
  · unfold entryCheck
    have hm : min 1276 out = 1 ↔ out = 1 := by omega
    simp only [OPUS_BAD_ARG, OPUS_BUFFER_TOO_SMALL, h10, hm]
    rw [if_neg (by omega)]
    by_cases h : out = 1 ∧ k = 40
    · rw [if_pos h]; exact ⟨fun _ => h, fun _ => rfl⟩
    · rw [if_neg h]; exact ⟨fun e => (by cases e), fun e => absurd e h⟩
  · intro hne
    have hlg : legalFrame s.fs (q * k) = true := by rw [hfs]; exact legalFrame_units q k hk
    obtain ⟨f1, f2, f3, f4, f5⟩ := lowToc_wf s (q * k) out hfs5 hlg hmode hbw (fun ⟨h1, h2⟩ => hne ⟨h1, h10.mp h2⟩)
    obtain ⟨_, hall, _⟩ := lowLens_spec s (q * k) out (by omega) hlg
    have hlen := lowHdr0_length s (q * k) out
    refine ⟨?_, hlen, (lowRet0_bounds s (q * k) out hout).2.2.1⟩
    obtain ⟨v, hv, hs, hc, ht, -, -, -, hspf⟩ := outRange_view _ _ _ false _ _ (WfProofs.lowFrames_lens s (q * k) out) f1 f2 hall f3 f5
    rw [low_bytes] at hv
    rw [← hspf, ← hc, show s.fs.toNat = n by omega] at f4
    unfold parsesTo
    rw [hv]
    simp only [Bool.and_eq_true, decide_eq_true_eq]
    refine ⟨⟨f4, ?_⟩, by rw [hs, hc]⟩
    rw [hs]; unfold lowLens; simp

/-- Low-budget path: the ToC-only packet (padded in CBR) is a repacketiser-contract output for a ToC
    announcing the submitted frame size. -/
theorem low_pkt (s0 s : St) (fsz out : Int) (b : SizeBudget) (hst : stOk s0 = true)
    (hlg : legalFrame s0.fs fsz = true) (he : entryCheck s0 fsz out = none)
    (hbs : BudSame s0 s) (hb1 : 1 ≤ b.maxDataBytes) :
    PktOk s0.fs fsz (lowBudget s fsz out b) := by
  have hS := (stOk_iff s0).mp hst
  have h1 := hS.fs
  have hfs := hbs.fs
  have hent := entryCheck_none he
  rw [← hfs] at hent hlg h1
  obtain ⟨f1, f2, f3, f4, f5⟩ := lowToc_wf s fsz out h1 hlg (by rw [hbs.mode]; exact Or.inr hS.mode)
    (by rw [hbs.bandwidth]; exact Or.inr hS.bw) hent.2
  obtain ⟨-, hall, -⟩ := lowLens_spec s fsz out (by omega) hlg
  obtain ⟨-, -, -, ht, hl, hsh⟩ := lowBudget_cases s fsz out b (by omega) hlg
  have hr0 := (lowRet0_bounds s fsz out hent.1).1
  rw [hfs] at f4
  refine ⟨?_, ?_, by rw [ht]; exact f1, by rw [ht]; exact f2, by rw [hl]; exact hall, by rw [ht, hl]; exact f3,
    by rw [ht, hl]; exact f4⟩
  · rcases hsh with ⟨-, -, e2, e3⟩ | ⟨-, -, -, r, hr, -, -, e2, e3⟩
    · exact ⟨_, false, by rw [ht, hl, e2, e3]; exact f5⟩
    · exact ⟨_, true, by rw [ht, hl, e2, e3]; exact hr⟩
  · rcases hsh with ⟨-, e1, e2, -⟩ | ⟨-, -, e1, r, -, -, hz, e2, -⟩ <;> rw [e1, e2] <;> omega

theorem durOk_single (mode q k : Int) (hq : 0 < q)
    (hk : k = 1 ∨ k = 2 ∨ k = 4 ∨ k = 8 ∨ k = 16 ∨ k = 24 ∨ k = 32 ∨ k = 40 ∨ k = 48)
    (hmode : mode = 1000 ∨ mode = 1001 ∨ mode = 1002) (hshort : mode ≠ 1002 → 400 * q / 100 ≤ k * q)
    (hnm : ¬ ((k * q > 400 * q / 50 ∧ mode ≠ 1000) ∨ k * q > 3 * (400 * q) / 50)) : DurOk mode k := by
  unfold DurOk
  rcases hk with rfl | rfl | rfl | rfl | rfl | rfl | rfl | rfl | rfl <;> omega

/-- The packet of one frame call (`opus_encode_frame_native` within its precondition and oracle contracts): a
    contract output for the single frame — code 0 (VBR, DTX) or the CBR packet padded to `max_data_bytes`. -/
theorem frame_sub (s : St) (fi : FrameIn) (r : FrameRes) (hpost : FramePost s fi r) :
    ∃ m pd, outRange r.toc [r.payload.toNat] m pd = .ok { size := r.ret.toNat, hdr := r.hdr } := by
  have p2 := hpost.retLo
  have p4 := hpost.payload
  by_cases hd : r.dtx = true
  · obtain ⟨d1, d2, d3⟩ := hpost.dtx1 hd
    refine ⟨1, false, ?_⟩
    rw [d1, d2, d3]
    exact outRange_code0 r.toc 0 false
  · have hd' : r.dtx = false := by simpa using hd
    by_cases hv : s.useVbr = 0
    · obtain ⟨c1, c2, c3⟩ := hpost.cbr hv hd'
      exact ⟨fi.maxDataBytes.toNat, true, by rw [c2, c1]; exact cbrHdr_spec r.toc r.payload _ p4 c3⟩
    · obtain ⟨v1, v2⟩ := hpost.vbr hv hd'
      refine ⟨r.payload.toNat + 1, false, ?_⟩
      rw [v2, v1]
      have : (r.payload + 1).toNat = r.payload.toNat + 1 := by omega
      rw [this]
      exact outRange_code0 r.toc r.payload.toNat false

/-- Single-frame path: the packet is a repacketiser-contract output (code 0, or code 3 with padding
    in CBR) for a ToC announcing the submitted frame size. -/
theorem single_pkt (s0 s1 : St) (fuzz : Bool) (o : NatOr) (fsz m isSil : Int) (fo : FrameOr) (okb : Bool)
    (hfs5 : s0.fs = 8000 ∨ s0.fs = 12000 ∨ s0.fs = 16000 ∨ s0.fs = 24000 ∨ s0.fs = 48000)
    (hlg : legalFrame s0.fs fsz = true) (hfs : s1.fs = s0.fs)
    (hs : Settings s1) (hb : BwOk s1.bandwidth) (hm1 : 3 ≤ m) (hm2 : m ≤ 1276)
    (hnm : ¬ isMulti (decide' s1 fuzz o fsz m).st fsz = true)
    (hok : frameOk (decide' s1 fuzz o fsz m).st (singleIn (decide' s1 fuzz o fsz m) isSil fsz m) fo = true) :
    PktOk s0.fs fsz
      (singleRes (frameNative (decide' s1 fuzz o fsz m).st (singleIn (decide' s1 fuzz o fsz m) isSil fsz m) fo) okb) := by
  have hpre := decide'_pre s1 fuzz o fsz m isSil hs hb hm1 hm2
  have hpost := frameNative_post _ _ fo hpre hok
  obtain ⟨hsame, hmode, hbwd, hwS, hwH, hshort⟩ := decide'_spec s1 fuzz o fsz m hs hb
  have hdfs : (decide' s1 fuzz o fsz m).st.fs = s0.fs := by rw [hsame.cfg.fs, hfs]
  have hmi : (singleIn (decide' s1 fuzz o fsz m) isSil fsz m).maxDataBytes = m := rfl
  have hfi : (singleIn (decide' s1 fuzz o fsz m) isSil fsz m).frameSize = fsz := rfl
  unfold isMulti at hnm
  simp only [decide_eq_true_eq] at hnm
  generalize decide' s1 fuzz o fsz m = d at *
  generalize frameNative d.st (singleIn d isSil fsz m) fo = r at *
  have p2 := hpost.retLo
  have p3 := hpost.retHi
  have p4 := hpost.payload
  obtain ⟨bw, ht, hb1, hb2⟩ := hpost.toc
  rw [hmi] at p3
  rw [hfi, hdfs] at ht
  rw [hfs] at hshort
  rw [hdfs] at hnm
  obtain ⟨q, k, hq0, hq, hk, hk9⟩ := legal_units s0.fs fsz hfs5 hlg
  obtain ⟨t1, t2, t3, -, t4⟩ := toc_frame d.st.mode bw d.st.streamChannels s0.fs fsz k hfs5
    (by rw [hk, show s0.fs / 400 = q by omega])
    (durOk_single d.st.mode q k hq0 hk9 hmode (by rw [hq, hk] at hshort; exact hshort) (by rw [hq, hk] at hnm; exact hnm))
    (bwFor_frame d.st.mode bw d.st.bandwidth hbwd hb1 hb2 hwH)
  rw [← ht] at t1 t2 t3 t4
  unfold singleRes
  exact ⟨frame_sub _ _ r hpost, by dsimp only; omega, t1, t2, fun l hl => by simp only [List.mem_singleton] at hl; omega,
    by dsimp only [List.length_singleton]; omega, by simpa using t3⟩

/-- Multi-frame path: the repacketised packet is a repacketiser-contract output for a ToC announcing
    the sub-frame size, with `nb_frames` frames totalling the submitted frame size. -/
theorem multi_pkt (s : St) (fuzz : Bool) (fsz out : Int) (o : NatOr)
    (he : entryCheck s fsz out = none) (htm : takesMulti s fuzz fsz out o = true)
    (hst : stOk s = true) (hlg : legalFrame s.fs fsz = true)
    (hmok : (multiOf s fuzz fsz out o).ok = true) : PktOk s.fs fsz (multiOf s fuzz fsz out o) := by
  obtain ⟨_, hpk, hnf, hpre, hdfs⟩ := multi_branch s fuzz fsz out o he htm hst hlg hmok
  generalize multiOf s fuzz fsz out o = r at *
  generalize decOf s fuzz fsz out o = d at *
  generalize ctxOf s fuzz fsz out o = c at *
  obtain ⟨⟨bw, ht, hb1, hb2⟩, hlen, hlens, ⟨pad, hout⟩, hsize⟩ := hpk
  obtain ⟨j, hd, hj, h48⟩ := hpre.units
  have hfs5 := hpre.fs5
  rw [hdfs] at ht hj hfs5
  obtain ⟨t1, t2, t3, -, t4⟩ := toc_frame d.st.mode bw d.st.streamChannels s.fs c.encFs j hfs5 hj hd (hpre.bwFor bw hb1 hb2)
  rw [← ht] at t1 t2 t3 t4
  refine ⟨⟨_, pad, hout⟩, hsize, t1, t2, hlens, ?_, by rw [hlen, t3]; exact hnf⟩
  -- `nb_frames · j ≤ 48` units of 2.5 ms, 120 samples each at 48 kHz
  have : ((frameDur48 r.pkt.tocCfg * r.pkt.lens.length : Nat) : Int) ≤ 5760 := by
    push_cast; rw [hlen, t4, Int.mul_assoc, Int.mul_comm j]; omega
  exact_mod_cast this

theorem PktOk.withOk {fs fsz : Int} {r : NatRes} (h : PktOk fs fsz r) (b : Bool) : PktOk fs fsz { r with ok := b } :=
  ⟨h.out, h.size, h.toc4, h.toc256, h.lens, h.dur48, h.dur⟩

theorem encodeNative_pkt (s : St) (fuzz : Bool) (fsz out : Int) (o : NatOr)
    (he : entryCheck s fsz out = none) (hok : (encodeNative s fuzz fsz out o).ok = true) :
    PktOk s.fs fsz (encodeNative s fuzz fsz out o) := by
  obtain ⟨hst, hlg, h⟩ := encodeNative_cases s fuzz fsz out o he hok
  have c := callCtx s fsz out o he hst hlg
  rcases h with ⟨-, e⟩ | ⟨htm, hmok, e⟩ | ⟨hg, hnm, hfok, e⟩ <;> rw [e]
  · exact (low_pkt s _ fsz out _ hst hlg he c.same c.bLo).withOk _
  · exact (multi_pkt s fuzz fsz out o he htm hst hlg hmok).withOk _
  · obtain ⟨hm3, -⟩ := c.framePre fuzz hg
    have := c.bHi
    exact single_pkt s _ fuzz o fsz _ _ _ _ (stOk_domain s hst).1 hlg c.same.fs c.settings c.bw hm3 (by omega)
      (by rw [Bool.not_eq_true]; exact hnm) hfok

open Opus.EncSkel.WfProofs Opus.Repack Opus.RepackProofs in
/-- **What the encoder skeleton emits is the serialisation of a valid packet** holding exactly the
    frames handed in, with all-zero padding, announcing `frame_size`, and `ret` bytes long. -/
theorem encoder_packet (s : St) (fuzz : Bool) (fsz out : Int) (o : NatOr)
    (he : entryCheck s fsz out = none) (hok : (encodeNative s fuzz fsz out o).ok = true)
    (frames : List Bytes) (hfl : frames.map List.length = (encodeNative s fuzz fsz out o).pkt.lens) :
    ∃ P : Packet, Valid P ∧ P.frames = frames ∧
      serialize false P = pktBytes (encodeNative s fuzz fsz out o).pkt.hdr frames (encodeNative s fuzz fsz out o).pkt.size ∧
      (∃ k, padBytes P = List.replicate k 0) ∧
      (P.frames.length : Int) * (Framing.samplesPerFrame P.toc s.fs.toNat : Int) = fsz ∧
      ((serialize false P).length : Int) = (encodeNative s fuzz fsz out o).ret ∧
      1 ≤ (encodeNative s fuzz fsz out o).ret ∧ (encodeNative s fuzz fsz out o).ret ≤ out := by
  have hpost := encodeNative_post s fuzz fsz out o he hok
  have hp := encodeNative_pkt s fuzz fsz out o he hok
  generalize encodeNative s fuzz fsz out o = r at *
  obtain ⟨⟨maxlen, pad, hout⟩, hsize, h4, h256, hlens, hd48, hdur⟩ := hp
  obtain ⟨P, hv, hf, ht, hs, hz⟩ := outRange_packet r.pkt.tocCfg r.pkt.lens maxlen pad _ frames hfl h4 h256 hlens hd48 hout
  have hlen := pktBytes_length r.pkt.tocCfg r.pkt.lens maxlen pad _ frames hfl h4 hout
  dsimp only at hs hlen
  refine ⟨P, hv, hf, hs, hz, ?_, by rw [hs, hlen]; exact hsize, hpost.retLo, hpost.retHi⟩
  have hspf := (FramingProofs.toc_helpers_congr P.toc r.pkt.tocCfg s.fs.toNat (by omega)).2.2.1
  have hl : P.frames.length = r.pkt.lens.length := by rw [hf, ← hfl]; simp
  rw [hspf, hl]; exact hdur

end Opus.EncSkel.Proofs
