import OpusProofs.SilkVadOut
/-
  OpusProofs.SilkVadFilt — the first-order all-pass filter bank `silk_ana_filt_bank_1` of the SILK VAD:
  32-bit bounds of its states and of every intermediate sum for int16 input, and the decay
  of the states on zero input (used for "digital silence becomes inactive").
-/
namespace Opus.SilkVad
open Opus Opus.SilkParams

/-- Bound of both filter states for int16 input: `|S| ≤ 1.5·10^8 < 2^31`. -/
def stB : Int := 150000000

def AbsLe (s : Int × Int) (a : Int) : Prop := -a ≤ s.1 ∧ s.1 ≤ a ∧ -a ≤ s.2 ∧ s.2 ≤ a

def Fits32 (x : Int) : Prop := -2147483648 ≤ x ∧ x ≤ 2147483647

/-- One iteration of the filter loop on int16 samples from bounded states, without the 32-bit
    truncations of the model: the explicit values, all inside 32 bits, and the new states bounded again. -/
theorem anaStep_spec (s : Int × Int) (x0 x1 : Int) (hs : AbsLe s stB) (h0 : I16 x0) (h1 : I16 x1) :
    let y := x0 * 1024 - s.1
    let x := y + y * (-24290) / 65536
    let y2 := x1 * 1024 - s.2
    let x2 := y2 * 10788 / 65536
    anaStep s x0 x1 = ((x0 * 1024 + x, x1 * 1024 + x2), sat16 (rshiftRound ((s.2 + x2) + (s.1 + x)) 11),
      sat16 (rshiftRound ((s.2 + x2) - (s.1 + x)) 11)) ∧
    AbsLe (x0 * 1024 + x, x1 * 1024 + x2) stB ∧
    Fits32 y ∧ Fits32 x ∧ Fits32 (s.1 + x) ∧ Fits32 y2 ∧ Fits32 x2 ∧ Fits32 (s.2 + x2) ∧
    Fits32 ((s.2 + x2) + (s.1 + x)) ∧ Fits32 ((s.2 + x2) - (s.1 + x)) := by
  unfold AbsLe stB I16 Fits32 at *
  simp only
  -- the two quotients are bounded once, |y| ≤ 183554432; everything after is linear in them
  have hq1 : 65536 * ((x0 * 1024 - s.1) * -24290 / 65536) ≤ (x0 * 1024 - s.1) * -24290 ∧
      (x0 * 1024 - s.1) * -24290 < 65536 * ((x0 * 1024 - s.1) * -24290 / 65536) + 65536 := by omega
  have hq2 : 65536 * ((x1 * 1024 - s.2) * 10788 / 65536) ≤ (x1 * 1024 - s.2) * 10788 ∧
      (x1 * 1024 - s.2) * 10788 < 65536 * ((x1 * 1024 - s.2) * 10788 / 65536) + 65536 := by omega
  refine ⟨?_, ?_⟩
  · unfold anaStep
    rw [aFb121_eq, aFb120_eq]
    simp only
    rw [smlawb_eq (by unfold SilkParams.I16; omega) (by unfold I32; omega), smulwb_eq (by unfold SilkParams.I16; omega) (by unfold I32; omega)]
  · generalize (x0 * 1024 - s.1) * -24290 / 65536 = q1 at *
    generalize (x1 * 1024 - s.2) * 10788 / 65536 = q2 at *
    omega
theorem anaFilt_bnd (s : Int × Int) (l : List Int) (hs : AbsLe s stB) (hl : ∀ x ∈ l, I16 x) :
    AbsLe (anaFilt s l).1 stB := by
  fun_induction anaFilt s l with
  | case1 s x0 x1 rest r t ih =>
    have h := anaStep_spec s x0 x1 hs (hl x0 (by simp)) (hl x1 (by simp))
    simp only at h
    apply ih
    · rw [show r = anaStep s x0 x1 from rfl, h.1]; exact h.2.1
    · intro x hx; exact hl x (by simp [hx])
  | case2 s l h => exact hs

/-- Contraction of both states on a pair of zero samples: the first section keeps `1 + A_fb1_21/2^16 = 41246/65536 ≈ 0.63`
    of its state, the second only `A_fb1_20/2^16 = 10788/65536`; `+ 1` for the rounding of the quotient. -/
def dec (x : Nat) : Nat := x * 41246 / 65536 + 1

def decN : Nat → Nat → Nat
  | 0, x => x
  | n + 1, x => decN n (dec x)

theorem dec_mono (x y : Nat) (h : x ≤ y) : dec x ≤ dec y := by
  unfold dec
  have : x * 41246 / 65536 ≤ y * 41246 / 65536 := Nat.div_le_div_right (Nat.mul_le_mul_right _ h)
  omega

theorem decN_mono (n x y : Nat) (h : x ≤ y) : decN n x ≤ decN n y := by
  induction n generalizing x y with
  | zero => exact h
  | succ n ih => exact ih _ _ (dec_mono x y h)

theorem dec_le_max (x : Nat) : dec x ≤ max x 3 := by unfold dec; omega

theorem decN_le_max (n x : Nat) : decN n x ≤ max x 3 := by
  induction n generalizing x with
  | zero => simp [decN]; omega
  | succ n ih =>
    have h1 := ih (dec x)
    have h2 := dec_le_max x
    simp only [decN]; omega

theorem decN_add (m n x : Nat) : decN (m + n) x = decN n (decN m x) := by
  induction m generalizing x with
  | zero => simp [decN]
  | succ m ih => rw [Nat.succ_add]; simp only [decN]; exact ih _

/-- `n ≥ m` iterations contract at least as far as `m` iterations, up to the floor 3. -/
theorem decN_ge (m n x : Nat) (h : m ≤ n) : decN n x ≤ max (decN m x) 3 := by
  obtain ⟨j, rfl⟩ : ∃ j, n = m + j := ⟨n - m, by omega⟩
  rw [decN_add]; exact decN_le_max _ _

theorem rr_zero (v : Int) (h : -1024 ≤ v ∧ v ≤ 1023) : rshiftRound v 11 = 0 := by
  unfold rshiftRound; simp; omega

/-- One pair of zero samples: both states contract; when both are at most 800 the outputs are zero
    (`|out1| + |out2| ≤ (0.371 + 0.836)·800 < 1024`, which the rounding `>> 11` takes to 0). -/
theorem anaStep_zero (s : Int × Int) (a : Nat) (ha : (a : Int) ≤ stB) (hs : AbsLe s a) :
    AbsLe (anaStep s 0 0).1 (dec a : Nat) ∧ (a ≤ 800 → (anaStep s 0 0).2 = (0, 0)) := by
  have hb : AbsLe s stB := by unfold AbsLe stB at *; omega
  have h := (anaStep_spec s 0 0 hb (by unfold I16; omega) (by unfold I16; omega)).1
  rw [h]
  clear h hb
  unfold AbsLe stB dec at *
  dsimp only at *
  refine ⟨by omega, ?_⟩
  intro h8
  have h8' : (a : Int) ≤ 800 := by omega
  rw [rr_zero _ (by omega), rr_zero _ (by omega)]; rfl

/-- `2n` zero samples: the states contract `n` times; from states at most 800 both outputs are zero. -/
theorem anaFilt_zero (n : Nat) (s : Int × Int) (a : Nat) (ha : (a : Int) ≤ stB) (hs : AbsLe s a) :
    AbsLe (anaFilt s (List.replicate (2 * n) 0)).1 (decN n a : Nat) ∧
    (a ≤ 800 → (anaFilt s (List.replicate (2 * n) 0)).2 = (List.replicate n 0, List.replicate n 0)) := by
  induction n generalizing s a with
  | zero => simp [anaFilt, decN]; exact hs
  | succ n ih =>
    have hrep : List.replicate (2 * (n + 1)) (0 : Int) = 0 :: 0 :: List.replicate (2 * n) 0 := by
      rw [show 2 * (n + 1) = (2 * n + 1) + 1 by omega, List.replicate_succ, List.replicate_succ]
    rw [hrep]
    have h1 := anaStep_zero s a ha hs
    have hda : ((dec a : Nat) : Int) ≤ stB := by
      have := dec_le_max a
      unfold stB at *; omega
    have h2 := ih (anaStep s 0 0).1 (dec a) hda h1.1
    simp only [anaFilt, decN]
    refine ⟨h2.1, ?_⟩
    intro h8
    have hd8 : dec a ≤ 800 := by unfold dec; omega
    rw [h1.2 h8, (h2.2 hd8)]
    simp [List.replicate_succ]

end Opus.SilkVad
