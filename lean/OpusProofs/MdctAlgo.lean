import OpusProofs.MdctDct4
import OpusProofs.MdctWindow
/-
  OpusProofs.MdctAlgo — clt_mdct_forward_c (celt/mdct.c:122-264) as definitions over ℝ, and the proof that it
  computes the textbook MDCT (`Opus.MdctR.mdct`, the object of the TDAC theorems) of the windowed block.

  `foldR` / `forwardR` are the real-number twins of `Opus.Mdct.foldAt` / `Opus.Mdct.forward` (lean/OpusModel/Mdct.lean,
  the Float model that `Driver/DelayMain.lean` compares with the compiled C function): same index expressions, same
  three fold loops, same pre-rotation, the N/4-point complex FFT as the DFT it computes (`dftRe`/`dftIm`; the kiss_fft
  butterflies are tied numerically by the harness), same post-rotation and output interleaving.

  Main result  `forward_eq_mdct` : for every transform size N = 4Q, every overlap = 4q ≤ N/2, every window table, every
  input and every scale factor,   clt_mdct_forward(in)[m] = scale · MDCT(block)[m]   for all m < N/2, where `block` is
  the (N/2 + overlap)-sample input placed at offset (N/2 − overlap)/2 of a block of N samples and multiplied by the
  zero / rise / one / fall / zero window (`blockR`).  (The C code needs 4 | overlap: for other values its third fold
  loop reads in[-1]; CELT modes always have overlap ≡ 0 mod 4.)
-/
namespace Opus.MdctAlgo
open Finset Real Opus.MdctR Opus.MdctWindow

/-- The fold of clt_mdct_forward_c (celt/mdct.c:155-196), complex point `i < N4` as (re, im); twin of
    `Opus.Mdct.foldAt`. -/
noncomputable def foldR (inp w : ℕ → ℝ) (N2 N4 overlap i : ℕ) : ℝ × ℝ :=
  let ov2 := overlap / 2            -- overlap>>1
  let q := (overlap + 3) / 4        -- (overlap+3)>>2
  let xp1 := ov2 + 2 * i            -- in+(overlap>>1), += 2
  let xp2 := N2 - 1 + ov2 - 2 * i   -- in+N2-1+(overlap>>1), -= 2
  if i < q then
    -- first loop (mdct.c:164-173)
    let wp1 := ov2 + 2 * i
    let wp2 := ov2 - 1 - 2 * i
    (inp (xp1 + N2) * w wp2 + inp xp2 * w wp1, inp xp1 * w wp1 - inp (xp2 - N2) * w wp2)
  else if i < N4 - q then
    -- second loop (mdct.c:176-183)
    (inp xp2, inp xp1)
  else
    -- third loop (mdct.c:184-193)
    let j := i - max q (N4 - q)
    let wp1 := 2 * j
    let wp2 := overlap - 1 - 2 * j
    (inp xp2 * w wp2 - inp (xp1 - N2) * w wp1, inp xp1 * w wp2 + inp (xp2 + N2) * w wp1)

/-- clt_mdct_forward_c for transform size `N`, stride 1: output coefficient `m < N/2`; twin of `Opus.Mdct.forward`. -/
noncomputable def forwardR (N overlap : ℕ) (w inp : ℕ → ℝ) (scale : ℝ) (m : ℕ) : ℝ :=
  let N2 := N / 2
  let N4 := N / 4
  let re := fun i => (foldR inp w N2 N4 overlap i).1
  let im := fun i => (foldR inp w N2 N4 overlap i).2
  -- pre-rotation (mdct.c:199-232)
  let yr := fun i => (re i * trigR N i - im i * trigR N (N4 + i)) * scale
  let yi := fun i => (im i * trigR N i + re i * trigR N (N4 + i)) * scale
  -- N/4-point complex FFT
  let fr := dftRe N4 yr yi
  let fi := dftIm N4 yr yi
  -- post-rotation (mdct.c:238-263): yp1 = out (+= 2), yp2 = out+N2-1 (-= 2)
  if m % 2 = 0 then
    fi (m / 2) * trigR N (N4 + m / 2) - fr (m / 2) * trigR N (m / 2)
  else
    fr ((N2 - 1 - m) / 2) * trigR N (N4 + (N2 - 1 - m) / 2) + fi ((N2 - 1 - m) / 2) * trigR N ((N2 - 1 - m) / 2)

/-- The `2M`-sample block the `(M + overlap)`-sample input stands for (`M = N/2`): the input sits at offset
    `z = (M − overlap)/2` and is multiplied by the low-overlap window (`Opus.MdctWindow.extWindow`); twin of the block
    inside `Opus.Mdct.celtForwardDirect`. -/
noncomputable def blockR (M overlap : ℕ) (w inp : ℕ → ℝ) (n : ℕ) : ℝ :=
  if n < (M - overlap) / 2 ∨ 2 * M - (M - overlap) / 2 ≤ n then 0
  else extWindow M overlap w n * inp (n - (M - overlap) / 2)

theorem blockR_eq_mul {M ov z : ℕ} (w inp : ℕ → ℝ) (hz : M = ov + 2 * z) (n : ℕ) :
    blockR M ov w inp n = extWindow M ov w n * inp (n - z) := by
  unfold blockR
  rw [half_gap hz]
  by_cases c : n < z ∨ 2 * M - z ≤ n
  · rw [if_pos c, c.elim (extWindow_lo w hz) (fun c => extWindow_hi w hz (by omega)), zero_mul]
  · rw [if_neg c]

/-! ### the block in buffer coordinates (`M = 2Q`, `overlap = 4q`, block position `n = z + j`) -/

section regions
variable {Q q z : ℕ} (w inp : ℕ → ℝ) (hz : 2 * Q = 4 * q + 2 * z)
include hz

theorem block_zero {n : ℕ} (h : n < z ∨ z + (2 * Q + 4 * q) ≤ n) : blockR (2 * Q) (4 * q) w inp n = 0 := by
  rw [blockR_eq_mul w inp hz, h.elim (extWindow_lo w hz) (extWindow_hi w hz), zero_mul]

theorem block_rise {n j : ℕ} (hn : n = z + j) (hj : j < 4 * q) : blockR (2 * Q) (4 * q) w inp n = w j * inp j := by
  rw [blockR_eq_mul w inp hz, extWindow_rise w hz hn hj, hn, Nat.add_sub_cancel_left]

theorem block_flat {n j : ℕ} (hn : n = z + j) (h1 : 4 * q ≤ j) (h2 : j < 2 * Q) :
    blockR (2 * Q) (4 * q) w inp n = inp j := by
  rw [blockR_eq_mul w inp hz, extWindow_flat w hz hn h1 h2, hn, Nat.add_sub_cancel_left, one_mul]

theorem block_fall {n j k : ℕ} (hn : n = z + (j + 2 * Q)) (hk : j + k + 1 = 4 * q) :
    blockR (2 * Q) (4 * q) w inp n = w k * inp (j + 2 * Q) := by
  rw [blockR_eq_mul w inp hz, extWindow_fall w hz (j := j) (by omega) hk, hn, Nat.add_sub_cancel_left]

end regions

/-! ### the three fold loops

  Indices are written with the reflected counters `e = Q − 1 − i` and `d = q − 1 − i` resp. `q − 1 − e`, which makes every
  subscript a sum. -/

theorem ov_half (q : ℕ) : 4 * q / 2 = 2 * q := by omega
theorem ov_quarter (q : ℕ) : (4 * q + 3) / 4 = q := by omega

section fold
variable {Q q z : ℕ} (w inp : ℕ → ℝ) (hz : 2 * Q = 4 * q + 2 * z)

include hz in
theorem foldR_first {i d : ℕ} (hd : i + d + 1 = q) :
    foldR inp w (2 * Q) Q (4 * q) i
      = (inp (2 * q + 2 * i + 2 * Q) * w (2 * d + 1) + inp (2 * d + 1 + 2 * Q) * w (2 * q + 2 * i),
         inp (2 * q + 2 * i) * w (2 * q + 2 * i) - inp (2 * d + 1) * w (2 * d + 1)) := by
  have a1 : 2 * q - 1 - 2 * i = 2 * d + 1 := by omega
  have a2 : 2 * Q - 1 + 2 * q - 2 * i = 2 * d + 1 + 2 * Q := by omega
  unfold foldR
  simp only [ov_half, ov_quarter, a1, a2, Nat.add_sub_cancel]
  rw [if_pos (by omega)]

theorem foldR_mid {i e : ℕ} (he : i + e + 1 = Q) (hi : q ≤ i) (hq : q ≤ e) :
    foldR inp w (2 * Q) Q (4 * q) i = (inp (2 * q + 2 * e + 1), inp (2 * q + 2 * i)) := by
  have a2 : 2 * Q - 1 + 2 * q - 2 * i = 2 * q + 2 * e + 1 := by omega
  unfold foldR
  simp only [ov_half, ov_quarter, a2]
  rw [if_neg (by omega), if_pos (by omega)]

include hz in
theorem foldR_last {i e d : ℕ} (he : i + e + 1 = Q) (hd : e + d + 1 = q) :
    foldR inp w (2 * Q) Q (4 * q) i
      = (inp (2 * q + 2 * e + 1) * w (2 * q + 2 * e + 1) - inp (2 * d) * w (2 * d),
         inp (2 * d + 2 * Q) * w (2 * q + 2 * e + 1) + inp (2 * q + 2 * e + 1 + 2 * Q) * w (2 * d)) := by
  have a0 : i - max q (Q - q) = d := by omega
  have a1 : 4 * q - 1 - 2 * d = 2 * q + 2 * e + 1 := by omega
  have a2 : 2 * Q - 1 + 2 * q - 2 * i = 2 * q + 2 * e + 1 := by omega
  have a3 : 2 * q + 2 * i = 2 * d + 2 * Q := by omega
  unfold foldR
  simp only [ov_half, ov_quarter, a0, a1, a2, a3, Nat.add_sub_cancel]
  rw [if_neg (by omega), if_neg (by omega)]

include hz in
/-- The code's fold is the (negated) time-domain-aliased block: `re_i = −u(2i)`, `im_i = −u(M − 1 − 2i)`. -/
theorem fold_eq {i e : ℕ} (he : i + e + 1 = Q) :
    foldR inp w (2 * Q) Q (4 * q) i
      = (- tdaFold Q (blockR (2 * Q) (4 * q) w inp) (2 * i), - tdaFold Q (blockR (2 * Q) (4 * q) w inp) (2 * e + 1)) := by
  unfold tdaFold
  by_cases hA : i < q
  · -- first loop: `u(2i)` reads the two falling, `u(2e+1)` the two rising cross-fade samples
    obtain ⟨d, hd⟩ : ∃ d, i + d + 1 = q := ⟨q - 1 - i, by omega⟩
    rw [foldR_first w inp hz hd, if_pos (by omega), if_neg (by omega),
      block_fall w inp hz (n := 3 * Q - 1 - 2 * i) (j := 2 * d + 1) (k := 2 * q + 2 * i) (by omega) (by omega),
      block_fall w inp hz (n := 3 * Q + 2 * i) (j := 2 * q + 2 * i) (k := 2 * d + 1) (by omega) (by omega),
      block_rise w inp hz (n := 2 * e + 1 - Q) (j := 2 * d + 1) (by omega) (by omega),
      block_rise w inp hz (n := 3 * Q - 1 - (2 * e + 1)) (j := 2 * q + 2 * i) (by omega) (by omega)]
    congr 1 <;> ring
  · by_cases hB : e < q
    · -- third loop: the mirror image of the first
      obtain ⟨d, hd⟩ : ∃ d, e + d + 1 = q := ⟨q - 1 - e, by omega⟩
      rw [foldR_last w inp hz he hd, if_neg (by omega), if_pos (by omega),
        block_rise w inp hz (n := 2 * i - Q) (j := 2 * d) (by omega) (by omega),
        block_rise w inp hz (n := 3 * Q - 1 - 2 * i) (j := 2 * q + 2 * e + 1) (by omega) (by omega),
        block_fall w inp hz (n := 3 * Q - 1 - (2 * e + 1)) (j := 2 * d) (k := 2 * q + 2 * e + 1) (by omega) (by omega),
        block_fall w inp hz (n := 3 * Q + (2 * e + 1)) (j := 2 * q + 2 * e + 1) (k := 2 * d) (by omega) (by omega)]
      congr 1 <;> ring
    · -- second loop: one sample under the flat part of the window, its alias outside the buffer
      rw [foldR_mid w inp he (by omega) (by omega),
        block_flat w inp hz (n := 3 * Q - 1 - 2 * i) (j := 2 * q + 2 * e + 1) (by omega) (by omega) (by omega),
        block_flat w inp hz (n := 3 * Q - 1 - (2 * e + 1)) (j := 2 * q + 2 * i) (by omega) (by omega) (by omega)]
      by_cases hh : 2 * i < Q
      · rw [if_pos hh, if_neg (by omega), block_zero w inp hz (n := 3 * Q + 2 * i) (by omega),
          block_zero w inp hz (n := 2 * e + 1 - Q) (by omega)]
        congr 1 <;> ring
      · rw [if_neg hh, if_pos (by omega), block_zero w inp hz (n := 2 * i - Q) (by omega),
          block_zero w inp hz (n := 3 * Q + (2 * e + 1)) (by omega)]
        congr 1 <;> ring

end fold

/-- **clt_mdct_forward_c computes the MDCT.**  For every `N = 4Q`, overlap `4q ≤ N/2`, window, input and scale. -/
theorem forward_eq_mdct (Q q : ℕ) (hQ : 0 < Q) (hq : 2 * q ≤ Q) (w inp : ℕ → ℝ) (scale : ℝ) (m : ℕ) (hm : m < 2 * Q) :
    forwardR (4 * Q) (4 * q) w inp scale m = scale * mdct (2 * Q) (blockR (2 * Q) (4 * q) w inp) m := by
  obtain ⟨z, hz⟩ : ∃ z, 2 * Q = 4 * q + 2 * z := ⟨Q - 2 * q, by omega⟩
  rw [mdct_eq_dct4 Q hQ]
  set u := tdaFold Q (blockR (2 * Q) (4 * q) w inp)
  -- the code's fold is the (negated) folded block
  have hfold : ∀ i ∈ range Q, (foldR inp w (2 * Q) Q (4 * q) i).1 = - u (2 * i) ∧
      (foldR inp w (2 * Q) Q (4 * q) i).2 = - u (2 * Q - 1 - 2 * i) := by
    intro i hi
    have hi' : i < Q := mem_range.mp hi
    have h := fold_eq w inp hz (i := i) (e := Q - 1 - i) (by omega)
    rw [show 2 * (Q - 1 - i) + 1 = 2 * Q - 1 - 2 * i by omega] at h
    rw [h]; exact ⟨rfl, rfl⟩
  have e2 : 4 * Q / 2 = 2 * Q := by omega
  have e4 : 4 * Q / 4 = Q := by omega
  unfold forwardR
  -- the DFT is linear: `scale` leaves the transform, `rot_core_*` is applied to the fold itself
  simp only [e2, e4, dftRe_smul, dftIm_smul]
  by_cases hpar : m % 2 = 0
  · rw [if_pos hpar]
    obtain ⟨p, rfl⟩ : ∃ p, m = 2 * p := ⟨m / 2, by omega⟩
    rw [show 2 * p / 2 = p by omega, dct4_even Q hQ u p]
    have core := rot_core_re Q hQ (fun i => (foldR inp w (2 * Q) Q (4 * q) i).1) (fun i => (foldR inp w (2 * Q) Q (4 * q) i).2) p
    rw [sum_congr rfl fun i hi => by rw [(hfold i hi).1, (hfold i hi).2, neg_mul, neg_mul, ← neg_add], sum_neg_distrib,
      ← neg_eq_iff_eq_neg] at core
    rw [← core]; ring
  · rw [if_neg hpar]
    obtain ⟨p, hp⟩ : ∃ p, m + 2 * p + 1 = 2 * Q := ⟨(2 * Q - 1 - m) / 2, by omega⟩
    rw [show (2 * Q - 1 - m) / 2 = p by omega]
    have core := rot_core_im Q hQ (fun i => (foldR inp w (2 * Q) Q (4 * q) i).1) (fun i => (foldR inp w (2 * Q) Q (4 * q) i).2) p
    rw [sum_congr rfl fun i hi => by rw [(hfold i hi).1, (hfold i hi).2, neg_mul, neg_mul, ← neg_sub'], sum_neg_distrib,
      ← dct4_odd Q hQ u p m hp, neg_neg] at core
    rw [← core]; ring

end Opus.MdctAlgo
