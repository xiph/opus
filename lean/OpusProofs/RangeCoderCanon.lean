import OpusProofs.RangeCoderRoundTrip
/-
  OpusProofs.RangeCoderCanon — C08: two representations of a pending first digit 0xFF.

  `ec_enc_carry_out` buffers a digit 0xFF by counting it in `ext`; `ec_enc_patch_initial_bits` may turn the digit
  held in `rem` into 0xFF (`rem = 255`, a value `ec_enc_carry_out` itself only produces together with a carry).
  Both states mean the same digits.  `canon` maps the second representation to the first; every encoder
  function except `ec_enc_patch_initial_bits` commutes with it up to `canon` (`Near`), so two runs from `canon`-equal
  states stay `canon`-equal and `ec_enc_done` produces the same bytes.
-/
namespace Opus.RangeCoder

def canon (c : Enc) : Enc := if c.rem = 255 then { c with rem := -1, ext := u32 (c.ext + 1) } else c

/-- `b` is `a` or its canonical form -/
def Near (a b : Enc) : Prop := b = a ∨ b = canon a

theorem canon_idem (c : Enc) : canon (canon c) = canon c := by
  by_cases h : c.rem = 255
  · have : canon c = { c with rem := -1, ext := u32 (c.ext + 1) } := by unfold canon; rw [if_pos h]
    rw [this]; unfold canon; rw [if_neg (by simp)]
  · have : canon c = c := by unfold canon; rw [if_neg h]
    rw [this, this]

theorem Near.canon_eq {a b : Enc} (h : Near a b) : canon b = canon a := by
  rcases h with rfl | rfl
  · rfl
  · exact canon_idem a

theorem canon_of_ne {c : Enc} (h : c.rem ≠ 255) : canon c = c := by unfold canon; rw [if_neg h]

section fields
variable (c : Enc)
@[simp] theorem canon_buf : (canon c).buf = c.buf := by unfold canon; split <;> rfl
@[simp] theorem canon_storage : (canon c).storage = c.storage := by unfold canon; split <;> rfl
@[simp] theorem canon_endOffs : (canon c).endOffs = c.endOffs := by unfold canon; split <;> rfl
@[simp] theorem canon_endWindow : (canon c).endWindow = c.endWindow := by unfold canon; split <;> rfl
@[simp] theorem canon_nendBits : (canon c).nendBits = c.nendBits := by unfold canon; split <;> rfl
@[simp] theorem canon_nbitsTotal : (canon c).nbitsTotal = c.nbitsTotal := by unfold canon; split <;> rfl
@[simp] theorem canon_offs : (canon c).offs = c.offs := by unfold canon; split <;> rfl
@[simp] theorem canon_rng : (canon c).rng = c.rng := by unfold canon; split <;> rfl
@[simp] theorem canon_val : (canon c).val = c.val := by unfold canon; split <;> rfl
@[simp] theorem canon_error : (canon c).error = c.error := by unfold canon; split <;> rfl
end fields

/-- updates of fields other than `rem`, `ext` commute with `canon` -/
theorem canon_with_vr (c : Enc) (v r : Nat) :
    canon { c with val := v, rng := r } = { canon c with val := v, rng := r } := by
  unfold canon; split <;> rfl
theorem canon_with_r (c : Enc) (r : Nat) : canon { c with rng := r } = { canon c with rng := r } := by
  unfold canon; split <;> rfl
theorem canon_with_vrn (c : Enc) (v r n : Nat) :
    canon { c with val := v, rng := r, nbitsTotal := n } = { canon c with val := v, rng := r, nbitsTotal := n } := by
  unfold canon; split <;> rfl

theorem writeByte_with_rem_ext (c : Enc) (x : Int) (y v : Nat) :
    writeByte { c with rem := x, ext := y } v = { writeByte c v with rem := x, ext := y } := by
  unfold writeByte; split <;> rfl

theorem writeByte_with_rem (c : Enc) (x : Int) (v : Nat) :
    writeByte { c with rem := x } v = { writeByte c v with rem := x } := by
  unfold writeByte; split <;> rfl

theorem writeByte_mod (c : Enc) (v : Nat) : writeByte c (v % 256) = writeByte c v := by
  unfold writeByte; split
  · rfl
  · rw [Nat.mod_mod]

theorem carryOut_255 (c : Enc) : carryOut c 255 = { c with ext := u32 (c.ext + 1) } := by
  unfold carryOut; rw [if_neg (by decide)]

theorem writes_with_rem (r : Int) : ∀ (l : List Nat) (c : Enc), writes { c with rem := r } l = { writes c l with rem := r }
  | [], _ => rfl
  | b :: l, c => by rw [writes, writes, writeByte_with_rem]; exact writes_with_rem r l _

theorem writes_with_rem_ext (r : Int) (e : Nat) : ∀ (l : List Nat) (c : Enc),
    writes { c with rem := r, ext := e } l = { writes c l with rem := r, ext := e }
  | [], _ => rfl
  | b :: l, c => by rw [writes, writes, writeByte_with_rem_ext]; exact writes_with_rem_ext r e l _

theorem writes_mod (c : Enc) (v : Nat) (l : List Nat) : writes c (v % 256 :: l) = writes c (v :: l) := by
  rw [writes, writes, writeByte_mod]

theorem canon_255 (c : Enc) (hrem : c.rem = 255) (hext : c.ext + 1 < 4294967296) :
    canon c = { c with rem := -1, ext := c.ext + 1 } := by
  unfold canon; rw [if_pos hrem]
  have : u32 (c.ext + 1) = c.ext + 1 := Nat.mod_eq_of_lt hext
  rw [this]

/-- with a pending 0xFF in `rem`, a carry-out gives the same state from both representations, up to
    `canon` when the digit carried out is another 0xFF -/
theorem carryOut_canon (c : Enc) (cc : Nat) (hrem : c.rem = 255) (hext : c.ext + 1 < 4294967296) :
    carryOut (canon c) cc = if cc = 255 then canon (carryOut c cc) else carryOut c cc := by
  have hc := canon_255 c hrem hext
  by_cases h255 : cc = 255
  · rw [if_pos h255]
    subst h255
    rw [carryOut_255, carryOut_255]
    unfold canon
    rw [if_pos hrem, if_pos (show ({ c with ext := u32 (c.ext + 1) } : Enc).rem = 255 from hrem)]
  · -- both representations have the same pending bytes
    have hp : pend { c with rem := -1, ext := c.ext + 1 } (cc / 256) =
        (255 + cc / 256) % 256 :: List.replicate c.ext ((255 + cc / 256) % 256) := by
      unfold pend; rw [if_neg (by show ¬ ((-1 : Int) ≥ 0); decide)]; rfl
    have hq : pend c (cc / 256) = (255 + cc / 256) :: List.replicate c.ext ((255 + cc / 256) % 256) := by
      unfold pend; rw [if_pos (by omega), show c.rem.toNat = 255 by omega]; rfl
    rw [if_neg h255, carryOut_eq_writes _ _ h255, carryOut_eq_writes _ _ h255, hc, hp, hq,
      writes_with_rem_ext (-1) (c.ext + 1) _ c, writes_mod]

theorem carryOut_near (c : Enc) (cc : Nat) (hext : c.ext + 1 < 4294967296) :
    Near (carryOut c cc) (carryOut (canon c) cc) := by
  by_cases hrem : c.rem = 255
  · rw [carryOut_canon c cc hrem hext]
    split
    · exact Or.inr rfl
    · exact Or.inl rfl
  · rw [canon_of_ne hrem]; exact Or.inl rfl

/-- the `ext` counter is bounded through `nbits_total` (8 bits per buffered digit) -/
def ExtB (c : Enc) : Prop := 8 * c.ext + 33 ≤ c.nbitsTotal

theorem carryOut_ext_le (c : Enc) (cc : Nat) : (carryOut c cc).ext ≤ c.ext + 1 := by
  by_cases h : cc = 255
  · subst h; rw [carryOut_255]; exact Nat.le_trans (Nat.mod_le _ _) (Nat.le_refl _)
  · rw [carryOut_eq_writes _ _ h]; exact Nat.zero_le _

theorem extB_normStep (c : Enc) (h : ExtB c) : ExtB (normStep c) := by
  unfold ExtB at h ⊢
  have := carryOut_ext_le c (c.val / 8388608)
  show 8 * (carryOut c (c.val / 8388608)).ext + 33 ≤ c.nbitsTotal + 8
  omega

theorem normStep_near (c : Enc) (hext : c.ext + 1 < 4294967296) : Near (normStep c) (normStep (canon c)) := by
  unfold normStep
  rw [canon_val, canon_rng, canon_nbitsTotal]
  rcases carryOut_near c (c.val / 8388608) hext with h | h
  · rw [h]; exact Or.inl rfl
  · rw [h, ← canon_with_vrn]; exact Or.inr rfl

/-- (Two normalisations side by side and no error hypothesis: not an instance of `encNormalize_ind`.) -/
theorem encNormalize_near (c : Enc) (hB : ExtB c) (hn : (encNormalize c).nbitsTotal < 4294967296) :
    Near (encNormalize c) (encNormalize (canon c)) := by
  induction hm : 8388609 - c.rng using Nat.strongRecOn generalizing c with
  | _ m ih =>
    by_cases hc : 0 < c.rng ∧ c.rng ≤ 8388608
    · have hc' : 0 < (canon c).rng ∧ (canon c).rng ≤ 8388608 := by rw [canon_rng]; exact hc
      rw [encNormalize_step c hc] at hn ⊢
      rw [encNormalize_step (canon c) hc']
      have hnb := encNormalize_nbits_ge (normStep c)
      have hnb2 : (normStep c).nbitsTotal = c.nbitsTotal + 8 := rfl
      have hext : c.ext + 1 < 4294967296 := by unfold ExtB at hB; omega
      have hr : (normStep c).rng = u32 (c.rng * 256) := rfl
      have hr2 : u32 (c.rng * 256) = c.rng * 256 := Nat.mod_eq_of_lt (by omega)
      rcases normStep_near c hext with h | h
      · rw [h]; exact Or.inl rfl
      · rw [h]
        exact ih (8388609 - (normStep c).rng) (by rw [hr, hr2]; omega) (normStep c) (extB_normStep c hB) hn rfl
    · have hc' : ¬ (0 < (canon c).rng ∧ (canon c).rng ≤ 8388608) := by rw [canon_rng]; exact hc
      rw [encNormalize_done c hc, encNormalize_done (canon c) hc']
      exact Or.inr rfl

theorem canon_setVR (c : Enc) (v r : Nat) : canon (setVR c v r) = setVR (canon c) v r :=
  canon_with_vr c v r

/-- Two calls that normalise the same new `val`, `rng` from a state and from its canonical form. -/
theorem near_of_form {x y c : Enc} {v r : Nat} (hB : ExtB c) (hx : x = encNormalize (setVR c v r))
    (hy : y = encNormalize (setVR (canon c) v r)) (hn : x.nbitsTotal < 4294967296) : Near x y := by
  subst hx hy
  rw [← canon_setVR]
  exact encNormalize_near _ hB hn

theorem encode_near (c : Enc) (fl fh ft : Nat) (hB : ExtB c) (hn : (encode c fl fh ft).nbitsTotal < 4294967296) :
    Near (encode c fl fh ft) (encode (canon c) fl fh ft) :=
  near_of_form hB (encode_form c fl fh ft) (by rw [encode_form, canon_val, canon_rng]) hn

/-! raw bits do not look at `rem`, `ext` -/

theorem writeByteAtEnd_with_rem_ext (c : Enc) (x : Int) (y v : Nat) :
    writeByteAtEnd { c with rem := x, ext := y } v = { writeByteAtEnd c v with rem := x, ext := y } := by
  unfold writeByteAtEnd; split <;> rfl

theorem encBitsFlush_with_rem_ext (c : Enc) (w u : Nat) (x : Int) (y : Nat) :
    encBitsFlush { c with rem := x, ext := y } w u =
      ({ (encBitsFlush c w u).1 with rem := x, ext := y }, (encBitsFlush c w u).2) := by
  fun_induction encBitsFlush c w u with
  | case1 c w u c1 h ih =>
    rw [encBitsFlush, dif_pos h, writeByteAtEnd_with_rem_ext]
    exact ih
  | case2 c w u c1 h =>
    rw [encBitsFlush, dif_neg h, writeByteAtEnd_with_rem_ext]

theorem encBits_with_rem_ext (c : Enc) (v n : Nat) (x : Int) (y : Nat) :
    encBits { c with rem := x, ext := y } v n = { encBits c v n with rem := x, ext := y } := by
  unfold encBits
  simp only
  by_cases h : c.nendBits + n > 32
  · rw [if_pos h, if_pos h, encBitsFlush_with_rem_ext]
  · rw [if_neg h, if_neg h]

theorem encBits_canon (c : Enc) (v n : Nat) : encBits (canon c) v n = canon (encBits c v n) := by
  by_cases h : c.rem = 255
  · have h1 : canon c = { c with rem := -1, ext := u32 (c.ext + 1) } := by unfold canon; rw [if_pos h]
    have h2 : canon (encBits c v n) = { encBits c v n with rem := -1, ext := u32 ((encBits c v n).ext + 1) } := by
      unfold canon; rw [if_pos (by rw [(encBits_fields c v n).2.2.2.2.2]; exact h)]
    rw [h1, h2, encBits_with_rem_ext, (encBits_fields c v n).2.2.2.2.1]
  · rw [canon_of_ne h, canon_of_ne (by rw [(encBits_fields c v n).2.2.2.2.2]; exact h)]

theorem encShrink_canon (c : Enc) (size : Nat) : encShrink (canon c) size = canon (encShrink c size) := by
  unfold encShrink
  by_cases h : c.rem = 255
  · unfold canon
    rw [if_pos h, if_pos (show ({ c with buf := _, storage := size } : Enc).rem = 255 from h)]
  · rw [canon_of_ne h, canon_of_ne (show ({ c with buf := _, storage := size } : Enc).rem ≠ 255 from h)]

theorem encUint_near (c : Enc) (v ft : Nat) (hB : ExtB c) (hn : (encUint c v ft).nbitsTotal < 4294967296) :
    Near (encUint c v ft) (encUint (canon c) v ft) := by
  unfold encUint at hn ⊢
  simp only at hn ⊢
  by_cases h : ilog (ft - 1) > 8
  · simp only [if_pos h] at hn ⊢
    have hn1 : (encode c (v / 2 ^ (ilog (ft - 1) - 8)) (v / 2 ^ (ilog (ft - 1) - 8) + 1)
        ((ft - 1) / 2 ^ (ilog (ft - 1) - 8) + 1)).nbitsTotal < 4294967296 := by
      have := (encBits_rn (encode c (v / 2 ^ (ilog (ft - 1) - 8)) (v / 2 ^ (ilog (ft - 1) - 8) + 1)
        ((ft - 1) / 2 ^ (ilog (ft - 1) - 8) + 1)) (v % 2 ^ (ilog (ft - 1) - 8)) (ilog (ft - 1) - 8)).2
      omega
    rcases encode_near c _ _ _ hB hn1 with e | e
    · rw [e]; exact Or.inl rfl
    · rw [e, encBits_canon]; exact Or.inr rfl
  · simp only [if_neg h] at hn ⊢
    exact encode_near c _ _ _ hB hn

/-- Every operation except the patch commutes with `canon` up to `canon`. -/
theorem encOp_near (c : Enc) (op : Op) (hp : ∀ v n, op ≠ .patchInitial v n) (hB : ExtB c)
    (hn : (encOp c op).nbitsTotal < 4294967296) : Near (encOp c op) (encOp (canon c) op) := by
  cases op with
  | encode fl fh ft => exact encode_near c fl fh ft hB hn
  | encodeBin fl fh nb =>
    exact near_of_form hB (encodeBin_form c fl fh nb) (by rw [encOp, encodeBin_form, canon_val, canon_rng]) hn
  | bitLogp v logp =>
    exact near_of_form hB (encBitLogp_form c v logp) (by rw [encOp, encBitLogp_form, canon_val, canon_rng]) hn
  | icdf s tbl ftb => exact near_of_form hB (encIcdf_form c s tbl ftb) (by rw [encOp, encIcdf_form, canon_val, canon_rng]) hn
  | icdf16 s tbl ftb =>
    exact near_of_form hB (encIcdf_form c s tbl ftb) (by rw [encOp, encIcdf16, encIcdf_form, canon_val, canon_rng]) hn
  | uint v ft => exact encUint_near c v ft hB hn
  | bits v k => exact Or.inr (encBits_canon c v k)
  | patchInitial v k => exact absurd rfl (hp v k)
  | shrink size => exact Or.inr (encShrink_canon c size)

theorem encDoneOut_near : ∀ (n : Nat) (c : Enc) (e : Nat) (l : Int), l.toNat ≤ n → c.ext + n + 1 < 4294967296 →
    Near (encDoneOut c e l).1 (encDoneOut (canon c) e l).1 ∧ (encDoneOut (canon c) e l).2 = (encDoneOut c e l).2 ∧
    (encDoneOut c e l).1.ext ≤ c.ext + n
  | 0, c, e, l, hl, _ => by
    have h : ¬ l > 0 := by omega
    rw [encDoneOut_nonpos _ _ _ h, encDoneOut_nonpos _ _ _ h]
    exact ⟨Or.inr rfl, rfl, Nat.le_refl _⟩
  | n + 1, c, e, l, hl, hb => by
    by_cases h : l > 0
    · rw [encDoneOut_pos _ _ _ h, encDoneOut_pos _ _ _ h]
      have hle := carryOut_ext_le c (e / 8388608)
      obtain ⟨i1, i2, i3⟩ := encDoneOut_near n (carryOut c (e / 8388608)) (e * 256 % 2147483648) (l - 8) (by omega) (by omega)
      rcases carryOut_near c (e / 8388608) (by omega) with h1 | h1
      · rw [h1]; exact ⟨Or.inl rfl, rfl, by omega⟩
      · rw [h1]; exact ⟨i1, i2, by omega⟩
    · rw [encDoneOut_nonpos _ _ _ h, encDoneOut_nonpos _ _ _ h]
      exact ⟨Or.inr rfl, rfl, by show c.ext ≤ _; omega⟩

theorem encDoneEnd_canon (c : Enc) : encDoneEnd (canon c) = encDoneEnd c := by
  unfold encDoneEnd
  rw [canon_rng, canon_val]

theorem encDoneEnd_le (c : Enc) : (encDoneEnd c).1.toNat ≤ 33 := by
  unfold encDoneEnd
  simp only
  split <;> simp only <;> omega

/-- the flush at the end of the range part gives the same state from both representations -/
theorem doneFlush_canon (c : Enc) (hext : c.ext + 1 < 4294967296) :
    (if (canon c).rem ≥ 0 ∨ (canon c).ext > 0 then carryOut (canon c) 0 else canon c) =
      (if c.rem ≥ 0 ∨ c.ext > 0 then carryOut c 0 else c) := by
  by_cases hrem : c.rem = 255
  · have hc := canon_255 c hrem hext
    have h1 : (canon c).rem ≥ 0 ∨ (canon c).ext > 0 := by
      right; rw [hc]; show c.ext + 1 > 0; omega
    rw [if_pos h1, if_pos (Or.inl (by omega)), carryOut_canon c 0 hrem hext, if_neg (by decide)]
  · rw [canon_of_ne hrem]

theorem doneRange_eq (c : Enc) : doneRange c =
    (if (encDoneOut c (encDoneEnd c).2 (encDoneEnd c).1).1.rem ≥ 0 ∨ (encDoneOut c (encDoneEnd c).2 (encDoneEnd c).1).1.ext > 0
      then carryOut (encDoneOut c (encDoneEnd c).2 (encDoneEnd c).1).1 0 else (encDoneOut c (encDoneEnd c).2 (encDoneEnd c).1).1,
     (encDoneOut c (encDoneEnd c).2 (encDoneEnd c).1).2) := rfl

theorem doneRange_canon (c : Enc) (hext : c.ext + 40 < 4294967296) : doneRange (canon c) = doneRange c := by
  rw [doneRange_eq, doneRange_eq, encDoneEnd_canon]
  obtain ⟨h1, h2, h3⟩ := encDoneOut_near 33 c (encDoneEnd c).2 (encDoneEnd c).1 (encDoneEnd_le c) (by omega)
  rw [h2]
  rcases h1 with h | h
  · rw [h]
  · rw [h, doneFlush_canon _ (by omega)]

theorem encDone_canon (c : Enc) (hext : c.ext + 40 < 4294967296) : encDone (canon c) = encDone c := by
  rw [encDone_eq', encDone_eq', doneRange_canon c hext]

theorem legalAt_not_patch {c : Enc} {op : Op} (h : op.LegalAt c) : ∀ v n, op ≠ .patchInitial v n := by
  intro v n he; subst he; exact h

theorem legalAt_canon_congr {c c' : Enc} {op : Op} (h : canon c = canon c') (hl : op.LegalAt c) : op.LegalAt c' := by
  have e1 : c.offs = c'.offs := by have := congrArg Ctx.offs h; simpa using this
  have e2 : c.endOffs = c'.endOffs := by have := congrArg Ctx.endOffs h; simpa using this
  have e3 : c.storage = c'.storage := by have := congrArg Ctx.storage h; simpa using this
  cases op with
  | shrink size => simp only [Op.LegalAt] at hl ⊢; omega
  | _ => exact hl

/-- Two runs of the same legal operations from `canon`-equal states stay `canon`-equal. -/
theorem run_canon (ops : List Op) : ∀ (c c' : Enc), RunInv c → RunInv c' → canon c = canon c' → LegalRun c ops →
    (encRun c ops).nbitsTotal < 4294967296 → (encRun c ops).error = 0 →
    canon (encRun c ops) = canon (encRun c' ops) ∧ RunInv (encRun c ops) ∧ RunInv (encRun c' ops) ∧ LegalRun c' ops := by
  induction ops with
  | nil => intro c c' ri ri' h _ _ _; exact ⟨h, ri, ri', trivial⟩
  | cons op ops ih =>
    intro c c' ri ri' h hl hn herr
    obtain ⟨hn1, herr1⟩ := encRun_head_ok c op ops hn herr
    have hl' := legalAt_canon_congr h hl.1
    have hrn := encOp_rn c op ⟨ri.inv.rng_lo, ri.inv.rng_hi⟩ (legalAt_legal hl.1)
    have hrn' := encOp_rn c' op ⟨ri'.inv.rng_lo, ri'.inv.rng_hi⟩ (legalAt_legal hl')
    have er : c.rng = c'.rng := by have := congrArg Ctx.rng h; simpa using this
    have en : c.nbitsTotal = c'.nbitsTotal := by have := congrArg Ctx.nbitsTotal h; simpa using this
    rw [← er, ← en, ← hrn] at hrn'
    have hn1' : (encOp c' op).nbitsTotal < 4294967296 := by
      have := (Prod.mk.inj hrn').2; omega
    have k1 := (encOp_near c op (legalAt_not_patch hl.1) ri.inv.ext_bound hn1).canon_eq
    have k2 := (encOp_near c' op (legalAt_not_patch hl') ri'.inv.ext_bound hn1').canon_eq
    have hce : canon (encOp c op) = canon (encOp c' op) := by rw [← k1, ← k2, h]
    have herr1' : (encOp c' op).error = 0 := by
      have := congrArg Ctx.error hce; simp only [canon_error] at this; rw [← this]; exact herr1
    have s1 := step_op c op ri hl.1 hn1 herr1
    have s1' := step_op c' op ri' hl' hn1' herr1'
    obtain ⟨a1, a2, a3, a4⟩ := ih (encOp c op) (encOp c' op) s1.run s1'.run hce hl.2 hn herr
    exact ⟨a1, a2, a3, hl', a4⟩

/-- … and `ec_enc_done` then writes the same bytes. -/
theorem encDone_of_canon_eq {c c' : Enc} (ri : RunInv c) (ri' : RunInv c') (h : canon c = canon c')
    (hn : c.nbitsTotal < 4294967296) : encDone c = encDone c' := by
  have en : c.nbitsTotal = c'.nbitsTotal := by have := congrArg Ctx.nbitsTotal h; simpa using this
  have b1 := ri.inv.ext_bound
  have b2 := ri'.inv.ext_bound
  rw [← encDone_canon c (by omega), ← encDone_canon c' (by omega), h]

end Opus.RangeCoder
