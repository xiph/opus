import OpusProofs.RepackValid
import OpusProofs.ExtCount
/-
  C07 (repacketizer): the extension-gathering loops of `opus_repacketizer_out_range_impl`
  (repacketizer.c:143-189) in closed form.  For every stored packet that overlaps `[begin,end)` the
  extensions its padding carries (`padRefs`: what `opus_packet_extensions_parse` returns, nothing
  when the padding is not a well-formed extension list — C comment at repacketizer.c:172-174) are renumbered
  `frame + i - begin` and kept when that lies in `[0, end-begin)` (C comments at :145-146 and :177-178).  The loops are
  followed under what they use of a stored padding (`PadReads`), which holds as soon as
  `opus_packet_extensions_count` succeeds on it (`PadReads.of_count`, through C16's plain iteration `iterAll`): for
  paddings with extension count 0 (`ExtFree`) and for the paddings of reachable states (`PadsOk`, RepackExtRound).
-/
namespace Opus.RepackProofs
open Opus Opus.Framing Opus.FramingSpec Opus.FramingProofs Opus.Repack Opus.Ext

/-- Every stored padding is free of extensions. -/
def ExtFree (pads : List (Bytes × Nat)) : Prop := ∀ pn ∈ pads, Ext.count pn.1 pn.1.length pn.2 = .ok 0

theorem count_nil (nf : Nat) (h : nf ≤ 48) : Ext.count [] (([] : Bytes).length) nf = .ok 0 :=
  Opus.ExtProofs.count_zeros 0 nf h

/-- The extensions a stored padding carries: the parsed list, or nothing if it does not parse. -/
def padRefs (p : Bytes) (nf : Nat) : List ExtRef :=
  match Ext.count p p.length nf with
  | .ok n => (match Ext.parse p p.length n nf with
              | .ok l => l
              | _ => [])
  | _ => []

open Opus.ExtProofs in
/-- The extensions a padding carries, read off a plain iteration. -/
theorem padRefs_scan {p : Bytes} {nf : Nat} {it : Iter} {l : List ExtRef} {s : Step}
    (hit : iterInit p p.length nf = .ok it) (hall : iterAll it = .ok (l, s)) :
    padRefs p nf = if s = .done then l else [] := by
  unfold padRefs
  rw [count_iterAll hit hall]
  simp only []
  rw [parse_iterAll hit hall l.length (by omega), if_neg (by omega)]
  by_cases hd : s = .done <;> simp only [hd, if_true, if_false]

open Opus.ExtProofs in
theorem padRefs_of_count_zero (p : Bytes) (nf : Nat) (h : Ext.count p p.length nf = .ok 0) : padRefs p nf = [] := by
  obtain ⟨it, l, s, hit, hall, _, hl⟩ := count_ok_scan h
  rw [padRefs_scan hit hall, List.eq_nil_of_length_eq_zero hl]
  split <;> rfl

/-- What the gathering loops need of one stored padding: `opus_packet_extensions_count` succeeds, and with at least
    that capacity `opus_packet_extensions_parse` returns `padRefs` or fails (then `padRefs` is empty). -/
def PadReads (p : Bytes) (nf : Nat) : Prop :=
  ∃ n, Ext.count p p.length nf = .ok n ∧ (padRefs p nf).length ≤ n ∧
    ∀ cap : Int, (n : Int) ≤ cap →
      (Ext.parse p p.length cap nf = .ok (padRefs p nf) ∨
       ((∃ e, Ext.parse p p.length cap nf = .err e) ∧ padRefs p nf = []))

open Opus.ExtProofs in
/-- All the gathering loops need: the count succeeds. -/
theorem PadReads.of_count {p : Bytes} {nf n : Nat} (h : Ext.count p p.length nf = .ok n) : PadReads p nf := by
  obtain ⟨it, l, s, hit, hall, hs, rfl⟩ := count_ok_scan h
  have hpr := padRefs_scan hit hall
  refine ⟨l.length, h, by rw [hpr]; split <;> simp, fun cap hcap => ?_⟩
  rw [parse_iterAll hit hall cap (by omega), if_neg (by omega), hpr]
  rcases hs with rfl | rfl
  · exact Or.inl rfl
  · exact Or.inr ⟨⟨_, rfl⟩, rfl⟩

/-- Number of extensions `opus_packet_extensions_count` reports for a stored padding. -/
def padCount (p : Bytes) (nf : Nat) : Nat :=
  match Ext.count p p.length nf with
  | .ok n => n
  | _ => 0

/-- Sum of the counts over the stored packets that overlap `[begin, …)`. -/
def countSum : List (Bytes × Nat) → Nat → Nat → Nat
  | [], _, _ => 0
  | (p, nf) :: rest, i, b => (if i + nf ≤ b then 0 else padCount p nf) + countSum rest (i + 1) b

/-- The renumbered extensions gathered from the stored paddings, in gathering order. -/
def gathered : List (Bytes × Nat) → Nat → Nat → Nat → List Ext
  | [], _, _, _ => []
  | (p, nf) :: rest, i, b, e =>
    (if i + nf ≤ b then [] else renumber p (padRefs p nf) i b e) ++ gathered rest (i + 1) b e

theorem renumber_length_le (p : Bytes) (refs : List ExtRef) (i b e : Nat) :
    (renumber p refs i b e).length ≤ refs.length := by
  simp only [renumber, List.length_map]
  exact List.length_filter_le _ _

/-- Stored paddings that carry no extension, or are not well-formed extension lists, contribute nothing. -/
theorem gathered_nil (pads : List (Bytes × Nat)) (h : ∀ pn ∈ pads, padRefs pn.1 pn.2 = []) (i b e : Nat) :
    gathered pads i b e = [] := by
  induction pads generalizing i with
  | nil => rfl
  | cons pn rest ih =>
    obtain ⟨p, nf⟩ := pn
    have h0 := h (p, nf) (by simp)
    simp only [gathered]
    simp only [] at h0
    rw [h0, ih (fun x hx => h x (by simp [hx]))]
    simp [renumber]

theorem totalExtCount_spec (pads : List (Bytes × Nat)) (hok : ∀ pn ∈ pads, PadReads pn.1 pn.2) (i b acc : Nat) :
    totalExtCount pads i b acc = .ok (acc + countSum pads i b) := by
  induction pads generalizing i acc with
  | nil => simp [totalExtCount, countSum]
  | cons pn rest ih =>
    obtain ⟨p, nf⟩ := pn
    obtain ⟨n, hn, _⟩ : PadReads p nf := hok (p, nf) (by simp)
    have hr : ∀ pn ∈ rest, PadReads pn.1 pn.2 := fun x hx => hok x (by simp [hx])
    simp only [totalExtCount, countSum]
    split
    · rw [ih hr]; simp
    · rw [hn]; simp only []
      rw [ih hr]
      simp only [padCount, hn]
      congr 1; omega

theorem collectExts_spec (pads : List (Bytes × Nat)) (hok : ∀ pn ∈ pads, PadReads pn.1 pn.2) (i b e total : Nat)
    (all : Array Ext) (hcap : all.size + countSum pads i b ≤ total) :
    collectExts pads i b e total all = .ok (all ++ (gathered pads i b e).toArray) := by
  induction pads generalizing i all with
  | nil => simp [collectExts, gathered]
  | cons pn rest ih =>
    obtain ⟨p, nf⟩ := pn
    obtain ⟨n, hn, hle, hparse⟩ : PadReads p nf := hok (p, nf) (by simp)
    have hr : ∀ pn ∈ rest, PadReads pn.1 pn.2 := fun x hx => hok x (by simp [hx])
    simp only [collectExts, gathered]
    simp only [countSum] at hcap
    split
    · rename_i hskip
      simp only [hskip, if_true] at hcap
      rw [ih hr (i + 1) all (by omega)]
      simp
    · rename_i hskip
      simp only [hskip, if_false] at hcap
      simp only [padCount, hn] at hcap
      have hren := renumber_length_le p (padRefs p nf) i b e
      have hstep : ∀ x : Array Ext, x = all ++ (renumber p (padRefs p nf) i b e).toArray →
          collectExts rest (i + 1) b e total x = .ok (all ++ ((renumber p (padRefs p nf) i b e) ++ gathered rest (i + 1) b e).toArray) := by
        intro x hx
        rw [ih hr (i + 1) x (by rw [hx]; simp; omega), hx]
        simp [Array.append_assoc]
      rcases hparse ((total : Int) - all.size) (by omega) with h | ⟨⟨er, h⟩, hnil⟩
      · rw [h]; simp only []
        exact hstep _ rfl
      · rw [h]; simp only []
        apply hstep
        rw [hnil]; simp [renumber]

theorem gatherExts_spec (pads : List (Bytes × Nat)) (hok : ∀ pn ∈ pads, PadReads pn.1 pn.2) (b e : Nat) (exts : Array Ext) :
    gatherExts pads b e exts = .ok (exts ++ (gathered pads 0 b e).toArray) := by
  unfold gatherExts
  rw [totalExtCount_spec pads hok]
  simp only []
  exact collectExts_spec pads hok 0 b e _ exts (Nat.le_refl _)

end Opus.RepackProofs
