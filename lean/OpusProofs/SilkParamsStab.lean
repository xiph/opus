import OpusProofs.SilkParamsFix
/-
  OpusProofs.SilkParamsStab — silk_NLSF_stabilize establishes its post-condition for every
  int16 input vector and every admissible minimum-distance table.
-/
namespace Opus.SilkParams

/-! ### early exit -/

theorem argMin_spec : ∀ (es : List Int) (m : Int) (I i : Nat),
    (argMin es m I i).1 ≤ m ∧ ∀ e ∈ es, (argMin es m I i).1 ≤ e := by
  intro es
  induction es with
  | nil => intro m I i; simp [argMin]
  | cons e es ih =>
    intro m I i
    unfold argMin
    split
    · have h := ih e i (i + 1)
      exact ⟨by omega, List.forall_mem_cons.mpr h⟩
    · have h := ih m I (i + 1)
      exact ⟨h.1, List.forall_mem_cons.mpr ⟨by omega, h.2⟩⟩

theorem spaced_of_diffs : ∀ (x d : List Int) (p : Int), d.length = x.length + 1 →
    (∀ e ∈ diffsFrom p x d, 0 ≤ e) → SpacedFrom p x d := by
  intro x
  induction x with
  | nil =>
    intro d p h hd
    match d, h with
    | [dL], _ =>
      simp only [diffsFrom, List.mem_singleton, forall_eq] at hd
      simp only [SpacedFrom]; omega
  | cons x0 xs ih =>
    intro d p h hd
    match d, h with
    | d0 :: ds, h =>
      simp only [diffsFrom, List.mem_cons, forall_eq_or_imp] at hd
      simp only [SpacedFrom]
      exact ⟨by omega, ih ds x0 (by simpa using h) hd.2⟩

/-! ### facts about `DeltaOk` -/

theorem DeltaOk_spec : ∀ (n : Nat) (d : List Int) (P : Int), DeltaOk P n d → d.length = n + 1 ∧ P ≤ 32767
  | 0, [dL], P, h => by simp only [DeltaOk] at h; exact ⟨rfl, by omega⟩
  | n + 1, d0 :: ds, P, h => by
    simp only [DeltaOk] at h
    have := DeltaOk_spec n ds (P + d0) h.2
    exact ⟨by simp [this.1], by omega⟩
  | 0, [], _, h | 0, _ :: _ :: _, _, h | _ + 1, [], _, h => by simp [DeltaOk] at h

theorem DeltaOk_of_facts (dL : Int) : ∀ (ds : List Int) (P : Int), (∀ e ∈ ds, 0 ≤ e) → 1 ≤ dL →
    P + sumL ds + dL ≤ 32768 → DeltaOk P ds.length (ds ++ [dL]) := by
  intro ds
  induction ds with
  | nil => intro P _ h1 h2; simp only [sumL] at h2; simp only [List.length_nil, List.nil_append, DeltaOk]; omega
  | cons d ds ih =>
    intro P hpos h1 h2
    simp only [sumL] at h2
    simp only [List.length_cons, List.cons_append, DeltaOk]
    refine ⟨hpos d (by simp), ih (P + d) (fun e he => hpos e (by simp [he])) h1 (by omega)⟩

/-! ### the fallback: sort, forward pass, backward pass -/

/-- Lower bounds established by the forward pass: `y[0] ≥ P + d[0]`, `y[1] ≥ P + d[0] + d[1]`, … -/
def LB (P : Int) : List Int → List Int → Prop
  | [], _ => True
  | y :: ys, d :: ds => P + d ≤ y ∧ LB (P + d) ys ds
  | _ :: _, [] => False

theorem insR_perm (v : Int) : ∀ l : List Int, (insR v l).Perm (v :: l)
  | [] => .refl _
  | a :: as => by
    unfold insR
    split
    · exact ((insR_perm v as).cons a).trans (.swap v a as)
    · exact .refl _

theorem foldl_insR_perm : ∀ x acc : List Int, (x.foldl (fun rev v => insR v rev) acc).Perm (x ++ acc)
  | [], _ => .refl _
  | v :: vs, acc => (foldl_insR_perm vs _).trans (((insR_perm v acc).append_left vs).trans List.perm_middle)

/-- The sort permutes its input.  That its result is ordered is not needed: the two passes after it establish the spacing
    from any int16 vector. -/
theorem insertionSort_perm (x : List Int) : (insertionSort x).Perm x :=
  (List.reverse_perm _).trans (by simpa using foldl_insR_perm x [])

theorem stabFwd_spec : ∀ (xs ds : List Int) (prev P : Int), I16 prev → P ≤ prev → AllI16 xs →
    DeltaOk P xs.length ds →
    (stabFwd prev xs ds).length = xs.length ∧ AllI16 (stabFwd prev xs ds) ∧ LB P (stabFwd prev xs ds) ds := by
  intro xs
  induction xs with
  | nil => intro ds prev P _ _ _ _; simp [stabFwd, LB, AllI16]
  | cons x xs ih =>
    intro ds prev P hprev hP hx hd
    match ds, hd with
    | d :: ds', hd =>
      simp only [List.length_cons, DeltaOk] at hd
      have hle := (DeltaOk_spec _ _ _ hd.2).2
      have hxI : I16 x := hx x (by simp)
      have hsat : I16 (sat16 (prev + d)) := sat16_I16 _
      have hadd : addSat16 prev d = sat16 (prev + d) := by unfold addSat16; exact wrap16_id hsat
      have hsatge : P + d ≤ sat16 (prev + d) := by
        unfold sat16; unfold I16 at hprev
        split
        · omega
        · split <;> omega
      have hmaxI : I16 (max x (sat16 (prev + d))) := by
        unfold I16 at *; omega
      have hy : wrap16 (max x (addSat16 prev d)) = max x (sat16 (prev + d)) := by
        rw [hadd]; exact wrap16_id hmaxI
      have hyge : P + d ≤ max x (sat16 (prev + d)) := by omega
      have ih' := ih ds' (max x (sat16 (prev + d))) (P + d) hmaxI hyge
        (fun e he => hx e (by simp [he])) hd.2
      simp only [stabFwd, hy, List.length_cons, LB]
      exact ⟨by omega, List.forall_mem_cons.mpr ⟨hmaxI, ih'.2.1⟩, hyge, ih'.2.2⟩

theorem stabBwd_spec : ∀ (ys dt : List Int) (y B : Int), 0 ≤ B → B ≤ y → I16 y → AllI16 ys →
    LB B ys dt → DeltaOk B ys.length dt →
    ∃ z zs, stabBwd (y :: ys) dt = z :: zs ∧ zs.length = ys.length ∧ B ≤ z ∧ I16 z ∧ AllI16 zs ∧
      SpacedFrom z zs dt := by
  intro ys
  induction ys with
  | nil =>
    intro dt y B hB hBy hy _ _ hd
    match dt, hd with
    | [dL], hd =>
      simp only [List.length_nil, DeltaOk] at hd
      have hz : I16 (min y (32768 - dL)) := by unfold I16 at *; omega
      refine ⟨min y (32768 - dL), [], ?_, rfl, by omega, hz, by simp [AllI16], ?_⟩
      · simp [stabBwd, wrap16_id hz]
      · simp only [SpacedFrom]; omega
  | cons y1 ys ih =>
    intro dt y B hB hBy hy hys hlb hd
    match dt, hd with
    | d :: ds, hd =>
      simp only [List.length_cons, DeltaOk] at hd
      simp only [LB] at hlb
      obtain ⟨z1, zs1, he, hlen, hBz, hz1, hzs1, hsp⟩ :=
        ih ds y1 (B + d) (by omega) hlb.1 (hys y1 (by simp)) (fun e he => hys e (by simp [he])) hlb.2 hd.2
      have hz : I16 (min y (z1 - d)) := by unfold I16 at *; omega
      refine ⟨min y (z1 - d), z1 :: zs1, ?_, by simp [hlen], by omega, hz,
        List.forall_mem_cons.mpr ⟨hz1, hzs1⟩, ?_⟩
      · rw [stabBwd, he]; simp [wrap16_id hz]
      · simp only [SpacedFrom]; exact ⟨by omega, hsp⟩

theorem stabFallback_spec (x d : List Int) (hx : AllI16 x) (hpos : 0 < x.length)
    (hd : DeltaOk 0 x.length d) :
    SpacedFrom 0 (stabFallback x d) d ∧ (stabFallback x d).length = x.length ∧ AllI16 (stabFallback x d) := by
  have hlen := (insertionSort_perm x).length_eq
  have hI : AllI16 (insertionSort x) := fun e he => hx e ((insertionSort_perm x).mem_iff.mp he)
  unfold stabFallback
  match hs : insertionSort x, d, hd with
  | [], _, _ => rw [hs] at hlen; exact absurd hlen (by simp; omega)
  | s0 :: ss, d0 :: dt, hd =>
    rw [hs] at hlen hI
    have hxl : x.length = ss.length + 1 := by simpa using hlen.symm
    rw [hxl] at hd
    simp only [DeltaOk] at hd
    have hd0 : d0 ≤ 32767 := by have := (DeltaOk_spec _ _ _ hd.2).2; omega
    have hs0 : I16 s0 := hI s0 (by simp)
    have hy0I : I16 (max s0 d0) := by unfold I16 at *; omega
    have hy0 : wrap16 (max s0 d0) = max s0 d0 := wrap16_id hy0I
    have hfw := stabFwd_spec ss dt (max s0 d0) (0 + d0) hy0I (by omega)
      (fun e he => hI e (by simp [he])) hd.2
    obtain ⟨z, zs, he, hzl, hBz, hzI, hzsI, hsp⟩ :=
      stabBwd_spec (stabFwd (max s0 d0) ss dt) dt (max s0 d0) (0 + d0) (by omega) (by omega) hy0I
        hfw.2.1 hfw.2.2 (by rw [hfw.1]; exact hd.2)
    simp only [hy0, he, SpacedFrom]
    exact ⟨⟨by omega, hsp⟩, by simp [hzl, hfw.1, hxl], List.forall_mem_cons.mpr ⟨hzI, hzsI⟩⟩
  | _ :: _, [], hd =>
    have := (DeltaOk_spec _ _ _ hd).1
    simp at this

/-! ### the iterations -/

theorem set_I16 (x : List Int) (i : Nat) (v : Int) (hx : AllI16 x) : AllI16 (x.set i (wrap16 v)) := by
  intro e he
  rcases List.mem_or_eq_of_mem_set he with h | h
  · exact hx e h
  · rw [h]; exact wrap16_I16 v

theorem stabAdjust_spec (x d : List Int) (I : Nat) (hx : AllI16 x) :
    (stabAdjust x d I).length = x.length ∧ AllI16 (stabAdjust x d I) := by
  unfold stabAdjust
  simp only
  split
  · exact ⟨by simp, set_I16 _ _ _ hx⟩
  · split
    · exact ⟨by simp, set_I16 _ _ _ hx⟩
    · exact ⟨by simp, set_I16 _ _ _ (set_I16 _ _ _ hx)⟩

theorem stabLoop_spec (d : List Int) : ∀ (n : Nat) (x : List Int), AllI16 x → 0 < x.length →
    DeltaOk 0 x.length d →
    SpacedFrom 0 (stabLoop d n x) d ∧ (stabLoop d n x).length = x.length ∧ AllI16 (stabLoop d n x) := by
  intro n
  induction n with
  | zero => intro x hx hpos hd; exact stabFallback_spec x d hx hpos hd
  | succ n ih =>
    intro x hx hpos hd
    have hdl := (DeltaOk_spec _ _ _ hd).1
    unfold stabLoop
    match hdf : diffsFrom 0 x d with
    | [] => exact ⟨spaced_of_diffs x d 0 hdl (by rw [hdf]; simp), rfl, hx⟩
    | e0 :: es =>
      simp only
      split
      · rename_i hge
        refine ⟨?_, rfl, hx⟩
        apply spaced_of_diffs x d 0 hdl
        rw [hdf]
        have hs := argMin_spec es e0 0 1
        exact List.forall_mem_cons.mpr ⟨by omega, fun e h' => by have := hs.2 e h'; omega⟩
      · have ha := stabAdjust_spec x d (argMin es e0 0 1).2 hx
        have := ih _ ha.2 (by rw [ha.1]; exact hpos) (by rw [ha.1]; exact hd)
        exact ⟨this.1, by rw [this.2.1, ha.1], this.2.2⟩

theorem nlsfStabilize_spec (x d : List Int) (hx : AllI16 x) (hl : 0 < x.length)
    (hd : DeltaOk 0 x.length d) :
    ∃ out, nlsfStabilize x d = .ok out ∧ SpacedFrom 0 out d ∧ out.length = x.length ∧ AllI16 out := by
  refine ⟨stabLoop d Gen.SilkNlsf.nlsfStabilizeMaxLoops x, ?_, stabLoop_spec d _ x hx hl hd⟩
  unfold nlsfStabilize
  rw [if_neg]
  rintro (h | h)
  · omega
  · exact h (DeltaOk_spec _ _ _ hd).1

end Opus.SilkParams
