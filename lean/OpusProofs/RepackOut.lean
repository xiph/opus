import OpusModel.Repack
import OpusProofs.FramingHelpers
/-
  C07 (repacketizer): what `emit` writes against the serialiser.  First the shape of `serialize` for each packet
  code, the byte-size bookkeeping of the repacketizer (`vbrBody`, `vbrSizeBytes`, `isVbr`) and list facts.  Then:
  without extensions, what `emit` (the code-selection and writing part of `opus_repacketizer_out_range_impl`)
  produces is either BUFFER_TOO_SMALL — exactly when the minimal size exceeds `maxlen` — or the RFC serialisation
  of the packet `outPacket`.
-/
namespace Opus.RepackProofs
open Opus Opus.Framing Opus.FramingSpec Opus.FramingProofs Opus.Repack

theorem slices_spec (pre : Bytes) (fs : List Bytes) (post : Bytes) :
    slices (pre ++ fs.flatten ++ post) pre.length (fs.map List.length) = fs := by
  induction fs generalizing pre with
  | nil => simp [slices]
  | cons f fs ih =>
    simp only [List.map_cons, slices, List.flatten_cons]
    have h1 : (pre ++ (f ++ fs.flatten) ++ post).drop pre.length = f ++ fs.flatten ++ post := by
      rw [List.append_assoc, List.drop_left]
    have h2 : (f ++ fs.flatten ++ post).take f.length = f := by
      rw [List.append_assoc, List.take_left]
    rw [h1, h2]
    have h3 := ih (pre ++ f)
    have h4 : pre ++ (f ++ fs.flatten) ++ post = pre ++ f ++ fs.flatten ++ post := by simp
    rw [h4]
    simp only [List.length_append] at h3
    rw [h3]

theorem vbrSizeBytes_eq (lens : List Nat) : vbrSizeBytes lens = lens.dropLast.flatMap encLen := by
  induction lens with
  | nil => rfl
  | cons l ls ih =>
    cases ls with
    | nil => rfl
    | cons l' ls' =>
      simp only [vbrSizeBytes, List.dropLast_cons_cons, List.flatMap_cons] at ih ⊢
      rw [ih]; rfl

theorem encLen_length (n : Nat) : ((encLen n).length : Int) = 1 + (if 252 ≤ n then 1 else 0) := by
  unfold encLen; split <;> split <;> simp <;> omega

theorem vbrBody_eq (lens : List Nat) (h : lens ≠ []) :
    vbrBody lens = ((lens.dropLast.flatMap encLen).length : Int) + sumN lens := by
  induction lens with
  | nil => exact absurd rfl h
  | cons l ls ih =>
    cases ls with
    | nil => simp [vbrBody]
    | cons l' ls' =>
      have := ih (by simp)
      simp only [vbrBody, List.dropLast_cons_cons, List.flatMap_cons, List.length_append, sumN_cons] at this ⊢
      rw [this]
      have := encLen_length l
      push_cast
      omega

theorem isVbr_false_allEq (lens : List Nat) (h : isVbr lens = false) : allEq lens := by
  unfold isVbr at h
  intro a ha b hb
  have h' : ∀ x ∈ lens, x = lens.headD 0 := by
    intro x hx
    have := List.any_eq_false.mp h x hx
    simpa using this
  rw [h' a ha, h' b hb]

theorem isVbr_false_sum (lens : List Nat) (h : isVbr lens = false) :
    sumN lens = lens.length * lens.headD 0 := by
  unfold isVbr at h
  have h' : ∀ x ∈ lens, x = lens.headD 0 := by
    intro x hx
    have := List.any_eq_false.mp h x hx
    simpa using this
  generalize lens.headD 0 = c at h'
  clear h
  induction lens with
  | nil => simp
  | cons x xs ih =>
    have hx := h' x (by simp)
    have := ih (fun y hy => h' y (by simp [hy]))
    simp only [sumN_cons, List.length_cons]
    rw [this, hx, Nat.add_mul]; omega

def padHdr (pd : Option Pad) : Bytes := match pd with | some p => p.hdr | none => []
def padData (pd : Option Pad) : Bytes := match pd with | some p => p.bytes | none => []

theorem ser_code0 (sd : Bool) (t : Nat) (f0 : Bytes) (ht : t % 4 = 0) :
    serialize sd { toc := t, frames := [f0], vbr := false, pad := none } =
      [t] ++ (if sd then encLen f0.length else []) ++ f0 := by
  cases sd <;> simp [serialize, header, Packet.code, lenFields, padBytes, Packet.lens, ht]

theorem ser_code1 (sd : Bool) (t : Nat) (f0 f1 : Bytes) (ht : t % 4 = 1) :
    serialize sd { toc := t, frames := [f0, f1], vbr := false, pad := none } =
      [t] ++ (if sd then encLen f1.length else []) ++ (f0 ++ f1) := by
  cases sd <;> simp [serialize, header, Packet.code, lenFields, padBytes, Packet.lens, ht]

theorem ser_code2 (sd : Bool) (t : Nat) (f0 f1 : Bytes) (ht : t % 4 = 2) :
    serialize sd { toc := t, frames := [f0, f1], vbr := false, pad := none } =
      [t] ++ encLen f0.length ++ (if sd then encLen f1.length else []) ++ (f0 ++ f1) := by
  cases sd <;> simp [serialize, header, Packet.code, lenFields, padBytes, Packet.lens, ht]

theorem ser_code3 (sd : Bool) (t : Nat) (fs : List Bytes) (vbr : Bool) (pd : Option Pad) (ht : t % 4 = 3)
    (hne : fs ≠ []) :
    serialize sd { toc := t, frames := fs, vbr := vbr, pad := pd } =
      [t, fs.length + (if pd.isSome then 64 else 0) + (if vbr then 128 else 0)] ++
      padHdr pd ++
      (if vbr then (fs.map List.length).dropLast.flatMap encLen else []) ++
      (if sd then encLen ((fs.map List.length).getLastD 0) else []) ++ fs.flatten ++
      padData pd := by
  cases sd <;> cases vbr <;> cases pd <;>
    simp [serialize, header, Packet.code, lenFields, padBytes, Packet.lens, ht, countByte, padHdr, padData]
  all_goals
    cases hgl : fs.getLast? with
    | none => exact absurd (List.getLast?_eq_none_iff.mp hgl) hne
    | some x => simp

end Opus.RepackProofs

namespace Opus.RepackProofs
open Opus Opus.Framing Opus.FramingSpec Opus.FramingProofs Opus.Repack Opus.Ext

/-- Size of the packet the repacketizer emits without padding: code 0 for one frame, code 1 / 2 for
    two, code 3 CBR / VBR for more. -/
def minSize (sd : Bool) (lens : List Nat) : Int :=
  match lens with
  | [l0] => sdSize sd l0 + l0 + 1
  | [l0, l1] =>
    if l1 = l0 then sdSize sd l1 + 2 * l0 + 1
    else sdSize sd l1 + l0 + l1 + 2 + (if 252 ≤ l0 then 1 else 0)
  | _ => tot3 lens (sdSize sd (lens.getLastD 0))

/-- Frame-count code chosen for one or two frames. -/
def lowCode (lens : List Nat) : Nat :=
  match lens with
  | [_, l1] => if l1 = lens.headD 0 then 1 else 2
  | _ => 0

/-- The padding the repacketizer writes for `pad_amount = amount > 0` bytes in total:
    `(amount-1)/255` length bytes 255, one final length byte, zeros. -/
def padOf (amount : Int) : Option Pad :=
  if amount = 0 then none
  else
    let nb := (amount - 1) / 255
    some { n255 := nb.toNat, last := (amount - 255 * nb - 1).toNat,
           bytes := List.replicate (amount - nb - 1).toNat 0 }

/-- Codes 0/1/2 are used for one or two frames unless padding has to be added. -/
def useLow (frames : List Bytes) (maxlen : Int) (sd pad : Bool) : Prop :=
  frames.length ≤ 2 ∧ ¬ (pad = true ∧ minSize sd (frames.map List.length) < maxlen)

instance (frames : List Bytes) (maxlen : Int) (sd pad : Bool) : Decidable (useLow frames maxlen sd pad) := by
  unfold useLow; infer_instance

def lowPacket (toc : Nat) (frames : List Bytes) : Packet :=
  { toc := toc / 4 * 4 + lowCode (frames.map List.length), frames, vbr := false, pad := none }

def highPacket (toc : Nat) (frames : List Bytes) (maxlen : Int) (sd pad : Bool) : Packet :=
  { toc := toc / 4 * 4 + 3, frames, vbr := isVbr (frames.map List.length),
    pad := if pad then padOf (maxlen - tot3 (frames.map List.length) (sdSize sd ((frames.map List.length).getLastD 0)))
           else none }

/-- The packet emitted for `frames` (extension-free case). -/
def outPacket (toc : Nat) (frames : List Bytes) (maxlen : Int) (sd pad : Bool) : Packet :=
  if useLow frames maxlen sd pad then lowPacket toc frames else highPacket toc frames maxlen sd pad

theorem outPacket_low {toc : Nat} {frames : List Bytes} {maxlen : Int} {sd pad : Bool}
    (h : useLow frames maxlen sd pad) : outPacket toc frames maxlen sd pad = lowPacket toc frames := if_pos h
theorem outPacket_high {toc : Nat} {frames : List Bytes} {maxlen : Int} {sd pad : Bool}
    (h : ¬ useLow frames maxlen sd pad) : outPacket toc frames maxlen sd pad = highPacket toc frames maxlen sd pad := if_neg h

theorem code3_noext (toc : Nat) (frames : List Bytes) (hne : frames ≠ []) (tot0 maxlen : Int) (sdBytes : Bytes)
    (pad : Bool) (hfit : tot3 (frames.map List.length) tot0 ≤ maxlen) :
    code3 toc frames tot0 maxlen sdBytes pad #[] =
      .ok ([toc / 4 * 4 + 3, frames.length +
              (if (if pad then padOf (maxlen - tot3 (frames.map List.length) tot0) else none).isSome then 64 else 0) +
              (if isVbr (frames.map List.length) then 128 else 0)] ++
           padHdr (if pad then padOf (maxlen - tot3 (frames.map List.length) tot0) else none) ++
           (if isVbr (frames.map List.length) then (frames.map List.length).dropLast.flatMap encLen else []) ++
           sdBytes ++ frames.flatten ++
           padData (if pad then padOf (maxlen - tot3 (frames.map List.length) tot0) else none)) := by
  unfold code3
  simp only [List.size_toArray, List.length_nil, Nat.lt_irrefl, if_false]
  generalize tot3 (frames.map List.length) tot0 = tot at hfit ⊢
  rw [if_neg (by omega)]
  cases pad with
  | false =>
    simp only [Bool.false_eq_true, if_false, ne_eq, not_true_eq_false, Option.isSome_none, Nat.add_zero,
      Int.lt_irrefl, List.append_nil]
    simp [vbrSizeBytes_eq, padHdr, padData]
  | true =>
    simp only [if_true]
    by_cases hz : maxlen - tot = 0
    · simp [hz, padOf, vbrSizeBytes_eq, padHdr, padData]
    · simp only [ne_eq, hz, not_false_eq_true, if_true, padOf, if_false, Option.isSome_some]
      rw [if_neg (by omega), if_neg (by omega)]
      simp only [true_and, if_true, Pad.hdr, vbrSizeBytes_eq, padHdr, padData]
      rw [show (maxlen - (tot + (maxlen - tot - 1) / 255 + 1)).toNat = (maxlen - tot - (maxlen - tot - 1) / 255 - 1).toNat
        by omega]
      split <;> simp <;> omega

theorem encodeSize_eq (n : Nat) : encodeSize n = encLen n := rfl

theorem isVbr_one (l0 : Nat) : isVbr [l0] = false := by simp [isVbr]
theorem isVbr_two (l0 l1 : Nat) : isVbr [l0, l1] = (l1 != l0) := by
  simp [isVbr]; by_cases h : l1 = l0 <;> simp [h]

theorem minSize_eq_tot3 (sd : Bool) (lens : List Nat) (h3 : 2 < lens.length) :
    minSize sd lens = tot3 lens (sdSize sd (lens.getLastD 0)) := by
  match lens, h3 with
  | _ :: _ :: _ :: _, _ => rfl

theorem minSize_le_tot3 (sd : Bool) (lens : List Nat) (hne : lens ≠ []) :
    minSize sd lens ≤ tot3 lens (sdSize sd (lens.getLastD 0)) ∧
    (lens.length ≤ 2 → minSize sd lens + 1 = tot3 lens (sdSize sd (lens.getLastD 0))) := by
  match lens, hne with
  | [l0], _ => simp [minSize, tot3, isVbr_one]; omega
  | [l0, l1], _ =>
    by_cases h : l1 = l0
    · simp [minSize, tot3, isVbr_two, h]; omega
    · simp [minSize, tot3, isVbr_two, h, vbrBody]; omega
  | _ :: _ :: _ :: _, _ => simp [minSize]

theorem code3_bts (toc : Nat) (frames : List Bytes) (tot0 maxlen : Int) (sdBytes : Bytes) (pad : Bool) (all : Array Ext)
    (h : tot3 (frames.map List.length) tot0 > maxlen) : code3 toc frames tot0 maxlen sdBytes pad all = .err .bufferTooSmall := by
  unfold code3; simp only []; rw [if_pos h]

/-- Code 3 without extensions writes the packet `highPacket`. -/
theorem code3_high (toc : Nat) (frames : List Bytes) (hne : frames ≠ []) (maxlen : Int) (sd pad : Bool)
    (hfit : tot3 (frames.map List.length) (sdSize sd ((frames.map List.length).getLastD 0)) ≤ maxlen) :
    code3 toc frames (sdSize sd ((frames.map List.length).getLastD 0)) maxlen
        (if sd then encodeSize ((frames.map List.length).getLastD 0) else []) pad #[] =
      .ok (serialize sd (highPacket toc frames maxlen sd pad)) := by
  rw [code3_noext toc frames hne _ _ _ _ hfit, highPacket, ser_code3 sd _ _ _ _ (by omega) hne]
  rfl

theorem sdSize_eq (sd : Bool) (l : Nat) : sdSize sd l = ((if sd then encLen l else []).length : Int) := by
  unfold sdSize
  cases sd
  · simp
  · simp only [if_true]; rw [encLen_length]

theorem firstPass_high (toc : Nat) (lens : List Nat) (h3 : 2 < lens.length) (tot0 maxlen : Int) :
    firstPass toc lens tot0 maxlen = .ok (tot0, []) := by
  match lens, h3 with
  | _ :: _ :: _ :: _, _ => rfl

/-- One or two frames: the first pass computes `minSize` and writes the header of `lowPacket`. -/
theorem firstPass_low (toc : Nat) (frames : List Bytes) (hne : frames ≠ []) (h2 : frames.length ≤ 2) (sd : Bool)
    (maxlen : Int) :
    ∃ hdr, firstPass toc (frames.map List.length) (sdSize sd ((frames.map List.length).getLastD 0)) maxlen =
        (if minSize sd (frames.map List.length) > maxlen then .err .bufferTooSmall
         else .ok (minSize sd (frames.map List.length), hdr)) ∧
      serialize sd (lowPacket toc frames) =
        hdr ++ (if sd then encLen ((frames.map List.length).getLastD 0) else []) ++ frames.flatten ∧
      (hdr.length : Int) + sdSize sd ((frames.map List.length).getLastD 0) + frames.flatten.length =
        minSize sd (frames.map List.length) := by
  match frames, hne, h2 with
  | [f0], _, _ =>
    refine ⟨[toc / 4 * 4], rfl, ?_, by simp [minSize]; omega⟩
    rw [lowPacket, show lowCode ([f0].map List.length) = 0 from rfl, ser_code0 sd _ _ (by omega)]
    simp
  | [f0, f1], _, _ =>
    by_cases heq : f1.length = f0.length
    · refine ⟨[toc / 4 * 4 + 1], by simp [firstPass, minSize, heq], ?_, by simp [minSize, heq]; omega⟩
      rw [lowPacket, show lowCode ([f0, f1].map List.length) = 1 by simp [lowCode, heq], ser_code1 sd _ _ _ (by omega)]
      simp
    · have := encLen_length f0.length
      refine ⟨(toc / 4 * 4 + 2) :: encLen f0.length, by simp [firstPass, minSize, heq, encodeSize_eq], ?_,
        by simp [minSize, heq]; omega⟩
      rw [lowPacket, show lowCode ([f0, f1].map List.length) = 2 by simp [lowCode, heq], ser_code2 sd _ _ _ (by omega)]
      simp

/-- `emit` without extensions: BUFFER_TOO_SMALL exactly when the minimal size exceeds `maxlen`,
    otherwise the serialisation of `outPacket`. -/
theorem emit_noext (toc : Nat) (frames : List Bytes) (hne : frames ≠ []) (maxlen : Int) (sd pad : Bool) :
    emit toc frames maxlen sd pad #[] =
      if minSize sd (frames.map List.length) > maxlen then .err .bufferTooSmall
      else .ok (serialize sd (outPacket toc frames maxlen sd pad)) := by
  have hm := minSize_le_tot3 sd (frames.map List.length) (by simpa using hne)
  unfold emit
  simp only []
  by_cases h2 : frames.length ≤ 2
  · obtain ⟨hdr, hfp, hser, _⟩ := firstPass_low toc frames hne h2 sd maxlen
    rw [hfp]
    by_cases hbig : minSize sd (frames.map List.length) > maxlen
    · rw [if_pos hbig, if_pos hbig]
    · rw [if_neg hbig, if_neg hbig]
      simp only []
      by_cases hp : pad = true ∧ minSize sd (frames.map List.length) < maxlen
      · have := hm.2 (by simpa using h2)
        rw [if_pos (Or.inr (Or.inl hp)), code3_high toc frames hne maxlen sd pad (by omega),
          outPacket_high (fun h => h.2 hp)]
      · have hlow : ¬ (2 < frames.length ∨ (pad = true ∧ minSize sd (frames.map List.length) < maxlen) ∨
            0 < (#[] : Array Ext).size) := by
          rintro (h | h | h)
          · omega
          · exact hp h
          · exact Nat.lt_irrefl 0 h
        rw [if_neg hlow, outPacket_low ⟨h2, hp⟩, hser]
        rfl
  · have h3 : 2 < (frames.map List.length).length := by simp; omega
    rw [firstPass_high toc _ h3, minSize_eq_tot3 sd _ h3]
    simp only []
    rw [if_pos (Or.inl (by omega)), outPacket_high (fun h => h2 h.1)]
    by_cases hbig : tot3 (frames.map List.length) (sdSize sd ((frames.map List.length).getLastD 0)) > maxlen
    · rw [if_pos hbig, code3_bts _ _ _ _ _ _ _ hbig]
    · rw [if_neg hbig, code3_high toc frames hne maxlen sd pad (by omega)]

end Opus.RepackProofs
