import OpusModel.Projection
import OpusProofs.LayoutCreate
import OpusProofs.MatrixProduct
/-
  OpusProofs.ProjectionCreate — exactly which arguments `opus_projection_decoder_init/_create` accept
  (C10 `projdec_create_rejects`), and what they build from the bytes the projection encoder exports: the
  restricted demixing matrix itself (C10 `import_export_demix`).  This holds for every matrix of int16 cells
  (`import_export_matrix`); of the built-in tables only their dimensions enter.
-/
namespace Opus.Projection
open Opus Opus.Layout Opus.Matrix

/-- The cells `importCells` parses from the first `k` byte pairs. -/
def cellsOf : Bytes → Nat → List Int
  | _, 0 => []
  | lo :: hi :: rest, k + 1 => importCell lo hi :: cellsOf rest k
  | _, _ + 1 => []

theorem importCells_eq : ∀ (dm : Bytes) (k : Nat),
    importCells dm k = if dm.length < 2 * k then .oob else .ok (cellsOf dm k)
  | dm, 0 => by rw [if_neg (by omega)]; cases dm <;> rfl
  | [], k + 1 => by rw [if_pos (by simp)]; rfl
  | [_], k + 1 => by rw [if_pos (by simp only [List.length_singleton]; omega)]; rfl
  | lo :: hi :: rest, k + 1 => by
    rw [importCells, importCells_eq rest k, cellsOf]
    simp only [List.length_cons]
    by_cases h : rest.length < 2 * k
    · rw [if_pos h, if_pos (by omega)]
    · rw [if_neg h, if_neg (by omega)]

/-- The identity mapping on `ch` channels is a valid layout exactly when there are at least `ch` coded
    channels. -/
theorem identity_valid (ch st co : Int) (h : DecArgsOk ch st co) :
    LayoutValid (storedLayout ch st co (List.range ch.toNat)) ↔ ch ≤ st + co := by
  unfold DecArgsOk at h
  unfold LayoutValid ChannelLayout.chans storedLayout
  simp only [List.take_take, Nat.min_self]
  have ht : List.take ch.toNat (List.range ch.toNat) = List.range ch.toNat := List.take_of_length_le (by simp)
  rw [ht]
  constructor
  · intro ⟨_, hv⟩
    have := hv (ch.toNat - 1) (List.mem_range.2 (by omega))
    omega
  · intro hle
    refine ⟨by omega, fun m hm => ?_⟩
    have := List.mem_range.1 hm
    left; omega

/-- For sensible arguments `mapping_matrix_get_size` is zero exactly when the cells exceed 65004 bytes. -/
theorem matrixSizeNonzero_iff (rows cols : Int) (hr : 0 ≤ rows ∧ rows ≤ 255) (hc : 0 ≤ cols ∧ cols ≤ 255) :
    matrixSizeNonzero rows cols = true ↔ ¬ rows * cols * 2 > 65004 := by
  unfold matrixSizeNonzero matrixGetSize
  have hnn : 0 ≤ rows * cols := Int.mul_nonneg hr.1 hc.1
  rw [if_neg (by omega)]
  by_cases hbig : rows * cols * 2 > 65004
  · simp [hbig]
  · rw [if_neg hbig]
    simp only [hbig, not_false_eq_true, iff_true, decide_eq_true_eq]
    generalize rows * cols = p at hnn hbig
    unfold alignI
    simp only
    split <;> split <;> omega

theorem decoderCreate_eq (innerOk : Bool) (ch st co : Int) (dm : Bytes) (size : Int) :
    decoderCreate innerOk ch st co dm size =
      if decoderSizeNonzero ch st co = false then .err .allocFail else decoderInit innerOk ch st co dm size := by
  unfold decoderCreate
  cases decoderSizeNonzero ch st co <;> simp

/-- `opus_projection_decoder_init` in the shape of `guarded_init`. -/
theorem decoderInit_eq (innerOk : Bool) (ch st co : Int) (dm : Bytes) (size : Int) :
    decoderInit innerOk ch st co dm size =
      if decArgsBad ch st co = true ∨ (st + co) * ch * 2 ≠ size then .err .badArg
      else if dm.length < 2 * ((st + co) * ch).toNat then .oob
      else if matrixSizeNonzero ch (st + co) = true ∧
          validateLayout (storedLayout ch st co (List.range ch.toNat)) = true ∧ innerOk = true then
        .ok { matrix := { rows := ch.toNat, cols := (st + co).toNat, gain := 0, data := cellsOf dm ((st + co) * ch).toNat },
              layout := storedLayout ch st co (List.range ch.toNat) }
      else .err .badArg := by
  unfold decoderInit
  by_cases ha : decArgsBad ch st co = true
  · rw [if_pos ha, if_pos (Or.inl ha)]
  by_cases hs : (st + co) * ch * 2 ≠ size
  · rw [if_neg ha, if_pos (Or.inr hs)]; exact if_pos hs
  rw [if_neg ha, if_neg (show ¬ (decArgsBad ch st co = true ∨ (st + co) * ch * 2 ≠ size) from fun h => h.elim ha hs),
    if_neg hs, importCells_eq]
  by_cases hl : dm.length < 2 * ((st + co) * ch).toNat
  · rw [if_pos hl, if_pos hl]
  rw [if_neg hl, if_neg hl]
  simp only [Layout.decoderInit_eq, ha, List.length_range, Nat.lt_irrefl, if_false]
  cases matrixSizeNonzero ch (st + co) <;> cases validateLayout (storedLayout ch st co (List.range ch.toNat)) <;>
    cases innerOk <;> rfl

theorem decoderInit_outcomes (innerOk : Bool) (ch st co : Int) (dm : Bytes) (size : Int) :
    decoderInit innerOk ch st co dm size ≠ .abort ∧
    (decoderInit innerOk ch st co dm size = .oob →
      DecArgsOk ch st co ∧ (st + co) * ch * 2 = size ∧ (dm.length : Int) < size) ∧
    (∀ e, decoderInit innerOk ch st co dm size = .err e → e = .badArg) ∧
    (∀ pd, decoderInit innerOk ch st co dm size = .ok pd ↔
      DecArgsOk ch st co ∧ (st + co) * ch * 2 = size ∧ size ≤ dm.length ∧ size ≤ 65004 ∧ ch ≤ st + co ∧
      innerOk = true ∧ ∃ cells, importCells dm ((st + co) * ch).toNat = .ok cells ∧
        pd = { matrix := { rows := ch.toNat, cols := (st + co).toNat, gain := 0, data := cells },
               layout := storedLayout ch st co (List.range ch.toNat) }) := by
  obtain ⟨hok, _, hna, hoob, herr⟩ := guarded_init (decoderInit_eq innerOk ch st co dm size)
  -- under the argument test the cell count `k` is `(st+co)·ch`, so the bytes read are `size`
  have hk : DecArgsOk ch st co → (((st + co) * ch).toNat : Int) = (st + co) * ch ∧
      (0 ≤ ch ∧ ch ≤ 255) ∧ (0 ≤ st + co ∧ st + co ≤ 255) := fun hA => by
    unfold DecArgsOk at hA
    exact ⟨Int.toNat_of_nonneg (Int.mul_nonneg (by omega) (by omega)), by omega, by omega⟩
  refine ⟨hna, fun h => ?_, herr, fun pd => ?_⟩
  · obtain ⟨hb, hs⟩ := hoob h
    rw [not_or, Bool.not_eq_true, Decidable.not_not, decArgsBad_false_iff] at hb
    have := (hk hb.1).1
    exact ⟨hb.1, hb.2, by omega⟩
  · rw [hok, not_or, Bool.not_eq_true, Decidable.not_not, decArgsBad_false_iff, Nat.not_lt, validateLayout_iff, and_assoc]
    -- conjunct by conjunct, each under the ones before it
    refine and_congr_right fun hA => and_congr_right fun hS => ?_
    obtain ⟨hk, hr, hc⟩ := hk hA
    have hlen : 2 * ((st + co) * ch).toNat ≤ dm.length ↔ size ≤ dm.length := by omega
    rw [hlen, and_assoc, and_assoc, matrixSizeNonzero_iff ch (st + co) hr hc, identity_valid ch st co hA, Int.mul_comm ch,
      hS, Int.not_lt]
    refine and_congr_right fun hl => and_congr_right fun _ => and_congr_right fun _ => and_congr_right fun _ => ?_
    rw [importCells_eq, if_neg (by omega)]
    exact ⟨fun h => ⟨_, rfl, h⟩, fun ⟨_, hc, h⟩ => Res.ok.inj hc ▸ h⟩

/-- `create` = `init` whenever `init` succeeds; otherwise `create` answers `ALLOC_FAIL` or `init`'s answer. -/
theorem decoderCreate_outcomes (innerOk : Bool) (ch st co : Int) (dm : Bytes) (size : Int) :
    decoderCreate innerOk ch st co dm size ≠ .abort ∧
    (∀ e, decoderCreate innerOk ch st co dm size = .err e → e = .badArg ∨ e = .allocFail) ∧
    (∀ pd, decoderInit innerOk ch st co dm size = .ok pd → decoderCreate innerOk ch st co dm size = .ok pd) ∧
    (∀ pd, decoderCreate innerOk ch st co dm size = .ok pd → decoderInit innerOk ch st co dm size = .ok pd) := by
  obtain ⟨hna, _, herr, hok⟩ := decoderInit_outcomes innerOk ch st co dm size
  rw [decoderCreate_eq]
  refine ⟨?_, ?_, ?_, ?_⟩
  · split
    · intro h; cases h
    · exact hna
  · intro e h; split at h
    · cases h; right; rfl
    · left; exact herr e h
  · intro pd h
    obtain ⟨ha, hs, _, hsz, _, _, _⟩ := (hok pd).1 h
    unfold DecArgsOk at ha
    have : decoderSizeNonzero ch st co = true := by
      unfold decoderSizeNonzero
      rw [(matrixSizeNonzero_iff (st + co) ch (by omega) (by omega)).2 (by omega)]
      simp only [Bool.true_and, Bool.not_eq_true', Bool.or_eq_false_iff, decide_eq_false_iff_not]
      exact ⟨⟨by omega, by omega⟩, by omega⟩
    rw [if_neg (by rw [this]; simp)]; exact h
  · intro pd h; split at h
    · cases h
    · exact h

/-- The little-endian two's-complement coding of a cell is inverted by the decoder's parsing, for every
    int16 value. -/
theorem importCell_exportCell (v : Int) (h : InInt16 v) :
    importCell (exportCell v).1 (exportCell v).2 = v := by
  unfold InInt16 at h
  unfold importCell exportCell
  simp only
  omega

theorem exportCell_bytes (v : Int) : (exportCell v).1 < 256 ∧ (exportCell v).2 < 256 := by
  unfold exportCell; simp only; omega

theorem importCells_export : ∀ cells : List Int, (∀ v ∈ cells, InInt16 v) →
    importCells (cells.flatMap fun v => [(exportCell v).1, (exportCell v).2]) cells.length = .ok cells ∧
    (cells.flatMap fun v => [(exportCell v).1, (exportCell v).2]).length = 2 * cells.length
  | [], _ => ⟨rfl, rfl⟩
  | v :: cs, h => by
    obtain ⟨ih, ihl⟩ := importCells_export cs (fun x hx => h x (List.mem_cons_of_mem _ hx))
    have hv := importCell_exportCell v (h v List.mem_cons_self)
    simp only [List.flatMap_cons, List.cons_append, List.nil_append, List.length_cons, importCells, ih, hv, ihl]
    exact ⟨trivial, by omega⟩

/-- Blocks of `r` items each, concatenated: the length, and how to cut block `j` out again. -/
theorem flatten_uniform {α} (r : Nat) : ∀ L : List (List α), (∀ c ∈ L, c.length = r) →
    L.flatten.length = r * L.length ∧ ∀ j c, L[j]? = some c → (L.flatten.drop (r * j)).take r = c
  | [], _ => ⟨rfl, fun j c h => by cases h⟩
  | b :: L, h => by
    obtain ⟨ihl, ihc⟩ := flatten_uniform r L (fun x hx => h x (List.mem_cons_of_mem _ hx))
    have hb : b.length = r := h b List.mem_cons_self
    refine ⟨by simp only [List.flatten_cons, List.length_append, List.length_cons, ihl, hb, Nat.mul_add, Nat.mul_one]; omega,
      fun j c hj => ?_⟩
    cases j with
    | zero =>
      simp only [List.getElem?_cons_zero, Option.some.injEq] at hj
      subst hj
      simp only [Nat.mul_zero, List.drop_zero, List.flatten_cons]
      rw [List.take_append_of_le_length (by omega), List.take_of_length_le (by omega)]
    | succ j =>
      rw [List.getElem?_cons_succ] at hj
      rw [List.flatten_cons, show r * (j + 1) = b.length + r * j by rw [hb, Nat.mul_add]; omega, List.drop_append,
        List.drop_of_length_le (by omega), List.nil_append, Nat.add_sub_cancel_left]
      exact ihc j c hj

/-- The demixing matrix survives `OPUS_PROJECTION_GET_DEMIXING_MATRIX` followed by
    `opus_projection_decoder_create`, for any matrix of int16 cells that covers `ch` rows and columns
    (and at most 180 of them, the 65004-byte limit of `mapping_matrix_get_size`): the decoder is created
    with the identity layout and, as its cells, the top-left `ch × ch` block. -/
theorem import_export_matrix (d : MappingMatrix) (ch : Nat) (h1 : 1 ≤ ch) (h2 : ch ≤ 180)
    (hd : d.rows * (ch - 1) + ch ≤ d.data.length) (hcells : ∀ v ∈ d.data, InInt16 v) :
    ∃ bytes, exportDemixing d ch ch = .ok bytes ∧ bytes.length = 2 * ch * ch ∧
      decoderCreate true ch ((ch + 1) / 2 : Nat) (ch / 2 : Nat) bytes (2 * ch * ch : Nat) =
        .ok ⟨⟨ch, ch, 0, (subCols d ch ch).flatten⟩, ⟨ch, (ch + 1) / 2, ch / 2, List.range ch⟩⟩ ∧
      subCols ⟨ch, ch, 0, (subCols d ch ch).flatten⟩ ch ch = subCols d ch ch := by
  have hcol := length_of_mem_subCols d ch ch hd
  have hn : (subCols d ch ch).length = ch := by simp [subCols]
  obtain ⟨hlen, hcut⟩ := flatten_uniform ch (subCols d ch ch) hcol
  rw [hn] at hlen
  have hin : ∀ v ∈ (subCols d ch ch).flatten, InInt16 v := by
    intro v hv
    obtain ⟨c, hc, hvc⟩ := List.mem_flatten.1 hv
    exact hcells v (mem_data_of_mem_subCols hc hvc)
  obtain ⟨himp, hbytes⟩ := importCells_export _ hin
  have hsq : ch * ch ≤ 180 * 180 := Nat.mul_le_mul h2 h2
  have hs : (((ch + 1) / 2 : Nat) : Int) + ((ch / 2 : Nat) : Int) = (ch : Int) := by omega
  have hsz : ((2 * ch * ch : Nat) : Int) = (ch : Int) * ch * 2 := by
    rw [Nat.mul_assoc, Int.natCast_mul, Int.natCast_mul]; omega
  -- the bytes `exportDemixing` writes per cell are `exportCell`'s, by unfolding
  refine ⟨(subCols d ch ch).flatten.flatMap fun v => [(exportCell v).1, (exportCell v).2],
    by unfold exportDemixing; rw [if_neg (by omega)]; rfl, by rw [hbytes, hlen]; omega, ?_, ?_⟩
  · refine (decoderCreate_outcomes _ _ _ _ _ _).2.2.1 _ (((decoderInit_outcomes _ _ _ _ _ _).2.2.2 _).2
      ⟨by unfold DecArgsOk; omega, by rw [hs, hsz], by rw [hbytes, hlen]; omega, by omega, by omega, rfl, (subCols d ch ch).flatten, ?_, ?_⟩)
    · rw [hs, ← Int.natCast_mul, Int.toNat_natCast, ← hlen]; exact himp
    · simp only [hs, storedLayout, Int.toNat_natCast, List.take_of_length_le (Nat.le_of_eq List.length_range)]
  · exact List.map_congr_left (fun j hj => hcut j _ (getElem?_subCols d ch ch j (List.mem_range.1 hj)))

end Opus.Projection
