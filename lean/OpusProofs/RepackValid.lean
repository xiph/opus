import OpusProofs.RepackOut
/-
  C07 (repacketizer): the packet `outPacket` is RFC-valid and has the announced size; that size is minimal among all
  valid packets holding the same frames, and at most 1277 bytes per frame.
-/
namespace Opus.RepackProofs
open Opus Opus.Framing Opus.FramingSpec Opus.FramingProofs Opus.Repack Opus.Ext

/-- What the repacketizer invariant guarantees about a selection of frames. -/
structure FramesOk (toc : Nat) (frames : List Bytes) : Prop where
  toc_lt : toc < 256
  ne : frames ≠ []
  le : ∀ f ∈ frames, f.length ≤ 1275
  dur : frames.length * samplesPerFrame toc 8000 ≤ 960

/-- Frame duration at 8 kHz (the unit of `OpusRepacketizer.framesize`) against the 48 kHz duration of the spec. -/
theorem frameDur48_spf8 : ∀ toc ∈ List.range 256,
    frameDur48 toc = 6 * samplesPerFrame toc 8000 ∧ samplesPerFrame toc 8000 ≤ 480 ∧ 20 ≤ samplesPerFrame toc 8000 := by
  intro toc h
  have h1 := spf_rates toc h 8000 (by simp)
  have h2 := frameDur48_ge toc h
  omega

/-- The frame-count code does not change the frame duration. -/
theorem frameDur48_code (toc : Nat) (h : toc < 256) (c : Nat) (hc : c < 4) :
    frameDur48 (toc / 4 * 4 + c) = 6 * samplesPerFrame toc 8000 := by
  rw [(frameDur48_spf8 _ (List.mem_range.mpr (by omega))).1,
    (toc_helpers_congr _ _ 8000 (show (toc / 4 * 4 + c) / 4 = toc / 4 by omega)).2.2.1]

theorem padOf_ok (a : Int) (ha : 0 ≤ a) : ∀ pd, padOf a = some pd → pd.last < 255 ∧ pd.bytes.length = pd.total := by
  intro pd h
  unfold padOf at h
  split at h
  · simp at h
  · simp only [Option.some.injEq] at h
    subst h
    simp only [Pad.total, List.length_replicate]
    omega

theorem padOf_size (a : Int) (ha : 0 ≤ a) : ((padHdr (padOf a)).length : Int) + (padData (padOf a)).length = a := by
  unfold padOf
  split
  · simp [padHdr, padData]; omega
  · simp [padHdr, padData, Pad.hdr]; omega

theorem tot3_eq (lens : List Nat) (hne : lens ≠ []) (tot0 : Int) :
    tot3 lens tot0 = tot0 + 2 + ((if isVbr lens then lens.dropLast.flatMap encLen else []).length : Int) + sumN lens := by
  unfold tot3
  cases h : isVbr lens
  · simp [isVbr_false_sum lens h]; omega
  · simp [vbrBody_eq lens hne]; omega

theorem lowCode_lt (lens : List Nat) : lowCode lens ≤ 2 := by
  unfold lowCode; split
  · split <;> omega
  · omega

theorem outPacket_frames (toc : Nat) (frames : List Bytes) (maxlen : Int) (sd pad : Bool) :
    (outPacket toc frames maxlen sd pad).frames = frames := by
  unfold outPacket; split <;> rfl

theorem outPacket_toc (toc : Nat) (frames : List Bytes) (maxlen : Int) (sd pad : Bool) :
    (outPacket toc frames maxlen sd pad).toc / 4 = toc / 4 := by
  unfold outPacket; split
  · simp only [lowPacket]
    have := lowCode_lt (frames.map List.length)
    omega
  · simp only [highPacket]; omega

/-- Whatever padding the repacketizer emits is zeros. -/
theorem padBytes_outPacket (toc : Nat) (frames : List Bytes) (maxlen : Int) (sd pad : Bool) :
    ∃ k, padBytes (outPacket toc frames maxlen sd pad) = List.replicate k 0 := by
  unfold outPacket
  split
  · exact ⟨0, rfl⟩
  · unfold highPacket padBytes
    cases pad with
    | false => exact ⟨0, rfl⟩
    | true =>
      simp only [if_true]
      unfold padOf
      split
      · rename_i pd hpd
        split at hpd
        · cases hpd
        · simp only [Option.some.injEq] at hpd; subst hpd; exact ⟨_, rfl⟩
      · exact ⟨0, rfl⟩

/-- A code-3 packet with the stored configuration bits and the repacketizer's choice between CBR and VBR
    is valid as soon as its padding is well formed. -/
theorem code3Packet_valid {toc : Nat} {frames : List Bytes} (hok : FramesOk toc frames) (pd : Option Pad)
    (hpd : ∀ p, pd = some p → p.last < 255 ∧ p.bytes.length = p.total) :
    Valid { toc := toc / 4 * 4 + 3, frames, vbr := isVbr (frames.map List.length), pad := pd } := by
  have htoc := hok.toc_lt
  have hcode : ∀ c, (toc / 4 * 4 + 3) % 4 = c → c = 3 := by omega
  refine ⟨by show _ + _ < 256; omega, hok.le, fun h => absurd (hcode 0 h) (by decide),
    fun h => absurd (hcode 1 h) (by decide), fun h => absurd (hcode 2 h) (by decide),
    fun _ => ⟨List.length_pos_iff.mpr hok.ne, ?_, isVbr_false_allEq _⟩, hpd⟩
  show frameDur48 (toc / 4 * 4 + 3) * frames.length ≤ 5760
  have := hok.dur
  rw [frameDur48_code toc htoc 3 (by omega), Nat.mul_assoc, Nat.mul_comm (samplesPerFrame toc 8000)]
  omega

theorem lowPacket_valid {toc : Nat} {frames : List Bytes} (hok : FramesOk toc frames) (h2 : frames.length ≤ 2) :
    Valid (lowPacket toc frames) := by
  have htoc := hok.toc_lt
  -- the frame-count code of `lowPacket` is `lowCode`, one of 0, 1, 2
  have key : ∀ c k, c ≤ 2 → (toc / 4 * 4 + c) % 4 = k → k = c := by omega
  have hno : ∀ pd : Pad, (none : Option Pad) = some pd → pd.last < 255 ∧ pd.bytes.length = pd.total := nofun
  match frames, hok.ne, h2, hok.le with
  | [f0], _, _, hle =>
    exact ⟨by show _ + 0 < 256; omega, hle, fun _ => ⟨rfl, rfl, rfl⟩,
      fun h => absurd (key 0 1 (by omega) h) (by decide), fun h => absurd (key 0 2 (by omega) h) (by decide),
      fun h => absurd (key 0 3 (by omega) h) (by decide), hno⟩
  | [f0, f1], _, _, hle =>
    by_cases heq : f1.length = f0.length
    · have hlc : lowCode ([f0, f1].map List.length) = 1 := by simp [lowCode, heq]
      unfold lowPacket
      rw [hlc]
      exact ⟨by show _ + 1 < 256; omega, hle, fun h => absurd (key 1 0 (by omega) h) (by decide),
        fun _ => ⟨rfl, rfl, rfl, by simp [allEq, Packet.lens, heq]⟩, fun h => absurd (key 1 2 (by omega) h) (by decide),
        fun h => absurd (key 1 3 (by omega) h) (by decide), hno⟩
    · have hlc : lowCode ([f0, f1].map List.length) = 2 := by simp [lowCode, heq]
      unfold lowPacket
      rw [hlc]
      exact ⟨by show _ + 2 < 256; omega, hle, fun h => absurd (key 2 0 (by omega) h) (by decide),
        fun h => absurd (key 2 1 (by omega) h) (by decide), fun _ => ⟨rfl, rfl, rfl⟩,
        fun h => absurd (key 2 3 (by omega) h) (by decide), hno⟩

/-- Where code 3 is used although the frames fit, `tot_size` fits as well: with one or two frames code 3 is used only
    to pad, and then `maxlen` exceeds the minimal size, which is `tot_size - 1`. -/
theorem tot3_le_of_high {frames : List Bytes} (hne : frames ≠ []) {maxlen : Int} {sd pad : Bool}
    (hl : ¬ useLow frames maxlen sd pad) (hfit : minSize sd (frames.map List.length) ≤ maxlen) :
    tot3 (frames.map List.length) (sdSize sd ((frames.map List.length).getLastD 0)) ≤ maxlen := by
  by_cases h2 : frames.length ≤ 2
  · have hp : pad = true ∧ minSize sd (frames.map List.length) < maxlen :=
      Decidable.byContradiction fun hc => hl ⟨h2, hc⟩
    have := (minSize_le_tot3 sd (frames.map List.length) (by simpa using hne)).2 (by simpa using h2)
    omega
  · rw [← minSize_eq_tot3 sd _ (by simp; omega)]; exact hfit

theorem outPacket_valid (toc : Nat) (frames : List Bytes) (hok : FramesOk toc frames) (maxlen : Int) (sd pad : Bool)
    (hfit : minSize sd (frames.map List.length) ≤ maxlen) :
    Valid (outPacket toc frames maxlen sd pad) := by
  unfold outPacket
  split
  · rename_i hlow
    exact lowPacket_valid hok hlow.1
  · rename_i hnl
    refine code3Packet_valid hok _ fun pd hpd => ?_
    cases pad with
    | false => simp at hpd
    | true =>
      simp only [if_true] at hpd
      have := tot3_le_of_high hok.ne hnl hfit
      exact padOf_ok _ (by omega) pd hpd

theorem lowPacket_len (toc : Nat) (frames : List Bytes) (hne : frames ≠ []) (h2 : frames.length ≤ 2) (sd : Bool) :
    ((serialize sd (lowPacket toc frames)).length : Int) = minSize sd (frames.map List.length) := by
  obtain ⟨hdr, _, hser, hlen⟩ := firstPass_low toc frames hne h2 sd 0
  rw [hser, ← hlen, sdSize_eq]
  simp only [List.length_append]
  push_cast
  omega

/-- Size of a serialised code-3 packet as the repacketizer counts it: `tot_size` before padding, plus the padding. -/
theorem code3Packet_len (toc : Nat) (frames : List Bytes) (hne : frames ≠ []) (sd : Bool) (pd : Option Pad) :
    ((serialize sd { toc := toc / 4 * 4 + 3, frames, vbr := isVbr (frames.map List.length), pad := pd }).length : Int) =
      tot3 (frames.map List.length) (sdSize sd ((frames.map List.length).getLastD 0)) +
        (padHdr pd).length + (padData pd).length := by
  rw [ser_code3 sd _ _ _ _ (by omega) hne, tot3_eq _ (by simpa using hne), sumN_map_length, sdSize_eq]
  simp only [List.length_append, List.length_cons, List.length_nil]
  cases pd <;> push_cast <;> omega

theorem highPacket_len (toc : Nat) (frames : List Bytes) (hne : frames ≠ []) (maxlen : Int) (sd pad : Bool)
    (hfit : tot3 (frames.map List.length) (sdSize sd ((frames.map List.length).getLastD 0)) ≤ maxlen) :
    ((serialize sd (highPacket toc frames maxlen sd pad)).length : Int) =
      if pad then maxlen else tot3 (frames.map List.length) (sdSize sd ((frames.map List.length).getLastD 0)) := by
  rw [highPacket, code3Packet_len toc frames hne]
  cases pad with
  | false => simp [padHdr, padData]
  | true =>
    have := padOf_size (maxlen - tot3 (frames.map List.length) (sdSize sd ((frames.map List.length).getLastD 0))) (by omega)
    simp only [if_true]
    omega

/-- Size of the emitted packet: the minimal size, or exactly `maxlen` when padding. -/
theorem outPacket_len (toc : Nat) (frames : List Bytes) (hne : frames ≠ []) (maxlen : Int) (sd pad : Bool)
    (hfit : minSize sd (frames.map List.length) ≤ maxlen) :
    ((serialize sd (outPacket toc frames maxlen sd pad)).length : Int) =
      if pad then maxlen else minSize sd (frames.map List.length) := by
  by_cases hl : useLow frames maxlen sd pad
  · rw [outPacket_low hl, lowPacket_len toc frames hne hl.1 sd]
    cases pad with
    | false => simp
    | true => simp only [if_true]; have := hl.2; simp at this; omega
  · rw [outPacket_high hl, highPacket_len toc frames hne maxlen sd pad (tot3_le_of_high hne hl hfit)]
    cases pad with
    | true => rfl
    | false =>
      simp only [Bool.false_eq_true, if_false]
      have h3 : 2 < frames.length := by
        apply Decidable.byContradiction; intro hc; exact hl ⟨by omega, by simp⟩
      rw [minSize_eq_tot3 sd _ (by simpa using h3)]

end Opus.RepackProofs

namespace Opus.RepackProofs
open Opus Opus.Framing Opus.FramingSpec Opus.FramingProofs Opus.Repack Opus.Ext

theorem flatMap_encLen_le (l : List Nat) : (l.flatMap encLen).length ≤ 2 * l.length := by
  induction l with
  | nil => simp
  | cons a as ih =>
    have := encLen_length_le a
    simp only [List.flatMap_cons, List.length_append, List.length_cons]; omega

theorem sumN_le (l : List Nat) (c : Nat) (h : ∀ x ∈ l, x ≤ c) : sumN l ≤ c * l.length := by
  induction l with
  | nil => simp
  | cons a as ih =>
    have h1 := h a (by simp)
    have := ih (fun x hx => h x (by simp [hx]))
    simp only [sumN_cons, List.length_cons, Nat.mul_add]; omega

/-- `tot_size` of the code-3 branch before padding: two header bytes, at most two length bytes and 1275 payload bytes
    per frame (the last frame has no length field). -/
theorem tot3_bounds (lens : List Nat) (hne : lens ≠ []) (h : ∀ x ∈ lens, x ≤ 1275) (tot0 : Int) :
    tot0 + 2 ≤ tot3 lens tot0 ∧ tot3 lens tot0 ≤ tot0 + 1277 * lens.length := by
  have hs := sumN_le lens 1275 h
  have hd := flatMap_encLen_le lens.dropLast
  have hdl : lens.dropLast.length = lens.length - 1 := List.length_dropLast
  have hpos : 0 < lens.length := List.length_pos_iff.mpr hne
  rw [tot3_eq lens hne]
  split
  · push_cast; omega
  · simp only [List.length_nil]; push_cast; omega

/-- `1277` bytes per frame always suffice (standard framing). -/
theorem minSize_le_1277 (lens : List Nat) (hne : lens ≠ []) (h : ∀ x ∈ lens, x ≤ 1275) :
    minSize false lens ≤ 1277 * lens.length := by
  match lens, hne with
  | [l0], _ => have := h l0 (by simp); simp [minSize, sdSize]; omega
  | [l0, l1], _ =>
    have := h l0 (by simp); have := h l1 (by simp)
    simp [minSize, sdSize]; split
    · omega
    · split <;> omega
  | l0 :: l1 :: l2 :: ls, _ =>
    have := (tot3_bounds (l0 :: l1 :: l2 :: ls) (by simp) h (sdSize false ((l0 :: l1 :: l2 :: ls).getLastD 0))).2
    rw [minSize_eq_tot3 false _ (by simp)]
    simpa [sdSize] using this

theorem allEq_isVbr (lens : List Nat) (h : allEq lens) : isVbr lens = false := by
  unfold isVbr
  apply List.any_eq_false.mpr
  intro x hx
  cases lens with
  | nil => cases hx
  | cons a as =>
    simp only [List.headD_cons]
    have := h x hx a (by simp)
    simp [this]

/-- Header and frames of a valid packet alone take at least the size the repacketizer uses; padding comes on top. -/
theorem minSize_le_header (sd : Bool) (p : Packet) (hv : Valid p) :
    minSize sd p.lens + (padBytes p).length ≤ ((serialize sd p).length : Int) := by
  obtain ⟨toc, frames, vbr, pad⟩ := p
  have h4 : toc % 4 < 4 := Nat.mod_lt _ (by decide)
  have hcases : toc % 4 = 0 ∨ toc % 4 = 1 ∨ toc % 4 = 2 ∨ toc % 4 = 3 := by omega
  rcases hcases with hc | hc | hc | hc
  · obtain ⟨hl, hvb, hp⟩ := hv.code0 hc
    simp only [] at hl hvb hp; subst hvb hp
    obtain ⟨f0, rfl⟩ := list_len1 frames hl
    rw [ser_code0 sd _ _ hc]
    simp [Packet.lens, minSize, sdSize_eq, padBytes]
  · obtain ⟨hl, hvb, hp, hae⟩ := hv.code1 hc
    simp only [] at hl hvb hp hae; subst hvb hp
    obtain ⟨f0, f1, rfl⟩ := list_len2 frames hl
    have heq : f1.length = f0.length := hae _ (by simp [Packet.lens]) _ (by simp [Packet.lens])
    rw [ser_code1 sd _ _ _ hc]
    simp [Packet.lens, minSize, sdSize_eq, heq, padBytes]; omega
  · obtain ⟨hl, hvb, hp⟩ := hv.code2 hc
    simp only [] at hl hvb hp; subst hvb hp
    obtain ⟨f0, f1, rfl⟩ := list_len2 frames hl
    rw [ser_code2 sd _ _ _ hc]
    have := encLen_length f0.length
    simp [Packet.lens, minSize, sdSize_eq, padBytes]
    split <;> omega
  · obtain ⟨hl, _, hcbr⟩ := hv.code3 hc
    simp only [Packet.lens] at hl hcbr
    have hne : frames ≠ [] := by intro h; simp [h] at hl
    have hlne : frames.map List.length ≠ [] := by simpa using hne
    rw [ser_code3 sd _ _ _ _ hc hne]
    have hm := minSize_le_tot3 sd (frames.map List.length) hlne
    have ht := tot3_eq (frames.map List.length) hlne (sdSize sd ((frames.map List.length).getLastD 0))
    rw [sumN_map_length] at ht
    have hsd := sdSize_eq sd ((frames.map List.length).getLastD 0)
    have hvv : isVbr (frames.map List.length) = true → vbr = true := by
      intro h
      cases hvb : vbr with
      | true => rfl
      | false => rw [allEq_isVbr _ (hcbr hvb)] at h; cases h
    have hpb : padBytes { toc := toc, frames := frames, vbr := vbr, pad := pad } = padData pad := by cases pad <;> rfl
    simp only [Packet.lens, List.length_append, List.length_cons, List.length_nil, hpb]
    push_cast
    have h1 := hm.1
    rw [ht] at h1
    cases hiv : isVbr (frames.map List.length) with
    | false => simp only [hiv, Bool.false_eq_true, if_false, List.length_nil] at h1; omega
    | true =>
      have := hvv hiv
      subst this
      simp only [hiv, if_true] at h1 ⊢
      omega

/-- No valid packet holding these frames is shorter than what the repacketizer emits. -/
theorem minSize_minimal (sd : Bool) (p : Packet) (hv : Valid p) :
    minSize sd p.lens ≤ ((serialize sd p).length : Int) := by
  have := minSize_le_header sd p hv; omega

/-- `x` is representable as `opus_int32`. -/
def I32 (x : Int) : Prop := -2147483648 ≤ x ∧ x ≤ 2147483647

end Opus.RepackProofs
