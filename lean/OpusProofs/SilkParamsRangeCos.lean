import OpusProofs.SilkParamsLpc
/-
  OpusProofs.SilkParamsRangeCos — the cosine interpolation of silk_NLSF2A (NLSF2A.c:93-111): for every NLSF value in
  [0, 32767] both table reads are in bounds, nothing wraps, and the interpolated `2*cos` lies in [-2, 2] (Q16).  With it
  silk_NLSF2A is its cosine vector `nlsf2aCosQA` followed by computation that cannot fail (`nlsf2a_bind`, the one place
  where `nlsf2a` is opened), from which `nlsf2a_spec` follows.  Core Lean only: OpusProofs/SilkParamsDec.lean rests on it.
-/
namespace Opus.SilkParams
open Opus Opus.Gen

/-! ### cosine table interpolation -/

theorem cosTab_len : SilkNlsf.lsfCosTabQ12.length = 129 := by decide +kernel

theorem cosTab_range : ∀ v ∈ SilkNlsf.lsfCosTabQ12, -8192 ≤ v ∧ v ≤ 8192 := by decide +kernel

/-- Every `opus_int32` value computed for one NLSF coefficient by NLSF2A.c:96-110, in program
    order: `f_int`, `silk_LSHIFT( f_int, 8 )`, `f_frac`, `silk_LSHIFT( cos_val, 8 )`, `delta`,
    `silk_MUL( delta, f_frac )`, the sum, the two steps of `silk_RSHIFT_ROUND( · , 4 )`. -/
def cosLsfTrace (nlsf cosVal nxt : Int) : List Int :=
  let fInt := nlsf / 256
  let fFrac := nlsf - fInt * 256
  let s := cosVal * 256 + (nxt - cosVal) * fFrac
  [fInt, fInt * 256, fFrac, cosVal * 256, nxt - cosVal, (nxt - cosVal) * fFrac, s, s / 8 + 1, rshiftRound s 4]

theorem interp_bound (c n fr : Int) (hc : -8192 ≤ c ∧ c ≤ 8192) (hn : -8192 ≤ n ∧ n ≤ 8192)
    (hf : 0 ≤ fr ∧ fr ≤ 255) :
    -2097152 ≤ c * 256 + (n - c) * fr ∧ c * 256 + (n - c) * fr ≤ 2097152 ∧
    -4177920 ≤ (n - c) * fr ∧ (n - c) * fr ≤ 4177920 := by
  -- `c * 256 + (n - c) * fr = c * (256 - fr) + n * fr` is a weighted mean of `c` and `n` with total weight 256
  have h1 := mul_abs_le hc (show -(256 - fr) ≤ 256 - fr ∧ 256 - fr ≤ 256 - fr by omega)
  have h2 := mul_abs_le hn (show -fr ≤ fr ∧ fr ≤ fr by omega)
  have h3 := mul_abs_le (show -16384 ≤ n - c ∧ n - c ≤ 16384 by omega) (show -255 ≤ fr ∧ fr ≤ 255 by omega)
  have e : c * 256 + (n - c) * fr = c * (256 - fr) + n * fr := by grind
  rw [e]
  exact ⟨by omega, by omega, h3.1, h3.2⟩

/-- One coefficient of the cosine interpolation: in-bounds table reads, no wrap, `|2cos| ≤ 2`. -/
theorem cosLsf_range (x : Int) (h0 : 0 ≤ x) (h1 : x ≤ 32767) :
    ∃ c cv nx, cosLsf x = .ok c ∧ getI SilkNlsf.lsfCosTabQ12 (x / 256) = .ok cv ∧
      getI SilkNlsf.lsfCosTabQ12 (x / 256 + 1) = .ok nx ∧
      (∀ v ∈ cosLsfTrace x cv nx, I32 v) ∧ -131072 ≤ c ∧ c ≤ 131072 := by
  obtain ⟨cv, hcv⟩ := getI_ok SilkNlsf.lsfCosTabQ12 (x / 256) (by omega) (by rw [cosTab_len]; omega)
  obtain ⟨nx, hnx⟩ := getI_ok SilkNlsf.lsfCosTabQ12 (x / 256 + 1) (by omega) (by rw [cosTab_len]; omega)
  have hc := cosTab_range cv (getI_mem hcv)
  have hn := cosTab_range nx (getI_mem hnx)
  have hfr : 0 ≤ x - x / 256 * 256 ∧ x - x / 256 * 256 ≤ 255 := by omega
  have hb := interp_bound cv nx (x - x / 256 * 256) hc hn hfr
  refine ⟨rshiftRound (cv * 256 + (nx - cv) * (x - x / 256 * 256)) 4, cv, nx, ?_, hcv, hnx, ?_, ?_⟩
  · unfold cosLsf shrI
    simp only [Int.reducePow, hcv, hnx, bind, Res.bind, pure]
    rw [lshift32_eq (a := x / 256) (n := 8) (by unfold I32; omega), lshift32_eq (a := cv) (n := 8) (by unfold I32; omega)]
    simp only [Int.reducePow]
  · simp only [cosLsfTrace, rshiftRound4, List.forall_mem_cons, forall_mem_nil_iff, and_true, I32]
    omega
  · rw [rshiftRound4]
    omega

theorem cosLsfAll_range : ∀ (l : List Int), (∀ e ∈ l, 0 ≤ e ∧ e ≤ 32767) →
    ∃ cs, cosLsfAll l = .ok cs ∧ cs.length = l.length ∧ ∀ c ∈ cs, -131072 ≤ c ∧ c ≤ 131072 := by
  intro l
  induction l with
  | nil => intro _; exact ⟨[], rfl, rfl, by simp⟩
  | cons x xs ih =>
    intro h
    obtain ⟨c, _, _, hc, _, _, _, hcr⟩ := cosLsf_range x (h x (by simp)).1 (h x (by simp)).2
    obtain ⟨cs, hcs, hl, hr⟩ := ih (fun e he => h e (by simp [he]))
    refine ⟨c :: cs, ?_, by simp [hl], ?_⟩
    · unfold cosLsfAll
      simp only [hc, hcs, bind, Res.bind, pure]
    · exact List.forall_mem_cons.mpr ⟨hcr, hr⟩

/-! ### silk_NLSF2A as a function of its cosine vector -/

/-- `cos_LSF_QA[]` of NLSF2A.c:93-111 (after the `ordering` permutation). -/
def nlsf2aCosQA (nlsf : List Int) : Res (List Int) := do
  let vals ← cosLsfAll nlsf
  let ordering := if nlsf.length = 16 then ordering16 else ordering10
  pure ((List.range nlsf.length).map fun j => vals.getD (ordering.idxOf j) 0)

/-- `a32_QA1[]` of NLSF2A.c:120-127, as the model computes it (unbounded final subtraction). -/
def nlsf2aA32 (nlsf : List Int) : Res (List Int) := do
  let c ← nlsf2aCosQA nlsf
  pure (nlsf2aPoly c)

theorem nlsf2aPoly_length (c : List Int) : (nlsf2aPoly c).length = 2 * (c.length / 2) := by
  unfold nlsf2aPoly
  simp only [List.length_append, List.length_map, List.length_range, List.length_reverse]
  omega

/-- The cosines, reordered: in-bounds table reads, no wrap, all in `[-2, 2]` (Q16). -/
theorem nlsf2aCosQA_range (nlsf : List Int) (hr : ∀ e ∈ nlsf, 0 ≤ e ∧ e ≤ 32767) :
    ∃ c, nlsf2aCosQA nlsf = .ok c ∧ c.length = nlsf.length ∧ ∀ f ∈ c, -131072 ≤ f ∧ f ≤ 131072 := by
  obtain ⟨cs, hcs, _, hb⟩ := cosLsfAll_range nlsf hr
  refine ⟨(List.range nlsf.length).map fun j =>
    cs.getD ((if nlsf.length = 16 then ordering16 else ordering10).idxOf j) 0, ?_, ?_, ?_⟩
  · unfold nlsf2aCosQA
    simp only [hcs, bind, Res.bind, pure]
  · simp
  · intro f hf
    simp only [List.mem_map, List.mem_range] at hf
    obtain ⟨j, _, rfl⟩ := hf
    exact getD_of_all hb (by omega) _

/-- `silk_NLSF2A`, and the instrumented function the driver evaluates (`tr=` field of the `nlsf2a` op: the result paired
    with the number of truncating casts), fail only where the cosine interpolation does. -/
theorem nlsf2a_bind (nlsf : List Int) (hd : nlsf.length = 10 ∨ nlsf.length = 16) :
    nlsf2a nlsf = (nlsf2aCosQA nlsf).bind (fun c => .ok (nlsf2aLoop SilkNlsf.maxLpcStabilizeIterations 0
      (lpcFit (nlsf2aPoly c) 5).2 (lpcFit (nlsf2aPoly c) 5).1)) ∧
    nlsf2aTr nlsf = (nlsf2aCosQA nlsf).bind (fun c => .ok (nlsf2aLoop SilkNlsf.maxLpcStabilizeIterations 0
      (lpcFit (nlsf2aPoly c) 5).2 (lpcFit (nlsf2aPoly c) 5).1, truncCount (nlsf2aCasts (nlsf2aPoly c)))) := by
  unfold nlsf2a nlsf2aTr nlsf2aCosQA
  simp only [if_neg (show ¬(nlsf.length ≠ 10 ∧ nlsf.length ≠ 16) by omega), bind, pure]
  -- `rfl` in place of `simp only [Res.bind]` would evaluate the stabilisation loop
  constructor <;> cases cosLsfAll nlsf <;> simp only [Res.bind]

/-- `silk_NLSF2A` is the model's `lpcFit` + stabilisation loop applied to `nlsf2aA32`. -/
theorem nlsf2a_eq (nlsf c : List Int) (hd : nlsf.length = 10 ∨ nlsf.length = 16)
    (hc : nlsf2aCosQA nlsf = .ok c) :
    nlsf2aA32 nlsf = .ok (nlsf2aPoly c) ∧
    nlsf2a nlsf = .ok (nlsf2aLoop SilkNlsf.maxLpcStabilizeIterations 0 (lpcFit (nlsf2aPoly c) 5).2
      (lpcFit (nlsf2aPoly c) 5).1) :=
  ⟨by unfold nlsf2aA32; simp only [hc, bind, Res.bind, pure], by rw [(nlsf2a_bind nlsf hd).1, hc]; rfl⟩

theorem nlsf2aTr_eq (nlsf c : List Int) (hd : nlsf.length = 10 ∨ nlsf.length = 16)
    (hc : nlsf2aCosQA nlsf = .ok c) :
    nlsf2aTr nlsf = .ok (nlsf2aLoop SilkNlsf.maxLpcStabilizeIterations 0 (lpcFit (nlsf2aPoly c) 5).2
      (lpcFit (nlsf2aPoly c) 5).1, truncCount (nlsf2aCasts (nlsf2aPoly c))) := by
  rw [(nlsf2a_bind nlsf hd).2, hc]; rfl

/-- `silk_NLSF2A` on any vector of 10 or 16 values in `[0, 32767]` (no ordering assumed, so
    interpolated vectors are covered). -/
theorem nlsf2a_spec (nlsf : List Int) (hd : nlsf.length = 10 ∨ nlsf.length = 16)
    (hr : ∀ e ∈ nlsf, 0 ≤ e ∧ e ≤ 32767) :
    ∃ a, nlsf2a nlsf = .ok a ∧ a.length = nlsf.length ∧ AllI16 a ∧ lpcInversePredGain a ≠ 0 := by
  obtain ⟨c, hc, hcl, -⟩ := nlsf2aCosQA_range nlsf hr
  have hpl : (nlsf2aPoly c).length = nlsf.length := by rw [nlsf2aPoly_length, hcl]; omega
  have hf := lpcFit_spec (nlsf2aPoly c) 5
  have := nlsf2aLoop_spec SilkNlsf.maxLpcStabilizeIterations 0 (lpcFit (nlsf2aPoly c) 5).2
    (lpcFit (nlsf2aPoly c) 5).1 (by decide) (by rw [hf.2.1, hpl]; exact hd)
    (by rw [hf.1, hf.2.1]) hf.2.2 (by intro h; exact absurd h (by decide))
  exact ⟨_, (nlsf2a_eq nlsf c hd hc).2, by rw [this.2.1, hf.2.1, hpl], this.2.2, this.1⟩

end Opus.SilkParams
