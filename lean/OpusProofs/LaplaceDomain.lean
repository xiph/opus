import OpusProofs.LaplaceSeq
/-
  OpusProofs.LaplaceDomain — `LaplaceOk fs decay` for every `0 < decay ≤ 11456` (the range documented at
  celt/laplace.c:43) and every `0 < fs ≤ 32736 = 32768 − LAPLACE_MINP·2·LAPLACE_NMIN` (beyond which the unsigned `ft` of
  `ec_laplace_get_freq1` wraps; the C file states no range for `fs`), not only for the pairs of the energy model.

  Idea.  With `c = 16384 − decay`:  `16384·F(j+1) ≤ decay·F j`, hence by telescoping
        c·L m + 32768·F m ≤ c·(fs + 2m) + 32768·F 0 ≤ c·(32736 + 2m)          (`L_telescope`, `getFreq1_le`)
  for every m.  Take an index m with `F m < 64` (`head_exists`); it can be chosen at most the length k of the dominating
  sequence started at `16384 − decay ≥ F 0`.  The rest of the sequence depends only on `(F m, decay)`, `F m < 64`, and is
  evaluated: `L T = L m + tailG decay 64 (F m)` (64 steps of fuel suffice below 64: the sequence strictly decreases).  So `L T ≤ 32766` follows from
        c·(2k + tailG decay 64 f) ≤ 30·c + 32768·f        for all f < 64,
  which is checked by the kernel on buckets of consecutive `decay` values (everything is monotone in `decay`, so one
  evaluation with the extreme values of the bucket covers it).
-/
namespace OpusProofs.Laplace
open Opus Opus.Laplace
open Opus.Gen.CeltTables (laplaceLogMinP laplaceMinP laplaceNMin)

theorem nmin_eq : laplaceNMin = 16 := by decide

/-- one step of the frequency sequence -/
def stepF (d x : Nat) : Nat := x * 2 * d / 32768

theorem F_succ (fs decay j : Nat) : F fs decay (j + 1) = stepF decay (F fs decay j) := rfl

theorem stepF_mono {d d2 x x2 : Nat} (hd : d ≤ d2) (hx : x ≤ x2) : stepF d x ≤ stepF d2 x2 :=
  Nat.div_le_div_right (Nat.mul_le_mul (Nat.mul_le_mul hx (Nat.le_refl 2)) hd)

theorem stepF_lt {d x : Nat} (hd : d < 16384) (hx : 0 < x) : stepF d x < x := by
  unfold stepF
  apply Nat.div_lt_of_lt_mul
  have : x * 2 * d < x * 2 * 16384 := Nat.mul_lt_mul_of_pos_left hd (by omega)
  omega

theorem stepF_drop (d x : Nat) : 16384 * stepF d x ≤ x * d := by
  have h := Nat.div_mul_le_self (x * 2 * d) 32768
  have e : x * 2 * d = x * d * 2 := Nat.mul_right_comm x 2 d
  unfold stepF
  omega

theorem getFreq1_le {fs decay : Nat} (hfs : fs ≤ 32736) (hd : decay ≤ 16384) :
    32768 * getFreq1 fs decay ≤ (32736 - fs) * (16384 - decay) := by
  unfold getFreq1
  simp only [minP_eq, nmin_eq]
  have e1 : (4294967296 + 32768 - 1 * (2 * 16) - fs) % 4294967296 = 32736 - fs := by omega
  have e2 : (4294967296 + 16384 - decay) % 4294967296 = 16384 - decay := by omega
  rw [e1, e2]
  have hb : (32736 - fs) * (16384 - decay) ≤ 32736 * 16384 := Nat.mul_le_mul (by omega) (by omega)
  rw [Nat.mod_eq_of_lt (by omega)]
  exact Nat.mul_div_le _ _

/-- telescoped bound on `L m` -/
theorem L_telescope (fs decay c : Nat) (hc : c + decay = 16384) : ∀ m,
    c * L fs decay m + 32768 * F fs decay m ≤ c * (fs + 2 * m) + 32768 * F fs decay 0 := by
  intro m
  induction m with
  | zero => simp only [L, Nat.mul_zero, Nat.add_zero]; exact Nat.le_refl _
  | succ m ih =>
    have h1 := stepF_drop decay (F fs decay m)
    rw [← F_succ] at h1
    have h2 : c * F fs decay m + decay * F fs decay m = 16384 * F fs decay m := by rw [← Nat.add_mul, hc]
    have h3 : F fs decay m * decay = decay * F fs decay m := Nat.mul_comm _ _
    have h4 : c * L fs decay (m + 1) = c * L fs decay m + c * F fs decay m * 2 + c * 2 := by
      simp only [L, Nat.mul_add, Nat.mul_assoc]
    have h5 : c * (fs + 2 * (m + 1)) = c * (fs + 2 * m) + c * 2 := by
      rw [show fs + 2 * (m + 1) = fs + 2 * m + 2 by omega, Nat.mul_add]
    omega

/-! ## The tail of the sequence as a function of its current value -/

/-- `Σ (2·f + 2)` over the remaining positive terms of the sequence started at `f`. -/
def tailG (d : Nat) : Nat → Nat → Nat
  | 0, _ => 0
  | fuel + 1, f => if f = 0 then 0 else f * 2 + 2 + tailG d fuel (stepF d f)

theorem tail_exists {fs decay : Nat} (hd : decay < 16384) : ∀ fuel m, F fs decay m < fuel →
    ∃ T, m ≤ T ∧ F fs decay T = 0 ∧ (∀ i, m ≤ i → i < T → 0 < F fs decay i) ∧
      L fs decay T = L fs decay m + tailG decay fuel (F fs decay m) := by
  intro fuel
  induction fuel with
  | zero => intro m h; omega
  | succ fuel ih =>
    intro m h
    by_cases h0 : F fs decay m = 0
    · exact ⟨m, Nat.le_refl _, h0, fun i h1 h2 => by omega, by simp [tailG, h0]⟩
    · have hlt := stepF_lt hd (Nat.pos_of_ne_zero h0)
      rw [← F_succ] at hlt
      obtain ⟨T, h1, h2, h3, h4⟩ := ih (m + 1) (by omega)
      refine ⟨T, by omega, h2, fun i hi1 hi2 => ?_, ?_⟩
      · by_cases e : i = m
        · subst e; exact Nat.pos_of_ne_zero h0
        · exact h3 i (by omega) hi2
      · rw [h4]
        simp only [tailG, h0, if_false, L, F_succ]
        omega

theorem tailG_mono {d d2 : Nat} (hd : d ≤ d2) : ∀ fuel f f2, f ≤ f2 → tailG d fuel f ≤ tailG d2 fuel f2 := by
  intro fuel
  induction fuel with
  | zero => intro f f2 _; exact Nat.le_refl _
  | succ fuel ih =>
    intro f f2 h
    simp only [tailG]
    by_cases h0 : f = 0
    · simp [h0]
    · have : f2 ≠ 0 := by omega
      rw [if_neg h0, if_neg this]
      have := ih (stepF d f) (stepF d2 f2) (stepF_mono hd h)
      omega

/-! ## The head: how long the sequence can stay ≥ 64 -/

/-- number of steps of the sequence started at `x` until it drops below 64 -/
def headK (d : Nat) : Nat → Nat → Option Nat
  | 0, _ => none
  | fuel + 1, x =>
    if x < 64 then some 0 else
      match headK d fuel (stepF d x) with
      | some k => some (k + 1)
      | none => none

theorem head_exists {fs decay d2 : Nat} (hd : decay ≤ d2) : ∀ fuel j x k, headK d2 fuel x = some k →
    F fs decay j ≤ x → ∃ m, j ≤ m ∧ m ≤ j + k ∧ F fs decay m < 64 := by
  intro fuel
  induction fuel with
  | zero => intro j x k h; simp [headK] at h
  | succ fuel ih =>
    intro j x k h hx
    simp only [headK] at h
    by_cases hlt : x < 64
    · exact ⟨j, Nat.le_refl _, by omega, by omega⟩
    · rw [if_neg hlt] at h
      split at h
      · rename_i k' hk'
        injection h with h
        have hstep : F fs decay (j + 1) ≤ stepF d2 x := by rw [F_succ]; exact stepF_mono hd hx
        obtain ⟨m, h1, h2, h3⟩ := ih (j + 1) (stepF d2 x) k' hk' hstep
        exact ⟨m, by omega, by omega, h3⟩
      · cases h

/-! ## The kernel-checked inequality -/

/-- For every `decay ∈ [d1, d2]` and every `f < 64`: `c·(2k + tailG decay f) ≤ 30·c + 32768·f`. -/
def bucketOk (d1 d2 : Nat) : Bool :=
  match headK d2 64 (16384 - d1) with
  | some k => (List.range 64).all fun f =>
      Nat.ble (2 * k + tailG d2 64 f) 30 || Nat.ble ((2 * k + tailG d2 64 f - 30) * (16384 - d1)) (32768 * f)
  | none => false

/-- buckets `a, a+1, …, a+n-1` of `w` consecutive `decay` values each -/
def bucketsFrom (w a n : Nat) : Bool := (List.range n).all fun i => bucketOk (w * (a + i) + 1) (w * (a + i) + w)

-- The slack of the inequality shrinks as `decay` grows, so the buckets get narrower: 74 buckets cover decay = 1 … 11456.
theorem buckets_0 : bucketsFrom 1024 0 5 = true := by decide +kernel
theorem buckets_1 : bucketsFrom 256 20 13 = true := by decide +kernel
theorem buckets_2 : bucketsFrom 64 132 38 = true := by decide +kernel
theorem buckets_3 : bucketsFrom 32 340 18 = true := by decide +kernel

theorem bucket_of_chunk {w a n decay : Nat} (h : bucketsFrom w a n = true) (hw : 0 < w) (h1 : w * a < decay)
    (h2 : decay ≤ w * (a + n)) : ∃ d1 d2, d1 ≤ decay ∧ decay ≤ d2 ∧ bucketOk d1 d2 = true := by
  simp only [bucketsFrom, List.all_eq_true, List.mem_range] at h
  have hi1 : a ≤ (decay - 1) / w := (Nat.le_div_iff_mul_le hw).2 (by rw [Nat.mul_comm]; omega)
  have hi2 : (decay - 1) / w < a + n := (Nat.div_lt_iff_lt_mul hw).2 (by rw [Nat.mul_comm]; omega)
  have hm := Nat.div_add_mod (decay - 1) w
  have hl := Nat.mod_lt (decay - 1) hw
  have hb := h ((decay - 1) / w - a) (by omega)
  rw [show a + ((decay - 1) / w - a) = (decay - 1) / w by omega] at hb
  exact ⟨_, _, by omega, by omega, hb⟩

theorem bucket_cover {decay : Nat} (h3 : 0 < decay) (h4 : decay ≤ 11456) :
    ∃ d1 d2, d1 ≤ decay ∧ decay ≤ d2 ∧ bucketOk d1 d2 = true := by
  by_cases h0 : decay ≤ 5120
  · exact bucket_of_chunk buckets_0 (by omega) (by omega) (by omega)
  · by_cases h1 : decay ≤ 8448
    · exact bucket_of_chunk buckets_1 (by omega) (by omega) (by omega)
    · by_cases h2 : decay ≤ 10880
      · exact bucket_of_chunk buckets_2 (by omega) (by omega) (by omega)
      · exact bucket_of_chunk buckets_3 (by omega) (by omega) (by omega)

/-- The arithmetic of the last step.  `hA`: the telescoped bound at an index `m ≤ k` with `F m < 64`; `hchk`: the
    checked inequality for the rest `G ≥ g` of the sequence, with `c ≤ c1`. -/
theorem room_of_check {c c1 Lm Fm g G k m : Nat} (hc : 0 < c) (hc1 : c ≤ c1) (hmk : m ≤ k) (hgG : g ≤ G)
    (hA : c * Lm + 32768 * Fm ≤ c * (32736 + 2 * m))
    (hchk : 2 * k + G ≤ 30 ∨ (2 * k + G - 30) * c1 ≤ 32768 * Fm) : Lm + g ≤ 32766 := by
  apply Nat.le_of_mul_le_mul_left _ hc
  have e1 : c * (Lm + g) ≤ c * Lm + c * G := by
    rw [Nat.mul_add]; exact Nat.add_le_add_left (Nat.mul_le_mul_left _ hgG) _
  by_cases hsmall : 2 * k + G ≤ 30
  · have e2 : c * (32736 + 2 * m) + c * G ≤ c * 32766 := by
      rw [← Nat.mul_add]; exact Nat.mul_le_mul_left _ (by omega)
    omega
  · have hB : (2 * k + G - 30) * c1 ≤ 32768 * Fm := hchk.resolve_left hsmall
    have hE : (2 * k + G - 30) * c ≤ (2 * k + G - 30) * c1 := Nat.mul_le_mul_left _ hc1
    have e3 : c * (32736 + 2 * m) + c * G ≤ c * 32766 + (2 * k + G - 30) * c := by
      rw [Nat.mul_comm (2 * k + G - 30) c, ← Nat.mul_add, ← Nat.mul_add]; exact Nat.mul_le_mul_left _ (by omega)
    omega

/-- For `0 < fs ≤ 32736` and `0 < decay ≤ 11456` the sequence reaches 0 with room for the tail. -/
theorem par_of_domain {fs decay : Nat} (h1 : 0 < fs) (h2 : fs ≤ 32736) (h3 : 0 < decay) (h4 : decay ≤ 11456) :
    ∃ T, Par fs decay T := by
  obtain ⟨d1, d2, hlo, hhi, hb⟩ := bucket_cover h3 h4
  unfold bucketOk at hb
  split at hb
  · rename_i k hk
    simp only [List.all_eq_true, List.mem_range, Bool.or_eq_true, Nat.ble_eq] at hb
    have hg : 32768 * F fs decay 0 ≤ (32736 - fs) * (16384 - decay) := getFreq1_le (fs := fs) (decay := decay) h2 (by omega)
    have hF0 : F fs decay 0 ≤ 16384 - d1 := by
      have : (32736 - fs) * (16384 - decay) ≤ 32768 * (16384 - decay) := Nat.mul_le_mul_right _ (by omega)
      have : 32768 * F fs decay 0 ≤ 32768 * (16384 - decay) := Nat.le_trans hg this
      have := Nat.le_of_mul_le_mul_left this (by omega)
      omega
    obtain ⟨m, _, hmk, hFm⟩ := head_exists (fs := fs) hhi 64 0 (16384 - d1) k hk hF0
    obtain ⟨T, _, hz, _, hLT⟩ := tail_exists (fs := fs) (decay := decay) (by omega) 64 m hFm
    -- `Par.pos` speaks of every index from 0, so the witness is the first zero `T0` counted from 0; the zero `T` found
    -- from `m` (where `L T` is known) is not before it, and `L` is monotone
    obtain ⟨T0, _, hz0, hpos0, _⟩ := tail_exists (fs := fs) (decay := decay) (by omega) (F fs decay 0 + 1) 0 (by omega)
    have hT0 : T0 ≤ T := Nat.le_of_not_lt fun hlt => Nat.lt_irrefl 0 (hz ▸ hpos0 T (Nat.zero_le _) hlt)
    have hLmono := L_mono fs decay hT0
    refine ⟨T0, h1, hz0, fun i hi => hpos0 i (Nat.zero_le _) hi, Nat.le_trans hLmono ?_⟩
    · rw [hLT]
      obtain ⟨c, hc⟩ : ∃ c, c + decay = 16384 := ⟨16384 - decay, by omega⟩
      have hinv := L_telescope fs decay c hc m
      rw [show 16384 - decay = c by omega] at hg
      have hsum : c * (fs + 2 * m) + (32736 - fs) * c = c * (32736 + 2 * m) := by
        rw [Nat.mul_comm (32736 - fs) c, ← Nat.mul_add]; congr 1; omega
      exact room_of_check (c := c) (c1 := 16384 - d1) (m := m) (by omega) (by omega) (by omega)
        (tailG_mono hhi 64 _ _ (Nat.le_refl _)) (by omega) (hb _ hFm)
  · cases hb

/-! ## `Par` gives the decidable `LaplaceOk` -/

theorem L_ge (fs decay : Nat) : ∀ j, fs + 2 * j ≤ L fs decay j := by
  intro j
  induction j with
  | zero => simp [L]
  | succ j ih => simp only [L]; omega

theorem tailStart_of_par {fs decay T : Nat} (hp : Par fs decay T) : ∀ fuel j, j ≤ T → T - j < fuel →
    tailStart decay fuel j (L fs decay j) (F fs decay j) = some (T, L fs decay T) := by
  intro fuel
  induction fuel with
  | zero => intro j _ h; omega
  | succ fuel ih =>
    intro j hj hf
    simp only [tailStart]
    by_cases e : j = T
    · subst e; rw [if_pos hp.zero]
    · have := hp.pos j (by omega)
      rw [if_neg (by omega)]
      exact ih (j + 1) (by omega) (by omega)

theorem ok_of_par {fs decay T : Nat} (hp : Par fs decay T) : LaplaceOk fs decay = true := by
  have hT : T < 32768 := by have := L_ge fs decay T; have := hp.room; omega
  have h := tailStart_of_par hp 32768 0 (Nat.zero_le _) (by omega)
  simp only [L, F] at h
  simp only [LaplaceOk, h, Bool.and_eq_true, decide_eq_true_eq]
  exact ⟨hp.fs_pos, hp.room⟩

theorem laplaceOk_domain {fs decay : Nat} (h1 : 0 < fs) (h2 : fs ≤ 32736) (h3 : 0 < decay) (h4 : decay ≤ 11456) :
    LaplaceOk fs decay = true := by
  obtain ⟨T, hp⟩ := par_of_domain h1 h2 h3 h4
  exact ok_of_par hp

end OpusProofs.Laplace
