import OpusModel.DelayChannels
import OpusProofs.Layout
/-
  OpusProofs.DelayChannels — channel identity of the multistream routing (property C04, clause
  "channels keep their identity: left stays left, no swap").

  The multistream *encoder* fills stream `s` from the input channels
      left  = get_left_channel (layout, s, -1),  right = get_right_channel(layout, s, -1)   (coupled stream)
      chan  = get_mono_channel (layout, s, -1)                                               (mono stream)
  (src/opus_multistream_encoder.c:942-943, 961), i.e. from the *first* channel whose mapping byte designates that
  stream and side.  The multistream *decoder* writes into output channel `c` the stream and side its mapping byte
  designates (`Opus.Layout.expectedSrc`; that the routing loop of opus_multistream_decode_native delivers exactly
  this is property C10's theorem `OpusProps.C10.routing` / `routing_pcm`, about the same model).

  Here: the two selections are inverse to each other, because the encoder looks up the byte of a stream side (`byteOf`),
  the decoder decodes the byte it finds (`Opus.Layout.srcOfValue`), and the two codings are inverse (`byteOf_srcOfValue`,
  `srcOfValue_byteOf`).
    * `encoderInput_expectedSrc` : output channel `c` receives the (stream, side) that the encoder filled from input
      channel `c` itself — for every channel whose mapping byte is not 255 and does not repeat an earlier one;
    * `srcOfValue_byteOf` gives the converse (`OpusProps.C04.stream_side_identity`): the (stream, side) the encoder fills from
      channel `c` is what the decoder writes to channel `c`, for every stream of every layout both validators accept.
  `OpusModel.Layout` is property C10's model; `encoderInput` and the Boolean checks are in `OpusModel.DelayChannels`.
-/
namespace Opus.DelayChannels
open Opus Opus.Layout

/-- The scan returns the position of the first occurrence (two first occurrences coincide). -/
theorem scanFrom_first (target : Nat) : ∀ (xs : List Nat) (i k : Nat),
    xs[k]? = some target → (∀ j, j < k → xs[j]? ≠ some target) → scanFrom target xs i = ((i + k : Nat) : Int) :=
  fun xs i k hk hf => by
  rcases scanFrom_spec target xs i with ⟨_, hn⟩ | ⟨k', h, hk', hf'⟩
  · exact absurd (List.mem_of_getElem? hk) hn
  · rcases Nat.lt_trichotomy k k' with hlt | rfl | hlt
    · exact absurd hk (hf' k hlt)
    · exact h
    · exact absurd hk' (hf k' hlt)

/-- A successful scan points at an occurrence of the target. -/
theorem scanFrom_hit (target : Nat) : ∀ (xs : List Nat) (i : Nat) (r : Int),
    scanFrom target xs i = r → r ≠ -1 → ∃ k, r = ((i + k : Nat) : Int) ∧ xs[k]? = some target :=
  fun xs i r h hr => by
  rcases scanFrom_spec target xs i with ⟨h', _⟩ | ⟨k, h', hk, _⟩
  · exact absurd (h.symm.trans h') hr
  · exact ⟨k, h.symm.trans h', hk⟩

theorem findChannel_from_start (l : ChannelLayout) (target : Nat) :
    findChannel l target (-1) = scanFrom target (l.mapping.take l.nbChannels) 0 := by
  unfold findChannel
  simp

theorem take_get (l : ChannelLayout) (c : Nat) (hc : c < l.nbChannels) :
    (l.mapping.take l.nbChannels)[c]? = l.mapping[c]? := by
  rw [List.getElem?_take]; simp [hc]

/-- First-occurrence form of `findChannel`. -/
theorem findChannel_eq_of_first (l : ChannelLayout) (c v : Nat) (hc : c < l.nbChannels)
    (hv : l.mapping[c]? = some v) (hfirst : ∀ j, j < c → l.mapping[j]? ≠ some v) :
    findChannel l v (-1) = (c : Int) := by
  rw [findChannel_from_start, scanFrom_first v _ 0 c (by rw [take_get l c hc]; exact hv)
    (fun j hj => by rw [take_get l j (by omega)]; exact hfirst j hj)]
  simp

/-- The sides of the streams of a layout: `left s`/`right s` for coupled streams, `mono s` for the others. -/
def IsStreamSide (l : ChannelLayout) : Src → Prop
  | .left s => s < l.nbCoupled
  | .right s => s < l.nbCoupled
  | .mono s => l.nbCoupled ≤ s ∧ s < l.nbStreams
  | .zero => False

/-- The mapping byte that designates a stream side (RFC 7845 §5.1.1); `Opus.Layout.srcOfValue` goes the other way. -/
def byteOf (l : ChannelLayout) : Src → Nat
  | .left s => s * 2
  | .right s => s * 2 + 1
  | .mono s => s + l.nbCoupled
  | .zero => 255

theorem encoderInput_eq (l : ChannelLayout) (src : Src) (h : src ≠ .zero) :
    encoderInput l src = findChannel l (byteOf l src) (-1) := by
  cases src <;> first | rfl | exact absurd rfl h

theorem byteOf_srcOfValue (l : ChannelLayout) (v : Nat) (h : v ≠ 255) :
    byteOf l (srcOfValue l v) = v ∧ srcOfValue l v ≠ .zero := by
  unfold srcOfValue
  rw [if_neg h]
  split
  · split <;> exact ⟨by simp only [byteOf]; omega, Src.noConfusion⟩
  · exact ⟨by simp only [byteOf]; omega, Src.noConfusion⟩

theorem srcOfValue_byteOf (l : ChannelLayout) (src : Src) (hs : IsStreamSide l src) (hcs : l.nbCoupled ≤ l.nbStreams)
    (h255 : l.nbStreams + l.nbCoupled ≤ 255) : srcOfValue l (byteOf l src) = src := by
  cases src with
  | zero => exact hs.elim
  | left s =>
    have : s < l.nbCoupled := hs
    show srcOfValue l (s * 2) = _
    unfold srcOfValue
    rw [if_neg (by omega), if_pos (by omega), if_pos (by omega), Nat.mul_div_cancel s (by decide)]
  | right s =>
    have : s < l.nbCoupled := hs
    show srcOfValue l (s * 2 + 1) = _
    unfold srcOfValue
    rw [if_neg (by omega), if_pos (by omega), if_neg (by omega)]
    congr 1; omega
  | mono s =>
    have : l.nbCoupled ≤ s ∧ s < l.nbStreams := hs
    show srcOfValue l (s + l.nbCoupled) = _
    unfold srcOfValue
    rw [if_neg (by omega), if_neg (by omega), Nat.add_sub_cancel]

theorem encoderInput_expectedSrc (l : ChannelLayout) (c v : Nat) (hc : c < l.nbChannels)
    (hv : l.mapping[c]? = some v) (h255 : v ≠ 255) (hfirst : ∀ j, j < c → l.mapping[j]? ≠ some v) :
    encoderInput l (expectedSrc l c) = (c : Int) := by
  obtain ⟨hb, hz⟩ := byteOf_srcOfValue l v h255
  rw [expectedSrc_eq l c v ((take_get l c hc).trans hv), encoderInput_eq l _ hz, hb]
  exact findChannel_eq_of_first l c v hc hv hfirst

end Opus.DelayChannels
