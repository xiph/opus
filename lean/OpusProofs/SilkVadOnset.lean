import OpusProofs.SilkVadFilt
import OpusProofs.Dtx
/-
  OpusProofs.SilkVadOnset — digital silence at the VAD input: what one all-zero frame does to the filter memories,
  `HPstate` and `XnrgSubfr`, and the decision on zero band energies; silence becomes inactive after at most 7 frames,
  from any state satisfying the invariant with bounded filter memories, for every frame length of at least 80 samples
  (all SILK configurations: 8/12/16 kHz x 10/20 ms), and stays inactive; composed with the SILK `noSpeechCounter`
  machine (behind C20 `silk_dtx_onset_on_silence`): SILK's DTX starts within 10 + 7 frames.
-/
namespace Opus.SilkVad
open Opus Opus.SilkParams

abbrev zeros (n : Nat) : List Int := List.replicate n 0

/-- `stB` as a natural number, for the contraction counts `decN`. -/
def stBn : Nat := 150000000

theorem stBn_cast : ((stBn : Nat) : Int) = stB := rfl

theorem bands_ana0 (st : VadState) (len : Nat) (p : List Int) :
    (bands st len p).1.ana0 = (anaFilt st.ana0 (p.take len)).1 := rfl
theorem bands_ana1 (st : VadState) (len : Nat) (p : List Int) :
    (bands st len p).1.ana1 = (anaFilt st.ana1 ((anaFilt st.ana0 (p.take len)).2.1.take (len / 2))).1 := rfl
theorem bands_ana2 (st : VadState) (len : Nat) (p : List Int) :
    (bands st len p).1.ana2 = (anaFilt st.ana2 ((anaFilt st.ana1 ((anaFilt st.ana0 (p.take len)).2.1.take (len / 2))).2.1.take (len / 4))).1 := rfl
theorem bands_hp (st : VadState) (len : Nat) (p : List Int) :
    (bands st len p).1.hp = hpLast st.hp ((anaFilt st.ana2 ((anaFilt st.ana1 ((anaFilt st.ana0 (p.take len)).2.1.take (len / 2))).2.1.take (len / 4))).2.1.take (len / 8)) := rfl

theorem subEnergy_zero (l : List Int) (h : ∀ x ∈ l, x = 0) : subEnergy l = 0 := by
  induction l with
  | nil => rfl
  | cons x rest ih =>
    have hx := h x (by simp)
    subst hx
    simp only [subEnergy, ih (fun y hy => h y (by simp [hy]))]
    decide

theorem bandEnergy_zeros (carry : Int) (m len : Nat) (hc : NonNeg32 carry) :
    bandEnergy carry (zeros m) len = (carry, 0) := by
  unfold NonNeg32 at hc
  have hz : ∀ d n, subEnergy (((zeros m).drop d).take n) = 0 := fun d n =>
    subEnergy_zero _ (fun x hx => List.eq_of_mem_replicate (List.mem_of_mem_drop (List.mem_of_mem_take hx)))
  have ha : addPosSat32 carry 0 = carry := by rw [addPosSat32_spec carry 0 hc (by omega)]; omega
  unfold bandEnergy
  simp only [hz, show shrI 0 1 = 0 by decide, ha]

/-- The look-ahead sub-frame of a signal that is zero after its first sample is zero. -/
theorem bandEnergy_head (carry v : Int) (m len : Nat) (hl : 4 ≤ len) :
    (bandEnergy carry (v :: zeros m) len).2 = 0 := by
  unfold bandEnergy
  simp only
  apply subEnergy_zero
  intro x hx
  have hx' := List.mem_of_mem_take hx
  have : 3 * (len / 4) = (3 * (len / 4) - 1) + 1 := by omega
  rw [this, List.drop_succ_cons] at hx'
  exact List.eq_of_mem_replicate (List.mem_of_mem_drop hx')

theorem hpDiff_zeros (m : Nat) : hpDiff 0 (zeros m) = zeros m := by
  induction m with
  | zero => rfl
  | succ m ih =>
    rw [show zeros (m + 1) = 0 :: zeros m from List.replicate_succ]
    simp only [hpDiff]
    have h0 : shrI 0 1 = 0 := by decide
    rw [h0, ih]; rfl

theorem hpDiff_zeros_hp (hp : Int) (m : Nat) : hpDiff hp (zeros (m + 1)) = (-hp) :: zeros m := by
  rw [show zeros (m + 1) = 0 :: zeros m from List.replicate_succ]
  simp only [hpDiff]
  have h0 : shrI 0 1 = 0 := by decide
  rw [h0, hpDiff_zeros]; simp

theorem hpLast_zeros (hp : Int) (m : Nat) : hpLast hp (zeros (m + 1)) = 0 := by
  unfold hpLast
  have : (zeros (m + 1)).getLast? = some 0 := by
    simp [zeros, List.getLast?_replicate]
  rw [this]; show shrI 0 1 = 0; decide

theorem snrBand_zero (nl w tilt : Int) (hn : 1 ≤ nl) : snrBand 0 nl w tilt = (256, 0, tilt) := by
  unfold snrBand
  simp only
  rw [if_neg (by omega)]

/-- With all four band energies zero (and `NL ≥ 1`) the speech activity is 2 (Q8), below the DTX
    threshold 13. -/
theorem decision_zero (st2 : VadState) (fs len : Nat) (hn : st2.nl.all (fun x => 1 ≤ x ∧ x ≤ 16777215)) :
    (decision st2 ⟨0, 0, 0, 0⟩ fs len).speechActivityQ8 = 2 := by
  unfold Q4.all at hn
  have hs : snrStage st2.nl ⟨0, 0, 0, 0⟩ = (589, 0, ⟨256, 256, 256, 256⟩) := by
    unfold snrStage
    simp only [snrBand_zero _ _ _ hn.1.1, snrBand_zero _ _ _ hn.2.1.1, snrBand_zero _ _ _ hn.2.2.1.1, snrBand_zero _ _ _ hn.2.2.2.1]
    decide +kernel
  unfold decision
  simp only [hs]
  have hp : powerScale 589 st2.nl ⟨0, 0, 0, 0⟩ (decide (len = 20 * fs)) = 294 := by
    unfold powerScale
    simp only
    have h0 : shrI (0 - st2.nl.b0) 4 ≤ -1 := by unfold shrI; omega
    have h1 : shrI (0 - st2.nl.b1) 4 ≤ -1 := by unfold shrI; omega
    have h2 : shrI (0 - st2.nl.b2) 4 ≤ -1 := by unfold shrI; omega
    have h3 : shrI (0 - st2.nl.b3) 4 ≤ -1 := by unfold shrI; omega
    generalize shrI (0 - st2.nl.b0) 4 = t0 at *
    generalize shrI (0 - st2.nl.b1) 4 = t1 at *
    generalize shrI (0 - st2.nl.b2) 4 = t2 at *
    generalize shrI (0 - st2.nl.b3) 4 = t3 at *
    have hle : (if decide (len = 20 * fs) = true then shrI (1 * t0 + 2 * t1 + 3 * t2 + 4 * t3) 1 else 1 * t0 + 2 * t1 + 3 * t2 + 4 * t3) ≤ 0 := by
      split
      · unfold shrI; omega
      · omega
    rw [if_pos hle]; decide
  rw [hp]; decide

/-- The invariant together with bounds on the three filter memories. -/
structure Lvl (st : VadState) (a0 a1 a2 : Nat) : Prop where
  inv : VadInv st
  b0 : AbsLe st.ana0 a0
  b1 : AbsLe st.ana1 a1
  b2 : AbsLe st.ana2 a2

/-- One call of `silk_VAD_GetSA_Q8_c` on an all-zero frame of `8·j` samples. -/
def stepZ (st : VadState) (fs j : Nat) : VadOut :=
  decision (getNoiseLevels (bands st (8 * j) (zeros (8 * j))).2 (bands st (8 * j) (zeros (8 * j))).1)
    (bands st (8 * j) (zeros (8 * j))).2 fs (8 * j)

theorem getSA_zero (st : VadState) (fs j : Nat) (hj : j ≤ 64) :
    getSA st fs (8 * j) (zeros (8 * j)) = .ok (stepZ st fs j) := by
  unfold getSA
  rw [if_neg (by omega), if_neg (by simp)]
  rfl

theorem take_zeros (n : Nat) : (zeros n).take n = zeros n := by simp [zeros]

theorem absLe_mono (s : Int × Int) (a b : Nat) (h : AbsLe s a) (hab : a ≤ b) : AbsLe s b := by
  unfold AbsLe at *; omega

theorem lvl_mono (st : VadState) (a0 a1 a2 b0 b1 b2 : Nat) (h : Lvl st a0 a1 a2) (h0 : a0 ≤ b0) (h1 : a1 ≤ b1) (h2 : a2 ≤ b2) :
    Lvl st b0 b1 b2 :=
  ⟨h.inv, absLe_mono _ _ _ h.b0 h0, absLe_mono _ _ _ h.b1 h1, absLe_mono _ _ _ h.b2 h2⟩

theorem bands_lvl (st : VadState) (h : Lvl st stBn stBn stBn) (len : Nat) (pIn : List Int) (h16 : ∀ x ∈ pIn, I16 x) :
    AbsLe (bands st len pIn).1.ana0 stB ∧ AbsLe (bands st len pIn).1.ana1 stB ∧ AbsLe (bands st len pIn).1.ana2 stB := by
  rw [bands_ana0, bands_ana1, bands_ana2]
  exact ⟨anaFilt_bnd _ _ h.b0 (fun x hx => h16 x (List.mem_of_mem_take hx)),
    anaFilt_bnd _ _ h.b1 (fun x hx => (anaFilt_i16 _ _).1 x (List.mem_of_mem_take hx)),
    anaFilt_bnd _ _ h.b2 (fun x hx => (anaFilt_i16 _ _).1 x (List.mem_of_mem_take hx))⟩

/-- One stage of the filter bank within an all-zero frame, `q` saying that the stages before it pass zeros on: fed `2n` zeros
    its memory contracts `n` times and, from at most 800, it passes zeros on in turn; fed int16 samples its memory stays
    within `stB`. -/
theorem anaFilt_stage (q : Prop) [Decidable q] (n : Nat) (s : Int × Int) (a : Nat) (l : List Int) (ha : a ≤ stBn)
    (hs : AbsLe s a) (hl : ∀ x ∈ l, I16 x) (hq : q → l = zeros (2 * n)) :
    AbsLe (anaFilt s l).1 (if q then decN n a else stBn : Nat) ∧ (q → a ≤ 800 → (anaFilt s l).2 = (zeros n, zeros n)) := by
  have hB : (a : Int) ≤ stB := by have := stBn_cast; omega
  by_cases c : q
  · rw [if_pos c, hq c]
    exact ⟨(anaFilt_zero n s a hB hs).1, fun _ => (anaFilt_zero n s a hB hs).2⟩
  · rw [if_neg c]
    exact ⟨anaFilt_bnd s l (absLe_mono s a stBn hs ha) hl, fun h => absurd h c⟩

/-- What an all-zero frame does to the filter memories, `HPstate`, `XnrgSubfr` and the activity. -/
theorem zero_frame (st : VadState) (fs j : Nat) (hj : 10 ≤ j ∧ j ≤ 64) (a0 a1 a2 : Nat)
    (h0 : a0 ≤ stBn) (h1 : a1 ≤ stBn) (h2 : a2 ≤ stBn) (h : Lvl st a0 a1 a2) :
    Lvl (stepZ st fs j).st (decN (4 * j) a0) (if a0 ≤ 800 then decN (2 * j) a1 else stBn)
      (if a0 ≤ 800 ∧ a1 ≤ 800 then decN j a2 else stBn) ∧
    (a0 ≤ 800 ∧ a1 ≤ 800 ∧ a2 ≤ 800 →
      (stepZ st fs j).st.hp = 0 ∧ (stepZ st fs j).st.xnrgSubfr = ⟨0, 0, 0, 0⟩ ∧
      (st.hp = 0 ∧ st.xnrgSubfr = ⟨0, 0, 0, 0⟩ → (stepZ st fs j).speechActivityQ8 = 2)) := by
  obtain ⟨o, ho, hinv', -, -⟩ := getSA_ok st h.inv fs (8 * j) ⟨by omega, by omega⟩ (zeros (8 * j)) (by simp)
  rw [getSA_zero st fs j hj.2] at ho
  cases ho
  have e4 : 8 * j / 2 = 4 * j := by omega
  have e2 : 8 * j / 4 = 2 * j := by omega
  have e1 : 8 * j / 8 = j := by omega
  have hi : ∀ (s : Int × Int) (l : List Int) (m : Nat), ∀ x ∈ (anaFilt s l).2.1.take m, I16 x :=
    fun s l m x hx => (anaFilt_i16 s l).1 x (List.mem_of_mem_take hx)
  -- the three stages in turn: each is fed zeros when the stages before it are quiet
  have s0 := anaFilt_stage True (4 * j) st.ana0 a0 (zeros (8 * j)) h0 h.b0
    (fun x hx => by rw [List.eq_of_mem_replicate hx]; unfold I16; omega) (fun _ => congrArg zeros (by omega))
  have s1 := anaFilt_stage (a0 ≤ 800) (2 * j) st.ana1 a1 _ h1 h.b1 (hi st.ana0 (zeros (8 * j)) (4 * j))
    (fun c => by rw [s0.2 trivial c, take_zeros]; exact congrArg zeros (by omega))
  have s2 := anaFilt_stage (a0 ≤ 800 ∧ a1 ≤ 800) j st.ana2 a2 _ h2 h.b2 (hi st.ana1 _ (2 * j))
    (fun c => by rw [s1.2 c.1 c.2, take_zeros])
  rw [if_pos trivial] at s0
  refine ⟨⟨hinv', ?_, ?_, ?_⟩, ?_⟩
  · show AbsLe (bands st (8 * j) (zeros (8 * j))).1.ana0 _
    rw [bands_ana0, take_zeros]; exact s0.1
  · show AbsLe (bands st (8 * j) (zeros (8 * j))).1.ana1 _
    rw [bands_ana1, take_zeros, e4]; exact s1.1
  · show AbsLe (bands st (8 * j) (zeros (8 * j))).1.ana2 _
    rw [bands_ana2, take_zeros, e4, e2]; exact s2.1
  -- all three stages quiet: every band signal is zero (band 0 up to its first sample)
  rintro ⟨c0, c1, c2⟩
  have hx := h.inv.xnrgSubfr
  unfold Q4.all at hx
  obtain ⟨m, hm⟩ : ∃ m, j = m + 1 := ⟨j - 1, by omega⟩
  have hb : (bands st (8 * j) (zeros (8 * j))).1.hp = 0 ∧ (bands st (8 * j) (zeros (8 * j))).1.xnrgSubfr = ⟨0, 0, 0, 0⟩ ∧
      (bands st (8 * j) (zeros (8 * j))).2 =
        ⟨(bandEnergy st.xnrgSubfr.b0 (hpDiff st.hp (zeros j)) j).1, st.xnrgSubfr.b1, st.xnrgSubfr.b2, st.xnrgSubfr.b3⟩ := by
    unfold bands
    simp only [take_zeros, e4, e2, e1]
    rw [s2.2 ⟨c0, c1⟩ c2, s1.2 c0 c1, s0.2 trivial c0]
    simp only [take_zeros]
    rw [bandEnergy_zeros _ _ _ hx.2.1, bandEnergy_zeros _ _ _ hx.2.2.1, bandEnergy_zeros _ _ _ hx.2.2.2]
    have hl : hpLast st.hp (zeros j) = 0 := by rw [hm]; exact hpLast_zeros _ _
    have he : (bandEnergy st.xnrgSubfr.b0 (hpDiff st.hp (zeros j)) j).2 = 0 := by
      rw [hm, hpDiff_zeros_hp, ← hm]; exact bandEnergy_head _ _ _ _ (by omega)
    exact ⟨hl, by rw [he], rfl⟩
  refine ⟨hb.1, hb.2.1, ?_⟩
  rintro ⟨hhp, hxs⟩
  have hxn : (bands st (8 * j) (zeros (8 * j))).2 = ⟨0, 0, 0, 0⟩ := by
    rw [hb.2.2]
    simp only [hhp, hxs, hpDiff_zeros]
    rw [bandEnergy_zeros 0 j j (by unfold NonNeg32; omega)]
  unfold stepZ
  rw [hxn]
  apply decision_zero
  have hbi := bands_inv st h.inv (8 * j) (by omega) (zeros (8 * j))
  have := getNoiseLevels_inv (bands st (8 * j) (zeros (8 * j))).2 (bands st (8 * j) (zeros (8 * j))).1 hbi.1 hbi.2.1
  rw [hxn] at this
  exact this.2.1

theorem decN_le_of (m n x c : Nat) (hmn : m ≤ n) (hc : 3 ≤ c) (h : decN m x ≤ c) : decN n x ≤ c := by
  have := decN_ge m n x hmn; omega

/-- State after `n` all-zero frames, and the speech activity (Q8) reported for zero frame number `n`. -/
def stZ (st : VadState) (fs j : Nat) : Nat → VadState
  | 0 => st
  | n + 1 => stZ (stepZ st fs j).st fs j n

def saZ (st : VadState) (fs j n : Nat) : Int := (stepZ (stZ st fs j n) fs j).speechActivityQ8

theorem stZ_add (st : VadState) (fs j m n : Nat) : stZ st fs j (m + n) = stZ (stZ st fs j m) fs j n := by
  induction m generalizing st with
  | zero => simp [stZ]
  | succ m ih => rw [Nat.succ_add]; simp only [stZ]; exact ih _

/-- Quiet state: all three filter memories small, no carry-over. -/
def Quiet (st : VadState) : Prop := Lvl st 800 800 800 ∧ st.hp = 0 ∧ st.xnrgSubfr = ⟨0, 0, 0, 0⟩

theorem quiet_init : Quiet vadInit :=
  ⟨⟨vadInv_init, by unfold AbsLe; decide, by unfold AbsLe; decide, by unfold AbsLe; decide⟩, rfl, rfl⟩

/-- One all-zero frame takes bounds `a` on the three filter memories to bounds `b`, when the contraction counts of the
    shortest frame (`j = 10`: 40, 20, 10 iterations) already do; `hd` is decidable for concrete bounds. -/
theorem level_step (st : VadState) (fs j : Nat) (hj : 10 ≤ j ∧ j ≤ 64) (a0 a1 a2 b0 b1 b2 : Nat) (h : Lvl st a0 a1 a2)
    (hd : a0 ≤ stBn ∧ a1 ≤ stBn ∧ a2 ≤ stBn ∧ 3 ≤ b0 ∧ 3 ≤ b1 ∧ 3 ≤ b2 ∧ decN 40 a0 ≤ b0 ∧
      (if a0 ≤ 800 then decN 20 a1 else stBn) ≤ b1 ∧ (if a0 ≤ 800 ∧ a1 ≤ 800 then decN 10 a2 else stBn) ≤ b2) :
    Lvl (stepZ st fs j).st b0 b1 b2 := by
  obtain ⟨h0, h1, h2, c0, c1, c2, e0, e1, e2⟩ := hd
  refine lvl_mono _ _ _ _ _ _ _ (zero_frame st fs j hj a0 a1 a2 h0 h1 h2 h).1 (decN_le_of 40 _ _ _ (by omega) c0 e0) ?_ ?_
  · split
    · rw [if_pos ‹_›] at e1; exact decN_le_of 20 _ _ _ (by omega) c1 e1
    · rw [if_neg ‹_›] at e1; exact e1
  · split
    · rw [if_pos ‹_›] at e2; exact decN_le_of 10 _ _ _ (by omega) c2 e2
    · rw [if_neg ‹_›] at e2; exact e2

/-- From small filter memories one all-zero frame leaves no signal in any band and flushes the carry-over; if there was
    no carry-over either, the frame is inactive. -/
theorem settled_step (st : VadState) (fs j : Nat) (hj : 10 ≤ j ∧ j ≤ 64) (h : Lvl st 800 800 800) :
    Quiet (stepZ st fs j).st ∧ (st.hp = 0 ∧ st.xnrgSubfr = ⟨0, 0, 0, 0⟩ → (stepZ st fs j).speechActivityQ8 = 2) := by
  have q := (zero_frame st fs j hj 800 800 800 (by decide) (by decide) (by decide) h).2 ⟨by omega, by omega, by omega⟩
  exact ⟨⟨level_step st fs j hj _ _ _ 800 800 800 h (by decide +kernel), q.1, q.2.1⟩, q.2.2⟩

theorem quiet_step (st : VadState) (fs j : Nat) (hj : 10 ≤ j ∧ j ≤ 64) (h : Quiet st) :
    Quiet (stepZ st fs j).st ∧ (stepZ st fs j).speechActivityQ8 = 2 :=
  ⟨(settled_step st fs j hj h.1).1, (settled_step st fs j hj h.1).2 h.2⟩

/-- Seven all-zero frames take any state with bounded filter memories to a quiet state: stage 1 settles in one frame,
    stage 2 in two more, stage 3 in three more, and the seventh flushes the carry-over. -/
theorem seven_frames (st : VadState) (fs j : Nat) (hj : 10 ≤ j ∧ j ≤ 64) (h : Lvl st stBn stBn stBn) :
    Quiet (stZ st fs j 7) := by
  have s1 := level_step _ fs j hj _ _ _ 800 stBn stBn h (by decide +kernel)
  have s2 := level_step _ fs j hj _ _ _ 800 15000 stBn s1 (by decide +kernel)
  have s3 := level_step _ fs j hj _ _ _ 800 800 stBn s2 (by decide +kernel)
  have s4 := level_step _ fs j hj _ _ _ 800 800 1500000 s3 (by decide +kernel)
  have s5 := level_step _ fs j hj _ _ _ 800 800 15000 s4 (by decide +kernel)
  have s6 := level_step _ fs j hj _ _ _ 800 800 800 s5 (by decide +kernel)
  -- `stZ st fs j 7` is seven nested `stepZ … .st` by the equations of `stZ`
  exact (settled_step _ fs j hj s6).1

theorem quiet_forever (st : VadState) (fs j : Nat) (hj : 10 ≤ j ∧ j ≤ 64) (h : Quiet st) (n : Nat) :
    Quiet (stZ st fs j n) ∧ saZ st fs j n = 2 := by
  induction n generalizing st with
  | zero => exact ⟨h, (quiet_step st fs j hj h).2⟩
  | succ n ih =>
    have := ih (stepZ st fs j).st (quiet_step st fs j hj h).1
    exact ⟨this.1, this.2⟩

theorem lvl_init : Lvl vadInit stBn stBn stBn :=
  lvl_mono _ _ _ _ _ _ _ quiet_init.1 (by decide) (by decide) (by decide)

theorem getSA_lvl (st : VadState) (h : Lvl st stBn stBn stBn) (fs len : Nat) (hlen : len ≤ 512 ∧ len % 8 = 0)
    (pIn : List Int) (hp : len ≤ pIn.length) (h16 : ∀ x ∈ pIn, I16 x) :
    ∃ o, getSA st fs len pIn = .ok o ∧ Lvl o.st stBn stBn stBn ∧ OutOk o := by
  obtain ⟨o, ho, hinv, hout, _⟩ := getSA_ok st h.inv fs len hlen pIn hp
  obtain ⟨b0, b1, b2⟩ := bands_lvl st h len pIn h16
  refine ⟨o, ho, ?_, hout⟩
  unfold getSA at ho
  rw [if_neg (by omega), if_neg (by omega)] at ho
  cases ho
  exact ⟨hinv, b0, b1, b2⟩

/-! ### The VAD on silence composed with the `noSpeechCounter` machine -/
section
open Opus.Dtx Opus.Gen.DtxConsts

/-- The VAD outcomes `speech_activity_Q8 < SPEECH_ACTIVITY_DTX_THRES` of `n` all-zero frames. -/
def lowsZ (st : VadState) (fs j n : Nat) : List Bool :=
  (List.range n).map (fun i => decide (saZ st fs j i < speechActivityDtxThresQ8))

/-- From any counter value, on constant inactivity a frame becomes droppable within 11 frames. -/
theorem silk_first_drop (c m : Nat) (hc : c ≤ 30) (hm : 11 ≤ m) :
    ∃ i, i ≤ 10 ∧ (silkSteps c (List.replicate m true)).1[i]? = some true := by
  by_cases h9 : c ≤ 9
  · have hs := silkSteps_inactive c 11 (by rw [nb_eq, max_eq]; omega)
    have hrep : List.replicate m true = List.replicate 11 true ++ List.replicate (m - 11) true := by
      rw [List.replicate_append_replicate]; congr 1; omega
    rw [hrep, silkSteps_append, hs]
    refine ⟨10 - c, by omega, ?_⟩
    simp only
    rw [List.getElem?_append_left (by simp; omega), List.getElem?_map, List.getElem?_range (by omega)]
    simp only [Option.map_some, nb_eq]
    congr 1
    exact decide_eq_true (by omega)
  · by_cases h30 : c = 30
    · subst h30
      obtain ⟨k, rfl⟩ : ∃ k, m = k + 2 := ⟨m - 2, by omega⟩
      refine ⟨1, by omega, ?_⟩
      rw [List.replicate_succ, List.replicate_succ, silkSteps_cons, silkSteps_cons]
      rfl
    · obtain ⟨k, rfl⟩ : ∃ k, m = k + 1 := ⟨m - 1, by omega⟩
      refine ⟨0, by omega, ?_⟩
      rw [List.replicate_succ, silkSteps_cons]
      have : (silkVad ⟨c, true⟩ true).inDtx = true := by
        rw [silkVad_armed]; simp only [nb_eq, max_eq]; exact ⟨trivial, by omega, by omega⟩
      simp [this]

theorem lowsZ_add (st : VadState) (fs j m n : Nat) :
    lowsZ st fs j (m + n) = lowsZ st fs j m ++ lowsZ (stZ st fs j m) fs j n := by
  unfold lowsZ saZ
  rw [List.range_add, List.map_append, List.map_map]
  simp only [Function.comp_def, stZ_add]

theorem lowsZ_quiet (st : VadState) (fs j n : Nat) (hj : 10 ≤ j ∧ j ≤ 64) (h : Quiet st) :
    lowsZ st fs j n = List.replicate n true := by
  unfold lowsZ
  rw [List.map_congr_left (g := fun _ => true) (fun i _ => by rw [(quiet_forever st fs j hj h i).2]; rfl),
    List.map_const', List.length_range]

theorem lowsZ_split (st : VadState) (fs j n : Nat) (hj : 10 ≤ j ∧ j ≤ 64) (h : Lvl st stBn stBn stBn) (hn : 7 ≤ n) :
    lowsZ st fs j n = lowsZ st fs j 7 ++ List.replicate (n - 7) true := by
  obtain ⟨m, rfl⟩ : ∃ m, n = 7 + m := ⟨n - 7, by omega⟩
  rw [lowsZ_add, lowsZ_quiet _ fs j m hj (seven_frames st fs j hj h), Nat.add_sub_cancel_left]

end

end Opus.SilkVad
