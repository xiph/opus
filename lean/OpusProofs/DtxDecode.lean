import OpusModel.Dtx
import OpusModel.EncDecide
import OpusModel.Framing
/-
  OpusProofs.DtxDecode — the bytes of a DTX packet and what the packet parser makes of them
  (decoder side of C20; the decoder skeleton theorems of C01 are applied in OpusProofs/DtxDecodeSkel.lean and
  OpusProps/C20.lean).
-/
namespace Opus.Dtx
open Opus.Framing

/-- The bytes of an all-DTX packet of `n` coded frames with TOC `t` (code bits clear):
    `n = 1`: the TOC alone (src/opus_encoder.c:2135-2137, 2434-2439); `n ≥ 2`: what
    `opus_repacketizer_out_range_impl` makes of `n` empty frames with equal TOC without padding
    (:1751) — code 1 for two frames, code 3 CBR with the frame count otherwise. -/
def dtxBytes (t n : Nat) : Bytes :=
  if n ≤ 1 then [t] else if n = 2 then [t + 1] else [t + 3, n]

theorem dtxBytes_length (t n : Nat) (h : 1 ≤ n) : (dtxBytes t n).length = dtxPacketLen n := by
  unfold dtxBytes dtxPacketLen
  split
  · have : n ≤ 2 := by omega
    simp [this]
  · split
    · simp [*]
    · have : ¬ n ≤ 2 := by omega
      simp [this]

/-- TOC bytes with the code bits clear. -/
def tocs : List Nat := (List.range 64).map (· * 4)

def parseOk (t n : Nat) : Bool :=
  decide (parseImpl false (dtxBytes t n) =
    .ok ⟨(dtxBytes t n).headD 0, n, List.replicate n 0, (if n ≤ 2 then 1 else 2), 0, (dtxBytes t n).length⟩)

/-- Every DTX packet shape (any TOC, 1…6 frames, at most 120 ms) is accepted by the RFC 6716 parser
    model as `n` empty frames with nothing after them. -/
theorem dtx_parse_all : ∀ t ∈ tocs, ∀ n ∈ [1, 2, 3, 4, 5, 6], n * samplesPerFrame t 48000 ≤ 5760 → parseOk t n = true := by
  decide +kernel

/-- The code bits do not change the frame duration. -/
theorem spf_code : ∀ t ∈ tocs, ∀ k ∈ [0, 1, 3], ∀ fs ∈ [8000, 12000, 16000, 24000, 48000],
    samplesPerFrame (t + k) fs = samplesPerFrame t fs := by
  decide +kernel

/-- (mode, frame rate `Fs/frame_size` of a coded frame, bandwidth) combinations `opus_encode_frame_native`
    codes frames with: SILK-only 10–60 ms NB/MB/WB, hybrid 10/20 ms SWB/FB, CELT-only 2.5–20 ms. -/
def encCombos : List (Int × Int × Int) :=
  ([100, 50, 25, 16].flatMap fun fr => [1101, 1102, 1103].map fun bw => ((1000 : Int), (fr : Int), (bw : Int))) ++
  ([100, 50].flatMap fun fr => [1104, 1105].map fun bw => ((1001 : Int), (fr : Int), (bw : Int))) ++
  ([400, 200, 100, 50].flatMap fun fr => [1101, 1103, 1104, 1105].map fun bw => ((1002 : Int), (fr : Int), (bw : Int)))

/-- Duration of a coded frame in 2.5 ms units from its frame rate (16 = ⌊1000/60⌋). -/
def frameUnits (fr : Int) : Nat :=
  if fr = 400 then 1 else if fr = 200 then 2 else if fr = 100 then 4 else if fr = 50 then 8 else if fr = 25 then 16 else 24

/-- The TOC `gen_toc` writes into a DTX frame has its code bits clear and tells every decoder rate the
    duration the encoder coded. -/
theorem genToc_frame : ∀ x ∈ encCombos, ∀ ch ∈ [(1 : Int), 2],
    EncDecide.genToc x.1 x.2.1 x.2.2 ch ∈ tocs ∧
    ∀ fsd ∈ [8000, 12000, 16000, 24000, 48000],
      samplesPerFrame (EncDecide.genToc x.1 x.2.1 x.2.2 ch) fsd * 400 = fsd * frameUnits x.2.1 := by
  decide +kernel

end Opus.Dtx
