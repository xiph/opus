import Lean.Meta.Tactic.Simp.RegisterCommand
/-- The index models list the accesses of a routine with `++`, `if`, `[]` and leaves; "every access of the list is in bounds" is a
    homomorphism from such lists to conjunctions.  The lemmas under this attribute compute it: `simp only [accs]` turns
    `∀ e ∈ l, P e` into the bounds of the accesses of `l`, each under the conditions of the branches it stands in. -/
register_simp_attr accs
