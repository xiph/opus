import OpusProofs.CeltBandsTotal
import OpusProofs.CeltBandsWalk
/-
  C03, stage 2: the decoder invariant `J` (`val < 2^32`, `2^23 < rng ≤ 2^31`) is preserved by everything behind the CELT
  header — the allocation's coder calls, fine energy, `quant_all_bands` (theta with its three PDFs: every
  `ec_dec_update(fl, fh, ft)` has `fl < fh ≤ ft ≤ 32768`), PVQ indices, sign bits, anti-collapse bit, finalisation — so the
  state a CELT frame ends with satisfies `J`, on arbitrary bytes.  Here: `J` under each kind of call (the walk over the
  program is the one of OpusProofs/CeltBandsWalk.lean), and the theorem about the whole frame: it returns, and `J` holds.
-/
namespace Opus.CeltBandsProofs
open Opus Opus.RangeCoder Opus.CeltSymsFrozen Opus.CeltBands
open Opus.CeltSymsProofs

/-! ### entropy-decoder calls -/

/-- `ec_dec_uint` for any `ft ≥ 2` (the multi-byte path: a symbol out of at most 256, then raw bits). -/
theorem J_uint_any (c : Dec) (hj : J c) (ft : Nat) (h1 : 2 ≤ ft) : J (decUint c ft).2 := by
  by_cases hs : ft ≤ 256
  · exact (J_uint c hj ft h1 hs).2
  · have hil : ¬ ilog (ft - 1) ≤ 8 := by rw [ilog_lt_iff]; omega
    have hb := (ilog_bounds (v := ft - 1) (by omega)).2
    have hsplit : 2 ^ ilog (ft - 1) = 2 ^ (ilog (ft - 1) - 8) * 256 := by
      rw [show (256 : Nat) = 2 ^ 8 by rfl, ← Nat.pow_add]; congr 1; omega
    have hq : (ft - 1) / 2 ^ (ilog (ft - 1) - 8) < 256 := by
      rw [Nat.div_lt_iff_lt_mul (Nat.two_pow_pos _)]; rw [hsplit] at hb; rw [Nat.mul_comm]; exact hb
    unfold decUint
    dsimp only
    rw [if_pos (by omega)]
    generalize (ft - 1) / 2 ^ (ilog (ft - 1) - 8) = q at hq ⊢
    have hd := decode_lt c hj (q + 1) (by omega) (by omega)
    generalize decode c (q + 1) = y at hd
    obtain ⟨s, c1⟩ := y
    dsimp only at hd ⊢
    rw [hd.2]
    have hu := J_update c hj (q + 1) s (s + 1) (by omega) (by omega) (by omega) (by omega)
    generalize decUpdate { c with ext := c.rng / (q + 1) } s (s + 1) (q + 1) = c2 at hu
    have hbts := (J_bits c2 hu (ilog (ft - 1) - 8)).1
    generalize decBits c2 (ilog (ft - 1) - 8) = z at hbts
    obtain ⟨lo, c3⟩ := z
    dsimp only at hbts ⊢
    split
    · exact hbts
    · exact hbts

theorem uint_J (s : BSt) (ft : Nat) (hs : J s.c) (h : 2 ≤ ft) : J (s.uint ft).2.c := J_uint_any s.c hs ft h

theorem raw_J (s : BSt) (n : Nat) (hs : J s.c) : J (s.raw n).2.c := (J_bits s.c hs n).1

theorem bit_J (s : BSt) (n : Nat) (hs : J s.c) (h1 : 1 ≤ n) (h2 : n ≤ 23) : J (s.bit n).2.c :=
  (J_bitLogp s.c hs n h1 h2).1

/-- A PDF symbol whose intervals are non-empty and inside `[0, ft)` — `fl fm < fh fm ≤ ft`, whatever `fl`, `fh` are computed from —
    keeps `J`. -/
theorem read_J {ft : Nat} {it fl fh : Nat → Nat} (s : BSt) (hs : J s.c) (h1 : 1 ≤ ft) (h2 : ft ≤ 32768)
    (hf : ∀ fm, fm < ft → fl fm < fh fm ∧ fh fm ≤ ft) : J (OpusProofs.Pdf.readSym ft it fl fh s).2.c := by
  have hd := decode_lt s.c hs ft h1 h2
  show J (decUpdate (RangeCoder.decode s.c ft).2 _ _ ft)
  rw [hd.2]
  exact J_update s.c hs ft _ _ h1 h2 (hf _ hd.1).1 (hf _ hd.1).2

/-- `J` is kept by every call of the band data: the walk of OpusProofs/CeltBandsWalk.lean applies. -/
theorem keeps_J : Keeps (fun s => J s.c) where
  uint := fun s ft hs h _ => uint_J s ft hs h
  raw := raw_J
  bit := bit_J
  read := fun s _ _ _ _ hs h1 h2 hf => read_J s hs h1 h2 hf
  rem := fun _ _ hs => hs
  row := fun _ _ hs _ => hs

/-! ### the whole frame -/

/-- **The CELT frame model returns a frame, and the decoder invariant holds wherever it hands the decoder on.**  The header
    puts the allocation input into `Dom` (`allocInp_dom`), on which the allocation meets the contract `AllocOps`
    (`allocOps_of_dom`), so the driving loop ends within its fuel; its calls and everything behind it keep
    "no fault and `J`" (`keeps_fault`, `keeps_J`). -/
theorem celtFrame_spec (cfg : CeltSyms.CeltCfg) (len : Nat) (c : Dec) (hj : J c) (hl : cfg.LM < 4)
    (hC : cfg.C = 1 ∨ cfg.C = 2) (hse : cfg.start < cfg.end_) (he : cfg.end_ ≤ 21) (hlen : len ≤ 262144) :
    ∃ f, celtFrame cfg len c = .ok f ∧ J f.fin.c ∧ J f.allocSt.c ∧ J f.hdr.dec := by
  unfold celtFrame
  obtain ⟨h, hh, hok⟩ := celtHeader_ok cfg hl len c hj
  rw [hh]
  dsimp only
  have hdom := allocInp_dom cfg len c h hh hl hC hse he hlen
  have K := keeps_fault.and keeps_J
  obtain ⟨o, s, hd, hs⟩ := allocDrive_spec K (allocInp cfg h) hdom 64 []
    { rem := 0, c := h.dec, tr := [], fault := false } (by simp) (by omega) ⟨rfl, hok.dec⟩
  rw [hd]
  dsimp only
  have ha := afterAlloc_keeps K cfg len h o { s with tr := [] } hl (by omega) he hs
  rw [ha.1]
  simp only [Bool.false_eq_true, if_false]
  exact ⟨_, rfl, ha.2, hs.2, hok.dec⟩

theorem celtFrame_ok (cfg : CeltSyms.CeltCfg) (len : Nat) (c : Dec) (hj : J c) (hl : cfg.LM < 4) (hC : cfg.C = 1 ∨ cfg.C = 2)
    (hse : cfg.start < cfg.end_) (he : cfg.end_ ≤ 21) (hlen : len ≤ 262144) : ∃ f, celtFrame cfg len c = .ok f := by
  obtain ⟨f, hf, _⟩ := celtFrame_spec cfg len c hj hl hC hse he hlen
  exact ⟨f, hf⟩

/-- The decoder state at the end of a CELT frame satisfies `J` again. -/
theorem celtFrame_J (cfg : CeltSyms.CeltCfg) (len : Nat) (c : Dec) (hj : J c) (hl : cfg.LM < 4) (hC : cfg.C = 1 ∨ cfg.C = 2)
    (hse : cfg.start < cfg.end_) (he : cfg.end_ ≤ 21) (hlen : len ≤ 262144) (f : CeltFrame)
    (hf : celtFrame cfg len c = .ok f) : J f.fin.c ∧ J f.allocSt.c ∧ J f.hdr.dec := by
  obtain ⟨f', hf', hJ⟩ := celtFrame_spec cfg len c hj hl hC hse he hlen
  rw [hf] at hf'
  injection hf' with hf'
  rw [hf']
  exact hJ

open Opus.CeltSyms in
/-- **Totality of the CELT frame model.**  From any decoder state satisfying `J` (a fresh `ec_dec_init`, or the state
    the SILK layer hands over in a hybrid frame), for every legal configuration and arbitrary bytes, `celtFrame` returns
    a frame — never an error, `.oob` or `.abort`: no laplace.c assertion, the allocation returns, no pulse-cache
    index leaves `cache.bits`, every `ec_dec_uint` has `2 ≤ ft < 2^32`, every `V(N,K)` is found in the table. -/
theorem celtFrame_total (cfg : CeltCfg) (len : Nat) (c : Dec) (hj : J c) (hl : cfg.LM < 4) (hC : cfg.C = 1 ∨ cfg.C = 2)
    (hse : cfg.start < cfg.end_) (he : cfg.end_ ≤ 21) (hlen : len ≤ 262144)
    (hops : ∀ h, celtHeader cfg len c = .ok h → AllocOps (allocInp cfg h)) :
    ∃ f, celtFrame cfg len c = .ok f :=
  celtFrame_ok cfg len c hj hl hC hse he hlen

end Opus.CeltBandsProofs
