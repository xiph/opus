import OpusProofs.Dtx
/-
  OpusProofs.DtxCall — lemmas about the packet-level DTX skeleton (`frameStep`, `frameFlags`,
  `encodeCall`, `inDtx`) of OpusModel.Dtx, and `Regular` (the call reaches the frame loop) in bitrate / buffer terms.
-/
namespace Opus.Dtx
open Opus.Gen.DtxConsts

theorem durSum_map_const {α : Type} (g : α → Bool) (f : Nat) (l : List α) : durSum (l.map fun x => (g x, f)) = l.length * f := by
  induction l with
  | nil => simp [durSum]
  | cons x xs ih => simp only [List.map_cons, durSum, ih, List.length_cons, Nat.succ_mul]; omega

/-- The mid channel's VAD schedule over the SILK frames of one call: frames of duration 1, inactive when the VAD says so or
    Opus forced "no activity" (`fl`). -/
def midSched (fl : Bool) (fs : List SFrame) : List (Bool × Nat) := fs.map fun f => (!(f.low0 || fl), 1)

theorem durSum_midSched (fl : Bool) (fs : List SFrame) : durSum (midSched fl fs) = fs.length := by
  unfold midSched; rw [durSum_map_const]; omega

/-- **The mid channel over the SILK frames of one call** is the hang-over counter with the window (10, 30] run over the
    frames; the flag stays set only while every frame was droppable.  The side channel plays no part. -/
theorem silkFrames_mid (nch : Nat) (fl : Bool) (s : SilkCh × SilkCh × Bool) (fs : List SFrame) :
    (silkFrames nch fl s fs).1 =
      ⟨(hangSteps nbSpeechFramesBeforeDtx (nbSpeechFramesBeforeDtx + maxConsecutiveDtx) s.1.cnt (midSched fl fs)).2,
       (hangSteps nbSpeechFramesBeforeDtx (nbSpeechFramesBeforeDtx + maxConsecutiveDtx) s.1.cnt (midSched fl fs)).1.all id
         && s.1.inDtx⟩ := by
  induction fs generalizing s with
  | nil => simp [silkFrames, midSched, hangSteps]
  | cons f fs ih =>
    rw [silkFrames, ih]
    simp only [silkFrame, silkVad_eq_hang, midSched, List.map_cons, hangSteps, List.all_cons, id, Bool.and_assoc, Bool.and_comm]

theorem silkFrames_disarmed (nch : Nat) (fl : Bool) (s : SilkCh × SilkCh × Bool) (fs : List SFrame)
    (h0 : s.1.inDtx = false) : (silkFrames nch fl s fs).1.inDtx = false := by
  rw [silkFrames_mid, h0, Bool.and_false]

theorem silkCall_useDtx_false (fl : Bool) (st : SilkSt) (c : SCall) : (silkCall false fl st c).2 = false := by
  simp only [silkCall]
  rw [silkFrames_disarmed _ _ _ _ rfl]; rfl

theorem runSilk_useDtx_false (fl : Bool) (st : SilkSt) (cs : List SCall) : (runSilk false fl st cs).2 = false := by
  induction cs generalizing st with
  | nil => rfl
  | cons c cs ih =>
    cases cs with
    | nil => exact silkCall_useDtx_false fl st c
    | cons c' cs' => simp only [runSilk]; exact ih _

/-- One VAD step on the mid channel with a frame that is *not* inactive clears the flag for the
    rest of the call. -/
theorem silkFrames_inDtx_imp_low (nch : Nat) (s : SilkCh × SilkCh × Bool) (fs : List SFrame)
    (h : (silkFrames nch false s fs).1.inDtx = true) : ∀ f ∈ fs, f.low0 = true := by
  rw [silkFrames_mid] at h
  simp only [Bool.and_eq_true, List.all_eq_true, id] at h
  intro f hf
  have := (hangSteps_all_true _ _ (Nat.le_add_right ..) _ _ h.1).2.1 _ (List.mem_map_of_mem (f := fun f => (!(f.low0 || false), 1)) hf)
  simpa using this

theorem frameSilk_fields (mode : Mode) (act : Int) (st : St) (o : Sub) :
    (frameSilk mode act st o).1.nb = st.nb ∧ (frameSilk mode act st o).1.prevMode = st.prevMode ∧
    (frameSilk mode act st o).1.silkUseDtx = st.silkUseDtx ∧ (frameSilk mode act st o).1.mode = st.mode := by
  unfold frameSilk; split <;> simp

theorem frameSilk_useDtx_false (mode : Mode) (act : Int) (st : St) (o : Sub) (hs : st.silkUseDtx = false) :
    (frameSilk mode act st o).2 ≠ some true := by
  unfold frameSilk; split
  · simp
  · simp [hs, runSilk_useDtx_false]

theorem frameTail_fields (useDtx isSil : Bool) (mode : Mode) (fQ1 : Nat) (tc : Bool) (act : Int) (st : St) (o : Sub) :
    (frameTail useDtx isSil mode fQ1 tc act st o).1.silkUseDtx = st.silkUseDtx ∧
    (frameTail useDtx isSil mode fQ1 tc act st o).1.silk = st.silk ∧
    (frameTail useDtx isSil mode fQ1 tc act st o).1.modeNch = st.modeNch ∧
    (frameTail useDtx isSil mode fQ1 tc act st o).1.prevMode = (if tc then .celt else mode) := by
  by_cases h : useDtx = true ∧ st.silkUseDtx = false <;> simp [frameTail, h]

theorem frameStep_silkUseDtx (useDtx isSil : Bool) (mode : Mode) (fQ1 : Nat) (tc : Bool) (st : St) (o : Sub) :
    (frameStep useDtx isSil mode fQ1 tc st o).1.silkUseDtx = st.silkUseDtx := by
  unfold frameStep
  simp only
  split
  · exact (frameSilk_fields _ _ _ _).2.2.1
  · rw [(frameTail_fields ..).1]; exact (frameSilk_fields _ _ _ _).2.2.1

/-- With SILK's own DTX off (the generalised detector is in charge or DTX is disabled) the frame
    goes through `decide_dtx_mode`, or clears the counter. -/
theorem frameStep_generalised (useDtx isSil : Bool) (mode : Mode) (fQ1 : Nat) (tc : Bool) (st : St) (o : Sub)
    (hs : st.silkUseDtx = false) :
    (frameStep useDtx isSil mode fQ1 tc st o).2.1 =
        (if useDtx = true then (decideDtx (activityOf isSil o.valid o.det ≠ 0) st.nb fQ1).1 else false)
    ∧ (frameStep useDtx isSil mode fQ1 tc st o).1.nb =
        (if useDtx = true then (decideDtx (activityOf isSil o.valid o.det ≠ 0) st.nb fQ1).2 else 0) := by
  unfold frameStep
  simp only [frameSilk_useDtx_false _ _ _ _ hs, if_false]
  have hs' : (frameSilk mode (activityOf isSil o.valid o.det) st o).1.silkUseDtx = false := by
    rw [(frameSilk_fields _ _ _ _).2.2.1]; exact hs
  by_cases h : useDtx = true <;>
    simp [frameTail, h, hs', (frameSilk_fields _ _ _ _).1]

theorem frameStep_useDtx_false (isSil : Bool) (mode : Mode) (fQ1 : Nat) (tc : Bool) (st : St) (o : Sub)
    (hs : st.silkUseDtx = false) : (frameStep false isSil mode fQ1 tc st o).2.1 = false := by
  have := (frameStep_generalised false isSil mode fQ1 tc st o hs).1
  simpa using this

/-- **Resume, frame level**: a coded frame whose activity decision is 1 is never dropped when the
    generalised detector is in charge, and it clears the counter. -/
theorem frameStep_active (useDtx : Bool) (mode : Mode) (fQ1 : Nat) (tc : Bool) (st : St) (o : Sub)
    (hs : st.silkUseDtx = false) (hv : o.valid = true) (hd : o.det = true) :
    (frameStep useDtx false mode fQ1 tc st o).2.1 = false ∧ (frameStep useDtx false mode fQ1 tc st o).1.nb = 0 := by
  have := frameStep_generalised useDtx false mode fQ1 tc st o hs
  have ha : activityOf false o.valid o.det = 1 := by simp [activityOf, hv, hd]
  rw [ha] at this
  simp [decideDtx_active] at this
  cases useDtx <;> simp_all

/-- Under SILK's own DTX a coded frame is dropped only by SILK (zero bytes), and the frame tail leaves SILK's state as
    `frameSilk` left it. -/
theorem frameStep_silk_charge (useDtx isSil : Bool) (mode : Mode) (fQ1 : Nat) (tc : Bool) (st : St) (o : Sub)
    (hs : st.silkUseDtx = true) (h : (frameStep useDtx isSil mode fQ1 tc st o).2.1 = true) :
    (frameSilk mode (activityOf isSil o.valid o.det) st o).2 = some true ∧
    (frameStep useDtx isSil mode fQ1 tc st o).1 = (frameSilk mode (activityOf isSil o.valid o.det) st o).1 := by
  unfold frameStep at h ⊢
  simp only at h ⊢
  by_cases hz : (frameSilk mode (activityOf isSil o.valid o.det) st o).2 = some true
  · simp [hz]
  · simp only [hz, if_false] at h
    have hs' : (frameSilk mode (activityOf isSil o.valid o.det) st o).1.silkUseDtx = true := by
      rw [(frameSilk_fields _ _ _ _).2.2.1]; exact hs
    simp [frameTail, hs'] at h

theorem frameFlags_silkUseDtx (useDtx isSil : Bool) (mode : Mode) (fQ1 : Nat) (tc : Bool) (st : St) (os : List Sub) :
    (frameFlags useDtx isSil mode fQ1 tc st os).1.silkUseDtx = st.silkUseDtx := by
  induction os generalizing st with
  | nil => rfl
  | cons o os ih => simp only [frameFlags]; rw [ih, frameStep_silkUseDtx]

theorem frameFlags_length (useDtx isSil : Bool) (mode : Mode) (fQ1 : Nat) (tc : Bool) (st : St) (os : List Sub) :
    (frameFlags useDtx isSil mode fQ1 tc st os).2.length = os.length := by
  induction os generalizing st with
  | nil => rfl
  | cons o os ih => simp only [frameFlags, List.length_cons, ih]

theorem frameFlags_useDtx_false (isSil : Bool) (mode : Mode) (fQ1 : Nat) (tc : Bool) (st : St) (os : List Sub)
    (hs : st.silkUseDtx = false) : ∀ d ∈ (frameFlags false isSil mode fQ1 tc st os).2, d = false := by
  induction os generalizing st with
  | nil => intro d hd; cases hd
  | cons o os ih =>
    intro d hd
    simp only [frameFlags, List.mem_cons] at hd
    rcases hd with rfl | hd
    · exact frameStep_useDtx_false isSil mode fQ1 _ st o hs
    · exact ih _ (by rw [frameStep_silkUseDtx]; exact hs) d hd

theorem frameFlags_active (useDtx : Bool) (mode : Mode) (fQ1 : Nat) (tc : Bool) (st : St) (os : List Sub)
    (hs : st.silkUseDtx = false) (h : ∃ o ∈ os, o.valid = true ∧ o.det = true) :
    false ∈ (frameFlags useDtx false mode fQ1 tc st os).2 := by
  induction os generalizing st with
  | nil => obtain ⟨o, ho, _⟩ := h; cases ho
  | cons o os ih =>
    obtain ⟨o', ho', hv, hd⟩ := h
    simp only [frameFlags, List.mem_cons]
    rcases List.mem_cons.1 ho' with rfl | ho'
    · left; exact (frameStep_active useDtx mode fQ1 _ st o' hs hv hd).1.symm
    · right; exact ih _ (by rw [frameStep_silkUseDtx]; exact hs) ⟨o', ho', hv, hd⟩

/-- With the generalised detector in charge and DTX enabled the loop is the counter machine `decide_dtx_mode` run over
    the coded frames with their activity decisions. -/
theorem frameFlags_dtxSteps (isSil : Bool) (mode : Mode) (fQ1 : Nat) (tc : Bool) (st : St) (os : List Sub)
    (hs : st.silkUseDtx = false) :
    (frameFlags true isSil mode fQ1 tc st os).2 =
      (dtxSteps st.nb (os.map fun o => (decide (activityOf isSil o.valid o.det ≠ 0), fQ1))).1
    ∧ (frameFlags true isSil mode fQ1 tc st os).1.nb =
      (dtxSteps st.nb (os.map fun o => (decide (activityOf isSil o.valid o.det ≠ 0), fQ1))).2 := by
  induction os generalizing st with
  | nil => exact ⟨rfl, rfl⟩
  | cons o os ih =>
    simp only [frameFlags, List.map_cons, dtxSteps_cons]
    have hg := frameStep_generalised true isSil mode fQ1 (tc && os.isEmpty) st o hs
    simp only [if_true] at hg
    have := ih (frameStep true isSil mode fQ1 (tc && os.isEmpty) st o).1 (by rw [frameStep_silkUseDtx]; exact hs)
    rw [hg.2] at this
    rw [this.1, this.2, hg.1]
    exact ⟨rfl, rfl⟩

/-- A call whose coded frames are all dropped by the generalised detector: DTX is enabled, the counter advanced by the
    duration of the frames, the first frame lies beyond the 200 ms mark and the last one within the 600 ms limit. -/
theorem frameFlags_generalised_all (useDtx isSil : Bool) (mode : Mode) (fQ1 : Nat) (tc : Bool) (st : St) (os : List Sub)
    (hs : st.silkUseDtx = false) (hne : os ≠ [])
    (hall : ∀ d ∈ (frameFlags useDtx isSil mode fQ1 tc st os).2, d = true) :
    useDtx = true ∧ (frameFlags useDtx isSil mode fQ1 tc st os).1.nb = st.nb + os.length * fQ1 ∧
      onsetQ1 < st.nb + fQ1 ∧ st.nb + os.length * fQ1 ≤ limitQ1 := by
  obtain ⟨o, os', rfl⟩ := List.exists_cons_of_ne_nil hne
  cases useDtx
  · have := frameFlags_useDtx_false isSil mode fQ1 tc st (o :: os') hs _ (List.mem_cons_self ..)
    rw [hall _ (List.mem_cons_self ..)] at this; cases this
  · obtain ⟨e1, e2⟩ := frameFlags_dtxSteps isSil mode fQ1 tc st (o :: os') hs
    rw [e1, dtxSteps_eq_hang] at hall
    obtain ⟨hnb, -, hw⟩ := hangSteps_all_true _ _ onset_le_limit _ _ hall
    have hw := hw _ _ _ rfl
    rw [durSum_map_const] at hnb hw
    exact ⟨rfl, by rw [e2, dtxSteps_eq_hang, hnb], hw.1, hw.2⟩

/-- The call reaches the frame loop: arguments fine and budget above the low-budget class. -/
def Regular (c : Cfg) : Prop :=
  frameSize c ≠ 0 ∧ lowBudget c = false

theorem maxData_of_not_low (c : Cfg) (h : lowBudget c = false) : 3 ≤ min 1276 c.outBytes := by
  unfold lowBudget budget at h
  by_cases hv : c.useVbr = true
  · simp [hv] at h; omega
  · simp [hv] at h; omega

/-! ### The code's low-budget rule (src/opus_encoder.c:1271-1272) in bitrate / buffer terms, beside "bitrate and buffer allow three bytes per frame" -/

/-- Packets per second, `frame_rate = st->Fs/frame_size` (src/opus_encoder.c:1255). -/
def frameRate (c : Cfg) : Nat := c.fs / frameSize c

/-- "Bitrate and buffer allow at least three bytes per frame": after the clamps of :1158, :1253-1265
    (`max_data_bytes = min(1276, out_data_bytes)`, CBR: the byte count of one packet at the bitrate),
    at least 3 bytes fit and the bitrate pays for 3 bytes per packet. -/
def ThreeBytes (c : Cfg) : Prop := 3 ≤ (budget c).1 ∧ 3 * frameRate c * 8 ≤ (budget c).2

/-- The extra demand of the code for packets longer than 20 ms: 300 bytes/s and 2400 bit/s. -/
def LongFrameFloor (c : Cfg) : Prop :=
  50 ≤ frameRate c ∨ (300 ≤ (budget c).1 * frameRate c ∧ 2400 ≤ (budget c).2)

theorem lowBudget_false_iff (c : Cfg) : lowBudget c = false ↔ ThreeBytes c ∧ LongFrameFloor c := by
  unfold lowBudget ThreeBytes LongFrameFloor frameRate
  generalize budget c = bud
  obtain ⟨maxData, br⟩ := bud
  simp only [Bool.or_eq_false_iff, Bool.and_eq_false_iff, decide_eq_false_iff_not, Nat.not_lt]

theorem regular_iff (c : Cfg) : Regular c ↔ frameSize c ≠ 0 ∧ ThreeBytes c ∧ LongFrameFloor c := by
  unfold Regular; rw [lowBudget_false_iff]

theorem budget_vbr (c : Cfg) (h : c.useVbr = true) :
    budget c = (min 1276 c.outBytes, userBitrateToBitrate c (min 1276 c.outBytes)) := by
  unfold budget; simp [h]

theorem userBitrate_explicit (c : Cfg) (m : Nat) (b : Nat) (h : c.userBitrate = (b : Int)) :
    userBitrateToBitrate c m = b := by
  unfold userBitrateToBitrate
  have h1 : c.userBitrate ≠ opusAuto := by rw [h]; unfold opusAuto; omega
  have h2 : c.userBitrate ≠ opusBitrateMax := by rw [h]; unfold opusBitrateMax; omega
  rw [if_neg h1, if_neg h2, h]; rfl

/-- No coded frame of the call exceeded its byte budget (the inner-encoder contract "the SILK payload
    fits the budget"; the bust branch of src/opus_encoder.c:2450-2460 is not taken). -/
def NoBust (o : CallOr) : Prop := ∀ s ∈ o.subs, s.bust = false

theorem finalPkt_nobust (l : List Bool) (n : Nat) (subs : List Sub) (h : ∀ s ∈ subs, s.bust = false) :
    finalPkt l n subs = pktOf l n := by
  unfold finalPkt
  split
  · rename_i s
    have := h s (by simp)
    simp [this, pktOf]
  · rfl

/-- The bust packet is never a DTX packet: DTX packets come from `pktOf` alone. -/
theorem finalPkt_dtx (l : List Bool) (n : Nat) (subs : List Sub) (m : Nat) (h : finalPkt l n subs = .dtx m) :
    pktOf l n = .dtx m := by
  unfold finalPkt at h
  split at h
  · split at h <;> cases h
  · exact h

theorem encodeCall_regular (c : Cfg) (st : St) (o : CallOr) (hr : Regular c)
    (hlen : o.subs.length = nSub c o.mode) :
    (encodeCall c st o).1 = (encodeLoop c st o).1 ∧
    (encodeCall c st o).2.1 = finalPkt (encodeLoop c st o).2 (nSub c o.mode) o.subs := by
  have h3 := maxData_of_not_low c hr.2
  unfold encodeCall
  have h1 : ¬ (frameSize c = 0 ∨ min 1276 c.outBytes = 0) := by
    intro h; rcases h with h | h
    · exact hr.1 h
    · omega
  have h2 : ¬ (min 1276 c.outBytes = 1 ∧ c.fs = frameSize c * 10) := by omega
  simp only [h1, h2, hr.2, if_false, Bool.false_eq_true, hlen, ne_eq, not_true_eq_false, and_self]

/-- Where a call ends: an early return (argument error or low-budget packet) with the state untouched, the
    wrong number of recorded coded frames (`.badOracle`) after the detector has been chosen, or the frame loop. -/
theorem encodeCall_cases (c : Cfg) (st : St) (o : CallOr) :
    ((encodeCall c st o).1 = st ∧ ∀ n, (encodeCall c st o).2.1 ≠ .dtx n) ∨
    ((encodeCall c st o).1 = prepCall c st o ∧ (encodeCall c st o).2.1 = .badOracle) ∨
    (Regular c ∧ o.subs.length = nSub c o.mode) := by
  by_cases h1 : frameSize c = 0 ∨ min 1276 c.outBytes = 0
  · rw [show encodeCall c st o = _ from if_pos h1]; exact Or.inl ⟨rfl, fun n h => by cases h⟩
  by_cases h2 : min 1276 c.outBytes = 1 ∧ c.fs = frameSize c * 10
  · rw [show encodeCall c st o = _ from (if_neg h1).trans (if_pos h2)]; exact Or.inl ⟨rfl, fun n h => by cases h⟩
  by_cases h3 : lowBudget c = true
  · rw [show encodeCall c st o = _ from (if_neg h1).trans ((if_neg h2).trans (if_pos h3))]
    exact Or.inl ⟨rfl, fun n h => by cases h⟩
  by_cases h4 : o.subs.length ≠ nSub c o.mode
  · rw [show encodeCall c st o = _ from (if_neg h1).trans ((if_neg h2).trans ((if_neg h3).trans (if_pos h4)))]
    exact Or.inr (Or.inl ⟨rfl, rfl⟩)
  · exact Or.inr (Or.inr ⟨⟨fun h0 => h1 (Or.inl h0), by simpa using h3⟩, by simpa using h4⟩)

/-- What every coded frame keeps, the frame loop keeps. -/
theorem frameFlags_keeps {P : St → Prop} {useDtx isSil : Bool} {mode : Mode} {fQ1 : Nat} (tc : Bool) (os : List Sub)
    (h : ∀ tc st, ∀ o ∈ os, P st → P (frameStep useDtx isSil mode fQ1 tc st o).1) (st : St) (hp : P st) :
    P (frameFlags useDtx isSil mode fQ1 tc st os).1 := by
  induction os generalizing st with
  | nil => exact hp
  | cons o os ih =>
    exact ih (fun tc st x hx => h tc st x (List.mem_cons_of_mem _ hx)) _ (h _ st o List.mem_cons_self hp)

/-- What `prepCall` and every coded frame keep, the call keeps: it ends untouched, after `prepCall`, or after the loop. -/
theorem encodeCall_keeps {P : St → Prop} (c : Cfg) (o : CallOr) (hprep : ∀ st, P st → P (prepCall c st o))
    (hstep : ∀ tc st, ∀ s ∈ o.subs, P st → P (frameStep c.useDtx (isSilOf c o) o.mode (subQ1 c o.mode) tc st s).1)
    (st : St) (hp : P st) : P (encodeCall c st o).1 := by
  rcases encodeCall_cases c st o with ⟨e, _⟩ | ⟨e, _⟩ | ⟨hr, hlen⟩
  · rw [e]; exact hp
  · rw [e]; exact hprep st hp
  · rw [(encodeCall_regular c st o hr hlen).1]
    exact frameFlags_keeps _ _ hstep _ (hprep st hp)

/-- What every call keeps, a run keeps. -/
theorem runFinal_keeps {P : St → Prop} (c : Cfg) (ors : List CallOr)
    (h : ∀ st, ∀ o ∈ ors, P st → P (encodeCall c st o).1) (st : St) (hp : P st) : P (runFinal c st ors) := by
  induction ors generalizing st with
  | nil => exact hp
  | cons o os ih => exact ih (fun st x hx => h st x (List.mem_cons_of_mem _ hx)) _ (h st o List.mem_cons_self hp)

/-- `dtx_count == nb_frames`, for the at least one coded frame of the C code. -/
theorem pktOf_eq (l : List Bool) (n : Nat) :
    pktOf l n = if l ≠ [] ∧ ∀ d ∈ l, d = true then Pkt.dtx (dtxPacketLen n) else Pkt.normal := by
  unfold pktOf
  cases l <;> simp

theorem pktOf_dtx (l : List Bool) (n m : Nat) (h : pktOf l n = .dtx m) : l ≠ [] ∧ ∀ d ∈ l, d = true := by
  rw [pktOf_eq] at h
  split at h
  · assumption
  · cases h

/-- A DTX packet comes only out of the frame loop of a regular call with the right number of recorded coded frames. -/
theorem encodeCall_dtx_regular (c : Cfg) (st : St) (o : CallOr) (n : Nat) (h : (encodeCall c st o).2.1 = .dtx n) :
    Regular c ∧ o.subs.length = nSub c o.mode := by
  rcases encodeCall_cases c st o with ⟨_, hn⟩ | ⟨_, hb⟩ | hreg
  · exact absurd h (hn n)
  · rw [hb] at h; cases h
  · exact hreg

/-- … and then the state is the frame loop's, there is at least one coded frame, and every coded frame was dropped. -/
theorem encodeCall_dtx_loop (c : Cfg) (st : St) (o : CallOr) (n : Nat) (h : (encodeCall c st o).2.1 = .dtx n) :
    (encodeCall c st o).1 = (encodeLoop c st o).1 ∧ o.subs ≠ [] ∧ ∀ d ∈ (encodeLoop c st o).2, d = true := by
  obtain ⟨hr, hlen⟩ := encodeCall_dtx_regular c st o n h
  have hreg := encodeCall_regular c st o hr hlen
  rw [hreg.2] at h
  obtain ⟨hne, hall⟩ := pktOf_dtx _ _ _ (finalPkt_dtx _ _ _ _ h)
  refine ⟨hreg.1, fun h0 => hne ?_, hall⟩
  have := frameFlags_length c.useDtx (isSilOf c o) o.mode (subQ1 c o.mode) o.toCelt (prepCall c st o) o.subs
  unfold encodeLoop
  rw [h0] at this ⊢
  exact List.eq_nil_of_length_eq_zero this

theorem switchReset_prevMode (sdtx : Bool) (st : St) : (switchReset sdtx st).prevMode = st.prevMode := by
  unfold switchReset; split <;> rfl

theorem switchReset_nb (sdtx : Bool) (st : St) :
    (switchReset sdtx st).nb = (if sdtx ≠ st.silkUseDtx then 0 else st.nb) := by
  unfold switchReset; split <;> rfl

theorem switchReset_silk (sdtx : Bool) (st : St) :
    (switchReset sdtx st).silk = (if sdtx ≠ st.silkUseDtx then { st.silk with c0 := 0, c1 := 0 } else st.silk) := by
  unfold switchReset; split <;> rfl

theorem prepCall_silkUseDtx (c : Cfg) (st : St) (o : CallOr) : (prepCall c st o).silkUseDtx = sdtxOf c o := by
  unfold prepCall; simp only; split <;> rfl

/-- `nb_no_activity_ms_Q1` at the start of the frame loop: cleared when the detector in charge changes. -/
theorem prepCall_nb (c : Cfg) (st : St) (o : CallOr) :
    (prepCall c st o).nb = (if sdtxOf c o ≠ st.silkUseDtx then 0 else st.nb) := by
  unfold prepCall; simp only; split <;> exact switchReset_nb _ _

theorem prepCall_nb_same (c : Cfg) (st : St) (o : CallOr) (h : sdtxOf c o = st.silkUseDtx ∨ st.nb = 0) :
    (prepCall c st o).nb = st.nb := by
  rw [prepCall_nb]
  rcases h with h | h
  · simp [h]
  · split <;> simp [h]

theorem pktOf_of_mem_false (l : List Bool) (n : Nat) (h : false ∈ l) : pktOf l n = .normal := by
  rw [pktOf_eq, if_neg fun hc => Bool.noConfusion (hc.2 false h)]

theorem pktOf_of_all_false (l : List Bool) (n : Nat) (h : ∀ d ∈ l, d = false) : pktOf l n = .normal := by
  cases l with
  | nil => rfl
  | cons x xs => exact pktOf_of_mem_false _ n (by have := h x (by simp); subst this; simp)

/-- **DTX disabled**: a regular call never returns a DTX packet (nor a low-budget one). -/
theorem encodeCall_dtx_off (c : Cfg) (st : St) (o : CallOr) (hr : Regular c) (hoff : c.useDtx = false)
    (hlen : o.subs.length = nSub c o.mode) (hnb : NoBust o) : (encodeCall c st o).2.1 = Pkt.normal := by
  rw [(encodeCall_regular c st o hr hlen).2, finalPkt_nobust _ _ _ hnb]
  apply pktOf_of_all_false
  unfold encodeLoop
  rw [hoff]
  apply frameFlags_useDtx_false
  rw [prepCall_silkUseDtx]; simp [sdtxOf, hoff]

/-- **Resume, packet level**: generalised detector in charge (`analysis_info.valid`), input not
    digital silence, some coded frame judged active ⇒ the packet is a normal one. -/
theorem encodeCall_active (c : Cfg) (st : St) (o : CallOr) (hr : Regular c)
    (hlen : o.subs.length = nSub c o.mode) (hon : analysisOn c = true) (hv0 : o.valid0 = true) (hsil : o.digSil = false)
    (hact : ∃ s ∈ o.subs, s.valid = true ∧ s.det = true) (hnb : NoBust o) : (encodeCall c st o).2.1 = Pkt.normal := by
  rw [(encodeCall_regular c st o hr hlen).2, finalPkt_nobust _ _ _ hnb]
  apply pktOf_of_mem_false
  unfold encodeLoop
  have hs : isSilOf c o = false := by simp [isSilOf, hsil]
  rw [hs]
  apply frameFlags_active
  · rw [prepCall_silkUseDtx]; simp [sdtxOf, hon, hv0]
  · exact hact

/-- On digital silence with the generalised detector in charge a regular call is the counter
    machine run over its `nSub` inactive coded frames, from the counter the call starts the frame
    loop with (`st.nb`, or 0 when the generalised detector takes over at this call). -/
theorem encodeCall_silence (c : Cfg) (st : St) (o : CallOr) (hr : Regular c)
    (hlen : o.subs.length = nSub c o.mode) (hdtx : c.useDtx = true) (hon : analysisOn c = true) (hsil : o.digSil = true)
    (hnb : NoBust o) :
    (encodeCall c st o).1.nb = (dtxSteps (prepCall c st o).nb (List.replicate (nSub c o.mode) (false, subQ1 c o.mode))).2 ∧
    (encodeCall c st o).2.1 = pktOf (dtxSteps (prepCall c st o).nb (List.replicate (nSub c o.mode) (false, subQ1 c o.mode))).1 (nSub c o.mode) ∧
    (encodeCall c st o).1.silkUseDtx = false := by
  have hreg := encodeCall_regular c st o hr hlen
  have hs : isSilOf c o = true := by simp [isSilOf, hsil, hon]
  have hsu : (prepCall c st o).silkUseDtx = false := by rw [prepCall_silkUseDtx]; simp [sdtxOf, hs]
  have hfs := frameFlags_dtxSteps true o.mode (subQ1 c o.mode) o.toCelt (prepCall c st o) o.subs hsu
  have hmap : o.subs.map (fun s => (decide (activityOf true s.valid s.det ≠ 0), subQ1 c o.mode)) =
      List.replicate (nSub c o.mode) (false, subQ1 c o.mode) := by
    rw [← hlen, ← List.map_const' (l := o.subs)]; simp [activityOf]
  rw [hmap] at hfs
  rw [hreg.1, hreg.2, finalPkt_nobust _ _ _ hnb]
  unfold encodeLoop
  rw [hdtx, hs, hfs.1, hfs.2, frameFlags_silkUseDtx]
  exact ⟨rfl, rfl, hsu⟩

end Opus.Dtx
