import OpusModel.SilkSynthIdx
import OpusProofs.Accs
/-
  OpusProofs.SilkSynthIdxCore — every array access of silk_decode_core (as listed by the index
  model OpusModel/SilkSynthIdx.lean) lies inside its array, and no celt_assert fires, whenever the
  pitch lags satisfy C18's `pitch_in_range` post-condition (2·fs_kHz ≤ lag ≤ 18·fs_kHz).
-/
namespace Opus.SilkSynthIdx
open Opus Opus.Gen

def AllIn (c : Cfg) (l : List Acc) : Prop := ∀ e ∈ l, e.inBounds c

theorem allIn_nil {c : Cfg} : AllIn c [] ↔ True := ⟨fun _ => trivial, fun _ _ h => nomatch h⟩

theorem allIn_append {c : Cfg} {l1 l2 : List Acc} : AllIn c (l1 ++ l2) ↔ AllIn c l1 ∧ AllIn c l2 :=
  List.forall_mem_append

theorem allIn_ite {c : Cfg} {p : Prop} [Decidable p] {l1 l2 : List Acc} :
    AllIn c (if p then l1 else l2) ↔ (p → AllIn c l1) ∧ (¬p → AllIn c l2) :=
  List.forall_mem_ite

/-- A read of a (possibly empty) range, against the declared size. -/
theorem allIn_rd_size {c : Cfg} {a : Arr} {lo hi : Int} :
    AllIn c (rd a lo hi) ↔ (hi ≤ lo ∨ 0 ≤ lo ∧ hi ≤ a.size c) := by
  unfold rd AllIn Acc.inBounds
  split <;> simp [*] <;> omega

theorem allIn_wrt_size {c : Cfg} {a : Arr} {lo hi : Int} :
    AllIn c (wrt a lo hi) ↔ (hi ≤ lo ∨ 0 ≤ lo ∧ hi ≤ a.size c) := by
  unfold wrt AllIn Acc.inBounds
  split <;> simp [*] <;> omega

attribute [accs] allIn_nil allIn_append allIn_ite
attribute [accs low] allIn_rd_size allIn_wrt_size

/-- A lookup table of array sizes: the instance for array `a` gives its size in the form `omega` can use (a numeral, or
    linear in the members of the configuration), and `allIn_rd` / `allIn_wrt` find it by instance search, so the bound
    to prove at an access is `hi ≤ 320` rather than `hi ≤ Arr.size c .exc_Q14`.
    Arrays without an instance: `.tmpStore` (never accessed as a whole), `.tmp1` (its size depends on `nChInt = 2`), `.out2` and `.samplesOut` (a quotient, which
    the output-stage proof first rewrites to the sample count), `.delayBuf0/1` and the LTP codebooks (only reached
    through an array variable).  For those `simp only [accs]` falls back on `allIn_rd_size` / `allIn_wrt_size` (lower
    priority), which leave the bound against `a.size c`. -/
class SizeIs (c : Cfg) (a : Arr) (n : outParam Int) : Prop where
  eq : a.size c = n

section sizes
variable (c : Cfg)
instance : SizeIs c .sLTP c.ltpMem := ⟨rfl⟩
instance : SizeIs c .sLTP_Q15 (c.ltpMem + c.frameLen) := ⟨rfl⟩
instance : SizeIs c .res_Q14 c.subfr := ⟨rfl⟩
instance : SizeIs c .sLPC_Q14 (c.subfr + 16) := ⟨rfl⟩
instance : SizeIs c .exc_Q14 320 := ⟨rfl⟩
instance : SizeIs c .outBuf 480 := ⟨rfl⟩
instance : SizeIs c .sLPC_Q14_buf 16 := ⟨rfl⟩
instance : SizeIs c .predCoef 32 := ⟨rfl⟩
instance : SizeIs c .ltpCoef 20 := ⟨rfl⟩
instance : SizeIs c .gains 4 := ⟨rfl⟩
instance : SizeIs c .pitchL 4 := ⟨rfl⟩
instance : SizeIs c .xq c.frameLen := ⟨rfl⟩
instance : SizeIs c .pulses ((c.frameLen + 15) / 16 * 16) := ⟨rfl⟩
instance : SizeIs c .aTmp 16 := ⟨rfl⟩
instance : SizeIs c .quantOffsets 4 := ⟨rfl⟩
instance : SizeIs c .sLTP_Q14 (c.ltpMem + c.frameLen) := ⟨rfl⟩
instance : SizeIs c .exc_buf (2 * c.subfr) := ⟨rfl⟩
instance : SizeIs c .plcLtp 5 := ⟨rfl⟩
instance : SizeIs c .prevLPC 16 := ⟨rfl⟩
instance : SizeIs c .prevGain 2 := ⟨rfl⟩
instance : SizeIs c .aPlc 16 := ⟨rfl⟩
instance : SizeIs c .attTab 2 := ⟨rfl⟩
instance : SizeIs c .cngExcBuf 320 := ⟨rfl⟩
instance : SizeIs c .cngSmthNlsf 16 := ⟨rfl⟩
instance : SizeIs c .cngSynth 16 := ⟨rfl⟩
instance : SizeIs c .cngSig (c.frameLen + 16) := ⟨rfl⟩
instance : SizeIs c .prevNlsf 16 := ⟨rfl⟩
instance : SizeIs c .gainsIdx 4 := ⟨rfl⟩
instance : SizeIs c .ltpIdx 4 := ⟨rfl⟩
instance : SizeIs c .nlsfIdx 17 := ⟨rfl⟩
instance : SizeIs c .ltpVqPtrs 3 := ⟨rfl⟩
instance : SizeIs c .ltpScales 3 := ⟨rfl⟩
instance : SizeIs c .sMid 2 := ⟨rfl⟩
instance : SizeIs c .sSide 2 := ⟨rfl⟩
instance : SizeIs c .predPrev 2 := ⟨rfl⟩
instance : SizeIs c .msPred 2 := ⟨rfl⟩
instance : SizeIs c .tmp0 (c.frameLen + 2) := ⟨rfl⟩
end sizes

@[accs high] theorem allIn_rd {c : Cfg} {a : Arr} {lo hi n : Int} [s : SizeIs c a n] :
    AllIn c (rd a lo hi) ↔ (hi ≤ lo ∨ 0 ≤ lo ∧ hi ≤ n) := s.eq ▸ allIn_rd_size

@[accs high] theorem allIn_wrt {c : Cfg} {a : Arr} {lo hi n : Int} [s : SizeIs c a n] :
    AllIn c (wrt a lo hi) ↔ (hi ≤ lo ∨ 0 ≤ lo ∧ hi ≤ n) := s.eq ▸ allIn_wrt_size

/-- The numeric content of a configuration established by silk_decoder_set_fs: everything is linear in `fs_kHz`, so one
    `omega` places an access. -/
structure CfgNum (c : Cfg) : Prop where
  fs : c.fsKHz = 8 ∨ c.fsKHz = 12 ∨ c.fsKHz = 16
  subfr : c.subfr = 5 * c.fsKHz
  ltpMem : c.ltpMem = 20 * c.fsKHz
  lpc : c.lpcOrder = if c.fsKHz = 16 then 16 else 10
  len : c.nbSubfr = 2 ∧ c.frameLen = 10 * c.fsKHz ∨ c.nbSubfr = 4 ∧ c.frameLen = 20 * c.fsKHz

theorem cfgOf_num (fs : Int) (nb : Nat) (hfs : fs = 8 ∨ fs = 12 ∨ fs = 16) (hnb : nb = 2 ∨ nb = 4) :
    CfgNum (cfgOf fs nb) := by
  refine ⟨hfs, rfl, rfl, rfl, ?_⟩
  rcases hnb with rfl | rfl
  · exact Or.inl ⟨rfl, by show ((2 : Nat) : Int) * (5 * fs) = 10 * fs; omega⟩
  · exact Or.inr ⟨rfl, by show ((4 : Nat) : Int) * (5 * fs) = 20 * fs; omega⟩

structure CoreOk (x : CoreIn) : Prop where
  fs : x.fsKHz = 8 ∨ x.fsKHz = 12 ∨ x.fsKHz = 16
  nb : x.nbSubfr = 2 ∨ x.nbSubfr = 4
  sig : 0 ≤ x.signalType ∧ x.signalType ≤ 2
  qoff : 0 ≤ x.quantOffsetType ∧ x.quantOffsetType ≤ 1
  /-- voiced frame: the decoded lags are in the legal range for the rate (C18 `pitch_in_range`) -/
  lags : x.signalType = 2 → ∀ k, k < x.nbSubfr → 2 * x.fsKHz ≤ x.pitchL.getD k 0 ∧ x.pitchL.getD k 0 ≤ 18 * x.fsKHz
  /-- state invariant used by the transition branch: after a concealed voiced frame `lagPrev` is a
      legal lag (it is the lag silk_PLC_conceal ended with) -/
  lagPrev : x.lossCnt ≠ 0 → x.prevSignalType = 2 → x.signalType ≠ 2 →
    2 * x.fsKHz ≤ x.lagPrev ∧ x.lagPrev ≤ 18 * x.fsKHz

theorem transition_iff {x : CoreIn} {k : Nat} :
    transition x k = true ↔ x.lossCnt ≠ 0 ∧ x.prevSignalType = 2 ∧ x.signalType ≠ 2 ∧ (k : Int) < 2 := by
  simp only [transition, Bool.and_eq_true, decide_eq_true_eq]
  exact and_assoc.trans and_assoc

theorem voicedAt_iff {x : CoreIn} {k : Nat} : voicedAt x k = true ↔ transition x k = true ∨ x.signalType = 2 :=
  Bool.or_eq_true_iff.trans (or_congr Iff.rfl decide_eq_true_iff)

theorem lag_bounds (x : CoreIn) (h : CoreOk x) (k : Nat) (hk : k < x.nbSubfr) (hv : voicedAt x k = true) :
    2 * x.fsKHz ≤ lagOf x k ∧ lagOf x k ≤ 18 * x.fsKHz := by
  unfold lagOf
  by_cases ht : transition x k = true
  · rw [if_pos ht]
    obtain ⟨h1, h2, h3, -⟩ := transition_iff.1 ht
    exact h.lagPrev h1 h2 h3
  · rw [if_neg ht]
    exact h.lags ((voicedAt_iff.1 hv).resolve_left ht) k hk

theorem lpcAnalysis_eq (O : Arr) (o0 : Int) (I : Arr) (i0 : Int) (B : Arr) (b0 len d : Int)
    (h : ¬(d < 6 ∨ d % 2 ≠ 0 ∨ d > len)) :
    lpcAnalysis O o0 I i0 B b0 len d =
      ((if d < len then rd I i0 (i0 + len) ++ rd B b0 (b0 + d) ++ wrt O (o0 + d) (o0 + len) else []) ++
        wrt O o0 (o0 + d), false) := by
  unfold lpcAnalysis; rw [if_neg h]

namespace CfgNum

/-- The three configurations by name. -/
theorem cases {c : Cfg} (hc : CfgNum c) :
    (c.fsKHz = 8 ∧ c.subfr = 40 ∧ c.ltpMem = 160 ∧ c.lpcOrder = 10) ∨
    (c.fsKHz = 12 ∧ c.subfr = 60 ∧ c.ltpMem = 240 ∧ c.lpcOrder = 10) ∨
    (c.fsKHz = 16 ∧ c.subfr = 80 ∧ c.ltpMem = 320 ∧ c.lpcOrder = 16) := by
  obtain ⟨hfs, hS, hL, hO, -⟩ := hc
  rcases hfs with h | h | h <;> rw [h] at hS hL hO
  · exact Or.inl ⟨h, hS, hL, hO⟩
  · exact Or.inr (Or.inl ⟨h, hS, hL, hO⟩)
  · exact Or.inr (Or.inr ⟨h, hS, hL, hO⟩)

theorem frame {c : Cfg} (hc : CfgNum c) : c.frameLen = (c.nbSubfr : Int) * c.subfr := by
  rcases hc.len with ⟨h, e⟩ | ⟨h, e⟩ <;> rw [h, e, hc.subfr] <;> omega

/-- The facts `omega` needs, in one `obtain`. -/
theorem lin {c : Cfg} (hc : CfgNum c) :
    8 ≤ c.fsKHz ∧ c.fsKHz ≤ 16 ∧ c.subfr = 5 * c.fsKHz ∧ c.ltpMem = 20 * c.fsKHz ∧
    (c.lpcOrder = 10 ∨ c.lpcOrder = 16 ∧ c.fsKHz = 16) ∧
    (c.nbSubfr = 2 ∧ c.frameLen = 10 * c.fsKHz ∨ c.nbSubfr = 4 ∧ c.frameLen = 20 * c.fsKHz) := by
  obtain ⟨hfs, hS, hL, hO, hF⟩ := hc
  exact ⟨by omega, by omega, hS, hL, by omega, hF⟩

/-- Sub-frame `k` of the frame: `[k·subfr, k·subfr + subfr)` lies inside `[0, frameLen)`.  With this the product
    `k·subfr` is an atom for `omega`. -/
theorem slot {c : Cfg} (hc : CfgNum c) {k : Nat} (hk : k < c.nbSubfr) :
    0 ≤ (k : Int) * c.subfr ∧ (k : Int) * c.subfr + c.subfr ≤ c.frameLen := by
  obtain ⟨h8, -, hS, -⟩ := hc.lin
  have h1 : ((k : Int) + 1) * c.subfr ≤ (c.nbSubfr : Int) * c.subfr :=
    Int.mul_le_mul_of_nonneg_right (by omega) (by omega)
  rw [Int.add_mul, Int.one_mul] at h1
  exact ⟨Int.mul_nonneg (by omega) (by omega), hc.frame ▸ h1⟩

end CfgNum

/-- With a legal lag the re-whitening (decode_core.c:149-157, PLC.c:318-320) starts at a positive index and hands
    silk_LPC_analysis_filter more than `LPC_order` samples: no `celt_assert` of either fires. -/
theorem rewhiten_start {c : Cfg} (hc : CfgNum c) {lag : Int} (hl : 2 * c.fsKHz ≤ lag ∧ lag ≤ 18 * c.fsKHz) :
    ¬ (c.ltpMem - lag - c.lpcOrder - 2 ≤ 0) ∧
    ¬ (c.lpcOrder < 6 ∨ c.lpcOrder % 2 ≠ 0 ∨ c.lpcOrder > c.ltpMem - (c.ltpMem - lag - c.lpcOrder - 2)) := by
  obtain ⟨h8, h16, -, hL, hO, -⟩ := hc.lin
  omega

theorem sfHead_ok (x : CoreIn) (hc : CfgNum x.cfg) (k : Nat) (hk : k < x.cfg.nbSubfr) : AllIn x.cfg (sfHead x k) := by
  obtain ⟨h8, h16, hS, -, hO, hF⟩ := hc.lin
  unfold sfHead
  simp only [SilkSynth.szPredCoefCols, SilkSynth.maxLpcOrder, SilkSynth.ltpOrder, accs]
  omega

theorem sfLtpState_ok (x : CoreIn) (hc : CfgNum x.cfg) (k : Nat) (hk : k < x.cfg.nbSubfr) (pos : Int)
    (hp0 : x.cfg.ltpMem ≤ pos) (hp1 : pos ≤ x.cfg.ltpMem + (k : Int) * x.cfg.subfr)
    (hl : voicedAt x k = true → 2 * x.cfg.fsKHz ≤ lagOf x k ∧ lagOf x k ≤ 18 * x.cfg.fsKHz) :
    (sfLtpState x k pos).2 = false ∧ AllIn x.cfg (sfLtpState x k pos).1 := by
  obtain ⟨h8, h16, hS, hL, hO, hF⟩ := hc.lin
  have hslot := hc.slot hk
  unfold sfLtpState
  rw [show SilkSynth.ltpOrder / 2 = 2 by decide]
  dsimp only [SilkSynth.szPredCoefCols]
  by_cases hv : voicedAt x k = true
  · rw [if_pos hv]
    have hlag := hl hv
    generalize lagOf x k = lag at hlag ⊢
    by_cases hk02 : k = 0 ∨ (k = 2 ∧ x.interp = true)
    · rw [if_pos hk02]
      -- re-whitening happens in sub-frame 0, or 2 of 4: there `k·subfr` is 0 or `2·subfr`
      have hks : (k = 0 ∧ (k : Int) * x.cfg.subfr = 0) ∨
          (k = 2 ∧ x.cfg.nbSubfr = 4 ∧ (k : Int) * x.cfg.subfr = 2 * x.cfg.subfr) := by
        rcases hk02 with rfl | ⟨rfl, _⟩
        · exact Or.inl ⟨rfl, by omega⟩
        · exact Or.inr ⟨rfl, by omega, by omega⟩
      obtain ⟨hsi, hcond⟩ := rewhiten_start hc hlag
      simp only [if_neg hsi, lpcAnalysis_eq _ _ _ _ _ _ _ _ hcond, Bool.false_eq_true, if_false, accs]
      omega
    · rw [if_neg hk02]
      simp only [accs]
      omega
  · rw [if_neg hv]
    exact ⟨rfl, allIn_nil.2 trivial⟩

theorem sfLtp_ok (x : CoreIn) (hc : CfgNum x.cfg) (k : Nat) (hk : k < x.cfg.nbSubfr) (pos : Int)
    (hp0 : x.cfg.ltpMem ≤ pos) (hp1 : pos ≤ x.cfg.ltpMem + (k : Int) * x.cfg.subfr)
    (hl : voicedAt x k = true → 2 * x.cfg.fsKHz ≤ lagOf x k ∧ lagOf x k ≤ 18 * x.cfg.fsKHz) :
    AllIn x.cfg (sfLtp x k pos) := by
  obtain ⟨h8, h16, hS, hL, -, hF⟩ := hc.lin
  have hslot := hc.slot hk
  unfold sfLtp
  dsimp only [SilkSynth.ltpOrder]
  by_cases hv : voicedAt x k = true
  · rw [if_pos hv]
    have hlag := hl hv
    generalize lagOf x k = lag at hlag ⊢
    simp only [accs]
    omega
  · rw [if_neg hv]; exact allIn_nil.2 trivial

theorem sfLpc_ok (x : CoreIn) (hc : CfgNum x.cfg) (k : Nat) (hk : k < x.cfg.nbSubfr) : AllIn x.cfg (sfLpc x k) := by
  obtain ⟨h8, h16, hS, -, hO, hF⟩ := hc.lin
  have hslot := hc.slot hk
  unfold sfLpc
  simp only [SilkSynth.maxLpcOrder, accs]
  omega

theorem coreLoop_ok (x : CoreIn) (h : CoreOk x) (hc : CfgNum x.cfg) :
    ∀ (n k : Nat) (pos : Int), k + n = x.nbSubfr → x.cfg.ltpMem ≤ pos → pos ≤ x.cfg.ltpMem + (k : Int) * x.cfg.subfr →
    (coreLoop x n k pos).2.1 = false ∧ AllIn x.cfg (coreLoop x n k pos).1 := by
  intro n
  induction n with
  | zero => intro k pos _ _ _; exact ⟨rfl, allIn_nil.2 trivial⟩
  | succ n ih =>
    intro k pos hkn hp0 hp1
    have hk : k < x.cfg.nbSubfr := show k < x.nbSubfr by omega
    have hl : voicedAt x k = true → 2 * x.cfg.fsKHz ≤ lagOf x k ∧ lagOf x k ≤ 18 * x.cfg.fsKHz :=
      lag_bounds x h k hk
    have hs := sfLtpState_ok x hc k hk pos hp0 hp1 hl
    unfold coreLoop
    simp only
    rw [if_neg (by rw [hs.1]; simp)]
    have hS : 0 < x.cfg.subfr := by have := hc.lin; omega
    have hpos' : x.cfg.ltpMem ≤ (if voicedAt x k = true then pos + x.cfg.subfr else pos) ∧
        (if voicedAt x k = true then pos + x.cfg.subfr else pos) ≤ x.cfg.ltpMem + ((k + 1 : Nat) : Int) * x.cfg.subfr := by
      have : ((k + 1 : Nat) : Int) * x.cfg.subfr = (k : Int) * x.cfg.subfr + x.cfg.subfr := by
        push_cast; rw [Int.add_mul]; omega
      rw [this]
      split <;> omega
    have hr := ih (k + 1) _ (by omega) hpos'.1 hpos'.2
    simp only [accs, sfHead_ok x hc k hk, hs.2, sfLtp_ok x hc k hk pos hp0 hp1 hl, sfLpc_ok x hc k hk, hr.2]
    exact hr.1

theorem corePrelude_ok (x : CoreIn) (h : CoreOk x) (hc : CfgNum x.cfg) : AllIn x.cfg (corePrelude x) := by
  obtain ⟨h8, h16, hS, -, -, hF⟩ := hc.lin
  have hsig := h.sig
  have hq := h.qoff
  unfold corePrelude
  simp only [SilkSynth.szQuantOffsetsCols, SilkSynth.maxLpcOrder, accs]
  omega

theorem coreAccesses_ok (x : CoreIn) (h : CoreOk x) :
    (coreAccesses x).2 = false ∧ ∀ a ∈ (coreAccesses x).1, a.inBounds x.cfg := by
  have hc : CfgNum x.cfg := cfgOf_num x.fsKHz x.nbSubfr h.fs h.nb
  have hl := coreLoop_ok x h hc x.nbSubfr 0 x.cfg.ltpMem (by omega) (Int.le_refl _) (by simp)
  obtain ⟨h8, -, hS, -⟩ := hc.lin
  unfold coreAccesses
  refine ⟨hl.1, ?_⟩
  show AllIn _ _
  simp only [hl.1, Bool.false_eq_true, if_false, SilkSynth.maxLpcOrder, accs, corePrelude_ok x h hc, hl.2]
  omega

/-- The input record of a voiced frame whose lags come out of the pitch decoder. -/
def voicedCoreIn (fs : Int) (nb : Nat) (lags : List Int) (qoff lossCnt prevSig lagPrev : Int) (interp : Bool)
    (gd ad : List Bool) : CoreIn :=
  { fsKHz := fs, nbSubfr := nb, signalType := 2, quantOffsetType := qoff, interp := interp, pitchL := lags,
    lossCnt := lossCnt, prevSignalType := prevSig, lagPrev := lagPrev, gainDiff := gd, adjNe := ad }

theorem voicedCoreIn_ok (fs : Int) (nb : Nat) (lags : List Int) (qoff lossCnt prevSig lagPrev : Int) (interp : Bool)
    (gd ad : List Bool) (hfs : fs = 8 ∨ fs = 12 ∨ fs = 16) (hnb : nb = 2 ∨ nb = 4) (hq : 0 ≤ qoff ∧ qoff ≤ 1)
    (hlen : lags.length = nb) (hr : ∀ l ∈ lags, 2 * fs ≤ l ∧ l ≤ 18 * fs) :
    CoreOk (voicedCoreIn fs nb lags qoff lossCnt prevSig lagPrev interp gd ad) :=
  { fs := hfs, nb := hnb, sig := ⟨by show (0 : Int) ≤ 2; decide, by show (2 : Int) ≤ 2; decide⟩, qoff := hq,
    lags := fun _ k hk => by
      have hk' : k < lags.length := by rw [hlen]; exact hk
      have hm : lags[k]? = some (lags.getD k 0) := by
        rw [List.getD_eq_getElem?_getD, List.getElem?_eq_getElem hk']; simp
      exact hr _ (List.mem_of_getElem? hm),
    lagPrev := fun _ _ h => absurd rfl h }

end Opus.SilkSynthIdx
