import OpusProofs.OpusFrameSilk
/-
  C08, frame level: Opus frames in which something follows the SILK payload on the main coder —
  the redundancy signalling, and in hybrid mode the CELT part — and a 5 ms redundancy frame may follow the
  main part in the frame.  Both rest on `frame_prefix_decode` (OpusProofs/OpusFrameSilk.lean) with the stream
  "finished main part ++ redundancy frame" (`encDone_take_append_contains`).
-/
namespace Opus.OpusFrameProofs
open Opus Opus.RangeCoder Opus.SilkSyms Opus.SilkSymsEnc Opus.SilkSymsEncProofs Opus.OpusFrameEnc

theorem getD_take_append (a R : List Nat) (n i : Nat) (hn : n ≤ a.length) (hi : i < n) :
    (a.take n ++ R).getD i 0 = a.getD i 0 := by
  have hl : (a.take n).length = n := by rw [List.length_take]; omega
  simp only [List.getD_eq_getElem?_getD]
  rw [List.getElem?_append_left (by omega), List.getElem?_take, if_pos hi]

/-- length of the frame handed to the decoder: main part `a.take n`, then the redundancy frame `R` -/
theorem length_take_append (a R : List Nat) (n : Nat) (hn : n ≤ a.length) : (a.take n ++ R).length = n + R.length := by
  rw [List.length_append, List.length_take, Nat.min_eq_left hn]

/-- below `n` that frame has the bytes of `a`, as `byteAt` sees them -/
theorem byteAt_take_append (a R : List Nat) (n L i : Nat) (hn : n ≤ a.length) (hi : i < n) (hL : i < L) :
    byteAt (a.take n ++ R) (n + R.length) i = byteAt a L i := by
  unfold byteAt
  rw [if_pos (Nat.lt_of_lt_of_le hi (Nat.le_add_right n _)), if_pos hL]
  exact getD_take_append a R n i hn hi

/-- the decoder's `len -= redundancy_bytes` -/
theorem toNat_add_sub (n r : Nat) : (((n + r : Nat) : Int) - (r : Int)).toNat = n := by omega

theorem natCast_add_sub (n r : Nat) : ((n + r : Nat) : Int) - (n : Int) = (r : Int) := by omega

theorem drop_take_append (a R : List Nat) (n : Nat) (hn : n ≤ a.length) : (a.take n ++ R).drop n = R := by
  have hl : (a.take n).length = n := by rw [List.length_take]; omega
  rw [List.drop_append, hl, Nat.sub_self, List.drop_zero, List.drop_eq_nil_of_le (by omega), List.nil_append]

/-- The frame of a packet with a redundancy frame: the finished main coder cut at `ret` bytes, then `R`.  If the cut keeps
    every byte the final interval depends on (`hcover`, for the `n` of `encDone_contains_ext`), the code value of that
    stream lies in the encoder's final interval. -/
theorem encDone_take_append_contains (c : Enc) (ri : RunInv c) (hn : c.nbitsTotal < 4294967296)
    (herr : (encDone c).error = 0) (R : List Nat) (hR : BytesOk R) (ret : Nat) (hret : ret ≤ c.storage)
    (hcover : ∀ n, n ≤ c.storage → 8 * n + ilog c.rng ≤ 8 * encM c + 40 → n ≤ ret) :
    ret ≤ (encDone c).buf.length ∧ BytesOk ((encDone c).buf.take ret ++ R) ∧
    Contains ((encDone c).buf.take ret ++ R) (ret + R.length) c := by
  obtain ⟨-, -, hlen, hbytes, -, -⟩ := encDone_spec c ri.inv ri.raw ri.bytes hn herr
  obtain ⟨n, hn1, hn2, hext⟩ := encDone_contains_ext c ri.inv ri.raw ri.bytes hn herr
  have hretL : ret ≤ (encDone c).buf.length := by rw [hlen]; exact Nat.le_trans hret ri.inv.wf.storage_le
  have hBok : BytesOk ((encDone c).buf.take ret ++ R) := by
    intro b hb
    rcases List.mem_append.mp hb with h | h
    · exact hbytes b (List.mem_of_mem_take h)
    · exact hR b h
  have hnret := hcover n hn1 hn2
  exact ⟨hretL, hBok, hext _ _ (fun i => byteAt_lt_bytesOk hBok _ i) fun i hi =>
    byteAt_take_append _ R ret c.storage i hretL (Nat.lt_of_lt_of_le hi hnret) (Nat.lt_of_lt_of_le hi hn1)⟩

theorem bitLogp_spec {d : Dec} {v logp : Nat} (hv : v ≤ 1) (h : Reads d [.bitLogp v logp]) :
    decBitLogp d logp = (v, after d [.bitLogp v logp]) := by
  have h1 : (decBitLogp d logp).1 = (if v ≠ 0 then 1 else 0) := h.1
  have h2 : (if v ≠ 0 then 1 else 0) = v := by split <;> omega
  exact Prod.ext (h1.trans h2) rfl

theorem uint_spec {d : Dec} {v ft : Nat} (h : Reads d [.uint v ft]) : decUint d ft = (v, after d [.uint v ft]) := by
  have h1 : (decUint d ft).1 = v := h.1
  exact Prod.ext h1 rfl

/-- **The `if (redundancy)` block (opus_decoder.c:483-502) inverts what the encoder signals behind the redundancy flag**, `sig`
    (`hm`: `mode` is 1001 exactly for `hybrid`).  `celt_to_silk` is read back; so is the byte count in hybrid mode, while
    SILK-only (`hsilk`) it is what the frame length leaves behind `ec_tell`.  `hsane`: the decoder's sanity test passes. -/
theorem redundancyBlock_sig (hybrid : Bool) (mode : Nat) (hm : mode = 1001 ↔ hybrid = true) (len : Int) (c : Dec)
    (c2s rb : Nat) (hc2s : c2s ≤ 1) (hrb : hybrid = true → 2 ≤ rb) {sig : List Op}
    (hsig : sig = Op.bitLogp c2s 1 :: (if hybrid then [Op.uint (rb - 2) 256] else []))
    (hsilk : hybrid = false → len - (tell (after c sig) + 7) / 8 = (rb : Int))
    (hread : Reads c sig) (hsane : ¬ ((len - (rb : Int)) * 8 < tell (after c sig))) :
    redundancyBlock mode len c = (1, c2s, rb, len - rb, { after c sig with storage := (after c sig).storage - rb }) := by
  subst hsig
  rw [reads_cons_append] at hread
  rw [after_cons] at hsane ⊢
  have hbytes : redundancyBytes mode len (after c [Op.bitLogp c2s 1]) =
      ((rb : Int), after (after c [Op.bitLogp c2s 1]) (if hybrid then [Op.uint (rb - 2) 256] else [])) := by
    rw [redundancyBytes]
    cases hybrid with
    | true =>
      have h2 := hrb rfl
      rw [if_pos (hm.mpr rfl), uint_spec hread.2]
      exact Prod.ext (show ((rb - 2 : Nat) : Int) + 2 = (rb : Int) by omega) rfl
    | false => rw [if_neg (fun h => absurd (hm.mp h) (by decide))]; exact Prod.ext (hsilk rfl) rfl
  rw [redundancyBlock, bitLogp_spec hc2s hread.1]
  simp only [hbytes, if_neg hsane, Int.toNat_natCast]

/-- **The redundancy parse (opus_decoder.c:475-502) inverts the encoder's signalling `redSigOps`**, for both modes
    (`hm`: `mode` is 1001 exactly for `hybrid`).  Hybrid: the flag is read back, and behind a set flag the block
    (`redundancyBlock_sig`).  SILK-only (`hsilk`): no flag is signalled; redundancy is inferred from the length test.
    `hsane`: the decoder's sanity test, made only when redundancy was found.  With the byte count `rb = 0` where there is no
    redundancy (`hrb0`) both outcomes are one tuple: the frame is split at `len - rb`. -/
theorem redundancyHeader_sig (hybrid : Bool) (mode : Nat) (hm : mode = 1001 ↔ hybrid = true) (len : Nat) (c1 : Dec) (gate : Bool)
    (red c2s rb : Nat) (hred : red ≤ 1) (hc2s : c2s ≤ 1) (hrb : hybrid = true → red ≠ 0 → 2 ≤ rb)
    (hrb0 : ¬ (gate = true ∧ red ≠ 0) → rb = 0)
    (hsilk : hybrid = false → gate = true →
      red = 1 ∧ (len : Int) - (tell (after c1 (redSigOps hybrid gate red c2s rb)) + 7) / 8 = (rb : Int))
    (hgate : (tell c1 + 17 + (if mode = 1001 then 20 else 0) ≤ 8 * (len : Int)) ↔ gate = true)
    (hread : Reads c1 (redSigOps hybrid gate red c2s rb))
    (hsane : gate = true → red ≠ 0 → ¬ (((len : Int) - (rb : Int)) * 8 < tell (after c1 (redSigOps hybrid gate red c2s rb)))) :
    redundancyHeader mode false (len : Int) c1 =
      (if gate = true ∧ red ≠ 0 then 1 else 0, if gate = true ∧ red ≠ 0 then c2s else 0, rb, (len : Int) - rb,
       { after c1 (redSigOps hybrid gate red c2s rb) with
         storage := (after c1 (redSigOps hybrid gate red c2s rb)).storage - rb }) := by
  rw [redundancyHeader]
  unfold redSigOps at hread hsane hsilk ⊢
  by_cases hg : gate = true
  · rw [if_pos hg] at hread hsane hsilk ⊢
    rw [if_pos ⟨by decide, hgate.mpr hg⟩]
    cases hybrid with
    | true =>
      simp only [↓reduceIte, List.singleton_append] at hread hsane ⊢
      rw [reads_cons_append] at hread
      rw [after_cons] at hsane ⊢
      rw [if_pos (hm.mpr rfl), bitLogp_spec hred hread.1]
      by_cases hr0 : red = 0
      · obtain rfl := hrb0 fun hh => hh.2 hr0
        simp only [hr0, ne_eq, not_true_eq_false, and_false, ↓reduceIte, after_nil, Int.natCast_zero, Int.sub_zero, Nat.sub_zero]
      · simp only [if_pos hr0, if_pos (And.intro hg hr0)] at hread hsane ⊢
        exact redundancyBlock_sig true mode hm len _ c2s rb hc2s (fun _ => hrb rfl hr0) rfl (fun h => absurd h (by decide))
          hread.2 (hsane hg hr0)
    | false =>
      obtain ⟨rfl, htell⟩ := hsilk rfl hg
      simp only [↓reduceIte, Bool.false_eq_true, ne_eq, Nat.succ_ne_self, not_false_eq_true, List.nil_append] at hread hsane htell ⊢
      rw [if_neg (fun h => absurd (hm.mp h) (by decide)), if_pos ⟨hg, by decide⟩, if_pos ⟨hg, by decide⟩]
      exact redundancyBlock_sig false mode hm len c1 c2s rb hc2s (fun h => absurd h (by decide)) rfl (fun _ => htell) hread
        (hsane hg (by decide))
  · obtain rfl := hrb0 fun hh => hg hh.1
    rw [if_neg hg] at hread hsane hsilk ⊢
    rw [if_neg (fun hh => hg (hgate.mp hh.2)), if_neg (fun hh => hg hh.1), if_neg (fun hh => hg hh.1), after_nil]
    simp only [Int.natCast_zero, Int.sub_zero, Nat.sub_zero]

/-- SILK-only Opus frame WITH redundancy. -/
theorem opus_frame_lockstep_silk_red_all (buf : List Nat) (maxData bandwidth nCh ms10 spf48 : Nat) (pk : PacketIn) (st : SilkSt)
    (c2s : Nat) (R : Bytes) (rr : Nat)
    (hbw : bandwidth = 1101 ∨ bandwidth = 1102 ∨ bandwidth = 1103)
    (hms : ms10 = 100 ∨ ms10 = 200 ∨ ms10 = 400 ∨ ms10 = 600)
    (hs : maxData - 1 ≤ buf.length) (hb : BytesOk buf) (hok : PacketOk (silkCfg bandwidth nCh ms10) pk)
    (hc2s : c2s ≤ 1) (hR : BytesOk R)
    (hn : (encodeAll buf (maxData - 1) (packetOps (silkCfg bandwidth nCh ms10) pk ++ redSigOps false true 1 c2s R.length)).nbitsTotal < 4294967296)
    (herr : (encodeAll buf (maxData - 1) (packetOps (silkCfg bandwidth nCh ms10) pk ++ redSigOps false true 1 c2s R.length)).error = 0)
    (hfit : tell (encRun (encInit buf (maxData - 1)) (packetOps (silkCfg bandwidth nCh ms10) pk ++ redSigOps false true 1 c2s R.length)) ≤
      8 * ((maxData - 1 : Nat) : Int))
    (hgate : tell (encRun (encInit buf (maxData - 1)) (packetOps (silkCfg bandwidth nCh ms10) pk)) + 17 ≤
      8 * (((tell (encRun (encInit buf (maxData - 1)) (packetOps (silkCfg bandwidth nCh ms10) pk ++ redSigOps false true 1 c2s R.length)) + 7) / 8) +
        (R.length : Int)))
    (hred : CeltFrameRT { start := 0, end_ := CeltSyms.endBandOf bandwidth, C := nCh, LM := 1 } R.length (decInit R R.length) rr) :
    ∃ o, decodeOpusFrame 1000 bandwidth nCh ms10 false st
        (silkRedFrame buf maxData (silkCfg bandwidth nCh ms10) pk c2s R rr).payload = .ok o ∧
      o.redundancy = 1 ∧ o.celtToSilk = c2s ∧ o.redundancyBytes = R.length ∧ o.dec.error = 0 ∧
      o.dec.rng = (encRun (encInit buf (maxData - 1)) (packetOps (silkCfg bandwidth nCh ms10) pk ++ redSigOps false true 1 c2s R.length)).rng ∧
      o.evs = packetEvs (silkCfg bandwidth nCh ms10) pk (fun j =>
        ((encRun (encInit buf (maxData - 1)) (prefixOps (silkCfg bandwidth nCh ms10) pk j)).rng,
         tell (encRun (encInit buf (maxData - 1)) (prefixOps (silkCfg bandwidth nCh ms10) pk j)))) ∧
      decRangeFinal 1000 bandwidth nCh spf48 (silkRedFrame buf maxData (silkCfg bandwidth nCh ms10) pk c2s R rr).payload o =
        .ok (silkRedFrame buf maxData (silkCfg bandwidth nCh ms10) pk c2s R rr).rangeFinal := by
  unfold silkRedFrame encodeAll at *
  simp only [] at *
  generalize hcfg : silkCfg bandwidth nCh ms10 = cfg at *
  generalize maxData - 1 = size at *
  have hsigE : redSigOps false true 1 c2s R.length = [Op.bitLogp c2s 1] := by
    unfold redSigOps; simp only [↓reduceIte, Bool.false_eq_true, ne_eq, Nat.succ_ne_self, not_false_eq_true, List.nil_append]
  rw [hsigE] at hn herr hfit hgate ⊢
  obtain ⟨hnF, herrF⟩ := encDone_ok hn herr
  have hsigL : LegalRun (encRun (encInit buf size) (packetOps cfg pk)) [Op.bitLogp c2s 1] :=
    ⟨⟨by decide, by decide⟩, trivial⟩
  have hsigN : ∀ op ∈ [Op.bitLogp c2s 1], NoRawOp op := by
    intro op hop; rw [List.mem_singleton] at hop; rw [hop]; trivial
  obtain ⟨riF, acF, h0, h1, hsto⟩ := sig_run_facts buf size cfg pk [Op.bitLogp c2s 1] hs hb hok hsigN hsigL hnF herrF
  have hrngD := encDone_rng (encRun (encInit buf size) (packetOps cfg pk ++ [Op.bitLogp c2s 1]))
  generalize he1 : encRun (encInit buf size) (packetOps cfg pk ++ [Op.bitLogp c2s 1]) = e1 at *
  obtain ⟨⟨hretI, hret1⟩, hretS, hcover⟩ := tellBytes_facts e1 acF h0 h1 (ilog_le_32 ⟨riF.inv.rng_lo, riF.inv.rng_hi⟩) size hfit
  generalize ((tell e1 + 7) / 8).toNat = ret at *
  rw [hretI] at hgate
  -- the stream the decoder gets: main part followed by the redundancy frame
  obtain ⟨hretL, hBok, hc⟩ := encDone_take_append_contains e1 riF hnF herr R hR ret (by rw [hsto]; exact hretS)
    fun n _ h => hcover n h
  generalize encDone e1 = eD at *
  have hlenB := length_take_append eD.buf R ret hretL
  have hpos : 0 < ret + R.length := Nat.lt_of_lt_of_le hret1 (Nat.le_add_right _ _)
  obtain ⟨c1, hdec, -, r3, r4, r5⟩ := frame_stream_decode 1000 (silkIr bandwidth) (ms10 / 10) buf size cfg pk st
    [Op.bitLogp c2s 1] [] hs hb hok hsigN hsigL trivial
    (by rw [List.append_nil, he1]; exact hnF) (by rw [List.append_nil, he1]; exact herrF)
    (eD.buf.take ret ++ R) hBok (by rw [hlenB]; exact hpos) (by rw [List.append_nil, he1, hlenB]; exact hc)
  rw [he1] at r5
  rw [hlenB] at hdec r5
  rw [← hcfg, decodeOpusFrame_silk bandwidth nCh ms10 hbw hms, hcfg, hdec]
  refine ⟨_, rfl, ?_⟩
  have htc : tell (after c1 [Op.bitLogp c2s 1]) = tell e1 := (tell_eq_of_rn r5.rc.rng_eq r5.rc.nbits_eq).1
  have hrh := redundancyHeader_sig false 1000 (by decide) (ret + R.length) c1 true 1 c2s R.length (by decide) hc2s
    (fun h => absurd h (by decide)) (fun h => absurd ⟨rfl, by decide⟩ h)
    (fun _ _ => ⟨rfl, by rw [hsigE, htc, hretI]; exact natCast_add_sub ret R.length⟩)
    ⟨fun _ => rfl, fun _ => by rw [r3, Int.natCast_add]; simpa using hgate⟩ (by rw [hsigE]; exact r4)
    (fun _ _ => by rw [hsigE, htc]; omega)
  rw [hsigE, if_pos ⟨rfl, by decide⟩, if_pos ⟨rfl, by decide⟩] at hrh
  simp only [hrh]
  refine ⟨trivial, trivial, trivial, r5.err, r5.rc.rng_eq, trivial, ?_⟩
  unfold decRangeFinal
  have hlenI := toNat_add_sub ret R.length
  simp only [if_true, ne_eq, Nat.succ_ne_zero, not_false_eq_true, hlenI]
  rw [drop_take_append eD.buf R ret hretL, List.take_length]
  obtain ⟨cf, hcf1, hcf2⟩ := hred
  rw [hcf1]
  simp only
  rw [hcf2, r5.rc.rng_eq, hrngD]

theorem decodeOpusFrame_hybrid (bandwidth nCh ms10 : Nat) (hms : ms10 = 100 ∨ ms10 = 200) (st : SilkSt) (frame : Bytes) :
    decodeOpusFrame 1001 bandwidth nCh ms10 false st frame =
      .ok (decodeOpusFrameCfg 1001 16000 (ms10 / 10) false (hybridCfg nCh ms10) st frame) := by
  rcases hms with rfl | rfl <;> rfl

theorem redSigOps_noRaw (gate : Bool) (red c2s rb : Nat) : ∀ op ∈ redSigOps true gate red c2s rb, NoRawOp op := by
  intro op hop
  unfold redSigOps at hop
  split at hop
  · simp only [if_true, List.mem_append, List.mem_singleton] at hop
    rcases hop with h | h
    · rw [h]; trivial
    · split at h
      · simp only [List.mem_cons, List.mem_nil_iff, or_false] at h
        rcases h with h | h <;> (rw [h]; trivial)
      · cases h
  · cases hop

theorem redSigOps_legal (c : Enc) (gate : Bool) (red c2s rb : Nat) (hrb : red ≠ 0 → 2 ≤ rb ∧ rb ≤ 257) :
    LegalRun c (redSigOps true gate red c2s rb) := by
  unfold redSigOps
  by_cases hg : gate = true
  · rw [if_pos hg, if_pos rfl]
    by_cases hr : red ≠ 0
    · obtain ⟨h2, h257⟩ := hrb hr
      rw [if_pos hr, if_pos rfl]
      show LegalRun c [Op.bitLogp red 12, Op.bitLogp c2s 1, Op.uint (rb - 2) 256]
      exact ⟨⟨by decide, by decide⟩, ⟨by decide, by decide⟩, ⟨by decide, by decide, by omega⟩, trivial⟩
    · rw [if_neg hr]
      show LegalRun c [Op.bitLogp red 12]
      exact ⟨⟨by decide, by decide⟩, trivial⟩
  · rw [if_neg hg]; trivial

/-- Hybrid Opus frame: SILK part, redundancy signalling and hand-over to the CELT part on one coder; the CELT
    part and the redundancy frame enter through `CeltFrameRT`.  Last clause: without a redundancy frame the decoder state at
    the hand-over is the one that has read the flag bits, the SILK body and the signalling from the frame — the form in
    which C17's round trip (`World.decAt`) takes it up. -/
theorem hybrid_frame_lockstep (buf : List Nat) (maxData bandwidth nCh ms10 spf48 : Nat) (pk : PacketIn) (st : SilkSt)
    (gate : Bool) (red c2s : Nat) (celtOps : List Op) (R : Bytes) (rr : Nat)
    (hms : ms10 = 100 ∨ ms10 = 200)
    (hs : maxData - 1 ≤ buf.length) (hb : BytesOk buf) (hok : PacketOk (hybridCfg nCh ms10) pk)
    (hred : red ≤ 1) (hc2s : c2s ≤ 1) (hR : BytesOk R)
    (hrb : red ≠ 0 → 2 ≤ R.length ∧ R.length ≤ 257) (hR0 : ¬ (gate = true ∧ red ≠ 0) → R = [])
    (hsuf : LegalRun (encRun (encInit buf (maxData - 1)) (packetOps (hybridCfg nCh ms10) pk ++ redSigOps true gate red c2s R.length))
      (Op.shrink (maxData - 1 - R.length) :: celtOps))
    (hn : (encodeAll buf (maxData - 1) (hybridOps maxData (hybridCfg nCh ms10) pk gate red c2s R.length celtOps)).nbitsTotal < 4294967296)
    (herr : (encodeAll buf (maxData - 1) (hybridOps maxData (hybridCfg nCh ms10) pk gate red c2s R.length celtOps)).error = 0)
    (hgate : (tell (encRun (encInit buf (maxData - 1)) (packetOps (hybridCfg nCh ms10) pk)) + 17 + 20 ≤
        8 * (((encodeAll buf (maxData - 1) (hybridOps maxData (hybridCfg nCh ms10) pk gate red c2s R.length celtOps)).storage + R.length : Nat) : Int)) ↔
      gate = true)
    (hsane : tell (encRun (encInit buf (maxData - 1)) (packetOps (hybridCfg nCh ms10) pk ++ redSigOps true gate red c2s R.length)) ≤
      8 * (((encodeAll buf (maxData - 1) (hybridOps maxData (hybridCfg nCh ms10) pk gate red c2s R.length celtOps)).storage : Nat) : Int))
    (hmainpos : 0 < (encodeAll buf (maxData - 1) (hybridOps maxData (hybridCfg nCh ms10) pk gate red c2s R.length celtOps)).storage) :
    ∃ o, (decodeOpusFrame 1001 bandwidth nCh ms10 false st
        (hybridFrame buf maxData (hybridCfg nCh ms10) pk gate red c2s celtOps R rr).payload = .ok o ∧
      o.redundancy = (if gate = true ∧ red ≠ 0 then 1 else 0) ∧
      o.celtToSilk = (if gate = true ∧ red ≠ 0 then c2s else 0) ∧ o.redundancyBytes = R.length ∧
      o.len = ((encodeAll buf (maxData - 1) (hybridOps maxData (hybridCfg nCh ms10) pk gate red c2s R.length celtOps)).storage : Int) ∧
      o.evs = packetEvs (hybridCfg nCh ms10) pk (fun j =>
        ((encRun (encInit buf (maxData - 1)) (prefixOps (hybridCfg nCh ms10) pk j)).rng,
         tell (encRun (encInit buf (maxData - 1)) (prefixOps (hybridCfg nCh ms10) pk j)))) ∧
      -- the hand-over to the CELT part: lock step with the encoder behind the signalling
      o.dec.error = 0 ∧
      o.dec.rng = (encRun (encInit buf (maxData - 1)) (packetOps (hybridCfg nCh ms10) pk ++ redSigOps true gate red c2s R.length)).rng ∧
      tell o.dec = tell (encRun (encInit buf (maxData - 1)) (packetOps (hybridCfg nCh ms10) pk ++ redSigOps true gate red c2s R.length)) ∧
      o.dec.storage = (encodeAll buf (maxData - 1) (hybridOps maxData (hybridCfg nCh ms10) pk gate red c2s R.length celtOps)).storage ∧
      -- with the CELT round trips, the final ranges agree
      (CeltFrameRT { start := 17, end_ := CeltSyms.endBandOf bandwidth, C := nCh, LM := CeltSyms.lmOf spf48 } o.len.toNat o.dec
          (encodeAll buf (maxData - 1) (hybridOps maxData (hybridCfg nCh ms10) pk gate red c2s R.length celtOps)).rng →
        (gate = true ∧ red ≠ 0 →
          CeltFrameRT { start := 0, end_ := CeltSyms.endBandOf bandwidth, C := nCh, LM := 1 } R.length (decInit R R.length) rr) →
        (¬ (gate = true ∧ red ≠ 0) → rr = 0) →
        decRangeFinal 1001 bandwidth nCh spf48 (hybridFrame buf maxData (hybridCfg nCh ms10) pk gate red c2s celtOps R rr).payload o =
          .ok (hybridFrame buf maxData (hybridCfg nCh ms10) pk gate red c2s celtOps R rr).rangeFinal)) ∧
      (¬ (gate = true ∧ red ≠ 0) → o.dec =
        after (decInit (hybridFrame buf maxData (hybridCfg nCh ms10) pk gate red c2s celtOps R rr).payload
            (hybridFrame buf maxData (hybridCfg nCh ms10) pk gate red c2s celtOps R rr).payload.length)
          (flagOps (headerBits (hybridCfg nCh ms10) pk) ++ packetBody (hybridCfg nCh ms10) pk ++ redSigOps true gate red c2s R.length)) := by
  unfold hybridFrame hybridOps encodeAll at *
  simp only [] at *
  generalize hcfg : hybridCfg nCh ms10 = cfg at *
  generalize maxData - 1 = size at *
  generalize hsigE : redSigOps true gate red c2s R.length = sig at *
  have hsigN : ∀ op ∈ sig, NoRawOp op := by rw [← hsigE]; exact redSigOps_noRaw gate red c2s R.length
  have hsigL : LegalRun (encRun (encInit buf size) (packetOps cfg pk)) sig := by
    rw [← hsigE]; exact redSigOps_legal _ gate red c2s R.length hrb
  generalize Op.shrink (size - R.length) :: celtOps = suf at *
  obtain ⟨hnF, herrF⟩ := encDone_ok hn herr
  obtain ⟨hnP, herrP⟩ := encRun_ok_of_append hnF herrF
  obtain ⟨riP, -⟩ := sig_run_facts buf size cfg pk sig hs hb hok hsigN hsigL hnP herrP
  obtain ⟨-, riF, -⟩ := run_back suf _ riP hsuf (by rw [← encRun_append]; exact hnF) (by rw [← encRun_append]; exact herrF)
  rw [← encRun_append] at riF
  obtain ⟨-, d1, -⟩ := encDone_spec _ riF.inv riF.raw riF.bytes hnF herr
  generalize he1 : encRun (encInit buf size) (packetOps cfg pk ++ sig ++ suf) = e1 at *
  obtain ⟨hSL, hBok, hc⟩ := encDone_take_append_contains e1 riF hnF herr R hR e1.storage (Nat.le_refl _) fun n h _ => h
  generalize encDone e1 = eD at *
  generalize e1.storage = S at *
  rw [d1] at hgate hsane hmainpos ⊢
  have hlenB := length_take_append eD.buf R S hSL
  have hpos : 0 < S + R.length := Nat.lt_of_lt_of_le hmainpos (Nat.le_add_right S _)
  obtain ⟨c1, hdec, hc1, r3, r4, r5⟩ := frame_stream_decode 1001 16000 (ms10 / 10) buf size cfg pk st sig suf hs hb hok hsigN hsigL
    hsuf (by rw [he1]; exact hnF) (by rw [he1]; exact herrF) (eD.buf.take S ++ R) hBok (by rw [hlenB]; exact hpos)
    (by rw [he1, hlenB]; exact hc)
  rw [hlenB] at hdec hc1 r5
  rw [← hcfg, decodeOpusFrame_hybrid bandwidth nCh ms10 hms, hcfg, hdec]
  have htc : tell (after c1 sig) = tell (encRun (encInit buf size) (packetOps cfg pk ++ sig)) :=
    (tell_eq_of_rn r5.rc.rng_eq r5.rc.nbits_eq).1
  have hrh := redundancyHeader_sig true 1001 (by decide) (S + R.length) c1 gate red c2s R.length hred hc2s
    (fun _ h => (hrb h).1) (fun h => by rw [hR0 h]; rfl) (fun h => absurd h (by decide)) (by rw [r3]; exact hgate)
    (by rw [hsigE]; exact r4) (fun _ _ => by rw [hsigE, htc]; omega)
  rw [hsigE] at hrh
  have hsto : (after c1 sig).storage = S + R.length := r5.rc.storage_eq
  refine ⟨_, ⟨rfl, ?_⟩, ?_⟩
  · simp only [hrh]
    refine ⟨trivial, trivial, trivial, by simp only [Int.natCast_add, Int.add_sub_cancel], trivial, r5.err, r5.rc.rng_eq, htc,
      by simp only [hsto, Nat.add_sub_cancel], ?_⟩
    intro hmain hredF hrr0
    unfold decRangeFinal
    simp only [show ¬ ((1001 : Nat) = 1000) by decide, if_false, toNat_add_sub S R.length] at hmain ⊢
    obtain ⟨cf, hcf1, hcf2⟩ := hmain
    rw [hcf1]
    by_cases hgr : gate = true ∧ red ≠ 0
    · obtain ⟨cg, hcg1, hcg2⟩ := hredF hgr
      simp only [if_pos hgr, ne_eq, Nat.succ_ne_zero, not_false_eq_true, if_true]
      rw [drop_take_append eD.buf R S hSL, List.take_length, hcg1]
      simp only
      rw [hcf2, hcg2]
    · simp only [if_neg hgr, ne_eq, not_true_eq_false, if_false]
      rw [hcf2, hrr0 hgr]
  · intro hgr
    obtain rfl := hR0 hgr
    simp only [hrh, hlenB]
    rw [hc1, ← after_append]
    rfl

end Opus.OpusFrameProofs
