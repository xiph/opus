import OpusProofs.SilkSymsIndices
import OpusProofs.SilkSymsPulses
import OpusProofs.SilkSymsFlags
import OpusProofs.FramingBasic
/-
  C03: lifting of the per-call range lemmas to everything `silk_Decode` / `opus_decode_frame` /
  `opus_decode_native` emit, and totality of the packet-level model (no `.oob`, no `.abort`).
-/
namespace Opus.SilkSymsProofs
open Opus Opus.RangeCoder Opus.SilkSyms Opus.SilkSymsFrozen.Icdf

/-- What is guaranteed about each observable event of the symbol layer. -/
def EvOk : Ev → Prop
  | .flags ch vad lf lfs => ch ≤ 1 ∧ (∀ b ∈ vad, b ≤ 1) ∧ lf ≤ 1 ∧ lfs.length = 3 ∧ ∀ b ∈ lfs, b ≤ 1
  | .pred p => StereoOk p
  | .midOnly v => v ≤ 1
  | .indices _ _ _ cc rate nb ps pl ix => IndicesOk rate nb cc ps pl ix
  | .pulses _ _ fl p => PulsesOk fl p
  | .ret _ _ => True

def EvsOk (l : List Ev) : Prop := ∀ e ∈ l, EvOk e

theorem EvsOk_nil : EvsOk [] := fun _ h => by cases h
theorem EvsOk_append {a b : List Ev} (ha : EvsOk a) (hb : EvsOk b) : EvsOk (a ++ b) :=
  List.forall_mem_append.mpr ⟨ha, hb⟩
theorem EvsOk_cons {e : Ev} {l : List Ev} (he : EvOk e) (hl : EvsOk l) : EvsOk (e :: l) :=
  List.forall_mem_cons.mpr ⟨he, hl⟩

/-! One walk through `silk_Decode` and the payload loop for the events and for an arbitrary invariant `I` of the
    range-decoder state (`ReadInv`): from a state in `I`, every event emitted satisfies `EvOk` and the state returned is
    in `I` again.  `hf : cfg.nfpp ≤ 3` is what makes the LBRR-flags table a table.  Where the result of a call feeds
    nothing but the state of the next, the callees' lemmas are put together and checked against the unfolded body
    (`Prod` has eta); `decodeOne`, `decodeChan`, `skipOne` are walked call by call, each call `generalize`d first,
    because the unifier is slow on them otherwise. -/

/-- What the walk says of a step that returns events, a state and the decoder context. -/
def RunOk {α : Type} (I : Dec → Prop) (r : List Ev × α × Dec) : Prop := EvsOk r.1 ∧ I r.2.2

/-- … and of the state of the header and LBRR-skipping code. -/
def SkipOk (I : Dec → Prop) (s : SkipSt) : Prop := EvsOk s.evs ∧ I s.c

section
variable {I : Dec → Prop} (hI : ReadInv I)
include hI

theorem decodeOneCore_rd (cfg : Cfg) (hnb : 1 ≤ cfg.nbSubfr) (n fi lb cc : Nat) (v : Bool) (ps : Nat) (pl : Int) (c : Dec)
    (hc : I c) : RunOk I (decodeOneCore cfg n fi lb cc v ps pl c) := by
  fun_cases decodeOneCore cfg n fi lb cc v ps pl c with
  | case1 ix c1 e1 pu c2 e2 =>
    have hi := decodeIndices_rd hI _ _ hnb _ _ _ _ _ hc _ _ e1
    have hp := decodePulses_rd hI _ _ _ hi.1.sig _ hi.2 _ _ e2
    exact ⟨EvsOk_cons hi.1 (EvsOk_cons hp.1 EvsOk_nil), hp.2⟩

theorem decodeOne_rd (cfg : Cfg) (hnb : 1 ≤ cfg.nbSubfr) (n fi lb cc : Nat) (ch : Chan) (c : Dec) (hc : I c) :
    RunOk I (decodeOne cfg n fi lb cc ch c) := by
  unfold decodeOne
  have h := decodeOneCore_rd hI cfg hnb n fi lb cc (decide (lb ≠ 0 ∨ ch.vad.getD fi 0 ≠ 0))
    (if cc = 2 then ch.ecPrevSignalType else 0) (if cc = 2 ∧ ch.ecPrevSignalType = 2 then ch.ecPrevLagIndex else 0) c hc
  generalize decodeOneCore cfg n fi lb cc _ _ _ c = y at h
  split
  exact h

omit hI in
theorem skipStereoG_rd (P : Dec → StereoPred × Dec) (M : Dec → Nat × Dec)
    (hP : ∀ c, I c → StereoOk (P c).1 ∧ I (P c).2) (hM : ∀ c, I c → (M c).1 ≤ 1 ∧ I (M c).2)
    (cfg : Cfg) (i n : Nat) (s : SkipSt) (h : SkipOk I s) : SkipOk I (skipStereoG P M cfg i n s) := by
  unfold skipStereoG
  split
  · have h1 := hP s.c h.2
    have h2 := hM _ h1.2
    dsimp only
    split
    · exact ⟨EvsOk_append h.1 (EvsOk_cons h1.1 (EvsOk_cons h2.1 EvsOk_nil)), h2.2⟩
    · exact ⟨EvsOk_append h.1 (EvsOk_cons h1.1 EvsOk_nil), h1.2⟩
  · exact h

theorem skipStereo_rd (cfg : Cfg) (i n : Nat) (s : SkipSt) (h : SkipOk I s) : SkipOk I (skipStereo cfg i n s) :=
  skipStereoG_rd _ _ (stereoDecodePred_rd hI) (stereoDecodeMidOnly_rd hI) cfg i n s h

theorem skipOne_rd (cfg : Cfg) (hnb : 1 ≤ cfg.nbSubfr) (i n : Nat) (s : SkipSt) (h : SkipOk I s) :
    SkipOk I (skipOne cfg i n s) := by
  unfold skipOne
  split
  · have h1 := skipStereo_rd hI cfg i n s h
    generalize skipStereo cfg i n s = t at h1
    have h2 := decodeOne_rd hI cfg hnb n i 1 (if i > 0 ∧ (s.st.ch n).lbrrFlags.getD (i - 1) 0 ≠ 0 then 2 else 0)
      (t.st.ch n) t.c h1.2
    generalize decodeOne cfg n i 1 _ (t.st.ch n) t.c = y at h2
    split
    exact ⟨EvsOk_append h1.1 h2.1, h2.2⟩
  · exact h

theorem skipChans_rd (cfg : Cfg) (hnb : 1 ≤ cfg.nbSubfr) (i : Nat) : ∀ (ns : List Nat) (s : SkipSt),
    SkipOk I s → SkipOk I (skipChans cfg i ns s)
  | [], _, h => h
  | n :: ns, s, h => by
    unfold skipChans
    exact skipChans_rd cfg hnb i ns _ (skipOne_rd hI cfg hnb i n s h)

theorem skipFrames_rd (cfg : Cfg) (hnb : 1 ≤ cfg.nbSubfr) : ∀ (is : List Nat) (s : SkipSt),
    SkipOk I s → SkipOk I (skipFrames cfg is s)
  | [], _, h => h
  | i :: is, s, h => by
    unfold skipFrames
    exact skipFrames_rd cfg hnb is _ (skipChans_rd hI cfg hnb i (List.range cfg.nCh) s h)

/-- The `.flags` record of one channel (VAD flags and `LBRR_flag` are bits, `LBRR_flags` three bits) and the state
    behind its `LBRR_flags`, which stereo payloads read after the VAD flags of both channels (`c1`). -/
theorem flagsEv_rd (ch nfpp : Nat) (hch : ch ≤ 1) (hf : nfpp ≤ 3) (c c1 : Dec) (hc : I c) (hc1 : I c1) :
    EvOk (.flags ch (decodeChanFlags nfpp c).1 (decodeChanFlags nfpp c).2.1
      (decodeLbrrFlags nfpp (decodeChanFlags nfpp c).2.1 c1).1) ∧
    I (decodeLbrrFlags nfpp (decodeChanFlags nfpp c).2.1 c1).2 := by
  have h1 := decodeChanFlags_rd hI nfpp c hc
  have h2 := decodeLbrrFlags_ok nfpp (decodeChanFlags nfpp c).2.1 c1
  exact ⟨⟨hch, h1.1, h1.2.1, h2.1, h2.2⟩, decodeLbrrFlags_inv hI nfpp _ hf c1 hc1⟩

theorem decodeFlagsMono_rd (cfg : Cfg) (hf : cfg.nfpp ≤ 3) (st : SilkSt) (c : Dec) (hc : I c) :
    SkipOk I (decodeFlagsMono cfg st c) := by
  unfold decodeFlagsMono
  have h := flagsEv_rd hI 0 cfg.nfpp (Nat.zero_le _) hf c _ hc (decodeChanFlags_rd hI cfg.nfpp c hc).2.2
  exact ⟨EvsOk_cons h.1 EvsOk_nil, h.2⟩

theorem decodeFlagsStereo_rd (cfg : Cfg) (hf : cfg.nfpp ≤ 3) (st : SilkSt) (c : Dec) (hc : I c) :
    SkipOk I (decodeFlagsStereo cfg st c) := by
  unfold decodeFlagsStereo
  have h0 := decodeChanFlags_rd hI cfg.nfpp c hc
  have h1 := decodeChanFlags_rd hI cfg.nfpp _ h0.2.2
  have a := flagsEv_rd hI 0 cfg.nfpp (Nat.zero_le _) hf c _ hc h1.2.2
  have b := flagsEv_rd hI 1 cfg.nfpp (Nat.le_refl _) hf _ _ h0.2.2 a.2
  exact ⟨EvsOk_cons a.1 (EvsOk_cons b.1 EvsOk_nil), b.2⟩

theorem decodeHeader_rd (cfg : Cfg) (hnb : 1 ≤ cfg.nbSubfr) (hf : cfg.nfpp ≤ 3) (st : SilkSt) (c : Dec) (hc : I c) :
    SkipOk I (decodeHeader cfg st c) := by
  have hfl : SkipOk I (if cfg.nCh = 2 then decodeFlagsStereo cfg st c else decodeFlagsMono cfg st c) := by
    split
    · exact decodeFlagsStereo_rd hI cfg hf st c hc
    · exact decodeFlagsMono_rd hI cfg hf st c hc
  unfold decodeHeader
  split
  · exact skipFrames_rd hI cfg hnb _ _ hfl
  · exact hfl

omit hI in
theorem decodeStereoHeadG_rd (P : Dec → StereoPred × Dec) (M : Dec → Nat × Dec)
    (hP : ∀ c, I c → StereoOk (P c).1 ∧ I (P c).2) (hM : ∀ c, I c → (M c).1 ≤ 1 ∧ I (M c).2)
    (cfg : Cfg) (st : SilkSt) (dom : Nat) (c : Dec) (hc : I c) :
    EvsOk (decodeStereoHeadG P M cfg st dom c).2.2 ∧ I (decodeStereoHeadG P M cfg st dom c).2.1 := by
  unfold decodeStereoHeadG
  split
  · have h1 := hP c hc
    have h2 := hM _ h1.2
    dsimp only
    split
    · exact ⟨EvsOk_cons h1.1 (EvsOk_cons h2.1 EvsOk_nil), h2.2⟩
    · exact ⟨EvsOk_cons h1.1 EvsOk_nil, h1.2⟩
  · exact ⟨EvsOk_nil, hc⟩

theorem decodeStereoHead_rd (cfg : Cfg) (st : SilkSt) (dom : Nat) (c : Dec) (hc : I c) :
    EvsOk (decodeStereoHead cfg st dom c).2.2 ∧ I (decodeStereoHead cfg st dom c).2.1 :=
  decodeStereoHeadG_rd _ _ (stereoDecodePred_rd hI) (stereoDecodeMidOnly_rd hI) cfg st dom c hc

theorem decodeChan_rd (cfg : Cfg) (hnb : 1 ≤ cfg.nbSubfr) (hasSide : Bool) (n : Nat) (st : SilkSt) (c : Dec) (hc : I c) :
    RunOk I (decodeChan cfg hasSide n st c) := by
  unfold decodeChan
  split
  · have h := decodeOne_rd hI cfg hnb n (st.ch n).nFramesDecoded cfg.lostFlag
      (condCodingOf cfg st n st.ch0.nFramesDecoded) (st.ch n) c hc
    generalize decodeOne cfg n _ cfg.lostFlag _ (st.ch n) c = y at h
    split
    exact h
  · exact ⟨EvsOk_nil, hc⟩

theorem decodeChans_rd (cfg : Cfg) (hnb : 1 ≤ cfg.nbSubfr) (hasSide : Bool) (st : SilkSt) (c : Dec) (hc : I c) :
    RunOk I (decodeChans cfg hasSide st c) := by
  unfold decodeChans
  have h0 := decodeChan_rd hI cfg hnb hasSide 0 st c hc
  have h1 := decodeChan_rd hI cfg hnb hasSide 1 (decodeChan cfg hasSide 0 st c).2.1 _ h0.2
  dsimp only
  split
  · exact ⟨EvsOk_append h0.1 h1.1, h1.2⟩
  · exact h0

theorem decodeBody_rd (cfg : Cfg) (hnb : 1 ≤ cfg.nbSubfr) (h : SkipSt) (hh : SkipOk I h) : RunOk I (decodeBody cfg h) := by
  unfold decodeBody
  have h1 := decodeStereoHead_rd hI cfg h.st h.dom h.c hh.2
  have h2 := decodeChans_rd hI cfg hnb (hasSideOf cfg h.st (decodeStereoHead cfg h.st h.dom h.c).1) h.st _ h1.2
  exact ⟨EvsOk_append (EvsOk_append (EvsOk_append hh.1 h1.1) h2.1) (EvsOk_cons trivial EvsOk_nil), h2.2⟩

theorem silkDecodeCall_rd (cfg : Cfg) (hnb : 1 ≤ cfg.nbSubfr) (hf : cfg.nfpp ≤ 3) (np : Bool) (st : SilkSt) (c : Dec)
    (hc : I c) : RunOk I (silkDecodeCall cfg np st c) := by
  have hh : SkipOk I (if (beginCall cfg np st).ch0.nFramesDecoded = 0 then decodeHeader cfg (beginCall cfg np st) c
      else { st := beginCall cfg np st, dom := 0, c := c, evs := [] }) := by
    split
    · exact decodeHeader_rd hI cfg hnb hf _ c hc
    · exact ⟨EvsOk_nil, hc⟩
  unfold silkDecodeCall
  exact decodeBody_rd hI cfg hnb _ hh

theorem silkCalls_rd (cfg : Cfg) (hnb : 1 ≤ cfg.nbSubfr) (hf : cfg.nfpp ≤ 3) : ∀ (k : Nat) (first : Bool) (st : SilkSt)
    (c : Dec), I c → RunOk I (silkCalls cfg k first st c)
  | 0, _, _, _, hc => ⟨EvsOk_nil, hc⟩
  | k + 1, first, st, c, hc => by
    unfold silkCalls
    have h1 := silkDecodeCall_rd hI cfg hnb hf first st c hc
    have h2 := silkCalls_rd cfg hnb hf k false (silkDecodeCall cfg first st c).2.1 _ h1.2
    exact ⟨EvsOk_append h1.1 h2.1, h2.2⟩

end

theorem decodeOpusFrameCfg_ok (mode ir pm : Nat) (fec : Bool) (cfg : Cfg) (hnb : 1 ≤ cfg.nbSubfr) (hf : cfg.nfpp ≤ 3)
    (st : SilkSt) (fr : Bytes) : EvsOk (decodeOpusFrameCfg mode ir pm fec cfg st fr).evs := by
  unfold decodeOpusFrameCfg
  exact (silkCalls_rd readInv_true cfg hnb hf cfg.nfpp true st (decInit fr fr.length) trivial).1

theorem packetShape_bounds (ms nfpp nb : Nat) (h : packetShape ms = .ok (nfpp, nb)) : 1 ≤ nb ∧ nfpp ≤ 3 := by
  revert h
  fun_cases packetShape ms <;> intro h <;> cases h <;> exact ⟨by omega, by omega⟩

/-- What `decodeOpusFrame` returns when it returns a frame: a `decodeOpusFrameCfg` run for a configuration with the
    given channel count, at least one sub-frame, at most three frames per packet and `lostFlag ∈ {0, 2}`. -/
theorem decodeOpusFrame_cfg {mode bw nCh ms10 : Nat} {fec : Bool} {st : SilkSt} {fr : Bytes} {o : FrameOut}
    (h : decodeOpusFrame mode bw nCh ms10 fec st fr = .ok o) :
    ∃ ir pm cfg, o = decodeOpusFrameCfg mode ir pm fec cfg st fr ∧ cfg.nCh = nCh ∧ 1 ≤ cfg.nbSubfr ∧ cfg.nfpp ≤ 3 ∧
      (cfg.lostFlag = 0 ∨ cfg.lostFlag = 2) := by
  revert h
  fun_cases decodeOpusFrame mode bw nCh ms10 fec st fr <;> intro h <;> cases h
  next ir _ nfpp nb hps rate _ =>
    have hb := packetShape_bounds _ _ _ hps
    exact ⟨_, _, _, rfl, rfl, hb.1, hb.2, by cases fec <;> simp⟩

theorem decodeOpusFrame_ok (mode bw nCh ms10 : Nat) (fec : Bool) (st : SilkSt) (fr : Bytes) (o : FrameOut)
    (h : decodeOpusFrame mode bw nCh ms10 fec st fr = .ok o) : EvsOk o.evs := by
  obtain ⟨ir, pm, cfg, rfl, _, hnb, hf, _⟩ := decodeOpusFrame_cfg h
  exact decodeOpusFrameCfg_ok _ _ _ _ _ hnb hf _ _

def FrameResOk : FrameRes → Prop
  | .silk _ o => EvsOk o.evs
  | _ => True

theorem okCons_inv {x : FrameRes} {r : Res (List FrameRes)} {l : List FrameRes}
    (h : (match r with | .ok l => .ok (x :: l) | e => e) = Res.ok l) : ∃ l', r = .ok l' ∧ l = x :: l' := by
  split at h
  · exact ⟨_, rfl, (Res.ok.inj h).symm⟩
  · rename_i hne
    exact absurd h (hne l)

theorem nbChannels_cases (toc : Nat) : Framing.getNbChannels toc = 1 ∨ Framing.getNbChannels toc = 2 := by
  unfold Framing.getNbChannels; split <;> simp

/-- A property of frame records that holds of PLC and CELT-only records and of every decoded SILK frame holds of
    every record of the frame loop. -/
theorem framesLoop_all (R : FrameRes → Prop) (hp : R .plc) (hc : ∀ off sz, R (.celt off sz))
    (hs : ∀ mode bw nCh ms10 fec st fr off o, (nCh = 1 ∨ nCh = 2) →
      decodeOpusFrame mode bw nCh ms10 fec st fr = .ok o → R (.silk off o))
    (toc : Nat) (pkt : Bytes) (fec : Bool) : ∀ (spans : List (Nat × Nat)) (st : SilkSt)
    (l : List FrameRes), framesLoop toc pkt fec spans st = .ok l → ∀ f ∈ l, R f
  | [], st, l, h => by
    unfold framesLoop at h
    rw [← Res.ok.inj h]
    intro f hf
    cases hf
  | (off, sz) :: rest, st, l, h => by
    have step : ∀ (x : FrameRes) (st' : SilkSt), R x →
        (match framesLoop toc pkt fec rest st' with | .ok l => .ok (x :: l) | e => e) = Res.ok l → ∀ f ∈ l, R f := by
      intro x st' hx h f hf
      obtain ⟨l', hl, rfl⟩ := okCons_inv h
      rcases List.mem_cons.mp hf with rfl | hf
      · exact hx
      · exact framesLoop_all R hp hc hs toc pkt fec rest st' l' hl f hf
    unfold framesLoop at h
    split at h
    · exact step _ _ hp h
    · split at h
      · exact step _ _ (hc off sz) h
      · split at h
        · rename_i o ho
          exact step _ _ (hs _ _ _ _ _ _ _ off o (nbChannels_cases toc) ho) h
        all_goals exact absurd h (by simp)

theorem someRes_ok (r : Res (List FrameRes)) (l : List FrameRes) (h : someRes r = .ok (some l)) : r = .ok l := by
  unfold someRes at h
  split at h
  · simp only [Res.ok.injEq, Option.some.injEq] at h; rw [h]
  all_goals exact absurd h (by simp)

theorem decodePacket_all (R : FrameRes → Prop) (hp : R .plc) (hc : ∀ off sz, R (.celt off sz))
    (hs : ∀ mode bw nCh ms10 fec st fr off o, (nCh = 1 ∨ nCh = 2) →
      decodeOpusFrame mode bw nCh ms10 fec st fr = .ok o → R (.silk off o))
    (fs : Nat) (fec pc : Bool) (st : SilkSt) (pkt : Bytes) (l : List FrameRes)
    (h : decodePacket fs fec pc st pkt = .ok (some l)) : ∀ f ∈ l, R f := by
  unfold decodePacket at h
  split at h
  · split at h
    · unfold decodeFrames at h
      split at h
      · split at h
        · exact absurd h (by simp)
        · exact framesLoop_all R hp hc hs _ _ _ _ _ l (someRes_ok _ l h)
      · exact framesLoop_all R hp hc hs _ _ _ _ _ l (someRes_ok _ l h)
    all_goals exact absurd h (by simp)
  · exact absurd h (by simp)

theorem decodeOpusFrame_total (toc : Nat) (hm : Framing.getMode toc ≠ 1002) (fec : Bool) (st : SilkSt) (fr : Bytes) :
    ∃ o, decodeOpusFrame (Framing.getMode toc) (Framing.getBandwidth toc) (Framing.getNbChannels toc)
      (Framing.samplesPerFrame toc 48000 * 10 / 48) fec st fr = .ok o := by
  -- A TOC that is not CELT-only (bit 7 clear) is hybrid (bits 5-6 = 3: 10 or 20 ms by bit 3, always 16 kHz) or
  -- SILK-only (bandwidth NB/MB/WB from bits 5-6, 10/20/40/60 ms from bits 3-4): `packetShape`, `internalRateOf` and
  -- `rateOf` are `.ok` on each of these 2 + 12 configurations, which are evaluated one by one.
  unfold Framing.getMode at hm
  unfold decodeOpusFrame Framing.getMode Framing.getBandwidth Framing.samplesPerFrame internalRateOf
  simp only [Framing.MODE_CELT_ONLY, Framing.MODE_HYBRID, Framing.MODE_SILK_ONLY] at hm ⊢
  by_cases h7 : toc / 128 % 2 = 1
  · simp [h7] at hm
  · simp only [h7, if_false]
    by_cases hh : toc / 32 % 4 = 3
    · simp only [hh, if_true]
      by_cases h3 : toc / 8 % 2 = 1
      · simp [h3, packetShape, rateOf]
      · simp [h3, packetShape, rateOf]
    · simp only [hh, if_false]
      have hb : toc / 32 % 4 = 0 ∨ toc / 32 % 4 = 1 ∨ toc / 32 % 4 = 2 := by omega
      have ha : toc / 8 % 4 = 0 ∨ toc / 8 % 4 = 1 ∨ toc / 8 % 4 = 2 ∨ toc / 8 % 4 = 3 := by omega
      rcases hb with hb | hb | hb <;> rcases ha with ha | ha | ha | ha <;>
        simp [hb, ha, packetShape, rateOf]

theorem framesLoop_nofault (toc : Nat) (pkt : Bytes) (fec : Bool) : ∀ (spans : List (Nat × Nat)) (st : SilkSt),
    framesLoop toc pkt fec spans st ≠ .oob ∧ framesLoop toc pkt fec spans st ≠ .abort
  | [], st => by unfold framesLoop; simp
  | (off, sz) :: rest, st => by
    unfold framesLoop
    split
    · have ih := framesLoop_nofault toc pkt fec rest st
      split
      · simp
      · exact ih
    · split
      · have ih := framesLoop_nofault toc pkt fec rest st
        split
        · simp
        · exact ih
      · rename_i hm
        obtain ⟨o, ho⟩ := decodeOpusFrame_total toc hm fec st ((pkt.drop off).take sz)
        rw [ho]
        dsimp only
        have ih := framesLoop_nofault toc pkt fec rest o.st
        split
        · simp
        · exact ih

theorem someRes_nofault (r : Res (List FrameRes)) (h : r ≠ .oob ∧ r ≠ .abort) :
    someRes r ≠ .oob ∧ someRes r ≠ .abort := by
  unfold someRes
  split
  · simp
  · simp
  · exact absurd rfl h.1
  · exact absurd rfl h.2

end Opus.SilkSymsProofs
