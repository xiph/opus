import OpusModel.RangeCoder
/-
  OpusProofs.RangeCoderBasic — arithmetic helpers for the range-coder proofs (C08):
  32-bit wrappers on their no-wrap domain, `ilog`, and the fields that the
  output / normalisation loops preserve.
-/
namespace Opus.RangeCoder

theorem u32_of_lt {x : Nat} (h : x < 4294967296) : u32 x = x := by unfold u32; omega
theorem add32_of_lt {a b : Nat} (h : a + b < 4294967296) : add32 a b = a + b := by unfold add32; omega
theorem sub32_of_le {a b : Nat} (ha : a < 4294967296) (h : b ≤ a) : sub32 a b = a - b := by
  unfold sub32; omega
theorem mul32_of_lt {a b : Nat} (h : a * b < 4294967296) : mul32 a b = a * b := by
  unfold mul32; omega
theorem u32_lt (x : Nat) : u32 x < 4294967296 := by unfold u32; omega
theorem sub32_lt (a b : Nat) : sub32 a b < 4294967296 := by unfold sub32; omega
theorem mul32_lt (a b : Nat) : mul32 a b < 4294967296 := by unfold mul32; omega
theorem add32_lt (a b : Nat) : add32 a b < 4294967296 := by unfold add32; omega

theorem ilog_zero : ilog 0 = 0 := by simp [ilog]

theorem ilog_eq_of_bounds {v k : Nat} (hlo : 2 ^ k ≤ v) (hhi : v < 2 ^ (k + 1)) : ilog v = k + 1 := by
  have hv : v ≠ 0 := by
    have : 0 < 2 ^ k := Nat.pow_pos (by decide)
    omega
  unfold ilog
  rw [if_neg hv]
  have h1 : k ≤ v.log2 := (Nat.le_log2 hv).2 hlo
  have h2 : v.log2 < k + 1 := (Nat.log2_lt hv).2 hhi
  omega

theorem ilog_bounds {v : Nat} (hv : v ≠ 0) : 2 ^ (ilog v - 1) ≤ v ∧ v < 2 ^ ilog v := by
  unfold ilog
  rw [if_neg hv]
  exact ⟨by simpa using Nat.log2_self_le hv, Nat.lt_log2_self⟩

theorem ilog_pos {v : Nat} (hv : v ≠ 0) : 0 < ilog v := by unfold ilog; rw [if_neg hv]; omega

theorem ilog_mono {a b : Nat} (h : a ≤ b) : ilog a ≤ ilog b := by
  by_cases ha : a = 0
  · subst ha; simp [ilog]
  · have hb : b ≠ 0 := by omega
    unfold ilog
    rw [if_neg ha, if_neg hb]
    have : a.log2 ≤ b.log2 := by
      apply (Nat.le_log2 hb).2
      exact Nat.le_trans (Nat.log2_self_le ha) h
    omega

theorem ilog_lt_iff {v k : Nat} : ilog v ≤ k ↔ v < 2 ^ k := by
  by_cases hv : v = 0
  · subst hv; simp [ilog, Nat.pow_pos]
  · unfold ilog
    rw [if_neg hv]
    have := @Nat.log2_lt v k hv
    omega

theorem ilog_mul_256 {v : Nat} (hv : v ≠ 0) : ilog (v * 256) = ilog v + 8 := by
  obtain ⟨h1, h2⟩ := ilog_bounds hv
  have hp := ilog_pos hv
  have e : ilog v + 8 = (ilog v - 1 + 8) + 1 := by omega
  rw [e]
  apply ilog_eq_of_bounds
  · rw [Nat.pow_add]; exact Nat.mul_le_mul h1 (by decide)
  · have : ilog v - 1 + 8 + 1 = ilog v + 8 := by omega
    rw [this, Nat.pow_add]
    exact Nat.mul_lt_mul_of_lt_of_le h2 (by decide) (by decide)

theorem ilog_range {r : Nat} (h1 : 8388608 < r) (h2 : r ≤ 2147483648) : 24 ≤ ilog r ∧ ilog r ≤ 32 := by
  constructor
  · have : ¬ ilog r ≤ 23 := by rw [ilog_lt_iff]; omega
    omega
  · rw [ilog_lt_iff]; omega

/-- An error flag that was clear after a step that never clears it was clear before. -/
theorem zero_of_sticky {a b : Int} (h : a ≠ 0 → b ≠ 0) (hb : b = 0) : a = 0 :=
  Decidable.of_not_not fun hne => h hne hb

theorem ctx_eq (x y : Ctx) (h1 : x.buf = y.buf) (h2 : x.storage = y.storage) (h3 : x.endOffs = y.endOffs)
    (h4 : x.endWindow = y.endWindow) (h5 : x.nendBits = y.nendBits) (h6 : x.nbitsTotal = y.nbitsTotal)
    (h7 : x.offs = y.offs) (h8 : x.rng = y.rng) (h9 : x.val = y.val) (h10 : x.ext = y.ext)
    (h11 : x.rem = y.rem) (h12 : x.error = y.error) : x = y := by
  cases x; cases y; simp only at *; subst_vars; rfl

attribute [simp] writeByte_rng carryOut_rng

section frame
variable (c : Enc) (v : Nat)

@[simp] theorem writeByte_val : (writeByte c v).val = c.val := by unfold writeByte; split <;> rfl
@[simp] theorem writeByte_nbitsTotal : (writeByte c v).nbitsTotal = c.nbitsTotal := by unfold writeByte; split <;> rfl
@[simp] theorem writeByte_storage : (writeByte c v).storage = c.storage := by unfold writeByte; split <;> rfl
@[simp] theorem writeByte_endOffs : (writeByte c v).endOffs = c.endOffs := by unfold writeByte; split <;> rfl
@[simp] theorem writeByte_endWindow : (writeByte c v).endWindow = c.endWindow := by unfold writeByte; split <;> rfl
@[simp] theorem writeByte_nendBits : (writeByte c v).nendBits = c.nendBits := by unfold writeByte; split <;> rfl
@[simp] theorem writeByte_ext : (writeByte c v).ext = c.ext := by unfold writeByte; split <;> rfl
@[simp] theorem writeByte_rem : (writeByte c v).rem = c.rem := by unfold writeByte; split <;> rfl
@[simp] theorem writeByte_buf_length : (writeByte c v).buf.length = c.buf.length := by
  unfold writeByte; split <;> simp

@[simp] theorem writeByteAtEnd_val : (writeByteAtEnd c v).val = c.val := by unfold writeByteAtEnd; split <;> rfl
@[simp] theorem writeByteAtEnd_rng : (writeByteAtEnd c v).rng = c.rng := by unfold writeByteAtEnd; split <;> rfl
@[simp] theorem writeByteAtEnd_nbitsTotal : (writeByteAtEnd c v).nbitsTotal = c.nbitsTotal := by unfold writeByteAtEnd; split <;> rfl
@[simp] theorem writeByteAtEnd_storage : (writeByteAtEnd c v).storage = c.storage := by unfold writeByteAtEnd; split <;> rfl
@[simp] theorem writeByteAtEnd_offs : (writeByteAtEnd c v).offs = c.offs := by unfold writeByteAtEnd; split <;> rfl
@[simp] theorem writeByteAtEnd_ext : (writeByteAtEnd c v).ext = c.ext := by unfold writeByteAtEnd; split <;> rfl
@[simp] theorem writeByteAtEnd_rem : (writeByteAtEnd c v).rem = c.rem := by unfold writeByteAtEnd; split <;> rfl
@[simp] theorem writeByteAtEnd_endWindow : (writeByteAtEnd c v).endWindow = c.endWindow := by unfold writeByteAtEnd; split <;> rfl
@[simp] theorem writeByteAtEnd_nendBits : (writeByteAtEnd c v).nendBits = c.nendBits := by unfold writeByteAtEnd; split <;> rfl
@[simp] theorem writeByteAtEnd_buf_length : (writeByteAtEnd c v).buf.length = c.buf.length := by
  unfold writeByteAtEnd; split <;> simp
end frame

/-! What every write of the output helpers preserves is preserved by the helpers, whether or not
    the writes succeed; a projection `f` of the context that they leave alone is the special case
    `P x := f x = f c`. -/

theorem flushExt_pres (P : Enc → Prop) (hw : ∀ c v, P c → P (writeByte c v))
    (he : ∀ (c : Enc) n, P c → P { c with ext := n }) (sym : Nat) :
    ∀ (n : Nat) (c : Enc), P c → P (flushExt sym n c)
  | 0, _, h => h
  | n + 1, c, h => by unfold flushExt; exact flushExt_pres P hw he sym n _ (he _ _ (hw _ _ h))

theorem carryOut_pres (P : Enc → Prop) (hw : ∀ c v, P c → P (writeByte c v))
    (he : ∀ (c : Enc) n, P c → P { c with ext := n }) (hr : ∀ (c : Enc) r, P c → P { c with rem := r })
    (c : Enc) (cc : Nat) (h : P c) : P (carryOut c cc) := by
  unfold carryOut
  split
  · apply hr
    have h1 : P (if c.rem ≥ 0 then writeByte c (c.rem.toNat + cc / 256) else c) := by
      split
      · exact hw _ _ h
      · exact h
    generalize (if c.rem ≥ 0 then writeByte c (c.rem.toNat + cc / 256) else c) = c1 at h1
    split
    · exact flushExt_pres P hw he _ _ _ h1
    · exact h1
  · exact he _ _ h

theorem encNormalize_pres (P : Enc → Prop) (hw : ∀ c v, P c → P (writeByte c v))
    (he : ∀ (c : Enc) n, P c → P { c with ext := n }) (hr : ∀ (c : Enc) r, P c → P { c with rem := r })
    (hv : ∀ (c : Enc) v r n, P c → P { c with val := v, rng := r, nbitsTotal := n })
    (c : Enc) (h : P c) : P (encNormalize c) := by
  fun_induction encNormalize c with
  | case1 c hc c1 ih => exact ih (hv _ _ _ _ (carryOut_pres P hw he hr c _ h))
  | case2 c hc => exact h

theorem encNormalize_frame {α} (f : Enc → α) (hw : ∀ c v, f (writeByte c v) = f c)
    (he : ∀ (c : Enc) n, f { c with ext := n } = f c) (hr : ∀ (c : Enc) r, f { c with rem := r } = f c)
    (hv : ∀ (c : Enc) v r n, f { c with val := v, rng := r, nbitsTotal := n } = f c) (c : Enc) :
    f (encNormalize c) = f c :=
  encNormalize_pres (f · = f c) (fun x v h => (hw x v).trans h) (fun x n h => (he x n).trans h)
    (fun x r h => (hr x r).trans h) (fun x v r n h => (hv x v r n).trans h) c rfl

theorem carryOut_frame {α} (f : Enc → α) (hw : ∀ c v, f (writeByte c v) = f c)
    (he : ∀ (c : Enc) n, f { c with ext := n } = f c)
    (hr : ∀ (c : Enc) r, f { c with rem := r } = f c) (c : Enc) (cc : Nat) :
    f (carryOut c cc) = f c :=
  carryOut_pres (f · = f c) (fun x v h => (hw x v).trans h) (fun x n h => (he x n).trans h)
    (fun x r h => (hr x r).trans h) c cc rfl

@[simp] theorem carryOut_val (c : Enc) (cc : Nat) : (carryOut c cc).val = c.val :=
  carryOut_frame (·.val) (by simp) (by simp) (by simp) c cc
@[simp] theorem carryOut_nbitsTotal (c : Enc) (cc : Nat) : (carryOut c cc).nbitsTotal = c.nbitsTotal :=
  carryOut_frame (·.nbitsTotal) (by simp) (by simp) (by simp) c cc
@[simp] theorem carryOut_storage (c : Enc) (cc : Nat) : (carryOut c cc).storage = c.storage :=
  carryOut_frame (·.storage) (by simp) (by simp) (by simp) c cc
@[simp] theorem carryOut_endOffs (c : Enc) (cc : Nat) : (carryOut c cc).endOffs = c.endOffs :=
  carryOut_frame (·.endOffs) (by simp) (by simp) (by simp) c cc
@[simp] theorem carryOut_endWindow (c : Enc) (cc : Nat) : (carryOut c cc).endWindow = c.endWindow :=
  carryOut_frame (·.endWindow) (by simp) (by simp) (by simp) c cc
@[simp] theorem carryOut_nendBits (c : Enc) (cc : Nat) : (carryOut c cc).nendBits = c.nendBits :=
  carryOut_frame (·.nendBits) (by simp) (by simp) (by simp) c cc
@[simp] theorem carryOut_buf_length (c : Enc) (cc : Nat) : (carryOut c cc).buf.length = c.buf.length :=
  carryOut_frame (·.buf.length) (by simp) (by simp) (by simp) c cc

/-- The pure `(rng, nbits_total)` part of both normalisation loops. -/
def normRN (rng nbits : Nat) : Nat × Nat :=
  if h : 0 < rng ∧ rng ≤ 8388608 then normRN (u32 (rng * 256)) (nbits + 8) else (rng, nbits)
termination_by 8388609 - rng
decreasing_by simp only [u32]; omega

theorem normRN_nbits_ge (rng nbits : Nat) : nbits ≤ (normRN rng nbits).2 := by
  fun_induction normRN rng nbits with
  | case1 rng nbits h ih => omega
  | case2 rng nbits h => exact Nat.le_refl _

/-- From `rng ≥ 2^23` the loop runs at most once. -/
theorem normRN_nbits_le {rng nbits : Nat} (h : 8388608 ≤ rng) : (normRN rng nbits).2 ≤ nbits + 8 := by
  rw [normRN]
  by_cases hc : 0 < rng ∧ rng ≤ 8388608
  · rw [dif_pos hc, normRN, dif_neg (by unfold u32; omega)]
    exact Nat.le_refl _
  · rw [dif_neg hc]; exact Nat.le_add_right _ _

theorem encNormalize_rn (c : Enc) :
    ((encNormalize c).rng, (encNormalize c).nbitsTotal) = normRN c.rng c.nbitsTotal := by
  fun_induction encNormalize c with
  | case1 c h c1 ih =>
    rw [ih]; conv => rhs; unfold normRN
    simp [h]
  | case2 c h =>
    unfold normRN; simp [h]

theorem readByte_rng (c : Dec) : (readByte c).2.rng = c.rng := by unfold readByte; split <;> rfl
theorem readByte_nbitsTotal (c : Dec) : (readByte c).2.nbitsTotal = c.nbitsTotal := by
  unfold readByte; split <;> rfl

theorem decNormalize_rn (c : Dec) :
    ((decNormalize c).rng, (decNormalize c).nbitsTotal) = normRN c.rng c.nbitsTotal := by
  fun_induction decNormalize c with
  | case1 c h b c1 hb sym ih =>
    rw [ih]; conv => rhs; unfold normRN
    simp [h]
  | case2 c h =>
    unfold normRN; simp [h]

theorem normRN_spec (rng nbits : Nat) (h0 : 0 < rng) (h1 : rng ≤ 2147483648) :
    8388608 < (normRN rng nbits).1 ∧ (normRN rng nbits).1 ≤ 2147483648 ∧
    ((8388608 < rng ∧ normRN rng nbits = (rng, nbits)) ∨
     (rng ≤ 8388608 ∧ nbits + 8 ≤ (normRN rng nbits).2)) := by
  fun_induction normRN rng nbits with
  | case1 rng nbits h ih =>
    have e : u32 (rng * 256) = rng * 256 := by unfold u32; omega
    rw [e] at ih
    have := ih (by omega) (by omega)
    rw [e]
    refine ⟨this.1, this.2.1, Or.inr ⟨h.2, ?_⟩⟩
    rcases this.2.2 with ⟨_, h2⟩ | ⟨_, h2⟩
    · rw [h2]; simp
    · omega
  | case2 rng nbits h =>
    refine ⟨by omega, h1, Or.inl ⟨by omega, rfl⟩⟩

end Opus.RangeCoder
