import OpusProofs.CwrsModel
import OpusProofs.CwrsTable
/-
  OpusProofs.CwrsCache — the static mode's pulse cache (static_modes_float.h: cache_index50 / cache_bits50,
  regenerated) against V(N,K) and the PVQ table: every (N,K) the static mode can hand to the PVQ coder has
  V(N,K) < 2^32, a table walk that stays inside the table rows, and a cache word that brackets 8·log2 V(N,K).

  The evaluated checks read U(N,K) from the row-by-row copy `pvqURows` of the table (proved equal to the slicing of the flat
  data that `Utab` uses) and walk each distinct cache row once (`rowsUsed`), not once per position.
-/
namespace OpusProofs.CwrsCache
open Opus Opus.Cwrs Opus.Rate OpusProofs.CwrsU OpusProofs.CwrsTable OpusProofs.CwrsModel
open Opus.Gen.CeltTables

/-! ## Fast table reads -/

/-- The extractor's row-by-row copy is the slicing of `pvqUData` by `pvqURowOff`. -/
theorem rows_eq : pvqURows = (List.range nRows).map rowSlice := by decide +kernel

theorem rows_getD {r : Nat} (hr : r < nRows) : pvqURows.getD r [] = rowSlice r := by
  rw [rows_eq]
  simp [List.getD, hr]

/-- `U(a,b)` read from the row-by-row table: row `min a b`, column `max a b`. -/
def fastU (a b : Nat) : Nat := (pvqURows.getD (min a b) []).getD (max a b - min a b) 0

theorem fastU_eq {a b : Nat} (h : inTab (min a b) (max a b)) : fastU a b = U a b := by
  unfold fastU
  rw [rows_getD h.1]
  have := rowSlice_get h
  simp only [List.getD, this, Option.getD_some]
  by_cases hab : a ≤ b
  · rw [Nat.min_eq_left hab, Nat.max_eq_right hab]
  · have hba : b ≤ a := by omega
    rw [Nat.min_eq_right hba, Nat.max_eq_left hba, U_symm]

/-! ## The region of the table a walk for (N,K) can touch -/

/-- Every word `CELT_PVQ_U_ROW[r][c]`, `r ≤ min(N,K+1)`, `c ≤ max(N,K+1)`, lies inside its row. -/
def regionOk (N K : Nat) : Bool :=
  (List.range (min N (K + 1) + 1)).all fun r =>
    decide (r < nRows) && decide (offL r + max N (K + 1) < rowEnd r)

theorem region_inTab {N K r c : Nat} (h : regionOk N K = true) (hrc : r ≤ c)
    (hr : r ≤ min N (K + 1)) (hc : c ≤ max N (K + 1)) : inTab r c := by
  simp only [regionOk, List.all_eq_true, List.mem_range, Bool.and_eq_true, decide_eq_true_eq] at h
  obtain ⟨h1, h2⟩ := h r (by omega)
  exact ⟨h1, hrc, by omega⟩

/-- Inside the region the regenerated table is `U`: memory safety of the walk and its values. -/
theorem agree_of_region {N K : Nat} (h : regionOk N K = true) : Agree Utab N K := by
  intro r c hrc hd
  have hr : r ≤ min N (K + 1) := by omega
  have hc : c ≤ max N (K + 1) := by omega
  exact ((Utab_spec r c).1 (region_inTab h hrc hr hc)).1

def fastV (N K : Nat) : Nat := fastU N K + fastU N (K + 1)

theorem fastV_eq {N K : Nat} (h : regionOk N K = true) : fastV N K = V N K := by
  unfold fastV V
  have h1 : inTab (min N K) (max N K) := region_inTab h (by omega) (by omega) (by omega)
  have h2 : inTab (min N (K + 1)) (max N (K + 1)) := region_inTab h (by omega) (by omega) (by omega)
  rw [fastU_eq h1, fastU_eq h2]

/-! ## Every reachable (N, K, cache word) -/

/-- The facts checked for one `(N, K)` with cache word `b`: the walk stays inside the table, `V(N,K) < 2^32`,
    and `V^8 ≤ 2^(b+1) < 4·V^8`, i.e. `log2 V ≤ (b+1)/8 < log2 V + 1/4` (the cache stores `bits-1` in 1/8 bit). -/
def pairOk (N K b : Nat) : Bool :=
  regionOk N K && Nat.blt (fastV N K) 4294967296 &&
    Nat.ble (fastV N K ^ 8) (2 ^ (b + 1)) && Nat.blt (2 ^ (b + 1)) (4 * fastV N K ^ 8)

theorem pairOk_spec {N K b : Nat} (h : pairOk N K b = true) :
    Agree Utab N K ∧ V N K < 4294967296 ∧ V N K ^ 8 ≤ 2 ^ (b + 1) ∧ 2 ^ (b + 1) < 4 * V N K ^ 8 := by
  simp only [pairOk, Bool.and_eq_true, Nat.blt_eq, Nat.ble_eq] at h
  obtain ⟨⟨⟨h1, h2⟩, h3⟩, h4⟩ := h
  rw [fastV_eq h1] at h2 h3 h4
  exact ⟨agree_of_region h1, h2, h3, h4⟩

/-- Walk the words `cache[j+1], cache[j+2], …` of one cache row for band size `N`. -/
def walkOk (N : Nat) : Nat → List Nat → Bool
  | _, [] => true
  | j, b :: rest => pairOk N (getPulses (j + 1)) b && walkOk N (j + 1) rest

theorem walkOk_spec (N : Nat) : ∀ (l : List Nat) (j : Nat), walkOk N j l = true →
    ∀ i, i < l.length → pairOk N (getPulses (j + i + 1)) (l.getD i 0) = true := by
  intro l
  induction l with
  | nil => intro j _ i hi; simp at hi
  | cons b rest ih =>
    intro j h i hi
    simp only [walkOk, Bool.and_eq_true] at h
    cases i with
    | zero => simpa using h.1
    | succ i =>
      have := ih (j + 1) h.2 i (by simpa using hi)
      simpa [Nat.add_assoc, Nat.add_comm 1 i] using this

/-- `r a b` holds for every two neighbours `a, b` of the list. -/
def chainOk (r : Nat → Nat → Bool) : List Nat → Bool
  | a :: b :: t => r a b && chainOk r (b :: t)
  | _ => true

theorem chainOk_spec (r : Nat → Nat → Bool) : ∀ (l : List Nat), chainOk r l = true →
    ∀ i, i + 1 < l.length → r (l.getD i 0) (l.getD (i + 1) 0) = true := by
  intro l
  induction l with
  | nil => intro _ i hi; simp at hi
  | cons a t ih =>
    intro h i hi
    cases t with
    | nil => simp at hi
    | cons b t =>
      simp only [chainOk, Bool.and_eq_true] at h
      cases i with
      | zero => simpa using h.1
      | succ i =>
        have := ih h.2 i (by simpa using hi)
        simpa using this

/-- The words `cache[1..K']` of the cache row at offset `ci` (`cache[0] = K'`). -/
def rowWords (ci : Nat) : List Nat := (cacheBits.drop (ci + 1)).take (cacheBits.getD ci 0)

/-- The row at `ci`, for band size `N`: present in the array, every word consistent, non-decreasing, at most
    `MAX_PSEUDO` words, strictly increasing when `N ≥ 3`. -/
def rowOk (N ci : Nat) : Bool :=
  Nat.ble (ci + 1 + cacheBits.getD ci 0) cacheBits.length && walkOk N 0 (rowWords ci) && chainOk Nat.ble (rowWords ci) &&
    Nat.ble (cacheBits.getD ci 0) MAX_PSEUDO && (Nat.ble N 2 || chainOk Nat.blt (rowWords ci))

theorem rowWords_length {ci : Nat} (h : ci + 1 + cacheBits.getD ci 0 ≤ cacheBits.length) :
    (rowWords ci).length = cacheBits.getD ci 0 := by
  rw [rowWords, List.length_take, List.length_drop]; omega

theorem rowWords_getD {ci i : Nat} (hi : i < cacheBits.getD ci 0) :
    (rowWords ci).getD i 0 = cacheBits.getD (ci + 1 + i) 0 := by
  have hi' : i < cacheBits[ci]?.getD 0 := by simpa [List.getD] using hi
  simp [rowWords, List.getD, List.getElem?_drop, hi']

/-- The band size and the row offset of position `p = (LM+1)*nbEBands + band` of `cache.index` (`none`: no row). -/
def posRow (p : Nat) : Option (Nat × Nat) :=
  match cacheIndex.getD p (-1) with
  | .ofNat ci => some (bandN eBands (p / nbEBands) (p % nbEBands), ci)
  | .negSucc _ => none

/-- The distinct (band size, row offset) pairs: positions with the same band size share their row, so a check over
    this list walks every row once. -/
def rowsUsed : List (Nat × Nat) := ((List.range ((maxLM + 2) * nbEBands)).filterMap posRow).eraseDups

theorem rowsUsed_all {P : Nat → Nat → Bool} (h : (rowsUsed.all fun r => P r.1 r.2) = true) {p ci : Nat}
    (hp : p < (maxLM + 2) * nbEBands) (hci : cacheIndex[p]? = some (Int.ofNat ci)) :
    P (bandN eBands (p / nbEBands) (p % nbEBands)) ci = true := by
  have hg : cacheIndex.getD p (-1) = Int.ofNat ci := by simp [List.getD, hci]
  have hrow : posRow p = some (bandN eBands (p / nbEBands) (p % nbEBands), ci) := by simp only [posRow, hg]
  exact List.all_eq_true.mp h _
    (List.mem_eraseDups.mpr (List.mem_filterMap.mpr ⟨p, List.mem_range.mpr hp, hrow⟩))

theorem cacheRowsOk_true : (rowsUsed.all fun r => rowOk r.1 r.2) = true := by decide +kernel

theorem cacheIndex_length : cacheIndex.length = (maxLM + 2) * nbEBands := by decide +kernel

/-- What `rowOk N ci` checks, in the terms its users need: the cache row at `ci` (`cache[0] = K` words behind it), for band
    size `N`. -/
structure RowFacts (N ci : Nat) : Prop where
  inside : ci + cacheBits.getD ci 0 < cacheBits.length
  pair : ∀ q, 1 ≤ q → q ≤ cacheBits.getD ci 0 → pairOk N (getPulses q) (cacheBits.getD (ci + q) 0) = true
  mono : ∀ q, 1 ≤ q → q < cacheBits.getD ci 0 → cacheBits.getD (ci + q) 0 ≤ cacheBits.getD (ci + q + 1) 0
  short : cacheBits.getD ci 0 ≤ MAX_PSEUDO
  strict : 3 ≤ N → ∀ q, 1 ≤ q → q < cacheBits.getD ci 0 → cacheBits.getD (ci + q) 0 < cacheBits.getD (ci + q + 1) 0

theorem rowOk_spec {N ci : Nat} (h : rowOk N ci = true) : RowFacts N ci := by
  simp only [rowOk, Bool.and_eq_true, Bool.or_eq_true, Nat.ble_eq] at h
  obtain ⟨⟨⟨⟨hlen, hwalk⟩, hmono⟩, hK⟩, hstrict⟩ := h
  have hl := rowWords_length hlen
  -- neighbours `q' `, `q' + 1` of `rowWords` are the words `ci + q' + 1`, `ci + q' + 2`
  have nb : ∀ (r : Nat → Nat → Bool), chainOk r (rowWords ci) = true → ∀ q', q' + 1 < cacheBits.getD ci 0 →
      r (cacheBits.getD (ci + (q' + 1)) 0) (cacheBits.getD (ci + (q' + 1) + 1) 0) = true := fun r hr q' hq => by
    have := chainOk_spec r _ hr q' (by omega)
    rwa [rowWords_getD (by omega), rowWords_getD (by omega), Nat.add_right_comm, Nat.add_right_comm ci 1] at this
  refine ⟨by omega, fun q h1 hq => ?_, fun q h1 hq => ?_, hK, fun hN q h1 hq => ?_⟩ <;>
    obtain ⟨q', rfl⟩ : ∃ q', q = q' + 1 := ⟨q - 1, by omega⟩
  · have := walkOk_spec _ _ 0 hwalk q' (by omega)
    rwa [rowWords_getD (by omega), Nat.zero_add, Nat.add_right_comm] at this
  · exact Nat.ble_eq.mp (nb _ hmono q' hq)
  · exact Nat.blt_eq.mp (nb _ (hstrict.resolve_left (by omega)) q' hq)

/-! ## Reachable (N, K) in terms of band and frame size -/

/-- `(N, K)` is a (vector size, pulse count) pair the static mode can hand to the PVQ coder, and `b` its cache word:
    `cache = m->cache.bits + m->cache.index[(LM+1)*m->nbEBands+band]` (rate.h:59-63, 84-86) for `band < nbEBands`,
    `lm1 = LM+1 ≤ maxLM+1` (`LM = -1` is reached by splitting a band at `LM = 0`, bands.c quant_partition),
    `N = (eBands[band+1]-eBands[band])<<(LM+1)>>1`, `K = get_pulses(q)` for a pseudo-pulse count `1 ≤ q ≤ cache[0]`,
    `b = cache[q]`. -/
def Reach (N K b : Nat) : Prop :=
  ∃ lm1 band ci q, lm1 ≤ maxLM + 1 ∧ band < nbEBands ∧
    cacheIndex[lm1 * nbEBands + band]? = some (Int.ofNat ci) ∧ 1 ≤ q ∧ q ≤ cacheBits.getD ci 0 ∧
    N = bandN eBands lm1 band ∧ K = getPulses q ∧ b = cacheBits.getD (ci + q) 0

theorem pos_of_band {lm1 band : Nat} (hl : lm1 ≤ maxLM + 1) (hb : band < nbEBands) :
    lm1 * nbEBands + band < (maxLM + 2) * nbEBands ∧ (lm1 * nbEBands + band) / nbEBands = lm1 ∧
    (lm1 * nbEBands + band) % nbEBands = band := by
  have hpos : 0 < nbEBands := by omega
  refine ⟨?_, ?_, ?_⟩
  · have : lm1 * nbEBands + nbEBands ≤ (maxLM + 2) * nbEBands := by
      have := Nat.mul_le_mul_right nbEBands (show lm1 + 1 ≤ maxLM + 2 by omega)
      rwa [Nat.add_mul, Nat.one_mul] at this
    omega
  · rw [Nat.add_comm, Nat.add_mul_div_right _ _ hpos, Nat.div_eq_of_lt hb, Nat.zero_add]
  · rw [Nat.add_comm, Nat.add_mul_mod_self_right, Nat.mod_eq_of_lt hb]

theorem getPulses_pos {q : Nat} (h : 1 ≤ q) : 1 ≤ getPulses q := by
  unfold getPulses
  split
  · exact h
  · have : 0 < 2 ^ (q / 8 - 1) := Nat.pow_pos (by omega)
    have : 8 + q % 8 ≤ (8 + q % 8) * 2 ^ (q / 8 - 1) := Nat.le_mul_of_pos_right _ this
    omega

/-- The row of band `band` at `lm1 = LM + 1`. -/
theorem row_at {lm1 band ci : Nat} (hl : lm1 ≤ maxLM + 1) (hb : band < nbEBands)
    (hci : cacheIndex[lm1 * nbEBands + band]? = some (Int.ofNat ci)) : RowFacts (bandN eBands lm1 band) ci := by
  obtain ⟨hp, hdiv, hmod⟩ := pos_of_band hl hb
  have := rowsUsed_all (P := rowOk) cacheRowsOk_true hp hci
  rw [hdiv, hmod] at this
  exact rowOk_spec this

/-- What `pairOk` says of a reachable `(N, K)` with its cache word. -/
theorem reach_facts {N K b : Nat} (h : Reach N K b) :
    1 ≤ K ∧ Agree Utab N K ∧ V N K < 4294967296 ∧ V N K ^ 8 ≤ 2 ^ (b + 1) ∧ 2 ^ (b + 1) < 4 * V N K ^ 8 := by
  obtain ⟨lm1, band, ci, q, hl, hb, hci, hq1, hq, rfl, rfl, rfl⟩ := h
  exact ⟨getPulses_pos hq1, pairOk_spec ((row_at hl hb hci).pair q hq1 hq)⟩

/-- Rows of the cache are inside the array and non-decreasing in the pseudo-pulse count. -/
theorem rows_monotone {lm1 band ci q : Nat} (hl : lm1 ≤ maxLM + 1) (hb : band < nbEBands)
    (hci : cacheIndex[lm1 * nbEBands + band]? = some (Int.ofNat ci)) (hq1 : 1 ≤ q) (hq : q ≤ cacheBits.getD ci 0) :
    ci + q < cacheBits.length ∧ (q < cacheBits.getD ci 0 → cacheBits.getD (ci + q) 0 ≤ cacheBits.getD (ci + q + 1) 0) :=
  ⟨by have := (row_at hl hb hci).inside; omega, (row_at hl hb hci).mono q hq1⟩

/-! ## The shipped cache is what `compute_pulse_cache` computes -/

theorem mapM_loop_ok {α β : Type} (f : α → Res β) (g : α → β) :
    ∀ (l : List α) (acc : List β), (∀ x ∈ l, f x = .ok (g x)) →
      List.mapM.loop f l acc = .ok (acc.reverse ++ l.map g) := by
  intro l
  induction l with
  | nil => intro acc _; simp [List.mapM.loop]
  | cons a t ih =>
    intro acc h
    have ha : f a = .ok (g a) := h a (by simp)
    simp only [List.mapM.loop, ha, Res.bind_ok]
    rw [ih (g a :: acc) (fun x hx => h x (by simp [hx]))]
    simp

theorem mapM_ok {α β : Type} (f : α → Res β) (g : α → β) (l : List α) (h : ∀ x ∈ l, f x = .ok (g x)) :
    l.mapM f = .ok (l.map g) := by
  unfold List.mapM
  rw [mapM_loop_ok f g l [] h]; simp

/-- One cache row computed from the fast table. -/
def fastRow (N K : Nat) : List Nat :=
  K % 256 :: (List.range K).map fun j => (log2Frac (fastV N (getPulses (j + 1))) BITRES + 256 - 1) % 256

def rowRegion (N K : Nat) : Bool := (List.range K).all fun j => regionOk N (getPulses (j + 1))

theorem cacheRow_eq {N K : Nat} (h : rowRegion N K = true) : cacheRow Utab N K = .ok (fastRow N K) := by
  simp only [rowRegion, List.all_eq_true, List.mem_range] at h
  unfold cacheRow fastRow
  rw [mapM_ok _ (fun j => (log2Frac (fastV N (getPulses (j + 1))) BITRES + 256 - 1) % 256)]
  · rfl
  · intro j hj
    have hr := h j (List.mem_range.mp hj)
    rw [pvqV_agree (agree_of_region hr) (Nat.le_refl _) (Nat.le_refl _), fastV_eq hr]
    rfl

/-- The scan of band sizes reproduces `cache.index`, every entry's rows lie inside the table, and the rows
    recomputed from `V(N,K)` reproduce `cache.bits`. -/
def cacheCheck : Bool :=
  decide ((scan eBands nbEBands maxLM).cindex = cacheIndex) &&
  (scan eBands nbEBands maxLM).entries.all (fun e => rowRegion e.1 e.2) &&
  decide (((scan eBands nbEBands maxLM).entries.map (fun e => fastRow e.1 e.2)).flatten = cacheBits)

theorem cacheCheck_true : cacheCheck = true := by decide +kernel

end OpusProofs.CwrsCache
