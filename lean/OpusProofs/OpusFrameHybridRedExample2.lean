import OpusProofs.OpusFrameHybridRedExample
import OpusProofs.OpusFrameHybridExampleData
import OpusProofs.OpusFrameHybridCelt
/-
  C08 — a concrete HYBRID frame WITH redundancy: SWB mono 10 ms, budget 91 bytes: WB SILK part
  (`hybPacket`), redundancy flag 1, `celt_to_silk = 1`, `ec_enc_uint(30-2, 256)`, `ec_enc_shrink(60)`, CELT bands 17-18 from
  C17's encoder model on the shared coder, and the 30-byte redundancy frame of OpusProofs/OpusFrameHybridRedExample.lean.
  The hypotheses of `opus_frame_lockstep_hybrid_red_partial` (the antecedent of its last clause, the CELT main-part hypothesis, included) and of its CBR
  form, and the decoder's answer, kernel-evaluated; then the hypotheses of `hybrid_red_main_part_roundtrip`: C17's encoder model
  started behind the legal form `hybridP0G` of the prefix.  On this frame that start state is the state behind the patched
  prefix (`s0HG_eq`), so the run is `runHR`.
-/
namespace Opus.OpusFrameProofs.Example
open Opus Opus.RangeCoder Opus.SilkSyms Opus.SilkSymsEnc Opus.SilkSymsEncProofs Opus.OpusFrameEnc Opus.CeltSymsEnc
open OpusProofs.CeltHdr Opus.OpusFrameProofs

/-- the CELT encoder model starts on the shared coder behind SILK part, signalling and `ec_enc_shrink(60)` -/
def s0HR : St :=
  { e := encRun (encInit bufHR 90) (packetOps (hybridCfg 1 100) hybPacket ++ redSigOps true true 1 1 30 ++ [Op.shrink 60]),
    ops := [], ds := dsH }
def allHR : List Op := match Opus.CeltBandsEnc.encFrame cfgH s0HR with | .ok f => f.ops | _ => []

/-- The CELT encoder's run behind SILK part and signalling, and everything about the finished 90-byte frame, in one
    evaluation: the shared coder (legal, no error, main part 60 bytes) with the length contracts `hgate`, `hsane`; their
    encoder-side CBR forms; what C17's round trip asks of the header and of the start state (for `caseHybridRedMain`); the
    decoder on the frame: parse, split, and C03's `celtFrame` from the handed-over state ending with the encoder's `rng`. -/
theorem runHR : (Opus.CeltBandsEnc.encFrame cfgH s0HR).OkAnd fun fr =>
    (LegalRun (encRun (encInit bufHR (91 - 1)) (packetOps (hybridCfg 1 100) hybPacket ++ redSigOps true true 1 1 30))
        (Op.shrink (91 - 1 - 30) :: fr.ops) ∧
      (encodeAll bufHR (91 - 1) (hybridOps 91 (hybridCfg 1 100) hybPacket true 1 1 30 fr.ops)).nbitsTotal < 4294967296 ∧
      (encodeAll bufHR (91 - 1) (hybridOps 91 (hybridCfg 1 100) hybPacket true 1 1 30 fr.ops)).error = 0 ∧
      (encodeAll bufHR (91 - 1) (hybridOps 91 (hybridCfg 1 100) hybPacket true 1 1 30 fr.ops)).storage = 60 ∧
      tell (encRun (encInit bufHR (91 - 1)) (packetOps (hybridCfg 1 100) hybPacket)) + 17 + 20 ≤ 8 * ((60 + 30 : Nat) : Int) ∧
      tell (encRun (encInit bufHR (91 - 1)) (packetOps (hybridCfg 1 100) hybPacket ++ redSigOps true true 1 1 30)) ≤
        8 * ((60 : Nat) : Int)) ∧
    ((encodeAll bufHR (91 - 1) (hybridOps 91 (hybridCfg 1 100) hybPacket true 1 1 30 fr.ops)).storage = 91 - 1 - 30 ∧
      tell (encRun (encInit bufHR (91 - 1)) (packetOps (hybridCfg 1 100) hybPacket)) + 17 + 20 ≤ 8 * ((91 - 1 : Nat) : Int) ∧
      ((30 : Nat) : Int) ≤ ((91 - 1 : Nat) : Int) -
        (tell (encRun (encInit bufHR (91 - 1)) (packetOps (hybridCfg 1 100) hybPacket ++ [Op.bitLogp 1 12, Op.bitLogp 1 1])) + 8 + 3 + 7) / 8) ∧
    ((fr.hdr.silence = 0 ∧ fr.hdr.size = 60 ∧ fr.hdr.pf.on = 0 ∧ (cfgH.start : Int) ≤ fr.hdr.allocInp.intensity ∧
        fr.hdr.allocInp.dualStereo = 0 ∧ fr.ops.length = 31) ∧
      s0HR.e.storage = cfgH.size ∧ tell s0HR.e < ((60 * 8 : Nat) : Int) ∧
      (encodeAll bufHR (91 - 1) (hybridOps 91 (hybridCfg 1 100) hybPacket true 1 1 30 fr.ops)).nbitsTotal < 536870912) ∧
    (decodeOpusFrame 1001 1104 1 100 false {}
        (hybridFrame bufHR 91 (hybridCfg 1 100) hybPacket true 1 1 fr.ops bytesR19 727052288).payload).OkAnd fun o =>
      (Opus.CeltBands.celtFrame { start := 17, end_ := 19, C := 1, LM := 2 } o.len.toNat o.dec).OkAnd fun cf =>
        o.redundancy = 1 ∧ o.celtToSilk = 1 ∧ o.redundancyBytes = 30 ∧ o.len = 60 ∧
        cf.fin.c.rng = (encodeAll bufHR (91 - 1) (hybridOps 91 (hybridCfg 1 100) hybPacket true 1 1 30 fr.ops)).rng := by
  decide +kernel

theorem allHR_eq {fr : Opus.CeltBandsEnc.EncFrame} (h : Opus.CeltBandsEnc.encFrame cfgH s0HR = .ok fr) : allHR = fr.ops := by
  rw [allHR, h]

theorem hybRedHyps :
    LegalRun (encRun (encInit bufHR (91 - 1)) (packetOps (hybridCfg 1 100) hybPacket ++ redSigOps true true 1 1 30))
      (Op.shrink (91 - 1 - 30) :: allHR) ∧
    (encodeAll bufHR (91 - 1) (hybridOps 91 (hybridCfg 1 100) hybPacket true 1 1 30 allHR)).nbitsTotal < 4294967296 ∧
    (encodeAll bufHR (91 - 1) (hybridOps 91 (hybridCfg 1 100) hybPacket true 1 1 30 allHR)).error = 0 ∧
    (encodeAll bufHR (91 - 1) (hybridOps 91 (hybridCfg 1 100) hybPacket true 1 1 30 allHR)).storage = 60 ∧
    tell (encRun (encInit bufHR (91 - 1)) (packetOps (hybridCfg 1 100) hybPacket)) + 17 + 20 ≤ 8 * ((60 + 30 : Nat) : Int) ∧
    tell (encRun (encInit bufHR (91 - 1)) (packetOps (hybridCfg 1 100) hybPacket ++ redSigOps true true 1 1 30)) ≤ 8 * ((60 : Nat) : Int) := by
  obtain ⟨fr, h, hyps, -⟩ := runHR
  rw [allHR_eq h]; exact hyps

/-- the decoder on the finished frame: parse, split, and the CELT main-part hypothesis (C03's `celtFrame` from the handed-over
    state ends with the encoder's `rng`); `hybRedDec` below says the same with `match` -/
theorem hybRedDec_ok :
    (decodeOpusFrame 1001 1104 1 100 false {}
        (hybridFrame bufHR 91 (hybridCfg 1 100) hybPacket true 1 1 allHR worldR19.bytes 727052288).payload).OkAnd fun o =>
      (Opus.CeltBands.celtFrame { start := 17, end_ := 19, C := 1, LM := 2 } o.len.toNat o.dec).OkAnd fun cf =>
        o.redundancy = 1 ∧ o.celtToSilk = 1 ∧ o.redundancyBytes = 30 ∧ o.len = 60 ∧
        cf.fin.c.rng = (encodeAll bufHR (91 - 1) (hybridOps 91 (hybridCfg 1 100) hybPacket true 1 1 30 allHR)).rng := by
  obtain ⟨fr, h, -, -, -, hdec⟩ := runHR
  rw [allHR_eq h, worldR19_bytes]; exact hdec

theorem hybRedDec :
    (match decodeOpusFrame 1001 1104 1 100 false {}
        (hybridFrame bufHR 91 (hybridCfg 1 100) hybPacket true 1 1 allHR worldR19.bytes 727052288).payload with
     | .ok o =>
       (match Opus.CeltBands.celtFrame { start := 17, end_ := 19, C := 1, LM := 2 } o.len.toNat o.dec with
        | .ok cf => decide (o.redundancy = 1 ∧ o.celtToSilk = 1 ∧ o.redundancyBytes = 30 ∧ o.len = 60 ∧
            cf.fin.c.rng = (encodeAll bufHR (91 - 1) (hybridOps 91 (hybridCfg 1 100) hybPacket true 1 1 30 allHR)).rng)
        | _ => false)
     | _ => false) = true := by
  obtain ⟨o, ho, cf, hcf, hq⟩ := hybRedDec_ok
  rw [ho]
  simp only [hcf]
  exact decide_eq_true hq

/-- the encoder-side hypotheses of `opus_frame_lockstep_hybrid_red_cbr_partial` (which replace the length contracts) -/
theorem hybRedCbrHyps :
    (encodeAll bufHR (91 - 1) (hybridOps 91 (hybridCfg 1 100) hybPacket true 1 1 30 allHR)).storage = 91 - 1 - 30 ∧
    tell (encRun (encInit bufHR (91 - 1)) (packetOps (hybridCfg 1 100) hybPacket)) + 17 + 20 ≤ 8 * ((91 - 1 : Nat) : Int) ∧
    ((30 : Nat) : Int) ≤ ((91 - 1 : Nat) : Int) -
      (tell (encRun (encInit bufHR (91 - 1)) (packetOps (hybridCfg 1 100) hybPacket ++ [Op.bitLogp 1 12, Op.bitLogp 1 1])) + 8 + 3 + 7) / 8 := by
  obtain ⟨fr, h, -, hcbr, -⟩ := runHR
  rw [allHR_eq h]; exact hcbr

def s0HG : St := { e := encRun (encInit bufHR 90) (hybridP0G 91 (hybridCfg 1 100) hybPacket true 1 1 30), ops := [], ds := dsH }

/-- In general the coder behind the legal prefix and the one behind the patched prefix are only `canon`-equal (`hybrid_world`);
    here they are the same state. -/
theorem s0HG_e : encRun (encInit bufHR 90) (hybridP0G 91 (hybridCfg 1 100) hybPacket true 1 1 30) =
    encRun (encInit bufHR 90) (packetOps (hybridCfg 1 100) hybPacket ++ redSigOps true true 1 1 30 ++ [Op.shrink 60]) := by
  decide +kernel

theorem s0HG_eq : s0HG = s0HR := by simp only [s0HG, s0HR, s0HG_e]

theorem caseHybridRedMain : ∃ fr, Opus.CeltBandsEnc.encFrame cfgH s0HG = .ok fr ∧ fr.ops.length = 31 ∧
    LegalRun (encRun (encInit bufHR (91 - 1)) (packetOps (hybridCfg 1 100) hybPacket ++ redSigOps true true 1 1 30))
      (Op.shrink (91 - 1 - 30) :: fr.ops) ∧
    (encodeAll bufHR (91 - 1) (hybridOps 91 (hybridCfg 1 100) hybPacket true 1 1 30 fr.ops)).nbitsTotal < 536870912 ∧
    (encodeAll bufHR (91 - 1) (hybridOps 91 (hybridCfg 1 100) hybPacket true 1 1 30 fr.ops)).error = 0 ∧
    HybridCeltG bufHR 91 (hybridCfg 1 100) hybPacket true 1 1 30 cfgH s0HG fr := by
  rw [s0HG_eq]
  obtain ⟨fr, h, ⟨hsuf, -, herr, hst, -, -⟩, -, ⟨⟨hsil, hsize, hpf, hint, hdual, hlen⟩, hst0, hroom, hn29⟩, -⟩ := runHR
  -- `enc0` by rewriting: asked whether `s0HR.e` is `encRun …` by `rfl`, the elaborator unfolds `encRun` before the projection
  -- and starts running the encoder
  exact ⟨fr, h, hlen, hsuf, hn29, herr,
    ⟨rfl, by simp only [s0HR, Nat.reduceSub, s0HG_e], hst0, h, hsil, by decide, by decide, by rw [hst, hsize], Or.inl hst,
      by rw [hst]; exact hroom, fun hne => absurd hpf hne, hint, Or.inl hdual⟩⟩

end Opus.OpusFrameProofs.Example
