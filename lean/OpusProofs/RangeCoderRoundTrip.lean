import OpusProofs.RangeCoderDecBits
/-
  OpusProofs.RangeCoderRoundTrip — C08, the round trip: decoding the finished buffer
  with the same sequence of calls returns the encoded values.  At the end: `Reads` / `after`, the same as a predicate on
  a decoder context.
-/
namespace Opus.RangeCoder

theorem encOp_error_mono (c : Enc) (op : Op) (h : c.error ≠ 0) : (encOp c op).error ≠ 0 := by
  rcases encOp_shape c op with ⟨v, r, e⟩ | ⟨v, r, x, n, e⟩ | ⟨x, n, e⟩ | ⟨v, n, rfl⟩ | ⟨s, rfl⟩
  · rw [e]; exact encNormalize_error_mono _ h
  · rw [e]; exact encBits_error_mono _ _ _ (encNormalize_error_mono _ h)
  · rw [e]; exact encBits_error_mono _ _ _ h
  · obtain ⟨_, _, _, _, ER, e, he | he, _⟩ := encPatch_shape c v n
    · simp only [encOp, e, he]; exact h
    · simp only [encOp, e, he]; decide
  · exact h

theorem encRun_error_mono (ops : List Op) : ∀ (c : Enc), c.error ≠ 0 → (encRun c ops).error ≠ 0 := by
  induction ops with
  | nil => intro c h; exact h
  | cons op ops ih => intro c h; exact ih _ (encOp_error_mono c op h)

theorem encOp_nbits_mono (c : Enc) (op : Op) : c.nbitsTotal ≤ (encOp c op).nbitsTotal := by
  rcases encOp_shape c op with ⟨v, r, e⟩ | ⟨v, r, x, n, e⟩ | ⟨x, n, e⟩ | ⟨v, n, rfl⟩ | ⟨s, rfl⟩
  · rw [e]; exact encNormalize_nbits_ge { c with val := v, rng := r }
  · rw [e, (encBits_rn _ x n).2]
    exact Nat.le_trans (encNormalize_nbits_ge { c with val := v, rng := r }) (Nat.le_add_right _ _)
  · rw [e, (encBits_rn c x n).2]; exact Nat.le_add_right _ _
  · obtain ⟨_, _, _, _, _, e, _⟩ := encPatch_shape c v n
    simp only [encOp, e]; exact Nat.le_refl _
  · exact Nat.le_refl _

theorem encRun_nbits_mono (ops : List Op) : ∀ (c : Enc), c.nbitsTotal ≤ (encRun c ops).nbitsTotal := by
  induction ops with
  | nil => intro c; exact Nat.le_refl _
  | cons op ops ih => intro c; exact Nat.le_trans (encOp_nbits_mono c op) (ih _)

/-- A run that ends without error (the flag is sticky) and with fewer than `2^32` bits counted started so. -/
theorem encRun_ok {c : Enc} {ops : List Op} (hn : (encRun c ops).nbitsTotal < 4294967296)
    (herr : (encRun c ops).error = 0) : c.nbitsTotal < 4294967296 ∧ c.error = 0 :=
  ⟨Nat.lt_of_le_of_lt (encRun_nbits_mono ops _) hn, zero_of_sticky (encRun_error_mono ops _) herr⟩

theorem encRun_head_ok (c : Enc) (op : Op) (ops : List Op) (hn : (encRun c (op :: ops)).nbitsTotal < 4294967296)
    (herr : (encRun c (op :: ops)).error = 0) :
    (encOp c op).nbitsTotal < 4294967296 ∧ (encOp c op).error = 0 :=
  encRun_ok (c := encOp c op) (ops := ops) hn herr

/-- … and so does `ec_enc_done`, which counts no bits. -/
theorem encDone_ok {c : Enc} (hn : (encDone c).nbitsTotal < 4294967296) (herr : (encDone c).error = 0) :
    c.nbitsTotal < 4294967296 ∧ c.error = 0 :=
  ⟨by rw [encDone_nbitsTotal] at hn; exact hn, zero_of_sticky (encDone_error_mono c) herr⟩

/-- Every operation of the list is legal in the encoder state it is applied to. -/
def LegalRun (c : Enc) : List Op → Prop
  | [] => True
  | op :: ops => op.LegalAt c ∧ LegalRun (encOp c op) ops

def decLegalRun : (ops : List Op) → (c : Enc) → Decidable (LegalRun c ops)
  | [], _ => isTrue trivial
  | op :: ops, c =>
    match (inferInstance : Decidable (op.LegalAt c)), decLegalRun ops (encOp c op) with
    | isTrue h1, isTrue h2 => isTrue ⟨h1, h2⟩
    | isFalse h1, _ => isFalse (fun h => h1 h.1)
    | _, isFalse h2 => isFalse (fun h => h2 h.2)

instance (c : Enc) (ops : List Op) : Decidable (LegalRun c ops) := decLegalRun ops c

/-- The run invariant holds at the end of a successful run, and both containments travel back
    from its end to its start. -/
theorem run_back (ops : List Op) : ∀ (c : Enc), RunInv c → LegalRun c ops →
    (encRun c ops).nbitsTotal < 4294967296 → (encRun c ops).error = 0 →
    c.error = 0 ∧ RunInv (encRun c ops) ∧ (encRun c ops).storage ≤ c.storage ∧
    (∀ B S, (∀ i, byteAt B S i < 256) → Contains B S (encRun c ops) → Contains B S c) ∧
    (∀ B S, RawC B S (encRun c ops) → RawC B S c) := by
  induction ops with
  | nil =>
    intro c ri _ _ herr
    exact ⟨herr, ri, Nat.le_refl _, fun _ _ _ h => h, fun _ _ h => h⟩
  | cons op ops ih =>
    intro c ri hl hn herr
    obtain ⟨hn1, herr1⟩ := encRun_head_ok c op ops hn herr
    have st := step_op c op ri hl.1 hn1 herr1
    obtain ⟨_, i1, i2, i3, i4⟩ := ih (encOp c op) st.run hl.2 hn herr
    exact ⟨st.err0, i1, Nat.le_trans i2 st.sto, fun B S hB h => st.cont B S hB (i3 B S hB h),
      fun B S h => st.rawc B S (i4 B S h)⟩

/-- The values returned by the decoder agree, one by one, with what the operations encoded. -/
def MatchAll : List Op → List Nat → Prop
  | [], [] => True
  | op :: ops, x :: xs => op.Matches x ∧ MatchAll ops xs
  | _, _ => False

def decMatchAll : (ops : List Op) → (xs : List Nat) → Decidable (MatchAll ops xs)
  | [], [] => isTrue trivial
  | [], _ :: _ => isFalse (fun h => h)
  | _ :: _, [] => isFalse (fun h => h)
  | op :: ops, x :: xs =>
    match (inferInstance : Decidable (op.Matches x)), decMatchAll ops xs with
    | isTrue h1, isTrue h2 => isTrue ⟨h1, h2⟩
    | isFalse h1, _ => isFalse (fun h => h1 h.1)
    | _, isFalse h2 => isFalse (fun h => h2 h.2)

instance (ops : List Op) (xs : List Nat) : Decidable (MatchAll ops xs) := decMatchAll ops xs

/-- The decoder, started in a state mirroring the encoder, stays in lock-step over a whole run
    and returns the encoded values. -/
theorem run_decode (B : List Nat) (hB : BytesOk B) (S : Nat) (Bt : List Nat)
    (hag : ∀ i, 1 ≤ i → byteAt Bt S i = byteAt B S i) (hBt : ∀ i, byteAt Bt S i < 256) (ops : List Op) :
    ∀ (e : Enc) (d : Dec),
    RunInv e → LegalRun e ops → DecAll B S e d Bt →
    (encRun e ops).nbitsTotal < 4294967296 → (encRun e ops).error = 0 →
    Contains Bt S (encRun e ops) → RawC B S (encRun e ops) →
    MatchAll ops (decRun d ops).1 ∧ DecAll B S (encRun e ops) (decRun d ops).2 Bt := by
  induction ops with
  | nil =>
    intro e d _ _ all _ _ _ _
    exact ⟨trivial, all⟩
  | cons op ops ih =>
    intro e d ri hl all hn herr hc hr
    obtain ⟨hn1, herr1⟩ := encRun_head_ok e op ops hn herr
    have st := step_op e op ri hl.1 hn1 herr1
    obtain ⟨_, _, _, b3, b4⟩ := run_back ops (encOp e op) st.run hl.2 hn herr
    obtain ⟨m1, a1⟩ := decOp_spec B hB S e d op Bt hag hBt ri hl.1 all hn1 herr1 (b3 Bt S hBt hc) (b4 B S hr)
    obtain ⟨m2, a2⟩ := ih (encOp e op) (decOp d op).2 st.run hl.2 a1 hn herr hc hr
    simp only [decRun, encRun]
    exact ⟨⟨m1, m2⟩, a2⟩

theorem runInv_encInit (buf : List Nat) (size : Nat) (hs : size ≤ buf.length) (hb : BytesOk buf) :
    RunInv (encInit buf size) :=
  ⟨⟨⟨⟨by simp [encInit], hs, by simp [encInit], by simp [encInit]⟩, by simp [encInit], by simp [encInit],
     by simp [encInit], by simp [encInit], by simp [encInit]⟩, by simp [encInit]⟩,
   ⟨by simp [encInit], by simp [encInit]⟩, hb⟩

/-- The decoder context before `ec_dec_init` reads its first byte. -/
def dec0 (B : List Nat) (S : Nat) : Dec :=
  { buf := B, storage := S, endOffs := 0, endWindow := 0, nendBits := 0, nbitsTotal := 9, offs := 0,
    rng := 128, val := 0, ext := 0, rem := 0, error := 0 }

/-- The decoder context of `ec_dec_init` before its normalisation loop. -/
def dec1 (c0 : Dec) : Dec :=
  { (readByte c0).2 with
    rem := ((readByte c0).1 : Int)
    val := sub32 (128 - 1) ((readByte c0).1 / 2) }

theorem decInit_eq (B : List Nat) (S : Nat) : decInit B S = decNormalize (dec1 (dec0 B S)) := rfl

theorem encInit_encM (buf : List Nat) (size : Nat) : encM (encInit buf size) = 0 := by
  simp [encM, pendCount, encInit]
theorem encInit_encLow (buf : List Nat) (size : Nat) : encLow (encInit buf size) = 0 := by
  simp [encLow, digitsVal, pendCount, pendVal, encInit]
theorem encInit_rawN (buf : List Nat) (size : Nat) : rawN (encInit buf size) = 0 := by
  simp [rawN, encInit]

theorem normRN_init : normRN 128 9 = (2147483648, 33) := by
  rw [normRN, dif_pos (by decide), normRN, dif_pos (by decide), normRN, dif_pos (by decide), normRN,
    dif_neg (by decide)]
  rfl

/-- `ec_dec_init` puts the decoder in lock-step with a freshly initialised encoder. -/
theorem decInit_spec (B : List Nat) (hB : BytesOk B) (S : Nat) (buf : List Nat) (size : Nat) :
    DecAll B S (encInit buf size) (decInit B S) B := by
  have hBy : ∀ i, byteAt B S i < 256 := fun i => byteAt_lt_bytesOk hB S i
  rw [decInit_eq]
  -- `dec0 B S` must be abstract before `readByte` is unfolded (left in place, the kernel check ends in "deep recursion")
  generalize hd0 : dec0 B S = c0
  obtain ⟨r1, r2, r3, r4, r5, r6, r7, r8⟩ := readByte_spec B S c0 0 (by rw [← hd0]; rfl) (by rw [← hd0]; rfl)
    (by rw [← hd0]; simp [dec0])
  have b0 := hBy 0
  have st : DecSt B S B (dec1 c0) 0 128 := by
    refine ⟨r3, r4, r2, ?_, ?_⟩
    · show (((readByte c0).1 : Nat) : Int) = _; rw [r1]
    · show sub32 (128 - 1) ((readByte c0).1 / 2) + codeVal B S (0 + 1) / 2 + 1 = 128
      simp only [codeVal]
      rw [r1, sub32_of_le (by omega) (by omega)]; omega
  have hrng : (dec1 c0).rng = 128 := (readByte_rng _).trans (by rw [← hd0]; rfl)
  have hnb : (dec1 c0).nbitsTotal = 9 := (readByte_nbitsTotal _).trans (by rw [← hd0]; rfl)
  have f_eo : (dec1 c0).endOffs = 0 := r5.trans (by rw [← hd0]; rfl)
  have f_ew : (dec1 c0).endWindow = 0 := r6.trans (by rw [← hd0]; rfl)
  have f_ne : (dec1 c0).nendBits = 0 := r7.trans (by rw [← hd0]; rfl)
  have f_er : (dec1 c0).error = 0 := r8.trans (by rw [← hd0]; rfl)
  have hval : (dec1 c0).val < 128 := by have := st.val_eq; omega
  generalize dec1 c0 = d at *
  obtain ⟨k, st', -, dN⟩ := decNormalize_st hBy d 0 128 (fun _ _ => rfl) st (by rw [hrng]; exact hval)
    (by rw [hrng]; decide)
  have hrn := decNormalize_rn d
  rw [hrng, hnb, normRN_init] at hrn
  have hk : k = 3 := by have := congrArg Prod.snd hrn; simp only at this; omega
  subst hk
  have hM := encInit_encM buf size
  have hL := encInit_encLow buf size
  have hN := encInit_rawN buf size
  have er : (encInit buf size).rng = 2147483648 := rfl
  refine ⟨⟨st'.buf_eq, st'.storage_eq, (congrArg Prod.fst hrn).trans er.symm, congrArg Prod.snd hrn, ?_,
    by rw [hM]; exact st'.offs_eq, by rw [hM]; exact st'.rem_eq⟩, ?_, ?_, 0, ?_, ?_, ?_⟩
  · rw [hM, hL, er]; exact st'.val_eq
  · rw [decNormalize_error]; exact f_er
  · rw [decNormalize_nendBits, f_ne]; decide
  · rw [decNormalize_endOffs, f_eo]; omega
  · rw [hN, decNormalize_nendBits, f_ne]
  · rw [hN, decNormalize_nendBits, f_ne, decNormalize_endWindow, f_ew, Nat.pow_zero, Nat.mod_one]

theorem codeVal_take (B : List Nat) (S n : Nat) : codeVal (B.take S) S n = codeVal B S n := by
  apply codeVal_congr
  intro i _
  unfold byteAt
  split
  · rename_i h
    simp only [List.getD_eq_getElem?_getD, List.getElem?_take, h, if_true]
  · rfl

theorem tailVal_take (B : List Nat) (S n : Nat) : tailVal (B.take S) S n = tailVal B S n := by
  apply tailVal_congr
  intro j _
  unfold endByte
  split
  · rename_i h
    have : S - 1 - j < S := by omega
    simp only [List.getD_eq_getElem?_getD, List.getElem?_take, this, if_true]
  · rfl

theorem bytesOk_take {B : List Nat} (h : BytesOk B) (n : Nat) : BytesOk (B.take n) :=
  fun b hb => h b (List.mem_of_mem_take hb)

theorem encRun_append (a b : List Op) : ∀ (c : Enc), encRun c (a ++ b) = encRun (encRun c a) b := by
  induction a with
  | nil => intro c; rfl
  | cons op a ih => intro c; exact ih _

theorem encRun_ok_of_append {c : Enc} {P Q : List Op} (hn : (encRun c (P ++ Q)).nbitsTotal < 4294967296)
    (herr : (encRun c (P ++ Q)).error = 0) : (encRun c P).nbitsTotal < 4294967296 ∧ (encRun c P).error = 0 := by
  rw [encRun_append] at hn herr
  exact encRun_ok hn herr

theorem legalRun_append (a b : List Op) : ∀ (c : Enc), LegalRun c (a ++ b) →
    LegalRun c a ∧ LegalRun (encRun c a) b := by
  induction a with
  | nil => intro c h; exact ⟨trivial, h⟩
  | cons op a ih => intro c h; exact ⟨⟨h.1, (ih _ h.2).1⟩, (ih _ h.2).2⟩

theorem legalRun_append_mk (a b : List Op) : ∀ (c : Enc), LegalRun c a → LegalRun (encRun c a) b → LegalRun c (a ++ b) := by
  induction a with
  | nil => intro c _ h; exact h
  | cons op a ih => intro c h1 h2; exact ⟨h1.1, ih _ h1.2 h2⟩

theorem prim_legalRun (ops : List Op) (h : ∀ op ∈ ops, op.isPrim = true ∧ op.Legal) : ∀ (c : Enc), LegalRun c ops := by
  induction ops with
  | nil => intro _; trivial
  | cons op ops ih =>
    intro c
    obtain ⟨hp, hl⟩ := h op (List.mem_cons_self ..)
    exact ⟨(Op.isPrim_legalAt hp c).mpr hl, ih (fun o ho => h o (List.mem_cons_of_mem _ ho)) _⟩

theorem decRun_append (a b : List Op) : ∀ (d : Dec),
    decRun d (a ++ b) = ((decRun d a).1 ++ (decRun (decRun d a).2 b).1, (decRun (decRun d a).2 b).2) := by
  induction a with
  | nil => intro d; simp [decRun]
  | cons op a ih => intro d; simp only [List.cons_append, decRun, ih]

theorem matchAll_append {a b : List Op} {xs ys : List Nat} (h1 : MatchAll a xs) (h2 : MatchAll b ys) :
    MatchAll (a ++ b) (xs ++ ys) := by
  induction a generalizing xs with
  | nil => cases xs with
    | nil => exact h2
    | cons x xs => exact absurd h1 (by simp [MatchAll])
  | cons op a ih => cases xs with
    | nil => exact absurd h1 (by simp [MatchAll])
    | cons x xs => exact ⟨h1.1, ih h1.2⟩

/-- What a successful `ec_enc_done` provides for any decoder-side argument: the first `storage` bytes are a stream of
    bytes that satisfies both containments for the state before `ec_enc_done`. -/
theorem encDone_stream (c : Enc) (ri : RunInv c) (hn : c.nbitsTotal < 4294967296) (herr : (encDone c).error = 0) :
    (encDone c).storage = c.storage ∧ BytesOk ((encDone c).buf.take c.storage) ∧
    ((encDone c).buf.take c.storage).length = c.storage ∧
    Contains ((encDone c).buf.take c.storage) c.storage c ∧ RawC ((encDone c).buf.take c.storage) c.storage c := by
  obtain ⟨_, d1, d2, d3, d4, d5⟩ := encDone_spec c ri.inv ri.raw ri.bytes hn herr
  have := ri.inv.wf.storage_le
  refine ⟨d1, bytesOk_take d3 _, by rw [List.length_take, d2]; omega, ?_, ?_⟩
  · unfold Contains at d4 ⊢; rw [codeVal_take]; exact d4
  · unfold RawC at d5 ⊢; rw [tailVal_take]; exact d5

/-- What a successful `encodeAll` provides for any decoder-side argument: the finished stream is made of `storage`
    bytes and satisfies both containments for the encoder state reached before `ec_enc_done`. -/
theorem encodeAll_facts (buf : List Nat) (size : Nat) (ops : List Op) (hs : size ≤ buf.length)
    (hb : BytesOk buf) (hl : LegalRun (encInit buf size) ops)
    (hn : (encodeAll buf size ops).nbitsTotal < 4294967296)
    (herr : (encodeAll buf size ops).error = 0) :
    BytesOk ((encodeAll buf size ops).buf.take (encodeAll buf size ops).storage) ∧
    (encRun (encInit buf size) ops).nbitsTotal < 4294967296 ∧ (encRun (encInit buf size) ops).error = 0 ∧
    Contains ((encodeAll buf size ops).buf.take (encodeAll buf size ops).storage) (encodeAll buf size ops).storage
      (encRun (encInit buf size) ops) ∧
    RawC ((encodeAll buf size ops).buf.take (encodeAll buf size ops).storage) (encodeAll buf size ops).storage
      (encRun (encInit buf size) ops) ∧
    ((encodeAll buf size ops).buf.take (encodeAll buf size ops).storage).length = (encodeAll buf size ops).storage := by
  unfold encodeAll at hn herr ⊢
  have ri0 := runInv_encInit buf size hs hb
  generalize encInit buf size = e0 at *
  obtain ⟨hnF, herrF⟩ := encDone_ok hn herr
  obtain ⟨_, riF, _, _, _⟩ := run_back ops e0 ri0 hl hnF herrF
  obtain ⟨d1, hBt, hlen, hc, hr⟩ := encDone_stream _ riF hnF herr
  rw [d1]
  exact ⟨hBt, hnF, herrF, hc, hr, hlen⟩

/-- The state reached after any prefix of a successful `encodeAll` is error-free, has counted fewer than `2^32` bits
    and satisfies the run invariant. -/
theorem encodeAll_prefix_ok (buf : List Nat) (size : Nat) (pre suf : List Op) (hs : size ≤ buf.length)
    (hb : BytesOk buf) (hl : LegalRun (encInit buf size) (pre ++ suf))
    (hn : (encodeAll buf size (pre ++ suf)).nbitsTotal < 4294967296)
    (herr : (encodeAll buf size (pre ++ suf)).error = 0) :
    (encRun (encInit buf size) pre).error = 0 ∧ (encRun (encInit buf size) pre).nbitsTotal < 4294967296 ∧
    RunInv (encRun (encInit buf size) pre) := by
  obtain ⟨-, hnF, herrF, -⟩ := encodeAll_facts buf size (pre ++ suf) hs hb hl hn herr
  obtain ⟨hnP, herrP⟩ := encRun_ok_of_append hnF herrF
  exact ⟨herrP, hnP,
    (run_back pre _ (runInv_encInit buf size hs hb) (legalRun_append pre suf _ hl).1 hnP herrP).2.1⟩

/-- **Lock-step at every point of the stream.**  If `encodeAll` of `pre ++ suf` (legal where applied, buffer of any
    size) leaves `error = 0`, then after the prefix `pre` of the operations the decoder has returned the encoded values and mirrors the
    encoder state reached after `pre` (invariant D; in particular same `rng` and `nbits_total`). -/
theorem decode_encode_prefix (buf : List Nat) (size : Nat) (pre suf : List Op) (hs : size ≤ buf.length)
    (hb : BytesOk buf) (hl : LegalRun (encInit buf size) (pre ++ suf))
    (hn : (encodeAll buf size (pre ++ suf)).nbitsTotal < 4294967296)
    (herr : (encodeAll buf size (pre ++ suf)).error = 0) :
    MatchAll pre (decRun (decInit ((encodeAll buf size (pre ++ suf)).buf.take
      (encodeAll buf size (pre ++ suf)).storage) (encodeAll buf size (pre ++ suf)).storage) pre).1 ∧
    DecAll ((encodeAll buf size (pre ++ suf)).buf.take (encodeAll buf size (pre ++ suf)).storage)
      (encodeAll buf size (pre ++ suf)).storage
      (encRun (encInit buf size) pre)
      (decRun (decInit ((encodeAll buf size (pre ++ suf)).buf.take
        (encodeAll buf size (pre ++ suf)).storage) (encodeAll buf size (pre ++ suf)).storage) pre).2
      ((encodeAll buf size (pre ++ suf)).buf.take (encodeAll buf size (pre ++ suf)).storage) := by
  obtain ⟨herrP, hnP, riP⟩ := encodeAll_prefix_ok buf size pre suf hs hb hl hn herr
  obtain ⟨hBt, hnF, herrF, hc, hr, -⟩ := encodeAll_facts buf size (pre ++ suf) hs hb hl hn herr
  have ri0 := runInv_encInit buf size hs hb
  generalize (encodeAll buf size (pre ++ suf)).storage = S at *
  generalize (encodeAll buf size (pre ++ suf)).buf.take S = Bt at *
  have hBy : ∀ i, byteAt Bt S i < 256 := fun i => byteAt_lt_bytesOk hBt S i
  rw [encRun_append] at hc hr herrF hnF
  obtain ⟨hl1, hl2⟩ := legalRun_append pre suf _ hl
  obtain ⟨_, _, _, b3, b4⟩ := run_back suf _ riP hl2 hnF herrF
  exact run_decode Bt hBt S Bt (fun _ _ => rfl) hBy pre _ _ ri0 hl1 (decInit_spec Bt hBt S buf size) hnP herrP
    (b3 _ _ hBy hc) (b4 _ _ hr)

/-- **Decoder inverts encoder.**  For every list of operations (any interleaving of range-coded
    symbols, `ec_enc_uint`, raw bits and `ec_enc_shrink`), legal where applied, written into a buffer
    of any size: if `ec_enc_done` leaves `error = 0`, decoding the first `storage` bytes with the same
    sequence of calls returns the encoded values, the decoder's error flag stays clear and the decoder
    ends in lock-step with the encoder (same `rng`, same `nbits_total`). -/
theorem decode_encode_all (buf : List Nat) (size : Nat) (ops : List Op) (hs : size ≤ buf.length)
    (hb : BytesOk buf) (hl : LegalRun (encInit buf size) ops)
    (hn : (encodeAll buf size ops).nbitsTotal < 4294967296)
    (herr : (encodeAll buf size ops).error = 0) :
    MatchAll ops (decRun (decInit ((encodeAll buf size ops).buf.take (encodeAll buf size ops).storage)
      (encodeAll buf size ops).storage) ops).1 ∧
    DecAll ((encodeAll buf size ops).buf.take (encodeAll buf size ops).storage) (encodeAll buf size ops).storage
      (encRun (encInit buf size) ops)
      (decRun (decInit ((encodeAll buf size ops).buf.take (encodeAll buf size ops).storage)
        (encodeAll buf size ops).storage) ops).2
      ((encodeAll buf size ops).buf.take (encodeAll buf size ops).storage) := by
  have h := decode_encode_prefix buf size ops [] hs hb (by rw [List.append_nil]; exact hl)
    (by rw [List.append_nil]; exact hn) (by rw [List.append_nil]; exact herr)
  rw [List.append_nil] at h
  exact h

end Opus.RangeCoder

/-! ### `Reads` / `after`: a decoder context reads a call list back

  The form in which the frame-level proofs (SILK payload, redundancy signalling, the CELT `World`) use `MatchAll` and
  `decRun`: as a predicate on the decoder context, which splits along `++`. -/
namespace Opus.SilkSymsEncProofs
open Opus Opus.RangeCoder

/-- Every operation of `ops` decodes from `d` to the value it encoded. -/
def Reads : Dec → List Op → Prop
  | _, [] => True
  | d, op :: ops => op.Matches (decOp d op).1 ∧ Reads (decOp d op).2 ops

/-- The decoder context after decoding `ops`. -/
def after : Dec → List Op → Dec
  | d, [] => d
  | d, op :: ops => after (decOp d op).2 ops

theorem after_eq (ops : List Op) : ∀ d, after d ops = (decRun d ops).2 := by
  induction ops with
  | nil => intro d; rfl
  | cons op ops ih => intro d; simp only [after, decRun, ih]

theorem reads_iff (ops : List Op) : ∀ d, Reads d ops ↔ MatchAll ops (decRun d ops).1 := by
  induction ops with
  | nil => intro d; simp [Reads, decRun, MatchAll]
  | cons op ops ih => intro d; simp only [Reads, decRun, MatchAll, ih]

theorem reads_append (a b : List Op) : ∀ d, Reads d (a ++ b) ↔ Reads d a ∧ Reads (after d a) b := by
  induction a with
  | nil => intro d; simp [Reads, after]
  | cons op a ih => intro d; simp only [List.cons_append, Reads, after, ih, and_assoc]

theorem after_append (a b : List Op) : ∀ d, after d (a ++ b) = after (after d a) b := by
  induction a with
  | nil => intro d; rfl
  | cons op a ih => intro d; simp only [List.cons_append, after, ih]

@[simp] theorem reads_nil (d : Dec) : Reads d [] = True := rfl
@[simp] theorem after_nil (d : Dec) : after d [] = d := rfl

theorem reads_cons_append (op : Op) (a : List Op) (d : Dec) :
    Reads d (op :: a) ↔ Reads d [op] ∧ Reads (after d [op]) a := by
  simp [Reads, after]

/-- Normal form of `after`: one operation at a time.  (Proofs normalise both sides with this and
    `after_append` instead of appealing to definitional equality: with a concrete table inside the
    operation the kernel would start evaluating `ec_dec_icdf`.  For the same reason the proof term is not
    `rfl`: `simp` would then use the lemma definitionally.) -/
theorem after_cons (op : Op) (a : List Op) (d : Dec) : after d (op :: a) = after (after d [op]) a :=
  after_append [op] a d

/-- `after_cons` in the form that does not loop as a `simp` lemma (the tail is not empty). -/
theorem after_cons_cons (op op2 : Op) (rest : List Op) (d : Dec) :
    after d (op :: op2 :: rest) = after (after d [op]) (op2 :: rest) :=
  after_cons op (op2 :: rest) d

end Opus.SilkSymsEncProofs
