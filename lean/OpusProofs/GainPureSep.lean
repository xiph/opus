import OpusProofs.GainPureSem
/-
  OpusProofs.GainPureSep — the event logs of the decoder skeleton satisfy the separation condition `gainSep` of
  `OpusProofs/GainPureSem.lean`: every frame logs its events at or above its own `pcm` pointer, its gain pass (if any) is
  its last event and covers `[pcm, pcm + ret·channels)`, and the next frame starts at `pcm + ret·channels`.
  Watermark invariant `WM w l`: `l` satisfies `gainSep` and all its gain passes lie in the caller's buffer below `w`.
  The walk carries ONE run invariant `At c w r`: the state has the configuration `c` (channels, rate, frame size, gain: what
  `opus_decode_frame` leaves alone, fixed once as constants) and the log satisfies `WM w`.  Steps that log no gain pass keep
  it (`At c w r → At c w (step r)`, `Quiet`); a frame, a concealment layer, `opus_decode_frame` and the frame / PLC loops
  move the watermark at most to the end of what they wrote (`Post`, sequenced by `Post.bind` along the `bindRun` form of the
  skeleton, `OpusProofs.DecSkelEqs`); the result is `decodeNative_gainSep` / `callObs_gainSep`.
-/
namespace Opus.DecSkel

/-- an event touches the caller's buffer only at or above `w` -/
def aboveEv (w : Int) (e : Ev) : Prop := ∀ p n, e.extent? = some (p, n) → p.buf = .pcm → w ≤ p.off
/-- a pointer into the caller's buffer points at or above `w` -/
def Above (w : Int) (p : Ptr) : Prop := p.buf = .pcm → w ≤ p.off

structure WM (w : Int) (l : List Ev) : Prop where
  sep : gainSep l = true
  below : ∀ g ∈ l, notGain g = false → ∃ p n, g.extent? = some (p, n) ∧ p.buf = .pcm ∧ p.off + n ≤ w

theorem WM.nil (w : Int) : WM w [] := ⟨rfl, fun _ h => by cases h⟩

theorem WM.mono {w w' : Int} {l : List Ev} (h : WM w l) (hw : w ≤ w') : WM w' l :=
  ⟨h.sep, fun g hg hn => by obtain ⟨p, n, a, b, c⟩ := h.below g hg hn; exact ⟨p, n, a, b, by omega⟩⟩

theorem disjoint_of_below {w : Int} {e g : Ev} (he : aboveEv w e)
    (hg : ∃ p n, g.extent? = some (p, n) ∧ p.buf = .pcm ∧ p.off + n ≤ w) : disjointEv e g = true := by
  obtain ⟨q, m, hq, hqb, hqw⟩ := hg
  unfold disjointEv
  cases hx : e.extent? with
  | none => rfl
  | some pn =>
    obtain ⟨p, n⟩ := pn
    rw [hq]
    simp only [Bool.or_eq_true, decide_eq_true_eq]
    by_cases hb : p.buf = q.buf
    · have := he p n hx (hb.trans hqb)
      right; omega
    · left; left; exact hb

/-- How the invariant takes one more event: the event lies at or above the watermark, hence clear of every gain pass
    logged so far; if it is itself a gain pass it is in the caller's buffer and ends below the new watermark. -/
theorem WM.cons {w w' : Int} {l : List Ev} (h : WM w l) {e : Ev} (ha : aboveEv w e) (hw : w ≤ w')
    (he : notGain e = true ∨ ∃ p n, e.extent? = some (p, n) ∧ p.buf = .pcm ∧ p.off + n ≤ w') : WM w' (e :: l) := by
  refine ⟨?_, fun g hg hgn => ?_⟩
  · simp only [gainSep, Bool.and_eq_true, Bool.or_eq_true, List.all_eq_true]
    refine ⟨⟨h.sep, he.imp_right fun ⟨p, n, hx, hb, _⟩ => by simp [onPcm, hx, hb]⟩, fun g hg => ?_⟩
    cases hgn : notGain g with
    | true => exact Or.inl rfl
    | false => exact Or.inr (disjoint_of_below ha (h.below g hg hgn))
  · rcases List.mem_cons.mp hg with rfl | hg
    · exact he.resolve_left (by rw [hgn]; decide)
    · exact (h.mono hw).below g hg hgn

theorem aboveEv_ptr {w : Int} {e : Ev} {p : Ptr} {n : Int} (h : Above w p) (he : e.extent? = some (p, n)) : aboveEv w e := by
  intro p' n' hx hb
  rw [he] at hx; cases hx
  exact h hb
theorem aboveEv_none {w : Int} {e : Ev} (h : e.extent? = none) : aboveEv w e := by
  intro p n hx; rw [h] at hx; cases hx

theorem Above.add {w : Int} {p : Ptr} (h : Above w p) {n : Int} (hn : 0 ≤ n) : Above w (p.add n) := by
  intro hb; have := h hb; show w ≤ p.off + n; omega
theorem Above.scratch {w : Int} {p : Ptr} (h : p.buf ≠ .pcm) : Above w p := fun hb => absurd hb h

theorem redBuf_scratch (st : DecState) (red : Red) : (redBuf st red).buf ≠ .pcm := by simp [redBuf]
theorem transBuf_scratch (st : DecState) : (transBuf st).buf ≠ .pcm := by simp [transBuf]
theorem silkBuf_scratch (st : DecState) : (silkBuf st).buf ≠ .pcm := by simp [silkBuf]

/-- `silkConfig` writes nothing but the decoder control. -/
theorem silkConfig_dc (st : DecState) (b : Body) :
    silkConfig st b = (silkConfig st b).map (fun s => { st with dc := s.dc }) := by
  fun_cases silkConfig st b <;> rfl

theorem silkConfig_cfg {st st3 : DecState} {b : Body} (h : silkConfig st b = some st3) :
    st3.channels = st.channels ∧ st3.Fs = st.Fs ∧ st3.frame_size = st.frame_size ∧ st3.decode_gain = st.decode_gain := by
  have e := silkConfig_dc st b
  rw [h] at e
  rw [Option.some.inj e]
  exact ⟨rfl, rfl, rfl, rfl⟩

theorem redFinish_run (a b c e f : Int) (r : Run) : (redFinish a b c e f r).2 = r := by
  unfold redFinish; split <;> rfl

theorem Ptr.add_add (p : Ptr) (a b : Int) : (p.add a).add b = p.add (a + b) := by
  simp only [Ptr.add, Int.add_assoc]

/-- What `opus_decode_frame` leaves alone. -/
structure Ctx where
  ch : Int
  fs : Int
  fsz : Int
  g : Int

/-- 2.5 ms at rate `fs` -/
def f25 (fs : Int) : Int := fs / 50 / 2 / 2 / 2

/-- The run invariant: configuration `c`, log separated at watermark `w`. -/
structure At (c : Ctx) (w : Int) (r : Run) : Prop where
  ch : r.st.channels = c.ch
  fs : r.st.Fs = c.fs
  fsz : r.st.frame_size = c.fsz
  g : r.st.decode_gain = c.g
  wm : WM w r.log

section
variable {c : Ctx} {w : Int} {r : Run}

theorem At.push (h : At c w r) {e : Ev} (hn : notGain e = true) (ha : aboveEv w e) : At c w (r.push e) :=
  ⟨h.ch, h.fs, h.fsz, h.g, h.wm.cons ha (Int.le_refl _) (.inl hn)⟩
theorem At.tick (h : At c w r) : At c w r.tick := ⟨h.ch, h.fs, h.fsz, h.g, h.wm⟩
theorem At.unit (h : At c w r) : F2_5 r.st = f25 c.fs := by unfold F2_5 F5 F10 F20 f25; rw [h.fs]

theorem celtCall_at (o : Oracle) (a : CeltArgs) {p : Ptr} (hp : Above w p) (h : At c w r) : At c w (celtCall o a p r).2 :=
  h.tick.push rfl (aboveEv_ptr hp rfl)

theorem stepRedC2S_at (o : Oracle) (b : Body) (red : Red) (h : At c w r) : At c w (stepRedC2S o b red r) := by
  unfold stepRedC2S
  split
  · exact celtCall_at o _ (Above.scratch (redBuf_scratch _ _)) h
  · exact h

theorem stepMainCelt_at (o : Oracle) (b : Body) (red : Red) (hp : Above w b.pcm) (h : At c w r) :
    At c w (stepMainCelt o b red r).2 := by
  unfold stepMainCelt
  dsimp only
  split
  · exact celtCall_at o _ hp h
  · split
    · exact celtCall_at o _ hp h
    · exact h

theorem stepRedS2C_at (o : Oracle) (b : Body) (red : Red) (hp : Above w b.pcm) (h0 : 0 ≤ c.ch)
    (hn : red.redundancy ≠ 0 → f25 c.fs ≤ b.audiosize) (h : At c w r) : At c w (stepRedS2C o b red r) := by
  unfold stepRedS2C
  dsimp only
  split
  · rename_i hr
    refine ((celtCall_at o _ (Above.scratch (redBuf_scratch _ _)) h).push rfl
      (aboveEv_ptr (hp.add ?_) rfl)).push rfl (aboveEv_ptr (Above.scratch ?_) rfl)
    · rw [h.ch, h.unit]; exact Int.mul_nonneg h0 (by have := hn hr.1; omega)
    · simp [Ptr.add, redBuf]
  · exact h

theorem stepRedCopy_at (b : Body) (red : Red) (hp : Above w b.pcm) (h : At c w r) : At c w (stepRedCopy b red r) := by
  unfold stepRedCopy
  dsimp only
  split
  · exact (h.push rfl (aboveEv_ptr (Above.scratch (redBuf_scratch _ _)) rfl)).push rfl (aboveEv_ptr hp rfl)
  · exact h

theorem stepTransFade_at (b : Body) (tr : Bool) (hp : Above w b.pcm) (h : At c w r) : At c w (stepTransFade b tr r) := by
  unfold stepTransFade
  dsimp only
  split
  · split
    · exact (h.push rfl (aboveEv_ptr (Above.scratch (transBuf_scratch _)) rfl)).push rfl (aboveEv_ptr hp rfl)
    · exact (h.push rfl (aboveEv_ptr (Above.scratch (transBuf_scratch _)) rfl)).push rfl (aboveEv_ptr hp rfl)
  · exact h

/-- What a frame-level call with buffer pointer `p` needs of the configuration and the watermark; nothing of the run. -/
structure SepPre (c : Ctx) (w : Int) (p : Ptr) : Prop where
  above : Above w p
  gain : p.buf = .pcm ∨ c.g = 0
  ch0 : 0 ≤ c.ch
  fsz : f25 c.fs ≤ c.fsz

theorem SepPre.at {w' : Int} {p q : Ptr} (h : SepPre c w p) (hb : q.buf = p.buf) (ha : q.buf = .pcm → w' ≤ q.off) :
    SepPre c w' q := ⟨ha, h.gain.imp_left hb.trans, h.ch0, h.fsz⟩

/-- the next frame of a loop: `ret ≥ 0` samples further on, from a watermark that the frame before has moved at most there -/
theorem SepPre.next {w1 : Int} {p : Ptr} {ret : Int} (h : SepPre c w p) (hret : 0 ≤ ret)
    (h1 : w1 ≤ max w (p.off + ret * c.ch)) : SepPre c w1 (p.add (ret * c.ch)) :=
  h.at rfl fun hb => by
    have := h.above hb; have := Int.mul_nonneg hret h.ch0
    show w1 ≤ p.off + ret * c.ch; omega

/-- From a run at `(c, w)` the call leaves a run at `(c, w')`, `w' ≥ w`; `w' = w` if the gain is 0, `w' ≤ max w (top v)` if
    it returns `v ≥ 0`, which then satisfies `Q`.  A frame at `p` has `top v = p.off + v·ch` (`FP`); a loop that fills up to `B` has
    `top _ = B`. -/
def Post (c : Ctx) (w : Int) (top : Int → Int) (Q : Int → Prop) (r : Run) (res : Res') : Prop :=
  At c w r → (∀ v, res.1 = .ret v → 0 ≤ v → Q v) ∧
    ∃ w', w ≤ w' ∧ At c w' res.2 ∧ (c.g = 0 → w' = w) ∧ ∀ v, res.1 = .ret v → 0 ≤ v → w' ≤ max w (top v)

abbrev FP (c : Ctx) (w : Int) (p : Ptr) (n : Int) : Run → Res' → Prop := Post c w (fun v => p.off + v * c.ch) (· ≤ n)

section
variable {top : Int → Int} {Q : Int → Prop}

theorem Post.ofAt {res : Res'} (h : At c w r → At c w res.2) (hq : ∀ v, res.1 = .ret v → 0 ≤ v → Q v) : Post c w top Q r res :=
  fun ha => ⟨hq, w, Int.le_refl _, h ha, fun _ => rfl, fun _ _ _ => Int.le_max_left _ _⟩

/-- gain-free steps, nothing claimed of the return value -/
theorem Post.quiet {res : Res'} (h : At c w r → At c w res.2) : Post c w top (fun _ => True) r res := .ofAt h fun _ _ _ => trivial

theorem Post.stop {res : Res'} (h : At c w r → At c w res.2) (hq : ∀ v, res.1 = .ret v → v < 0) : Post c w top Q r res :=
  .ofAt h fun v e e0 => absurd (hq v e) (Int.not_lt.mpr e0)

theorem Post.ite {p : Prop} [Decidable p] {x y : Res'} (hx : p → Post c w top Q r x) (hy : ¬ p → Post c w top Q r y) :
    Post c w top Q r (if p then x else y) := ite_ind (Q := Post c w top Q r) hx hy

theorem Post.mono {top' : Int → Int} {Q' : Int → Prop} {res : Res'} (h : Post c w top Q r res)
    (hm : ∀ v, 0 ≤ v → Q v → Q' v ∧ top v ≤ max w (top' v)) : Post c w top' Q' r res := by
  intro ha
  obtain ⟨hq, w', a, b, c', d⟩ := h ha
  refine ⟨fun v e e0 => (hm v e0 (hq v e e0)).1, w', a, b, c', fun v e e0 => ?_⟩
  have := d v e e0
  have := (hm v e0 (hq v e e0)).2
  omega

theorem Post.toAt {res : Res'} (h : Post c w top Q r res) (hg : c.g = 0) (ha : At c w r) : At c w res.2 := by
  obtain ⟨_, w', _, b, c', _⟩ := h ha; rw [c' hg] at b; exact b

/-- Gain-free steps that leave the invariant where it is (and `P` of their value). -/
def Quiet {α : Type} (c : Ctx) (w : Int) (P : α → Prop) (x : Out α × Run) : Prop := At c w x.2 ∧ ∀ a, x.1 = .ret a → P a

theorem Quiet.ret {α : Type} {P : α → Prop} {a : α} {r1 : Run} (h : At c w r1) (hp : P a) : Quiet c w P (.ret a, r1) :=
  ⟨h, fun _ e => by cases e; exact hp⟩

theorem Quiet.bind {α β : Type} {P : α → Prop} {P' : β → Prop} {x : Out α × Run} {f : α → Run → Out β × Run}
    (hx : Quiet c w P x) (hf : ∀ a r1, P a → At c w r1 → Quiet c w P' (f a r1)) : Quiet c w P' (bindRun x f) := by
  obtain ⟨o, r1⟩ := x
  cases o with
  | ret a => exact hf a r1 (hx.2 a rfl) hx.1
  | abort => exact ⟨hx.1, fun _ e => by cases e⟩
  | hang => exact ⟨hx.1, fun _ e => by cases e⟩

/-- gain-free steps first, then the call -/
theorem Post.seq {α : Type} {P : α → Prop} (x : Out α × Run) (f : α → Run → Res') (hx : At c w r → Quiet c w P x)
    (hf : ∀ a r1, x = (.ret a, r1) → P a → Post c w top Q r1 (f a r1)) : Post c w top Q r (bindRun x f) := by
  intro ha
  obtain ⟨h1, hp⟩ := hx ha
  obtain ⟨o, r1⟩ := x
  cases o with
  | ret a => exact hf a r1 rfl (hp a rfl) h1
  | abort => exact Post.ofAt (fun _ => h1) (fun _ h => by cases h) ha
  | hang => exact Post.ofAt (fun _ => h1) (fun _ h => by cases h) ha

/-- **The sequencing rule.**  The continuation starts from whatever watermark `w1` the first part reached.  `hb`: a
    non-negative result `v` of the whole comes from a non-negative result `a` of the first part whose bound `t1 a` lies
    below the bound of the whole. -/
theorem Post.bind {t1 : Int → Int} {Q1 : Int → Prop} {x : Res'} {f : Int → Run → Res'} (hx : Post c w t1 Q1 r x)
    (hf : ∀ a r1, x = (.ret a, r1) → (0 ≤ a → Q1 a) → ∀ w1, w ≤ w1 → (0 ≤ a → w1 ≤ max w (t1 a)) → Post c w1 top Q r1 (f a r1))
    (hb : ∀ a r1 v, x = (.ret a, r1) → (0 ≤ a → Q1 a) → (f a r1).1 = .ret v → 0 ≤ v → 0 ≤ a ∧ t1 a ≤ max w (top v)) :
    Post c w top Q r (bindRun x f) := by
  intro ha
  obtain ⟨hq, w1, a1, b1, c1, d1⟩ := hx ha
  obtain ⟨o, r1⟩ := x
  cases o with
  | ret a =>
    obtain ⟨hq2, w2, a2, b2, c2, d2⟩ := hf a r1 rfl (hq a rfl) w1 a1 (d1 a rfl) b1
    refine ⟨hq2, w2, Int.le_trans a1 a2, b2, fun h0 => by rw [c2 h0, c1 h0], fun v e e0 => ?_⟩
    obtain ⟨ha0, hle⟩ := hb a r1 v rfl (hq a rfl) e e0
    have := d2 v e e0
    have := d1 a rfl ha0
    omega
  | abort => refine ⟨?_, w1, a1, b1, c1, ?_⟩ <;> (intro _ e; cases e)
  | hang => refine ⟨?_, w1, a1, b1, c1, ?_⟩ <;> (intro _ e; cases e)

end

/-- The gain pass: the one step that moves the watermark, to the end of the frame at most. -/
theorem stepGain_at (b : Body) (hs : SepPre c w b.pcm) (h : At c w r) :
    ∃ w', w ≤ w' ∧ At c w' (stepGain b r) ∧ (c.g = 0 → w' = w) ∧ w' ≤ max w (b.pcm.off + b.audiosize * c.ch) := by
  by_cases hg0 : r.st.decode_gain = 0
  · rw [stepGain_zero b hg0]; exact ⟨w, Int.le_refl _, h, fun _ => rfl, Int.le_max_left _ _⟩
  · have hb := hs.gain.resolve_right (h.g ▸ hg0)
    rw [stepGain_ne b hg0, h.ch]
    exact ⟨_, Int.le_max_left _ _, ⟨h.ch, h.fs, h.fsz, h.g, h.wm.cons (fun _ _ hx _ => by cases hx; exact hs.above hb) (Int.le_max_left _ _)
        (.inr ⟨_, _, rfl, hb, Int.le_max_right _ _⟩)⟩,
      fun h' => absurd (h.g.trans h') hg0, Int.le_refl _⟩

theorem celtStage_FP (o : Oracle) (b : Body) (red : Red) (tr : Bool) (r : Run) (n : Int) (hs : SepPre c w b.pcm)
    (hA : red.redundancy ≠ 0 → f25 c.fs ≤ b.audiosize) (hn : b.audiosize ≤ n) :
    FP c w b.pcm n r (celtStage o b red tr r) := by
  intro h
  have hp := hs.above
  obtain ⟨w', a, h6, c', d⟩ := stepGain_at b hs (stepTransFade_at b tr hp (stepRedCopy_at b red hp
    (stepRedS2C_at o b red hp hs.ch0 hA (stepMainCelt_at o b red hp (stepRedC2S_at o b red h)))))
  have hle : ∀ ret, (celtStage o b red tr r).1 = .ret ret → 0 ≤ ret → ret = b.audiosize := by
    intro ret he h0
    cases he
    split
    · rename_i hm; rw [if_pos hm] at h0; omega
    · rfl
  exact ⟨fun ret he h0 => by rw [hle ret he h0]; exact hn, w', a, ⟨h6.ch, h6.fs, h6.fsz, h6.g, h6.wm⟩, c',
    fun ret he h0 => by rw [hle ret he h0]; exact d⟩

/-- What the frame body needs from the recursive call it makes for a transition: called with gain 0 (on a scratch
    buffer), it keeps the invariant. -/
def TransOK (t : Ptr → Int → Run → Res') : Prop :=
  ∀ (c : Ctx) (w : Int) (p : Ptr) (n : Int) (r : Run), SepPre c w p → c.g = 0 → At c w r → At c w (t p n r).2

theorem gain0Call_at {t : Ptr → Int → Run → Res'} (ht : TransOK t) {p q : Ptr} (n : Int) (hs : SepPre c w p)
    (hq : q.buf ≠ .pcm) (h : At c w r) : At c w (gain0Call t q n r).2 := by
  have hi := ht { c with g := 0 } w q n (r.setSt { r.st with decode_gain := 0 }) ⟨Above.scratch hq, Or.inr rfl, hs.ch0, hs.fsz⟩ rfl ⟨h.ch, h.fs, h.fsz, rfl, h.wm⟩
  exact ⟨hi.ch, hi.fs, hi.fsz, h.g, hi.wm⟩

theorem transCall_at {t : Ptr → Int → Run → Res'} (ht : TransOK t) {p : Ptr} (b : Body) (hs : SepPre c w p) (h : At c w r) :
    Quiet c w (fun _ => True) (transCall t b r) :=
  Quiet.bind (P := fun _ => True) ⟨gain0Call_at ht _ hs (transBuf_scratch r.st) h, fun _ _ => trivial⟩ fun _ _ _ h1 => .ret h1 trivial

/-- the optional transition call in front of a frame -/
theorem transStep_at {t : Ptr → Int → Run → Res'} (ht : TransOK t) {p : Ptr} (b : Body) (q : Prop) [Decidable q]
    (hs : SepPre c w p) (h : At c w r) : Quiet c w (fun _ => True) (if q then transCall t b r else (.ret (), r)) :=
  ite_ind (Q := Quiet c w fun _ => True) (fun _ => transCall_at ht b hs h) fun _ => .ret h trivial

abbrev SilkOut (c : Ctx) (w : Int) := Quiet (α := Int × Int) c w fun et => et.1 = 0 ∨ et.1 = INTERNAL_ERROR

theorem silkStep_at (o : Oracle) (lost fsz decoded : Int) {p : Ptr} (hp : Above w p) (tell : Int) (h : At c w r) :
    At c w (silkStep o lost fsz decoded p tell r).run ∧
    ((silkStep o lost fsz decoded p tell r).err = 0 ∨ (silkStep o lost fsz decoded p tell r).err = INTERNAL_ERROR) := by
  have h1 : ∀ a v n, At c w (r.tick.push (.silk a p v n)) := fun a v n => h.tick.push rfl (aboveEv_ptr hp rfl)
  let P := fun s : SilkStep => At c w s.run ∧ (s.err = 0 ∨ s.err = INTERNAL_ERROR)
  unfold silkStep
  exact ite_ind (Q := P) (fun _ => ⟨h1 _ _ _, Or.inr rfl⟩) (fun _ => ite_ind (Q := P)
    (fun _ => ⟨(h1 _ _ _).push rfl (aboveEv_ptr hp rfl), Or.inl rfl⟩) (fun _ => ⟨h1 _ _ _, Or.inl rfl⟩))

theorem silkLoop_at (o : Oracle) (lost fsz decoded : Int) (p : Ptr) (tell : Int) (r : Run) (hp : Above w p) (hc : 0 ≤ c.ch)
    (h : At c w r) : SilkOut c w (silkLoop o lost fsz decoded p tell r) := by
  fun_induction silkLoop o lost fsz decoded p tell r with
  | case1 decoded p tell r s he =>
    obtain ⟨h1, h2⟩ := silkStep_at o lost fsz decoded hp tell h
    exact .ret h1 (Or.inr (h2.resolve_left he))
  | case2 decoded p tell r s he c1 c2 => exact ⟨(silkStep_at o lost fsz decoded hp tell h).1, fun et e => by cases e⟩
  | case3 decoded p tell r s he c1 c2 ih =>
    exact ih (hp.add (Int.mul_nonneg (by omega) (h.ch ▸ hc))) (silkStep_at o lost fsz decoded hp tell h).1
  | case4 decoded p tell r s he c1 => exact .ret (silkStep_at o lost fsz decoded hp tell h).1 (Or.inl rfl)

theorem silkStage_at (o : Oracle) (b : Body) (r : Run) (hp : Above w b.pcm) (hc : 0 ≤ c.ch) (h : At c w r) :
    SilkOut c w (silkStage o b r) := by
  unfold silkStage
  dsimp only
  have h0 : At c w (if r.st.prev_mode = MODE_CELT then r.push .silkReset else r) := by
    split
    · exact h.push rfl (aboveEv_none rfl)
    · exact h
  cases hcfg : silkConfig r.st b with
  | none => exact ⟨h0, fun et he => by cases he⟩
  | some st3 =>
    dsimp only
    obtain ⟨c1, c2, c3, c4⟩ := silkConfig_cfg hcfg
    have hpp : Above w (if b.audiosize < F10 r.st then silkBuf r.st else b.pcm) := by
      split
      · exact Above.scratch (silkBuf_scratch _)
      · exact hp
    have hs : At c w ((if r.st.prev_mode = MODE_CELT then r.push .silkReset else r).setSt st3) :=
      ⟨c1.trans h.ch, c2.trans h.fs, c3.trans h.fsz, c4.trans h.g, h0.wm⟩
    refine (silkLoop_at o (silkLost b) b.audiosize 0 _ 1 _ hpp hc hs).bind fun et r1 het h1 => ?_
    exact ite_ind (Q := SilkOut c w) (fun _ => .ret h1 het) fun _ => ite_ind (Q := SilkOut c w)
      (fun _ => .ret ((h1.push rfl (aboveEv_ptr (Above.scratch (silkBuf_scratch _)) rfl)).push rfl (aboveEv_ptr hp rfl)) (Or.inl rfl))
      (fun _ => .ret h1 (Or.inl rfl))

theorem redTail_at (o : Oracle) (mode len red tell : Int) (h : At c w r) : At c w (redTail o mode len red tell r).2 := by
  unfold redTail
  split <;> rw [redFinish_run]
  · exact h.tick.tick
  · exact h.tick

theorem redStage_at (o : Oracle) (b : Body) (tell : Int) (h : At c w r) : At c w (redStage o b tell r).2 := by
  unfold redStage parseRedundancy
  let P := fun x : Red × Run => At c w x.2
  exact ite_ind (Q := P) (fun _ => ite_ind (Q := P) (fun _ => ite_ind (Q := P) (fun _ => ite_ind (Q := P)
    (fun _ => redTail_at o _ _ _ _ h.tick) (fun _ => h.tick)) (fun _ => redTail_at o _ _ _ _ h)) (fun _ => h)) (fun _ => h)

theorem redStage_data (o : Oracle) (b : Body) (tell : Int) (r : Run) (h : (redStage o b tell r).1.redundancy ≠ 0) :
    b.data.isSome = true := by
  unfold redStage at h
  split at h
  · rename_i hc; exact hc.2.2
  · exact absurd rfl h

theorem fbTail_FP (o : Oracle) {t : Ptr → Int → Run → Res'} (ht : TransOK t) (b : Body) (tr : Bool) (et : Int × Int)
    (r : Run) (n : Int) (het : et.1 = 0 ∨ et.1 = INTERNAL_ERROR) (hs : SepPre c w b.pcm)
    (hA : b.data.isSome = true → f25 c.fs ≤ b.audiosize) (hn : b.audiosize ≤ n) :
    FP c w b.pcm n r (fbTail o t b tr et r) := by
  unfold fbTail
  refine .ite (fun c0 => .stop id fun v he => ?_) (fun _ => ?_)
  · cases he
    rcases het with h | h
    · exact absurd h c0
    · rw [h]; decide
  · refine .seq _ _ (fun h => transStep_at ht b _ hs (redStage_at o b et.2 h))
      (fun _ r1 _ _ => .ite (fun _ => .ofAt id (fun _ h => by cases h)) (fun _ => ?_))
    exact celtStage_FP o b _ _ r1 n hs (fun hr => hA (redStage_data o b et.2 r hr)) hn

theorem frameBody_FP (o : Oracle) {t : Ptr → Int → Run → Res'} (ht : TransOK t) (b : Body) (r : Run)
    (hs : SepPre c w b.pcm) (hA : b.data.isSome = true → f25 c.fs ≤ b.audiosize) :
    FP c w b.pcm b.frame_size r (frameBody o t b r) := by
  rw [frameBody_eq]
  refine .seq _ _ (fun h => transStep_at ht b _ hs h) (fun _ r1 _ _ => ?_)
  refine .ite (fun _ => .stop id (fun v e => by cases e; decide)) (fun c2 => ?_)
  refine .seq (P := fun et => et.1 = 0 ∨ et.1 = INTERNAL_ERROR) _ _ (fun h1 => ite_ind (Q := SilkOut c w)
    (fun _ => silkStage_at o b r1 hs.above hs.ch0 h1) (fun _ => .ret h1 (Or.inl rfl))) (fun et r2 _ het => ?_)
  exact fbTail_FP o ht b _ et r2 _ het hs hA (by omega)

/-- what the concealment layers need from the layer below -/
def InnerFP (i : Ptr → Int → Run → Res') : Prop :=
  ∀ (c : Ctx) (w : Int) (p : Ptr) (n : Int) (r : Run), SepPre c w p → FP c w p n r (i p n r)

theorem InnerFP.trans {i : Ptr → Int → Run → Res'} (h : InnerFP i) : TransOK i :=
  fun c w p n r hp hg => (h c w p n r hp).toAt hg

/-- The PLC chunk loop: fills `[pcm, pcm + audiosize·ch)` and returns `frame_size`. -/
theorem plcLoop_post {i1 : Ptr → Int → Run → Res'} (hi : InnerFP i1) (f20 frame_size : Int) {audiosize : Int} {pcm : Ptr}
    (hs : SepPre c w pcm) :
    Post c w (fun _ => pcm.off + audiosize * c.ch) (· = frame_size) r (plcLoop i1 f20 c.ch frame_size audiosize pcm r) := by
  generalize hn : audiosize.toNat = n
  induction n using Nat.strongRecOn generalizing w audiosize pcm r with
  | _ n ih =>
    rw [plcLoop_eq]
    refine (hi c w pcm (min audiosize f20) r hs).bind (fun ret r1 e hq w1 _ hw1 => ?_) (fun ret r1 v e hq ev e0 => ?_)
    · refine .ite (fun c0 => .stop id fun v e => by cases e; exact c0) fun c1 =>
        .ite (fun _ => .ofAt id fun _ e => by cases e) fun c2 =>
        .ite (fun c3 => ?_) fun _ => .ofAt id fun v e _ => by cases e; rfl
      have := ih (audiosize - ret).toNat (by omega) (hs.next (by omega) (hw1 (by omega))) (r := r1) rfl
      refine this.mono fun v _ hv => ⟨hv, ?_⟩
      show pcm.off + ret * c.ch + (audiosize - ret) * c.ch ≤ _
      rw [Int.sub_mul]; have := Int.le_max_right w1 (pcm.off + audiosize * c.ch); omega
    · have h0 : ¬ ret < 0 := fun c0 => by rw [if_pos c0] at ev; cases ev; omega
      have hle : ret ≤ audiosize := Int.le_trans (hq (by omega)) (Int.min_le_left _ _)
      have := Int.mul_le_mul_of_nonneg_right hle hs.ch0
      exact ⟨by omega, by have := Int.le_max_right w (pcm.off + audiosize * c.ch); omega⟩


theorem abortStub_TransOK : TransOK (fun _ _ r => (Out.abort, r)) := fun _ _ _ _ _ _ _ h => h
theorem abortStub_InnerFP : InnerFP (fun _ _ r => (Out.abort, r)) := fun _ _ _ _ _ _ => .ofAt id (fun _ h => by cases h)

theorem nullAfterClamp_FP (o : Oracle) {i1 : Ptr → Int → Run → Res'} (hi : InnerFP i1) (len : Int) {pcm : Ptr}
    (frame_size : Int) (hs : SepPre c w pcm) : FP c w pcm frame_size r (nullAfterClamp o i1 len pcm frame_size r) := by
  by_cases c0 : plcMode r.st = 0
  · rw [nullAfterClamp_noHistory _ _ _ _ _ r c0]
    exact .ofAt (fun h => h.push rfl (aboveEv_ptr hs.above rfl)) (fun ret h _ => by cases h; exact Int.le_refl _)
  · by_cases c1 : frame_size > F20 r.st
    · intro h
      rw [nullAfterClamp_loop _ _ _ _ _ r c0 c1, h.ch]
      exact (plcLoop_post hi (F20 r.st) frame_size hs).mono (fun v _ hv => ⟨Int.le_of_eq hv, hv ▸ Int.le_max_right _ _⟩) h
    · rw [nullAfterClamp_frame _ _ _ _ _ r c0 c1]
      exact frameBody_FP o abortStub_TransOK (plcBody len pcm frame_size r.st) r hs (fun h => by cases h)

theorem nullFrameGen_FP (o : Oracle) {i1 : Ptr → Int → Run → Res'} (hi : InnerFP i1) : InnerFP (nullFrameGen o i1) := by
  intro c w pcm n r hs
  unfold nullFrameGen
  dsimp only
  exact .ite (fun _ => .stop id (fun v e => by cases e; decide))
    fun _ => (nullAfterClamp_FP o hi 0 _ hs).mono fun v _ hv => ⟨by omega, Int.le_max_right _ _⟩

theorem nullFrameLeaf_FP (o : Oracle) : InnerFP (nullFrameLeaf o) := nullFrameGen_FP o abortStub_InnerFP
theorem nullFrame_FP (o : Oracle) : InnerFP (nullFrame o) := nullFrameGen_FP o (nullFrameLeaf_FP o)

/-- **One `opus_decode_frame` call.** -/
theorem decodeFrame_FP (o : Oracle) (data : Option Int) (len : Int) {pcm : Ptr} (frame_size fec : Int)
    (hs : SepPre c w pcm) : FP c w pcm frame_size r (decodeFrame o data len pcm frame_size fec r) := by
  unfold decodeFrame
  dsimp only
  exact .ite (fun _ => .stop id (fun v e => by cases e; decide))
    fun _ => .ite
      (fun _ => (nullAfterClamp_FP o (nullFrameLeaf_FP o) len _ hs).mono fun v _ hv => ⟨by omega, Int.le_max_right _ _⟩)
      (fun _ h => ((frameBody_FP o (nullFrame_FP o).trans
          { data := data, len := len, pcm := pcm, frame_size := min frame_size (r.st.Fs / 25 * 3),
            audiosize := r.st.frame_size, mode := r.st.mode, bandwidth := r.st.bandwidth, fec := fec }
          (r.push (.decInit (data.getD 0) len)) hs (fun _ => by show _ ≤ r.st.frame_size; rw [h.fsz]; exact hs.fsz)).mono
            fun v _ hv => ⟨Int.le_trans hv (Int.min_le_left _ _), Int.le_max_right _ _⟩) (h.push rfl (aboveEv_none rfl)))

/-- The concealment loop of `opus_decode_native` with `pc` samples per channel done: fills up to `pcm + frame_size·ch`. -/
theorem nativePlcLoop_post (o : Oracle) (frame_size : Int) (pcm : Ptr) {pc : Int}
    (hs : SepPre c w (pcm.add (pc * c.ch))) (hpc : 0 ≤ pc) :
    Post c w (fun _ => pcm.off + frame_size * c.ch) (fun _ => True) r (nativePlcLoop o frame_size pcm pc r) := by
  generalize hn : (frame_size - pc).toNat = n
  induction n using Nat.strongRecOn generalizing w pc r with
  | _ n ih =>
    intro h
    rw [nativePlcLoop_eq, h.ch]
    refine (decodeFrame_FP o none 0 (frame_size - pc) 0 hs).bind (fun ret r1 e _ w1 _ hw1 => ?_) (fun ret r1 v e _ ev e0 => ?_) h
    · refine .ite (fun c0 => .stop id fun v e => by cases e; exact c0) fun c1 =>
        .ite (fun _ => .quiet id) fun c2 => .ite (fun c3 => ?_) fun _ =>
        .ite (fun _ => .quiet id) fun _ => .quiet fun h1 => ⟨h1.ch, h1.fs, h1.fsz, h1.g, h1.wm⟩
      have hnext := hs.next (ret := ret) (by omega) (hw1 (by omega))
      rw [Ptr.add_add, ← Int.add_mul] at hnext
      exact ih (frame_size - (pc + ret)).toNat (by omega) hnext (by omega) rfl
    · have h0 : ¬ ret < 0 := fun c0 => by rw [if_pos c0] at ev; cases ev; omega
      have hle : pc + ret ≤ frame_size := Decidable.byContradiction fun hgt => by
        rw [if_neg h0] at ev
        split at ev
        · cases ev
        · rw [if_neg (by omega), if_pos (by omega)] at ev; cases ev
      have := Int.mul_le_mul_of_nonneg_right hle hs.ch0
      rw [Int.add_mul] at this
      refine ⟨by omega, ?_⟩
      show pcm.off + pc * c.ch + ret * c.ch ≤ max w (pcm.off + frame_size * c.ch)
      omega

theorem SepPre.start {pcm : Ptr} (hs : SepPre c w pcm) : SepPre c w (pcm.add (0 * c.ch)) :=
  hs.at rfl fun hb => by have := hs.above hb; show w ≤ pcm.off + 0 * c.ch; omega

theorem nativePlc_post (o : Oracle) {pcm : Ptr} (frame_size : Int) (hs : SepPre c w pcm) :
    Post c w (fun _ => pcm.off + frame_size * c.ch) (fun _ => True) r (nativePlc o pcm frame_size r) := by
  unfold nativePlc
  exact .ite (fun _ => .quiet id) fun _ => .ite (fun _ => .quiet id) fun _ => nativePlcLoop_post o frame_size pcm hs.start (Int.le_refl _)

theorem fecGap_post (o : Oracle) {pcm : Ptr} (gap : Int) (hs : SepPre c w pcm) :
    Post c w (fun _ => pcm.off + gap * c.ch) (fun _ => True) r (fecGap o pcm gap r) := by
  rw [fecGap_eq]
  refine .ite (fun _ => ?_) (fun _ => .quiet id)
  refine (nativePlc_post o gap hs).bind
    (fun ret r1 _ _ w1 _ _ => .ite (fun _ => .quiet fun h1 => ⟨h1.ch, h1.fs, h1.fsz, h1.g, h1.wm⟩) fun _ =>
      .ite (fun _ => .quiet id) fun _ => .quiet id)
    (fun ret r1 v _ _ e e0 => ⟨?_, Int.le_max_right _ _⟩)
  split at e
  · cases e; omega
  · split at e
    · cases e
    · omega

/-- The per-frame loop with `nb` samples per channel done. -/
theorem frameLoop_post (o : Oracle) (pcm : Ptr) (frame_size pfs : Int) :
    ∀ (sizes : List Nat) {w : Int} (off : Int) {nb : Int} {r : Run}, SepPre c w (pcm.add (nb * c.ch)) → 0 ≤ nb →
      Post c w (fun _ => pcm.off + frame_size * c.ch) (fun _ => True) r (frameLoop o pcm frame_size pfs sizes off nb r)
  | [], _, _, _, _, _, _ => .quiet id
  | sz :: rest, w, off, nb, r, hs, hnb => by
    intro h
    rw [frameLoop_cons, h.ch]
    refine (decodeFrame_FP o (some off) sz (frame_size - nb) 0 hs).bind (fun ret r1 e _ w1 _ hw1 => ?_) (fun ret r1 v e hq ev e0 => ?_) h
    · refine .ite (fun c0 => .stop id fun v e => by cases e; exact c0) fun c1 => .ite (fun _ => .quiet id) fun _ => ?_
      have hnext := hs.next (ret := ret) (by omega) (hw1 (by omega))
      rw [Ptr.add_add, ← Int.add_mul] at hnext
      exact frameLoop_post o pcm frame_size pfs rest (off + sz) hnext (by omega)
    · have h0 : ¬ ret < 0 := fun c0 => by rw [if_pos c0] at ev; cases ev; omega
      have := Int.mul_le_mul_of_nonneg_right (hq (by omega)) hs.ch0
      rw [Int.sub_mul] at this
      refine ⟨by omega, ?_⟩
      show pcm.off + nb * c.ch + ret * c.ch ≤ max w (pcm.off + frame_size * c.ch)
      omega

/-- what `setToc` leaves alone, read off the definition (the walk changes its context to `{ c with fsz := pfs }` there) -/
theorem setToc_cfg (r : Run) (pm pb pfs pc : Int) :
    (r.setSt (setToc r.st pm pb pfs pc)).st.channels = r.st.channels ∧ (r.setSt (setToc r.st pm pb pfs pc)).st.Fs = r.st.Fs ∧
    (r.setSt (setToc r.st pm pb pfs pc)).st.decode_gain = r.st.decode_gain ∧
    (r.setSt (setToc r.st pm pb pfs pc)).st.frame_size = pfs ∧ (r.setSt (setToc r.st pm pb pfs pc)).log = r.log :=
  ⟨rfl, rfl, rfl, rfl, rfl⟩

/-- Result of a whole call: `opus_decode_native` stores the packet's frame size between the steps (`setToc`), so the
    configuration changes (`{ c with fsz := pfs }`) and only the separation of the log is claimed of the whole. -/
def Sep (c : Ctx) (w : Int) (r : Run) (res : Res') : Prop := At c w r → ∃ w', WM w' res.2.log

theorem Post.sep {top : Int → Int} {Q : Int → Prop} {res : Res'} (h : Post c w top Q r res) : Sep c w r res :=
  fun ha => by obtain ⟨_, w', _, b, _⟩ := h ha; exact ⟨w', b.wm⟩

theorem Sep.bind {t1 : Int → Int} {Q1 : Int → Prop} {x : Res'} {f : Int → Run → Res'} (hx : Post c w t1 Q1 r x)
    (hf : ∀ a r1, x = (.ret a, r1) → ∀ w1, (0 ≤ a → w1 ≤ max w (t1 a)) → At c w1 r1 → ∃ w', WM w' (f a r1).2.log) :
    Sep c w r (bindRun x f) := by
  intro ha
  obtain ⟨_, w1, _, b1, _, d1⟩ := hx ha
  obtain ⟨o, r1⟩ := x
  cases o with
  | ret a => exact hf a r1 rfl w1 (d1 a rfl) b1
  | abort => exact ⟨w1, b1.wm⟩
  | hang => exact ⟨w1, b1.wm⟩

theorem nativeFec_sep (o : Oracle) {pcm : Ptr} (frame_size pfs pm pb pc off0 sz0 : Int) (hs : SepPre c w pcm)
    (hpfs : f25 c.fs ≤ pfs) : Sep c w r (nativeFec o pcm frame_size pfs pm pb pc off0 sz0 r) := by
  rw [nativeFec_eq]
  refine ite_ind (Q := Sep c w r) (fun _ => (nativePlc_post o frame_size hs).sep) fun c0 => ?_
  intro h
  rw [h.ch]
  refine Sep.bind (fecGap_post o (frame_size - pfs) hs) (fun v r1 _ w1 hw1 h1 =>
    ite_ind (Q := fun x : Res' => ∃ w', WM w' x.2.log) (fun _ => ⟨w1, h1.wm⟩) fun c1 => ?_) h
  have hs2 : SepPre { c with fsz := pfs } w1 (pcm.add (c.ch * (frame_size - pfs))) := ⟨fun hb => ?_, hs.gain, hs.ch0, hpfs⟩
  · exact Sep.bind (decodeFrame_FP o (some off0) sz0 pfs 1 hs2) (fun ret r3 _ w2 _ h3 =>
      ite_ind (Q := fun x : Res' => ∃ w', WM w' x.2.log) (fun _ => ⟨w2, h3.wm⟩) fun _ => ⟨w2, h3.wm⟩)
      ⟨h1.ch, h1.fs, rfl, h1.g, h1.wm⟩
  · have := hw1 (by omega); have := hs.above hb
    have := Int.mul_nonneg hs.ch0 (show 0 ≤ frame_size - pfs by omega)
    show w1 ≤ pcm.off + c.ch * (frame_size - pfs)
    rw [Int.mul_comm] at this; rw [Int.mul_comm]; omega

theorem nativeFrames_sep (o : Oracle) {pcm : Ptr} (frame_size pfs pm pb pc : Int) (sizes : List Nat) (off0 : Int)
    (hs : SepPre c w pcm) (hpfs : f25 c.fs ≤ pfs) :
    Sep c w r (nativeFrames o pcm frame_size pfs pm pb pc sizes off0 false r) := by
  rw [nativeFrames_eq]
  intro h
  exact Sep.bind (frameLoop_post (c := { c with fsz := pfs }) o pcm frame_size pfs sizes off0
      (SepPre.start ⟨hs.above, hs.gain, hs.ch0, hpfs⟩) (Int.le_refl _))
    (fun nb r2 _ w1 _ h2 => ite_ind (Q := fun x : Res' => ∃ w', WM w' x.2.log) (fun _ => ⟨w1, h2.wm⟩) fun _ => ⟨w1, h2.wm⟩)
    ⟨h.ch, h.fs, rfl, h.g, h.wm⟩

end

theorem samplesPerFrame_ge (toc fs : Nat) : fs / 400 ≤ Framing.samplesPerFrame toc fs := by
  have hpow : ∀ a : Nat, fs ≤ fs * 2 ^ a := fun a => Nat.le_mul_of_pos_right fs (Nat.pow_pos (by decide))
  unfold Framing.samplesPerFrame
  split
  · exact Nat.div_le_div_right (hpow _)
  · split
    · split <;> omega
    · dsimp only
      split
      · omega
      · have := Nat.div_le_div_right (c := 100) (hpow (toc / 8 % 4)); omega

theorem F2_5_le_pfs (st : DecState) (hfs : FsOk st.Fs) (toc : Nat) : F2_5 st ≤ (Framing.samplesPerFrame toc st.Fs.toNat : Int) := by
  obtain ⟨u, hu⟩ := units_of_fs hfs
  have h := Int.ofNat_le.mpr (samplesPerFrame_ge toc st.Fs.toNat)
  have := hu.fs
  have := hu.pos
  rw [hu.f25]; omega

/-- **`opus_decode_native` without soft clip** (`soft_clip = 0`: the float and 24-bit APIs, and the per-stream calls of
    `opus_multistream_decode24` / `_float`; `opus_multistream_decode` passes `OPTIONAL_CLIP`, which is 1 in the float
    build, src/opus_multistream_decoder.c:392, :405): the event log of the call satisfies `gainSep`. -/
theorem decodeNative_gainSep (o : Oracle) (data : Option Bytes) (len : Int) (pcm : Ptr) (frame_size fec : Int) (sd : Bool) (r : Run)
    (hlog : r.log = []) (hbuf : pcm.buf = .pcm) (hfs : FsOk r.st.Fs) (hc : 0 ≤ r.st.channels)
    (hJ : F2_5 r.st ≤ r.st.frame_size) :
    gainSep (decodeNative o data len pcm frame_size fec sd false r).run.log = true := by
  let c0 : Ctx := ⟨r.st.channels, r.st.Fs, r.st.frame_size, r.st.decode_gain⟩
  have h : At c0 pcm.off r := ⟨rfl, rfl, rfl, rfl, hlog ▸ WM.nil _⟩
  have hs : SepPre c0 pcm.off pcm := ⟨fun _ => Int.le_refl _, Or.inl hbuf, hc, hJ⟩
  have key : ∀ (x : Res') (po : Int), Sep c0 pcm.off r x → gainSep (NativeOut.mk' x po).run.log = true := by
    intro x po hx; obtain ⟨w', b⟩ := hx h; exact b.sep
  fun_cases decodeNative o data len pcm frame_size fec sd false r
  case case4 => exact key _ _ (nativePlcLoop_post o frame_size pcm hs.start (Int.le_refl _)).sep
  case case9 => exact key _ _ (nativeFec_sep o frame_size _ _ _ _ _ _ hs (F2_5_le_pfs r.st hfs _))
  case case11 => exact key _ _ (nativeFrames_sep o frame_size _ _ _ _ _ _ hs (F2_5_le_pfs r.st hfs _))
  -- every other path returns early and leaves the run as it was
  all_goals exact key _ _ fun ha => ⟨_, ha.wm⟩

theorem DecInv.sepHyps {st : DecState} (h : DecInv st) : 0 ≤ st.channels ∧ F2_5 st ≤ st.frame_size := by
  obtain ⟨u, hu⟩ := units_of_fs h.fs
  have := tocOk_pfs h.toc hu.u400
  have := hu.pos
  exact ⟨h.ch_nonneg, by rw [hu.f25]; omega⟩

/-- calls that do not run the soft clipper: everything except `opus_decode` (int16) and raw native calls with `soft_clip` -/
def noClip : Call → Bool
  | .decode .i16 _ _ _ _ => false
  | .native _ _ _ _ _ sc => !sc
  | _ => true

theorem apiTail_gainSep (o : Oracle) (data : Option Bytes) (len fec : Int) (cl : Option Int) (st : DecState) (hinv : DecInv st) :
    gainSep (apiTail o false data len fec cl { st, k := 0, log := [] }).run.log = true := by
  cases cl with
  | none => rfl
  | some fsz =>
    unfold apiTail
    dsimp only
    split
    · rfl
    · exact decodeNative_gainSep o data len _ fsz fec false _ rfl rfl hinv.fs hinv.sepHyps.1 hinv.sepHyps.2

/-- **Every call of a history that does not soft-clip logs a separated event log.** -/
theorem callObs_gainSep (o : Oracle) (st : DecState) (hinv : DecInv st) (c : Call) (hc : noClip c = true) :
    gainSep (callObs o st c).1.log = true := by
  cases c with
  | decode fmt data len fsz fec =>
    show gainSep (decodeApi o fmt data len fsz fec { st, k := 0, log := [] }).run.log = true
    rw [decodeApi_eq]
    split
    · rfl
    · cases fmt with
      | i16 => cases hc
      | i24 => exact apiTail_gainSep o data len fec _ st hinv
      | f32 => exact decodeNative_gainSep o data len _ fsz fec false _ rfl rfl hinv.fs hinv.sepHyps.1 hinv.sepHyps.2
  | native data len fsz fec sd sc =>
    cases sc with
    | true => cases hc
    | false => exact decodeNative_gainSep o data len _ fsz fec sd _ rfl rfl hinv.fs hinv.sepHyps.1 hinv.sepHyps.2
  | reset => rfl
  | gain v => rfl

/-- the gain-0 twin of a history differs from it in its OPUS_SET_GAIN calls only -/
theorem gzCall_noGain (c : Call) (h : ∀ v, c ≠ .gain v) : gzCall c = c := by
  cases c with
  | gain v => exact absurd rfl (h v)
  | _ => rfl

end Opus.DecSkel
