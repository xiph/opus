import OpusModel.SilkPlcGlue
import OpusProofs.SilkParamsFix
/-
  OpusProofs.SilkPlcGlue — silk_PLC_glue_frames (silk/PLC.c:433-493) on the value model `OpusModel.SilkPlcGlue`:
  the fade-in ramp keeps every sample an `opus_int16`, never amplifies and never
  flips a sign WHILE its Q16 gain is in [0, 1.0], and the gain ramps up monotonically (slope ≥ 0) in that case.
  That the start gain IS ≤ 1.0 is false for the code (see `glue_gain_above_one_counterexample` in OpusProps/C09SilkPlc.lean).
-/
namespace Opus.SilkPlc
open Opus Opus.SilkParams

/-- `opus_int16` range. -/
def I16 (x : Int) : Prop := -32768 ≤ x ∧ x ≤ 32767

/-- "not amplified, sign kept": `y` lies between 0 and `x`. -/
def Damped (x y : Int) : Prop := (0 ≤ x → 0 ≤ y ∧ y ≤ x) ∧ (x ≤ 0 → x ≤ y ∧ y ≤ 0)

theorem damped_refl (x : Int) : Damped x x := ⟨fun h => ⟨h, Int.le_refl _⟩, fun h => ⟨Int.le_refl _, h⟩⟩

/-- Sample-by-sample `Damped` (same length). -/
inductive AllDamped : List Int → List Int → Prop
  | nil : AllDamped [] []
  | cons {x y : Int} {xs ys : List Int} : Damped x y → AllDamped xs ys → AllDamped (x :: xs) (y :: ys)

theorem allDamped_refl : ∀ xs : List Int, AllDamped xs xs
  | [] => .nil
  | x :: xs => .cons (damped_refl x) (allDamped_refl xs)

theorem AllDamped.get {xs ys : List Int} (h : AllDamped xs ys) :
    xs.length = ys.length ∧ ∀ i, Damped (xs.getD i 0) (ys.getD i 0) := by
  induction h with
  | nil => exact ⟨rfl, fun i => by simp [Damped]⟩
  | cons hd _ ih =>
    refine ⟨by simp [ih.1], fun i => ?_⟩
    cases i with
    | zero => simpa using hd
    | succ i => simpa using ih.2 i

theorem glue_lost_keeps_frame (s : GlueSt) (frame : List Int) (h0 : s.lossCnt ≠ 0) :
    (glueFrames s frame).1 = frame ∧ (glueFrames s frame).2.lastFrameLost = 1 := by
  simp [glueFrames, h0]

theorem glue_received_clears_flag (s : GlueSt) (frame : List Int) (h0 : s.lossCnt = 0) :
    (glueFrames s frame).2.lastFrameLost = 0 := by
  unfold glueFrames
  simp only [h0, ne_eq, not_true_eq_false, ↓reduceIte]
  split
  · split <;> rfl
  · rfl

theorem glueRamp_length (slope : Int) : ∀ (xs : List Int) (g : Int), (glueRamp slope xs g).length = xs.length
  | [], _ => rfl
  | x :: xs, g => by
    unfold glueRamp
    split
    · simp
    · simp [glueRamp_length slope xs]

theorem glueRamp_int16 (slope : Int) : ∀ (xs : List Int) (g : Int), (∀ x ∈ xs, I16 x) →
    ∀ y ∈ glueRamp slope xs g, I16 y
  | [], _, _ => by simp [glueRamp]
  | x :: xs, g, h => by
    have ht := (List.forall_mem_cons.mp h).2
    unfold glueRamp
    split
    · exact List.forall_mem_cons.mpr ⟨wrap16_I16 _, ht⟩
    · exact List.forall_mem_cons.mpr ⟨wrap16_I16 _, glueRamp_int16 slope xs _ ht⟩

/-- One faded sample: with a Q16 gain in [0, 1.0] the `opus_int16` store does not wrap and the sample is damped. -/
theorem glue_sample_damped (g x : Int) (hg : 0 ≤ g ∧ g ≤ 65536) (hx : I16 x) :
    Damped x (wrap16 (smulwb g x)) := by
  have hb := mulshift16_between g x hg.1 hg.2
  have hx' := hx
  unfold I16 at hx'
  rw [smulwb_eq hx (by unfold I32; omega), wrap16_id (by unfold SilkParams.I16; omega)]
  unfold Damped
  constructor <;> intro _ <;> omega

/-- The ramp PLC.c:481-487 started from a gain in [0, 1.0] with a non-negative slope: every sample is damped
    (never amplified, sign kept); the gains it applies are `g, g+slope, g+2·slope, …` (non-decreasing), all ≤ 1.0. -/
theorem glueRamp_damped (slope : Int) (hs : 0 ≤ slope) : ∀ (xs : List Int) (g : Int), 0 ≤ g ∧ g ≤ 65536 →
    (∀ x ∈ xs, I16 x) → AllDamped xs (glueRamp slope xs g)
  | [], _, _, _ => by unfold glueRamp; exact .nil
  | x :: xs, g, hg, h => by
    have hx := glue_sample_damped g x hg (h x (List.mem_cons_self))
    unfold glueRamp
    split
    · exact .cons hx (allDamped_refl xs)
    · exact .cons hx (glueRamp_damped slope hs xs (g + slope) ⟨by omega, by omega⟩
        (fun z hz => h z (List.mem_cons_of_mem _ hz)))

/-- `slope_Q16` (PLC.c:474-476) is non-negative — the gain ramps UP — whenever the start gain is in [0, 1.0]. -/
theorem glueGain_slope_nonneg (concE e length : Int) (hl : 0 < length)
    (hg : 0 ≤ (glueGain concE e length).1 ∧ (glueGain concE e length).1 ≤ 65536) :
    0 ≤ (glueGain concE e length).2.1 := by
  unfold glueGain at hg ⊢
  simp only at hg ⊢
  generalize lshift32 (sqrtApprox _) 4 = gain at hg ⊢
  have h1 : 0 ≤ Int.tdiv (65536 - gain) length := Int.tdiv_nonneg (by omega) (by omega)
  have h2 : Int.tdiv (65536 - gain) length ≤ 65536 - gain := by
    rw [Int.tdiv_eq_ediv_of_nonneg (by omega)]
    exact Int.ediv_le_self _ (by omega)
  unfold div32 lshift32 wrap32
  omega

/-- `silk_SQRT_APPROX` returns a value in [0, 65300]: at most `y + y·(213·127)/65536` with `y ≤ 46214`. -/
theorem sqrtApprox_range (x : Int) : 0 ≤ sqrtApprox x ∧ sqrtApprox x ≤ 65300 := by
  unfold sqrtApprox
  split
  · omega
  · dsimp only
    have hf : 0 ≤ (clzFrac x).2 ∧ (clzFrac x).2 < 128 := by unfold clzFrac; dsimp only; omega
    have hy := shrI_le (if (clzFrac x).1 % 2 = 1 then 32768 else 46214) 0 (shrI (clzFrac x).1 1).toNat
      (by split <;> omega) (Nat.zero_le _)
    have := sqrtInterp _ 46214 (clzFrac x).2 ⟨hy.1, Int.le_trans hy.2 (by split <;> omega)⟩ (by decide) ⟨hf.1, by omega⟩
    omega

/-- The start gain `gain_Q16` of PLC.c:473 is never negative (and < 2^21). -/
theorem glueGain_range (concE e length : Int) :
    0 ≤ (glueGain concE e length).1 ∧ (glueGain concE e length).1 ≤ 1044800 := by
  have key : ∀ v : Int, 0 ≤ v ∧ v ≤ 65300 → 0 ≤ lshift32 v 4 ∧ lshift32 v 4 ≤ 1044800 := by
    intro v hv; unfold lshift32 wrap32; omega
  unfold glueGain
  dsimp only
  exact key _ (sqrtApprox_range _)

/-- Never amplifies — proved for the case that the start gain computed at PLC.c:473 is ≤ 1.0 in Q16
    (which the code does NOT guarantee, see OpusProps.C09SilkPlc.glue_gain_above_one_counterexample). -/
theorem glue_damped_of_gain_le_one (s : GlueSt) (frame : List Int) (h : ∀ x ∈ frame, I16 x)
    (hgain : (glueGain (glueNormalize s.concEnergy s.concEnergyShift (sumSqrShift frame).1 (sumSqrShift frame).2).1
                (glueNormalize s.concEnergy s.concEnergyShift (sumSqrShift frame).1 (sumSqrShift frame).2).2 frame.length).1 ≤ 65536) :
    AllDamped frame (glueFrames s frame).1 := by
  unfold glueFrames
  dsimp only
  split
  · exact allDamped_refl _
  · split
    · split
      · cases frame with
        | nil => unfold glueRamp; exact .nil
        | cons a t =>
          have hl : (0 : Int) < ((a :: t).length : Int) := by simp only [List.length_cons]; omega
          have hp := (glueGain_range
            (glueNormalize s.concEnergy s.concEnergyShift (sumSqrShift (a :: t)).1 (sumSqrShift (a :: t)).2).1
            (glueNormalize s.concEnergy s.concEnergyShift (sumSqrShift (a :: t)).1 (sumSqrShift (a :: t)).2).2 (a :: t).length).1
          exact glueRamp_damped _ (glueGain_slope_nonneg _ _ _ hl ⟨hp, hgain⟩) _ _ ⟨hp, hgain⟩ h
      · exact allDamped_refl _
    · exact allDamped_refl _

end Opus.SilkPlc
