import OpusModel.CeltCallees2
/-
  OpusProofs.CeltCallees2 — the index models of `pitch_search` (with find_best_pitch, celt_pitch_xcorr_c, xcorr_kernel_c,
  celt_inner_prod_c) and `denormalise_bands` stay inside the extent contracts the CELT index bridge assumes for them
  (`Opus.CeltIdx.Call.accs`), inside the mode tables and inside their local arrays, for ALL argument values within the
  routines' preconditions (`denorm_in` here; `pitch_search_in_contract` in OpusProps/C01CeltCallees2.lean, over `psearchB`);
  and so does the index model of `clt_mdct_backward_c` with `opus_fft_impl` and the butterflies inside, for any transform
  size `N = 4·nfft` whose FFT state has a permutation as bit-reversal table and an FFT inside its bounds (`mdctAt_in`), which
  the four states of the static mode are (`bitrev_perm`, `fft_in`).
  The hit-list framework (`All`, `InB`, `hits_step`) of OpusProofs/CeltCallees.lean stands here a second time: the two models
  declare their own `Hit`, `CArr` and `loop`, and the theorems of each file are stated with its own `All`.
-/
namespace Opus.CeltCallees2
open Opus.Gen.CeltFft

/-- Every hit of the list satisfies `P` (a structure, so that `apply` does not unfold it). -/
structure All (P : Hit → Prop) (l : List Hit) : Prop where
  all : ∀ h ∈ l, P h

theorem all_nil {P : Hit → Prop} : All P [] := ⟨fun _ h => absurd h List.not_mem_nil⟩
theorem all_cons {P : Hit → Prop} {a : Hit} {l : List Hit} (ha : P a) (hl : All P l) : All P (a :: l) :=
  ⟨List.forall_mem_cons.mpr ⟨ha, hl.all⟩⟩
theorem all_append {P : Hit → Prop} {a b : List Hit} (ha : All P a) (hb : All P b) : All P (a ++ b) :=
  ⟨List.forall_mem_append.mpr ⟨ha.all, hb.all⟩⟩
theorem all_loop {P : Hit → Prop} {lo hi : Int} {body : Int → List Hit}
    (h : ∀ i, lo ≤ i → i < hi → All P (body i)) : All P (loop lo hi body) := by
  refine ⟨fun x hx => ?_⟩
  obtain ⟨t, ht, hxt⟩ := List.mem_flatMap.mp hx
  have := List.mem_range.mp ht
  exact (h (lo + t) (by omega) (by omega)).all x hxt
theorem all_imp {P Q : Hit → Prop} {l : List Hit} (h : All P l) (hpq : ∀ x, P x → Q x) : All Q l :=
  ⟨fun x hx => hpq x (h.all x hx)⟩
theorem all_flatMap {P Q : Hit → Prop} {l : List Hit} {f : Hit → List Hit} (h : All P l)
    (hpq : ∀ x, P x → All Q (f x)) : All Q (l.flatMap f) := by
  refine ⟨fun x hx => ?_⟩
  obtain ⟨y, hy, hxy⟩ := List.mem_flatMap.mp hx
  exact (hpq y (h.all y hy)).all x hxy
theorem all_ite {P : Hit → Prop} {c : Prop} [Decidable c] {a b : List Hit} (ha : c → All P a) (hb : ¬c → All P b) :
    All P (if c then a else b) := by
  split
  · exact ha ‹_›
  · exact hb ‹_›

/-- Inside per-array bounds `B arr = (lo, hi)` (inclusive; `lo > hi`: the array must not be touched). -/
def InB (B : CArr → Int × Int) (h : Hit) : Prop := (B h.arr).1 ≤ h.idx ∧ h.idx ≤ (B h.arr).2

/-- Structural steps: split lists, enter loops. -/
macro "hits_step" : tactic =>
  `(tactic| first
    | with_reducible apply all_nil
    | with_reducible apply all_append
    | with_reducible apply all_cons
    | (with_reducible apply all_loop; intro _ _ _))

/-! ## pitch_search -/

/-- Bounds of `pitch_search(x_lp, y, len, max_pitch, …)`: the contract of the bridge for the two arguments
    (`Call.psearch`: `x_lp[0 .. len/2)`, `y[0 .. len/2 + max_pitch/2)`), the three `ALLOC`ed arrays `x_lp4[len>>2]`,
    `y_lp4[(len+max_pitch)>>2]`, `xcorr[max_pitch>>1]` and the local `best_pitch[2]`. -/
def psearchB (len maxp : Int) : CArr → Int × Int
  | .xlp => (0, len / 2 - 1) | .y => (0, len / 2 + maxp / 2 - 1)
  | .xlp4 => (0, len / 4 - 1) | .ylp4 => (0, (len + maxp) / 4 - 1) | .xcorr => (0, maxp / 2 - 1) | .bestp => (0, 1)
  | _ => (1, 0)

/-- The bounds of the three `ALLOC`ed arrays are their allocation sizes (`psearchAlloc`, which the tie compares with the
    sizes the instrumented code really allocates). -/
theorem psearchB_alloc (len maxp : Int) (a : CArr) (h : a = .xlp4 ∨ a = .ylp4 ∨ a = .xcorr) :
    psearchB len maxp a = (0, psearchAlloc len maxp a - 1) := by
  rcases h with rfl | rfl | rfl <;> rfl

/-! ## denormalise_bands -/

theorem eBands_mono : ∀ k : Nat, k < 21 → eBands.getD k 0 < eBands.getD (k + 1) 0 := by decide
theorem eBands_range : ∀ k : Nat, k < 22 → 0 ≤ eBands.getD k 0 ∧ eBands.getD k 0 ≤ 100 := by decide

/-- The band edges scaled by `M ≥ 1`, as `denormalise_bands` uses them: consecutive edges are at least `M` apart … -/
theorem eB_mono {M : Int} (hM : 1 ≤ M) (i : Int) (h0 : 0 ≤ i) (h1 : i < 21) : M * eB i + M ≤ M * eB (i + 1) := by
  have h : eB i + 1 ≤ eB (i + 1) := by
    unfold eB
    rw [show (i + 1).toNat = i.toNat + 1 by omega]
    exact eBands_mono i.toNat (by omega)
  have := Int.mul_le_mul_of_nonneg_left h (show 0 ≤ M by omega)
  rw [Int.mul_add, Int.mul_one] at this
  exact this

/-- … and all lie in `[0, 100·M]`. -/
theorem eB_range {M : Int} (hM : 1 ≤ M) (i : Int) (h1 : i ≤ 21) : 0 ≤ M * eB i ∧ M * eB i ≤ M * 100 := by
  have h := eBands_range i.toNat (by omega)
  exact ⟨Int.mul_nonneg (by omega) h.1, Int.mul_le_mul_of_nonneg_left h.2 (by omega)⟩

/-- Bounds of `denormalise_bands(m, X, freq, bandLogE, start, end, M, …)`: the contract of the bridge (`Call.denorm`:
    `X[0 .. N)`, `freq[0 .. N)`, `N = M*shortMdctSize`), `bandLogE[0 .. nbEBands)`, `m->eBands[0 .. nbEBands]`,
    `eMeans[0 .. 25)`. -/
def denormB (M : Int) : CArr → Int × Int
  | .X => (0, M * shortMdctSize - 1) | .freq => (0, M * shortMdctSize - 1) | .bandE => (0, nbEBands - 1)
  | .eBands => (0, nbEBands) | .eMeans => (0, eMeansLen - 1) | _ => (1, 0)

/-- The band loop with the running position `pos = f - freq = x - X`: as long as `pos = M*eBands[i]` on entry (the static
    table is strictly increasing, so every `do … while` runs exactly `M*(eBands[i+1]-eBands[i])` times and the position
    stays synchronised), all hits are inside. -/
theorem denormBands_in (M : Int) (hM : 1 ≤ M) (n : Nat) : ∀ (i : Int), 0 ≤ i → i + n ≤ 21 →
    All (InB (denormB M)) (denormBands M n i (M * eB i)) := by
  induction n with
  | zero => intro i _ _; unfold denormBands; exact all_nil
  | succ n ih =>
    intro i h0 h1
    unfold denormBands
    have k1 := eB_mono hM i h0 (by omega)
    have k2 := (eB_range hM (i + 1) (by omega)).2
    have k3 := (eB_range hM i (by omega)).1
    have hc : max (M * eB (i + 1) - M * eB i) 1 = M * eB (i + 1) - M * eB i := by omega
    simp only [hc]
    have e : M * eB i + (M * eB (i + 1) - M * eB i) = M * eB (i + 1) := by omega
    rw [e]
    have hrest := ih (i + 1) (by omega) (by omega)
    repeat' first
      | exact hrest
      | hits_step
    all_goals (simp only [InB, denormB, nbEBands, eMeansLen, shortMdctSize]; omega)

/-- `denormalise_bands`: every hit inside `denormB`, for ALL `M ≥ 1` (the decoder passes `1 << LM`), ALL
    `0 ≤ start ≤ end ≤ nbEBands` (`celt_assert(start <= end)`), ALL `downsample ≥ 1` and both values of `silence`. -/
theorem denorm_in (start end_ M ds : Int) (silence : Bool) (hM : 1 ≤ M) (hs : 0 ≤ start) (hse : start ≤ end_)
    (he : end_ ≤ 21) (hds : 1 ≤ ds) : All (InB (denormB M)) (denormHits start end_ M ds silence) := by
  unfold denormHits
  have ke := eB_range hM end_ he
  have hdiv : 0 ≤ M * shortMdctSize / ds := Int.ediv_nonneg (by simp only [shortMdctSize]; omega) (by omega)
  cases silence
  · simp only [Bool.false_eq_true, if_false]
    have ks := eB_range hM start (by omega)
    have hb := denormBands_in M hM (end_ - start).toNat start hs (by omega)
    repeat' first
      | exact hb
      | hits_step
      | (with_reducible apply all_ite <;> intro _)
    all_goals (simp only [InB, denormB, nbEBands, shortMdctSize] at *; omega)
  · simp only [if_true]
    have e0 : eB 0 = 0 := by decide
    simp only [e0, Int.mul_zero, Int.sub_self, Int.toNat_zero]
    unfold denormBands
    repeat' first
      | hits_step
      | (with_reducible apply all_ite <;> intro _)
    all_goals (simp only [InB, denormB, nbEBands, shortMdctSize] at *; omega)

/-! ## The butterflies of opus_fft_impl

For ARBITRARY stage parameters: an arithmetic condition on (radix, m, N, mm, fstride) under which `kf_bfly2/3/4/5` stay inside
`fout[0 .. nfft)` and `twiddles[0 .. twLen)`, proved structurally (multiplication monotonicity + omega), and the check that
every stage of the four regenerated factor lists satisfies it. -/

/-- The butterfly call of one stage (the `switch` of kiss_fft.c:585-603 without the table reads around it). -/
def bflyHits (s : Stage) : List Hit :=
  if s.p = 2 then bfly2 s.fs
  else if s.p = 4 then bfly4 s.fsS s.m s.fs s.mm
  else if s.p = 3 then bfly3 s.fsS s.m s.fs s.mm
  else if s.p = 5 then bfly5 s.fsS s.m s.fs s.mm
  else []

/-- Arithmetic condition on one stage under which its butterfly stays inside `fout[0 .. nfft)` and `twiddles[0 .. twLen)`:
    `N` groups at distance `mm`, each spanning `p*m` elements, end inside `nfft` (radix 2: `N` contiguous groups of 8, radix 4
    with `m = 1`: `N` contiguous groups of 4 — these two loops advance `Fout` by a constant and ignore `mm`); the largest
    twiddle index `(p−1)*(m−1)*fstride` (and `m*fstride`, `2*m*fstride` for the radix-3 / radix-5 constants) is below
    `twLen`. -/
def StageSafe (s : Stage) (nfft twLen : Int) : Prop :=
  1 ≤ s.m ∧ 1 ≤ s.fs ∧ 0 ≤ s.mm ∧ 0 ≤ s.fsS ∧
  (s.p = 2 → 8 * s.fs ≤ nfft) ∧
  (s.p = 4 → (s.m = 1 → 4 * s.fs ≤ nfft) ∧ (s.m ≠ 1 → (s.fs - 1) * s.mm + 4 * s.m ≤ nfft ∧ 3 * ((s.m - 1) * s.fsS) < twLen)) ∧
  (s.p = 3 → (s.fs - 1) * s.mm + 3 * s.m ≤ nfft ∧ 2 * ((s.m - 1) * s.fsS) < twLen ∧ s.m * s.fsS < twLen) ∧
  (s.p = 5 → (s.fs - 1) * s.mm + 5 * s.m ≤ nfft ∧ 4 * ((s.m - 1) * s.fsS) < twLen ∧ 2 * (s.m * s.fsS) < twLen)
instance (s : Stage) (nfft twLen : Int) : Decidable (StageSafe s nfft twLen) := by unfold StageSafe; exact inferInstance

def bflyB (nfft twLen : Int) : CArr → Int × Int
  | .fout => (0, nfft - 1) | .tw => (0, twLen - 1) | _ => (1, 0)

/-- Group `i < N` at distance `mm` and element `j < m` at twiddle stride `fsS`: the two products every index of the
    radix-3/4/5 butterflies is built from, bounded by their values at the last group / element. -/
theorem group_bounds {i j N m mm fsS : Int} (hi0 : 0 ≤ i) (hi1 : i < N) (hj0 : 0 ≤ j) (hj1 : j < m) (hmm : 0 ≤ mm)
    (hst : 0 ≤ fsS) : i * mm ≤ (N - 1) * mm ∧ 0 ≤ i * mm ∧ j * fsS ≤ (m - 1) * fsS ∧ 0 ≤ j * fsS :=
  ⟨Int.mul_le_mul_of_nonneg_right (by omega) hmm, Int.mul_nonneg hi0 hmm, Int.mul_le_mul_of_nonneg_right (by omega) hst,
    Int.mul_nonneg hj0 hst⟩

/-- For ANY stage parameters satisfying `StageSafe`, every element the butterfly touches is inside. -/
theorem bfly_in (s : Stage) (nfft twLen : Int) (h : StageSafe s nfft twLen) : All (InB (bflyB nfft twLen)) (bflyHits s) := by
  obtain ⟨hm, hfs, hmm, hst, h2, h4, h3, h5⟩ := h
  unfold bflyHits
  repeat' (with_reducible apply all_ite <;> intro _)
  · -- radix 2
    have := h2 ‹_›
    unfold bfly2
    repeat' hits_step
    all_goals (simp only [InB, bflyB]; omega)
  · -- radix 4
    obtain ⟨h41, h4m⟩ := h4 ‹_›
    unfold bfly4
    with_reducible apply all_ite <;> intro hm1
    · have := h41 hm1
      repeat' hits_step
      all_goals (simp only [InB, bflyB]; omega)
    · obtain ⟨hn, ht⟩ := h4m hm1
      apply all_loop; intro i hi0 hi1; apply all_loop; intro j hj0 hj1
      obtain ⟨a1, a2, a3, a4⟩ := group_bounds hi0 hi1 hj0 hj1 hmm hst
      repeat' hits_step
      all_goals (simp only [InB, bflyB]; omega)
  · -- radix 3
    obtain ⟨hn, ht, ht2⟩ := h3 ‹_›
    unfold bfly3
    have a0 : 0 ≤ s.m * s.fsS := Int.mul_nonneg (by omega) hst
    apply all_cons
    · simp only [InB, bflyB]; omega
    apply all_loop; intro i hi0 hi1; apply all_loop; intro j hj0 hj1
    obtain ⟨a1, a2, a3, a4⟩ := group_bounds hi0 hi1 hj0 hj1 hmm hst
    repeat' hits_step
    all_goals (simp only [InB, bflyB]; omega)
  · -- radix 5
    obtain ⟨hn, ht, ht2⟩ := h5 ‹_›
    unfold bfly5
    have a0 : 0 ≤ s.m * s.fsS := Int.mul_nonneg (by omega) hst
    apply all_append
    · repeat' hits_step
      all_goals (simp only [InB, bflyB]; omega)
    apply all_loop; intro i hi0 hi1; apply all_loop; intro j hj0 hj1
    obtain ⟨a1, a2, a3, a4⟩ := group_bounds hi0 hi1 hj0 hj1 hmm hst
    repeat' hits_step
    all_goals (simp only [InB, bflyB]; omega)
  · exact all_nil

/-- The stages of the four regenerated factor lists satisfy the condition. -/
theorem stages_safe : ∀ s : Fin 4, ∀ g ∈ stagesOf (kfft s.val), StageSafe g (kfft s.val).nfft twiddleLen := by decide +kernel

/-- `stageHits` is the table reads of the stage loop followed by the butterfly call. -/
theorem stageHits_bfly (s : Stage) :
    stageHits s = (if s.i ≠ 0 then [⟨.factors, 2 * s.i - 1⟩] else []) ++ [⟨.factors, 2 * s.i⟩, ⟨.fstride, s.i⟩] ++ bflyHits s := rfl

/-! ## The regenerated tables of the four FFT states

What the index proof of `clt_mdct_backward_c` needs of `Gen.CeltFft` (nfft, shift, factors[16], bitrev[nfft]): each bit-reversal
table has `nfft` entries, all in `[0, nfft)`, and every value of `[0, nfft)` occurs in it; the factor walk of `opus_fft_impl`
ends inside `factors[2*MAXFACTORS]` / `fstride[MAXFACTORS]`; every element the butterflies touch is inside `fout[0 .. nfft)`
and `twiddles[0 .. 480)`.  The tables and the factor walk by kernel evaluation; the butterflies by `bfly_in`, since every
stage of the four factor lists is `StageSafe`. -/

/-! ### Bit-reversal tables -/

/-- Bit mask of the entries (`Nat.lor` / `Nat.shiftLeft` are evaluated natively by the kernel). -/
def maskOf (l : List Int) : Nat := l.foldl (fun acc x => acc ||| (1 <<< x.toNat)) 0

/-- `n` entries, all inside `[0, n)`, and the bit mask of the entries is `2^n − 1`, i.e. every value of `[0, n)` occurs. -/
def isPerm (l : List Int) (n : Int) : Bool :=
  l.length == n.toNat && l.all (fun x => decide (0 ≤ x) && decide (x < n)) && maskOf l == 2 ^ n.toNat - 1

theorem bitrev_perm : ∀ s : Fin 4, isPerm (kfft s.val).bitrev (kfft s.val).nfft = true := by decide +kernel

theorem testBit_fold (l : List Int) (acc k : Nat) :
    (l.foldl (fun acc x => acc ||| (1 <<< x.toNat)) acc).testBit k = (acc.testBit k || l.any (fun x => x.toNat == k)) := by
  induction l generalizing acc with
  | nil => simp
  | cons a t ih =>
    rw [List.foldl_cons, ih, Nat.testBit_or, Nat.one_shiftLeft, Nat.testBit_two_pow, List.any_cons, Bool.or_assoc]
    congr 2

/-- What `isPerm l n = true` means: `n` entries, all inside `[0, n)`, every value of `[0, n)` present (with `n`
    entries for `n` values no value can then occur twice; that counting step is not part of the statement). -/
theorem isPerm_spec {l : List Int} {n : Int} (hn : 0 ≤ n) (h : isPerm l n = true) :
    (l.length : Int) = n ∧ (∀ x ∈ l, 0 ≤ x ∧ x < n) ∧ (∀ k : Nat, (k : Int) < n → (k : Int) ∈ l) := by
  unfold isPerm at h
  simp only [Bool.and_eq_true, beq_iff_eq, List.all_eq_true, decide_eq_true_eq] at h
  refine ⟨by omega, h.1.2, fun k hk => ?_⟩
  have hb : (maskOf l).testBit k = true := by
    rw [h.2, Nat.testBit_two_pow_sub_one]; exact decide_eq_true (by omega)
  unfold maskOf at hb
  rw [testBit_fold] at hb
  simp only [Nat.zero_testBit, Bool.false_or, List.any_eq_true, beq_iff_eq] at hb
  obtain ⟨x, hx, hxk⟩ := hb
  have := (h.1.2 x hx).1
  have e : x = (k : Int) := by omega
  exact e ▸ hx

theorem getD_mem_range {l : List Int} {n : Int} (h : isPerm l n = true) (i : Int) (h0 : 0 ≤ i) (h1 : i < n) :
    0 ≤ l.getD i.toNat 0 ∧ l.getD i.toNat 0 < n := by
  obtain ⟨hl, hr, _⟩ := isPerm_spec (by omega) h
  have hi : i.toNat < l.length := by omega
  rw [List.getD_eq_getElem?_getD, List.getElem?_eq_getElem hi, Option.getD_some]
  exact hr _ (List.getElem_mem hi)

/-! ### opus_fft_impl on the four states -/

/-- The table checks run over the states `kfft k`, `k : Fin 4`; a shift `0 ≤ s ≤ 3` is one of them. -/
theorem shift_cases {s : Int} (h0 : 0 ≤ s) (h3 : s ≤ 3) : ∃ k : Fin 4, s = k.val :=
  ⟨⟨s.toNat, by omega⟩, (Int.toNat_of_nonneg h0).symm⟩

/-- Bounds of `opus_fft_impl(st, fout)`: `fout[0 .. nfft)` (complex elements), `st->twiddles[0 .. 480)`,
    `st->factors[0 .. 2*MAXFACTORS)`, local `fstride[MAXFACTORS]`. -/
def fftB (nfft : Int) : CArr → Int × Int
  | .fout => (0, nfft - 1) | .tw => (0, twiddleLen - 1) | .factors => (0, 2 * MAXFACTORS - 1) | .fstride => (0, MAXFACTORS - 1)
  | _ => (1, 0)

/-- For the evaluation of `fft_reads`. -/
instance (B : CArr → Int × Int) (h : Hit) : Decidable (InB B h) := inferInstanceAs (Decidable (_ ∧ _))

/-- The table reads of one stage: what `stageHits s` has in front of `bflyHits s` (`stageHits_bfly`). -/
def stageReads (s : Stage) : List Hit :=
  (if s.i ≠ 0 then [⟨.factors, 2 * s.i - 1⟩] else []) ++ [⟨.factors, 2 * s.i⟩, ⟨.fstride, s.i⟩]

/-- Everything `opus_fft_impl` touches outside the butterflies: the factor walk, `factors[2L-1]`, the stages' table reads. -/
def fftReads (st : FftState) : List Hit :=
  let w := walk st (MAXFACTORS.toNat + 1) 0 1
  w.1 ++ [⟨.factors, 2 * ((w.2.length : Int) - 1) - 1⟩] ++ (stagesOf st).flatMap stageReads

theorem fft_reads : ∀ s : Fin 4, ∀ h ∈ fftReads (kfft s.val), InB (fftB (kfft s.val).nfft) h := by decide +kernel

theorem fftB_of_bflyB (nfft : Int) (h : Hit) (hb : InB (bflyB nfft twiddleLen) h) : InB (fftB nfft) h := by
  obtain ⟨a, i⟩ := h
  cases a <;> simp only [InB, bflyB, fftB] at hb ⊢ <;> omega

/-- `opus_fft_impl` on state `s`: the reads by evaluation, each stage's butterfly because the stage is `StageSafe`. -/
theorem fft_in (s : Fin 4) : All (InB (fftB (kfft s.val).nfft)) (fftImplHits (kfft s.val)) := by
  refine ⟨fun h hh => ?_⟩
  rcases List.mem_append.mp hh with hh | hh
  · exact fft_reads s h (List.mem_append_left _ hh)
  · obtain ⟨g, hg, hgh⟩ := List.mem_flatMap.mp hh
    rw [stageHits_bfly] at hgh
    -- the first two summands of `stageHits_bfly` are `stageReads g` unfolded
    rcases List.mem_append.mp hgh with (hgh : h ∈ stageReads g) | hgh
    · exact fft_reads s h (List.mem_append_right _ (List.mem_flatMap.mpr ⟨g, hg, hgh⟩))
    · exact fftB_of_bflyB _ h ((bfly_in g _ _ (stages_safe s g hg)).all h hgh)


/-- The `celt_assert(m==4)` of `kf_bfly2` (kiss_fft.c:80) and the `do … while(--k)` of `kf_bfly3`, which needs `m ≥ 1`
    (the remarks "m is guaranteed to be a multiple of 4" in `kf_bfly4` (:150) and, for non-custom modes, `kf_bfly3` (:207)
    are not checked: no index depends on them): every radix-2 stage of the four factor lists has `m = 4`, every stage has `m ≥ 1`, the radices
    are 2, 3, 4 or 5 (no stage falls through the `switch`), the stage list is not empty, and the stage executed first (the
    last pair the factor walk read) has `m = 1`: the walk's `do … while (m != 1)` ended by its own condition within
    `MAXFACTORS` pairs, not by the model's fuel. -/
def stagesOk (st : FftState) : Bool :=
  !(stagesOf st).isEmpty && ((stagesOf st).head?.map (·.m)) == some 1 &&
  (stagesOf st).all fun s => decide (1 ≤ s.m) && (s.p == 2 || s.p == 3 || s.p == 4 || s.p == 5) && (s.p != 2 || s.m == 4)

theorem stages_ok : ∀ s : Fin 4, stagesOk (kfft s.val) = true := by decide +kernel

/-- The butterflies cover `fout` completely: every stage's groups tile `[0, nfft)` (`N * mm = nfft` resp.
    `N * p * m = nfft`), i.e. the hit lists above are the full FFT, not a truncated walk. -/
def stagesTile (st : FftState) : Bool :=
  (stagesOf st).all fun s => s.fs * s.p * s.m == st.nfft && (s.i == 0 || s.mm == s.p * s.m)

theorem stages_tile : ∀ s : Fin 4, stagesTile (kfft s.val) = true := by decide +kernel

/-! ## clt_mdct_backward_c -/

/-- Bounds of `clt_mdct_backward_c(l, in, out, window, overlap, shift, stride)` with `N = l->n >> shift`: the bridge's
    contract `in[0 .. stride*(N/2-1)]`, `out[0 .. overlap/2 + N/2)` (the union of `out[ov/2 .. ov/2+N/2)` and
    `out[0 .. ov)`), and `window[0 .. overlap)`, `l->trig[0 .. 1800)`, `bitrev[0 .. N/4)`, `twiddles[0 .. 480)`,
    `factors[0 .. 16)`, local `fstride[8]`. -/
def mdctB (N stride ov : Int) : CArr → Int × Int
  | .inp => (0, stride * (N / 2 - 1)) | .out => (0, ov / 2 + N / 2 - 1) | .win => (0, ov - 1) | .trig => (0, trigLen - 1)
  | .bitrev => (0, N / 4 - 1) | .tw => (0, twiddleLen - 1) | .factors => (0, 2 * MAXFACTORS - 1) | .fstride => (0, MAXFACTORS - 1)
  | _ => (1, 0)

/-- The transform of shift `s` has `N = 4·nfft` points over the state's `nfft ≥ 2`, and its `N/2` twiddles from offset
    `trigOff s` on lie inside `trig`. -/
theorem mdct_sizes : ∀ s : Fin 4, mdctNs s.val = 4 * (kfft s.val).nfft ∧ 2 ≤ (kfft s.val).nfft ∧
    0 ≤ trigOff s.val ∧ trigOff s.val + mdctNs s.val / 2 ≤ trigLen := by decide

theorem mdctAt_in (N t0 : Int) (st : FftState) (stride ov : Int) (hN : N = 4 * st.nfft) (hn : 2 ≤ st.nfft)
    (hperm : isPerm st.bitrev st.nfft = true) (hfft : All (InB (fftB st.nfft)) (fftImplHits st))
    (ht0 : 0 ≤ t0) (ht1 : t0 + N / 2 ≤ trigLen) (hs : 0 ≤ stride) (ho0 : 0 ≤ ov) (ho1 : ov - ov / 2 ≤ N / 2) :
    All (InB (mdctB N stride ov)) (mdctHitsAt N t0 st stride ov) := by
  unfold mdctHitsAt
  -- `N / 4` and `N / 2` are rewritten away everywhere, and the three facts about `N` are cleared before each `omega`,
  -- which splits cases on every division it finds in the context
  have e4 : N / 4 = st.nfft := by omega
  have e2 : N / 2 = 2 * st.nfft := by omega
  simp only [e4, e2, trigLen] at ht1 ho1 ⊢
  apply all_append
  apply all_append
  apply all_append
  · -- pre-rotate
    apply all_loop; intro i h0 h1
    have hr := getD_mem_range hperm i h0 (by omega)
    have m1 : stride * (2 * i) ≤ stride * (2 * st.nfft - 1) := Int.mul_le_mul_of_nonneg_left (by omega) hs
    have m2 : 0 ≤ stride * (2 * i) := Int.mul_nonneg hs (by omega)
    repeat' hits_step
    all_goals (simp only [InB, mdctB, trigLen, e4, e2]; clear e4 e2 hN; omega)
  · -- the FFT, in place in out + overlap/2
    refine all_flatMap hfft ?_
    rintro ⟨a, i⟩ ⟨h1, h2⟩
    cases a <;> simp only [fftB, twiddleLen, MAXFACTORS] at h1 h2 <;> simp only [] <;> repeat' hits_step
    all_goals (simp only [InB, mdctB, twiddleLen, MAXFACTORS, e4, e2]; clear e4 e2 hN; omega)
  · -- post-rotate
    repeat' hits_step
    all_goals (simp only [InB, mdctB, trigLen, e2]; clear e4 e2 hN; omega)
  · -- TDAC mirror
    repeat' hits_step
    all_goals (simp only [InB, mdctB, e2]; clear e4 e2 hN; omega)

/-- `l` touches element `i` of array `a` (for the non-vacuity examples). -/
def touches (l : List Hit) (a : CArr) (i : Int) : Bool := l.any fun h => h.arr == a && h.idx == i

end Opus.CeltCallees2
