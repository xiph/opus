import OpusModel.CeltIdxCalls
import OpusProofs.CeltIdx
/-
  OpusProofs.CeltIdxCalls — every access of celt_synthesis, deemphasis, prefilter_and_fold and celt_decode_lost lies
  inside its array, for every legal parameter combination.

  Frame-only statements are checked by evaluation over the finite list of legal frames (`allFrames`, 160 entries);
  statements that also depend on a pitch lag (100..720) or post-filter periods (0..1023) are proved symbolically.
-/
namespace Opus.CeltIdx
open Opus.Gen.CeltIdxConsts

deriving instance DecidableEq for Frame

/-- All legal frames. -/
def allFrames : List Frame :=
  [(120, 0), (240, 1), (480, 2), (960, 3)].flatMap fun (nl : Int × Int) =>
  [1, 2].flatMap fun (C : Int) => [1, 2].flatMap fun (CC : Int) => [1, 2, 3, 4, 6].flatMap fun (ds : Int) =>
  [1, 2 ^ nl.2.toNat].map fun (B : Int) => ({ N := nl.1, LM := nl.2, C, CC, ds, B } : Frame)

theorem legal_mem {f : Frame} (h : f.Legal) : f ∈ allFrames := by
  obtain ⟨N, LM, C, CC, ds, B⟩ := f
  obtain ⟨hf, hC, hCC, hds, hB⟩ := h
  simp only at hC hCC hds hB
  have hnl : (N, LM) ∈ [((120 : Int), (0 : Int)), (240, 1), (480, 2), (960, 3)] := by
    rcases legalFrame_cases hf with ⟨rfl, rfl⟩ | ⟨rfl, rfl⟩ | ⟨rfl, rfl⟩ | ⟨rfl, rfl⟩ <;> simp
  simp only [allFrames, List.mem_flatMap, List.mem_map]
  exact ⟨(N, LM), hnl, C, by simpa using hC, CC, by simpa using hCC, ds, by simpa using hds, B, by simpa using hB, rfl⟩

/-- Boolean form of "all accesses inside their arrays". -/
def okAll (f : Frame) (xl : Int) (l : List Acc) : Bool := l.all fun a => decide (a.ok f xl)

theorem okAll_mem {f : Frame} {xl : Int} {l : List Acc} (h : okAll f xl l = true) {a : Acc} (ha : a ∈ l) : a.ok f xl :=
  of_decide_eq_true (List.all_eq_true.mp h a ha)

/-! ## Frame-only parts, by evaluation -/

theorem synth_all : allFrames.all (fun f => okAll f 0 ((synthCalls f).flatMap Call.accs ++ synthInline f)) = true := by
  decide +kernel

theorem deemph_all : allFrames.all (fun f => okAll f 0 (deemphAccs f false) && okAll f 0 (deemphAccs f true)) = true := by
  decide +kernel

theorem foldInline_all : allFrames.all (fun f => okAll f 0 (foldInline f)) = true := by decide +kernel

/-- The second conjunct: none of them is in `fir_tmp`, the one array whose capacity depends on `excLen`, so `ok_irrel` carries
    the first to the `excLen` of the concealment. -/
theorem pitchSearch_all : allFrames.all (fun f => ((pitchSearchCalls f).flatMap Call.accs).all fun a =>
    decide (a.ok f 0) && decide (a.arr ≠ .fir)) = true := by
  decide +kernel

theorem noiseShift_all : allFrames.all (fun f => okAll f 0
    (((List.range f.CC.toNat).map fun c => Call.copy ⟨.mem c, 0⟩ ⟨.mem c, f.N⟩ (DECODE_BUFFER_SIZE - f.N + overlap)).flatMap Call.accs)) = true := by
  decide +kernel

theorem mem_legal {f : Frame} (h : f ∈ allFrames) : f.Legal :=
  of_decide_eq_true (List.all_eq_true.mp (by decide +kernel : allFrames.all (fun f => decide f.Legal) = true) f h)

/-- The noise-based concealment runs with `C := CC` and one long block: that frame is legal again. -/
theorem noiseFrame_mem : allFrames.all (fun f => decide ({ f with C := f.CC, B := 1 } ∈ allFrames)) = true :=
  List.all_eq_true.mpr fun f hf => decide_eq_true <| legal_mem <| by
    obtain ⟨hN, _, hCC, hds, _⟩ := mem_legal hf
    exact ⟨hN, hCC, hCC, hds, .inl rfl⟩

theorem all_apply {p : Frame → Bool} (h : allFrames.all p = true) {f : Frame} (hf : f.Legal) : p f = true :=
  List.all_eq_true.mp h f (legal_mem hf)

/-! `Arr.cap` does not depend on `excLen` except for `fir_tmp`, which the frame-only parts do not touch: they are stated
    with `excLen = 0`. -/

theorem synth_ok {f : Frame} (hf : f.Legal) {a : Acc} (ha : a ∈ (synthCalls f).flatMap Call.accs ++ synthInline f) :
    a.ok f 0 := okAll_mem (all_apply synth_all hf) ha

/-! ## Symbolic parts -/

theorem frame_N {f : Frame} (hf : f.Legal) : f.N = 120 ∨ f.N = 240 ∨ f.N = 480 ∨ f.N = 960 := by
  rcases legalFrame_cases hf.1 with h | h | h | h <;> omega

theorem mem_range_cc {f : Frame} (hf : f.Legal) {c : Nat} (hc : c ∈ List.range f.CC.toNat) : (c : Int) < f.CC := by
  have := List.mem_range.mp hc
  rcases hf.2.2.1 with h | h <;> rw [h] at this ⊢ <;> simp at this <;> omega

/-- An interval with explicit bounds inside an array of `n` elements. -/
theorem within_mk {lo hi n : Int} (h0 : 0 ≤ lo) (hn : hi < n) : (Ext.mk lo hi).within n := Or.inr ⟨h0, hn⟩

/-- prefilter_and_fold: the `comb_filter(etmp, out_syn[c], …)` calls, for any post-filter periods of the state. -/
theorem fold_ok {f : Frame} (hf : f.Legal) {pOld pCur : Int} (ho : PeriodOk pOld) (hc : PeriodOk pCur) {a : Acc}
    (ha : a ∈ (foldCalls f pOld pCur).flatMap Call.accs ++ foldInline f) : a.ok f 0 := by
  rcases List.mem_append.mp ha with ha | ha
  · have co := periodOk_clamp ho
    have cc := periodOk_clamp hc
    have hN := frame_N hf
    have hm : (15 : Int) = COMBFILTER_MINPERIOD := rfl
    have hM : (1024 : Int) = MAX_PERIOD := rfl
    obtain ⟨k, hk, hak⟩ := List.mem_flatMap.mp ha
    obtain ⟨c, _, rfl⟩ := List.mem_map.mp hk
    simp only [Call.accs, List.mem_cons, List.mem_nil_iff, or_false] at hak
    rcases hak with rfl | rfl
    · refine within_mk ?_ ?_ <;>
        simp only [rd, outSyn, outSynOff, Arr.cap, memLen, DECODE_BUFFER_SIZE, overlap] <;> omega
    · refine within_mk ?_ ?_ <;> simp only [wr, Arr.cap, overlap] <;> omega
  · exact okAll_mem (all_apply foldInline_all hf) ha

/-- Pitch-based concealment, the inline loops of one channel. -/
theorem plcPitchInline_ok {f : Frame} (hf : f.Legal) {pitch : Int} (hp : PitchOk pitch) {c : Nat}
    {a : Acc} (ha : a ∈ plcPitchInlineCh f pitch c) : a.ok f (excLen pitch) := by
  have hN := frame_N hf
  obtain ⟨hp0, hp1⟩ := hp
  have h100 : (100 : Int) = PLC_PITCH_LAG_MIN := rfl
  have h720 : (720 : Int) = PLC_PITCH_LAG_MAX := rfl
  simp only [plcPitchInlineCh, List.mem_cons, List.mem_nil_iff, or_false] at ha
  rcases ha with rfl | rfl | rfl | rfl | rfl | rfl | rfl | rfl | rfl | rfl <;> refine within_mk ?_ ?_ <;>
    simp only [rd, wr, excP, excLen, Arr.cap, memLen, DECODE_BUFFER_SIZE, MAX_PERIOD, CELT_LPC_ORDER, overlap] <;> omega

/-- Pitch-based concealment, the calls of one channel under the callee contracts. -/
theorem plcPitchCallsCh_ok {f : Frame} (hf : f.Legal) {pitch : Int} (hp : PitchOk pitch) (first : Bool) {c : Nat}
    (hc : c ∈ List.range f.CC.toNat) {a : Acc} (ha : a ∈ (plcPitchCallsCh f pitch first c).flatMap Call.accs) :
    a.ok f (excLen pitch) := by
  have hN := frame_N hf
  have hcc := mem_range_cc hf hc
  have hCC := hf.2.2.1
  obtain ⟨hp0, hp1⟩ := hp
  have h100 : (100 : Int) = PLC_PITCH_LAG_MIN := rfl
  have h720 : (720 : Int) = PLC_PITCH_LAG_MAX := rfl
  have hc0 : (0 : Int) ≤ (c : Int) := Int.natCast_nonneg c
  cases first <;>
    simp only [plcPitchCallsCh, List.flatMap_cons, List.flatMap_nil, List.append_nil, List.nil_append, List.cons_append,
      Call.accs, List.mem_cons, List.mem_nil_iff, or_false, if_true, if_false, Bool.false_eq_true] at ha
  all_goals
    (repeat' rcases ha with rfl | ha) <;> (try subst ha) <;> refine within_mk ?_ ?_ <;>
      simp only [rd, wr, excP, excLen, outSyn, outSynOff, Arr.cap, memLen, DECODE_BUFFER_SIZE, MAX_PERIOD, CELT_LPC_ORDER, overlap] <;> omega

/-! ## Assembled statements -/

theorem cap_irrel (f : Frame) (x y : Int) {arr : Arr} (h : arr ≠ .fir) : Arr.cap f x arr = Arr.cap f y arr := by
  cases arr <;> first | rfl | exact absurd rfl h

theorem ok_irrel {f : Frame} {x : Int} (y : Int) {a : Acc} (h : a.arr ≠ .fir) (ha : a.ok f x) : a.ok f y := by
  unfold Acc.ok at *; rw [cap_irrel f y x h]; exact ha

/-- Pitch-based concealment of a whole frame: pitch search (first lost frame only), then per channel the calls and the
    inline loops. -/
theorem plcPitch_ok {f : Frame} (hf : f.Legal) {pitch : Int} (hp : PitchOk pitch) (first : Bool) {a : Acc}
    (ha : a ∈ (plcPitchCalls f pitch first).flatMap Call.accs ++ (List.range f.CC.toNat).flatMap (plcPitchInlineCh f pitch)) :
    a.ok f (excLen pitch) := by
  unfold plcPitchCalls at ha
  simp only [List.flatMap_append, List.mem_append] at ha
  -- the pitch search (first lost frame only) | the calls, channel by channel | the inline loops, channel by channel
  rcases ha with (ha | ha) | ha
  · cases first
    · simp at ha
    · have h := List.all_eq_true.mp (all_apply pitchSearch_all hf) a ha
      rw [Bool.and_eq_true, decide_eq_true_eq, decide_eq_true_eq] at h
      exact ok_irrel _ h.2 h.1
  · obtain ⟨k, hk, hak⟩ := List.mem_flatMap.mp ha
    obtain ⟨c, hc, hkc⟩ := List.mem_flatMap.mp hk
    exact plcPitchCallsCh_ok hf hp first hc (List.mem_flatMap.mpr ⟨k, hkc, hak⟩)
  · obtain ⟨c, _, hac⟩ := List.mem_flatMap.mp ha
    exact plcPitchInline_ok hf hp hac

/-- Noise-based concealment (frame descriptor with `C = CC`, one long block): buffer shift, optional prefilter_and_fold,
    synthesis. -/
theorem plcNoise_ok {f : Frame} (hf : f.Legal) (hC : f.C = f.CC) (hB : f.B = 1) (fold : Bool) {pOld pCur : Int}
    (ho : PeriodOk pOld) (hc : PeriodOk pCur) {a : Acc}
    (ha : a ∈ (plcNoiseCalls f fold pOld pCur).flatMap Call.accs ++ (if fold then foldInline f else []) ++
      synthInline { f with C := f.CC, B := 1 }) : a.ok f 0 := by
  have hff : ({ f with C := f.CC, B := 1 } : Frame) = f := by
    obtain ⟨N, LM, C, CC, ds, B⟩ := f; simp only at hC hB; subst hC; subst hB; rfl
  unfold plcNoiseCalls at ha
  rw [hff] at ha
  simp only [List.flatMap_append, List.mem_append] at ha
  -- buffer shift | prefilter_and_fold, calls | synthesis, calls | prefilter_and_fold, inline | synthesis, inline
  rcases ha with (((ha | ha) | ha) | ha) | ha
  · exact okAll_mem (all_apply noiseShift_all hf) ha
  · cases fold
    · simp at ha
    · exact fold_ok hf ho hc (List.mem_append_left _ ha)
  · exact synth_ok hf (List.mem_append_left _ ha)
  · cases fold
    · simp at ha
    · exact fold_ok hf ho hc (List.mem_append_right _ ha)
  · exact synth_ok hf (List.mem_append_right _ ha)

end Opus.CeltIdx
