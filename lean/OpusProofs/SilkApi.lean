import OpusModel.SilkApiSpec
/-! Configuration part of silk_Decode (dec_API.c:159-:224): silk_decoder_set_fs on a fresh or configured channel
    establishes `Cfg`, and for legal payload size and rate the two error exits of the per-channel loop are unreachable. -/
namespace Opus.SilkApi

/-! Named parts of the conjunctions `ChanOk`, `OrcOk`, `ArgsOk` of the specification. -/

theorem ChanOk.fs {api : Int} {c : Chan} (h : ChanOk api c) : c.fs_kHz = 8 ∨ c.fs_kHz = 12 ∨ c.fs_kHz = 16 := h.1.1
theorem ChanOk.nb {api : Int} {c : Chan} (h : ChanOk api c) : c.nb_subfr = 2 ∨ c.nb_subfr = 4 := h.1.2.1
theorem ChanOk.frame_length {api : Int} {c : Chan} (h : ChanOk api c) : c.frame_length = c.nb_subfr * 5 * c.fs_kHz :=
  h.1.2.2.1
theorem ChanOk.rsIn {api : Int} {c : Chan} (h : ChanOk api c) : c.rsIn = c.fs_kHz := h.1.2.2.2.2.2.2.2.2.2.1
theorem ChanOk.nFramesPerPacket {api : Int} {c : Chan} (h : ChanOk api c) :
    c.nFramesPerPacket = 1 ∨ c.nFramesPerPacket = 2 ∨ c.nFramesPerPacket = 3 := h.2.2.1
theorem ChanOk.nFramesDecoded {api : Int} {c : Chan} (h : ChanOk api c) :
    0 ≤ c.nFramesDecoded ∧ c.nFramesDecoded ≤ c.nFramesPerPacket := h.2.2.2

theorem OrcOk.rsLen0 {fl n : Int} {o : Orc} (h : OrcOk fl n o) : (rsOutp o 0).length = n.toNat := h.2.2.2.2.2.2.2.2.1
theorem OrcOk.rsLen1 {fl n : Int} {o : Orc} (h : OrcOk fl n o) : (rsOutp o 1).length = n.toNat := h.2.2.2.2.2.2.2.2.2

theorem ArgsOk.api {api : Int} {d : Dec} {a : Args} (h : ArgsOk api d a) : ApiOk api := h.1
theorem ArgsOk.rate {api : Int} {d : Dec} {a : Args} (h : ArgsOk api d a) : a.API_sampleRate = api := h.2.1
theorem ArgsOk.chAPI {api : Int} {d : Dec} {a : Args} (h : ArgsOk api d a) :
    a.nChannelsAPI = 1 ∨ a.nChannelsAPI = 2 := h.2.2.2.2.1
theorem ArgsOk.chInt {api : Int} {d : Dec} {a : Args} (h : ArgsOk api d a) :
    a.nChannelsInternal = 1 ∨ a.nChannelsInternal = 2 := h.2.2.2.2.2.1

/-- A configured frame is 10 or 20 ms long. -/
theorem Cfg.frame_range {api nb : Int} {c : Chan} (h : Cfg api c nb) :
    10 * c.fs_kHz ≤ c.frame_length ∧ 0 < c.frame_length ∧ c.frame_length ≤ 320 := by
  obtain ⟨hf, hnb, hfl, -⟩ := h
  rcases hnb with rfl | rfl <;> omega

theorem sext16_id {x : Int} (h : -32768 ≤ x ∧ x < 32768) : sext16 x = x := by unfold sext16; omega

theorem smulbb_small {a b : Int} (ha : -32768 ≤ a ∧ a < 32768) (hb : -32768 ≤ b ∧ b < 32768) : smulbb a b = a * b := by
  unfold smulbb; rw [sext16_id ha, sext16_id hb]

theorem resamplerInitRet_ok {k api : Int} (hk : k = 8 ∨ k = 12 ∨ k = 16) (ha : ApiOk api) :
    resamplerInitRet (k * 1000) api = 0 := by
  unfold resamplerInitRet ApiOk at *
  split <;> omega

/-- A channel on which silk_decoder_set_fs is about to run: fresh, or configured for some sub-frame count `nb0`. -/
def PreOk (api : Int) (c : Chan) : Prop :=
  (c.fs_kHz = 0 ∧ c.fs_API_hz = 0 ∧ c.frame_length = 0) ∨ (∃ nb0, Cfg api c nb0)

theorem setFs_ok {api k : Int} {c : Chan} (hk : k = 8 ∨ k = 12 ∨ k = 16) (ha : ApiOk api)
    (hnb : c.nb_subfr = 2 ∨ c.nb_subfr = 4) (hc : PreOk api c) :
    Cfg api (setFs c k api).1 c.nb_subfr ∧ (setFs c k api).2 = 0 ∧ (setFs c k api).1.fs_kHz = k ∧
    (setFs c k api).1.subfr_length = 5 * k ∧ (setFs c k api).1.nb_subfr = c.nb_subfr ∧
    (setFs c k api).1.nFramesPerPacket = c.nFramesPerPacket ∧ (setFs c k api).1.nFramesDecoded = c.nFramesDecoded := by
  have h5 : smulbb 5 k = 5 * k := smulbb_small (by omega) (by omega)
  have h20 : smulbb 20 k = 20 * k := smulbb_small (by omega) (by omega)
  have h1000 : smulbb k 1000 = k * 1000 := smulbb_small (by omega) (by omega)
  have hri := resamplerInitRet_ok hk ha
  have hfl : ∀ m, (0 ≤ m ∧ m < 8000) → smulbb c.nb_subfr m = c.nb_subfr * m := fun m hm => smulbb_small (by omega) (by omega)
  unfold setFs setFsResamp setFsTables setFsRate
  simp only [h5, h20, h1000, hri]
  unfold Cfg
  rcases hc with ⟨h1, h2, h3⟩ | ⟨nb0, hf, hn0, hfl0, hl, hlpc, hcb, hlow, hpc, hapi, hri', hro⟩
  · rcases hk with rfl | rfl | rfl <;> simp [h1, h2, h3, hfl _ (by omega : (0:Int) ≤ 40 ∧ (40:Int) < 8000), hfl _ (by omega : (0:Int) ≤ 60 ∧ (60:Int) < 8000), hfl _ (by omega : (0:Int) ≤ 80 ∧ (80:Int) < 8000)] <;> omega
  · rcases hk with rfl | rfl | rfl <;> rcases hf with hf | hf | hf <;> rcases hn0 with rfl | rfl <;>
      rcases hnb with hnb' | hnb' <;>
      simp [hf, hnb', hfl0, hl, hlpc, hcb, hlow, hpc, hapi, hri', hro, smulbb, sext16]

/-- What the loop body :179-:209 leaves in a channel. -/
def Cfgd (api : Int) (a : Args) (c c' : Chan) : Prop :=
  Cfg api c' c'.nb_subfr ∧ c'.subfr_length = 5 * c'.fs_kHz ∧
  (c'.nFramesPerPacket = 1 ∨ c'.nFramesPerPacket = 2 ∨ c'.nFramesPerPacket = 3) ∧
  c'.nFramesDecoded = c.nFramesDecoded ∧ c'.fs_kHz = a.internalSampleRate / 1024 + 1 ∧
  payloadCfg a.payloadSize_ms = some (c'.nFramesPerPacket, c'.nb_subfr)

theorem cfgChan_ok {api : Int} {a : Args} {c : Chan} (ha : ApiOk api) (hapi : a.API_sampleRate = api)
    (hp : a.payloadSize_ms = 0 ∨ a.payloadSize_ms = 10 ∨ a.payloadSize_ms = 20 ∨ a.payloadSize_ms = 40 ∨ a.payloadSize_ms = 60)
    (hr : a.internalSampleRate = 8000 ∨ a.internalSampleRate = 12000 ∨ a.internalSampleRate = 16000)
    (hc : PreOk api c) : ∃ c', cfgChan c a = .inr (c', 0, true) ∧ Cfgd api a c c' := by
  obtain ⟨nf, nb, hnb, hnf, hpc⟩ : ∃ nf nb, (nb = 2 ∨ nb = 4) ∧ (nf = 1 ∨ nf = 2 ∨ nf = 3) ∧
      payloadCfg a.payloadSize_ms = some (nf, nb) := by
    rcases hp with h | h | h | h | h <;> rw [h] <;> exact ⟨_, _, by decide, by decide, rfl⟩
  obtain ⟨k, hk, hfs, hkk⟩ : ∃ k, (k = 8 ∨ k = 12 ∨ k = 16) ∧ fsKHzDec a.internalSampleRate = some k ∧
      k = a.internalSampleRate / 1024 + 1 := by
    rcases hr with h | h | h <;> rw [h] <;> exact ⟨_, by decide, rfl, by decide⟩
  have hcfg : cfgChan c a = .inr ((setFs { c with nFramesPerPacket := nf, nb_subfr := nb } k api).1,
      (setFs { c with nFramesPerPacket := nf, nb_subfr := nb } k api).2,
      setFsPre { c with nFramesPerPacket := nf, nb_subfr := nb } k &&
        setFsPost (setFs { c with nFramesPerPacket := nf, nb_subfr := nb } k api).1) := by
    unfold cfgChan; simp only [hpc, hfs, hapi]
  rw [hcfg]
  obtain ⟨h1, h2, h3, h4, h5, h6, h7⟩ := setFs_ok (c := { c with nFramesPerPacket := nf, nb_subfr := nb }) hk ha hnb hc
  dsimp only at h1 h5 h6 h7
  have hpre : setFsPre { c with nFramesPerPacket := nf, nb_subfr := nb } k = true := by
    unfold setFsPre; rcases hk with rfl | rfl | rfl <;> rcases hnb with rfl | rfl <;> simp
  have hpost : setFsPost (setFs { c with nFramesPerPacket := nf, nb_subfr := nb } k api).1 = true := by
    unfold setFsPost
    simp [h1.frame_range.2]
  refine ⟨_, by rw [h2, hpre, hpost]; rfl, ?_⟩
  unfold Cfgd
  exact ⟨by rw [h5]; exact h1, by rw [h4, h3], by rw [h6]; exact hnf, h7, by rw [h3]; exact hkk, by rw [h6, h5]; exact hpc⟩

end Opus.SilkApi
