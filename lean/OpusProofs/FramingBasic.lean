import OpusModel.FramingSpec
/-
  Helper lemmas for C06: the TOC helpers ignore the frame-count code (`toc_helpers_congr`); `parse_size` against
  the RFC length coding, the padding chain and the VBR length loop, in both directions (what the parser consumes
  is exactly what the serialiser of the spec writes).  The switch in stages: `padStage`, then `sizeStage`, which is
  also what codes 0-2 do with a count and a VBR flag given by the code (`parseHdr_low`), so that every walk of the
  switch is a walk of these two stages.  Last, the memory-safety core of C06 / C01: on every input, in both
  framings, the parser is `tame` (`parseImpl_tame`).
-/
namespace Opus.FramingProofs
open Opus Opus.Framing Opus.FramingSpec

/-- The TOC helpers ignore the two frame-count-code bits. -/
theorem toc_helpers_congr (t1 t2 : Nat) (fs : Nat) (h : t1 / 4 = t2 / 4) :
    getMode t1 = getMode t2 ∧ getBandwidth t1 = getBandwidth t2 ∧ samplesPerFrame t1 fs = samplesPerFrame t2 fs ∧
    getNbChannels t1 = getNbChannels t2 := by
  have e1 : t1 / 128 = t2 / 128 := by omega
  have e2 : t1 / 32 = t2 / 32 := by omega
  have e3 : t1 / 8 = t2 / 8 := by omega
  have e4 : t1 / 16 = t2 / 16 := by omega
  unfold getMode getBandwidth samplesPerFrame getNbChannels
  rw [e1, e2, e3, e4, h]
  exact ⟨rfl, rfl, rfl, rfl⟩

theorem encLen_length_pos (n : Nat) : 1 ≤ (encLen n).length := by
  unfold encLen; split <;> simp

theorem encLen_length_le (n : Nat) : (encLen n).length ≤ 2 := by
  unfold encLen; split <;> simp

/-- Completeness for one length field: the parser reads back what `encLen` wrote. -/
theorem parseSize_encLen (n : Nat) (hn : n ≤ 1275) (tail : Bytes) (len : Int)
    (hl : ((encLen n).length : Int) ≤ len) :
    parseSize (encLen n ++ tail) len = .ok (((encLen n).length : Int), (n : Int)) := by
  unfold encLen at *
  split at hl
  · rename_i h
    simp only [if_pos h]
    simp at hl
    unfold parseSize
    have : ¬ len < 1 := by omega
    simp [this, h]
  · rename_i h
    simp only [if_neg h]
    simp at hl
    unfold parseSize
    have h1 : ¬ len < 1 := by omega
    have h2 : ¬ len < 2 := by omega
    have h3 : ¬ (252 + n % 4 < 252) := by omega
    simp [h1, h2, h3]
    omega

/-- Soundness for one length field: whatever `parse_size` accepts is an `encLen` image. -/
theorem parseSize_ok_inv (data : Bytes) (len : Int) (hb : BytesOk data) (bytes sz : Int)
    (h : parseSize data len = .ok (bytes, sz)) (hsz : 0 ≤ sz) :
    ∃ n : Nat, sz = n ∧ n ≤ 1275 ∧ bytes = (encLen n).length ∧ bytes ≤ len ∧
      data = encLen n ++ data.drop bytes.toNat := by
  unfold parseSize at h
  split at h
  · simp at h; omega
  · cases data with
    | nil => simp at h
    | cons b0 rest =>
      have hb0 : b0 < 256 := hb b0 (by simp)
      simp only at h
      split at h
      · rename_i hlen h252
        simp at h
        refine ⟨b0, by omega, by omega, ?_, by omega, ?_⟩
        · unfold encLen; simp [h252]; omega
        · unfold encLen; simp [h252]; rw [← h.1]; simp
      · split at h
        · simp at h; omega
        · cases rest with
          | nil => simp at h
          | cons b1 rest' =>
            have hb1 : b1 < 256 := hb b1 (by simp)
            simp at h
            rename_i hlen h252 hlen2
            refine ⟨4 * b1 + b0, by omega, by omega, ?_, by omega, ?_⟩
            · unfold encLen
              have : ¬ (4 * b1 + b0 < 252) := by omega
              simp [this]; omega
            · unfold encLen
              have : ¬ (4 * b1 + b0 < 252) := by omega
              simp [this]
              rw [← h.1]
              simp
              omega

/-- A modelled call "faults" when it would read outside the supplied bytes or trip an assertion. -/
def fault {α} : Res α → Bool
  | .oob => true
  | .abort => true
  | _ => false

/-- Neither a fault nor an error other than OPUS_INVALID_PACKET. -/
def tame {α} : Res α → Prop
  | .ok _ => True
  | .err e => e = .invalidPacket
  | _ => False

theorem tame.nofault {α} {r : Res α} (h : tame r) : fault r = false := by
  cases r with
  | ok _ => rfl
  | err _ => rfl
  | oob => exact h.elim
  | abort => exact h.elim

theorem tame.ne_oob {α} {r : Res α} (h : tame r) : r ≠ .oob := by
  intro he; subst he; exact h

theorem tame.cases {α} {r : Res α} (h : tame r) : (∃ a, r = .ok a) ∨ r = .err .invalidPacket := by
  cases r with
  | ok a => exact Or.inl ⟨a, rfl⟩
  | err e => exact Or.inr (congrArg _ h)
  | oob => exact h.elim
  | abort => exact h.elim

theorem parseSize_tame (data : Bytes) (len : Int) (hl : len ≤ data.length) : tame (parseSize data len) := by
  unfold parseSize
  split
  · trivial
  · cases data with
    | nil => simp at hl; omega
    | cons b0 rest =>
      simp only
      split
      · trivial
      · split
        · trivial
        · cases rest with
          | nil => simp at hl; omega
          | cons b1 r => trivial

theorem padChain_hdr (k last : Nat) (hlast : last < 255) (tail : Bytes) (len : Int) (pad : Nat)
    (hl : 255 * (k : Int) < len) :
    padChain (List.replicate k 255 ++ [last] ++ tail) len pad
      = .ok (tail, len - 255 * k - 1 - last, pad + 254 * k + last) := by
  induction k generalizing len pad with
  | zero =>
    simp [padChain]
    have : ¬ len ≤ 0 := by omega
    have h2 : ¬ last = 255 := by omega
    simp [this, h2]
  | succ k ih =>
    have : ¬ len ≤ 0 := by omega
    simp [List.replicate_succ, padChain, this]
    have := ih (len - 1 - 254) (pad + 254) (by omega)
    simp at this
    rw [this]
    simp
    constructor <;> omega

theorem padChain_inv (data : Bytes) (hb : BytesOk data) (len : Int) (pad : Nat)
    (d : Bytes) (l : Int) (p' : Nat) (h : padChain data len pad = .ok (d, l, p')) :
    ∃ k last : Nat, last < 255 ∧ data = List.replicate k 255 ++ [last] ++ d ∧
      l = len - 255 * k - 1 - last ∧ p' = pad + 254 * k + last ∧ 255 * (k : Int) < len := by
  induction data generalizing len pad with
  | nil => unfold padChain at h; split at h <;> simp at h
  | cons p rest ih =>
    unfold padChain at h
    split at h
    · simp at h
    · simp only at h
      split at h
      · rename_i hlen hp
        have hb' : BytesOk rest := fun b hb' => hb b (by simp [hb'])
        obtain ⟨k, last, h1, h2, h3, h4, h5⟩ := ih hb' _ _ h
        refine ⟨k + 1, last, h1, ?_, ?_, ?_, ?_⟩
        · simp [List.replicate_succ, hp, h2]
        · push_cast; omega
        · omega
        · push_cast; omega
      · rename_i hlen hp
        simp at h
        have : p < 256 := hb p (by simp)
        refine ⟨0, p, by omega, ?_, ?_, ?_, by omega⟩
        · simp [h.1]
        · omega
        · omega

theorem padChain_tame (data : Bytes) (len : Int) (pad : Nat) (hl : len ≤ data.length) :
    tame (padChain data len pad) ∧
    ∀ d l p', padChain data len pad = .ok (d, l, p') → l ≤ d.length := by
  induction data generalizing len pad with
  | nil =>
    unfold padChain
    have : len ≤ 0 := by simpa using hl
    simp [this, tame]
  | cons p rest ih =>
    unfold padChain
    split
    · simp [tame]
    · simp only
      split
      · exact ih _ _ (by simp at hl; omega)
      · refine ⟨trivial, ?_⟩
        intro d l p' h; simp at h; simp at hl; rw [← h.1, ← h.2.1]; omega

theorem padChain_no_oob (data : Bytes) (len : Int) (pad : Nat) (hl : len ≤ data.length) :
    padChain data len pad ≠ .oob :=
  (padChain_tame data len pad hl).1.ne_oob

/-- The padding flag of the count byte `ch` and, if set, the padding chain (src/opus.c:262-275). -/
def padStage (ch : Nat) (data : Bytes) (len : Int) : Res (Bytes × Int × Nat) :=
  if ch / 64 % 2 = 1 then padChain data len 0 else .ok (data, len, 0)

theorem padStage_tame (ch : Nat) (data : Bytes) (len : Int) (hl : len ≤ data.length) :
    tame (padStage ch data len) ∧
    ∀ d l p', padStage ch data len = .ok (d, l, p') → l ≤ d.length := by
  unfold padStage
  split
  · exact padChain_tame data len 0 hl
  · refine ⟨trivial, ?_⟩
    intro d l p' h; simp at h; rw [← h.1, ← h.2.1]; exact hl

/-- A padding chain as `some (k, last)`: `k` bytes 255, then `last < 255`; `none`: the flag is clear. -/
def padHdrW (padw : Option (Nat × Nat)) : Bytes :=
  match padw with | some kl => List.replicate kl.1 255 ++ [kl.2] | none => []

def padTotal (padw : Option (Nat × Nat)) : Nat := match padw with | some kl => 254 * kl.1 + kl.2 | none => 0

theorem padStage_hdr (ch : Nat) (padw : Option (Nat × Nat)) (tail : Bytes) (len : Int)
    (hflag : ch / 64 % 2 = 1 ↔ padw.isSome = true) (hlast : ∀ k last, padw = some (k, last) → last < 255)
    (hl : ((padHdrW padw).length : Int) + padTotal padw ≤ len) :
    padStage ch (padHdrW padw ++ tail) len
      = .ok (tail, len - (padHdrW padw).length - padTotal padw, padTotal padw) := by
  unfold padStage
  match padw, hflag, hlast, hl with
  | none, hflag, _, _ =>
    rw [if_neg (by simpa using hflag)]
    simp [padHdrW, padTotal]
  | some (k, last), hflag, hlast, hl =>
    simp only [padHdrW, padTotal, List.length_append, List.length_replicate, List.length_cons, List.length_nil] at hl ⊢
    rw [if_pos (by simpa using hflag), padChain_hdr k last (hlast k last rfl) tail len 0 (by omega)]
    simp only [Res.ok.injEq, Prod.mk.injEq, true_and]
    omega

theorem padStage_inv (ch : Nat) (data : Bytes) (hb : BytesOk data) (len : Int) (d : Bytes) (l : Int) (pad : Nat)
    (h : padStage ch data len = .ok (d, l, pad)) :
    ∃ padw : Option (Nat × Nat), data = padHdrW padw ++ d ∧ pad = padTotal padw ∧
      l = len - (padHdrW padw).length - padTotal padw ∧ (ch / 64 % 2 = 1 ↔ padw.isSome = true) ∧
      (∀ k last, padw = some (k, last) → last < 255) := by
  unfold padStage at h
  by_cases hp : ch / 64 % 2 = 1
  · rw [if_pos hp] at h
    obtain ⟨k, last, h1, h2, h3, h4, h5⟩ := padChain_inv data hb _ 0 d l pad h
    refine ⟨some (k, last), by simpa [padHdrW] using h2, by simp [padTotal, h4], ?_, by simp [hp], ?_⟩
    · simp [padHdrW, padTotal]; omega
    · intro k' last' he; simp at he; omega
  · rw [if_neg hp] at h
    simp at h
    exact ⟨none, by simp [padHdrW, h.1], by simp [padTotal, h.2.2], by simp [padHdrW, padTotal, h.2.1], by simp [hp], by simp⟩

/-- Total header bytes of a list of explicit lengths. -/
def H (ss : List Nat) : Nat := (ss.flatMap encLen).length

@[simp] theorem H_nil : H [] = 0 := rfl
theorem H_cons (s : Nat) (ss : List Nat) : H (s :: ss) = (encLen s).length + H ss := by
  simp [H]

theorem vbrSizes_enc (ss : List Nat) (hs : ∀ s ∈ ss, s ≤ 1275) (tail : Bytes) (len last : Int)
    (hfit : (H ss : Int) + sumN ss ≤ len) :
    vbrSizes ss.length (ss.flatMap encLen ++ tail) len last
      = .ok (ss, tail, len - H ss, last - H ss - sumN ss) := by
  induction ss generalizing len last with
  | nil => simp [vbrSizes]
  | cons s ss ih =>
    have hs0 : s ≤ 1275 := hs s (by simp)
    rw [H_cons] at hfit
    simp only [sumN_cons] at hfit
    push_cast at hfit
    simp only [List.length_cons, List.flatMap_cons, List.append_assoc]
    unfold vbrSizes
    rw [parseSize_encLen s hs0 _ len (by omega)]
    simp only
    have hcond : ¬ ((s : Int) < 0 ∨ (s : Int) > len - ((encLen s).length : Int)) := by omega
    rw [if_neg hcond]
    have hdrop : List.drop ((encLen s).length : Int).toNat (encLen s ++ (ss.flatMap encLen ++ tail))
        = ss.flatMap encLen ++ tail := by simp
    rw [hdrop]
    rw [ih (fun x hx => hs x (by simp [hx])) _ _ (by omega)]
    simp [H_cons]
    constructor <;> omega

theorem vbrSizes_inv (n : Nat) (data : Bytes) (hb : BytesOk data) (len last : Int) (hlen : 0 ≤ len)
    (ss : List Nat) (d : Bytes) (l la : Int)
    (h : vbrSizes n data len last = .ok (ss, d, l, la)) :
    ss.length = n ∧ (∀ s ∈ ss, s ≤ 1275) ∧ data = ss.flatMap encLen ++ d ∧
      l = len - H ss ∧ la = last - H ss - sumN ss ∧ (H ss : Int) ≤ len := by
  induction n generalizing data len last ss d l la with
  | zero =>
    simp [vbrSizes] at h
    obtain ⟨h1, h2, h3, h4⟩ := h
    subst h1 h2 h3 h4
    simp [hlen]
  | succ n ih =>
    unfold vbrSizes at h
    split at h
    · rename_i bytes sz hps
      simp only at h
      split at h
      · simp at h
      · rename_i hcond
        have hsz : 0 ≤ sz := by omega
        obtain ⟨m, hm1, hm2, hm3, hm4, hm5⟩ := parseSize_ok_inv data len hb bytes sz hps hsz
        split at h
        · rename_i ss' d' l' la' hrec
          simp at h
          obtain ⟨h1, h2, h3, h4⟩ := h
          have hb' : BytesOk (data.drop bytes.toNat) := fun b hb' => hb b (List.mem_of_mem_drop hb')
          obtain ⟨i1, i2, i3, i4, i5, i6⟩ := ih _ hb' _ _ (by omega) _ _ _ _ hrec
          subst h1 h2 h3 h4
          have : sz.toNat = m := by omega
          rw [this]
          refine ⟨by simp [i1], ?_, ?_, ?_, ?_, ?_⟩
          · intro s hs; simp at hs; rcases hs with rfl | hs
            · exact hm2
            · exact i2 s hs
          · rw [List.flatMap_cons, List.append_assoc, ← i3]; exact hm5
          · rw [H_cons]; push_cast; omega
          · rw [H_cons]; simp only [sumN_cons]; push_cast; omega
          · rw [H_cons]; push_cast; omega
        all_goals cases h
    all_goals cases h

theorem parseSize_shape (data : Bytes) (len : Int) (bytes sz : Int)
    (h : parseSize data len = .ok (bytes, sz)) :
    (bytes = -1 ∧ sz = -1) ∨ (bytes = 1 ∧ 0 ≤ sz ∧ 1 ≤ len) ∨ (bytes = 2 ∧ 0 ≤ sz ∧ 2 ≤ len) := by
  unfold parseSize at h
  split at h
  · simp at h; omega
  · cases data with
    | nil => simp at h
    | cons b0 rest =>
      simp only at h
      split at h
      · simp at h; omega
      · split at h
        · simp at h; omega
        · cases rest with
          | nil => simp at h
          | cons b1 r => simp at h; omega

theorem vbrSizes_tame (n : Nat) (data : Bytes) (len last : Int) (hl : len ≤ data.length) :
    tame (vbrSizes n data len last) ∧
    ∀ ss d l la, vbrSizes n data len last = .ok (ss, d, l, la) → l ≤ d.length := by
  induction n generalizing data len last with
  | zero =>
    simp only [vbrSizes]
    refine ⟨trivial, ?_⟩
    intro ss d l la h; simp at h; rw [← h.2.1, ← h.2.2.1]; exact hl
  | succ n ih =>
    unfold vbrSizes
    have hpf := parseSize_tame data len hl
    split
    · rename_i bytes sz hps
      simp only
      split
      · exact ⟨rfl, by simp⟩
      · have hshape := parseSize_shape data len bytes sz hps
        have hl' : len - bytes ≤ ((data.drop bytes.toNat).length : Int) := by
          simp only [List.length_drop]; omega
        have ih' := ih (data.drop bytes.toNat) (len - bytes) (last - (bytes + sz)) hl'
        split
        · rename_i ss d l la hrec
          refine ⟨trivial, ?_⟩
          intro ss' d' l' la' h; simp at h
          rw [← h.2.1, ← h.2.2.1]; exact ih'.2 _ _ _ _ hrec
        all_goals (rename_i hrec; rw [hrec] at ih'; exact ⟨ih'.1, by simp⟩)
    all_goals (rename_i hps; rw [hps] at hpf; exact ⟨hpf, by simp⟩)

theorem vbrSizes_no_oob (n : Nat) (data : Bytes) (len last : Int) (hl : len ≤ data.length) :
    vbrSizes n data len last ≠ .oob :=
  (vbrSizes_tame n data len last hl).1.ne_oob

/-- The VBR length loop or the CBR division (src/opus.c:276-303), for `n` frames: what code 3 does once the count byte
    and the padding chain are read.  `vbr` is the VBR flag; `len` is the length before the count byte, which the CBR
    self-delimited form leaves in `lastSize` and never uses. -/
def sizeStage (sd : Bool) (n : Nat) (vbr : Prop) [Decidable vbr] (len : Int) (data2 : Bytes) (len2 : Int) (pad : Nat) :
    Res Hdr :=
  if len2 < 0 then .err .invalidPacket
  else if vbr then
    match vbrSizes (n - 1) data2 len2 len2 with
    | .ok (ss, d, l, last) =>
      if last < 0 then .err .invalidPacket
      else .ok { count := n, cbr := false, sizes := ss, data := d, len := l, lastSize := last, pad }
    | .err e => .err e
    | .oob => .oob
    | .abort => .abort
  else if sd then
    .ok { count := n, cbr := true, sizes := [], data := data2, len := len2, lastSize := len, pad }
  else if len2 / (n : Nat) * (n : Nat) ≠ len2 then .err .invalidPacket
  else .ok { count := n, cbr := true, sizes := [], data := data2, len := len2, lastSize := len2 / (n : Nat), pad }

theorem parseCode3_cons (sd : Bool) (fs ch : Nat) (data1 : Bytes) (len : Int) :
    parseCode3 sd fs (ch :: data1) len =
      if len < 1 then .err .invalidPacket
      else if ch % 64 = 0 ∨ fs * (ch % 64) > 5760 then .err .invalidPacket
      else match padStage ch data1 (len - 1) with
        | .ok (data2, len2, pad) => sizeStage sd (ch % 64) (ch / 128 % 2 = 1) len data2 len2 pad
        | .err e => .err e
        | .oob => .oob
        | .abort => .abort := by
  unfold parseCode3 padStage sizeStage
  rfl

theorem parseHdr_code3 (sd : Bool) (toc : Nat) (data : Bytes) (len : Int) (h3 : toc % 4 = 3) :
    parseHdr sd toc data len = parseCode3 sd (samplesPerFrame toc 48000) data len := by
  unfold parseHdr
  rw [if_neg (by omega), if_neg (by omega), if_neg (by omega)]

/-- Codes 0, 1 and 2 are the size stage of code 3 with the frame count and the VBR flag fixed by the code instead of
    read from a count byte, and no padding: code 0 is one VBR frame, code 2 two VBR frames, code 1 two CBR frames. -/
theorem parseHdr_low (sd : Bool) (toc : Nat) (data : Bytes) (len : Int) (h3 : toc % 4 ≠ 3) (hl : 0 ≤ len) :
    parseHdr sd toc data len = sizeStage sd (if toc % 4 = 0 then 1 else 2) (toc % 4 ≠ 1) len data len 0 := by
  have hc : toc % 4 = 0 ∨ toc % 4 = 1 ∨ toc % 4 = 2 := by omega
  unfold parseHdr sizeStage
  rw [if_neg (Int.not_lt.mpr hl)]
  rcases hc with hc | hc | hc <;>
    simp only [hc, ↓reduceIte, Nat.reduceEqDiff, Nat.reduceSub, ne_eq, not_true_eq_false, not_false_eq_true, vbrSizes]
  · rw [if_neg (Int.not_lt.mpr hl)]
  · cases sd with
    | true => rfl
    | false =>
      -- `len & 1` against the exact-division test `len / 2 * 2 ≠ len` of code 3
      simp only [Bool.false_eq_true, if_false]
      by_cases ho : len % 2 = 1
      · rw [if_pos ho, if_pos (by omega)]
      · rw [if_neg ho, if_neg (by omega)]; rfl
  · cases parseSize data len with
    | ok v =>
      obtain ⟨bytes, sz⟩ := v
      simp only
      split
      · rfl
      · -- a size that fits leaves `last_size ≥ 0`: the test after the loop of code 3 cannot fire
        simp only
        rw [if_neg (by omega)]
        simp only [Res.ok.injEq, Hdr.mk.injEq, true_and, and_true]
        omega
    | err e => rfl
    | oob => rfl
    | abort => rfl

/-- `finish` accepts a header whose remaining data starts (self-delimited framing) with the coded length `L` of the
    last frame, or (standard framing) whose `lastSize` is `L`; `finish_inv` is the converse. -/
theorem finish_ok (sd : Bool) (total toc : Nat) (h : Hdr) (L : Nat) (tail : Bytes) (hL : L ≤ 1275)
    (hdata : h.data = (if sd then encLen L else []) ++ tail)
    (hns : sd = false → h.lastSize = L)
    (hsd : sd = true → ((encLen L).length : Int) ≤ h.len ∧ (L : Int) ≤ h.len - (encLen L).length ∧
      (if h.cbr then (L : Int) * h.count ≤ h.len - (encLen L).length
       else ((encLen L).length : Int) + L ≤ h.lastSize)) :
    finish sd total toc h =
      .ok (mkParsed total toc h (if h.cbr then List.replicate h.count L else h.sizes ++ [L]) tail) := by
  unfold finish
  cases sd with
  | false =>
    have := hns rfl
    simp only [Bool.false_eq_true, if_false, List.nil_append] at hdata ⊢
    rw [if_neg (by omega), this, hdata]
    cases h.cbr <;> simp
  | true =>
    obtain ⟨h1, h2, h3⟩ := hsd rfl
    simp only [if_true] at hdata ⊢
    rw [hdata, parseSize_encLen L hL tail h.len h1]
    simp only
    rw [if_neg (by omega)]
    cases hc : h.cbr <;> simp only [hc, if_true, Bool.false_eq_true, if_false] at h3 ⊢
    · rw [if_neg (by omega)]; simp
    · rw [if_neg (by omega)]; simp

theorem finish_tame (sd : Bool) (total toc : Nat) (h : Hdr) (hl : h.len ≤ h.data.length) :
    tame (finish sd total toc h) := by
  unfold finish
  have hpf := parseSize_tame h.data h.len hl
  cases sd with
  | false =>
    simp only [Bool.false_eq_true, if_false]
    split
    · rfl
    · split <;> trivial
  | true =>
    simp only [if_true]
    split
    · split
      · rfl
      · split <;> split <;> trivial
    all_goals (rename_i hps; rw [hps] at hpf; exact hpf)

theorem sizeStage_tame (sd : Bool) (n : Nat) (vbr : Prop) [Decidable vbr] (len : Int) (data2 : Bytes) (len2 : Int)
    (pad : Nat) (hl2 : len2 ≤ data2.length) :
    tame (sizeStage sd n vbr len data2 len2 pad) ∧
    ∀ h, sizeStage sd n vbr len data2 len2 pad = .ok h → h.len ≤ h.data.length := by
  have hrefl : ∀ h : Hdr, h.len ≤ h.data.length →
      tame (Res.ok h) ∧ ∀ h', Res.ok h = .ok h' → h'.len ≤ h'.data.length := fun h hlen =>
    ⟨trivial, fun h' hh => by cases hh; exact hlen⟩
  unfold sizeStage
  split
  · exact ⟨rfl, nofun⟩
  · split
    · have hv := vbrSizes_tame (n - 1) data2 len2 len2 hl2
      cases hvs : vbrSizes (n - 1) data2 len2 len2 with
      | err e => rw [hvs] at hv; exact ⟨hv.1, nofun⟩
      | oob => rw [hvs] at hv; exact hv.1.elim
      | abort => rw [hvs] at hv; exact hv.1.elim
      | ok q =>
        obtain ⟨ss, d, l, last⟩ := q
        simp only
        split
        · exact ⟨rfl, nofun⟩
        · exact hrefl _ (hv.2 _ _ _ _ hvs)
    · split
      · exact hrefl _ hl2
      · split
        · exact ⟨rfl, nofun⟩
        · exact hrefl _ hl2

theorem parseCode3_tame (sd : Bool) (fs : Nat) (data : Bytes) :
    tame (parseCode3 sd fs data data.length) ∧
    ∀ h, parseCode3 sd fs data data.length = .ok h → h.len ≤ h.data.length := by
  cases data with
  | nil => exact ⟨rfl, nofun⟩
  | cons ch data1 =>
    rw [parseCode3_cons]
    split
    · exact ⟨rfl, nofun⟩
    · split
      · exact ⟨rfl, nofun⟩
      · have hpc := padStage_tame ch data1 (((ch :: data1).length : Int) - 1) (by simp)
        cases hps : padStage ch data1 (((ch :: data1).length : Int) - 1) with
        | err e => rw [hps] at hpc; exact ⟨hpc.1, nofun⟩
        | oob => rw [hps] at hpc; exact hpc.1.elim
        | abort => rw [hps] at hpc; exact hpc.1.elim
        | ok tr =>
          obtain ⟨data2, len2, pad⟩ := tr
          exact sizeStage_tame sd _ _ _ data2 len2 pad (hpc.2 _ _ _ hps)

theorem parseHdr_tame (sd : Bool) (toc : Nat) (data : Bytes) :
    tame (parseHdr sd toc data data.length) ∧
    ∀ h, parseHdr sd toc data data.length = .ok h → h.len ≤ h.data.length := by
  by_cases h3 : toc % 4 = 3
  · rw [parseHdr_code3 sd toc data _ h3]
    exact parseCode3_tame sd _ data
  · rw [parseHdr_low sd toc data _ h3 (by omega)]
    exact sizeStage_tame sd _ _ _ data _ 0 (Int.le_refl _)

/-- On every input the parser returns a result or OPUS_INVALID_PACKET: it never reads outside the supplied bytes
    and trips no assertion. -/
theorem parseImpl_tame (sd : Bool) (bs : Bytes) : tame (parseImpl sd bs) := by
  unfold parseImpl
  cases bs with
  | nil => rfl
  | cons toc data =>
    simp only
    have hh := parseHdr_tame sd toc data
    split
    · rename_i h hhdr; exact finish_tame sd _ toc h (hh.2 h hhdr)
    all_goals (rename_i hhdr; rw [hhdr] at hh; exact hh.1)

theorem parseImpl_nofault (sd : Bool) (bs : Bytes) : fault (parseImpl sd bs) = false :=
  (parseImpl_tame sd bs).nofault

theorem parseImpl_err_invalid (sd : Bool) (bs : Bytes) (e : Err) (h : parseImpl sd bs = .err e) :
    e = .invalidPacket := by
  have := parseImpl_tame sd bs
  rw [h] at this; exact this

end Opus.FramingProofs
