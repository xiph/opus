import OpusProofs.CeltSymsBasic
import OpusProofs.SilkSymsDecode
/-
  C03: the SILK symbol layer preserves the stand-alone range-decoder invariant `J` (`val < 2^32`, `2^23 < rng ≤ 2^31`)
  on arbitrary bytes, through `silk_Decode`, the payload loop and the redundancy header — so the decoder state that
  `opus_decode_frame` hands to the CELT layer in hybrid frames satisfies it.

  `J` is an instance of `ReadInv` (SilkSymsBasic): a read from a well-formed ICDF slice (`icdfSliceOk`: first entry
  below 256, strictly decreasing down to a `0`) keeps `r·icdf[k]` strictly decreasing until the scan of `ec_dec_icdf`
  stops, which is all `J` needs; that every table the decoder reads is such a slice is shown read by read in the walk
  of SilkSymsIndices / SilkSymsPulses / SilkSymsFlags / SilkSymsDecode.
-/
namespace Opus.SilkSymsProofs
open Opus Opus.RangeCoder Opus.SilkSyms Opus.SilkSymsFrozen.Icdf
open Opus.CeltSymsProofs (J J_icdf_chain J_bitLogp J_uint J_decInit Chain)

theorem chain_of_slice (r : Nat) (hr : 1 ≤ r) : ∀ (xs : List Nat) (x0 : Nat), icdfSliceOk (x0 :: xs) = true →
    x0 < 256 ∧ (x0 = 0 ∨ Chain r (r * x0) xs)
  | [], x0, h => by
    simp only [icdfSliceOk, beq_iff_eq] at h
    exact ⟨by omega, Or.inl h⟩
  | x :: xs, x0, h => by
    simp only [icdfSliceOk, Bool.and_eq_true, Bool.or_eq_true, decide_eq_true_eq, beq_iff_eq] at h
    refine ⟨h.1, ?_⟩
    rcases h.2 with hz | ⟨hlt, ht⟩
    · exact Or.inl hz
    · exact Or.inr ⟨Nat.mul_lt_mul_of_pos_left hlt (by omega), (chain_of_slice r hr xs x ht).2⟩

/-- One symbol from a well-formed slice preserves `J`: `r·icdf[k]` decreases strictly until the scan stops. -/
theorem J_sym (c : Dec) (hj : J c) {tbl : List Nat} (ht : icdfSliceOk tbl = true) : J (sym c tbl).2 := by
  unfold sym
  apply J_icdf_chain c hj tbl 8
  obtain ⟨hv, hr0, hr1⟩ := hj
  cases tbl with
  | nil => trivial
  | cons x0 xs =>
    have hr : 1 ≤ c.rng / 2 ^ 8 := (Nat.le_div_iff_mul_le (by decide)).2 (by omega)
    obtain ⟨hx, hch⟩ := chain_of_slice _ hr xs x0 ht
    have h1 : c.rng / 2 ^ 8 * x0 < c.rng := by
      have ha : c.rng / 2 ^ 8 * (x0 + 1) ≤ c.rng / 2 ^ 8 * 2 ^ 8 := Nat.mul_le_mul_left _ (by omega)
      have hb := Nat.div_mul_le_self c.rng (2 ^ 8)
      have hc : c.rng / 2 ^ 8 * (x0 + 1) = c.rng / 2 ^ 8 * x0 + c.rng / 2 ^ 8 := by rw [Nat.mul_add, Nat.mul_one]
      omega
    exact ⟨h1, hch⟩

theorem readInv_J : ReadInv J :=
  ⟨fun c _ h hj => J_sym c hj h, fun c hj => (J_bitLogp c hj 1 (by omega) (by omega)).1⟩

theorem redundancyBlock_J (mode : Nat) (len : Int) (c : Dec) (hj : J c) : J (redundancyBlock mode len c).2.2.2.2 := by
  have h1 := (J_bitLogp c hj 1 (by omega) (by omega)).1
  have h2 : J (redundancyBytes mode len (decBitLogp c 1).2).2 := by
    unfold redundancyBytes
    split
    · exact (J_uint _ h1 256 (by omega) (by omega)).2
    · exact h1
  unfold redundancyBlock
  dsimp only
  split <;> exact h2

theorem redundancyHeader_J (mode : Nat) (fec : Bool) (len : Int) (c : Dec) (hj : J c) :
    J (redundancyHeader mode fec len c).2.2.2.2 := by
  unfold redundancyHeader
  by_cases hc : (¬ fec ∧ tell c + 17 + (if mode = 1001 then 20 else 0) ≤ 8 * len)
  · rw [if_pos hc]
    by_cases hm : mode = 1001
    · rw [if_pos hm]
      have h1 := (J_bitLogp c hj 12 (by omega) (by omega)).1
      generalize decBitLogp c 12 = y at h1
      obtain ⟨r, c1⟩ := y
      dsimp only at h1 ⊢
      split
      · exact redundancyBlock_J mode len c1 h1
      · exact h1
    · rw [if_neg hm]
      exact redundancyBlock_J mode len c hj
  · rw [if_neg hc]
    exact hj

/-- The decoder state a frame record ends with satisfies `J`, for every configuration `decodeOpusFrame` can set up
    and arbitrary bytes. -/
theorem decodeOpusFrameCfg_J (mode ir pm : Nat) (fec : Bool) (cfg : Cfg) (hnb : 1 ≤ cfg.nbSubfr) (hf : cfg.nfpp ≤ 3)
    (st : SilkSt) (fr : Bytes) : J (decodeOpusFrameCfg mode ir pm fec cfg st fr).dec := by
  unfold decodeOpusFrameCfg
  exact redundancyHeader_J mode fec fr.length _
    (silkCalls_rd readInv_J cfg hnb hf cfg.nfpp true st _ (J_decInit fr fr.length)).2

theorem decodeOpusFrame_J (mode bw nCh ms10 : Nat) (fec : Bool) (st : SilkSt) (fr : Bytes) (o : FrameOut)
    (h : decodeOpusFrame mode bw nCh ms10 fec st fr = .ok o) : J o.dec := by
  obtain ⟨ir, pm, cfg, rfl, _, hnb, hf, _⟩ := decodeOpusFrame_cfg h
  exact decodeOpusFrameCfg_J _ _ _ _ _ hnb hf _ _

end Opus.SilkSymsProofs
