import OpusProofs.DecSkelNative
/-
  OpusProofs.DecSkelApi — `decodeNative_spec` in the two forms the entry points use; the three format wrappers (`decodeApi_cases`, `decodeApi_spec`);
  one call of a history and whole histories; `exOracle`, an oracle within the contracts; `evGood_extent`.
-/
namespace Opus.DecSkel
open Opus Opus.Framing

theorem Good.of_log_nil {r : Run} (h : DecInv r.st) (hl : r.log = []) (cap0 : Int) : Good r.st cap0 r :=
  ⟨h, rfl, rfl, by intro e he; rw [hl] at he; cases he⟩

theorem good_fresh {st : DecState} (h : DecInv st) (cap0 : Int) : Good st cap0 { st := st, k := 0, log := [] } :=
  Good.of_log_nil (r := { st := st, k := 0, log := [] }) h rfl cap0

theorem callerBuf_cap (st0 : DecState) (n : Int) : PtrCapOk st0 n { buf := .pcm, off := 0, cap := n } := rfl

theorem ptrCap_of_pcm {st : DecState} {pcm : Ptr} (h : pcm.buf = .pcm) : PtrCapOk st pcm.cap pcm := by
  simp [PtrCapOk, h]

/-- `decodeNative_spec` for a call on a run that has logged nothing yet, into the caller's buffer: the reference state is the
    state of the call, the capacity that of `pcm`. -/
theorem decodeNative_fresh {o : Oracle} (ho : OracleOk o) {r : Run} (hinv : DecInv r.st) (hlog : r.log = [])
    (data : Option Bytes) (hb : ∀ bs, data = some bs → BytesOk bs) (len : Int) (pcm : Ptr) (frame_size fec : Int)
    (sd sc : Bool) (hbuf : pcm.buf = .pcm) (hroom : 0 ≤ pcm.off ∧ pcm.off + frame_size * r.st.channels ≤ pcm.cap) :
    NativeOk r.st pcm.cap r frame_size (nativeRet r.st data len frame_size fec sd) (decodeNative o data len pcm frame_size fec sd sc r) :=
  decodeNative_spec ho (.of_log_nil hinv hlog _) data hb len pcm frame_size fec sd sc hroom (ptrCap_of_pcm hbuf)

/-- … and as the entry points make it: a fresh run, a buffer of exactly `fsz * channels` samples. -/
theorem decodeNative_entry {o : Oracle} (ho : OracleOk o) {st : DecState} (hinv : DecInv st) (data : Option Bytes)
    (hb : ∀ bs, data = some bs → BytesOk bs) (len fsz fec : Int) (sd sc : Bool) :
    NativeOk st (fsz * st.channels) { st := st, k := 0, log := [] } fsz (nativeRet st data len fsz fec sd)
      (decodeNative o data len { buf := .pcm, off := 0, cap := fsz * st.channels } fsz fec sd sc { st := st, k := 0, log := [] }) :=
  decodeNative_fresh (r := { st := st, k := 0, log := [] }) ho hinv rfl data hb len
    { buf := .pcm, off := 0, cap := fsz * st.channels } fsz fec sd sc rfl (by simp)

/-- The entry points `opus_decode` / `opus_decode24` / `opus_decode_float` for a positive `frame_size`: ONE call of
    `opus_decode_native` into a buffer of `fsz * channels` samples, where `fsz` is `frame_size` or — 16/24-bit, a packet, no
    FEC (:860-867) — `frame_size` clamped to the packet's duration; OPUS_INVALID_PACKET when that duration is not positive. -/
theorem decodeApi_cases (o : Oracle) (fmt : Fmt) (data : Option Bytes) (len frame_size fec : Int) (r : Run)
    (hpos : 0 < frame_size) (hch : r.st.channels = 1 ∨ r.st.channels = 2) :
    (decodeApi o fmt data len frame_size fec r = { ret := .ret INVALID_PACKET, packetOffset := 0, run := r } ∧
      data.isSome = true ∧ len > 0 ∧ fec = 0 ∧ nbSamples ((data.getD []).take len.toNat) r.st.Fs ≤ 0) ∨
    ∃ (sc : Bool) (fsz : Int), decodeApi o fmt data len frame_size fec r =
        decodeNative o data len { buf := .pcm, off := 0, cap := fsz * r.st.channels } fsz fec false sc r ∧
      (fsz = frame_size ∨ (data.isSome = true ∧ len > 0 ∧ fec = 0 ∧ 0 < nbSamples ((data.getD []).take len.toNat) r.st.Fs ∧
        fsz = min frame_size (nbSamples ((data.getD []).take len.toNat) r.st.Fs))) := by
  have hch' : ¬ ¬ (r.st.channels = 1 ∨ r.st.channels = 2) := fun h => h hch
  unfold decodeApi
  rw [if_neg (by omega)]
  cases fmt with
  | f32 => exact Or.inr ⟨false, frame_size, rfl, Or.inl rfl⟩
  | i16 | i24 =>
    simp only
    by_cases hc : data.isSome = true ∧ len > 0 ∧ fec = 0
    · by_cases hnb : nbSamples ((data.getD []).take len.toNat) r.st.Fs > 0
      · simp only [if_pos hc, if_pos hnb, if_neg hch']
        exact Or.inr ⟨_, _, rfl, Or.inr ⟨hc.1, hc.2.1, hc.2.2, hnb, rfl⟩⟩
      · simp only [if_pos hc, if_neg hnb]
        exact Or.inl ⟨trivial, hc.1, hc.2.1, hc.2.2, by omega⟩
    · simp only [if_neg hc, if_neg hch']
      exact Or.inr ⟨_, _, rfl, Or.inl rfl⟩

/-- For loss / FEC calls the three public entry points do not clamp `frame_size`: they call
    `opus_decode_native` with the caller's `frame_size` (and a buffer of exactly that size). -/
theorem decodeApi_loss_eq {o : Oracle} (fmt : Fmt) (data : Option Bytes) (len frame_size fec : Int) (r : Run)
    (hpos : 0 < frame_size) (hch : r.st.channels = 1 ∨ r.st.channels = 2)
    (hloss : data = none ∨ len ≤ 0 ∨ fec ≠ 0) :
    ∃ sc, decodeApi o fmt data len frame_size fec r =
      decodeNative o data len { buf := .pcm, off := 0, cap := frame_size * r.st.channels } frame_size fec false sc r := by
  have hno : ¬ (data.isSome = true ∧ len > 0 ∧ fec = 0) := by
    rintro ⟨h1, h2, h3⟩
    rcases hloss with h | h | h
    · rw [h] at h1; cases h1
    · omega
    · exact h h3
  rcases decodeApi_cases o fmt data len frame_size fec r hpos hch with ⟨_, h⟩ | ⟨sc, fsz, e, h | h⟩
  · exact absurd ⟨h.1, h.2.1, h.2.2.1⟩ hno
  · exact ⟨sc, h ▸ e⟩
  · exact absurd ⟨h.1, h.2.1, h.2.2.1⟩ hno

/-- The three format wrappers under the oracle contracts: a documented result, the invariant, only
    legal inner calls, accesses inside the buffer handed to `opus_decode_native` (the caller's own
    buffer for float, the stack buffer `out` of the same size for 16/24-bit). -/
theorem decodeApi_spec {o : Oracle} (ho : OracleOk o) {st : DecState} (hinv : DecInv st) (fmt : Fmt)
    (data : Option Bytes) (hb : ∀ bs, data = some bs → BytesOk bs) (len frame_size fec : Int) :
    ∃ v cap0, cap0 ≤ max 0 frame_size * st.channels ∧
      NativeOk st cap0 { st := st, k := 0, log := [] } frame_size v (decodeApi o fmt data len frame_size fec { st := st, k := 0, log := [] }) := by
  have hch := hinv.ch
  -- the two early error returns
  have failed : ∀ e : Int, e = BAD_ARG ∨ e = INVALID_PACKET →
      ∃ v cap0, cap0 ≤ max 0 frame_size * st.channels ∧
        NativeOk st cap0 { st := st, k := 0, log := [] } frame_size v { ret := .ret e, packetOffset := 0, run := { st := st, k := 0, log := [] } } :=
    fun e he => ⟨e, 0, by rcases hch with h | h <;> rw [h] <;> omega,
      .error (po := 0) (good_fresh hinv 0) (he.elim Or.inl fun h => Or.inr (Or.inr h))⟩
  by_cases h0 : frame_size ≤ 0
  · unfold decodeApi
    rw [if_pos h0]; exact failed _ (Or.inl rfl)
  rcases decodeApi_cases o fmt data len frame_size fec { st := st, k := 0, log := [] } (by omega) hch with
    ⟨e, _⟩ | ⟨sc, fsz, e, hf⟩
  · rw [e]; exact failed _ (Or.inr rfl)
  · rw [e]
    exact ⟨_, fsz * st.channels, by rcases hch with h | h <;> rw [h] <;> omega,
      (decodeNative_entry ho hinv data hb len fsz fec false sc).mono (by omega)⟩

theorem init_inv {fs ch : Int} {st : DecState} (h : init fs ch = some st) : DecInv st := by
  unfold init at h
  split at h
  · cases h
  · rename_i hc
    simp only [Option.some.injEq] at h
    subst h
    have hfs : FsOk fs := by unfold FsOk; omega
    have hch : ch = 1 ∨ ch = 2 := by omega
    exact { fs := hfs, ch := hch, api := rfl, nca := rfl, isr := Or.inl rfl, nci := Or.inl rfl, ps := Or.inl rfl,
            sch := hch, toc := Or.inl ⟨rfl, rfl, rfl⟩, pm := Or.inl rfl, pr := Or.inl rfl,
            silkReady := by intro h; simp only at h; rcases h with h | h <;> exact absurd h (by decide),
            gain := by simp, lpd := by simp }

theorem reset_inv {st : DecState} (h : DecInv st) : DecInv (reset st) :=
  { h with sch := h.ch, toc := Or.inl ⟨rfl, rfl, rfl⟩, pm := Or.inl rfl, pr := Or.inl rfl,
           silkReady := fun h => by unfold reset at h; simp only at h; rcases h with h | h <;> exact absurd h (by decide),
           lpd := Int.le_refl 0 }

theorem setGain_inv {st : DecState} (h : DecInv st) (v : Int) : DecInv (setGain st v).2 := by
  unfold setGain
  split
  · exact h
  · rename_i hv
    exact h.withGain v (by omega)

theorem stepCall_inv {o : Oracle} (ho : OracleOk o) {st : DecState} (h : DecInv st) (c : Call) (hc : c.WF) :
    DecInv (stepCall o st c) := by
  cases c with
  | decode fmt data len fsz fec =>
    obtain ⟨_, _, _, hn⟩ := decodeApi_spec ho h fmt data hc len fsz fec
    exact hn.good.inv
  | native data len fsz fec sd sc =>
    exact (decodeNative_entry ho h data hc len fsz fec sd sc).good.inv
  | reset => exact reset_inv h
  | gain v => exact setGain_inv h v

theorem runHistory_inv {os : Nat → Oracle} (hos : ∀ i, OracleOk (os i)) :
    ∀ (cs : List Call) (i : Nat) (st : DecState), DecInv st → (∀ c ∈ cs, c.WF) → DecInv (runHistory os i st cs) := by
  intro cs
  induction cs with
  | nil => intro i st h _; exact h
  | cons c cs ih =>
    intro i st h hwf
    unfold runHistory
    exact ih (i + 1) _ (stepCall_inv (hos i) h c (hwf c (by simp))) (fun c' hc' => hwf c' (by simp [hc']))

/-- A concrete oracle within the contracts (SILK and CELT always succeed, every coded bit is 0). -/
def exOracle : Oracle :=
  { silk := fun _ a => (0, silkSamples a, 1), celt := fun _ a => a.frame_size,
    bit := fun _ _ t => (0, t), uint := fun _ _ t => (0, t) }

theorem exOracle_ok : OracleOk exOracle :=
  { silk := fun _ _ _ => ⟨rfl, rfl, fun _ => Int.le_refl 1⟩, celt := fun _ _ _ => rfl,
    bit := fun _ logp tell h => ⟨Or.inl rfl, Int.le_refl _, by simp only [exOracle]; omega⟩,
    uint := fun _ ft tell h => ⟨Int.le_refl 0, h, Int.le_refl _⟩ }

/-- `EvGood` spelled out for the extent of an event. -/
theorem evGood_extent {st0 : DecState} {cap0 : Int} {e : Ev} (h : EvGood st0 cap0 e) {p : Ptr} {n : Int}
    (he : e.extent? = some (p, n)) : p.room n ∧ PtrCapOk st0 cap0 p := by
  obtain ⟨hok, hcap⟩ := h
  cases e with
  | decInit off len => simp [Ev.extent?] at he
  | silk a q ret m =>
    simp only [Ev.extent?, Option.some.injEq, Prod.mk.injEq] at he
    obtain ⟨rfl, rfl⟩ := he
    exact ⟨hok.2.2.2, hcap q rfl⟩
  | celt a q ret =>
    simp only [Ev.extent?, Option.some.injEq, Prod.mk.injEq] at he
    obtain ⟨rfl, rfl⟩ := he
    exact ⟨hok.2.2.1, hcap q rfl⟩
  | acc site q m =>
    simp only [Ev.extent?, Option.some.injEq, Prod.mk.injEq] at he
    obtain ⟨rfl, rfl⟩ := he
    exact ⟨hok, hcap q rfl⟩
  | silkReset => simp [Ev.extent?] at he
  | clip q m ch =>
    simp only [Ev.extent?, Option.some.injEq, Prod.mk.injEq] at he
    obtain ⟨rfl, rfl⟩ := he
    exact ⟨hok, hcap q rfl⟩

end Opus.DecSkel
