import OpusProofs.RangeCoderCanon
import OpusProofs.RangeCoderFlags
/-
  OpusProofs.RangeCoderTwin — C08: `ec_enc_patch_initial_bits` versus coding the true bits.

  A stream whose first `k ≤ 7` bits are coded as a placeholder (symbol 0 of `2^k` equiprobable ones) and patched
  afterwards to `w` is, byte for byte, the stream obtained by coding the bits of `w` in the first place.
  `twin k w c` is the state the second encoder is in when the first is in `c` (before the patch): the first output
  digit — still in `val`, pending in `rem`, or already in `buf[0]` — carries `w` in its top `k` bits.  That the low
  bits never carry into the top ones is the cell invariant of OpusProofs/RangeCoderPatch.lean.
-/
namespace Opus.RangeCoder

/-- the first digit's share of `w` -/
def dlt (k w : Nat) : Nat := w * 2 ^ (8 - k)

def setBuf0 (x : Nat) (c : Enc) : Enc := { c with buf := c.buf.set 0 x }
def setRem (r : Int) (c : Enc) : Enc := { c with rem := r }
def setExt (e : Nat) (c : Enc) : Enc := { c with ext := e }
/-- first digit committed: in `buf[0]` -/
def twinB (f : Nat → Nat) (c : Enc) : Enc := setBuf0 (f (c.buf.getD 0 0)) c
/-- first digit pending in `rem` (a digit 0xFF is counted in `ext` instead) -/
def twinR (δ : Nat) (c : Enc) : Enc :=
  if c.rem.toNat + δ = 255 then setRem (-1) (setExt (u32 (c.ext + 1)) c)
  else setRem ((c.rem.toNat + δ : Nat) : Int) c
/-- first digit still in `val` -/
def twinV (D : Nat) (c : Enc) : Enc := { c with val := c.val + D }

def twin (k w : Nat) (c : Enc) : Enc :=
  if c.offs ≥ 1 then twinB (fun b => patchByte b w k % 256) c
  else if c.rem ≥ 0 then twinR (dlt k w) c
  else twinV (w * 2 ^ (31 - k)) c

theorem pow_ext_one {e : Nat} (h : 256 ^ e < 2) : e = 0 := by
  cases e with
  | zero => rfl
  | succ n =>
    have : 0 < 256 ^ n := Nat.pow_pos (by decide)
    rw [Nat.pow_succ] at h; omega

/-- What the cell invariant says about a state that has not committed a byte yet. -/
theorem cell0_facts (k : Nat) (c : Enc) (hk1 : 1 ≤ k) (hc : Cell k 0 c) (ho : c.offs = 0) (rp : 0 < c.rng) :
    (c.rem < 0 → c.ext = 0 ∧ c.val + c.rng ≤ 2 ^ (31 - k)) ∧
    (c.rem ≥ 0 → c.rem.toNat < 2 ^ (8 - k) ∧ (2147483648 ≤ c.val → c.rem.toNat + 1 < 2 ^ (8 - k))) := by
  have hk8 := hc.n_le
  have hi := hc.hi
  have htk0 : c.buf.take c.offs = [] := by rw [ho]; rfl
  unfold encLow digitsVal at hi
  rw [htk0, bytesVal_nil, Nat.zero_mul, Nat.zero_add, Nat.zero_add, Nat.one_mul] at hi
  have hX : 0 < 256 ^ c.ext := Nat.pow_pos (by decide)
  constructor
  · intro hr
    have pc : pendCount c = c.ext := by unfold pendCount; rw [if_neg (by omega)]; omega
    have pv : pendVal c = 256 ^ c.ext - 1 := by unfold pendVal; rw [if_neg (by omega)]; omega
    unfold cellSz encM at hi
    rw [ho, Nat.zero_add, pc, pv] at hi
    have hP : 2 ^ (31 - k) ≤ 2 ^ 30 := Nat.pow_le_pow_right (by decide) (by omega)
    have h1 : 2 ^ (31 - k) * 256 ^ c.ext ≤ 1073741824 * 256 ^ c.ext := Nat.mul_le_mul_right _ hP
    have hX2 : 256 ^ c.ext < 2 := by
      generalize 256 ^ c.ext = X at *
      have hsub : (X - 1) * 2147483648 = X * 2147483648 - 2147483648 := by rw [Nat.sub_mul]
      omega
    have he0 := pow_ext_one hX2
    rw [he0] at hi
    simp only [Nat.pow_zero, Nat.sub_self, Nat.zero_mul, Nat.zero_add, Nat.mul_one] at hi
    exact ⟨he0, hi⟩
  · intro hr
    have pc : pendCount c = 1 + c.ext := by unfold pendCount; rw [if_pos hr]
    have pv : pendVal c = c.rem.toNat * 256 ^ c.ext + (256 ^ c.ext - 1) := by unfold pendVal; rw [if_pos hr]
    have hM : encM c = 1 + c.ext := by unfold encM; rw [pc, ho, Nat.zero_add]
    rw [cellSz_eq c k hk8 (by omega), hM, Nat.add_sub_cancel_left, pv] at hi
    have eA : (c.rem.toNat + 1) * 256 ^ c.ext = c.rem.toNat * 256 ^ c.ext + 256 ^ c.ext := by
      rw [Nat.add_mul, Nat.one_mul]
    -- with the carry `val` may hold, the pending digits stay below the cell's end
    have h2 : (c.rem.toNat + 1) * 256 ^ c.ext + c.val / 2147483648 ≤ 2 ^ (8 - k) * 256 ^ c.ext := by
      rw [eA]
      generalize c.rem.toNat * 256 ^ c.ext = A at *
      generalize 2 ^ (8 - k) * 256 ^ c.ext = QX at *
      generalize 256 ^ c.ext = X at *
      omega
    refine ⟨?_, fun hv => Nat.lt_of_mul_lt_mul_right (a := 256 ^ c.ext) (by omega)⟩
    have := Nat.le_of_mul_le_mul_right (Nat.le_trans (Nat.le_add_right _ _) h2) hX
    omega

section upd
variable (c : Enc) (x : Nat) (r r' : Int) (e : Nat)
@[simp] theorem setBuf0_offs : (setBuf0 x c).offs = c.offs := rfl
@[simp] theorem setBuf0_rem : (setBuf0 x c).rem = c.rem := rfl
@[simp] theorem setBuf0_ext : (setBuf0 x c).ext = c.ext := rfl
@[simp] theorem setRem_offs : (setRem r c).offs = c.offs := rfl
@[simp] theorem setRem_rem : (setRem r c).rem = r := rfl
@[simp] theorem setRem_ext : (setRem r c).ext = c.ext := rfl
@[simp] theorem setRem_buf : (setRem r c).buf = c.buf := rfl
@[simp] theorem setExt_offs : (setExt e c).offs = c.offs := rfl
@[simp] theorem setExt_rem : (setExt e c).rem = c.rem := rfl
@[simp] theorem setExt_ext : (setExt e c).ext = e := rfl
theorem setRem_setRem : setRem r (setRem r' c) = setRem r c := rfl
theorem setExt_setRem : setExt e (setRem r c) = setRem r (setExt e c) := rfl
end upd

theorem carryOut_255' (c : Enc) : carryOut c 255 = setExt (u32 (c.ext + 1)) c := by rw [carryOut_255]; rfl

/-- nothing pending: only `rem` changes -/
theorem carryOut_empty (c : Enc) (cc : Nat) (h : cc ≠ 255) (hr : ¬ 0 ≤ c.rem) (he : c.ext = 0) :
    carryOut c cc = setRem ((cc % 256 : Nat) : Int) c := by
  rw [carryOut_eq_writes _ _ h]
  unfold pend
  rw [if_neg hr, he]
  show ({ c with rem := _, ext := 0 } : Enc) = { c with rem := _ }
  rw [← he]

theorem writes_error_mono : ∀ (l : List Nat) (c : Enc), c.error ≠ 0 → (writes c l).error ≠ 0
  | [], _, h => h
  | b :: l, c, h => writes_error_mono l _ (writeByte_error_mono h)

theorem writeByte_set0 (c : Enc) (x v : Nat) (ho : 1 ≤ c.offs) :
    writeByte (setBuf0 x c) v = setBuf0 x (writeByte c v) := by
  unfold writeByte
  by_cases h : c.offs + c.endOffs ≥ c.storage
  · rw [if_pos h, if_pos (show (setBuf0 x c).offs + (setBuf0 x c).endOffs ≥ (setBuf0 x c).storage from h)]
    rfl
  · rw [if_neg h, if_neg (show ¬ ((setBuf0 x c).offs + (setBuf0 x c).endOffs ≥ (setBuf0 x c).storage) from h)]
    show ({ c with buf := (c.buf.set 0 x).set c.offs (v % 256), offs := c.offs + 1 } : Enc) =
      { c with buf := (c.buf.set c.offs (v % 256)).set 0 x, offs := c.offs + 1 }
    rw [List.set_comm _ _ (by omega : (0 : Nat) ≠ c.offs)]

theorem writeByte_get0 (c : Enc) (v : Nat) (ho : 1 ≤ c.offs) :
    (writeByte c v).buf.getD 0 0 = c.buf.getD 0 0 ∧ 1 ≤ (writeByte c v).offs := by
  unfold writeByte
  split
  · exact ⟨rfl, ho⟩
  · refine ⟨?_, by show 1 ≤ c.offs + 1; omega⟩
    show (c.buf.set c.offs (v % 256)).getD 0 0 = c.buf.getD 0 0
    rw [getD_set, if_neg (by omega)]

theorem writes_set0 (x : Nat) : ∀ (l : List Nat) (c : Enc), 1 ≤ c.offs →
    writes (setBuf0 x c) l = setBuf0 x (writes c l) ∧ (writes c l).buf.getD 0 0 = c.buf.getD 0 0 ∧
    1 ≤ (writes c l).offs
  | [], _, ho => ⟨rfl, rfl, ho⟩
  | b :: l, c, ho => by
    obtain ⟨g1, g2⟩ := writeByte_get0 c b ho
    obtain ⟨a1, a2, a3⟩ := writes_set0 x l (writeByte c b) g2
    rw [writes, writes, writeByte_set0 c x b ho]
    exact ⟨a1, a2.trans g1, a3⟩

theorem carryOut_twinB (f : Nat → Nat) (c : Enc) (cc : Nat) (ho : 1 ≤ c.offs) :
    carryOut (twinB f c) cc = twinB f (carryOut c cc) ∧ 1 ≤ (carryOut c cc).offs := by
  by_cases h : cc = 255
  · subst h
    rw [carryOut_255', carryOut_255']
    exact ⟨rfl, ho⟩
  · obtain ⟨a1, a2, a3⟩ := writes_set0 (f (c.buf.getD 0 0)) (pend c (cc / 256)) c ho
    rw [carryOut_eq_writes _ _ h, carryOut_eq_writes _ _ h]
    refine ⟨?_, a3⟩
    unfold twinB
    rw [show pend (setBuf0 (f (c.buf.getD 0 0)) c) (cc / 256) = pend c (cc / 256) from rfl, a1]
    show _ = setBuf0 (f ((writes c (pend c (cc / 256))).buf.getD 0 0)) _
    rw [a2]
    rfl

theorem carryOut_twinR (δ : Nat) (f : Nat → Nat) (c : Enc) (cc : Nat) (hcc : cc ≠ 255) (ho : c.offs = 0) (hr : 0 ≤ c.rem)
    (hsp : c.offs + c.endOffs < c.storage) (hlen : c.storage ≤ c.buf.length)
    (hδ : c.rem.toNat + cc / 256 + δ ≤ 255) (hf : f (c.rem.toNat + cc / 256) = c.rem.toNat + cc / 256 + δ)
    (hext : c.ext + 1 < 4294967296) :
    carryOut (twinR δ c) cc = twinB f (carryOut c cc) ∧ 1 ≤ (carryOut c cc).offs := by
  have hbl : 0 < c.buf.length := by omega
  have hW : ∀ a : Nat, a ≤ 255 → writeByte c a = { c with buf := c.buf.set 0 a, offs := 1 } := by
    intro a ha
    rw [writeByte_eq a hsp, ho, Nat.mod_eq_of_lt (by omega)]
  have hWW : ∀ a b : Nat, a ≤ 255 → b ≤ 255 → writeByte c b = setBuf0 b (writeByte c a) := by
    intro a b ha hb
    rw [hW a ha, hW b hb]
    show _ = ({ c with buf := (c.buf.set 0 a).set 0 b, offs := 1 } : Enc)
    rw [List.set_set]
  have hW1 : 1 ≤ (writeByte c (c.rem.toNat + cc / 256)).offs := by rw [hW _ (by omega)]; exact Nat.le_refl _
  have hW0 : (writeByte c (c.rem.toNat + cc / 256)).buf.getD 0 0 = c.rem.toNat + cc / 256 := by
    rw [hW _ (by omega)]
    show (c.buf.set 0 (c.rem.toNat + cc / 256)).getD 0 0 = _
    rw [getD_set, if_pos ⟨rfl, hbl⟩]
  generalize hL : List.replicate c.ext ((255 + cc / 256) % 256) = L
  have hP : pend c (cc / 256) = (c.rem.toNat + cc / 256) :: L := by
    unfold pend; rw [if_pos hr, hL]; rfl
  obtain ⟨f1, f2, f3⟩ := writes_set0 (c.rem.toNat + cc / 256 + δ) L (writeByte c (c.rem.toNat + cc / 256)) hW1
  have hF : carryOut c cc = { writes (writeByte c (c.rem.toNat + cc / 256)) L with
      rem := ((cc % 256 : Nat) : Int), ext := 0 } := by rw [carryOut_eq_writes _ _ hcc, hP, writes]
  refine ⟨?_, by rw [hF]; exact f3⟩
  -- the other coder writes the same bytes behind a first byte that is `δ` larger
  have hRHS : twinB f (carryOut c cc) = { writes c ((c.rem.toNat + cc / 256 + δ) :: L) with
      rem := ((cc % 256 : Nat) : Int), ext := 0 } := by
    rw [hF]
    unfold twinB
    show setBuf0 (f ((writes (writeByte c (c.rem.toNat + cc / 256)) L).buf.getD 0 0)) _ = _
    rw [f2, hW0, hf, writes, hWW (c.rem.toNat + cc / 256) (c.rem.toNat + cc / 256 + δ) (by omega) (by omega), f1]
    rfl
  rw [hRHS, carryOut_eq_writes _ _ hcc]
  by_cases hcor : c.rem.toNat + δ = 255
  · -- the shifted digit is 0xFF: it is counted in `ext`
    have hc0 : cc / 256 = 0 := by omega
    have ht : twinR δ c = { c with rem := -1, ext := c.ext + 1 } := by
      unfold twinR; rw [if_pos hcor]
      have : u32 (c.ext + 1) = c.ext + 1 := Nat.mod_eq_of_lt hext
      rw [this]; rfl
    have hp : pend { c with rem := -1, ext := c.ext + 1 } (cc / 256) = (c.rem.toNat + cc / 256 + δ) :: L := by
      unfold pend; rw [if_neg (by show ¬ ((-1 : Int) ≥ 0); decide), ← hL]
      show List.replicate (c.ext + 1) _ = _
      rw [List.replicate_succ, hc0]
      have : c.rem.toNat + 0 + δ = (255 + 0) % 256 := by omega
      rw [this]
    rw [ht, hp, writes_with_rem_ext (-1) (c.ext + 1) _ c]
  · have ht : twinR δ c = { c with rem := ((c.rem.toNat + δ : Nat) : Int) } := by
      unfold twinR; rw [if_neg hcor]; rfl
    have hp : pend { c with rem := ((c.rem.toNat + δ : Nat) : Int) } (cc / 256) = (c.rem.toNat + cc / 256 + δ) :: L := by
      unfold pend; rw [if_pos (by show ((c.rem.toNat + δ : Nat) : Int) ≥ 0; omega), ← hL]
      show [((c.rem.toNat + δ : Nat) : Int).toNat + cc / 256] ++ _ = _
      have : ((c.rem.toNat + δ : Nat) : Int).toNat + cc / 256 = c.rem.toNat + cc / 256 + δ := by omega
      rw [this]; rfl
    rw [ht, hp, writes_with_rem _ _ c]

def nsUpd (v r n : Nat) (x : Enc) : Enc := { x with val := v, rng := r, nbitsTotal := n }

theorem normStep_eq (c : Enc) : normStep c =
    nsUpd (c.val * 256 % 2147483648) (u32 (c.rng * 256)) (c.nbitsTotal + 8) (carryOut c (c.val / 8388608)) := rfl

theorem twinB_nsUpd (f : Nat → Nat) (v r n : Nat) (x : Enc) : twinB f (nsUpd v r n x) = nsUpd v r n (twinB f x) := rfl
theorem twinR_nsUpd (δ v r n : Nat) (x : Enc) : twinR δ (nsUpd v r n x) = nsUpd v r n (twinR δ x) := by
  unfold twinR
  show (if x.rem.toNat + δ = 255 then _ else _) = _
  split <;> rfl

theorem twinB_fields (f : Nat → Nat) (c : Enc) : (twinB f c).val = c.val ∧ (twinB f c).rng = c.rng ∧
    (twinB f c).nbitsTotal = c.nbitsTotal := ⟨rfl, rfl, rfl⟩
theorem twinR_fields (δ : Nat) (c : Enc) : (twinR δ c).val = c.val ∧ (twinR δ c).rng = c.rng ∧
    (twinR δ c).nbitsTotal = c.nbitsTotal := by
  unfold twinR; split <;> exact ⟨rfl, rfl, rfl⟩

theorem twin_B (k w : Nat) (c : Enc) (ho : 1 ≤ c.offs) : twin k w c = twinB (fun b => patchByte b w k % 256) c := by
  unfold twin; rw [if_pos ho]
theorem twin_R (k w : Nat) (c : Enc) (ho : c.offs = 0) (hr : 0 ≤ c.rem) : twin k w c = twinR (dlt k w) c := by
  unfold twin; rw [if_neg (by omega), if_pos hr]
theorem twin_V (k w : Nat) (c : Enc) (ho : c.offs = 0) (hr : ¬ 0 ≤ c.rem) :
    twin k w c = twinV (w * 2 ^ (31 - k)) c := by
  unfold twin; rw [if_neg (by omega), if_neg hr]

/-- the powers of two involved, with `Q = 2^(8-k)` as the only non-numeral -/
theorem kfacts (k w : Nat) (hk1 : 1 ≤ k) (hk8 : k ≤ 8) (hw : w < 2 ^ k) :
    2 ^ (31 - k) = 2 ^ (8 - k) * 8388608 ∧ w * 2 ^ (31 - k) = dlt k w * 8388608 ∧
    dlt k w + 2 ^ (8 - k) ≤ 256 ∧ 1 ≤ 2 ^ (8 - k) ∧ 2 ^ (8 - k) ≤ 128 := by
  have e1 : 2 ^ (31 - k) = 2 ^ (8 - k) * 8388608 := by
    have : 31 - k = (8 - k) + 23 := by omega
    rw [this, Nat.pow_add]
  have h2 := cell_end_le (m := 8) hk8 hw
  have h3 : 2 ^ (8 - k) ≤ 2 ^ 7 := Nat.pow_le_pow_right (by decide) (by omega)
  refine ⟨e1, by unfold dlt; rw [e1, Nat.mul_assoc], by unfold dlt; exact h2, Nat.pow_pos (by decide), h3⟩

theorem twinV_fields (D : Nat) (c : Enc) : (twinV D c).val = c.val + D ∧ (twinV D c).rng = c.rng ∧
    (twinV D c).nbitsTotal = c.nbitsTotal ∧ (twinV D c).ext = c.ext ∧ (twinV D c).rem = c.rem := ⟨rfl, rfl, rfl, rfl, rfl⟩
theorem nsUpd_twinV (D v r n : Nat) (y : Enc) : nsUpd v r n (twinV D y) = nsUpd v r n y := rfl
theorem setExt_twinV (D e : Nat) (y : Enc) : setExt e (twinV D y) = twinV D (setExt e y) := rfl
theorem setRem_twinV (D : Nat) (r : Int) (y : Enc) : setRem r (twinV D y) = twinV D (setRem r y) := rfl
theorem setRem_self (c : Enc) (r : Int) (h : c.rem = r) : setRem r c = c := by subst h; rfl
theorem setRem_setExt (c : Enc) (r : Int) (e : Nat) : setRem r (setExt e c) = setExt e (setRem r c) := rfl

/-- adding `δ * 2^23` to `val` raises the digit `ec_enc_normalize` carries out by `δ` … -/
theorem digit_add (δ v : Nat) : (v + δ * 8388608) / 8388608 = v / 8388608 + δ := by omega
/-- … and leaves what stays in `val` alone -/
theorem rest_add (δ v : Nat) : (v + δ * 8388608) * 256 % 2147483648 = v * 256 % 2147483648 := by omega

/-- the first digit leaves `val` for `rem` -/
theorem twin_normStep_V (δ D : Nat) (c : Enc) (hD : D = δ * 8388608) (hQ : c.val / 8388608 + δ ≤ 255)
    (hQ2 : c.val / 8388608 < 128) (hrem : c.rem = -1) (he0 : c.ext = 0) :
    normStep (twinV D c) = twinR δ (normStep c) := by
  have hr : ¬ 0 ≤ c.rem := by omega
  have hcc255 : c.val / 8388608 ≠ 255 := by omega
  have hns : normStep c = nsUpd (c.val * 256 % 2147483648) (u32 (c.rng * 256)) (c.nbitsTotal + 8)
      (setRem ((c.val / 8388608 : Nat) : Int) c) := by
    rw [normStep_eq, carryOut_empty _ _ hcc255 hr he0]
    have : c.val / 8388608 % 256 = c.val / 8388608 := Nat.mod_eq_of_lt (by omega)
    rw [this]
  rw [hns, twinR_nsUpd, normStep_eq]
  obtain ⟨ev, er, en, e0, hr'⟩ := twinV_fields D c
  rw [ev, er, en, hD, digit_add, rest_add, ← hD]
  unfold twinR
  rw [setRem_rem, setRem_ext, Int.toNat_natCast]
  rw [he0] at e0
  by_cases hcor : c.val / 8388608 + δ = 255
  · rw [if_pos hcor, hcor, carryOut_255', e0, he0, setExt_twinV, nsUpd_twinV, setExt_setRem, setRem_setRem,
      ← setExt_setRem, setRem_self c (-1) hrem]
  · rw [if_neg hcor, carryOut_empty _ _ hcor (by rw [hr']; exact hr) e0]
    have : (c.val / 8388608 + δ) % 256 = c.val / 8388608 + δ := Nat.mod_eq_of_lt (by omega)
    rw [this, setRem_twinV, nsUpd_twinV, setRem_setRem]

/-- the first digit stays in `rem` when the digit carried out is 0xFF (it is only counted), else it moves to `buf[0]` -/
theorem twin_normStep_R (δ : Nat) (f : Nat → Nat) (c : Enc) (ho0 : c.offs = 0) (hr : 0 ≤ c.rem) (hlen : c.storage ≤ c.buf.length)
    (hδ : c.rem.toNat + c.val / 8388608 / 256 + δ ≤ 255)
    (hf : f (c.rem.toNat + c.val / 8388608 / 256) = c.rem.toNat + c.val / 8388608 / 256 + δ) (hext : c.ext + 1 < 4294967296)
    (herr : (normStep c).error = 0) :
    (c.val / 8388608 = 255 → normStep (twinR δ c) = twinR δ (normStep c) ∧ (normStep c).offs = 0 ∧ 0 ≤ (normStep c).rem) ∧
    (c.val / 8388608 ≠ 255 → normStep (twinR δ c) = twinB f (normStep c) ∧ 1 ≤ (normStep c).offs) := by
  obtain ⟨b1, b2, b3⟩ := twinR_fields δ c
  constructor
  · intro h255
    have hns : normStep c = nsUpd (c.val * 256 % 2147483648) (u32 (c.rng * 256)) (c.nbitsTotal + 8)
        (setExt (u32 (c.ext + 1)) c) := by rw [normStep_eq, h255, carryOut_255']
    refine ⟨?_, by rw [hns]; exact ho0, by rw [hns]; exact hr⟩
    rw [normStep_eq (twinR δ c), b1, b2, b3, hns, twinR_nsUpd, h255, carryOut_255']
    congr 1
    unfold twinR
    show _ = (if c.rem.toNat + δ = 255 then _ else _)
    by_cases hcor : c.rem.toNat + δ = 255
    · rw [if_pos hcor, if_pos hcor]; rfl
    · rw [if_neg hcor, if_neg hcor]; rfl
  · intro h255
    have herr1 : (carryOut c (c.val / 8388608)).error = 0 := by rw [normStep_eq] at herr; exact herr
    have hsp : c.offs + c.endOffs < c.storage := by
      rw [carryOut_eq_writes _ _ h255] at herr1
      unfold pend at herr1
      rw [if_pos hr] at herr1
      have e1 : (writes (writeByte c (c.rem.toNat + c.val / 8388608 / 256)) _).error = 0 := herr1
      exact (writeByte_ok (zero_of_sticky (writes_error_mono _ _) e1)).2
    obtain ⟨a1, a2⟩ := carryOut_twinR δ f c (c.val / 8388608) h255 ho0 hr hsp hlen hδ hf hext
    refine ⟨?_, by rw [normStep_eq]; exact a2⟩
    rw [normStep_eq (twinR δ c), b1, b2, b3, a1, normStep_eq, twinB_nsUpd]

theorem twin_normStep (k w : Nat) (c : Enc) (hk1 : 1 ≤ k) (hk8 : k ≤ 8) (hw : w < 2 ^ k) (pre : EncPre c)
    (hc : Cell k 0 c) (hn : c.nbitsTotal < 4294967296) (herr : (normStep c).error = 0) :
    normStep (twin k w c) = twin k w (normStep c) := by
  obtain ⟨q1, q2, q3, q4, q5⟩ := kfacts k w hk1 hk8 hw
  have hext : c.ext + 1 < 4294967296 := by have := pre.ext_bound; omega
  have hcc : c.val / 8388608 < 512 := by have := pre.sum_le; have := pre.rng_pos; omega
  by_cases ho : 1 ≤ c.offs
  · obtain ⟨a1, a2⟩ := carryOut_twinB (fun b => patchByte b w k % 256) c (c.val / 8388608) ho
    rw [twin_B k w c ho, twin_B k w (normStep c) (by rw [normStep_eq]; exact a2)]
    rw [normStep_eq, normStep_eq]
    obtain ⟨b1, b2, b3⟩ := twinB_fields (fun b => patchByte b w k % 256) c
    rw [b1, b2, b3, a1, twinB_nsUpd]
  · have ho0 : c.offs = 0 := by omega
    obtain ⟨fV, fR⟩ := cell0_facts k c hk1 hc ho0 pre.rng_pos
    by_cases hr : 0 ≤ c.rem
    · obtain ⟨r1, r2⟩ := fR hr
      -- the pending digit with the carry that may reach it has its top `k` bits zero; so `dlt k w` fits on top of it
      have ha : c.rem.toNat + c.val / 8388608 / 256 < 2 ^ (8 - k) := by
        by_cases hv : 2147483648 ≤ c.val
        · have := r2 hv; omega
        · have : c.val / 8388608 / 256 = 0 := by omega
          omega
      have hδ : c.rem.toNat + c.val / 8388608 / 256 + dlt k w ≤ 255 := by omega
      have hf : (fun b => patchByte b w k % 256) (c.rem.toNat + c.val / 8388608 / 256) =
          c.rem.toNat + c.val / 8388608 / 256 + dlt k w := by
        obtain ⟨p1, p2⟩ := patchByte_eq (c.rem.toNat + c.val / 8388608 / 256) w k hk8 hw
        show patchByte _ w k % 256 = _
        rw [p1, Nat.mod_eq_of_lt p2, Nat.mod_eq_of_lt ha]; rfl
      obtain ⟨t1, t2⟩ := twin_normStep_R (dlt k w) (fun b => patchByte b w k % 256) c ho0 hr pre.wf.storage_le hδ hf hext herr
      rw [twin_R k w c ho0 hr]
      by_cases h255 : c.val / 8388608 = 255
      · obtain ⟨u1, u2, u3⟩ := t1 h255
        rw [u1, twin_R k w (normStep c) u2 u3]
      · obtain ⟨u1, u2⟩ := t2 h255
        rw [u1, twin_B k w (normStep c) u2]
    · obtain ⟨he0, hvr⟩ := fV (by omega)
      have hrem : c.rem = -1 := by have := pre.wf.rem_lo; omega
      have hrp := pre.rng_pos
      rw [q1] at hvr
      have hQ : c.val / 8388608 + dlt k w ≤ 255 := by omega
      rw [twin_V k w c ho0 hr, twin_normStep_V (dlt k w) (w * 2 ^ (31 - k)) c q2 hQ (by omega) hrem he0]
      have hns0 : (normStep c).offs = 0 ∧ 0 ≤ (normStep c).rem := by
        rw [normStep_eq, carryOut_empty _ _ (by omega) hr he0]
        exact ⟨ho0, by show (0 : Int) ≤ ((c.val / 8388608 % 256 : Nat) : Int); omega⟩
      rw [twin_R k w (normStep c) hns0.1 hns0.2]

theorem twin_fields (k w : Nat) (c : Enc) : (twin k w c).rng = c.rng ∧ (twin k w c).nbitsTotal = c.nbitsTotal ∧
    (twin k w c).error = c.error := by
  unfold twin
  split
  · exact ⟨rfl, rfl, rfl⟩
  · split
    · unfold twinR; split <;> exact ⟨rfl, rfl, rfl⟩
    · exact ⟨rfl, rfl, rfl⟩

theorem twinV_encSub (D : Nat) (c : Enc) (r a b : Nat) (first : Bool) :
    encSub (twinV D c) r a b first = twinV D (encSub c r a b first) := by
  unfold encSub
  cases first with
  | true => rfl
  | false =>
    simp only [Bool.false_eq_true, if_false]
    show ({ c with val := c.val + D + (c.rng - r * a), rng := r * (a - b) } : Enc) =
      { c with val := c.val + (c.rng - r * a) + D, rng := r * (a - b) }
    rw [Nat.add_right_comm]

theorem twin_encSub (k w : Nat) (c : Enc) (r a b : Nat) (first : Bool) :
    encSub (twin k w c) r a b first = twin k w (encSub c r a b first) := by
  have ho : (encSub c r a b first).offs = c.offs := by unfold encSub; split <;> rfl
  have hr : (encSub c r a b first).rem = c.rem := by unfold encSub; split <;> rfl
  by_cases h1 : 1 ≤ c.offs
  · rw [twin_B k w c h1, twin_B k w _ (by rw [ho]; exact h1)]
    unfold encSub; split <;> rfl
  · by_cases h2 : 0 ≤ c.rem
    · rw [twin_R k w c (by omega) h2, twin_R k w _ (by rw [ho]; omega) (by rw [hr]; exact h2)]
      unfold encSub twinR
      cases first with
      | true => simp only [if_true]; split <;> rfl
      | false => simp only [Bool.false_eq_true, if_false]; split <;> rfl
    · rw [twin_V k w c (by omega) h2, twin_V k w _ (by rw [ho]; omega) (by rw [hr]; exact h2)]
      exact twinV_encSub _ c r a b first

theorem twin_encNormalize (k w : Nat) (hk1 : 1 ≤ k) (hk8 : k ≤ 8) (hw : w < 2 ^ k) (c : Enc) (pre : EncPre c)
    (hc : Cell k 0 c) (hn : (encNormalize c).nbitsTotal < 4294967296) (herr : (encNormalize c).error = 0) :
    encNormalize (twin k w c) = twin k w (encNormalize c) := by
  -- along the normalisation of `c`, the other coder's normalisation has got exactly as far
  have key := encNormalize_ind
    (fun c' => EncPre c' ∧ Cell k 0 c' ∧ encNormalize (twin k w c) = encNormalize (twin k w c'))
    (fun c' h0 h2 he hnb ⟨p, hc', e⟩ => by
      have hnb2 : (normStep c').nbitsTotal = c'.nbitsTotal + 8 := rfl
      obtain ⟨_, s1, _⟩ := normStep_spec c' p h2 (by omega) he
      refine ⟨s1, (normStep_nest c' p h2 (by omega) he).cell hc', ?_⟩
      rw [e, encNormalize_step (twin k w c') (by rw [(twin_fields k w c').1]; exact ⟨h0, h2⟩),
        twin_normStep k w c' hk1 hk8 hw p hc' (by omega) he]) c hn herr ⟨pre, hc, rfl⟩
  rw [key.2.2]
  have := (encNormalize_spec c pre hn herr).2.1.rng_lo
  exact encNormalize_done _ (by rw [(twin_fields k w _).1]; omega)

theorem twin_encOp (k w : Nat) (hk1 : 1 ≤ k) (hk8 : k ≤ 8) (hw : w < 2 ^ k) (c : Enc) (op : Op) (hp : op.isPrim = true)
    (ri : RunInv c) (ri' : RunInv (twin k w c)) (hc : Cell k 0 c) (hl : op.Legal)
    (hn : (encOp c op).nbitsTotal < 4294967296) (herr : (encOp c op).error = 0) :
    encOp (twin k w c) op = twin k w (encOp c op) ∧ RunInv (encOp c op) ∧ RunInv (encOp (twin k w c) op) ∧
    Cell k 0 (encOp c op) := by
  obtain ⟨r, a, b, first, hsub⟩ := Op.isPrim_sub hp c.rng
  have hrng := (twin_fields k w c).1
  obtain ⟨ok, heq⟩ := encOp_sub c op ri.inv hl hsub
  obtain ⟨_, heq'⟩ := encOp_sub (twin k w c) op ri'.inv hl (by rw [hrng]; exact hsub)
  obtain ⟨pre, _, _⟩ := encSub_spec c r a b first ri.inv ok
  have hcs := (encSub_nest c r a b first ok).cell hc
  have key : encOp (twin k w c) op = twin k w (encOp c op) := by
    rw [heq', heq, twin_encSub]
    rw [heq] at hn herr
    exact twin_encNormalize k w hk1 hk8 hw _ pre hcs hn herr
  have s1 := step_prim c op ri hl hsub hn herr
  have f := twin_fields k w (encOp c op)
  have s2 := step_prim (twin k w c) op ri' hl (by rw [hrng]; exact hsub) (by rw [key, f.2.1]; exact hn)
    (by rw [key, f.2.2]; exact herr)
  obtain ⟨_, nest⟩ := s1.nest
  exact ⟨key, s1.run, s2.run, nest.cell hc⟩

theorem twin_run (k w : Nat) (hk1 : 1 ≤ k) (hk8 : k ≤ 8) (hw : w < 2 ^ k) (ops : List Op) : ∀ (c : Enc),
    RunInv c → RunInv (twin k w c) → Cell k 0 c → (∀ op ∈ ops, op.isPrim = true ∧ op.Legal) →
    (encRun c ops).nbitsTotal < 4294967296 → (encRun c ops).error = 0 →
    encRun (twin k w c) ops = twin k w (encRun c ops) ∧ RunInv (encRun c ops) ∧ RunInv (encRun (twin k w c) ops) ∧
    Cell k 0 (encRun c ops) := by
  induction ops with
  | nil => intro c ri ri' hc _ _ _; exact ⟨rfl, ri, ri', hc⟩
  | cons op ops ih =>
    intro c ri ri' hc hall hn herr
    obtain ⟨hn1, herr1⟩ := encRun_head_ok c op ops hn herr
    obtain ⟨hp, hl⟩ := hall op (List.mem_cons_self ..)
    obtain ⟨a1, a2, a3, a4⟩ := twin_encOp k w hk1 hk8 hw c op hp ri ri' hc hl hn1 herr1
    simp only [encRun]
    rw [a1]
    rw [a1] at a3
    exact ih (encOp c op) a2 a3 a4 (fun o ho => hall o (List.mem_cons_of_mem _ ho)) hn herr

/-- After the patch the first encoder is in the second one's state, up to the representation of a pending 0xFF. -/
theorem patch_twin (k w : Nat) (hk1 : 1 ≤ k) (hk8 : k ≤ 8) (hw : w < 2 ^ k) (c : Enc) (ri : RunInv c) (hc : Cell k 0 c) :
    canon (encPatchInitialBits c w k) = canon (twin k w c) := by
  obtain ⟨q1, q2, q3, q4, q5⟩ := kfacts k w hk1 hk8 hw
  by_cases ho : c.offs > 0
  · have e : encPatchInitialBits c w k = twinB (fun b => patchByte b w k % 256) c := by
      unfold encPatchInitialBits; simp only [if_pos ho]; rfl
    rw [e, twin_B k w c ho]
  · have ho0 : c.offs = 0 := by omega
    obtain ⟨fV, fR⟩ := cell0_facts k c hk1 hc ho0 ri.inv.rng_pos
    by_cases hr : c.rem ≥ 0
    · obtain ⟨r1, _⟩ := fR hr
      obtain ⟨pb1, pb2⟩ := patchByte_eq c.rem.toNat w k hk8 hw
      have e : encPatchInitialBits c w k = setRem ((c.rem.toNat + dlt k w : Nat) : Int) c := by
        unfold encPatchInitialBits; simp only [if_neg ho, if_pos hr]
        rw [pb1, Nat.mod_eq_of_lt r1]; rfl
      rw [e, twin_R k w c ho0 hr]
      unfold twinR
      by_cases hcor : c.rem.toNat + dlt k w = 255
      · rw [if_pos hcor, hcor]
        have h1 : canon (setRem ((255 : Nat) : Int) c) = setRem (-1) (setExt (u32 (c.ext + 1)) c) := by
          unfold canon; rw [if_pos (by rfl)]; rfl
        rw [h1, canon_of_ne (by show (-1 : Int) ≠ 255; decide)]
      · rw [if_neg hcor]
    · obtain ⟨he0, hvr⟩ := fV (by omega)
      have hrp := ri.inv.rng_pos
      have hval : c.val < 2 ^ (31 - k) := by omega
      rw [patch_val_eq c w k hk8 hw ho0 hr he0 (by omega) (by rw [q1] at hval; omega), Nat.mod_eq_of_lt hval,
        twin_V k w c ho0 hr]
      rfl

/-- coding the true bits from the start: the state is the twin of the placeholder state -/
theorem twin_start (buf : List Nat) (size k w : Nat) (hs : size ≤ buf.length) (hb : BytesOk buf) (hk1 : 1 ≤ k)
    (hk7 : k ≤ 7) (hw : w < 2 ^ k) :
    encRun (encInit buf size) (bitsOps w k) = twin k w (encOp (encInit buf size) (.encodeBin 0 1 k)) := by
  have hp : encOp (encInit buf size) (.encodeBin 0 1 k) = bitsState buf size k 0 :=
    (bin_state buf size k 0 hs hb hk1 (by omega) (Nat.pow_pos (by decide))).1.trans (bitsState_done buf size k 0 hk7)
  rw [bits_state buf size k w (by omega) hw, bitsState_done buf size k w hk7, hp]
  have ho : (bitsState buf size k 0).offs = 0 := rfl
  have hr : ¬ 0 ≤ (bitsState buf size k 0).rem := by show ¬ (0 : Int) ≤ -1; decide
  rw [twin_V k w _ ho hr]
  unfold bitsState twinV
  show setVR _ (w * 2 ^ (31 - k)) _ = setVR _ (0 * 2 ^ (31 - k) + w * 2 ^ (31 - k)) _
  rw [Nat.zero_mul, Nat.zero_add]
  rfl

/-- **Patching the placeholder is coding the true bits.**  For `k ≤ 7` leading bits, range-coded operations `body`
    between the placeholder and the patch, and any legal continuation `suf`: the patched run and the run that codes
    the bits `w` first end in the same state up to the representation of a pending 0xFF (in particular with the same
    `rng`, `nbits_total`, error flag and committed bytes), the second satisfies the run invariant and is a legal run, and `ec_enc_done`
    produces identical results. -/
theorem patched_eq_bits (buf : List Nat) (size k w : Nat) (body suf : List Op) (hs : size ≤ buf.length) (hb : BytesOk buf)
    (hk1 : 1 ≤ k) (hk7 : k ≤ 7) (hw : w < 2 ^ k) (hbody : ∀ op ∈ body, op.isPrim = true ∧ op.Legal)
    (hsuf : LegalRun (encRun (encInit buf size) (.icdf 0 (flagTable k) 8 :: (body ++ [.patchInitial w k]))) suf)
    (hn : (encRun (encInit buf size) (.icdf 0 (flagTable k) 8 :: (body ++ [.patchInitial w k] ++ suf))).nbitsTotal < 4294967296)
    (herr : (encRun (encInit buf size) (.icdf 0 (flagTable k) 8 :: (body ++ [.patchInitial w k] ++ suf))).error = 0) :
    canon (encRun (encInit buf size) (.icdf 0 (flagTable k) 8 :: (body ++ [.patchInitial w k] ++ suf))) =
      canon (encRun (encInit buf size) (bitsOps w k ++ body ++ suf)) ∧
    RunInv (encRun (encInit buf size) (bitsOps w k ++ body ++ suf)) ∧
    LegalRun (encInit buf size) (bitsOps w k ++ body ++ suf) ∧
    encDone (encRun (encInit buf size) (.icdf 0 (flagTable k) 8 :: (body ++ [.patchInitial w k] ++ suf))) =
      encDone (encRun (encInit buf size) (bitsOps w k ++ body ++ suf)) := by
  have hk8 : k ≤ 8 := by omega
  simp only [encRun] at hsuf hn herr ⊢
  rw [flag_placeholder_eq buf size k hk1 hk8] at hsuf hn herr ⊢
  rw [encRun_append, encRun_append] at hn herr ⊢
  rw [encRun_append] at hsuf
  simp only [encRun] at hsuf hn herr ⊢
  rw [encRun_append, encRun_append, twin_start buf size k w hs hb hk1 hk7 hw]
  generalize hc0 : encOp (encInit buf size) (.encodeBin 0 1 k) = c0 at *
  obtain ⟨hnP, herrP⟩ : (encPatchInitialBits (encRun c0 body) w k).nbitsTotal < 4294967296 ∧
      (encPatchInitialBits (encRun c0 body) w k).error = 0 := encRun_ok hn herr
  have hnB : (encRun c0 body).nbitsTotal < 4294967296 := by rw [(patch_rn _ w k).2] at hnP; exact hnP
  have herrB : (encRun c0 body).error = 0 := zero_of_sticky (encOp_error_mono _ (.patchInitial w k)) herrP
  obtain ⟨ric0, hcell0⟩ : RunInv c0 ∧ Cell k 0 c0 := by
    rw [← hc0]
    exact first_ok buf size k 0 hs hb hk1 hk8 (Nat.pow_pos (by decide))
  -- the twin's start is the state after `ec_encode_bin(w, w+1, k)` on a fresh encoder
  have ritw0 : RunInv (twin k w c0) := by
    rw [← hc0, ← twin_start buf size k w hs hb hk1 hk7 hw, bits_eq_bin buf size k w hs hb hk1 hk8 hw]
    exact (first_ok buf size k w hs hb hk1 hk8 hw).1
  obtain ⟨t1, t2, t3, t4⟩ := twin_run k w hk1 hk8 hw body c0 ric0 ritw0 hcell0 hbody hnB herrB
  rw [t1]
  rw [t1] at t3
  have hpt := patch_twin k w hk1 hk8 hw (encRun c0 body) t2 t4
  obtain ⟨_, riP, _⟩ := patch_spec (encRun c0 body) k 0 w t2 t4 hw
  obtain ⟨r1, r2, r3, r4⟩ := run_canon suf _ _ riP t3 hpt hsuf hn herr
  refine ⟨r1, r3, ?_, encDone_of_canon_eq r2 r3 r1 hn⟩
  rw [List.append_assoc]
  apply legalRun_append_mk _ _ _ (prim_legalRun (bitsOps w k) (bitsOps_prim w k) _)
  rw [twin_start buf size k w hs hb hk1 hk7 hw, hc0]
  apply legalRun_append_mk _ _ _ (prim_legalRun body hbody _)
  rw [t1]; exact r4

end Opus.RangeCoder
