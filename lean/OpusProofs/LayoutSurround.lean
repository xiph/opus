import OpusModel.LayoutSpec
import OpusModel.Matrix
import OpusProofs.Layout
import OpusProofs.LayoutCreate
/-
  OpusProofs.LayoutSurround — layout construction of the surround / ambisonics / projection
  encoders against `Opus.LayoutSpec` (C10).  `isqrt32` is the integer square root (loop invariant), so
  `validate_ambisonics` accepts exactly the counts `(n+1)² + 2j`; families 2 and 255 are then proved for
  every channel count.  Families 0, 1 (the `vorbis_mappings` table, up to 8 channels) and the ten channel
  counts with a built-in projection matrix pair are finite tables and are evaluated; every other count is
  refused by unfolding.
-/
namespace Opus.Layout
open Opus Opus.LayoutSpec

/-- Invariant of the bit-by-bit loop: with `n = g² + val` and `n < (g + 2^k)²`, the result `r`
    satisfies `r² ≤ n < (r+1)²`. -/
theorem isqrtLoop_spec : ∀ (k g val : Nat), val < 2 * g * 2 ^ k + 2 ^ k * 2 ^ k →
    isqrtLoop k g val * isqrtLoop k g val ≤ g * g + val ∧
    g * g + val < (isqrtLoop k g val + 1) * (isqrtLoop k g val + 1)
  | 0, g, val, h => by
    have e : (g + 1) * (g + 1) = g * g + 2 * g + 1 := by
      rw [Nat.add_mul, Nat.mul_add, Nat.mul_one, Nat.one_mul]; omega
    simp only [isqrtLoop, e]
    omega
  | k + 1, g, val, h => by
    simp only [isqrtLoop]
    generalize hP : 2 ^ k = P at h ⊢
    have hp : 2 ^ (k + 1) = 2 * P := by rw [Nat.pow_succ, hP, Nat.mul_comm]
    have e1 : (2 * g + P) * P = 2 * (g * P) + P * P := by rw [Nat.add_mul, Nat.mul_assoc]
    have e2 : 2 * g * (2 * P) + 2 * P * (2 * P) = 4 * (g * P) + 4 * (P * P) := by
      rw [Nat.mul_assoc 2 g, Nat.mul_left_comm g 2 P, Nat.mul_assoc 2 P, Nat.mul_left_comm P 2 P]; omega
    rw [hp, e2] at h
    split
    · rename_i ht
      have ih := isqrtLoop_spec k (g + P) (val - (2 * g + P) * P) (by
        rw [hP, Nat.mul_assoc 2 (g + P), Nat.add_mul g P P]; omega)
      have e : (g + P) * (g + P) = g * g + 2 * (g * P) + P * P := by
        rw [Nat.add_mul, Nat.mul_add, Nat.mul_add, Nat.mul_comm P g]; omega
      rw [e] at ih
      rw [show g * g + val = g * g + 2 * (g * P) + P * P + (val - (2 * g + P) * P) by omega]
      exact ih
    · rename_i ht
      exact isqrtLoop_spec k g val (by rw [hP, Nat.mul_assoc 2 g]; omega)

/-- `ec_ilog` is at least the bit length: `v < 2^ilog(v)` (the only half `isqrt32` needs). -/
theorem ilogAux_spec : ∀ (k v : Nat), v < 2 ^ k → v < 2 ^ ilogAux k v
  | 0, v, h => by simp only [ilogAux]; exact h
  | k + 1, v, h => by
    simp only [ilogAux]
    split
    · rename_i h0; subst h0; simp
    · have ih := ilogAux_spec k (v / 2) (by
        rw [Nat.div_lt_iff_lt_mul (by decide)]; rw [Nat.pow_succ] at h; exact h)
      rw [Nat.div_lt_iff_lt_mul (by decide)] at ih
      rw [Nat.add_comm, Nat.pow_succ]; exact ih

theorem ilogAux_pos (k v : Nat) (hv : 0 < v) (hk : 0 < k) : 1 ≤ ilogAux k v := by
  cases k with
  | zero => omega
  | succ k => simp only [ilogAux]; rw [if_neg (by omega)]; omega

/-- `isqrt32` is the integer square root for every 32-bit argument ≥ 1. -/
theorem isqrt32_sqrt (n : Nat) (h1 : 1 ≤ n) (h2 : n < 2 ^ 32) :
    isqrt32 n * isqrt32 n ≤ n ∧ n < (isqrt32 n + 1) * (isqrt32 n + 1) := by
  unfold isqrt32 ilog
  have hl := ilogAux_spec 32 n h2
  have hpos := ilogAux_pos 32 n (by omega) (by decide)
  generalize ilogAux 32 n = L at hl hpos
  have hK : L ≤ 2 * ((L - 1) / 2 + 1) := by omega
  have hlt : n < 2 ^ ((L - 1) / 2 + 1) * 2 ^ ((L - 1) / 2 + 1) := by
    rw [← Nat.pow_add, ← Nat.two_mul]
    exact Nat.lt_of_lt_of_le hl (Nat.pow_le_pow_right (by decide) hK)
  have := isqrtLoop_spec ((L - 1) / 2 + 1) 0 n (by simpa using hlt)
  simpa using this

/-- `isqrt32` is the integer square root on every channel count the callers pass. -/
theorem isqrt32_spec : ∀ v ∈ List.range 256, 1 ≤ v →
    isqrt32 v * isqrt32 v ≤ v ∧ v < (isqrt32 v + 1) * (isqrt32 v + 1) :=
  fun v hv h1 => isqrt32_sqrt v h1 (by have := List.mem_range.1 hv; omega)

/-- The integer square root is unique, so `isqrt32` finds `r` whenever `r² ≤ v < (r+1)²`. -/
theorem isqrt32_eq (v r : Nat) (h1 : 1 ≤ v) (h2 : v < 2 ^ 32) (hr : r * r ≤ v) (hr' : v < (r + 1) * (r + 1)) :
    isqrt32 v = r := by
  obtain ⟨ho, ho'⟩ := isqrt32_sqrt v h1 h2
  have := Nat.mul_self_lt_mul_self_iff.1 (Nat.lt_of_le_of_lt ho hr')
  have := Nat.mul_self_lt_mul_self_iff.1 (Nat.lt_of_le_of_lt hr ho')
  omega

/-- What `validate_ambisonics` must answer for `ch` channels according to RFC 8486. -/
def ambiExpected (ch : Nat) : Option (Nat × Nat) :=
  (ambiOrder ch).map fun nj => ((nj.1 + 1) * (nj.1 + 1) + nj.2, nj.2)

theorem mem_ambiPairs (n j : Nat) : (n, j) ∈ ambiPairs ↔ n ≤ 14 ∧ j ≤ 1 := by
  simp only [ambiPairs, List.mem_flatMap, List.mem_range, List.mem_cons, Prod.mk.injEq, List.not_mem_nil, or_false]
  constructor
  · rintro ⟨m, hm, h | h⟩ <;> omega
  · rintro ⟨hn, hj⟩
    exact ⟨n, by omega, by omega⟩

/-- Consecutive squares are at least 3 apart, so `(n+1)² + 2j` with `j ≤ 1` determines `n` and `j`. -/
theorem sq_gap (a b : Nat) (h : a < b) : (a + 1) * (a + 1) + 2 < (b + 1) * (b + 1) := by
  have h1 : (a + 2) * (a + 2) ≤ (b + 1) * (b + 1) := Nat.mul_le_mul (by omega) (by omega)
  have h2 : (a + 2) * (a + 2) = (a + 1) * (a + 1) + 2 * a + 3 := by
    simp only [Nat.add_mul, Nat.mul_add]; omega
  omega

theorem ambiOrder_iff (ch n j : Nat) :
    ambiOrder ch = some (n, j) ↔ n ≤ 14 ∧ j ≤ 1 ∧ ch = (n + 1) * (n + 1) + 2 * j := by
  have found : ∀ n j, ambiOrder ch = some (n, j) → n ≤ 14 ∧ j ≤ 1 ∧ ch = (n + 1) * (n + 1) + 2 * j := by
    intro n j h
    obtain ⟨hn, hj⟩ := (mem_ambiPairs n j).1 (List.mem_of_find?_eq_some h)
    have := List.find?_some h
    simp only [decide_eq_true_eq] at this
    exact ⟨hn, hj, this.symm⟩
  refine ⟨found n j, fun ⟨hn, hj, hch⟩ => ?_⟩
  cases hq : ambiOrder ch with
  | none =>
    have := List.find?_eq_none.1 hq (n, j) ((mem_ambiPairs n j).2 ⟨hn, hj⟩)
    simp only [decide_eq_true_eq] at this
    omega
  | some nj =>
    obtain ⟨n', j'⟩ := nj
    obtain ⟨_, hj', hch'⟩ := found n' j' hq
    rcases Nat.lt_trichotomy n' n with h | h | h
    · have := sq_gap n' n h; omega
    · subst h; have : j' = j := by omega
      rw [this]
    · have := sq_gap n n' h; omega

/-- The `(n+1)²` ambisonic channels of an order `n ≤ 14` are between 1 and 225. -/
theorem acn_bounds {n : Nat} (hn : n ≤ 14) : 1 ≤ (n + 1) * (n + 1) ∧ (n + 1) * (n + 1) ≤ 225 :=
  ⟨Nat.mul_self_le_mul_self (m := 1) (by omega), Nat.mul_self_le_mul_self (n := 15) (by omega)⟩

/-- RFC 8486 lists no count outside `1 .. 227`. -/
theorem ambiOrder_none_of_outside (ch : Nat) (h : ch < 1 ∨ 228 ≤ ch) : ambiOrder ch = none := by
  cases hq : ambiOrder ch with
  | none => rfl
  | some nj =>
    obtain ⟨hn, hj, hch⟩ := (ambiOrder_iff ch nj.1 nj.2).1 hq
    have := acn_bounds hn
    omega

theorem isqrt32_ambi (n j : Nat) (hn : n ≤ 14) (hj : j ≤ 1) : isqrt32 ((n + 1) * (n + 1) + 2 * j) = n + 1 := by
  have := acn_bounds hn
  have := sq_gap n (n + 1) (by omega)
  exact isqrt32_eq _ _ (by omega) (by omega) (by omega) (by omega)

/-- `validate_ambisonics` takes the square root and looks at the remainder; RFC 8486 lists the counts.
    They agree because the root of `(n+1)² + 2j` is `n+1`, and a remainder of 0 or 2 is such a count. -/
theorem validateAmbisonics_eq (ch : Int) : validateAmbisonics ch = ambiExpected ch.toNat := by
  unfold validateAmbisonics ambiExpected
  by_cases h : ch < 1 ∨ ch > 227
  · rw [if_pos h, ambiOrder_none_of_outside _ (by omega)]; rfl
  obtain ⟨v, rfl⟩ : ∃ v : Nat, ch = v := ⟨ch.toNat, by omega⟩
  rw [if_neg h, Int.toNat_natCast]
  dsimp only
  cases hao : ambiOrder v with
  | some nj =>
    obtain ⟨n, j⟩ := nj
    obtain ⟨hn, hj, rfl⟩ := (ambiOrder_iff v n j).1 hao
    simp only [isqrt32_ambi n j hn hj, Option.map_some]
    have hj' : j = 0 ∨ j = 1 := by omega
    rcases hj' with rfl | rfl
    · simp
    · simp; omega
  | none =>
    obtain ⟨ho, ho'⟩ := isqrt32_sqrt v (by omega) (by omega)
    generalize isqrt32 v = o at ho ho' ⊢
    have ho1 : 0 < o := Nat.pos_of_ne_zero (by rintro rfl; omega)
    have ho15 : o < 16 := Nat.mul_self_lt_mul_self_iff.1 (by omega)
    have hnot : ∀ j, j ≤ 1 → v ≠ o * o + 2 * j := fun j hj h => by
      have := (ambiOrder_iff v (o - 1) j).2 ⟨by omega, hj, by rw [Nat.sub_add_cancel ho1]; exact h⟩
      rw [hao] at this; cases this
    have h0 := hnot 0 (by omega)
    have h2 := hnot 1 (by omega)
    simp only [Option.map_none]
    rw [if_pos (by omega)]

theorem family2_perm (acn j : Nat) :
    ((List.range acn).map (· + 2 * j) ++ List.range (2 * j)).Perm (List.range (acn + 2 * j)) := by
  rw [Nat.add_comm, List.range_add, List.map_congr_left (fun a _ => Nat.add_comm (2 * j) a)]
  exact List.perm_append_comm

/-- The family-2 entry spelt out (`acn` ambisonic channels, `j` non-diegetic pairs), with what
    `validate_ambisonics` answers for that count. -/
theorem family2_some {ch : Nat} {e : Nat × Nat × List Nat} (he : family2 ch = some e) :
    ∃ acn j, j ≤ 1 ∧ 1 ≤ acn ∧ acn ≤ 225 ∧ ch = acn + 2 * j ∧
      e = (acn + j, j, (List.range acn).map (· + 2 * j) ++ List.range (2 * j)) ∧
      validateAmbisonics (ch : Int) = some (acn + j, j) := by
  unfold family2 at he
  cases hao : ambiOrder ch with
  | none => rw [hao] at he; cases he
  | some nj =>
    obtain ⟨n, j⟩ := nj
    obtain ⟨hn, hj, hch⟩ := (ambiOrder_iff ch n j).1 hao
    rw [hao] at he
    refine ⟨_, j, hj, (acn_bounds hn).1, (acn_bounds hn).2, hch, (Option.some.inj he).symm, ?_⟩
    rw [validateAmbisonics_eq, Int.toNat_natCast, ambiExpected, hao]
    rfl

theorem family2_none {ch : Nat} (he : family2 ch = none) : validateAmbisonics (ch : Int) = none := by
  rw [validateAmbisonics_eq, Int.toNat_natCast, ambiExpected]
  unfold family2 at he
  split at he
  · rename_i hao; rw [hao]; rfl
  · cases he

def layoutOf (ch : Nat) (e : Nat × Nat × List Nat) : ChannelLayout :=
  { nbChannels := ch, nbStreams := e.1, nbCoupled := e.2.1, mapping := e.2.2 }

/-- LFE stream the surround encoder marks: the last stream of the 5.1 / 6.1 / 7.1 layouts. -/
def lfeOf (family : Int) (ch : Nat) (streams : Nat) : Int :=
  if family = 1 ∧ ch ≥ 6 then (streams : Int) - 1 else -1

/-- Everything the property says about one `(family, channels)` pair: when the RFC defines a
    layout, `init` and `create` succeed with exactly that layout, the multistream encoder and decoder
    both accept it, and both validators pass; otherwise both entry points refuse. -/
def SurroundSpec (family : Int) (ch : Nat) : Prop :=
  match rfcLayout family ch with
  | some e =>
    let l := layoutOf ch e
    let want : Res (Surround × MSEncoder) :=
      .ok ({ streams := e.1, coupled := e.2.1, mapping := e.2.2, lfeStream := lfeOf family ch e.1 },
           { layout := l, lfeStream := lfeOf family ch e.1, mappingType := surroundMappingType ch family })
    surroundInit true ch family = want ∧ surroundCreate true ch family = want ∧
    validateLayout l = true ∧ validateEncoderLayout l = true ∧
    decoderCreate true ch e.1 e.2.1 e.2.2 = .ok l ∧
    encoderCreate true ch e.1 e.2.1 e.2.2 = .ok { layout := l, lfeStream := -1, mappingType := .none }
  | none =>
    surroundInit true ch family = (if family = 2 then .err .badArg else .err .unimplemented) ∧
    surroundCreate true ch family = .err .unimplemented

-- Both branches are conjunctions of equations between values with decidable equality: `SurroundSpec` can be
-- evaluated, which is how the table of families 0 and 1 (`surroundSpec_small`) is checked.
instance (family : Int) (ch : Nat) : Decidable (SurroundSpec family ch) := by
  unfold SurroundSpec; split <;> infer_instance

/-- Families 0 and 1 are the two literal layouts and the `vorbis_mappings` table: evaluated up to 8 channels. -/
theorem surroundSpec_small : ∀ ch ∈ List.range 9, 1 ≤ ch → SurroundSpec 0 ch ∧ SurroundSpec 1 ch := by
  decide +kernel

/-- Families 0 and 1 define no layout above 8 channels, and both entry points answer `OPUS_UNIMPLEMENTED`. -/
theorem surroundSpec_large (family : Int) (hf : family = 0 ∨ family = 1) (ch : Nat) (h9 : 9 ≤ ch) (h255 : ch ≤ 255) :
    SurroundSpec family ch := by
  have hnot : ¬ ((ch : Int) > 255 ∨ (ch : Int) < 1) := by omega
  have h8 : ¬ ((ch : Int) ≤ 8) := by omega
  have h8n : ¬ (ch ≤ 8 ∧ 1 ≤ ch) := by omega
  have e1 : ¬ (ch = 1) := by omega
  have e2 : ¬ (ch = 2) := by omega
  have e1' : ¬ ((ch : Int) = 1) := by omega
  have e2' : ¬ ((ch : Int) = 2) := by omega
  have hr : rfcLayout family ch = none := by
    rcases hf with rfl | rfl
    · simp [rfcLayout, e1, e2]
    · obtain ⟨k, rfl⟩ : ∃ k, ch = k + 9 := ⟨ch - 9, by omega⟩
      show family1Literal (k + 9) = none; rfl
  unfold SurroundSpec
  rw [hr]
  rcases hf with rfl | rfl
  · simp only [surroundInit, surroundLayout, gt_iff_lt, hnot, ↓reduceIte, Int.toNat_natCast, e1, e2, Int.reduceEq,
      surroundCreate, surroundSizeNonzero, e1', e2', Bool.not_false, and_self]
  · simp only [surroundInit, surroundLayout, gt_iff_lt, hnot, ↓reduceIte, Int.reduceEq, Int.toNat_natCast,
      ge_iff_le, h8n, and_false, surroundCreate, surroundSizeNonzero, h8, false_and, Bool.not_false, and_self]

/-- Families 2 and 255 share one shape: `ch = streams + coupled` channels whose mapping is a permutation of the
    decoded channels `0 .. ch-1`, no LFE, no surround masking.  Such a layout is valid for encoder and
    decoder (`valid_of_perm`), so once the family's table entry, the constructed layout and the size test are
    known to be this layout, everything `SurroundSpec` asks follows. -/
theorem surroundSpec_of (family : Int) (hf : family ≠ 1) (ch st co : Nat) (m : List Nat) (h1 : 1 ≤ ch) (h2 : ch ≤ 255)
    (hco : co ≤ st) (hsum : st + co = ch) (hp : m.Perm (List.range ch))
    (hr : rfcLayout family ch = some (st, co, m)) (hlay : surroundLayout ch family = .ok ⟨st, co, m, -1⟩)
    (hamb : family = 2 → (validateAmbisonics (ch : Int)).isSome = true)
    (hsz : surroundSizeNonzero ch family = true) : SurroundSpec family ch := by
  have hm : m.length = ch := by rw [hp.length_eq, List.length_range]
  obtain ⟨hv, he⟩ := valid_of_perm (l := ⟨ch, st, co, m⟩) (by rw [chans_of_length hm]; exact hp) hsum h2
  have hargs : EncArgsOk (ch : Int) (st : Int) (co : Int) := by unfold EncArgsOk DecArgsOk; omega
  have hst : storedLayout (ch : Int) (st : Int) (co : Int) m = ⟨ch, st, co, m⟩ := by
    simp only [storedLayout, Int.toNat_natCast, List.take_of_length_le (Nat.le_of_eq hm)]
  have hlen : (ch : Int).toNat ≤ m.length := by simp only [Int.toNat_natCast]; omega
  have henc : ∀ mt, (mt = .ambisonics → (validateAmbisonics (ch : Int)).isSome = true) →
      encoderInitImpl true ch st co m mt (-1) = .ok ⟨⟨ch, st, co, m⟩, -1, mt⟩ := fun mt h =>
    (encoderInitImpl_ok_iff ..).2 ⟨hargs, hlen, hst ▸ hv, hst ▸ he, by simpa only [Int.toNat_natCast] using h, rfl,
      by rw [hst, ite_self]⟩
  have hd : decoderCreate true ch st co m = .ok ⟨ch, st, co, m⟩ := by
    rw [decoderCreate_eq, decoderInit_ok_iff]; exact ⟨hargs.1, hlen, hst ▸ hv, rfl, hst.symm⟩
  have hmt : surroundMappingType ch family = if family = 2 then .ambisonics else .none := by
    simp [surroundMappingType, hf]
  have hi := henc (surroundMappingType ch family) (fun h => hamb (by
    rw [hmt] at h; split at h
    · assumption
    · cases h))
  have hinit : surroundInit true ch family =
      .ok (⟨st, co, m, -1⟩, ⟨⟨ch, st, co, m⟩, -1, surroundMappingType ch family⟩) := by
    unfold surroundInit; rw [hlay]; simp only; rw [hi]
  unfold SurroundSpec
  rw [hr]
  simp only [layoutOf, lfeOf, hf, false_and, if_false]
  refine ⟨hinit, ?_, (validateLayout_iff _).2 hv, (validateEncoderLayout_iff _).2 he, hd,
    by rw [encoderCreate_eq]; exact henc .none (fun h => by cases h)⟩
  unfold surroundCreate
  rw [if_neg (by omega), hsz]
  exact hinit

/-- Family 255: `ch` mono streams, identity mapping. -/
theorem surroundSpec_f255 (ch : Nat) (h1 : 1 ≤ ch) (h2 : ch ≤ 255) : SurroundSpec 255 ch := by
  have hnot : ¬ ((ch : Int) > 255 ∨ (ch : Int) < 1) := by omega
  refine surroundSpec_of 255 (by decide) ch ch 0 (List.range ch) h1 h2 (by omega) rfl (.refl _)
    (by simp [rfcLayout, h1, h2]) (by simp [surroundLayout, hnot])
    (fun h => absurd h (by decide)) (by simp [surroundSizeNonzero]; omega)

theorem surroundSpec_f2 (ch : Nat) (h1 : 1 ≤ ch) (h2 : ch ≤ 255) : SurroundSpec 2 ch := by
  have hnot : ¬ ((ch : Int) > 255 ∨ (ch : Int) < 1) := by omega
  have hr : rfcLayout 2 ch = family2 ch := by simp [rfcLayout]
  cases hf : family2 ch with
  | none =>
    have hv0 := family2_none hf
    unfold SurroundSpec
    rw [hr, hf]
    exact ⟨by simp [surroundInit, surroundLayout, hnot, hv0], by simp [surroundCreate, surroundSizeNonzero, hnot, hv0]⟩
  | some e =>
    obtain ⟨acn, j, hj, _, _, hch, rfl, hv0⟩ := family2_some hf
    refine surroundSpec_of 2 (by decide) ch (acn + j) j _ h1 h2 (by omega) (by omega) (hch ▸ family2_perm acn j)
      (hr.trans hf) ?_ (fun _ => by rw [hv0]; rfl) (by simp [surroundSizeNonzero, hv0]; omega)
    simp [surroundLayout, hnot, hv0, ambisonicsMapping, Nat.mul_comm j 2]

/-- Everything C10 `projection_layout_valid` says about `ch` channels in family 3, as a Bool: when RFC 8486
    defines a projection layout the library supports (`family3 ch = some e`), the built-in matrix pair of
    order `isqrt32 ch` has at least `ch` rows and columns, `opus_projection_ambisonics_encoder_init` succeeds
    with exactly that `(streams, coupled)`, order and identity layout, `_create` answers the same, both
    validators accept the layout and the multistream decoder is created with it; otherwise `_init` answers
    `OPUS_BAD_ARG` and `_create` `OPUS_ALLOC_FAIL`. -/
def projectionCheck (ch : Nat) : Bool :=
  match family3 ch with
  | some e =>
    let l := layoutOf ch e
    (match Matrix.builtinDims (isqrt32 ch) with
     | some (mr, mc, dr, dc) => decide (ch ≤ mr ∧ ch ≤ mc ∧ ch ≤ dr ∧ ch ≤ dc)
     | none => false) &&
    decide (projectionInit Matrix.builtinDims true ch 3 =
      .ok (e.1, e.2.1, isqrt32 ch, { layout := l, lfeStream := -1, mappingType := .none })) &&
    decide (projectionCreate Matrix.builtinDims true ch 3 = projectionInit Matrix.builtinDims true ch 3) &&
    validateLayout l && validateEncoderLayout l &&
    decide (decoderCreate true ch e.1 e.2.1 e.2.2 = .ok l)
  | none =>
    decide (projectionInit Matrix.builtinDims true ch 3 = .err .badArg) &&
    decide (projectionCreate Matrix.builtinDims true ch 3 = .err .allocFail)

/-- `get_order_plus_one_from_channels` is the test of `validate_ambisonics`, returning the root. -/
theorem orderPlusOne_eq (ch : Int) :
    orderPlusOneFromChannels ch = (validateAmbisonics ch).map fun _ => isqrt32 ch.toNat := by
  unfold orderPlusOneFromChannels validateAmbisonics
  split
  · rfl
  · simp only [Int.natCast_mul]
    split <;> rfl

theorem projection_valid : ∀ n ∈ [1, 2, 3, 4, 5], ∀ j ∈ [0, 1],
    projectionCheck ((n + 1) * (n + 1) + 2 * j) = true := by decide +kernel

/-- Channel counts for which family 3 defines nothing are refused: either the count is not of the form
    `(n+1)² + 2j`, or there is no built-in matrix pair for the order. -/
theorem projection_refused (ch : Nat) (hf : family3 ch = none) :
    projectionInit Matrix.builtinDims true ch 3 = .err .badArg ∧
    projectionCreate Matrix.builtinDims true ch 3 = .err .allocFail := by
  have hs : streamsFromChannels ch 3 = none ∨
      ∃ st co o, streamsFromChannels ch 3 = some (st, co, o) ∧ Matrix.builtinDims o = none := by
    have hv := validateAmbisonics_eq (ch : Int)
    rw [Int.toNat_natCast] at hv
    unfold streamsFromChannels
    rw [if_pos rfl, orderPlusOne_eq, hv, Int.toNat_natCast]
    unfold ambiExpected
    unfold family3 at hf
    cases hao : ambiOrder ch with
    | none => left; rfl
    | some nj =>
      obtain ⟨n, j⟩ := nj
      rw [hao] at hf
      simp only at hf
      obtain ⟨hn, hj, rfl⟩ := (ambiOrder_iff ch n j).1 hao
      right
      refine ⟨_, _, _, rfl, ?_⟩
      rw [isqrt32_ambi n j hn hj]
      have : ¬ (1 ≤ n ∧ n ≤ 5) := by
        intro h; rw [if_pos h] at hf; cases hf
      have e : ∀ k, 2 ≤ k → k ≤ 6 → n + 1 ≠ k := fun k _ _ => by omega
      -- `mixingRaw o` is a chain of tests `o = 2`, …, `o = 6`; `e` refutes each of them for `o = n + 1`
      simp only [Matrix.builtinDims, Matrix.mixingRaw, Std.le_refl, Nat.reduceLeDiff, e, ↓reduceIte]
  rcases hs with hs | ⟨st, co, o, hs, hd⟩
  · simp [projectionInit, projectionCreate, projectionSizeNonzero, hs]
  · simp [projectionInit, projectionCreate, projectionSizeNonzero, hs, hd]

end Opus.Layout
