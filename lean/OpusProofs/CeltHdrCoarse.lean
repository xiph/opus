import OpusProofs.CeltHdrFlags
import OpusProofs.LaplaceMain
import OpusProofs.CeltSymsFrozenEq
/-
  OpusProofs.CeltHdrCoarse — coarse energy: for every band and channel the decoder takes the same budget branch as
  the encoder and reads back the value the written symbol stands for (`Stage` form of OpusProofs/CeltHdrFlags.lean, for
  steps that can fail: the sync half only, the encoder-only half is `enc…_ext`, which the silent frame uses too).
-/
namespace OpusProofs.CeltHdr
open Opus Opus.RangeCoder Opus.CeltSymsEnc

theorem frozen_laplace_ok : ∀ lm, lm < 4 → ∀ intra, intra < 2 → ∀ b, b < 21 →
    OpusProofs.Laplace.LaplaceOk ((((Opus.CeltSymsFrozen.eProbModel.getD lm []).getD intra []).getD (2 * b) 0) * 128)
      ((((Opus.CeltSymsFrozen.eProbModel.getD lm []).getD intra []).getD (2 * b + 1) 0) * 64) = true := by
  intro lm h1 intra h2 b h3
  have h := (OpusProofs.Laplace.eprob_ok h1 h2 h3).1
  unfold OpusProofs.Laplace.eprobFs OpusProofs.Laplace.eprobDecay at h
  rw [← Opus.CeltSymsProofs.frozen_eProbModel] at h
  exact h

theorem neg_bit (p : Prop) [Decidable p] : -(((if p then 1 else 0 : Nat)) : Int) = (if p then -1 else 0) := by
  split <;> simp

theorem smallMap_smallSym (q : Int) (h1 : -1 ≤ q) (h2 : q ≤ 1) : Opus.CeltSyms.smallMap (smallSym q) = q := by
  unfold Opus.CeltSyms.smallMap smallSym
  by_cases a : q < 0
  · have : q = -1 := by omega
    subst this; decide
  · by_cases b : q > 0
    · have : q = 1 := by omega
      subst this; decide
    · have : q = 0 := by omega
      subst this; decide

/-- `qi` as `quant_coarse_energy_impl` hands it to the coder: the decision after the clamps for a short budget
    (`bits_left < 30 / 24 / 16`, skipped at the first band) and for the LFE channel. -/
def clampedQ (cfg : EncCfg) (budget : Int) (i : Nat) (s : St) : Int :=
  let bitsLeft := budget - tell s.e - 3 * cfg.C * ((cfg.end_ : Int) - i)
  let q1 := if i ≠ cfg.start ∧ bitsLeft < 30 then
              let a := if bitsLeft < 24 then min 1 s.pop.1 else s.pop.1
              if bitsLeft < 16 then max (-1) a else a
            else s.pop.1
  if cfg.lfe ∧ i ≥ 2 then min q1 0 else q1

theorem clampedQ_ge {cfg : EncCfg} {budget : Int} {i : Nat} {s : St} (his : i ≠ cfg.start)
    (hb : budget - tell s.e - 3 * cfg.C * ((cfg.end_ : Int) - i) < 16) : -1 ≤ clampedQ cfg budget i s := by
  have c30 : i ≠ cfg.start ∧ budget - tell s.e - 3 * cfg.C * ((cfg.end_ : Int) - i) < 30 := ⟨his, by omega⟩
  unfold clampedQ
  simp only []
  rw [if_pos c30, if_pos hb]
  split
  · exact Int.le_min.mpr ⟨Int.le_max_left _ _, by omega⟩
  · exact Int.le_max_left _ _

/-- What a successful `encCoarseOne` returns, by the budget left: nothing written, a Laplace symbol, one of three
    symbols, or one bit. -/
theorem encCoarseOne_ok {cfg : EncCfg} {prob : List Nat} {budget : Int} {i : Nat} {s s' : St} {q qd : Int}
    (h : encCoarseOne cfg prob budget i s = .ok (q, qd, s')) :
    (budget - tell s.e < 1 ∧ q = -1 ∧ qd = -1 ∧ s' = s) ∨
    (15 ≤ budget - tell s.e ∧ qd = q ∧ ∃ fl fh,
      Opus.Laplace.encode (clampedQ cfg budget i s) (prob.getD (2 * min i 20) 0 * 128)
        (prob.getD (2 * min i 20 + 1) 0 * 64) = .ok (fl, fh, q) ∧ s' = s.pop.2.emit (.encodeBin fl fh 15)) ∨
    (2 ≤ budget - tell s.e ∧ budget - tell s.e < 15 ∧ q = max (-1) (min (clampedQ cfg budget i s) 1) ∧ qd = q ∧
      s' = s.pop.2.emit (.icdf (smallSym q) Opus.CeltSymsFrozen.smallEnergyIcdf 2)) ∨
    (budget - tell s.e = 1 ∧ q = min 0 (clampedQ cfg budget i s) ∧ qd = (if q ≠ 0 then -1 else 0) ∧
      s' = s.pop.2.emit (.bitLogp (if q ≠ 0 then 1 else 0) 1)) := by
  unfold encCoarseOne at h
  simp only [] at h
  by_cases c1 : budget - tell s.e ≥ 1
  · rw [if_pos c1] at h
    by_cases c15 : budget - tell s.e ≥ 15
    · rw [if_pos c15] at h
      generalize hL : Opus.Laplace.encode _ _ _ = r at h
      match r, h with
      | .ok (fl, fh, v), h =>
        injection h with h; injection h with e1 h; injection h with e2 e3
        subst e1 e2 e3
        exact .inr (.inl ⟨c15, rfl, fl, fh, hL, rfl⟩)
    · rw [if_neg c15] at h
      by_cases c2 : budget - tell s.e ≥ 2
      · rw [if_pos c2] at h
        injection h with h; injection h with e1 h; injection h with e2 e3
        subst e1 e2 e3
        exact .inr (.inr (.inl ⟨c2, by omega, rfl, rfl, rfl⟩))
      · rw [if_neg c2] at h
        injection h with h; injection h with e1 h; injection h with e2 e3
        subst e1 e2 e3
        exact .inr (.inr (.inr ⟨by omega, rfl, rfl, rfl⟩))
  · rw [if_neg c1] at h
    injection h with h; injection h with e1 h; injection h with e2 e3
    subst e1 e2 e3
    exact .inl ⟨by omega, rfl, rfl, rfl⟩

theorem encCoarseOne_ext (cfg : EncCfg) (prob : List Nat) (budget : Int) (i : Nat) (s : St) (q qd : Int) (s' : St)
    (h : encCoarseOne cfg prob budget i s = .ok (q, qd, s')) : Ext s s' := by
  rcases encCoarseOne_ok h with ⟨_, _, _, e⟩ | ⟨_, _, _, _, _, e⟩ | ⟨_, _, _, _, e⟩ | ⟨_, _, _, e⟩
  · rw [e]; exact Ext.refl s
  · rw [e]; exact Ext.step s _
  · rw [e]; exact Ext.step s _
  · rw [e]; exact Ext.step s _

/-- One coarse-energy symbol (second half of a `Stage`, for a step that can fail: `he` stands in front; the first half is
    `encCoarseOne_ext`): the decoder takes the encoder's budget branch and reads back what the written symbol means. -/
theorem coarseOne_stage {w : World} {P0 : List Op} {size1 tbMax : Nat} (cfg : EncCfg) (prob : List Nat) (i : Nat)
    {s s' : St} {q qd : Int} (d : Dec) (he : encCoarseOne cfg prob ((size1 * 8 : Nat) : Int) i s = .ok (q, qd, s'))
    (hlap : OpusProofs.Laplace.LaplaceOk (prob.getD (2 * min i 20) 0 * 128) (prob.getD (2 * min i 20 + 1) 0 * 64) = true)
    (sEnd : St) (hx : Ext0 s' sEnd) (m : Margin w P0 size1 tbMax sEnd) (h : Here w P0 s d) :
    ∃ d' tr, Opus.CeltSyms.coarseOne prob i d = .ok (qd, d', tr) ∧ Here w P0 s' d' := by
  have hext := encCoarseOne_ext cfg prob _ i s q qd s' he
  have hp := prefix_of_ext0 hx m.pre
  obtain ⟨ht, _, hst, hB, _⟩ := h.budget (hext.ext0.trans hx) m
  unfold Opus.CeltSyms.coarseOne
  -- the decoder's three tests become the encoder's
  simp only [hst, ht, hB.sub_ge (k := 15) (by decide) (by decide), hB.sub_ge (k := 2) (by decide) (by decide),
    hB.sub_ge (k := 1) (by decide) (by decide)]
  rcases encCoarseOne_ok he with ⟨c, _, e2, e3⟩ | ⟨c, e2, fl, fh, hen, e3⟩ | ⟨c, c', e1, e2, e3⟩ | ⟨c, e1, e2, e3⟩
  · subst e2 e3
    rw [if_neg (by omega), if_neg (by omega), if_neg (by omega)]
    exact ⟨_, _, rfl, h⟩
  · subst e2 e3
    rw [if_pos c]
    obtain ⟨T, hpar⟩ := OpusProofs.Laplace.par_of_ok hlap
    obtain ⟨fl', fh', v', hen', _, _, hdec, _⟩ := OpusProofs.Laplace.encode_then_decode hpar
      (clampedQ cfg ((size1 * 8 : Nat) : Int) i s)
    rw [hen] at hen'
    injection hen' with hen'; injection hen' with e1 hen'; injection hen' with e2 e3
    subst e1 e2 e3
    obtain ⟨g1, g2, g3⟩ := h.pop.emit_bin fl fh hp
    rw [hdec _ g1 g2]
    exact ⟨_, _, rfl, g3⟩
  · subst e2 e3
    rw [if_neg (by omega), if_pos c]
    obtain ⟨g1, g2⟩ := h.pop.emit_icdf _ _ _ hp
    rw [g1, smallMap_smallSym _ (by omega) (by omega)]
    exact ⟨_, _, rfl, g2⟩
  · subst e2 e3
    rw [if_neg (by omega), if_neg (by omega), if_pos (by omega)]
    obtain ⟨g1, g2⟩ := h.pop.emit_bit _ 1 (bit_le_one _) hp
    rw [g1, neg_bit]
    exact ⟨_, _, rfl, g2⟩

theorem encCoarseChans_succ_ok {cfg : EncCfg} {prob : List Nat} {budget : Int} {i n : Nat} {s s' : St} {qs qds : List Int}
    (h : encCoarseChans cfg prob budget i (n + 1) s = .ok (qs, qds, s')) :
    ∃ q qd s1 a b, encCoarseOne cfg prob budget i s = .ok (q, qd, s1) ∧
      encCoarseChans cfg prob budget i n s1 = .ok (a, b, s') ∧ qs = q :: a ∧ qds = qd :: b := by
  simp only [encCoarseChans] at h
  match h1 : encCoarseOne cfg prob budget i s, h with
  | .ok (q, qd, s1), h =>
    simp only [] at h
    match h2 : encCoarseChans cfg prob budget i n s1, h with
    | .ok (a, b, s2), h =>
      injection h with h; injection h with e1 h; injection h with e2 e3
      subst e3
      exact ⟨q, qd, s1, a, b, rfl, h2, e1.symm, e2.symm⟩

theorem encCoarseChans_ext (cfg : EncCfg) (prob : List Nat) (budget : Int) (i : Nat) : ∀ (n : Nat) (s : St) (qs qds : List Int) (s' : St),
    encCoarseChans cfg prob budget i n s = .ok (qs, qds, s') → Ext s s' := by
  intro n
  induction n with
  | zero => intro s qs qds s' h; simp only [encCoarseChans] at h; injection h with h; injection h with _ h; injection h with _ h; rw [← h]; exact Ext.refl s
  | succ n ih =>
    intro s qs qds s' h
    obtain ⟨q, qd, s1, a, b, h1, h2, _, _⟩ := encCoarseChans_succ_ok h
    exact (encCoarseOne_ext cfg prob budget i s q qd s1 h1).trans (ih s1 a b s' h2)

theorem coarseChans_stage {w : World} {P0 : List Op} {size1 tbMax : Nat} (cfg : EncCfg) (prob : List Nat) (i : Nat)
    (hlap : OpusProofs.Laplace.LaplaceOk (prob.getD (2 * min i 20) 0 * 128) (prob.getD (2 * min i 20 + 1) 0 * 64) = true)
    (sEnd : St) (m : Margin w P0 size1 tbMax sEnd) :
    ∀ (n : Nat) (s s' : St) (d : Dec) (qs qds : List Int),
    encCoarseChans cfg prob ((size1 * 8 : Nat) : Int) i n s = .ok (qs, qds, s') → Ext0 s' sEnd → Here w P0 s d →
    ∃ d' tr, Opus.CeltSyms.coarseChans prob i n d = .ok (qds, d', tr) ∧ Here w P0 s' d' := by
  intro n
  induction n with
  | zero =>
    intro s s' d qs qds he _ h
    simp only [encCoarseChans] at he
    injection he with he; injection he with _ he; injection he with e2 e3
    subst e2 e3
    exact ⟨d, [], rfl, h⟩
  | succ n ih =>
    intro s s' d qs qds he hx h
    obtain ⟨q, qd, s1, a, b, h1, h2, _, e2⟩ := encCoarseChans_succ_ok he
    subst e2
    obtain ⟨d1, t1, g1, g2⟩ := coarseOne_stage cfg prob i d h1 hlap sEnd
      ((encCoarseChans_ext cfg prob _ i n s1 a b s' h2).ext0.trans hx) m h
    obtain ⟨d2, t2, g3, g4⟩ := ih s1 s' d1 a b h2 hx g2
    refine ⟨d2, t1 ++ t2, ?_, g4⟩
    simp only [Opus.CeltSyms.coarseChans, g1, g3]

theorem encCoarseBands_succ_ok {cfg : EncCfg} {prob : List Nat} {budget : Int} {k i : Nat} {s s' : St} {qs qds : List Int}
    (h : encCoarseBands cfg prob budget (k + 1) i s = .ok (qs, qds, s')) :
    ∃ q qd s1 a b, encCoarseChans cfg prob budget i cfg.C s = .ok (q, qd, s1) ∧
      encCoarseBands cfg prob budget k (i + 1) s1 = .ok (a, b, s') ∧ qs = q ++ a ∧ qds = qd ++ b := by
  simp only [encCoarseBands] at h
  match h1 : encCoarseChans cfg prob budget i cfg.C s, h with
  | .ok (q, qd, s1), h =>
    simp only [] at h
    match h2 : encCoarseBands cfg prob budget k (i + 1) s1, h with
    | .ok (a, b, s2), h =>
      injection h with h; injection h with e1 h; injection h with e2 e3
      subst e3
      exact ⟨q, qd, s1, a, b, rfl, h2, e1.symm, e2.symm⟩

theorem encCoarseBands_ext (cfg : EncCfg) (prob : List Nat) (budget : Int) : ∀ (k i : Nat) (s : St) (qs qds : List Int) (s' : St),
    encCoarseBands cfg prob budget k i s = .ok (qs, qds, s') → Ext s s' := by
  intro k
  induction k with
  | zero => intro i s qs qds s' h; simp only [encCoarseBands] at h; injection h with h; injection h with _ h; injection h with _ h; rw [← h]; exact Ext.refl s
  | succ k ih =>
    intro i s qs qds s' h
    obtain ⟨q, qd, s1, a, b, h1, h2, _, _⟩ := encCoarseBands_succ_ok h
    exact (encCoarseChans_ext cfg prob budget i cfg.C s q qd s1 h1).trans (ih (i + 1) s1 a b s' h2)

theorem coarseBands_stage {w : World} {P0 : List Op} {size1 tbMax : Nat} (cfg : EncCfg) (prob : List Nat)
    (hlap : ∀ i, OpusProofs.Laplace.LaplaceOk (prob.getD (2 * min i 20) 0 * 128) (prob.getD (2 * min i 20 + 1) 0 * 64) = true)
    (sEnd : St) (m : Margin w P0 size1 tbMax sEnd) :
    ∀ (k i : Nat) (s s' : St) (d : Dec) (qs qds : List Int),
    encCoarseBands cfg prob ((size1 * 8 : Nat) : Int) k i s = .ok (qs, qds, s') → Ext0 s' sEnd → Here w P0 s d →
    ∃ d' tr, Opus.CeltSyms.coarseBands prob cfg.C k i d = .ok (qds, d', tr) ∧ Here w P0 s' d' := by
  intro k
  induction k with
  | zero =>
    intro i s s' d qs qds he _ h
    simp only [encCoarseBands] at he
    injection he with he; injection he with _ he; injection he with e2 e3
    subst e2 e3
    exact ⟨d, [], rfl, h⟩
  | succ k ih =>
    intro i s s' d qs qds he hx h
    obtain ⟨q, qd, s1, a, b, h1, h2, _, e2⟩ := encCoarseBands_succ_ok he
    subst e2
    obtain ⟨d1, t1, g1, g2⟩ := coarseChans_stage cfg prob i (hlap i) sEnd m cfg.C s s1 d q qd h1
      ((encCoarseBands_ext cfg prob _ k (i + 1) s1 a b s' h2).ext0.trans hx) h
    obtain ⟨d2, t2, g3, g4⟩ := ih (i + 1) s1 s' d1 a b h2 hx g2
    refine ⟨d2, t1 ++ t2, ?_, g4⟩
    simp only [Opus.CeltSyms.coarseBands, g1, g3]

theorem encCoarse_ok {cfg : EncCfg} {totE : Int} {s s' : St} {intra : Nat} {qs qds : List Int}
    (h : encCoarse cfg totE s = .ok (intra, qs, qds, s')) :
    (encIntra totE s).1 = intra ∧
    encCoarseBands cfg ((Opus.CeltSymsFrozen.eProbModel.getD cfg.LM []).getD (encIntra totE s).1 []) totE
      (cfg.end_ - cfg.start) cfg.start (encIntra totE s).2 = .ok (qs, qds, s') := by
  unfold encCoarse at h
  generalize encCoarseBands _ _ _ _ _ _ = r at h ⊢
  match r, h with
  | .ok (a, b, s2), h =>
    injection h with h; injection h with e1 h; injection h with e2 h; injection h with e3 e4
    rw [e1, e2, e3, e4]
    exact ⟨rfl, rfl⟩

theorem encCoarse_ext (cfg : EncCfg) (totE : Int) (s : St) (intra : Nat) (qs qds : List Int) (s' : St)
    (h : encCoarse cfg totE s = .ok (intra, qs, qds, s')) : Ext s s' :=
  (encIntra_ext totE s).trans (encCoarseBands_ext _ _ _ _ _ _ _ _ _ (encCoarse_ok h).2)

/-- **Where the encoder's own energy state can leave the decoder's.**  The value the encoder keeps (`q`, which goes
    into its `oldEBands`/`error`) equals the value the written symbol means (`qd`, what the decoder reconstructs) in
    every branch of `quant_coarse_energy_impl` except one: the one-bit fall-back (`budget - tell == 1`) at the first
    band (`i == start`, the only band the `bits_left < 16` clamp to `[-1, 1]` skips) with a kept value below `-1`;
    the decoder then has `-1`. -/
theorem coarse_state_agrees_except_one_bit_start (cfg : EncCfg) (prob : List Nat) (budget : Int) (i : Nat) (s : St)
    (q qd : Int) (s' : St) (hi : i ≤ cfg.end_) (h : encCoarseOne cfg prob budget i s = .ok (q, qd, s')) :
    q = qd ∨ (i = cfg.start ∧ budget - tell s.e = 1 ∧ q < -1 ∧ qd = -1) := by
  rcases encCoarseOne_ok h with ⟨_, e1, e2, _⟩ | ⟨_, e, _⟩ | ⟨_, _, _, e, _⟩ | ⟨hbt, e1, e2, _⟩
  · left; rw [e1, e2]
  · left; exact e.symm
  · left; exact e.symm
  · have hq0 : q ≤ 0 := by rw [e1]; exact Int.min_le_left _ _
    by_cases hz : q = 0
    · left; rw [e2, if_neg (fun hn => hn hz)]; exact hz
    · rw [if_pos hz] at e2
      by_cases hq : q < -1
      · by_cases his : i = cfg.start
        · right; exact ⟨his, hbt, hq, e2⟩
        · -- behind the first band a budget of one bit means `bits_left < 16`: the kept value was clamped to `-1`
          have hm : (0 : Int) ≤ 3 * cfg.C * ((cfg.end_ : Int) - i) := Int.mul_nonneg (by omega) (by omega)
          have hc : -1 ≤ clampedQ cfg budget i s := clampedQ_ge his (by omega)
          have : -1 ≤ q := by rw [e1]; exact Int.le_min.mpr ⟨by omega, hc⟩
          omega
      · left; omega

end OpusProofs.CeltHdr
