import OpusModel.SoftClip
/-
  OpusProofs.SoftClip — structural facts about the generic transcription of `opus_pcm_soft_clip`
  (OpusModel/SoftClip.lean), valid for EVERY instantiation of `ClipOps` (binary32 included): no
  arithmetic law is used.
    * the work on channel `c` of a `C`-channel interleaved buffer is the single-channel algorithm on
      that channel's samples (`chan`), and leaves every other channel untouched;
    * every loop leaves alone samples that satisfy the four facts the C code relies on for an in-range sample `v`
      (`Pass v`): neither `v > 1` nor `v < -1`, the ±2 saturation leaves `v` alone, and `v*0 >= 0`.  Over an ordered
      field these follow from `|v| ≤ 1` (OpusProofs/SoftClipField.lean); for binary32 they hold for every non-NaN `v`
      with `|v| ≤ 1` (IEEE-754: `v*0 = ±0`, `±0 >= 0`).
-/
namespace Opus.SoftClip
variable {α : Type} [ClipOps α]
open ClipOps

/-- The samples of channel `c` of an interleaved `C`-channel buffer of `N` frames. -/
def chan (x : Array α) (C c N : Nat) : Array α := Array.ofFn (n := N) (fun i => rd x C c i.val)

omit [ClipOps α] in
theorem size_wr (x : Array α) (C c i : Nat) (v : α) : (wr x C c i v).size = x.size := by
  unfold wr; simp

theorem size_chan (x : Array α) (C c N : Nat) : (chan x C c N).size = N := by
  unfold chan; simp

theorem getD_chan (x : Array α) (C c N : Nat) {i : Nat} (hi : i < N) :
    (chan x C c N).getD i zero = x.getD (i * C + c) zero := by
  simp [chan, rd, hi]

theorem idx_lt {C c N i : Nat} (hc : c < C) (hi : i < N) : i * C + c < N * C := by
  have := Nat.mul_le_mul_right C (Nat.succ_le_of_lt hi); rw [Nat.succ_mul] at this; omega

theorem rd_chan (x : Array α) (C c N : Nat) (hsz : x.size = N * C) (i : Nat) :
    rd (chan x C c N) 1 0 i = rd x C c i := by
  by_cases h : i < N
  · simp [rd, chan, h]
  · have : x.size ≤ i * C + c := by
      rw [hsz]; have := Nat.mul_le_mul_right C (Nat.le_of_not_lt h); omega
    simp [rd, chan, h, this]

theorem chan_wr (x : Array α) (C c N : Nat) (hc : c < C) (hsz : x.size = N * C) (i : Nat) (v : α) :
    chan (wr x C c i v) C c N = wr (chan x C c N) 1 0 i v := by
  apply Array.ext
  · simp [chan, wr]
  · intro j h1 h2
    have hj : j < N := by simpa [chan] using h1
    have hiff : i * C + c = j * C + c ↔ i = j := by
      constructor
      · intro h; have : i * C = j * C := by omega
        exact Nat.eq_of_mul_eq_mul_right (by omega) this
      · intro h; rw [h]
    by_cases hij : i = j
    · subst hij
      have : i * C + c < x.size := by rw [hsz]; exact idx_lt hc hj
      simp [chan, wr, rd, this]
    · have hne : i * C + c ≠ j * C + c := fun h => hij (hiff.mp h)
      simp only [chan, wr, rd, Array.getElem_ofFn, Array.getD_eq_getD_getElem?, Array.getElem?_setIfInBounds_ne hne]
      rw [Array.getElem_setIfInBounds_ne (by simpa using hj) (by omega)]
      simp

theorem chan_wr_other (x : Array α) (C c c' N : Nat) (hc : c < C) (hc' : c' < C) (hne : c' ≠ c) (i : Nat) (v : α) :
    chan (wr x C c i v) C c' N = chan x C c' N := by
  apply Array.ext
  · simp [chan]
  · intro j h1 h2
    have hj : j < N := by simpa [chan] using h1
    have hne2 : i * C + c ≠ j * C + c' := by
      intro h
      have e1 : (i * C + c) % C = c := by rw [Nat.mul_comm, Nat.mul_add_mod, Nat.mod_eq_of_lt hc]
      have e2 : (j * C + c') % C = c' := by rw [Nat.mul_comm, Nat.mul_add_mod, Nat.mod_eq_of_lt hc']
      rw [h] at e1; omega
    simp [chan, wr, rd, Array.getElem?_setIfInBounds_ne hne2]

section sim
variable {C c N : Nat} {x xs y : Array α}

/-- The interleaved buffer `x` (`N·C` samples) shows `xs` on channel `c` and agrees with `y` on every other channel.
    Every loop of the clipper reads and writes through `rd · C c` / `wr · C c` only, so it keeps this relation to its
    own run at stride 1 on `xs`. -/
structure View (C c N : Nat) (x xs y : Array α) : Prop where
  size : x.size = N * C
  own : chan x C c N = xs
  other : ∀ c', c' < C → c' ≠ c → chan x C c' N = chan y C c' N

theorem View.refl (hsz : x.size = N * C) : View C c N x (chan x C c N) x := ⟨hsz, rfl, fun _ _ _ => rfl⟩

theorem View.self (h : View C c N x xs y) : View C c N x (chan x C c N) y := ⟨h.size, rfl, h.other⟩

theorem View.rd (h : View C c N x xs y) (i : Nat) : rd xs 1 0 i = rd x C c i := by
  rw [← h.own, rd_chan x C c N h.size]

theorem View.wr (h : View C c N x xs y) (hc : c < C) (i : Nat) (v : α) : View C c N (wr x C c i v) (wr xs 1 0 i v) y :=
  ⟨by rw [size_wr]; exact h.size, by rw [chan_wr x C c N hc h.size, h.own],
    fun c' h1 h2 => by rw [chan_wr_other x C c c' N hc h1 h2, h.other c' h1 h2]⟩

theorem contLoop_view (hc : c < C) (a : α) (i : Nat) (h : View C c N x xs y) :
    View C c N (contLoop x C c N a i) (contLoop xs 1 0 N a i) y := by
  fun_induction contLoop x C c N a i generalizing xs with
  | case1 x i hi v => rename_i hle; rw [contLoop.eq_def xs, if_pos hi]; simp only [h.rd]; rw [if_pos hle]; exact h
  | case2 x i hi v =>
    rename_i hle ih; rw [contLoop.eq_def xs, if_pos hi]; simp only [h.rd]; rw [if_neg hle]; exact ih (h.wr hc _ _)
  | case3 x i hi => rw [contLoop.eq_def xs, if_neg hi]; exact h

theorem applyLoop_view (hc : c < C) (a : α) (i e : Nat) (h : View C c N x xs y) :
    View C c N (applyLoop x C c a i e) (applyLoop xs 1 0 a i e) y := by
  fun_induction applyLoop x C c a i e generalizing xs with
  | case1 x i hi => rename_i ih; rw [applyLoop.eq_def xs, if_pos hi, h.rd]; exact ih (h.wr hc _ _)
  | case2 x i hi => rw [applyLoop.eq_def xs, if_neg hi]; exact h

theorem rampLoop_view (hc : c < C) (delta : α) (i peak : Nat) (h : View C c N x xs y) :
    View C c N (rampLoop x C c delta i peak) (rampLoop xs 1 0 delta i peak) y := by
  fun_induction rampLoop x C c delta i peak generalizing xs with
  | case1 x i hi offset v => rename_i ih; rw [rampLoop.eq_def xs, if_pos hi]; simp only [h.rd]; exact ih (h.wr hc _ _)
  | case2 x i hi => rw [rampLoop.eq_def xs, if_neg hi]; exact h

theorem findExceed_view (h : View C c N x xs y) (i : Nat) : findExceed xs 1 0 N i = findExceed x C c N i := by
  fun_induction findExceed x C c N i with
  | case1 i hi v hcond => rw [findExceed.eq_def xs, if_pos hi]; simp only [h.rd]; exact if_pos hcond
  | case2 i hi v hcond ih => rw [findExceed.eq_def xs, if_pos hi]; simp only [h.rd]; rw [ih]; exact if_neg hcond
  | case3 i hi => rw [findExceed.eq_def xs, if_neg hi]

theorem startScan_view (h : View C c N x xs y) (xi : α) (s : Nat) : startScan xs 1 0 xi s = startScan x C c xi s := by
  induction s with
  | zero => rfl
  | succ s ih => simp only [startScan, h.rd, ih]

theorem endScan_view (h : View C c N x xs y) (xi : α) (e : Nat) (maxval : α) (peak : Nat) :
    endScan xs 1 0 N xi e maxval peak = endScan x C c N xi e maxval peak := by
  fun_induction endScan x C c N xi e maxval peak with
  | case1 e maxval peak hi v h1 h2 ih =>
    rw [endScan.eq_def xs, if_pos hi]; simp only [h.rd]; rw [ih]; exact (if_pos h1).trans (if_pos h2)
  | case2 e maxval peak hi v h1 h2 ih =>
    rw [endScan.eq_def xs, if_pos hi]; simp only [h.rd]; rw [ih]; exact (if_pos h1).trans (if_neg h2)
  | case3 e maxval peak hi v h1 => rw [endScan.eq_def xs, if_pos hi]; simp only [h.rd]; exact if_neg h1
  | case4 e maxval peak hi => rw [endScan.eq_def xs, if_neg hi]

theorem excursion_view (hc : c < C) (x0 : α) (curr i : Nat) (h : View C c N x xs y) {x' : Array α} {a : α} {e : Nat}
    (hex : excursion x C c N x0 curr i = (x', a, e)) :
    View C c N x' (chan x' C c N) y ∧ excursion xs 1 0 N x0 curr i = (chan x' C c N, a, e) := by
  unfold excursion at hex ⊢
  simp only [h.rd, startScan_view h, endScan_view h] at hex ⊢
  generalize rd x C c i = xi at hex ⊢
  generalize startScan x C c xi i = start at hex ⊢
  generalize endScan x C c N xi i (abs xi) i = r at hex ⊢
  obtain ⟨e', maxval, peak⟩ := r
  have ha := applyLoop_view hc (coefA maxval xi) start e' h
  simp only [ha.rd]
  by_cases hcond : (start == 0 && leb zero (xi * rd x C c 0) && decide (2 ≤ peak)) = true
  · simp only [hcond, if_true, Prod.mk.injEq] at hex ⊢
    obtain ⟨rfl, rfl, rfl⟩ := hex
    have hr := rampLoop_view hc ((x0 - rd (applyLoop x C c (coefA maxval xi) start e') C c 0) / ofNat peak) curr peak ha
    exact ⟨hr.self, hr.own.symm, rfl, rfl⟩
  · simp only [hcond, Prod.mk.injEq] at hex ⊢
    obtain ⟨rfl, rfl, rfl⟩ := hex
    exact ⟨ha.self, ha.own.symm, rfl, rfl⟩

theorem outer_view (hc : c < C) (x0 : α) (curr : Nat) (h : View C c N x xs y) :
    View C c N (outer x C c N x0 curr).1 (outer xs 1 0 N x0 curr).1 y ∧
    (outer xs 1 0 N x0 curr).2 = (outer x C c N x0 curr).2 := by
  induction hk : N - curr using Nat.strongRecOn generalizing x xs curr with
  | _ k ih =>
    rw [outer.eq_def x, outer.eq_def xs, findExceed_view h]
    by_cases hi : findExceed x C c N curr < N
    · obtain ⟨⟨x', a, e⟩, hex⟩ : ∃ r, excursion x C c N x0 curr (findExceed x C c N curr) = r := ⟨_, rfl⟩
      obtain ⟨e1, e2⟩ := excursion_view hc x0 curr _ h hex
      simp only [hi, if_true, hex, e2]
      split
      · exact ⟨e1, rfl⟩
      · split
        · exact ih _ (by omega) e e1 rfl
        · exact ⟨e1, rfl⟩
    · simp only [hi, if_false]
      exact ⟨h, trivial⟩

end sim

omit [ClipOps α] in
theorem getD_setIfInBounds (x : Array α) (i j : Nat) (v z : α) :
    (x.setIfInBounds i v).getD j z = if i = j ∧ i < x.size then v else x.getD j z := by
  by_cases h : i = j
  · subst h
    by_cases hb : i < x.size
    · simp [hb]
    · simp [hb]
  · simp [h, Array.getElem?_setIfInBounds_ne h]

omit [ClipOps α] in
/-- A loop `L` that rewrites the elements `i ≤ j < e` in place, element `j` by `f j` (the saturation pre-pass,
    the non-linearity of an excursion and the start-of-frame ramp have this shape). -/
theorem updLoop_spec (z : α) (f : Nat → α → α) (e : Nat) (L : Array α → Nat → Array α)
    (hL : ∀ x i, L x i = if i < e then L (x.setIfInBounds i (f i (x.getD i z))) (i + 1) else x)
    (x : Array α) (i : Nat) :
    (L x i).size = x.size ∧
    ∀ j, (L x i).getD j z = if i ≤ j ∧ j < e ∧ j < x.size then f j (x.getD j z) else x.getD j z := by
  induction hk : e - i generalizing x i with
  | zero =>
    rw [hL, if_neg (by omega)]
    exact ⟨rfl, fun j => by rw [if_neg (by omega)]⟩
  | succ k ih =>
    obtain ⟨i1, i2⟩ := ih (x.setIfInBounds i (f i (x.getD i z))) (i + 1) (by omega)
    rw [hL, if_pos (by omega)]
    refine ⟨by rw [i1, Array.size_setIfInBounds], fun j => ?_⟩
    rw [i2 j, Array.size_setIfInBounds]
    by_cases hij : i = j
    · subst hij
      rw [if_neg (by omega), getD_setIfInBounds]
      by_cases hb : i < x.size
      · rw [if_pos ⟨rfl, hb⟩, if_pos ⟨Nat.le_refl _, by omega, hb⟩]
      · rw [if_neg (by omega), if_neg (by omega)]
    · rw [getD_setIfInBounds, if_neg (c := i = j ∧ i < x.size) (fun h => hij h.1)]
      by_cases h : i + 1 ≤ j ∧ j < e ∧ j < x.size
      · rw [if_pos h, if_pos ⟨by omega, h.2⟩]
      · rw [if_neg h, if_neg (by omega)]

theorem satLoop_spec (x : Array α) (i n : Nat) :
    (satLoop x i n).size = x.size ∧
    ∀ j, (satLoop x i n).getD j zero =
      if i ≤ j ∧ j < n ∧ j < x.size then sat2 (x.getD j zero) else x.getD j zero :=
  updLoop_spec zero (fun _ => sat2) n (fun x i => satLoop x i n) (fun x i => satLoop.eq_def x i n) x i

/-- Over the whole buffer the saturation pre-pass is a map. -/
theorem satLoop_eq_map (x : Array α) (n : Nat) (hn : x.size ≤ n) : satLoop x 0 n = x.map sat2 := by
  obtain ⟨s1, s2⟩ := satLoop_spec x 0 n
  apply Array.ext (by rw [s1, Array.size_map])
  intro j h1 h2
  have := s2 j
  rw [if_pos ⟨Nat.zero_le _, by omega, by omega⟩] at this
  simpa [Array.getD, h1, show j < x.size by omega] using this

theorem chan_map (f : α → α) (x : Array α) (C c N : Nat) (hc : c < C) (hsz : x.size = N * C) :
    chan (x.map f) C c N = (chan x C c N).map f := by
  apply Array.ext (by simp [chan])
  intro j h1 h2
  have hj : j < N := by simpa [chan] using h1
  have : j * C + c < x.size := hsz ▸ idx_lt hc hj
  simp [chan, rd, this]

/-- The single-channel algorithm (after the saturation pre-pass) on samples `xs` with memory `m`. -/
def mono (xs : Array α) (m : α) (N : Nat) : Array α × α :=
  ((clipChannel xs #[m] 1 0 N).1, (clipChannel xs #[m] 1 0 N).2.getD 0 zero)

theorem clipChannel_view {C c N : Nat} {x xs y : Array α} (hc : c < C) (mem : Array α) (h : View C c N x xs y) :
    View C c N (clipChannel x mem C c N).1 (mono xs (mem.getD c zero) N).1 y ∧
    (clipChannel x mem C c N).2 = mem.setIfInBounds c (mono xs (mem.getD c zero) N).2 := by
  have k := contLoop_view hc (mem.getD c zero) 0 h
  obtain ⟨o1, o2⟩ := outer_view hc (rd (contLoop x C c N (mem.getD c zero) 0) C c 0) 0 k
  have hm0 : (#[mem.getD c zero] : Array α).getD 0 zero = mem.getD c zero := by simp
  unfold mono clipChannel
  simp only [hm0, k.rd]
  refine ⟨o1, ?_⟩
  rw [o2]; simp

/-- From channel `k` on, every channel gets the single-channel algorithm on its own samples and memory; the channels
    below `k` are left as they are. -/
theorem chanLoop_spec (y m : Array α) (C N k : Nat) (hy : y.size = N * C) (hms : m.size = C) :
    (chanLoop y m C N k).1.size = N * C ∧ (chanLoop y m C N k).2.size = C ∧
    ∀ c, c < C → (chan (chanLoop y m C N k).1 C c N, (chanLoop y m C N k).2.getD c zero) =
      if k ≤ c then mono (chan y C c N) (m.getD c zero) N else (chan y C c N, m.getD c zero) := by
  fun_induction chanLoop y m C N k with
  | case1 y m k h y' m' hcl ih =>
    obtain ⟨v, q3⟩ := clipChannel_view h m (View.refl hy)
    rw [hcl] at v q3
    simp only at v q3
    have hm' : m'.size = C := by rw [q3]; simp [hms]
    obtain ⟨i1, i2, i3⟩ := ih v.size hm'
    refine ⟨i1, i2, fun c hcC => ?_⟩
    rw [i3 c hcC]
    by_cases hk : c = k
    · subst hk
      rw [if_neg (by omega), if_pos (Nat.le_refl _), v.own, q3]
      exact Prod.ext rfl (by simp [hms, h])
    · have o2 : m'.getD c zero = m.getD c zero := by
        rw [q3]; simp only [Array.getD_eq_getD_getElem?, Array.getElem?_setIfInBounds_ne (Ne.symm hk)]
      rw [v.other c hcC hk, o2]
      exact ite_congr (propext ⟨by omega, by omega⟩) (fun _ => rfl) (fun _ => rfl)
  | case2 y m k h =>
    exact ⟨hy, hms, fun c hc => by rw [if_neg (by omega)]⟩

omit [ClipOps α] in
theorem array_one (m : Array α) (h : m.size = 1) (z : α) : m = #[m.getD 0 z] := by
  apply Array.ext
  · simp [h]
  · intro j h1 h2
    have : j = 0 := by omega
    subst this
    simp [Array.getD, h]

theorem chanLoop_one (xs : Array α) (m : α) (N : Nat) :
    chanLoop xs #[m] 1 N 0 = ((mono xs m N).1, #[(mono xs m N).2]) := by
  rw [chanLoop.eq_def]
  simp only [Nat.lt_one_iff, if_true]
  rw [chanLoop.eq_def]
  simp only [Nat.zero_add, Nat.lt_irrefl, if_false]
  have hs : (clipChannel xs #[m] 1 0 N).2.size = 1 := by unfold clipChannel; simp
  unfold mono
  exact Prod.ext rfl (array_one _ hs zero)

/-- On buffers of the declared size the call is the saturation pre-pass followed by the loop over the channels. -/
theorem softClip_ok (x mem : Array α) (N C : Nat) (hN : 1 ≤ N) (hC : 1 ≤ C) (hsz : x.size = N * C) (hm : mem.size = C) :
    softClip false false x mem (N : Int) (C : Int) = .ok (chanLoop (x.map sat2) mem C N 0) := by
  have hg : ¬ ((C : Int) < 1 ∨ (N : Int) < 1 ∨ false = true ∨ false = true) := by simp; omega
  have hb : ¬ (x.size < N * C ∨ mem.size < C) := by omega
  unfold softClip
  rw [if_neg hg]
  simp only [Int.toNat_natCast]
  rw [if_neg hb, satLoop_eq_map x _ (by omega)]

theorem softClip_one (xs : Array α) (m : α) (N : Nat) (hN : 1 ≤ N) (hsz : xs.size = N) :
    softClip false false xs #[m] (N : Int) 1 =
      .ok ((mono (xs.map sat2) m N).1, #[(mono (xs.map sat2) m N).2]) :=
  (softClip_ok xs #[m] N 1 hN (Nat.le_refl 1) (by rw [hsz, Nat.mul_one]) rfl).trans (by rw [chanLoop_one])

/-- The whole call is, channel by channel, the single-channel algorithm on the saturated samples of that channel. -/
theorem softClip_mono (x mem : Array α) (N C : Nat) (hN : 1 ≤ N) (hC : 1 ≤ C)
    (hsz : x.size = N * C) (hm : mem.size = C) :
    ∃ y m', softClip false false x mem (N : Int) (C : Int) = .ok (y, m') ∧ y.size = N * C ∧ m'.size = C ∧
      ∀ c, c < C → mono ((chan x C c N).map sat2) (mem.getD c zero) N = (chan y C c N, m'.getD c zero) := by
  have hxs : (x.map sat2).size = N * C := by rw [Array.size_map, hsz]
  obtain ⟨r1, r2, r3⟩ := chanLoop_spec (x.map sat2) mem C N 0 hxs hm
  refine ⟨_, _, softClip_ok x mem N C hN hC hsz hm, r1, r2, fun c hc => ?_⟩
  rw [← chan_map sat2 x C c N hc hsz]
  exact ((r3 c hc).trans (if_pos (Nat.zero_le c))).symm

/-- What the code needs to know about a sample to leave it alone. -/
def Pass (v : α) : Prop :=
  ltb one v = false ∧ ltb v (-one) = false ∧ sat2 v = v ∧ leb zero (v * zero) = true

theorem satLoop_id (x : Array α) (n : Nat) (hn : x.size ≤ n) (h : ∀ j, j < x.size → sat2 (x.getD j zero) = x.getD j zero) :
    satLoop x 0 n = x := by
  rw [satLoop_eq_map x n hn]
  apply Array.ext (by simp)
  intro j h1 h2
  simpa [Array.getD, h2] using h j h2

theorem contLoop_zero (x : Array α) (C c N : Nat) (h : 0 < N → Pass (rd x C c 0)) :
    contLoop x C c N zero 0 = x := by
  rw [contLoop.eq_def]
  split
  · rename_i hN
    simp only [(h hN).2.2.2, if_true]
  · rfl

theorem findExceed_none (x : Array α) (C c N i : Nat) (h : ∀ j, j < N → Pass (rd x C c j)) :
    findExceed x C c N i = N := by
  fun_induction findExceed x C c N i with
  | case1 i hi v hcond =>
    exfalso
    have hp := h i hi
    have : (ltb one v || ltb v (-one)) = false := by
      show (ltb one (rd x C c i) || ltb (rd x C c i) (-one)) = false
      rw [hp.1, hp.2.1]; rfl
    rw [this] at hcond; exact Bool.false_ne_true hcond
  | case2 i hi v hcond ih => exact ih
  | case3 i hi => rfl

theorem outer_none (x : Array α) (C c N : Nat) (x0 : α) (h : ∀ j, j < N → Pass (rd x C c j)) :
    outer x C c N x0 0 = (x, zero) := by
  rw [outer.eq_def]
  simp only [findExceed_none x C c N 0 h, Nat.lt_irrefl, if_false]

omit [ClipOps α] in
theorem setIfInBounds_same (m : Array α) (c : Nat) (z : α) (h : m.getD c z = z) : m.setIfInBounds c z = m := by
  apply Array.ext
  · simp
  · intro j h1 h2
    by_cases hj : c = j
    · subst hj
      have : m[c] = z := by simpa [Array.getD, h2] using h
      simp [this]
    · rw [Array.getElem_setIfInBounds_ne h2 hj]

theorem clipChannel_pass (x mem : Array α) (C c N : Nat) (hmem : mem.getD c zero = zero)
    (h : ∀ j, j < N → Pass (rd x C c j)) : clipChannel x mem C c N = (x, mem) := by
  unfold clipChannel
  simp only [hmem, contLoop_zero x C c N (fun hN => h 0 hN), outer_none x C c N _ h,
    setIfInBounds_same mem c zero hmem]

theorem chanLoop_pass (x mem : Array α) (C N k : Nat) (hmem : ∀ c, c < C → mem.getD c zero = zero)
    (h : ∀ c j, c < C → j < N → Pass (rd x C c j)) : chanLoop x mem C N k = (x, mem) := by
  fun_induction chanLoop x mem C N k with
  | case1 x mem k hk x' mem' hcl ih =>
    rw [clipChannel_pass x mem C k N (hmem k hk) (fun j hj => h k j hk hj)] at hcl
    injection hcl with h1 h2
    subst h1 h2
    exact ih hmem h
  | case2 x mem k hk => rfl

end Opus.SoftClip
