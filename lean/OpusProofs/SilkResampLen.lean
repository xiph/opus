import OpusProofs.SilkResampCall
/-
  OpusProofs.SilkResampLen — the sample count of silk_resampler in closed form, for every input length:
  the batch loop's count `loopLenF` summed up (full batches + the last partial batch, which down_FIR drops when it is
  a single sample after a full batch), and the per-batch count `ceil( (n << 16|17) / invRatio_Q16 )` identified with
  `ceil( n * Fs_out / Fs_in )` for every batch length of every configuration (complete enumeration).
-/
namespace OpusProofs.SilkResamp
open Opus Opus.SilkResamp Opus.SilkParams Opus.Gen.SilkResampRom

theorem loopLenF_closed (cnt : Nat → Nat) (B thr : Nat) (hB : 0 < B) (hthr : thr < B) (h0 : cnt 0 = 0) :
    ∀ (f m : Nat), m ≤ f →
      loopLenF cnt B thr f m = (m / B) * cnt B + (if thr < m % B ∨ m < B then cnt (m % B) else 0) := by
  intro f
  induction f with
  | zero =>
    intro m hm
    have : m = 0 := by omega
    subst this
    simp [loopLenF, h0, hB]
  | succ f ih =>
    intro m hm
    simp only [loopLenF]
    by_cases hlt : m < B
    · have hmin : min m B = m := by omega
      rw [hmin, if_neg (by omega), Nat.div_eq_of_lt hlt, Nat.mod_eq_of_lt hlt, if_pos (Or.inr hlt)]
      omega
    · have hle : B ≤ m := by omega
      have hmin : min m B = B := by omega
      have hdiv : m / B = (m - B) / B + 1 := Nat.div_eq_sub_div hB hle
      have hmod : m % B = (m - B) % B := Nat.mod_eq_sub_mod hle
      rw [hmin]
      by_cases hcont : thr < m - B
      · rw [if_pos ⟨hcont, hB⟩, ih (m - B) (by omega), hdiv, ← hmod, Nat.add_mul, Nat.one_mul]
        by_cases hlt2 : m - B < B
        · have hm2 : m % B = m - B := by rw [hmod]; exact Nat.mod_eq_of_lt hlt2
          rw [if_pos (Or.inr hlt2), if_pos (Or.inl (by omega))]
          omega
        · by_cases hr : thr < m % B
          · rw [if_pos (Or.inl hr), if_pos (Or.inl hr)]; omega
          · rw [if_neg (by omega), if_neg (by omega)]; omega
      · rw [if_neg (by omega)]
        have hlt2 : m - B < B := by omega
        have hm2 : m % B = m - B := by rw [hmod]; exact Nat.mod_eq_of_lt hlt2
        have hd2 : (m - B) / B = 0 := Nat.div_eq_of_lt hlt2
        rw [hdiv, hd2, if_neg (by omega)]
        omega

/-- `ceil( n * Fs_out / Fs_in )`. -/
def ceilRate (c : Cfg) (n : Nat) : Nat := (n * c.fsOut + c.fsIn - 1) / c.fsIn

/-- For the two batch kernels: the interpolation loop on a batch of `n ≤ batchSize` samples writes
    `ceil( n * Fs_out / Fs_in )` samples. -/
def lenFacts (c : Cfg) : Bool :=
  (c.fn != useIIRFIR || (List.range (c.batchSize + 1)).all (fun n =>
      interpCount (lshift32 (n : Int) 17) c.invRatio == ceilRate c n)) &&
  (c.fn != useDownFIR || (List.range (c.batchSize + 1)).all (fun n =>
      interpCount (lshift32 (n : Int) 16) c.invRatio == ceilRate c n)) &&
  ceilRate c c.batchSize == 10 * c.fsOut && ceilRate c 0 == 0 && decide (1 < c.batchSize)

theorem cfgTable_lenFacts : ∀ c ∈ cfgTable, lenFacts c = true := by decide +kernel

/-- Samples written for the `m` input samples after the first millisecond, in closed form. -/
def restLen (c : Cfg) (m : Nat) : Nat :=
  if c.fn = useUp2HQ then 2 * m
  else if c.fn = useIIRFIR then
    (m / c.batchSize) * (10 * c.fsOut) + (if 0 < m % c.batchSize ∨ m < c.batchSize then ceilRate c (m % c.batchSize) else 0)
  else if c.fn = useDownFIR then
    (m / c.batchSize) * (10 * c.fsOut) + (if 1 < m % c.batchSize ∨ m < c.batchSize then ceilRate c (m % c.batchSize) else 0)
  else m

theorem kernelOutLen_closed (c : Cfg) (hc : c ∈ cfgTable) (m : Nat) : kernelOutLen c m = restLen c m := by
  have hf := cfgTable_lenFacts c hc
  simp only [lenFacts, Bool.and_eq_true, Bool.or_eq_true, bne_iff_ne, ne_eq, List.all_eq_true, List.mem_range,
    beq_iff_eq, decide_eq_true_eq] at hf
  obtain ⟨⟨⟨⟨hi, hd⟩, hB⟩, h0⟩, h1⟩ := hf
  have hmod : m % c.batchSize ≤ c.batchSize := Nat.le_of_lt (Nat.mod_lt _ (by omega))
  unfold kernelOutLen restLen
  by_cases h1f : c.fn = useUp2HQ
  · rw [if_pos h1f, if_pos h1f]
  · rw [if_neg h1f, if_neg h1f]
    by_cases h2f : c.fn = useIIRFIR
    · rw [if_pos h2f, if_pos h2f]
      have hi' := hi.resolve_left (fun h => h h2f)
      unfold loopLen
      rw [loopLenF_closed _ _ _ (by omega) (by omega) (by rw [hi' 0 (by omega)]; exact h0) m m (Nat.le_refl _)]
      rw [hi' c.batchSize (by omega), hi' (m % c.batchSize) (by omega), hB]
    · rw [if_neg h2f, if_neg h2f]
      by_cases h3f : c.fn = useDownFIR
      · rw [if_pos h3f, if_pos h3f]
        have hd' := hd.resolve_left (fun h => h h3f)
        unfold loopLen
        rw [loopLenF_closed _ _ _ (by omega) (by omega) (by rw [hd' 0 (by omega)]; exact h0) m m (Nat.le_refl _)]
        rw [hd' c.batchSize (by omega), hd' (m % c.batchSize) (by omega), hB]
      · rw [if_neg h3f, if_neg h3f]

theorem ceilRate_ms (c : Cfg) (h : 0 < c.fsIn) (r : Nat) : ceilRate c (r * c.fsIn) = r * c.fsOut := by
  unfold ceilRate
  have : r * c.fsIn * c.fsOut + c.fsIn - 1 = c.fsIn * (r * c.fsOut) + (c.fsIn - 1) := by
    rw [Nat.mul_right_comm r c.fsIn c.fsOut, Nat.mul_comm (r * c.fsOut) c.fsIn]; omega
  rw [this, Nat.mul_add_div h, Nat.div_eq_of_lt (by omega)]; omega

theorem restLen_ms (c : Cfg) (hc : c ∈ cfgTable) (j : Nat) : restLen c (j * c.fsIn) = j * c.fsOut := by
  have ok := cfg_ok hc
  have hB := ok.batch
  have h1 := ok.fsIn_gt
  have hq : j * c.fsIn / (10 * c.fsIn) = j / 10 := Nat.mul_div_mul_right j 10 (by omega)
  have hr : j * c.fsIn % (10 * c.fsIn) = (j % 10) * c.fsIn := Nat.mul_mod_mul_right c.fsIn j 10
  have hj : j * c.fsOut = (j / 10) * (10 * c.fsOut) + (j % 10) * c.fsOut := by
    rw [← Nat.mul_assoc, ← Nat.add_mul, Nat.mul_comm (j / 10) 10, Nat.div_add_mod]
  have batch : ∀ thr, thr ≤ 1 →
      (j * c.fsIn / c.batchSize) * (10 * c.fsOut) +
        (if thr < j * c.fsIn % c.batchSize ∨ j * c.fsIn < c.batchSize then ceilRate c (j * c.fsIn % c.batchSize) else 0) =
      j * c.fsOut := by
    intro thr ht
    rw [hB, hq, hr, ceilRate_ms c (by omega), hj]
    by_cases h0 : 0 < j % 10
    · have : 1 * c.fsIn ≤ (j % 10) * c.fsIn := Nat.mul_le_mul_right _ h0
      rw [if_pos (Or.inl (by omega))]
    · have hz : j % 10 = 0 := by omega
      rw [hz, Nat.zero_mul]
      split <;> simp only [Nat.zero_mul]
  unfold restLen
  rcases ok.kernel with ⟨hfn, he⟩ | ⟨hfn, he⟩ | hfn | ⟨hfn, _⟩
  · rw [if_neg (by rw [hfn]; decide), if_neg (by rw [hfn]; decide), if_neg (by rw [hfn]; decide), he]
  · rw [if_pos hfn, he, Nat.mul_left_comm 2 j c.fsIn]
  · rw [if_neg (by rw [hfn]; decide), if_pos hfn]; exact batch 0 (by omega)
  · rw [if_neg (by rw [hfn]; decide), if_neg (by rw [hfn]; decide), if_pos hfn]; exact batch 1 (by omega)

theorem outLen_closed (c : Cfg) (hc : c ∈ cfgTable) (inLen : Nat) :
    outLen c inLen = c.fsOut + restLen c (inLen - c.fsIn) := by
  unfold outLen
  rw [first_ms_len c hc, kernelOutLen_closed c hc]

theorem outLen_ms (c : Cfg) (hc : c ∈ cfgTable) (ms : Nat) (h : 1 ≤ ms) : outLen c (ms * c.fsIn) = ms * c.fsOut := by
  rw [outLen_closed c hc, ← Nat.sub_one_mul, restLen_ms c hc, Nat.add_comm, ← Nat.add_one_mul, Nat.sub_add_cancel h]

end OpusProofs.SilkResamp
