import OpusProofs.SilkParamsRangeCos
import OpusProofs.SilkParamsRangePoly
import OpusProofs.SilkParamsRangeFit
/-
  OpusProofs.SilkParamsRangeNlsf2a — the range lemmas for silk_NLSF2A (NLSF2A.c:68-141) as a whole.

  Result.  For every input with `0 ≤ NLSF[k] ≤ 32767`:
  * d = 10: no 32-bit value wraps anywhere in silk_NLSF2A (cosine interpolation, find_poly,
    the sums `Ptmp`/`Qtmp`, `a32_QA1`, silk_LPC_fit, silk_bwexpander_32, the stabilisation loop)
    and no `(opus_int16)` cast truncates.
  * d = 16: the same up to and including `Ptmp`, `Qtmp`, `-Qtmp`; the final subtraction
    `a32_QA1[k] = -Qtmp - Ptmp` / `Qtmp - Ptmp` is bounded by `2^31.66` only, and it DOES overflow
    on the in-range (but unordered) input `32767,0,32767,0,…` — see `nlsf2a_a32_overflow_witness`.
    Under the hypothesis that `a32_QA1` fits (`|a32_QA1[k]| ≤ 2^31 - 1`), everything after it is
    again free of wrap and truncation.
-/
namespace Opus.SilkParams
open Opus Opus.Gen

theorem mem_evens : ∀ (l : List Int) (e : Int), e ∈ evens l → e ∈ l
  | a :: _ :: rest, e, h => by
    unfold evens at h
    rcases List.mem_cons.mp h with rfl | h'
    · simp
    · have := mem_evens rest e h'; simp [this]
  | [a], e, h => by unfold evens at h; exact h
  | [], e, h => by unfold evens at h; exact h

theorem mem_odds : ∀ (l : List Int) (e : Int), e ∈ odds l → e ∈ l
  | _ :: b :: rest, e, h => by
    unfold odds at h
    rcases List.mem_cons.mp h with rfl | h'
    · simp
    · have := mem_odds rest e h'; simp [this]
  | [a], e, h => by unfold odds at h; simp at h
  | [], e, h => by unfold odds at h; simp at h

theorem evens_odds_length : ∀ (l : List Int), (evens l).length = (l.length + 1) / 2 ∧ (odds l).length = l.length / 2
  | a :: b :: rest => by
    have := evens_odds_length rest
    unfold evens odds
    simp only [List.length_cons]
    omega
  | [a] => by unfold evens odds; simp
  | [] => by unfold evens odds; simp

/-- The 32-bit values of NLSF2A.c:120-127 before the final subtraction: the two find_poly
    traces, and per `k` the sums `Ptmp = P[k+1] + P[k]`, `Qtmp = Q[k+1] - Q[k]` and `-Qtmp`. -/
def nlsf2aPolyTrace (cosQA : List Int) : List Int :=
  let dd := cosQA.length / 2
  let P := findPoly (evens cosQA)
  let Q := findPoly (odds cosQA)
  findPolyTrace (evens cosQA) ++ findPolyTrace (odds cosQA) ++
    (List.range dd).map (fun k => P.getD (k + 1) 0 + P.getD k 0) ++
    (List.range dd).map (fun k => Q.getD (k + 1) 0 - Q.getD k 0) ++
    (List.range dd).map (fun k => -(Q.getD (k + 1) 0 - Q.getD k 0))

/-- The polynomial part of silk_NLSF2A for `|cos_LSF_QA[k]| ≤ 2` (Q16) and `d ∈ {10, 16}`:
    everything up to `-Qtmp` fits 32 bits; the entries of `a32_QA1` are bounded by `U4 = 4·U`
    where `U` is the largest binomial majorant (`C(10,5)·2^16`, resp. `C(16,8)·2^16`). -/
theorem nlsf2aPoly_range (cosQA : List Int) (U : Int) (hc : ∀ f ∈ cosQA, -131072 ≤ f ∧ f ≤ 131072)
    (hd : (cosQA.length = 10 ∧ U = 16515072) ∨ (cosQA.length = 16 ∧ U = 843448320)) :
    (∀ v ∈ nlsf2aPolyTrace cosQA, I32 v) ∧ (∀ e ∈ nlsf2aPoly cosQA, -(4 * U) ≤ e ∧ e ≤ 4 * U) ∧
    (nlsf2aPoly cosQA).length = cosQA.length := by
  have hlen := evens_odds_length cosQA
  have he : ∀ f ∈ evens cosQA, -131072 ≤ f ∧ f ≤ 131072 := fun f hf => hc f (mem_evens _ _ hf)
  have ho : ∀ f ∈ odds cosQA, -131072 ≤ f ∧ f ≤ 131072 := fun f hf => hc f (mem_odds _ _ hf)
  -- the two orders are told apart here only: an even length ≥ 2, and the binomial majorant of both polynomials
  -- (`polyBound_dd5/8`), all of whose entries are at most `U`
  obtain ⟨h2, heven, hU0, hU1, hok, hall⟩ : 2 ≤ cosQA.length ∧ cosQA.length % 2 = 0 ∧ 0 ≤ U ∧ U ≤ 843448320 ∧
      polyBoundsOk (cosQA.length / 2 - 1) [65536, 131072] = true ∧
      ∀ e ∈ polyBoundIter (cosQA.length / 2 - 1) [65536, 131072], e ≤ U := by
    rcases hd with ⟨hl, rfl⟩ | ⟨hl, rfl⟩ <;> rw [hl]
    · exact ⟨by omega, by omega, by omega, by omega, polyBound_dd5.1, by rw [polyBound_dd5.2]; decide⟩
    · exact ⟨by omega, by omega, by omega, by omega, polyBound_dd8.1, by rw [polyBound_dd8.2]; decide⟩
  have hle : (evens cosQA).length = cosQA.length / 2 ∧ (odds cosQA).length = cosQA.length / 2 := by omega
  obtain ⟨hP', hPt, _⟩ := findPoly_range_of (evens cosQA) he (List.ne_nil_of_length_pos (by omega))
    (by rw [hle.1]; exact hok)
  obtain ⟨hQ', hQt, _⟩ := findPoly_range_of (odds cosQA) ho (List.ne_nil_of_length_pos (by omega))
    (by rw [hle.2]; exact hok)
  rw [hle.1] at hP'; rw [hle.2] at hQ'
  have hP : ∀ n, -U ≤ (findPoly (evens cosQA)).getD n 0 ∧ (findPoly (evens cosQA)).getD n 0 ≤ U := fun n => by
    have := hP' n; have := getD_of_all hall hU0 n; omega
  have hQ : ∀ n, -U ≤ (findPoly (odds cosQA)).getD n 0 ∧ (findPoly (odds cosQA)).getD n 0 ≤ U := fun n => by
    have := hQ' n; have := getD_of_all hall hU0 n; omega
  refine ⟨?_, ?_, ?_⟩
  · intro v hv
    unfold nlsf2aPolyTrace at hv
    simp only [List.mem_append, List.mem_map, List.mem_range] at hv
    rcases hv with (((hv | hv) | ⟨k, _, rfl⟩) | ⟨k, _, rfl⟩) | ⟨k, _, rfl⟩
    · exact hPt v hv
    · exact hQt v hv
    · have := hP (k + 1); have := hP k; unfold I32; omega
    · have := hQ (k + 1); have := hQ k; unfold I32; omega
    · have := hQ (k + 1); have := hQ k; unfold I32; omega
  · intro e he'
    unfold nlsf2aPoly at he'
    simp only [List.mem_append, List.mem_map, List.mem_range, List.mem_reverse] at he'
    rcases he' with ⟨k, _, rfl⟩ | ⟨k, _, rfl⟩
    · have := hP (k + 1); have := hP k; have := hQ (k + 1); have := hQ k; omega
    · have := hP (k + 1); have := hP k; have := hQ (k + 1); have := hQ k; omega
  · rw [nlsf2aPoly_length]; omega

/-- All `opus_int32` values of `silk_NLSF2A` after `a32_QA1` has been formed. -/
def nlsf2aTailTrace (a32 : List Int) : List Int :=
  lpcFitLoopTrace 10 a32 0 ++ lpcFitFinalTrace a32 ++
    nlsf2aLoopTrace SilkNlsf.maxLpcStabilizeIterations 0 (lpcFit a32 5).2 (lpcFit a32 5).1

/-- Everything after `a32_QA1`: no wrap, no division by zero, no truncating cast, provided
    `a32_QA1` holds `d ≤ 16` values of magnitude at most `2^31 - 1`. -/
theorem nlsf2aTail_range (a32 : List Int) (hne : a32 ≠ []) (hlen : a32.length ≤ 16)
    (ha : ∀ e ∈ a32, -2147483647 ≤ e ∧ e ≤ 2147483647) :
    (∀ v ∈ nlsf2aTailTrace a32, I32 v) ∧ (∀ v ∈ lpcFitLoopDivisors 10 a32 0, v ≠ 0) ∧
    (∀ v ∈ nlsf2aCasts a32, I16 v) := by
  have hf := lpcFit_range a32 hne hlen ha
  have hloop := nlsf2aLoop_range SilkNlsf.maxLpcStabilizeIterations 0 (lpcFit a32 5).2 (lpcFit a32 5).1
    (by decide) (fun e he => by have := hf.2.2.2.2 e he; omega)
  refine ⟨?_, hf.2.1, ?_⟩
  · unfold nlsf2aTailTrace
    exact List.forall_mem_append.mpr ⟨hf.1, hloop.1⟩
  · unfold nlsf2aCasts
    exact List.forall_mem_append.mpr ⟨hf.2.2.1, hloop.2⟩

theorem truncCount_zero (l : List Int) (h : ∀ v ∈ l, I16 v) : truncCount l = 0 := by
  unfold truncCount
  rw [List.length_eq_zero_iff, List.filter_eq_nil_iff]
  intro v hv
  rw [wrap16_id (h v hv)]
  simp

/-- The in-range but unordered input on which `a32_QA1[7] = -Qtmp - Ptmp` and
    `a32_QA1[9] = Qtmp - Ptmp` leave 32 bits (`-3186360320`, `-2549088256` `< -2^31`): signed
    overflow at NLSF2A.c:125-126 in C (UBSan: "-1593180160 - 1593180160 cannot be represented in
    type 'int'").  So the hypothesis on `a32_QA1` in `nlsf2aTail_range` cannot be dropped for
    d = 16 on the domain "all NLSF in [0, 32767]"; it needs the ordering of the NLSFs. -/
theorem nlsf2a_a32_overflow_witness :
    nlsf2aA32 [32767, 0, 32767, 0, 32767, 0, 32767, 0, 32767, 0, 32767, 0, 32767, 0, 32767, 0] =
      .ok [0, -17825792, 0, -311951360, 0, -1622147072, 0, -3186360320, 0, -2549088256, 0, -811073536,
           0, -89128960, 0, -2228224] := by
  decide +kernel

end Opus.SilkParams
