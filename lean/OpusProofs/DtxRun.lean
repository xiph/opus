import OpusProofs.DtxQuery
import OpusProofs.DtxOnset
/-
  OpusProofs.DtxRun — runs of consecutive DTX packets at the packet level (`encodeCall`, `run`):
  the run bound under either detector (`pot`: the inactivity the detector in charge has counted, which every dropped
  coded frame advances by at least its duration), the in-DTX query along whole runs, what a frame dropped by SILK says of its VAD flags (behind C20 `dtx_resume_silk`),
  what the decidable oracle-shape contract `oracleOk` gives, and the range of the counters along every run.
-/
namespace Opus.Dtx
open Opus.Gen.DtxConsts

theorem mainOk_spec (fQ1 : Nat) (m : SCall) (h : mainOk fQ1 m = true) :
    m.prefill = 0 ∧ m.frames ≠ [] ∧ m.frames.length ≤ maxFramesPerPacket ∧ fQ1 ≤ 40 * m.frames.length := by
  simp only [mainOk, Bool.and_eq_true, beq_iff_eq, decide_eq_true_eq] at h
  obtain ⟨⟨⟨h1, h2⟩, h3⟩, h4⟩ := h
  refine ⟨h1, ?_, h3, h4⟩
  intro h0; rw [h0] at h2; simp at h2

/-- The two shapes `subOk` admits. -/
theorem subOk_cases (fQ1 : Nat) (s : Sub) (h : subOk fQ1 s = true) :
    (∃ m, s.silk = [m] ∧ mainOk fQ1 m = true) ∨
    (∃ p m, s.silk = [p, m] ∧ p.prefill ≠ 0 ∧ p.frames ≠ [] ∧ p.frames.length ≤ maxFramesPerPacket ∧ mainOk fQ1 m = true) := by
  unfold subOk at h
  split at h
  · rename_i m hm; exact Or.inl ⟨m, hm, h⟩
  · rename_i p m hm
    simp only [Bool.and_eq_true, bne_iff_ne, ne_eq, decide_eq_true_eq] at h
    obtain ⟨⟨⟨h1, h2⟩, h3⟩, h4⟩ := h
    refine Or.inr ⟨p, m, hm, h1, ?_, h3, h4⟩
    intro h0; rw [h0] at h2; simp at h2
  · cases h

theorem subOk_wf (fQ1 : Nat) (s : Sub) (h : subOk fQ1 s = true) : WFSub s := by
  rcases subOk_cases fQ1 s h with ⟨m, hm, hok⟩ | ⟨p, m, hm, _, hp1, hp2, hok⟩
  · have := mainOk_spec fQ1 m hok
    refine ⟨by rw [hm]; simp, by rw [hm]; simp, ?_⟩
    intro c hc; rw [hm] at hc; simp at hc; subst hc; exact ⟨this.2.1, this.2.2.1⟩
  · have := mainOk_spec fQ1 m hok
    refine ⟨by rw [hm]; simp, by rw [hm]; simp, ?_⟩
    intro c hc; rw [hm] at hc; simp at hc
    rcases hc with rfl | rfl
    · exact ⟨hp1, hp2⟩
    · exact ⟨this.2.1, this.2.2.1⟩

theorem oracleOk_spec (c : Cfg) (o : CallOr) (h : oracleOk c o = true) :
    WF o ∧ (o.mode ≠ .celt → ∀ s ∈ o.subs, subOk (subQ1 c o.mode) s = true) := by
  simp only [oracleOk, shapeOk, Bool.and_eq_true, Bool.or_eq_true, bne_iff_ne, ne_eq, beq_iff_eq, List.all_eq_true] at h
  obtain ⟨h1, h2⟩ := h
  have hsub : o.mode ≠ .celt → ∀ s ∈ o.subs, subOk (subQ1 c o.mode) s = true := by
    intro hm; rcases h2 with h2 | h2
    · exact absurd h2 hm
    · exact h2
  exact ⟨⟨h1, fun hm s hs => subOk_wf _ s (hsub hm s hs)⟩, hsub⟩

theorem pkts_nil (c : Cfg) (st : St) : pkts c st [] = [] := rfl

theorem pkts_append (c : Cfg) (st : St) (a b : List CallOr) :
    pkts c st (a ++ b) = pkts c st a ++ pkts c (runFinal c st a) b := by
  induction a generalizing st with
  | nil => rfl
  | cons o os ih => simp only [List.cons_append, pkts_cons, runFinal, ih, List.cons_append]

theorem pkts_length (c : Cfg) (st : St) (a : List CallOr) : (pkts c st a).length = a.length := by
  induction a generalizing st with
  | nil => rfl
  | cons o os ih => simp only [pkts_cons, List.length_cons, ih]

theorem runFinal_append (c : Cfg) (st : St) (a b : List CallOr) :
    runFinal c st (a ++ b) = runFinal c (runFinal c st a) b := by
  induction a generalizing st with
  | nil => rfl
  | cons o os ih => simp only [List.cons_append, runFinal, ih]

/-- Every packet of the list is a DTX packet. -/
def AllDtx (l : List Pkt) : Prop := ∀ p ∈ l, ∃ n, p = Pkt.dtx n

theorem allDtx_cons (p : Pkt) (l : List Pkt) : AllDtx (p :: l) ↔ (∃ n, p = Pkt.dtx n) ∧ AllDtx l := by
  unfold AllDtx; simp

/-- SILK's own DTX is in charge of this call: `silk_mode.useDTX = 1` (src/opus_encoder.c:1393, :1402).  This is
    `sdtxOf c o = true`, with `sdtxOf` spelled out so that a statement shows the condition of the C code. -/
def SilkCall (c : Cfg) (o : CallOr) : Prop := (c.useDtx && !((analysisOn c && o.valid0) || isSilOf c o)) = true

/-! ### Runs of DTX packets: the inactivity counted by the detector in charge -/

/-- A coded frame that SILK drops, with oracles of the shape `subOk`: the mid counter advanced by the number `k` of
    SILK frames of the main call, inside [10, 30] (a prefill call before it would have cleared it: that shape is refuted). -/
theorem frameSilk_zero_count (mode : Mode) (act : Int) (st : St) (o : Sub) (fQ1 : Nat)
    (hok : subOk fQ1 o = true) (h : (frameSilk mode act st o).2 = some true) :
    ∃ k, fQ1 ≤ 40 * k ∧ (frameSilk mode act st o).1.silk.c0 = st.silk.c0 + k ∧
      nbSpeechFramesBeforeDtx ≤ st.silk.c0 ∧ st.silk.c0 + k ≤ nbSpeechFramesBeforeDtx + maxConsecutiveDtx := by
  obtain ⟨-, -, -, -, -, h1, h2⟩ := frameSilk_zero mode act st o (fun _ => subOk_wf fQ1 o hok) h
  rcases subOk_cases fQ1 o hok with ⟨m, hms, hmok⟩ | ⟨p, m, hms, hpf, -⟩
  · exact ⟨m.frames.length, (mainOk_spec fQ1 m hmok).2.2.2, h1 m hms⟩
  · exact absurd (h2 p m hms) hpf

/-- Inactivity counted by the detector in charge, in Q1 ms (one count of SILK's `noSpeechCounter` is a 20 ms frame). -/
def pot (st : St) : Nat := if st.silkUseDtx = true then 40 * st.silk.c0 else st.nb

/-- **A dropped coded frame**, whichever detector dropped it: the inactivity including the frame is beyond the 200 ms mark,
    the count advanced by at least the frame's duration, and it is within the 600 ms limit. -/
theorem frameStep_drop_pot (useDtx isSil : Bool) (mode : Mode) (fQ1 : Nat) (tc : Bool) (st : St) (o : Sub) (hf : 1 ≤ fQ1)
    (hok : mode ≠ .celt → subOk fQ1 o = true) (h : (frameStep useDtx isSil mode fQ1 tc st o).2.1 = true) :
    onsetQ1 < pot st + fQ1 ∧ pot st + fQ1 ≤ pot (frameStep useDtx isSil mode fQ1 tc st o).1 ∧
      pot (frameStep useDtx isSil mode fQ1 tc st o).1 ≤ limitQ1 := by
  unfold pot
  rw [frameStep_silkUseDtx]
  cases hs : st.silkUseDtx
  · -- `decide_dtx_mode` dropped it
    obtain ⟨e1, e2⟩ := frameStep_generalised useDtx isSil mode fQ1 tc st o hs
    cases useDtx
    · rw [e1] at h; cases h
    · rw [e1] at h
      obtain ⟨-, h1, h2⟩ := (decideDtx_true_iff _ _ _).1 h
      have := (hang_count _ _ onset_le_limit _ st.nb fQ1).1 h
      simp only [Bool.false_eq_true, if_false, e2, if_true, decideDtx_eq_hang, this]
      omega
  · -- SILK dropped it: zero bytes
    obtain ⟨hz, e⟩ := frameStep_silk_charge useDtx isSil mode fQ1 tc st o hs h
    have hm : mode ≠ .celt := fun hm => by subst hm; rw [frameSilk_celt] at hz; cases hz
    obtain ⟨k, hk, hc, hlo, hhi⟩ := frameSilk_zero_count mode _ st o fQ1 (hok hm) hz
    simp only [if_true, e, hc, onsetQ1_eq, limitQ1_eq]
    rw [nb_eq] at hlo hhi; rw [max_eq] at hhi
    omega

theorem frameFlags_drop_pot (useDtx isSil : Bool) (mode : Mode) (fQ1 : Nat) (tc : Bool) (hf : 1 ≤ fQ1) :
    ∀ (os : List Sub) (st : St), (mode ≠ .celt → ∀ s ∈ os, subOk fQ1 s = true) →
      (∀ d ∈ (frameFlags useDtx isSil mode fQ1 tc st os).2, d = true) → os ≠ [] →
      onsetQ1 < pot st + fQ1 ∧ pot st + os.length * fQ1 ≤ pot (frameFlags useDtx isSil mode fQ1 tc st os).1 ∧
        pot (frameFlags useDtx isSil mode fQ1 tc st os).1 ≤ limitQ1 := by
  intro os
  induction os with
  | nil => intro _ _ _ h; exact absurd rfl h
  | cons o os ih =>
    intro st hok hall _
    simp only [frameFlags] at hall ⊢
    obtain ⟨h1, h2, h3⟩ := frameStep_drop_pot useDtx isSil mode fQ1 (tc && os.isEmpty) st o hf
      (fun hm => hok hm o List.mem_cons_self) (hall _ List.mem_cons_self)
    have hm : (os.length + 1) * fQ1 = os.length * fQ1 + fQ1 := Nat.succ_mul ..
    by_cases hos : os = []
    · subst hos; exact ⟨h1, by simpa [frameFlags] using h2, h3⟩
    · obtain ⟨-, i2, i3⟩ := ih _ (fun hm s hs => hok hm s (List.mem_cons_of_mem _ hs))
        (fun d hd => hall d (List.mem_cons_of_mem _ hd)) hos
      exact ⟨h1, by rw [List.length_cons]; omega, i3⟩

/-- The count at the start of the frame loop: cleared (the detector in charge changed, or SILK was re-initialised
    under its own DTX), or what it was under the same detector. -/
theorem prepCall_pot (c : Cfg) (st : St) (o : CallOr) :
    pot (prepCall c st o) = 0 ∨ (sdtxOf c o = st.silkUseDtx ∧ pot (prepCall c st o) = pot st) := by
  unfold pot
  rw [prepCall_silkUseDtx, prepCall_nb, prepCall_silk]
  by_cases hc : o.mode ≠ .celt ∧ st.prevMode = .celt <;> cases sdtxOf c o <;> cases st.silkUseDtx <;> simp [hc, silkInit]

/-- **One DTX packet**, whichever detector is in charge: the detector did not change at this call, the inactivity including
    the packet is beyond the 200 ms mark, the count advanced by at least the packet's duration and is within 600 ms. -/
theorem encodeCall_dtx_pot (c : Cfg) (st : St) (o : CallOr) (hg : GoodGeom c) (hq : c.q ≤ 48) (hok : oracleOk c o = true) (n : Nat)
    (hpkt : (encodeCall c st o).2.1 = .dtx n) :
    sdtxOf c o = st.silkUseDtx ∧ (encodeCall c st o).1.silkUseDtx = st.silkUseDtx ∧
      onsetQ1 < pot st + 5 * c.q ∧ pot st + 5 * c.q ≤ pot (encodeCall c st o).1 ∧ pot (encodeCall c st o).1 ≤ limitQ1 := by
  obtain ⟨hr, hlen⟩ := encodeCall_dtx_regular c st o n hpkt
  obtain ⟨hst, hsne, hall⟩ := encodeCall_dtx_loop c st o n hpkt
  obtain ⟨h1, h2, h3⟩ := frameFlags_drop_pot c.useDtx (isSilOf c o) o.mode (subQ1 c o.mode) o.toCelt (hg o.mode).2.1 o.subs
    (prepCall c st o) (oracleOk_spec c o hok).2 hall hsne
  rw [hlen, (hg o.mode).2.2] at h2
  have hsub := hg.subQ1_le o.mode
  rw [hst]
  unfold encodeLoop
  rw [frameFlags_silkUseDtx, prepCall_silkUseDtx]
  -- a cleared count could not pass the 200 ms mark within one coded frame
  rcases prepCall_pot c st o with h0 | ⟨hsame, h0⟩
  · rw [h0, onsetQ1_eq] at h1; omega
  · rw [h0] at h1 h2
    exact ⟨hsame, hsame, by omega, h2, h3⟩

/-- **A call at which the detector in charge changes never returns a DTX packet**: both run counters
    were cleared (src/opus_encoder.c:1393-1402), so neither detector can drop a frame yet. -/
theorem encodeCall_dtx_no_switch (c : Cfg) (st : St) (o : CallOr) (hg : GoodGeom c) (hq : c.q ≤ 48)
    (hok : oracleOk c o = true) (n : Nat) (hpkt : (encodeCall c st o).2.1 = .dtx n) :
    sdtxOf c o = st.silkUseDtx :=
  (encodeCall_dtx_pot c st o hg hq hok n hpkt).1

theorem run_dtx_pot (c : Cfg) (hg : GoodGeom c) (hq : c.q ≤ 48) :
    ∀ (seg : List CallOr) (st : St), (∀ o ∈ seg, oracleOk c o = true) → AllDtx (pkts c st seg) → seg ≠ [] →
      onsetQ1 < pot st + 5 * c.q ∧ pot st + seg.length * (5 * c.q) ≤ limitQ1 := by
  intro seg
  induction seg with
  | nil => intro _ _ _ h; exact absurd rfl h
  | cons o os ih =>
    intro st hok hall _
    rw [pkts_cons, allDtx_cons] at hall
    obtain ⟨⟨n, hn⟩, hrest⟩ := hall
    obtain ⟨-, -, h1, h2, h3⟩ := encodeCall_dtx_pot c st o hg hq (hok o List.mem_cons_self) n hn
    have hm : (os.length + 1) * (5 * c.q) = os.length * (5 * c.q) + 5 * c.q := Nat.succ_mul ..
    by_cases hos : os = []
    · subst hos; exact ⟨h1, by simp only [List.length_cons, List.length_nil]; omega⟩
    · have := (ih _ (fun x hx => hok x (List.mem_cons_of_mem _ hx)) hrest hos).2
      exact ⟨h1, by rw [List.length_cons]; omega⟩

/-- **Run bound, any detectors.**  A segment of consecutive DTX packets, from any state and for any
    oracle values satisfying the contract, lasts less than 400 ms plus one packet duration: the count starts
    less than one packet below the 200 ms mark and every packet pays its duration towards the 600 ms limit. -/
theorem run_dtx_bound (c : Cfg) (hg : GoodGeom c) (hq : 1 ≤ c.q ∧ c.q ≤ 48) (seg : List CallOr) (st : St)
    (hok : ∀ o ∈ seg, oracleOk c o = true) (hall : AllDtx (pkts c st seg)) :
    seg.length * (5 * c.q) < 800 + 5 * c.q := by
  by_cases hs : seg = []
  · subst hs; simp only [List.length_nil]; omega
  · have := run_dtx_pot c hg hq.2 seg st hok hall hs
    rw [onsetQ1_eq, limitQ1_eq] at this
    omega

theorem dtxPacketLen_range (n : Nat) : 1 ≤ dtxPacketLen n ∧ dtxPacketLen n ≤ 2 := by
  unfold dtxPacketLen; split <;> omega

theorem encodeCall_dtx_len (c : Cfg) (st : St) (o : CallOr) (n : Nat) (h : (encodeCall c st o).2.1 = .dtx n) :
    n = dtxPacketLen (nSub c o.mode) ∧ 1 ≤ n ∧ n ≤ 2 := by
  obtain ⟨hr, hlen⟩ := encodeCall_dtx_regular c st o n h
  rw [(encodeCall_regular c st o hr hlen).2] at h
  have h' := finalPkt_dtx _ _ _ _ h
  rw [pktOf_eq] at h'
  split at h'
  · cases h'
    exact ⟨rfl, dtxPacketLen_range _⟩
  · cases h'

theorem pkts_dtx_len (c : Cfg) : ∀ (ors : List CallOr) (st : St) (n : Nat), Pkt.dtx n ∈ pkts c st ors → 1 ≤ n ∧ n ≤ 2 := by
  intro ors
  induction ors with
  | nil => intro st n h; cases h
  | cons o os ih =>
    intro st n h
    rw [pkts_cons] at h
    rcases List.mem_cons.1 h with h | h
    · exact (encodeCall_dtx_len c st o n h.symm).2
    · exact ih _ n h

theorem run_cons (c : Cfg) (st : St) (o : CallOr) (os : List CallOr) :
    run c st (o :: os) = ((encodeCall c st o).2.1, inDtx c (encodeCall c st o).1) :: run c (encodeCall c st o).1 os := rfl

/-- **The in-DTX query is true after every DTX packet of a run** (any state satisfying the invariant,
    in particular a fresh encoder). -/
theorem run_inDtx (c : Cfg) : ∀ (ors : List CallOr) (st : St), Inv st → (∀ o ∈ ors, oracleOk c o = true) →
    ∀ x ∈ run c st ors, (∃ n, x.1 = Pkt.dtx n) → x.2 = true := by
  intro ors
  induction ors with
  | nil => intro st _ _ x hx; cases hx
  | cons o os ih =>
    intro st hinv hok x hx hd
    obtain ⟨hwf, _⟩ := oracleOk_spec c o (hok o (by simp))
    rw [run_cons] at hx
    rcases List.mem_cons.1 hx with rfl | hx
    · obtain ⟨n, hn⟩ := hd
      simp only at hn ⊢
      exact inDtx_of_dtx c st o hinv hwf n hn
    · exact ih _ (inv_encodeCall c st o hinv hwf) (fun o' ho' => hok o' (by simp [ho'])) x hx hd

/-! ### Resume under SILK's own DTX -/

theorem runSilk_true_last (useDtx fl : Bool) (st : SilkSt) (cs : List SCall) (h : (runSilk useDtx fl st cs).2 = true) :
    ∃ st' m, cs.getLast? = some m ∧ (silkCall useDtx fl st' m).2 = true := by
  induction cs generalizing st with
  | nil => simp [runSilk] at h
  | cons c cs ih =>
    cases cs with
    | nil => exact ⟨st, c, rfl, by simpa [runSilk] using h⟩
    | cons c' cs' =>
      simp only [runSilk] at h
      obtain ⟨st', m, hm, hz⟩ := ih _ h
      exact ⟨st', m, by simpa [List.getLast?_cons_cons] using hm, hz⟩

/-- If Opus did not force "no activity", a frame dropped by SILK has the VAD flag of the mid channel
    clear in every SILK frame of its main call. -/
theorem frameSilk_zero_low (mode : Mode) (act : Int) (st : St) (o : Sub) (ha : act ≠ vadNoActivity)
    (h : (frameSilk mode act st o).2 = some true) :
    ∃ m, o.silk.getLast? = some m ∧ ∀ f ∈ m.frames, f.low0 = true := by
  by_cases hm : mode = .celt
  · subst hm; rw [frameSilk_celt] at h; cases h
  · simp only [frameSilk, hm, if_false, Option.some.injEq] at h
    have hfl : decide (act = vadNoActivity) = false := by simp [ha]
    rw [hfl] at h
    obtain ⟨st', m, hlast, hz⟩ := runSilk_true_last _ _ _ _ h
    refine ⟨m, hlast, ?_⟩
    simp only [silkCall, Bool.and_eq_true] at hz
    exact silkFrames_inDtx_imp_low _ _ _ hz.1

/-- Under SILK's own DTX, if every coded frame of the loop is dropped then every one was dropped by SILK
    (from some state). -/
theorem frameFlags_silk_each (useDtx : Bool) (mode : Mode) (fQ1 : Nat) (tc : Bool) :
    ∀ (os : List Sub) (st0 : St), st0.silkUseDtx = true →
      (∀ d ∈ (frameFlags useDtx false mode fQ1 tc st0 os).2, d = true) →
      ∀ s ∈ os, ∃ st', (frameSilk mode (activityOf false s.valid s.det) st' s).2 = some true := by
  intro os
  induction os with
  | nil => intro _ _ _ s hs; cases hs
  | cons o' os' ih =>
    intro st0 hsd hall s hs
    simp only [frameFlags] at hall
    have hflag := hall _ (List.mem_cons_self ..)
    have hA := frameStep_silk_charge useDtx false mode fQ1 (tc && os'.isEmpty) st0 o' hsd hflag
    rcases List.mem_cons.1 hs with rfl | hs
    · exact ⟨st0, hA.1⟩
    · exact ih _ (by rw [frameStep_silkUseDtx]; exact hsd) (fun d hd => hall d (List.mem_cons_of_mem _ hd)) s hs

theorem pkts_window (c : Cfg) (st : St) (pre seg post : List CallOr) :
    ((pkts c st (pre ++ seg ++ post)).drop pre.length).take seg.length = pkts c (runFinal c st pre) seg := by
  rw [List.append_assoc, pkts_append, pkts_append]
  rw [List.drop_left' (pkts_length c st pre), List.take_left' (pkts_length _ _ seg)]

/-! ### The counters stay in range along every run (so the C `int`s of `nb_no_activity_ms_Q1` and `noSpeechCounter` never overflow) -/

theorem frameStep_nb_le (useDtx isSil : Bool) (mode : Mode) (fQ1 : Nat) (tc : Bool) (st : St) (o : Sub)
    (h : st.nb ≤ limitQ1) : (frameStep useDtx isSil mode fQ1 tc st o).1.nb ≤ limitQ1 := by
  unfold frameStep
  simp only
  split
  · rw [(frameSilk_fields _ _ _ _).1]; exact h
  · unfold frameTail
    simp only
    split
    · exact (hang_count _ _ onset_le_limit _ _ _).2.2.1
    · exact Nat.zero_le _

theorem prepCall_nb_le (c : Cfg) (st : St) (o : CallOr) : (prepCall c st o).nb ≤ st.nb := by
  rw [prepCall_nb]; split <;> omega

theorem silkFrame_cnt_le (nch : Nat) (fl : Bool) (s : SilkCh × SilkCh × Bool) (f : SFrame)
    (h0 : s.1.cnt ≤ nbSpeechFramesBeforeDtx + maxConsecutiveDtx) (h1 : s.2.1.cnt ≤ nbSpeechFramesBeforeDtx + maxConsecutiveDtx) :
    (silkFrame nch fl s f).1.cnt ≤ nbSpeechFramesBeforeDtx + maxConsecutiveDtx ∧
    (silkFrame nch fl s f).2.1.cnt ≤ nbSpeechFramesBeforeDtx + maxConsecutiveDtx := by
  unfold silkFrame
  simp only
  refine ⟨(silkVad_cnt_le _ _).1, ?_⟩
  split
  · exact (silkVad_cnt_le _ _).1
  · exact h1

theorem silkFrames_cnt_le (nch : Nat) (fl : Bool) (s : SilkCh × SilkCh × Bool) (fs : List SFrame)
    (h0 : s.1.cnt ≤ nbSpeechFramesBeforeDtx + maxConsecutiveDtx) (h1 : s.2.1.cnt ≤ nbSpeechFramesBeforeDtx + maxConsecutiveDtx) :
    (silkFrames nch fl s fs).1.cnt ≤ nbSpeechFramesBeforeDtx + maxConsecutiveDtx ∧
    (silkFrames nch fl s fs).2.1.cnt ≤ nbSpeechFramesBeforeDtx + maxConsecutiveDtx := by
  induction fs generalizing s with
  | nil => exact ⟨h0, h1⟩
  | cons f fs ih =>
    simp only [silkFrames]
    have := silkFrame_cnt_le nch fl s f h0 h1
    exact ih _ this.1 this.2

/-- The counters of the SILK slice stay within 30. -/
def SilkBounded (s : SilkSt) : Prop :=
  s.c0 ≤ nbSpeechFramesBeforeDtx + maxConsecutiveDtx ∧ s.c1 ≤ nbSpeechFramesBeforeDtx + maxConsecutiveDtx

theorem silkCall_bounded (useDtx fl : Bool) (st : SilkSt) (c : SCall) (h : SilkBounded st) :
    SilkBounded (silkCall useDtx fl st c).1 := by
  unfold silkCall SilkBounded
  simp only
  apply silkFrames_cnt_le
  · simp only; split <;> first | exact Nat.zero_le _ | exact h.1
  · simp only; split
    · exact Nat.zero_le _
    · split
      · exact Nat.zero_le _
      · exact h.2

theorem runSilk_bounded (useDtx fl : Bool) (st : SilkSt) (cs : List SCall) (h : SilkBounded st) :
    SilkBounded (runSilk useDtx fl st cs).1 := by
  induction cs generalizing st with
  | nil => exact h
  | cons c cs ih =>
    cases cs with
    | nil => exact silkCall_bounded _ _ _ _ h
    | cons c' cs' => simp only [runSilk]; exact ih _ (silkCall_bounded _ _ _ _ h)

theorem frameStep_silk_bounded (useDtx isSil : Bool) (mode : Mode) (fQ1 : Nat) (tc : Bool) (st : St) (o : Sub)
    (h : SilkBounded st.silk) : SilkBounded (frameStep useDtx isSil mode fQ1 tc st o).1.silk := by
  have hs : SilkBounded (frameSilk mode (activityOf isSil o.valid o.det) st o).1.silk := by
    unfold frameSilk
    split
    · exact h
    · exact runSilk_bounded _ _ _ _ h
  unfold frameStep
  simp only
  split
  · exact hs
  · rw [(frameTail_fields ..).2.1]; exact hs

theorem prepCall_silk_bounded (c : Cfg) (st : St) (o : CallOr) (h : SilkBounded st.silk) : SilkBounded (prepCall c st o).silk := by
  rw [prepCall_silk]
  split
  · exact ⟨Nat.zero_le _, Nat.zero_le _⟩
  · split
    · exact ⟨Nat.zero_le _, Nat.zero_le _⟩
    · exact h

/-- `nb_no_activity_ms_Q1` never exceeds 600 ms (1200 in Q1) along any run from a state within that limit (a fresh encoder is). -/
theorem runFinal_nb_le (c : Cfg) (st : St) (ors : List CallOr) (h : st.nb ≤ limitQ1) : (runFinal c st ors).nb ≤ limitQ1 :=
  runFinal_keeps (P := fun st => st.nb ≤ limitQ1) c ors
    (fun st o _ => encodeCall_keeps (P := fun st => st.nb ≤ limitQ1) c o (fun st h => Nat.le_trans (prepCall_nb_le c st o) h)
      (fun tc st s _ => frameStep_nb_le _ _ _ _ tc st s) st)
    st h

/-- **Range of the counters along any run**: from a state within range (a fresh encoder is),
    `nb_no_activity_ms_Q1 ≤ 1200` and both `noSpeechCounter`s `≤ 30` after every call. -/
theorem run_counters_bounded (c : Cfg) (st : St) (ors : List CallOr) (h : st.nb ≤ limitQ1 ∧ SilkBounded st.silk) :
    (runFinal c st ors).nb ≤ limitQ1 ∧ SilkBounded (runFinal c st ors).silk :=
  ⟨runFinal_nb_le c st ors h.1,
   runFinal_keeps (P := fun st => SilkBounded st.silk) c ors
    (fun st o _ => encodeCall_keeps (P := fun st => SilkBounded st.silk) c o (fun st => prepCall_silk_bounded c st o)
      (fun tc st s _ => frameStep_silk_bounded _ _ _ _ tc st s) st)
    st h.2⟩

/-! ### Concrete oracle records used by the non-vacuity examples of OpusProps.C20 -/
namespace Ex

/-- 16 kHz mono, complexity 10 (the analysis runs), DTX on, VBR 12 kb/s, 20 ms packets. -/
def cfg : Cfg :=
  { useDtx := true, fs := 16000, channels := 1, complexity := 10, useVbr := true, userBitrate := 12000, outBytes := 1276, q := 8 }
/-- The same with complexity 5: SILK's own DTX is in charge. -/
def cfgLow : Cfg := { cfg with complexity := 5 }
def cfgOff : Cfg := { cfg with useDtx := false }

def silkMain (low : Bool) : SCall := ⟨0, 1, [⟨low, false, false⟩]⟩

/-- Digital silence coded in SILK-only mode. -/
def silent : CallOr :=
  { digSil := true, valid0 := false, mode := .silk, toCelt := false,
    subs := [{ valid := false, det := false, silk := [silkMain true] }] }
/-- Faint non-silent input whose analysis result is not valid; SILK's VAD says inactive. -/
def faint : CallOr :=
  { digSil := false, valid0 := false, mode := .silk, toCelt := false,
    subs := [{ valid := false, det := false, silk := [silkMain true] }] }
/-- Speech: valid analysis, detector says active, SILK's VAD says active. -/
def speech : CallOr :=
  { digSil := false, valid0 := true, mode := .silk, toCelt := false,
    subs := [{ valid := true, det := true, silk := [silkMain false] }] }
/-- 60 ms packets: in CELT-only mode each is split into three 20 ms coded frames. -/
def cfg60 : Cfg := { cfg with fs := 48000, q := 24 }
def silent60 : CallOr :=
  { digSil := true, valid0 := false, mode := .celt, toCelt := false,
    subs := List.replicate 3 { valid := false, det := false, silk := [] } }
def cfgHyb : Cfg := { cfg with fs := 24000, q := 24, userBitrate := 20000 }
/-- Hybrid 60 ms packets (3 x 20 ms) whose call-level analysis result is not valid while the first and
    third coded frame have a valid one saying "inactive" (what one NaN sample per packet produces). -/
def nanPkt : CallOr :=
  { digSil := false, valid0 := false, mode := .hybrid, toCelt := false,
    subs := [{ valid := true, det := false, silk := [silkMain true] }, { valid := false, det := false, silk := [silkMain true] },
             { valid := true, det := false, silk := [silkMain true] }] }
/-- Speech whose SILK payload exceeds the frame budget (the bust branch). -/
def speechBust : CallOr :=
  { digSil := false, valid0 := true, mode := .silk, toCelt := false,
    subs := [{ valid := true, det := true, silk := [silkMain false], bust := true }] }
/-- Speech as seen at complexity 5 (no analysis). -/
def speechLow : CallOr :=
  { digSil := false, valid0 := false, mode := .silk, toCelt := false,
    subs := [{ valid := false, det := false, silk := [silkMain false] }] }

/-- The gray zone: 48 kHz mono, 60 ms packets, VBR 64 kb/s, 18-byte buffer, DTX off. -/
def cfgGray : Cfg :=
  { useDtx := false, fs := 48000, channels := 1, complexity := 5, useVbr := true, userBitrate := 64000, outBytes := 18, q := 24 }

end Ex

end Opus.Dtx
