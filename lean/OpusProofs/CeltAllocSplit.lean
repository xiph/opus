import OpusProofs.CeltAllocSkip
/-
  OpusProofs.CeltAllocSplit — after the band-skipping loop.  The fine-energy / PVQ split of one band (rate.c:437-509)
  conserves bits and keeps every output in range; the same for the loop over the coded bands, for `spread`, and for the
  skipped bands.
-/
namespace OpusProofs.CeltAlloc
open Opus Opus.CeltAlloc
open Opus.Gen.CeltTables

/-- with a divisor ≥ 2 the quotient of any 32-bit value is below 2^31: no sign trouble in the conversion back -/
theorem udiv_nonneg (n d : Int) (hd : 2 ≤ d) : 0 ≤ udiv n d := by
  unfold udiv
  have h0 : 0 ≤ n % 4294967296 := Int.emod_nonneg _ (by omega)
  have hq0 : 0 ≤ n % 4294967296 / d := Int.ediv_nonneg h0 (by omega)
  have hq1 : n % 4294967296 / d < 2147483648 := by
    apply Int.ediv_lt_of_lt_mul (by omega)
    omega
  rw [toS32_id hq0 hq1]; exact hq0

/-- `1 << stereo` is the channel count -/
theorem chan_pow {p : Inp} (hC : p.C = 1 ∨ p.C = 2) (k : Nat) :
    (2 : Int) ^ ((if p.C > 1 then 1 else 0) + k) = (p.C : Int) * 2 ^ k := by
  rcases hC with h | h <;> rw [h]
  · show (2 : Int) ^ (0 + k) = 1 * 2 ^ k
    rw [Nat.zero_add, Int.one_mul]
  · show (2 : Int) ^ (1 + k) = 2 * 2 ^ k
    rw [Nat.add_comm, Int.pow_succ, Int.mul_comm]

theorem fineBits_ok (p : Inp) (hC : p.C = 1 ∨ p.C = 2) (den offset bits : Int) (hd : 2 ≤ den) (hb : 0 ≤ bits) :
    0 ≤ fineBits p den offset bits ∧ fineBits p den offset bits ≤ 8 ∧
    (p.C : Int) * fineBits p den offset bits * 8 ≤ bits := by
  have hM : (MAX_FINE_BITS : Int) = 8 := by decide
  have hS := chan_pow hC 0
  have hCi : (p.C : Int) = 1 ∨ (p.C : Int) = 2 := by omega
  unfold fineBits
  simp only [Nat.add_zero, Int.pow_zero, Int.mul_one] at hS
  simp only [pow_BITRES, hM, hS]
  have hu := udiv_nonneg (max 0 (bits + offset + den * 2 ^ (BITRES - 1))) den hd
  generalize udiv (max 0 (bits + offset + den * 2 ^ (BITRES - 1))) den = u at *
  generalize (p.C : Int) = C at *
  rcases hCi with rfl | rfl <;> split <;> omega

theorem rebal_ok (p : Inp) (hC : p.C = 1 ∨ p.C = 2) (bits e prio excess balance : Int)
    (he : 0 ≤ e ∧ e ≤ 8) (hpr : prio = 0 ∨ prio = 1) (hex : 0 ≤ excess) :
    let r := rebal p bits e prio excess balance
    r.1.pulses = bits ∧ 0 ≤ r.1.ebits ∧ r.1.ebits ≤ 8 ∧ (r.1.prio = 0 ∨ r.1.prio = 1) ∧ 0 ≤ r.2 ∧
    r.1.pulses + (p.C : Int) * r.1.ebits * 8 + r.2 = bits + (p.C : Int) * e * 8 + excess := by
  intro r
  have hM : (MAX_FINE_BITS : Int) = 8 := by decide
  have hS := chan_pow hC BITRES
  have hCi : (p.C : Int) = 1 ∨ (p.C : Int) = 2 := by omega
  rw [pow_BITRES] at hS
  simp only [r, rebal, hM, pow_BITRES, hS]
  by_cases hpos : excess > 0
  · simp only [hpos, if_true]
    have h01 : ∀ (c : Prop) [Decidable c], (if c then (1 : Int) else 0) = 0 ∨ (if c then (1 : Int) else 0) = 1 :=
      fun c _ => by split <;> simp
    generalize (p.C : Int) = C at *
    rcases hCi with rfl | rfl <;> exact ⟨trivial, by omega, by omega, h01 _, by omega, by omega⟩
  · simp only [hpos, if_false]
    exact ⟨trivial, he.1, he.2, hpr, hex, trivial⟩

/-- What one band's split guarantees. -/
structure BandOk (Cc capLim : Int) (o : BandOut) (bal' inBits : Int) : Prop where
  pulses_nn : 0 ≤ o.pulses
  pulses_le : o.pulses ≤ capLim
  ebits_nn : 0 ≤ o.ebits
  ebits_le : o.ebits ≤ 8
  prio : o.prio = 0 ∨ o.prio = 1
  bal_nn : 0 ≤ bal'
  conserve : o.pulses + Cc * o.ebits * 8 + bal' = inBits

/-- the limit on `pulses[j]`: the band's cap, or one sign bit per channel for a single-coefficient band -/
def capLimit (p : Inp) (b : Band) : Int := if b.w * 2 ^ p.LM > 1 then b.cap else (p.C : Int) * 8

theorem splitBand_ok (p : Inp) (hp : Dom p) (intensity dual : Int) (b : Band) (bits balance : Int)
    (hw : 1 ≤ b.w) (hcap : 0 ≤ b.cap) (hbits : 0 ≤ bits) (hbal : 0 ≤ balance) :
    BandOk (p.C : Int) (capLimit p b)
      (splitBand p intensity dual b bits balance).1 (splitBand p intensity dual b bits balance).2 (bits + balance) := by
  have hC := hp.hC
  have hCi : (1 : Int) ≤ (p.C : Int) := by rcases hC with h | h <;> rw [h] <;> decide
  unfold splitBand capLimit
  simp only [pow_BITRES]
  generalize hN : ((b.w * 2 ^ p.LM : Nat) : Int) = N
  have hNgt : (b.w * 2 ^ p.LM > 1) ↔ (N > 1) := by omega
  by_cases hgt : N > 1
  · rw [if_pos hgt, if_pos (hNgt.mpr hgt)]
    generalize hex : max (bits + balance - b.cap) 0 = excess
    have hex0 : 0 ≤ excess := by omega
    generalize hb' : bits + balance - excess = bb
    have hbb : 0 ≤ bb ∧ bb ≤ b.cap := by omega
    generalize hden : ((p.C : Int) * N + if p.C = 2 ∧ N > 2 ∧ dual = 0 ∧ (b.j : Int) < intensity then 1 else 0) = den
    have hden2 : 2 ≤ den := by
      have : (p.C : Int) * N ≥ 1 * N := Int.mul_le_mul_of_nonneg_right hCi (by omega)
      rw [← hden]; split <;> omega
    generalize fineOffset p b den N bb = offset
    obtain ⟨he0, he8, heb⟩ := fineBits_ok p hC den offset bb hden2 hbb.1
    generalize fineBits p den offset bb = e at *
    obtain ⟨r1, r2, r3, r4, r5, r6⟩ := rebal_ok p hC (bb - (p.C : Int) * e * 8) e
      (if e * (den * 8) ≥ bb + offset then 1 else 0) excess balance ⟨he0, he8⟩ (by split <;> simp) hex0
    have hce : 0 ≤ (p.C : Int) * e * 8 := by
      have := Int.mul_nonneg (show (0 : Int) ≤ (p.C : Int) by omega) he0; omega
    exact ⟨by rw [r1]; omega, by rw [r1]; omega, r2, r3, r4, r5, by rw [r6]; omega⟩
  · rw [if_neg hgt, if_neg (fun h => hgt (hNgt.mp h))]
    generalize hex : max 0 (bits + balance - (p.C : Int) * 8) = excess
    have hex0 : 0 ≤ excess := by omega
    obtain ⟨r1, r2, r3, r4, r5, r6⟩ := rebal_ok p hC (bits + balance - excess) 0 1 excess balance
      ⟨by omega, by omega⟩ (Or.inr rfl) hex0
    exact ⟨by rw [r1]; omega, by rw [r1]; omega, r2, r3, r4, r5, by rw [r6]; omega⟩

/-- `Σ pulses[j] + (C·ebits[j] << BITRES)` -/
def sumOut (C : Int) : List BandOut → Int
  | [] => 0
  | o :: os => o.pulses + C * o.ebits * 8 + sumOut C os

theorem sumOut_append (C : Int) (a b : List BandOut) : sumOut C (a ++ b) = sumOut C a + sumOut C b := by
  induction a with
  | nil => simp [sumOut]
  | cons x t ih => simp only [List.cons_append, sumOut, ih]; omega

theorem opsCost_append (a b : List Op) : opsCost (a ++ b) = opsCost a + opsCost b := by
  induction a with
  | nil => simp [opsCost]
  | cons x t ih => simp only [List.cons_append, opsCost, ih]; omega

theorem opsCost_reverse (a : List Op) : opsCost a.reverse = opsCost a := by
  induction a with
  | nil => rfl
  | cons x t ih => simp only [List.reverse_cons, opsCost_append, ih, opsCost]; omega

theorem spread_spec : ∀ (l : List (Band × Int)) (left : Int), 0 ≤ left → (∀ x ∈ l, 0 ≤ x.2) →
    (spread l left).map (·.1) = l.map (·.1) ∧ (∀ x ∈ spread l left, 0 ≤ x.2) ∧
    sumBits (spread l left) = sumBits l + min left (sumW l) := by
  intro l
  induction l with
  | nil => intro left h _; simp [spread, sumBits, sumW]; omega
  | cons a t ih =>
    intro left h hn
    obtain ⟨b, bits⟩ := a
    have hb := hn (b, bits) (by simp)
    simp only at hb
    obtain ⟨h1, h2, h3⟩ := ih (left - min left (b.w : Int)) (by omega) (fun x hx => hn x (by simp [hx]))
    simp only [spread, List.map_cons, h1, sumBits, h3, sumW]
    refine ⟨trivial, ?_, ?_⟩
    · intro x hx
      simp only [List.mem_cons] at hx
      rcases hx with rfl | hx
      · simp only; omega
      · exact h2 x hx
    · omega

def AllOkB (p : Inp) : List Band → List BandOut → Prop
  | [], [] => True
  | b :: bs, o :: os =>
    (0 ≤ o.pulses ∧ o.pulses ≤ capLimit p b ∧ 0 ≤ o.ebits ∧ o.ebits ≤ 8 ∧ (o.prio = 0 ∨ o.prio = 1)) ∧ AllOkB p bs os
  | _, _ => False

theorem splitLoop_spec (p : Inp) (hp : Dom p) (intensity dual : Int) : ∀ (l : List (Band × Int)) (bal : Int),
    (∀ x ∈ l, 0 ≤ x.2 ∧ 1 ≤ x.1.w ∧ 0 ≤ x.1.cap) → 0 ≤ bal →
    AllOkB p (l.map (·.1)) (splitLoop p intensity dual l bal).1 ∧ 0 ≤ (splitLoop p intensity dual l bal).2 ∧
    sumOut (p.C : Int) (splitLoop p intensity dual l bal).1 + (splitLoop p intensity dual l bal).2 = sumBits l + bal := by
  intro l
  induction l with
  | nil => intro bal _ h; simp [splitLoop, AllOkB, sumOut, sumBits, h]
  | cons a t ih =>
    intro bal hl hbal
    obtain ⟨b, bits⟩ := a
    obtain ⟨h1, h2, h3⟩ := hl (b, bits) (by simp)
    simp only at h1 h2 h3
    have ok := splitBand_ok p hp intensity dual b bits bal h2 h3 h1 hbal
    obtain ⟨i1, i2, i3⟩ := ih (splitBand p intensity dual b bits bal).2 (fun x hx => hl x (by simp [hx])) ok.bal_nn
    simp only [splitLoop, List.map_cons, AllOkB, sumOut, sumBits]
    refine ⟨⟨⟨ok.pulses_nn, ok.pulses_le, ok.ebits_nn, ok.ebits_le, ok.prio⟩, i1⟩, i2, ?_⟩
    have := ok.conserve
    omega

theorem skippedOut_spec (p : Inp) (hC : p.C = 1 ∨ p.C = 2) (bits : Int) (h : bits = allocFloor p.C ∨ bits = 0) :
    (skippedOut p bits).pulses = 0 ∧ 0 ≤ (skippedOut p bits).ebits ∧ (skippedOut p bits).ebits ≤ 1 ∧
    ((skippedOut p bits).prio = 0 ∨ (skippedOut p bits).prio = 1) ∧
    (p.C : Int) * (skippedOut p bits).ebits * 8 = bits := by
  have hS := chan_pow hC 0
  have hCi : (p.C : Int) = 1 ∨ (p.C : Int) = 2 := by omega
  simp only [Nat.add_zero, Int.pow_zero, Int.mul_one] at hS
  unfold allocFloor at h
  unfold skippedOut
  simp only [pow_BITRES, hS] at h ⊢
  generalize (p.C : Int) = C at *
  rcases hCi with rfl | rfl <;> rcases h with rfl | rfl <;> simp

end OpusProofs.CeltAlloc
