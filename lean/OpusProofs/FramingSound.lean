import OpusProofs.FramingComplete
/-
  C06 soundness: whatever the parser accepts is the serialisation of an RFC-valid packet
  (followed, in the self-delimited framing, by the bytes of the next packet), and the reported
  view is that packet's.  Strategy: invert each parser stage to recover the header bytes,
  rebuild the packet (`mkPacket`), show it valid and that it serialises to the input; the
  equality of the reported view then follows from completeness.
-/
namespace Opus.FramingProofs
open Opus Opus.Framing Opus.FramingSpec

/-- Cut `d` into consecutive frames of the given sizes. -/
def splitBy : List Nat → Bytes → List Bytes
  | [], _ => []
  | s :: ss, d => d.take s :: splitBy ss (d.drop s)

theorem splitBy_spec (sizes : List Nat) (d : Bytes) (h : sumN sizes ≤ d.length) :
    (splitBy sizes d).map List.length = sizes ∧ (splitBy sizes d).flatten = d.take (sumN sizes) := by
  induction sizes generalizing d with
  | nil => simp [splitBy]
  | cons s ss ih =>
    simp only [sumN_cons] at h
    have := ih (d.drop s) (by simp; omega)
    simp only [splitBy, List.map_cons, List.flatten_cons, sumN_cons]
    refine ⟨by rw [this.1]; simp; omega, ?_⟩
    rw [this.2]
    rw [← List.take_add]

theorem splitBy_length (sizes : List Nat) (d : Bytes) : (splitBy sizes d).length = sizes.length := by
  induction sizes generalizing d with
  | nil => simp [splitBy]
  | cons s ss ih => simp [splitBy, ih]

theorem finish_inv (sd : Bool) (total toc : Nat) (h : Hdr) (r : Parsed) (hb : BytesOk h.data)
    (hls : 0 ≤ h.lastSize) (hr : finish sd total toc h = .ok r) :
    ∃ (L : Nat) (tail : Bytes), L ≤ 1275 ∧ h.data = (if sd then encLen L else []) ++ tail ∧
      r = mkParsed total toc h (if h.cbr then List.replicate h.count L else h.sizes ++ [L]) tail ∧
      (sd = false → h.lastSize = L) ∧
      (sd = true → ((encLen L).length : Int) ≤ h.len ∧ (L : Int) ≤ h.len - (encLen L).length ∧
        (if h.cbr then (L : Int) * h.count ≤ h.len - (encLen L).length
         else ((encLen L).length : Int) + L ≤ h.lastSize)) := by
  unfold finish at hr
  cases sd with
  | false =>
    simp only [Bool.false_eq_true, if_false] at hr
    split at hr
    · simp at hr
    · rename_i hle
      refine ⟨h.lastSize.toNat, h.data, by omega, by simp, ?_, by intro _; omega, by intro h; cases h⟩
      cases hc : h.cbr <;> simp [hc] at hr ⊢ <;> exact hr.symm
  | true =>
    simp only [if_true] at hr
    split at hr
    · rename_i bytes sz hps
      split at hr
      · simp at hr
      · rename_i hcond
        obtain ⟨n, h1, h2, h3, h4, h5⟩ := parseSize_ok_inv h.data h.len hb bytes sz hps (by omega)
        have hsz : sz.toNat = n := by omega
        -- CBR and VBR differ in the last test only
        cases hc : h.cbr <;> simp only [hc, if_true, Bool.false_eq_true, if_false] at hr ⊢ <;> split at hr <;>
          simp only [Res.ok.injEq, reduceCtorEq] at hr
        · exact ⟨n, h.data.drop bytes.toNat, h2, by simpa using h5, by rw [← hr, hsz], nofun,
            fun _ => ⟨by omega, by omega, by omega⟩⟩
        · exact ⟨n, h.data.drop bytes.toNat, h2, by simpa using h5, by rw [← hr, hsz], nofun,
            fun _ => ⟨by omega, by omega, by rw [← h1, ← h3]; omega⟩⟩
    all_goals cases hr

/-- Rebuild a packet from what the parser recovered. `padw = some (k,last)` is the padding chain. -/
def mkPacket (toc : Nat) (vbr : Bool) (padw : Option (Nat × Nat)) (sizes : List Nat) (tail : Bytes) : Packet :=
  { toc, frames := splitBy sizes tail, vbr,
    pad := padw.map (fun kl => { n255 := kl.1, last := kl.2,
                                 bytes := (tail.drop (sumN sizes)).take (254 * kl.1 + kl.2) }) }

theorem mkPacket_lens (toc vbr padw sizes tail) (h : sumN sizes ≤ tail.length) :
    (mkPacket toc vbr padw sizes tail).lens = sizes := by
  simp [mkPacket, Packet.lens, (splitBy_spec sizes tail h).1]

theorem mkPacket_serialize (sd : Bool) (toc vbr padw sizes) (tail : Bytes)
    (h : sumN sizes + padTotal padw ≤ tail.length) :
    serialize sd (mkPacket toc vbr padw sizes tail) ++ tail.drop (sumN sizes + padTotal padw)
      = header sd (mkPacket toc vbr padw sizes tail) ++ tail := by
  have hs := splitBy_spec sizes tail (by omega)
  unfold serialize
  rw [List.append_assoc, List.append_assoc]
  congr 1
  have hfl : (mkPacket toc vbr padw sizes tail).frames.flatten = tail.take (sumN sizes) := hs.2
  rw [hfl]
  have hpb : padBytes (mkPacket toc vbr padw sizes tail) = (tail.drop (sumN sizes)).take (padTotal padw) := by
    cases padw <;> simp [padBytes, mkPacket, padTotal]
  rw [hpb]
  rw [← List.drop_drop]
  rw [List.take_append_drop, List.take_append_drop]

theorem mkPacket_valid (toc : Nat) (vbr : Bool) (padw : Option (Nat × Nat)) (sizes : List Nat) (tail : Bytes)
    (htoc : toc < 256) (hfit : sumN sizes + padTotal padw ≤ tail.length)
    (hsz : ∀ s ∈ sizes, s ≤ 1275)
    (h0 : toc % 4 = 0 → sizes.length = 1 ∧ vbr = false ∧ padw = none)
    (h1 : toc % 4 = 1 → sizes.length = 2 ∧ vbr = false ∧ padw = none ∧ allEq sizes)
    (h2 : toc % 4 = 2 → sizes.length = 2 ∧ vbr = false ∧ padw = none)
    (h3 : toc % 4 = 3 → 1 ≤ sizes.length ∧ frameDur48 toc * sizes.length ≤ 5760 ∧ (vbr = false → allEq sizes))
    (hp : ∀ k last, padw = some (k, last) → last < 255) :
    Valid (mkPacket toc vbr padw sizes tail) := by
  have hs := splitBy_spec sizes tail (by omega)
  have hlens : (mkPacket toc vbr padw sizes tail).lens = sizes := mkPacket_lens _ _ _ _ _ (by omega)
  have hlen : (mkPacket toc vbr padw sizes tail).frames.length = sizes.length := splitBy_length _ _
  have hpadnone : padw = none → (mkPacket toc vbr padw sizes tail).pad = none := by
    intro h; simp [mkPacket, h]
  refine ⟨htoc, ?_, ?_, ?_, ?_, ?_, ?_⟩
  · intro f hf
    have : f.length ∈ (mkPacket toc vbr padw sizes tail).lens := by
      simp only [Packet.lens]; exact List.mem_map_of_mem hf
    rw [hlens] at this; exact hsz _ this
  · intro hc; obtain ⟨a, b, c⟩ := h0 hc; exact ⟨by rw [hlen]; exact a, b, hpadnone c⟩
  · intro hc; obtain ⟨a, b, c, d⟩ := h1 hc; exact ⟨by rw [hlen]; exact a, b, hpadnone c, by rw [hlens]; exact d⟩
  · intro hc; obtain ⟨a, b, c⟩ := h2 hc; exact ⟨by rw [hlen]; exact a, b, hpadnone c⟩
  · intro hc; obtain ⟨a, b, c⟩ := h3 hc
    exact ⟨by rw [hlen]; exact a, by rw [hlen]; exact b, by rw [hlens]; exact c⟩
  · intro pd hpd
    cases hpw : padw with
    | none => simp [mkPacket, hpw] at hpd
    | some kl =>
      obtain ⟨k, last⟩ := kl
      simp [mkPacket, hpw] at hpd
      subst hpd
      simp only [Pad.total]
      refine ⟨hp k last hpw, ?_⟩
      simp only [padTotal, hpw] at hfit
      simp; omega

theorem sound_of_mkPacket (sd : Bool) (bs : Bytes) (r : Parsed) (hparse : parseImpl sd bs = .ok r)
    (toc : Nat) (vbr : Bool) (padw : Option (Nat × Nat)) (sizes : List Nat) (tail : Bytes)
    (hv : Valid (mkPacket toc vbr padw sizes tail))
    (hfit : sumN sizes + padTotal padw ≤ tail.length)
    (hbs : bs = header sd (mkPacket toc vbr padw sizes tail) ++ tail)
    (hrest : sd = false → sumN sizes + padTotal padw = tail.length) :
    ∃ p rest, Valid p ∧ bs = serialize sd p ++ rest ∧ (sd = false → rest = []) ∧ r = view sd p := by
  have hser := mkPacket_serialize sd toc vbr padw sizes tail hfit
  have hr0 : sd = false → tail.drop (sumN sizes + padTotal padw) = [] := by
    intro h; rw [hrest h]; simp
  refine ⟨mkPacket toc vbr padw sizes tail, tail.drop (sumN sizes + padTotal padw), hv, ?_, hr0, ?_⟩
  · rw [hser]; exact hbs
  · have hc := parse_complete sd _ hv _ hr0
    rw [hser, ← hbs, hparse] at hc
    injection hc

theorem bytesOk_tail {b : Nat} {bs : Bytes} (h : BytesOk (b :: bs)) : BytesOk bs :=
  fun x hx => h x (by simp [hx])

theorem ch_decomp (ch : Nat) (h : ch < 256) : ch = ch % 64 + (if ch / 64 % 2 = 1 then 64 else 0) + (if ch / 128 % 2 = 1 then 128 else 0) := by
  split <;> split <;> omega

theorem replicate_allEq (n L : Nat) : allEq (List.replicate n L) := by
  intro a ha b hb
  rw [List.mem_replicate] at ha hb
  rw [ha.2, hb.2]

/-- Inversion of an accepted size stage, entered with `len2` counting the bytes of `data2` less the padding:
    `data2` is the coded explicit sizes followed by what is left for `finish`.  Converse: `sizeStage_ok`. -/
theorem sizeStage_inv (sd : Bool) (n : Nat) (hn : 1 ≤ n) (vbr : Prop) [Decidable vbr] (len : Int) (hlen : 0 ≤ len)
    (data2 : Bytes) (hb2 : BytesOk data2) (len2 : Int) (pad : Nat) (hl2 : len2 = data2.length - pad) (h : Hdr)
    (hh : sizeStage sd n vbr len data2 len2 pad = .ok h) :
    data2 = h.sizes.flatMap encLen ++ h.data ∧ (vbr ↔ (!h.cbr) = true) ∧
    (h.cbr = false → h.sizes.length + 1 = n ∧ ∀ s ∈ h.sizes, s ≤ 1275) ∧ (h.cbr = true → h.sizes = []) ∧
    HdrState sd n (!h.cbr) pad h.sizes h.data h := by
  unfold sizeStage at hh
  split at hh
  · cases hh
  · rename_i hneg
    split at hh
    · rename_i hv
      cases hvs : vbrSizes (n - 1) data2 len2 len2 with
      | err e => rw [hvs] at hh; cases hh
      | oob => rw [hvs] at hh; cases hh
      | abort => rw [hvs] at hh; cases hh
      | ok q =>
        obtain ⟨ss, d, l, last⟩ := q
        rw [hvs] at hh
        simp only at hh
        split at hh
        · cases hh
        · cases hh
          obtain ⟨i1, i2, i3, i4, i5, i6⟩ := vbrSizes_inv _ data2 hb2 len2 len2 (by omega) ss d l last hvs
          have hdl : data2.length = H ss + d.length := by rw [i3, List.length_append, H]
          exact ⟨i3, by simp [hv], fun _ => ⟨by simp only; omega, i2⟩, nofun,
            .of_vbr sd n pad ss d l last (by omega) (by omega) (by omega)⟩
    · rename_i hv
      have hstate := HdrState.of_cbr sd n pad data2 len2 (hl := hl2) (hl0 := by omega)
      split at hh
      · rename_i hsdt
        cases hh
        exact ⟨rfl, by simp [hv], nofun, fun _ => rfl, hstate _ hlen (fun h => by rw [h] at hsdt; cases hsdt)⟩
      · split at hh
        · cases hh
        · rename_i hdiv
          cases hh
          exact ⟨rfl, by simp [hv], nofun, fun _ => rfl,
            hstate _ (Int.ediv_nonneg (by omega) (by omega)) (fun _ => by simpa using hdiv)⟩

/-- Inversion of an accepted code-3 switch: the bytes consumed and the state left.  Converse: `parseCode3_ok`. -/
theorem parseCode3_inv (sd : Bool) (fs : Nat) (data : Bytes) (hb : BytesOk data) (h : Hdr)
    (hh : parseCode3 sd fs data data.length = .ok h) :
    ∃ (ch : Nat) (padw : Option (Nat × Nat)),
      data = ch :: (padHdrW padw ++ (h.sizes.flatMap encLen ++ h.data)) ∧
      1 ≤ ch % 64 ∧ fs * (ch % 64) ≤ 5760 ∧ (ch / 64 % 2 = 1 ↔ padw.isSome = true) ∧
      (ch / 128 % 2 = 1 ↔ (!h.cbr) = true) ∧ (∀ k last, padw = some (k, last) → last < 255) ∧
      (h.cbr = false → h.sizes.length + 1 = ch % 64 ∧ ∀ s ∈ h.sizes, s ≤ 1275) ∧
      (h.cbr = true → h.sizes = []) ∧
      HdrState sd (ch % 64) (!h.cbr) (padTotal padw) h.sizes h.data h := by
  cases data with
  | nil => cases hh
  | cons ch data1 =>
    have hb1 := bytesOk_tail hb
    rw [parseCode3_cons] at hh
    split at hh
    · cases hh
    · split at hh
      · cases hh
      · rename_i hl1 hcnt
        cases hps : padStage ch data1 (((ch :: data1).length : Int) - 1) with
        | err e => rw [hps] at hh; cases hh
        | oob => rw [hps] at hh; cases hh
        | abort => rw [hps] at hh; cases hh
        | ok tr =>
          obtain ⟨data2, len2, pad⟩ := tr
          rw [hps] at hh
          obtain ⟨padw, hd1, hpad, hlen2, hpflag, hplast⟩ := padStage_inv ch data1 hb1 _ data2 len2 pad hps
          have hb2 : BytesOk data2 := fun b hb' => hb1 b (by rw [hd1]; simp [hb'])
          have hdl1 : data1.length = (padHdrW padw).length + data2.length := by rw [hd1]; simp
          simp only [List.length_cons] at hlen2
          obtain ⟨hsplit, hvflag, hvbr, hcbr, hs⟩ := sizeStage_inv sd (ch % 64) (by omega) _ _ (by omega) data2 hb2
            len2 pad (by omega) h hh
          exact ⟨ch, padw, by rw [hd1, ← hsplit], by omega, by omega, hpflag, hvflag, hplast, hvbr, hcbr, hpad ▸ hs⟩

/-- Inversion of an accepted switch, all four codes: `pre` holds the count byte and the padding chain (code 3 only),
    then come the coded explicit sizes, then what is left for `finish`.  Whatever the code, the state has at least one
    frame and at most 120 ms (codes 0-2: at most two frames of at most 60 ms). -/
theorem parseHdr_inv (sd : Bool) (toc : Nat) (htoc : toc < 256) (data : Bytes) (hb : BytesOk data) (h : Hdr)
    (hh : parseHdr sd toc data data.length = .ok h) :
    ∃ (padw : Option (Nat × Nat)) (pre : Bytes),
      data = pre ++ (h.sizes.flatMap encLen ++ h.data) ∧
      1 ≤ h.count ∧ frameDur48 toc * h.count ≤ 5760 ∧
      (toc % 4 = 3 → pre = (h.count + (if padw.isSome then 64 else 0) + (if h.cbr then 0 else 128)) :: padHdrW padw) ∧
      (toc % 4 ≠ 3 → pre = [] ∧ padw = none ∧ h.count = (if toc % 4 = 0 then 1 else 2) ∧
        h.cbr = decide (toc % 4 = 1)) ∧
      (∀ k last, padw = some (k, last) → last < 255) ∧
      (h.cbr = false → h.sizes.length + 1 = h.count ∧ ∀ s ∈ h.sizes, s ≤ 1275) ∧
      (h.cbr = true → h.sizes = []) ∧
      HdrState sd h.count (!h.cbr) (padTotal padw) h.sizes h.data h := by
  by_cases h3 : toc % 4 = 3
  · rw [parseHdr_code3 sd toc data _ h3] at hh
    obtain ⟨ch, padw, hdata, hc1, hdur, hpflag, hvflag, hplast, hvbr, hcbr, hs⟩ := parseCode3_inv sd _ data hb h hh
    have hch : ch < 256 := hb ch (by rw [hdata]; simp)
    have hdec := ch_decomp ch hch
    rw [frameDur48_spf toc htoc] at hdur
    refine ⟨padw, ch :: padHdrW padw, by rw [List.cons_append]; exact hdata, by rw [hs.count]; exact hc1,
      by rw [hs.count]; exact hdur, fun _ => ?_,
      fun hn => absurd h3 hn, hplast, fun hc => by rw [hs.count]; exact hvbr hc, hcbr, by rw [hs.count]; exact hs⟩
    congr 1
    rw [hs.count]
    -- the four combinations of the padding flag and the VBR flag of `ch`, each read off `ch_decomp`
    by_cases hq : ch / 64 % 2 = 1 <;> by_cases hv : ch / 128 % 2 = 1 <;>
      simp only [hq, hv, if_true, if_false, true_iff, false_iff, Bool.not_eq_true, Bool.not_eq_true']
        at hdec hpflag hvflag <;>
      simp only [hpflag, hvflag, if_true, Bool.false_eq_true, if_false] <;> omega
  · rw [parseHdr_low sd toc data _ h3 (by omega)] at hh
    obtain ⟨hsplit, hvflag, hvbr, hcbr, hs⟩ := sizeStage_inv sd _ (by split <;> omega) _ _ (by omega) data hb _ 0
      (by simp) h hh
    -- two frames of at most 60 ms
    have hdur : frameDur48 toc * h.count ≤ 5760 := by
      have := (toc_table toc htoc).2.2.1
      rw [hs.count]; split <;> omega
    refine ⟨none, [], hsplit, by rw [hs.count]; split <;> omega, hdur, fun h => absurd h h3,
      fun _ => ⟨rfl, rfl, hs.count, ?_⟩, nofun,
      fun hc => by rw [hs.count]; exact hvbr hc, hcbr, by rw [hs.count]; exact hs⟩
    cases hc : h.cbr <;> simpa [hc] using hvflag

/-- Soundness of the parser against the RFC 6716 framing spec. -/
theorem parse_sound (sd : Bool) (bs : Bytes) (hb : BytesOk bs) (r : Parsed)
    (h : parseImpl sd bs = .ok r) :
    ∃ p rest, Valid p ∧ bs = serialize sd p ++ rest ∧ (sd = false → rest = []) ∧ r = view sd p := by
  cases bs with
  | nil => cases h
  | cons toc data =>
    have htoc : toc < 256 := hb toc (by simp)
    have hbd := bytesOk_tail hb
    have h' := h
    unfold parseImpl at h'
    simp only at h'
    cases hd : parseHdr sd toc data data.length with
    | err e => rw [hd] at h'; cases h'
    | oob => rw [hd] at h'; cases h'
    | abort => rw [hd] at h'; cases h'
    | ok hh =>
      rw [hd] at h'
      simp only at h'
      obtain ⟨padw, pre, hdata, hc1, hdur, hpre3, hpre, hplast, hvbr, hcbr, hs⟩ := parseHdr_inv sd toc htoc data hbd hh hd
      have hbd3 : BytesOk hh.data := fun b hb' => hbd b (by rw [hdata]; simp [hb'])
      obtain ⟨L, tail, hL, hdata2, _, hns, hsd⟩ := finish_inv sd _ toc _ r hbd3 hs.last_nonneg h'
      have hdl : hh.data.length = (if sd then (encLen L).length else 0) + tail.length := by
        rw [hdata2]; cases sd <;> simp
      have hlen := hs.len
      -- the packet: VBR flag only for code 3, frame sizes `sizes`
      have hbuild : ∀ sizes : List Nat, sizes.length = hh.count → (∀ s ∈ sizes, s ≤ 1275) →
          (hh.cbr = true → allEq sizes) → sumN sizes + padTotal padw ≤ tail.length →
          (sd = false → sumN sizes + padTotal padw = tail.length) →
          (if hh.cbr then [] else sizes.dropLast) = hh.sizes → sizes.getLast? = some L →
          ∃ p rest, Valid p ∧ toc :: data = serialize sd p ++ rest ∧ (sd = false → rest = []) ∧ r = view sd p := by
        intro sizes hsl hs1275 heq hfit hrest hdrop hlast
        apply sound_of_mkPacket sd _ r h toc (decide (toc % 4 = 3) && !hh.cbr) padw sizes tail ?_ hfit ?_ hrest
        · refine mkPacket_valid _ _ _ _ _ htoc hfit hs1275 ?_ ?_ ?_ ?_ hplast
          · intro hc; obtain ⟨_, hp, hcnt, _⟩ := hpre (by omega); simp [hc, hp, hsl, hcnt]
          · intro hc; obtain ⟨_, hp, hcnt, hcb⟩ := hpre (by omega)
            exact ⟨by simp [hsl, hcnt, hc], by simp [hc], hp, heq (by simp [hcb, hc])⟩
          · intro hc; obtain ⟨_, hp, hcnt, _⟩ := hpre (by omega); simp [hc, hp, hsl, hcnt]
          · intro hc
            exact ⟨by omega, by rw [hsl]; exact hdur, fun hv => heq (by simpa [hc] using hv)⟩
        · have hl := mkPacket_lens toc (decide (toc % 4 = 3) && !hh.cbr) padw sizes tail (by omega)
          unfold header lenFields countByte
          rw [hl, hdata, hdata2, hlast]
          simp only [Packet.code, mkPacket, splitBy_length, Option.isSome_map, hsl]
          by_cases h3 : toc % 4 = 3
          · rw [hpre3 h3, ← hdrop]
            cases hh.cbr <;> cases padw <;> cases sd <;> simp [h3, padHdrW, Pad.hdr]
          · obtain ⟨hp, hpw, _, hcb⟩ := hpre h3
            rw [hp, hpw, ← hdrop, hcb]
            have : toc % 4 = 0 ∨ toc % 4 = 1 ∨ toc % 4 = 2 := by omega
            have hs0 : toc % 4 = 0 → sizes.dropLast = [] := fun h0 => by
              have := (hpre h3).2.2.1; rw [if_pos h0] at this
              match sizes, hsl.trans this with
              | [_], _ => rfl
            rcases this with h0 | h0 | h0 <;> cases sd <;> simp [h0, hs0]
      cases hcb : hh.cbr with
      | false =>
        obtain ⟨hl1, hle⟩ := hvbr hcb
        have hlast := hs.vbr_last (by simp [hcb])
        simp only [hcb, Bool.false_eq_true, if_false] at hns hsd
        have hsum : sumN (hh.sizes ++ [L]) = sumN hh.sizes + L := by rw [sumN_append]; simp
        rw [hcb] at hbuild
        refine hbuild (hh.sizes ++ [L]) (by simp; omega) ?_ nofun ?_ ?_ (by simp) (by simp)
        · intro s hs'; rcases List.mem_append.mp hs' with hs' | hs'
          · exact hle s hs'
          · rw [List.mem_singleton.mp hs']; exact hL
        · rw [hsum]
          cases sd with
          | false => have := hns rfl; simp at hdl; omega
          | true => have := hsd rfl; simp at hdl; omega
        · intro hs'; subst hs'; have := hns rfl; rw [hsum]; simp at hdl; omega
      | true =>
        have hss := hcbr hcb
        simp only [hcb, if_true] at hns hsd
        have hmul : (L : Int) * (hh.count : Int) = ((hh.count * L : Nat) : Int) := by
          push_cast; exact Int.mul_comm _ _
        have hexact : sd = false → (L : Int) * (hh.count : Int) = hh.len := fun hsd' => by
          rw [← hns hsd']; exact hs.cbr_last (by simp [hcb]) hsd'
        rw [hcb] at hbuild
        refine hbuild (List.replicate hh.count L) (by simp) ?_ (fun _ => replicate_allEq _ _) ?_ ?_ (by simp [hss])
          (by rw [List.getLast?_replicate]; simp; omega)
        · intro s hs'; rw [(List.mem_replicate.mp hs').2]; exact hL
        · rw [sumN_replicate]
          cases sd with
          | false => have := hexact rfl; simp at hdl; omega
          | true => have := hsd rfl; simp at hdl; omega
        · intro hs'; subst hs'; have := hexact rfl; rw [sumN_replicate]; simp at hdl; omega

end Opus.FramingProofs
