import OpusProofs.RangeCoderRun
/-
  OpusProofs.RangeCoderDecBits — C08, decoder side of the raw bits (`ec_dec_bits`,
  entdec.c:246-266) and of `ec_dec_uint`; the full decoder invariant `DecAll`; and the step of the round trip for
  one operation, on which `run_decode` rests: `decOp_prim_spec` (a range-coded symbol), `decOp_spec` (any operation).
-/
namespace Opus.RangeCoder

/-- Byte `j` from the end is digit `j` of the tail value (zero past the front of the buffer). -/
theorem endByte_eq_digit {B : List Nat} (hB : BytesOk B) (S j : Nat) :
    endByte B S j = tailVal B S S / 256 ^ j % 256 := by
  have hlt : ∀ k, endByte B S k < 256 := fun k => endByte_lt hB S k
  by_cases hj : j < S
  · obtain ⟨K, hK⟩ := tailVal_split B S (j + 1) (S - (j + 1))
    have e : j + 1 + (S - (j + 1)) = S := by omega
    rw [e] at hK
    rw [hK, tailVal]
    have h1 : tailVal B S j < 256 ^ j := tailVal_lt j (fun k _ => hlt k)
    have hp : 0 < 256 ^ j := Nat.pow_pos (by decide)
    have e2 : tailVal B S j + endByte B S j * 256 ^ j + 256 ^ (j + 1) * K =
        tailVal B S j + (endByte B S j + 256 * K) * 256 ^ j := by
      rw [Nat.pow_succ]
      generalize 256 ^ j = P
      simp only [Nat.mul_add, Nat.mul_comm, Nat.mul_left_comm, Nat.add_assoc]
    rw [e2, Nat.add_mul_div_right _ _ hp, Nat.div_eq_of_lt h1, Nat.zero_add, Nat.add_mul_mod_self_left,
      Nat.mod_eq_of_lt (hlt j)]
  · have h0 : endByte B S j = 0 := by unfold endByte; rw [if_neg hj]
    have h1 : tailVal B S S < 256 ^ S := tailVal_lt S (fun k _ => hlt k)
    have h2 : 256 ^ S ≤ 256 ^ j := Nat.pow_le_pow_right (by decide) (by omega)
    rw [h0, Nat.div_eq_of_lt (by omega)]

/-- Invariant D for the raw bits, and the complete decoder invariant.  `nb` in `win` counts the calls of
    `ec_read_byte_from_end` so far, unclamped, so that `endOffs = min nb S` survives reads past the front of the buffer. -/
structure DecAll (B : List Nat) (S : Nat) (e : Enc) (d : Dec) (Bt : List Nat) : Prop where
  rc : DecInv B S e d Bt
  err : d.error = 0
  nend : d.nendBits ≤ 32
  win : ∃ nb, d.endOffs = min nb S ∧ 8 * nb = rawN e + d.nendBits ∧
    d.endWindow = tailVal B S S / 2 ^ rawN e % 2 ^ d.nendBits

theorem readByteFromEnd_spec (B : List Nat) (hB : BytesOk B) (S : Nat) (d : Dec) (nb : Nat) (hb : d.buf = B)
    (hs : d.storage = S) (ho : d.endOffs = min nb S) :
    (readByteFromEnd d).1 = tailVal B S S / 256 ^ nb % 256 ∧
    (readByteFromEnd d).2 = { d with endOffs := min (nb + 1) S } := by
  rw [← endByte_eq_digit hB]
  unfold readByteFromEnd endByte
  by_cases h : d.endOffs < d.storage
  · have h1 : nb < S := by omega
    have e : d.endOffs = nb := by omega
    rw [if_pos h, if_pos h1]
    have e' : S - (nb + 1) = S - 1 - nb := by omega
    refine ⟨by rw [hb, hs, e, e'], ?_⟩
    simp only
    congr 1
    omega
  · have h1 : ¬ nb < S := by omega
    rw [if_neg h, if_neg h1]
    refine ⟨rfl, ?_⟩
    simp only
    have : min (nb + 1) S = d.endOffs := by omega
    rw [this]

/-- The refill loop of `ec_dec_bits`. -/
theorem decBitsFill_spec (B : List Nat) (hB : BytesOk B) (S : Nat) (R pos : Nat) (hR : R = tailVal B S S)
    (d : Dec) (w a : Nat) (nb : Nat) (hb : d.buf = B) (hs : d.storage = S) (ho : d.endOffs = min nb S)
    (ha : a ≤ 24) (hpa : pos + a = 8 * nb) (hw : w = R / 2 ^ pos % 2 ^ a) :
    ∃ nb' a', (decBitsFill d w a).1 = { d with endOffs := min nb' S } ∧ (decBitsFill d w a).2.2 = a' ∧
      24 < a' ∧ a' ≤ 32 ∧ pos + a' = 8 * nb' ∧ (decBitsFill d w a).2.1 = R / 2 ^ pos % 2 ^ a' := by
  induction hm : 32 - a using Nat.strongRecOn generalizing d w a nb with
  | _ m ih =>
    rw [decBitsFill]
    obtain ⟨r1, r2⟩ := readByteFromEnd_spec B hB S d nb hb hs ho
    generalize readByteFromEnd d = rb at *
    obtain ⟨b, c1⟩ := rb
    simp only at r1 r2 ⊢
    have hw' : w ||| u32 (b <<< a) = R / 2 ^ pos % 2 ^ (a + 8) := by
      have hb256 : b < 2 ^ 8 := by rw [r1]; exact Nat.mod_lt _ (by decide)
      have hwlt : w < 2 ^ a := by rw [hw]; exact Nat.mod_lt _ (Nat.pow_pos (by decide))
      rw [or_shl32 hwlt hb256 (by omega), hw, r1, Nat.pow_add, Nat.mod_mul, Nat.div_div_eq_div_mul,
        ← Nat.pow_add, hpa, ← hR]
      have : (2:Nat) ^ (8 * nb) = 256 ^ nb := by rw [Nat.pow_mul]
      rw [this]
      have : (2:Nat) ^ 8 = 256 := by decide
      rw [this, Nat.mul_comm (2 ^ a)]
    by_cases h : a + 8 ≤ 24
    · rw [dif_pos h]
      obtain ⟨nb', a', i1, i2, i3, i4, i5, i6⟩ := ih (32 - (a + 8)) (by omega) c1 (w ||| u32 (b <<< a)) (a + 8)
        (nb + 1) (by rw [r2]; exact hb) (by rw [r2]; exact hs) (by rw [r2]) (by omega) (by omega) hw' rfl
      refine ⟨nb', a', ?_, i2, i3, i4, i5, i6⟩
      rw [i1, r2]
    · rw [dif_neg h]
      exact ⟨nb + 1, a + 8, by rw [r2], rfl, by omega, by omega, by omega, hw'⟩

theorem win_take (X a n : Nat) (h : n ≤ a) :
    X % 2 ^ a % 2 ^ n = X % 2 ^ n ∧ X % 2 ^ a / 2 ^ n = X / 2 ^ n % 2 ^ (a - n) := by
  constructor
  · exact Nat.mod_mod_of_dvd _ (Nat.pow_dvd_pow 2 h)
  · have e : 2 ^ a = 2 ^ n * 2 ^ (a - n) := by rw [← Nat.pow_add]; congr 1; omega
    rw [e, Nat.mod_mul_right_div_self]

/-- The value `ec_dec_bits` must return, from the raw-bit containment of the encoder state after
    the matching `ec_enc_bits`. -/
theorem rawC_value {B : List Nat} {S : Nat} {c c' : Enc} (ri : RawInv c) (hb : BytesOk c.buf) (v n : Nat)
    (hq : rawQ c' c'.endWindow = rawQ c c.endWindow + v * 2 ^ rawN c)
    (hn : rawN c' = rawN c + n) (h : RawC B S c') : tailVal B S S / 2 ^ rawN c % 2 ^ n = v := by
  unfold RawC at h
  rw [hq, hn, Nat.pow_add] at h
  rw [← Nat.mod_mul_right_div_self, h, Nat.add_mul_div_right _ _ (Nat.pow_pos (by decide)),
    Nat.div_eq_of_lt (rawQ_lt c ri hb), Nat.zero_add]

/-- `ec_dec_bits` returns the next `n` raw bits and keeps the decoder invariant. -/
theorem decBits_spec (B : List Nat) (hB : BytesOk B) (S : Nat) (e e' : Enc) (d : Dec) (v n : Nat) (Bt : List Nat)
    (all : DecAll B S e d Bt) (hn : n ≤ 25)
    (hM : encM e' = encM e) (hL : encLow e' = encLow e) (hr : e'.rng = e.rng)
    (hnb : e'.nbitsTotal = e.nbitsTotal + n) (hN : rawN e' = rawN e + n)
    (hval : tailVal B S S / 2 ^ rawN e % 2 ^ n = v) :
    (decBits d n).1 = v ∧ DecAll B S e' (decBits d n).2 Bt := by
  obtain ⟨⟨ib, is, ir, inb, iv, io, irem⟩, derr, dn, nb, w1, w2, w3⟩ := all
  -- the window after the optional refill
  unfold decBits
  simp only
  generalize hst : (if d.nendBits < n then decBitsFill d d.endWindow d.nendBits
    else (d, d.endWindow, d.nendBits)) = st
  obtain ⟨nb', a', k1, k2, k3, k4, k5, k6⟩ : ∃ nb' a', st.1 = { d with endOffs := min nb' S } ∧ st.2.2 = a' ∧
      n ≤ a' ∧ a' ≤ 32 ∧ rawN e + a' = 8 * nb' ∧ st.2.1 = tailVal B S S / 2 ^ rawN e % 2 ^ a' := by
    subst hst
    by_cases hlt : d.nendBits < n
    · rw [if_pos hlt]
      obtain ⟨nb', a', i1, i2, i3, i4, i5, i6⟩ := decBitsFill_spec B hB S (tailVal B S S) (rawN e) rfl d
        d.endWindow d.nendBits nb ib is w1 (by omega) (by omega) w3
      exact ⟨nb', a', i1, i2, by omega, i4, i5, i6⟩
    · rw [if_neg hlt]
      refine ⟨nb, d.nendBits, ?_, rfl, by omega, dn, by omega, w3⟩
      simp only
      rw [← w1]
  obtain ⟨c1, w, a⟩ := st
  simp only at k1 k2 k6 ⊢
  subst k2
  obtain ⟨t1, t2⟩ := win_take (tailVal B S S / 2 ^ rawN e) a n k3
  refine ⟨by rw [k6, t1]; exact hval, ⟨⟨by rw [k1]; exact ib, by rw [k1]; exact is, by rw [k1, hr]; exact ir,
    by rw [k1, hnb]; simp only; omega, ?_, by rw [k1, hM]; exact io, by rw [k1, hM]; exact irem⟩,
    by rw [k1]; exact derr, by simp only; omega, nb', by rw [k1], by simp only; omega, ?_⟩⟩
  · rw [k1, hM, hL, hr]; exact iv
  · simp only
    rw [k6, t2, hN, Nat.pow_add, Nat.div_div_eq_div_mul]

/-- A primitive range-coded operation: the decoder returns the encoded symbol and keeps the invariant. -/
theorem decOp_prim_spec (B : List Nat) (hB : BytesOk B) (S : Nat) (e : Enc) (d : Dec) (op : Op) (Bt : List Nat)
    (hag : ∀ i, 1 ≤ i → byteAt Bt S i = byteAt B S i) (hBt : ∀ i, byteAt Bt S i < 256) (ri : RunInv e)
    (hl : op.Legal) {r a b : Nat} {first : Bool} (hsub : op.sub e.rng = some (r, a, b, first))
    (all : DecAll B S e d Bt) (hn : (encOp e op).nbitsTotal < 4294967296) (herr : (encOp e op).error = 0)
    (hc : Contains Bt S (encOp e op)) :
    op.Matches (decOp d op).1 ∧ DecAll B S (encOp e op) (decOp d op).2 Bt := by
  have hBy : ∀ i, byteAt B S i < 256 := fun i => byteAt_lt_bytesOk hB S i
  obtain ⟨inv, raw, bytes⟩ := ri
  obtain ⟨dinv, derr, dn, nb, w1, w2, w3⟩ := all
  obtain ⟨ok, heq⟩ := encOp_sub e op inv hl hsub
  rw [heq] at hn herr hc ⊢
  obtain ⟨pre, _, _⟩ := encSub_spec e r a b first inv ok
  obtain ⟨_, _, n2, _, _, _, n6, _, _, n9⟩ := encNormalize_spec (encSub e r a b first) pre hn herr
  have hc' : Contains Bt S (encSub e r a b first) := n2 Bt S hBt hc
  obtain ⟨dsub, k2, k3, k4⟩ := decSub_spec B S e d r a b first Bt inv ok dinv hc'
  -- the decoder call by its normal form: `val` lies in the symbol's sub-interval, so the symbol is returned
  have hr : RngOk d := by unfold RngOk; rw [dinv.rng_eq]; exact ⟨inv.rng_lo, inv.rng_hi⟩
  rw [← dinv.rng_eq] at hsub k3 ok
  have hm := decOp_matches d op hl hr hsub k2 k3 k4
  obtain ⟨x, v, hx, hv⟩ := decOp_prim d op hl hr hsub hm
  obtain ⟨f1, f2, f3⟩ := ok.facts
  have h4 := hr.2
  have hx : (decOp d op).2 = decNormalize (decSub { d with ext := x } r a b first) := by
    rw [hx, hv (by omega), rho32_eq first ok h4, mul32_of_lt (a := r) (b := b) (by omega), sub32_of_le (by omega) k2]
    rfl
  have dfin : DecInv B S _ (decNormalize (decSub { d with ext := x } r a b first)) Bt :=
    decNormalize_spec B S hBy (encSub e r a b first) _ Bt hag hBt pre (dsub.set_ext x) hn herr hc
  rw [encSub_endOffs] at n6
  rw [encSub_nendBits] at n9
  have eN : rawN (encNormalize (encSub e r a b first)) = rawN e := by unfold rawN; rw [n6, n9]
  refine ⟨hm, ?_⟩
  rw [hx]
  refine ⟨dfin, ?_, ?_, nb, ?_, ?_, ?_⟩
  · rw [decNormalize_error]; exact derr
  · rw [decNormalize_nendBits]; exact dn
  · rw [decNormalize_endOffs]; exact w1
  · rw [decNormalize_nendBits, eN]; exact w2
  · rw [decNormalize_endWindow, decNormalize_nendBits, eN]; exact w3

/-- Every operation of the round-trip theorems: the decoder returns what was encoded and keeps
    mirroring the encoder. -/
theorem decOp_spec (B : List Nat) (hB : BytesOk B) (S : Nat) (e : Enc) (d : Dec) (op : Op) (Bt : List Nat)
    (hag : ∀ i, 1 ≤ i → byteAt Bt S i = byteAt B S i) (hBt : ∀ i, byteAt Bt S i < 256) (ri : RunInv e)
    (hl : op.LegalAt e) (all : DecAll B S e d Bt) (hn : (encOp e op).nbitsTotal < 4294967296)
    (herr : (encOp e op).error = 0) (hc : Contains Bt S (encOp e op)) (hr : RawC B S (encOp e op)) :
    op.Matches (decOp d op).1 ∧ DecAll B S (encOp e op) (decOp d op).2 Bt := by
  by_cases hp : op.isPrim = true
  · obtain ⟨r, a, b, first, hsub⟩ := Op.isPrim_sub hp e.rng
    exact decOp_prim_spec B hB S e d op Bt hag hBt ri ((Op.isPrim_legalAt hp e).1 hl) hsub all hn herr hc
  cases op with
  | bits v n =>
    obtain ⟨l1, l2, l3⟩ := hl
    obtain ⟨g1, g2, g3, g4, g5, g6⟩ := encBits_range e v n ri l2 l3 herr
    have hval := rawC_value ri.raw ri.bytes v n g5 g6 hr
    simp only [decOp, Op.Matches, encOp]
    exact decBits_spec B hB S e _ d v n Bt all l2 g1 g2 g3 g4 g6 hval
  | shrink size =>
    obtain ⟨l1, l2⟩ := hl
    have g1 : encM (encShrink e size) = encM e := rfl
    have g2 := encShrink_encLow e size ri.inv.wf.storage_le l1 l2
    simp only [decOp, Op.Matches, encOp, true_and]
    obtain ⟨⟨ib, is, ir, inb, iv, io, irem⟩, derr, dn, nb, w1, w2, w3⟩ := all
    exact ⟨⟨ib, is, ir, inb, by rw [g1, g2]; exact iv, by rw [g1]; exact io, by rw [g1]; exact irem⟩, derr, dn,
      nb, w1, w2, w3⟩
  | patchInitial v n => exact absurd hl (by simp [Op.LegalAt])
  | uint v ft =>
    obtain ⟨l1, l2, l3⟩ := hl
    simp only [encOp] at hn herr hc hr ⊢
    simp only [decOp, Op.Matches]
    rcases uint_shape l1 l2 l3 with ⟨ft', -, hleg, he, hd, -⟩ | ⟨ftb, ft', -, h24, h256, hft, hleg, he, hd, -⟩
    · rw [he] at hn herr hc hr ⊢
      rw [hd]
      obtain ⟨m1, a1⟩ := decOp_prim_spec B hB S e d (.encode v (v + 1) ft') Bt hag hBt ri hleg rfl all hn herr hc
      simp only [decOp, Op.Matches, encOp] at m1 a1
      have hs : (decode d ft').1 = v := by omega
      rw [hs]
      exact ⟨rfl, a1⟩
    · subst hft
      rw [he] at hn herr hc hr ⊢
      rw [hd]
      simp only [uintHi]
      have hlo : v % 2 ^ ftb < 2 ^ ftb := Nat.mod_lt _ (Nat.pow_pos (by decide))
      generalize hfl : v / 2 ^ ftb = fl at *
      generalize (ft - 1) / 2 ^ ftb + 1 = ft' at *
      have hmono := (encBits_rn (encode e fl (fl + 1) ft') (v % 2 ^ ftb) ftb).2
      have herr1 : (encode e fl (fl + 1) ft').error = 0 := zero_of_sticky (encBits_error_mono _ _ _) herr
      have s1 := step_prim e (.encode fl (fl + 1) ft') ri hleg rfl (by simp only [encOp]; omega) herr1
      simp only [encOp] at s1
      have s2 := step_bits _ _ _ s1.run (by omega) hlo herr
      obtain ⟨m1, a1⟩ := decOp_prim_spec B hB S e d (.encode fl (fl + 1) ft') Bt hag hBt ri hleg rfl all
        (by simp only [encOp]; omega) herr1 (s2.cont Bt S hBt hc)
      simp only [decOp, Op.Matches, encOp] at m1 a1
      have hs : (decode d ft').1 = fl := by omega
      rw [hs]
      obtain ⟨g1, g2, g3, g4, g5, g6⟩ := encBits_range _ (v % 2 ^ ftb) ftb s1.run (by omega) hlo herr
      have hval := rawC_value s1.run.raw s1.run.bytes _ ftb g5 g6 hr
      obtain ⟨b1, b2⟩ := decBits_spec B hB S _ _ _ (v % 2 ^ ftb) ftb Bt a1 (by omega) g1 g2 g3 g4 g6 hval
      rw [b1]
      have hv : u32 (fl <<< ftb) ||| v % 2 ^ ftb = v := by
        rw [Nat.or_comm, or_shl32 hlo (n := 8) (by have := hleg.2.1; omega) (by omega), ← hfl]
        have := Nat.div_add_mod v (2 ^ ftb)
        rw [Nat.mul_comm] at this
        omega
      rw [hv, if_pos (by omega)]
      exact ⟨rfl, b2⟩
  -- the five symbol coders, for which `isPrim` is `true` by `rfl`
  | _ => exact absurd rfl hp

end Opus.RangeCoder
