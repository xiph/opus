import OpusProofs.OpusFrameLockstep
import OpusProofs.OpusFrameCeltExample
import OpusProofs.OpusFrameHybridExampleData
import OpusProofs.CeltFrameExample
/-
  One concrete frame per case of `OpusFrameCase`, every hypothesis evaluated in the kernel:
  * SILK-only: NB mono 10 ms voiced frame, 31 bytes;
  * SILK-only with redundancy: the same SILK payload followed by the 24-byte 5 ms CELT frame of
    OpusProofs/OpusFrameCeltExample.lean (72 coder calls of C17's encoder model);
  * hybrid: SWB mono 10 ms — WB SILK part (unvoiced), redundancy flag 0, and a CELT part of bands 17-18 from C17's encoder
    model on the shared coder (33 calls: header, allocation, fine energy, PVQ with a split band, finalisation), 60 bytes CBR;
  * CELT-only: the 24-byte 2.5 ms NB frame of OpusProofs/CeltFrameExample.lean (C17; 75 coder calls).
-/
namespace Opus.OpusFrameProofs.Example
open Opus Opus.RangeCoder Opus.SilkSyms Opus.SilkSymsEnc Opus.SilkSymsEncProofs Opus.OpusFrameEnc Opus.CeltSymsEnc
open OpusProofs.CeltHdr Opus.OpusFrameProofs

def monoIx : Indices :=
  { signalType := 2, quantOffsetType := 1, gains := [37, 5], nlsf0 := 17, nlsfRes := [0, 3, -10, 10, 4, -4, 1, 0, -1, 2], interp := 4, lagIndex := 100, contourIndex := 2, perIndex := 1, ltp := [15, 0], ltpScale := 2, seed := 3 }
def monoPulses : List Int :=
  [0, 1, 0, -1, 2, 0, 0, 0, 0, 0, 0, 0, 0, 0, 0, 1] ++ List.replicate 16 0 ++
  [40, -3, 0, 0, 1, 0, 0, 0, 0, 0, -7, 0, 0, 0, 0, 0] ++ List.replicate 16 0 ++
  [0, 0, 0, 0, 0, 0, 0, -1, 0, 0, 0, 0, 0, 0, 0, 0]
def monoPacket : PacketIn :=
  { ch0 := { vad := [1], lbrrFlags := [0], lbrr := [], frames := [⟨monoIx, monoPulses⟩], prev := {} },
    ch1 := default, predIx := [], midOnly := [], lbrrPredIx := [], lbrrMidOnly := [] }
def bufS : List Nat := List.replicate 100 170

theorem monoOk : PacketOk (silkCfg 1101 1 100) monoPacket :=
  ⟨by decide, by decide, by decide, by decide, by decide +kernel, by decide +kernel, by decide +kernel,
   by decide +kernel, by decide +kernel, by decide +kernel⟩

/-- The SILK payload on its coder, alone and followed by the `celt_to_silk` bit of a 24-byte redundancy frame: no
    error, within the 100-byte budget, and the decoder's length test `hgate` — one evaluation for both SILK-only cases. -/
theorem runMono :
    ((encodeAll bufS (101 - 1) (packetOps (silkCfg 1101 1 100) monoPacket)).nbitsTotal < 4294967296 ∧
      (encodeAll bufS (101 - 1) (packetOps (silkCfg 1101 1 100) monoPacket)).error = 0 ∧
      tell (encRun (encInit bufS (101 - 1)) (packetOps (silkCfg 1101 1 100) monoPacket)) ≤ 8 * ((101 - 1 : Nat) : Int)) ∧
    (encodeAll bufS (101 - 1) (packetOps (silkCfg 1101 1 100) monoPacket ++ redSigOps false true 1 1 24)).nbitsTotal < 4294967296 ∧
    (encodeAll bufS (101 - 1) (packetOps (silkCfg 1101 1 100) monoPacket ++ redSigOps false true 1 1 24)).error = 0 ∧
    tell (encRun (encInit bufS (101 - 1)) (packetOps (silkCfg 1101 1 100) monoPacket ++ redSigOps false true 1 1 24)) ≤
      8 * ((101 - 1 : Nat) : Int) ∧
    tell (encRun (encInit bufS (101 - 1)) (packetOps (silkCfg 1101 1 100) monoPacket)) + 17 ≤
      8 * (((tell (encRun (encInit bufS (101 - 1)) (packetOps (silkCfg 1101 1 100) monoPacket ++ redSigOps false true 1 1 24)) + 7) / 8) +
        ((24 : Nat) : Int)) := by
  decide +kernel

theorem caseSilk : OpusFrameCase 1101 1 100 480 1000 (silkOnlyFrame bufS 101 (silkCfg 1101 1 100) monoPacket) :=
  .silk bufS 101 monoPacket (Or.inl rfl) (Or.inl rfl) (by decide) (by decide +kernel) monoOk runMono.1.1 runMono.1.2.1
    runMono.1.2.2

theorem caseSilkRed : ∃ fr, OwnCoderFrame worldR cfgR s0R fr ∧
    OpusFrameCase 1101 1 100 480 1000 (silkRedFrame bufS 101 (silkCfg 1101 1 100) monoPacket 1 worldR.bytes fr.fin.rng) := by
  obtain ⟨fr, hown, -⟩ := ownR
  have hl : worldR.bytes.length = 24 := by rw [worldR_bytes]; rfl
  obtain ⟨-, hn, herr, hfit, hgate⟩ := runMono
  exact ⟨fr, hown, .silkRed bufS 101 monoPacket 1 worldR cfgR s0R fr (Or.inl rfl) (Or.inl rfl) (by decide) (by decide +kernel)
    monoOk (by decide) hown (by decide +kernel) (by rw [hl]; exact hn) (by rw [hl]; exact herr) (by rw [hl]; exact hfit)
    (by rw [hl]; exact hgate)⟩

def bufH : List Nat := List.replicate 60 170
def s0H : St := { e := encRun (encInit bufH 60) (hybridP0 61 (hybridCfg 1 100) hybPacket true), ops := [], ds := dsH }
def allH : List Op := match Opus.CeltBandsEnc.encFrame cfgH s0H with | .ok f => f.ops | _ => []

/-- The CELT encoder's run behind the SILK part, and everything about the finished 60-byte frame, in one evaluation: the
    header decisions; the shared coder before and after (legal, no error, 60 bytes); the two length contracts; the
    decoder's answer on the frame. -/
theorem runH : (Opus.CeltBandsEnc.encFrame cfgH s0H).OkAnd fun fr =>
    (fr.hdr.silence = 0 ∧ fr.hdr.size = 60 ∧ fr.hdr.pf.on = 0 ∧ (cfgH.start : Int) ≤ fr.hdr.allocInp.intensity ∧
      fr.hdr.allocInp.dualStereo = 0 ∧ fr.ops.length = 33) ∧
    (s0H.e.storage = cfgH.size ∧ tell s0H.e < ((60 * 8 : Nat) : Int) ∧
      LegalRun (encRun (encInit bufH (61 - 1)) (packetOps (hybridCfg 1 100) hybPacket ++ redSigOps true true 0 0 0))
        (Op.shrink (61 - 1 - 0) :: fr.ops) ∧
      (encodeAll bufH (61 - 1) (hybridOps 61 (hybridCfg 1 100) hybPacket true 0 0 0 fr.ops)).nbitsTotal < 536870912 ∧
      (encodeAll bufH (61 - 1) (hybridOps 61 (hybridCfg 1 100) hybPacket true 0 0 0 fr.ops)).error = 0 ∧
      (encodeAll bufH (61 - 1) (hybridOps 61 (hybridCfg 1 100) hybPacket true 0 0 0 fr.ops)).storage = 60) ∧
    (tell (encRun (encInit bufH (61 - 1)) (packetOps (hybridCfg 1 100) hybPacket)) + 17 + 20 ≤ 8 * ((60 : Nat) : Int) ∧
      tell (encRun (encInit bufH (61 - 1)) (packetOps (hybridCfg 1 100) hybPacket ++ redSigOps true true 0 0 0)) ≤
        8 * ((60 : Nat) : Int)) ∧
    (decodeOpusFrame 1001 1104 1 100 false {}
        (hybridFrame bufH 61 (hybridCfg 1 100) hybPacket true 0 0 fr.ops [] 0).payload).OkAnd fun o =>
      o.redundancy = 0 ∧ o.redundancyBytes = 0 ∧ o.len = 60 ∧ o.dec.storage = 60 := by
  decide +kernel

theorem allH_eq {fr : Opus.CeltBandsEnc.EncFrame} (h : Opus.CeltBandsEnc.encFrame cfgH s0H = .ok fr) : allH = fr.ops := by
  rw [allH, h]

theorem caseHybrid : ∃ fr, Opus.CeltBandsEnc.encFrame cfgH s0H = .ok fr ∧ fr.ops.length = 33 ∧
    OpusFrameCase 1104 1 100 480 1001 (hybridFrame bufH 61 (hybridCfg 1 100) hybPacket true 0 0 fr.ops [] 0) := by
  obtain ⟨fr, h, ⟨hsil, hsize, hpf, hint, hdual, hlen⟩, ⟨hst0, hroom, hsuf, hn29, herr, hst⟩, ⟨hgate, -⟩, -⟩ := runH
  -- `enc0` by rewriting: asked whether `s0H.e` is `encRun …` by `rfl`, the elaborator unfolds `encRun` before the projection
  -- and starts running the encoder
  exact ⟨fr, h, hlen, .hybrid bufH 61 hybPacket true cfgH s0H fr (Or.inl rfl) (by decide) (by decide +kernel) hybOk
    hsuf hn29 herr (by rw [hst]; exact ⟨fun _ => rfl, fun _ => hgate⟩) (by rw [hst]; decide)
    ⟨rfl, by simp only [s0H, Nat.reduceSub], hst0, h, hsil, by decide, by decide, by rw [hst, hsize], Or.inl hst, by rw [hst]; exact hroom,
      fun hne => absurd hpf hne, hint, Or.inl hdual⟩
    (by decide)⟩

/-- the hybrid frame of `caseHybrid` (60 bytes, budget test passed, redundancy flag 0 written): the hypotheses of
    `opus_frame_lockstep_hybrid_nored_flag` that `caseHybrid` does not already list, and the decoder's answer -/
theorem hybNoRedHyps :
    tell (encRun (encInit bufH (61 - 1)) (packetOps (hybridCfg 1 100) hybPacket)) + 17 + 20 ≤ 8 * ((60 : Nat) : Int) ∧
    tell (encRun (encInit bufH (61 - 1)) (packetOps (hybridCfg 1 100) hybPacket ++ redSigOps true true 0 0 0)) ≤ 8 * ((60 : Nat) : Int) ∧
    (encodeAll bufH (61 - 1) (hybridOps 61 (hybridCfg 1 100) hybPacket true 0 0 0 allH)).storage = 60 ∧
    (match decodeOpusFrame 1001 1104 1 100 false {} (hybridFrame bufH 61 (hybridCfg 1 100) hybPacket true 0 0 allH [] 0).payload with
     | .ok o => decide (o.redundancy = 0 ∧ o.redundancyBytes = 0 ∧ o.len = 60 ∧ o.dec.storage = 60)
     | _ => false) = true := by
  obtain ⟨fr, h, -, ⟨-, -, -, -, -, hst⟩, ⟨hgate, hsane⟩, o, ho, hq⟩ := runH
  refine ⟨hgate, hsane, by rw [allH_eq h]; exact hst, ?_⟩
  rw [allH_eq h, ho]
  exact decide_eq_true hq

theorem caseCelt : ∃ fr, OpusFrameCase 1101 1 25 120 1002
      (celtOnlyFrame OpusProofs.CeltHdr.Example.worldF.buf OpusProofs.CeltHdr.Example.worldF.size OpusProofs.CeltHdr.Example.worldF.all) ∧
    Opus.CeltBandsEnc.encFrame OpusProofs.CeltHdr.Example.cfg OpusProofs.CeltHdr.Example.s0F = .ok fr ∧ fr.ops.length = 75 := by
  obtain ⟨fr, h1, h2, h3, h4, h5, h6, h7, h8, h9, h10, h11, h12, h13, _⟩ := OpusProofs.CeltHdr.Example.hypsF
  have hall : OpusProofs.CeltHdr.Example.worldF.all = fr.ops := by
    show OpusProofs.CeltHdr.Example.allF = fr.ops
    rw [OpusProofs.CeltHdr.Example.allF, h1]
  refine ⟨fr, .celt OpusProofs.CeltHdr.Example.worldF OpusProofs.CeltHdr.Example.cfg OpusProofs.CeltHdr.Example.s0F fr
    ⟨h2, h3, h4, h1, h5, by rw [List.nil_append] at h6; exact h6, by decide, by decide, h7, Or.inl h8, h9,
      fun hne => absurd h10 hne, h11, Or.inl h12⟩ hall (by decide), h1, h13⟩

end Opus.OpusFrameProofs.Example
