import OpusModel.RangeCoderCodes
import OpusProofs.RangeCoderRoundTrip
import OpusProofs.CwrsCache
import OpusProofs.LaplaceMain
/-
  OpusProofs.RangeCoderCodes — C08 ∘ C17: the Laplace code and the PVQ code, run through the range
  coder, are inverted by their decoders.  C17 supplies the interval-level facts (`laplace_decode_encode`,
  `icwrs_table`, `cache_reachable_fits`), C08 the round trip of the range-coder calls.
  The C17 facts stand in `namespace C17` below, read off C17's proof modules (OpusProofs/Laplace*.lean,
  OpusProofs/Cwrs*.lean); OpusProps/C17.lean imports this file and states `icwrs_cwrsi`, `cache_reachable_fits`,
  `icwrs_table` and the first clause of `cwrsi_table` by them.  `C17.laplace_decode_encode` is the first four clauses
  of the property theorem of that name; both read the same `OpusProofs.Laplace.encode_then_decode`.
-/
namespace Opus.RangeCoder
open Opus
open Opus.Cwrs (Utab V sumAbs sumSq cwrsi decodePulsesFt encodePulses)
open OpusProofs.Laplace (LaplaceOk)
open OpusProofs.CwrsCache (Reach)

/-- Side conditions of a coding step: the Laplace parameters are a usable pair (every pair of the
    energy model is, C17 `eprob_pairs_ok`); the pulse vector has a size and pulse count the codec can
    use (`Reach`, C17) and `K` is its number of pulses. -/
def Code.Ok : Code → Prop
  | .op _ => True
  | .laplace _ fs decay => LaplaceOk fs decay = true
  | .pulses y k => 2 ≤ y.length ∧ sumAbs y = k ∧ ∃ b, Reach y.length k b

/-- The decoder's result agrees with what the coding step encoded: a Laplace value decodes to the value
    the encoder wrote back through `*value` (the clamped value), a pulse vector to itself. -/
def Code.Matches : Code → CodeVal → Prop
  | .op o, .sym x => o.Matches x
  | .laplace value fs decay, .lap v => ∃ fl fh, Laplace.encode value fs decay = .ok (fl, fh, v)
  | .pulses y _, .vec ys => ys = y
  | _, _ => False

def MatchAllC : List Code → List CodeVal → Prop
  | [], [] => True
  | c :: cs, v :: vs => c.Matches v ∧ MatchAllC cs vs
  | _, _ => False

namespace C17
open Opus.Cwrs (icwrs Tab)
open OpusProofs.CwrsModel (Agree)

/-- `OpusProps.C17.laplace_decode_encode` (first four clauses). -/
theorem laplace_decode_encode (fs decay : Nat) (h : LaplaceOk fs decay = true) (value : Int) :
    ∃ fl fh v', Laplace.encode value fs decay = .ok (fl, fh, v') ∧ fl < fh ∧ fh ≤ 32768 ∧
      (∀ fm, fl ≤ fm → fm < fh → Laplace.decode fm fs decay = .ok (v', fl, fh)) := by
  obtain ⟨T, hp⟩ := OpusProofs.Laplace.par_of_ok h
  obtain ⟨fl, fh, v', h1, h2, h3, h4, _⟩ := OpusProofs.Laplace.encode_then_decode hp value
  exact ⟨fl, fh, v', h1, h2, h3, h4⟩

/-- `OpusProps.C17.icwrs_cwrsi`. -/
theorem icwrs_cwrsi (tab : Tab) (y : List Int) (h : Agree tab y.length (sumAbs y)) (hn : 2 ≤ y.length)
    (hk : 1 ≤ sumAbs y) :
    ∃ i, icwrs tab y = .ok i ∧ i < V y.length (sumAbs y) ∧ cwrsi tab y.length (sumAbs y) i = .ok (y, sumSq y) := by
  obtain ⟨hlt, hdec⟩ := OpusProofs.CwrsBij.encS_spec y
  refine ⟨_, OpusProofs.CwrsModel.icwrs_agree h hn, hlt, ?_⟩
  rw [OpusProofs.CwrsModel.cwrsi_agree h hn hk hlt, hdec]

/-- `C17.cache_reachable_fits`. -/
theorem cache_reachable_fits (N K b : Nat) (h : Reach N K b) : 1 ≤ K ∧ V N K < 4294967296 ∧ Agree Utab N K := by
  obtain ⟨h1, h2, h3, _⟩ := OpusProofs.CwrsCache.reach_facts h
  exact ⟨h1, h3, h2⟩

/-- `OpusProps.C17.cwrsi_table` (first clause). -/
theorem decodePulsesFt_table (N K b : Nat) (h : Reach N K b) : decodePulsesFt Utab N K = .ok (V N K) := by
  obtain ⟨_, hA, _, _⟩ := OpusProofs.CwrsCache.reach_facts h
  exact OpusProofs.CwrsModel.pvqV_agree hA (Nat.le_refl _) (Nat.le_refl _)

/-- `C17.icwrs_table`. -/
theorem icwrs_table (N K b : Nat) (y : List Int) (h : Reach N K b) (hn : 2 ≤ N) (hl : y.length = N)
    (hs : sumAbs y = K) :
    ∃ i, encodePulses Utab y K = .ok (i, V N K) ∧ i < V N K ∧ V N K < 4294967296 ∧
      cwrsi Utab N K i = .ok (y, sumSq y) := by
  obtain ⟨hk, hA, hV, _⟩ := OpusProofs.CwrsCache.reach_facts h
  subst hl hs
  obtain ⟨i, h1, h2, h3⟩ := icwrs_cwrsi Utab y hA hn hk
  refine ⟨i, ?_, h2, hV, h3⟩
  unfold encodePulses
  rw [if_neg (by omega), h1, OpusProofs.CwrsModel.pvqV_agree hA (Nat.le_refl _) (Nat.le_refl _)]
  rfl

end C17

/-- The range-coder call of `ec_laplace_encode` and what the decoder does with any answer to it. -/
theorem laplace_code (value : Int) (fs decay : Nat) (h : LaplaceOk fs decay = true) :
    ∃ fl fh v', Laplace.encode value fs decay = .ok (fl, fh, v') ∧
      (Code.laplace value fs decay).encOps = .ok [.encodeBin fl fh 15] ∧ (Op.encodeBin fl fh 15).Legal ∧
      ∀ fm, fl ≤ fm → fm < fh → Laplace.decode fm fs decay = .ok (v', fl, fh) := by
  obtain ⟨fl, fh, v', h1, h2, h3, h4⟩ := C17.laplace_decode_encode fs decay h value
  refine ⟨fl, fh, v', h1, ?_, ⟨h2, by simpa using h3, by decide, by decide⟩, h4⟩
  simp only [Code.encOps, h1]
  rfl

/-- The range-coder call of `encode_pulses` and what `decode_pulses` does with its answer. -/
theorem pulses_code (y : List Int) (k : Nat) (h : (Code.pulses y k).Ok) :
    ∃ i, (Code.pulses y k).encOps = .ok [.uint i (V y.length k)] ∧ (Op.uint i (V y.length k)).Legal ∧
      decodePulsesFt Utab y.length k = .ok (V y.length k) ∧
      cwrsi Utab y.length k i = .ok (y, sumSq y) := by
  obtain ⟨hn, hs, b, hr⟩ := h
  obtain ⟨i, h1, h2, h3, h4⟩ := C17.icwrs_table y.length k b y hr hn rfl hs
  obtain ⟨hk, _, _⟩ := C17.cache_reachable_fits y.length k b hr
  have hft := C17.decodePulsesFt_table y.length k b hr
  refine ⟨i, ?_, ⟨OpusProofs.CwrsU.V_ge_two _ _ (by omega) hk, by omega, h2⟩, hft, h4⟩
  simp only [Code.encOps, h1]
  rfl

/-- One coding step: its range-coder calls exist; they are legal wherever a plain call is (the calls of the two codes are
    legal anywhere); and a decoder that mirrors them does not assert, returns the encoded value and ends where the
    mirrored calls end.  (`c.Ok` is an arrow, not a binder: with a hypothesis about `c` in scope the `match` below would
    take it into its motive and no longer be the `match` of `LegalCodes`.) -/
theorem code_spec (c : Code) : c.Ok → ∃ a, c.encOps = .ok a ∧
    (∀ e : Enc, (match c with | .op o => o.LegalAt e | _ => True) → LegalRun e a) ∧
    ∀ d, MatchAll a (decRun d a).1 → ∃ v, decCode d c = .ok (v, (decRun d a).2) ∧ c.Matches v := by
  intro hok
  cases c with
  | op o =>
    refine ⟨[o], rfl, fun e h => ⟨h, trivial⟩, fun d hm => ?_⟩
    simp only [decRun] at hm ⊢
    exact ⟨_, rfl, hm.1⟩
  | laplace value fs decay =>
    obtain ⟨fl, fh, v', h1, h2, h3, h4⟩ := laplace_code value fs decay hok
    refine ⟨_, h2, fun e _ => ⟨h3, trivial⟩, fun d hm => ?_⟩
    simp only [decRun, decOp] at hm ⊢
    have hfm := hm.1
    simp only [Op.Matches] at hfm
    refine ⟨.lap v', ?_, fl, fh, h1⟩
    simp only [decCode, h4 _ hfm.1 hfm.2]
    rfl
  | pulses y k =>
    obtain ⟨i, h1, h2, h3, h4⟩ := pulses_code y k hok
    refine ⟨_, h1, fun e _ => ⟨h2, trivial⟩, fun d hm => ?_⟩
    simp only [decRun, decOp] at hm ⊢
    have hi := hm.1
    simp only [Op.Matches] at hi
    refine ⟨.vec y, ?_, rfl⟩
    simp only [decCode, h3]
    show (do let ys ← cwrsi Utab y.length k (decUint d (V y.length k)).1
             pure (CodeVal.vec ys.1, (decUint d (V y.length k)).2)) = _
    rw [hi, h4]
    rfl

/-- Legality of a list of coding steps: side conditions, and plain range-coder calls legal where they
    are applied. -/
def LegalCodes : Enc → List Code → Prop
  | _, [] => True
  | c, code :: cs =>
    code.Ok ∧ (match code with | .op o => o.LegalAt c | _ => True) ∧
    ∀ ops, code.encOps = .ok ops → LegalCodes (encRun c ops) cs

theorem codesOps_cons {c : Code} {cs : List Code} {ops : List Op} (h : codesOps (c :: cs) = .ok ops) :
    ∃ a b, c.encOps = .ok a ∧ codesOps cs = .ok b ∧ ops = a ++ b := by
  simp only [codesOps] at h
  cases ha : c.encOps with
  | ok a =>
    rw [ha] at h
    cases hb : codesOps cs with
    | ok b => rw [hb] at h; exact ⟨a, b, rfl, rfl, by injection h with h; exact h.symm⟩
    | err e => rw [hb] at h; cases h
    | oob => rw [hb] at h; cases h
    | abort => rw [hb] at h; cases h
  | err e => rw [ha] at h; cases h
  | oob => rw [ha] at h; cases h
  | abort => rw [ha] at h; cases h

theorem legalRun_of_codes (cs : List Code) : ∀ (c : Enc), LegalCodes c cs →
    ∃ ops, codesOps cs = .ok ops ∧ LegalRun c ops := by
  induction cs with
  | nil => intro c _; exact ⟨[], rfl, trivial⟩
  | cons code cs ih =>
    intro c h
    obtain ⟨hok, hop, hrest⟩ := h
    obtain ⟨a, ha, hla, -⟩ := code_spec code hok
    obtain ⟨b, hb, hlb⟩ := ih (encRun c a) (hrest a ha)
    refine ⟨a ++ b, ?_, legalRun_append_mk a b c (hla c hop) hlb⟩
    simp only [codesOps, ha, hb]; rfl

open Opus.SilkSymsEncProofs (Reads after after_eq reads_iff reads_append after_append) in
/-- The decoder side of a list of coding steps, given that the decoder reads their range-coder calls back. -/
theorem decCodes_reads (cs : List Code) : ∀ (d : Dec) (ops : List Op), (∀ c ∈ cs, c.Ok) → codesOps cs = .ok ops →
    Reads d ops → ∃ vals, decCodes d cs = .ok (vals, after d ops) ∧ MatchAllC cs vals := by
  induction cs with
  | nil =>
    intro d ops _ hops _
    simp only [codesOps] at hops; injection hops with hops; subst hops
    exact ⟨[], rfl, trivial⟩
  | cons c cs ih =>
    intro d ops hok hops hr
    obtain ⟨a, b, ha, hb, rfl⟩ := codesOps_cons hops
    rw [reads_append] at hr
    obtain ⟨a', ha', -, hd⟩ := code_spec c (hok c (by simp))
    rw [ha] at ha'; injection ha' with e; subst e
    obtain ⟨v, hv, hvm⟩ := hd d ((reads_iff a d).mp hr.1)
    rw [← after_eq] at hv
    obtain ⟨vals, i1, i2⟩ := ih (after d a) b (fun c hc => hok c (by simp [hc])) hb hr.2
    refine ⟨v :: vals, ?_, hvm, i2⟩
    simp only [decCodes, hv, Res.bind_ok, i1, after_append]
    rfl

theorem legalCodes_ok (cs : List Code) : ∀ (c : Enc), LegalCodes c cs → ∀ x ∈ cs, x.Ok := by
  induction cs with
  | nil => intro _ _ x hx; simp at hx
  | cons code cs ih =>
    intro c h x hx
    obtain ⟨hok, _, hrest⟩ := h
    rcases List.mem_cons.mp hx with rfl | hx
    · exact hok
    · obtain ⟨a, ha, -⟩ := code_spec code hok
      exact ih _ (hrest a ha) x hx

/-- **Laplace and PVQ codes through the range coder.**  For every list of coding steps — plain
    range-coder calls, `ec_laplace_encode` with any usable parameter pair, `encode_pulses` with any
    reachable `(N, K)`, in any interleaving — the steps expand into range-coder calls without
    assertion, and if `ec_enc_done` then reports no error the decoder side (`ec_laplace_decode`,
    `decode_pulses`, the mirrored calls) does not assert either, returns the clamped Laplace values and
    exactly the encoded pulse vectors, and ends in lock-step with the encoder. -/
theorem codes_roundtrip_all (buf : List Nat) (size : Nat) (cs : List Code) (hs : size ≤ buf.length)
    (hb : BytesOk buf) (hl : LegalCodes (encInit buf size) cs) :
    ∃ ops, codesOps cs = .ok ops ∧ encodeCodes buf size cs = .ok (encodeAll buf size ops) ∧
      LegalRun (encInit buf size) ops ∧
      ((encodeAll buf size ops).nbitsTotal < 4294967296 → (encodeAll buf size ops).error = 0 →
        ∃ vals d, decCodes (decInit ((encodeAll buf size ops).buf.take (encodeAll buf size ops).storage)
            (encodeAll buf size ops).storage) cs = .ok (vals, d) ∧
          MatchAllC cs vals ∧
          DecAll ((encodeAll buf size ops).buf.take (encodeAll buf size ops).storage)
            (encodeAll buf size ops).storage (encRun (encInit buf size) ops) d
            ((encodeAll buf size ops).buf.take (encodeAll buf size ops).storage)) := by
  obtain ⟨ops, hops, hlr⟩ := legalRun_of_codes cs _ hl
  refine ⟨ops, hops, by simp only [encodeCodes, hops]; rfl, hlr, ?_⟩
  intro hn herr
  obtain ⟨hm, hall⟩ := decode_encode_all buf size ops hs hb hlr hn herr
  obtain ⟨vals, h1, h2⟩ := decCodes_reads cs _ ops (legalCodes_ok cs _ hl) hops
    ((Opus.SilkSymsEncProofs.reads_iff _ _).mpr hm)
  exact ⟨vals, _, h1, h2, by rw [Opus.SilkSymsEncProofs.after_eq]; exact hall⟩

end Opus.RangeCoder
