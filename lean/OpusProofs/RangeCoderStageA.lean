import OpusProofs.RangeCoderOps
import OpusProofs.RangeCoderTell
import OpusProofs.RangeCoderRaw
/-
  OpusProofs.RangeCoderStageA — C08, bit accounting, encoder side: `rng` and `nbits_total` evolve as one pure
  function `Op.rn` of the operations (independent of buffer space and errors): `rng` stays normalised,
  `ec_tell`/`ec_tell_frac` are monotone.  That the decoder makes the same transition whenever it returns the
  coded symbol is RangeCoderLockstep.  Also here, because `Op.rn` needs it: `uint_shape`, the format of `ec_enc_uint`.
-/
namespace Opus.RangeCoder

theorem subRho_bounds {rng r a b : Nat} (first : Bool) (ok : SubOk rng r a b) :
    0 < subRho rng r a b first ∧ subRho rng r a b first ≤ rng := by
  obtain ⟨f1, f2, f3⟩ := ok.facts
  have := ok.r_pos
  unfold subRho; split
  · omega
  · rw [f2]; omega

/-- New `(rng, nbits_total)` after the subdivision with parameters `(r, a, b, first)` and normalisation. -/
def symRN (rng nbits r a b : Nat) (first : Bool) : Nat × Nat := normRN (subRho rng r a b first) nbits

/-- Encoder side: a primitive range-coded operation maps `(rng, nbits_total)` by `symRN`,
    whatever the rest of the state (buffer space, errors) is. -/
theorem encOp_rn_sym (c : Enc) (op : Op) (hr : RngOk c) (hl : op.Legal) {r a b : Nat} {first : Bool}
    (hsub : op.sub c.rng = some (r, a, b, first)) :
    ((encOp c op).rng, (encOp c op).nbitsTotal) = symRN c.rng c.nbitsTotal r a b first := by
  have h2 := hr.2
  rw [encOp_prim c op hl (by omega) hsub, encNormalize_rn, encSub32_rng, encSub32_nbitsTotal,
    rho32_eq first (Op.sub_ok hl hr.1 hsub) h2]
  rfl

theorem encBits_rn (c : Enc) (v n : Nat) :
    (encBits c v n).rng = c.rng ∧ (encBits c v n).nbitsTotal = c.nbitsTotal + n := by
  unfold encBits
  simp only
  split
  · exact ⟨encBitsFlush_frame (·.rng) (by simp) _ _ _,
      by rw [encBitsFlush_frame (·.nbitsTotal) (by simp)]⟩
  · exact ⟨rfl, rfl⟩

/-- `symRN` at the parameters `Op.sub` gives for `op` at the current `rng`; operations that are no range-coded
    symbol leave the pair alone. -/
def primRN (op : Op) (rng nbits : Nat) : Nat × Nat :=
  match op.sub rng with
  | some (r, a, b, first) => symRN rng nbits r a b first
  | none => (rng, nbits)

/-- New `(rng, nbits_total)` of any operation: a pure function of the old pair. -/
def Op.rn (op : Op) (rng nbits : Nat) : Nat × Nat :=
  match op with
  | .uint v ft =>
    let ftb := ilog (ft - 1)
    if ftb > 8 then
      let p := primRN (.encode (v / 2 ^ (ftb - 8)) (v / 2 ^ (ftb - 8) + 1) ((ft - 1) / 2 ^ (ftb - 8) + 1)) rng nbits
      (p.1, p.2 + (ftb - 8))
    else primRN (.encode v (v + 1) (ft - 1 + 1)) rng nbits
  | .bits _ n => (rng, nbits + n)
  | .patchInitial _ _ => (rng, nbits)
  | .shrink _ => (rng, nbits)
  | op => primRN op rng nbits

theorem Op.rn_prim {op : Op} (hp : op.isPrim = true) : op.rn = primRN op := by
  cases op with
  | uint v ft => cases hp
  | bits v n => cases hp
  | patchInitial v n => cases hp
  | shrink size => cases hp
  | _ => rfl

/-- The multi-byte branch of `ec_dec_uint`, with its intermediate results named. -/
def uintHi (d : Dec) (ft1 ftb : Nat) : Nat × Dec :=
  let ft' := ft1 / 2 ^ ftb + 1
  let s := (decode d ft').1
  let r := decBits (decUpdate (decode d ft').2 s (s + 1) ft') ftb
  if u32 (s <<< ftb) ||| r.1 ≤ ft1 then (u32 (s <<< ftb) ||| r.1, r.2) else (ft1, { r.2 with error := 1 })

/-- `ec_enc_uint(v, ft)` is `ec_encode` of `v` in a table of at most 256 entries or, above 8 bits, of the top 8 bits of
    `v` followed by the `ftb` low ones as raw bits; `ec_dec_uint` and `Op.rn` mirror it.  The range-coder proofs
    read the format from here and do not look at `ilog (ft - 1)` again. -/
theorem uint_shape {v ft : Nat} (h1 : 2 ≤ ft) (h2 : ft ≤ 4294967295) (h3 : v < ft) :
    (∃ ft', ft' ≤ 256 ∧ (Op.encode v (v + 1) ft').Legal ∧ (∀ c, encUint c v ft = encode c v (v + 1) ft') ∧
      (∀ d, decUint d ft = ((decode d ft').1,
        decUpdate (decode d ft').2 (decode d ft').1 ((decode d ft').1 + 1) ft')) ∧
      (Op.uint v ft).rn = primRN (.encode v (v + 1) ft')) ∨
    (∃ ftb ft', 1 ≤ ftb ∧ ftb ≤ 24 ∧ ft' ≤ 256 ∧ ft' = (ft - 1) / 2 ^ ftb + 1 ∧
      (Op.encode (v / 2 ^ ftb) (v / 2 ^ ftb + 1) ft').Legal ∧
      (∀ c, encUint c v ft = encBits (encode c (v / 2 ^ ftb) (v / 2 ^ ftb + 1) ft') (v % 2 ^ ftb) ftb) ∧
      (∀ d, decUint d ft = uintHi d (ft - 1) ftb) ∧
      ∀ rng nbits, (Op.uint v ft).rn rng nbits =
        ((primRN (.encode (v / 2 ^ ftb) (v / 2 ^ ftb + 1) ft') rng nbits).1,
         (primRN (.encode (v / 2 ^ ftb) (v / 2 ^ ftb + 1) ft') rng nbits).2 + ftb)) := by
  by_cases hb : ilog (ft - 1) > 8
  · have h32 : ilog (ft - 1) ≤ 32 := by rw [ilog_lt_iff]; omega
    obtain ⟨-, b2⟩ := ilog_bounds (v := ft - 1) (by omega)
    -- the top 8 bits of `ft - 1`
    have hdiv : (ft - 1) / 2 ^ (ilog (ft - 1) - 8) < 256 := by
      rw [Nat.div_lt_iff_lt_mul (Nat.pow_pos (by decide)), ← Nat.pow_add 2 8,
        show 8 + (ilog (ft - 1) - 8) = ilog (ft - 1) by omega]
      exact b2
    have hle : v / 2 ^ (ilog (ft - 1) - 8) ≤ (ft - 1) / 2 ^ (ilog (ft - 1) - 8) := Nat.div_le_div_right (by omega)
    have hleg : (Op.encode (v / 2 ^ (ilog (ft - 1) - 8)) (v / 2 ^ (ilog (ft - 1) - 8) + 1)
        ((ft - 1) / 2 ^ (ilog (ft - 1) - 8) + 1)).Legal := by
      unfold Op.Legal
      generalize (ft - 1) / 2 ^ (ilog (ft - 1) - 8) = q at *
      generalize v / 2 ^ (ilog (ft - 1) - 8) = w at *
      omega
    exact Or.inr ⟨ilog (ft - 1) - 8, (ft - 1) / 2 ^ (ilog (ft - 1) - 8) + 1, by omega, by omega, by omega, rfl,
      hleg, fun c => by unfold encUint; simp only [if_pos hb],
      fun d => by unfold decUint uintHi; simp only [if_pos hb],
      fun rng nbits => by simp only [Op.rn, if_pos hb]⟩
  · have h8 : ilog (ft - 1) ≤ 8 := by omega
    rw [ilog_lt_iff] at h8
    exact Or.inl ⟨ft - 1 + 1, by omega, by unfold Op.Legal; omega, fun c => by unfold encUint; simp only [if_neg hb],
      fun d => by unfold decUint; simp only [if_neg hb], by funext rng nbits; simp only [Op.rn, if_neg hb]⟩

theorem encOp_rn_prim (c : Enc) (op : Op) (hr : RngOk c) (hl : op.Legal) (hp : op.isPrim = true) :
    ((encOp c op).rng, (encOp c op).nbitsTotal) = primRN op c.rng c.nbitsTotal := by
  obtain ⟨r, a, b, first, hsub⟩ := Op.isPrim_sub hp c.rng
  unfold primRN
  rw [hsub]
  exact encOp_rn_sym c op hr hl hsub

theorem encOp_rn (c : Enc) (op : Op) (hr : RngOk c) (hl : op.Legal) :
    ((encOp c op).rng, (encOp c op).nbitsTotal) = op.rn c.rng c.nbitsTotal := by
  by_cases hp : op.isPrim = true
  · rw [Op.rn_prim hp]; exact encOp_rn_prim c op hr hl hp
  cases op with
  | uint v ft =>
    rcases uint_shape hl.1 hl.2.1 hl.2.2 with ⟨ft', -, hleg, he, -, hrn⟩ | ⟨ftb, ft', -, -, -, -, hleg, he, -, hrn⟩
    · rw [hrn]; simp only [encOp, he]; exact encOp_rn_prim c _ hr hleg rfl
    · obtain ⟨b1, b2⟩ := encBits_rn (encode c (v / 2 ^ ftb) (v / 2 ^ ftb + 1) ft') (v % 2 ^ ftb) ftb
      rw [hrn, ← encOp_rn_prim c _ hr hleg rfl]; simp only [encOp, he, b1, b2]
  | bits v n =>
    obtain ⟨b1, b2⟩ := encBits_rn c v n
    simp only [encOp, Op.rn, b1, b2]
  | patchInitial v n =>
    obtain ⟨_, _, _, _, _, e, _⟩ := encPatch_shape c v n
    simp only [encOp, Op.rn, e]
  | shrink size => rfl
  -- the five symbol coders, for which `isPrim` is `true` by `rfl`
  | _ => exact absurd rfl hp

/-- `(rng', nbits')` is an advance of `(rng, nbits)`: either no byte was accounted and the range
    did not grow, or at least 8 more bits are accounted. -/
def Adv (rng nbits rng' nbits' : Nat) : Prop := (nbits ≤ nbits' ∧ rng' ≤ rng) ∨ nbits + 8 ≤ nbits'

theorem primRN_spec (op : Op) (hl : op.Legal) {rng : Nat} (nbits : Nat) (h1 : 8388608 < rng)
    (h2 : rng ≤ 2147483648) :
    8388608 < (primRN op rng nbits).1 ∧ (primRN op rng nbits).1 ≤ 2147483648 ∧
    Adv rng nbits (primRN op rng nbits).1 (primRN op rng nbits).2 := by
  unfold primRN
  match hsub : op.sub rng with
  | some (r, a, b, first) =>
    simp only
    have ok := Op.sub_ok hl h1 hsub
    obtain ⟨p1, p2⟩ := subRho_bounds first ok
    obtain ⟨n1, n2, n3⟩ := normRN_spec (subRho rng r a b first) nbits p1 (by omega)
    unfold symRN
    refine ⟨n1, n2, ?_⟩
    rcases n3 with ⟨_, e⟩ | ⟨_, e⟩
    · rw [e]; exact Or.inl ⟨Nat.le_refl _, p2⟩
    · exact Or.inr e
  | none => exact ⟨h1, h2, Or.inl ⟨Nat.le_refl _, Nat.le_refl _⟩⟩

theorem Op.rn_spec (op : Op) (hl : op.Legal) {rng : Nat} (nbits : Nat) (h1 : 8388608 < rng)
    (h2 : rng ≤ 2147483648) :
    8388608 < (op.rn rng nbits).1 ∧ (op.rn rng nbits).1 ≤ 2147483648 ∧
    Adv rng nbits (op.rn rng nbits).1 (op.rn rng nbits).2 := by
  by_cases hp : op.isPrim = true
  · rw [Op.rn_prim hp]; exact primRN_spec _ hl nbits h1 h2
  cases op with
  | uint v ft =>
    rcases uint_shape hl.1 hl.2.1 hl.2.2 with ⟨ft', -, hleg, -, -, hrn⟩ | ⟨ftb, ft', -, -, -, -, hleg, -, -, hrn⟩
    · rw [hrn]; exact primRN_spec _ hleg nbits h1 h2
    · obtain ⟨q1, q2, q3⟩ := primRN_spec _ hleg nbits h1 h2
      rw [hrn]; refine ⟨q1, q2, ?_⟩
      unfold Adv at q3 ⊢; simp only; omega
  | bits v n => exact ⟨h1, h2, Or.inl ⟨by simp [Op.rn], Nat.le_refl _⟩⟩
  | patchInitial v n => exact ⟨h1, h2, Or.inl ⟨Nat.le_refl _, Nat.le_refl _⟩⟩
  | shrink size => exact ⟨h1, h2, Or.inl ⟨Nat.le_refl _, Nat.le_refl _⟩⟩
  -- the five symbol coders, for which `isPrim` is `true` by `rfl`
  | _ => exact absurd rfl hp

theorem fbits_top : fbits 2147483648 = 256 := by
  have : ilog 2147483648 = 32 := ilog_eq_of_bounds (k := 31) (by decide) (by decide)
  unfold fbits
  rw [this]
  decide

theorem fbits_range {rng : Nat} (h1 : 8388608 < rng) (h2 : rng ≤ 2147483648) :
    192 ≤ fbits rng ∧ fbits rng ≤ 256 := by
  constructor
  · have := (fbits_bounds (rng := rng) (by omega)).1
    have := (ilog_range h1 h2).1
    omega
  · have := fbits_mono (a := rng) (b := 2147483648) (by omega) h2
    rw [fbits_top] at this; exact this

/-- `ec_tell_frac` without the 32-bit wrappers, on its intended domain. -/
theorem tellFrac_val (c : Ctx) (hr : RngOk c) (hn : 33 ≤ c.nbitsTotal) (hn2 : c.nbitsTotal < 536870912) :
    tellFrac c = c.nbitsTotal * 8 - fbits c.rng ∧ fbits c.rng ≤ c.nbitsTotal * 8 := by
  obtain ⟨f1, f2⟩ := fbits_range hr.1 hr.2
  rw [tellFrac_eq, u32_of_lt (by omega), sub32_of_le (by omega) (by omega)]
  exact ⟨rfl, by omega⟩

/-- `8*tell - 7 ≤ tell_frac ≤ 8*tell`, i.e. `tell = ⌈tell_frac / 8⌉`. -/
theorem tellFrac_bounds (c : Ctx) (hr : RngOk c) (hn : 33 ≤ c.nbitsTotal) (hn2 : c.nbitsTotal < 536870912) :
    8 * tell c - 7 ≤ (tellFrac c : Int) ∧ (tellFrac c : Int) ≤ 8 * tell c := by
  obtain ⟨e, le⟩ := tellFrac_val c hr hn hn2
  obtain ⟨b1, b2⟩ := fbits_bounds (rng := c.rng) (by have := hr.1; omega)
  have := ilog_range hr.1 hr.2
  unfold tell
  rw [e]
  omega

theorem tell_mono_of_adv {c c' : Ctx} (hr : RngOk c) (hr' : RngOk c')
    (h : Adv c.rng c.nbitsTotal c'.rng c'.nbitsTotal) : tell c ≤ tell c' := by
  have i1 := ilog_range hr.1 hr.2
  have i2 := ilog_range hr'.1 hr'.2
  unfold tell
  rcases h with ⟨h1, h2⟩ | h
  · have := ilog_mono h2; omega
  · omega

theorem tellFrac_mono_of_adv {c c' : Ctx} (hr : RngOk c) (hr' : RngOk c') (hn : 33 ≤ c.nbitsTotal)
    (hn2 : c'.nbitsTotal < 536870912) (h : Adv c.rng c.nbitsTotal c'.rng c'.nbitsTotal) :
    tellFrac c ≤ tellFrac c' := by
  have hle : c.nbitsTotal ≤ c'.nbitsTotal := by rcases h with ⟨h1, _⟩ | h <;> omega
  obtain ⟨e1, l1⟩ := tellFrac_val c hr hn (by omega)
  obtain ⟨e2, l2⟩ := tellFrac_val c' hr' (by omega) hn2
  obtain ⟨f1, f2⟩ := fbits_range hr.1 hr.2
  obtain ⟨g1, g2⟩ := fbits_range hr'.1 hr'.2
  rw [e1, e2]
  rcases h with ⟨h1, h2⟩ | h
  · have := fbits_mono (a := c'.rng) (b := c.rng) (by have := hr'.1; omega) h2
    omega
  · omega

instance (c : Ctx) : Decidable (RngOk c) := by unfold RngOk; infer_instance

/-- One encoder operation: `rng` stays normalised and `(rng, nbits_total)` advances. -/
theorem encOp_stageA (c : Enc) (op : Op) (hr : RngOk c) (hl : op.Legal) :
    RngOk (encOp c op) ∧ Adv c.rng c.nbitsTotal (encOp c op).rng (encOp c op).nbitsTotal := by
  have h := encOp_rn c op hr hl
  have s := Op.rn_spec op hl c.nbitsTotal hr.1 hr.2
  rw [← h] at s
  exact ⟨⟨s.1, s.2.1⟩, s.2.2⟩

theorem encOp_tell_mono (c : Enc) (op : Op) (hr : RngOk c) (hl : op.Legal) (hn : 33 ≤ c.nbitsTotal)
    (hn2 : (encOp c op).nbitsTotal < 536870912) :
    tell c ≤ tell (encOp c op) ∧ tellFrac c ≤ tellFrac (encOp c op) := by
  obtain ⟨h1, h2⟩ := encOp_stageA c op hr hl
  exact ⟨tell_mono_of_adv hr h1 h2, tellFrac_mono_of_adv hr h1 hn hn2 h2⟩

theorem encInit_rngOk (buf : List Nat) (size : Nat) : RngOk (encInit buf size) := by
  unfold RngOk encInit; simp

theorem tell_eq_of_rn {c c' : Ctx} (h1 : c.rng = c'.rng) (h2 : c.nbitsTotal = c'.nbitsTotal) :
    tell c = tell c' ∧ tellFrac c = tellFrac c' := by
  unfold tell tellFrac; rw [h1, h2]; exact ⟨rfl, rfl⟩

/-- `ec_tell_frac` written with the reference (squaring) fractional bits. -/
theorem tellFrac_formula (c : Ctx) (hr : 32768 ≤ c.rng) :
    tellFrac c = sub32 (u32 (c.nbitsTotal * 8))
      (ilog c.rng * 8 + fracSquare (c.rng / 2 ^ (ilog c.rng - 16))) := by
  obtain ⟨a, b⟩ := top16_bounds hr
  rw [tellFrac_eq, fbits, fracTable_eq_fracSquare a b]

end Opus.RangeCoder
