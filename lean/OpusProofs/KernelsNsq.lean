import OpusModel.KernelsNsq
import OpusProofs.Kernels
import Mathlib.Tactic.Linarith
/-
  OpusProofs.KernelsNsq — silk_nsq_scale_states_sse4_1 = silk_nsq_scale_states, the VAD sub-frame energy,
  silk_sar_round_smulww and the one-lane helpers of NSQ_del_dec_avx2.c against the C macros they stand for: modular
  arithmetic with `omega` (exact products as atoms); the SSE4.1 block loop is the portable loop taken four iterations
  at a time.
-/
namespace Opus.Kernels

/-- Both lanes are the bits 16..47 of the 64-bit product pattern: pure modular arithmetic, no range needed. -/
theorem smulwwLaneSse_eq (v g : Int) (odd : Bool) : wrap32 (smulwwLaneSse v g odd) = smulww v g := by
  unfold smulwwLaneSse smulww
  generalize wrap32 v * wrap32 g = P
  cases odd
  · simp only [Bool.false_eq_true, if_false]; unfold wrap32; omega
  · simp only [if_true]; unfold wrap32; omega

theorem smulww_comm (a b : Int) : smulww a b = smulww b a := by
  unfold smulww; rw [Int.mul_comm]

theorem scalarLoop_eq (f : Int → Int) (c i : Nat) (l : List Int) :
    scalarLoop f c i l = l.mapIdx (fun j v => if i ≤ j ∧ j < i + c then f v else v) := by
  induction c generalizing i l with
  | zero =>
    apply List.ext_getElem?; intro j
    simp only [scalarLoop, List.getElem?_mapIdx]
    cases l[j]? <;> simp
  | succ c ih =>
    -- two `mapIdx` in a row are one: entry `j` is mapped iff `j = i` or `j` lies in the rest of the range
    show scalarLoop f c (i + 1) (setAt l i f) = _
    rw [ih, setAt, List.mapIdx_mapIdx]
    congr 1; funext j v
    dsimp only [Function.comp]
    split_ifs <;> first | rfl | omega

theorem scalarLoop_add (f : Int → Int) (a c i : Nat) (l : List Int) :
    scalarLoop f (a + c) i l = scalarLoop f c (i + a) (scalarLoop f a i l) := by
  induction a generalizing i l with
  | zero => rw [Nat.zero_add]; rfl
  | succ a ih =>
    have e : a + 1 + c = (a + c) + 1 := by omega
    rw [e]
    show scalarLoop f (a + c) (i + 1) (setAt l i f) = scalarLoop f c (i + (a + 1)) (scalarLoop f a (i + 1) (setAt l i f))
    rw [ih, Nat.add_assoc, Nat.add_comm 1 a]

/-- one SSE4.1 block is four iterations of the portable loop. -/
theorem sseBlock_eq (g : Int) (l : List Int) (i : Nat) : sseBlock g l i = scalarLoop (smulww g) 4 i l := by
  rw [scalarLoop_eq]
  unfold sseBlock
  congr 1; funext j v
  simp only [smulwwLaneSse_eq, smulww_comm _ g]
  split_ifs <;> first | rfl | omega

theorem sseBlocks_eq (g : Int) (b i : Nat) (l : List Int) :
    sseBlocks g b i l = scalarLoop (smulww g) (4 * b) i l := by
  induction b generalizing i l with
  | zero => rfl
  | succ b ih =>
    have e : 4 * (b + 1) = 4 + 4 * b := by omega
    rw [e, scalarLoop_add, ← sseBlock_eq]
    exact ih (i + 4) _

/-- blocks of four + scalar tail = the portable loop, for every range (also empty and shorter than four). -/
theorem vecSmulwwSse_eq : vecSmulwwSse = vecSmulwwC := by
  funext g l lo hi
  unfold vecSmulwwSse vecSmulwwC
  simp only [sseBlocks_eq]
  rw [← scalarLoop_add]
  congr 1
  have := Nat.mul_div_le (hi - lo) 4
  omega

theorem nsqScaleStatesSse_eq (inp : NsqScIn) (st : NsqSc) : nsqScaleStatesSse inp st = nsqScaleStatesC inp st := by
  unfold nsqScaleStatesSse nsqScaleStatesC
  rw [vecSmulwwSse_eq]

/-- the square one sample contributes. -/
def vadSq (v : Int) : Int := sext16 (sext16 v / 8) * sext16 (sext16 v / 8)

/-- `Σ_{j<c} vadSq (x (i+j))`, the sum as the statement of `OpusProps.C15.vad_energy_sse_eq_c` writes it; the proofs work with
    `sumRange` (`sqSum_eq`). -/
def sqSum (x : Nat → Int) (i : Nat) : Nat → Int
  | 0 => 0
  | c + 1 => vadSq (x i) + sqSum x (i + 1) c

theorem wrap32_idem (a : Int) : wrap32 (wrap32 a) = wrap32 a := by unfold wrap32; omega
theorem wrap32_add_left (a b : Int) : wrap32 (wrap32 a + b) = wrap32 (a + b) := by unfold wrap32; omega

theorem wrap32_add_right (a b c : Int) (h : wrap32 a = wrap32 b) : wrap32 (a + c) = wrap32 (b + c) := by
  unfold wrap32 at *; omega

theorem sqSum_eq (x : Nat → Int) (i c : Nat) : sqSum x i c = sumRange (fun j => vadSq (x (i + j))) c := by
  induction c generalizing i with
  | zero => rfl
  | succ c ih =>
    rw [sqSum, ih, Nat.add_comm c 1, sumRange_add]
    congr 1
    · show _ = 0 + _; rw [zero_add]; rfl
    · exact sumRange_congr c fun k _ => by rw [Nat.add_assoc]

theorem vadLoop_sum (x : Nat → Int) (c i : Nat) (acc : Int) :
    wrap32 (vadLoop x c i acc) = wrap32 (acc + sqSum x i c) := by
  rw [sqSum_eq]
  simpa only [Nat.one_mul, id_eq] using
    loop_sum_mod wrap32 wrap32_add_right (vadLoop x) 1 id (fun i => vadSq (x i)) (fun _ _ => rfl) (fun _ _ _ => rfl)
      (fun i acc => wrap32_idem _) c i acc

/-- after at least one iteration the accumulator is a 32-bit value. -/
theorem vadLoop_wrapped (x : Nat → Int) (c i : Nat) (acc : Int) :
    wrap32 (vadLoop x (c + 1) i acc) = vadLoop x (c + 1) i acc := by
  induction c generalizing i acc with
  | zero => exact wrap32_idem _
  | succ c ih => exact ih (i + 1) (vadStep acc (x i))

theorem sext16_small (t : Int) (h : -4096 ≤ t ∧ t ≤ 4095) : sext16 t = t := by unfold sext16; omega
theorem sext16_div8 (v : Int) : -4096 ≤ sext16 v / 8 ∧ sext16 v / 8 ≤ 4095 := by unfold sext16; omega

theorem sq_div8_bound (v : Int) :
    0 ≤ sext16 v / 8 * (sext16 v / 8) ∧ sext16 v / 8 * (sext16 v / 8) ≤ 16777216 := by
  have h := sext16_div8 v
  constructor <;> nlinarith [h.1, h.2]

/-- one madd lane = the two squares (no wrap can occur: both are at most 2^24). -/
theorem maddSq_eq (x : Nat → Int) (k : Nat) : maddSq x k = vadSq (x (2 * k)) + vadSq (x (2 * k + 1)) := by
  unfold maddSq vadSq
  simp only []
  rw [sext16_small _ (sext16_div8 _), sext16_small _ (sext16_div8 _)]
  have a1 := sq_div8_bound (x (2 * k))
  have a2 := sq_div8_bound (x (2 * k + 1))
  generalize sext16 (x (2 * k)) / 8 * (sext16 (x (2 * k)) / 8) = p at a1 ⊢
  generalize sext16 (x (2 * k + 1)) / 8 * (sext16 (x (2 * k + 1)) / 8) = q at a2 ⊢
  unfold wrap32; omega

/-- the four accumulator lanes together hold the sum of all squares seen so far, modulo 2^32. -/
theorem vadAccLoop_eq (x : Nat → Int) (b i : Nat) (acc : Nat → Int) :
    wrap32 (vadAccLoop x b i acc 0 + vadAccLoop x b i acc 1 + vadAccLoop x b i acc 2 + vadAccLoop x b i acc 3) =
      wrap32 (acc 0 + acc 1 + acc 2 + acc 3 + sqSum x i (8 * b)) := by
  rw [sqSum_eq, sumRange_mul]
  refine (loop_sum_mod wrap32 wrap32_add_right (vadAccLoop x) 8 (fun a => a 0 + a 1 + a 2 + a 3)
    (fun i => sumRange (fun l => vadSq (x (i + l))) 8) (fun _ _ => rfl) (fun _ _ _ => rfl) (fun i acc => ?_) b i acc).trans
    (congrArg _ (congrArg _ (sumRange_congr b fun k _ => sumRange_congr 8 fun l _ => by rw [Nat.add_assoc])))
  simp only [vadAccLoop, maddSq_eq, sumRange, Nat.mul_zero, Nat.add_zero, Nat.mul_one, Nat.reduceMul, Nat.reduceAdd,
    Int.zero_add]
  generalize vadSq (x i) = q0
  generalize vadSq (x (i + 1)) = q1
  generalize vadSq (x (i + 2)) = q2
  generalize vadSq (x (i + 3)) = q3
  generalize vadSq (x (i + 4)) = q4
  generalize vadSq (x (i + 5)) = q5
  generalize vadSq (x (i + 6)) = q6
  generalize vadSq (x (i + 7)) = q7
  unfold wrap32; omega

theorem vadEnergyC_eq (x : Nat → Int) (n : Nat) : vadEnergyC x n = wrap32 (sqSum x 0 n) := by
  unfold vadEnergyC
  cases n with
  | zero => rfl
  | succ n => rw [← vadLoop_wrapped, vadLoop_sum, Int.zero_add]

theorem vadEnergySse_eq (x : Nat → Int) (n : Nat) : vadEnergySse x n = vadEnergyC x n := by
  rw [vadEnergyC_eq]
  unfold vadEnergySse
  simp only []
  have hacc := vadAccLoop_eq x (n / 8) 0 (fun _ => 0)
  simp only [Int.add_zero, Int.zero_add] at hacc
  generalize vadAccLoop x (n / 8) 0 (fun _ => 0) = acc at hacc ⊢
  have hS : sqSum x 0 n = sqSum x 0 (8 * (n / 8)) + sqSum x (8 * (n / 8)) (n - 8 * (n / 8)) := by
    simp only [sqSum_eq, Nat.zero_add]; exact sumRange_blocks _ n 8
  have hsum0 : wrap32 (0 + wrap32 (wrap32 (acc 0 + acc (0 + 2)) + wrap32 (acc 1 + acc (1 + 2)))) =
      wrap32 (sqSum x 0 (8 * (n / 8))) := by
    rw [← hacc]; simp only [Nat.zero_add, Nat.reduceAdd]; unfold wrap32; omega
  rw [hS]
  cases hc : n - 8 * (n / 8) with
  | zero => simp only [vadLoop, sqSum, Int.add_zero]; rw [hsum0]
  | succ c => rw [← vadLoop_wrapped, vadLoop_sum, wrap32_add_left]; exact wrap32_add_right _ _ _ hsum0

/-- the 64-bit form agrees with the C expression exactly as long as `(a*b) >> 16` fits 32 bits (shown for the two
    shift counts the kernel uses, 8 and 14). -/
theorem sarRound64_eq_c_of_fits (a b : Int)
    (hfit : -2147483648 ≤ wrap32 a * wrap32 b / 65536 ∧ wrap32 a * wrap32 b / 65536 < 2147483648) :
    sarRoundSmulww64 a b 8 = sarRoundSmulwwC a b 8 ∧ sarRoundSmulww64 a b 14 = sarRoundSmulwwC a b 14 := by
  unfold sarRoundSmulww64 sarRoundSmulwwC rshiftRound smulww
  generalize wrap32 a * wrap32 b = P at hfit ⊢
  have n8 : ((8 : Nat) = 1) = False := by decide
  have n14 : ((14 : Nat) = 1) = False := by decide
  constructor
  · simp only [n8, if_false]; unfold wrap32; norm_num; omega
  · simp only [n14, if_false]; unfold wrap32; norm_num; omega

abbrev I32 (a : Int) : Prop := -2147483648 ≤ a ∧ a < 2147483648

/- The sign tests of the lane code (`decide (a < 0) != decide (r < 0)` for the sign bit of `a ^ r`) become propositions;
   the rest is linear arithmetic over the `if`s. -/
theorem addSatLane_eq (a b : Int) (ha : I32 a) (hb : I32 b) : addSatLane a b = addSat32C a b := by
  unfold addSatLane addSat32C wrap32 I32 at *
  simp only [bne_iff_ne, ne_eq, decide_eq_decide, Bool.and_eq_true]
  omega

theorem subSatLane_eq (a b : Int) (ha : I32 a) (hb : I32 b) : subSatLane a b = subSat32C a b := by
  unfold subSatLane subSat32C wrap32 I32 at *
  simp only [bne_iff_ne, ne_eq, decide_eq_decide, Bool.and_eq_true, beq_iff_eq]
  omega

/-- silk_ADD_SAT32 is the mathematical clamp of `a + b` to 32 bits. -/
theorem addSat32C_clamp (a b : Int) (ha : I32 a) (hb : I32 b) :
    addSat32C a b = max (-2147483648) (min 2147483647 (a + b)) := by
  unfold addSat32C wrap32 I32 at *
  omega

/-- both clamp `num` to the interval between the two limits, whichever of them is the larger. -/
theorem limitLane_eq (num l1 l2 : Int) : limitLane num l1 l2 = limit num l1 l2 := by
  unfold limitLane limit
  dsimp only
  omega

theorem smulwwLaneAvx2_eq (a b : Int) : wrap32 (smulwwLaneAvx2 a b) = smulww a b := by
  have := smulwwLaneSse_eq a b true
  simpa [smulwwLaneSse, smulwwLaneAvx2] using this

theorem smulwbLaneAvx2_eq (a b : Int) : wrap32 (smulwbLaneAvx2 a b) = smulwb a b := by
  have e : wrap32 (b * 65536) = sext16 b * 65536 := by unfold wrap32 sext16; omega
  unfold smulwbLaneAvx2 smulwb
  rw [e, ← Int.mul_assoc]
  generalize wrap32 a * sext16 b = P
  show wrap32 (P * 65536 % 18446744073709551616 / 4294967296) = wrap32 (P / 65536)
  unfold wrap32; omega

/-- the rounding shift is silk_RSHIFT_ROUND for every 32-bit value and every shift count 2..30: after the first shift the
    value is below 2^30 in magnitude, so the `+1` cannot wrap. -/
theorem sraiRoundLane_eq (a : Int) (ha : I32 a) (bits : Nat) (hb : 2 ≤ bits) :
    sraiRoundLane a bits = rshiftRound a bits := by
  unfold sraiRoundLane rshiftRound
  have h1 : ¬ (bits = 1) := by omega
  simp only [h1, if_false]
  obtain ⟨k, rfl⟩ : ∃ k, bits = k + 2 := ⟨bits - 2, by omega⟩
  have e : k + 2 - 1 = k + 1 := by omega
  rw [e]
  have hm : (2 : Int) ≤ 2 ^ (k + 1) := by
    have h0 : (0 : Int) < 2 ^ k := by positivity
    have hpow : (2 : Int) ^ (k + 1) = 2 ^ k * 2 := pow_succ 2 k
    omega
  have hmpos : (0 : Int) < 2 ^ (k + 1) := by omega
  have l1 := Int.ediv_mul_le a (ne_of_gt hmpos)
  have l2 := Int.lt_ediv_add_one_mul_self a hmpos
  unfold I32 at ha
  generalize a / 2 ^ (k + 1) = q at l1 l2
  generalize (2 : Int) ^ (k + 1) = m at hm hmpos l1 l2
  have q1 : q < 1073741824 := by nlinarith
  have q2 : -1073741825 < q := by nlinarith
  unfold wrap32; omega

/-- Why silk_mm_srai_round_epi32 (NSQ_del_dec_avx2.c:125-130) shifts first: `sraiRoundLaneOld`, the rounding
    `(a + 2^(bits−1)) >> bits` with a wrapping add, is silk_RSHIFT_ROUND only for `a < 2^31 − 2^(bits−1)`, where the add does
    not wrap (shift counts 4 and 10); the value a saturating subtraction delivers just before lies outside. -/
theorem sraiRoundLaneOld_eq (a : Int) (ha : I32 a) :
    (a < 2147483648 - 8 → sraiRoundLaneOld a 4 = rshiftRound a 4) ∧
    (a < 2147483648 - 512 → sraiRoundLaneOld a 10 = rshiftRound a 10) := by
  unfold sraiRoundLaneOld rshiftRound wrap32 I32 at *
  have n4 : ((4 : Nat) = 1) = False := by decide
  have n10 : ((10 : Nat) = 1) = False := by decide
  constructor
  · intro h; simp only [n4, if_false]; norm_num; omega
  · intro h; simp only [n10, if_false]; norm_num; omega

theorem randLane_eq (seed : Int) : randLane seed = randC seed := by
  unfold randLane randC wrap32
  generalize seed * 196314165 = P
  omega

end Opus.Kernels
