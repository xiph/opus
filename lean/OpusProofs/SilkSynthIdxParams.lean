import OpusModel.SilkSynthIdxParams
import OpusProofs.SilkSynthIdxCore
import OpusProofs.SilkSymsIndices
/-
  OpusProofs.SilkSynthIdxParams — silk_decode_parameters reads its side-information arrays, the LTP
  codebooks and the LTP scale table in bounds for every index set the SILK symbol decoder can
  produce (C03 `IndicesOk`), and fills the control arrays in bounds.
-/
namespace Opus.SilkSynthIdx
open Opus Opus.Gen

/-- The LTP tables extracted from tables_LTP.c are consistent: the pointer table points at the three codebooks in order, each
    codebook has `silk_LTP_vq_sizes[k]` rows of `LTP_ORDER` entries, and those sizes are `8 << k` — the number
    of symbols of the LTP-index alphabets of the bit-stream layer (C03). -/
theorem ltpTables_ok : SilkSynth.ltpVqPtrsOk = 1 ∧
    SilkSynth.szLtpVq0 = SilkSynth.ltpVqSize0 * SilkSynth.ltpOrder ∧
    SilkSynth.szLtpVq1 = SilkSynth.ltpVqSize1 * SilkSynth.ltpOrder ∧
    SilkSynth.szLtpVq2 = SilkSynth.ltpVqSize2 * SilkSynth.ltpOrder ∧
    SilkSynth.ltpVqSize0 = 8 ∧ SilkSynth.ltpVqSize1 = 16 ∧ SilkSynth.ltpVqSize2 = 32 := by decide

/-- What the symbol decoder guarantees about the indices silk_decode_parameters uses as subscripts: the hypothesis of the index
    model.  (`Opus.SilkCoreProofs.ParamsOk`, of the value model, is the post-condition of the same routine.) -/
structure ParamsInOk (x : ParamsIn) : Prop where
  fs : x.fsKHz = 8 ∨ x.fsKHz = 12 ∨ x.fsKHz = 16
  nb : x.nbSubfr = 2 ∨ x.nbSubfr = 4
  per : x.signalType = 2 → 0 ≤ x.perIndex ∧ x.perIndex ≤ 2
  ltp : x.signalType = 2 → ∀ k, k < x.nbSubfr → 0 ≤ x.ltpIndex.getD k 0 ∧ x.ltpIndex.getD k 0 < 8 * 2 ^ x.perIndex.toNat
  scale : x.signalType = 2 → 0 ≤ x.ltpScaleIndex ∧ x.ltpScaleIndex ≤ 2

theorem ltpRows_ok (c : Cfg) (cbk : Arr) (rows : Int) (hsz : cbk.size c = rows * 5) (ltpIndex : List Int) (nb : Nat)
    (hnb : nb ≤ 4) (hl : ∀ k, k < nb → 0 ≤ ltpIndex.getD k 0 ∧ ltpIndex.getD k 0 < rows) :
    ∀ (n k : Nat), k + n = nb → AllIn c (ltpRows cbk ltpIndex n k) := by
  intro n
  induction n with
  | zero => intro k _; exact allIn_nil.2 trivial
  | succ n ih =>
    intro k hk
    have hlk := hl k (by omega)
    unfold ltpRows
    dsimp only [SilkSynth.ltpOrder]
    simp only [accs, hsz, ih (k + 1) (by omega)]
    omega

theorem paramsAccesses_ok (x : ParamsIn) (h : ParamsInOk x) : AllIn x.cfg (paramsAccesses x) := by
  have hc : CfgNum x.cfg := cfgOf_num x.fsKHz x.nbSubfr h.fs h.nb
  obtain ⟨h8, h16, -, -, hO, hF⟩ := hc.lin
  have hcnb : x.cfg.nbSubfr = x.nbSubfr := rfl
  -- the codebook selected by `PERIndex` has `8 << PERIndex` rows, the bound C03 gives for `LTPIndex[k]`
  have hrows : x.signalType = 2 → AllIn x.cfg (match ltpVqOf x.perIndex with
      | some cbk => ltpRows cbk x.ltpIndex x.cfg.nbSubfr 0
      | none => []) := by
    intro hv
    have hper := h.per hv
    have hltp := h.ltp hv
    have hp3 : x.perIndex = 0 ∨ x.perIndex = 1 ∨ x.perIndex = 2 := by omega
    rcases hp3 with hp | hp | hp <;> rw [hp] at hltp ⊢ <;>
      exact ltpRows_ok x.cfg _ _ rfl x.ltpIndex _ (by omega) hltp _ 0 (by omega)
  unfold paramsAccesses
  rw [show SilkSynth.typeVoiced = 2 from rfl]
  dsimp only [SilkSynth.szPredCoefCols, SilkSynth.ltpOrder]
  by_cases hv : x.signalType = 2
  · have hper := h.per hv
    have hscale := h.scale hv
    simp only [accs, if_pos hv]
    refine ⟨?_, ⟨?_, hrows hv⟩, ?_⟩ <;> omega
  · simp only [accs, if_neg hv]
    omega

/-- The inputs of silk_decode_parameters for an index set of the C03 symbol layer. -/
def paramsInOf (rate : Opus.SilkSyms.Rate) (nb : Nat) (ix : Opus.SilkSyms.Indices) (interp : Int) (ffar : Bool)
    (lossCnt : Int) : ParamsIn :=
  { fsKHz := rate.kHz, nbSubfr := nb, signalType := ix.signalType, perIndex := ix.perIndex,
    ltpIndex := ix.ltp.map (fun (l : Nat) => (l : Int)), ltpScaleIndex := ix.ltpScale,
    interpCoefQ2 := interp, firstFrameAfterReset := ffar, lossCnt := lossCnt }

/-- From C03: whatever `silk_decode_indices` returns satisfies `ParamsInOk`. -/
theorem paramsOk_of_indicesOk {rate : Opus.SilkSyms.Rate} {nb cc ps : Nat} {pl : Int} {ix : Opus.SilkSyms.Indices}
    (h : Opus.SilkSymsProofs.IndicesOk rate nb cc ps pl ix) (hnb : nb = 2 ∨ nb = 4) (interp : Int) (ffar : Bool)
    (lossCnt : Int) : ParamsInOk (paramsInOf rate nb ix interp ffar lossCnt) := by
  unfold paramsInOf
  exact
  { fs := by cases rate <;> simp [Opus.SilkSyms.Rate.kHz],
    nb := hnb,
    per := fun _ => ⟨by simp, by have := h.per; simp; omega⟩,
    ltp := fun hv k hk => by
      have hv' : ix.signalType = 2 := Int.ofNat.inj hv
      have hlen := h.ltpLen hv'
      have hk' : k < ix.ltp.length := by rw [hlen]; exact hk
      have hmem : ix.ltp[k] ∈ ix.ltp := List.getElem_mem hk'
      have hb := h.ltp _ hmem
      simp only [List.getD_eq_getElem?_getD, List.getElem?_map, List.getElem?_eq_getElem hk', Option.map_some,
        Option.getD_some, Int.toNat_natCast]
      constructor
      · exact Int.natCast_nonneg _
      · exact_mod_cast hb,
    scale := fun _ => ⟨by simp, by have := h.ltpScale; simp; omega⟩ }

end Opus.SilkSynthIdx
