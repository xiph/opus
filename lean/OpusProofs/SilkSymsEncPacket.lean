import OpusProofs.SilkSymsEncHeader
/-
  C08 × C03 composition: a whole SILK payload.  The LBRR data the decoder reads and drops, the
  per-call stereo header and channel loop with conditional coding across frames, and `silkCalls`.
  `Track` is the invariant between the encoder's conditional-coding memory and the decoder state.
-/
namespace Opus.SilkSymsEncProofs
open Opus Opus.RangeCoder Opus.SilkSyms Opus.SilkSymsEnc Opus.SilkSymsFrozen.Icdf
open Opus.SilkSymsProofs (updCh ch_zero ch_one ch_setCh ch_setCh_ne setCh_pd chanPos chanPos_zero chanPos_all chanPos_self chanPos_done
  chanPos_ne skipOne_pos skipOne_neg decodeBody_eq decodeChans_two decodeChans_one decodeStereoHead_one silkCalls_succ beginCall_true
  beginCall_false decodeHeader_eq)

theorem prev_setPrev (s : EncSt) (n : Nat) (p : EcPrev) : (s.setPrev n p).prev n = p := by
  unfold EncSt.setPrev EncSt.prev
  by_cases h : n = 0 <;> simp only [h, if_true, if_false]

theorem prev_setPrev_ne (s : EncSt) {m n : Nat} (p : EcPrev) (hm : m < 2) (hn : n < 2) (h : m ≠ n) :
    (s.setPrev n p).prev m = s.prev m := by
  unfold EncSt.setPrev EncSt.prev
  by_cases h0 : n = 0
  · rw [if_pos h0, if_neg (by omega), if_neg (by omega)]
  · rw [if_neg h0, if_pos (by omega), if_pos (by omega)]

/-- The decoder state `st` agrees with the encoder (inputs `pk`, conditional-coding memory `s`) on everything
    that steers symbol reads, in round `i` of the frames of the payload with channels `< a` done (`chanPos`). -/
structure Track (cfg : Cfg) (pk : PacketIn) (s : EncSt) (i a : Nat) (st : SilkSt) : Prop where
  vad : ∀ n, n < cfg.nCh → (st.ch n).vad = (pk.ch n).vad
  flags : ∀ n, n < cfg.nCh → (st.ch n).lbrrFlags = lbrr3 cfg.nfpp (pk.ch n).lbrrFlags
  nfd : ∀ n, n < cfg.nCh → (st.ch n).nFramesDecoded = chanPos i a n
  prev : ∀ n, n < cfg.nCh → (st.ch n).ecPrevSignalType = (s.prev n).sig ∧ (st.ch n).ecPrevLagIndex = (s.prev n).lag

theorem lbrr3_getD {nfpp : Nat} (fl : List Nat) {i : Nat} (hn : nfpp ≤ 3) (hi : i < nfpp) :
    (lbrr3 nfpp fl).getD i 0 = fl.getD i 0 := by
  unfold lbrr3
  rw [List.getD_eq_getElem?_getD, List.getElem?_map, List.getElem?_range (by omega), Option.map_some, Option.getD_some,
    if_pos hi]

theorem Track.set {cfg : Cfg} {pk : PacketIn} {s : EncSt} {i a : Nat} {st : SilkSt} (t : Track cfg pk s i a st)
    (hN : cfg.nCh ≤ 2) {n : Nat} (hn : n < cfg.nCh) {x : Chan} {s' : EncSt} (i' a' : Nat)
    (hx : x.vad = (st.ch n).vad ∧ x.lbrrFlags = (st.ch n).lbrrFlags ∧ x.nFramesDecoded = chanPos i' a' n)
    (hp : x.ecPrevSignalType = (s'.prev n).sig ∧ x.ecPrevLagIndex = (s'.prev n).lag)
    (hs : ∀ m, m < 2 → m ≠ n → s'.prev m = s.prev m) (hpos : ∀ m, m ≠ n → chanPos i' a' m = chanPos i a m) :
    Track cfg pk s' i' a' (st.setCh n x) := by
  have key : ∀ m, m < 2 → m ≠ n → (st.setCh n x).ch m = st.ch m := fun m hm h => ch_setCh_ne st x hm (by omega) h
  refine ⟨fun m hm => ?_, fun m hm => ?_, fun m hm => ?_, fun m hm => ?_⟩ <;> by_cases h : m = n
  · subst h; rw [ch_setCh, hx.1]; exact t.vad m hm
  · rw [key m (by omega) h]; exact t.vad m hm
  · subst h; rw [ch_setCh, hx.2.1]; exact t.flags m hm
  · rw [key m (by omega) h]; exact t.flags m hm
  · subst h; rw [ch_setCh]; exact hx.2.2
  · rw [key m (by omega) h, hpos m h]; exact t.nfd m hm
  · subst h; rw [ch_setCh]; exact hp
  · rw [key m (by omega) h, hs m (by omega) h]; exact t.prev m hm

theorem Track.frame {cfg : Cfg} {pk : PacketIn} {s : EncSt} {i a : Nat} {st : SilkSt} (t : Track cfg pk s i a st)
    (hN : cfg.nCh ≤ 2) {n : Nat} (hn : n < cfg.nCh) (ix : Indices) (i' a' k : Nat) (hk : k = chanPos i' a' n)
    (hpos : ∀ m, m ≠ n → chanPos i' a' m = chanPos i a m) :
    Track cfg pk (s.setPrev n ((s.prev n).upd ix)) i' a' (st.setCh n { updCh (st.ch n) ix with nFramesDecoded := k }) := by
  refine t.set hN hn i' a' ⟨rfl, rfl, hk⟩ ?_ (fun m hm h => prev_setPrev_ne s _ hm (by omega) h) hpos
  rw [prev_setPrev]
  refine ⟨rfl, ?_⟩
  show (if _ then _ else _) = (if _ then _ else _)
  rw [(t.prev n hn).2]

/-! ### The LBRR data (read and dropped by the decoder) -/

theorem chanOk_of {cfg : Cfg} {pk : PacketIn} (hok : PacketOk cfg pk) {n : Nat} (hn : n < cfg.nCh) :
    ChanOk cfg (pk.ch n) := by
  by_cases h0 : n = 0
  · subst h0; exact hok.ch0
  · have h2 : cfg.nCh = 2 := by have := hok.nCh; omega
    simp only [PacketIn.ch, h0, if_false]; exact hok.ch1 h2

/-- A piece `f` of the LBRR-skipping code reads what the piece `e` of the payload writer wrote, reports `v`, and keeps `Track`. -/
def Skips (cfg : Cfg) (pk : PacketIn) (f : SkipSt → SkipSt) (e : EncSt → List Op × EncSt) (v : EncSt → List Ev) : Prop :=
  ∀ (s : EncSt) (S : SkipSt), Track cfg pk s 0 0 S.st → Reads S.c (e s).1 →
    (f S).c = after S.c (e s).1 ∧ (f S).evs = S.evs ++ v s ∧ Track cfg pk (e s).2 0 0 (f S).st

theorem Skips.nil {cfg : Cfg} {pk : PacketIn} : Skips cfg pk (fun S => S) (fun s => ([], s)) (fun _ => []) :=
  fun _ _ t _ => ⟨rfl, (List.append_nil _).symm, t⟩

/-- One piece after another: the shape of the channel loop and of the frame loop. -/
theorem Skips.seq {cfg : Cfg} {pk : PacketIn} {f1 f2 : SkipSt → SkipSt} {e1 e2 : EncSt → List Op × EncSt}
    {v1 v2 : EncSt → List Ev} (h1 : Skips cfg pk f1 e1 v1) (h2 : Skips cfg pk f2 e2 v2) :
    Skips cfg pk (fun S => f2 (f1 S)) (fun s => ((e1 s).1 ++ (e2 (e1 s).2).1, (e2 (e1 s).2).2))
      (fun s => v1 s ++ v2 (e1 s).2) := by
  intro s S t h
  dsimp only at h ⊢
  rw [reads_append] at h
  obtain ⟨a1, a2, a3⟩ := h1 s S t h.1
  rw [← a1] at h
  obtain ⟨b1, b2, b3⟩ := h2 _ _ a3 h.2
  exact ⟨by rw [b1, a1, after_append], by rw [b2, a2, List.append_assoc], b3⟩

/-- The stereo part in front of an LBRR frame: there is one in front of the mid channel of a stereo payload. -/
theorem skipStereo_spec {cfg : Cfg} {pk : PacketIn} (hok : PacketOk cfg pk) {i n : Nat} (hi : i < cfg.nfpp) {s : EncSt}
    {S : SkipSt} (t : Track cfg pk s 0 0 S.st) (hf : (pk.ch n).lbrrFlags.getD i 0 ≠ 0)
    (h : Reads S.c (if cfg.nCh = 2 ∧ n = 0 then predOps (pk.lbrrPredIx.getD i []) ++
      (if pk.ch1.lbrrFlags.getD i 0 = 0 then encMidOnly (pk.lbrrMidOnly.getD i 0) else []) else [])) :
    ∃ dom, skipStereo cfg i n S =
      { S with dom := dom,
               c := after S.c (if cfg.nCh = 2 ∧ n = 0 then predOps (pk.lbrrPredIx.getD i []) ++
                 (if pk.ch1.lbrrFlags.getD i 0 = 0 then encMidOnly (pk.lbrrMidOnly.getD i 0) else []) else []),
               evs := S.evs ++ (if cfg.nCh = 2 ∧ n = 0 then predEv (pk.lbrrPredIx.getD i []) ::
                 (if pk.ch1.lbrrFlags.getD i 0 = 0 then [.midOnly (pk.lbrrMidOnly.getD i 0)] else []) else []) } := by
  rw [skipStereo, skipStereoG]
  by_cases hs : cfg.nCh = 2 ∧ n = 0
  · obtain ⟨h2, rfl⟩ := hs
    have hc : cfg.nCh = 2 ∧ (0 : Nat) = 0 := ⟨h2, rfl⟩
    rw [if_pos hc] at h ⊢
    rw [if_pos hc, if_pos hc]
    have hp := (hok.lbrrPred h2 i hi hf).1
    rw [reads_append] at h
    rw [after_append]
    have hfl : S.st.ch1.lbrrFlags.getD i 0 = pk.ch1.lbrrFlags.getD i 0 := by
      rw [show S.st.ch1.lbrrFlags = _ from t.flags 1 (by omega), lbrr3_getD _ hok.nfpp.2 hi]; rfl
    rw [hfl, stereoDecodePred_spec hp h.1]
    dsimp only
    by_cases hz : pk.ch1.lbrrFlags.getD i 0 = 0
    · rw [if_pos hz] at h
      rw [if_pos hz, if_pos hz, if_pos hz, midOnly_spec h.2]
      exact ⟨_, rfl⟩
    · rw [if_neg hz, if_neg hz, if_neg hz, after_nil]
      exact ⟨S.dom, rfl⟩
  · rw [if_neg hs, if_neg hs, if_neg hs, after_nil, List.append_nil]
    exact ⟨S.dom, rfl⟩

theorem lbrrCC_eq {cfg : Cfg} {pk : PacketIn} {s : EncSt} {st : SilkSt} (hok : PacketOk cfg pk)
    (t : Track cfg pk s 0 0 st) {i n : Nat} (hi : i < cfg.nfpp) (hn : n < cfg.nCh) :
    (if i > 0 ∧ (st.ch n).lbrrFlags.getD (i - 1) 0 ≠ 0 then 2 else 0) = lbrrCondCoding (pk.ch n) i := by
  unfold lbrrCondCoding
  rw [t.flags n hn]
  by_cases h0 : i > 0
  · rw [lbrr3_getD _ hok.nfpp.2 (by omega)]
  · simp only [h0, false_and, if_false]

theorem skipOne_spec {cfg : Cfg} {pk : PacketIn} (hok : PacketOk cfg pk) {i n : Nat} (hi : i < cfg.nfpp)
    (hn : n < cfg.nCh) : Skips cfg pk (skipOne cfg i n) (lbrrOne cfg pk i n) (lbrrOneEvs cfg pk i n) := by
  intro s S t h
  have hco := chanOk_of hok hn
  have hfl : (S.st.ch n).lbrrFlags.getD i 0 = (pk.ch n).lbrrFlags.getD i 0 := by
    rw [t.flags n hn, lbrr3_getD _ hok.nfpp.2 hi]
  have hN : cfg.nCh ≤ 2 := by have := hok.nCh; omega
  unfold lbrrOne lbrrOneEvs at *
  by_cases hf : (pk.ch n).lbrrFlags.getD i 0 ≠ 0
  · simp only [if_pos hf] at h ⊢
    rw [reads_append] at h
    obtain ⟨hix, hpu⟩ := hco.lbrr i hi hf
    obtain ⟨dom, hst⟩ := skipStereo_spec hok hi t hf h.1
    rw [skipOne_pos (by rw [hfl]; exact hf), hst, lbrrCC_eq hok t hi hn]
    dsimp only
    rw [decodeOne_spec (lbrrN := 1) hok.nb hix hpu (fun _ => rfl) (by simp) (t.prev n hn).1 (t.prev n hn).2 h.2]
    exact ⟨by rw [after_append], by dsimp only; rw [List.append_assoc],
      t.frame hN hn _ 0 0 _ (t.nfd n hn) (fun _ _ => rfl)⟩
  · simp only [if_neg hf] at h ⊢
    rw [skipOne_neg (by rw [hfl]; exact hf)]
    exact ⟨rfl, (List.append_nil _).symm, t⟩

theorem skipChans_spec {cfg : Cfg} {pk : PacketIn} (hok : PacketOk cfg pk) {i : Nat} (hi : i < cfg.nfpp) :
    ∀ (ns : List Nat), (∀ n ∈ ns, n < cfg.nCh) →
    Skips cfg pk (skipChans cfg i ns) (lbrrChans cfg pk i ns) (lbrrChansEvs cfg pk i ns)
  | [], _ => Skips.nil
  | n :: ns, hn =>
    (skipOne_spec hok hi (hn n (List.mem_cons_self ..))).seq
      (skipChans_spec hok hi ns (fun n' h' => hn n' (List.mem_cons_of_mem _ h')))

theorem skipFrames_spec {cfg : Cfg} {pk : PacketIn} (hok : PacketOk cfg pk) :
    ∀ (is : List Nat), (∀ i ∈ is, i < cfg.nfpp) →
    Skips cfg pk (skipFrames cfg is) (lbrrFrames cfg pk is) (lbrrFramesEvs cfg pk is)
  | [], _ => Skips.nil
  | i :: is, hi =>
    (skipChans_spec hok (hi i (List.mem_cons_self ..)) (List.range cfg.nCh) (fun n hn => List.mem_range.mp hn)).seq
      (skipFrames_spec hok is (fun i' h' => hi i' (List.mem_cons_of_mem _ h')))

/-- The decoder agrees with the encoder on the conditional-coding memory when the payload starts. -/
def PrevSync (pk : PacketIn) (st : SilkSt) : Prop :=
  st.ch0.ecPrevSignalType = pk.ch0.prev.sig ∧ st.ch0.ecPrevLagIndex = pk.ch0.prev.lag ∧
  st.ch1.ecPrevSignalType = pk.ch1.prev.sig ∧ st.ch1.ecPrevLagIndex = pk.ch1.prev.lag

theorem decodeHeader_spec {cfg : Cfg} {pk : PacketIn} (hok : PacketOk cfg pk) (st : SilkSt) {d : Dec}
    (hf0 : st.ch0.nFramesDecoded = 0) (hf1 : cfg.nCh = 2 → st.ch1.nFramesDecoded = 0) (hp : PrevSync pk st)
    (h : Reads d (flagOps (headerBits cfg pk) ++ headerOps cfg pk)) :
    (decodeHeader cfg st d).c = after d (flagOps (headerBits cfg pk) ++ headerOps cfg pk) ∧
    (decodeHeader cfg st d).evs = headerEvs cfg pk ++
      lbrrFramesEvs cfg pk (List.range cfg.nfpp) { p0 := pk.ch0.prev, p1 := pk.ch1.prev } ∧
    Track cfg pk (headerSt cfg pk) 0 0 (decodeHeader cfg st d).st := by
  have hops : flagOps (headerBits cfg pk) ++ headerOps cfg pk =
      headerFlagsOps cfg pk ++ (lbrrFrames cfg pk (List.range cfg.nfpp) { p0 := pk.ch0.prev, p1 := pk.ch1.prev }).1 := by
    unfold headerOps headerFlagsOps
    simp only [List.append_assoc]
  rw [hops] at h ⊢
  rw [reads_append] at h
  rw [after_append, decodeHeader_eq, if_pos hok.lost, decodeFlags_spec hok st h.1]
  have t0 : Track cfg pk { p0 := pk.ch0.prev, p1 := pk.ch1.prev } 0 0 (hdrSt cfg pk st) := by
    obtain ⟨q1, q2, q3, q4⟩ := hp
    have hch : ∀ n, n < cfg.nCh → (hdrSt cfg pk st).ch n = hdrCh cfg.nfpp (pk.ch n) (st.ch n) ∧ (st.ch n).nFramesDecoded = 0 := by
      intro n hn
      have : n = 0 ∨ (n = 1 ∧ cfg.nCh = 2) := by have := hok.nCh; omega
      rcases this with rfl | ⟨rfl, h2⟩
      · exact ⟨rfl, hf0⟩
      · exact ⟨show (if cfg.nCh = 2 then _ else _) = _ by rw [if_pos h2]; rfl, hf1 h2⟩
    refine ⟨fun n hn => by rw [(hch n hn).1]; rfl, fun n hn => by rw [(hch n hn).1]; rfl,
      fun n hn => by rw [(hch n hn).1, chanPos_zero]; exact (hch n hn).2, fun n hn => ?_⟩
    rw [(hch n hn).1]
    have : n = 0 ∨ n = 1 := by have := hok.nCh; omega
    rcases this with rfl | rfl
    · exact ⟨q1, q2⟩
    · exact ⟨q3, q4⟩
  exact skipFrames_spec hok (List.range cfg.nfpp) (fun i hi => List.mem_range.mp hi)
    { p0 := pk.ch0.prev, p1 := pk.ch1.prev }
    { st := hdrSt cfg pk st, dom := 0, c := after d (headerFlagsOps cfg pk), evs := headerEvs cfg pk } t0 h.2

theorem framesOk_of {cfg : Cfg} {pk : PacketIn} (hok : PacketOk cfg pk) {i n : Nat} (hi : i < cfg.nfpp) (hn : n < cfg.nCh)
    (hc : n = 0 ∨ pk.midOnly.getD i 0 = 0) :
    IxOk cfg.rate cfg.nbSubfr (decide ((pk.ch n).vad.getD i 0 ≠ 0)) (encCondCoding pk i n)
      ((pk.ch n).frames.getD i default).ix ∧
    PulsesOk (frameLength cfg.rate cfg.nbSubfr) ((pk.ch n).frames.getD i default).pulses := by
  by_cases h0 : n = 0
  · subst h0; exact hok.frames0 i hi
  · have h1 : n = 1 := by have := hok.nCh; omega
    subst h1
    exact hok.frames1 (by have := hok.nCh; omega) i hi (hc.resolve_left h0)

/-- `condCoding` of frame `i` of channel `n`, which sees channel 0's counter at `i + n`. -/
theorem condCoding_eq {cfg : Cfg} (hl : cfg.lostFlag = 0) (st : SilkSt) (pk : PacketIn) (i n : Nat)
    (hpd : n > 0 → i > 0 → st.prevDecodeOnlyMiddle = pk.midOnly.getD (i - 1) 0) :
    condCodingOf cfg st n (i + n) = encCondCoding pk i n := by
  unfold condCodingOf encCondCoding
  by_cases h0 : i = 0
  · rw [if_pos (by omega), if_pos h0]
  · rw [if_neg (by omega), if_neg (by rw [hl]; decide), if_neg h0]
    by_cases hn : n > 0
    · rw [hpd hn (by omega)]
    · rw [if_neg (fun q => hn q.1), if_neg (fun q => hn q.1)]

theorem decide_false_or (p : Prop) [Decidable p] : decide ((0 : Nat) ≠ 0 ∨ p) = decide p := by simp

theorem decodeStereoHead_spec {cfg : Cfg} {pk : PacketIn} (hok : PacketOk cfg pk) {i : Nat} (hi : i < cfg.nfpp)
    {s : EncSt} {st : SilkSt} (t : Track cfg pk s i 0 st) (h2 : cfg.nCh = 2) (dom : Nat) {c : Dec}
    (h : Reads c (predOps (pk.predIx.getD i []) ++
      (if pk.ch1.vad.getD i 0 = 0 then encMidOnly (pk.midOnly.getD i 0) else []))) :
    decodeStereoHead cfg st dom c =
      (pk.midOnly.getD i 0,
       after c (predOps (pk.predIx.getD i []) ++ (if pk.ch1.vad.getD i 0 = 0 then encMidOnly (pk.midOnly.getD i 0) else [])),
       predEv (pk.predIx.getD i []) :: (if pk.ch1.vad.getD i 0 = 0 then [.midOnly (pk.midOnly.getD i 0)] else [])) := by
  obtain ⟨hp, _, hm⟩ := hok.pred h2 i hi
  rw [reads_append] at h
  rw [after_append]
  have hhp : hasPred cfg st = true := by unfold hasPred; rw [hok.lost]; simp
  have hhm : hasMidOnly cfg st = decide (pk.ch1.vad.getD i 0 = 0) := by
    unfold hasMidOnly
    rw [hok.lost, show st.ch1.vad = _ from t.vad 1 (by omega), show st.ch0.nFramesDecoded = _ from t.nfd 0 (by omega),
      chanPos_zero]
    simp [PacketIn.ch]
  rw [decodeStereoHead, decodeStereoHeadG, if_pos ⟨h2, hhp⟩, hhm, stereoDecodePred_spec hp h.1]
  dsimp only
  by_cases hz : pk.ch1.vad.getD i 0 = 0
  · rw [if_pos hz] at h
    rw [if_pos (by simpa using hz), if_pos hz, if_pos hz, midOnly_spec h.2]
    rfl
  · rw [if_neg (by simpa using hz), if_neg hz, if_neg hz, after_nil, hm hz]
    rfl

/-- Channel `n` of call `i`, coded or not (`has_side` is `mid_only_flags[i] == 0`; the mid channel does not look at it). -/
theorem decodeChan_spec {cfg : Cfg} {pk : PacketIn} (hok : PacketOk cfg pk) {i n : Nat} (hi : i < cfg.nfpp)
    (hn : n < cfg.nCh) {s : EncSt} {st : SilkSt} {c : Dec} {hs : Bool}
    (hhs : n = 0 ∨ hs = decide (pk.midOnly.getD i 0 = 0)) (t : Track cfg pk s i n st)
    (hpd : n > 0 → i > 0 → st.prevDecodeOnlyMiddle = pk.midOnly.getD (i - 1) 0)
    (h : Reads c (frameChan cfg pk i n s).1) :
    ∃ st', decodeChan cfg hs n st c = (frameChanEvs cfg pk i n s, st', after c (frameChan cfg pk i n s).1) ∧
      Track cfg pk (frameChan cfg pk i n s).2 i (n + 1) st' ∧ st'.prevDecodeOnlyMiddle = st.prevDecodeOnlyMiddle := by
  have hN : cfg.nCh ≤ 2 := by have := hok.nCh; omega
  have hfd : (st.ch n).nFramesDecoded = i := by rw [t.nfd n hn, chanPos_self]
  have hrf : readsFrame cfg hs n (st.ch n) = decide (n = 0 ∨ pk.midOnly.getD i 0 = 0) := by
    unfold readsFrame
    rw [hok.lost]
    rcases hhs with rfl | rfl <;> simp
  have hpos : ∀ m, m ≠ n → chanPos i (n + 1) m = chanPos i n m := fun m h => chanPos_ne i h
  unfold frameChan frameChanEvs at *
  by_cases hc : n = 0 ∨ pk.midOnly.getD i 0 = 0
  · rw [if_pos hc] at h ⊢
    rw [if_pos hc]
    obtain ⟨hix, hpu⟩ := framesOk_of hok hi hn hc
    have hcc : condCodingOf cfg st n st.ch0.nFramesDecoded = encCondCoding pk i n := by
      have h0 : st.ch0.nFramesDecoded = i + n := by
        rw [show st.ch0.nFramesDecoded = _ from t.nfd 0 (by omega)]
        unfold chanPos
        split <;> omega
      rw [h0]
      exact condCoding_eq hok.lost st pk i n hpd
    refine ⟨_, ?_, t.frame hN hn _ i (n + 1) (i + 1) (chanPos_done i n).symm hpos, setCh_pd _ _ _⟩
    rw [decodeChan, hrf, decide_eq_true hc, if_pos rfl, hfd, hcc, hok.lost,
      decodeOne_spec (fi := i) (lbrrN := 0) (ch := st.ch n) hok.nb hix hpu (fun hh => absurd hh (by decide))
        (by rw [t.vad n hn, decide_false_or]) (t.prev n hn).1 (t.prev n hn).2 h]
    dsimp only
    rw [show (updCh (st.ch n) ((pk.ch n).frames.getD i default).ix).nFramesDecoded = i from hfd]
  · rw [if_neg hc, if_neg hc, decodeChan, hrf, decide_eq_false hc, hfd]
    exact ⟨_, rfl, t.set hN hn i (n + 1) ⟨rfl, rfl, (chanPos_done i n).symm⟩ (t.prev n hn) (fun _ _ _ => rfl) hpos,
      setCh_pd _ _ _⟩

theorem Track.next {cfg : Cfg} {pk : PacketIn} {s : EncSt} {i : Nat} {st : SilkSt} (t : Track cfg pk s i cfg.nCh st)
    (pd : Nat) : Track cfg pk s (i + 1) 0 { st with prevDecodeOnlyMiddle := pd } :=
  ⟨t.vad, t.flags, fun n hn => by rw [chanPos_zero, ← chanPos_all hn]; exact t.nfd n hn, t.prev⟩

theorem frameCall_two {cfg : Cfg} (h2 : cfg.nCh = 2) (pk : PacketIn) (i : Nat) (s : EncSt) :
    frameCall cfg pk i s =
      (predOps (pk.predIx.getD i []) ++ (if pk.ch1.vad.getD i 0 = 0 then encMidOnly (pk.midOnly.getD i 0) else []) ++
        (frameChan cfg pk i 0 s).1 ++ (frameChan cfg pk i 1 (frameChan cfg pk i 0 s).2).1,
       (frameChan cfg pk i 1 (frameChan cfg pk i 0 s).2).2) := by
  unfold frameCall; simp only [if_pos h2]

theorem frameCallEvs_two {cfg : Cfg} (h2 : cfg.nCh = 2) (pk : PacketIn) (i : Nat) (s : EncSt) :
    frameCallEvs cfg pk i s =
      (predEv (pk.predIx.getD i []) :: (if pk.ch1.vad.getD i 0 = 0 then [.midOnly (pk.midOnly.getD i 0)] else [])) ++
      frameChanEvs cfg pk i 0 s ++ frameChanEvs cfg pk i 1 (frameChan cfg pk i 0 s).2 := by
  unfold frameCallEvs; simp only [if_pos h2]

theorem frameCall_one {cfg : Cfg} (h2 : ¬ cfg.nCh = 2) (pk : PacketIn) (i : Nat) (s : EncSt) :
    frameCall cfg pk i s = frameChan cfg pk i 0 s := by
  unfold frameCall; simp only [if_neg h2, List.nil_append]

theorem frameCallEvs_one {cfg : Cfg} (h2 : ¬ cfg.nCh = 2) (pk : PacketIn) (i : Nat) (s : EncSt) :
    frameCallEvs cfg pk i s = frameChanEvs cfg pk i 0 s := by
  unfold frameCallEvs; simp only [if_neg h2, List.nil_append, List.append_nil]

theorem decodeBody_spec {cfg : Cfg} {pk : PacketIn} (hok : PacketOk cfg pk) {i : Nat} (hi : i < cfg.nfpp)
    {s : EncSt} (H : SkipSt) (t : Track cfg pk s i 0 H.st)
    (hpd : cfg.nCh = 2 → i > 0 → H.st.prevDecodeOnlyMiddle = pk.midOnly.getD (i - 1) 0)
    (h : Reads H.c (frameCall cfg pk i s).1) :
    ∃ st', decodeBody cfg H =
        (H.evs ++ frameCallEvs cfg pk i s ++
          [.ret (after H.c (frameCall cfg pk i s).1).rng (tell (after H.c (frameCall cfg pk i s).1))],
         st', after H.c (frameCall cfg pk i s).1) ∧
      Track cfg pk (frameCall cfg pk i s).2 (i + 1) 0 st' ∧
      (cfg.nCh = 2 → st'.prevDecodeOnlyMiddle = pk.midOnly.getD i 0) := by
  have h0 : 0 < cfg.nCh := by have := hok.nCh; omega
  rw [decodeBody_eq]
  by_cases h2 : cfg.nCh = 2
  · rw [frameCall_two h2] at h ⊢
    rw [frameCallEvs_two h2]
    dsimp only at h ⊢
    rw [reads_append, reads_append] at h
    obtain ⟨⟨ha, hb⟩, hc⟩ := h
    rw [after_append] at hc
    obtain ⟨st1, q1, q2, q3⟩ := decodeChan_spec hok hi h0 (hs := decide (pk.midOnly.getD i 0 = 0)) (Or.inl rfl) t
      (fun q => absurd q (by decide)) hb
    obtain ⟨st2, r1, r2, r3⟩ := decodeChan_spec hok hi (n := 1) (by omega) (Or.inr rfl) q2
      (fun _ hpos => by rw [q3]; exact hpd h2 hpos) hc
    have hhs : hasSideOf cfg H.st (pk.midOnly.getD i 0) = decide (pk.midOnly.getD i 0 = 0) := by
      unfold hasSideOf; rw [if_pos hok.lost]
    rw [decodeStereoHead_spec hok hi t h2 H.dom ha]
    dsimp only
    rw [hhs, decodeChans_two _ _ _ _ h2, q1]
    dsimp only
    rw [r1]
    refine ⟨_, ?_, (show Track cfg pk _ i cfg.nCh st2 by rw [h2]; exact r2).next (pk.midOnly.getD i 0), fun _ => rfl⟩
    simp only [after_append, List.append_assoc]
  · rw [frameCall_one h2] at h ⊢
    rw [frameCallEvs_one h2]
    obtain ⟨st1, q1, q2, q3⟩ := decodeChan_spec hok hi h0 (hs := hasSideOf cfg H.st H.dom) (Or.inl rfl) t
      (fun q => absurd q (by decide)) h
    rw [decodeStereoHead_one h2]
    dsimp only
    rw [decodeChans_one _ _ _ _ h2, q1]
    exact ⟨_, by rw [List.append_nil], (show Track cfg pk _ i cfg.nCh st1 by
      rw [show cfg.nCh = 1 by have := hok.nCh; omega]; exact q2).next H.dom, fun q => absurd q h2⟩

theorem frameCalls_append (cfg : Cfg) (pk : PacketIn) : ∀ (a b : List Nat) (s : EncSt),
    frameCalls cfg pk (a ++ b) s =
      ((frameCalls cfg pk a s).1 ++ (frameCalls cfg pk b (frameCalls cfg pk a s).2).1,
       (frameCalls cfg pk b (frameCalls cfg pk a s).2).2) := by
  intro a
  induction a with
  | nil => intro b s; rfl
  | cons i a ih =>
    intro b s
    rw [List.cons_append, frameCalls, frameCalls, ih]
    simp only [List.append_assoc]

theorem callSt_zero (cfg : Cfg) (pk : PacketIn) : callSt cfg pk 0 = headerSt cfg pk := rfl

theorem callSt_succ (cfg : Cfg) (pk : PacketIn) (i : Nat) :
    callSt cfg pk (i + 1) = (frameCall cfg pk i (callSt cfg pk i)).2 := by
  unfold callSt
  rw [List.range_succ, frameCalls_append]
  rfl

/-- The decoder context when call `j` returns: the flag bits and the operations of calls `0..j` have been read. -/
def decAt (cfg : Cfg) (pk : PacketIn) (d0 : Dec) (j : Nat) : Dec :=
  after d0 (flagOps (headerBits cfg pk) ++ ((List.range (j + 1)).map (callOps cfg pk)).flatten)

theorem callOps_succ (cfg : Cfg) (pk : PacketIn) (j : Nat) :
    callOps cfg pk (j + 1) = (frameCall cfg pk (j + 1) (callSt cfg pk (j + 1))).1 := by
  unfold callOps
  rw [if_neg (Nat.succ_ne_zero j), List.nil_append]

theorem decAt_succ (cfg : Cfg) (pk : PacketIn) (d0 : Dec) (j : Nat) :
    decAt cfg pk d0 (j + 1) = after (decAt cfg pk d0 j) (frameCall cfg pk (j + 1) (callSt cfg pk (j + 1))).1 := by
  unfold decAt
  rw [List.range_succ (n := j + 1), List.map_append, List.flatten_append, ← List.append_assoc, after_append]
  simp only [List.map_cons, List.map_nil, List.flatten_cons, List.flatten_nil, List.append_nil, callOps_succ]

theorem silkCalls_later_spec {cfg : Cfg} {pk : PacketIn} (hok : PacketOk cfg pk) (d0 : Dec) :
    ∀ (k i : Nat) (st : SilkSt), i + 1 + k = cfg.nfpp → Track cfg pk (callSt cfg pk (i + 1)) (i + 1) 0 st →
    (cfg.nCh = 2 → st.prevDecodeOnlyMiddle = pk.midOnly.getD i 0) →
    Reads (decAt cfg pk d0 i) ((List.range' (i + 1) k).map (callOps cfg pk)).flatten →
    ∃ st', silkCalls cfg k false st (decAt cfg pk d0 i) =
      (((List.range' (i + 1) k).map (fun j => callEvs cfg pk j ((decAt cfg pk d0 j).rng, tell (decAt cfg pk d0 j)))).flatten,
       st', decAt cfg pk d0 (i + k)) := by
  intro k
  induction k with
  | zero =>
    intro i st _ _ _ _
    exact ⟨st, rfl⟩
  | succ k ih =>
    intro i st hik t hpd h
    have hi1 : i + 1 < cfg.nfpp := by omega
    rw [List.range'_succ, List.map_cons, List.flatten_cons, reads_append, callOps_succ] at h
    rw [List.range'_succ, List.map_cons, List.flatten_cons, silkCalls_succ]
    have hfd : st.ch0.nFramesDecoded = i + 1 := (t.nfd 0 (by have := hok.nCh; omega)).trans (chanPos_zero _ _)
    have hb : beginCall cfg false st = st := beginCall_false cfg st (by rw [hfd]; omega)
    have hcall : ∃ st1, silkDecodeCall cfg false st (decAt cfg pk d0 i) =
        (callEvs cfg pk (i + 1) ((decAt cfg pk d0 (i + 1)).rng, tell (decAt cfg pk d0 (i + 1))), st1, decAt cfg pk d0 (i + 1)) ∧
        Track cfg pk (callSt cfg pk (i + 1 + 1)) (i + 1 + 1) 0 st1 ∧
        (cfg.nCh = 2 → st1.prevDecodeOnlyMiddle = pk.midOnly.getD (i + 1) 0) := by
      rw [silkDecodeCall, hb, if_neg (by rw [hfd]; omega)]
      obtain ⟨st1, q1, q2, q3⟩ := decodeBody_spec hok hi1 { st := st, dom := 0, c := decAt cfg pk d0 i, evs := [] } t
        (fun h2 _ => hpd h2) h.1
      refine ⟨st1, ?_, by rw [callSt_succ]; exact q2, q3⟩
      rw [q1, decAt_succ]
      refine Prod.ext ?_ rfl
      show [] ++ _ ++ _ = callEvs cfg pk (i + 1) _
      unfold callEvs
      rw [if_neg (Nat.succ_ne_zero i), List.nil_append]
    obtain ⟨st1, c1, c2, c3⟩ := hcall
    have h2' : Reads (decAt cfg pk d0 (i + 1)) ((List.range' (i + 1 + 1) k).map (callOps cfg pk)).flatten := by
      rw [decAt_succ]; exact h.2
    obtain ⟨st2, r⟩ := ih (i + 1) st1 (by omega) c2 c3 h2'
    rw [c1]
    dsimp only
    rw [r, show i + 1 + k = i + (k + 1) by omega]
    exact ⟨_, rfl⟩

theorem beginCall_prevSync {cfg : Cfg} {pk : PacketIn} {st : SilkSt} (h : PrevSync pk st) :
    PrevSync pk (beginCall cfg true st) := by
  obtain ⟨q1, q2, q3, q4⟩ := h
  unfold PrevSync beginCall
  by_cases h2 : cfg.nCh = 2 <;> simp [h2, q1, q2, q3, q4]

theorem frameCalls_later (cfg : Cfg) (pk : PacketIn) : ∀ (k i : Nat),
    (frameCalls cfg pk (List.range' (i + 1) k) (callSt cfg pk (i + 1))).1 =
      ((List.range' (i + 1) k).map (callOps cfg pk)).flatten := by
  intro k
  induction k with
  | zero => intro i; rfl
  | succ k ih =>
    intro i
    rw [List.range'_succ, frameCalls, List.map_cons, List.flatten_cons, callOps_succ]
    simp only
    rw [← callSt_succ, ih (i + 1)]

theorem packetBody_calls (cfg : Cfg) (pk : PacketIn) (h1 : 1 ≤ cfg.nfpp) :
    packetBody cfg pk = ((List.range cfg.nfpp).map (callOps cfg pk)).flatten := by
  obtain ⟨k, hk⟩ : ∃ k, cfg.nfpp = k + 1 := ⟨cfg.nfpp - 1, by omega⟩
  have h1 : packetBody cfg pk = headerOps cfg pk ++ (frameCalls cfg pk (List.range cfg.nfpp) (headerSt cfg pk)).1 := by
    unfold packetBody headerOps headerSt
    simp only [List.append_assoc]
  rw [h1, hk, List.range_eq_range', List.range'_succ, frameCalls, List.map_cons, List.flatten_cons]
  simp only
  have h2 : (frameCall cfg pk 0 (headerSt cfg pk)).2 = callSt cfg pk (0 + 1) := by
    rw [callSt_succ, callSt_zero]
  rw [h2, frameCalls_later, callOps, if_pos rfl, callSt_zero, List.append_assoc]

theorem decAt_zero (cfg : Cfg) (pk : PacketIn) (d0 : Dec) :
    decAt cfg pk d0 0 = after (after d0 (flagOps (headerBits cfg pk) ++ headerOps cfg pk))
      (frameCall cfg pk 0 (callSt cfg pk 0)).1 := by
  unfold decAt
  have : ((List.range (0 + 1)).map (callOps cfg pk)).flatten = headerOps cfg pk ++ (frameCall cfg pk 0 (callSt cfg pk 0)).1 := by
    simp [List.range_succ, callOps]
  rw [this, ← List.append_assoc, after_append]

theorem decAt_later (cfg : Cfg) (pk : PacketIn) (d0 : Dec) (k i : Nat) :
    decAt cfg pk d0 (i + k) = after (decAt cfg pk d0 i) ((List.range' (i + 1) k).map (callOps cfg pk)).flatten := by
  unfold decAt
  rw [← after_append, List.append_assoc, ← List.flatten_append, ← List.map_append, List.range_eq_range',
    List.range_eq_range', show i + k + 1 = i + 1 + k by omega, ← List.range'_append]
  rw [Nat.zero_add, Nat.one_mul]

/-- The whole payload, for a decoder that agrees with the encoder on the conditional-coding memory. -/
theorem silkCalls_sync {cfg : Cfg} {pk : PacketIn} (hok : PacketOk cfg pk) (st : SilkSt) (d0 : Dec) (hp : PrevSync pk st)
    (h : Reads d0 (flagOps (headerBits cfg pk) ++ packetBody cfg pk)) :
    (silkCalls cfg cfg.nfpp true st d0).1 =
      packetEvs cfg pk (fun j => ((decAt cfg pk d0 j).rng, tell (decAt cfg pk d0 j))) ∧
    (silkCalls cfg cfg.nfpp true st d0).2.2 = after d0 (flagOps (headerBits cfg pk) ++ packetBody cfg pk) := by
  obtain ⟨k, hk⟩ : ∃ k, cfg.nfpp = k + 1 := ⟨cfg.nfpp - 1, by have := hok.nfpp; omega⟩
  have hops : flagOps (headerBits cfg pk) ++ packetBody cfg pk =
      flagOps (headerBits cfg pk) ++ headerOps cfg pk ++ (frameCall cfg pk 0 (callSt cfg pk 0)).1 ++
        ((List.range' 1 k).map (callOps cfg pk)).flatten := by
    rw [packetBody_calls cfg pk hok.nfpp.1, hk, List.range_eq_range', List.range'_succ, List.map_cons, List.flatten_cons,
      callOps, if_pos rfl]
    simp only [List.append_assoc]
  rw [hops] at h ⊢
  rw [reads_append, reads_append] at h
  obtain ⟨⟨ha, hb⟩, hc⟩ := h
  rw [after_append, ← decAt_zero] at hc
  rw [after_append, after_append, ← decAt_zero]
  obtain ⟨f0, f1⟩ := beginCall_true cfg st
  obtain ⟨a1, a2, a3⟩ := decodeHeader_spec hok (beginCall cfg true st) f0 f1 (beginCall_prevSync hp) ha
  rw [← a1] at hb
  have hi0 : 0 < cfg.nfpp := by omega
  obtain ⟨st1, q1, q2, q3⟩ := decodeBody_spec hok hi0 (decodeHeader cfg (beginCall cfg true st) d0)
    (by rw [callSt_zero]; exact a3) (fun _ hh => absurd hh (by decide)) hb
  have hfirst : silkDecodeCall cfg true st d0 =
      (callEvs cfg pk 0 ((decAt cfg pk d0 0).rng, tell (decAt cfg pk d0 0)), st1, decAt cfg pk d0 0) := by
    rw [silkDecodeCall, if_pos f0, q1, a1, a2, ← decAt_zero]
    refine Prod.ext ?_ rfl
    show _ = callEvs cfg pk 0 _
    unfold callEvs
    rw [if_pos rfl]
  obtain ⟨st2, r⟩ := silkCalls_later_spec hok d0 k 0 st1 (by omega) q2 q3 hc
  rw [hk, silkCalls_succ, hfirst]
  dsimp only
  rw [r]
  constructor
  · show _ ++ _ = packetEvs cfg pk _
    unfold packetEvs
    rw [hk, List.range_eq_range', List.range'_succ, List.map_cons, List.flatten_cons]
  · show decAt cfg pk d0 (0 + k) = _
    exact decAt_later cfg pk d0 k 0

end Opus.SilkSymsEncProofs
