import OpusProofs.ExtRepDetect
import OpusProofs.ExtRepWrite
/-
  C16, repeat mechanism, writer side: the payload loops and the emission loop of one frame ARE the list programs of
  ExtRepWrite on the queues (one walk per loop; what the programs write is shown there, without indices).
-/
namespace Opus.ExtProofs
open Opus Opus.Ext

/-- What the payload loops need of the index arrays for the frames `g0 ≤ g' < nbF` when `R` extensions per frame are repeated
    (`rep0` = `frame_repeat_idx` after detection, `minIdx` = `frame_min_idx`).  `take`: between `frame_min_idx[g']` and
    `frame_repeat_idx[g']` stand exactly the first `R` entries of the queue of `g'`, which has that many.  `flag`:
    `last_long_idx`, looked at only when the indicator has `L = 0` (`last`), is an index of the LAST frame, the one whose
    position in the queue segment is `llp`. -/
structure RepIdx (exts : Array Ext) (mx : List Nat) (nbF g0 R : Nat) (last : Bool) (lastLong llp : Option Nat)
    (rep0 minIdx : List Nat) : Prop where
  take : ∀ g', g0 ≤ g' → g' < nbF → minIdx.getD g' 0 ≤ rep0.getD g' 0 ∧ rep0.getD g' 0 ≤ exts.size ∧
    seg exts (minIdx.getD g' 0) (rep0.getD g' 0) g' = (remQ exts mx minIdx g').take R ∧ R ≤ (remQ exts mx minIdx g').length
  flag : ∀ g' j' e, g0 ≤ g' → g' < nbF → minIdx.getD g' 0 ≤ j' → j' < rep0.getD g' 0 → exts[j']? = some e →
    e.frame.toNat = g' →
    ((last = true ∧ lastLong = some j') ↔
      (if g' + 1 < nbF then none else if last then llp else none) = some (seg exts (minIdx.getD g' 0) j' g').length)

/-- Frame `g0` is done (`frame_min_idx[g0]` is overwritten); the later frames are as before. -/
theorem RepIdx.step {exts : Array Ext} {mx : List Nat} {nbF g0 R : Nat} {last : Bool} {lastLong llp : Option Nat}
    {rep0 minIdx : List Nat} (h : RepIdx exts mx nbF g0 R last lastLong llp rep0 minIdx) (v : Nat) :
    RepIdx exts mx nbF (g0 + 1) R last lastLong llp rep0 (minIdx.set g0 v) := by
  have hset : ∀ g', g0 + 1 ≤ g' → (minIdx.set g0 v).getD g' 0 = minIdx.getD g' 0 := fun g' hg =>
    getD_set_ne _ _ _ _ (by omega)
  refine ⟨fun g' h1 h2 => ?_, fun g' j' e h1 => ?_⟩
  · unfold remQ; rw [hset g' h1]; exact h.take g' (by omega) h2
  · rw [hset g' h1]; exact h.flag g' j' e (by omega)

section
variable {exts : Array Ext} {nbF : Nat}

/-- `wRepeatsOfFrame`, begun at `lo` and arrived at `j`, is `wPayloads` of the rest of the queue segment; `z` is the position
    (counted from `lo`) at which `last_long` stands. -/
theorem wRepeatsOfFrame_eq (hv : AllIF exts nbF) (g : Nat) (last : Bool) (lastLong z : Option Nat)
    (lo j hi written : Nat) (hhi : hi ≤ exts.size)
    (hflag : ∀ j' e, lo ≤ j' → j' < hi → exts[j']? = some e → e.frame.toNat = g →
      ((last = true ∧ lastLong = some j') ↔ z = some (seg exts lo j' g).length)) :
    lo ≤ j → wRepeatsOfFrame exts g last lastLong j hi written =
      (wPayloads z (seg exts lo j g).length (seg exts j hi g)).as (written + (seg exts j hi g).length) := by
  fun_induction wRepeatsOfFrame exts g last lastLong j hi written with
  | case1 j written hlt ih2 ih1 =>
    intro hlo
    obtain ⟨x0, hget, hrd, hfr, hsegstep⟩ := idx_step hv g hlt hhi
    rw [hrd, W.lift_ok_bind, hsegstep]
    have hff : ((g : Int)).toNat = g := by omega
    have hnext := seg_split exts g hlo (Nat.le_succ j)
    rw [seg_one exts g hget] at hnext
    by_cases hfe : x0.frame = (g : Int)
    · have hfn : x0.frame.toNat = g := hfr.mp hfe
      have hfl : (last && lastLong == some j) = decide (z = some (seg exts lo j g).length) := by
        rw [Bool.eq_iff_iff]; simpa using hflag j _ hlo hlt hget hfn
      simp only [hfe, hff, if_true, List.singleton_append, List.length_cons, wPayloads, W.bind_as, hfl]
      rw [ih2 (by omega), hnext, if_pos hfn, List.length_append, List.length_singleton]
      rw [show written + 1 + (seg exts (j + 1) hi g).length = written + ((seg exts (j + 1) hi g).length + 1) by omega]
    · have hfn : ¬ x0.frame.toNat = g := mt hfr.mpr hfe
      simp only [hfe, hfn, if_false, List.nil_append]
      rw [ih1 (by omega), hnext, if_neg hfn, List.append_nil]
  | case2 j written hge =>
    intro _
    rw [seg_empty exts (i := j) g (by omega)]
    rfl


/-- `wRepeatsLoop` is `wRepBlock` of the later queues. -/
theorem wRepeatsLoop_eq (hv : AllIF exts nbF) (mx : List Nat) (R : Nat) (last : Bool) (lastLong llp : Option Nat)
    (rep0 : List Nat) (hr0 : rep0.length = nbF) (g : Nat) (s : GSt) :
    s.repIdx = rep0 → s.minIdx.length = nbF →
    RepIdx exts mx nbF g R last lastLong llp rep0 s.minIdx →
    ∃ s', wRepeatsLoop exts nbF last lastLong g s = (wRepBlock R last llp (remsFrom exts mx s.minIdx nbF g)).as s' ∧
      s'.repIdx = rep0 ∧ s'.currFrame = s.currFrame ∧
      s'.minIdx.length = nbF ∧ (∀ g', g' < g → s'.minIdx.getD g' 0 = s.minIdx.getD g' 0) ∧
      (∀ g', g ≤ g' → g' < nbF → s'.minIdx.getD g' 0 = rep0.getD g' 0) ∧
      s'.written = s.written + R * (nbF - g) := by
  fun_induction wRepeatsLoop exts nbF last lastLong g s with
  | case1 g s hlt ih =>
    intro hrep hml hR
    rw [rdN_getD (by rw [hml]; exact hlt), W.lift_ok_bind, hrep, rdN_getD (by rw [hr0]; exact hlt), W.lift_ok_bind]
    obtain ⟨hs1, hs2, hs3, hs4⟩ := hR.take g (Nat.le_refl _) hlt
    have hmaxeq : max (s.minIdx.getD g 0) (rep0.getD g 0) = rep0.getD g 0 := by omega
    rw [wRepeatsOfFrame_eq hv g last lastLong (if g + 1 < nbF then none else (if last then llp else none))
      (s.minIdx.getD g 0) (s.minIdx.getD g 0) (rep0.getD g 0) s.written hs2 (hR.flag g · · (Nat.le_refl _) hlt) (Nat.le_refl _),
      seg_empty exts g (Nat.le_refl (s.minIdx.getD g 0)), List.length_nil, W.as_bind, hmaxeq]
    have hset_ne : ∀ g', g' ≠ g → (s.minIdx.set g (rep0.getD g 0)).getD g' 0 = s.minIdx.getD g' 0 :=
      fun g' hg => getD_set_ne _ _ _ _ (fun h => hg h.symm)
    have hrems : remsFrom exts mx (s.minIdx.set g (rep0.getD g 0)) nbF (g + 1) = remsFrom exts mx s.minIdx nbF (g + 1) :=
      remsFrom_eq fun g' h1 _ => hset_ne g' (by omega)
    have ih' := ih (s.minIdx.getD g 0) (rep0.getD g 0) (s.written + (seg exts (s.minIdx.getD g 0) (rep0.getD g 0) g).length)
    rw [hmaxeq, hrep] at ih'
    obtain ⟨s', q1, q2, q3, q4, q5, q6, q7⟩ := ih'
      rfl (by simp [hml]) (hR.step _)
    simp only at q3 q5 q6 q7
    refine ⟨s', ?_, q2, q3, q4, ?_, ?_, ?_⟩
    · rw [q1, hrems, remsFrom_succ exts mx s.minIdx hlt, hs3]
      by_cases hgl : g + 1 < nbF
      · simp only [hgl, if_true]
        rw [remsFrom_succ exts mx s.minIdx hgl, wRepBlock_cons2, W.bind_as]
      · simp only [hgl, if_false]
        rw [remsFrom_end exts mx s.minIdx (by omega)]
        simp only [wRepBlock, W.pure_as, W.bind_pure]
    · intro g' hg'; rw [q5 g' (by omega), hset_ne g' (by omega)]
    · intro g' h1 h2
      by_cases hgg : g' = g
      · subst hgg; rw [q5 g' (by omega), getD_set_eq _ _ _ (by rw [hml]; exact hlt)]
      · exact q6 g' (by omega) h2
    · rw [q7, hs3, List.length_take, Nat.min_eq_left hs4, show nbF - g = (nbF - (g + 1)) + 1 by omega, Nat.mul_succ]
      omega
  | case2 g s hge =>
    intro hrep hml _
    rw [remsFrom_end exts mx s.minIdx (by omega)]
    exact ⟨s, rfl, hrep, rfl, hml, fun _ _ => rfl, fun g' h1 h2 => by omega, by simp [show nbF - g = 0 by omega]⟩


/-- `wFrameLoop` over the indices `[i, j)` on which the repeat indicator does not fire is `wList` of the queue segment; the loop
    goes on at `j`. -/
theorem wFrameLoop_plain (hv : AllIF exts nbF) (f : Nat) (det : Det) (i j hi : Nat) (s : GSt) (hij : i ≤ j) (hj : j ≤ hi)
    (hle : hi ≤ exts.size) (hno : ∀ i', i ≤ i' → i' < j → ¬ (0 < det.repeatCount ∧ s.repIdx[f]? = some i')) :
    wFrameLoop exts nbF f det i hi s =
      wList exts.size s.currFrame s.written (seg exts i j f) >>= fun _ => wFrameLoop exts nbF f det j hi
        { s with written := s.written + (seg exts i j f).length, currFrame := lastFrame s.currFrame (seg exts i j f) } := by
  obtain ⟨m, rfl⟩ := Nat.le.dest hij
  induction m generalizing i s with
  | zero => rw [Nat.add_zero, seg_empty exts f (Nat.le_refl _)]; rfl
  | succ m ih =>
    rw [show i + (m + 1) = i + 1 + m by omega] at hj hno ⊢
    obtain ⟨x0, hget, hrd, hfr, hsegstep⟩ := idx_step hv f (by omega : i < i + 1 + m) (by omega : i + 1 + m ≤ exts.size)
    have hff : ((f : Int)).toNat = f := by omega
    rw [wFrameLoop, if_pos (by omega : i < hi), hrd, W.lift_ok_bind, hsegstep]
    by_cases hfe : x0.frame = (f : Int)
    · simp only [hfe, hff, if_true, List.singleton_append, hno i (Nat.le_refl _) (by omega), if_false, wList, W.bind_assoc,
        List.length_cons, lastFrame]
      rw [ih (i + 1) { s with written := s.written + 1, currFrame := f } (by omega) hj (fun i' h1 h2 => hno i' (by omega) h2)]
      rw [show s.written + 1 + (seg exts (i + 1) (i + 1 + m) f).length = s.written + ((seg exts (i + 1) (i + 1 + m) f).length + 1) by omega]
    · have hfn : ¬ x0.frame.toNat = f := mt hfr.mpr hfe
      simp only [hfe, hfn, if_false, List.nil_append]
      exact ih (i + 1) s (by omega) hj (fun i' h1 h2 => hno i' (by omega) h2)


theorem wFrameLoop_plain_eq (hv : AllIF exts nbF) (f : Nat) (det : Det) (i hi : Nat) (s : GSt) (hle : hi ≤ exts.size)
    (hno : ∀ i', i ≤ i' → i' < hi → ¬ (0 < det.repeatCount ∧ s.repIdx[f]? = some i')) :
    wFrameLoop exts nbF f det i hi s =
      (wList exts.size s.currFrame s.written (seg exts i hi f)).as
        { s with written := s.written + (seg exts i hi f).length, currFrame := lastFrame s.currFrame (seg exts i hi f) } := by
  by_cases hih : i ≤ hi
  · rw [wFrameLoop_plain hv f det i hi hi s hih (Nat.le_refl _) hle hno, ← W.bind_pure]
    congr 1; funext _
    rw [wFrameLoop, if_neg (Nat.lt_irrefl _)]
  · rw [wFrameLoop, if_neg (by omega), seg_empty exts f (by omega)]; rfl

/-- `wFrameLoop` when `det.repeatCount > 0`: plain extensions up to index `iR` (= `frame_repeat_idx[f]`),
    the indicator, the repeated payloads, the rest of the frame. -/
theorem wFrameLoop_rep_eq (hv : AllIF exts nbF) (mx : List Nat) (f : Nat) (hf : f + 1 < nbF)
    (det : Det) (hR : 0 < det.repeatCount) (iR hi : Nat) (hiR : iR < hi) (hle : hi ≤ exts.size)
    (eR : Ext) (heR : exts[iR]? = some eR) (hfR : eR.frame.toNat = f)
    (W1 : Nat) (llp : Option Nat) (lastV : Bool)
    (hlastV : lastV = decide (W1 + det.repeatCount * (nbF - (f + 1)) = exts.size ∨ (det.lastLong = none ∧ hi ≤ iR + 1)))
    (i : Nat) (s : GSt) (hr0 : s.repIdx.length = nbF) (hrepf : s.repIdx.getD f 0 = iR) :
    i ≤ iR → s.minIdx.length = nbF → s.written + (seg exts i (iR + 1) f).length = W1 →
    RepIdx exts mx nbF (f + 1) det.repeatCount lastV det.lastLong llp s.repIdx s.minIdx →
    ∃ sF, wFrameLoop exts nbF f det i hi s =
        (wList exts.size s.currFrame s.written (seg exts i (iR + 1) f) >>= fun _ =>
          W.emit [.need 1, .put (if lastV then 4 else 5)] >>= fun _ =>
          wRepBlock det.repeatCount lastV llp (remsFrom exts mx s.minIdx nbF (f + 1)) >>= fun _ =>
          wList exts.size (if lastV then f + 1 else f) (W1 + det.repeatCount * (nbF - (f + 1)))
            (seg exts (iR + 1) hi f)).as sF ∧
      sF.repIdx = s.repIdx ∧ sF.minIdx.length = nbF ∧
      (∀ g', f + 1 ≤ g' → g' < nbF → sF.minIdx.getD g' 0 = s.repIdx.getD g' 0) ∧
      sF.written = W1 + det.repeatCount * (nbF - (f + 1)) + (seg exts (iR + 1) hi f).length ∧
      sF.currFrame = lastFrame (if lastV then f + 1 else f) (seg exts (iR + 1) hi f) := by
  intro hi_le hml hW hRI
  have hrepf' : s.repIdx[f]? = some iR := getElem?_of_getD (by omega) hrepf
  obtain ⟨x0, hget, hrd, hfr, -⟩ := idx_step hv f hiR hle
  rw [heR] at hget; cases hget
  have hfe : eR.frame = (f : Int) := hfr.mpr hfR
  have hseg : seg exts i (iR + 1) f = seg exts i iR f ++ [eR] := by
    rw [seg_split exts f hi_le (Nat.le_succ iR), seg_one exts f heR, if_pos hfR]
  rw [hseg] at hW ⊢
  simp only [List.length_append, List.length_singleton, ← Nat.add_assoc] at hW
  rw [wFrameLoop_plain hv f det i iR hi s hi_le (by omega) hle (fun i' h1 h2 hc => by
    rw [hrepf'] at hc; have := hc.2; simp at this; omega)]
  rw [wFrameLoop, if_pos hiR, hrd, W.lift_ok_bind]
  simp only [hfe, if_true, hR, hrepf', and_self]
  have hlv : decide (s.written + (seg exts i iR f).length + 1 + det.repeatCount * (nbF - (f + 1)) = exts.size ∨
      det.lastLong = none ∧ hi ≤ iR + 1) = lastV := by rw [hlastV, ← hW]
  rw [hlv]
  obtain ⟨s3, q1, q2, q3, q4, -, q6, q7⟩ := wRepeatsLoop_eq hv mx det.repeatCount lastV det.lastLong llp s.repIdx hr0 (f + 1)
    { s with written := s.written + (seg exts i iR f).length + 1, currFrame := f } rfl hml hRI
  simp only at q3 q6 q7
  rw [q1]
  simp only [W.as_bind]
  rw [wFrameLoop_plain_eq hv f det (iR + 1) hi _ hle (by
    intro i' h1 h2 hcon
    simp only at hcon
    rw [q2, hrepf'] at hcon
    have := hcon.2; simp at this; omega)]
  refine ⟨{ s3 with written := s3.written + (seg exts (iR + 1) hi f).length,
                    currFrame := lastFrame (if lastV = true then s3.currFrame + 1 else s3.currFrame) (seg exts (iR + 1) hi f) },
    ?_, q2, q4, q6, ?_, ?_⟩
  · simp only [wList_append, wList, hfR, W.bind_assoc, W.bind_pure, W.as_unit, W.bind_as, q3, q7, hW]
  · simp only [q7, hW]
  · simp only [q3]


end

end Opus.ExtProofs
