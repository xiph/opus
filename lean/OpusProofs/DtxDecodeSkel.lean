import OpusProofs.DtxDecode
import OpusProps.C01
/-
  OpusProofs.DtxDecodeSkel — the decoder skeleton of C01 applied to DTX packets.
-/
namespace Opus.Dtx
open Opus Opus.Framing Opus.DecSkel

theorem tocs_le (t : Nat) (ht : t ∈ tocs) : t ≤ 252 := by
  unfold tocs at ht
  simp only [List.mem_map, List.mem_range] at ht
  obtain ⟨a, ha, rfl⟩ := ht
  omega

theorem dtxBytes_ok (t n : Nat) (ht : t ∈ tocs) (hn : n ∈ [1, 2, 3, 4, 5, 6]) :
    BytesOk (dtxBytes t n) ∧ dtxBytes t n ≠ [] := by
  have := tocs_le t ht
  have hn' : n ≤ 6 := by simp only [List.mem_cons, List.not_mem_nil, or_false] at hn; omega
  unfold dtxBytes BytesOk
  split
  · exact ⟨by intro b hb; simp at hb; omega, by simp⟩
  · split
    · exact ⟨by intro b hb; simp at hb; omega, by simp⟩
    · exact ⟨by intro b hb; simp at hb; rcases hb with rfl | rfl <;> omega, by simp⟩

theorem dtxBytes_head (t n : Nat) : ∃ k ∈ [0, 1, 3], (dtxBytes t n).headD 0 = t + k := by
  unfold dtxBytes
  split
  · exact ⟨0, by simp, by simp⟩
  · split
    · exact ⟨1, by simp, by simp⟩
    · exact ⟨3, by simp, by simp⟩

theorem fs_mem (fs : Int) (h : FsOk fs) : fs.toNat ∈ [8000, 12000, 16000, 24000, 48000] := by
  rcases h with h | h | h | h | h <;> subst h <;> decide

/-- **A decoder fed a DTX packet as given** returns exactly the packet's duration `n` frames of the
    TOC's frame duration (when the caller's `frame_size` has room for it). -/
theorem decode_dtx_given (o : Oracle) (ho : OracleOk o) (r : Run) (hinv : DecInv r.st) (hlog : r.log = [])
    (t n : Nat) (ht : t ∈ tocs) (hn : n ∈ [1, 2, 3, 4, 5, 6]) (hdur : n * samplesPerFrame t 48000 ≤ 5760)
    (pcm : Ptr) (frame_size : Int) (sc : Bool) (hbuf : pcm.buf = .pcm)
    (hroom : 0 ≤ pcm.off ∧ pcm.off + frame_size * r.st.channels ≤ pcm.cap)
    (hfit : (n : Int) * (samplesPerFrame t r.st.Fs.toNat : Int) ≤ frame_size) :
    (decodeNative o (some (dtxBytes t n)) (dtxBytes t n).length pcm frame_size 0 false sc r).ret =
        .ret ((n : Int) * (samplesPerFrame t r.st.Fs.toNat : Int)) ∧
    (decodeNative o (some (dtxBytes t n)) (dtxBytes t n).length pcm frame_size 0 false sc r).run.st.last_packet_duration =
        (n : Int) * (samplesPerFrame t r.st.Fs.toNat : Int) := by
  obtain ⟨hb, hne⟩ := dtxBytes_ok t n ht hn
  have hp := dtx_parse_all t ht n hn hdur
  unfold parseOk at hp
  have hp := of_decide_eq_true hp
  obtain ⟨k, hk, hhead⟩ := dtxBytes_head t n
  have hspf : samplesPerFrame ((dtxBytes t n).headD 0) r.st.Fs.toNat = samplesPerFrame t r.st.Fs.toNat := by
    rw [hhead]; exact spf_code t ht k hk _ (fs_mem _ hinv.fs)
  have := OpusProps.C01.decodeNative_duration o ho r hinv hlog (dtxBytes t n) hb hne pcm frame_size false sc _ hp
    (by simp only; rw [hspf]; exact hfit) hbuf hroom
  simp only [hspf] at this
  exact ⟨this.1, this.2.1⟩

end Opus.Dtx
