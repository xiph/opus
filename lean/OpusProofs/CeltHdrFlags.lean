import OpusProofs.CeltHdrWorld
/-
  OpusProofs.CeltHdrFlags — the form in which a header field is proved to be in lock-step (`Stage`, `Margin`), and the
  first fields: silence flag, post-filter parameters, transient and intra flag.
  In front of it: `storage` is only changed by `ec_enc_shrink` (`encRun_storage`); `Ext`/`Ext0` and, for each of these encoder
  stages, the encoder-only fact that it only appends calls (`enc…_ext`): the silent frame (OpusProofs/CeltHdrSilent.lean)
  needs it where no lock-step exists yet.
-/
namespace OpusProofs.CeltHdr
open Opus Opus.RangeCoder Opus.CeltSymsEnc

def NotShrink : Op → Prop
  | .shrink _ => False
  | _ => True

theorem encOp_storage (c : Enc) (op : Op) (h : NotShrink op) : (encOp c op).storage = c.storage := by
  have norm : ∀ v r, (encNormalize { c with val := v, rng := r }).storage = c.storage := fun v r =>
    encNormalize_frame (·.storage) writeByte_storage (fun _ _ => rfl) (fun _ _ => rfl) (fun _ _ _ _ => rfl) _
  rcases encOp_shape c op with ⟨v, r, e⟩ | ⟨v, r, x, n, e⟩ | ⟨x, n, e⟩ | ⟨v, n, rfl⟩ | ⟨s, rfl⟩
  · rw [e]; exact norm v r
  · rw [e, (encBits_fields _ x n).2.1]; exact norm v r
  · rw [e]; exact (encBits_fields c x n).2.1
  · obtain ⟨_, _, _, _, _, e, _⟩ := encPatch_shape c v n
    simp only [encOp, e]
  · exact h.elim

theorem encRun_storage : ∀ (ops : List Op) (c : Enc), (∀ op ∈ ops, NotShrink op) → (encRun c ops).storage = c.storage := by
  intro ops
  induction ops with
  | nil => intro c _; rfl
  | cons op t ih =>
    intro c h
    simp only [encRun]
    rw [ih _ (fun o ho => h o (by simp [ho])), encOp_storage c op (h op (by simp))]

/-- the model only appends calls, and (in the stages this relation is used for) none of them is `ec_enc_shrink` -/
def Ext (s s' : St) : Prop := ∃ δ, s'.ops = s.ops ++ δ ∧ ∀ op ∈ δ, NotShrink op

theorem Ext.refl (s : St) : Ext s s := ⟨[], by simp, by simp⟩
theorem Ext.trans {a b c : St} (h1 : Ext a b) (h2 : Ext b c) : Ext a c := by
  obtain ⟨x, hx, nx⟩ := h1; obtain ⟨y, hy, ny⟩ := h2
  exact ⟨x ++ y, by rw [hy, hx, List.append_assoc], List.forall_mem_append.mpr ⟨nx, ny⟩⟩
theorem Ext.emit (s : St) (op : Op) (h : NotShrink op) : Ext s (s.emit op) :=
  ⟨[op], rfl, by intro o ho; simp at ho; rw [ho]; exact h⟩
theorem Ext.pop (s : St) : Ext s s.pop.2 := ⟨[], by simp [pop_ops], by simp⟩
/-- `NotShrink` of a concrete call other than `shrink` reduces to `True`, hence the default -/
theorem Ext.step (s : St) (op : Op) (h : NotShrink op := by exact True.intro) : Ext s (s.pop.2.emit op) := (Ext.pop s).trans (Ext.emit _ op h)

/-- plain extension of the call list (an `ec_enc_shrink` may be among the new calls) -/
def Ext0 (s s' : St) : Prop := ∃ δ, s'.ops = s.ops ++ δ

theorem Ext.ext0 {s s' : St} (h : Ext s s') : Ext0 s s' := by obtain ⟨δ, hδ, _⟩ := h; exact ⟨δ, hδ⟩
theorem Ext0.trans {a b c : St} (h1 : Ext0 a b) (h2 : Ext0 b c) : Ext0 a c := by
  obtain ⟨x, hx⟩ := h1; obtain ⟨y, hy⟩ := h2
  exact ⟨x ++ y, by rw [hy, hx, List.append_assoc]⟩

theorem prefix_of_ext0 {w : World} {P0 : List Op} {s s' : St} (h : Ext0 s s') (hp : w.IsPrefix (P0 ++ s'.ops)) :
    w.IsPrefix (P0 ++ s.ops) := by
  obtain ⟨δ, hδ⟩ := h
  exact World.isPrefix_left hp hδ

theorem prefix_of_ext {w : World} {P0 : List Op} {s s' : St} (h : Ext s s') (hp : w.IsPrefix (P0 ++ s'.ops)) :
    w.IsPrefix (P0 ++ s.ops) :=
  prefix_of_ext0 h.ext0 hp

theorem storage_of_ext {w : World} {P0 : List Op} {s s' : St} {d d' : Dec} (h : Ext s s') (hs : Here w P0 s d)
    (hs' : Here w P0 s' d') : s'.e.storage = s.e.storage := by
  obtain ⟨δ, hδ, hn⟩ := h
  rw [hs'.enc, hs.enc, hδ, ← List.append_assoc]
  unfold World.encAt
  rw [encRun_append (P0 ++ s.ops) δ]
  exact encRun_storage δ _ hn

/-- the silence stage of a non-silent frame: the flag `0` is written iff `tell == 1`; the size and the C local `tell` are the
    entry values -/
theorem encSilence_of_zero {cfg : EncCfg} {s : St} (h : (encSilence cfg s).1 = 0) :
    encSilence cfg s = (0, cfg.size, tell s.e, if tell s.e = 1 then s.pop.2.emit (.bitLogp 0 15) else s) := by
  unfold encSilence at h ⊢
  by_cases h1 : tell s.e = 1
  · simp only [if_pos h1] at h ⊢
    by_cases hv : s.pop.1 ≠ 0
    · rw [if_pos hv] at h; exact absurd h Nat.one_ne_zero
    · rw [if_neg hv]
  · simp only [if_neg h1]

theorem encSilence_ext (cfg : EncCfg) (s : St) (hsil : (encSilence cfg s).1 = 0) : Ext s (encSilence cfg s).2.2.2 := by
  rw [encSilence_of_zero hsil]
  split
  · exact Ext.step s _
  · exact Ext.refl s

theorem pfOnWrite_ext (s : St) : Ext s (pfOnWrite s).2 := by
  unfold pfOnWrite
  simp only []
  exact (((Ext.step _ _).trans (Ext.step _ _)).trans (Ext.step _ _)).trans
    (Ext.step _ _)

theorem encPostFilter_ext (cfg : EncCfg) (totE tv : Int) (s : St) : Ext s (encPostFilter cfg totE tv s).2 := by
  unfold encPostFilter
  split
  · split
    · exact Ext.step s _
    · exact (Ext.step s _).trans (pfOnWrite_ext _)
  · exact Ext.refl s

/-! ## One stage of the header in lock-step

  The form every field below (and in OpusProofs/CeltHdrCoarse.lean, OpusProofs/CeltHdrTail.lean) is stated in; it is the
  `StepV` of the band layer (OpusProofs/CeltBandsSync.lean) for two different programs with two different budgets. -/

/-- the encoder's test `t + k <= total_bits` and the decoder's `t + k <= len*8` agree for small `k`: 16 is the largest
    look-ahead of a whole-bit test in the header (`tell+16` of the post-filter; coarse energy asks for 15) -/
def BudOk (totE totD t : Int) : Prop := ∀ k : Int, 0 ≤ k → k ≤ 16 → (t + k ≤ totE ↔ t + k ≤ totD)

/-- the form of the test in the coarse energy: `budget - tell >= k` -/
theorem BudOk.sub_ge {totE totD t : Int} (h : BudOk totE totD t) {k : Int} (h0 : 0 ≤ k) (h16 : k ≤ 16) :
    totD - t ≥ k ↔ totE - t ≥ k := by
  have := h k h0 h16; omega

/-- the encoder's test against `total_bits - total_boost` and the decoder's against its shrunken `total_bits` agree; 48 =
    `6<<BITRES` is the largest look-ahead in eighth bits (the trim, and a dynalloc flag with `logp <= 6`) -/
def FracOk (totE totD : Int) (tf : Nat) (tb : Nat) : Prop :=
  ∀ k : Int, 0 ≤ k → k ≤ 48 → ((tf : Int) + k < totE - tb ↔ (tf : Int) + k < totD - tb)

/-- `sEnd` is a point of the encoder model's run that lies in the packet, and behind it the packet leaves the room that makes
    the encoder's budget tests (against `size1*8`) and the decoder's (against `len*8`) agree before it: either nothing was
    shrunk away, or `ec_tell` there is 16 bits, and `ec_tell_frac` plus all boosts (`tbMax`) 6 bits, short of the end. -/
structure Margin (w : World) (P0 : List Op) (size1 tbMax : Nat) (sEnd : St) : Prop where
  pre : w.IsPrefix (P0 ++ sEnd.ops)
  len : w.len ≤ size1
  room : w.len = size1 ∨ (tell (w.encAt (P0 ++ sEnd.ops)) + 16 ≤ ((w.len * 8 : Nat) : Int) ∧
    (tellFrac (w.encAt (P0 ++ sEnd.ops)) : Int) + tbMax + 48 < ((w.len * 8 * 8 : Nat) : Int))

/-- what a field needs to know at a point in lock-step that lies before a point with `Margin` -/
theorem Here.budget {w : World} {P0 : List Op} {size1 tbMax : Nat} {s sEnd : St} {d : Dec} (h : Here w P0 s d)
    (hx : Ext0 s sEnd) (m : Margin w P0 size1 tbMax sEnd) :
    tell d = tell s.e ∧ tellFrac d = tellFrac s.e ∧ d.storage = w.len ∧
    BudOk ((size1 * 8 : Nat) : Int) ((w.len * 8 : Nat) : Int) (tell s.e) ∧
    ∀ tb, tb ≤ tbMax → FracOk (((size1 * 8 : Nat) : Int) * 8) ((w.len * 8 * 8 : Nat) : Int) (tellFrac s.e) tb := by
  obtain ⟨a, b, c, _⟩ := h.tells (prefix_of_ext0 hx m.pre)
  -- `ec_tell`, `ec_tell_frac` only grow along the packet
  obtain ⟨t1, t2⟩ : tell s.e ≤ tell (w.encAt (P0 ++ sEnd.ops)) ∧ tellFrac s.e ≤ tellFrac (w.encAt (P0 ++ sEnd.ops)) := by
    obtain ⟨δ, hδ⟩ := hx
    have hm := w.tell_mono δ (P0 ++ s.ops) (by rw [List.append_assoc, ← hδ]; exact m.pre)
    rw [List.append_assoc, ← hδ, ← h.enc] at hm
    exact hm
  have hl := m.len
  refine ⟨a, b, c, fun k _ _ => ?_, fun tb _ k _ _ => ?_⟩
  · rcases m.room with e | e
    · rw [e]
    · constructor <;> intro _ <;> omega
  · rcases m.room with e | e
    · rw [e]; constructor <;> intro _ <;> omega
    · constructor <;> intro _ <;> omega

theorem bit_le_one (p : Prop) [Decidable p] : (if p then 1 else 0 : Nat) ≤ 1 := by split <;> omega

/-- **One stage of the header in lock-step.**  The encoder stage `fe` only appends calls, none of them a shrink (a fact about
    the encoder alone, so it stands in front of the worlds); and on every finished packet of `len` bytes: if a later point
    `sEnd` of the run has `Margin`, then from states in lock-step (the encoder's satisfying `Pre`) the decoder stage `fd` returns
    a value related to the encoder's and ends in lock-step. -/
def Stage (size1 tbMax len : Nat) {α β : Type} (Pre : St → Prop) (R : α → β → Prop)
    (fe : St → α × St) (fd : Dec → β × Dec) : Prop :=
  (∀ s, Ext s (fe s).2) ∧
  ∀ (w : World) (P0 : List Op), w.len = len → ∀ s d sEnd, Ext0 (fe s).2 sEnd → Margin w P0 size1 tbMax sEnd → Pre s →
    Here w P0 s d → R (fe s).1 (fd d).1 ∧ Here w P0 (fe s).2 (fd d).2

section
variable {size1 tbMax len : Nat} {α β : Type} {Pre : St → Prop} {R : α → β → Prop} {fe : St → α × St} {fd : Dec → β × Dec}

theorem Stage.ext (h : Stage size1 tbMax len Pre R fe fd) (s : St) : Ext s (fe s).2 := h.1 s

/-- both halves at one pair of states of one world: the form in which the assembly proofs use a stage -/
theorem Stage.at (h : Stage size1 tbMax len Pre R fe fd) (w : World) (P0 : List Op) (hl : w.len = len) (s : St) (d : Dec) :
    Ext s (fe s).2 ∧ ∀ sEnd, Ext0 (fe s).2 sEnd → Margin w P0 size1 tbMax sEnd → Pre s → Here w P0 s d →
      R (fe s).1 (fd d).1 ∧ Here w P0 (fe s).2 (fd d).2 :=
  ⟨h.1 s, h.2 w P0 hl s d⟩

/-- a stage from a proof that treats one encoder state at a time (both halves behind one case split on the encoder's tests) -/
theorem Stage.of_pointwise
    (h : ∀ s, Ext s (fe s).2 ∧ ∀ (w : World) (P0 : List Op), w.len = len → ∀ d sEnd, Ext0 (fe s).2 sEnd →
      Margin w P0 size1 tbMax sEnd → Pre s → Here w P0 s d → R (fe s).1 (fd d).1 ∧ Here w P0 (fe s).2 (fd d).2) :
    Stage size1 tbMax len Pre R fe fd :=
  ⟨fun s => (h s).1, fun w P0 hl s => (h s).2 w P0 hl⟩

/-- a symbol written under a budget test: the two tests agree.  `fd'` is the decoder model's reader (its value and context);
    `hd` says that it is the guarded call. -/
theorem Stage.guard (ce : St → Prop) (cd : Dec → Prop) [DecidablePred ce] [DecidablePred cd] {a0 : α} {b0 : β} (h0 : R a0 b0)
    (h : Stage size1 tbMax len Pre R fe fd)
    (hiff : ∀ (w : World) (P0 : List Op), w.len = len → ∀ s d sEnd, Here w P0 s d → Ext0 s sEnd →
      Margin w P0 size1 tbMax sEnd → Pre s → (ce s ↔ cd d))
    {fd' : Dec → β × Dec} (hd : ∀ d, fd' d = if cd d then fd d else (b0, d)) :
    Stage size1 tbMax len Pre R (fun s => if ce s then fe s else (a0, s)) fd' := by
  rw [funext hd]
  refine Stage.of_pointwise fun s => ?_
  by_cases hc : ce s
  · simp only [if_pos hc]
    refine ⟨h.1 s, fun w P0 hl d sEnd hx m hp hh => ?_⟩
    rw [if_pos ((hiff w P0 hl s d sEnd hh ((h.1 s).ext0.trans hx) m hp).mp hc)]
    exact h.2 w P0 hl s d sEnd hx m hp hh
  · simp only [if_neg hc]
    refine ⟨Ext.refl s, fun w P0 hl d sEnd hx m hp hh => ?_⟩
    rw [if_neg (fun hd => hc ((hiff w P0 hl s d sEnd hh hx m hp).mpr hd))]
    exact ⟨h0, hh⟩

end

section
variable {size1 tbMax len : Nat} {Pre : St → Prop}

/-! the coder calls: the decision popped, mapped by `f`, is what is written and what is read back -/

theorem Stage.bit (logp : Nat) (f : Int → Nat) (hf : ∀ x, f x ≤ 1) :
    Stage size1 tbMax len Pre (fun a b => b = a)
      (fun s => (f s.pop.1, s.pop.2.emit (.bitLogp (f s.pop.1) logp))) (fun d => decBitLogp d logp) :=
  ⟨fun s => Ext.step s _, fun _ _ _ _ _ _ hx m _ hh => hh.pop.emit_bit _ logp (hf _) (prefix_of_ext0 hx m.pre)⟩

theorem Stage.icdf (tbl : List Nat) (ftb : Nat) (f : Int → Nat) :
    Stage size1 tbMax len Pre (fun a b => b = a)
      (fun s => (f s.pop.1, s.pop.2.emit (.icdf (f s.pop.1) tbl ftb))) (fun d => decIcdf d tbl ftb) :=
  ⟨fun s => Ext.step s _, fun _ _ _ _ _ _ hx m _ hh => hh.pop.emit_icdf _ tbl ftb (prefix_of_ext0 hx m.pre)⟩

end

/-! ### silence flag, post-filter, transient, intra

  The decoder tests its C local `tell`, which is only refreshed inside the blocks that read: `Tv` says how stale it can be. -/

/-- A context with `ec_tell == 1` is a fresh one (`rng = 2^31`, 33 bits), and after the silence flag `0`
    (`logp = 15`) `ec_tell` is 2. -/
theorem tell_after_silence0 (e : Enc) (hr : RngOk e) (hn : 33 ≤ e.nbitsTotal) (ht : tell e = 1) :
    tell (encOp e (.bitLogp 0 15)) = 2 := by
  have h32 := ilog_le_32 hr
  unfold tell at ht
  have hnb : e.nbitsTotal = 33 := by omega
  have hil : ilog e.rng = 32 := by omega
  have hne : e.rng ≠ 0 := by have := hr.1; omega
  have hb := ilog_bounds hne
  rw [hil] at hb
  have hrng : e.rng = 2147483648 := by have := hr.2; have := hb.1; omega
  show tell (encBitLogp e 0 15) = 2
  unfold encBitLogp
  simp only [hrng, ne_eq, not_true_eq_false, if_false]
  have hs : sub32 2147483648 (2147483648 / 2 ^ 15) = 2147418112 := by decide
  rw [hs, encNormalize, dif_neg (by simp)]
  unfold tell
  have : ilog 2147418112 = 31 := ilog_eq_of_bounds (k := 30) (by decide) (by decide)
  simp only [this, hnb]
  decide

/-- the decoder's local `tell` is the coder's `ec_tell`, or it is the entry value 1 and the silence flag is all that has been
    read since (`ec_tell` 2) -/
def Tv (tv : Int) (d : Dec) : Prop := tv = tell d ∨ (tv = 1 ∧ tell d = 2)

/-- a 3-bit test on a local `tell` that is at most that stale comes out like the encoder's on `ec_tell` -/
theorem Tv.iff3 {tv totE totD : Int} {d : Dec} {s : St} (h : Tv tv d) (ht : tell d = tell s.e)
    (hb : BudOk totE totD (tell s.e)) (h8 : 8 ≤ totD) (hle : totD ≤ totE) : tell s.e + 3 ≤ totE ↔ tv + 3 ≤ totD := by
  rcases h with e | ⟨e1, e2⟩
  · rw [e, ht]; exact hb 3 (by omega) (by omega)
  · rw [e1, ← ht, e2]; constructor <;> intro _ <;> omega

theorem readPostFilter_tv (start : Nat) (totD tv : Int) (d : Dec) (h : Tv tv d) :
    Tv (Opus.CeltSyms.readPostFilter start totD tv d).2.1 (Opus.CeltSyms.readPostFilter start totD tv d).2.2.1 := by
  unfold Opus.CeltSyms.readPostFilter
  split
  · split
    split
    · split
      exact .inl rfl
    · exact .inl rfl
  · exact h

theorem readTransient_tv (LM : Nat) (totD tv : Int) (d : Dec) (h : Tv tv d) :
    Tv (Opus.CeltSyms.readTransient LM totD tv d).2.1 (Opus.CeltSyms.readTransient LM totD tv d).2.2.1 := by
  unfold Opus.CeltSyms.readTransient
  split
  · exact .inl rfl
  · exact h

theorem encSilence_zero {cfg : EncCfg} {s : St} (h : (encSilence cfg s).1 = 0) :
    (encSilence cfg s).2.1 = cfg.size ∧ (encSilence cfg s).2.2.1 = tell s.e := by
  rw [encSilence_of_zero h]; exact ⟨rfl, rfl⟩

section
variable {w : World} {P0 : List Op} {size1 tbMax : Nat}

/-- The silence flag of a non-silent frame (second half of a `Stage` at one pair of states; the first is `encSilence_ext`,
    which needs `hsil`: a silent frame shrinks).  The encoder writes `0` with `logp = 15` iff `tell == 1`, the decoder reads
    it iff `tell == 1` (and `tell < total`). -/
theorem silence0_stage (cfg : EncCfg) (totD : Int) (s : St) (d : Dec) (hsil : (encSilence cfg s).1 = 0) (sEnd : St)
    (hx : Ext0 (encSilence cfg s).2.2.2 sEnd) (m : Margin w P0 size1 tbMax sEnd) (hroom : tell s.e < totD) (h : Here w P0 s d) :
    let D := Opus.CeltSyms.readSilence totD d
    D.1 = 0 ∧ Here w P0 (encSilence cfg s).2.2.2 D.2.1 ∧ Tv (tell d) D.2.1 := by
  have hext := encSilence_ext cfg s hsil
  have hp := prefix_of_ext0 hx m.pre
  have hpre := prefix_of_ext hext hp
  obtain ⟨ht, _, _, hr⟩ := h.tells hpre
  simp only [Opus.CeltSyms.readSilence, ht, show ¬ tell s.e ≥ totD by omega, if_false]
  rw [encSilence_of_zero hsil] at hp ⊢
  by_cases h1 : tell s.e = 1
  · simp only [h1, if_true] at hp ⊢
    obtain ⟨e1, e2⟩ := h.pop.emit_bit 0 15 (by omega) hp
    have hn := (w.nbits_bounds _ hpre).1
    rw [← h.enc] at hn
    obtain ⟨t2, _, _, _⟩ := e2.tells hp
    exact ⟨e1, e2, .inr ⟨rfl, by rw [t2]; exact tell_after_silence0 s.e hr hn h1⟩⟩
  · simp only [h1, if_false] at hp ⊢
    exact ⟨trivial, h, .inl ht.symm⟩

end

section
variable {size1 tbMax len : Nat}

/-- `tvD` is the decoder's C local `tell` -/
theorem transient_stage (cfg : EncCfg) (totE totD tvD : Int) :
    Stage size1 tbMax len (fun s => tell s.e + 3 ≤ totE ↔ tvD + 3 ≤ totD) (fun a b => b = a) (encTransient cfg totE)
      (fun d => let r := Opus.CeltSyms.readTransient cfg.LM totD tvD d; (r.1, r.2.2.1)) := by
  refine Stage.guard (R := fun a b => b = a) (fun s => cfg.LM > 0 ∧ tell s.e + 3 ≤ totE) (fun _ => cfg.LM > 0 ∧ tvD + 3 ≤ totD) rfl
    (Stage.bit 3 (fun x => if x ≠ 0 then 1 else 0) fun _ => bit_le_one _)
    (fun _ _ _ _ _ _ _ _ _ hp => and_congr_right fun _ => hp) fun d => ?_
  unfold Opus.CeltSyms.readTransient; split <;> rfl

theorem intra_stage (totE totD tvD : Int) :
    Stage size1 tbMax len (fun s => tell s.e + 3 ≤ totE ↔ tvD + 3 ≤ totD) (fun a b => b = a) (encIntra totE)
      (fun d => let r := Opus.CeltSyms.readIntra totD tvD d; (r.1, r.2.1)) := by
  refine Stage.guard (R := fun a b => b = a) (fun s => tell s.e + 3 ≤ totE) (fun _ => tvD + 3 ≤ totD) rfl
    (Stage.bit 3 (fun x => if x ≠ 0 then 1 else 0) fun _ => bit_le_one _) (fun _ _ _ _ _ _ _ _ _ hp => hp) fun d => ?_
  unfold Opus.CeltSyms.readIntra; split <;> rfl

theorem encIntra_le (totE : Int) (s : St) : (encIntra totE s).1 ≤ 1 := by
  unfold encIntra
  split
  · exact bit_le_one _
  · exact Nat.zero_le 1

theorem encTransient_ext (cfg : EncCfg) (totE : Int) (s : St) : Ext s (encTransient cfg totE s).2 :=
  (transient_stage (size1 := 0) (tbMax := 0) (len := 0) cfg totE 0 0).ext s

theorem encIntra_ext (totE : Int) (s : St) : Ext s (encIntra totE s).2 :=
  (intra_stage (size1 := 0) (tbMax := 0) (len := 0) totE 0 0).ext s

end

section
variable {w : World} {P0 : List Op} {size1 tbMax : Nat}

/-- The post-filter block (second half of a `Stage` at one pair of states; the first is `encPostFilter_ext`); `tv` is the
    C local `tell` of both sides (the entry value).  `htap`: when the filter is on, the tapset — which the encoder writes
    without a budget test — still passes the decoder's test `tell+2 <= total_bits` (guaranteed by `nbAvailableBytes > 12*C`). -/
theorem postfilter_stage (cfg : EncCfg) (totE totD tv : Int) (s : St) (d : Dec) (sEnd : St)
    (hx : Ext0 (encPostFilter cfg totE tv s).2 sEnd) (m : Margin w P0 size1 tbMax sEnd)
    (hbud : tv + 16 ≤ totE ↔ tv + 16 ≤ totD)
    (htap : (encPostFilter cfg totE tv s).1.on ≠ 0 →
      tell (w.encAt (P0 ++ (encPostFilter cfg totE tv s).2.ops.dropLast)) + 2 ≤ totD)
    (h : Here w P0 s d) :
    let E := encPostFilter cfg totE tv s
    let D := Opus.CeltSyms.readPostFilter cfg.start totD tv d
    (D.1.on = E.1.on ∧ D.1.octave = E.1.octave ∧ D.1.pitch = E.1.pitch ∧ D.1.qg = E.1.qg ∧ D.1.tapset = E.1.tapset) ∧
    Here w P0 E.2 D.2.2.1 := by
  have hp := prefix_of_ext0 hx m.pre
  simp only [Opus.CeltSyms.readPostFilter, encPostFilter] at hp htap ⊢
  by_cases hc : cfg.start = 0 ∧ tv + 16 ≤ totE
  · have hc' : cfg.start = 0 ∧ tv + 16 ≤ totD := ⟨hc.1, hbud.mp hc.2⟩
    simp only [hc, hc', and_self, if_true] at hp htap ⊢
    by_cases hon : s.pop.1 = 0
    · simp only [hon, if_true] at hp ⊢
      obtain ⟨e1, e2⟩ := h.pop.emit_bit 0 1 (by omega) hp
      simp only [e1, ne_eq, not_true_eq_false, if_false]
      exact ⟨⟨trivial, trivial, trivial, trivial, trivial⟩, e2⟩
    · simp only [hon, if_false] at hp htap ⊢
      -- flag 1, octave, pitch bits, gain, tapset
      unfold pfOnWrite at hp htap ⊢
      simp only [] at hp htap ⊢
      generalize hs1 : s.pop.2.emit (.bitLogp 1 1) = s1 at *
      generalize hs2 : s1.pop.2.emit (.uint s1.pop.1.toNat 6) = s2 at *
      generalize hs3 : s2.pop.2.emit (.bits s2.pop.1.toNat (4 + s1.pop.1.toNat)) = s3 at *
      generalize hs4 : s3.pop.2.emit (.bits s3.pop.1.toNat 3) = s4 at *
      have p4 : w.IsPrefix (P0 ++ s4.ops) := prefix_of_ext (Ext.step _ _) hp
      have p3 : w.IsPrefix (P0 ++ s3.ops) := prefix_of_ext (Ext.step _ _) (hs4 ▸ p4)
      have p2 : w.IsPrefix (P0 ++ s2.ops) := prefix_of_ext (Ext.step _ _) (hs3 ▸ p3)
      have p1 : w.IsPrefix (P0 ++ s1.ops) := prefix_of_ext (Ext.step _ _) (hs2 ▸ p2)
      obtain ⟨a1, a2⟩ := h.pop.emit_bit 1 1 (by omega) (hs1 ▸ p1)
      rw [hs1] at a2
      obtain ⟨b1, b2⟩ := a2.pop.emit_uint s1.pop.1.toNat 6 (hs2 ▸ p2)
      rw [hs2] at b2
      obtain ⟨c1, c2⟩ := b2.pop.emit_bits s2.pop.1.toNat (4 + s1.pop.1.toNat) (hs3 ▸ p3)
      rw [hs3] at c2
      obtain ⟨d1, d2⟩ := c2.pop.emit_bits s3.pop.1.toNat 3 (hs4 ▸ p4)
      rw [hs4] at d2
      obtain ⟨f1, f2⟩ := d2.pop.emit_icdf s4.pop.1.toNat Opus.CeltSymsFrozen.tapsetIcdf 2 hp
      -- the decoder's tapset test
      obtain ⟨t4, _, _, _⟩ := d2.tells p4
      have hroom := htap (by decide)
      rw [emit_ops, pop_ops, List.dropLast_concat, ← d2.enc] at hroom
      simp only [a1, ne_eq, Nat.succ_ne_zero, not_false_eq_true, if_true, Opus.CeltSyms.readPostFilterOn, b1, c1, d1,
        t4, hroom, f1]
      exact ⟨⟨trivial, trivial, trivial, trivial, trivial⟩, f2⟩
  · have hc' : ¬ (cfg.start = 0 ∧ tv + 16 ≤ totD) := fun hh => hc ⟨hh.1, hbud.mpr hh.2⟩
    simp only [hc, hc', if_false]
    exact ⟨⟨trivial, trivial, trivial, trivial, trivial⟩, h⟩

end

end OpusProofs.CeltHdr
