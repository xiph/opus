import OpusModel.EncSkel
/-
  OpusProofs.EncSkelRepack — facts about the repacketiser contract functions of
  OpusModel/EncSkel/Repack.lean (`outRange`, `outCode3`, `padSpec`, `catSpec`) that the size
  theorems of C05/C02 use: `outRange` in the two passes of the C function (`outRange_eq`: the low code of one
  or two frames, or code 3); with `pad` set the output has exactly `maxlen` bytes whenever the
  unpadded packet fits; `opus_packet_pad` cannot fail on a packet the encoder produced.
-/
namespace Opus.EncSkel.Proofs
open Opus Opus.Framing Opus.EncSkel

/-- Unpadded code-3 size of a frame list. -/
def code3Size (lens : List Nat) : Nat :=
  if !(allEq (lens.headD 0) lens) then 2 + vbrBody lens else lens.length * lens.headD 0 + 2

/-- A code-3 output that fits: padded it has exactly `maxlen` bytes, unpadded its own size. -/
theorem outCode3_size (cfg : Nat) (lens : List Nat) (maxlen : Nat) (pad : Bool) (h : code3Size lens ≤ maxlen) :
    ∃ r, outCode3 cfg lens maxlen pad = .ok r ∧ r.size = if pad then maxlen else code3Size lens := by
  unfold outCode3 code3Size at *
  dsimp only at *
  generalize (if (!allEq (lens.headD 0) lens) = true then 2 + vbrBody lens else lens.length * lens.headD 0 + 2) = tot at *
  rw [if_neg (by omega)]
  cases pad
  · simp
  · simp only [if_true]
    split
    · rw [if_neg (by omega)]
      exact ⟨_, rfl, by dsimp only; omega⟩
    · exact ⟨_, rfl, by dsimp only; omega⟩

theorem outCode3_err (cfg : Nat) (lens : List Nat) (maxlen : Nat) (pad : Bool) (h : maxlen < code3Size lens) :
    outCode3 cfg lens maxlen pad = .err .bufferTooSmall := by
  unfold outCode3 code3Size at *
  dsimp only at *
  generalize (if (!allEq (lens.headD 0) lens) = true then 2 + vbrBody lens else lens.length * lens.headD 0 + 2) = tot at *
  rw [if_pos (by omega)]

/-- Size of the packet `out_range_impl` writes without padding (codes 0, 1, 2, 3). -/
def baseSize : List Nat → Nat
  | [] => 0
  | [l0] => l0 + 1
  | [l0, l1] => if l1 = l0 then 2 * l0 + 1 else l0 + l1 + 2 + (if l0 ≥ 252 then 1 else 0)
  | lens => code3Size lens

theorem baseSize_pos (lens : List Nat) (hne : lens ≠ []) : 1 ≤ baseSize lens := by
  match lens, hne with
  | [l0], _ => simp [baseSize]
  | [l0, l1], _ => simp only [baseSize]; split <;> omega
  | a :: b :: c :: rest, _ => simp only [baseSize, code3Size]; split <;> omega

/-- Header of the code 0 / 1 / 2 packet of one or two frames. -/
def lowHdr (cfg : Nat) : List Nat → Bytes
  | [l0, l1] => if l1 = l0 then [cfg + 1] else [cfg + 2] ++ encodeSize l0
  | _ => [cfg]

theorem lowHdr_length (cfg : Nat) (lens : List Nat) (hne : lens ≠ []) (h2 : lens.length ≤ 2) :
    (lowHdr cfg lens).length + sumN lens = baseSize lens := by
  match lens, hne, h2 with
  | [l0], _, _ => simp [lowHdr, baseSize]; omega
  | [l0, l1], _, _ =>
    simp only [lowHdr, baseSize, Framing.encodeSize]
    (repeat' split) <;> simp <;> omega

/-- Code 3 costs one byte more than code 0, 1 or 2. -/
theorem code3Size_base (lens : List Nat) (hne : lens ≠ []) :
    code3Size lens = if 2 < lens.length then baseSize lens else baseSize lens + 1 := by
  match lens, hne with
  | [l0], _ => simp [code3Size, baseSize, allEq]
  | [l0, l1], _ =>
    by_cases he : l1 = l0
    · subst he; simp [code3Size, baseSize, allEq]
    · have : (l1 == l0) = false := by simp [he]
      simp [code3Size, baseSize, allEq, this, vbrBody, sizeLen, he]
      split <;> split <;> omega
  | a :: b :: c :: rest, _ => simp [baseSize]

/-- **`out_range_impl` as the C function runs** (repacketizer.c:191-226): three or more frames are code 3; one or two
    fail when their code 0 / 1 / 2 packet does not fit, are re-coded as code 3 when there is room to fill, and are that
    packet otherwise. -/
theorem outRange_eq (cfg : Nat) (lens : List Nat) (maxlen : Nat) (pad : Bool) (hne : lens ≠ []) :
    outRange cfg lens maxlen pad =
      if 2 < lens.length then outCode3 cfg lens maxlen pad
      else if baseSize lens > maxlen then .err .bufferTooSmall
      else if pad = true ∧ baseSize lens < maxlen then outCode3 cfg lens maxlen pad
      else .ok { size := baseSize lens, hdr := lowHdr cfg lens } := by
  match lens, hne with
  | [l0], _ => rfl
  | [l0, l1], _ =>
    simp only [outRange, baseSize, lowHdr, List.length_cons, List.length_nil]
    split <;> rfl
  | a :: b :: c :: rest, _ =>
    rw [outRange, if_pos (by simp)]
    all_goals simp

/-- **Size of the contract output.**  Whenever the unpadded packet fits, `out_range_impl` succeeds; with `pad` it fills
    `maxlen` exactly (code 3 takes one byte more than a low code, so it fits when there is room to fill), without it has
    its base size. -/
theorem outRange_size (cfg : Nat) (lens : List Nat) (maxlen : Nat) (pad : Bool) (hne : lens ≠ [])
    (h : baseSize lens ≤ maxlen) :
    ∃ r, outRange cfg lens maxlen pad = .ok r ∧ r.size = if pad then maxlen else baseSize lens := by
  have hc := code3Size_base lens hne
  rw [outRange_eq cfg lens maxlen pad hne]
  by_cases h3 : 2 < lens.length
  · rw [if_pos h3] at hc ⊢
    rw [← hc] at h ⊢
    exact outCode3_size cfg lens maxlen pad h
  · rw [if_neg h3] at hc ⊢
    rw [if_neg (by omega)]
    by_cases hp : pad = true ∧ baseSize lens < maxlen
    · rw [if_pos hp]
      obtain ⟨r, hr, hs⟩ := outCode3_size cfg lens maxlen pad (by omega)
      exact ⟨r, hr, by rw [hs, hp.1]; rfl⟩
    · rw [if_neg hp]
      refine ⟨_, rfl, ?_⟩
      dsimp only
      split
      · rename_i ht; have : ¬ baseSize lens < maxlen := fun hlt => hp ⟨ht, hlt⟩; omega
      · rfl

theorem outRange_code0 (toc L : Nat) (pad : Bool) :
    outRange toc [L] (L + 1) pad = .ok { size := L + 1, hdr := [toc] } := by
  rw [outRange, if_neg (by omega), if_neg (by omega)]

/-- `max_header_bytes` of opus_encoder.c:1673. -/
def hdrMax (n : Nat) : Nat := if n = 2 then 3 else 2 + (n - 1) * 2

theorem vbrBody_le (lens : List Nat) (hne : lens ≠ []) : vbrBody lens + 2 ≤ sumN lens + 2 * lens.length := by
  induction lens with
  | nil => exact absurd rfl hne
  | cons x xs ih =>
    cases xs with
    | nil => simp [vbrBody]
    | cons y ys =>
      have := ih (by simp)
      simp only [vbrBody, sumN_cons, List.length_cons, sizeLen] at *
      split <;> omega

theorem allEq_sum (l0 : Nat) (lens : List Nat) (h : allEq l0 lens = true) : sumN lens = lens.length * l0 := by
  induction lens with
  | nil => simp
  | cons x xs ih =>
    simp only [allEq, Bool.and_eq_true, beq_iff_eq] at h
    simp only [sumN_cons, List.length_cons, ih h.2, h.1]
    rw [Nat.add_mul]; omega

theorem code3Size_le (lens : List Nat) (hne : lens ≠ []) : code3Size lens ≤ sumN lens + 2 * lens.length := by
  unfold code3Size
  split
  · have := vbrBody_le lens hne; omega
  · rename_i h
    have h' : allEq (lens.headD 0) lens = true := by simpa using h
    rw [allEq_sum _ _ h']
    cases lens with
    | nil => exact absurd rfl hne
    | cons x xs => simp only [List.length_cons]; omega

theorem baseSize_le (lens : List Nat) (hne : lens ≠ []) : baseSize lens ≤ sumN lens + hdrMax lens.length := by
  have h := code3Size_le lens hne
  rw [code3Size_base lens hne] at h
  unfold hdrMax
  split at h <;> split <;> omega

/-- `opus_packet_pad` on an unpadded packet (its length is the base size of its frame list) succeeds
    whenever `len ≤ new_len`: nothing to do, or the padded repacketiser output of exactly `new_len` bytes. -/
theorem padSpec_shape (toc : Nat) (lens : List Nat) (len newLen : Int) (hne : lens ≠ [])
    (hall : ∀ l ∈ lens, l ≤ 1275) (hbase : (baseSize lens : Int) = len) (hle : len ≤ newLen) :
    (padSpec toc lens len newLen).1 = OPUS_OK ∧
    ((len = newLen ∧ (padSpec toc lens len newLen).2 = none) ∨
     (len < newLen ∧ ∃ r, outRange toc lens newLen.toNat true = .ok r ∧ (padSpec toc lens len newLen).2 = some r ∧
        r.size = newLen.toNat)) := by
  have hb1 := baseSize_pos lens hne
  unfold padSpec
  rw [if_neg (by omega)]
  by_cases he : len = newLen
  · rw [if_pos he]; exact ⟨rfl, Or.inl ⟨he, rfl⟩⟩
  · have hany : lens.any (fun x => decide (x > 1275)) = false := by
      rw [List.any_eq_false]; intro x hx; simp; exact hall x hx
    rw [if_neg he, if_neg (by omega), hany]
    simp only [Bool.false_eq_true, if_false]
    obtain ⟨r, hr, hs⟩ := outRange_size toc lens newLen.toNat true hne (by omega)
    rw [hr]
    exact ⟨rfl, Or.inr ⟨by omega, r, rfl, rfl, hs⟩⟩

theorem allEq_zeros (n : Nat) : allEq 0 (List.replicate n 0) = true := by
  induction n with
  | zero => rfl
  | succ k ih => simp [List.replicate_succ, allEq, ih]

/-- `n` empty frames: code 0, code 1, or CBR code 3 with the count byte. -/
theorem outRange_zeros (toc n : Nat) :
    outRange toc [0] 1 false = .ok { size := 1, hdr := [toc] } ∧
    outRange toc [0, 0] 1 false = .ok { size := 1, hdr := [toc + 1] } ∧
    (3 ≤ n → outRange toc (List.replicate n 0) 2 false = .ok { size := 2, hdr := [toc + 3, n] }) := by
  refine ⟨rfl, rfl, fun hn => ?_⟩
  obtain ⟨m, rfl⟩ : ∃ m, n = m + 3 := ⟨n - 3, by omega⟩
  have h := allEq_zeros (m + 3)
  simp only [List.replicate_succ] at h ⊢
  rw [outRange]
  · simp [outCode3, h]
  all_goals simp

theorem baseSize_zeros (n : Nat) (hn : 3 ≤ n) : baseSize (List.replicate n 0) = 2 := by
  obtain ⟨m, rfl⟩ : ∃ m, n = m + 3 := ⟨n - 3, by omega⟩
  have h := allEq_zeros (m + 3)
  simp only [List.replicate_succ] at h ⊢
  simp [baseSize, code3Size, h]

end Opus.EncSkel.Proofs
