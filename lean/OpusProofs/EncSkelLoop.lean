import OpusModel.EncSkel
/-
  OpusProofs.EncSkelLoop — the multi-frame loop of `opus_encode_native` (opus_encoder.c:1693-1751, `multiLoop`) seen as
  the trace of its frame calls.  What a loop that ends without failure has accumulated (frame lengths, `dtx_count`, the
  configuration of the first ToC) is a function of that trace whatever the oracles say (`multiLoop_none`); the contracts
  only enter through what each frame call of the trace returns (OpusProofs/EncSkelMulti.lean).
-/
namespace Opus.EncSkel.Proofs
open Opus Opus.EncSkel

/-- The frame call of iteration `i`. -/
abbrev stepRes (c : MultiCtx) (d : Decided) (isSil : Int) (i : Nat) (fo : FrameOr) (a : MultiAcc) : FrameRes :=
  frameNative (subSt c i a.st) (subIn c d isSil i a.st a.totSize) fo

/-- The frame calls of the loop, in order (same recursion as `multiLoop`). -/
def multiTrace (c : MultiCtx) (d : Decided) (isSil : Int) : Nat → Nat → List FrameOr → MultiAcc → List FrameRes
  | 0, _, _, _ => []
  | n + 1, i, fos, a =>
    stepRes c d isSil i (fos.headD default) a ::
      multiTrace c d isSil n (i + 1) fos.tail (multiStep c d isSil i (fos.headD default) a)

/-- `dtx_count` of a trace: the number of frame calls with `tmp_len == 1`. -/
def dtxOf : List FrameRes → Int
  | [] => 0
  | r :: rs => (if r.ret = 1 then 1 else 0) + dtxOf rs

theorem multiLoop_induct (c : MultiCtx) (d : Decided) (isSil : Int) (N : Nat) (P : Nat → MultiAcc → Prop)
    (hstep : ∀ i fo a, i < N → P i a → P (i + 1) (multiStep c d isSil i fo a)) :
    ∀ (n i : Nat) (fos : List FrameOr) (a : MultiAcc), i + n ≤ N → P i a → P (i + n) (multiLoop c d isSil n i fos a) := by
  intro n
  induction n with
  | zero => intro i fos a _ h; exact h
  | succ n ih =>
    intro i fos a hle h
    unfold multiLoop
    rw [show i + (n + 1) = i + 1 + n by omega]
    exact ih (i + 1) fos.tail _ (by omega) (hstep i _ a (by omega) h)

/-- A step that leaves no failure started from none and took the success branch of :1736-1751, whatever the oracles say. -/
theorem multiStep_none (c : MultiCtx) (d : Decided) (isSil : Int) (i : Nat) (fo : FrameOr) (a : MultiAcc)
    (h : (multiStep c d isSil i fo a).fail = none) :
    a.fail = none ∧
    (multiStep c d isSil i fo a).lens = a.lens ++ [(stepRes c d isSil i fo a).payload.toNat] ∧
    (multiStep c d isSil i fo a).dtxCount = a.dtxCount + (if (stepRes c d isSil i fo a).ret = 1 then 1 else 0) ∧
    (multiStep c d isSil i fo a).cfg0 = some (a.cfg0.getD (stepRes c d isSil i fo a).toc) ∧
    (multiStep c d isSil i fo a).st = (stepRes c d isSil i fo a).st ∧
    (multiStep c d isSil i fo a).ok =
      (a.ok && frameOk (subSt c i a.st) (subIn c d isSil i a.st a.totSize) fo &&
        tocStable a.cfg0 (stepRes c d isSil i fo a)) := by
  unfold stepRes
  unfold multiStep at h ⊢
  cases hf : a.fail with
  | some r => rw [hf] at h; rw [hf] at h; cases h
  | none =>
    rw [hf] at h
    dsimp only at h ⊢
    generalize frameNative (subSt c i a.st) (subIn c d isSil i a.st a.totSize) fo = r at *
    split at h
    · cases h
    · split at h
      · cases h
      · split at h
        · cases h
        · rename_i h1 h2 h3
          rw [if_neg h1, if_neg h2, if_neg h3]
          refine ⟨rfl, rfl, by dsimp only; split <;> omega, ?_, rfl, rfl⟩
          cases a.cfg0 <;> rfl

/-- **A loop that ends without failure**: its frame lengths and `dtx_count` are those of the trace of its frame calls, a
    configuration once recorded stays, and `ok` at the end means `ok` all along. -/
theorem multiLoop_none (c : MultiCtx) (d : Decided) (isSil : Int) (n : Nat) :
    ∀ (i : Nat) (fos : List FrameOr) (a : MultiAcc), (multiLoop c d isSil n i fos a).fail = none →
      a.fail = none ∧
      (multiLoop c d isSil n i fos a).lens = a.lens ++ (multiTrace c d isSil n i fos a).map (·.payload.toNat) ∧
      (multiLoop c d isSil n i fos a).dtxCount = a.dtxCount + dtxOf (multiTrace c d isSil n i fos a) ∧
      (∀ t, a.cfg0 = some t → (multiLoop c d isSil n i fos a).cfg0 = some t) ∧
      ((multiLoop c d isSil n i fos a).ok = true → a.ok = true) := by
  induction n with
  | zero =>
    intro i fos a h
    exact ⟨h, by simp [multiLoop, multiTrace], by simp [multiLoop, multiTrace, dtxOf], fun t h => h, id⟩
  | succ n ih =>
    intro i fos a h
    unfold multiLoop at h ⊢
    unfold multiTrace
    obtain ⟨h1, l1, d1, c1, o1⟩ := ih (i + 1) fos.tail _ h
    obtain ⟨h0, l0, d0, c0, -, o0⟩ := multiStep_none c d isSil i _ a h1
    refine ⟨h0, by rw [l1, l0]; simp, by rw [d1, d0]; simp only [dtxOf]; omega,
      fun t ht => c1 t (by rw [c0, ht]; rfl), fun hk => ?_⟩
    have := o1 hk
    rw [o0] at this
    simp only [Bool.and_eq_true] at this
    exact this.1.1

end Opus.EncSkel.Proofs
