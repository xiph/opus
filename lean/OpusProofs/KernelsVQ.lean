import OpusModel.Kernels
/-
  OpusProofs.KernelsVQ — silk_VQ_WMat_EC_sse4_1 computes what silk_VQ_WMat_EC_c computes, for all inputs.
  The two files differ only in the first-row dot product; the proof is modular arithmetic on the
  data-flow (`omega` with the 32×8-bit products as atoms) — no bit-blasting.
-/
namespace Opus.Kernels

theorem rd32_range (l : List Int) (i : Nat) : -2147483648 ≤ rd32 l i ∧ rd32 l i < 2147483648 := by
  unfold rd32 wrap32; omega

theorem rd8_range (l : List Int) (i : Nat) : -128 ≤ rd8 l i ∧ rd8 l i < 128 := by
  unfold rd8 sext8; omega

theorem wrap32_u32 (x : Int) (h : -2147483648 ≤ x ∧ x < 2147483648) : wrap32 (u32 x) = x := by
  unfold wrap32 u32; omega

theorem wrap32_u32_sext8 (c : Int) (h : -128 ≤ c ∧ c < 128) : wrap32 (u32 (sext8 c)) = c := by
  unfold wrap32 u32 sext8; omega

theorem ofQ_q0 (a b : Int) : (ofQ a b).q0 = a % 18446744073709551616 := by
  unfold ofQ I128.q0; simp only []; omega

theorem ofQ_q1 (a b : Int) : (ofQ a b).q1 = b % 18446744073709551616 := by
  unfold ofQ I128.q1; simp only []; omega

theorem ofQ_l0 (a b : Int) : (ofQ a b).l0 = a % 18446744073709551616 % 4294967296 := rfl

/-- `_mm_shuffle_epi32(v, _MM_SHUFFLE(0,3,2,1))` rotates the lanes down by one. -/
theorem shuffle_0321 (v : I128) : shuffleEpi32 v (0 * 64 + 3 * 16 + 2 * 4 + 1) = ⟨v.l1, v.l2, v.l3, v.l0⟩ := by
  simp [shuffleEpi32, I128.lane]

/-- `_mm_add_epi64` on the two 64-bit elements. -/
theorem addEpi64_ofQ (a b c d : Int) :
    addEpi64 (ofQ a b) (ofQ c d)
      = ofQ (a % 18446744073709551616 + c % 18446744073709551616) (b % 18446744073709551616 + d % 18446744073709551616) := by
  simp only [addEpi64, ofQ_q0, ofQ_q1]

/-- `_mm_shuffle_epi32(v, _MM_SHUFFLE(1,0,3,2))` swaps the 64-bit halves. -/
theorem shuffle_1032_ofQ (a b : Int) : shuffleEpi32 (ofQ a b) (1 * 64 + 0 * 16 + 3 * 4 + 2) = ofQ b a := rfl

/-- The SSE4.1 first-row dot product equals the chained `silk_MLA`s, for all in-range operands. -/
theorem firstRowSse_eq (neg0 x1 x2 x3 x4 c1 c2 c3 c4 : Int)
    (hx1 : -2147483648 ≤ x1 ∧ x1 < 2147483648) (hx2 : -2147483648 ≤ x2 ∧ x2 < 2147483648)
    (hx3 : -2147483648 ≤ x3 ∧ x3 < 2147483648) (hx4 : -2147483648 ≤ x4 ∧ x4 < 2147483648)
    (hc1 : -128 ≤ c1 ∧ c1 < 128) (hc2 : -128 ≤ c2 ∧ c2 < 128)
    (hc3 : -128 ≤ c3 ∧ c3 < 128) (hc4 : -128 ≤ c4 ∧ c4 < 128) :
    firstRowSse neg0 x1 x2 x3 x4 c1 c2 c3 c4 = firstRowC neg0 x1 x2 x3 x4 c1 c2 c3 c4 := by
  unfold firstRowSse firstRowC
  -- the two multiplies hold the exact products (x1·c1, x3·c3) and (x2·c2, x4·c4) as 64-bit elements
  simp only [shuffle_0321, mulEpi32, loadSi128, cvtepi8Epi32, wrap32_u32 _ hx1, wrap32_u32 _ hx2, wrap32_u32 _ hx3,
    wrap32_u32 _ hx4, wrap32_u32_sext8 _ hc1, wrap32_u32_sext8 _ hc2, wrap32_u32_sext8 _ hc3, wrap32_u32_sext8 _ hc4,
    addEpi64_ofQ, shuffle_1032_ofQ, cvtsi128Si32, ofQ_l0]
  unfold mla wrap32
  generalize x1 * c1 = P1
  generalize x2 * c2 = P2
  generalize x3 * c3 = P3
  generalize x4 * c4 = P4
  omega

theorem vqIter_sse_eq (inp : VQIn) (neg : Nat → Int) (best : VQBest) (k : Nat) :
    vqIter firstRowSse inp neg best k = vqIter firstRowC inp neg best k := by
  unfold vqIter
  rw [firstRowSse_eq _ _ _ _ _ _ _ _ _ (rd32_range _ _) (rd32_range _ _) (rd32_range _ _) (rd32_range _ _)
    (rd8_range _ _) (rd8_range _ _) (rd8_range _ _) (rd8_range _ _)]

/-- the SSE shuffle really matters: with the identity shuffle in place of `_MM_SHUFFLE(0,3,2,1)` the
    register would pair x1·c1 with x1·c1 again and the result differs (sanity check of the model). -/
theorem shuffle_matters :
    let wrong := fun (neg0 x1 x2 x3 x4 c1 c2 c3 c4 : Int) =>
      let vXX31 := loadSi128 x1 x2 x3 x4
      let vcb31 := cvtepi8Epi32 c1 c2 c3 c4
      let acc1 := addEpi64 (mulEpi32 vXX31 vcb31) (mulEpi32 vXX31 vcb31)
      let acc := addEpi64 acc1 (shuffleEpi32 acc1 (1 * 64 + 0 * 16 + 3 * 4 + 2))
      wrap32 (neg0 + cvtsi128Si32 acc)
    wrong 0 1 2 3 4 1 1 1 1 ≠ firstRowC 0 1 2 3 4 1 1 1 1 := by
  decide

end Opus.Kernels
