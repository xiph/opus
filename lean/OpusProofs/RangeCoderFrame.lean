import OpusProofs.RangeCoderDone
import OpusProofs.RangeCoderOps
/-
  OpusProofs.RangeCoderFrame — C08: the encoder never touches a byte at an index `≥ storage`
  (no assumption on errors or parameters; only `ec_enc_shrink` must respect its assert).
-/
namespace Opus.RangeCoder

/-- `c` is a state reached from a state with buffer `B0` and size `S0`: the physical buffer keeps
    its length, everything from index `S0` on is untouched, the cursors stay inside `storage ≤ S0`. -/
structure Frame (B0 : List Nat) (S0 : Nat) (c : Enc) : Prop where
  len : c.buf.length = B0.length
  out : c.buf.drop S0 = B0.drop S0
  sto : c.storage ≤ S0
  cur : c.offs + c.endOffs ≤ c.storage
  fit : S0 ≤ B0.length

/-- `Frame` looks at the buffer, its size and the two cursors only. -/
theorem Frame.keep {B0 : List Nat} {S0 : Nat} {c c' : Enc} (h : Frame B0 S0 c) (e1 : c'.buf = c.buf := by rfl)
    (e2 : c'.storage = c.storage := by rfl) (e3 : c'.offs = c.offs := by rfl)
    (e4 : c'.endOffs = c.endOffs := by rfl) : Frame B0 S0 c' :=
  ⟨by rw [e1]; exact h.len, by rw [e1]; exact h.out, by rw [e2]; exact h.sto, by rw [e2, e3, e4]; exact h.cur, h.fit⟩

theorem Frame.set {B0 : List Nat} {S0 : Nat} {c : Enc} (h : Frame B0 S0 c) (i v : Nat) (hi : i < c.storage) :
    (c.buf.set i v).length = B0.length ∧ (c.buf.set i v).drop S0 = B0.drop S0 := by
  refine ⟨by rw [List.length_set]; exact h.len, ?_⟩
  rw [List.drop_set_of_lt (by have := h.sto; omega)]; exact h.out

theorem frame_writeByte {B0 : List Nat} {S0 : Nat} (c : Enc) (v : Nat) (h : Frame B0 S0 c) :
    Frame B0 S0 (writeByte c v) := by
  unfold writeByte
  split
  · exact h.keep
  · obtain ⟨h1, h2⟩ := h.set c.offs (v % 256) (by omega)
    exact ⟨h1, h2, h.sto, by simp only; omega, h.fit⟩

theorem frame_writeByteAtEnd {B0 : List Nat} {S0 : Nat} (c : Enc) (v : Nat) (h : Frame B0 S0 c) :
    Frame B0 S0 (writeByteAtEnd c v) := by
  unfold writeByteAtEnd
  split
  · exact h.keep
  · obtain ⟨h1, h2⟩ := h.set (c.storage - (c.endOffs + 1)) (v % 256) (by omega)
    exact ⟨h1, h2, h.sto, by simp only; omega, h.fit⟩

theorem frame_carryOut {B0 : List Nat} {S0 : Nat} (c : Enc) (cc : Nat) (h : Frame B0 S0 c) :
    Frame B0 S0 (carryOut c cc) :=
  carryOut_pres (Frame B0 S0) frame_writeByte (fun _ _ h => h.keep)
    (fun _ _ h => h.keep) c cc h

theorem frame_encNormalize {B0 : List Nat} {S0 : Nat} (c : Enc) (h : Frame B0 S0 c) :
    Frame B0 S0 (encNormalize c) :=
  encNormalize_pres (Frame B0 S0) frame_writeByte (fun _ _ h => h.keep)
    (fun _ _ h => h.keep) (fun _ _ _ _ h => h.keep) c h

theorem frame_encBits {B0 : List Nat} {S0 : Nat} (c : Enc) (v n : Nat) (h : Frame B0 S0 c) :
    Frame B0 S0 (encBits c v n) :=
  encBits_pres (Frame B0 S0) frame_writeByteAtEnd (fun _ _ _ _ h => h.keep) c v n h

/-- `ec_enc_shrink` obeys its assert and only shrinks. -/
def ShrinkOk (c : Enc) : Op → Prop
  | .shrink size => c.offs + c.endOffs ≤ size ∧ size ≤ c.storage
  | _ => True

instance (c : Enc) : (op : Op) → Decidable (ShrinkOk c op)
  | .shrink size => inferInstanceAs (Decidable (c.offs + c.endOffs ≤ size ∧ size ≤ c.storage))
  | .encode .. => isTrue trivial
  | .encodeBin .. => isTrue trivial
  | .bitLogp .. => isTrue trivial
  | .icdf .. => isTrue trivial
  | .icdf16 .. => isTrue trivial
  | .uint .. => isTrue trivial
  | .bits .. => isTrue trivial
  | .patchInitial .. => isTrue trivial

theorem frame_encShrink {B0 : List Nat} {S0 : Nat} (c : Enc) (size : Nat) (h : Frame B0 S0 c)
    (h1 : c.offs + c.endOffs ≤ size) (h2 : size ≤ c.storage) : Frame B0 S0 (encShrink c size) := by
  have hs := h.sto
  obtain ⟨hlen, -, -, -, hdrop⟩ := shrink_buf c.buf c.storage size c.endOffs (by omega) h2
    (by have := h.fit; have := h.len; omega)
  exact ⟨hlen.trans h.len, (hdrop S0 (by omega)).trans h.out, by show size ≤ S0; omega, h1, h.fit⟩

theorem frame_encOp {B0 : List Nat} {S0 : Nat} (c : Enc) (op : Op) (h : Frame B0 S0 c) (hs : ShrinkOk c op) :
    Frame B0 S0 (encOp c op) := by
  have upd : ∀ v r, Frame B0 S0 { c with val := v, rng := r } := fun _ _ => h.keep
  rcases encOp_shape c op with ⟨v, r, e⟩ | ⟨v, r, x, n, e⟩ | ⟨x, n, e⟩ | ⟨v, n, rfl⟩ | ⟨s, rfl⟩
  · rw [e]; exact frame_encNormalize _ (upd v r)
  · rw [e]; exact frame_encBits _ _ _ (frame_encNormalize _ (upd v r))
  · rw [e]; exact frame_encBits _ _ _ h
  · obtain ⟨B, _, _, _, _, e, _, hB | ⟨x, ho, hB⟩⟩ := encPatch_shape c v n
    · simp only [encOp, e, hB]; exact h.keep
    · obtain ⟨h1, h2⟩ := h.set 0 x (by have := h.cur; omega)
      simp only [encOp, e, hB]; exact ⟨h1, h2, h.sto, h.cur, h.fit⟩
  · exact frame_encShrink c s h hs.1 hs.2

/-- Every `ec_enc_shrink` of the list obeys its assert in the state it is applied to. -/
def ShrinksOk (c : Enc) : List Op → Prop
  | [] => True
  | op :: ops => ShrinkOk c op ∧ ShrinksOk (encOp c op) ops

def decShrinksOk : (ops : List Op) → (c : Enc) → Decidable (ShrinksOk c ops)
  | [], _ => isTrue trivial
  | op :: ops, c =>
    match (inferInstance : Decidable (ShrinkOk c op)), decShrinksOk ops (encOp c op) with
    | isTrue h1, isTrue h2 => isTrue ⟨h1, h2⟩
    | isFalse h1, _ => isFalse (fun h => h1 h.1)
    | _, isFalse h2 => isFalse (fun h => h2 h.2)

instance (c : Enc) (ops : List Op) : Decidable (ShrinksOk c ops) := decShrinksOk ops c

theorem frame_encRun {B0 : List Nat} {S0 : Nat} (ops : List Op) : ∀ (c : Enc), Frame B0 S0 c →
    ShrinksOk c ops → Frame B0 S0 (encRun c ops) := by
  induction ops with
  | nil => intro c h _; exact h
  | cons op ops ih => intro c h hs; exact ih _ (frame_encOp c op h hs.1) hs.2

theorem frame_clearMiddle {B0 : List Nat} {S0 : Nat} (c : Enc) (h : Frame B0 S0 c) : Frame B0 S0 (clearMiddle c) := by
  have hl := h.len
  have hs := h.sto
  have hf := h.fit
  have hc := h.cur
  have e : c.offs + (c.storage - c.offs - c.endOffs) = c.storage - c.endOffs := by omega
  refine ⟨(clearMiddle_length c hc (by omega)).trans hl, ?_, hs, hc, hf⟩
  · rw [← h.out]
    unfold clearMiddle
    simp only
    have hl1 : (c.buf.take c.offs ++ List.replicate (c.storage - c.offs - c.endOffs) 0).length =
        c.storage - c.endOffs := by
      simp only [List.length_append, List.length_take, List.length_replicate]; omega
    rw [List.drop_append, hl1, List.drop_of_length_le (by omega), List.nil_append, e,
      List.drop_drop]
    congr 1
    omega

theorem frame_encDone {B0 : List Nat} {S0 : Nat} (c : Enc) (h : Frame B0 S0 c) : Frame B0 S0 (encDone c) :=
  encDone_pres (Frame B0 S0) frame_writeByte (fun _ _ h => h.keep) (fun _ _ h => h.keep) frame_writeByteAtEnd
    frame_clearMiddle (fun c i v hi h => ⟨(h.set i v hi).1, (h.set i v hi).2, h.sto, h.cur, h.fit⟩)
    (fun _ h => h.keep) c h

theorem frame_encInit (buf : List Nat) (size : Nat) (hs : size ≤ buf.length) : Frame buf size (encInit buf size) :=
  ⟨rfl, rfl, Nat.le_refl _, by simp [encInit], hs⟩

theorem frame_self (c : Enc) (h1 : c.offs + c.endOffs ≤ c.storage) (h2 : c.storage ≤ c.buf.length) :
    Frame c.buf c.storage c := ⟨rfl, rfl, Nat.le_refl _, h1, h2⟩

theorem Frame.rebase {B0 : List Nat} {S0 : Nat} {c : Enc} (h : Frame B0 S0 c) : Frame c.buf c.storage c :=
  frame_self c h.cur (by have := h.sto; have := h.fit; have := h.len; omega)

end Opus.RangeCoder
