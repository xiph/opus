import OpusProofs.CeltAllocBasic
/-
  OpusProofs.CeltAllocSkip — the band-skipping loop.  One iteration: what it returns, that the running sum stays within
  the budget and every bit is accounted for.  The loop: its invariant and what it delivers at the break.
-/
namespace OpusProofs.CeltAlloc
open Opus Opus.CeltAlloc
open Opus.Gen.CeltTables

/-- cost in 1/8 bit the allocator itself charges for a coder call: a `bit_logp(…,1)` costs one bit, the intensity
    `uint` with `ft` values is charged `LOG2_FRAC_TABLE[ft-1]`. -/
def opCost : Op → Int
  | .bit _ => 8
  | .uint _ ft => (log2FracTable.getD (ft - 1) 0 : Int)

def opsCost : List Op → Int
  | [] => 0
  | o :: os => opCost o + opsCost os

def sumBits : List (Band × Int) → Int
  | [] => 0
  | x :: xs => x.2 + sumBits xs

theorem toS32_id {y : Int} (h0 : 0 ≤ y) (h1 : y < 2147483648) : toS32 y = y := by
  unfold toS32
  have : y % 4294967296 = y := Int.emod_eq_of_lt h0 (by omega)
  simp only [this]
  rw [if_neg (by omega)]

theorem udiv_eq {n d : Int} (h0 : 0 ≤ n) (h1 : n < 2147483648) (hd : 0 < d) : udiv n d = n / d := by
  unfold udiv
  have e : n % 4294967296 = n := Int.emod_eq_of_lt h0 (by omega)
  rw [e]
  have hq0 : 0 ≤ n / d := Int.ediv_nonneg h0 (by omega)
  have hq1 : n / d ≤ n := Int.ediv_le_self _ h0
  exact toS32_id hq0 (by omega)

theorem bandBits_bounds (b : Band) (bits psum total : Int) (h0 : 0 ≤ total - psum) (h1 : total - psum < 2147483648)
    (hw : 1 ≤ b.w) :
    bits ≤ bandBitsOf b bits psum total ∧ bandBitsOf b bits psum total ≤ bits + (total - psum) := by
  unfold bandBitsOf
  simp only []
  have hwa : (0 : Int) < ((b.lo + b.w : Nat) : Int) := by omega
  rw [udiv_eq h0 h1 hwa]
  generalize hL : total - psum = L at *
  generalize hW : ((b.lo + b.w : Nat) : Int) = W at *
  have hq0 : 0 ≤ L / W := Int.ediv_nonneg h0 (by omega)
  have hm0 : 0 ≤ L % W := Int.emod_nonneg _ (by omega)
  have hqw : L / W * (b.w : Int) ≤ L / W * W := Int.mul_le_mul_of_nonneg_left (by omega) hq0
  have hqw0 : 0 ≤ L / W * (b.w : Int) := Int.mul_nonneg hq0 (by omega)
  have hc : L / W * W = W * (L / W) := Int.mul_comm _ _
  have e : L - W * (L / W) = L % W := (Int.emod_def L W).symm
  rw [e]
  constructor <;> omega

theorem opsCost_cons (o : Op) (os : List Op) : opsCost (o :: os) = opCost o + opsCost os := rfl

theorem ite_le_one (c : Prop) [Decidable c] : (if c then 1 else 0 : Nat) ≤ 1 := by
  split <;> omega

/-- The arithmetic of one iteration does not look at the coder: with `K` the cost of the skip flag (8 if the band is above
    the threshold where a flag is coded, else 0), the band keeps `floor` or nothing and `psum` is updated accordingly. -/
theorem skipStep_fields (p : Inp) (b : Band) (bits psum total irsv : Int) (c : Coder) :
    let r := skipStep p b bits psum total irsv c
    let bb := bandBitsOf b bits psum total
    let K : Int := if bb ≥ max b.thresh (allocFloor p.C + 8) then 8 else 0
    r.irsv = (if irsv > 0 then (log2FracTable.getD (b.j - p.start) 0 : Int) else irsv) ∧
    r.newBits = (if bb - K ≥ allocFloor p.C then allocFloor p.C else 0) ∧
    r.psum = psum + K - (bits + irsv) + r.irsv + r.newBits := by
  intro r bb K
  refine ⟨rfl, ?_, ?_⟩
  · show (if (if decide (bb ≥ max b.thresh (allocFloor p.C + 2 ^ BITRES)) = true then bb - 2 ^ BITRES else bb) ≥
        allocFloor p.C then allocFloor p.C else 0) = _
    simp only [K, pow_BITRES, decide_eq_true_eq]
    by_cases hc : bb ≥ max b.thresh (allocFloor p.C + 8)
    · simp only [if_pos hc]
    · simp only [if_neg hc, Int.sub_zero]
  · simp only [r, K, bb, skipStep, pow_BITRES, decide_eq_true_eq]
    by_cases hc : bandBitsOf b bits psum total ≥ max b.thresh (allocFloor p.C + 8)
    · simp only [if_pos hc]
      split <;> omega
    · simp only [if_neg hc]
      split <;> omega

/-- What one iteration does to the coder: nothing (and then the loop goes on), or, above the threshold, one flag. -/
theorem skipStep_coder (p : Inp) (b : Band) (bits psum total irsv : Int) (c : Coder) :
    let r := skipStep p b bits psum total irsv c
    (¬ bandBitsOf b bits psum total ≥ max b.thresh (allocFloor p.C + 8) ∧ r.coder = c ∧ r.stop = false) ∨
    (bandBitsOf b bits psum total ≥ max b.thresh (allocFloor p.C + 8) ∧
      ∃ v, v ≤ 1 ∧ r.coder.ops = .bit v :: c.ops ∧ r.coder.encode = c.encode) := by
  intro r
  simp only [r, skipStep, pow_BITRES, decide_eq_true_eq]
  by_cases hc : bandBitsOf b bits psum total ≥ max b.thresh (allocFloor p.C + 8)
  · refine Or.inr ⟨hc, ?_⟩
    rw [if_pos hc]
    by_cases he : c.encode = true
    · rw [if_pos he]
      exact ⟨_, ite_le_one _, rfl, rfl⟩
    · rw [if_neg he]
      exact ⟨_, Nat.le_of_lt_succ (Nat.mod_lt _ (by omega)), rfl, rfl⟩
  · exact Or.inl ⟨hc, by rw [if_neg hc], by rw [if_neg hc]⟩

theorem skipStep_ops (p : Inp) (b : Band) (bits psum total irsv : Int) (coder : Coder) :
    ∃ pre, (skipStep p b bits psum total irsv coder).coder.ops = pre ++ coder.ops ∧ pre.length ≤ 1 ∧
      ∀ v ft, Op.uint v ft ∉ pre := by
  rcases skipStep_coder p b bits psum total irsv coder with ⟨_, hco, _⟩ | ⟨_, v, _, hops, _⟩
  · exact ⟨[], by rw [hco]; rfl, by simp, by simp⟩
  · exact ⟨[.bit v], hops, by simp, by simp⟩

/-- Facts about the result `r` of one iteration (the part after the `j<=skip_start` test). -/
structure StepOk (p : Inp) (b : Band) (bits psum total irsv : Int) (c : Coder) (r : StepOut) : Prop where
  newBits : r.newBits = allocFloor p.C ∨ r.newBits = 0
  irsv_eq : r.irsv = (if irsv > 0 then (log2FracTable.getD (b.j - p.start) 0 : Int) else irsv)
  irsv_le : r.irsv ≤ irsv
  irsv_nn : 0 ≤ irsv → 0 ≤ r.irsv
  enc : r.coder.encode = c.encode
  cont : r.stop = false → r.psum ≤ total ∧
    r.psum - r.newBits - r.irsv - opsCost r.coder.ops = psum - bits - irsv - opsCost c.ops ∧
    r.psum - r.newBits ≥ psum - bits - (irsv - r.irsv)
  stop : r.stop = true → opsCost r.coder.ops = opsCost c.ops + 8 ∧ allocFloor p.C + 8 ≤ bits + (total - psum)

theorem skipStep_spec (p : Inp) (hp : Dom p) (b : Band) (bits psum total irsv : Int) (c : Coder)
    (hbits : 0 ≤ bits) (hle : psum ≤ total) (htot : total < 1073741824) (hps : -1073741824 < psum) (hw : 1 ≤ b.w)
    (hmono : irsv > 0 → (log2FracTable.getD (b.j - p.start) 0 : Int) ≤ irsv) :
    StepOk p b bits psum total irsv c (skipStep p b bits psum total irsv c) := by
  have hF := floor_pos hp
  obtain ⟨hb1, hb2⟩ := bandBits_bounds b bits psum total (by omega) (by omega) hw
  obtain ⟨f1, f2, f3⟩ := skipStep_fields p b bits psum total irsv c
  have hcod := skipStep_coder p b bits psum total irsv c
  generalize skipStep p b bits psum total irsv c = r at *
  have hi' : r.irsv ≤ irsv := by
    rw [f1]; split
    · exact hmono (by assumption)
    · exact Int.le_refl _
  have hi0 : 0 ≤ irsv → 0 ≤ r.irsv := fun _ => by rw [f1]; split <;> omega
  generalize bandBitsOf b bits psum total = bb at *
  rcases hcod with ⟨hc, hco, hst⟩ | ⟨hc, v, _, hops, henc⟩
  · -- no flag: `psum` loses the band's bits and regains what the band keeps, at most `bb`
    rw [if_neg hc, Int.add_zero] at f3
    rw [if_neg hc, Int.sub_zero] at f2
    have hnb : r.newBits = allocFloor p.C ∨ r.newBits = 0 := by
      rw [f2]; split
      · exact Or.inl rfl
      · exact Or.inr rfl
    refine ⟨hnb, f1, hi', hi0, by rw [hco], fun _ => ?_, fun h => by rw [hst] at h; cases h⟩
    rw [hco]
    split at f2 <;> omega
  · -- a flag is coded and paid for: the band keeps `floor`, since `bb - 8 ≥ floor`
    rw [if_pos hc] at f3
    rw [if_pos hc, if_pos (by omega)] at f2
    have hcost : opsCost r.coder.ops = opsCost c.ops + 8 := by rw [hops, opsCost_cons, opCost]; omega
    exact ⟨Or.inl f2, f1, hi', hi0, henc, fun _ => by omega, fun _ => ⟨hcost, by omega⟩⟩

/-- consecutive bands, highest first: band numbers go down by one and the band edges fit together -/
def DescB : List Band → Prop
  | [] => True
  | [_] => True
  | a :: b :: t => (b.j + 1 = a.j ∧ b.lo + b.w = a.lo) ∧ DescB (b :: t)

def Desc (l : List (Band × Int)) : Prop := DescB (l.map (·.1))

theorem Desc_tail {a : Band × Int} {t : List (Band × Int)} (h : Desc (a :: t)) : Desc t := by
  cases t with
  | nil => trivial
  | cons b t => exact h.2

theorem Desc_head {a x : Band × Int} {t : List (Band × Int)} (h : Desc (a :: t)) (hx : t.head? = some x) :
    x.1.j + 1 = a.1.j ∧ x.1.lo + x.1.w = a.1.lo := by
  cases t with
  | nil => cases hx
  | cons y t => cases hx; exact h.1

def sumW : List (Band × Int) → Nat
  | [] => 0
  | x :: xs => x.1.w + sumW xs

theorem table_step : ∀ i, i < 23 → log2FracTable.getD i 0 ≤ log2FracTable.getD (i + 1) 0 := by decide

theorem table_pos : ∀ i, i < 24 → 1 ≤ i → 0 < log2FracTable.getD i 0 := by decide

theorem sumBits_append (a b : List (Band × Int)) : sumBits (a ++ b) = sumBits a + sumBits b := by
  induction a with
  | nil => simp [sumBits]
  | cons x t ih => simp only [List.cons_append, sumBits, ih]; omega

theorem sumBits_nonneg : ∀ (l : List (Band × Int)), (∀ x ∈ l, 0 ≤ x.2) → 0 ≤ sumBits l := by
  intro l
  induction l with
  | nil => intro _; simp [sumBits]
  | cons x t ih =>
    intro h
    have := ih (fun y hy => h y (by simp [hy]))
    have := h x (by simp)
    simp only [sumBits]; omega

/-- the loop makes at most one call per band, flags only -/
theorem skipLoop_ops (p : Inp) (ss : Nat) (rsv : Int) : ∀ (l : List (Band × Int)) (psum total irsv : Int) (coder : Coder)
    (acc : List (Band × Int)) (s : SkipOut), skipLoop p ss rsv l psum total irsv coder acc = .ok s →
    ∃ pre, s.coder.ops = pre ++ coder.ops ∧ pre.length ≤ l.length ∧ ∀ v ft, Op.uint v ft ∉ pre := by
  refine skipLoop_cases p ss rsv ?_ ?_ ?_
  · intros; exact ⟨[], rfl, by simp, by simp⟩
  · intro b bits rest psum total irsv c _ _ _
    obtain ⟨pre1, h1, h2, h3⟩ := skipStep_ops p b bits psum total irsv c
    exact ⟨pre1, h1, by simp; omega, h3⟩
  · intro b bits rest psum total irsv c _ s _ _ ⟨pre2, g1, g2, g3⟩
    obtain ⟨pre1, h1, h2, h3⟩ := skipStep_ops p b bits psum total irsv c
    refine ⟨pre2 ++ pre1, by rw [g1, h1, List.append_assoc], by simp; omega, fun v ft hm => ?_⟩
    rcases List.mem_append.1 hm with hm | hm
    · exact g3 v ft hm
    · exact h3 v ft hm

/-- State of the loop before an iteration. `I` is the intensity reservation on entry.  The numeric bounds are those the
    steps need, not the sharpest that hold: `j < 22` keeps `j + 1 - start` inside the 24 entries of LOG2_FRAC_TABLE (the bands
    have `j < 21`), `I ≤ 1024` (in fact `≤ 37`) and `total < 2^30 - 8` (in fact `≤ 2^24`, `Dom.totB`) keep `total - psum` and
    `total + 8` inside the 31 bits `celt_udiv` is exact on. -/
structure LoopInv (p : Inp) (I : Int) (l : List (Band × Int)) (psum total irsv : Int) : Prop where
  desc : Desc l
  rng : ∀ x ∈ l, p.start ≤ x.1.j ∧ x.1.j < 22 ∧ 1 ≤ x.1.w
  bits_nn : ∀ x ∈ l, 0 ≤ x.2
  le : psum ≤ total
  totB : total < 1073741824 - 8
  low : sumBits l ≤ psum + (I - irsv)
  irB : 0 ≤ irsv ∧ irsv ≤ I ∧ I ≤ 1024
  irPos : 0 < I → 0 < irsv
  irHead : 0 < irsv → ∀ x, l.head? = some x → irsv = (log2FracTable.getD (x.1.j + 1 - p.start) 0 : Int)
  wsum : ∀ x, l.head? = some x → sumW l = x.1.lo + x.1.w

/-- What the loop delivers at its break, for a run from a state in `LoopInv`: `rsv` is the skip bit reserved on entry
    (8, or 0 when the budget was below one bit). -/
structure LoopOut (p : Inp) (I rsv : Int) (l acc : List (Band × Int)) (psum total irsv : Int) (c : Coder)
    (s : SkipOut) : Prop where
  spec : SkipSpec l acc s
  le : s.psum ≤ s.total
  totB : s.total < 1073741824
  kept_nn : ∀ x ∈ s.kept, 0 ≤ x.2
  skipped : ∀ x ∈ s.skipped, x ∈ acc ∨ x.2 = allocFloor p.C ∨ x.2 = 0
  /-- every 1/8 bit is accounted for: the reserved skip bit is either refunded or spent on the "stop" flag -/
  account : s.total - s.psum + sumBits s.kept + sumBits s.skipped + s.irsv + opsCost s.coder.ops =
    total - psum + sumBits l + sumBits acc + irsv + opsCost c.ops + rsv
  irB : 0 ≤ s.irsv ∧ s.irsv ≤ I
  irPos : 0 < I → 0 < s.irsv
  irCb : 0 < s.irsv → s.irsv = (log2FracTable.getD (s.codedBands - p.start) 0 : Int)
  enc : s.coder.encode = c.encode
  wsum : ∀ x, s.kept.head? = some x → sumW s.kept = x.1.lo + x.1.w
  kept_rng : ∀ x ∈ s.kept, p.start ≤ x.1.j ∧ x.1.j < 22 ∧ 1 ≤ x.1.w
  low : sumBits s.kept ≤ s.psum + (I - s.irsv)

/-! One iteration from a state in `LoopInv`, at the band `b`. -/
section
variable {p : Inp} {I : Int} {b : Band} {bits : Int} {rest : List (Band × Int)} {psum total irsv : Int}
  (inv : LoopInv p I ((b, bits) :: rest) psum total irsv)
include inv

theorem loopInv_stepSpec (hp : Dom p) (c : Coder) :
    StepOk p b bits psum total irsv c (skipStep p b bits psum total irsv c) := by
  have hb := inv.rng (b, bits) (by simp)
  have hbits := inv.bits_nn (b, bits) (by simp)
  simp only at hb hbits
  refine skipStep_spec p hp b bits psum total irsv c hbits inv.le (by have := inv.totB; omega) ?_ hb.2.2 ?_
  · have := inv.irB
    have := sumBits_nonneg _ inv.bits_nn
    have := inv.low
    omega
  · intro hpos
    have e := inv.irHead hpos (b, bits) rfl
    simp only at e
    have := table_step (b.j - p.start) (by omega)
    rw [e, show b.j + 1 - p.start = b.j - p.start + 1 by omega]
    omega

/-- an iteration that does not stop hands the invariant on to the bands below -/
theorem loopInv_next (hp : Dom p) (c : Coder) (hjs : p.start < b.j)
    (hst : (skipStep p b bits psum total irsv c).stop = false) :
    LoopInv p I rest (skipStep p b bits psum total irsv c).psum total (skipStep p b bits psum total irsv c).irsv := by
  obtain ⟨hnb, hirsv, hir_le, hir_nn, _, hcont, _⟩ := loopInv_stepSpec inv hp c
  obtain ⟨hle', _, hlow'⟩ := hcont hst
  have hb := inv.rng (b, bits) (by simp)
  simp only at hb
  have hlow := inv.low
  have hirB := inv.irB
  have hF := floor_pos hp
  generalize skipStep p b bits psum total irsv c = r at *
  have hpos' : 0 < irsv → r.irsv = (log2FracTable.getD (b.j - p.start) 0 : Int) := fun h => by rw [hirsv, if_pos h]
  simp only [sumBits] at hlow
  refine {
    desc := Desc_tail inv.desc
    rng := fun x hx => inv.rng x (by simp [hx])
    bits_nn := fun x hx => inv.bits_nn x (by simp [hx])
    le := hle'
    totB := inv.totB
    low := by omega
    irB := ⟨hir_nn hirB.1, by omega, hirB.2.2⟩
    irPos := ?_
    irHead := ?_
    wsum := ?_ }
  · intro hI
    have := table_pos (b.j - p.start) (by omega) (by omega)
    have := hpos' (inv.irPos hI)
    omega
  · intro hpos x hx
    rw [hpos' (by omega), (Desc_head inv.desc hx).1]
  · intro x hx
    have hws := inv.wsum (b, bits) rfl
    have := (Desc_head inv.desc hx).2
    simp only [sumW] at hws this
    omega

/-- The loop ends at the head of the list with the coder `c'` and the budget `total'`: the invariant is the postcondition,
    provided the reserved skip bit is accounted for — refunded (`total' = total + rsv`) or spent on a flag. -/
theorem loopOut_here {rsv : Int} {acc : List (Band × Int)} {c : Coder} (total' : Int) (c' : Coder)
    (hle : total ≤ total') (hle' : total' ≤ total + 8) (henc : c'.encode = c.encode)
    (hacc : total' + opsCost c'.ops = total + opsCost c.ops + rsv) :
    LoopOut p I rsv ((b, bits) :: rest) acc psum total irsv c
      { codedBands := b.j + 1, total := total', psum := psum, irsv := irsv, coder := c', kept := (b, bits) :: rest,
        skipped := acc } := by
  have := inv.le
  have := inv.totB
  exact {
    spec := skipSpec_here rfl rfl rfl
    le := by simp only; omega
    totB := by simp only; omega
    kept_nn := inv.bits_nn
    skipped := fun x hx => Or.inl hx
    account := by simp only; omega
    irB := ⟨inv.irB.1, inv.irB.2.1⟩
    irPos := inv.irPos
    irCb := fun hpos => inv.irHead hpos (b, bits) rfl
    enc := henc
    wsum := inv.wsum
    kept_rng := inv.rng
    low := inv.low }

end

/-- `hr` and the hypothesis `rsv = 0 → total < 8`: when no skip bit could be reserved the budget is below one bit, nothing was
    reserved for intensity either, and no band reaches the threshold at which a flag is coded; so a stop flag is always
    paid for by the reserved bit. -/
theorem skipLoop_out (p : Inp) (hp : Dom p) (I : Int) (ss : Nat) (rsv : Int) (hr : rsv = 8 ∨ (rsv = 0 ∧ I = 0)) :
    ∀ (l : List (Band × Int)) (psum total irsv : Int) (c : Coder) (acc : List (Band × Int)) (s : SkipOut),
    skipLoop p ss rsv l psum total irsv c acc = .ok s →
    (∃ x ∈ l, x.1.j ≤ ss) → LoopInv p I l psum total irsv → (rsv = 0 → total < 8) →
    LoopOut p I rsv l acc psum total irsv c s := by
  refine skipLoop_cases p ss rsv ?_ ?_ ?_
  · -- break: j <= skip_start, the reserved bit is refunded
    intro b bits rest psum total irsv c acc _ _ inv _
    exact loopOut_here inv _ c (by omega) (by omega) rfl (by omega)
  · -- break: the encoder / decoder stops skipping here; the reserved bit pays for the flag
    intro b bits rest psum total irsv c acc _ hst _ inv hsmall
    have ok := loopInv_stepSpec inv hp c
    obtain ⟨hcost, hroom⟩ := ok.stop hst
    have hr8 : rsv = 8 := by
      rcases hr with h | ⟨h0, hI⟩
      · exact h
      · have := hsmall h0
        have := floor_pos hp
        have := inv.irB
        have := inv.le
        have hlow := inv.low
        have := sumBits_nonneg rest (fun x hx => inv.bits_nn x (by simp [hx]))
        simp only [sumBits] at hlow
        omega
    exact loopOut_here inv _ _ (Int.le_refl _) (by omega) ok.enc (by omega)
  · intro b bits rest psum total irsv c acc s hj hst ih hex inv hsmall
    have hex' := hex_tail hex hj
    have hjs : p.start < b.j := by
      obtain ⟨x, hx, hxj⟩ := hex'
      have := (inv.rng x (by simp [hx])).1
      omega
    have out := ih hex' (loopInv_next inv hp c hjs hst) hsmall
    have ok := loopInv_stepSpec inv hp c
    obtain ⟨_, hacc, _⟩ := ok.cont hst
    refine { out with spec := skipSpec_cons out.spec, skipped := ?_, account := ?_, enc := by rw [out.enc, ok.enc] }
    · intro x hx
      rcases out.skipped x hx with h | h
      · rcases List.mem_cons.1 h with rfl | h
        · exact Or.inr ok.newBits
        · exact Or.inl h
      · exact Or.inr h
    · have := out.account
      simp only [sumBits] at this ⊢
      omega

end OpusProofs.CeltAlloc
