import OpusModel.CeltAlloc
/-
  OpusProofs.CeltAllocBasic — shapes of the band lists; the band-skipping loop as a recursion (its case rule
  `skipLoop_cases`, totality, `SkipSpec`); names for the intermediate values of `computeAllocation`, its domain `Dom`,
  the reservations; and the two bisections: they end at a point whose cost does not exceed the budget, so the initial `bits[]` sum to at most `total`.
-/
namespace OpusProofs.CeltAlloc
open Opus Opus.CeltAlloc
open Opus.Gen.CeltTables

theorem pow_BITRES : (2 : Int) ^ BITRES = 8 := by decide

theorem bands_length (p : Inp) : (bands p).length = p.end_ - p.start := by simp [bands]

theorem mem_bands {p : Inp} {b : Band} (h : b ∈ bands p) : p.start ≤ b.j ∧ b.j < p.end_ ∧ b = mkBand p b.j := by
  simp only [bands, List.mem_map, List.mem_range] at h
  obtain ⟨i, hi, rfl⟩ := h
  exact ⟨by simp [mkBand], by simp only [mkBand]; omega, rfl⟩

theorem first_band_mem {p : Inp} (h : p.start < p.end_) : mkBand p p.start ∈ bands p := by
  simp only [bands, List.mem_map, List.mem_range]
  exact ⟨0, by omega, rfl⟩

theorem initBits_length (floor : Int) : ∀ (l : List (Int × Int × Int)) (d : Bool), (initBits floor l d).length = l.length := by
  intro l
  induction l with
  | nil => intro d; rfl
  | cons x rest ih =>
    intro d
    obtain ⟨tmp, thresh, cap⟩ := x
    simp only [initBits]
    split <;> simp [ih]

theorem skipStart_ge (start : Nat) (bs : List Band) (h : ∀ b ∈ bs, start ≤ b.j) : start ≤ skipStart start bs := by
  unfold skipStart
  suffices ∀ (l : List Band) (acc : Nat), (∀ b ∈ l, start ≤ b.j) → start ≤ acc →
      start ≤ l.foldl (fun acc b => if b.off > 0 then b.j else acc) acc from this bs start h (Nat.le_refl _)
  intro l
  induction l with
  | nil => intro acc _ ha; exact ha
  | cons b rest ih =>
    intro acc hl ha
    simp only [List.foldl_cons]
    apply ih _ (fun x hx => hl x (by simp [hx]))
    split
    · exact hl b (by simp)
    · exact ha

/-- The three ways the band-skipping loop produces its result: the break at `skip_start` (the reserved bit goes back to
    `total`), the stop flag, or the rest of the loop after one skipped band.  A statement about every result of the loop
    follows from these three cases. -/
theorem skipLoop_cases (p : Inp) (ss : Nat) (rsv : Int)
    {motive : List (Band × Int) → Int → Int → Int → Coder → List (Band × Int) → SkipOut → Prop}
    (brk : ∀ b bits rest psum total irsv c acc, b.j ≤ ss →
      motive ((b, bits) :: rest) psum total irsv c acc
        { codedBands := b.j + 1, total := total + rsv, psum := psum, irsv := irsv, coder := c,
          kept := (b, bits) :: rest, skipped := acc })
    (stop : ∀ b bits rest psum total irsv c acc, ¬ b.j ≤ ss → (skipStep p b bits psum total irsv c).stop = true →
      motive ((b, bits) :: rest) psum total irsv c acc
        { codedBands := b.j + 1, total := total, psum := psum, irsv := irsv,
          coder := (skipStep p b bits psum total irsv c).coder, kept := (b, bits) :: rest, skipped := acc })
    (cont : ∀ b bits rest psum total irsv c acc s, ¬ b.j ≤ ss → (skipStep p b bits psum total irsv c).stop = false →
      motive rest (skipStep p b bits psum total irsv c).psum total (skipStep p b bits psum total irsv c).irsv
        (skipStep p b bits psum total irsv c).coder ((b, (skipStep p b bits psum total irsv c).newBits) :: acc) s →
      motive ((b, bits) :: rest) psum total irsv c acc s) :
    ∀ l psum total irsv c acc s, skipLoop p ss rsv l psum total irsv c acc = .ok s → motive l psum total irsv c acc s := by
  intro l
  induction l with
  | nil => intro _ _ _ _ _ _ h; simp [skipLoop] at h
  | cons hd rest ih =>
    intro psum total irsv c acc s h
    obtain ⟨b, bits⟩ := hd
    rw [skipLoop] at h
    by_cases hj : b.j ≤ ss
    · rw [if_pos hj] at h
      injection h with h
      subst h
      exact brk _ _ _ _ _ _ _ _ hj
    · rw [if_neg hj] at h
      by_cases hst : (skipStep p b bits psum total irsv c).stop = true
      · simp only [hst, if_true] at h
        injection h with h
        subst h
        exact stop _ _ _ _ _ _ _ _ hj hst
      · simp only [hst] at h
        exact cont _ _ _ _ _ _ _ _ s hj (by simpa using hst) (ih _ _ _ _ _ s h)

/-- below a band that is above `skip_start` there is still a band at or below it -/
theorem hex_tail {ss : Nat} {a : Band × Int} {rest : List (Band × Int)} (hex : ∃ x ∈ a :: rest, x.1.j ≤ ss)
    (hj : ¬ a.1.j ≤ ss) : ∃ x ∈ rest, x.1.j ≤ ss := by
  obtain ⟨x, hx, hxj⟩ := hex
  rcases List.mem_cons.1 hx with rfl | hx
  · exact absurd hxj hj
  · exact ⟨x, hx, hxj⟩

/-- **Totality of the band-skipping `for(;;)` loop**: if some band of the list is at or below `skip_start`, the loop
    breaks (no `.abort`). -/
theorem skipLoop_total (p : Inp) (ss : Nat) (rsv : Int) : ∀ (l : List (Band × Int)) (psum total irsv : Int) (c : Coder)
    (acc : List (Band × Int)), (∃ x ∈ l, x.1.j ≤ ss) → ∃ s, skipLoop p ss rsv l psum total irsv c acc = .ok s := by
  intro l
  induction l with
  | nil => intro _ _ _ _ _ ⟨x, hx, _⟩; simp at hx
  | cons hd rest ih =>
    intro psum total irsv c acc hex
    rw [skipLoop]
    by_cases hj : hd.1.j ≤ ss
    · rw [if_pos hj]; exact ⟨_, rfl⟩
    · rw [if_neg hj]
      dsimp only
      split
      · exact ⟨_, rfl⟩
      · exact ih _ _ _ _ _ (hex_tail hex hj)

structure SkipSpec (l : List (Band × Int)) (acc : List (Band × Int)) (s : SkipOut) : Prop where
  /-- the list is split: the kept part (a suffix of the input, unchanged) and the newly skipped bands -/
  split : ∃ pre : List (Band × Int), l = pre ++ s.kept ∧ s.skipped.map (·.1) = pre.reverse.map (·.1) ++ acc.map (·.1)
  kept_ne : s.kept ≠ []
  cb : ∀ x, s.kept.head? = some x → s.codedBands = x.1.j + 1

/-- a result that keeps the whole list and skips nothing new -/
theorem skipSpec_here {b : Band} {bits : Int} {rest acc : List (Band × Int)} {s : SkipOut}
    (hk : s.kept = (b, bits) :: rest) (hs : s.skipped = acc) (hc : s.codedBands = b.j + 1) :
    SkipSpec ((b, bits) :: rest) acc s where
  split := ⟨[], by simp [hk, hs]⟩
  kept_ne := by simp [hk]
  cb := by simp [hk, hc]

/-- one more band skipped in front of a result of the rest of the loop -/
theorem skipSpec_cons {b : Band} {bits nb : Int} {rest acc : List (Band × Int)} {s : SkipOut}
    (h : SkipSpec rest ((b, nb) :: acc) s) : SkipSpec ((b, bits) :: rest) acc s := by
  obtain ⟨pre, hp1, hp2⟩ := h.split
  exact ⟨⟨(b, bits) :: pre, by simp [hp1], by rw [hp2]; simp⟩, h.kept_ne, h.cb⟩

/-- the kept bands in ascending order, then the skipped ones: the list the loop was given, reversed, then `acc` -/
theorem SkipSpec.bands_eq {l acc : List (Band × Int)} {s : SkipOut} (h : SkipSpec l acc s) :
    s.kept.reverse.map (·.1) ++ s.skipped.map (·.1) = l.reverse.map (·.1) ++ acc.map (·.1) := by
  obtain ⟨pre, h1, h2⟩ := h.split
  rw [h2, h1]
  simp

theorem skipLoop_spec (p : Inp) (ss : Nat) (rsv : Int) : ∀ (l : List (Band × Int)) (psum total irsv : Int) (c : Coder)
    (acc : List (Band × Int)) (s : SkipOut), skipLoop p ss rsv l psum total irsv c acc = .ok s → SkipSpec l acc s := by
  refine skipLoop_cases p ss rsv ?_ ?_ ?_
  · intros; exact skipSpec_here rfl rfl rfl
  · intros; exact skipSpec_here rfl rfl rfl
  · intro b bits rest _ _ _ _ acc s _ _ h
    exact skipSpec_cons h

/-- The loop breaks, and what it returns keeps a non-empty suffix of the list whose first band is `codedBands-1`. -/
theorem skipLoop_ok (p : Inp) (ss : Nat) (rsv : Int) : ∀ (l : List (Band × Int)) (psum total irsv : Int) (c : Coder)
    (acc : List (Band × Int)), (∃ x ∈ l, x.1.j ≤ ss) →
    ∃ s, skipLoop p ss rsv l psum total irsv c acc = .ok s ∧ SkipSpec l acc s := by
  intro l psum total irsv c acc hex
  obtain ⟨s, hs⟩ := skipLoop_total p ss rsv l psum total irsv c acc hex
  exact ⟨s, hs, skipLoop_spec p ss rsv l psum total irsv c acc s hs⟩

/-! ## Names for the intermediate values of `computeAllocation` -/

def tot0 (p : Inp) : Int := max p.total 0
def skipRsv (p : Inp) : Int := if tot0 p ≥ 2 ^ BITRES then 2 ^ BITRES else 0
def tot1 (p : Inp) : Int := tot0 p - skipRsv p
def irsvTab (p : Inp) : Int := if p.C = 2 then (log2FracTable.getD (p.end_ - p.start) 0 : Int) else 0
def irsv (p : Inp) : Int := if p.C = 2 ∧ irsvTab p > tot1 p then 0 else irsvTab p
def tot2 (p : Inp) : Int := if p.C = 2 ∧ ¬ irsvTab p > tot1 p then tot1 p - irsv p else tot1 p
def dsrsv (p : Inp) : Int := if p.C = 2 ∧ ¬ irsvTab p > tot2 p + irsv p ∧ tot2 p ≥ 2 ^ BITRES then 2 ^ BITRES else 0
/-- `total` as passed to `interp_bits2pulses` -/
def tot (p : Inp) : Int := tot2 p - dsrsv p
def lo1 (p : Inp) : Nat := outerLoop (outerPsum p (bands p)) (tot p) 1 nbAllocVectors
def b12 (p : Inp) : List (Int × Int) := (bands p).map (interpPair p (lo1 p - 1) (lo1 p))
def entAt (p : Inp) (mid : Nat) : List (Int × Int × Int) :=
  ((bands p).zip (b12 p)).reverse.map fun x => (interpAt mid x.2, x.1.thresh, x.1.cap)
def ilo (p : Inp) : Nat :=
  innerLoop (fun mid => scan (allocFloor p.C) (entAt p mid) false) (tot p) ALLOC_STEPS 0 (2 ^ ALLOC_STEPS)
def bits0 (p : Inp) : List Int := initBits (allocFloor p.C) (entAt p (ilo p)) false

/-- The domain: what celt_encoder.c / celt_decoder.c can pass. -/
structure Dom (p : Inp) : Prop where
  hse : p.start < p.end_
  hend : p.end_ ≤ nbEBands
  hC : p.C = 1 ∨ p.C = 2
  hLM : p.LM ≤ 3
  offs : ∀ j, 0 ≤ p.offsets.getD j 0
  capB : ∀ j, 0 ≤ p.cap.getD j 0 ∧ p.cap.getD j 0 ≤ 16777216
  totB : p.total ≤ 16777216

/-- The reservations of `clt_compute_allocation` (rate.c:549-568), case by case. -/
theorem resv_facts (p : Inp) :
    (skipRsv p = 8 ∧ tot0 p ≥ 8 ∨ skipRsv p = 0 ∧ tot0 p < 8) ∧
    tot2 p = tot0 p - skipRsv p - irsv p ∧
    (irsv p = 0 ∨ (p.C = 2 ∧ irsv p = (log2FracTable.getD (p.end_ - p.start) 0 : Int) ∧ irsv p ≤ tot0 p - skipRsv p)) ∧
    (p.C = 2 → (log2FracTable.getD (p.end_ - p.start) 0 : Int) > tot0 p - skipRsv p → irsv p = 0) ∧
    (dsrsv p = 0 ∨ dsrsv p = 8 ∧ tot2 p ≥ 8) ∧ tot p = tot2 p - dsrsv p := by
  have hs : skipRsv p = 8 ∧ tot0 p ≥ 8 ∨ skipRsv p = 0 ∧ tot0 p < 8 := by
    unfold skipRsv; rw [pow_BITRES]; split <;> omega
  have hd : dsrsv p = 0 ∨ dsrsv p = 8 ∧ tot2 p ≥ 8 := by
    unfold dsrsv; rw [pow_BITRES]
    split
    · rename_i h; exact Or.inr ⟨rfl, h.2.2⟩
    · exact Or.inl rfl
  refine ⟨hs, ?_, ?_, ?_, hd, rfl⟩
  · unfold tot2 irsv tot1
    by_cases hC : p.C = 2
    · by_cases ht : irsvTab p > tot0 p - skipRsv p
      · simp only [hC, ht, true_and, not_true_eq_false, and_false, if_false, if_true]; omega
      · simp only [hC, ht, true_and, not_false_eq_true, and_true, if_false, if_true]
    · simp only [hC, false_and, if_false]
      unfold irsvTab; rw [if_neg hC]; omega
  · unfold irsv tot1 irsvTab
    by_cases hC : p.C = 2
    · simp only [hC, true_and, if_true]
      split
      · exact Or.inl rfl
      · exact Or.inr ⟨rfl, by omega⟩
    · simp only [hC, false_and, if_false]; exact Or.inl trivial
  · intro hC ht
    unfold irsv tot1 irsvTab
    simp only [hC, true_and, if_true]
    rw [if_pos ht]

theorem initBits_sum_le_scan (floor : Int) : ∀ (l : List (Int × Int × Int)) (d : Bool),
    sumInt (initBits floor l d) ≤ scan floor l d := by
  intro l
  induction l with
  | nil => intro d; simp [initBits, scan, sumInt]
  | cons x rest ih =>
    intro d
    obtain ⟨tmp, thresh, cap⟩ := x
    simp only [initBits, scan]
    by_cases h : tmp ≥ thresh ∨ d = true
    · have h' : ¬ (tmp < thresh ∧ ¬ d = true) := by
        intro ⟨a, b⟩; rcases h with h | h
        · omega
        · exact b h
      rw [if_pos h, if_neg h']
      simp only [sumInt]
      have := ih true; omega
    · have h' : tmp < thresh ∧ ¬ d = true := ⟨by omega, fun hd => h (Or.inr hd)⟩
      rw [if_neg h, if_pos h']
      simp only [sumInt]
      have := ih false
      split <;> omega

theorem scan_zero (floor : Int) (hf : 0 < floor) : ∀ (l : List (Int × Int × Int)),
    (∀ x ∈ l, x.1 = 0 ∧ 0 < x.2.1) → scan floor l false = 0 := by
  intro l
  induction l with
  | nil => intro _; rfl
  | cons x rest ih =>
    intro h
    obtain ⟨tmp, thresh, cap⟩ := x
    obtain ⟨h1, h2⟩ := h (tmp, thresh, cap) (by simp)
    simp only at h1 h2
    subst h1
    simp only [scan]
    rw [if_neg (by simp; omega), if_neg (by omega), ih (fun x hx => h x (by simp [hx]))]
    rfl

theorem innerLoop_le (psumAt : Nat → Int) (T : Int) : ∀ n lo hi, psumAt lo ≤ T →
    psumAt (innerLoop psumAt T n lo hi) ≤ T := by
  intro n
  induction n with
  | zero => intro lo hi h; exact h
  | succ n ih =>
    intro lo hi h
    simp only [innerLoop]
    split
    · exact ih lo _ h
    · exact ih _ hi (by omega)

theorem outerLoop_spec (psumAt : Nat → Int) (T : Int) (lo hi1 : Nat) (h0 : 1 ≤ lo) (hle : lo ≤ hi1)
    (hq : lo = 1 ∨ psumAt (lo - 1) ≤ T) :
    1 ≤ outerLoop psumAt T lo hi1 ∧ outerLoop psumAt T lo hi1 ≤ hi1 ∧
    (outerLoop psumAt T lo hi1 = 1 ∨ psumAt (outerLoop psumAt T lo hi1 - 1) ≤ T) := by
  induction lo, hi1 using outerLoop.induct psumAt T with
  | case1 lo hi1 hlt mid hgt ih =>
    rw [outerLoop, dif_pos hlt]
    simp only []
    rw [if_pos (show psumAt ((lo + hi1 - 1) / 2) > T from hgt)]
    obtain ⟨a1, a2, a3⟩ := ih h0 (by omega) hq
    exact ⟨a1, Nat.le_trans a2 (by omega), a3⟩
  | case2 lo hi1 hlt mid hgt ih =>
    rw [outerLoop, dif_pos hlt]
    simp only []
    rw [if_neg (show ¬ psumAt ((lo + hi1 - 1) / 2) > T from hgt)]
    exact ih (by omega) (by omega) (Or.inr (by simp only [Nat.add_sub_cancel]; omega))
  | case3 lo hi1 hge =>
    rw [outerLoop, dif_neg hge]
    exact ⟨h0, hle, hq⟩


theorem zip_map_self {α β : Type} (f : α → β) (l : List α) : l.zip (l.map f) = l.map (fun x => (x, f x)) := by
  simpa using List.zip_map' (f := id) (g := f) (l := l)

theorem entAt_eq (p : Inp) (mid : Nat) :
    entAt p mid = (bands p).reverse.map
      (fun b => (interpAt mid (interpPair p (lo1 p - 1) (lo1 p) b), b.thresh, b.cap)) := by
  unfold entAt b12
  rw [zip_map_self, ← List.map_reverse, List.map_map]
  rfl

theorem interpAt_zero (x : Int × Int) : interpAt 0 x = x.1 := by simp [interpAt]

theorem row0_zero : ∀ j, j < 21 → allocVectors.getD j 0 = 0 := by decide

theorem width_bounds : ∀ j, j < 21 → 1 ≤ width j ∧ width j ≤ 22 := by decide

theorem floor_pos {p : Inp} (h : Dom p) : 0 < allocFloor p.C := by
  unfold allocFloor
  rw [pow_BITRES]; rcases h.hC with e | e <;> rw [e] <;> decide

theorem lo1_spec (p : Inp) : 1 ≤ lo1 p ∧ lo1 p ≤ nbAllocVectors ∧
    (lo1 p = 1 ∨ outerPsum p (bands p) (lo1 p - 1) ≤ tot p) :=
  outerLoop_spec _ _ 1 nbAllocVectors (Nat.le_refl _) (by decide) (Or.inl rfl)

/-- The interpolation at `mid = 0` costs no more than the budget. -/
theorem scan0_le {p : Inp} (h : Dom p) : scan (allocFloor p.C) (entAt p 0) false ≤ tot p := by
  obtain ⟨h1, _, h3⟩ := lo1_spec p
  rw [entAt_eq]
  by_cases hl : lo1 p = 1
  · -- lower vector is vector 0: nothing allocated
    rw [scan_zero _ (floor_pos h)]
    · -- no reservation is taken that the budget does not cover
      obtain ⟨h1, h2, h3, _, h5, h6⟩ := resv_facts p
      have : 0 ≤ tot0 p := by unfold tot0; omega
      omega
    · intro x hx
      simp only [List.mem_map, List.mem_reverse] at hx
      obtain ⟨b, hb, rfl⟩ := hx
      obtain ⟨_, hj, hbe⟩ := mem_bands hb
      have hj21 : b.j < 21 := Nat.lt_of_lt_of_le hj h.hend
      have hth : 0 < b.thresh := by
        have := floor_pos h
        rw [hbe]
        simp only [mkBand]
        omega
      refine ⟨?_, hth⟩
      simp only [interpAt_zero, interpPair, hl, Nat.sub_self, Nat.lt_irrefl, if_false, gt_iff_lt]
      have hv : vecBits p 0 b = 0 := by
        simp only [vecBits, Nat.zero_mul, Nat.zero_add, row0_zero b.j hj21, Nat.mul_zero, Nat.zero_div]
        rfl
      simp [hv, trimmed]
  · rcases h3 with h3 | h3
    · exact absurd h3 hl
    · have hpos : lo1 p - 1 > 0 := by omega
      simp only [interpAt_zero, interpPair, hpos, if_true]
      exact h3

/-- **After the bisections the initial `bits[]` fit the budget.** -/
theorem bits0_sum_le {p : Inp} (h : Dom p) : sumInt (bits0 p) ≤ tot p := by
  have h1 := initBits_sum_le_scan (allocFloor p.C) (entAt p (ilo p)) false
  have h2 := innerLoop_le (fun mid => scan (allocFloor p.C) (entAt p mid) false) (tot p) ALLOC_STEPS 0 (2 ^ ALLOC_STEPS)
    (scan0_le h)
  unfold bits0 ilo
  exact Int.le_trans h1 h2

end OpusProofs.CeltAlloc
