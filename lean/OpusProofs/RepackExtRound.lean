import OpusProofs.RepackExtOut
import OpusProofs.RepackProps
/-
  C07 (repacketizer): `opus_repacketizer_out_range_impl` with extensions, assembled.  First what C16's scanner says
  about the paddings of reachable states (byte strings of packets with at most 48 frames, `PadsOk`): count and parse
  agree (`pad_facts`), so the gathering loops can be followed (`PadReads`).  Then: the emitted packet is
  valid, holds the selected frames, and its padding is `0x01 … 0x01` followed by the bytes the generator wrote
  for the caller's extensions and the gathered, renumbered ones (`outRangeImpl_ext_gen`); `outRangeImpl_ext_full_pad`
  adds what those bytes read back to (C16's `parse_padded_full`).
-/
namespace Opus.RepackProofs
open Opus Opus.Framing Opus.FramingSpec Opus.FramingProofs Opus.Repack Opus.Ext Opus.ExtProofs

/-- Every stored padding is a byte string and belongs to a packet of at most 48 frames. -/
def PadsOk (pads : List (Bytes × Nat)) : Prop := ∀ pn ∈ pads, BytesOk pn.1 ∧ pn.2 ≤ 48

theorem pad_facts (p : Bytes) (hb : BytesOk p) (nf : Nat) (hnf : nf ≤ 48) :
    PadReads p nf ∧
      ∀ e ∈ padRefs p nf, 3 ≤ e.id ∧ e.id ≤ 127 ∧ e.frame < nf ∧ 0 ≤ e.len ∧ (e.off : Int) + e.len ≤ p.length ∧
          (e.id < 32 → e.len ≤ 1) := by
  obtain ⟨it, l, s, hit, hall, _, hext, hcount, _⟩ := scan_agree p hb nf hnf
  have hshort := iterAll_short (iterInit_inv hb (Int.le_refl _) hit).1 hall
  refine ⟨.of_count hcount, ?_⟩
  rw [padRefs_scan hit hall]
  split
  · intro e he
    obtain ⟨a, b, c, d, f⟩ := hext e he
    exact ⟨a, b, c, d, f, hshort e he⟩
  · exact nofun

theorem gathered_length_le (pads : List (Bytes × Nat)) (hok : PadsOk pads) (i b e : Nat) :
    (gathered pads i b e).length ≤ countSum pads i b := by
  induction pads generalizing i with
  | nil => simp [gathered, countSum]
  | cons pn rest ih =>
    obtain ⟨p, nf⟩ := pn
    obtain ⟨hb, hnf⟩ := hok (p, nf) (by simp)
    have hr : PadsOk rest := fun x hx => hok x (by simp [hx])
    obtain ⟨⟨n, hn, hle, _⟩, _⟩ := pad_facts p hb nf hnf
    have := ih hr (i + 1)
    simp only [gathered, countSum, List.length_append]
    split
    · simp; omega
    · have := renumber_length_le p (padRefs p nf) i b e
      simp only [padCount, hn]; omega

theorem PadsOk.reads {pads : List (Bytes × Nat)} (h : PadsOk pads) : ∀ pn ∈ pads, PadReads pn.1 pn.2 :=
  fun pn hpn => (pad_facts pn.1 (h pn hpn).1 pn.2 (h pn hpn).2).1

theorem padsOk_step (rp : Rp) (hp : PadsOk rp.pads) (op : Op) (hb : ∀ bs, op = .cat bs → BytesOk bs) :
    PadsOk (step rp op).pads := by
  intro pn hpn
  rcases step_pads rp op pn hpn with h | rfl | ⟨bs, r, rfl, hr, rfl⟩
  · exact hp pn h
  · exact ⟨nofun, by omega⟩
  · exact ⟨fun x hx => hb bs rfl x (List.mem_of_mem_drop (List.mem_of_mem_take hx)),
      (parse_count_bounds false bs (hb bs rfl) r hr).2⟩

theorem padsOk_run (rp : Rp) (hp : PadsOk rp.pads) (ops : List Op) (hb : OpsOk ops) : PadsOk (run rp ops).pads :=
  run_induction (fun rp => PadsOk rp.pads) ops
    (fun rp op hop h => padsOk_step rp h op (fun bs e => hb bs (e ▸ hop))) rp hp

theorem reachable_padsOk {s : Rp} (h : Reachable s) : PadsOk s.pads := by
  obtain ⟨ops, hok, rfl⟩ := h
  exact padsOk_run _ (by intro pn h; simp [Rp.empty] at h) ops hok

end Opus.RepackProofs

namespace Opus.RepackProofs
open Opus Opus.Framing Opus.FramingSpec Opus.FramingProofs Opus.Repack Opus.Ext Opus.ExtProofs

/-- With at least one extension the code-3 branch is always taken. -/
theorem emit_ext (toc : Nat) (frames : List Bytes) (hne : frames ≠ []) (maxlen : Int) (sd pad : Bool)
    (all : Array Ext) (hpos : 0 < all.size) :
    emit toc frames maxlen sd pad all =
      code3 toc frames (sdSize sd ((frames.map List.length).getLastD 0)) maxlen
        (if sd then encodeSize ((frames.map List.length).getLastD 0) else []) pad all := by
  unfold emit
  simp only []
  by_cases h2 : frames.length ≤ 2
  · obtain ⟨hdr, hfp, _, _⟩ := firstPass_low toc frames hne h2 sd maxlen
    rw [hfp]
    by_cases hbig : minSize sd (frames.map List.length) > maxlen
    · have := (minSize_le_tot3 sd (frames.map List.length) (by simpa using hne)).1
      rw [if_pos hbig, code3_bts _ _ _ _ _ _ _ (by omega)]
    · rw [if_neg hbig]
      simp only []
      rw [if_pos (Or.inr (Or.inr hpos))]
  · rw [firstPass_high toc _ (by simp; omega)]
    simp only []
    rw [if_pos (Or.inr (Or.inr hpos))]

/-- The packet emitted with extensions. -/
def extPacket (toc : Nat) (frames : List Bytes) (amount : Int) (ser : Bytes) : Packet :=
  { toc := toc / 4 * 4 + 3, frames, vbr := isVbr (frames.map List.length), pad := some (extPad amount ser) }

theorem extPacket_valid (toc : Nat) (frames : List Bytes) (hok : FramesOk toc frames) (amount : Int) (ser : Bytes)
    (h1 : 1 ≤ amount) (h2 : 0 ≤ amount - ser.length - (amount - 1) / 255 - 1) : Valid (extPacket toc frames amount ser) := by
  refine code3Packet_valid hok _ fun pd hpd => ?_
  cases hpd
  simp only [extPad, Pad.total, List.length_append, List.length_replicate]
  omega

/-- `emit` with extensions (`B` = the generator's bytes): `BUFFER_TOO_SMALL`, or the serialisation of `extPacket`. -/
theorem emit_ext_spec (toc : Nat) (frames : List Bytes) (hne : frames ≠ [])
    (all : Array Ext) (hpos : 0 < all.size) (B : Bytes) (hG : GenBytes all frames.length B)
    (maxlen : Int) (sd pad : Bool) :
    emit toc frames maxlen sd pad all =
      let L := B.length
      let tot := tot3 (frames.map List.length) (sdSize sd ((frames.map List.length).getLastD 0))
      let amount := extAmount maxlen tot pad L
      if tot > maxlen ∨ maxlen - tot < L ∨ tot + L + (amount - 1) / 255 + 1 > maxlen then .err .bufferTooSmall
      else .ok (serialize sd (extPacket toc frames amount B)) := by
  rw [emit_ext toc frames hne maxlen sd pad all hpos, code3_ext toc frames all hpos B hG]
  simp only []
  split
  · rfl
  · unfold extPacket
    rw [ser_code3 sd _ _ _ _ (by omega) hne]
    simp [padHdr, padData, encodeSize_eq]

theorem renumber_valid (p : Bytes) (hb : BytesOk p) (nf : Nat) (hnf : nf ≤ 48) (i b e : Nat) :
    ∀ x ∈ renumber p (padRefs p nf) i b e, ValidExt (e - b) x := by
  obtain ⟨_, hext⟩ := pad_facts p hb nf hnf
  intro x hx
  simp only [renumber, List.mem_map, List.mem_filter, decide_eq_true_eq] at hx
  obtain ⟨r, ⟨hr, hlo, hhi⟩, rfl⟩ := hx
  obtain ⟨h1, h2, _, h4, h5, h6⟩ := hext r hr
  refine ⟨?_, ?_, ?_, ?_, ?_, ?_, ?_⟩
  · simp only [ExtRef.toExt]; omega
  · simp only [ExtRef.toExt]; omega
  · simp only []; omega
  · simp only []; omega
  · simp only [ExtRef.toExt]; exact h4
  · simp only [ExtRef.toExt]; intro h; exact h6 (by omega)
  · simp only [ExtRef.toExt, List.length_take, List.length_drop]; omega

theorem gathered_valid (pads : List (Bytes × Nat)) (hok : PadsOk pads) (i b e : Nat) :
    ∀ x ∈ gathered pads i b e, ValidExt (e - b) x := by
  induction pads generalizing i with
  | nil => intro x hx; cases hx
  | cons pn rest ih =>
    obtain ⟨p, nf⟩ := pn
    obtain ⟨hb, hnf⟩ := hok (p, nf) (by simp)
    have hr : PadsOk rest := fun x hx => hok x (by simp [hx])
    intro x hx
    simp only [gathered, List.mem_append] at hx
    rcases hx with hx | hx
    · split at hx
      · cases hx
      · exact renumber_valid p hb nf hnf i b e x hx
    · exact ih hr (i + 1) x hx

theorem extPacket_len (toc : Nat) (frames : List Bytes) (hne : frames ≠ []) (amount : Int) (ser : Bytes) (sd : Bool)
    (h1 : 1 ≤ amount) (h2 : 0 ≤ amount - ser.length - (amount - 1) / 255 - 1) :
    ((serialize sd (extPacket toc frames amount ser)).length : Int) =
      tot3 (frames.map List.length) (sdSize sd ((frames.map List.length).getLastD 0)) + amount := by
  rw [extPacket, code3Packet_len toc frames hne]
  simp only [padHdr, padData, extPad, Pad.hdr, List.length_append, List.length_cons, List.length_nil,
    List.length_replicate]
  push_cast
  omega

/-- The caller's valid extensions together with the gathered ones are valid generator input. -/
theorem all_valid (rp : Rp) (hp : PadsOk rp.pads) (b e : Nat) (exts : Array Ext) (hvx : AllValid exts (e - b)) :
    AllValid (exts ++ (gathered (rp.pads.take e) 0 b e).toArray) (e - b) := by
  apply allValid_of_all
  intro x hx
  simp only [Array.toList_append, List.mem_append] at hx
  rcases hx with hx | hx
  · obtain ⟨j, hj⟩ := List.mem_iff_getElem?.mp hx
    exact hvx j x (by simpa using hj)
  · exact gathered_valid _ (fun pn h => hp pn (List.mem_of_mem_take h)) 0 b e x (by simpa using hx)

/-- `out_range_impl` with extensions as an equation. -/
theorem outRangeImpl_ext_eq_gen (rp : Rp) (hinv : Inv rp) (hp : PadsOk rp.pads) (b e : Nat) (hb : b < e) (he : e ≤ rp.nbFrames)
    (exts : Array Ext)
    (hpos : 0 < (exts ++ (gathered (rp.pads.take e) 0 b e).toArray).size)
    (B : Bytes) (hG : GenBytes (exts ++ (gathered (rp.pads.take e) 0 b e).toArray) (e - b) B)
    (maxlen : Int) (sd pad : Bool) :
    outRangeImpl rp b e maxlen sd pad exts =
      let L := B.length
      let tot := tot3 ((selFrames rp b e).map List.length) (sdSize sd (((selFrames rp b e).map List.length).getLastD 0))
      let amount := extAmount maxlen tot pad L
      if tot > maxlen ∨ maxlen - tot < L ∨ tot + L + (amount - 1) / 255 + 1 > maxlen then .err .bufferTooSmall
      else .ok (serialize sd (extPacket rp.toc (selFrames rp b e) amount B)) := by
  obtain ⟨hok, hlen⟩ := selFrames_ok rp hinv b e hb he
  rw [outRangeImpl_gather rp hp.reads b e hb he]
  rw [← hlen] at hG
  rw [emit_ext_spec rp.toc _ hok.ne _ hpos B hG]

/-- `out_range_impl` with extensions, assembled, for whatever bytes `B` the generator writes. -/
theorem outRangeImpl_ext_gen (rp : Rp) (hinv : Inv rp) (hp : PadsOk rp.pads) (b e : Nat) (hb : b < e) (he : e ≤ rp.nbFrames)
    (exts : Array Ext)
    (hpos : 0 < (exts ++ (gathered (rp.pads.take e) 0 b e).toArray).size)
    (B : Bytes) (hG : GenBytes (exts ++ (gathered (rp.pads.take e) 0 b e).toArray) (e - b) B)
    (maxlen : Int) (sd pad : Bool) (bs : Bytes) (h : outRangeImpl rp b e maxlen sd pad exts = .ok bs) :
    ∃ (p : Packet) (k : Nat), Valid p ∧ bs = serialize sd p ∧ p.frames = selFrames rp b e ∧ p.toc / 4 = rp.toc / 4 ∧
      padBytes p = List.replicate k 1 ++ B ∧ (pad = false → k = 0) ∧
      (bs.length : Int) ≤ maxlen ∧ (pad = true → (bs.length : Int) = maxlen) := by
  obtain ⟨hok, hlen⟩ := selFrames_ok rp hinv b e hb he
  rw [outRangeImpl_ext_eq_gen rp hinv hp b e hb he exts hpos B hG] at h
  simp only [] at h
  split at h
  · simp at h
  · rename_i hfit
    simp only [Res.ok.injEq] at h
    have hLpos := hG.pos
    have hfacts : ∀ (tot : Int) (L : Nat), 0 < L →
        ¬ (tot > maxlen ∨ maxlen - tot < L ∨ tot + L + (extAmount maxlen tot pad L - 1) / 255 + 1 > maxlen) →
        1 ≤ extAmount maxlen tot pad L ∧
        0 ≤ extAmount maxlen tot pad L - (L : Int) - (extAmount maxlen tot pad L - 1) / 255 - 1 ∧
        tot + extAmount maxlen tot pad L ≤ maxlen ∧ (pad = true → tot + extAmount maxlen tot pad L = maxlen) ∧
        (pad = false → (extAmount maxlen tot pad L - (L : Int) - (extAmount maxlen tot pad L - 1) / 255 - 1).toNat = 0) := by
      intro tot L hL hf
      cases pad
      · simp only [extAmount, Bool.false_eq_true, if_false] at hf ⊢
        refine ⟨by omega, by omega, by omega, ?_, ?_⟩
        · exact nofun
        · intro _; omega
      · simp only [extAmount, if_true] at hf ⊢
        refine ⟨by omega, by omega, by omega, ?_, ?_⟩
        · intro _; omega
        · exact nofun
    obtain ⟨ham1, ham2, hle, hpadlen, hk0⟩ := hfacts _ _ hLpos hfit
    have hl := extPacket_len rp.toc (selFrames rp b e) hok.ne _ _ sd ham1 ham2
    refine ⟨_, _, extPacket_valid rp.toc _ hok _ _ ham1 ham2, h.symm, rfl, ?_, rfl, hk0, ?_, ?_⟩
    · show (rp.toc / 4 * 4 + 3) / 4 = rp.toc / 4; omega
    · rw [← h, hl]; exact hle
    · intro hpd; rw [← h, hl]; exact hpadlen hpd

theorem outRangeImpl_ext_eq (rp : Rp) (hinv : Inv rp) (hp : PadsOk rp.pads) (b e : Nat) (hb : b < e) (he : e ≤ rp.nbFrames)
    (exts : Array Ext) (hvx : AllValid exts (e - b))
    (hpos : 0 < (exts ++ (gathered (rp.pads.take e) 0 b e).toArray).size)
    (hnr : NoRepeat (exts ++ (gathered (rp.pads.take e) 0 b e).toArray) (e - b))
    (maxlen : Int) (sd pad : Bool) :
    outRangeImpl rp b e maxlen sd pad exts =
      let all := exts ++ (gathered (rp.pads.take e) 0 b e).toArray
      let L := (extSer all (e - b)).length
      let tot := tot3 ((selFrames rp b e).map List.length) (sdSize sd (((selFrames rp b e).map List.length).getLastD 0))
      let amount := extAmount maxlen tot pad L
      if tot > maxlen ∨ maxlen - tot < L ∨ tot + L + (amount - 1) / 255 + 1 > maxlen then .err .bufferTooSmall
      else .ok (serialize sd (extPacket rp.toc (selFrames rp b e) amount (extSer all (e - b)))) := by
  have hv := all_valid rp hp b e exts hvx
  have hn48 : e - b ≤ 48 := by have := hinv.nb_le; omega
  exact outRangeImpl_ext_eq_gen rp hinv hp b e hb he exts hpos _ (genBytes_norep _ _ hn48 hv hnr hpos) maxlen sd pad

/-- A stored padding that is a canonical extension list carries exactly that list. -/
theorem padRefs_ser (l : List Ext) (nbF : Nat) (hnf : nbF ≤ 48) (hv : ∀ e ∈ l, ValidExt nbF e) (hs : FrameSorted 0 l)
    (hb : BytesOk (serBytes 0 l)) : padRefs (serBytes 0 l) nbF = serRefs 0 0 l := by
  obtain ⟨it, l', s, hit, hall, _⟩ := scan_agree (serBytes 0 l) hb nbF hnf
  have h1 := (parse_ser l nbF hnf hv hs ((l.length : Int) + l'.length) (by omega)).1
  rw [parse_iterAll hit hall _ (by omega), if_neg (by omega)] at h1
  rw [padRefs_scan hit hall]
  split at h1 <;> cases h1
  rw [if_pos ‹_›]

/-- With or without the `pad` flag, for every array of valid extensions: the padding is `0x01 … 0x01` followed by what the
    generator wrote, and it reads back (C16 `parse_padded_full`) to one entry per extension, in the order `expAll` of the
    queues — frame by frame exactly the extensions of that frame, in gathering order. -/
theorem outRangeImpl_ext_full_pad (rp : Rp) (hinv : Inv rp) (hp : PadsOk rp.pads) (b e : Nat) (hb : b < e) (he : e ≤ rp.nbFrames)
    (exts : Array Ext) (hvx : AllValid exts (e - b))
    (hpos : 0 < (exts ++ (gathered (rp.pads.take e) 0 b e).toArray).size)
    (maxlen : Int) (sd pad : Bool) (bs : Bytes) (h : outRangeImpl rp b e maxlen sd pad exts = .ok bs) :
    ∃ (p : Packet), Valid p ∧ bs = serialize sd p ∧ p.frames = selFrames rp b e ∧ p.toc / 4 = rp.toc / 4 ∧
      (bs.length : Int) ≤ maxlen ∧ (pad = true → (bs.length : Int) = maxlen) ∧
      ∀ cap : Int, ((exts ++ (gathered (rp.pads.take e) 0 b e).toArray).size : Int) ≤ cap →
        ∃ refs, parse (padBytes p) (padBytes p).length cap ((e - b : Nat) : Int) = .ok refs ∧
          refs.length = (exts ++ (gathered (rp.pads.take e) 0 b e).toArray).size ∧
          refs.map (ExtRef.toExt (padBytes p)) =
            (expAll (queues (exts ++ (gathered (rp.pads.take e) 0 b e).toArray) (e - b))).map normExt ∧
          ∀ g, (refs.filter (fun r => r.frame = g)).map (ExtRef.toExt (padBytes p)) =
            (allOf (exts ++ (gathered (rp.pads.take e) 0 b e).toArray) g).map normExt := by
  have hv := all_valid rp hp b e exts hvx
  have hn48 : e - b ≤ 48 := by have := hinv.nb_le; omega
  obtain ⟨p, k, h1, h2, h3, h4, h5, _, h7, h8⟩ := outRangeImpl_ext_gen rp hinv hp b e hb he exts hpos _
    (genBytes_full _ _ hn48 hv hpos) maxlen sd pad bs h
  refine ⟨p, h1, h2, h3, h4, h7, h8, ?_⟩
  intro cap hcap
  rw [h5]
  exact parse_padded_full _ (e - b) hn48 (Nat.sub_pos_of_lt hb) hv k cap hcap

end Opus.RepackProofs
