import OpusModel.SilkPlcConceal
import OpusProofs.SilkPlcGains
/-
  OpusProofs.SilkPlcConceal — the bit-exact value model of silk_PLC (OpusModel.SilkPlcConceal) and the scalar gain
  recursion of C09 (OpusModel.SilkPlcGains, proofs in OpusProofs.SilkPlcGains): the gain members of the PLC state that
  the full model returns ARE the scalar recursion's.  Output samples are int16.
  Totality (no celt_assert fires) under four explicit conditions on order, `prevLPC_Q12` and lag (`plcConceal_total`);
  under the state invariant it is `plcConceal_inv` of OpusProofs/SilkPlcInv.lean.
-/
namespace Opus.SilkPlc
open Opus Opus.SilkParams Opus.Gen.PlcConsts Opus.Gen.SilkPlcCngConsts

/-- The tap / random-scale members carried through the sub-frame loop PLC.c:331-363 evolve exactly as the scalar
    recursion `SilkPlcGains.subfrLoop`. -/
theorem ltpLoop_gains (rnd : Array Int) (roff : Int) (sl : Nat) (fs harm rg : Int) : ∀ (k : Nat) (s : LtpLoop),
    ((ltpLoop rnd roff sl fs harm rg k s).B, (ltpLoop rnd roff sl fs harm rg k s).rs) =
      SilkPlcGains.subfrLoop harm rg k (s.B, s.rs)
  | 0, s => by simp [ltpLoop, SilkPlcGains.subfrLoop]
  | k + 1, s => by
    rw [ltpLoop, SilkPlcGains.subfrLoop]
    exact ltpLoop_gains rnd roff sl fs harm rg k _

/-- The rate check of silk_PLC (PLC.c:84-87) touches neither the taps nor the random scale. -/
theorem plcRateCheck_gains (d : Dec) :
    (plcRateCheck d).ltpCoef = d.plc.ltpCoef ∧ (plcRateCheck d).randScale = d.plc.randScale ∧
    (plcRateCheck d).prevLtpScale = d.plc.prevLtpScale := by
  unfold plcRateCheck plcReset
  split <;> simp

theorem bwexpGo_length (cm1 : Int) : ∀ (xs : List Int) (c : Int), (bwexpGo cm1 xs c).length = xs.length
  | [], _ => rfl
  | [_], _ => rfl
  | x :: y :: xs, c => by rw [bwexpGo]; simp [bwexpGo_length cm1 (y :: xs)]

/-- `prevLPC_Q12` after the bandwidth expansion PLC.c:283 (the first `n = LPC_order` of 16 entries are expanded in place): still 16 entries, of which the filter `A` takes the first `n`. -/
theorem prevLPC_length (d : Dec) (p0 : Plc) (c : Int) (n : Nat) (hl : p0.prevLPC.length = 16) :
    let l := if d.firstFrameAfterReset ≠ 0 then List.replicate MAX_LPC_ORDER 0 else p0.prevLPC
    (bwexp16 (l.take n) c ++ l.drop n).length = 16 ∧
    (n ≤ 16 → ((bwexp16 (l.take n) c ++ l.drop n).take n).length = n) := by
  intro l
  have hl' : l.length = 16 := by
    show (if _ then _ else _ : List Int).length = 16
    split
    · rfl
    · exact hl
  simp only [List.length_take, List.length_append, bwexp16, bwexpGo_length, List.length_drop, hl']
  omega

/-- What a successful `silk_PLC_conceal` has done, as far as the theorems below need it (the one place where
    `plcConceal` is opened): the frame is a list of saturated samples; the decoder state is the old one with a new
    `sLPC_Q14_buf` and a PLC state in which exactly `pitchL_Q8`, the taps, `prevLPC_Q12` (still 16 entries if it had 16),
    the seed and `randScale_Q14` changed, the carried members being those of the sub-frame loop `ltpLoop` started from
    `gainSetup`. -/
theorem plcConceal_ok {d : Dec} {p0 : Plc} {o : ConcealOut} (h : plcConceal d p0 = .ok o) :
    ∃ (ig harm roff : Int) (rnd buf0 : Array Int) (ys sLPC prevLPC : List Int),
      let gs := SilkPlcGains.gainSetup d.lossCnt (decide (d.prevSignalType = TYPE_VOICED)) p0.ltpCoef p0.randScale
        p0.prevLtpScale ig
      let s := ltpLoop rnd roff d.subfrLength d.fsKHz harm gs.2 d.nbSubfr
        { buf := buf0, seed := p0.randSeed, B := p0.ltpCoef, rs := gs.1, pq8 := p0.pitchLQ8 }
      harm = SilkPlcGains.harmGain d.lossCnt ∧ (p0.prevLPC.length = 16 → prevLPC.length = 16) ∧
      o.frame = ys.map sat16 ∧
      o.dec = { d with sLPC := sLPC, plc := { p0 with pitchLQ8 := s.pq8, ltpCoef := s.B, prevLPC := prevLPC,
                                                       randSeed := s.seed, randScale := s.rs } } := by
  unfold plcConceal at h
  dsimp only at h
  split at h
  · cases h
  · split at h
    · cases h
      refine ⟨_, _, _, _, _, _, _, _, rfl, fun hl => ?_, rfl, rfl⟩
      exact (prevLPC_length d p0 _ d.lpcOrder hl).1
    all_goals cases h

/-- silk_PLC( …, lost = 1 ) = rate check, concealment, `lossCnt++`. -/
theorem silkPLC_lost (d : Dec) (c : Ctrl) (o : ConcealOut) (h : silkPLC d c true = .ok o) :
    ∃ o', plcConceal d (plcRateCheck d) = .ok o' ∧ o.frame = o'.frame ∧ o.dec.plc = o'.dec.plc ∧
      o.dec.lossCnt = o'.dec.lossCnt + 1 ∧ o.pitchL = o'.pitchL := by
  unfold silkPLC at h
  simp only [↓reduceIte] at h
  split at h
  · rename_i o1 heq
    injection h with h
    subst h
    exact ⟨o1, heq, rfl, rfl, rfl, rfl⟩
  · rename_i r hr
    rw [h] at hr
    exact absurd rfl (hr o)

/-- Bridge: the taps and the random scale silk_PLC( …, lost = 1 ) stores are `SilkPlcGains.conceal` of those it found. -/
theorem silkPLC_gains {d : Dec} {c : Ctrl} {o : ConcealOut} (h : silkPLC d c true = .ok o) :
    ∃ ig : Int, (o.dec.plc.ltpCoef, o.dec.plc.randScale) =
      SilkPlcGains.conceal d.lossCnt (decide (d.prevSignalType = TYPE_VOICED)) d.nbSubfr d.plc.ltpCoef d.plc.randScale
        d.plc.prevLtpScale ig ∧ o.dec.lossCnt = d.lossCnt + 1 := by
  obtain ⟨o', h1, -, hp, hc, -⟩ := silkPLC_lost d c o h
  obtain ⟨ig, _, _, _, _, _, _, _, rfl, -, -, hd⟩ := plcConceal_ok h1
  obtain ⟨rl, rr, rp⟩ := plcRateCheck_gains d
  refine ⟨ig, ?_, by rw [hc, hd]⟩
  rw [hp, hd, ← rl, ← rr, ← rp]
  exact ltpLoop_gains ..

/-- One concealed frame of a loss in progress (`lossCnt ≥ 1`, at least one sub-frame): `32768 · rs' ≤ 29491 · rs`, i.e.
    `randScale_Q14` is multiplied by at most 0.9 (29491 = the larger of the two regenerated
    `PLC_RAND_ATTENUATE_*_Q15[1]`); over n such frames: OpusProps.C09SilkPlc.conceal_gain_after_n. -/
theorem silkPLC_decay_step (d : Dec) (c : Ctrl) (o : ConcealOut) (h : silkPLC d c true = .ok o)
    (hl : 1 ≤ d.lossCnt) (hn : 0 < d.nbSubfr) (hrs : 0 ≤ d.plc.randScale ∧ d.plc.randScale ≤ 32767) :
    0 ≤ o.dec.plc.randScale ∧ 32768 * o.dec.plc.randScale ≤ 29491 * d.plc.randScale := by
  obtain ⟨ig, hg, -⟩ := silkPLC_gains h
  have := SilkPlcGains.conceal_decay (show d.lossCnt ≠ 0 by omega) (decide (d.prevSignalType = TYPE_VOICED)) hn
    d.plc.ltpCoef _ d.plc.prevLtpScale ig hrs (SilkPlcGains.randGain0_le d.lossCnt hl _)
  rw [← hg] at this
  omega

/-- Every sample of a concealed frame is an `opus_int16` (PLC.c:397, double silk_SAT16). -/
theorem plcConceal_frame_int16 (d : Dec) (p0 : Plc) (o : ConcealOut) (h : plcConceal d p0 = .ok o) :
    ∀ x ∈ o.frame, -32768 ≤ x ∧ x ≤ 32767 := by
  obtain ⟨_, _, _, _, _, ys, _, _, -, -, hf, -⟩ := plcConceal_ok h
  rw [hf]
  exact List.forall_mem_map.mpr fun y _ => SilkParams.sat16_I16 y

/-! ### totality -/

/-- The re-whitening step PLC.c:318-326 fires none of its asserts when the lag leaves room in the LTP memory.  Stated
    about an arbitrary `r` equal to the call, the shape in which `split` leaves the hypothesis in `plcConceal_total`. -/
theorem rewhiten_isOk (d : Dec) (A : List Int) (lag g : Int) (hA : A.length = d.lpcOrder)
    (ho : 6 ≤ d.lpcOrder ∧ d.lpcOrder % 2 = 0) (hlag : 0 ≤ lag) (hidx : lag + d.lpcOrder + 2 < d.ltpMemLength)
    (r : Res (Array Int)) (hr : rewhiten d A lag g = r) : ∃ b, r = .ok b := by
  subst hr
  have h5 : LTP_ORDER = 5 := rfl
  unfold rewhiten rewhitenIdx
  dsimp only
  rw [h5]
  rw [if_neg (by omega)]
  unfold lpcAnalysisFilter
  dsimp only
  rw [hA, if_neg (by omega)]
  exact ⟨_, rfl⟩

/-- Totality of silk_PLC_conceal: no `celt_assert` fires (`.abort`), no access leaves its array (`.oob`), whenever the
    LPC order is even and in [10, 16], `prevLPC_Q12` has its 16 entries and the (non-negative) pitch lag leaves room in
    the LTP memory: `lag + LPC_order + LTP_ORDER/2 < ltp_mem_length`. -/
theorem plcConceal_total (d : Dec) (p0 : Plc) (ho : 10 ≤ d.lpcOrder ∧ d.lpcOrder ≤ 16 ∧ d.lpcOrder % 2 = 0)
    (hlen : p0.prevLPC.length = 16) (hpq : 0 ≤ lagOf p0.pitchLQ8)
    (hidx : lagOf p0.pitchLQ8 + d.lpcOrder + 2 < d.ltpMemLength) : ∃ o, plcConceal d p0 = .ok o := by
  have hA := fun c : Int => (prevLPC_length d p0 c d.lpcOrder hlen).2 (by omega)
  unfold plcConceal
  dsimp only
  rw [if_neg (by omega)]
  split
  · exact ⟨_, rfl⟩
  all_goals
    rename_i heq
    obtain ⟨b, hb⟩ := rewhiten_isOk d _ _ _ (hA _) ⟨by omega, ho.2.2⟩ hpq hidx _ heq
    exact absurd hb (by simp)

end Opus.SilkPlc
