import OpusProofs.EncSkelWfRun
import OpusProofs.EncSkelLoop
/-
  OpusProofs.EncSkelWfMulti — the sub-packets of the multi-frame loop (opus_encoder.c:1693-1751) as a trace:
  every iteration's frame call returns a contract-shaped packet carrying the one ToC of the packet, and the frame
  lengths of the final packet are the payload lengths of the trace.
-/
namespace Opus.EncSkel.Proofs
open Opus Opus.EncDecide Opus.EncSkel Opus.EncSkel.WfProofs Opus.Repack

/-- What is known of every frame call of a loop that ended without failure and within the contracts. -/
def TraceOk (tr : List FrameRes) (cfg : Option Nat) : Prop :=
  ∀ r ∈ tr, cfg = some r.toc ∧
    ∃ m pd, outRange r.toc [r.payload.toNat] m pd = .ok { size := r.ret.toNat, hdr := r.hdr }

theorem multiLoop_trace (s0 : St) (c : MultiCtx) (d : Decided) (isSil : Int) (hp : MultiPre s0 c) :
    ∀ (n i : Nat) (fos : List FrameOr) (a : MultiAcc), Inv s0 c i a → ((i : Int) + n ≤ c.nbFrames) →
      (multiLoop c d isSil n i fos a).fail = none → (multiLoop c d isSil n i fos a).ok = true →
      TraceOk (multiTrace c d isSil n i fos a) (multiLoop c d isSil n i fos a).cfg0 := by
  intro n
  induction n with
  | zero =>
    intro i fos a _ _ _ _ r hr
    simp [multiTrace] at hr
  | succ n ih =>
    intro i fos a h hle hf hok
    unfold multiLoop at hf hok ⊢
    unfold multiTrace
    obtain ⟨hf1, -, -, c1, o1⟩ := multiLoop_none c d isSil n (i + 1) fos.tail _ hf
    obtain ⟨hfa, -, -, -, -, o0⟩ := multiStep_none c d isSil i (fos.headD default) a hf1
    have hok1 := o1 hok
    rw [o0] at hok1
    simp only [Bool.and_eq_true] at hok1
    obtain ⟨⟨hao, hfo⟩, hts⟩ := hok1
    have g : Good s0 c i a := by
      unfold Inv at h; rw [hfa] at h; exact h hao
    -- the step took the success branch: its frame call is within `FramePost` and carries the packet's ToC
    obtain ⟨-, hpost, -, heq⟩ := multiStep_good s0 c d isSil i (fos.headD default) a hp (by omega) g hfa hao hfo
      (stepRes c d isSil i (fos.headD default) a) rfl hts
    have hs := multiStep_inv s0 c d isSil i (fos.headD default) a hp (by omega) h
    have l2 := ih (i + 1) fos.tail _ hs (by push_cast; omega) hf hok
    intro r hr
    rcases List.mem_cons.mp hr with rfl | hr
    · exact ⟨c1 _ (by rw [heq]), frame_sub _ _ _ hpost⟩
    · exact l2 r hr

/-- The frame calls of the multi-frame path for the decision `d`, and for a call of `opus_encode_native`. -/
abbrev frameTrace (d : Decided) (isSil fsz out cbr : Int) (fos : List FrameOr) : List FrameRes :=
  multiTrace (multiCtx d.st fsz out cbr) d isSil (multiCtx d.st fsz out cbr).nbFrames.toNat 0 fos (acc0 (multiSt0 d.st))
abbrev traceOf (s : St) (fuzz : Bool) (fsz out : Int) (o : NatOr) : List FrameRes :=
  frameTrace (decOf s fuzz fsz out o) (effSilence (budgetSt s o fsz out) o) fsz out (sizeBudget (analysisUpd s o) fsz out).cbr
    o.frames

/-- **The sub-packets of the multi-frame path.**  When `multiFrame` (opus_encoder.c:1631-1760) stays within the
    contracts: the frame lengths of the packet are the payload lengths of the loop's frame calls, in order;
    every frame call returned a contract-shaped packet carrying the ToC configuration of the final packet; and the
    final packet is the contract output for `maxlen = repacketize_len` and the code's
    `pad = !use_vbr && dtx_count != nb_frames`, `dtx_count` counted over the trace. -/
theorem multiFrame_trace (d : Decided) (isSil fsz out cbr : Int) (fos : List FrameOr)
    (hp : MultiPre d.st (multiCtx d.st fsz out cbr)) (hok : (multiFrame d isSil fsz out cbr fos).ok = true) :
    (multiFrame d isSil fsz out cbr fos).pkt.lens = (frameTrace d isSil fsz out cbr fos).map (·.payload.toNat) ∧
    TraceOk (frameTrace d isSil fsz out cbr fos) (some (multiFrame d isSil fsz out cbr fos).pkt.tocCfg) ∧
    outRange (multiFrame d isSil fsz out cbr fos).pkt.tocCfg (multiFrame d isSil fsz out cbr fos).pkt.lens
        (multiCtx d.st fsz out cbr).repacketizeLen.toNat
        (decide (d.st.useVbr = 0 ∧ dtxOf (frameTrace d isSil fsz out cbr fos) ≠ (multiCtx d.st fsz out cbr).nbFrames)) =
      .ok { size := (multiFrame d isSil fsz out cbr fos).pkt.size, hdr := (multiFrame d isSil fsz out cbr fos).pkt.hdr } := by
  have h := multiFrame_ok d isSil fsz out cbr fos hp hok
  dsimp only at h
  obtain ⟨hf, hao, g, r, hr, -, -, -, heq⟩ := h
  obtain ⟨hnb2, -⟩ := hp.nb
  obtain ⟨-, hl, hd, -, -⟩ := multiLoop_none _ d isSil _ 0 fos (acc0 (multiSt0 d.st)) hf
  have ht := multiLoop_trace d.st _ d isSil hp _ 0 fos _ (inv_start d.st _ (multiSt0 d.st) (multiSt0_fields d.st))
    (by omega) hf hao
  obtain ⟨t, -, hcfg, -⟩ := g.cfgS (by omega)
  rw [heq]
  dsimp only
  rw [hcfg] at ht hr ⊢
  rw [show (acc0 (multiSt0 d.st)).dtxCount = 0 from rfl, Int.zero_add] at hd
  rw [show (acc0 (multiSt0 d.st)).lens = [] from rfl, List.nil_append] at hl
  rw [hd] at hr
  exact ⟨hl, ht, hr⟩

theorem trace_subs (cfg : Nat) : ∀ (tr : List FrameRes) (frames : List Bytes),
    TraceOk tr (some cfg) → frames.map List.length = tr.map (·.payload.toNat) →
    ∃ subs : List Sub, subs.map (subPkt cfg) = List.zipWith subBytes tr frames ∧ subs.flatMap (·.1) = frames ∧
      ∀ x ∈ subs, SubOk cfg x := by
  intro tr
  induction tr with
  | nil =>
    intro frames _ hfl
    have : frames = [] := by simpa using hfl
    subst this
    exact ⟨[], rfl, rfl, by intro x hx; cases hx⟩
  | cons r tr ih =>
    intro frames htr hfl
    cases frames with
    | nil => simp at hfl
    | cons f fs =>
      simp only [List.map_cons, List.cons.injEq] at hfl
      obtain ⟨hf, hfs⟩ := hfl
      obtain ⟨hc, m, pd, hout⟩ := htr r (by simp)
      have hcfg : cfg = r.toc := by simpa using hc
      obtain ⟨subs, h1, h2, h3⟩ := ih fs (fun x hx => htr x (by simp [hx])) hfs
      refine ⟨([f], m, pd) :: subs, ?_, ?_, ?_⟩
      · simp only [List.map_cons, List.zipWith_cons_cons, h1, List.cons.injEq, and_true]
        unfold subPkt subBytes
        simp only [List.map_cons, List.map_nil, hf, hcfg, hout]
      · simp [h2]
      · intro x hx
        rcases List.mem_cons.mp hx with rfl | hx
        · exact ⟨by simp, _, by simp only [List.map_cons, List.map_nil, hf, hcfg]; exact hout⟩
        · exact h3 x hx

theorem trace_run (cfg : Nat) (tr : List FrameRes) (frames : List Bytes) (lens : List Nat) (maxlen : Nat) (pad : Bool)
    (q : OutRes) (t2 : TraceOk tr (some cfg)) (hfl : frames.map List.length = lens)
    (t1 : lens = tr.map (·.payload.toNat)) (h4 : cfg % 4 = 0) (h256 : cfg < 256) (hlens : ∀ l ∈ lens, l ≤ 1275)
    (hd48 : FramingSpec.frameDur48 cfg * lens.length ≤ 5760) (t3 : outRange cfg lens maxlen pad = .ok q) :
    repackRun (List.zipWith subBytes tr frames) frames.length maxlen pad = .ok (pktBytes q.hdr frames q.size) := by
  obtain ⟨subs, s1, s2, s3⟩ := trace_subs cfg tr frames t2 (by rw [hfl, t1])
  rw [← s1]
  exact repackRun_frames cfg subs frames lens maxlen pad q s2 s3 hfl h4 h256 hlens hd48 t3

/-- The multi-frame path of a call within the contracts, for the two multi-frame clauses of C02Wf: the call returns
    `multiOf`, whose packet `multiFrame_trace` and `multi_pkt` describe. -/
theorem multi_wf (s : St) (fuzz : Bool) (fsz out : Int) (o : NatOr)
    (he : entryCheck s fsz out = none) (htm : takesMulti s fuzz fsz out o = true)
    (hok : (encodeNative s fuzz fsz out o).ok = true) :
    encodeNative s fuzz fsz out o = { multiOf s fuzz fsz out o with ok := true } ∧
    MultiPre (decOf s fuzz fsz out o).st (ctxOf s fuzz fsz out o) ∧
    (multiOf s fuzz fsz out o).pkt.lens = (traceOf s fuzz fsz out o).map (·.payload.toNat) ∧
    TraceOk (traceOf s fuzz fsz out o) (some (multiOf s fuzz fsz out o).pkt.tocCfg) ∧
    outRange (multiOf s fuzz fsz out o).pkt.tocCfg (multiOf s fuzz fsz out o).pkt.lens
        (ctxOf s fuzz fsz out o).repacketizeLen.toNat
        (decide ((decOf s fuzz fsz out o).st.useVbr = 0 ∧
          dtxOf (traceOf s fuzz fsz out o) ≠ (ctxOf s fuzz fsz out o).nbFrames)) =
      .ok { size := (multiOf s fuzz fsz out o).pkt.size, hdr := (multiOf s fuzz fsz out o).pkt.hdr } ∧
    (multiOf s fuzz fsz out o).pkt.tocCfg % 4 = 0 ∧ (multiOf s fuzz fsz out o).pkt.tocCfg < 256 ∧
    (∀ l ∈ (multiOf s fuzz fsz out o).pkt.lens, l ≤ 1275) ∧
    FramingSpec.frameDur48 (multiOf s fuzz fsz out o).pkt.tocCfg * (multiOf s fuzz fsz out o).pkt.lens.length ≤ 5760 := by
  obtain ⟨hst, hlg, h⟩ := encodeNative_cases s fuzz fsz out o he hok
  unfold takesMulti at htm
  rcases h with ⟨hg, -⟩ | ⟨htm', hmok, e⟩ | ⟨-, hnm, -⟩
  · rw [hg] at htm; cases htm
  · obtain ⟨-, -, -, hpre, -⟩ := multi_branch s fuzz fsz out o he htm' hst hlg hmok
    obtain ⟨t1, t2, t3⟩ := multiFrame_trace (decOf s fuzz fsz out o) (effSilence (budgetSt s o fsz out) o) fsz out
      (sizeBudget (analysisUpd s o) fsz out).cbr o.frames hpre hmok
    have hp := multi_pkt s fuzz fsz out o he htm' hst hlg hmok
    exact ⟨e, hpre, t1, t2, t3, hp.toc4, hp.toc256, hp.lens, hp.dur48⟩
  · rw [hnm, Bool.and_false] at htm; cases htm

end Opus.EncSkel.Proofs
