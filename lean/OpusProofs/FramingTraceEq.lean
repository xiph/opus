import OpusModel.FramingTrace
import OpusProofs.FramingRange
/-
  OpusProofs.FramingTraceEq — the instrumented parser `parseImplT` (OpusModel.FramingTrace) computes `parseImpl` and
  logs exactly `implTrace` / `castStores`: the range theorems of OpusProofs.FramingRange are statements about the
  intermediates of the parser itself.
-/
namespace Opus.FramingProofs
open Opus Opus.Framing

theorem padChainT_eq : ∀ (data : Bytes) (len : Int) (pad : Nat),
    (padChainT data len pad).1 = padChain data len pad ∧
    (padChainT data len pad).2 = padChainTrace data len (pad : Int) := by
  intro data
  induction data with
  | nil =>
    intro len pad
    unfold padChainT padChain padChainTrace
    split <;> simp
  | cons p rest ih =>
    intro len pad
    unfold padChainT padChain padChainTrace
    by_cases hl : len ≤ 0
    · simp [hl]
    · simp only [hl, if_false]
      by_cases hp : p = 255
      · simp only [hp, if_true]
        have := ih (len - 1 - 254) (pad + 254)
        refine ⟨this.1, ?_⟩
        rw [this.2]; push_cast; rfl
      · simp only [hp, if_false]
        exact ⟨by simp, by push_cast; simp⟩

theorem vbrSizesT_eq : ∀ (n : Nat) (data : Bytes) (len last : Int),
    (vbrSizesT n data len last).1 = vbrSizes n data len last ∧
    (vbrSizesT n data len last).2 = vbrTrace n data len last := by
  intro n
  induction n with
  | zero => intro data len last; exact ⟨rfl, rfl⟩
  | succ n ih =>
    intro data len last
    unfold vbrSizesT vbrSizes vbrTrace
    cases hps : parseSize data len with
    | ok v =>
      obtain ⟨bytes, sz⟩ := v
      simp only
      by_cases hbad : sz < 0 ∨ sz > len - bytes
      · simp only [hbad, if_true]; exact ⟨by simp, by simp⟩
      · simp only [hbad, if_false]
        have := ih (data.drop bytes.toNat) (len - bytes) (last - (bytes + sz))
        rw [this.1, this.2]
        exact ⟨rfl, by simp⟩
    | err e => exact ⟨rfl, rfl⟩
    | oob => exact ⟨rfl, rfl⟩
    | abort => exact ⟨rfl, rfl⟩

theorem parseCode3T_eq (sd : Bool) (fs : Nat) (data : Bytes) (len : Int) :
    (parseCode3T sd fs data len).1 = parseCode3 sd fs data len ∧
    (parseCode3T sd fs data len).2.1 = code3Trace sd fs data len ∧
    (parseCode3T sd fs data len).2.2 =
      (match parseCode3 sd fs data len with
       | .ok h => if sd = false ∧ h.cbr then List.replicate (h.count - 1) h.lastSize else []
       | _ => []) := by
  unfold parseCode3T parseCode3 code3Trace
  by_cases hl : len < 1
  · simp [hl]
  · simp only [hl, if_false]
    cases data with
    | nil => simp
    | cons ch data1 =>
      simp only
      by_cases hc : ch % 64 = 0 ∨ fs * (ch % 64) > 5760
      · simp [hc]
      · simp only [hc, if_false]
        -- the padding stage: result and log of the instrumented chain are those of `padChain` / `padChainTrace`
        have hpc : ∀ pc : Res (Bytes × Int × Nat) × List Int,
            pc = (if ch / 64 % 2 = 1 then padChainT data1 (len - 1) 0 else (Res.ok (data1, len - 1, 0), [])) →
            pc.1 = (if ch / 64 % 2 = 1 then padChain data1 (len - 1) 0 else Res.ok (data1, len - 1, 0)) ∧
            pc.2 = (if ch / 64 % 2 = 1 then padChainTrace data1 (len - 1) 0 else []) := by
          rintro pc rfl
          split
          · exact padChainT_eq data1 (len - 1) 0
          · exact ⟨rfl, rfl⟩
        obtain ⟨h1, h2⟩ := hpc _ rfl
        rw [h1, h2]
        generalize (if ch / 64 % 2 = 1 then padChain data1 (len - 1) 0 else Res.ok (data1, len - 1, 0)) = ps
        cases ps with
        | ok v =>
          obtain ⟨data2, len2, pad⟩ := v
          simp only
          by_cases hn : len2 < 0
          · simp [hn]
          · simp only [hn, if_false]
            by_cases hv : ch / 128 % 2 = 1
            · simp only [hv, if_true]
              have hvb := vbrSizesT_eq (ch % 64 - 1) data2 len2 len2
              rw [hvb.1, hvb.2]
              cases hvr : vbrSizes (ch % 64 - 1) data2 len2 len2 with
              | ok w =>
                obtain ⟨ss, d, l, last⟩ := w
                simp only
                by_cases hneg : last < 0 <;> simp [hneg]
              | _ => simp
            · simp only [hv, if_false]
              cases sd with
              | true => simp
              | false =>
                simp only [Bool.false_eq_true, if_false]
                by_cases hd : len2 / ((ch % 64 : Nat) : Int) * ((ch % 64 : Nat) : Int) = len2
                · rw [if_neg (not_not.mpr hd), if_neg (not_not.mpr hd)]; simp
                · rw [if_pos hd, if_pos hd]; simp
        | _ => simp

/-- Operands of the `(opus_int16)` casts inside the switch, as `castStores` lists them. -/
def hdrCasts (sd : Bool) (toc : Nat) (data : Bytes) (len : Int) : List Int :=
  if sd then []
  else match parseHdr false toc data len with
    | .ok h => if toc % 4 = 1 then [h.lastSize]
               else if toc % 4 = 3 ∧ h.cbr then List.replicate (h.count - 1) h.lastSize else []
    | _ => []

theorem parseHdrT_eq (sd : Bool) (toc : Nat) (data : Bytes) (len : Int) :
    (parseHdrT sd toc data len).1 = parseHdr sd toc data len ∧
    (parseHdrT sd toc data len).2.1 = hdrTrace sd toc data len ∧
    (parseHdrT sd toc data len).2.2 = hdrCasts sd toc data len := by
  unfold parseHdrT hdrTrace hdrCasts parseHdr
  by_cases h0 : toc % 4 = 0
  · cases sd <;> simp [h0]
  · simp only [h0, if_false]
    by_cases h1 : toc % 4 = 1
    · simp only [h1, if_true]
      cases sd with
      | true => simp
      | false =>
        simp only [Bool.false_eq_true, if_false]
        by_cases ho : len % 2 = 1 <;> simp [ho]
    · simp only [h1, if_false]
      by_cases h2 : toc % 4 = 2
      · simp only [h2, if_true]
        cases hps : parseSize data len with
        | ok v =>
          obtain ⟨bytes, sz⟩ := v
          simp only
          by_cases hbad : sz < 0 ∨ sz > len - bytes <;> cases sd <;> simp [hbad]
        | _ => cases sd <;> simp
      · simp only [h2, if_false]
        have h3 : toc % 4 = 3 := by omega
        have hc := parseCode3T_eq sd (samplesPerFrame toc 48000) data len
        refine ⟨hc.1, hc.2.1, ?_⟩
        rw [hc.2.2]
        cases sd with
        | true => cases parseCode3 true (samplesPerFrame toc 48000) data len <;> simp
        | false =>
          cases parseCode3 false (samplesPerFrame toc 48000) data len <;> simp [h3]

theorem finishT_eq (sd : Bool) (total toc : Nat) (h : Hdr) :
    (finishT sd total toc h).1 = finish sd total toc h ∧
    (finishT sd total toc h).2.1 = finishTrace sd h ++
      (match finish sd total toc h with | .ok r => reportTrace r | _ => []) ∧
    (finishT sd total toc h).2.2 = (if sd then [] else if h.lastSize > 1275 then [] else [h.lastSize]) := by
  unfold finishT finish finishTrace
  cases sd with
  | true =>
    simp only [if_true]
    cases hps : parseSize h.data h.len with
    | ok v =>
      obtain ⟨bytes, sz⟩ := v
      simp only
      by_cases hbad : sz < 0 ∨ sz > h.len - bytes
      · simp [hbad]
      · simp only [hbad, if_false]
        cases hcbr : h.cbr with
        | true =>
          simp only [if_true]
          by_cases hp : sz * (h.count : Int) > h.len - bytes <;> simp [hp, reportT, reportTrace]
        | false =>
          simp only [Bool.false_eq_true, if_false]
          by_cases hp : bytes + sz > h.lastSize <;> simp [hp, reportT, reportTrace]
    | _ => simp
  | false =>
    simp only [Bool.false_eq_true, if_false]
    by_cases hbig : h.lastSize > 1275
    · simp [hbig]
    · simp only [hbig, if_false]
      cases hcbr : h.cbr <;> simp [reportT, reportTrace]

/-- The instrumented parser IS the parser, and its two logs ARE `implTrace` and `castStores`. -/
theorem parseImplT_eq (sd : Bool) (bs : Bytes) :
    (parseImplT sd bs).1 = parseImpl sd bs ∧
    (parseImplT sd bs).2.1 = implTrace sd bs ∧
    (parseImplT sd bs).2.2 = castStores sd bs := by
  unfold parseImplT parseImpl implTrace castStores
  cases bs with
  | nil => simp
  | cons toc data =>
    simp only
    have hh := parseHdrT_eq sd toc data data.length
    rw [hh.1, hh.2.1, hh.2.2]
    unfold hdrCasts
    cases hph : parseHdr sd toc data data.length with
    | ok h =>
      simp only
      have hf := finishT_eq sd (toc :: data).length toc h
      rw [hf.1, hf.2.1, hf.2.2]
      refine ⟨rfl, by simp; cases finish sd (data.length + 1) toc h <;> rfl, ?_⟩
      cases sd with
      | true => simp
      | false => simp only [Bool.false_eq_true, if_false]; rw [hph]
    | _ =>
      refine ⟨rfl, by simp, ?_⟩
      cases sd with
      | true => simp
      | false => simp only [Bool.false_eq_true, if_false]; rw [hph]

theorem parseImplLenT_fst (sd : Bool) (bs : Bytes) (len : Int) :
    (parseImplLenT sd bs len).1 = parseImplLen sd bs len := by
  unfold parseImplLenT parseImplLen
  split
  · rfl
  · exact (parseImplT_eq sd _).1

end Opus.FramingProofs
