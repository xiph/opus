import OpusProofs.CeltHdrTail
import OpusProofs.CeltAllocTree
/-
  OpusProofs.CeltHdrMain — the header round trip assembled: `tail_roundtrip` (tf, spread, dynalloc, trim, the VBR shrink,
  the `bits` / anti-collapse computation and the allocation's coder calls; the decoder side of the allocation follows from
  `alloc_agree`), and in front of it, inside `header_roundtrip`, the flags and the coarse energy.
-/
namespace OpusProofs.CeltHdr
open Opus Opus.RangeCoder Opus.CeltSymsEnc

open Opus.SilkSymsEncProofs (Reads) in
/-- the allocation's coder calls, read back, are the values the allocation's decoder side takes from its oracle -/
theorem reads_allocOps : ∀ (aops : List CeltAlloc.Op) (d : Dec), OpusProofs.CeltAlloc.BitsOk aops →
    Reads d (aops.map allocOp) → (decRun d (aops.map allocOp)).1 = aops.map OpusProofs.CeltAlloc.opVal
  | [], _, _, _ => rfl
  | a :: rest, d, hb, hr => by
    have ih := reads_allocOps rest _ (fun o ho => hb o (List.mem_cons_of_mem _ ho)) hr.2
    have hv : (decOp d (allocOp a)).1 = OpusProofs.CeltAlloc.opVal a := by
      cases a with
      | bit v =>
        have hv1 : v ≤ 1 := hb (.bit v) (List.mem_cons_self ..)
        have m' : (decOp d (.bitLogp v 1)).1 = if v ≠ 0 then 1 else 0 := hr.1
        show (decOp d (.bitLogp v 1)).1 = v
        rw [m']; split <;> omega
      | uint v ft => exact hr.1
    simp only [List.map_cons, decRun, hv, ih]

theorem getD_nonneg (l : List Int) (h : ∀ x ∈ l, 0 ≤ x) (j : Nat) : 0 ≤ l.getD j 0 := by
  rw [List.getD_eq_getElem?_getD]
  cases hj : l[j]? with
  | none => simp
  | some x => simp only [Option.getD_some]; exact h x (List.mem_of_getElem? hj)

/-- the decoder's arguments for `clt_compute_allocation`, from its header -/
def decAllocInp (cfg : EncCfg) (dh : Opus.CeltSyms.CeltHdr) (i d pv sb : Int) : CeltAlloc.Inp :=
  CeltAlloc.Inp.mk cfg.start cfg.end_ ((List.replicate cfg.start 0) ++ dh.offsets.map (fun (x : Nat) => (x : Int)))
    (CeltAlloc.initCaps cfg.LM cfg.C) dh.trim i d dh.bits cfg.C cfg.LM pv sb

/-- the VBR shrink writes nothing but (at most) an `ec_enc_shrink`, and does not enlarge the frame -/
theorem encVbrShrink_ops (cfg : EncCfg) (size1 : Nat) (s : St) :
    ∃ tl, (encVbrShrink cfg size1 s).2.ops = s.ops ++ tl ∧ (∀ op ∈ tl, ∃ n, op = Op.shrink n) ∧
      (encVbrShrink cfg size1 s).1 ≤ size1 := by
  unfold encVbrShrink
  by_cases hv : cfg.vbr = true
  · simp only [hv, if_true]
    exact ⟨[_], rfl, fun op hop => ⟨_, List.mem_singleton.mp hop⟩, Nat.le_trans (Nat.min_le_left _ _) (Nat.min_le_left _ _)⟩
  · simp only [hv]
    exact ⟨[], by simp, by simp, Nat.le_refl _⟩

theorem encVbrShrink_ext0 (cfg : EncCfg) (size1 : Nat) (s : St) :
    Ext0 s (encVbrShrink cfg size1 s).2 ∧ (encVbrShrink cfg size1 s).1 ≤ size1 := by
  obtain ⟨tl, h, _, hle⟩ := encVbrShrink_ops cfg size1 s
  exact ⟨⟨tl, h⟩, hle⟩

theorem encVbrShrink_here {w : World} {P0 : List Op} (cfg : EncCfg) (size1 : Nat) (s : St) (d : Dec) (h : Here w P0 s d)
    (hp : w.IsPrefix (P0 ++ (encVbrShrink cfg size1 s).2.ops)) : Here w P0 (encVbrShrink cfg size1 s).2 d := by
  unfold encVbrShrink at hp ⊢
  by_cases hv : cfg.vbr = true
  · simp only [hv, if_true] at hp ⊢
    exact (h.pop.emit _ hp).2
  · simp only [hv] at hp ⊢
    exact h

/-- A successful `encTail`: the five stages in front of the allocation, a successful allocation, and the header
    assembled from them. -/
theorem encTail_ok {cfg : EncCfg} {sil size1 : Nat} {pf : PfOut} {opsPf : List Op} {isT intra : Nat} {qs qds : List Int}
    {s4 : St} {hdr : EncHdr} (h : encTail cfg sil size1 pf opsPf isT intra qs qds s4 = .ok hdr) :
    ∃ T SP DY TR VB o, encTf cfg isT s4 = T ∧ encSpread ((size1 * 8 : Nat) : Int) T.2.2.2 = SP ∧
      encDynalloc cfg (((size1 * 8 : Nat) : Int) * 8) (cfg.end_ - cfg.start) cfg.start 6 0 SP.2 = DY ∧
      encTrim (((size1 * 8 : Nat) : Int) * 8) DY.2.1 DY.2.2 = TR ∧ encVbrShrink cfg size1 TR.2 = VB ∧
      CeltAlloc.computeAllocation
        (allocInpOf cfg DY.1 TR.1 (bitsOf VB.1 VB.2.e - acrOf cfg isT (bitsOf VB.1 VB.2.e)) VB.2) { encode := true } = .ok o ∧
      hdr = { silence := sil, pf := pf, isTransient := isT, intra := intra, coarse := qs, coarseDec := qds, tfRes := T.1,
              tfRaw := T.2.2.1, tfSelect := T.2.1, spread := SP.1, offsets := DY.1, totalBoost := DY.2.1, trim := TR.1,
              size := VB.1, bits := bitsOf VB.1 VB.2.e - acrOf cfg isT (bitsOf VB.1 VB.2.e),
              antiCollapseRsv := acrOf cfg isT (bitsOf VB.1 VB.2.e),
              allocInp := allocInpOf cfg DY.1 TR.1 (bitsOf VB.1 VB.2.e - acrOf cfg isT (bitsOf VB.1 VB.2.e)) VB.2,
              alloc := o, opsPf := opsPf, opsHdr := VB.2.ops,
              ops := VB.2.pop.2.pop.2.pop.2.pop.2.ops ++ o.ops.map allocOp, encHdr := VB.2.e,
              enc := encRun VB.2.pop.2.pop.2.pop.2.pop.2.e (o.ops.map allocOp), rest := VB.2.pop.2.pop.2.pop.2.pop.2.ds } := by
  unfold encTail at h
  simp only [] at h
  generalize hA : CeltAlloc.computeAllocation _ _ = r at h
  match r, h with
  | .ok o, h => injection h with h; exact ⟨_, _, _, _, _, o, rfl, rfl, rfl, rfl, rfl, hA, h.symm⟩

/-- What the round trip establishes between the encoder's header `hdr` and the decoder's `dh`. -/
structure HdrAgree (w : World) (P0 : List Op) (cfg : EncCfg) (hdr : EncHdr) (dh : Opus.CeltSyms.CeltHdr) : Prop where
  silence : dh.silence = hdr.silence
  pfOn : dh.pf.on = hdr.pf.on
  pfOctave : dh.pf.octave = hdr.pf.octave
  pfPitch : dh.pf.pitch = hdr.pf.pitch
  pfGain : dh.pf.qg = hdr.pf.qg
  pfTapset : dh.pf.tapset = hdr.pf.tapset
  isTransient : dh.isTransient = hdr.isTransient
  intra : dh.intra = hdr.intra
  /-- the decoder gets what the written symbols mean -/
  coarse : dh.coarse = hdr.coarseDec
  tfRes : dh.tfRes = hdr.tfRes
  tfSelect : dh.tfSelect = hdr.tfSelect
  spread : dh.spread = hdr.spread
  offsets : dh.offsets = hdr.offsets
  trim : dh.trim = hdr.trim
  bits : dh.bits = hdr.bits
  antiCollapseRsv : dh.antiCollapseRsv = hdr.antiCollapseRsv
  /-- coder states when `clt_compute_allocation` is entered -/
  encAtAlloc : hdr.encHdr = w.encAt (P0 ++ hdr.opsHdr)
  decAtAlloc : dh.dec = w.decAt (P0 ++ hdr.opsHdr)
  rngAtAlloc : dh.dec.rng = hdr.encHdr.rng
  tellAtAlloc : tell dh.dec = tell hdr.encHdr
  tellFracAtAlloc : tellFrac dh.dec = tellFrac hdr.encHdr
  /-- the allocation: the range decoder returns the encoder's values, and the decoder-side run on them gives the
      encoder's result -/
  opsSplit : hdr.ops = hdr.opsHdr ++ hdr.alloc.ops.map allocOp
  allocVals : (decRun dh.dec (hdr.alloc.ops.map allocOp)).1 = hdr.alloc.ops.map OpusProofs.CeltAlloc.opVal
  allocAgree : ∀ (i d pv sb : Int) (rest : List Nat),
    CeltAlloc.computeAllocation (decAllocInp cfg dh i d pv sb)
      { encode := false, oracle := (decRun dh.dec (hdr.alloc.ops.map allocOp)).1 ++ rest, ops := [] } = .ok hdr.alloc
  /-- coder states at the hand-over to the band data -/
  encAtBands : hdr.enc = w.encAt (P0 ++ hdr.ops)
  decAtBands : (decRun dh.dec (hdr.alloc.ops.map allocOp)).2 = w.decAt (P0 ++ hdr.ops)
  rngAtBands : (decRun dh.dec (hdr.alloc.ops.map allocOp)).2.rng = hdr.enc.rng
  tellAtBands : tell (decRun dh.dec (hdr.alloc.ops.map allocOp)).2 = tell hdr.enc
  tellFracAtBands : tellFrac (decRun dh.dec (hdr.alloc.ops.map allocOp)).2 = tellFrac hdr.enc

/-- **Round trip behind the coarse energies** (`encTail` against `readTail`), including the allocation: if what was read in
    front agrees, the whole header does. -/
theorem tail_roundtrip (w : World) (P0 : List Op) (cfg : EncCfg) (sil size1 : Nat) (pf : PfOut) (opsPf : List Op) (isT intra : Nat)
    (qs qds : List Int) (s4 : St) (d4 : Dec) (h4 : Here w P0 s4 d4) (hst : s4.e.storage = size1)
    (hdr : EncHdr) (hrun : encTail cfg sil size1 pf opsPf isT intra qs qds s4 = .ok hdr)
    (hp : w.IsPrefix (P0 ++ hdr.ops))
    (hcfg : cfg.start < cfg.end_ ∧ cfg.end_ ≤ 21 ∧ (cfg.C = 1 ∨ cfg.C = 2) ∧ cfg.LM ≤ 3)
    (hsz : size1 ≤ 1275) (hlen : w.len = hdr.size)
    (hmargin : w.len = size1 ∨ (tell (w.encAt (P0 ++ hdr.opsHdr)) + 16 ≤ ((w.len * 8 : Nat) : Int) ∧
       (tellFrac (w.encAt (P0 ++ hdr.opsHdr)) : Int) + hdr.totalBoost + 48 < ((w.len * 8 * 8 : Nat) : Int)))
    (hint : (cfg.start : Int) ≤ hdr.allocInp.intensity)
    (hdual : hdr.allocInp.dualStereo = 0 ∨ hdr.allocInp.dualStereo = 1)
    (flags : Nat × Opus.CeltSyms.PostFilter × Nat × Nat) (hsilF : flags.1 = sil)
    (hpfF : flags.2.1.on = pf.on ∧ flags.2.1.octave = pf.octave ∧ flags.2.1.pitch = pf.pitch ∧ flags.2.1.qg = pf.qg ∧
      flags.2.1.tapset = pf.tapset)
    (hfl : flags.2.2.1 = isT) (hinF : flags.2.2.2 = intra) (tr0 : List Opus.CeltSyms.CEv) :
    HdrAgree w P0 cfg hdr (Opus.CeltSyms.readTail (cfgD cfg) w.len flags qds tr0 d4) := by
  obtain ⟨T, SP, DY, TR, VB, o, hT, hSP, hDY, hTR, hVB, hA, rfl⟩ := encTail_ok hrun
  simp only [] at hp hlen hmargin hint hdual ⊢
  -- the four pops take the decisions `intensity`, `dual_stereo`, `lastCodedBands`, `signalBandwidth` (`allocInpOf`):
  -- they write nothing
  have hops9 : VB.2.pop.2.pop.2.pop.2.pop.2.ops = VB.2.ops := rfl
  rw [hops9] at hp
  have p9 : w.IsPrefix (P0 ++ VB.2.ops) := World.isPrefix_left hp rfl
  obtain ⟨X4, hvb1⟩ : Ext0 TR.2 VB.2 ∧ VB.1 ≤ size1 := by rw [← hVB]; exact encVbrShrink_ext0 cfg size1 TR.2
  have m : Margin w P0 size1 DY.2.1 VB.2 := ⟨p9, by rw [hlen]; exact hvb1, hmargin⟩
  -- the stages; each `.1` says that the encoder stage only appends, which places the earlier states before `VB.2`
  have S1 := (tf_stage (size1 := size1) (tbMax := DY.2.1) cfg isT).at w P0 rfl s4 d4
  simp only [hT] at S1
  generalize hDT : Opus.CeltSyms.tfDecode (cfgD cfg) isT d4 = DT at S1
  have S2 := (spread_stage (size1 := size1) (tbMax := DY.2.1)).at w P0 rfl T.2.2.2 DT.2.2.1
  simp only [hSP] at S2
  generalize hDS : Opus.CeltSyms.readSpread ((w.len * 8 : Nat) : Int) DT.2.2.1 = DS at S2
  have S3 := (dynalloc_stage (size1 := size1) (tbMax := DY.2.1) cfg (cfg.end_ - cfg.start) cfg.start 6 0
    (by omega)).at w P0 rfl SP.2 DS.2.1
  simp only [hDY, Int.natCast_zero, Int.sub_zero] at S3
  generalize hDD : Opus.CeltSyms.dynalloc (cfgD cfg) (cfg.end_ - cfg.start) cfg.start 6 ((w.len * 8 * 8 : Nat) : Int) DS.2.1 = DD at S3
  have S4 := (trim_stage (size1 := size1) (tbMax := DY.2.1) DY.2.1).at w P0 rfl DY.2.2 DD.2.2.1
  simp only [hTR] at S4
  have X3 := S4.1.ext0.trans X4
  have X2 := S3.1.ext0.trans X3
  have X1 := S2.1.ext0.trans X2
  obtain ⟨a, a3⟩ := S1.2 VB.2 X1 m hst h4
  obtain ⟨a1, a2⟩ := Prod.mk.inj a
  obtain ⟨b1, b2⟩ := S2.2 VB.2 X2 m trivial a3
  obtain ⟨⟨c1, c2⟩, c3⟩ := S3.2 VB.2 X3 m (Nat.le_refl _) b2
  rw [← c2] at S4
  generalize hDR : Opus.CeltSyms.readTrim DD.2.1 DD.2.2.1 = DR at S4
  obtain ⟨e1, e2⟩ := S4.2 VB.2 X4 m (Nat.le_refl _) c3
  generalize htotD : ((w.len * 8 : Nat) : Int) = totD at *
  generalize htotFD : ((w.len * 8 * 8 : Nat) : Int) = totFD at *
  have f3 := encVbrShrink_here cfg size1 TR.2 DR.2.1 e2 (by rw [hVB]; exact p9)
  rw [hVB] at f3
  obtain ⟨_, ftf, _, _⟩ := f3.tells p9
  unfold Opus.CeltSyms.readTail
  rw [hfl, hDT]
  simp only [htotD, hDS, htotFD, hDD, hDR]
  have hbits0 : totFD - (tellFrac DR.2.1 : Int) - 1 = bitsOf VB.1 VB.2.e := by
    unfold bitsOf; rw [ftf, ← htotFD, hlen]
  rw [hbits0]
  have hacr : (if isT ≠ 0 ∧ cfg.LM ≥ 2 ∧ bitsOf VB.1 VB.2.e ≥ (cfg.LM + 2) * 8 then 8 else 0 : Nat) =
      acrOf cfg isT (bitsOf VB.1 VB.2.e) := rfl
  have hacrI : (if isT ≠ 0 ∧ cfg.LM ≥ 2 ∧ bitsOf VB.1 VB.2.e ≥ (cfg.LM + 2) * 8 then 8 else 0 : Int) =
      ((acrOf cfg isT (bitsOf VB.1 VB.2.e) : Nat) : Int) := by
    unfold acrOf; split <;> rfl
  rw [hacr, hacrI]
  -- the allocation's calls
  obtain ⟨r1, fB⟩ := f3.run (o.ops.map allocOp) hp
  have g1 := reads_allocOps o.ops _ (OpusProofs.CeltAlloc.alloc_bits _ _ o rfl hA) r1
  have hdom : OpusProofs.CeltAlloc.Dom
      (allocInpOf cfg DY.1 TR.1 (bitsOf VB.1 VB.2.e - acrOf cfg isT (bitsOf VB.1 VB.2.e)) VB.2) := by
    refine ⟨hcfg.1, hcfg.2.1, hcfg.2.2.1, hcfg.2.2.2, ?_, ?_, ?_⟩
    · exact getD_nonneg _ (List.forall_mem_append.mpr
        ⟨fun x hx => by rw [List.eq_of_mem_replicate hx]; exact Int.le_refl _,
         List.forall_mem_map.mpr fun y _ => Int.natCast_nonneg y⟩)
    · intro j
      exact OpusProofs.CeltAlloc.initCaps_bounds cfg.LM cfg.C hcfg.2.2.2 hcfg.2.2.1 j
    · show bitsOf VB.1 VB.2.e - acrOf cfg isT (bitsOf VB.1 VB.2.e) ≤ 16777216
      have : ∀ v s tf a : Nat, v ≤ s → s ≤ 1275 → ((v * 8 * 8 : Nat) : Int) - (tf : Int) - 1 - (a : Int) ≤ 16777216 := by
        omega
      exact this VB.1 size1 (tellFrac VB.2.e) _ hvb1 hsz
  exact
    { silence := hsilF, pfOn := hpfF.1, pfOctave := hpfF.2.1, pfPitch := hpfF.2.2.1, pfGain := hpfF.2.2.2.1
      pfTapset := hpfF.2.2.2.2, isTransient := rfl, intra := hinF, coarse := rfl
      tfRes := a1, tfSelect := a2, spread := b1, offsets := c1, trim := e1, bits := rfl, antiCollapseRsv := rfl
      encAtAlloc := f3.enc, decAtAlloc := f3.dec, rngAtAlloc := f3.rng p9, tellAtAlloc := (f3.tells p9).1
      tellFracAtAlloc := ftf
      opsSplit := rfl
      allocVals := g1
      allocAgree := by
        intro i d pv sb rest
        rw [g1, ← OpusProofs.CeltAlloc.alloc_agree _ hdom [] o hint hdual hA i d pv sb rest]
        unfold decAllocInp
        simp only [c1, e1]
        rfl
      encAtBands := fB.enc, decAtBands := fB.dec, rngAtBands := fB.rng hp, tellAtBands := (fB.tells hp).1
      tellFracAtBands := (fB.tells hp).2.1 }

theorem encTail_facts (cfg : EncCfg) (sil size1 : Nat) (pf : PfOut) (opsPf : List Op) (isT intra : Nat)
    (qs qds : List Int) (s4 : St) (hdr : EncHdr) (hrun : encTail cfg sil size1 pf opsPf isT intra qs qds s4 = .ok hdr) :
    hdr.silence = sil ∧ hdr.pf = pf ∧ hdr.opsPf = opsPf ∧ hdr.isTransient = isT ∧ hdr.intra = intra ∧ hdr.coarse = qs ∧
    hdr.coarseDec = qds ∧ (∃ δ, hdr.ops = hdr.opsHdr ++ δ) ∧ hdr.size ≤ size1 := by
  obtain ⟨T, SP, DY, TR, VB, o, hT, hSP, hDY, hTR, hVB, _, rfl⟩ := encTail_ok hrun
  exact ⟨rfl, rfl, rfl, rfl, rfl, rfl, rfl, ⟨_, rfl⟩, by rw [← hVB]; exact (encVbrShrink_ext0 cfg size1 TR.2).2⟩

/-- `encTail` only appends calls (the first halves of its stages) -/
theorem encTail_opsHdr (cfg : EncCfg) (sil size1 : Nat) (pf : PfOut) (opsPf : List Op) (isT intra : Nat)
    (qs qds : List Int) (s4 : St) (hdr : EncHdr) (hrun : encTail cfg sil size1 pf opsPf isT intra qs qds s4 = .ok hdr) :
    ∃ δ, hdr.opsHdr = s4.ops ++ δ := by
  obtain ⟨T, SP, DY, TR, VB, o, hT, hSP, hDY, hTR, hVB, _, rfl⟩ := encTail_ok hrun
  have x45 : Ext s4 T.2.2.2 := hT ▸ (tf_stage (size1 := size1) (tbMax := 0) (len := 0) cfg isT).ext s4
  have x56 : Ext T.2.2.2 SP.2 := hSP ▸ (spread_stage (tbMax := 0) (len := 0)).ext _
  have x67 : Ext SP.2 DY.2.2 := hDY ▸ (dynalloc_stage (tbMax := 0) (len := 0) cfg (cfg.end_ - cfg.start) cfg.start 6 0
    (by omega)).ext SP.2
  have x78 : Ext DY.2.2 TR.2 := hTR ▸ (trim_stage (tbMax := 0) (len := 0) DY.2.1).ext _
  have x89 := (encVbrShrink_ext0 cfg size1 TR.2).1
  rw [hVB] at x89
  exact (((x45.trans x56).trans x67).trans x78).ext0.trans x89

/-- a successful `encHeader` is a successful `encCoarse` behind the three flag stages, then a successful `encTail` -/
theorem encHeader_ok {cfg : EncCfg} {s0 : St} {hdr : EncHdr} (h : encHeader cfg s0 = .ok hdr) :
    ∃ R1 R2 R3 intra qs qds s4, encSilence cfg s0 = R1 ∧
      encPostFilter cfg ((R1.2.1 * 8 : Nat) : Int) R1.2.2.1 R1.2.2.2 = R2 ∧
      encTransient cfg ((R1.2.1 * 8 : Nat) : Int) R2.2 = R3 ∧
      encCoarse cfg ((R1.2.1 * 8 : Nat) : Int) R3.2 = .ok (intra, qs, qds, s4) ∧
      encTail cfg R1.1 R1.2.1 R2.1 R2.2.ops R3.1 intra qs qds s4 = .ok hdr := by
  unfold encHeader at h
  simp only [] at h
  generalize hC : encCoarse _ _ _ = r at h
  match r, h with
  | .ok (intra, qs, qds, s4), h => exact ⟨_, _, _, intra, qs, qds, s4, rfl, rfl, rfl, hC, h⟩

/-- **The CELT header round trip** (non-silent frame; `silent_roundtrip` has the silent one): C03's `celtHeader` on the finished
    packet returns the encoder's header.  `s0` is the CELT encoder's start state on the coder behind the calls `P0`
    (`hs0 he0 hst0`; `storage` is `nbCompressedBytes`), its calls are in the packet (`hp`), whose final length is the encoder's
    final size (`hlen`, after the VBR shrink).  `hmargin`: nothing was shrunk away (CBR), or the shrink left 16 bits, and 6 bits
    beyond all boosts, behind the header — what `min_allowed` (celt_encoder.c:2314) is there for; then every budget test comes
    out against `len*8` as it did against `nbCompressedBytes*8` (`Margin`).  `hroom`: the decoder does not infer silence from
    `tell >= total_bits` (celt_decoder.c:1115).  `htap`: with the post-filter on, the tapset passes the decoder's `tell+2` test
    (the encoder enables the filter only for `nbAvailableBytes > 12*C`, celt_encoder.c:1865).  `hint`, `hdual`, `hcfg`, `hsz`:
    the domain of the allocation's encoder/decoder agreement (`alloc_agree`). -/
theorem header_roundtrip (w : World) (P0 : List Op) (cfg : EncCfg) (s0 : St) (hs0 : s0.ops = [])
    (he0 : s0.e = w.encAt P0) (hst0 : s0.e.storage = cfg.size)
    (hdr : EncHdr) (hrun : encHeader cfg s0 = .ok hdr) (hsil : hdr.silence = 0)
    (hp : w.IsPrefix (P0 ++ hdr.ops))
    (hcfg : cfg.start < cfg.end_ ∧ cfg.end_ ≤ 21 ∧ (cfg.C = 1 ∨ cfg.C = 2) ∧ cfg.LM ≤ 3)
    (hsz : cfg.size ≤ 1275) (hlen : w.len = hdr.size)
    (hmargin : w.len = cfg.size ∨ (tell (w.encAt (P0 ++ hdr.opsHdr)) + 16 ≤ ((w.len * 8 : Nat) : Int) ∧
       (tellFrac (w.encAt (P0 ++ hdr.opsHdr)) : Int) + hdr.totalBoost + 48 < ((w.len * 8 * 8 : Nat) : Int)))
    (hroom : tell s0.e < ((w.len * 8 : Nat) : Int))
    (htap : hdr.pf.on ≠ 0 → tell (w.encAt (P0 ++ hdr.opsPf.dropLast)) + 2 ≤ ((w.len * 8 : Nat) : Int))
    (hint : (cfg.start : Int) ≤ hdr.allocInp.intensity)
    (hdual : hdr.allocInp.dualStereo = 0 ∨ hdr.allocInp.dualStereo = 1) :
    ∃ dh, Opus.CeltSyms.celtHeader (cfgD cfg) w.len (w.decAt P0) = .ok dh ∧ HdrAgree w P0 cfg hdr dh := by
  obtain ⟨⟨sil, size1, tv, s1⟩, ⟨pf, s2⟩, ⟨isT, s3⟩, intra, qs, qds, s4, h1, h2, h3, h4, hrun⟩ := encHeader_ok hrun
  simp only [] at h2 h3 h4 hrun
  obtain ⟨k1, k2, k3, -, -, -, -, ⟨δ2, k9⟩, k10⟩ := encTail_facts _ _ _ _ _ _ _ _ _ _ _ hrun
  have hx : Ext0 s4 ⟨hdr.encHdr, hdr.opsHdr, []⟩ := encTail_opsHdr _ _ _ _ _ _ _ _ _ _ _ hrun
  obtain rfl : sil = 0 := by rw [← k1]; exact hsil
  have hsil0 : (encSilence cfg s0).1 = 0 := by rw [h1]
  obtain ⟨rfl, rfl⟩ : size1 = cfg.size ∧ tv = tell s0.e := by
    have := encSilence_zero hsil0; rw [h1] at this; exact this
  have m : Margin w P0 cfg.size hdr.totalBoost ⟨hdr.encHdr, hdr.opsHdr, []⟩ :=
    ⟨World.isPrefix_left hp k9, by rw [hlen]; exact k10, hmargin⟩
  have hH0 : Here w P0 s0 (w.decAt P0) := Here.start hs0 he0
  have h8 : (8 : Int) ≤ ((w.len * 8 : Nat) : Int) := by
    have p0 : w.IsPrefix (P0 ++ s0.ops) := by rw [hs0, List.append_nil]; exact World.isPrefix_of_append m.pre
    obtain ⟨_, _, _, hr⟩ := hH0.tells p0
    have hn := (w.nbits_bounds _ p0).1
    rw [← hH0.enc] at hn
    have := ilog_le_32 hr
    unfold tell at hroom
    omega
  have hle : ((w.len * 8 : Nat) : Int) ≤ ((cfg.size * 8 : Nat) : Int) := by have := m.len; omega
  -- flags and coarse energy, the stages: each `.1` says that the encoder stage only appends, which places the earlier states before the
  -- point `hdr.opsHdr` of `m`
  have x1 := encSilence_ext cfg s0 hsil0
  rw [h1] at x1
  generalize hc1 : (Opus.CeltSyms.readSilence ((w.len * 8 : Nat) : Int) (w.decAt P0)).2.1 = c1
  have x2 := encPostFilter_ext cfg ((cfg.size * 8 : Nat) : Int) (tell s0.e) s1
  rw [h2] at x2
  generalize hrp : Opus.CeltSyms.readPostFilter cfg.start ((w.len * 8 : Nat) : Int) (tell s0.e) c1 = rp
  have S3 := (transient_stage (size1 := cfg.size) (tbMax := hdr.totalBoost) cfg ((cfg.size * 8 : Nat) : Int)
    ((w.len * 8 : Nat) : Int) rp.2.1).at w P0 rfl s2 rp.2.2.1
  simp only [h3] at S3
  generalize hrt : Opus.CeltSyms.readTransient cfg.LM ((w.len * 8 : Nat) : Int) rp.2.1 rp.2.2.1 = rt at S3
  obtain ⟨ei, hb⟩ := encCoarse_ok h4
  have S4 := (intra_stage (size1 := cfg.size) (tbMax := hdr.totalBoost) ((cfg.size * 8 : Nat) : Int)
    ((w.len * 8 : Nat) : Int) rt.2.1).at w P0 rfl s3 rt.2.2.1
  simp only [] at S4
  generalize hri : Opus.CeltSyms.readIntra ((w.len * 8 : Nat) : Int) rt.2.1 rt.2.2.1 = ri at S4
  have hintra2 : (encIntra ((cfg.size * 8 : Nat) : Int) s3).1 < 2 := Nat.lt_succ_of_le (encIntra_le _ s3)
  have x5 := encCoarseBands_ext _ _ _ _ _ _ _ _ _ hb
  have X4 := x5.ext0.trans hx
  have X3 := S4.1.ext0.trans X4
  have X2 := S3.1.ext0.trans X3
  have X1 := x2.ext0.trans X2
  obtain ⟨a1, a2, a3⟩ := silence0_stage cfg ((w.len * 8 : Nat) : Int) s0 (w.decAt P0) hsil0 _ (by rw [h1]; exact X1) m hroom hH0
  rw [h1, hc1] at a2
  rw [hc1] at a3
  obtain ⟨t0, _, _, b0, _⟩ := hH0.budget (x1.ext0.trans X1) m
  -- post-filter: both sides test the entry value of `tell`
  obtain ⟨pfA, b6⟩ := postfilter_stage cfg ((cfg.size * 8 : Nat) : Int) ((w.len * 8 : Nat) : Int) (tell s0.e) s1 c1 _
    (by rw [h2]; exact X2) m (b0 16 (by omega) (by omega)) (by
      rw [h2]
      intro hon
      have := htap (by rw [k2]; exact hon)
      rw [k3] at this; exact this) a2
  rw [h2, hrp] at pfA b6
  have v2 := readPostFilter_tv cfg.start ((w.len * 8 : Nat) : Int) (tell s0.e) c1 (by rw [← t0]; exact a3)
  rw [hrp] at v2
  -- transient, intra: the decoder's local `tell` may be stale
  obtain ⟨t2, _, _, bud2, _⟩ := b6.budget X2 m
  obtain ⟨c1', c2'⟩ := S3.2 _ X3 m (v2.iff3 t2 bud2 h8 hle) b6
  have v3 := readTransient_tv cfg.LM ((w.len * 8 : Nat) : Int) rp.2.1 rp.2.2.1 v2
  rw [hrt] at v3
  obtain ⟨t3, _, _, bud3, _⟩ := c2'.budget X3 m
  obtain ⟨i1, i2⟩ := S4.2 _ X4 m (v3.iff3 t3 bud3 h8 hle) c2'
  obtain ⟨c6, tr6, g1, g2⟩ := coarseBands_stage cfg _
    (fun i => frozen_laplace_ok cfg.LM (by have := hcfg.2.2.2; omega) _ hintra2 (min i 20) (by omega)) _ m
    (cfg.end_ - cfg.start) cfg.start _ s4 ri.2.1 _ _ hb hx i2
  have hst4 : s4.e.storage = cfg.size := by
    rw [storage_of_ext ((((x1.trans x2).trans S3.1).trans S4.1).trans x5) hH0 g2, hst0]
  refine ⟨Opus.CeltSyms.readTail (cfgD cfg) w.len (0, rp.1, isT, intra) qds
    (((Opus.CeltSyms.readSilence ((w.len * 8 : Nat) : Int) (w.decAt P0)).2.2 ++ rp.2.2.2 ++ rt.2.2.2 ++ ri.2.2) ++ tr6) c6, ?_,
    tail_roundtrip w P0 cfg 0 cfg.size pf s2.ops isT intra qs qds s4 c6 g2 hst4 hdr hrun hp hcfg hsz hlen hmargin hint hdual
      _ rfl pfA rfl rfl _⟩
  have hsilD : Opus.CeltSyms.readSilence ((w.len * 8 : Nat) : Int) (w.decAt P0) =
      (0, c1, (Opus.CeltSyms.readSilence ((w.len * 8 : Nat) : Int) (w.decAt P0)).2.2) := by
    rw [← a1, ← hc1]
  have e3 : rt.1 = isT := c1'
  have e4 : ri.1 = intra := i1.trans ei
  unfold Opus.CeltSyms.celtHeader Opus.CeltSyms.readFlags
  rw [hsilD]
  simp only [Opus.CeltSyms.applySilence, ne_eq, not_true_eq_false, if_false, t0, hrp, hrt, hri, e3, e4,
    Opus.CeltSyms.coarseEnergy]
  have g1' : Opus.CeltSyms.coarseBands ((Opus.CeltSymsFrozen.eProbModel.getD cfg.LM []).getD intra []) cfg.C
      (cfg.end_ - cfg.start) cfg.start ri.2.1 = .ok (qds, c6, tr6) := by rw [← ei]; exact g1
  rw [g1']

end OpusProofs.CeltHdr
