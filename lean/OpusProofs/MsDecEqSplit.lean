import OpusModel.MsDecEq
import OpusProofs.MsPackets
/-
  OpusProofs.MsDecEqSplit — an accepted multistream packet is decoded stream by stream exactly as the declarative
  splitter prescribes (`specLoop`): the loop on an accepted packet, that such a packet passes the early exits, the closed
  form of the sub-packet run; which events of a declarative history count as accepted (`HEv.Ok`).
  On top of C06 (`parse_complete`) and C10 (`msPacketValidate_packets` / `msPacketValidate_msSerialize`).
-/
namespace Opus.MsDecEq
open Opus Opus.Framing Opus.FramingSpec Opus.FramingProofs Opus.Layout Opus.LayoutSpec

variable {σ π : Type}

/-- The only thing the multistream loop needs to know about `opus_decode_native`: when it returns `> 0` on a present
    packet that parses, `*packet_offset` is the parser's `packet_offset` (src/opus_decoder.c:757-758; proved for the C01
    skeleton as `Opus.DecSkel.decodeNative_po`; compared on every call by the correspondence run). -/
def PoContract (m : Machine σ π) : Prop :=
  ∀ (st : σ) (bs : Bytes) (fsz fec : Int) (sd sc : Bool) (p : Parsed), parseImpl sd bs = .ok p →
    0 < (m.decode st (some bs) fsz fec sd sc).ret → (m.decode st (some bs) fsz fec sd sc).po = p.packetOffset

/-- The elementary decoder reads only its own self-delimited sub-packet (true of `opus_decode_native`, which uses nothing
    but the parser's frame table; checked on the implementation by the twin search, under ASan on exact-size copies). -/
def Local (m : Machine σ π) : Prop :=
  ∀ (st : σ) (p : Packet) (rest : Bytes) (fsz fec : Int) (sc : Bool), Valid p →
    m.decode st (some (serialize true p ++ rest)) fsz fec true sc = m.decode st (some (serialize true p)) fsz fec true sc

/-- **The stream loop on an accepted packet is the declarative splitter** (every machine honouring `PoContract`). -/
theorem msLoop_accepted (m : Machine σ π) (hpo : PoContract m) (l : ChannelLayout) (fec : Int) (sc : Bool) :
    ∀ (ps : List Packet) (todo : List σ) (s : Nat) (off fsz : Int), ps.length = todo.length → (∀ p ∈ ps, Valid p) →
      s + ps.length = l.nbStreams →
      msLoop m l fec sc false todo s (msSerialize ps) off (msSerialize ps).length fsz =
        specLoop m l fec sc feedSuffix ps todo s off fsz
  | [], [], s, off, fsz, _, _, _ => by simp [msLoop, specLoop]
  | [], _ :: _, _, _, _, h, _, _ => by simp at h
  | _ :: _, [], _, _, _, h, _, _ => by simp at h
  | p :: ps, st :: rest, s, off, fsz, hlen, hval, hs => by
    have hpos := msSerialize_pos p ps
    have hargs : streamArgs l.nbStreams false s (msSerialize (p :: ps)) ((msSerialize (p :: ps)).length : Int) fsz fec sc =
        { pkt := some (feedSuffix p ps), fsz := fsz, fec := fec, sd := decide (ps ≠ []), sc := sc } := by
      unfold streamArgs feedSuffix
      rw [sd_of_count hs]
      simp
    unfold msLoop specLoop
    rw [if_neg (by omega)]
    simp only [hargs]
    by_cases h2 : (m.run st { pkt := some (feedSuffix p ps), fsz := fsz, fec := fec, sd := decide (ps ≠ []), sc := sc }).ret ≤ 0
    · rw [if_pos h2, if_pos h2]
    · rw [if_neg h2, if_neg h2]
      have hpo2 : (m.run st { pkt := some (feedSuffix p ps), fsz := fsz, fec := fec, sd := decide (ps ≠ []), sc := sc }).po =
          ((serialize (decide (ps ≠ [])) p).length : Int) :=
        hpo st (feedSuffix p ps) fsz fec (decide (ps ≠ [])) sc _ (parse_msSerialize (hval p (by simp)) ps) (Int.not_le.mp h2)
      have hl2 : ((msSerialize (p :: ps)).length : Int) - ((serialize (decide (ps ≠ [])) p).length : Int) =
          ((msSerialize ps).length : Int) := by
        rw [msSerialize_cons, List.length_append]; omega
      simp only [Bool.false_eq_true, if_false, hpo2, Int.toNat_natCast, msSerialize_drop, hl2]
      rw [msLoop_accepted m hpo l fec sc ps rest (s + 1) _ _ (by simpa using hlen)
        (fun q hq => hval q (by simp [hq])) (by simp only [List.length_cons] at hs; omega)]

/-- Under `Local`, handing a stream everything that is left or only its own sub-packet makes no difference. -/
theorem specLoop_local (m : Machine σ π) (hloc : Local m) (l : ChannelLayout) (fec : Int) (sc : Bool) :
    ∀ (ps : List Packet) (todo : List σ) (s : Nat) (off fsz : Int), (∀ p ∈ ps, Valid p) →
      (specLoop m l fec sc feedSuffix ps todo s off fsz).forget = (specLoop m l fec sc feedSub ps todo s off fsz).forget
  | [], _, _, _, _, _ => by simp [specLoop]
  | _ :: _, [], _, _, _, _ => by simp [specLoop]
  | p :: ps, st :: rest, s, off, fsz, hval => by
    have hv : Valid p := hval p (by simp)
    have hrun : m.run st { pkt := some (feedSuffix p ps), fsz := fsz, fec := fec, sd := decide (ps ≠ []), sc := sc } =
        m.run st { pkt := some (feedSub p ps), fsz := fsz, fec := fec, sd := decide (ps ≠ []), sc := sc } := by
      unfold feedSuffix feedSub Machine.run
      cases ps with
      | nil => simp [msSerialize]
      | cons q r =>
        simp only [msSerialize, ne_eq, reduceCtorEq, not_false_eq_true, decide_true]
        exact hloc st p _ fsz fec sc hv
    have ih := specLoop_local m hloc l fec sc ps rest (s + 1) (off + (serialize (decide (ps ≠ [])) p).length)
      (m.run st { pkt := some (feedSub p ps), fsz := fsz, fec := fec, sd := decide (ps ≠ []), sc := sc }).ret
      (fun q hq => hval q (by simp [hq]))
    unfold specLoop
    simp only [hrun]
    split
    · simp [Out.forget, Rec.forget]
    · simp only [Out.forget, List.map_cons, Out.mk.injEq] at ih ⊢
      refine ⟨ih.1, by rw [ih.2.1], by rw [ih.2.2.1]; simp [Rec.forget], by rw [ih.2.2.2]⟩

theorem msSerialize_flatten : ∀ ps : List Packet, msSerialize ps = (subPackets ps).flatten
  | [] => rfl
  | p :: ps => by rw [msSerialize_cons, subPackets, List.flatten_cons, msSerialize_flatten ps]

theorem subPackets_length : ∀ ps : List Packet, (subPackets ps).length = ps.length
  | [] => rfl
  | _ :: ps => by simp [subPackets, subPackets_length ps]

/-- **Closed form of the sub-packet run**: the `j`-th per-stream call of `specLoop … feedSub` is on stream `s + j`, from that
    stream's state before the call, at offset = the total length of the sub-packets before it, on exactly the `j`-th
    sub-packet of the declarative splitter, with `self_delimited = (j is not the last)`, the caller's `decode_fec` /
    `soft_clip`, and `frame_size` = the return value of the call before it (the initial one for `j = 0`); its answer is the
    stand-alone machine's. -/
theorem specLoop_sub_closed (m : Machine σ π) (l : ChannelLayout) (fec : Int) (sc : Bool)
    (ps : List Packet) (todo : List σ) (s : Nat) (off fsz : Int) (j : Nat) (r : Rec σ π) :
      (specLoop m l fec sc feedSub ps todo s off fsz).recs[j]? = some r →
      ∃ sub st, (subPackets ps)[j]? = some sub ∧ todo[j]? = some st ∧ r.s = s + j ∧ r.pre = st ∧
        r.off = off + (((subPackets ps).take j).flatten.length : Int) ∧
        r.args = { pkt := some sub, fec := fec, sc := sc, sd := decide (j + 1 < ps.length),
                   fsz := match j with
                     | 0 => fsz
                     | k + 1 => (((specLoop m l fec sc feedSub ps todo s off fsz).recs[k]?).map (·.out.ret)).getD 0 } ∧
        r.out = m.run st r.args := by
  fun_induction specLoop m l fec sc feedSub ps todo s off fsz generalizing j with
  | case3 => intro h; simp at h
  | case1 p ps st rest s off fsz a r0 h2 =>
    intro h
    cases j with
    | succ k => simp at h
    | zero =>
      have hr : r0 = r := Option.some.inj h
      subst hr
      have hsd : decide (ps ≠ []) = decide (0 + 1 < (p :: ps).length) := by cases ps <;> simp
      exact ⟨feedSub p ps, st, by simp [subPackets, feedSub], rfl, rfl, rfl, by simp [r0], by simp only [r0, a, feedSub, hsd], rfl⟩
  | case2 p ps st rest s off fsz a r0 h2 o ih =>
    intro h
    cases j with
    | zero =>
      have hr : r0 = r := Option.some.inj h
      subst hr
      have hsd : decide (ps ≠ []) = decide (0 + 1 < (p :: ps).length) := by cases ps <;> simp
      exact ⟨feedSub p ps, st, by simp [subPackets, feedSub], rfl, rfl, rfl, by simp [r0], by simp only [r0, a, feedSub, hsd], rfl⟩
    | succ k =>
      obtain ⟨sub, st', a1, a2, a3, a4, a5, a6, a7⟩ := ih k h
      refine ⟨sub, st', by simp [subPackets, a1], by simp [a2], by omega, a4, ?_, ?_, a7⟩
      · rw [a5]; simp only [subPackets, List.take_succ_cons, List.flatten_cons, List.length_append]
        push_cast; omega
      · rw [a6]
        have e1 : decide (k + 1 < ps.length) = decide (k + 1 + 1 < (p :: ps).length) := by
          simp only [List.length_cons]; exact decide_eq_decide.mpr (by omega)
        rw [e1]
        cases k <;> rfl
theorem msEarly_accept (l : ChannelLayout) (Fs : Nat) (hFs : Rate Fs) (ps : List Packet) (hlen : ps.length = l.nbStreams)
    (hn : 1 ≤ l.nbStreams) (hval : ∀ p ∈ ps, Valid p) (k : Nat) (hdur : ∀ p ∈ ps, duration Fs p = k)
    (frame_size : Int) (hfs : 0 < frame_size) (hk : (k : Int) ≤ clampFs Fs frame_size) :
    msEarly l Fs (msSerialize ps) (msSerialize ps).length frame_size = none := by
  have hne : ps ≠ [] := by intro h; rw [h] at hlen; simp at hlen; omega
  have hge := msSerialize_length_ge ps hne hval
  have hvld := msPacketValidate_msSerialize hFs hn hlen hval hdur
  unfold msEarly
  rw [if_neg (by omega), if_neg (by omega), if_neg (by omega), if_neg (by omega)]
  simp only [Int.toNat_natCast, List.take_length, msCheck, hvld]
  rw [if_neg (by omega)]

/-- The packets of the accepted events are what `opus_multistream_packet_validate` accepts for this decoder and frame size. -/
def HEv.Ok (l : ChannelLayout) (Fs : Nat) : HEv → Prop
  | .accepted ps frame_size _ _ =>
    ps.length = l.nbStreams ∧ (∀ p ∈ ps, Valid p) ∧ 0 < frame_size ∧
      ∃ k : Nat, (∀ p ∈ ps, duration Fs p = k) ∧ (k : Int) ≤ clampFs Fs frame_size
  | .other _ => True

/-- Stands for its own sake: `forget` drops `args.pkt` and nothing of the answer. -/
theorem forget_out (r : Rec σ π) : r.forget.out = r.out := rfl

/-- Runs that agree once the bytes handed over are forgotten agree in the states, the return value and everything
    computed from the streams' answers. -/
theorem forget_fields {o1 o2 : Out σ π} (h : o1.forget = o2.forget) :
    o1.sts = o2.sts ∧ o1.ret = o2.ret ∧
    ∀ {β : Type} (f : Step σ π → β), o1.recs.map (fun r => f r.out) = o2.recs.map (fun r => f r.out) := by
  refine ⟨(congrArg Out.sts h : o1.forget.sts = _), (congrArg Out.ret h : o1.forget.ret = _), fun f => ?_⟩
  have h3 : o1.forget.recs.map (fun r => f r.out) = o2.forget.recs.map (fun r => f r.out) := by rw [h]
  simp only [Out.forget, List.map_map] at h3
  exact h3

end Opus.MsDecEq
