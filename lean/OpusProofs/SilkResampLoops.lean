import OpusProofs.SilkResampBasic
/-
  OpusProofs.SilkResampLoops — the two batch loops (`while( 1 )` of resampler_private_IIR_FIR.c:85-102 and
  resampler_private_down_FIR.c:168-189) as instances of one shape: a loop `lp` that cuts its input into batches and
  runs a round `rd` on each (`IsBatchLoop`), the round being `batchRound`: filter the batch, put the result behind the
  samples kept from the last batch, interpolate, keep the last samples.  Proved once for the shape: the loop is total,
  keeps an invariant of the round and writes `loopLenF` samples (`loop_ok`); on a whole number of milliseconds it is the
  iteration of one-millisecond rounds, whatever the batch size cut it into (`loop_eq_msIter`), hence it may be cut at
  any whole millisecond (`loop_append`).  What a kernel has to supply for this is the interface `BatchK` (a filter on sIIR, sampler,
  shift, with their laws); `iirK` and `dnK` are the two kernels, `BatchK.For` says
  that a loop of the model is the loop of a kernel in a configuration and that the model's kernel call is that loop run on
  (sIIR, the front of sFIR) and written back (`kform`).
-/
namespace OpusProofs.SilkResamp
open Opus Opus.SilkResamp Opus.SilkParams Opus.Gen.SilkResampRom

/-- Samples written by a batch loop on `len` input samples: each round takes `n = min( len, batchSize )` samples and
    writes `cnt n`; it goes on while more than `thr` samples are left (`thr` = 0: `inLen > 0`, resampler_private_IIR_FIR.c:96;
    `thr` = 1: `inLen > 1`, resampler_private_down_FIR.c:183).  The first argument counts rounds (at most `len`, every continuing round
    consumes a sample). -/
def loopLenF (cnt : Nat → Nat) (batch thr : Nat) : Nat → Nat → Nat
  | 0, len => cnt (min len batch)
  | f + 1, len =>
    let n := min len batch
    cnt n + (if thr < len - n ∧ 0 < n then loopLenF cnt batch thr f (len - n) else 0)

def loopLen (cnt : Nat → Nat) (batch thr len : Nat) : Nat := loopLenF cnt batch thr len len

theorem Res.bind_assoc' {α β γ} (r : Res α) (f : α → Res β) (g : β → Res γ) :
    (r.bind f).bind g = r.bind fun a => (f a).bind g := by cases r <;> rfl

theorem Res.ok_bind {α β} (a : α) (f : α → Res β) : (Res.ok a).bind f = f a := rfl

theorem Res.bind_def {α β} (r : Res α) (f : α → Res β) : (r >>= f) = r.bind f := rfl

theorem Res.bind_ok_right {α β} (r : Res (α × List β)) : (r.bind fun a => Res.ok (a.1, a.2)) = r := by
  cases r <;> rfl

/-- The continuation matters only on the value the first stage returns. -/
theorem Res.bind_congr {α β} {r : Res α} {f g : α → Res β} (h : ∀ a, r = .ok a → f a = g a) : r.bind f = r.bind g := by
  cases r with
  | ok a => exact h a rfl
  | err e => rfl
  | oob => rfl
  | abort => rfl

theorem Res.bind_eq_ok {α β} {r : Res α} {f : α → Res β} {b : β} (h : r.bind f = .ok b) :
    ∃ a, r = .ok a ∧ f a = .ok b := by
  cases r with
  | ok a => exact ⟨a, rfl, h⟩
  | err e => cases h
  | oob => cases h
  | abort => cases h

section Generic
variable {σ : Type}

/-- Two stages one after the other, outputs concatenated. -/
def seq2 (a : Res (σ × List Int)) (f : σ → Res (σ × List Int)) : Res (σ × List Int) :=
  a.bind fun r1 => (f r1.1).bind fun r2 => .ok (r2.1, r1.2 ++ r2.2)

theorem seq2_ok (r : σ × List Int) (f : σ → Res (σ × List Int)) :
    seq2 (.ok r) f = (f r.1).bind fun r2 => .ok (r2.1, r.2 ++ r2.2) := rfl

theorem seq2_nil (s : σ) (f : σ → Res (σ × List Int)) : seq2 (.ok (s, [])) f = f s := by
  rw [seq2_ok]; exact Res.bind_ok_right (f s)

theorem seq2_assoc (a : Res (σ × List Int)) (f g : σ → Res (σ × List Int)) :
    seq2 (seq2 a f) g = seq2 a fun s => seq2 (f s) g := by
  simp only [seq2, Res.bind_assoc', Res.ok_bind, List.append_assoc]

/-- The second stage matters only on the state the first stage ends in. -/
theorem seq2_congr {a : Res (σ × List Int)} {f g : σ → Res (σ × List Int)} (h : ∀ r, a = .ok r → f r.1 = g r.1) :
    seq2 a f = seq2 a g :=
  Res.bind_congr fun r hr => by rw [h r hr]

/-- `lp` runs the round `rd` on batches of `B` samples while more than `thr` samples are left. -/
def IsBatchLoop (rd lp : σ → List Int → Res (σ × List Int)) (B thr : Nat) : Prop :=
  ∀ st xs, lp st xs =
    (rd st (xs.take (min xs.length B))).bind fun r1 =>
      if thr < (xs.drop (min xs.length B)).length ∧ 0 < min xs.length B then
        (lp r1.1 (xs.drop (min xs.length B))).bind fun r2 => .ok (r2.1, r1.2 ++ r2.2)
      else .ok (r1.1, r1.2)

variable {rd lp : σ → List Int → Res (σ × List Int)} {B thr : Nat}

theorem IsBatchLoop.eq (hl : IsBatchLoop rd lp B thr) (st : σ) (xs : List Int) :
    lp st xs =
      if thr < (xs.drop (min xs.length B)).length ∧ 0 < min xs.length B then
        seq2 (rd st (xs.take (min xs.length B))) fun s1 => lp s1 (xs.drop (min xs.length B))
      else rd st (xs.take (min xs.length B)) := by
  rw [hl]
  split
  · rfl
  · exact Res.bind_ok_right _

/-- A round that is total on states satisfying `P`, keeps `P` and writes `cnt n` samples satisfying `Q` for `n` input
    samples makes the loop total, with `P` kept and `loopLenF cnt` samples satisfying `Q` written. -/
theorem loop_ok (hl : IsBatchLoop rd lp B thr) (P : σ → Prop) (Q : Int → Prop) (cnt : Nat → Nat)
    (hrd : ∀ st xs, P st → xs.length ≤ B →
      ∃ st' outs, rd st xs = .ok (st', outs) ∧ P st' ∧ outs.length = cnt xs.length ∧ ∀ v ∈ outs, Q v) :
    ∀ (f : Nat) (xs : List Int) (st : σ), xs.length ≤ f → P st →
      ∃ st' outs, lp st xs = .ok (st', outs) ∧ P st' ∧ outs.length = loopLenF cnt B thr f xs.length ∧
        ∀ v ∈ outs, Q v := by
  have hlen : ∀ xs : List Int, (xs.take (min xs.length B)).length = min xs.length B := by
    intro xs; rw [List.length_take]; omega
  intro f
  induction f with
  | zero =>
    intro xs st hx hP
    obtain ⟨st', outs, hr, hP', hol, hoq⟩ := hrd st (xs.take (min xs.length B)) hP (by rw [hlen]; omega)
    rw [hl.eq, if_neg (by rw [List.length_drop]; omega), hr]
    exact ⟨st', outs, rfl, hP', by rw [hol, hlen]; rfl, hoq⟩
  | succ f ih =>
    intro xs st hx hP
    obtain ⟨st', outs, hr, hP', hol, hoq⟩ := hrd st (xs.take (min xs.length B)) hP (by rw [hlen]; omega)
    rw [hl.eq, hr]
    simp only [loopLenF, List.length_drop]
    by_cases hmore : thr < xs.length - min xs.length B ∧ 0 < min xs.length B
    · rw [if_pos hmore, if_pos hmore, seq2_ok]
      obtain ⟨st2, outs2, hr2, hP2, hol2, hoq2⟩ := ih (xs.drop (min xs.length B)) st' (by rw [List.length_drop]; omega) hP'
      rw [hr2]
      refine ⟨st2, outs ++ outs2, rfl, hP2, ?_, List.forall_mem_append.2 ⟨hoq, hoq2⟩⟩
      rw [List.length_append, hol, hol2, hlen, List.length_drop]
    · rw [if_neg hmore, if_neg hmore]
      exact ⟨st', outs, rfl, hP', by rw [hol, hlen]; rfl, hoq⟩

variable (rd) (m : Nat)

/-- `k` one-millisecond rounds (`m` samples each). -/
def msIter : Nat → σ → List Int → Res (σ × List Int)
  | 0, st, _ => .ok (st, [])
  | k + 1, st, xs => seq2 (rd st (xs.take m)) (fun s1 => msIter k s1 (xs.drop m))

theorem msIter_append : ∀ (kx ky : Nat) (st : σ) (x y : List Int), x.length = kx * m →
    msIter rd m (kx + ky) st (x ++ y) = seq2 (msIter rd m kx st x) (fun s1 => msIter rd m ky s1 y) := by
  intro kx
  induction kx with
  | zero =>
    intro ky st x y hx
    have : x = [] := List.eq_nil_of_length_eq_zero (by omega)
    subst this
    rw [Nat.zero_add, List.nil_append, msIter, seq2_nil]
  | succ kx ih =>
    intro ky st x y hx
    have hxl : m ≤ x.length := by rw [hx, Nat.add_mul, Nat.one_mul]; omega
    rw [show kx + 1 + ky = (kx + ky) + 1 by omega, msIter, msIter, List.take_append_of_le_length hxl,
      List.drop_append_of_le_length hxl, seq2_assoc]
    exact seq2_congr fun r1 _ =>
      ih ky r1.1 (x.drop m) y (by rw [List.length_drop, hx, Nat.add_mul, Nat.one_mul]; omega)

/-- On states satisfying `P` (which it keeps) the round does nothing on no input, and a round on up to `M` ms (`M` = the batch
    size in ms, RESAMPLER_MAX_BATCH_SIZE_MS) may be cut after the first millisecond. -/
structure MsRound (M : Nat) (P : σ → Prop) : Prop where
  inv : ∀ st xs r, P st → xs.length ≤ m → rd st xs = .ok r → P r.1
  nil : ∀ st, P st → rd st [] = .ok (st, [])
  split : ∀ st (x y : List Int) (r : Nat), P st → x.length = m → y.length = r * m → r + 1 ≤ M →
    rd st (x ++ y) = seq2 (rd st x) (fun s1 => rd s1 y)

variable {rd m} {M : Nat} {P : σ → Prop}

theorem seq2_inv {a : Res (σ × List Int)} {f : σ → Res (σ × List Int)} {r : σ × List Int} (h : seq2 a f = .ok r)
    (ha : ∀ r1, a = .ok r1 → P r1.1) (hf : ∀ s r2, P s → f s = .ok r2 → P r2.1) : P r.1 := by
  obtain ⟨r1, h1, h⟩ := Res.bind_eq_ok h
  obtain ⟨r2, h2, h⟩ := Res.bind_eq_ok h
  injection h with h
  rw [← h]
  exact hf _ r2 (ha r1 h1) h2

theorem msIter_inv (h : MsRound rd m M P) : ∀ (k : Nat) (st : σ) (xs : List Int) r, P st →
    msIter rd m k st xs = .ok r → P r.1 := by
  intro k
  induction k with
  | zero => intro st xs r hP hr; injection hr with hr; subst hr; exact hP
  | succ k ih =>
    intro st xs r hP hr
    exact seq2_inv hr (fun r1 h1 => h.inv _ _ _ hP (by rw [List.length_take]; omega) h1)
      (fun s r2 hs h2 => ih s _ r2 hs h2)

theorem round_eq_msIter (h : MsRound rd m M P) : ∀ (k : Nat) (st : σ) (xs : List Int), P st →
    xs.length = k * m → k ≤ M → rd st xs = msIter rd m k st xs := by
  intro k
  induction k with
  | zero =>
    intro st xs hP hx _
    have : xs = [] := List.eq_nil_of_length_eq_zero (by omega)
    subst this
    exact h.nil st hP
  | succ k ih =>
    intro st xs hP hx hk
    have hxl : m ≤ xs.length := by rw [hx, Nat.add_mul, Nat.one_mul]; omega
    have hd : (xs.drop m).length = k * m := by rw [List.length_drop, hx, Nat.add_mul, Nat.one_mul]; omega
    conv => lhs; rw [← List.take_append_drop m xs]
    rw [h.split st (xs.take m) (xs.drop m) k hP (by rw [List.length_take]; omega) hd (by omega), msIter]
    exact seq2_congr fun r1 h1 =>
      ih r1.1 (xs.drop m) (h.inv _ _ _ hP (by rw [List.length_take]; omega) h1) hd (by omega)

/-- The loop on a whole number of milliseconds = that many one-millisecond rounds. -/
theorem loop_eq_msIter (h : MsRound rd m M P) (hl : IsBatchLoop rd lp B thr) (hm : 0 < m) (hM : 0 < M) (hB : B = M * m)
    (hthr : thr < m) :
    ∀ (K : Nat) (st : σ) (xs : List Int), P st → xs.length = K * m → lp st xs = msIter rd m K st xs := by
  intro K
  induction K using Nat.strongRecOn with
  | ind K ih =>
    intro st xs hP hx
    rw [hl.eq]
    have hMm : 0 < M * m := Nat.mul_pos hM hm
    by_cases hle : K ≤ M
    · have hmin : min xs.length B = xs.length := by
        have : K * m ≤ M * m := Nat.mul_le_mul_right m hle
        omega
      rw [hmin, List.take_length, List.drop_length, if_neg (by simp), round_eq_msIter h K st xs hP hx hle]
    · have hlt : M * m + m ≤ K * m := by
        have : (M + 1) * m ≤ K * m := Nat.mul_le_mul_right m (by omega)
        rw [Nat.add_mul, Nat.one_mul] at this; exact this
      have hmin : min xs.length B = M * m := by omega
      have htl : (xs.take (M * m)).length = M * m := by rw [List.length_take]; omega
      have hdl : (xs.drop (M * m)).length = (K - M) * m := by rw [List.length_drop, hx, Nat.sub_mul]
      have hge : 1 * m ≤ (K - M) * m := Nat.mul_le_mul_right m (by omega)
      have hsplitK := msIter_append rd m M (K - M) st (xs.take (M * m)) (xs.drop (M * m)) htl
      rw [List.take_append_drop, show M + (K - M) = K by omega] at hsplitK
      rw [hmin, if_pos ⟨by rw [hdl]; omega, by omega⟩, hsplitK,
        round_eq_msIter h M st (xs.take (M * m)) hP htl (Nat.le_refl _)]
      exact seq2_congr fun r1 h10 =>
        ih (K - M) (by omega) r1.1 (xs.drop (M * m)) (msIter_inv h _ _ _ _ hP h10) hdl

/-- Partition independence: at a whole-millisecond cut the loop on x ++ y is the loop on x followed by the loop on y. -/
theorem loop_append (h : MsRound rd m M P) (hl : IsBatchLoop rd lp B thr) (hm : 0 < m) (hM : 0 < M) (hB : B = M * m)
    (hthr : thr < m) (kx ky : Nat) (st : σ) (x y : List Int) (hP : P st)
    (hx : x.length = kx * m) (hy : y.length = ky * m) :
    lp st (x ++ y) = seq2 (lp st x) (fun s1 => lp s1 y) := by
  have hxy : (x ++ y).length = (kx + ky) * m := by rw [List.length_append, hx, hy, Nat.add_mul]
  rw [loop_eq_msIter h hl hm hM hB hthr _ st (x ++ y) hP hxy, msIter_append rd m kx ky st x y hx,
    loop_eq_msIter h hl hm hM hB hthr _ st x hP hx]
  exact seq2_congr fun r1 hkx =>
    (loop_eq_msIter h hl hm hM hB hthr _ r1.1 y (msIter_inv h _ _ _ _ hP hkx) hy).symm

end Generic

/-- One round on the state `(filter state, buf[0 .. order))`: filter the batch `xs` (`filt`: up2_HQ, AR2; `g` output
    samples per input sample), put the result behind the `order` samples kept from the last batch — `cap` is the size of
    the ALLOC'd buffer —, interpolate up to `max_index_Q16 = inLen << sh`, keep the last `order` samples. -/
def batchRound {τ : Type} (filt : τ → List Int → τ × List Int) (sample : List Int → Int → Res Int)
    (g order cap sh : Nat) (inv : Int) (st : τ × List Int) (xs : List Int) : Res ((τ × List Int) × List Int) :=
  if cap < (st.2 ++ (filt st.1 xs).2).length then .oob
  else
    (interpol (sample (st.2 ++ (filt st.1 xs).2)) (lshift32 (xs.length : Int) sh) inv).bind fun outs =>
    (window (st.2 ++ (filt st.1 xs).2) ((g * xs.length : Nat) : Int) order).bind fun h' =>
    .ok (((filt st.1 xs).1, h'), outs)

section Round
variable {τ : Type} {filt : τ → List Int → τ × List Int} {sample : List Int → Int → Res Int}
  {g order cap sh : Nat} {inv : Int}

/-- On a state that holds `order` kept samples, with room in the buffer for the batch, the round is the interpolation over
    kept ++ filtered samples; the window it keeps is all of the buffer behind the first `g * n` samples. -/
theorem batchRound_eq {st : τ × List Int} {xs : List Int} (hfl : (filt st.1 xs).2.length = g * xs.length)
    (hh : st.2.length = order) (hcap : order + g * xs.length ≤ cap) :
    batchRound filt sample g order cap sh inv st xs =
      (interpol (sample (st.2 ++ (filt st.1 xs).2)) (lshift32 (xs.length : Int) sh) inv).bind fun outs =>
        .ok (((filt st.1 xs).1, (st.2 ++ (filt st.1 xs).2).drop (g * xs.length)), outs) := by
  have hbl : (st.2 ++ (filt st.1 xs).2).length = order + g * xs.length := by rw [List.length_append, hfl, hh]
  unfold batchRound
  rw [if_neg (by rw [hbl]; omega), window_ok (Int.natCast_nonneg _) (by rw [hbl, Int.toNat_natCast]; omega),
    Int.toNat_natCast, List.take_of_length_le (by rw [List.length_drop, hbl]; omega)]
  rfl

theorem batchRound_nil (hf0 : ∀ s, filt s [] = (s, [])) (hl0 : lshift32 0 sh = 0) (hinv : 0 < inv)
    (st : τ × List Int) (hh : st.2.length = order) (hcap : order ≤ cap) :
    batchRound filt sample g order cap sh inv st [] = .ok (st, []) := by
  rw [batchRound_eq (by rw [hf0]; rfl) hh hcap]
  simp only [hf0, List.append_nil, List.length_nil, Nat.mul_zero, List.drop_zero]
  show (interpol (sample st.2) (lshift32 0 sh) inv).bind _ = _
  rw [hl0, interpol_zero _ hinv]
  rfl

end Round

/-- `silk_LSHIFT32( nSamplesIn, 16 )` / `( nSamplesIn, 17 )` (resampler_private_down_FIR.c:174, resampler_private_IIR_FIR.c:91) on a batch: no wrap. -/
theorem lshift32_small {n : Nat} {s : Nat} (hs : s = 16 ∨ s = 17) (hn : n ≤ 480) :
    lshift32 (n : Int) s = (n : Int) * (2 : Int) ^ s := by
  unfold lshift32
  rcases hs with rfl | rfl
  · exact wrap32_id (And.intro (by omega) (by omega))
  · exact wrap32_id (And.intro (by omega) (by omega))

/-- A batch kernel: a recursive filter with an append law (`g` buffer samples per input sample), a sampler that reads one
    window of `order` samples and one of `k` phases, the shift of `max_index_Q16`.  The filter acts on all of `sIIR` (AR2 leaves the four
    words it does not use alone), so the loop state is (sIIR, the samples kept) for every kernel.  `V` says when a buffer sample is
    representable in its C type. -/
structure BatchK where
  filt : IIR → List Int → IIR × List Int
  sample : List Int → Int → Res Int
  g : Nat
  order : Nat
  sh : Nat
  k : Int
  V : Int → Prop
  fn : Int
  filt_len : ∀ s xs, (filt s xs).2.length = g * xs.length
  filt_nil : ∀ s, filt s [] = (s, [])
  filt_append : ∀ s x y, filt s (x ++ y) = ((filt (filt s x).1 y).1, (filt s x).2 ++ (filt (filt s x).1 y).2)
  filt_words : ∀ s xs, IIR.ok32 s → IIR.ok32 (filt s xs).1 ∧ ∀ v ∈ (filt s xs).2, V v
  sample_ok : ∀ buf idx, 0 ≤ idx → (idx / 65536).toNat + order ≤ buf.length → ∃ v, sample buf idx = .ok v ∧ I16 v
  sample_congr : ∀ buf buf' idx idx', window buf (idx / 65536) order = window buf' (idx' / 65536) order →
    smulwb (idx % 65536) k = smulwb (idx' % 65536) k → sample buf idx = sample buf' idx'
  shift : sh = 16 ∨ sh = 17
  shift_g : (2 : Int) ^ sh = (g : Int) * 65536
  /-- `V` is the type of the view of sFIR the function selector `fn` stands for -/
  V_spec : ∀ l : List Int, (if fn = useIIRFIR then ∀ v ∈ l, I16 v else ∀ v ∈ l, I32 v) ↔ ∀ v ∈ l, V v

/-- The form both batch kernels have: run the loop on (the filter state in sIIR, the front of sFIR), write both back. -/
def kform (K : BatchK) (lp : IIR × List Int → List Int → Res ((IIR × List Int) × List Int))
    (T : RS) (xs : List Int) : Res (RS × List Int) :=
  (lp (T.sIIR, T.sFIR.take K.order) xs).bind fun q =>
    (blit T.sFIR 0 q.1.2).bind fun sf => .ok ({ T with sIIR := q.1.1, sFIR := sf }, q.2)

namespace BatchK
variable (K : BatchK)

/-- Invariant of the loop state (filter state, the `order` samples kept): if the words were representable at the start
    (`W`) they still are.  `W` is a parameter so that one invariant serves both users: the call theorems take
    `W := WordsOk T` and get the words of the result, chunk invariance takes `W := False` and asks for the length only. -/
def P (W : Prop) (st : IIR × List Int) : Prop := st.2.length = K.order ∧ (W → IIR.ok32 st.1 ∧ ∀ v ∈ st.2, K.V v)

/-- One round of the kernel's loop, with an ALLOC'd buffer of `cap` samples. -/
def rd (cap : Nat) (inv : Int) : IIR × List Int → List Int → Res ((IIR × List Int) × List Int) :=
  batchRound K.filt K.sample K.g K.order cap K.sh inv

theorem lshift {n : Nat} (hn : n ≤ 480) : lshift32 (n : Int) K.sh = ((K.g * n : Nat) : Int) * 65536 := by
  rw [lshift32_small K.shift hn, K.shift_g, Int.natCast_mul, ← Int.mul_assoc, Int.mul_comm (n : Int)]

/-- A round on at most as many samples as the buffer was sized for: the interpolation stays inside the buffer; the
    samples kept come from the old ones and the filter output. -/
theorem rd_ok {B cap : Nat} {inv : Int} (hinv : 0 < inv) (hb : B ≤ 480) (hcap : K.order + K.g * B ≤ cap) (W : Prop)
    (st : IIR × List Int) (xs : List Int) (hP : K.P W st) (hx : xs.length ≤ B) :
    ∃ st' outs, K.rd cap inv st xs = .ok (st', outs) ∧ K.P W st' ∧
      outs.length = interpCount (lshift32 (xs.length : Int) K.sh) inv ∧ ∀ v ∈ outs, I16 v := by
  have hbl : (st.2 ++ (K.filt st.1 xs).2).length = K.order + K.g * xs.length := by
    rw [List.length_append, K.filt_len, hP.1]
  obtain ⟨outs, ho, hol, hoi⟩ := interpol_ok (sample := K.sample (st.2 ++ (K.filt st.1 xs).2)) (P := I16)
    (maxIdx := lshift32 (xs.length : Int) K.sh) hinv (by
      intro idx h0 h1
      apply K.sample_ok _ _ h0
      rw [hbl]
      rw [K.lshift (by omega)] at h1
      omega)
  refine ⟨((K.filt st.1 xs).1, (st.2 ++ (K.filt st.1 xs).2).drop (K.g * xs.length)), outs, ?_,
    ⟨by rw [List.length_drop, hbl, Nat.add_sub_cancel], fun hW => ⟨(K.filt_words _ _ (hP.2 hW).1).1,
    fun v hv => List.forall_mem_append.2 ⟨(hP.2 hW).2, (K.filt_words _ _ (hP.2 hW).1).2⟩ v (List.mem_of_mem_drop hv)⟩⟩,
    hol, hoi⟩
  unfold rd
  rw [batchRound_eq (K.filt_len _ _) hP.1 (by have := Nat.mul_le_mul_left K.g hx; omega), ho]
  rfl

variable {K}

/-- `lp` is the loop of kernel `K` in configuration `c`: it runs `K`'s round on batches of `batchSize` samples, in a buffer
    of `cap` samples that holds one; and the kernel call of the model in this configuration is that loop in the form `kform`. -/
structure For (K : BatchK) (c : Cfg) (lp : IIR × List Int → List Int → Res ((IIR × List Int) × List Int))
    (cap thr : Nat) : Prop where
  loop : IsBatchLoop (K.rd cap c.invRatio) lp c.batchSize thr
  inv_pos : 0 < c.invRatio
  batch : c.batchSize ≤ 480
  cap : K.order + K.g * c.batchSize ≤ cap
  order : K.order ≤ 36
  fn : c.fn = K.fn
  kernel_eq : ∀ (T : RS) (xs : List Int), T.cfg = c → T.sFIR.length = 36 → kernel T xs = kform K lp T xs

theorem lp_ok {c : Cfg} {lp : IIR × List Int → List Int → Res ((IIR × List Int) × List Int)} {cap thr : Nat}
    (h : K.For c lp cap thr) (W : Prop) (st : IIR × List Int) (xs : List Int) (hP : K.P W st) :
    ∃ st' outs, lp st xs = .ok (st', outs) ∧ K.P W st' ∧
      outs.length = loopLen (fun n => interpCount (lshift32 (n : Int) K.sh) c.invRatio) c.batchSize thr xs.length ∧
      ∀ v ∈ outs, I16 v :=
  loop_ok h.loop (K.P W) I16 (fun n => interpCount (lshift32 (n : Int) K.sh) c.invRatio)
    (K.rd_ok h.inv_pos h.batch h.cap W) xs.length xs st (Nat.le_refl _) hP

end BatchK

/-- One round of the loop of resampler_private_IIR_FIR.c:85-102, on the state `(sIIR, buf[0 .. 8))`; `iirLp` is the loop.  `iirRd` and
    `dnRd` are the rounds of `iirK` and `dnK` below written out: `iirLp_isLoop` / `dnLp_isLoop` unfold them against the model's
    recursions, and `dnRd` needs no proof of `DownCfg`, which `dnK` carries; `iirK_for` / `dnK_for` identify the two by unfolding. -/
def iirRd (c : Cfg) : IIR × List Int → List Int → Res ((IIR × List Int) × List Int) :=
  batchRound up2hq iirFirSample 2 orderFir12 (2 * c.batchSize + orderFir12) 17 c.invRatio

def iirLp (c : Cfg) (st : IIR × List Int) (xs : List Int) : Res ((IIR × List Int) × List Int) :=
  (iirFirLoop c st.1 st.2 xs).bind fun r => .ok ((r.1, r.2.1), r.2.2)

theorem iirLp_isLoop (c : Cfg) : IsBatchLoop (iirRd c) (iirLp c) c.batchSize 0 := by
  intro st xs
  have hlen : (xs.take (min xs.length c.batchSize)).length = min xs.length c.batchSize := by
    rw [List.length_take]; omega
  have e2 : (2 : Int) * ((min xs.length c.batchSize : Nat) : Int) = ((2 * min xs.length c.batchSize : Nat) : Int) := by
    omega
  unfold iirLp iirRd batchRound
  rw [iirFirLoop, hlen, e2]
  by_cases hal : 2 * c.batchSize + orderFir12 <
      (st.2 ++ (up2hq st.1 (xs.take (min xs.length c.batchSize))).2).length
  · rw [if_pos hal, if_pos hal]; rfl
  · rw [if_neg hal, if_neg hal]
    cases interpol (iirFirSample (st.2 ++ (up2hq st.1 (xs.take (min xs.length c.batchSize))).2))
        (lshift32 ((min xs.length c.batchSize : Nat) : Int) 17) c.invRatio with
    | ok outs =>
      simp only [Res.bind]
      cases window (st.2 ++ (up2hq st.1 (xs.take (min xs.length c.batchSize))).2)
          ((2 * min xs.length c.batchSize : Nat) : Int) orderFir12 with
      | ok hd =>
        dsimp only
        by_cases hmore : 0 < (xs.drop (min xs.length c.batchSize)).length ∧ 0 < min xs.length c.batchSize
        · rw [dif_pos hmore, if_pos hmore]
          cases iirFirLoop c (up2hq st.1 (xs.take (min xs.length c.batchSize))).1 hd
            (xs.drop (min xs.length c.batchSize)) <;> rfl
        · rw [dif_neg hmore, if_neg hmore]
      | err e => rfl
      | oob => rfl
      | abort => rfl
    | err e => rfl
    | oob => rfl
    | abort => rfl

/-- resampler_private_IIR_FIR.c: up2_HQ into an int16 buffer, 8-tap interpolation at 12 phases; all of sIIR is the filter state.
    `iirRd c` is `iirK.rd (2 * c.batchSize + orderFir12) c.invRatio`. -/
def iirK : BatchK where
  filt := up2hq
  sample := iirFirSample
  g := 2
  order := orderFir12
  sh := 17
  k := 12
  V := I16
  fn := useIIRFIR
  filt_len := up2hq_len
  filt_nil := fun _ => rfl
  filt_append := up2hq_append
  filt_words := fun s xs h => ⟨up2hq_ok32 s xs h, up2hq_i16 s xs⟩
  sample_ok := fun _ _ h0 h => iirFirSample_ok h0 h
  sample_congr := iirFirSample_congr
  shift := Or.inr rfl
  shift_g := by decide
  V_spec := fun _ => by rw [if_pos rfl]

/-- `silk_resampler_private_AR2` as a filter on sIIR: it uses `S[0]`, `S[1]` and leaves the other four words alone. -/
def ar2F (a0 a1 : Int) (s : IIR) (xs : List Int) : IIR × List Int :=
  ({ s with s0 := (ar2 s.s0 s.s1 a0 a1 xs).1, s1 := (ar2 s.s0 s.s1 a0 a1 xs).2.1 }, (ar2 s.s0 s.s1 a0 a1 xs).2.2)

theorem ar2F_len (a0 a1 : Int) (s : IIR) (xs : List Int) : (ar2F a0 a1 s xs).2.length = 1 * xs.length := by
  rw [Nat.one_mul]; exact ar2_len _ _ _ _ _

theorem ar2F_append (a0 a1 : Int) (s : IIR) (x y : List Int) :
    ar2F a0 a1 s (x ++ y) =
      ((ar2F a0 a1 (ar2F a0 a1 s x).1 y).1, (ar2F a0 a1 s x).2 ++ (ar2F a0 a1 (ar2F a0 a1 s x).1 y).2) := by
  unfold ar2F; rw [ar2_append]

/-- One round of the loop of resampler_private_down_FIR.c:168-189 with the coefficient table `a0 :: a1 :: rest` (AR2 coefficients first);
    `dnLp` is the loop. -/
def dnRd (c : Cfg) (a0 a1 : Int) (rest : List Int) : IIR × List Int → List Int → Res ((IIR × List Int) × List Int) :=
  batchRound (ar2F a0 a1) (downFirSample c.firOrder c.firFracs (a0 :: a1 :: rest)) 1 c.firOrder
    (c.batchSize + c.firOrder) 16 c.invRatio

def dnLp (c : Cfg) (a0 a1 : Int) (rest : List Int) (st : IIR × List Int) (xs : List Int) :
    Res ((IIR × List Int) × List Int) :=
  (downFirLoop c (a0 :: a1 :: rest) st.1.s0 st.1.s1 st.2 xs).bind fun r =>
    .ok (({ st.1 with s0 := r.1, s1 := r.2.1 }, r.2.2.1), r.2.2.2)

theorem window_two {a0 a1 : Int} {rest : List Int} : window (a0 :: a1 :: rest) 0 2 = .ok [a0, a1] := by
  simp [window]

theorem dnLp_isLoop (c : Cfg) (a0 a1 : Int) (rest : List Int) :
    IsBatchLoop (dnRd c a0 a1 rest) (dnLp c a0 a1 rest) c.batchSize 1 := by
  intro st xs
  have hlen : (xs.take (min xs.length c.batchSize)).length = min xs.length c.batchSize := by
    rw [List.length_take]; omega
  unfold dnLp dnRd batchRound ar2F
  rw [downFirLoop, hlen, Nat.one_mul]
  simp only [window_two]
  by_cases hal : c.batchSize + c.firOrder <
      (st.2 ++ (ar2 st.1.s0 st.1.s1 a0 a1 (xs.take (min xs.length c.batchSize))).2.2).length
  · rw [if_pos hal, if_pos hal]; rfl
  · rw [if_neg hal, if_neg hal]
    cases interpol (downFirSample c.firOrder c.firFracs (a0 :: a1 :: rest)
          (st.2 ++ (ar2 st.1.s0 st.1.s1 a0 a1 (xs.take (min xs.length c.batchSize))).2.2))
        (lshift32 ((min xs.length c.batchSize : Nat) : Int) 16) c.invRatio with
    | ok outs =>
      simp only [Res.bind]
      cases window (st.2 ++ (ar2 st.1.s0 st.1.s1 a0 a1 (xs.take (min xs.length c.batchSize))).2.2)
          ((min xs.length c.batchSize : Nat) : Int) c.firOrder with
      | ok hd =>
        dsimp only
        by_cases hmore : 1 < (xs.drop (min xs.length c.batchSize)).length ∧ 0 < min xs.length c.batchSize
        · rw [dif_pos hmore, if_pos hmore]
          cases downFirLoop c (a0 :: a1 :: rest) (ar2 st.1.s0 st.1.s1 a0 a1 (xs.take (min xs.length c.batchSize))).1
            (ar2 st.1.s0 st.1.s1 a0 a1 (xs.take (min xs.length c.batchSize))).2.1 hd
            (xs.drop (min xs.length c.batchSize)) <;> rfl
        · rw [dif_neg hmore, if_neg hmore]
      | err e => rfl
      | oob => rfl
      | abort => rfl
    | err e => rfl
    | oob => rfl
    | abort => rfl

/-- resampler_private_down_FIR.c with the coefficient table `a0 :: a1 :: rest`: AR2 into an int32 buffer, symmetric FIR of one
    of three orders; the filter uses `sIIR[0..1]`.  `dnRd c a0 a1 rest` is `(dnK c a0 a1 rest hd).rd (c.batchSize + c.firOrder) c.invRatio`. -/
def dnK (c : Cfg) (a0 a1 : Int) (rest : List Int) (hd : DownCfg c (a0 :: a1 :: rest)) : BatchK where
  filt := ar2F a0 a1
  sample := downFirSample c.firOrder c.firFracs (a0 :: a1 :: rest)
  g := 1
  order := c.firOrder
  sh := 16
  k := c.firFracs
  V := I32
  fn := useDownFIR
  filt_len := ar2F_len a0 a1
  filt_nil := fun _ => rfl
  filt_append := ar2F_append a0 a1
  filt_words := fun s xs h => ⟨⟨(ar2_ok32 s.s0 s.s1 a0 a1 xs h.1 h.2.1).1, (ar2_ok32 s.s0 s.s1 a0 a1 xs h.1 h.2.1).2.1, h.2.2⟩,
    (ar2_ok32 s.s0 s.s1 a0 a1 xs h.1 h.2.1).2.2⟩
  sample_ok := fun _ _ h0 h => downFirSample_ok h0 h hd
  sample_congr := downFirSample_congr _ _ _
  shift := Or.inl rfl
  shift_g := by decide
  V_spec := fun _ => by rw [if_neg (by decide)]

end OpusProofs.SilkResamp
