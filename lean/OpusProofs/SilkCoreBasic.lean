import OpusModel.SilkCoreFrame
import OpusProofs.SilkParamsFix
/-
  OpusProofs.SilkCoreBasic — structural facts about the bit-exact synthesis model (property C03, slice SilkCore):
  every output sample is an `opus_int16`, list lengths of the outputs and of the carried state; the decoder-state
  invariant `StateOk`, `splice`, and the output-buffer update of silk_decode_frame.
-/
namespace Opus.SilkCoreProofs
open Opus Opus.SilkParams Opus.SilkCore Opus.Gen Opus.Frozen

/-- `opus_int16` range; the same predicate as `Opus.SilkParams.I16`, whose lemmas apply to it by unfolding. -/
def I16 (x : Int) : Prop := -32768 ≤ x ∧ x ≤ 32767

theorem bind_eq_ok {α β} {r : Res α} {f : α → Res β} {b : β} (h : (r >>= f) = .ok b) :
    ∃ a, r = .ok a ∧ f a = .ok b := by
  cases r with
  | ok a => exact ⟨a, rfl, h⟩
  | err e => exact absurd h (by simp)
  | oob => exact absurd h (by simp)
  | abort => exact absurd h (by simp)

theorem lpcSynth_xq_I16 (A : List Int) (g : Int) (rs hist : List Int) : ∀ x ∈ (lpcSynth A g rs hist).1, I16 x := by
  induction rs generalizing hist with
  | nil => intro x hx; simp [lpcSynth] at hx
  | cons r rs ih =>
    intro x hx
    simp only [lpcSynth, List.mem_cons] at hx
    rcases hx with h | h
    · rw [h]; exact wrap16_I16 _
    · exact ih _ x h

theorem lpcSynth_len (A : List Int) (g : Int) (rs hist : List Int) : (lpcSynth A g rs hist).1.length = rs.length := by
  induction rs generalizing hist with
  | nil => simp [lpcSynth]
  | cons r rs ih => simp only [lpcSynth, List.length_cons, ih]

theorem lpcSynth_hist_len (A : List Int) (g : Int) (rs hist : List Int) (h : hist.length = 16) :
    (lpcSynth A g rs hist).2.length = 16 := by
  induction rs generalizing hist with
  | nil => simpa [lpcSynth] using h
  | cons r rs ih =>
    simp only [lpcSynth]
    apply ih
    simp [SilkCoreTabs.maxLpcOrder, h]

theorem ltpSynth_len (B : List Int) (lag : Int) (es h : List Int) (ub : Nat) (r : List Int × List Int × Nat)
    (hr : ltpSynth B lag es h ub = .ok r) : r.1.length = es.length ∧ r.2.1.length = h.length + es.length := by
  induction es generalizing h ub r with
  | nil => simp only [ltpSynth, Res.ok.injEq] at hr; subst hr; simp
  | cons e es ih =>
    simp only [ltpSynth] at hr
    split at hr
    · cases hr
    · split at hr
      · cases hr
      · split at hr
        · rename_i rs h' ub' heq
          have := ih _ _ _ heq
          simp only [Res.ok.injEq] at hr; subst hr
          simp only [List.length_cons] at this ⊢
          omega
        all_goals cases hr

theorem subFinish_xq (p : SubPrep) (c : CoreSt) (res ob lh : List Int) (ub : Nat) :
    (subFinish p c res ob lh ub).xq = c.xq ++ (lpcSynth p.A p.gainQ10 res p.hist).1 := rfl

theorem subPrep_hist_len (s : DecState) (f : FrameIn) (ctrl : Ctrl) (exc : List Int) (k : Nat) (c : CoreSt) (g : Int) :
    (subPrep s f ctrl exc k c g).hist.length = c.hist.length := by
  simp only [subPrep]; split <;> simp

theorem voicedLtp_len (fs : Nat) (sc : Int) (ifl : Bool) (k : Nat) (p : SubPrep) (c : CoreSt)
    (v : List Int × List Int × List Int × Nat) (h : voicedLtp fs sc ifl k p c = .ok v) : v.1.length = p.excK.length := by
  unfold voicedLtp at h
  obtain ⟨lag, _, h⟩ := bind_eq_ok h
  obtain ⟨ob, _, h⟩ := bind_eq_ok h
  obtain ⟨r, hr, h⟩ := bind_eq_ok h
  simp only [Res.pure_eq, Res.ok.injEq] at h
  subst h
  exact (ltpSynth_len _ _ _ _ _ _ hr).1

/-- A sub-frame appends exactly `subfr_length`-many (as many as there is excitation) `opus_int16` samples to `xq` and keeps
    the short-term history at `MAX_LPC_ORDER` entries. -/
theorem subframe_spec (s : DecState) (f : FrameIn) (ctrl : Ctrl) (ifl : Bool) (exc : List Int) (k : Nat) (c c' : CoreSt)
    (h : subframe s f ctrl ifl exc k c = .ok c') :
    ∃ r, c'.xq = c.xq ++ r ∧ (∀ x ∈ r, I16 x) ∧
      r.length = ((exc.drop (k * subfrLen s.fsKHz)).take (subfrLen s.fsKHz)).length ∧
      (c.hist.length = 16 → c'.hist.length = 16) := by
  unfold subframe at h
  obtain ⟨g, _, h⟩ := bind_eq_ok h
  split at h
  · cases h
  · split at h
    · obtain ⟨v, hv, h⟩ := bind_eq_ok h
      simp only [Res.pure_eq, Res.ok.injEq] at h
      subst h
      refine ⟨_, subFinish_xq _ _ _ _ _ _, lpcSynth_xq_I16 _ _ _ _, ?_, ?_⟩
      · rw [lpcSynth_len, voicedLtp_len _ _ _ _ _ _ _ hv]; rfl
      · intro hl; exact lpcSynth_hist_len _ _ _ _ (by rw [subPrep_hist_len]; exact hl)
    · simp only [Res.pure_eq, Res.ok.injEq] at h
      subst h
      refine ⟨_, subFinish_xq _ _ _ _ _ _, lpcSynth_xq_I16 _ _ _ _, ?_, ?_⟩
      · rw [lpcSynth_len]; rfl
      · intro hl; exact lpcSynth_hist_len _ _ _ _ (by rw [subPrep_hist_len]; exact hl)

/-- Length of the `n` sub-frame slices `k, k+1, …` of `exc`. -/
def sliceLen (exc : List Int) (sl : Nat) : Nat → Nat → Nat
  | 0, _ => 0
  | n + 1, k => ((exc.drop (k * sl)).take sl).length + sliceLen exc sl n (k + 1)

theorem subframes_spec (s : DecState) (f : FrameIn) (ctrl : Ctrl) (ifl : Bool) (exc : List Int) :
    ∀ (n k : Nat) (c c' : CoreSt), subframes s f ctrl ifl exc n k c = .ok c' →
      ∃ r, c'.xq = c.xq ++ r ∧ (∀ x ∈ r, I16 x) ∧ r.length = sliceLen exc (subfrLen s.fsKHz) n k ∧
        (c.hist.length = 16 → c'.hist.length = 16) := by
  intro n
  induction n with
  | zero =>
    intro k c c' h
    simp only [subframes, Res.ok.injEq] at h; subst h
    exact ⟨[], by simp, by simp, rfl, id⟩
  | succ n ih =>
    intro k c c' h
    simp only [subframes] at h
    obtain ⟨c1, h1, h⟩ := bind_eq_ok h
    obtain ⟨r1, e1, i1, l1, hl1⟩ := subframe_spec _ _ _ _ _ _ _ _ h1
    obtain ⟨r2, e2, i2, l2, hl2⟩ := ih _ _ _ h
    refine ⟨r1 ++ r2, by rw [e2, e1, List.append_assoc], ?_, ?_, fun hh => hl2 (hl1 hh)⟩
    · intro x hx
      rcases List.mem_append.mp hx with hx | hx
      · exact i1 x hx
      · exact i2 x hx
    · simp only [List.length_append, sliceLen, l1, l2]

theorem sliceLen_full (exc : List Int) (sl : Nat) : ∀ (n k : Nat), (k + n) * sl ≤ exc.length → sliceLen exc sl n k = n * sl := by
  intro n
  induction n with
  | zero => intro k _; simp [sliceLen]
  | succ n ih =>
    intro k h
    simp only [sliceLen]
    rw [ih (k + 1) (by rw [show k + 1 + n = k + (n + 1) by omega]; exact h)]
    simp only [List.length_take, List.length_drop]
    have h1 : (k + (n + 1)) * sl = k * sl + n * sl + sl := by
      rw [Nat.add_mul, Nat.add_mul, Nat.one_mul, Nat.add_assoc]
    have h2 : (n + 1) * sl = n * sl + sl := by rw [Nat.add_mul, Nat.one_mul]
    omega

theorem excLoop_len (off : Int) : ∀ (ps : List Int) (seed : Int), (excLoop off seed ps).length = ps.length := by
  intro ps
  induction ps with
  | nil => intro seed; simp [excLoop]
  | cons p ps ih => intro seed; simp only [excLoop, List.length_cons, ih]

/-- What `decodeCore` returns, in terms of the sub-frame loop. -/
theorem decodeCore_ok_iff (s : DecState) (f : FrameIn) (ctrl : Ctrl) (interp : Int) (o : CoreOut) :
    decodeCore s f ctrl interp = .ok o ↔
    ∃ off c, quantOffset f.signalType f.quantOffsetType = .ok off ∧
      (f.pulses.take (frameLen s.fsKHz s.nbSubfr)).length = frameLen s.fsKHz s.nbSubfr ∧
      subframes s f ctrl (decide (interp < 4)) (excLoop off f.seed (f.pulses.take (frameLen s.fsKHz s.nbSubfr))) s.nbSubfr 0
        { hist := s.sLPC.reverse, ltpH := [], outBuf := s.outBuf, xq := [], prevGainQ16 := s.prevGainQ16,
          ltpCoef := ctrl.ltpCoef, pitchL := ctrl.pitchL, ub := 0 } = .ok c ∧
      o = { xq := c.xq, sLPC := c.hist.reverse, outBuf := c.outBuf,
            excQ14 := excLoop off f.seed (f.pulses.take (frameLen s.fsKHz s.nbSubfr)) ++ s.excQ14.drop (frameLen s.fsKHz s.nbSubfr),
            prevGainQ16 := c.prevGainQ16, ltpCoef := c.ltpCoef, pitchL := c.pitchL, ub := c.ub } := by
  unfold decodeCore
  constructor
  · intro h
    obtain ⟨off, hoff, h⟩ := bind_eq_ok h
    dsimp only at h
    split at h
    · cases h
    · rename_i hlen
      obtain ⟨c, hc, h⟩ := bind_eq_ok h
      simp only [Res.pure_eq, Res.ok.injEq] at h
      refine ⟨off, c, hoff, ?_, hc, h.symm⟩
      have := List.length_take_le (frameLen s.fsKHz s.nbSubfr) f.pulses
      omega
  · rintro ⟨off, c, hoff, hlen, hc, rfl⟩
    simp only [hoff, Res.bind_ok]
    rw [if_neg (by rw [hlen]; exact Nat.lt_irrefl _)]
    simp only [hc, Res.bind_ok, Res.pure_eq]

/-- Every sample `silk_decode_core` writes to `xq[]` is an `opus_int16`, there are exactly `frame_length` of them, the saved
    short-term state keeps `MAX_LPC_ORDER` entries and `exc_Q14` keeps its size. -/
theorem decodeCore_spec (s : DecState) (f : FrameIn) (ctrl : Ctrl) (interp : Int) (o : CoreOut)
    (h : decodeCore s f ctrl interp = .ok o) :
    (∀ x ∈ o.xq, I16 x) ∧ o.xq.length = frameLen s.fsKHz s.nbSubfr ∧ (s.sLPC.length = 16 → o.sLPC.length = 16) ∧
    (frameLen s.fsKHz s.nbSubfr ≤ s.excQ14.length → o.excQ14.length = s.excQ14.length) := by
  obtain ⟨off, c, _, hlen, hc, ho⟩ := (decodeCore_ok_iff s f ctrl interp o).1 h
  obtain ⟨r, e, hi, hl, hh⟩ := subframes_spec _ _ _ _ _ _ _ _ _ hc
  subst ho
  simp only [List.nil_append] at e
  refine ⟨by rw [e]; exact hi, ?_, ?_, ?_⟩
  · rw [e, hl, sliceLen_full]
    · rfl
    · rw [excLoop_len, hlen, Nat.zero_add]; exact Nat.le_refl _
  · intro h16
    simp only [List.length_reverse] at hh ⊢
    exact hh h16
  · intro hle
    simp only [List.length_append, excLoop_len, hlen, List.length_drop]
    omega

/-- The configurations `silk_decoder_set_fs` produces. -/
def CfgOk (fs nb : Nat) : Prop := (fs = 8 ∨ fs = 12 ∨ fs = 16) ∧ (nb = 2 ∨ nb = 4)

/-- The decoder-state invariant: configuration, buffer sizes of silk/structs.h, `outBuf` holds `opus_int16` values,
    the first `LPC_order` previous NLSFs are in `[0, 32767]`, `LastGainIndex` in `[0, 63]`, and — when the previous frame was a
    concealed voiced one — `lagPrev` in the legal lag range `[2 ms, 18 ms]`. -/
structure StateOk (s : DecState) : Prop where
  cfg : CfgOk s.fsKHz s.nbSubfr
  slpc : s.sLPC.length = 16
  outLen : s.outBuf.length = 480
  outI16 : ∀ x ∈ s.outBuf, I16 x
  excLen : s.excQ14.length = 320
  nlsfLen : s.prevNlsf.length = 16
  nlsfRange : ∀ e ∈ s.prevNlsf.take (lpcOrder s.fsKHz), 0 ≤ e ∧ e ≤ 32767
  lgi : 0 ≤ s.lastGainIndex ∧ s.lastGainIndex ≤ 63
  lag : s.lossCnt ≠ 0 → s.prevSignalType = 2 → 2 * (s.fsKHz : Int) ≤ s.lagPrev ∧ s.lagPrev ≤ 18 * (s.fsKHz : Int)

theorem cfg_nums {fs nb : Nat} (h : CfgOk fs nb) :
    subfrLen fs = 5 * fs ∧ ltpMemLen fs = 20 * fs ∧ frameLen fs nb = nb * (5 * fs) ∧ (lpcOrder fs = 10 ∨ lpcOrder fs = 16) := by
  rcases h with ⟨h | h | h, _⟩ <;> subst h <;> simp [subfrLen, ltpMemLen, frameLen, lpcOrder, SilkCoreTabs.subFrameLengthMs,
    SilkCoreTabs.ltpMemLengthMs, SilkCoreTabs.minLpcOrder, SilkCoreTabs.maxLpcOrder]

theorem splice_len (l : List Int) (i : Nat) (v : List Int) (h : i + v.length ≤ l.length) : (splice l i v).length = l.length := by
  simp only [splice, List.length_append, List.length_take, List.length_drop]; omega

theorem splice_mem (l : List Int) (i : Nat) (v : List Int) (P : Int → Prop) (hl : ∀ x ∈ l, P x) (hv : ∀ x ∈ v, P x) :
    ∀ x ∈ splice l i v, P x := by
  intro x hx
  simp only [splice, List.mem_append] at hx
  rcases hx with (hx | hx) | hx
  · exact hl x (List.mem_of_mem_take hx)
  · exact hv x hx
  · exact hl x (List.mem_of_mem_drop hx)

theorem outBufUpdate_spec (fs nb : Nat) (ob xq : List Int) (hc : CfgOk fs nb) (hl : ob.length = 480)
    (hxl : xq.length = frameLen fs nb) (ho : ∀ x ∈ ob, I16 x) (hx : ∀ x ∈ xq, I16 x) :
    (outBufUpdate fs nb ob xq).length = 480 ∧ ∀ x ∈ outBufUpdate fs nb ob xq, I16 x := by
  obtain ⟨_, hm, hf, _⟩ := cfg_nums hc
  constructor
  · simp only [outBufUpdate, List.length_append, List.length_take, List.length_drop, hxl, hl, hm, hf]
    rcases hc with ⟨h | h | h, h' | h'⟩ <;> subst h <;> subst h' <;> decide
  · intro x hxm
    simp only [outBufUpdate, List.mem_append] at hxm
    rcases hxm with (hxm | hxm) | hxm
    · exact ho x (List.mem_of_mem_drop (List.mem_of_mem_take hxm))
    · exact hx x hxm
    · exact ho x (List.mem_of_mem_drop hxm)

end Opus.SilkCoreProofs
