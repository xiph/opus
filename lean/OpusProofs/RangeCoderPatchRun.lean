import OpusProofs.RangeCoderPatch
import OpusProofs.RangeCoderRoundTrip
import OpusProofs.RangeCoderBudget
/-
  OpusProofs.RangeCoderPatchRun — C08: the round trip for patch-style streams (first operation
  `ec_encode_bin(fl, fl+1, n)`, later `ec_enc_patch_initial_bits(v, n)`): the decoder returns the last
  patched value for the first operation and the encoded values for all others.
-/
namespace Opus.RangeCoder

/-- The stream `B` with the first `n` bits replaced by `t`. -/
def setTop (B : List Nat) (n t : Nat) : List Nat := B.set 0 (B.getD 0 0 % 2 ^ (8 - n) + t * 2 ^ (8 - n))

theorem byteAt_setTop_succ (B : List Nat) (n t S i : Nat) (hi : 1 ≤ i) :
    byteAt (setTop B n t) S i = byteAt B S i := by
  unfold byteAt setTop
  split
  · rw [getD_set, if_neg (by omega)]
  · rfl

theorem byteAt_setTop_zero (B : List Nat) (n t S : Nat) (hS : 0 < S) (hB : 0 < B.length) :
    byteAt (setTop B n t) S 0 = byteAt B S 0 % 2 ^ (8 - n) + t * 2 ^ (8 - n) := by
  unfold byteAt setTop
  rw [if_pos hS, if_pos hS, getD_set, if_pos ⟨rfl, hB⟩]

/-- `codeVal` of the first `k+1` bytes splits into the first byte and the rest. -/
theorem codeVal_head (B : List Nat) (S : Nat) : ∀ k, ∃ R, codeVal B S (k + 1) = byteAt B S 0 * 256 ^ k + R ∧
    (∀ B', (∀ i, 1 ≤ i → byteAt B' S i = byteAt B S i) →
      codeVal B' S (k + 1) = byteAt B' S 0 * 256 ^ k + R) ∧
    ((∀ i, byteAt B S i < 256) → R < 256 ^ k)
  | 0 => ⟨0, by simp [codeVal], fun B' _ => by simp [codeVal], fun _ => by simp⟩
  | k + 1 => by
    obtain ⟨R, h1, h2, h3⟩ := codeVal_head B S k
    refine ⟨R * 256 + byteAt B S (k + 1), ?_, ?_, ?_⟩
    · rw [codeVal, h1, Nat.pow_succ, Nat.add_mul, Nat.mul_assoc]; omega
    · intro B' hag
      rw [codeVal, h2 B' hag, hag (k + 1) (by omega), Nat.pow_succ, Nat.add_mul, Nat.mul_assoc]; omega
    · intro hb
      have := h3 hb
      have := hb (k + 1)
      rw [Nat.pow_succ]; omega

/-- `Contains` compares HALF the code value of `encM + 4` bytes with the interval: in that code value the unit of the
    first `n` bits, `2^(8-n) * 256^(M+3)`, weighs two cells. -/
theorem cell_two (M n : Nat) (hn : n ≤ 8) : 2 ^ (8 - n) * 256 ^ (M + 3) = 2 * (2 ^ (31 - n) * 256 ^ M) := by
  have e1 : (31 - n) = (8 - n) + 23 := by omega
  rw [e1, Nat.pow_add, Nat.pow_add]
  have : (256 : Nat) ^ 3 = 2 * 2 ^ 23 := by decide
  rw [this]
  simp only [Nat.mul_assoc, Nat.mul_comm, Nat.mul_left_comm]

/-- Replacing the first `n` bits of the stream moves the code value by whole cells. -/
theorem codeVal_setTop (B : List Nat) (S n t v : Nat) (c : Enc) (hn : n ≤ 8) (hS : 0 < S) (hB : 0 < B.length) :
    codeVal (setTop B n v) S (encM c + 4) / 2 + t * cellSz c n =
      codeVal (setTop B n t) S (encM c + 4) / 2 + v * cellSz c n := by
  obtain ⟨R, _, h2, _⟩ := codeVal_head B S (encM c + 3)
  have ht := h2 (setTop B n t) (fun i hi => byteAt_setTop_succ B n t S i hi)
  have hv := h2 (setTop B n v) (fun i hi => byteAt_setTop_succ B n v S i hi)
  rw [byteAt_setTop_zero B n t S hS hB] at ht
  rw [byteAt_setTop_zero B n v S hS hB] at hv
  have e4 : encM c + 4 = encM c + 3 + 1 := by omega
  rw [e4, ht, hv]
  have h2z := cell_two (encM c) n hn
  unfold cellSz
  generalize 2 ^ (31 - n) * 256 ^ encM c = Z at *
  generalize byteAt B S 0 % 2 ^ (8 - n) = m at *
  have e : ∀ x, (m + x * 2 ^ (8 - n)) * 256 ^ (encM c + 3) + R = (m * 256 ^ (encM c + 3) + R) + 2 * (x * Z) := by
    intro x
    rw [Nat.add_mul, Nat.mul_assoc, h2z]
    have : x * (2 * Z) = 2 * (x * Z) := Nat.mul_left_comm _ _ _
    omega
  rw [e v, e t, Nat.add_mul_div_left _ _ (by decide : 0 < 2), Nat.add_mul_div_left _ _ (by decide : 0 < 2)]
  omega

/-- A stream whose code value lies in cell `w` starts with the bits `w`. -/
theorem setTop_self (B : List Nat) (S n w : Nat) (c : Enc) (hS : 0 < S) (hby : ∀ i, byteAt B S i < 256)
    (hc : Contains B S c) (hcell : Cell n w c) : setTop B n w = B := by
  obtain ⟨R, h1, _, h3⟩ := codeVal_head B S (encM c + 3)
  have hR := h3 hby
  obtain ⟨hn, _, c3, c4, _⟩ := hcell
  unfold Contains at hc
  have e4 : encM c + 4 = encM c + 3 + 1 := by omega
  rw [e4, h1] at hc
  have h2z := cell_two (encM c) n hn
  unfold cellSz at c3 c4
  have hb0 : byteAt B S 0 = B.getD 0 0 := by unfold byteAt; rw [if_pos hS]
  generalize 2 ^ (31 - n) * 256 ^ encM c = Z at *
  generalize 256 ^ (encM c + 3) = P at *
  have k := (top_bits_core n w w (byteAt B S 0) P R hR
    (by rw [h2z]; have : w * (2 * Z) = 2 * (w * Z) := Nat.mul_left_comm _ _ _; omega)
    (by rw [h2z]; have : (w + 1) * (2 * Z) = 2 * ((w + 1) * Z) := Nat.mul_left_comm _ _ _; omega)).1
  have hb : byteAt B S 0 = byteAt B S 0 % 2 ^ (8 - n) + w * 2 ^ (8 - n) := by
    have := Nat.div_add_mod (byteAt B S 0) (2 ^ (8 - n))
    rw [k, Nat.mul_comm] at this; omega
  unfold setTop
  rw [← hb0, ← hb, hb0]
  exact set_getD_self B

theorem byteAt_setTop_lt (B : List Nat) (S n t : Nat) (hn : n ≤ 8) (ht : t < 2 ^ n)
    (hby : ∀ i, byteAt B S i < 256) (i : Nat) : byteAt (setTop B n t) S i < 256 := by
  by_cases hi : 1 ≤ i
  · rw [byteAt_setTop_succ B n t S i hi]; exact hby i
  · have hi0 : i = 0 := by omega
    subst hi0
    unfold byteAt setTop
    split
    · rw [getD_set]
      split
      · exact (patchByte_eq (B.getD 0 0) t n hn ht).2
      · have := hby 0; unfold byteAt at this; rename_i hS _; rw [if_pos hS] at this; exact this
    · omega

/-- Operations allowed after the first one in a patch-style stream: those of the round-trip
    theorems, plus `ec_enc_patch_initial_bits(v, n)` with the stream's `n`. -/
def Op.LegalAtP (n : Nat) (c : Enc) : Op → Prop
  | .patchInitial v k => k = n ∧ v < 2 ^ n
  | op => op.LegalAt c

def LegalRunP (n : Nat) (c : Enc) : List Op → Prop
  | [] => True
  | op :: ops => op.LegalAtP n c ∧ LegalRunP n (encOp c op) ops

instance (n : Nat) (c : Enc) : (op : Op) → Decidable (op.LegalAtP n c)
  | .patchInitial v k => inferInstanceAs (Decidable (k = n ∧ v < 2 ^ n))
  | .encode fl fh ft => inferInstanceAs (Decidable ((Op.encode fl fh ft).LegalAt c))
  | .encodeBin fl fh nb => inferInstanceAs (Decidable ((Op.encodeBin fl fh nb).LegalAt c))
  | .bitLogp v l => inferInstanceAs (Decidable ((Op.bitLogp v l).LegalAt c))
  | .icdf s t f => inferInstanceAs (Decidable ((Op.icdf s t f).LegalAt c))
  | .icdf16 s t f => inferInstanceAs (Decidable ((Op.icdf16 s t f).LegalAt c))
  | .uint v ft => inferInstanceAs (Decidable ((Op.uint v ft).LegalAt c))
  | .bits v k => inferInstanceAs (Decidable ((Op.bits v k).LegalAt c))
  | .shrink sz => inferInstanceAs (Decidable ((Op.shrink sz).LegalAt c))

def decLegalRunP (n : Nat) : (ops : List Op) → (c : Enc) → Decidable (LegalRunP n c ops)
  | [], _ => isTrue trivial
  | op :: ops, c =>
    match (inferInstance : Decidable (op.LegalAtP n c)), decLegalRunP n ops (encOp c op) with
    | isTrue h1, isTrue h2 => isTrue ⟨h1, h2⟩
    | isFalse h1, _ => isFalse (fun h => h1 h.1)
    | _, isFalse h2 => isFalse (fun h => h2 h.2)

instance (n : Nat) (c : Enc) (ops : List Op) : Decidable (LegalRunP n c ops) := decLegalRunP n ops c

/-- The value of the first `n` bits after the operations: the last patched value, else `t`. -/
def lastPatch (t : Nat) : List Op → Nat
  | [] => t
  | .patchInitial v _ :: ops => lastPatch v ops
  | .encode .. :: ops => lastPatch t ops
  | .encodeBin .. :: ops => lastPatch t ops
  | .bitLogp .. :: ops => lastPatch t ops
  | .icdf .. :: ops => lastPatch t ops
  | .icdf16 .. :: ops => lastPatch t ops
  | .uint .. :: ops => lastPatch t ops
  | .bits .. :: ops => lastPatch t ops
  | .shrink .. :: ops => lastPatch t ops

/-- The value of the first bits after one operation. -/
def patchOf (t : Nat) : Op → Nat
  | .patchInitial v _ => v
  | _ => t

theorem lastPatch_cons (t : Nat) (op : Op) (ops : List Op) : lastPatch t (op :: ops) = lastPatch (patchOf t op) ops := by
  cases op <;> rfl

theorem patchOf_legalAt {c : Enc} {op : Op} (h : op.LegalAt c) (t : Nat) : patchOf t op = t := by
  cases op <;> first | rfl | exact absurd h (by simp [Op.LegalAt])

theorem legalRunP_append (n : Nat) (a b : List Op) : ∀ (c : Enc), LegalRunP n c (a ++ b) ↔
    LegalRunP n c a ∧ LegalRunP n (encRun c a) b := by
  induction a with
  | nil => intro c; simp [LegalRunP, encRun]
  | cons op a ih =>
    intro c
    simp only [List.cons_append, LegalRunP, encRun, ih, and_assoc]

theorem lastPatch_append (t : Nat) (a b : List Op) : lastPatch t (a ++ b) = lastPatch (lastPatch t a) b := by
  induction a generalizing t with
  | nil => rfl
  | cons op a ih => cases op <;> simp only [List.cons_append, lastPatch, ih]

theorem lastPatch_legalRun (t : Nat) : ∀ (ops : List Op) (c : Enc), LegalRun c ops → lastPatch t ops = t := by
  intro ops
  induction ops with
  | nil => intro _ _; rfl
  | cons op ops ih =>
    intro c h
    cases op with
    | patchInitial v n => exact absurd h.1 (by simp [Op.LegalAt])
    | _ => simp only [lastPatch]; exact ih _ h.2

theorem legalRunP_of_legalRun (n : Nat) : ∀ (ops : List Op) (c : Enc), LegalRun c ops → LegalRunP n c ops := by
  intro ops
  induction ops with
  | nil => intro _ _; trivial
  | cons op ops ih =>
    intro c h
    refine ⟨?_, ih _ h.2⟩
    cases op with
    | patchInitial v k => exact absurd h.1 (by simp [Op.LegalAt])
    | _ => exact h.1

/-- Lock step is a statement about `top - code`: it survives moving interval and stream by the same number of cells.
    (The patch case of `stepP`, and the first call of a patch-style stream.) -/
theorem DecAll.shift {B : List Nat} {S : Nat} {g e : Enc} {d : Dec} {n fl w : Nat} (hn8 : n ≤ 8) (hS : 0 < S)
    (hBl : 0 < B.length) (all : DecAll B S g d (setTop B n w)) (eM : encM e = encM g) (eR : e.rng = g.rng)
    (eN : e.nbitsTotal = g.nbitsTotal) (eQ : rawN e = rawN g)
    (eL : encLow e + w * cellSz g n = encLow g + fl * cellSz g n) : DecAll B S e d (setTop B n fl) := by
  obtain ⟨⟨ib, is, ir, inb, iv, io, irem⟩, derr, dn, nb, w1, w2, w3⟩ := all
  have hs := codeVal_setTop B S n w fl g hn8 hS hBl
  refine ⟨⟨ib, is, by rw [eR]; exact ir, by rw [eN]; exact inb, ?_, by rw [eM]; exact io, by rw [eM]; exact irem⟩,
    derr, dn, nb, w1, by rw [eQ]; exact w2, by rw [eQ]; exact w3⟩
  rw [eM, eR]
  omega

/-- One operation of a patch-style stream.  Last but one clause: the patch itself (the only operation that is `LegalAtP`
    but not `LegalAt`) has no decoder call; lock step is carried over to the stream with the new first bits by
    `DecAll.shift`.  For every other operation the decoder side is `decOp_spec`. -/
theorem stepP (n t : Nat) (c : Enc) (op : Op) (ri : RunInv c) (hcell : Cell n t c) (hl : op.LegalAtP n c)
    (hn : (encOp c op).nbitsTotal < 4294967296) (herr : (encOp c op).error = 0) :
    c.error = 0 ∧ RunInv (encOp c op) ∧ Cell n (patchOf t op) (encOp c op) ∧
    (∀ B S, 0 < S → 0 < B.length → (∀ i, byteAt B S i < 256) →
      Contains (setTop B n (patchOf t op)) S (encOp c op) → Contains (setTop B n t) S c) ∧
    (∀ B S, RawC B S (encOp c op) → RawC B S c) ∧
    (∀ B S (d : Dec), 0 < S → 0 < B.length → ¬ op.LegalAt c →
      DecAll B S c d (setTop B n t) → DecAll B S (encOp c op) d (setTop B n (patchOf t op))) ∧
    (Acct c → Acct (encOp c op)) := by
  have hn8 := hcell.n_le
  have ht := hcell.t_lt
  by_cases hp : op.LegalAt c
  · -- not a patch
    rw [patchOf_legalAt hp]
    have st := step_op c op ri hp hn herr
    obtain ⟨k, nest⟩ := st.nest
    refine ⟨st.err0, st.run, nest.cell hcell, ?_, st.rawc, fun _ _ _ _ _ h => absurd hp h, nest.acct⟩
    intro B S _ _ hby h
    exact st.cont _ S (byteAt_setTop_lt B S n t hn8 ht hby) h
  · -- the patch
    cases op with
    | patchInitial v k =>
      obtain ⟨rfl, hv⟩ := hl
      obtain ⟨p1, p2, p3, p4, p5, p6, p7, p8, p9, p10⟩ := patch_spec c k t v ri hcell hv
      simp only [encOp, patchOf] at herr ⊢
      refine ⟨by rw [← p1]; exact herr, p2, p3, ?_, ?_, ?_, ?_⟩
      · intro B S hS hB _ h
        have hs := codeVal_setTop B S k t v c hn8 hS hB
        unfold Contains at h ⊢
        rw [p4, p5] at h
        omega
      · intro B S h
        unfold RawC at h ⊢
        rw [p9, p10] at h; exact h
      · intro B S d hS hB _ all
        exact DecAll.shift hn8 hS hB all p4 p5 p6 p9 p7
      · intro ac
        unfold Acct at ac ⊢
        rw [p4, p6, p9]; exact ac
    | _ => exact absurd hl hp

theorem run_backP (n : Nat) (ops : List Op) : ∀ (c : Enc) (t : Nat), RunInv c → Cell n t c → LegalRunP n c ops →
    (encRun c ops).nbitsTotal < 4294967296 → (encRun c ops).error = 0 →
    c.error = 0 ∧ RunInv (encRun c ops) ∧ Cell n (lastPatch t ops) (encRun c ops) ∧
    (∀ B S, 0 < S → 0 < B.length → (∀ i, byteAt B S i < 256) →
      Contains (setTop B n (lastPatch t ops)) S (encRun c ops) → Contains (setTop B n t) S c) ∧
    (∀ B S, RawC B S (encRun c ops) → RawC B S c) ∧ (Acct c → Acct (encRun c ops)) := by
  induction ops with
  | nil =>
    intro c t ri hcell _ _ herr
    exact ⟨herr, ri, hcell, fun _ _ _ _ _ h => h, fun _ _ h => h, fun h => h⟩
  | cons op ops ih =>
    intro c t ri hcell hl hn herr
    obtain ⟨hn1, herr1⟩ := encRun_head_ok c op ops hn herr
    obtain ⟨s0, s1, s2, s3, s4, _, s6⟩ := stepP n t c op ri hcell hl.1 hn1 herr1
    obtain ⟨_, i1, i2, i3, i4, i5⟩ := ih (encOp c op) (patchOf t op) s1 s2 hl.2 hn herr
    rw [lastPatch_cons]
    exact ⟨s0, i1, i2, fun B S hS hB hby h => s3 B S hS hB hby (i3 B S hS hB hby h),
      fun B S h => s4 B S (i4 B S h), fun ac => i5 (s6 ac)⟩

/-- The raw-bit containment travels back along a patch-style run. -/
theorem rawC_backP {n t : Nat} {e1 : Enc} (P Q : List Op) (ri1 : RunInv e1) (hcell1 : Cell n t e1)
    (hl : LegalRunP n e1 (P ++ Q)) (hn : (encRun e1 (P ++ Q)).nbitsTotal < 4294967296)
    (herr : (encRun e1 (P ++ Q)).error = 0) (B : List Nat) (S : Nat) (hr : RawC B S (encRun e1 (P ++ Q))) :
    RawC B S (encRun e1 P) := by
  obtain ⟨hl1, hl2⟩ := (legalRunP_append n P Q e1).1 hl
  rw [encRun_append] at hn herr hr
  obtain ⟨hnP, herrP⟩ := encRun_ok hn herr
  obtain ⟨_, riP, cellP, -⟩ := run_backP n P e1 t ri1 hcell1 hl1 hnP herrP
  exact (run_backP n Q _ _ riP cellP hl2 hn herr).2.2.2.2.1 B S hr

theorem run_decodeP (n : Nat) (B : List Nat) (hB : BytesOk B) (S : Nat) (hS : 0 < S) (hBl : 0 < B.length)
    (ops : List Op) : ∀ (e : Enc) (d : Dec) (t : Nat),
    RunInv e → Cell n t e → LegalRunP n e ops → DecAll B S e d (setTop B n t) →
    (encRun e ops).nbitsTotal < 4294967296 → (encRun e ops).error = 0 →
    Contains (setTop B n (lastPatch t ops)) S (encRun e ops) → RawC B S (encRun e ops) →
    MatchAll ops (decRun d ops).1 ∧
    DecAll B S (encRun e ops) (decRun d ops).2 (setTop B n (lastPatch t ops)) := by
  have hby : ∀ i, byteAt B S i < 256 := fun i => byteAt_lt_bytesOk hB S i
  induction ops with
  | nil =>
    intro e d t _ _ _ all _ _ _ _
    exact ⟨trivial, all⟩
  | cons op ops ih =>
    intro e d t ri hcell hl all hn herr hc hr
    obtain ⟨hn1, herr1⟩ := encRun_head_ok e op ops hn herr
    obtain ⟨_, s1, s2, s3, s4, s5, _⟩ := stepP n t e op ri hcell hl.1 hn1 herr1
    rw [lastPatch_cons] at hc ⊢
    obtain ⟨_, _, _, b3, b4, _⟩ := run_backP n ops (encOp e op) (patchOf t op) s1 s2 hl.2 hn herr
    have hc1 := b3 B S hS hBl hby hc
    have hr1 := b4 B S hr
    have hstep : op.Matches (decOp d op).1 ∧
        DecAll B S (encOp e op) (decOp d op).2 (setTop B n (patchOf t op)) := by
      by_cases hp : op.LegalAt e
      · rw [patchOf_legalAt hp] at hc1 ⊢
        exact decOp_spec B hB S e d op _ (fun i hi => byteAt_setTop_succ B n t S i hi)
          (byteAt_setTop_lt B S n t hcell.n_le hcell.t_lt hby) ri hp all hn1 herr1 hc1 hr1
      · cases op with
        | patchInitial v k => exact ⟨trivial, s5 B S d hS hBl hp all⟩
        | _ => exact absurd hl.1 hp
    obtain ⟨m1, a1⟩ := hstep
    obtain ⟨m2, a2⟩ := ih (encOp e op) (decOp d op).2 (patchOf t op) s1 s2 hl.2 a1 hn herr hc hr
    simp only [decRun, encRun]
    exact ⟨⟨m1, m2⟩, a2⟩

/-- A fresh encoder whose interval is cell `v` of the first `j ≤ 8` bits, before normalisation (which is due at `j = 8`
    only). -/
def bitsState (buf : List Nat) (size j v : Nat) : Enc := setVR (encInit buf size) (v * 2 ^ (31 - j)) (2 ^ (31 - j))

/-- The state after the subdivision of `ec_encode_bin(fl, fl+1, n)` on a fresh encoder: the
    interval is exactly cell `fl` of the first `n` bits. -/
theorem encSub_init (buf : List Nat) (size n fl : Nat) (hn : n ≤ 16) (hfl : fl < 2 ^ n) :
    encSub (encInit buf size) (2147483648 / 2 ^ n) (2 ^ n - fl) (2 ^ n - (fl + 1)) (decide (fl = 0)) =
      bitsState buf size n fl := by
  obtain ⟨e1, e2⟩ := pow31_split n hn
  unfold bitsState setVR
  rw [e1]
  generalize 2 ^ (31 - n) = r at *
  generalize 2 ^ n = N at *
  have hsub : ∀ k, k ≤ N → r * (N - k) + r * k = 2147483648 := by
    intro k hk
    rw [← Nat.mul_add, Nat.sub_add_cancel hk]; exact e2
  unfold encSub
  by_cases h0 : fl = 0
  · subst h0
    have := hsub (0 + 1) (by omega)
    have e : (encInit buf size).rng - r * (N - (0 + 1)) = r := by show 2147483648 - _ = _; omega
    simp only [decide_true, if_true, e, Nat.zero_mul]
    rfl
  · have h1 := hsub fl (by omega)
    have h2 : N - fl - (N - (fl + 1)) = 1 := by omega
    have e : (encInit buf size).val + ((encInit buf size).rng - r * (N - fl)) = fl * r := by
      show 0 + (2147483648 - _) = _
      have : fl * r = r * fl := Nat.mul_comm _ _
      omega
    simp only [h0, decide_false, Bool.false_eq_true, if_false, e, h2, Nat.mul_one]
/-- `ec_encode_bin(fl, fl+1, n)` on a fresh encoder normalises `bitsState`. -/
theorem bin_state (buf : List Nat) (size n fl : Nat) (hs : size ≤ buf.length) (hb : BytesOk buf) (hn1 : 1 ≤ n)
    (hn8 : n ≤ 8) (hfl : fl < 2 ^ n) :
    encOp (encInit buf size) (.encodeBin fl (fl + 1) n) = encNormalize (bitsState buf size n fl) ∧
    EncPre (bitsState buf size n fl) := by
  have ri0 := runInv_encInit buf size hs hb
  obtain ⟨ok, heq⟩ := encOp_sub (encInit buf size) (.encodeBin fl (fl + 1) n) ri0.inv ⟨by omega, by omega, hn1, by omega⟩ rfl
  obtain ⟨pre, -⟩ := encSub_spec (encInit buf size) _ _ _ (decide (fl = 0)) ri0.inv ok
  have hrng : (encInit buf size).rng = 2147483648 := rfl
  rw [hrng] at heq pre
  rw [encSub_init buf size n fl (by omega) hfl] at heq pre
  exact ⟨heq, pre⟩

/-- A state with `rng ≥ 2^23` is normalised in at most one step, which cannot fail while one more digit fits. -/
theorem encNormalize_once_noerr (c : Enc) (wf : EncWf c) (he : c.error = 0) (hfit : encM c + c.endOffs ≤ c.storage)
    (h23 : 8388608 ≤ c.rng) (h31 : c.rng ≤ 2147483648) : (encNormalize c).error = 0 := by
  by_cases h : 0 < c.rng ∧ c.rng ≤ 8388608
  · rw [encNormalize_step c h, encNormalize_done]
    · exact carryOut_noerr c _ wf he hfit
    · show ¬ (0 < u32 (c.rng * 256) ∧ u32 (c.rng * 256) ≤ 8388608)
      unfold u32; omega
  · rw [encNormalize_done c h]; exact he

/-- `ec_encode_bin(fl, fl+1, n)` on a fresh encoder, whatever the buffer: no error, at most one normalisation step (so
    `nbits_total ≤ 41`), and the interval is cell `fl` exactly, at a scale (`k` digits) that does not depend on `fl`. -/
theorem fresh_bin (buf : List Nat) (size n fl : Nat) (hs : size ≤ buf.length) (hb : BytesOk buf) (hn1 : 1 ≤ n)
    (hn8 : n ≤ 8) (hfl : fl < 2 ^ n) :
    (encOp (encInit buf size) (.encodeBin fl (fl + 1) n)).error = 0 ∧
    (encOp (encInit buf size) (.encodeBin fl (fl + 1) n)).nbitsTotal < 4294967296 ∧
    Cell n fl (encOp (encInit buf size) (.encodeBin fl (fl + 1) n)) ∧
    ((encOp (encInit buf size) (.encodeBin fl (fl + 1) n)).rng,
      (encOp (encInit buf size) (.encodeBin fl (fl + 1) n)).nbitsTotal) = normRN (2 ^ (31 - n)) 33 ∧
    ∃ k, encM (encOp (encInit buf size) (.encodeBin fl (fl + 1) n)) = k ∧
      encLow (encOp (encInit buf size) (.encodeBin fl (fl + 1) n)) = fl * (2 ^ (31 - n) * 256 ^ k) ∧
      (encOp (encInit buf size) (.encodeBin fl (fl + 1) n)).rng = 2 ^ (31 - n) * 256 ^ k ∧
      (encOp (encInit buf size) (.encodeBin fl (fl + 1) n)).nbitsTotal = 33 + 8 * k ∧
      rawN (encOp (encInit buf size) (.encodeBin fl (fl + 1) n)) = 0 := by
  obtain ⟨heq, pre⟩ := bin_state buf size n fl hs hb hn1 hn8 hfl
  rw [heq]
  have a1 : encM (bitsState buf size n fl) = 0 := encInit_encM buf size
  have a2 : encLow (bitsState buf size n fl) = fl * 2 ^ (31 - n) := by
    simp [encLow, digitsVal, pendCount, pendVal, bitsState, setVR, encInit]
  have h23 : 2 ^ 23 ≤ 2 ^ (31 - n) := Nat.pow_le_pow_right (by decide) (by omega)
  have herr := encNormalize_once_noerr _ pre.wf rfl (by rw [a1]; exact Nat.zero_le _) h23 pre.rng_hi
  have hrn : ((encNormalize (bitsState buf size n fl)).rng, (encNormalize (bitsState buf size n fl)).nbitsTotal) =
      normRN (2 ^ (31 - n)) 33 := encNormalize_rn _
  have hnb : (encNormalize (bitsState buf size n fl)).nbitsTotal < 4294967296 := by
    have hle := normRN_nbits_le (nbits := 33) h23
    rw [← hrn] at hle
    exact Nat.lt_of_le_of_lt hle (by decide)
  obtain ⟨k, i1, i2, i3, i4, i5, -⟩ := encNormalize_scale _ pre hnb herr
  obtain ⟨_, nest⟩ := encNormalize_nest _ pre hnb herr
  have hZ : cellSz (bitsState buf size n fl) n = 2 ^ (31 - n) := by unfold cellSz; rw [a1]; simp
  exact ⟨herr, hnb, nest.cell ⟨hn8, hfl, by rw [hZ, a2]; exact Nat.le_refl _,
      by rw [hZ, a2, Nat.add_mul, Nat.one_mul]; exact Nat.le_refl _, fun h => by rw [a1] at h; omega⟩,
    hrn, k, by rw [i1, a1]; omega, by rw [i2, a2, Nat.mul_assoc], i3, i4, by rw [i5]; exact encInit_rawN buf size⟩

theorem first_ok (buf : List Nat) (size n fl : Nat) (hs : size ≤ buf.length) (hb : BytesOk buf) (hn1 : 1 ≤ n)
    (hn8 : n ≤ 8) (hfl : fl < 2 ^ n) :
    RunInv (encOp (encInit buf size) (.encodeBin fl (fl + 1) n)) ∧
    Cell n fl (encOp (encInit buf size) (.encodeBin fl (fl + 1) n)) := by
  obtain ⟨herr, hnb, cell, -⟩ := fresh_bin buf size n fl hs hb hn1 hn8 hfl
  exact ⟨(step_op _ (.encodeBin fl (fl + 1) n) (runInv_encInit buf size hs hb) ⟨by omega, by omega, hn1, by omega⟩
    hnb herr).run, cell⟩

/-- The encoder that would have coded the first bits `w` of the stream in the first place: it has no error either, the
    stream lies in its interval, and a decoder that mirrors it mirrors the real encoder (which coded `fl`) on the
    stream with the first bits put back to `fl`. -/
theorem first_ghost (B : List Nat) (S : Nat) (hS : 0 < S) (hBl : 0 < B.length)
    (buf : List Nat) (size n fl w : Nat) (hs : size ≤ buf.length) (hb : BytesOk buf)
    (hn1 : 1 ≤ n) (hn8 : n ≤ 8) (hfl : fl < 2 ^ n) (hw : w < 2 ^ n) (hBw : setTop B n w = B)
    (hc : Contains (setTop B n fl) S (encOp (encInit buf size) (.encodeBin fl (fl + 1) n))) :
    (encOp (encInit buf size) (.encodeBin w (w + 1) n)).nbitsTotal < 4294967296 ∧
    (encOp (encInit buf size) (.encodeBin w (w + 1) n)).error = 0 ∧
    rawN (encOp (encInit buf size) (.encodeBin w (w + 1) n)) = 0 ∧
    Contains B S (encOp (encInit buf size) (.encodeBin w (w + 1) n)) ∧
    ∀ d, DecAll B S (encOp (encInit buf size) (.encodeBin w (w + 1) n)) d B →
      DecAll B S (encOp (encInit buf size) (.encodeBin fl (fl + 1) n)) d (setTop B n fl) := by
  obtain ⟨-, -, -, rnf, kf, f1, f2, f3, f4, f5⟩ := fresh_bin buf size n fl hs hb hn1 hn8 hfl
  obtain ⟨ew, hnw, -, rnw, kw, g1, g2, g3, g4, g5⟩ := fresh_bin buf size n w hs hb hn1 hn8 hw
  -- the scale does not depend on the value coded: `nbits_total` is a function of `rng` (`encNormalize_rn`)
  have hk : kw = kf := by
    have := (Prod.mk.inj (rnf.trans rnw.symm)).2
    omega
  subst hk
  have hst := codeVal_setTop B S n fl w (encOp (encInit buf size) (.encodeBin fl (fl + 1) n)) hn8 hS hBl
  have hZw : cellSz (encOp (encInit buf size) (.encodeBin w (w + 1) n)) n = 2 ^ (31 - n) * 256 ^ kw := by
    unfold cellSz; rw [g1]
  rw [hBw] at hst
  unfold cellSz at hst
  rw [f1] at hst
  refine ⟨hnw, ew, g5, ?_, fun d a => DecAll.shift hn8 hS hBl (by rw [hBw]; exact a) (by rw [f1, g1]) (by rw [f3, g3])
    (by rw [f4, g4]) (by rw [f5, g5]) (by rw [f2, g2, hZw]; exact Nat.add_comm _ _)⟩
  -- the stream lies in the cell its first bits name
  unfold Contains at hc ⊢
  rw [f1, f2, f3] at hc
  rw [g1, g2, g3]
  generalize 2 ^ (31 - n) * 256 ^ kw = Z at *
  omega

/-- The decoder's first call on a patch-style stream: `ec_decode_bin` returns the first `n` bits `w` of
    the stream, and after `ec_dec_update(w, w+1)` the decoder mirrors the encoder state after
    `ec_encode_bin(fl, fl+1, n)` — relative to the stream whose first bits are `fl`.  It is the round trip of one
    operation (`decOp_prim_spec`) for the encoder of `first_ghost`. -/
theorem first_dec (B : List Nat) (hB : BytesOk B) (S : Nat) (hS : 0 < S) (hBl : 0 < B.length)
    (buf : List Nat) (size n fl w : Nat) (hs : size ≤ buf.length) (hb : BytesOk buf)
    (hn1 : 1 ≤ n) (hn8 : n ≤ 8) (hfl : fl < 2 ^ n) (hw : w < 2 ^ n) (hBw : setTop B n w = B)
    (hc : Contains (setTop B n fl) S (encOp (encInit buf size) (.encodeBin fl (fl + 1) n))) :
    (Op.encodeBin w (w + 1) n).Matches (decOp (decInit B S) (.encodeBin w (w + 1) n)).1 ∧
    DecAll B S (encOp (encInit buf size) (.encodeBin fl (fl + 1) n))
      (decOp (decInit B S) (.encodeBin w (w + 1) n)).2 (setTop B n fl) := by
  obtain ⟨hnw, ew, _, hcw, back⟩ := first_ghost B S hS hBl buf size n fl w hs hb hn1 hn8 hfl hw hBw hc
  obtain ⟨hm, a⟩ := decOp_prim_spec B hB S (encInit buf size) (decInit B S) (.encodeBin w (w + 1) n) B (fun _ _ => rfl)
    (fun i => byteAt_lt_bytesOk hB S i) (runInv_encInit buf size hs hb) ⟨by omega, by omega, hn1, by omega⟩ rfl
    (decInit_spec B hB S buf size) hnw ew hcw
  exact ⟨hm, back _ a⟩

/-- **Patch-style streams, from any start.**  `e1` is an encoder state whose interval lies in cell `t` of the first
    `n` bits, `pre ++ suf` a patch-style continuation, `(B, S)` ANY byte stream whose code value lies in the final
    interval.  Then the stream starts with the bits last patched, the stream with those bits put back to `t` lies in
    the interval of `e1`, and a decoder that mirrors `e1` on that stream returns the values of `pre` and mirrors the
    encoder after `pre`.  The first operation of the stream appears only through `e1` and `d1`. -/
theorem patched_stream {n t : Nat} {e1 : Enc} (pre suf : List Op) (ri1 : RunInv e1) (hcell1 : Cell n t e1)
    (hl : LegalRunP n e1 (pre ++ suf)) (hnF : (encRun e1 (pre ++ suf)).nbitsTotal < 4294967296)
    (herrF : (encRun e1 (pre ++ suf)).error = 0) :
    RunInv (encRun e1 (pre ++ suf)) ∧ Cell n (lastPatch t (pre ++ suf)) (encRun e1 (pre ++ suf)) ∧
    ∀ (B : List Nat) (S : Nat), BytesOk B → 0 < S → 0 < B.length → Contains B S (encRun e1 (pre ++ suf)) →
      setTop B n (lastPatch t (pre ++ suf)) = B ∧ Contains (setTop B n t) S e1 ∧
      ∀ d1 : Dec, RawC B S (encRun e1 pre) → DecAll B S e1 d1 (setTop B n t) →
        MatchAll pre (decRun d1 pre).1 ∧
        DecAll B S (encRun e1 pre) (decRun d1 pre).2 (setTop B n (lastPatch t pre)) := by
  obtain ⟨hl1, hl2⟩ := (legalRunP_append n pre suf e1).1 hl
  rw [encRun_append] at hnF herrF ⊢
  rw [lastPatch_append]
  obtain ⟨hnP, herrP⟩ := encRun_ok hnF herrF
  obtain ⟨_, riP, cellP, b3, -⟩ := run_backP n pre e1 t ri1 hcell1 hl1 hnP herrP
  obtain ⟨_, riF, cellF, c3, -⟩ := run_backP n suf (encRun e1 pre) _ riP cellP hl2 hnF herrF
  refine ⟨riF, cellF, fun B S hB hS hBl hc => ?_⟩
  have hby : ∀ i, byteAt B S i < 256 := fun i => byteAt_lt_bytesOk hB S i
  have hself := setTop_self B S n _ _ hS hby hc cellF
  have hcP := c3 B S hS hBl hby (by rw [hself]; exact hc)
  exact ⟨hself, b3 B S hS hBl hby hcP, fun d1 hr a0 =>
    run_decodeP n B hB S hS hBl pre e1 d1 t ri1 hcell1 hl1 a0 hnP herrP hcP hr⟩

/-- A stream whose first `n ≥ 1` bits are fixed cannot be finished into an empty buffer. -/
theorem Cell.storage_pos {n t : Nat} {c : Enc} (h : Cell n t c) (hn1 : 1 ≤ n) (inv : EncInv c)
    (hn : c.nbitsTotal < 4294967296) (herr : (encDone c).error = 0) : 0 < c.storage := by
  apply encDone_storage_pos _ inv hn herr
  by_cases hM : 1 ≤ encM c
  · exact Or.inl hM
  · right
    obtain ⟨_, c2, c3, c4, _⟩ := h
    have hM0 : encM c = 0 := by omega
    unfold cellSz at c3 c4
    rw [hM0, Nat.pow_zero, Nat.mul_one, Nat.add_mul, Nat.one_mul] at c4
    rw [hM0, Nat.pow_zero, Nat.mul_one] at c3
    have : 2 ^ (31 - n) ≤ 2 ^ 30 := Nat.pow_le_pow_right (by decide) (by omega)
    omega

/-- **Round trip for patch-style streams.**  The first operation is `ec_encode_bin(fl, fl+1, n)`
    (`1 ≤ n ≤ 8`), the others are those of the round-trip theorem plus any number of
    `ec_enc_patch_initial_bits(v, n)`.  If `ec_enc_done` reports no error (into a non-empty buffer),
    decoding with the same calls — `ec_dec_update` of the first one with the decoded value — returns
    the last patched value `w` for the first operation and the encoded values for all others. -/
theorem decode_encode_patched_all (buf : List Nat) (size n fl : Nat) (rest : List Op) (hs : size ≤ buf.length)
    (hb : BytesOk buf) (hn1 : 1 ≤ n) (hn8 : n ≤ 8) (hfl : fl < 2 ^ n)
    (hl : LegalRunP n (encOp (encInit buf size) (.encodeBin fl (fl + 1) n)) rest)
    (hnb : (encodeAll buf size (.encodeBin fl (fl + 1) n :: rest)).nbitsTotal < 4294967296)
    (herr : (encodeAll buf size (.encodeBin fl (fl + 1) n :: rest)).error = 0) :
    MatchAll (.encodeBin (lastPatch fl rest) (lastPatch fl rest + 1) n :: rest)
      (decRun (decInit ((encodeAll buf size (.encodeBin fl (fl + 1) n :: rest)).buf.take
        (encodeAll buf size (.encodeBin fl (fl + 1) n :: rest)).storage)
        (encodeAll buf size (.encodeBin fl (fl + 1) n :: rest)).storage)
        (.encodeBin (lastPatch fl rest) (lastPatch fl rest + 1) n :: rest)).1 ∧
    DecAll ((encodeAll buf size (.encodeBin fl (fl + 1) n :: rest)).buf.take
        (encodeAll buf size (.encodeBin fl (fl + 1) n :: rest)).storage)
      (encodeAll buf size (.encodeBin fl (fl + 1) n :: rest)).storage
      (encRun (encInit buf size) (.encodeBin fl (fl + 1) n :: rest))
      (decRun (decInit ((encodeAll buf size (.encodeBin fl (fl + 1) n :: rest)).buf.take
        (encodeAll buf size (.encodeBin fl (fl + 1) n :: rest)).storage)
        (encodeAll buf size (.encodeBin fl (fl + 1) n :: rest)).storage)
        (.encodeBin (lastPatch fl rest) (lastPatch fl rest + 1) n :: rest)).2
      ((encodeAll buf size (.encodeBin fl (fl + 1) n :: rest)).buf.take
        (encodeAll buf size (.encodeBin fl (fl + 1) n :: rest)).storage) := by
  unfold encodeAll at hnb herr ⊢
  simp only [encRun] at hnb herr ⊢
  generalize he1 : encOp (encInit buf size) (.encodeBin fl (fl + 1) n) = e1 at *
  obtain ⟨hnF, herrF⟩ := encDone_ok hnb herr
  obtain ⟨ri1, hcell1⟩ : RunInv e1 ∧ Cell n fl e1 := by
    rw [← he1]; exact first_ok buf size n fl hs hb hn1 hn8 hfl
  have key := patched_stream (t := fl) rest [] ri1 hcell1 (by rw [List.append_nil]; exact hl)
    (by rw [List.append_nil]; exact hnF) (by rw [List.append_nil]; exact herrF)
  rw [List.append_nil] at key
  obtain ⟨riF, cellF, key⟩ := key
  obtain ⟨d1, hBt, hBl, hc, hr⟩ := encDone_stream _ riF hnF herr
  have hS := cellF.storage_pos hn1 riF.inv hnF herr
  rw [d1]
  generalize (encDone (encRun e1 rest)).buf.take (encRun e1 rest).storage = Bt at *
  generalize (encRun e1 rest).storage = S at *
  obtain ⟨hself, hc1, dec⟩ := key Bt S hBt hS (by omega) hc
  obtain ⟨m0, a0⟩ := first_dec Bt hBt S hS (by omega) buf size n fl _ hs hb hn1 hn8 hfl cellF.t_lt hself
    (by rw [he1]; exact hc1)
  rw [he1] at a0
  obtain ⟨m1, a1⟩ := dec _ hr a0
  rw [hself] at a1
  simp only [decRun]
  exact ⟨⟨m0, m1⟩, a1⟩

end Opus.RangeCoder
