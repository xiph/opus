import OpusProofs.Kernels
/-
  OpusProofs.KernelsXcorr — xcorr_kernel_sse, xcorr_kernel_avx / celt_pitch_xcorr_avx2 and
  silk_inner_product_FLP_{c,avx2}: lane structure = sequential sums.
-/
namespace Opus.Kernels

variable {α : Type} [CommSemiring α]

/-- loop invariant on the SUM of the two accumulators (the only thing the kernel finally uses). -/
theorem xcorrSseLoop_eq (x y : Nat → α) (b j : Nat) (s1 s2 : Vec α) (k : Nat) (hk : k < 4) :
    (xcorrSseLoop x y b j (s1, s2)).1 k + (xcorrSseLoop x y b j (s1, s2)).2 k =
      (s1 k + s2 k) + sumRange (fun t => x (j + t) * y (j + t + k)) (4 * b) := by
  refine loop_blocks (xcorrSseLoop x y) 4 (fun st => st.1 k + st.2 k) (fun t => x t * y (t + k))
    (fun _ _ => rfl) (fun _ _ ⟨_, _⟩ => rfl) (fun j ⟨s1, s2⟩ => ?_) b j (s1, s2)
  -- one iteration: the shuffles 0x49 / 0x9e pick `y[j+1..j+4]`, `y[j+2..j+5]`
  have hk' : k = 0 ∨ k = 1 ∨ k = 2 ∨ k = 3 := by omega
  rcases hk' with h | h | h | h <;> subst h <;>
    simp [xcorrSseLoop, sumRange, vadd, vmul, shufflePs, loadu, Nat.add_assoc] <;> ring1

theorem xcorrKernelSse_eq (x y : Nat → α) (sum : Vec α) (len : Nat) (k : Nat) (hk : k < 4) :
    xcorrKernelSse x y sum len k = xcorrKernelC x y sum len k := by
  unfold xcorrKernelC
  rw [tailLoop_eq, sumRange_blocks _ len 4]
  simp only [Nat.zero_add]
  unfold xcorrKernelSse
  simp only []
  have hinv := xcorrSseLoop_eq x y (len / 4) 0 sum vzero k hk
  simp only [Nat.zero_add, vzero, add_zero] at hinv
  generalize (xcorrSseLoop x y (len / 4) 0 (sum, vzero)) = st at hinv ⊢
  -- the tail: `r = len − j < 4` products, added alternately to the two accumulators
  have hle := Nat.mul_div_le len 4
  obtain ⟨r, hr⟩ : ∃ r, len = 4 * (len / 4) + r := ⟨len - 4 * (len / 4), by omega⟩
  have hr4 : r = 0 ∨ r = 1 ∨ r = 2 ∨ r = 3 := by omega
  generalize 4 * (len / 4) = j at *
  subst hr
  rw [Nat.add_sub_cancel_left, ← add_assoc, ← hinv]
  rcases hr4 with rfl | rfl | rfl | rfl <;>
    simp [vadd, vmul, load1, loadu, sumRange] <;> ring

theorem xcorrKernelC_eq (x y : Nat → α) (sum : Vec α) (len k : Nat) :
    xcorrKernelC x y sum len k = sum k + sumRange (fun j => x j * y (j + k)) len := by
  unfold xcorrKernelC; rw [tailLoop_eq]; simp only [Nat.zero_add]

/-- every lane of accumulator `xsum_k`, main loop plus masked remainder. -/
theorem xcorrAvxAcc_lane (x y : Nat → α) (len k l : Nat) :
    xcorrAvxAcc x y len k l =
      sumRange (fun b => x (8 * b + l) * y (8 * b + k + l)) (len / 8) +
      (if l < len - 8 * (len / 8) then x (8 * (len / 8) + l) * y (8 * (len / 8) + k + l) else 0) := by
  unfold xcorrAvxAcc
  simp only []
  by_cases h : 8 * (len / 8) ≠ len
  · simp only [if_pos h, fmaLoop_eq, vzero, vmul, loadu, maskload, zero_add]
    by_cases hl : l < len - 8 * (len / 8)
    · simp only [if_pos hl]; ring
    · simp only [if_neg hl]; ring
  · have h' : 8 * (len / 8) = len := by omega
    have hl : ¬ (l < len - 8 * (len / 8)) := by omega
    simp only [if_neg h, if_neg hl, fmaLoop_eq, vzero, vmul, loadu, zero_add, add_zero]

/-- the eight lanes of one accumulator add up to its inner product: full blocks by `sumRange_lanes`, the masked
    remainder by `sumRange_mask`. -/
theorem xcorrAvxAcc_sum (x y : Nat → α) (len k : Nat) :
    let a := xcorrAvxAcc x y len k
    ((a 0 + a 4) + (a 1 + a 5)) + ((a 2 + a 6) + (a 3 + a 7)) = sumRange (fun j => x j * y (j + k)) len := by
  intro a
  have hle := Nat.mul_div_le len 8
  rw [sumRange_blocks (fun j => x j * y (j + k)) len 8, sumRange_lanes,
    ← sumRange_mask (fun j => x (8 * (len / 8) + j) * y (8 * (len / 8) + j + k)) (len - 8 * (len / 8)) 8 (by omega),
    ← sumRange_add_fn]
  have e : ∀ b c : Nat, 8 * b + k + c = 8 * b + c + k := by intro b c; omega
  simp only [a, xcorrAvxAcc_lane, sumRange, e, Nat.add_zero]
  ring

theorem xcorrKernelAvx_eq (x y : Nat → α) (len k : Nat) (hk : k < 8) :
    xcorrKernelAvx x y len k = sumRange (fun j => x j * y (j + k)) len := by
  have hk' : k = 0 ∨ k = 1 ∨ k = 2 ∨ k = 3 ∨ k = 4 ∨ k = 5 ∨ k = 6 ∨ k = 7 := by omega
  rcases hk' with h | h | h | h | h | h | h | h <;> subst h <;>
    (rw [← xcorrAvxAcc_sum]; simp [xcorrKernelAvx, hadd256, vadd, permute2f128])

/-- lag `i` seen from its block of `L` lags: block start `i/L*L`, lane `i % L`. -/
theorem lag_split (L i j : Nat) : i / L * L + (j + i % L) = i + j := by
  rw [Nat.add_comm j, ← Nat.add_assoc, Nat.div_add_mod']

theorem pitchXcorrAvx2_eq (x y : Nat → α) (len maxPitch i : Nat) :
    pitchXcorrAvx2 x y len maxPitch i = pitchXcorrSpec x y len i := by
  unfold pitchXcorrAvx2 pitchXcorrSpec
  simp only []
  by_cases h : i < 8 * (maxPitch / 8)
  · simp only [if_pos h]
    rw [xcorrKernelAvx_eq _ _ _ _ (Nat.mod_lt i (by decide))]
    exact sumRange_congr _ fun j _ => by rw [lag_split]
  · simp only [if_neg h]
    rw [innerProdSse_eq]; rfl

/-- celt_pitch_xcorr_c (unrolled version) with any inner kernels that compute the sequential sums. -/
theorem pitchXcorrCWith_eq (kern : (Nat → α) → (Nat → α) → Vec α → Nat → Vec α)
    (ip : (Nat → α) → (Nat → α) → Nat → α)
    (hkern : ∀ x y s len k, k < 4 → kern x y s len k = s k + sumRange (fun j => x j * y (j + k)) len)
    (hip : ∀ x y n, ip x y n = sumRange (fun i => x i * y i) n)
    (x y : Nat → α) (len maxPitch i : Nat) :
    pitchXcorrCWith kern ip x y len maxPitch i = pitchXcorrSpec x y len i := by
  unfold pitchXcorrCWith pitchXcorrSpec
  by_cases h : i < 4 * (maxPitch / 4)
  · simp only [if_pos h]
    rw [hkern _ _ _ _ _ (Nat.mod_lt i (by decide))]
    simp only [vzero, zero_add]
    exact sumRange_congr _ fun j _ => by rw [lag_split]
  · simp only [if_neg h]
    rw [hip]

theorem pitchXcorrC_eq (x y : Nat → α) (len maxPitch i : Nat) :
    pitchXcorrC x y len maxPitch i = pitchXcorrSpec x y len i := by
  unfold pitchXcorrC
  apply pitchXcorrCWith_eq
  · intro x y s len k hk; rw [xcorrKernelSse_eq _ _ _ _ _ hk, xcorrKernelC_eq]
  · intro x y n; rw [innerProdSse_eq]; rfl

theorem pitchXcorrCPortable_eq (x y : Nat → α) (len maxPitch i : Nat) :
    pitchXcorrCPortable x y len maxPitch i = pitchXcorrSpec x y len i := by
  unfold pitchXcorrCPortable
  apply pitchXcorrCWith_eq
  · intro x y s len k _; rw [xcorrKernelC_eq]
  · intro x y n; rfl

theorem innerProductFlpC_go_eq (f : Nat → α) (b i : Nat) (r : α) :
    innerProductFlpC.go f b i r = r + sumRange (fun j => f (i + j)) (4 * b) :=
  loop_blocks (innerProductFlpC.go f) 4 id f
    (fun _ _ => rfl) (fun _ _ _ => rfl) (fun i r => by simp only [id_eq, innerProductFlpC.go, sumRange, Nat.add_zero, zero_add]) b i r

theorem innerProductFlpC_eq (x y : Nat → α) (n : Nat) :
    innerProductFlpC x y n = sumRange (fun i => x i * y i) n := by
  unfold innerProductFlpC
  simp only []
  rw [tailLoop_eq, innerProductFlpC_go_eq, sumRange_blocks (fun i => x i * y i) n 4]
  simp only [zero_add]

/-- the two 4-lane accumulators at stride 8 (offsets 0..3 and 4..7) are the 8 lanes of `sumRange_lanes`. -/
theorem innerProductFlpAvx2_eq (x y : Nat → α) (n : Nat) :
    innerProductFlpAvx2 x y n = sumRange (fun i => x i * y i) n := by
  unfold innerProductFlpAvx2
  simp only []
  rw [tailLoop_eq]
  have hle := Nat.mul_div_le n 8
  have hb4 : (n - 8 * (n / 8)) / 4 = 0 ∨ (n - 8 * (n / 8)) / 4 = 1 := by omega
  rw [sumRange_blocks (fun i => x i * y i) n 8, sumRange_lanes]
  rcases hb4 with h | h
  · rw [h]
    simp only [fmaLoop, Nat.mul_zero, Nat.add_zero, haddPd, vadd, swapHalvesPd, fmaLoop_eq, vzero, vmul, loadu,
      zero_add, sumRange, Nat.add_assoc, Nat.reduceAdd]
    ring
  · rw [h]
    have hsplit : n - 8 * (n / 8) = 4 + (n - (8 * (n / 8) + 4 * 1)) := by omega
    rw [hsplit, sumRange_add]
    simp only [fmaLoop, Nat.mul_one, haddPd, vadd, swapHalvesPd, fmaLoop_eq, vzero, vmul, loadu,
      zero_add, Nat.add_zero, sumRange, Nat.add_assoc, Nat.reduceAdd]
    ring

end Opus.Kernels
