import OpusProofs.SilkParamsRangeBasic
import OpusProofs.SilkParamsLpc
/-
  OpusProofs.SilkParamsRangeFit — range lemmas for silk_bwexpander_32 (bwexpander_32.c:36-51),
  silk_LPC_fit (LPC_fit.c:36-82) and the re-quantisation inside the stabilisation loop of
  silk_NLSF2A (NLSF2A.c:132-139): no 32-bit intermediate wraps and no `(opus_int16)` cast
  truncates, for every `opus_int32` input filter other than one containing `silk_int32_MIN`.
-/
namespace Opus.SilkParams
open Opus.Gen

/-! ### silk_bwexpander_32 -/

/-- Every `opus_int32` value computed by `silk_bwexpander_32(ar, d, chirp_Q16)` from the loop on
    (`chirp_minus_one_Q16 = cm1`), in program order.  Per `i < d-1`: the operand of the
    `(opus_int32)` cast of `silk_SMULWW( chirp_Q16, ar[i] )`, the 32-bit product
    `silk_MUL( chirp_Q16, chirp_minus_one_Q16 )`, the two steps of `silk_RSHIFT_ROUND( · , 16 )`
    (`(x >> 15) + 1`, then `>> 1`), the new `chirp_Q16`; finally the cast operand for `ar[d-1]`. -/
def bwexpTrace : List Int → Int → Int → List Int
  | [], _, _ => []
  | [x], c, _ => [c * x / 65536]
  | x :: y :: xs, c, cm1 =>
    c * x / 65536 :: c * cm1 :: (c * cm1 / 32768 + 1) :: rshiftRound (c * cm1) 16 ::
      (c + rshiftRound (c * cm1) 16) :: bwexpTrace (y :: xs) (c + rshiftRound (c * cm1) 16) cm1

/-- The chirp update keeps `0 ≤ chirp ≤ previous chirp`. -/
theorem chirp_step (c cm1 : Int) (h0 : 0 ≤ c) (h1 : c ≤ 65536 + cm1) (hm0 : -65536 ≤ cm1) (hm1 : cm1 ≤ 0) :
    0 ≤ c + rshiftRound (c * cm1) 16 ∧ c + rshiftRound (c * cm1) 16 ≤ c ∧
    -1073741824 ≤ c * cm1 ∧ c * cm1 ≤ 0 := by
  have hy1 : c * cm1 ≤ 0 := Int.mul_nonpos_of_nonneg_of_nonpos h0 hm1
  have hy2 : c * -65536 ≤ c * cm1 := Int.mul_le_mul_of_nonneg_left hm0 h0
  -- `c * (-cm1) ≤ (65536 + cm1) * (-cm1) ≤ 32768^2`: the product of two numbers with sum 65536
  have hy3 : -1073741824 ≤ c * cm1 := by
    have a : c * (-cm1) ≤ (65536 + cm1) * (-cm1) := Int.mul_le_mul_of_nonneg_right h1 (by omega)
    have b := self_mul_nonneg (cm1 + 32768)
    grind
  rw [rshiftRound16]
  generalize c * cm1 = y at *
  omega

theorem bwexpLoop_range : ∀ (ar : List Int) (c cm1 lo hi : Int), 0 ≤ c → c ≤ 65536 + cm1 →
    -65536 ≤ cm1 → cm1 ≤ 0 → -2147483648 ≤ lo → lo ≤ 0 → 0 ≤ hi → hi ≤ 2147483647 →
    (∀ x ∈ ar, lo ≤ x ∧ x ≤ hi) →
    (∀ v ∈ bwexpTrace ar c cm1, I32 v) ∧ (∀ e ∈ bwexpLoop ar c cm1, lo ≤ e ∧ e ≤ hi) := by
  intro ar
  induction ar with
  | nil => intro c cm1 lo hi _ _ _ _ _ _ _ _ _; simp [bwexpTrace, bwexpLoop]
  | cons x xs ih =>
    intro c cm1 lo hi h0 h1 hm0 hm1 hlo0 hlo hhi hhi1 hx
    have hxx := hx x (by simp)
    have hb := mulshift16_between c x h0 (by omega)
    have hv : lo ≤ c * x / 65536 ∧ c * x / 65536 ≤ hi := by omega
    have hvI : I32 (c * x / 65536) := by unfold I32; omega
    cases xs with
    | nil =>
      simp only [bwexpTrace, bwexpLoop, List.mem_singleton, forall_eq]
      rw [smulww_eq hvI]
      exact ⟨hvI, hv⟩
    | cons y ys =>
      have hs := chirp_step c cm1 h0 h1 hm0 hm1
      have hr := ih (c + rshiftRound (c * cm1) 16) cm1 lo hi hs.1 (by omega) hm0 hm1 hlo0 hlo hhi hhi1
        (fun e he => hx e (by simp [he]))
      simp only [bwexpTrace, bwexpLoop, List.forall_mem_cons]
      rw [smulww_eq hvI]
      unfold I32 at hvI ⊢
      exact ⟨⟨hvI, by omega, by omega, by omega, by omega, hr.1⟩, hv, hr.2⟩

/-- `silk_bwexpander_32` with a chirp factor in `[0, 65536]` (Q16: `[0, 1]`): no wrap, and every
    coefficient stays between its input value and 0. -/
theorem bwexpander32_range (ar : List Int) (chirp lo hi : Int) (h0 : 0 ≤ chirp) (h1 : chirp ≤ 65536)
    (hlo0 : -2147483648 ≤ lo) (hlo : lo ≤ 0) (hhi : 0 ≤ hi) (hhi1 : hi ≤ 2147483647)
    (hx : ∀ x ∈ ar, lo ≤ x ∧ x ≤ hi) :
    I32 (chirp - 65536) ∧ (∀ v ∈ bwexpTrace ar chirp (chirp - 65536), I32 v) ∧
    (∀ e ∈ bwexpander32 ar chirp, lo ≤ e ∧ e ≤ hi) := by
  have := bwexpLoop_range ar chirp (chirp - 65536) lo hi h0 (by omega) (by omega) (by omega) hlo0 hlo hhi hhi1 hx
  exact ⟨by unfold I32; omega, this.1, this.2⟩

/-! ### silk_LPC_fit -/

theorem maxAbsScan_spec : ∀ (a : List Int) (k : Nat) (m : Int) (idx : Nat) (b : Int), m ≤ b →
    (∀ e ∈ a, -b ≤ e ∧ e ≤ b) →
    m ≤ (maxAbsScan a k m idx).1 ∧ (maxAbsScan a k m idx).1 ≤ b ∧
    (∀ e ∈ a, sabs e ≤ (maxAbsScan a k m idx).1) ∧
    ((maxAbsScan a k m idx).2 = idx ∨ (maxAbsScan a k m idx).2 < k + a.length) := by
  intro a
  induction a with
  | nil => intro k m idx b hb _; simp [maxAbsScan]; omega
  | cons x xs ih =>
    intro k m idx b hb ha
    have hx := ha x (by simp)
    have hsx := sabs_le hx.1 hx.2
    unfold maxAbsScan
    simp only
    split
    · rename_i hgt
      have := ih (k + 1) (sabs x) k b hsx (fun e he => ha e (by simp [he]))
      exact ⟨by omega, this.2.1, List.forall_mem_cons.mpr ⟨this.1, this.2.2.1⟩,
        by simp only [List.length_cons]; omega⟩
    · rename_i hle
      have := ih (k + 1) m idx b hb (fun e he => ha e (by simp [he]))
      exact ⟨this.1, this.2.1, List.forall_mem_cons.mpr ⟨by omega, this.2.2.1⟩,
        by simp only [List.length_cons]; omega⟩

/-- Every `opus_int32` value computed by the limiting loop of `silk_LPC_fit` (LPC_fit.c:48-70),
    `QIN - QOUT = 5`, with `n` iterations left: per iteration every `silk_abs( a_QIN[k] )`, the two
    steps of `silk_RSHIFT_ROUND( maxabs, 5 )`, and — when the limit is exceeded — the clamped
    `maxabs`, `maxabs - silk_int16_MAX`, its `silk_LSHIFT( · , 14 )` (as the exact product),
    `silk_MUL( maxabs, idx + 1 )`, the divisor `… >> 2`, the quotient of `silk_DIV32`,
    `chirp_Q16`, `chirp_Q16 - 65536`, and the trace of `silk_bwexpander_32`. -/
def lpcFitLoopTrace : Nat → List Int → Nat → List Int
  | 0, _, _ => []
  | n + 1, a, idx =>
    let r := maxAbsScan a 0 0 idx
    let maxabs := rshiftRound r.1 5
    a.map sabs ++ [r.1 / 16 + 1, maxabs] ++
      (if maxabs > 32767 then
        let m := min maxabs 163838
        let den := shrI (m * ((r.2 : Int) + 1)) 2
        let q := Int.tdiv (lshift32 (m - 32767) 14) den
        let chirp := 65470 - q
        [m, m - 32767, (m - 32767) * 16384, m * ((r.2 : Int) + 1), den, q, chirp, chirp - 65536] ++
          bwexpTrace a chirp (chirp - 65536) ++ lpcFitLoopTrace n (bwexpander32 a chirp) r.2
      else [])

/-- The divisors of the `silk_DIV32` calls in the limiting loop (must be non-zero). -/
def lpcFitLoopDivisors : Nat → List Int → Nat → List Int
  | 0, _, _ => []
  | n + 1, a, idx =>
    let r := maxAbsScan a 0 0 idx
    let maxabs := rshiftRound r.1 5
    if maxabs > 32767 then
      let m := min maxabs 163838
      let den := shrI (m * ((r.2 : Int) + 1)) 2
      let chirp := 65470 - Int.tdiv (lshift32 (m - 32767) 14) den
      den :: lpcFitLoopDivisors n (bwexpander32 a chirp) r.2
    else []

/-- The chirp factor chosen by `silk_LPC_fit` lies in `[13040, 65470]` (Q16), in particular in
    `[0, 1]`, and its computation stays inside 32 bits. -/
theorem lpcFit_chirp (m j : Int) (hm0 : 32768 ≤ m) (hm1 : m ≤ 163838) (hj0 : 1 ≤ j) (hj1 : j ≤ 16) :
    let den := shrI (m * j) 2
    let q := Int.tdiv (lshift32 (m - 32767) 14) den
    8192 ≤ den ∧ den ≤ 655352 ∧ lshift32 (m - 32767) 14 = (m - 32767) * 16384 ∧
    I32 ((m - 32767) * 16384) ∧ I32 (m * j) ∧ 0 ≤ q ∧ q ≤ 52430 := by
  intro den q
  have hp1 : m * 1 ≤ m * j := Int.mul_le_mul_of_nonneg_left hj0 (by omega)
  have hp2 : m * j ≤ m * 16 := Int.mul_le_mul_of_nonneg_left hj1 (by omega)
  have hden : den = m * j / 4 := by show shrI (m * j) 2 = _; unfold shrI; rw [rpow2_2]
  have hI : I32 ((m - 32767) * 16384) := by unfold I32; omega
  have hl : lshift32 (m - 32767) 14 = (m - 32767) * 16384 := by
    unfold lshift32; rw [pow2_14]; exact wrap32_id hI
  have hd0 : 8192 ≤ den := by rw [hden]; omega
  have hd1 : den ≤ 655352 := by rw [hden]; omega
  have hq : q = (m - 32767) * 16384 / den := by
    show Int.tdiv (lshift32 (m - 32767) 14) den = _
    rw [hl, Int.tdiv_eq_ediv_of_nonneg (by omega)]
  have hq0 : 0 ≤ q := by rw [hq]; exact Int.ediv_nonneg (by omega) (by omega)
  have hq1 : q ≤ 52430 := by
    rw [hq]
    have : (m - 32767) * 16384 < 52431 * den := by rw [hden]; omega
    have := Int.ediv_lt_of_lt_mul (a := (m - 32767) * 16384) (b := 52431) (c := den) (by omega) this
    omega
  exact ⟨hd0, hd1, hl, hI, by unfold I32; omega, hq0, hq1⟩

/-- The limiting loop of `silk_LPC_fit`: for a filter of 1..16 coefficients, none of them
    `silk_int32_MIN`, nothing wraps, no division by zero occurs, and all coefficients stay in
    `[-B, B]`. -/
theorem lpcFitLoop_range : ∀ (n : Nat) (a : List Int) (idx : Nat) (B : Int), B ≤ 2147483647 →
    a.length ≤ 16 → idx < a.length → (∀ e ∈ a, -B ≤ e ∧ e ≤ B) →
    (∀ v ∈ lpcFitLoopTrace n a idx, I32 v) ∧ (∀ v ∈ lpcFitLoopDivisors n a idx, v ≠ 0) ∧
    (∀ e ∈ (lpcFitLoop 5 n a idx).1, -B ≤ e ∧ e ≤ B) ∧
    ((lpcFitLoop 5 n a idx).2 = false → ∀ e ∈ (lpcFitLoop 5 n a idx).1, -1048559 ≤ e ∧ e ≤ 1048559) := by
  intro n
  induction n with
  | zero => intro a idx B _ _ _ ha; simp [lpcFitLoopTrace, lpcFitLoopDivisors, lpcFitLoop]; exact ha
  | succ n ih =>
    intro a idx B hB hlen hidx ha
    have hB0 : 0 ≤ B := by have := ha a[idx] (List.getElem_mem hidx); omega
    have hs := maxAbsScan_spec a 0 0 idx B hB0 ha
    generalize hr : maxAbsScan a 0 0 idx = r at hs
    have hidx' : r.2 < a.length := by rcases hs.2.2.2 with h | h <;> omega
    have habs : ∀ v ∈ a.map sabs, I32 v := by
      intro v hv
      obtain ⟨e, he, rfl⟩ := List.mem_map.mp hv
      have := ha e he
      have h1 := sabs_le this.1 this.2
      have h2 := sabs_nonneg e
      unfold I32; omega
    have hmax : rshiftRound r.1 5 = (r.1 + 16) / 32 := rshiftRound5 _
    unfold lpcFitLoopTrace lpcFitLoopDivisors lpcFitLoop
    simp only [hr]
    by_cases hgt : rshiftRound r.1 5 > 32767
    · -- limit exceeded: bandwidth expansion
      rw [if_pos hgt, if_pos hgt, if_pos hgt]
      have hm0 : 32768 ≤ min (rshiftRound r.1 5) 163838 := by omega
      have hm1 : min (rshiftRound r.1 5) 163838 ≤ 163838 := by omega
      generalize hmdef : min (rshiftRound r.1 5) 163838 = m at hm0 hm1
      have hc := lpcFit_chirp m ((r.2 : Int) + 1) hm0 hm1 (by omega) (by omega)
      simp only at hc
      generalize hden : shrI (m * ((r.2 : Int) + 1)) 2 = den at hc
      generalize hq : Int.tdiv (lshift32 (m - 32767) 14) den = q at hc
      have hbw := bwexpander32_range a (65470 - q) (-B) B (by omega) (by omega) (by omega) (by omega) hB0 hB ha
      have hrec := ih (bwexpander32 a (65470 - q)) r.2 B hB
        (by rw [bwexpander32_length]; exact hlen) (by rw [bwexpander32_length]; exact hidx') hbw.2.2
      refine ⟨?_, ?_, hrec.2.2.1, hrec.2.2.2⟩
      · have hI := hc.2.2.2.1; have hJ := hc.2.2.2.2.1
        simp only [List.forall_mem_append, List.forall_mem_cons, forall_mem_nil_iff, and_true, I32] at hI hJ ⊢
        exact ⟨⟨habs, by omega, by omega⟩, ⟨⟨by omega, by omega, hI, hJ, by omega, by omega, by omega, by omega⟩, hbw.2.1⟩,
          hrec.1⟩
      · exact List.forall_mem_cons.mpr ⟨by omega, hrec.2.1⟩
    · -- within the limit: the loop exits
      rw [if_neg hgt, if_neg hgt, if_neg hgt]
      refine ⟨?_, by simp, ha, ?_⟩
      · simp only [List.forall_mem_append, List.forall_mem_cons, forall_mem_nil_iff, and_true, I32]
        exact ⟨habs, by omega, by omega⟩
      · intro _ e he
        have h1 := hs.2.2.1 e he
        have h2 := le_sabs e
        omega

/-- The remaining 32-bit values of the final loop of `silk_LPC_fit`: the two steps of each
    `silk_RSHIFT_ROUND( a_QIN[k], 5 )` and, in the clipping branch, the operand of the
    `(opus_int32)` cast in `silk_LSHIFT( (opus_int32)a_QOUT[k], 5 )`. -/
def lpcFitFinalTrace (a : List Int) : List Int :=
  let r := lpcFitLoop 5 10 a 0
  r.1.map (fun x => x / 16 + 1) ++ r.1.map (fun x => rshiftRound x 5) ++
    (if r.2 then r.1.map (fun x => wrap16 (sat16 (rshiftRound x 5)) * 32) else [])

/-- `silk_LPC_fit( a_QOUT, a_QIN, 12, 17, d )` for 1 ≤ d ≤ 16 and every `a_QIN` without
    `silk_int32_MIN`: (1) no 32-bit value wraps and no divisor is 0; (2) no `(opus_int16)` cast
    truncates; (3) the model's result is the un-truncated formula; (4) `a_QIN` after the call is
    such that `silk_RSHIFT_ROUND( · , 5 )` of every coefficient, and of every value between it and
    0, fits `opus_int16`. -/
theorem lpcFit_range (a : List Int) (hne : a ≠ []) (hlen : a.length ≤ 16)
    (ha : ∀ e ∈ a, -2147483647 ≤ e ∧ e ≤ 2147483647) :
    (∀ v ∈ lpcFitLoopTrace 10 a 0 ++ lpcFitFinalTrace a, I32 v) ∧
    (∀ v ∈ lpcFitLoopDivisors 10 a 0, v ≠ 0) ∧
    (∀ v ∈ lpcFitCasts a, I16 v) ∧
    (lpcFit a 5).1 = lpcFitCasts a ∧
    (∀ e ∈ (lpcFit a 5).2, -1048576 ≤ e ∧ e ≤ 1048559) := by
  have hl := lpcFitLoop_range 10 a 0 2147483647 (by omega) hlen (List.length_pos_iff.mpr hne) ha
  unfold lpcFitCasts lpcFitFinalTrace lpcFit
  simp only
  generalize hr : lpcFitLoop 5 10 a 0 = r at hl
  have hrr : ∀ x ∈ r.1, I32 (x / 16 + 1) ∧ I32 (rshiftRound x 5) := by
    intro x hx
    have := hl.2.2.1 x hx
    rw [rshiftRound5]; unfold I32; omega
  cases hb : r.2
  · -- early exit: plain casts
    have hin := hl.2.2.2 hb
    simp only [Bool.false_eq_true, if_false, List.append_nil]
    have hc : ∀ x ∈ r.1, I16 (rshiftRound x 5) := by
      intro x hx
      have := hin x hx
      rw [rshiftRound5_I16_iff]; omega
    refine ⟨?_, hl.2.1, List.forall_mem_map.mpr hc, List.map_congr_left fun x hx => wrap16_id (hc x hx),
      fun e he => by have := hin e he; omega⟩
    simp only [List.forall_mem_append, List.forall_mem_map]
    exact ⟨hl.1, fun x hx => (hrr x hx).1, fun x hx => (hrr x hx).2⟩
  · -- all ten iterations used: clip
    simp only [if_true]
    have hc : ∀ x : Int, I16 (sat16 (rshiftRound x 5)) := fun x => sat16_I16 _
    have hw : ∀ x : Int, -1048576 ≤ wrap16 (sat16 (rshiftRound x 5)) * 32 ∧
        wrap16 (sat16 (rshiftRound x 5)) * 32 ≤ 1048559 := fun x => by
      have := wrap16_I16 (sat16 (rshiftRound x 5)); unfold I16 at this; omega
    refine ⟨?_, hl.2.1, List.forall_mem_map.mpr fun x _ => hc x, List.map_congr_left fun x _ => wrap16_id (hc x), ?_⟩
    · simp only [List.forall_mem_append, List.forall_mem_map]
      exact ⟨hl.1, ⟨fun x hx => (hrr x hx).1, fun x hx => (hrr x hx).2⟩, fun x _ => by have := hw x; unfold I32; omega⟩
    · simp only [List.map_map, List.forall_mem_map, Function.comp]
      intro x _
      rw [lshift32_eq (n := 5) (by have := hw x; simp only [Int.reducePow]; unfold I32; omega)]
      simp only [Int.reducePow]
      exact hw x

/-! ### the re-quantisation in the stabilisation loop of silk_NLSF2A -/

/-- The 32-bit values of the same loop: `silk_LSHIFT( 2, i )`, the chirp factor, the trace of
    `silk_bwexpander_32`, and the first step of each `silk_RSHIFT_ROUND`. -/
def nlsf2aLoopTrace : Nat → Nat → List Int → List Int → List Int
  | 0, _, _, _ => []
  | n + 1, i, a32, aQ12 =>
    if lpcInversePredGain aQ12 = 0 then
      let chirp := 65536 - lshift32 2 i
      let a32' := bwexpander32 a32 chirp
      [2 * 2 ^ i, chirp, chirp - 65536] ++ bwexpTrace a32 chirp (chirp - 65536) ++
        a32'.map (fun a => a / 16 + 1) ++ nlsf2aLoopTrace n (i + 1) a32' (requantQ12 a32')
    else []

theorem lshift2_range (i : Nat) (hi : i ≤ 15) :
    lshift32 2 i = 2 * 2 ^ i ∧ 2 ≤ (2 : Int) * 2 ^ i ∧ (2 : Int) * 2 ^ i ≤ 65536 := by
  have h1 : (1 : Int) ≤ 2 ^ i := Int.pow_pos (by decide)
  have h2 : (2 : Int) ^ i ≤ 2 ^ 15 := two_pow_le hi
  simp only [Int.reducePow] at h2
  exact ⟨lshift32_eq (by unfold I32; omega), by omega, by omega⟩

/-- Stabilisation loop of `silk_NLSF2A` (`n` iterations left, `n + i = 16`): when every
    coefficient of `a32_QA1` lies in the interval on which `silk_RSHIFT_ROUND( · , 5 )` fits
    `opus_int16` (as `silk_LPC_fit` leaves them), nothing wraps, no cast truncates, and the
    model's `wrap16` is the identity on every value it is applied to. -/
theorem nlsf2aLoop_range : ∀ (n i : Nat) (a32 aQ12 : List Int), n + i = 16 →
    (∀ e ∈ a32, -1048592 ≤ e ∧ e ≤ 1048559) →
    (∀ v ∈ nlsf2aLoopTrace n i a32 aQ12, I32 v) ∧ (∀ v ∈ nlsf2aLoopCasts n i a32 aQ12, I16 v) := by
  intro n
  induction n with
  | zero => intro i a32 aQ12 _ _; simp [nlsf2aLoopTrace, nlsf2aLoopCasts]
  | succ n ih =>
    intro i a32 aQ12 hni ha
    unfold nlsf2aLoopTrace nlsf2aLoopCasts
    split
    · obtain ⟨hsh1, hsh2, hsh3⟩ := lshift2_range i (by omega)
      rw [← hsh1] at hsh2 hsh3
      have hbw := bwexpander32_range a32 (65536 - lshift32 2 i) (-1048592) 1048559
        (by omega) (by omega) (by omega) (by omega) (by omega) (by omega) ha
      have hrec := ih (i + 1) (bwexpander32 a32 (65536 - lshift32 2 i))
        (requantQ12 (bwexpander32 a32 (65536 - lshift32 2 i))) (by omega) hbw.2.2
      simp only [List.forall_mem_append, List.forall_mem_cons, forall_mem_nil_iff, and_true, List.forall_mem_map,
        rshiftRound5_I16_iff]
      refine ⟨⟨⟨⟨⟨?_, ?_, hbw.1⟩, hbw.2.1⟩, fun x hx => ?_⟩, hrec.1⟩, hbw.2.2, hrec.2⟩
      · rw [← hsh1]; unfold I32; omega
      · unfold I32; omega
      · have := hbw.2.2 x hx; unfold I32; omega
    · simp

end Opus.SilkParams
