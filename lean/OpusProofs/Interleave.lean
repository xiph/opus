import OpusModel.Interleave
import OpusModel.Gen.Globals
/-
  OpusProofs.Interleave — lemmas behind OpusProps/C14.lean.
-/
namespace Opus.Interleave

variable {Ro St In Out : Type}

@[simp] theorem update_same (f : Nat → St) (o : Nat) (s : St) : update f o s o = s := by
  simp [update]

@[simp] theorem update_other (f : Nat → St) (o t : Nat) (s : St) (h : t ≠ o) : update f o s t = f t := by
  simp [update, h]

theorem exec_ro (step : Ro → St → In → St × Out) (m : Mem Ro St) (c : Call In) :
    (exec step m c).1.ro = m.ro := rfl

theorem exec_other (step : Ro → St → In → St × Out) (m : Mem Ro St) (c : Call In) (t : Nat)
    (h : t ≠ c.obj) : (exec step m c).1.objs t = m.objs t := by
  simp [exec, h]

theorem run_ro (step : Ro → St → In → St × Out) (m : Mem Ro St) (s : List (Call In)) :
    (run step m s).1.ro = m.ro := by
  induction s generalizing m with
  | nil => rfl
  | cons c cs ih => simp only [run]; rw [ih]; rfl

/-- Core lemma: along ANY schedule, thread `t` sees exactly its own serial run on its projection. -/
theorem run_eq_runAlone (step : Ro → St → In → St × Out) (m : Mem Ro St) (s : List (Call In)) (t : Nat) :
    (run step m s).1.objs t = (runAlone step m.ro (m.objs t) (project t s)).1 ∧
    (run step m s).2 t = (runAlone step m.ro (m.objs t) (project t s)).2 := by
  induction s generalizing m with
  | nil => simp [run, runAlone, project]
  | cons c cs ih =>
    have h := ih (exec step m c).1
    by_cases hc : c.obj = t
    · subst hc
      simp only [run, project, if_true, runAlone]
      rw [exec_ro] at h
      have hobj : (exec step m c).1.objs c.obj = (step m.ro (m.objs c.obj) c.inp).1 := by simp [exec]
      have hout : (exec step m c).2 = (step m.ro (m.objs c.obj) c.inp).2 := rfl
      rw [hobj] at h
      exact ⟨h.1, by rw [hout, h.2]⟩
    · have hne : t ≠ c.obj := fun e => hc e.symm
      simp only [run, project, if_neg hc, if_neg hne]
      rw [exec_ro, exec_other step m c t hne] at h
      exact h

/-- `grun` under the footprint premise is `run`. -/
theorem grun_eq_run (gstep : Ro → (Nat → St) → Nat → In → (Nat → St) × Out)
    (step : Ro → St → In → St × Out) (hl : Local gstep step) (m : Mem Ro St) (s : List (Call In)) :
    grun gstep m s = run step m s := by
  induction s generalizing m with
  | nil => rfl
  | cons c cs ih =>
    simp only [grun, run, exec]
    rw [hl m.ro m.objs c.obj c.inp]
    simp only []
    rw [ih]

/-- The inductive notion of merge implies the projection characterisation. -/
theorem Merge.isSchedule {P : Nat → List In} {s : List (Call In)} (h : Merge P s) : IsSchedule P s := by
  induction h with
  | nil hP => intro t; simp [project, hP t]
  | @cons P o i rest s hP _ ih =>
    intro t
    by_cases ho : o = t
    · subst ho
      have := ih o
      simp only [project, if_true]
      rw [this, update_same, hP]
    · have hne : t ≠ o := fun e => ho e.symm
      have := ih t
      simp only [project, if_neg ho]
      rw [this, update_other _ _ _ _ hne]

/-- Every projection-schedule is an inductive merge (so the two notions coincide). -/
theorem isSchedule_merge {P : Nat → List In} {s : List (Call In)} (h : IsSchedule P s) : Merge P s := by
  induction s generalizing P with
  | nil => exact Merge.nil (fun t => (h t).symm)
  | cons c cs ih =>
    obtain ⟨o, i⟩ := c
    have ho := h o
    simp only [project, if_true] at ho
    refine Merge.cons (rest := project o cs) ho.symm (ih ?_)
    intro t
    by_cases hto : t = o
    · subst hto; simp
    · have := h t
      have hne : ¬ o = t := fun e => hto e.symm
      simp only [project, if_neg hne] at this
      rw [update_other _ _ _ _ hto, this]

/-- With one writable shared cell the conclusion fails: same scripts, two schedules, different outputs. -/
theorem cache_breaks_serial :
    let m : Mem Unit Nat := { ro := (), objs := fun _ => 0 }
    let a : List (Call Nat) := [⟨1, 5⟩, ⟨2, 7⟩]
    let b : List (Call Nat) := [⟨2, 7⟩, ⟨1, 5⟩]
    (∀ t, project t a = project t b) ∧ (grun cacheStep m a).2 1 ≠ (grun cacheStep m b).2 1 := by
  refine ⟨?_, by decide⟩
  intro t
  simp only [project]
  by_cases h1 : 1 = t <;> by_cases h2 : 2 = t <;> simp [h1, h2]
  omega

/-- and consequently `cacheStep` has no local presentation. -/
theorem cacheStep_not_local : ¬ ∃ step : Unit → Nat → Nat → Nat × Nat, Local cacheStep step := by
  rintro ⟨step, hl⟩
  have h := cache_breaks_serial
  simp only at h
  obtain ⟨hp, hne⟩ := h
  apply hne
  rw [grun_eq_run _ _ hl, grun_eq_run _ _ hl]
  rw [(run_eq_runAlone step _ _ 1).2, (run_eq_runAlone step _ _ 1).2, hp 1]

/-- A predicate that reads only a key of each row holds on the whole table if it holds on the distinct keys. -/
theorem all_of_eraseDups {α κ : Type} [BEq κ] [LawfulBEq κ] (key : α → κ) (p : κ → Bool) (l : List α)
    (h : ∀ k ∈ (l.map key).eraseDups, p k = true) : ∀ e ∈ l, p (key e) = true :=
  fun _ he => h _ (List.mem_eraseDups.mpr (List.mem_map_of_mem he))

/- `sectionEntryOk` reads (section name, flags), `symbolEntryOk` (type, section name): the kernel collects the distinct
   pairs of the regenerated table (some twenty) and evaluates the string tests on those only. -/
open Opus.Gen.Globals in
theorem sections_all_ok : ∀ e ∈ sections, sectionEntryOk e = true :=
  all_of_eraseDups (fun e : String × String × String × Nat => (e.2.1, e.2.2.1))
    (fun k => sectionReadOnly k.1 && flagsReadOnly k.1 k.2) sections (by decide +kernel)

open Opus.Gen.Globals in
theorem dataSymbols_all_ok : ∀ e ∈ dataSymbols, symbolEntryOk e = true :=
  all_of_eraseDups (fun e : String × String × String × String × String × Nat => (e.2.2.1, e.2.2.2.2.1))
    (fun k => k.1 == "OBJECT" && sectionReadOnly k.2) dataSymbols (by decide +kernel)

open Opus.Gen.Globals in
/-- the table is not trivially empty: at least 100 archive members, sections and data symbols, among them a dispatch
    table in `.data.rel.ro`. -/
theorem table_nonempty :
    100 ≤ memberCount ∧ 100 ≤ sections.length ∧ 50 ≤ dataSymbols.length ∧
    (dataSymbols.any (fun e => e.2.1 == "SILK_NSQ_IMPL" && e.2.2.2.2.1 == ".data.rel.ro")) = true := by
  decide +kernel

end Opus.Interleave
