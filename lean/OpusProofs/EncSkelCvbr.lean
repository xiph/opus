import OpusModel.EncSkel
/-
  OpusProofs.EncSkelCvbr — the constrained-VBR reservoir of CELT stays within `[0, vbr_rate]`, and
  over any run of frames at a constant rate the bytes produced exceed `N · vbr_rate` by at most one
  frame's worth (`vbr_rate`) — for all oracle targets.
-/
namespace Opus.EncSkel.Proofs
open Opus Opus.EncSkel

/-- One step: the reservoir stays in `[0, vbr_rate]`, the packet within its budget, and the bytes are accounted for exactly
    (`reservoir + 64·bytes − vbr_rate`, clamped at 0). -/
theorem cvbrStep_spec (v res nb want : Int) (sil : Bool) (hv : 128 ≤ v) (hr0 : 0 ≤ res) (hr1 : res ≤ v) (hnb : 2 ≤ nb) :
    0 ≤ (cvbrStep v res nb want sil).1 ∧ (cvbrStep v res nb want sil).1 ≤ v ∧
    (cvbrStep v res nb want sil).2 ≤ nb ∧
    (cvbrStep v res nb want sil).1 = max 0 (res + 64 * (cvbrStep v res nb want sil).2 - v) := by
  unfold cvbrStep cvbrMaxAllowed
  dsimp only
  cases sil <;> simp only [Bool.false_eq_true, if_false, if_true] <;> (split <;> dsimp only <;> omega)

/-- If the rate was lowered (reservoir above the new `vbr_rate`), the reservoir is back inside
    `[0, vbr_rate]` after the frame or has shrunk by at least `vbr_rate − 128`. -/
theorem cvbrStep_drain (v res nb want : Int) (sil : Bool) (hv : 128 ≤ v) (hr1 : v < res) (hnb : 2 ≤ nb) :
    (cvbrStep v res nb want sil).1 ≤ max v (res + 128 - v) ∧ 0 ≤ (cvbrStep v res nb want sil).1 := by
  unfold cvbrStep cvbrMaxAllowed
  dsimp only
  cases sil <;> simp only [Bool.false_eq_true, if_false, if_true] <;> (split <;> dsimp only <;> omega)

def sumI : List Int → Int
  | [] => 0
  | x :: xs => x + sumI xs

/-- **Long-run bound.**  At a constant `vbr_rate ≥ 128` (two bytes per frame), starting with the
    reservoir in `[0, vbr_rate]`, after any number of frames with arbitrary targets: the reservoir is in
    `[0, vbr_rate]` and `64 · Σ bytes ≤ N · vbr_rate + reservoir_N − reservoir_0 ≤ (N + 1) · vbr_rate`. -/
theorem cvbr_run_bound (v : Int) (hv : 128 ≤ v) :
    ∀ (fr : List (Int × Int × Bool)) (res : Int), 0 ≤ res → res ≤ v → (∀ f ∈ fr, 2 ≤ f.1) →
      0 ≤ (cvbrRun v res fr).1 ∧ (cvbrRun v res fr).1 ≤ v ∧
      64 * sumI (cvbrRun v res fr).2 ≤ fr.length * v + (cvbrRun v res fr).1 - res := by
  intro fr
  induction fr with
  | nil => intro res h0 h1 _; simp [cvbrRun, sumI]; omega
  | cons f rest ih =>
    intro res h0 h1 hnb
    obtain ⟨nb, want, sil⟩ := f
    have hnb0 : 2 ≤ nb := hnb (nb, want, sil) (by simp)
    obtain ⟨s1, s2, _, s4⟩ := cvbrStep_spec v res nb want sil hv h0 h1 hnb0
    obtain ⟨i1, i2, i3⟩ := ih (cvbrStep v res nb want sil).1 s1 s2 (fun g hg => hnb g (by simp [hg]))
    simp only [cvbrRun, sumI, List.length_cons]
    refine ⟨i1, i2, ?_⟩
    push_cast
    have : ((rest.length : Int) + 1) * v = rest.length * v + v := by rw [Int.add_mul]; omega
    rw [this]
    omega

end Opus.EncSkel.Proofs
