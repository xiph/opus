import OpusProofs.GainIndep
import OpusProofs.Accs
/-
  OpusProofs.GainPure — OPUS_SET_GAIN is a pure post-multiplication (C19, slice `Gain`): call histories.

  `OpusProofs/GainIndep.lean` proves for `opus_decode_native` (`OpusModel/DecSkel.lean`, C01; every function below it by
  `OpusProofs/DecSkelNat.lean`) `f (gz r) = gz (f r)` where `gz` = "set decode_gain to 0 and erase the gain-pass events".  Here the simulation is
  lifted to the three API entry points (`decodeApi`: opus_decode / opus_decode24 / opus_decode_float) and to whole call
  histories (`Call`: decode / lost packet / FEC via `.decode` and `.native`, OPUS_RESET_STATE, OPUS_SET_GAIN), with the
  per-call event log as part of the observable result.

  The history of the gain-0 twin is `calls.map gzCall`: every accepted `OPUS_SET_GAIN(v)` becomes `OPUS_SET_GAIN(0)`
  (a rejected one stays: it is rejected for both and changes nothing).
-/
namespace Opus.DecSkel

/-- the clamp of src/opus_decoder.c:860-867 (16/24-bit entry points) -/
def apiClamp (Fs : Int) (data : Option Bytes) (len frame_size fec : Int) : Option Int :=
  if data.isSome ∧ len > 0 ∧ fec = 0 then
    let nb := nbSamples ((data.getD []).take len.toNat) Fs
    if nb > 0 then some (min frame_size nb) else none
  else some frame_size

/-- the 16/24-bit entry points after the clamp -/
def apiTail (o : Oracle) (sc : Bool) (data : Option Bytes) (len fec : Int) (cl : Option Int) (r : Run) : NativeOut :=
  match cl with
  | none => { ret := .ret INVALID_PACKET, packetOffset := 0, run := r }
  | some fsz =>
    if ¬ (r.st.channels = 1 ∨ r.st.channels = 2) then { ret := .abort, packetOffset := 0, run := r }
    else decodeNative o data len { buf := .pcm, off := 0, cap := fsz * r.st.channels } fsz fec false sc r

theorem decodeApi_eq (o : Oracle) (fmt : Fmt) (data : Option Bytes) (len frame_size fec : Int) (r : Run) :
    decodeApi o fmt data len frame_size fec r =
      if frame_size ≤ 0 then { ret := .ret BAD_ARG, packetOffset := 0, run := r }
      else match fmt with
        | .f32 => decodeNative o data len { buf := .pcm, off := 0, cap := frame_size * r.st.channels } frame_size fec false false r
        | .i16 => apiTail o true data len fec (apiClamp r.st.Fs data len frame_size fec) r
        | .i24 => apiTail o false data len fec (apiClamp r.st.Fs data len frame_size fec) r := by
  cases fmt <;> rfl

theorem apiTail_gz (o : Oracle) (sc : Bool) (data : Option Bytes) (len fec : Int) (cl : Option Int) (r : Run) :
    GzOut (apiTail o sc data len fec cl (gz r)) (apiTail o sc data len fec cl r) := by
  cases cl with
  | none => exact ⟨rfl, rfl, rfl⟩
  | some fsz => exact .ite ⟨rfl, rfl, rfl⟩ (decodeNative_gzOut o data len _ _ fec false _ r)

theorem decodeApi_gz (o : Oracle) (fmt : Fmt) (data : Option Bytes) (len frame_size fec : Int) (r : Run) :
    GzOut (decodeApi o fmt data len frame_size fec (gz r)) (decodeApi o fmt data len frame_size fec r) := by
  rw [decodeApi_eq, decodeApi_eq]
  refine .ite ⟨rfl, rfl, rfl⟩ ?_
  cases fmt with
  | f32 => exact decodeNative_gzOut o data len _ frame_size fec false false r
  | i16 => exact apiTail_gz o true data len fec _ r
  | i24 => exact apiTail_gz o false data len fec _ r

/-- What one call of a history lets the caller observe: the return value (or abort / hang), `*packet_offset`, and the
    events of this call (oracle calls with their arguments, buffer accesses of the skeleton, newest first). -/
structure CallObs where
  ret : Out Int
  packetOffset : Int
  log : List Ev

/-- One call on a decoder state, started with an empty log and call counter (as C01's `stepCall`), returning the
    observation and the state afterwards.  `.reset` = OPUS_RESET_STATE, `.gain v` = OPUS_SET_GAIN(v) (their return
    codes are the `ret`). -/
def callObs (o : Oracle) (st : DecState) : Call → CallObs × DecState
  | .decode fmt data len fsz fec =>
    let x := decodeApi o fmt data len fsz fec { st, k := 0, log := [] }
    ({ ret := x.ret, packetOffset := x.packetOffset, log := x.run.log }, x.run.st)
  | .native data len fsz fec sd sc =>
    let x := decodeNative o data len { buf := .pcm, off := 0, cap := fsz * st.channels } fsz fec sd sc { st, k := 0, log := [] }
    ({ ret := x.ret, packetOffset := x.packetOffset, log := x.run.log }, x.run.st)
  | .reset => ({ ret := .ret 0, packetOffset := 0, log := [] }, reset st)
  | .gain v => ({ ret := .ret (setGain st v).1, packetOffset := 0, log := [] }, (setGain st v).2)

theorem callObs_st (o : Oracle) (st : DecState) (c : Call) : (callObs o st c).2 = stepCall o st c := by
  cases c <;> rfl

/-- The observations of a whole history and the final state; `os i` is the oracle (the DSP) of call `i`. -/
def runCalls (os : Nat → Oracle) : Nat → DecState → List Call → List CallObs × DecState
  | _, st, [] => ([], st)
  | i, st, c :: cs =>
    ((callObs (os i) st c).1 :: (runCalls os (i + 1) (callObs (os i) st c).2 cs).1,
     (runCalls os (i + 1) (callObs (os i) st c).2 cs).2)

theorem runCalls_st (os : Nat → Oracle) (cs : List Call) : ∀ (i : Nat) (st : DecState),
    (runCalls os i st cs).2 = runHistory os i st cs := by
  induction cs with
  | nil => intro i st; rfl
  | cons c cs ih => intro i st; show (runCalls os (i + 1) (callObs (os i) st c).2 cs).2 = _; rw [ih, callObs_st]; rfl

/-- The same call for the gain-0 twin. -/
def gzCall : Call → Call
  | .gain v => if v < -32768 ∨ v > 32767 then .gain v else .gain 0
  | c => c

def gzObs (x : CallObs) : CallObs := { x with log := x.log.filter notGain }

theorem callObs_gz (o : Oracle) (st : DecState) (c : Call) :
    callObs o (zg st) (gzCall c) = (gzObs (callObs o st c).1, zg (callObs o st c).2) := by
  have e : ({ st := zg st, k := 0, log := [] } : Run) = gz { st, k := 0, log := [] } := rfl
  cases c with
  | decode fmt data len fsz fec =>
    have h := decodeApi_gz o fmt data len fsz fec { st, k := 0, log := [] }
    simp only [callObs, gzCall]
    rw [e, h.ret, h.packetOffset, h.run]; rfl
  | native data len fsz fec sd sc =>
    have h := decodeNative_gzOut o data len { buf := .pcm, off := 0, cap := fsz * st.channels } fsz fec sd sc
      { st, k := 0, log := [] }
    simp only [callObs, gzCall, zg_channels]
    rw [e, h.ret, h.packetOffset, h.run]; rfl
  | reset => rfl
  | gain v =>
    by_cases hv : v < -32768 ∨ v > 32767
    · have s1 : setGain st v = (BAD_ARG, st) := if_pos hv
      have s2 : setGain (zg st) v = (BAD_ARG, zg st) := if_pos hv
      simp only [gzCall, if_pos hv, callObs, s1, s2]; rfl
    · have s1 : setGain st v = (0, { st with decode_gain := v }) := if_neg hv
      have s2 : setGain (zg st) 0 = (0, { zg st with decode_gain := 0 }) := if_neg (by omega)
      simp only [gzCall, if_neg hv, callObs, s1, s2]; rfl

/-- **Histories.**  The gain-0 twin of any history observes, call by call, the same return values and packet offsets and
    the same events minus the gain passes, and ends in the same state except `decode_gain`. -/
theorem runCalls_gz (os : Nat → Oracle) (cs : List Call) : ∀ (i : Nat) (st : DecState),
    runCalls os i (zg st) (cs.map gzCall) = ((runCalls os i st cs).1.map gzObs, zg (runCalls os i st cs).2) := by
  induction cs with
  | nil => intro i st; rfl
  | cons c cs ih =>
    intro i st
    simp only [List.map_cons, runCalls]
    rw [callObs_gz, ih]

end Opus.DecSkel
