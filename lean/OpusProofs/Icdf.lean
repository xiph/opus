import OpusModel.Icdf
/-
  OpusProofs.Icdf — (1) every static ICDF table of celt/ and silk/ (regenerated, sliced as the call sites slice
  them) is well formed; (2) a well-formed ICDF table is an exact prefix-free code: its symbol intervals are
  non-empty, adjacent, start at 0, end at 2^ftb, and the decoder's scan returns the unique symbol whose interval
  contains the point.
-/
namespace OpusProofs.Icdf
open Opus Opus.Icdf

/-! ## The regenerated tables -/

theorem slicing_exact : slicingExact = true := by decide +kernel

/-- Number of tables (slices) checked, and of table words they contain. -/
def nTables : Nat := allIcdfs.length
def nWords : Nat := (allIcdfs.map (fun e => e.tab.length)).sum

/-! ## Well-formed ⇒ exact tiling -/

theorem strictDecr_step : ∀ (t : List Nat), strictDecr t = true →
    ∀ i, i + 1 < t.length → t.getD (i + 1) 0 < t.getD i 0 := by
  intro t
  induction t with
  | nil => intro _ i hi; simp at hi
  | cons a t ih =>
    intro h i hi
    cases t with
    | nil => simp at hi
    | cons b t =>
      simp only [strictDecr, Bool.and_eq_true, decide_eq_true_eq] at h
      cases i with
      | zero => simpa using h.1
      | succ i =>
        have := ih h.2 i (by simpa using hi)
        simpa using this

theorem strictDecr_le (t : List Nat) (h : strictDecr t = true) :
    ∀ i j, i ≤ j → j < t.length → t.getD j 0 ≤ t.getD i 0 := by
  intro i j hij
  induction hij with
  | refl => intro _; exact Nat.le_refl _
  | @step j _ ih =>
    intro hj
    have h1 := strictDecr_step t h j hj
    have h2 := ih (by omega)
    show t.getD (j + 1) 0 ≤ _
    omega

theorem endsZero_spec : ∀ (t : List Nat), endsZero t = true → 0 < t.length ∧ t.getD (t.length - 1) 0 = 0 := by
  intro t
  induction t with
  | nil => intro h; simp [endsZero] at h
  | cons a t ih =>
    intro h
    cases t with
    | nil => simp only [endsZero, beq_iff_eq] at h; simp [h]
    | cons b t =>
      simp only [endsZero] at h
      have := ih h
      refine ⟨by simp, ?_⟩
      simpa using this.2

/-- The decoder's scan returns the first symbol whose upper end exceeds `x`. -/
theorem symOf_first (ftb x : Nat) : ∀ (t : List Nat) (s0 : Nat),
    (∃ j, j < t.length ∧ x < 2 ^ ftb - t.getD j 0) →
    ∃ j, j < t.length ∧ symOf ftb x t s0 = some (s0 + j) ∧ x < 2 ^ ftb - t.getD j 0 ∧
      ∀ i, i < j → ¬ x < 2 ^ ftb - t.getD i 0 := by
  intro t
  induction t with
  | nil => intro s0 ⟨j, hj, _⟩; simp at hj
  | cons a t ih =>
    intro s0 ⟨j, hj, hx⟩
    by_cases ha : x < 2 ^ ftb - a
    · exact ⟨0, by simp, by simp [symOf, ha], by simpa using ha, fun i hi => by omega⟩
    · cases j with
      | zero => exact absurd (by simpa using hx) ha
      | succ j =>
        obtain ⟨j', hj', hs, hx', hmin⟩ := ih (s0 + 1) ⟨j, by simpa using hj, by simpa using hx⟩
        refine ⟨j' + 1, by simpa using hj', ?_, by simpa using hx', ?_⟩
        · simp only [symOf, ha, if_false]; rw [hs]; congr 1; omega
        · intro i hi
          cases i with
          | zero => simpa using ha
          | succ i => simpa using hmin i (by omega)

/-- **Exact code.**  For a well-formed table: every symbol has a non-empty interval inside `[0, 2^ftb)`, consecutive
    intervals are adjacent, the first starts at 0, the last ends at `2^ftb`; every point `x < 2^ftb` lies in the
    interval of exactly one symbol, and that is the symbol `ec_dec_icdf`'s scan finds. -/
theorem icdf_tiles (ftb : Nat) (t : List Nat) (h : icdfOk ftb t = true) :
    (∀ s, s < t.length → symLow ftb t s < symHigh ftb t s ∧ symHigh ftb t s ≤ 2 ^ ftb) ∧
    (∀ s, s + 1 < t.length → symLow ftb t (s + 1) = symHigh ftb t s) ∧
    symLow ftb t 0 = 0 ∧ symHigh ftb t (t.length - 1) = 2 ^ ftb ∧
    (∀ x, x < 2 ^ ftb → ∃ s, s < t.length ∧ symOf ftb x t 0 = some s ∧
        symLow ftb t s ≤ x ∧ x < symHigh ftb t s ∧
        ∀ s', s' < t.length → symLow ftb t s' ≤ x → x < symHigh ftb t s' → s' = s) := by
  cases t with
  | nil => simp [icdfOk] at h
  | cons a t' =>
    simp only [icdfOk, Bool.and_eq_true, decide_eq_true_eq] at h
    obtain ⟨⟨ha, hd⟩, hz⟩ := h
    generalize ht : a :: t' = t at *
    have ha' : t.getD 0 0 < 2 ^ ftb := by rw [← ht]; simpa using ha
    obtain ⟨hpos, hlast⟩ := endsZero_spec t hz
    have hle := strictDecr_le t hd
    have hstep := strictDecr_step t hd
    have hbound : ∀ s, s < t.length → t.getD s 0 < 2 ^ ftb := by
      intro s hs
      have := hle 0 s (Nat.zero_le _) hs
      omega
    refine ⟨?_, fun s _ => rfl, rfl, by simp only [symHigh, hlast]; omega, ?_⟩
    · intro s hs
      refine ⟨?_, by simp only [symHigh]; omega⟩
      cases s with
      | zero => simp only [symLow, symHigh]; omega
      | succ s =>
        have := hstep s hs
        have := hbound s (by omega)
        simp only [symLow, symHigh]; omega
    · intro x hx
      obtain ⟨j, hj, hs, hxj, hmin⟩ := symOf_first ftb x t 0 ⟨t.length - 1, by omega, by rw [hlast]; omega⟩
      rw [Nat.zero_add] at hs
      refine ⟨j, hj, hs, ?_, hxj, ?_⟩
      · cases j with
        | zero => simp [symLow]
        | succ j =>
          have := hmin j (by omega)
          simp only [symLow]; omega
      · intro s' hs' hlo hhi
        simp only [symHigh] at hhi
        by_cases h1 : s' < j
        · exact absurd hhi (hmin s' h1)
        · by_cases h2 : j < s'
          · obtain ⟨s'', rfl⟩ : ∃ s'', s' = s'' + 1 := ⟨s' - 1, by omega⟩
            simp only [symLow] at hlo
            have := hle j s'' (by omega) (by omega)
            have := hbound j hj
            omega
          · omega

/-- Every catalogued table satisfies `icdfOk`, the hypothesis of `icdf_tiles`. -/
theorem all_tables_ok (e : Entry) (he : e ∈ allIcdfs) : icdfOk e.ftb e.tab = true := by
  have h : allIcdfs.all (fun e => icdfOk e.ftb e.tab) = true := by decide +kernel
  simp only [List.all_eq_true] at h
  exact h e he

end OpusProofs.Icdf
