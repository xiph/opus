import OpusProofs.EncSkelWf
/-
  OpusProofs.EncSkelWfRun — the repacketiser *run* of the encoder (`opus_repacketizer_init`, one
  `opus_repacketizer_cat` per sub-packet, `opus_repacketizer_out_range_impl(rp, 0, n, data, maxlen, 0, pad, NULL, 0)`;
  opus_encoder.c:1693-1753, and `opus_packet_pad` = init / cat / out_range_impl, repacketizer.c:347-381) executed on
  the C07 model `Opus.Repack`, for sub-packets that are themselves outputs of the frame encoder (code 0, or
  code 3 with zero padding after `opus_packet_pad`): every `cat` is accepted and the output is exactly what the
  skeleton's contract `outRange` announces (`repackRun_contract`).  Then `opus_packet_pad` (C07 model `Repack.packetPad`)
  against the skeleton's contract `padSpec` (`padSpec_grow`), and the bytes of one CBR frame call as `opus_packet_pad` of
  its code-0 packet (`frame_cbr_pad`).
-/
namespace Opus.EncSkel.WfProofs
open Opus Opus.Framing Opus.FramingSpec Opus.Repack Opus.RepackProofs Opus.Ext Opus.ExtProofs
open Opus.EncSkel.Proofs

/-- `for (i…) ret = opus_repacketizer_cat(rp, pkt_i, len_i); if (ret<0) return …` -/
def catAll (rp : Rp) : List Bytes → Rp × Res Unit
  | [] => (rp, .ok ())
  | b :: bs =>
    match cat rp b with
    | (rp', .ok ()) => catAll rp' bs
    | (rp', e) => (rp', e)

/-- The repacketiser run of the encoder: init, cat every input packet, `out_range_impl(rp, 0, n, …, maxlen, 0, pad, NULL, 0)`. -/
def repackRun (ins : List Bytes) (n : Nat) (maxlen : Int) (pad : Bool) : Res Bytes :=
  match catAll (init Rp.empty) ins with
  | (rp, .ok ()) => outRangeImpl rp 0 n maxlen false pad #[]
  | (_, .err e) => .err e
  | (_, .oob) => .oob
  | (_, .abort) => .abort

/-- One accepted `cat` of a serialised valid packet on ANY repacketiser state satisfying the invariant. -/
theorem cat_serialize (rp : Rp) (hinv : Inv rp) (p : Packet) (hv : Valid p)
    (hcompat : rp.nbFrames = 0 ∨ rp.toc / 4 = p.toc / 4)
    (hd : (rp.nbFrames + p.frames.length) * samplesPerFrame p.toc 8000 ≤ 960) :
    ∃ rp', cat rp (serialize false p) = (rp', .ok ()) ∧ rp'.frames = rp.frames ++ p.frames ∧
      rp'.pads = rp.pads ++ (padBytes p, p.frames.length) :: List.replicate (p.frames.length - 1) ([], 0) ∧
      rp'.toc = (if rp.nbFrames = 0 then p.toc else rp.toc) ∧ rp'.toc / 4 = p.toc / 4 ∧ Inv rp' := by
  obtain ⟨hparse, hfr⟩ := parse_serialize_frames false p hv [] (fun _ => rfl)
  simp only [List.append_nil] at hparse hfr
  have hne := valid_ne p hv
  have hpos : 1 ≤ p.frames.length := List.length_pos_iff.mpr hne
  obtain ⟨w1, w2, w3, w4⟩ := withToc_fs rp hinv p.toc hv.toc_byte
  obtain ⟨wf, wp, _⟩ := withToc_frames rp p.toc
  have hnb : (withToc rp p.toc).nbFrames = rp.nbFrames := by simp [Rp.nbFrames, wf]
  have htoc4 : (withToc rp p.toc).toc / 4 = p.toc / 4 := by
    rw [w4]; split
    · rfl
    · rename_i h0; rcases hcompat with h | h
      · exact absurd h h0
      · exact h
  have hfs : (withToc rp p.toc).framesize = samplesPerFrame p.toc 8000 := by rw [w2]; exact (FramingProofs.toc_helpers_congr _ _ _ htoc4).2.2.1
  have hcat : cat rp (serialize false p) = catBody (withToc rp p.toc) (serialize false p) false := by
    show catImpl rp (serialize false p) false = _
    rw [FramingProofs.serialize_shape, catImpl_eq, if_neg (by
      rintro ⟨a, b⟩
      rcases hcompat with h | h
      · exact a h
      · exact b h)]
  have hgn := FramingProofs.getNbFrames_serialize_append false p hv []
  simp only [List.append_nil] at hgn
  have hacc := catBody_accept' (withToc rp p.toc) (serialize false p) false (view false p) hparse hgn hpos
    (by simp only [view]; rw [hnb, hfs, Nat.add_comm]; exact hd) w3
  obtain ⟨r, hr, _, he⟩ := catBody_ok _ _ _ hacc
  rw [hparse] at hr; cases hr
  have hpadEq : (List.drop (view false p).padOffset (serialize false p)).take (view false p).padLen = padBytes p := by
    simp only [view, Parsed.padOffset, Packet.lens, FramingProofs.sumN_map_length]
    have : serialize false p = (header false p ++ p.frames.flatten) ++ padBytes p := by simp [serialize]
    rw [this, ← List.length_append, List.drop_left, List.take_length]
  refine ⟨catNew (withToc rp p.toc) (serialize false p) (view false p), by rw [hcat, he], ?_, ?_, ?_, ?_, ?_⟩
  · simp only [catNew, hfr, wf]
  · simp only [catNew, wp, hpadEq]; rfl
  · simp only [catNew]; exact w4
  · simp only [catNew]; exact htoc4
  · refine ⟨fun _ => w1, fun _ => w2, ?_, ?_, ?_⟩
    · simp only [catNew, hfr, wf, List.length_append]
      rw [hfs]; exact hd
    · simp only [catNew, hfr, wf]
      intro f hf
      rcases List.mem_append.mp hf with hf | hf
      · exact hinv.le f hf
      · exact hv.frame_max f hf
    · simp only [catNew, wp, wf, hfr, List.length_append, List.length_cons, List.length_replicate, hinv.pads_len]
      show _ = _ + p.frames.length
      have : (view false p).count = p.frames.length := rfl
      rw [this]; omega

theorem extFree_append (a b : List (Bytes × Nat)) (ha : ExtFree a) (hb : ExtFree b) : ExtFree (a ++ b) := by
  intro pn h
  rcases List.mem_append.mp h with h | h
  · exact ha pn h
  · exact hb pn h

/-- The whole `cat` loop on serialised valid packets with extension-free padding and one configuration. -/
theorem catAll_packets (cfg : Nat) (ps : List Packet) (rp : Rp) (hinv : Inv rp) (hfree : ExtFree rp.pads)
    (hrp : rp.nbFrames ≠ 0 → rp.toc / 4 = cfg / 4)
    (hps : ∀ p ∈ ps, Valid p ∧ PadFree p ∧ p.toc / 4 = cfg / 4)
    (hd : (rp.nbFrames + (ps.flatMap (·.frames)).length) * samplesPerFrame cfg 8000 ≤ 960) :
    ∃ rp', catAll rp (ps.map (serialize false)) = (rp', .ok ()) ∧ rp'.frames = rp.frames ++ ps.flatMap (·.frames) ∧
      Inv rp' ∧ ExtFree rp'.pads ∧ (rp'.nbFrames ≠ 0 → rp'.toc / 4 = cfg / 4) := by
  induction ps generalizing rp with
  | nil => exact ⟨rp, rfl, by simp, hinv, hfree, hrp⟩
  | cons p ps ih =>
    obtain ⟨hv, hpf, htc⟩ := hps p (by simp)
    simp only [List.flatMap_cons, List.length_append] at hd
    have hspf : samplesPerFrame p.toc 8000 = samplesPerFrame cfg 8000 := (FramingProofs.toc_helpers_congr _ _ _ htc).2.2.1
    have hcompat : rp.nbFrames = 0 ∨ rp.toc / 4 = p.toc / 4 := by
      by_cases h0 : rp.nbFrames = 0
      · exact Or.inl h0
      · exact Or.inr (by rw [hrp h0, htc])
    have hd1 : (rp.nbFrames + p.frames.length) * samplesPerFrame p.toc 8000 ≤ 960 := by
      rw [hspf]
      exact Nat.le_trans (Nat.mul_le_mul_right _ (by omega)) hd
    obtain ⟨rp1, hc, hf1, hp1, _, ht1, hinv1⟩ := cat_serialize rp hinv p hv hcompat hd1
    have hfree1 : ExtFree rp1.pads := by
      rw [hp1]
      apply extFree_append _ _ hfree
      intro pn hpn
      simp only [List.mem_cons, List.mem_replicate] at hpn
      rcases hpn with rfl | ⟨_, rfl⟩
      · exact hpf
      · exact count_nil 0 (by omega)
    have hnb1 : rp1.nbFrames = rp.nbFrames + p.frames.length := by simp [Rp.nbFrames, hf1]
    obtain ⟨rp', hc', hf', hinv', hfree', ht'⟩ := ih rp1 hinv1 hfree1 (fun _ => by rw [ht1, htc])
      (fun q hq => hps q (by simp [hq])) (by rw [hnb1]; rw [Nat.add_assoc]; exact hd)
    refine ⟨rp', ?_, ?_, hinv', hfree', ht'⟩
    · simp only [List.map_cons, catAll, hc]; exact hc'
    · rw [hf', hf1]; simp

/-- `out_range_impl(rp, 0, nb_frames, …, NULL, 0)` on an extension-free state is `emit` on all frames. -/
theorem outRangeImpl_all (rp : Rp) (hne : rp.frames ≠ []) (hfree : ExtFree rp.pads) (maxlen : Int) (pad : Bool) :
    outRangeImpl rp 0 (rp.frames.length : Nat) maxlen false pad #[] = emit rp.toc rp.frames maxlen false pad #[] := by
  have hpos : 0 < rp.frames.length := List.length_pos_iff.mpr hne
  have h := outRangeImpl_noext rp 0 rp.frames.length hpos (Nat.le_refl _) hfree maxlen false pad
  have hsel : selFrames rp 0 rp.frames.length = rp.frames := by simp [selFrames]
  rw [hsel] at h
  simp only [Int.ofNat_zero] at h
  rw [h, emit_noext rp.toc rp.frames hne maxlen false pad]

/-- A successful contract output, as a packet: it is the serialisation of the valid packet `outPacket`, whose
    padding is all zeros (no extensions). -/
theorem contract_packet (cfg : Nat) (frames : List Bytes) (maxlen : Nat) (pad : Bool) (r : OutRes)
    (h4 : cfg % 4 = 0) (hok : FramesOk cfg frames)
    (h : EncSkel.outRange cfg (frames.map List.length) maxlen pad = .ok r) :
    pktBytes r.hdr frames r.size = serialize false (outPacket cfg frames maxlen false pad) ∧
    Valid (outPacket cfg frames maxlen false pad) ∧ PadFree (outPacket cfg frames maxlen false pad) ∧
    (outPacket cfg frames maxlen false pad).toc / 4 = cfg / 4 := by
  obtain ⟨-, hfit, hs⟩ := outRange_outPacket cfg frames maxlen pad r h4 h
  have hv := outPacket_valid cfg frames hok maxlen false pad hfit
  exact ⟨hs, hv, padFree_of_zero _ hv (padBytes_outPacket _ _ _ _ _), outPacket_toc _ _ _ _ _⟩

end Opus.EncSkel.WfProofs

namespace Opus.EncSkel.WfProofs
open Opus Opus.Framing Opus.FramingSpec Opus.Repack Opus.RepackProofs Opus.Ext Opus.ExtProofs
open Opus.EncSkel Opus.EncSkel.Proofs

/-- A sub-packet handed to `opus_repacketizer_cat`: the frames it holds and the `(maxlen, pad)` of the
    `out_range_impl` call that wrote it (`(len+1, false)`: the code-0 packet `[toc] ++ frame` of the frame encoder;
    `(max_data_bytes, true)`: the same after `opus_packet_pad`, opus_encoder.c:2518). -/
abbrev Sub := List Bytes × Nat × Bool

def subPkt (cfg : Nat) (s : Sub) : Bytes :=
  match EncSkel.outRange cfg (s.1.map List.length) s.2.1 s.2.2 with
  | .ok q => pktBytes q.hdr s.1 q.size
  | _ => []

def SubOk (cfg : Nat) (s : Sub) : Prop := s.1 ≠ [] ∧ ∃ q, EncSkel.outRange cfg (s.1.map List.length) s.2.1 s.2.2 = .ok q

theorem flatMap_frames (cfg : Nat) (subs : List Sub) :
    (subs.map (fun s => outPacket cfg s.1 s.2.1 false s.2.2)).flatMap (·.frames) = subs.flatMap (·.1) := by
  induction subs with
  | nil => rfl
  | cons s ss ih => simp only [List.map_cons, List.flatMap_cons, ih, outPacket_frames]

/-- The `cat` loop on the sub-packets: every `cat` is accepted; the state holds exactly the frames, in order. -/
theorem catAll_subs (cfg : Nat) (subs : List Sub) (h4 : cfg % 4 = 0) (h256 : cfg < 256)
    (hsub : ∀ s ∈ subs, SubOk cfg s) (hne : subs ≠ [])
    (hle : ∀ f ∈ subs.flatMap (·.1), f.length ≤ 1275)
    (hdur : (subs.flatMap (·.1)).length * samplesPerFrame cfg 8000 ≤ 960) :
    subs.flatMap (·.1) ≠ [] ∧
    ∃ rp, catAll (init Rp.empty) (subs.map (subPkt cfg)) = (rp, .ok ()) ∧ rp.frames = subs.flatMap (·.1) ∧
      ExtFree rp.pads ∧ rp.toc / 4 * 4 = cfg := by
  have hfok : ∀ s ∈ subs, FramesOk cfg s.1 := by
    intro s hs
    have hsubset : ∀ f ∈ s.1, f ∈ subs.flatMap (·.1) := fun f hf => List.mem_flatMap.mpr ⟨s, hs, hf⟩
    refine ⟨h256, (hsub s hs).1, fun f hf => hle f (hsubset f hf), ?_⟩
    have hlen : s.1.length ≤ (subs.flatMap (·.1)).length := by
      obtain ⟨a, b, rfl⟩ := List.append_of_mem hs
      simp only [List.flatMap_append, List.flatMap_cons, List.length_append]; omega
    exact Nat.le_trans (Nat.mul_le_mul_right _ hlen) hdur
  have hcp : ∀ s ∈ subs, subPkt cfg s = serialize false (outPacket cfg s.1 s.2.1 false s.2.2) ∧
      Valid (outPacket cfg s.1 s.2.1 false s.2.2) ∧ PadFree (outPacket cfg s.1 s.2.1 false s.2.2) ∧
      (outPacket cfg s.1 s.2.1 false s.2.2).toc / 4 = cfg / 4 := by
    intro s hs
    obtain ⟨hne1, q, hq⟩ := hsub s hs
    obtain ⟨h1, h2, h3, h5⟩ := contract_packet cfg s.1 s.2.1 s.2.2 q h4 (hfok s hs) hq
    refine ⟨?_, h2, h3, h5⟩
    unfold subPkt; rw [hq]; exact h1
  have hmap : subs.map (subPkt cfg) = (subs.map (fun s => outPacket cfg s.1 s.2.1 false s.2.2)).map (serialize false) := by
    rw [List.map_map]
    exact List.map_congr_left (fun s hs => (hcp s hs).1)
  have hps : ∀ p ∈ subs.map (fun s => outPacket cfg s.1 s.2.1 false s.2.2), Valid p ∧ PadFree p ∧ p.toc / 4 = cfg / 4 := by
    intro p hp
    obtain ⟨s, hs, rfl⟩ := List.mem_map.mp hp
    exact ⟨(hcp s hs).2.1, (hcp s hs).2.2.1, (hcp s hs).2.2.2⟩
  have hfr0 : (init Rp.empty).frames = [] := rfl
  obtain ⟨rp, hc, hf, _, hfree, htoc⟩ := catAll_packets cfg _ (init Rp.empty) (inv_init _)
    (by intro pn h; simp [init] at h) (by intro h; exact absurd rfl h) hps
    (by rw [flatMap_frames]; simpa [Rp.nbFrames, init] using hdur)
  rw [hfr0, List.nil_append, flatMap_frames] at hf
  have hfne : subs.flatMap (·.1) ≠ [] := by
    obtain ⟨s, ss, rfl⟩ := List.exists_cons_of_ne_nil hne
    exact fun h => (hsub s (by simp)).1 (List.flatMap_eq_nil_iff.mp h s (by simp))
  refine ⟨hfne, rp, by rw [hmap, hc], hf, hfree, ?_⟩
  have hnz : rp.nbFrames ≠ 0 := by
    unfold Rp.nbFrames; rw [hf]
    intro h0; exact hfne (List.length_eq_zero_iff.mp h0)
  have := htoc hnz
  omega

/-- **The repacketiser run is the contract.**  `init`, `cat` of every sub-packet, `out_range_impl(0, n, maxlen, 0, pad)`
    on the C07 model: every `cat` succeeds and the result — bytes on success, error code on failure — is what the
    skeleton's contract function `outRange` announces for the concatenated frames. -/
theorem repackRun_contract (cfg : Nat) (subs : List Sub) (h4 : cfg % 4 = 0) (h256 : cfg < 256)
    (hsub : ∀ s ∈ subs, SubOk cfg s) (hne : subs ≠ [])
    (hle : ∀ f ∈ subs.flatMap (·.1), f.length ≤ 1275)
    (hdur : (subs.flatMap (·.1)).length * samplesPerFrame cfg 8000 ≤ 960) (maxlen : Nat) (pad : Bool) :
    repackRun (subs.map (subPkt cfg)) (subs.flatMap (·.1)).length maxlen pad =
      emitOf (subs.flatMap (·.1)) (EncSkel.outRange cfg ((subs.flatMap (·.1)).map List.length) maxlen pad) := by
  obtain ⟨hfne, rp, hc, hf, hfree, htoc⟩ := catAll_subs cfg subs h4 h256 hsub hne hle hdur
  unfold repackRun
  rw [hc]
  simp only []
  have hall := outRangeImpl_all rp (by rw [hf]; exact hfne) hfree maxlen pad
  rw [hf] at hall
  rw [hall, emit_bridge rp.toc _ hfne maxlen pad, htoc]

/-- Whenever the contract accepts the frames, the run on ANY sub-packets holding them returns the contract's bytes. -/
theorem repackRun_frames (cfg : Nat) (subs : List Sub) (frames : List Bytes) (lens : List Nat) (maxlen : Nat) (pad : Bool)
    (q : OutRes) (hflat : subs.flatMap (·.1) = frames) (hsub : ∀ x ∈ subs, SubOk cfg x)
    (hfl : frames.map List.length = lens) (h4 : cfg % 4 = 0) (h256 : cfg < 256) (hlens : ∀ l ∈ lens, l ≤ 1275)
    (hd48 : frameDur48 cfg * lens.length ≤ 5760) (hout : EncSkel.outRange cfg lens maxlen pad = .ok q) :
    repackRun (subs.map (subPkt cfg)) frames.length maxlen pad = .ok (pktBytes q.hdr frames q.size) := by
  have hfne : frames ≠ [] := by
    rintro rfl; rw [← hfl] at hout; simp [EncSkel.outRange] at hout
  have hne : subs ≠ [] := by intro h; rw [h] at hflat; exact hfne hflat.symm
  have hlen : frames.length = lens.length := by rw [← hfl]; simp
  have hd8 : (subs.flatMap (·.1)).length * samplesPerFrame cfg 8000 ≤ 960 := by
    rw [hflat, hlen]; exact (dur8_iff_dur48 _ _ h256).mp hd48
  have hle : ∀ f ∈ subs.flatMap (·.1), f.length ≤ 1275 := by
    rw [hflat]; exact List.forall_mem_map.mp (hfl ▸ hlens)
  have := repackRun_contract cfg subs h4 h256 hsub hne hle hd8 maxlen pad
  rw [hflat, hfl, hout] at this
  exact this

/-- `opus_packet_pad(data, len, new_len)` with `len < new_len` IS the run on the single input packet. -/
theorem packetPad_run (bs : Bytes) (newLen : Nat) (h1 : 1 ≤ bs.length) (hlt : bs.length < newLen) (n : Nat)
    (hn : (catAll (init Rp.empty) [bs]).1.nbFrames = n) :
    packetPad bs newLen = repackRun [bs] n newLen true := by
  unfold packetPad padImpl repackRun
  rw [if_neg (by omega), if_neg (by omega), if_neg (by omega)]
  simp only [catAll] at hn ⊢
  rcases hc : cat (init Rp.empty) bs with ⟨rp, r⟩
  rw [hc] at hn
  cases r with
  | ok u => cases u; simp only [] at hn ⊢; rw [hn]
  | err e => rfl
  | oob => rfl
  | abort => rfl

/-- `opus_packet_pad(data, len, new_len)`, `len < new_len`, on a sub-packet: the model returns what the contract
    `outRange(…, new_len, pad = 1)` announces (same error or the same bytes). -/
theorem packetPad_contract (cfg : Nat) (s : Sub) (h4 : cfg % 4 = 0) (h256 : cfg < 256) (hsub : SubOk cfg s)
    (hle : ∀ f ∈ s.1, f.length ≤ 1275) (hdur : s.1.length * samplesPerFrame cfg 8000 ≤ 960)
    (newLen : Nat) (hlt : (subPkt cfg s).length < newLen) :
    packetPad (subPkt cfg s) newLen = emitOf s.1 (EncSkel.outRange cfg (s.1.map List.length) newLen true) := by
  have hfm : [s].flatMap (·.1) = s.1 := by simp
  have hsub' : ∀ x ∈ [s], SubOk cfg x := by intro x hx; simp at hx; rw [hx]; exact hsub
  have hle' : ∀ f ∈ [s].flatMap (·.1), f.length ≤ 1275 := by rw [hfm]; exact hle
  have hdur' : ([s].flatMap (·.1)).length * samplesPerFrame cfg 8000 ≤ 960 := by rw [hfm]; exact hdur
  obtain ⟨_, rp, hc, hf, _, _⟩ := catAll_subs cfg [s] h4 h256 hsub' (by simp) hle' hdur'
  have h1 : 1 ≤ (subPkt cfg s).length := by
    obtain ⟨hne1, q, hq⟩ := hsub
    obtain ⟨e1, _⟩ := contract_packet cfg s.1 s.2.1 s.2.2 q h4 ⟨h256, hne1, hle, hdur⟩ hq
    unfold subPkt; rw [hq]; simp only []; rw [e1, FramingProofs.serialize_shape]; simp
  have hrun := packetPad_run (subPkt cfg s) newLen h1 hlt s.1.length (by
    simp only [List.map_cons, List.map_nil] at hc
    rw [hc]; simp only [Rp.nbFrames, hf, hfm])
  have hcon := repackRun_contract cfg [s] h4 h256 hsub' (by simp) hle' hdur' newLen true
  simp only [List.map_cons, List.map_nil] at hcon
  rw [hfm] at hcon
  rw [hrun, hcon]

theorem subPkt_base_length (cfg : Nat) (frames : List Bytes) (h4 : cfg % 4 = 0) (hne : frames ≠ []) :
    (subPkt cfg (frames, baseSize (frames.map List.length), false)).length = baseSize (frames.map List.length) := by
  obtain ⟨q, hq, hqs⟩ := outRange_size cfg (frames.map List.length) (baseSize (frames.map List.length)) false
    (by simpa using hne) (Nat.le_refl _)
  unfold subPkt; simp only []; rw [hq]; simp only []
  rw [pktBytes_length cfg _ _ _ q frames rfl h4 hq, hqs]
  rfl

/-- `opus_packet_pad` to a larger size, on the unpadded packet holding `frames` (the frame encoder's code-0 packet, or
    the low-budget ToC-only packet of `n` empty frames): the C07 model `packetPad` writes `header ++ frames ++ zero padding`
    with the header and the size `new_len` that the skeleton's contract `padSpec` records. -/
theorem padSpec_grow (cfg : Nat) (frames : List Bytes) (h4 : cfg % 4 = 0) (h256 : cfg < 256) (hne : frames ≠ [])
    (hle : ∀ f ∈ frames, f.length ≤ 1275) (hdur : frames.length * samplesPerFrame cfg 8000 ≤ 960) (newLen : Int)
    (hgt : (baseSize (frames.map List.length) : Int) < newLen) :
    ∃ r, EncSkel.outRange cfg (frames.map List.length) newLen.toNat true = .ok r ∧ (r.size : Int) = newLen ∧
      padSpec cfg (frames.map List.length) (baseSize (frames.map List.length)) newLen = (OPUS_OK, some r) ∧
      packetPad (subPkt cfg (frames, baseSize (frames.map List.length), false)) newLen =
        .ok (pktBytes r.hdr frames r.size) := by
  have hlne : frames.map List.length ≠ [] := by simpa using hne
  have hall : ∀ l ∈ frames.map List.length, l ≤ 1275 := List.forall_mem_map.mpr hle
  obtain ⟨q, hq, -⟩ := outRange_size cfg (frames.map List.length) (baseSize (frames.map List.length)) false hlne (Nat.le_refl _)
  have hlen := subPkt_base_length cfg frames h4 hne
  obtain ⟨hok, hshape⟩ := padSpec_shape cfg (frames.map List.length) (baseSize (frames.map List.length)) newLen hlne hall rfl
    (by omega)
  rcases hshape with ⟨heq, _⟩ | ⟨-, r, hr, hsome, hsz⟩
  · omega
  · refine ⟨r, hr, by omega, by rw [← hok, ← hsome], ?_⟩
    have hpc := packetPad_contract cfg (frames, baseSize (frames.map List.length), false) h4 h256 ⟨hne, q, hq⟩ hle hdur
      newLen.toNat (by rw [hlen]; omega)
    rw [show ((newLen.toNat : Nat) : Int) = newLen by omega] at hpc
    rw [hpc]
    simp only []
    rw [hr]; rfl

end Opus.EncSkel.WfProofs

namespace Opus.EncSkel.Proofs
open Opus Opus.EncSkel Opus.EncSkel.WfProofs Opus.Repack

/-- The bytes the frame call `r` wrote for payload contents `f` (header, payload, zero padding up to `ret`). -/
def subBytes (r : FrameRes) (f : Bytes) : Bytes := pktBytes r.hdr [f] r.ret.toNat

theorem code0_bytes (toc : Nat) (f : Bytes) : pktBytes [toc] [f] (f.length + 1) = toc :: f := by
  simp [pktBytes]

/-- CBR frame: the header the frame call records is the one `opus_packet_pad` (model) writes. -/
theorem frame_cbr_pad (s : St) (fi : FrameIn) (r : FrameRes) (hpost : FramePost s fi r) (hv : s.useVbr = 0)
    (hd : r.dtx = false) (f : Bytes) (hf : f.length = r.payload.toNat)
    (h4 : r.toc % 4 = 0) (h256 : r.toc < 256) (hdur : 1 * Framing.samplesPerFrame r.toc 8000 ≤ 960) :
    (r.payload + 1 = fi.maxDataBytes → subBytes r f = r.toc :: f) ∧
    (r.payload + 1 < fi.maxDataBytes → packetPad (r.toc :: f) fi.maxDataBytes = .ok (subBytes r f)) := by
  have p4 := hpost.payload
  obtain ⟨c1, c2, c3⟩ := hpost.cbr hv hd
  have hc := cbrHdr_spec r.toc r.payload fi.maxDataBytes p4 c3
  unfold subBytes
  rw [c2, c1]
  refine ⟨fun he => ?_, fun hlt => ?_⟩
  · -- nothing to fill: the contract output of `m` bytes is the code-0 packet
    rw [show fi.maxDataBytes.toNat = f.length + 1 by omega, ← hf, outRange_code0] at hc
    have hh : [r.toc] = cbrHdr r.toc r.payload fi.maxDataBytes := congrArg OutRes.hdr (Res.ok.inj hc)
    rw [← hh, show fi.maxDataBytes.toNat = f.length + 1 by omega]
    exact code0_bytes r.toc f
  · have hle : ∀ x ∈ [f], x.length ≤ 1275 := by intro x hx; simp at hx; rw [hx, hf]; omega
    obtain ⟨q, hq, -, -, hpp⟩ := padSpec_grow r.toc [f] h4 h256 (by simp) hle (by simpa using hdur) fi.maxDataBytes
      (by simp [baseSize]; omega)
    have hsub : subPkt r.toc ([f], baseSize ([f].map List.length), false) = r.toc :: f := by
      unfold subPkt
      simp only [List.map_cons, List.map_nil, baseSize]
      rw [outRange_code0]
      exact code0_bytes r.toc f
    rw [hsub] at hpp
    simp only [List.map_cons, List.map_nil, hf, hc] at hq
    cases hq
    exact hpp

end Opus.EncSkel.Proofs
