import OpusProofs.SilkCoreBasic
import OpusProofs.SilkParamsDec
import OpusProofs.SilkParamsGains
import OpusProofs.SilkParamsPitch
/-
  OpusProofs.SilkCoreParams — totality of the model of `silk_decode_parameters` for in-range indices, and what it
  guarantees about the decoder control block (property C03, slice SilkCore).  Re-uses C18's theorems about the NLSF
  decoder, NLSF2A, the gain dequantiser and `silk_decode_pitch`.
-/
namespace Opus.SilkCoreProofs
open Opus Opus.SilkParams Opus.SilkCore Opus.Gen Opus.Frozen

/-- The index ranges the symbol layer delivers (C03 stage 1, `silkSyms_indices_in_range`), as far as
    `silk_decode_parameters` / `silk_decode_core` depend on them.  No condition on the gain indices, `lagIndex`, the NLSF
    residual values, the seed or the pulse values.  (`Opus.SilkSynthIdx.FrameOk`, of the index model, speaks of the decoded
    parameters instead.) -/
structure FrameOk (fs nb : Nat) (f : FrameIn) : Prop where
  sig : f.signalType = 0 ∨ f.signalType = 1 ∨ f.signalType = 2
  qoff : f.quantOffsetType = 0 ∨ f.quantOffsetType = 1
  gains : nb ≤ f.gainsIdx.length
  nlsf : ∃ (cb1 : Nat) (idx : List Int), f.nlsfIdx.take (lpcOrder fs + 1) = (cb1 : Int) :: idx ∧
           cb1 < (cbOf fs).nVectors ∧ idx.length = lpcOrder fs
  interp : 0 ≤ f.interp ∧ f.interp ≤ 4
  contour : f.signalType = 2 → 0 ≤ f.contourIndex ∧ ∀ cb, pitchCodebook (fs : Int) nb = .ok cb → f.contourIndex < (cb.2 : Int)
  per : f.signalType = 2 → f.perIndex = 0 ∨ f.perIndex = 1 ∨ f.perIndex = 2
  ltp : f.signalType = 2 → nb ≤ f.ltpIdx.length ∧
          ∀ i ∈ f.ltpIdx.take nb, 0 ≤ i ∧ i < (SilkCoreTabs.ltpVqSizes.getD f.perIndex.toNat 0 : Int)
  scale : f.signalType = 2 → 0 ≤ f.ltpScaleIndex ∧ f.ltpScaleIndex ≤ 2
  pulses : frameLen fs nb ≤ f.pulses.length

/-- What the decoder control block satisfies after `silk_decode_parameters`.  The gain bounds are those of C18's
    `gainsDequantLoop_spec` (`gainMinQ16`, `gainMaxQ16`: silk_log2lin at the two ends of the index range). -/
structure ParamsOk (fs nb : Nat) (f : FrameIn) (p : ParamsOut) : Prop where
  gainsLen : p.ctrl.gainsQ16.length = nb
  gainsPos : ∀ g ∈ p.ctrl.gainsQ16, 81920 ≤ g ∧ g ≤ 1686110208
  pitchLen : p.ctrl.pitchL.length = nb
  pitchRange : f.signalType = 2 → ∀ l ∈ p.ctrl.pitchL, 2 * (fs : Int) ≤ l ∧ l ≤ 18 * (fs : Int)
  pitchSpread : f.signalType = 2 → ∀ i j, i < nb → j < nb → p.ctrl.pitchL.getD i 0 - p.ctrl.pitchL.getD j 0 ≤ 18
  predLen : p.ctrl.pred0.length = lpcOrder fs ∧ p.ctrl.pred1.length = lpcOrder fs
  lgi : 0 ≤ p.lastGainIndex ∧ p.lastGainIndex ≤ 63
  nlsfLen : p.prevNlsf.length = 16
  nlsfRange : ∀ e ∈ p.prevNlsf.take (lpcOrder fs), 0 ≤ e ∧ e ≤ 32767

/-- The codebook of a rate is one of the two regenerated ones and has the rate's LPC order. -/
theorem cbOf_ok (fs : Nat) : CbOk (cbOf fs) ∧ (cbOf fs).order = lpcOrder fs := by
  unfold cbOf lpcOrder
  split
  · exact ⟨cbOk (Or.inl rfl), by decide⟩
  · exact ⟨cbOk (Or.inr rfl), by decide⟩

theorem cb_order : cbNbMb.order = 10 ∧ cbWb.order = 16 := by decide

/-- NLSF part of `silk_decode_parameters`: C18's `decodeNlsfParams_spec` at the codebook of the rate. -/
theorem nlsfPart (fs : Nat) (cb1 : Nat) (idx prev : List Int) (coef ffar : Int) (h1 : cb1 < (cbOf fs).nVectors)
    (hlen : idx.length = lpcOrder fs) (hpl : prev.length = lpcOrder fs) (hpr : ∀ e ∈ prev, 0 ≤ e ∧ e ≤ 32767)
    (hc0 : 0 ≤ coef) (hc1 : coef ≤ 4) :
    ∃ a0 a1 nlsf, decodeNlsfParams (cbOf fs) ((cb1 : Int) :: idx) prev coef ffar = .ok (a0, a1, nlsf) ∧
      a0.length = lpcOrder fs ∧ a1.length = lpcOrder fs ∧ nlsf.length = lpcOrder fs ∧ ∀ e ∈ nlsf, 0 ≤ e ∧ e ≤ 32767 := by
  obtain ⟨ok, ho⟩ := cbOf_ok fs
  obtain ⟨a0, a1, nlsf, ⟨hdec, -, l0, l1, -⟩, ln, rn⟩ := decodeNlsfParams_spec (cbOf fs) ok cb1 h1 idx prev coef ffar
    (hlen.trans ho.symm) (hpl.trans ho.symm) hpr hc0 hc1
  exact ⟨a0, a1, nlsf, hdec, l0.trans ho, l1.trans ho, ln.trans ho, rn⟩

theorem bwexp16Loop_len : ∀ (l : List Int) (c cm1 : Int), (bwexp16Loop l c cm1).length = l.length := by
  intro l
  induction l with
  | nil => intro c cm1; simp [bwexp16Loop]
  | cons x xs ih =>
    intro c cm1
    cases xs with
    | nil => simp [bwexp16Loop]
    | cons y ys => simp only [bwexp16Loop, List.length_cons]; rw [ih]; simp

theorem ltpRow_ok (cbk : List Int) (ix : Int) (h0 : 0 ≤ ix) (h1 : (ix * 5 + 4).toNat < cbk.length) :
    ∃ r, ltpRow cbk ix = .ok r := by
  unfold ltpRow
  obtain ⟨t0, e0⟩ := getI_ok cbk (ix * 5) (by omega) (by omega)
  obtain ⟨t1, e1⟩ := getI_ok cbk (ix * 5 + 1) (by omega) (by omega)
  obtain ⟨t2, e2⟩ := getI_ok cbk (ix * 5 + 2) (by omega) (by omega)
  obtain ⟨t3, e3⟩ := getI_ok cbk (ix * 5 + 3) (by omega) (by omega)
  obtain ⟨t4, e4⟩ := getI_ok cbk (ix * 5 + 4) (by omega) (by omega)
  simp only [e0, e1, e2, e3, e4, Res.bind_ok, Res.pure_eq]
  exact ⟨_, rfl⟩

theorem ltpRows_ok (cbk : List Int) : ∀ (l : List Int), (∀ ix ∈ l, 0 ≤ ix ∧ (ix * 5 + 4).toNat < cbk.length) →
    ∃ r, ltpRows cbk l = .ok r := by
  intro l
  induction l with
  | nil => intro _; exact ⟨[], rfl⟩
  | cons ix rest ih =>
    intro h
    obtain ⟨r, hr⟩ := ltpRow_ok cbk ix (h ix (List.mem_cons_self)).1 (h ix (List.mem_cons_self)).2
    obtain ⟨rs, hrs⟩ := ih (fun i hi => h i (List.mem_cons_of_mem _ hi))
    simp only [ltpRows, hr, hrs, Res.bind_ok, Res.pure_eq]
    exact ⟨_, rfl⟩

theorem ltpCbk_ok (per : Int) (h : per = 0 ∨ per = 1 ∨ per = 2) :
    ∃ cbk, ltpCbk per = .ok cbk ∧ cbk.length = 5 * SilkCoreTabs.ltpVqSizes.getD per.toNat 0 := by
  rcases h with h | h | h <;> subst h
  · exact ⟨SilkCoreTabs.ltpVq0, rfl, by decide +kernel⟩
  · exact ⟨SilkCoreTabs.ltpVq1, rfl, by decide +kernel⟩
  · exact ⟨SilkCoreTabs.ltpVq2, rfl, by decide +kernel⟩

/-- `silk_decode_parameters` is total on an invariant state and in-range indices, and its results satisfy `ParamsOk`. -/
theorem decodeParameters_total (s : DecState) (f : FrameIn) (hs : StateOk s) (hf : FrameOk s.fsKHz s.nbSubfr f) :
    ∃ p, decodeParameters s f = .ok p ∧ ParamsOk s.fsKHz s.nbSubfr f p := by
  obtain ⟨cb1, idx, hni, hcb1, hidx⟩ := hf.nlsf
  have hord : lpcOrder s.fsKHz = 10 ∨ lpcOrder s.fsKHz = 16 := (cfg_nums hs.cfg).2.2.2
  have hpl : (s.prevNlsf.take (lpcOrder s.fsKHz)).length = lpcOrder s.fsKHz := by
    rw [List.length_take, hs.nlsfLen]; omega
  have hcoef : 0 ≤ f.interp ∧ f.interp ≤ 4 := hf.interp
  obtain ⟨a0, a1, nlsf, hd, l0, l1, ln, rn⟩ := nlsfPart s.fsKHz cb1 idx (s.prevNlsf.take (lpcOrder s.fsKHz)) f.interp
    s.firstFrameAfterReset hcb1 hidx hpl hs.nlsfRange hcoef.1 hcoef.2
  have hg := gainsDequantLoop_spec (if f.condCoding = SilkCoreTabs.codeConditionally then 1 else 0)
    (f.gainsIdx.take s.nbSubfr) true s.lastGainIndex
  have hgl : (f.gainsIdx.take s.nbSubfr).length = s.nbSubfr := by rw [List.length_take]; have := hf.gains; omega
  have hne : f.gainsIdx.take s.nbSubfr ≠ [] := by
    intro he; rw [he] at hgl; rcases hs.cfg.2 with h | h <;> rw [h] at hgl <;> simp at hgl
  have hnl16 : (nlsf ++ s.prevNlsf.drop (lpcOrder s.fsKHz)).length = 16 := by
    rw [List.length_append, List.length_drop, ln, hs.nlsfLen]; omega
  have hnr : ∀ e ∈ (nlsf ++ s.prevNlsf.drop (lpcOrder s.fsKHz)).take (lpcOrder s.fsKHz), 0 ≤ e ∧ e ≤ 32767 := by
    intro e he
    rw [List.take_append_of_le_length (by omega)] at he
    exact rn e (List.mem_of_mem_take he)
  have hbw : ∀ a : List Int, (if s.lossCnt ≠ 0 then bwexpander16 a SilkCoreTabs.bweAfterLossQ16 else a).length = a.length := by
    intro a
    split
    · unfold bwexpander16; rw [bwexp16Loop_len]
    · rfl
  have hb0 := (hbw a0).trans l0
  have hb1 := (hbw a1).trans l1
  have hgL : (gainsDequant (f.gainsIdx.take s.nbSubfr) s.lastGainIndex
      (if f.condCoding = SilkCoreTabs.codeConditionally then 1 else 0)).1.length = s.nbSubfr := by
    unfold gainsDequant; rw [hg.1, hgl]
  unfold decodeParameters
  simp only [hni, hd, Res.bind_ok]
  by_cases hv : f.signalType = SilkCoreTabs.typeVoiced
  · have hv2 : f.signalType = 2 := hv
    rw [if_pos hv]
    have hfs : (s.fsKHz : Int) = 8 ∨ (s.fsKHz : Int) = 12 ∨ (s.fsKHz : Int) = 16 := by have := hs.cfg.1; omega
    obtain ⟨lags, hlags, hll, hlr⟩ := decodePitch_spec f.lagIndex f.contourIndex s.fsKHz s.nbSubfr hfs hs.cfg.2
      (hf.contour hv2).1 (hf.contour hv2).2
    have hsp := decodePitch_spread f.lagIndex f.contourIndex s.fsKHz s.nbSubfr hfs hs.cfg.2 (hf.contour hv2).1
      (hf.contour hv2).2 lags hlags
    obtain ⟨cbk, hcbk, hcl⟩ := ltpCbk_ok f.perIndex (hf.per hv2)
    obtain ⟨ltp, hltp⟩ := ltpRows_ok cbk (f.ltpIdx.take s.nbSubfr) (by
      intro ix hix
      have := (hf.ltp hv2).2 ix hix
      refine ⟨this.1, ?_⟩
      rw [hcl]; omega)
    obtain ⟨sc, hsc⟩ := getI_ok SilkCoreTabs.ltpScalesQ14 f.ltpScaleIndex (hf.scale hv2).1 (by
      have := (hf.scale hv2).2
      have hl : SilkCoreTabs.ltpScalesQ14.length = 3 := by decide
      omega)
    simp only [hlags, hcbk, hltp, hsc, Res.bind_ok, Res.pure_eq]
    exact ⟨_, rfl, { gainsLen := hgL, gainsPos := hg.2.1, pitchLen := hll, pitchRange := fun _ => hlr,
                     pitchSpread := fun _ => hsp, predLen := ⟨hb0, hb1⟩, lgi := hg.2.2 hne, nlsfLen := hnl16,
                     nlsfRange := hnr }⟩
  · rw [if_neg hv]
    simp only [Res.pure_eq]
    exact ⟨_, rfl, { gainsLen := hgL, gainsPos := hg.2.1, pitchLen := by simp, pitchRange := fun h2 => absurd h2 hv,
                     pitchSpread := fun h2 => absurd h2 hv, predLen := ⟨hb0, hb1⟩, lgi := hg.2.2 hne, nlsfLen := hnl16,
                     nlsfRange := hnr }⟩

end Opus.SilkCoreProofs
