import OpusProofs.MsEncode
import OpusProofs.EncSkelWf
/-
  OpusProofs.MsEncodeSkel — `ms_encode_packet_structure` with every per-stream encoder instantiated by
  the encoder skeleton of C02/C05 (`Opus.EncSkel.encodeNative`): the skeleton's
  success returns meet `EncContract`, so the only assumptions left are the skeleton's own inner
  SILK/CELT/analysis contracts (`(encodeNative …).ok`).  Uses C02's `encoder_packet` (the skeleton pads with zeros only,
  `padFree_of_zero`).
-/
namespace Opus.MsEncode
open Opus Opus.Framing Opus.FramingSpec Opus.FramingProofs Opus.LayoutSpec
open Opus.EncSkel Opus.EncSkel.Proofs

/-- A code-0 packet: one frame, no padding. -/
theorem valid_single (t : Nat) (f : Bytes) (ht : t < 256) (hc : t % 4 = 0) (hf : f.length ≤ 1275) :
    Valid ⟨t, [f], false, none⟩ :=
  { toc_byte := ht
    frame_max := by intro g hg; simp only [List.mem_singleton] at hg; subst hg; exact hf
    code0 := fun _ => ⟨rfl, rfl, rfl⟩
    code1 := fun h => absurd (show t % 4 = 1 from h) (by omega)
    code2 := fun h => absurd (show t % 4 = 2 from h) (by omega)
    code3 := fun h => absurd (show t % 4 = 3 from h) (by omega)
    pad_ok := fun pd h => by cases h }

def errOfInt (e : Int) : Err :=
  if e = -1 then .badArg else if e = -2 then .bufferTooSmall else if e = -4 then .invalidPacket
  else if e = -5 then .unimplemented else if e = -6 then .invalidState else if e = -7 then .allocFail
  else .internalError

/-- Stream `s` of the multistream encoder run by the encoder skeleton of C02/C05: state `sts s`, the
    inner-DSP oracle `ors s curr_max` (SILK / CELT / analysis answers), and ANY frame payload bytes
    `frs s curr_max` of the lengths the skeleton records.  A return `≥ 1` is the packet
    `header ++ frames ++ zero padding`, anything else the error code. -/
def skelEnc (sts : Nat → St) (fuzz : Bool) (fsz : Int) (ors : Nat → Int → NatOr)
    (frs : Nat → Int → List Bytes) : Nat → Int → Res Bytes := fun s cm =>
  let r := EncSkel.encodeNative (sts s) fuzz fsz cm (ors s cm)
  if 1 ≤ r.ret then .ok (pktBytes r.pkt.hdr (frs s cm) r.pkt.size) else .err (errOfInt r.ret)

/-- The inner contracts of every stream's skeleton call, and payloads of the recorded lengths. -/
def SkelOk (sts : Nat → St) (fuzz : Bool) (fsz : Int) (ors : Nat → Int → NatOr)
    (frs : Nat → Int → List Bytes) : Prop :=
  ∀ s cm, (EncSkel.encodeNative (sts s) fuzz fsz cm (ors s cm)).ok = true ∧
    (frs s cm).map List.length = (EncSkel.encodeNative (sts s) fuzz fsz cm (ors s cm)).pkt.lens

theorem skelEnc_total (sts : Nat → St) (fuzz : Bool) (fsz : Int) (ors : Nat → Int → NatOr)
    (frs : Nat → Int → List Bytes) : EncTotal (skelEnc sts fuzz fsz ors frs) := by
  intro s cm
  unfold skelEnc
  dsimp only
  constructor <;> split <;> intro h <;> cases h

/-- **The skeleton meets the per-stream contract of `ms_encode_packet_structure`.** -/
theorem skelEnc_contract (sts : Nat → St) (fuzz : Bool) (fsz : Int) (ors : Nat → Int → NatOr)
    (frs : Nat → Int → List Bytes) (fs : Nat) (hfsAll : ∀ s, (sts s).fs = (fs : Int))
    (hok : SkelOk sts fuzz fsz ors frs) :
    EncContract fs fsz.toNat (skelEnc sts fuzz fsz ors frs) := by
  intro s cm pk h
  unfold skelEnc at h
  dsimp only at h
  obtain ⟨hokr, hfl⟩ := hok s cm
  split at h
  · rename_i hret
    cases h
    have he : entryCheck (sts s) fsz cm = none := by
      cases hq : entryCheck (sts s) fsz cm with
      | none => rfl
      | some e =>
        exfalso
        have hr : (EncSkel.encodeNative (sts s) fuzz fsz cm (ors s cm)).ret = e := by
          unfold EncSkel.encodeNative; rw [hq]; rfl
        rw [hr] at hret
        rcases entryCheck_some hq with rfl | ⟨rfl, -⟩ <;> exact absurd hret (by decide)
    -- the skeleton pads with zeros only, and zero padding holds no extension
    obtain ⟨p, hv, -, hs, hz, hdur, hlen, -, hhi⟩ := encoder_packet (sts s) fuzz fsz cm (ors s cm) he hokr (frs s cm) hfl
    refine ⟨p, hv, padFree_of_zero p hv hz, hs.symm, ?_, by rw [← hs, hlen]; exact hhi⟩
    unfold duration
    rw [hfsAll s, Int.toNat_natCast] at hdur
    have : ((p.frames.length * samplesPerFrame p.toc fs : Nat) : Int) = fsz := by push_cast; exact hdur
    omega
  · cases h

/-! ### a concrete instance (non-vacuity of `SkelOk` and of a successful multistream call) -/

/-- A 48 kHz mono VBR encoder at the minimum bitrate (500 b/s): every 20 ms call takes the low-budget
    path (`bitrate < 3·50·8`) whatever `curr_max`, so the skeleton's `ok` does not depend on inner
    contracts and can be established for ALL `curr_max`. -/
def lowSt : EncSkel.St :=
  { fs := 48000, channels := 1, application := 2049, useVbr := 1, userBitrate := 500, forceChannels := -1000,
    signalType := -1000, userBandwidth := -1000, maxBandwidth := 1105, userForcedMode := -1000, lfe := 0, useDtx := 0,
    fecConfig := 0, variableDuration := 5000, complexity := 5, lossPerc := 0, useInBandFEC := 0, energyMasking := 0,
    streamChannels := 1, mode := 1002, prevMode := 1002, prevChannels := 1, prevFramesize := 960, bandwidth := 1105,
    autoBandwidth := 1105, silkBwSwitch := 0, first := 0, voiceRatio := -1, detectedBandwidth := 0, nbNoActivity := 0,
    nonfinalFrame := 0, bitrateBps := 500, toMono := 0, lbrrCoded := 0, allowBwSwitch := 0, inWBmode := 0,
    opusCanSwitch := 0, silkUseDtx := 0 }
def lowOr (cm : Int) : EncSkel.NatOr :=
  { isSilence := 0, aValid := 0, aBandwidth := 20, vr0 := 10, vr1 := 10, vr2 := 10, modeVoice := 64000, modeMusic := cm,
    rands := [], frames := [] }

theorem lowOk (cm : Int) : (EncSkel.encodeNative lowSt false 960 cm (lowOr cm)).ok = true ∧
    (if cm ≤ 0 then ([] : List Bytes) else [[]]).map List.length = (EncSkel.encodeNative lowSt false 960 cm (lowOr cm)).pkt.lens := by
  by_cases h : cm ≤ 0
  · have he : entryCheck lowSt 960 cm = some OPUS_BAD_ARG := by
      unfold entryCheck; simp; omega
    unfold EncSkel.encodeNative; rw [he]; simp [natErr, h]
  · have he : entryCheck lowSt 960 cm = none := by
      unfold entryCheck
      simp [lowSt]; omega
    unfold EncSkel.encodeNative; rw [he]
    simp only
    have hg : lowBudgetGate (budgetSt lowSt (lowOr cm) 960 cm) 960 (sizeBudget (analysisUpd lowSt (lowOr cm)) 960 cm) = true := by
      simp [lowBudgetGate, budgetSt, sizeBudget, analysisUpd, analysisRuns, lowSt, lowOr, userBitrateToBitrate, EncDecide.OPUS_AUTO, EncDecide.OPUS_BITRATE_MAX]
    rw [if_pos hg]
    simp [lowBudget, h, stOk, legalFrame, lowSt, lowOr, budgetSt, analysisUpd, analysisRuns, lowLens, lowCode, lowC1, lowMode0, EncDecide.BW_NB, EncDecide.MODE_SILK_ONLY,
      EncDecide.OPUS_AUTO, EncDecide.OPUS_BITRATE_MAX, EncDecide.MODE_CELT_ONLY, EncDecide.BW_FB, EncDecide.APP_RESTRICTED_LOWDELAY]

/-- `SkelOk` is inhabited: constant state, the oracle a function of `curr_max`. -/
theorem lowSkelOk : SkelOk (fun _ => lowSt) false 960 (fun _ cm => lowOr cm)
    (fun _ cm => if cm ≤ 0 then [] else [[]]) := fun _ cm => lowOk cm

/-- The two-stream multistream encoder over this skeleton instance succeeds (VBR, 100-byte buffer). -/
theorem lowExample_ok : ∃ out, encodeNative 2 48000 960 true none 100
    (skelEnc (fun _ => lowSt) false 960 (fun _ cm => lowOr cm) (fun _ cm => if cm ≤ 0 then [] else [[]])) = .ok out := by
  have hv := valid_single 0xF8 [] (by decide) (by decide) (by decide)
  have hpf : RepackProofs.PadFree ⟨0xF8, [[]], false, none⟩ := RepackProofs.count_nil 1 (by decide)
  have hser : serialize false ⟨0xF8, [[]], false, none⟩ = [0xF8] := by decide
  have henc0 : skelEnc (fun _ => lowSt) false 960 (fun _ cm => lowOr cm)
      (fun _ cm => if cm ≤ 0 then [] else [[]]) 0 98 = .ok [0xF8] := by decide +kernel
  have henc1 : skelEnc (fun _ => lowSt) false 960 (fun _ cm => lowOr cm)
      (fun _ cm => if cm ≤ 0 then [] else [[]]) 1 98 = .ok [0xF8] := by decide +kernel
  unfold encodeNative
  simp only
  rw [if_neg (by decide)]
  have hclamp : cbrClamp 2 false true 48000 960 none 100 = 100 := rfl
  rw [show decide (48000 / 960 = 10) = false from by decide, hclamp]
  have hc0 : currMax 2 0 false 100 0 = 98 := by decide
  obtain ⟨q0, -, -, h0, -, hl0⟩ := loop_step 2 0 _ false true 100 _ 1 0 0 [] (by omega)
    ⟨0xF8, [[]], false, none⟩ hv hpf rfl (by rw [hser, hc0]; exact henc0) (by rw [hser, hc0]; decide)
  rw [h0]
  have hl0' : (serialize (decide (0 + 1 ≠ 2)) q0).length = 2 := by
    have : RepackProofs.minSize (decide (0 + 1 ≠ 2)) (Packet.lens ⟨0xF8, [[]], false, none⟩) = 2 := by decide
    rw [this] at hl0
    simp only [Bool.not_true, Bool.false_and, Bool.false_eq_true, if_false] at hl0
    omega
  rw [hl0']
  have hc1 : currMax 2 (0 + 1) false 100 (0 + ((2 : Nat) : Int)) = 98 := by decide
  obtain ⟨q1, -, -, h1, -⟩ := loop_step 2 0 _ false true 100 _ 0 (0 + 1) (0 + ((2 : Nat) : Int))
    ([] ++ serialize (decide (0 + 1 ≠ 2)) q0) (by omega)
    ⟨0xF8, [[]], false, none⟩ hv hpf rfl (by rw [hser, hc1]; exact henc1) (by rw [hser, hc1]; decide)
  rw [h1]
  exact ⟨_, rfl⟩

end Opus.MsEncode
