import OpusModel.SilkResamp
import OpusProofs.SilkParamsFix
/-
  OpusProofs.SilkResampBasic — what the call theorems of the SILK resampler model need below the loops: checked reads /
  writes succeed inside the array and may be moved along it, `mapRes` / `interpol` succeed when every sample does and
  split where the index range does, the interpolation index stays below `max_index_Q16`, the per-sample bodies
  (IIR_FIR_INTERPOL, down_FIR_INTERPOL) index in bounds, return int16 and see the buffer only through one window, the
  filters (up2_HQ, AR2) have an append law, outputs of known length and 32-bit state words.
-/
namespace OpusProofs.SilkResamp
open Opus Opus.SilkResamp Opus.SilkParams Opus.Gen.SilkResampRom

/-- `opus_int16` range; the same predicate as `Opus.SilkParams.I16` (likewise `I32` below), whose lemmas apply by unfolding. -/
def I16 (x : Int) : Prop := -32768 ≤ x ∧ x ≤ 32767

theorem window_ok {l : List Int} {i : Int} {n : Nat} (h0 : 0 ≤ i) (h : i.toNat + n ≤ l.length) :
    window l i n = .ok ((l.drop i.toNat).take n) := by
  unfold window
  rw [if_pos ⟨h0, h⟩]

theorem mapRes_ok {α β} {f : α → Res β} {P : β → Prop} :
    ∀ l : List α, (∀ a ∈ l, ∃ b, f a = .ok b ∧ P b) →
      ∃ bs, mapRes f l = .ok bs ∧ bs.length = l.length ∧ ∀ b ∈ bs, P b := by
  intro l
  induction l with
  | nil => intro _; exact ⟨[], rfl, rfl, fun _ h => by cases h⟩
  | cons a as ih =>
    intro h
    obtain ⟨b, hb, hP⟩ := h a List.mem_cons_self
    obtain ⟨bs, hbs, hl, hPs⟩ := ih (fun x hx => h x (List.mem_cons_of_mem _ hx))
    refine ⟨b :: bs, ?_, by simp [hl], ?_⟩
    · simp only [mapRes, hb, hbs]
    · intro x hx
      rcases List.mem_cons.1 hx with rfl | hx
      · exact hP
      · exact hPs x hx

/-- Inside the loop the index is below `max_index_Q16`. -/
theorem idx_lt_max {maxIdx inc : Int} (hinc : 0 < inc) {j : Nat} (hj : j < interpCount maxIdx inc) :
    (j : Int) * inc < maxIdx := by
  unfold interpCount at hj
  have h1 : ((j : Int) + 1) ≤ (maxIdx + inc - 1) / inc := by omega
  have h2 := (Int.le_ediv_iff_mul_le hinc).1 h1
  have : ((j : Int) + 1) * inc = (j : Int) * inc + inc := by rw [Int.add_mul, Int.one_mul]
  omega

theorem interpol_ok {sample : Int → Res Int} {P : Int → Prop} {maxIdx inc : Int} (hinc : 0 < inc)
    (h : ∀ idx : Int, 0 ≤ idx → idx < maxIdx → ∃ v, sample idx = .ok v ∧ P v) :
    ∃ outs, interpol sample maxIdx inc = .ok outs ∧ outs.length = interpCount maxIdx inc ∧ ∀ v ∈ outs, P v := by
  unfold interpol
  rw [if_neg (by omega)]
  have := mapRes_ok (f := fun j : Nat => sample ((j : Int) * inc)) (P := P) (List.range (interpCount maxIdx inc))
    (by
      intro j hj
      have hj' := List.mem_range.1 hj
      exact h _ (Int.mul_nonneg (Int.natCast_nonneg j) (Int.le_of_lt hinc)) (idx_lt_max hinc hj'))
  simpa using this

theorem fracRow_val : ∀ t : Fin 12, fracRow (t.val : Int) = .ok (fracFir12.getD t.val []) := by decide +kernel

/-- `silk_SMULWB( y, k )` for `y` in `[0, 2^16)` and a small positive constant `k` is `y * k >> 16`, in `[0, k)`. -/
theorem smulwb_small {y k : Int} (h0 : 0 ≤ y) (h1 : y < 65536) (hk0 : 0 < k) (hk : k ≤ 12) :
    smulwb y k = y * k / 65536 ∧ 0 ≤ y * k / 65536 ∧ y * k / 65536 < k := by
  unfold smulwb
  rw [wrap16_id (And.intro (by omega) (by omega))]
  have hq0 : 0 ≤ y * k / 65536 := Int.ediv_nonneg (Int.mul_nonneg h0 (by omega)) (by omega)
  have hq1 : y * k / 65536 < k := by
    apply Int.ediv_lt_of_lt_mul (by omega)
    have : y * k < 65536 * k := Int.mul_lt_mul_of_pos_right h1 hk0
    rw [Int.mul_comm k 65536]; exact this
  exact ⟨wrap32_id (And.intro (by omega) (by omega)), hq0, hq1⟩

/-- `silk_SMULWB( index_Q16 & 0xFFFF, k )` is a table index in `[0, k)`. -/
theorem smulwb_frac {idx k : Int} (hk0 : 0 < k) (hk : k ≤ 12) :
    0 ≤ smulwb (idx % 65536) k ∧ smulwb (idx % 65536) k < k := by
  obtain ⟨e, h⟩ := smulwb_small (Int.emod_nonneg idx (by omega)) (Int.emod_lt_of_pos idx (by omega)) hk0 hk
  rw [e]; exact h

theorem smulwb_mono {a b k : Int} (h0 : 0 ≤ a) (hab : a ≤ b) (hb : b < 65536) (hk0 : 0 < k) (hk : k ≤ 12) :
    smulwb a k ≤ smulwb b k := by
  rw [(smulwb_small h0 (by omega) hk0 hk).1, (smulwb_small (by omega) hb hk0 hk).1]
  exact Int.ediv_le_ediv (by omega) (Int.mul_le_mul_of_nonneg_right hab (by omega))

/-- Coefficient pairing of resampler_private_IIR_FIR.c:52-59 for phase `t`: row `t`, then row `11 - t` backwards. -/
def phaseCoefs (t : Nat) : List Int := (fracFir12.getD t []) ++ (fracFir12.getD (11 - t) []).reverse

/-- The sampler at an index inside the buffer: the eight `silk_SMLABB` over the window and the coefficients of its phase. -/
theorem iirFirSample_eq {buf : List Int} {idx : Int} (h0 : 0 ≤ idx) (h : (idx / 65536).toNat + 8 ≤ buf.length) :
    iirFirSample buf idx = .ok (sat16 (rshiftRound ((((buf.drop (idx / 65536).toNat).take 8).zip
      (phaseCoefs (smulwb (idx % 65536) 12).toNat)).foldl (fun acc p => smlabb acc p.1 p.2) 0) 15)) := by
  have hq : 0 ≤ idx / 65536 := Int.ediv_nonneg h0 (by omega)
  obtain ⟨ht0, ht1⟩ := smulwb_frac (idx := idx) (k := 12) (by omega) (by omega)
  have e1 := fracRow_val ⟨(smulwb (idx % 65536) 12).toNat, by omega⟩
  have e2 := fracRow_val ⟨11 - (smulwb (idx % 65536) 12).toNat, by omega⟩
  have c1 : (((smulwb (idx % 65536) 12).toNat : Nat) : Int) = smulwb (idx % 65536) 12 := Int.toNat_of_nonneg ht0
  have c2 : ((11 - (smulwb (idx % 65536) 12).toNat : Nat) : Int) = 11 - smulwb (idx % 65536) 12 := by omega
  simp only [c1, c2] at e1 e2
  unfold iirFirSample
  simp only [window_ok hq h, e1, e2, Res.bind_ok]
  rfl

theorem iirFirSample_ok {buf : List Int} {idx : Int} (h0 : 0 ≤ idx) (h : (idx / 65536).toNat + 8 ≤ buf.length) :
    ∃ v, iirFirSample buf idx = .ok v ∧ I16 v :=
  ⟨_, iirFirSample_eq h0 h, sat16_I16 _⟩

theorem firSym_ok {order : Nat} {coefs buf : List Int} {idx : Int} (h0 : 0 ≤ idx)
    (h : (idx / 65536).toNat + order ≤ buf.length) (hc : 2 + order / 2 ≤ coefs.length) :
    ∃ v, firSym order coefs buf idx = .ok v ∧ I16 v := by
  have hq : 0 ≤ idx / 65536 := Int.ediv_nonneg h0 (by omega)
  unfold firSym
  simp only [window_ok hq h, window_ok (l := coefs) (i := 2) (n := order / 2) (by omega) (by simpa using hc), Res.bind_ok]
  exact ⟨_, rfl, sat16_I16 _⟩

/-- What the down-FIR kernel needs of a configuration: one of the three orders with a coefficient table of the
    matching length (2 AR2 coefficients first). -/
def DownCfg (c : Cfg) (coefs : List Int) : Prop :=
  (c.firOrder = 18 ∧ coefs.length = 2 + 9 * c.firFracs.toNat ∧ 0 < c.firFracs ∧ c.firFracs ≤ 3) ∨
  (c.firOrder = 24 ∧ coefs.length = 14) ∨ (c.firOrder = 36 ∧ coefs.length = 20)

theorem downFirSample_ok {c : Cfg} {coefs buf : List Int} {idx : Int} (h0 : 0 ≤ idx)
    (h : (idx / 65536).toNat + c.firOrder ≤ buf.length) (hcfg : DownCfg c coefs) :
    ∃ v, downFirSample c.firOrder c.firFracs coefs buf idx = .ok v ∧ I16 v := by
  unfold DownCfg at hcfg
  generalize c.firOrder = order at h hcfg ⊢
  generalize c.firFracs = fracs at hcfg ⊢
  have hq : 0 ≤ idx / 65536 := Int.ediv_nonneg h0 (by omega)
  unfold downFirSample
  rcases hcfg with ⟨ho, hl, hf0, hf1⟩ | ⟨ho, hl⟩ | ⟨ho, hl⟩
  · subst ho
    obtain ⟨ht0, ht1⟩ := smulwb_frac (idx := idx) (k := fracs) hf0 (by omega)
    rw [if_pos rfl]
    have w1 := window_ok (l := coefs) (i := 2 + 9 * smulwb (idx % 65536) fracs) (n := 9) (by omega) (by omega)
    have w2 := window_ok (l := coefs) (i := 2 + 9 * (fracs - 1 - smulwb (idx % 65536) fracs)) (n := 9) (by omega) (by omega)
    simp only [window_ok hq h, w1, w2, Res.bind_ok]
    exact ⟨_, rfl, sat16_I16 _⟩
  · subst ho
    rw [if_neg (by decide), if_pos rfl]
    exact firSym_ok h0 h (by omega)
  · subst ho
    rw [if_neg (by decide), if_neg (by decide), if_pos rfl]
    exact firSym_ok h0 h (by omega)

theorem up2hq_len (S : IIR) (xs : List Int) : (up2hq S xs).2.length = 2 * xs.length := by
  induction xs generalizing S with
  | nil => rfl
  | cons x xs ih => simp only [up2hq, List.length_cons, ih]; omega

theorem up2hq_i16 (S : IIR) (xs : List Int) : ∀ v ∈ (up2hq S xs).2, I16 v := by
  induction xs generalizing S with
  | nil => intro v hv; cases hv
  | cons x xs ih =>
    intro v hv
    simp only [up2hq, List.mem_cons] at hv
    rcases hv with rfl | rfl | hv
    · exact sat16_I16 _
    · exact sat16_I16 _
    · exact ih _ v hv

theorem ar2_len (s0 s1 a0 a1 : Int) (xs : List Int) : (ar2 s0 s1 a0 a1 xs).2.2.length = xs.length := by
  induction xs generalizing s0 s1 with
  | nil => rfl
  | cons x xs ih => simp only [ar2, List.length_cons, ih]

theorem up2hq_append (s : IIR) (x y : List Int) :
    up2hq s (x ++ y) = ((up2hq (up2hq s x).1 y).1, (up2hq s x).2 ++ (up2hq (up2hq s x).1 y).2) := by
  induction x generalizing s with
  | nil => simp [up2hq]
  | cons a x ih => simp only [List.cons_append, up2hq, ih]

theorem ar2_append (s0 s1 a0 a1 : Int) (x y : List Int) :
    ar2 s0 s1 a0 a1 (x ++ y) =
      ((ar2 (ar2 s0 s1 a0 a1 x).1 (ar2 s0 s1 a0 a1 x).2.1 a0 a1 y).1,
       (ar2 (ar2 s0 s1 a0 a1 x).1 (ar2 s0 s1 a0 a1 x).2.1 a0 a1 y).2.1,
       (ar2 s0 s1 a0 a1 x).2.2 ++ (ar2 (ar2 s0 s1 a0 a1 x).1 (ar2 s0 s1 a0 a1 x).2.1 a0 a1 y).2.2) := by
  induction x generalizing s0 s1 with
  | nil => simp [ar2]
  | cons a x ih => simp only [List.cons_append, ar2, ih]

def I32 (x : Int) : Prop := -2147483648 ≤ x ∧ x ≤ 2147483647

theorem i16_i32 {x : Int} (h : I16 x) : I32 x := I16_I32 h

def IIR.ok32 (s : IIR) : Prop := I32 s.s0 ∧ I32 s.s1 ∧ I32 s.s2 ∧ I32 s.s3 ∧ I32 s.s4 ∧ I32 s.s5

theorem up2hqStep_ok32 (S : IIR) (x : Int) : IIR.ok32 (up2hqStep S x).1 := by
  simp only [up2hqStep, apSec, apSec3, add32]
  exact ⟨wrap32_I32 _, wrap32_I32 _, wrap32_I32 _, wrap32_I32 _, wrap32_I32 _, wrap32_I32 _⟩

theorem up2hq_ok32 (S : IIR) (xs : List Int) (h : IIR.ok32 S) : IIR.ok32 (up2hq S xs).1 := by
  induction xs generalizing S with
  | nil => exact h
  | cons x xs ih => simp only [up2hq]; exact ih _ (up2hqStep_ok32 S x)

theorem ar2_ok32 (s0 s1 a0 a1 : Int) (xs : List Int) (h0 : I32 s0) (h1 : I32 s1) :
    I32 (ar2 s0 s1 a0 a1 xs).1 ∧ I32 (ar2 s0 s1 a0 a1 xs).2.1 ∧ ∀ v ∈ (ar2 s0 s1 a0 a1 xs).2.2, I32 v := by
  induction xs generalizing s0 s1 with
  | nil => exact ⟨h0, h1, fun _ h => by cases h⟩
  | cons x xs ih =>
    simp only [ar2]
    have := ih (ar2Step s0 s1 a0 a1 x).1 (ar2Step s0 s1 a0 a1 x).2.1
      (by simp only [ar2Step, smlawb]; exact wrap32_I32 _) (by simp only [ar2Step, smulwb]; exact wrap32_I32 _)
    refine ⟨this.1, this.2.1, ?_⟩
    intro v hv
    rcases List.mem_cons.1 hv with rfl | hv
    · simp only [ar2Step, add32]; exact wrap32_I32 _
    · exact this.2.2 v hv

theorem window_append_left {l1 l2 : List Int} {i : Int} {n : Nat} (h0 : 0 ≤ i) (h : i.toNat + n ≤ l1.length) :
    window (l1 ++ l2) i n = window l1 i n := by
  rw [window_ok h0 h, window_ok h0 (by rw [List.length_append]; omega)]
  congr 1
  rw [List.drop_append_of_le_length (by omega), List.take_append_of_le_length (by rw [List.length_drop]; omega)]

theorem window_drop {l : List Int} {q : Int} {off n : Nat} (h0 : 0 ≤ q) (hoff : off ≤ l.length) :
    window l ((off : Int) + q) n = window (l.drop off) q n := by
  unfold window
  have e : ((off : Int) + q).toNat = off + q.toNat := by omega
  have hl : (l.drop off).length = l.length - off := List.length_drop
  by_cases h : q.toNat + n ≤ (l.drop off).length
  · rw [if_pos ⟨by omega, by omega⟩, if_pos ⟨h0, h⟩, e, List.drop_drop]
  · rw [if_neg (fun hh => h (by have := hh.2; omega)), if_neg (fun hh => h hh.2)]

theorem mapRes_append {α β} (f : α → Res β) (l1 l2 : List α) :
    mapRes f (l1 ++ l2) = (mapRes f l1).bind fun a => (mapRes f l2).bind fun b => .ok (a ++ b) := by
  induction l1 with
  | nil => simp only [List.nil_append, mapRes, Res.bind]; cases mapRes f l2 <;> rfl
  | cons a as ih =>
    simp only [List.cons_append, mapRes, ih]
    cases f a with
    | ok b =>
      cases mapRes f as with
      | ok bs => simp only [Res.bind]; cases mapRes f l2 <;> rfl
      | err e => rfl
      | oob => rfl
      | abort => rfl
    | err e => rfl
    | oob => rfl
    | abort => rfl

theorem mapRes_congr {α β} {f g : α → Res β} : ∀ l : List α, (∀ a ∈ l, f a = g a) → mapRes f l = mapRes g l := by
  intro l
  induction l with
  | nil => intro _; rfl
  | cons a as ih =>
    intro h
    simp only [mapRes, h a List.mem_cons_self, ih (fun x hx => h x (List.mem_cons_of_mem _ hx))]

theorem mapRes_map {α β γ} (f : β → Res γ) (g : α → β) (l : List α) : mapRes f (l.map g) = mapRes (fun a => f (g a)) l := by
  induction l with
  | nil => rfl
  | cons a as ih => simp only [List.map_cons, mapRes, ih]

/-- An interpolation loop whose index range and count split in two is the concatenation of two loops, given samplers
    that agree with `sample` on the first part and on the second part shifted back. -/
theorem interpol_split (sample sample1 sample2 : Int → Res Int) (m1 m2 inc : Int) (hinc : 0 < inc)
    (hcnt : interpCount (m1 + m2) inc = interpCount m1 inc + interpCount m2 inc)
    (h1 : ∀ i : Nat, i < interpCount m1 inc → sample ((i : Int) * inc) = sample1 ((i : Int) * inc))
    (h2 : ∀ i : Nat, i < interpCount m2 inc →
      sample (((interpCount m1 inc + i : Nat) : Int) * inc) = sample2 ((i : Int) * inc)) :
    interpol sample (m1 + m2) inc =
      (interpol sample1 m1 inc).bind fun o1 => (interpol sample2 m2 inc).bind fun o2 => .ok (o1 ++ o2) := by
  unfold interpol
  rw [if_neg (by omega), if_neg (by omega), if_neg (by omega), hcnt, List.range_add, mapRes_append, mapRes_map]
  rw [mapRes_congr (f := fun j : Nat => sample ((j : Int) * inc)) (g := fun j : Nat => sample1 ((j : Int) * inc))
    (List.range (interpCount m1 inc)) (fun a ha => h1 a (List.mem_range.1 ha))]
  rw [mapRes_congr (f := fun a : Nat => sample (((interpCount m1 inc + a : Nat) : Int) * inc))
    (g := fun j : Nat => sample2 ((j : Int) * inc))
    (List.range (interpCount m2 inc)) (fun a ha => h2 a (List.mem_range.1 ha))]

theorem interpCount_zero {inc : Int} (h : 0 < inc) : interpCount 0 inc = 0 := by
  unfold interpCount
  have : (0 + inc - 1) / inc = 0 := Int.ediv_eq_zero_of_lt (by omega) (by omega)
  rw [this]; rfl

theorem interpol_zero (sample : Int → Res Int) {inc : Int} (h : 0 < inc) : interpol sample 0 inc = .ok [] := by
  unfold interpol
  rw [if_neg (by omega), interpCount_zero h]
  rfl

/-- The samplers look at the buffer only through the windows at `idx / 65536` and at a phase of `idx % 65536`. -/
theorem iirFirSample_congr (buf buf' : List Int) (idx idx' : Int)
    (hw : window buf (idx / 65536) 8 = window buf' (idx' / 65536) 8)
    (ht : smulwb (idx % 65536) 12 = smulwb (idx' % 65536) 12) : iirFirSample buf idx = iirFirSample buf' idx' := by
  unfold iirFirSample
  rw [hw, ht]

theorem downFirSample_congr (order : Nat) (fracs : Int) (coefs buf buf' : List Int) (idx idx' : Int)
    (hw : window buf (idx / 65536) order = window buf' (idx' / 65536) order)
    (ht : smulwb (idx % 65536) fracs = smulwb (idx' % 65536) fracs) :
    downFirSample order fracs coefs buf idx = downFirSample order fracs coefs buf' idx' := by
  unfold downFirSample
  by_cases h18 : order = 18
  · subst h18; rw [if_pos rfl, if_pos rfl, hw, ht]
  · rw [if_neg h18, if_neg h18]
    by_cases h24 : order = 24
    · subst h24; rw [if_pos rfl, if_pos rfl]; unfold firSym; rw [hw]
    · rw [if_neg h24, if_neg h24]
      by_cases h36 : order = 36
      · subst h36; rw [if_pos rfl, if_pos rfl]; unfold firSym; rw [hw]
      · rw [if_neg h36, if_neg h36]

end OpusProofs.SilkResamp
