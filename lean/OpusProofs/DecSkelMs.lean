import OpusProofs.DecSkelApi
import OpusProofs.MsPackets
import OpusModel.DecSkel.Ms
/-
  OpusProofs.DecSkelMs — `opus_multistream_decode_native` (opus_multistream_decoder.c:178-307) up to its stream loop, and the
  loop with the per-stream `opus_decode_native` calls answered by an oracle (`msDecode`, `msLoop`).
  The validation pass `msValidate`: its one-step inversion, the offsets it steps over (`msOffs`), and that what it accepts is
  one valid packet per stream, all of one duration (`msValidate_packets`, with converse).
  The oracle loop: after a successful validation the `len<=0 → OPUS_INTERNAL_ERROR` branch (:247-251) is unreachable, and
  the result is a documented error or `0 < n ≤ frame_size` (`msLoop_ret`, `msDecode_retOk`).
  The early exits (:199-237) as one function `msExit`, and the equations by which `msDecode` and `msDecodeFull` (the model with
  the real per-stream calls, OpusModel/DecSkel/Ms) are both "`msExit`, then the stream loop".
  Which transcription of the function is which: head of OpusProofs.MsPackets.
-/
namespace Opus.DecSkel
open Opus Opus.Framing

/-- The `packet_offset`s `opus_multistream_packet_validate` steps over (one per stream). -/
def msOffs : Nat → Bytes → List Nat
  | 0, _ => []
  | s + 1, bs =>
    if bs.length = 0 then []
    else match parseImpl (s ≠ 0) bs with
      | .ok p => p.packetOffset :: msOffs s (bs.drop p.packetOffset)
      | _ => []

def sumTake (l : List Nat) (k : Nat) : Nat := sumN (l.take k)

theorem sumTake_succ_cons (a : Nat) (l : List Nat) (k : Nat) : sumTake (a :: l) (k + 1) = a + sumTake l k := by
  simp [sumTake]

theorem sumTake_succ (l : List Nat) (k : Nat) : sumTake l (k + 1) = sumTake l k + l.getD k 0 := by
  unfold sumTake
  by_cases hin : k < l.length
  · rw [List.take_add_one, sumN_append]
    simp [List.getD_eq_getElem?_getD, List.getElem?_eq_getElem hin, sumN]
  · rw [List.take_of_length_le (by omega), List.take_of_length_le (by omega)]
    simp [List.getD_eq_getElem?_getD, List.getElem?_eq_none (by omega : l.length ≤ k)]

/-- One step of a validation pass that succeeds: the first sub-packet parses, its duration is the one expected (if any), and
    the rest validates against it. -/
theorem msValidate_succ {Fs : Int} {n : Nat} {first : Bool} {bs : Bytes} {samples : Int}
    (hv : 0 ≤ msValidate Fs (n + 1) first bs samples) :
    bs.length ≠ 0 ∧ ∃ p, parseImpl (decide (n ≠ 0)) bs = .ok p ∧
      (first = false → samples = nbSamples (bs.take p.packetOffset) Fs) ∧
      msValidate Fs (n + 1) first bs samples =
        msValidate Fs n false (bs.drop p.packetOffset) (nbSamples (bs.take p.packetOffset) Fs) := by
  rw [msValidate] at hv ⊢
  split at hv
  · exact absurd hv (by decide)
  rename_i hne
  rw [if_neg hne]
  refine ⟨hne, ?_⟩
  cases hp : parseImpl (decide (n ≠ 0)) bs with
  | ok p =>
    simp only [hp] at hv ⊢
    split at hv
    · exact absurd hv (by decide)
    · rename_i hc
      exact ⟨p, rfl, fun hf => Decidable.byContradiction fun hne => hc ⟨by simp [hf], hne⟩, by rw [if_neg hc]⟩
  | err e => simp only [hp] at hv; have := Layout.Err.code_neg e; omega
  | oob => simp only [hp] at hv; exact absurd hv (by decide)
  | abort => simp only [hp] at hv; exact absurd hv (by decide)

/-- A successful validation means: every stream starts strictly inside the packet. -/
theorem msValidate_offs (fs : Int) : ∀ (n : Nat) (first : Bool) (bs : Bytes) (samples : Int), BytesOk bs →
    0 ≤ msValidate fs n first bs samples →
    (msOffs n bs).length = n ∧ ∀ s, s < n → sumTake (msOffs n bs) s < bs.length
  | 0, _, _, _, _, _ => ⟨rfl, fun s h => absurd h (by omega)⟩
  | n + 1, first, bs, samples, hb, hv => by
    obtain ⟨h0, p, hp, _, hstep⟩ := msValidate_succ hv
    rw [hstep] at hv
    obtain ⟨_, _, _, _, _, hle, _⟩ := FramingProofs.parse_offsets _ bs hb p hp
    obtain ⟨h1, h2⟩ := msValidate_offs fs n false (bs.drop p.packetOffset) _ (bytesOk_drop hb _) hv
    unfold msOffs
    rw [if_neg h0]
    simp only [hp]
    refine ⟨by simp [h1], fun s hs => ?_⟩
    cases s with
    | zero => simp [sumTake]; omega
    | succ s =>
      rw [sumTake_succ_cons]
      have := h2 s (by omega)
      simp only [List.length_drop] at this
      omega

/-- Contract of the per-stream `opus_decode_native` calls as seen by the multistream loop: each
    returns a documented error or a positive count not above `cap`, and (when there is a packet)
    reports the `packet_offset` the validation pass computed for that stream.
    (`OpusProps.C01.decodeNative_ret` proves the first part for the single-stream skeleton.) -/
structure MsOracleOk (no : NativeOracle) (nb : Nat) (offs : List Nat) (cap : Int) : Prop where
  ret : ∀ s, s < nb → ((no s).1 = BAD_ARG ∨ (no s).1 = BUFFER_TOO_SMALL ∨ (no s).1 = INVALID_PACKET ∨
    (0 < (no s).1 ∧ (no s).1 ≤ cap))
  po : ∀ s, s < nb → (no s).2 = ((offs.getD s 0 : Nat) : Int)

/-- The per-stream loop: never `OPUS_INTERNAL_ERROR`. -/
theorem msLoop_ret (no : NativeOracle) (nb : Nat) (offs : List Nat) (cap : Int) (L : Nat) (do_plc : Bool)
    (hno : MsOracleOk no nb offs cap) (hoffs : do_plc = false → ∀ s, s < nb → sumTake offs s < L) :
    ∀ (rem : Nat) (len fsz : Int) (calls : List MsCall), rem ≤ nb → 0 < fsz → fsz ≤ cap →
      (do_plc = false → len = (L : Int) - sumTake offs (nb - rem)) →
      RetOk cap (msLoop no nb do_plc rem len fsz calls).1 := by
  intro rem
  induction rem with
  | zero => intro len fsz calls _ h1 h2 _; simp only [msLoop]; exact .count h1 h2
  | succ rem ih =>
    intro len fsz calls hrem hpos hcap hlen
    have hs : nb - (rem + 1) < nb := by omega
    have hr := hno.ret _ hs
    have hp := hno.po _ hs
    rw [msLoop]
    have hnie : ¬ (¬ do_plc = true ∧ len ≤ 0) := by
      rintro ⟨h1, h2⟩
      have hd : do_plc = false := Bool.eq_false_of_not_eq_true h1
      have := hoffs hd _ hs
      have := hlen hd
      omega
    simp only [if_neg hnie]
    rcases hn : no (nb - (rem + 1)) with ⟨ret, po⟩
    rw [hn] at hr hp
    simp only at hr hp ⊢
    by_cases hle : ret ≤ 0
    · simp only [if_pos hle]
      exact hr
    · simp only [if_neg hle]
      have hret := RetOk.pos hr hle
      apply ih _ _ _ (by omega) hret.1 hret.2
      intro hd
      have hl := hlen hd
      have hsum := sumTake_succ offs (nb - (rem + 1))
      rw [show nb - (rem + 1) + 1 = nb - rem by omega] at hsum
      simp only [hd, Bool.false_eq_true, ↓reduceIte]
      rw [hp, hl, hsum]; push_cast; omega

section Packets
open Opus.FramingSpec Opus.FramingProofs Opus.LayoutSpec Opus.Layout

theorem rate_of_fsOk {Fs : Int} (h : FsOk Fs) : Rate Fs.toNat := by
  unfold FsOk at h; unfold Rate; omega

theorem nbSamples_serialize {Fs : Int} (hFs : FsOk Fs) (sd : Bool) {p : Packet} (hv : Valid p) :
    nbSamples (serialize sd p) Fs = (duration Fs.toNat p : Int) := by
  unfold nbSamples; rw [getNbSamples_serialize sd p hv _ (rate_of_fsOk hFs)]

/-- A valid packet lasts at most 120 ms. -/
theorem duration_le {Fs : Int} (hFs : FsOk Fs) {p : Packet} (hv : Valid p) : (duration Fs.toNat p : Int) ≤ Fs / 25 * 3 := by
  have h1 := getNbSamples_serialize false p hv _ (rate_of_fsOk hFs)
  unfold getNbSamples at h1
  split at h1
  · simp only [] at h1
    split at h1
    · cases h1
    · rename_i hle
      simp only [Res.ok.injEq] at h1
      rw [h1] at hle
      unfold FsOk at hFs; omega
  all_goals cases h1

/-- **The validation pass rejects with OPUS_INVALID_PACKET, or what it has read is one valid packet per stream, each of the
    duration it reports** (the decoder's side of C10 `ms_packet_structure`).  `msValidate` follows the C code literally and
    does not test the result of `opus_packet_get_nb_samples` for an error; on bytes and at a legal rate that call cannot
    fail on a sub-packet the parser has accepted. -/
theorem msValidate_packets {Fs : Int} (hFs : FsOk Fs) : ∀ (n : Nat) (first : Bool) (bs : Bytes) (samples : Int), BytesOk bs →
    msValidate Fs n first bs samples = INVALID_PACKET ∨
    ∃ ps : List Packet, ps.length = n ∧ (∀ p ∈ ps, Valid p) ∧ (n ≠ 0 → bs = msSerialize ps) ∧
      (∀ p ∈ ps, (duration Fs.toNat p : Int) = msValidate Fs n first bs samples) ∧
      (first = false ∨ n = 0 → samples = msValidate Fs n first bs samples)
  | 0, _, _, _, _ =>
    Or.inr ⟨[], rfl, fun _ h => absurd h List.not_mem_nil, fun h => absurd rfl h, fun _ h => absurd h List.not_mem_nil, fun _ => rfl⟩
  | n + 1, first, bs, samples, hb => by
    rw [msValidate]
    split
    · exact Or.inl rfl
    cases hr : parseImpl (decide (n ≠ 0)) bs with
    | ok r =>
      obtain ⟨p, rest, hp, hbs, hrest, rfl⟩ := parse_sound _ bs hb r hr
      subst hbs
      simp only []
      rw [show (view (decide (n ≠ 0)) p).packetOffset = (serialize (decide (n ≠ 0)) p).length from rfl, List.take_left,
        nbSamples_serialize hFs _ hp, List.drop_left]
      split
      · exact Or.inl rfl
      rename_i hc
      rcases msValidate_packets hFs n false rest _ (bytesOk_append_right hb) with h | ⟨ps, h1, h2, h3, h4, h5⟩
      · exact Or.inl h
      refine Or.inr ⟨p :: ps, congrArg (· + 1) h1, List.forall_mem_cons.2 ⟨hp, h2⟩, fun _ => ?_,
        List.forall_mem_cons.2 ⟨h5 (Or.inl rfl), h4⟩, fun hf => ?_⟩
      · have hsd : decide (ps ≠ []) = decide (n ≠ 0) := by rw [← h1]; cases ps <;> rfl
        rw [Layout.msSerialize_cons, hsd]
        by_cases hn : n = 0
        · subst hn; rw [hrest (by decide), List.length_eq_zero_iff.1 h1]; rfl
        · rw [← h3 hn]
      · refine (Decidable.byContradiction fun hne => hc ⟨?_, hne⟩ : samples = _).trans (h5 (Or.inl rfl))
        rcases hf with hf | hf
        · simp [hf]
        · cases hf
    | err e => rw [FramingProofs.parseImpl_err_invalid _ bs e hr]; exact Or.inl rfl
    | oob => exact Or.inl rfl
    | abort => exact Or.inl rfl

/-- … in particular its result is a sample count or OPUS_INVALID_PACKET. -/
theorem msValidate_cases {Fs : Int} (hFs : FsOk Fs) (n : Nat) {bs : Bytes} (hb : BytesOk bs) :
    msValidate Fs n true bs 0 = INVALID_PACKET ∨ 0 ≤ msValidate Fs n true bs 0 := by
  rcases msValidate_packets hFs n true bs 0 hb with h | ⟨ps, h1, _, _, h4, h5⟩
  · exact Or.inl h
  · right
    cases ps with
    | nil => exact Int.le_of_eq (h5 (Or.inr h1.symm))
    | cons p _ => rw [← h4 p (by simp)]; omega

theorem msValidate_msSerialize {Fs : Int} (hFs : FsOk Fs) (k : Nat) : ∀ (ps : List Packet) (first : Bool) (samples : Int),
    (∀ p ∈ ps, Valid p) → (∀ p ∈ ps, duration Fs.toNat p = k) → (first = false ∨ ps = [] → samples = k) →
    msValidate Fs ps.length first (msSerialize ps) samples = k
  | [], _, _, _, _, hs => hs (Or.inr rfl)
  | p :: ps, first, samples, hval, hdur, hs => by
    have hv := hval p (by simp)
    have hsd : decide (ps.length ≠ 0) = decide (ps ≠ []) := by cases ps <;> rfl
    rw [List.length_cons, msValidate, if_neg (by have := MsDecEq.msSerialize_pos p ps; omega), hsd, MsDecEq.parse_msSerialize hv]
    simp only []
    rw [show (view (decide (ps ≠ [])) p).packetOffset = (serialize (decide (ps ≠ [])) p).length from rfl, MsDecEq.msSerialize_drop,
      Layout.msSerialize_cons, List.take_left, nbSamples_serialize hFs _ hv, hdur p (by simp),
      if_neg (by rintro ⟨h1, h2⟩; exact h2 (hs (Or.inl (by simpa using h1))))]
    exact msValidate_msSerialize hFs k ps false k (fun q hq => hval q (by simp [hq])) (fun q hq => hdur q (by simp [hq]))
      (fun _ => rfl)

end Packets

/-- The early exits of `opus_multistream_decode_native` (:199-237), in the code's order; `none`: the stream loop is entered.
    `msDecode` and `msDecodeFull` both start with them. -/
def msExit (Fs : Int) (nb : Nat) (bs : Bytes) (len frame_size : Int) : Option Int :=
  if frame_size ≤ 0 then some BAD_ARG
  else if len < 0 then some BAD_ARG
  else if ¬ decide (len = 0) ∧ len < 2 * (nb : Int) - 1 then some INVALID_PACKET
  else if ¬ decide (len = 0) ∧ msValidate Fs nb true (bs.take len.toNat) 0 < 0 then some (msValidate Fs nb true (bs.take len.toNat) 0)
  else if ¬ decide (len = 0) ∧ msValidate Fs nb true (bs.take len.toNat) 0 > min frame_size (Fs / 25 * 3) then some BUFFER_TOO_SMALL
  else none

/-- A `match` on a cascade of early exits is the cascade of its branches (rewrites `match msExit … with` into the `if`s of the
    model it is compared with).  It applies because Lean shares one matcher among structurally equal `match`es of a module:
    hence `Option Int` and not `Option α`, and hence the statements it is used on stand in this file. -/
theorem match_ite {β : Type} (c : Prop) [Decidable c] (a : Int) (x : Option Int) (f : Int → β) (d : β) :
    (match (if c then some a else x) with | some e => f e | none => d) =
      if c then f a else match x with | some e => f e | none => d := by
  by_cases h : c
  · simp only [if_pos h]
  · simp only [if_neg h]

theorem msDecode_eq (no : NativeOracle) (Fs : Int) (nb : Nat) (bs : Bytes) (len frame_size : Int) :
    msDecode no Fs nb bs len frame_size =
      match msExit Fs nb bs len frame_size with
      | some e => (e, [], if frame_size ≤ 0 then 0 else 2 * min frame_size (Fs / 25 * 3))
      | none => ((msLoop no nb (decide (len = 0)) nb len (min frame_size (Fs / 25 * 3)) []).1,
          (msLoop no nb (decide (len = 0)) nb len (min frame_size (Fs / 25 * 3)) []).2, 2 * min frame_size (Fs / 25 * 3)) := by
  unfold msDecode msExit
  simp only [match_ite]
  by_cases h0 : frame_size ≤ 0
  · simp only [if_pos h0]
  by_cases hp : decide (len = 0) = true
  · simp only [if_neg h0, hp, not_true_eq_false, false_and, if_false]
  · simp only [if_neg h0, if_neg hp]

theorem msDecodeFull_eq (os : Nat → Oracle) (l : Layout.ChannelLayout) (Fs : Int) (sts : List DecState) (bs : Bytes)
    (len frame_size fec : Int) (sc : Bool) :
    msDecodeFull os l Fs sts bs len frame_size fec sc =
      match msExit Fs l.nbStreams bs len frame_size with
      | some e => (⟨[], [], [], [], []⟩ : MsAcc).out (.ret e) sts
      | none => msFullLoop os l fec sc (decide (len = 0)) (2 * min frame_size (Fs / 25 * 3)) sts 0 bs len
          (min frame_size (Fs / 25 * 3)) ⟨[], [], [], [], []⟩ := by
  unfold msDecodeFull msExit
  simp only [match_ite]

theorem msExit_spec {Fs : Int} (hFs : FsOk Fs) (nb : Nat) {bs : Bytes} (hb : BytesOk bs) (len frame_size : Int) :
    match msExit Fs nb bs len frame_size with
    | some e => e = BAD_ARG ∨ e = BUFFER_TOO_SMALL ∨ e = INVALID_PACKET
    | none => 0 < frame_size ∧ 0 ≤ len ∧ (len ≠ 0 → 0 ≤ msValidate Fs nb true (bs.take len.toNat) 0 ∧
        msValidate Fs nb true (bs.take len.toNat) 0 ≤ min frame_size (Fs / 25 * 3)) := by
  have hv := msValidate_cases hFs nb (bytesOk_take hb len.toNat)
  unfold msExit
  simp only [match_ite]
  by_cases h0 : frame_size ≤ 0
  · rw [if_pos h0]; exact Or.inl trivial
  by_cases h1 : len < 0
  · rw [if_neg h0, if_pos h1]; exact Or.inl trivial
  by_cases h2 : ¬ decide (len = 0) = true ∧ len < 2 * (nb : Int) - 1
  · rw [if_neg h0, if_neg h1, if_pos h2]; exact Or.inr (Or.inr trivial)
  by_cases h3 : ¬ decide (len = 0) = true ∧ msValidate Fs nb true (bs.take len.toNat) 0 < 0
  · rw [if_neg h0, if_neg h1, if_neg h2, if_pos h3]; omega
  by_cases h4 : ¬ decide (len = 0) = true ∧ msValidate Fs nb true (bs.take len.toNat) 0 > min frame_size (Fs / 25 * 3)
  · rw [if_neg h0, if_neg h1, if_neg h2, if_neg h3, if_pos h4]; exact Or.inr (Or.inl trivial)
  rw [if_neg h0, if_neg h1, if_neg h2, if_neg h3, if_neg h4]
  simp only [decide_eq_true_eq] at h3 h4
  exact ⟨by omega, by omega, fun _ => by omega⟩

theorem msExit_accept {Fs : Int} {nb : Nat} {bs : Bytes} {len frame_size : Int} (hf : 0 < frame_size) (hl : 0 < len)
    (hn : 2 * (nb : Int) - 1 ≤ len) (hv : 0 ≤ msValidate Fs nb true (bs.take len.toNat) 0)
    (hk : msValidate Fs nb true (bs.take len.toNat) 0 ≤ min frame_size (Fs / 25 * 3)) : msExit Fs nb bs len frame_size = none := by
  unfold msExit
  rw [if_neg (by omega), if_neg (by omega), if_neg (fun h => by omega), if_neg (fun h => by omega), if_neg (fun h => by omega)]

/-- `opus_multistream_decode_native` with contract-bound per-stream calls: a documented error or
    `0 < n ≤ frame_size`; in particular never `OPUS_INTERNAL_ERROR`. -/
theorem msDecode_retOk (no : NativeOracle) (Fs : Int) (nb : Nat) (bs : Bytes) (hb : BytesOk bs) (len frame_size : Int)
    (hlen : len ≤ bs.length)
    (hno : MsOracleOk no nb (msOffs nb (bs.take len.toNat)) (min frame_size (Fs / 25 * 3))) (hFs : FsOk Fs) :
    RetOk frame_size (msDecode no Fs nb bs len frame_size).1 := by
  have hE := msExit_spec hFs nb hb len frame_size
  have hpos : 0 < Fs / 25 * 3 := by unfold FsOk at hFs; omega
  rw [msDecode_eq]
  cases h : msExit Fs nb bs len frame_size with
  | some e => rw [h] at hE; unfold RetOk; simp only []; omega
  | none =>
    rw [h] at hE
    obtain ⟨h1, h2, h3⟩ := hE
    have hL : ((bs.take len.toNat).length : Int) = len := by simp only [List.length_take]; omega
    -- every stream of a validated packet starts strictly inside it; on a loss nothing is asked
    exact retOk_mono (msLoop_ret no nb _ _ (bs.take len.toNat).length (decide (len = 0)) hno
      (fun hd => (msValidate_offs Fs nb true _ 0 (bytesOk_take hb _) (h3 (by simpa using hd)).1).2) nb len _ [] (Nat.le_refl _)
      (by omega) (Int.le_refl _) (fun _ => by simp [sumTake]; omega)) (by omega)

end Opus.DecSkel
