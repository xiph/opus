import OpusProofs.ExtSkip
/-
  `opus_int32` ranges of the iterator fields (`Box`) and the potential `phi` that bounds the number
  of extensions still to come, through one pass of each loop body of `opus_extension_iterator_next`.
-/
namespace Opus.ExtProofs
open Opus Opus.Ext

/-- Box bounds on the iterator state: `0 ≤ len`, `nb_frames ≤ 48`, `-1 ≤ curr_len ≤ len`,
    `curr_data - data ≤ len` (and `+ curr_len ≤ len` when `curr_len ≥ 0`), `repeat_data ≤ curr_data`,
    `0 ≤ src_len ≤ repeat_len ≤ len`, `0 ≤ trailing_short_len ≤ curr_data - data`, `repeat_frame ≤ 48`,
    `curr_frame ≤ 47` while there is something left to read and `≤ 302` always (`47 + 255`: the increment of a separator
    that leaves the packet's frames is added before the iterator gives up).  A conjunction of linear facts, used by unfolding
    it in front of `omega`. -/
def Box (it : Iter) : Prop :=
  0 ≤ it.len ∧ it.nbFrames ≤ 48 ∧ -1 ≤ it.currLen ∧ it.currLen ≤ it.len ∧ (it.currData : Int) ≤ it.len ∧
  (0 ≤ it.currLen → (it.currData : Int) + it.currLen ≤ it.len) ∧ it.repeatData ≤ it.currData ∧
  0 ≤ it.repeatLen ∧ it.repeatLen ≤ it.len ∧ 0 ≤ it.srcLen ∧ it.srcLen ≤ it.repeatLen ∧
  0 ≤ it.tsl ∧ it.tsl ≤ it.currData ∧ it.repeatFrame ≤ 48 ∧
  ((0 < it.currLen ∨ 0 < it.repeatFrame) → it.currFrame ≤ 47) ∧ it.currFrame ≤ 302

/-- Upper bound for the number of extensions the iterator can still return: every remaining byte can give
    one extension per frame; the bytes of the current repeat region can still be replayed for the later
    frames. -/
def phi (it : Iter) : Int :=
  (it.nbFrames : Int) * it.currLen +
    (if it.repeatFrame = 0 then ((it.nbFrames - 1 : Nat) : Int) * ((it.currData : Int) - it.repeatData)
     else if it.repeatFrame < it.nbFrames then
       it.srcLen + ((it.nbFrames - 1 - it.repeatFrame : Nat) : Int) * it.repeatLen
     else 0)

/-- A pass through the repeat body: the source side loses `src_len - sl ≥ 1` bytes; the packet side moves to
    `(cp, cl)`: unchanged, advanced over a payload, or `cl = -1` after a payload that does not fit. -/
theorem box_repeat_step {it : Iter} (hB : Box it) (hrf : 0 < it.repeatFrame) (hlt : it.repeatFrame < it.nbFrames)
    (sp : Nat) {sl : Int} (hsl : 0 ≤ sl ∧ sl < it.srcLen) {cp : Nat} {cl : Int}
    (hc : -1 ≤ cl ∧ cl ≤ it.currLen ∧ it.currData ≤ cp ∧ (cp : Int) ≤ it.len ∧
      (0 ≤ cl → (cp : Int) + cl = it.currData + it.currLen)) :
    Box { it with srcData := sp, srcLen := sl, currData := cp, currLen := cl } ∧
    phi { it with srcData := sp, srcLen := sl, currData := cp, currLen := cl } + 1 ≤ phi it := by
  have hN := hB
  have hm : (it.nbFrames : Int) * cl ≤ it.nbFrames * it.currLen :=
    Int.mul_le_mul_of_nonneg_left hc.2.1 (Int.natCast_nonneg _)
  have hne : ¬ it.repeatFrame = 0 := by omega
  refine ⟨?_, ?_⟩
  · unfold Box at hN ⊢; simp only; omega
  · unfold phi; simp only [hne, hlt, if_true, if_false]; omega

theorem repStep_box {it : Iter} {r : RFlow} (hB : Box it) (hcl : 0 ≤ it.currLen) (hsl : 0 < it.srcLen)
    (hrf : 0 < it.repeatFrame) (hlt : it.repeatFrame < it.nbFrames) : RepStep it r →
    match r with
    | .cont it1 => Box it1 ∧ phi it1 ≤ phi it
    | .ret it1 s => (Box it1 ∧ phi it1 ≤ phi it) ∧ ∀ e, s = .ext e → phi it1 + 1 ≤ phi it ∧ 0 ≤ it1.currLen := by
  have hN := hB
  unfold Box at hN
  have src : ∀ {sp sl hs0}, skipExtension it.data it.srcData it.srcLen = .ok (some (sp, sl, hs0)) →
      0 ≤ sl ∧ sl < it.srcLen := fun h => by have := skipExtension_spec h; omega
  -- the packet side after a payload: `hcl` is what makes `cl` non-negative
  have pay : ∀ {rb' cp cl hs}, skipPayload it.data it.currData it.currLen rb' it.tsl = .ok (some (cp, cl, hs)) →
      (cp : Int) = it.len - cl → 0 ≤ cl ∧ cl ≤ it.currLen ∧ it.currData ≤ cp ∧ (cp : Int) ≤ it.len ∧
        (cp : Int) + cl = it.currData + it.currLen := fun h hpos => by
    have := skipPayload_spec h
    have := this.2.1 hcl (by omega)
    omega
  intro h
  cases h with
  | skip _ hsk =>
    obtain ⟨b, p⟩ := box_repeat_step hB hrf hlt _ (src hsk) (cp := it.currData) (cl := it.currLen) (by omega)
    exact ⟨b, by omega⟩
  | beyond _ hsk _ hsp hpos =>
    have hp := pay hsp hpos
    obtain ⟨b, p⟩ := box_repeat_step hB hrf hlt _ (src hsk)
      ⟨by omega, hp.2.1, hp.2.2.1, hp.2.2.2.1, fun _ => hp.2.2.2.2⟩
    exact ⟨b, by omega⟩
  | invalid _ hsk =>
    obtain ⟨b, p⟩ := box_repeat_step hB hrf hlt _ (src hsk) (cp := it.currData) (cl := -1) (by omega)
    exact ⟨⟨b, by omega⟩, fun e he => by cases he⟩
  | ext _ hsk _ hsp hpos =>
    have hp := pay hsp hpos
    obtain ⟨b, p⟩ := box_repeat_step hB hrf hlt _ (src hsk)
      ⟨by omega, hp.2.1, hp.2.2.1, hp.2.2.2.1, fun _ => hp.2.2.2.2⟩
    exact ⟨⟨b, by omega⟩, fun _ _ => ⟨p, hp.1⟩⟩

theorem natmul_mono {a b : Nat} (h : a ≤ b) {R : Int} (hR : 0 ≤ R) : (a : Int) * R ≤ (b : Int) * R :=
  Int.mul_le_mul_of_nonneg_right (by omega) hR

theorem phi_nonneg {it : Iter} (hB : Box it) (hcl : 0 ≤ it.currLen) : 0 ≤ phi it := by
  have hN := hB
  unfold Box at hN
  have h1 : 0 ≤ (it.nbFrames : Int) * it.currLen := Int.mul_nonneg (Int.natCast_nonneg _) hcl
  have h2 : 0 ≤ ((it.nbFrames - 1 : Nat) : Int) * ((it.currData : Int) - it.repeatData) :=
    Int.mul_nonneg (Int.natCast_nonneg _) (by omega)
  have h3 : 0 ≤ ((it.nbFrames - 1 - it.repeatFrame : Nat) : Int) * it.repeatLen :=
    Int.mul_nonneg (Int.natCast_nonneg _) (by omega)
  unfold phi
  split
  · omega
  · split <;> omega

theorem repeatEnd_box {it : Iter} (hB : Box it) (hcl : 0 ≤ it.currLen) (hrf : 0 < it.repeatFrame)
    (hge : ¬ it.repeatFrame < it.nbFrames) : Box (repeatEnd it) ∧ phi (repeatEnd it) ≤ phi it := by
  have hne : ¬ it.repeatFrame = 0 := by omega
  have h0 : (it.nbFrames : Int) * 0 ≤ it.nbFrames * it.currLen :=
    Int.mul_le_mul_of_nonneg_left hcl (Int.natCast_nonneg _)
  unfold repeatEnd
  simp only
  split
  · refine ⟨?_, ?_⟩
    · unfold Box at *; simp only; split <;> omega
    · unfold phi; simp only [hne, hge, if_true, if_false, Int.sub_self, Int.mul_zero] at h0 ⊢; split <;> omega
  · refine ⟨?_, ?_⟩
    · unfold Box at *; simp only; omega
    · unfold phi; simp only [hne, hge, if_true, if_false, Int.sub_self, Int.mul_zero]; omega

/-- "We finished repeating the extensions for this frame" (extensions.c:207-209): the source region is rewound for
    the next frame, one replay of `repeat_len` bytes is used up. -/
theorem repeatNext_box {it : Iter} (hB : Box it) (h0 : 0 < it.repeatFrame) (hrf : it.repeatFrame < it.nbFrames)
    (hsl : ¬ 0 < it.srcLen) :
    Box { it with srcData := it.repeatData, srcLen := it.repeatLen, repeatFrame := it.repeatFrame + 1 } ∧
    phi { it with srcData := it.repeatData, srcLen := it.repeatLen, repeatFrame := it.repeatFrame + 1 } ≤ phi it := by
  have hN := hB
  unfold Box at hN
  refine ⟨by unfold Box; simp only; omega, ?_⟩
  have hne : ¬ it.repeatFrame = 0 := by omega
  have hne1 : ¬ it.repeatFrame + 1 = 0 := by omega
  unfold phi
  simp only [hne, hne1, hrf, if_true, if_false]
  split
  · have hk : it.nbFrames - 1 - it.repeatFrame = (it.nbFrames - 1 - (it.repeatFrame + 1)) + 1 := by omega
    rw [hk]
    push_cast
    rw [Int.add_mul, Int.one_mul]
    omega
  · have : 0 ≤ ((it.nbFrames - 1 - it.repeatFrame : Nat) : Int) * it.repeatLen :=
      Int.mul_nonneg (Int.natCast_nonneg _) (by omega)
    omega

/-- Consuming `k ≥ 1` bytes in the main loop lowers the potential by `k`. -/
theorem phi_main_step (N : Nat) (hN : 1 ≤ N) (cl cl' : Int) (cd cd' rd : Nat) (h1 : (cd' : Int) + cl' = cd + cl) :
    (N : Int) * cl' + ((N - 1 : Nat) : Int) * ((cd' : Int) - rd) + (cl - cl') =
      N * cl + ((N - 1 : Nat) : Int) * ((cd : Int) - rd) := by
  obtain ⟨M, rfl⟩ : ∃ M, N = M + 1 := ⟨N - 1, by omega⟩
  have e1 : cl' = cl - (cl - cl') := by omega
  have e2 : (cd' : Int) - rd = ((cd : Int) - rd) + (cl - cl') := by omega
  generalize cl - cl' = k at e1 e2
  rw [e2, e1]
  simp only [Nat.add_sub_cancel]
  push_cast
  rw [Int.mul_sub, Int.mul_add, Int.add_mul, Int.add_mul]
  omega

/-- The arithmetic of a main-loop pass that stepped over an extension: `k = curr_len - cl ≥ 1` bytes went from the
    unread part to the repeat region. -/
theorem skipped_advance {it : Iter} {b0 cp hs : Nat} {cl : Int} (hS : Skipped it b0 cp cl hs) (hcl : 0 < it.currLen)
    (hN1 : 1 ≤ it.nbFrames) :
    0 ≤ cl ∧ cl < it.currLen ∧ (cp : Int) + cl = it.currData + it.currLen ∧
    0 ≤ (it.nbFrames : Int) * cl ∧ (it.nbFrames : Int) * cl ≤ it.nbFrames * it.currLen ∧
    (it.nbFrames : Int) * cl + ((it.nbFrames - 1 : Nat) : Int) * ((cp : Int) - it.repeatData) + (it.currLen - cl) =
      it.nbFrames * it.currLen + ((it.nbFrames - 1 : Nat) : Int) * ((it.currData : Int) - it.repeatData) := by
  have h1 := skipExtension_spec hS.skip
  have h2 := h1.2.1 hcl
  exact ⟨h1.1, h2, h1.2.2.1, Int.mul_nonneg (Int.natCast_nonneg _) h1.1,
    Int.mul_le_mul_of_nonneg_left (by omega) (Int.natCast_nonneg _),
    phi_main_step it.nbFrames hN1 it.currLen cl it.currData cp it.repeatData h1.2.2.1⟩

/-- The frame increment of a separator is 1 or a byte of the packet. -/
theorem sepInc_lt {it : Iter} (hb : ∀ (i x : Nat), it.data[i]? = some x → x < 256) {b0 inc : Nat}
    (hi : SepInc it b0 inc) : inc < 256 := by
  rw [hi.2]
  split
  · omega
  · cases hg : it.data[it.currData + 1]? with
    | none => exact Nat.succ_pos _
    | some x => exact hb _ _ hg

theorem phi_main {it : Iter} (hrf : it.repeatFrame = 0) :
    phi it = (it.nbFrames : Int) * it.currLen + ((it.nbFrames - 1 : Nat) : Int) * ((it.currData : Int) - it.repeatData) := by
  unfold phi; rw [if_pos hrf]

/-- Stepping over an extension (with any new `trailing_short_len` that counts at most one more byte, any
    `last_long`) keeps the bounds and lowers the potential by the `curr_len - cl ≥ 1` bytes consumed. -/
theorem box_advance {it : Iter} (hB : Box it) (hrf : it.repeatFrame = 0) (hcl : 0 < it.currLen) (hN1 : 1 ≤ it.nbFrames)
    {b0 cp hs : Nat} {cl : Int} (hS : Skipped it b0 cp cl hs) (t : Int) (ht : 0 ≤ t ∧ t ≤ it.tsl + 1) (ll : Option Nat) :
    Box { it with currData := cp, currLen := cl, tsl := t, lastLong := ll } ∧ 0 ≤ cl ∧
    phi { it with currData := cp, currLen := cl, tsl := t, lastLong := ll } + 1 ≤ phi it := by
  have hN := hB
  have := skipped_advance hS hcl hN1
  refine ⟨?_, this.1, ?_⟩
  · unfold Box at hN ⊢; simp only; omega
  · rw [phi_main hrf]; unfold phi; simp only [hrf, if_true]; omega

theorem mainStep_box {it : Iter} {r : MFlow} (hb : ∀ (i x : Nat), it.data[i]? = some x → x < 256) (hB : Box it)
    (hrf : it.repeatFrame = 0) (hcl : 0 < it.currLen) (hN1 : 1 ≤ it.nbFrames) : MainStep it r →
    match r with
    | .cont it1 => Box it1 ∧ phi it1 ≤ phi it
    | .rep it1 => Box it1 ∧ phi it1 ≤ phi it
    | .ret it1 s => (Box it1 ∧ phi it1 ≤ phi it) ∧ ∀ e, s = .ext e → phi it1 + 1 ≤ phi it ∧ 0 ≤ it1.currLen := by
  have hN := hB
  unfold Box at hN
  have hreg : 0 ≤ ((it.nbFrames - 1 : Nat) : Int) * ((it.currData : Int) - it.repeatData) :=
    Int.mul_nonneg (Int.natCast_nonneg _) (by omega)
  have hm1 : (it.nbFrames : Int) * (-1) ≤ it.nbFrames * it.currLen :=
    Int.mul_le_mul_of_nonneg_left (by omega) (Int.natCast_nonneg _)
  have hphi := phi_main hrf
  have htsl : ∀ l : Nat, l < 2 → 0 ≤ it.tsl + l ∧ it.tsl + l ≤ it.tsl + 1 := fun l hl => by omega
  intro h
  cases h with
  | skip hS =>
    obtain ⟨b, _, p⟩ := box_advance hB hrf hcl hN1 hS it.tsl (by omega) it.lastLong
    exact ⟨b, by omega⟩
  | sep inc hS _ hi hne hlt =>
    have := skipped_advance hS hcl hN1
    have := sepInc_lt hb hi
    refine ⟨?_, ?_⟩
    · unfold Box; simp only; split <;> omega
    · rw [hphi]; unfold phi; simp only [hrf, if_true, Int.sub_self, Int.mul_zero]; split <;> omega
  | rep hS hid =>
    have := skipped_advance hS hcl hN1
    refine ⟨?_, ?_⟩
    · unfold Box; simp only; omega
    · rw [hphi]; unfold phi
      have hne : ¬ it.currFrame + 1 = 0 := by omega
      simp only [hne, if_false]
      split
      · -- the region `[repeat_data, curr_data)` is replayed for the `nb_frames - 1 - curr_frame` later frames
        have := natmul_mono (show (it.nbFrames - 1 - (it.currFrame + 1)) + 1 ≤ it.nbFrames - 1 by omega)
          (show (0 : Int) ≤ (it.currData : Int) - it.repeatData by omega)
        push_cast at this
        rw [Int.add_mul, Int.one_mul] at this
        omega
      · omega
  | invalid =>
    refine ⟨⟨?_, ?_⟩, fun e he => by cases he⟩
    · unfold Box; simp only; omega
    · rw [hphi]; unfold phi; simp only [hrf, if_true]; omega
  | sepBad inc hS _ hi _ hnf =>
    have := skipped_advance hS hcl hN1
    have := sepInc_lt hb hi
    refine ⟨⟨?_, ?_⟩, fun e he => by cases he⟩
    · unfold Box; simp only; omega
    · rw [hphi]; unfold phi; simp only [hrf, if_true]; omega
  | long hS =>
    obtain ⟨b, c, p⟩ := box_advance hB hrf hcl hN1 hS 0 (by omega) (some _)
    exact ⟨⟨b, by omega⟩, fun e _ => ⟨p, c⟩⟩
  | @short b0 _ _ _ hS =>
    obtain ⟨b, c, p⟩ := box_advance hB hrf hcl hN1 hS (it.tsl + (b0 % 2 : Nat))
      (htsl _ (Nat.mod_lt _ (by omega))) it.lastLong
    exact ⟨⟨b, by omega⟩, fun e _ => ⟨p, c⟩⟩

theorem iterInit_eq {d : Bytes} {len nbFrames : Int} {it : Iter} :
    iterInit d len nbFrames = .ok it ↔ 0 ≤ len ∧ 0 ≤ nbFrames ∧ nbFrames ≤ 48 ∧
      it = { data := (d.take len.toNat).toArray, len := len, currData := 0, repeatData := 0, lastLong := none,
             srcData := 0, currLen := len, repeatLen := 0, srcLen := 0, tsl := 0,
             nbFrames := nbFrames.toNat, frameMax := nbFrames, currFrame := 0, repeatFrame := 0, repeatL := 0 } := by
  unfold iterInit
  constructor
  · intro h
    split at h
    · cases h
    · split at h
      · cases h
      · exact ⟨by omega, by omega, by omega, (Res.ok.inj h).symm⟩
  · rintro ⟨h0, h1, h2, rfl⟩
    rw [if_neg (by omega), if_neg (by omega)]

theorem iterInit_box {d : Bytes} {len nbFrames : Int} {it : Iter}
    (h : iterInit d len nbFrames = .ok it) : Box it ∧ it.len = len ∧ 0 ≤ it.currLen ∧ phi it = it.nbFrames * len := by
  obtain ⟨h0, h1, h2, rfl⟩ := iterInit_eq.mp h
  refine ⟨?_, rfl, h0, ?_⟩
  · unfold Box; simp only; omega
  · unfold phi; simp

theorem iterReset_box {it : Iter} (hB : Box it) : Box (iterReset it) := by
  unfold Box iterReset at *; simp only; omega

theorem iterSetFrameMax_box {it : Iter} (hB : Box it) (k : Int) : Box (iterSetFrameMax it k) := hB

end Opus.ExtProofs
