import OpusProofs.SoftClipField
/-
  OpusProofs.SoftClipLoops — element-wise specifications of the loops of `opus_pcm_soft_clip`
  (single channel: stride 1, channel 0) over an ordered field, in plain field terms.
  `g x j` is sample `j` (0 outside the buffer).
-/
-- the `rfl` lemmas below do not use the order instances in scope; `omit` would change how their statements elaborate
set_option linter.unusedSectionVars false
namespace Opus.SoftClip
variable {F : Type} [Field F] [LinearOrder F] [IsStrictOrderedRing F]

abbrev g (x : Array F) (j : Nat) : F := x.getD j 0

/-- `MAX16(-1, MIN16(1, v))`: `clampTo 1 v`, spelt out because `OpusProps.C19.ramp_term_exact` states the ramp with it. -/
def clamp1 (v : F) : F := if v < -1 then -1 else if 1 < v then 1 else v
theorem clamp1_eq (v : F) : clamp1 v = clampTo 1 v := rfl
theorem clamp1_abs (v : F) : |clamp1 v| ≤ 1 := clamp1_eq v ▸ clampTo_abs zero_le_one v
theorem clamp1_sign (v : F) : SignKept v (clamp1 v) := .clamp one_pos v

/-- One sample of the frame-start ramp (opus.c:122-131): the image `v'` of a sample `v` on the side of `xi`, moved by the
    multiple `k/p ≥ 0` of an offset on that side and clamped. -/
theorem ramp_step {xi v v' off : F} (p k : Nat) (h : SignKept v v') (hxi : xi ≠ 0) (hv : 0 ≤ xi * v) (hoff : 0 ≤ xi * off) :
    |clamp1 (v' + off / (p : F) * (k : F))| ≤ 1 ∧ SignKept v (clamp1 (v' + off / (p : F) * (k : F))) := by
  have ht : 0 ≤ xi * (off / (p : F) * (k : F)) := by
    rw [show xi * (off / (p : F) * (k : F)) = xi * off * ((k : F) / (p : F)) by ring]
    exact mul_nonneg hoff (div_nonneg (Nat.cast_nonneg k) (Nat.cast_nonneg p))
  exact ⟨clamp1_abs _, (signKept_add_side h hxi hv ht).trans (clamp1_sign _)⟩

/-- A property of the samples of `[a, b)`, from the first sample and the rest (one step of a forward scan). -/
theorem forall_range_cons {P : Nat → Prop} {a b : Nat} (h0 : P a) (h : ∀ j, a + 1 ≤ j → j < b → P j) (j : Nat)
    (h1 : a ≤ j) (h2 : j < b) : P j := by
  by_cases hj : j = a
  · exact hj ▸ h0
  · exact h j (by omega) h2

section
variable (eps : F)
local notation "ops" => fieldOps eps

theorem leb_ops (a b : F) : @ClipOps.leb F ops a b = decide (a ≤ b) := rfl
theorem ltb_ops (a b : F) : @ClipOps.ltb F ops a b = decide (a < b) := rfl
theorem one_ops : @ClipOps.one F ops = 1 := rfl
theorem abs_ops (v : F) : @ClipOps.abs F ops v = |v| := rfl
theorem ofNat_ops (n : Nat) : @ClipOps.ofNat F ops n = (n : F) := rfl
theorem nl_ops (a v : F) : @nl F ops a v = v + a * v * v := rfl
theorem rd1 (x : Array F) (j : Nat) : @rd F ops x 1 0 j = g x j := by
  show x.getD (j * 1 + 0) 0 = x.getD j 0
  rw [Nat.mul_one, Nat.add_zero]
theorem wr1 (x : Array F) (i : Nat) (v : F) : @wr F x 1 0 i v = x.setIfInBounds i v := by
  show x.setIfInBounds (i * 1 + 0) v = _
  rw [Nat.mul_one, Nat.add_zero]

theorem sat1_ops (v : F) : @sat1 F ops v = clamp1 v := (sat_field eps zero_le_one v).trans (clamp1_eq v).symm
theorem sat2_ops (v : F) : @sat2 F ops v = clampTo 2 v := sat_field eps zero_le_two v

theorem g_oob (x : Array F) {j : Nat} (h : x.size ≤ j) : g x j = 0 := by
  simp [g, h]

theorem sat2_map_field (x : Array F) :
    (x.map (@sat2 F ops)).size = x.size ∧ ∀ j, g (x.map (@sat2 F ops)) j = clampTo 2 (g x j) := by
  refine ⟨Array.size_map .., fun j => ?_⟩
  by_cases hj : j < x.size
  · simp [g, hj, sat2_ops]
  · rw [g_oob _ (by simpa using hj), g_oob x (by omega), clampTo_of_abs_le (abs_zero.trans_le zero_le_two)]

theorem applyLoop_spec (x : Array F) (a : F) (s e : Nat) :
    (@applyLoop F ops x 1 0 a s e).size = x.size ∧
    ∀ j, g (@applyLoop F ops x 1 0 a s e) j =
      if s ≤ j ∧ j < e ∧ j < x.size then g x j + a * g x j * g x j else g x j :=
  updLoop_spec (α := F) 0 (fun _ v => v + a * v * v) e (fun x i => @applyLoop F ops x 1 0 a i e)
    (fun x i => by rw [@applyLoop.eq_def F ops, wr1, rd1]; rfl) x s

theorem rampLoop_spec (x : Array F) (delta : F) (i peak : Nat) :
    (@rampLoop F ops x 1 0 delta i peak).size = x.size ∧
    ∀ j, g (@rampLoop F ops x 1 0 delta i peak) j =
      if i ≤ j ∧ j < peak ∧ j < x.size then clamp1 (g x j + delta * ((peak - 1 - j : Nat) : F)) else g x j :=
  updLoop_spec (α := F) 0 (fun j v => clamp1 (v + delta * ((peak - 1 - j : Nat) : F))) peak
    (fun x i => @rampLoop F ops x 1 0 delta i peak)
    (fun x i => by rw [@rampLoop.eq_def F ops]; simp only [wr1, rd1, sat1_ops]; rfl) x i

/-- The continuation loop leaves the size and rewrites a sample only from `i` on and only where `x·a < 0`, to `x + a·x²`. -/
theorem contLoop_spec (x : Array F) (N : Nat) (a : F) (i : Nat) {y : Array F} (h : @contLoop F ops x 1 0 N a i = y) :
    y.size = x.size ∧
    ∀ j, g y j = g x j ∨ (i ≤ j ∧ g x j * a < 0 ∧ g y j = g x j + a * g x j * g x j) := by
  fun_induction @contLoop F ops x 1 0 N a i with
  | case1 x i hi v hle => subst h; exact ⟨rfl, fun _ => Or.inl rfl⟩
  | case2 x i hi v hle ih =>
    obtain ⟨i1, i3⟩ := ih h
    rw [wr1] at i1 i3
    have hv : v = g x i := rd1 eps x i
    have hneg : g x i * a < 0 := hv ▸ not_le.mp (mt (decide_eq_true (p := 0 ≤ v * a)) hle)
    have getD_set : ∀ j, g (x.setIfInBounds i (@nl F ops a v)) j = if i = j ∧ i < x.size then @nl F ops a v else g x j :=
      fun j => getD_setIfInBounds x i j _ 0
    refine ⟨by rw [i1]; simp, fun j => ?_⟩
    by_cases hij : i = j
    · subst hij
      obtain h1 : g y i = _ := (i3 i).resolve_right fun h => by omega
      rw [h1, getD_set]
      by_cases hb : i < x.size
      · rw [if_pos ⟨rfl, hb⟩]
        exact Or.inr ⟨le_refl _, hneg, by rw [nl_ops, hv]⟩
      · left; rw [if_neg (by omega)]
    · rcases i3 j with h1 | ⟨h0, h1, h2⟩
      · left; rw [h1, getD_set, if_neg (by omega)]
      · rw [getD_set, if_neg (by omega)] at h1 h2
        exact Or.inr ⟨by omega, h1, h2⟩
  | case3 x i hi => subst h; exact ⟨rfl, fun _ => Or.inl rfl⟩

/-- The test `x[i*C]>1 || x[i*C]<-1` of opus.c:77. -/
theorem exceeds_iff (v : F) : (@ClipOps.ltb F ops 1 v || @ClipOps.ltb F ops v (-1)) = true ↔ 1 < |v| := by
  rw [Bool.or_eq_true, lt_abs, lt_neg]
  exact or_congr decide_eq_true_iff decide_eq_true_iff

theorem findExceed_spec (x : Array F) (N i : Nat) {r : Nat} (h : @findExceed F ops x 1 0 N i = r) :
    r ≤ N ∧ (∀ j, i ≤ j → j < r → |g x j| ≤ 1) ∧ (r < N → i ≤ r ∧ 1 < |g x r|) := by
  fun_induction @findExceed F ops x 1 0 N i with
  | case1 i hi v hcond =>
    subst h
    exact ⟨le_of_lt hi, fun j h1 h2 => by omega, fun _ => ⟨le_refl _, rd1 eps x i ▸ (exceeds_iff eps v).mp hcond⟩⟩
  | case2 i hi v hcond ih =>
    obtain ⟨i1, i2, i3⟩ := ih h
    have hle : |g x i| ≤ 1 := rd1 eps x i ▸ not_lt.mp (mt (exceeds_iff eps v).mpr hcond)
    refine ⟨i1, forall_range_cons hle i2, fun hlt => ?_⟩
    obtain ⟨b1, b2⟩ := i3 hlt
    exact ⟨by omega, b2⟩
  | case3 i hi => subst h; exact ⟨le_refl _, fun j h1 h2 => by omega, fun hlt => absurd hlt (lt_irrefl _)⟩

/-- The backward scan stops at `r ≤ s`: the samples of `[r, s)` are on the side of `xi` (at `r = 0` this is what
    `Inv.turn` is played against), and either `r = 0` or the sample below `r` is on the other side. -/
theorem startScan_spec (x : Array F) (xi : F) (s : Nat) {r : Nat} (h : @startScan F ops x 1 0 xi s = r) :
    r ≤ s ∧ (∀ j, r ≤ j → j < s → 0 ≤ xi * g x j) ∧ (r = 0 ∨ xi * g x (r - 1) < 0) := by
  fun_induction @startScan F ops x 1 0 xi s generalizing r with
  | case1 => subst h; exact ⟨le_refl _, fun j h1 h2 => by omega, Or.inl rfl⟩
  | case2 s hc ih =>
    have hs : 0 ≤ xi * g x s := rd1 eps x s ▸ of_decide_eq_true (p := 0 ≤ xi * @rd F ops x 1 0 s) hc
    obtain ⟨i1, i2, i3⟩ := ih h
    refine ⟨by omega, fun j h1 h2 => ?_, i3⟩
    by_cases hjs : j = s
    · subst hjs; exact hs
    · exact i2 j h1 (by omega)
  | case3 s hc =>
    subst h
    have hs : xi * g x s < 0 := rd1 eps x s ▸ not_le.mp (mt (decide_eq_true (p := 0 ≤ xi * @rd F ops x 1 0 s)) hc)
    exact ⟨le_refl _, fun j h1 h2 => by omega, Or.inr hs⟩

/-- The forward scan from `e` with running maximum `m`, attained at position `p`, stops at `e'`: the samples of `[e, e')`
    are on the side of `xi` and at most `m'` in magnitude; the sample at `e'`, if any, is on the other side; the maximum is
    attained at `p'`, which is the caller's `p` (it never moved) or lies in `[e, e')`; and the scan advances when its first
    sample is on the side of `xi` (the progress that the run-time guard of `outer` asks for: `x[i]·x[i] ≥ 0`). -/
theorem endScan_spec (x : Array F) (N : Nat) (xi : F) (e : Nat) (m : F) (p : Nat) (he : e ≤ N) (hm : m = |g x p|)
    {e' : Nat} {m' : F} {p' : Nat} (h : @endScan F ops x 1 0 N xi e m p = (e', m', p')) :
    e ≤ e' ∧ e' ≤ N ∧ (∀ j, e ≤ j → j < e' → 0 ≤ xi * g x j ∧ |g x j| ≤ m') ∧ m ≤ m' ∧
    (e' < N → xi * g x e' < 0) ∧ m' = |g x p'| ∧ (p' = p ∨ (e ≤ p' ∧ p' < e')) ∧
    (e < N → 0 ≤ xi * g x e → e < e') := by
  fun_induction @endScan F ops x 1 0 N xi e m p with
  | case1 e m p hlt v h1 h2 ih =>
    have hv : v = g x e := rd1 eps x e
    have habs : @ClipOps.abs F ops v = |g x e| := by rw [abs_ops, hv]
    obtain ⟨i1, i2, i3, i4, i5, i6, i7, _⟩ := ih (by omega) habs h
    have hside : 0 ≤ xi * g x e := hv ▸ of_decide_eq_true (p := 0 ≤ xi * v) h1
    have hlt : m < |g x e| := hv ▸ of_decide_eq_true (p := m < |v|) h2
    rw [habs] at i4
    exact ⟨Nat.le_of_succ_le i1, i2, forall_range_cons ⟨hside, i4⟩ i3, le_trans (le_of_lt hlt) i4, i5, i6, Or.inr (by omega),
      fun _ _ => i1⟩
  | case2 e m p hlt v h1 h2 ih =>
    obtain ⟨i1, i2, i3, i4, i5, i6, i7, _⟩ := ih (by omega) hm h
    have hv : v = g x e := rd1 eps x e
    have hside : 0 ≤ xi * g x e := hv ▸ of_decide_eq_true (p := 0 ≤ xi * v) h1
    have hle : |g x e| ≤ m := hv ▸ not_lt.mp (mt (decide_eq_true (p := m < |v|)) h2)
    exact ⟨Nat.le_of_succ_le i1, i2, forall_range_cons ⟨hside, le_trans hle i4⟩ i3, i4, i5, i6, by omega, fun _ _ => i1⟩
  | case3 e m p hlt v h1 =>
    obtain ⟨rfl, rfl, rfl⟩ : e = e' ∧ m = m' ∧ p = p' := by simpa using h
    have hv : v = g x e := rd1 eps x e
    have hside : xi * g x e < 0 := hv ▸ not_le.mp (mt (decide_eq_true (p := 0 ≤ xi * v)) h1)
    exact ⟨le_refl _, he, fun j h1 h2 => by omega, le_refl _, fun _ => hside, hm, Or.inl rfl,
      fun _ h0 => absurd h0 (not_le.mpr hside)⟩
  | case4 e m p hlt =>
    obtain ⟨rfl, rfl, rfl⟩ : e = e' ∧ m = m' ∧ p = p' := by simpa using h
    exact ⟨le_refl _, he, fun j h1 h2 => by omega, le_refl _, fun hlt' => absurd hlt' hlt, hm, Or.inl rfl,
      fun hlt' => absurd hlt' hlt⟩

end
end Opus.SoftClip
