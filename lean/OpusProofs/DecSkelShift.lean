import OpusProofs.DecSkelNat
/-
  OpusProofs.DecSkelShift — two-run simulation: decoding the same frames found at packet offsets that differ by `d`
  (e.g. a packet and its padded / repacketised form), with DSP oracles that answer identically when the frame offset
  they are shown is shifted by `d`, gives the same return values, the same decoder states and oracle-call counters, and
  the same event logs up to a shift of the logged packet offsets.  It is the view `shiftMap d` of `OpusProofs.DecSkelNat`.
-/
namespace Opus.DecSkel
open Opus Opus.Framing

/-- The same run with all logged packet offsets shifted. -/
def shiftRun (d : Int) (r : Run) : Run := { r with log := r.log.map (Ev.shiftOff d) }

/-- `o2` answers on frames shifted by `d` what `o1` answers on the unshifted ones ("the DSP reads the same frame bytes at
    a shifted address"); SILK and the range-decoder symbol calls are not shown offsets at all. -/
structure OracleShift (o1 o2 : Oracle) (d : Int) : Prop where
  silk : ∀ k a, o2.silk k a = o1.silk k a
  celt : ∀ k a, o2.celt k (a.shiftOff d) = o1.celt k a
  bit : ∀ k a b, o2.bit k a b = o1.bit k a b
  uint : ∀ k a b, o2.uint k a b = o1.uint k a b

/- What `shiftRun` leaves alone, for users of the definition (the traversal goes through `shiftMap` and needs none of these). -/
@[simp] theorem shiftRun_st (d : Int) (r : Run) : (shiftRun d r).st = r.st := rfl
@[simp] theorem shiftRun_k (d : Int) (r : Run) : (shiftRun d r).k = r.k := rfl
theorem shiftRun_push_same (d : Int) (r : Run) (e : Ev) (h : e.shiftOff d = e) : shiftRun d (r.push e) = (shiftRun d r).push e := by
  simp [shiftRun, Run.push, h]

theorem stepFinish_shift (d : Int) (b : Body) (red : Red) (r : Run) :
    stepFinish (b.shift d) red (shiftRun d r) = shiftRun d (stepFinish b red r) := rfl

/-- The view: offsets moved, gain and events otherwise untouched. -/
def shiftMap (d : Int) : RunMap := { d, γ := id, φ := fun e => some (e.shiftOff d) }

theorem shiftMap_run (d : Int) (r : Run) : (shiftMap d).run r = shiftRun d r := by
  simp only [RunMap.run, shiftMap, shiftRun, List.filterMap_eq_map', RunMap.st, id]

theorem shiftMap_natural {o1 o2 : Oracle} {d : Int} (h : OracleShift o1 o2 d) : (shiftMap d).Natural o1 o2 :=
  { silk := h.silk, celt := h.celt, bit := h.bit, uint := h.uint, γ0 := rfl, ev := fun _ _ => rfl,
    gain := fun _ _ _ => rfl }

/-- Two-run simulation of `opus_decode_native`: two byte strings whose parses report the same frame sizes (and count)
    and whose TOC bytes agree up to the frame-count code — e.g. a packet and its padded / unpadded / repacketised form —
    decoded from the same state with the same arguments by DSP oracles that answer identically on frames shifted by
    `d = payloadOffset₂ − payloadOffset₁`: same return value, same final decoder state and oracle-call counter, and the
    same inner-call / access log up to the shift of the logged packet offsets.  (`packet_offset` itself differs.) -/
theorem decodeNative_shift {o1 o2 : Oracle} (bs1 bs2 : Bytes) (sd1 sd2 : Bool) (p1 p2 : Parsed)
    (hp1 : parseImpl sd1 bs1 = .ok p1) (hp2 : parseImpl sd2 bs2 = .ok p2) (hsizes : p1.sizes = p2.sizes)
    (hcount : p1.count = p2.count) (htoc : bs1.headD 0 / 4 = bs2.headD 0 / 4)
    (h : OracleShift o1 o2 ((p2.payloadOffset : Int) - (p1.payloadOffset : Int)))
    (pcm : Ptr) (frame_size fec : Int) (sc : Bool) (r : Run) :
    (decodeNative o2 (some bs2) bs2.length pcm frame_size fec sd2 sc
        (shiftRun ((p2.payloadOffset : Int) - (p1.payloadOffset : Int)) r)).ret =
      (decodeNative o1 (some bs1) bs1.length pcm frame_size fec sd1 sc r).ret ∧
    (decodeNative o2 (some bs2) bs2.length pcm frame_size fec sd2 sc
        (shiftRun ((p2.payloadOffset : Int) - (p1.payloadOffset : Int)) r)).run =
      shiftRun ((p2.payloadOffset : Int) - (p1.payloadOffset : Int)) (decodeNative o1 (some bs1) bs1.length pcm frame_size fec sd1 sc r).run := by
  have h1 := parse_ok_pos hp1
  have h2 := parse_ok_pos hp2
  have hn := decodeNative_nat (shiftMap_natural h) (e := (p2.packetOffset : Int) - p1.packetOffset) (some bs1) (some bs2) bs1.length bs2.length sd1 sd2
    (by simp only [Option.isNone_some, Bool.false_eq_true, or_false]; omega) (by omega)
    (by simp only [Option.getD_some, Int.toNat_natCast, List.take_length, hp1, hp2]
        exact ⟨hsizes, hcount, htoc, by show _ = _ + (_ - _); omega, by omega⟩) pcm frame_size fec sc r
  rw [shiftMap_run] at hn
  exact ⟨hn.ret, hn.run.trans (shiftMap_run _ _)⟩

end Opus.DecSkel
