import OpusProofs.RangeCoderRoundTrip
import OpusProofs.RangeCoderFrame
import OpusProofs.RangeCoderStageA
import OpusProofs.RangeCoderNest
/-
  OpusProofs.RangeCoderBudget — C08: if the bit usage reported at the end does not exceed
  `8 * storage`, no write of the whole run fails and `ec_enc_done` succeeds.  With it: the exact bit
  accounting of error-free runs (`Acct`), and how much one call can raise `ec_tell`.
-/
namespace Opus.RangeCoder

/-- Exact bit accounting of an error-free encoder: `nbits_total` counts 33 initial bits, 8 per
    range-coder digit and the raw bits. -/
def Acct (c : Enc) : Prop := c.nbitsTotal = 33 + 8 * encM c + rawN c

theorem Nest.acct {k : Nat} {c c' : Enc} (h : Nest k c c') (ac : Acct c) : Acct c' := by
  have := h.encM_eq; have := h.nbits
  unfold Acct at ac ⊢; omega

theorem acct_op (c : Enc) (op : Op) (ri : RunInv c) (ac : Acct c) (hl : op.LegalAt c)
    (hn : (encOp c op).nbitsTotal < 4294967296) (herr : (encOp c op).error = 0) : Acct (encOp c op) := by
  obtain ⟨_, nest⟩ := (step_op c op ri hl hn herr).nest
  exact nest.acct ac

theorem acct_run (ops : List Op) : ∀ (c : Enc), RunInv c → Acct c → LegalRun c ops →
    (encRun c ops).nbitsTotal < 4294967296 → (encRun c ops).error = 0 →
    Acct (encRun c ops) ∧ RunInv (encRun c ops) := by
  induction ops with
  | nil => intro c ri ac _ _ _; exact ⟨ac, ri⟩
  | cons op ops ih =>
    intro c ri ac hl hn herr
    obtain ⟨hn1, herr1⟩ := encRun_head_ok c op ops hn herr
    exact ih _ (step_op c op ri hl.1 hn1 herr1).run (acct_op c op ri ac hl.1 hn1 herr1) hl.2 hn herr

theorem carryOut_noerr (c : Enc) (cc : Nat) (wf : EncWf c) (he : c.error = 0) (h : encM c + c.endOffs ≤ c.storage) :
    (carryOut c cc).error = 0 :=
  (carryOut_error_iff c cc wf.offs_le wf.storage_le).2 ⟨he, Or.inr h⟩

/-- `ec_enc_normalize` cannot fail while the digits it pushes (8 accounted bits each) still fit in
    front of the raw bytes.  (An induction of its own: `encNormalize_ind` presupposes that the END state has no error,
    which is the claim here.) -/
theorem encNormalize_noerr (c : Enc) (pre : EncPre c) (he : c.error = 0)
    (hn : (encNormalize c).nbitsTotal < 4294967296)
    (hfit : 8 * (encM c + c.endOffs) + ((encNormalize c).nbitsTotal - c.nbitsTotal) ≤ 8 * c.storage) :
    (encNormalize c).error = 0 := by
  induction hm : 8388609 - c.rng using Nat.strongRecOn generalizing c with
  | _ m ih =>
    by_cases h : 0 < c.rng ∧ c.rng ≤ 8388608
    · rw [encNormalize_step c h] at hn hfit ⊢
      have hnb := encNormalize_nbits_ge (normStep c)
      have hnb2 : (normStep c).nbitsTotal = c.nbitsTotal + 8 := rfl
      have herr1 : (normStep c).error = 0 := carryOut_noerr c _ pre.wf he (by omega)
      obtain ⟨_, s1, _, s3, s4, _, _, s7, s8, _⟩ := normStep_spec c pre h.2 (by omega) herr1
      exact ih (8388609 - (normStep c).rng) (by rw [s3]; omega) (normStep c) s1 herr1 hn
        (by rw [s4, s7, s8]; omega) rfl
    · rw [encNormalize_done c h]; exact he

theorem encDoneFlush_noerr (c : Enc) (w u : Nat) (he : c.error = 0)
    (h : c.offs + c.endOffs + u / 8 ≤ c.storage) : (encDoneFlush c w u).1.error = 0 := by
  fun_induction encDoneFlush c w u with
  | case1 c w u hu ih =>
    have hw : c.offs + c.endOffs < c.storage := by omega
    apply ih
    · rw [writeByteAtEnd_eq _ hw]; exact he
    · rw [writeByteAtEnd_eq _ hw]; simp only; omega
  | case2 c w u hu => exact he

theorem ilog_le_32 {c : Ctx} (hr : RngOk c) : ilog c.rng ≤ 32 := (ilog_range hr.1 hr.2).2

theorem encM_ge_offs (c : Enc) : c.offs ≤ encM c := by unfold encM; omega

theorem rawN_ge (c : Enc) : 8 * c.endOffs ≤ rawN c := by unfold rawN; omega

theorem noerr_prim (c : Enc) (op : Op) (ri : RunInv c) (he : c.error = 0) (ac : Acct c) (hl : op.Legal)
    {r a b : Nat} {first : Bool} (hsub : op.sub c.rng = some (r, a, b, first))
    (hn : (encOp c op).nbitsTotal < 4294967296) (hfit : tell (encOp c op) ≤ 8 * ((encOp c op).storage : Int)) :
    (encOp c op).error = 0 := by
  have hil := ilog_le_32 (encOp_stageA c op ⟨ri.inv.rng_lo, ri.inv.rng_hi⟩ hl).1
  obtain ⟨ok, heq⟩ := encOp_sub c op ri.inv hl hsub
  rw [heq] at hn hfit hil ⊢
  rw [encNormalize_frame (·.storage) writeByte_storage (fun _ _ => rfl) (fun _ _ => rfl) (fun _ _ _ _ => rfl),
    encSub_storage] at hfit
  have hnb := encNormalize_nbits_ge (encSub c r a b first)
  rw [encSub_nbitsTotal] at hnb
  have hro := rawN_ge c
  unfold Acct at ac
  unfold tell at hfit
  exact encNormalize_noerr _ (encSub_spec c r a b first ri.inv ok).1 (by rw [encSub_error]; exact he) hn
    (by rw [encSub_encM, encSub_endOffs, encSub_nbitsTotal, encSub_storage]; omega)

theorem noerr_bits (c : Enc) (v n : Nat) (ri : RunInv c) (he : c.error = 0) (ac : Acct c) (hn2 : n ≤ 25)
    (hfit : tell (encBits c v n) ≤ 8 * (c.storage : Int)) : (encBits c v n).error = 0 := by
  have hil := ilog_le_32 (c := c) ⟨ri.inv.rng_lo, ri.inv.rng_hi⟩
  obtain ⟨b1, b2⟩ := encBits_rn c v n
  have hoffs := encM_ge_offs c
  unfold tell at hfit
  rw [b1, b2] at hfit
  unfold Acct rawN at ac
  show (if c.nendBits + n > 32 then encBitsFlush c c.endWindow c.nendBits
    else (c, c.endWindow, c.nendBits)).1.error = 0
  split
  · rw [encBitsFlush_eq _ _ _ (by have := ri.raw.nend_le; omega)]
    exact encDoneFlush_noerr _ _ _ he (by omega)
  · exact he

/-- Any operation of the round-trip theorems whose resulting `ec_tell` fits the buffer cannot fail. -/
theorem noerr_op (c : Enc) (op : Op) (ri : RunInv c) (he : c.error = 0) (ac : Acct c) (hl : op.LegalAt c)
    (hn : (encOp c op).nbitsTotal < 4294967296) (hfit : tell (encOp c op) ≤ 8 * ((encOp c op).storage : Int)) :
    (encOp c op).error = 0 := by
  by_cases hp : op.isPrim = true
  · obtain ⟨r, a, b, first, hsub⟩ := Op.isPrim_sub hp c.rng
    exact noerr_prim c op ri he ac ((Op.isPrim_legalAt hp c).1 hl) hsub hn hfit
  cases op with
  | bits v n =>
    simp only [encOp] at hfit ⊢
    rw [(encBits_fields _ _ _).2.1] at hfit
    exact noerr_bits c v n ri he ac hl.2.1 hfit
  | patchInitial v n => exact absurd hl (by simp [Op.LegalAt])
  | shrink size => exact he
  | uint v ft =>
    simp only [encOp] at hn hfit ⊢
    rcases uint_shape hl.1 hl.2.1 hl.2.2 with ⟨ft', -, hleg, eu, -⟩ | ⟨ftb, ft', -, h24, -, -, hleg, eu, -⟩
    · rw [eu] at hn hfit ⊢
      exact noerr_prim c (.encode v (v + 1) ft') ri he ac hleg rfl hn hfit
    · rw [eu] at hn hfit ⊢
      generalize v / 2 ^ ftb = fl at *
      -- `ec_tell` after the symbol is at most `ec_tell` after the raw bits that follow it
      obtain ⟨b1, b2⟩ := encBits_rn (encode c fl (fl + 1) ft') (v % 2 ^ ftb) ftb
      rw [(encBits_fields _ _ _).2.1] at hfit
      have hn1 : (encOp c (.encode fl (fl + 1) ft')).nbitsTotal < 4294967296 := by simp only [encOp]; omega
      have e1 := noerr_prim c (.encode fl (fl + 1) ft') ri he ac hleg rfl hn1
        (by simp only [encOp]; unfold tell at hfit ⊢; rw [b1, b2] at hfit; omega)
      have s1 := step_prim c (.encode fl (fl + 1) ft') ri hleg rfl hn1 e1
      have a1 := acct_op c (.encode fl (fl + 1) ft') ri ac hleg hn1 e1
      simp only [encOp] at e1 s1 a1
      exact noerr_bits _ _ _ s1.run e1 a1 (by omega) hfit
  -- the five symbol coders, for which `isPrim` is `true` by `rfl`
  | _ => exact absurd rfl hp

/-- The range-coder half of `ec_enc_done` cannot fail while the bits it still has to output (at
    most `33 - ilog rng`) fit in front of the raw bytes. -/
theorem doneRange_noerr (c : Enc) (ri : RunInv c) (he : c.error = 0) (hn : c.nbitsTotal < 4294967296)
    (h : 8 * (encM c + c.endOffs) + (33 - ilog c.rng) ≤ 8 * c.storage) : (doneRange c).1.error = 0 := by
  obtain ⟨l0, hl, h9, hil, -⟩ := encDoneEnd_spec c ri.inv
  obtain ⟨hE32, hcarry⟩ := encDoneEnd_carry c ri.inv
  have wf := ri.inv.wf
  have hext := ri.inv.ext_bound
  unfold doneRange
  rw [hl]
  generalize (encDoneEnd c).2 = E at *
  have flush : ∀ c1 : Enc, EncWf c1 → c1.error = 0 → encM c1 + c1.endOffs ≤ c1.storage →
      (if c1.rem ≥ 0 ∨ c1.ext > 0 then carryOut c1 0 else c1).error = 0 := by
    intro c1 wf1 e1 h1
    split
    · exact carryOut_noerr c1 0 wf1 e1 h1
    · exact e1
  rcases (show l0 = 0 ∨ (1 ≤ l0 ∧ l0 ≤ 8) ∨ l0 = 9 by omega) with h0 | h1 | h2
  · subst h0
    rw [encDoneOut_nonpos c E _ (by omega)]
    exact flush c wf he (by omega)
  · rw [encDoneOut_pos c E _ (by omega), encDoneOut_nonpos _ _ _ (by omega)]
    dsimp only
    have e1 := carryOut_noerr c (E / 8388608) wf he (by omega)
    obtain ⟨-, wf1, -, m1, -⟩ := doneOut_step c E rfl wf hE32 hcarry (by omega) e1
    exact flush _ wf1 e1 (by rw [carryOut_endOffs, carryOut_storage]; omega)
  · subst h2
    rw [encDoneOut_pos c E _ (by omega), encDoneOut_pos _ _ _ (by omega), encDoneOut_nonpos _ _ _ (by omega)]
    dsimp only
    have e1 := carryOut_noerr c (E / 8388608) wf he (by omega)
    obtain ⟨-, wf1, -, m1, -, -, -, x1⟩ := doneOut_step c E rfl wf hE32 hcarry (by omega) e1
    have e2 := carryOut_noerr (carryOut c (E / 8388608)) (E * 256 % 2147483648 / 8388608) wf1 e1
      (by rw [carryOut_endOffs, carryOut_storage]; omega)
    obtain ⟨-, wf2, -, m2, -⟩ :=
      doneOut_step _ (E * 256 % 2147483648) rfl wf1 (by omega) (fun h => by omega) (by omega) e2
    exact flush _ wf2 e2 (by rw [carryOut_endOffs, carryOut_storage, carryOut_endOffs, carryOut_storage]; omega)

/-- "If the bit usage reported at the end does not exceed 8 x buffer size, finishing the stream
    cannot fail" — for an error-free encoder state with exact bit accounting. -/
theorem encDone_noerr (c : Enc) (ri : RunInv c) (he : c.error = 0) (ac : Acct c)
    (hn : c.nbitsTotal < 4294967296) (hfit : tell c ≤ 8 * (c.storage : Int)) : (encDone c).error = 0 := by
  have hr : RngOk c := ⟨ri.inv.rng_lo, ri.inv.rng_hi⟩
  unfold tell at hfit
  unfold Acct rawN at ac
  have hil := ilog_le_32 hr
  have herr2 : (doneRange c).1.error = 0 := doneRange_noerr c ri he hn (by omega)
  obtain ⟨l0, T, hl1, hT, hil0, hbits, _, wf2, _, sr, _, _, _⟩ := doneRange_spec c ri.inv hn herr2
  rw [encDone_eq', hl1]
  generalize (doneRange c).1 = c2 at *
  obtain ⟨s1, s2, s3, s4, s5, s6⟩ := sr
  unfold doneRaw
  have hfl : c2.offs + c2.endOffs + c2.nendBits / 8 ≤ c2.storage := by rw [s1, s2, s4]; omega
  have herr3 := encDoneFlush_noerr c2 c2.endWindow c2.nendBits herr2 hfl
  obtain ⟨B3, heq, -⟩ := encDoneFlush_spec c2 c2.endWindow c2.nendBits wf2.offs_le wf2.storage_le herr3
  rw [heq] at herr3 ⊢
  apply encDoneTail_noerr _ _ _ _ herr3
  intro hu
  rw [show (-(-(T : Int))).toNat = T by omega]
  show c2.endOffs + c2.nendBits / 8 < c2.storage ∧
    ¬ (c2.offs + (c2.endOffs + c2.nendBits / 8) ≥ c2.storage ∧ T < c2.nendBits % 8)
  rw [s1, s2, s4]
  omega

theorem legalAt_shrinkOk {c : Enc} {op : Op} (h : op.LegalAt c) : ShrinkOk c op := by
  cases op with
  | shrink size => exact h
  | _ => trivial

theorem shrinksOk_of_legalRun (ops : List Op) : ∀ (c : Enc), LegalRun c ops → ShrinksOk c ops := by
  induction ops with
  | nil => intro _ _; trivial
  | cons op ops ih => intro c h; exact ⟨legalAt_shrinkOk h.1, ih _ h.2⟩

theorem tell_run_mono (ops : List Op) : ∀ (c : Enc), RngOk c → LegalRun c ops →
    tell c ≤ tell (encRun c ops) ∧ RngOk (encRun c ops) := by
  induction ops with
  | nil => intro c hr _; exact ⟨Int.le_refl _, hr⟩
  | cons op ops ih =>
    intro c hr hl
    obtain ⟨h1, h2⟩ := encOp_stageA c op hr (legalAt_legal hl.1)
    obtain ⟨i1, i2⟩ := ih (encOp c op) h1 hl.2
    exact ⟨Int.le_trans (tell_mono_of_adv hr h1 h2) i1, i2⟩

theorem tellFrac_run_mono (ops : List Op) : ∀ (c : Enc), RngOk c → LegalRun c ops → 33 ≤ c.nbitsTotal →
    (encRun c ops).nbitsTotal < 536870912 → tellFrac c ≤ tellFrac (encRun c ops) := by
  induction ops with
  | nil => intro c _ _ _ _; exact Nat.le_refl _
  | cons op ops ih =>
    intro c hr hl hn hn2
    obtain ⟨h1, h2⟩ := encOp_stageA c op hr (legalAt_legal hl.1)
    exact Nat.le_trans (tellFrac_mono_of_adv hr h1 hn (Nat.lt_of_le_of_lt (encRun_nbits_mono ops _) hn2) h2)
      (ih _ h1 hl.2 (Nat.le_trans hn (encOp_nbits_mono c op)) hn2)

/-- No operation of a run fails if the `ec_tell` reported at its end fits the final buffer size. -/
theorem budget_run (ops : List Op) : ∀ (c : Enc), RunInv c → c.error = 0 → Acct c → LegalRun c ops →
    (encRun c ops).nbitsTotal < 4294967296 →
    tell (encRun c ops) ≤ 8 * ((encRun c ops).storage : Int) →
    (encRun c ops).error = 0 ∧ RunInv (encRun c ops) ∧ Acct (encRun c ops) := by
  induction ops with
  | nil => intro c ri he ac _ _ _; exact ⟨he, ri, ac⟩
  | cons op ops ih =>
    intro c ri he ac hl hn hfit
    have hr : RngOk c := ⟨ri.inv.rng_lo, ri.inv.rng_hi⟩
    have hr1 := (encOp_stageA c op hr (legalAt_legal hl.1)).1
    have hn1 : (encOp c op).nbitsTotal < 4294967296 := Nat.lt_of_le_of_lt (encRun_nbits_mono ops _) hn
    have fr1 := (frame_encOp c op (frame_self c ri.inv.wf.offs_le ri.inv.wf.storage_le)
      (legalAt_shrinkOk hl.1)).rebase
    have hsto := (frame_encRun ops (encOp c op) fr1 (shrinksOk_of_legalRun ops _ hl.2)).sto
    have hmono := (tell_run_mono ops (encOp c op) hr1 hl.2).1
    have hfit1 : tell (encOp c op) ≤ 8 * ((encOp c op).storage : Int) := by
      have : ((encRun (encOp c op) ops).storage : Int) ≤ ((encOp c op).storage : Int) := by omega
      have h3 : tell (encRun (encOp c op) ops) ≤ 8 * ((encRun (encOp c op) ops).storage : Int) := hfit
      omega
    have e1 := noerr_op c op ri he ac hl.1 hn1 hfit1
    exact ih (encOp c op) (step_op c op ri hl.1 hn1 e1).run e1 (acct_op c op ri ac hl.1 hn1 e1) hl.2 hn hfit

theorem acct_encInit (buf : List Nat) (size : Nat) : Acct (encInit buf size) := by
  unfold Acct; rw [encInit_encM, encInit_rawN]; rfl

theorem done_within_budget_all (buf : List Nat) (size : Nat) (ops : List Op) (hs : size ≤ buf.length)
    (hb : BytesOk buf) (hl : LegalRun (encInit buf size) ops)
    (hn : (encRun (encInit buf size) ops).nbitsTotal < 4294967296)
    (hfit : tell (encRun (encInit buf size) ops) ≤ 8 * ((encRun (encInit buf size) ops).storage : Int)) :
    (encodeAll buf size ops).error = 0 := by
  obtain ⟨e1, r1, a1⟩ := budget_run ops (encInit buf size) (runInv_encInit buf size hs hb) rfl
    (acct_encInit buf size) hl hn hfit
  exact encDone_noerr _ r1 e1 a1 hn hfit

/-- The bytes an error-free encoder has written so far are strictly below its bit count:
    `8·(offs + end_offs) + 1 ≤ ec_tell` (in fact for all digits, committed or pending). -/
theorem bytes_lt_tell (c : Enc) (ri : RunInv c) (ac : Acct c) :
    8 * ((encM c : Int) + c.endOffs) + 1 ≤ tell c ∧ 8 * ((c.offs : Int) + c.endOffs) + 1 ≤ tell c := by
  have hil := ilog_le_32 (c := c) ⟨ri.inv.rng_lo, ri.inv.rng_hi⟩
  have h1 := encM_ge_offs c
  unfold Acct rawN at ac
  unfold tell
  omega

theorem normRN_tell (rng nbits : Nat) (h0 : 0 < rng) (h1 : rng ≤ 2147483648) :
    ((normRN rng nbits).2 : Int) - ilog (normRN rng nbits).1 = (nbits : Int) - ilog rng := by
  fun_induction normRN rng nbits with
  | case1 rng nbits h ih =>
    have e : u32 (rng * 256) = rng * 256 := by unfold u32; omega
    rw [e] at ih ⊢
    have := ih (by omega) (by omega)
    rw [this, ilog_mul_256 (by omega)]
    omega
  | case2 rng nbits h => rfl

theorem ilog_div_pow (x k : Nat) : ilog x ≤ ilog (x / 2 ^ k) + k := by
  rw [ilog_lt_iff, Nat.pow_add]
  have h := (ilog_lt_iff (v := x / 2 ^ k) (k := ilog (x / 2 ^ k))).1 (Nat.le_refl _)
  exact (Nat.div_lt_iff_lt_mul (Nat.pow_pos (by decide))).1 h

/-- `ec_tell` after a primitive call, from the sub-range it selects (normalisation does not change it). -/
theorem tell_prim (c : Enc) (op : Op) (hr : RngOk c) (hl : op.Legal) {r a b : Nat} {first : Bool}
    (hsub : op.sub c.rng = some (r, a, b, first)) :
    tell (encOp c op) = (c.nbitsTotal : Int) - ilog (subRho c.rng r a b first) := by
  have h := encOp_rn_sym c op hr hl hsub
  have ok := Op.sub_ok hl hr.1 hsub
  obtain ⟨p1, p2⟩ := subRho_bounds first ok
  have ht := normRN_tell (subRho c.rng r a b first) c.nbitsTotal p1 (by have := hr.2; omega)
  unfold symRN at h
  unfold tell
  rw [← h] at ht
  exact ht

theorem subRho_ge {rng r a b : Nat} (first : Bool) (ok : SubOk rng r a b) : r ≤ subRho rng r a b first := by
  obtain ⟨f1, f2, f3⟩ := ok.facts
  unfold subRho; split
  · omega
  · rw [f2]; omega

/-- A symbol whose unit `r` is at least `rng / 2^k` raises `ec_tell` by at most `k`: its sub-range is at least one unit. -/
theorem tell_prim_le (c : Enc) (op : Op) (hr : RngOk c) (hl : op.Legal) {r a b : Nat} {first : Bool}
    (hsub : op.sub c.rng = some (r, a, b, first)) (k : Nat) (h : c.rng / 2 ^ k ≤ r) :
    tell (encOp c op) ≤ tell c + k := by
  rw [tell_prim c op hr hl hsub]
  have h1 := ilog_div_pow c.rng k
  have h2 := ilog_mono (Nat.le_trans h (subRho_ge first (Op.sub_ok hl hr.1 hsub)))
  unfold tell
  omega

/-- 256 values fit in one symbol: no raw bits. -/
theorem encUint_256 (c : Enc) (u : Nat) : encUint c u 256 = encode c u (u + 1) 256 := by
  unfold encUint
  simp only [show ilog (256 - 1) = 8 by decide, Nat.lt_irrefl, gt_iff_lt, if_false]

/-- `ec_enc_bit_logp(·, logp)` raises `ec_tell` by at most `logp`, `ec_enc_uint(·, 256)` by at most 8. -/
theorem tell_step_bounds (c : Enc) (hr : RngOk c) (v logp : Nat) (h1 : 1 ≤ logp) (h2 : logp ≤ 15) (u : Nat)
    (hu : u < 256) :
    tell (encOp c (.bitLogp v logp)) ≤ tell c + logp ∧ tell (encOp c (.uint u 256)) ≤ tell c + 8 := by
  constructor
  · have hl : (Op.bitLogp v logp).Legal := ⟨h1, h2⟩
    by_cases hv : v ≠ 0
    · exact tell_prim_le c _ hr hl (r := c.rng / 2 ^ logp) (a := 1) (b := 0) (first := false)
        (by simp only [Op.sub]; rw [if_pos hv]) logp (Nat.le_refl _)
    · exact tell_prim_le c _ hr hl (r := c.rng / 2 ^ logp) (a := 2 ^ logp) (b := 1) (first := true)
        (by simp only [Op.sub]; rw [if_neg hv]) logp (Nat.le_refl _)
  · show tell (encUint c u 256) ≤ _
    rw [encUint_256]
    exact tell_prim_le c (.encode u (u + 1) 256) hr ⟨by omega, by omega, by omega, by omega⟩ rfl 8 (Nat.le_refl _)

end Opus.RangeCoder
