import OpusProofs.CeltHdrMain
import OpusProofs.CeltBandsFault
import OpusProofs.CeltBandsTri
/-
  OpusProofs.CeltBandsSync — lock-step of the encoder model of the band data (OpusModel/CeltBandsEnc.lean) with C03's
  decoder model (OpusModel/CeltBands.lean) on a finished packet: the framework (`Sim`, `Step`, `StepV`), the three
  primitive coder calls, the rules by which lock-step passes from the parts of a function to the function; fine energy, `quant_band_n1`, finalise; `compute_theta` (step, uniform and triangular PDF,
  the `inv` flag), `quant_partition` (leaf and split recursion), `quant_band`, `quant_band_stereo` and the band loop of
  `quant_all_bands`.
  All the arithmetic that selects the next symbol is the same term on both sides (the encoder model uses C03's pure
  functions); what has to be shown is that it is evaluated on equal inputs: `remaining_bits`, `ec_tell_frac`,
  `ec_tell` and the decoded values.
-/
namespace OpusProofs.CeltHdr
open Opus Opus.RangeCoder Opus.CeltSymsEnc
open Opus.CeltBandsEnc (ESt)
open Opus.CeltBands (BSt Theta)

open Opus.CeltSyms (CEv)

/-- the entropy-decoder events C03's model records for one call of the packet, answered from decoder state `c` -/
def evOf (c : Dec) : Op → List CEv
  | .uint _ ft => [.uint ft (decUint c ft).1]
  | .bits _ n => [.raw n (decBits c n).1]
  | .bitLogp _ logp => [.bit logp (decBitLogp c logp).1]
  | .encode fl fh ft => [.dec ft (RangeCoder.decode c ft).1, .upd fl fh ft]
  | _ => []

/-- … for the calls `ops` that follow the calls `P` -/
def evsFrom (w : World) (P : List Op) : List Op → List CEv
  | [] => []
  | op :: r => evOf (w.decAt P) op ++ evsFrom w (P ++ [op]) r

theorem evsFrom_append (w : World) : ∀ (B : List Op) (P : List Op) (op : Op),
    evsFrom w P (B ++ [op]) = evsFrom w P B ++ evOf (w.decAt (P ++ B)) op
  | [], P, op => by simp [evsFrom]
  | b :: B, P, op => by
    simp only [List.cons_append, evsFrom, evsFrom_append w B (P ++ [b]) op, List.append_assoc, List.nil_append]

/-- encoder model state and decoder model state at the same point of the packet, with the same `remaining_bits`;
    the decoder model's trace (most recent first) is the event list of the encoder's calls behind `A` -/
structure Sim (w : World) (P0 : List Op) (A : List Op) (e : ESt) (d : BSt) : Prop where
  here : Here w P0 e.s d.c
  rem : e.rem = d.rem
  tr : ∃ B, e.s.ops = A ++ B ∧ d.tr.reverse = evsFrom w (P0 ++ A) B

/-- one more call: the trace grows by its events -/
theorem Sim.tr_emit {w : World} {P0 A : List Op} {e : ESt} {d : BSt} (hs : Sim w P0 A e d) (op : Op) (tr' : List CEv)
    (h1 : tr' = (evOf d.c op).reverse ++ d.tr) :
    ∃ B, (e.s.pop.2.emit op).ops = A ++ B ∧ tr'.reverse = evsFrom w (P0 ++ A) B := by
  obtain ⟨B, hB, hT⟩ := hs.tr
  refine ⟨B ++ [op], by rw [emit_ops, pop_ops, hB, List.append_assoc], ?_⟩
  rw [h1, List.reverse_append, List.reverse_reverse, hT, evsFrom_append, hs.here.dec, hB, List.append_assoc]

/-- `fe` only appends calls; and from states in lock-step, if what `fe` writes is in the packet, `fd` reads it back and
    ends in lock-step -/
def Step (w : World) (P0 : List Op) (fe : ESt → ESt) (fd : BSt → BSt) : Prop :=
  ∀ e d, Ext0 e.s (fe e).s ∧
    (∀ {A : List Op}, Sim w P0 A e d → w.IsPrefix (P0 ++ (fe e).s.ops) → Sim w P0 A (fe e) (fd d))

/-- the same for a call that also returns a value: the decoder gets the encoder's value -/
def StepV {α : Type} (w : World) (P0 : List Op) (fe : ESt → α × ESt) (fd : BSt → α × BSt) : Prop :=
  ∀ e d, Ext0 e.s (fe e).2.s ∧
    (∀ {A : List Op}, Sim w P0 A e d → w.IsPrefix (P0 ++ (fe e).2.s.ops) →
      (fd d).1 = (fe e).1 ∧ Sim w P0 A (fe e).2 (fd d).2)

theorem Ext0.refl (s : St) : Ext0 s s := ⟨[], by simp⟩
theorem Ext0.step (s : St) (op : Op) : Ext0 s (s.pop.2.emit op) := ⟨[op], rfl⟩

theorem Step.id (w : World) (P0 : List Op) : Step w P0 (fun e => e) (fun d => d) :=
  fun e _ => ⟨Ext0.refl e.s, fun h _ => h⟩

theorem Step.comp {w : World} {P0 : List Op} {f1 f2 : ESt → ESt} {g1 g2 : BSt → BSt} (h1 : Step w P0 f1 g1)
    (h2 : Step w P0 f2 g2) : Step w P0 (fun e => f2 (f1 e)) (fun d => g2 (g1 d)) := by
  intro e d
  refine ⟨(h1 e d).1.trans (h2 (f1 e) (g1 d)).1, fun hs hp => ?_⟩
  exact (h2 (f1 e) (g1 d)).2 ((h1 e d).2 hs (prefix_of_ext0 (h2 (f1 e) (g1 d)).1 hp)) hp

/-- lock-step gives equal `ec_tell`, `ec_tell_frac` -/
theorem Sim.tells {w : World} {P0 A : List Op} {e : ESt} {d : BSt} (h : Sim w P0 A e d) (hp : w.IsPrefix (P0 ++ e.s.ops)) :
    tell d.c = tell e.s.e ∧ tellFrac d.c = tellFrac e.s.e := by
  obtain ⟨a, b, _, _⟩ := h.here.tells hp
  exact ⟨a, b⟩

/-! ### The primitive calls -/

theorem uint_step (w : World) (P0 : List Op) (ft : Nat) : StepV w P0 (fun e => e.uint ft) (fun d => d.uint ft) := by
  intro e d
  refine ⟨Ext0.step _ _, fun hs hp => ?_⟩
  obtain ⟨a, b⟩ := hs.here.pop.emit_uint e.s.pop.1.toNat ft hp
  exact ⟨a, ⟨b, hs.rem, hs.tr_emit (.uint e.s.pop.1.toNat ft) _ rfl⟩⟩

theorem raw_step (w : World) (P0 : List Op) (n : Nat) : StepV w P0 (fun e => e.raw n) (fun d => d.raw n) := by
  intro e d
  refine ⟨Ext0.step _ _, fun hs hp => ?_⟩
  obtain ⟨a, b⟩ := hs.here.pop.emit_bits e.s.pop.1.toNat n hp
  exact ⟨a, ⟨b, hs.rem, hs.tr_emit (.bits e.s.pop.1.toNat n) _ rfl⟩⟩

theorem bit_step (w : World) (P0 : List Op) (logp : Nat) : StepV w P0 (fun e => e.bit logp) (fun d => d.bit logp) := by
  intro e d
  refine ⟨Ext0.step _ _, fun hs hp => ?_⟩
  obtain ⟨a, b⟩ := hs.here.pop.emit_bit (if e.s.pop.1 ≠ 0 then 1 else 0) logp (bit_le_one _) hp
  exact ⟨a, ⟨b, hs.rem, hs.tr_emit (.bitLogp (if e.s.pop.1 ≠ 0 then 1 else 0) logp) _ rfl⟩⟩

/-! ### The rules of the lock-step framework

Sequencing, for the two kinds of step; conditionals; `remaining_bits` read (`getRem`) and written (`setRem`).  With these a
composite function is in lock-step because its parts are, in the order the program runs them. -/

section Rules
variable {α β : Type} {w : World} {P0 : List Op}

theorem StepV.snd {fe : ESt → α × ESt} {fd : BSt → α × BSt} (h : StepV w P0 fe fd) :
    Step w P0 (fun e => (fe e).2) (fun d => (fd d).2) :=
  fun e d => ⟨(h e d).1, fun hs hp => ((h e d).2 hs hp).2⟩

theorem StepV.pure (v : α) : StepV w P0 (fun e => (v, e)) (fun d => (v, d)) :=
  fun e _ => ⟨Ext0.refl e.s, fun h _ => ⟨rfl, h⟩⟩

theorem StepV.getRem : StepV w P0 (fun e => (e.rem, e)) (fun d => (d.rem, d)) :=
  fun e _ => ⟨Ext0.refl e.s, fun h _ => ⟨h.rem.symm, h⟩⟩

theorem StepV.getTell : StepV w P0 (fun e => (tellFrac e.s.e, e)) (fun d => (tellFrac d.c, d)) :=
  fun e _ => ⟨Ext0.refl e.s, fun h hp => ⟨(h.tells hp).2, h⟩⟩

theorem StepV.map {fe : ESt → α × ESt} {fd : BSt → α × BSt} (h : StepV w P0 fe fd) (f : α → β) :
    StepV w P0 (fun e => (f (fe e).1, (fe e).2)) (fun d => (f (fd d).1, (fd d).2)) :=
  fun e d => ⟨(h e d).1, fun hs hp => ⟨congrArg f ((h e d).2 hs hp).1, ((h e d).2 hs hp).2⟩⟩

/-- a call that returns a value, then a step that depends on it -/
theorem StepV.bind {fe : ESt → α × ESt} {fd : BSt → α × BSt} {ge : α → ESt → ESt} {gd : α → BSt → BSt}
    (h1 : StepV w P0 fe fd) (h2 : ∀ v, Step w P0 (ge v) (gd v)) :
    Step w P0 (fun e => ge (fe e).1 (fe e).2) (fun d => gd (fd d).1 (fd d).2) := by
  intro e d
  have b := h2 (fe e).1 (fe e).2 (fd d).2
  refine ⟨(h1 e d).1.trans b.1, fun hs hp => ?_⟩
  obtain ⟨a1, a2⟩ := (h1 e d).2 hs (prefix_of_ext0 b.1 hp)
  show Sim w P0 _ _ (gd (fd d).1 (fd d).2)
  rw [a1]
  exact b.2 a2 hp

theorem StepV.bindV {fe : ESt → α × ESt} {fd : BSt → α × BSt} {ge : α → ESt → β × ESt} {gd : α → BSt → β × BSt}
    (h1 : StepV w P0 fe fd) (h2 : ∀ v, StepV w P0 (ge v) (gd v)) :
    StepV w P0 (fun e => ge (fe e).1 (fe e).2) (fun d => gd (fd d).1 (fd d).2) := by
  intro e d
  have b := h2 (fe e).1 (fe e).2 (fd d).2
  refine ⟨(h1 e d).1.trans b.1, fun hs hp => ?_⟩
  obtain ⟨a1, a2⟩ := (h1 e d).2 hs (prefix_of_ext0 b.1 hp)
  show (gd (fd d).1 (fd d).2).1 = _ ∧ Sim w P0 _ _ (gd (fd d).1 (fd d).2).2
  rw [a1]
  exact b.2 a2 hp

theorem Step.thenV {f : ESt → ESt} {g : BSt → BSt} {fe : ESt → α × ESt} {fd : BSt → α × BSt} (h1 : Step w P0 f g)
    (h2 : StepV w P0 fe fd) : StepV w P0 (fun e => fe (f e)) (fun d => fd (g d)) :=
  fun e d => ⟨(h1 e d).1.trans (h2 (f e) (g d)).1,
    fun hs hp => (h2 (f e) (g d)).2 ((h1 e d).2 hs (prefix_of_ext0 (h2 (f e) (g d)).1 hp)) hp⟩

theorem Step.setRem {f : ESt → ESt} {g : BSt → BSt} (h : Step w P0 f g) (r : Int → Int) :
    Step w P0 (fun e => f { e with rem := r e.rem }) (fun d => g { d with rem := r d.rem }) :=
  fun e d => ⟨(h _ { d with rem := r d.rem }).1, fun hs hp => (h _ _).2 ⟨hs.here, congrArg r hs.rem, hs.tr⟩ hp⟩

/-- the decoder model's `fault` flag has no counterpart on the encoder side -/
theorem Step.fault {f : ESt → ESt} {g : BSt → BSt} (h : Step w P0 f g) (x : BSt → Bool) :
    Step w P0 f (fun d => g { d with fault := x d }) :=
  fun e d => ⟨(h e { d with fault := x d }).1, fun hs hp => (h e _).2 ⟨hs.here, hs.rem, hs.tr⟩ hp⟩

theorem Step.ite (c : Prop) [Decidable c] {f f' : ESt → ESt} {g g' : BSt → BSt} (h1 : c → Step w P0 f g)
    (h2 : ¬ c → Step w P0 f' g') :
    Step w P0 (fun e => if c then f e else f' e) (fun d => if c then g d else g' d) := by
  by_cases h : c
  · simp only [h, if_true]; exact h1 h
  · simp only [h, if_false]; exact h2 h

theorem StepV.ite (c : Prop) [Decidable c] {f f' : ESt → α × ESt} {g g' : BSt → α × BSt} (h1 : c → StepV w P0 f g)
    (h2 : ¬ c → StepV w P0 f' g') :
    StepV w P0 (fun e => if c then f e else f' e) (fun d => if c then g d else g' d) := by
  by_cases h : c
  · simp only [h, if_true]; exact h1 h
  · simp only [h, if_false]; exact h2 h

end Rules

/-! ### Fine energy, finalise, one-sample bands -/

theorem rawN_step (w : World) (P0 : List Op) (bits : Nat) : ∀ n,
    Step w P0 (Opus.CeltBandsEnc.rawN bits n) (Opus.CeltBands.rawN bits n)
  | 0 => Step.id w P0
  | n + 1 => fun e d => Step.comp (raw_step w P0 bits).snd (rawN_step w P0 bits n) e d

theorem fineLoop_step (w : World) (P0 : List Op) (C : Nat) : ∀ l : List Int,
    Step w P0 (Opus.CeltBandsEnc.fineLoop C l) (Opus.CeltBands.fineLoop C l)
  | [] => Step.id w P0
  | fq :: r => fun e d =>
    Step.comp (Step.ite (fq > 0) (fun _ => rawN_step w P0 fq.toNat C) (fun _ => Step.id w P0)) (fineLoop_step w P0 C r) e d

/-- one priority pass of the finalisation: same bits left, lock-step -/
theorem finalPass_step (w : World) (P0 : List Op) (C : Nat) (prio : Int) : ∀ (l : List (Int × Int)) (bl : Int),
    StepV w P0 (Opus.CeltBandsEnc.finalPass C prio l bl) (Opus.CeltBands.finalPass C prio l bl)
  | [], bl => fun e d => StepV.pure bl e d
  | (fq, pr) :: r, bl => fun e d =>
    StepV.ite (bl < (C : Int)) (fun _ => StepV.pure bl) (fun _ =>
      StepV.ite (fq ≥ 8 ∨ pr ≠ prio) (fun _ => finalPass_step w P0 C prio r bl)
        (fun _ => (rawN_step w P0 1 C).thenV (finalPass_step w P0 C prio r (bl - C)))) e d

theorem finalise_step (w : World) (P0 : List Op) (C : Nat) (fp : List (Int × Int)) (bl : Int) :
    Step w P0 (Opus.CeltBandsEnc.finalise C fp bl) (Opus.CeltBands.finalise C fp bl) :=
  StepV.bind (finalPass_step w P0 C 0 fp bl) (fun bl1 => (finalPass_step w P0 C 1 fp bl1).snd)

theorem n1One_step (w : World) (P0 : List Op) : Step w P0 Opus.CeltBandsEnc.n1One Opus.CeltBands.n1One :=
  StepV.bind StepV.getRem fun r =>
    Step.ite (r ≥ 8) (fun _ => Step.comp (raw_step w P0 1).snd ((Step.id w P0).setRem (· - 8))) (fun _ => Step.id w P0)

/-! ### compute_theta -/

open OpusProofs.Pdf (readSym stepFl stepFh step_inv thetaStep_eq)
open Opus.CeltBandsProofs (thetaQn thetaQn_spec)

theorem Here.legal_emit {w : World} {P0 : List Op} {s : St} (op : Op)
    (hp : w.IsPrefix (P0 ++ (s.pop.2.emit op).ops)) : op.Legal :=
  w.legal_mem P0 _ hp op (List.mem_append_right _ (List.mem_singleton_self op))

/-- `ec_encode(fl, fh, ft)`: `ec_decode(ft)` returns a point of the interval and `ec_dec_update(fl, fh, ft)` continues in
    lock-step (stated for variables, so that no instance has to unfold `ec_decode`) -/
theorem Here.emit_encode {w : World} {P0 : List Op} {s : St} {d : Dec} (h : Here w P0 s d) (fl fh ft : Nat)
    (hp : w.IsPrefix (P0 ++ (s.emit (.encode fl fh ft)).ops)) :
    fl ≤ (RangeCoder.decode d ft).1 ∧ (RangeCoder.decode d ft).1 < fh ∧
    Here w P0 (s.emit (.encode fl fh ft)) (decUpdate (RangeCoder.decode d ft).2 fl fh ft) := by
  obtain ⟨h1, h2⟩ := h.emit (.encode fl fh ft) hp
  exact ⟨h1.1, h1.2, h2⟩

/-- **Lock-step of a PDF symbol.**  The encoder writes `ec_encode(a, b, ft)` for its symbol `x`; if every point of `[a, b)` is
    decoded to `x` with the same interval, the decoder's read returns `x` and both go on in lock-step. -/
theorem readSym_step (w : World) (P0 : List Op) {ft : Nat} {it fl fh : Nat → Nat} {x a b : Nat} (e : ESt) (d : BSt)
    (hinv : (Op.encode a b ft).Legal → ∀ fm, a ≤ fm → fm < b → it fm = x ∧ fl fm = a ∧ fh fm = b) {A : List Op}
    (hs : Sim w P0 A e d) (hp : w.IsPrefix (P0 ++ (e.s.pop.2.emit (.encode a b ft)).ops)) :
    (readSym ft it fl fh d).1 = x ∧ Sim w P0 A { e with s := e.s.pop.2.emit (.encode a b ft) } (readSym ft it fl fh d).2 := by
  obtain ⟨m1, m2, hn⟩ := hs.here.pop.emit_encode _ _ _ hp
  obtain ⟨i1, i2, i3⟩ := hinv (Here.legal_emit _ hp) _ m1 m2
  have hd : d.decode ft = ((RangeCoder.decode d.c ft).1,
      { d with c := (RangeCoder.decode d.c ft).2, tr := .dec ft (RangeCoder.decode d.c ft).1 :: d.tr }) := rfl
  unfold readSym
  rw [hd]
  simp only [i1, i2, i3]
  refine ⟨trivial, ⟨hn, hs.rem, hs.tr_emit (.encode _ _ _) _ ?_⟩⟩
  simp only [BSt.update, evOf, List.reverse_cons, List.reverse_nil, List.nil_append, List.cons_append]

/-- … as a rule of the framework: the encoder's symbol is the next decision, `[a x, b x)` its interval -/
theorem pdf_step (w : World) (P0 : List Op) {ft : Nat} {it fl fh : Nat → Nat} (a b : Nat → Nat)
    (hinv : ∀ x, (Op.encode (a x) (b x) ft).Legal → ∀ fm, a x ≤ fm → fm < b x → it fm = x ∧ fl fm = a x ∧ fh fm = b x) :
    StepV w P0 (fun e => (e.s.pop.1.toNat, { e with s := e.s.pop.2.emit (.encode (a e.s.pop.1.toNat) (b e.s.pop.1.toNat) ft) }))
      (readSym ft it fl fh) :=
  fun e d => ⟨Ext0.step _ _, fun hs hp => readSym_step w P0 e d (hinv _) hs hp⟩

open Opus.CeltBandsEnc (triFl triFs triFt) in
/-- the triangular PDF: a legal interval is not empty, so `x ≤ qn`, and `Tri.tri_inv` applies -/
theorem tri_law (qn : Nat) (heven : qn % 2 = 0) (x : Nat) (hleg : (Op.encode (triFl qn x) (triFl qn x + triFs qn x) (triFt qn)).Legal)
    (fm : Nat) (h1 : triFl qn x ≤ fm) (h2 : fm < triFl qn x + triFs qn x) :
    OpusProofs.Tri.decIt qn fm = x ∧ OpusProofs.Tri.decFl qn fm = triFl qn x ∧
      OpusProofs.Tri.decFl qn fm + OpusProofs.Tri.decFs qn fm = triFl qn x + triFs qn x := by
  have hxq : x ≤ qn := by
    have := hleg.1
    unfold Opus.CeltBandsEnc.triFs at this
    split at this <;> omega
  obtain ⟨t1, t2, t3⟩ := OpusProofs.Tri.tri_inv qn _ fm heven hxq h1 h2
  exact ⟨t1, t2, by rw [t2, t3]⟩

/-- the symbol of `compute_theta`; `qn` is 1 or even -/
theorem thetaWrite_step (w : World) (P0 : List Op) (stereo : Bool) (N : Nat) (b : Int) (B0 qn : Nat)
    (hq : qn = 1 ∨ qn % 2 = 0) :
    StepV w P0 (Opus.CeltBandsEnc.thetaWrite stereo N b B0 qn) (Opus.CeltBands.thetaRead stereo N b B0 qn) := fun e d => by
  unfold Opus.CeltBandsEnc.thetaWrite Opus.CeltBands.thetaRead
  simp only [thetaStep_eq, OpusProofs.Tri.thetaTri_eq]
  exact StepV.ite (qn ≠ 1)
    (fun h1 => StepV.map (StepV.ite (stereo = true ∧ N > 2)
      (fun _ => pdf_step w P0 (stepFl qn) (stepFh qn) fun x _ fm h1 h2 => by rw [step_inv qn _ fm h1 h2]; exact ⟨rfl, rfl, rfl⟩)
      fun _ => StepV.ite (B0 > 1 ∨ stereo = true) (fun _ => uint_step w P0 (qn + 1))
        fun _ => pdf_step w P0 (Opus.CeltBandsEnc.triFl qn) (fun x => Opus.CeltBandsEnc.triFl qn x + Opus.CeltBandsEnc.triFs qn x)
          (tri_law qn (hq.resolve_left h1))) (· * 16384 / qn))
    (fun _ => StepV.ite (stereo = true)
      (fun _ => StepV.bindV StepV.getRem fun r => StepV.ite (b > 16 ∧ r > 16) (fun _ => (bit_step w P0 2).map fun _ => 0) fun _ => StepV.pure 0)
      fun _ => StepV.pure 0) e d

/-- `compute_theta`: same `itheta`, `delta`, `qalloc`, `b` -/
theorem computeTheta_step (w : World) (P0 : List Op) (i intensity : Nat) (stereo : Bool) (N : Nat) (b : Int) (B0 : Nat)
    (lm : Int) :
    StepV w P0 (Opus.CeltBandsEnc.computeTheta i intensity stereo N b B0 lm)
      (Opus.CeltBands.computeTheta i intensity stereo N b B0 lm) := fun e d => by
  unfold Opus.CeltBandsEnc.computeTheta Opus.CeltBands.computeTheta
  exact StepV.bindV StepV.getTell (fun t0 => StepV.bindV
    (thetaWrite_step w P0 stereo N b B0 (thetaQn i intensity stereo N b lm) (thetaQn_spec ..).2.2) fun it =>
    StepV.map StepV.getTell fun t1 => Theta.mk it (Opus.CeltBands.thetaDelta N it) ((t1 : Int) - t0) (b - ((t1 : Int) - t0))) e d

/-! ### quant_partition -/

theorem leaf_step (w : World) (P0 : List Op) (i lm1 N : Nat) (b : Int) :
    Step w P0 (Opus.CeltBandsEnc.leaf i lm1 N b) (Opus.CeltBands.leaf i lm1 N b) := fun e d => by
  -- unfolded by hand, here and where a rule is applied to a long model term, so that the unifier need not search for it
  unfold Opus.CeltBandsEnc.leaf Opus.CeltBands.leaf
  refine StepV.bind StepV.getRem (fun r0 =>
    let q : Nat × Int := Opus.CeltBands.lowerQ (Opus.CeltBands.rowOf lm1 i)
      (Rate.bits2pulsesRow (Opus.CeltBands.cacheAt (Opus.CeltBands.rowOf lm1 i)) b)
      (Opus.CeltBands.p2b (Opus.CeltBands.rowOf lm1 i) (Rate.bits2pulsesRow (Opus.CeltBands.cacheAt (Opus.CeltBands.rowOf lm1 i)) b))
      (r0 - Opus.CeltBands.p2b (Opus.CeltBands.rowOf lm1 i)
        (Rate.bits2pulsesRow (Opus.CeltBands.cacheAt (Opus.CeltBands.rowOf lm1 i)) b))
    Step.fault (Step.setRem
      (Step.ite (q.1 ≠ 0) (fun _ => (uint_step w P0 (Opus.CeltBands.pvqFt N (Rate.getPulses q.1))).snd) fun _ => Step.id w P0)
      fun _ => q.2) fun d => d.fault || !Opus.CeltBands.rowOk (Opus.CeltBands.rowOf lm1 i)) e d

theorem splitRun_step (w : World) (P0 : List Op) (fe : Int → ESt → ESt) (fd : Int → BSt → BSt)
    (hf : ∀ bits, Step w P0 (fe bits) (fd bits)) (mbits sbits : Int) (itheta : Nat) :
    Step w P0 (Opus.CeltBandsEnc.splitRun fe mbits sbits itheta) (Opus.CeltBands.splitRun fd mbits sbits itheta) :=
  Step.ite (mbits ≥ sbits)
    (fun _ => StepV.bind StepV.getRem fun r0 => Step.comp (hf mbits) (StepV.bind StepV.getRem fun r1 =>
      hf (Opus.CeltBands.rebal sbits (mbits - (r0 - r1)) (itheta ≠ 0))))
    (fun _ => StepV.bind StepV.getRem fun r0 => Step.comp (hf sbits) (StepV.bind StepV.getRem fun r1 =>
      hf (Opus.CeltBands.rebal mbits (sbits - (r0 - r1)) (itheta ≠ 16384))))

theorem splitGo_step (w : World) (P0 : List Op) (fe : Int → ESt → ESt) (fd : Int → BSt → BSt)
    (hf : ∀ bits, Step w P0 (fe bits) (fd bits)) (th : Theta) (delta : Int) :
    Step w P0 (Opus.CeltBandsEnc.splitGo fe th delta) (Opus.CeltBands.splitGo fd th delta) :=
  (splitRun_step w P0 fe fd hf _ _ th.itheta).setRem (· - th.qalloc)

theorem quantPartition_step (w : World) (P0 : List Op) (i : Nat) : ∀ (lm1 N : Nat) (b : Int) (B : Nat),
    Step w P0 (Opus.CeltBandsEnc.quantPartition i lm1 N b B) (Opus.CeltBands.quantPartition i lm1 N b B)
  | 0, N, b, _ => fun e d => leaf_step w P0 i 0 N b e d
  | lm + 1, N, b, B => fun e d => by
    simp only [Opus.CeltBandsEnc.quantPartition, Opus.CeltBands.quantPartition]
    exact Step.ite (b > (Opus.CeltBands.cacheAt (Opus.CeltBands.rowOf (lm + 1) i)
        (Opus.CeltBands.cacheAt (Opus.CeltBands.rowOf (lm + 1) i) 0) : Int) + 12 ∧ N > 2)
      (fun _ => Step.fault (StepV.bind (computeTheta_step w P0 i 0 false (N / 2) b B ((lm : Int) - 1)) fun th =>
        splitGo_step w P0 _ _ (fun bits => quantPartition_step w P0 i lm (N / 2) bits ((B + 1) / 2)) th
          (Opus.CeltBands.adjustDelta B th.itheta th.delta (N / 2) ((lm : Int) - 1)))
        fun d => d.fault || !Opus.CeltBands.rowOk (Opus.CeltBands.rowOf (lm + 1) i))
      (fun _ => leaf_step w P0 i (lm + 1) N b) e d

/-! ### quant_band, quant_band_stereo -/

theorem quantBand_step (w : World) (P0 : List Op) (i lm1 N B : Nat) (tf : Int) (b : Int) :
    Step w P0 (Opus.CeltBandsEnc.quantBand i lm1 N B tf b) (Opus.CeltBands.quantBand i lm1 N B tf b) :=
  Step.ite (N = 1) (fun _ => n1One_step w P0) fun _ => quantPartition_step w P0 i lm1 N b _

theorem stereoN2_step (w : World) (P0 : List Op) (i lm1 B : Nat) (tf : Int) (th : Theta) :
    Step w P0 (Opus.CeltBandsEnc.stereoN2 i lm1 B tf th) (Opus.CeltBands.stereoN2 i lm1 B tf th) :=
  Step.ite (th.itheta ≠ 0 ∧ th.itheta ≠ 16384)
    (fun _ => (Step.comp (raw_step w P0 1).snd (quantBand_step w P0 i lm1 2 B tf (th.b - 8))).setRem (· - (th.qalloc + 8)))
    fun _ => (quantBand_step w P0 i lm1 2 B tf th.b).setRem (· - th.qalloc)

theorem quantBandStereo_step (w : World) (P0 : List Op) (i lm1 N B : Nat) (tf : Int) (intensity : Nat) (b : Int) :
    Step w P0 (Opus.CeltBandsEnc.quantBandStereo i lm1 N B tf intensity b)
      (Opus.CeltBands.quantBandStereo i lm1 N B tf intensity b) := fun e d => by
  unfold Opus.CeltBandsEnc.quantBandStereo Opus.CeltBands.quantBandStereo
  exact Step.ite (N = 1) (fun _ => Step.comp (n1One_step w P0) (n1One_step w P0)) (fun _ =>
    StepV.bind (computeTheta_step w P0 i intensity true N b B ((lm1 : Int) - 1)) fun th =>
      Step.ite (N = 2) (fun _ => stereoN2_step w P0 i lm1 B tf th)
        fun _ => splitGo_step w P0 _ _ (fun bits => quantBand_step w P0 i lm1 N B tf bits) th th.delta) e d

/-! ### quant_all_bands -/

theorem bandOne_step (w : World) (P0 : List Op) (p : Opus.CeltBands.BandsIn) (i : Nat) (dual : Bool) (b : Int) :
    Step w P0 (Opus.CeltBandsEnc.bandOne p i dual b) (Opus.CeltBands.bandOne p i dual b) :=
  Step.ite (dual = true) (fun _ => Step.comp (quantBand_step w P0 _ _ _ _ _ _) (quantBand_step w P0 _ _ _ _ _ _)) fun _ =>
    Step.ite (p.C = 2) (fun _ => quantBandStereo_step w P0 _ _ _ _ _ _ _) fun _ => quantBand_step w P0 _ _ _ _ _ _

theorem bandLoop_step (w : World) (P0 : List Op) (p : Opus.CeltBands.BandsIn) : ∀ (k i : Nat) (dual : Bool) (balance : Int),
    Step w P0 (Opus.CeltBandsEnc.bandLoop p k i dual balance) (Opus.CeltBands.bandLoop p k i dual balance)
  | 0, _, _, _ => Step.id w P0
  | k + 1, i, dual, balance => fun e d => by
    simp only [Opus.CeltBandsEnc.bandLoop, Opus.CeltBands.bandLoop]
    exact StepV.bind StepV.getTell (fun t => Step.comp
      ((bandOne_step w P0 p i (dual && !decide (i = p.intensity))
        (Opus.CeltBands.bandBudget p i (if i ≠ p.start then balance - t else balance) (p.totalBits - t - 1))).setRem
          fun _ => p.totalBits - t - 1)
      (bandLoop_step w P0 p k (i + 1) (dual && !decide (i = p.intensity))
        ((if i ≠ p.start then balance - t else balance) + p.pulses.getD (i - p.start) 0 + t))) e d

end OpusProofs.CeltHdr
