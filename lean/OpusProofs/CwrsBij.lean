import OpusProofs.CwrsU
/-
  OpusProofs.CwrsBij — the PVQ enumeration as a pair of mutually inverse *specification* functions
  `decS`/`encS` defined uniformly for every dimension n ≥ 0 on the mathematical U, and the proof that
  they are inverse bijections between { y : length n, Σ|y| = k } and [0, V(n,k)).
  OpusProofs.CwrsModel shows that the transcribed C loops compute exactly these functions.

  Layout of [0, V(n,k)) for the first coordinate y₀ (remaining pulses k' = k - |y₀|):
      [U(n,k'), U(n,k'+1))                      y₀ = +(k-k')  (k' < k)  or  y₀ = 0 (k' = k)
      U(n,k+1) + [U(n,k'), U(n,k'+1))           y₀ = -(k-k')  (k' < k)
-/
namespace OpusProofs.CwrsBij
open Opus Opus.Cwrs OpusProofs.CwrsU

/-- greatest `j ≤ k` with `U n j ≤ i` (0 if none). -/
def findK (n i : Nat) : Nat → Nat
  | 0 => 0
  | j + 1 => if U n (j + 1) ≤ i then j + 1 else findK n i j

def decS : Nat → Nat → Nat → List Int
  | 0, _, _ => []
  | n + 1, k, i =>
    let q := U (n + 1) (k + 1)
    let i1 := if q ≤ i then i - q else i
    let k' := findK (n + 1) i1 k
    signed (decide (q ≤ i)) ((k : Int) - k') :: decS n k' (i1 - U (n + 1) k')

def encS : List Int → Nat
  | [] => 0
  | y :: ys =>
    U (ys.length + 1) (sumAbs ys) + encS ys +
      (if y < 0 then U (ys.length + 1) (sumAbs ys + y.natAbs + 1) else 0)

theorem findK_le (n i : Nat) : ∀ k, findK n i k ≤ k := by
  intro k
  induction k with
  | zero => simp [findK]
  | succ k ih => simp only [findK]; split <;> omega

theorem findK_spec (m i : Nat) : ∀ k,
    U (m + 1) (findK (m + 1) i k) ≤ i ∧ (findK (m + 1) i k < k → i < U (m + 1) (findK (m + 1) i k + 1)) := by
  intro k
  induction k with
  | zero => simp [findK]
  | succ k ih =>
    simp only [findK]
    split
    · rename_i h; exact ⟨h, fun hh => absurd hh (Nat.lt_irrefl _)⟩
    · rename_i h
      refine ⟨ih.1, fun _ => ?_⟩
      by_cases hk : findK (m + 1) i k < k
      · exact ih.2 hk
      · have : findK (m + 1) i k = k := Nat.le_antisymm (findK_le _ _ _) (Nat.le_of_not_lt hk)
        rw [this]; omega

theorem findK_unique (m i : Nat) : ∀ k j, j ≤ k → U (m + 1) j ≤ i → (j < k → i < U (m + 1) (j + 1)) →
    findK (m + 1) i k = j := by
  intro k
  induction k with
  | zero => intro j hj _ _; simp [findK]; omega
  | succ k ih =>
    intro j hj h1 h2
    simp only [findK]
    split
    · rename_i h
      by_cases hjk : j < k + 1
      · have := h2 hjk
        have hm : U (m + 1) (j + 1) ≤ U (m + 1) (k + 1) := U_mono m (by omega)
        omega
      · omega
    · rename_i h
      have hjk : j ≤ k := by
        by_cases e : j = k + 1
        · subst e; exact absurd h1 h
        · omega
      exact ih j hjk h1 (fun hlt => h2 (by omega))

theorem natAbs_signed (b : Bool) (m : Int) : (signed b m).natAbs = m.natAbs := by
  unfold signed; split <;> simp

theorem signed_neg_iff (b : Bool) (a c : Nat) (h : c ≤ a) :
    signed b ((a : Int) - c) < 0 ↔ (b = true ∧ c < a) := by
  unfold signed; split <;> rename_i hb <;> simp [hb] <;> omega

/-- Bound propagated by one decoding step.  `q`, `i1`, `k'` are variables with defining equations so that a caller can put
    its own form of them (the C loops compute `q` as a table word, `cwrsiTail` as `2k+1`). -/
theorem step_bounds (n k i : Nat) (h : i < V (n + 1) k) (q i1 k' : Nat)
    (hq : q = U (n + 1) (k + 1)) (hi1e : i1 = if q ≤ i then i - q else i) (hk'e : k' = findK (n + 1) i1 k) :
    k' ≤ k ∧ U (n + 1) k' ≤ i1 ∧ i1 - U (n + 1) k' < V n k' ∧ (q ≤ i → k' < k) ∧ i1 < q := by
  have hV : V (n + 1) k = U (n + 1) k + q := by rw [hq]; rfl
  have hmono : U (n + 1) k ≤ q := by rw [hq]; exact U_mono_step n k
  have hi1 : i1 < q := by
    rw [hi1e]
    split <;> omega
  have hle := findK_le (n + 1) i1 k
  have hs := findK_spec n i1 k
  rw [← hk'e] at hle hs
  have hlt : i1 < U (n + 1) (k' + 1) := by
    by_cases hk : k' < k
    · exact hs.2 hk
    · have : k' = k := by omega
      rw [this, ← hq]; exact hi1
  have hsucc := U_succ_eq_add_V n k'
  refine ⟨hle, hs.1, by omega, ?_, hi1⟩
  intro hqi
  have hi1' : i1 < U (n + 1) k := by
    rw [hi1e, if_pos hqi]; omega
  by_cases hk : k' < k
  · exact hk
  · have : k' = k := by omega
    have h1 := hs.1
    rw [this] at h1; omega

theorem decS_spec : ∀ n k i, i < V n k →
    (decS n k i).length = n ∧ sumAbs (decS n k i) = k ∧ encS (decS n k i) = i := by
  intro n
  induction n with
  | zero =>
    intro k i h
    cases k with
    | zero => simp [V] at h; subst h; simp [decS, sumAbs, encS]
    | succ k => simp [V] at h
  | succ n ih =>
    intro k i h
    obtain ⟨hle, hU, hb, hneg, hi1⟩ := step_bounds n k i h _ _ _ rfl rfl rfl
    simp only [decS]
    generalize hq : U (n + 1) (k + 1) = q at *
    generalize hi1d : (if q ≤ i then i - q else i) = i1 at *
    generalize hk' : findK (n + 1) i1 k = k' at *
    obtain ⟨hl, hs, he⟩ := ih k' (i1 - U (n + 1) k') hb
    refine ⟨by simp [hl], ?_, ?_⟩
    · simp only [sumAbs, natAbs_signed, hs]; omega
    · simp only [encS, hl, hs, he, natAbs_signed, signed_neg_iff _ _ _ hle, decide_eq_true_eq]
      by_cases hqi : q ≤ i
      · have hk := hneg hqi
        have e : k' + ((k : Int) - k').natAbs + 1 = k + 1 := by omega
        rw [if_pos ⟨hqi, hk⟩, e, hq]
        rw [if_pos hqi] at hi1d
        omega
      · have : ¬ (q ≤ i ∧ k' < k) := fun hh => hqi hh.1
        rw [if_neg this]
        rw [if_neg hqi] at hi1d
        omega

/-- One decoding step inverts the layout: the point `ir` of the block of `k'` remaining pulses, in the upper half (negative
    first coordinate) if `b`, lies below `V(n+1,k)` and is decoded to that coordinate and `(k', ir)`. -/
theorem decS_layout (n k k' ir : Nat) (b : Bool) (hk : k' ≤ k) (hb : b = true → k' < k) (hir : ir < V n k') :
    U (n + 1) k' + ir + (if b then U (n + 1) (k + 1) else 0) < V (n + 1) k ∧
    decS (n + 1) k (U (n + 1) k' + ir + (if b then U (n + 1) (k + 1) else 0)) =
      signed b ((k : Int) - k') :: decS n k' ir := by
  have hsucc := U_succ_eq_add_V n k'
  have hm : U (n + 1) (k' + 1) ≤ U (n + 1) (k + 1) := U_mono n (by omega)
  have hV : V (n + 1) k = U (n + 1) k + U (n + 1) (k + 1) := rfl
  have hf : findK (n + 1) (U (n + 1) k' + ir) k = k' := findK_unique n _ k k' hk (by omega) (fun _ => by omega)
  simp only [decS]
  generalize U (n + 1) (k + 1) = q at *
  cases b with
  | false =>
    have hqi : ¬ q ≤ U (n + 1) k' + ir := by omega
    simp only [Bool.false_eq_true, if_false, Nat.add_zero, if_neg hqi, hf, Nat.add_sub_cancel_left, decide_eq_false hqi]
    exact ⟨by omega, trivial⟩
  | true =>
    have hm' : U (n + 1) (k' + 1) ≤ U (n + 1) k := U_mono n (hb rfl)
    have hqi : q ≤ U (n + 1) k' + ir + q := by omega
    simp only [if_true, if_pos hqi, Nat.add_sub_cancel, hf, Nat.add_sub_cancel_left, decide_eq_true hqi]
    exact ⟨by omega, trivial⟩

theorem encS_spec : ∀ y : List Int,
    encS y < V y.length (sumAbs y) ∧ decS y.length (sumAbs y) (encS y) = y := by
  intro y
  induction y with
  | nil => simp [encS, sumAbs, V, decS]
  | cons v rest ih =>
    obtain ⟨h1, h2⟩ := decS_layout rest.length (v.natAbs + sumAbs rest) (sumAbs rest) (encS rest) (decide (v < 0))
      (by omega) (by simp only [decide_eq_true_eq]; omega) ih.1
    -- `encS (v :: rest)` is that point, and the coordinate decoded from it is `v`
    have e : encS (v :: rest) = U (rest.length + 1) (sumAbs rest) + encS rest +
        (if decide (v < 0) = true then U (rest.length + 1) (v.natAbs + sumAbs rest + 1) else 0) := by
      simp only [encS, decide_eq_true_eq, Nat.add_comm (sumAbs rest) v.natAbs]
    have ev : signed (decide (v < 0)) (((v.natAbs + sumAbs rest : Nat) : Int) - sumAbs rest) = v := by
      unfold signed; split <;> rename_i h <;> simp only [decide_eq_true_eq] at h <;> omega
    simp only [List.length_cons, sumAbs]
    rw [e, h2, ih.2, ev]
    exact ⟨h1, rfl⟩

end OpusProofs.CwrsBij
