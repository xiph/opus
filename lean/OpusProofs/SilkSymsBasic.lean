import OpusModel.SilkSyms
/-
  C03: the scan of `ec_dec_icdf` stops at the first zero entry of the table it is
  given, whatever the decoder state — so the symbol returned is bounded by the position of that zero.
  Everything about "decoded index lies inside the table" reduces to this and to facts about the
  frozen tables (OpusProofs/SilkSymsTables.lean), stated with `Slice`; `ReadInv` is the form in which the walk
  through the decoder (SilkSymsIndices, SilkSymsPulses, SilkSymsFlags, SilkSymsDecode) carries an invariant of
  the range-decoder state along with the ranges.
-/
namespace Opus.SilkSymsProofs
open Opus Opus.RangeCoder Opus.SilkSyms

/-- Position of the first `0` entry (the list length if there is none). -/
def zeroPos : List Nat → Nat
  | [] => 0
  | x :: xs => if x = 0 then 0 else zeroPos xs + 1

/-- Well-formed ICDF slice for 8-bit precision: first entry below 256, strictly decreasing down to a `0`
    (entries behind the first `0` belong to the next table of the same C array and are never reached). -/
def icdfSliceOk : List Nat → Bool
  | [] => false
  | [x] => x == 0
  | x :: y :: t => decide (x < 256) && (x == 0 || (decide (y < x) && icdfSliceOk (y :: t)))

theorem decIcdfLoop_le (r d : Nat) : ∀ (xs : List Nat) (t k : Nat),
    (decIcdfLoop r d xs t k).1 ≤ k + zeroPos xs
  | [], t, k => by simp [decIcdfLoop, zeroPos]
  | x :: xs, t, k => by
    unfold decIcdfLoop zeroPos
    by_cases hx : x = 0
    · subst hx
      have : mul32 r 0 = 0 := by simp [mul32]
      simp [this]
    · simp only [hx, if_false]
      split
      · have := decIcdfLoop_le r d xs (mul32 r x) (k + 1)
        omega
      · simp

theorem decIcdf_le (c : Dec) (tbl : List Nat) (ftb : Nat) : (decIcdf c tbl ftb).1 ≤ zeroPos tbl := by
  unfold decIcdf
  have := decIcdfLoop_le (c.rng / 2 ^ ftb) c.val tbl c.rng 0
  simp only [Nat.zero_add] at this
  exact this

/-- One symbol is at most the position of the first zero of its table. -/
theorem sym_le (c : Dec) (tbl : List Nat) : (sym c tbl).1 ≤ zeroPos tbl := decIcdf_le c tbl 8

/-- A well-formed slice contains its terminating zero. -/
theorem zeroPos_lt : ∀ (l : List Nat), icdfSliceOk l = true → zeroPos l < l.length
  | [], h => by simp [icdfSliceOk] at h
  | [x], h => by
    simp only [icdfSliceOk, beq_iff_eq] at h
    simp [zeroPos, h]
  | x :: y :: t, h => by
    simp only [icdfSliceOk, Bool.and_eq_true, Bool.or_eq_true, decide_eq_true_eq, beq_iff_eq] at h
    rcases h.2 with hz | ⟨_, ht⟩
    · simp [zeroPos, hz]
    · have := zeroPos_lt (y :: t) ht
      unfold zeroPos
      split <;> simp only [List.length_cons] at this ⊢ <;> omega

/-- `tbl` is a well-formed ICDF slice that codes exactly `n` symbols; the decoder's index ranges (`sym_lt`) and the
    legality of the encoder's calls are stated with it. -/
def Slice (tbl : List Nat) (n : Nat) : Prop := icdfSliceOk tbl = true ∧ zeroPos tbl + 1 = n

instance (tbl : List Nat) (n : Nat) : Decidable (Slice tbl n) := inferInstanceAs (Decidable (_ ∧ _))

/-- A property of the range-decoder state kept by the two reads `silk_Decode` issues: `ec_dec_icdf` from a well-formed
    slice and `ec_dec_bit_logp(·, 1)`.  The range lemmas of the symbol layer are proved for an arbitrary such `I`:
    from a state in `I`, the values read lie in their ranges and the state is in `I` again.  `I := True` gives the
    ranges for every decoder state, `I := J` (SilkSymsJ) the stand-alone range-decoder invariant.

    The premise of `sym` is what ties the table facts to the model: every lemma about a function that calls `sym`
    has to produce it for the table of that very call, so "every slice the decoder reads is a well-formed ICDF" is
    proved read by read (from the `sl_*` facts of SilkSymsTables), not by the list `usedSlices`.

    Why those proofs have the shape they have: the checker starts evaluating `ec_dec_icdf` (minutes, then "deep
    recursion") as soon as it has to compare `I (sym c T).2` with a term that is not syntactically the same.  So
    (1) a goal that contains `I (…)` is never rewritten by `simp only [f]`: `unfold f`, then `exact ⟨…⟩`;
    (2) a function with an `if` between reads gets a `key` lemma over ∀-bound pairs `r`, `x` for what is read and a
        ∀-bound `y` with `y = if … then … else …` for the result, applied as `key _ _ _ h1 h2 rfl`;
    (3) a body that threads the state through `match`es is opened by `fun_cases` / `fun_induction`: the principle Lean
        derives from the definition names every intermediate result and gives its equation `callee … = (x, c')`, and
        the callee's lemma is rewritten with that equation (`simp only [e] at h`); where a single call is in the way,
        its result is `generalize`d and the `match` removed by `split`. -/
structure ReadInv (I : Dec → Prop) : Prop where
  sym : ∀ (c : Dec) {tbl : List Nat}, icdfSliceOk tbl = true → I c → I (sym c tbl).2
  bit : ∀ (c : Dec), I c → I (decBitLogp c 1).2

theorem readInv_true : ReadInv (fun _ => True) := ⟨fun _ _ _ _ => trivial, fun _ _ => trivial⟩

/-- One read: the symbol lies inside the slice, the state stays in `I`. -/
theorem sym_lt {I : Dec → Prop} (hI : ReadInv I) {n : Nat} {tbl : List Nat} (h : Slice tbl n) {c : Dec} (hc : I c) :
    (sym c tbl).1 < n ∧ I (sym c tbl).2 := by
  have := sym_le c tbl
  have := h.2
  exact ⟨by omega, hI.sym c h.1 hc⟩

/-- The same, with the result of the read named by an equation (as `fun_cases` hands it over). -/
theorem sym_lt_of_eq {I : Dec → Prop} (hI : ReadInv I) {n : Nat} {tbl : List Nat} (h : Slice tbl n) {c : Dec} (hc : I c)
    {s : Nat} {c' : Dec} (e : sym c tbl = (s, c')) : s < n ∧ I c' := by
  have := sym_lt hI h hc
  rwa [e] at this

section
variable {α : Type} {P Q : α → Prop} {m n : Nat} {x : α} {l a b : List α}

/-- `l` has `n` entries and each satisfies `P`: what a loop of the symbol layer reports of the list it has read. -/
def ListOk (P : α → Prop) (n : Nat) (l : List α) : Prop := l.length = n ∧ ∀ x ∈ l, P x

theorem ListOk.nil : ListOk P 0 [] := ⟨rfl, fun _ h => absurd h List.not_mem_nil⟩

theorem ListOk.cons (hx : P x) (h : ListOk P n l) : ListOk P (n + 1) (x :: l) :=
  ⟨congrArg (· + 1) h.1, List.forall_mem_cons.mpr ⟨hx, h.2⟩⟩

theorem ListOk.append (ha : ListOk P m a) (hb : ListOk P n b) : ListOk P (m + n) (a ++ b) :=
  ⟨by rw [List.length_append, ha.1, hb.1], List.forall_mem_append.mpr ⟨ha.2, hb.2⟩⟩

theorem ListOk.mono (h : ListOk P n l) (hPQ : ∀ x, P x → Q x) : ListOk Q n l :=
  ⟨h.1, fun x hx => hPQ x (h.2 x hx)⟩

end

theorem symLoop_rd {I : Dec → Prop} (hI : ReadInv I) {tbl : List Nat} {n : Nat} (h : Slice tbl n) :
    ∀ (k : Nat) (c : Dec), I c → ListOk (· < n) k (symLoop tbl k c).1 ∧ I (symLoop tbl k c).2
  | 0, _, hc => ⟨.nil, hc⟩
  | k + 1, c, hc => by
    have h1 := sym_lt hI h hc
    have ih := symLoop_rd hI h k _ h1.2
    unfold symLoop
    exact ⟨.cons h1.1 ih.1, ih.2⟩

theorem decBitLogp_le (c : Dec) (logp : Nat) : (decBitLogp c logp).1 ≤ 1 := by
  unfold decBitLogp; simp only; split <;> omega

end Opus.SilkSymsProofs
