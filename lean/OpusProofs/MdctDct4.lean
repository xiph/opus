import Mathlib.Analysis.SpecialFunctions.Trigonometric.Basic
import Mathlib.Algebra.BigOperators.Intervals
import Mathlib.Tactic.Ring
import Mathlib.Tactic.Linarith
import Mathlib.Tactic.FieldSimp
import OpusProofs.MdctTdac
/-
  OpusProofs.MdctDct4 — the mathematics behind the structure of celt/mdct.c (property C04): the MDCT of 2M = 4Q samples
  is the DCT-IV of the block folded ("time-domain aliased") to M samples, the middle half of the IMDCT output a reversed,
  negated DCT-IV, and a DCT-IV of size M = 2Q is a pre-rotation by e^{-iθ_i}, θ_i = 2π(i + 1/8)/N, N = 4Q, a Q-point
  complex DFT and a post-rotation on the complex numbers u(2i) + i·u(M−1−2i) — pairing, twiddles `trig[i]` and output
  interleaving (2p, M−1−2p) being those of clt_mdct_forward_c / clt_mdct_backward_c.  The complex DFT is written on
  (re, im) pairs of reals (`dftRe`, `dftIm`).
-/
namespace Opus.MdctR
open Finset Real

/-- DCT-IV kernel `cos(π/M·(m + 1/2)·(k + 1/2))`. -/
noncomputable def c4 (M m k : ℕ) : ℝ := cos (π / M * ((m : ℝ) + 1 / 2) * ((k : ℝ) + 1 / 2))

/-- DCT-IV of size `M` (no normalisation). -/
noncomputable def dct4 (M : ℕ) (u : ℕ → ℝ) (k : ℕ) : ℝ := ∑ n ∈ range M, u n * c4 M n k

theorem cast_reflect {a b c : ℕ} (h : a + b + 1 = c) : (a : ℝ) = c - 1 - b := by
  have := congrArg (Nat.cast : ℕ → ℝ) h
  push_cast at this
  linarith

theorem c4_symm (M m k : ℕ) : c4 M m k = c4 M k m := by unfold c4; congr 1; ring

/-- The MDCT kernel is the DCT-IV kernel shifted by a quarter block. -/
theorem kern_eq_c4 (Q n k : ℕ) : kern (2 * Q) n k = c4 (2 * Q) (n + Q) k := by
  unfold kern c4
  congr 1
  push_cast
  ring

/-- `c4 (2M − 1 − m) = − c4 m` (odd symmetry about `M − 1/2`, in additive form). -/
theorem c4_reflect (M m m' k : ℕ) (hM : 0 < M) (h : m' + m + 1 = 2 * M) : c4 M m' k = - c4 M m k := by
  unfold c4
  have hM' : (M : ℝ) ≠ 0 := by exact_mod_cast hM.ne'
  have : π / M * ((m' : ℝ) + 1 / 2) * ((k : ℝ) + 1 / 2)
      = (π - π / M * ((m : ℝ) + 1 / 2) * ((k : ℝ) + 1 / 2)) + (k : ℝ) * (2 * π) := by
    rw [cast_reflect h]; push_cast; field_simp; ring
  rw [this, cos_add_nat_mul_two_pi, cos_pi_sub]

theorem c4_shift (M m k : ℕ) (hM : 0 < M) : c4 M (m + 2 * M) k = - c4 M m k := by
  unfold c4
  have hM' : (M : ℝ) ≠ 0 := by exact_mod_cast hM.ne'
  have : π / M * (((m + 2 * M : ℕ) : ℝ) + 1 / 2) * ((k : ℝ) + 1 / 2)
      = (π / M * ((m : ℝ) + 1 / 2) * ((k : ℝ) + 1 / 2) + π) + (k : ℝ) * (2 * π) := by
    push_cast; field_simp; ring
  rw [this, cos_add_nat_mul_two_pi, cos_add_pi]

/-- `c4 (4M − 1 − m) = c4 m` (even symmetry about `2M − 1/2`): one of the two indices is `≥ 2M`; shift it down and reflect. -/
theorem c4_reflect2 (M m m' k : ℕ) (hM : 0 < M) (h : m' + m + 1 = 4 * M) : c4 M m' k = c4 M m k := by
  by_cases hm : 2 * M ≤ m
  · obtain ⟨m₀, rfl⟩ := Nat.exists_eq_add_of_le' hm
    rw [c4_shift M m₀ k hM, c4_reflect M m₀ m' k hM (by omega)]
  · obtain ⟨m₀, rfl⟩ := Nat.exists_eq_add_of_le' (show 2 * M ≤ m' by omega)
    rw [c4_shift M m₀ k hM, c4_reflect M m m₀ k hM (by omega), neg_neg]

/-- Time-domain aliasing: the `2M = 4Q` block folded to `M = 2Q` samples. -/
noncomputable def tdaFold (Q : ℕ) (b : ℕ → ℝ) (p : ℕ) : ℝ :=
  if p < Q then - b (3 * Q - 1 - p) - b (3 * Q + p) else b (p - Q) - b (3 * Q - 1 - p)

theorem sum_range_two (Q : ℕ) (f : ℕ → ℝ) :
    ∑ n ∈ range (2 * Q), f n = ∑ n ∈ range Q, f n + ∑ n ∈ range Q, f (Q + n) := by
  have e : 2 * Q = Q + Q := by ring
  rw [e, sum_range_add]

/-- MDCT = DCT-IV of the folded block. -/
theorem mdct_eq_dct4 (Q : ℕ) (hQ : 0 < Q) (b : ℕ → ℝ) (k : ℕ) :
    mdct (2 * Q) b k = dct4 (2 * Q) (tdaFold Q b) k := by
  have hM : 0 < 2 * Q := by omega
  unfold mdct dct4
  -- with the two middle quarters of the block read backwards the identity holds term by term, `n < Q`: the taps
  -- `b n`, `b (2Q−1−n)` meet `±c4 (Q+n)`, the taps `b (3Q−1−n)`, `b (3Q+n)` meet `−c4 n`
  rw [sum_range_two (2 * Q), sum_range_two Q, sum_range_two Q, sum_range_two Q,
    ← sum_range_reflect (fun n => b (Q + n) * kern (2 * Q) (Q + n) k),
    ← sum_range_reflect (fun n => b (2 * Q + n) * kern (2 * Q) (2 * Q + n) k)]
  simp only [← sum_add_distrib]
  refine sum_congr rfl fun n hn => ?_
  obtain ⟨e, he⟩ : ∃ e, n + e + 1 = Q := ⟨Q - 1 - n, by have := mem_range.mp hn; omega⟩
  unfold tdaFold
  rw [if_pos (by omega), if_neg (by omega), show Q - 1 - n = e by omega, show Q + n - Q = n by omega,
    show 3 * Q - 1 - (Q + n) = Q + e by omega, show 3 * Q - 1 - n = 2 * Q + e by omega,
    show 3 * Q + n = 2 * Q + (Q + n) by omega]
  simp only [kern_eq_c4]
  rw [c4_reflect (2 * Q) (Q + n) (Q + e + Q) k hM (by omega), c4_reflect (2 * Q) n (2 * Q + e + Q) k hM (by omega),
    show 2 * Q + (Q + n) + Q = n + 2 * (2 * Q) by ring, c4_shift (2 * Q) n k hM, Nat.add_comm n Q]
  ring

/-- The middle half `[Q, 3Q)` of the IMDCT output is the reversed, negated DCT-IV of the coefficients. -/
theorem imdct_eq_dct4 (Q : ℕ) (hQ : 0 < Q) (X : ℕ → ℝ) (n n' : ℕ) (h : n + n' + 1 = 2 * Q) :
    imdct (2 * Q) X (Q + n) = - dct4 (2 * Q) X n' := by
  have hM : 0 < 2 * Q := by omega
  unfold imdct dct4
  rw [← sum_neg_distrib]
  refine sum_congr rfl fun k _ => ?_
  rw [kern_eq_c4, c4_symm _ k n', c4_reflect (2 * Q) n' (Q + n + Q) k hM (by omega)]
  ring

/-- `trig[i]` of clt_mdct_init for transform size `N` (celt/mdct.c:100-101). -/
noncomputable def trigR (N i : ℕ) : ℝ := cos (2 * π * ((i : ℝ) + 1 / 8) / N)

/-- The rotation angle `θ_i = 2π(i + 1/8)/N`. -/
noncomputable def theta (N i : ℕ) : ℝ := 2 * π * ((i : ℝ) + 1 / 8) / N

theorem trigR_lo (N i : ℕ) : trigR N i = cos (theta N i) := rfl

/-- `trig[N/4 + i] = −sin θ_i` (a quarter period further). -/
theorem trigR_hi (Q i : ℕ) (hQ : 0 < Q) : trigR (4 * Q) (Q + i) = - sin (theta (4 * Q) i) := by
  unfold trigR theta
  have hQ' : (Q : ℝ) ≠ 0 := by exact_mod_cast hQ.ne'
  have : 2 * π * (((Q + i : ℕ) : ℝ) + 1 / 8) / ((4 * Q : ℕ) : ℝ)
      = 2 * π * ((i : ℝ) + 1 / 8) / ((4 * Q : ℕ) : ℝ) + π / 2 := by
    push_cast; field_simp; ring
  rw [this, cos_add_pi_div_two]

/-- Real part of the `n`-point DFT `F_k = Σ_j (re_j + i·im_j)·e^{-2πi·jk/n}` (what `opus_fft` computes, unscaled). -/
noncomputable def dftRe (n : ℕ) (re im : ℕ → ℝ) (k : ℕ) : ℝ :=
  ∑ j ∈ range n, (re j * cos (2 * π * ((j * k : ℕ) : ℝ) / n) + im j * sin (2 * π * ((j * k : ℕ) : ℝ) / n))

/-- Imaginary part of the same DFT. -/
noncomputable def dftIm (n : ℕ) (re im : ℕ → ℝ) (k : ℕ) : ℝ :=
  ∑ j ∈ range n, (im j * cos (2 * π * ((j * k : ℕ) : ℝ) / n) - re j * sin (2 * π * ((j * k : ℕ) : ℝ) / n))

/-- The DFT is linear: a common real factor of the input sequence leaves the transform. -/
theorem dftRe_smul (n : ℕ) (re im : ℕ → ℝ) (s : ℝ) (k : ℕ) :
    dftRe n (fun i => re i * s) (fun i => im i * s) k = dftRe n re im k * s := by
  unfold dftRe; rw [sum_mul]; exact sum_congr rfl fun j _ => by ring

theorem dftIm_smul (n : ℕ) (re im : ℕ → ℝ) (s : ℝ) (k : ℕ) :
    dftIm n (fun i => re i * s) (fun i => im i * s) k = dftIm n re im k * s := by
  unfold dftIm; rw [sum_mul]; exact sum_congr rfl fun j _ => by ring

/-- The angle of the DCT-IV kernel at (2i, 2p). -/
noncomputable def beta (Q i p : ℕ) : ℝ := π / ((2 * Q : ℕ) : ℝ) * (2 * (i : ℝ) + 1 / 2) * (2 * (p : ℝ) + 1 / 2)

theorem angle_sum (Q i p : ℕ) (hQ : 0 < Q) :
    theta (4 * Q) i + 2 * π * ((i * p : ℕ) : ℝ) / Q + theta (4 * Q) p = beta Q i p := by
  unfold theta beta
  have hQ' : (Q : ℝ) ≠ 0 := by exact_mod_cast hQ.ne'
  push_cast; field_simp; ring

/-- Pre-rotation, DFT and post-rotation with the twiddles as the code reads them (`trig[i]`, `trig[N/4 + i]`):
    for `F` the DFT of `(a_i + i·b_i)·e^{-iθ_i}`, `Re(F_p·e^{-iθ_p}) = Σ_i a_i·cos β + b_i·sin β`. -/
theorem rot_core_re (Q : ℕ) (hQ : 0 < Q) (a b : ℕ → ℝ) (p : ℕ) :
    dftRe Q (fun i => a i * trigR (4 * Q) i - b i * trigR (4 * Q) (Q + i))
        (fun i => b i * trigR (4 * Q) i + a i * trigR (4 * Q) (Q + i)) p * trigR (4 * Q) p
      - dftIm Q (fun i => a i * trigR (4 * Q) i - b i * trigR (4 * Q) (Q + i))
        (fun i => b i * trigR (4 * Q) i + a i * trigR (4 * Q) (Q + i)) p * trigR (4 * Q) (Q + p)
      = ∑ i ∈ range Q, (a i * cos (beta Q i p) + b i * sin (beta Q i p)) := by
  unfold dftRe dftIm
  rw [sum_mul, sum_mul, ← sum_sub_distrib]
  refine sum_congr rfl fun i _ => ?_
  beta_reduce
  rw [← angle_sum Q i p hQ, trigR_hi Q i hQ, trigR_hi Q p hQ, trigR_lo, trigR_lo]
  simp only [cos_add, sin_add]
  ring

/-- `Im(F_p·e^{-iθ_p}) = Σ_i b_i·cos β − a_i·sin β`. -/
theorem rot_core_im (Q : ℕ) (hQ : 0 < Q) (a b : ℕ → ℝ) (p : ℕ) :
    dftIm Q (fun i => a i * trigR (4 * Q) i - b i * trigR (4 * Q) (Q + i))
        (fun i => b i * trigR (4 * Q) i + a i * trigR (4 * Q) (Q + i)) p * trigR (4 * Q) p
      + dftRe Q (fun i => a i * trigR (4 * Q) i - b i * trigR (4 * Q) (Q + i))
        (fun i => b i * trigR (4 * Q) i + a i * trigR (4 * Q) (Q + i)) p * trigR (4 * Q) (Q + p)
      = ∑ i ∈ range Q, (b i * cos (beta Q i p) - a i * sin (beta Q i p)) := by
  unfold dftRe dftIm
  rw [sum_mul, sum_mul, ← sum_add_distrib]
  refine sum_congr rfl fun i _ => ?_
  beta_reduce
  rw [← angle_sum Q i p hQ, trigR_hi Q i hQ, trigR_hi Q p hQ, trigR_lo, trigR_lo]
  simp only [cos_add, sin_add]
  ring

theorem sum_range_even_odd (Q : ℕ) (f : ℕ → ℝ) :
    ∑ n ∈ range (2 * Q), f n = ∑ i ∈ range Q, f (2 * i) + ∑ i ∈ range Q, f (2 * i + 1) := by
  induction Q with
  | zero => simp
  | succ q ih =>
    have e : 2 * (q + 1) = 2 * q + 1 + 1 := by ring
    rw [e, sum_range_succ, sum_range_succ, ih, sum_range_succ, sum_range_succ]
    ring

/-- Even / reflected-odd split of a sum over `[0, 2Q)`: `n = 2i` and `n = 2Q − 1 − 2i`. -/
theorem sum_range_pairs (Q : ℕ) (f : ℕ → ℝ) :
    ∑ n ∈ range (2 * Q), f n = ∑ i ∈ range Q, (f (2 * i) + f (2 * Q - 1 - 2 * i)) := by
  rw [sum_range_even_odd, sum_add_distrib]
  congr 1
  rw [← sum_range_reflect (fun i => f (2 * i + 1)) Q]
  refine sum_congr rfl fun i hi => ?_
  have : i < Q := mem_range.mp hi
  congr 1; omega

/-- Kernel values on the pairing, even output `k = 2p`. -/
theorem c4_even_even (Q i p : ℕ) : c4 (2 * Q) (2 * i) (2 * p) = cos (beta Q i p) := by
  unfold c4 beta; congr 1; push_cast; ring

theorem c4_odd_even (Q i p m : ℕ) (hQ : 0 < Q) (hm : m + 2 * i + 1 = 2 * Q) :
    c4 (2 * Q) m (2 * p) = sin (beta Q i p) := by
  unfold c4 beta
  have hQ' : (Q : ℝ) ≠ 0 := by exact_mod_cast hQ.ne'
  have : π / ((2 * Q : ℕ) : ℝ) * ((m : ℝ) + 1 / 2) * (((2 * p : ℕ) : ℝ) + 1 / 2)
      = (π / 2 - π / ((2 * Q : ℕ) : ℝ) * (2 * (i : ℝ) + 1 / 2) * (2 * (p : ℝ) + 1 / 2)) + (p : ℝ) * (2 * π) := by
    rw [cast_reflect hm]; push_cast; field_simp; ring
  rw [this, cos_add_nat_mul_two_pi, cos_pi_div_two_sub]

theorem beta_symm (Q i p : ℕ) : beta Q i p = beta Q p i := by unfold beta; ring

/-- Kernel values on the pairing, odd output `k = 2Q − 1 − 2p`. -/
theorem c4_even_odd (Q i p k : ℕ) (hQ : 0 < Q) (hk : k + 2 * p + 1 = 2 * Q) :
    c4 (2 * Q) (2 * i) k = sin (beta Q i p) := by
  rw [c4_symm, c4_odd_even Q p i k hQ hk, beta_symm]

theorem c4_odd_odd (Q i p m k : ℕ) (hQ : 0 < Q) (hm : m + 2 * i + 1 = 2 * Q) (hk : k + 2 * p + 1 = 2 * Q) :
    c4 (2 * Q) m k = - cos (beta Q i p) := by
  unfold c4 beta
  have hQ' : (Q : ℝ) ≠ 0 := by exact_mod_cast hQ.ne'
  have : π / ((2 * Q : ℕ) : ℝ) * ((m : ℝ) + 1 / 2) * ((k : ℝ) + 1 / 2)
      = (π / ((2 * Q : ℕ) : ℝ) * (2 * (i : ℝ) + 1 / 2) * (2 * (p : ℝ) + 1 / 2) - π)
        + (((Q : ℤ) - i - p : ℤ) : ℝ) * (2 * π) := by
    rw [cast_reflect hm, cast_reflect hk]; push_cast; field_simp; ring
  rw [this, cos_add_int_mul_two_pi, cos_sub_pi]

theorem dct4_even (Q : ℕ) (hQ : 0 < Q) (u : ℕ → ℝ) (p : ℕ) :
    dct4 (2 * Q) u (2 * p)
      = ∑ i ∈ range Q, (u (2 * i) * cos (beta Q i p) + u (2 * Q - 1 - 2 * i) * sin (beta Q i p)) := by
  unfold dct4
  rw [sum_range_pairs]
  refine sum_congr rfl fun i hi => ?_
  have : i < Q := mem_range.mp hi
  rw [c4_even_even, c4_odd_even Q i p (2 * Q - 1 - 2 * i) hQ (by omega)]

theorem dct4_odd (Q : ℕ) (hQ : 0 < Q) (u : ℕ → ℝ) (p k : ℕ) (hk : k + 2 * p + 1 = 2 * Q) :
    - dct4 (2 * Q) u k
      = ∑ i ∈ range Q, (u (2 * Q - 1 - 2 * i) * cos (beta Q i p) - u (2 * i) * sin (beta Q i p)) := by
  unfold dct4
  rw [sum_range_pairs, ← sum_neg_distrib]
  refine sum_congr rfl fun i hi => ?_
  have : i < Q := mem_range.mp hi
  rw [c4_even_odd Q i p k hQ hk, c4_odd_odd Q i p (2 * Q - 1 - 2 * i) k hQ (by omega) hk]
  ring

end Opus.MdctR
