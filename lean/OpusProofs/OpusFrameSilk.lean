import OpusModel.OpusFrameEnc
import OpusProofs.SilkSymsEncRoundTrip
import OpusProofs.RangeCoderStream
/-
  C08, frame level: the first use of `frame_prefix_decode` (OpusProofs/SilkSymsEncRoundTrip.lean), the core of all
  frame-level theorems (SILK payload and whatever signalling follows it, decoded from any byte stream inside the encoder's
  final interval): a SILK-only Opus frame without redundancy.  The frame the encoder hands to the packet layer — the finished range-coder buffer cut at
  `(ec_tell+7)>>3` bytes, trailing zero bytes stripped — is decoded by C03's `decodeOpusFrame` to exactly what was
  encoded, no redundancy is inferred from the length, and the decoder's final range is the encoder's `rangeFinal`.
  The theorems `opus_frame_lockstep_…_all` of the OpusFrame* files are what OpusProps/C08.lean states under the same names
  without the suffix (and says in the terms of the C code).
-/
namespace Opus.OpusFrameProofs
open Opus Opus.RangeCoder Opus.SilkSyms Opus.SilkSymsEnc Opus.SilkSymsEncProofs Opus.OpusFrameEnc

theorem stripZeros_spec (buf : List Nat) : ∀ (r : Nat),
    stripZeros buf r ≤ r ∧ (1 ≤ r → 1 ≤ stripZeros buf r) ∧
    (∀ i, stripZeros buf r ≤ i → i < r → buf.getD i 0 = 0)
  | 0 => ⟨Nat.le_refl _, fun h => absurd h (by decide), fun i _ hi => absurd hi (by omega)⟩
  | r + 1 => by
    unfold stripZeros
    have ih := stripZeros_spec buf r
    split
    · rename_i h
      refine ⟨by omega, fun _ => ih.2.1 (by omega), fun i h1 h2 => ?_⟩
      by_cases hir : i = r
      · rw [hir]; exact h.2
      · exact ih.2.2 i h1 (by omega)
    · exact ⟨Nat.le_refl _, fun h => h, fun i h1 h2 => absurd h2 (by omega)⟩

theorem icLegal_noRaw {ops : List Op} (h : IcLegal ops) : ∀ op ∈ ops, NoRawOp op := by
  intro op hop
  rcases h op hop with ⟨s, tbl, rfl, _, _⟩
  trivial

/-- `ret = (ec_tell+7)>>3` of a coder without raw bits whose `ec_tell` is within the budget: at least one byte, within
    `size`, and it covers every byte on which the final interval depends (the `n` of `encDone_contains_ext`). -/
theorem tellBytes_facts (c : Enc) (ac : Acct c) (h0 : c.endOffs = 0) (h1 : c.nendBits = 0) (hil : ilog c.rng ≤ 32)
    (size : Nat) (hfit : tell c ≤ 8 * (size : Int)) :
    ((tell c + 7) / 8 = ((((tell c + 7) / 8).toNat : Nat) : Int) ∧ 1 ≤ ((tell c + 7) / 8).toNat) ∧
    ((tell c + 7) / 8).toNat ≤ size ∧ ∀ n, 8 * n + ilog c.rng ≤ 8 * encM c + 40 → n ≤ ((tell c + 7) / 8).toNat := by
  unfold Acct rawN at ac
  rw [h0, h1] at ac
  unfold tell at hfit ⊢
  exact ⟨by omega, by omega, fun n h => by omega⟩

/-- The frame of a SILK-only packet: the finished coder cut at `(ec_tell+7)>>3` bytes with the trailing zero bytes
    stripped (`L`).  Not empty, `8*L <= ec_tell+7`, and its code value still lies in the encoder's final interval
    (everything behind `ec_tell` in the buffer is zero, and zeros may be cut). -/
theorem encDone_strip_contains (c : Enc) (ri : RunInv c) (ac : Acct c) (h0 : c.endOffs = 0) (h1 : c.nendBits = 0)
    (hn : c.nbitsTotal < 4294967296) (herr : (encDone c).error = 0) (hfit : tell c ≤ 8 * (c.storage : Int)) (L : Nat)
    (hL : stripZeros (encDone c).buf ((tell c + 7) / 8).toNat = L) :
    0 < L ∧ 8 * (L : Int) ≤ tell c + 7 ∧ ((encDone c).buf.take L).length = L ∧ Contains ((encDone c).buf.take L) L c := by
  obtain ⟨-, -, hlen, -, hcont, -⟩ := encDone_spec c ri.inv ri.raw ri.bytes hn herr
  obtain ⟨⟨hretI, hret1⟩, hretS, -⟩ := tellBytes_facts c ac h0 h1 (ilog_le_32 ⟨ri.inv.rng_lo, ri.inv.rng_hi⟩) c.storage hfit
  have hzt := encDone_zero_tail c ri.inv ac h0 h1 hn herr
  have hwf := ri.inv.wf.storage_le
  generalize ((tell c + 7) / 8).toNat = ret at *
  obtain ⟨sl, s1, sz⟩ := stripZeros_spec (encDone c).buf ret
  rw [hL] at sl s1 sz
  refine ⟨s1 hret1, by omega, by rw [List.length_take, hlen]; omega,
    contains_trunc _ c.storage L c (by omega) (fun i hi1 hi2 => ?_) hcont⟩
  by_cases hir : i < ret
  · exact sz i hi1 hir
  · exact hzt i (by omega) hi2

/-- the main coder's calls for the SILK payload: placeholder for the flag bits, body, patch -/
theorem packetOps_eq (cfg : Cfg) (pk : PacketIn) : packetOps cfg pk =
    .icdf 0 (flagTable ((cfg.nfpp + 1) * cfg.nCh)) 8 ::
      (packetBody cfg pk ++ [.patchInitial (bitsWord (headerBits cfg pk) 0) ((cfg.nfpp + 1) * cfg.nCh)]) := rfl

theorem packetOps_noRaw {cfg : Cfg} {pk : PacketIn} (hok : PacketOk cfg pk) : ∀ op ∈ packetOps cfg pk, NoRawOp op := by
  intro op hop
  rw [packetOps_eq] at hop
  rcases List.mem_cons.mp hop with h | h
  · rw [h]; trivial
  · rcases List.mem_append.mp h with h | h
    · exact icLegal_noRaw (packetBody_legal hok) op h
    · rw [List.mem_singleton] at h; rw [h]; trivial

/-- The main coder behind the SILK payload and signalling `sig` without raw bits (`[]` for a SILK-only frame): the facts
    of a SILK-flag run (`flags_run_facts`), nothing written from the end of the buffer, `storage` still `size`. -/
theorem sig_run_facts (buf : List Nat) (size : Nat) (cfg : Cfg) (pk : PacketIn) (sig : List Op) (hs : size ≤ buf.length)
    (hb : BytesOk buf) (hok : PacketOk cfg pk) (hsigN : ∀ op ∈ sig, NoRawOp op)
    (hsig : LegalRun (encRun (encInit buf size) (packetOps cfg pk)) sig)
    (hnF : (encRun (encInit buf size) (packetOps cfg pk ++ sig)).nbitsTotal < 4294967296)
    (herrF : (encRun (encInit buf size) (packetOps cfg pk ++ sig)).error = 0) :
    RunInv (encRun (encInit buf size) (packetOps cfg pk ++ sig)) ∧
    Acct (encRun (encInit buf size) (packetOps cfg pk ++ sig)) ∧
    (encRun (encInit buf size) (packetOps cfg pk ++ sig)).endOffs = 0 ∧
    (encRun (encInit buf size) (packetOps cfg pk ++ sig)).nendBits = 0 ∧
    (encRun (encInit buf size) (packetOps cfg pk ++ sig)).storage = size := by
  obtain ⟨n1, n2, n3⟩ := noRaw_run (packetOps cfg pk ++ sig) (encInit buf size) fun op hop =>
    (List.mem_append.mp hop).elim (packetOps_noRaw hok op) (hsigN op)
  obtain ⟨hk1, hk8⟩ := flagCount_bounds hok
  have hw : bitsWord (headerBits cfg pk) 0 < 2 ^ ((cfg.nfpp + 1) * cfg.nCh) := by
    rw [← headerBits_length hok]; exact bitsWord_lt _ (headerBits_bits hok)
  rw [packetOps_eq] at hsig
  rw [packetOps_eq, List.cons_append] at hnF herrF n1 n2 n3 ⊢
  obtain ⟨ri, ac, -⟩ := flags_run_facts buf size _ _ hs hb hk1 hk8
    ((legalRunP_append _ _ sig _).2 ⟨legalRunP_of_ic _ _ hw _ _ (packetBody_legal hok), legalRunP_of_legalRun _ sig _ hsig⟩)
    hnF herrF
  exact ⟨ri, ac, n1, n2, n3⟩

/-- What C03's `decodeOpusFrameCfg` does on a frame whose code value lies in the encoder's final interval
    (`frame_prefix_decode` with the decoder model unfolded once): the SILK symbols are the encoded ones, and the redundancy
    parse starts from a state `c1` that has read the payload, is in lock step with the encoder behind it and will read the
    signalling `sig` back. -/
theorem frame_stream_decode (mode ir pm : Nat) (buf : List Nat) (size : Nat) (cfg : Cfg) (pk : PacketIn) (st : SilkSt)
    (sig suf : List Op) (hs : size ≤ buf.length) (hb : BytesOk buf) (hok : PacketOk cfg pk) (hsigN : ∀ op ∈ sig, NoRawOp op)
    (hsig : LegalRun (encRun (encInit buf size) (packetOps cfg pk)) sig)
    (hsuf : LegalRun (encRun (encInit buf size) (packetOps cfg pk ++ sig)) suf)
    (hnF : (encRun (encInit buf size) (packetOps cfg pk ++ sig ++ suf)).nbitsTotal < 4294967296)
    (herrF : (encRun (encInit buf size) (packetOps cfg pk ++ sig ++ suf)).error = 0)
    (B : List Nat) (hB : BytesOk B) (hBl : 0 < B.length)
    (hc : Contains B B.length (encRun (encInit buf size) (packetOps cfg pk ++ sig ++ suf))) :
    ∃ c1, decodeOpusFrameCfg mode ir pm false cfg st B =
        { internalRate := ir, payloadMs := pm, nCh := cfg.nCh, lostFlag := cfg.lostFlag,
          evs := packetEvs cfg pk (fun j => ((encRun (encInit buf size) (prefixOps cfg pk j)).rng,
            tell (encRun (encInit buf size) (prefixOps cfg pk j)))),
          redundancy := (redundancyHeader mode false B.length c1).1,
          celtToSilk := (redundancyHeader mode false B.length c1).2.1,
          redundancyBytes := (redundancyHeader mode false B.length c1).2.2.1,
          len := (redundancyHeader mode false B.length c1).2.2.2.1,
          dec := (redundancyHeader mode false B.length c1).2.2.2.2,
          st := (silkCalls cfg cfg.nfpp true st (decInit B B.length)).2.1 } ∧
      c1 = after (decInit B B.length) (flagOps (headerBits cfg pk) ++ packetBody cfg pk) ∧
      tell c1 = tell (encRun (encInit buf size) (packetOps cfg pk)) ∧ Reads c1 sig ∧
      DecAll B B.length (encRun (encInit buf size) (packetOps cfg pk ++ sig)) (after c1 sig) B := by
  obtain ⟨hnP, herrP⟩ := encRun_ok_of_append hnF herrF
  obtain ⟨riP, _, p0, p1, _⟩ := sig_run_facts buf size cfg pk sig hs hb hok hsigN hsig hnP herrP
  have hr := rawC_of_noRaw B B.length _ riP.raw p0 p1
  obtain ⟨r1, -, r3, r4, r5⟩ := frame_prefix_decode buf size cfg pk st sig suf hs hb hok hsig hsuf hnF herrF B B.length hB hBl hBl
    hc hr
  have hc1 := (silkCalls_any hok st _
    (frame_prefix_reads buf size cfg pk sig suf hs hb hok hsig hsuf hnF herrF B B.length hB hBl hBl hc hr).1.1).2
  exact ⟨_, by rw [← r1]; rfl, hc1, r3, r4, r5⟩

/-- `DecControl.internalSampleRate` of a SILK-only frame (opus_decoder.c:417-427). -/
def silkIr (bandwidth : Nat) : Nat := if bandwidth = 1101 then 8000 else if bandwidth = 1102 then 12000 else 16000

theorem decodeOpusFrame_silk (bandwidth nCh ms10 : Nat)
    (hbw : bandwidth = 1101 ∨ bandwidth = 1102 ∨ bandwidth = 1103)
    (hms : ms10 = 100 ∨ ms10 = 200 ∨ ms10 = 400 ∨ ms10 = 600) (st : SilkSt) (frame : Bytes) :
    decodeOpusFrame 1000 bandwidth nCh ms10 false st frame =
      .ok (decodeOpusFrameCfg 1000 (silkIr bandwidth) (ms10 / 10) false (silkCfg bandwidth nCh ms10) st frame) := by
  rcases hbw with rfl | rfl | rfl <;> rcases hms with rfl | rfl | rfl | rfl <;> rfl

/-- SILK-only Opus frame without redundancy: the decoder model, run on the frame the encoder emits
    (buffer cut at `(ec_tell+7)>>3`, trailing zeros stripped), finds no redundancy, reports what was
    encoded and ends with the encoder's `rangeFinal`. -/
theorem opus_frame_lockstep_silk_all (buf : List Nat) (maxData bandwidth nCh ms10 : Nat) (pk : PacketIn) (st : SilkSt)
    (hbw : bandwidth = 1101 ∨ bandwidth = 1102 ∨ bandwidth = 1103)
    (hms : ms10 = 100 ∨ ms10 = 200 ∨ ms10 = 400 ∨ ms10 = 600)
    (hs : maxData - 1 ≤ buf.length) (hb : BytesOk buf) (hok : PacketOk (silkCfg bandwidth nCh ms10) pk)
    (hn : (encodeAll buf (maxData - 1) (packetOps (silkCfg bandwidth nCh ms10) pk)).nbitsTotal < 4294967296)
    (herr : (encodeAll buf (maxData - 1) (packetOps (silkCfg bandwidth nCh ms10) pk)).error = 0)
    (hfit : tell (encRun (encInit buf (maxData - 1)) (packetOps (silkCfg bandwidth nCh ms10) pk)) ≤
      8 * ((maxData - 1 : Nat) : Int)) :
    ∃ o, decodeOpusFrame 1000 bandwidth nCh ms10 false st
        (silkOnlyFrame buf maxData (silkCfg bandwidth nCh ms10) pk).payload = .ok o ∧
      o.redundancy = 0 ∧ o.dec.error = 0 ∧
      o.dec.rng = (silkOnlyFrame buf maxData (silkCfg bandwidth nCh ms10) pk).rangeFinal ∧
      (silkOnlyFrame buf maxData (silkCfg bandwidth nCh ms10) pk).rangeFinal =
        (encRun (encInit buf (maxData - 1)) (packetOps (silkCfg bandwidth nCh ms10) pk)).rng ∧
      o.evs = packetEvs (silkCfg bandwidth nCh ms10) pk (fun j =>
        ((encRun (encInit buf (maxData - 1)) (prefixOps (silkCfg bandwidth nCh ms10) pk j)).rng,
         tell (encRun (encInit buf (maxData - 1)) (prefixOps (silkCfg bandwidth nCh ms10) pk j)))) := by
  unfold silkOnlyFrame encodeAll at *
  simp only [] at *
  generalize hcfg : silkCfg bandwidth nCh ms10 = cfg at *
  generalize maxData - 1 = size at *
  obtain ⟨hnF, herrF⟩ := encDone_ok hn herr
  have hfacts := sig_run_facts buf size cfg pk [] hs hb hok (fun _ h => absurd h List.not_mem_nil) trivial
    (by rw [List.append_nil]; exact hnF) (by rw [List.append_nil]; exact herrF)
  rw [List.append_nil] at hfacts
  obtain ⟨riF, acF, h0, h1, hsto⟩ := hfacts
  obtain ⟨-, -, -, d3, -, -⟩ := encDone_spec _ riF.inv riF.raw riF.bytes hnF herr
  have hrngD := encDone_rng (encRun (encInit buf size) (packetOps cfg pk))
  have hnbD := encDone_nbitsTotal (encRun (encInit buf size) (packetOps cfg pk))
  rw [(tell_eq_of_rn hrngD hnbD).1, if_neg (Int.not_lt.mpr hfit)]
  simp only []
  generalize he1 : encRun (encInit buf size) (packetOps cfg pk) = e1 at *
  obtain ⟨hL1, hL8, hlenT, hc⟩ := encDone_strip_contains e1 riF acF h0 h1 hnF herr (by rw [hsto]; exact hfit) _ rfl
  generalize encDone e1 = eD at *
  generalize stripZeros eD.buf ((tell e1 + 7) / 8).toNat = L at *
  obtain ⟨c1, hdec, -, r3, -, r5⟩ := frame_stream_decode 1000 (silkIr bandwidth) (ms10 / 10) buf size cfg pk st [] [] hs hb hok
    (fun _ h => absurd h List.not_mem_nil) trivial trivial
    (by rw [List.append_nil, List.append_nil, he1]; exact hnF) (by rw [List.append_nil, List.append_nil, he1]; exact herrF)
    (eD.buf.take L) (bytesOk_take d3 _) (by rw [hlenT]; exact hL1)
    (by rw [List.append_nil, List.append_nil, he1, hlenT]; exact hc)
  have r2 : c1.rng = e1.rng := by have := r5.rc.rng_eq; rw [List.append_nil, he1] at this; exact this
  rw [he1] at r3
  rw [← hcfg, decodeOpusFrame_silk bandwidth nCh ms10 hbw hms, hcfg, hdec]
  refine ⟨_, rfl, ?_⟩
  have hgate : ¬ (¬ (false = true) ∧ tell c1 + 17 + (if (1000 : Nat) = 1001 then 20 else 0) ≤ 8 * (((eD.buf.take L).length : Nat) : Int)) := by
    intro hh
    have := hh.2
    simp only [show ¬ ((1000 : Nat) = 1001) by decide, if_false] at this
    rw [r3, hlenT] at this
    have := Int.le_trans this hL8
    omega
  simp only [redundancyHeader, if_neg hgate]
  exact ⟨trivial, r5.err, by rw [r2]; exact hrngD.symm, hrngD, trivial⟩

end Opus.OpusFrameProofs
