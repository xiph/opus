import OpusProofs.SoftClip
import Mathlib.Algebra.Order.Field.Basic
import Mathlib.Tactic.Linarith
import Mathlib.Tactic.Ring
/-
  OpusProofs.SoftClipField — the soft clipper instantiated at an arbitrary linearly ordered field `F`
  (exact arithmetic; ℚ and ℝ are instances), with an arbitrary boost constant `eps`:
    * `|v| ≤ 1` implies `Pass v`, hence pass-through;
    * the per-excursion map `v ↦ v + a·v·v` with the coefficient `a = coefA maxval x[i]` chosen by the
      code (including the `a += a*eps` boost, any `0 ≤ eps < 1`) maps every sample of the excursion
      (`|v| ≤ maxval ≤ 2`, same sign as the peak) into [-1, 1] without changing its sign;
    * the ramp offset and the continuation step of the previous frame's curve keep the sign as well.
-/
namespace Opus.SoftClip
variable {F : Type} [Field F] [LinearOrder F] [IsStrictOrderedRing F]

/-- `ClipOps` of an ordered field: exact arithmetic, `fabs = |·|`, C comparisons = the order. -/
@[reducible] def fieldOps (eps : F) : ClipOps F where
  add := (· + ·)
  sub := (· - ·)
  mul := (· * ·)
  div := (· / ·)
  neg := (- ·)
  zero := 0
  one := 1
  two := 2
  eps := eps
  abs := fun v => |v|
  ltb := fun a b => decide (a < b)
  leb := fun a b => decide (a ≤ b)
  ofNat := fun n => (n : F)

/-- `MAX16(-b, MIN16(b, v))` in field terms -/
def clampTo (b v : F) : F := if v < -b then -b else if b < v then b else v

theorem clampTo_abs {b : F} (hb : 0 ≤ b) (v : F) : |clampTo b v| ≤ b := by
  unfold clampTo
  split
  · rw [abs_neg, abs_of_nonneg hb]
  · split
    · rw [abs_of_nonneg hb]
    · exact abs_le.mpr ⟨not_lt.mp ‹_›, not_lt.mp ‹_›⟩

theorem clampTo_pos {b v : F} (hb : 0 < b) (h : 0 < v) : 0 < clampTo b v := by
  unfold clampTo
  rw [if_neg (not_lt.mpr ((neg_neg_of_pos hb).le.trans h.le))]
  split
  · exact hb
  · exact h

theorem clampTo_neg {b v : F} (hb : 0 < b) (h : v < 0) : clampTo b v < 0 := by
  unfold clampTo
  split
  · exact neg_neg_of_pos hb
  · rw [if_neg (not_lt.mpr (h.le.trans hb.le))]; exact h

theorem clampTo_of_abs_le {b v : F} (h : |v| ≤ b) : clampTo b v = v := by
  unfold clampTo
  rw [if_neg (not_lt.mpr (abs_le.mp h).1), if_neg (not_lt.mpr (abs_le.mp h).2)]

/-- `b` has the strict sign of `a` whenever `a` has one. -/
def SignKept (a b : F) : Prop := (0 < a → 0 < b) ∧ (a < 0 → b < 0)

namespace SignKept

omit [IsStrictOrderedRing F] in
theorem refl (a : F) : SignKept a a := ⟨id, id⟩

omit [IsStrictOrderedRing F] in
theorem trans {a b c : F} (h : SignKept a b) (h' : SignKept b c) : SignKept a c :=
  ⟨fun ha => h'.1 (h.1 ha), fun ha => h'.2 (h.2 ha)⟩

theorem mul_pos (a : F) {f : F} (hf : 0 < f) : SignKept a (a * f) :=
  ⟨fun h => _root_.mul_pos h hf, fun h => mul_neg_of_neg_of_pos h hf⟩

theorem clamp {b : F} (hb : 0 < b) (v : F) : SignKept v (clampTo b v) :=
  ⟨clampTo_pos hb, clampTo_neg hb⟩

end SignKept

/-- The C saturation `MAX16(-b, MIN16(b, v))` with its Bool-valued comparisons is `clampTo b`. -/
theorem sat_field (eps : F) {b : F} (hb : 0 ≤ b) (v : F) :
    @max16 F (fieldOps eps) (-b) (@min16 F (fieldOps eps) b v) = clampTo b v := by
  show (if decide ((if decide (b < v) then b else v) < -b) then -b else (if decide (b < v) then b else v)) = _
  unfold clampTo
  by_cases h1 : b < v
  · rw [if_pos (decide_eq_true h1), if_neg (mt of_decide_eq_true (not_lt.mpr (neg_le_self hb))),
      if_neg (not_lt.mpr ((neg_le_self hb).trans h1.le)), if_pos h1]
  · rw [if_neg (mt of_decide_eq_true h1)]
    by_cases h2 : v < -b
    · rw [if_pos (decide_eq_true h2), if_pos h2]
    · rw [if_neg (mt of_decide_eq_true h2), if_neg h2, if_neg h1]

theorem pass_of_abs_le_one (eps v : F) (h : |v| ≤ 1) : @Pass F (fieldOps eps) v := by
  obtain ⟨h1, h2⟩ := abs_le.mp h
  refine ⟨?_, ?_, (sat_field eps zero_le_two v).trans (clampTo_of_abs_le (h.trans one_le_two)), ?_⟩
  · show decide ((1 : F) < v) = false
    exact decide_eq_false (not_lt.mpr h2)
  · show decide (v < -(1 : F)) = false
    exact decide_eq_false (not_lt.mpr h1)
  · show decide ((0 : F) ≤ v * 0) = true
    exact decide_eq_true (by rw [mul_zero])

/-- What the proofs use of the unboosted coefficient `c = (m-1)/m²` of a peak `1 < m ≤ 2`. -/
theorem peakCoef {m : F} (hm1 : 1 < m) (hm2 : m ≤ 2) :
    0 < (m - 1) / (m * m) ∧ (m - 1) / (m * m) * (m * m) = m - 1 ∧ 2 * ((m - 1) / (m * m) * m) ≤ 1 := by
  have hm : 0 < m := zero_lt_one.trans hm1
  have hmm := mul_pos hm hm
  have h := div_mul_cancel₀ (m - 1) hmm.ne'
  refine ⟨div_pos (sub_pos.2 hm1) hmm, h, le_of_mul_le_mul_right (a := m) ?_ hm⟩
  calc 2 * ((m - 1) / (m * m) * m) * m = 2 * ((m - 1) / (m * m) * (m * m)) := by ring
    _ ≤ 1 * m := by rw [h]; linarith only [hm2]

/-! The map is `x ↦ x - c·x²·Q = x·(1 - c·x·Q)` with `c` as in `peakCoef` and a relative factor `Q` of the
    coefficient: `Q = 1 + eps` in exact arithmetic, a product of rounding errors in OpusProofs/SoftClipRound.lean.
    Two facts about variables carry both cases. -/

/-- The slope term `c·x·Q` is at most `Q/2`: the map keeps the sign while `Q ≤ 2`. -/
theorem quad_slope {c m x Q : F} (hc0 : 0 ≤ c) (hcm : 2 * (c * m) ≤ 1) (hxm : x ≤ m) (hQ0 : 0 ≤ Q) :
    2 * (c * x * Q) ≤ Q := by
  have h : 2 * (c * x) ≤ 1 := le_trans (by linarith only [mul_le_mul_of_nonneg_left hxm hc0]) hcm
  calc 2 * (c * x * Q) = 2 * (c * x) * Q := by ring
    _ ≤ 1 * Q := mul_le_mul_of_nonneg_right h hQ0
    _ = Q := one_mul Q

/-- A factor `Q ≥ 1 - u` keeps the map at or below `1 + (m-1)u`:
    `1 + (m-1)u - (x - c x²(1-u)) = (m - x)(1 - c(m+x) + cu(m+x))` when `c m² = m - 1`. -/
theorem quad_upper {c m x Q u : F} (hc0 : 0 ≤ c) (hcm : 2 * (c * m) ≤ 1) (hcmm : c * (m * m) = m - 1)
    (hx0 : 0 ≤ x) (hxm : x ≤ m) (hu : 0 ≤ u) (hQ : 1 - u ≤ Q) : x - c * (x * x) * Q ≤ 1 + (m - 1) * u := by
  have h1 : c * (x * x) * (1 - u) ≤ c * (x * x) * Q :=
    mul_le_mul_of_nonneg_left hQ (mul_nonneg hc0 (mul_self_nonneg x))
  have h2 : 0 ≤ (m - x) * ((1 - c * (m + x)) + c * u * (m + x)) :=
    mul_nonneg (sub_nonneg.2 hxm) (add_nonneg
      (by linarith only [hcm, mul_le_mul_of_nonneg_left hxm hc0])
      (mul_nonneg (mul_nonneg hc0 hu) (add_nonneg (hx0.trans hxm) hx0)))
  have h3 : c * (m * m) * (1 - u) = (m - 1) * (1 - u) := by rw [hcmm]
  linarith only [h1, h2, h3]

/-- `|a|` as opus.c:106-110 computes it, `a=(maxval-1)/(maxval*maxval); a += a*eps`: equal to `(m-1)/m² · (1+eps)`. -/
def tcoef (eps m : F) : F := (m - 1) / (m * m) + (m - 1) / (m * m) * eps

omit [IsStrictOrderedRing F] in
/-- The coefficient chosen by opus.c:106-112, over a field. -/
theorem coefA_field (eps m xi : F) :
    @coefA F (fieldOps eps) m xi = if 0 < xi then -tcoef eps m else tcoef eps m := by
  show (if decide ((0 : F) < xi) then _ else _) = _
  by_cases h : 0 < xi
  · simp only [h, decide_true, if_true]; rfl
  · simp only [h, decide_false, Bool.false_eq_true, if_false]; rfl

theorem tcoef_bounds (eps m : F) (hm : 1 < m) (he0 : 0 ≤ eps) : 0 < tcoef eps m ∧ tcoef eps m ≤ (1 + eps) / 4 := by
  have hmm : 0 < m * m := mul_pos (zero_lt_one.trans hm) (zero_lt_one.trans hm)
  have h1 : 0 < (m - 1) / (m * m) := div_pos (sub_pos.2 hm) hmm
  have h2 : (m - 1) / (m * m) ≤ 1 / 4 := by
    rw [div_le_div_iff₀ hmm four_pos]
    linarith only [mul_self_nonneg (m - 2)]
  have h3 : 0 < 1 + eps := add_pos_of_pos_of_nonneg one_pos he0
  have e : tcoef eps m = (m - 1) / (m * m) * (1 + eps) := by unfold tcoef; ring
  rw [e]
  exact ⟨mul_pos h1 h3, by linarith only [mul_le_mul_of_nonneg_right h2 h3.le]⟩

theorem coefA_abs (eps m xi : F) (he0 : 0 ≤ eps) (hm1 : 1 < m) : |@coefA F (fieldOps eps) m xi| ≤ (1 + eps) / 4 := by
  have ⟨h1, h2⟩ := tcoef_bounds eps m hm1 he0
  rw [coefA_field]
  split
  · rw [abs_neg, abs_of_pos h1]; exact h2
  · rw [abs_of_pos h1]; exact h2

/-! Samples `v` of an excursion are on the side of the detected sample `xi ≠ 0`: `0 ≤ xi * v`. -/

theorem side_pos {xi v : F} (hxi : xi ≠ 0) (hside : 0 ≤ xi * v) (hv : 0 < v) : 0 < xi :=
  lt_of_le_of_ne (nonneg_of_mul_nonneg_left hside hv) hxi.symm

theorem side_neg {xi v : F} (hxi : xi ≠ 0) (hside : 0 ≤ xi * v) (hv : v < 0) : xi < 0 :=
  lt_of_le_of_ne (nonpos_of_mul_nonneg_left hside hv) hxi

theorem mul_nonneg_of_same_side {a b c : F} (ha : a ≠ 0) (hb : 0 ≤ a * b) (hc : 0 ≤ a * c) : 0 ≤ b * c := by
  have h := mul_nonneg hb hc
  rw [mul_mul_mul_comm] at h
  exact nonneg_of_mul_nonneg_right h (mul_self_pos.mpr ha)

/-- A term on the side of `xi`, added to the image of a sample on that side. -/
theorem signKept_add_side {xi v v' t : F} (h : SignKept v v') (hxi : xi ≠ 0) (hv : 0 ≤ xi * v) (ht : 0 ≤ xi * t) :
    SignKept v (v' + t) :=
  ⟨fun hp => add_pos_of_pos_of_nonneg (h.1 hp) ((mul_nonneg_iff_of_pos_left (side_pos hxi hv hp)).mp ht),
   fun hn => add_neg_of_neg_of_nonpos (h.2 hn) (nonpos_of_mul_nonneg_right ht (side_neg hxi hv hn))⟩

/-- The coefficient has the sign opposite to the detected sample `xi` (opus.c:111-112), so against every sample on the side of `xi`. -/
theorem coefA_mul_side (eps m : F) {xi v : F} (hxi : xi ≠ 0) (hside : 0 ≤ xi * v) :
    @coefA F (fieldOps eps) m xi * v = -(tcoef eps m * |v|) := by
  rw [coefA_field]
  by_cases hpos : 0 < xi
  · rw [if_pos hpos, abs_of_nonneg ((mul_nonneg_iff_of_pos_left hpos).mp hside)]; ring
  · have hneg : xi < 0 := lt_of_le_of_ne (not_lt.mp hpos) hxi
    rw [if_neg hpos, abs_of_nonpos (nonpos_of_mul_nonneg_right hside hneg)]; ring

/-- **The excursion map is bounded and sign-preserving.**  For the peak value `1 < maxval ≤ 2` of an
    excursion whose detected sample is `xi ≠ 0`, every sample `v` of the excursion (`|v| ≤ maxval`, on
    the same side of zero as `xi`) is mapped by `v + a*v*v`, `a = coefA maxval xi`, into [-1, 1], and
    the image has the strict sign of `v`. -/
theorem excursion_map (eps m xi v : F) (he0 : 0 ≤ eps) (he1 : eps < 1) (hm1 : 1 < m) (hm2 : m ≤ 2)
    (hxi : xi ≠ 0) (hside : 0 ≤ xi * v) (hv : |v| ≤ m) :
    |v + @coefA F (fieldOps eps) m xi * v * v| ≤ 1 ∧ SignKept v (v + @coefA F (fieldOps eps) m xi * v * v) := by
  obtain ⟨hc0, hcmm, hcm⟩ := peakCoef hm1 hm2
  have ht : tcoef eps m * |v| = (m - 1) / (m * m) * |v| * (1 + eps) := by unfold tcoef; ring
  have hslope := quad_slope hc0.le hcm hv (add_nonneg zero_le_one he0)
  have hpos : 0 < 1 - tcoef eps m * |v| := by rw [ht]; linarith only [hslope, he1]
  have hup := quad_upper (Q := 1 + eps) hc0.le hcm hcmm (abs_nonneg v) hv le_rfl (by linarith only [he0])
  have e : ∀ a : F, v + a * v * v = v * (1 + a * v) := fun a => by ring
  rw [e, coefA_mul_side eps m hxi hside, ← sub_eq_add_neg]
  refine ⟨?_, .mul_pos v hpos⟩
  rw [abs_mul, abs_of_pos hpos, ht]
  linarith only [hup]

/-- The ramp's `offset = x0 - x[0]` (opus.c:122) is on the side of the detected sample: by then `applyLoop` has rewritten
    `x[0]` to `x0 + a·x0²`, and `a` has the sign opposite to `xi`. -/
theorem ramp_offset_side (eps m xi x0 : F) (he0 : 0 ≤ eps) (hm1 : 1 < m) (hxi : xi ≠ 0) :
    0 ≤ xi * (x0 - (x0 + (@coefA F (fieldOps eps) m xi) * x0 * x0)) := by
  have e : ∀ a : F, xi * (x0 - (x0 + a * x0 * x0)) = -(a * xi) * (x0 * x0) := fun a => by ring
  rw [e, coefA_mul_side eps m hxi (mul_self_nonneg xi), neg_neg]
  exact mul_nonneg (mul_nonneg (tcoef_bounds eps m hm1 he0).1.le (abs_nonneg xi)) (mul_self_nonneg x0)

/-- One step of the continuation of the previous frame's curve: `v + a v² = v·(1 + v·a)` with `-1 < v·a < 0`. -/
theorem cont_step (eps a v : F) (he1 : eps < 1) (ha : |a| ≤ (1 + eps) / 4) (hv : |v| ≤ 2) (hva : v * a < 0) :
    |v + a * v * v| ≤ 2 ∧ SignKept v (v + a * v * v) := by
  have hlt : |v * a| < 1 := by
    rw [abs_mul]
    have := mul_le_mul hv ha (abs_nonneg a) zero_le_two
    linarith only [this, he1]
  have hf0 : 0 < 1 + v * a := by linarith only [(abs_lt.mp hlt).1]
  have e : v + a * v * v = v * (1 + v * a) := by ring
  rw [e]
  refine ⟨?_, .mul_pos v hf0⟩
  rw [abs_mul, abs_of_pos hf0]
  calc |v| * (1 + v * a) ≤ |v| * 1 := mul_le_mul_of_nonneg_left (by linarith only [hva]) (abs_nonneg v)
    _ ≤ 2 := by rw [mul_one]; exact hv

end Opus.SoftClip
