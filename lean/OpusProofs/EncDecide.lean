import OpusModel.EncDecide
import OpusModel.Framing
/-
  OpusProofs.EncDecide — gen_toc as a bit-field, frame_size_select, and the finite tables of property C11 (which ToC codes
  which duration, the multi-frame split, the low-budget packet); the property statements are in OpusProps/C11.lean.
-/
namespace Opus.EncDecide
open Opus Opus.Framing

/-- Replace the named constants of opus_defines.h by their numerals (so that `omega` sees them). -/
macro "consts" : tactic =>
  `(tactic| try simp only [OPUS_AUTO, OPUS_BITRATE_MAX, BW_NB, BW_MB, BW_WB, BW_SWB, BW_FB, MODE_SILK_ONLY,
      MODE_HYBRID, MODE_CELT_ONLY, APP_VOIP, APP_AUDIO, APP_RESTRICTED_LOWDELAY, FRAMESIZE_ARG,
      FRAMESIZE_2_5_MS, FRAMESIZE_40_MS, FRAMESIZE_120_MS, Framing.MODE_CELT_ONLY, Framing.MODE_HYBRID,
      Framing.MODE_SILK_ONLY] at *)

/-- More fuel than 9 never changes the period (the loop has stopped). -/
theorem tocPeriodAux_fuel (n fr : Nat) (h : 1 ≤ fr) : tocPeriodAux (9 + n) fr = tocPeriodAux 9 fr := by
  have key : ∀ (k m fr : Nat), 400 ≤ fr * 2 ^ k → tocPeriodAux (k + m) fr = tocPeriodAux k fr := by
    intro k
    induction k with
    | zero =>
      intro m fr h
      cases m with
      | zero => rfl
      | succ m =>
        simp only [tocPeriodAux]
        split
        · omega
        · rfl
    | succ k ih =>
      intro m fr h
      have e : k + 1 + m = (k + m) + 1 := by omega
      rw [e]
      simp only [tocPeriodAux]
      split
      · rw [ih m (2 * fr) (by rw [Nat.pow_succ] at h; rw [Nat.mul_comm 2 fr, Nat.mul_assoc, Nat.mul_comm 2 (2 ^ k)]; exact h)]
      · rfl
  exact key 9 n fr (by have : (2:Nat) ^ 9 = 512 := by decide
                       rw [this]; omega)

/- `tocPeriod_le` and `genToc_lt` (below) are range facts of `gen_toc` stated for their own sake; `tocPeriodAux_fuel` above
   justifies the fuel 9 of the model (OpusModel/EncDecide.lean cites it). -/
theorem tocPeriod_le (fr : Nat) : tocPeriod fr ≤ 9 := by
  have key : ∀ (k fr : Nat), tocPeriodAux k fr ≤ k := by
    intro k
    induction k with
    | zero => intro fr; simp [tocPeriodAux]
    | succ k ih =>
      intro fr
      simp only [tocPeriodAux]
      split
      · have := ih (2 * fr); omega
      · omega
  exact key 9 fr

/-- gen_toc depends on `channels` only through `channels == 2`. -/
theorem genToc_ch (m fr bw ch : Int) : genToc m fr bw ch = genToc m fr bw (if ch = 2 then 2 else 1) := by
  unfold genToc
  by_cases h : ch = 2 <;> simp [h]

theorem genToc_lt (m fr bw ch : Int) : genToc m fr bw ch < 256 := by
  unfold genToc
  dsimp only
  omega

/-- On its domain `gen_toc` is a bit-field: mode marker, bandwidth `b`, period `p`, stereo flag `s` — nothing wraps modulo 256. -/
theorem genToc_fields (m fr bw ch : Int) (h : GenTocDom m fr bw) :
    ∃ b p s : Nat, s = (if ch = 2 then 1 else 0) ∧
      ((m = MODE_SILK_ONLY ∧ (b : Int) = bw - BW_NB ∧ b ≤ 2 ∧ p ≤ 3 ∧ genToc m fr bw ch = 32 * b + 8 * p + 4 * s) ∨
       (m = MODE_CELT_ONLY ∧ (b : Int) = max 0 (bw - BW_MB) ∧ b ≤ 3 ∧ p ≤ 3 ∧ genToc m fr bw ch = 128 + 32 * b + 8 * p + 4 * s) ∨
       (m = MODE_HYBRID ∧ (b : Int) = bw - BW_SWB ∧ b ≤ 1 ∧ p ≤ 1 ∧ genToc m fr bw ch = 96 + 16 * b + 8 * p + 4 * s)) := by
  unfold GenTocDom at h
  unfold genToc
  generalize tocPeriod fr.toNat = P at *
  simp only [BW_NB, BW_MB, BW_WB, BW_SWB, BW_FB, MODE_SILK_ONLY, MODE_HYBRID, MODE_CELT_ONLY] at *
  rcases h with ⟨_, ⟨rfl, h1, h2, h3, h4⟩ | ⟨rfl, h1, h2, h3⟩ | ⟨rfl, h1, h2, h3, h4⟩⟩
  · refine ⟨(bw - 1101).toNat, P - 2, if ch = 2 then 1 else 0, rfl, Or.inl ⟨rfl, by omega, by omega, by omega, ?_⟩⟩
    by_cases hc : ch = 2 <;> simp only [hc, ↓reduceIte] <;> omega
  · refine ⟨(bw - 1102).toNat, P, if ch = 2 then 1 else 0, rfl, Or.inr (Or.inl ⟨rfl, by omega, by omega, by omega, ?_⟩)⟩
    by_cases hc : ch = 2 <;> simp only [hc, Int.reduceEq, ↓reduceIte] <;> split <;> omega
  · refine ⟨(bw - 1104).toNat, P - 2, if ch = 2 then 1 else 0, rfl, Or.inr (Or.inr ⟨rfl, by omega, by omega, by omega, ?_⟩)⟩
    by_cases hc : ch = 2 <;> simp only [hc, Int.reduceEq, ↓reduceIte] <;> omega

theorem genToc_channels (m fr bw ch : Int) (h : GenTocDom m fr bw) :
    getNbChannels (genToc m fr bw ch) = if ch = 2 then 2 else 1 := by
  obtain ⟨b, p, s, hs, h⟩ := genToc_fields m fr bw ch h
  have hs1 : s ≤ 1 ∧ (s = 1 ↔ ch = 2) := by rw [hs]; split <;> simp [*]
  unfold getNbChannels
  rcases h with ⟨-, -, -, -, e⟩ | ⟨-, -, -, -, e⟩ | ⟨-, -, -, -, e⟩ <;> rw [e] <;> split <;> split <;> omega

theorem genToc_mode (m fr bw ch : Int) (h : GenTocDom m fr bw) :
    (getMode (genToc m fr bw ch) : Int) = m := by
  obtain ⟨b, p, s, hs, h⟩ := genToc_fields m fr bw ch h
  have hs1 : s ≤ 1 := by rw [hs]; split <;> omega
  unfold getMode
  simp only [Framing.MODE_CELT_ONLY, Framing.MODE_HYBRID, Framing.MODE_SILK_ONLY, MODE_SILK_ONLY, MODE_HYBRID, MODE_CELT_ONLY] at *
  rcases h with ⟨rfl, -, hb, hp, e⟩ | ⟨rfl, -, hb, hp, e⟩ | ⟨rfl, -, hb, hp, e⟩ <;> rw [e] <;> split <;> (try split) <;> omega

/-- The bandwidth bits of the TOC: the bandwidth itself, except that the MDCT layer has no
    medium band (NB and MB share a code point, decoded as NB). -/
theorem genToc_bandwidth (m fr bw ch : Int) (h : GenTocDom m fr bw) :
    (getBandwidth (genToc m fr bw ch) : Int) = if m = MODE_CELT_ONLY ∧ bw ≤ BW_MB then BW_NB else bw := by
  obtain ⟨b, p, s, hs, h⟩ := genToc_fields m fr bw ch h
  have hs1 : s ≤ 1 := by rw [hs]; split <;> omega
  unfold getBandwidth
  simp only [BW_NB, BW_MB, BW_SWB, MODE_SILK_ONLY, MODE_HYBRID, MODE_CELT_ONLY] at *
  rcases h with ⟨rfl, hbw, hb, hp, e⟩ | ⟨rfl, hbw, hb, hp, e⟩ | ⟨rfl, hbw, hb, hp, e⟩
  · rw [e, if_neg (by omega), if_neg (by omega), if_neg (by omega)]; omega
  · rw [e, if_pos (by omega)]
    split <;> split <;> omega
  · rw [e, if_neg (by omega), if_pos (by omega)]
    split <;> split <;> omega

def rates : List Int := [8000, 12000, 16000, 24000, 48000]
def modes : List Int := [1000, 1001, 1002]
def bands : List Int := [1101, 1102, 1103, 1104, 1105]
/-- Frame sizes one `opus_encode_frame_native` call can get: 2.5, 5, 10, 20, 40, 60 ms. -/
def encSizes (fs : Int) : List Int := [fs / 400, fs / 200, fs / 100, fs / 50, fs / 25, 3 * fs / 50]
/-- Frame sizes `frame_size_select` can return: 2.5 … 120 ms. -/
def apiSizes (fs : Int) : List Int :=
  [fs / 400, fs / 200, fs / 100, fs / 50, fs / 25, 3 * fs / 50, 4 * fs / 50, 5 * fs / 50, 6 * fs / 50]

/-- Which `(mode, frame size)` pairs reach gen_toc: MDCT layers code ≤ 20 ms, SILK ≥ 10 ms,
    hybrid only 10 and 20 ms. -/
def modeSizeOk (m e fs : Int) : Bool :=
  (m = 1002 && decide (e ≤ fs / 50)) || (m = 1001 && (e = fs / 100 || e = fs / 50)) ||
  (m = 1000 && decide (e ≥ fs / 100))
def modeBwOk (m bw : Int) : Bool :=
  (m = 1002) || (m = 1001 && decide (1104 ≤ bw)) || (m = 1000 && decide (bw ≤ 1103))

def spfTable : Bool :=
  rates.all fun fs => (encSizes fs).all fun e => modes.all fun m => bands.all fun bw => [1, 2].all fun ch =>
    !(modeSizeOk m e fs && modeBwOk m bw) ||
      ((samplesPerFrame (genToc m (fs / e) bw ch) fs.toNat : Int) == e && decide (GenTocDom m (fs / e) bw))

/- The encoder skeleton (C02/C05) has its own table of the same fact, `genToc_roundtrip_all` (OpusProofs/EncSkelTocTable.lean),
   in units of 2.5 ms.  That file imports this one, and `spf_genToc` below serves `EncDecideHonour`, on which the skeleton's
   decision chain (`EncSkelChain`) rests; it also uses Mathlib, which the modules `EncDecide*` and `Ctl*` do without — hence two
   tables. -/
theorem spfTable_true : spfTable = true := by decide +kernel

theorem mem_bands {bw : Int} (h1 : 1101 ≤ bw) (h2 : bw ≤ 1105) : bw ∈ bands := by
  simp only [bands, List.mem_cons, List.mem_nil_iff, or_false]; omega
theorem mem_modes {m : Int} (h1 : 1000 ≤ m) (h2 : m ≤ 1002) : m ∈ modes := by
  simp only [modes, List.mem_cons, List.mem_nil_iff, or_false]; omega

/-- gen_toc codes the frame duration: for every legal rate, coded frame size, mode, bandwidth and
    channel count the TOC is in gen_toc's domain and decodes to the frame size. -/
theorem spf_genToc {fs e m bw ch : Int} (hfs : fs ∈ rates) (he : e ∈ encSizes fs) (hm : m ∈ modes)
    (hbw : bw ∈ bands) (hok : modeSizeOk m e fs = true) (hbok : modeBwOk m bw = true) :
    (samplesPerFrame (genToc m (fs / e) bw ch) fs.toNat : Int) = e ∧ GenTocDom m (fs / e) bw := by
  have h := spfTable_true
  simp only [spfTable, List.all_eq_true] at h
  have h1 := h fs hfs e he m hm bw hbw (if ch = 2 then 2 else 1) (by by_cases hc : ch = 2 <;> simp [hc])
  rw [← genToc_ch] at h1
  simpa [hok, hbok] using h1

def splitTable : Bool :=
  rates.all fun fs => (apiSizes fs).all fun f => modes.all fun m =>
    !(m = 1002 || decide (f ≥ fs / 100)) ||
      (let (e, n) := frameSplit m f fs
       (encSizes fs).contains e && modeSizeOk m e fs && n * e == f && decide (1 ≤ n) &&
       decide ((n = 1 ∧ e = f) ∨ n ≠ 1))

theorem splitTable_true : splitTable = true := by decide +kernel

/-- The multi-frame split (:1631-1658) produces frames gen_toc can code, and they add up. -/
theorem frameSplit_spec {fs f m : Int} (hfs : fs ∈ rates) (hf : f ∈ apiSizes fs) (hm : m ∈ modes)
    (hshort : m = 1002 ∨ f ≥ fs / 100) :
    (frameSplit m f fs).1 ∈ encSizes fs ∧ modeSizeOk m (frameSplit m f fs).1 fs = true ∧
    (frameSplit m f fs).2 * (frameSplit m f fs).1 = f ∧ 1 ≤ (frameSplit m f fs).2 := by
  have h := splitTable_true
  simp only [splitTable, List.all_eq_true] at h
  have h1 := h fs hfs f hf m hm
  have : (m = 1002 || decide (f ≥ fs / 100)) = true := by
    rcases hshort with h | h <;> simp [h]
  simp only [this, Bool.not_true, Bool.false_or] at h1
  generalize frameSplit m f fs = r at *
  obtain ⟨e, n⟩ := r
  simp only [Bool.and_eq_true, List.contains_iff_mem, beq_iff_eq, decide_eq_true_eq] at h1
  exact ⟨h1.1.1.1.1, h1.1.1.1.2, h1.1.1.2, h1.1.2⟩

/-- Low-budget packets: the announced frames add up to the requested duration, for every stale
    `(mode, bandwidth, stream_channels)` the state can hold; 100 ms in one byte is the case the
    entry check (:1167-1171) excludes. -/
def lowTable : Bool :=
  rates.all fun fs => (apiSizes fs).all fun f => (0 :: modes).all fun m => (0 :: bands).all fun bw =>
    [1, 2].all fun ch => [true, false].all fun one =>
      (one && fs == f * 10) ||
      (let p := lowBudgetCore fs m bw ch f one
       ((p.frames : Int) * (samplesPerFrame p.toc fs.toNat : Int) == f))

theorem lowTable_true : lowTable = true := by decide +kernel

/-- What an accepted `frame_size_select` call says: the caller's size is at least 2.5 ms, the selection exists, and the
    selected size passed the three tests (not above the caller's, not above 120 ms, one of the nine durations). -/
theorem frameSizeSelect_spec (f vd fs r : Int) (h : frameSizeSelect f vd fs = r) (hr : r ≠ -1) :
    fs / 400 ≤ f ∧
    (if vd = FRAMESIZE_ARG then some f
      else if FRAMESIZE_2_5_MS ≤ vd ∧ vd ≤ FRAMESIZE_120_MS then
        if vd ≤ FRAMESIZE_40_MS then some ((fs / 400) * 2 ^ (vd - FRAMESIZE_2_5_MS).toNat)
        else some ((vd - FRAMESIZE_2_5_MS - 2) * fs / 50)
      else none) = some r ∧
    r ≤ f ∧ r ≤ 6 * fs / 50 ∧
    (400 * r = fs ∨ 200 * r = fs ∨ 100 * r = fs ∨ 50 * r = fs ∨ 25 * r = fs ∨ 50 * r = 3 * fs ∨
     50 * r = 4 * fs ∨ 50 * r = 5 * fs ∨ 50 * r = 6 * fs) := by
  unfold frameSizeSelect at h
  split at h
  · exact absurd h.symm hr
  · dsimp only at h
    generalize (if vd = FRAMESIZE_ARG then some f else _ : Option Int) = sel at h ⊢
    cases sel with
    | none => exact absurd h.symm hr
    | some n =>
      dsimp only at h
      split at h
      · exact absurd h.symm hr
      · split at h
        · exact absurd h.symm hr
        · split at h
          · exact absurd h.symm hr
          · subst h
            rename_i h1 h2 h3 h4
            exact ⟨by omega, rfl, by omega, by omega, by simpa only [Decidable.not_and_iff_not_or_not, Decidable.not_not, ne_eq] using h4⟩
theorem frameSizeSelect_legal (f vd fs r : Int) (h : frameSizeSelect f vd fs = r) (hr : r ≠ -1) :
    (400 * r = fs ∨ 200 * r = fs ∨ 100 * r = fs ∨ 50 * r = fs ∨ 25 * r = fs ∨ 50 * r = 3 * fs ∨
     50 * r = 4 * fs ∨ 50 * r = 5 * fs ∨ 50 * r = 6 * fs) ∧ r ≤ f :=
  let ⟨_, _, hle, _, hdur⟩ := frameSizeSelect_spec f vd fs r h hr
  ⟨hdur, hle⟩

/-- An accepted size is at most 120 ms (the test of fix 212cbc41). -/
theorem frameSizeSelect_le (f vd fs r : Int) (h : frameSizeSelect f vd fs = r) (hr : r ≠ -1) : r ≤ 6 * fs / 50 :=
  let ⟨_, _, _, h120, _⟩ := frameSizeSelect_spec f vd fs r h hr
  h120

theorem apiSizes_of_eq {fs r : Int} (hfs : fs ∈ rates)
    (h : 400 * r = fs ∨ 200 * r = fs ∨ 100 * r = fs ∨ 50 * r = fs ∨ 25 * r = fs ∨ 50 * r = 3 * fs ∨
         50 * r = 4 * fs ∨ 50 * r = 5 * fs ∨ 50 * r = 6 * fs) : r ∈ apiSizes fs := by
  simp only [rates, List.mem_cons, List.mem_nil_iff, or_false] at hfs
  simp only [apiSizes, List.mem_cons, List.mem_nil_iff, or_false]
  rcases hfs with rfl | rfl | rfl | rfl | rfl <;> omega

theorem frameSizeSelect_arg (f fs r : Int) (h : frameSizeSelect f FRAMESIZE_ARG fs = r) (hr : r ≠ -1) : r = f := by
  obtain ⟨-, hs, -⟩ := frameSizeSelect_spec f FRAMESIZE_ARG fs r h hr
  rw [if_pos rfl] at hs
  exact (Option.some.inj hs).symm

/-- The nine Opus frame durations in units of 2.5 ms, by OPUS_FRAMESIZE_* argument. -/
def durNum (vd : Int) : Int := [1, 2, 4, 8, 16, 24, 32, 40, 48].getD (vd - 5001).toNat 0

def fixedSize (vd fs : Int) : Int :=
  if vd ≤ 5005 then (fs / 400) * 2 ^ (vd - 5001).toNat else (vd - 5001 - 2) * fs / 50

def fixedTable : Bool :=
  rates.all fun fs => [5001, 5002, 5003, 5004, 5005, 5006, 5007, 5008, 5009].all fun vd =>
    400 * fixedSize vd fs == fs * durNum vd

theorem fixedTable_true : fixedTable = true := by decide +kernel

/-- With a fixed duration the selected size is that duration (2.5·2^k ms, or 20·k ms). -/
theorem frameSizeSelect_fixed (f vd fs r : Int) (hfs : fs ∈ rates) (hvd : 5001 ≤ vd ∧ vd ≤ 5009)
    (h : frameSizeSelect f vd fs = r) (hr : r ≠ -1) : 400 * r = fs * durNum vd ∧ r ≤ f := by
  have ht := fixedTable_true
  simp only [fixedTable, List.all_eq_true, beq_iff_eq] at ht
  have hmem : vd ∈ ([5001, 5002, 5003, 5004, 5005, 5006, 5007, 5008, 5009] : List Int) := by
    simp only [List.mem_cons, List.mem_nil_iff, or_false]; omega
  have ht := ht fs hfs vd hmem
  obtain ⟨-, hs, hle, -, -⟩ := frameSizeSelect_spec f vd fs r h hr
  have key : r = fixedSize vd fs := by
    simp only [FRAMESIZE_ARG, FRAMESIZE_2_5_MS, FRAMESIZE_40_MS, FRAMESIZE_120_MS] at hs
    rw [if_neg (by omega), if_pos (by omega)] at hs
    unfold fixedSize
    split at hs
    · rw [if_pos ‹_›]; exact (Option.some.inj hs).symm
    · rw [if_neg ‹_›]; exact (Option.some.inj hs).symm
  rw [key]; exact ⟨ht, by rw [← key]; exact hle⟩

end Opus.EncDecide
