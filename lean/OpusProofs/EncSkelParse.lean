import OpusProofs.EncSkelToc
import OpusProofs.FramingComplete
import OpusProofs.RepackPad
import OpusProofs.ExtCount
/-
  OpusProofs.EncSkelParse — what the repacketiser contract functions of the encoder skeleton emit.  The contract
  `Opus.EncSkel.outRange` (OpusModel/EncSkel/Repack.lean) IS the repacketiser model of property C07 (`Opus.Repack.emit` =
  everything of `opus_repacketizer_out_range_impl` after the extension gathering), byte for byte, on success and on
  failure (`emit_bridge`); hence a successful output is the serialisation of C07's `outPacket` (`outRange_outPacket`), a
  valid packet holding exactly the frames handed in with zero padding, and the parser proved correct in C06 reads
  them back (`outRange_view`).
-/
namespace Opus.EncSkel.Proofs
open Opus Opus.EncSkel Opus.FramingSpec

/-- The bytes of an emitted packet: header, the frames (any contents), zero padding up to `size`. -/
def pktBytes (hdr : Bytes) (frames : List Bytes) (size : Nat) : Bytes :=
  hdr ++ frames.flatten ++ List.replicate (size - hdr.length - (frames.flatten).length) 0

theorem vbrLens_eq (lens : List Nat) : vbrLens lens = (lens.dropLast).flatMap encLen := by
  induction lens with
  | nil => rfl
  | cons x xs ih =>
    cases xs with
    | nil => rfl
    | cons y ys =>
      simp only [vbrLens, List.dropLast_cons_cons, List.flatMap_cons] at *
      rw [ih]; rfl

theorem vbrBody_eq (lens : List Nat) : vbrBody lens = (vbrLens lens).length + sumN lens := by
  induction lens with
  | nil => rfl
  | cons x xs ih =>
    cases xs with
    | nil => simp [vbrBody, vbrLens]
    | cons y ys =>
      simp only [vbrBody, vbrLens, sumN_cons, List.length_append] at *
      rw [ih]
      have : (Framing.encodeSize x).length = sizeLen x := by
        unfold Framing.encodeSize sizeLen; split <;> simp
      omega

/-- `tot_size` of the code-3 branch (repacketizer.c:247-262): two header bytes, the length bytes of a
    VBR packet, the frames. -/
theorem code3_tot (lens : List Nat) (vbr : Bool) (hvbr : (!allEq (lens.headD 0) lens) = vbr) :
    (if vbr = true then 2 + vbrBody lens else lens.length * lens.headD 0 + 2) =
      2 + (if vbr = true then (vbrLens lens).length else 0) + sumN lens := by
  cases vbr
  · simp only [Bool.false_eq_true, if_false]
    have : allEq (lens.headD 0) lens = true := by simpa using hvbr
    rw [allEq_sum _ _ this]; omega
  · simp only [if_true]; rw [vbrBody_eq]; omega

end Opus.EncSkel.Proofs

/- `Opus.EncSkel.WfProofs` holds what speaks of the C07 model `Opus.Repack` (the bridge here, the repacketiser runs in
   EncSkelWfRun); `Opus.EncSkel.Proofs` what speaks of the skeleton and its contract functions alone. -/
namespace Opus.EncSkel.WfProofs
open Opus Opus.EncSkel Opus.EncSkel.Proofs Opus.FramingSpec

/-- What the contract result means in bytes: header, frames, zero padding up to `size`. -/
def emitOf (frames : List Bytes) : Res OutRes → Res Bytes
  | .ok r => .ok (pktBytes r.hdr frames r.size)
  | .err e => .err e
  | .oob => .oob
  | .abort => .abort

theorem isVbr_eq (lens : List Nat) : Repack.isVbr lens = !(EncSkel.allEq (lens.headD 0) lens) := by
  unfold Repack.isVbr
  generalize lens.headD 0 = l0
  induction lens with
  | nil => rfl
  | cons x xs ih =>
    simp only [List.any_cons, EncSkel.allEq, ih]
    by_cases h : x = l0 <;> simp [h]

theorem vbrBody_cast (lens : List Nat) : Repack.vbrBody lens = ((EncSkel.vbrBody lens : Nat) : Int) := by
  induction lens with
  | nil => rfl
  | cons x xs ih =>
    cases xs with
    | nil => simp [Repack.vbrBody, EncSkel.vbrBody]
    | cons y ys =>
      simp only [Repack.vbrBody, EncSkel.vbrBody] at ih ⊢
      rw [ih]
      unfold sizeLen
      split <;> split <;> push_cast <;> omega

theorem vbrSize_eq (lens : List Nat) : Repack.vbrSizeBytes lens = EncSkel.vbrLens lens := by
  rw [RepackProofs.vbrSizeBytes_eq, vbrLens_eq]

theorem tot3_cast (lens : List Nat) :
    Repack.tot3 lens 0 =
      (((if (!(EncSkel.allEq (lens.headD 0) lens)) = true then 2 + EncSkel.vbrBody lens
         else lens.length * lens.headD 0 + 2 : Nat)) : Int) := by
  unfold Repack.tot3
  rw [isVbr_eq, vbrBody_cast]
  split <;> push_cast <;> omega

theorem padOf_nat (pa : Nat) (h : pa ≠ 0) :
    RepackProofs.padOf (pa : Int) =
      some { n255 := (pa - 1) / 255, last := pa - 255 * ((pa - 1) / 255) - 1,
             bytes := List.replicate (pa - (pa - 1) / 255 - 1) 0 } := by
  unfold RepackProofs.padOf
  rw [if_neg (by omega)]
  simp only [Option.some.injEq, Pad.mk.injEq]
  refine ⟨by omega, by omega, ?_⟩
  congr 1
  omega

/-- Code 3 (`repacketizer.c:226-305`): the C07 model and the skeleton's contract agree byte for byte. -/
theorem code3_bridge (toc : Nat) (frames : List Bytes) (hne : frames ≠ []) (maxlen : Nat) (pad : Bool) :
    Repack.code3 toc frames 0 (maxlen : Int) [] pad #[] =
      emitOf frames (EncSkel.outCode3 (toc / 4 * 4) (frames.map List.length) maxlen pad) := by
  have hlen : (frames.map List.length).length = frames.length := by simp
  have hflat : frames.flatten.length = sumN (frames.map List.length) := (FramingProofs.sumN_map_length frames).symm
  have ht3 := tot3_cast (frames.map List.length)
  unfold EncSkel.outCode3
  dsimp only
  generalize hvbr : (!EncSkel.allEq ((frames.map List.length).headD 0) (frames.map List.length)) = vbr at ht3 ⊢
  have hisv : Repack.isVbr (frames.map List.length) = vbr := by rw [isVbr_eq, hvbr]
  have htot := code3_tot (frames.map List.length) vbr hvbr
  generalize htv : (if vbr = true then 2 + EncSkel.vbrBody (frames.map List.length)
        else (frames.map List.length).length * (frames.map List.length).headD 0 + 2) = tot at ht3 htot ⊢
  by_cases hbig : tot > maxlen
  · rw [if_pos hbig]
    unfold Repack.code3
    simp only []
    rw [if_pos (by rw [ht3]; omega)]
    rfl
  · rw [if_neg hbig]
    rw [RepackProofs.code3_noext toc frames hne 0 maxlen [] pad (by rw [ht3]; omega)]
    rw [ht3, hisv]
    -- `pad` off is a padding amount of 0, as in the C function (`pad_amount = pad ? maxlen - tot_size : 0`)
    have hpa : (if pad = true then RepackProofs.padOf ((maxlen : Int) - (tot : Int)) else none) =
        RepackProofs.padOf ((if pad = true then maxlen - tot else 0 : Nat) : Int) := by
      cases pad
      · rfl
      · rw [if_pos rfl, if_pos rfl]; congr 1; omega
    have hle : (if pad = true then maxlen - tot else 0) ≤ maxlen - tot := by split <;> omega
    rw [hpa]
    generalize (if pad = true then maxlen - tot else 0) = pa at hle ⊢
    by_cases hz : pa = 0
    · rw [if_neg (not_not.mpr hz), hz]
      simp only [RepackProofs.padOf, Int.natCast_zero, if_true, Option.isSome_none, emitOf, pktBytes,
        RepackProofs.padHdr, RepackProofs.padData]
      cases vbr <;> simp [vbrLens_eq, hflat] at htot ⊢
      all_goals omega
    · have hnb : ¬ (tot + (pa - 1) / 255 + 1 > maxlen) := by omega
      rw [padOf_nat _ hz, if_pos hz, if_neg hnb]
      simp only [emitOf, pktBytes, RepackProofs.padHdr, RepackProofs.padData, Pad.hdr, padLenBytes]
      cases vbr <;> simp [vbrLens_eq, hflat] at htot ⊢
      all_goals omega

/-- One or two frames: the first pass (repacketizer.c:191-225) computes `baseSize` and writes `lowHdr`. -/
theorem firstPass_base (toc : Nat) (lens : List Nat) (maxlen : Nat) (hne : lens ≠ []) (h2 : lens.length ≤ 2) :
    Repack.firstPass toc lens 0 maxlen =
      if baseSize lens > maxlen then .err .bufferTooSmall else .ok ((baseSize lens : Int), lowHdr (toc / 4 * 4) lens) := by
  match lens, hne, h2 with
  | [l0], _, _ =>
    have e : (0 : Int) + l0 + 1 = ((l0 + 1 : Nat) : Int) := by omega
    simp only [Repack.firstPass, baseSize, lowHdr, e, gt_iff_lt, Int.ofNat_lt]
  | [l0, l1], _, _ =>
    have e1 : (0 : Int) + 2 * l0 + 1 = ((2 * l0 + 1 : Nat) : Int) := by omega
    have e2 : (0 : Int) + l0 + l1 + 2 + (if 252 ≤ l0 then 1 else 0) =
        ((l0 + l1 + 2 + (if l0 ≥ 252 then 1 else 0) : Nat) : Int) := by split <;> push_cast <;> omega
    simp only [Repack.firstPass, baseSize, lowHdr, e1, e2, gt_iff_lt, Int.ofNat_lt]
    split <;> rfl

/-- **The contract is the model.**  `opus_repacketizer_out_range_impl` after the extension gathering
    (`Repack.emit`, non-self-delimited, no extensions) on ANY non-empty frame list and ANY `maxlen`, `pad`:
    the skeleton's contract `outRange` returns the same error, or the size and header such that
    `header ++ frames ++ zero padding` are exactly the bytes the model writes. -/
theorem emit_bridge (toc : Nat) (frames : List Bytes) (hne : frames ≠ []) (maxlen : Nat) (pad : Bool) :
    Repack.emit toc frames (maxlen : Int) false pad #[] =
      emitOf frames (EncSkel.outRange (toc / 4 * 4) (frames.map List.length) maxlen pad) := by
  have hlne : frames.map List.length ≠ [] := by simpa using hne
  have hlen : (frames.map List.length).length = frames.length := List.length_map _
  have hc3 := code3_bridge toc frames hne maxlen pad
  unfold Repack.emit
  simp only [Repack.sdSize, Bool.false_eq_true, if_false, List.size_toArray, List.length_nil, Nat.lt_irrefl, or_false]
  rw [outRange_eq _ _ maxlen pad hlne, hlen]
  by_cases h3 : 2 < frames.length
  · rw [RepackProofs.firstPass_high toc _ (by omega), if_pos h3]
    simp only []
    rw [if_pos (Or.inl h3), hc3]
  · rw [firstPass_base toc _ maxlen hlne (by omega), if_neg h3]
    by_cases hbig : baseSize (frames.map List.length) > maxlen
    · rw [if_pos hbig, if_pos hbig]; rfl
    · rw [if_neg hbig, if_neg hbig]
      simp only [Int.ofNat_lt]
      by_cases hp : pad = true ∧ baseSize (frames.map List.length) < maxlen
      · rw [if_pos (Or.inr hp), if_pos hp, hc3]
      · rw [if_neg (fun h => h.elim h3 hp), if_neg hp]
        -- the low code has no padding: header and frames fill `baseSize` exactly
        have := lowHdr_length (toc / 4 * 4) _ hlne (by omega)
        rw [FramingProofs.sumN_map_length] at this
        simp only [emitOf, pktBytes, List.append_nil]
        rw [show baseSize (frames.map List.length) - (lowHdr (toc / 4 * 4) (frames.map List.length)).length -
          frames.flatten.length = 0 by omega]
        simp

end Opus.EncSkel.WfProofs

namespace Opus.EncSkel.Proofs
open Opus Opus.EncSkel Opus.EncSkel.WfProofs Opus.FramingSpec Opus.Repack Opus.RepackProofs

/-- 120 ms are 5760 samples at 48 kHz and 960 at 8 kHz. -/
theorem dur8_iff_dur48 (cfg n : Nat) (h256 : cfg < 256) :
    frameDur48 cfg * n ≤ 5760 ↔ n * Framing.samplesPerFrame cfg 8000 ≤ 960 := by
  rw [(frameDur48_spf8 cfg (List.mem_range.mpr h256)).1, Nat.mul_assoc, Nat.mul_comm _ n]; omega

/-- Zero padding carries no extensions. -/
theorem padFree_of_zero (p : Packet) (hv : Valid p) (hz : ∃ k, padBytes p = List.replicate k 0) : PadFree p := by
  obtain ⟨k, hk⟩ := hz
  unfold PadFree
  rw [hk, List.length_replicate]
  exact Opus.ExtProofs.count_zeros k _ hv.count_bounds.2.1

/-- **What a successful `outRange` wrote**: the frames fit, and `header ++ frames ++ zero padding` is the serialisation of
    C07's `outPacket` — so everything known about `outPacket` (valid, its frames, its ToC, its length) transfers. -/
theorem outRange_outPacket (cfg : Nat) (frames : List Bytes) (maxlen : Nat) (pad : Bool) (r : OutRes)
    (h4 : cfg % 4 = 0) (h : EncSkel.outRange cfg (frames.map List.length) maxlen pad = .ok r) :
    frames ≠ [] ∧ minSize false (frames.map List.length) ≤ maxlen ∧
    pktBytes r.hdr frames r.size = serialize false (outPacket cfg frames maxlen false pad) := by
  have hne : frames ≠ [] := by
    rintro rfl; simp [EncSkel.outRange] at h
  have hb := emit_bridge cfg frames hne maxlen pad
  rw [show cfg / 4 * 4 = cfg by omega, h, emit_noext cfg frames hne maxlen false pad] at hb
  simp only [emitOf] at hb
  split at hb
  · cases hb
  · exact ⟨hne, by omega, (Res.ok.inj hb).symm⟩

/-- Every successful output of the repacketiser contract `outRange` is the RFC 6716 serialisation of a
    valid packet holding exactly the given frames (any contents of the recorded lengths), with zero
    padding up to the returned size. -/
theorem outRange_packet (cfg : Nat) (lens : List Nat) (maxlen : Nat) (pad : Bool) (r : OutRes) (frames : List Bytes)
    (hfl : frames.map List.length = lens) (h4 : cfg % 4 = 0) (hcfg : cfg < 256)
    (hall : ∀ l ∈ lens, l ≤ 1275) (hdur : frameDur48 cfg * lens.length ≤ 5760)
    (h : EncSkel.outRange cfg lens maxlen pad = .ok r) :
    ∃ p : Packet, Valid p ∧ p.frames = frames ∧ p.toc / 4 * 4 = cfg ∧ serialize false p = pktBytes r.hdr frames r.size ∧
      ∃ k, padBytes p = List.replicate k 0 := by
  subst hfl
  obtain ⟨hne, hfit, hs⟩ := outRange_outPacket cfg frames maxlen pad r h4 h
  have hok : FramesOk cfg frames :=
    ⟨hcfg, hne, List.forall_mem_map.mp hall,
     by rw [← List.length_map (f := List.length)]; exact (dur8_iff_dur48 cfg _ hcfg).mp hdur⟩
  refine ⟨_, outPacket_valid cfg frames hok maxlen false pad hfit, outPacket_frames _ _ _ _ _, ?_, hs.symm,
    padBytes_outPacket _ _ _ _ _⟩
  have := outPacket_toc cfg frames maxlen false pad
  omega

theorem baseSize_minSize (lens : List Nat) (hne : lens ≠ []) : (baseSize lens : Int) = minSize false lens := by
  match lens, hne with
  | [l0], _ => simp [baseSize, minSize, sdSize]
  | [l0, l1], _ =>
    simp only [baseSize, minSize, sdSize, Bool.false_eq_true, if_false]
    split <;> (try split) <;> push_cast <;> omega
  | a :: b :: c :: rest, _ =>
    simp only [baseSize, minSize, sdSize, Bool.false_eq_true, if_false, code3Size]
    rw [tot3_cast]

/-- The emitted bytes are exactly `size` long: C07's `outPacket_len` against `outRange_size`. -/
theorem pktBytes_length (cfg : Nat) (lens : List Nat) (maxlen : Nat) (pad : Bool) (r : OutRes) (frames : List Bytes)
    (hfl : frames.map List.length = lens) (h4 : cfg % 4 = 0) (h : EncSkel.outRange cfg lens maxlen pad = .ok r) :
    (pktBytes r.hdr frames r.size).length = r.size := by
  subst hfl
  obtain ⟨hne, hfit, hs⟩ := outRange_outPacket cfg frames maxlen pad r h4 h
  have hlne : frames.map List.length ≠ [] := by simpa using hne
  have hl := outPacket_len cfg frames hne maxlen false pad hfit
  have hb := baseSize_minSize _ hlne
  obtain ⟨r', hr', hsz⟩ := outRange_size cfg _ maxlen pad hlne (by omega)
  rw [h] at hr'; cases hr'
  rw [← hs] at hl
  cases pad <;> simp only [Bool.false_eq_true, if_false, if_true] at hl hsz <;> omega

/-- **The emitted structure parses.**  For every successful `outRange` (the model of
    `opus_repacketizer_out_range_impl(rp, 0, n, data, maxlen, 0, pad, NULL, 0)` and, through `padSpec`,
    of `opus_packet_pad`), any frame contents of the recorded lengths, the bytes
    `header ++ frames ++ zero padding` are `size` long and accepted by `opus_packet_parse_impl` (C06 model), which reports
    exactly those frame sizes and the ToC configuration (hence the frame duration of `cfg` at every rate), consumes the whole
    packet, and cuts out the frames byte for byte. -/
theorem outRange_view (cfg : Nat) (lens : List Nat) (maxlen : Nat) (pad : Bool) (r : OutRes) (frames : List Bytes)
    (hfl : frames.map List.length = lens) (h4 : cfg % 4 = 0) (hcfg : cfg < 256)
    (hall : ∀ l ∈ lens, l ≤ 1275) (hdur : frameDur48 cfg * lens.length ≤ 5760)
    (h : EncSkel.outRange cfg lens maxlen pad = .ok r) :
    ∃ v, Framing.parseImpl false (pktBytes r.hdr frames r.size) = .ok v ∧ v.sizes = lens ∧
      v.count = lens.length ∧ v.toc / 4 * 4 = cfg ∧ v.packetOffset = r.size ∧ (pktBytes r.hdr frames r.size).length = r.size ∧
      Repack.slices (pktBytes r.hdr frames r.size) v.payloadOffset v.sizes = frames ∧
      ∀ n, Framing.samplesPerFrame v.toc n = Framing.samplesPerFrame cfg n := by
  obtain ⟨p, hv, hf, ht, hs, -⟩ := outRange_packet cfg lens maxlen pad r frames hfl h4 hcfg hall hdur h
  obtain ⟨hc, hsl⟩ := parse_serialize_frames false p hv [] (fun _ => rfl)
  have hlen := pktBytes_length cfg lens maxlen pad r frames hfl h4 h
  rw [List.append_nil, hs] at hc hsl
  refine ⟨view false p, hc, ?_, ?_, ht, ?_, hlen, by rw [hsl, hf], fun n => (FramingProofs.toc_helpers_congr _ _ n (by simp only [view]; omega)).2.2.1⟩
  · simp only [view, Packet.lens, hf, hfl]
  · simp only [view, hf]; rw [← hfl]; simp
  · simp only [view, hs, hlen]

end Opus.EncSkel.Proofs
