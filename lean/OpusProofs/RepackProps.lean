import OpusProofs.RepackPad
/-
  C07 (repacketizer): op sequences (histories), and the byte-string level statements of
  pad / unpad that `OpusProps/C07.lean` quotes.
-/
namespace Opus.RepackProofs
open Opus Opus.Framing Opus.FramingSpec Opus.FramingProofs Opus.Repack Opus.Ext
open Opus.MsDecEq (serialize_length_pos)

/-- The public repacketizer operations. -/
inductive Op where
  | init
  | cat (bs : Bytes)
  | out (maxlen : Int)
  | outRange (b e maxlen : Int)

/-- State transition (only `init` and `cat` change the state). -/
def step (rp : Rp) : Op → Rp
  | .init => init rp
  | .cat bs => (cat rp bs).1
  | .out _ => rp
  | .outRange _ _ _ => rp

def run (rp : Rp) (ops : List Op) : Rp := ops.foldl step rp

/-- Packets handed to `cat` are byte strings (any content, valid or not). -/
def OpsOk (ops : List Op) : Prop := ∀ bs, Op.cat bs ∈ ops → BytesOk bs

/-- States reachable from `opus_repacketizer_init` by any finite sequence of operations. -/
def Reachable (s : Rp) : Prop := ∃ ops, OpsOk ops ∧ s = run Rp.empty ops

theorem inv_step (rp : Rp) (hinv : Inv rp) (op : Op) (hok : ∀ bs, op = .cat bs → BytesOk bs) : Inv (step rp op) := by
  cases op with
  | init => exact inv_init rp
  | cat bs => exact catImpl_inv rp hinv bs (hok bs rfl) false
  | out _ => exact hinv
  | outRange _ _ _ => exact hinv

theorem run_induction (P : Rp → Prop) (ops : List Op) (hstep : ∀ rp, ∀ op ∈ ops, P rp → P (step rp op)) (rp : Rp)
    (h : P rp) : P (run rp ops) := by
  induction ops generalizing rp with
  | nil => exact h
  | cons op ops ih =>
    exact ih (fun rp' op' hop => hstep rp' op' (List.mem_cons_of_mem _ hop)) _ (hstep rp op (List.mem_cons_self ..) h)

theorem inv_run (rp : Rp) (hinv : Inv rp) (ops : List Op) (hok : OpsOk ops) : Inv (run rp ops) :=
  run_induction Inv ops (fun rp op hop h => inv_step rp h op (fun bs e => hok bs (e ▸ hop))) rp hinv

theorem reachable_inv {s : Rp} (h : Reachable s) : Inv s := by
  obtain ⟨ops, hok, rfl⟩ := h
  exact inv_run _ inv_empty ops hok

/-- The padding a packet would store carries no extensions (trivially true of invalid packets). -/
def PacketPadFree (bs : Bytes) : Prop :=
  ∀ r, parseImpl false bs = .ok r → Ext.count ((bs.drop r.padOffset).take r.padLen) r.padLen r.count = .ok 0

/-- An accepted standard-framing packet is the serialisation of a valid packet; the padding region the
    parser reports is that packet's padding. -/
theorem packet_of_parse (bs : Bytes) (hb : BytesOk bs) (r : Parsed) (h : parseImpl false bs = .ok r) :
    ∃ p, Valid p ∧ bs = serialize false p ∧ r = view false p ∧
      (bs.drop r.padOffset).take r.padLen = padBytes p ∧ slices bs r.payloadOffset r.sizes = p.frames := by
  obtain ⟨p, rest, hv, hbs, hr, hview, hfr⟩ := parsed_frames false bs hb r h
  have := hr rfl; subst this
  simp only [List.append_nil] at hbs
  refine ⟨p, hv, hbs, hview, ?_, hfr⟩
  subst hview
  have := padding_of_serialize false p []
  rwa [List.append_nil, ← hbs] at this

/-- Every padding entry after an operation was there before, is the empty entry of a further frame, or is the padding
    of a packet that `cat` has just accepted. -/
theorem step_pads (rp : Rp) (op : Op) (pn : Bytes × Nat) (h : pn ∈ (step rp op).pads) :
    pn ∈ rp.pads ∨ pn = ([], 0) ∨
    ∃ bs r, op = .cat bs ∧ parseImpl false bs = .ok r ∧ pn = ((bs.drop r.padOffset).take r.padLen, r.count) := by
  cases op with
  | init => simp [step, init] at h
  | out _ => exact Or.inl h
  | outRange _ _ _ => exact Or.inl h
  | cat bs =>
    simp only [step, cat] at h
    by_cases hok : (catImpl rp bs false).2 = .ok ()
    · obtain ⟨r, hr, hst⟩ := catImpl_ok_state rp bs false hok
      rw [hst] at h
      simp only [catNew, (withToc_frames rp _).2.1, List.mem_append, List.mem_cons, List.mem_replicate] at h
      rcases h with h | rfl | ⟨_, rfl⟩
      · exact Or.inl h
      · exact Or.inr (Or.inr ⟨bs, r, rfl, hr, rfl⟩)
      · exact Or.inr (Or.inl rfl)
    · rw [(catImpl_reject rp bs false hok).2.1] at h; exact Or.inl h

theorem extFree_step (rp : Rp) (hf : ExtFree rp.pads) (op : Op) (hb : ∀ bs, op = .cat bs → BytesOk bs)
    (hok : ∀ bs, op = .cat bs → PacketPadFree bs) :
    ExtFree (step rp op).pads := by
  intro pn hpn
  rcases step_pads rp op pn hpn with h | rfl | ⟨bs, r, rfl, hr, rfl⟩
  · exact hf pn h
  · exact count_nil 0 (by omega)
  · obtain ⟨p, _, _, hview, hpad, _⟩ := packet_of_parse bs (hb bs rfl) r hr
    have hl : ((bs.drop r.padOffset).take r.padLen).length = r.padLen := by rw [hpad, hview]; rfl
    simp only [hl]; exact hok bs rfl r hr

theorem extFree_run (rp : Rp) (hf : ExtFree rp.pads) (ops : List Op) (hb : OpsOk ops)
    (hok : ∀ bs, Op.cat bs ∈ ops → PacketPadFree bs) : ExtFree (run rp ops).pads :=
  run_induction (fun rp => ExtFree rp.pads) ops
    (fun rp op hop h => extFree_step rp h op (fun bs e => hb bs (e ▸ hop)) (fun bs e => hok bs (e ▸ hop))) rp hf

theorem packetOffset_serialize (p : Packet) : (view false p).packetOffset = (serialize false p).length :=
  view_packetOffset false p

/-- `opus_packet_unpad` on an accepted packet: the canonical packet of its frames. -/
theorem unpad_ok (bs : Bytes) (hb : BytesOk bs) (r : Parsed) (h : parseImpl false bs = .ok r) :
    ∃ p, Valid p ∧ bs = serialize false p ∧ r = view false p ∧ slices bs r.payloadOffset r.sizes = p.frames ∧
      packetUnpad bs = .ok (serialize false (canonPacket p.toc p.frames)) := by
  obtain ⟨p, hv, hbs, hview, _, hfr⟩ := packet_of_parse bs hb r h
  exact ⟨p, hv, hbs, hview, hfr, by rw [hbs]; exact unpad_serialize p hv⟩

/-- `opus_packet_pad` on a valid packet with extension-free padding, `new_len ≥ len` (equality included): a related packet of
    that length — the packet itself, or what the repacketizer emits for its frames with padding on. -/
theorem pad_pkt {p : Packet} (hv : Valid p) (hpf : PadFree p) (newLen : Int)
    (hge : ((serialize false p).length : Int) ≤ newLen) :
    ∃ q, PktRel p q ∧ packetPad (serialize false p) newLen = .ok (serialize false q) ∧
      ((serialize false q).length : Int) = newLen ∧ (q = p ∨ q = outPacket p.toc p.frames newLen false true) := by
  by_cases heq : ((serialize false p).length : Int) = newLen
  · refine ⟨p, .refl hv, ?_, heq, .inl rfl⟩
    rw [← heq]; exact pad_same _ (serialize_length_pos false p)
  · have hmin := minSize_minimal false p hv
    simp only [Packet.lens] at hmin
    exact ⟨_, pktRel_outPacket hv newLen false true hge, pad_serialize p hv hpf newLen (by omega),
      by simpa using outPacket_len p.toc p.frames (valid_ne p hv) newLen false true (by omega), .inr rfl⟩

/-- … on the bytes of an accepted packet. -/
theorem pad_rel (bs : Bytes) (hb : BytesOk bs) (r : Parsed) (h : parseImpl false bs = .ok r)
    (hfree : Ext.count ((bs.drop r.padOffset).take r.padLen) r.padLen r.count = .ok 0)
    (newLen : Int) (hge : (bs.length : Int) ≤ newLen) :
    ∃ p q, Valid p ∧ bs = serialize false p ∧ r = view false p ∧ slices bs r.payloadOffset r.sizes = p.frames ∧
      PktRel p q ∧ packetPad bs newLen = .ok (serialize false q) ∧ ((serialize false q).length : Int) = newLen := by
  obtain ⟨p, hv, hbs, hview, hpad, hfr⟩ := packet_of_parse bs hb r h
  have hpf : PadFree p := by
    unfold PadFree
    rw [← hpad, show ((bs.drop r.padOffset).take r.padLen).length = r.padLen by rw [hpad, hview]; rfl,
      show p.frames.length = r.count by rw [hview]; rfl]
    exact hfree
  obtain ⟨q, hrel, hq, hl, -⟩ := pad_pkt hv hpf newLen (hbs ▸ hge)
  exact ⟨p, q, hv, hbs, hview, hfr, hrel, hbs ▸ hq, hl⟩

end Opus.RepackProofs
