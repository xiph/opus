import OpusProofs.SoftClipLoops
/-
  OpusProofs.SoftClipBound — the whole single-channel soft clipper over an ordered field:
  every output sample is in [-1, 1] and keeps the strict sign of its input; the carried coefficient
  stays within (1+eps)/4, so the statement chains over consecutive frames.  Needs 0 ≤ eps < 1 (the code's boost is 2.4e-7).
-/
namespace Opus.SoftClip
variable {F : Type} [Field F] [LinearOrder F] [IsStrictOrderedRing F]

section
variable (eps : F)
local notation "ops" => fieldOps eps

/-- What `excursion` returns, the two scans' results named. -/
theorem excursion_eq (w : Array F) (N : Nat) (x0 : F) (curr i : Nat) {start e p : Nat} {m : F}
    (hs : @startScan F ops w 1 0 (g w i) i = start) (he : @endScan F ops w 1 0 N (g w i) i |g w i| i = (e, m, p)) :
    @excursion F ops w 1 0 N x0 curr i =
      (if ((start == 0) && decide (0 ≤ g w i * g w 0)) && decide (2 ≤ p) then
          @rampLoop F ops (@applyLoop F ops w 1 0 (@coefA F ops m (g w i)) start e) 1 0
            ((x0 - g (@applyLoop F ops w 1 0 (@coefA F ops m (g w i)) start e) 0) / (p : F)) curr p
        else @applyLoop F ops w 1 0 (@coefA F ops m (g w i)) start e,
       @coefA F ops m (g w i), e) := by
  unfold excursion
  simp only [rd1, abs_ops, hs, he]
  rfl

/-- Loop invariant of the `while(1)` over excursions (`orig` = the caller's samples, `w` = current buffer).
    `first` and `turn` are there for the frame-start ramp (opus.c:117-132), which rewrites `x[curr .. peak_pos)` towards the
    frame's first sample `x0` and is only sound from the start of the frame: after an excursion the loop resumes at its end
    `curr = e`, a sample of the opposite sign to one before it (`turn`); so the backward scan of the next excursion stops
    above that sample, `start > 0`, and `special` is false.  Hence the ramp fires at `curr = 0` only, where `x[0]` still is
    `x0` (`first`). -/
structure Inv (N : Nat) (x0 : F) (orig w : Array F) (curr : Nat) : Prop where
  size : w.size = N
  le2 : ∀ j, |g w j| ≤ 2
  le1 : ∀ j, j < curr → |g w j| ≤ 1
  sign : ∀ j, SignKept (g orig j) (g w j)
  first : curr = 0 → g w 0 = x0
  turn : curr = 0 ∨ N ≤ curr ∨ ∃ p, p < curr ∧ g w p * g w curr < 0

/-- What an excursion ending at `e` may do to sample `j` (`v` before, `v'` after): the samples below `e` are now in
    [-1, 1], signs are kept, the tail is untouched. -/
structure Upd (e j : Nat) (v v' : F) : Prop where
  le2 : |v'| ≤ 2
  le1 : j < e → |v'| ≤ 1
  sign : SignKept v v'
  tail : e ≤ j → v' = v

/-- The invariant after an excursion found at `i` and ended at `e`, from what the excursion did to each sample. -/
theorem Inv.advance {N : Nat} {x0 : F} {orig w : Array F} {curr i e : Nat} (hI : Inv N x0 orig w curr)
    (hie : i < e) (heN : e ≤ N) (hxi0 : g w i ≠ 0) (hturn : e < N → g w i * g w e < 0) (x' : Array F)
    (hsz : x'.size = N) (hq : ∀ j, Upd e j (g w j) (g x' j)) :
    Inv N x0 orig x' e := by
  refine ⟨hsz, fun j => (hq j).le2, fun j hj => (hq j).le1 hj, fun j => (hI.sign j).trans (hq j).sign,
    fun h0 => by omega, ?_⟩
  by_cases heN' : e < N
  · right; right
    refine ⟨i, hie, ?_⟩
    rw [(hq e).tail (le_refl _)]
    have hside := hturn heN'
    rcases lt_or_gt_of_ne hxi0 with hneg | hpos
    · exact mul_neg_of_neg_of_pos ((hq i).sign.2 hneg) (pos_of_mul_neg_right hside hneg.le)
    · exact mul_neg_of_pos_of_neg ((hq i).sign.1 hpos) (neg_of_mul_neg_right hside hpos.le)
  · right; left; omega

theorem excursion_inv (he0 : 0 ≤ eps) (he1 : eps < 1) (N : Nat) (x0 : F) (orig w : Array F) (curr : Nat)
    (hI : Inv N x0 orig w curr) {i : Nat} (hi : @findExceed F ops w 1 0 N curr = i) (hiN : i < N)
    {x' : Array F} {a : F} {e : Nat} (hex : @excursion F ops w 1 0 N x0 curr i = (x', a, e)) :
    i < e ∧ e ≤ N ∧ Inv N x0 orig x' e ∧ |a| ≤ (1 + eps) / 4 := by
  obtain ⟨_, fe2, fe3⟩ := findExceed_spec eps w N curr hi
  obtain ⟨hci, hxi1⟩ := fe3 hiN
  obtain ⟨start, hs⟩ : ∃ s, @startScan F ops w 1 0 (g w i) i = s := ⟨_, rfl⟩
  obtain ⟨⟨e, m, p⟩, hes⟩ : ∃ r, @endScan F ops w 1 0 N (g w i) i |g w i| i = r := ⟨_, rfl⟩
  rw [excursion_eq eps w N x0 curr i hs hes] at hex
  obtain ⟨rfl, hae⟩ := Prod.mk.inj hex
  obtain ⟨rfl, rfl⟩ := Prod.mk.inj hae
  clear hex hae
  have hxi0 : g w i ≠ 0 := by
    intro h; rw [h, abs_zero] at hxi1; exact not_lt.mpr zero_le_one hxi1
  obtain ⟨ss1, ss2, _⟩ := startScan_spec eps w (g w i) i hs
  obtain ⟨es1, es2, es3, es4, es5, es6, hp, es7⟩ := endScan_spec eps w N (g w i) i |g w i| i (le_of_lt hiN) rfl hes
  have hie : i < e := es7 hiN (mul_self_nonneg _)
  replace hp : i ≤ p ∧ p < e := by omega
  have hm1 : 1 < m := lt_of_lt_of_le hxi1 es4
  have hm2 : m ≤ 2 := by rw [es6]; exact hI.le2 p
  have hle1 : ∀ j, j < i → |g w j| ≤ 1 := by
    intro j hj
    by_cases hjc : j < curr
    · exact hI.le1 j hjc
    · exact fe2 j (by omega) hj
  have hrange : ∀ j, start ≤ j → j < e → 0 ≤ g w i * g w j ∧ |g w j| ≤ m := by
    intro j h1 h2
    by_cases hji : j < i
    · exact ⟨ss2 j h1 hji, le_trans (hle1 j hji) (le_of_lt hm1)⟩
    · exact es3 j (by omega) h2
  generalize ha : @coefA F ops m (g w i) = a
  have habs : |a| ≤ (1 + eps) / 4 := by rw [← ha]; exact coefA_abs eps m (g w i) he0 hm1
  obtain ⟨ap1, ap2⟩ := applyLoop_spec eps w a start e
  generalize @applyLoop F ops w 1 0 a start e = w1 at *
  have hw1 : ∀ j, Upd e j (g w j) (g w1 j) := by
    intro j
    by_cases hin : start ≤ j ∧ j < e
    · obtain ⟨r1, r2⟩ := hrange j hin.1 hin.2
      obtain ⟨hb, hs⟩ := excursion_map eps m (g w i) (g w j) he0 he1 hm1 hm2 hxi0 r1 r2
      rw [ha] at hb hs
      rw [ap2 j, if_pos ⟨hin.1, hin.2, by rw [hI.size]; omega⟩]
      exact ⟨le_trans hb one_le_two, fun _ => hb, hs, fun h => by omega⟩
    · rw [ap2 j, if_neg (by omega)]
      exact ⟨hI.le2 j, fun hje => hle1 j (by omega), .refl _, fun _ => rfl⟩
  have hfinal := fun x' hsz => hI.advance hie es2 hxi0 es5 x' hsz
  refine ⟨hie, es2, ?_, habs⟩
  have hw1sz : w1.size = N := by rw [ap1, hI.size]
  split
  · rename_i hcond
    -- the frame-start ramp
    simp only [Bool.and_eq_true, beq_iff_eq, decide_eq_true_eq] at hcond
    obtain ⟨⟨hs0, _⟩, _⟩ := hcond
    subst hs0
    have hcurr : curr = 0 := by
      rcases hI.turn with h | h | ⟨q, hq1, hq2⟩
      · exact h
      · omega
      · exact absurd (mul_nonneg_of_same_side hxi0 (hrange q (Nat.zero_le _) (by omega)).1
          (hrange curr (Nat.zero_le _) (by omega)).1) (not_le.mpr hq2)
    subst hcurr
    have hx0 : g w 0 = x0 := hI.first rfl
    have hw10 : g w1 0 = x0 + a * x0 * x0 := by
      rw [ap2 0, if_pos ⟨Nat.zero_le _, by omega, by rw [hI.size]; omega⟩, hx0]
    have hoff : 0 ≤ g w i * (x0 - g w1 0) := by
      rw [hw10, ← ha]; exact ramp_offset_side eps m (g w i) x0 he0 hm1 hxi0
    obtain ⟨rp1, rp2⟩ := rampLoop_spec eps w1 ((x0 - g w1 0) / ((p : Nat) : F)) 0 p
    generalize @rampLoop F ops w1 1 0 ((x0 - g w1 0) / ((p : Nat) : F)) 0 p = w2 at *
    apply hfinal w2 (by rw [rp1, hw1sz])
    intro j
    by_cases hjp : j < p
    · obtain ⟨hb, hs⟩ := ramp_step p (p - 1 - j) (hw1 j).sign hxi0 (hrange j (Nat.zero_le _) (by omega)).1 hoff
      rw [rp2 j, if_pos ⟨Nat.zero_le _, hjp, by rw [hw1sz]; omega⟩]
      exact ⟨le_trans hb one_le_two, fun _ => hb, hs, fun h => by omega⟩
    · rw [rp2 j, if_neg (by omega)]
      exact hw1 j
  · exact hfinal w1 hw1sz hw1

/-- Once the samples from `curr` on are in [-1, 1], all are. -/
theorem Inv.done {N : Nat} {x0 : F} {orig w : Array F} {curr : Nat} (hI : Inv N x0 orig w curr)
    (h : ∀ j, curr ≤ j → j < N → |g w j| ≤ 1) (j : Nat) : |g w j| ≤ 1 := by
  by_cases hj : j < N
  · by_cases hjc : j < curr
    · exact hI.le1 j hjc
    · exact h j (by omega) hj
  · rw [g_oob w (by rw [hI.size]; omega), abs_zero]; exact zero_le_one

theorem outer_inv (he0 : 0 ≤ eps) (he1 : eps < 1) (N : Nat) (x0 : F) (orig w : Array F) (curr : Nat)
    (hI : Inv N x0 orig w curr) (hc : curr ≤ N) {w' : Array F} {a' : F} (h : @outer F ops w 1 0 N x0 curr = (w', a')) :
    w'.size = N ∧ (∀ j, |g w' j| ≤ 1) ∧ (∀ j, SignKept (g orig j) (g w' j)) ∧ |a'| ≤ (1 + eps) / 4 := by
  fun_induction @outer F ops w 1 0 N x0 curr with
  | case1 w curr i hi x' a hex =>
    obtain ⟨rfl, rfl⟩ := Prod.mk.inj h
    obtain ⟨_, _, e3, e4⟩ := excursion_inv eps he0 he1 N x0 orig w curr hI rfl hi hex
    exact ⟨e3.size, e3.done fun j h1 h2 => by omega, e3.sign, e4⟩
  | case2 w curr i hi x' a e hex he hg ih =>
    obtain ⟨_, e2, e3, _⟩ := excursion_inv eps he0 he1 N x0 orig w curr hI rfl hi hex
    exact ih e3 e2 h
  | case3 w curr i hi x' a e hex he hg =>
    exfalso
    obtain ⟨e1, e2, _, _⟩ := excursion_inv eps he0 he1 N x0 orig w curr hI rfl hi hex
    obtain ⟨_, _, fe3⟩ := findExceed_spec eps w N curr (r := i) rfl
    have := (fe3 hi).1
    exact hg ⟨by omega, by omega⟩
  | case4 w curr i hi =>
    obtain ⟨rfl, rfl⟩ := Prod.mk.inj h
    obtain ⟨fe1, fe2, _⟩ := findExceed_spec eps w N curr (r := i) rfl
    refine ⟨hI.size, hI.done fun j h1 h2 => fe2 j h1 (by omega), hI.sign, ?_⟩
    show |(0 : F)| ≤ (1 + eps) / 4
    rw [abs_zero]; exact div_nonneg (add_nonneg zero_le_one he0) zero_le_four

/-- The single-channel algorithm on samples within ±2 (what the saturation pre-pass leaves). -/
theorem mono_bound_of_le_two (he0 : 0 ≤ eps) (he1 : eps < 1) (N : Nat) (x : Array F) (m : F) (hsz : x.size = N)
    (hx2 : ∀ j, |g x j| ≤ 2) (hm : |m| ≤ (1 + eps) / 4) {y : Array F} {m' : F} (h : @mono F ops x m N = (y, m')) :
    y.size = N ∧ (∀ j, |g y j| ≤ 1) ∧ (∀ j, SignKept (g x j) (g y j)) ∧ |m'| ≤ (1 + eps) / 4 := by
  obtain ⟨x1, hx1⟩ : ∃ x1, @contLoop F ops x 1 0 N m 0 = x1 := ⟨_, rfl⟩
  obtain ⟨⟨w', a'⟩, ho⟩ : ∃ r, @outer F ops x1 1 0 N (@rd F ops x1 1 0 0) 0 = r := ⟨_, rfl⟩
  have hm0 : (#[m] : Array F).getD 0 (@ClipOps.zero F ops) = m := by simp
  unfold mono clipChannel at h
  simp only [hm0, hx1, ho] at h
  obtain ⟨rfl, rfl⟩ := Prod.mk.inj h
  obtain ⟨c1, c3⟩ := contLoop_spec eps x N m 0 hx1
  have hc : ∀ j, |g x1 j| ≤ 2 ∧ SignKept (g x j) (g x1 j) := fun j => by
    rcases c3 j with h | ⟨_, h1, h2⟩
    · rw [h]; exact ⟨hx2 j, .refl _⟩
    · rw [h2]; exact cont_step eps m (g x j) he1 hm (hx2 j) h1
  have hI : Inv N (@rd F ops x1 1 0 0) x x1 0 :=
    ⟨by rw [c1, hsz], fun j => (hc j).1, fun j hj => by omega, fun j => (hc j).2, fun _ => (rd1 eps x1 0).symm, Or.inl rfl⟩
  obtain ⟨o1, o2, o3, o5⟩ := outer_inv eps he0 he1 N _ x x1 0 hI (Nat.zero_le _) ho
  refine ⟨o1, o2, o3, ?_⟩
  simpa using o5

/-- The single-channel algorithm behind the saturation pre-pass: what `OpusProps.C19.bounded_sign_preserved` lifts to
    the whole call through `softClip_mono`. -/
theorem mono_bound (he0 : 0 ≤ eps) (he1 : eps < 1) (N : Nat) (u : Array F) (m : F) (hsz : u.size = N)
    (hm : |m| ≤ (1 + eps) / 4) {ys : Array F} {m2 : F}
    (h : @mono F ops (u.map (@sat2 F ops)) m N = (ys, m2)) :
    ys.size = N ∧ (∀ j, |g ys j| ≤ 1 ∧ SignKept (g u j) (g ys j)) ∧ |m2| ≤ (1 + eps) / 4 := by
  obtain ⟨s1, s2⟩ := sat2_map_field eps u
  obtain ⟨c1, c2, c3, c5⟩ := mono_bound_of_le_two eps he0 he1 N _ m (by rw [s1, hsz])
    (fun j => by rw [s2 j]; exact clampTo_abs zero_le_two _) hm h
  exact ⟨c1, fun j => ⟨c2 j, (s2 j ▸ SignKept.clamp two_pos (g u j)).trans (c3 j)⟩, c5⟩

end
end Opus.SoftClip
