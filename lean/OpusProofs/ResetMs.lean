import OpusProofs.ResetDecode
import OpusModel.ResetMs
import OpusProofs.CtlFanOut
/-
  OpusProofs.ResetMs — the per-stream reset theorems lifted through the multistream fan-out.
-/
namespace Opus.ResetState
open Opus

theorem allPairs_map {α β γ : Type} {R : β → γ → Prop} (f : α → β) (g : α → γ) (l : List α)
    (h : ∀ e ∈ l, R (f e) (g e)) : AllPairs R (l.map f) (l.map g) := by
  induction l with
  | nil => exact .nil
  | cons e es ih =>
    exact .cons (h e (List.mem_cons_self ..)) (ih (fun x hx => h x (List.mem_cons_of_mem _ hx)))

/-- Multistream encoder invariant: every stream encoder is reachable; outside the surround mapping the
    analysis memories are never written (only surround_analysis touches them). -/
structure MsInv (m : MsEnc) : Prop where
  streams : ∀ e ∈ m.streams, Reach e
  mems : m.mappingType ≠ MAPPING_TYPE_SURROUND → m.mems = .fresh

theorem msEncReset_eq_fresh (m : MsEnc) (h : MsInv m) :
    MsObsEq (msEncReset m).1 (msEncFresh m) ∧ (msEncReset m).2 = Ctl.Ret.ok := by
  have hf : Ctl.fanOut encResetCtl m.streams = (m.streams.map encReset, Ctl.Ret.ok) :=
    Ctl.fanOut_all_ok encResetCtl m.streams (fun _ _ => rfl)
  simp only [msEncReset, hf]
  refine ⟨⟨rfl, rfl, rfl, rfl, rfl, rfl, rfl, rfl, rfl, rfl, ?_, ?_⟩, trivial⟩
  · by_cases hs : m.mappingType = MAPPING_TYPE_SURROUND
    · simp [msEncFresh, hs]
    · simp [msEncFresh, hs, h.mems hs]
  · exact allPairs_map _ _ _ (fun e he => view_reset_eq_fresh (reach_inv (h.streams e he)))

theorem msDecReset_eq_fresh (m : MsDec) (h : ∀ d ∈ m.streams, DecInv d) :
    MsDecObsEq (msDecReset m).1 (msDecFresh m) ∧ (msDecReset m).2 = Ctl.Ret.ok := by
  have hf : Ctl.fanOut decResetCtl m.streams = (m.streams.map decReset, Ctl.Ret.ok) :=
    Ctl.fanOut_all_ok decResetCtl m.streams (fun _ _ => rfl)
  simp only [msDecReset, hf]
  exact ⟨⟨rfl, rfl, rfl, rfl, allPairs_map _ _ _ (fun d hd => decView_reset_eq_fresh (h d hd))⟩, trivial⟩

theorem MsObsEq.streams {a b : MsEnc} (h : MsObsEq a b) : AllPairs ObsEq a.streams b.streams := h.2.2.2.2.2.2.2.2.2.2.2

theorem MsDecObsEq.streams {a b : MsDec} (h : MsDecObsEq a b) : AllPairs DecObsEq a.streams b.streams := h.2.2.2.2

/-- Lists related position by position have equal images under maps that agree on related elements. -/
theorem allPairs_map_eq {α β γ : Type} {R : α → β → Prop} {f : α → γ} {g : β → γ} (hfg : ∀ a b, R a b → f a = g b)
    {as : List α} {bs : List β} (h : AllPairs R as bs) : as.map f = bs.map g := by
  induction h with
  | nil => rfl
  | cons hr _ ih => simp only [List.map]; rw [hfg _ _ hr, ih]

end Opus.ResetState
