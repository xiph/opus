import OpusModel.Pcm
import Mathlib.Tactic.Linarith
import Mathlib.Tactic.Ring
import Mathlib.Tactic.Positivity
/-
  OpusProofs.Pcm — lemmas about the exact binary32 model of OpusModel/Pcm.lean:
  round-half-even (`rne`), and the binary32 rounding `roundMag` seen through the pairs (E, Q) of exponent and
  significand that a magnitude decodes to (`Canon`): exact on representable values, left inverse of `mag`.
-/
namespace Opus.Pcm

/-- `z` is `k / 2^d` rounded to the nearest integer, ties to even. -/
def IsRne (z k : Int) (d : Nat) : Prop :=
  2 * |z * 2 ^ d - k| ≤ 2 ^ d ∧ (2 * |z * 2 ^ d - k| = 2 ^ d → z % 2 = 0)

theorem rne_isRne (k : Int) (d : Nat) : IsRne (rne k d) k d := by
  have hD : (0 : Int) < 2 ^ d := by positivity
  have hk : k = k / 2 ^ d * 2 ^ d + k % 2 ^ d := (Int.ediv_mul_add_emod k (2 ^ d)).symm
  have hr0 : 0 ≤ k % 2 ^ d := Int.emod_nonneg _ (ne_of_gt hD)
  have hr1 : k % 2 ^ d < 2 ^ d := Int.emod_lt_of_pos _ hD
  unfold IsRne rne
  generalize k / 2 ^ d = q at *
  generalize k % 2 ^ d = r at *
  generalize (2 : Int) ^ d = D at *
  simp only
  split
  · rename_i h
    have e : (q + 1) * D - k = D - r := by rw [hk]; ring
    rw [e, abs_of_nonneg (by omega)]
    refine ⟨by omega, fun h2 => ?_⟩
    rcases h with h | ⟨_, h⟩ <;> omega
  · rename_i h
    have e : q * D - k = -r := by rw [hk]; ring
    rw [e, abs_neg, abs_of_nonneg hr0]
    refine ⟨by omega, fun h2 => ?_⟩
    have : ¬ (q % 2 = 1) := fun hq => h (Or.inr ⟨h2, hq⟩)
    omega

/-- Nearest-even roundings are monotone in the numerator: were `z' < z`, the two half-unit balls around
    `z·2^d ≥ z'·2^d + 2^d` could only touch, so `k = k'` is a tie of both and `z = z' + 1`, one of them odd. -/
theorem isRne_mono {z z' k k' : Int} {d : Nat} (h : IsRne z k d) (h' : IsRne z' k' d) (hk : k ≤ k') : z ≤ z' := by
  have hD : (0 : Int) < 2 ^ d := by positivity
  obtain ⟨h1, h2⟩ := h
  obtain ⟨h1', h2'⟩ := h'
  generalize (2 : Int) ^ d = D at *
  by_contra hlt
  have hz : (z' + 1) * D ≤ z * D := Int.mul_le_mul_of_nonneg_right (by omega) hD.le
  rw [Int.add_mul, Int.one_mul] at hz
  have c := le_abs_self (z * D - k)
  have c' := neg_abs_le (z' * D - k')
  have e : z * D = (z' + 1) * D := by rw [Int.add_mul, Int.one_mul]; omega
  have := Int.eq_of_mul_eq_mul_right hD.ne' e
  have := h2 (by omega)
  have := h2' (by omega)
  omega

theorem isRne_unique {z z' k : Int} {d : Nat} (h : IsRne z k d) (h' : IsRne z' k d) : z = z' :=
  le_antisymm (isRne_mono h h' le_rfl) (isRne_mono h' h le_rfl)

theorem rne_of_isRne {z k : Int} {d : Nat} (h : IsRne z k d) : rne k d = z :=
  isRne_unique (rne_isRne k d) h

theorem rne_mul_pow (z : Int) (d : Nat) : rne (z * 2 ^ d) d = z := by
  apply rne_of_isRne
  have hD : (0 : Int) < 2 ^ d := by positivity
  unfold IsRne
  simp only [sub_self, abs_zero, mul_zero]
  exact ⟨le_of_lt hD, fun h => absurd h (ne_of_lt hD)⟩

/-- Rounding does not cross an integer: `k/2^d ≤ z` gives `rne k d ≤ z`, and the other way round. -/
theorem rne_le {k z : Int} {d : Nat} (h : k ≤ z * 2 ^ d) : rne k d ≤ z :=
  rne_mul_pow z d ▸ isRne_mono (rne_isRne k d) (rne_isRne _ d) h

theorem le_rne {k z : Int} {d : Nat} (h : z * 2 ^ d ≤ k) : z ≤ rne k d :=
  rne_mul_pow z d ▸ isRne_mono (rne_isRne _ d) (rne_isRne k d) h

theorem rne_scale (k : Int) (a d : Nat) : rne (k * 2 ^ a) (d + a) = rne k d := by
  apply rne_of_isRne
  obtain ⟨h1, h2⟩ := rne_isRne k d
  have hA : (0 : Int) < 2 ^ a := by positivity
  have e : rne k d * 2 ^ (d + a) - k * 2 ^ a = (rne k d * 2 ^ d - k) * 2 ^ a := by
    rw [pow_add]; ring
  unfold IsRne
  rw [e, abs_mul, abs_of_pos hA, pow_add]
  constructor
  · calc 2 * (|rne k d * 2 ^ d - k| * 2 ^ a) = (2 * |rne k d * 2 ^ d - k|) * 2 ^ a := by ring
      _ ≤ 2 ^ d * 2 ^ a := Int.mul_le_mul_of_nonneg_right h1 (le_of_lt hA)
  · intro h
    apply h2
    have : (2 * |rne k d * 2 ^ d - k|) * 2 ^ a = 2 ^ d * 2 ^ a := by rw [← h]; ring
    exact Int.eq_of_mul_eq_mul_right (ne_of_gt hA) this

theorem log2_eq_of_bounds {n k : Nat} (h1 : 2 ^ k ≤ n) (h2 : n < 2 ^ (k + 1)) : Nat.log2 n = k := by
  have hn : n ≠ 0 := by
    intro h; subst h; exact absurd h1 (by have := Nat.two_pow_pos k; omega)
  have a : k ≤ Nat.log2 n := (Nat.le_log2 hn).mpr h1
  have b : Nat.log2 n < k + 1 := (Nat.log2_lt hn).mpr h2
  omega

theorem log2_le_of_lt {n k : Nat} (h : n < 2 ^ (k + 1)) : Nat.log2 n ≤ k := by
  by_cases h0 : n = 0
  · subst h0; simp
  · exact Nat.le_of_lt_succ ((Nat.log2_lt h0).mpr h)

theorem mag_small {m : Nat} (h : m < 2 ^ 23) : mag m = some m := by
  unfold mag
  have h1 : m / 2 ^ 23 = 0 := Nat.div_eq_of_lt h
  have h2 : m % 2 ^ 23 = m := Nat.mod_eq_of_lt h
  rw [h1, h2]; rfl

theorem mag_normal {E m : Nat} (hE : E + 1 < 255) (hm : m < 2 ^ 23) :
    mag ((E + 1) * 2 ^ 23 + m) = some ((2 ^ 23 + m) * 2 ^ E) := by
  unfold mag
  have h1 : ((E + 1) * 2 ^ 23 + m) / 2 ^ 23 = E + 1 := by
    rw [Nat.mul_comm, Nat.mul_add_div (by positivity), Nat.div_eq_of_lt hm]
  have h2 : ((E + 1) * 2 ^ 23 + m) % 2 ^ 23 = m := by
    rw [Nat.mul_comm, Nat.mul_add_mod, Nat.mod_eq_of_lt hm]
  have h3 : (E + 1) % 256 = E + 1 := Nat.mod_eq_of_lt (by omega)
  simp only [h1, h2, h3]
  have : ¬ (E + 1 = 255) := by omega
  simp [this]

/-- The rounding decision of `roundMag` when the remainder is zero. -/
theorem roundStep_zero (sh Q : Nat) :
    (if sh = 0 then Q else if 2 ^ sh / 2 < 0 ∨ (0 = 2 ^ sh / 2 ∧ Q % 2 = 1) then Q + 1 else Q) = Q := by
  split
  · rfl
  · rename_i hsh
    have : 1 ≤ 2 ^ sh / 2 := by
      obtain ⟨s, rfl⟩ : ∃ s, sh = s + 1 := ⟨sh - 1, by omega⟩
      rw [Nat.pow_succ, Nat.mul_div_cancel _ (by norm_num)]; exact Nat.one_le_two_pow
    rw [if_neg]; omega

/-- `roundMag` when the unit in the last place `2^sh` divides `n`: no rounding decision is taken. -/
theorem roundMag_of_dvd {n d sh : Nat} (hsh : max (Nat.log2 n - 23) d = sh) (hdiv : 2 ^ sh ∣ n) :
    roundMag n d =
      if 0x7f800000 ≤ (sh - d) * 2 ^ 23 + n / 2 ^ sh then 0x7f800000 else (sh - d) * 2 ^ 23 + n / 2 ^ sh := by
  unfold roundMag
  simp only [hsh, Nat.mod_eq_zero_of_dvd hdiv, roundStep_zero]

/-- The 31 magnitude bits `E·2^23 + Q` stand for `Q·2^E`: subnormals are `E = 0`, `Q < 2^23`; normals have their
    leading bit in `Q` (`2^23 ≤ Q < 2^24`, exponent field `E + 1`), so a mantissa carry runs into the exponent. -/
def Canon (E Q : Nat) : Prop := Q < 2 ^ 24 ∧ (E = 0 ∨ 2 ^ 23 ≤ Q)

theorem mag_canon {E Q : Nat} (h : Canon E Q) (hfin : E * 2 ^ 23 + Q < 255 * 2 ^ 23) :
    mag (E * 2 ^ 23 + Q) = some (Q * 2 ^ E) := by
  obtain ⟨hQ, hn⟩ := h
  by_cases hs : Q < 2 ^ 23
  · obtain rfl : E = 0 := by omega
    rw [Nat.zero_mul, Nat.zero_add, Nat.pow_zero, Nat.mul_one]; exact mag_small hs
  · have e : E * 2 ^ 23 + Q = (E + 1) * 2 ^ 23 + (Q - 2 ^ 23) := by omega
    rw [e, mag_normal (by omega) (by omega), show 2 ^ 23 + (Q - 2 ^ 23) = Q by omega]

/-- Every finite pattern decodes to a canonical pair. -/
theorem canon_of_mag {b n : Nat} (h : mag b = some n) :
    ∃ E Q, Canon E Q ∧ E < 254 ∧ b % 2 ^ 31 = E * 2 ^ 23 + Q ∧ n = Q * 2 ^ E := by
  unfold mag at h
  simp only at h
  split at h
  · cases h
  · split at h
    · obtain rfl := Option.some.inj h
      exact ⟨0, b % 2 ^ 23, ⟨by omega, Or.inl rfl⟩, by omega, by omega, by omega⟩
    · obtain rfl := Option.some.inj h
      exact ⟨b / 2 ^ 23 % 256 - 1, 2 ^ 23 + b % 2 ^ 23, ⟨by omega, Or.inr (by omega)⟩, by omega, by omega, rfl⟩

/-- The rounding unit of `roundMag · d` on a canonical magnitude scaled by `2^d` is `2^(E+d)`. -/
theorem unit_canon {E Q : Nat} (h : Canon E Q) (d : Nat) : max (Nat.log2 (Q * 2 ^ (E + d)) - 23) d = E + d := by
  obtain ⟨hQ, hn⟩ := h
  by_cases hs : 2 ^ 23 ≤ Q
  · have hhi : Q * 2 ^ (E + d) < 2 ^ (23 + (E + d) + 1) := by
      rw [Nat.add_right_comm, Nat.pow_add 2 (23 + 1)]; exact Nat.mul_lt_mul_of_pos_right hQ (Nat.two_pow_pos _)
    have hlo : 2 ^ (23 + (E + d)) ≤ Q * 2 ^ (E + d) := by rw [Nat.pow_add]; exact Nat.mul_le_mul_right _ hs
    rw [log2_eq_of_bounds hlo hhi]; omega
  · obtain rfl : E = 0 := by omega
    have : Q * 2 ^ (0 + d) < 2 ^ (22 + d + 1) := by
      rw [Nat.zero_add, Nat.add_right_comm, Nat.pow_add 2 (22 + 1)]; exact Nat.mul_lt_mul_of_pos_right (by omega) (Nat.two_pow_pos _)
    have := log2_le_of_lt this
    omega

/-- `roundMag` on a canonical magnitude: no rounding decision, the bits are `E·2^23 + Q` (or +inf). -/
theorem roundMag_canon {E Q : Nat} (h : Canon E Q) (d : Nat) :
    roundMag (Q * 2 ^ (E + d)) d =
      if 0x7f800000 ≤ E * 2 ^ 23 + Q then 0x7f800000 else E * 2 ^ 23 + Q := by
  rw [roundMag_of_dvd (unit_canon h d) (Nat.dvd_mul_left _ _), Nat.mul_div_cancel _ (Nat.two_pow_pos _),
    Nat.add_sub_cancel]

/-- Normalisation: a 24-bit integer times `2^t`, `d ≤ t`, is canonical at scale `2^d` (shift the leading bit up to
    position 23 or until the exponent runs out). -/
theorem canon_of_dyadic {q t d : Nat} (hq : q < 2 ^ 24) (hd : d ≤ t) :
    ∃ E Q, Canon E Q ∧ q * 2 ^ t = Q * 2 ^ (E + d) := by
  induction hk : t - d generalizing q t with
  | zero => exact ⟨0, q, ⟨hq, Or.inl rfl⟩, by rw [Nat.zero_add]; congr 2; omega⟩
  | succ k ih =>
    by_cases hs : 2 ^ 23 ≤ q
    · exact ⟨t - d, q, ⟨hq, Or.inr hs⟩, by congr 2; omega⟩
    · obtain ⟨E, Q, hc, e⟩ := ih (q := 2 * q) (t := t - 1) (by omega) (by omega) (by omega)
      refine ⟨E, Q, hc, e ▸ ?_⟩
      obtain ⟨s, rfl⟩ : ∃ s, t = s + 1 := ⟨t - 1, by omega⟩
      rw [Nat.add_sub_cancel, Nat.pow_succ]; ac_rfl

theorem roundMag_mag {m n : Nat} (hm : m < 2 ^ 31) (h : mag m = some n) : roundMag n 0 = m := by
  obtain ⟨E, Q, hc, hE, hb, rfl⟩ := canon_of_mag h
  rw [Nat.mod_eq_of_lt hm] at hb
  have := roundMag_canon hc 0
  rw [Nat.add_zero] at this
  rw [this, if_neg (by have := hc.1; omega), hb]

theorem mag_dyadic {b n : Nat} (h : mag b = some n) : ∃ q t, n = q * 2 ^ t ∧ q < 2 ^ 24 := by
  obtain ⟨E, Q, hc, _, _, rfl⟩ := canon_of_mag h
  exact ⟨Q, E, rfl, hc.1⟩

/-- `roundMag` is exact on every 24-bit integer times a power of two at or above the scale. -/
theorem roundMag_dyadic {q t d : Nat} (hq : q < 2 ^ 24) (hd : d ≤ t) (hfin : q * 2 ^ t < 2 ^ (277 + d)) :
    mag (roundMag (q * 2 ^ t) d) = some (q * 2 ^ (t - d)) := by
  obtain ⟨E, Q, hc, e⟩ := canon_of_dyadic hq hd
  have hval : q * 2 ^ (t - d) = Q * 2 ^ E := by
    apply Nat.eq_of_mul_eq_mul_right (Nat.two_pow_pos d)
    rw [Nat.mul_assoc, ← Nat.pow_add, Nat.mul_assoc, ← Nat.pow_add, Nat.sub_add_cancel hd, e]
  have hb : E * 2 ^ 23 + Q < 255 * 2 ^ 23 := by
    rcases hc.2 with rfl | hn
    · have := hc.1; omega
    · have : 2 ^ (23 + E + d) < 2 ^ (277 + d) := by
        refine lt_of_le_of_lt ?_ (e ▸ hfin)
        rw [Nat.add_assoc, Nat.pow_add]; exact Nat.mul_le_mul_right _ hn
      have := (Nat.pow_lt_pow_iff_right (by norm_num : 1 < 2)).mp this
      have := hc.1; omega
  rw [e, roundMag_canon hc d, if_neg (by omega), mag_canon hc hb, hval]

end Opus.Pcm
