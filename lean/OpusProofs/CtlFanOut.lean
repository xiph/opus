import OpusModel.Ctl
/-
  OpusProofs.CtlFanOut — the loop `for (s…) { ret = ctl(stream); if (ret != OPUS_OK) break; }` of the multistream
  objects (`Opus.Ctl.fanOut`), for any per-stream request: all streams accept, or the first refusal stops it.
-/
namespace Opus.Ctl
open Opus

/-- When no stream refuses, every stream gets the request and the answer is OPUS_OK. -/
theorem fanOut_all_ok {α} (f : α → α × Ret) (xs : List α) (h : ∀ e ∈ xs, (f e).2.code = 0) :
    fanOut f xs = (xs.map (fun e => (f e).1), Ret.ok) := by
  induction xs with
  | nil => rfl
  | cons e es ih =>
    have he := h e (List.mem_cons_self)
    simp only [fanOut, he, ne_eq, not_true_eq_false, ite_false, List.map_cons,
      ih (fun x hx => h x (List.mem_cons_of_mem _ hx))]

theorem fanOut_ok_all {α} (f : α → α × Ret) (xs : List α) (h : (fanOut f xs).2.code = 0) :
    ∀ e ∈ xs, (f e).2.code = 0 := by
  induction xs with
  | nil => intro e he; cases he
  | cons e es ih =>
    by_cases he : (f e).2.code ≠ 0
    · simp only [fanOut] at h; rw [if_pos he] at h; exact absurd h he
    · simp only [fanOut] at h; rw [if_neg he] at h
      intro x hx
      rcases List.mem_cons.mp hx with rfl | hx
      · exact Decidable.not_not.mp he
      · exact ih h x hx

/-- If a refusal by any stream implies a refusal by the FIRST stream, and a refusing stream is left
    unchanged, then a fan-out that reports an error has changed nothing. -/
theorem fanOut_fail_unchanged' {α} (f : α → α × Ret) (xs : List α)
    (hfail : ∀ e ∈ xs, (f e).2.code ≠ 0 → (f e).1 = e)
    (hhead : ∀ e0 es, xs = e0 :: es → (∃ e ∈ xs, (f e).2.code ≠ 0) → (f e0).2.code ≠ 0)
    (h : (fanOut f xs).2.code ≠ 0) : (fanOut f xs).1 = xs := by
  cases xs with
  | nil => simp [fanOut, Ret.ok] at h
  | cons e es =>
    have hex : ∃ x ∈ e :: es, (f x).2.code ≠ 0 := by
      apply Classical.byContradiction
      intro hn
      have hall : ∀ x ∈ e :: es, (f x).2.code = 0 := fun x hx =>
        Classical.byContradiction fun hx0 => hn ⟨x, hx, hx0⟩
      exact h (by rw [fanOut_all_ok f (e :: es) hall]; rfl)
    have he := hhead e es rfl hex
    simp only [fanOut]
    rw [if_pos he, hfail e (List.mem_cons_self) he]

/-- If the streams agree on whether they refuse, and a refusing stream is left unchanged, then a
    fan-out that reports an error has changed nothing. -/
theorem fanOut_fail_unchanged {α} (f : α → α × Ret) (xs : List α)
    (hfail : ∀ e ∈ xs, (f e).2.code ≠ 0 → (f e).1 = e)
    (huni : ∀ e ∈ xs, ∀ e' ∈ xs, ((f e).2.code ≠ 0 ↔ (f e').2.code ≠ 0))
    (h : (fanOut f xs).2.code ≠ 0) : (fanOut f xs).1 = xs :=
  fanOut_fail_unchanged' f xs hfail
    (fun e0 es hx ⟨e, he, hc⟩ => (huni e he e0 (by rw [hx]; exact List.mem_cons_self)).mp hc) h

end Opus.Ctl
