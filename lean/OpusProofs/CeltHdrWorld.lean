import OpusModel.CeltSymsEnc
import OpusModel.CeltSyms
import OpusProofs.RangeCoderRoundTrip
import OpusProofs.RangeCoderStageA
import OpusProofs.RangeCoderBudget
import OpusProofs.RangeCoderFlags
/-
  OpusProofs.CeltHdrWorld — the setting of the CELT header round trip: a complete, legal, error-free operation list
  `all` written by the range encoder (C08), the finished packet, and what C08's theorems give at every point of it:
  the decoder run on the finished packet is in lock-step with the encoder (`ec_tell`, `ec_tell_frac`) and reads every
  stretch of the packet back (`World.reads`, in the `Reads` / `after` form of OpusProofs/RangeCoderRoundTrip.lean).
  Behind it `Here`: the encoder model's state and a decoder context at the same point of the packet.
  (OpusProps/C08.lean itself cannot be imported here: it imports OpusProofs/OpusFrameLockstepExample.lean, which rests on
  this file.  `World.sync_rng` below is C08's `lockstep_rng`, re-derived from the same lemma `decode_encode_prefix` of
  OpusProofs/RangeCoderRoundTrip.lean; `World.tell_mono` is `tell_run_mono` / `tellFrac_run_mono` of
  OpusProofs/RangeCoderBudget.lean on the packet.)
-/
/-- `r` succeeds with a result satisfying `P`.  A test vector states everything it needs from one model run in this
    form and proves it by `decide +kernel`, so that the kernel evaluates the run once. -/
def Opus.Res.OkAnd {α} (r : Opus.Res α) (P : α → Prop) : Prop := ∃ a, r = .ok a ∧ P a

instance {α} (r : Opus.Res α) (P : α → Prop) [DecidablePred P] : Decidable (r.OkAnd P) :=
  match r with
  | .ok a => if h : P a then isTrue ⟨a, rfl, h⟩ else isFalse fun ⟨_, hb, hP⟩ => by injection hb with hb; exact h (hb ▸ hP)
  | .err _ => isFalse fun ⟨_, hb, _⟩ => by cases hb
  | .oob => isFalse fun ⟨_, hb, _⟩ => by cases hb
  | .abort => isFalse fun ⟨_, hb, _⟩ => by cases hb

namespace OpusProofs.CeltHdr
open Opus Opus.RangeCoder

structure World where
  buf : List Nat
  size : Nat
  all : List Op
  hs : size ≤ buf.length
  hb : BytesOk buf
  hl : LegalRun (encInit buf size) all
  hn : (encodeAll buf size all).nbitsTotal < 4294967296
  herr : (encodeAll buf size all).error = 0
  /-- `nbits_total` (a C `int`, shifted left by 3 in `ec_tell_frac`) stays below 2^29: true for every Opus packet -/
  hn29 : (encodeAll buf size all).nbitsTotal < 536870912

/-- what a `World` asks of its call list (the fields `hl`, `hn`, `herr`, `hn29`), as one decidable proposition -/
def RunOk (buf : List Nat) (size : Nat) (ops : List Op) : Prop :=
  LegalRun (encInit buf size) ops ∧ (encodeAll buf size ops).nbitsTotal < 4294967296 ∧
  (encodeAll buf size ops).error = 0 ∧ (encodeAll buf size ops).nbitsTotal < 536870912

instance (buf : List Nat) (size : Nat) (ops : List Op) : Decidable (RunOk buf size ops) :=
  inferInstanceAs (Decidable (_ ∧ _ ∧ _ ∧ _))

theorem RunOk.hl {buf : List Nat} {size : Nat} {ops : List Op} (h : RunOk buf size ops) :
    LegalRun (encInit buf size) ops := h.1
theorem RunOk.hn {buf : List Nat} {size : Nat} {ops : List Op} (h : RunOk buf size ops) :
    (encodeAll buf size ops).nbitsTotal < 4294967296 := h.2.1
theorem RunOk.herr {buf : List Nat} {size : Nat} {ops : List Op} (h : RunOk buf size ops) :
    (encodeAll buf size ops).error = 0 := h.2.2.1
theorem RunOk.hn29 {buf : List Nat} {size : Nat} {ops : List Op} (h : RunOk buf size ops) :
    (encodeAll buf size ops).nbitsTotal < 536870912 := h.2.2.2

/-- `storage` after `ec_enc_done`: shorter than `size` when an `ec_enc_shrink` was among the calls -/
def World.len (w : World) : Nat := (encodeAll w.buf w.size w.all).storage
def World.bytes (w : World) : List Nat := (encodeAll w.buf w.size w.all).buf.take w.len
def World.d0 (w : World) : Dec := decInit w.bytes w.len
def World.encAt (w : World) (P : List Op) : Enc := encRun (encInit w.buf w.size) P
def World.decAt (w : World) (P : List Op) : Dec := (decRun w.d0 P).2

/-- `P` has been written and more follows -/
def World.IsPrefix (w : World) (P : List Op) : Prop := ∃ Q, w.all = P ++ Q

/-- the whole call list, in the form `P0 ++ ops` of the round-trip theorems at `P0 = []` (a frame on a coder of its own) -/
theorem World.isPrefix_all (w : World) : w.IsPrefix ([] ++ w.all) := ⟨[], by rw [List.nil_append, List.append_nil]⟩

theorem World.isPrefix_of_append {w : World} {P Q : List Op} (h : w.IsPrefix (P ++ Q)) : w.IsPrefix P := by
  obtain ⟨R, hR⟩ := h
  exact ⟨Q ++ R, by rw [hR, List.append_assoc]⟩

theorem World.isPrefix_left {w : World} {P0 A B δ : List Op} (h : w.IsPrefix (P0 ++ B)) (e : B = A ++ δ) :
    w.IsPrefix (P0 ++ A) := by
  rw [e, ← List.append_assoc] at h
  exact World.isPrefix_of_append h

/-- the finished packet: `len` well-formed bytes -/
theorem World.bytes_ok (w : World) : w.bytes.length = w.len ∧ BytesOk w.bytes :=
  ⟨(encodeAll_facts w.buf w.size w.all w.hs w.hb w.hl w.hn w.herr).2.2.2.2.2,
   (encodeAll_facts w.buf w.size w.all w.hs w.hb w.hl w.hn w.herr).1⟩

/-- C08's relation between the encoder after `P` and the decoder run over `P` on the finished packet -/
theorem World.decAll (w : World) (P : List Op) (h : w.IsPrefix P) :
    DecAll w.bytes w.len (w.encAt P) (w.decAt P) w.bytes := by
  obtain ⟨Q, hQ⟩ := h
  have hl := w.hl; have hn := w.hn; have herr := w.herr
  rw [hQ] at hl hn herr
  have h6 := (decode_encode_prefix w.buf w.size P Q w.hs w.hb hl hn herr).2
  unfold World.decAt World.encAt World.d0 World.bytes World.len
  rw [hQ]; exact h6

/-- Lock-step of `ec_tell`, `ec_tell_frac` and `storage` at a prefix, and the encoder's `rng` is normalised there. -/
theorem World.sync (w : World) (P : List Op) (h : w.IsPrefix P) :
    tell (w.decAt P) = tell (w.encAt P) ∧ tellFrac (w.decAt P) = tellFrac (w.encAt P) ∧
    (w.decAt P).storage = w.len ∧ RngOk (w.encAt P) := by
  have h6 := w.decAll P h
  obtain ⟨Q, hQ⟩ := h
  have hl := w.hl; have hn := w.hn; have herr := w.herr
  rw [hQ] at hl hn herr
  obtain ⟨-, -, ri⟩ := encodeAll_prefix_ok w.buf w.size P Q w.hs w.hb hl hn herr
  obtain ⟨t1, t2⟩ := tell_eq_of_rn h6.rc.rng_eq h6.rc.nbits_eq
  exact ⟨t1, t2, h6.rc.storage_eq, ri.inv.rng_lo, ri.inv.rng_hi⟩

/-- C08's `lockstep_rng` -/
theorem World.sync_rng (w : World) (P : List Op) (h : w.IsPrefix P) : (w.decAt P).rng = (w.encAt P).rng :=
  (w.decAll P h).rc.rng_eq

section
open Opus.SilkSymsEncProofs (Reads after after_eq reads_iff reads_append after_append)

theorem World.decAt_after (w : World) (P : List Op) : w.decAt P = after w.d0 P := (after_eq P _).symm

/-- the decoder run on the finished packet reads any stretch `δ` of it back, and is then at the point behind it -/
theorem World.reads (w : World) (P δ : List Op) (h : w.IsPrefix (P ++ δ)) :
    Reads (w.decAt P) δ ∧ after (w.decAt P) δ = w.decAt (P ++ δ) := by
  obtain ⟨Q, hQ⟩ := h
  have hl := w.hl; have hn := w.hn; have herr := w.herr
  rw [hQ] at hl hn herr
  have hm := (decode_encode_prefix w.buf w.size (P ++ δ) Q w.hs w.hb hl hn herr).1
  rw [← hQ] at hm
  have hr := (reads_iff (P ++ δ) w.d0).mpr hm
  rw [reads_append, ← w.decAt_after] at hr
  exact ⟨hr.2, by rw [w.decAt_after, w.decAt_after, after_append]⟩

/-- every call of a stretch of the packet is legal -/
theorem World.legal_mem (w : World) (P A : List Op) (h : w.IsPrefix (P ++ A)) : ∀ op ∈ A, op.Legal := by
  intro op hop
  obtain ⟨A1, A2, rfl⟩ := List.append_of_mem hop
  obtain ⟨R, hR⟩ := h
  have hl := w.hl
  rw [hR, show P ++ (A1 ++ op :: A2) ++ R = (P ++ A1) ++ op :: (A2 ++ R) by simp] at hl
  exact legalAt_legal (legalRun_append (P ++ A1) _ _ hl).2.1

theorem World.next (w : World) (P : List Op) (op : Op) (h : w.IsPrefix (P ++ [op])) :
    op.Matches (decOp (w.decAt P) op).1 ∧ w.decAt (P ++ [op]) = (decOp (w.decAt P) op).2 :=
  ⟨(w.reads P [op] h).1.1, (w.reads P [op] h).2.symm⟩

end

theorem World.nbits_bounds (w : World) (P : List Op) (h : w.IsPrefix P) :
    33 ≤ (w.encAt P).nbitsTotal ∧ (w.encAt P).nbitsTotal < 536870912 := by
  obtain ⟨Q, hQ⟩ := h
  have h1 := encRun_nbits_mono P (encInit w.buf w.size)
  have h2 := encRun_nbits_mono Q (w.encAt P)
  have h3 : (encodeAll w.buf w.size w.all).nbitsTotal = (encRun (encInit w.buf w.size) w.all).nbitsTotal := encDone_nbitsTotal _
  have h4 := w.hn29
  rw [h3, hQ, encRun_append] at h4
  have h5 : (encInit w.buf w.size).nbitsTotal = 33 := rfl
  unfold World.encAt at *
  omega

theorem World.tell_mono (w : World) (Q P : List Op) (h : w.IsPrefix (P ++ Q)) :
    tell (w.encAt P) ≤ tell (w.encAt (P ++ Q)) ∧ tellFrac (w.encAt P) ≤ tellFrac (w.encAt (P ++ Q)) := by
  have hP := World.isPrefix_of_append h
  obtain ⟨_, _, _, hr⟩ := w.sync P hP
  obtain ⟨n1, _⟩ := w.nbits_bounds P hP
  obtain ⟨_, n2⟩ := w.nbits_bounds _ h
  obtain ⟨R, hR⟩ := h
  have hl := w.hl
  rw [hR, List.append_assoc] at hl
  have hlQ := (legalRun_append Q R _ (legalRun_append P (Q ++ R) _ hl).2).1
  have e : w.encAt (P ++ Q) = encRun (w.encAt P) Q := by unfold World.encAt; rw [encRun_append]
  rw [e] at n2 ⊢
  exact ⟨(tell_run_mono Q _ hr hlQ).1, tellFrac_run_mono Q _ hr hlQ n1 n2⟩

end OpusProofs.CeltHdr

/-! One symbol: the encoder model emits an operation, the decoder model makes the mirrored call and gets the value back
  (from `World.reads`), and both stay in lock-step; `Here.run` is the same for a stretch of calls. -/

namespace OpusProofs.CeltHdr
open Opus Opus.RangeCoder Opus.CeltSymsEnc

/-- The encoder model state `s` and the decoder context `d` are at the same point of the packet: `P0` is what was
    written before the CELT header (nothing, or the SILK part of a hybrid frame). -/
structure Here (w : World) (P0 : List Op) (s : St) (d : Dec) : Prop where
  enc : s.e = w.encAt (P0 ++ s.ops)
  dec : d = w.decAt (P0 ++ s.ops)

theorem Here.start {w : World} {P0 : List Op} {s0 : St} (hs0 : s0.ops = []) (he0 : s0.e = w.encAt P0) :
    Here w P0 s0 (w.decAt P0) :=
  ⟨by rw [hs0, List.append_nil]; exact he0, by rw [hs0, List.append_nil]⟩

theorem Here.pop {w : World} {P0 : List Op} {s : St} {d : Dec} (h : Here w P0 s d) : Here w P0 s.pop.2 d :=
  ⟨h.enc, h.dec⟩

theorem Here.tells {w : World} {P0 : List Op} {s : St} {d : Dec} (h : Here w P0 s d) (hp : w.IsPrefix (P0 ++ s.ops)) :
    tell d = tell s.e ∧ tellFrac d = tellFrac s.e ∧ d.storage = w.len ∧ RngOk s.e := by
  rw [h.enc, h.dec]; exact w.sync _ hp

theorem Here.rng {w : World} {P0 : List Op} {s : St} {d : Dec} (h : Here w P0 s d) (hp : w.IsPrefix (P0 ++ s.ops)) :
    d.rng = s.e.rng := by
  rw [h.enc, h.dec]; exact w.sync_rng _ hp

theorem emit_ops (s : St) (op : Op) : (s.emit op).ops = s.ops ++ [op] := rfl
theorem pop_ops (s : St) : s.pop.2.ops = s.ops := rfl
theorem pop_e (s : St) : s.pop.2.e = s.e := rfl

open Opus.SilkSymsEncProofs (Reads after_eq) in
/-- a stretch `δ` of calls: the decoder reads it back, and behind it both sides are in lock-step again -/
theorem Here.run {w : World} {P0 : List Op} {s : St} {d : Dec} (h : Here w P0 s d) (δ : List Op)
    (hp : w.IsPrefix (P0 ++ (s.ops ++ δ))) :
    Reads d δ ∧ Here w P0 { e := encRun s.e δ, ops := s.ops ++ δ, ds := s.ds } (decRun d δ).2 := by
  rw [← List.append_assoc] at hp
  obtain ⟨r1, r2⟩ := w.reads (P0 ++ s.ops) δ hp
  rw [← h.dec] at r1 r2
  refine ⟨r1, ?_, ?_⟩
  · show encRun s.e δ = w.encAt (P0 ++ (s.ops ++ δ))
    rw [h.enc, ← List.append_assoc]
    exact (encRun_append (P0 ++ s.ops) δ _).symm
  · show (decRun d δ).2 = w.decAt (P0 ++ (s.ops ++ δ))
    rw [← after_eq, r2, List.append_assoc]

theorem Here.emit {w : World} {P0 : List Op} {s : St} {d : Dec} (h : Here w P0 s d) (op : Op)
    (hp : w.IsPrefix (P0 ++ (s.emit op).ops)) :
    op.Matches (decOp d op).1 ∧ Here w P0 (s.emit op) (decOp d op).2 :=
  ⟨(h.run [op] hp).1.1, (h.run [op] hp).2⟩

theorem Here.emit_bit {w : World} {P0 : List Op} {s : St} {d : Dec} (h : Here w P0 s d) (v logp : Nat) (hv : v ≤ 1)
    (hp : w.IsPrefix (P0 ++ (s.emit (.bitLogp v logp)).ops)) :
    (decBitLogp d logp).1 = v ∧ Here w P0 (s.emit (.bitLogp v logp)) (decBitLogp d logp).2 := by
  obtain ⟨h1, h2⟩ := h.emit (.bitLogp v logp) hp
  refine ⟨?_, h2⟩
  have : (decBitLogp d logp).1 = if v ≠ 0 then 1 else 0 := h1
  rw [this]; split <;> omega

theorem Here.emit_uint {w : World} {P0 : List Op} {s : St} {d : Dec} (h : Here w P0 s d) (v ft : Nat)
    (hp : w.IsPrefix (P0 ++ (s.emit (.uint v ft)).ops)) :
    (decUint d ft).1 = v ∧ Here w P0 (s.emit (.uint v ft)) (decUint d ft).2 :=
  h.emit (.uint v ft) hp

theorem Here.emit_bits {w : World} {P0 : List Op} {s : St} {d : Dec} (h : Here w P0 s d) (v n : Nat)
    (hp : w.IsPrefix (P0 ++ (s.emit (.bits v n)).ops)) :
    (decBits d n).1 = v ∧ Here w P0 (s.emit (.bits v n)) (decBits d n).2 :=
  h.emit (.bits v n) hp

theorem Here.emit_icdf {w : World} {P0 : List Op} {s : St} {d : Dec} (h : Here w P0 s d) (sym : Nat) (tbl : List Nat)
    (ftb : Nat) (hp : w.IsPrefix (P0 ++ (s.emit (.icdf sym tbl ftb)).ops)) :
    (decIcdf d tbl ftb).1 = sym ∧ Here w P0 (s.emit (.icdf sym tbl ftb)) (decIcdf d tbl ftb).2 :=
  h.emit (.icdf sym tbl ftb) hp

/-- a 15-bit binary-split symbol: `ec_decode_bin(15)` returns a point of the symbol's interval, and
    `ec_dec_update(fl, fh, 32768)` continues in lock-step -/
theorem Here.emit_bin {w : World} {P0 : List Op} {s : St} {d : Dec} (h : Here w P0 s d) (fl fh : Nat)
    (hp : w.IsPrefix (P0 ++ (s.emit (.encodeBin fl fh 15)).ops)) :
    fl ≤ (decodeBin d 15).1 ∧ (decodeBin d 15).1 < fh ∧
    Here w P0 (s.emit (.encodeBin fl fh 15)) (decUpdate (decodeBin d 15).2 fl fh 32768) := by
  obtain ⟨h1, h2⟩ := h.emit (.encodeBin fl fh 15) hp
  exact ⟨h1.1, h1.2, h2⟩

end OpusProofs.CeltHdr
