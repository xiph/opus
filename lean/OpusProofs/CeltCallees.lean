import OpusModel.CeltCallees
/-
  OpusProofs.CeltCallees — the index models of celt_fir_c, celt_iir, _celt_autocorr, _celt_lpc and pitch_downsample stay
  inside the extent contracts the CELT index bridge uses for them (`Opus.CeltIdx.Call.accs`) and inside their local
  arrays, for ALL argument values under the hypotheses stated at each theorem.  Of these `len ≥ 3` of
  `xcorr_kernel_c` (pitch.h:69) and `overlap ≥ 0` of `_celt_autocorr` (celt_lpc.c:296) are `celt_assert`s of the code; `ord ≤ N` (celt_iir), `overlap ≤ n` and `n − lag ≥ 3`
  (_celt_autocorr) are what the index expressions need and what the callers pass, the C code does not assert them.
  Conversely `celt_iir`'s `celt_assert((ord&3)==0)` (celt_lpc.c:218) and `_celt_autocorr`'s `n>0` (:295) are not
  hypotheses: no index depends on them.
-/
namespace Opus.CeltCallees

/-- Every hit of the list satisfies `P` (a structure, so that `apply` does not unfold it). -/
structure All (P : Hit → Prop) (l : List Hit) : Prop where
  all : ∀ h ∈ l, P h

theorem all_nil {P : Hit → Prop} : All P [] := ⟨fun _ h => absurd h List.not_mem_nil⟩
theorem all_cons {P : Hit → Prop} {a : Hit} {l : List Hit} (ha : P a) (hl : All P l) : All P (a :: l) :=
  ⟨List.forall_mem_cons.mpr ⟨ha, hl.all⟩⟩
theorem all_append {P : Hit → Prop} {a b : List Hit} (ha : All P a) (hb : All P b) : All P (a ++ b) :=
  ⟨List.forall_mem_append.mpr ⟨ha.all, hb.all⟩⟩
theorem all_loop {P : Hit → Prop} {lo hi : Int} {body : Int → List Hit}
    (h : ∀ i, lo ≤ i → i < hi → All P (body i)) : All P (loop lo hi body) := by
  refine ⟨fun x hx => ?_⟩
  obtain ⟨t, ht, hxt⟩ := List.mem_flatMap.mp hx
  have := List.mem_range.mp ht
  exact (h (lo + t) (by omega) (by omega)).all x hxt
theorem all_imp {P Q : Hit → Prop} {l : List Hit} (h : All P l) (hpq : ∀ x, P x → Q x) : All Q l :=
  ⟨fun x hx => hpq x (h.all x hx)⟩
theorem all_map {P Q : Hit → Prop} {l : List Hit} {f : Hit → Hit} (h : All P l) (hpq : ∀ x, P x → Q (f x)) :
    All Q (l.map f) := by
  refine ⟨fun x hx => ?_⟩
  obtain ⟨y, hy, rfl⟩ := List.mem_map.mp hx
  exact hpq y (h.all y hy)

/-- Inside per-array bounds `B arr = (lo, hi)` (inclusive; `lo > hi`: the array must not be touched). -/
def InB (B : CArr → Int × Int) (h : Hit) : Prop := (B h.arr).1 ≤ h.idx ∧ h.idx ≤ (B h.arr).2

/-- The bounds of array `a` contain the range `lo .. hi` (which may be empty). -/
def Covers (B : CArr → Int × Int) (a : CArr) (lo hi : Int) : Prop := (B a).1 ≤ lo ∧ hi ≤ (B a).2

/-- Structural steps: split lists, enter loops. -/
macro "hits_step" : tactic =>
  `(tactic| first
    | with_reducible apply all_nil
    | with_reducible apply all_append
    | with_reducible apply all_cons
    | (with_reducible apply all_loop; intro _ _ _))

/-! ## xcorr_kernel_c, celt_inner_prod_c -/

/-- `xcorr_kernel_c(x, y, sum, len)` reads `x[0 .. len)` and `y[0 .. len+3)` (`len ≥ 3` is its `celt_assert`). -/
theorem xcorrKernel_in (xa : CArr) (xo : Int) (ya : CArr) (yo len : Int) (h3 : 3 ≤ len) :
    All (fun h => (h.arr = xa ∧ xo ≤ h.idx ∧ h.idx ≤ xo + len - 1) ∨ (h.arr = ya ∧ yo ≤ h.idx ∧ h.idx ≤ yo + len + 2))
      (xcorrKernel xa xo ya yo len) := by
  unfold xcorrKernel
  repeat' hits_step
  -- a hit on `xa` satisfies the left alternative, a hit on `ya` the right one (both if the arrays coincide)
  all_goals (simp only [eq_self, true_and]; omega)

/-- `celt_inner_prod_c(x, y, N)` reads `x[0 .. N)` and `y[0 .. N)`. -/
theorem innerProd_in (xa : CArr) (xo : Int) (ya : CArr) (yo n : Int) :
    All (fun h => (h.arr = xa ∧ xo ≤ h.idx ∧ h.idx ≤ xo + n - 1) ∨ (h.arr = ya ∧ yo ≤ h.idx ∧ h.idx ≤ yo + n - 1))
      (innerProd xa xo ya yo n) := by
  unfold innerProd
  repeat' hits_step
  -- a hit on `xa` satisfies the left alternative, a hit on `ya` the right one (both if the arrays coincide)
  all_goals (simp only [eq_self, true_and]; omega)

/-- `xcorr_kernel_c` stays inside `B` as soon as the two ranges it reads do. -/
theorem xcorrKernel_inB {B : CArr → Int × Int} {xa : CArr} {xo : Int} {ya : CArr} {yo len : Int} (h3 : 3 ≤ len)
    (hx : Covers B xa xo (xo + len - 1)) (hy : Covers B ya yo (yo + len + 2)) :
    All (InB B) (xcorrKernel xa xo ya yo len) :=
  all_imp (xcorrKernel_in xa xo ya yo len h3) fun
    | ⟨_, _⟩, .inl ⟨rfl, h1, h2⟩ => ⟨Int.le_trans hx.1 h1, Int.le_trans h2 hx.2⟩
    | ⟨_, _⟩, .inr ⟨rfl, h1, h2⟩ => ⟨Int.le_trans hy.1 h1, Int.le_trans h2 hy.2⟩

/-! ## celt_fir_c -/

def firB (N ord : Int) : CArr → Int × Int
  | .x => (-ord, N - 1) | .num => (0, ord - 1) | .y => (0, N - 1) | .rnum => (0, ord - 1) | _ => (1, 0)

/-- `celt_fir_c(x, num, y, N, ord)`: `x[-ord .. N)`, `num[0 .. ord)`, `y[0 .. N)`, local `rnum[ord]`; nothing else
    (`ord ≥ 3` is `xcorr_kernel`'s `celt_assert`; `N ≥ 0` is used by the remainder loop `i = 4·(N/4) .. N`, whose reads
    `x[i + j − ord]` stay at or above `x[−ord]` because `i ≥ 0`). -/
theorem fir_in (N ord : Int) (hN : 0 ≤ N) (h3 : 3 ≤ ord) : All (InB (firB N ord)) (firHits N ord) := by
  unfold firHits
  repeat' first | hits_step | apply xcorrKernel_inB h3
  all_goals (simp only [InB, Covers, firB]; omega)

/-! ## celt_iir -/

def iirB (N ord : Int) : CArr → Int × Int
  | .x => (0, N - 1) | .num => (0, ord - 1) | .y => (0, N - 1) | .mem => (0, ord - 1) | .rnum => (0, ord - 1)
  | .yloc => (0, N + ord - 1) | _ => (1, 0)

/-- `celt_iir(x, den, y, N, ord, mem)`: `x[0 .. N)`, `den[0 .. ord)`, `y[0 .. N)`, `mem[0 .. ord)`, locals `rden[ord]`,
    `y[N+ord]`.  `ord ≥ 3` (`xcorr_kernel`), and `ord ≤ N` for the final `mem[i] = _y[N-i-1]`. -/
theorem iir_in (N ord : Int) (h3 : 3 ≤ ord) (hN : ord ≤ N) : All (InB (iirB N ord)) (iirHits N ord) := by
  unfold iirHits
  repeat' first | hits_step | apply xcorrKernel_inB h3
  all_goals (simp only [InB, Covers, iirB]; omega)

/-! ## _celt_autocorr -/

def acorrB (overlap lag n : Int) : CArr → Int × Int
  | .x => (0, n - 1) | .ac => (0, lag) | .win => (0, overlap - 1) | .xx => (0, n - 1) | _ => (1, 0)

/-- `_celt_autocorr(x, ac, window, overlap, lag, n)`: `x[0 .. n)`, `ac[0 .. lag]`, `window[0 .. overlap)`, local
    `xx[n]`.  `overlap ≤ n` keeps `xx[n-i-1]`, `x[n-i-1]` of the window loop at or above 0; `n − lag ≥ 3` is the `len ≥ 3`
    of the `xcorr_kernel` inside `celt_pitch_xcorr(xptr, xptr, ac, n-lag, lag+1)`; `0 ≤ lag` makes `ac[0 .. lag]` the
    range of both `ac` loops. -/
theorem acorr_in (overlap lag n : Int) (ho : 0 ≤ overlap ∧ overlap ≤ n) (hl : 0 ≤ lag) (h3 : 3 ≤ n - lag) :
    All (InB (acorrB overlap lag n)) (autocorrHits overlap lag n) := by
  unfold autocorrHits pitchXcorr innerProd
  by_cases h0 : overlap = 0 <;> simp only [h0, ↓reduceIte]
  all_goals repeat' first | hits_step | apply xcorrKernel_inB h3
  all_goals (simp only [InB, Covers, acorrB]; omega)

/-! ## _celt_lpc -/

def lpcB (p : Int) : CArr → Int × Int
  | .lpc => (0, p - 1) | .ac => (0, p) | _ => (1, 0)

/-- `_celt_lpc(lpc, ac, p)`: `lpc[0 .. p)`, `ac[0 .. p]` (`p ≥ 0`). -/
theorem lpc_in (p : Int) (hp : 0 ≤ p) : All (InB (lpcB p)) (lpcHits p) := by
  unfold lpcHits
  repeat' hits_step
  all_goals (simp only [InB, lpcB]; omega)

/-! ## pitch_downsample -/

def pdownB (len : Int) (stereo : Bool) : CArr → Int × Int
  | .x => (0, len - 1) | .x1 => if stereo then (0, len - 1) else (1, 0) | .xlp => (0, len / 2 - 1)
  | .lac => (0, 4) | .llpc => (0, 3) | .lpc2 => (0, 4)
  | .xx => (0, len / 2 - 1)        -- the nested _celt_autocorr's local `xx[len>>1]` (allocated, unused with overlap = 0)
  | _ => (1, 0)

/-- `pitch_downsample(x, x_lp, len, C)`: `x[c][0 .. len)`, `x_lp[0 .. len/2)`, locals `ac[5]`, `lpc[4]`, `lpc2[5]`; the
    second channel only for `C = 2`.  Precondition: `len ≥ 14` (the nested `_celt_autocorr(x_lp, ac, NULL, 0, 4, len>>1)`
    needs `len/2 − 4 ≥ 3`; the decoder passes 2048). -/
theorem pdown_in (len : Int) (stereo : Bool) (hlen : 14 ≤ len) : All (InB (pdownB len stereo)) (pdownHits len stereo) := by
  unfold pdownHits fir5Hits
  have hac := acorr_in 0 4 (len / 2) ⟨Int.le_refl 0, by omega⟩ (by omega) (by omega)
  have hlp := lpc_in 4 (by omega)
  have hmapA : All (InB (pdownB len stereo)) ((autocorrHits 0 4 (len / 2)).map fun h =>
      match h.arr with | .x => ⟨.xlp, h.idx⟩ | .ac => ⟨.lac, h.idx⟩ | a => ⟨a, h.idx⟩) := by
    refine all_map hac ?_
    rintro ⟨a, i⟩ ⟨h1, h2⟩
    cases a <;> simp only [acorrB, pdownB, InB] at h1 h2 ⊢ <;> omega
  have hmapL : All (InB (pdownB len stereo)) ((lpcHits 4).map fun h =>
      match h.arr with | .lpc => ⟨.llpc, h.idx⟩ | .ac => ⟨.lac, h.idx⟩ | a => ⟨a, h.idx⟩) := by
    refine all_map hlp ?_
    rintro ⟨a, i⟩ ⟨h1, h2⟩
    cases a <;> simp only [lpcB, pdownB, InB] at h1 h2 ⊢ <;> omega
  cases stereo <;> simp only [Bool.false_eq_true, if_false, if_true]
  all_goals repeat' first | hits_step | exact hmapA | exact hmapL
  all_goals (simp only [InB, pdownB, Bool.false_eq_true, if_false, if_true]; omega)

end Opus.CeltCallees
