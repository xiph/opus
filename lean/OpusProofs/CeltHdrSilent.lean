import OpusProofs.CeltHdrMain
/-
  OpusProofs.CeltHdrSilent — the silent frame.  The encoder writes the silence flag `1` (and, in VBR, shrinks the
  packet), then sets `nbits_total` so that `ec_tell` equals the whole budget; the decoder does the same after reading
  the flag.  From then on every budget test of the header fails on both sides: nothing more is written or read and
  all header fields take their defaults.
-/
namespace OpusProofs.CeltHdr
open Opus Opus.RangeCoder Opus.CeltSymsEnc

/-- the coder pretends that the packet is full: `ec_tell == total_bits == storage*8` -/
structure Full (c : Ctx) (tot : Int) : Prop where
  tell_eq : tell c = tot
  frac : tot * 8 - 7 ≤ (tellFrac c : Int)
  stor : ((c.storage * 8 : Nat) : Int) = tot

/-- `hhi`: `10200 = 1275*8`, the largest frame; it keeps the bumped `nbits_total` in the range `tellFrac_bounds` asks for -/
theorem full_of_bump (c : Ctx) (tv : Int) (hr : RngOk c) (h9 : 9 ≤ tv) (hhi : tv ≤ 10200)
    (hst : ((c.storage * 8 : Nat) : Int) = tv) :
    Full { c with nbitsTotal := ((c.nbitsTotal : Int) + (tv - tell c)).toNat } tv := by
  have il := ilog_range hr.1 hr.2
  have hn : ((c.nbitsTotal : Int) + (tv - tell c)).toNat = ilog c.rng + tv.toNat := by unfold tell; omega
  rw [hn]
  have ht : tell { c with nbitsTotal := ilog c.rng + tv.toNat } = tv := by
    unfold tell; simp only; omega
  have hb := tellFrac_bounds { c with nbitsTotal := ilog c.rng + tv.toNat } hr (by simp only; omega) (by simp only; omega)
  rw [ht] at hb
  exact ⟨ht, by omega, hst⟩

/-- coarse energy of a silent frame: `-1` everywhere (`budget - tell < 1`) -/
def silentCoarse (C : Nat) : Nat → List Int
  | 0 => []
  | k + 1 => List.replicate C (-1) ++ silentCoarse C k

theorem sil_pf (cfg : EncCfg) (tot : Int) (s : St) : encPostFilter cfg tot tot s = ({}, s) := by
  unfold encPostFilter
  have hc : ¬ (cfg.start = 0 ∧ tot + 16 ≤ tot) := by intro h; have := h.2; omega
  simp only [hc, if_false]

theorem sil_transient (cfg : EncCfg) (tot : Int) (s : St) (h : tell s.e = tot) : encTransient cfg tot s = (0, s) := by
  unfold encTransient
  have hc : ¬ (cfg.LM > 0 ∧ tell s.e + 3 ≤ tot) := by intro h; have := h.2; omega
  simp only [hc, if_false]

theorem sil_intra (tot : Int) (s : St) (h : tell s.e = tot) : encIntra tot s = (0, s) := by
  unfold encIntra
  have hc : ¬ (tell s.e + 3 ≤ tot) := by omega
  simp only [hc, if_false]

theorem sil_coarseOne (cfg : EncCfg) (prob : List Nat) (tot : Int) (i : Nat) (s : St) (h : tell s.e = tot) :
    encCoarseOne cfg prob tot i s = .ok (-1, -1, s) := by
  have hc : ¬ (tot - tell s.e ≥ 1) := by omega
  simp only [encCoarseOne, hc, if_false]

theorem sil_coarseChans (cfg : EncCfg) (prob : List Nat) (tot : Int) (i : Nat) (s : St) (h : tell s.e = tot) :
    ∀ n, encCoarseChans cfg prob tot i n s = .ok (List.replicate n (-1), List.replicate n (-1), s) := by
  intro n
  induction n with
  | zero => rfl
  | succ n ih => simp only [encCoarseChans, sil_coarseOne cfg prob tot i s h, ih, List.replicate_succ]

theorem sil_coarseBands (cfg : EncCfg) (prob : List Nat) (tot : Int) (s : St) (h : tell s.e = tot) :
    ∀ k i, encCoarseBands cfg prob tot k i s = .ok (silentCoarse cfg.C k, silentCoarse cfg.C k, s) := by
  intro k
  induction k with
  | zero => intro i; rfl
  | succ k ih => intro i; simp only [encCoarseBands, sil_coarseChans cfg prob tot i s h, ih, silentCoarse]

theorem sil_coarse (cfg : EncCfg) (tot : Int) (s : St) (h : tell s.e = tot) :
    encCoarse cfg tot s = .ok (0, silentCoarse cfg.C (cfg.end_ - cfg.start), silentCoarse cfg.C (cfg.end_ - cfg.start), s) := by
  unfold encCoarse
  rw [sil_intra tot s h]
  simp only [sil_coarseBands cfg _ tot s h]

theorem sil_tfLoop (isT : Bool) (budget : Int) (s : St) (h : budget ≤ tell s.e) :
    ∀ k logp curr changed, 1 ≤ logp → encTfLoop isT budget k logp curr changed s = (List.replicate k curr, changed, s) := by
  intro k
  induction k with
  | zero => intro _ _ _ _; rfl
  | succ k ih =>
    intro logp curr changed hl
    have hc : ¬ (tell s.e + (logp : Int) ≤ budget) := by omega
    have := ih (if isT = true then 4 else 5) curr changed (by split <;> omega)
    simp only [encTfLoop, hc, if_false, this, List.replicate_succ]

/-- no bit is reserved for `tf_select` in a full packet; the encoder's `encTfRsv cfg isT s` is the same term at `s.e` -/
theorem tfRsv_full (cfg : EncCfg) (c : Ctx) (tot : Int) (h : Full c tot) : Opus.CeltSyms.tfRsv (cfgD cfg) 0 c = 0 := by
  unfold Opus.CeltSyms.tfRsv
  have hc : ¬ (cfg.LM > 0 ∧ tell c + ((if (0 : Nat) ≠ 0 then 2 else 4 : Nat) : Int) + 1 ≤ ((c.storage * 8 : Nat) : Int)) := by
    intro hh; have := hh.2; rw [h.stor, h.tell_eq] at this
    have : (0 : Int) ≤ ((if (0 : Nat) ≠ 0 then 2 else 4 : Nat) : Int) := Int.natCast_nonneg _
    omega
  simp only [hc, if_false]

theorem sil_tf (cfg : EncCfg) (s : St) (tot : Int) (h : Full s.e tot) :
    encTf cfg 0 s = ((List.replicate (cfg.end_ - cfg.start) 0).map (fun r => tfTable cfg.LM (4 * 0 + r)), 0,
      List.replicate (cfg.end_ - cfg.start) 0, s) := by
  have hr : encTfRsv cfg 0 s = 0 := tfRsv_full cfg s.e tot h
  unfold encTf
  rw [hr, sil_tfLoop _ _ s (by rw [h.stor, h.tell_eq]; simp) _ _ _ _ (by decide)]
  unfold encTfFinish
  simp

theorem sil_spread (tot : Int) (s : St) (h : tell s.e = tot) : encSpread tot s = (2, s) := by
  unfold encSpread
  have hc : ¬ (tell s.e + 4 ≤ tot) := by omega
  simp only [hc, if_false]

theorem sil_boost (cap quanta logp tb : Nat) (totF : Int) (s : St) (hl : 1 ≤ logp) (h : totF - 7 ≤ (tellFrac s.e : Int)) :
    encBoostLoop cap quanta logp 0 tb totF s = (0, tb, s) := by
  rw [encBoostLoop]
  have hc : ¬ ((tellFrac s.e : Int) + logp * 8 < totF - tb ∧ 0 < cap ∧ 0 < quanta) := by
    intro hh; have := hh.1; omega
  rw [dif_neg hc]

theorem sil_dynalloc (cfg : EncCfg) (totF : Int) (s : St) (h : totF - 7 ≤ (tellFrac s.e : Int)) :
    ∀ k i dlogp tb, 1 ≤ dlogp → encDynalloc cfg totF k i dlogp tb s = (List.replicate k 0, tb, s) := by
  intro k
  induction k with
  | zero => intro _ _ _ _; rfl
  | succ k ih =>
    intro i dlogp tb hl
    simp only [encDynalloc, sil_boost _ _ dlogp tb totF s hl h, Nat.lt_irrefl, gt_iff_lt, if_false, ih (i + 1) dlogp tb hl,
      List.replicate_succ]

theorem sil_trim (totF : Int) (s : St) (h : totF - 7 ≤ (tellFrac s.e : Int)) : encTrim totF 0 s = (5, s) := by
  unfold encTrim
  have hc : ¬ ((tellFrac s.e : Int) + 48 ≤ totF - ((0 : Nat) : Int)) := by omega
  simp only [hc, if_false]

theorem dsil_pf (start : Nat) (tot : Int) (c : Dec) : Opus.CeltSyms.readPostFilter start tot tot c = ({}, tot, c, []) := by
  unfold Opus.CeltSyms.readPostFilter
  have hc : ¬ (start = 0 ∧ tot + 16 ≤ tot) := by intro h; have := h.2; omega
  simp only [hc, if_false]

theorem dsil_transient (LM : Nat) (tot : Int) (c : Dec) : Opus.CeltSyms.readTransient LM tot tot c = (0, tot, c, []) := by
  unfold Opus.CeltSyms.readTransient
  have hc : ¬ (LM > 0 ∧ tot + 3 ≤ tot) := by intro h; have := h.2; omega
  simp only [hc, if_false]

theorem dsil_intra (tot : Int) (c : Dec) : Opus.CeltSyms.readIntra tot tot c = (0, c, []) := by
  unfold Opus.CeltSyms.readIntra
  have hc : ¬ (tot + 3 ≤ tot) := by omega
  simp only [hc, if_false]

theorem dsil_coarseOne (prob : List Nat) (i : Nat) (c : Dec) (tot : Int) (h : Full c tot) :
    Opus.CeltSyms.coarseOne prob i c = .ok (-1, c, []) := by
  unfold Opus.CeltSyms.coarseOne
  rw [h.stor, h.tell_eq]
  have h15 : ¬ (tot - tot ≥ 15) := by omega
  have h2 : ¬ (tot - tot ≥ 2) := by omega
  have h1 : ¬ (tot - tot ≥ 1) := by omega
  simp only [h15, h2, h1, if_false]

theorem dsil_coarseChans (prob : List Nat) (i : Nat) (c : Dec) (tot : Int) (h : Full c tot) :
    ∀ n, Opus.CeltSyms.coarseChans prob i n c = .ok (List.replicate n (-1), c, []) := by
  intro n
  induction n with
  | zero => rfl
  | succ n ih => simp only [Opus.CeltSyms.coarseChans, dsil_coarseOne prob i c tot h, ih, List.replicate_succ, List.append_nil]

theorem dsil_coarseBands (prob : List Nat) (C : Nat) (c : Dec) (tot : Int) (h : Full c tot) :
    ∀ k i, Opus.CeltSyms.coarseBands prob C k i c = .ok (silentCoarse C k, c, []) := by
  intro k
  induction k with
  | zero => intro i; rfl
  | succ k ih =>
    intro i
    simp only [Opus.CeltSyms.coarseBands, dsil_coarseChans prob i c tot h, ih, silentCoarse, List.append_nil]

theorem dsil_tfLoop (isT : Bool) (budget : Int) (c : Dec) (tv : Int) (h : budget ≤ tv) :
    ∀ k logp curr changed, 1 ≤ logp →
      Opus.CeltSyms.tfLoop isT budget k logp curr changed tv c = (List.replicate k curr, changed, c, []) := by
  intro k
  induction k with
  | zero => intro _ _ _ _; rfl
  | succ k ih =>
    intro logp curr changed hl
    have hc : ¬ (tv + (logp : Int) ≤ budget) := by omega
    have := ih (if isT = true then 4 else 5) curr changed (by split <;> omega)
    simp only [Opus.CeltSyms.tfLoop, hc, if_false, this, List.replicate_succ]

theorem dsil_tf (cfg : EncCfg) (c : Dec) (tot : Int) (h : Full c tot) :
    Opus.CeltSyms.tfDecode (cfgD cfg) 0 c =
      ((List.replicate (cfg.end_ - cfg.start) 0).map (fun r => tfTable cfg.LM (4 * 0 + r)), 0, c, []) := by
  unfold Opus.CeltSyms.tfDecode
  rw [tfRsv_full cfg c tot h, dsil_tfLoop _ _ c (tell c) (by rw [h.stor, h.tell_eq]; simp) _ _ _ _ (by decide)]
  unfold Opus.CeltSyms.tfFinish
  simp
  exact Or.inr rfl

theorem dsil_spread (tot : Int) (c : Dec) (h : tell c = tot) : Opus.CeltSyms.readSpread tot c = (2, c, []) := by
  unfold Opus.CeltSyms.readSpread
  have hc : ¬ (tell c + 4 ≤ tot) := by omega
  simp only [hc, if_false]

theorem dsil_boost (cap quanta logp : Nat) (totF : Int) (c : Dec) (hl : 1 ≤ logp) (h : totF - 7 ≤ (tellFrac c : Int)) :
    Opus.CeltSyms.boostLoop cap quanta logp 0 totF c = (0, totF, c, []) := by
  rw [Opus.CeltSyms.boostLoop]
  have hc : ¬ ((tellFrac c : Int) + logp * 8 < totF ∧ 0 < cap ∧ 0 < quanta) := by
    intro hh; have := hh.1; omega
  rw [dif_neg hc]

theorem dsil_dynalloc (cfg : EncCfg) (totF : Int) (c : Dec) (h : totF - 7 ≤ (tellFrac c : Int)) :
    ∀ k i dlogp, 1 ≤ dlogp →
      Opus.CeltSyms.dynalloc (cfgD cfg) k i dlogp totF c = (List.replicate k 0, totF, c, []) := by
  intro k
  induction k with
  | zero => intro _ _ _; rfl
  | succ k ih =>
    intro i dlogp hl
    simp only [Opus.CeltSyms.dynalloc, dsil_boost _ _ dlogp totF c hl h, Nat.lt_irrefl, gt_iff_lt, if_false, ih (i + 1) dlogp hl,
      List.replicate_succ, List.append_nil]

theorem dsil_trim (totF : Int) (c : Dec) (h : totF - 7 ≤ (tellFrac c : Int)) : Opus.CeltSyms.readTrim totF c = (5, c, []) := by
  unfold Opus.CeltSyms.readTrim
  have hc : ¬ ((tellFrac c : Int) + 48 ≤ totF) := by omega
  simp only [hc, if_false]

theorem sil_tail_facts (cfg : EncCfg) (sil size1 : Nat) (pf : PfOut) (opsPf : List Op) (intra : Nat)
    (qs qds : List Int) (s4 : St) (hdr : EncHdr) (h : Full s4.e ((size1 * 8 : Nat) : Int))
    (hrun : encTail cfg sil size1 pf opsPf 0 intra qs qds s4 = .ok hdr) :
    hdr.tfRes = (List.replicate (cfg.end_ - cfg.start) 0).map (fun r => tfTable cfg.LM (4 * 0 + r)) ∧ hdr.tfSelect = 0 ∧
    hdr.spread = 2 ∧ hdr.offsets = List.replicate (cfg.end_ - cfg.start) 0 ∧ hdr.trim = 5 ∧ hdr.totalBoost = 0 ∧
    hdr.opsHdr = (encVbrShrink cfg size1 s4).2.ops := by
  obtain ⟨T, SP, DY, TR, VB, o, hT, hSP, hDY, hTR, hVB, _, rfl⟩ := encTail_ok hrun
  rw [sil_tf cfg s4 _ h] at hT; subst hT
  rw [sil_spread _ s4 h.tell_eq] at hSP; subst hSP
  rw [sil_dynalloc cfg _ s4 h.frac _ _ 6 0 (by decide)] at hDY; subst hDY
  rw [sil_trim _ s4 h.frac] at hTR; subst hTR
  subst hVB
  exact ⟨rfl, rfl, rfl, rfl, rfl, rfl, rfl⟩

theorem encSilence_one (cfg : EncCfg) (s : St) (h : (encSilence cfg s).1 ≠ 0) :
    tell s.e = 1 ∧
    let r := silenceShrink cfg (tell s.e) (s.pop.2.emit (.bitLogp 1 15))
    encSilence cfg s = (1, r.1, ((r.1 * 8 : Nat) : Int), bumpTell ((r.1 * 8 : Nat) : Int) r.2) := by
  unfold encSilence at h ⊢
  by_cases h1 : tell s.e = 1
  · rw [if_pos h1] at h ⊢
    by_cases hv : s.pop.1 ≠ 0
    · rw [if_pos hv]; exact ⟨h1, rfl⟩
    · rw [if_neg hv] at h; exact absurd rfl h
  · rw [if_neg h1] at h; exact absurd rfl h

theorem silenceShrink_ops (cfg : EncCfg) (t : Int) (s : St) :
    ∃ tl, (silenceShrink cfg t s).2.ops = s.ops ++ tl ∧ ∀ op ∈ tl, ∃ n, op = Op.shrink n := by
  unfold silenceShrink
  by_cases hv : cfg.vbr = true
  · simp only [hv, if_true]
    exact ⟨[_], rfl, fun op hop => ⟨_, List.mem_singleton.mp hop⟩⟩
  · simp only [hv]
    exact ⟨[], by simp, by simp⟩

/-- what `silenceShrink` does to a state that has just received the silence flag (`tell0 = 1`) -/
theorem silenceShrink_facts {w : World} {P0 : List Op} (cfg : EncCfg) (s : St) (d : Dec) (h : Here w P0 s d)
    (hst : s.e.storage = cfg.size) (h2 : 2 ≤ cfg.size)
    (hp : w.IsPrefix (P0 ++ (silenceShrink cfg 1 s).2.ops)) :
    let r := silenceShrink cfg 1 s
    Here w P0 r.2 d ∧ r.2.e.storage = r.1 ∧ 2 ≤ r.1 ∧ r.1 ≤ cfg.size := by
  unfold silenceShrink at hp ⊢
  by_cases hv : cfg.vbr = true
  · simp only [hv, if_true] at hp ⊢
    have hm : min cfg.size ((((1 : Int) + 4) / 8).toNat + 2) = 2 := by
      have : (((1 : Int) + 4) / 8).toNat = 0 := by decide
      rw [this]; omega
    rw [hm] at hp ⊢
    exact ⟨(h.emit _ hp).2, rfl, by omega, h2⟩
  · simp only [hv] at hp ⊢
    exact ⟨h, hst, h2, Nat.le_refl _⟩

/-- What holds between the encoder's and the decoder's header of a silent frame. -/
structure SilentAgree (cfg : EncCfg) (hdr : EncHdr) (dh : Opus.CeltSyms.CeltHdr) : Prop where
  silenceE : hdr.silence = 1
  silenceD : dh.silence = 1
  pfE : hdr.pf = {}
  pfD : dh.pf = {}
  transientE : hdr.isTransient = 0
  transientD : dh.isTransient = 0
  intraE : hdr.intra = 0
  intraD : dh.intra = 0
  coarseE : hdr.coarse = silentCoarse cfg.C (cfg.end_ - cfg.start)
  coarseDecE : hdr.coarseDec = silentCoarse cfg.C (cfg.end_ - cfg.start)
  coarseD : dh.coarse = silentCoarse cfg.C (cfg.end_ - cfg.start)
  tfResE : hdr.tfRes = (List.replicate (cfg.end_ - cfg.start) 0).map (fun r => tfTable cfg.LM (4 * 0 + r))
  tfResD : dh.tfRes = hdr.tfRes
  tfSelectE : hdr.tfSelect = 0
  tfSelectD : dh.tfSelect = 0
  spreadE : hdr.spread = 2
  spreadD : dh.spread = 2
  offsetsE : hdr.offsets = List.replicate (cfg.end_ - cfg.start) 0
  offsetsD : dh.offsets = hdr.offsets
  trimE : hdr.trim = 5
  trimD : dh.trim = 5
  /-- the only symbol of the header is the silence flag; the other calls are `ec_enc_shrink` -/
  written : ∃ tl, hdr.opsHdr = Op.bitLogp 1 15 :: tl ∧ ∀ op ∈ tl, ∃ n, op = Op.shrink n

/-- **The silent frame.** -/
theorem silent_roundtrip (w : World) (P0 : List Op) (cfg : EncCfg) (s0 : St) (hs0 : s0.ops = [])
    (he0 : s0.e = w.encAt P0) (hst0 : s0.e.storage = cfg.size)
    (hdr : EncHdr) (hrun : encHeader cfg s0 = .ok hdr) (hsil : hdr.silence ≠ 0)
    (hp : w.IsPrefix (P0 ++ hdr.ops)) (hsz2 : 2 ≤ cfg.size) (hsz : cfg.size ≤ 1275) (hlen2 : 2 ≤ w.len) (hlen : w.len ≤ 1275) :
    ∃ dh, Opus.CeltSyms.celtHeader (cfgD cfg) w.len (w.decAt P0) = .ok dh ∧ SilentAgree cfg hdr dh := by
  obtain ⟨_, _, _, intra, qs, qds, s4, rfl, rfl, rfl, hC, hrun⟩ := encHeader_ok hrun
  have hH0 : Here w P0 s0 (w.decAt P0) := Here.start hs0 he0
  have hs1 : (encSilence cfg s0).1 ≠ 0 := by rw [← (encTail_facts _ _ _ _ _ _ _ _ _ _ _ hrun).1]; exact hsil
  obtain ⟨ht1, hS⟩ := encSilence_one cfg s0 hs1
  rw [ht1] at hS
  generalize hs01 : s0.pop.2.emit (.bitLogp 1 15) = s01 at hS
  generalize hSS : silenceShrink cfg 1 s01 = SS at hS
  rw [hS] at hC hrun
  simp only [] at hC hrun
  generalize htot : ((SS.1 * 8 : Nat) : Int) = tot at hC hrun
  rw [sil_pf] at hC hrun
  simp only [] at hC hrun
  obtain ⟨k1, k2, k3, k4, k5, k6, k7, ⟨δ2, k9⟩, k10⟩ := encTail_facts _ _ _ _ _ _ _ _ _ _ _ hrun
  obtain ⟨δ1, k8⟩ := encTail_opsHdr _ _ _ _ _ _ _ _ _ _ _ hrun
  have pH : w.IsPrefix (P0 ++ hdr.opsHdr) := World.isPrefix_left hp k9
  have p4 : w.IsPrefix (P0 ++ s4.ops) := World.isPrefix_left pH k8
  -- `s4` is the bumped state, but that needs `Full`, which needs the prefix up to `SS.2`: take it from `encCoarse_ext`
  have hx4 := encCoarse_ext cfg tot _ intra qs qds s4 hC
  have hxT := encTransient_ext cfg tot (bumpTell tot SS.2)
  have pSS : w.IsPrefix (P0 ++ SS.2.ops) := prefix_of_ext (hxT.trans hx4) p4
  obtain ⟨tl, g5, g6⟩ : ∃ tl, SS.2.ops = s01.ops ++ tl ∧ ∀ op ∈ tl, ∃ n, op = Op.shrink n := by
    rw [← hSS]; exact silenceShrink_ops cfg 1 s01
  have p01 : w.IsPrefix (P0 ++ (s0.pop.2.emit (.bitLogp 1 15)).ops) := World.isPrefix_left pSS (hs01 ▸ g5)
  obtain ⟨hd1, h01⟩ := hH0.pop.emit_bit 1 15 (by omega) p01
  rw [hs01] at h01
  have hss := silenceShrink_facts cfg s01 _ h01
    (by rw [← hs01]; show (encOp s0.e (.bitLogp 1 15)).storage = cfg.size
        rw [encOp_storage _ _ (by exact True.intro)]; exact hst0)
    hsz2 (by rw [hSS]; exact pSS)
  rw [hSS] at hss
  obtain ⟨g1, g2, g3, g4⟩ := hss
  obtain ⟨gt, _, gst, grng⟩ := g1.tells pSS
  have htot9 : 9 ≤ tot ∧ tot ≤ 10200 := by rw [← htot]; omega
  have hfull : Full (bumpTell tot SS.2).e tot :=
    full_of_bump SS.2.e tot grng htot9.1 htot9.2 (by rw [g2, htot])
  rw [sil_transient cfg tot _ hfull.tell_eq] at hC hrun
  simp only [] at hC hrun
  rw [sil_coarse cfg tot _ hfull.tell_eq] at hC
  injection hC with hC
  injection hC with c1 hC; injection hC with c2 hC; injection hC with c3 c4
  subst c1 c2 c3 c4
  subst htot
  obtain ⟨m1, m2, m3, m4, m5, m6, m7⟩ := sil_tail_facts cfg _ _ _ _ _ _ _ _ hdr hfull hrun
  obtain ⟨t0, _, _, _⟩ := hH0.tells (prefix_of_ext (Ext.step s0 _) p01)
  have hrngD : RngOk (decBitLogp (w.decAt P0) 15).2 := by
    unfold RngOk; rw [g1.rng pSS]; exact grng
  have htotD : (9 : Int) ≤ ((w.len * 8 : Nat) : Int) ∧ ((w.len * 8 : Nat) : Int) ≤ 10200 := by omega
  have hfullD := full_of_bump (decBitLogp (w.decAt P0) 15).2 ((w.len * 8 : Nat) : Int) hrngD htotD.1 htotD.2 (by rw [gst])
  generalize hc2 : ({ (decBitLogp (w.decAt P0) 15).2 with
      nbitsTotal := (((decBitLogp (w.decAt P0) 15).2.nbitsTotal : Int) +
        (((w.len * 8 : Nat) : Int) - tell (decBitLogp (w.decAt P0) 15).2)).toNat } : Dec) = c2 at hfullD
  have hflags : Opus.CeltSyms.readFlags (cfgD cfg) ((w.len * 8 : Nat) : Int) (w.decAt P0) =
      ((1, {}, 0, 0), c2, [.bit 15 1]) := by
    have hn : ¬ (tell (w.decAt P0) ≥ ((w.len * 8 : Nat) : Int)) := by rw [t0, ht1]; omega
    have hrs : Opus.CeltSyms.readSilence ((w.len * 8 : Nat) : Int) (w.decAt P0) =
        (1, (decBitLogp (w.decAt P0) 15).2, [.bit 15 1]) := by
      unfold Opus.CeltSyms.readSilence
      rw [if_neg hn, if_pos (by rw [t0, ht1])]
      show ((decBitLogp (w.decAt P0) 15).1, (decBitLogp (w.decAt P0) 15).2, [Opus.CeltSyms.CEv.bit 15 (decBitLogp (w.decAt P0) 15).1]) = _
      rw [hd1]
    unfold Opus.CeltSyms.readFlags
    rw [hrs]
    simp only [Opus.CeltSyms.applySilence, ne_eq, Nat.succ_ne_zero, not_false_eq_true, if_true, hc2,
      dsil_pf, dsil_transient, dsil_intra, List.append_nil]
  refine ⟨Opus.CeltSyms.readTail (cfgD cfg) w.len (1, {}, 0, 0) (silentCoarse cfg.C (cfg.end_ - cfg.start))
    ([.bit 15 1] ++ []) c2, ?_, ?_⟩
  · unfold Opus.CeltSyms.celtHeader
    rw [hflags]
    simp only [Opus.CeltSyms.coarseEnergy]
    rw [dsil_coarseBands _ _ c2 _ hfullD]
  · have hfracD : ((w.len * 8 * 8 : Nat) : Int) - 7 ≤ (tellFrac c2 : Int) := by have := hfullD.frac; omega
    unfold Opus.CeltSyms.readTail
    simp only [dsil_tf cfg c2 _ hfullD, dsil_spread _ c2 hfullD.tell_eq, dsil_dynalloc cfg _ c2 hfracD _ _ _ (by decide : 1 ≤ 6),
      dsil_trim _ c2 hfracD]
    exact
      { silenceE := by rw [k1], silenceD := rfl, pfE := by rw [k2], pfD := rfl, transientE := by rw [k4, sil_transient cfg _ _ hfull.tell_eq], transientD := rfl
        intraE := by rw [k5], intraD := rfl, coarseE := k6, coarseDecE := k7, coarseD := rfl
        tfResE := m1, tfResD := by rw [m1], tfSelectE := m2, tfSelectD := rfl, spreadE := m3, spreadD := rfl
        offsetsE := m4, offsetsD := by rw [m4], trimE := m5, trimD := rfl
        written := by
          obtain ⟨tl2, h2, g7, _⟩ := encVbrShrink_ops cfg SS.1 (bumpTell ((SS.1 * 8 : Nat) : Int) SS.2)
          refine ⟨tl ++ tl2, ?_, List.forall_mem_append.mpr ⟨g6, g7⟩⟩
          rw [m7, h2]
          show SS.2.ops ++ tl2 = _
          rw [g5, ← hs01, emit_ops, pop_ops, hs0]; rfl }

end OpusProofs.CeltHdr
