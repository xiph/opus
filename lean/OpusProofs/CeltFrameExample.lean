import OpusProofs.CeltFrameMain
import OpusProofs.CeltHdrExample
/-
  OpusProofs.CeltFrameExample — a concrete whole frame (kernel-evaluated) meeting every hypothesis of the frame round
  trip: the 24-byte 2.5 ms mono CBR frame of OpusProofs/CeltHdrExample.lean continued through fine energy (13 calls),
  eight one-sample bands (sign bits), four N = 2 bands (PVQ indices), one N = 4 band that is split (triangular-PDF theta,
  two PVQ indices) and the finalisation; the packet is filled to the last bit (`ec_tell = 192`).
-/
namespace OpusProofs.CeltHdr.Example
open Opus Opus.RangeCoder Opus.CeltSymsEnc OpusProofs.CeltHdr

def dsF : List Int := ds ++ List.replicate 28 1
def s0F : St := { e := encInit buf 24, ops := [], ds := dsF }
def allF : List Op := match Opus.CeltBandsEnc.encFrame cfg s0F with | .ok f => f.ops | _ => []

theorem runF : (Opus.CeltBandsEnc.encFrame cfg s0F).OkAnd fun f => RunOk buf 24 f.ops ∧ f.hdr.silence = 0 ∧
    f.hdr.size = 24 ∧ f.hdr.pf.on = 0 ∧ (cfg.start : Int) ≤ f.hdr.allocInp.intensity ∧ f.hdr.allocInp.dualStereo = 0 ∧
    f.ops.length = 75 ∧ tell f.fin = 192 ∧ (encodeAll buf 24 f.ops).storage = 24 := by
  decide +kernel

theorem worldF_ok : RunOk buf 24 allF := by
  obtain ⟨fr, h, f, _⟩ := runF
  rw [allF, h]; exact f

def worldF : World :=
  { buf := buf, size := 24, all := allF, hs := by decide, hb := by decide +kernel, hl := worldF_ok.hl,
    hn := worldF_ok.hn, herr := worldF_ok.herr, hn29 := worldF_ok.hn29 }

/-- every hypothesis of `celtFrame_roundtrip` holds for this frame -/
theorem hypsF : ∃ fr, Opus.CeltBandsEnc.encFrame cfg s0F = .ok fr ∧ s0F.ops = [] ∧ s0F.e = worldF.encAt [] ∧
    s0F.e.storage = cfg.size ∧ fr.hdr.silence = 0 ∧ worldF.IsPrefix ([] ++ fr.ops) ∧
    worldF.len = fr.hdr.size ∧ worldF.len = cfg.size ∧ tell s0F.e < ((worldF.len * 8 : Nat) : Int) ∧ fr.hdr.pf.on = 0 ∧
    (cfg.start : Int) ≤ fr.hdr.allocInp.intensity ∧ fr.hdr.allocInp.dualStereo = 0 ∧
    fr.ops.length = 75 ∧ tell fr.fin = 192 := by
  obtain ⟨fr, h, _, f1⟩ := runF
  have hall : worldF.all = fr.ops := show allF = fr.ops by rw [allF, h]
  have hlen : worldF.len = 24 := by rw [World.len, hall]; exact f1.2.2.2.2.2.2.2
  exact ⟨fr, h, rfl, rfl, rfl, f1.1, hall ▸ worldF.isPrefix_all,
    by rw [hlen, f1.2.1], hlen, by rw [hlen]; decide +kernel, f1.2.2.1, f1.2.2.2.1, f1.2.2.2.2.1,
    f1.2.2.2.2.2.1, f1.2.2.2.2.2.2.1⟩

end OpusProofs.CeltHdr.Example
