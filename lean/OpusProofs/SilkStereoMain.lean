import OpusModel.SilkStereo
import OpusProofs.SilkStereoTab
/-
  OpusProofs.SilkStereoMain — silk_stereo_quant_pred.  Its search is a nearest-level search (`scan_spec`: generic lemma
  over a strictly increasing visiting order, for every input on which no `pred - lvl_Q13` overflows).  For every
  `opus_int32` predictor `pred ≤ 2147470282`: termination with indices in range, nearest level, agreement with the
  dequantiser.  The bound is `silk_int32_MAX - 13364 - 1`: the lowest level is -13364, so up to it `pred - lvl_Q13`
  cannot overflow and the first level's error is below the initial `err_min = silk_int32_MAX`; at 2147470283 the first
  error equals `silk_int32_MAX`, nothing is recorded (`quantOne_unset`), and above it the subtraction overflows
  (`quantOne_overflow`).  Last, the symbols of silk_stereo_encode_pred and the decoder applied to the encoder's indices.
-/
namespace OpusProofs.SilkStereoQuant
open Opus Opus.SilkParams Opus.SilkStereo

/-- The level of a visited pair. -/
abbrev lv (p : Nat × Nat) : Int := level p.1 p.2

/-- The search state that records pair `p`. -/
def stOf (pred : Int) (p : Nat × Nat) : QSt :=
  { errMin := sabs (pred - lv p), q := lv p, i0 := wrap8 p.1, i1 := wrap8 p.2 }

/-- One level of the search (stereo_quant_pred.c:52-63) when `pred_Q13[ n ] - lvl_Q13` does not overflow: an improvement
    on `err_min_Q13` is recorded and the search goes on … -/
theorem scan_improve {pred : Int} {p : Nat × Nat} {rest : List (Nat × Nat)} {st : QSt}
    (h : -2147483647 ≤ pred - lv p ∧ pred - lv p ≤ 2147483647) (himp : sabs (pred - lv p) < st.errMin) :
    scan pred (p :: rest) st = scan pred rest (stOf pred p) := by
  rw [scan, if_neg (by unfold lv at h; omega)]; exact if_pos himp

/-- … anything else ends it (`goto done`). -/
theorem scan_stop {pred : Int} {p : Nat × Nat} {rest : List (Nat × Nat)} {st : QSt}
    (h : -2147483647 ≤ pred - lv p ∧ pred - lv p ≤ 2147483647) (himp : ¬ sabs (pred - lv p) < st.errMin) :
    scan pred (p :: rest) st = some st := by
  rw [scan, if_neg (by unfold lv at h; omega)]; exact if_neg himp

theorem scan_overflow {pred : Int} {p : Nat × Nat} (rest : List (Nat × Nat)) (st : QSt)
    (h : pred - lv p < -2147483647 ∨ pred - lv p > 2147483647) : scan pred (p :: rest) st = none := by
  rw [scan]; exact if_pos h

theorem sabs_le_of_lt {pred a b c : Int} (hab : a < b) (hbc : b < c) (h : sabs (pred - a) ≤ sabs (pred - b)) :
    sabs (pred - a) ≤ sabs (pred - c) := by
  unfold sabs at *
  omega

/-- With the state recording `c`, all remaining levels above `lv c` and increasing, no overflow: the scan ends recording
    some `r` of `c :: ps` that is at least as near as `c` and as every remaining level. -/
theorem scan_spec (pred : Int) : ∀ (ps : List (Nat × Nat)) (c : Nat × Nat),
    (∀ p ∈ ps, lv c < lv p) → ps.Pairwise (fun a b => lv a < lv b) →
    (∀ p ∈ ps, -2147483647 ≤ pred - lv p ∧ pred - lv p ≤ 2147483647) →
    ∃ r ∈ c :: ps, scan pred ps (stOf pred c) = some (stOf pred r) ∧
      (∀ p ∈ ps, sabs (pred - lv r) ≤ sabs (pred - lv p)) ∧ sabs (pred - lv r) ≤ sabs (pred - lv c)
  | [], c, _, _, _ => ⟨c, by simp, rfl, by simp, Int.le_refl _⟩
  | p :: rest, c, hgt, hpw, hov => by
    have hp := hov p (by simp)
    have hpw' := List.pairwise_cons.mp hpw
    by_cases himp : sabs (pred - lv p) < sabs (pred - lv c)
    · obtain ⟨r, hr, hscan, hall, hle⟩ := scan_spec pred rest p hpw'.1 hpw'.2 (fun q hq => hov q (by simp [hq]))
      exact ⟨r, List.mem_cons_of_mem _ hr, (scan_improve hp himp).trans hscan, List.forall_mem_cons.mpr ⟨hle, hall⟩,
        by omega⟩
    · -- `c` stays: the levels after `p` are farther from `pred` than `p`
      exact ⟨c, by simp, scan_stop hp himp, List.forall_mem_cons.mpr ⟨by omega, fun q hq =>
        sabs_le_of_lt (hgt p (by simp)) (hpw'.1 q hq) (by omega)⟩, Int.le_refl _⟩

end OpusProofs.SilkStereoQuant

namespace OpusProofs.SilkStereoMain
open Opus Opus.SilkParams Opus.SilkStereo OpusProofs.SilkStereoQuant

theorem visit_head : visitOrder = (0, 0) :: (0, 1) :: visitOrder.tail.tail := by decide +kernel

theorem visit_pairwise : visitOrder.Pairwise (fun a b => lv a < lv b) :=
  List.pairwise_map.mp (OpusProofs.SilkStereoTab.strictIncr_pairwise OpusProofs.SilkStereoTab.levels_strictIncr)

theorem visit_bounds : ∀ p ∈ visitOrder, -13364 ≤ lv p ∧ lv p ≤ 13362 ∧ p.1 < 15 ∧ p.2 < 5 := by decide +kernel

theorem lv00 : lv (0, 0) = -13364 := by decide +kernel
theorem lv01 : lv (0, 1) = -12628 := by decide +kernel

/-- The initial search state of one predictor (stereo_quant_pred.c:46). -/
def st0 (qIn a b : Int) : QSt := { errMin := int32Max, q := qIn, i0 := a, i1 := b }

/-- For `pred ≤ 2147470282` the search ends on a nearest level. -/
theorem scan_total (pred qIn a b : Int) (hlo : -2147483648 ≤ pred) (hhi : pred ≤ 2147470282) :
    ∃ r ∈ visitOrder, scan pred visitOrder (st0 qIn a b) = some (stOf pred r) ∧
      ∀ p ∈ visitOrder, sabs (pred - lv r) ≤ sabs (pred - lv p) := by
  have hpw := visit_pairwise
  have hb := visit_bounds
  rw [visit_head] at hpw hb ⊢
  obtain ⟨hgt, hpw1⟩ := List.pairwise_cons.mp hpw
  -- first level: always an improvement on silk_int32_MAX
  rw [scan_improve (by rw [lv00]; omega) (by rw [lv00]; show sabs _ < 2147483647; unfold sabs; omega)]
  -- below -2147470285 = -(2^31 - 1) + 13362 the difference to the top level would overflow, so `scan_spec` (no overflow
  -- on ALL remaining levels) does not apply; there the scan stops at the second level instead
  by_cases hbig : -2147470285 ≤ pred
  · obtain ⟨r, hr, hscan, hall, hle⟩ := scan_spec pred _ (0, 0) hgt hpw1
      (fun p hp => by have := hb p (List.mem_cons_of_mem _ hp); omega)
    exact ⟨r, hr, hscan, List.forall_mem_cons.mpr ⟨hle, hall⟩⟩
  · refine ⟨(0, 0), by simp, scan_stop (by rw [lv01]; omega) (by simp only [stOf, lv00, lv01, sabs]; omega),
      fun p hp => ?_⟩
    have := hb p hp
    rw [lv00]; unfold sabs; omega

/-- What the tail of the `n` loop (stereo_quant_pred.c:66-68) makes of the recorded pair. -/
def post (p : Nat × Nat) : QOne :=
  let i0 := wrap8 p.1
  let ix2 := wrap8 (Int.tdiv i0 3)
  { q := level p.1 p.2, ix0 := wrap8 (i0 - ix2 * 3), ix1 := wrap8 p.2, ix2 := ix2 }

/-- For each of the 75 pairs: the three indices are in range and name the pair (kernel evaluation over the complete
    visiting order). -/
theorem post_spec : ∀ p ∈ visitOrder,
    0 ≤ (post p).ix0 ∧ (post p).ix0 ≤ 2 ∧ 0 ≤ (post p).ix1 ∧ (post p).ix1 ≤ 4 ∧ 0 ≤ (post p).ix2 ∧ (post p).ix2 ≤ 4 ∧
      (post p).ix0 + 3 * (post p).ix2 = (p.1 : Int) ∧ (post p).ix1 = (p.2 : Int) := by
  decide +kernel

/-- … and the dequantiser maps them back to the level (`decodeOne_all`: the dequantiser on every index triple). -/
theorem decodeOne_post {p : Nat × Nat} (h : p ∈ visitOrder) :
    decodeOne (post p).ix0 (post p).ix1 (post p).ix2 = .ok (lv p) := by
  obtain ⟨a0, a1, b0, b1, c0, c1, hi, hj⟩ := post_spec p h
  have hall := OpusProofs.SilkStereoTab.decodeOne_all
  simp only [List.all_eq_true, List.mem_range, Bool.and_eq_true, beq_iff_eq, decide_eq_true_eq] at hall
  have := (hall (post p).ix0.toNat (by omega) (post p).ix1.toNat (by omega) (post p).ix2.toNat (by omega)).1
  rw [Int.toNat_of_nonneg a0, Int.toNat_of_nonneg b0, Int.toNat_of_nonneg c0,
    show (post p).ix0.toNat + 3 * (post p).ix2.toNat = p.1 by omega, show (post p).ix1.toNat = p.2 by omega] at this
  exact this

/-- One predictor, `pred ≤ 2147470282`: the indices written are those of a nearest level. -/
theorem quantOne_total (pred qIn a b : Int) (hlo : -2147483648 ≤ pred) (hhi : pred ≤ 2147470282) :
    ∃ r ∈ visitOrder, quantOne pred qIn a b = some (post r) ∧
      ∀ p ∈ visitOrder, sabs (pred - lv r) ≤ sabs (pred - lv p) := by
  obtain ⟨r, hr, hscan, hall⟩ := scan_total pred qIn a b hlo hhi
  refine ⟨r, hr, ?_, hall⟩
  unfold quantOne
  have : scan pred visitOrder { errMin := int32Max, q := qIn, i0 := a, i1 := b } = some (stOf pred r) := hscan
  rw [this]
  rfl

theorem tdiv5 {x y : Int} (hx0 : 0 ≤ x) (hy0 : 0 ≤ y) (hy : y ≤ 4) : Int.tdiv (5 * x + y) 5 = x := by
  rw [Int.tdiv_eq_ediv_of_nonneg (by omega)]; omega

/-- `silk_stereo_quant_pred` for both predictors `≤ 2147470282`: both searches end on nearest levels `r0`, `r1`. -/
theorem quantPred_total (p0 p1 : Int) (ixIn : List Int) (h0lo : -2147483648 ≤ p0) (h0hi : p0 ≤ 2147470282)
    (h1lo : -2147483648 ≤ p1) (h1hi : p1 ≤ 2147470282) :
    ∃ r0 ∈ visitOrder, ∃ r1 ∈ visitOrder,
      quantPred p0 p1 ixIn = some (QOut.mk (lv r0 - lv r1) (lv r1)
        [(post r0).ix0, (post r0).ix1, (post r0).ix2, (post r1).ix0, (post r1).ix1, (post r1).ix2]) ∧
      (∀ p ∈ visitOrder, sabs (p0 - lv r0) ≤ sabs (p0 - lv p)) ∧ (∀ p ∈ visitOrder, sabs (p1 - lv r1) ≤ sabs (p1 - lv p)) := by
  obtain ⟨r0, hr0, hq0, hn0⟩ := quantOne_total p0 0 (ixIn.getD 0 0) (ixIn.getD 1 0) h0lo h0hi
  obtain ⟨r1, hr1, hq1, hn1⟩ := quantOne_total p1 (post r0).q (ixIn.getD 3 0) (ixIn.getD 4 0) h1lo h1hi
  refine ⟨r0, hr0, r1, hr1, ?_, hn0, hn1⟩
  unfold quantPred
  rw [hq0]; simp only []; rw [hq1]
  rfl

/-- Any point between two list elements is within 368 of an element when neighbours are at most 736 apart. -/
theorem cover (x : Int) : ∀ (l : List Int) (a : Int), OpusProofs.SilkStereoTab.gapsLe 736 (a :: l) = true → a ≤ x →
    (∃ b ∈ a :: l, x ≤ b) → ∃ v ∈ a :: l, sabs (x - v) ≤ 368 := by
  intro l
  induction l with
  | nil =>
    intro a _ hax ⟨b, hb, hxb⟩
    simp at hb; subst hb
    exact ⟨b, by simp, by unfold sabs; omega⟩
  | cons c l ih =>
    intro a hg hax ⟨b, hb, hxb⟩
    simp only [OpusProofs.SilkStereoTab.gapsLe, Bool.and_eq_true, decide_eq_true_eq] at hg
    by_cases hxc : x ≤ c
    · by_cases hh : x - a ≤ 368
      · exact ⟨a, by simp, by unfold sabs; omega⟩
      · exact ⟨c, by simp, by unfold sabs; omega⟩
    · rcases List.mem_cons.mp hb with rfl | hb
      · exact ⟨b, by simp, by unfold sabs; omega⟩
      · obtain ⟨v, hv, hsv⟩ := ih c hg.2 (by omega) ⟨b, hb, hxb⟩
        exact ⟨v, List.mem_cons_of_mem _ hv, hsv⟩

theorem levels_shape : levels = -13364 :: levels.tail ∧ (13362 : Int) ∈ levels := by
  obtain ⟨h1, h2⟩ := OpusProofs.SilkStereoTab.levels_ends
  exact ⟨by cases hl : levels with
    | nil => rw [hl] at h1; cases h1
    | cons a t => rw [hl] at h1; cases h1; rfl, List.mem_of_getLast? h2⟩

/-- Inside the span some level is within 368. -/
theorem near_level (x : Int) (hlo : -13364 ≤ x) (hhi : x ≤ 13362) : ∃ p ∈ visitOrder, sabs (x - lv p) ≤ 368 := by
  have hg := OpusProofs.SilkStereoTab.levels_gaps
  rw [levels_shape.1] at hg
  obtain ⟨v, hv, hsv⟩ := cover x levels.tail (-13364) hg hlo ⟨13362, by rw [← levels_shape.1]; exact levels_shape.2, hhi⟩
  rw [← levels_shape.1] at hv
  unfold levels at hv
  obtain ⟨p, hp, rfl⟩ := List.mem_map.mp hv
  exact ⟨p, hp, hsv⟩

theorem lv_top : lv (14, 4) = 13362 ∧ ((14, 4) : Nat × Nat) ∈ visitOrder ∧ ((0, 0) : Nat × Nat) ∈ visitOrder := by decide +kernel

/-- Consequences of being a nearest level: error bound inside the span, saturation outside. -/
theorem nearest_conseq (x : Int) {r : Nat × Nat} (hr : r ∈ visitOrder)
    (hn : ∀ p ∈ visitOrder, sabs (x - lv r) ≤ sabs (x - lv p)) :
    (-13364 ≤ x → x ≤ 13362 → sabs (x - lv r) ≤ 368) ∧ (x ≤ -13364 → lv r = -13364) ∧ (13362 ≤ x → lv r = 13362) := by
  have hb := visit_bounds r hr
  refine ⟨?_, ?_, ?_⟩
  · intro h1 h2
    obtain ⟨p, hp, hs⟩ := near_level x h1 h2
    exact Int.le_trans (hn p hp) hs
  · intro h
    have := hn (0, 0) lv_top.2.2
    rw [lv00] at this; unfold sabs at this; omega
  · intro h
    have := hn (14, 4) lv_top.2.1
    rw [lv_top.1] at this; unfold sabs at this; omega

/-! ### just above the bound -/

/-- The first input above the bound, `silk_int32_MAX - 13364`: no overflow, but the very first level does not improve on
    `silk_int32_MAX`, `goto done` is taken with `ix[n][0]`, `ix[n][1]` and `quant_pred_Q13` never assigned. -/
theorem quantOne_unset (qIn a b : Int) :
    quantOne 2147470283 qIn a b =
      some { q := qIn, ix0 := wrap8 (a - wrap8 (Int.tdiv a 3) * 3), ix1 := b, ix2 := wrap8 (Int.tdiv a 3) } := by
  unfold quantOne
  rw [visit_head, scan_stop (by rw [lv00]; omega) (by rw [lv00]; exact (by decide : ¬ sabs (2147470283 - -13364) < 2147483647))]

/-- Above that, `pred_Q13[n] - lvl_Q13` overflows `opus_int32`: undefined behaviour. -/
theorem quantOne_overflow (pred qIn a b : Int) (h : 2147470283 < pred) : quantOne pred qIn a b = none := by
  unfold quantOne
  rw [visit_head, scan_overflow _ _ (by rw [lv00]; omega)]

end OpusProofs.SilkStereoMain

namespace OpusProofs.SilkStereoAgree
open Opus Opus.SilkParams Opus.SilkStereo OpusProofs.SilkStereoQuant OpusProofs.SilkStereoMain

theorem encodeSyms_ok {a0 b0 c0 a1 b1 c1 : Int} (h1 : 0 ≤ a0 ∧ a0 ≤ 2) (h2 : 0 ≤ b0 ∧ b0 ≤ 4) (h3 : 0 ≤ c0 ∧ c0 ≤ 4)
    (h4 : 0 ≤ a1 ∧ a1 ≤ 2) (h5 : 0 ≤ b1 ∧ b1 ≤ 4) (h6 : 0 ≤ c1 ∧ c1 ≤ 4) :
    encodeSyms [a0, b0, c0, a1, b1, c1] = .ok [(5 * c0 + c1, 25), (a0, 3), (b0, 5), (a1, 3), (b1, 5)] := by
  have e1 : ¬ ¬ (5 * c0 + c1 < 25) := by omega
  have e2 : ¬ ¬ (a0 < 3) := by omega
  have e3 : ¬ ¬ (b0 < ((5 : Nat) : Int)) := by omega
  have e4 : ¬ ¬ (a1 < 3) := by omega
  have e5 : ¬ ¬ (b1 < ((5 : Nat) : Int)) := by omega
  simp only [encodeSyms, List.getD_cons_zero, List.getD_cons_succ, subSteps, Gen.SilkStereoTabs.quantSubSteps,
    Gen.SilkStereoTabs.predJointIcdf, Gen.SilkStereoTabs.uniform3Icdf, Gen.SilkStereoTabs.uniform5Icdf, List.length_cons,
    List.length_nil, e1, e2, e3, e4, e5, if_false]

theorem decodeOfIx_ok {r0 r1 : Nat × Nat} (h0 : r0 ∈ visitOrder) (h1 : r1 ∈ visitOrder) :
    decodeOfIx [(post r0).ix0, (post r0).ix1, (post r0).ix2, (post r1).ix0, (post r1).ix1, (post r1).ix2] =
      .ok (lv r0 - lv r1, lv r1) := by
  have s0 := post_spec r0 h0
  have s1 := post_spec r1 h1
  simp only [decodeOfIx, List.getD_cons_zero, List.getD_cons_succ, decodePred]
  rw [tdiv5 s0.2.2.2.2.1 s1.2.2.2.2.1 s1.2.2.2.2.2.1]
  have e : 5 * (post r0).ix2 + (post r1).ix2 - 5 * (post r0).ix2 = (post r1).ix2 := by omega
  rw [e, decodeOne_post h0, decodeOne_post h1]

end OpusProofs.SilkStereoAgree
