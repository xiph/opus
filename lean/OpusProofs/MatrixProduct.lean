import OpusProofs.MatrixInt16
/-
  OpusProofs.MatrixProduct — the integer product P = D·M of the regenerated demixing and mixing
  matrices (C10 `demix_inverts_mix`), checked entry by entry in the kernel.

  Cells are Q15, so P is Q30: the identity is 2^30.  With a linear gain `G` enclosed by the rationals
  `lo ≤ G ≤ hi`, the entry test `|P·G − δ·2^30| ≤ 3·10⁻⁴·2^30` is linear in `G`, hence it holds on
  the whole interval as soon as it holds at both ends; at a rational end `a/b` it is the integer
  inequality `|P·a − δ·2^30·b|·10^4 ≤ 3·2^30·b`.

  The ten products that `demix_inverts_mix` lists are evaluated, as `productFast`, which is equal to `productCols`
  for all matrices of int16 cells.
-/
namespace Opus.Matrix
open Opus

/-- `|P·(a/b) − δ·2^30| ≤ 3·10⁻⁴·2^30`, cleared of denominators (`b > 0`). -/
def entryOk (a b : Nat) (p : Int) (diag : Bool) : Bool :=
  decide (((p * a - (if diag then 2 ^ 30 else 0) * b).natAbs) * 10000 ≤ 3 * 2 ^ 30 * b)

/-- Entry `(i, j)` of a column list (0 outside). -/
def entry (cols : List (List Int)) (i j : Nat) : Int := ((cols[j]?).getD [])[i]?.getD 0

/-- One pass over a list of `n` columns of `n` entries: every entry passes the test at both gains. -/
def checkCols (lo hi : Nat × Nat) (n : Nat) (cols : List (List Int)) : Bool :=
  decide (cols.length = n) && cols.zipIdx.all fun c =>
    decide (c.1.length = n) && c.1.zipIdx.all fun p =>
      entryOk lo.1 lo.2 p.1 (p.2 = c.2) && entryOk hi.1 hi.2 p.1 (p.2 = c.2)

theorem checkCols_entry (lo hi : Nat × Nat) (n : Nat) (cols : List (List Int))
    (h : checkCols lo hi n cols = true) (i j : Nat) (hi' : i < n) (hj : j < n) :
    entryOk lo.1 lo.2 (entry cols i j) (i = j) = true ∧ entryOk hi.1 hi.2 (entry cols i j) (i = j) = true := by
  simp only [checkCols, Bool.and_eq_true, decide_eq_true_eq, List.all_eq_true] at h
  obtain ⟨hlen, hall⟩ := h
  have hj' : j < cols.length := by omega
  obtain ⟨hcl, hc⟩ := hall (cols[j], j) (List.mem_zipIdx_iff_getElem?.2 (List.getElem?_eq_getElem hj'))
  have hi'' : i < cols[j].length := by simp only at hcl; omega
  have := hc ((cols[j])[i], i) (List.mem_zipIdx_iff_getElem?.2 (List.getElem?_eq_getElem hi''))
  unfold entry
  rw [List.getElem?_eq_getElem hj', Option.getD_some, List.getElem?_eq_getElem hi'', Option.getD_some]
  exact this

/-- The product columns for `order_plus_one = o` restricted to `ch` channels (`ch = o²+2` with the
    non-diegetic pair, `o²` without): `D[0..ch,0..ch] · M[0..ch,0..ch]`, exactly the cells the
    projection encoder mixes with and exports for demixing. -/
def product (o ch : Nat) : List (List Int) :=
  match mixing o, demixing o with
  | some m, some d => productCols d m ch ch
  | _, _ => []

/-- Gain (Q8 dB) stored with the demixing matrix of `order_plus_one = o`. -/
def demixGain (o : Nat) : Int := ((demixing o).map (·.gain)).getD 0

/-- Rational enclosure of `10^(g/5120)` for the gains that occur: `g = 0` is exactly 1;
    `g = 3050` (second order) is `10^(305/512) = 3.9418775111…`. -/
def gainLo (g : Int) : Nat × Nat := if g = 3050 then (39418775, 10000000) else (1, 1)
def gainHi (g : Int) : Nat × Nat := if g = 3050 then (39418776, 10000000) else (1, 1)

/-- The only gains in the tables are 0 and 3050 (the enclosure above is valid only for these). -/
theorem gains_known : ∀ o ∈ [2, 3, 4, 5, 6], demixGain o = 0 ∨ demixGain o = 3050 := by decide +kernel

/-- `(a/b)^512 ≤ 10^305 ≤ (c/d)^512` for the enclosure of `10^(305/512)`, in naturals. -/
theorem enclosure_3050 :
    39418775 ^ 512 ≤ 10 ^ 305 * 10000000 ^ 512 ∧ 10 ^ 305 * 10000000 ^ 512 ≤ 39418776 ^ 512 := by
  decide +kernel

theorem getElem?_subCols (m : MappingMatrix) (r c j : Nat) (hj : j < c) :
    (subCols m r c)[j]? = some ((m.data.drop (m.rows * j)).take r) := by
  unfold subCols; rw [List.getElem?_map, List.getElem?_range hj]; rfl

/-- When the cells reach the end of column `c-1`, every column of `subCols m r c` has all its `r` entries. -/
theorem length_of_mem_subCols (m : MappingMatrix) (r c : Nat) (h : m.rows * (c - 1) + r ≤ m.data.length) :
    ∀ col ∈ subCols m r c, col.length = r := by
  intro col hc
  obtain ⟨k, hk, rfl⟩ := List.mem_map.1 hc
  have := Nat.mul_le_mul_left m.rows (show k ≤ c - 1 by have := List.mem_range.1 hk; omega)
  simp only [List.length_take, List.length_drop]; omega

/-- `subCols`, cut off the cell list column after column. -/
def colsFrom (R r : Nat) : Nat → List Int → List (List Int)
  | 0, _ => []
  | c + 1, l => l.take r :: colsFrom R r c (l.drop R)

theorem subCols_eq (m : MappingMatrix) (r c : Nat) : subCols m r c = colsFrom m.rows r c m.data := by
  unfold subCols
  generalize m.data = l
  induction c generalizing l with
  | zero => rfl
  | succ c ih =>
    rw [List.range_succ_eq_map, List.map_cons, List.map_map, colsFrom, ← ih, Nat.mul_zero, List.drop_zero]
    refine congrArg _ (List.map_congr_left fun j _ => ?_)
    simp only [Function.comp, List.drop_drop, Nat.mul_succ, Nat.add_comm]

theorem mem_data_of_mem_subCols {m : MappingMatrix} {r c : Nat} {col : List Int} {x : Int}
    (hc : col ∈ subCols m r c) (hx : x ∈ col) : x ∈ m.data := by
  obtain ⟨k, _, rfl⟩ := List.mem_map.1 hc
  exact List.mem_of_mem_drop (List.mem_of_mem_take hx)

/-- A column as one integer, `Σ xᵢ·2^(64 i)`. -/
def pack : List Int → Int
  | [] => 0
  | x :: xs => x + 18446744073709551616 * pack xs

theorem pack_axpy (a : Int) : ∀ x y : List Int, x.length = y.length → pack (axpy a x y) = a * pack x + pack y
  | [], [], _ => by simp [axpy, pack]
  | x :: xs, y :: ys, h => by
    have ih := pack_axpy a xs ys (by simpa using h)
    unfold axpy at ih ⊢
    rw [List.zipWith_cons_cons, pack, ih, pack, pack]
    grind
  | [], _ :: _, h => by simp at h
  | _ :: _, [], h => by simp at h

theorem pack_foldl_axpy : ∀ (l : List (List Int × Int)) (acc : List Int), (∀ cv ∈ l, cv.1.length = acc.length) →
    pack (l.foldl (fun acc cv => axpy cv.2 cv.1 acc) acc) = l.foldl (fun A cv => cv.2 * pack cv.1 + A) (pack acc) ∧
    (l.foldl (fun acc cv => axpy cv.2 cv.1 acc) acc).length = acc.length
  | [], _, _ => ⟨rfl, rfl⟩
  | cv :: l, acc, h => by
    have hl : (axpy cv.2 cv.1 acc).length = acc.length := by simp [axpy, h cv (by simp)]
    obtain ⟨ih, ihl⟩ := pack_foldl_axpy l _ (fun c hc => by rw [hl]; exact h c (List.mem_cons_of_mem _ hc))
    rw [List.foldl_cons, List.foldl_cons, ih, ihl, pack_axpy _ _ _ (h cv (by simp))]
    exact ⟨rfl, hl⟩

theorem pack_replicate (n : Nat) : pack (List.replicate n 0) = 0 := by
  induction n with
  | zero => rfl
  | succ n ih => rw [List.replicate_succ, pack, ih]; rfl

/-- `Σ_k v[k]·C[k]` on packed columns. -/
def dotP (C v : List Int) : Int := (C.zip v).foldl (fun A cv => cv.2 * cv.1 + A) 0

theorem pack_matVec (C : List (List Int)) (v : List Int) (n : Nat) (hC : ∀ c ∈ C, c.length = n) :
    pack (matVec C v n) = dotP (C.map pack) v ∧ (matVec C v n).length = n := by
  unfold matVec dotP
  obtain ⟨h, hl⟩ := pack_foldl_axpy (C.zip v) (List.replicate n 0) (fun cv h => by
    rw [List.length_replicate]; exact hC _ (List.of_mem_zip h).1)
  rw [h, hl, pack_replicate, List.zip_map_left, List.foldl_map, List.length_replicate]
  exact ⟨rfl, rfl⟩

/-- The balanced base-2^64 digits of `N`, `n` of them. -/
def unpack : Nat → Int → List Int
  | 0, _ => []
  | n + 1, N => ((N + 9223372036854775808) % 18446744073709551616 - 9223372036854775808) ::
      unpack n ((N + 9223372036854775808) / 18446744073709551616)

def Bnd (B : Nat) (l : List Int) : Prop := ∀ x ∈ l, x.natAbs ≤ B

theorem unpack_pack : ∀ l : List Int, Bnd 9223372036854775807 l → unpack l.length (pack l) = l
  | [], _ => rfl
  | x :: xs, h => by
    have hx := h x (by simp)
    have ih := unpack_pack xs (fun y hy => h y (List.mem_cons_of_mem _ hy))
    simp only [List.length_cons, unpack, pack]
    generalize pack xs = P at ih ⊢
    rw [show (x + 18446744073709551616 * P + 9223372036854775808) % 18446744073709551616 - 9223372036854775808 = x by omega,
      show (x + 18446744073709551616 * P + 9223372036854775808) / 18446744073709551616 = P by omega, ih]

theorem axpy_bnd {a : Int} {A C B : Nat} (ha : a.natAbs ≤ A) :
    ∀ x y : List Int, Bnd C x → Bnd B y → Bnd (A * C + B) (axpy a x y)
  | [], _, _, _ => by simp [axpy, Bnd]
  | _ :: _, [], _, _ => by simp [axpy, Bnd]
  | x :: xs, y :: ys, hx, hy => by
    intro z hz
    unfold axpy at hz
    rw [List.zipWith_cons_cons, List.mem_cons] at hz
    rcases hz with rfl | hz
    · refine Nat.le_trans (Int.natAbs_add_le _ _) (Nat.add_le_add ?_ (hy y (by simp)))
      rw [Int.natAbs_mul]; exact Nat.mul_le_mul ha (hx x (by simp))
    · exact axpy_bnd ha xs ys (fun w hw => hx w (List.mem_cons_of_mem _ hw)) (fun w hw => hy w (List.mem_cons_of_mem _ hw)) z hz

theorem foldl_axpy_bnd {A C : Nat} : ∀ (l : List (List Int × Int)) (acc : List Int) (B : Nat),
    (∀ cv ∈ l, cv.2.natAbs ≤ A ∧ Bnd C cv.1) → Bnd B acc →
    Bnd (l.length * (A * C) + B) (l.foldl (fun acc cv => axpy cv.2 cv.1 acc) acc)
  | [], _, _, _, h => by simpa using h
  | cv :: l, acc, B, hl, h => by
    have := foldl_axpy_bnd l _ _ (fun c hc => hl c (List.mem_cons_of_mem _ hc))
      (axpy_bnd (hl cv (by simp)).1 _ _ (hl cv (by simp)).2 h)
    rw [List.foldl_cons, List.length_cons, Nat.succ_mul]
    intro x hx; have := this x hx; omega

/-- `productCols` in the form that is evaluated.  A column is held as ONE integer in base 2^64 (`pack`), so that the
    kernel multiplies with GMP: `a·x + y` on columns is `a·X + Y` on integers (`pack_axpy`), one multiplication per
    cell of the mixing column.  The entries are read back as balanced digits (`unpack_pack`); that they are the
    entries needs the bound known beforehand: int16 cells give `|P[i][j]| ≤ nin·2^30 < 2^63`. -/
def productFast (d mx : MappingMatrix) (ch nin : Nat) : List (List Int) :=
  (colsFrom mx.rows nin ch mx.data).map fun v => unpack ch (dotP ((colsFrom d.rows ch nin d.data).map pack) v)

theorem productCols_eq_fast (d mx : MappingMatrix) (ch nin : Nat) (hd : ∀ x ∈ d.data, InInt16 x) (hm : ∀ x ∈ mx.data, InInt16 x)
    (hlen : d.rows * (nin - 1) + ch ≤ d.data.length) (hn : nin ≤ 4294967296) :
    productCols d mx ch nin = productFast d mx ch nin := by
  unfold productCols productFast
  rw [← subCols_eq, ← subCols_eq]
  refine List.map_congr_left fun v hv => ?_
  obtain ⟨hp, hl⟩ := pack_matVec _ v ch (length_of_mem_subCols d ch nin hlen)
  have hb := foldl_axpy_bnd (A := 32768) (C := 32768) ((subCols d ch nin).zip v) (List.replicate ch 0) 0
    (fun cv h => ⟨(hm _ (mem_data_of_mem_subCols hv (List.of_mem_zip h).2)).natAbs_le,
      fun x hx => (hd x (mem_data_of_mem_subCols (List.of_mem_zip h).1 hx)).natAbs_le⟩)
    (fun x hx => by rw [List.eq_of_mem_replicate hx]; decide)
  have hzl : ((subCols d ch nin).zip v).length ≤ nin := by
    rw [List.length_zip]; simp only [subCols, List.length_map, List.length_range]; omega
  have h := unpack_pack (matVec (subCols d ch nin) v ch) fun x hx => by
    have := hb x hx
    have := Nat.mul_le_mul_right (32768 * 32768) hzl
    omega
  rw [hl, hp] at h
  exact h.symm

/-- Every entry of `product o ch` passes the test at both ends of the gain enclosure. -/
def EntriesOk (o ch : Nat) : Prop := ∀ i j, i < ch → j < ch →
  entryOk (gainLo (demixGain o)).1 (gainLo (demixGain o)).2 (entry (product o ch) i j) (i = j) = true ∧
  entryOk (gainHi (demixGain o)).1 (gainHi (demixGain o)).2 (entry (product o ch) i j) (i = j) = true

/-- The test that is evaluated: `checkCols` on `productFast`, and what `productCols_eq_fast` asks of the sizes. -/
def productOk (o ch : Nat) : Bool :=
  match mixing o, demixing o with
  | some mx, some d => decide (d.rows * (ch - 1) + ch ≤ d.data.length ∧ ch ≤ 4294967296) &&
      checkCols (gainLo (demixGain o)) (gainHi (demixGain o)) ch (productFast d mx ch ch)
  | _, _ => false

theorem productOk_spec (o ch : Nat) (h : productOk o ch = true) :
    EntriesOk o ch ∧
    ∃ mx d, mixing o = some mx ∧ demixing o = some d ∧ d.rows * (ch - 1) + ch ≤ d.data.length := by
  unfold productOk at h
  split at h
  · rename_i mx d hmx hd
    simp only [Bool.and_eq_true, decide_eq_true_eq] at h
    refine ⟨checkCols_entry _ _ _ _ ?_, mx, d, hmx, hd, h.1.1⟩
    unfold product
    rw [hmx, hd]
    simp only [mixing, demixing, Option.map_eq_some_iff] at hmx hd
    obtain ⟨gm, _, rfl⟩ := hmx
    obtain ⟨gd, _, rfl⟩ := hd
    simp only
    rw [productCols_eq_fast _ _ _ _ (ofGen_cells gd) (ofGen_cells gm) h.1.1 h.1.2]
    exact h.2
  · cases h

/-- The one evaluation: the five orders, each with and without the non-diegetic pair. -/
theorem builtin_checked :
    ∀ oc ∈ [(2, 6), (2, 4), (3, 11), (3, 9), (4, 18), (4, 16), (5, 27), (5, 25), (6, 38), (6, 36)],
      productOk oc.1 oc.2 = true := by
  decide +kernel

theorem entriesOk_all (o ch : Nat)
    (h : (o, ch) ∈ [(2, 6), (2, 4), (3, 11), (3, 9), (4, 18), (4, 16), (5, 27), (5, 25), (6, 38), (6, 36)]) :
    EntriesOk o ch :=
  (productOk_spec o ch (builtin_checked (o, ch) h)).1

end Opus.Matrix
