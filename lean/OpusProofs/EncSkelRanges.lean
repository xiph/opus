import OpusModel.EncSkelRanges
import OpusProofs.EncSkelCbr
/-
  OpusProofs.EncSkelRanges — "no 32-bit overflow" for the budget arithmetic of `opus_encode_native`, `frame_size_select`
  and the multistream budget split (C05 / C02): what the per-function theorems of OpusProps/C05Ranges.lean share.
  The skeleton computes with unbounded `Int`; the C code computes the same expressions in `int` / `opus_int32`.
  `OpusModel/EncSkelRanges.lean` lists EVERY intermediate value each C expression forms as a *trace*; here: the last entry
  of a trace where it is the model function's value (`erTrace_last`, `rbTrace_last`, `mlTrace_last`, `cmTrace_last`, `fssTrace_last`, `msTrace_last`),
  and what later stages build on after the sizing head (`user_bitrate_to_bitrate` and the CBR block are `ubTrace_fits`,
  `cbrTrace_fits` of OpusProofs/EncSkelSizing.lean) — `bitrate_bps * frame_size`, `bytes_target`, `max_len_sum` (with the equations
  `multiCtx_eqs` of the multi-frame constants, which OpusProofs/EncSkelMulti.lean uses too) — with all entries
  in [-2^31, 2^31) on a domain that contains what the API admits: `FrameRates` (8..48 kHz, a frame of 2.5..120 ms), 1-2 channels,
  user bit-rate AUTO / MAX / 500..750000·channels (`stOk_domain` reads these off `stOk`; the ctl really clamps to
  300000·channels, which `budget_rate_frame` needs as an extra hypothesis), `max_data_bytes = IMIN(1276, out_data_bytes) ≥ 1`.
-/
namespace Opus.EncSkel.Proofs
open Opus Opus.EncDecide Opus.EncSkel

theorem stOk_domain (s : St) (h : stOk s = true) :
    (s.fs = 8000 ∨ s.fs = 12000 ∨ s.fs = 16000 ∨ s.fs = 24000 ∨ s.fs = 48000) ∧ (s.channels = 1 ∨ s.channels = 2) ∧
    (s.userBitrate = OPUS_AUTO ∨ s.userBitrate = OPUS_BITRATE_MAX ∨
       (500 ≤ s.userBitrate ∧ s.userBitrate ≤ 750000 * s.channels)) := by
  simp only [stOk, decide_eq_true_eq] at h
  exact ⟨h.1, h.2.1, h.2.2.1⟩

theorem erTrace_last (bitrate channels frameRate vbr mode complexity loss : Int) :
    (erTrace bitrate channels frameRate vbr mode complexity loss).getLast? =
      some (computeEquivRate bitrate channels frameRate vbr mode complexity loss) := by
  simp [erTrace]

/-- One `equiv = equiv*n/k` step with `0 ≤ n ≤ k`: the product fits; the quotient has the sign of `e` and is no larger, so
    both it and what is left of `e` after subtracting it stay within ±4 083 200. -/
theorem scale_step (e n k : Int) (he : -4083200 ≤ e ∧ e ≤ 4083200) (hn : 0 ≤ n ∧ n ≤ k) (hk : 0 < k) (hN : n ≤ 100) :
    Fits32 (e * n) ∧ (-4083200 ≤ cdiv (e * n) k ∧ cdiv (e * n) k ≤ 4083200) ∧
    (-4083200 ≤ e - cdiv (e * n) k ∧ e - cdiv (e * n) k ≤ 4083200) := by
  have hm := mul_abs_le e n 4083200 100 he ⟨hn.1, hN⟩
  refine ⟨by unfold Fits32; omega, ?_⟩
  rcases Int.le_total 0 e with h0 | h0
  · have h1 : 0 ≤ e * n := Int.mul_nonneg h0 hn.1
    have h2 : e * n ≤ e * k := Int.mul_le_mul_of_nonneg_left hn.2 h0
    have := cdiv_scale (e * n) k e hk ⟨by omega, h2⟩
    have := (cdiv_bounds (e * n) k hk).1 h1
    omega
  · have h1 : e * n ≤ 0 := Int.mul_nonpos_of_nonpos_of_nonneg h0 hn.1
    have h2 : e * k ≤ e * n := Int.mul_le_mul_of_nonpos_left h0 hn.2
    have h3 : -e * k = -(e * k) := Int.neg_mul _ _
    have := cdiv_scale (e * n) k (-e) hk ⟨by omega, by omega⟩
    have := (cdiv_bounds (e * n) k hk).2 h1
    omega

theorem rbTrace_last (m br fr ch : Int) :
    (rbTrace m br fr ch).getLast? = some (computeRedundancyBytes m br fr ch) := by
  simp [rbTrace]

/-- A CBR bit-rate `b = c·F·8/12` with `F = 12·Fs/frame_size` spends at most `8·c·Fs` bits per second of samples. -/
theorem cbrRate_mul_frame (b c F fs fsz : Int) (hb : b * 12 ≤ c * F * 8) (hF : F * fsz ≤ 12 * fs) (hc : 0 ≤ c)
    (hfsz : 0 ≤ fsz) : b * fsz ≤ 8 * (c * fs) := by
  have h1 := Int.mul_le_mul_of_nonneg_right hb hfsz
  have h2 := Int.mul_le_mul_of_nonneg_left hF (show 0 ≤ 8 * c by omega)
  linarith

/-- After the sizing stage (:1253-1264) the bit-rate is in 0..4 083 200 and `bitrate_bps*e` is at most 1 728 000 000
    (= 600000·2880: an explicit or AUTO rate of at most 300000·2 over 60 ms at 48 kHz; CBR and MAX stay below `8·1276·48000`) for
    every (sub)frame size `e ≤ frame_size`, `e ≤ 60 ms` — PROVIDED the user bit-rate is at most 300000·channels, which is
    what OPUS_SET_BITRATE clamps to (opus_encoder.c:2690; `stOk` alone allows 750000·channels, for which it is false). -/
theorem budget_rate_frame (s : St) (fsz out e : Int) (R : FrameRates s.fs fsz) (hch : s.channels = 1 ∨ s.channels = 2)
    (hubr : s.userBitrate = OPUS_AUTO ∨ s.userBitrate = OPUS_BITRATE_MAX ∨
       (500 ≤ s.userBitrate ∧ s.userBitrate ≤ 750000 * s.channels))
    (hu : s.userBitrate ≤ 300000 * s.channels) (hout : 1 ≤ out) (he : 0 < e ∧ e ≤ fsz ∧ e ≤ 2880) :
    0 ≤ (sizeBudget s fsz out).bitrateBps ∧ (sizeBudget s fsz out).bitrateBps ≤ 4083200 ∧
    (sizeBudget s fsz out).bitrateBps * e ≤ 1728000000 := by
  have hm : 1 ≤ min 1276 out ∧ min 1276 out ≤ 1276 := by omega
  obtain ⟨-, hub1, hub2⟩ := ubTrace_fits s fsz (min 1276 out) R hch hubr hm
  have hfs48 : 8000 ≤ s.fs ∧ s.fs ≤ 48000 := ⟨R.fs1, R.fs2⟩
  have hne : fsz ≠ 0 := by omega
  -- CBR and OPUS_BITRATE_MAX spend at most `8·1276·Fs` bits per second of samples, whatever the frame size
  have hbits : ∀ b c : Int, 0 ≤ b → 0 ≤ c ∧ c ≤ 1276 → b * fsz ≤ 8 * (c * s.fs) → b * e ≤ 1728000000 := by
    intro b c hb hc hbf
    have h5 := mul_nn_le c s.fs 1276 48000 hc ⟨by omega, hfs48.2⟩
    have h6 : b * e ≤ b * fsz := Int.mul_le_mul_of_nonneg_left he.2.1 hb
    omega
  by_cases hv : s.useVbr = 0
  · obtain ⟨-, hc0, hc1, hb0, hb1⟩ := cbrTrace_fits s.fs fsz (userBitrateToBitrate s fsz (min 1276 out)) (min 1276 out) R
      ⟨by omega, hub2⟩ hm
    have hb : (sizeBudget s fsz out).bitrateBps =
        cbrBytes s.fs fsz (userBitrateToBitrate s fsz (min 1276 out)) (min 1276 out) * (12 * s.fs / fsz) * 8 / 12 := by
      simp [sizeBudget, hv]
    rw [hb]
    refine ⟨hb0, hb1, hbits _ _ hb0 ⟨hc0, by omega⟩ ?_⟩
    exact cbrRate_mul_frame _ _ _ s.fs fsz (Int.ediv_mul_le _ (by omega)) (Int.ediv_mul_le _ hne) hc0 (by omega)
  · have hb : (sizeBudget s fsz out).bitrateBps = userBitrateToBitrate s fsz (min 1276 out) := by
      simp [sizeBudget, hv]
    rw [hb]
    refine ⟨by omega, hub2, ?_⟩
    have hub' := userBitrate_eq s fsz (min 1276 out) hne
    have hAUTO : (OPUS_AUTO : Int) = -1000 := rfl
    have hMAX : (OPUS_BITRATE_MAX : Int) = -1 := rfl
    by_cases hmax : s.userBitrate = OPUS_BITRATE_MAX
    · have hx : userBitrateToBitrate s fsz (min 1276 out) = (min 1276 out) * 8 * s.fs / fsz := by
        rw [hub']; rw [if_neg (by omega), if_pos hmax]
      refine hbits _ (min 1276 out) (by omega) ⟨by omega, hm.2⟩ ?_
      rw [hx, Int.mul_left_comm, ← Int.mul_assoc]
      exact Int.ediv_mul_le _ hne
    · have hle : userBitrateToBitrate s fsz (min 1276 out) ≤ 600000 := by
        rw [hub']; split
        · have := R.q2
          rcases hch with hch | hch <;> rw [hch] <;> omega
        · rcases hch with hch | hch <;> rw [hch] at hu <;> omega
      have := mul_nn_le (userBitrateToBitrate s fsz (min 1276 out)) e 600000 2880 ⟨by omega, hle⟩ ⟨by omega, he.2.2⟩
      omega

theorem btTrace_fits (fs e b m red : Int) (hfs : 8000 ≤ fs ∧ fs ≤ 48000) (he : 0 < e ∧ fs ≤ 400 * e)
    (hb : 0 ≤ b ∧ b * e ≤ 2147483647) (hm : 1 ≤ m ∧ m ≤ 1276) (hred : 0 ≤ red ∧ red ≤ 257) :
    (∀ x ∈ btTrace fs e b m red, Fits32 x) ∧ -257 ≤ bytesTarget fs e b m red ∧ bytesTarget fs e b m red ≤ 1275 := by
  have hbe : 0 ≤ b * e := Int.mul_nonneg hb.1 (by omega)
  have hq0 : 0 ≤ b * e / (fs * 8) := Int.ediv_nonneg hbe (by omega)
  have hq1 : b * e / (fs * 8) ≤ b * e := Int.ediv_le_self _ hbe
  have hbt : bytesTarget fs e b m red = min (m - red) (b * e / (fs * 8)) - 1 := rfl
  have hr0 : 0 ≤ fs / e := Int.ediv_nonneg (by omega) (by omega)
  have hr1 : fs / e ≤ 400 := Int.ediv_le_of_le_mul he.1 he.2
  have hbt1 : -257 ≤ bytesTarget fs e b m red ∧ bytesTarget fs e b m red ≤ 1275 := by rw [hbt]; omega
  have hp := mul_abs_le (8 * bytesTarget fs e b m red) (fs / e) 10200 400 ⟨by omega, by omega⟩ ⟨hr0, hr1⟩
  refine ⟨?_, hbt1⟩
  simp only [btTrace, List.forall_mem_cons, List.not_mem_nil, false_imp_iff, implies_true, and_true, Fits32]
  omega

/-- The constants of the multi-frame loop (:1643-1681), each in terms of the others. -/
theorem multiCtx_eqs (s : St) (fsz out cbr : Int) :
    (multiCtx s fsz out cbr).encFs = encFrameSize s fsz ∧
    (multiCtx s fsz out cbr).nbFrames = fsz / (multiCtx s fsz out cbr).encFs ∧
    (multiCtx s fsz out cbr).repacketizeLen =
      (if s.useVbr ≠ 0 ∨ s.userBitrate = OPUS_BITRATE_MAX then out else min cbr out) ∧
    (multiCtx s fsz out cbr).maxLenSum = (multiCtx s fsz out cbr).nbFrames + (multiCtx s fsz out cbr).repacketizeLen -
      (if (multiCtx s fsz out cbr).nbFrames = 2 then 3 else 2 + ((multiCtx s fsz out cbr).nbFrames - 1) * 2) :=
  ⟨rfl, rfl, rfl, rfl⟩

theorem mlTrace_last (s : St) (fsz out cbr : Int) :
    (mlTrace s fsz out cbr).getLast? = some (multiCtx s fsz out cbr).maxLenSum := by
  simp [mlTrace]

/-- opus_encoder.c:1631-1681: all intermediates fit when `1 ≤ nb_frames ≤ 6`, `0 ≤ cbr_bytes ≤ 1276` (or -1 in VBR) and
    `out_data_bytes + nb_frames ≤ INT_MAX` (in particular for `out_data_bytes ≤ 4000`). -/
theorem mlTrace_fits (s : St) (fsz out cbr : Int)
    (hfs : 8000 ≤ s.fs ∧ s.fs ≤ 48000) (hnb : 1 ≤ (multiCtx s fsz out cbr).nbFrames ∧ (multiCtx s fsz out cbr).nbFrames ≤ 6)
    (hout : 1 ≤ out ∧ out + (multiCtx s fsz out cbr).nbFrames ≤ 2147483647) (hcbr : -1 ≤ cbr ∧ cbr ≤ 1276) :
    ∀ x ∈ mlTrace s fsz out cbr, Fits32 x := by
  obtain ⟨hef, -, hrl, hml⟩ := multiCtx_eqs s fsz out cbr
  have hrl2 : -1 ≤ (multiCtx s fsz out cbr).repacketizeLen ∧ (multiCtx s fsz out cbr).repacketizeLen ≤ out := by
    rw [hrl]; split <;> omega
  have he : 0 ≤ encFrameSize s fsz ∧ encFrameSize s fsz ≤ 2880 := by
    unfold encFrameSize; split
    · split
      · omega
      · split <;> omega
    · omega
  simp only [mlTrace, List.forall_mem_cons, List.not_mem_nil, false_imp_iff, implies_true, and_true, Fits32]
  omega

theorem cmTrace_last (s : St) (c : MultiCtx) (tot : Int) :
    (cmTrace s c tot).getLast? = some (currMax s c tot) := by
  simp [cmTrace]

theorem fss_ret_fits (f vd fs : Int) (hfs : 8000 ≤ fs ∧ fs ≤ 48000) :
    -1 ≤ frameSizeSelect f vd fs ∧ frameSizeSelect f vd fs ≤ 5760 := by
  unfold frameSizeSelect
  dsimp only
  split
  · omega
  · split
    · omega
    · split
      · omega
      · split
        · omega
        · split
          · omega
          · omega

theorem fssTrace_last (f vd fs : Int) : (fssTrace f vd fs).getLast? = some (frameSizeSelect f vd fs) := by
  unfold fssTrace
  dsimp only
  repeat' split
  all_goals simp

theorem msTrace_last (vbr br rs nb fs fsz m tot s : Int) :
    (msTrace vbr br rs nb fs fsz m tot s).getLast? =
      some (msCurrMax nb fs fsz (msMaxBytes vbr br rs nb fs fsz m) tot s) := by
  simp [msTrace]

end Opus.EncSkel.Proofs
