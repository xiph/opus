import OpusProofs.ExtBox
/-
  `opus_extension_iterator_next` by phase (the equations of `next`, `mainLoop`, `repeatPhase`), and the iterator invariant.
  `Inv` holds after `iterInit` on any bytes and
  is preserved by `next`, `iterReset` and `iterSetFrameMax`; under it `next` never reads outside the
  buffer, trips none of its assertions, and reports only extensions inside the buffer that
  belong to existing frames.  The same induction through `repeatPhase`, `mainLoop` and `next` carries the
  `opus_int32` bounds `Box` and the potential `phi` of ExtBox along (`Keeps`, `Reports`).
-/
namespace Opus.ExtProofs
open Opus Opus.Ext

/-! `next` by phase.  `mainLoop`, `repeatPhase` and the loops over `next` (ExtCount) are defined by well-founded recursion with
    `match h : …`, where `h` feeds `decreasing_by`; a `match` that binds such a witness cannot be rewritten with an equation for its
    discriminant.  So the outcomes are told apart once, in these equations, and the proofs use them instead of unfolding. -/

theorem next_repeat_ret {it it' : Iter} {s : Step} (h1 : 0 ≤ it.currLen) (h2 : 0 < it.repeatFrame)
    (h : repeatPhase it = .ok (it', some s)) : next it = .ok (it', s) := by
  unfold next
  rw [if_neg (by omega), if_pos h2, h]

theorem next_repeat_none {it it' : Iter} (h1 : 0 ≤ it.currLen) (h2 : 0 < it.repeatFrame)
    (h : repeatPhase it = .ok (it', none)) (h1' : 0 ≤ it'.currLen) (h2' : it'.repeatFrame = 0) : next it = next it' := by
  unfold next
  rw [if_neg (by omega), if_pos h2, h, if_neg (by omega), if_neg (by omega)]

theorem next_repeat_congr {it it1 : Iter} (h1 : 0 ≤ it.currLen) (h2 : 0 < it.repeatFrame) (h1' : 0 ≤ it1.currLen)
    (h2' : 0 < it1.repeatFrame) (h : repeatPhase it = repeatPhase it1) : next it = next it1 := by
  unfold next
  rw [if_neg (by omega), if_pos h2, if_neg (by omega), if_pos h2', h]

theorem mainLoop_cont {it it1 : Iter} (hcl : 0 < it.currLen) (hmb : mainBody it = .ok (.cont it1)) :
    mainLoop it = mainLoop it1 := by
  rw [mainLoop, if_pos hcl]; split <;> simp_all

theorem mainLoop_ret {it it1 : Iter} {s : Step} (hcl : 0 < it.currLen) (hmb : mainBody it = .ok (.ret it1 s)) :
    mainLoop it = .ok (it1, s) := by
  rw [mainLoop, if_pos hcl]; split <;> simp_all

/-- On the repeat indicator the main loop goes on exactly as a fresh call of `next` in the repeat state would
    (the recursive call of extensions.c:271). -/
theorem mainLoop_rep {it it2 : Iter} (hcl : 0 < it.currLen) (hmb : mainBody it = .ok (.rep it2)) (h1 : 0 ≤ it2.currLen)
    (h2 : 0 < it2.repeatFrame) : mainLoop it = next it2 := by
  rw [mainLoop, if_pos hcl, next, if_neg (by omega), if_pos h2]
  split <;> simp_all
  split <;> simp_all

theorem repeatPhase_ret {it it' : Iter} {s : Step} (hlt : it.repeatFrame < it.nbFrames) (hsl : 0 < it.srcLen)
    (hb : repeatBody it = .ok (.ret it' s)) : repeatPhase it = .ok (it', some s) := by
  rw [repeatPhase, if_pos hlt, if_pos hsl]
  split <;> simp_all

theorem repeatPhase_cont {it it1 : Iter} (hlt : it.repeatFrame < it.nbFrames) (hsl : 0 < it.srcLen)
    (hb : repeatBody it = .ok (.cont it1)) : repeatPhase it = repeatPhase it1 := by
  rw [repeatPhase, if_pos hlt, if_pos hsl]
  split <;> simp_all

theorem repeatPhase_switch {it : Iter} (hlt : it.repeatFrame < it.nbFrames) (hsl : ¬ 0 < it.srcLen) :
    repeatPhase it = repeatPhase { it with srcData := it.repeatData, srcLen := it.repeatLen, repeatFrame := it.repeatFrame + 1 } := by
  rw [repeatPhase, if_pos hlt, if_neg hsl]

theorem repeatPhase_end {it : Iter} (hge : ¬ it.repeatFrame < it.nbFrames) : repeatPhase it = .ok (repeatEnd it, none) := by
  rw [repeatPhase, if_neg hge]

theorem mainLoop_done {it : Iter} (hcl : ¬ 0 < it.currLen) : mainLoop it = .ok (it, .done) := by
  rw [mainLoop, if_neg hcl]

theorem next_dead {it : Iter} (h : it.currLen < 0) : next it = .ok (it, .invalid) := by
  rw [next, if_pos h]

theorem next_main {it : Iter} (h1 : 0 ≤ it.currLen) (h2 : it.repeatFrame = 0) (h3 : ¬ it.frameMax ≤ it.currFrame) :
    next it = mainLoop it := by
  unfold next
  rw [if_neg (by omega), if_neg (by omega), if_neg h3]

theorem next_done {it : Iter} (h1 : 0 ≤ it.currLen) (h2 : it.repeatFrame = 0) (h3 : it.frameMax ≤ it.currFrame) :
    next it = .ok (it, .done) := by
  unfold next
  rw [if_neg (by omega), if_neg (by omega), if_pos h3]

theorem next_empty {it : Iter} (h1 : it.currLen = 0) (h2 : it.repeatFrame = 0) : next it = .ok (it, .done) := by
  by_cases h3 : it.frameMax ≤ it.currFrame
  · exact next_done (by omega) h2 h3
  · rw [next_main (by omega) h2 h3]; exact mainLoop_done (by omega)

/-- `[a, b)` holds exactly one extension (ID byte, optional length bytes, payload) that is not a
    "repeat these extensions" indicator and does not extend to the end of the padding implicitly:
    `skip_extension` steps from `a` to `b` whenever at least `b - a` bytes are available. -/
def Good (d : Array Nat) (a b : Nat) : Prop :=
  a < b ∧ b ≤ d.size ∧ (∃ x, d[a]? = some x ∧ x / 2 ≠ 2) ∧
  ∀ len : Int, (b : Int) - a ≤ len → ∃ hs, skipExtension d a len = .ok (some (b, len - ((b : Int) - a), hs))

/-- `[a, b)` is a sequence of `Good` extensions (what the repeat mechanism replays). -/
inductive Seg (d : Array Nat) : Nat → Nat → Prop
  | nil (a : Nat) : Seg d a a
  | snoc {a b c : Nat} : Seg d a b → Good d b c → Seg d a c

theorem Seg.le {d : Array Nat} {a b : Nat} (h : Seg d a b) : a ≤ b := by
  induction h with
  | nil => exact Nat.le_refl _
  | snoc _ hg ih => have := hg.1; omega

theorem Seg.end_le {d : Array Nat} {a b : Nat} (h : Seg d a b) (ha : a ≤ d.size) : b ≤ d.size := by
  cases h with
  | nil => exact ha
  | snoc _ hg => exact hg.2.1

theorem Seg.uncons {d : Array Nat} {a c : Nat} (h : Seg d a c) (hne : a ≠ c) :
    ∃ b, Good d a b ∧ Seg d b c := by
  induction h with
  | nil => exact absurd rfl hne
  | @snoc b c hs hg ih =>
    by_cases hab : a = b
    · subst hab; exact ⟨c, hg, Seg.nil c⟩
    · obtain ⟨m, hm, hseg⟩ := ih hab
      exact ⟨m, hm, Seg.snoc hseg hg⟩

/-- An extension reported by the iterator lies inside the buffer and belongs to an existing frame. -/
def ExtOk (it : Iter) (e : ExtRef) : Prop :=
  3 ≤ e.id ∧ e.id ≤ 127 ∧ e.frame < it.nbFrames ∧ 0 ≤ e.len ∧ (e.off : Int) + e.len ≤ it.len ∧
    (e.id < 32 → e.len ≤ 1)

theorem ExtOk.bounds {it : Iter} {e : ExtRef} (h : ExtOk it e) {len : Int} {nbF : Nat} (hl : it.len = len) (hn : it.nbFrames = nbF) :
    3 ≤ e.id ∧ e.id ≤ 127 ∧ e.frame < nbF ∧ 0 ≤ e.len ∧ (e.off : Int) + e.len ≤ len := by
  subst hl hn; exact ⟨h.1, h.2.1, h.2.2.1, h.2.2.2.1, h.2.2.2.2.1⟩

def StepOk (it : Iter) : Step → Prop
  | .ext e => ExtOk it e
  | _ => True

/-- Fields that `next` and `iterReset` leave alone (`iterSetFrameMax` changes the last). -/
def Same (it it' : Iter) : Prop :=
  it'.data = it.data ∧ it'.len = it.len ∧ it'.nbFrames = it.nbFrames ∧ it'.frameMax = it.frameMax

theorem Same.refl (it : Iter) : Same it it := ⟨rfl, rfl, rfl, rfl⟩
theorem Same.trans {a b c : Iter} (h1 : Same a b) (h2 : Same b c) : Same a c :=
  ⟨h2.1.trans h1.1, h2.2.1.trans h1.2.1, h2.2.2.1.trans h1.2.2.1, h2.2.2.2.trans h1.2.2.2⟩

/-- The iterator invariant: while bytes remain, `curr_data + curr_len` is the end of the buffer (the `celt_assert`s of
    `next`), `curr_frame` is a frame of the packet, and the repeat region `[repeat_data, curr_data)` consists of whole
    extensions none of which is a repeat indicator (`region`); while repeating, so do what is left of the source region
    and the whole repeat region (`rep`), so that `skip_extension` on the source side cannot fail.  `fmax` and the disjunct
    `nb_frames = 0` of `frame` are the corner of a packet without frames: there `frame_max ≤ 0` (`set_frame_max` is admitted
    in `Reach` only with `k ≤ 0` then), so that `next` stops before the main loop would look at `curr_frame`. -/
structure Inv (it : Iter) : Prop where
  len_eq : it.len = it.data.size
  bytes : ∀ (i x : Nat), it.data[i]? = some x → x < 256
  tsl : 0 ≤ it.tsl
  fmax : it.nbFrames = 0 → it.frameMax ≤ 0
  pos : (0 < it.currLen ∨ (0 < it.repeatFrame ∧ 0 ≤ it.currLen)) → (it.currData : Int) + it.currLen = it.len
  frame : 0 < it.currLen → it.currFrame < it.nbFrames ∨ it.nbFrames = 0
  region : it.repeatFrame = 0 → 0 < it.currLen → Seg it.data it.repeatData it.currData
  rep : 0 < it.repeatFrame → 0 ≤ it.currLen →
    (∃ e : Nat, (e : Int) = it.srcData + it.srcLen ∧ Seg it.data it.srcData e) ∧
    (∃ e : Nat, (e : Int) = it.repeatData + it.repeatLen ∧ Seg it.data it.repeatData e)

/-- What an iterator operation keeps: the invariant and the fixed fields; and, for a state inside its `opus_int32`
    bounds (`Box`), those bounds, with a potential that does not rise. -/
structure Keeps (it it' : Iter) : Prop where
  inv : Inv it'
  same : Same it it'
  box : Box it → Box it' ∧ phi it' ≤ phi it

theorem Keeps.refl {it : Iter} (hI : Inv it) : Keeps it it := ⟨hI, Same.refl it, fun hB => ⟨hB, Int.le_refl _⟩⟩

theorem Keeps.trans {a b c : Iter} (h1 : Keeps a b) (h2 : Keeps b c) : Keeps a c :=
  ⟨h2.inv, h1.same.trans h2.same, fun hB => by
    obtain ⟨b1, p1⟩ := h1.box hB
    obtain ⟨b2, p2⟩ := h2.box b1
    exact ⟨b2, by omega⟩⟩

/-- What is known of the value `s` returned on the way from `it` to `it'`: a reported extension lies inside the
    buffer and, within the bounds, has cost one unit of potential and left `curr_len ≥ 0`. -/
def Reports (it it' : Iter) (s : Step) : Prop :=
  StepOk it' s ∧ (Box it → ∀ e, s = .ext e → phi it' + 1 ≤ phi it ∧ 0 ≤ it'.currLen)

theorem Reports.after {a b c : Iter} {s : Step} (hk : Keeps a b) (hr : Reports b c s) : Reports a c s :=
  ⟨hr.1, fun hB e he => by
    obtain ⟨b1, p1⟩ := hk.box hB
    have := hr.2 b1 e he
    omega⟩

/-- The same for the repeat block, which may also run to its end (`none`); then `repeat_frame = 0 ∧ 0 ≤ curr_len`, which is
    what `next` needs to go on with the main loop (`next_main`). -/
def PhaseReports (it it' : Iter) : Option Step → Prop
  | some st => Reports it it' st
  | none => it'.repeatFrame = 0 ∧ 0 ≤ it'.currLen

theorem PhaseReports.after {a b c : Iter} {s : Option Step} (hk : Keeps a b) (hr : PhaseReports b c s) : PhaseReports a c s := by
  cases s with
  | none => exact hr
  | some st => exact Reports.after hk hr

theorem repeatBody_inv {it : Iter} (hI : Inv it) (hrf : 0 < it.repeatFrame) (hlt : it.repeatFrame < it.nbFrames)
    (hsl : 0 < it.srcLen) (hcl : 0 ≤ it.currLen) :
    ∃ r, repeatBody it = .ok r ∧
      match r with
      | .cont it1 => Inv it1 ∧ Same it it1 ∧ 0 ≤ it1.currLen ∧ it1.repeatFrame = it.repeatFrame
      | .ret it1 s => Inv it1 ∧ Same it it1 ∧ StepOk it1 s := by
  obtain ⟨⟨es, hes, hsegs⟩, hrepseg⟩ := hI.rep hrf hcl
  have hne : it.srcData ≠ es := by omega
  obtain ⟨m, hgood, hrest⟩ := hsegs.uncons hne
  obtain ⟨hlt1, hmsz, ⟨rb, hrb, hrb2⟩, hskip⟩ := hgood
  have hmle := hrest.le
  obtain ⟨hs0, hsk⟩ := hskip it.srcLen (by omega)
  have hpos := hI.pos (Or.inr ⟨hrf, hcl⟩)
  have hlen := hI.len_eq
  have hrb256 := hI.bytes _ _ hrb
  have hInv1 : ∀ cl : Int, ∀ cp : Nat, cl ≤ it.currLen → (0 ≤ cl → (cp : Int) + cl = it.len) →
      Inv { it with srcData := m, srcLen := it.srcLen - ((m : Int) - it.srcData), currData := cp, currLen := cl } := by
    intro cl cp hle hp
    refine ⟨hI.len_eq, hI.bytes, hI.tsl, hI.fmax, ?_, ?_, ?_, ?_⟩
    · intro h; simp only at h ⊢; apply hp; omega
    · intro h
      simp only at h ⊢
      exact hI.frame (by omega)
    · intro h; simp only at h; omega
    · intro _ _
      refine ⟨⟨es, ?_, hrest⟩, hrepseg⟩
      simp only; omega
  by_cases h3 : rb ≤ 3
  · exact ⟨_, repeatBody_of_step (.skip hrb hsk h3), hInv1 it.currLen it.currData (Int.le_refl _) (fun _ => hpos),
      ⟨rfl, rfl, rfl, rfl⟩, hcl, rfl⟩
  · have hid : 3 ≤ repIdByte it rb m / 2 ∧ repIdByte it rb m / 2 ≤ 127 := by
      unfold repIdByte; split <;> omega
    obtain ⟨r, hr⟩ := skipPayload_ok it.data it.currData it.currLen (repIdByte it rb m) it.tsl (by omega)
    cases r with
    | none =>
      exact ⟨_, repeatBody_of_step (.invalid hrb hsk h3 hr), hInv1 (-1) it.currData (by omega) (fun h => by omega),
        ⟨rfl, rfl, rfl, rfl⟩, trivial⟩
    | some q =>
      obtain ⟨cp, cl, hs⟩ := q
      have hsp := skipPayload_spec hr
      have hcl' : 0 ≤ cl := hsp.2.1 hcl hI.tsl
      have hI2 := hInv1 cl cp hsp.1 (fun _ => by omega)
      by_cases hfm : it.frameMax ≤ it.repeatFrame
      · exact ⟨_, repeatBody_of_step (.beyond hrb hsk h3 hr (by omega) hfm), hI2, ⟨rfl, rfl, rfl, rfl⟩, hcl', rfl⟩
      · refine ⟨_, repeatBody_of_step (.ext hrb hsk h3 hr (by omega) hfm), hI2, ⟨rfl, rfl, rfl, rfl⟩,
          hid.1, hid.2, hlt, by simp only; omega, by simp only; omega, fun h32 => ?_⟩
        have := skipPayload_short hr (by omega) h32
        simp only; omega

theorem repeatEnd_inv {it : Iter} (hI : Inv it) (hcl : 0 ≤ it.currLen) :
    Inv (repeatEnd it) ∧ Same it (repeatEnd it) ∧ (repeatEnd it).repeatFrame = 0 ∧ 0 ≤ (repeatEnd it).currLen := by
  unfold repeatEnd
  dsimp only
  split
  · refine ⟨⟨hI.len_eq, hI.bytes, hI.tsl, hI.fmax, ?_, ?_, fun _ _ => Seg.nil _, ?_⟩, ⟨rfl, rfl, rfl, rfl⟩, rfl, ?_⟩
    · intro h
      simp only at h ⊢
      split at h
      · omega
      · rename_i hc; rw [if_neg hc]; exact hI.pos (Or.inl (by omega))
    · intro h
      simp only at h ⊢
      split at h <;> omega
    · intro h; simp only at h; omega
    · simp only; split <;> omega
  · refine ⟨⟨hI.len_eq, hI.bytes, hI.tsl, hI.fmax, ?_, hI.frame, fun _ _ => Seg.nil _, ?_⟩, ⟨rfl, rfl, rfl, rfl⟩, rfl, hcl⟩
    · intro h; exact hI.pos (Or.inl (by simp only at h; omega))
    · intro h; simp only at h; omega

theorem repeatBody_keeps {it : Iter} (hI : Inv it) (hrf : 0 < it.repeatFrame) (hlt : it.repeatFrame < it.nbFrames)
    (hsl : 0 < it.srcLen) (hcl : 0 ≤ it.currLen) :
    ∃ r, repeatBody it = .ok r ∧
      match r with
      | .cont it1 => Keeps it it1 ∧ 0 ≤ it1.currLen ∧ it1.repeatFrame = it.repeatFrame
      | .ret it1 s => Keeps it it1 ∧ Reports it it1 s := by
  obtain ⟨r, hr, hp⟩ := repeatBody_inv hI hrf hlt hsl hcl
  have hb := fun hB => repStep_box hB hcl hsl hrf hlt (repeatBody_ok hr)
  refine ⟨r, hr, ?_⟩
  cases r with
  | cont it1 => exact ⟨⟨hp.1, hp.2.1, hb⟩, hp.2.2⟩
  | ret it1 s => exact ⟨⟨hp.1, hp.2.1, fun hB => (hb hB).1⟩, hp.2.2, fun hB => (hb hB).2⟩

theorem repeatNext_keeps {it : Iter} (hI : Inv it) (h0 : 0 < it.repeatFrame) (hcl : 0 ≤ it.currLen)
    (hrf : it.repeatFrame < it.nbFrames) (hsl : ¬ 0 < it.srcLen) :
    Keeps it { it with srcData := it.repeatData, srcLen := it.repeatLen, repeatFrame := it.repeatFrame + 1 } := by
  obtain ⟨hsrc, hrep⟩ := hI.rep h0 hcl
  refine ⟨⟨hI.len_eq, hI.bytes, hI.tsl, hI.fmax, ?_, hI.frame, ?_, ?_⟩, ⟨rfl, rfl, rfl, rfl⟩,
    fun hB => repeatNext_box hB h0 hrf hsl⟩
  · intro _; exact hI.pos (Or.inr ⟨h0, hcl⟩)
  · intro h; simp only at h; omega
  · intro _ _; exact ⟨hrep, hrep⟩

/-- The repeat block on a state satisfying the invariant returns (no out-of-bounds read, no assertion). -/
theorem repeatPhase_keeps (it : Iter) : Inv it → 0 < it.repeatFrame → 0 ≤ it.currLen →
    ∃ it' s, repeatPhase it = .ok (it', s) ∧ Keeps it it' ∧ PhaseReports it it' s := by
  fun_induction repeatPhase it with
  | case1 it hrf hsl it1 hb ih =>
    intro hI h0 hcl
    obtain ⟨r, hr, hprop⟩ := repeatBody_keeps hI h0 hrf hsl hcl
    rw [hb] at hr; cases hr
    obtain ⟨hk, hcl1, hrf1⟩ := hprop
    obtain ⟨it', s, h1, h2, h3⟩ := ih hk.inv (by omega) hcl1
    exact ⟨it', s, h1, hk.trans h2, h3.after hk⟩
  | case2 it hrf hsl it1 s1 hb =>
    intro hI h0 hcl
    obtain ⟨r, hr, hprop⟩ := repeatBody_keeps hI h0 hrf hsl hcl
    rw [hb] at hr; cases hr
    exact ⟨it1, some s1, rfl, hprop⟩
  | case3 it hrf hsl e hb | case4 it hrf hsl hb | case5 it hrf hsl hb =>
    intro hI h0 hcl
    obtain ⟨r, hr, _⟩ := repeatBody_keeps hI h0 hrf hsl hcl
    rw [hb] at hr; cases hr
  | case6 it hrf hsl ih =>
    intro hI h0 hcl
    have hk := repeatNext_keeps hI h0 hcl hrf hsl
    obtain ⟨it', s, h1, h2, h3⟩ := ih hk.inv (by simp) hcl
    exact ⟨it', s, h1, hk.trans h2, h3.after hk⟩
  | case7 it hrf =>
    intro hI h0 hcl
    obtain ⟨h1, h2, h3, h4⟩ := repeatEnd_inv hI hcl
    exact ⟨_, none, rfl, ⟨h1, h2, fun hB => repeatEnd_box hB hcl h0 hrf⟩, h3, h4⟩

/-- Under the invariant a pass through the main body does not fail: `skip_extension` stays inside the buffer, the
    assertion behind it holds, and the increment byte of a separator with `L = 1` is there. -/
theorem mainBody_progress {it : Iter} (hI : Inv it) (hcl : 0 < it.currLen) : ∃ r, mainBody it = .ok r := by
  have hpos := hI.pos (Or.inl hcl)
  have hlen := hI.len_eq
  obtain ⟨r, hr⟩ := skipExtension_ok it.data it.currData it.currLen (by omega)
  obtain ⟨b0, hb0⟩ := skipExtension_first hr hcl
  cases r with
  | none => exact ⟨_, mainBody_of_step (.invalid hb0 hr)⟩
  | some q =>
    obtain ⟨cp, cl, hs⟩ := q
    have hS : Skipped it b0 cp cl hs := ⟨hb0, hr, by have := skipExtension_spec hr; omega⟩
    by_cases hid1 : b0 / 2 = 1
    · have hoob : ¬ (b0 % 2 = 1 ∧ it.data[it.currData + 1]? = none) := by
        intro ⟨hL, hn⟩
        have := (skipExtension_sep hr hcl hb0 hid1 hL).1
        rw [Array.getElem?_eq_none_iff] at hn
        omega
      have hi : SepInc it b0 (if b0 % 2 = 0 then 1 else (it.data[it.currData + 1]?).getD 0) := ⟨hoob, rfl⟩
      generalize (if b0 % 2 = 0 then 1 else (it.data[it.currData + 1]?).getD 0) = inc at hi
      by_cases h0 : inc = 0
      · exact ⟨_, mainBody_of_step (.skip hS (.inr ⟨hid1, h0 ▸ hi⟩))⟩
      · by_cases hnf : it.nbFrames ≤ it.currFrame + inc
        · exact ⟨_, mainBody_of_step (.sepBad inc hS hid1 hi h0 hnf)⟩
        · exact ⟨_, mainBody_of_step (.sep inc hS hid1 hi h0 (by omega))⟩
    · by_cases hid2 : b0 / 2 = 2
      · exact ⟨_, mainBody_of_step (.rep hS hid2)⟩
      · by_cases h32 : 32 ≤ b0 / 2
        · exact ⟨_, mainBody_of_step (.long hS h32)⟩
        · by_cases h2 : 2 < b0 / 2
          · exact ⟨_, mainBody_of_step (.short hS h2 (by omega))⟩
          · exact ⟨_, mainBody_of_step (.skip hS (.inl (by omega)))⟩

/-- A state the iterator has given up on (`curr_len = -1`) satisfies the invariant wherever it stands. -/
theorem inv_dead {it : Iter} (hI : Inv it) (cd cf : Nat) :
    Inv { it with currData := cd, currFrame := cf, currLen := -1 } := by
  refine ⟨hI.len_eq, hI.bytes, hI.tsl, hI.fmax, ?_, ?_, ?_, ?_⟩
  · intro h; simp only at h; omega
  · intro h; simp only at h; omega
  · intro _ h; simp only at h; omega
  · intro _ h; simp only at h; omega

/-- Stepping over something that is not "repeat these extensions": the repeat region grows by it (when something
    follows it). -/
theorem inv_advance {it : Iter} (hI : Inv it) (hrf : it.repeatFrame = 0) (hcl : 0 < it.currLen)
    (hfr : it.currFrame < it.nbFrames) {b0 cp hs : Nat} {cl : Int} (hS : Skipped it b0 cp cl hs) (hne : b0 / 2 ≠ 2)
    (tsl' : Int) (ht : 0 ≤ tsl') (ll : Option Nat) :
    Inv { it with currData := cp, currLen := cl, tsl := tsl', lastLong := ll } := by
  have hsp := skipExtension_spec hS.skip
  have hlen := hI.len_eq
  have hpos := hS.pos
  refine ⟨hI.len_eq, hI.bytes, ht, hI.fmax, ?_, ?_, ?_, ?_⟩
  · intro _; simp only; omega
  · intro _; exact Or.inl hfr
  · intro _ h
    simp only at h ⊢
    refine Seg.snoc (hI.region hrf hcl) ⟨by omega, by omega, ⟨b0, hS.byte, hne⟩, fun len hle => ?_⟩
    exact ⟨hs, skipExtension_mono hS.skip h len hle⟩
  · intro h; simp only at h; omega

theorem mainStep_inv {it : Iter} {r : MFlow} (hI : Inv it) (hrf : it.repeatFrame = 0)
    (hcl : 0 < it.currLen) (hfr : it.currFrame < it.nbFrames) : MainStep it r →
    match r with
    | .cont it1 => Inv it1 ∧ Same it it1 ∧ it1.repeatFrame = 0 ∧ (0 < it1.currLen → it1.currFrame < it1.nbFrames)
    | .ret it1 s => Inv it1 ∧ Same it it1 ∧ StepOk it1 s
    | .rep it2 => Inv it2 ∧ Same it it2 ∧ 0 < it2.repeatFrame ∧ 0 ≤ it2.currLen := by
  have hlen := hI.len_eq
  have hext : ∀ {b0 cp hs : Nat} {cl : Int}, Skipped it b0 cp cl hs → 2 < b0 / 2 →
      0 ≤ cl ∧ ExtOk it { id := b0 / 2, frame := it.currFrame, off := it.currData + hs,
                           len := (cp : Int) - it.currData - hs } := fun {b0 cp hs cl} hS hid => by
    have hsp := skipExtension_spec hS.skip
    have hb256 := hI.bytes _ _ hS.byte
    have hpos := hS.pos
    refine ⟨hsp.1, by simp only; omega, by simp only; omega, hfr, by simp only; omega, by simp only; omega, fun h32 => ?_⟩
    have := skipExtension_short hS.skip hcl hS.byte (by omega) h32
    simp only; omega
  intro h
  cases h with
  | invalid => exact ⟨inv_dead hI _ _, ⟨rfl, rfl, rfl, rfl⟩, trivial⟩
  | sepBad inc hS => exact ⟨inv_dead hI _ _, ⟨rfl, rfl, rfl, rfl⟩, trivial⟩
  | skip hS hg =>
    exact ⟨inv_advance hI hrf hcl hfr hS (by omega) it.tsl hI.tsl it.lastLong, ⟨rfl, rfl, rfl, rfl⟩, hrf, fun _ => hfr⟩
  | long hS h32 =>
    exact ⟨inv_advance hI hrf hcl hfr hS (by omega) 0 (Int.le_refl _) _, ⟨rfl, rfl, rfl, rfl⟩, (hext hS (by omega)).2⟩
  | short hS hid h32 =>
    exact ⟨inv_advance hI hrf hcl hfr hS (by omega) _ (by have := hI.tsl; omega) _, ⟨rfl, rfl, rfl, rfl⟩,
      (hext hS hid).2⟩
  | sep inc hS _ _ hne hlt =>
    have hsp := skipExtension_spec hS.skip
    have hpos := hS.pos
    refine ⟨⟨hI.len_eq, hI.bytes, Int.le_refl _, hI.fmax, ?_, ?_, ?_, ?_⟩, ⟨rfl, rfl, rfl, rfl⟩, hrf, fun _ => hlt⟩
    · intro h; simp only at h ⊢
      by_cases hc : it.frameMax ≤ ((it.currFrame + inc : Nat) : Int)
      · rw [if_pos hc] at h; omega
      · rw [if_neg hc] at h ⊢; omega
    · intro _; exact Or.inl hlt
    · intro _ _; exact Seg.nil _
    · intro h; simp only at h; omega
  | rep hS hid =>
    have hsp := skipExtension_spec hS.skip
    have hpos := hS.pos
    have hseg := hI.region hrf hcl
    have hle := hseg.le
    refine ⟨⟨hI.len_eq, hI.bytes, hI.tsl, hI.fmax, ?_, ?_, ?_, ?_⟩, ⟨rfl, rfl, rfl, rfl⟩, Nat.succ_pos _, hsp.1⟩
    · intro _; simp only; omega
    · intro _; exact Or.inl hfr
    · intro h; simp only at h; omega
    · intro _ _
      exact ⟨⟨it.currData, by simp only; omega, hseg⟩, ⟨it.currData, by simp only; omega, hseg⟩⟩

theorem mainBody_keeps {it : Iter} (hI : Inv it) (hrf : it.repeatFrame = 0) (hcl : 0 < it.currLen)
    (hfr : it.currFrame < it.nbFrames) :
    ∃ r, mainBody it = .ok r ∧
      match r with
      | .cont it1 => Keeps it it1 ∧ it1.repeatFrame = 0 ∧ (0 < it1.currLen → it1.currFrame < it1.nbFrames)
      | .ret it1 s => Keeps it it1 ∧ Reports it it1 s
      | .rep it2 => Keeps it it2 ∧ 0 < it2.repeatFrame ∧ 0 ≤ it2.currLen := by
  obtain ⟨r, hr⟩ := mainBody_progress hI hcl
  have hp := mainStep_inv hI hrf hcl hfr (mainBody_ok hr)
  have hb := fun hB => mainStep_box hI.bytes hB hrf hcl (by omega) (mainBody_ok hr)
  refine ⟨r, hr, ?_⟩
  cases r with
  | cont it1 => exact ⟨⟨hp.1, hp.2.1, hb⟩, hp.2.2⟩
  | rep it2 => exact ⟨⟨hp.1, hp.2.1, hb⟩, hp.2.2⟩
  | ret it1 s => exact ⟨⟨hp.1, hp.2.1, fun hB => (hb hB).1⟩, hp.2.2, fun hB => (hb hB).2⟩

theorem frame_of_not_done {it : Iter} (hI : Inv it) (h : ¬ it.frameMax ≤ it.currFrame) (hcl : 0 < it.currLen) :
    it.currFrame < it.nbFrames := by
  rcases hI.frame hcl with h1 | h1
  · exact h1
  · have := hI.fmax h1; omega

theorem mainLoop_keeps (it : Iter) : Inv it → it.repeatFrame = 0 → (0 < it.currLen → it.currFrame < it.nbFrames) →
    ∃ it' s, mainLoop it = .ok (it', s) ∧ Keeps it it' ∧ Reports it it' s := by
  -- Induction on `curr_len`, which every pass lowers (`mainBody_dec`): one case per outcome of `mainBody`.
  generalize hn : it.currLen.toNat = n
  induction n using Nat.strongRecOn generalizing it with
  | ind n ih =>
  intro hI hrf hfr
  by_cases hl : 0 < it.currLen
  · obtain ⟨r, hr, hprop⟩ := mainBody_keeps hI hrf hl (hfr hl)
    cases r with
    | cont it1 =>
      obtain ⟨hk, hrf1, hfr1⟩ := hprop
      obtain ⟨it', s, h1, h2, h3⟩ :=
        ih _ (by have := (mainBody_dec hl).1 _ hr; omega) it1 rfl hk.inv hrf1 hfr1
      exact ⟨it', s, (mainLoop_cont hl hr).trans h1, hk.trans h2, h3.after hk⟩
    | ret it1 s => exact ⟨it1, s, mainLoop_ret hl hr, hprop⟩
    | rep it2 =>
      obtain ⟨hk, hrf2, hcl2⟩ := hprop
      obtain ⟨it3, s', h1, h2, h3⟩ := repeatPhase_keeps it2 hk.inv hrf2 hcl2
      have hk3 := hk.trans h2
      rw [mainLoop_rep hl hr hcl2 hrf2]
      cases s' with
      | some st => exact ⟨it3, st, next_repeat_ret hcl2 hrf2 h1, hk3, Reports.after hk h3⟩
      | none =>
        rw [next_repeat_none hcl2 hrf2 h1 h3.2 h3.1]
        by_cases hfm : it3.frameMax ≤ it3.currFrame
        · exact ⟨it3, .done, next_done h3.2 h3.1 hfm, hk3, trivial, fun _ _ he => by cases he⟩
        · have hlt : it3.currLen.toNat < n := by
            have := (mainBody_dec hl).2.1 _ hr
            have := repeatPhase_currLen_le _ _ _ h1
            omega
          obtain ⟨it'', s'', g1, g2, g3⟩ := ih _ hlt it3 rfl h2.inv h3.1 (frame_of_not_done h2.inv hfm)
          exact ⟨it'', s'', (next_main h3.2 h3.1 hfm).trans g1, hk3.trans g2, g3.after hk3⟩
  · exact ⟨it, .done, mainLoop_done hl, Keeps.refl hI, trivial, fun _ _ he => by cases he⟩

/-- `next` outside the repeat block: nothing more for the frames asked for, or the main loop. -/
theorem next_main_keeps {it : Iter} (hI : Inv it) (hcl : 0 ≤ it.currLen) (hrf : it.repeatFrame = 0) :
    ∃ it' s, next it = .ok (it', s) ∧ Keeps it it' ∧ Reports it it' s := by
  by_cases hfm : it.frameMax ≤ it.currFrame
  · exact ⟨it, .done, next_done hcl hrf hfm, Keeps.refl hI, trivial, fun _ _ he => by cases he⟩
  · rw [next_main hcl hrf hfm]
    exact mainLoop_keeps it hI hrf (frame_of_not_done hI hfm)

/-- `next` on a state satisfying the invariant: it returns (no out-of-bounds read, no assertion),
    the invariant holds again, and a reported extension is inside the buffer. -/
theorem next_keeps {it : Iter} (hI : Inv it) : ∃ it' s, next it = .ok (it', s) ∧ Keeps it it' ∧ Reports it it' s := by
  by_cases h0 : it.currLen < 0
  · exact ⟨it, .invalid, next_dead h0, Keeps.refl hI, trivial, fun _ _ he => by cases he⟩
  · by_cases hrf : 0 < it.repeatFrame
    · obtain ⟨it1, s1, h1, h2, h3⟩ := repeatPhase_keeps it hI hrf (by omega)
      cases s1 with
      | some st => exact ⟨it1, st, next_repeat_ret (by omega) hrf h1, h2, h3⟩
      | none =>
        obtain ⟨it2, s2, g1, g2, g3⟩ := next_main_keeps h2.inv h3.2 h3.1
        exact ⟨it2, s2, (next_repeat_none (by omega) hrf h1 h3.2 h3.1).trans g1, h2.trans g2, g3.after h2⟩
    · exact next_main_keeps hI (by omega) (by omega)

theorem iterInit_inv {d : Bytes} {len nbFrames : Int} {it : Iter} (hb : BytesOk d) (hl : len ≤ d.length)
    (h : iterInit d len nbFrames = .ok it) : Inv it ∧ it.len = len ∧ (it.nbFrames : Int) = nbFrames ∧
      it.data = (d.take len.toNat).toArray := by
  obtain ⟨h0, h1, h2, rfl⟩ := iterInit_eq.mp h
  refine ⟨⟨?_, ?_, Int.le_refl _, ?_, ?_, ?_, ?_, ?_⟩, rfl, by simp only; omega, rfl⟩
  · simp only [List.size_toArray, List.length_take]; omega
  · intro i x hx
    simp only [List.getElem?_toArray] at hx
    have hm : x ∈ d.take len.toNat := List.mem_of_getElem? hx
    exact hb x (List.mem_of_mem_take hm)
  · intro h; simp only at h ⊢; omega
  · intro _; simp only; omega
  · intro h; simp only at h ⊢; omega
  · intro _ _; exact Seg.nil _
  · intro h; simp only at h; omega

theorem iterReset_inv {it : Iter} (hI : Inv it) : Inv (iterReset it) ∧ Same it (iterReset it) := by
  unfold iterReset
  refine ⟨⟨hI.len_eq, hI.bytes, Int.le_refl _, hI.fmax, ?_, ?_, ?_, ?_⟩, ⟨rfl, rfl, rfl, rfl⟩⟩
  · intro _; simp only; omega
  · intro _; simp only; omega
  · intro _ _; exact Seg.nil _
  · intro h; simp only at h; omega

theorem iterSetFrameMax_inv {it : Iter} (hI : Inv it) (k : Int) (hk : it.nbFrames = 0 → k ≤ 0) :
    Inv (iterSetFrameMax it k) :=
  ⟨hI.len_eq, hI.bytes, hI.tsl, hk, hI.pos, hI.frame, hI.region, hI.rep⟩

/-- Iterator states a caller can produce on the padding bytes `d` of a packet with `nbFrames` frames:
    `init`, then any sequence of `next` / `reset` / `set_frame_max`. -/
inductive Reach (d : Bytes) (nbFrames : Nat) : Iter → Prop
  | init {it} : iterInit d d.length nbFrames = .ok it → Reach d nbFrames it
  | next {it it' s} : Reach d nbFrames it → Ext.next it = .ok (it', s) → Reach d nbFrames it'
  | reset {it} : Reach d nbFrames it → Reach d nbFrames (iterReset it)
  | setFrameMax {it} (k : Int) : Reach d nbFrames it → (nbFrames = 0 → k ≤ 0) →
      Reach d nbFrames (iterSetFrameMax it k)

/-- What is known of a state a caller can reach on the padding `d` of a packet with `nbFrames` frames. -/
structure Reached (d : Bytes) (nbFrames : Nat) (it : Iter) : Prop where
  inv : Inv it
  box : Box it
  len : it.len = d.length
  nb : it.nbFrames = nbFrames
  data : it.data = d.toArray

theorem Reach.reached {d : Bytes} {nbFrames : Nat} (hb : BytesOk d) {it : Iter} (h : Reach d nbFrames it) :
    Reached d nbFrames it := by
  induction h with
  | init h =>
    obtain ⟨h1, h2, h3, h4⟩ := iterInit_inv hb (Int.le_refl _) h
    refine ⟨h1, (iterInit_box h).1, h2, by omega, ?_⟩
    rw [h4]; simp
  | next _ hn ih =>
    obtain ⟨it1, s1, g1, g2, _⟩ := next_keeps ih.inv
    rw [hn] at g1; cases g1
    have g3 := g2.same
    exact ⟨g2.inv, (g2.box ih.box).1, by rw [g3.2.1]; exact ih.len, by rw [g3.2.2.1]; exact ih.nb,
      by rw [g3.1]; exact ih.data⟩
  | reset _ ih => exact ⟨(iterReset_inv ih.inv).1, iterReset_box ih.box, ih.len, ih.nb, ih.data⟩
  | setFrameMax k _ hk ih =>
    exact ⟨iterSetFrameMax_inv ih.inv k (by intro h; exact hk (by rw [← ih.nb]; exact h)),
      iterSetFrameMax_box ih.box k, ih.len, ih.nb, ih.data⟩

end Opus.ExtProofs
