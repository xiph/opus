import OpusProofs.RangeCoderDec
/-
  OpusProofs.RangeCoderSym — C08, decoder side of a primitive range-coded operation, in its three parts:
  invariant D goes through the subdivision and puts `val` in the symbol's sub-interval (`decSub_spec`); a `val`
  there makes the decoder return the symbol (`decOp_matches`); a decoder that returned the symbol is `decNormalize` of
  the subdivided state (`decOp_prim`, which Stage A uses by itself).  They are put together in `decOp_prim_spec`
  (RangeCoderDecBits), which needs the run invariant of RangeCoderRun.
-/
namespace Opus.RangeCoder

/-- The decoder's pre-normalisation state of a subdivision `(r, a, b, first)`. -/
def decSub (d : Dec) (r a b : Nat) (first : Bool) : Dec :=
  { d with val := d.val - r * b, rng := if first then d.rng - r * b else r * (a - b) }

theorem DecInv.set_ext {B : List Nat} {S : Nat} {e : Enc} {d : Dec} {Bt : List Nat} (h : DecInv B S e d Bt)
    (x : Nat) : DecInv B S e { d with ext := x } Bt :=
  ⟨h.buf_eq, h.storage_eq, h.rng_eq, h.nbits_eq, h.val_eq, h.offs_eq, h.rem_eq⟩

/-- Invariant D across the subdivision step, and where the decoder's `val` lies. -/
theorem decSub_spec (B : List Nat) (S : Nat) (e : Enc) (d : Dec) (r a b : Nat) (first : Bool) (Bt : List Nat)
    (inv : EncInv e) (ok : SubOk e.rng r a b) (dinv : DecInv B S e d Bt)
    (hc : Contains Bt S (encSub e r a b first)) :
    DecInv B S (encSub e r a b first) (decSub d r a b first) Bt ∧ r * b ≤ d.val ∧ d.val < e.rng ∧
    (first = false → d.val < r * a) := by
  obtain ⟨f1, f2, f3⟩ := ok.facts
  have hr := ok.r_pos
  have hc0 : Contains Bt S e := (encSub_spec e r a b first inv ok).2.2 Bt S hc
  obtain ⟨ib, is, ir, inb, iv, io, irem⟩ := dinv
  unfold Contains encLow at hc hc0
  rw [encSub_digitsVal, encSub_encM] at hc
  have key : (decSub d r a b first).val + codeVal Bt S (encM e + 4) / 2 + 1 =
      digitsVal e * 2147483648 + (encSub e r a b first).val + (encSub e r a b first).rng ∧
      r * b ≤ d.val ∧ d.val < e.rng ∧ (first = false → d.val < r * a) ∧
      (decSub d r a b first).rng = (encSub e r a b first).rng := by
    unfold encLow at iv
    cases first
    · simp only [encSub, decSub, Bool.false_eq_true, if_false] at hc ⊢
      rw [f2] at hc ⊢
      refine ⟨by omega, by omega, by omega, fun _ => by omega, trivial⟩
    · simp only [encSub, decSub, if_true] at hc ⊢
      refine ⟨by omega, by omega, by omega, fun h => absurd h (by decide), by rw [ir]⟩
  obtain ⟨k1, k2, k3, k4, k5⟩ := key
  refine ⟨⟨ib, is, k5, by rw [encSub_nbitsTotal]; exact inb, ?_, ?_, ?_⟩, k2, k3, k4⟩
  · unfold encLow; rw [encSub_digitsVal, encSub_encM]; omega
  · rw [encSub_encM]; exact io
  · rw [encSub_encM]; exact irem

theorem decNormalize_frame {α} (f : Dec → α)
    (h : ∀ (d : Dec) o n r m v, f { d with offs := o, nbitsTotal := n, rng := r, rem := m, val := v } = f d)
    (d : Dec) : f (decNormalize d) = f d := by
  fun_induction decNormalize d with
  | case1 c hc b c1 hb sym ih =>
    rw [ih]
    have : c1 = (readByte c).2 := by rw [hb]
    subst this
    unfold readByte
    split
    · exact h c _ _ _ _ _
    · exact h c c.offs _ _ _ _
  | case2 c hc => rfl

@[simp] theorem decNormalize_endOffs (d : Dec) : (decNormalize d).endOffs = d.endOffs :=
  decNormalize_frame (·.endOffs) (fun _ _ _ _ _ _ => rfl) d
@[simp] theorem decNormalize_endWindow (d : Dec) : (decNormalize d).endWindow = d.endWindow :=
  decNormalize_frame (·.endWindow) (fun _ _ _ _ _ _ => rfl) d
@[simp] theorem decNormalize_nendBits (d : Dec) : (decNormalize d).nendBits = d.nendBits :=
  decNormalize_frame (·.nendBits) (fun _ _ _ _ _ _ => rfl) d
@[simp] theorem decNormalize_error (d : Dec) : (decNormalize d).error = d.error :=
  decNormalize_frame (·.error) (fun _ _ _ _ _ _ => rfl) d
@[simp] theorem decNormalize_buf (d : Dec) : (decNormalize d).buf = d.buf :=
  decNormalize_frame (·.buf) (fun _ _ _ _ _ _ => rfl) d
@[simp] theorem decNormalize_storage (d : Dec) : (decNormalize d).storage = d.storage :=
  decNormalize_frame (·.storage) (fun _ _ _ _ _ _ => rfl) d

/-- The search returns the first index whose product does not exceed `d`. -/
theorem decIcdfLoop_index (r d : Nat) : ∀ (tbl : List Nat) (s t k : Nat), s < tbl.length →
    (∀ j, j < s → d < mul32 r (tbl.getD j 0)) → ¬ d < mul32 r (tbl.getD s 0) →
    (decIcdfLoop r d tbl t k).1 = k + s
  | [], s, t, k, hs, _, _ => by simp at hs
  | x :: xs, 0, t, k, _, _, hge => by
    simp only [List.getD_cons_zero] at hge
    simp [decIcdfLoop, hge]
  | x :: xs, s + 1, t, k, hs, hlt, hge => by
    have h0 := hlt 0 (by omega)
    simp only [List.getD_cons_zero] at h0
    simp only [decIcdfLoop, h0, if_true]
    rw [decIcdfLoop_index r d xs s (mul32 r x) (k + 1) (by simpa using hs)
      (fun j hj => by have := hlt (j + 1) (by omega); simpa using this) (by simpa using hge)]
    omega

/-- Entries of an ICDF table before position `s` are at least the entry at `s - 1`. -/
theorem icdf_prefix_ge {tbl : List Nat} {ftb s : Nat} (h : IcdfOk tbl ftb) (hs : s < tbl.length) (hs0 : 0 < s)
    (j : Nat) (hj : j < s) : tbl.getD (s - 1) 0 ≤ tbl.getD j 0 ∧ tbl.getD j 0 < 2 ^ ftb := by
  refine ⟨?_, h.getD_lt_pow j (by omega)⟩
  by_cases e : j = s - 1
  · rw [e]; exact Nat.le_refl _
  · exact Nat.le_of_lt (h.getD_lt (by omega) (by omega))

/-- Whatever index the search returns, the two products it returns are those of that index (the second only if the index
    is one of the table). -/
theorem decIcdfLoop_out (r d : Nat) : ∀ (tbl : List Nat) (t0 k0 : Nat),
    k0 ≤ (decIcdfLoop r d tbl t0 k0).1 ∧
    ((decIcdfLoop r d tbl t0 k0).1 - k0 < tbl.length →
      (decIcdfLoop r d tbl t0 k0).2.2 = mul32 r (tbl.getD ((decIcdfLoop r d tbl t0 k0).1 - k0) 0)) ∧
    (decIcdfLoop r d tbl t0 k0).2.1 =
      if (decIcdfLoop r d tbl t0 k0).1 = k0 then t0
      else mul32 r (tbl.getD ((decIcdfLoop r d tbl t0 k0).1 - k0 - 1) 0)
  | [], t0, k0 => by simp [decIcdfLoop]
  | x :: xs, t0, k0 => by
    by_cases hlt : d < mul32 r x
    · have e : decIcdfLoop r d (x :: xs) t0 k0 = decIcdfLoop r d xs (mul32 r x) (k0 + 1) := by
        simp only [decIcdfLoop, hlt, if_true]
      rw [e]
      obtain ⟨i1, i2, i3⟩ := decIcdfLoop_out r d xs (mul32 r x) (k0 + 1)
      generalize (decIcdfLoop r d xs (mul32 r x) (k0 + 1)) = res at *
      obtain ⟨k, t, s⟩ := res
      simp only at i1 i2 i3 ⊢
      have e1 : k - k0 = (k - (k0 + 1)) + 1 := by omega
      refine ⟨by omega, fun h => ?_, ?_⟩
      · rw [i2 (by simp only [List.length_cons] at h; omega), e1, List.getD_cons_succ]
      · rw [i3, if_neg (show ¬ k = k0 by omega)]
        by_cases hk1 : k = k0 + 1
        · rw [if_pos hk1, hk1]; simp
        · rw [if_neg hk1]
          have e2 : k - k0 - 1 = (k - (k0 + 1) - 1) + 1 := by omega
          rw [e2, List.getD_cons_succ]
    · have e : decIcdfLoop r d (x :: xs) t0 k0 = (k0, t0, mul32 r x) := by
        simp only [decIcdfLoop, hlt, if_false]
      rw [e]
      simp

/-- `ec_decode_bin` is `ec_decode` with `ft = 2^bits`. -/
theorem decodeBin_eq_decode (d : Dec) (bits : Nat) (h : 2 ^ bits < 4294967296) :
    decodeBin d bits = decode d (2 ^ bits) := by
  unfold decodeBin decode udiv; rw [u32_of_lt h]

/-- `ec_dec_update` after `ec_decode`: the subdivision at `(rng / ft, ft - fl, ft - fh)` in 32-bit arithmetic. -/
theorem decUpdate_eq (d : Dec) {fl fh ft : Nat} (h1 : fl < fh) (h2 : fh ≤ ft) (h3 : ft < 4294967296) :
    decUpdate (decode d ft).2 fl fh ft =
      decNormalize { d with ext := d.rng / ft, val := sub32 d.val (mul32 (d.rng / ft) (ft - fh)),
                            rng := rho32 d.rng (d.rng / ft) (ft - fl) (ft - fh) (decide (fl = 0)) } := by
  have e2 : sub32 fh fl = (ft - fl) - (ft - fh) := by rw [sub32_of_le (by omega) (by omega)]; omega
  have e3 : sub32 ft fh = ft - fh := sub32_of_le h3 h2
  unfold decUpdate decode udiv rho32
  simp only [e2, e3]
  by_cases hfl : fl = 0
  · rw [if_neg (show ¬ fl > 0 by omega), if_pos (show decide (fl = 0) = true by simpa using hfl)]
  · rw [if_pos (show fl > 0 by omega), if_neg (show ¬ decide (fl = 0) = true by simpa using hfl)]

/-- `ec_decode` returns a cumulative frequency of the symbol whose sub-interval contains `val`. -/
theorem decode_matches (d : Dec) {fl fh ft : Nat} (h1 : fl < fh) (h2 : fh ≤ ft) (h3 : ft ≤ 65536)
    (hr : RngOk d) (k2 : d.rng / ft * (ft - fh) ≤ d.val) (k3 : d.val < d.rng)
    (k4 : fl ≠ 0 → d.val < d.rng / ft * (ft - fl)) : fl ≤ (decode d ft).1 ∧ (decode d ft).1 < fh := by
  have hrp : 0 < d.rng / ft := Nat.div_pos (by have := hr.1; omega) (by omega)
  have q1 : ft - fh ≤ d.val / (d.rng / ft) := (Nat.le_div_iff_mul_le hrp).2 (by rw [Nat.mul_comm]; exact k2)
  have q2 : fl ≠ 0 → d.val / (d.rng / ft) < ft - fl := fun h =>
    (Nat.div_lt_iff_lt_mul hrp).2 (by rw [Nat.mul_comm]; exact k4 h)
  have q3 : d.val / (d.rng / ft) ≤ d.val := Nat.div_le_self _ _
  have h4 := hr.2
  simp only [decode, udiv]
  generalize d.val / (d.rng / ft) = q at *
  rw [u32_of_lt (show q < 4294967296 by omega), u32_of_lt (show q + 1 < 4294967296 by omega)]
  unfold mini
  by_cases hfl : fl = 0
  · split <;> rw [sub32_of_le (by omega) (by omega)] <;> omega
  · have := q2 hfl
    rw [if_neg (by omega), sub32_of_le (by omega) (by omega)]; omega

/-- `ec_dec_icdf` returns the symbol whose sub-interval contains `val`. -/
theorem decIcdf_matches (d : Dec) (tbl : List Nat) (ftb s : Nat) (l1 : IcdfOk tbl ftb) (l2 : s < tbl.length)
    (hr : RngOk d) (k2 : d.rng / 2 ^ ftb * tbl.getD s 0 ≤ d.val)
    (k4 : s ≠ 0 → d.val < d.rng / 2 ^ ftb * tbl.getD (s - 1) 0) : (decIcdf d tbl ftb).1 = s := by
  obtain ⟨g1, g2⟩ := icdf_facts l1 l2
  have hm : ∀ y, y ≤ 2 ^ ftb → mul32 (d.rng / 2 ^ ftb) y = d.rng / 2 ^ ftb * y := fun y hy =>
    mul32_div (by have := hr.2; omega) hy
  have hloop := decIcdfLoop_index (d.rng / 2 ^ ftb) d.val tbl s d.rng 0 l2
    (by
      intro j hj
      obtain ⟨p1, p2⟩ := icdf_prefix_ge l1 l2 (by omega) j hj
      rw [hm _ (by omega)]
      have := k4 (by omega)
      have := Nat.mul_le_mul_left (d.rng / 2 ^ ftb) p1
      omega)
    (by rw [hm _ (by omega)]; omega)
  simp only [decIcdf, hloop, Nat.zero_add]

/-- The decoder returns the coded symbol when its `val` lies in the symbol's sub-interval. -/
theorem decOp_matches (d : Dec) (op : Op) (hl : op.Legal) (hr : RngOk d) {r a b : Nat} {first : Bool}
    (hsub : op.sub d.rng = some (r, a, b, first)) (k2 : r * b ≤ d.val) (k3 : d.val < d.rng)
    (k4 : first = false → d.val < r * a) : op.Matches (decOp d op).1 := by
  revert k2 k4
  refine Op.sub_cases ?_ ?_ ?_ ?_ ?_ ?_ hl hsub
  · rintro fl fh ft ⟨l1, l2, -, l4⟩ k2 k4
    exact decode_matches d l1 l2 l4 hr k2 k3 (fun h => k4 (by simpa using h))
  · rintro fl fh nb ⟨l1, l2, -, l4⟩ k2 k4
    have hp := two_pow_le_65536 l4
    simp only [decOp, Op.Matches, decodeBin_eq_decode d nb (by omega)]
    exact decode_matches d l1 l2 hp hr k2 k3 (fun h => k4 (by simpa using h))
  · rintro v logp hv - k2 k4
    have hlt : d.val < d.rng / 2 ^ logp := by have := k4 rfl; omega
    simp only [decOp, decBitLogp, Op.Matches]
    rw [if_pos hv, if_pos (decide_eq_true hlt)]
  · rintro logp - k2 k4
    have hge : ¬ d.val < d.rng / 2 ^ logp := by omega
    simp only [decOp, decBitLogp, Op.Matches]
    rw [if_neg (by simpa using hge), if_neg (by decide)]
  · rintro s tbl ftb ⟨l1, l2, -⟩ k2 k4
    exact decIcdf_matches d tbl ftb s l1 l2 hr k2 (fun h => by simpa [h] using k4 (by simpa using h))
  · rintro s tbl ftb ⟨l1, l2, -⟩ k2 k4
    exact decIcdf_matches d tbl ftb s l1 l2 hr k2 (fun h => by simpa [h] using k4 (by simpa using h))

/-- `ec_dec_icdf`, when it returns `s`: the subdivision at `(rng / 2^ftb, icdf[s-1], icdf[s])` in 32-bit arithmetic. -/
theorem decIcdf_eq (d : Dec) (tbl : List Nat) (ftb s : Nat) (l1 : IcdfOk tbl ftb) (l2 : s < tbl.length)
    (hr : RngOk d) (hm : (decIcdf d tbl ftb).1 = s) :
    (decIcdf d tbl ftb).2 = decNormalize { d with
      val := sub32 d.val (mul32 (d.rng / 2 ^ ftb) (tbl.getD s 0)),
      rng := rho32 d.rng (d.rng / 2 ^ ftb) (if s = 0 then 2 ^ ftb else tbl.getD (s - 1) 0) (tbl.getD s 0)
        (decide (s = 0)) } := by
  obtain ⟨g1, g2⟩ := icdf_facts l1 l2
  have h4 := hr.2
  have hfit : d.rng / 2 ^ ftb * 2 ^ ftb ≤ d.rng := Nat.div_mul_le_self _ _
  have hmul : ∀ y, y ≤ 2 ^ ftb → mul32 (d.rng / 2 ^ ftb) y = d.rng / 2 ^ ftb * y := fun y hy =>
    mul32_div (by omega) hy
  simp only [decIcdf] at hm ⊢
  have hout := decIcdfLoop_out (d.rng / 2 ^ ftb) d.val tbl d.rng 0
  generalize decIcdfLoop (d.rng / 2 ^ ftb) d.val tbl d.rng 0 = res at *
  obtain ⟨k, t, sv⟩ := res
  simp only at hm hout ⊢
  subst hm
  obtain ⟨_, o2, o3⟩ := hout
  simp only [Nat.sub_zero] at o2 o3
  unfold rho32
  rw [o2 l2, o3]
  by_cases hk : k = 0
  · simp only [hk, if_true, decide_true]
  · simp only [hk, if_false, decide_false, Bool.false_eq_true] at g1 g2 ⊢
    rw [hmul _ g2, hmul _ (by omega), hmul _ (by omega),
      sub32_of_le (by have := Nat.mul_le_mul_left (d.rng / 2 ^ ftb) g2; omega) (Nat.mul_le_mul_left _ (by omega)),
      Nat.mul_sub]

/-- The decoder call of a primitive range-coded operation that returns the coded symbol leaves, before
    `ec_dec_normalize`, the range of the operation's `Op.sub` parameters (in 32-bit arithmetic) and `val` lowered by
    `r * b`; `ext` is scratch.  (`ec_dec_bit_logp` leaves `val` alone for a one: that is `val - r * 0` only for a
    `val` that is an `opus_uint32`.) -/
theorem decOp_prim (d : Dec) (op : Op) (hl : op.Legal) (hr : RngOk d) {r a b : Nat} {first : Bool}
    (hsub : op.sub d.rng = some (r, a, b, first)) (hm : op.Matches (decOp d op).1) :
    ∃ x v, (decOp d op).2 = decNormalize { d with ext := x, val := v, rng := rho32 d.rng r a b first } ∧
      (d.val < 4294967296 → v = sub32 d.val (mul32 r b)) := by
  have h4 := hr.2
  have e1 : ∀ logp, mul32 (d.rng / 2 ^ logp) 1 = d.rng / 2 ^ logp := fun logp =>
    (mul32_div (by omega) Nat.one_le_two_pow).trans (Nat.mul_one _)
  revert hm
  refine Op.sub_cases ?_ ?_ ?_ ?_ ?_ ?_ hl hsub
  · rintro fl fh ft ⟨l1, l2, -, l4⟩ -
    exact ⟨_, _, decUpdate_eq d l1 l2 (by omega), fun _ => rfl⟩
  · rintro fl fh nb ⟨l1, l2, -, l4⟩ -
    have hp := two_pow_le_65536 l4
    refine ⟨d.rng / 2 ^ nb, sub32 d.val (mul32 (d.rng / 2 ^ nb) (2 ^ nb - fh)), ?_, fun _ => rfl⟩
    simp only [decOp, decodeBin_eq_decode d nb (by omega), u32_of_lt (show 2 ^ nb < 4294967296 by omega)]
    exact decUpdate_eq d l1 l2 (by omega)
  · rintro v logp hv - hm
    simp only [decOp, decBitLogp, Op.Matches, if_pos hv] at hm ⊢
    have hlt : decide (d.val < d.rng / 2 ^ logp) = true := by
      by_cases h : d.val < d.rng / 2 ^ logp
      · exact decide_eq_true h
      · rw [if_neg (by simpa using h)] at hm; cases hm
    refine ⟨d.ext, d.val, ?_, fun h => by unfold sub32 mul32; omega⟩
    simp only [hlt, if_true, rho32, Bool.false_eq_true, if_false, Nat.sub_zero, e1]
  · rintro logp - hm
    simp only [decOp, decBitLogp, Op.Matches, if_neg (show ¬ (0 : Nat) ≠ 0 by decide)] at hm ⊢
    have hge : decide (d.val < d.rng / 2 ^ logp) = false := by
      by_cases h : d.val < d.rng / 2 ^ logp
      · rw [if_pos (decide_eq_true h)] at hm; cases hm
      · exact decide_eq_false h
    refine ⟨d.ext, sub32 d.val (d.rng / 2 ^ logp), ?_, fun _ => by rw [e1]⟩
    simp only [hge, Bool.false_eq_true, if_false, rho32, if_true, e1]
  · rintro s tbl ftb ⟨l1, l2, -⟩ hm
    exact ⟨d.ext, _, decIcdf_eq d tbl ftb s l1 l2 hr hm, fun _ => rfl⟩
  · rintro s tbl ftb ⟨l1, l2, -⟩ hm
    exact ⟨d.ext, _, decIcdf_eq d tbl ftb s l1 l2 hr hm, fun _ => rfl⟩

end Opus.RangeCoder
