import OpusProofs.SilkCoreTotal
/-
  OpusProofs.SilkCoreHist — totality of the good-frame path and preservation of the state invariant
  (property C03, slice SilkCore; the induction over frame histories is `OpusProps.C03SilkCore.history_total_invariant`);
  and: the stale content of `exc_Q14` has no influence on silk_decode_parameters, the sub-frame loop and silk_decode_core
  (the good-frame path is `OpusProps.C03SilkCore.frame_independent_of_stale_excitation`).
-/
namespace Opus.SilkCoreProofs
open Opus Opus.SilkParams Opus.SilkCore Opus.Gen Opus.Frozen

/-- The good-frame path is total on an invariant state with in-range indices; the new state satisfies the invariant again,
    keeps the configuration, and the frame consists of `frame_length` `opus_int16` samples. -/
theorem frameGood_total (s : DecState) (f : FrameIn) (hs : StateOk s) (hf : FrameOk s.fsKHz s.nbSubfr f) :
    ∃ o, frameGood s f = .ok o ∧ StateOk o.st ∧ o.st.fsKHz = s.fsKHz ∧ o.st.nbSubfr = s.nbSubfr ∧
      o.core.xq.length = frameLen s.fsKHz s.nbSubfr ∧ ∀ x ∈ o.core.xq, I16 x := by
  obtain ⟨p, hp, P⟩ := decodeParameters_total s f hs hf
  obtain ⟨hsf, hm, hfl, _⟩ := cfg_nums hs.cfg
  have hfs : s.fsKHz ≤ 16 := by rcases hs.cfg.1 with h | h | h <;> omega
  have hnb : 2 ≤ s.nbSubfr ∧ s.nbSubfr ≤ 4 := by rcases hs.cfg.2 with h | h <;> omega
  have H : CoreHyp { s with lastGainIndex := p.lastGainIndex, prevNlsf := p.prevNlsf } f p.ctrl :=
    { cfg := hs.cfg, outLen := hs.outLen, sig := hf.sig, qoff := hf.qoff, pulses := hf.pulses, gainsLen := P.gainsLen,
      gainsNz := fun g hg => by have := (P.gainsPos g hg).1; omega, pitchLen := P.pitchLen, pitchRange := P.pitchRange,
      pitchSpread := P.pitchSpread, lagPrev := hs.lag }
  obtain ⟨c, hc, hcl, oL, oI⟩ := decodeCore_total _ f p.ctrl p.interp H
  obtain ⟨xI, xL, sL, eL⟩ := decodeCore_spec _ f p.ctrl p.interp c hc
  dsimp only at hcl xL sL eL
  have hF : frameLen s.fsKHz s.nbSubfr ≤ 4 * (5 * s.fsKHz) := hfl ▸ Nat.mul_le_mul_right _ hnb.2
  obtain ⟨lp, hlp⟩ := getI_ok c.pitchL ((s.nbSubfr : Int) - 1) (by omega) (by
    show ((s.nbSubfr : Int) - 1).toNat < c.pitchL.length
    rw [hcl]; omega)
  have hmf : ¬ ltpMemLen s.fsKHz < frameLen s.fsKHz s.nbSubfr := by rw [hm]; omega
  have hup := outBufUpdate_spec s.fsKHz s.nbSubfr c.outBuf c.xq hs.cfg oL xL (oI hs.outI16) xI
  unfold frameGood
  simp only [hp, hc, Res.bind_ok]
  rw [if_neg hmf]
  simp only [hlp, Res.bind_ok, Res.pure_eq]
  refine ⟨_, rfl, ?_, rfl, rfl, xL, xI⟩
  exact { cfg := hs.cfg, slpc := sL hs.slpc, outLen := hup.1, outI16 := hup.2,
          excLen := by
            show c.excQ14.length = 320
            exact (eL (by show _ ≤ s.excQ14.length; rw [hs.excLen]; omega)).trans hs.excLen
          nlsfLen := P.nlsfLen, nlsfRange := P.nlsfRange, lgi := P.lgi,
          lag := fun h => absurd rfl h }

theorem decodeParameters_exc (s : DecState) (f : FrameIn) (e : List Int) :
    decodeParameters { s with excQ14 := e } f = decodeParameters s f := rfl

theorem subframes_exc (s : DecState) (f : FrameIn) (ctrl : Ctrl) (ifl : Bool) (exc e : List Int) (n k : Nat) (c : CoreSt) :
    subframes { s with excQ14 := e } f ctrl ifl exc n k c = subframes s f ctrl ifl exc n k c := by
  induction n generalizing k c with
  | zero => rfl
  | succ n ih =>
    simp only [subframes]
    have : subframe { s with excQ14 := e } f ctrl ifl exc k c = subframe s f ctrl ifl exc k c := rfl
    rw [this]
    cases subframe s f ctrl ifl exc k c with
    | ok c1 => simp only [Res.bind_ok]; exact ih _ _
    | err _ => rfl
    | oob => rfl
    | abort => rfl

theorem decodeCore_exc (s : DecState) (f : FrameIn) (ctrl : Ctrl) (interp : Int) (e : List Int) (o : CoreOut)
    (h : decodeCore s f ctrl interp = .ok o) :
    ∃ x, decodeCore { s with excQ14 := e } f ctrl interp = .ok { o with excQ14 := x } := by
  obtain ⟨off, c, hoff, hlen, hc, rfl⟩ := (decodeCore_ok_iff ..).1 h
  exact ⟨_, (decodeCore_ok_iff ..).2 ⟨off, c, hoff, hlen, (subframes_exc ..).trans hc, rfl⟩⟩

end Opus.SilkCoreProofs
