import OpusProofs.RangeCoderRun
import OpusProofs.RangeCoderNest
/-
  OpusProofs.RangeCoderPatch — C08, `ec_enc_patch_initial_bits` (entenc.c:225-251).

  When the first `n ≤ 8` bits of the stream were coded with a power-of-two probability, the
  encoder's interval stays inside one cell `[t, t+1) * 2^(s-n)` of the code space (`t` = the value of
  those bits, `s` = current scale).  Patching replaces `t` by `v`: the interval moves by
  `(v - t)` cells and nothing else changes.
-/
namespace Opus.RangeCoder

/-- Size of a cell of the first `n` bits at the encoder's current scale `2^(31 + 8*encM c)`. -/
def cellSz (c : Enc) (n : Nat) : Nat := 2 ^ (31 - n) * 256 ^ encM c

/-- The interval lies in cell `t` of the first `n` bits; `dig`: so do the digits already output, taken without the carry
    that may still be pending in bit 31 of `val` (`ec_enc_patch_initial_bits` rewrites the first digit before that carry
    is propagated, so the carry must not be what takes the digits into the cell). -/
structure Cell (n t : Nat) (c : Enc) : Prop where
  n_le : n ≤ 8
  t_lt : t < 2 ^ n
  lo : t * cellSz c n ≤ encLow c
  hi : encLow c + c.rng ≤ (t + 1) * cellSz c n
  dig : 1 ≤ encM c → t * cellSz c n ≤ digitsVal c * 2147483648

theorem cellSz_pos (c : Enc) (n : Nat) : 0 < cellSz c n :=
  Nat.mul_pos (Nat.pow_pos (by decide)) (Nat.pow_pos (by decide))

/-- For at least one digit the cell size is a multiple of `2^31`. -/
theorem cellSz_eq (c : Enc) (n : Nat) (hn : n ≤ 8) (hM : 1 ≤ encM c) :
    cellSz c n = 2147483648 * (2 ^ (8 - n) * 256 ^ (encM c - 1)) := by
  unfold cellSz
  have e1 : encM c = (encM c - 1) + 1 := by omega
  have e2 : (31 - n) = 23 + (8 - n) := by omega
  conv => lhs; rw [e1, Nat.pow_succ, e2, Nat.pow_add]
  have : (2147483648 : Nat) = 2 ^ 23 * 256 := by decide
  rw [this]
  simp only [Nat.mul_assoc, Nat.mul_comm, Nat.mul_left_comm]

theorem Nest.cell {k : Nat} {c c' : Enc} (h : Nest k c c') {n t : Nat} (hc : Cell n t c) : Cell n t c' := by
  obtain ⟨h1, h2, h3, h4, h5⟩ := hc
  have eC : cellSz c' n = cellSz c n * 256 ^ k := by
    unfold cellSz; rw [h.encM_eq, Nat.pow_add, Nat.mul_assoc]
  have hlo : t * cellSz c' n ≤ encLow c' := by
    rw [eC, ← Nat.mul_assoc]; exact Nat.le_trans (Nat.mul_le_mul_right _ h3) h.lo
  refine ⟨h1, h2, hlo, ?_, fun hM => ?_⟩
  · rw [eC, ← Nat.mul_assoc]; exact Nat.le_trans h.hi (Nat.mul_le_mul_right _ h4)
  · rcases h.dig with ⟨k0, e⟩ | hv
    · -- no digit was output: the digits are those of `c`
      subst k0
      rw [eC, Nat.pow_zero, Nat.mul_one, e]
      exact h5 (by have := h.encM_eq; omega)
    · -- no carry pending: the digits alone reach the cell's low end, a multiple of `2^31`
      rw [cellSz_eq c' n h1 hM] at hlo ⊢
      rw [Nat.mul_left_comm] at hlo ⊢
      unfold encLow at hlo
      generalize t * (2 ^ (8 - n) * 256 ^ (encM c' - 1)) = Q at hlo ⊢
      generalize digitsVal c' = D at hlo ⊢
      have hq : 2147483648 * Q < 2147483648 * (D + 1) := by
        rw [Nat.mul_add, Nat.mul_one, Nat.mul_comm 2147483648 D]
        exact Nat.lt_of_le_of_lt hlo (Nat.add_lt_add_left hv _)
      rw [Nat.mul_comm D]
      exact Nat.mul_le_mul_left _ (Nat.le_of_lt_succ (Nat.lt_of_mul_lt_mul_left hq))

theorem set_getD_self (B : List Nat) : B.set 0 (B.getD 0 0) = B := by
  cases B <;> rfl

/-- The first `n` bits of an `m`-bit number name `2^n` cells of size `2^(m-n)` … -/
theorem pow_cells {n m : Nat} (hn : n ≤ m) : 2 ^ n * 2 ^ (m - n) = 2 ^ m := by
  rw [← Nat.pow_add, Nat.add_sub_cancel' hn]

/-- … and cell `v` ends at or below `2^m`. -/
theorem cell_end_le {n m v : Nat} (hn : n ≤ m) (hv : v < 2 ^ n) : v * 2 ^ (m - n) + 2 ^ (m - n) ≤ 2 ^ m := by
  rw [← Nat.succ_mul, ← pow_cells hn]
  exact Nat.mul_le_mul_right _ hv

theorem pow31_split (n : Nat) (hn : n ≤ 16) :
    2147483648 / 2 ^ n = 2 ^ (31 - n) ∧ 2 ^ (31 - n) * 2 ^ n = 2147483648 := by
  have hpow : 2 ^ n * 2 ^ (31 - n) = 2147483648 := pow_cells (m := 31) (by omega)
  exact ⟨Nat.div_eq_of_eq_mul_right (Nat.pow_pos (by decide)) hpow.symm, by rw [Nat.mul_comm]; exact hpow⟩

theorem patchByte_eq (b v n : Nat) (hn : n ≤ 8) (hv : v < 2 ^ n) :
    patchByte b v n = b % 2 ^ (8 - n) + v * 2 ^ (8 - n) ∧ b % 2 ^ (8 - n) + v * 2 ^ (8 - n) < 256 := by
  have hlt : b % 2 ^ (8 - n) < 2 ^ (8 - n) := Nat.mod_lt _ (Nat.pow_pos (by decide))
  have := cell_end_le (m := 8) hn hv
  exact ⟨by unfold patchByte; exact or_shift _ _ _ hlt, by omega⟩

/-- Replacing the top `n` bits (`t`, forced by the bounds) of the leading digit `b` by `v`. -/
theorem top_bits_core (n t v b P low : Nat) (hlow : low < P)
    (h1 : t * (2 ^ (8 - n) * P) ≤ b * P + low) (h2 : b * P + low < (t + 1) * (2 ^ (8 - n) * P)) :
    b / 2 ^ (8 - n) = t ∧
    (b % 2 ^ (8 - n) + v * 2 ^ (8 - n)) * P + low + t * (2 ^ (8 - n) * P) =
      b * P + low + v * (2 ^ (8 - n) * P) := by
  generalize hQ : 2 ^ (8 - n) = Q at *
  have hQ0 : 0 < Q := by rw [← hQ]; exact Nat.pow_pos (by decide)
  have a1 : t * Q < b + 1 := by
    apply Nat.lt_of_mul_lt_mul_right (a := P)
    rw [Nat.mul_assoc, Nat.add_mul]; omega
  have a2 : b < (t + 1) * Q := by
    apply Nat.lt_of_mul_lt_mul_right (a := P)
    rw [Nat.mul_assoc]; omega
  have hd : b / Q = t := by
    exact Nat.div_eq_of_lt_le (by omega) a2
  refine ⟨hd, ?_⟩
  have hb : b = t * Q + b % Q := by
    have := Nat.div_add_mod b Q
    rw [hd, Nat.mul_comm] at this; exact this.symm
  generalize b % Q = m at *
  subst hb
  simp only [Nat.add_mul, Nat.mul_assoc]
  omega

/-- Moving the digits (before the first digit: `val`) by `v - t` cells takes cell `t` to cell `v`. -/
theorem Cell.shift {n t v : Nat} {c c' : Enc} (h : Cell n t c) (hv : v < 2 ^ n) (eM : encM c' = encM c)
    (er : c'.rng = c.rng) (eL : encLow c' + t * cellSz c n = encLow c + v * cellSz c n)
    (eD : 1 ≤ encM c → digitsVal c' * 2147483648 + t * cellSz c n = digitsVal c * 2147483648 + v * cellSz c n) :
    Cell n v c' := by
  obtain ⟨h1, _, h3, h4, h5⟩ := h
  have hZ : cellSz c' n = cellSz c n := by unfold cellSz; rw [eM]
  rw [Nat.add_mul, Nat.one_mul] at h4
  refine ⟨h1, hv, by rw [hZ]; omega, by rw [hZ, er, Nat.add_mul, Nat.one_mul]; omega, fun hM => ?_⟩
  rw [eM] at hM
  have := h5 hM
  have := eD hM
  rw [hZ]; omega

/-- The effect of replacing the top `n` bits of the leading output digit `b` on the interval; `low` are the digits behind
    it.  Last clause: if the new leading digit is 0xFF followed by 0xFFs only, no carry can come. -/
theorem patch_digits (n t v : Nat) (c c' : Enc) (b low : Nat) (hv : v < 2 ^ n) (hM : 1 ≤ encM c)
    (eM : encM c' = encM c) (ev : c'.val = c.val) (er : c'.rng = c.rng)
    (hD : digitsVal c = b * 256 ^ (encM c - 1) + low)
    (hD' : digitsVal c' = (b % 2 ^ (8 - n) + v * 2 ^ (8 - n)) * 256 ^ (encM c - 1) + low)
    (hlow : low < 256 ^ (encM c - 1)) (hrp : 0 < c.rng) (h : Cell n t c) :
    Cell n v c' ∧ encLow c' + t * cellSz c n = encLow c + v * cellSz c n ∧
    (b % 2 ^ (8 - n) + v * 2 ^ (8 - n) = 255 → low + 1 = 256 ^ (encM c - 1) → c.val + c.rng ≤ 2147483648) := by
  have hZ := cellSz_eq c n h.n_le hM
  have h4 := h.hi
  have h5 := h.dig hM
  unfold encLow at h4
  have eX : ∀ k, k * cellSz c n = 2147483648 * (k * (2 ^ (8 - n) * 256 ^ (encM c - 1))) := fun k => by
    rw [hZ, Nat.mul_left_comm]
  rw [eX] at h4 h5
  -- without `val`, the digits lie in cell `t` of their own scale
  have d1 : t * (2 ^ (8 - n) * 256 ^ (encM c - 1)) ≤ digitsVal c :=
    Nat.le_of_mul_le_mul_left (by rw [Nat.mul_comm _ (digitsVal c)]; exact h5) (by omega : 0 < 2147483648)
  have d2 : digitsVal c < (t + 1) * (2 ^ (8 - n) * 256 ^ (encM c - 1)) :=
    Nat.lt_of_mul_lt_mul_left (a := 2147483648) (by omega)
  -- so the top bits of the leading digit are `t`, and replacing them moves the digits by `v - t` units
  have k2 := (top_bits_core n t v b _ low hlow (by rw [← hD]; exact d1)
    (by rw [← hD]; exact d2)).2
  rw [← hD, ← hD'] at k2
  have eD : digitsVal c' * 2147483648 + t * cellSz c n = digitsVal c * 2147483648 + v * cellSz c n := by
    rw [eX, eX, Nat.mul_comm _ 2147483648, Nat.mul_comm _ 2147483648, ← Nat.mul_add, ← Nat.mul_add, k2]
  have eL : encLow c' + t * cellSz c n = encLow c + v * cellSz c n := by
    unfold encLow; rw [ev, Nat.add_right_comm, eD, Nat.add_right_comm]
  have cell' := h.shift hv eM er eL (fun _ => eD)
  refine ⟨cell', eL, fun hb hl => ?_⟩
  -- the patched digits are all 0xFF: cell `v` ends at or below the next digit string
  have h4' := cell'.hi
  have hZ' : cellSz c' n = cellSz c n := by unfold cellSz; rw [eM]
  unfold encLow at h4'
  rw [hZ', eX, er, ev] at h4'
  have hd' : digitsVal c' + 1 = 256 * 256 ^ (encM c - 1) := by rw [hD', hb]; omega
  have hvX : (v + 1) * (2 ^ (8 - n) * 256 ^ (encM c - 1)) ≤ digitsVal c' + 1 := by
    rw [hd', ← Nat.mul_assoc, Nat.add_mul, Nat.one_mul]
    exact Nat.mul_le_mul_right _ (cell_end_le (m := 8) h.n_le hv)
  have := Nat.mul_le_mul_left 2147483648 hvX
  omega

theorem pendVal_lt (c : Enc) (h1 : c.rem ≤ 255) : pendVal c < 256 ^ pendCount c := by
  unfold pendVal pendCount
  have hp : 0 < 256 ^ c.ext := Nat.pow_pos (by decide)
  split
  · rename_i hr
    have : c.rem.toNat ≤ 255 := by omega
    have h2 : c.rem.toNat * 256 ^ c.ext ≤ 255 * 256 ^ c.ext := Nat.mul_le_mul_right _ this
    rw [Nat.add_comm 1 c.ext, Nat.pow_succ]
    omega
  · simp only [Nat.zero_add]; omega

/-- What a patch of the first `n` bits from `t` to `v` keeps and what it moves. -/
structure Patched (n t v : Nat) (c c' : Enc) : Prop where
  run : RunInv c'
  cell : Cell n v c'
  encM_eq : encM c' = encM c
  low : encLow c' + t * cellSz c n = encLow c + v * cellSz c n

/-- The patch when the first byte is in the buffer. -/
theorem patch_buf0 (c : Enc) (n t v : Nat) (ri : RunInv c) (hc : Cell n t c) (hv : v < 2 ^ n) (ho : 0 < c.offs) :
    Patched n t v c { c with buf := c.buf.set 0 (c.buf.getD 0 0 % 2 ^ (8 - n) + v * 2 ^ (8 - n)) } := by
  obtain ⟨inv, raw, bytes⟩ := ri
  obtain ⟨⟨wf, rp, rh, sl, cs, eb⟩, rl⟩ := inv
  obtain ⟨b0, bt, hbuf⟩ : ∃ b0 bt, c.buf = b0 :: bt := by
    cases hcb : c.buf with
    | nil => have := wf.offs_le; have := wf.storage_le; rw [hcb] at this; simp at this; omega
    | cons x xs => exact ⟨x, xs, rfl⟩
  have hb0 : c.buf.getD 0 0 = b0 := by rw [hbuf]; rfl
  rw [hb0]
  obtain ⟨_, pb2⟩ := patchByte_eq b0 v n hc.n_le hv
  have hoffs : c.offs = (c.offs - 1) + 1 := by omega
  have hbtlen : c.offs - 1 ≤ bt.length := by
    have := wf.offs_le; have := wf.storage_le; rw [hbuf] at this; simp at this; omega
  have htk : ∀ x, (c.buf.set 0 x).take c.offs = x :: bt.take (c.offs - 1) := by
    intro x; rw [hbuf, List.set_cons_zero, hoffs, List.take_succ_cons]; simp
  have hR : bytesVal (bt.take (c.offs - 1)) < 256 ^ (c.offs - 1) := by
    have := bytesVal_lt (bt.take (c.offs - 1)) (fun b hb => bytes b (by
      rw [hbuf]; exact List.mem_cons_of_mem _ (List.mem_of_mem_take hb)))
    rw [List.length_take, Nat.min_eq_left hbtlen] at this; exact this
  have hpv := pendVal_lt c wf.rem_hi
  have hM1 : encM c - 1 = (c.offs - 1) + pendCount c := by unfold encM; omega
  -- the digits with any first byte `x`
  have hD : ∀ x, bytesVal ((c.buf.set 0 x).take c.offs) * 256 ^ pendCount c + pendVal c =
      x * 256 ^ (encM c - 1) + (bytesVal (bt.take (c.offs - 1)) * 256 ^ pendCount c + pendVal c) := by
    intro x
    rw [htk, bytesVal_cons, List.length_take, Nat.min_eq_left hbtlen, hM1, Nat.pow_add, Nat.add_mul, Nat.mul_assoc]
    omega
  have hlow : bytesVal (bt.take (c.offs - 1)) * 256 ^ pendCount c + pendVal c < 256 ^ (encM c - 1) := by
    rw [hM1, Nat.pow_add]
    have : (bytesVal (bt.take (c.offs - 1)) + 1) * 256 ^ pendCount c ≤ 256 ^ (c.offs - 1) * 256 ^ pendCount c :=
      Nat.mul_le_mul_right _ hR
    rw [Nat.add_mul] at this
    omega
  have dD : digitsVal c = b0 * 256 ^ (encM c - 1) +
      (bytesVal (bt.take (c.offs - 1)) * 256 ^ pendCount c + pendVal c) := by
    have := hD (c.buf.getD 0 0)
    rw [set_getD_self, hb0] at this
    exact this
  obtain ⟨q1, q2, _⟩ := patch_digits n t v c { c with buf := c.buf.set 0 (b0 % 2 ^ (8 - n) + v * 2 ^ (8 - n)) }
    b0 _ hv (by unfold encM; omega) rfl rfl rfl dD (hD _) hlow rp hc
  exact ⟨⟨⟨⟨⟨wf.offs_le, by rw [List.length_set]; exact wf.storage_le, wf.rem_lo, wf.rem_hi⟩, rp, rh, sl, cs, eb⟩, rl⟩,
    ⟨raw.win_lt, raw.nend_le⟩, bytesOk_set bytes 0 _ pb2⟩, q1, rfl, q2⟩

/-- The patch when no byte is in the buffer yet and the first digit `b` is pending, followed by `e` digits `0xFF`: it is `rem`,
    or a buffered `0xFF` counted in `ext` when `rem = -1`.  The patched digit goes to `rem`. -/
theorem patch_pending (c : Enc) (n t v b e : Nat) (ri : RunInv c) (hc : Cell n t c) (hv : v < 2 ^ n)
    (ho : c.offs = 0) (hM : encM c = e + 1) (hD : digitsVal c = b * 256 ^ e + (256 ^ e - 1))
    (he : 8 * e + 33 ≤ c.nbitsTotal) :
    Patched n t v c { c with rem := ((b % 2 ^ (8 - n) + v * 2 ^ (8 - n) : Nat) : Int), ext := e } := by
  obtain ⟨inv, raw, bytes⟩ := ri
  obtain ⟨⟨wf, rp, rh, sl, cs, eb⟩, rl⟩ := inv
  obtain ⟨_, pb2⟩ := patchByte_eq b v n hc.n_le hv
  generalize hx : b % 2 ^ (8 - n) + v * 2 ^ (8 - n) = x at pb2 ⊢
  have hr' : ({ c with rem := (x : Int), ext := e } : Enc).rem ≥ 0 := Int.natCast_nonneg x
  have pc' : pendCount { c with rem := (x : Int), ext := e } = 1 + e := by unfold pendCount; rw [if_pos hr']
  have eM : encM { c with rem := (x : Int), ext := e } = encM c := by
    rw [hM]; unfold encM; rw [pc']; show c.offs + (1 + e) = e + 1; omega
  have hpp : 0 < 256 ^ e := Nat.pow_pos (by decide)
  have dD' : digitsVal { c with rem := (x : Int), ext := e } = x * 256 ^ e + (256 ^ e - 1) := by
    unfold digitsVal pendVal
    rw [pc', if_pos hr']
    show bytesVal (c.buf.take c.offs) * _ + ((x : Int).toNat * 256 ^ e + (256 ^ e - 1)) = _
    rw [ho, Int.toNat_natCast]; simp
  have hM1 : encM c - 1 = e := by omega
  obtain ⟨q1, q2, q4⟩ := patch_digits n t v c { c with rem := (x : Int), ext := e } b (256 ^ e - 1) hv (by omega)
    eM rfl rfl (by rw [hM1]; exact hD) (by rw [hM1, hx]; exact dD') (by rw [hM1]; exact Nat.sub_lt hpp (by decide)) rp hc
  refine ⟨⟨⟨⟨⟨wf.offs_le, wf.storage_le, ?_, ?_⟩, rp, rh, sl, fun h => ?_, he⟩, rl⟩, ⟨raw.win_lt, raw.nend_le⟩, bytes⟩,
    q1, eM, q2⟩
  · show (-1 : Int) ≤ (x : Int); omega
  · show (x : Int) ≤ 255; omega
  · have h' : (x : Int) < 0 ∨ (x : Int) = 255 := h
    exact q4 (by rw [hx]; omega) (by rw [hM1]; exact Nat.sub_add_cancel hpp)

/-- `ec_enc_patch_initial_bits` when nothing has been output yet and the interval lies in one cell of bit 31's half: the top
    `n` of the low 31 bits of `val` are replaced. -/
theorem patch_val_eq (c : Enc) (v n : Nat) (hn : n ≤ 8) (hv : v < 2 ^ n) (ho : c.offs = 0) (hr : ¬ c.rem ≥ 0)
    (hx0 : c.ext = 0) (hrz : c.rng ≤ 2 ^ (31 - n)) (hval : c.val < 2147483648) :
    encPatchInitialBits c v n = { c with val := c.val % 2 ^ (31 - n) + v * 2 ^ (31 - n) } := by
  have hdiv := (pow31_split n (by omega)).1
  have hvtop := cell_end_le (m := 31) (by omega) hv
  have hZp : 0 < 2 ^ (31 - n) := Nat.pow_pos (by decide)
  unfold encPatchInitialBits
  simp only [if_neg (show ¬ c.offs > 0 by omega), if_neg hr, if_neg (show ¬ c.ext > 0 by omega), hdiv, if_pos hrz,
    show 23 + (8 - n) = 31 - n by omega]
  rw [Nat.div_eq_of_lt hval, Nat.zero_mul, Nat.add_zero, u32_of_lt (by rw [Nat.shiftLeft_eq]; omega),
    or_shift _ _ _ (Nat.mod_lt _ hZp)]

/-- The patch when nothing has been output yet: the bits are still in `val`. -/
theorem patch_val (c : Enc) (n t v : Nat) (ri : RunInv c) (hc : Cell n t c) (hv : v < 2 ^ n)
    (ho : c.offs = 0) (hr : ¬ c.rem ≥ 0) (hx0 : c.ext = 0) :
    encPatchInitialBits c v n = { c with val := c.val % 2 ^ (31 - n) + v * 2 ^ (31 - n) } ∧
    Patched n t v c { c with val := c.val % 2 ^ (31 - n) + v * 2 ^ (31 - n) } := by
  obtain ⟨inv, raw, bytes⟩ := ri
  obtain ⟨⟨wf, rp, rh, sl, cs, eb⟩, rl⟩ := inv
  have pc : pendCount c = 0 := by unfold pendCount; rw [if_neg hr, hx0]
  have hM0 : encM c = 0 := by unfold encM; rw [pc, ho]
  have hD0 : digitsVal c = 0 := by
    unfold digitsVal pendVal; rw [ho, if_neg hr, hx0]; simp
  have hZ : ∀ c' : Enc, encM c' = 0 → cellSz c' n = 2 ^ (31 - n) := fun c' h => by unfold cellSz; rw [h]; simp
  have hL : ∀ c' : Enc, digitsVal c' = 0 → encLow c' = c'.val := fun c' h => by unfold encLow; rw [h]; simp
  have ⟨hn8, h2, h3, h4, _⟩ := hc
  rw [hZ c hM0, hL c hD0] at h3 h4
  have hZp : 0 < 2 ^ (31 - n) := Nat.pow_pos (by decide)
  have htop := cell_end_le (m := 31) (by omega) h2
  have hvtop := cell_end_le (m := 31) (by omega) hv
  rw [Nat.add_mul, Nat.one_mul] at h4
  have hrz : c.rng ≤ 2 ^ (31 - n) := by omega
  have hval : c.val < 2147483648 := by omega
  have hmod : c.val % 2 ^ (31 - n) < 2 ^ (31 - n) := Nat.mod_lt _ hZp
  have hdt : c.val / 2 ^ (31 - n) = t := Nat.div_eq_of_lt_le h3 (by rw [Nat.add_mul, Nat.one_mul]; omega)
  have hvm : c.val = t * 2 ^ (31 - n) + c.val % 2 ^ (31 - n) := by
    have := Nat.div_add_mod c.val (2 ^ (31 - n))
    rw [hdt, Nat.mul_comm] at this; exact this.symm
  have hD0' : digitsVal { c with val := c.val % 2 ^ (31 - n) + v * 2 ^ (31 - n) } = 0 := hD0
  have eL : encLow { c with val := c.val % 2 ^ (31 - n) + v * 2 ^ (31 - n) } + t * cellSz c n =
      encLow c + v * cellSz c n := by
    rw [hL _ hD0', hL c hD0, hZ c hM0]
    show c.val % 2 ^ (31 - n) + v * 2 ^ (31 - n) + t * 2 ^ (31 - n) = c.val + v * 2 ^ (31 - n)
    omega
  refine ⟨patch_val_eq c v n hn8 hv ho hr hx0 hrz hval,
    ⟨⟨⟨⟨wf.offs_le, wf.storage_le, wf.rem_lo, wf.rem_hi⟩, rp, rh, ?_, fun _ => ?_, eb⟩, rl⟩,
    ⟨raw.win_lt, raw.nend_le⟩, bytes⟩, hc.shift hv rfl rfl eL (fun h => by rw [hM0] at h; omega), rfl, eL⟩
  · show c.val % 2 ^ (31 - n) + v * 2 ^ (31 - n) + c.rng ≤ 4294967296; omega
  · show c.val % 2 ^ (31 - n) + v * 2 ^ (31 - n) + c.rng ≤ 2147483648; omega

/-- One `ec_enc_patch_initial_bits(v, n)` on a state whose interval lies in cell `t` of the first `n` bits: the run
    invariant holds again, the interval lies in cell `v`, moved by `v - t` cells; `rng`, `nbits_total`, `storage`, the
    error flag and the raw bits are unchanged. -/
theorem patch_spec (c : Enc) (n t v : Nat) (ri : RunInv c) (hc : Cell n t c) (hv : v < 2 ^ n) :
    (encPatchInitialBits c v n).error = c.error ∧ RunInv (encPatchInitialBits c v n) ∧
    Cell n v (encPatchInitialBits c v n) ∧ encM (encPatchInitialBits c v n) = encM c ∧
    (encPatchInitialBits c v n).rng = c.rng ∧ (encPatchInitialBits c v n).nbitsTotal = c.nbitsTotal ∧
    encLow (encPatchInitialBits c v n) + t * cellSz c n = encLow c + v * cellSz c n ∧
    (encPatchInitialBits c v n).storage = c.storage ∧ rawN (encPatchInitialBits c v n) = rawN c ∧
    rawQ (encPatchInitialBits c v n) (encPatchInitialBits c v n).endWindow = rawQ c c.endWindow := by
  have wf := ri.inv.wf
  have hn8 := hc.n_le
  by_cases ho : c.offs > 0
  · have e : encPatchInitialBits c v n =
        { c with buf := c.buf.set 0 (c.buf.getD 0 0 % 2 ^ (8 - n) + v * 2 ^ (8 - n)) } := by
      obtain ⟨pb1, pb2⟩ := patchByte_eq (c.buf.getD 0 0) v n hn8 hv
      unfold encPatchInitialBits; simp only [if_pos ho, pb1, Nat.mod_eq_of_lt pb2]
    have p := patch_buf0 c n t v ri hc hv ho
    rw [e]
    refine ⟨rfl, p.run, p.cell, p.encM_eq, rfl, rfl, p.low, rfl, rfl, congrArg (· + c.endWindow * 256 ^ c.endOffs) ?_⟩
    -- the raw bits are behind the first byte
    show tailVal (c.buf.set 0 _) c.storage c.endOffs = _
    apply tailVal_congr
    intro j hj
    unfold endByte
    have := wf.offs_le
    rw [if_pos (by omega), if_pos (by omega), getD_set, if_neg (by omega)]
  · have ho0 : c.offs = 0 := by omega
    have hnb := ri.inv.ext_bound
    by_cases hr : c.rem ≥ 0
    · have e : encPatchInitialBits c v n =
          { c with rem := ((c.rem.toNat % 2 ^ (8 - n) + v * 2 ^ (8 - n) : Nat) : Int), ext := c.ext } := by
        unfold encPatchInitialBits; simp only [if_neg ho, if_pos hr, (patchByte_eq c.rem.toNat v n hn8 hv).1]
      have pc : pendCount c = 1 + c.ext := by unfold pendCount; rw [if_pos hr]
      have p := patch_pending c n t v c.rem.toNat c.ext ri hc hv ho0 (by unfold encM; omega)
        (by unfold digitsVal pendVal; rw [ho0, if_pos hr]; simp) hnb
      rw [e]
      exact ⟨rfl, p.run, p.cell, p.encM_eq, rfl, rfl, p.low, rfl, rfl, rfl⟩
    · by_cases hx : c.ext > 0
      · have e : encPatchInitialBits c v n =
            { c with rem := ((255 % 2 ^ (8 - n) + v * 2 ^ (8 - n) : Nat) : Int), ext := c.ext - 1 } := by
          unfold encPatchInitialBits; simp only [if_neg ho, if_neg hr, if_pos hx, (patchByte_eq 255 v n hn8 hv).1]
        have pc : pendCount c = c.ext := by unfold pendCount; rw [if_neg hr]; omega
        have hsplit : 256 ^ c.ext = 256 * 256 ^ (c.ext - 1) := by
          have : c.ext = (c.ext - 1) + 1 := by omega
          conv => lhs; rw [this, Nat.pow_succ]
          omega
        have hpp : 0 < 256 ^ (c.ext - 1) := Nat.pow_pos (by decide)
        have p := patch_pending c n t v 255 (c.ext - 1) ri hc hv ho0 (by unfold encM; omega)
          (by unfold digitsVal pendVal; rw [ho0, if_neg hr, hsplit]; simp; omega) (by omega)
        rw [e]
        exact ⟨rfl, p.run, p.cell, p.encM_eq, rfl, rfl, p.low, rfl, rfl, rfl⟩
      · obtain ⟨e, p⟩ := patch_val c n t v ri hc hv ho0 hr (by omega)
        rw [e]
        exact ⟨rfl, p.run, p.cell, p.encM_eq, rfl, rfl, p.low, rfl, rfl, rfl⟩

end Opus.RangeCoder
