import OpusProofs.DecSkelShift
/-
  OpusProofs.GainIndep — the decoder gain touches nothing but the gain pass: the decoder skeleton
  (`OpusModel/DecSkel.lean`, C01) under `gz` = "set `decode_gain` to 0 and erase the gain-pass events from the log".
  `gz` is the view `gzMap` of `OpusProofs.DecSkelNat`, so for every function `f` of the skeleton  `f (gz r) = gz (f r)`:
  running with gain 0 is the same as running with any gain and then forgetting the gain and the gain events.
-/
namespace Opus.DecSkel

def zg (st : DecState) : DecState := { st with decode_gain := 0 }

/-- forget the gain and the gain-pass events -/
def gz (r : Run) : Run := { st := zg r.st, k := r.k, log := r.log.filter notGain }

/- What `zg` and `gz` leave alone, field by field and for the quantities the skeleton derives from the state: the facts a
   user of the two definitions rewrites with (the traversal itself goes through `gzMap` and needs none of them). -/
@[simp] theorem gz_k (r : Run) : (gz r).k = r.k := rfl
@[simp] theorem gz_st (r : Run) : (gz r).st = zg r.st := rfl
@[simp] theorem zg_Fs (st : DecState) : (zg st).Fs = st.Fs := rfl
@[simp] theorem zg_channels (st : DecState) : (zg st).channels = st.channels := rfl
@[simp] theorem zg_dc (st : DecState) : (zg st).dc = st.dc := rfl
@[simp] theorem zg_gain (st : DecState) : (zg st).decode_gain = 0 := rfl
@[simp] theorem zg_sch (st : DecState) : (zg st).stream_channels = st.stream_channels := rfl
@[simp] theorem zg_bw (st : DecState) : (zg st).bandwidth = st.bandwidth := rfl
@[simp] theorem zg_mode (st : DecState) : (zg st).mode = st.mode := rfl
@[simp] theorem zg_pm (st : DecState) : (zg st).prev_mode = st.prev_mode := rfl
@[simp] theorem zg_fsz (st : DecState) : (zg st).frame_size = st.frame_size := rfl
@[simp] theorem zg_pr (st : DecState) : (zg st).prev_redundancy = st.prev_redundancy := rfl
@[simp] theorem zg_lpd (st : DecState) : (zg st).last_packet_duration = st.last_packet_duration := rfl
@[simp] theorem zg_zg (st : DecState) : zg (zg st) = zg st := rfl
@[simp] theorem F20_zg (st : DecState) : F20 (zg st) = F20 st := rfl
@[simp] theorem F10_zg (st : DecState) : F10 (zg st) = F10 st := rfl
@[simp] theorem F5_zg (st : DecState) : F5 (zg st) = F5 st := rfl
@[simp] theorem F2_5_zg (st : DecState) : F2_5 (zg st) = F2_5 st := rfl
@[simp] theorem transBuf_zg (st : DecState) : transBuf (zg st) = transBuf st := rfl
@[simp] theorem silkBuf_zg (st : DecState) : silkBuf (zg st) = silkBuf st := rfl
@[simp] theorem redBuf_zg (st : DecState) (red : Red) : redBuf (zg st) red = redBuf st red := rfl
@[simp] theorem redArgs_zg (st : DecState) (b : Body) (red : Red) (site : Nat) : redArgs (zg st) b red site = redArgs st b red site := rfl
@[simp] theorem wantTransition_zg (st : DecState) (b : Body) : wantTransition (zg st) b = wantTransition st b := rfl
@[simp] theorem validateOk_zg (st : DecState) : validateOk (zg st) = validateOk st := rfl

@[simp] theorem gz_gz (r : Run) : gz (gz r) = gz r := by
  unfold gz; simp [List.filter_filter]

theorem stepFinish_gz (b : Body) (red : Red) (r : Run) : stepFinish b red (gz r) = gz (stepFinish b red r) := rfl

/-- The view: gain 0, gain passes dropped; with gain 0 `stepGain` logs nothing, otherwise one event, which the view erases. -/
def gzMap : RunMap := { d := 0, γ := fun _ => 0, φ := Option.guard notGain }

theorem gzMap_run (r : Run) : gzMap.run r = gz r := by
  simp only [RunMap.run, gzMap, gz, RunMap.st, zg, ← List.filterMap_eq_filter]

theorem gzMap_natural (o : Oracle) : gzMap.Natural o o :=
  { silk := fun _ _ => rfl, celt := fun _ a => by rw [show gzMap.d = 0 from rfl, CeltArgs.shiftOff_zero],
    bit := fun _ _ _ => rfl, uint := fun _ _ _ => rfl, γ0 := rfl,
    ev := fun e he => by simp [gzMap, Option.guard, he, Ev.shiftOff_zero],
    gain := fun g p n => by simp [gzMap, Option.guard, notGain] }

/-- The result of the call started from `gz r`: same return value and packet offset, the run under `gz`. -/
structure GzOut (a b : NativeOut) : Prop where
  ret : a.ret = b.ret
  packetOffset : a.packetOffset = b.packetOffset
  run : a.run = gz b.run

/-- through an `if` whose condition does not look at the gain or the log -/
theorem GzOut.ite {c : Prop} [Decidable c] {x y x' y' : NativeOut} (hx : GzOut x x') (hy : GzOut y y') :
    GzOut (if c then x else y) (if c then x' else y') := by
  split
  · exact hx
  · exact hy

/-- **`opus_decode_native`**: every path (argument checks, concealment, FEC, all frames of a packet, soft clip). -/
theorem decodeNative_gzOut (o : Oracle) (data : Option Bytes) (len : Int) (pcm : Ptr) (frame_size fec : Int)
    (sd sc : Bool) (r : Run) :
    GzOut (decodeNative o data len pcm frame_size fec sd sc (gz r)) (decodeNative o data len pcm frame_size fec sd sc r) := by
  have h := decodeNative_nat (gzMap_natural o) data data len len sd sd Iff.rfl Iff.rfl (ParseAlike.refl _ _) pcm frame_size fec sc r
  rw [gzMap_run] at h
  exact ⟨h.ret, h.packetOffset.elim id fun e => e.trans (Int.add_zero _), h.run.trans (gzMap_run _)⟩

theorem decodeNative_gz (o : Oracle) (data : Option Bytes) (len : Int) (pcm : Ptr) (frame_size fec : Int)
    (sd sc : Bool) (r : Run) :
    (decodeNative o data len pcm frame_size fec sd sc (gz r)).ret = (decodeNative o data len pcm frame_size fec sd sc r).ret ∧
    (decodeNative o data len pcm frame_size fec sd sc (gz r)).packetOffset =
      (decodeNative o data len pcm frame_size fec sd sc r).packetOffset ∧
    (decodeNative o data len pcm frame_size fec sd sc (gz r)).run = gz (decodeNative o data len pcm frame_size fec sd sc r).run :=
  let h := decodeNative_gzOut o data len pcm frame_size fec sd sc r
  ⟨h.ret, h.packetOffset, h.run⟩

end Opus.DecSkel
