import OpusModel.CeltSyms
import OpusProofs.RangeCoderBasic
/-
  C03, CELT header: a *stand-alone* invariant of the range decoder on arbitrary bytes,

      J c  :=  c.val < 2^32  ∧  2^23 < c.rng ≤ 2^31,

  established by `ec_dec_init` and preserved by every decoder call of the CELT header (bit_logp, icdf with a
  well-formed table, uint/decode+update with a consistent interval, raw bits), together with the range of the value
  each call returns.  (C08 proves much more, but relative to an encoder run; here nothing is assumed about the bytes.)
-/
namespace Opus.CeltSymsProofs
open Opus Opus.RangeCoder

/-- The decoder invariant that holds on arbitrary input. -/
def J (c : Dec) : Prop := c.val < 4294967296 ∧ 8388608 < c.rng ∧ c.rng ≤ 2147483648

theorem decNormalize_val_lt (c : Dec) (h : c.val < 4294967296) : (decNormalize c).val < 4294967296 := by
  fun_induction decNormalize c with
  | case1 c hc b c1 hb sym ih => exact ih (by dsimp only; omega)
  | case2 c hc => exact h

/-- Normalisation turns "value in range, range positive" into `J`. -/
theorem J_norm (c : Dec) (hv : c.val < 4294967296) (h0 : 0 < c.rng) (h1 : c.rng ≤ 2147483648) : J (decNormalize c) := by
  have hrn := decNormalize_rn c
  have hs := normRN_spec c.rng c.nbitsTotal h0 h1
  have hr : (decNormalize c).rng = (normRN c.rng c.nbitsTotal).1 := by
    have := congrArg Prod.fst hrn; exact this
  exact ⟨decNormalize_val_lt c hv, by rw [hr]; exact hs.1, by rw [hr]; exact hs.2.1⟩

theorem J_decInit (buf : List Nat) (n : Nat) : J (decInit buf n) := by
  unfold decInit
  dsimp only
  apply J_norm
  · dsimp only; exact sub32_lt _ _
  · dsimp only; rw [readByte_rng]; show 0 < 128; omega
  · dsimp only; rw [readByte_rng]; show 128 ≤ 2147483648; omega

theorem pow_le_of_le {a b : Nat} (h : a ≤ b) : 2 ^ a ≤ 2 ^ b := Nat.pow_le_pow_right (by omega) h

theorem J_bitLogp (c : Dec) (hj : J c) (logp : Nat) (h1 : 1 ≤ logp) (h2 : logp ≤ 23) :
    J (decBitLogp c logp).2 ∧ (decBitLogp c logp).1 ≤ 1 := by
  obtain ⟨hv, hr0, hr1⟩ := hj
  have hp1 : 2 ≤ 2 ^ logp := by
    have := pow_le_of_le h1; simpa using this
  have hp2 : 2 ^ logp ≤ 8388608 := by
    have := pow_le_of_le h2; simpa using this
  have hs1 : 1 ≤ c.rng / 2 ^ logp := (Nat.le_div_iff_mul_le (by omega)).2 (by omega)
  have hs2 : c.rng / 2 ^ logp * 2 ≤ c.rng := by
    have := Nat.div_mul_le_self c.rng (2 ^ logp)
    have : c.rng / 2 ^ logp * 2 ≤ c.rng / 2 ^ logp * 2 ^ logp := Nat.mul_le_mul_left _ hp1
    omega
  refine ⟨?_, ?_⟩
  · unfold decBitLogp
    dsimp only
    apply J_norm
    · dsimp only; split
      · exact hv
      · exact sub32_lt _ _
    · dsimp only; split
      · omega
      · rw [sub32_of_le (by omega) (by omega)]; omega
    · dsimp only; split
      · omega
      · rw [sub32_of_le (by omega) (by omega)]; omega
  · unfold decBitLogp; dsimp only; split <;> omega

/-- `r * x` stays below the running `t` along the table, up to the first `0` entry (where the scan stops): what an
    ICDF that is strictly decreasing down to its terminating zero guarantees. -/
def Chain (r : Nat) : Nat → List Nat → Prop
  | _, [] => True
  | t, x :: xs => r * x < t ∧ (x = 0 ∨ Chain r (r * x) xs)

theorem decIcdfLoop_inv (r d : Nat) : ∀ (xs : List Nat) (t k : Nat), 0 < t → t ≤ 4294967296 → Chain r t xs →
    let y := decIcdfLoop r d xs t k; y.2.2 < y.2.1 ∧ y.2.1 ≤ t
  | [], t, k, h0, _, _ => by simp [decIcdfLoop]; exact h0
  | x :: xs, t, k, h0, ht, hc => by
    unfold decIcdfLoop
    have hm : mul32 r x = r * x := mul32_of_lt (by have := hc.1; omega)
    rw [hm]
    dsimp only
    split
    · rename_i hd
      rcases hc.2 with hz | hch
      · subst hz; simp at hd
      · have := decIcdfLoop_inv r d xs (r * x) (k + 1) (by omega) (by have := hc.1; omega) hch
        exact ⟨this.1, by have := hc.1; omega⟩
    · exact ⟨hc.1, Nat.le_refl _⟩

def Decr : List Nat → Prop
  | a :: b :: t => b < a ∧ Decr (b :: t)
  | _ => True

theorem chain_of_decr (r : Nat) (hr : 1 ≤ r) : ∀ (xs : List Nat) (x0 : Nat), Decr (x0 :: xs) → Chain r (r * x0) xs
  | [], _, _ => trivial
  | x :: xs, x0, h => ⟨Nat.mul_lt_mul_of_pos_left h.1 (by omega), Or.inr (chain_of_decr r hr xs x h.2)⟩

/-- A table usable with `ftb` bits: non-empty, first entry below `2^ftb`, strictly decreasing. -/
def TblOk (ftb : Nat) (tbl : List Nat) : Prop :=
  match tbl with
  | [] => False
  | x0 :: xs => x0 < 2 ^ ftb ∧ Decr (x0 :: xs)

/-- `ec_dec_icdf` preserves `J` whenever the table keeps `r·icdf[k]` strictly below the running bound until the scan stops. -/
theorem J_icdf_chain (c : Dec) (hj : J c) (tbl : List Nat) (ftb : Nat)
    (hchain : Chain (c.rng / 2 ^ ftb) c.rng tbl) : J (decIcdf c tbl ftb).2 := by
  obtain ⟨hv, hr0, hr1⟩ := hj
  have hinv := decIcdfLoop_inv (c.rng / 2 ^ ftb) c.val tbl c.rng 0 (by omega) (by omega) hchain
  unfold decIcdf
  dsimp only
  generalize decIcdfLoop (c.rng / 2 ^ ftb) c.val tbl c.rng 0 = y at hinv
  obtain ⟨ret, t, s⟩ := y
  dsimp only at hinv ⊢
  apply J_norm
  · dsimp only; exact sub32_lt _ _
  · dsimp only; rw [sub32_of_le (by omega) (by omega)]; omega
  · dsimp only; rw [sub32_of_le (by omega) (by omega)]; omega

theorem J_icdf (c : Dec) (hj : J c) (tbl : List Nat) (ftb : Nat) (hf : ftb ≤ 8) (ht : TblOk ftb tbl) :
    J (decIcdf c tbl ftb).2 := by
  obtain ⟨hv, hr0, hr1⟩ := hj
  have hp : 2 ^ ftb ≤ 256 := by have := pow_le_of_le hf; simpa using this
  have hp0 : 0 < 2 ^ ftb := Nat.pow_pos (by omega)
  have hr : 1 ≤ c.rng / 2 ^ ftb := (Nat.le_div_iff_mul_le hp0).2 (by omega)
  have hchain : Chain (c.rng / 2 ^ ftb) c.rng tbl := by
    cases tbl with
    | nil => trivial
    | cons x0 xs =>
      have hx := ht.1
      have h1 : c.rng / 2 ^ ftb * x0 < c.rng := by
        have ha : c.rng / 2 ^ ftb * (x0 + 1) ≤ c.rng / 2 ^ ftb * 2 ^ ftb := Nat.mul_le_mul_left _ (by omega)
        have hb := Nat.div_mul_le_self c.rng (2 ^ ftb)
        have hc : c.rng / 2 ^ ftb * (x0 + 1) = c.rng / 2 ^ ftb * x0 + c.rng / 2 ^ ftb := by
          rw [Nat.mul_add, Nat.mul_one]
        omega
      exact ⟨h1, Or.inr (chain_of_decr _ hr xs x0 ht.2)⟩
  exact J_icdf_chain c ⟨hv, hr0, hr1⟩ tbl ftb hchain

/-- What `ec_decode(ft)` / `ec_decode_bin(bits)` return under `J`: a cumulative frequency below `ft`. -/
theorem decode_lt (c : Dec) (hj : J c) (ft : Nat) (h1 : 1 ≤ ft) (h2 : ft ≤ 32768) :
    (decode c ft).1 < ft ∧ (decode c ft).2 = { c with ext := c.rng / ft } := by
  obtain ⟨hv, hr0, hr1⟩ := hj
  unfold decode udiv
  dsimp only
  have hext : 256 ≤ c.rng / ft := (Nat.le_div_iff_mul_le (by omega)).2 (by
    have : 256 * ft ≤ 256 * 32768 := Nat.mul_le_mul_left _ h2
    omega)
  have hq : c.val / (c.rng / ft) < 16777216 := (Nat.div_lt_iff_lt_mul (by omega)).2 (by
    have : 16777216 * 256 ≤ 16777216 * (c.rng / ft) := Nat.mul_le_mul_left _ hext
    omega)
  have e1 : u32 (c.val / (c.rng / ft)) = c.val / (c.rng / ft) := u32_of_lt (by omega)
  have e2 : u32 (c.val / (c.rng / ft) + 1) = c.val / (c.rng / ft) + 1 := u32_of_lt (by omega)
  rw [e1, e2]
  refine ⟨?_, rfl⟩
  unfold mini
  split
  · rw [sub32_of_le (by omega) (Nat.le_refl _)]; omega
  · rw [sub32_of_le (by omega) (by omega)]; omega

theorem decodeBin_eq (c : Dec) (bits : Nat) (hb : bits ≤ 15) : decodeBin c bits = decode c (2 ^ bits) := by
  have hp : 2 ^ bits ≤ 32768 := by have := pow_le_of_le hb; simpa using this
  unfold decodeBin decode udiv
  rw [u32_of_lt (by omega : 2 ^ bits < 4294967296)]

/-- the new range of `ec_dec_update`, with `r = rng / ft` -/
theorem update_rng {r ft fl fh rng : Nat} (hr : 1 ≤ r) (hm : r * ft ≤ rng) (hl : fl < fh) (hh : fh ≤ ft) :
    r * (ft - fh) ≤ rng ∧ r * (fh - fl) ≤ rng ∧ 0 < r * (fh - fl) ∧ (fl = 0 → 0 < rng - r * (ft - fh)) := by
  obtain ⟨a, rfl⟩ : ∃ a, fh = fl + (a + 1) := ⟨fh - fl - 1, by omega⟩
  obtain ⟨b, rfl⟩ : ∃ b, ft = fl + (a + 1) + b := ⟨ft - (fl + (a + 1)), by omega⟩
  have e1 : fl + (a + 1) + b - (fl + (a + 1)) = b := by omega
  have e2 : fl + (a + 1) - fl = a + 1 := by omega
  rw [e1, e2]
  simp only [Nat.mul_add, Nat.mul_one] at hm ⊢
  refine ⟨by omega, by omega, by omega, fun h => ?_⟩
  subst h
  simp only [Nat.mul_zero] at hm
  omega

/-- `ec_dec_update(fl, fh, ft)` with `fl < fh ≤ ft` after a `decode` that set `ext = rng/ft`. -/
theorem J_update (c : Dec) (hj : J c) (ft fl fh : Nat) (h1 : 1 ≤ ft) (h2 : ft ≤ 32768) (hl : fl < fh) (hh : fh ≤ ft) :
    J (decUpdate { c with ext := c.rng / ft } fl fh ft) := by
  obtain ⟨hv, hr0, hr1⟩ := hj
  have hext : 1 ≤ c.rng / ft := (Nat.le_div_iff_mul_le (by omega)).2 (by omega)
  obtain ⟨k1, k2, k3, k4⟩ := update_rng hext (Nat.div_mul_le_self c.rng ft) hl hh
  unfold decUpdate
  dsimp only
  have e2 : mul32 (c.rng / ft) (ft - fh) = c.rng / ft * (ft - fh) := mul32_of_lt (by omega)
  have e4 : mul32 (c.rng / ft) (fh - fl) = c.rng / ft * (fh - fl) := mul32_of_lt (by omega)
  rw [sub32_of_le (by omega) hh, e2, sub32_of_le (by omega) (by omega : fl ≤ fh), e4, sub32_of_le (by omega) k1]
  apply J_norm
  · dsimp only; exact sub32_lt _ _
  · dsimp only; split
    · exact k3
    · exact k4 (by omega)
  · dsimp only; split <;> omega
/-- `ec_dec_uint(ft)` for `2 ≤ ft ≤ 256` (no raw-bit part): value below `ft`, `J` preserved. -/
theorem J_uint (c : Dec) (hj : J c) (ft : Nat) (h1 : 2 ≤ ft) (h2 : ft ≤ 256) :
    (decUint c ft).1 < ft ∧ J (decUint c ft).2 := by
  have hil : ilog (ft - 1) ≤ 8 := (ilog_lt_iff).2 (by omega)
  unfold decUint
  dsimp only
  rw [if_neg (by omega)]
  have e : ft - 1 + 1 = ft := by omega
  rw [e]
  have hd := decode_lt c hj ft (by omega) (by omega)
  generalize decode c ft = y at hd
  obtain ⟨s, c1⟩ := y
  dsimp only at hd ⊢
  rw [hd.2]
  exact ⟨hd.1, J_update c hj ft s (s + 1) (by omega) (by omega) (by omega) (by omega)⟩

theorem readByteFromEnd_vr (c : Dec) : (readByteFromEnd c).2.val = c.val ∧ (readByteFromEnd c).2.rng = c.rng := by
  unfold readByteFromEnd; split <;> exact ⟨rfl, rfl⟩

theorem decBitsFill_vr_aux : ∀ (n : Nat) (c : Dec) (w a : Nat), 32 - a ≤ n →
    (decBitsFill c w a).1.val = c.val ∧ (decBitsFill c w a).1.rng = c.rng
  | 0, c, w, a, hn => by
    rw [decBitsFill]
    have hr := readByteFromEnd_vr c
    generalize readByteFromEnd c = y at hr
    obtain ⟨b, c1⟩ := y
    dsimp only at hr ⊢
    rw [dif_neg (by omega)]
    exact hr
  | n + 1, c, w, a, hn => by
    rw [decBitsFill]
    have hr := readByteFromEnd_vr c
    generalize readByteFromEnd c = y at hr
    obtain ⟨b, c1⟩ := y
    dsimp only at hr ⊢
    split
    · have ih := decBitsFill_vr_aux n c1 (w ||| u32 (b <<< a)) (a + 8) (by omega)
      exact ⟨ih.1.trans hr.1, ih.2.trans hr.2⟩
    · exact hr

theorem decBitsFill_vr (c : Dec) (w a : Nat) : (decBitsFill c w a).1.val = c.val ∧ (decBitsFill c w a).1.rng = c.rng :=
  decBitsFill_vr_aux (32 - a) c w a (Nat.le_refl _)

theorem J_bits (c : Dec) (hj : J c) (n : Nat) : J (decBits c n).2 ∧ (decBits c n).1 < 2 ^ n := by
  unfold decBits
  dsimp only
  refine ⟨?_, Nat.mod_lt _ (Nat.pow_pos (by omega))⟩
  unfold J
  dsimp only
  split
  · have := decBitsFill_vr c c.endWindow c.nendBits
    rw [this.1, this.2]; exact hj
  · exact hj

end Opus.CeltSymsProofs
