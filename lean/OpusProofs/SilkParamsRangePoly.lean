import OpusProofs.SilkParamsRangeBasic
/-
  OpusProofs.SilkParamsRangePoly — range lemmas for silk_NLSF2A_find_poly (NLSF2A.c:44-63): with every `2*cos` in
  [-2, 2] (Q16; OpusProofs/SilkParamsRangeCos.lean) the polynomial recursion stays below the
  binomial majorant `C(2k, n) * 2^16`, which fits 32 bits for k ≤ 8.
-/
namespace Opus.SilkParams
open Opus Opus.Gen

/-! ### silk_NLSF2A_find_poly -/

/-- `|x| ≤ b` for every entry, entries beyond the bound list count as 0. -/
def BoundedBy (o b : List Int) : Prop := ∀ n : Nat, -(b.getD n 0) ≤ o.getD n 0 ∧ o.getD n 0 ≤ b.getD n 0

/-- The majorant recursion: one outer iteration of find_poly with `|f| ≤ 2` (Q16: 131072)
    multiplies the majorant polynomial by `(1 + x)^2`. -/
def polyBound (b : List Int) : List Int :=
  let k := b.length - 1
  (List.range (k + 2)).map fun n =>
    if n = 0 then b.getD 0 0
    else if n = 1 then b.getD 1 0 + 131072
    else if n = k + 1 then 2 * b.getD (k - 1) 0 + 2 * b.getD k 0
    else b.getD n 0 + (b.getD (n - 2) 0 + 2 * b.getD (n - 1) 0)

theorem getD_map_range (g : Nat → Int) (m n : Nat) :
    ((List.range m).map g).getD n 0 = if n < m then g n else 0 := by
  rw [List.getD_eq_getElem?_getD, List.getElem?_map]
  by_cases h : n < m
  · rw [List.getElem?_range h, if_pos h]; rfl
  · rw [if_neg h, List.getElem?_eq_none (by simp; omega)]; rfl

/-- `|f| ≤ 2^17`, `|x| ≤ b` ⟹ the rounded shift by 16 of the product is at most `2b` in magnitude. -/
theorem round_mul_bound (f x b : Int) (hf : -131072 ≤ f ∧ f ≤ 131072) (hx : -b ≤ x ∧ x ≤ b) :
    -(2 * b) ≤ rshiftRound (f * x) 16 ∧ rshiftRound (f * x) 16 ≤ 2 * b := by
  have h1 : f * x ≤ 131072 * b := (mul_abs_le hf hx).2
  have h2 : -(131072 * b) ≤ f * x := (mul_abs_le hf hx).1
  rw [rshiftRound16]
  generalize f * x = y at h1 h2
  omega

/-- Every `opus_int32` value computed by one outer iteration `k` of `silk_NLSF2A_find_poly`
    (NLSF2A.c:55-62) from `out[0..k]`: the new entries `out[0..k+1]` themselves,
    `silk_LSHIFT( out[k-1], 1 )`, the operand of every `(opus_int32)silk_RSHIFT_ROUND64( … )` cast
    (n = 1..k), and the inner differences `out[n-2] - (…)` (n = 2..k). -/
def polyStepTrace (f : Int) (o : List Int) : List Int :=
  let k := o.length - 1
  polyStep f o ++ [2 * o.getD (k - 1) 0] ++
    (List.range' 1 k).map (fun n => rshiftRound (f * o.getD n 0) 16) ++
    (List.range' 2 (k - 1)).map (fun n => o.getD (n - 2) 0 - rshiftRound (f * o.getD (n - 1) 0) 16)

/-- The 64-bit products `silk_SMULL( ftmp, out[n] )` of the same iteration (`|ftmp| ≤ 2^17`, `|out[n]| < 2^31`: far
    below `2^63`; listed for `findPolyTrace64`, no theorem is stated about them). -/
def polyStepTrace64 (f : Int) (o : List Int) : List Int :=
  (List.range' 1 (o.length - 1)).map (fun n => f * o.getD n 0)

theorem polyStep_length (f : Int) (o : List Int) : (polyStep f o).length = o.length - 1 + 2 := by
  simp only [polyStep, List.length_map, List.length_range]

theorem polyBound_length (b : List Int) : (polyBound b).length = b.length - 1 + 2 := by
  simp only [polyBound, List.length_map, List.length_range]

theorem BoundedBy_nonneg {o b : List Int} (h : BoundedBy o b) (n : Nat) : 0 ≤ b.getD n 0 := by
  have := h n; omega

theorem BoundedBy_map_range {g h : Nat → Int} {m : Nat} (H : ∀ n, n < m → -(h n) ≤ g n ∧ g n ≤ h n) :
    BoundedBy ((List.range m).map g) ((List.range m).map h) := by
  intro n
  rw [getD_map_range, getD_map_range]
  split
  · exact H n ‹_›
  · omega

/-- One outer iteration of find_poly under a majorant list all of whose successor entries are
    at most `M ≤ 2^31 - 1`. -/
theorem polyStep_range (f : Int) (o b : List Int) (M : Int) (hf : -131072 ≤ f ∧ f ≤ 131072)
    (hl : b.length = o.length) (h2 : 2 ≤ o.length) (hb : BoundedBy o b)
    (hM : ∀ e ∈ polyBound b, e ≤ M) (hM0 : 0 ≤ M) (hM1 : M ≤ 2147483647) :
    BoundedBy (polyStep f o) (polyBound b) ∧ (∀ v ∈ polyStepTrace f o, I32 v) := by
  have hnn := BoundedBy_nonneg hb
  -- the majorant's entries, by index
  have hMn := hM
  simp only [polyBound, hl, List.forall_mem_map, List.mem_range] at hMn
  -- the rounded products are bounded, so the casts are the identity
  have hX : ∀ n, -(2 * b.getD n 0) ≤ rshiftRound (f * o.getD n 0) 16 ∧
      rshiftRound (f * o.getD n 0) 16 ≤ 2 * b.getD n 0 := fun n =>
    round_mul_bound f _ _ hf (hb n)
  -- bound of X_n by M: 2 b[n] ≤ majorant entry n+1 (for 1 ≤ n ≤ k)
  have h2b : ∀ n, 1 ≤ n → n ≤ o.length - 1 → 2 * b.getD n 0 ≤ M := by
    intro n hn1 hnk
    have := hMn (n + 1) (by omega)
    rw [if_neg (by omega), if_neg (by omega)] at this
    have a1 := hnn (n - 1); have a2 := hnn (n + 1); have a3 := hnn (o.length - 1 - 1)
    split at this
    · rename_i heq
      have : n = o.length - 1 := by omega
      subst this; omega
    · have e1 : n + 1 - 2 = n - 1 := by omega
      have e2 : n + 1 - 1 = n := by omega
      rw [e1, e2] at this; omega
  have hXI : ∀ n, 1 ≤ n → n ≤ o.length - 1 → I32 (rshiftRound (f * o.getD n 0) 16) := by
    intro n hn1 hnk
    have := hX n; have := h2b n hn1 hnk; unfold I32; omega
  -- `2 * out[k-1]`, bounded through the last majorant entry
  have hLast : -M ≤ 2 * o.getD (o.length - 1 - 1) 0 ∧ 2 * o.getD (o.length - 1 - 1) 0 ≤ M := by
    have := hb (o.length - 1 - 1)
    have := hMn (o.length - 1 + 1) (by omega)
    rw [if_neg (by omega), if_neg (by omega), if_pos rfl] at this
    have := hnn (o.length - 1)
    omega
  have hBB : BoundedBy (polyStep f o) (polyBound b) := by
    unfold polyStep polyBound
    rw [hl]
    refine BoundedBy_map_range fun n hn => ?_
    split
    · exact hb 0
    · split
      · have := hb 1; omega
      · split
        · have hI : I32 (o.getD (o.length - 1 - 1) 0 * 2 ^ 1) := by unfold I32; omega
          unfold lshift32
          rw [wrap32_id hI, wrap32_id (hXI (o.length - 1) (by omega) (by omega))]
          have := hb (o.length - 1 - 1); have := hX (o.length - 1)
          omega
        · rw [wrap32_id (hXI (n - 1) (by omega) (by omega))]
          have := hb n; have := hb (n - 2); have := hX (n - 1)
          omega
  refine ⟨hBB, ?_⟩
  · intro v hv
    unfold polyStepTrace at hv
    simp only [List.mem_append, List.mem_cons, List.not_mem_nil, or_false, List.mem_map, List.mem_range'_1] at hv
    rcases hv with ((hv | hv) | ⟨n, hn, rfl⟩) | ⟨n, hn, rfl⟩
    · -- a new entry: below its majorant entry, which is at most `M`
      obtain ⟨i, hi, rfl⟩ := List.getElem_of_mem hv
      rw [List.getElem_eq_getD 0]
      have := hBB i
      have := getD_of_all hM hM0 i
      unfold I32; omega
    · subst hv; unfold I32; omega
    · exact hXI n (by omega) (by omega)
    · have := hb (n - 2); have := hX (n - 1)
      have := hMn n (by omega)
      rw [if_neg (by omega), if_neg (by omega), if_neg (by omega)] at this
      have := hnn n
      unfold I32; omega

/-- Trace of all outer iterations of find_poly after the initialisation. -/
def polyFoldTrace : List Int → List Int → List Int
  | [], _ => []
  | f :: fs, o => polyStepTrace f o ++ polyFoldTrace fs (polyStep f o)

def polyFoldTrace64 : List Int → List Int → List Int
  | [], _ => []
  | f :: fs, o => polyStepTrace64 f o ++ polyFoldTrace64 fs (polyStep f o)

/-- Iterated majorant and the check that every majorant entry met on the way fits 32 bits. -/
def polyBoundIter : Nat → List Int → List Int
  | 0, b => b
  | n + 1, b => polyBoundIter n (polyBound b)

def polyBoundsOk : Nat → List Int → Bool
  | 0, _ => true
  | n + 1, b => (polyBound b).all (fun e => decide (e ≤ 2147483647)) && polyBoundsOk n (polyBound b)

theorem polyFold_range : ∀ (fs : List Int) (o b : List Int), (∀ f ∈ fs, -131072 ≤ f ∧ f ≤ 131072) →
    b.length = o.length → 2 ≤ o.length → BoundedBy o b → polyBoundsOk fs.length b = true →
    BoundedBy (fs.foldl (fun o f => polyStep f o) o) (polyBoundIter fs.length b) ∧
    (∀ v ∈ polyFoldTrace fs o, I32 v) ∧
    (fs.foldl (fun o f => polyStep f o) o).length = o.length + fs.length := by
  intro fs
  induction fs with
  | nil => intro o b _ _ _ hb _; exact ⟨hb, by simp [polyFoldTrace], by simp⟩
  | cons f fs ih =>
    intro o b hf hl h2 hb hok
    simp only [List.length_cons, polyBoundsOk, Bool.and_eq_true, List.all_eq_true, decide_eq_true_eq] at hok
    have hs := polyStep_range f o b 2147483647 (hf f (by simp)) hl h2 hb hok.1 (by omega) (by omega)
    have hr := ih (polyStep f o) (polyBound b) (fun g hg => hf g (by simp [hg]))
      (by rw [polyBound_length, polyStep_length, hl]) (by rw [polyStep_length]; omega) hs.1 hok.2
    simp only [List.foldl_cons, List.length_cons, polyBoundIter, polyFoldTrace, List.forall_mem_append]
    exact ⟨hr.1, ⟨hs.2, hr.2.1⟩, by rw [hr.2.2, polyStep_length]; omega⟩

/-- Trace of `silk_NLSF2A_find_poly( out, cLSF, dd )` on the strided inputs `cs = cLSF[0], cLSF[2], …`:
    `out[1] = -cLSF[0]` and the outer iterations. -/
def findPolyTrace : List Int → List Int
  | [] => []
  | f0 :: rest => -f0 :: polyFoldTrace rest [65536, -f0]

def findPolyTrace64 : List Int → List Int
  | [] => []
  | f0 :: rest => polyFoldTrace64 rest [65536, -f0]

/-- The binomial majorants `C(2k, n) · 2^16` reached by find_poly for `dd = 5` and `dd = 8`. -/
theorem polyBound_dd5 : polyBoundsOk 4 [65536, 131072] = true ∧
    polyBoundIter 4 [65536, 131072] = [65536, 655360, 2949120, 7864320, 13762560, 16515072] := by
  decide +kernel

theorem polyBound_dd8 : polyBoundsOk 7 [65536, 131072] = true ∧
    polyBoundIter 7 [65536, 131072] =
      [65536, 1048576, 7864320, 36700160, 119275520, 286261248, 524812288, 749731840, 843448320] := by
  decide +kernel

theorem init_bounded (f0 : Int) (h : -131072 ≤ f0 ∧ f0 ≤ 131072) : BoundedBy [65536, -f0] [65536, 131072] := by
  intro n
  match n with
  | 0 => simp
  | 1 => simp; omega
  | n + 2 => simp

/-- `silk_NLSF2A_find_poly` for any `dd = cs.length ≥ 1` whose iterated majorant fits 32 bits (`polyBoundsOk`), and every
    `|cLSF| ≤ 2` (Q16): nothing wraps and the result is below the majorant. -/
theorem findPoly_range_of (cs : List Int) (hcs : ∀ f ∈ cs, -131072 ≤ f ∧ f ≤ 131072) (hne : cs ≠ [])
    (hok : polyBoundsOk (cs.length - 1) [65536, 131072] = true) :
    BoundedBy (findPoly cs) (polyBoundIter (cs.length - 1) [65536, 131072]) ∧ (∀ v ∈ findPolyTrace cs, I32 v) ∧
    (findPoly cs).length = cs.length + 1 := by
  cases cs with
  | nil => exact absurd rfl hne
  | cons f0 rest =>
    have hf0 := hcs f0 (by simp)
    simp only [List.length_cons, Nat.add_sub_cancel] at hok ⊢
    have := polyFold_range rest [65536, -f0] [65536, 131072] (fun f hf => hcs f (by simp [hf])) rfl (by simp)
      (init_bounded f0 hf0) hok
    unfold findPoly findPolyTrace
    exact ⟨this.1, List.forall_mem_cons.mpr ⟨by unfold I32; omega, this.2.1⟩, by rw [this.2.2]; simp; omega⟩

/-- `silk_NLSF2A_find_poly` with `dd = cs.length ∈ {5, 8}`: the majorants are the binomial ones of `polyBound_dd5/8`. -/
theorem findPoly_range (cs : List Int) (bnd : List Int) (hcs : ∀ f ∈ cs, -131072 ≤ f ∧ f ≤ 131072)
    (hd : (cs.length = 5 ∧ bnd = [65536, 655360, 2949120, 7864320, 13762560, 16515072]) ∨
          (cs.length = 8 ∧ bnd = [65536, 1048576, 7864320, 36700160, 119275520, 286261248, 524812288,
             749731840, 843448320])) :
    BoundedBy (findPoly cs) bnd ∧ (∀ v ∈ findPolyTrace cs, I32 v) ∧ (findPoly cs).length = cs.length + 1 := by
  have hne : cs ≠ [] := by rintro rfl; simp at hd
  rcases hd with ⟨hl, rfl⟩ | ⟨hl, rfl⟩
  · have := findPoly_range_of cs hcs hne (by rw [hl]; exact polyBound_dd5.1)
    rw [hl, polyBound_dd5.2] at this; rw [hl]; exact this
  · have := findPoly_range_of cs hcs hne (by rw [hl]; exact polyBound_dd8.1)
    rw [hl, polyBound_dd8.2] at this; rw [hl]; exact this

end Opus.SilkParams
