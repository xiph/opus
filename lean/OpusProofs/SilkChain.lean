/-
  OpusProofs.SilkChain — a small model of the flag that disables LSF interpolation on the first frame after a decoder
  reset / internal-rate change, and of the choice of the first-half LSF vector in silk_decode_parameters.

  C code transcribed:
    silk/init_decoder.c:51            psDec->first_frame_after_reset = 1;           (silk_reset_decoder)
    silk/decoder_set_fs.c:72,91       if( psDec->fs_kHz != fs_kHz ) { … psDec->first_frame_after_reset = 1; … }
                                      psDec->fs_kHz = fs_kHz  (prevNLSF_Q15 is NOT cleared)
    silk/decode_frame.c:130           psDec->first_frame_after_reset = 0;           (after a frame decoded without error)
    silk/decode_parameters.c:59-61    if( psDec->first_frame_after_reset == 1 ) psDec->indices.NLSFInterpCoef_Q2 = 4;
    silk/decode_parameters.c:63-76    if( NLSFInterpCoef_Q2 < 4 ) pNLSF0[i] = prev[i] + ((coef * (cur[i] - prev[i])) >> 2), NLSF2A(pNLSF0)
                                      else PredCoef_Q12[0] := PredCoef_Q12[1]       (the filter of the decoded vector)
    silk/decode_parameters.c:78       prevNLSF_Q15 := pNLSF_Q15
  Core Lean only.
-/
namespace OpusProofs.SilkChain

/-- the part of `silk_decoder_state` that takes part -/
structure Dec where
  fsKHz : Int
  firstFrameAfterReset : Int
  prevNLSF : List Int
  deriving Repr, DecidableEq

/-- silk_reset_decoder (init_decoder.c:41-60): the state past SILK_DECODER_STATE_RESET_START is cleared, flag := 1. -/
def reset (d : Dec) : Dec := { d with firstFrameAfterReset := 1, prevNLSF := d.prevNLSF.map (fun _ => 0) }

/-- silk_decoder_set_fs (decoder_set_fs.c:72-92), restricted to the members above. -/
def setFs (d : Dec) (fs : Int) : Dec :=
  if d.fsKHz ≠ fs then { d with fsKHz := fs, firstFrameAfterReset := 1 } else d

/-- decode_parameters.c:59-61 — the interpolation factor actually used. -/
def effCoef (flag coef : Int) : Int := if flag = 1 then 4 else coef

/-- decode_parameters.c:66-69 — `>> 2` of opus_int32 is floor division by 4. -/
def interp (prev cur : List Int) (c : Int) : List Int :=
  List.zipWith (fun p n => p + (c * (n - p)) / 4) prev cur

/-- The LSF vector from which the first-half filter PredCoef_Q12[0] is derived (decode_parameters.c:63-76): the
    interpolated vector when the factor in force is below 4, otherwise the decoded vector itself. -/
def firstHalf (d : Dec) (coef : Int) (cur : List Int) : List Int :=
  if effCoef d.firstFrameAfterReset coef < 4 then interp d.prevNLSF cur (effCoef d.firstFrameAfterReset coef) else cur

/-- one good frame: parameters decoded (prevNLSF := cur, decode_parameters.c:78), flag cleared (decode_frame.c:130). -/
def goodFrame (d : Dec) (cur : List Int) : Dec := { d with prevNLSF := cur, firstFrameAfterReset := 0 }

theorem effCoef_flag (coef : Int) : effCoef 1 coef = 4 := by simp [effCoef]

theorem firstHalf_of_flag (d : Dec) (h : d.firstFrameAfterReset = 1) (coef : Int) (cur : List Int) :
    firstHalf d coef cur = cur := by
  simp [firstHalf, effCoef, h]

theorem setFs_flag (d : Dec) (fs : Int) (h : d.fsKHz ≠ fs) : (setFs d fs).firstFrameAfterReset = 1 := by
  simp [setFs, h]

theorem setFs_same (d : Dec) : setFs d d.fsKHz = d := by simp [setFs]

theorem reset_flag (d : Dec) : (reset d).firstFrameAfterReset = 1 := rfl

theorem firstHalf_coef4 (d : Dec) (cur : List Int) : firstHalf d 4 cur = cur := by
  unfold firstHalf effCoef; split <;> simp

end OpusProofs.SilkChain
