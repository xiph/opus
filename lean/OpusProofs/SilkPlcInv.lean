import OpusProofs.SilkPlcConceal
/-
  OpusProofs.SilkPlcInv — the state invariant `PlcInv` of `silk_PLC_struct` (the bounds that are TRUE of the code):
  established by the zeroed state and by silk_PLC_Reset, preserved by silk_PLC( …, lost = 0 ) (silk_PLC_update) for every
  in-range decoder control and by silk_PLC( …, lost = 1 ) (silk_PLC_conceal, which under the invariant never aborts),
  hence after every history of received / lost frames and decoder resets.
-/
namespace Opus.SilkPlc
open Opus Opus.SilkParams Opus.Gen.PlcConsts Opus.Gen.SilkPlcCngConsts

/-- `opus_int16` range, as an `abbrev` (see the head of OpusProofs/SilkPlcGains.lean for the four copies). -/
abbrev J16 (x : Int) : Prop := -32768 ≤ x ∧ x ≤ 32767

/-- A SILK internal rate. -/
def FsOk (fs : Int) : Prop := fs = 8 ∨ fs = 12 ∨ fs = 16

theorem FsOk.range {fs : Int} (h : FsOk fs) : 8 ≤ fs ∧ fs ≤ 16 := by rcases h with h | h | h <;> omega

/-- The invariant of `silk_PLC_struct`.  Unconditional part: array sizes, int16 taps, `randScale_Q14 ∈ [0, 32767]`
    (NOT `≤ 2^14`: see `ltp_limit_counterexample`), `prevLTP_scale_Q14 ∈ [0, 2^14]`.  Once the structure has been used
    at an internal rate (`fs_kHz ∈ {8,12,16}`): `2 ms ≤ pitchL_Q8 ≤ 18 ms` in Q8 samples and two positive `prevGain_Q16`. -/
structure PlcInv (p : Plc) : Prop where
  tapsLen : p.ltpCoef.length = 5
  tapsI16 : ∀ b ∈ p.ltpCoef, J16 b
  lpcLen : p.prevLPC.length = 16
  rs : 0 ≤ p.randScale ∧ p.randScale ≤ 32767
  plt : 0 ≤ p.prevLtpScale ∧ p.prevLtpScale ≤ 16384
  live : FsOk p.fsKHz → (512 * p.fsKHz ≤ p.pitchLQ8 ∧ p.pitchLQ8 ≤ 4608 * p.fsKHz) ∧
           p.prevGain.length = 2 ∧ ∀ g ∈ p.prevGain, 0 < g ∧ g ≤ 2147483647

/-- The decoder configuration silk_decoder_set_fs establishes (decoder_set_fs.c:44-104). -/
structure DecCfg (d : Dec) : Prop where
  fs : FsOk d.fsKHz
  nb : d.nbSubfr = 2 ∨ d.nbSubfr = 4
  sl : (d.subfrLength : Int) = 5 * d.fsKHz
  fl : d.frameLength = d.nbSubfr * d.subfrLength
  mem : (d.ltpMemLength : Int) = 20 * d.fsKHz
  order : (d.lpcOrder = 10 ∧ d.fsKHz ≠ 16) ∨ (d.lpcOrder = 16 ∧ d.fsKHz = 16)

/-- The configuration does not speak of `sPLC`. -/
theorem DecCfg.setPlc {d : Dec} (h : DecCfg d) (p : Plc) : DecCfg { d with plc := p } :=
  ⟨h.fs, h.nb, h.sl, h.fl, h.mem, h.order⟩

/-- What silk_decode_parameters guarantees about the control structure of a decoded frame (C18): pitch lags within
    [2 ms, 18 ms] on voiced frames, positive gains, `LTP_scale_Q14 ∈ [0, 2^14]`, 16 LPC coefficients, 20 LTP taps (any
    int16 values — so every LTP codebook entry is covered). -/
structure CtrlOk (d : Dec) (c : Ctrl) : Prop where
  pitch : d.signalType = TYPE_VOICED → ∀ i, i < d.nbSubfr → 2 * d.fsKHz ≤ c.pitchL.getD i 0 ∧ c.pitchL.getD i 0 ≤ 18 * d.fsKHz
  gains : ∀ i, i < d.nbSubfr → 0 < c.gains.getD i 0 ∧ c.gains.getD i 0 ≤ 2147483647
  scale : 0 ≤ c.ltpScale ∧ c.ltpScale ≤ 16384
  lpc : c.predCoef1.length = 16

/-- The zeroed structure (silk_init_decoder / silk_reset_decoder memset). -/
def plcZero : Plc :=
  { pitchLQ8 := 0, ltpCoef := [0, 0, 0, 0, 0], prevLPC := List.replicate 16 0, lastFrameLost := 0, randSeed := 0,
    randScale := 0, concEnergy := 0, concEnergyShift := 0, prevLtpScale := 0, prevGain := [0, 0], fsKHz := 0,
    nbSubfr := 0, subfrLength := 0 }

theorem plcZero_inv : PlcInv plcZero :=
  { tapsLen := rfl, tapsI16 := by decide, lpcLen := rfl, rs := by decide, plt := by decide,
    live := fun h => by simp [FsOk, plcZero] at h }


/-- After the rate check of silk_PLC (PLC.c:84-87, silk_PLC_Reset included) the invariant holds with `fs_kHz` = the
    decoder's rate. -/
theorem plcRateCheck_inv (d : Dec) (hc : DecCfg d) (hi : PlcInv d.plc) :
    PlcInv (plcRateCheck d) ∧ (plcRateCheck d).fsKHz = d.fsKHz := by
  unfold plcRateCheck
  by_cases h : d.fsKHz ≠ d.plc.fsKHz
  · rw [if_pos h]
    refine ⟨?_, rfl⟩
    unfold plcReset
    refine ⟨hi.tapsLen, hi.tapsI16, hi.lpcLen, hi.rs, hi.plt, ?_⟩
    intro _
    dsimp only
    have hfl : (d.frameLength : Int) = d.nbSubfr * (5 * d.fsKHz) := by
      rw [hc.fl, ← hc.sl]; simp
    refine ⟨?_, rfl, by decide⟩
    unfold lshift32 wrap32
    simp only [Int.reducePow]
    rw [hfl]
    rcases hc.fs with h | h | h <;> rcases hc.nb with n | n <;> rw [h, n] <;> decide
  · rw [if_neg h]
    exact ⟨hi, (Decidable.not_not.mp h).symm⟩

theorem updLtpCoef_ok (g : Int) : (updLtpCoef g).length = 5 ∧ ∀ b ∈ updLtpCoef g, J16 b := by
  unfold updLtpCoef
  dsimp only
  split
  · exact ⟨by simp, List.forall_mem_map.mpr fun _ _ => wrap16_I16 _⟩
  · split
    · exact ⟨by simp, List.forall_mem_map.mpr fun _ _ => wrap16_I16 _⟩
    · refine ⟨rfl, fun b hb => ?_⟩
      simp only [List.mem_cons, List.mem_nil_iff, or_false] at hb
      rcases hb with rfl | rfl | rfl | rfl | rfl
      all_goals first | exact wrap16_I16 _ | (unfold J16; omega)

/-- The scan PLC.c:135-151 returns as `pitchL_Q8` either the value it started from or `pitchL[k] << 8` of a sub-frame. -/
theorem updScan_pitch (Q : Int → Prop) (nb : Nat) (sl : Int) (pitchL ltp : List Int) (hnb : 0 < nb)
    (hq : ∀ i, i < nb → Q (lshift32 (pitchL.getD i 0) 8)) :
    ∀ (n j : Nat) (s : Int × Int), Q s.2 → Q (updScan nb sl pitchL ltp n j s).2
  | 0, _, _, h => h
  | n + 1, j, (g, p), h => by
    unfold updScan
    split
    · apply updScan_pitch Q nb sl pitchL ltp hnb hq n (j + 1)
      split
      · exact hq _ (by omega)
      · exact h
    · exact h

/-- silk_PLC_update (PLC.c:119-190) preserves the invariant, for every in-range control structure. -/
theorem plcUpdate_inv (d : Dec) (c : Ctrl) (p : Plc) (hc : DecCfg d) (hk : CtrlOk d c) (hi : PlcInv p)
    (hfs : p.fsKHz = d.fsKHz) : PlcInv (plcUpdate d c p).plc ∧ (plcUpdate d c p).plc.fsKHz = d.fsKHz := by
  have hnb : 2 ≤ d.nbSubfr := by rcases hc.nb with h | h <;> omega
  have hfsb := hc.fs.range
  have hlive := hi.live (by rw [hfs]; exact hc.fs)
  rw [hfs] at hlive
  have hq : ∀ x : Int, 2 * d.fsKHz ≤ x ∧ x ≤ 18 * d.fsKHz → 512 * d.fsKHz ≤ lshift32 x 8 ∧ lshift32 x 8 ≤ 4608 * d.fsKHz := by
    intro x hx; unfold lshift32 wrap32; simp only [Int.reducePow]; omega
  have hlpc : (List.take d.lpcOrder c.predCoef1 ++ List.drop d.lpcOrder p.prevLPC).length = 16 := by
    have := hk.lpc; have := hi.lpcLen
    simp only [List.length_append, List.length_take, List.length_drop]
    rcases hc.order with ⟨h, _⟩ | ⟨h, _⟩ <;> omega
  have hg : ∀ g ∈ [c.gains.getD (d.nbSubfr - 2) 0, c.gains.getD (d.nbSubfr - 1) 0], 0 < g ∧ g ≤ 2147483647 :=
    List.forall_mem_cons.mpr ⟨hk.gains _ (by omega), List.forall_mem_cons.mpr ⟨hk.gains _ (by omega), nofun⟩⟩
  have hplt : 0 ≤ wrap16 c.ltpScale ∧ wrap16 c.ltpScale ≤ 16384 := by
    have := hk.scale; unfold wrap16; omega
  unfold plcUpdate
  split
  rename_i pq8 coef heq
  -- the two members that depend on the signal type
  have hpc : (512 * d.fsKHz ≤ pq8 ∧ pq8 ≤ 4608 * d.fsKHz) ∧ coef.length = 5 ∧ ∀ b ∈ coef, J16 b := by
    split at heq <;> cases heq
    · rename_i hv
      exact ⟨updScan_pitch (fun x => 512 * d.fsKHz ≤ x ∧ x ≤ 4608 * d.fsKHz) d.nbSubfr _ _ _ (by omega)
        (fun i hi' => hq _ (hk.pitch hv i hi')) _ _ _ hlive.1, updLtpCoef_ok _⟩
    · exact ⟨by rcases hc.fs with h | h | h <;> rw [h] <;> decide, rfl, by decide⟩
  exact ⟨⟨hpc.2.1, hpc.2.2, hlpc, hi.rs, hplt, fun _ => ⟨by rw [hfs]; exact hpc.1, rfl, hg⟩⟩, hfs⟩

/-! ### silk_PLC_conceal -/


theorem maxPitchQ8_eq (fs : Int) (h : FsOk fs) : maxPitchQ8 fs = 4608 * fs := by
  rcases h with h | h | h <;> rw [h] <;> decide

/-- The pitch-lag drift PLC.c:359-360 keeps `pitchL_Q8` in [2 ms, 18 ms] (Q8 samples). -/
theorem pitchDrift_range (fs pq8 : Int) (h : FsOk fs) (hp : 512 * fs ≤ pq8 ∧ pq8 ≤ 4608 * fs) :
    512 * fs ≤ pitchDrift fs pq8 ∧ pitchDrift fs pq8 ≤ 4608 * fs := by
  have hf := h.range
  unfold pitchDrift
  rw [maxPitchQ8_eq fs h, show PITCH_DRIFT_FAC_Q16 = 655 from rfl, smlawb_drift (by omega)]
  omega

/-- What the sub-frame loop PLC.c:331-363 keeps true of the members it carries. -/
def LoopGood (fs : Int) (s : LtpLoop) : Prop :=
  s.B.length = 5 ∧ (∀ b ∈ s.B, J16 b) ∧ (0 ≤ s.rs ∧ s.rs ≤ 32767) ∧ (512 * fs ≤ s.pq8 ∧ s.pq8 ≤ 4608 * fs)

theorem ltpLoop_good (rnd : Array Int) (roff : Int) (sl : Nat) (fs harm rg : Int) (hfs : FsOk fs)
    (hrg : 0 ≤ rg ∧ rg ≤ 32767) : ∀ (k : Nat) (s : LtpLoop), LoopGood fs s →
      LoopGood fs (ltpLoop rnd roff sl fs harm rg k s)
  | 0, s, h => by unfold ltpLoop; exact h
  | k + 1, s, h => by
    unfold ltpLoop
    apply ltpLoop_good rnd roff sl fs harm rg hfs hrg k
    obtain ⟨h1, h2, h3, h4⟩ := h
    refine ⟨by simp [h1], List.forall_mem_map.mpr fun _ _ => wrap16_I16 _, ?_, pitchDrift_range fs _ hfs h4⟩
    have := SilkPlcGains.randStep_shrinks s.rs rg h3 hrg
    dsimp only
    omega

theorem lagOf_eq (x : Int) : lagOf x = (x + 128) / 256 := rshiftRound8 x

/-- silk_PLC_conceal (PLC.c:216-430) on a state satisfying the invariant at the decoder's rate: no assert fires and
    the invariant holds afterwards. -/
theorem plcConceal_inv (d : Dec) (p0 : Plc) (hc : DecCfg d) (hi : PlcInv p0) (hfs : p0.fsKHz = d.fsKHz) :
    ∃ o, plcConceal d p0 = .ok o ∧ PlcInv o.dec.plc ∧ o.dec.plc.fsKHz = d.fsKHz ∧ o.dec.lossCnt = d.lossCnt := by
  have hlive := hi.live (by rw [hfs]; exact hc.fs)
  rw [hfs] at hlive
  have hfsb := hc.fs.range
  have hord : 10 ≤ d.lpcOrder ∧ d.lpcOrder ≤ 16 ∧ d.lpcOrder % 2 = 0 := by
    rcases hc.order with ⟨h, _⟩ | ⟨h, _⟩ <;> omega
  have hmem := hc.mem
  obtain ⟨o, ho⟩ := plcConceal_total d p0 hord hi.lpcLen (by rw [lagOf_eq]; omega) (by
    rw [lagOf_eq]
    rcases hc.order with ⟨h, h'⟩ | ⟨h, h'⟩
    · rcases hc.fs with f | f | f <;> omega
    · omega)
  obtain ⟨ig, harm, roff, rnd, buf0, _, _, _, -, hpl, -, hd⟩ := plcConceal_ok ho
  have g := SilkPlcGains.gainSetup_range d.lossCnt (decide (d.prevSignalType = TYPE_VOICED)) p0.ltpCoef p0.randScale p0.prevLtpScale ig
    hi.rs hi.plt
  obtain ⟨k1, k2, k3, k4⟩ := ltpLoop_good rnd roff d.subfrLength d.fsKHz harm _ hc.fs g.2 d.nbSubfr
    { buf := buf0, seed := p0.randSeed, B := p0.ltpCoef, rs := _, pq8 := p0.pitchLQ8 } ⟨hi.tapsLen, hi.tapsI16, g.1, hlive.1⟩
  refine ⟨o, ho, ?_⟩
  rw [hd]
  exact ⟨⟨k1, k2, hpl hi.lpcLen, k3, hi.plt, fun _ => ⟨by rw [hfs]; exact k4, hlive.2⟩⟩, hfs, rfl⟩

/-- silk_PLC (PLC.c:72-114), both branches: under the decoder configuration, an in-range control structure (received
    frame) and the invariant, the call never aborts and the invariant holds afterwards, at the decoder's rate. -/
theorem silkPLC_inv (d : Dec) (c : Ctrl) (lost : Bool) (hc : DecCfg d) (hk : lost = false → CtrlOk d c)
    (hi : PlcInv d.plc) : ∃ o, silkPLC d c lost = .ok o ∧ PlcInv o.dec.plc ∧ o.dec.plc.fsKHz = d.fsKHz := by
  obtain ⟨hr, hrfs⟩ := plcRateCheck_inv d hc hi
  unfold silkPLC
  dsimp only
  cases lost with
  | true =>
    obtain ⟨o, ho, h1, h2, _⟩ := plcConceal_inv d _ hc hr hrfs
    simp only [↓reduceIte, ho]
    exact ⟨_, rfl, h1, h2⟩
  | false =>
    simp only [Bool.false_eq_true, ↓reduceIte]
    obtain ⟨h1, h2⟩ := plcUpdate_inv d c _ hc (hk rfl) hr hrfs
    exact ⟨_, rfl, h1, h2⟩

/-! ### every history -/

/-- One event in the life of a SILK channel decoder as far as `sPLC` is concerned: a frame (the rest of the decoder
    state `d` and the decoded control `c` are arbitrary — only `d.plc` is threaded), or a decoder reset (memset). -/
inductive PlcEv where
  | frame (d : Dec) (c : Ctrl) (lost : Bool)
  | reset

/-- Thread the PLC state through a history; `none` = some call aborted. -/
def plcRun : Plc → List PlcEv → Option Plc
  | p, [] => some p
  | p, .frame d c lost :: rest =>
    match silkPLC { d with plc := p } c lost with
    | .ok o => plcRun o.dec.plc rest
    | _ => none
  | _, .reset :: rest => plcRun plcZero rest

/-- The events a real decoder produces: any of the configurations of silk_decoder_set_fs (the rate may change from
    frame to frame), in-range controls on received frames. -/
def EvOk : PlcEv → Prop
  | .frame d c lost => DecCfg d ∧ (lost = false → CtrlOk d c)
  | .reset => True

theorem plcRun_inv : ∀ (evs : List PlcEv) (p : Plc), PlcInv p → (∀ e ∈ evs, EvOk e) →
    ∃ q, plcRun p evs = some q ∧ PlcInv q
  | [], p, hi, _ => ⟨p, rfl, hi⟩
  | .reset :: rest, _, _, h => by
    unfold plcRun
    exact plcRun_inv rest plcZero plcZero_inv (fun e he => h e (List.mem_cons_of_mem _ he))
  | .frame d c lost :: rest, p, hi, h => by
    have hev : EvOk (.frame d c lost) := h _ List.mem_cons_self
    obtain ⟨hc, hk⟩ := hev
    have hk' : lost = false → CtrlOk { d with plc := p } c := fun hl =>
      ⟨(hk hl).pitch, (hk hl).gains, (hk hl).scale, (hk hl).lpc⟩
    obtain ⟨o, ho, h1, _⟩ := silkPLC_inv { d with plc := p } c lost (hc.setPlc p) hk' hi
    unfold plcRun
    rw [ho]
    exact plcRun_inv rest o.dec.plc h1 (fun e he => h e (List.mem_cons_of_mem _ he))

end Opus.SilkPlc
