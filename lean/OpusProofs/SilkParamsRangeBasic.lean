import OpusProofs.SilkParamsFix
import Mathlib.Tactic.Linarith
/-
  The Mathlib import is not here for a tactic: `x ^ n` in the statements and `*Trace` definitions of this file and of the
  SilkParamsRange* files above it elaborates through Mathlib's instances (`Monoid.npow`); they are fixed in that form.

  OpusProofs.SilkParamsRangeBasic — vocabulary and elementary facts for the 32-bit range lemmas
  of property C18 ("the unbounded `Int` arithmetic of the model never hides a C overflow").

  Method.  For every modelled C function `f` there is a *trace* function `fTrace` (defined next to
  the range lemma, in terms of the model's own sub-functions) that lists, in program order, every
  value the C function computes in an `int` / `opus_int32` object or sub-expression: the operand
  of every explicit narrowing cast the model represents by `wrap32` (so `I32 v` says the cast is
  the identity) and the result of every plain C `+ - *` that the model represents by the
  unbounded operation (so `I32 v` says there is no signed overflow).  The range lemma is
  `∀ v ∈ fTrace args, I32 v` on the stated input domain.  Values that the C code computes in 64
  bits (`silk_SMULL`, the products inside `silk_SMULWW`, `silk_RSHIFT_ROUND64`) are listed in
  separate `…Trace64` lists where they are not obviously below `2^63`.
-/
namespace Opus.SilkParams

theorem pow2_14 : ((2 : Int) ^ 14) = 16384 := by decide
theorem rpow2_2 : ((2 : Int) ^ 2) = 4 := by decide

/-- The operand of the `(opus_int16)` cast `silk_RSHIFT_ROUND(a, 5)` fits int16 exactly on this
    interval. -/
theorem rshiftRound5_I16_iff (a : Int) : I16 (rshiftRound a 5) ↔ (-1048592 ≤ a ∧ a ≤ 1048559) := by
  rw [rshiftRound5]; unfold I16; omega

end Opus.SilkParams
