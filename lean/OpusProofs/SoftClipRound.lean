import OpusProofs.SoftClipField
/-
  OpusProofs.SoftClipRound — with the 2^-22 boost `a += a*2.4e-7f` the excursion map stays within [0, 1 + (m-1)u]
  in ROUNDED arithmetic, before its last rounding.  Standard model of floating point: every operation returns
  the exact result times `(1+δ)`, `|δ| ≤ u` (binary32 round-to-nearest: u = 2^-24; the model assumes that no
  intermediate underflows, which is not proved here).  The six inner operations of
      p = m*m;  a0 = (m-1)/p;  e = a0*epsf;  a' = a0 + e;  t1 = a'*x;  t2 = t1*x        (m-1 is exact: Sterbenz)
  get independent errors δ1..δ6; the last operation `x - t2` is kept exact here and its rounding is handled by
  monotonicity (`rnd y ≤ 1` whenever `y ≤ 1+u`, true of round-to-nearest-even at 1).  `nl_coefA_rounded` links
  the expression to the transcription instantiated with rounded operations.
-/
namespace Opus.SoftClip
variable {F : Type} [Field F] [LinearOrder F] [IsStrictOrderedRing F]

theorem one_add_err {u d : F} (h : |d| ≤ u) : 1 - u ≤ 1 + d ∧ 1 + d ≤ 1 + u :=
  ⟨by linarith only [neg_le_of_abs_le h], by linarith only [le_of_abs_le h]⟩

theorem mul_enclosed {l a h l' b h' : F} (ha : 0 ≤ l ∧ l ≤ a ∧ a ≤ h) (hb : 0 ≤ l' ∧ l' ≤ b ∧ b ≤ h') :
    0 ≤ l * l' ∧ l * l' ≤ a * b ∧ a * b ≤ h * h' :=
  ⟨mul_nonneg ha.1 hb.1, mul_le_mul ha.2.1 hb.2.1 hb.1 (ha.1.trans ha.2.1),
    mul_le_mul ha.2.2 hb.2.2 (hb.1.trans hb.2.1) (ha.1.trans (ha.2.1.trans ha.2.2))⟩

/-- The accumulated factor `f₂(1+εf₄)f₃f₅f₆` of the five operations after `m*m`, every `fᵢ` in `[w, v]`. -/
theorem factor_enclosed {w v ε f2 f3 f4 f5 f6 : F} (hw : 0 ≤ w) (hε : 0 ≤ ε) (h2 : w ≤ f2 ∧ f2 ≤ v)
    (h3 : w ≤ f3 ∧ f3 ≤ v) (h4 : w ≤ f4 ∧ f4 ≤ v) (h5 : w ≤ f5 ∧ f5 ≤ v) (h6 : w ≤ f6 ∧ f6 ≤ v) :
    0 ≤ w * (1 + ε * w) * w * w * w ∧
      w * (1 + ε * w) * w * w * w ≤ f2 * (1 + ε * f4) * f3 * f5 * f6 ∧
      f2 * (1 + ε * f4) * f3 * f5 * f6 ≤ v * (1 + ε * v) * v * v * v :=
  have e : 0 ≤ 1 + ε * w ∧ 1 + ε * w ≤ 1 + ε * f4 ∧ 1 + ε * f4 ≤ 1 + ε * v :=
    ⟨add_nonneg zero_le_one (mul_nonneg hε hw), add_le_add_right (mul_le_mul_of_nonneg_left h4.1 hε) 1,
      add_le_add_right (mul_le_mul_of_nonneg_left h4.2 hε) 1⟩
  mul_enclosed (mul_enclosed (mul_enclosed (mul_enclosed ⟨hw, h2⟩ e) ⟨hw, h3⟩) ⟨hw, h5⟩) ⟨hw, h6⟩

/-- The boost must exceed four units of round-off (2.4e-7 = 4.03·2^-24): then the three factors `1-u` of
    `a'·x·x` and the boosted `1 + ε(1-u)` together still reach `1+u`, since `(1-u)³ ≥ 1-3u`. -/
theorem boost_suffices {u ε : F} (hu1 : u ≤ 1 / 16) (hε : 0 ≤ ε) (h : 4 * u ≤ ε * (1 - u) * (1 - 3 * u)) :
    (1 - u) * (1 + u) ≤ (1 - u) * (1 + ε * (1 - u)) * (1 - u) * (1 - u) * (1 - u) := by
  have hw : 0 ≤ 1 - u := by linarith only [hu1]
  have c3 : 0 ≤ u * u * (3 - u) := mul_nonneg (mul_self_nonneg u) (by linarith only [hu1])
  have c4 := mul_nonneg (add_nonneg zero_le_one (mul_nonneg hε hw)) c3
  have : 1 + u ≤ (1 + ε * (1 - u)) * ((1 - u) * (1 - u) * (1 - u)) := by linarith only [c4, h]
  calc _ ≤ (1 - u) * ((1 + ε * (1 - u)) * ((1 - u) * (1 - u) * (1 - u))) := mul_le_mul_of_nonneg_left this hw
    _ = _ := by ring

theorem factor_lower (u epsf d1 d2 d3 d4 d5 d6 : F) (hu0 : 0 < u) (hu1 : u ≤ 1 / 16)
    (heps : 4 * u ≤ epsf * (1 - u) * (1 - 3 * u))
    (h1 : |d1| ≤ u) (h2 : |d2| ≤ u) (h3 : |d3| ≤ u) (h4 : |d4| ≤ u) (h5 : |d5| ≤ u) (h6 : |d6| ≤ u) :
    (1 - u) * (1 + d1) ≤ (1 + d2) * (1 + epsf * (1 + d4)) * (1 + d3) * (1 + d5) * (1 + d6) := by
  have hw : 0 < 1 - u := by linarith only [hu1]
  have hpos : 0 < epsf * ((1 - u) * (1 - 3 * u)) := by linarith only [heps, hu0, mul_assoc epsf (1 - u) (1 - 3 * u)]
  have hepos : 0 ≤ epsf := (pos_of_mul_pos_left hpos (mul_nonneg hw.le (by linarith only [hu1]))).le
  calc (1 - u) * (1 + d1) ≤ (1 - u) * (1 + u) := mul_le_mul_of_nonneg_left (one_add_err h1).2 hw.le
    _ ≤ _ := boost_suffices hu1 hepos heps
    _ ≤ _ := (factor_enclosed hw.le hepos (one_add_err h2) (one_add_err h3) (one_add_err h4) (one_add_err h5)
      (one_add_err h6)).2.1

/-- crude upper bound of the accumulated error factor: `(17/16)⁴·(1 + 17/256) ≤ 2·15/16` -/
theorem factor_upper (u epsf d1 d2 d3 d4 d5 d6 : F) (hu1 : u ≤ 1 / 16)
    (heps0 : 0 ≤ epsf) (heps1 : epsf ≤ 1 / 16)
    (h1 : |d1| ≤ u) (h2 : |d2| ≤ u) (h3 : |d3| ≤ u) (h4 : |d4| ≤ u) (h5 : |d5| ≤ u) (h6 : |d6| ≤ u) :
    0 ≤ (1 + d2) * (1 + epsf * (1 + d4)) * (1 + d3) * (1 + d5) * (1 + d6) ∧
    (1 + d2) * (1 + epsf * (1 + d4)) * (1 + d3) * (1 + d5) * (1 + d6) ≤ 2 * (1 + d1) := by
  have hw : 0 ≤ 1 - u := by linarith only [hu1]
  have hv : ∀ {d : F}, |d| ≤ u → 1 - u ≤ 1 + d ∧ 1 + d ≤ 17 / 16 := fun h =>
    ⟨(one_add_err h).1, by linarith only [(one_add_err h).2, hu1]⟩
  obtain ⟨n0, n1, n2⟩ := factor_enclosed hw heps0 (hv h2) (hv h3) (hv h4) (hv h5) (hv h6)
  refine ⟨n0.trans n1, n2.trans ?_⟩
  have he : 1 + epsf * (17 / 16) ≤ 1 + 1 / 16 * (17 / 16) :=
    add_le_add_right (mul_le_mul_of_nonneg_right heps1 (by norm_num)) 1
  have hb : (17 / 16 : F) * (1 + epsf * (17 / 16)) * (17 / 16) * (17 / 16) * (17 / 16) ≤ 2 * (15 / 16) := by
    linarith only [he]
  linarith only [hb, (one_add_err h1).1, hu1]

/-- The rounded term `t2` is the exact one, `c·x²` with `c = (m-1)/m²`, times the accumulated factor
    (an identity of field expressions in the factors `fᵢ = 1 + dᵢ`). -/
theorem rounded_term_eq (epsf m x f1 f2 f3 f4 f5 f6 : F) :
    ((((m - 1) / (m * m * f1) * f2) + ((m - 1) / (m * m * f1) * f2) * epsf * f4) * f3 * x * f5) * x * f6 =
      (m - 1) / (m * m) * (x * x) * (f2 * (1 + epsf * f4) * f3 * f5 * f6 / f1) := by
  ring

/-- The subtracted term `t2` after its six rounded operations `p = m*m; a0 = (m-1)/p; e = a0*epsf; a' = a0 + e; t1 = a'*x;
    t2 = t1*x` with relative errors `d1 … d6` (`m - 1` exact).  The two statements whose text is fixed
    (`rounded_excursion_le_one`, `OpusProps.C19.bounded_rounded_stdmodel`) spell this term out. -/
def t2R (epsf m x d1 d2 d3 d4 d5 d6 : F) : F :=
  ((((m - 1) / (m * m * (1 + d1)) * (1 + d2)) + ((m - 1) / (m * m * (1 + d1)) * (1 + d2)) * epsf * (1 + d4)) *
    (1 + d3) * x * (1 + d5)) * x * (1 + d6)

/-- **Rounded excursion map, upper side.**  With the standard model on the six inner operations, the exact
    difference `x - t2` that is about to be rounded is at most `1 + (m-1)·u ≤ 1 + u` for every `0 ≤ x ≤ m`,
    `1 < m ≤ 2`. -/
theorem rounded_excursion_upper (u epsf m x d1 d2 d3 d4 d5 d6 : F) (hu0 : 0 < u) (hu1 : u ≤ 1 / 16)
    (heps : 4 * u ≤ epsf * (1 - u) * (1 - 3 * u))
    (h1 : |d1| ≤ u) (h2 : |d2| ≤ u) (h3 : |d3| ≤ u) (h4 : |d4| ≤ u) (h5 : |d5| ≤ u) (h6 : |d6| ≤ u)
    (hm1 : 1 < m) (hm2 : m ≤ 2) (hx0 : 0 ≤ x) (hxm : x ≤ m) :
    x - t2R epsf m x d1 d2 d3 d4 d5 d6 ≤ 1 + (m - 1) * u := by
  obtain ⟨hc0, hcmm, hcm⟩ := peakCoef hm1 hm2
  have hd1 : 0 < 1 + d1 := by linarith only [(one_add_err h1).1, hu1]
  rw [t2R, rounded_term_eq]
  exact quad_upper hc0.le hcm hcmm hx0 hxm hu0.le
    ((le_div_iff₀ hd1).2 (factor_lower u epsf d1 d2 d3 d4 d5 d6 hu0 hu1 heps h1 h2 h3 h4 h5 h6))

theorem peak_err_le {m u : F} (hm2 : m ≤ 2) (hu0 : 0 ≤ u) : 1 + (m - 1) * u ≤ 1 + u := by
  have : (m - 1) * u ≤ 1 * u := mul_le_mul_of_nonneg_right (by linarith only [hm2]) hu0
  linarith only [this]

/-- With any monotone final rounding that maps everything up to `1+u` to at most 1 (round-to-nearest-even
    does: 1+u is the midpoint between 1 and its successor, and 1 is even), the rounded result is ≤ 1. -/
theorem rounded_excursion_le_one (rnd : F → F) (u : F) (hr : ∀ y, y ≤ 1 + u → rnd y ≤ 1)
    (epsf m x d1 d2 d3 d4 d5 d6 : F) (hu0 : 0 < u) (hu1 : u ≤ 1 / 16)
    (heps : 4 * u ≤ epsf * (1 - u) * (1 - 3 * u)) (heps1 : epsf ≤ 1)
    (h1 : |d1| ≤ u) (h2 : |d2| ≤ u) (h3 : |d3| ≤ u) (h4 : |d4| ≤ u) (h5 : |d5| ≤ u) (h6 : |d6| ≤ u)
    (hm1 : 1 < m) (hm2 : m ≤ 2) (hx0 : 0 ≤ x) (hxm : x ≤ m) :
    rnd (x - ((((m - 1) / (m * m * (1 + d1)) * (1 + d2)) + ((m - 1) / (m * m * (1 + d1)) * (1 + d2)) * epsf * (1 + d4)) *
          (1 + d3) * x * (1 + d5)) * x * (1 + d6)) ≤ 1 :=
  hr _ ((rounded_excursion_upper u epsf m x d1 d2 d3 d4 d5 d6 hu0 hu1 heps h1 h2 h3 h4 h5 h6 hm1 hm2 hx0 hxm).trans
    (peak_err_le hm2 hu0.le))

/-- **Rounded excursion map, lower side**: the difference about to be rounded is non-negative (so the
    result keeps the sign and is ≥ -1 trivially). -/
theorem rounded_excursion_lower (u epsf m x d1 d2 d3 d4 d5 d6 : F) (hu1 : u ≤ 1 / 16)
    (heps0 : 0 ≤ epsf) (heps1 : epsf ≤ 1 / 16)
    (h1 : |d1| ≤ u) (h2 : |d2| ≤ u) (h3 : |d3| ≤ u) (h4 : |d4| ≤ u) (h5 : |d5| ≤ u) (h6 : |d6| ≤ u)
    (hm1 : 1 < m) (hm2 : m ≤ 2) (hx0 : 0 ≤ x) (hxm : x ≤ m) :
    0 ≤ x - t2R epsf m x d1 d2 d3 d4 d5 d6 := by
  obtain ⟨hc0, _, hcm⟩ := peakCoef hm1 hm2
  have hd1 : 0 < 1 + d1 := by linarith only [(one_add_err h1).1, hu1]
  obtain ⟨n0, n1⟩ := factor_upper u epsf d1 d2 d3 d4 d5 d6 hu1 heps0 heps1 h1 h2 h3 h4 h5 h6
  have hQ0 := div_nonneg n0 hd1.le
  have hQ2 := (div_le_iff₀ hd1).2 n1
  rw [t2R, rounded_term_eq]
  generalize (1 + d2) * (1 + epsf * (1 + d4)) * (1 + d3) * (1 + d5) * (1 + d6) / (1 + d1) = Q at hQ0 hQ2 ⊢
  have hs := quad_slope hc0.le hcm hxm hQ0
  have := mul_nonneg hx0 (show 0 ≤ 1 - (m - 1) / (m * m) * x * Q by linarith only [hs, hQ2])
  linarith only [this]

/-- Rounded arithmetic in the standard model: each operation returns the exact result times `(1+δ)`, `|δ| ≤ u`. -/
structure RoundedArith (F : Type) [Field F] [LinearOrder F] [IsStrictOrderedRing F] (u : F) where
  radd : F → F → F
  rsub : F → F → F
  rmul : F → F → F
  rdiv : F → F → F
  add_spec : ∀ a b, ∃ d, |d| ≤ u ∧ radd a b = (a + b) * (1 + d)
  mul_spec : ∀ a b, ∃ d, |d| ≤ u ∧ rmul a b = (a * b) * (1 + d)
  div_spec : ∀ a b, ∃ d, |d| ≤ u ∧ rdiv a b = (a / b) * (1 + d)

/-- `ClipOps` whose + - * / are the rounded operations (negation, fabs, comparisons and constants are exact). -/
@[reducible] def roundedOps {u : F} (R : RoundedArith F u) (epsf : F) : ClipOps F where
  add := R.radd
  sub := R.rsub
  mul := R.rmul
  div := R.rdiv
  neg := (- ·)
  zero := 0
  one := 1
  two := 2
  eps := epsf
  abs := fun v => |v|
  ltb := fun a b => decide (a < b)
  leb := fun a b => decide (a ≤ b)
  ofNat := fun n => (n : F)

/-- **Linking lemma.**  For a positive excursion (`0 < xi`), what the transcription's excursion branch computes
    for a sample `x` with peak `m` — `nl (coefA m xi) x` in the instance `roundedOps R epsf` — is
    `(x - t2)·(1+δ7)` with `t2 = t2R epsf m x δ1 … δ6` for some `|δ1..δ7| ≤ u`, provided `m - 1` is computed exactly (Sterbenz: `1 < m ≤ 2`). -/
theorem nl_coefA_rounded {u : F} (R : RoundedArith F u) (epsf m xi x : F) (hxi : 0 < xi) (hsub : R.rsub m 1 = m - 1) :
    ∃ d1 d2 d3 d4 d5 d6 d7 : F, |d1| ≤ u ∧ |d2| ≤ u ∧ |d3| ≤ u ∧ |d4| ≤ u ∧ |d5| ≤ u ∧ |d6| ≤ u ∧ |d7| ≤ u ∧
      @nl F (roundedOps R epsf) (@coefA F (roundedOps R epsf) m xi) x =
        (x - t2R epsf m x d1 d2 d3 d4 d5 d6) * (1 + d7) := by
  obtain ⟨d1, h1, e1⟩ := R.mul_spec m m
  obtain ⟨d2, h2, e2⟩ := R.div_spec (m - 1) (R.rmul m m)
  obtain ⟨d4, h4, e4⟩ := R.mul_spec (R.rdiv (m - 1) (R.rmul m m)) epsf
  obtain ⟨d3, h3, e3⟩ := R.add_spec (R.rdiv (m - 1) (R.rmul m m)) (R.rmul (R.rdiv (m - 1) (R.rmul m m)) epsf)
  obtain ⟨a', ha'⟩ : ∃ a' : F, a' = R.radd (R.rdiv (m - 1) (R.rmul m m)) (R.rmul (R.rdiv (m - 1) (R.rmul m m)) epsf) := ⟨_, rfl⟩
  obtain ⟨d5, h5, e5⟩ := R.mul_spec (-a') x
  obtain ⟨d6, h6, e6⟩ := R.mul_spec (R.rmul (-a') x) x
  obtain ⟨d7, h7, e7⟩ := R.add_spec x (R.rmul (R.rmul (-a') x) x)
  refine ⟨d1, d2, d3, d4, d5, d6, d7, h1, h2, h3, h4, h5, h6, h7, ?_⟩
  have hcoef : @coefA F (roundedOps R epsf) m xi = -a' := by
    show (if decide ((0 : F) < xi) then -(R.radd (R.rdiv (R.rsub m 1) (R.rmul m m)) (R.rmul (R.rdiv (R.rsub m 1) (R.rmul m m)) epsf))
          else R.radd (R.rdiv (R.rsub m 1) (R.rmul m m)) (R.rmul (R.rdiv (R.rsub m 1) (R.rmul m m)) epsf)) = -a'
    rw [hsub, ← ha']; simp only [hxi, decide_true, if_true]
  have hnl : @nl F (roundedOps R epsf) (-a') x = R.radd x (R.rmul (R.rmul (-a') x) x) := rfl
  have hval : a' = ((m - 1) / (m * m * (1 + d1)) * (1 + d2) + (m - 1) / (m * m * (1 + d1)) * (1 + d2) * epsf * (1 + d4)) * (1 + d3) := by
    rw [ha', e3, e4, e2, e1]
  rw [hcoef, hnl, e7, e6, e5, hval, t2R]
  ring

end Opus.SoftClip
