import OpusProofs.RangeCoderStageA
import OpusProofs.RangeCoderRaw
import OpusProofs.RangeCoderSym
/-
  OpusProofs.RangeCoderLockstep — C08, decoder side of the bit accounting: whenever the decoder returns the
  symbol the encoder coded, its `(rng, nbits_total)` makes the same transition `Op.rn` as the
  encoder's, whatever the buffer contents (for `ec_dec_uint`: with `val` an `opus_uint32` and the error
  flag clear before and after); hence both report the same `ec_tell`.
-/
namespace Opus.RangeCoder

theorem decBitsFill_fields (c : Dec) (w a : Nat) :
    (decBitsFill c w a).1.rng = c.rng ∧ (decBitsFill c w a).1.nbitsTotal = c.nbitsTotal := by
  induction hm : 32 - a using Nat.strongRecOn generalizing c w a with
  | _ m ih =>
    rw [decBitsFill]
    have hrb : (readByteFromEnd c).2.rng = c.rng ∧ (readByteFromEnd c).2.nbitsTotal = c.nbitsTotal := by
      unfold readByteFromEnd; split <;> exact ⟨rfl, rfl⟩
    generalize readByteFromEnd c = rb at *
    obtain ⟨b, c1⟩ := rb
    simp only at hrb ⊢
    by_cases h : a + 8 ≤ 24
    · rw [dif_pos h]
      obtain ⟨i1, i2⟩ := ih (32 - (a + 8)) (by omega) c1 (w ||| u32 (b <<< a)) (a + 8) rfl
      exact ⟨by rw [i1, hrb.1], by rw [i2, hrb.2]⟩
    · rw [dif_neg h]; exact hrb

/-- `ec_dec_bits` outside the raw-bit window: the range stays, `n` more bits are counted, and the value has `n` bits. -/
theorem decBits_fields (c : Dec) (n : Nat) :
    (decBits c n).2.rng = c.rng ∧ (decBits c n).2.nbitsTotal = c.nbitsTotal + n ∧ (decBits c n).1 < 2 ^ n := by
  unfold decBits
  simp only
  refine ⟨?_, ?_, Nat.mod_lt _ (Nat.pow_pos (by decide))⟩
  · split
    · exact (decBitsFill_fields _ _ _).1
    · rfl
  · split
    · rw [(decBitsFill_fields _ _ _).2]
    · rfl

/-- A primitive range-coded decoder call that returns the coded symbol makes the encoder's
    `(rng, nbits_total)` transition. -/
theorem decOp_rn_prim (d : Dec) (op : Op) (hr : RngOk d) (hl : op.Legal) (hp : op.isPrim = true)
    (hm : op.Matches (decOp d op).1) :
    ((decOp d op).2.rng, (decOp d op).2.nbitsTotal) = primRN op d.rng d.nbitsTotal := by
  obtain ⟨r, a, b, first, hsub⟩ := Op.isPrim_sub hp d.rng
  obtain ⟨x, v, hx, _⟩ := decOp_prim d op hl hr hsub hm
  rw [hx, decNormalize_rn]
  unfold primRN
  rw [hsub]
  exact congrArg (normRN · d.nbitsTotal) (rho32_eq first (Op.sub_ok hl hr.1 hsub) hr.2)

/-- `ec_dec_update` after `ec_decode` makes the `(rng, nbits_total)` transition of the matching `ec_encode`. -/
theorem decUpdate_rn (d : Dec) (fl fh ft : Nat) (hr : RngOk d) (hl : (Op.encode fl fh ft).Legal) :
    (decUpdate (decode d ft).2 fl fh ft).rng = (primRN (.encode fl fh ft) d.rng d.nbitsTotal).1 ∧
    (decUpdate (decode d ft).2 fl fh ft).nbitsTotal = (primRN (.encode fl fh ft) d.rng d.nbitsTotal).2 := by
  have h : ((decUpdate (decode d ft).2 fl fh ft).rng, (decUpdate (decode d ft).2 fl fh ft).nbitsTotal) =
      primRN (.encode fl fh ft) d.rng d.nbitsTotal := by
    rw [decUpdate_eq d hl.1 hl.2.1 (by have := hl.2.2.2; omega), decNormalize_rn]
    exact congrArg (normRN · d.nbitsTotal) (rho32_eq _ (Op.sub_ok hl hr.1 rfl) hr.2)
  exact ⟨congrArg Prod.fst h, congrArg Prod.snd h⟩

/-- `ec_decode` returns a value below `ft` (for the small tables of `ec_dec_uint`). -/
theorem decode_lt (d : Dec) (ft : Nat) (hr : RngOk d) (hv : d.val < 4294967296) (h1 : 1 ≤ ft) (h2 : ft ≤ 256) :
    (decode d ft).1 < ft := by
  simp only [decode, udiv]
  have hext : 32768 ≤ d.rng / ft := by
    rw [Nat.le_div_iff_mul_le (by omega)]
    have := hr.1
    have : 32768 * ft ≤ 32768 * 256 := Nat.mul_le_mul_left _ h2
    omega
  have hq : d.val / (d.rng / ft) < 131072 := by
    rw [Nat.div_lt_iff_lt_mul (by omega)]
    have : 131072 * 32768 ≤ 131072 * (d.rng / ft) := Nat.mul_le_mul_left _ hext
    omega
  have e1 : u32 (d.val / (d.rng / ft)) = d.val / (d.rng / ft) := u32_of_lt (by omega)
  rw [e1]
  have e2 : u32 (d.val / (d.rng / ft) + 1) = d.val / (d.rng / ft) + 1 := u32_of_lt (by omega)
  rw [e2]
  unfold mini
  split
  · rw [sub32_of_le (by omega) (by omega)]; omega
  · rw [sub32_of_le (by omega) (by omega)]; omega

theorem uintHi_core (t ft1 v : Nat) (c3 : Dec)
    (hm : (if t ≤ ft1 then (t, c3) else (ft1, { c3 with error := 1 })).1 = v)
    (he : (if t ≤ ft1 then (t, c3) else (ft1, { c3 with error := 1 })).2.error = 0) :
    t = v ∧ (if t ≤ ft1 then (t, c3) else (ft1, { c3 with error := 1 })).2 = c3 := by
  by_cases ht : t ≤ ft1
  · rw [if_pos ht] at hm ⊢; exact ⟨hm, rfl⟩
  · rw [if_neg ht] at he; exact absurd he Int.one_ne_zero

theorem uintHi_rn (d : Dec) (v ft1 ftb : Nat) (hr : RngOk d) (hv : d.val < 4294967296)
    (hftb : ftb ≤ 24) (hft' : ft1 / 2 ^ ftb + 1 ≤ 256)
    (hleg : (Op.encode (v / 2 ^ ftb) (v / 2 ^ ftb + 1) (ft1 / 2 ^ ftb + 1)).Legal)
    (hm : (uintHi d ft1 ftb).1 = v) (he : (uintHi d ft1 ftb).2.error = 0) :
    (uintHi d ft1 ftb).2.rng =
      (primRN (.encode (v / 2 ^ ftb) (v / 2 ^ ftb + 1) (ft1 / 2 ^ ftb + 1)) d.rng d.nbitsTotal).1 ∧
    (uintHi d ft1 ftb).2.nbitsTotal =
      (primRN (.encode (v / 2 ^ ftb) (v / 2 ^ ftb + 1) (ft1 / 2 ^ ftb + 1)) d.rng d.nbitsTotal).2 + ftb := by
  generalize hft : ft1 / 2 ^ ftb + 1 = ft' at *
  generalize hs : (decode d ft').1 = s
  generalize hc2 : decUpdate (decode d ft').2 s (s + 1) ft' = c2
  generalize hrb : decBits c2 ftb = rb
  have heq : uintHi d ft1 ftb =
      if u32 (s <<< ftb) ||| rb.1 ≤ ft1 then (u32 (s <<< ftb) ||| rb.1, rb.2) else (ft1, { rb.2 with error := 1 }) := by
    rw [← hrb, ← hc2, ← hs, ← hft]; rfl
  rw [heq] at hm he ⊢
  have hs256 : s < ft' := by rw [← hs]; exact decode_lt d ft' hr hv hleg.2.2.1 hft'
  obtain ⟨b1, b2, b4⟩ := decBits_fields c2 ftb
  rw [hrb] at b1 b2 b4
  obtain ⟨k1, k2⟩ := uintHi_core _ ft1 v rb.2 hm he
  rw [k2, b1, b2]
  rw [Nat.or_comm, or_shl32 b4 (n := 8) (by omega) (by omega)] at k1
  have hsv : s = v / 2 ^ ftb := by
    rw [← k1, Nat.add_mul_div_right _ _ (Nat.pow_pos (by decide)), Nat.div_eq_of_lt b4, Nat.zero_add]
  obtain ⟨t1, t2⟩ := decUpdate_rn d s (s + 1) ft' hr (by rw [hsv]; exact hleg)
  rw [hc2] at t1 t2
  rw [← hsv]
  exact ⟨t1, by rw [t2]⟩

/-- Decoder side of the lock-step: if the decoder returns the value the operation encoded, then its
    `(rng, nbits_total)` makes the transition `Op.rn` — the same as the encoder's — whatever the buffer
    contents.  For `ec_dec_uint` the decoder's `val` must be an `opus_uint32` and its error flag clear
    before and after (a value above the range is reported through that flag). -/
theorem decOp_rn (d : Dec) (op : Op) (hr : RngOk d) (hl : op.Legal)
    (hu : (∀ v ft, op ≠ .uint v ft) ∨ (d.val < 4294967296 ∧ d.error = 0 ∧ (decOp d op).2.error = 0))
    (hm : op.Matches (decOp d op).1) :
    ((decOp d op).2.rng, (decOp d op).2.nbitsTotal) = op.rn d.rng d.nbitsTotal := by
  by_cases hp : op.isPrim = true
  · rw [Op.rn_prim hp]; exact decOp_rn_prim d op hr hl hp hm
  cases op with
  | bits v n =>
    obtain ⟨b1, b2, -⟩ := decBits_fields d n
    simp only [decOp, Op.rn, b1, b2]
  | patchInitial v n => rfl
  | shrink size => rfl
  | uint v ft =>
    obtain ⟨hv, -, he⟩ : d.val < 4294967296 ∧ d.error = 0 ∧ (decOp d (.uint v ft)).2.error = 0 := by
      rcases hu with hu | hu
      · exact absurd rfl (hu v ft)
      · exact hu
    simp only [decOp, Op.Matches] at hm he ⊢
    rcases uint_shape hl.1 hl.2.1 hl.2.2 with ⟨ft', -, hleg, -, hd, hrn⟩ | ⟨ftb, ft', -, h24, h256, hft, hleg, -, hd, hrn⟩
    · rw [hd] at hm ⊢
      simp only at hm ⊢
      obtain ⟨t1, t2⟩ := decUpdate_rn d v (v + 1) ft' hr hleg
      rw [hrn, hm, t1, t2]
    · subst hft
      rw [hd] at hm he ⊢
      obtain ⟨t1, t2⟩ := uintHi_rn d v (ft - 1) ftb hr hv h24 h256 hleg hm he
      rw [hrn, t1, t2]
  -- the five symbol coders, for which `isPrim` is `true` by `rfl`
  | _ => exact absurd rfl hp

end Opus.RangeCoder
