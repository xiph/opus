import OpusProofs.ExtRepFinal
/-
  Arrays on which the generator finds nothing to repeat (`NoRepeat`): every block of `serAll` has `R = 0`, so what is
  written is the canonical serialisation `serBytes` of the stable sort by frame (`serAll_noRepeat`) and the order in which
  the reader reports it, `expAll` of the queues, is that stable sort (`expAll_noRepeat`): the round trip is
  `generate_parse_full` / `parse_padded_full` read through these two equations.
-/
namespace Opus.ExtProofs
open Opus Opus.Ext

/-- `e` at index `i` is the first extension of frame `f` in array order. -/
def IsFirst (exts : Array Ext) (f i : Nat) (e : Ext) : Prop :=
  exts[i]? = some e ∧ e.frame.toNat = f ∧ ∀ (j : Nat) (e' : Ext), j < i → exts[j]? = some e' → e'.frame.toNat ≠ f

/-- No extension of the array belongs to frame `g`. -/
def FrameEmpty (exts : Array Ext) (g : Nat) : Prop := ∀ (j : Nat) (e' : Ext), exts[j]? = some e' → e'.frame.toNat ≠ g

/-- The generator finds nothing to repeat: for every frame `f` but the last, the first extension of
    frame `f` cannot be repeated because some later frame `g` is empty or starts with a different
    extension (different ID, or same short ID with a different length).  Holds trivially for
    `nb_frames = 1`, and whenever the last frame carries no extension. -/
def NoRepeat (exts : Array Ext) (nbF : Nat) : Prop :=
  ∀ (f i : Nat) (e : Ext), f + 1 < nbF → IsFirst exts f i e →
    ∃ g, f < g ∧ g < nbF ∧
      (FrameEmpty exts g ∨ ∃ (k : Nat) (x : Ext), IsFirst exts g k x ∧ (x.id ≠ e.id ∨ (x.id < 32 ∧ x.len ≠ e.len)))

theorem IsFirst.unique {exts : Array Ext} {f i i' : Nat} {e e' : Ext} (h : IsFirst exts f i e) (h' : IsFirst exts f i' e') :
    i = i' ∧ e = e' := by
  have hi : i = i' := by
    apply Decidable.byContradiction; intro hne
    rcases Nat.lt_or_gt_of_ne hne with hlt | hgt
    · exact h'.2.2 i e hlt h.1 h.2.1
    · exact h.2.2 i' e' hgt h'.1 h'.2.1
  subst hi
  have := h.1.symm.trans h'.1
  exact ⟨rfl, by simpa using this⟩

/-- The queues of frames `f, f+1, …`. -/
def queuesFrom (exts : Array Ext) (nbF f : Nat) : List (List Ext) := (List.range' f (nbF - f)).map (allOf exts)

theorem queuesFrom_succ (exts : Array Ext) {nbF f : Nat} (h : f < nbF) :
    queuesFrom exts nbF f = allOf exts f :: queuesFrom exts nbF (f + 1) := by
  unfold queuesFrom
  rw [show nbF - f = (nbF - (f + 1)) + 1 by omega, List.range'_succ, List.map_cons]

theorem queues_eq_queuesFrom (exts : Array Ext) (nbF : Nat) : queues exts nbF = queuesFrom exts nbF 0 := by
  unfold queues queuesFrom; rw [Nat.sub_zero, ← List.range_eq_range']

theorem queuesFrom_end (exts : Array Ext) {nbF f : Nat} (h : nbF ≤ f) : queuesFrom exts nbF f = [] := by
  unfold queuesFrom; rw [show nbF - f = 0 by omega]; rfl

theorem serW_append (n : Nat) : ∀ (a b : List Ext) (cur w : Nat),
    serW n cur w (a ++ b) = serW n cur w a ++ serW n (lastFrame cur a) (w + a.length) b := by
  intro a
  induction a with
  | nil => intro b cur w; simp [serW, lastFrame]
  | cons e a ih =>
    intro b cur w
    simp only [List.cons_append, serW, lastFrame, ih, List.append_assoc, List.length_cons]
    rw [show w + 1 + a.length = w + (a.length + 1) by omega]

/-- With nothing repeated, what is written for the queues is the extensions one after the other. -/
theorem serAll_plain (exts : Array Ext) (nbF n : Nat)
    (hR : ∀ f, f < nbF → blockR (allOf exts f) (queuesFrom exts nbF (f + 1)) = 0) :
    ∀ k f cur w, f + k = nbF → serAll n (queuesFrom exts nbF f) cur w = serW n cur w (sortedFrom exts nbF f) := by
  intro k
  induction k with
  | zero =>
    intro f cur w hf
    rw [queuesFrom_end exts (by omega), serAll]
    have : sortedFrom exts nbF f = [] := by unfold sortedFrom; rw [show nbF - f = 0 by omega]; rfl
    rw [this]; rfl
  | succ k ih =>
    intro f cur w hf
    have hlt : f < nbF := by omega
    rw [queuesFrom_succ exts hlt, serAll_cons, hR f hlt, sortedFrom_succ exts hlt, serW_append]
    simp only [List.take_zero, List.drop_zero, serW, List.nil_append, Nat.lt_irrefl, if_false, false_and, repBlock_zero,
      lastFrame, Nat.add_zero, Nat.zero_mul, map_drop_zero, List.append_nil]
    rw [ih (f + 1) _ _ (by omega)]

theorem serW_eq_serBytes (n : Nat) : ∀ (l : List Ext) (cur w : Nat), w + l.length = n → serW n cur w l = serBytes cur l := by
  intro l
  induction l with
  | nil => intro _ _ _; rfl
  | cons e l ih =>
    intro cur w hw
    simp only [List.length_cons] at hw
    have hlast : decide ((w : Int) = (n : Int) - 1) = l.isEmpty := by
      cases l with
      | nil => simp at hw ⊢; omega
      | cons x xs => simp at hw ⊢; omega
    simp only [serW, serBytes, hlast]
    rw [ih _ _ (by omega)]

/-- The first extension of a frame, in terms of its queue. -/
theorem isFirst_of_head {exts : Array Ext} {f : Nat} {e : Ext} {a : List Ext} (h : allOf exts f = e :: a) :
    ∃ i, IsFirst exts f i e := by
  have hh : (exts.toList.filter (fun e => e.frame.toNat = f)).head? = some e := by
    have := congrArg List.head? h; simpa [allOf] using this
  rw [List.head?_filter, List.find?_eq_some_iff_getElem] at hh
  obtain ⟨hp, i, hi, rfl, hbefore⟩ := hh
  refine ⟨i, by simp, by simpa using hp, ?_⟩
  intro j e' hj hje' hfe'
  obtain ⟨hjl, rfl⟩ := Array.getElem?_eq_some_iff.mp hje'
  have := hbefore j hj
  simp at this
  exact this hfe'

theorem allOf_eq_nil {exts : Array Ext} {g : Nat} (h : FrameEmpty exts g) : allOf exts g = [] := by
  unfold allOf
  rw [List.filter_eq_nil_iff]
  intro a ha
  obtain ⟨j, hj⟩ := Array.mem_iff_getElem?.mp (Array.mem_toList_iff.mp ha)
  simpa using h j a hj

theorem head_of_isFirst {exts : Array Ext} {g k : Nat} {x : Ext} (h : IsFirst exts g k x) : (allOf exts g).head? = some x := by
  cases ha : allOf exts g with
  | nil =>
    exfalso
    have : x ∈ allOf exts g := by
      unfold allOf; rw [List.mem_filter]
      exact ⟨Array.mem_toList_iff.mpr (Array.mem_of_getElem? h.1), by simpa using h.2.1⟩
    rw [ha] at this; cases this
  | cons y ys =>
    obtain ⟨i, hi⟩ := isFirst_of_head ha
    rw [(hi.unique h).2]; rfl

/-- `NoRepeat`, read on the queues: no block repeats anything. -/
theorem blockR_noRepeat {exts : Array Ext} {nbF : Nat} (hnr : NoRepeat exts nbF) (f : Nat) (hf : f < nbF) :
    blockR (allOf exts f) (queuesFrom exts nbF (f + 1)) = 0 := by
  unfold blockR
  split
  · rfl
  · rename_i hne
    have hf1 : f + 1 < nbF := by
      apply Decidable.byContradiction; intro hc; exact hne (queuesFrom_end exts (by omega))
    cases ha : allOf exts f with
    | nil => rfl
    | cons e a =>
      obtain ⟨i, hi⟩ := isFirst_of_head ha
      obtain ⟨g, hg1, hg2, hw⟩ := hnr f i e hf1 hi
      have hmem : allOf exts g ∈ queuesFrom exts nbF (f + 1) := by
        unfold queuesFrom; rw [List.mem_map]; exact ⟨g, by rw [List.mem_range'_1]; omega, rfl⟩
      have : headsMatch (queuesFrom exts nbF (f + 1)) e = false := by
        rw [Bool.eq_false_iff]; intro hall
        unfold headsMatch at hall
        rw [List.all_eq_true] at hall
        have hg := hall _ hmem
        rcases hw with hemp | ⟨k, x, hx, hdiff⟩
        · rw [allOf_eq_nil hemp] at hg; cases hg
        · rw [head_of_isFirst hx] at hg
          simp only at hg
          obtain ⟨h1, h2⟩ := matchB_iff.mp hg
          rcases hdiff with h | h
          · exact h h1
          · exact h.2 (h2 h.1)
      simp only [repCount, this, Bool.false_eq_true, if_false]

theorem serAll_noRepeat (exts : Array Ext) (nbF : Nat) (hv : AllValid exts nbF) (hnr : NoRepeat exts nbF) :
    serAll exts.size (queues exts nbF) 0 0 = serBytes 0 (sortedFrom exts nbF 0) := by
  rw [queues_eq_queuesFrom, serAll_plain exts nbF exts.size (fun f hf => blockR_noRepeat hnr f hf) nbF 0 0 0 (by omega),
    serW_eq_serBytes _ _ _ _ (by rw [sortedFrom_length exts nbF hv]; omega)]

/-- With nothing repeated, the reader reports the queues one after the other. -/
theorem expAll_plain (exts : Array Ext) (nbF : Nat)
    (hR : ∀ f, f < nbF → blockR (allOf exts f) (queuesFrom exts nbF (f + 1)) = 0) :
    ∀ k f, f + k = nbF → expAll (queuesFrom exts nbF f) = sortedFrom exts nbF f := by
  intro k
  induction k with
  | zero =>
    intro f hf
    rw [queuesFrom_end exts (by omega), expAll]
    unfold sortedFrom; rw [show nbF - f = 0 by omega]; rfl
  | succ k ih =>
    intro f hf
    have hlt : f < nbF := by omega
    rw [queuesFrom_succ exts hlt, expAll_cons, hR f hlt, sortedFrom_succ exts hlt, map_drop_zero, ih (f + 1) (by omega)]
    simp

theorem expAll_noRepeat (exts : Array Ext) (nbF : Nat) (hnr : NoRepeat exts nbF) :
    expAll (queues exts nbF) = sortedFrom exts nbF 0 := by
  rw [queues_eq_queuesFrom, expAll_plain exts nbF (fun f hf => blockR_noRepeat hnr f hf) nbF 0 (by omega)]

/-- A single frame has nothing to repeat into. -/
theorem noRepeat_one (exts : Array Ext) : NoRepeat exts 1 := by
  intro f i e hf _; omega

/-- If the last frame carries no extension, nothing can be repeated. -/
theorem noRepeat_last_empty (exts : Array Ext) (nbF : Nat) (h : ∀ e ∈ exts.toList, e.frame.toNat ≠ nbF - 1) :
    NoRepeat exts nbF := by
  intro f i e hf _
  refine ⟨nbF - 1, by omega, by omega, Or.inl ?_⟩
  exact fun j e' hj => h e' (Array.mem_toList_iff.mpr (Array.mem_of_getElem? hj))

end Opus.ExtProofs
