import OpusModel.DecSkel.Spec
/-
  OpusProofs.DecSkelBasic — bookkeeping lemmas for the decoder skeleton: `Run` projections,
  `LogGood` under push, sampling-rate arithmetic (`Units`), the frame-level state relation
  `FrameRel`, the bundled run invariant `Good`, room for samples behind a pointer (`Room`) and the postcondition `SPost`
  that every lemma of the walk under the oracle contracts concludes.
-/
namespace Opus.DecSkel
open Opus

@[simp] theorem Run.push_st (r : Run) (e : Ev) : (r.push e).st = r.st := rfl
@[simp] theorem Run.push_k (r : Run) (e : Ev) : (r.push e).k = r.k := rfl
@[simp] theorem Run.push_log (r : Run) (e : Ev) : (r.push e).log = e :: r.log := rfl
@[simp] theorem Run.tick_st (r : Run) : r.tick.st = r.st := rfl
@[simp] theorem Run.tick_log (r : Run) : r.tick.log = r.log := rfl
@[simp] theorem Run.tick_k (r : Run) : r.tick.k = r.k + 1 := rfl
@[simp] theorem Run.setSt_st (r : Run) (s : DecState) : (r.setSt s).st = s := rfl
@[simp] theorem Run.setSt_log (r : Run) (s : DecState) : (r.setSt s).log = r.log := rfl
@[simp] theorem Run.setSt_k (r : Run) (s : DecState) : (r.setSt s).k = r.k := rfl
@[simp] theorem Ptr.add_buf (p : Ptr) (n : Int) : (p.add n).buf = p.buf := rfl
@[simp] theorem Ptr.add_cap (p : Ptr) (n : Int) : (p.add n).cap = p.cap := rfl
@[simp] theorem Ptr.add_off (p : Ptr) (n : Int) : (p.add n).off = p.off + n := rfl

theorem LogGood_push {st0 : DecState} {cap0 : Int} {r : Run} {e : Ev} (h : LogGood st0 cap0 r)
    (he : EvGood st0 cap0 e) : LogGood st0 cap0 (r.push e) := by
  simpa [LogGood] using And.intro he h
@[simp] theorem LogGood_tick {st0 : DecState} {cap0 : Int} {r : Run} : LogGood st0 cap0 r.tick ↔ LogGood st0 cap0 r := Iff.rfl
@[simp] theorem LogGood_setSt {st0 : DecState} {cap0 : Int} {r : Run} {s : DecState} :
    LogGood st0 cap0 (r.setSt s) ↔ LogGood st0 cap0 r := Iff.rfl

@[simp] theorem bindRun_ret {α β : Type} (a : α) (r : Run) (f : α → Run → Out β × Run) :
    bindRun (.ret a, r) f = f a r := rfl
@[simp] theorem bindRun_abort {α β : Type} (r : Run) (f : α → Run → Out β × Run) :
    bindRun ((.abort : Out α), r) f = (.abort, r) := rfl
@[simp] theorem bindRun_hang {α β : Type} (r : Run) (f : α → Run → Out β × Run) :
    bindRun ((.hang : Out α), r) f = (.hang, r) := rfl

theorem cdiv_nonneg {a b : Int} (ha : 0 ≤ a) : cdiv a b = a / b := by
  unfold cdiv; exact Int.tdiv_eq_ediv_of_nonneg ha
theorem cmod_nonneg {a b : Int} (ha : 0 ≤ a) : cmod a b = a % b := by
  unfold cmod; exact Int.tmod_eq_emod_of_nonneg ha

/-- The 2.5 ms unit `u` and its multiples at a legal rate. -/
structure Units (st : DecState) (u : Int) : Prop where
  pos : 20 ≤ u
  fs : st.Fs = 400 * u
  f25 : F2_5 st = u
  f5 : F5 st = 2 * u
  f10 : F10 st = 4 * u
  f20 : F20 st = 8 * u
  f120 : st.Fs / 25 * 3 = 48 * u
  u400 : st.Fs / 400 = u
  u200 : st.Fs / 200 = 2 * u
  u100 : st.Fs / 100 = 4 * u
  u50 : st.Fs / 50 = 8 * u
  ms10 : 10 * (st.Fs / 1000) = 4 * u
  ms20 : 20 * (st.Fs / 1000) = 8 * u
  five : u = 20 ∨ u = 30 ∨ u = 40 ∨ u = 60 ∨ u = 120

/-- All of `Units` follows from the rate alone. -/
theorem Units.of_fs {st : DecState} {u : Int} (hfs : st.Fs = 400 * u)
    (h5 : u = 20 ∨ u = 30 ∨ u = 40 ∨ u = 60 ∨ u = 120) : Units st u := by
  rcases h5 with rfl | rfl | rfl | rfl | rfl <;> constructor <;> simp [F2_5, F5, F10, F20, hfs]

theorem units_of_fs {st : DecState} (h : FsOk st.Fs) : ∃ u, Units st u := by
  rcases h with h | h | h | h | h
  · exact ⟨20, .of_fs h (by decide)⟩
  · exact ⟨30, .of_fs h (by decide)⟩
  · exact ⟨40, .of_fs h (by decide)⟩
  · exact ⟨60, .of_fs h (by decide)⟩
  · exact ⟨120, .of_fs h (by decide)⟩

theorem Units.congr {s s' : DecState} {u : Int} (h : Units s u) (e : s'.Fs = s.Fs) : Units s' u :=
  .of_fs (e ▸ h.fs) h.five

theorem Units.fsOk {s : DecState} {u : Int} (h : Units s u) : FsOk s.Fs := by
  have := h.fs; have := h.five; unfold FsOk; omega

/-- What `opus_decode_frame` leaves alone: everything except `DecControl.{payloadSize_ms,
    internalSampleRate, nChannelsInternal}`, `prev_mode` and `prev_redundancy`; the SILK control
    block, once initialised, stays initialised. -/
structure FrameRel (s s' : DecState) : Prop where
  fs : s'.Fs = s.Fs
  ch : s'.channels = s.channels
  gain : s'.decode_gain = s.decode_gain
  sch : s'.stream_channels = s.stream_channels
  bw : s'.bandwidth = s.bandwidth
  mode : s'.mode = s.mode
  fsz : s'.frame_size = s.frame_size
  lpd : s'.last_packet_duration = s.last_packet_duration
  api : s'.dc.API_sampleRate = s.dc.API_sampleRate
  nca : s'.dc.nChannelsAPI = s.dc.nChannelsAPI
  isr : s.dc.internalSampleRate ≠ 0 → s'.dc.internalSampleRate ≠ 0
  nci : s.dc.nChannelsInternal ≠ 0 → s'.dc.nChannelsInternal ≠ 0

theorem FrameRel.refl (s : DecState) : FrameRel s s :=
  ⟨rfl, rfl, rfl, rfl, rfl, rfl, rfl, rfl, rfl, rfl, id, id⟩

theorem FrameRel.trans {a b c : DecState} (h1 : FrameRel a b) (h2 : FrameRel b c) : FrameRel a c := by
  constructor
  · rw [h2.fs, h1.fs]
  · rw [h2.ch, h1.ch]
  · rw [h2.gain, h1.gain]
  · rw [h2.sch, h1.sch]
  · rw [h2.bw, h1.bw]
  · rw [h2.mode, h1.mode]
  · rw [h2.fsz, h1.fsz]
  · rw [h2.lpd, h1.lpd]
  · rw [h2.api, h1.api]
  · rw [h2.nca, h1.nca]
  · exact fun h => h2.isr (h1.isr h)
  · exact fun h => h2.nci (h1.nci h)

/-- The decoder invariant holds, the rate/channel count are those of the reference state `st0`
    (which fixes the sizes of the scratch buffers) and every logged event is good. -/
structure Good (st0 : DecState) (cap0 : Int) (r : Run) : Prop where
  inv : DecInv r.st
  fs : r.st.Fs = st0.Fs
  ch : r.st.channels = st0.channels
  log : LogGood st0 cap0 r

theorem Good.push {st0 : DecState} {cap0 : Int} {r : Run} {e : Ev} (h : Good st0 cap0 r)
    (he : EvGood st0 cap0 e) : Good st0 cap0 (r.push e) :=
  ⟨h.inv, h.fs, h.ch, LogGood_push h.log he⟩

theorem Good.tick {st0 : DecState} {cap0 : Int} {r : Run} (h : Good st0 cap0 r) : Good st0 cap0 r.tick :=
  ⟨h.inv, h.fs, h.ch, h.log⟩

theorem Good.pushIf {st0 : DecState} {cap0 : Int} {r : Run} {e : Ev} {c : Prop} [Decidable c]
    (h : Good st0 cap0 r) (he : c → EvGood st0 cap0 e) : Good st0 cap0 (if c then r.push e else r) := by
  split
  · exact h.push (he ‹_›)
  · exact h

theorem PtrCapOk.congr {s s' : DecState} {cap0 : Int} {p : Ptr} (h : PtrCapOk s cap0 p)
    (e1 : s'.Fs = s.Fs) (e2 : s'.channels = s.channels) : PtrCapOk s' cap0 p := by
  unfold PtrCapOk at *
  simp only [F10, F5, F20, e1, e2]
  exact h

theorem PtrCapOk.add {s : DecState} {cap0 : Int} {p : Ptr} (h : PtrCapOk s cap0 p) (n : Int) :
    PtrCapOk s cap0 (p.add n) := h

theorem Ptr.room_mul_le {p : Ptr} {n m ch : Int} (h : p.room (n * ch)) (hch : 0 ≤ ch) (h0 : 0 ≤ m) (hle : m ≤ n) :
    p.room (m * ch) :=
  ⟨h.1, Int.mul_nonneg h0 hch, Int.le_trans (Int.add_le_add_left (Int.mul_le_mul_of_nonneg_right hle hch) _) h.2.2⟩

theorem Ptr.room_add_mul {p : Ptr} {n a b ch : Int} (h : p.room (n * ch)) (hch : 0 ≤ ch) (ha : 0 ≤ a) (hb : 0 ≤ b)
    (hle : a + b ≤ n) : (p.add (a * ch)).room (b * ch) := by
  have := Int.mul_le_mul_of_nonneg_right hle hch
  rw [Int.add_mul] at this
  exact ⟨Int.add_nonneg h.1 (Int.mul_nonneg ha hch), Int.mul_nonneg hb hch, by have := h.2.2; simp only [Ptr.add_off, Ptr.add_cap]; omega⟩

theorem DecInv.ch_nonneg {st : DecState} (h : DecInv st) : 0 ≤ st.channels := by
  have := h.ch; omega

/-- An event that carries the pointer `p` is good when it is well-formed and `p` names the capacity of its buffer. -/
theorem evGood_of_ptr {st0 : DecState} {cap0 : Int} {e : Ev} {p : Ptr} (hp : e.ptr? = some p) (hok : EvOk e)
    (hc : PtrCapOk st0 cap0 p) : EvGood st0 cap0 e :=
  ⟨hok, fun _ hq => Option.some.inj (hp.symm.trans hq) ▸ hc⟩

theorem evGood_acc {st0 : DecState} {cap0 : Int} {site : Nat} {p : Ptr} {n : Int} (h : p.room n) (hc : PtrCapOk st0 cap0 p) :
    EvGood st0 cap0 (.acc site p n) :=
  evGood_of_ptr rfl h hc

theorem isSome_or_isNone {α : Type} (x : Option α) : x.isSome = true ∨ x.isNone = true := by
  cases x <;> simp

theorem DecInv.withGain {st : DecState} (h : DecInv st) (g : Int) (hg : -32768 ≤ g ∧ g ≤ 32767) :
    DecInv { st with decode_gain := g } :=
  { h with gain := hg }

theorem DecInv.setLpd {st : DecState} (h : DecInv st) {n : Int} (hn : 0 ≤ n) :
    DecInv { st with last_packet_duration := n } :=
  { h with lpd := hn }

variable {α β : Type} {o : Oracle} {st0 s : DecState} {cap0 u : Int} {r : Run}

theorem Good.setSt (h : Good st0 cap0 r) (hinv : DecInv s) (e1 : s.Fs = st0.Fs) (e2 : s.channels = st0.channels) :
    Good st0 cap0 (r.setSt s) :=
  ⟨hinv, e1, e2, h.log⟩

theorem Good.units (h : Good st0 cap0 r) (hu : Units st0 u) : Units r.st u := hu.congr h.fs

theorem Good.of_eq {r' : Run} (h : Good st0 cap0 r) (e1 : r'.st = r.st) (e2 : r'.log = r.log) : Good st0 cap0 r' :=
  ⟨e1 ▸ h.inv, e1 ▸ h.fs, e1 ▸ h.ch, by unfold LogGood; rw [e2]; exact h.log⟩

/-- `n` samples per channel fit behind `p`, a pointer into the caller's buffer or into a scratch buffer of the size the
    reference state gives it.  (The model offsets pointers and sizes its accesses by `r.st.channels`; under `Good` that is
    `st0.channels`, and the proofs rewrite the goal with `Good.ch` before they use these lemmas.) -/
structure Room (st0 : DecState) (cap0 : Int) (p : Ptr) (n : Int) : Prop where
  ch : 0 ≤ st0.channels
  room : p.room (n * st0.channels)
  cap : PtrCapOk st0 cap0 p

theorem Good.room {p : Ptr} {n : Int} (h : Good st0 cap0 r) (hr : p.room (n * st0.channels)) (hc : PtrCapOk st0 cap0 p) :
    Room st0 cap0 p n :=
  ⟨h.ch ▸ h.inv.ch_nonneg, hr, hc⟩

theorem Room.le {p : Ptr} {n m : Int} (h : Room st0 cap0 p n) (h0 : 0 ≤ m) (hle : m ≤ n) : Room st0 cap0 p m :=
  ⟨h.ch, Ptr.room_mul_le h.room h.ch h0 hle, h.cap⟩

theorem Room.add {p : Ptr} {n a b : Int} (h : Room st0 cap0 p n) (ha : 0 ≤ a) (hb : 0 ≤ b) (hle : a + b ≤ n) :
    Room st0 cap0 (p.add (a * st0.channels)) b :=
  ⟨h.ch, Ptr.room_add_mul h.room h.ch ha hb hle, h.cap.add _⟩

theorem Room.ev {p : Ptr} {n : Int} (h : Room st0 cap0 p n) (site : Nat) : EvGood st0 cap0 (.acc site p (n * st0.channels)) :=
  evGood_acc h.room h.cap

theorem Good.acc {p : Ptr} {n : Int} {site : Nat} (h : Good st0 cap0 r) (hr : Room st0 cap0 p n) :
    Good st0 cap0 (r.push (.acc site p (n * st0.channels))) :=
  h.push (hr.ev site)

/-- What every step of the decoder establishes when it is started in state `s` under the oracle contracts: it returns, the run
    is good again, the state has moved by a `FrameRel` step, and `Q` holds of the value and the new run.  The reference state
    `st0` fixes rate and channel count for the whole walk, so `Units st0 u` and room for `n * st0.channels` samples are
    stated once and never moved from state to state. -/
def SPost (st0 : DecState) (cap0 : Int) (s : DecState) (Q : α → Run → Prop) (x : Out α × Run) : Prop :=
  ∃ a r', x = (.ret a, r') ∧ Good st0 cap0 r' ∧ FrameRel s r'.st ∧ Q a r'

theorem SPost.ret {Q : α → Run → Prop} {a : α} {r' : Run} (hg : Good st0 cap0 r') (hf : FrameRel s r'.st) (hq : Q a r') :
    SPost st0 cap0 s Q (.ret a, r') := ⟨a, r', rfl, hg, hf, hq⟩

theorem SPost.mono {P Q : α → Run → Prop} {x : Out α × Run} (hx : SPost st0 cap0 s P x)
    (h : ∀ a r', Good st0 cap0 r' → FrameRel s r'.st → P a r' → Q a r') : SPost st0 cap0 s Q x :=
  let ⟨a, r', e, g, f, p⟩ := hx
  ⟨a, r', e, g, f, h a r' g f p⟩

theorem SPost.after {s1 : DecState} {Q : α → Run → Prop} {x : Out α × Run} (hf : FrameRel s s1) (hx : SPost st0 cap0 s1 Q x) :
    SPost st0 cap0 s Q x :=
  let ⟨a, r', e, g, f, q⟩ := hx
  ⟨a, r', e, g, hf.trans f, q⟩

/-- Sequencing: the continuation starts from the good run the first part left. -/
theorem SPost.bind {P : α → Run → Prop} {Q : β → Run → Prop} {x : Out α × Run} {k : α → Run → Out β × Run}
    (hx : SPost st0 cap0 s P x)
    (hk : ∀ a r1, Good st0 cap0 r1 → FrameRel s r1.st → P a r1 → SPost st0 cap0 r1.st Q (k a r1)) :
    SPost st0 cap0 s Q (bindRun x k) := by
  obtain ⟨a, r1, rfl, g1, f1, p1⟩ := hx
  exact (hk a r1 g1 f1 p1).after f1

theorem SPost.ite {Q : α → Run → Prop} {c : Prop} [Decidable c] {x y : Out α × Run}
    (hx : c → SPost st0 cap0 s Q x) (hy : ¬ c → SPost st0 cap0 s Q y) : SPost st0 cap0 s Q (if c then x else y) := by
  split
  · exact hx ‹_›
  · exact hy ‹_›

end Opus.DecSkel
