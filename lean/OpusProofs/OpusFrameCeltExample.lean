import OpusProofs.OpusFrameCelt
/-
  A concrete 5 ms redundancy frame (kernel-evaluated) meeting every hypothesis of `OwnCoderFrame`: mono, narrowband
  (`end = 13`), `LM = 1`, CBR, 24 bytes, 72 coder calls (46 in the header; 13 fine-energy calls, 13 PVQ indices), filled to
  the last bit (`ec_tell = 192`).
-/
namespace Opus.OpusFrameProofs.Example
open Opus Opus.RangeCoder Opus.CeltSymsEnc OpusProofs.CeltHdr Opus.OpusFrameProofs

def cfgR : EncCfg := { start := 0, end_ := 13, C := 1, LM := 1, vbr := false, lfe := false, size := 24 }
/-- decisions: silence 0, pf off, transient 0, intra 0, 13 energies, 13 tf decisions (tf_select included), spread 2,
    13 × no dynalloc boost, trim 5, intensity 13, dual 0, prev 0, signalBandwidth 13; then 26 × 1 for the band data -/
def dsR : List Int := [0, 0, 0, 0, 1, 2, -1, 0, 0, 1, 0, -2, 0, 0, 1, 0, 0, 0] ++ List.replicate 12 0 ++
  [2,  0,0,0,0,0,0,0,0,0,0,0,0,0,  5,  13, 0, 0, 13] ++ List.replicate 26 1
def bufR : List Nat := List.replicate 24 0
def s0R : St := { e := encInit bufR 24, ops := [], ds := dsR }
def allR : List Op := match Opus.CeltBandsEnc.encFrame cfgR s0R with | .ok f => f.ops | _ => []

/-- the finished redundancy frame (`ec_enc_done`, 24 bytes) -/
def bytesR : List Nat :=
  [75, 32, 87, 25, 194, 180, 171, 114, 187, 236, 29, 199, 152, 0, 0, 0, 0, 68, 32, 132, 170, 84, 146, 73]

/-- The run, evaluated once: the header decisions and the final coder state; then what the range coder makes of the 72
    calls (legal, no error, 24 bytes, the finished frame). -/
theorem runR : (Opus.CeltBandsEnc.encFrame cfgR s0R).OkAnd fun fr =>
    (fr.hdr.silence = 0 ∧ fr.hdr.size = 24 ∧ fr.hdr.pf.on = 0 ∧ (cfgR.start : Int) ≤ fr.hdr.allocInp.intensity ∧
      fr.hdr.allocInp.dualStereo = 0 ∧ fr.fin.rng = 1642388224 ∧ fr.ops.length = 72 ∧ tell fr.fin = 192) ∧
    (RunOk bufR 24 fr.ops ∧ (encodeAll bufR 24 fr.ops).storage = 24 ∧
      (encodeAll bufR 24 fr.ops).buf.take 24 = bytesR) := by
  decide +kernel

-- `rw [allR]`, not `unfold allR`: the kernel checks the latter by running the encoder
theorem allR_eq {fr : Opus.CeltBandsEnc.EncFrame} (h : Opus.CeltBandsEnc.encFrame cfgR s0R = .ok fr) : allR = fr.ops := by
  rw [allR, h]

theorem allR_coder : RunOk bufR 24 allR ∧ (encodeAll bufR 24 allR).storage = 24 ∧
    (encodeAll bufR 24 allR).buf.take 24 = bytesR := by
  obtain ⟨fr, h, -, hc⟩ := runR
  rw [allR_eq h]; exact hc

def worldR : World :=
  { buf := bufR, size := 24, all := allR, hs := by decide, hb := by decide +kernel, hl := allR_coder.1.1,
    hn := allR_coder.1.2.1, herr := allR_coder.1.2.2.1, hn29 := allR_coder.1.2.2.2 }

-- `World.len`, `World.bytes` are rewritten before `exact`: a projection of `encodeAll …` met with a different head is
-- evaluated by the kernel
theorem worldR_len : worldR.len = 24 := by
  rw [World.len]; exact allR_coder.2.1

theorem worldR_bytes : worldR.bytes = bytesR := by
  rw [World.bytes, worldR_len]; exact allR_coder.2.2

theorem ownR : ∃ fr, OwnCoderFrame worldR cfgR s0R fr ∧ fr.fin.rng = 1642388224 ∧ fr.ops.length = 72 ∧ tell fr.fin = 192 := by
  obtain ⟨fr, h, ⟨hsil, hsize, hpf, hint, hdual, hfin⟩, -⟩ := runR
  exact ⟨fr, ⟨rfl, rfl, rfl, h, hsil, ⟨[], by rw [List.append_nil]; exact allR_eq h⟩, by decide, by decide,
    by rw [worldR_len, hsize], Or.inl worldR_len, by rw [worldR_len]; decide +kernel, fun hne => absurd hpf hne, hint,
    Or.inl hdual⟩, hfin⟩

end Opus.OpusFrameProofs.Example
