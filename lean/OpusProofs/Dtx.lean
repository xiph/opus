import OpusModel.Dtx
/-
  OpusProofs.Dtx — the two DTX detectors (C20) are one hang-over counter at two sets of constants:
  `decide_dtx_mode` (`decideDtx`, `dtxSteps`) counts Q1 milliseconds through the window (200 ms, 600 ms], SILK's
  `noSpeechCounter` (`silkVad`, `silkSteps`) counts frames through (10, 30].  The counter `hang` and its runs
  `hangSteps` are studied once, with onset and limit as variables; the two model functions are shown equal to it.
  The constants of OpusModel/Gen/DtxConsts.lean enter through the four `*_eq` lemmas below (and
  `maxFramesPerPacket = 3` in `frameSilk_zero`, OpusProofs/DtxQuery.lean); if `/repo` changes one they stop being
  `rfl` and every bound that quotes the property's 200 ms / 400 ms fails to check.
-/
namespace Opus.Dtx
open Opus.Gen.DtxConsts

theorem nb_eq : nbSpeechFramesBeforeDtx = 10 := rfl
theorem max_eq : maxConsecutiveDtx = 20 := rfl
/-- 200 ms in Q1. -/
theorem onsetQ1_eq : onsetQ1 = 400 := rfl
/-- 600 ms in Q1 (200 ms + 400 ms). -/
theorem limitQ1_eq : limitQ1 = 1200 := rfl

/-- Activity clears the count; an inactive frame adds its duration `f`; the frame is dropped while the count including
    it lies in `(onset, limit]`; a frame that would pass `limit` is not dropped and puts the count back to `onset`
    (the refresh).  Returns (dropped?, new count). -/
def hang (onset limit : Nat) (active : Bool) (n f : Nat) : Bool × Nat :=
  if active then (false, 0)
  else if n + f > onset then (if n + f ≤ limit then (true, n + f) else (false, onset))
  else (false, n + f)

section
variable (o l : Nat)

theorem hang_active (n f : Nat) : hang o l true n f = (false, 0) := rfl

theorem hang_inactive_le {n f : Nat} (h : n + f ≤ l) : hang o l false n f = (decide (o < n + f), n + f) := by
  unfold hang
  by_cases h1 : n + f > o <;> simp [h1, h]

/-- The refresh. -/
theorem hang_refresh {n f : Nat} (hol : o ≤ l) (h : l < n + f) : hang o l false n f = (false, o) := by
  unfold hang
  simp [show n + f > o by omega, Nat.not_le.mpr h]

theorem hang_true_iff (hol : o ≤ l) (a : Bool) (n f : Nat) :
    (hang o l a n f).1 = true ↔ a = false ∧ o < n + f ∧ n + f ≤ l := by
  cases a
  · by_cases h : n + f ≤ l
    · rw [hang_inactive_le o l h]; simp [h]
    · rw [hang_refresh o l hol (by omega)]; simp [h]
  · simp [hang_active]

/-- The count after one frame: dropped ⇒ it added up; not dropped ⇒ it is at most `onset`; always at most `limit`
    and at most one frame more than before. -/
theorem hang_count (hol : o ≤ l) (a : Bool) (n f : Nat) :
    ((hang o l a n f).1 = true → (hang o l a n f).2 = n + f) ∧ ((hang o l a n f).1 = false → (hang o l a n f).2 ≤ o) ∧
    (hang o l a n f).2 ≤ l ∧ (hang o l a n f).2 ≤ n + f := by
  cases a
  · by_cases h : n + f ≤ l
    · rw [hang_inactive_le o l h]; simp; omega
    · rw [hang_refresh o l hol (by omega)]; simp; omega
  · simp [hang_active]

/-- The counter run over a schedule of frames `(activity, duration)`: the decisions and the final count. -/
def hangSteps : Nat → List (Bool × Nat) → List Bool × Nat
  | n, [] => ([], n)
  | n, (a, f) :: rest => ((hang o l a n f).1 :: (hangSteps (hang o l a n f).2 rest).1, (hangSteps (hang o l a n f).2 rest).2)

theorem hangSteps_length (n : Nat) (s : List (Bool × Nat)) : (hangSteps o l n s).1.length = s.length := by
  induction s generalizing n with
  | nil => rfl
  | cons x xs ih => obtain ⟨a, f⟩ := x; simp [hangSteps, ih]

theorem hangSteps_append (n : Nat) (s t : List (Bool × Nat)) :
    hangSteps o l n (s ++ t) =
      ((hangSteps o l n s).1 ++ (hangSteps o l (hangSteps o l n s).2 t).1, (hangSteps o l (hangSteps o l n s).2 t).2) := by
  induction s generalizing n with
  | nil => rfl
  | cons x xs ih => obtain ⟨a, f⟩ := x; simp [hangSteps, ih]

theorem hangSteps_window (n : Nat) (pre seg post : List (Bool × Nat)) :
    ((hangSteps o l n (pre ++ seg ++ post)).1.drop pre.length).take seg.length = (hangSteps o l (hangSteps o l n pre).2 seg).1 := by
  rw [List.append_assoc, hangSteps_append, hangSteps_append]
  simp only
  rw [List.drop_left' (hangSteps_length o l n pre), List.take_left' (hangSteps_length o l _ seg)]

theorem hangSteps_count_le (hol : o ≤ l) (n : Nat) (s : List (Bool × Nat)) (h : n ≤ l) : (hangSteps o l n s).2 ≤ l := by
  induction s generalizing n with
  | nil => exact h
  | cons x xs ih => exact ih _ (hang_count o l hol x.1 n x.2).2.2.1

theorem hangSteps_count_le_add (hol : o ≤ l) (n : Nat) (s : List (Bool × Nat)) : (hangSteps o l n s).2 ≤ n + durSum s := by
  induction s generalizing n with
  | nil => exact Nat.le_refl _
  | cons x xs ih =>
    obtain ⟨a, f⟩ := x
    have := (hang_count o l hol a n f).2.2.2
    have := ih (hang o l a n f).2
    simp only [hangSteps, durSum]; omega

/-- A segment of frames that are all dropped: all inactive, the count added up, it passed `onset` with the first frame
    and is within `limit` after the last. -/
theorem hangSteps_all_true (hol : o ≤ l) (n : Nat) (s : List (Bool × Nat)) (h : ∀ d ∈ (hangSteps o l n s).1, d = true) :
    (hangSteps o l n s).2 = n + durSum s ∧ (∀ x ∈ s, x.1 = false) ∧
    (∀ a f rest, s = (a, f) :: rest → o < n + f ∧ n + durSum s ≤ l) := by
  induction s generalizing n with
  | nil => exact ⟨rfl, fun x hx => (by cases hx), fun _ _ _ e => (by cases e)⟩
  | cons x xs ih =>
    obtain ⟨a, f⟩ := x
    simp only [hangSteps, List.mem_cons, forall_eq_or_imp] at h
    obtain ⟨ha, hf, hl⟩ := (hang_true_iff o l hol a n f).1 h.1
    have hn := (hang_count o l hol a n f).1 h.1
    obtain ⟨e, hall, hw⟩ := ih _ h.2
    rw [hn] at e hw
    refine ⟨by simp only [hangSteps, hn, durSum, e]; omega, ?_, ?_⟩
    · intro y hy
      rcases List.mem_cons.1 hy with rfl | hy
      · exact ha
      · exact hall y hy
    · rintro _ _ _ ⟨⟩
      refine ⟨hf, ?_⟩
      simp only [durSum]
      cases xs with
      | nil => simp only [durSum]; omega
      | cons y ys => obtain ⟨b, g⟩ := y; have := (hw b g ys rfl).2; omega

/-- **Run bound.**  From any count, a segment of frames that are all dropped lasts less than `limit − onset` plus the
    duration of its first frame. -/
theorem hang_run_bound (hol : o ≤ l) (n : Nat) (a : Bool) (f : Nat) (rest : List (Bool × Nat))
    (h : ∀ d ∈ (hangSteps o l n ((a, f) :: rest)).1, d = true) : o + durSum ((a, f) :: rest) < l + f := by
  have := (hangSteps_all_true o l hol n _ h).2.2 a f rest rfl
  omega

/-- Inactive frames from count `n`, as long as the limit is not passed: the count adds up and frame `i` is dropped
    iff the count including it exceeds the onset. -/
theorem hangSteps_inactive (n : Nat) (fs : List Nat) (h : n + fs.sum ≤ l) :
    (hangSteps o l n (fs.map (fun f => (false, f)))).2 = n + fs.sum ∧
    (hangSteps o l n (fs.map (fun f => (false, f)))).1 =
      (List.range fs.length).map (fun i => decide (o < n + (fs.take (i + 1)).sum)) := by
  induction fs generalizing n with
  | nil => simp [hangSteps]
  | cons f fs ih =>
    simp only [List.map_cons, hangSteps, List.sum_cons, List.length_cons] at h ⊢
    rw [hang_inactive_le o l (by omega : n + f ≤ l)]
    have := ih (n + f) (by omega)
    refine ⟨by rw [this.1]; omega, ?_⟩
    rw [this.2, List.range_succ_eq_map]
    simp only [List.map_cons, List.map_map, List.take_zero, List.sum_nil, List.take_succ_cons, List.sum_cons]
    simp only [Nat.add_assoc]
    rfl

/-- `k + 1` inactive frames of equal duration that stay within the limit are all dropped iff the first one is. -/
theorem hangSteps_replicate (n k f : Nat) (h : n + (k + 1) * f ≤ l) :
    (hangSteps o l n (List.replicate (k + 1) (false, f))).2 = n + (k + 1) * f ∧
    ((∀ d ∈ (hangSteps o l n (List.replicate (k + 1) (false, f))).1, d = true) ↔ o < n + f) := by
  induction k generalizing n with
  | zero =>
    have h' : n + f ≤ l := by omega
    simp [List.replicate, hangSteps, hang_inactive_le o l h']
  | succ k ih =>
    have hm : (k + 1 + 1) * f = (k + 1) * f + f := Nat.succ_mul ..
    rw [List.replicate_succ]
    simp only [hangSteps]
    rw [hang_inactive_le o l (by omega : n + f ≤ l)]
    have := ih (n + f) (by omega)
    refine ⟨by simp only; rw [this.1]; omega, ?_⟩
    simp only [List.mem_cons, forall_eq_or_imp, decide_eq_true_eq]
    rw [this.2]
    exact ⟨fun h => h.1, fun h => ⟨h, by omega⟩⟩

end

/-! ### `decide_dtx_mode` is the counter in Q1 ms with the window (200 ms, 600 ms] -/

theorem decideDtx_eq_hang (a : Bool) (nb f : Nat) : decideDtx a nb f = hang onsetQ1 limitQ1 a nb f := rfl

theorem onset_le_limit : onsetQ1 ≤ limitQ1 := by decide

theorem decideDtx_active (nb f : Nat) : decideDtx true nb f = (false, 0) := rfl

theorem decideDtx_true_iff (a : Bool) (nb f : Nat) :
    (decideDtx a nb f).1 = true ↔ a = false ∧ onsetQ1 < nb + f ∧ nb + f ≤ limitQ1 :=
  hang_true_iff _ _ onset_le_limit a nb f

theorem decideDtx_false_nb (a : Bool) (nb f : Nat) (h : (decideDtx a nb f).1 = false) :
    (decideDtx a nb f).2 ≤ onsetQ1 :=
  (hang_count _ _ onset_le_limit a nb f).2.1 h

theorem dtxSteps_nil (nb : Nat) : dtxSteps nb [] = ([], nb) := rfl
theorem dtxSteps_cons (nb : Nat) (a : Bool) (f : Nat) (rest : List (Bool × Nat)) :
    dtxSteps nb ((a, f) :: rest) =
      ((decideDtx a nb f).1 :: (dtxSteps (decideDtx a nb f).2 rest).1, (dtxSteps (decideDtx a nb f).2 rest).2) := rfl

theorem dtxSteps_eq_hang (nb : Nat) (s : List (Bool × Nat)) : dtxSteps nb s = hangSteps onsetQ1 limitQ1 nb s := by
  induction s generalizing nb with
  | nil => rfl
  | cons x xs ih => obtain ⟨a, f⟩ := x; simp only [dtxSteps, hangSteps, ih, decideDtx_eq_hang]

theorem dtxSteps_length (nb : Nat) (s : List (Bool × Nat)) : (dtxSteps nb s).1.length = s.length := by
  rw [dtxSteps_eq_hang]; exact hangSteps_length ..

theorem durSum_append (s t : List (Bool × Nat)) : durSum (s ++ t) = durSum s + durSum t := by
  induction s with
  | nil => simp [durSum]
  | cons x xs ih => obtain ⟨a, f⟩ := x; simp [durSum, ih]; omega

/-! ### SILK's `noSpeechCounter` is the counter in frames with the window (10, 30]; its flag can only be cleared -/

theorem silkVad_eq_hang (s : SilkCh) (low : Bool) :
    silkVad s low =
      ⟨(hang nbSpeechFramesBeforeDtx (nbSpeechFramesBeforeDtx + maxConsecutiveDtx) (!low) s.cnt 1).2,
       (hang nbSpeechFramesBeforeDtx (nbSpeechFramesBeforeDtx + maxConsecutiveDtx) (!low) s.cnt 1).1 && s.inDtx⟩ := by
  cases low
  · rfl
  · unfold silkVad hang
    by_cases h1 : s.cnt + 1 ≤ nbSpeechFramesBeforeDtx
    · simp [h1, Nat.not_lt.mpr h1]
    · by_cases h2 : s.cnt + 1 > maxConsecutiveDtx + nbSpeechFramesBeforeDtx
      · have : ¬ s.cnt + 1 ≤ nbSpeechFramesBeforeDtx + maxConsecutiveDtx := by omega
        simp [h1, h2, this, Nat.lt_of_not_le h1]
      · have : s.cnt + 1 ≤ nbSpeechFramesBeforeDtx + maxConsecutiveDtx := by omega
        simp [h1, h2, this, Nat.lt_of_not_le h1]

theorem silkVad_active (s : SilkCh) : silkVad s false = ⟨0, false⟩ := rfl

theorem silkVad_cnt_le (s : SilkCh) (low : Bool) :
    (silkVad s low).cnt ≤ nbSpeechFramesBeforeDtx + maxConsecutiveDtx ∧ (silkVad s low).cnt ≤ s.cnt + 1 := by
  rw [silkVad_eq_hang]
  exact (hang_count _ _ (Nat.le_add_right ..) _ _ _).2.2

/-- A frame that leaves the flag set: it was inactive, and the counter went up by one into the window (10, 30]. -/
theorem silkVad_cnt_of_inDtx (s : SilkCh) (low : Bool) (h : (silkVad s low).inDtx = true) :
    (silkVad s low).cnt = s.cnt + 1 ∧ nbSpeechFramesBeforeDtx < s.cnt + 1 ∧
      s.cnt + 1 ≤ nbSpeechFramesBeforeDtx + maxConsecutiveDtx ∧ low = true := by
  rw [silkVad_eq_hang] at h ⊢
  have h1 := (Bool.and_eq_true _ _ ▸ h).1
  obtain ⟨ha, hf, hl⟩ := (hang_true_iff _ _ (Nat.le_add_right ..) _ _ _).1 h1
  exact ⟨(hang_count _ _ (Nat.le_add_right ..) _ _ _).1 h1, hf, hl, by cases low <;> simp_all⟩

theorem silkVad_armed (cnt : Nat) (low : Bool) :
    (silkVad ⟨cnt, true⟩ low).inDtx = true ↔
      low = true ∧ nbSpeechFramesBeforeDtx < cnt + 1 ∧ cnt + 1 ≤ nbSpeechFramesBeforeDtx + maxConsecutiveDtx := by
  rw [silkVad_eq_hang, Bool.and_true, hang_true_iff _ _ (Nat.le_add_right ..)]
  cases low <;> simp

theorem silkSteps_cons (cnt : Nat) (low : Bool) (rest : List Bool) :
    silkSteps cnt (low :: rest) =
      ((silkVad ⟨cnt, true⟩ low).inDtx :: (silkSteps (silkVad ⟨cnt, true⟩ low).cnt rest).1,
       (silkSteps (silkVad ⟨cnt, true⟩ low).cnt rest).2) := rfl

/-- One channel's machine, the flag re-armed before every frame, is the counter run over frames of duration 1. -/
theorem silkSteps_eq_hang (cnt : Nat) (s : List Bool) :
    silkSteps cnt s =
      hangSteps nbSpeechFramesBeforeDtx (nbSpeechFramesBeforeDtx + maxConsecutiveDtx) cnt (s.map fun low => (!low, 1)) := by
  induction s generalizing cnt with
  | nil => rfl
  | cons x xs ih => simp only [silkSteps, List.map_cons, hangSteps, silkVad_eq_hang, Bool.and_true, ih]

theorem durSum_ones (s : List Bool) : durSum (s.map fun low => (!low, 1)) = s.length := by
  induction s with
  | nil => rfl
  | cons x xs ih => simp only [List.map_cons, durSum, ih, List.length_cons]; omega

theorem silkSteps_length (cnt : Nat) (s : List Bool) : (silkSteps cnt s).1.length = s.length := by
  rw [silkSteps_eq_hang, hangSteps_length, List.length_map]

theorem silkSteps_append (cnt : Nat) (s t : List Bool) :
    silkSteps cnt (s ++ t) = ((silkSteps cnt s).1 ++ (silkSteps (silkSteps cnt s).2 t).1, (silkSteps (silkSteps cnt s).2 t).2) := by
  simp only [silkSteps_eq_hang, List.map_append, hangSteps_append]

theorem silkSteps_window (cnt : Nat) (pre seg post : List Bool) :
    ((silkSteps cnt (pre ++ seg ++ post)).1.drop pre.length).take seg.length = (silkSteps (silkSteps cnt pre).2 seg).1 := by
  have := hangSteps_window nbSpeechFramesBeforeDtx (nbSpeechFramesBeforeDtx + maxConsecutiveDtx) cnt
    (pre.map fun low => (!low, 1)) (seg.map fun low => (!low, 1)) (post.map fun low => (!low, 1))
  simpa only [silkSteps_eq_hang, List.map_append, List.length_map] using this

/-- From counter `cnt`, `n` inactive SILK frames that stay within the limit of 30: frame `i` may be
    dropped iff the counter including it exceeds 10; the counter adds up. -/
theorem silkSteps_inactive (cnt n : Nat) (h : cnt + n ≤ nbSpeechFramesBeforeDtx + maxConsecutiveDtx) :
    silkSteps cnt (List.replicate n true) =
      ((List.range n).map (fun i => decide (nbSpeechFramesBeforeDtx < cnt + i + 1)), cnt + n) := by
  have hm : (List.replicate n true).map (fun low => (!low, 1)) = (List.replicate n 1).map (fun f => (false, f)) := by simp
  have := hangSteps_inactive nbSpeechFramesBeforeDtx (nbSpeechFramesBeforeDtx + maxConsecutiveDtx) cnt (List.replicate n 1)
    (by simpa using h)
  rw [silkSteps_eq_hang, hm]
  refine Prod.ext ?_ (by rw [this.1]; simp)
  rw [this.2, List.length_replicate]
  apply List.map_congr_left
  intro i hi
  have := List.mem_range.1 hi
  simp [List.take_replicate, Nat.min_eq_left (by omega : i + 1 ≤ n), Nat.add_assoc]

end Opus.Dtx
