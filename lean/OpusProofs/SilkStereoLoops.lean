import OpusModel.SilkStereoLoops
/-
  OpusProofs.SilkStereoLoops — nested loops with `goto done` = scan over the visiting order.
-/
namespace OpusProofs.SilkStereoLoops
open Opus Opus.SilkParams Opus.SilkStereo

theorem inner_scan (pred : Int) (i : Nat) : ∀ (js : List Nat) (rest : List (Nat × Nat)) (st : QSt),
    scan pred (js.map (fun j => (i, j)) ++ rest) st =
      match innerLoop pred i js st with
      | none => none
      | some (st', true) => some st'
      | some (st', false) => scan pred rest st' := by
  intro js
  induction js with
  | nil => intro rest st; simp [innerLoop]
  | cons j js ih =>
    intro rest st
    simp only [List.map_cons, List.cons_append]
    rw [scan, innerLoop]
    simp only [level]
    by_cases h1 : pred - smlabb (low i) (step i) (2 * (j : Int) + 1) < -2147483647 ∨
        pred - smlabb (low i) (step i) (2 * (j : Int) + 1) > 2147483647
    · simp only [h1, if_true]
    · simp only [h1, if_false]
      by_cases h2 : sabs (pred - smlabb (low i) (step i) (2 * (j : Int) + 1)) < st.errMin
      · simp only [h2, if_true]
        exact ih rest _
      · simp only [h2, if_false]

theorem outer_scan (pred : Int) : ∀ (is : List Nat) (st : QSt),
    outerLoop pred is st = scan pred (is.flatMap fun i => (List.range subSteps).map fun j => (i, j)) st := by
  intro is
  induction is with
  | nil => intro st; simp [outerLoop, scan]
  | cons i is ih =>
    intro st
    rw [List.flatMap_cons, inner_scan, outerLoop]
    split <;> simp_all

end OpusProofs.SilkStereoLoops
