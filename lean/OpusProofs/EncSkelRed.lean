import OpusProofs.EncSkelFrame
import OpusModel.DecSkel
/-
  OpusProofs.EncSkelRed — `redundancy_mirror` (C02, P1): the decoder skeleton's `parseRedundancy`
  (OpusModel/DecSkel.lean, opus_decoder.c:475-503) reading the signalling the encoder
  skeleton writes at opus_encoder.c:2236-2268 recovers `(redundancy, celt_to_silk, redundancy_bytes)`.

  The range coder is the oracle of both skeletons; the lock-step facts of C08 (`decode_encode`: the decoder
  reads back the symbols the encoder wrote, with the same `ec_tell` before and after each symbol) appear as
  hypotheses on the decoder oracle `o.bit` / `o.uint`.

  Second part: the frame the encoder skeleton emits when it signalled redundancy.  `(frameNative s fi e).payload`
  (the bytes after the ToC that reach `opus_decode_frame` as `len`) is `⌈tellB/8⌉ + redundancy_bytes` in SILK-only mode
  and `max_data_bytes − 1` in hybrid mode with VBR off — which ties the `len` on which the mirror theorems run the
  decoder to the encoder's own output.
-/
namespace Opus.EncSkel.Proofs
open Opus Opus.EncSkel

/-- SILK-only mode with redundancy.  The encoder wrote only `bit_logp(celt_to_silk, 1)` (the byte count is
    inferred from the length): the frame is `(tellB+7)/8` coded bytes followed by `rb ≥ 2` redundancy
    bytes.  Provided the decoder's gate `tell + 17 ≤ 8·len` passes (`silk_gate_agrees` below: it always does on what
    the encoder skeleton emits), the decoder recovers `celt_to_silk` and `rb`. -/
theorem redundancy_mirror_silk (o : DecSkel.Oracle) (r : DecSkel.Run) (tellA tellB rb : Int) (c2s : Bool)
    (hrb : 2 ≤ rb) (hgate : tellA + 17 ≤ 8 * ((tellB + 7) / 8 + rb))
    (h1 : o.bit r.k 1 tellA = (b2i c2s, tellB)) :
    (DecSkel.parseRedundancy o DecSkel.MODE_SILK ((tellB + 7) / 8 + rb) tellA r).1 =
      { redundancy := 1, celt_to_silk := b2i c2s, bytes := rb, len := (tellB + 7) / 8, tell := tellB } := by
  unfold DecSkel.parseRedundancy
  have hne : ¬ (DecSkel.MODE_SILK = DecSkel.MODE_HYBRID) := by decide
  simp only [if_neg hne]
  rw [if_pos (show tellA + 17 + 0 ≤ 8 * ((tellB + 7) / 8 + rb) by omega)]
  unfold DecSkel.redTail
  simp only [if_neg hne]
  rw [h1]
  unfold DecSkel.redFinish
  dsimp only
  rw [if_neg (by omega)]
  simp only [DecSkel.Red.mk.injEq]
  exact ⟨trivial, trivial, by omega, by omega, trivial⟩

/-- SILK-only mode without redundancy: the encoder's packet ends with the coded bits
    (`len ≤ (tell+7)/8` after the trailing-zero strip of :2468), so the decoder's gate fails and it reads no
    redundancy. -/
theorem redundancy_mirror_silk_none (o : DecSkel.Oracle) (r : DecSkel.Run) (len tellA : Int)
    (hlen : len ≤ (tellA + 7) / 8) :
    (DecSkel.parseRedundancy o DecSkel.MODE_SILK len tellA r).1 =
      { redundancy := 0, celt_to_silk := 0, bytes := 0, len := len, tell := tellA } := by
  unfold DecSkel.parseRedundancy
  have hne : ¬ (DecSkel.MODE_SILK = DecSkel.MODE_HYBRID) := by decide
  simp only [if_neg hne]
  rw [if_neg (show ¬ tellA + 17 + 0 ≤ 8 * len by omega)]

/-! ### The SILK-only corner

  The decoder tests `ec_tell + 17 ≤ 8·len` against the ACTUAL frame length `len = ⌈tellB/8⌉ + rb`, the
  encoder tested `ec_tell + 17 ≤ 8·(max_data_bytes−1)` against the BUDGET.  They can only disagree when
  `rb = 2`, the flag bit cost no whole bit (`tellB = tellA`) and `tellA ≡ 0 (mod 8)`.  But `rb = 2` means
  `max_redundancy ≤ 2`, i.e. the budget itself is within two bytes of `⌈tellB/8⌉`, and then the encoder's own
  gate gives the decoder's.  So the disagreement is arithmetically impossible — provided the byte count fed
  into the clamp is at least 3, which `compute_redundancy_bytes` guarantees (it returns 0 or more than
  `4 + 8·channels`). -/

theorem computeRedundancyBytes_range (m b fr ch : Int) (hch : 1 ≤ ch) (hch2 : ch ≤ 2) :
    computeRedundancyBytes m b fr ch = 0 ∨ 13 ≤ computeRedundancyBytes m b fr ch := by
  unfold computeRedundancyBytes
  dsimp only
  split
  · right; omega
  · left; rfl

/-- Encoder-side arithmetic only: gate of :2236 passed, flag coded (`tellA ≤ tellB`), byte count clamped
    as at :2255-2256 from a value ≥ 3 ⇒ the decoder's gate passes on the actual frame length. -/
theorem silk_gate_agrees (m tellA tellB xrb : Int) (hgate : tellA + 17 ≤ 8 * (m - 1)) (hmono : tellA ≤ tellB)
    (hx : 3 ≤ xrb) :
    tellA + 17 ≤ 8 * ((tellB + 7) / 8 + min 257 (max 2 (min ((m - 1) - (tellB + 7) / 8) xrb))) := by
  omega

/-- **SILK-only redundancy mirror.**  For the encoder skeleton's own
    signalling (`frRedSig` in SILK-only mode returned `redundancy = true` with `rb` bytes; the byte count
    `x.rb` it clamps comes from `compute_redundancy_bytes`, hence is ≥ 3) and C08's lock-step of the one
    flag bit (`tellA ≤ tellB`, the decoder reads `celt_to_silk` back at the same `ec_tell`): the decoder
    skeleton, on the frame of `⌈tellB/8⌉ + rb` bytes the encoder emits, recovers
    `(redundancy, celt_to_silk, redundancy_bytes) = (1, celt_to_silk, rb)`. -/
theorem redundancy_mirror_silk_full (fi : FrameIn) (x : Mid) (e : FrameOr) (o : DecSkel.Oracle) (r : DecSkel.Run)
    (c2s : Bool) (hmode : x.st.mode = Opus.EncDecide.MODE_SILK_ONLY) (hx : 3 ≤ x.rb)
    (hred : (frRedSig fi x e).1 = true) (hmono : e.tellA ≤ e.tellB)
    (h1 : o.bit r.k 1 e.tellA = (b2i c2s, e.tellB)) :
    (DecSkel.parseRedundancy o DecSkel.MODE_SILK ((e.tellB + 7) / 8 + (frRedSig fi x e).2.1) e.tellA r).1 =
      { redundancy := 1, celt_to_silk := b2i c2s, bytes := (frRedSig fi x e).2.1, len := (e.tellB + 7) / 8,
        tell := e.tellB } := by
  have hne : ¬ (Opus.EncDecide.MODE_SILK_ONLY = Opus.EncDecide.MODE_HYBRID) := by decide
  obtain ⟨hb, -, hrb, -⟩ := frRedSig_true fi x e hred
  rw [hmode] at hb hrb
  unfold maxRed at hrb
  rw [if_neg hne] at hrb
  unfold readsB redGate at hb
  simp only [if_neg hne, Bool.and_eq_true, decide_eq_true_eq] at hb
  rw [hrb]
  exact redundancy_mirror_silk o r e.tellA e.tellB _ c2s (by omega)
    (silk_gate_agrees fi.maxDataBytes e.tellA e.tellB x.rb (by omega) hmono hx) h1

/-- In the skeleton the byte count that reaches the clamp of :2255 with `redundancy` set always comes from
    `compute_redundancy_bytes` and is non-zero, hence ≥ 13. -/
theorem mid_rb_ge (s : St) (fi : FrameIn) (e : FrameOr) (x : Mid) (hch : 1 ≤ s.streamChannels ∧ s.streamChannels ≤ 2)
    (hx : frSilk fi (frPre s fi) e = .cont x) (hr : x.redundancy = true) : 13 ≤ x.rb := by
  have hp : (frPre s fi).redundancy = true → 13 ≤ (frPre s fi).rb := by
    have key : ∀ (b : Bool) (sc br : Int), 1 ≤ sc → sc ≤ 2 →
        (b && decide ((if b = true then computeRedundancyBytes fi.maxDataBytes br (s.fs / fi.frameSize) sc else 0) ≠ 0)) = true →
        13 ≤ (if b = true then computeRedundancyBytes fi.maxDataBytes br (s.fs / fi.frameSize) sc else 0) := by
      intro b sc br h1 h2 hb
      cases b
      · simp at hb
      · simp only [if_true, Bool.true_and, decide_eq_true_eq] at hb ⊢
        rcases computeRedundancyBytes_range fi.maxDataBytes br (s.fs / fi.frameSize) sc h1 h2 with h | h
        · exact absurd h hb
        · exact h
    unfold frPre
    dsimp only
    split <;> exact key _ _ _ hch.1 hch.2
  have hsc : (frPre s fi).st.streamChannels = s.streamChannels := by rw [frPre_st]
  generalize frPre s fi = p at *
  have hcs := frSilk_cases fi p e
  rw [hx] at hcs
  rcases hcs.2.2 with ⟨k1, k2⟩ | ⟨k1, k2⟩
  · rw [k2]; exact hp (k1 ▸ hr)
  · rcases computeRedundancyBytes_range fi.maxDataBytes p.st.bitrateBps (p.st.fs / fi.frameSize)
      p.st.streamChannels (by rw [hsc]; exact hch.1) (by rw [hsc]; exact hch.2) with h | h
    · rw [k1, k2, h] at hr; simp at hr
    · rw [k2]; exact h

/-- Hybrid CBR needs no CELT contract for the decoder's gate: CELT returns exactly its budget
    `max_data_bytes − 1 − rb`, so the frame has `max_data_bytes − 1` bytes and the encoder's gate is the
    decoder's. -/
theorem hybrid_cbr_gate (m tellA rb celtMain : Int) (hgate : tellA + 17 + 20 ≤ 8 * (m - 1))
    (hcbr : celtMain = m - 1 - rb) : tellA + 17 + 20 ≤ 8 * (celtMain + rb) := by omega

end Opus.EncSkel.Proofs

namespace Opus.EncSkel.Proofs
open Opus Opus.EncSkel Opus.EncDecide

theorem frameOk_cont (s : St) (fi : FrameIn) (e : FrameOr) (x : Mid) (hx : frSilk fi (frPre s fi) e = .cont x)
    (hok : frameOk s fi e = true) :
    tellsOk (frPre s fi).st.mode fi.maxDataBytes x.redundancy e = true ∧
    coderOk (frRedSig fi x e).2.2 fi (frRedSig fi x e).1 x.celtToSilk (frRedSig fi x e).2.1 e = true ∧
    finishOk (frRedSig fi x e).2.2 fi e = true := by
  unfold frameOk at hok
  dsimp only at hok
  rw [hx] at hok
  simp only [Bool.and_eq_true] at hok
  exact ⟨hok.2.1, hok.2.2.1, hok.2.2.2⟩

theorem frSilk_mode (s : St) (fi : FrameIn) (e : FrameOr) (x : Mid) (hx : frSilk fi (frPre s fi) e = .cont x) :
    x.st.mode = (frPre s fi).st.mode := by
  have h := ((frSilk_st s fi e).2 x hx).1
  have h2 := frPre_keeps s fi
  rw [h.mode, h2.mode]

/-- SILK-only, redundancy signalled, within the contracts `tellsOk`: the flag bit cost at most one bit, no further symbol
    follows it, and the gate of :2236 held. -/
theorem silk_red_tells (s : St) (fi : FrameIn) (e : FrameOr) (x : Mid)
    (hx : frSilk fi (frPre s fi) e = .cont x) (hmode : x.st.mode = MODE_SILK_ONLY)
    (hred : (frRedSig fi x e).1 = true) (hok : frameOk s fi e = true) :
    e.tellA ≤ e.tellB ∧ e.tellB ≤ e.tellA + 1 ∧ e.tellC = e.tellB ∧ e.tellA + 17 ≤ 8 * (fi.maxDataBytes - 1) := by
  obtain ⟨ht, -, -⟩ := frameOk_cont s fi e x hx hok
  rw [← frSilk_mode s fi e x hx, hmode] at ht
  have hb := (frRedSig_true fi x e hred).1
  rw [hmode] at hb
  unfold tellsOk at ht
  rw [if_neg (by decide), hb] at ht
  unfold readsB redGate at hb
  simp only [Bool.and_eq_true, decide_eq_true_eq, if_true, Bool.not_true, Bool.false_or,
    show ¬ (MODE_SILK_ONLY = MODE_HYBRID) by decide, if_false] at ht hb
  omega

/-- **SILK-only frame with redundancy: the payload is the coded bytes plus the redundancy bytes.**  Whenever the call
    returns a packet (`ret ≥ 1`, not the DTX return), under the oracle contracts `frameOk` — which keep the range coder
    within the budget here: `ec_tell` after the flag is at most `tellA + 1`, and the gate left 17 bits. -/
theorem silk_red_payload (s : St) (fi : FrameIn) (e : FrameOr) (x : Mid)
    (hx : frSilk fi (frPre s fi) e = .cont x) (hmode : x.st.mode = MODE_SILK_ONLY)
    (hred : (frRedSig fi x e).1 = true) (hok : frameOk s fi e = true)
    (hdtx : (frameNative s fi e).dtx = false) (hret : 1 ≤ (frameNative s fi e).ret) :
    (frameNative s fi e).payload = (e.tellB + 7) / 8 + (frRedSig fi x e).2.1 := by
  obtain ⟨-, hAB, htc, hgate⟩ := silk_red_tells s fi e x hx hmode hred hok
  obtain ⟨-, -, hf⟩ := frameOk_cont s fi e x hx hok
  obtain ⟨-, -, -, hst⟩ := frRedSig_true fi x e hred
  obtain ⟨c, cs, hfc, heq⟩ := frameNative_finish s fi e x hx hret
  rw [heq] at hdtx hret ⊢
  obtain ⟨hd0, hpay⟩ := frFinish_payload _ _ _ _ _ _ _ _ hdtx hret
  have hE : e.tellE = e.tellC := by
    unfold finishOk at hf
    rw [decide_eq_true_eq, hst] at hf
    rw [hst] at hd0
    exact (hf hmode).resolve_left (fun h => h hd0)
  rw [hpay, frCode_ret _ _ _ _ _ _ c cs hfc, hred, hst]
  unfold finishRet runMain
  rw [if_neg (by omega), hmode]
  simp [htc]; omega

/-- **Hybrid frame with redundancy, VBR off: the payload is the whole budget `max_data_bytes − 1`.**  The main CELT
    call runs (the gate of :2236 and the clamp of :2255 leave it room), in CBR it returns exactly its budget
    `max_data_bytes − 1 − redundancy_bytes` (contract `coderOk`), and the redundant frame follows. -/
theorem hybrid_cbr_payload (s : St) (fi : FrameIn) (e : FrameOr) (x : Mid)
    (hx : frSilk fi (frPre s fi) e = .cont x) (hmode : x.st.mode = MODE_HYBRID) (hcbr : x.st.useVbr = 0)
    (hred : (frRedSig fi x e).1 = true) (hok : frameOk s fi e = true)
    (hdtx : (frameNative s fi e).dtx = false) (hret : 1 ≤ (frameNative s fi e).ret)
    (hbust : e.tellE ≤ (fi.maxDataBytes - 1) * 8) :
    (frameNative s fi e).payload = fi.maxDataBytes - 1 ∧ e.tellA + 17 + 20 ≤ 8 * (fi.maxDataBytes - 1) ∧
    2 ≤ (frRedSig fi x e).2.1 ∧ (frRedSig fi x e).2.1 ≤ 257 ∧
    e.tellD ≤ 8 * (fi.maxDataBytes - 1 - (frRedSig fi x e).2.1) := by
  obtain ⟨ht, hc, -⟩ := frameOk_cont s fi e x hx hok
  rw [← frSilk_mode s fi e x hx, hmode] at ht
  obtain ⟨hb, -, hrbeq, hst⟩ := frRedSig_true fi x e hred
  rw [hmode] at hb hrbeq
  obtain ⟨c, cs, hfc, heq⟩ := frameNative_finish s fi e x hx hret
  rw [heq] at hdtx hret ⊢
  rw [(frFinish_payload _ _ _ _ _ _ _ _ hdtx hret).2, frCode_ret _ _ _ _ _ _ c cs hfc]
  clear hdtx hret heq hfc
  rw [hst, hred] at hc ⊢
  generalize (frRedSig fi x e).2.1 = rb at *
  have hrb : 2 ≤ rb ∧ rb ≤ 257 ∧ (rb ≤ (fi.maxDataBytes - 1) - (e.tellB + 8 + 3 + 7) / 8 ∨ rb = 2) := by
    unfold maxRed at hrbeq; rw [if_pos rfl] at hrbeq; omega
  clear hrbeq
  have hgate : e.tellA + 17 + 20 ≤ 8 * (fi.maxDataBytes - 1) := by
    unfold readsB redGate at hb
    simp only [Bool.and_eq_true, decide_eq_true_eq, if_true] at hb
    exact hb.1.2
  have htl : e.tellA ≤ e.tellB ∧ e.tellB ≤ e.tellA + 13 ∧ e.tellD ≤ e.tellB + 8 ∧ 1 ≤ e.tellA := by
    unfold tellsOk at ht
    rw [if_neg (by decide), hb] at ht
    simp only [Bool.and_eq_true, decide_eq_true_eq, if_true, Bool.not_true, Bool.false_or,
      show ¬ (MODE_HYBRID = MODE_SILK_ONLY) by decide, if_false] at ht
    omega
  have htd : e.tellD ≤ 8 * (fi.maxDataBytes - 1 - rb) := by omega
  refine ⟨?_, hgate, hrb.1, hrb.2.1, htd⟩
  -- the main CELT call runs and, in CBR, returns exactly its budget
  have hrun : runMain x.st fi rb e = true := by
    unfold runMain nbCompr0
    rw [hmode, if_neg (by decide)]
    simp only [decide_eq_true_eq]
    exact ⟨by decide, htd⟩
  have hnb2 : 2 ≤ fi.maxDataBytes - 1 - rb := by omega
  have hcm : e.celtMain = fi.maxDataBytes - 1 - rb := by
    unfold coderOk runMain nbCompr0 at hc
    simp only [hmode, Bool.and_eq_true, decide_eq_true_eq, show ¬ (MODE_HYBRID = MODE_SILK_ONLY) by decide, if_false] at hc
    exact hc.2 ⟨by decide, htd⟩ hcbr hnb2
  rw [if_pos hrun, hcm]
  unfold finishRet
  rw [if_neg (by omega), if_neg (by rw [hmode]; decide)]
  omega

end Opus.EncSkel.Proofs
